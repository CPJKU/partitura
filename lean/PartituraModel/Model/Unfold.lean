/-
Model of repeat unfolding in partitura/score.py (C09).

1. `mkSegments`   : `add_segments` / `_make_segments` — boundary collection, ids, ordered
                    destinations (volta numbering, Navigation1_/Navigation2_, leap types).
2. `PState`       : `Path` — visited ids, per-path segment table (copy-on-write of `Segment.to`,
                    the repaired behaviour, fixes/C09-1), used jumps, flags; `dests` =
                    `list_of_destinations_from_last_segment`, `jump` = `make_copy_with_jump_to`,
                    `unfoldFrom` = `unfold_paths` (depth-first, explicit fuel), `getPaths`.
3. `variant`      : `ScoreVariant.add_segment` / `create_variant_part` on an abstract part
                    (objects with class kind, start, optional end, opaque payload, id, references),
                    including reference remapping (`ReplaceRefMixin.replace_refs`), suppression of
                    unchanged signatures/clefs, the fermata special case, the quarter-duration table.
4. `suffixIds`    : `update_note_ids_after_unfolding`.

Segment ids are numbers (`chr(65+i)` in the code), `END` is `Dest.fin`.
Only Lean core is imported.
-/

namespace Model.Unfold

/-! ## 1. Segment graph -/

inductive Dest where
  | seg (i : Nat)
  | fin
  deriving DecidableEq, Repr, Inhabited

inductive SegType where
  | dflt | leapStart | leapEnd
  deriving DecidableEq, Repr, Inhabited

structure Seg where
  start : Int
  stp : Int
  to : List Dest
  await : List Dest
  ty : SegType
  forceSeq : Bool := false
  deriving DecidableEq, Repr, Inhabited

/-- What `add_segments` reads from the part: first/last time point, the valid repeats and endings in
`iter_all` order (later ones overwrite earlier ones registered at the same time), and the times of the
navigation marks in `iter_all` order. -/
structure Layout where
  first : Int
  last : Int
  repeats : List (Int × Int) := []
  endings : List (Int × Int × List Nat) := []
  codas : List Int := []
  tocodas : List Int := []
  dacapos : List Int := []
  fines : List Int := []
  segnos : List Int := []
  dalsegnos : List Int := []
  deriving Repr, Inhabited, DecidableEq

/-- the dict `boundaries[t]` (key present = flag set / `some`) -/
structure BInfo where
  repeatStart : Bool := false
  repeatEnd : Option Int := none
  voltaStart : Option (List Nat × Int) := none
  voltaEnd : Bool := false
  coda : Bool := false
  tocoda : Bool := false
  dacapo : Bool := false
  fine : Bool := false
  segno : Bool := false
  dalsegno : Bool := false
  isEnd : Bool := false
  isStart : Bool := false
  deriving Repr, Inhabited

abbrev BTable := List (Int × BInfo)

/-- `boundaries[t][key] = …` on a table kept sorted by time -/
def tblUpd (t : Int) (f : BInfo → BInfo) : BTable → BTable
  | [] => [(t, f {})]
  | (u, b) :: rest =>
    if t < u then (t, f {}) :: (u, b) :: rest
    else if t = u then (u, f b) :: rest
    else (u, b) :: tblUpd t f rest

def tblGet (t : Int) : BTable → Option BInfo
  | [] => none
  | (u, b) :: rest => if t = u then some b else tblGet t rest

def mkTable (L : Layout) : BTable :=
  let tb : BTable := []
  let tb := L.repeats.foldl (fun tb r =>
    tblUpd r.2 (fun b => { b with repeatEnd := some r.1 }) (tblUpd r.1 (fun b => { b with repeatStart := true }) tb)) tb
  let tb := L.endings.foldl (fun tb v =>
    tblUpd v.2.1 (fun b => { b with voltaEnd := true }) (tblUpd v.1 (fun b => { b with voltaStart := some (v.2.2, v.2.1) }) tb)) tb
  let tb := L.codas.foldl (fun tb t => tblUpd t (fun b => { b with coda := true }) tb) tb
  let tb := L.tocodas.foldl (fun tb t => tblUpd t (fun b => { b with tocoda := true }) tb) tb
  let tb := L.dacapos.foldl (fun tb t => tblUpd t (fun b => { b with dacapo := true }) tb) tb
  let tb := L.fines.foldl (fun tb t => tblUpd t (fun b => { b with fine := true }) tb) tb
  let tb := L.segnos.foldl (fun tb t => tblUpd t (fun b => { b with segno := true }) tb) tb
  let tb := L.dalsegnos.foldl (fun tb t => tblUpd t (fun b => { b with dalsegno := true }) tb) tb
  let tb := tblUpd L.last (fun b => { b with isEnd := true }) tb
  tblUpd L.first (fun b => { b with isStart := true }) tb

def idxOf (t : Int) : List Int → Option Nat
  | [] => none
  | u :: rest => if t = u then some 0 else (idxOf t rest).map (· + 1)

/-- `segment_info[t]["ID"]` -/
def idOf (times : List Int) (t : Int) : Option Dest :=
  match idxOf t times with
  | none => none
  | some i => if i + 1 = times.length then some .fin else some (.seg i)

inductive Tag where
  | plain
  | volta (label : Nat)      -- `"<n>_Volta_"`; label 10 stands for `"Z_Volta_"`
  | nav1
  | nav2
  deriving DecidableEq, Repr

structure SegInfo where
  to : List (Tag × Dest) := []
  ty : SegType := .dflt
  voltaNums : List Nat := []
  deriving Repr, Inhabited

structure BState where
  info : List SegInfo
  cvrs : Int := 0      -- current_volta_repeat_start
  cve : Int := 0       -- current_volta_end
  cvt : Nat := 0       -- current_volta_total_number
  deriving Repr

def modAt {α : Type} (i : Nat) (f : α → α) : List α → List α
  | [] => []
  | a :: as => match i with
    | 0 => f a :: as
    | i + 1 => a :: modAt i f as

def addTo (i : Nat) (ds : List (Tag × Dest)) (info : List SegInfo) : List SegInfo :=
  modAt i (fun s => { s with to := s.to ++ ds }) info

def setTy (i : Nat) (ty : SegType) (info : List SegInfo) : List SegInfo :=
  modAt i (fun s => { s with ty := ty }) info

/-- `if type != "leap_end": type = "leap_start"` (what fixes/C09-7 made of the to-coda branch; since fixes/C09-8 a
To Coda sets no type at all — the jump to the coda waits in `await` until the da capo / dal segno, the real leap,
has been taken — and `stToCoda` no longer uses this; `keepLeapEnd_ok` in Proofs/C09Labels says it keeps the labels well-formed) -/
def keepLeapEnd (i : Nat) (info : List SegInfo) : List SegInfo :=
  modAt i (fun s => { s with ty := if s.ty = .leapEnd then .leapEnd else .leapStart }) info

/-- the `for volta_number in range(10)` scan over consecutive brackets -/
def voltaScan (tb : BTable) (times : List Int) (i : Nat) : Nat → BState → Option BState
  | 0, st => some st
  | k + 1, st =>
    match (tblGet st.cve tb).bind (·.voltaStart) with
    | none => some st
    | some (nums, e) =>
      match idOf times st.cve with
      | some (.seg ci) =>
        let info := addTo i (nums.map fun n => (Tag.volta n, Dest.seg ci)) st.info
        let info := modAt ci (fun s => { s with voltaNums := s.voltaNums ++ nums }) info
        voltaScan tb times i k { st with info := info, cve := e, cvt := st.cvt + nums.length }
      | _ => none

/-- the `for vn in current_volta_numbers` loop of the `volta_end` branch -/
def voltaEndLoop (times : List Int) (i : Nat) (re : Option Int) : List Nat → BState → Option BState
  | [], st => some st
  | vn :: rest, st =>
    if vn ≠ st.cvt then
      let cvrs := match re with
        | some rs => if rs > st.cvrs then rs else st.cvrs
        | none => st.cvrs
      match idOf times cvrs with
      | none => none
      | some d => voltaEndLoop times i re rest { st with cvrs := cvrs, info := addTo i [(Tag.volta 10, d)] st.info }
    else voltaEndLoop times i re rest st

/-! one iteration of `for ss in boundary_times[:-1]`: one small step per boundary key, in the keys'
insertion order; `i` = index of the segment, `idSe` = id of the segment starting at its end -/

def stRepeatStart (i : Nat) (b : BInfo) (idSe : Dest) (st : BState) : BState :=
  if b.repeatStart then { st with info := addTo i [(Tag.plain, idSe)] st.info } else st

def stRepeatEnd (times : List Int) (i : Nat) (b : BInfo) (idSe : Dest) (st : BState) : Option BState :=
  match b.repeatEnd with
  | none => some st
  | some rs =>
    if b.voltaEnd then some st
    else match idOf times rs with
      | none => none
      | some d => some { st with info := addTo i [(Tag.plain, idSe), (Tag.plain, d)] st.info }

/-- first bracket of a group only -/
def stVoltaStart (tb : BTable) (times : List Int) (i : Nat) (b : BInfo) (se : Int) (st : BState) : Option BState :=
  if b.voltaStart.isSome && !b.voltaEnd then
    voltaScan tb times i 10 { st with cvt := 0, cve := se }
  else some st

def stVoltaEnd (times : List Int) (i : Nat) (b : BInfo) (st : BState) : Option BState :=
  if b.voltaEnd then
    let nums := match st.info[i]? with
      | some s => s.voltaNums
      | none => []
    match voltaEndLoop times i b.repeatEnd nums st with
    | none => none
    | some st =>
      if nums.contains st.cvt then
        match idOf times st.cve with
        | none => none
        | some d => some { st with info := addTo i [(Tag.plain, d)] st.info }
      else some st
  else some st

/-- coda / segno: `segment_info[se]["info"]` does not exist for the END entry (KeyError) -/
def stLeapEnd (flag : Bool) (i : Nat) (idSe : Dest) (st : BState) : Option BState :=
  if flag then
    (if idSe = .fin then none else
      some { st with info := setTy (i + 1) .leapEnd (addTo i [(Tag.plain, idSe)] st.info) })
  else some st

def stToCoda (L : Layout) (times : List Int) (i : Nat) (b : BInfo) (idSe : Dest) (st : BState) : Option BState :=
  if b.tocoda then
    match L.codas.head? with
    | none => none
    | some ct => match idOf times ct with
      | none => none
      | some d => some { st with info := addTo i [(Tag.plain, idSe), (Tag.nav2, d)] st.info }
  else some st

/-- da capo (target = first point) and dal segno (target = first segno) -/
def stJumpBack (flag : Bool) (target : Option Int) (times : List Int) (i : Nat) (idSe : Dest) (st : BState) :
    Option BState :=
  if flag then
    match target with
    | none => none
    | some t => match idOf times t with
      | none => none
      | some d =>
        let info := setTy i .leapStart (addTo i [(Tag.plain, idSe), (Tag.nav1, d), (Tag.nav2, idSe)] st.info)
        some { st with info := info }
  else some st

def stFine (L : Layout) (times : List Int) (i : Nat) (b : BInfo) (idSe : Dest) (st : BState) : Option BState :=
  if b.fine then
    match idOf times L.last with
    | none => none
    | some d => some { st with info := addTo i [(Tag.plain, idSe), (Tag.nav2, d)] st.info }
  else some st

def stEnd (i : Nat) (b : BInfo) (idSe : Dest) (st : BState) : BState :=
  if b.isEnd then { st with info := addTo i [(Tag.plain, idSe)] st.info } else st

/-- `if ss == 0: type = "leap_end"` (after every key, hence last) -/
def stFirst (i : Nat) (ss : Int) (st : BState) : BState :=
  if ss = 0 then { st with info := setTy i .leapEnd st.info } else st

def procSeg (L : Layout) (tb : BTable) (times : List Int) (i : Nat) (ss se : Int) (st : BState) : Option BState :=
  match tblGet se tb, idOf times se with
  | some b, some idSe =>
    (stRepeatEnd times i b idSe (stRepeatStart i b idSe st)).bind fun st =>
    (stVoltaStart tb times i b se st).bind fun st =>
    (stVoltaEnd times i b st).bind fun st =>
    (stLeapEnd b.coda i idSe st).bind fun st =>
    (stToCoda L times i b idSe st).bind fun st =>
    (stJumpBack b.dacapo (some L.first) times i idSe st).bind fun st =>
    (stFine L times i b idSe st).bind fun st =>
    (stLeapEnd b.segno i idSe st).bind fun st =>
    (stJumpBack b.dalsegno L.segnos.head? times i idSe st).bind fun st =>
    some (stFirst i ss (stEnd i b idSe st))
  | _, _ => none

def procAll (L : Layout) (tb : BTable) (times : List Int) : Nat → List Int → BState → Option BState
  | i, ss :: se :: rest, st =>
    match procSeg L tb times i ss se st with
    | none => none
    | some st' => procAll L tb times (i + 1) (se :: rest) st'
  | _, _, st => some st

/-- insert into a strictly increasing list unless present (`sorted(set(..))`) -/
def insSorted (x : Nat) : List Nat → List Nat
  | [] => [x]
  | y :: ys => if x < y then x :: y :: ys else if x = y then y :: ys else y :: insSorted x ys

def voltaLe (a b : Nat × Nat) : Bool := a.1 < b.1 || (a.1 = b.1 && a.2 ≤ b.2)

/-- stable insertion (after the elements that are `≤`) -/
def insVolta (x : Nat × Nat) : List (Nat × Nat) → List (Nat × Nat)
  | [] => [x]
  | y :: ys => if voltaLe y x then y :: insVolta x ys else x :: y :: ys

/-- the `Navigation1_` destinations (da capo / dal segno) among the raw ones -/
def nav1Of (raw : List (Tag × Dest)) : List Dest :=
  raw.filterMap fun p => match p.1 with
    | .nav1 => some p.2
    | _ => none

/-- the "clean up and ORDER" block without the treatment of a jump back: `(to, await_to)` -/
def cleanToBase (raw : List (Tag × Dest)) : Option (List Dest × List Dest) := do
  let plain := raw.filterMap fun p => match p.1 with
    | .plain => some p.2
    | _ => none
  let nav1 := nav1Of raw
  let nav2 := raw.filterMap fun p => match p.1 with
    | .nav2 => some p.2
    | _ => none
  let voltaRaw ← raw.foldr (fun p acc => match acc with
    | none => none
    | some l => match p.1, p.2 with
      | .volta lb, .seg j => some ((lb, j) :: l)
      | .volta _, .fin => none
      | _, _ => some l) (some [])
  let hasFin := plain.contains .fin || nav1.contains .fin
  let nav1 := if hasFin then nav1 ++ [Dest.fin] else nav1
  let plainIdx := plain.foldl (fun acc d => match d with
    | .seg j => insSorted j acc
    | .fin => acc) []
  let volta := (voltaRaw.foldl (fun acc x => insVolta x acc) []).map fun x => Dest.seg x.2
  let plain' := (plainIdx.map Dest.seg).filter fun d => !volta.contains d
  some (volta ++ plain' ++ nav1, nav2)

/-- is the destination ahead of segment `own` (`d > own_id` on the id strings; END never is: it is kept last) -/
def Dest.ahead (own : Nat) : Dest → Bool
  | .seg j => own < j
  | .fin => false

/-- the "clean up and ORDER" block for segment `own`: `(to, await_to)`.  When the segment ends with a da capo /
dal segno, the music behind it is reached only after the jump (repaired behaviour, fixes/C09-6):
volta ++ plain not ahead ++ navigation1 ++ plain ahead ++ END -/
def cleanTo (own : Nat) (raw : List (Tag × Dest)) : Option (List Dest × List Dest) := do
  let plain := raw.filterMap fun p => match p.1 with
    | .plain => some p.2
    | _ => none
  let nav1 := nav1Of raw
  let nav2 := raw.filterMap fun p => match p.1 with
    | .nav2 => some p.2
    | _ => none
  let voltaRaw ← raw.foldr (fun p acc => match acc with
    | none => none
    | some l => match p.1, p.2 with
      | .volta lb, .seg j => some ((lb, j) :: l)
      | .volta _, .fin => none
      | _, _ => some l) (some [])
  let jumpsBack := !nav1.isEmpty
  let hasFin := plain.contains .fin || nav1.contains .fin
  let nav1 := if hasFin then nav1 ++ [Dest.fin] else nav1
  let plainIdx := plain.foldl (fun acc d => match d with
    | .seg j => insSorted j acc
    | .fin => acc) []
  let volta := (voltaRaw.foldl (fun acc x => insVolta x acc) []).map fun x => Dest.seg x.2
  let plain' := (plainIdx.map Dest.seg).filter fun d => !volta.contains d
  if jumpsBack then
    some (volta ++ plain'.filter (fun d => !d.ahead own) ++
      (nav1.filter (· ≠ Dest.fin) ++ plain'.filter (fun d => d.ahead own) ++ nav1.filter (· = Dest.fin)), nav2)
  else some (volta ++ plain' ++ nav1, nav2)

def buildSegs (times : List Int) (info : List SegInfo) : Nat → List Int → List SegInfo → Option (List Seg)
  | i, s :: e :: rest, inf :: infs => do
    let (to, aw) ← cleanTo i inf.to
    let tl ← buildSegs times info (i + 1) (e :: rest) infs
    some ({ start := s, stp := e, to := to, await := aw, ty := inf.ty } :: tl)
  | _, _, _ => some []

/-- ending numbers the model covers: one decimal digit (the code sorts `"<n>_Volta_<ID>"` strings and
cuts 8 characters; with two digits it produces ids that do not exist) -/
def Layout.supported (L : Layout) : Bool :=
  L.endings.all fun v => v.2.2.all fun n => n < 10

/-- `add_segments`: the segment table, `none` where the code raises -/
def mkSegments (L : Layout) : Option (List Seg) :=
  if !L.supported then none else
  let tb := mkTable L
  let times := tb.map (·.1)
  let n := times.length - 1
  match procAll L tb times 0 times { info := List.replicate n {} } with
  | none => none
  | some st => buildSegs times st.info 0 times st.info

/-! ## 2. Paths -/

structure PState where
  cur : Nat
  prev : List Nat            -- earlier segments, most recent first
  segs : List Seg            -- this path's view of the segments
  used : Nat → List Dest
  noRepeats : Bool
  allRepeats : Bool
  jumped : Bool

def PState.path (st : PState) : List Nat := (st.cur :: st.prev).reverse

def positions (d : Dest) : List Dest → Nat → List Nat
  | [], _ => []
  | x :: xs, i => if x = d then i :: positions d xs (i + 1) else positions d xs (i + 1)

/-- index (in the destination list) of the most recently used destination: the
`cnt`-th occurrence in the cyclically repeated list.  `none` = IndexError. -/
def lastIndex (ds used : List Dest) : Option (Option Nat) :=
  match used.getLast? with
  | none => some none
  | some ld =>
    let occ := positions ld ds 0
    match occ[(used.count ld - 1) % occ.length]? with
    | none => none
    | some k => some (some k)

/-- `Path.list_of_destinations_from_last_segment` -/
def PState.dests (st : PState) : Option (List Dest) :=
  match st.segs[st.cur]? with
  | none => none
  | some s =>
    let ds := s.to
    match lastIndex ds (st.used st.cur) with
    | none => none
    | some li =>
      if st.noRepeats then ds.getLast?.map fun d => [d]
      else if s.forceSeq || st.allRepeats then
        match li with
        | none => ds.head?.map fun d => [d]
        | some k => if k + 1 < ds.length then ds[k + 1]?.map fun d => [d] else ds.head?.map fun d => [d]
      else
        match li with
        | none => some ds
        | some k => if k + 1 < ds.length then some (ds.drop (k + 1)) else some ds

/-- `idx <= seg.id` on the id strings: `"END" <= chr(65+i)` holds exactly for `i ≥ 5` -/
def Dest.lePast (d : Dest) (i : Nat) : Bool :=
  match d with
  | .seg j => j ≤ i
  | .fin => 5 ≤ i

def rewriteSeg (i : Nat) (s : Seg) : Seg :=
  if s.await.isEmpty then s else { s with to := (s.to.filter fun d => d.lePast i) ++ s.await }

def rewriteSegs : Nat → List Seg → List Seg
  | _, [] => []
  | i, s :: rest => rewriteSeg i s :: rewriteSegs (i + 1) rest

/-- `Path.make_copy_with_jump_to` -/
def PState.jump (ignoreLeap : Bool) (st : PState) (j : Nat) : Option PState :=
  match st.segs[j]?, st.segs[st.cur]? with
  | some sj, some sp =>
    let st1 : PState := { st with
      cur := j, prev := st.cur :: st.prev,
      used := fun k => if k = st.cur then st.used k ++ [Dest.seg j] else st.used k }
    if sj.ty = .leapEnd ∧ sp.ty = .leapStart then
      let st2 : PState := if st.jumped then st1 else
        { st1 with jumped := true, segs := rewriteSegs 0 st.segs,
                   used := fun k => if k = st.cur then [Dest.seg j] else [] }
      some (if ignoreLeap then st2 else { st2 with noRepeats := true })
    else some st1
  | _, _ => none

def stepList (rec : PState → Option (List (List Nat))) (ignoreLeap : Bool) (st : PState) :
    List Dest → Option (List (List Nat))
  | [] => some []
  | .fin :: ds => (stepList rec ignoreLeap st ds).map fun r => st.path :: r
  | .seg j :: ds =>
    match st.jump ignoreLeap j with
    | none => none
    | some st' =>
      match rec st', stepList rec ignoreLeap st ds with
      | some a, some b => some (a ++ b)
      | _, _ => none

/-- `unfold_paths`; `none` = the code raises (or the fuel ran out) -/
def unfoldFrom (ignoreLeap : Bool) : Nat → PState → Option (List (List Nat))
  | 0, _ => none
  | f + 1, st =>
    match st.dests with
    | none => none
    | some ds => stepList (unfoldFrom ignoreLeap f) ignoreLeap st ds

def initState (g : List Seg) (noRepeats allRepeats : Bool) : PState :=
  { cur := 0, prev := [], segs := g, used := fun _ => [], noRepeats := noRepeats,
    allRepeats := allRepeats, jumped := false }

/-- `get_paths` on a segment table -/
def getPaths (g : List Seg) (noRepeats allRepeats ignoreLeap : Bool) (fuel : Nat) : Option (List (List Nat)) :=
  unfoldFrom ignoreLeap fuel (initState g noRepeats allRepeats)

/-! ## 3. Variant part -/

inductive Kind where
  | note        -- Note and subclasses (what `part.notes` lists)
  | gnote       -- other GenericNote (Rest, UnpitchedNote …)
  | other
  | repeat_ | ending | toCoda | daCapo | dalSegno | segment | system | page   -- never copied
  | timeSig | keySig | clef       -- copied only when different from the previous one
  | fermata
  deriving DecidableEq, Repr, Inhabited

def Kind.dropped : Kind → Bool
  | .repeat_ | .ending | .toCoda | .daCapo | .dalSegno | .segment | .system | .page => true
  | _ => false

def Kind.isSig : Kind → Bool
  | .timeSig | .keySig | .clef => true
  | _ => false

structure Obj where
  kind : Kind
  start : Int
  stp : Option Int
  payload : List Int          -- pitch/voice/staff of notes; the compared fields of signatures and clefs
  nid : Option String
  refs : List (List Nat)      -- per referential attribute: positions of the targets in the object list
  cls : Nat := 0              -- rank of the object's class in `[Note] + list(iter_subclasses(Note))` (0 = Note, 1 = GraceNote):
                              -- the order in which `part.notes` lists objects that start at the same time point
  deriving Repr, Inhabited

structure OObj where
  orig : Nat                  -- position of the copied object in the original
  visit : Nat
  kind : Kind
  start : Int
  stp : Option Int
  payload : List Int
  nid : Option String
  refs : List (List (Option Nat))   -- target = the copy, made in the same visit, of that original; or None
  extra : Bool := false       -- the fermata copied from the segment's end point
  cls : Nat := 0              -- class rank of the original (see `Obj.cls`)
  deriving Repr, Inhabited

structure APart where
  points : List Int
  objs : List Obj
  qd : List (Int × Int)
  deriving Repr, Inhabited

structure Visit where
  s : Int
  e : Int
  off : Int
  deriving Repr, DecidableEq, Inhabited

/-- `ScoreVariant.add_segment` along a path: `(start, end, t_unfold)` -/
def visitsFrom (g : List Seg) : Int → List Nat → Option (List Visit)
  | _, [] => some []
  | off, i :: rest =>
    match g[i]? with
    | none => none
    | some s => (visitsFrom g (off + (s.stp - s.start)) rest).map fun vs => { s := s.start, e := s.stp, off := off } :: vs

def visitsOf (g : List Seg) (path : List Nat) : Option (List Visit) := visitsFrom g 0 path

/-- `next(tp_new.iter_prev(cls), None)`: among the copies of kind `k` made so far that start before
`t`, the first one registered at the latest such time -/
def prevSig (out : List OObj) (k : Kind) (t : Int) : Option OObj :=
  (out.filter fun o => o.kind = k && o.start < t).foldl
    (fun best o => match best with
      | none => some o
      | some b => if b.start < o.start then some o else some b) none

/-- `copy(o)` registered at the shifted start (and end) -/
def mkCopy (i k : Nat) (o : Obj) (delta : Int) : OObj :=
  { orig := i, visit := k, kind := o.kind, start := o.start + delta, stp := o.stp.map (· + delta),
    payload := o.payload, nid := o.nid, refs := o.refs.map (·.map some), cls := o.cls }

/-- "don't repeat time sig / key sig / clef if it hasn't changed" -/
def sigSkip (seen : List OObj) (o : Obj) (t : Int) : Bool :=
  o.kind.isSig && (match prevSig seen o.kind t with
    | some p => p.payload = o.payload
    | none => false)

/-- one visit, first pass: the copies made in this visit, in order (references still pointing to the
original).  `seen` = everything copied before (earlier visits and earlier in this visit), which is what
`tp_new.iter_prev` can reach. -/
def copyPass (v : Visit) (k : Nat) : List (Nat × Obj) → List OObj → List OObj
  | [], _ => []
  | (i, o) :: rest, seen =>
    if v.s ≤ o.start ∧ o.start < v.e then
      if o.kind.dropped then copyPass v k rest seen
      else
        if sigSkip seen o (o.start + (v.off - v.s)) then copyPass v k rest seen
        else mkCopy i k o (v.off - v.s) :: copyPass v k rest (seen ++ [mkCopy i k o (v.off - v.s)])
    else copyPass v k rest seen

/-- `replace_refs(o_map)` on the copies of one visit: a target that was copied in this visit stays,
anything else becomes None -/
def resolveRef (dom : List Nat) (r : Option Nat) : Option Nat :=
  match r with
  | some j => if dom.contains j then some j else none
  | none => none

def resolve (news : List OObj) : List OObj :=
  news.map fun o => { o with refs := o.refs.map (·.map (resolveRef (news.map (·.orig)))) }

/-- "fermata starting at end of segment … `o.ref in (None, 'right')`" (payload `[1]`) -/
def fermataPass (v : Visit) (k : Nat) : List (Nat × Obj) → List OObj
  | [] => []
  | (i, o) :: rest =>
    if o.kind = .fermata ∧ o.start = v.e ∧ o.payload = [1] then
      { orig := i, visit := k, kind := o.kind, start := v.e + (v.off - v.s), stp := o.stp,
        payload := o.payload, nid := o.nid, refs := [], extra := true } :: fermataPass v k rest
    else fermataPass v k rest

def enum {α : Type} : Nat → List α → List (Nat × α)
  | _, [] => []
  | i, a :: as => (i, a) :: enum (i + 1) as

/-- everything one visit adds to the new part -/
def visitCopies (objs : List Obj) (v : Visit) (k : Nat) (out : List OObj) : List OObj :=
  resolve (copyPass v k (enum 0 objs) out) ++ fermataPass v k (enum 0 objs)

def variantObjs (objs : List Obj) : Nat → List Visit → List OObj → List OObj
  | _, [], out => out
  | k, v :: vs, out => variantObjs objs (k + 1) vs (out ++ visitCopies objs v k out)

/-- `Part.set_quarter_duration` on the `(times, quarters)` table (insert / replace / redundant) -/
def setQD (t q : Int) : List (Int × Int) → Option Int → List (Int × Int)
  | [], prevq => if prevq = some q then [] else [(t, q)]
  | (u, r) :: rest, prevq =>
    if u < t then (u, r) :: setQD t q rest (some r)
    else if prevq = some q then (u, r) :: rest          -- `i > 0 and quarters[i-1] == quarter`: nothing
    else if u = t then (u, q) :: rest                    -- replace (or same value)
    else (t, q) :: (u, r) :: rest                         -- insert

/-- `quarter_duration_map(t)`: the entry in force at `t` (the first entry before all of them) -/
def qdAt (t : Int) : List (Int × Int) → Option Int → Option Int
  | [], cur => cur
  | (u, q) :: rest, cur => if u ≤ t then qdAt t rest (some q) else (match cur with
    | none => some q
    | some c => some c)

/-- per visit: the quarter duration in force at the segment start (repaired behaviour, fixes/C09-5),
then the changes inside `[s, e)` -/
def variantQD (qd : List (Int × Int)) : List Visit → List (Int × Int) → List (Int × Int)
  | [], acc => acc
  | v :: vs, acc =>
    let acc := match qdAt v.s qd none with
      | some q => setQD v.off q acc none
      | none => acc
    let acc := (qd.filter fun p => v.s ≤ p.1 && p.1 < v.e).foldl
      (fun acc p => setQD (p.1 + (v.off - v.s)) p.2 acc none) acc
    variantQD qd vs acc

def insInt (x : Int) : List Int → List Int
  | [] => [x]
  | y :: ys => if x < y then x :: y :: ys else if x = y then y :: ys else y :: insInt x ys

/-- shifted time points of every visited `[s, e)` -/
def shiftedPoints (points : List Int) (vs : List Visit) (acc : List Int) : List Int :=
  vs.foldl (fun acc v =>
    (points.filter fun t => decide (v.s ≤ t) && decide (t < v.e)).foldl
      (fun acc t => insInt (t + (v.off - v.s)) acc) acc) acc

/-- the point one copied object adds: its end; for the extra fermata its start -/
def objPoint (o : OObj) : Option Int :=
  if o.extra then some o.start else o.stp

def outPoints (out : List OObj) (acc : List Int) : List Int :=
  out.foldl (fun acc o => match objPoint o with
    | some t => insInt t acc
    | none => acc) acc

/-- the time points of the new part: shifted points of every visited `[s, e)`, the ends of the copied
objects, the segment end when a fermata was taken from it -/
def variantPoints (points : List Int) (vs : List Visit) (out : List OObj) : List Int :=
  outPoints out (shiftedPoints points vs [])

structure Variant where
  points : List Int
  objs : List OObj
  qd : List (Int × Int)
  deriving Repr, Inhabited

/-- `create_variant_part` -/
def variant (p : APart) (vs : List Visit) : Variant :=
  let out := variantObjs p.objs 0 vs []
  { points := variantPoints p.points vs out, objs := out, qd := variantQD p.qd vs [(0, 1)] }

/-! ## 4. Note ids -/

/-- `q` (at position `q.1` of the object list) comes before `o` (at position `pos`) in
`sorted(part.notes, key=start.t)`: `part.notes` = `iter_all(Note, include_subclasses=True)` goes through the time points
in order and lists, at one time point, first the objects of class `Note`, then those of each subclass
(`iter_subclasses`: GraceNote), each class in the order of registration; `list.sort` is stable -/
def noteBefore (q : Nat × OObj) (pos : Nat) (o : OObj) : Bool :=
  q.2.start < o.start || (q.2.start = o.start && (q.2.cls < o.cls || (q.2.cls = o.cls && q.1 < pos)))

/-- rank (from 1) of `o` among the notes with the same id, in the order of `part.notes` sorted by start time (stable) -/
def idRank (out : List OObj) (pos : Nat) (o : OObj) : Nat :=
  1 + ((enum 0 out).filter fun q =>
    q.2.kind = .note && q.2.nid = o.nid && noteBefore q pos o).length

/-- `update_note_ids_after_unfolding` -/
def suffixIds (out : List OObj) : List OObj :=
  (enum 0 out).map fun q =>
    match q.2.kind, q.2.nid with
    | .note, some s => { q.2 with nid := some (s ++ "-" ++ toString (idRank out q.1 q.2)) }
    | _, _ => q.2

def listMax : List Int → Option Int
  | [] => none
  | x :: xs => match listMax xs with
    | none => some x
    | some m => some (if m < x then x else m)

def listMin : List Int → Option Int
  | [] => none
  | x :: xs => match listMin xs with
    | none => some x
    | some m => some (if x < m then x else m)

/-- duration of the new part: last minus first time point -/
def Variant.duration (v : Variant) : Option Int :=
  match listMin v.points, listMax v.points with
  | some a, some b => some (b - a)
  | _, _ => none

end Model.Unfold
