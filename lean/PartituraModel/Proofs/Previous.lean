/-
The entry in force: the last entry of a table, in table order, that passes a test `P` (`key ≤ x` on a table in key
order).  Lean core and Proofs/Scan.lean only; the namespace is `Lists`.  `takeWhile P` is the stretch that
`np.searchsorted` counts and whose last entry `interp1d(kind="previous")` answers; on a table ordered by a relation `r`
along which `P` is inherited backwards (`Closed`) it is `filter P`, and its last entry is the `r`-greatest entry that
passes.  The recursive lookups of the models (`IsPrevScan`) enter through `IsPrevScan.eq`; `IsSetEntry.law` says what a
walk that sets one entry does to them (`set_quarter_duration` as `TimeMap.setQDAux` and `ScoreEdit.setQdGo` model it;
`Timeline.qtabUpdate` of C01 is no such walk).
-/
import PartituraModel.Proofs.Scan

namespace Lists

variable {α β : Type} {P : α → Prop} [DecidablePred P] {r : α → α → Prop} {l pre post : List α} {e : α}

/-- `takeWhile_run` (Proofs/Scan.lean) for a decidable proposition as the test -/
theorem takeWhile_cut (hpre : ∀ a ∈ pre, P a) (hpost : ∀ b ∈ post.head?, ¬ P b) :
    (pre ++ post).takeWhile (P ·) = pre :=
  takeWhile_run (fun a ha => decide_eq_true (hpre a ha)) fun b hb => decide_eq_false (hpost b hb)

theorem forall_mem_takeWhile : ∀ a ∈ l.takeWhile (P ·), P a := fun a ha =>
  of_decide_eq_true (List.all_eq_true.mp List.all_takeWhile a ha)

theorem head?_dropWhile_neg : ∀ b ∈ (l.dropWhile (P ·)).head?, ¬ P b := fun b hb => by
  have := List.head?_dropWhile_not (P ·) l
  rw [Option.mem_def.mp hb] at this
  exact of_decide_eq_false this

theorem exists_cut (P : α → Prop) [DecidablePred P] (l : List α) :
    ∃ pre post, l = pre ++ post ∧ (∀ a ∈ pre, P a) ∧ (∀ b ∈ post.head?, ¬ P b) ∧ l.takeWhile (P ·) = pre :=
  ⟨_, _, List.takeWhile_append_dropWhile.symm, forall_mem_takeWhile, head?_dropWhile_neg, rfl⟩

theorem getLast?_takeWhile_eq_some_iff :
    (l.takeWhile (P ·)).getLast? = some e ↔
      ∃ pre post, l = pre ++ e :: post ∧ (∀ a ∈ pre, P a) ∧ P e ∧ ∀ b ∈ post.head?, ¬ P b := by
  constructor
  · intro h
    obtain ⟨ys, hys⟩ := List.getLast?_eq_some_iff.mp h
    have hall : ∀ a ∈ ys ++ [e], P a := fun a ha => forall_mem_takeWhile a (hys ▸ ha)
    refine ⟨ys, l.dropWhile (P ·), ?_, fun a ha => hall a (List.mem_append_left _ ha),
      hall e (List.mem_append_right _ (List.mem_singleton.mpr rfl)), fun b hb => ?_⟩
    · rw [← List.singleton_append, ← List.append_assoc, ← hys, List.takeWhile_append_dropWhile]
    · exact head?_dropWhile_neg b hb
  · rintro ⟨pre, post, rfl, hpre, he, hpost⟩
    have hcut := takeWhile_cut (pre := pre ++ [e]) (post := post) (P := P) (by
      intro a ha
      rcases List.mem_append.mp ha with ha | ha
      · exact hpre a ha
      · rw [List.mem_singleton.mp ha]; exact he) hpost
    rw [List.append_assoc, List.singleton_append] at hcut
    rw [hcut, List.getLast?_concat]

theorem getLast?_takeWhile_eq_none_iff : (l.takeWhile (P ·)).getLast? = none ↔ ∀ a ∈ l.head?, ¬ P a := by
  cases l with
  | nil => simp
  | cons a l =>
    by_cases ha : P a
    · simp [List.takeWhile_cons_of_pos, ha]
    · simp [List.takeWhile_cons_of_neg, ha]

/-- along `l` the test is inherited backwards: `l` is ordered by `r`, and what stands `r`-before an entry that passes
    passes (`r` the order of the keys, `P` the test `key ≤ x`).  The second half is about `r` and `P` alone; it is kept
    with the first because the two are always wanted together and an instance is then one pair. -/
def Closed (r : α → α → Prop) (P : α → Prop) (l : List α) : Prop := l.Pairwise r ∧ ∀ a b, r a b → P b → P a

omit [DecidablePred P] in
/-- on a table in order, behind a cut the test fails throughout -/
theorem Closed.tail_neg (h : Closed r P l) (hl : l = pre ++ post) (hpost : ∀ b ∈ post.head?, ¬ P b) :
    ∀ b ∈ post, ¬ P b := by
  subst hl
  cases post with
  | nil => exact fun _ hb => absurd hb List.not_mem_nil
  | cons b₀ bs =>
    intro b hb hPb
    rcases List.mem_cons.mp hb with rfl | hb
    · exact hpost b rfl hPb
    · exact hpost b₀ rfl (h.2 b₀ b ((List.pairwise_cons.mp (List.pairwise_append.mp h.1).2.1).1 b hb) hPb)

/-- on a table in order the stretch that passes is all that passes -/
theorem Closed.takeWhile_eq_filter (h : Closed r P l) : l.takeWhile (P ·) = l.filter (P ·) := by
  have hsplit := List.takeWhile_append_dropWhile (p := (P ·)) (l := l)
  have hneg : ∀ b ∈ l.dropWhile (P ·), ¬ P b :=
    h.tail_neg hsplit.symm head?_dropWhile_neg
  conv => rhs; rw [← hsplit, List.filter_append]
  rw [List.filter_eq_self.mpr fun a ha => decide_eq_true (forall_mem_takeWhile a ha),
    List.filter_eq_nil_iff.mpr fun b hb => by simpa using hneg b hb, List.append_nil]

/-- the last entry that passes stands after every other entry that passes -/
theorem getLast?_filter_greatest (hr : l.Pairwise r) (h : (l.filter (P ·)).getLast? = some e) :
    e ∈ l ∧ P e ∧ ∀ a ∈ l, P a → a = e ∨ r a e := by
  obtain ⟨ys, hys⟩ := List.getLast?_eq_some_iff.mp h
  have hmem : ∀ a, a ∈ l ∧ P a ↔ a ∈ ys ∨ a = e := fun a => by
    rw [← List.mem_singleton, ← List.mem_append, ← hys, List.mem_filter, decide_eq_true_eq]
  have hsort := hys ▸ hr.filter (P ·)
  obtain ⟨h1, h2⟩ := (hmem e).mpr (Or.inr rfl)
  refine ⟨h1, h2, fun a ha hPa => ((hmem a).mp ⟨ha, hPa⟩).symm.imp_right fun hay => ?_⟩
  exact (List.pairwise_append.mp hsort).2.2 a hay e (List.mem_singleton.mpr rfl)

/-- an entry that passes, with no entry that passes after it, is the last that passes -/
theorem getLast?_filter_of_greatest (hr : l.Pairwise r) (he : e ∈ l) (hPe : P e) (hmax : ∀ b ∈ l, P b → ¬ r e b) :
    (l.filter (P ·)).getLast? = some e := by
  obtain ⟨pre, post, rfl⟩ := List.append_of_mem he
  have hpost : ∀ b ∈ post, ¬ P b := fun b hb hPb =>
    hmax b (List.mem_append_right _ (List.mem_cons_of_mem _ hb)) hPb
      ((List.pairwise_cons.mp (List.pairwise_append.mp hr).2.1).1 b hb)
  rw [List.filter_append, List.filter_cons_of_pos (p := (P ·)) (decide_eq_true hPe),
    (List.filter_eq_nil_iff (l := post)).mpr fun b hb => by simpa using hpost b hb, List.getLast?_concat]

/-- `f c l` walks along `l` while the test passes and answers the value of the last entry it has passed, `c` if none -/
structure IsPrevScan (P : α → Prop) [DecidablePred P] (val : α → β) (f : β → List α → β) : Prop where
  nil : ∀ c, f c [] = c
  cons : ∀ c a l, f c (a :: l) = if P a then f (val a) l else c

theorem isPrevScan_takeWhile (P : α → Prop) [DecidablePred P] (val : α → β) :
    IsPrevScan P val fun c l => ((l.takeWhile (P ·)).getLast?.map val).getD c := by
  refine ⟨fun _ => rfl, fun c a l => ?_⟩
  by_cases ha : P a
  · rw [if_pos ha, List.takeWhile_cons_of_pos (p := (P ·)) (decide_eq_true ha), List.getLast?_cons]
    cases (l.takeWhile (P ·)).getLast? <;> rfl
  · rw [if_neg ha, List.takeWhile_cons_of_neg (p := (P ·)) (by simpa using ha)]; rfl

namespace IsPrevScan

variable {val : α → β} {f : β → List α → β}

theorem eq (h : IsPrevScan P val f) (c : β) (l : List α) :
    f c l = ((l.takeWhile (P ·)).getLast?.map val).getD c := by
  induction l generalizing c with
  | nil => exact h.nil c
  | cons a l ih => rw [h.cons, (isPrevScan_takeWhile P val).cons, ih]

/-- the answer is the value carried in or the value of an entry -/
theorem mem (h : IsPrevScan P val f) (c : β) (l : List α) : f c l = c ∨ ∃ a ∈ l, P a ∧ f c l = val a := by
  rw [h.eq]
  cases hl : (l.takeWhile (P ·)).getLast? with
  | none => exact Or.inl rfl
  | some e =>
    have he := List.mem_of_getLast? hl
    exact Or.inr ⟨e, (List.takeWhile_sublist _).subset he, forall_mem_takeWhile e he, rfl⟩

/-- before the first entry that passes: the value carried in -/
theorem of_head_neg (h : IsPrevScan P val f) (c : β) (hl : ∀ a ∈ l.head?, ¬ P a) : f c l = c := by
  rw [h.eq, getLast?_takeWhile_eq_none_iff.mpr hl]; rfl

/-- at a cut: the value of the entry before the cut -/
theorem cut (h : IsPrevScan P val f) (c : β) (hpre : ∀ a ∈ pre, P a) (he : P e) (hpost : ∀ b ∈ post.head?, ¬ P b) :
    f c (pre ++ e :: post) = val e := by
  rw [h.eq, getLast?_takeWhile_eq_some_iff.mpr ⟨pre, post, rfl, hpre, he, hpost⟩]; rfl

/-- once the first entry passes, the value carried in is forgotten -/
theorem indep (h : IsPrevScan P val f) (c c' : β) (hl : ∃ a ∈ l.head?, P a) : f c l = f c' l := by
  obtain ⟨a, ha, hPa⟩ := hl
  obtain ⟨t, rfl⟩ : ∃ t, l = a :: t := by
    cases l with
    | nil => cases ha
    | cons b t => exact ⟨t, by rw [Option.mem_def, List.head?_cons, Option.some.injEq] at ha; rw [ha]⟩
  rw [h.cons, h.cons, if_pos hPa, if_pos hPa]

/-- past a stretch that passes: the value of its last entry is carried on -/
theorem append_pos (h : IsPrevScan P val f) (c : β) {pre : List α} (post : List α) (hpre : ∀ a ∈ pre, P a) :
    f c (pre ++ post) = f ((pre.getLast?.map val).getD c) post := by
  induction pre generalizing c with
  | nil => rfl
  | cons a l ih =>
    rw [List.cons_append, h.cons, if_pos (hpre a List.mem_cons_self), ih _ fun b hb => hpre b (List.mem_cons_of_mem _ hb),
      List.getLast?_cons]
    cases l.getLast? <;> rfl

/-- a tail whose head fails is never looked at -/
theorem append_neg (h : IsPrevScan P val f) (c : β) (pre : List α) {post : List α} (hpost : ∀ b ∈ post.head?, ¬ P b) :
    f c (pre ++ post) = f c pre := by
  induction pre generalizing c with
  | nil => rw [List.nil_append, h.nil]; exact h.of_head_neg c hpost
  | cons a l ih => rw [List.cons_append, h.cons, h.cons, ih]

/-- the head of a table in strict key order answers up to the next entry (`Q` a test on the keys that smaller keys
    inherit) -/
theorem head {κ : Type} {key : α → κ} {lt : κ → κ → Prop} {Q : κ → Prop} [DecidablePred Q]
    (hf : IsPrevScan (fun a => Q (key a)) val f) {a : α} (hs : (a :: l).Pairwise fun a b => lt (key a) (key b))
    (down : ∀ k k', lt k k' → Q k' → Q k) (c : β) :
    f c (a :: l) = if Q (key a) ∧ ∀ e ∈ l, ¬ Q (key e) then val a else f c l := by
  have hs := List.pairwise_cons.mp hs
  rw [hf.cons]
  by_cases ha : Q (key a)
  · rw [if_pos ha]
    by_cases hl : ∀ e ∈ l, ¬ Q (key e)
    · rw [if_pos ⟨ha, hl⟩]; exact hf.of_head_neg _ fun e he => hl e (List.mem_of_mem_head? he)
    · rw [if_neg fun hc => hl hc.2]
      refine hf.indep _ _ (Classical.byContradiction fun hh => hl ?_)
      exact Closed.tail_neg (pre := []) ⟨hs.2, fun a b => down (key a) (key b)⟩ rfl fun b hb hQ => hh ⟨b, hb, hQ⟩
  · have hl : ∀ e ∈ l.head?, ¬ Q (key e) := fun e he hQ => ha (down _ _ (hs.1 e (List.mem_of_mem_head? he)) hQ)
    rw [if_neg ha, if_neg fun hc => ha hc.1, hf.of_head_neg c hl]

end IsPrevScan

section SetEntry

/- An entry `mk k v` has the key `key = k` and the value `val = v`; the keys are ordered by `lt`; `g prev l` is the walk
   along the rest `l` of the table with `prev` the value stored just before it; the lookup `f` tests the keys with `Q`
   (`· ≤ x`), which smaller keys inherit. -/
variable {κ : Type} {key : α → κ} {val : α → β} {lt : κ → κ → Prop} {Q : κ → Prop} {f : β → List α → β} {t : κ} {q : β}
  {mk : κ → β → α} {g : Option β → List α → List α}

/-- the walk of `set_quarter_duration(t, q)` along a table in key order; `prev` is the value stored just before the place
    reached: entries before `t` are passed, an entry at `t` is overwritten, and `t` is entered before the first later
    entry (or at the end) unless `q` is what is stored just before -/
structure IsSetEntry (key : α → κ) (val : α → β) (lt : κ → κ → Prop) [DecidableRel lt] [DecidableEq κ] [DecidableEq β]
    (mk : κ → β → α) (t : κ) (q : β) (g : Option β → List α → List α) : Prop where
  nil : ∀ prev, g prev [] = if prev = some q then [] else [mk t q]
  cons : ∀ prev a l, g prev (a :: l) =
    if lt (key a) t then a :: g (some (val a)) l else if key a = t then mk (key a) q :: l
    else if prev = some q then a :: l else mk t q :: a :: l

/-- **what setting one entry does to the lookup**: `q` from `t` up to the next entry stored after `t`, the old answer
    elsewhere (`d` is the value stored before the table) -/
theorem IsSetEntry.law [DecidableRel lt] [DecidableEq κ] [DecidableEq β] [DecidablePred Q]
    (hg : IsSetEntry key val lt mk t q g) (hf : IsPrevScan (fun a => Q (key a)) val f)
    (hkey : ∀ k v, key (mk k v) = k) (hval : ∀ k v, val (mk k v) = v)
    (trans : ∀ a b c, lt a b → lt b c → lt a c) (asym : ∀ a b, lt a b → ¬ lt b a)
    (tri : ∀ k, ¬ lt k t → k ≠ t → lt t k) (down : ∀ k k', lt k k' → Q k' → Q k) :
    ∀ (l : List α) (d : β), (l.Pairwise fun a b => lt (key a) (key b)) →
      f d (g (some d) l) = if Q t ∧ ∀ e ∈ l, lt t (key e) → ¬ Q (key e) then q else f d l
  | [], d, _ => by
    rw [hg.nil]
    by_cases hd : d = q
    · rw [if_pos (congrArg some hd), hf.nil, hd, ite_self]
    · rw [if_neg fun h => hd (Option.some.inj h), hf.cons, hf.nil, hf.nil, hkey, hval]
      by_cases hQ : Q t
      · rw [if_pos hQ, if_pos ⟨hQ, fun _ he => absurd he List.not_mem_nil⟩]
      · rw [if_neg hQ, if_neg fun h => hQ h.1]
  | a :: l, d, h => by
    have hs := List.pairwise_cons.mp h
    rw [hg.cons]
    by_cases h1 : lt (key a) t
    · -- an entry before `t` is passed: the walk and the lookup go on behind it
      have hc : (∀ e ∈ a :: l, lt t (key e) → ¬ Q (key e)) ↔ ∀ e ∈ l, lt t (key e) → ¬ Q (key e) :=
        List.forall_mem_cons.trans (and_iff_right fun hlt => absurd h1 (asym _ _ hlt))
      rw [if_pos h1, hf.cons, hf.cons]
      simp only [hc]
      by_cases ha : Q (key a)
      · rw [if_pos ha, if_pos ha, hg.law hf hkey hval trans asym tri down l (val a) hs.2]
      · rw [if_neg ha, if_neg ha, if_neg fun hc => ha (down _ _ h1 hc.1)]
    · rw [if_neg h1]
      by_cases h2 : key a = t
      · -- the entry at `t` is overwritten: every entry behind it lies after `t`
        have hc : (∀ e ∈ a :: l, lt t (key e) → ¬ Q (key e)) ↔ ∀ e ∈ l, ¬ Q (key e) :=
          List.forall_mem_cons.trans ⟨fun H e he => H.2 e he (h2 ▸ hs.1 e he),
            fun H => ⟨fun hlt => absurd (h2 ▸ hlt) (fun hlt => asym _ _ hlt hlt), fun e he _ => H e he⟩⟩
        have hk : (mk (key a) q :: l).Pairwise fun a b => lt (key a) (key b) :=
          List.pairwise_cons.mpr ⟨fun e he => by rw [hkey]; exact hs.1 e he, hs.2⟩
        rw [if_pos h2, hf.head hk down, hf.head h down, hkey, hval]
        simp only [hc, h2]
        by_cases hcond : Q t ∧ ∀ e ∈ l, ¬ Q (key e)
        · rw [if_pos hcond, if_pos hcond]
        · rw [if_neg hcond, if_neg hcond, if_neg hcond]
      · -- `t` lies before the entry, hence before all entries left
        have h3 : ∀ e ∈ a :: l, lt t (key e) :=
          List.forall_mem_cons.mpr ⟨tri _ h1 h2, fun e he => trans _ _ _ (tri _ h1 h2) (hs.1 e he)⟩
        have hc : (∀ e ∈ a :: l, lt t (key e) → ¬ Q (key e)) ↔ ∀ e ∈ a :: l, ¬ Q (key e) :=
          ⟨fun H e he => H e he (h3 e he), fun H e he _ => H e he⟩
        rw [if_neg h2]
        simp only [hc]
        by_cases hd : d = q
        · -- the value in force already: nothing is stored
          rw [if_pos (congrArg some hd)]
          by_cases hcond : Q t ∧ ∀ e ∈ a :: l, ¬ Q (key e)
          · rw [if_pos hcond, hf.of_head_neg d fun e he => hcond.2 e (List.mem_of_mem_head? he), hd]
          · rw [if_neg hcond]
        · have hk : (mk t q :: a :: l).Pairwise fun a b => lt (key a) (key b) :=
            List.pairwise_cons.mpr ⟨fun e he => by rw [hkey]; exact h3 e he, h⟩
          rw [if_neg fun h => hd (Option.some.inj h), hf.head hk down, hkey, hval]

/-- what the walk stores is what was stored, or the entry set -/
theorem IsSetEntry.mem [DecidableRel lt] [DecidableEq κ] [DecidableEq β]
    (hg : IsSetEntry key val lt mk t q g) : ∀ (l : List α) (prev : Option β) (e : α), e ∈ g prev l → e = mk t q ∨ e ∈ l
  | [], prev, e, h => by
    rw [hg.nil] at h
    split at h
    · exact absurd h List.not_mem_nil
    · exact Or.inl (List.mem_singleton.mp h)
  | a :: l, prev, e, h => by
    rw [hg.cons] at h
    split at h
    · rcases List.mem_cons.mp h with rfl | h
      · exact Or.inr List.mem_cons_self
      · exact (hg.mem l _ e h).imp_right (List.mem_cons_of_mem _)
    · split at h
      · rename_i hk
        rcases List.mem_cons.mp h with rfl | h
        · exact Or.inl (by rw [hk])
        · exact Or.inr (List.mem_cons_of_mem _ h)
      · split at h
        · exact Or.inr h
        · exact (List.mem_cons.mp h)

/-- the walk keeps a table in strict key order -/
theorem IsSetEntry.pairwise [DecidableRel lt] [DecidableEq κ] [DecidableEq β]
    (hg : IsSetEntry key val lt mk t q g) (hkey : ∀ k v, key (mk k v) = k)
    (trans : ∀ a b c, lt a b → lt b c → lt a c) (tri : ∀ k, ¬ lt k t → k ≠ t → lt t k) :
    ∀ (l : List α) (prev : Option β), (l.Pairwise fun a b => lt (key a) (key b)) →
      (g prev l).Pairwise fun a b => lt (key a) (key b)
  | [], prev, _ => by
    rw [hg.nil]; split
    · exact List.Pairwise.nil
    · exact List.pairwise_singleton _ _
  | a :: l, prev, h => by
    have hs := List.pairwise_cons.mp h
    rw [hg.cons]
    split
    · rename_i h1
      refine List.pairwise_cons.mpr ⟨fun e he => ?_, hg.pairwise hkey trans tri l _ hs.2⟩
      rcases hg.mem l _ e he with rfl | he
      · rw [hkey]; exact h1
      · exact hs.1 e he
    · split
      · exact List.pairwise_cons.mpr ⟨fun e he => by rw [hkey]; exact hs.1 e he, hs.2⟩
      · rename_i h1 h2
        split
        · exact h
        · exact List.pairwise_cons.mpr ⟨fun e he => by
            rw [hkey]
            rcases List.mem_cons.mp he with rfl | he
            · exact tri _ h1 h2
            · exact trans _ _ _ (tri _ h1 h2) (hs.1 e he), h⟩
end SetEntry

end Lists
