/-
C04 — soundness of the readers' pairing automaton on the note stream the (repaired) writer
produces: if no two notes of equal channel and pitch overlap, pairing the encoded stream returns
exactly the notes.

The stream is the stable sort by tick of  offs ++ zero-duration on/off pairs ++ ons.  Every event
is tagged with the index of its note; the sorted stream is then strictly ascending in the
lexicographic order (tick, kind, index, on-before-off), and the invariant of the run over a prefix
is: the output is the notes of the offs seen so far, and every note whose on has been seen but
whose off has not is in the dictionary under its (channel, pitch) with its onset and velocity.
The invariant speaks of all keys at once: that the events of one key alternate on, off is itself read off the order
(tick, kind, index) and `Compat` (`no_nested`), the two steps a key-by-key proof (as Proofs/C06Pair for a stream arranged
note by note) would also need.
-/
import PartituraModel.Proofs.C04Sort

namespace C04P
open Model Model.MidiPair C04S

def keyOf (n : NoteRec) : Nat × Nat := (n.ch, n.pitch)

/-- two notes do not overlap if they share channel and pitch: positive durations are disjoint as
    half-open intervals; a zero-duration note is not strictly inside a positive one -/
def Compat (m n : NoteRec) : Prop :=
  keyOf m = keyOf n →
    ((m.on < m.off ∧ n.on < n.off) → (m.off ≤ n.on ∨ n.off ≤ m.on)) ∧
    ((m.on < m.off ∧ n.on = n.off) → ¬ (m.on < n.on ∧ n.on < m.off)) ∧
    ((n.on < n.off ∧ m.on = m.off) → ¬ (n.on < m.on ∧ m.on < n.off))

instance (m n : NoteRec) : Decidable (Compat m n) := by unfold Compat; infer_instance

/-- the condition of `Compat` (and of `MusCompat`, in musical time) on two stretches `[a₁, b₁]`, `[a₂, b₂]` of an ordered type -/
def Apart {T : Type} [LT T] [LE T] (a₁ b₁ a₂ b₂ : T) : Prop :=
  ((a₁ < b₁ ∧ a₂ < b₂) → (b₁ ≤ a₂ ∨ b₂ ≤ a₁)) ∧
  ((a₁ < b₁ ∧ a₂ = b₂) → ¬ (a₁ < a₂ ∧ a₂ < b₁)) ∧
  ((a₂ < b₂ ∧ a₁ = b₁) → ¬ (a₂ < a₁ ∧ a₁ < b₂))

theorem compat_iff_apart (m n : NoteRec) : Compat m n ↔ (keyOf m = keyOf n → Apart m.on m.off n.on n.off) := Iff.rfl

/-- it only reads the order: a map that keeps `<`, `≤` and `=` between the four ends keeps it -/
theorem Apart.of_embedding {T T' : Type} [LT T] [LE T] [LT T'] [LE T'] {a₁ b₁ a₂ b₂ : T} {a₁' b₁' a₂' b₂' : T'}
    (F : T → T' → Prop) (h1 : F a₁ a₁') (h2 : F b₁ b₁') (h3 : F a₂ a₂') (h4 : F b₂ b₂')
    (hF : ∀ {x y x' y'}, F x x' → F y y' → (x' < y' ↔ x < y) ∧ (x' ≤ y' ↔ x ≤ y) ∧ (x' = y' ↔ x = y))
    (h : Apart a₁ b₁ a₂ b₂) : Apart a₁' b₁' a₂' b₂' := by
  unfold Apart at h ⊢
  rw [(hF h1 h2).1, (hF h3 h4).1, (hF h2 h3).2.1, (hF h4 h1).2.1, (hF h3 h4).2.2, (hF h1 h3).1, (hF h3 h2).1, (hF h1 h2).2.2,
    (hF h3 h1).1, (hF h1 h4).1]
  exact h

theorem Compat.symm {m n : NoteRec} (h : Compat m n) : Compat n m := by
  intro hk
  obtain ⟨a, b, c⟩ := h hk.symm
  exact ⟨fun hh => (a ⟨hh.2, hh.1⟩).symm, c, b⟩

def NoOverlap (notes : List NoteRec) : Prop := notes.Pairwise Compat

/-- a note the writer can produce: audible velocity, end not before start -/
def Valid (n : NoteRec) : Prop := 0 < n.vel ∧ n.on ≤ n.off

/-- a note-on or note-off of the writer's stream, with its note and the note's index in the list -/
structure TEv where
  idx : Nat
  isOff : Bool
  note : NoteRec
  deriving DecidableEq

def TEv.tick (e : TEv) : Int := if e.isOff then e.note.off else e.note.on

/-- 64: mido's default release velocity, as in `Model.MidiPair.offMsg` -/
def TEv.toMsg (e : TEv) : Msg :=
  if e.isOff then .noteOff e.note.ch e.note.pitch 64 else .noteOn e.note.ch e.note.pitch e.note.vel

/-- kind of an event: 0 off of a sounding note, 1 zero-duration note, 2 on of a sounding note -/
def cls (e : TEv) : Nat := if isZero e.note then 1 else if e.isOff then 0 else 2

def tev (e : TEv) : Int × TEv := (e.tick, e)
def onE (p : Nat × NoteRec) : Int × TEv := tev ⟨p.1, false, p.2⟩
def offE (p : Nat × NoteRec) : Int × TEv := tev ⟨p.1, true, p.2⟩

/-- the order of the events of one tick in the sorted stream: kind, then index of the note, then on before off -/
def qlt (a b : TEv) : Prop :=
  cls a < cls b ∨ (cls a = cls b ∧ (a.idx < b.idx ∨ (a.idx = b.idx ∧ a.isOff = false ∧ b.isOff = true)))

def Qlt (a b : Int × TEv) : Prop := qlt a.2 b.2
abbrev Rlt := Lex Qlt

/-- the notes numbered from `k` on -/
def tag (k : Nat) (l : List NoteRec) : List (Nat × NoteRec) := (List.range' k l.length).zip l

/-- the three blocks the writer concatenates before the stable sort by tick -/
def offsT (ns : List (Nat × NoteRec)) : List (Int × TEv) := (ns.filter (fun p => !isZero p.2)).map offE
def zerosT (ns : List (Nat × NoteRec)) : List (Int × TEv) := (ns.filter (fun p => isZero p.2)).flatMap fun p => [onE p, offE p]
def onsT (ns : List (Nat × NoteRec)) : List (Int × TEv) := (ns.filter (fun p => !isZero p.2)).map onE
def streamT (ns : List (Nat × NoteRec)) : List (Int × TEv) := sortEv (offsT ns ++ zerosT ns ++ onsT ns)

def toEv (x : Int × TEv) : Int × Msg := (x.1, x.2.toMsg)

theorem tag_idx_lt (k : Nat) (l : List NoteRec) : (tag k l).Pairwise (fun p q => p.1 < q.1) :=
  List.pairwise_map.mp (by rw [tag, List.map_fst_zip (by rw [List.length_range'])]; exact List.pairwise_lt_range')

theorem tag_map_snd (k : Nat) (l : List NoteRec) : (tag k l).map (·.2) = l :=
  List.map_snd_zip (by rw [List.length_range'])

theorem tag_compat (k : Nat) (l : List NoteRec) (h : NoOverlap l) : (tag k l).Pairwise (fun p q => Compat p.2 q.2) :=
  List.pairwise_map.mp (by rw [tag_map_snd]; exact h)

theorem tag_filter_snd (k : Nat) (l : List NoteRec) (p : NoteRec → Bool) :
    ((tag k l).filter (fun x => p x.2)).map (·.2) = l.filter p := by
  have := List.filter_map (f := fun x : Nat × NoteRec => x.2) (p := p) (l := tag k l)
  rw [tag_map_snd] at this
  exact this.symm

theorem tag_filter_map {β : Type} (k : Nat) (l : List NoteRec) (p : NoteRec → Bool) (g : NoteRec → β) :
    ((tag k l).filter (fun x => p x.2)).map (fun x => g x.2) = (l.filter p).map g := by
  rw [← tag_filter_snd k l p, List.map_map]
  rfl

theorem tag_filter_flatMap {β : Type} (k : Nat) (l : List NoteRec) (p : NoteRec → Bool) (g : NoteRec → List β) :
    ((tag k l).filter (fun x => p x.2)).flatMap (fun x => g x.2) = (l.filter p).flatMap g := by
  rw [← tag_filter_snd k l p, List.flatMap_map]

theorem isZero_iff (n : NoteRec) : isZero n = true ↔ n.on = n.off := by simp [isZero]

theorem encode_eq (notes : List NoteRec) : encode notes = (streamT (tag 0 notes)).map toEv := by
  unfold encode trackOrder noteEvents streamT toEv
  rw [sortEv_map]
  congr 1
  simp only [List.nil_append, List.map_append, offsT, zerosT, onsT, List.map_map, List.map_flatMap]
  have e1 : ((tag 0 notes).filter (fun p => !isZero p.2)).map ((fun x : Int × TEv => (x.1, x.2.toMsg)) ∘ offE)
      = (notes.filter (fun n => !isZero n)).map offMsg :=
    tag_filter_map 0 notes (fun n => !isZero n) offMsg
  have e2 : ((tag 0 notes).filter (fun p => !isZero p.2)).map ((fun x : Int × TEv => (x.1, x.2.toMsg)) ∘ onE)
      = (notes.filter (fun n => !isZero n)).map onMsg :=
    tag_filter_map 0 notes (fun n => !isZero n) onMsg
  have e3 : ((tag 0 notes).filter (fun p => isZero p.2)).flatMap
        (fun p => List.map (fun x : Int × TEv => (x.1, x.2.toMsg)) [onE p, offE p])
      = (notes.filter isZero).flatMap (fun n => [onMsg n, offMsg n]) :=
    tag_filter_flatMap 0 notes isZero (fun n => [onMsg n, offMsg n])
  rw [e1, e2, e3]

theorem onE_ne_offE (p q : Nat × NoteRec) : onE p ≠ offE q := by
  intro h
  have := congrArg (fun x => x.2.isOff) h
  simp [onE, offE, tev] at this

theorem onE_inj {p q : Nat × NoteRec} (h : onE p = onE q) : p = q := by
  have h1 := congrArg (fun x => x.2.idx) h
  have h2 := congrArg (fun x => x.2.note) h
  simp only [onE, tev] at h1 h2
  exact Prod.ext h1 h2

theorem offE_inj {p q : Nat × NoteRec} (h : offE p = offE q) : p = q := by
  have h1 := congrArg (fun x => x.2.idx) h
  have h2 := congrArg (fun x => x.2.note) h
  simp only [offE, tev] at h1 h2
  exact Prod.ext h1 h2

theorem mem_streamT (ns : List (Nat × NoteRec)) (x : Int × TEv) :
    x ∈ streamT ns ↔ ∃ p ∈ ns, x = onE p ∨ x = offE p := by
  unfold streamT
  rw [isSort.mem]
  simp only [List.mem_append, offsT, zerosT, onsT, List.mem_map, List.mem_filter, List.mem_flatMap,
    List.mem_cons, List.not_mem_nil, or_false]
  constructor
  · rintro ((⟨p, ⟨hp, _⟩, rfl⟩ | ⟨p, ⟨hp, _⟩, h⟩) | ⟨p, ⟨hp, _⟩, rfl⟩)
    · exact ⟨p, hp, Or.inr rfl⟩
    · exact ⟨p, hp, h⟩
    · exact ⟨p, hp, Or.inl rfl⟩
  · rintro ⟨p, hp, h⟩
    cases hz : isZero p.2 with
    | true => exact Or.inl (Or.inr ⟨p, ⟨hp, hz⟩, h⟩)
    | false =>
      rcases h with rfl | rfl
      · exact Or.inr ⟨p, ⟨hp, by simp [hz]⟩, rfl⟩
      · exact Or.inl (Or.inl ⟨p, ⟨hp, by simp [hz]⟩, rfl⟩)

theorem cls_off_pos (p : Nat × NoteRec) (h : isZero p.2 = false) : cls (offE p).2 = 0 := by
  simp [cls, offE, tev, h]
theorem cls_on_pos (p : Nat × NoteRec) (h : isZero p.2 = false) : cls (onE p).2 = 2 := by
  simp [cls, onE, tev, h]
theorem cls_off_zero (p : Nat × NoteRec) (h : isZero p.2 = true) : cls (offE p).2 = 1 := by
  simp [cls, offE, tev, h]
theorem cls_on_zero (p : Nat × NoteRec) (h : isZero p.2 = true) : cls (onE p).2 = 1 := by
  simp [cls, onE, tev, h]

/-- a block of events of one kind `c`, note after note in ascending index, each note's own events in order -/
theorem block_pairwise (l : List (Nat × NoteRec)) (hidx : l.Pairwise (fun p q => p.1 < q.1))
    (mk : Nat × NoteRec → List (Int × TEv)) (c : Nat) (hc : ∀ p ∈ l, ∀ x ∈ mk p, cls x.2 = c ∧ x.2.idx = p.1)
    (hin : ∀ p ∈ l, (mk p).Pairwise Qlt) :
    (l.flatMap mk).Pairwise Qlt ∧ ∀ x ∈ l.flatMap mk, cls x.2 = c := by
  refine ⟨List.pairwise_flatMap.mpr ⟨hin, hidx.imp_of_mem fun {p q} hp hq hpq x hx y hy => ?_⟩, fun x hx => ?_⟩
  · exact Or.inr ⟨(hc p hp x hx).1.trans (hc q hq y hy).1.symm, Or.inl ((hc p hp x hx).2 ▸ (hc q hq y hy).2 ▸ hpq)⟩
  · obtain ⟨p, hp, hx⟩ := List.mem_flatMap.mp hx
    exact (hc p hp x hx).1

/-- the concatenation ascends in the order of one tick: three blocks of kinds 0, 1, 2 -/
theorem concat_pairwise (ns : List (Nat × NoteRec)) (hidx : ns.Pairwise (fun p q => p.1 < q.1)) :
    (offsT ns ++ zerosT ns ++ onsT ns).Pairwise Qlt := by
  have hpos : ∀ p ∈ ns.filter (fun p => !isZero p.2), isZero p.2 = false :=
    fun p hp => by simpa using (List.mem_filter.mp hp).2
  have hzero : ∀ p ∈ ns.filter (fun p => isZero p.2), isZero p.2 = true := fun p hp => (List.mem_filter.mp hp).2
  obtain ⟨hoffs, clsOffs⟩ := block_pairwise _ (hidx.filter _) (fun p => [offE p]) 0
    (fun p hp x hx => by rw [List.mem_singleton.mp hx]; exact ⟨cls_off_pos p (hpos p hp), rfl⟩)
    (fun _ _ => List.pairwise_singleton _ _)
  obtain ⟨hons, clsOns⟩ := block_pairwise _ (hidx.filter _) (fun p => [onE p]) 2
    (fun p hp x hx => by rw [List.mem_singleton.mp hx]; exact ⟨cls_on_pos p (hpos p hp), rfl⟩)
    (fun _ _ => List.pairwise_singleton _ _)
  obtain ⟨hzeros, clsZeros⟩ := block_pairwise _ (hidx.filter _) (fun p => [onE p, offE p]) 1
    (fun p hp x hx => by
      simp only [List.mem_cons, List.not_mem_nil, or_false] at hx
      rcases hx with rfl | rfl
      · exact ⟨cls_on_zero p (hzero p hp), rfl⟩
      · exact ⟨cls_off_zero p (hzero p hp), rfl⟩)
    (fun p hp => List.pairwise_pair.mpr
      (Or.inr ⟨by rw [cls_on_zero p (hzero p hp), cls_off_zero p (hzero p hp)], Or.inr ⟨rfl, rfl, rfl⟩⟩))
  rw [← List.map_eq_flatMap] at hoffs clsOffs hons clsOns
  rw [List.pairwise_append, List.pairwise_append]
  refine ⟨⟨hoffs, hzeros, fun a ha b hb => ?_⟩, hons, fun a ha b hb => ?_⟩
  · exact Or.inl (by rw [clsOffs a ha, clsZeros b hb]; exact Nat.zero_lt_one)
  · rcases List.mem_append.mp ha with ha | ha
    · exact Or.inl (by rw [clsOffs a ha, clsOns b hb]; exact Nat.zero_lt_two)
    · exact Or.inl (by rw [clsZeros a ha, clsOns b hb]; exact Nat.one_lt_two)

theorem streamT_sorted (ns : List (Nat × NoteRec)) (hidx : ns.Pairwise (fun p q => p.1 < q.1)) :
    (streamT ns).Pairwise Rlt :=
  sortEv_pairwise Qlt _ (concat_pairwise ns hidx)

theorem rlt_irrefl (x : Int × TEv) : ¬ Rlt x x := by
  intro h
  rcases h with h | ⟨_, h⟩
  · exact lt_irrefl _ h
  · rcases h with h | ⟨_, h | ⟨_, h1, h2⟩⟩
    · exact lt_irrefl _ h
    · exact lt_irrefl _ h
    · rw [h1] at h2; cases h2

theorem off_not_before_on (p : Nat × NoteRec) (hv : Valid p.2) : ¬ Rlt (offE p) (onE p) := by
  intro h
  rcases h with h | ⟨ht, h⟩
  · simp only [offE, onE, tev, TEv.tick] at h
    simp at h
    have := hv.2
    omega
  · simp only [offE, onE, tev, TEv.tick] at ht
    simp at ht
    have hz : isZero p.2 = true := (isZero_iff _).mpr ht.symm
    rcases h with h | ⟨_, h | ⟨_, h1, _⟩⟩
    · rw [cls_off_zero p hz, cls_on_zero p hz] at h; exact lt_irrefl _ h
    · simp [offE, onE, tev] at h
    · simp [offE, tev] at h1

/-- between the on and the off of a note there is no on of another note of its channel and pitch -/
theorem no_nested (p q : Nat × NoteRec) (h1 : Rlt (onE p) (onE q)) (h2 : Rlt (onE q) (offE p))
    (hk : keyOf p.2 = keyOf q.2) (hne : p.1 ≠ q.1) (hc : Compat p.2 q.2) (hvp : Valid p.2) (hvq : Valid q.2) :
    False := by
  obtain ⟨c1, c2, c3⟩ := hc hk
  have hpv := hvp.2
  have hqv := hvq.2
  have hidx : p.1 ≠ q.1 := hne
  have hzp := isZero_iff p.2
  have hzq := isZero_iff q.2
  -- the order compares (tick, kind, index, on before off); once it is known which of the two notes have no
  -- duration the kinds are numbers, and the two comparisons contradict `Compat` by linear arithmetic
  simp only [Rlt, C04S.Lex, Qlt, qlt, cls, onE, offE, tev, TEv.tick, Bool.false_eq_true, if_false, if_true,
    and_true, and_false, or_false] at h1 h2
  cases hp0 : isZero p.2 <;> cases hq0 : isZero q.2 <;>
    simp only [hp0, hq0, Bool.false_eq_true, if_false, if_true, false_iff, true_iff] at h1 h2 hzp hzq <;> omega

theorem lookup_eraseKey_ne (k k' : Nat × Nat) (s : Sounding) (h : k' ≠ k) :
    lookup k' (eraseKey k s) = lookup k' s :=
  (lookup_filter_ne k' k s).trans (if_neg h)

theorem lookup_setKey_self (k : Nat × Nat) (v : Int × Nat) (s : Sounding) : lookup k (setKey k v s) = some v :=
  (lookup_cons_filter_ne k k v s).trans (if_pos rfl)

theorem lookup_setKey_ne (k k' : Nat × Nat) (v : Int × Nat) (s : Sounding) (h : k' ≠ k) :
    lookup k' (setKey k v s) = lookup k' s :=
  (lookup_cons_filter_ne k' k v s).trans (if_neg h)

/-- the notes of the offs in a stretch of the stream, in order -/
def outOf (l : List (Int × TEv)) : List NoteRec := (l.filter (fun x => x.2.isOff)).map (fun x => x.2.note)

/-- what the run is proved under: distinct ascending indices, no two notes overlapping on a key, writable notes -/
structure Ctx (ns : List (Nat × NoteRec)) : Prop where
  idx : ns.Pairwise (fun p q => p.1 < q.1)
  compat : ns.Pairwise (fun p q => Compat p.2 q.2)
  valid : ∀ p ∈ ns, Valid p.2

theorem Ctx.eq_of_idx {ns} (c : Ctx ns) {p q : Nat × NoteRec} (hp : p ∈ ns) (hq : q ∈ ns) (h : p.1 = q.1) : p = q := by
  rcases Lists.pairwise_mem c.idx hp hq with h' | h' | h'
  · exact h'
  · omega
  · omega

theorem Ctx.compat_of_ne {ns} (c : Ctx ns) {p q : Nat × NoteRec} (hp : p ∈ ns) (hq : q ∈ ns) (h : p.1 ≠ q.1) :
    Compat p.2 q.2 := by
  rcases Lists.pairwise_mem c.compat hp hq with h' | h' | h'
  · exact absurd (congrArg Prod.fst h') h
  · exact h'
  · exact h'.symm

/-- the state after the prefix `pre` of the stream: the notes whose off was read are out, in order; a note whose on was
    read and whose off was not is in the dictionary under its key -/
def Inv (ns : List (Nat × NoteRec)) (pre : List (Int × TEv)) (st : PState) : Prop :=
  st.out = outOf pre ∧
  ∀ p ∈ ns, onE p ∈ pre → offE p ∉ pre → lookup (keyOf p.2) st.sounding = some (p.2.on, p.2.vel)

/-- a position in the sorted stream: what lies before `x`, `x`, and what lies after it -/
structure Here (ns : List (Nat × NoteRec)) (pre : List (Int × TEv)) (x : Int × TEv) (suf : List (Int × TEv)) : Prop where
  mem : ∀ y, y ∈ pre ++ x :: suf ↔ ∃ p ∈ ns, y = onE p ∨ y = offE p
  pre_sorted : pre.Pairwise Rlt
  before : ∀ y ∈ pre, ∀ z ∈ x :: suf, Rlt y z
  after : ∀ z ∈ suf, Rlt x z

theorem Here.of_eq {ns : List (Nat × NoteRec)} (c : Ctx ns) {pre suf : List (Int × TEv)} {x : Int × TEv}
    (hS : pre ++ x :: suf = streamT ns) : Here ns pre x suf := by
  have hsorted : (pre ++ x :: suf).Pairwise Rlt := hS ▸ streamT_sorted ns c.idx
  obtain ⟨hpre, hxs, hcross⟩ := List.pairwise_append.mp hsorted
  exact ⟨fun y => hS ▸ mem_streamT ns y, hpre, hcross, (List.pairwise_cons.mp hxs).1⟩

theorem Here.not_mem_pre {ns pre x suf} (H : Here ns pre x suf) : x ∉ pre :=
  fun h => rlt_irrefl x (H.before x h x List.mem_cons_self)

theorem mem_suf {pre suf : List (Int × TEv)} {x : Int × TEv} (y : Int × TEv) (hy : y ∈ pre ++ x :: suf)
    (h1 : y ∉ pre) (h2 : y ≠ x) : y ∈ suf := by
  rcases List.mem_append.mp hy with h | h
  · exact absurd h h1
  · rcases List.mem_cons.mp h with h | h
    · exact absurd h h2
    · exact h

/-- a note on: the note is entered under its key; no other sounding note has that key -/
theorem step_on_inv (ns : List (Nat × NoteRec)) (c : Ctx ns) (pre suf : List (Int × TEv)) (p : Nat × NoteRec)
    (hp : p ∈ ns) (H : Here ns pre (onE p) suf) (st : PState) (hI : Inv ns pre st) :
    Inv ns (pre ++ [onE p]) (pstep st (toEv (onE p))) := by
  obtain ⟨hout, hsnd⟩ := hI
  have hvp := c.valid p hp
  have hstep : pstep st (toEv (onE p)) = { st with sounding := setKey (keyOf p.2) (p.2.on, p.2.vel) st.sounding } := by
    simp only [pstep, toEv, onE, tev, TEv.toMsg, TEv.tick, keyOf]
    simp [hvp.1]
  rw [hstep]
  refine ⟨?_, ?_⟩
  · simp only [outOf, List.filter_append, List.map_append] at hout ⊢
    simp [hout, onE, tev]
  · intro q hq hon hoff
    by_cases hqp : q.1 = p.1
    · have := c.eq_of_idx hq hp hqp
      subst this
      exact lookup_setKey_self _ _ _
    · have hon' : onE q ∈ pre := by
        rcases List.mem_append.mp hon with h | h
        · exact h
        · simp only [List.mem_cons, List.not_mem_nil, or_false] at h
          exact absurd (congrArg Prod.fst (onE_inj h)) hqp
      have hoff' : offE q ∉ pre := fun h => hoff (List.mem_append_left _ h)
      have hk : keyOf q.2 ≠ keyOf p.2 := by
        intro hk
        have hoffS : offE q ∈ pre ++ onE p :: suf := (H.mem _).mpr ⟨q, hq, Or.inr rfl⟩
        have hoffsuf : offE q ∈ suf := mem_suf _ hoffS hoff' (fun h => onE_ne_offE p q h.symm)
        exact no_nested q p (H.before _ hon' _ List.mem_cons_self) (H.after _ hoffsuf) hk hqp
          (c.compat_of_ne hq hp hqp) (c.valid q hq) hvp
      rw [lookup_setKey_ne _ _ _ _ hk]
      exact hsnd q hq hon' hoff'

/-- a note off: its note is sounding and is put out; the other sounding notes have other keys -/
theorem step_off_inv (ns : List (Nat × NoteRec)) (c : Ctx ns) (pre suf : List (Int × TEv)) (p : Nat × NoteRec)
    (hp : p ∈ ns) (H : Here ns pre (offE p) suf) (st : PState) (hI : Inv ns pre st) :
    Inv ns (pre ++ [offE p]) (pstep st (toEv (offE p))) := by
  obtain ⟨hout, hsnd⟩ := hI
  have hvp := c.valid p hp
  have honS : onE p ∈ pre ++ offE p :: suf := (H.mem _).mpr ⟨p, hp, Or.inl rfl⟩
  have hon : onE p ∈ pre := by
    by_contra hnot
    have : onE p ∈ suf := mem_suf _ honS hnot (onE_ne_offE p p)
    exact off_not_before_on p hvp (H.after _ this)
  have hl := hsnd p hp hon H.not_mem_pre
  have hstep : pstep st (toEv (offE p)) =
      { sounding := eraseKey (keyOf p.2) st.sounding, out := st.out ++ [p.2] } := by
    simp only [pstep, toEv, offE, tev, TEv.toMsg, TEv.tick, pOff]
    simp only [keyOf] at hl
    simp [hl, keyOf]
  rw [hstep]
  refine ⟨?_, ?_⟩
  · simp only [outOf, List.filter_append, List.map_append] at hout ⊢
    simp [hout, offE, tev]
  · intro q hq hon2 hoff2
    have hqp : q.1 ≠ p.1 := by
      intro h
      have := c.eq_of_idx hq hp h
      subst this
      exact hoff2 (List.mem_append_right _ List.mem_cons_self)
    have hon' : onE q ∈ pre := by
      rcases List.mem_append.mp hon2 with h | h
      · exact h
      · simp only [List.mem_cons, List.not_mem_nil, or_false] at h
        exact absurd h (onE_ne_offE q p)
    have hoff' : offE q ∉ pre := fun h => hoff2 (List.mem_append_left _ h)
    have hk : keyOf q.2 ≠ keyOf p.2 := by
      intro hk
      have hoffS : offE q ∈ pre ++ offE p :: suf := (H.mem _).mpr ⟨q, hq, Or.inr rfl⟩
      have hoffsuf : offE q ∈ suf := mem_suf _ hoffS hoff' (fun h => hqp (congrArg Prod.fst (offE_inj h)))
      rcases Lists.pairwise_mem H.pre_sorted hon hon' with h | h | h
      · exact hqp (congrArg Prod.fst (onE_inj h)).symm
      · -- on p, on q, off p
        exact no_nested p q h (H.before _ hon' _ List.mem_cons_self) hk.symm (fun h => hqp h.symm)
          (c.compat_of_ne hp hq (fun h => hqp h.symm)) hvp (c.valid q hq)
      · -- on q, on p, off q: on p lies in `pre`, off q in `suf`
        exact no_nested q p h (H.before _ hon _ (List.mem_cons_of_mem _ hoffsuf)) hk hqp
          (c.compat_of_ne hq hp hqp) (c.valid q hq) hvp
    rw [lookup_eraseKey_ne _ _ _ hk]
    exact hsnd q hq hon' hoff'

theorem step_inv (ns : List (Nat × NoteRec)) (c : Ctx ns) (pre suf : List (Int × TEv)) (x : Int × TEv)
    (hS : pre ++ x :: suf = streamT ns) (st : PState) (hI : Inv ns pre st) :
    Inv ns (pre ++ [x]) (pstep st (toEv x)) := by
  have H := Here.of_eq c hS
  obtain ⟨p, hp, rfl | rfl⟩ := (H.mem x).mp (List.mem_append_right _ List.mem_cons_self)
  · exact step_on_inv ns c pre suf p hp H st hI
  · exact step_off_inv ns c pre suf p hp H st hI

theorem run_inv (ns : List (Nat × NoteRec)) (c : Ctx ns) :
    ∀ (suf pre : List (Int × TEv)) (st : PState), pre ++ suf = streamT ns → Inv ns pre st →
      Inv ns (streamT ns) (suf.foldl (fun s x => pstep s (toEv x)) st) := by
  intro suf
  induction suf with
  | nil =>
    intro pre st hS hI
    simp only [List.append_nil] at hS
    simpa [hS] using hI
  | cons x suf ih =>
    intro pre st hS hI
    simp only [List.foldl_cons]
    apply ih (pre ++ [x])
    · simpa using hS
    · exact step_inv ns c pre suf x hS st hI

theorem pairAbs_stream (ns : List (Nat × NoteRec)) (c : Ctx ns) :
    pairAbs ((streamT ns).map toEv) = outOf (streamT ns) := by
  unfold pairAbs
  rw [List.foldl_map]
  have := run_inv ns c (streamT ns) [] ⟨[], []⟩ (by simp) ⟨by simp [outOf], by intro p _ h; cases h⟩
  exact this.1

theorem outOf_perm (ns : List (Nat × NoteRec)) : (outOf (streamT ns)).Perm (ns.map (·.2)) := by
  have h1 : (outOf (streamT ns)).Perm (outOf (offsT ns ++ zerosT ns ++ onsT ns)) := by
    unfold outOf streamT
    exact ((isSort.perm _).filter _).map _
  refine h1.trans ?_
  have e1 : outOf (offsT ns) = (ns.filter (fun p => !isZero p.2)).map (·.2) := by
    simp [outOf, offsT, List.filter_map, Function.comp_def, offE, tev]
  have e2 : outOf (onsT ns) = [] := by
    simp [outOf, onsT, List.filter_map, Function.comp_def, onE, tev]
  have e3 : outOf (zerosT ns) = (ns.filter (fun p => isZero p.2)).map (·.2) := by
    rw [outOf, zerosT, List.filter_flatMap, List.map_flatMap, List.map_eq_flatMap]
    rfl
  have : outOf (offsT ns ++ zerosT ns ++ onsT ns) = outOf (offsT ns) ++ outOf (zerosT ns) ++ outOf (onsT ns) := by
    simp [outOf, List.filter_append]
  rw [this, e1, e2, e3, List.append_nil, ← List.map_append]
  refine List.Perm.map _ ?_
  have := List.filter_append_perm (fun p : Nat × NoteRec => isZero p.2) ns
  exact (List.perm_append_comm).trans this

def isNoteMsg : Int × Msg → Bool
  | (_, .noteOn _ _ _) => true
  | (_, .noteOff _ _ _) => true
  | _ => false

theorem pstep_skip (s : PState) (e : Int × Msg) (h : isNoteMsg e = false) : pstep s e = s := by
  obtain ⟨t, m⟩ := e
  cases m <;> simp_all [isNoteMsg, pstep]

theorem foldl_pstep_filter (l : List (Int × Msg)) (s : PState) :
    l.foldl pstep s = (l.filter isNoteMsg).foldl pstep s := by
  induction l generalizing s with
  | nil => rfl
  | cons e es ih =>
    by_cases h : isNoteMsg e = true
    · rw [List.filter_cons_of_pos h, List.foldl_cons, List.foldl_cons, ih]
    · have h' : isNoteMsg e = false := by simpa using h
      rw [List.filter_cons_of_neg h, List.foldl_cons, pstep_skip s e h', ih]

theorem pairAbs_filter (l : List (Int × Msg)) : pairAbs l = pairAbs (l.filter isNoteMsg) := by
  unfold pairAbs
  rw [foldl_pstep_filter]

theorem mem_noteEvents (notes : List NoteRec) (x : Int × Msg)
    (hx : x ∈ (noteEvents notes).offs ∨ x ∈ (noteEvents notes).zeros ∨ x ∈ (noteEvents notes).ons) :
    ∃ n ∈ notes, x = onMsg n ∨ x = offMsg n := by
  simp only [noteEvents, List.mem_map, List.mem_flatMap, List.mem_filter, List.mem_cons, List.not_mem_nil, or_false] at hx
  rcases hx with ⟨n, ⟨hn, _⟩, rfl⟩ | ⟨n, ⟨hn, _⟩, rfl | rfl⟩ | ⟨n, ⟨hn, _⟩, rfl⟩
  exacts [⟨n, hn, Or.inr rfl⟩, ⟨n, hn, Or.inl rfl⟩, ⟨n, hn, Or.inr rfl⟩, ⟨n, hn, Or.inl rfl⟩]

theorem noteEvents_filter (notes : List NoteRec) :
    (noteEvents notes).offs.filter isNoteMsg = (noteEvents notes).offs ∧
    (noteEvents notes).zeros.filter isNoteMsg = (noteEvents notes).zeros ∧
    (noteEvents notes).ons.filter isNoteMsg = (noteEvents notes).ons := by
  have : ∀ x, (x ∈ (noteEvents notes).offs ∨ x ∈ (noteEvents notes).zeros ∨ x ∈ (noteEvents notes).ons) → isNoteMsg x = true :=
    fun x hx => by obtain ⟨n, _, rfl | rfl⟩ := mem_noteEvents notes x hx <;> rfl
  exact ⟨List.filter_eq_self.mpr fun x hx => this x (Or.inl hx), List.filter_eq_self.mpr fun x hx => this x (Or.inr (Or.inl hx)),
    List.filter_eq_self.mpr fun x hx => this x (Or.inr (Or.inr hx))⟩

theorem pairAbs_track (tempos metas : List (Int × Msg)) (notes : List NoteRec)
    (ht : ∀ x ∈ tempos, isNoteMsg x = false) (hm : ∀ x ∈ metas, isNoteMsg x = false) :
    pairAbs (trackOrder { noteEvents notes with tempos := tempos, metas := metas }) = pairAbs (encode notes) := by
  rw [pairAbs_filter]
  unfold trackOrder encode
  rw [sortEv_filter]
  obtain ⟨f1, f2, f3⟩ := noteEvents_filter notes
  have e1 : tempos.filter isNoteMsg = [] := List.filter_eq_nil_iff.mpr (fun x hx => by simp [ht x hx])
  have e2 : metas.filter isNoteMsg = [] := List.filter_eq_nil_iff.mpr (fun x hx => by simp [hm x hx])
  simp only [List.filter_append, e1, e2, f1, f2, f3, List.nil_append]
  simp [noteEvents, trackOrder]

theorem pairAbs_encode (notes : List NoteRec) (hno : NoOverlap notes) (hv : ∀ n ∈ notes, Valid n) :
    (pairAbs (encode notes)).Perm notes := by
  have c : Ctx (tag 0 notes) :=
    ⟨tag_idx_lt 0 notes, tag_compat 0 notes hno, fun p hp => hv p.2 (tag_map_snd 0 notes ▸ List.mem_map_of_mem hp)⟩
  rw [encode_eq, pairAbs_stream _ c]
  have := outOf_perm (tag 0 notes)
  rwa [tag_map_snd] at this

theorem pairTrack_writeTrack (tempos metas : List (Int × Msg)) (notes : List NoteRec)
    (ht : ∀ x ∈ tempos, isNoteMsg x = false) (hm : ∀ x ∈ metas, isNoteMsg x = false)
    (hno : NoOverlap notes) (hv : ∀ n ∈ notes, Valid n) :
    (pairTrack (writeTrack { noteEvents notes with tempos := tempos, metas := metas })).Perm notes := by
  unfold pairTrack writeTrack
  rw [absolute_deltas, pairAbs_track tempos metas notes ht hm]
  exact pairAbs_encode notes hno hv

end C04P
