/-
Inverse direction: when `create_divs_from_beats` shifts (only for a negative first
onset, and then by exactly the earliest onset), where `note_array_to_score` puts the pickup measure,
and what the time maps of the created part give back.
-/
import PartituraModel.Model.NoteArrayBack
import PartituraModel.Proofs.C05Inverse
import PartituraModel.Proofs.Round
import Mathlib.Tactic.Ring
import Mathlib.Tactic.FieldSimp

namespace NoteArray

open List Model

theorem minList_spec (l : List Int) (m : Int) (h : minList l = some m) : m ∈ l ∧ ∀ x ∈ l, m ≤ x := by
  unfold minList at h
  cases hm : maxList (l.map (- ·)) with
  | none => rw [hm] at h; cases h
  | some k =>
    rw [hm] at h
    simp only [Option.map_some, Option.some.injEq] at h
    subst h
    obtain ⟨hmem, hub⟩ := maxList_spec _ _ hm
    obtain ⟨y, hy, rfl⟩ := mem_map.mp hmem
    refine ⟨by simpa using hy, ?_⟩
    intro x hx
    have := hub (-x) (mem_map_of_mem (f := fun z : Int => -z) hx)
    omega

theorem minList_none {l : List Int} (h : minList l = none) : l = [] := by
  unfold minList at h
  cases hm : maxList (l.map (- ·)) with
  | none => simpa using maxList_none hm
  | some k => rw [hm] at h; cases h

theorem maxRatList_cons (a : Rat) (l : List Rat) :
    maxRatList (a :: l) = some ((maxRatList l).elim a fun m => if a ≤ m then m else a) := by
  rw [maxRatList]; cases maxRatList l <;> rfl

theorem maxRatList_none {l : List Rat} (h : maxRatList l = none) : l = [] :=
  (Lists.optMin_none _ rfl maxRatList_cons).mp h

theorem maxRatList_spec (l : List Rat) (m : Rat) (h : maxRatList l = some m) : m ∈ l ∧ ∀ x ∈ l, x ≤ m :=
  Lists.optMin_spec (le := (· ≥ ·)) _ rfl maxRatList_cons le_refl (fun _ _ _ h1 h2 => le_trans h2 h1)
    (fun a m => by
      by_cases ham : a ≤ m
      · exact Or.inr ⟨if_pos ham, ham⟩
      · exact Or.inl ⟨if_neg ham, (not_le.mp ham).le⟩) h

theorem beatDivs_pos (rows : List (Rat × Rat)) : 0 < beatDivs rows := by
  unfold beatDivs
  apply Model.natLcm_pos
  intro d hd
  rcases mem_append.mp hd with h | h
  · obtain ⟨x, _, rfl⟩ := mem_map.mp h; exact x.2.den_pos
  · obtain ⟨x, _, rfl⟩ := mem_map.mp h; exact x.1.den_pos

theorem onset_on_grid (rows : List (Rat × Rat)) (x : Rat × Rat) (hx : x ∈ rows) :
    ((truncRat ((beatDivs rows : Rat) * limitDen x.1 256) : Int) : Rat) =
      (beatDivs rows : Rat) * limitDen x.1 256 :=
  truncRat_mul_den _ _ (den_dvd_beatDivs hx).1

theorem limited_onsets (rows : List (Rat × Rat)) :
    (limited rows).map (fun f => truncRat ((beatDivs rows : Rat) * f.1)) =
      rows.map (fun x => truncRat ((beatDivs rows : Rat) * limitDen x.1 256)) := by
  unfold limited
  rw [map_map]
  rfl

/-- the shift moves the earliest (limited) onset to time 0 when that onset is negative and is 0 otherwise:
    `shift = max 0 (-(divisions × earliest onset))` -/
theorem beatShift_spec (rows : List (Rat × Rat)) (hne : rows ≠ []) :
    ∃ y ∈ rows, (∀ x ∈ rows, limitDen y.1 256 ≤ limitDen x.1 256) ∧
      (beatShift rows : Rat) = max 0 (-((beatDivs rows : Rat) * limitDen y.1 256)) := by
  have hdpos : (0 : Rat) < (beatDivs rows : Rat) := by exact_mod_cast beatDivs_pos rows
  cases hm : minList (rows.map fun x => truncRat ((beatDivs rows : Rat) * limitDen x.1 256)) with
  | none => exact absurd (map_eq_nil_iff.mp (minList_none hm)) hne
  | some m =>
    have hbs : beatShift rows = if m < 0 then -m else 0 := by
      unfold beatShift
      rw [limited_onsets, hm]
    obtain ⟨hmem, hlb⟩ := minList_spec _ _ hm
    obtain ⟨y, hy, rfl⟩ := mem_map.mp hmem
    have hqy := onset_on_grid rows y hy
    refine ⟨y, hy, fun x hx => ?_, ?_⟩
    · -- on the grid the truncated products are the products, and the grid is positive
      have h1 := hlb _ (mem_map_of_mem (f := fun x : Rat × Rat => truncRat ((beatDivs rows : Rat) * limitDen x.1 256)) hx)
      have h2 : ((truncRat ((beatDivs rows : Rat) * limitDen y.1 256) : Int) : Rat) ≤
          ((truncRat ((beatDivs rows : Rat) * limitDen x.1 256) : Int) : Rat) := by exact_mod_cast h1
      rw [hqy, onset_on_grid rows x hx] at h2
      exact le_of_mul_le_mul_left h2 hdpos
    · have hmax : ∀ k : Int, (if k < 0 then -k else 0) = max 0 (-k) := fun k => by
        rw [max_def]; split <;> split <;> omega
      rw [hbs, hmax, Int.cast_max, Int.cast_zero, Int.cast_neg, hqy]

theorem limitDen_of_den_le (r : Rat) (k : Nat) (h : r.den ≤ k) : limitDen r k = r := by
  unfold limitDen
  rw [if_pos h]

theorem mem_beatRows {a : List ARow} {x : Rat × Rat} :
    x ∈ beatRows a ↔ ∃ r ∈ a, (r.onsetBeat, r.durBeat) = x := by
  simp only [beatRows, mem_map, mem_sortArr]

theorem beatShift_beatRows_eq_zero (a : List ARow) (h : ∀ r ∈ a, 0 ≤ limitDen r.onsetBeat 256) :
    beatShift (beatRows a) = 0 := by
  rcases eq_or_ne (beatRows a) [] with e | hne
  · rw [e]; rfl
  obtain ⟨y, hy, _, hsh⟩ := beatShift_spec _ hne
  obtain ⟨r, hr, rfl⟩ := mem_beatRows.1 hy
  rw [max_eq_left (neg_nonpos.mpr (mul_nonneg (Nat.cast_nonneg _) (h r hr)))] at hsh
  exact_mod_cast hsh

theorem beatShift_beatRows_of_neg (a : List ARow) (h : ∃ r ∈ a, limitDen r.onsetBeat 256 < 0) :
    ∃ y ∈ a, limitDen y.onsetBeat 256 < 0 ∧ (∀ r ∈ a, limitDen y.onsetBeat 256 ≤ limitDen r.onsetBeat 256) ∧
      (beatShift (beatRows a) : Rat) = -((beatDivs (beatRows a) : Rat) * limitDen y.onsetBeat 256) := by
  obtain ⟨r0, hr0, hr0n⟩ := h
  have hm0 : (r0.onsetBeat, r0.durBeat) ∈ beatRows a := mem_beatRows.2 ⟨r0, hr0, rfl⟩
  obtain ⟨y', hy', hle, hsh⟩ := beatShift_spec _ (ne_nil_of_mem hm0)
  obtain ⟨y, hy, rfl⟩ := mem_beatRows.1 hy'
  -- the pairs are written out: left to unification they are looked for through `limitDen … 256`, which is slow
  have hyneg := lt_of_le_of_lt (hle (r0.onsetBeat, r0.durBeat) hm0) hr0n
  refine ⟨y, hy, hyneg, fun r hr => hle (r.onsetBeat, r.durBeat) (mem_beatRows.2 ⟨r, hr, rfl⟩), ?_⟩
  rw [hsh, max_eq_right (neg_nonneg.mpr (mul_nonpos_of_nonneg_of_nonpos (Nat.cast_nonneg _) hyneg.le))]

/-- ... on the 1/256 grid, where limiting the denominator changes nothing -/
theorem beatShift_of_neg_grid (a : List ARow) (hgrid : ∀ r ∈ a, r.onsetBeat.den ≤ 256)
    (hneg : ∃ r ∈ a, r.onsetBeat < 0) :
    ∃ y ∈ a, y.onsetBeat < 0 ∧ (∀ r ∈ a, y.onsetBeat ≤ r.onsetBeat) ∧
      (beatShift (beatRows a) : Rat) = -((beatDivs (beatRows a) : Rat) * y.onsetBeat) := by
  have hlim : ∀ r ∈ a, limitDen r.onsetBeat 256 = r.onsetBeat := fun r hr => limitDen_of_den_le _ _ (hgrid r hr)
  obtain ⟨r0, hr0, hr0n⟩ := hneg
  obtain ⟨y, hy, hyneg, hyle, hsh⟩ := beatShift_beatRows_of_neg a ⟨r0, hr0, by rwa [hlim r0 hr0]⟩
  rw [hlim y hy] at hyneg hsh
  exact ⟨y, hy, hyneg, fun r hr => by simpa only [hlim y hy, hlim r hr] using hyle r hr, hsh⟩

theorem mem_negRows {a : List ARow} {l : List (Int × Int × Int)} {p : ARow × (Int × Int × Int)} :
    p ∈ negRows a l ↔ p ∈ zip a l ∧ p.1.onsetBeat < 0 := by
  simp only [negRows, mem_filter, decide_eq_true_eq]

theorem anacrusis_zero_of_nonneg (ht : Bool) (a' : List ARow) (l : List (Int × Int × Int)) (d : Nat)
    (h : ∀ r ∈ a', 0 ≤ r.onsetBeat) : anacrusisDivs ht a' l d = 0 := by
  have hn : negRows a' l = [] :=
    eq_nil_iff_forall_not_mem.mpr fun p hp =>
      absurd (mem_negRows.mp hp).2 (not_lt.mpr (h p.1 (of_mem_zip (mem_negRows.mp hp).1).1))
  unfold anacrusisDivs
  rw [hn]
  rfl

theorem fromArrayBack_ok (hb hd ht : Bool) (a : List ARow) (dv : Option Nat) (ts : Option (Nat × Nat))
    (san : Bool) (b : Back) (h : fromArrayBack hb hd ht a dv ts san = .ok b) :
    ∃ l, fromArray hb hd ht a dv = .ok (b.divs, l) ∧
      b.anacrusis = (if hb then anacrusisDivs ht (sortArr hd a) l b.divs else 0) ∧
      b.m1 = firstMeasureEnd ts san b.anacrusis (partEnd l) b.divs ∧
      b.pick = pickupDivs ts b.m1 b.divs ∧
      b.notes = l.map fun x => (x, backTime ts b.pick b.divs x.1) := by
  unfold fromArrayBack at h
  split at h
  · cases h
  · rename_i d l heq
    cases h
    exact ⟨l, heq, rfl, rfl, rfl, rfl⟩

/-- beats per quarter of the created part: 1 without a time signature -/
def beatFactor : Option (Nat × Nat) → Rat
  | none => 1
  | some s => (s.2 : Rat) / 4

theorem backTime_fst (ts : Option (Nat × Nat)) (pick : Int) (d : Nat) (t : Int) :
    (backTime ts pick d t).1 = ((t - pick : Int) : Rat) / (d : Rat) := by
  cases ts <;> rfl

theorem backTime_snd (ts : Option (Nat × Nat)) (pick : Int) (d : Nat) (t : Int) :
    (backTime ts pick d t).2 = (backTime ts pick d t).1 * beatFactor ts := by
  cases ts with
  | none => exact (mul_one _).symm
  | some s => rfl

theorem back_beat_core (ht : Bool) (a : List ARow) (ts : Option (Nat × Nat)) (san : Bool) (b : Back)
    (h : fromArrayBack true false ht a none ts san = .ok b)
    (hgrid : ∀ r ∈ a, r.onsetBeat.den ≤ 256) :
    ∃ l, 0 < b.divs ∧ b.divs = beatDivs (beatRows a) ∧
      Forall₂ (fun (r : ARow) (x : Int × Int × Int) =>
        (x.1 : Rat) = (b.divs : Rat) * r.onsetBeat + (beatShift (beatRows a) : Rat) ∧ x.2.2 = r.pitch)
        (sortArr false a) l ∧
      b.anacrusis = anacrusisDivs ht (sortArr false a) l b.divs ∧
      b.m1 = firstMeasureEnd ts san b.anacrusis (partEnd l) b.divs ∧
      b.pick = pickupDivs ts b.m1 b.divs ∧
      b.notes = l.map fun x => (x, backTime ts b.pick b.divs x.1) := by
  obtain ⟨l, hfa, hana, hm1, hpick, hnotes⟩ := fromArrayBack_ok true false ht a none ts san b h
  obtain ⟨hd, hf⟩ := fromArray_beat_shift ht a b.divs l hfa
  refine ⟨l, by rw [hd]; exact beatDivs_pos _, hd, ?_, by simpa using hana, hm1, hpick, hnotes⟩
  refine Lists.forall₂_imp_mem hf ?_
  intro r hr x hab
  have hr' := mem_sortArr.mp hr
  rw [limitDen_of_den_le _ _ (hgrid r hr')] at hab
  exact ⟨hab.1, hab.2.2⟩

/-- beat-only array on the 1/256 grid: the quarter onset that comes back is the beat that went in, moved by the
    shift of `create_divs_from_beats` less the pickup of the created part; the beat onset is that times
    `beatFactor` -/
theorem back_beat_onsets (ht : Bool) (a : List ARow) (ts : Option (Nat × Nat)) (san : Bool) (b : Back)
    (h : fromArrayBack true false ht a none ts san = .ok b)
    (hgrid : ∀ r ∈ a, r.onsetBeat.den ≤ 256) :
    Forall₂ (fun (r : ARow) (n : (Int × Int × Int) × (Rat × Rat)) =>
        n.2.1 = r.onsetBeat + ((beatShift (beatRows a) : Rat) - (b.pick : Rat)) / (b.divs : Rat) ∧
        n.2.2 = n.2.1 * beatFactor ts ∧ n.1.2.2 = r.pitch)
      (sortArr false a) b.notes := by
  obtain ⟨l, hdpos, _, hf, _, _, _, hnotes⟩ := back_beat_core ht a ts san b h hgrid
  have hdq : (b.divs : Rat) ≠ 0 := Nat.cast_ne_zero.2 hdpos.ne'
  rw [hnotes, forall₂_map_right_iff]
  refine hf.imp fun r x hab => ⟨?_, backTime_snd .., hab.2⟩
  rw [backTime_fst, Int.cast_sub, hab.1]
  field_simp
  ring

/-- an array whose division and beat columns agree (`onset_div = divisions × quarters + neg`: beat 0
    is `neg` divisions after time 0) and that has a negative beat: the pickup measure ends at `neg`.
    `bt` is the beat type (4 unless the array has time signature columns, then their common value). -/
theorem anacrusis_consistent (ht : Bool) (a' : List ARow) (l : List (Int × Int × Int)) (d : Nat)
    (bt neg : Int) (hbt : 0 < bt)
    (hf : Forall₂ (fun (r : ARow) (x : Int × Int × Int) =>
      (x.1 : Rat) = (d : Rat) * (r.onsetBeat * (4 / (bt : Rat))) + (neg : Rat)) a' l)
    (hcol : if ht then ∀ r ∈ a', r.tsBeatType = bt else bt = 4)
    (hneg : ∃ r ∈ a', r.onsetBeat < 0) :
    anacrusisDivs ht a' l d = neg := by
  have hdq : (0 : Rat) ≤ (d : Rat) := Nat.cast_nonneg d
  have hbq : (0 : Rat) ≤ 4 / (bt : Rat) := div_nonneg (by norm_num) (by exact_mod_cast hbt.le)
  obtain ⟨r0, hr0, hr0neg⟩ := hneg
  obtain ⟨x0, hx0, _⟩ := Lists.forall₂_zip_left hf r0 hr0
  have hne : negRows a' l ≠ [] := ne_nil_of_mem (mem_negRows.mpr ⟨hx0, hr0neg⟩)
  have hrel : ∀ p ∈ negRows a' l, (p.2.1 : Rat) = (d : Rat) * (p.1.onsetBeat * (4 / (bt : Rat))) + (neg : Rat) :=
    fun p hp => forall₂_zip hf (mem_negRows.mp hp).1
  unfold anacrusisDivs
  cases hb : maxRatList ((negRows a' l).map (·.1.onsetBeat)) with
  | none => exact absurd (map_eq_nil_iff.mp (maxRatList_none hb)) hne
  | some b =>
    cases ho : maxList ((negRows a' l).map (·.2.1)) with
    | none => exact absurd (map_eq_nil_iff.mp (maxList_none ho)) hne
    | some od =>
      obtain ⟨hbm, hbub⟩ := maxRatList_spec _ _ hb
      obtain ⟨hom, houb⟩ := maxList_spec _ _ ho
      obtain ⟨pk, hpk, hpkb⟩ := mem_map.mp hbm
      obtain ⟨pj, hpj, hpjo⟩ := mem_map.mp hom
      -- the division onset grows with the beat onset, so the last division onset is that of the last beat
      have hod : (od : Rat) = (d : Rat) * (b * (4 / (bt : Rat))) + (neg : Rat) := by
        apply le_antisymm
        · rw [← hpjo, hrel pj hpj]
          have h2 : pj.1.onsetBeat ≤ b :=
            hbub _ (mem_map_of_mem (f := fun p : ARow × (Int × Int × Int) => p.1.onsetBeat) hpj)
          exact add_le_add_left (mul_le_mul_of_nonneg_left (mul_le_mul_of_nonneg_right h2 hbq) hdq) _
        · rw [← hpkb, ← hrel pk hpk]
          exact_mod_cast houb _ (mem_map_of_mem (f := fun p : ARow × (Int × Int × Int) => p.2.1) hpk)
      have key : ∀ bt' : Rat, bt' = (bt : Rat) →
          roundHalfEven ((od : Rat) + (0 - b) * (d : Rat) * (4 / bt')) = neg := by
        rintro _ rfl
        rw [show (od : Rat) + (0 - b) * (d : Rat) * (4 / (bt : Rat)) = ((neg : Int) : Rat) by rw [hod]; ring]
        exact Round.roundHalfEven_int neg
      -- the beat type the code reads: 4, or the largest of the time-signature columns on the negative rows
      cases ht with
      | false => exact key _ (by rw [show bt = 4 from hcol]; norm_num)
      | true =>
        have hmx : maxList ((negRows a' l).map (·.1.tsBeatType)) = some bt :=
          maxList_const _ _ (by simpa using hne) fun x hx => by
            obtain ⟨p, hp, rfl⟩ := mem_map.mp hx
            exact hcol p.1 (of_mem_zip (mem_negRows.mp hp).1).1
        simp only [↓reduceIte, hmx]
        exact key _ rfl

/-- the notes of the new part lie on the grid `onset_div = divisions × quarters + neg` (`quarters = beat × 4 / bt`),
    `neg > 0`, and some beat is negative: the pickup measure is `[0, neg)`; when it is shorter than a bar, quarter 0 is at
    `neg` and every note gets its quarters and beats back.  `P` is whatever else is known of the pairs. -/
theorem back_grid {P : ARow → Int × Int × Int → Prop} (hd ht : Bool) (a : List ARow) (s : Nat × Nat) (san : Bool)
    (b : Back) (bt neg : Int) (l : List (Int × Int × Int))
    (hana : b.anacrusis = anacrusisDivs ht (sortArr hd a) l b.divs)
    (hm1 : b.m1 = firstMeasureEnd (some s) san b.anacrusis (partEnd l) b.divs)
    (hpick : b.pick = pickupDivs (some s) b.m1 b.divs)
    (hnotes : b.notes = l.map fun x => (x, backTime (some s) b.pick b.divs x.1))
    (hdpos : 0 < b.divs) (hbt : 0 < bt) (hnegpos : 0 < neg)
    (hf : Forall₂ (fun r x =>
      P r x ∧ (x.1 : Rat) = (b.divs : Rat) * (r.onsetBeat * (4 / (bt : Rat))) + (neg : Rat)) (sortArr hd a) l)
    (hcol : if ht then ∀ r ∈ a, r.tsBeatType = bt else bt = 4)
    (hneg : ∃ r ∈ a, r.onsetBeat < 0) :
    b.anacrusis = neg ∧ b.m1 = some neg ∧
    ((neg : Rat) < barDivs s b.divs →
      Forall₂ (fun r n => P r n.1 ∧ n.2.1 = r.onsetBeat * (4 / (bt : Rat)) ∧ n.2.2 = n.2.1 * ((s.2 : Rat) / 4))
        (sortArr hd a) b.notes) := by
  obtain ⟨r0, hr0, hr0n⟩ := hneg
  have hcol' : if ht then ∀ r ∈ sortArr hd a, r.tsBeatType = bt else bt = 4 := by
    cases ht with
    | false => exact hcol
    | true => exact fun r hr => hcol r (mem_sortArr.mp hr)
  have ha : b.anacrusis = neg := by
    rw [hana]
    exact anacrusis_consistent ht _ l b.divs bt neg hbt (hf.imp fun _ _ hab => hab.2) hcol'
      ⟨r0, mem_sortArr.mpr hr0, hr0n⟩
  have hm1' : b.m1 = some neg := by rw [hm1, ha, firstMeasureEnd, if_pos hnegpos]
  refine ⟨ha, hm1', fun hshort => ?_⟩
  have hp : b.pick = neg := by rw [hpick, hm1', pickupDivs, if_pos hshort]
  have hdq : (b.divs : Rat) ≠ 0 := Nat.cast_ne_zero.2 hdpos.ne'
  rw [hnotes, forall₂_map_right_iff]
  refine hf.imp fun r x hab => ⟨hab.1, ?_, backTime_snd ..⟩
  rw [backTime_fst, hp, Int.cast_sub, hab.2]
  field_simp
  ring

/-- beat-only array on the 1/256 grid with a negative onset: it lies on the grid of `back_grid` with beat type 4 and
    `neg` = the shift of `create_divs_from_beats`, which is positive -/
theorem beat_only_on_grid (a : List ARow) (s : Nat × Nat) (san : Bool) (b : Back)
    (h : fromArrayBack true false false a none (some s) san = .ok b)
    (hgrid : ∀ r ∈ a, r.onsetBeat.den ≤ 256) (hneg : ∃ r ∈ a, r.onsetBeat < 0) :
    ∃ y ∈ a, y.onsetBeat < 0 ∧ (∀ r ∈ a, y.onsetBeat ≤ r.onsetBeat) ∧
      (beatShift (beatRows a) : Rat) = (b.divs : Rat) * (0 - y.onsetBeat) ∧
      b.anacrusis = beatShift (beatRows a) ∧ b.m1 = some (beatShift (beatRows a)) ∧
      ((beatShift (beatRows a) : Rat) < barDivs s b.divs →
        Forall₂ (fun r n => n.1.2.2 = r.pitch ∧ n.2.1 = r.onsetBeat * (4 / ((4 : Int) : Rat)) ∧
          n.2.2 = n.2.1 * ((s.2 : Rat) / 4)) (sortArr false a) b.notes) := by
  obtain ⟨l, hdpos, hd, hf, hana, hm1, hpick, hnotes⟩ := back_beat_core false a (some s) san b h hgrid
  obtain ⟨y, hy, hyneg, hyle, hsh⟩ := beatShift_of_neg_grid a hgrid hneg
  have hq : (beatShift (beatRows a) : Rat) = (b.divs : Rat) * (0 - y.onsetBeat) := by rw [hsh, ← hd]; ring
  have hpos : 0 < beatShift (beatRows a) := by
    have : (0 : Rat) < (beatShift (beatRows a) : Rat) := hq ▸ mul_pos (Nat.cast_pos.2 hdpos) (sub_pos.2 hyneg)
    exact_mod_cast this
  obtain ⟨ha, hm1', hback⟩ := back_grid (P := fun r x => x.2.2 = r.pitch) false false a s san b 4 _ l
    hana hm1 hpick hnotes hdpos (by decide) hpos (hf.imp fun r x hab => ⟨hab.2, by rw [hab.1]; norm_num⟩) rfl hneg
  exact ⟨y, hy, hyneg, hyle, hq, ha, hm1', hback⟩

end NoteArray
