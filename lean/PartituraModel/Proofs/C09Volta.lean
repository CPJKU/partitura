/-
C09: one repeated section whose k brackets carry any assignment of the numbers 1..N (one or several
numbers per bracket, consecutive or interleaved like "1,3" / "2,4") — the enumeration on the segment table of that
shape, for every k and N.  One number per bracket (`voltaGraph`) is the assignment `List.range k`.
-/
import PartituraModel.Proofs.C09Shape
import PartituraModel.Model.UnfoldFam

namespace C09
open Model.Unfold

def vNext (pre : Bool) (k : Nat) (post : Bool) : Dest :=
  if post then .seg (vBody pre + k + 1) else .fin

def bracketDest (c : Nat) (t : Nat) : Dest := .seg (c + 1 + t)

/-- destinations of segment `i` in a volta group with k brackets -/
def vTo (pre : Bool) (k : Nat) (post : Bool) (i : Nat) : List Dest :=
  if i < vBody pre then [.seg (vBody pre)]
  else if i = vBody pre then (List.range k).map (bracketDest (vBody pre))
  else if i ≤ vBody pre + k then [if i - vBody pre < k then .seg (vBody pre) else vNext pre k post]
  else [.fin]

/-- the segment table `add_segments` builds for a repeat with endings 1..k: the section offers the brackets in
order, every bracket but the last jumps back, the last goes on -/
def voltaGraph (pre : Bool) (k : Nat) (post : Bool) (tys : Nat → SegType) (tms : Nat → Int × Int) : List Seg :=
  (List.range (vLen pre k post)).map fun i =>
    { start := (tms i).1, stp := (tms i).2, to := vTo pre k post i, await := [], ty := tys i }

def vPasses (c : Nat) : Nat → Nat → List Nat
  | _, 0 => []
  | j, m + 1 => c :: (c + 1 + j) :: vPasses c (j + 1) m

def voltaMaxPath (pre : Bool) (k : Nat) (post : Bool) : List Nat :=
  (if pre then [0] else []) ++ vPasses (vBody pre) 0 k ++ (if post then [vBody pre + k + 1] else [])

def voltaMinPath (pre : Bool) (k : Nat) (post : Bool) : List Nat :=
  (if pre then [0] else []) ++ [vBody pre, vBody pre + k] ++ (if post then [vBody pre + k + 1] else [])

/-- how often bracket `j` sends back to the section: once per number it carries, except for the last
number of all -/
def mBack (asg : List Nat) (j : Nat) : Nat := asg.dropLast.count j

/-- destinations of segment `i`: `asg[n]` is the bracket that carries number `n + 1` -/
def mTo (pre : Bool) (k : Nat) (post : Bool) (asg : List Nat) (i : Nat) : List Dest :=
  if i < vBody pre then [.seg (vBody pre)]
  else if i = vBody pre then asg.map (bracketDest (vBody pre))
  else if i ≤ vBody pre + k then
    List.replicate (mBack asg (i - vBody pre - 1)) (.seg (vBody pre)) ++
      (if asg.getLast? = some (i - vBody pre - 1) then [vNext pre k post] else [])
  else [.fin]

def mvGraph (pre : Bool) (k : Nat) (post : Bool) (asg : List Nat) (tys : Nat → SegType) (tms : Nat → Int × Int) :
    List Seg :=
  (List.range (vLen pre k post)).map fun i =>
    { start := (tms i).1, stp := (tms i).2, to := mTo pre k post asg i, await := [], ty := tys i }

def mvPasses (c : Nat) (asg : List Nat) : List Nat := asg.flatMap fun j => [c, c + 1 + j]

def mvMaxPath (pre : Bool) (k : Nat) (post : Bool) (asg : List Nat) : List Nat :=
  (if pre then [0] else []) ++ mvPasses (vBody pre) asg ++ (if post then [vBody pre + k + 1] else [])

def mvMinPath (pre : Bool) (k : Nat) (post : Bool) (last : Nat) : List Nat :=
  (if pre then [0] else []) ++ [vBody pre, vBody pre + 1 + last] ++ (if post then [vBody pre + k + 1] else [])

theorem mvGraph_get (pre : Bool) (k : Nat) (post : Bool) (asg : List Nat) (tys : Nat → SegType)
    (tms : Nat → Int × Int) (i : Nat) (h : i < vLen pre k post) :
    (mvGraph pre k post asg tys tms)[i]? =
      some { start := (tms i).1, stp := (tms i).2, to := mTo pre k post asg i, await := [], ty := tys i } := by
  unfold mvGraph
  rw [List.getElem?_map, List.getElem?_range h]
  rfl

theorem mTo_body (pre : Bool) (k : Nat) (post : Bool) (asg : List Nat) :
    mTo pre k post asg (vBody pre) = asg.map (bracketDest (vBody pre)) := by
  unfold mTo; simp

theorem mTo_bracket (pre : Bool) (k : Nat) (post : Bool) (asg : List Nat) (j : Nat) (hj : j < k) :
    mTo pre k post asg (vBody pre + 1 + j) =
      List.replicate (mBack asg j) (.seg (vBody pre)) ++ (if asg.getLast? = some j then [vNext pre k post] else []) := by
  unfold mTo
  have h1 : ¬ (vBody pre + 1 + j < vBody pre) := by omega
  have h2 : ¬ (vBody pre + 1 + j = vBody pre) := by omega
  have h3 : vBody pre + 1 + j ≤ vBody pre + k := by omega
  have h4 : vBody pre + 1 + j - vBody pre - 1 = j := by omega
  simp only [h1, h2, h3, h4, if_false, if_true]

theorem mTo_post (pre : Bool) (k : Nat) (post : Bool) (asg : List Nat) :
    mTo pre k post asg (vBody pre + k + 1) = [.fin] := by
  unfold mTo
  have h1 : ¬ (vBody pre + k + 1 < vBody pre) := by omega
  have h2 : ¬ (vBody pre + k + 1 = vBody pre) := by omega
  have h3 : ¬ (vBody pre + k + 1 ≤ vBody pre + k) := by omega
  simp only [h1, h2, h3, if_false]

/-- the end of the path after the last bracket -/
def vTail (pre : Bool) (k : Nat) (post : Bool) : List Nat := if post then [vBody pre + k + 1] else []

section mvolta
variable (pre : Bool) (k : Nat) (post : Bool) (asg : List Nat) (tys : Nat → SegType) (tms : Nat → Int × Int) (il : Bool)

theorem mv_out (hty : ∀ i, tys i ≠ SegType.leapStart) (j : Nat) (hj : j < k)
    (f : Nat) (st : PState) (hsegs : st.segs = mvGraph pre k post asg tys tms)
    (hcur : st.cur = vBody pre + 1 + j) (hd : st.dests = some [vNext pre k post])
    (hfresh : post = true → st.used (vBody pre + k + 1) = []) :
    unfoldFrom il (f + 2) st = some [st.path ++ vTail pre k post] := by
  have hlt : vBody pre + 1 + j < vLen pre k post := by unfold vLen; omega
  have hsp := mvGraph_get pre k post asg tys tms (vBody pre + 1 + j) hlt
  rw [← hsegs, ← hcur] at hsp
  cases hpost : post with
  | false =>
    have hd' : st.dests = some [.fin] := by rw [hd]; simp [vNext, hpost]
    have := unfold_step_fin il (f + 1) st hd'
    rw [this]
    simp [vTail]
  | true =>
    have hlt2 : vBody pre + k + 1 < vLen pre k post := by unfold vLen; simp [hpost]
    have hsj := mvGraph_get pre k post asg tys tms (vBody pre + k + 1) hlt2
    rw [← hsegs] at hsj
    have hjmp := jump_plain il st (vBody pre + k + 1) _ _ hsj hsp (hty _)
    have hd' : st.dests = some [.seg (vBody pre + k + 1)] := by rw [hd]; simp [vNext, hpost]
    rw [unfold_step_seg il (f + 1) st _ _ hd' hjmp]
    have hs' : (afterJump st (vBody pre + k + 1)).segs[(afterJump st (vBody pre + k + 1)).cur]? = _ := hsj
    have hd2 : (afterJump st (vBody pre + k + 1)).dests = some [.fin] := by
      rw [dests_fresh _ _ hs' ((afterJump_used_ne st _ (vBody pre + k + 1) (by omega)).trans (hfresh hpost))]
      simp only [mTo_post]
      cases (afterJump st (vBody pre + k + 1)).noRepeats <;> cases (afterJump st (vBody pre + k + 1)).allRepeats <;> simp
    rw [unfold_step_fin il f _ hd2]
    simp [path_eq, afterJump, vTail]

/-- maximal unfolding from the section when the numbers `done` have been played and `rest` are to come -/
theorem mv_max_from (hty : ∀ i, tys i ≠ SegType.leapStart) (hasg : ∀ x ∈ asg, x < k) :
    ∀ (rest done : List Nat), asg = done ++ rest → rest ≠ [] → ∀ (fuel : Nat), 2 * rest.length + 2 ≤ fuel →
      ∀ (st : PState), st.segs = mvGraph pre k post asg tys tms → st.cur = vBody pre →
      st.used (vBody pre) = done.map (bracketDest (vBody pre)) →
      (∀ j, j < k → st.used (vBody pre + 1 + j) = List.replicate (done.count j) (.seg (vBody pre))) →
      (post = true → st.used (vBody pre + k + 1) = []) →
      st.noRepeats = false → st.allRepeats = true →
      unfoldFrom il fuel st = some [st.prev.reverse ++ mvPasses (vBody pre) rest ++ vTail pre k post] := by
  intro rest
  induction rest with
  | nil => intro _ _ h; exact absurd rfl h
  | cons b rest ih =>
    intro done hsplit _ fuel hfuel st hsegs hcur hub hbr hpostfresh hnr har
    have hjk : b < k := hasg b (by rw [hsplit]; simp)
    have hltb : vBody pre < vLen pre k post := by unfold vLen; omega
    have hltj : vBody pre + 1 + b < vLen pre k post := by unfold vLen; omega
    have hsb := mvGraph_get pre k post asg tys tms (vBody pre) hltb
    have hsj := mvGraph_get pre k post asg tys tms (vBody pre + 1 + b) hltj
    rw [← hsegs] at hsb hsj
    have hsb' := hsb
    rw [← hcur] at hsb'
    -- at the section: the bracket of the next number
    have hd : st.dests = some [Dest.seg (vBody pre + 1 + b)] :=
      dests_next st _ (done.map (bracketDest (vBody pre))) _ (rest.map (bracketDest (vBody pre))) hsb'
        (by simp only [hcur, mTo_body, hsplit, List.map_append, List.map_cons]; rfl) (by rw [hcur]; exact hub) hnr har
    have hjmp := jump_plain il st (vBody pre + 1 + b) _ _ hsj hsb' (hty _)
    obtain ⟨f, rfl⟩ : ∃ f, fuel = f + 1 := ⟨fuel - 1, by omega⟩
    rw [unfold_step_seg il f st _ _ hd hjmp]
    let st1 := afterJump st (vBody pre + 1 + b)
    have hs1 : st1.segs[st1.cur]? = _ := hsj
    have hne1 : vBody pre + 1 + b ≠ st.cur := by omega
    have hu1 : st1.used st1.cur = List.replicate (done.count b) (.seg (vBody pre)) := by
      rw [show st1.cur = vBody pre + 1 + b from rfl, afterJump_used_ne st _ _ hne1]; exact hbr b hjk
    have hpath1 : st1.path = st.prev.reverse ++ [vBody pre, vBody pre + 1 + b] := by
      simp [path_eq, st1, afterJump, hcur]
    have hpost1 : post = true → st1.used (vBody pre + k + 1) = [] := fun hp => by
      rw [afterJump_used_ne st _ _ (by omega)]; exact hpostfresh hp
    by_cases hrest : rest = []
    · -- the last number: on to the rest of the part
      subst hrest
      have hgl : asg.getLast? = some b := by rw [hsplit]; simp
      have hmb : mBack asg b = done.count b := by
        unfold mBack; rw [hsplit, List.dropLast_concat]
      have hd1 : st1.dests = some [vNext pre k post] :=
        dests_next st1 _ _ _ [] hs1
          (by simp only [mTo_bracket pre k post asg _ hjk, hgl, if_true, hmb]) hu1 hnr har
      obtain ⟨f', rfl⟩ : ∃ f', f = f' + 2 := ⟨f - 2, by simp at hfuel; omega⟩
      rw [mv_out pre k post asg tys tms il hty b hjk f' st1 hsegs rfl hd1 hpost1, hpath1]
      simp only [mvPasses, List.flatMap_cons, List.flatMap_nil, List.append_assoc, List.cons_append,
        List.nil_append, List.append_nil]
    · -- another number follows: back to the section
      have hmb : mBack asg b = done.count b + 1 + rest.dropLast.count b := by
        unfold mBack
        rw [hsplit, List.dropLast_append_cons, List.dropLast_cons_of_ne_nil hrest, List.count_append,
          List.count_cons_self]
        omega
      have hd1 : st1.dests = some [.seg (vBody pre)] :=
        dests_next st1 _ _ _ (List.replicate (rest.dropLast.count b) (.seg (vBody pre)) ++
            (if asg.getLast? = some b then [vNext pre k post] else [])) hs1
          (by rw [mTo_bracket pre k post asg _ hjk, hmb, ← List.replicate_append_replicate, List.replicate_succ',
                List.append_assoc, List.append_assoc]; rfl) hu1 hnr har
      have hsb1 := mvGraph_get pre k post asg tys tms (vBody pre) hltb
      rw [← hsegs] at hsb1
      have hjmp2 := jump_plain il st1 (vBody pre) _ _ hsb1 hs1 (hty _)
      obtain ⟨f', rfl⟩ : ∃ f', f = f' + 1 := ⟨f - 1, by simp at hfuel; omega⟩
      rw [unfold_step_seg il f' st1 _ _ hd1 hjmp2]
      have hc1 : st1.cur = vBody pre + 1 + b := rfl
      have hrec := ih (done ++ [b]) (by rw [hsplit, List.append_assoc]; rfl) hrest f' (by simp at hfuel; omega)
        (afterJump st1 (vBody pre)) hsegs rfl
        (by
          rw [afterJump_used_ne st1 _ _ (by omega), ← hcur, afterJump_used_cur, hcur, hub, List.map_append]
          rfl)
        (by
          intro j hj
          by_cases hje : j = b
          · subst hje
            rw [← hc1, afterJump_used_cur, hu1, List.count_append, List.count_singleton_self, List.replicate_succ']
          · rw [afterJump_used_ne st1 _ _ (by omega), afterJump_used_ne st _ _ (by omega), hbr j hj,
              List.count_append, List.count_singleton, if_neg (by simpa using fun h => hje h.symm), Nat.add_zero])
        (fun hp => by rw [afterJump_used_ne st1 _ _ (by omega)]; exact hpost1 hp)
        hnr har
      rw [hrec]
      have : (afterJump st1 (vBody pre)).prev.reverse = st1.path := by simp [path_eq, afterJump]
      rw [this, hpath1]
      simp only [mvPasses, List.flatMap_cons, List.append_assoc, List.cons_append, List.nil_append]

theorem mv_min_from (hty : ∀ i, tys i ≠ SegType.leapStart) (last : Nat) (hlast : asg.getLast? = some last)
    (hlk : last < k)
    (f : Nat) (st : PState) (hsegs : st.segs = mvGraph pre k post asg tys tms) (hcur : st.cur = vBody pre)
    (hub : st.used (vBody pre) = []) (hfresh : st.used (vBody pre + 1 + last) = [])
    (hpostfresh : post = true → st.used (vBody pre + k + 1) = []) (hnr : st.noRepeats = true) :
    unfoldFrom il (f + 3) st = some [st.prev.reverse ++ [vBody pre, vBody pre + 1 + last] ++ vTail pre k post] := by
  have hltb : vBody pre < vLen pre k post := by unfold vLen; omega
  have hsb := mvGraph_get pre k post asg tys tms (vBody pre) hltb
  rw [← hsegs, ← hcur] at hsb
  have hd : st.dests = some [Dest.seg (vBody pre + 1 + last)] := by
    rw [dests_fresh st _ hsb (by rw [hcur]; exact hub)]
    simp only [hnr, if_true, hcur, mTo_body, List.getLast?_map, hlast, Option.map_some, bracketDest]
  have hltj : vBody pre + 1 + last < vLen pre k post := by unfold vLen; omega
  have hsj := mvGraph_get pre k post asg tys tms (vBody pre + 1 + last) hltj
  rw [← hsegs] at hsj
  have hjmp := jump_plain il st (vBody pre + 1 + last) _ _ hsj hsb (hty _)
  rw [unfold_step_seg il (f + 2) st _ _ hd hjmp]
  have hs1 : (afterJump st (vBody pre + 1 + last)).segs[(afterJump st (vBody pre + 1 + last)).cur]? = _ := hsj
  have hu1 : (afterJump st (vBody pre + 1 + last)).used (afterJump st (vBody pre + 1 + last)).cur = [] :=
    (afterJump_used_ne st _ (vBody pre + 1 + last) (by omega)).trans hfresh
  have hd1 : (afterJump st (vBody pre + 1 + last)).dests = some [vNext pre k post] := by
    rw [dests_fresh _ _ hs1 hu1]
    have e1 : (afterJump st (vBody pre + 1 + last)).noRepeats = true := hnr
    simp only [e1, if_true, mTo_bracket pre k post asg _ hlk, hlast]
    simp
  have := mv_out pre k post asg tys tms il hty last hlk f (afterJump st (vBody pre + 1 + last)) hsegs rfl hd1
    (fun hp => (afterJump_used_ne st _ _ (by omega)).trans (hpostfresh hp))
  rw [this]
  simp [path_eq, afterJump, hcur]

theorem mv_lead (hty : ∀ i, tys i ≠ SegType.leapStart) (nr ar : Bool) (f : Nat) :
    ∃ st : PState, getPaths (mvGraph pre k post asg tys tms) nr ar il (f + vBody pre) = unfoldFrom il f st ∧
      st.segs = mvGraph pre k post asg tys tms ∧ st.cur = vBody pre ∧ (∀ x, vBody pre ≤ x → st.used x = []) ∧
      st.prev.reverse = (if pre then [0] else []) ∧ st.noRepeats = nr ∧ st.allRepeats = ar := by
  cases pre with
  | false => exact ⟨initState _ nr ar, rfl, rfl, rfl, fun _ _ => rfl, rfl, rfl, rfl⟩
  | true =>
    have hs0 := mvGraph_get true k post asg tys tms 0 (by unfold vLen; omega)
    have hs1 := mvGraph_get true k post asg tys tms 1 (by unfold vLen vBody; simp; omega)
    have hd : (initState (mvGraph true k post asg tys tms) nr ar).dests = some [Dest.seg 1] := by
      rw [dests_fresh _ _ hs0 rfl]
      have hto0 : mTo true k post asg 0 = [Dest.seg 1] := by unfold mTo vBody; simp
      simp only [hto0]
      cases nr <;> cases ar <;> simp [initState]
    have hj := jump_plain il (initState (mvGraph true k post asg tys tms) nr ar) 1 _ _ hs1 hs0 (hty _)
    refine ⟨afterJump (initState (mvGraph true k post asg tys tms) nr ar) 1, unfold_step_seg il f _ _ _ hd hj,
      rfl, rfl, fun x hx => ?_, rfl, rfl, rfl⟩
    exact afterJump_used_ne _ _ _ (by simp only [vBody, if_true] at hx; show x ≠ 0; omega)

theorem mv_paths_aux (hty : ∀ i, tys i ≠ SegType.leapStart) (hasg : ∀ x ∈ asg, x < k)
    (last : Nat) (hlast : asg.getLast? = some last) (fuel : Nat) (hf : 2 * asg.length + 4 ≤ fuel) :
    getPaths (mvGraph pre k post asg tys tms) false true il fuel = some [mvMaxPath pre k post asg] ∧
    getPaths (mvGraph pre k post asg tys tms) true false il fuel = some [mvMinPath pre k post last] := by
  have hlk : last < k := hasg last (List.mem_of_getLast? hlast)
  have hne : asg ≠ [] := by intro h; rw [h] at hlast; cases hlast
  have hb : vBody pre ≤ 1 := by unfold vBody; split <;> omega
  obtain ⟨f, rfl⟩ : ∃ f, fuel = f + 3 + vBody pre := ⟨fuel - 3 - vBody pre, by omega⟩
  constructor
  · obtain ⟨st, hst, hsegs, hcur, hused, hprev, hnr, har⟩ := mv_lead pre k post asg tys tms il hty false true (f + 3)
    rw [hst, mv_max_from pre k post asg tys tms il hty hasg asg [] rfl hne (f + 3)
      (by omega) st hsegs hcur (hused _ (Nat.le_refl _))
      (fun j _ => hused _ (by omega)) (fun _ => hused _ (by omega)) hnr har, hprev]
    rfl
  · obtain ⟨st, hst, hsegs, hcur, hused, hprev, hnr, _⟩ := mv_lead pre k post asg tys tms il hty true false (f + 3)
    rw [hst, mv_min_from pre k post asg tys tms il hty last hlast hlk f st hsegs hcur (hused _ (Nat.le_refl _))
      (hused _ (by omega)) (fun _ => hused _ (by omega)) hnr, hprev]
    rfl

end mvolta

theorem mvPasses_get (c : Nat) : ∀ (asg : List Nat) (n j : Nat), asg[n]? = some j →
    (mvPasses c asg)[2 * n]? = some c ∧ (mvPasses c asg)[2 * n + 1]? = some (c + 1 + j) := by
  intro asg
  induction asg with
  | nil => intro n j h; simp at h
  | cons a as ih =>
    intro n j h
    cases n with
    | zero =>
      simp only [List.getElem?_cons_zero, Option.some.injEq] at h
      subst h
      simp [mvPasses]
    | succ n =>
      simp only [List.getElem?_cons_succ] at h
      obtain ⟨h1, h2⟩ := ih n j h
      have e1 : 2 * (n + 1) = (2 * n) + 1 + 1 := by omega
      rw [e1]
      simp only [mvPasses, List.flatMap_cons, List.cons_append, List.nil_append, List.getElem?_cons_succ] at h1 h2 ⊢
      exact ⟨h1, h2⟩

theorem getLast?_range_pos (k : Nat) (hk : 1 ≤ k) : (List.range k).getLast? = some (k - 1) := by
  rw [List.getLast?_range, if_neg (by omega)]

theorem mvGraph_range (pre : Bool) (k : Nat) (post : Bool) (tys : Nat → SegType) (tms : Nat → Int × Int) (hk : 1 ≤ k) :
    mvGraph pre k post (List.range k) tys tms = voltaGraph pre k post tys tms := by
  unfold mvGraph voltaGraph
  apply List.map_congr_left
  intro i hi
  have hto : mTo pre k post (List.range k) i = vTo pre k post i := by
    unfold mTo vTo
    by_cases h1 : i < vBody pre
    · simp [h1]
    · by_cases h2 : i = vBody pre
      · simp [h2]
      · by_cases h3 : i ≤ vBody pre + k
        · simp only [h1, h2, h3, if_false, if_true]
          have hgl := getLast?_range_pos k hk
          have hdl : (List.range k).dropLast = List.range (k - 1) := by
            obtain ⟨k', rfl⟩ : ∃ k', k = k' + 1 := ⟨k - 1, by omega⟩
            simp [List.range_succ]
          by_cases h4 : i - vBody pre < k
          · have hc : (List.range (k - 1)).count (i - vBody pre - 1) = 1 := by
              rw [List.count_range, if_pos (by omega)]
            have hne : ¬ (k - 1 = i - vBody pre - 1) := by omega
            simp [mBack, hdl, hc, hgl, h4, hne]
          · have he : k - 1 = i - vBody pre - 1 := by omega
            simp [mBack, hdl, hgl, h4, he]
        · simp [h1, h2, h3]
  rw [hto]

theorem mvPasses_range' (c : Nat) : ∀ (m j : Nat), mvPasses c (List.range' j m) = vPasses c j m := by
  intro m
  induction m with
  | zero => intro j; rfl
  | succ m ih =>
    intro j
    have := ih (j + 1)
    simp only [mvPasses] at this
    simp only [mvPasses, List.range'_succ, List.flatMap_cons, vPasses, this, List.cons_append, List.nil_append]

theorem mvPasses_range (c k : Nat) : mvPasses c (List.range k) = vPasses c 0 k := by
  rw [List.range_eq_range', mvPasses_range']

theorem mvMaxPath_range (pre : Bool) (k : Nat) (post : Bool) :
    mvMaxPath pre k post (List.range k) = voltaMaxPath pre k post := by
  unfold mvMaxPath voltaMaxPath; rw [mvPasses_range]

theorem mvMinPath_range (pre : Bool) (k : Nat) (post : Bool) (hk : 1 ≤ k) :
    mvMinPath pre k post (k - 1) = voltaMinPath pre k post := by
  unfold mvMinPath voltaMinPath
  rw [show vBody pre + 1 + (k - 1) = vBody pre + k by omega]

end C09
