/-
Orders given as a `Bool` test (`key=` functions, `np.lexsort`): a test that compares keys in a linear order, alone or
lexicographically, is a `Lists.TotalPreorder`, which is what the stable sorts of Proofs/Lists.lean ask for.  The models' tests
unfold to the two shapes below, so each is an instance as it stands, `.lex k₁ (.lex k₂ (.of_key k₃))`; a descending key is a key
into the dual order.  The namespace is `Lists`.
-/
import Mathlib.Order.Defs.LinearOrder
import PartituraModel.Proofs.Lists

namespace Lists

variable {α κ : Type}

namespace TotalPreorder

variable {le : α → α → Bool}

theorem of_iff [LinearOrder κ] (key : α → κ) (hle : ∀ a b, le a b = true ↔ key a ≤ key b) : TotalPreorder le where
  total a b := (le_total (key a) (key b)).imp (hle a b).mpr (hle b a).mpr
  trans a b c h1 h2 := (hle a c).mpr (le_trans ((hle a b).mp h1) ((hle b c).mp h2))

theorem of_key [LinearOrder κ] (key : α → κ) : TotalPreorder fun a b => decide (key a ≤ key b) :=
  of_iff key fun _ _ => decide_eq_true_iff

/-- the lexicographic order: by a key in a linear order and, between elements with the same key, by `le` -/
theorem lex [LinearOrder κ] (key : α → κ) (h : TotalPreorder le) :
    TotalPreorder fun a b => decide (key a < key b) || (decide (key a = key b) && le a b) where
  total a b := by
    simp only [Bool.or_eq_true, Bool.and_eq_true, decide_eq_true_eq]
    rcases lt_trichotomy (key a) (key b) with hk | hk | hk
    · exact Or.inl (Or.inl hk)
    · exact (h.total a b).imp (fun h' => Or.inr ⟨hk, h'⟩) fun h' => Or.inr ⟨hk.symm, h'⟩
    · exact Or.inr (Or.inl hk)
  trans a b c := by
    simp only [Bool.or_eq_true, Bool.and_eq_true, decide_eq_true_eq]
    rintro (h1 | ⟨e1, r1⟩) (h2 | ⟨e2, r2⟩)
    · exact Or.inl (lt_trans h1 h2)
    · exact Or.inl (e2 ▸ h1)
    · exact Or.inl (e1 ▸ h2)
    · exact Or.inr ⟨e1.trans e2, h.trans a b c r1 r2⟩

end TotalPreorder

namespace IsInsertionSort

variable [LinearOrder κ] {key : α → κ} {ins : α → List α → List α} {srt : List α → List α}

/-- a stable sort by a test that compares keys keeps, between elements with the same key, the order `R` the input had -/
theorem pairwise_iff_stable {le : α → α → Bool} (h : IsInsertionSort le ins srt)
    (hle : ∀ a b, le a b = true ↔ key a ≤ key b) {R : α → α → Prop} {l : List α} (hl : l.Pairwise R) :
    (srt l).Pairwise fun a b => key a < key b ∨ (key a = key b ∧ R a b) :=
  (h.pairwise_stable (.of_iff key hle) hl).imp fun {a b} hab =>
    (lt_or_eq_of_le ((hle a b).mp hab.1)).imp_right fun e => ⟨e, hab.2 ((hle b a).mpr (le_of_eq e.symm))⟩

theorem pairwise_key_stable (h : IsInsertionSort (fun a b => decide (key a ≤ key b)) ins srt) {R : α → α → Prop}
    {l : List α} (hl : l.Pairwise R) : (srt l).Pairwise fun a b => key a < key b ∨ (key a = key b ∧ R a b) :=
  h.pairwise_iff_stable (fun _ _ => decide_eq_true_iff) hl

theorem pairwise_key (h : IsInsertionSort (fun a b => decide (key a ≤ key b)) ins srt) (l : List α) :
    (srt l).Pairwise fun a b => key a ≤ key b :=
  (h.pairwise (.of_key key) l).imp of_decide_eq_true

end IsInsertionSort

end Lists
