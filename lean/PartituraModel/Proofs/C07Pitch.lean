/-
C07 — the pitch post-processing of score notes and pre-1.0 performed notes
(`ensure_pitch_spelling_format` on the three interpreted fields NoteName / Modifier / Octave):
the texts the template writes for a spelled pitch are post-processed back to that pitch.
-/
import PartituraModel.Model.MatchLine
import PartituraModel.Proofs.C07Codec
import PartituraModel.Proofs.C07Line

namespace C07Line
open Model Model.Template Model.MatchCodec Model.MatchLine Gen

/-- an optional integer as a field value (`None` / int) -/
def optInt : Option Int → Val
  | none => .none
  | some i => .int i

/-- what `ensurePitch` makes of the Modifier text -/
def alterOf (a : Str) : Option Val :=
  match lookup (String.ofList a) SIGN_TO_ALTER with
  | some (some i) => some (Val.int i)
  | some none => some Val.none
  | none => none

def stepOK (s : Str) : Bool := midiBaseHas (lowerS s) || lowerS s == ['r']

theorem alterOf_some (a : Str) (A : Val) (ha : alterOf a = some A) :
    (∃ i, lookup (String.ofList a) SIGN_TO_ALTER = some (some i) ∧ A = .int i) ∨
      (lookup (String.ofList a) SIGN_TO_ALTER = some none ∧ A = .none) := by
  unfold alterOf at ha
  split at ha
  · rename_i i hi
    exact .inl ⟨i, hi, (Option.some.inj ha).symm⟩
  · rename_i hi
    exact .inr ⟨hi, (Option.some.inj ha).symm⟩
  · cases ha

theorem ensurePitch_int (s a : Str) (A : Val) (o : Int) (hs : stepOK s = true) (ha : alterOf a = some A) :
    ensurePitch (.str s) (.str a) (.int o) = .ok (.str (upperS s), A, .int o) := by
  unfold stepOK at hs
  unfold ensurePitch
  simp only [hs, if_true, bind, Except.bind, pure, Except.pure]
  rcases alterOf_some a A ha with ⟨i, hi, rfl⟩ | ⟨hi, rfl⟩
  · simp [hi]
  · simp [hi]

theorem showNatS_ne_dash (n : Nat) : showNatS n ≠ ['-'] := by
  intro h
  have := C07Codec.showNatS_isDigit n '-' (by rw [h]; simp)
  exact absurd this (by decide)

theorem showIntS_ne_dash (i : Int) : showIntS i ≠ ['-'] := by
  unfold showIntS
  split
  · intro h
    injection h with _ h2
    exact C07Codec.showNatS_ne_nil _ h2
  · exact showNatS_ne_dash _

/-- the Octave of a score note is kept as text by the field table and interpreted by the post-processing:
    `-` is None, a numeral is its integer -/
theorem ensurePitch_str (s a : Str) (A : Val) (o : Option Int) (hs : stepOK s = true) (ha : alterOf a = some A) :
    ensurePitch (.str s) (.str a) (.str (encInt o)) = .ok (.str (upperS s), A, optInt o) := by
  unfold stepOK at hs
  unfold ensurePitch
  simp only [hs, if_true, bind, Except.bind, pure, Except.pure]
  have hne : ∀ i, (showIntS i == ['-']) = false := fun i => by simpa using showIntS_ne_dash i
  cases o with
  | none =>
    simp only [encInt, optInt]
    rcases alterOf_some a A ha with ⟨i, hi, rfl⟩ | ⟨hi, rfl⟩
    · simp [hi]
    · simp [hi]
  | some j =>
    simp only [encInt, optInt, hne, C07Codec.parseInt_showIntS]
    rcases alterOf_some a A ha with ⟨i, hi, rfl⟩ | ⟨hi, rfl⟩
    · simp [hi]
    · simp [hi]

theorem encode_int_optInt (o : Option Int) : encode Enc.int (optInt o) = some (encInt o) := by
  cases o <;> rfl

/-- the Octave as its interpreter returns it - the text itself for a score note (`Dec.str`), the integer for a
    pre-1.0 performed note (`Dec.int`, where an octave is required) - is post-processed to the octave -/
theorem ensurePitch_octave (octave : Option Int) (d : Dec) (hd : d = Dec.str ∨ d = Dec.int ∧ octave.isSome = true)
    (s a : Str) (A : Val)
    (hs : stepOK s = true) (ha : alterOf a = some A) :
    ∃ r3, decode d (encInt octave) = .ok r3 ∧
      ensurePitch (.str s) (.str a) r3 = .ok (.str (upperS s), A, optInt octave) := by
  rcases hd with rfl | ⟨rfl, ho⟩
  · exact ⟨.str (encInt octave), rfl, ensurePitch_str s a A octave hs ha⟩
  · obtain ⟨o, rfl⟩ := Option.isSome_iff_exists.mp ho
    exact ⟨.int o, by simp only [decode, encInt, C07Codec.parseInt_showIntS, liftO, Except.map],
      ensurePitch_int s a A o hs ha⟩

def pitchNames : List String := ["NoteName", "Modifier", "Octave"]

/-- the steps a class stores: an upper-case letter, or `R` for a rest (score notes only) -/
def stepsOf : Post → List Str
  | .pitchSpelling => ["C", "D", "E", "F", "G", "A", "B", "R"].map String.toList
  | .pitchSpellingNote => ["C", "D", "E", "F", "G", "A", "B"].map String.toList
  | .none => []

def alters : List (Option Int) := [none, some (-2), some (-1), some 0, some 1, some 2]

/-- layout of a template with pitch post-processing (decidable): the fields are
    `x, NoteName, Modifier, Octave, rest…`; the three pitch fields are read as text (the Octave of a
    pre-1.0 performed note as an integer) and the Octave is written by `format_int`; all other fields
    are independent of each other and of the pitch -/
def pitchLayout (t : Template) : Bool :=
  match t.fields with
  | f0 :: fN :: fM :: fO :: fr =>
    !pitchNames.contains f0.1 && plainField f0
      && fN.1 == "NoteName" && fN.2.2 == Dec.str && plainField fN
      && fM.1 == "Modifier" && fM.2.2 == Dec.str && plainField fM
      && fO.1 == "Octave" && fO.2.1 == Enc.int
      && fO.2.2 == (if t.post == Post.pitchSpelling then Dec.str else Dec.int)
      && fr.all (fun f => !pitchNames.contains f.1 && plainField f)
  | _ => false

theorem pitchLayout_fields (t : Template) (hl : pitchLayout t = true) :
    ∃ f0 fN fM fO fr, t.fields = f0 :: fN :: fM :: fO :: fr ∧
      (pitchNames.contains f0.1 = false ∧ plainField f0 = true) ∧
      (fN.1 = "NoteName" ∧ fN.2.2 = Dec.str ∧ plainField fN = true) ∧
      (fM.1 = "Modifier" ∧ fM.2.2 = Dec.str ∧ plainField fM = true) ∧
      (fO.1 = "Octave" ∧ fO.2.1 = Enc.int ∧ fO.2.2 = (if t.post = Post.pitchSpelling then Dec.str else Dec.int)) ∧
      (fr.all fun f => !pitchNames.contains f.1 && plainField f) = true := by
  unfold pitchLayout at hl
  split at hl
  · rename_i f0 fN fM fO fr hf
    simp only [Bool.and_eq_true, Bool.not_eq_true', beq_iff_eq] at hl
    obtain ⟨⟨⟨⟨⟨⟨⟨⟨⟨⟨⟨h0, hp0⟩, hN⟩, hNd⟩, hpN⟩, hM⟩, hMd⟩, hpM⟩, hO⟩, hOe⟩, hOd⟩, hr⟩ := hl
    exact ⟨f0, fN, fM, fO, fr, hf, ⟨h0, hp0⟩, ⟨hN, hNd, hpN⟩, ⟨hM, hMd, hpM⟩, ⟨hO, hOe, hOd⟩, hr⟩
  · cases hl

theorem plainField_of_int {f : String × Enc × Dec} (h : f.2.1 = Enc.int) : plainField f = true := by
  unfold plainField
  rw [h]
  decide

theorem plain_of_rest {fr : List (String × Enc × Dec)}
    (hr : (fr.all fun f => !pitchNames.contains f.1 && plainField f) = true) : fr.all plainField = true :=
  List.all_eq_true.mpr fun f hf => (Bool.and_eq_true _ _ ▸ List.all_eq_true.mp hr f hf).2

/-- no field of the pitch layout takes its codec from the Attribute -/
theorem depsOK_of_pitchLayout (t : Template) (hl : pitchLayout t = true) : depsOK t = true := by
  obtain ⟨f0, fN, fM, fO, fr, hf, ⟨-, hp0⟩, ⟨-, -, hpN⟩, ⟨-, -, hpM⟩, ⟨-, hOe, -⟩, hr⟩ := pitchLayout_fields t hl
  unfold depsOK
  simp [hf, hp0, hpN, hpM, plainField_of_int hOe, plain_of_rest hr]

/-- the texts written for a step and an accidental are read back by the post-processing (decidable) -/
def pitchTextOK (t : Template) (step : Str) (alter : Option Int) : Bool :=
  match t.fields with
  | _ :: fN :: fM :: _ =>
    (match encode fN.2.1 (.str step), encode fM.2.1 (optInt alter) with
     | some x1, some x2 => stepOK x1 && upperS x1 == step && alterOf x2 == some (optInt alter)
     | _, _ => false)
  | _ => false

theorem pitchTextOK_spec (t : Template) (step : Str) (alter : Option Int) {f0 fN fM : String × Enc × Dec}
    {fr : List (String × Enc × Dec)} (hf : t.fields = f0 :: fN :: fM :: fr) (h : pitchTextOK t step alter = true) :
    ∃ x1 x2, encode fN.2.1 (.str step) = some x1 ∧ encode fM.2.1 (optInt alter) = some x2 ∧
      stepOK x1 = true ∧ upperS x1 = step ∧ alterOf x2 = some (optInt alter) := by
  unfold pitchTextOK at h
  rw [hf] at h
  simp only at h
  split at h
  · rename_i x1 x2 h1 h2
    simp only [Bool.and_eq_true, beq_iff_eq] at h
    exact ⟨x1, x2, h1, h2, h.1.1, h.1.2, h.2⟩
  · cases h

/-- a pre-1.0 performed note computes its MIDI pitch when it is built: every step with every accidental does -/
def midiOK (step : Str) (_alter : Option Int) : Bool :=
  (lookup (lower (String.ofList step)) MIDI_BASE_CLASS).isSome

theorem spellingToMidi_isSome (step : Str) (alter : Option Int) (o : Int) (h : midiOK step alter = true) :
    (spellingToMidi (String.ofList step) alter o).isSome = true := by
  unfold midiOK at h
  unfold spellingToMidi
  cases hl : lookup (lower (String.ofList step)) MIDI_BASE_CLASS with
  | none => rw [hl] at h; simp at h
  | some b => simp

theorem getField_cons (m : String) (ms : List String) (x : Val) (xs : List Val) (n : String) :
    getField (m :: ms) (x :: xs) n = if m = n then x else getField ms xs n := by
  unfold getField
  by_cases h : m = n <;> simp [h]

theorem setField_cons (m : String) (ms : List String) (x : Val) (xs : List Val) (n : String) (v : Val) :
    setField (m :: ms) (x :: xs) n v = (if m = n then v else x) :: setField ms xs n v := by
  unfold setField
  by_cases h : m = n <;> simp [h]

theorem setField_notin (names : List String) (n : String) (v : Val) : ∀ (vals : List Val),
    names.length = vals.length → n ∉ names → setField names vals n v = vals := by
  induction names with
  | nil => intro vals hl _; cases vals with
    | nil => rfl
    | cons a b => simp at hl
  | cons m ms ih =>
    intro vals hl hn
    cases vals with
    | nil => simp at hl
    | cons x xs =>
      simp only [List.mem_cons, not_or] at hn
      rw [setField_cons, if_neg (fun e => hn.1 e.symm), ih xs (by simpa using hl) hn.2]

/-- the post-processing of a pitch line: for a template of the pitch layout, the interpreted fields
    `x, text₁, text₂, octave, rest…` become `x, step, alter, octave, rest…` -/
theorem applyPost_pitch (t : Template) (hp : t.post ≠ Post.none) (hl : pitchLayout t = true)
    (v0 : Val) (x1 x2 : Str) (r3 : Val) (rest : List Val) (step : Str) (alter octave : Option Int)
    (hlen : rest.length + 4 = t.fields.length)
    (he : ensurePitch (.str x1) (.str x2) r3 = .ok (.str step, optInt alter, optInt octave))
    (hm : t.post = Post.pitchSpellingNote → octave.isSome = true ∧ midiOK step alter = true) :
    applyPost t (v0 :: .str x1 :: .str x2 :: r3 :: rest)
      = .ok (v0 :: .str step :: optInt alter :: optInt octave :: rest) := by
  obtain ⟨f0, fN, fM, fO, fr, hf, ⟨h0, -⟩, ⟨hN, -, -⟩, ⟨hM, -, -⟩, ⟨hO, -, -⟩, hr⟩ := pitchLayout_fields t hl
  -- the names: the three pitch fields stand at positions 1, 2, 3 and nowhere else
  have h0n : ∀ n ∈ pitchNames, f0.1 ≠ n := fun n hn e => by
    rw [e, List.contains_iff_mem.mpr hn] at h0; cases h0
  have h0N := h0n "NoteName" (by decide)
  have h0M := h0n "Modifier" (by decide)
  have h0O := h0n "Octave" (by decide)
  have hrn : ∀ n ∈ pitchNames, n ∉ fr.map (·.1) := by
    intro n hn hmem
    obtain ⟨f, hf1, rfl⟩ := List.mem_map.mp hmem
    have := List.all_eq_true.mp hr f hf1
    rw [List.contains_iff_mem.mpr hn] at this
    cases this
  have hlr : (fr.map (·.1)).length = rest.length := by
    rw [hf] at hlen
    simp only [List.length_cons, List.length_map] at hlen ⊢
    omega
  have hnames : t.fields.map (·.1) = f0.1 :: "NoteName" :: "Modifier" :: "Octave" :: fr.map (·.1) := by
    rw [hf]; simp [hN, hM, hO]
  have hrest : ∀ n ∈ pitchNames, ∀ w, setField (fr.map (·.1)) rest n w = rest := fun n hn w =>
    setField_notin _ n w rest hlr (hrn n hn)
  have gN : getField (t.fields.map (·.1)) (v0 :: .str x1 :: .str x2 :: r3 :: rest) "NoteName" = .str x1 := by
    rw [hnames]; simp only [getField_cons, if_neg h0N, if_true]
  have gM : getField (t.fields.map (·.1)) (v0 :: .str x1 :: .str x2 :: r3 :: rest) "Modifier" = .str x2 := by
    rw [hnames]; simp only [getField_cons, if_neg h0M, String.reduceEq, if_false, if_true]
  have gO : getField (t.fields.map (·.1)) (v0 :: .str x1 :: .str x2 :: r3 :: rest) "Octave" = r3 := by
    rw [hnames]; simp only [getField_cons, if_neg h0O, String.reduceEq, if_false, if_true]
  have hset : setField (t.fields.map (·.1))
      (setField (t.fields.map (·.1))
        (setField (t.fields.map (·.1)) (v0 :: .str x1 :: .str x2 :: r3 :: rest) "NoteName" (.str step)) "Modifier"
          (optInt alter)) "Octave" (optInt octave)
      = v0 :: .str step :: optInt alter :: optInt octave :: rest := by
    rw [hnames]
    simp only [setField_cons, if_neg h0N, if_neg h0M, if_neg h0O, String.reduceEq, if_true, if_false,
      hrest "NoteName" (by decide), hrest "Modifier" (by decide), hrest "Octave" (by decide)]
  unfold applyPost
  cases hpp : t.post with
  | none => exact absurd hpp hp
  | pitchSpelling =>
    simp only [gN, gM, gO, he, bind, Except.bind, pure, Except.pure]
    simp only [hset]
    simp
  | pitchSpellingNote =>
    -- the MIDI pitch is computed: the octave is there and every step has a base class
    obtain ⟨hsome, hmid⟩ := hm hpp
    obtain ⟨o, rfl⟩ := Option.isSome_iff_exists.mp hsome
    have hmidi := spellingToMidi_isSome step alter o hmid
    simp only [gN, gM, gO, he, bind, Except.bind, pure, Except.pure]
    simp only [hset]
    simp only [show optInt (some o) = Val.int o from rfl]
    simp
    intro h
    have h2 : spellingToMidi (String.ofList step) alter o = none := by
      cases alter <;> exact h
    rw [h2] at hmidi
    cases hmidi

/-- field by field: the value is written as the text; every field but the three pitch fields is read
    back from its text by its own interpreter (the pitch fields are read back by the post-processing) -/
def RTP : List (String × Enc × Dec) → List Val → List (String × Str) → Prop
  | [], [], [] => True
  | f :: fs, v :: vs, e :: es =>
    e.1 = f.1 ∧ encode f.2.1 v = some e.2 ∧ (f.1 ∈ pitchNames ∨ decode f.2.2 e.2 = .ok v) ∧ RTP fs vs es
  | _, _, _ => False

theorem RTA_of_RTP (t : Template) (a : Option Str) : ∀ (fs : List (String × Enc × Dec)) (vs : List Val)
    (es : List (String × Str)), (fs.all fun f => !pitchNames.contains f.1 && plainField f) = true →
    RTP fs vs es → RTA t a fs vs vs es := by
  intro fs vs es hp h
  fun_induction RTP fs vs es with
  | case1 => trivial
  | case2 f fs v vs e es ih =>
    simp only [List.all_cons, Bool.and_eq_true, Bool.not_eq_true'] at hp
    obtain ⟨hn, he, hd, hr⟩ := h
    refine ⟨hn, ⟨f.2, codecFor_plain t a f hp.1.2, he, hd.resolve_left fun hm => ?_⟩, ih hp.2 hr⟩
    rw [List.contains_iff_mem.mpr hm] at hp
    cases hp.1.1
  | case3 => exact h.elim

theorem rtp_of_rta (t : Template) (a : Option Str) : ∀ (fs : List (String × Enc × Dec)) (vs : List Val)
    (es : List (String × Str)), fs.all plainField = true → RTA t a fs vs vs es → RTP fs vs es := by
  intro fs
  induction fs with
  | nil => intro vs es _ h; cases vs <;> cases es <;> simp_all [RTA, RTP]
  | cons f fs ih =>
    intro vs es hp h
    cases vs with
    | nil => simp [RTA] at h
    | cons v vs =>
      cases es with
      | nil => simp [RTA] at h
      | cons e es =>
        simp only [List.all_cons, Bool.and_eq_true] at hp
        obtain ⟨hn, ⟨c, hc, he, hd⟩, hr⟩ := h
        rw [codecFor_plain t a f hp.1] at hc
        injection hc with hc
        subst hc
        exact ⟨hn, he, Or.inr hd, ih vs es hp.2 hr⟩

theorem length_of_RTP : ∀ (fs : List (String × Enc × Dec)) (vs : List Val) (es : List (String × Str)),
    RTP fs vs es → vs.length = fs.length := by
  intro fs vs es h
  fun_induction RTP fs vs es with
  | case1 => rfl
  | case2 f fs v vs e es ih => simp [ih h.2.2.2]
  | case3 => exact h.elim

/-- a line with pitch post-processing (score note, pre-1.0 performed note) of the pitch layout whose
    step / accidental texts are read back (`pitchTextOK`): written, searched behind `pre` and before
    `tail`, interpreted and post-processed, it gives back `x, step, alter, octave, rest…` -/
theorem pitch_line (t : Template) (ht : templateOK t = true) (hp : t.post ≠ Post.none) (hl : pitchLayout t = true)
    (v0 : Val) (step : Str) (alter octave : Option Int) (rest : List Val)
    (es : List (String × Str)) (pre tail : List Char)
    (htext : pitchTextOK t step alter = true)
    (hoct : t.post = Post.pitchSpellingNote → octave.isSome = true ∧ midiOK step alter = true)
    (hrt : RTP t.fields (v0 :: .str step :: optInt alter :: optInt octave :: rest) es)
    (hv : fieldsOKGen t.out t.pat (textOf es) tail = true)
    (hpre : noEarly t.pat pre (render t.out (textOf es) ++ tail) = true) :
    formatT t (v0 :: .str step :: optInt alter :: optInt octave :: rest) = some (render t.out (textOf es)) ∧
      parseT t (pre ++ (render t.out (textOf es) ++ tail))
        = .ok (v0 :: .str step :: optInt alter :: optInt octave :: rest) := by
  -- split fields and texts into the head `x, NoteName, Modifier, Octave` and the rest; read the octave as its interpreter
  -- returns it (`ensurePitch_octave`); these raw values make an `RTA`, which `line_roundtrip_gen` takes with `applyPost_pitch`
  have hlen := length_of_RTP _ _ _ hrt
  obtain ⟨f0, fN, fM, fO, fr, hf, ⟨h0, hp0⟩, ⟨hN, hNd, hpN⟩, ⟨hM, hMd, hpM⟩, ⟨hO, hOe, hOd⟩, hr⟩ :=
    pitchLayout_fields t hl
  obtain ⟨x1, x2, h1, h2, hstepOK, hup, halt⟩ := pitchTextOK_spec t step alter hf htext
  rw [hf] at hrt
  rcases es with _ | ⟨e0, _ | ⟨eN, _ | ⟨eM, _ | ⟨eO, er⟩⟩⟩⟩ <;> simp only [RTP, and_false] at hrt
  obtain ⟨hn0, he0, hd0, hn1, heN, _, hn2, heM, _, hn3, heO, _, hrr⟩ := hrt
  obtain rfl : x1 = eN.2 := Option.some.inj (h1.symm.trans heN)
  obtain rfl : x2 = eM.2 := Option.some.inj (h2.symm.trans heM)
  have hd0' : decode f0.2.2 e0.2 = .ok v0 := by
    rcases hd0 with h | h
    · have : pitchNames.contains f0.1 = true := by simpa using h
      rw [this] at h0; exact absurd h0 (by simp)
    · exact h
  have heO' : eO.2 = encInt octave := by
    rw [hOe, encode_int_optInt] at heO
    exact (Option.some.inj heO).symm
  obtain ⟨r3, hdO, hens⟩ := ensurePitch_octave octave fO.2.2 (by
      rw [hOd]
      split
      · exact .inl rfl
      · rename_i hps
        have hnote : t.post = Post.pitchSpellingNote := by
          revert hp hps
          cases t.post <;> simp
        exact .inr ⟨rfl, (hoct hnote).1⟩) eN.2 eM.2 _ hstepOK halt
  rw [← heO'] at hdO
  rw [hup] at hens
  have hrest : rest.length + 4 = t.fields.length := by
    rw [hf] at hlen ⊢
    simp only [List.length_cons] at hlen ⊢
    omega
  have hpost := applyPost_pitch t hp hl v0 eN.2 eM.2 r3 rest step alter octave hrest hens hoct
  have hrta : RTA t (attrOf t (v0 :: .str step :: optInt alter :: optInt octave :: rest)) t.fields
      (v0 :: .str step :: optInt alter :: optInt octave :: rest)
      (v0 :: .str eN.2 :: .str eM.2 :: r3 :: rest) (e0 :: eN :: eM :: eO :: er) := by
    rw [hf]
    refine ⟨hn0, ⟨f0.2, codecFor_plain t _ f0 hp0, he0, hd0'⟩,
      hn1, ⟨fN.2, codecFor_plain t _ fN hpN, heN, by rw [hNd]; rfl⟩,
      hn2, ⟨fM.2, codecFor_plain t _ fM hpM, heM, by rw [hMd]; rfl⟩,
      hn3, ⟨fO.2, codecFor_plain t _ fO (plainField_of_int hOe), heO, hdO⟩,
      RTA_of_RTP t _ fr rest er hr hrr⟩
  exact line_roundtrip_gen t _ _ _ pre tail ht (depsOK_of_pitchLayout t hl) hrta hpost hv hpre

end C07Line
