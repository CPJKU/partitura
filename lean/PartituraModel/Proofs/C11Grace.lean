/-
C11 — the grace-note loop of `sanitize_part` (Model/Sanitize.lean: `graceStep`, `graceLoop`).

The loop only ever rewrites `grace_next` of a grace note to a plain note (`setNext … (.note x)`); `Reach` collects the
lists that can arise that way.  Along `Reach` having a main note is monotone (`reach_main`): a rewritten link shortens
the way to a main note, it never cuts it.  From this the two halves of the documented purpose follow for the loop as it
is written (`graceLoop_inv`): a grace note that has a main note is never listed for removal, and every grace note that
is not listed has one afterwards.
-/
import PartituraModel.Model.Sanitize
import PartituraModel.Proofs.C11Lists

namespace C11Grace
open Model Model.Dur Model.Meas Model.San

/-- what `setNext` does to one grace note -/
def upd (L : Nat) (nx : GNext) (g : Grace) : Grace := if g.key = L then { g with next := nx } else g

theorem upd_key (L : Nat) (nx : GNext) (g : Grace) : (upd L nx g).key = g.key := by unfold upd; split <;> rfl
theorem upd_start (L : Nat) (nx : GNext) (g : Grace) : (upd L nx g).start = g.start := by unfold upd; split <;> rfl
theorem upd_voice (L : Nat) (nx : GNext) (g : Grace) : (upd L nx g).voice = g.voice := by unfold upd; split <;> rfl
theorem upd_next (L : Nat) (nx : GNext) (g : Grace) : (upd L nx g).next = g.next ∨ (upd L nx g).next = nx := by
  unfold upd; split
  · exact Or.inr rfl
  · exact Or.inl rfl

theorem setNext_eq (gs : List Grace) (L : Nat) (nx : GNext) : setNext gs L nx = gs.map (upd L nx) := rfl

theorem lkG_map (f : Grace → Grace) (hf : ∀ g, (f g).key = g.key) (gs : List Grace) (k : Nat) :
    lkG (gs.map f) k = (lkG gs k).map f := by
  unfold lkG
  rw [List.find?_map]
  exact congrArg (fun p => (gs.find? p).map f) (funext fun g => by simp only [Function.comp, hf])

theorem lkG_setNext (gs : List Grace) (L : Nat) (nx : GNext) (k : Nat) :
    lkG (setNext gs L nx) k = (lkG gs k).map (upd L nx) :=
  lkG_map (upd L nx) (upd_key L nx) gs k

theorem lkG_mem (gs : List Grace) (k : Nat) (g : Grace) (h : lkG gs k = some g) : g ∈ gs ∧ g.key = k :=
  (C11Lists.find_key_some Grace.key h).symm

theorem lkG_self (gs : List Grace) (h : (gs.map (·.key)).Nodup) : ∀ g ∈ gs, lkG gs g.key = some g :=
  C11Lists.find_key_self Grace.key gs h

/-- **a link rewritten to a plain note never takes a main note away**: the way from `g` to its main note either avoids
    the rewritten grace note, or now ends there -/
theorem mainNote_setNext (gs : List Grace) (L x : Nat) : ∀ (fuel : Nat) (g : Grace),
    (mainNote gs fuel g).isSome = true →
    (mainNote (setNext gs L (.note x)) fuel (upd L (.note x) g)).isSome = true := by
  intro fuel
  induction fuel with
  | zero => intro g h; simp [mainNote] at h
  | succ f ih =>
    intro g h
    by_cases hk : g.key = L
    · have hn : (upd L (.note x) g).next = .note x := by simp [upd, hk]
      unfold mainNote
      rw [hn]
      rfl
    · have hu : upd L (.note x) g = g := by simp [upd, hk]
      rw [hu]
      unfold mainNote at h ⊢
      cases hn : g.next with
      | none => rw [hn] at h; simp at h
      | note k => rfl
      | grace k =>
        rw [hn] at h
        simp only at h ⊢
        rw [lkG_setNext]
        cases hl : lkG gs k with
        | none => rw [hl] at h; simp at h
        | some hh =>
          rw [hl] at h
          simp only [Option.map_some]
          exact ih hh h

/-- the lists the loop can produce from `gs`: links rewritten, one at a time, to plain notes satisfying `P` -/
inductive Reach (P : Nat → Prop) (gs : List Grace) : List Grace → Prop
  | refl : Reach P gs gs
  | step (gs' : List Grace) (L x : Nat) : Reach P gs gs' → P x → Reach P gs (setNext gs' L (.note x))

theorem reach_trans {P : Nat → Prop} {a b c : List Grace} (h1 : Reach P a b) (h2 : Reach P b c) : Reach P a c := by
  induction h2 with
  | refl => exact h1
  | step gs' L x _ hp ih => exact Reach.step gs' L x ih hp

theorem reach_map {P : Nat → Prop} {gs gs' : List Grace} (h : Reach P gs gs') :
    ∃ f : Grace → Grace, gs' = gs.map f ∧ ∀ g, (f g).key = g.key ∧ (f g).start = g.start ∧ (f g).voice = g.voice ∧
      ((f g).next = g.next ∨ ∃ x, P x ∧ (f g).next = .note x) := by
  induction h with
  | refl => exact ⟨id, (List.map_id _).symm, fun g => ⟨rfl, rfl, rfl, Or.inl rfl⟩⟩
  | step gs'' L x _ hp ih =>
    obtain ⟨f, hf, hprop⟩ := ih
    refine ⟨upd L (.note x) ∘ f, ?_, ?_⟩
    · rw [setNext_eq, hf, List.map_map]
    · intro g
      obtain ⟨a, b, c, d⟩ := hprop g
      simp only [Function.comp]
      refine ⟨by rw [upd_key, a], by rw [upd_start, b], by rw [upd_voice, c], ?_⟩
      rcases upd_next L (.note x) (f g) with e | e
      · rw [e]; exact d
      · exact Or.inr ⟨x, hp, e⟩

theorem reach_keys {P : Nat → Prop} {gs gs' : List Grace} (h : Reach P gs gs') : gs'.map (·.key) = gs.map (·.key) := by
  obtain ⟨f, hf, hprop⟩ := reach_map h
  rw [hf, List.map_map]
  apply List.map_congr_left
  intro g _
  exact (hprop g).1

theorem reach_length {P : Nat → Prop} {gs gs' : List Grace} (h : Reach P gs gs') : gs'.length = gs.length := by
  have := congrArg List.length (reach_keys h)
  simpa using this

theorem reach_main {P : Nat → Prop} {gs gs' : List Grace} (h : Reach P gs gs') (fuel k : Nat) (g' : Grace)
    (hg' : lkG gs' k = some g') (hm : ∀ g, lkG gs k = some g → (mainNote gs fuel g).isSome = true) :
    (mainNote gs' fuel g').isSome = true := by
  induction h generalizing g' with
  | refl => exact hm g' hg'
  | step gs'' L x _ _ ih =>
    rw [lkG_setNext] at hg'
    cases hl : lkG gs'' k with
    | none => rw [hl] at hg'; cases hg'
    | some g'' =>
      rw [hl] at hg'
      cases hg'
      exact mainNote_setNext gs'' L x fuel g'' (ih g'' hl)

/-- the plain notes that may adopt a grace note of `gs`: they start where a grace note starts and have its voice -/
def Adopter (notes : List Note) (gs : List Grace) (x : Nat) : Prop :=
  ∃ no ∈ notes, no.key = x ∧ ∃ g ∈ gs, no.start = g.start ∧ no.voice = g.voice

theorem offers_reach (notes : List Note) (gs0 : List Grace) (k : Nat) (voice : Option Int) (fuel : Nat) :
    ∀ (cands : List Note) (acc : List Grace),
      (∀ no ∈ cands, no.voice = voice → Adopter notes gs0 no.key) →
      Reach (Adopter notes gs0) acc (cands.foldl (offer k voice fuel) acc) := by
  intro cands
  induction cands with
  | nil => intro acc _; exact Reach.refl
  | cons c cs ih =>
    intro acc hc
    rw [List.foldl_cons]
    have hstep : Reach (Adopter notes gs0) acc (offer k voice fuel acc c) := by
      unfold offer
      split
      · rename_i hv
        split
        · exact Reach.step acc _ _ Reach.refl (hc c (List.mem_cons_self) hv)
        · exact Reach.refl
      · exact Reach.refl
    exact reach_trans hstep (ih _ (fun no hno hv => hc no (List.mem_cons_of_mem _ hno) hv))

theorem upd_upd (L : Nat) (a b : GNext) (g : Grace) : upd L b (upd L a g) = upd L b g := by
  unfold upd
  by_cases h : g.key = L
  · simp [h]
  · simp [h]

theorem setNext_setNext (gs : List Grace) (L : Nat) (a b : GNext) : setNext (setNext gs L a) L b = setNext gs L b := by
  rw [setNext_eq, setNext_eq, setNext_eq, List.map_map]
  apply List.map_congr_left
  intro g _
  exact upd_upd L a b g

theorem lastInSeq_setNext (gs : List Grace) (x : Nat) : ∀ (fuel : Nat) (g : Grace) (L : Nat),
    lastInSeq gs fuel g = L → lastInSeq (setNext gs L (.note x)) fuel (upd L (.note x) g) = L := by
  intro fuel
  induction fuel with
  | zero =>
    intro g L h
    unfold lastInSeq at h ⊢
    rw [upd_key]; exact h
  | succ f ih =>
    intro g L h
    by_cases hk : g.key = L
    · have hn : (upd L (.note x) g).next = .note x := by simp [upd, hk]
      unfold lastInSeq
      rw [hn]
      simp only
      rw [upd_key]; exact hk
    · have hu : upd L (.note x) g = g := by simp [upd, hk]
      rw [hu]
      unfold lastInSeq at h ⊢
      cases hn : g.next with
      | none => rw [hn] at h; exact absurd h hk
      | note k => rw [hn] at h; exact absurd h hk
      | grace k =>
        rw [hn] at h
        simp only at h ⊢
        rw [lkG_setNext]
        cases hl : lkG gs k with
        | none => rw [hl] at h; exact absurd h hk
        | some hh =>
          rw [hl] at h
          simp only [Option.map_some]
          exact ih hh L h

theorem offers_closed (k : Nat) (voice : Option Int) (fuel : Nat) : ∀ (cands : List Note) (acc : List Grace) (g : Grace),
    lkG acc k = some g →
    cands.foldl (offer k voice fuel) acc =
      match (cands.filter fun no => no.voice = voice).getLast? with
      | none => acc
      | some c => setNext acc (lastInSeq acc fuel g) (.note c.key) := by
  intro cands
  induction cands with
  | nil => intro acc g _; rfl
  | cons c cs ih =>
    intro acc g hg
    rw [List.foldl_cons]
    by_cases hv : c.voice = voice
    · have hoff : offer k voice fuel acc c = setNext acc (lastInSeq acc fuel g) (.note c.key) := by
        unfold offer
        rw [if_pos hv, hg]
      have hg' : lkG (offer k voice fuel acc c) k = some (upd (lastInSeq acc fuel g) (.note c.key) g) := by
        rw [hoff, lkG_setNext, hg]; rfl
      rw [ih _ _ hg']
      have hlast : lastInSeq (offer k voice fuel acc c) fuel (upd (lastInSeq acc fuel g) (.note c.key) g) =
          lastInSeq acc fuel g := by
        rw [hoff]; exact lastInSeq_setNext acc c.key fuel g _ rfl
      rw [hlast, List.filter_cons, if_pos (by simpa using hv)]
      cases hcs : (cs.filter fun no => no.voice = voice) with
      | nil => simp [hoff]
      | cons d ds =>
        rw [List.getLast?_cons_cons]
        cases hgl : (d :: ds).getLast? with
        | none => simp at hgl
        | some e =>
          simp only
          rw [hoff, setNext_setNext]
    · have hoff : offer k voice fuel acc c = acc := by
        unfold offer
        rw [if_neg hv]
      rw [hoff, ih acc g hg, List.filter_cons, if_neg (by simpa using hv)]

theorem graceStep_complete (notes : List Note) (st : List Grace × List Nat) (k : Nat) (g : Grace)
    (hg : lkG st.1 k = some g) (hm : (mainNote st.1 (st.1.length + 1) g).isSome = true) :
    graceStep notes st k = st := by
  unfold graceStep
  rw [hg]
  have hnone : (mainNote st.1 (st.1.length + 1) g).isNone = false := by
    cases hmm : mainNote st.1 (st.1.length + 1) g with
    | none => rw [hmm] at hm; cases hm
    | some _ => rfl
  simp only [hnone, Bool.false_eq_true, if_false, hg]

/-- the state of the loop after the keys `done`: the list is reachable from the entered one; every processed grace note
    that is not listed for removal has a main note; nothing listed had one when it was entered -/
structure Inv (notes : List Note) (gs0 : List Grace) (done : List Nat) (st : List Grace × List Nat) : Prop where
  reach : Reach (Adopter notes gs0) gs0 st.1
  kept : ∀ k ∈ done, k ∉ st.2 → ∀ g, lkG st.1 k = some g → (mainNote st.1 (st.1.length + 1) g).isSome = true
  listed : ∀ k ∈ st.2, k ∈ done ∧ ∀ g0, lkG gs0 k = some g0 → (mainNote gs0 (gs0.length + 1) g0).isSome = false

theorem graceStep_inv (notes : List Note) (gs0 : List Grace) (done : List Nat) (st : List Grace × List Nat) (k : Nat)
    (h : Inv notes gs0 done st) : Inv notes gs0 (done ++ [k]) (graceStep notes st k) := by
  obtain ⟨hreach, hkept, hlisted⟩ := h
  -- what is left to show once the list `gs1` and the removal list `rem` after the turn are known: the processed grace
  -- notes keep their main note, `k` has one unless it is listed, and `k` is listed only if it had none when entered
  have finish : ∀ (gs1 : List Grace) (rem : List Nat), Reach (Adopter notes gs0) gs0 gs1 →
      (∀ k' ∈ done, k' ∉ st.2 → ∀ g', lkG gs1 k' = some g' → (mainNote gs1 (gs1.length + 1) g').isSome = true) →
      (∀ x ∈ st.2, x ∈ rem) →
      (k ∉ rem → ∀ g', lkG gs1 k = some g' → (mainNote gs1 (gs1.length + 1) g').isSome = true) →
      (∀ k' ∈ rem, k' ∈ st.2 ∨
        (k' = k ∧ ∀ g0, lkG gs0 k = some g0 → (mainNote gs0 (gs0.length + 1) g0).isSome = false)) →
      Inv notes gs0 (done ++ [k]) (gs1, rem) := by
    intro gs1 rem hr hA hsub hB hC
    refine ⟨hr, ?_, ?_⟩
    · intro k' hk' hnot g' hl
      rcases List.mem_append.mp hk' with hd | hk1
      · exact hA k' hd (fun h => hnot (hsub k' h)) g' hl
      · cases List.mem_singleton.mp hk1; exact hB hnot g' hl
    · intro k' hk'
      rcases hC k' hk' with h | ⟨rfl, h⟩
      · exact ⟨List.mem_append_left _ (hlisted k' h).1, (hlisted k' h).2⟩
      · exact ⟨List.mem_append_right _ (List.mem_singleton.mpr rfl), h⟩
  unfold graceStep
  cases hg : lkG st.1 k with
  | none =>
    exact finish st.1 st.2 hreach hkept (fun _ h => h) (fun _ g' hl => by rw [hg] at hl; cases hl) (fun _ h => Or.inl h)
  | some g =>
    simp only
    generalize hgs1 : (if (mainNote st.1 (st.1.length + 1) g).isNone then
        (notes.filter fun n => n.start = g.start).foldl (offer k g.voice (st.1.length + 1)) st.1 else st.1) = gs1
    have hgmem := lkG_mem st.1 k g hg
    have hstep : Reach (Adopter notes gs0) st.1 gs1 := by
      rw [← hgs1]
      split
      · apply offers_reach notes gs0 k g.voice _
        intro no hno hv
        obtain ⟨hmem, hst⟩ := List.mem_filter.mp hno
        obtain ⟨f, hf, hprop⟩ := reach_map hreach
        rw [hf] at hgmem
        obtain ⟨g0, hg0, hfg⟩ := List.mem_map.mp hgmem.1
        refine ⟨no, hmem, rfl, g0, hg0, ?_, ?_⟩
        · rw [← (hprop g0).2.1, hfg]; simpa using hst
        · rw [← (hprop g0).2.2.1, hfg]; exact hv
      · exact Reach.refl
    have hreach1 := reach_trans hreach hstep
    have hlen : gs1.length = st.1.length := reach_length hstep
    have hlen0 : st.1.length = gs0.length := reach_length hreach
    have hkeep : ∀ k' ∈ done, k' ∉ st.2 → ∀ g', lkG gs1 k' = some g' →
        (mainNote gs1 (gs1.length + 1) g').isSome = true := fun k' hd hnot g' hl => by
      rw [hlen]; exact reach_main hstep (st.1.length + 1) k' g' hl (hkept k' hd hnot)
    cases hg1 : lkG gs1 k with
    | none =>
      exact finish gs1 st.2 hreach1 hkeep (fun _ h => h) (fun _ g' hl => by rw [hg1] at hl; cases hl) (fun _ h => Or.inl h)
    | some g1 =>
      simp only
      rw [hlen.symm]
      cases hmn : mainNote gs1 (gs1.length + 1) g1 with
      | none =>
        -- still no main note: `k` is listed; had it had one when entered, it would have one now
        refine finish gs1 (st.2 ++ [k]) hreach1 hkeep (fun _ h => List.mem_append_left _ h)
          (fun hnot => absurd (List.mem_append_right _ (List.mem_singleton.mpr rfl)) hnot) ?_
        intro k' hk'
        refine (List.mem_append.mp hk').imp id fun hnew => ⟨List.mem_singleton.mp hnew, fun g0 hl0 => ?_⟩
        cases hm0 : (mainNote gs0 (gs0.length + 1) g0).isSome with
        | false => rfl
        | true =>
          have := reach_main hreach1 (gs0.length + 1) k g1 hg1 fun g hg => by rw [hl0] at hg; cases hg; exact hm0
          rw [← hlen0, ← hlen, hmn] at this
          cases this
      | some x =>
        refine finish gs1 st.2 hreach1 hkeep (fun _ h => h) (fun _ g' hl => ?_) (fun _ h => Or.inl h)
        rw [hg1] at hl
        cases hl
        rw [hmn]; rfl

theorem graceLoop_inv (notes : List Note) (gs : List Grace) :
    Inv notes gs (gs.map (·.key)) (graceLoop notes gs) :=
  C11Lists.foldl_inv_prefix (Inv notes gs) (graceStep notes) (gs.map (·.key))
    (fun pre k _ st _ h => graceStep_inv notes gs pre st k h) (gs, [])
    ⟨Reach.refl, fun k hk => absurd hk List.not_mem_nil, fun k hk => absurd hk List.not_mem_nil⟩

end C11Grace
