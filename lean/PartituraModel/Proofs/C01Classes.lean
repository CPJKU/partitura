/-
C01 helper lemmas: facts about the generated class DAG, checked by kernel evaluation of the WHOLE table
(they are re-checked whenever harness/translate_classes.py regenerates Gen/Classes.lean).
-/
import PartituraModel.Model.Timeline

namespace TL

theorem class_table_lengths :
    Gen.classNames.length = Gen.numClasses ∧ Gen.directSubclasses.length = Gen.numClasses
      ∧ Gen.iterSubclassesTab.length = Gen.numClasses ∧ Gen.mroTab.length = Gen.numClasses := by
  decide +kernel

/-- the modelled `iter_subclasses` reproduces the sequences the implementation yields -/
theorem iterSubclasses_eq_tab :
    ∀ c ∈ List.range Gen.numClasses, iterSubclasses c = Gen.iterSubclassesTab.getD c [] := by
  decide +kernel

/-- swept over the rows of the tables, not over all pairs of classes; the depth-first search itself is evaluated once
per class, in `iterSubclasses_eq_tab` -/
theorem iterSubclassesTab_sound :
    ∀ c ∈ List.range Gen.numClasses, (Gen.iterSubclassesTab.getD c []).Nodup
      ∧ ∀ d ∈ Gen.iterSubclassesTab.getD c [], d ≠ c ∧ isSubclass d c = true := by
  decide +kernel

theorem iterSubclassesTab_complete :
    ∀ d ∈ List.range Gen.numClasses, ∀ c ∈ Gen.mroTab.getD d [], c ≠ d → d ∈ Gen.iterSubclassesTab.getD c [] := by
  decide +kernel

theorem iterSubclasses_nodup_tab :
    ∀ c ∈ List.range Gen.numClasses, (iterSubclasses c).Nodup ∧ c ∉ iterSubclasses c := by
  intro c hc
  rw [iterSubclasses_eq_tab c hc]
  exact ⟨(iterSubclassesTab_sound c hc).1, fun h => ((iterSubclassesTab_sound c hc).2 c h).1 rfl⟩

theorem iterSubclasses_desc_tab :
    ∀ c ∈ List.range Gen.numClasses, ∀ d ∈ List.range Gen.numClasses,
      (d ∈ iterSubclasses c ↔ (d ≠ c ∧ isSubclass d c = true)) := by
  intro c hc d hd
  rw [iterSubclasses_eq_tab c hc]
  refine ⟨(iterSubclassesTab_sound c hc).2 d, fun ⟨hne, hsub⟩ => ?_⟩
  exact iterSubclassesTab_complete d hd c (by simpa [isSubclass] using hsub) (Ne.symm hne)

theorem isSubclass_refl_tab : ∀ c ∈ List.range Gen.numClasses, isSubclass c c = true := by
  decide +kernel

theorem objectSubclasses_tab :
    Gen.objectSubclasses.Nodup ∧ ∀ k ∈ List.range Gen.numClasses, k ∈ Gen.objectSubclasses := by
  decide +kernel

theorem dfsFuel_pos : ∃ n, dfsFuel = n + 1 := ⟨dfsFuel - 1, by decide +kernel⟩

theorem getD_nil_of_ge {tab : List (List Nat)} {i : Nat} (h : tab.length ≤ i) : tab.getD i [] = [] := by
  rw [List.getD_eq_getElem?_getD, List.getElem?_eq_none h]
  rfl

theorem mem_getD_lt {tab : List (List Nat)} {i x : Nat} (h : x ∈ tab.getD i []) : i < tab.length := by
  by_cases hc : i < tab.length
  · exact hc
  · rw [getD_nil_of_ge (by omega)] at h
    cases h

theorem mem_getD_row {tab : List (List Nat)} {i x : Nat} (h : x ∈ tab.getD i []) : ∃ row ∈ tab, x ∈ row := by
  have hi := mem_getD_lt h
  rw [List.getD_eq_getElem?_getD, List.getElem?_eq_getElem hi] at h
  exact ⟨tab[i], List.getElem_mem hi, h⟩

theorem iterSubclasses_out_of_range {c : Nat} (h : Gen.numClasses ≤ c) : iterSubclasses c = [] := by
  unfold iterSubclasses
  rw [getD_nil_of_ge (by rw [class_table_lengths.2.1]; exact h)]
  obtain ⟨n, hn⟩ := dfsFuel_pos
  rw [hn]
  rfl

theorem iterSubclasses_nodup (c : Nat) : (iterSubclasses c).Nodup ∧ c ∉ iterSubclasses c := by
  by_cases h : c < Gen.numClasses
  · exact iterSubclasses_nodup_tab c (List.mem_range.mpr h)
  · rw [iterSubclasses_out_of_range (by omega)]
    simp

theorem subSeq_ok (cls : Option Nat) : (subSeq cls).Nodup ∧ ∀ c, cls = some c → c ∉ subSeq cls := by
  cases cls with
  | none => exact ⟨objectSubclasses_tab.1, fun c h => by cases h⟩
  | some c =>
    refine ⟨(iterSubclasses_nodup c).1, ?_⟩
    intro c' h
    cases h
    exact (iterSubclasses_nodup c).2

end TL
