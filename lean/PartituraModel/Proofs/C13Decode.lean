/-
Correctness of the run-length decoder `pianoroll_to_notearray` (C13), for every matrix and every reading of its cells.
The column loop sees a column only through the list of its active rows with their velocities; a reading is described by
a key per cell (`none` silent, `some v` sounding with velocity `v`; `stepActive` of Model/PianoRollDecodeQ.lean is the
body of the loop, `stepCol` is `stepActive` at `activeOf`).  The column-wise bookkeeping with the `active_notes`
dict projects, pitch by pitch, onto a one-row run-length machine, and that machine emits exactly the maximal stretches of
one key (`runsOf_spec`); the integer decoder is the reading `keyOf`, the real-valued one `keyQ` (Proofs/C13DecodeQ.lean).
At the end `emitRuns`: what `pianoroll_to_notearray` makes of the runs (pitch offset by shape, division by `time_div`).
-/
import PartituraModel.Proofs.C13
import PartituraModel.Model.PianoRollDecodeQ
import Mathlib.Data.Prod.Lex

namespace C13
open Model Model.PianoRoll
open List

def newRun (p t : Nat) (v : Int) : Run := { pitch := p, vel := v, on := t, off := t + 1 }
def bump (x : Run) : Run := { x with off := x.off + 1 }

/-- what one time step does to the runs of pitch `p`: `st.1` the open run (at most one), `st.2` the closed ones -/
def stepRow (p t : Nat) (v : Int) (st : List Run × List Run) : List Run × List Run :=
  if v = 0 then ([], st.2 ++ st.1)
  else
    match st.1.head? with
    | none => (st.1 ++ [newRun p t v], st.2)
    | some r => if v ≠ r.vel then ([newRun p t v], st.2 ++ [r]) else (st.1.map bump, st.2)

/-- the non-zero branch of `stepRow` -/
def stepRowNZ (p t : Nat) (v : Int) (st : List Run × List Run) : List Run × List Run :=
  match st.1.head? with
  | none => (st.1 ++ [newRun p t v], st.2)
  | some r => if v ≠ r.vel then ([newRun p t v], st.2 ++ [r]) else (st.1.map bump, st.2)

/-- The key of an integer cell: 0 is silence, any other value sounds with itself as velocity.  The machine and its
    invariant are stated over keys (`Option Int`) because the real-valued decoder has sounding cells of velocity 0
    (`0 < |cell| < 1`), which no integer matrix can show; over keys both decoders are one loop on two readings. -/
def keyOf (v : Int) : Option Int := if v = 0 then none else some v

def stepRowK (p t : Nat) (k : Option Int) (st : List Run × List Run) : List Run × List Run :=
  match k with
  | none => ([], st.2 ++ st.1)
  | some v => stepRowNZ p t v st

theorem stepRow_eq (p t : Nat) (v : Int) (st : List Run × List Run) :
    stepRow p t v st = stepRowK p t (keyOf v) st := by
  by_cases hv : v = 0
  · simp [stepRow, stepRowK, keyOf, hv]
  · simp only [stepRow, stepRowK, stepRowNZ, keyOf, if_neg hv]

/-- an open run at time `t`: one key since `on`, not extendable to the left -/
def OpenK (κ : Nat → Option Int) (p t : Nat) (a : Run) : Prop :=
  a.pitch = p ∧ a.on < t ∧ a.off = t ∧ (∀ s, a.on ≤ s → s < t → κ s = some a.vel) ∧
    (a.on = 0 ∨ κ (a.on - 1) ≠ some a.vel)

/-- a closed run: one key from `on` to `off`, not extendable on either side, ended before `t` -/
def ClosedK (κ : Nat → Option Int) (p t : Nat) (x : Run) : Prop :=
  x.pitch = p ∧ x.on < x.off ∧ x.off < t ∧ (∀ s, x.on ≤ s → s < x.off → κ s = some x.vel) ∧
    (x.on = 0 ∨ κ (x.on - 1) ≠ some x.vel) ∧ κ x.off ≠ some x.vel

/-- a maximal stretch of one key in a row of `T` cells -/
def MaxRunK (κ : Nat → Option Int) (T : Nat) (x : Run) : Prop :=
  x.on < x.off ∧ x.off ≤ T ∧ (∀ s, x.on ≤ s → s < x.off → κ s = some x.vel) ∧
    (x.on = 0 ∨ κ (x.on - 1) ≠ some x.vel) ∧ (x.off = T ∨ κ x.off ≠ some x.vel)

theorem Run.ext {a b : Run} (h1 : a.pitch = b.pitch) (h2 : a.vel = b.vel) (h3 : a.on = b.on) (h4 : a.off = b.off) :
    a = b := by
  cases a; cases b
  simp only [Run.mk.injEq]
  exact ⟨h1, h2, h3, h4⟩


/-- a stretch of one value that cannot be extended to the left has one start -/
theorem stretch_start_unique {β : Type} {f : Nat → β} {v : β} {t a b : Nat} (ha : a < t) (hb : b < t)
    (a5 : ∀ s, a ≤ s → s < t → f s = v) (a6 : a = 0 ∨ f (a - 1) ≠ v)
    (b5 : ∀ s, b ≤ s → s < t → f s = v) (b6 : b = 0 ∨ f (b - 1) ≠ v) : a = b := by
  have key : ∀ {a b : Nat}, b < t → (∀ s, a ≤ s → s < t → f s = v) → (b = 0 ∨ f (b - 1) ≠ v) → ¬ a < b := by
    intro a b hb a5 b6 h
    rcases b6 with h0 | h0
    · omega
    · exact h0 (a5 (b - 1) (by omega) (by omega))
  have := key hb a5 b6
  have := key ha b5 a6
  omega

theorem open_uniqueK {κ : Nat → Option Int} {p t : Nat} {a b : Run} (ha : OpenK κ p t a) (hb : OpenK κ p t b) : a = b := by
  obtain ⟨a1, a3, a4, a5, a6⟩ := ha
  obtain ⟨b1, b3, b4, b5, b6⟩ := hb
  have hv : a.vel = b.vel :=
    Option.some.inj ((a5 (t - 1) (by omega) (by omega)).symm.trans (b5 (t - 1) (by omega) (by omega)))
  exact Run.ext (a1.trans b1.symm) hv (stretch_start_unique a3 b3 a5 a6 (hv ▸ b5) (hv ▸ b6)) (a4.trans b4.symm)

/-- the runs of pitch `p` after `t` cells: at most one open run, and one whenever cell `t - 1` sounds; the closed runs,
    each once, are exactly the maximal stretches that ended before `t` -/
structure InvK (κ : Nat → Option Int) (p t : Nat) (st : List Run × List Run) : Prop where
  len : st.1.length ≤ 1
  opn : ∀ a ∈ st.1, OpenK κ p t a
  some : 0 < t → κ (t - 1) ≠ none → st.1 ≠ []
  cls : ∀ x, x ∈ st.2 ↔ ClosedK κ p t x
  nodup : st.2.Nodup

theorem closedK_succ {κ : Nat → Option Int} {p t : Nat} {x : Run} :
    ClosedK κ p (t + 1) x ↔ ClosedK κ p t x ∨ (OpenK κ p t x ∧ κ t ≠ some x.vel) := by
  constructor
  · rintro ⟨h1, h3, h4, h5, h6, h7⟩
    by_cases h : x.off < t
    · exact Or.inl ⟨h1, h3, h, h5, h6, h7⟩
    · have : x.off = t := by omega
      right
      subst this
      exact ⟨⟨h1, h3, rfl, h5, h6⟩, h7⟩
  · rintro (⟨h1, h3, h4, h5, h6, h7⟩ | ⟨⟨h1, h3, h4, h5, h6⟩, h7⟩)
    · exact ⟨h1, h3, by omega, h5, h6, h7⟩
    · subst h4
      exact ⟨h1, h3, by omega, h5, h6, h7⟩

theorem InvK.nodup_append {κ : Nat → Option Int} {p t : Nat} {st : List Run × List Run} (h : InvK κ p t st) :
    (st.2 ++ st.1).Nodup := by
  obtain ⟨A, D⟩ := st
  obtain ⟨hlen, hopn, _, hcls, hnd⟩ := h
  simp only at hlen hopn hcls hnd ⊢
  rw [List.nodup_append]
  refine ⟨hnd, ?_, ?_⟩
  · cases A with
    | nil => simp
    | cons a A' =>
      cases A' with
      | nil => simp
      | cons b B => simp at hlen
  · intro x hx y hy hxy
    subst hxy
    have h1 := ((hcls x).mp hx).2.2.1
    have h2 := (hopn x hy).2.2.1
    omega

theorem InvK.mem_open {κ : Nat → Option Int} {p t : Nat} {st : List Run × List Run} (h : InvK κ p t st) {x : Run} :
    x ∈ st.1 ↔ OpenK κ p t x := by
  refine ⟨h.opn x, fun ho => ?_⟩
  have ⟨_, h3, _, h5, _⟩ := ho
  have hne : st.1 ≠ [] := h.some (by omega) (by rw [h5 (t - 1) (by omega) (by omega)]; exact Option.some_ne_none _)
  obtain ⟨a, ha⟩ := exists_mem_of_ne_nil _ hne
  rw [open_uniqueK ho (h.opn a ha)]
  exact ha

theorem openK_newRun {κ : Nat → Option Int} (p : Nat) {t : Nat} {v : Int} (hv : κ t = some v)
    (hprev : t = 0 ∨ κ (t - 1) ≠ some v) : OpenK κ p (t + 1) (newRun p t v) := by
  refine ⟨rfl, Nat.lt_succ_self t, rfl, fun s h1 h2 => ?_, hprev⟩
  have : s = t := by simp only [newRun] at h1; omega
  rw [this]
  exact hv

theorem openK_bump {κ : Nat → Option Int} {p t : Nat} {a : Run} (ho : OpenK κ p t a) (heq : κ t = some a.vel) :
    OpenK κ p (t + 1) (bump a) := by
  obtain ⟨h1, h3, h4, h5, h6⟩ := ho
  refine ⟨h1, Nat.lt_succ_of_lt h3, congrArg (· + 1) h4, fun s hs1 hs2 => ?_, h6⟩
  by_cases hst : s < t
  · exact h5 s hs1 hst
  · have : s = t := by omega
    rw [this]
    exact heq

theorem inv_stepK {κ : Nat → Option Int} {p t : Nat} {st : List Run × List Run} (h : InvK κ p t st) :
    InvK κ p (t + 1) (stepRowK p t (κ t) st) := by
  have hnda := h.nodup_append
  have hcl : ∀ x, ClosedK κ p (t + 1) x ↔ x ∈ st.2 ∨ (x ∈ st.1 ∧ κ t ≠ some x.vel) := fun x => by
    rw [closedK_succ, h.cls, h.mem_open]
  obtain ⟨A, D⟩ := st
  obtain ⟨hlen, hopn, hsome, _, hnd⟩ := h
  simp only at hlen hopn hsome hnd hnda hcl
  unfold stepRowK
  cases hv : κ t with
  | none =>
    -- the open run (if any) is closed
    simp only
    refine ⟨Nat.zero_le 1, fun _ ha => absurd ha not_mem_nil, fun _ h0 => ?_, fun x => ?_, hnda⟩
    · rw [Nat.add_sub_cancel] at h0; exact absurd hv h0
    · rw [hcl, mem_append, and_iff_left_of_imp]
      intro _
      rw [hv]
      exact nofun
  | some v =>
    simp only [stepRowNZ]
    cases A with
    | nil =>
      -- a new run starts
      simp only [head?_nil, nil_append]
      have hprev : t = 0 ∨ κ (t - 1) ≠ some v := by
        by_cases h0 : t = 0
        · exact Or.inl h0
        · exact Or.inr fun hc => hsome (by omega) (by rw [hc]; exact Option.some_ne_none _) rfl
      refine ⟨Nat.le_refl 1, fun a ha => ?_, fun _ _ => cons_ne_nil _ _, fun x => ?_, hnd⟩
      · rw [mem_singleton.mp ha]
        exact openK_newRun p hv hprev
      · rw [hcl]
        simp
    | cons a A' =>
      have hA' : A' = [] := length_eq_zero_iff.mp (by simp only [length_cons] at hlen; omega)
      subst hA'
      have hoa := hopn a (mem_singleton.mpr rfl)
      simp only [head?_cons]
      by_cases hne : v ≠ a.vel
      · -- the value changes: close `a`, open a new run
        rw [if_pos hne]
        have hprev : t = 0 ∨ κ (t - 1) ≠ some v := by
          right
          rw [hoa.2.2.2.1 (t - 1) (by have := hoa.2.1; omega) (by have := hoa.2.1; omega)]
          exact fun hc => hne (Option.some.inj hc).symm
        refine ⟨Nat.le_refl 1, fun b hb => ?_, fun _ _ => cons_ne_nil _ _, fun x => ?_, hnda⟩
        · rw [mem_singleton.mp hb]
          exact openK_newRun p hv hprev
        · rw [hcl, mem_append, mem_singleton]
          exact or_congr_right ⟨fun hx => ⟨hx, by rw [hx, hv]; exact fun hc => hne (Option.some.inj hc)⟩, And.left⟩
      · -- same value: the open run grows
        have heq : v = a.vel := not_not.mp hne
        rw [if_neg hne]
        refine ⟨Nat.le_refl 1, fun b hb => ?_, fun _ _ => cons_ne_nil _ _, fun x => ?_, hnd⟩
        · rw [mem_singleton.mp hb]
          exact openK_bump hoa (heq ▸ hv)
        · rw [hcl, mem_singleton]
          exact ⟨Or.inl, fun hx => hx.elim id fun ⟨hxa, hch⟩ => absurd (by rw [hxa, hv, heq]) hch⟩

theorem inv_initK (κ : Nat → Option Int) (p : Nat) : InvK κ p 0 ([], []) :=
  ⟨by simp, by simp, by simp, by simp [ClosedK], by simp⟩

theorem inv_finalK {κ : Nat → Option Int} {p T : Nat} {st : List Run × List Run} (h : InvK κ p T st) :
    (st.2 ++ st.1).Nodup ∧ ∀ x, x ∈ st.2 ++ st.1 ↔ (x.pitch = p ∧ MaxRunK κ T x) := by
  refine ⟨h.nodup_append, fun x => ?_⟩
  rw [mem_append, h.cls, h.mem_open]
  constructor
  · rintro (⟨h1, h3, h4, h5, h6, h7⟩ | ⟨h1, h3, h4, h5, h6⟩)
    · exact ⟨h1, h3, by omega, h5, h6, Or.inr h7⟩
    · exact ⟨h1, by omega, by omega, by rw [h4]; exact h5, h6, Or.inl h4⟩
  · rintro ⟨h1, h3, h4, h5, h6, h7⟩
    by_cases hoff : x.off = T
    · exact Or.inr ⟨h1, by omega, hoff, by rw [← hoff]; exact h5, h6⟩
    · exact Or.inl ⟨h1, h3, by omega, h5, h6, h7.resolve_left hoff⟩

/-! ### the integer reading: `κ = keyOf ∘ f`

`Open`, `Closed`, `Inv`, `inv_step`, `inv_init`: the row machine for an integer row `f` with 0 as silence, as DESIGN.md
states it; it is the instance `keyOf ∘ f` of the key machine (`inv_iffK`). -/

/-- an open run at time `t`: constant non-zero value since `on`, not extendable to the left -/
def Open (f : Nat → Int) (p t : Nat) (a : Run) : Prop :=
  a.pitch = p ∧ a.vel ≠ 0 ∧ a.on < t ∧ a.off = t ∧ (∀ s, a.on ≤ s → s < t → f s = a.vel) ∧
    (a.on = 0 ∨ f (a.on - 1) ≠ a.vel)

def Closed (f : Nat → Int) (p t : Nat) (x : Run) : Prop :=
  x.pitch = p ∧ x.vel ≠ 0 ∧ x.on < x.off ∧ x.off < t ∧ (∀ s, x.on ≤ s → s < x.off → f s = x.vel) ∧
    (x.on = 0 ∨ f (x.on - 1) ≠ x.vel) ∧ f x.off ≠ x.vel

structure Inv (f : Nat → Int) (p t : Nat) (st : List Run × List Run) : Prop where
  len : st.1.length ≤ 1
  opn : ∀ a ∈ st.1, Open f p t a
  some : 0 < t → f (t - 1) ≠ 0 → st.1 ≠ []
  cls : ∀ x, x ∈ st.2 ↔ Closed f p t x
  nodup : st.2.Nodup

def MaxRun (f : Nat → Int) (T : Nat) (x : Run) : Prop :=
  x.vel ≠ 0 ∧ x.on < x.off ∧ x.off ≤ T ∧ (∀ s, x.on ≤ s → s < x.off → f s = x.vel) ∧
    (x.on = 0 ∨ f (x.on - 1) ≠ x.vel) ∧ (x.off = T ∨ f x.off ≠ x.vel)

theorem keyOf_eq_some {v w : Int} : keyOf v = some w ↔ v = w ∧ w ≠ 0 := by
  unfold keyOf
  split
  · rename_i h; subst h; exact ⟨nofun, fun ⟨h1, h2⟩ => absurd h1.symm h2⟩
  · rename_i h; rw [Option.some.injEq]; exact ⟨fun e => ⟨e, e ▸ h⟩, And.left⟩

/-- a stretch `[a, b)` of one key, in the integer reading -/
theorem const_keyOf {f : Nat → Int} {a b : Nat} {v : Int} (hab : a < b) :
    (∀ s, a ≤ s → s < b → keyOf (f s) = some v) ↔ v ≠ 0 ∧ ∀ s, a ≤ s → s < b → f s = v :=
  ⟨fun h => ⟨(keyOf_eq_some.mp (h a (le_refl a) hab)).2, fun s h1 h2 => (keyOf_eq_some.mp (h s h1 h2)).1⟩,
    fun ⟨h0, h⟩ s h1 h2 => keyOf_eq_some.mpr ⟨h s h1 h2, h0⟩⟩

theorem edge_keyOf {v w : Int} (hw : w ≠ 0) : keyOf v ≠ some w ↔ v ≠ w :=
  not_congr (keyOf_eq_some.trans (and_iff_left hw))

theorem open_iffK {f : Nat → Int} {p t : Nat} {a : Run} : Open f p t a ↔ OpenK (fun s => keyOf (f s)) p t a := by
  unfold Open OpenK
  constructor
  · rintro ⟨h1, h2, h3, h4, h5, h6⟩
    exact ⟨h1, h3, h4, (const_keyOf h3).mpr ⟨h2, h5⟩, h6.imp_right (edge_keyOf h2).mpr⟩
  · rintro ⟨h1, h3, h4, h5, h6⟩
    obtain ⟨h2, h5'⟩ := (const_keyOf h3).mp h5
    exact ⟨h1, h2, h3, h4, h5', h6.imp_right (edge_keyOf h2).mp⟩

theorem closed_iffK {f : Nat → Int} {p t : Nat} {x : Run} : Closed f p t x ↔ ClosedK (fun s => keyOf (f s)) p t x := by
  unfold Closed ClosedK
  constructor
  · rintro ⟨h1, h2, h3, h4, h5, h6, h7⟩
    exact ⟨h1, h3, h4, (const_keyOf h3).mpr ⟨h2, h5⟩, h6.imp_right (edge_keyOf h2).mpr, (edge_keyOf h2).mpr h7⟩
  · rintro ⟨h1, h3, h4, h5, h6, h7⟩
    obtain ⟨h2, h5'⟩ := (const_keyOf h3).mp h5
    exact ⟨h1, h2, h3, h4, h5', h6.imp_right (edge_keyOf h2).mp, (edge_keyOf h2).mp h7⟩

theorem maxRun_iffK {f : Nat → Int} {T : Nat} {x : Run} : MaxRun f T x ↔ MaxRunK (fun s => keyOf (f s)) T x := by
  unfold MaxRun MaxRunK
  constructor
  · rintro ⟨h2, h3, h4, h5, h6, h7⟩
    exact ⟨h3, h4, (const_keyOf h3).mpr ⟨h2, h5⟩, h6.imp_right (edge_keyOf h2).mpr, h7.imp_right (edge_keyOf h2).mpr⟩
  · rintro ⟨h3, h4, h5, h6, h7⟩
    obtain ⟨h2, h5'⟩ := (const_keyOf h3).mp h5
    exact ⟨h2, h3, h4, h5', h6.imp_right (edge_keyOf h2).mp, h7.imp_right (edge_keyOf h2).mp⟩

theorem inv_iffK {f : Nat → Int} {p t : Nat} {st : List Run × List Run} :
    Inv f p t st ↔ InvK (fun s => keyOf (f s)) p t st := by
  have hs : ∀ s, keyOf (f s) ≠ none ↔ f s ≠ 0 := fun s => by unfold keyOf; split <;> simp [*]
  exact ⟨fun h => ⟨h.len, fun a ha => open_iffK.mp (h.opn a ha), fun h0 h1 => h.some h0 ((hs _).mp h1),
      fun x => (h.cls x).trans closed_iffK, h.nodup⟩,
    fun h => ⟨h.len, fun a ha => open_iffK.mpr (h.opn a ha), fun h0 h1 => h.some h0 ((hs _).mpr h1),
      fun x => (h.cls x).trans closed_iffK.symm, h.nodup⟩⟩

theorem inv_step {f : Nat → Int} {p t : Nat} {st : List Run × List Run} (h : Inv f p t st) :
    Inv f p (t + 1) (stepRow p t (f t) st) := by
  rw [stepRow_eq]
  exact inv_iffK.mpr (inv_stepK (inv_iffK.mp h))

theorem inv_init (f : Nat → Int) (p : Nat) : Inv f p 0 ([], []) := inv_iffK.mpr (inv_initK _ p)

def isP (p : Nat) (r : Run) : Bool := r.pitch == p

/-- the runs of pitch `p` in a state of the column loop: a state of the row machine of `p` -/
def proj (p : Nat) (st : List Run × List Run) : List Run × List Run :=
  (st.1.filter (isP p), st.2.filter (isP p))

theorem filter_isP_const {p : Nat} {q : Run → Bool} {b : Bool} (hq : ∀ x, isP p x = true → q x = b) (l : List Run) :
    (l.filter q).filter (isP p) = if b = true then l.filter (isP p) else [] := by
  rw [filter_filter]
  split
  · rename_i hb
    refine filter_congr fun x _ => ?_
    by_cases hx : isP p x = true
    · rw [hx, hq x hx, hb]; rfl
    · rw [Bool.not_eq_true] at hx
      rw [hx]; rfl
  · rename_i hb
    rw [filter_eq_nil_iff]
    intro x _ hc
    rw [Bool.and_eq_true] at hc
    exact hb ((hq x hc.1).symm.trans hc.2)

/-- `A` lists, without repeating a row, exactly the rows with a key, each with its key -/
structure Graph (A : List (Nat × Int)) (κ : Nat → Option Int) : Prop where
  mem : ∀ p v, (p, v) ∈ A ↔ κ p = some v
  nodup : (A.map (·.1)).Nodup

theorem Graph.split {A : List (Nat × Int)} {κ : Nat → Option Int} (h : Graph A κ) {p : Nat} {v : Int} (hv : κ p = some v) :
    ∃ L1 L2, A = L1 ++ (p, v) :: L2 ∧ (∀ pv ∈ L1, pv.1 ≠ p) ∧ (∀ pv ∈ L2, pv.1 ≠ p) := by
  obtain ⟨L1, L2, e⟩ := append_of_mem ((h.mem p v).mpr hv)
  have hn := h.nodup
  rw [e, map_append, map_cons, nodup_append] at hn
  obtain ⟨_, h2, h3⟩ := hn
  refine ⟨L1, L2, e, fun pv hpv hc => ?_, fun pv hpv hc => ?_⟩
  · exact h3 pv.1 (mem_map.mpr ⟨pv, hpv, rfl⟩) p (by simp) hc
  · exact (nodup_cons.mp h2).1 (mem_map.mpr ⟨pv, hpv, hc⟩)

theorem Graph.none {A : List (Nat × Int)} {κ : Nat → Option Int} (h : Graph A κ) {p : Nat} (hv : κ p = none) :
    ∀ pv ∈ A, pv.1 ≠ p := by
  rintro ⟨q, v⟩ hpv rfl
  rw [(h.mem q v).mp hpv] at hv
  cases hv

theorem Graph.any_iff {A : List (Nat × Int)} {κ : Nat → Option Int} (h : Graph A κ) (p : Nat) :
    A.any (fun pv => pv.1 == p) = (κ p).isSome := by
  rw [Bool.eq_iff_iff, any_eq_true]
  constructor
  · rintro ⟨⟨q, v⟩, hpv, he⟩
    have : q = p := by simpa using he
    subst this
    rw [(h.mem q v).mp hpv]; rfl
  · intro hs
    obtain ⟨v, hv⟩ := Option.isSome_iff_exists.mp hs
    exact ⟨(p, v), (h.mem p v).mpr hv, by simp⟩

theorem filter_isP_of_ne {p q : Nat} (h : q ≠ p) (l : List Run) :
    (l.filter (fun x => x.pitch != q)).filter (isP p) = l.filter (isP p) :=
  filter_isP_const (b := true) (fun x hx => by rw [beq_iff_eq.mp hx]; exact bne_iff_ne.mpr h.symm) l

theorem filter_isP_same (p : Nat) (l : List Run) :
    (l.filter (fun x => x.pitch != p)).filter (isP p) = [] :=
  filter_isP_const (b := false) (fun x hx => by rw [beq_iff_eq.mp hx]; exact bne_self_eq_false p) l

/-- a map that keeps the pitches acts on the runs of pitch `p` alone -/
theorem filter_isP_map {p : Nat} {g g' : Run → Run} (hg : ∀ x, (g x).pitch = x.pitch)
    (hp : ∀ x, x.pitch = p → g x = g' x) (l : List Run) : (l.map g).filter (isP p) = (l.filter (isP p)).map g' := by
  rw [filter_map, show isP p ∘ g = isP p from funext fun x => by simp only [Function.comp, isP, hg]]
  exact map_congr_left fun x hx => hp x (beq_iff_eq.mp (mem_filter.mp hx).2)

theorem filter_isP_map_other {p q : Nat} (h : q ≠ p) (l : List Run) :
    (l.map (fun x => if x.pitch == q then { x with off := x.off + 1 } else x)).filter (isP p) = l.filter (isP p) :=
  (filter_isP_map (g' := id) (fun x => by split <;> rfl) (fun x hx => if_neg (by rw [hx]; simpa using h.symm)) l).trans
    (map_id _)

theorem filter_isP_map_same (p : Nat) (l : List Run) :
    (l.map (fun x => if x.pitch == p then { x with off := x.off + 1 } else x)).filter (isP p) =
      (l.filter (isP p)).map bump :=
  filter_isP_map (fun x => by split <;> rfl) (fun x hx => if_pos (beq_iff_eq.mpr hx)) l

theorem find_isP (p : Nat) (l : List Run) : l.find? (fun r => r.pitch == p) = (l.filter (isP p)).head? := by
  induction l with
  | nil => rfl
  | cons a l ih =>
    by_cases ha : a.pitch = p
    · simp [isP, ha]
    · have hb : (a.pitch == p) = false := by simpa using ha
      simp only [find?_cons, filter_cons, isP, hb, Bool.false_eq_true, if_false]
      exact ih

theorem proj_stepNote_other {p q : Nat} (h : q ≠ p) (t : Nat) (v : Int) (st : List Run × List Run) :
    proj p (stepNote t st (q, v)) = proj p st := by
  obtain ⟨act, done⟩ := st
  unfold stepNote proj
  simp only
  cases hf : act.find? (fun r => r.pitch == q) with
  | none =>
    simp only [filter_append, filter_cons, filter_nil, isP]
    have : ((q == p) = false) := by simpa using h
    simp [this]
  | some r =>
    have hr : r.pitch = q := by
      have := find?_some hf
      simpa using this
    simp only
    split
    · simp only [filter_append, filter_isP_of_ne h, filter_cons, filter_nil, isP, hr]
      have : ((q == p) = false) := by simpa using h
      simp [this]
    · simp only [filter_isP_map_other h]

theorem proj_stepNote_same (p t : Nat) (v : Int) (st : List Run × List Run) :
    proj p (stepNote t st (p, v)) = stepRowNZ p t v (proj p st) := by
  obtain ⟨act, done⟩ := st
  unfold stepNote proj stepRowNZ
  simp only
  rw [find_isP]
  cases hf : (act.filter (isP p)).head? with
  | none =>
    simp only [filter_append, filter_cons, filter_nil, isP, newRun, beq_self_eq_true, if_true]
  | some r =>
    have hr : r.pitch = p := by
      have hm : r ∈ act.filter (isP p) := mem_of_mem_head? hf
      have := (mem_filter.mp hm).2
      simpa [isP] using this
    simp only
    split
    · simp only [filter_append, filter_isP_same, filter_cons, filter_nil, isP, hr, newRun, beq_self_eq_true,
        if_true, nil_append]
    · simp only [filter_isP_map_same]

theorem proj_foldl_other {p t : Nat} (L : List (Nat × Int)) (hL : ∀ pv ∈ L, pv.1 ≠ p) (st : List Run × List Run) :
    proj p (L.foldl (stepNote t) st) = proj p st := by
  induction L generalizing st with
  | nil => rfl
  | cons pv L ih =>
    simp only [foldl_cons]
    rw [ih (fun x hx => hL x (by simp [hx]))]
    obtain ⟨q, v⟩ := pv
    exact proj_stepNote_other (hL (q, v) (by simp)) t v st

theorem proj_foldl_hit {p t : Nat} {v : Int} (L1 L2 : List (Nat × Int)) (h1 : ∀ pv ∈ L1, pv.1 ≠ p)
    (h2 : ∀ pv ∈ L2, pv.1 ≠ p) (st : List Run × List Run) :
    proj p ((L1 ++ (p, v) :: L2).foldl (stepNote t) st) = stepRowNZ p t v (proj p st) := by
  rw [foldl_append, foldl_cons, proj_foldl_other L2 h2, proj_stepNote_same, proj_foldl_other L1 h1]

/-- one time step of the whole machine is one step of every row machine -/
theorem proj_stepActive (p t : Nat) {A : List (Nat × Int)} {κ : Nat → Option Int} (hA : Graph A κ)
    (st : List Run × List Run) :
    proj p (stepActive st (t, A)) = stepRowK p t (κ p) (proj p st) := by
  obtain ⟨act, done⟩ := st
  -- among the runs of pitch `p`, "active in this column" is decided by the key of row `p`
  have hact : ∀ x, isP p x = true → A.any (fun pv => pv.1 == x.pitch) = (κ p).isSome := by
    intro x hx
    have hxp : x.pitch = p := by simpa [isP] using hx
    rw [hA.any_iff, hxp]
  have h1 := filter_isP_const hact act
  have h2 := filter_isP_const (q := fun r => !A.any (fun pv => pv.1 == r.pitch))
    (fun x hx => congrArg not (hact x hx)) act
  unfold stepActive
  simp only
  cases hv : κ p with
  | none =>
    rw [proj_foldl_other _ (hA.none hv)]
    unfold stepRowK proj
    simp only [hv, Option.isSome_none, Bool.false_eq_true, if_false, Bool.not_false, if_true] at h1 h2 ⊢
    rw [filter_append, h1, h2]
  | some v =>
    obtain ⟨L1, L2, e, hL1, hL2⟩ := hA.split hv
    rw [e, proj_foldl_hit L1 L2 hL1 hL2, ← e]
    unfold stepRowK proj
    simp only [hv, Option.isSome_some, if_true, Bool.not_true, Bool.false_eq_true, if_false] at h1 h2 ⊢
    rw [filter_append, h1, h2, append_nil]

/-- the column loop from time `t` on, each column `c` read through its active list `A c` -/
def foldCols {α : Type} (A : α → List (Nat × Int)) : Nat → List α → (List Run × List Run) → (List Run × List Run)
  | _, [], st => st
  | t, c :: cs, st => foldCols A (t + 1) cs (stepActive st (t, A c))

def runsOf {α : Type} (A : α → List (Nat × Int)) (cols : List α) : List Run :=
  sortRuns ((foldCols A 0 cols ([], [])).2 ++ (foldCols A 0 cols ([], [])).1)

theorem runLe_iff (a b : Run) : runLe a b = true ↔
    (a.on < b.on ∨ (a.on = b.on ∧ (a.pitch < b.pitch ∨ (a.pitch = b.pitch ∧
      (a.off < b.off ∨ (a.off = b.off ∧ a.vel ≤ b.vel)))))) := by
  unfold runLe
  by_cases h1 : a.on = b.on <;> by_cases h2 : a.pitch = b.pitch <;> by_cases h3 : a.off = b.off <;>
    simp [h1, h2, h3]

theorem totalPre_runLe : Lists.TotalPreorder runLe :=
  .of_iff (fun a : Run => toLex (a.on, toLex (a.pitch, toLex (a.off, a.vel)))) fun a b => by
    rw [runLe_iff]
    simp only [Prod.Lex.toLex_le_toLex]

/-- the model's loops run over an enumeration of the columns (one enumerating function per element type) -/
theorem foldl_enum_eq_foldCols {α : Type} {e : Nat → List α → List (Nat × α)} (he : Lists.IsEnum e)
    (A : α → List (Nat × Int)) (cols : List α) :
    ∀ i st, (e i cols).foldl (fun st tc => stepActive st (tc.1, A tc.2)) st = foldCols A i cols st := by
  induction cols with
  | nil => intro i st; rw [he.nil]; rfl
  | cons c cs ih => intro i st; rw [he.cons]; exact ih _ _

theorem inv_foldCols {α : Type} (A : α → List (Nat × Int)) (κ : Nat → Nat → Option Int) (p : Nat) (cols : List α) :
    ∀ (t : Nat) (st : List Run × List Run), (∀ j c, cols[j]? = some c → Graph (A c) (κ (t + j))) →
      InvK (fun s => κ s p) p t (proj p st) →
      InvK (fun s => κ s p) p (t + cols.length) (proj p (foldCols A t cols st)) := by
  induction cols with
  | nil => intro t st _ h; exact h
  | cons c cs ih =>
    intro t st hG h
    have := ih (t + 1) (stepActive st (t, A c))
      (fun j c' hj => by have := hG (j + 1) c' (by simpa using hj); rwa [Nat.add_comm j 1, ← Nat.add_assoc] at this)
      (by rw [proj_stepActive p t (hG 0 c rfl)]; exact inv_stepK h)
    rw [length_cons, ← Nat.add_assoc, Nat.add_right_comm]
    exact this

/-- **the decoder, for any reading of the columns**: the runs come without repetition, sorted by (onset, pitch, offset,
    velocity), and are exactly the maximal stretches of one key in a row -/
theorem runsOf_spec {α : Type} (A : α → List (Nat × Int)) (κ : Nat → Nat → Option Int) (cols : List α)
    (hG : ∀ j c, cols[j]? = some c → Graph (A c) (κ j)) :
    (runsOf A cols).Nodup ∧ (runsOf A cols).Pairwise (fun a b => runLe a b = true) ∧
    ∀ x, x ∈ runsOf A cols ↔ MaxRunK (fun s => κ s x.pitch) cols.length x := by
  unfold runsOf
  set l := (foldCols A 0 cols ([], [])).2 ++ (foldCols A 0 cols ([], [])).1 with hl
  have hfin : ∀ p, (l.filter (isP p)).Nodup ∧
      ∀ x, x ∈ l.filter (isP p) ↔ (x.pitch = p ∧ MaxRunK (fun s => κ s p) cols.length x) := by
    intro p
    have := inv_finalK (inv_foldCols A κ p cols 0 ([], []) (by simpa using hG) (inv_initK _ p))
    rw [Nat.zero_add] at this
    rw [hl, filter_append]
    exact this
  have hperm : sortRuns l ~ l := (isSort runLe).perm l
  refine ⟨?_, sortBy_pairwise totalPre_runLe l, ?_⟩
  · rw [hperm.nodup_iff, nodup_iff_count]
    intro a
    have h1 : count a (l.filter (isP a.pitch)) = count a l := count_filter (by simp [isP])
    rw [← h1]
    exact nodup_iff_count.mp (hfin a.pitch).1 a
  · intro x
    rw [hperm.mem_iff]
    have h1 : x ∈ l ↔ x ∈ l.filter (isP x.pitch) := by
      rw [mem_filter]; simp [isP]
    rw [h1, (hfin x.pitch).2 x]
    simp

def valAt (col : List Int) (p : Nat) : Int := col[p]?.getD 0

theorem isEnum_enumCol : Lists.IsEnum activeOf.enumCol := ⟨fun _ => rfl, fun _ _ _ => rfl⟩

theorem mem_enumCol {i : Nat} {col : List Int} {pv : Nat × Int} :
    pv ∈ activeOf.enumCol i col ↔ i ≤ pv.1 ∧ col[pv.1 - i]? = some pv.2 :=
  isEnum_enumCol.mem

theorem mem_activeOf {col : List Int} {pv : Nat × Int} :
    pv ∈ activeOf col ↔ col[pv.1]? = some pv.2 ∧ pv.2 ≠ 0 := by
  unfold activeOf
  rw [mem_filter, mem_enumCol]
  simp

theorem nodup_of_pairwise_fst {β : Type} {l : List (Nat × β)} (h : l.Pairwise (fun a b => a.1 < b.1)) :
    (l.map (·.1)).Nodup := by
  rw [Nodup, pairwise_map]
  exact h.imp fun hab => Nat.ne_of_lt hab

theorem graph_activeOf (col : List Int) : Graph (activeOf col) (fun p => keyOf (valAt col p)) where
  mem p v := by
    rw [mem_activeOf, keyOf_eq_some]
    unfold valAt
    constructor
    · rintro ⟨h1, h2⟩; rw [h1]; exact ⟨rfl, h2⟩
    · rintro ⟨h1, h2⟩
      cases hc : col[p]? with
      | none => rw [hc] at h1; exact absurd h1.symm h2
      | some w => rw [hc] at h1; exact ⟨congrArg _ h1, h2⟩
  nodup := nodup_of_pairwise_fst
    ((isEnum_enumCol.pairwise 0 col).sublist filter_sublist)

/-- `pianoroll[p, t]` of a matrix given by its columns (0 outside) -/
def cellAt (cols : List (List Int)) (p t : Nat) : Int :=
  match cols[t]? with
  | some c => valAt c p
  | none => 0

theorem decodeRuns_eq_runsOf (cols : List (List Int)) : decodeRuns cols = runsOf activeOf cols := by
  unfold decodeRuns runsOf
  rw [← foldl_enum_eq_foldCols (e := enumCols) ⟨fun _ => rfl, fun _ _ _ => rfl⟩]
  rfl

/-- **decoder correctness, any matrix**: the decoded runs are without repetition, sorted by
    (onset, pitch, offset, velocity), and are exactly the maximal horizontal runs of one non-zero value -/
theorem decodeRuns_spec (cols : List (List Int)) :
    (decodeRuns cols).Nodup ∧ (decodeRuns cols).Pairwise (fun a b => runLe a b = true) ∧
    ∀ x, x ∈ decodeRuns cols ↔ MaxRun (cellAt cols x.pitch) cols.length x := by
  rw [decodeRuns_eq_runsOf]
  have := runsOf_spec activeOf (fun s p => keyOf (cellAt cols p s)) cols (fun j c hj => by
    have : (fun p => keyOf (cellAt cols p j)) = fun p => keyOf (valAt c p) := by
      funext p; unfold cellAt; rw [hj]
    rw [this]; exact graph_activeOf c)
  exact ⟨this.1, this.2.1, fun x => (this.2.2 x).trans maxRun_iffK.symm⟩

/-- what `pianoroll_to_notearray` makes of a run -/
def outOf (init : Int) (td : Rat) (x : Run) : OutNote :=
  ((x.pitch : Int) + init, (x.on : Rat) / td, ((x.off - x.on : Nat) : Rat) / td, x.vel)

/-- what both decoders do once the runs are found: the pitch offset comes from the shape (128 or 88 rows, anything
    else is an error) and the frames are divided by `time_div` (an error when it is 0 and there is a run) -/
def emitRuns (rows : Nat) (runs : List Run) (td : Rat) : Option (List OutNote) :=
  match Model.lookup rows Gen.C13_DEC_SHAPES with
  | none => none
  | some init => if td = 0 ∧ runs ≠ [] then none else some (runs.map (outOf init td))

theorem decode_eq_emit (rows : Nat) (cols : List (List Int)) (td : Rat) :
    decode rows cols td = emitRuns rows (decodeRuns cols) td := rfl

theorem emitRuns_spec (rows : Nat) (runs : List Run) (td : Rat) :
    ((rows ≠ 128 ∧ rows ≠ 88) → emitRuns rows runs td = none) ∧
    ∀ init, (rows = 128 ∧ init = 0) ∨ (rows = 88 ∧ init = 21) →
      (td = 0 → runs ≠ [] → emitRuns rows runs td = none) ∧
      (td ≠ 0 ∨ runs = [] → emitRuns rows runs td = some (runs.map (outOf init td))) := by
  unfold emitRuns
  rw [tbl_dec_shapes]
  constructor
  · rintro ⟨h1, h2⟩
    simp only [Model.lookup, if_neg (Ne.symm h1), if_neg (Ne.symm h2)]
  · intro init hinit
    have hl : Model.lookup rows [((88 : Nat), (21 : Int)), (128, 0)] = some init := by
      rcases hinit with ⟨rfl, rfl⟩ | ⟨rfl, rfl⟩ <;> rfl
    rw [hl]
    exact ⟨fun h0 hne => if_pos ⟨h0, hne⟩, fun htd => if_neg fun ⟨a, b⟩ => htd.elim (fun h => h a) b⟩

end C13
