/-
The `Performance` container: the set of (part, track) pairs, its sorted enumeration and the positions in it under the
renumbering.  The positions order the pairs as `keyLe` does, the enumeration is determined by the set of pairs, and the
renumbering leaves every pair numbered by its own position: a state that a further renumbering leaves as it is.
`Performance.sanitize_track_numbers` is also modelled in Model/ArgForms.lean (`sanitizeWith`, every `track` entry an
`Option Int`; Proofs/C20Sanitize.lean proves the fixed point there by relabelling the sorted set of (part, track) pairs);
the two models and proofs do not rest on each other.
-/
import PartituraModel.Proofs.C14Tracks
import PartituraModel.Model.PedalHist

namespace C14P
open Model Model.Pedal

variable {α β : Type}

theorem keyLe_iff (a b : Nat × Int) : keyLe a b = true ↔ a.1 < b.1 ∨ (a.1 = b.1 ∧ a.2 ≤ b.2) := by
  simp [keyLe]

theorem keyLe_order : Lists.TotalPreorder keyLe := .lex Prod.fst (.of_key Prod.snd)

theorem keyLe_antisymm (a b : Nat × Int) (h1 : keyLe a b = true) (h2 : keyLe b a = true) : a = b := by
  rw [keyLe_iff] at *
  apply Prod.ext <;> omega

theorem isSortKeys : Lists.IsInsertionSort keyLe insertKey sortKeys :=
  ⟨fun _ => rfl, fun _ _ _ => rfl, rfl, fun _ _ => rfl⟩

theorem perm_sortKeys (l : List (Nat × Int)) : (sortKeys l).Perm l := isSortKeys.perm l

theorem sorted_sortKeys (l : List (Nat × Int)) : (sortKeys l).Pairwise (fun a b => keyLe a b = true) :=
  isSortKeys.pairwise keyLe_order l

theorem indexOf_map_inj [DecidableEq α] [DecidableEq β] (g : α → β) (x : α) (l : List α)
    (hinj : ∀ a ∈ l, g a = g x → a = x) : indexOf (g x) (l.map g) = indexOf x l := by
  induction l with
  | nil => rfl
  | cons a rest ih =>
    simp only [List.map_cons, indexOf]
    by_cases h : a = x
    · subst h; simp
    · have h' : g a ≠ g x := fun e => h (hinj a List.mem_cons_self e)
      rw [if_neg h', if_neg h, ih (fun b hb => hinj b (List.mem_cons_of_mem _ hb))]

/-- the sorted enumeration of the pairs: the one the code uses -/
def sortedKeys (parts : List PartTracks) : List (Nat × Int) := sortKeys (dedup (trackKeys parts))

theorem mem_sortedKeys (parts : List PartTracks) (k : Nat × Int) : k ∈ sortedKeys parts ↔ k ∈ trackKeys parts :=
  ((perm_sortKeys _).mem_iff).trans (mem_dedup _ k)

theorem nodup_sortedKeys (parts : List PartTracks) : (sortedKeys parts).Nodup :=
  (perm_sortKeys _).nodup_iff.mpr (nodup_dedup _)

theorem trackMap_sorted (parts : List PartTracks) (k : Nat × Int) (hk : k ∈ trackKeys parts) :
    trackMap (sortedKeys parts) k = some (rankIn (sortedKeys parts) k) :=
  (trackMap_eq_rank _ k ((mem_sortedKeys parts k).mpr hk)).1

theorem sortedKeys_strict (parts : List PartTracks) : (sortedKeys parts).Pairwise fun a b => ¬ keyLe b a = true :=
  (isSortKeys.pairwise_stable keyLe_order (nodup_dedup (trackKeys parts))).imp
    fun {a b} h hba => h.2 hba (keyLe_antisymm a b h.1 hba)

/-- on the pairs that occur the new numbers are ordered as the pairs are: parts in their order, within a part the old
    track numbers ascending -/
theorem rank_le_iff (parts : List PartTracks) (a b : Nat × Int) (ha : a ∈ trackKeys parts) (hb : b ∈ trackKeys parts) :
    rankIn (sortedKeys parts) a ≤ rankIn (sortedKeys parts) b ↔ keyLe a b = true := by
  -- `≤` of positions as "not `>`"; in the strictly ascending enumeration `rank b < rank a` says that `a ≤ b` fails
  rw [← Nat.not_lt, indexOf_lt_iff (fun {x y} h h' => (keyLe_order.total x y).elim h' h) (sortedKeys_strict parts)
    (trackMap_sorted parts b hb) (trackMap_sorted parts a ha), Decidable.not_not]

theorem rank_inj (parts : List PartTracks) (a b : Nat × Int) (ha : a ∈ trackKeys parts) (hb : b ∈ trackKeys parts)
    (h : rankIn (sortedKeys parts) a = rankIn (sortedKeys parts) b) : a = b :=
  rankIn_inj _ a b ((mem_sortedKeys parts a).mpr ha) ((mem_sortedKeys parts b).mpr hb) h

theorem sortedKeys_unique (parts : List PartTracks) (l : List (Nat × Int)) (hs : l.Pairwise (fun a b => keyLe a b = true))
    (hnd : l.Nodup) (hm : ∀ k, k ∈ l ↔ k ∈ trackKeys parts) : sortedKeys parts = l :=
  List.Perm.eq_of_pairwise (le := fun a b => keyLe a b = true) (fun a b _ _ => keyLe_antisymm a b) (sorted_sortKeys _) hs
    ((List.perm_ext_iff_of_nodup (nodup_sortedKeys parts) hnd).mpr
      (fun k => (mem_sortedKeys parts k).trans (hm k).symm))

/-- the state of the parts after the renumbering -/
def renumbered (parts : List PartTracks) : List PartTracks :=
  parts.zipIdx.map (fun p => applyTracks (renumTriple (rankIn (sortedKeys parts)) p))

/-- a pair after the renumbering: same part, the position as the track -/
def newKey (parts : List PartTracks) (k : Nat × Int) : Nat × Int := (k.1, (rankIn (sortedKeys parts) k : Int))

theorem sanitizeSorted_explicit (parts : List PartTracks) :
    sanitizeSorted parts = some (parts.zipIdx.map (renumTriple (rankIn (sortedKeys parts)))) :=
  sanitizeWith_explicit parts _ (fun k hk => (mem_sortedKeys parts k).mpr hk)

theorem trackOr_some (x : Int) : trackOr (some x) = x := rfl

theorem zipIdx_map_zipIdx (l : List α) (F : α × Nat → β) (k : Nat) :
    ((l.zipIdx k).map F).zipIdx k = (l.zipIdx k).map (fun p => (F p, p.2)) := by
  induction l generalizing k with
  | nil => rfl
  | cons a rest ih => simp [List.zipIdx_cons, ih (k + 1)]

theorem trackKeys_renumbered (parts : List PartTracks) :
    trackKeys (renumbered parts) = (trackKeys parts).map (newKey parts) := by
  unfold trackKeys renumbered
  rw [zipIdx_map_zipIdx]
  simp only [List.flatMap_map, List.map_append, List.map_flatMap, applyTracks, renumTriple, List.map_map,
    Function.comp_def, trackOr_some, newKey]

theorem newKey_snd_inj (parts : List PartTracks) (a b : Nat × Int) (ha : a ∈ trackKeys parts) (hb : b ∈ trackKeys parts)
    (h : (newKey parts a).2 = (newKey parts b).2) : a = b :=
  rank_inj parts a b ha hb (by simp only [newKey] at h; exact_mod_cast h)

theorem newKey_inj (parts : List PartTracks) (a b : Nat × Int) (ha : a ∈ trackKeys parts) (hb : b ∈ trackKeys parts)
    (h : newKey parts a = newKey parts b) : a = b :=
  newKey_snd_inj parts a b ha hb (congrArg Prod.snd h)

theorem newKey_mono (parts : List PartTracks) (a b : Nat × Int) (ha : a ∈ trackKeys parts) (hb : b ∈ trackKeys parts)
    (h : keyLe a b = true) : keyLe (newKey parts a) (newKey parts b) = true := by
  rcases (keyLe_iff a b).mp h with h1 | ⟨h1, _⟩
  · exact (keyLe_iff _ _).mpr (Or.inl h1)
  · exact (keyLe_iff _ _).mpr (Or.inr ⟨h1, Int.ofNat_le.mpr ((rank_le_iff parts a b ha hb).mpr h)⟩)

theorem sortedKeys_renumbered (parts : List PartTracks) :
    sortedKeys (renumbered parts) = (sortedKeys parts).map (newKey parts) := by
  have hmem := fun a => (mem_sortedKeys parts a).mp
  have hnd := nodup_sortedKeys parts
  apply sortedKeys_unique
  · rw [List.pairwise_map]
    exact (sorted_sortKeys _).imp_of_mem fun {a b} ha hb => newKey_mono parts a b (hmem a ha) (hmem b hb)
  · rw [List.Nodup, List.pairwise_map]
    exact hnd.imp_of_mem fun {a b} ha hb hne e => hne (newKey_inj parts a b (hmem a ha) (hmem b hb) e)
  · intro k
    rw [trackKeys_renumbered, List.mem_map, List.mem_map]
    exact exists_congr fun a => and_congr_left fun _ => mem_sortedKeys parts a

theorem rank_newKey (parts : List PartTracks) (k : Nat × Int) (hk : k ∈ trackKeys parts) :
    trackMap (sortedKeys (renumbered parts)) (newKey parts k) = trackMap (sortedKeys parts) k := by
  rw [sortedKeys_renumbered]
  unfold trackMap
  apply indexOf_map_inj
  intro a ha e
  exact newKey_inj parts a k ((mem_sortedKeys parts a).mp ha) hk e

/-- every pair is numbered by its own position in the sorted enumeration -/
def Canonical (pts : List PartTracks) : Prop :=
  ∀ k ∈ trackKeys pts, (rankIn (sortedKeys pts) k : Int) = k.2

theorem canonical_renumbered (pts : List PartTracks) : Canonical (renumbered pts) := by
  intro k hk
  rw [trackKeys_renumbered] at hk
  obtain ⟨a, ha, rfl⟩ := List.mem_map.mp hk
  rw [rankIn, rank_newKey pts a ha]
  rfl

theorem canonical_track {pts : List PartTracks} (h : Canonical pts) (i : Nat) (t : Option Int)
    (hk : (i, trackOr t) ∈ trackKeys pts) : some ((rankIn (sortedKeys pts) (i, trackOr t) : Nat) : Int) = t := by
  have e := h _ hk
  cases t with
  | some y => rw [e]; rfl
  | none =>
    -- a missing track counts as -1, which is no position
    have : trackOr none < 0 := by decide
    simp only at e
    omega

theorem applyTracks_of_canonical {pts : List PartTracks} (h : Canonical pts) (p : PartTracks × Nat) (hp : p ∈ pts.zipIdx) :
    applyTracks (renumTriple (rankIn (sortedKeys pts)) p) = p.1 := by
  obtain ⟨k1, k2, k3⟩ := part_keys pts p hp
  have e2 : ∀ l : List (Option Int), (∀ t ∈ l, (p.2, trackOr t) ∈ trackKeys pts) →
      l.map (fun t => some ((rankIn (sortedKeys pts) (p.2, trackOr t) : Nat) : Int)) = l := by
    intro l hl
    conv_rhs => rw [← List.map_id l]
    exact List.map_congr_left (fun t ht => canonical_track h p.2 t (hl t ht))
  have e1 : p.1.notes.map (fun t => ((rankIn (sortedKeys pts) (p.2, t) : Nat) : Int)) = p.1.notes := by
    conv_rhs => rw [← List.map_id p.1.notes]
    exact List.map_congr_left (fun t ht => h _ (k1 t ht))
  simp only [applyTracks, renumTriple, List.map_map, Function.comp_def]
  rw [e1, e2 _ k2, e2 _ k3]

theorem renumbered_of_canonical {pts : List PartTracks} (h : Canonical pts) : renumbered pts = pts := by
  rw [renumbered, List.map_congr_left (applyTracks_of_canonical h), List.zipIdx_map_fst]

theorem applyTracks_injective : Function.Injective applyTracks := by
  rintro ⟨a1, b1, c1⟩ ⟨a2, b2, c2⟩ h
  simp only [applyTracks, PartTracks.mk.injEq] at h
  have hs : Function.Injective (fun k : Nat => some (k : Int)) := fun _ _ e => Int.ofNat_inj.mp (Option.some.inj e)
  rw [(List.map_injective_iff.mpr fun _ _ e => Int.ofNat_inj.mp e).eq_iff, (List.map_injective_iff.mpr hs).eq_iff,
    (List.map_injective_iff.mpr hs).eq_iff] at h
  rw [h.1, h.2.1, h.2.2]

theorem renumbered_num_tracks (pts : List PartTracks) : numTracks (renumbered pts) = numTracks pts := by
  have e : ∀ P, numTracks P = (sortedKeys P).length := fun P => (perm_sortKeys _).length_eq.symm
  rw [e, e, sortedKeys_renumbered, List.length_map]

theorem sanitizeMetas_eq (pts : List PartTracks) (i : Nat) (ms : List (Option Int)) :
    sanitizeMetas (sortedKeys pts) i ms = ms.map (fun t =>
      if (i, trackOr t) ∈ trackKeys pts then some ((newKey pts (i, trackOr t)).2) else t) := by
  unfold sanitizeMetas
  apply List.map_congr_left
  intro t _
  by_cases hk : (i, trackOr t) ∈ trackKeys pts
  · rw [if_pos hk, trackMap_sorted pts _ hk]
    rfl
  · rw [if_neg hk]
    rw [trackMap, indexOf_eq, if_neg (fun h => hk ((mem_sortedKeys pts _).mp h))]

/-- the state of a performance after the renumbering: every part gets the positions of its (part, track) pairs in
    the sorted enumeration, and its meta events follow -/
def boxRenumbered (parts : List BoxPart) : List BoxPart :=
  parts.zipIdx.map (fun x =>
    { tracks := applyTracks (renumTriple (rankIn (sortedKeys (parts.map (·.tracks)))) (x.1.tracks, x.2)),
      metas := sanitizeMetas (sortedKeys (parts.map (·.tracks))) x.2 x.1.metas })

theorem sanitize_box_explicit (parts : List BoxPart) : sanitizeBox parts = some (boxRenumbered parts) := by
  unfold sanitizeBox
  simp only []
  rw [show sortKeys (dedup (trackKeys (parts.map (·.tracks)))) = sortedKeys (parts.map (·.tracks)) from rfl,
    sanitizeWith_explicit _ _ (fun k hk => (mem_sortedKeys _ k).mpr hk), Option.map_some, List.zipIdx_map, List.map_map,
    ← List.map_prod_left_eq_zip, List.map_map]
  rfl

theorem boxRenumbered_tracks (parts : List BoxPart) :
    (boxRenumbered parts).map (·.tracks) = renumbered (parts.map (·.tracks)) := by
  unfold boxRenumbered renumbered
  rw [List.zipIdx_map, List.map_map, List.map_map]
  rfl

theorem metas_of_canonical {pts : List PartTracks} (h : Canonical pts) (i : Nat) (ms : List (Option Int)) :
    sanitizeMetas (sortedKeys pts) i ms = ms := by
  rw [sanitizeMetas_eq]
  conv_rhs => rw [← List.map_id ms]
  apply List.map_congr_left
  intro t _
  split
  · exact canonical_track h i t ‹_›
  · rfl

theorem boxRenumbered_of_canonical (parts : List BoxPart) (h : Canonical (parts.map (·.tracks))) :
    boxRenumbered parts = parts := by
  have hfix : ∀ x ∈ parts.zipIdx, BoxPart.mk (applyTracks (renumTriple (rankIn (sortedKeys (parts.map (·.tracks))))
        (x.1.tracks, x.2))) (sanitizeMetas (sortedKeys (parts.map (·.tracks))) x.2 x.1.metas) = x.1 := by
    intro x hx
    have hx' : (x.1.tracks, x.2) ∈ (parts.map (·.tracks)).zipIdx := by
      rw [List.mem_zipIdx_iff_getElem?] at *
      rw [List.getElem?_map, hx]
      rfl
    rw [metas_of_canonical h, applyTracks_of_canonical h _ hx']
  rw [boxRenumbered, List.map_congr_left hfix, List.zipIdx_map_fst]

theorem boxRenumbered_idempotent (parts : List BoxPart) : boxRenumbered (boxRenumbered parts) = boxRenumbered parts :=
  boxRenumbered_of_canonical _ (boxRenumbered_tracks parts ▸ canonical_renumbered _)

end C14P
