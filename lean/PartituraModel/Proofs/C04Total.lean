/-
C04 — when `saveScoreMidi` returns: every tick the exporter writes is the image of a timeline position
(or 0), no image is negative for a well-formed score, and the other three failure points (origin, signature of a
measure, unsupported mode / no note at all) are decided by the input.
-/
import PartituraModel.Proofs.C04Export
import PartituraModel.Proofs.C04Modes

namespace C04Tot
open Model Model.Ticks Model.MidiPair Model.MidiModes Model.ScoreMidi

theorem tscMeasures_isSome (b : TimeBase) (tk : Nat → Int) (tsTimes : List Nat) (ms : List (Nat × Nat))
    (d : MetaDict) (irr : List Nat) :
    (tscMeasures b tk tsTimes ms d irr).isSome ↔ ∀ m ∈ ms, (tsAt b m.1).isSome := by
  induction ms generalizing d irr with
  | nil => simp [tscMeasures]
  | cons m rest ih =>
    obtain ⟨s, e⟩ := m
    unfold tscMeasures
    rw [List.forall_mem_cons]
    cases hts : tsAt b s with
    | none => simp
    | some v =>
      obtain ⟨beats, bt⟩ := v
      simp only [Option.isSome_some, true_and]
      split
      · exact ih _ _
      · exact ih _ _

theorem partMetas_ticks (Q : Int → Prop) (a : Anacrusis) (p : PartIn) (tk : Nat → Int) (hQ : ∀ t, Q (tk t)) (h0 : Q 0)
    (d : MetaDict) (h : partMetas a p tk = some d) : ∀ x ∈ flattenDict d, Q x.1 := by
  obtain ⟨T, hp, _, hpl, htsc⟩ := C04D.partMetas_spec a p tk d h
  intro x hx
  rcases List.mem_append.mp (hp.mem_iff.mp hx) with hT | hk
  · by_cases ha : a = .timeSigChange
    · rcases (htsc ha).2 x hT with ⟨ts, _, e⟩ | ⟨m, _, e | e⟩ <;>
      · rw [e]
        exact hQ _
    · rw [hpl ha] at hT
      obtain ⟨e, _, rfl⟩ := List.mem_map.mp hT
      dsimp only
      split
      · exact h0
      · exact hQ _
  · obtain ⟨ks, _, rfl⟩ := List.mem_map.mp hk
    exact hQ _

theorem partMetas_isSome_iff (a : Anacrusis) (p : PartIn) (tk : Nat → Int) :
    (partMetas a p tk).isSome ↔ (a = .timeSigChange → ∀ m ∈ p.measures, (tsAt p.base m.1).isSome) := by
  unfold partMetas
  cases a with
  | timeSigChange =>
    rw [← tscMeasures_isSome p.base tk (p.base.ts.map (·.1)) p.measures [] []]
    cases hr : tscMeasures p.base tk (p.base.ts.map (·.1)) p.measures [] [] <;> simp [hr]
  | shift => simp
  | padBar => simp

theorem exportMetas_isSome (a : Anacrusis) (tk : PartIn → Nat → Int) (parts : List PartIn)
    (h : a = .timeSigChange → ∀ x ∈ parts, ∀ m ∈ x.measures, (tsAt x.base m.1).isSome) :
    (exportMetas a tk parts).isSome := by
  unfold exportMetas
  apply Lists.mapM_isSome
  intro xi hxi
  obtain ⟨d, hd⟩ := Option.isSome_iff_exists.mp
    ((partMetas_isSome_iff a xi.1 (tk xi.1)).mpr fun ha => h ha xi.1 (List.fst_mem_of_mem_zipIdx hxi))
  obtain ⟨x, i⟩ := xi
  simp [hd]

theorem exportTrack_ticks (Q : Int → Prop) (a : Anacrusis) (tk : PartIn → Nat → Int) (h0 : Q 0)
    (parts : List PartIn) (hQ : ∀ x ∈ parts, ∀ t, Q (tk x t)) (metas : List (Nat × List (Int × Msg))) (hm : exportMetas a tk parts = some metas)
    (ktc : List (Key × (Nat × Nat))) (vel tr : Nat) :
    ∀ e ∈ exportTrack (exportTempos tk parts) metas (exportRecs tk parts) ktc vel tr, Q e.1 := by
  intro e he
  unfold exportTrack trackOrder at he
  rw [C04S.isSort.mem] at he
  simp only [trackEvents, List.mem_append] at he
  have hrec : ∀ n ∈ trackNotes (exportRecs tk parts) (fun k => lookup k ktc) tr vel, Q n.on ∧ Q n.off := by
    intro n hn
    have := (C04E.trackNotes_perm (exportRecs tk parts) ktc tr vel).mem_iff.mp hn
    obtain ⟨r, hr, hroute⟩ := List.mem_filterMap.mp this
    obtain ⟨ch, _, rfl⟩ := C04E.route_eq_some.mp hroute
    obtain ⟨xi, hxi, nn, _, rfl⟩ := (C04E.mem_exportRecs tk parts r).mp hr
    exact ⟨hQ _ (List.fst_mem_of_mem_zipIdx hxi) _, hQ _ (List.fst_mem_of_mem_zipIdx hxi) _⟩
  rcases he with (((h1 | h1) | h1) | h1) | h1
  · split at h1
    · obtain ⟨t, ht, rfl⟩ := List.mem_map.mp h1
      rcases (C04D.exportTempos_inv tk parts).2.1 t ht with rfl | ⟨x, hx, tp, _, rfl⟩
      · exact h0
      · exact hQ x hx _
    · cases h1
  · obtain ⟨xi, hxi, _, d, hd, hx⟩ := (C04E.mem_trackMetas a tk parts metas hm ktc tr e).mp h1
    exact partMetas_ticks Q a xi.1 (tk xi.1) (hQ xi.1 (List.fst_mem_of_mem_zipIdx hxi)) h0 d hd e hx
  · obtain ⟨n, hn, rfl | rfl⟩ := C04P.mem_noteEvents _ e (Or.inl h1)
    exacts [(hrec n hn).1, (hrec n hn).2]
  · obtain ⟨n, hn, rfl | rfl⟩ := C04P.mem_noteEvents _ e (Or.inr (Or.inl h1))
    exacts [(hrec n hn).1, (hrec n hn).2]
  · obtain ⟨n, hn, rfl | rfl⟩ := C04P.mem_noteEvents _ e (Or.inr (Or.inr h1))
    exacts [(hrec n hn).1, (hrec n hn).2]

theorem tick_nonneg (P : Nat) (b : TimeBase) (o : Rat) (t : Nat) (h : o ≤ quarter b t) : 0 ≤ tick P b o t := by
  rw [tick, ← Round.roundHalfEven_int 0]
  apply Round.roundHalfEven_mono
  rw [Int.cast_zero, toTick]
  exact mul_nonneg (Nat.cast_nonneg P) (sub_nonneg.mpr h)

theorem origin_spec (a : Anacrusis) (bases : List TimeBase) (h : bases ≠ [])
    (hpad : a = .padBar → ∀ b ∈ bases, ∃ beats bt, tsAt b 0 = some (beats, bt) ∧ 0 < bt ∧
      -((beats : Rat) / ((bt : Rat) / 4)) ≤ quarter b 0) :
    ∃ o, origin a bases = some o ∧ ∀ b ∈ bases, o ≤ quarter b 0 := by
  unfold origin
  cases hv : argminFirst (bases.map fun b => quarter b 0) with
  | none => exact absurd ((C04T.argminFirst_eq_none _).mp hv) (by simpa using h)
  | some v =>
    obtain ⟨i, q0⟩ := v
    obtain ⟨hmem, hle⟩ := C04T.argminFirst_spec _ i q0 hv
    have hmin : ∀ b ∈ bases, q0 ≤ quarter b 0 := fun b hb => hle _ (List.mem_map.mpr ⟨b, hb, rfl⟩)
    simp only
    split
    · cases a with
      | shift => exact ⟨q0, rfl, hmin⟩
      | timeSigChange => exact ⟨q0, rfl, hmin⟩
      | padBar =>
        -- the part that starts earliest: one bar of its signature is not shorter than its pickup
        rw [List.getElem?_map] at hmem
        cases hbi : bases[i]? with
        | none => rw [hbi] at hmem; cases hmem
        | some bi =>
          rw [hbi] at hmem
          obtain ⟨beats, bt, hts0, hbt, hpick⟩ := hpad rfl bi (List.mem_of_getElem? hbi)
          simp only [hts0, Nat.pos_iff_ne_zero.mp hbt, if_false]
          exact ⟨_, rfl, fun b hb => le_trans (le_of_le_of_eq hpick (Option.some.inj hmem)) (hmin b hb)⟩
    · rename_i hneg
      exact ⟨0, rfl, fun b hb => le_trans (not_lt.mp hneg) (hmin b hb)⟩

theorem mapToTrackChannel_isSome (mode : Nat) (hm : mode ≤ 5) (keys : List Key) :
    ∃ tcs, mapToTrackChannel mode keys = some tcs := by
  match mode, hm with
  | 0, _ => exact ⟨_, rfl⟩
  | 1, _ => exact ⟨_, rfl⟩
  | 2, _ => exact ⟨_, rfl⟩
  | 3, _ => exact ⟨_, rfl⟩
  | 4, _ => exact ⟨_, rfl⟩
  | 5, _ => exact ⟨_, rfl⟩
  | n + 6, h => exact absurd h (by omega)

theorem noteKeys_ne_nil (parts : List PartIn) (h : ∃ x ∈ parts, x.notes ≠ []) : noteKeys parts ≠ [] := by
  obtain ⟨x, hx, hn⟩ := h
  obtain ⟨n, hn⟩ := List.exists_mem_of_ne_nil _ hn
  obtain ⟨i, hi⟩ := List.getElem?_of_mem hx
  exact List.ne_nil_of_mem ((C04E.mem_noteKeys parts _).mpr
    ⟨(x, i), List.mem_zipIdx_iff_getElem?.mpr (by simpa using hi), n, hn, rfl⟩)

theorem exists_note_of_noteKeys_ne_nil (parts : List PartIn) (h : noteKeys parts ≠ []) : ∃ x ∈ parts, x.notes ≠ [] := by
  obtain ⟨k, hk⟩ := List.exists_mem_of_ne_nil _ h
  obtain ⟨xi, hxi, n, hn, _⟩ := (C04E.mem_noteKeys parts k).mp hk
  exact ⟨xi.1, List.fst_mem_of_mem_zipIdx hxi, List.ne_nil_of_mem hn⟩

/-- an export returns only for one of the six modes and a score with a sounding note (`max()` of no track raises, and an
    unsupported mode is rejected at the first note key) -/
theorem save_mode_note {mode : Nat} {a : Anacrusis} {minPpq vel : Nat} {parts : List PartIn} {ex : Exported}
    (h : saveScoreMidi mode a minPpq vel parts = some ex) : mode ≤ 5 ∧ ∃ x ∈ parts, x.notes ≠ [] := by
  obtain ⟨_, _, tcs, n, _, _, htc, hn, _⟩ := C04E.save_inv mode a minPpq vel parts ex h
  have hkeys : noteKeys parts ≠ [] := by
    intro hnil
    have hl := C04M.mapToTrackChannel_length mode _ tcs htc
    rw [hnil] at hl
    rw [List.length_eq_zero_iff.mp hl] at hn
    cases hn
  refine ⟨?_, exists_note_of_noteKeys_ne_nil parts hkeys⟩
  by_contra hm
  obtain ⟨m, rfl⟩ : ∃ m, mode = m + 6 := ⟨mode - 6, by omega⟩
  cases hk : noteKeys parts with
  | nil => exact hkeys hk
  | cons k ks => rw [hk] at htc; cases htc

theorem maxList_isSome (l : List Nat) (h : l ≠ []) : (maxList l).isSome := by
  cases l with
  | nil => exact absurd rfl h
  | cons a rest => rfl

end C04Tot
