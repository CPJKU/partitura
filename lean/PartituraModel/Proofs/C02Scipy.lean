/-
C02 — the index-based scipy / numpy interpolation of `Model/TimeMapScipy.lean`
equals the recursive `interp` on every strictly increasing knot list.
-/
import PartituraModel.Model.TimeMapScipy
import PartituraModel.Proofs.C02Args

namespace C02Proofs
open Model.TimeMap

theorem sortKnots_insertionSort : Lists.IsInsertionSort (fun k a : Knot => decide (k.1 ≤ a.1)) insertKnot sortKnots :=
  ⟨fun _ => rfl, fun _ _ _ => by simp only [insertKnot, decide_eq_true_eq], rfl, fun _ _ => rfl⟩

theorem sortKnots_of_pairwise_le (ks : List Knot) (h : (ks.map (·.1)).Pairwise (· ≤ ·)) : sortKnots ks = ks :=
  sortKnots_insertionSort.eq_self ((List.pairwise_map.mp h).imp fun hab => decide_eq_true hab)

theorem sortKnots_pair (k : Knot) : sortKnots [k, k] = [k, k] :=
  sortKnots_of_pairwise_le _ (by simp)

theorem knotsOK_pairwise (ks : List Knot) (hk : KnotsOK ks) : (ks.map (·.1)).Pairwise (· < ·) := by
  cases ks with
  | nil => exact absurd hk (by simp [KnotsOK])
  | cons k rest =>
    obtain ⟨x0, y0⟩ := k
    exact List.pairwise_map.mpr (chain_inc rest x0 y0 hk.2).1

theorem knot_mem_range (ks : List Knot) (hk : KnotsOK ks) (x : Rat) (h : x ∈ ks.map (·.1)) :
    firstX ks ≤ x ∧ x ≤ endX ks := by
  have hp := knotsOK_pairwise ks hk
  refine ⟨head_le_of_pairwise _ _ hp ?_ x h, ?_⟩
  · cases ks with
    | nil => exact absurd hk (by simp [KnotsOK])
    | cons k rest => rfl
  · rw [endX_eq, List.getLast?_eq_some_getLast (List.ne_nil_of_mem h)]
    exact le_getLast_of_pairwise _ _ hp x h

theorem sortKnots_knotsOK (ks : List Knot) (hk : KnotsOK ks) : sortKnots ks = ks :=
  sortKnots_of_pairwise_le ks ((knotsOK_pairwise ks hk).imp le_of_lt)

theorem knotsOK_length (ks : List Knot) (hk : KnotsOK ks) : 1 < ks.length := by
  cases ks with
  | nil => exact absurd hk (by simp [KnotsOK])
  | cons k rest =>
    obtain ⟨x0, y0⟩ := k
    cases rest with
    | nil => exact absurd rfl hk.1
    | cons a as => simp

theorem firstKnotX_eq (ks : List Knot) (hk : KnotsOK ks) : firstKnotX ks = some (firstX ks) := by
  cases ks with
  | nil => exact absurd hk (by simp [KnotsOK])
  | cons k rest => obtain ⟨x0, y0⟩ := k; rfl

theorem lastKnot_eq_getLast? : ∀ l : List Knot, lastKnot l = l.getLast?
  | [] => rfl
  | [_] => rfl
  | a :: b :: r => by rw [lastKnot, lastKnot_eq_getLast? (b :: r), List.getLast?_cons_cons]

theorem lastKnot_endX (ks : List Knot) (hk : KnotsOK ks) : ∃ kl, lastKnot ks = some kl ∧ kl.1 = endX ks := by
  have hne : ks ≠ [] := by rintro rfl; exact hk
  refine ⟨ks.getLast hne, by rw [lastKnot_eq_getLast?, List.getLast?_eq_some_getLast hne], ?_⟩
  rw [endX_eq, List.getLast?_map, List.getLast?_eq_some_getLast hne]
  rfl

theorem lastKnot_append (pre : List Knot) (k : Knot) : lastKnot (pre ++ [k]) = some k := by
  rw [lastKnot_eq_getLast?, List.getLast?_concat]

theorem lastKnot_getElem? (l : List Knot) (k : Knot) (h : lastKnot l = some k) : l[l.length - 1]? = some k := by
  rw [← List.getLast?_eq_getElem?, ← lastKnot_eq_getLast?, h]

theorem knotsOK_split (pre : List Knot) (u : Knot) (post : List Knot) (hk : KnotsOK (pre ++ u :: post)) :
    (∀ a ∈ pre, a.1 < u.1) ∧ ∀ a ∈ post, u.1 < a.1 :=
  Lists.pairwise_split (List.pairwise_map.mp (knotsOK_pairwise _ hk))

theorem chain_segment : ∀ (rest : List Knot) (x0 y0 x : Rat), rest ≠ [] → Chain x0 y0 rest → x0 ≤ x → x ≤ lastX x0 rest →
    ∃ pre u v post, (x0, y0) :: rest = pre ++ u :: v :: post ∧ x ≤ v.1 ∧ (u.1 < x ∨ (pre = [] ∧ u.1 = x))
  | [], _, _, _, hne, _, _, _ => absurd rfl hne
  | (x1, y1) :: r, x0, y0, x, _, hc, h0, h1 => by
    by_cases hx : x ≤ x1
    · exact ⟨[], (x0, y0), (x1, y1), r, rfl, hx, h0.lt_or_eq.imp_right fun h => ⟨rfl, h⟩⟩
    · have hx' : x1 < x := not_le.mp hx
      have hne : r ≠ [] := by
        rintro rfl
        exact hx h1
      obtain ⟨pre, u, v, post, he, hv, hu⟩ := chain_segment r x1 y1 x hne hc.2.2 hx'.le h1
      refine ⟨(x0, y0) :: pre, u, v, post, by rw [he]; rfl, hv, Or.inl ?_⟩
      rcases hu with hu | ⟨rfl, hu⟩
      · exact hu
      · rw [← (List.cons.inj he).1]
        exact hx'

/-- the segment that holds `x`, with the order of the knots around it -/
theorem knotsOK_segment (ks : List Knot) (hk : KnotsOK ks) (x : Rat) (h0 : firstX ks ≤ x) (h1 : x ≤ endX ks) :
    ∃ pre u v post, ks = pre ++ u :: v :: post ∧ (∀ a ∈ pre, a.1 < u.1) ∧ u.1 < v.1 ∧ (∀ a ∈ post, v.1 < a.1) ∧
      u.1 ≤ x ∧ x ≤ v.1 ∧ (u.1 < x ∨ (pre = [] ∧ u.1 = x)) := by
  obtain ⟨pre, u, v, post, rfl, hv, hu⟩ : ∃ pre u v post, ks = pre ++ u :: v :: post ∧ x ≤ v.1 ∧
      (u.1 < x ∨ (pre = [] ∧ u.1 = x)) := by
    match ks, hk with
    | (x0, y0) :: rest, hk => exact chain_segment rest x0 y0 x hk.1 hk.2 h0 h1
  obtain ⟨hpre, hupost⟩ := knotsOK_split pre u (v :: post) hk
  exact ⟨pre, u, v, post, rfl, hpre, hupost v List.mem_cons_self,
    (knotsOK_split (pre ++ [u]) v post (by rw [List.append_assoc]; exact hk)).2, hu.elim le_of_lt fun h => h.2.le, hv, hu⟩

/-! ### searches on sorted abscissae: the count is the length of the part before the place where the test turns false -/

theorem search_append (P : Rat → Prop) [DecidablePred P] (pre post : List Knot) (hpre : ∀ a ∈ pre, P a.1)
    (hpost : ∀ a ∈ post, ¬ P a.1) : (((pre ++ post).map (·.1)).takeWhile (P ·)).length = pre.length := by
  rw [List.map_append, Lists.takeWhile_cut (List.forall_mem_map.mpr hpre) fun b hb =>
    (List.forall_mem_map (P := fun b => ¬ P b)).mpr hpost b (List.mem_of_mem_head? hb), List.length_map]

theorem searchLeft_append (pre post : List Knot) (x : Rat) (hpre : ∀ a ∈ pre, a.1 < x) (hpost : ∀ a ∈ post, x ≤ a.1) :
    searchLeft ((pre ++ post).map (·.1)) x = pre.length :=
  search_append (· < x) pre post hpre fun a ha => not_lt.mpr (hpost a ha)

theorem searchRight_append (pre post : List Knot) (x : Rat) (hpre : ∀ a ∈ pre, a.1 ≤ x) (hpost : ∀ a ∈ post, x < a.1) :
    searchRight ((pre ++ post).map (·.1)) x = pre.length :=
  search_append (· ≤ x) pre post hpre fun a ha => not_le.mpr (hpost a ha)

/-- the counts when the last entry that passes the test is named -/
theorem searchLeft_cut (pre post : List Knot) (e : Knot) (x : Rat) (hpre : ∀ a ∈ pre, a.1 < x) (he : e.1 < x)
    (hpost : ∀ a ∈ post, x ≤ a.1) : searchLeft ((pre ++ e :: post).map (·.1)) x = pre.length + 1 := by
  rw [List.append_cons, searchLeft_append _ _ x (List.forall_mem_append.mpr ⟨hpre, List.forall_mem_singleton.mpr he⟩) hpost,
    List.length_append, List.length_singleton]

theorem searchRight_cut (pre post : List Knot) (e : Knot) (x : Rat) (hpre : ∀ a ∈ pre, a.1 ≤ x) (he : e.1 ≤ x)
    (hpost : ∀ a ∈ post, x < a.1) : searchRight ((pre ++ e :: post).map (·.1)) x = pre.length + 1 := by
  rw [List.append_cons, searchRight_append _ _ x (List.forall_mem_append.mpr ⟨hpre, List.forall_mem_singleton.mpr he⟩) hpost,
    List.length_append, List.length_singleton]

theorem getElem?_split0 (pre : List Knot) (u : Knot) (rest : List Knot) : (pre ++ u :: rest)[pre.length]? = some u := by
  rw [List.getElem?_append_right (Nat.le_refl _), Nat.sub_self]
  rfl

theorem getElem?_split1 (pre : List Knot) (u v : Knot) (rest : List Knot) :
    (pre ++ u :: v :: rest)[pre.length + 1]? = some v := by
  rw [List.getElem?_append_right (Nat.le_add_right _ _), Nat.add_sub_cancel_left]
  rfl

theorem callLinear_eq_interp (ks : List Knot) (hk : KnotsOK ks) (x : Rat) (h0 : firstX ks ≤ x) (h1 : x ≤ endX ks) :
    callLinear ks x = interp ks x := by
  obtain ⟨pre, ⟨u1, u2⟩, ⟨v1, v2⟩, post, rfl, hpre, huv, hpost, hux, hv, hu⟩ := knotsOK_segment ks hk x h0 h1
  dsimp only at hpre huv hpost hux hv hu
  have hge : ∀ a ∈ (v1, v2) :: post, x ≤ a.1 := List.forall_mem_cons.mpr ⟨hv, fun a ha => hv.trans (hpost a ha).le⟩
  -- the knots `< x` are `pre` and, unless `x` is the first knot, `u`: the clipped index is that of `v`
  have hidx : clip (searchLeft ((pre ++ (u1, u2) :: (v1, v2) :: post).map (·.1)) x) 1
      ((pre ++ (u1, u2) :: (v1, v2) :: post).length - 1) = pre.length + 1 := by
    have hl : (pre ++ (u1, u2) :: (v1, v2) :: post).length = pre.length + 2 + post.length := by
      rw [List.length_append, List.length_cons, List.length_cons]; omega
    rw [hl]
    rcases hu with h | ⟨rfl, h⟩
    · rw [searchLeft_cut pre ((v1, v2) :: post) (u1, u2) x (fun a ha => (hpre a ha).trans h) h hge]
      unfold clip; omega
    · rw [searchLeft_append [] ((u1, u2) :: (v1, v2) :: post) x (fun _ ha => absurd ha List.not_mem_nil)
        (List.forall_mem_cons.mpr ⟨h.ge, hge⟩)]
      unfold clip
      simp only [List.length_nil]
      omega
  unfold callLinear
  simp only [hidx, Nat.add_sub_cancel, getElem?_split0, getElem?_split1]
  rw [interp_segment pre u1 u2 v1 v2 post x hk hux hv, Linear.line_eq_weighted u2 v2 x huv.ne]

/-- at the abscissa of a knot numpy's `arr_interp` takes one of the two branches that COPY the stored ordinate
(`dx[j] == x_val` resp. `j == lenxp - 1`): no arithmetic is performed there -/
theorem npBranch_at_knot (pre post : List Knot) (k : Knot) (hk : KnotsOK (pre ++ k :: post)) :
    npBranch (pre ++ k :: post) k.1 = some (if post = [] then .lastKnot pre.length else .knot pre.length) ∧
    (pre ++ k :: post)[pre.length]? = some k := by
  refine ⟨?_, getElem?_split0 pre k post⟩
  obtain ⟨kl, hkl, hkl1⟩ := lastKnot_endX _ hk
  have hr := knot_mem_range _ hk k.1 (by simp)
  obtain ⟨hpre, hpost⟩ := knotsOK_split pre k post hk
  -- the knots `≤ k.1` end with `k`
  have hs : searchRight ((pre ++ k :: post).map (·.1)) k.1 = pre.length + 1 :=
    searchRight_cut pre post k k.1 (fun a ha => (hpre a ha).le) (le_refl _) hpost
  unfold npBranch
  rw [firstKnotX_eq _ hk, hkl]
  simp only [not_lt.mpr hr.1, hkl1, not_lt.mpr hr.2, if_false, hs, Nat.add_sub_cancel]
  cases post with
  | nil => rw [if_pos (by rw [List.length_append, List.length_singleton, Nat.add_sub_cancel]), if_pos rfl]
  | cons b bs =>
    rw [if_neg (by rw [List.length_append, List.length_cons, List.length_cons]; omega), getElem?_split0,
      if_neg (List.cons_ne_nil b bs)]
    exact if_pos rfl

theorem npInterpCall_at_knot (pre post : List Knot) (k : Knot) (hk : KnotsOK (pre ++ k :: post)) :
    npInterpCall (pre ++ k :: post) k.1 = some k.2 := by
  obtain ⟨hb, hg⟩ := npBranch_at_knot pre post k hk
  unfold npInterpCall
  rw [hb]
  cases post with
  | nil => simp
  | cons b bs => simp

theorem npInterpCall_eq_interp (ks : List Knot) (hk : KnotsOK ks) (x : Rat) (h0 : firstX ks ≤ x) (h1 : x ≤ endX ks) :
    npInterpCall ks x = interp ks x := by
  obtain ⟨pre, ⟨u1, u2⟩, ⟨v1, v2⟩, post, rfl, hpre, huv, hpost, hux, hv, -⟩ := knotsOK_segment ks hk x h0 h1
  dsimp only at hpre huv hpost hux hv
  rw [interp_segment pre u1 u2 v1 v2 post x hk hux hv]
  rcases hv.lt_or_eq with h | rfl
  · rcases hux.lt_or_eq with h' | rfl
    · -- strictly between `u` and `v`: the knots `≤ x` end with `u`, which is neither `x` nor the last knot
      obtain ⟨kl, hkl, hkl1⟩ := lastKnot_endX _ hk
      have hs : searchRight ((pre ++ (u1, u2) :: (v1, v2) :: post).map (·.1)) x = pre.length + 1 :=
        searchRight_cut pre ((v1, v2) :: post) (u1, u2) x (fun a ha => ((hpre a ha).trans h').le) h'.le
          (List.forall_mem_cons.mpr ⟨h, fun a ha => h.trans (hpost a ha)⟩)
      have hl : (pre ++ (u1, u2) :: (v1, v2) :: post).length = pre.length + 2 + post.length := by
        rw [List.length_append, List.length_cons, List.length_cons]; omega
      have hne : ¬ pre.length = pre.length + 2 + post.length - 1 := by omega
      unfold npInterpCall npBranch
      rw [firstKnotX_eq _ hk, hkl]
      simp only [not_lt.mpr h0, hkl1, not_lt.mpr h1, if_false, hs, hl, Nat.add_sub_cancel, hne, getElem?_split0, h'.ne,
        getElem?_split1]
      rfl
    · -- `x` is the knot `u`
      rw [npInterpCall_at_knot pre ((v1, v2) :: post) (u1, u2) hk, Linear.line_left]
  · -- `x` is the knot `v`
    have hk' : KnotsOK ((pre ++ [(u1, u2)]) ++ (x, v2) :: post) := by rw [List.append_assoc]; exact hk
    have := npInterpCall_at_knot (pre ++ [(u1, u2)]) post (x, v2) hk'
    rw [List.append_assoc] at this
    exact this.trans (by rw [Linear.line_right u2 v2 huv.ne])

theorem scipyEvaluate_linear (ks : List Knot) (hk : KnotsOK ks) (np : Bool) (x : Rat) :
    scipyEvaluate { npPath := np } ks x = interp ks x := by
  obtain ⟨kl, hkl, hkl1⟩ := lastKnot_endX ks hk
  unfold scipyEvaluate
  rw [firstKnotX_eq ks hk, hkl]
  simp only
  by_cases hb : x < firstX ks
  · rw [if_pos hb]
    cases hi : interp ks x with
    | none => rfl
    | some y => exact absurd (interp_range ks hk x y hi).1 (not_le.mpr hb)
  · rw [if_neg hb]
    by_cases ha : kl.1 < x
    · rw [if_pos ha]
      cases hi : interp ks x with
      | none => rfl
      | some y =>
        have := (interp_range ks hk x y hi).2
        rw [hkl1] at ha
        exact absurd this (not_le.mpr ha)
    · rw [if_neg ha]
      rw [hkl1] at ha
      cases np with
      | true => exact npInterpCall_eq_interp ks hk x (not_lt.mp hb) (not_lt.mp ha)
      | false => exact callLinear_eq_interp ks hk x (not_lt.mp hb) (not_lt.mp ha)

theorem genericInterp1d_linear (ks : List Knot) (hk : KnotsOK ks) (np : Bool) (x : Rat) :
    genericInterp1d { npPath := np } ks x = interp ks x := by
  unfold genericInterp1d scipyInterp1d
  rw [if_pos (knotsOK_length ks hk), sortKnots_knotsOK ks hk]
  exact scipyEvaluate_linear ks hk np x

theorem linearS_eq_interp (ks : List Knot) (hk : KnotsOK ks) (x : Rat) : linearS ks x = interp ks x :=
  genericInterp1d_linear ks hk true x

/-- the cut of a strictly increasing change list at `t`: the last entry at or before `t`, when the first one is -/
theorem exists_last_le (t : Rat) (e : Int × Nat) (rest : List (Int × Nat))
    (hs : ((e :: rest).map (·.1)).Pairwise (· < ·)) (he : (e.1 : Rat) ≤ t) :
    ∃ pre e' post, e :: rest = pre ++ e' :: post ∧ (∀ x ∈ pre, (x.1 : Rat) ≤ t) ∧ (e'.1 : Rat) ≤ t ∧
      ∀ x ∈ post, t < (x.1 : Rat) := by
  cases h : ((e :: rest).takeWhile fun a => decide ((a.1 : Rat) ≤ t)).getLast? with
  | none => exact absurd he (Lists.getLast?_takeWhile_eq_none_iff.mp h e rfl)
  | some e' =>
    obtain ⟨pre, post, heq, hpre, he', hpost⟩ := Lists.getLast?_takeWhile_eq_some_iff.mp h
    refine ⟨pre, e', post, heq, hpre, he', fun x hx => not_le.mp ?_⟩
    exact (closed_cast hs t).tail_neg (pre := pre ++ [e']) (by rw [heq, List.append_assoc]; rfl) hpost x hx

/-- `_call_previousnext` at a cut: the knots `≤ x` end with `e`, whose ordinate is returned -/
theorem callPrevious_cut (pre post : List Knot) (e : Knot) (x : Rat) (hpre : ∀ a ∈ pre, a.1 ≤ x) (he : e.1 ≤ x)
    (hpost : ∀ a ∈ post, x < a.1) : callPrevious (pre ++ e :: post) x = some e.2 := by
  have hs : searchRight ((pre ++ e :: post).map (·.1)) x = pre.length + 1 :=
    searchRight_cut pre post e x hpre he hpost
  have hc : clip (pre.length + 1) 1 (pre ++ e :: post).length - 1 = pre.length := by
    rw [List.length_append, List.length_cons]; unfold clip; omega
  unfold callPrevious
  simp only [hs, hc, getElem?_split0, Option.map_some]

/-- `_evaluate` for `previous` at a cut, with the last ordinate as the fill value above -/
theorem scipyEvaluate_previous_cut (pre post : List Knot) (e : Knot) (x : Rat) (fb : Option Rat)
    (hpre : ∀ a ∈ pre, a.1 ≤ x) (he : e.1 ≤ x) (hpost : ∀ a ∈ post, x < a.1) (kl : Knot)
    (hkl : lastKnot (pre ++ e :: post) = some kl) :
    scipyEvaluate { kind := .previous, fillBelow := fb, fillAbove := some kl.2 } (pre ++ e :: post) x = some e.2 := by
  obtain ⟨x0, hf, hx0⟩ : ∃ x0, firstKnotX (pre ++ e :: post) = some x0 ∧ x0 ≤ x := by
    cases pre with
    | nil => exact ⟨e.1, rfl, he⟩
    | cons p ps => exact ⟨p.1, rfl, hpre p List.mem_cons_self⟩
  unfold scipyEvaluate
  simp only [hf, hkl, if_neg (not_lt.mpr hx0), callPrevious_cut pre post e x hpre he hpost]
  split
  · -- above the last knot nothing lies behind the cut: the last knot is `e`
    rename_i habove
    cases post with
    | nil => rw [lastKnot_append] at hkl; rw [← Option.some.inj hkl]
    | cons p ps =>
      rw [lastKnot_eq_getLast?, List.getLast?_append_of_ne_nil _ (by simp), List.getLast?_cons_cons] at hkl
      exact absurd (hpost kl (List.mem_of_getLast? hkl)) (not_lt.mpr habove.le)
  · rfl

theorem qdKnots_append_cons (pre post : List (Int × Nat)) (e : Int × Nat) :
    qdKnots (pre ++ e :: post) = qdKnots pre ++ ((e.1 : Rat), (e.2 : Rat)) :: qdKnots post := by
  unfold qdKnots
  rw [List.map_append, List.map_cons]

theorem qdKnots_length (qd : List (Int × Nat)) : (qdKnots qd).length = qd.length := List.length_map _

theorem qdKnots_pairwise (qd : List (Int × Nat)) (hs : (qd.map (·.1)).Pairwise (· < ·)) :
    ((qdKnots qd).map (·.1)).Pairwise (· < ·) := by
  have := List.Pairwise.map (fun (a : Int) => (a : Rat)) (fun a b (h : a < b) => (Int.cast_lt (R := Rat)).mpr h) hs
  rw [List.map_map] at this
  unfold qdKnots
  rw [List.map_map]
  exact this

end C02Proofs
