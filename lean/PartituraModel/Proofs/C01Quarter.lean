/-
C01 helper lemmas: the quarter-duration table (`qdAt`, `qtabUpdate`, `setQuarterRange`, `setQD`).
-/
import PartituraModel.Proofs.C01Inv

namespace TL

theorem aux_append_le (cur : Nat) (l1 l2 : List (Int × Nat)) (x : Int) (h : ∀ e ∈ l1, e.1 ≤ x) :
    qdAtAux cur (l1 ++ l2) x = qdAtAux ((l1.getLast?.map (·.2)).getD cur) l2 x :=
  (qdAtAux_scan x).append_pos cur l2 h

theorem aux_head_gt (cur : Nat) (l : List (Int × Nat)) (x : Int) (h : ∀ e ∈ l.head?, x < e.1) :
    qdAtAux cur l x = cur :=
  (qdAtAux_scan x).of_head_neg cur fun a ha => Int.not_le.mpr (h a ha)

theorem aux_append_gt (cur : Nat) (l1 l2 : List (Int × Nat)) (x : Int) (h : ∀ e ∈ l2.head?, x < e.1) :
    qdAtAux cur (l1 ++ l2) x = qdAtAux cur l1 x :=
  (qdAtAux_scan x).append_neg cur l1 fun a ha => Int.not_le.mpr (h a ha)

theorem qdAt_eq_aux {tab : List (Int × Nat)} {h0 x : Int} (hh : tab.head?.map (·.1) = some h0) (hx : h0 ≤ x)
    (d : Nat) : qdAt tab x = some (qdAtAux d tab x) := by
  cases tab with
  | nil => simp at hh
  | cons e r =>
    obtain ⟨a, b⟩ := e
    simp only [List.head?_cons, Option.map_some, Option.some.injEq] at hh
    subst hh
    simp [qdAt, qdAtAux, hx]

/-- the first stored change time after `t` -/
def nextChange (tab : List (Int × Nat)) (t : Int) : Option Int :=
  (tab.map (·.1)).find? (fun x => decide (t < x))

def ltOpt (x : Int) : Option Int → Prop
  | none => True
  | some n => x < n

instance (x : Int) (o : Option Int) : Decidable (ltOpt x o) := by
  cases o <;> simp only [ltOpt] <;> infer_instance

theorem tab_getLast_pred (pre : List (Int × Nat)) (post : List (Int × Nat)) (hpos : 0 < pre.length) :
    (pre ++ post)[pre.length - 1]? = pre.getLast? := by
  rcases List.eq_nil_or_concat pre with rfl | ⟨l, a, rfl⟩
  · simp at hpos
  · simp only [List.concat_eq_append]
    rw [getElem?_concat_len_pred]
    simp

/-- "`i == 0 or quarters[i - 1] != quarter`" on the split table -/
def prevDiffers (pre : List (Int × Nat)) (q : Nat) : Bool :=
  match pre.getLast? with
  | some e => e.2 != q
  | none => true

theorem prevDiffers_eq (pre post : List (Int × Nat)) (q : Nat) :
    (pre.length == 0 || (match (pre ++ post)[pre.length - 1]? with | some e => e.2 != q | none => true))
      = prevDiffers pre q := by
  rcases List.eq_nil_or_concat pre with rfl | ⟨l, a, rfl⟩
  · simp [prevDiffers]
  · simp only [List.concat_eq_append]
    rw [getElem?_concat_len_pred]
    simp [prevDiffers]

/-- an entry is stored at `t`: replace it (or nothing to do) -/
theorem qtabUpdate_at (pre post' : List (Int × Nat)) (t : Int) (q q' : Nat) (h1 : ∀ e ∈ pre, e.1 < t) :
    qtabUpdate (pre ++ (t, q') :: post') t q
      = (pre.length, if q' != q then some (pre ++ (t, q) :: post') else none) := by
  have hs := searchsorted_app (·.1) pre ((t, q') :: post') t h1 (by simp)
  unfold qtabUpdate
  simp only [hs, getElem?_app_len, List.head?_cons, if_true, set_app_len]

/-- no entry at `t`: insert unless redundant -/
theorem qtabUpdate_new (pre post : List (Int × Nat)) (t : Int) (q : Nat) (h1 : ∀ e ∈ pre, e.1 < t)
    (h2 : ∀ e ∈ post.head?, t < e.1) :
    qtabUpdate (pre ++ post) t q
      = (pre.length, if prevDiffers pre q then some (pre ++ (t, q) :: post) else none) := by
  have hs := searchsorted_app (·.1) pre post t h1 (fun e he => by have := h2 e he; omega)
  unfold qtabUpdate
  simp only [hs, getElem?_app_len, insertIdx_app_len]
  cases post with
  | nil =>
    rcases List.eq_nil_or_concat pre with rfl | ⟨l, a, rfl⟩
    · simp [prevDiffers]
    · simp only [List.concat_eq_append]
      rw [getElem?_concat_len_pred]
      simp [prevDiffers]
  | cons b r =>
    have := h2 b (by simp)
    have hne : ¬ b.1 = t := by omega
    rcases List.eq_nil_or_concat pre with rfl | ⟨l, a, rfl⟩
    · simp [prevDiffers, hne]
    · simp only [List.concat_eq_append]
      rw [getElem?_concat_len_pred]
      simp [prevDiffers, hne]

theorem setQuarterRange_lnk (pts : List Point) (si ei q : Nat) :
    (setQuarterRange pts si ei q).map (fun p => (p.t, p.prev, p.next, p.starting, p.ending))
      = pts.map (fun p => (p.t, p.prev, p.next, p.starting, p.ending)) := by
  induction pts generalizing si ei with
  | nil => simp [setQuarterRange]
  | cons p ps ih =>
    cases si with
    | zero =>
      cases ei with
      | zero => simp [setQuarterRange]
      | succ ei => simp [setQuarterRange, ih]
    | succ si => simp [setQuarterRange, ih]

/-- on a sorted point list, the index range `[#(<t), #(<tn))` is the time range `[t, tn)` -/
theorem setQuarterRange_sorted (pts : List Point) (hs : (pts.map (·.t)).Pairwise (· < ·)) (t : Int)
    (tn : Option Int) (q : Nat) (htn : ltOpt t tn) :
    setQuarterRange pts (searchsorted (pts.map (·.t)) t) (endIdx pts tn) q
      = pts.map (fun p => if t ≤ p.t ∧ ltOpt p.t tn then { p with quarter := q } else p) := by
  unfold endIdx
  induction pts with
  | nil => cases tn <;> simp [setQuarterRange]
  | cons p ps ih =>
    simp only [List.map_cons, List.pairwise_cons] at hs
    have ih' := ih hs.2
    by_cases hp : p.t < t
    · have hlt : ltOpt p.t tn := by
        cases tn with
        | none => trivial
        | some n => simp only [ltOpt] at htn ⊢; omega
      have hcond : ¬ (t ≤ p.t ∧ ltOpt p.t tn) := fun h => by omega
      cases tn with
      | none =>
        simp only [List.map_cons, searchsorted, hp, if_true, List.length_cons, setQuarterRange, hcond, if_false,
          Nat.add_sub_cancel]
        rw [← ih']
      | some n =>
        simp only [ltOpt] at hlt
        simp only [List.map_cons, searchsorted, hp, hlt, if_true, setQuarterRange, hcond, if_false,
          Nat.add_sub_cancel]
        rw [← ih']
    · -- at or after t: everything later is after t as well
      have hrest : ∀ x ∈ ps.map (·.t), t < x := fun x hx => by have := hs.1 x hx; omega
      have hs0 : searchsorted (ps.map (·.t)) t = 0 := by
        cases ps with
        | nil => rfl
        | cons b r =>
          have := hrest b.t (by simp)
          have hn : ¬ b.t < t := by omega
          simp [searchsorted, hn]
      rw [hs0] at ih'
      by_cases hin : ltOpt p.t tn
      · have hcond : t ≤ p.t ∧ ltOpt p.t tn := ⟨by omega, hin⟩
        cases tn with
        | none =>
          simp only [List.map_cons, searchsorted, hp, if_false, List.length_cons, setQuarterRange, hcond,
            and_self, if_true]
          rw [← ih']
        | some n =>
          simp only [ltOpt] at hin
          simp only [List.map_cons, searchsorted, hp, hin, if_false, if_true, setQuarterRange, hcond, and_self]
          rw [← ih']
      · -- past the range: nothing changes from here on
        cases tn with
        | none => exact absurd trivial hin
        | some n =>
          simp only [ltOpt] at hin
          have hcond : ¬ (t ≤ p.t ∧ ltOpt p.t (some n)) := fun h => hin h.2
          simp only [List.map_cons, searchsorted, hp, hin, if_false, setQuarterRange, hcond]
          congr 1
          symm
          rw [List.map_congr_left (g := id)]
          · simp
          · intro a ha
            have := hs.1 a.t (List.mem_map_of_mem ha)
            have : ¬ (t ≤ a.t ∧ ltOpt a.t (some n)) := fun h => by simp only [ltOpt] at h; omega
            simp [this]

theorem aux_indep (c c' : Nat) (l : List (Int × Nat)) (x : Int) (h : ∃ e ∈ l.head?, e.1 ≤ x) :
    qdAtAux c l x = qdAtAux c' l x :=
  (qdAtAux_scan x).indep c c' h

/-- the law of `set_quarter_duration` on the cut table: with `(t, q)` in the place of `mid` (nothing, or the change stored at
`t`) the lookup answers `q` from `t` up to the next later change and what it answered before everywhere else -/
theorem table_law (pre mid rest : List (Int × Nat)) (t : Int) (q d : Nat) (x : Int)
    (h1 : ∀ e ∈ pre, e.1 < t) (hmid : mid = [] ∨ ∃ q', mid = [(t, q')]) (h2 : ∀ e ∈ rest.head?, t < e.1) :
    qdAtAux d (pre ++ (t, q) :: rest) x
      = if t ≤ x ∧ ltOpt x (rest.head?.map (·.1)) then q else qdAtAux d (pre ++ mid ++ rest) x := by
  by_cases hx : t ≤ x
  · have hpre : ∀ e ∈ pre, e.1 ≤ x := fun e he => by have := h1 e he; omega
    rw [aux_append_le d pre _ x hpre]
    simp only [qdAtAux, hx, if_true, true_and]
    have hold : qdAtAux d (pre ++ mid ++ rest) x = qdAtAux (((pre ++ mid).getLast?.map (·.2)).getD d) rest x := by
      apply aux_append_le
      intro e he
      rcases List.mem_append.mp he with he | he
      · exact hpre e he
      · rcases hmid with rfl | ⟨q', rfl⟩
        · cases he
        · simp at he; subst he; exact hx
    rw [hold]
    cases rest with
    | nil => simp [ltOpt, qdAtAux]
    | cons b r =>
      obtain ⟨tn, qn⟩ := b
      simp only [List.head?_cons, Option.map_some, ltOpt]
      by_cases hn : x < tn
      · have : ¬ tn ≤ x := by omega
        simp [qdAtAux, hn, this]
      · have hle : tn ≤ x := by omega
        simp only [hn, if_false]
        exact aux_indep _ _ _ x ⟨(tn, qn), by simp, hle⟩
  · have hlt : x < t := by omega
    simp only [hx, false_and, if_false]
    rw [aux_append_gt d pre _ x (by simp [hlt])]
    rw [List.append_assoc, aux_append_gt d pre _ x]
    intro e he
    rcases hmid with rfl | ⟨q', rfl⟩
    · simp only [List.nil_append] at he
      have := h2 e he; omega
    · simp at he; subst he; exact hlt

theorem nextChange_split (pre rest : List (Int × Nat)) (t : Int) (h1 : ∀ e ∈ pre, e.1 ≤ t)
    (h2 : ∀ e ∈ rest.head?, t < e.1) : nextChange (pre ++ rest) t = rest.head?.map (·.1) := by
  unfold nextChange
  induction pre with
  | nil =>
    cases rest with
    | nil => rfl
    | cons b r =>
      have := h2 b (by simp)
      simp [this]
  | cons a pre ih =>
    have : a.1 ≤ t := h1 a (by simp)
    have hn : ¬ t < a.1 := by omega
    simp only [List.cons_append, List.map_cons, List.find?_cons, hn, decide_false]
    exact ih (fun e he => h1 e (by simp [he]))

theorem setQD_unchanged {s : Part} {t : Int} {q i : Nat} (h : qtabUpdate s.qtab t q = (i, none)) :
    setQD s t q = s := by
  unfold setQD
  rw [h]

theorem setQD_changed {s : Part} {t : Int} {q : Nat} {pre rest : List (Int × Nat)}
    (h : qtabUpdate s.qtab t q = (pre.length, some (pre ++ (t, q) :: rest))) :
    setQD s t q = { s with
      qtab := pre ++ (t, q) :: rest,
      points := setQuarterRange s.points (searchsorted (s.points.map (·.t)) t)
        (endIdx s.points (rest.head?.map (·.1))) q } := by
  unfold setQD
  rw [h]
  simp only [getElem?_app_len_succ]

/-- what `set_quarter_duration` guarantees, in terms of the split table -/
structure QDResult (s s' : Part) (t : Int) (q : Nat) : Prop where
  objs : s'.objs = s.objs
  requested : s'.requested = s.requested
  same : s'.points.map (fun p => (p.t, p.prev, p.next, p.starting, p.ending))
      = s.points.map (fun p => (p.t, p.prev, p.next, p.starting, p.ending))
  qsorted : (s'.qtab.map (·.1)).Pairwise (· < ·)
  qhead : s'.qtab.head?.map (·.1) = some 0
  law : ∀ x, 0 ≤ x → ∀ v, qdAt s.qtab x = some v →
      qdAt s'.qtab x = some (if t ≤ x ∧ ltOpt x (nextChange s.qtab t) then q else v)
  quarter : ∀ p' ∈ s'.points, qdAt s'.qtab p'.t = some p'.quarter

theorem head_of_split {pre mid rest : List (Int × Nat)} {t : Int} {q : Nat} (ht : 0 ≤ t)
    (hh : (pre ++ mid ++ rest).head?.map (·.1) = some 0)
    (hmid : mid = [] ∨ ∃ q', mid = [(t, q')]) (h2 : ∀ e ∈ rest.head?, t < e.1) :
    (pre ++ (t, q) :: rest).head?.map (·.1) = some 0 := by
  cases pre with
  | cons a pre' => simpa using hh
  | nil =>
    rcases hmid with rfl | ⟨q', rfl⟩
    · cases rest with
      | nil => simp at hh
      | cons b r =>
        have := h2 b (by simp)
        simp at hh
        omega
    · simpa using hh

/-- the clauses of the invariant `set_quarter_duration` depends on (shared by `Inv` and `WInv`) -/
structure QCore (s : Part) : Prop where
  sorted : s.times.Pairwise (· < ·)
  nonneg : ∀ p ∈ s.points, 0 ≤ p.t
  quarter : ∀ p ∈ s.points, qdAt s.qtab p.t = some p.quarter
  qsorted : (s.qtab.map (·.1)).Pairwise (· < ·)
  qhead : s.qtab.head?.map (·.1) = some 0

theorem WCore.toQCore {ex : Option Int} {s : Part} (h : WCore ex s) : QCore s :=
  ⟨h.sorted, h.nonneg, h.quarter, h.qsorted, h.qhead⟩

theorem WInv.toQCore {s : Part} (h : WInv s) : QCore s := h.core.toQCore

theorem result_changed {s : Part} (h : QCore s) {t : Int} (ht : 0 ≤ t) {q : Nat}
    {pre mid rest : List (Int × Nat)} (hsplit : s.qtab = pre ++ mid ++ rest) (h1 : ∀ e ∈ pre, e.1 < t)
    (hmid : mid = [] ∨ ∃ q', mid = [(t, q')]) (h2 : ∀ e ∈ rest, t < e.1)
    (hnc : nextChange s.qtab t = rest.head?.map (·.1))
    (hupd : qtabUpdate s.qtab t q = (pre.length, some (pre ++ (t, q) :: rest))) :
    QDResult s (setQD s t q) t q := by
  have h2h : ∀ e ∈ rest.head?, t < e.1 := fun e he => h2 e (List.mem_of_mem_head? he)
  have hhead := head_of_split (q := q) ht (by rw [← hsplit]; exact h.qhead) hmid h2h
  have hlaw : ∀ x, 0 ≤ x → ∀ v, qdAt s.qtab x = some v →
      qdAt (pre ++ (t, q) :: rest) x = some (if t ≤ x ∧ ltOpt x (nextChange s.qtab t) then q else v) := by
    intro x hx v hv
    rw [qdAt_eq_aux hhead hx 0, table_law pre mid rest t q 0 x h1 hmid h2h, hnc]
    rw [qdAt_eq_aux h.qhead hx 0, hsplit] at hv
    simp only [Option.some.injEq] at hv
    rw [hv]
  have hsrt : ((pre ++ (t, q) :: rest).map (·.1)).Pairwise (· < ·) := by
    have hs := h.qsorted
    rw [hsplit] at hs
    simp only [List.map_append, List.map_cons, List.pairwise_append, List.pairwise_cons] at hs ⊢
    refine ⟨hs.1.1, ⟨?_, hs.2.1⟩, ?_⟩
    · intro x hx
      obtain ⟨e, he, rfl⟩ := List.mem_map.mp hx
      exact h2 e he
    · intro a ha b hb
      obtain ⟨e, he, rfl⟩ := List.mem_map.mp ha
      rcases List.mem_cons.mp hb with rfl | hb
      · exact h1 e he
      · exact hs.2.2 _ (List.mem_append.mpr (Or.inl (List.mem_map_of_mem he))) b hb
  rw [setQD_changed hupd]
  have hpts := setQuarterRange_sorted s.points h.sorted t (rest.head?.map (·.1)) q (by
    cases rest with
    | nil => trivial
    | cons b r => exact h2 b (by simp))
  refine ⟨rfl, rfl, setQuarterRange_lnk _ _ _ _, hsrt, hhead, hlaw, ?_⟩
  intro p' hp'
  simp only at hp'
  rw [hpts] at hp'
  obtain ⟨p, hp, rfl⟩ := List.mem_map.mp hp'
  have hq := hlaw p.t (h.nonneg p hp) p.quarter (h.quarter p hp)
  rw [hnc] at hq
  simp only
  split
  · rename_i hc
    simpa [hc] using hq
  · rename_i hc
    simpa [hc] using hq

theorem result_unchanged {s : Part} (h : QCore s) {t : Int} {q : Nat} {i : Nat}
    (hupd : qtabUpdate s.qtab t q = (i, none))
    (hval : ∀ x, 0 ≤ x → t ≤ x → ltOpt x (nextChange s.qtab t) → qdAt s.qtab x = some q) :
    QDResult s (setQD s t q) t q := by
  rw [setQD_unchanged hupd]
  refine ⟨rfl, rfl, rfl, h.qsorted, h.qhead, ?_, h.quarter⟩
  intro x hx v hv
  split
  · rename_i hc
    rw [hval x hx hc.1 hc.2]
  · exact hv

theorem setQD_result {s : Part} (h : QCore s) {t : Int} (ht : 0 ≤ t) (q : Nat) :
    QDResult s (setQD s t q) t q := by
  -- the table cut at `t`: the changes before `t`, the change stored at `t` if there is one, the later changes
  obtain ⟨pre, mid, rest, hsplit, h1, hmid, h2, -⟩ := sorted_split Prod.fst h.qsorted t
  have hmid' : mid = [] ∨ ∃ q', mid = [(t, q')] :=
    hmid.imp_right fun ⟨b, hb, hbt⟩ => ⟨b.2, by rw [hb, ← hbt]⟩
  have h2h : ∀ e ∈ rest.head?, t < e.1 := fun e he => h2 e (List.mem_of_mem_head? he)
  have hnc : nextChange s.qtab t = rest.head?.map (·.1) := by
    rw [hsplit]
    refine nextChange_split _ _ _ (fun e he => ?_) h2h
    rcases List.mem_append.mp he with he | he
    · exact Int.le_of_lt (h1 e he)
    · rcases hmid' with rfl | ⟨q', rfl⟩
      · cases he
      · rw [List.mem_singleton.mp he]; exact Int.le_refl _
  -- the duration in force on `[t, next change)` when the table stays as it is
  have hval : ∀ {i}, qtabUpdate s.qtab t q = (i, none) → ((pre ++ mid).getLast?.map (·.2)).getD 0 = q →
      QDResult s (setQD s t q) t q := by
    intro i hupd hlv
    refine result_unchanged h hupd fun x hx htx hlt => ?_
    rw [hnc] at hlt
    rw [qdAt_eq_aux h.qhead hx 0, hsplit, aux_append_le 0 (pre ++ mid) rest x, hlv, aux_head_gt]
    · intro e he
      cases rest with
      | nil => cases he
      | cons b r => cases he; exact hlt
    · intro e he
      rcases List.mem_append.mp he with he | he
      · have := h1 e he; omega
      · rcases hmid' with rfl | ⟨q', rfl⟩
        · cases he
        · rw [List.mem_singleton.mp he]; exact htx
  rcases hmid' with rfl | ⟨q', rfl⟩
  · -- no change stored at `t`: insert unless the duration before `t` is `q` already
    have hupd := qtabUpdate_new pre rest t q h1 h2h
    rw [show pre ++ rest = s.qtab by rw [hsplit, List.append_nil]] at hupd
    by_cases hpd : prevDiffers pre q = true
    · rw [if_pos hpd] at hupd
      exact result_changed h ht hsplit h1 (Or.inl rfl) h2 hnc hupd
    · rw [if_neg hpd] at hupd
      refine hval hupd ?_
      -- "`quarters[i - 1] == quarter`": the last change before `t` carries `q`
      rw [List.append_nil]
      unfold prevDiffers at hpd
      cases hg : pre.getLast? with
      | none => simp [hg] at hpd
      | some e => simpa [hg] using hpd
  · -- a change `(t, q')` is stored: replace it unless `q' = q`
    have hupd := qtabUpdate_at pre rest t q q' h1
    rw [show pre ++ (t, q') :: rest = s.qtab by rw [hsplit, List.append_assoc]; rfl] at hupd
    by_cases hq : q' = q
    · rw [if_neg (by simp [hq])] at hupd
      exact hval hupd (by simp [hq])
    · rw [if_pos (by simpa using hq)] at hupd
      exact result_changed h ht hsplit h1 (Or.inr ⟨q', rfl⟩) h2 hnc hupd

theorem setQD_same (s : Part) (t : Int) (q : Nat) :
    (setQD s t q).points.map (fun p => (p.t, p.prev, p.next, p.starting, p.ending))
      = s.points.map (fun p => (p.t, p.prev, p.next, p.starting, p.ending)) := by
  unfold setQD
  split
  · rfl
  · exact setQuarterRange_lnk _ _ _ _

theorem setQD_regAt (s : Part) (t : Int) (q : Nat) (sd : Side) (x : Int) :
    regAt (setQD s t q).points sd x = regAt s.points sd x :=
  regAt_congr unquarter_same (unquarter_of_same (setQD_same s t q)) sd x

theorem setQD_winv {s : Part} (h : WInv s) {t : Int} (ht : 0 ≤ t) (q : Nat) :
    WInv (setQD s t q) ∧ (∀ sd x, regAt (setQD s t q).points sd x = regAt s.points sd x)
      ∧ (Strict s → Strict (setQD s t q)) := by
  have r := setQD_result h.toQCore ht q
  -- only `quarter` attributes and the table are written: the other clauses read the same, the quarter clauses are the law
  have hc : WCore none (setQD s t q) :=
    h.core.of_same unquarter_same (unquarter_of_same r.same) r.objs r.requested r.quarter r.qsorted r.qhead
  have hl : LinksFrom none (setQD s t q).points := by
    refine (linksFrom_congr none s.points (setQD s t q).points ?_).mpr h.links
    have := congrArg (List.map (fun x : Int × Option Int × Option Int × List ObjRef × List ObjRef =>
      (x.1, x.2.1, x.2.2.1))) r.same
    simpa [List.map_map, Function.comp_def] using this
  exact ⟨(winv_iff _).mpr ⟨hc, hl⟩, setQD_regAt s t q,
    fun hs => strict_of_same h.core hc hs (setQD_regAt s t q) r.objs⟩

end TL
