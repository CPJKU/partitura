/-
C11 — lookup by key, for the plain notes (Proofs/C11Walk) and the grace notes (Proofs/C11Grace); invariants of a left fold
that mention the elements already processed or still to come.
-/

namespace C11Lists

theorem find_key_some {α : Type} (key : α → Nat) {l : List α} {k : Nat} {a : α}
    (h : l.find? (fun x => decide (key x = k)) = some a) : key a = k ∧ a ∈ l :=
  ⟨by simpa using List.find?_some h, List.mem_of_find?_eq_some h⟩

theorem find_key_self {α : Type} (key : α → Nat) : ∀ l : List α, (l.map key).Nodup → ∀ a ∈ l,
    l.find? (fun x => decide (key x = key a)) = some a
  | [], _, a, ha => by cases ha
  | b :: l, hnd, a, ha => by
    rw [List.map_cons, List.nodup_cons] at hnd
    rw [List.find?_cons]
    rcases List.mem_cons.mp ha with rfl | hmem
    · simp
    · have hne : ¬ (key b = key a) := fun h => hnd.1 (h ▸ List.mem_map.mpr ⟨a, hmem, rfl⟩)
      simp only [hne, decide_false]
      exact find_key_self key l hnd.2 a hmem

theorem foldl_inv_prefix {σ α : Type} (I : List α → σ → Prop) (f : σ → α → σ) (l : List α)
    (hstep : ∀ pre a post s, l = pre ++ a :: post → I pre s → I (pre ++ [a]) (f s a)) (s : σ) (h0 : I [] s) :
    I l (l.foldl f s) := by
  suffices h : ∀ (rest pre : List α) (s : σ), l = pre ++ rest → I pre s → I l (rest.foldl f s) from h l [] s rfl h0
  intro rest
  induction rest with
  | nil => intro pre s e h; rw [e, List.append_nil]; exact h
  | cons a rest ih =>
    intro pre s e h
    exact ih (pre ++ [a]) (f s a) (by rw [e, List.append_cons]) (hstep pre a rest s e h)

theorem foldl_inv_suffix {σ α : Type} (I : List α → σ → Prop) (f : σ → α → σ)
    (hstep : ∀ a post s, I (a :: post) s → I post (f s a)) :
    ∀ (l : List α) (s : σ), I l s → I [] (l.foldl f s)
  | [], _, h => h
  | a :: l, s, h => foldl_inv_suffix I f hstep l (f s a) (hstep a l s h)

end C11Lists
