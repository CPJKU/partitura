/-
C04 — `sorted(set(l))` by insertion (`insertSorted` / `sortedSet`) for a strict total order given as a Boolean test:
instances of `Lists.IsSortedInsert`.  The orders of time and key signatures are lexicographic products of `<`;
`insertTC` / `sortedTC` for (track, channel) pairs, where the model writes the order of pairs out with `<` (`LtTC`), is the
shared insertion as it stands.
-/
import Mathlib.Data.String.Basic
import PartituraModel.Model.ScoreMidi
import PartituraModel.Proofs.Lists

namespace C04IS
open Model Model.MidiModes Model.ScoreMidi

variable {α : Type}

structure StrictTotal (lt : α → α → Bool) : Prop where
  irrefl : ∀ a, lt a a = false
  trans : ∀ a b c, lt a b = true → lt b c = true → lt a c = true
  tri : ∀ a b, lt a b = false → lt b a = false → a = b

variable {lt : α → α → Bool}

theorem StrictTotal.total (hlt : StrictTotal lt) {a b : α} (hab : ¬ lt a b = true) (hne : a ≠ b) : lt b a = true :=
  by_contra fun hba => hne (hlt.tri a b (Bool.eq_false_iff.mpr hab) (Bool.eq_false_iff.mpr hba))

/-- `insertSorted` tests `lt a x` where the shared insertion tests `x = a`: for a strict total order that is the same -/
theorem isSortedInsert [DecidableEq α] (hlt : StrictTotal lt) :
    Lists.IsSortedInsert (fun a b => lt a b = true) (insertSorted lt) where
  ins_nil _ := rfl
  ins_cons x a as := by
    rw [insertSorted]
    split
    · rfl
    · rename_i h1
      by_cases hxa : x = a
      · rw [if_pos hxa, if_neg (by rw [hxa, hlt.irrefl]; exact Bool.false_ne_true)]
      · rw [if_neg hxa, if_pos (hlt.total h1 hxa)]

theorem mem_insertSorted (hlt : StrictTotal lt) (x y : α) (l : List α) : y ∈ insertSorted lt x l ↔ y = x ∨ y ∈ l :=
  have := Classical.decEq α
  (isSortedInsert hlt).mem_ins

theorem mem_sortedSet (hlt : StrictTotal lt) (y : α) (l : List α) : y ∈ sortedSet lt l ↔ y ∈ l :=
  have := Classical.decEq α
  (isSortedInsert hlt).mem_foldr

theorem insertSorted_sorted (hlt : StrictTotal lt) (x : α) (l : List α) (h : l.Pairwise (fun a b => lt a b = true)) :
    (insertSorted lt x l).Pairwise (fun a b => lt a b = true) :=
  have := Classical.decEq α
  (isSortedInsert hlt).ins_pairwise (hlt.trans _ _ _) hlt.total x h

theorem sortedSet_sorted (hlt : StrictTotal lt) (l : List α) : (sortedSet lt l).Pairwise (fun a b => lt a b = true) :=
  have := Classical.decEq α
  (isSortedInsert hlt).foldr_pairwise (hlt.trans _ _ _) hlt.total l

theorem StrictTotal.irrefl' (hlt : StrictTotal lt) {a : α} : ¬ lt a a = true := fun h =>
  Bool.false_ne_true ((hlt.irrefl a).symm.trans h)

theorem sortedSet_congr (hlt : StrictTotal lt) (l₁ l₂ : List α) (hm : ∀ x, x ∈ l₁ ↔ x ∈ l₂) :
    sortedSet lt l₁ = sortedSet lt l₂ :=
  have := Classical.decEq α
  (isSortedInsert hlt).foldr_congr hlt.irrefl' (hlt.trans _ _ _) hlt.total hm

theorem sortedSet_nodup (hlt : StrictTotal lt) (l : List α) : (sortedSet lt l).Nodup :=
  have := Classical.decEq α
  (isSortedInsert hlt).foldr_nodup hlt.irrefl' (hlt.trans _ _ _) hlt.total l

theorem sortedSet_isEmpty (hlt : StrictTotal lt) (l : List α) : (sortedSet lt l).isEmpty = l.isEmpty :=
  Bool.eq_iff_iff.mpr (by
    rw [List.isEmpty_iff, List.isEmpty_iff, List.eq_nil_iff_forall_not_mem, List.eq_nil_iff_forall_not_mem]
    exact forall_congr' fun x => not_congr (mem_sortedSet hlt x l))

theorem strictTotal_lt {α : Type} [LinearOrder α] : StrictTotal (fun a b : α => decide (a < b)) where
  irrefl a := decide_eq_false (lt_irrefl a)
  trans _ _ _ h1 h2 := decide_eq_true (lt_trans (of_decide_eq_true h1) (of_decide_eq_true h2))
  tri _ _ h1 h2 := le_antisymm (not_lt.mp (of_decide_eq_false h2)) (not_lt.mp (of_decide_eq_false h1))

theorem StrictTotal.lex {α β : Type} [DecidableEq α] {l1 : α → α → Bool} {l2 : β → β → Bool} (h1 : StrictTotal l1)
    (h2 : StrictTotal l2) : StrictTotal (fun a b : α × β => l1 a.1 b.1 || (a.1 == b.1 && l2 a.2 b.2)) where
  irrefl a := by simp [h1.irrefl, h2.irrefl]
  trans a b c hab hbc := by
    simp only [Bool.or_eq_true, Bool.and_eq_true, beq_iff_eq] at hab hbc ⊢
    rcases hab with hab | ⟨e1, s1⟩ <;> rcases hbc with hbc | ⟨e2, s2⟩
    · exact Or.inl (h1.trans _ _ _ hab hbc)
    · exact Or.inl (e2 ▸ hab)
    · exact Or.inl (e1 ▸ hbc)
    · exact Or.inr ⟨e1.trans e2, h2.trans _ _ _ s1 s2⟩
  tri a b hab hba := by
    simp only [Bool.or_eq_false_iff, Bool.and_eq_false_iff, beq_eq_false_iff_ne] at hab hba
    have e1 : a.1 = b.1 := h1.tri _ _ hab.1 hba.1
    exact Prod.ext e1 (h2.tri _ _ (hab.2.resolve_left fun h => h e1) (hba.2.resolve_left fun h => h e1.symm))

theorem ltKS_strict : StrictTotal ltKS := strictTotal_lt.lex strictTotal_lt

theorem ltTS_strict : StrictTotal ltTS := strictTotal_lt.lex (strictTotal_lt.lex strictTotal_lt)

/-- the order of `sorted(notes_by_track_ch.keys())` -/
def LtTC (a b : Nat × Nat) : Prop := a.1 < b.1 ∨ (a.1 = b.1 ∧ a.2 < b.2)

instance : DecidableRel LtTC := fun a b => inferInstanceAs (Decidable (a.1 < b.1 ∨ (a.1 = b.1 ∧ a.2 < b.2)))

theorem insertTC_isSortedInsert : Lists.IsSortedInsert LtTC insertTC := ⟨fun _ => rfl, fun _ _ _ => rfl⟩

theorem LtTC.irrefl {a : Nat × Nat} : ¬ LtTC a a := fun h => by unfold LtTC at h; omega

theorem LtTC.trans {a b c : Nat × Nat} (h1 : LtTC a b) (h2 : LtTC b c) : LtTC a c := by unfold LtTC at *; omega

theorem LtTC.total {a b : Nat × Nat} (h1 : ¬ LtTC a b) (hne : a ≠ b) : LtTC b a := by
  have := mt Prod.ext_iff.mpr hne; unfold LtTC at *; omega

theorem mem_sortedTC (x : Nat × Nat) (l : List (Nat × Nat)) : x ∈ sortedTC l ↔ x ∈ l := insertTC_isSortedInsert.mem_foldr

theorem sortedTC_sorted (l : List (Nat × Nat)) : (sortedTC l).Pairwise LtTC :=
  insertTC_isSortedInsert.foldr_pairwise LtTC.trans LtTC.total l

theorem sortedTC_nodup (l : List (Nat × Nat)) : (sortedTC l).Nodup :=
  insertTC_isSortedInsert.foldr_nodup LtTC.irrefl LtTC.trans LtTC.total l

theorem sortedTC_congr (l₁ l₂ : List (Nat × Nat)) (hm : ∀ x, x ∈ l₁ ↔ x ∈ l₂) : sortedTC l₁ = sortedTC l₂ :=
  insertTC_isSortedInsert.foldr_congr LtTC.irrefl LtTC.trans LtTC.total hm

end C04IS
