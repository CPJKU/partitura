/-
C16 — `process_local_key` and `find_root_note` on variables.  Both return forms of `process_local_key` compute the same
tonic — `localTonic`, a function of the degree letters, of sharps − flats and of the global key — and differ only in how
they write it down; with the secondary degree in its table `find_root_note` is its second `try` on the applied tonic.
-/
import PartituraModel.Model.LocalKey

namespace C16Roman
open Model Gen

/-- a local degree without its accidentals -/
def degreeLetters (loc : String) : String := String.ofList (loc.toList.filter fun c => !(c = '#' || c = 'b'))

/-- the table key `process_local_key` looks the degree up under -/
def degreeKey (loc : String) : String := String.ofList ((lower (degreeLetters loc)).toList.filter pyIsAlphaAscii)

def sharpsMinusFlats (loc : String) : Int := (countChar '#' loc : Int) - (countChar 'b' loc : Int)

/-- the tonic of the local key: the degree's interval from the table of the global mode, its quality moved by
    `d` = sharps − flats, above the tonic of the global key -/
def localTonic (deg : String) (d : Int) (glob : String) : Option (String × Int) :=
  match lookup deg (if pyIsLower glob then DCML_MINOR else DCML_MAJOR) with
  | none => none
  | some (num, qual) =>
    if intervalValid qual num "up" = false then none
    else match changeQuality num qual d with
      | none => none
      | some qual' =>
        match keyStepAlter glob with
        | none => none
        | some (ks, ka) => transposeNoteNoOctave ks ka qual' num

theorem localTonic_inv {deg glob : String} {d : Int} {t : String × Int} (h : localTonic deg d glob = some t) :
    ∃ num qual qual' ks ka, lookup deg (if pyIsLower glob then DCML_MINOR else DCML_MAJOR) = some (num, qual) ∧
      intervalValid qual num "up" = true ∧ changeQuality num qual d = some qual' ∧
      keyStepAlter glob = some (ks, ka) ∧ transposeNoteNoOctave ks ka qual' num = some t := by
  unfold localTonic at h
  split at h
  · cases h
  rename_i num qual hd
  split at h
  · cases h
  rename_i hv
  split at h
  · cases h
  rename_i qual' hq
  split at h
  · cases h
  rename_i ks ka hk
  exact ⟨num, qual, qual', ks, ka, hd, by simpa using hv, hq, hk, h⟩

/-- `process_local_key` in one equation: the global key handed back for an unaltered first degree of the same mode
    when a name is asked for; otherwise the tonic, as (step, alteration) or written in the case of the degree -/
theorem processLocalKey_eq (loc glob : String) (retSA : Bool) :
    processLocalKey loc glob retSA =
      if pyIsLower (degreeLetters loc) = pyIsLower glob ∧ lower (degreeLetters loc) = "i" ∧
          sharpsMinusFlats loc = 0 ∧ retSA = false
      then some (.name glob)
      else (localTonic (degreeKey loc) (sharpsMinusFlats loc) glob).bind fun t =>
        if retSA then some (.stepAlter t.1 t.2)
        else (lookup t.2 INT_TO_ALT).map fun alt =>
          .name ((if pyIsLower (degreeLetters loc) then lower t.1 else upper t.1) ++ alt) := by
  unfold processLocalKey localTonic degreeKey degreeLetters sharpsMinusFlats
  simp only
  split
  · rfl
  split
  · rename_i h; simp only [h, Option.bind_none]
  rename_i h; simp only [h]
  split
  · rfl
  split
  · rename_i h; simp only [h, Option.bind_none]
  rename_i h; simp only [h]
  split
  · rename_i h; simp only [h, Option.bind_none]
  rename_i h; simp only [h]
  split <;> rename_i h <;> simp only [h, Option.bind_none, Option.bind_some]

theorem processLocalKey_stepAlter (loc glob : String) :
    processLocalKey loc glob true =
      (localTonic (degreeKey loc) (sharpsMinusFlats loc) glob).bind fun t =>
        some (.stepAlter t.1 t.2) := by
  rw [processLocalKey_eq]
  simp only [Bool.true_eq_false, and_false, if_false, if_true]

theorem processLocalKey_name (loc glob : String) :
    processLocalKey loc glob false =
      if pyIsLower (degreeLetters loc) = pyIsLower glob ∧ lower (degreeLetters loc) = "i" ∧
          sharpsMinusFlats loc = 0
      then some (.name glob)
      else (localTonic (degreeKey loc) (sharpsMinusFlats loc) glob).bind fun t =>
        (lookup t.2 INT_TO_ALT).map fun alt =>
          .name ((if pyIsLower (degreeLetters loc) then lower t.1 else upper t.1) ++ alt) := by
  rw [processLocalKey_eq]
  simp only [and_true, Bool.false_eq_true, if_false]

theorem dcml_simple : ∀ e ∈ DCML_MAJOR ++ DCML_MINOR,
    e.2.2 ∈ ["dd", "d", "m", "M", "P", "A", "AA"] ∧ e.2.1 ∈ [1, 2, 3, 4, 5, 6, 7] := by decide +kernel

theorem int_alt {a : Int} (h : -3 < a ∧ a < 3) : ∃ alt, (a, alt) ∈ INT_TO_ALT ∧ lookup a INT_TO_ALT = some alt := by
  have : a ∈ [(-2 : Int), -1, 0, 1, 2] := by
    simp only [List.mem_cons, List.not_mem_nil, or_false]
    omega
  obtain ⟨⟨_, alt⟩, he, rfl, hl⟩ :=
    (by decide : ∀ a ∈ [(-2 : Int), -1, 0, 1, 2], ∃ e ∈ INT_TO_ALT, e.1 = a ∧ lookup a INT_TO_ALT = some e.2) a this
  exact ⟨alt, he, hl⟩

/-- with the secondary degree in the table of the key's mode, `find_root_note` is its second `try` on the applied
    tonic: the primary degree's interval from the table of the secondary degree's mode, or — the degree in neither
    table — the local key `process_local_key` names in the applied key -/
theorem findRootNote_of_tonic (lk p s : String) (hs : (romanInterval (pyIsLower lk) s).isSome) :
    findRootNote lk p s = (appliedTonic lk s).bind fun t =>
      match romanInterval (pyIsLower s) p with
      | some i => (transposeNoteNoOctave t.1 t.2 i.1 i.2).bind fun r => (lookup r.2 INT_TO_ALT).map fun alt => r.1 ++ alt
      | none => (lookup t.2 INT_TO_ALT).bind fun alt =>
        match processLocalKey p ((if pyIsLower s then lower t.1 else upper t.1) ++ alt) false with
        | some (.name r) => some r
        | _ => none := by
  obtain ⟨i1, h1⟩ := Option.isSome_iff_exists.mp hs
  unfold findRootNote appliedTonic keyStepAlter
  cases hk : keyStep lk with
  | none => simp
  | some st =>
    cases ha : keyAlter lk with
    | none => simp
    | some ka =>
      simp only [h1, Option.bind_eq_bind, Option.bind_some, Option.pure_def]
      cases transposeNoteNoOctave (String.singleton st) ka i1.1 i1.2 with
      | none => rfl
      | some t =>
        simp only [Option.bind_some]
        cases romanInterval (pyIsLower s) p with
        | some i =>
          simp only
          cases transposeNoteNoOctave t.1 t.2 i.1 i.2 <;> rfl
        | none =>
          simp only
          cases lookup t.2 INT_TO_ALT with
          | none => rfl
          | some alt =>
            simp only [Option.bind_some]
            generalize processLocalKey p _ false = r
            cases r with
            | none => rfl
            | some r => cases r <;> rfl

/-- the lowered second degree in a key `g` whose tonic is (c, al): a minor second above the tonic, written in upper case -/
theorem lowered_second {g c : String} {al : Int} (hk : keyStepAlter g = some (c, al)) :
    processLocalKey "bII" g false =
      (transposeNoteNoOctave c al "m" 2).bind fun t => (lookup t.2 INT_TO_ALT).map fun alt => .name (upper t.1 ++ alt) := by
  have h1 : degreeLetters "bII" = "II" ∧ degreeKey "bII" = "ii" ∧ sharpsMinusFlats "bII" = -1 ∧
      pyIsLower "II" = false ∧ lower "II" ≠ "i" := by decide +kernel
  have h2 : lookup "ii" (if pyIsLower g then DCML_MINOR else DCML_MAJOR) = some (2, "M") := by
    cases pyIsLower g <;> rfl
  have h3 : intervalValid "M" 2 "up" = true ∧ changeQuality 2 "M" (-1) = some "m" := by decide +kernel
  rw [processLocalKey_name, if_neg (by rw [h1.1]; exact fun h => h1.2.2.2.2 h.2.1), h1.1, h1.2.1, h1.2.2.1]
  unfold localTonic
  simp only [h2, h3.1, h3.2, hk, h1.2.2.2.1, Bool.true_eq_false, if_false, Bool.false_eq_true]

theorem appliedTonic_is_note {lk s : String} {t : String × Int} (h : appliedTonic lk s = some t) :
    ∃ c a q n, transposeNoteNoOctave c a q n = some t := by
  unfold appliedTonic at h
  simp only [Option.bind_eq_bind, Option.bind_eq_some_iff] at h
  obtain ⟨st, -, ka, -, i, -, h⟩ := h
  exact ⟨_, _, _, _, h⟩

end C16Roman
