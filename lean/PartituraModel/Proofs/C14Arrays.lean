/-
The numpy contracts (`searchsorted`, stable `argsort`) and numpy's binary search; the notes `from_note_array` builds from
the rows of a note array.
-/
import PartituraModel.Proofs.C14Dict

namespace C14P
open Model Model.Pedal

theorem searchsorted_unique (a : List Rat) (x : Rat) (i : Nat) (h : IsSearchLeft a x i) : searchsortedLeft a x = i := by
  induction a generalizing i with
  | nil => exact (Nat.le_zero.mp h.1).symm
  | cons t rest ih =>
    obtain ⟨hl, hlt, hge⟩ := h
    rw [searchsortedLeft_cons]
    cases i with
    | zero => exact if_neg (not_lt.mpr (hge 0 t (le_refl _) rfl))
    | succ j =>
      rw [if_pos (hlt 0 t (Nat.succ_pos j) rfl),
        ih j ⟨Nat.le_of_succ_le_succ hl, fun k u hk hu => hlt (k + 1) u (Nat.succ_lt_succ hk) hu,
          fun k u hk hu => hge (k + 1) u (Nat.succ_le_succ hk) hu⟩]

/-- numpy's binary search keeps "everything before `lo` is `< x`, everything from `lo + len` on is `≥ x`" -/
theorem binSearch_spec (a : List Rat) (x : Rat) (hs : a.Pairwise (fun u v => u ≤ v)) :
    ∀ (fuel lo len : Nat), len ≤ fuel → lo + len ≤ a.length →
      (∀ j u, j < lo → a[j]? = some u → u < x) → (∀ j u, lo + len ≤ j → a[j]? = some u → x ≤ u) →
      IsSearchLeft a x (binSearchLeft a x fuel lo len) := by
  intro fuel
  induction fuel with
  | zero =>
    intro lo len hf hl h1 h2
    obtain rfl : len = 0 := Nat.le_zero.mp hf
    exact ⟨hl, h1, h2⟩
  | succ fuel ih =>
    intro lo len hf hl h1 h2
    unfold binSearchLeft
    by_cases h0 : len = 0
    · subst h0
      exact ⟨hl, h1, h2⟩
    · have hh : len / 2 < len := Nat.div_lt_self (Nat.pos_of_ne_zero h0) (by decide)
      rw [if_neg h0]
      generalize len / 2 = h at hh ⊢
      have hmid : lo + h < a.length := by omega
      have hget : a[lo + h]? = some a[lo + h] := List.getElem?_eq_getElem hmid
      simp only [hget]
      by_cases hx : a[lo + h] < x
      · rw [if_pos hx]
        refine ih _ _ (by omega) (by omega) (fun j u hj hu => ?_) (fun j u hj hu => h2 j u (by omega) hu)
        exact lt_of_le_of_lt (Lists.pairwise_getElem?_of_le le_refl hs (Nat.le_of_lt_succ hj) hu hget) hx
      · rw [if_neg hx]
        refine ih _ _ (by omega) (by omega) h1 (fun j u hj hu => ?_)
        exact le_trans (not_lt.mp hx) (Lists.pairwise_getElem?_of_le le_refl hs hj hget hu)

theorem nIds_length (k : Nat) : (nIds k).length = k := by simp [nIds]

theorem arrayIds_length (f : ArrFields) (rows : List ARow) : (arrayIds f rows).length = rows.length := by
  unfold arrayIds
  split
  · exact nIds_length _
  · split
    · rfl
    · split
      · exact nIds_length _
      · simp

theorem map_proj {α β γ δ : Type} {l : List α} {l' : List β} {f : α → γ} {g : β → γ} (h : l.map f = l'.map g)
    (π : γ → δ) : l.map (fun a => π (f a)) = l'.map (fun b => π (g b)) := by
  have := congrArg (List.map π) h
  rwa [List.map_map, List.map_map] at this

/-- the note `from_note_array` builds from one row, when the row is one a note array can hold -/
def rebuilt (f : ArrFields) (id : String) (r : Row) : PNote :=
  ⟨some id, r.pitch, r.pitch, r.onsetSec, r.onsetSec + r.durSec, r.onsetSec + r.durSec, r.vel,
    if f.track then r.track else Gen.C14.fromArrayTrackDefault,
    if f.chan then r.chan else Gen.C14.fromArrayChanDefault, none, none⟩

theorem init_rawOfRow (f : ArrFields) (id : String) (r : Row) (hp : 0 ≤ r.pitch ∧ r.pitch ≤ 127)
    (hv : 0 ≤ r.vel ∧ r.vel ≤ 127) (hon : 0 ≤ r.onsetSec) (hd : 0 ≤ r.durSec) :
    initNote (rawOfRow f id r) = some (rebuilt f id r) := by
  have hoff : r.onsetSec ≤ r.onsetSec + r.durSec := le_add_of_nonneg_right hd
  have hval : validInit (rebuilt f id r) = true := by
    refine (validInit_iff _).mpr ⟨⟨hp.1, hp.2, hv.1, hv.2, hon, le_trans hon hoff, le_trans hon hoff⟩, hoff, le_refl _,
      ?_, ?_⟩
    · intro t ht; cases ht
    · intro t u ht; cases ht
  exact (initNote_eq_some _ _).mpr ⟨r.pitch, rfl, hval, rfl⟩

theorem fromArray_eq (f : ArrFields) (hf : f.sec = true ∧ f.vel = true) (rows : List ARow)
    (hrows : ∀ r ∈ rows, (0 ≤ r.row.pitch ∧ r.row.pitch ≤ 127) ∧ (0 ≤ r.row.vel ∧ r.row.vel ≤ 127)
      ∧ 0 ≤ r.row.onsetSec ∧ 0 ≤ r.row.durSec) :
    fromArray f rows = some ⟨((arrayIds f rows).zip rows).map (fun ir => rebuilt f ir.1 ir.2.row), [],
      Gen.C14.defaultThreshold⟩ := by
  by_cases hemp : rows = []
  · rw [hemp, List.zip_nil_right]
    rfl
  · have hinit : mapM' initNote (((arrayIds f rows).zip rows).map (fun ir => rawOfRow f ir.1 ir.2.row))
        = some (((arrayIds f rows).zip rows).map (fun ir => rebuilt f ir.1 ir.2.row)) := by
      rw [mapM'_eq_some_iff, List.map_map, List.map_map]
      apply List.map_congr_left
      intro ir hir
      obtain ⟨hp, hv, hon, hd⟩ := hrows ir.2 (List.of_mem_zip hir).2
      exact init_rawOfRow f ir.1 ir.2.row hp hv hon hd
    rw [fromArray, if_neg (by rwa [List.isEmpty_iff]), hf.1, hf.2, if_neg (by decide), buildRaw, hinit]
    apply assignThr_no_controls
    intro n hn
    obtain ⟨ir, _, rfl⟩ := List.mem_map.mp hn
    rfl

theorem perfRows_cons (uid : Bool) (p : List ARow) (ps : List (List ARow)) :
    perfRows uid (p :: ps) = some (sortBy (fun r : ARow => r.row.onsetSec)
      (sortBy (fun r : ARow => (r.row.pitch : Rat)) (perfConcat uid (p :: ps)))) := rfl

end C14P
