/-
C01 helper lemmas: `add`, `remove` and `get_or_add_point` on any state satisfying `WInv`, without `Valid`: records,
time points, registries as lists, and `Strict` kept when `add` meets free sides.  `add` and `remove` are two passes of
one side each; the side is a parameter of one lemma.
-/
import PartituraModel.Proofs.C01Quarter

namespace TL

/-- the operation carries a negative time-point argument (which the code must reject) -/
def Op.negTime : Op → Bool
  | .add _ st en => isNeg st || isNeg en
  | .getOrAdd t => decide (t < 0)
  | .iterPrev t _ _ _ => decide (t < 0)
  | .iterNext t _ _ _ => decide (t < 0)
  | .getPoint t => decide (t < 0)
  | _ => false

theorem isNeg_false_some {t : Int} (h : isNeg (some t) = false) : 0 ≤ t := by
  simp [isNeg] at h; omega

/-- `which in ("start", "both")` / `which in ("end", "both")` -/
def Which.has : Which → Side → Prop
  | w, .start => w = .start ∨ w = .both
  | w, .stop => w = .stop ∨ w = .both

instance (w : Which) (sd : Side) : Decidable (w.has sd) := by
  cases sd <;> simp only [Which.has] <;> infer_instance

theorem ensurePoint_frame {s s' : Part} {t : Int} (h : ensurePoint s t = .ok s') :
    s'.objs = s.objs ∧ s'.qtab = s.qtab := by
  unfold ensurePoint at h
  split at h
  · cases h
  · split at h
    · simp only [pure, Except.pure, Except.ok.injEq] at h; subst h; exact ⟨rfl, rfl⟩
    · split at h
      · cases h
      · simp only [bind, Except.bind] at h
        split at h
        · cases h
        · simp only [pure, Except.pure, Except.ok.injEq] at h; subst h; exact ⟨rfl, rfl⟩

theorem cleanupPoint_frame {s s' : Part} {t : Int} (h : cleanupPoint s t = .ok s') :
    s'.objs = s.objs ∧ s'.qtab = s.qtab := by
  unfold cleanupPoint at h
  cases hf : findPoint s.points t with
  | none => simp [hf] at h
  | some p =>
    simp only [hf] at h
    split at h
    · cases hr : removePoint s.points t with
      | error e => simp [hr, bind, Except.bind] at h
      | ok pts =>
        simp only [hr, bind, Except.bind, pure, Except.pure, Except.ok.injEq] at h
        subst h; exact ⟨rfl, rfl⟩
    · simp only [pure, Except.pure, Except.ok.injEq] at h
      subst h; exact ⟨rfl, rfl⟩

theorem removeSide_eq_cleanup {s : Part} {sd : Side} {o : ObjRef} {t : Int}
    (hat : (getObj s.objs o).at sd = some t) :
    removeSide s sd o = cleanupPoint (unregister s sd t o) t := by
  unfold removeSide
  simp only [hat]
  have e := cleanupPoint_objs
    { s with points := modifyPoint s.points t (fun p => p.setReg sd (regRemove (p.reg sd) o)) } t
    (setObj s.objs o (fun e => e.setAt sd none))
  unfold unregister
  rw [e]
  cases hc : cleanupPoint
      { s with points := modifyPoint s.points t (fun p => p.setReg sd (regRemove (p.reg sd) o)) } t with
  | error err => rfl
  | ok s2 =>
    have := (cleanupPoint_frame hc).1
    simp only [bind, Except.bind, pure, Except.pure, Except.map]
    rw [this]

/-- one side of `add`: `if t is not None: self.get_or_add_point(t).add_*_object(o)` -/
theorem addSideOpt_wspec {s : Part} (h : WInv s) (sd : Side) {t : Option Int} (o : ObjRef) (hn : isNeg t = false) :
    ∃ s', addSideOpt s sd t o = .ok s' ∧ WInv s' ∧ s'.qtab = s.qtab ∧ s'.requested = s.requested
      ∧ (∀ sd', (getObj s'.objs o).at sd' = if sd' = sd ∧ t.isSome then t else (getObj s.objs o).at sd')
      ∧ (∀ o', o' ≠ o → getObj s'.objs o' = getObj s.objs o')
      ∧ (∀ x, x ∈ s'.times ↔ x ∈ s.times ∨ t = some x)
      ∧ (∀ sd' x, regAt s'.points sd' x
          = if sd' = sd ∧ t = some x then regAdd (regAt s.points sd' x) o else regAt s.points sd' x)
      ∧ ((t.isSome → (getObj s.objs o).at sd = none) → Strict s → Strict s') := by
  cases t with
  | none => exact ⟨s, rfl, h, rfl, rfl, by simp, fun _ _ => rfl, by simp, by simp, fun _ hs => hs⟩
  | some t =>
    have ht : 0 ≤ t := isNeg_false_some hn
    obtain ⟨hc, hl⟩ := (winv_iff s).mp h
    obtain ⟨s1, he, hc1, hl1, hmem, hobjs, hq, hr, htimes, hreg⟩ := ensurePoint_wspec hc hl ht
    refine ⟨register s1 sd t o, ?_, (winv_iff _).mpr ⟨register_winv hc1 hmem, (register_links s1 sd t o).mpr hl1⟩,
      hq, hr, ?_, ?_, ?_, ?_, ?_⟩
    · simp only [addSideOpt]; rw [addSide_eq, he]; rfl
    · intro sd'
      rw [register, hobjs, getObj_setAt]
      simp
    · intro o' hne
      rw [register, hobjs]
      exact getObj_setObj_other (f := fun e => e.setAt sd (some t)) (fun e => by simp) hne
    · intro x
      rw [register_times, htimes]
      simp [eq_comm]
    · intro sd' x
      rw [register_regAt hc1.sorted hmem, hreg, hreg]
      by_cases hx : x = t
      · subst hx; by_cases hsd : sd' = sd <;> simp [hsd]
      · have : ¬ t = x := fun e => hx e.symm
        simp [hx, this]
    · intro hfree hs
      exact strict_register hc1 hmem (strict_of_same hc hc1 hs hreg hobjs) (hobjs ▸ hfree rfl)

/-- what `Part.add(o, st, en)` guarantees on a state of any history -/
structure AddResult (s s' : Part) (o : ObjRef) (st en : Option Int) : Prop where
  winv : WInv s'
  qtab : s'.qtab = s.qtab
  requested : s'.requested = s.requested
  start : (getObj s'.objs o).start = (if st.isSome then st else (getObj s.objs o).start)
  stop : (getObj s'.objs o).stop = (if en.isSome then en else (getObj s.objs o).stop)
  others : ∀ o', o' ≠ o → getObj s'.objs o' = getObj s.objs o'
  times : ∀ x, x ∈ s'.times ↔ x ∈ s.times ∨ some x = st ∨ some x = en
  regs : ∀ sd x, regAt s'.points sd x
      = if (sd = .start ∧ st = some x) ∨ (sd = .stop ∧ en = some x) then regAdd (regAt s.points sd x) o
        else regAt s.points sd x
  strict : Valid s (.add o st en) → Strict s → Strict s'

theorem add_wspec {s : Part} (h : WInv s) {o : ObjRef} {st en : Option Int}
    (hn : (Op.add o st en).negTime = false) :
    ∃ s', step s (.add o st en) = .ok (s', .unit) ∧ AddResult s s' o st en := by
  simp only [Op.negTime, Bool.or_eq_false_iff] at hn
  obtain ⟨s1, he1, hw1, hq1, hr1, ha1, ho1, ht1, hg1, hs1⟩ := addSideOpt_wspec h .start o hn.1
  obtain ⟨s2, he2, hw2, hq2, hr2, ha2, ho2, ht2, hg2, hs2⟩ := addSideOpt_wspec hw1 .stop o hn.2
  refine ⟨s2, ?_, hw2, hq2.trans hq1, hr2.trans hr1, ?_, ?_, fun o' hne => (ho2 o' hne).trans (ho1 o' hne), ?_, ?_, ?_⟩
  · simp [step, stepAdd, hn.1, hn.2, he1, he2, Except.bind, Except.map]
  · have e1 := ha1 .start
    have e2 := ha2 .start
    simp only [reduceCtorEq, false_and, if_false, true_and] at e1 e2
    exact e2.trans e1
  · have e1 := ha1 .stop
    have e2 := ha2 .stop
    simp only [reduceCtorEq, false_and, if_false, true_and] at e1 e2
    exact e2.trans (by rw [e1]; rfl)
  · intro x; rw [ht2, ht1]; simp [or_assoc, eq_comm]
  · intro sd x
    rw [hg2, hg1]
    cases sd <;> simp
  · intro hv hs
    refine hs2 (fun he => ?_) (hs1 (fun hst => hv.1 hst) hs)
    have := ha1 .stop
    simp only [reduceCtorEq, false_and, if_false] at this
    rw [this]
    exact hv.2 he

/-- one side of `remove`, when asked for: the listing the object's reference points to goes, the reference
is cleared, and `_cleanup_point` drops the point if that emptied it -/
theorem removeSide_wspec {s : Part} (h : WInv s) (sd : Side) (o : ObjRef) (doit : Prop) [Decidable doit] :
    ∃ s', (if doit then removeSide s sd o else .ok s) = .ok s' ∧ WInv s' ∧ s'.qtab = s.qtab
      ∧ (∀ sd', (getObj s'.objs o).at sd' = if doit ∧ sd' = sd then none else (getObj s.objs o).at sd')
      ∧ (∀ o', o' ≠ o → getObj s'.objs o' = getObj s.objs o')
      ∧ (∀ sd' x, regAt s'.points sd' x
          = if doit ∧ sd' = sd ∧ (getObj s.objs o).at sd = some x then regRemove (regAt s.points sd' x) o
            else regAt s.points sd' x)
      ∧ (Strict s → Strict s') := by
  by_cases hd : doit
  · simp only [hd, if_true, true_and]
    cases hat : (getObj s.objs o).at sd with
    | none =>
      refine ⟨s, by simp [removeSide, hat, pure, Except.pure], h, rfl, fun sd' => ?_, fun _ _ => rfl, by simp,
        fun hs => hs⟩
      by_cases hsd : sd' = sd
      · subst hsd; simp [hat]
      · simp [hsd]
    | some t =>
      obtain ⟨hc, hl⟩ := (winv_iff s).mp h
      have hmem : t ∈ s.times := hc.getObj_refOn sd o hat
      have hu : WCore (some t) (unregister s sd t o) := unregister_winv hc
      obtain ⟨s', he, hc', hl', hobjs, hq, hreg⟩ := cleanupPoint_wspec hu ((unregister_links s sd t o).mpr hl)
        (by rw [unregister_times]; exact hmem)
      refine ⟨s', by rw [removeSide_eq_cleanup hat]; exact he, (winv_iff _).mpr ⟨hc', hl'⟩, by rw [hq]; rfl,
        fun sd' => ?_, fun o' hne => ?_, fun sd' x => ?_, fun hs => ?_⟩
      · rw [hobjs, unregister, getObj_setAt]
        simp
      · rw [hobjs, unregister]
        exact getObj_setObj_other (f := fun e => e.setAt sd none) (fun e => by simp) hne
      · rw [hreg, unregister_regAt hc.sorted]
        by_cases hx : x = t
        · subst hx; by_cases hsd : sd' = sd <;> simp [hsd]
        · have : ¬ t = x := fun e => hx e.symm
          simp [hx, this]
      · exact strict_of_same hu hc' (strict_unregister hc hs hat) hreg hobjs
  · simp only [hd, if_false, false_and]
    exact ⟨s, rfl, h, rfl, fun _ => rfl, fun _ _ => rfl, fun _ _ => rfl, fun hs => hs⟩

/-- what `Part.remove(o, which)` guarantees on a state of any history (no hypothesis on the object) -/
structure RemoveResult (s s' : Part) (o : ObjRef) (w : Which) : Prop where
  winv : WInv s'
  qtab : s'.qtab = s.qtab
  start : (getObj s'.objs o).start = (if w = .start ∨ w = .both then none else (getObj s.objs o).start)
  stop : (getObj s'.objs o).stop = (if w = .stop ∨ w = .both then none else (getObj s.objs o).stop)
  others : ∀ o', o' ≠ o → getObj s'.objs o' = getObj s.objs o'
  regs : ∀ sd x, regAt s'.points sd x
      = if w.has sd ∧ (getObj s.objs o).at sd = some x then regRemove (regAt s.points sd x) o
        else regAt s.points sd x
  strict : Strict s → Strict s'

theorem remove_wspec {s : Part} (h : WInv s) (o : ObjRef) (w : Which) :
    ∃ s', step s (.remove o w) = .ok (s', .unit) ∧ RemoveResult s s' o w := by
  obtain ⟨s1, he1, hw1, hq1, ha1, ho1, hg1, hs1⟩ := removeSide_wspec h .start o (w = .start ∨ w = .both)
  obtain ⟨s2, he2, hw2, hq2, ha2, ho2, hg2, hs2⟩ := removeSide_wspec hw1 .stop o (w = .stop ∨ w = .both)
  refine ⟨s2, by simp only [step, stepRemove, he1, Except.bind, he2, Except.map], hw2, hq2.trans hq1, ?_, ?_,
    fun o' hne => (ho2 o' hne).trans (ho1 o' hne), ?_, fun hs => hs2 (hs1 hs)⟩
  · have e1 := ha1 .start
    have e2 := ha2 .start
    simp only [reduceCtorEq, and_false, if_false, and_true] at e1 e2
    exact e2.trans e1
  · have e1 := ha1 .stop
    have e2 := ha2 .stop
    simp only [reduceCtorEq, and_false, if_false, and_true] at e1 e2
    exact e2.trans (by rw [e1]; rfl)
  · intro sd x
    have e1 := ha1 .stop
    simp only [reduceCtorEq, and_false, if_false] at e1
    rw [hg2, hg1, e1]
    cases sd <;> simp [Which.has] <;> congr

/-- what `Part.get_or_add_point(t)` guarantees on a state of any history -/
structure GetOrAddResult (s s' : Part) (t : Int) : Prop where
  winv : WInv s'
  qtab : s'.qtab = s.qtab
  objs : s'.objs = s.objs
  mem : t ∈ s'.times
  times : ∀ x, x ∈ s'.times ↔ x ∈ s.times ∨ x = t
  regs : ∀ sd x, regAt s'.points sd x = regAt s.points sd x
  strict : Strict s → Strict s'

theorem getOrAdd_wspec {s : Part} (h : WInv s) {t : Int} (ht : 0 ≤ t) :
    ∃ s', step s (.getOrAdd t) = .ok (s', .point (some t)) ∧ GetOrAddResult s s' t := by
  obtain ⟨hc0, hl0⟩ := (winv_iff s).mp h
  obtain ⟨s1, he, hc, hl, hmem, hobjs, hq, hr, htimes, hreg⟩ := ensurePoint_wspec hc0 hl0 ht
  simp only [step, stepGetOrAdd, he, Except.map]
  have hreq : ∀ x, x ∈ (if t ∈ s1.requested then s1.requested else s1.requested ++ [t])
      ↔ x ∈ s1.requested ∨ x = t := by
    intro x
    split
    · exact ⟨Or.inl, fun hx => hx.elim id (· ▸ ‹t ∈ s1.requested›)⟩
    · simp
  -- the request makes the point at `t` one that may be empty
  have hc' : WCore none { s1 with requested := if t ∈ s1.requested then s1.requested else s1.requested ++ [t] } := by
    refine { hc with nonempty := ?_, requestedOn := ?_ }
    · intro p hp
      rcases hc.nonempty p hp with a | a | a | a
      · exact Or.inl a
      · exact Or.inr (Or.inl a)
      · exact Or.inr (Or.inr (Or.inl ((hreq _).mpr (Or.inl a))))
      · exact Or.inr (Or.inr (Or.inl ((hreq _).mpr (Or.inr (Option.some.inj a)))))
    · intro x hx
      rcases (hreq x).mp hx with hx | rfl
      · exact hc.requestedOn x hx
      · exact hmem
  exact ⟨_, rfl, (winv_iff _).mpr ⟨hc', hl⟩, hq, hobjs, hmem, htimes, hreg,
    fun hs => strict_of_same hc0 hc' hs hreg hobjs⟩

end TL
