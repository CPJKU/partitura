/-
C11 — the tie chain that replaces a note (Model/Measures.lean: `chainFrom`, `mkChain`, `cutPoints`).
-/
import PartituraModel.Model.Measures
import PartituraModel.Proofs.Chain
import Mathlib.Tactic.Linarith

namespace C11Tie
open Model Model.Dur Model.Meas

/-- the pieces tile `[s, e)`: consecutive, each non-empty -/
def PTiles : Nat → Nat → List (Nat × Nat × Option Est) → Prop
  | s, e, [] => s = e
  | s, e, (l, r, _) :: rest => l = s ∧ l < r ∧ PTiles r e rest

theorem ptiles_cons (s e l r : Nat) (x : Option Est) (rest : List (Nat × Nat × Option Est)) :
    PTiles s e ((l, r, x) :: rest) ↔ l = s ∧ l < r ∧ PTiles r e rest := Iff.rfl

theorem ptiles_chain : ∀ (ps : List (Nat × Nat × Option Est)) (s e : Nat), PTiles s e ps →
    C11Chain.Chain (· < ·) s e (ps.map fun p => (p.1, p.2.1))
  | [], _, _, h => h
  | (_, _, _) :: ps, _, _, ⟨h1, h2, h3⟩ => ⟨h1, h2, ptiles_chain ps _ _ h3⟩

theorem ptiles_le (ps : List (Nat × Nat × Option Est)) (s e : Nat) (h : PTiles s e ps) : s ≤ e :=
  C11Chain.chain_le (fun _ _ => Nat.le_of_lt) _ _ _ (ptiles_chain ps s e h)

theorem ptiles_pos (ps : List (Nat × Nat × Option Est)) (s e : Nat) (h : PTiles s e ps) : ∀ p ∈ ps, p.1 < p.2.1 :=
  fun p hp => (C11Chain.chain_mem (fun _ _ => Nat.le_of_lt) _ _ _ (ptiles_chain ps s e h) _ (List.mem_map.mpr ⟨p, hp, rfl⟩)).2.1

def sumDur (c : List Note) : Nat := (c.map fun n => n.stop - n.start).sum

/-- consecutive members are adjacent in time and linked both ways -/
def Linked : List Note → Prop
  | a :: b :: rest => a.stop = b.start ∧ a.tieNext = some b.key ∧ b.tiePrev = some a.key ∧ Linked (b :: rest)
  | _ => True

theorem linked_cons2 (a b : Note) (rest : List Note) :
    Linked (a :: b :: rest) ↔ a.stop = b.start ∧ a.tieNext = some b.key ∧ b.tiePrev = some a.key ∧ Linked (b :: rest) :=
  Iff.rfl

def SameAs (orig : Note) (c : List Note) : Prop :=
  ∀ n ∈ c, n.pitch = orig.pitch ∧ n.voice = orig.voice ∧ n.staff = orig.staff

structure ChainSpec (orig : Note) (s e : Nat) (prev : Option Nat) (ck : Nat) (cid : Option String)
    (ps : List (Nat × Nat × Option Est)) (c : List Note) : Prop where
  len : c.length = ps.length
  bounds : c.map (fun n => (n.start, n.stop, n.sym)) = ps
  same : SameAs orig c
  linked : Linked c
  sum : sumDur c = e - s
  head : ∃ h t, c = h :: t ∧ h.start = s ∧ h.key = ck ∧ h.id = cid ∧ h.tiePrev = prev
  last : ∃ l, c.getLast? = some l ∧ l.stop = e ∧ l.tieNext = orig.tieNext ∧ l.slurStops = orig.slurStops

theorem chainFrom_spec (orig : Note) (base : Nat) : ∀ (ps : List (Nat × Nat × Option Est)) (i : Nat)
    (prev : Option Nat) (ck : Nat) (cid : Option String) (s e : Nat), ps ≠ [] → PTiles s e ps →
    ChainSpec orig s e prev ck cid ps (chainFrom orig base i prev ck cid ps) := by
  intro ps
  induction ps with
  | nil => intro i prev ck cid s e h; exact absurd rfl h
  | cons p rest ih =>
    intro i prev ck cid s e _ ht
    obtain ⟨l, r, sy⟩ := p
    obtain ⟨hl, hlr, hrest⟩ := (ptiles_cons ..).mp ht
    subst hl
    cases rest with
    | nil =>
      have he : r = e := hrest
      subst he
      have hc : chainFrom orig base i prev ck cid [(l, r, sy)] =
          [{ orig with key := ck, id := cid, start := l, stop := r, sym := sy, tiePrev := prev,
                       tieNext := orig.tieNext, slurStops := orig.slurStops }] := rfl
      rw [hc]
      refine ⟨rfl, rfl, ?_, trivial, ?_, ⟨_, _, rfl, rfl, rfl, rfl, rfl⟩, ⟨_, rfl, rfl, rfl, rfl⟩⟩
      · intro n hn; simp only [List.mem_singleton] at hn; subst hn; exact ⟨rfl, rfl, rfl⟩
      · simp [sumDur]
    | cons q rest' =>
      have hc : chainFrom orig base i prev ck cid ((l, r, sy) :: q :: rest') =
          { orig with key := ck, id := cid, start := l, stop := r, sym := sy, tiePrev := prev,
                      tieNext := some (base + i), slurStops := [] }
            :: chainFrom orig base (i + 1) (some ck) (base + i) (cid.bind makeTiedNoteId) (q :: rest') := rfl
      rw [hc]
      have ihq := ih (i + 1) (some ck) (base + i) (cid.bind makeTiedNoteId) r e (by simp) hrest
      obtain ⟨h', t', hceq, hs', hk', hid', hp'⟩ := ihq.head
      have hre := ptiles_le _ _ _ hrest
      refine ⟨?_, ?_, ?_, ?_, ?_, ⟨_, _, rfl, rfl, rfl, rfl, rfl⟩, ?_⟩
      · simp only [List.length_cons]; rw [ihq.len]; simp
      · rw [List.map_cons, ihq.bounds]
      · intro n hn
        rcases List.mem_cons.mp hn with hn | hn
        · subst hn; exact ⟨rfl, rfl, rfl⟩
        · exact ihq.same n hn
      · rw [hceq]
        refine (linked_cons2 ..).mpr ⟨hs'.symm, ?_, ?_, ?_⟩
        · simp only; rw [hk']
        · rw [hp']
        · rw [← hceq]; exact ihq.linked
      · have := ihq.sum
        simp only [sumDur, List.map_cons, List.sum_cons] at this ⊢
        rw [this]; omega
      · obtain ⟨la, hla, h1, h2, h3⟩ := ihq.last
        refine ⟨la, ?_, h1, h2, h3⟩
        rw [hceq] at hla ⊢
        simpa [List.getLast?_cons_cons] using hla

/-- the note-array row a chain contributes: onset of its head, summed duration, pitch, voice -/
def chainRow (c : List Note) : Option (Nat × Nat × String × Option Int) :=
  c.head?.map fun h => (h.start, sumDur c, h.pitch, h.voice)

def noteRow (n : Note) : Nat × Nat × String × Option Int := (n.start, n.stop - n.start, n.pitch, n.voice)

theorem mkChain_sound (orig : Note) (base : Nat) (ps : List (Nat × Nat × Option Est)) (hne : ps ≠ [])
    (ht : PTiles orig.start orig.stop ps) :
    chainRow (mkChain orig base ps) = some (noteRow orig) ∧
    ChainSpec orig orig.start orig.stop orig.tiePrev orig.key orig.id ps (mkChain orig base ps) := by
  have sp := chainFrom_spec orig base ps 0 orig.tiePrev orig.key orig.id orig.start orig.stop hne ht
  refine ⟨?_, sp⟩
  obtain ⟨h, t, hc, hs, _, _, _⟩ := sp.head
  have hsame := sp.same h (by rw [hc]; exact List.mem_cons_self)
  have hsum := sp.sum
  show chainRow (chainFrom orig base 0 orig.tiePrev orig.key orig.id ps) = some (noteRow orig)
  unfold chainRow noteRow
  rw [hsum, hc]
  simp only [List.head?_cons, Option.map_some, hs, hsame.1, hsame.2.1]

theorem pieces_cons (start stop m : Nat) (ms : List Nat) :
    pieceBounds start stop (cutPoints start stop (m :: ms)) =
      if m ≤ start then pieceBounds start stop (cutPoints start stop ms)
      else if stop > m then (start, m) :: pieceBounds m stop (cutPoints m stop ms)
      else [(start, stop)] := by
  have e : cutPoints start stop (m :: ms) =
      if m ≤ start then cutPoints start stop ms else if stop > m then m :: cutPoints m stop ms else [] := rfl
  rw [e]
  split
  · rfl
  · split <;> rfl

theorem cutPoints_tiles (f : Nat × Nat → Option Est) : ∀ (ms : List Nat) (start stop : Nat), start < stop →
    PTiles start stop ((pieceBounds start stop (cutPoints start stop ms)).map fun b => (b.1, b.2, f b)) := by
  intro ms
  induction ms with
  | nil =>
    intro start stop h
    exact (ptiles_cons ..).mpr ⟨rfl, h, rfl⟩
  | cons m ms ih =>
    intro start stop h
    rw [pieces_cons]
    split
    · exact ih start stop h
    · split
      · rename_i h1 h2
        exact (ptiles_cons ..).mpr ⟨rfl, by omega, ih m stop h2⟩
      · exact (ptiles_cons ..).mpr ⟨rfl, h, rfl⟩

theorem cutPoints_cons_lt : ∀ (ms : List Nat) (start stop c : Nat) (cs : List Nat),
    cutPoints start stop ms = c :: cs → start < stop := by
  intro ms
  induction ms with
  | nil => intro start stop c cs h; simp [cutPoints] at h
  | cons m ms ih =>
    intro start stop c cs h
    unfold cutPoints at h
    split at h
    · exact ih start stop c cs h
    · split at h
      · omega
      · cases h

theorem cutPieces_ge (ms : List Nat) (start stop : Nat) :
    ∀ b ∈ pieceBounds start stop (cutPoints start stop ms), start ≤ b.1 := by
  intro b hb
  cases hc : cutPoints start stop ms with
  | nil => rw [hc] at hb; cases List.mem_singleton.mp hb; exact Nat.le_refl _
  | cons c cs =>
    have t := cutPoints_tiles (fun _ => none) ms start stop (cutPoints_cons_lt ms start stop c cs hc)
    exact (C11Chain.chain_mem (fun _ _ => Nat.le_of_lt) _ _ _ (ptiles_chain _ _ _ t) (b.1, b.2)
      (by simp only [List.map_map, List.mem_map, Function.comp]; exact ⟨b, hb, rfl⟩)).1

theorem cutPoints_no_inner : ∀ (ms : List Nat) (start stop : Nat), ms.Pairwise (· ≤ ·) →
    ∀ b ∈ pieceBounds start stop (cutPoints start stop ms), ∀ m ∈ ms, ¬ (b.1 < m ∧ m < b.2) := by
  intro ms
  induction ms with
  | nil => intro start stop _ b _ m hm; simp at hm
  | cons m0 ms ih =>
    intro start stop hs b hb m hm
    have hs' := (List.pairwise_cons.mp hs)
    rw [pieces_cons] at hb
    split at hb
    · rename_i hle
      rcases List.mem_cons.mp hm with hm | hm
      · subst hm
        have := cutPieces_ge ms start stop b hb
        omega
      · exact ih start stop hs'.2 b hb m hm
    · split at hb
      · rename_i h1 h2
        rcases List.mem_cons.mp hb with hb | hb
        · subst hb
          rcases List.mem_cons.mp hm with hm | hm
          · subst hm; simp
          · have := hs'.1 m hm; simp only; omega
        · rcases List.mem_cons.mp hm with hm | hm
          · subst hm
            have := cutPieces_ge ms m stop b hb
            omega
          · exact ih m0 stop hs'.2 b hb m hm
      · rename_i h1 h2
        cases List.mem_singleton.mp hb
        rcases List.mem_cons.mp hm with hm | hm
        · subst hm; simp only; omega
        · have := hs'.1 m hm; simp only; omega

end C11Tie
