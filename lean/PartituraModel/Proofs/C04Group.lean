/-
C04 — Python dicts as lists.  Grouping: collecting the elements of a list key after key, the keys in order of first
appearance, is a permutation of the list.  Updating: one update (`upsert`, an instance of `Dicts.upsert`) behind
`dictSet`, `dictAppend` and the nested rank helper, with its keys and the lookup afterwards.
-/
import Mathlib.Data.List.Perm.Basic
import PartituraModel.Model.ScoreMidi
import PartituraModel.Proofs.Dicts

namespace C04G
open Model Model.ScoreMidi Model.MidiPair

variable {α κ : Type}

theorem firstSeen_nodup [DecidableEq κ] (l : List κ) : (firstSeen l).Nodup := (Dicts.firstSeen_aux l [] List.nodup_nil).2.1

theorem mem_firstSeen [DecidableEq κ] (l : List κ) (x : κ) : x ∈ firstSeen l ↔ x ∈ l :=
  ((Dicts.firstSeen_aux l [] List.nodup_nil).2.2 x).trans (by rw [List.mem_nil_iff, false_or])

/-- Python: `for k in d: for x in d[k]` after `d[key(x)].append(x)` for the elements of `l` -/
theorem firstSeen_group_perm [DecidableEq κ] (f : α → κ) (l : List α) :
    ((firstSeen (l.map f)).flatMap fun k => l.filter (fun x => f x = k)).Perm l :=
  Dicts.flatMap_filter_perm f (firstSeen_nodup _) l (fun x hx => (mem_firstSeen _ _).mpr (List.mem_map.mpr ⟨x, hx, rfl⟩))

/-- the same with the elements expanded by `G`: the shape in which the three dicts of the importer are read out -/
theorem group_flatMap_perm {β : Type} [DecidableEq κ] (f : α → κ) (ks : List κ) (hnd : ks.Nodup) (l : List α)
    (hall : ∀ x ∈ l, f x ∈ ks) (G : α → List β) :
    (ks.flatMap fun k => (l.filter (fun x => f x = k)).flatMap G).Perm (l.flatMap G) := by
  rw [← List.flatMap_assoc]
  exact (Dicts.flatMap_filter_perm f hnd l hall).flatMap_right G

theorem firstSeen_flatMap_perm {β : Type} [DecidableEq κ] (f : α → κ) (l : List α) (G : α → List β) :
    ((firstSeen (l.map f)).flatMap fun k => (l.filter (fun x => f x = k)).flatMap G).Perm (l.flatMap G) :=
  group_flatMap_perm f _ (firstSeen_nodup _) l (fun x hx => (mem_firstSeen _ _).mpr (List.mem_map.mpr ⟨x, hx, rfl⟩)) G

theorem flatMap_zipIdx {α β : Type} (f : α → List β) (l : List α) (k : Nat) :
    ((l.zipIdx k).flatMap fun xi => f xi.1) = l.flatMap f :=
  (List.flatMap_map (f := Prod.fst) (g := f) (l := l.zipIdx k)).symm.trans (congrArg (List.flatMap f) (List.zipIdx_map_fst k l))

theorem channelsOf_eq (ns : List NoteRec) : channelsOf ns = firstSeen (ns.map (·.ch)) := by
  unfold channelsOf firstSeen
  rw [List.foldl_map]

end C04G

namespace C04D
open Model Model.ScoreMidi

variable {κ β : Type} [DecidableEq κ]

def keysOf (d : List (κ × β)) : List κ := d.map (·.1)

theorem any_key_iff (d : List (κ × β)) (k : κ) : (d.any (fun e => e.1 = k)) = true ↔ k ∈ keysOf d :=
  Dicts.any_key_iff Prod.fst d k

/-- the dict updates of the exporter and of the rank helpers in one: the value under `k` becomes `F` of it, or `(k, v0)` is appended
    (`dictSet d k v = upsert d k (fun _ => v) v`, `dictAppend d k v = upsert d k (· ++ [v]) [v]`, by `rfl`) -/
def upsert (d : List (κ × β)) (k : κ) (F : β → β) (v0 : β) : List (κ × β) :=
  Dicts.upsert Prod.fst d k (fun e => (k, F e.2)) (k, v0)

theorem keys_upsert (d : List (κ × β)) (k : κ) (F : β → β) (v0 : β) :
    keysOf (upsert d k F v0) = if k ∈ keysOf d then keysOf d else keysOf d ++ [k] :=
  Dicts.keys_upsert (fun _ _ => rfl) rfl

theorem mem_keys_upsert (d : List (κ × β)) (k : κ) (F : β → β) (v0 : β) (x : κ) :
    x ∈ keysOf (upsert d k F v0) ↔ x ∈ keysOf d ∨ x = k :=
  Dicts.mem_keys_upsert (fun _ _ => rfl) rfl

theorem nodup_upsert (d : List (κ × β)) (k : κ) (F : β → β) (v0 : β) (h : (keysOf d).Nodup) :
    (keysOf (upsert d k F v0)).Nodup :=
  Dicts.nodup_keys_upsert (fun _ _ => rfl) rfl h

theorem lookup_upsert (d : List (κ × β)) (k : κ) (F : β → β) (v0 : β) (t : κ) :
    lookup t (upsert d k F v0) = if k = t then some ((lookup k d).elim v0 F) else lookup t d := by
  have h : (upsert d k F v0).find? (fun e => e.1 == t) = _ := Dicts.find?_upsert (fun _ _ => rfl) rfl
  rw [lookup_eq_find?, lookup_eq_find?, lookup_eq_find?, h]
  split
  · cases d.find? (fun e => e.1 == k) <;> rfl
  · rfl

end C04D
