/-
C12 — the functions of Model/ConversionsArr.lean written over the literals of Gen/C12Lits.lean coincide with
the functions the theorems of Props/C12*.lean are stated for.  Every lemma re-elaborates when a literal of the source
changes.
-/
import PartituraModel.Model.ConversionsArr
import PartituraModel.Proofs.C12Bridge
import Mathlib.Tactic.IntervalCases

namespace C12Lits
open Model Gen Gen.C12 Gen.C12L

theorem keyNameK_eq (name : String) : keyNameToFifthsModeK name = keyNameToFifthsModeG name := by
  unfold keyNameToFifthsModeK keyNameToFifthsModeG keyNameToFifthsModeL
  cases h : name.toList with
  | nil => rfl
  | cons c rest =>
    have hb : ∀ {α β : Type} (x : Option α) (f : α → β), (x.bind fun a => some (f a)) = x.map f := by
      intro α β x f; cases x <;> rfl
    -- same branches in the same order: with the eight generated constants put in, the K text is the L text up to
    -- `i + 0` for `i` and one comparison made in `Int` instead of `Nat`; `simp` normalises both sides (and leaves
    -- `bind (some ∘ f)` where the other side has `map f`, hence `hb`); the normal form is that of Mathlib's simp set,
    -- which is why this file imports a Mathlib tactic module
    simp [k2fMinor, k2fMajor, k2fMinorMark, k2fLenEq, k2fLenThr, k2fMajorName, k2fFlatSide, k2fSharpSide]
    simp only [hb]
    rfl

theorem secToTickArr_eq (ts : List Rat) (mpq ppq : Option Nat) (hm : mpq.getD 500000 ≠ 0) :
    secToTickArr ts mpq ppq = some (ts.map fun t => secToTick t (mpq.getD 500000) (ppq.getD 480)) := if_neg hm

theorem tickToSecArr_eq (ks : List Int) (mpq ppq : Option Nat) (hp : ppq.getD 480 ≠ 0) :
    tickToSecArr (ks.map fun (k : Int) => (k : Rat)) mpq ppq =
      some (ks.map fun k => tickToSec k (mpq.getD 500000) (ppq.getD 480)) := by
  unfold tickToSecArr tickToSec
  simp only [show t2sDefaultPpq = 480 from rfl, if_neg hp, List.map_map]; rfl

theorem accStringG_eq (a : Int) : accStringG a = accString a := rfl

theorem spellingToNoteNameG_eq (s : String) (a o : Int) : spellingToNoteNameG s a o = spellingToNoteName s a o := rfl

theorem pyFormat_fsd (a n : String) : pyFormat fsdFormat.toList [a, n] = "_" ++ a ++ "/" ++ n := by
  have : fsdFormat.toList = ['_', '{', '}', '/', '{', '}'] := by decide
  rw [this]
  simp [pyFormat, String.append_assoc]

theorem formatSymbolicG_eq (x : Option (Option String × Option Nat × Option Nat × Option Nat)) :
    formatSymbolicG x = formatSymbolic x := by
  cases x with
  | none => rfl
  | some v =>
    obtain ⟨ty, dots, actual, normal⟩ := v
    have hty : strOr ty fsdTypeDefault = ty.getD "" := by
      cases ty with
      | none => rfl
      | some s =>
        by_cases h : s = ""
        · subst h; rfl
        · simp [strOr, h]
    unfold formatSymbolicG formatSymbolic
    simp only [hty]
    cases actual <;> cases normal <;> simp only [pyFormat_fsd, String.append_assoc] <;> rfl

theorem natOr_one (x : Option Nat) :
    natOr x 1 = (let n : Rat := ((x.getD 1 : Nat) : Rat); if n = 0 then 1 else n) := by
  cases x with
  | none => simp [natOr]
  | some v =>
    by_cases h : v = 0
    · subst h; simp [natOr]
    · have : ((v : Nat) : Rat) ≠ 0 := by exact_mod_cast h
      simp [natOr, h, this]

theorem symbolicToNumericG_eq (ty : String) (d : Nat) (a n : Option Nat) (divs : Rat) :
    symbolicToNumericG (some ty) (some d) a n divs = symbolicToNumeric (ty, d, a, n) divs := by
  have h1 : s2nOrNormal = 1 := rfl
  have h2 : s2nOrActual = 1 := rfl
  unfold symbolicToNumericG symbolicToNumeric
  simp only [Option.bind_some, Option.getD_some, h1, h2, natOr_one]
  rfl

/-- keys left out: no type is a KeyError, no dots are no dots -/
theorem symbolicToNumericG_absent (d a n : Option Nat) (ty : Option String) (divs : Rat) :
    symbolicToNumericG none d a n divs = none ∧
    symbolicToNumericG ty d a n divs = symbolicToNumericG ty (some (d.getD 0)) a n divs := by
  constructor
  · unfold symbolicToNumericG; rfl
  · cases d <;> rfl

theorem toQuarterTempoG_eq (u : String) (t : Rat) : toQuarterTempoG u t = toQuarterTempo u t := by
  have hs : (fun c : Char => tqtStrip.contains c) = (fun c : Char => decide (c = '.')) := by
    funext c
    simp [tqtStrip]
  unfold toQuarterTempoG toQuarterTempo
  rw [hs]
  rfl

end C12Lits
