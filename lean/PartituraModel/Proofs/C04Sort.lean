/-
C04 — the track assembly: `sortEv` is a stable sort by tick; delta times and absolute times are
inverse to each other.
-/
import PartituraModel.Model.MidiPair
import Mathlib.Tactic.Linarith
import PartituraModel.Proofs.Orders

namespace C04S
open Model Model.MidiPair

variable {α : Type}

theorem isSort : Lists.IsInsertionSort (fun a b : Int × α => decide (a.1 ≤ b.1)) insertEv sortEv :=
  ⟨fun _ => rfl, fun _ _ _ => by simp only [insertEv, decide_eq_true_eq], rfl, fun _ _ => rfl⟩

theorem sortEv_cons (e : Int × α) (l : List (Int × α)) : sortEv (e :: l) = insertEv e (sortEv l) := rfl

/-- the order a stable sort by tick produces from a list whose elements are pairwise in relation `Q`:
    earlier tick first, equal ticks in the original (`Q`) order -/
def Lex (Q : Int × α → Int × α → Prop) (a b : Int × α) : Prop := a.1 < b.1 ∨ (a.1 = b.1 ∧ Q a b)

theorem sortEv_pairwise (Q : Int × α → Int × α → Prop) (l : List (Int × α)) (hl : l.Pairwise Q) :
    (sortEv l).Pairwise (Lex Q) :=
  isSort.pairwise_key_stable hl

theorem sortEv_sorted (l : List (Int × α)) : (sortEv l).Pairwise (fun a b => a.1 ≤ b.1) := isSort.pairwise_key l

theorem sortEv_stable (l : List (Int × α)) (t : Int) :
    (sortEv l).filter (fun x => x.1 = t) = l.filter (fun x => x.1 = t) :=
  isSort.filter (fun a b ha hb => by simp only [decide_eq_true_eq] at ha hb ⊢; omega) l

theorem sortEv_map {β : Type} (f : α → β) (l : List (Int × α)) :
    (sortEv l).map (fun x => (x.1, f x.2)) = sortEv (l.map fun x => (x.1, f x.2)) :=
  (isSort.map isSort (fun x => (x.1, f x.2)) (fun _ _ => rfl) l).symm

theorem sortEv_filter (p : Int × α → Bool) (l : List (Int × α)) : (sortEv l).filter p = sortEv (l.filter p) :=
  isSort.filter_comm (Lists.TotalPreorder.of_key Prod.fst) p l

theorem absolute_deltas (prev : Int) (l : List (Int × α)) : absoluteFrom prev (deltasFrom prev l) = l := by
  induction l generalizing prev with
  | nil => rfl
  | cons a as ih =>
    obtain ⟨t, m⟩ := a
    simp only [deltasFrom, absoluteFrom]
    have : prev + (t - prev) = t := by omega
    rw [this, ih]

theorem deltas_absolute (prev : Int) (l : List (Int × α)) : deltasFrom prev (absoluteFrom prev l) = l := by
  induction l generalizing prev with
  | nil => rfl
  | cons a as ih =>
    obtain ⟨d, m⟩ := a
    simp only [absoluteFrom, deltasFrom]
    have : prev + d - prev = d := by omega
    rw [this, ih]

theorem deltas_nonneg (prev : Int) (l : List (Int × α)) (hs : l.Pairwise (fun a b => a.1 ≤ b.1))
    (h0 : ∀ x ∈ l, prev ≤ x.1) : ∀ x ∈ deltasFrom prev l, 0 ≤ x.1 := by
  induction l generalizing prev with
  | nil => intro x hx; cases hx
  | cons a as ih =>
    obtain ⟨t, m⟩ := a
    obtain ⟨ha, has⟩ := List.pairwise_cons.mp hs
    intro x hx
    simp only [deltasFrom, List.mem_cons] at hx
    rcases hx with rfl | hx
    · have := h0 (t, m) List.mem_cons_self
      simp only at this ⊢
      omega
    · exact ih t has (fun y hy => ha y hy) x hx

end C04S
