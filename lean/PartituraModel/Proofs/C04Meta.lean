/-
C04 — the signature and tempo dictionaries of the exporter: Python `defaultdict(list)` keyed by tick
(`dictAppend`), the `tempos` dict (`dictSet`), and what `partMetas` / `exportTempos` put into them.
-/
import PartituraModel.Proofs.C04Pair
import PartituraModel.Proofs.C04Group
import PartituraModel.Model.ScoreMidiSpec

namespace C04D
open Model Model.Ticks Model.MidiPair Model.MidiModes Model.ScoreMidi

def isTS : Int × Msg → Bool
  | (_, .timeSig _ _) => true
  | _ => false

def isKS : Int × Msg → Bool
  | (_, .keySig _) => true
  | _ => false

def isTempo : Int × Msg → Bool
  | (_, .tempo _) => true
  | _ => false

variable {κ β : Type} [DecidableEq κ]

theorem nodup_dictAppend (d : List (κ × List β)) (k : κ) (v : β) (h : (keysOf d).Nodup) :
    (keysOf (dictAppend d k v)).Nodup := nodup_upsert d k (· ++ [v]) [v] h

theorem mem_keys_dictAppend (d : List (κ × List β)) (k : κ) (v : β) (x : κ) :
    x ∈ keysOf (dictAppend d k v) ↔ x ∈ keysOf d ∨ x = k := mem_keys_upsert d k (· ++ [v]) [v] x

def flat (d : List (κ × List β)) : List (κ × β) := d.flatMap fun e => e.2.map fun m => (e.1, m)

theorem flat_dictAppend (d : List (κ × List β)) (k : κ) (v : β) (h : (keysOf d).Nodup) :
    (flat (dictAppend d k v)).Perm (flat d ++ [(k, v)]) := by
  by_cases hk : k ∈ keysOf d
  · -- every entry flattens as before, the one under `k` with `(k, v)` after it
    let G : κ × List β → List (κ × β) := fun e => e.2.map fun m => (e.1, m)
    have hG : ∀ e, G (if e.1 = k then (k, e.2 ++ [v]) else e) = G e ++ if e.1 = k then [(k, v)] else [] := fun e => by
      split
      · rename_i he; exact (List.map_append ..).trans (by rw [← he]; rfl)
      · exact (List.append_nil _).symm
    rw [show dictAppend d k v = d.map (fun e => if e.1 = k then (k, e.2 ++ [v]) else e) from Dicts.upsert_of_key hk,
      show ∀ d', flat d' = d'.flatMap G from fun _ => rfl, List.flatMap_map, List.flatMap_congr fun e _ => hG e]
    refine (List.flatMap_append_perm d _ _).symm.trans (List.Perm.append_left _ (List.Perm.of_eq ?_))
    -- and one entry stands under `k`
    induction d with
    | nil => cases hk
    | cons e rest ih =>
      obtain ⟨he, hr⟩ := List.nodup_cons.mp h
      rw [List.flatMap_cons]
      by_cases hek : e.1 = k
      · rw [if_pos hek, List.flatMap_eq_nil_iff.mpr fun x hx => if_neg fun hxk => he (List.mem_map.mpr ⟨x, hx, hxk.trans hek.symm⟩)]
        rfl
      · rw [if_neg hek, List.nil_append]
        exact ih hr ((List.mem_cons.mp hk).resolve_left (Ne.symm hek))
  · rw [show dictAppend d k v = d ++ [(k, [v])] from Dicts.upsert_of_not_key hk, flat, List.flatMap_append]
    rfl
theorem foldl_dictAppend {γ : Type} (kf : γ → κ) (vf : γ → β) (l : List γ) (d : List (κ × List β))
    (h : (keysOf d).Nodup) :
    (keysOf (l.foldl (fun d e => dictAppend d (kf e) (vf e)) d)).Nodup ∧
    (flat (l.foldl (fun d e => dictAppend d (kf e) (vf e)) d)).Perm (flat d ++ l.map fun e => (kf e, vf e)) := by
  induction l generalizing d with
  | nil => simp [h]
  | cons x xs ih =>
    rw [List.foldl_cons]
    obtain ⟨h1, h2⟩ := ih (dictAppend d (kf x) (vf x)) (nodup_dictAppend d _ _ h)
    refine ⟨h1, h2.trans ?_⟩
    rw [List.map_cons]
    refine ((flat_dictAppend d (kf x) (vf x) h).append_right _).trans ?_
    simp

theorem flattenDict_eq (d : MetaDict) : flattenDict d = flat d := rfl

theorem partMetas_plain (a : Anacrusis) (ha : a ≠ .timeSigChange) (p : PartIn) (tk : Nat → Int) (d : MetaDict)
    (h : partMetas a p tk = some d) : (flattenDict d).Perm (tsImages a p tk ++ ksImages p tk) := by
  obtain ⟨n1, p1⟩ := foldl_dictAppend (fun x : (Nat × Nat × Nat) × Nat => if a = .padBar ∧ x.2 = 0 then (0 : Int) else tk x.1.1)
    (fun x => Msg.timeSig x.1.2.1 x.1.2.2) p.base.ts.zipIdx [] List.nodup_nil
  obtain ⟨_, p2⟩ := foldl_dictAppend (fun ks : Nat × String => tk ks.1) (fun ks => Msg.keySig ks.2) p.ks _ n1
  cases a with
  | timeSigChange => exact absurd rfl ha
  | _ =>
    obtain rfl := Option.some.inj h
    rw [flattenDict_eq]
    exact p2.trans (p1.append_right _)

/-- the measure is irregular: its length in beats differs from the beats of the signature in force -/
def irregular (b : TimeBase) (m : Nat × Nat) : Bool :=
  match tsAt b m.1 with
  | some (beats, _) => decide (beatDur b m.1 m.2 ≠ (beats : Rat))
  | none => false

/-- a dict of time signatures at ticks of the set `K`, one entry per tick: what the `time_sig_change` branch builds
    before the key signatures are added -/
def TSDict (K : Int → Prop) (d : MetaDict) : Prop := (keysOf d).Nodup ∧ ∀ x ∈ flat d, isTS x = true ∧ K x.1

theorem TSDict.nil (K : Int → Prop) : TSDict K [] := ⟨List.nodup_nil, fun x hx => by simp [flat] at hx⟩

theorem TSDict.append {K : Int → Prop} {d : MetaDict} (h : TSDict K d) {k : Int} (hk : K k) (n dn : Int) :
    TSDict K (dictAppend d k (.timeSig n dn)) := by
  refine ⟨nodup_dictAppend d k _ h.1, fun x hx => ?_⟩
  rcases List.mem_append.mp ((flat_dictAppend d k (Msg.timeSig n dn) h.1).mem_iff.mp hx) with h' | h'
  · exact h.2 x h'
  · rw [List.mem_singleton.mp h']
    exact ⟨rfl, hk⟩

/-- two signatures at one time: the second is kept -/
theorem TSDict.dropFirst {K : Int → Prop} {d : MetaDict} (h : TSDict K d) :
    TSDict K (d.map fun e => if e.2.length = 2 then (e.1, e.2.drop 1) else e) := by
  constructor
  · have : keysOf (d.map fun e => if e.2.length = 2 then (e.1, e.2.drop 1) else e) = keysOf d := by
      unfold keysOf
      rw [List.map_map]
      exact List.map_congr_left fun e _ => by by_cases he : e.2.length = 2 <;> simp [he]
    rw [this]
    exact h.1
  · intro x hx
    apply h.2
    simp only [flat, List.mem_flatMap, List.mem_map] at hx ⊢
    obtain ⟨_, ⟨e, he, rfl⟩, m, hm, rfl⟩ := hx
    by_cases hl : e.2.length = 2
    · simp only [hl, ↓reduceIte] at hm ⊢
      exact ⟨e, he, m, List.mem_of_mem_drop hm, rfl⟩
    · simp only [hl, ↓reduceIte] at hm ⊢
      exact ⟨e, he, m, hm, rfl⟩

/-- the measure loop only appends time signatures at the ticks of measure starts and ends: what such an append keeps,
    the loop keeps -/
theorem tscMeasures_inv (I : MetaDict → Prop) (b : TimeBase) (tk : Nat → Int) (tsTimes : List Nat) (ms : List (Nat × Nat))
    (hstep : ∀ d, I d → ∀ m ∈ ms, ∀ k, (k = tk m.1 ∨ k = tk m.2) → ∀ n dn, I (dictAppend d k (.timeSig n dn)))
    (d : MetaDict) (irr : List Nat) (r : MetaDict × List Nat)
    (h : tscMeasures b tk tsTimes ms d irr = some r) (hd : I d) : I r.1 := by
  induction ms generalizing d irr with
  | nil =>
    simp only [tscMeasures, Option.some.injEq] at h
    subst h
    exact hd
  | cons m rest ih =>
    obtain ⟨s, e⟩ := m
    have hrest := fun d hd m hm => hstep d hd m (List.mem_cons_of_mem _ hm)
    unfold tscMeasures at h
    split at h
    · cases h
    · dsimp only at h
      split at h
      · generalize refineBeats 8 _ _ = rb at h
        obtain ⟨nb, nbt⟩ := rb
        dsimp only at h
        have h1 := hstep d hd (s, e) List.mem_cons_self _ (Or.inl rfl) (truncInt nb) nbt
        refine ih hrest _ _ h ?_
        split
        · exact h1
        · exact hstep _ h1 (s, e) List.mem_cons_self _ (Or.inr rfl) _ _
      · exact ih hrest _ _ h hd

theorem tscMeasures_irr (b : TimeBase) (tk : Nat → Int) (tsTimes : List Nat) (ms : List (Nat × Nat))
    (d : MetaDict) (irr : List Nat) (r : MetaDict × List Nat) (h : tscMeasures b tk tsTimes ms d irr = some r) :
    r.2 = irr ++ (ms.filter (irregular b)).map (·.1) := by
  induction ms generalizing d irr with
  | nil =>
    simp only [tscMeasures, Option.some.injEq] at h
    subst h
    simp
  | cons m rest ih =>
    obtain ⟨s, e⟩ := m
    simp only [tscMeasures] at h
    cases hts' : tsAt b s with
    | none => simp [hts'] at h
    | some v =>
      obtain ⟨beats, bt⟩ := v
      simp only [hts'] at h
      by_cases hd : beatDur b s e ≠ (beats : Rat)
      · rw [if_pos hd] at h
        have hirr : irregular b (s, e) = true := by simp [irregular, hts', hd]
        rw [ih _ _ h, List.filter_cons_of_pos hirr]
        simp
      · rw [if_neg hd] at h
        have hirr : irregular b (s, e) = false := by
          simp only [irregular, hts']
          simpa using hd
        rw [ih _ _ h, List.filter_cons_of_neg (by simp [hirr])]

theorem isTS_not_isKS (x : Int × Msg) (h : isTS x = true) : isKS x = false := by
  obtain ⟨t, m⟩ := x
  cases m <;> simp_all [isTS, isKS]

theorem isKS_not_isTS (x : Int × Msg) (h : isKS x = true) : isTS x = false := by
  obtain ⟨t, m⟩ := x
  cases m <;> simp_all [isTS, isKS]

theorem isTS_not_note (x : Int × Msg) (h : isTS x = true) : C04P.isNoteMsg x = false := by
  obtain ⟨t, m⟩ := x
  cases m <;> simp_all [isTS, C04P.isNoteMsg]

theorem isKS_not_note (x : Int × Msg) (h : isKS x = true) : C04P.isNoteMsg x = false := by
  obtain ⟨t, m⟩ := x
  cases m <;> simp_all [isKS, C04P.isNoteMsg]

theorem ksImages_isKS (p : PartIn) (tk : Nat → Int) : ∀ x ∈ ksImages p tk, isKS x = true := by
  intro x hx
  simp only [ksImages, List.mem_map] at hx
  obtain ⟨ks, _, rfl⟩ := hx
  rfl

theorem tsImages_isTS (a : Anacrusis) (p : PartIn) (tk : Nat → Int) : ∀ x ∈ tsImages a p tk, isTS x = true := by
  intro x hx
  simp only [tsImages, List.mem_map] at hx
  obtain ⟨e, _, rfl⟩ := hx
  rfl

theorem split_kinds (l A B : List (Int × Msg)) (h : l.Perm (A ++ B)) (hA : ∀ x ∈ A, isTS x = true)
    (hB : ∀ x ∈ B, isKS x = true) : (l.filter isTS).Perm A ∧ (l.filter isKS).Perm B := by
  constructor
  · refine (h.filter isTS).trans (List.Perm.of_eq ?_)
    rw [List.filter_append, List.filter_eq_self.mpr hA,
      List.filter_eq_nil_iff.mpr (fun x hx => by simp [isKS_not_isTS x (hB x hx)]), List.append_nil]
  · refine (h.filter isKS).trans (List.Perm.of_eq ?_)
    rw [List.filter_append, List.filter_eq_self.mpr hB,
      List.filter_eq_nil_iff.mpr (fun x hx => by simp [isTS_not_isKS x (hA x hx)]), List.nil_append]

theorem partMetas_spec (a : Anacrusis) (p : PartIn) (tk : Nat → Int) (d : MetaDict) (h : partMetas a p tk = some d) :
    ∃ T, (flattenDict d).Perm (T ++ ksImages p tk) ∧ (∀ x ∈ T, isTS x = true) ∧
      (a ≠ .timeSigChange → T = tsImages a p tk) ∧
      (a = .timeSigChange →
        (∀ ts ∈ p.base.ts, ts.1 ∉ (p.measures.filter (irregular p.base)).map (·.1) →
          (tk ts.1, Msg.timeSig ts.2.1 ts.2.2) ∈ T) ∧
        ∀ x ∈ T, (∃ ts ∈ p.base.ts, x.1 = tk ts.1) ∨ ∃ m ∈ p.measures, x.1 = tk m.1 ∨ x.1 = tk m.2) := by
  by_cases ha : a = .timeSigChange
  swap
  · exact ⟨_, partMetas_plain a ha p tk d h, tsImages_isTS a p tk, fun _ => rfl, fun h' => absurd h' ha⟩
  subst ha
  simp only [partMetas] at h
  cases hm : tscMeasures p.base tk (p.base.ts.map (·.1)) p.measures [] [] with
  | none => simp [hm] at h
  | some r =>
    obtain ⟨d1, irr⟩ := r
    simp only [hm, Option.map_some, Option.some.injEq] at h
    -- the measure loop, then the drop of doubled signatures, leave time signatures at measure boundaries
    have hd' := (tscMeasures_inv (TSDict fun k => ∃ m ∈ p.measures, k = tk m.1 ∨ k = tk m.2) _ tk _ p.measures
      (fun d hd m hm k hk n dn => hd.append ⟨m, hm, hk⟩ n dn) [] [] _ hm (TSDict.nil _)).dropFirst
    have i1 : irr = (p.measures.filter (irregular p.base)).map (·.1) := tscMeasures_irr _ tk _ _ [] [] _ hm
    -- the kept signatures of the score
    have hfold : ∀ d0 : MetaDict,
        p.base.ts.foldl (fun d ts => if irr.contains ts.1 then d else dictAppend d (tk ts.1) (Msg.timeSig ts.2.1 ts.2.2)) d0 =
        (p.base.ts.filter (fun ts => !irr.contains ts.1)).foldl
          (fun d ts => dictAppend d (tk ts.1) (Msg.timeSig ts.2.1 ts.2.2)) d0 := by
      intro d0
      rw [List.foldl_filter]
      congr 1
      funext d ts
      cases irr.contains ts.1 <;> simp
    rw [hfold] at h
    obtain ⟨n2, p2⟩ := foldl_dictAppend (fun ts : Nat × Nat × Nat => tk ts.1) (fun ts => Msg.timeSig ts.2.1 ts.2.2)
      (p.base.ts.filter (fun ts => !irr.contains ts.1)) _ hd'.1
    obtain ⟨_, p3⟩ := foldl_dictAppend (fun ks : Nat × String => tk ks.1) (fun ks => Msg.keySig ks.2) p.ks _ n2
    rw [← h, flattenDict_eq]
    refine ⟨_, p3.trans (p2.append_right _), fun x hx => ?_, fun hne => absurd rfl hne, fun _ => ⟨fun ts hts hirr => ?_,
      fun x hx => ?_⟩⟩
    · rcases List.mem_append.mp hx with hx | hx
      · exact (hd'.2 x hx).1
      · obtain ⟨ts, _, rfl⟩ := List.mem_map.mp hx
        rfl
    · refine List.mem_append_right _ (List.mem_map.mpr ⟨ts, List.mem_filter.mpr ⟨hts, ?_⟩, rfl⟩)
      rw [i1, Bool.not_eq_true']
      exact Bool.eq_false_iff.mpr fun hc => hirr (List.contains_iff_mem.mp hc)
    · rcases List.mem_append.mp hx with hx | hx
      · exact Or.inr (hd'.2 x hx).2
      · obtain ⟨ts, hts, rfl⟩ := List.mem_map.mp hx
        exact Or.inl ⟨ts, (List.mem_filter.mp hts).1, rfl⟩

theorem partMetas_ks (a : Anacrusis) (p : PartIn) (tk : Nat → Int) (d : MetaDict) (h : partMetas a p tk = some d) :
    ((flattenDict d).filter isKS).Perm (ksImages p tk) := by
  obtain ⟨T, hp, hT, _⟩ := partMetas_spec a p tk d h
  exact (split_kinds _ T _ hp hT (ksImages_isKS p tk)).2

theorem partMetas_ts (a : Anacrusis) (ha : a ≠ .timeSigChange) (p : PartIn) (tk : Nat → Int) (d : MetaDict)
    (h : partMetas a p tk = some d) : ((flattenDict d).filter isTS).Perm (tsImages a p tk) := by
  obtain ⟨T, hp, hT, hpl, _⟩ := partMetas_spec a p tk d h
  exact hpl ha ▸ (split_kinds _ T _ hp hT (ksImages_isKS p tk)).1

theorem partMetas_kinds (a : Anacrusis) (p : PartIn) (tk : Nat → Int) (d : MetaDict) (h : partMetas a p tk = some d) :
    ∀ x ∈ flattenDict d, isKS x = true ∨ isTS x = true := by
  obtain ⟨T, hp, hT, _⟩ := partMetas_spec a p tk d h
  exact fun x hx => (List.mem_append.mp (hp.mem_iff.mp hx)).elim (fun h' => Or.inr (hT x h'))
    fun h' => Or.inl (ksImages_isKS p tk x h')

theorem nodup_dictSet (d : List (κ × β)) (k : κ) (v : β) (h : (keysOf d).Nodup) : (keysOf (dictSet d k v)).Nodup :=
  nodup_upsert d k (fun _ => v) v h

theorem lookup_dictSet (d : List (κ × β)) (k : κ) (v : β) (t : κ) :
    lookup t (dictSet d k v) = if k = t then some v else lookup t d := by
  rw [show dictSet d k v = upsert d k (fun _ => v) v from rfl, lookup_upsert]
  cases lookup k d <;> rfl

/-- the value of the last of `marks` on tick `t` -/
def lastMark (marks : List (Int × Nat)) (t : Int) : Option Nat :=
  ((marks.filter (fun m => m.1 = t)).getLast?).map (·.2)

/-- all tempo marks of the parts at their written ticks, in reading order: part after part, mark after mark -/
def allMarks (tk : PartIn → Nat → Int) (parts : List PartIn) : List (Int × Nat) :=
  parts.flatMap fun x => x.tempos.map fun tp => (tk x tp.1, tp.2)

theorem lastMark_mem (marks : List (Int × Nat)) (t : Int) (v : Nat) (h : lastMark marks t = some v) : (t, v) ∈ marks := by
  obtain ⟨e, he, rfl⟩ := Option.map_eq_some_iff.mp h
  obtain ⟨hm, ht⟩ := List.mem_filter.mp (List.mem_of_getLast? he)
  rw [← of_decide_eq_true ht]
  exact hm

theorem lastMark_isSome (marks : List (Int × Nat)) (m : Int × Nat) (hm : m ∈ marks) : ∃ w, lastMark marks m.1 = some w := by
  cases hl : (marks.filter (fun e => e.1 = m.1)).getLast? with
  | none =>
    rw [List.getLast?_eq_none_iff] at hl
    exact absurd (List.mem_filter.mpr ⟨hm, decide_eq_true rfl⟩) (hl ▸ List.not_mem_nil)
  | some e => exact ⟨e.2, by rw [lastMark, hl]; rfl⟩

/-- the `tempos` dict after the marks `ms` have been stored in order -/
def setAll (ms : List (Int × Nat)) (d : List (Int × Nat)) : List (Int × Nat) := ms.foldl (fun d m => dictSet d m.1 m.2) d

theorem setAll_append (ms ms' : List (Int × Nat)) (d : List (Int × Nat)) : setAll (ms ++ ms') d = setAll ms' (setAll ms d) :=
  List.foldl_append

theorem setAll_nodup (ms : List (Int × Nat)) (d : List (Int × Nat)) (h : (keysOf d).Nodup) : (keysOf (setAll ms d)).Nodup :=
  Lists.foldl_inv (fun d => (keysOf d).Nodup) _ (fun d m hd => nodup_dictSet d m.1 m.2 hd) ms d h

theorem lastMark_cons (m : Int × Nat) (marks : List (Int × Nat)) (t : Int) :
    lastMark (m :: marks) t = (lastMark marks t).orElse fun _ => if m.1 = t then some m.2 else none := by
  unfold lastMark
  rw [List.filter_cons]
  by_cases h : m.1 = t
  · rw [if_pos (decide_eq_true h), if_pos h, List.getLast?_cons]
    cases (marks.filter fun e => e.1 = t).getLast? <;> rfl
  · rw [if_neg (by simpa using h), if_neg h]
    cases (marks.filter fun e => e.1 = t).getLast? <;> rfl

theorem lookup_setAll (ms : List (Int × Nat)) (d : List (Int × Nat)) (t : Int) :
    lookup t (setAll ms d) = (lastMark ms t).orElse fun _ => lookup t d := by
  induction ms generalizing d with
  | nil => rfl
  | cons m ms ih =>
    rw [show setAll (m :: ms) d = setAll ms (dictSet d m.1 m.2) from rfl, ih, lookup_dictSet, lastMark_cons]
    cases lastMark ms t with
    | some v => rfl
    | none =>
      show (if m.1 = t then some m.2 else lookup t d) = (if m.1 = t then some m.2 else none).orElse fun _ => lookup t d
      split <;> rfl

theorem dictSet_ne_nil (d : List (Int × Nat)) (k : Int) (v : Nat) : dictSet d k v ≠ [] := fun h =>
  List.not_mem_nil (h ▸ (mem_keys_upsert d k (fun _ => v) v k).mpr (Or.inr rfl) : k ∈ keysOf ([] : List (Int × Nat)))

theorem setAll_ne_nil (ms : List (Int × Nat)) (d : List (Int × Nat)) (h : d ≠ [] ∨ ms ≠ []) : setAll ms d ≠ [] := by
  induction ms generalizing d with
  | nil => exact h.elim id (fun h' => absurd rfl h')
  | cons m ms ih => exact ih _ (Or.inl (dictSet_ne_nil d m.1 m.2))

/-- the marks in the order the exporter stores them: the default tempo first when the first part has none -/
def storedMarks (tk : PartIn → Nat → Int) : List PartIn → List (Int × Nat)
  | [] => []
  | x :: rest => (if x.tempos = [] then [(0, 500000)] else []) ++ allMarks tk (x :: rest)

/-- the default tempo is stored only when the dict is empty after a part, which is after the first part or never -/
theorem exportTempos_eq (tk : PartIn → Nat → Int) (parts : List PartIn) :
    exportTempos tk parts = setAll (storedMarks tk parts) [] := by
  -- one part on a dict that is not empty
  have hstep : ∀ (rest : List PartIn) (d : List (Int × Nat)), d ≠ [] →
      rest.foldl (fun d x =>
        let d' := x.tempos.foldl (fun d tp => dictSet d (tk x tp.1) tp.2) d
        if d'.isEmpty then [(0, 500000)] else d') d = setAll (allMarks tk rest) d := by
    intro rest
    induction rest with
    | nil => intro d _; rfl
    | cons y ys ih =>
      intro d hd
      have hy : y.tempos.foldl (fun d tp => dictSet d (tk y tp.1) tp.2) d = setAll (y.tempos.map fun tp => (tk y tp.1, tp.2)) d := by
        rw [setAll, List.foldl_map]
      have hne := setAll_ne_nil (y.tempos.map fun tp => (tk y tp.1, tp.2)) d (Or.inl hd)
      rw [List.foldl_cons, allMarks, List.flatMap_cons, setAll_append]
      dsimp only
      rw [hy, if_neg (by rw [List.isEmpty_iff]; exact hne)]
      exact ih _ hne
  cases parts with
  | nil => rfl
  | cons x rest =>
    have hx : x.tempos.foldl (fun d tp => dictSet d (tk x tp.1) tp.2) [] = setAll (x.tempos.map fun tp => (tk x tp.1, tp.2)) [] := by
      rw [setAll, List.foldl_map]
    rw [exportTempos, List.foldl_cons, storedMarks, allMarks, List.flatMap_cons, ← List.append_assoc, setAll_append]
    dsimp only
    rw [hx]
    by_cases hxt : x.tempos = []
    · rw [hxt, if_pos rfl]
      exact hstep rest _ (List.cons_ne_nil _ _)
    · have hne := setAll_ne_nil (x.tempos.map fun tp => (tk x tp.1, tp.2)) [] (Or.inr (by simpa using hxt))
      rw [if_neg hxt, List.nil_append, if_neg (by rw [List.isEmpty_iff]; exact hne)]
      exact hstep rest _ hne

theorem mem_storedMarks (tk : PartIn → Nat → Int) (parts : List PartIn) (e : Int × Nat) (he : e ∈ storedMarks tk parts) :
    e = (0, 500000) ∨ ∃ x ∈ parts, ∃ tp ∈ x.tempos, e = (tk x tp.1, tp.2) := by
  cases parts with
  | nil => cases he
  | cons x rest =>
    rcases List.mem_append.mp he with h | h
    · split at h
      · exact Or.inl (List.mem_singleton.mp h)
      · cases h
    · obtain ⟨y, hy, hm⟩ := List.mem_flatMap.mp h
      obtain ⟨tp, htp, rfl⟩ := List.mem_map.mp hm
      exact Or.inr ⟨y, hy, tp, htp, rfl⟩

theorem allMarks_sub_storedMarks (tk : PartIn → Nat → Int) (parts : List PartIn) :
    ∀ e ∈ allMarks tk parts, e ∈ storedMarks tk parts := by
  cases parts with
  | nil => exact fun e he => he
  | cons x rest => exact fun e he => List.mem_append_right _ he

theorem exportTempos_inv (tk : PartIn → Nat → Int) (parts : List PartIn) :
    (keysOf (exportTempos tk parts)).Nodup ∧
    (∀ e ∈ exportTempos tk parts, e = (0, 500000) ∨ ∃ x ∈ parts, ∃ tp ∈ x.tempos, e = (tk x tp.1, tp.2)) ∧
    (∀ x ∈ parts, ∀ tp ∈ x.tempos, tk x tp.1 ∈ keysOf (exportTempos tk parts)) := by
  rw [exportTempos_eq]
  have hn := setAll_nodup (storedMarks tk parts) [] List.nodup_nil
  refine ⟨hn, fun e he => ?_, fun x hx tp htp => ?_⟩
  · have hl := Model.lookup_of_mem hn he
    rw [lookup_setAll] at hl
    cases hm : lastMark (storedMarks tk parts) e.1 with
    | none => rw [hm] at hl; cases hl
    | some v =>
      rw [hm] at hl
      cases hl
      exact mem_storedMarks tk parts e (lastMark_mem _ _ _ hm)
  · have hmem : (tk x tp.1, tp.2) ∈ storedMarks tk parts :=
      allMarks_sub_storedMarks tk parts _ (List.mem_flatMap.mpr ⟨x, hx, List.mem_map.mpr ⟨tp, htp, rfl⟩⟩)
    obtain ⟨w, hw⟩ := lastMark_isSome _ _ hmem
    have hl : lookup (tk x tp.1) (setAll (storedMarks tk parts) []) = some w := by rw [lookup_setAll, hw]; rfl
    exact List.mem_map.mpr ⟨_, Model.lookup_mem hl, rfl⟩

theorem exportTempos_last (tk : PartIn → Nat → Int) (parts : List PartIn) :
    ∀ t v, lastMark (allMarks tk parts) t = some v → lookup t (exportTempos tk parts) = some v := by
  intro t v hv
  rw [exportTempos_eq, lookup_setAll]
  cases parts with
  | nil => simp [allMarks, lastMark] at hv
  | cons x rest =>
    have : lastMark (storedMarks tk (x :: rest)) t = some v := by
      rw [storedMarks, lastMark, List.filter_append]
      rw [lastMark] at hv
      obtain ⟨e, he, rfl⟩ := Option.map_eq_some_iff.mp hv
      rw [List.getLast?_append_of_ne_nil _ (fun hnil => by rw [hnil] at he; cases he), he]
      rfl
    rw [this]
    rfl

end C04D
