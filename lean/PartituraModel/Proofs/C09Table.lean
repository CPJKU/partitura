/-
C09: the segment table on EVERY layout.  The model's sorted insertions; the boundary table is sorted, hence the segments are the
intervals between consecutive boundary times (`mkSegments_times`); `mkTable` in closed form (`mkTable_get`); the selections of
`cleanTo` by name (`cleanTo_named`); running `procAll` and `buildSegs` over a symbolic list of boundary times (`mkSegments_run`).
-/
import PartituraModel.Model.Unfold
import PartituraModel.Proofs.Lists

namespace C09
open Model.Unfold

theorem insInt_is : Lists.IsSortedInsert (· < ·) insInt := ⟨fun _ => rfl, fun _ _ _ => rfl⟩

theorem insInt_mem (a x : Int) (l : List Int) : x ∈ insInt a l ↔ x = a ∨ x ∈ l := insInt_is.mem_ins

theorem insSorted_is : Lists.IsSortedInsert (· < ·) insSorted := ⟨fun _ => rfl, fun _ _ _ => rfl⟩

theorem mem_insSorted (x y : Nat) (l : List Nat) : y ∈ insSorted x l ↔ y = x ∨ y ∈ l := insSorted_is.mem_ins

theorem insSorted_pairwise (x : Nat) (l : List Nat) (h : l.Pairwise (· < ·)) : (insSorted x l).Pairwise (· < ·) :=
  insSorted_is.ins_pairwise Nat.lt_trans (fun h1 h2 => by omega) x h

/-- the sort of the `"<n>_Volta_<ID>"` keys is a stable insertion: behind the elements that are `≤` -/
theorem insVolta_is :
    Lists.IsInsertionSort (fun a b => !voltaLe b a) insVolta (fun l => l.foldr insVolta []) :=
  ⟨fun _ => rfl, fun a b l => by rw [insVolta]; cases voltaLe b a <;> rfl, rfl, fun _ _ => rfl⟩

theorem foldl_insSorted_pairwise (l acc : List Nat) (h : acc.Pairwise (· < ·)) :
    (l.foldl (fun acc j => insSorted j acc) acc).Pairwise (· < ·) :=
  Lists.foldl_inv (·.Pairwise (· < ·)) _ (fun acc a h => insSorted_pairwise a acc h) l acc h

def StrictSorted : List Int → Prop
  | [] => True
  | [_] => True
  | a :: b :: r => a < b ∧ StrictSorted (b :: r)

theorem keys_tblUpd (t : Int) (f : BInfo → BInfo) (tb : BTable) :
    (tblUpd t f tb).map (·.1) = insInt t (tb.map (·.1)) := by
  induction tb with
  | nil => simp [tblUpd, insInt]
  | cons x xs ih =>
    obtain ⟨u, b⟩ := x
    simp only [tblUpd, List.map_cons, insInt]
    split
    · simp
    · split
      · simp
      · simp [ih]

theorem sorted_tail (a : Int) (r : List Int) (h : StrictSorted (a :: r)) : StrictSorted r := by
  cases r with
  | nil => trivial
  | cons b r' => exact h.2

theorem sorted_head_lt (a : Int) (r : List Int) (h : StrictSorted (a :: r)) : ∀ y ∈ r, a < y := by
  induction r generalizing a with
  | nil => intro y hy; simp at hy
  | cons b r' ih =>
    intro y hy
    simp only [List.mem_cons] at hy
    rcases hy with hy | hy
    · subst hy; exact h.1
    · have := ih b h.2 y hy
      have := h.1
      omega

theorem sorted_cons (a : Int) (r : List Int) (hr : StrictSorted r) (h : ∀ y ∈ r, a < y) : StrictSorted (a :: r) := by
  cases r with
  | nil => trivial
  | cons b r' => exact ⟨h b List.mem_cons_self, hr⟩

theorem strictSorted_iff (l : List Int) : StrictSorted l ↔ l.Pairwise (· < ·) := by
  induction l with
  | nil => simp [StrictSorted]
  | cons a r ih =>
    rw [List.pairwise_cons, ← ih]
    exact ⟨fun h => ⟨sorted_head_lt a r h, sorted_tail a r h⟩, fun h => sorted_cons a r h.2 h.1⟩

theorem insInt_sorted (x : Int) (l : List Int) (h : StrictSorted l) : StrictSorted (insInt x l) :=
  (strictSorted_iff _).mpr
    (insInt_is.ins_pairwise Int.lt_trans (fun h1 h2 => by omega) x ((strictSorted_iff l).mp h))

def SortedTb (tb : BTable) : Prop := StrictSorted (tb.map (·.1))

theorem sortedTb_upd (t : Int) (f : BInfo → BInfo) (tb : BTable) (h : SortedTb tb) : SortedTb (tblUpd t f tb) := by
  unfold SortedTb
  rw [keys_tblUpd]
  exact insInt_sorted t _ h

/-- the updates `mkTable` makes, in order: a time and what is registered there -/
def upds (L : Layout) : List (Int × (BInfo → BInfo)) :=
  L.repeats.flatMap (fun r => [(r.1, fun b => { b with repeatStart := true }), (r.2, fun b => { b with repeatEnd := some r.1 })]) ++
  L.endings.flatMap (fun v => [(v.1, fun b => { b with voltaStart := some (v.2.2, v.2.1) }), (v.2.1, fun b => { b with voltaEnd := true })]) ++
  L.codas.map (·, fun b => { b with coda := true }) ++ L.tocodas.map (·, fun b => { b with tocoda := true }) ++
  L.dacapos.map (·, fun b => { b with dacapo := true }) ++ L.fines.map (·, fun b => { b with fine := true }) ++
  L.segnos.map (·, fun b => { b with segno := true }) ++ L.dalsegnos.map (·, fun b => { b with dalsegno := true }) ++
  [(L.last, fun b => { b with isEnd := true }), (L.first, fun b => { b with isStart := true })]

theorem mkTable_eq (L : Layout) : mkTable L = (upds L).foldl (fun tb a => tblUpd a.1 a.2 tb) [] := by
  simp only [mkTable, upds, List.foldl_append, List.foldl_flatMap, List.foldl_map, List.foldl_cons, List.foldl_nil]

theorem mkTable_sorted (L : Layout) : SortedTb (mkTable L) := by
  rw [mkTable_eq]
  exact Lists.foldl_inv SortedTb _ (fun tb a h => sortedTb_upd a.1 a.2 tb h) _ _ trivial

theorem sorted_get_lt (l : List Int) (h : StrictSorted l) :
    ∀ (i j : Nat) (x y : Int), i < j → l[i]? = some x → l[j]? = some y → x < y := by
  intro i j x y hij hx hy
  obtain ⟨hi, rfl⟩ := List.getElem?_eq_some_iff.mp hx
  obtain ⟨hj, rfl⟩ := List.getElem?_eq_some_iff.mp hy
  exact List.pairwise_iff_getElem.mp ((strictSorted_iff l).mp h) i j hi hj hij

theorem getLastD_get (t0 : Int) (rest : List Int) : (t0 :: rest)[rest.length]? = some (rest.getLastD t0) := by
  induction rest generalizing t0 with
  | nil => rfl
  | cons a r ih =>
    simp only [List.length_cons, List.getElem?_cons_succ]
    rw [ih a]
    cases r <;> rfl

theorem le_getLastD (t0 : Int) (rest : List Int) (hs : StrictSorted (t0 :: rest)) : ∀ x ∈ t0 :: rest, x ≤ rest.getLastD t0 := by
  intro x hx
  obtain ⟨j, hj⟩ := List.getElem?_of_mem hx
  have hjl := (List.getElem?_eq_some_iff.mp hj).1
  by_cases he : j = rest.length
  · rw [he, getLastD_get] at hj; exact Int.le_of_eq (Option.some.inj hj).symm
  · exact Int.le_of_lt (sorted_get_lt _ hs j rest.length _ _ (by simp at hjl; omega) hj (getLastD_get t0 rest))

theorem buildSegs_cons (times : List Int) (info : List SegInfo) (i : Nat) (s e : Int) (rest : List Int) (inf : SegInfo)
    (infs : List SegInfo) (g : List Seg) :
    buildSegs times info i (s :: e :: rest) (inf :: infs) = some g ↔
      ∃ to aw tl, cleanTo i inf.to = some (to, aw) ∧ buildSegs times info (i + 1) (e :: rest) infs = some tl ∧
        g = { start := s, stp := e, to := to, await := aw, ty := inf.ty } :: tl := by
  simp only [buildSegs, Option.bind_eq_bind]
  cases hc : cleanTo i inf.to with
  | none => simp
  | some r =>
    obtain ⟨to, aw⟩ := r
    cases ht : buildSegs times info (i + 1) (e :: rest) infs with
    | none => simp
    | some tl =>
      simp only [Option.bind_some, Option.some.injEq, Prod.mk.injEq, exists_and_left, exists_eq_left']
      exact ⟨fun h => ⟨to, aw, ⟨rfl, rfl⟩, h.symm⟩, fun ⟨_, _, ⟨e1, e2⟩, h⟩ => by rw [h, e1, e2]⟩

theorem buildSegs_get (times : List Int) (info : List SegInfo) (ts : List Int) (k : Nat) (infs : List SegInfo) :
    ∀ (g : List Seg), buildSegs times info k ts infs = some g →
      ∀ (i : Nat) (s : Seg), g[i]? = some s → ts[i]? = some s.start ∧ ts[i + 1]? = some s.stp := by
  fun_induction buildSegs times info k ts infs with
  | case1 k s e rest inf infs ih =>
    intro g h j sg hs
    obtain ⟨to, aw, tl, _, ht, rfl⟩ := (buildSegs_cons times info k s e rest inf infs g).mp h
    cases j with
    | zero =>
      rw [List.getElem?_cons_zero] at hs
      rw [← Option.some.inj hs]
      exact ⟨rfl, rfl⟩
    | succ j => exact ih tl ht j sg hs
  | case2 =>
    intro g h j sg hs
    rw [← Option.some.inj h] at hs
    cases hs

theorem mkSegments_times (L : Layout) (g : List Seg) (h : mkSegments L = some g) :
    ∃ ts, StrictSorted ts ∧ ∀ (i : Nat) (s : Seg), g[i]? = some s → ts[i]? = some s.start ∧ ts[i + 1]? = some s.stp := by
  unfold mkSegments at h
  split at h
  · cases h
  · simp only at h
    split at h
    · cases h
    · exact ⟨_, mkTable_sorted L, buildSegs_get _ _ _ _ _ g h⟩

theorem mkSegments_pos (L : Layout) (g : List Seg) (h : mkSegments L = some g) (i : Nat) (s : Seg)
    (hs : g[i]? = some s) : s.start < s.stp := by
  obtain ⟨ts, hsorted, hget⟩ := mkSegments_times L g h
  exact sorted_get_lt ts hsorted i (i + 1) _ _ (Nat.lt_succ_self i) (hget i s hs).1 (hget i s hs).2

theorem mkSegments_contiguous (L : Layout) (g : List Seg) (h : mkSegments L = some g) (i : Nat) (s t : Seg)
    (hs : g[i]? = some s) (ht : g[i + 1]? = some t) : s.stp = t.start := by
  obtain ⟨ts, _, hget⟩ := mkSegments_times L g h
  exact Option.some.inj ((hget i s hs).2.symm.trans (hget (i + 1) t ht).1)

theorem tblGet_none_of_lt (t : Int) (tb : BTable) (h : ∀ x ∈ tb.map (·.1), t < x) : tblGet t tb = none := by
  induction tb with
  | nil => rfl
  | cons p rest ih =>
    obtain ⟨u, b⟩ := p
    have h1 : t < u := h u (by simp)
    have hne : ¬ t = u := by omega
    simp only [tblGet, hne, if_false]
    exact ih (fun x hx => h x (by simp only [List.map_cons, List.mem_cons]; exact Or.inr hx))

theorem tblGet_upd (t u : Int) (f : BInfo → BInfo) (tb : BTable) (h : SortedTb tb) :
    tblGet u (tblUpd t f tb) = if u = t then some (f ((tblGet u tb).getD {})) else tblGet u tb := by
  fun_induction tblUpd t f tb with
  | case1 => by_cases hu : u = t <;> simp [tblGet, hu]
  | case2 k b rest h1 =>
    -- `t` comes in front of everything: it was not a key
    have hnone : tblGet t ((k, b) :: rest) = none :=
      tblGet_none_of_lt _ _ fun x hx => by
        rcases List.mem_cons.mp hx with rfl | hx
        · exact h1
        · exact Int.lt_trans h1 (sorted_head_lt k _ h x hx)
    by_cases hu : u = t
    · rw [hu, hnone]; simp [tblGet]
    · rw [tblGet, if_neg hu, if_neg hu]
  | case3 b rest h1 =>
    by_cases hu : u = t <;> simp [tblGet, hu]
  | case4 k b rest h1 h2 ih =>
    have ih' := ih (sorted_tail k _ h)
    by_cases huk : u = k
    · subst huk
      have hut : ¬ u = t := fun e => h2 e.symm
      simp [tblGet, hut]
    · rw [tblGet, if_neg huk, ih', tblGet, if_neg huk]

theorem tblGet_isSome (t : Int) (tb : BTable) : (tblGet t tb).isSome = true ↔ t ∈ tb.map (·.1) := by
  induction tb with
  | nil => simp [tblGet]
  | cons p rest ih =>
    obtain ⟨u, b⟩ := p
    by_cases h : t = u
    · simp [tblGet, h]
    · simp only [tblGet, h, if_false, List.map_cons, List.mem_cons, false_or]
      exact ih

/-- `o` after the updates registered by one stage: untouched unless `c` -/
def optUpd (c : Bool) (G : BInfo → BInfo) (o : Option BInfo) : Option BInfo :=
  if c then some (G (o.getD {})) else o

/-- what the updates do to the entry at `t` -/
def optStep (t : Int) (o : Option BInfo) (a : Int × (BInfo → BInfo)) : Option BInfo :=
  if t = a.1 then some (a.2 (o.getD {})) else o

theorem tblGet_foldl_upd (t : Int) : ∀ (l : List (Int × (BInfo → BInfo))) (tb : BTable), SortedTb tb →
    SortedTb (l.foldl (fun tb a => tblUpd a.1 a.2 tb) tb) ∧
    tblGet t (l.foldl (fun tb a => tblUpd a.1 a.2 tb) tb) = l.foldl (optStep t) (tblGet t tb) := by
  intro l
  induction l with
  | nil => intro tb h; exact ⟨h, rfl⟩
  | cons a as ih =>
    intro tb h
    obtain ⟨i1, i2⟩ := ih _ (sortedTb_upd a.1 a.2 tb h)
    exact ⟨i1, by simp only [List.foldl_cons]; rw [i2, tblGet_upd a.1 t a.2 tb h]; rfl⟩

theorem optStep_eq (t u : Int) (f : BInfo → BInfo) (o : Option BInfo) :
    optStep t o (u, f) = optUpd (decide (t = u)) f o := by
  by_cases h : t = u <;> simp [optStep, optUpd, h]

theorem flag_fold (f : BInfo → BInfo) (hf : ∀ b, f (f b) = f b) (t : Int) (l : List Int) (o : Option BInfo) :
    (l.map (·, f)).foldl (optStep t) o = optUpd (l.contains t) f o := by
  induction l generalizing o with
  | nil => simp [optUpd]
  | cons c cs ih =>
    rw [List.map_cons, List.foldl_cons, ih, List.contains_cons]
    by_cases htc : t = c
    · subst htc
      cases hm : cs.contains t <;> simp [optUpd, optStep, hf]
    · have : (t == c) = false := by simpa using htc
      simp [optUpd, optStep, htc, this]

/-- the value of `f` at the last element of `l` on which it is defined -/
def lastSome {α β : Type} (f : α → Option β) (l : List α) : Option β := l.reverse.findSome? f

theorem lastSome_cons {α β : Type} (f : α → Option β) (a : α) (as : List α) :
    lastSome f (a :: as) = (lastSome f as).or (f a) := by
  simp [lastSome, List.findSome?_append]

theorem lastSome_isSome {α β : Type} (f : α → Option β) (l : List α) :
    (lastSome f l).isSome = l.any (fun a => (f a).isSome) := by
  rw [Bool.eq_iff_iff, lastSome, List.findSome?_isSome_iff, List.any_eq_true]
  simp only [List.mem_reverse]

theorem lastSome_eq_none {α β : Type} (f : α → Option β) (l : List α) (h : ∀ a ∈ l, f a = none) :
    lastSome f l = none :=
  List.findSome?_eq_none_iff.mpr fun a ha => h a (List.mem_reverse.mp ha)

theorem lastSome_mem {α β : Type} (f : α → Option β) (l : List α) (b : β) (h : lastSome f l = some b) :
    ∃ a ∈ l, f a = some b := by
  obtain ⟨a, ha, hfa⟩ := List.exists_of_findSome?_eq_some h
  exact ⟨a, List.mem_reverse.mp ha, hfa⟩

theorem lastSome_eq_some {α β : Type} (f : α → Option β) (l : List α) (b : β)
    (hex : ∃ a ∈ l, f a = some b) (huniq : ∀ a ∈ l, ∀ b', f a = some b' → b' = b) :
    lastSome f l = some b := by
  obtain ⟨a, ha, hfa⟩ := hex
  have hsome : (lastSome f l).isSome = true := by
    rw [lastSome_isSome, List.any_eq_true]
    exact ⟨a, ha, by rw [hfa]; rfl⟩
  cases hl : lastSome f l with
  | none => rw [hl] at hsome; cases hsome
  | some b' =>
    obtain ⟨x, hx, hfx⟩ := lastSome_mem f l b' hl
    rw [huniq x hx b' hfx]

theorem lastSome_map {α β γ : Type} (f : β → Option γ) (g : α → β) (l : List α) :
    lastSome f (l.map g) = lastSome (fun a => f (g a)) l := by
  simp [lastSome, ← List.map_reverse, List.findSome?_map, Function.comp_def]

theorem lastSome_append {α β : Type} (f : α → Option β) (x y : List α) :
    lastSome f (x ++ y) = Option.or (lastSome f y) (lastSome f x) := by
  simp [lastSome, List.findSome?_append]

/-- the stage of the repeats (start flag, end ↦ start of the LAST repeat registered at that end) -/
def repG (A : Bool) (E : Option Int) (b : BInfo) : BInfo :=
  { b with repeatStart := b.repeatStart || A, repeatEnd := Option.or E b.repeatEnd }

def repA (reps : List (Int × Int)) (t : Int) : Bool := reps.any (fun r => decide (r.1 = t))
def repE (reps : List (Int × Int)) (t : Int) : Option Int := lastSome (fun r => if r.2 = t then some r.1 else none) reps

/-- one more repeat `(a, e)` in front: its two updates, seen through the closed form of the repeats behind it -/
theorem rep_step (a e t : Int) (A : Bool) (E : Option Int) (o : Option BInfo) :
    optUpd (A || E.isSome) (repG A E)
      (optStep t (optStep t o (a, fun b => { b with repeatStart := true })) (e, fun b => { b with repeatEnd := some a }))
    = optUpd ((decide (a = t) || A) || (Option.or E (if e = t then some a else none)).isSome)
        (repG (decide (a = t) || A) (Option.or E (if e = t then some a else none))) o := by
  by_cases h1 : t = a
  · subst h1
    by_cases h2 : t = e
    · subst h2
      cases A <;> cases E <;> simp [optStep, optUpd, repG, Option.or]
    · have h2' : ¬ e = t := fun h => h2 h.symm
      cases A <;> cases E <;> simp [optStep, optUpd, repG, Option.or, h2, h2']
  · have h1' : ¬ a = t := fun h => h1 h.symm
    by_cases h2 : t = e
    · subst h2
      cases A <;> cases E <;> simp [optStep, optUpd, repG, Option.or, h1, h1']
    · have h2' : ¬ e = t := fun h => h2 h.symm
      cases A <;> cases E <;> simp [optStep, optUpd, repG, Option.or, h1, h1', h2, h2']

theorem rep_fold (t : Int) (l : List (Int × Int)) (o : Option BInfo) :
    (l.flatMap fun r => [(r.1, fun b : BInfo => { b with repeatStart := true }),
        (r.2, fun b : BInfo => { b with repeatEnd := some r.1 })]).foldl (optStep t) o =
      optUpd (repA l t || (repE l t).isSome) (repG (repA l t) (repE l t)) o := by
  induction l generalizing o with
  | nil => simp [optUpd, repA, repE, lastSome]
  | cons r rs ih =>
    obtain ⟨a, e⟩ := r
    have e1 : repA ((a, e) :: rs) t = (decide (a = t) || repA rs t) := by simp [repA]
    have e2 : repE ((a, e) :: rs) t = Option.or (repE rs t) (if e = t then some a else none) := lastSome_cons _ _ _
    rw [List.flatMap_cons, List.foldl_append, ih, e1, e2, ← rep_step a e t (repA rs t) (repE rs t) o]
    rfl

/-- the stage of the endings (start ↦ numbers and end of the LAST bracket registered there, end flag) -/
def volG (S : Option (List Nat × Int)) (Eb : Bool) (b : BInfo) : BInfo :=
  { b with voltaStart := Option.or S b.voltaStart, voltaEnd := b.voltaEnd || Eb }

def volS (ends : List (Int × Int × List Nat)) (t : Int) : Option (List Nat × Int) :=
  lastSome (fun v => if v.1 = t then some (v.2.2, v.2.1) else none) ends
def volE (ends : List (Int × Int × List Nat)) (t : Int) : Bool := ends.any (fun v => decide (v.2.1 = t))

/-- the same for one more bracket `(a, e, ns)` -/
theorem vol_step (a e t : Int) (ns : List Nat) (S : Option (List Nat × Int)) (Eb : Bool) (o : Option BInfo) :
    optUpd (S.isSome || Eb) (volG S Eb)
      (optStep t (optStep t o (a, fun b => { b with voltaStart := some (ns, e) })) (e, fun b => { b with voltaEnd := true }))
    = optUpd ((Option.or S (if a = t then some (ns, e) else none)).isSome || (decide (e = t) || Eb))
        (volG (Option.or S (if a = t then some (ns, e) else none)) (decide (e = t) || Eb)) o := by
  by_cases h1 : t = a
  · subst h1
    by_cases h2 : t = e
    · subst h2
      cases Eb <;> cases S <;> simp [optStep, optUpd, volG, Option.or]
    · have h2' : ¬ e = t := fun h => h2 h.symm
      cases Eb <;> cases S <;> simp [optStep, optUpd, volG, Option.or, h2, h2']
  · have h1' : ¬ a = t := fun h => h1 h.symm
    by_cases h2 : t = e
    · subst h2
      cases Eb <;> cases S <;> simp [optStep, optUpd, volG, Option.or, h1, h1']
    · have h2' : ¬ e = t := fun h => h2 h.symm
      cases Eb <;> cases S <;> simp [optStep, optUpd, volG, Option.or, h1, h1', h2, h2']

theorem vol_fold (t : Int) (l : List (Int × Int × List Nat)) (o : Option BInfo) :
    (l.flatMap fun v => [(v.1, fun b : BInfo => { b with voltaStart := some (v.2.2, v.2.1) }),
        (v.2.1, fun b : BInfo => { b with voltaEnd := true })]).foldl (optStep t) o =
      optUpd ((volS l t).isSome || volE l t) (volG (volS l t) (volE l t)) o := by
  induction l generalizing o with
  | nil => simp [optUpd, volS, volE, lastSome]
  | cons v vs ih =>
    obtain ⟨a, e, ns⟩ := v
    have e1 : volE ((a, e, ns) :: vs) t = (decide (e = t) || volE vs t) := by simp [volE]
    have e2 : volS ((a, e, ns) :: vs) t = Option.or (volS vs t) (if a = t then some (ns, e) else none) := lastSome_cons _ _ _
    rw [List.flatMap_cons, List.foldl_append, ih, e1, e2, ← vol_step a e t ns (volS vs t) (volE vs t) o]
    rfl

/-- what is registered at time `t` (when `t` is a boundary) -/
def infoAt (L : Layout) (t : Int) : BInfo :=
  { repeatStart := repA L.repeats t, repeatEnd := repE L.repeats t,
    voltaStart := volS L.endings t, voltaEnd := volE L.endings t,
    coda := L.codas.contains t, tocoda := L.tocodas.contains t, dacapo := L.dacapos.contains t,
    fine := L.fines.contains t, segno := L.segnos.contains t, dalsegno := L.dalsegnos.contains t,
    isEnd := decide (t = L.last), isStart := decide (t = L.first) }

def isKey (L : Layout) (t : Int) : Bool :=
  repA L.repeats t || (repE L.repeats t).isSome || (volS L.endings t).isSome || volE L.endings t ||
  L.codas.contains t || L.tocodas.contains t || L.dacapos.contains t || L.fines.contains t ||
  L.segnos.contains t || L.dalsegnos.contains t || decide (t = L.last) || decide (t = L.first)

/-- one stage more in the closed form: `p` says whether `t` is a key so far and `b` is what is registered there; `hb` keeps `b` the
default record as long as `t` is no key, because a first update acts on the default record -/
theorem norm_step (c p : Bool) (f G : BInfo → BInfo) (b : BInfo) (o : Option BInfo)
    (ho : o = if p then some b else none) (hb : p = false → b = {})
    (hfG : c = true → f b = G b) (hG : c = false → G b = b) :
    optUpd c f o = (if (p || c) then some (G b) else none) ∧ ((p || c) = false → G b = {}) := by
  subst ho
  cases c <;> cases p <;> simp_all [optUpd]

theorem norm_flag (set : BInfo → Bool → BInfo) (get : BInfo → Bool) (h1 : ∀ b, set b (get b) = b)
    (c p : Bool) (b : BInfo) (o : Option BInfo)
    (ho : o = if p then some b else none) (hb : p = false → b = {}) :
    optUpd c (fun b => set b true) o = (if (p || c) then some (set b (get b || c)) else none) ∧
      ((p || c) = false → set b (get b || c) = {}) := by
  apply norm_step c p (fun b => set b true) (fun b => set b (get b || c)) b o ho hb
  · intro h; subst h; simp
  · intro h; subst h; simp [h1]

theorem mkTable_get_raw (L : Layout) (t : Int) :
    tblGet t (mkTable L) =
      optUpd (decide (t = L.first)) (fun b => { b with isStart := true })
       (optUpd (decide (t = L.last)) (fun b => { b with isEnd := true })
        (optUpd (L.dalsegnos.contains t) (fun b => { b with dalsegno := true })
         (optUpd (L.segnos.contains t) (fun b => { b with segno := true })
          (optUpd (L.fines.contains t) (fun b => { b with fine := true })
           (optUpd (L.dacapos.contains t) (fun b => { b with dacapo := true })
            (optUpd (L.tocodas.contains t) (fun b => { b with tocoda := true })
             (optUpd (L.codas.contains t) (fun b => { b with coda := true })
              (optUpd ((volS L.endings t).isSome || volE L.endings t) (volG (volS L.endings t) (volE L.endings t))
               (optUpd (repA L.repeats t || (repE L.repeats t).isSome) (repG (repA L.repeats t) (repE L.repeats t))
                 none))))))))) := by
  rw [mkTable_eq, (tblGet_foldl_upd t (upds L) [] trivial).2]
  simp only [upds, List.foldl_append]
  rw [rep_fold, vol_fold, flag_fold (fun b => { b with coda := true }) (fun _ => rfl),
    flag_fold (fun b => { b with tocoda := true }) (fun _ => rfl), flag_fold (fun b => { b with dacapo := true }) (fun _ => rfl),
    flag_fold (fun b => { b with fine := true }) (fun _ => rfl), flag_fold (fun b => { b with segno := true }) (fun _ => rfl),
    flag_fold (fun b => { b with dalsegno := true }) (fun _ => rfl)]
  simp only [List.foldl_cons, List.foldl_nil, optStep_eq]
  rfl

theorem norm12 (A : Bool) (E : Option Int) (S : Option (List Nat × Int)) (Eb : Bool) :
    optUpd (S.isSome || Eb) (volG S Eb) (optUpd (A || E.isSome) (repG A E) none) =
      (if (A || E.isSome || S.isSome || Eb) then
        some ({ repeatStart := A, repeatEnd := E, voltaStart := S, voltaEnd := Eb } : BInfo) else none) ∧
    ((A || E.isSome || S.isSome || Eb) = false →
      ({ repeatStart := A, repeatEnd := E, voltaStart := S, voltaEnd := Eb } : BInfo) = {}) := by
  cases E <;> cases S <;> cases A <;> simp [optUpd, repG, volG, Option.or]

theorem mkTable_get (L : Layout) (t : Int) :
    tblGet t (mkTable L) = if isKey L t then some (infoAt L t) else none := by
  rw [mkTable_get_raw]
  -- one `norm_flag` per field; `k_n` carries that the record is still the default one as long as `t` is no key
  obtain ⟨n2, k2⟩ := norm12 (repA L.repeats t) (repE L.repeats t) (volS L.endings t) (volE L.endings t)
  rw [n2]
  obtain ⟨n3, k3⟩ := norm_flag (fun b v => { b with coda := v }) (·.coda) (fun _ => rfl) (L.codas.contains t) _ _ _ rfl k2
  dsimp only at n3 k3
  rw [n3]
  obtain ⟨n4, k4⟩ := norm_flag (fun b v => { b with tocoda := v }) (·.tocoda) (fun _ => rfl) (L.tocodas.contains t) _ _ _ rfl k3
  dsimp only at n4 k4
  rw [n4]
  obtain ⟨n5, k5⟩ := norm_flag (fun b v => { b with dacapo := v }) (·.dacapo) (fun _ => rfl) (L.dacapos.contains t) _ _ _ rfl k4
  dsimp only at n5 k5
  rw [n5]
  obtain ⟨n6, k6⟩ := norm_flag (fun b v => { b with fine := v }) (·.fine) (fun _ => rfl) (L.fines.contains t) _ _ _ rfl k5
  dsimp only at n6 k6
  rw [n6]
  obtain ⟨n7, k7⟩ := norm_flag (fun b v => { b with segno := v }) (·.segno) (fun _ => rfl) (L.segnos.contains t) _ _ _ rfl k6
  dsimp only at n7 k7
  rw [n7]
  obtain ⟨n8, k8⟩ := norm_flag (fun b v => { b with dalsegno := v }) (·.dalsegno) (fun _ => rfl) (L.dalsegnos.contains t) _ _ _ rfl k7
  dsimp only at n8 k8
  rw [n8]
  obtain ⟨n9, k9⟩ := norm_flag (fun b v => { b with isEnd := v }) (·.isEnd) (fun _ => rfl) (decide (t = L.last)) _ _ _ rfl k8
  dsimp only at n9 k9
  rw [n9]
  obtain ⟨n10, _⟩ := norm_flag (fun b v => { b with isStart := v }) (·.isStart) (fun _ => rfl) (decide (t = L.first)) _ _ _ rfl k9
  dsimp only at n10
  rw [n10]
  have hk : (repA L.repeats t || (repE L.repeats t).isSome || (volS L.endings t).isSome || volE L.endings t ||
      L.codas.contains t || L.tocodas.contains t || L.dacapos.contains t || L.fines.contains t || L.segnos.contains t ||
      L.dalsegnos.contains t || decide (t = L.last) || decide (t = L.first)) = isKey L t := rfl
  rw [hk]
  cases isKey L t with
  | false => rfl
  | true =>
    simp only [if_true, Option.some.injEq]
    simp [infoAt]

theorem mkTable_mem_keys (L : Layout) (t : Int) : t ∈ (mkTable L).map (·.1) ↔ isKey L t = true := by
  rw [← tblGet_isSome, mkTable_get]
  cases isKey L t <;> simp

theorem mkTable_get_mem (L : Layout) (t : Int) (h : t ∈ (mkTable L).map (·.1)) :
    tblGet t (mkTable L) = some (infoAt L t) := by
  rw [mkTable_get, (mkTable_mem_keys L t).mp h]; rfl

theorem isKey_eq_info (L : Layout) (t : Int) :
    isKey L t = ((infoAt L t).repeatStart || (infoAt L t).repeatEnd.isSome || (infoAt L t).voltaStart.isSome ||
      (infoAt L t).voltaEnd || (infoAt L t).coda || (infoAt L t).tocoda || (infoAt L t).dacapo || (infoAt L t).fine ||
      (infoAt L t).segno || (infoAt L t).dalsegno || (infoAt L t).isEnd || (infoAt L t).isStart) := rfl

/-- every time the layout mentions -/
def Layout.times (L : Layout) : List Int :=
  L.first :: L.last :: ((L.repeats.flatMap fun r => [r.1, r.2]) ++ (L.endings.flatMap fun v => [v.1, v.2.1]) ++
    L.codas ++ L.tocodas ++ L.dacapos ++ L.fines ++ L.segnos ++ L.dalsegnos)

theorem isKey_mem_times (L : Layout) (t : Int) (h : isKey L t = true) : t ∈ Layout.times L := by
  simp only [isKey, Bool.or_eq_true, List.contains_eq_mem, decide_eq_true_eq] at h
  simp only [Layout.times, List.mem_cons, List.mem_append, List.mem_flatMap, List.not_mem_nil, or_false]
  rcases h with ((((((((((h | h) | h) | h) | h) | h) | h) | h) | h) | h) | h) | h
  · obtain ⟨r, hr, he⟩ := List.any_eq_true.mp h
    exact .inr (.inr (.inl (.inl (.inl (.inl (.inl (.inl (.inl ⟨r, hr, .inl (of_decide_eq_true he).symm⟩))))))))
  · rw [repE, lastSome_isSome] at h
    obtain ⟨r, hr, he⟩ := List.any_eq_true.mp h
    have : r.2 = t := by
      by_cases e : r.2 = t
      · exact e
      · rw [if_neg e] at he; cases he
    exact .inr (.inr (.inl (.inl (.inl (.inl (.inl (.inl (.inl ⟨r, hr, .inr this.symm⟩))))))))
  · rw [volS, lastSome_isSome] at h
    obtain ⟨v, hv, he⟩ := List.any_eq_true.mp h
    have : v.1 = t := by
      by_cases e : v.1 = t
      · exact e
      · rw [if_neg e] at he; cases he
    exact .inr (.inr (.inl (.inl (.inl (.inl (.inl (.inl (.inr ⟨v, hv, .inl this.symm⟩))))))))
  · obtain ⟨v, hv, he⟩ := List.any_eq_true.mp h
    exact .inr (.inr (.inl (.inl (.inl (.inl (.inl (.inl (.inr ⟨v, hv, .inr (of_decide_eq_true he).symm⟩))))))))
  · exact .inr (.inr (.inl (.inl (.inl (.inl (.inl (.inr h)))))))
  · exact .inr (.inr (.inl (.inl (.inl (.inl (.inr h))))))
  · exact .inr (.inr (.inl (.inl (.inl (.inr h)))))
  · exact .inr (.inr (.inl (.inl (.inr h))))
  · exact .inr (.inr (.inl (.inr h)))
  · exact .inr (.inr (.inr h))
  · exact .inr (.inl h)
  · exact .inl h

theorem mkTable_keys_of_times (L : Layout) (ts : List Int) (hs : StrictSorted ts) (h1 : ∀ t ∈ Layout.times L, t ∈ ts)
    (h2 : ∀ t ∈ ts, isKey L t = true) : (mkTable L).map (·.1) = ts :=
  Lists.pairwise_ext (fun h1 h2 => by omega) ((strictSorted_iff _).mp (mkTable_sorted L)) ((strictSorted_iff _).mp hs)
    fun t => by
    rw [mkTable_mem_keys]; exact ⟨fun h => h1 t (isKey_mem_times L t h), h2 t⟩

theorem idxOf_eq (t : Int) : ∀ ts : List Int, idxOf t ts = Model.indexOf t ts
  | [] => rfl
  | u :: ts => by rw [idxOf, Model.indexOf, idxOf_eq t ts]; exact ite_congr (propext eq_comm) (fun _ => rfl) (fun _ => rfl)

theorem idxOf_sorted (ts : List Int) (hs : StrictSorted ts) (i : Nat) (t : Int) (h : ts[i]? = some t) :
    idxOf t ts = some i :=
  (idxOf_eq t ts).trans (Model.indexOf_of_getElem? (((strictSorted_iff ts).mp hs).imp Int.ne_of_lt) h)

theorem idOf_sorted (ts : List Int) (hs : StrictSorted ts) (i : Nat) (t : Int) (h : ts[i]? = some t) :
    idOf ts t = some (if i + 1 = ts.length then Dest.fin else Dest.seg i) := by
  unfold idOf
  rw [idxOf_sorted ts hs i t h]
  by_cases hl : i + 1 = ts.length <;> simp [hl]

theorem getD_get (l : List Int) (i : Nat) (h : i < l.length) : l[i]? = some (l.getD i 0) := by
  rw [List.getD_eq_getElem?_getD, List.getElem?_eq_getElem h]; rfl

/-- `current_volta_repeat_start` after a bracket that ends at a repeat end `re`: it only moves up -/
def newCvrs (re : Option Int) (x : Int) : Int :=
  match re with
  | some rs => if rs > x then rs else x
  | none => x

theorem newCvrs_idem (re : Option Int) (x : Int) : newCvrs re (newCvrs re x) = newCvrs re x := by
  cases re with
  | none => rfl
  | some rs =>
    by_cases h : rs > x <;> simp [newCvrs, h]

theorem voltaEndLoop_cons (ts : List Int) (i : Nat) (re : Option Int) (vn : Nat) (rest : List Nat) (st : BState) :
    voltaEndLoop ts i re (vn :: rest) st =
      if vn ≠ st.cvt then
        (idOf ts (newCvrs re st.cvrs)).bind fun d =>
          voltaEndLoop ts i re rest { st with cvrs := newCvrs re st.cvrs, info := addTo i [(Tag.volta 10, d)] st.info }
      else voltaEndLoop ts i re rest st := by
  simp only [voltaEndLoop]
  split
  · show (match idOf ts (newCvrs re st.cvrs) with
      | none => none
      | some d => _) = _
    cases idOf ts (newCvrs re st.cvrs) <;> rfl
  · rfl

theorem procAll_seq (L : Layout) (tb : BTable) (times ts : List Int) (sts : Nat → BState) (n : Nat)
    (hlen : ts.length = n + 1)
    (h : ∀ i, i < n → ∀ ss se, ts[i]? = some ss → ts[i + 1]? = some se →
      procSeg L tb times i ss se (sts i) = some (sts (i + 1))) :
    procAll L tb times 0 ts (sts 0) = some (sts n) := by
  have key : ∀ (m k : Nat), k + m = n → procAll L tb times k (ts.drop k) (sts k) = some (sts n) := by
    intro m
    induction m with
    | zero =>
      intro k hk
      have hk' : k = n := by omega
      subst hk'
      have hd : (ts.drop k).length = 1 := by simp [hlen]
      match hdl : ts.drop k, hd with
      | [x], _ => simp [procAll]
    | succ m ih =>
      intro k hk
      have hlt : k < n := by omega
      have h0 : k < ts.length := by omega
      have h1 : k + 1 < ts.length := by omega
      have e0 : ts.drop k = ts[k] :: ts[k + 1] :: ts.drop (k + 2) := by
        rw [List.drop_eq_getElem_cons h0, List.drop_eq_getElem_cons h1]
      rw [e0]
      simp only [procAll]
      rw [h k hlt ts[k] ts[k + 1] (List.getElem?_eq_getElem h0) (List.getElem?_eq_getElem h1)]
      simp only
      have e1 : ts[k + 1] :: ts.drop (k + 2) = ts.drop (k + 1) := by
        rw [List.drop_eq_getElem_cons h1]
      rw [e1]
      exact ih (k + 1) (by omega)
  have := key n 0 (by omega)
  simpa using this

/-! the selections `cleanTo` makes among the raw destinations, by name -/

def plainOf (raw : List (Tag × Dest)) : List Dest :=
  raw.filterMap fun p => match p.1 with
    | .plain => some p.2
    | _ => none

def nav2Of (raw : List (Tag × Dest)) : List Dest :=
  raw.filterMap fun p => match p.1 with
    | .nav2 => some p.2
    | _ => none

def voltaOf (raw : List (Tag × Dest)) : Option (List (Nat × Nat)) :=
  raw.foldr (fun p acc => match acc with
    | none => none
    | some l => match p.1, p.2 with
      | .volta lb, .seg j => some ((lb, j) :: l)
      | .volta _, .fin => none
      | _, _ => some l) (some [])

def plainIdxOf (plain : List Dest) : List Nat :=
  plain.foldl (fun acc d => match d with
    | .seg j => insSorted j acc
    | .fin => acc) []

/-- the ordering half of `cleanTo` on the four lists -/
def orderNum (own : Nat) (plain : List Dest) (voltaRaw : List (Nat × Nat)) (nav1 nav2 : List Dest) : List Dest × List Dest :=
  let jumpsBack := !nav1.isEmpty
  let hasFin := plain.contains .fin || nav1.contains .fin
  let nav1 := if hasFin then nav1 ++ [Dest.fin] else nav1
  let volta := (voltaRaw.foldl (fun acc x => insVolta x acc) []).map fun x => Dest.seg x.2
  let plain' := ((plainIdxOf plain).map Dest.seg).filter fun d => !volta.contains d
  if jumpsBack then
    (volta ++ plain'.filter (fun d => !d.ahead own) ++
      (nav1.filter (· ≠ Dest.fin) ++ plain'.filter (fun d => d.ahead own) ++ nav1.filter (· = Dest.fin)), nav2)
  else (volta ++ plain' ++ nav1, nav2)

/-- `cleanTo` is the ordering of the four selections -/
theorem cleanTo_named (own : Nat) (raw : List (Tag × Dest)) :
    cleanTo own raw = (voltaOf raw).map fun voltaRaw => orderNum own (plainOf raw) voltaRaw (nav1Of raw) (nav2Of raw) := by
  unfold cleanTo voltaOf orderNum
  cases List.foldr _ _ raw with
  | none => rfl
  | some v =>
    simp only [Option.bind_eq_bind, Option.bind_some, Option.map_some]
    split <;> rfl

/-- and `cleanToBase` the ordering without the treatment of a jump back -/
theorem cleanToBase_named (raw : List (Tag × Dest)) :
    cleanToBase raw = (voltaOf raw).map fun voltaRaw =>
      let volta := (voltaRaw.foldl (fun acc x => insVolta x acc) []).map fun x => Dest.seg x.2
      (volta ++ ((plainIdxOf (plainOf raw)).map Dest.seg).filter (fun d => !volta.contains d) ++
        (if (plainOf raw).contains .fin || (nav1Of raw).contains .fin then nav1Of raw ++ [Dest.fin] else nav1Of raw),
       nav2Of raw) := by
  unfold cleanToBase voltaOf
  cases List.foldr _ _ raw <;> rfl

/-- without a da capo / dal segno among the raw destinations the repaired ordering is the plain one -/
theorem cleanTo_noNav (own : Nat) (raw : List (Tag × Dest)) (h : nav1Of raw = []) :
    cleanTo own raw = cleanToBase raw := by
  unfold cleanTo cleanToBase
  simp only [h, List.isEmpty_nil, Bool.not_true, Bool.false_eq_true, if_false]

theorem buildSegs_eq (times : List Int) (info : List SegInfo) :
    ∀ (infs : List SegInfo) (k : Nat) (ts : List Int) (segs : List Seg), ts.length = infs.length + 1 →
      segs.length = infs.length →
      (∀ i inf, infs[i]? = some inf → ∃ s e to aw, ts[i]? = some s ∧ ts[i + 1]? = some e ∧
        cleanTo (k + i) inf.to = some (to, aw) ∧
        segs[i]? = some { start := s, stp := e, to := to, await := aw, ty := inf.ty }) →
      buildSegs times info k ts infs = some segs := by
  intro infs
  induction infs with
  | nil =>
    intro k ts segs hl hs _
    have : segs = [] := List.eq_nil_of_length_eq_zero (by simpa using hs)
    subst this
    match ts, hl with
    | [x], _ => rfl
  | cons inf infs ih =>
    intro k ts segs hl hs h
    match ts, hl with
    | a :: b :: rest, hl =>
      match segs, hs with
      | sg :: segs', hs =>
        obtain ⟨s, e, to, aw, h1, h2, h3, h4⟩ := h 0 inf rfl
        simp only [List.getElem?_cons_zero, List.getElem?_cons_succ, Option.some.injEq, Nat.add_zero] at h1 h2 h3 h4
        subst h1 h2
        have hrec := ih (k + 1) (b :: rest) segs' (by simpa using hl) (by simpa using hs)
          (by intro i inf' hi
              have := h (i + 1) inf' (by simpa using hi)
              have e : k + (i + 1) = k + 1 + i := by omega
              rw [e] at this
              simpa using this)
        simp only [buildSegs, h3, hrec, Option.bind_eq_bind, Option.bind_some, h4]

/-- the whole of `add_segments` over symbolic times: the boundary times are `ts`, the per-segment step leads from
`sts i` to `sts (i + 1)`, and the raw destinations collected in `sts n` clean up to those of `segs` -/
theorem mkSegments_run (L : Layout) (ts : List Int) (n : Nat) (hkeys : (mkTable L).map (·.1) = ts)
    (hlen : ts.length = n + 1) (hsup : L.supported = true) (sts : Nat → BState)
    (h0 : sts 0 = { info := List.replicate n {} })
    (hstep : ∀ i, i < n → procSeg L (mkTable L) ts i (ts.getD i 0) (ts.getD (i + 1) 0) (sts i) = some (sts (i + 1)))
    (segs : List Seg) (hil : (sts n).info.length = n) (hsl : segs.length = n)
    (hclean : ∀ i inf, (sts n).info[i]? = some inf → ∃ to aw, cleanTo i inf.to = some (to, aw) ∧
      segs[i]? = some { start := ts.getD i 0, stp := ts.getD (i + 1) 0, to := to, await := aw, ty := inf.ty }) :
    mkSegments L = some segs := by
  have hproc := procAll_seq L (mkTable L) ts ts sts n hlen (fun i hi ss se hss hse => by
    rw [getD_get ts i (by omega)] at hss
    rw [getD_get ts (i + 1) (by omega)] at hse
    rw [← Option.some.inj hss, ← Option.some.inj hse]
    exact hstep i hi)
  unfold mkSegments
  simp only [hsup, Bool.not_true, Bool.false_eq_true, if_false, hkeys]
  rw [show ts.length - 1 = n by omega, ← h0, hproc]
  refine buildSegs_eq ts _ _ 0 ts segs (by omega) (by omega) (fun i inf hi => ?_)
  have hin : i < n := by rw [← hil]; exact (List.getElem?_eq_some_iff.mp hi).1
  obtain ⟨to, aw, h1, h2⟩ := hclean i inf hi
  exact ⟨_, _, to, aw, getD_get ts i (by omega), getD_get ts (i + 1) (by omega), by rw [Nat.zero_add]; exact h1, h2⟩

end C09
