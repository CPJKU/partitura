/-
C04 — the whole exporter: inversion of `saveScoreMidi`, routing of every sounding note to its track
and channel, and the notes of a track as a permutation of the notes routed to it.
-/
import PartituraModel.Proofs.C04Ticks
import PartituraModel.Proofs.C04Meta
import PartituraModel.Proofs.Forall2
import PartituraModel.Proofs.Folds

namespace C04E
open Model Model.Ticks Model.MidiPair Model.MidiModes Model.ScoreMidi

abbrev tkOf (p : Nat) (o : Rat) : PartIn → Nat → Int := fun x t => tick p x.base o t

theorem save_inv (mode : Nat) (a : Anacrusis) (minPpq vel : Nat) (parts : List PartIn) (ex : Exported)
    (h : saveScoreMidi mode a minPpq vel parts = some ex) :
    ∃ o metas tcs n,
      origin a (parts.map (·.base)) = some o ∧
      exportMetas a (tkOf (exportPpq parts minPpq) o) parts = some metas ∧
      mapToTrackChannel mode (noteKeys parts) = some tcs ∧
      (maxList (tcs.map (·.1))).map (· + 1) = some n ∧
      ex = ⟨exportPpq parts minPpq, (List.range n).map
        (exportTrack (exportTempos (tkOf (exportPpq parts minPpq) o) parts) metas
          (exportRecs (tkOf (exportPpq parts minPpq) o) parts) ((noteKeys parts).zip tcs) vel)⟩ := by
  unfold saveScoreMidi at h
  simp only [Option.bind_eq_some_iff, bind, pure] at h
  obtain ⟨o, ho, metas, hm, tcs, htc, n, hn, hex⟩ := h
  refine ⟨o, metas, tcs, n, ho, hm, htc, hn, ?_⟩
  split at hex
  · exact absurd hex (by simp)
  · exact (Option.some.inj hex).symm

theorem save_length_pos {mode : Nat} {a : Anacrusis} {minPpq vel : Nat} {parts : List PartIn} {ex : Exported}
    (h : saveScoreMidi mode a minPpq vel parts = some ex) : 0 < ex.tracks.length := by
  obtain ⟨_, _, _, n, _, _, _, hn, rfl⟩ := save_inv mode a minPpq vel parts ex h
  obtain ⟨m, _, rfl⟩ := Option.map_eq_some_iff.mp hn
  simp

/-- the note a record becomes in track `tr`, if its key is mapped to that track -/
def route (ktc : List (Key × (Nat × Nat))) (vel tr : Nat) (r : NoteOut) : Option NoteRec :=
  match lookup r.key ktc with
  | some (t, ch) => if t = tr then some ⟨r.on, r.off, ch, r.pitch, vel⟩ else none
  | none => none

theorem route_eq_some {ktc : List (Key × (Nat × Nat))} {vel tr : Nat} {r : NoteOut} {m : NoteRec} :
    route ktc vel tr r = some m ↔ ∃ ch, lookup r.key ktc = some (tr, ch) ∧ m = ⟨r.on, r.off, ch, r.pitch, vel⟩ := by
  unfold route
  cases lookup r.key ktc with
  | none => simp
  | some tc =>
    obtain ⟨t, ch⟩ := tc
    by_cases ht : t = tr
    · subst ht
      simp [eq_comm]
    · simp [ht]

/-- up to order (the stable sort by tick and kind settles it), the notes of track `tr` are the records routed to it -/
theorem keyMajor_perm (recs : List NoteOut) (ktc : List (Key × (Nat × Nat))) (tr vel : Nat) :
    (keyMajor recs (fun k => lookup k ktc) tr vel).Perm (recs.filterMap (route ktc vel tr)) := by
  have e : keyMajor recs (fun k => lookup k ktc) tr vel =
      (firstSeen (recs.map (·.key))).flatMap fun k => (recs.filter (fun r => r.key = k)).filterMap (route ktc vel tr) := by
    unfold keyMajor
    refine List.flatMap_congr fun k _ => ?_
    beta_reduce
    -- within the group of `k` the route of a record is decided by the pair of `k`
    rw [List.filterMap_congr (g := fun r => (lookup k ktc).bind fun tc =>
      if tc.1 = tr then some (⟨r.on, r.off, tc.2, r.pitch, vel⟩ : NoteRec) else none) fun r hr => by
        rw [route, show r.key = k by simpa using (List.mem_filter.mp hr).2]
        rcases lookup k ktc with _ | ⟨t, ch⟩ <;> rfl]
    rcases lookup k ktc with _ | ⟨t, ch⟩
    · exact (List.filterMap_eq_nil_iff.mpr fun _ _ => rfl).symm
    · by_cases ht : t = tr
      · simp only [ht, ↓reduceIte, Option.bind_some, List.filterMap_eq_map']
      · simp only [ht, ↓reduceIte, Option.bind_some]
        exact (List.filterMap_eq_nil_iff.mpr fun _ _ => rfl).symm
  rw [e, ← List.filterMap_flatMap]
  exact (C04G.firstSeen_group_perm (fun r : NoteOut => r.key) recs).filterMap _

theorem trackNotes_perm (recs : List NoteOut) (ktc : List (Key × (Nat × Nat))) (tr vel : Nat) :
    (trackNotes recs (fun k => lookup k ktc) tr vel).Perm (recs.filterMap (route ktc vel tr)) := by
  unfold trackNotes
  refine ((keyMajor_perm _ ktc tr vel).append (keyMajor_perm _ ktc tr vel)).trans ?_
  rw [← List.filterMap_append]
  apply List.Perm.filterMap
  have := List.filter_append_perm (fun r : NoteOut => decide (r.on ≠ r.off)) recs
  refine List.Perm.trans (List.Perm.of_eq ?_) this
  congr 1
  apply List.filter_congr
  intro r _
  simp

theorem of_eq_some {α : Type} {f : Option α} {y : α} {P : α → Prop} (hy : f = some y) (H : ∃ x, f = some x ∧ P x) :
    P y := by
  obtain ⟨x, hx, hP⟩ := H
  rw [hy] at hx
  cases hx
  exact hP

/-- `meta_events`: per part (in order) its index and the flattened dict of `partMetas` -/
theorem exportMetas_spec (a : Anacrusis) (tk : PartIn → Nat → Int) (parts : List PartIn)
    (metas : List (Nat × List (Int × Msg))) (h : exportMetas a tk parts = some metas) :
    List.Forall₂ (fun (xi : PartIn × Nat) e => ∃ d, partMetas a xi.1 (tk xi.1) = some d ∧ e = (xi.2, flattenDict d))
      parts.zipIdx metas := by
  unfold exportMetas at h
  refine (Lists.mapM_forall₂ h).imp ?_
  intro xi e hxe
  obtain ⟨x, i⟩ := xi
  simp only [Option.map_eq_some_iff] at hxe
  obtain ⟨d, hd, rfl⟩ := hxe
  exact ⟨d, hd, rfl⟩

theorem noteEvents_kinds (q : Int × Msg → Bool) (hq : ∀ x, C04P.isNoteMsg x = true → q x = false) (notes : List NoteRec) :
    (noteEvents notes).offs.filter q = [] ∧ (noteEvents notes).zeros.filter q = [] ∧ (noteEvents notes).ons.filter q = [] := by
  obtain ⟨f1, f2, f3⟩ := C04P.noteEvents_filter notes
  refine ⟨?_, ?_, ?_⟩ <;> rw [List.filter_eq_nil_iff] <;> intro x hx
  · have := (List.filter_eq_self.mp f1) x hx
    simp [hq x this]
  · have := (List.filter_eq_self.mp f2) x hx
    simp [hq x this]
  · have := (List.filter_eq_self.mp f3) x hx
    simp [hq x this]

theorem trackOrder_filter (q : Int × Msg → Bool) (hq : ∀ x, C04P.isNoteMsg x = true → q x = false)
    (tempos metas : List (Int × Msg)) (notes : List NoteRec) :
    (trackOrder (trackEvents tempos metas notes)).filter q = sortEv (tempos.filter q ++ metas.filter q) := by
  unfold trackOrder trackEvents
  rw [C04S.sortEv_filter]
  obtain ⟨f1, f2, f3⟩ := noteEvents_kinds q hq notes
  simp only [List.filter_append, f1, f2, f3, List.append_nil]

theorem isKS_note (x : Int × Msg) (h : C04P.isNoteMsg x = true) : C04D.isKS x = false := by
  obtain ⟨t, m⟩ := x
  cases m <;> simp_all [C04D.isKS, C04P.isNoteMsg]

theorem isTS_note (x : Int × Msg) (h : C04P.isNoteMsg x = true) : C04D.isTS x = false := by
  obtain ⟨t, m⟩ := x
  cases m <;> simp_all [C04D.isTS, C04P.isNoteMsg]

theorem isTempo_note (x : Int × Msg) (h : C04P.isNoteMsg x = true) : C04D.isTempo x = false := by
  obtain ⟨t, m⟩ := x
  cases m <;> simp_all [C04D.isTempo, C04P.isNoteMsg]

def trackTempos (tempos : List (Int × Nat)) (tr : Nat) : List (Int × Msg) :=
  if tr = 0 then tempos.map (fun e => (e.1, Msg.tempo e.2)) else []

theorem trackTempos_kind (tempos : List (Int × Nat)) (tr : Nat) :
    (∀ x ∈ trackTempos tempos tr, C04D.isTempo x = true) ∧ (∀ x ∈ trackTempos tempos tr, C04P.isNoteMsg x = false) := by
  unfold trackTempos
  split
  · constructor
    · intro x hx
      obtain ⟨e, _, rfl⟩ := List.mem_map.mp hx
      rfl
    · intro x hx
      obtain ⟨e, _, rfl⟩ := List.mem_map.mp hx
      rfl
  · simp

theorem trackMetas_kinds (a : Anacrusis) (tk : PartIn → Nat → Int) (parts : List PartIn)
    (metas : List (Nat × List (Int × Msg))) (h : exportMetas a tk parts = some metas)
    (ktc : List (Key × (Nat × Nat))) (tr : Nat) :
    ∀ x ∈ trackMetas metas ktc tr, C04D.isKS x = true ∨ C04D.isTS x = true := by
  intro x hx
  simp only [trackMetas, List.mem_flatMap, List.mem_reverse] at hx
  obtain ⟨e, he, hx⟩ := hx
  split at hx
  · obtain ⟨xi, _, d, hd, rfl⟩ := Lists.forall₂_mem_right (exportMetas_spec a tk parts metas h) e he
    exact C04D.partMetas_kinds a xi.1 (tk xi.1) d hd x hx
  · simp at hx

theorem exportTrack_filter (q : Int × Msg → Bool) (hq : ∀ x, C04P.isNoteMsg x = true → q x = false)
    (tempos : List (Int × Nat)) (metas : List (Nat × List (Int × Msg))) (recs : List NoteOut)
    (ktc : List (Key × (Nat × Nat))) (vel tr : Nat) :
    ((exportTrack tempos metas recs ktc vel tr).filter q).Perm
      ((trackTempos tempos tr).filter q ++ (trackMetas metas ktc tr).filter q) := by
  unfold exportTrack
  rw [trackOrder_filter q hq]
  exact C04S.isSort.perm _

theorem exportTrack_filter_sig (q : Int × Msg → Bool) (hq : ∀ x, C04P.isNoteMsg x = true → q x = false)
    (hqT : ∀ x, C04D.isTempo x = true → q x = false)
    (tempos : List (Int × Nat)) (metas : List (Nat × List (Int × Msg))) (recs : List NoteOut)
    (ktc : List (Key × (Nat × Nat))) (vel tr : Nat) :
    ((exportTrack tempos metas recs ktc vel tr).filter q).Perm ((trackMetas metas ktc tr).filter q) := by
  refine (exportTrack_filter q hq tempos metas recs ktc vel tr).trans (List.Perm.of_eq ?_)
  rw [List.filter_eq_nil_iff.mpr fun x hx => by rw [hqT x ((trackTempos_kind tempos tr).1 x hx)]; exact Bool.false_ne_true,
    List.nil_append]

theorem mem_exportTrack_sig (q : Int × Msg → Bool) (hq : ∀ x, C04P.isNoteMsg x = true → q x = false)
    (hqT : ∀ x, C04D.isTempo x = true → q x = false) (tempos : List (Int × Nat)) (metas : List (Nat × List (Int × Msg)))
    (recs : List NoteOut) (ktc : List (Key × (Nat × Nat))) (vel tr : Nat) {e : Int × Msg} (he : q e = true) :
    e ∈ exportTrack tempos metas recs ktc vel tr ↔ e ∈ trackMetas metas ktc tr := by
  have := (exportTrack_filter_sig q hq hqT tempos metas recs ktc vel tr).mem_iff (a := e)
  rwa [List.mem_filter, List.mem_filter, and_iff_left he, and_iff_left he] at this

theorem isKS_tempo (x : Int × Msg) (h : C04D.isTempo x = true) : C04D.isKS x = false := by
  obtain ⟨t, m⟩ := x
  cases m <;> simp_all [C04D.isKS, C04D.isTempo]

theorem isTS_tempo (x : Int × Msg) (h : C04D.isTempo x = true) : C04D.isTS x = false := by
  obtain ⟨t, m⟩ := x
  cases m <;> simp_all [C04D.isTS, C04D.isTempo]

theorem exportTrack_tempos (a : Anacrusis) (tk : PartIn → Nat → Int) (parts : List PartIn)
    (metas : List (Nat × List (Int × Msg))) (hm : exportMetas a tk parts = some metas) (tempos : List (Int × Nat))
    (recs : List NoteOut) (ktc : List (Key × (Nat × Nat))) (vel tr : Nat) :
    ((exportTrack tempos metas recs ktc vel tr).filter C04D.isTempo).Perm (trackTempos tempos tr) := by
  refine (exportTrack_filter C04D.isTempo isTempo_note _ _ _ _ _ _).trans (List.Perm.of_eq ?_)
  have hM : (trackMetas metas ktc tr).filter C04D.isTempo = [] :=
    List.filter_eq_nil_iff.mpr fun x hx ht => by
      rcases trackMetas_kinds a _ parts metas hm _ tr x hx with h' | h'
      · rw [isKS_tempo x ht] at h'; cases h'
      · rw [isTS_tempo x ht] at h'; cases h'
  rw [hM, List.append_nil, List.filter_eq_self.mpr (trackTempos_kind _ tr).1]

theorem temposOf_filter (l : List (Int × Msg)) : temposOf l = temposOf (l.filter C04D.isTempo) := by
  unfold temposOf
  rw [List.filterMap_filter]
  apply List.filterMap_congr
  rintro ⟨t, m⟩ _
  cases m <;> rfl

theorem temposOf_trackTempos (tempos : List (Int × Nat)) (tr : Nat) :
    temposOf (trackTempos tempos tr) = if tr = 0 then tempos else [] := by
  unfold trackTempos
  split
  · rw [temposOf, List.filterMap_map]
    exact (List.filterMap_congr fun e _ => rfl).trans List.filterMap_some
  · rfl

theorem save_tempos {mode : Nat} {a : Anacrusis} {minPpq vel : Nat} {parts : List PartIn} {ex : Exported} {o : Rat}
    (h : saveScoreMidi mode a minPpq vel parts = some ex) (ho : origin a (parts.map (·.base)) = some o) :
    (ex.tracks.flatMap temposOf).Perm (exportTempos (tkOf ex.ppq o) parts) := by
  obtain ⟨o', metas, tcs, n, ho', hm, _, hn, rfl⟩ := save_inv mode a minPpq vel parts ex h
  cases ho.symm.trans ho'
  obtain ⟨m, _, rfl⟩ := Option.map_eq_some_iff.mp hn
  rw [List.flatMap_map]
  have htr : ∀ tr, (temposOf (exportTrack (exportTempos (tkOf (exportPpq parts minPpq) o) parts) metas
      (exportRecs (tkOf (exportPpq parts minPpq) o) parts) ((noteKeys parts).zip tcs) vel tr)).Perm
      (if tr = 0 then exportTempos (tkOf (exportPpq parts minPpq) o) parts else []) := fun tr => by
    rw [temposOf_filter]
    exact ((exportTrack_tempos a _ parts metas hm _ _ _ vel tr).filterMap _).trans (List.Perm.of_eq (temposOf_trackTempos _ tr))
  refine (List.Perm.flatMap_left _ fun tr _ => htr tr).trans (List.Perm.of_eq ?_)
  -- only the first track contributes
  rw [List.range_succ_eq_map, List.flatMap_cons, List.flatMap_map]
  simp

/-- the signature events of kind `q` of a track, in terms of the parts: `img x` is what part `x` contributes -/
theorem trackMetas_filter (a : Anacrusis) (tk : PartIn → Nat → Int) (parts : List PartIn)
    (metas : List (Nat × List (Int × Msg))) (h : exportMetas a tk parts = some metas)
    (ktc : List (Key × (Nat × Nat))) (tr : Nat) (q : Int × Msg → Bool) (img : PartIn → List (Int × Msg))
    (himg : ∀ x d, partMetas a x (tk x) = some d → ((flattenDict d).filter q).Perm (img x)) :
    ((trackMetas metas ktc tr).filter q).Perm
      ((parts.zipIdx).flatMap fun xi => if (tracksOfPart ktc xi.2).contains tr then img xi.1 else []) := by
  unfold trackMetas
  rw [List.filter_flatMap]
  refine ((List.reverse_perm metas).flatMap_right _).trans ?_
  refine (Lists.forall₂_flatMap_perm (exportMetas_spec a tk parts metas h) _ _ ?_).symm
  intro xi e hxe
  obtain ⟨d, hd, rfl⟩ := hxe
  simp only
  split
  · exact (himg xi.1 d hd).symm
  · simp

theorem mem_trackMetas (a : Anacrusis) (tk : PartIn → Nat → Int) (parts : List PartIn)
    (metas : List (Nat × List (Int × Msg))) (h : exportMetas a tk parts = some metas)
    (ktc : List (Key × (Nat × Nat))) (tr : Nat) (x : Int × Msg) :
    x ∈ trackMetas metas ktc tr ↔ ∃ xi ∈ parts.zipIdx, (tracksOfPart ktc xi.2).contains tr = true ∧
      ∃ d, partMetas a xi.1 (tk xi.1) = some d ∧ x ∈ flattenDict d := by
  have hf := exportMetas_spec a tk parts metas h
  simp only [trackMetas, List.mem_flatMap, List.mem_reverse]
  constructor
  · rintro ⟨e, he, hx⟩
    split at hx
    · rename_i hc
      obtain ⟨xi, hxi, d, hd, rfl⟩ := Lists.forall₂_mem_right hf e he
      exact ⟨xi, hxi, hc, d, hd, hx⟩
    · simp at hx
  · rintro ⟨xi, hxi, hc, d, hd, hx⟩
    obtain ⟨e, he, d', hd', rfl⟩ := Lists.forall₂_mem_left hf xi hxi
    rw [hd] at hd'
    cases hd'
    exact ⟨_, he, by rw [if_pos hc]; exact hx⟩

theorem mem_tracksOfPart (ktc : List (Key × (Nat × Nat))) (i tr : Nat) :
    (tracksOfPart ktc i).contains tr = true ↔ ∃ k tc, (k, tc) ∈ ktc ∧ k.2.1 = i ∧ tc.1 = tr := by
  simp only [tracksOfPart, List.contains_iff_mem, List.mem_filterMap]
  constructor
  · rintro ⟨e, he, hx⟩
    split at hx
    · rename_i hi
      cases hx
      exact ⟨e.1, e.2, he, hi, rfl⟩
    · cases hx
  · rintro ⟨k, tc, he, hi, rfl⟩
    exact ⟨(k, tc), he, by simp [hi]⟩

theorem tick_mono (P : Nat) (b : TimeBase) (o : Rat) (hw : C04T.WellFormed b) (x y : Nat) (hxy : x ≤ y) :
    tick P b o x ≤ tick P b o y :=
  Round.roundHalfEven_mono (C04T.toTick_mono P b o hw x y hxy)

theorem exportRecs_valid (p : Nat) (o : Rat) (parts : List PartIn) (hw : ∀ x ∈ parts, C04T.WellFormed x.base) :
    ∀ r ∈ exportRecs (tkOf p o) parts, r.on ≤ r.off := by
  intro r hr
  simp only [exportRecs, List.mem_flatMap, List.mem_map] at hr
  obtain ⟨⟨x, i⟩, hxi, n, _, rfl⟩ := hr
  exact tick_mono p x.base o (hw x (List.fst_mem_of_mem_zipIdx hxi)) _ _ (Nat.le_add_right _ _)

theorem route_valid (ktc : List (Key × (Nat × Nat))) (vel tr : Nat) (hvel : 0 < vel) (recs : List NoteOut)
    (hr : ∀ r ∈ recs, r.on ≤ r.off) : ∀ n ∈ recs.filterMap (route ktc vel tr), C04P.Valid n := by
  intro n hn
  obtain ⟨r, hrm, hrt⟩ := List.mem_filterMap.mp hn
  obtain ⟨ch, _, rfl⟩ := route_eq_some.mp hrt
  exact ⟨hvel, hr r hrm⟩

theorem noOverlap_perm {l₁ l₂ : List NoteRec} (h : l₁.Perm l₂) : C04P.NoOverlap l₁ ↔ C04P.NoOverlap l₂ :=
  h.pairwise_iff C04P.Compat.symm

theorem lookup_zip_some {α β : Type} [DecidableEq α] (k : α) (keys : List α) (vs : List β)
    (hl : keys.length = vs.length) (hk : k ∈ keys) : ∃ v, lookup k (keys.zip vs) = some v :=
  Option.isSome_iff_exists.mp (Model.lookup_isSome_iff.mpr (by rw [List.map_fst_zip hl.le]; exact hk))

theorem maxList_ge (l : List Nat) (m : Nat) (h : maxList l = some m) : ∀ x ∈ l, x ≤ m := by
  cases l with
  | nil => simp [maxList] at h
  | cons a as =>
    simp only [maxList, Option.some.injEq] at h
    subst h
    intro x hx
    rcases List.mem_cons.mp hx with rfl | hx
    · exact Lists.foldl_max_ge_init x as
    · exact Lists.foldl_max_ge_mem a as x hx

/-- the note a record becomes, with its track -/
def routeAny (ktc : List (Key × (Nat × Nat))) (vel : Nat) (r : NoteOut) : Option (Nat × NoteRec) :=
  (lookup r.key ktc).map fun tc => (tc.1, ⟨r.on, r.off, tc.2, r.pitch, vel⟩)

theorem route_eq_filter (ktc : List (Key × (Nat × Nat))) (vel tr : Nat) (recs : List NoteOut) :
    recs.filterMap (route ktc vel tr) = ((recs.filterMap (routeAny ktc vel)).filter (fun e => e.1 = tr)).map (·.2) := by
  rw [List.filter_filterMap, List.map_filterMap]
  refine List.filterMap_congr fun r _ => ?_
  simp only [route, routeAny]
  cases lookup r.key ktc with
  | none => rfl
  | some tc => by_cases ht : tc.1 = tr <;> simp [Option.filter, ht]

theorem routedTo_eq (p : Nat) (o : Rat) (vel : Nat) (ktc : List (Key × (Nat × Nat))) (parts : List PartIn) (tr : Nat) :
    routedTo p o vel ktc parts tr = (exportRecs (tkOf p o) parts).filterMap (route ktc vel tr) := by
  unfold routedTo exportRecs
  rw [List.filterMap_flatMap]
  apply List.flatMap_congr
  intro xi _
  rw [List.filterMap_map]
  apply List.filterMap_congr
  intro n _
  simp only [Function.comp, route]
  cases lookup (xi.1.group, xi.2, n.2.2.2) ktc with
  | none => rfl
  | some tc => rfl

theorem mem_noteKeys (parts : List PartIn) (k : Key) :
    k ∈ noteKeys parts ↔ ∃ xi ∈ parts.zipIdx, ∃ n ∈ xi.1.notes, (xi.1.group, xi.2, n.2.2.2) = k := by
  unfold noteKeys
  rw [C04G.mem_firstSeen]
  simp only [List.mem_flatMap, List.mem_map]

theorem mem_exportRecs (tk : PartIn → Nat → Int) (parts : List PartIn) (r : NoteOut) :
    r ∈ exportRecs tk parts ↔ ∃ xi ∈ parts.zipIdx, ∃ n ∈ xi.1.notes,
      r = ⟨(xi.1.group, xi.2, n.2.2.2), tk xi.1 n.1, tk xi.1 (n.1 + n.2.1), n.2.2.1⟩ := by
  simp only [exportRecs, List.mem_flatMap, List.mem_map, eq_comm]

theorem mem_exportRecs_key (tk : PartIn → Nat → Int) (parts : List PartIn) :
    ∀ r ∈ exportRecs tk parts, r.key ∈ noteKeys parts := by
  intro r hr
  obtain ⟨xi, hxi, n, hn, rfl⟩ := (mem_exportRecs tk parts r).mp hr
  exact (mem_noteKeys parts _).mpr ⟨xi, hxi, n, hn, rfl⟩

end C04E
