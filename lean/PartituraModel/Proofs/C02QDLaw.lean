/-
C02 — what `set_quarter_duration(t, q)` does to `quarter_duration_map`.
-/
import PartituraModel.Proofs.C02Hist
import PartituraModel.Proofs.C02Part

namespace C02Proofs
open Model.TimeMap

/-- the law below the head entry: `cur` is the value stored just before `l` -/
theorem setQDAux_law (t : Int) (q : Nat) (x : Rat) (l : List (Int × Nat)) (cur : Nat)
    (hs : (l.map (·.1)).Pairwise (· < ·)) :
    prevValue cur (setQDAux t q (some cur) l) x =
      if (t : Rat) ≤ x ∧ (∀ e ∈ l, t < e.1 → x < (e.1 : Rat)) then q else prevValue cur l x := by
  have h := (setQDAux_isSet t q).law (Q := fun k : Int => (k : Rat) ≤ x) (prevValue_scan x) (fun _ _ => rfl)
    (fun _ _ => rfl) (fun _ _ _ => Int.lt_trans) (fun _ _ h => Int.lt_asymm h) (fun k h1 h2 => by omega)
    (fun _ _ h hQ => ((Int.cast_lt (R := Rat)).mpr h).le.trans hQ) l cur (List.pairwise_map.mp hs)
  simpa only [not_le] using h

/-- at or after the first entry the search never tests the value before the list -/
theorem setQD_eq_aux (h0 : Int) (a : Nat) (r : List (Int × Nat)) (t : Int) (q : Nat) (ht : h0 ≤ t) (c : Nat) :
    setQD ((h0, a) :: r) t q = setQDAux t q (some c) ((h0, a) :: r) := by
  unfold setQD setQDAux
  by_cases h1 : h0 < t
  · rw [if_pos h1, if_pos h1]
  · rw [if_neg h1, if_neg h1, if_pos (by omega), if_pos (by omega)]

end C02Proofs
