/-
C11 — the stretches of a voice that `fill_rests` gives rests to (Model/Rests.lean `voiceRests`): pairing the sorted
ends with the sorted starts finds exactly the times of the measure that no note of the voice covers.
-/
import PartituraModel.Model.Rests
import PartituraModel.Proofs.Orders
import Mathlib.Algebra.Order.Ring.Rat

namespace C11Rests
open Model Model.Dur Model.Meas Model.Rests Gen

abbrev SortedBy (key : GNote → Rat) (l : List GNote) : Prop := l.Pairwise (fun a b => key a ≤ key b)

theorem isSort (key : GNote → Rat) :
    Lists.IsInsertionSort (fun a b => decide (key a ≤ key b)) (insertBy key) (sortBy key) :=
  ⟨fun _ => rfl, fun _ _ _ => by simp only [insertBy, decide_eq_true_eq], rfl, fun _ _ => rfl⟩

theorem sortBy_sorted (key : GNote → Rat) (l : List GNote) : SortedBy key (sortBy key l) :=
  (isSort key).pairwise_key l

/-- those that pass the narrower test are a sublist of those that pass the wider one: of equal length, they are the same -/
theorem countP_eq_of_imp (p q : GNote → Bool) (l : List GNote) (himp : ∀ x ∈ l, p x = true → q x = true)
    (hc : l.countP p = l.countP q) : ∀ x ∈ l, q x = true → p x = true := by
  have hpq : l.filter p = (l.filter q).filter p := by
    rw [List.filter_filter]
    exact List.filter_congr fun x hx => by cases hp : p x <;> simp [himp x hx, hp]
  have heq : (l.filter q).filter p = l.filter q := List.filter_sublist.eq_of_length
    (by rw [← hpq, ← List.countP_eq_length_filter, ← List.countP_eq_length_filter, hc])
  intro x hx hq
  have : x ∈ (l.filter q).filter p := by rw [heq]; exact List.mem_filter.mpr ⟨hx, hq⟩
  exact (List.mem_filter.mp this).2

/-- in a sorted list the elements that pass a test closed towards smaller keys are exactly the first `countP` ones -/
theorem prefix_iff (key : GNote → Rat) (p : GNote → Bool) (hp : ∀ a b, key a ≤ key b → p b = true → p a = true) :
    ∀ (l : List GNote), SortedBy key l → ∀ (j : Nat) (x : GNote), l[j]? = some x → (j < l.countP p ↔ p x = true) := by
  intro l
  induction l with
  | nil => intro _ j x h; simp at h
  | cons y l' ih =>
    intro hs j x h
    have hy := List.pairwise_cons.mp hs
    by_cases hyt : p y = true
    · rw [List.countP_cons_of_pos hyt]
      cases j with
      | zero =>
        simp only [List.getElem?_cons_zero, Option.some.injEq] at h
        subst h
        exact ⟨fun _ => hyt, fun _ => Nat.succ_pos _⟩
      | succ j' =>
        simp only [List.getElem?_cons_succ] at h
        rw [← ih hy.2 j' x h]
        omega
    · -- nothing passes: every later key is at least that of `y`
      have hall : ∀ z ∈ y :: l', ¬ p z = true := by
        intro z hz hzt
        rcases List.mem_cons.mp hz with rfl | hz
        · exact hyt hzt
        · exact hyt (hp y z (hy.1 z hz) hzt)
      rw [List.countP_eq_zero.mpr hall]
      exact ⟨fun h0 => absurd h0 (Nat.not_lt_zero _), fun hxt => absurd hxt (hall x (List.mem_of_getElem? h))⟩

/-- the stretches of the `for i in range(1, n)` loop: `(i-1)`-th smallest end to `i`-th smallest start when the
    latter is larger -/
def betweenSpans : List GNote → List GNote → List (Rat × Rat)
  | b :: se, a :: ss => (if a.start > b.stop then [(b.stop, a.start)] else []) ++ betweenSpans se ss
  | _, _ => []

/-- the stretches `voiceRests` asks rests for, in its order: before the first start, after the last end, between -/
def voiceSpans (S E : Rat) (nv : List GNote) : List (Rat × Rat) :=
  let ss := sortBy (·.start) nv
  let se := sortBy (·.stop) nv
  match ss.head?, se.getLast? with
  | some a, some z =>
    (if a.start > S then [(S, a.start)] else []) ++ ((if z.stop < E then [(z.stop, E)] else []) ++ betweenSpans se ss.tail)
  | _, _ => []

theorem mem_betweenSpans : ∀ (se ss : List GNote) (sp : Rat × Rat), sp ∈ betweenSpans se ss ↔
    ∃ (i : Nat) (b a : GNote), se[i]? = some b ∧ ss[i]? = some a ∧ b.stop < a.start ∧ sp = (b.stop, a.start)
  | [], _, _ => ⟨fun h => absurd h List.not_mem_nil, fun ⟨_, _, _, h, _⟩ => by cases h⟩
  | _ :: _, [], _ => ⟨fun h => absurd h List.not_mem_nil, fun ⟨_, _, _, _, h, _⟩ => by cases h⟩
  | b :: se, a :: ss, sp => by
    unfold betweenSpans
    rw [List.mem_append, mem_betweenSpans se ss sp]
    constructor
    · rintro (h | ⟨i, b', a', h1, h2, h3, h4⟩)
      · split at h
        · exact ⟨0, b, a, rfl, rfl, ‹_›, List.mem_singleton.mp h⟩
        · cases h
      · exact ⟨i + 1, b', a', h1, h2, h3, h4⟩
    · rintro ⟨i, b', a', h1, h2, h3, h4⟩
      cases i with
      | zero =>
        cases h1; cases h2
        exact Or.inl (by rw [if_pos h3, h4]; exact List.mem_singleton_self _)
      | succ i' => exact Or.inr ⟨i', b', a', h1, h2, h3, h4⟩

theorem sortBy_rank (key : GNote → Rat) (p : GNote → Bool) (hp : ∀ a b, key a ≤ key b → p b = true → p a = true)
    (nv : List GNote) (j : Nat) (x : GNote) (h : (sortBy key nv)[j]? = some x) : j < nv.countP p ↔ p x = true := by
  rw [← ((isSort key).perm nv).countP_eq]
  exact prefix_iff key p hp _ (sortBy_sorted key nv) j x h

theorem between_free (nv : List GNote) (hord : ∀ n ∈ nv, n.start ≤ n.stop) (i : Nat) (b a : GNote)
    (hb : (sortBy (·.stop) nv)[i]? = some b) (ha : (sortBy (·.start) nv)[i + 1]? = some a) (hlt : b.stop < a.start) :
    ∀ m ∈ nv, m.stop ≤ b.stop ∨ a.start ≤ m.start := by
  intro m hm
  by_contra hcon
  rw [not_or, not_le, not_le] at hcon
  -- p: ends not after b's end;  q: starts before a's start
  let p : GNote → Bool := fun x => decide (x.stop ≤ b.stop)
  let q : GNote → Bool := fun x => decide (x.start < a.start)
  -- `b` is the `i`-th by end and passes `p`; `a` is the `(i+1)`-th by start and fails `q`
  have h1 : i < nv.countP p :=
    (sortBy_rank (·.stop) p (fun _ _ hxy hy => decide_eq_true (le_trans hxy (of_decide_eq_true hy))) nv i b hb).mpr
      (decide_eq_true (le_refl _))
  have h2 : ¬ (i + 1 < nv.countP q) := fun hlt' =>
    lt_irrefl _ (of_decide_eq_true ((sortBy_rank (·.start) q
      (fun _ _ hxy hy => decide_eq_true (lt_of_le_of_lt hxy (of_decide_eq_true hy))) nv (i + 1) a ha).mp hlt'))
  have himp : ∀ x ∈ nv, p x = true → q x = true := by
    intro x hx hp
    simp only [p, q, decide_eq_true_eq] at hp ⊢
    exact lt_of_le_of_lt (le_trans (hord x hx) hp) hlt
  have hle : nv.countP p ≤ nv.countP q := List.countP_mono_left himp
  have := countP_eq_of_imp p q nv himp (by omega) m hm (by simpa [q] using hcon.2)
  simp only [p, decide_eq_true_eq] at this
  exact absurd this (not_le.mpr hcon.1)

theorem uncovered_between (nv : List GNote) (hord : ∀ n ∈ nv, n.start ≤ n.stop) (t : Rat)
    (hun : ∀ n ∈ nv, ¬ (n.start ≤ t ∧ t < n.stop))
    (a0 z : GNote) (ha0 : a0 ∈ nv) (hz : z ∈ nv) (h0 : a0.start ≤ t) (h1 : t < z.stop) :
    ∃ (i : Nat) (b a : GNote), (sortBy (·.stop) nv)[i]? = some b ∧ (sortBy (·.start) nv)[i + 1]? = some a ∧
      b.stop ≤ t ∧ t < a.start := by
  let p : GNote → Bool := fun x => decide (x.stop ≤ t)
  let q : GNote → Bool := fun x => decide (x.start ≤ t)
  have hpq : ∀ x ∈ nv, (p x = true ↔ q x = true) := by
    intro x hx
    simp only [p, q, decide_eq_true_eq]
    constructor
    · intro h; exact le_trans (hord x hx) h
    · intro h
      by_contra hc
      exact hun x hx ⟨h, not_le.mp hc⟩
  have hcount : nv.countP p = nv.countP q := by
    apply List.countP_congr
    intro x hx; exact hpq x hx
  have hpos : 0 < nv.countP p := by
    rw [List.countP_pos_iff]
    exact ⟨a0, ha0, (hpq a0 ha0).mpr (by simpa [q] using h0)⟩
  have hlt : nv.countP p < nv.length := by
    rcases Nat.lt_or_ge (nv.countP p) nv.length with h | h
    · exact h
    · have heq : nv.countP p = nv.length := le_antisymm List.countP_le_length h
      have := (List.countP_eq_length.mp heq) z hz
      simp only [p, decide_eq_true_eq] at this
      exact absurd this (not_le.mpr h1)
  obtain ⟨k, hk⟩ : ∃ k, nv.countP p = k + 1 := ⟨nv.countP p - 1, by omega⟩
  have hlen1 : (sortBy (·.stop) nv).length = nv.length := ((isSort _).perm nv).length_eq
  have hlen2 : (sortBy (·.start) nv).length = nv.length := ((isSort _).perm nv).length_eq
  have hkb : k < (sortBy (·.stop) nv).length := by omega
  have hka : k + 1 < (sortBy (·.start) nv).length := by omega
  refine ⟨k, (sortBy (·.stop) nv)[k], (sortBy (·.start) nv)[k + 1], List.getElem?_eq_getElem hkb,
    List.getElem?_eq_getElem hka, ?_, ?_⟩
  · exact of_decide_eq_true ((sortBy_rank (·.stop) p (fun _ _ hxy hy => decide_eq_true (le_trans hxy (of_decide_eq_true hy)))
      nv k _ (List.getElem?_eq_getElem hkb)).mp (by omega))
  · have := sortBy_rank (·.start) q (fun _ _ hxy hy => decide_eq_true (le_trans hxy (of_decide_eq_true hy)))
      nv (k + 1) _ (List.getElem?_eq_getElem hka)
    by_contra hc
    have := this.mpr (decide_eq_true (not_lt.mp hc))
    omega

theorem head_sortBy_le (key : GNote → Rat) (nv : List GNote) (a : GNote) (h : (sortBy key nv).head? = some a) :
    a ∈ nv ∧ ∀ m ∈ nv, key a ≤ key m :=
  ((isSort key).head?_le (.of_key key) h).imp_right fun hle m hm => of_decide_eq_true (hle m hm)

theorem getLast_sortBy_ge (key : GNote → Rat) (nv : List GNote) (z : GNote) (h : (sortBy key nv).getLast? = some z) :
    z ∈ nv ∧ ∀ m ∈ nv, key m ≤ key z :=
  ((isSort key).getLast?_le (.of_key key) h).imp_right fun hle m hm => of_decide_eq_true (hle m hm)

theorem voiceSpans_exact (S E : Rat) (nv : List GNote) (hne : nv ≠ []) (hord : ∀ n ∈ nv, n.start ≤ n.stop)
    (t : Rat) (hS : S ≤ t) (hE : t < E) :
    (∃ sp ∈ voiceSpans S E nv, sp.1 ≤ t ∧ t < sp.2) ↔ ∀ n ∈ nv, ¬ (n.start ≤ t ∧ t < n.stop) := by
  have hl1 : (sortBy (·.start) nv) ≠ [] := by
    intro h; have := ((isSort (·.start)).perm nv).length_eq; rw [h] at this
    exact hne (List.length_eq_zero_iff.mp this.symm)
  have hl2 : (sortBy (·.stop) nv) ≠ [] := by
    intro h; have := ((isSort (·.stop)).perm nv).length_eq; rw [h] at this
    exact hne (List.length_eq_zero_iff.mp this.symm)
  obtain ⟨a0, ha0⟩ : ∃ a0, (sortBy (·.start) nv).head? = some a0 := by
    cases h : sortBy (·.start) nv with
    | nil => exact absurd h hl1
    | cons x xs => exact ⟨x, rfl⟩
  obtain ⟨z, hz⟩ : ∃ z, (sortBy (·.stop) nv).getLast? = some z := by
    rw [← Option.isSome_iff_exists, List.getLast?_isSome]; exact hl2
  obtain ⟨ha0m, ha0le⟩ := head_sortBy_le (·.start) nv a0 ha0
  obtain ⟨hzm, hzge⟩ := getLast_sortBy_ge (·.stop) nv z hz
  have hspans : voiceSpans S E nv = (if a0.start > S then [(S, a0.start)] else []) ++
      ((if z.stop < E then [(z.stop, E)] else []) ++ betweenSpans (sortBy (·.stop) nv) (sortBy (·.start) nv).tail) := by
    unfold voiceSpans; simp only [ha0, hz]
  rw [hspans]
  constructor
  · rintro ⟨sp, hsp, h1, h2⟩ n hn ⟨hn1, hn2⟩
    rcases List.mem_append.mp hsp with hsp | hsp
    · split at hsp
      · simp only [List.mem_singleton] at hsp; subst hsp
        exact absurd (lt_of_lt_of_le h2 (ha0le n hn)) (not_lt.mpr hn1)
      · simp at hsp
    · rcases List.mem_append.mp hsp with hsp | hsp
      · split at hsp
        · simp only [List.mem_singleton] at hsp; subst hsp
          exact absurd (lt_of_lt_of_le hn2 (hzge n hn)) (not_lt.mpr h1)
        · simp at hsp
      · obtain ⟨i, b, a, hb, ha, hlt, rfl⟩ := (mem_betweenSpans _ _ sp).mp hsp
        rw [List.getElem?_tail] at ha
        rcases between_free nv hord i b a hb ha hlt n hn with h | h
        · exact absurd (lt_of_lt_of_le hn2 h) (not_lt.mpr h1)
        · exact absurd (lt_of_lt_of_le h2 h) (not_lt.mpr hn1)
  · intro hun
    by_cases hlo : t < a0.start
    · refine ⟨(S, a0.start), ?_, hS, hlo⟩
      rw [if_pos (lt_of_le_of_lt hS hlo)]; simp
    · by_cases hhi : z.stop ≤ t
      · refine ⟨(z.stop, E), ?_, hhi, hE⟩
        rw [if_pos (lt_of_le_of_lt hhi hE)]; simp
      · obtain ⟨i, b, a, hb, ha, hbt, hta⟩ :=
          uncovered_between nv hord t hun a0 z ha0m hzm (not_lt.mp hlo) (not_le.mp hhi)
        refine ⟨(b.stop, a.start), ?_, hbt, hta⟩
        apply List.mem_append_right
        apply List.mem_append_right
        rw [mem_betweenSpans]
        exact ⟨i, b, a, hb, by rw [List.getElem?_tail]; exact ha, lt_of_le_of_lt hbt hta, rfl⟩

theorem voiceSpans_mem (S E : Rat) (nv : List GNote) : ∀ sp ∈ voiceSpans S E nv,
    sp.1 < sp.2 ∧ (sp.1 = S ∨ ∃ b ∈ nv, sp.1 = b.stop) ∧ (sp.2 = E ∨ ∃ a ∈ nv, sp.2 = a.start) := by
  intro sp hsp
  unfold voiceSpans at hsp
  simp only at hsp
  split at hsp
  · rename_i a0 z ha0 hz
    rcases List.mem_append.mp hsp with hsp | hsp
    · split at hsp
      · cases List.mem_singleton.mp hsp
        exact ⟨‹_›, Or.inl rfl, Or.inr ⟨a0, (head_sortBy_le (·.start) nv a0 ha0).1, rfl⟩⟩
      · cases hsp
    · rcases List.mem_append.mp hsp with hsp | hsp
      · split at hsp
        · cases List.mem_singleton.mp hsp
          exact ⟨‹_›, Or.inr ⟨z, (getLast_sortBy_ge (·.stop) nv z hz).1, rfl⟩, Or.inl rfl⟩
        · cases hsp
      · obtain ⟨i, b, a, hb, ha, hlt, rfl⟩ := (mem_betweenSpans _ _ sp).mp hsp
        rw [List.getElem?_tail] at ha
        exact ⟨hlt, Or.inr ⟨b, ((isSort (·.stop)).perm nv).mem_iff.mp (List.mem_of_getElem? hb), rfl⟩,
          Or.inr ⟨a, ((isSort (·.start)).perm nv).mem_iff.mp (List.mem_of_getElem? ha), rfl⟩⟩
  · cases hsp

theorem voiceSpans_inside (S E : Rat) (nv : List GNote)
    (hin : ∀ n ∈ nv, S ≤ n.start ∧ n.start < E ∧ n.start ≤ n.stop) :
    ∀ sp ∈ voiceSpans S E nv, S ≤ sp.1 ∧ sp.1 < sp.2 ∧ sp.2 ≤ E := by
  intro sp hsp
  obtain ⟨hlt, h1, h2⟩ := voiceSpans_mem S E nv sp hsp
  refine ⟨?_, hlt, ?_⟩
  · rcases h1 with h | ⟨b, hb, h⟩
    · exact h.ge
    · rw [h]; exact le_trans (hin b hb).1 (hin b hb).2.2
  · rcases h2 with h | ⟨a, ha, h⟩
    · exact h.le
    · rw [h]; exact (hin a ha).2.1.le

end C11Rests
