/-
C16 — `transpose_note` (`transposeNoteNoOctave`) on variables: what a returned value says about the arguments, from the
definition alone; the tables STEPS / BASE_PC enter through `step_of_index`, `step_facts`, `idx_facts`.
-/
import PartituraModel.Model.Transpose
import PartituraModel.Proofs.Lists

namespace C16
open Model Gen

def steps7 : List String := ["C", "D", "E", "F", "G", "A", "B"]

theorem step_facts : ∀ s ∈ steps7, ∃ i ∈ List.range 7,
    lookup (upper s) STEPS_TO_INT = some i ∧ lookup i INT_TO_STEPS = some s := by decide +kernel

theorem idx_facts : ∀ j ∈ List.range 7, ∃ s ∈ steps7,
    lookup j INT_TO_STEPS = some s ∧ lookup (upper s) STEPS_TO_INT = some j := by decide +kernel

theorem step_of_index : ∀ e ∈ INT_TO_STEPS, e.1 < 7 ∧ upper e.2 = e.2 ∧ lookup e.2 STEPS_TO_INT = some e.1 ∧
    lookup (lower e.2) MIDI_BASE_CLASS = lookup e.2 BASE_PC := by decide +kernel

theorem basePcIdx_eq {j : Nat} {t : String} (h : lookup j INT_TO_STEPS = some t) : basePcIdx j = lookup t BASE_PC := by
  simp only [basePcIdx, h, Option.bind_some]
  exact (step_of_index _ (Model.lookup_mem h)).2.2.2

/-- a returned value was computed: both table entries exist, the guards held, and the new alteration is the size
    of the interval less the distance of the two natural steps -/
theorem note_inv {s q : String} {a : Int} {n : Nat} {s' : String} {a' : Int}
    (h : transposeNoteNoOctave s a q n = some (s', a')) :
    ∃ i sz b b', lookup (upper s) STEPS_TO_INT = some i ∧ lookup (q ++ showNat n) INTERVAL_TO_SEMITONES = some sz ∧
      lookup ((i + n - 1) % 7) INT_TO_STEPS = some s' ∧ lookup (upper s) BASE_PC = some b ∧
      lookup s' BASE_PC = some b' ∧ (-3 < a ∧ a < 3) ∧ n < 8 ∧ (-3 < a' ∧ a' < 3) ∧
      a' = sz - ((b' + a) % 12 - (b + a) % 12) % 12 + a := by
  unfold transposeNoteNoOctave step2pc at h
  simp only at h
  split at h
  · cases h
  split at h
  · cases h
  split at h
  · rename_i i sz hi hsz
    split at h
    · rename_i ns hns
      split at h
      · rename_i pcPrev pcNew hp hn
        obtain ⟨b, hb, rfl⟩ := Option.map_eq_some_iff.mp hp
        obtain ⟨b', hb', rfl⟩ := Option.map_eq_some_iff.mp hn
        split at h
        · cases h
          exact ⟨i, sz, b, b', hi, hsz, hns, hb, hb', by omega, by omega, by omega, rfl⟩
        · cases h
      · cases h
    · cases h
  · cases h

theorem note_of_upper {s s' : String} (h : upper s = upper s') (a : Int) (q : String) (n : Nat) :
    transposeNoteNoOctave s a q n = transposeNoteNoOctave s' a q n := by
  unfold transposeNoteNoOctave
  rw [h]

end C16
