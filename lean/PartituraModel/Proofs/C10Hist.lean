/-
Lemmas about the edit histories of Model/StepMapHist.lean: the stable sort against the per-kind tables, invariants
of a run, the part a fresh build leaves as one equation, the quarter-duration table under a replay.
-/
import PartituraModel.Model.StepMapHist
import PartituraModel.Proofs.C10Notes
import PartituraModel.Proofs.C10Measures
import PartituraModel.Proofs.C02Hist
import PartituraModel.Proofs.Scan

namespace C10
open Model Model.StepMap

theorem pairwise_filterMap_key {α β : Type} (key : α → Int) (key' : β → Int) (g : α → Option β)
    (hk : ∀ x y, g x = some y → key' y = key x) (l : List α) (h : l.Pairwise fun x y => key x ≤ key y) :
    (l.filterMap g).Pairwise fun x y => key' x ≤ key' y := by
  rw [List.pairwise_filterMap]
  refine h.imp ?_
  intro a b hab x hx y hy
  rw [hk a x hx, hk b y hy]
  exact hab

theorem liveSorted_sorted (s : HPart) : (liveSorted s).Pairwise fun a b => a.t ≤ b.t :=
  sortBy_sorted _ _

/-- coincident objects come in the order they were added -/
theorem liveSorted_lex (s : HPart) :
    (liveSorted s).Pairwise fun a b => a.t < b.t ∨ (a.t = b.t ∧ (a.seq : Int) ≤ (b.seq : Int)) :=
  sortBy_lex (fun o : HObj => o.t) (fun o : HObj => (o.seq : Int)) _ (sortBy_sorted _ _)

theorem mem_liveSorted (s : HPart) (o : HObj) : o ∈ liveSorted s ↔ o ∈ s.objs ∧ o.live = true := by
  unfold liveSorted
  rw [(isSort _).mem, (isSort _).mem, List.mem_filter]

/-- the row an object contributes to the table of its kind (the functions `tsOf` … `othersOf` filter with) -/
def tsKey (o : HObj) : Option TimeMap.TSig := match o.kind with | .ts b bt => some ⟨o.t, b, bt, o.mb⟩ | _ => none
def ksKey (o : HObj) : Option (Int × Int × Mode) := match o.kind with | .ks f m => some (o.t, f, m) | _ => none
def clefKey (o : HObj) : Option RawClef :=
  match o.kind with | .clef st sg ln oc => some (o.t, st, sg, ln, oc) | _ => none
def msKey (o : HObj) : Option (Int × Int × Option Int) :=
  match o.kind with | .measure e n => some (o.t, e, n) | _ => none
def otherKey (o : HObj) : Option (Int × Option Int × Option Int) :=
  match o.kind with | .other e st => some (o.t, e, st) | _ => none

theorem tsOf_eq (l : List HObj) : tsOf l = l.filterMap tsKey := rfl
theorem ksOf_eq (l : List HObj) : ksOf l = l.filterMap ksKey := rfl
theorem clefsOf_eq (l : List HObj) : clefsOf l = l.filterMap clefKey := rfl
theorem msOf_eq (l : List HObj) : msOf l = l.filterMap msKey := rfl
theorem othersOf_eq (l : List HObj) : othersOf l = l.filterMap otherKey := rfl

theorem tsKey_t (x : HObj) (y : TimeMap.TSig) (h : tsKey x = some y) : y.t = x.t := by
  unfold tsKey at h
  split at h <;> cases h
  rfl

theorem ksKey_t (x : HObj) (y : Int × Int × Mode) (h : ksKey x = some y) : y.1 = x.t := by
  unfold ksKey at h
  split at h <;> cases h
  rfl

theorem clefKey_t (x : HObj) (y : RawClef) (h : clefKey x = some y) : y.1 = x.t := by
  unfold clefKey at h
  split at h <;> cases h
  rfl

theorem msKey_t (x : HObj) (y : Int × Int × Option Int) (h : msKey x = some y) : y.1 = x.t := by
  unfold msKey at h
  split at h <;> cases h
  rfl

theorem otherKey_t (x : HObj) (y : Int × Option Int × Option Int) (h : otherKey x = some y) : y.1 = x.t := by
  unfold otherKey at h
  split at h <;> cases h
  rfl

theorem describe_qd (s : HPart) : (describe s).part.qd = s.qd := rfl

theorem described_sorted (s : HPart) :
    ((describe s).part.ts.Pairwise fun a b => a.t ≤ b.t) ∧ ((describe s).kss.Pairwise fun a b => a.1 ≤ b.1) ∧
    ((describe s).clefs.Pairwise fun a b => a.1 ≤ b.1) ∧ ((describe s).part.ms.Pairwise fun a b => a.1 ≤ b.1) ∧
    ((describe s).others.Pairwise fun a b => a.1 ≤ b.1) :=
  have hl := liveSorted_sorted s
  ⟨pairwise_filterMap_key (fun o : HObj => o.t) (fun y : TimeMap.TSig => y.t) tsKey tsKey_t _ hl,
   pairwise_filterMap_key (fun o : HObj => o.t) (fun y : Int × Int × Mode => y.1) ksKey ksKey_t _ hl,
   pairwise_filterMap_key (fun o : HObj => o.t) (fun y : RawClef => y.1) clefKey clefKey_t _ hl,
   pairwise_filterMap_key (fun o : HObj => o.t) (fun y : Int × Int × Option Int => y.1) msKey msKey_t _ hl,
   pairwise_filterMap_key (fun o : HObj => o.t) (fun y : Int × Option Int × Option Int => y.1) otherKey otherKey_t _ hl⟩

theorem filterMap_sorted_objs {β : Type} (key' : β → Int) (g : HObj → Option β)
    (hk : ∀ x y, g x = some y → key' y = x.t) (l : List HObj)
    (h : (l.filterMap g).Pairwise fun x y => key' x ≤ key' y) :
    (sortBy (fun o => o.t) l).filterMap g = l.filterMap g := by
  rw [filterMap_sortBy _ key' g hk, sortBy_of_sorted _ _ h]

theorem hpRun_append (q0 : Nat) (ops ops' : List HistOp) :
    hpRun q0 (ops ++ ops') = ops'.foldl hpStep (hpRun q0 ops) :=
  List.foldl_append

theorem hpRun_invariant (P : HPart → Prop) (q0 : Nat) (ops : List HistOp) (h0 : P (hpInit q0))
    (hstep : ∀ s, ∀ op ∈ ops, P s → P (hpStep s op)) : P (hpRun q0 ops) :=
  Lists.foldl_keeps_all hpStep (fun s op hs hop => hstep s op hop hs) ops (hpInit q0) h0 fun _ h => h

theorem hpStep_qd (s : HPart) (op : HistOp) (h : ∀ t q, op ≠ .setQD t q) : (hpStep s op).qd = s.qd := by
  cases op with
  | setQD t q => exact absurd rfl (h t q)
  | useMusical tbl => show (if s.musical then s else _).qd = s.qd; split <;> rfl
  | useNotated => show (if s.musical then _ else s).qd = s.qd; split <;> rfl
  | _ => rfl

theorem assignObj_seq (tbl : List ((Nat × Nat) × Nat)) (o : HObj) : (assignObj tbl o).seq = o.seq := by
  unfold assignObj
  split <;> rfl

/-- what one operation does to the insertion stamps: old objects keep theirs or get the clock, which then moves on -/
theorem hpStep_seq (s : HPart) (op : HistOp) :
    s.clock ≤ (hpStep s op).clock ∧
    ∀ o ∈ (hpStep s op).objs, (∃ o' ∈ s.objs, o.seq = o'.seq) ∨ (o.seq = s.clock ∧ (hpStep s op).clock = s.clock + 1) := by
  have hmap : ∀ tbl, ∀ o ∈ s.objs.map (assignObj tbl), ∃ o' ∈ s.objs, o.seq = o'.seq := fun tbl o ho => by
    obtain ⟨o', ho', rfl⟩ := List.mem_map.mp ho
    exact ⟨o', ho', assignObj_seq tbl o'⟩
  cases op with
  | new id t k mb =>
    refine ⟨Nat.le_succ _, fun o ho => ?_⟩
    rcases List.mem_append.mp ho with ho | ho
    · exact Or.inl ⟨o, ho, rfl⟩
    · rw [List.mem_singleton.mp ho]; exact Or.inr ⟨rfl, rfl⟩
  | readd id =>
    refine ⟨Nat.le_succ _, fun o ho => ?_⟩
    obtain ⟨o', ho', rfl⟩ := List.mem_map.mp ho
    by_cases hc : o'.id = id ∧ o'.live = false
    · exact Or.inr ⟨by rw [if_pos hc], rfl⟩
    · exact Or.inl ⟨o', ho', by rw [if_neg hc]⟩
  | remove id =>
    refine ⟨Nat.le_refl _, fun o ho => ?_⟩
    obtain ⟨o', ho', rfl⟩ := List.mem_map.mp ho
    refine Or.inl ⟨o', ho', ?_⟩
    by_cases hc : o'.id = id
    · rw [if_pos hc]
    · rw [if_neg hc]
  | setMB tbl => exact ⟨Nat.le_refl _, fun o ho => Or.inl (hmap tbl o ho)⟩
  | useMusical tbl =>
    simp only [hpStep]
    split
    · exact ⟨Nat.le_refl _, fun o ho => Or.inl ⟨o, ho, rfl⟩⟩
    · refine ⟨Nat.le_refl _, fun o ho => Or.inl ?_⟩
      split at ho
      · exact ⟨o, ho, rfl⟩
      · exact hmap tbl o ho
  | useNotated =>
    simp only [hpStep]
    split
    · exact ⟨Nat.le_refl _, fun o ho => Or.inl (hmap [] o ho)⟩
    · exact ⟨Nat.le_refl _, fun o ho => Or.inl ⟨o, ho, rfl⟩⟩
  | setQD t q => exact ⟨Nat.le_refl _, fun o ho => Or.inl ⟨o, ho, rfl⟩⟩
  | query => exact ⟨Nat.le_refl _, fun o ho => Or.inl ⟨o, ho, rfl⟩⟩

/-- `set_musical_beat_per_ts()` without a table leaves the default musical beats on every signature on the timeline -/
theorem tsKey_assignObj_nil (o : HObj) (sig : TimeMap.TSig) (hl : (assignObj [] o).live = true)
    (hk : tsKey (assignObj [] o) = some sig) : sig.mb = TimeMap.defaultMB sig.beats := by
  obtain ⟨id, t, k, mb, live, seq⟩ := o
  cases live
  · cases hl
  · cases k <;> cases hk
    rfl

/-- the objects a block of `new` operations creates, given the clock at its start -/
def mkObjs : Nat → List (Int × EKind × Option Nat) → List HObj
  | _, [] => []
  | c, (t, k, mb) :: rest => ⟨0, t, k, mb.getD (initMB k), true, c⟩ :: mkObjs (c + 1) rest

theorem foldl_new (specs : List (Int × EKind × Option Nat)) :
    ∀ s : HPart, (specs.map fun e => HistOp.new 0 e.1 e.2.1 e.2.2).foldl hpStep s
      = { s with objs := s.objs ++ mkObjs s.clock specs, clock := s.clock + specs.length } := by
  induction specs with
  | nil => intro s; simp [mkObjs]
  | cons e rest ih =>
    intro s
    obtain ⟨t, k, mb⟩ := e
    simp only [List.map_cons, List.foldl_cons]
    rw [ih]
    simp only [hpStep, mkObjs, List.append_assoc, List.singleton_append, List.length_cons]
    congr 1
    omega

theorem mkObjs_live : ∀ (c : Nat) (specs : List (Int × EKind × Option Nat)), ∀ o ∈ mkObjs c specs, o.live = true
  | _, [], o, h => by cases h
  | c, (t, k, mb) :: rest, o, h => by
    rcases List.mem_cons.mp h with rfl | h
    · rfl
    · exact mkObjs_live (c + 1) rest o h

theorem mkObjs_seq_ge : ∀ (c : Nat) (specs : List (Int × EKind × Option Nat)), ∀ o ∈ mkObjs c specs, c ≤ o.seq
  | _, [], o, h => by cases h
  | c, (t, k, mb) :: rest, o, h => by
    rcases List.mem_cons.mp h with rfl | h
    · exact Nat.le_refl _
    · have := mkObjs_seq_ge (c + 1) rest o h
      omega

theorem mkObjs_seq_sorted : ∀ (c : Nat) (specs : List (Int × EKind × Option Nat)),
    (mkObjs c specs).Pairwise fun a b => (a.seq : Int) ≤ (b.seq : Int)
  | _, [] => List.Pairwise.nil
  | c, (t, k, mb) :: rest => by
    refine List.pairwise_cons.mpr ⟨?_, mkObjs_seq_sorted (c + 1) rest⟩
    intro o ho
    have := mkObjs_seq_ge (c + 1) rest o ho
    show ((c : Nat) : Int) ≤ _
    omega

theorem mkObjs_filterMap {β : Type} (g : HObj → Option β) (hg : ∀ (o : HObj) c, g { o with seq := c } = g o) :
    ∀ (c : Nat) (specs : List (Int × EKind × Option Nat)),
      (mkObjs c specs).filterMap g = specs.filterMap fun e => g ⟨0, e.1, e.2.1, e.2.2.getD (initMB e.2.1), true, 0⟩
  | _, [] => rfl
  | c, (t, k, mb) :: rest => by
    rw [mkObjs, List.filterMap_cons, List.filterMap_cons, mkObjs_filterMap g hg (c + 1) rest,
      hg ⟨0, t, k, mb.getD (initMB k), true, 0⟩ c]

theorem liveSorted_mkObjs (specs : List (Int × EKind × Option Nat)) (mus : Bool) (qd : List (Int × Nat)) (c : Nat) :
    liveSorted ⟨mkObjs 0 specs, mus, qd, c⟩ = sortBy (fun o => o.t) (mkObjs 0 specs) := by
  unfold liveSorted
  rw [List.filter_eq_self.mpr (mkObjs_live 0 specs), sortBy_of_sorted _ _ (mkObjs_seq_sorted 0 specs)]

/-- no redundant entry: the times increase strictly and every change changes the value (what a table looks like when
    no `set_quarter_duration` call has re-set an existing entry to the duration already in force before it) -/
def QDNormal : List (Int × Nat) → Prop
  | [] => True
  | [_] => True
  | a :: b :: rest => a.1 < b.1 ∧ a.2 ≠ b.2 ∧ QDNormal (b :: rest)

instance : (l : List (Int × Nat)) → Decidable (QDNormal l)
  | [] => isTrue trivial
  | [_] => isTrue trivial
  | a :: b :: rest =>
    have : Decidable (QDNormal (b :: rest)) := instDecidableQDNormal (b :: rest)
    by unfold QDNormal; exact inferInstance

/-- a change after all entries is appended when the duration in force before it - the last entry's, or `prev` for an empty
    table - is another one (`set_quarter_duration` drops a change to the duration already in force) -/
theorem setQDAux_append (t : Int) (q : Nat) (T : List (Int × Nat)) (prev : Option Nat)
    (hT : ∀ e ∈ T, e.1 < t) (hq : match T.getLast? with | some e => e.2 ≠ q | none => prev ≠ some q) :
    TimeMap.setQDAux t q prev T = T ++ [(t, q)] := by
  have hall : ∀ e ∈ T, decide (e.1 < t) = true := fun e he => decide_eq_true (hT e he)
  -- the walk keeps every entry before `t`, finds nothing behind them and compares `q` with the last duration before `t`
  have hlast : C02.lastBefore t prev T ≠ some q := by
    have hscan : Lists.IsPrevScan (fun e : Int × Nat => e.1 < t) (fun e => some e.2) (C02.lastBefore t) :=
      ⟨fun _ => rfl, fun _ _ _ => rfl⟩
    rw [hscan.eq, Lists.takeWhile_of_all hall]
    cases hl : T.getLast? with
    | none => rw [hl] at hq; exact hq
    | some e => rw [hl] at hq; exact fun h => hq (Option.some.inj h)
  rw [C02Proofs.setQDAux_eq, Lists.takeWhile_of_all hall, Lists.dropWhile_of_all hall, if_neg hlast]

/-- the quarter-duration table after a block of `set_quarter_duration` calls -/
def replayQD (init l : List (Int × Nat)) : List (Int × Nat) := l.foldl (fun qd e => TimeMap.setQD qd e.1 e.2) init

theorem replayQD_normal : ∀ (l T : List (Int × Nat)) (a : Int × Nat), QDNormal (a :: l) → (∀ e ∈ T, e.1 < a.1) →
    replayQD (T ++ [a]) l = T ++ a :: l
  | [], T, a, _, _ => rfl
  | b :: l', T, a, hn, hT => by
    obtain ⟨hab, hv, hn'⟩ := hn
    unfold replayQD
    rw [List.foldl_cons]
    have hstep : TimeMap.setQD (T ++ [a]) b.1 b.2 = (T ++ [a]) ++ [b] := by
      unfold TimeMap.setQD
      rw [setQDAux_append]
      · intro e he
        rcases List.mem_append.mp he with he | he
        · have := hT e he; omega
        · rw [List.mem_singleton.mp he]; exact hab
      · rw [List.getLast?_append_of_ne_nil _ (List.cons_ne_nil _ _)]
        exact hv
    rw [hstep]
    have := replayQD_normal l' (T ++ [a]) b hn' (by
      intro e he
      rcases List.mem_append.mp he with he | he
      · have := hT e he; omega
      · rw [List.mem_singleton.mp he]; exact hab)
    unfold replayQD at this
    rw [this]
    simp

theorem foldl_setQD (l : List (Int × Nat)) :
    ∀ s : HPart, (l.map fun e => HistOp.setQD e.1 e.2).foldl hpStep s = { s with qd := replayQD s.qd l } := by
  induction l with
  | nil => intro s; rfl
  | cons e rest ih => intro s; exact ih _

theorem replayQD_head (q0 : Nat) (l T' : List (Int × Nat)) (hl : ∀ e ∈ l, 0 < e.1) :
    ∃ T'', replayQD ((0, q0) :: T') l = (0, q0) :: T'' ∧ ∀ e ∈ T'', e ∈ T' ∨ e ∈ l := by
  refine Lists.foldl_keeps_all (fun qd e => TimeMap.setQD qd e.1 e.2)
    (P := fun qd => ∃ T'', qd = (0, q0) :: T'' ∧ ∀ e ∈ T'', e ∈ T' ∨ e ∈ l) (C := (· ∈ l)) ?_ l _
    ⟨T', rfl, fun _ h => Or.inl h⟩ fun _ h => h
  -- a change after 0 leaves the head alone and brings at most its own entry
  rintro qd b ⟨T, rfl, hT⟩ hb
  refine ⟨TimeMap.setQDAux b.1 b.2 (some q0) T, ?_, fun e he => ?_⟩
  · unfold TimeMap.setQD
    rw [TimeMap.setQDAux, if_pos (hl b hb)]
  · rcases C02Proofs.setQDAux_mem _ _ _ _ e he with h | h
    · exact Or.inr (h ▸ hb)
    · exact hT e h

/-- the elements of a fresh build: kind by kind in table order, the time signatures with their stored musical beats -/
def rebuildSpecs (d : Described) : List (Int × EKind × Option Nat) :=
  d.part.ts.map (fun s => (s.t, EKind.ts s.beats s.beatType, some s.mb))
  ++ d.kss.map (fun e => (e.1, EKind.ks e.2.1 e.2.2, none))
  ++ d.clefs.map (fun c => (c.1, EKind.clef c.2.1 c.2.2.1 c.2.2.2.1 c.2.2.2.2, none))
  ++ d.part.ms.map (fun m => (m.1, EKind.measure m.2.1 m.2.2, none))
  ++ d.others.map (fun o => (o.1, EKind.other o.2.1 o.2.2, none))

theorem rebuildOps_eq (d : Described) :
    rebuildOps d = (d.part.qd.drop 1).map (fun e => HistOp.setQD e.1 e.2)
      ++ ((rebuildSpecs d).map fun e => HistOp.new 0 e.1 e.2.1 e.2.2)
      ++ (if d.part.musical then [HistOp.useMusical []] else []) := by
  unfold rebuildOps rebuildSpecs
  simp only [List.map_append, List.map_map, List.append_assoc]
  rfl

theorem hpRun_rebuildOps (q0 : Nat) (d : Described) :
    hpRun q0 (rebuildOps d)
      = ⟨mkObjs 0 (rebuildSpecs d), d.part.musical, replayQD [(0, q0)] (d.part.qd.drop 1), (rebuildSpecs d).length⟩ := by
  rw [rebuildOps_eq, hpRun_append, hpRun_append, hpRun, foldl_setQD, foldl_new]
  cases d.part.musical
  · simp [hpInit]
  · simp [hpInit, hpStep]

theorem filterMap_mkObjs_rebuildSpecs {β : Type} (g : HObj → Option β) (hg : ∀ (o : HObj) c, g { o with seq := c } = g o)
    (d : Described) :
    (mkObjs 0 (rebuildSpecs d)).filterMap g
      = d.part.ts.filterMap (fun s => g ⟨0, s.t, .ts s.beats s.beatType, s.mb, true, 0⟩)
        ++ d.kss.filterMap (fun e => g ⟨0, e.1, .ks e.2.1 e.2.2, 0, true, 0⟩)
        ++ d.clefs.filterMap (fun c => g ⟨0, c.1, .clef c.2.1 c.2.2.1 c.2.2.2.1 c.2.2.2.2, 0, true, 0⟩)
        ++ d.part.ms.filterMap (fun m => g ⟨0, m.1, .measure m.2.1 m.2.2, 0, true, 0⟩)
        ++ d.others.filterMap (fun o => g ⟨0, o.1, .other o.2.1 o.2.2, 0, true, 0⟩) := by
  rw [mkObjs_filterMap g hg]
  unfold rebuildSpecs
  simp only [List.filterMap_append, List.filterMap_map]
  rfl

/-- the rows of one kind among the elements of a fresh build: the table of that kind (each key reads the block of its
    kind back row by row and nothing of the other four) -/
theorem filterMap_rebuildSpecs (d : Described) :
    (mkObjs 0 (rebuildSpecs d)).filterMap tsKey = d.part.ts ∧ (mkObjs 0 (rebuildSpecs d)).filterMap ksKey = d.kss ∧
    (mkObjs 0 (rebuildSpecs d)).filterMap clefKey = d.clefs ∧ (mkObjs 0 (rebuildSpecs d)).filterMap msKey = d.part.ms ∧
    (mkObjs 0 (rebuildSpecs d)).filterMap otherKey = d.others := by
  refine ⟨?_, ?_, ?_, ?_, ?_⟩
  · rw [filterMap_mkObjs_rebuildSpecs tsKey (fun _ _ => rfl)]
    simp only [tsKey, List.filterMap_none, List.append_nil]
    exact List.filterMap_some
  · rw [filterMap_mkObjs_rebuildSpecs ksKey (fun _ _ => rfl)]
    simp only [ksKey, List.filterMap_none, List.append_nil, List.nil_append]
    exact List.filterMap_some
  · rw [filterMap_mkObjs_rebuildSpecs clefKey (fun _ _ => rfl)]
    simp only [clefKey, List.filterMap_none, List.append_nil, List.nil_append]
    exact List.filterMap_some
  · rw [filterMap_mkObjs_rebuildSpecs msKey (fun _ _ => rfl)]
    simp only [msKey, List.filterMap_none, List.append_nil, List.nil_append]
    exact List.filterMap_some
  · rw [filterMap_mkObjs_rebuildSpecs otherKey (fun _ _ => rfl)]
    simp only [otherKey, List.filterMap_none, List.append_nil, List.nil_append]
    exact List.filterMap_some

/-- a description made by `mkDescribed` is `mkDescribed` of its own tables, whatever quarter-duration table is put in:
    the time points depend on the elements alone -/
theorem mkDescribed_proj (qd qd' : List (Int × Nat)) (mus : Bool) (ts : List TimeMap.TSig)
    (kss : List (Int × Int × Mode)) (clefs : List RawClef) (ms : List (Int × Int × Option Int))
    (others : List (Int × Option Int × Option Int)) (d : Described) (hd : d = mkDescribed qd mus ts kss clefs ms others) :
    mkDescribed qd' d.part.musical d.part.ts d.kss d.clefs d.part.ms d.others
      = { d with part := { d.part with qd := qd' } } := by
  subst hd
  rfl

end C10
