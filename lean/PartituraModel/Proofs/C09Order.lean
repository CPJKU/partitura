/-
C09: `add_segments` compares the times of a part only with each other and with 0, so it commutes with every strictly
increasing map `f` of the times that fixes 0 (`mkSegments_mapT`; each function of the boundary pass is followed through
`f` in turn).  The enumeration does not look at the times, hence the paths depend only on the order of the boundary
times and on which of them is 0 (`paths_mapT`).  `stepMap l` sends 1, 2, … to the elements of an increasing list `l` of
positive times: a layout of fixed size over symbolic times has the paths of the same layout over 1, 2, …, which compute.
-/
import PartituraModel.Proofs.C09Table
import PartituraModel.Proofs.C09Walk

namespace C09
open Model.Unfold

def infoT (f : Int → Int) (b : BInfo) : BInfo :=
  { b with repeatEnd := b.repeatEnd.map f, voltaStart := b.voltaStart.map fun p => (p.1, f p.2) }

def entryT (f : Int → Int) (p : Int × BInfo) : Int × BInfo := (f p.1, infoT f p.2)

def stateT (f : Int → Int) (st : BState) : BState := { st with cvrs := f st.cvrs, cve := f st.cve }

def layoutT (f : Int → Int) (L : Layout) : Layout :=
  { first := f L.first, last := f L.last,
    repeats := L.repeats.map fun r => (f r.1, f r.2),
    endings := L.endings.map fun v => (f v.1, f v.2.1, v.2.2),
    codas := L.codas.map f, tocodas := L.tocodas.map f, dacapos := L.dacapos.map f, fines := L.fines.map f,
    segnos := L.segnos.map f, dalsegnos := L.dalsegnos.map f }

def segT (f : Int → Int) (s : Seg) : Seg := { s with start := f s.start, stp := f s.stp }

section inv
variable (f : Int → Int) (hf : ∀ a b, a < b → f a < f b)
include hf

theorem lt_mapT (a b : Int) : f a < f b ↔ a < b := by
  refine ⟨fun hab => ?_, hf a b⟩
  rcases Int.lt_trichotomy a b with h | h | h
  · exact h
  · rw [h] at hab; omega
  · have := hf b a h; omega

theorem eq_mapT (a b : Int) : f a = f b ↔ a = b := by
  have h1 := lt_mapT f hf a b
  have h2 := lt_mapT f hf b a
  constructor
  · intro h; omega
  · intro h; rw [h]

theorem tblUpd_mapT (t : Int) (g g' : BInfo → BInfo) (hg : ∀ b, g' (infoT f b) = infoT f (g b)) {X Y : BTable}
    (h : X = Y.map (entryT f)) : tblUpd (f t) g' X = (tblUpd t g Y).map (entryT f) := by
  subst h
  induction Y with
  | nil => simp [tblUpd, entryT, ← hg]; rfl
  | cons p rest ih =>
    obtain ⟨u, b⟩ := p
    simp only [List.map_cons, entryT, tblUpd, lt_mapT f hf, eq_mapT f hf]
    split
    · simp [entryT, ← hg]; rfl
    · split
      · simp [entryT, hg]
      · simp only [List.map_cons, entryT] at ih ⊢
        rw [← ih]

theorem tblGet_mapT (t : Int) (tb : BTable) :
    tblGet (f t) (tb.map (entryT f)) = (tblGet t tb).map (infoT f) := by
  induction tb with
  | nil => rfl
  | cons p rest ih =>
    obtain ⟨u, b⟩ := p
    simp only [List.map_cons, entryT, tblGet, eq_mapT f hf]
    split
    · rfl
    · exact ih

omit hf in
theorem foldl_mapT {β : Type} (l : List β) (s s' : BTable → β → BTable)
    (hs : ∀ Y a, s' (Y.map (entryT f)) a = (s Y a).map (entryT f)) {X Y : BTable} (h : X = Y.map (entryT f)) :
    l.foldl s' X = (l.foldl s Y).map (entryT f) := by
  rw [h, List.foldl_hom (List.map (entryT f)) (g₁ := s) (g₂ := s') (H := hs)]

theorem mkTable_mapT (L : Layout) : mkTable (layoutT f L) = (mkTable L).map (entryT f) := by
  unfold mkTable layoutT
  simp only [List.foldl_map]
  refine tblUpd_mapT f hf _ _ _ (by intro; rfl) ?_
  refine tblUpd_mapT f hf _ _ _ (by intro; rfl) ?_
  -- the six lists of navigation marks
  iterate 6 refine foldl_mapT f _ _ _ (by intro Y a; exact tblUpd_mapT f hf _ _ _ (by intro; rfl) rfl) ?_
  refine foldl_mapT f _ _ _
    (by intro Y v; exact tblUpd_mapT f hf _ _ _ (by intro; rfl) (tblUpd_mapT f hf _ _ _ (by intro; rfl) rfl)) ?_
  exact foldl_mapT f _ _ _
    (by intro Y r; exact tblUpd_mapT f hf _ _ _ (by intro; rfl) (tblUpd_mapT f hf _ _ _ (by intro; rfl) rfl)) rfl

theorem idxOf_mapT (t : Int) (ts : List Int) : idxOf (f t) (ts.map f) = idxOf t ts := by
  induction ts with
  | nil => rfl
  | cons u rest ih => simp only [List.map_cons, idxOf, eq_mapT f hf, ih]

theorem idOf_mapT (t : Int) (ts : List Int) : idOf (ts.map f) (f t) = idOf ts t := by
  simp only [idOf, idxOf_mapT f hf, List.length_map]

theorem voltaScan_mapT (tb : BTable) (ts : List Int) (i : Nat) : ∀ (k : Nat) (st : BState),
    voltaScan (tb.map (entryT f)) (ts.map f) i k (stateT f st) = (voltaScan tb ts i k st).map (stateT f) := by
  intro k
  induction k with
  | zero => intro st; rfl
  | succ k ih =>
    intro st
    simp only [voltaScan]
    rw [show (stateT f st).cve = f st.cve from rfl, tblGet_mapT f hf, idOf_mapT f hf]
    cases tblGet st.cve tb with
    | none => rfl
    | some b =>
      cases hv : b.voltaStart with
      | none => simp [infoT, hv]
      | some p =>
        simp only [Option.map_some, Option.bind_some, infoT, hv]
        cases idOf ts st.cve with
        | none => rfl
        | some d =>
          cases d with
          | fin => rfl
          | seg ci => exact ih ⟨_, _, _, _⟩  -- on a state given by its four fields `stateT f` computes

theorem newCvrs_mapT (re : Option Int) (x : Int) : newCvrs (re.map f) (f x) = f (newCvrs re x) := by
  cases re with
  | none => rfl
  | some rs =>
    simp only [newCvrs, Option.map_some, gt_iff_lt, lt_mapT f hf]
    split <;> rfl

theorem voltaEndLoop_mapT (ts : List Int) (i : Nat) (re : Option Int) : ∀ (nums : List Nat) (st : BState),
    voltaEndLoop (ts.map f) i (re.map f) nums (stateT f st) = (voltaEndLoop ts i re nums st).map (stateT f) := by
  intro nums
  induction nums with
  | nil => intro st; rfl
  | cons vn rest ih =>
    intro st
    rw [voltaEndLoop_cons, voltaEndLoop_cons, show (stateT f st).cvt = st.cvt from rfl,
      show (stateT f st).cvrs = f st.cvrs from rfl, newCvrs_mapT f hf, idOf_mapT f hf]
    split
    · cases idOf ts (newCvrs re st.cvrs) with
      | none => rfl
      | some d => exact ih ⟨_, _, _, _⟩
    · exact ih _

section steps
variable (L : Layout) (tb : BTable) (ts : List Int) (i : Nat) (b : BInfo) (d : Dest) (st : BState)

omit hf in
theorem stRepeatStart_mapT : stRepeatStart i (infoT f b) d (stateT f st) = stateT f (stRepeatStart i b d st) := by
  unfold stRepeatStart
  show (if b.repeatStart = true then _ else _) = _
  split <;> rfl

theorem stRepeatEnd_mapT :
    stRepeatEnd (ts.map f) i (infoT f b) d (stateT f st) = (stRepeatEnd ts i b d st).map (stateT f) := by
  unfold stRepeatEnd
  simp only [infoT]
  cases b.repeatEnd with
  | none => rfl
  | some rs =>
    simp only [Option.map_some, idOf_mapT f hf]
    split
    · rfl
    · cases idOf ts rs <;> rfl

theorem stVoltaStart_mapT (se : Int) :
    stVoltaStart (tb.map (entryT f)) (ts.map f) i (infoT f b) (f se) (stateT f st) =
      (stVoltaStart tb ts i b se st).map (stateT f) := by
  unfold stVoltaStart
  simp only [infoT, Option.isSome_map]
  split
  · exact voltaScan_mapT f hf tb ts i 10 ⟨_, _, _, _⟩
  · rfl

theorem stVoltaEnd_mapT :
    stVoltaEnd (ts.map f) i (infoT f b) (stateT f st) = (stVoltaEnd ts i b st).map (stateT f) := by
  unfold stVoltaEnd
  simp only [show (infoT f b).voltaEnd = b.voltaEnd from rfl, show (stateT f st).info = st.info from rfl,
    show (infoT f b).repeatEnd = b.repeatEnd.map f from rfl, voltaEndLoop_mapT f hf]
  split
  · cases voltaEndLoop ts i b.repeatEnd _ st with
    | none => rfl
    | some st1 =>
      simp only [Option.map_some, show (stateT f st1).cvt = st1.cvt from rfl,
        show (stateT f st1).cve = f st1.cve from rfl, idOf_mapT f hf]
      split <;> cases idOf ts st1.cve <;> split <;> rfl
  · rfl

omit hf in
theorem stLeapEnd_mapT (flag : Bool) :
    stLeapEnd flag i d (stateT f st) = (stLeapEnd flag i d st).map (stateT f) := by
  unfold stLeapEnd
  split
  · split <;> rfl
  · rfl

theorem stToCoda_mapT :
    stToCoda (layoutT f L) (ts.map f) i (infoT f b) d (stateT f st) = (stToCoda L ts i b d st).map (stateT f) := by
  unfold stToCoda
  simp only [show (infoT f b).tocoda = b.tocoda from rfl, show (layoutT f L).codas = L.codas.map f from rfl,
    List.head?_map]
  split
  · cases L.codas.head? with
    | none => rfl
    | some ct =>
      simp only [Option.map_some, idOf_mapT f hf]
      cases idOf ts ct <;> rfl
  · rfl

theorem stJumpBack_mapT (flag : Bool) (target : Option Int) :
    stJumpBack flag (target.map f) (ts.map f) i d (stateT f st) =
      (stJumpBack flag target ts i d st).map (stateT f) := by
  unfold stJumpBack
  split
  · cases target with
    | none => rfl
    | some t =>
      simp only [Option.map_some, idOf_mapT f hf]
      cases idOf ts t <;> rfl
  · rfl

theorem stFine_mapT :
    stFine (layoutT f L) (ts.map f) i (infoT f b) d (stateT f st) = (stFine L ts i b d st).map (stateT f) := by
  unfold stFine
  simp only [show (infoT f b).fine = b.fine from rfl, show (layoutT f L).last = f L.last from rfl, idOf_mapT f hf]
  split
  · cases idOf ts L.last <;> rfl
  · rfl

omit hf in
theorem stEnd_mapT : stEnd i (infoT f b) d (stateT f st) = stateT f (stEnd i b d st) := by
  unfold stEnd
  show (if b.isEnd = true then _ else _) = _
  split <;> rfl

theorem stFirst_mapT (hf0 : f 0 = 0) (ss : Int) : stFirst i (f ss) (stateT f st) = stateT f (stFirst i ss st) := by
  unfold stFirst
  have : f ss = 0 ↔ ss = 0 := by rw [← hf0, eq_mapT f hf, hf0]
  simp only [this]
  split <;> rfl

omit hf in
theorem bind_mapT {α : Type} (φ : α → α) (o o' : Option α) (k k' : α → Option α) (ho : o' = o.map φ)
    (hk : ∀ s, k' (φ s) = (k s).map φ) : o'.bind k' = (o.bind k).map φ := by
  subst ho
  cases o with
  | none => rfl
  | some s => exact hk s

theorem procSeg_mapT (hf0 : f 0 = 0) (ss se : Int) :
    procSeg (layoutT f L) (tb.map (entryT f)) (ts.map f) i (f ss) (f se) (stateT f st) =
      (procSeg L tb ts i ss se st).map (stateT f) := by
  unfold procSeg
  rw [tblGet_mapT f hf, idOf_mapT f hf]
  cases tblGet se tb with
  | none => rfl
  | some b =>
    cases idOf ts se with
    | none => rfl
    | some d =>
      simp only [Option.map_some]
      refine bind_mapT _ _ _ _ _ (by rw [stRepeatStart_mapT, stRepeatEnd_mapT f hf]) fun s => ?_
      refine bind_mapT _ _ _ _ _ (stVoltaStart_mapT f hf tb ts i b s se) fun s => ?_
      refine bind_mapT _ _ _ _ _ (stVoltaEnd_mapT f hf ts i b s) fun s => ?_
      refine bind_mapT _ _ _ _ _ (stLeapEnd_mapT f i d s _) fun s => ?_
      refine bind_mapT _ _ _ _ _ (stToCoda_mapT f hf L ts i b d s) fun s => ?_
      refine bind_mapT _ _ _ _ _ (stJumpBack_mapT f hf ts i d s _ (some L.first)) fun s => ?_
      refine bind_mapT _ _ _ _ _ (stFine_mapT f hf L ts i b d s) fun s => ?_
      refine bind_mapT _ _ _ _ _ (stLeapEnd_mapT f i d s _) fun s => ?_
      refine bind_mapT _ _ _ _ _
        (by rw [show (layoutT f L).segnos = L.segnos.map f from rfl, List.head?_map]
            exact stJumpBack_mapT f hf ts i d s _ L.segnos.head?) fun s => ?_
      rw [stEnd_mapT, stFirst_mapT f hf _ _ hf0]
      rfl

theorem procAll_mapT (hf0 : f 0 = 0) : ∀ (l : List Int) (i : Nat) (st : BState),
    procAll (layoutT f L) (tb.map (entryT f)) (ts.map f) i (l.map f) (stateT f st) =
      (procAll L tb ts i l st).map (stateT f) := by
  intro l
  induction l with
  | nil => intro i st; rfl
  | cons ss rest ih =>
    intro i st
    cases rest with
    | nil => rfl
    | cons se rest =>
      simp only [List.map_cons, procAll, procSeg_mapT f hf L tb ts i st hf0]
      cases procSeg L tb ts i ss se st with
      | none => rfl
      | some st' => exact ih (i + 1) st'

end steps

omit hf in
theorem buildSegs_mapT (ts ts' : List Int) (info info' : List SegInfo) : ∀ (l : List Int) (i : Nat) (infs : List SegInfo),
    buildSegs ts' info' i (l.map f) infs = (buildSegs ts info i l infs).map (List.map (segT f)) := by
  intro l
  induction l with
  | nil => intro i infs; rfl
  | cons s rest ih =>
    intro i infs
    cases rest with
    | nil => rfl
    | cons e rest =>
      cases infs with
      | nil => rfl
      | cons inf infs =>
        simp only [List.map_cons, buildSegs, Option.bind_eq_bind]
        cases cleanTo i inf.to with
        | none => rfl
        | some r =>
          have := ih (i + 1) infs
          simp only [List.map_cons] at this
          simp only [Option.bind_some, this]
          cases buildSegs ts info (i + 1) (e :: rest) infs <;> rfl

theorem mkSegments_mapT (hf0 : f 0 = 0) (L : Layout) :
    mkSegments (layoutT f L) = (mkSegments L).map (List.map (segT f)) := by
  unfold mkSegments
  have hsup : (layoutT f L).supported = L.supported := by simp [Layout.supported, layoutT, List.all_map]; rfl
  have hkeys : ((mkTable L).map (entryT f)).map (·.1) = ((mkTable L).map (·.1)).map f := by
    simp [List.map_map, entryT, Function.comp_def]
  rw [hsup]
  split
  · rfl
  · simp only [mkTable_mapT f hf, hkeys, List.length_map]
    generalize (mkTable L).length - 1 = n
    have h := procAll_mapT f hf L (mkTable L) ((mkTable L).map (·.1)) hf0 ((mkTable L).map (·.1)) 0
      { info := List.replicate n {} }
    rw [show stateT f { info := List.replicate n {} } = { info := List.replicate n {} } by simp [stateT, hf0]] at h
    rw [h]
    cases procAll L (mkTable L) ((mkTable L).map (·.1)) 0 ((mkTable L).map (·.1)) { info := List.replicate n {} } with
    | none => rfl
    | some st => exact buildSegs_mapT f _ _ _ _ _ 0 _

end inv

/-- the increasing map that is the identity up to 0 and sends `1, 2, …` to the times `l`; beyond `l` it goes on by steps of one behind the last
time, so that it increases everywhere -/
def stepMap (l : List Int) (x : Int) : Int :=
  if x ≤ 0 then x else (l[x.toNat - 1]?).getD (l.getLastD 0 + x)

theorem stepMap_mono (l : List Int) (hs : StrictSorted (0 :: l)) (x y : Int) (hxy : x < y) :
    stepMap l x < stepMap l y := by
  have hpos : ∀ (i : Nat) (t : Int), l[i]? = some t → 0 < t := fun i t h => sorted_head_lt 0 l hs t (List.mem_of_getElem? h)
  have hlast : ∀ (i : Nat) (t : Int), l[i]? = some t → t ≤ l.getLastD 0 :=
    fun i t h => le_getLastD 0 l hs t (List.mem_cons_of_mem _ (List.mem_of_getElem? h))
  have h0 : 0 ≤ l.getLastD 0 := le_getLastD 0 l hs 0 List.mem_cons_self
  unfold stepMap
  by_cases hx : x ≤ 0
  · rw [if_pos hx]
    by_cases hy : y ≤ 0
    · rw [if_pos hy]; exact hxy
    · rw [if_neg hy]
      cases h : l[y.toNat - 1]? with
      | none => simp only [Option.getD_none]; omega
      | some u => have := hpos _ u h; simp only [Option.getD_some]; omega
  · rw [if_neg hx, if_neg (by omega)]
    have hij : x.toNat - 1 < y.toNat - 1 := by omega
    cases h : l[y.toNat - 1]? with
    | none =>
      simp only [Option.getD_none]
      cases h' : l[x.toNat - 1]? with
      | none => simp only [Option.getD_none]; omega
      | some t => have := hlast _ t h'; simp only [Option.getD_some]; omega
    | some u =>
      have hj := (List.getElem?_eq_some_iff.mp h).1
      have h' : l[x.toNat - 1]? = some l[x.toNat - 1] := List.getElem?_eq_getElem (by omega)
      rw [h']
      exact sorted_get_lt l (sorted_tail 0 l hs) _ _ _ _ hij h' h

theorem eraseTimes_segT (f : Int → Int) (g : List Seg) : eraseTimes (g.map (segT f)) = eraseTimes g := by
  simp only [eraseTimes, List.map_map]
  rfl

theorem paths_mapT (f : Int → Int) (hf : ∀ a b, a < b → f a < f b) (hf0 : f 0 = 0) (L : Layout) (nr ar il : Bool)
    (fuel : Nat) :
    ((mkSegments (layoutT f L)).bind fun g => getPaths g nr ar il fuel) =
      (mkSegments L).bind fun g => getPaths g nr ar il fuel := by
  rw [mkSegments_mapT f hf hf0]
  cases mkSegments L with
  | none => rfl
  | some g =>
    show getPaths (g.map (segT f)) nr ar il fuel = getPaths g nr ar il fuel
    rw [← getPaths_erase, eraseTimes_segT, getPaths_erase]

end C09
