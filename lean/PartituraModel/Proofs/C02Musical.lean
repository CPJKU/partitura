/-
C02 — the order of `iter_all(TimeSignature)` (`sortTS`); `facAssign` outside the quarter mode.
-/
import PartituraModel.Proofs.C02Part

namespace C02Proofs
open Model.TimeMap

/-- `sortTS` inserts from the left (`foldl`): it is this `foldr` sort of the reversed list -/
theorem sortTS_insertionSort :
    Lists.IsInsertionSort (fun s a : TSig => decide (s.t < a.t)) insertTS (fun l => l.foldr insertTS []) :=
  ⟨fun _ => rfl, fun _ _ _ => by simp only [insertTS, decide_eq_true_eq], rfl, fun _ _ => rfl⟩

/-- `iter_all(TimeSignature)` yields exactly the signatures that were added -/
theorem mem_sortTS (x : TSig) (l : List TSig) : x ∈ sortTS l ↔ x ∈ l := by
  unfold sortTS
  rw [List.foldl_eq_foldr_reverse]
  exact sortTS_insertionSort.mem.trans List.mem_reverse

theorem facAssign_eq (m : Mode) (hm : m ≠ .quarter) (ts : List TSig) :
    facAssign m ts = ts.map fun s => (s.t, factorOf m s) := by
  cases m with
  | quarter => exact absurd rfl hm
  | notated => rfl
  | musical => rfl

end C02Proofs
