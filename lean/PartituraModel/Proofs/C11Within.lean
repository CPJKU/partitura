/-
C11 — "afterwards every pitched note lies within one measure", for the whole LIST after stage 1 of
`tie_notes`: no measure start lies strictly inside any note of the list (with the measure starts in time order).
The loop visits every key of the list once; a visited note is cut at every measure start inside it, the pieces are not
touched again, the notes not yet visited are dealt with later.
Also what stage 1 leaves of the stored symbolic durations (`SymSpec`, `tieStage1_sym`).
-/
import PartituraModel.Proofs.C11Walk

namespace C11Within
open Model Model.Dur Model.Meas C11Tie C11Walk

def Within (ms : List Nat) (n : Note) : Prop := ∀ m ∈ ms, ¬ (n.start < m ∧ m < n.stop)

theorem within_upTo {ms : List Nat} {m n' : Note} (hu : UpTo m n') (h : Within ms m) : Within ms n' := by
  intro x hx
  rw [hu.start, hu.stop]; exact h x hx

/-- one turn of the loop: the visited key is dealt with, nothing already dealt with is undone -/
theorem tieOne_within (qd : List (Int × Nat)) (ms : List Nat) (hs : ms.Pairwise (· ≤ ·)) (ns : List Note) (k : Nat)
    (todo : List Nat) (h : ∀ x n, lk ns x = some n → x ∉ k :: todo → Within ms n) :
    ∀ x n, lk (tieOne qd ms ns k) x = some n → x ∉ todo → Within ms n := by
  have hrest : ∀ x n, lk ns x = some n → x ∉ todo → x ≠ k → Within ms n := fun x n hx ht hk =>
    h x n hx (by simp only [List.mem_cons, not_or]; exact ⟨hk, ht⟩)
  rcases tieOne_turn qd ms ns k with ⟨h0, hcut⟩ | ⟨note, first, more, r, hn, hi, hp⟩
  · rw [h0]
    intro x n hx ht
    by_cases hk : x = k
    · subst hk
      intro m hm
      exact cutPoints_no_inner ms n.start n.stop hs (n.start, n.stop)
        (by rw [hcut n hx]; exact List.mem_singleton_self _) m hm
    · exact hrest x n hx ht hk
  · intro x n' hx ht
    obtain ⟨m, rfl, hm⟩ := hi.inv x n' hx
    refine within_upTo (hi.upTo m) ?_
    rcases hm with hm | ⟨hm, hmk⟩
    · exact cutPoints_no_inner ms note.start note.stop hs _ (hp m hm).1
    · exact hrest x m hm ht (by rw [← (lk_some ns x m hm).1, ← (lk_some ns k note hn).1]; exact hmk)

theorem tieStage1_within (qd : List (Int × Nat)) (ms : List Nat) (hs : ms.Pairwise (· ≤ ·)) (ns : List Note) :
    ∀ x n, lk (tieStage1 qd ms ns) x = some n → Within ms n := by
  intro x n hx
  refine C11Lists.foldl_inv_suffix (fun todo cur => ∀ x n, lk cur x = some n → x ∉ todo → Within ms n) (tieOne qd ms)
    (fun k todo cur h => tieOne_within qd ms hs cur k todo h) (ns.map Note.key) ns (fun x n hx hnot => ?_) x n hx
    List.not_mem_nil
  obtain ⟨h1, h2⟩ := lk_some ns x n hx
  exact absurd (List.mem_map.mpr ⟨n, h2, h1⟩) hnot

/-- what `tie_notes` leaves under a key: the note entered there with its extent and stored value untouched, or a piece
    whose stored value is the estimate for its own length under the divisions in force at its start -/
def SymSpec (qd : List (Int × Nat)) (ns : List Note) (x : Nat) (n' : Note) : Prop :=
  (∃ n, lk ns x = some n ∧ n'.sym = n.sym ∧ n'.start = n.start ∧ n'.stop = n.stop) ∨
  n'.sym = some (estimateI (n'.stop - n'.start) (quarterAt qd n'.start))

theorem symSpec_upTo {qd : List (Int × Nat)} {ns : List Note} {x : Nat} {m n' : Note} (hu : UpTo m n')
    (h : SymSpec qd ns x m) : SymSpec qd ns x n' := by
  rcases h with ⟨n, a, b, c, d⟩ | h
  · exact Or.inl ⟨n, a, by rw [hu.sym, b], by rw [hu.start, c], by rw [hu.stop, d]⟩
  · right; rw [hu.sym, hu.start, hu.stop]; exact h

theorem tieOne_sym (qd : List (Int × Nat)) (ms : List Nat) (ns0 ns : List Note) (k : Nat)
    (h : ∀ x n, lk ns x = some n → SymSpec qd ns0 x n) :
    ∀ x n, lk (tieOne qd ms ns k) x = some n → SymSpec qd ns0 x n := by
  rcases tieOne_turn qd ms ns k with ⟨h0, _⟩ | ⟨note, first, more, r, _, hi, hp⟩
  · rw [h0]; exact h
  · intro x n' hx
    obtain ⟨m, rfl, hm⟩ := hi.inv x n' hx
    exact symSpec_upTo (hi.upTo m) (hm.elim (fun hm => Or.inr (hp m hm).2) fun hm => h x m hm.1)

theorem tieStage1_sym (qd : List (Int × Nat)) (ms : List Nat) (ns : List Note) :
    ∀ x n, lk (tieStage1 qd ms ns) x = some n → SymSpec qd ns x n := by
  exact tieStage1_induct (fun cur => ∀ x n, lk cur x = some n → SymSpec qd ns x n) qd ms
    (fun cur k h => tieOne_sym qd ms ns cur k h) ns fun x n hx => Or.inl ⟨n, hx, rfl, rfl, rfl⟩

end C11Within
