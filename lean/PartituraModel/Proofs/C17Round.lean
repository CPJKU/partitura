/-
C17, the binary64 rounding of Model/C17Float.lean: the leading-bit search, round-half-even of a
quotient, and `roundPos` — the result has a 53-bit significand and lies within half a unit in the last place of the
rational it rounds, ties going to the even significand; then the operations: what `fl`, `fadd`, `fsub`, `fdiv` return is
correctly rounded (`Nearest`), the sum, comparison and floor of dyadics are exact.
-/
import PartituraModel.Model.C17Float
import Mathlib.Tactic.Linarith
import Mathlib.Tactic.Ring
import Mathlib.Tactic.Positivity
import Mathlib.Tactic.NormNum
import Mathlib.Tactic.FieldSimp
import Mathlib.Algebra.Order.Field.Rat
import Mathlib.Algebra.Order.Field.Power
import Mathlib.Data.Rat.Floor
import PartituraModel.Proofs.Pow2

namespace C17R
open Model Model.C17Float

theorem lgStep_eq (k w acc : Nat) (cont : Nat → Nat → Nat) :
    lgStep k w acc cont = if w >>> k = 0 then cont w acc else cont (w >>> k) (acc + k) := by
  unfold lgStep
  cases h : w >>> k <;> rfl

/-- `r` is the position of the leading bit of `w` -/
def IsLg (w r : Nat) : Prop := 2 ^ r ≤ w ∧ w < 2 ^ (r + 1)

/-- One halving step keeps `orig / 2^acc = w` and `w ≥ 1`, and brings `w` below `2^k` when it was below `2^(2k)`.
    Stated with the continuation, so that the nine steps of `lg` chain. -/
theorem lgStep_spec (k : Nat) {k2 w acc orig : Nat} {cont : Nat → Nat → Nat}
    (hw1 : 1 ≤ w) (hw : w < 2 ^ k2) (hinv : orig / 2 ^ acc = w) (hk : k2 = k + k)
    (hcont : ∀ w' acc', 1 ≤ w' → w' < 2 ^ k → orig / 2 ^ acc' = w' → IsLg orig (cont w' acc')) :
    IsLg orig (lgStep k w acc cont) := by
  subst hk
  rw [lgStep_eq, Nat.shiftRight_eq_div_pow]
  split
  · next h => exact hcont w acc hw1 ((Nat.div_eq_zero_iff.mp h).resolve_left (by positivity)) hinv
  · next h =>
    refine hcont _ _ (Nat.pos_of_ne_zero h) ?_ ?_
    · rwa [Nat.div_lt_iff_lt_mul (by positivity), ← pow_add]
    · rw [← hinv, Nat.div_div_eq_div_mul, pow_add]

theorem lg_spec (w : Nat) (h1 : 1 ≤ w) : 2 ^ lg w ≤ w ∧ w < 2 ^ (lg w + 1) := by
  unfold lg
  split
  · exact ⟨Nat.log2_self_le (by omega), Nat.lt_log2_self⟩
  · next hbig =>
    -- below `2^512`: the nine halving steps 256, 128, …, 1 of `lg`
    apply lgStep_spec 256 h1 (Nat.lt_of_not_le hbig) (Nat.div_one w) rfl
    clear hbig
    intro w1 a p q i
    apply lgStep_spec 128 p q i rfl; intro w1 a p q i
    apply lgStep_spec 64 p q i rfl; intro w1 a p q i
    apply lgStep_spec 32 p q i rfl; intro w1 a p q i
    apply lgStep_spec 16 p q i rfl; intro w1 a p q i
    apply lgStep_spec 8 p q i rfl; intro w1 a p q i
    apply lgStep_spec 4 p q i rfl; intro w1 a p q i
    apply lgStep_spec 2 p q i rfl; intro w1 a p q i
    apply lgStep_spec 1 p q i rfl; intro w1 a p q i
    -- now `w / 2^a = w1 = 1`
    obtain rfl : w1 = 1 := by omega
    have := (Nat.div_eq_iff (Nat.two_pow_pos a)).mp i
    rw [IsLg, pow_succ]; omega

/-- the significand `mkRound` picks: `N / D` rounded half to even, on naturals -/
def rhe (N D : Nat) : Nat :=
  if 2 * (N % D) < D then N / D else if D < 2 * (N % D) then N / D + 1 else if (N / D) % 2 = 0 then N / D else N / D + 1

theorem mkRound_eq (N D : Nat) (e : Int) : mkRound N D e = ⟨(rhe N D : Nat), e⟩ := by
  simp only [mkRound, force_eq, rhe]

theorem err_down (N D : Nat) : |((N / D : Nat) : Int) * D - N| = (N % D : Nat) := by
  have := Int.emod_add_mul_ediv (N : Int) D
  rw [show ((N / D : Nat) : Int) * D - N = -((N % D : Nat) : Int) by push_cast; linarith, abs_neg,
    abs_of_nonneg (by positivity)]

theorem err_up (N D : Nat) (hD : 0 < D) : |((N / D + 1 : Nat) : Int) * D - N| = D - (N % D : Nat) := by
  have := Int.emod_add_mul_ediv (N : Int) D
  have hr : ((N % D : Nat) : Int) < D := by exact_mod_cast Nat.mod_lt N hD
  rw [show ((N / D + 1 : Nat) : Int) * D - N = D - ((N % D : Nat) : Int) by push_cast; linarith,
    abs_of_nonneg (by linarith)]

/-- `rhe N D` is a nearest integer to `N / D`, the even one on a tie -/
theorem rhe_spec (N D : Nat) (hD : 0 < D) :
    2 * |((rhe N D : Nat) : Int) * D - N| ≤ D ∧
    (2 * |((rhe N D : Nat) : Int) * D - N| = (D : Int) → rhe N D % 2 = 0) := by
  have hr := Nat.mod_lt N hD
  unfold rhe
  split_ifs <;> simp only [err_down, err_up N D hD] <;> omega

theorem rhe_range (N D : Nat) (hD : 0 < D) (hlo : 2 ^ 52 * D ≤ N) (hhi : N < 2 ^ 53 * D) :
    2 ^ 52 ≤ rhe N D ∧ rhe N D ≤ 2 ^ 53 := by
  have h1 : 2 ^ 52 ≤ N / D := (Nat.le_div_iff_mul_le hD).mpr hlo
  have h2 : N / D < 2 ^ 53 := (Nat.div_lt_iff_lt_mul hD).mpr hhi
  unfold rhe
  split
  · omega
  · split
    · omega
    · split <;> omega

/-- the scaled quotient `N / D = (n / d) / 2^e` that `roundPos` rounds -/
def scaledN (n : Nat) (e : Int) : Nat := if e < 0 then n * 2 ^ (-e).toNat else n
def scaledD (d : Nat) (e : Int) : Nat := if e < 0 then d else d * 2 ^ e.toNat

/-- the exponent `roundPos` picks -/
def expOf (n d s : Nat) : Int := (lg (n * 2 ^ s / d) : Int) - ((s : Int) + 52)

theorem roundPos_eq (n d s : Nat) :
    roundPos n d s = ⟨(rhe (scaledN n (expOf n d s)) (scaledD d (expOf n d s)) : Nat), expOf n d s⟩ := by
  unfold roundPos
  simp only [force_eq]
  unfold expOf scaledN scaledD
  split
  · rename_i h
    have he : ¬ ((lg (n * 2 ^ s / d) : Int) - ((s : Int) + 52) < 0) := by omega
    rw [mkRound_eq, if_neg he, if_neg he]
    have e1 : Int.ofNat (lg (n * 2 ^ s / d) - (s + 52)) = (lg (n * 2 ^ s / d) : Int) - ((s : Int) + 52) := by
      simp only [Int.ofNat_eq_natCast]; omega
    have e2 : ((lg (n * 2 ^ s / d) : Int) - ((s : Int) + 52)).toNat = lg (n * 2 ^ s / d) - (s + 52) := by omega
    rw [e1, e2]
  · rename_i h
    have he : (lg (n * 2 ^ s / d) : Int) - ((s : Int) + 52) < 0 := by omega
    rw [mkRound_eq, if_pos he, if_pos he]
    have e1 : Int.negSucc (s + 52 - lg (n * 2 ^ s / d) - 1) = (lg (n * 2 ^ s / d) : Int) - ((s : Int) + 52) := by
      rw [Int.negSucc_eq]; omega
    have e2 : (-((lg (n * 2 ^ s / d) : Int) - ((s : Int) + 52))).toNat = s + 52 - lg (n * 2 ^ s / d) := by omega
    rw [e1, e2]

/-- `2^L d ≤ n 2^s < 2^(L+1) d`, scaled by powers of two whose exponents balance, is `2^52 D ≤ N < 2^53 D` -/
theorem binade_aux {n d s L a b : Nat} (hab : b + L = a + (s + 52)) (hlo : 2 ^ L * d ≤ n * 2 ^ s)
    (hhi : n * 2 ^ s < 2 ^ (L + 1) * d) :
    2 ^ 52 * (d * 2 ^ a) ≤ n * 2 ^ b ∧ n * 2 ^ b < 2 ^ 53 * (d * 2 ^ a) := by
  have e : n * 2 ^ b * 2 ^ L = 2 ^ 52 * 2 ^ a * (n * 2 ^ s) := by
    rw [mul_assoc, ← pow_add, hab, pow_add, pow_add]; ring
  constructor
  · apply Nat.le_of_mul_le_mul_right _ (Nat.two_pow_pos L)
    rw [e]
    calc 2 ^ 52 * (d * 2 ^ a) * 2 ^ L = 2 ^ 52 * 2 ^ a * (2 ^ L * d) := by ring
      _ ≤ _ := Nat.mul_le_mul_left _ hlo
  · apply Nat.lt_of_mul_lt_mul_right (a := 2 ^ L)
    rw [e]
    calc 2 ^ 52 * 2 ^ a * (n * 2 ^ s) < 2 ^ 52 * 2 ^ a * (2 ^ (L + 1) * d) :=
          Nat.mul_lt_mul_of_pos_left hhi (by positivity)
      _ = _ := by rw [pow_succ]; ring

/-- the scaled quotient lies in `[2^52, 2^53)`: the exponent is the right one -/
theorem binade (n d s : Nat) (hn : 0 < n) (hd : 0 < d) (hs : d < 2 ^ s) :
    0 < scaledD d (expOf n d s) ∧
    2 ^ 52 * scaledD d (expOf n d s) ≤ scaledN n (expOf n d s) ∧
    scaledN n (expOf n d s) < 2 ^ 53 * scaledD d (expOf n d s) := by
  have hw1 : 1 ≤ n * 2 ^ s / d :=
    (Nat.le_div_iff_mul_le hd).mpr (by have := Nat.le_mul_of_pos_left (2 ^ s) hn; omega)
  obtain ⟨hl, hu⟩ := lg_spec _ hw1
  unfold expOf scaledN scaledD
  generalize lg (n * 2 ^ s / d) = L at *
  have hlo : 2 ^ L * d ≤ n * 2 ^ s := (Nat.le_div_iff_mul_le hd).mp hl
  have hhi : n * 2 ^ s < 2 ^ (L + 1) * d := (Nat.div_lt_iff_lt_mul hd).mp hu
  split_ifs with hc
  · have := binade_aux (a := 0) (b := (-((L : Int) - ((s : Int) + 52))).toNat) (by omega) hlo hhi
    rw [pow_zero, mul_one] at this
    exact ⟨hd, this⟩
  · have := binade_aux (a := ((L : Int) - ((s : Int) + 52)).toNat) (b := 0) (by omega) hlo hhi
    rw [pow_zero, mul_one] at this
    exact ⟨by positivity, this⟩

theorem pow2_eq_zpow (k : Int) : pow2 k = (2 : Rat) ^ k := Pow2.ite_eq_zpow k

theorem scaled_ratio (n d : Nat) (e : Int) (hd : 0 < d) :
    ((scaledN n e : Nat) : Rat) / ((scaledD d e : Nat) : Rat) = ((n : Rat) / d) / pow2 e := by
  have hd' : (d : Rat) ≠ 0 := by exact_mod_cast hd.ne'
  unfold scaledN scaledD pow2
  by_cases h : e < 0
  · rw [if_pos h, if_pos h, if_neg (by omega)]
    have hp : (((2 ^ (-e).toNat : Nat)) : Rat) ≠ 0 := by exact_mod_cast (by positivity : (2 ^ (-e).toNat) ≠ 0)
    push_cast
    field_simp
  · rw [if_neg h, if_neg h, if_pos (by omega)]
    have hp : (((2 ^ e.toNat : Nat)) : Rat) ≠ 0 := by exact_mod_cast (by positivity : (2 ^ e.toNat) ≠ 0)
    push_cast
    field_simp

/-- `roundPos n d s` (for `n, d > 0`, `2^s > d`): a 53-bit significand, within half a unit in the last place of `n / d`,
    and an even significand whenever `n / d` lies exactly halfway between two neighbours -/
theorem roundPos_nearest (n d s : Nat) (hn : 0 < n) (hd : 0 < d) (hs : d < 2 ^ s) :
    (2 : Int) ^ 52 ≤ (roundPos n d s).m ∧ (roundPos n d s).m ≤ 2 ^ 53 ∧
    2 * |(roundPos n d s).toRat - (n : Rat) / d| ≤ pow2 (roundPos n d s).e ∧
    (2 * |(roundPos n d s).toRat - (n : Rat) / d| = pow2 (roundPos n d s).e → (roundPos n d s).m % 2 = 0) := by
  rw [roundPos_eq]
  obtain ⟨hD, hlo, hhi⟩ := binade n d s hn hd hs
  generalize expOf n d s = e at *
  generalize hN : scaledN n e = N at *
  generalize hDD : scaledD d e = D at *
  obtain ⟨r1, r2⟩ := rhe_range N D hD hlo hhi
  obtain ⟨s1, s2⟩ := rhe_spec N D hD
  generalize rhe N D = m at *
  have hratio := scaled_ratio n d e hd
  rw [hN, hDD] at hratio
  have hp := Pow2.pos pow2_eq_zpow e
  have hDq : (0 : Rat) < D := by exact_mod_cast hD
  -- the error, as a multiple of the unit in the last place
  have herr : (Dy.toRat ⟨(m : Int), e⟩) - (n : Rat) / d = pow2 e * ((((m : Int) * D - N : Int) : Rat) / D) := by
    have : (n : Rat) / d = ((N : Rat) / D) * pow2 e := by rw [hratio]; field_simp
    rw [this]
    simp only [Dy.toRat]
    push_cast
    field_simp
  have habs : 2 * |(Dy.toRat ⟨(m : Int), e⟩) - (n : Rat) / d| = pow2 e * (((2 * |(m : Int) * D - N| : Int) : Rat) / D) := by
    rw [herr, abs_mul, abs_of_pos hp, abs_div, abs_of_pos hDq]
    push_cast
    ring
  refine ⟨by show (2 : Int) ^ 52 ≤ ((m : Nat) : Int); exact_mod_cast r1,
    by show ((m : Nat) : Int) ≤ 2 ^ 53; exact_mod_cast r2, ?_, ?_⟩
  · rw [habs]
    have : (((2 * |(m : Int) * D - N| : Int) : Rat) / D) ≤ 1 := by
      rw [div_le_one hDq]; exact_mod_cast s1
    calc pow2 e * (((2 * |(m : Int) * D - N| : Int) : Rat) / D) ≤ pow2 e * 1 := by
          exact mul_le_mul_of_nonneg_left this hp.le
      _ = pow2 e := mul_one _
  · intro h
    rw [habs] at h
    have h1 : (((2 * |(m : Int) * D - N| : Int) : Rat) / D) = 1 := by
      have := mul_left_cancel₀ hp.ne' (h.trans (mul_one _).symm)
      exact this
    rw [div_eq_one_iff_eq hDq.ne'] at h1
    have h2 : 2 * |(m : Int) * D - N| = (D : Int) := by exact_mod_cast h1
    have := s2 h2
    show ((m : Nat) : Int) % 2 = 0
    omega

/-- `r` is a correct binary64 rounding of the rational `x` (exponent range not modelled): zero for zero; otherwise a
    53-bit significand (`2^52 ≤ |m| ≤ 2^53`), at most half a unit in the last place away from `x`, and with an even
    significand when `x` is exactly halfway between two such numbers -/
def Nearest (r : Dy) (x : Rat) : Prop :=
  (x = 0 → r.m = 0) ∧
  (x ≠ 0 → (2 : Int) ^ 52 ≤ |r.m| ∧ |r.m| ≤ 2 ^ 53 ∧ 2 * |r.toRat - x| ≤ pow2 r.e ∧
    (2 * |r.toRat - x| = pow2 r.e → r.m % 2 = 0))

theorem toRat_eq (a : Dy) : a.toRat = (a.m : Rat) * (2 : Rat) ^ a.e := by
  simp only [Dy.toRat, pow2_eq_zpow]

theorem nearest_roundPos (n d s : Nat) (hn : 0 < n) (hd : 0 < d) (hs : d < 2 ^ s) :
    Nearest (roundPos n d s) ((n : Rat) / d) := by
  obtain ⟨h1, h2, h3, h4⟩ := roundPos_nearest n d s hn hd hs
  have hx : (0 : Rat) < (n : Rat) / d := div_pos (by exact_mod_cast hn) (by exact_mod_cast hd)
  have hm : 0 ≤ (roundPos n d s).m := le_trans (by positivity) h1
  exact ⟨fun h => absurd h hx.ne', fun _ => by rw [abs_of_nonneg hm]; exact ⟨h1, h2, h3, h4⟩⟩

theorem Nearest.neg {r : Dy} {x : Rat} (h : Nearest r x) : Nearest ⟨-r.m, r.e⟩ (-x) := by
  have hv : Dy.toRat ⟨-r.m, r.e⟩ - -x = -(r.toRat - x) := by simp only [Dy.toRat]; push_cast; ring
  refine ⟨fun hx => by simp [h.1 (neg_eq_zero.mp hx)], fun hx => ?_⟩
  obtain ⟨h1, h2, h3, h4⟩ := h.2 (fun e => hx (by rw [e, neg_zero]))
  simp only [abs_neg, hv]
  exact ⟨h1, h2, h3, fun e => by have := h4 e; omega⟩

theorem flQ_nearest (num : Int) (den s : Nat) (hd : 0 < den) (hs : den < 2 ^ s) :
    Nearest (flQ num den s) ((num : Rat) / den) := by
  unfold flQ
  rw [force_eq]
  cases num with
  | ofNat n =>
    simp only [force_eq]
    by_cases hn : n = 0
    · subst hn
      exact ⟨fun _ => by simp, fun h => by simp at h⟩
    · rw [if_neg hn]
      simpa using nearest_roundPos n den s (Nat.pos_of_ne_zero hn) hd hs
  | negSucc n =>
    simp only [force_eq, Dy.force_eq]
    have := (nearest_roundPos (n + 1) den s (by omega) hd hs).neg
    rwa [show -(((n + 1 : Nat) : Rat) / den) = ((Int.negSucc n : Int) : Rat) / den by
      rw [Int.negSucc_eq]; push_cast; ring] at this

theorem fl_nearest (v : Rat) : Nearest (fl v) v := by
  unfold fl
  rw [force_eq]
  have hd : 0 < v.den := v.den_pos
  have := flQ_nearest v.num v.den (lg v.den + 1) hd (lg_spec v.den hd).2
  rwa [Rat.num_div_den] at this

theorem round_nearest (a : Dy) : Nearest a.round a.toRat := by
  unfold Dy.round
  rw [toRat_eq]
  cases he : a.e with
  | ofNat k =>
    simp only
    have := flQ_nearest (a.m * ((2 ^ k : Nat) : Int)) 1 1 (by omega) (by norm_num)
    simpa [zpow_natCast] using this
  | negSucc k =>
    simp only
    have := flQ_nearest a.m (2 ^ (k + 1)) (k + 2) (by positivity) (Nat.pow_lt_pow_right (by norm_num) (by omega))
    have e : (2 : Rat) ^ Int.negSucc k = 1 / ((2 ^ (k + 1) : Nat) : Rat) := by
      rw [Int.negSucc_eq, zpow_neg]
      have : ((k : Int) + 1) = ((k + 1 : Nat) : Int) := by push_cast; ring
      rw [this, zpow_natCast]; simp
    rw [e, mul_one_div]
    exact this

/-- a dyadic written with a smaller exponent: what `addExact`, `lt` and `fdiv` do to align two numbers -/
theorem toRat_rescale (a : Dy) {e : Int} (h : e ≤ a.e) :
    a.toRat = ((a.m * ((2 ^ (a.e - e).toNat : Nat) : Int) : Int) : Rat) * (2 : Rat) ^ e := by
  rw [toRat_eq]
  push_cast
  rw [mul_assoc, ← zpow_natCast, ← zpow_add₀ two_ne_zero, Int.toNat_of_nonneg (by omega), sub_add_cancel]

theorem addExact_toRat (a b : Dy) : (a.addExact b).toRat = a.toRat + b.toRat := by
  unfold Dy.addExact
  split
  · next h => rw [toRat_rescale b h, toRat_eq, toRat_eq]; push_cast; ring
  · next h => rw [toRat_rescale a (not_le.mp h).le, toRat_eq, toRat_eq]; push_cast; ring

theorem neg_toRat (a : Dy) : a.neg.toRat = -a.toRat := by
  simp [Dy.neg, Dy.toRat]

theorem fadd_nearest (a b : Dy) : Nearest (fadd a b) (a.toRat + b.toRat) := by
  unfold fadd
  simp only [Dy.force_eq]
  rw [← addExact_toRat]
  exact round_nearest _

theorem fsub_nearest (a b : Dy) : Nearest (fsub a b) (a.toRat - b.toRat) := by
  unfold fsub
  simp only [Dy.force_eq]
  rw [sub_eq_add_neg, ← neg_toRat, ← addExact_toRat]
  exact round_nearest _

theorem fdiv_nearest (a b : Dy) (hb : b.m ≠ 0) : Nearest (fdiv a b) (a.toRat / b.toRat) := by
  unfold fdiv
  simp only [Dy.force_eq, force_eq]
  have hden : 0 < b.m.natAbs * 2 ^ (b.e - a.e).toNat :=
    Nat.mul_pos (Int.natAbs_pos.mpr hb) (by positivity)
  have key := flQ_nearest ((if b.m < 0 then -a.m else a.m) * ((2 ^ (a.e - b.e).toNat : Nat) : Int))
    (b.m.natAbs * 2 ^ (b.e - a.e).toNat) (lg (b.m.natAbs * 2 ^ (b.e - a.e).toNat) + 1) hden (lg_spec _ hden).2
  -- the fraction handed to `flQ` is the quotient: align to the smaller exponent, move the sign of `b` to the numerator
  have hval : (((if b.m < 0 then -a.m else a.m) * ((2 ^ (a.e - b.e).toNat : Nat) : Int) : Int) : Rat) /
      ((b.m.natAbs * 2 ^ (b.e - a.e).toNat : Nat) : Rat) = a.toRat / b.toRat := by
    have hz : ∀ e : Int, (2 : Rat) ^ e ≠ 0 := fun e => zpow_ne_zero _ two_ne_zero
    have hnat : ((b.m.natAbs : Nat) : Rat) = |(b.m : Rat)| := by
      rw [← Int.cast_abs, ← Int.natCast_natAbs]; simp
    have hs : ∀ x y : Rat, (if b.m < 0 then -(a.m : Rat) else a.m) * x / (|(b.m : Rat)| * y) =
        (a.m : Rat) * x / (b.m * y) := by
      intro x y
      rcases lt_or_gt_of_ne hb with hneg | hpos
      · rw [if_pos hneg, abs_of_neg (by exact_mod_cast hneg), neg_mul, neg_mul, neg_div_neg_eq]
      · rw [if_neg (not_lt.mpr hpos.le), abs_of_pos (by exact_mod_cast hpos)]
    push_cast
    rw [hnat, hs]
    by_cases hle : a.e ≤ b.e
    · rw [show (a.e - b.e).toNat = 0 by omega, pow_zero, mul_one, toRat_rescale b hle, toRat_eq a,
        mul_div_mul_right _ _ (hz _)]
      push_cast; rfl
    · rw [show (b.e - a.e).toNat = 0 by omega, pow_zero, mul_one, toRat_rescale a (not_le.mp hle).le, toRat_eq b,
        mul_div_mul_right _ _ (hz _)]
      push_cast; rfl
  rw [hval] at key
  exact key

theorem lt_iff (a b : Dy) : Dy.lt a b = true ↔ a.toRat < b.toRat := by
  have hz : ∀ e : Int, (0 : Rat) < (2 : Rat) ^ e := fun e => zpow_pos two_pos e
  unfold Dy.lt
  split
  · next h =>
    rw [toRat_rescale b h, toRat_eq, mul_lt_mul_iff_of_pos_right (hz _), Int.cast_lt, decide_eq_true_eq]
  · next h =>
    rw [toRat_rescale a (not_le.mp h).le, toRat_eq, mul_lt_mul_iff_of_pos_right (hz _), Int.cast_lt, decide_eq_true_eq]

theorem floor_eq (a : Dy) : a.floor = ⌊a.toRat⌋ := by
  unfold Dy.floor
  rw [Dy.force_eq, toRat_eq]
  cases he : a.e with
  | ofNat k =>
    simp only
    have : (a.m : Rat) * (2 : Rat) ^ Int.ofNat k = ((a.m * ((2 ^ k : Nat) : Int) : Int) : Rat) := by
      simp [zpow_natCast]
    rw [this, Int.floor_intCast]
  | negSucc k =>
    simp only
    have : (a.m : Rat) * (2 : Rat) ^ Int.negSucc k = (a.m : Rat) / ((2 ^ (k + 1) : Nat) : Rat) := by
      rw [zpow_negSucc]; push_cast; rw [div_eq_mul_inv]
    rw [this, Rat.floor_intCast_div_natCast]

end C17R
