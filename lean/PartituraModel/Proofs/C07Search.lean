/-
C07 — format-then-match returns the encoded fields (along the recursion of the side condition), and `search` /
`searchFrom` (`Pattern.search` with `m.start()`) skip a prefix inside which no anchored match starts.
-/
import PartituraModel.Model.Template

namespace Model.Template

theorem litMatch_append_of_litAgree (p : List PChar) (s rest : List Char) (h : litAgree p s = true) :
    litMatch p (s ++ rest) = some rest := by
  fun_induction litAgree p s with
  | case1 => rfl
  | case2 a ps c cs ih =>
    simp only [Bool.and_eq_true] at h
    simp only [List.cons_append, litMatch, h.1, if_true]
    exact ih h.2
  | case3 => cases h

theorem litMatch_append_of_litPrefix (p : List PChar) (s rest : List Char) (h : litPrefix p s = true) :
    ∃ r, litMatch p (s ++ rest) = some r := by
  fun_induction litPrefix p s with
  | case1 s => exact ⟨s ++ rest, by simp [litMatch]⟩
  | case2 a ps c cs ih =>
    simp only [Bool.and_eq_true] at h
    obtain ⟨r, hr⟩ := ih h.2
    exact ⟨r, by simp only [List.cons_append, litMatch, h.1, if_true]; exact hr⟩
  | case3 => cases h

/-- the backtracking loop stops at length `m` when the continuation succeeds there and fails at every
    longer length it tries first -/
theorem tryLens_spec {R : Type} (k : List Char → Option R) (s : List Char) (lo m g : Nat) (r : R)
    (hlo : lo ≤ m) (hmg : m ≤ g) (hk : k (s.drop m) = some r)
    (hno : ∀ j, m < j → j ≤ g → k (s.drop j) = none) :
    tryLens k s lo g = some (s.take m, r) := by
  induction g with
  | zero =>
    have hm : m = 0 := by omega
    subst hm
    have hl : lo = 0 := by omega
    subst hl
    simp only [List.drop_zero] at hk
    simp [tryLens, hk]
  | succ n ih =>
    by_cases hm : m = n + 1
    · subst hm
      have : ¬ (n + 1 < lo) := by omega
      simp only [tryLens, this, if_false, hk]
    · have hmn : m ≤ n := by omega
      have h1 : ¬ (n + 1 < lo) := by omega
      have h2 : k (s.drop (n + 1)) = none := hno (n + 1) (by omega) (by omega)
      simp only [tryLens, h1, if_false, h2]
      exact ih hmn (fun j hj1 hj2 => hno j hj1 (by omega))

theorem litMatch_some (p : List PChar) (x x' : List Char) (h : litMatch p x = some x') :
    ∃ l, x = l ++ x' ∧ litAgree p l = true := by
  fun_induction litMatch p x with
  | case1 s => cases h; exact ⟨[], rfl, rfl⟩
  | case2 => cases h
  | case3 a p c x hm ih =>
    obtain ⟨l, hl, ha⟩ := ih h
    exact ⟨c :: l, by rw [hl]; rfl, by simp [litAgree, hm, ha]⟩
  | case4 => cases h

theorem tryLens_some {R : Type} (k : List Char → Option R) (s : List Char) (lo g : Nat) (a : List Char) (r : R)
    (h : tryLens k s lo g = some (a, r)) : ∃ n, n ≤ g ∧ a = s.take n ∧ k (s.drop n) = some r := by
  fun_induction tryLens k s lo g with
  | case1 hlo =>
    obtain ⟨r', hk, he⟩ := Option.map_eq_some_iff.mp h
    cases he
    exact ⟨0, Nat.le_refl _, rfl, hk⟩
  | case2 => cases h
  | case3 => cases h
  | case4 n hlo r' hk =>
    cases h
    exact ⟨n + 1, Nat.le_refl _, rfl, hk⟩
  | case5 n hlo hk ih =>
    obtain ⟨m, hm, ha, hk⟩ := ih h
    exact ⟨m, by omega, ha, hk⟩

theorem length_le_takeWhile_append (f : Char → Bool) (x rest : List Char) (h : x.all f = true) :
    x.length ≤ ((x ++ rest).takeWhile f).length := by
  rw [List.takeWhile_append_of_pos (List.all_eq_true.mp h), List.length_append]
  omega

theorem allBetween_spec (lo hi : Nat) (f : Nat → Bool) (h : allBetween lo hi f = true) :
    ∀ j, lo < j → j ≤ hi → f j = true := by
  intro j h1 h2
  unfold allBetween at h
  rw [List.all_eq_true] at h
  have := h (j - lo - 1) (by simp; omega)
  have e : lo + 1 + (j - lo - 1) = j := by omega
  rw [e] at this
  exact this

theorem matchSegs_render (q : List Seg) (o : List OSeg) (v : String → List Char) (tail : List Char)
    (ha : agree o q = true) (hf : fieldsOKGen o q v tail = true) :
    matchSegs q (render o v ++ tail) = some (groupsOf q v) := by
  fun_induction fieldsOKGen o q v tail with
  | case1 => rfl
  | case2 s o p q v tail ih =>
    rw [agree, Bool.and_eq_true] at ha
    obtain ⟨hlit, hag⟩ := ha
    simp only [render, List.append_assoc, matchSegs, groupsOf]
    split at hlit
    next he =>
      -- the last literal: the pattern asks for a prefix of what is written
      simp only [Bool.and_eq_true, List.isEmpty_iff] at he
      obtain ⟨rfl, rfl⟩ := he
      obtain ⟨r, hr⟩ := litMatch_append_of_litPrefix p s.toList (render [] v ++ tail) hlit
      rw [hr]
      rfl
    next =>
      rw [litMatch_append_of_litAgree p s.toList (render o v ++ tail) hlit]
      exact ih hag hf
  | case3 n o n' cls lo q v tail x s ih =>
    simp only [agree, Bool.and_eq_true, beq_iff_eq] at ha
    obtain ⟨⟨rfl, _⟩, hag⟩ := ha
    simp only [Bool.and_eq_true, decide_eq_true_eq] at hf
    obtain ⟨⟨⟨hall, hlo⟩, hbt⟩, hrest⟩ := hf
    simp only [render, List.append_assoc, matchSegs, groupsOf]
    -- the group gives characters back until it holds exactly the field's text
    rw [tryLens_spec (matchSegs q) s lo x.length _ (groupsOf q v) hlo
      (length_le_takeWhile_append _ _ _ hall) (by rw [List.drop_left]; exact ih hag hrest)
      (fun j h1 h2 => by simpa [Option.isNone_iff_eq_none] using allBetween_spec _ _ _ hbt j h1 h2)]
    simp [x, s]
  | case4 => cases hf

theorem isNone_matchSegs_of_headLit (q : List Seg) (t : List Char)
    (h : (litMatch (headLit q) t).isNone = true) : (matchSegs q t).isNone = true := by
  cases q with
  | nil => simp [headLit, litMatch] at h
  | cons sg r =>
    cases sg with
    | lit p =>
      simp only [headLit, Option.isNone_iff_eq_none] at h
      simp [matchSegs, h]
    | fld n c l => simp [headLit, litMatch] at h

theorem allBetween_mono (lo hi : Nat) (f g : Nat → Bool) (hfg : ∀ j, f j = true → g j = true)
    (h : allBetween lo hi f = true) : allBetween lo hi g = true := by
  unfold allBetween at *
  rw [List.all_eq_true] at *
  intro i hi'
  exact hfg _ (h i hi')

theorem fieldsOKGen_of_fieldsOK (q : List Seg) (o : List OSeg) (v : String → List Char) (tail : List Char)
    (h : fieldsOK o q v tail = true) : fieldsOKGen o q v tail = true := by
  fun_induction fieldsOK o q v tail with
  | case1 => rfl
  | case2 _ o _ q v tail ih => exact ih h
  | case3 n o _ cls lo q v tail x s ih =>
    simp only [Bool.and_eq_true] at h
    simp only [fieldsOKGen, Bool.and_eq_true]
    exact ⟨⟨h.1.1, allBetween_mono _ _ _ _ (fun j hj => isNone_matchSegs_of_headLit q _ hj) h.1.2⟩, ih h.2⟩
  | case4 => cases h

theorem searchFrom_search (q : List Seg) : ∀ (s : List Char) (k : Nat),
    (searchFrom q s k).map (·.2) = search q s := by
  intro s
  induction s with
  | nil => intro k; simp only [searchFrom, search, Option.map_map]; cases matchSegs q [] <;> rfl
  | cons c s ih =>
    intro k
    simp only [searchFrom, search]
    cases h : matchSegs q (c :: s) with
    | some r => rfl
    | none => exact ih (k + 1)

theorem searchFrom_skip (q : List Seg) (s : List Char) (r : List (String × List Char)) : ∀ (pre : List Char) (k : Nat),
    (∀ j, j < pre.length → matchSegs q ((pre ++ s).drop j) = none) → matchSegs q s = some r →
    searchFrom q (pre ++ s) k = some (k + pre.length, r) := by
  intro pre
  induction pre with
  | nil =>
    intro k _ h
    cases s with
    | nil => simp [searchFrom, h]
    | cons c s => simp [searchFrom, h]
  | cons c pre ih =>
    intro k hno h
    have h0 := hno 0 (by simp)
    simp only [List.drop_zero, List.cons_append] at h0
    simp only [List.cons_append, searchFrom, h0]
    rw [ih (k + 1) (fun j hj => by
      have := hno (j + 1) (by simp; omega)
      simpa using this) h]
    simp only [List.length_cons]
    congr 2
    omega

theorem search_skip (q : List Seg) (pre s : List Char) (r : List (String × List Char))
    (hno : ∀ k, k < pre.length → matchSegs q ((pre ++ s).drop k) = none)
    (h : matchSegs q s = some r) : search q (pre ++ s) = some r := by
  rw [← searchFrom_search q _ 0, searchFrom_skip q s r pre 0 hno h]
  rfl

theorem search_of_matchSegs (q : List Seg) (s : List Char) (r : List (String × List Char))
    (h : matchSegs q s = some r) : search q s = some r :=
  search_skip q [] s r (fun _ hk => absurd hk (Nat.not_lt_zero _)) h

theorem search_none_of (q : List Seg) : ∀ (s : List Char),
    (∀ k, k ≤ s.length → matchSegs q (s.drop k) = none) → search q s = none := by
  intro s
  induction s with
  | nil => intro h; simpa [search] using h 0 (Nat.le_refl _)
  | cons c s ih =>
    intro h
    have h0 := h 0 (Nat.zero_le _)
    simp only [List.drop_zero] at h0
    simp only [search, h0]
    apply ih
    intro k hk
    have := h (k + 1) (by simp; omega)
    simpa using this

/-- no anchored match of `q` starts inside the prefix `pre` of the line `pre ++ s` (decidable) -/
def noEarly (q : List Seg) (pre s : List Char) : Bool :=
  (List.range pre.length).all fun k => (matchSegs q ((pre ++ s).drop k)).isNone

theorem noEarly_spec (q : List Seg) (pre s : List Char) (h : noEarly q pre s = true) :
    ∀ k, k < pre.length → matchSegs q ((pre ++ s).drop k) = none := by
  intro k hk
  unfold noEarly at h
  rw [List.all_eq_true] at h
  have := h k (by simp; exact hk)
  simpa [Option.isNone_iff_eq_none] using this

end Model.Template
