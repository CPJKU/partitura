/-
C15: lemmas about the timeline of the new part (`getOrAddPoint`, `addObject`, `insertFrom`, `newTimeline` of
Model/MergeCall.lean) and about `pointsWith`.  `Part.add` asks for one or two time points per object, so the
timeline is a fold of `getOrAddPoint` over the times asked for; on the times, `getOrAddPoint` is `insertU`.
-/
import PartituraModel.Model.MergeCall
import PartituraModel.Proofs.C15Basic

namespace C15
open Model.Merge

/-- `getOrAddPoint` as a scan from the left -/
theorem getOrAddPoint_cons (L t : Nat) (p : TPoint) (ps : List TPoint) :
    getOrAddPoint L (p :: ps) t
      = if p.t < t then p :: getOrAddPoint L ps t else if p.t = t then p :: ps else { t := t, quarter := L } :: p :: ps := by
  unfold getOrAddPoint
  by_cases hlt : p.t < t
  · have hs : searchLeft ((p :: ps).map (·.t)) t = searchLeft (ps.map (·.t)) t + 1 := if_pos hlt
    simp only [hs, List.getElem?_cons_succ, List.insertIdx_succ_cons, hlt, if_true]
    cases ps[searchLeft (ps.map (·.t)) t]? with
    | none => rfl
    | some q => dsimp only; split <;> rfl
  · have hs : searchLeft ((p :: ps).map (·.t)) t = 0 := if_neg hlt
    simp only [hs, List.getElem?_cons_zero, hlt, if_false, List.insertIdx_zero]

theorem times_getOrAddPoint (L t : Nat) : ∀ pts : List TPoint,
    (getOrAddPoint L pts t).map (·.t) = insertU t (pts.map (·.t))
  | [] => rfl
  | p :: ps => by
    rw [getOrAddPoint_cons, List.map_cons, insertU]
    rcases Nat.lt_trichotomy p.t t with h | h | h
    · rw [if_pos h, if_neg (Nat.lt_asymm h), if_neg (Nat.ne_of_gt h), List.map_cons, times_getOrAddPoint]
    · subst h
      rw [if_neg (Nat.lt_irrefl _), if_pos rfl, if_neg (Nat.lt_irrefl _), if_pos rfl, List.map_cons]
    · rw [if_neg (Nat.lt_asymm h), if_neg (Nat.ne_of_gt h), if_pos h]; rfl

theorem quarter_getOrAddPoint {L t : Nat} : ∀ {pts : List TPoint}, (∀ p ∈ pts, p.quarter = L) →
    ∀ p ∈ getOrAddPoint L pts t, p.quarter = L
  | [], _ => List.forall_mem_singleton.mpr rfl
  | q :: qs, h => by
    have hq := List.forall_mem_cons.mp h
    rw [getOrAddPoint_cons]
    split
    · exact List.forall_mem_cons.mpr ⟨hq.1, quarter_getOrAddPoint hq.2⟩
    · split
      · exact h
      · exact List.forall_mem_cons.mpr ⟨rfl, h⟩

/-- a timeline in good shape: times strictly increasing, every point carries the quarter duration `L` -/
def GoodTL (L : Nat) (pts : List TPoint) : Prop :=
  (pts.map (·.t)).Pairwise (· < ·) ∧ ∀ p ∈ pts, p.quarter = L

theorem getOrAddPoint_good {L : Nat} {pts : List TPoint} (h : GoodTL L pts) (t : Nat) :
    GoodTL L (getOrAddPoint L pts t) :=
  ⟨times_getOrAddPoint L t pts ▸ insertU_sorted h.1, quarter_getOrAddPoint h.2⟩

theorem mem_getOrAddPoint {L t x : Nat} {pts : List TPoint} :
    x ∈ (getOrAddPoint L pts t).map (·.t) ↔ x = t ∨ x ∈ pts.map (·.t) := by
  rw [times_getOrAddPoint]; exact mem_insertU

/-- the times `Part.add` asks for -/
def timesOf (x : Bool × Elem) : List Nat := (if x.1 then [] else [x.2.start]) ++ x.2.stop.toList

theorem addObject_eq_foldl (L : Nat) (pts : List TPoint) (x : Bool × Elem) :
    addObject L pts x = (timesOf x).foldl (getOrAddPoint L) pts := by
  unfold addObject timesOf
  cases x.1 <;> cases x.2.stop <;> rfl

theorem foldl_getOrAddPoint_good {L : Nat} : ∀ (ts : List Nat) {pts : List TPoint}, GoodTL L pts →
    GoodTL L (ts.foldl (getOrAddPoint L) pts)
  | [], _, h => h
  | t :: ts, _, h => foldl_getOrAddPoint_good ts (getOrAddPoint_good h t)

theorem mem_foldl_getOrAddPoint {L y : Nat} : ∀ (ts : List Nat) {pts : List TPoint},
    y ∈ (ts.foldl (getOrAddPoint L) pts).map (·.t) ↔ y ∈ ts ∨ y ∈ pts.map (·.t)
  | [], _ => (or_iff_right List.not_mem_nil).symm
  | t :: ts, pts => by
    rw [List.foldl_cons, mem_foldl_getOrAddPoint ts, mem_getOrAddPoint, List.mem_cons]
    exact or_left_comm.trans (or_assoc.symm)

theorem newTimeline_eq (m : Mode) (ps : List APart) :
    newTimeline m ps = ((insertFrom m (lcmList (ps.map (·.divs))) true 0 0 0 ps).flatMap timesOf).foldl
      (getOrAddPoint (lcmList (ps.map (·.divs)))) [] := by
  rw [List.foldl_flatMap]
  exact congrArg (List.foldl · [] _) (funext₂ (addObject_eq_foldl _))

theorem mem_insertFrom {m : Mode} {L : Nat} {b : Bool} {e : Elem} : ∀ {first : Bool} {vo so np : Nat} {ps : List APart},
    (b, e) ∈ insertFrom m L first vo so np ps ↔
      (b = false ∧ e ∈ mergeFrom m L first vo so np ps) ∨ (b = true ∧ e ∈ tailsFrom m L first vo so np ps)
  | _, _, _, _, [] => by simp [insertFrom, mergeFrom, tailsFrom]
  | first, vo, so, np, p :: ps => by
    have ih := @mem_insertFrom m L b e false (vo + maxVoice p) (so + maxStaff p) (np + nStaves p) ps
    simp only [insertFrom, mergeFrom, tailsFrom, List.mem_append, List.mem_map, Prod.mk.injEq, ih]
    cases b <;> simp

theorem mem_pointsWith {es tails : List Elem} {y : Nat} :
    y ∈ pointsWith es tails ↔ (∃ e ∈ es, y = e.start ∨ e.stop = some y) ∨ (∃ e ∈ tails, e.stop = some y) := by
  simp only [pointsWith, mem_uniq, List.mem_append, List.mem_map, List.mem_filterMap, ← exists_or, ← and_or_left,
    @eq_comm _ y]

theorem pointsWith_perm {es es' tails : List Elem} (h : es.Perm es') : pointsWith es tails = pointsWith es' tails :=
  uniq_congr fun a => by simp only [List.mem_append, List.mem_map, List.mem_filterMap, h.mem_iff]

theorem newTimeline_good (m : Mode) (ps : List APart) : GoodTL (lcmList (ps.map (·.divs))) (newTimeline m ps) :=
  newTimeline_eq m ps ▸ foldl_getOrAddPoint_good _ ⟨List.Pairwise.nil, fun _ h => nomatch h⟩

theorem mem_newTimeline (m : Mode) (ps : List APart) (y : Nat) :
    y ∈ (newTimeline m ps).map (·.t) ↔
      y ∈ pointsWith (mergeFrom m (lcmList (ps.map (·.divs))) true 0 0 0 ps) (mergedTails m ps) := by
  rw [mem_pointsWith, newTimeline_eq, mem_foldl_getOrAddPoint]
  simp only [List.mem_flatMap, Prod.exists, mem_insertFrom, timesOf, List.map_nil, List.not_mem_nil, or_false,
    mergedTails]
  constructor
  · rintro ⟨b, e, ⟨rfl, he⟩ | ⟨rfl, he⟩, hy⟩
    · exact Or.inl ⟨e, he, by simpa using hy⟩
    · exact Or.inr ⟨e, he, by simpa using hy⟩
  · rintro (⟨e, he, hy⟩ | ⟨e, he, hy⟩)
    · exact ⟨false, e, Or.inl ⟨rfl, he⟩, by simpa using hy⟩
    · exact ⟨true, e, Or.inr ⟨rfl, he⟩, by simpa using hy⟩

/-- whatever the order of the insertions: two strictly increasing lists with the same members -/
theorem times_newTimeline (m : Mode) (ps : List APart) :
    (newTimeline m ps).map (·.t)
      = pointsWith (mergeFrom m (lcmList (ps.map (·.divs))) true 0 0 0 ps) (mergedTails m ps) :=
  Lists.pairwise_ext Nat.lt_asymm (newTimeline_good m ps).1 (uniq_sorted _) (mem_newTimeline m ps)

theorem eq_map_of_quarter {L : Nat} : ∀ {pts : List TPoint}, (∀ p ∈ pts, p.quarter = L) →
    pts = (pts.map (·.t)).map fun t => { t := t, quarter := L }
  | [], _ => rfl
  | ⟨t, q⟩ :: ps, h => by
    have hp := List.forall_mem_cons.mp h
    rw [List.map_cons, List.map_cons, ← eq_map_of_quarter hp.2, ← (hp.1 : q = L)]

end C15
