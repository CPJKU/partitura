/-
How the same measures are cut into sibling / nested `<section>` and `<ending>` elements (`Props/C19Sections.lean`,
`Props/C19Endings.lean`), by list reasoning on the stack of open elements over `Proofs/C19Step.lean`: when two stacks look the
same to a step (`Looks`) and which element names the reader passes through (`Transparent`); stacks that differ only in which
transparent element a frame is (`SimG`) or by one transparent frame (`SimK`, `unnest_grp_state`); an `<ending>` is as
transparent as a `<section>`; a whole `<scoreDef>` does not see a grouping frame right below it (`sd_frame_indep`).
-/
import PartituraModel.Proofs.C19Step

set_option linter.unusedSimpArgs false
set_option linter.unusedVariables false

namespace C19E

/-- the two elements that only group measures -/
def isGrp (t : String) : Prop := t = "section" ∨ t = "ending"

/-- parents the step functions do not single out: what a child does is the same under any of them -/
def Neutral (p : String) : Prop :=
  p ≠ "staffDef" ∧ p ≠ "scoreDef" ∧ p ≠ "measure" ∧ p ≠ "staff" ∧ p ≠ "chord" ∧ p ≠ "note"

end C19E

namespace C19S
open Model Model.Mei

/-! ## when two stacks look the same to a step -/

/-- an element name the reader passes through: neutral as a parent, and neither a tuplet nor a layer (so that it is
    closed silently, too); `section` and `ending` are such names -/
structure Transparent (t : String) : Prop where
  neutral : C19E.Neutral t
  tuplet : t ≠ "tuplet"
  layer : t ≠ "layer"

theorem transparent_of_grp {t : String} (h : C19E.isGrp t) : Transparent t := by
  rcases h with rfl | rfl <;> exact ⟨by simp [C19E.Neutral], by decide, by decide⟩

theorem Transparent.close {t : String} (h : Transparent t) : ckindOf t = .other :=
  ckindOf_other (by simp [closeTags, h.neutral.1, h.neutral.2.1, h.neutral.2.2.1, h.neutral.2.2.2.1, h.neutral.2.2.2.2.1, h.layer])

/-- the steps single out six parents only -/
theorem coreBody_neutral (p p' : String) (hp : C19E.Neutral p) (hp' : C19E.Neutral p') (tups : List (Nat × Nat)) (lay : Bool)
    (st : St) (as : List (String × String)) (k : Kind) :
    coreBody ⟨p, [], tups, lay⟩ st as k = coreBody ⟨p', [], tups, lay⟩ st as k := by
  obtain ⟨a1, a2, a3, a4, a5, a6⟩ := hp
  obtain ⟨b1, b2, b3, b4, b5, b6⟩ := hp'
  cases k with
  | meterSig => simp only [coreBody, a1, a2, b1, b2]
  | keySig => simp only [coreBody, a1, a2, b1, b2]
  | clef => simp only [coreBody, clefDo, a1, b1]
  | staff => simp only [coreBody, a3, b3]
  | layer => simp only [coreBody, a4, b4]
  | content k =>
    cases k with
    | note => simp only [coreBody, layerBody, layerUpd, a5, b5]
    | accid => simp only [coreBody, layerBody, layerUpd, a6, b6]
    | _ => rfl
  | _ => rfl

theorem ctxOf_neutral_top (s : List Frame) (h : C19E.Neutral (ptagOf s)) :
    ctxOf s = ⟨ptagOf s, [], tupletsOf s, inLayer s⟩ := by
  simp [ctxOf, h.1, h.2.2.2.2.2]

/-- two stacks look the same to a step: the same enclosing tuplets, inside a layer or not, and the same innermost
    element — or innermost elements that are both neutral -/
structure Looks (a b : List Frame) : Prop where
  tups : tupletsOf a = tupletsOf b
  lay : inLayer a = inLayer b
  top : a.head? = b.head? ∨ (C19E.Neutral (ptagOf a) ∧ C19E.Neutral (ptagOf b))

theorem openCore_looks {a b : List Frame} (h : Looks a b) (st : St) (tag : String) (as : List (String × String)) :
    openCore (ctxOf a) st tag as = openCore (ctxOf b) st tag as := by
  rcases h.top with e | ⟨ha, hb⟩
  · rw [show ctxOf a = ctxOf b by unfold ctxOf ptagOf; rw [e, h.tups, h.lay]]
  · rw [ctxOf_neutral_top _ ha, ctxOf_neutral_top _ hb, h.tups, h.lay]
    exact Option.bind_congr fun s _ => coreBody_neutral _ _ ha hb _ _ s as _

/-- only closing a `layer` / a `staff` looks at the element below, to see whether it is a `staff` / a `measure` -/
theorem closeCore_below (f : Frame) (b b' : String) (st : St) (hb : C19E.Neutral b) (hb' : C19E.Neutral b') :
    closeCore f b st = closeCore f b' st := by
  unfold closeCore
  cases ckindOf f.tag with
  | layer => simp only [closeBody, if_neg hb.2.2.2.1, if_neg hb'.2.2.2.1]
  | staff => simp only [closeBody, if_neg hb.2.2.1, if_neg hb'.2.2.1]
  | _ => rfl

theorem closeCore_looks {a b : List Frame} (h : Looks a b) (f : Frame) (st : St) :
    closeCore f (ptagOf a) st = closeCore f (ptagOf b) st := by
  rcases h.top with e | ⟨ha, hb⟩
  · rw [ptagOf, ptagOf, e]
  · exact closeCore_below f _ _ st ha hb

/-! ## stacks that differ only in which transparent element a frame is, and in its attributes -/

/-- the same frame, or two frames of transparent elements -/
def FrG (f g : Frame) : Prop := f = g ∨ (Transparent f.tag ∧ Transparent g.tag)

/-- frame by frame `FrG` -/
inductive StkG : List Frame → List Frame → Prop
  | nil : StkG [] []
  | cons {f g : Frame} {a b : List Frame} : FrG f g → StkG a b → StkG (f :: a) (g :: b)

theorem StkG.refl (s : List Frame) : StkG s s := by
  induction s with
  | nil => exact .nil
  | cons f r ih => exact .cons (Or.inl rfl) ih

theorem StkG.looks {a b : List Frame} (h : StkG a b) : Looks a b := by
  induction h with
  | nil => exact ⟨rfl, rfl, Or.inl rfl⟩
  | @cons f g a b hf _ ih =>
    rcases hf with rfl | ⟨h1, h2⟩
    · refine ⟨?_, ?_, Or.inl rfl⟩
      · show tupletsOf ([f] ++ a) = tupletsOf ([f] ++ b)
        rw [tupletsOf_append, tupletsOf_append, ih.tups]
      · show inLayer ([f] ++ a) = inLayer ([f] ++ b)
        rw [inLayer_append, inLayer_append, ih.lay]
    · exact ⟨by rw [tupletsOf_cons_of_ne h1.tuplet, tupletsOf_cons_of_ne h2.tuplet, ih.tups],
        by rw [inLayer_cons_of_ne h1.layer, inLayer_cons_of_ne h2.layer, ih.lay], Or.inr ⟨h1.neutral, h2.neutral⟩⟩

theorem applyTop_stkG {a b : List Frame} (tm : TopMod) (h : StkG a b) : StkG (applyTop tm a) (applyTop tm b) := by
  cases h with
  | nil => rw [applyTop_nil]; exact .nil
  | cons hf ht =>
    rw [applyTop_cons, applyTop_cons]
    exact .cons (hf.imp (congrArg tm.on) fun h => by rw [tm.on_tag, tm.on_tag]; exact h) ht

/-- same core, stacks that differ only in which transparent element (and with which attributes) a frame is -/
def SimG (a b : St) : Prop := core a = core b ∧ StkG a.stack b.stack

theorem step_simG (a b : St) (e : Ev) (h : SimG a b) : RelOpt SimG (stepEv a e) (stepEv b e) := by
  obtain ⟨hc, hs⟩ := h
  cases e with
  | op tag as =>
    rw [stepEv_op, stepEv_op, hc, openCore_looks hs.looks]
    cases openCore (ctxOf b.stack) (core b) tag as with
    | none => exact trivial
    | some r => exact ⟨rfl, .cons (Or.inl rfl) (applyTop_stkG r.2 hs)⟩
  | cl =>
    rw [stepEv_cl, stepEv_cl]
    generalize a.stack = sa at hs
    generalize b.stack = sb at hs
    cases hs with
    | nil => exact trivial
    | @cons f g ra rb hf ht =>
      simp only []
      rw [hc]
      rcases hf with rfl | ⟨g1, g2⟩
      · rw [closeCore_looks ht.looks]
        cases closeCore f (ptagOf rb) (core b) with
        | none => exact trivial
        | some x => exact ⟨rfl, ht⟩
      · rw [closeCore_other _ _ _ g1.close, closeCore_other _ _ _ g2.close]
        exact ⟨rfl, ht⟩

theorem run_simG (evs : List Ev) (a b : St) (h : SimG a b) : RelOpt SimG (runEvs a evs) (runEvs b evs) :=
  run_rel step_simG evs a b h

/-! ## an extra transparent element -/

theorem looks_ins (mid low : List Frame) {x : Frame} (hx : Transparent x.tag) (h : mid = [] → C19E.Neutral (ptagOf low)) :
    Looks (mid ++ x :: low) (mid ++ low) := by
  refine ⟨by rw [tupletsOf_append, tupletsOf_append, tupletsOf_cons_of_ne hx.tuplet],
    by rw [inLayer_append, inLayer_append, inLayer_cons_of_ne hx.layer], ?_⟩
  cases mid with
  | nil => exact Or.inr ⟨hx.neutral, h rfl⟩
  | cons t ts => exact Or.inl rfl

/-- how deep an event list closes: `none` when it closes an element it did not open -/
def balAux : Nat → List Ev → Option Nat
  | d, [] => some d
  | d, .op _ _ :: es => balAux (d + 1) es
  | 0, .cl :: _ => none
  | d + 1, .cl :: es => balAux d es

/-- the events of whole elements: every close matches an open of the list, nothing stays open -/
def Balanced (evs : List Ev) : Prop := balAux 0 evs = some 0

instance (evs : List Ev) : Decidable (Balanced evs) := by unfold Balanced; infer_instance

/-- same core; the left stack has the extra frame `x` under the frames `mid`, of which the run closes the `d` innermost
    ones at most, and `P` holds of the others -/
def SimK (P : List Frame → Prop) (x : Frame) (low : List Frame) (d : Nat) (a b : St) : Prop :=
  core a = core b ∧ ∃ mid : List Frame, d ≤ mid.length ∧ P (mid.drop d) ∧
    a.stack = mid ++ x :: low ∧ b.stack = mid ++ low

/-- whole elements are read the same way with and without a transparent frame `x`: no step singles out `x` or what is
    below it, and nothing is written into either.  Either `x` is separated from the elements read by frames that keep
    `P` whatever is written into them, or (no such frame) `x` stands on a neutral element. -/
theorem run_simK (P : List Frame → Prop) (x : Frame) (low : List Frame) (hx : Transparent x.tag)
    (hP : ∀ tm base, P base → P (applyTop tm base)) (hnil : P [] → C19E.Neutral (ptagOf low)) (evs : List Ev) :
    ∀ (d d' : Nat) (a b : St), SimK P x low d a b → balAux d evs = some d' →
      RelOpt (SimK P x low d') (runEvs a evs) (runEvs b evs) := by
  induction evs with
  | nil =>
    intro d d' a b h hb
    obtain rfl : d = d' := Option.some.inj hb
    exact h
  | cons e es ih =>
    intro d d' a b h hb
    obtain ⟨hc, mid, hd, hp, hsa, hsb⟩ := h
    -- with no frame above it, `x` stands on a neutral element
    have hlow : mid = [] → C19E.Neutral (ptagOf low) := fun h => hnil (by rw [h, List.drop_nil] at hp; exact hp)
    simp only [runEvs]
    cases e with
    | op tag as =>
      simp only [balAux] at hb
      rw [stepEv_op, stepEv_op, hc, hsa, hsb, openCore_looks (looks_ins mid low hx hlow)]
      cases hr : openCore (ctxOf (mid ++ low)) (core b) tag as with
      | none => exact trivial
      | some r =>
        -- nothing is written into a neutral element
        have hk : mid = [] → r.2 = .keep := fun h => by
          obtain ⟨_, _, _, hf⟩ := openCore_frame hr
          rw [h] at hf
          exact hf.top.elim id fun h1 => h1.elim (absurd · (hlow h).1) (absurd · (hlow h).2.1)
        refine ih (d + 1) d' _ _ ⟨rfl, newFrame tag as :: applyTop r.2 mid, ?_, ?_,
          congrArg (newFrame tag as :: ·) (applyTop_append r.2 mid _ hk),
          congrArg (newFrame tag as :: ·) (applyTop_append r.2 mid _ hk)⟩ hb
        · cases mid <;> simpa [applyTop_cons] using hd
        · cases d with
          | zero => exact hP _ _ hp
          | succ d => rw [List.drop_succ_cons, drop_applyTop]; exact hp
    | cl =>
      cases d with
      | zero => simp [balAux] at hb
      | succ d =>
        cases mid with
        | nil => simp at hd
        | cons t ts =>
          simp only [balAux] at hb
          rw [stepEv_cl, stepEv_cl, hsa, hsb]
          simp only [List.cons_append]
          rw [hc, closeCore_looks (looks_ins ts low hx fun h => hnil (by rw [h, List.drop_succ_cons, List.drop_nil] at hp; exact hp))]
          cases closeCore t (ptagOf (ts ++ low)) (core b) with
          | none => exact trivial
          | some y => exact ih d d' _ _ ⟨rfl, ts, Nat.le_of_succ_le_succ hd, hp, rfl, rfl⟩ hb

theorem stepEv_section (st : St) (as : List (String × String)) (hp : PlainAttrs as) (hin : st.inSection = true) :
    stepEv st (.op "section" as) = some (withStack st (newFrame "section" as :: st.stack)) := by
  rw [stepEv_op, openCore_plain _ _ _ _ hp (by decide)]
  show some (withStack ({ core st with inSection := true } : St) _) = _
  rw [inSection_eta (core st) hin]
  rfl

theorem cut_state (st : St) (f : Frame) (rest : List Frame) (as : List (String × String)) (evs : List Ev)
    (hs : st.stack = f :: rest) (hf : f.tag = "section") (hin : st.inSection = true) (hp : PlainAttrs as) :
    RelOpt SimG (runEvs st (.cl :: .op "section" as :: evs)) (runEvs st evs) := by
  have hf' : Transparent f.tag := transparent_of_grp (Or.inl hf)
  simp only [runEvs, stepEv_cl_other st f rest hs hf'.close]
  have hin' : (withStack st rest).inSection = true := hin
  simp only [stepEv_section (withStack st rest) as hp hin']
  refine run_simG evs _ _ ⟨rfl, ?_⟩
  show StkG (newFrame "section" as :: rest) st.stack
  rw [hs]
  exact .cons (Or.inr ⟨transparent_of_grp (Or.inl rfl), hf'⟩) (StkG.refl rest)

theorem unnest_grp_state (st : St) (tag : String) (as : List (String × String)) (mid evs : List Ev) (hg : Transparent tag)
    (hopen : stepEv st (.op tag as) = some (withStack st (newFrame tag as :: st.stack)))
    (hs : C19E.Neutral (ptagOf st.stack)) (hb : Balanced mid) :
    runEvs st (.op tag as :: (mid ++ .cl :: evs)) = runEvs st (mid ++ evs) := by
  simp only [runEvs, hopen]
  rw [runEvs_append, runEvs_append]
  refine (run_simK (· = []) (newFrame tag as) st.stack hg (fun tm _ h => h ▸ applyTop_nil tm) (fun _ => hs) mid 0 0
    (withStack st (newFrame tag as :: st.stack)) st ⟨rfl, [], Nat.le_refl _, rfl, rfl, rfl⟩ hb).bind_eq fun a b _ hab => ?_
  obtain ⟨hc, _, _, rfl, hsa, hsb⟩ := hab
  simp only [runEvs, stepEv_cl_other a _ _ hsa hg.close]
  rw [eq_of_core (withStack a st.stack) b hc hsb.symm]

/-! ## a section frame is on the stack only after a section has been opened -/

def SecInv (st : St) : Prop := "section" ∈ st.stack.map (·.tag) → st.inSection = true

theorem step_secInv (st s : St) (e : Ev) (h : stepEv st e = some s) (hinv : SecInv st) : SecInv s := by
  have hk := step_keeps st s e h
  rcases step_some st s e h with ⟨tag, as, r, rfl, hr, rfl⟩ | ⟨f, rest, x, rfl, hs, hc, rfl⟩
  · intro hsec
    rcases List.mem_cons.mp hsec with ht | hsec
    · -- the element opened is itself a section
      show r.1.inSection = true
      rw [← show "section" = tag from ht, openCore_eq] at hr
      obtain ⟨es, _, he⟩ := Option.bind_eq_some_iff.mp hr
      obtain rfl := Option.some.inj he
      rfl
    · exact hk.2 (hinv (applyTop_tags r.2 st.stack ▸ hsec))
  · intro hsec
    exact hk.2 (hinv (hs ▸ List.mem_cons_of_mem _ hsec))

theorem inSection_of_run (evs : List Ev) (st : St) (hrun : runEvs {} evs = some st) (htop : ptagOf st.stack = "section") :
    st.inSection = true := by
  refine run_keeps step_secInv evs {} st hrun (fun h => nomatch h) ?_
  cases hs : st.stack with
  | nil => rw [hs] at htop; exact absurd htop (by decide)
  | cons f r => rw [hs] at htop; exact List.mem_cons.mpr (Or.inl (show "section" = f.tag from htop.symm))

/-! ## an `<ending>` only pushes its frame -/

theorem openCore_ending (c : Ctx) (st : St) (as : List (String × String)) (hp : PlainAttrs as) :
    openCore c st "ending" as = some (st, .keep) :=
  (openCore_plain c st "ending" as hp (by decide)).trans (coreBody_other c st as)

theorem stepEv_ending (st : St) (as : List (String × String)) (hp : PlainAttrs as) :
    stepEv st (.op "ending" as) = some (withStack st (newFrame "ending" as :: st.stack)) := by
  rw [stepEv_op, openCore_ending _ _ _ hp]
  simp only [Option.map_some, applyTop_keep]
  rfl

/-! ## a whole `<scoreDef>` element does not see a grouping frame right below it -/

/-- the block between the elements read and the grouping frame: one open `scoreDef` -/
def OpenSd (base : List Frame) : Prop := ∃ t0, base = [t0] ∧ t0.tag = "scoreDef"

theorem OpenSd.applyTop (tm : TopMod) (base : List Frame) (h : OpenSd base) : OpenSd (applyTop tm base) := by
  obtain ⟨t0, rfl, ht⟩ := h
  exact ⟨tm.on t0, applyTop_cons tm t0 [], (tm.on_tag t0).trans ht⟩

theorem closeCore_scoreDef_below (f : Frame) (b b' : String) (st : St) (h : f.tag = "scoreDef") :
    closeCore f b st = closeCore f b' st := by
  unfold closeCore
  rw [h]
  rfl

/-- `openCore` for a `scoreDef` looks at the enclosing tuplets only (to record a `@dur`) and writes nothing into its parent -/
theorem openCore_scoreDef_ctx (c c' : Ctx) (st : St) (as : List (String × String)) (h : c.tups = c'.tups) :
    openCore c st "scoreDef" as = openCore c' st "scoreDef" as ∧
    ∀ r, openCore c st "scoreDef" as = some r → r.2 = .keep := by
  rw [openCore_eq, openCore_eq, h]
  refine ⟨rfl, fun r hr => ?_⟩
  obtain ⟨es, _, he⟩ := Option.bind_eq_some_iff.mp hr
  obtain rfl := Option.some.inj he
  rfl

/-- a whole `<scoreDef>` element (its children included) changes the state in the same way with and without a grouping
    frame `x` on top of the stack below it, and leaves the stack as it found it -/
theorem sd_frame_indep (st : St) (x : Frame) (low : List Frame) (hs : st.stack = x :: low) (hx : Transparent x.tag)
    (as : List (String × String)) (inner : List Ev) (hb : Balanced inner) :
    RelOpt (fun a b => core a = core b ∧ a.stack = x :: low ∧ b.stack = low)
      (runEvs st (.op "scoreDef" as :: (inner ++ [.cl]))) (runEvs (withStack st low) (.op "scoreDef" as :: (inner ++ [.cl]))) := by
  simp only [runEvs]
  rw [stepEv_op, stepEv_op, hs]
  have htu : (ctxOf (x :: low)).tups = (ctxOf (withStack st low).stack).tups := by
    show tupletsOf (x :: low) = tupletsOf low
    exact tupletsOf_cons_of_ne hx.tuplet low
  obtain ⟨heq, hkeep⟩ := openCore_scoreDef_ctx (ctxOf (x :: low)) (ctxOf (withStack st low).stack) (core st) as htu
  rw [heq]
  have hcore : core (withStack st low) = core st := rfl
  rw [hcore]
  cases hr : openCore (ctxOf (withStack st low).stack) (core st) "scoreDef" as with
  | none => exact trivial
  | some r =>
    have hk : r.2 = .keep := hkeep r (by rw [heq, hr])
    simp only [Option.map_some, hk, applyTop_keep]
    rw [runEvs_append, runEvs_append]
    refine (run_simK OpenSd x low hx OpenSd.applyTop (fun ⟨_, h, _⟩ => nomatch h) inner 0 0
      (withStack r.1 (newFrame "scoreDef" as :: x :: low)) (withStack r.1 (newFrame "scoreDef" as :: (withStack st low).stack))
      ⟨rfl, [newFrame "scoreDef" as], Nat.zero_le _, ⟨newFrame "scoreDef" as, rfl, rfl⟩, rfl, rfl⟩ hb).bind fun a b hab => ?_
    obtain ⟨hc, _, _, ⟨t0, rfl, ht0⟩, hsa, hsb⟩ := hab
    simp only [List.drop_zero, List.cons_append, List.nil_append] at hsa hsb
    simp only [runEvs]
    rw [stepEv_cl, stepEv_cl, hsa, hsb]
    simp only []
    rw [hc, closeCore_scoreDef_below t0 (ptagOf (x :: low)) (ptagOf low) (core b) ht0]
    cases closeCore t0 (ptagOf low) (core b) with
    | none => exact trivial
    | some y => exact ⟨rfl, rfl, rfl⟩

end C19S
