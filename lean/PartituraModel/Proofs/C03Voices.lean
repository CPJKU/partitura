/-
C03 — `remove_voice_polyphony` (Model/XmlMeasure.lean `assignVoices`) keeps every note
exactly once, gives moved notes voices that were not in use, and leaves voices that MusicXML can hold.
-/
import PartituraModel.Model.XmlMeasure
import PartituraModel.Proofs.C03Sort
import PartituraModel.Proofs.Dicts
import PartituraModel.Proofs.Folds
import Mathlib.Data.List.Nodup

namespace C03.Voices
open Model.Xml C03.Sort

theorem addTo_isAppendAt : Dicts.IsAppendAt addTo := ⟨fun _ _ => rfl, fun _ _ _ _ _ => rfl⟩

theorem partition_perm (notes : List NoteIn) : ((partitionVoices notes).flatMap (·.2)).Perm notes :=
  addTo_isAppendAt.foldl_flat NoteIn.voice id notes [] |>.trans (.of_eq (List.map_id _))

theorem assignMovers_flat (ms : List NoteIn) (spans : List Span) (ex : List (Nat × List NoteIn)) :
    ((assignMovers spans ex ms).2.flatMap (·.2)).Perm (ex.flatMap (·.2) ++ ms) := by
  induction ms generalizing spans ex with
  | nil => simp [assignMovers]
  | cons n rest ih =>
    simp only [assignMovers]
    refine (ih _ _).trans ?_
    refine ((addTo_isAppendAt.flat ex _ n).append_right rest).trans ?_
    simp

theorem removeAll_eq_filter {ns m : List NoteIn} (Q : NoteIn → Bool) (hnd : (ns.map (·.idx)).Nodup)
    (hm : m.Perm (ns.filter Q)) : removeAll ns m = ns.filter (fun n => !Q n) := by
  unfold removeAll
  apply List.filter_congr
  intro n hn
  have hinj : ∀ g ∈ ns, g.idx = n.idx → g = n := fun g hg h => List.inj_on_of_nodup_map hnd hg hn h
  congr 1
  rw [Bool.eq_iff_iff, List.any_eq_true]
  constructor
  · rintro ⟨g, hg, hgi⟩
    have hg' := (List.mem_filter.mp (hm.mem_iff.mp hg))
    have : g = n := hinj g hg'.1 (by simpa using hgi)
    subst this; exact hg'.2
  · intro hq
    exact ⟨n, hm.mem_iff.mpr (List.mem_filter.mpr ⟨hn, hq⟩), by simp⟩

theorem split_perm (ns : List NoteIn) (Q : NoteIn → Bool) :
    (ns.filter (fun n => !Q n) ++ ns.filter Q).Perm ns := by
  refine List.perm_append_comm.trans ?_
  have := List.filter_append_perm Q ns
  simpa using this

theorem movers1_perm (ns : List NoteIn) :
    (movers1 ns).Perm (ns.filter fun n => !n.grace && (match chordDur ns n.onset with
      | some d => decide (d < n.dur) | none => false)) := by
  unfold movers1
  refine (((isSort onsetLt).perm _).filter _).trans ?_
  rw [List.filter_filter]
  apply List.Perm.of_eq
  apply List.filter_congr
  intro n _
  exact Bool.and_comm _ _

theorem movers2_perm (ns : List NoteIn) :
    (movers2 ns).Perm (ns.filter fun n => match nextOnset ns n.onset with
      | some o2 => decide (o2 < n.onset + n.dur) | none => false) := by
  unfold movers2
  exact ((isSort onsetLt).perm _).filter _

theorem nodup_filter_idx {ns : List NoteIn} (p : NoteIn → Bool) (h : (ns.map (·.idx)).Nodup) :
    ((ns.filter p).map (·.idx)).Nodup :=
  h.sublist ((List.filter_sublist).map _)

/-- the test both loops make: the least member of `l`, if there is one, lies below `x` -/
theorem min?_lt_iff {l : List Nat} {x : Nat} :
    (match l.min? with | some d => decide (d < x) | none => false) = true ↔ ∃ y ∈ l, y < x := by
  cases hm : l.min? with
  | none => rw [List.min?_eq_none_iff] at hm; subst hm; simp
  | some d =>
    obtain ⟨hd, hle⟩ := List.min?_eq_some_iff.mp hm
    simp only [decide_eq_true_eq]
    exact ⟨fun h => ⟨d, hd, h⟩, fun ⟨y, hy, h⟩ => Nat.lt_of_le_of_lt (hle y hy) h⟩

/-- the first loop moves a note when a note of its onset is shorter (grace notes apart) -/
theorem mem_movers1 {ns : List NoteIn} {n : NoteIn} :
    n ∈ movers1 ns ↔ n ∈ ns ∧ n.grace = false ∧ ∃ m ∈ ns, m.grace = false ∧ m.onset = n.onset ∧ m.dur < n.dur := by
  rw [(movers1_perm ns).mem_iff, List.mem_filter, Bool.and_eq_true, chordDur, min?_lt_iff]
  simp [and_assoc]

/-- the second loop moves a note when it runs past a later onset -/
theorem mem_movers2 {ns : List NoteIn} {n : NoteIn} :
    n ∈ movers2 ns ↔ n ∈ ns ∧ ∃ m ∈ ns, n.onset < m.onset ∧ m.onset < n.onset + n.dur := by
  rw [(movers2_perm ns).mem_iff, List.mem_filter, nextOnset, min?_lt_iff]
  simp [and_assoc]

theorem mem_removeAll {ns m : List NoteIn} {n : NoteIn} (Q : NoteIn → Bool) (hnd : (ns.map (·.idx)).Nodup)
    (hm : m.Perm (ns.filter Q)) : n ∈ removeAll ns m ↔ n ∈ ns ∧ n ∉ m := by
  rw [removeAll_eq_filter Q hnd hm, List.mem_filter, hm.mem_iff, List.mem_filter, Bool.not_eq_true', not_and,
    Bool.not_eq_true]
  exact ⟨fun h => ⟨h.1, fun _ => h.2⟩, fun h => ⟨h.1, h.2 h.1⟩⟩

theorem removeSingle_fst (ns : List NoteIn) (spans : List Span) (ex : List (Nat × List NoteIn)) :
    (removeSingle ns spans ex).1 =
      removeAll (removeAll ns (movers1 ns)) (movers2 (removeAll ns (movers1 ns))) := rfl

theorem removeSingle_ex (ns : List NoteIn) (spans : List Span) (ex : List (Nat × List NoteIn)) :
    (removeSingle ns spans ex).2.2 =
      (assignMovers (assignMovers spans ex (movers1 ns)).1 (assignMovers spans ex (movers1 ns)).2
        (movers2 (removeAll ns (movers1 ns)))).2 := rfl

theorem removeSingle_perm (ns : List NoteIn) (spans : List Span) (ex : List (Nat × List NoteIn))
    (hnd : (ns.map (·.idx)).Nodup) :
    ((removeSingle ns spans ex).1 ++ (removeSingle ns spans ex).2.2.flatMap (·.2)).Perm
      (ns ++ ex.flatMap (·.2)) := by
  rw [removeSingle_fst, removeSingle_ex]
  have h1 := removeAll_eq_filter _ hnd (movers1_perm ns)
  have hnd1 : ((removeAll ns (movers1 ns)).map (·.idx)).Nodup := by rw [h1]; exact nodup_filter_idx _ hnd
  have h2 := removeAll_eq_filter _ hnd1 (movers2_perm (removeAll ns (movers1 ns)))
  -- kept2 ++ (ex ++ m1 ++ m2) ~ (kept2 ++ m2) ++ m1 ++ ex ~ kept1 ++ m1 ++ ex ~ ns ++ ex
  refine (List.Perm.append_left _ (assignMovers_flat _ _ _)).trans ?_
  refine (List.Perm.append_left _ (List.Perm.append_right _ (assignMovers_flat _ _ _))).trans ?_
  have k2 : (removeAll (removeAll ns (movers1 ns)) (movers2 (removeAll ns (movers1 ns))) ++
      movers2 (removeAll ns (movers1 ns))).Perm (removeAll ns (movers1 ns)) := by
    rw [h2]
    exact (List.Perm.append_left _ (movers2_perm _)).trans (split_perm _ _)
  have k1 : (removeAll ns (movers1 ns) ++ movers1 ns).Perm ns := by
    rw [h1]
    exact (List.Perm.append_left _ (movers1_perm _)).trans (split_perm _ _)
  have : (removeAll (removeAll ns (movers1 ns)) (movers2 (removeAll ns (movers1 ns))) ++
      ((ex.flatMap (·.2) ++ movers1 ns) ++ movers2 (removeAll ns (movers1 ns)))).Perm
      ((removeAll (removeAll ns (movers1 ns)) (movers2 (removeAll ns (movers1 ns))) ++
        movers2 (removeAll ns (movers1 ns))) ++ (movers1 ns ++ ex.flatMap (·.2))) := by
    rw [List.perm_iff_count]; intro a; simp only [List.count_append]; omega
  refine this.trans ?_
  refine (k2.append_right _).trans ?_
  rw [← List.append_assoc]
  exact k1.append_right _

theorem removeLoop_cons (spans : List Span) (ex : List (Nat × List NoteIn)) (v : Nat) (ns : List NoteIn)
    (rest : List (Nat × List NoteIn)) :
    removeLoop spans ex ((v, ns) :: rest) =
      ((v, (removeSingle ns spans ex).1) ::
          (removeLoop (removeSingle ns spans ex).2.1 (removeSingle ns spans ex).2.2 rest).1,
        (removeLoop (removeSingle ns spans ex).2.1 (removeSingle ns spans ex).2.2 rest).2) := rfl

theorem removeLoop_perm (p : List (Nat × List NoteIn)) (spans : List Span) (ex : List (Nat × List NoteIn))
    (hnd : ∀ vn ∈ p, (vn.2.map (·.idx)).Nodup) :
    ((removeLoop spans ex p).1.flatMap (·.2) ++ (removeLoop spans ex p).2.2.flatMap (·.2)).Perm
      (p.flatMap (·.2) ++ ex.flatMap (·.2)) := by
  induction p generalizing spans ex with
  | nil => simp [removeLoop]
  | cons vn rest ih =>
    obtain ⟨v, ns⟩ := vn
    rw [removeLoop_cons]
    simp only [List.flatMap_cons, List.append_assoc]
    have hr := ih (removeSingle ns spans ex).2.1 (removeSingle ns spans ex).2.2
      (fun vn h => hnd vn (List.mem_cons_of_mem _ h))
    have hs := removeSingle_perm ns spans ex (hnd (v, ns) (List.mem_cons_self ..))
    refine (List.Perm.append_left _ hr).trans ?_
    -- kept ++ (rest ++ ex1) ~ rest ++ (kept ++ ex1) ~ rest ++ (ns ++ ex) ~ ns ++ rest ++ ex
    refine (List.perm_append_comm.trans ?_)
    rw [List.append_assoc]
    refine (List.Perm.append_left _ (List.perm_append_comm.trans hs)).trans ?_
    rw [← List.append_assoc, ← List.append_assoc]
    exact (List.perm_append_comm (l₁ := rest.flatMap (·.2)) (l₂ := ns)).append_right _

theorem assignVoices_eq (notes : List NoteIn) :
    assignVoices notes =
      (removeLoop [Span.all (maxVoice (partitionVoices notes))] [] (partitionVoices notes)).1 ++
      (removeLoop [Span.all (maxVoice (partitionVoices notes))] [] (partitionVoices notes)).2.2 := rfl

theorem nodup_of_flat {p : List (Nat × List NoteIn)} (h : ((p.flatMap (·.2)).map (·.idx)).Nodup) :
    ∀ vn ∈ p, (vn.2.map (·.idx)).Nodup := by
  intro vn hvn
  refine h.sublist (List.Sublist.map _ ?_)
  rw [List.flatMap_def]
  exact List.sublist_flatten_of_mem (List.mem_map.mpr ⟨vn, hvn, rfl⟩)

theorem partition_nodup (notes : List NoteIn) (hnd : (notes.map (·.idx)).Nodup) :
    ∀ vn ∈ partitionVoices notes, (vn.2.map (·.idx)).Nodup :=
  nodup_of_flat (((partition_perm notes).map _).nodup_iff.mpr hnd)

theorem assignVoices_perm (notes : List NoteIn) (hnd : (notes.map (·.idx)).Nodup) :
    ((assignVoices notes).flatMap (·.2)).Perm notes := by
  rw [assignVoices_eq, List.flatMap_append]
  have hp := partition_perm notes
  refine (removeLoop_perm _ _ [] (partition_nodup notes hnd)).trans ?_
  simpa using hp

def NonOverlap (a b : NoteIn) : Prop := ¬ (a.onset < b.onset + b.dur ∧ b.onset < a.onset + a.dur)

/-- the fold of `findFreeVoice` takes the greatest of the voices above the overlapping spans -/
theorem foldl_free_eq (spans : List Span) (s e init : Nat) :
    spans.foldl (fun fv sp => if sp.overlaps s e then max fv (sp.voice + 1) else fv) init =
      ((spans.filter (·.overlaps s e)).map (·.voice + 1)).foldl max init := by
  induction spans generalizing init with
  | nil => rfl
  | cons sp rest ih => by_cases h : sp.overlaps s e = true <;> simp [List.filter_cons, h, ih]

theorem minVoice_ge (spans : List Span) (base : Nat) (hne : spans ≠ []) (h : ∀ sp ∈ spans, base ≤ sp.voice) :
    base ≤ minVoice spans := by
  cases spans with
  | nil => exact absurd rfl hne
  | cons sp rest =>
    show base ≤ rest.foldl (fun m x => min m x.voice) sp.voice
    exact List.foldl_map (f := Span.voice) (g := min) ▸ Lists.le_foldl_min sp.voice _ base (h sp List.mem_cons_self)
      (List.forall_mem_map.mpr fun sp' h' => h sp' (List.mem_cons_of_mem _ h'))

theorem findFreeVoice_gt_base (spans : List Span) (base s e : Nat) (hne : spans ≠ [])
    (h : ∀ sp ∈ spans, base ≤ sp.voice) : base < findFreeVoice spans s e := by
  unfold findFreeVoice
  rw [foldl_free_eq]
  have := Lists.foldl_max_ge_init (minVoice spans + 1) ((spans.filter (·.overlaps s e)).map (·.voice + 1))
  have := minVoice_ge spans base hne h
  omega

theorem findFreeVoice_gt_overlap (spans : List Span) (s e : Nat) :
    ∀ sp ∈ spans, sp.overlaps s e = true → sp.voice < findFreeVoice spans s e := fun sp hsp hov => by
  unfold findFreeVoice
  rw [foldl_free_eq]
  exact Lists.foldl_max_ge_mem _ _ (sp.voice + 1) (List.mem_map.mpr ⟨sp, List.mem_filter.mpr ⟨hsp, hov⟩, rfl⟩)

/-- the state of `remove_voice_polyphony` between two notes: every span is above the base voice, every moved
    note sits in a voice above the base together with its span, and the notes of a new voice do not overlap -/
structure ExInv (base : Nat) (spans : List Span) (ex : List (Nat × List NoteIn)) : Prop where
  ne : spans ≠ []
  ge : ∀ sp ∈ spans, base ≤ sp.voice
  fresh : ∀ vn ∈ ex, base < vn.1
  apart : ∀ vn ∈ ex, vn.2.Pairwise NonOverlap
  span : ∀ vn ∈ ex, ∀ m ∈ vn.2, Span.iv m.onset (m.onset + m.dur) vn.1 ∈ spans

theorem mem_addTo {ex : List (Nat × List NoteIn)} {v : Nat} {n : NoteIn} {vn : Nat × List NoteIn}
    (h : vn ∈ addTo ex v n) :
    vn ∈ ex ∨ (vn.1 = v ∧ ((∃ ms, (v, ms) ∈ ex ∧ vn.2 = ms ++ [n]) ∨ vn.2 = [n])) := by
  induction ex with
  | nil => simp [addTo] at h; subst h; exact Or.inr ⟨rfl, Or.inr rfl⟩
  | cons e rest ih =>
    obtain ⟨w, ns⟩ := e
    unfold addTo at h
    by_cases hw : w = v
    · simp only [hw, if_true, List.mem_cons] at h
      rcases h with h | h
      · subst h; subst hw
        exact Or.inr ⟨rfl, Or.inl ⟨ns, List.mem_cons_self .., rfl⟩⟩
      · exact Or.inl (List.mem_cons_of_mem _ h)
    · simp only [hw, if_false, List.mem_cons] at h
      rcases h with h | h
      · subst h; exact Or.inl (List.mem_cons_self ..)
      · rcases ih h with h' | ⟨h1, h2⟩
        · exact Or.inl (List.mem_cons_of_mem _ h')
        · refine Or.inr ⟨h1, ?_⟩
          rcases h2 with ⟨ms, hms, e⟩ | e
          · exact Or.inl ⟨ms, List.mem_cons_of_mem _ hms, e⟩
          · exact Or.inr e

theorem exInv_step {base : Nat} {spans : List Span} {ex : List (Nat × List NoteIn)} (h : ExInv base spans ex)
    (n : NoteIn) :
    ExInv base (spans ++ [Span.iv n.onset (n.onset + n.dur) (findFreeVoice spans n.onset (n.onset + n.dur))])
      (addTo ex (findFreeVoice spans n.onset (n.onset + n.dur)) n) := by
  have hfv := findFreeVoice_gt_base spans base n.onset (n.onset + n.dur) h.ne h.ge
  have hov := findFreeVoice_gt_overlap spans n.onset (n.onset + n.dur)
  -- a note already in the voice chosen for `n` does not overlap `n`
  have hapart : ∀ ms, (findFreeVoice spans n.onset (n.onset + n.dur), ms) ∈ ex → ∀ m ∈ ms, NonOverlap m n := by
    intro ms hms m hm
    have hsp := h.span _ hms m hm
    intro hcon
    have := hov _ hsp (by simp [Span.overlaps]; exact hcon)
    simp [Span.voice] at this
  refine ⟨by simp, ?_, ?_, ?_, ?_⟩
  · intro sp hsp
    rcases List.mem_append.mp hsp with hsp | hsp
    · exact h.ge sp hsp
    · simp at hsp; subst hsp; simp [Span.voice]; omega
  · intro vn hvn
    rcases mem_addTo hvn with hvn | ⟨h1, _⟩
    · exact h.fresh vn hvn
    · rw [h1]; exact hfv
  · intro vn hvn
    rcases mem_addTo hvn with hvn | ⟨h1, h2⟩
    · exact h.apart vn hvn
    · rcases h2 with ⟨ms, hms, e⟩ | e
      · rw [e, List.pairwise_append]
        exact ⟨h.apart _ hms, by simp, fun a ha b hb => by simp at hb; subst hb; exact hapart ms hms a ha⟩
      · rw [e]; simp
  · intro vn hvn m hm
    rcases mem_addTo hvn with hvn | ⟨h1, h2⟩
    · exact List.mem_append_left _ (h.span vn hvn m hm)
    · rcases h2 with ⟨ms, hms, e⟩ | e
      · rw [e] at hm
        rcases List.mem_append.mp hm with hm | hm
        · rw [h1]; exact List.mem_append_left _ (h.span _ hms m hm)
        · simp at hm; subst hm; rw [h1]; simp
      · rw [e] at hm; simp at hm; subst hm; rw [h1]; simp

theorem movers1_sounding (ns : List NoteIn) : ∀ n ∈ movers1 ns, 0 < n.dur := fun n hn => by
  obtain ⟨_, _, m, _, _, _, h⟩ := mem_movers1.mp hn
  omega

theorem movers2_sounding (ns : List NoteIn) : ∀ n ∈ movers2 ns, 0 < n.dur := fun n hn => by
  obtain ⟨_, m, _, h1, h2⟩ := mem_movers2.mp hn
  omega

theorem removeSingle_spans (ns : List NoteIn) (spans : List Span) (ex : List (Nat × List NoteIn)) :
    (removeSingle ns spans ex).2.1 =
      (assignMovers (assignMovers spans ex (movers1 ns)).1 (assignMovers spans ex (movers1 ns)).2
        (movers2 (removeAll ns (movers1 ns)))).1 := rfl

/-- An invariant of `(voice_spans, extraneous)` that survives giving a mover — a note that sounds — the first voice free
    over its span holds after the loop of `remove_voice_polyphony`. -/
theorem removeLoop_keeps (I : List Span → List (Nat × List NoteIn) → Prop)
    (hstep : ∀ spans ex (n : NoteIn), 0 < n.dur → I spans ex →
      I (spans ++ [Span.iv n.onset (n.onset + n.dur) (findFreeVoice spans n.onset (n.onset + n.dur))])
        (addTo ex (findFreeVoice spans n.onset (n.onset + n.dur)) n)) :
    ∀ (p : List (Nat × List NoteIn)) (spans : List Span) (ex : List (Nat × List NoteIn)), I spans ex →
      I (removeLoop spans ex p).2.1 (removeLoop spans ex p).2.2 := by
  have hmovers : ∀ ms : List NoteIn, (∀ n ∈ ms, 0 < n.dur) → ∀ spans ex, I spans ex →
      I (assignMovers spans ex ms).1 (assignMovers spans ex ms).2 := by
    intro ms
    induction ms with
    | nil => intro _ _ _ h; exact h
    | cons n rest ih =>
      intro hms spans ex h
      exact ih (fun m hm => hms m (List.mem_cons_of_mem _ hm)) _ _ (hstep spans ex n (hms n (List.mem_cons_self ..)) h)
  intro p
  induction p with
  | nil => intro _ _ h; exact h
  | cons vn rest ih =>
    intro spans ex h
    obtain ⟨v, ns⟩ := vn
    rw [removeLoop_cons]
    apply ih
    rw [removeSingle_spans, removeSingle_ex]
    exact hmovers _ (movers2_sounding _) _ _ (hmovers _ (movers1_sounding _) _ _ h)

theorem new_voices_fresh (notes : List NoteIn) :
    ∀ vn ∈ (removeLoop [Span.all (maxVoice (partitionVoices notes))] [] (partitionVoices notes)).2.2,
      maxVoice (partitionVoices notes) < vn.1 ∧ vn.2.Pairwise NonOverlap := by
  have h0 : ExInv (maxVoice (partitionVoices notes)) [Span.all (maxVoice (partitionVoices notes))] [] :=
    { ne := by simp
      ge := by intro sp hsp; simp at hsp; subst hsp; simp [Span.voice]
      fresh := by intro vn h; cases h
      apart := by intro vn h; cases h
      span := by intro vn h; cases h }
  have h := removeLoop_keeps (ExInv _) (fun _ _ n _ h => exInv_step h n) (partitionVoices notes) _ _ h0
  exact fun vn hvn => ⟨h.fresh vn hvn, h.apart vn hvn⟩

/-- what a MusicXML voice can hold without `<backup>`: the non-grace notes of one onset have one duration
    (a chord), and no note runs past the next onset -/
def Monophonic (ns : List NoteIn) : Prop :=
  (∀ a ∈ ns, ∀ b ∈ ns, a.grace = false → b.grace = false → a.onset = b.onset → a.dur = b.dur) ∧
  (∀ a ∈ ns, ∀ b ∈ ns, a.onset < b.onset → a.onset + a.dur ≤ b.onset)

theorem removeSingle_monophonic (ns : List NoteIn) (spans : List Span) (ex : List (Nat × List NoteIn))
    (hnd : (ns.map (·.idx)).Nodup) : Monophonic (removeSingle ns spans ex).1 := by
  rw [removeSingle_fst]
  have hnd1 : ((removeAll ns (movers1 ns)).map (·.idx)).Nodup := by
    rw [removeAll_eq_filter _ hnd (movers1_perm ns)]; exact nodup_filter_idx _ hnd
  -- what is left is what neither loop moves
  have m1 := fun n => mem_removeAll (n := n) _ hnd (movers1_perm ns)
  have m2 := fun n => mem_removeAll (n := n) _ hnd1 (movers2_perm (removeAll ns (movers1 ns)))
  constructor
  · intro a ha b hb hga hgb hon
    obtain ⟨ha1, ha2⟩ := (m1 a).mp ((m2 a).mp ha).1
    obtain ⟨hb1, hb2⟩ := (m1 b).mp ((m2 b).mp hb).1
    have h1 : ¬ b.dur < a.dur := fun h => ha2 (mem_movers1.mpr ⟨ha1, hga, b, hb1, hgb, hon.symm, h⟩)
    have h2 : ¬ a.dur < b.dur := fun h => hb2 (mem_movers1.mpr ⟨hb1, hgb, a, ha1, hga, hon, h⟩)
    omega
  · intro a ha b hb hlt
    obtain ⟨ha1, ha2⟩ := (m2 a).mp ha
    have : ¬ b.onset < a.onset + a.dur := fun h => ha2 (mem_movers2.mpr ⟨ha1, b, ((m2 b).mp hb).1, hlt, h⟩)
    omega

theorem removeSingle_subset (ns : List NoteIn) (spans : List Span) (ex : List (Nat × List NoteIn)) :
    ∀ n ∈ (removeSingle ns spans ex).1, n ∈ ns := by
  intro n hn
  rw [removeSingle_fst] at hn
  unfold removeAll at hn
  exact (List.mem_filter.mp (List.mem_filter.mp hn).1).1

theorem kept_voices (p : List (Nat × List NoteIn)) (spans : List Span) (ex : List (Nat × List NoteIn))
    (hnd : ∀ vn ∈ p, (vn.2.map (·.idx)).Nodup) :
    ∀ vn ∈ (removeLoop spans ex p).1, Monophonic vn.2 ∧ ∃ ns, (vn.1, ns) ∈ p ∧ ∀ n ∈ vn.2, n ∈ ns := by
  induction p generalizing spans ex with
  | nil => intro vn h; simp [removeLoop] at h
  | cons e rest ih =>
    obtain ⟨v, ns⟩ := e
    rw [removeLoop_cons]
    intro vn hvn
    rcases List.mem_cons.mp hvn with h | h
    · subst h
      exact ⟨removeSingle_monophonic ns spans ex (hnd (v, ns) (List.mem_cons_self ..)),
        ns, List.mem_cons_self .., removeSingle_subset ns spans ex⟩
    · obtain ⟨hm, ns', hns', hsub⟩ := ih _ _ (fun vn h => hnd vn (List.mem_cons_of_mem _ h)) vn h
      exact ⟨hm, ns', List.mem_cons_of_mem _ hns', hsub⟩

theorem le_maxVoice {p : List (Nat × List NoteIn)} {e : Nat × List NoteIn} (h : e ∈ p) : e.1 ≤ maxVoice p :=
  (Lists.foldl_max_ge_mem 0 _ _ (List.mem_map_of_mem (f := Prod.fst) h)).trans_eq List.foldl_map

theorem partition_voice (notes : List NoteIn) :
    ∀ vn ∈ partitionVoices notes, ∀ n ∈ vn.2, n.voice = vn.1 := by
  intro vn hvn n hn
  rw [addTo_isAppendAt.foldl_group NoteIn.voice id notes vn hvn, List.map_id] at hn
  simpa using (List.mem_filter.mp hn).2

end C03.Voices
