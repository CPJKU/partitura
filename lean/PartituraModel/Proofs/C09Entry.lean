/-
C09: what the segment table and the enumerated paths provide for the unfolded part — segments
of positive length, valid indices — so that the theorems about `variant` / `suffixIds` can be stated for the public entry
points with no side condition; every entry point written through `mkSegments`, `getPaths` and `variant` (`unfoldWith_eq`).
-/
import PartituraModel.Proofs.C09Variant
import PartituraModel.Proofs.C09Walk
import PartituraModel.Model.UnfoldEntry

namespace C09
open Model.Unfold

theorem walk_indices (g : List Seg) : ∀ (p : List Nat), Walk g p →
    (∀ l, p.getLast? = some l → ∃ s, g[l]? = some s) → ∀ i ∈ p, ∃ s, g[i]? = some s := by
  intro p
  induction p with
  | nil => intro _ _ i hi; simp at hi
  | cons a rest ih =>
    intro hw hl i hi
    cases rest with
    | nil =>
      simp only [List.mem_singleton] at hi
      subst hi
      exact hl i (by simp)
    | cons b rest' =>
      obtain ⟨⟨s, hs, _⟩, hw'⟩ := hw
      rcases List.mem_cons.mp hi with rfl | hi'
      · exact ⟨s, hs⟩
      · exact ih hw' (fun l hlast => hl l (by simpa [List.getLast?_cons_cons] using hlast)) i hi'

theorem visitsFrom_some (g : List Seg) : ∀ (p : List Nat) (off : Int), (∀ i ∈ p, ∃ s, g[i]? = some s) →
    ∃ vs, visitsFrom g off p = some vs := by
  intro p
  induction p with
  | nil => intro off _; exact ⟨[], rfl⟩
  | cons a rest ih =>
    intro off h
    obtain ⟨s, hs⟩ := h a (by simp)
    obtain ⟨vs, hvs⟩ := ih (off + (s.stp - s.start)) (fun i hi => h i (List.mem_cons_of_mem _ hi))
    exact ⟨{ s := s.start, e := s.stp, off := off } :: vs, by simp [visitsFrom, hs, hvs]⟩

theorem visits_get (g : List Seg) (path : List Nat) (vs : List Visit) (h : visitsOf g path = some vs)
    (k : Nat) (v : Visit) (hv : vs[k]? = some v) :
    ∃ (j : Nat) (s : Seg), path[k]? = some j ∧ g[j]? = some s ∧ v.s = s.start ∧ v.e = s.stp := by
  obtain ⟨_, hlen, hget⟩ := visitsFrom_ok g path 0 vs h
  have hl : vs.length = path.length := by
    have := congrArg List.length hlen
    simpa [visitLens] using this
  have hk : k < path.length := by
    have := (List.getElem?_eq_some_iff.mp hv).1
    omega
  obtain ⟨s, v', hs, hv', e1, e2⟩ := hget k path[k] (List.getElem?_eq_getElem hk)
  rw [hv] at hv'
  simp only [Option.some.injEq] at hv'
  subst hv'
  exact ⟨path[k], s, List.getElem?_eq_getElem hk, hs, e1, e2⟩

theorem visits_pos (L : Layout) (g : List Seg) (hg : mkSegments L = some g) (path : List Nat) (vs : List Visit)
    (hvs : visitsOf g path = some vs) : ∀ w ∈ vs, w.s < w.e := by
  intro w hw
  obtain ⟨k, hk⟩ := List.getElem?_of_mem hw
  obtain ⟨j, sg, _, hsg, e1, e2⟩ := visits_get g path vs hvs k w hk
  have := mkSegments_pos L g hg j sg hsg
  omega

theorem unfoldWith_eq (call : Gen.C09.Src × Gen.C09.Src × Gen.C09.Src × Gen.C09.Src) (L : Layout) (p : APart)
    (upd il : Bool) (fuel : Nat) (pick : List (List Nat) → Option (List (List Nat))) :
    unfoldWith call L p upd il fuel pick =
      (mkSegments L).bind fun g =>
        (getPaths g (call.1.eval upd il) (call.2.1.eval upd il) (call.2.2.1.eval upd il) fuel).bind fun ps =>
          (pick ps).bind fun paths => paths.mapM fun path => newPartFromPath g p path (some (call.2.2.2.eval upd il)) := by
  unfold unfoldWith getPathsPart
  cases mkSegments L with
  | none => rfl
  | some g =>
    simp only [Option.bind_some, Option.getD_some]
    cases getPaths g (call.1.eval upd il) (call.2.1.eval upd il) (call.2.2.1.eval upd il) fuel <;> rfl

/-- `paths[0]`, unfolded, and the first of the one-element result -/
theorem firstPath_mapM {α : Type} (F : List Nat → Option α) (ps : List (List Nat)) :
    ((firstPath ps).bind fun paths => paths.mapM F).bind (·.head?) = ps.head?.bind F := by
  cases ps with
  | nil => rfl
  | cons a rest =>
    show (F a >>= fun x => pure [x]) >>= _ = F a
    cases F a <;> rfl

theorem unfoldWith_first (call : Gen.C09.Src × Gen.C09.Src × Gen.C09.Src × Gen.C09.Src) (L : Layout) (p : APart)
    (upd il : Bool) (fuel : Nat) :
    (unfoldWith call L p upd il fuel firstPath).bind (·.head?) =
      (mkSegments L).bind fun g =>
        (getPaths g (call.1.eval upd il) (call.2.1.eval upd il) (call.2.2.1.eval upd il) fuel).bind fun ps =>
          ps.head?.bind fun path => newPartFromPath g p path (some (call.2.2.2.eval upd il)) := by
  rw [unfoldWith_eq]
  cases mkSegments L with
  | none => rfl
  | some g =>
    simp only [Option.bind_some]
    cases getPaths g (call.1.eval upd il) (call.2.1.eval upd il) (call.2.2.1.eval upd il) fuel with
    | none => rfl
    | some ps => exact firstPath_mapM _ ps

end C09
