/-
How the six maps dispatch on the kind of their argument (Model/StepMapCalls.lean), against their scalar maps: `Pointwise`
(a call raises for every argument or for none, and otherwise answers a number with the scalar map's row and a sequence with
one row per element), its consequences, and the six instances.
-/
import PartituraModel.Model.StepMapCalls
import PartituraModel.Proofs.C10Measures

namespace C10
open Model Model.StepMap

/-- the wrapper `interp1d` as a callable is scipy's elementwise call of the scalar lookup - in the scipy branch and in
    the single-sample (broadcast) branch alike -/
theorem callInterpPrev_eq {α : Type} (tbl : Tbl α) : callInterpPrev tbl = callScipy (interpPrev tbl) := by
  funext a
  match tbl, a with
  | [(t, v)], .seq xs =>
    show Res.many (List.replicate xs.length (some v)) = Res.many (xs.map fun _ => some v)
    rw [List.map_const']
  | [(t, v)], .scalar x | [(t, v)], .zerod x | [], .scalar x | [], .zerod x | [], .seq xs => rfl
  | _ :: _ :: _, .scalar x | _ :: _ :: _, .zerod x | _ :: _ :: _, .seq xs => rfl

theorem allSomeL_map_some {β : Type} (l : List β) : allSomeL (l.map some) = some l :=
  (Lists.allSome_eq_some_iff rfl (fun _ => rfl) (fun _ _ => rfl)).mpr rfl

theorem allSomeL_map_some_comp {α β : Type} (f : α → β) (xs : List α) :
    allSomeL (xs.map fun x => some (f x)) = some (xs.map f) :=
  (congrArg allSomeL (List.map_map (f := f) (g := some) (l := xs)).symm).trans (allSomeL_map_some _)

/-- `call` against the scalar map `m`: either `m` answers at every position (`F`) and then a number gets the row `F x`,
    a sequence one row per element and a 0-dimensional array `z (F x)` (`z = .one` for five maps) - or `m` raises at every
    position and the call raises for every argument (the error comes from building the map) -/
def Pointwise {β : Type} (z : β → Res β) (m : Int → Option β) (call : Arg → Option (Res β)) : Prop :=
  (∃ F : Int → β, (∀ x, m x = some (F x)) ∧ (∀ x, call (.scalar x) = some (.one (F x))) ∧
    (∀ x, call (.zerod x) = some (z (F x))) ∧ ∀ xs, call (.seq xs) = some (.many (xs.map F))) ∨
  ((∀ x, m x = none) ∧ ∀ a, call a = none)

theorem Pointwise.of_scipy {β : Type} {m : Int → Option β} {call : Arg → Option (Res β)} (F : Int → β)
    (hm : ∀ x, m x = some (F x)) (hc : ∀ a, call a = some (callScipy F a)) : Pointwise .one m call :=
  Or.inl ⟨F, hm, fun _ => hc _, fun _ => hc _, fun _ => hc _⟩

theorem Pointwise.scalar {β : Type} {z : β → Res β} {m : Int → Option β} {call : Arg → Option (Res β)}
    (h : Pointwise z m call) (x : Int) : call (.scalar x) = (m x).map .one := by
  rcases h with ⟨F, hm, h1, -, -⟩ | ⟨hm, hc⟩
  · rw [hm, h1]; rfl
  · rw [hm, hc]; rfl

theorem Pointwise.zerod {β : Type} {z : β → Res β} {m : Int → Option β} {call : Arg → Option (Res β)}
    (h : Pointwise z m call) (x : Int) : call (.zerod x) = (m x).map z := by
  rcases h with ⟨F, hm, -, h2, -⟩ | ⟨hm, hc⟩
  · rw [hm, h2]; rfl
  · rw [hm, hc]; rfl

/-- for a non-empty sequence: an empty one cannot tell a map that raises from one that answers (`seq_nil`) -/
theorem Pointwise.seq {β : Type} {z : β → Res β} {m : Int → Option β} {call : Arg → Option (Res β)}
    (h : Pointwise z m call) (xs : List Int) (hne : xs ≠ []) :
    call (.seq xs) = (allSomeL (xs.map m)).map .many := by
  rcases h with ⟨F, hm, -, -, h3⟩ | ⟨hm, hc⟩
  · rw [h3, funext hm, allSomeL_map_some_comp]
    rfl
  · obtain ⟨x, rest, rfl⟩ := List.exists_cons_of_ne_nil hne
    rw [hc, List.map_cons, hm]
    rfl

/-- any `x` will do: the map raises everywhere or nowhere -/
theorem Pointwise.seq_nil {β : Type} {z : β → Res β} {m : Int → Option β} {call : Arg → Option (Res β)}
    (h : Pointwise z m call) (x : Int) : call (.seq []) = (m x).map fun _ => .many [] := by
  rcases h with ⟨F, hm, -, -, h3⟩ | ⟨hm, hc⟩
  · rw [hm, h3]; rfl
  · rw [hm, hc]; rfl

/-- one row for a number, an array for a sequence; for a 0-dimensional array what `z` makes of a row -/
theorem Pointwise.shape {β : Type} {z : β → Res β} {m : Int → Option β} {call : Arg → Option (Res β)}
    (h : Pointwise z m call) (b : Bool) (hz : ∀ r, (z r).isOne = b) :
    (∀ x r, call (.scalar x) = some r → r.isOne = true) ∧ (∀ x r, call (.zerod x) = some r → r.isOne = b) ∧
    (∀ xs r, call (.seq xs) = some r → r.isOne = false) := by
  rcases h with ⟨F, -, h1, h2, h3⟩ | ⟨-, hc⟩
  · refine ⟨fun x r hr => ?_, fun x r hr => ?_, fun xs r hr => ?_⟩
    · rw [h1] at hr; cases hr; rfl
    · rw [h2] at hr; cases hr; exact hz _
    · rw [h3] at hr; cases hr; rfl
  · refine ⟨fun x r hr => ?_, fun x r hr => ?_, fun xs r hr => ?_⟩ <;> rw [hc] at hr <;> cases hr

theorem Pointwise.shape_one {β : Type} {z : β → Res β} {m : Int → Option β} {call : Arg → Option (Res β)}
    (h : Pointwise z m call) (hz : ∀ r, (z r).isOne = true) (a : Arg) (r : Res β) (hr : call a = some r) : r.isOne = a.isZeroDim := by
  obtain ⟨s1, s2, s3⟩ := h.shape true hz
  cases a with
  | scalar x => exact s1 x r hr
  | zerod x => exact s2 x r hr
  | seq xs => exact s3 xs r hr

theorem pointwise_interp {α : Type} (tbl : Tbl α) :
    Pointwise .one (fun x => some (interpPrev tbl x)) (fun a => some (callInterpPrev tbl a)) :=
  .of_scipy _ (fun _ => rfl) fun _ => by rw [callInterpPrev_eq]

theorem pointwise_measure (p : PartD) : Pointwise .one (measureMapP p) (callMeasure p) := by
  unfold measureMapP callMeasure
  rw [callInterpPrev_eq]
  cases raisesP p
  · exact .of_scipy _ (fun _ => rfl) fun _ => rfl
  · exact Or.inr ⟨fun _ => rfl, fun _ => rfl⟩

theorem pointwise_number (p : PartD) : Pointwise .one (measureNumberMapP p) (callMeasureNumber p) := by
  unfold measureNumberMapP callMeasureNumber
  cases raisesP p
  · cases measureNumberTable p.span p.ms (beatsPerBar p) (divsPerBeat p) with
    | none => exact Or.inr ⟨fun _ => rfl, fun _ => rfl⟩
    | some tbl => exact .of_scipy (interpPrev tbl) (fun _ => rfl) fun a => congrArg some (congrFun (callInterpPrev_eq tbl) a)
  · exact Or.inr ⟨fun _ => rfl, fun _ => rfl⟩

/-- `clef_map`: the collator stacks the answers of the per-staff interpolators, seen per position -/
theorem pointwise_clef (span : Span) (clefs : List RawClef) (others : List Int) :
    Pointwise .one (clefMap span clefs others) (callClef span clefs others) := by
  unfold clefMap callClef
  cases clefRows clefs with
  | none => exact Or.inr ⟨fun _ => rfl, fun _ => rfl⟩
  | some rows =>
    cases clefSignToInt "none" with
    | none => exact Or.inr ⟨fun _ => rfl, fun _ => rfl⟩
    | some noneCode =>
      refine .of_scipy _ (fun _ => rfl) fun a => ?_
      simp only [callInterpPrev_eq, List.map_map, Option.some.injEq]
      cases a with
      | scalar x => rfl
      | zerod x => rfl
      | seq xs =>
        -- row `j` of the stacked array holds the `j`-th answer of every staff
        simp only [callScipy, Res.many.injEq]
        apply List.ext_getElem
        · simp
        · intro j h1 h2
          simp only [List.length_map, List.length_range] at h1
          simp only [List.getElem_map, List.getElem_range, Function.comp_def]
          apply List.map_congr_left
          intro i _
          show ((xs.map _)[j]?).join = _
          rw [List.getElem?_map, List.getElem?_eq_getElem h1]
          rfl

/-- `metrical_position_map` given the bar lookups: `PPoly` and the wrapper answer elementwise and `np.column_stack` (the
    tuple, for a number) puts the two answers side by side; a 0-dimensional array passes the `Iterable` test, so it gets a
    one-row array when there are measures -/
theorem pointwise_metricalOfBars (look : List (Int × Int)) :
    Pointwise (fun r => if look.isEmpty then .one r else .many [r]) (metricalOfBars look) (callMetricalOfBars look) := by
  cases hl : look.getLast? with
  | none =>
    obtain rfl : look = [] := List.getLast?_eq_none_iff.mp hl
    exact Or.inl ⟨fun _ => (0, some 0), fun _ => rfl, fun _ => rfl, fun _ => rfl, fun _ => rfl⟩
  | some last =>
    have hne : look ≠ [] := fun h => by rw [h] at hl; cases hl
    have hemp : look.isEmpty = false := List.isEmpty_eq_false_iff.mpr hne
    -- the position never is NaN (`PPoly` extrapolates): `b x` is the bar line it is measured from
    obtain ⟨b, hb⟩ : ∃ b : Int → Int, ∀ x, lookupPrev ((look.map (·.1)).map fun s => (s, s)) x = some (b x) :=
      ⟨fun x => (lookupPrev ((look.map (·.1)).map fun s => (s, s)) x).getD 0, fun x => by
        obtain ⟨v, hv⟩ := Option.isSome_iff_exists.mp (lookupPrev_isSome ((look.map (·.1)).map fun s => (s, s)) x
          fun h => hne (List.map_eq_nil_iff.mp (List.map_eq_nil_iff.mp h)))
        simp only [hv, Option.getD_some]⟩
    refine Or.inl ⟨fun x => (x - b x, interpPrev ((look.map (·.1)).zip (diffs (look.map (·.1) ++ [last.2]))) x),
      fun x => ?_, fun x => ?_, fun x => ?_, fun xs => ?_⟩
    · simp only [metricalOfBars, hl, hb]
    · simp only [callMetricalOfBars, hl, callScipy, callInterpPrev_eq, hb, Arg.isIterable, Bool.false_eq_true, if_false,
        Option.map_some]
    · simp only [callMetricalOfBars, hl, callScipy, callInterpPrev_eq, hb, Arg.isIterable, if_true, Option.map_some,
        columnStack, hemp, Bool.false_eq_true, if_false]
    · simp only [callMetricalOfBars, hl, callScipy, callInterpPrev_eq, hb, Arg.isIterable, if_true, Option.map_some,
        columnStack, List.zip_map']
      rw [List.map_map]
      exact congrArg (Option.map Res.many) (allSomeL_map_some_comp _ xs)

theorem pointwise_metrical (p : PartD) :
    Pointwise (fun r => if p.ms.isEmpty then .one r else .many [r]) (metricalMapP p) (callMetrical p) := by
  unfold metricalMapP callMetrical metricalFromTable
  cases raisesP p with
  | true => exact Or.inr ⟨fun _ => rfl, fun _ => rfl⟩
  | false =>
    cases hb : barLookups (measureTableP p) (bars p) with
    | none => exact Or.inr ⟨fun _ => rfl, fun _ => rfl⟩
    | some look =>
      -- `look` is empty exactly when the part has no measures
      have hemp : look.isEmpty = p.ms.isEmpty :=
        (barLookups_isEmpty _ _ _ hb).trans (by unfold bars; cases p.ms <;> rfl)
      exact hemp ▸ pointwise_metricalOfBars look

end C10
