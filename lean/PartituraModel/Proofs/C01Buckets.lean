/-
C01 helper lemmas: the class-keyed `defaultdict(_OrderedSet)` registries (Model/TimelineBuckets.lean)
against the flat insertion-ordered list of Model/Timeline.lean.
-/
import PartituraModel.Model.TimelineBuckets
import PartituraModel.Proofs.C01Query

namespace TL

/-- the dictionary `b` represents the flat list `flat`: each bucket is the list's objects of exactly that class,
in the list's order, and every class that occurs has a key -/
structure Rep (b : Buckets) (flat : List ObjRef) : Prop where
  keys : (b.map (·.1)).Nodup
  bucket : ∀ e ∈ b, e.2 = flat.filter (fun o => o.cls == e.1)
  cover : ∀ o ∈ flat, o.cls ∈ b.map (·.1)

theorem classWalk_eq_classOrder : @classWalk = @classOrder := rfl

theorem rep_empty : Rep [] [] := ⟨List.nodup_nil, by simp, by simp⟩

theorem Rep.no_key {b : Buckets} {flat : List ObjRef} (h : Rep b flat) {c : Nat} (hc : c ∉ b.map (·.1)) :
    flat.filter (fun o => o.cls == c) = [] := by
  rw [List.filter_eq_nil_iff]
  intro o ho
  have := h.cover o ho
  simp only [beq_iff_eq]
  rintro rfl
  exact hc this

theorem touch_of_key {b : Buckets} {c : Nat} (hk : c ∈ b.map (·.1)) : b.touch c = b :=
  if_pos ((Dicts.any_key_iff Prod.fst b c).mpr hk)

theorem touch_of_not_key {b : Buckets} {c : Nat} (hk : c ∉ b.map (·.1)) : b.touch c = b ++ [(c, [])] :=
  if_neg (fun hc => hk ((Dicts.any_key_iff Prod.fst b c).mp hc))

theorem rep_touch {b : Buckets} {flat : List ObjRef} (h : Rep b flat) (c : Nat) : Rep (b.touch c) flat := by
  by_cases hk : c ∈ b.map (·.1)
  · rw [touch_of_key hk]; exact h
  · rw [touch_of_not_key hk]
    refine ⟨?_, ?_, ?_⟩
    · rw [List.map_append]
      exact Lists.nodup_concat h.keys hk
    · intro e he
      rcases List.mem_append.mp he with he | he
      · exact h.bucket e he
      · rw [List.mem_singleton.mp he]
        exact (h.no_key hk).symm
    · intro o ho
      rw [List.map_append]
      exact List.mem_append_left _ (h.cover o ho)

theorem touch_has_key (b : Buckets) (c : Nat) : c ∈ (b.touch c).map (·.1) := by
  by_cases hk : c ∈ b.map (·.1)
  · rw [touch_of_key hk]; exact hk
  · rw [touch_of_not_key hk, List.map_append]
    exact List.mem_append_right _ List.mem_cons_self

theorem update_keys (b : Buckets) (c : Nat) (f : List ObjRef → List ObjRef) :
    (b.update c f).map (·.1) = (b.touch c).map (·.1) := by
  unfold Buckets.update
  rw [List.map_map]
  apply List.map_congr_left
  intro e _
  simp only [Function.comp]
  split <;> rfl

theorem rep_update {b : Buckets} {flat flat' : List ObjRef} (h : Rep b flat) (c : Nat)
    (f : List ObjRef → List ObjRef)
    (hf : ∀ c', flat'.filter (fun o => o.cls == c')
      = if c' = c then f (flat.filter (fun o => o.cls == c)) else flat.filter (fun o => o.cls == c'))
    (hcov : ∀ o ∈ flat', o.cls = c ∨ o ∈ flat) : Rep (b.update c f) flat' := by
  have ht := rep_touch h c
  refine ⟨by rw [update_keys]; exact ht.keys, ?_, ?_⟩
  · intro e' he'
    unfold Buckets.update at he'
    obtain ⟨e, he, rfl⟩ := List.mem_map.mp he'
    have hb := ht.bucket e he
    by_cases hk : e.1 = c
    · simp only [hk, if_true]
      rw [hf c, if_pos rfl, hb, hk]
    · simp only [hk, if_false]
      rw [hf e.1, if_neg hk, hb]
  · intro o ho
    rw [update_keys]
    rcases hcov o ho with hc | hm
    · rw [hc]; exact touch_has_key b c
    · exact ht.cover o hm

theorem filter_regAdd (l : List ObjRef) (o : ObjRef) (c : Nat) :
    (regAdd l o).filter (fun x => x.cls == c)
      = if c = o.cls then regAdd (l.filter (fun x => x.cls == o.cls)) o else l.filter (fun x => x.cls == c) := by
  unfold regAdd
  by_cases hm : o ∈ l
  · simp only [hm, if_true]
    by_cases hc : c = o.cls
    · subst hc
      have : o ∈ l.filter (fun x => x.cls == o.cls) := List.mem_filter.mpr ⟨hm, by simp⟩
      simp [this]
    · simp [hc]
  · simp only [hm, if_false, List.filter_append]
    by_cases hc : c = o.cls
    · subst hc
      have : o ∉ l.filter (fun x => x.cls == o.cls) := fun h => hm (List.mem_filter.mp h).1
      simp [this]
    · have : ¬ o.cls = c := fun e => hc e.symm
      simp [hc, this]

theorem filter_regRemove (l : List ObjRef) (o : ObjRef) (c : Nat) :
    (regRemove l o).filter (fun x => x.cls == c)
      = if c = o.cls then regRemove (l.filter (fun x => x.cls == o.cls)) o else l.filter (fun x => x.cls == c) := by
  unfold regRemove
  rw [List.filter_filter]
  by_cases hc : c = o.cls
  · subst hc
    simp only [if_true, List.filter_filter]
    apply List.filter_congr
    intro x _
    simp [Bool.and_comm]
  · simp only [hc, if_false]
    apply List.filter_congr
    intro x _
    by_cases hx : x.cls = c
    · have : x ≠ o := by rintro rfl; exact hc hx.symm
      simp [hx, this]
    · simp [hx]

theorem rep_add {b : Buckets} {flat : List ObjRef} (h : Rep b flat) (o : ObjRef) :
    Rep (b.add o) (regAdd flat o) := by
  refine rep_update h o.cls _ (fun c' => filter_regAdd flat o c') ?_
  intro x hx
  rcases mem_regAdd.mp hx with hx | rfl
  · exact Or.inr hx
  · exact Or.inl rfl

theorem rep_removeTouch {b : Buckets} {flat : List ObjRef} (h : Rep b flat) (o : ObjRef) :
    Rep (b.removeTouch o) (regRemove flat o) := by
  refine rep_update h o.cls _ (fun c' => filter_regRemove flat o c') ?_
  intro x hx
  exact Or.inr (mem_regRemove.mp hx).1

theorem rep_removeIfKey {b : Buckets} {flat : List ObjRef} (h : Rep b flat) (o : ObjRef) :
    Rep (b.removeIfKey o) (regRemove flat o) := by
  unfold Buckets.removeIfKey
  by_cases hk : o.cls ∈ b.map (·.1)
  · rw [if_pos ((Dicts.any_key_iff Prod.fst b o.cls).mpr hk)]
    exact rep_removeTouch h o
  · rw [if_neg (fun hc => hk ((Dicts.any_key_iff Prod.fst b o.cls).mp hc))]
    have : regRemove flat o = flat := regRemove_of_not_mem (fun ho => hk (h.cover o ho))
    rw [this]
    exact h

theorem length_filter_add_not {α : Type} (p : α → Bool) (l : List α) :
    (l.filter p).length + (l.filter (fun a => !p a)).length = l.length := by
  induction l with
  | nil => rfl
  | cons a l ih =>
    cases h : p a <;>
      simp only [List.filter_cons, h, Bool.not_true, Bool.not_false, if_true, Bool.false_eq_true, if_false,
        List.length_cons] <;> omega

/-- `sum(len(bucket))` is the length of the flat list -/
theorem rep_total : ∀ {b : Buckets} {flat : List ObjRef}, Rep b flat → b.total = flat.length
  | [], flat, h => by
    have : flat = [] := by
      cases flat with
      | nil => rfl
      | cons o r => have := h.cover o (by simp); simp at this
    subst this; rfl
  | e :: rest, flat, h => by
    -- peel off the first key: the other buckets represent the list filtered to the other classes
    have hk : e.1 ∉ rest.map (·.1) ∧ (rest.map (·.1)).Nodup := by
      have := h.keys
      rw [List.map_cons] at this
      exact List.nodup_cons.mp this
    have hrest : Rep rest (flat.filter (fun o => !(o.cls == e.1))) := by
      refine ⟨hk.2, ?_, ?_⟩
      · intro e' he'
        rw [h.bucket e' (by simp [he']), List.filter_filter]
        apply List.filter_congr
        intro x _
        by_cases hx : x.cls = e'.1
        · have : ¬ x.cls = e.1 := by
            rw [hx]; rintro heq
            exact hk.1 (heq ▸ List.mem_map_of_mem he')
          have e1 : (x.cls == e'.1) = true := by simpa using hx
          have e2 : (x.cls == e.1) = false := by simpa using this
          rw [e1, e2]; rfl
        · have e1 : (x.cls == e'.1) = false := by simpa using hx
          rw [e1]; simp
      · intro o ho
        obtain ⟨hm, hne⟩ := List.mem_filter.mp ho
        have := h.cover o hm
        simp only [List.map_cons, List.mem_cons] at this
        rcases this with heq | hin
        · simp [heq] at hne
        · exact hin
    have ih := rep_total hrest
    have hb := h.bucket e (by simp)
    simp only [Buckets.total, List.map_cons, List.sum_cons] at ih ⊢
    rw [hb, ih]
    exact length_filter_add_not (fun (o : ObjRef) => o.cls == e.1) flat

end TL
