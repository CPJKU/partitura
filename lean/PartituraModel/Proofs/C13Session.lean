/-
C13 — stores of argument objects: two stores whose objects are pairwise read the same way (`StoreEquiv`) bind every
keyword to values that resolve the same way, so a call cannot tell them apart.
-/
import PartituraModel.Model.PianoRollSession
import Mathlib.Data.List.Forall2

namespace C13
open Model Model.PianoRoll
open List

/-- two argument objects that every call reads the same way -/
def ArgObj.Equiv (o o' : ArgObj) : Prop :=
  resolveTimeDiv (some o.asTimeDiv) = resolveTimeDiv (some o'.asTimeDiv) ∧
  o.asTimeMargin = o'.asTimeMargin ∧
  resolveEndTime (some o.asEndTime) = resolveEndTime (some o'.asEndTime)

def StoreEquiv : Store → Store → Prop
  | [], [] => True
  | o :: st, o' :: st' => ArgObj.Equiv o o' ∧ StoreEquiv st st'
  | _, _ => False

theorem storeEquiv_iff (st st' : Store) : StoreEquiv st st' ↔ Forall₂ ArgObj.Equiv st st' := by
  induction st generalizing st' with
  | nil => cases st' <;> simp [StoreEquiv]
  | cons o st ih => cases st' <;> simp [StoreEquiv, ih]

theorem StoreEquiv.get {st st' : Store} (h : StoreEquiv st st') (i : Nat) :
    (st[i]? = none ∧ st'[i]? = none) ∨ ∃ o o', st[i]? = some o ∧ st'[i]? = some o' ∧ ArgObj.Equiv o o' := by
  have h2 := (storeEquiv_iff st st').mp h
  by_cases hi : i < st.length
  · have hi' : i < st'.length := h2.length_eq ▸ hi
    exact Or.inr ⟨_, _, getElem?_eq_getElem hi, getElem?_eq_getElem hi', h2.get hi hi'⟩
  · exact Or.inl ⟨getElem?_eq_none (Nat.le_of_not_lt hi), getElem?_eq_none (h2.length_eq ▸ Nat.le_of_not_lt hi)⟩

/-- a keyword bound in two equivalent stores: both calls are outside the model, or both see a value, and the two
    values are equal or (when bound by address) related as the two objects are -/
theorem bindArg_equiv {α : Type} {st st' : Store} (h : StoreEquiv st st') (f : ArgObj → Option α) (R : α → α → Prop)
    (hf : ∀ o o', ArgObj.Equiv o o' → (f o = none ∧ f o' = none) ∨ ∃ x x', f o = some x ∧ f o' = some x' ∧ R x x')
    (a : Option Nat) (dflt : Option α) :
    (bindArg st a f dflt = none ∧ bindArg st' a f dflt = none) ∨
    ∃ x x', bindArg st a f dflt = some x ∧ bindArg st' a f dflt = some x' ∧
      (x = x' ∨ ∃ t t', x = some t ∧ x' = some t' ∧ R t t') := by
  cases a with
  | none => exact Or.inr ⟨dflt, dflt, rfl, rfl, Or.inl rfl⟩
  | some i =>
    rcases h.get i with ⟨h1, h2⟩ | ⟨o, o', h1, h2, ho⟩
    · left; simp only [bindArg, h1, h2, and_self]
    · rcases hf o o' ho with ⟨h3, h4⟩ | ⟨x, x', h3, h4, hr⟩
      · left; simp only [bindArg, h1, h2, h3, h4, and_self]
      · right
        exact ⟨some x, some x', by simp only [bindArg, h1, h3], by simp only [bindArg, h2, h4],
          Or.inr ⟨x, x', rfl, rfl, hr⟩⟩

theorem cpk_congr (kind : String) (a : NoteArray) (kw kw' : KwArgs)
    (h1 : kw.timeUnit = kw'.timeUnit) (h2 : kw.onsetOnly = kw'.onsetOnly) (h3 : kw.noteSep = kw'.noteSep)
    (h4 : kw.pitchMargin = kw'.pitchMargin) (h5 : kw.timeMargin = kw'.timeMargin) (h6 : kw.returnIdxs = kw'.returnIdxs)
    (h7 : kw.pianoRange = kw'.pianoRange) (h8 : kw.removeDrums = kw'.removeDrums)
    (h9 : kw.removeSilence = kw'.removeSilence) (h10 : kw.binary = kw'.binary)
    (htd : resolveTimeDiv kw.timeDiv = resolveTimeDiv kw'.timeDiv)
    (het : resolveEndTime kw.endTime = resolveEndTime kw'.endTime) :
    computePianorollKw kind a kw = computePianorollKw kind a kw' := by
  unfold computePianorollKw resolveArgs
  simp only [h1, h2, h3, h4, h5, h6, h7, h8, h9, h10, htd, het]

/-- the three keywords a call may take from the store, as `derefKw` and `derefPc` read them -/
def binds (st : Store) (td tm et : Option Nat) (dtd : Option TimeDivArg) (dtm : Option Rat) (det : Option EndTimeArg) :
    Option (Option TimeDivArg × Option Rat × Option EndTimeArg) :=
  match bindArg st td (fun o => some o.asTimeDiv) dtd, bindArg st tm ArgObj.asTimeMargin dtm,
        bindArg st et (fun o => some o.asEndTime) det with
  | some x, some m, some e => some (x, m, e)
  | _, _, _ => none

theorem derefKw_eq (st : Store) (r : KwRef) :
    derefKw st r = (binds st r.td r.tm r.et r.kw.timeDiv r.kw.timeMargin r.kw.endTime).map fun b =>
      { r.kw with timeDiv := b.1, timeMargin := b.2.1, endTime := b.2.2 } := by
  unfold derefKw binds
  cases bindArg st r.td (fun o => some o.asTimeDiv) r.kw.timeDiv <;>
    cases bindArg st r.tm ArgObj.asTimeMargin r.kw.timeMargin <;>
    cases bindArg st r.et (fun o => some o.asEndTime) r.kw.endTime <;> rfl

theorem derefPc_eq (st : Store) (r : PcRef) :
    derefPc st r = (binds st r.td r.tm r.et r.kw.timeDiv r.kw.timeMargin r.kw.endTime).map fun b =>
      { r.kw with timeDiv := b.1, timeMargin := b.2.1, endTime := b.2.2 } := by
  unfold derefPc binds
  cases bindArg st r.td (fun o => some o.asTimeDiv) r.kw.timeDiv <;>
    cases bindArg st r.tm ArgObj.asTimeMargin r.kw.timeMargin <;>
    cases bindArg st r.et (fun o => some o.asEndTime) r.kw.endTime <;> rfl

/-- in two equivalent stores both calls are outside the model, or both see three values: the same margin, and a
    `time_div` and an `end_time` that are equal or resolve alike -/
theorem binds_equiv {st st' : Store} (h : StoreEquiv st st') (td tm et : Option Nat)
    (dtd : Option TimeDivArg) (dtm : Option Rat) (det : Option EndTimeArg) :
    (binds st td tm et dtd dtm det = none ∧ binds st' td tm et dtd dtm det = none) ∨
    ∃ x x' m e e', binds st td tm et dtd dtm det = some (x, m, e) ∧ binds st' td tm et dtd dtm det = some (x', m, e') ∧
      (x = x' ∨ ∃ t t', x = some t ∧ x' = some t' ∧ resolveTimeDiv (some t) = resolveTimeDiv (some t')) ∧
      (e = e' ∨ ∃ t t', e = some t ∧ e' = some t' ∧ resolveEndTime (some t) = resolveEndTime (some t')) := by
  have Htd := bindArg_equiv h (fun o => some o.asTimeDiv)
    (fun t t' => resolveTimeDiv (some t) = resolveTimeDiv (some t'))
    (fun o o' ho => Or.inr ⟨_, _, rfl, rfl, ho.1⟩) td dtd
  have Htm := bindArg_equiv h ArgObj.asTimeMargin (fun t t' => t = t')
    (fun o o' ho => by
      have := ho.2.1
      cases hx : o.asTimeMargin with
      | none => exact Or.inl ⟨rfl, by rw [← this, hx]⟩
      | some x => exact Or.inr ⟨x, x, rfl, by rw [← this, hx], rfl⟩) tm dtm
  have Het := bindArg_equiv h (fun o => some o.asEndTime)
    (fun t t' => resolveEndTime (some t) = resolveEndTime (some t'))
    (fun o o' ho => Or.inr ⟨_, _, rfl, rfl, ho.2.2⟩) et det
  unfold binds
  rcases Htd with ⟨a1, a2⟩ | ⟨x, x', a1, a2, a3⟩
  · exact Or.inl (by simp only [a1, a2, and_self])
  rcases Htm with ⟨b1, b2⟩ | ⟨m, m', b1, b2, b3⟩
  · exact Or.inl (by simp only [a1, a2, b1, b2, and_self])
  rcases Het with ⟨c1, c2⟩ | ⟨e, e', c1, c2, c3⟩
  · exact Or.inl (by simp only [a1, a2, b1, b2, c1, c2, and_self])
  have hm : m = m' := by
    rcases b3 with rfl | ⟨t, t', rfl, rfl, rfl⟩ <;> rfl
  subst hm
  exact Or.inr ⟨x, x', m, e, e', by simp only [a1, b1, c1], by simp only [a2, b2, c2], a3, c3⟩

theorem apply_of_rel {α β : Type} (f : Option α → β) {x x' : Option α}
    (h : x = x' ∨ ∃ t t', x = some t ∧ x' = some t' ∧ f (some t) = f (some t')) : f x = f x' := by
  rcases h with rfl | ⟨t, t', rfl, rfl, h⟩
  · rfl
  · exact h

end C13
