/-
C19 — the kern writer, character level: the token `KernWrite.noteTok` writes for an exportable note, grace note
or rest is parsed by `Kern.parseSub` into a sub-token that means that event (`noteTok_spec`).
-/
import PartituraModel.Model.KernWrite
import PartituraModel.Proofs.C19
import PartituraModel.Proofs.Digits
import PartituraModel.Proofs.Lists

namespace C19W
open Model Model.Kern Model.KernWrite C19P

abbrev plainProf (num letters : List Char) (dots sharps flats : Nat) : Prof :=
  ⟨num, letters, dots, sharps, flats, false, false, false, false, false, false⟩

/-- `prof` goes character by character: it agrees on `l` with any additive `mk` that agrees with it on the
    characters of `l` -/
theorem prof_eq_of_chars (mk : List Char → Prof) (h0 : mk [] = prof [])
    (hadd : ∀ c l, mk (c :: l) = (mk [c]).add (mk l)) (l : List Char) (h : ∀ c ∈ l, prof [c] = mk [c]) : prof l = mk l := by
  induction l with
  | nil => exact h0.symm
  | cons c rest ih =>
    rw [hadd, ← h c (by simp), ← ih fun x hx => h x (by simp [hx]), ← prof_append]
    rfl

theorem prof_num (l : List Char) (h : ∀ c ∈ l, prof [c] = plainProf [c] [] 0 0 0) : prof l = plainProf l [] 0 0 0 :=
  prof_eq_of_chars (fun l => plainProf l [] 0 0 0) rfl (fun _ _ => rfl) l h

theorem prof_letters (l : List Char) (h : ∀ c ∈ l, prof [c] = plainProf [] [c] 0 0 0) : prof l = plainProf [] l 0 0 0 :=
  prof_eq_of_chars (fun l => plainProf [] l 0 0 0) rfl (fun _ _ => rfl) l h

theorem prof_dots (k : Nat) : prof (List.replicate k '.') = plainProf [] [] k 0 0 := by
  simpa using prof_eq_of_chars (fun l => plainProf [] [] l.length 0 0) rfl (fun _ _ => by simp [Prof.add, Nat.add_comm])
    (List.replicate k '.') fun c hc => by rw [List.eq_of_mem_replicate hc]; rfl

export Digits (digitChars natDigits_mem)

theorem digitChars_facts : ∀ c ∈ digitChars, c.isDigit = true ∧ c ≠ ' ' ∧ c ≠ 'M' ∧ c ≠ '/' ∧ c ≠ '%' := by decide +kernel

theorem recipAlphabet_prof : ∀ c ∈ '%' :: digitChars, prof [c] = plainProf [c] [] 0 0 0 := by decide +kernel

theorem prof_natDigits (n : Nat) : prof (natDigits n) = ⟨natDigits n, [], 0, 0, 0, false, false, false, false, false, false⟩ :=
  prof_num _ fun c hc => recipAlphabet_prof c (List.mem_cons_of_mem _ (natDigits_mem n c hc))

theorem natDigits_all (n : Nat) : (natDigits n).all Char.isDigit = true :=
  List.all_eq_true.mpr (Digits.natDigits_isDigit n)

theorem percent_not_natDigits (n : Nat) : '%' ∉ natDigits n :=
  fun h => absurd (Digits.natDigits_isDigit n _ h) (by decide)

theorem allZeros_digitsToNat (l : List Char) (h : l.all (· = '0') = true) : digitsToNat l = 0 := by
  unfold digitsToNat
  suffices ∀ acc, acc = 0 → l.foldl (fun n c => 10 * n + (c.toNat - '0'.toNat)) acc = 0 from this 0 rfl
  induction l with
  | nil => exact fun acc h0 => h0
  | cons c rest ih =>
    intro acc h0
    simp only [List.all_cons, Bool.and_eq_true, decide_eq_true_eq] at h
    rw [List.foldl_cons, h0, h.1]
    exact ih h.2 _ rfl

theorem parseRecip_natDigits (m : Nat) (hm : 0 < m) : parseRecip (natDigits m) = some (.num m) := by
  have hz : (natDigits m).all (· = '0') = false := by
    by_contra hc
    have := allZeros_digitsToNat _ (by simpa using hc)
    rw [Digits.digitsToNat_natDigits] at this
    omega
  simp only [parseRecip, List.splitOn_eq_singleton (percent_not_natDigits m)]
  simp [Digits.natDigits_ne_nil, natDigits_all, hz, Digits.digitsToNat_natDigits]

theorem parseRecip_frac (a b : Nat) :
    parseRecip (natDigits a ++ '%' :: natDigits b) = some (.frac a b) := by
  simp only [parseRecip, List.splitOn_append_cons_self_of_not_mem (percent_not_natDigits a),
    List.splitOn_eq_singleton (percent_not_natDigits b)]
  simp [Digits.natDigits_ne_nil, natDigits_all, Digits.digitsToNat_natDigits]

theorem recipChars_value (r : Rat) (hr : 0 < r) :
    ∃ R, parseRecip (recipChars r) = some R ∧ baseValue R = some (4 / r) ∧
      (∀ c ∈ recipChars r, c ∈ '%' :: digitChars) ∧ ∃ h rest, recipChars r = h :: rest ∧ h ∈ digitChars := by
  have hnum : 0 < r.num := Rat.num_pos.mpr hr
  have hcast : ((r.num.toNat : Nat) : Rat) = (r.num : Rat) := by
    have : ((r.num.toNat : Nat) : Int) = r.num := Int.toNat_of_nonneg (le_of_lt hnum)
    exact_mod_cast this
  have hn0 : r.num.toNat ≠ 0 := by omega
  have hrd := Rat.num_div_den r
  have hdig := fun (k : Nat) c hc => List.mem_cons_of_mem '%' (natDigits_mem k c hc)
  obtain ⟨h, tl, hnd⟩ := List.exists_cons_of_ne_nil (Digits.natDigits_ne_nil r.num.toNat)
  have hh : h ∈ digitChars := natDigits_mem r.num.toNat h (by rw [hnd]; simp)
  unfold recipChars
  by_cases hden : r.den = 1
  · rw [if_pos hden]
    refine ⟨.num r.num.toNat, parseRecip_natDigits _ (by omega), ?_, hdig _, h, tl, hnd, hh⟩
    rw [hden] at hrd
    simp only [Nat.cast_one, div_one] at hrd
    simp only [baseValue, hn0, if_false, hcast, hrd]
  · rw [if_neg hden]
    refine ⟨.frac r.num.toNat r.den, parseRecip_frac _ _, ?_, ?_, h, tl ++ '%' :: natDigits r.den, by rw [hnd]; rfl, hh⟩
    · have hd0 : (r.den : Rat) ≠ 0 := by exact_mod_cast r.den_nz
      simp only [baseValue, hn0, r.den_nz, or_self, if_false, hcast]
      congr 1
      conv_rhs => rw [← hrd]
      field_simp
    · intro c hc
      rcases List.mem_append.mp hc with hc | hc
      · exact hdig _ c hc
      · rcases List.mem_cons.mp hc with rfl | hc
        · simp
        · exact hdig _ c hc

theorem kernDursW_facts : ∀ e ∈ kernDursW,
    (parseRecip e.2).bind baseValue = some (4 / baseRecip e.2) ∧ e.2 ≠ [] ∧ (∀ c ∈ e.2, c ∈ digitChars) ∧ 0 < baseRecip e.2 := by
  decide +kernel

theorem symTok_spec (sd : SymDur) (v : Rat) (hv : symValue sd = some v) :
    ∃ num R, symTok sd = some (num ++ List.replicate sd.dots '.') ∧ parseRecip num = some R ∧ value R sd.dots = some v ∧
      (∀ c ∈ num, c ∈ '%' :: digitChars) ∧ ∃ h rest, num = h :: rest ∧ h ∈ digitChars := by
  simp only [symValue] at hv
  cases hl : lookup sd.type kernDursW with
  | none => simp [hl] at hv
  | some base =>
    simp only [hl] at hv
    obtain ⟨hpb, hne, hdig, hpos⟩ := kernDursW_facts (sd.type, base) (Model.lookup_mem hl)
    simp only at hpb hne hdig hpos
    cases ht : sd.tup with
    | none =>
      simp only [ht, Option.some.injEq] at hv
      obtain ⟨R, hR, hbv⟩ := Option.bind_eq_some_iff.mp hpb
      obtain ⟨h, rest, rfl⟩ := List.exists_cons_of_ne_nil hne
      exact ⟨_, R, by simp [symTok, hl, ht], hR, by simp [value, hbv, hv], fun c hc => List.mem_cons_of_mem _ (hdig c hc),
        h, rest, rfl, hdig h (by simp)⟩
    | some ab =>
      obtain ⟨a, b⟩ := ab
      simp only [ht] at hv
      by_cases h0 : a = 0 ∨ b = 0
      · simp [h0] at hv
      · simp only [h0, if_false, Option.some.injEq] at hv
        have haq : (0 : Rat) < (a : Rat) := by exact_mod_cast Nat.pos_of_ne_zero fun h => h0 (Or.inl h)
        have hbq : (0 : Rat) < (b : Rat) := by exact_mod_cast Nat.pos_of_ne_zero fun h => h0 (Or.inr h)
        have hb : b ≠ 0 := fun h => h0 (Or.inr h)
        obtain ⟨R, hR, hbv, hal, hhd⟩ := recipChars_value _ (div_pos (mul_pos hpos haq) hbq)
        refine ⟨_, R, by simp [symTok, hl, ht, hb], hR, ?_, hal, hhd⟩
        simp only [value, hbv, Option.map_some, Option.some.injEq]
        rw [← hv]
        congr 1
        have h1 : baseRecip base ≠ 0 := ne_of_gt hpos
        have h2 : (a : Rat) ≠ 0 := ne_of_gt haq
        have h3 : (b : Rat) ≠ 0 := ne_of_gt hbq
        field_simp

/-- quarters an event lasts: nothing for a grace note -/
def valOf (divs : Nat) (n : XNote) : Rat := if n.kind = 1 then 0 else (n.dur : Rat) / (divs : Rat)

/-- the duration part of a token: `q`, or digits and dots worth the note's length -/
theorem durTok_spec (divs : Nat) (n : XNote)
    (hd : n.kind = 1 ∨ ∃ sd, n.sym = some sd ∧ symValue sd = some ((n.dur : Rat) / (divs : Rat))) :
    ∃ d num dots rc, durTok n = some d ∧
      prof d = ⟨num, [], dots, 0, 0, decide (n.kind = 1), false, false, false, false, false⟩ ∧
      (if num = [] then (if n.kind = 1 then some none else none) else (parseRecip num).map some) = some rc ∧
      (if n.kind = 1 then some 0 else rc.bind fun r => value r dots) = some (valOf divs n) ∧
      ∃ h rest, d = h :: rest ∧ h ∈ 'q' :: digitChars := by
  by_cases k1 : n.kind = 1
  · exact ⟨['q'], [], 0, none, by simp [durTok, k1], by rw [k1]; rfl, by simp [k1], by simp [k1, valOf], 'q', [], rfl, by simp⟩
  · obtain ⟨sd, hsym, hv⟩ := hd.resolve_left k1
    obtain ⟨num, R, htok, hR, hval, hal, h, rest, rfl, hh⟩ := symTok_spec sd _ hv
    refine ⟨(h :: rest) ++ List.replicate sd.dots '.', h :: rest, sd.dots, some R, by simp [durTok, k1, hsym, htok], ?_,
      by simp [hR], by simp [k1, hval, valOf], h, rest ++ List.replicate sd.dots '.', rfl, List.mem_cons_of_mem _ hh⟩
    rw [prof_append, prof_num _ fun c hc => recipAlphabet_prof c (hal c hc), prof_dots]
    simp [Prof.add, k1]

theorem stepLetters_facts : ∀ e ∈ stepLetters,
    (e.2.2, e.1, (4 : Int)) ∈ kernNotes ∧ (e.2.1, e.1, (3 : Int)) ∈ kernNotes ∧
    prof [e.2.2] = plainProf [] [e.2.2] 0 0 0 ∧ prof [e.2.1] = plainProf [] [e.2.1] 0 0 0 := by
  decide +kernel

theorem accToSign_facts : ∀ e ∈ accToSign,
    prof e.2 = plainProf [] [] 0 (count '#' e.2) (count '-' e.2) ∧ ((count '#' e.2 : Nat) : Int) - ((count '-' e.2 : Nat) : Int) = e.1 := by
  decide +kernel

theorem letters_spec (n : XNote) (up lo : Char) (hs : lookup n.step stepLetters = some (up, lo)) :
    ∃ letters, (if n.octave > 4 then List.replicate (n.octave - 3).toNat lo
        else if n.octave < 3 then List.replicate (4 - n.octave).toNat up
        else if n.octave = 3 then [up] else [lo]) = letters ∧
      prof letters = plainProf [] letters 0 0 0 ∧ pitchOf letters = some (n.step, n.octave) := by
  obtain ⟨h4, h3, plo, pup⟩ := stepLetters_facts (n.step, up, lo) (Model.lookup_mem hs)
  have rep : ∀ (L : Char) (k : Nat), prof [L] = plainProf [] [L] 0 0 0 →
      prof (List.replicate k L) = plainProf [] (List.replicate k L) 0 0 0 :=
    fun L k h => prof_letters _ fun c hc => List.eq_of_mem_replicate hc ▸ h
  -- `k + 1` letters of octave 4 are octave `4 + k`, of octave 3 octave `3 - k`
  have hlo : ∀ k : Nat, n.octave = 4 + k → pitchOf (List.replicate (k + 1) lo) = some (n.step, n.octave) :=
    fun k e => by rw [pitchOf_replicate _ h4, e]; rfl
  have hup : ∀ k : Nat, n.octave = 3 - k → pitchOf (List.replicate (k + 1) up) = some (n.step, n.octave) :=
    fun k e => by rw [pitchOf_replicate _ h3, e]; rfl
  by_cases c1 : n.octave > 4
  · rw [if_pos c1, show (n.octave - 3).toNat = (n.octave - 4).toNat + 1 by omega]
    exact ⟨_, rfl, rep lo _ plo, hlo _ (by omega)⟩
  · rw [if_neg c1]
    by_cases c2 : n.octave < 3
    · rw [if_pos c2, show (4 - n.octave).toNat = (3 - n.octave).toNat + 1 by omega]
      exact ⟨_, rfl, rep up _ pup, hup _ (by omega)⟩
    · rw [if_neg c2]
      by_cases c3 : n.octave = 3
      · rw [if_pos c3]
        exact ⟨_, rfl, pup, hup 0 (by omega)⟩
      · rw [if_neg c3]
        exact ⟨_, rfl, plo, hlo 0 (by omega)⟩

/-- the pitch part of a token: `r`, or letters and accidental signs spelling the note -/
theorem pitchTok_spec (n : XNote) (hp : n.kind = 2 ∨ ((lookup n.step stepLetters).isSome = true ∧
      (match n.alter with | none => true | some a => (lookup a accToSign).isSome) = true)) :
    ∃ p letters s f, pitchTok n = some p ∧
      prof p = ⟨[], letters, 0, s, f, false, decide (n.kind = 2), false, false, false, false⟩ ∧
      (n.kind ≠ 2 → pitchOf letters = some (n.step, n.octave) ∧ ((s : Nat) : Int) - ((f : Nat) : Int) = n.alter.getD 0) := by
  by_cases k2 : n.kind = 2
  · exact ⟨['r'], [], 0, 0, by simp [pitchTok, k2], by rw [k2]; rfl, fun h => absurd k2 h⟩
  · obtain ⟨hs, ha⟩ := hp.resolve_left k2
    cases hl : lookup n.step stepLetters with
    | none => simp [hl] at hs
    | some ul =>
      obtain ⟨letters, hlet, hprof, hpitch⟩ := letters_spec n ul.1 ul.2 hl
      cases hal : n.alter with
      | none =>
        refine ⟨letters, letters, 0, 0, ?_, by simp [hprof, k2], fun _ => ⟨hpitch, by simp⟩⟩
        simp only [pitchTok, k2, if_false, hl, hal, hlet]
      | some a =>
        simp only [hal] at ha
        cases hsg : lookup a accToSign with
        | none => simp [hsg] at ha
        | some sg =>
          obtain ⟨hp', hv⟩ := accToSign_facts (a, sg) (Model.lookup_mem hsg)
          refine ⟨letters ++ sg, letters, _, _, ?_, ?_, fun _ => ⟨hpitch, by simpa using hv⟩⟩
          · simp only [pitchTok, k2, if_false, hl, hal, hlet, hsg, Option.map_some]
          · rw [prof_append, hprof, hp']
            simp [Prof.add, k2]

theorem markTok_prof (n : XNote) :
    ∃ o u c, prof (markTok n) = ⟨[], [], 0, 0, 0, false, false, o, u, c, false⟩ := by
  unfold markTok
  by_cases k2 : n.kind = 2
  · exact ⟨false, false, false, by rw [if_pos k2]; rfl⟩
  · rw [if_neg k2]
    cases n.tieNext <;> cases n.tiePrev <;> exact ⟨_, _, _, rfl⟩

/-- the token `cs` of the note `n` parses into the sub-token `t`, which means what the note is -/
structure TokSpec (divs : Nat) (n : XNote) (cs : List Char) (t : SubTok) : Prop where
  tok : noteTok n = some cs
  parse : parseSub cs = some t
  value : subValue t = some (valOf divs n)
  grace : t.grace = decide (n.kind = 1)
  pitch : t.pitch = if n.kind = 2 then none else some (n.step, n.octave)
  alter : n.kind ≠ 2 → t.alter = n.alter.getD 0
  nosp : ' ' ∉ cs
  head : ∃ h rest, cs = h :: rest ∧ h ∈ 'q' :: digitChars

/-- duration part, pitch part and tie marks: the profiles add up -/
theorem noteTok_spec (divs : Nat) (n : XNote) (h : noteOk divs n = true) : ∃ cs t, TokSpec divs n cs t := by
  simp only [noteOk, Bool.and_eq_true, Bool.or_eq_true, decide_eq_true_eq] at h
  obtain ⟨⟨hk, hp⟩, hd⟩ := h
  obtain ⟨d, num, dots, rc, hdt, hdp, hrc, hval, hh, rest, rfl, hhd⟩ := durTok_spec divs n (hd.imp id fun h => by
    cases hsym : n.sym with
    | none => simp [hsym] at h
    | some sd => exact ⟨sd, rfl, by simpa [hsym] using h⟩)
  obtain ⟨p, letters, s, f, hpt, hpp, hpitch⟩ := pitchTok_spec n hp
  obtain ⟨mo, mu, mc, hm⟩ := markTok_prof n
  have hpr : prof (hh :: rest ++ p ++ markTok n) =
      ⟨num, letters, dots, s, f, decide (n.kind = 1), decide (n.kind = 2), mo, mu, mc, false⟩ := by
    rw [prof_append, prof_append, hdp, hpp, hm]
    simp [Prof.add]
  refine ⟨hh :: rest ++ p ++ markTok n, ⟨rc, dots, if n.kind = 2 then none else some (n.step, n.octave), (s : Int) - (f : Int),
    decide (n.kind = 1), mo, mu, mc⟩, by simp [noteTok, hdt, hpt], ?_, ?_, rfl, rfl, fun k2 => (hpitch k2).2, ?_,
    hh, _, rfl, hhd⟩
  · rw [parseSub_prof, hpr]
    simp only [parseProf, decide_eq_true_eq, hrc]
    by_cases k2 : n.kind = 2
    · simp [k2]
    · simp [k2, (hpitch k2).1]
  · cases rc <;> simpa [subValue] using hval
  · have := congrArg Prof.sp hpr
    simpa [prof, List.contains_eq_mem] using this

end C19W
