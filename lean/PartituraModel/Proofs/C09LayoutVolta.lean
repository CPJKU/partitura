/-
C09: the segment table `add_segments` builds for one repeated section with k
brackets carrying the numbers 1..N (any assignment, numbers written in increasing order on each bracket),
for SYMBOLIC boundary times.
-/
import PartituraModel.Proofs.C09Sort
import PartituraModel.Proofs.C09Volta
import PartituraModel.Proofs.C09LayoutChain

namespace C09
open Model.Unfold

theorem repIdx_mem (k j : Nat) : j ∈ repIdx k ↔ 1 ≤ j ∧ (j < k ∨ (k = 1 ∧ j = 1)) := by
  unfold repIdx
  by_cases hk : k = 1
  · subst hk; simp; omega
  · simp only [hk, if_false, List.mem_map, List.mem_range]
    constructor
    · rintro ⟨a, ha, rfl⟩; omega
    · rintro ⟨h1, h2⟩
      have h3 : j < k := by
        rcases h2 with h2 | ⟨h, _⟩
        · exact h2
        · exact h.elim
      refine ⟨j - 1, ?_, ?_⟩
      · omega
      · show j - 1 + 1 = j; omega

section mvfacts
variable (pre : Bool) (k : Nat) (post : Bool) (asg : List Nat) (ts : List Int)
variable (hs : StrictSorted ts) (hlen : ts.length = vLen pre k post + 1) (hk : 1 ≤ k)

include hs hlen in
theorem T_inj (i i' : Nat) (hi : i ≤ vLen pre k post) (hi' : i' ≤ vLen pre k post)
    (h : ts.getD i 0 = ts.getD i' 0) : i = i' := by
  exact sorted_inj ts hs i i' _ (getD_get ts i (by omega)) (h ▸ getD_get ts i' (by omega))

include hs hlen hk in
theorem mv_repA (i : Nat) (hi : i ≤ vLen pre k post) :
    repA (mvLayout pre k post asg ts).repeats (ts.getD i 0) = decide (i = vBody pre) := by
  unfold repA mvLayout
  simp only [List.any_map]
  by_cases h : i = vBody pre
  · subst h
    simp only [decide_true]
    rw [List.any_eq_true]
    have : repIdx k ≠ [] := by
      unfold repIdx
      by_cases hk1 : k = 1
      · simp [hk1]
      · simp only [hk1, if_false, ne_eq, List.map_eq_nil_iff, List.range_eq_nil]; omega
    obtain ⟨j, hj⟩ := List.exists_mem_of_ne_nil _ this
    exact ⟨j, hj, by simp⟩
  · simp only [h, decide_false]
    rw [List.any_eq_false]
    intro j _
    simp only [Function.comp, decide_eq_true_eq]
    intro he
    have hc : vBody pre ≤ vLen pre k post := by unfold vLen; omega
    exact h (T_inj pre k post ts hs hlen _ _ hc hi he).symm

include hs hlen in
theorem mv_repE (i : Nat) (hi : i ≤ vLen pre k post) :
    repE (mvLayout pre k post asg ts).repeats (ts.getD i 0) =
      if vBody pre + 2 ≤ i ∧ (i - vBody pre - 1 < k ∨ (k = 1 ∧ i = vBody pre + 2)) then some (ts.getD (vBody pre) 0) else none := by
  unfold repE mvLayout
  simp only [lastSome_map]
  split
  · rename_i hc
    apply lastSome_eq_some
    · refine ⟨i - vBody pre - 1, (repIdx_mem k _).mpr (by omega), ?_⟩
      have : vBody pre + 1 + (i - vBody pre - 1) = i := by omega
      simp [this]
    · intro j _ b' hb'
      split at hb'
      · simpa using hb'.symm
      · simp at hb'
  · rename_i hc
    apply lastSome_eq_none
    intro j hj
    rw [repIdx_mem] at hj
    split
    · rename_i he
      have hj2 : vBody pre + 1 + j ≤ vLen pre k post := by unfold vLen; omega
      have := T_inj pre k post ts hs hlen _ _ hj2 hi he
      exfalso; apply hc; omega
    · rfl

include hs hlen in
theorem mv_volS (i : Nat) (hi : i ≤ vLen pre k post) :
    volS (mvLayout pre k post asg ts).endings (ts.getD i 0) =
      if vBody pre + 1 ≤ i ∧ i ≤ vBody pre + k then some (numsOf asg (i - vBody pre - 1), ts.getD (i + 1) 0) else none := by
  unfold volS mvLayout
  simp only [lastSome_map]
  split
  · rename_i hc
    have e : vBody pre + 1 + (i - vBody pre - 1) = i := by omega
    have e2 : vBody pre + 2 + (i - vBody pre - 1) = i + 1 := by omega
    apply lastSome_eq_some
    · refine ⟨i - vBody pre - 1, by simp; omega, ?_⟩
      simp [e, e2]
    · intro j hj b' hb'
      have hjk : j < k := by simpa using hj
      split at hb'
      · rename_i he
        have hj2 : vBody pre + 1 + j ≤ vLen pre k post := by unfold vLen; omega
        have := T_inj pre k post ts hs hlen _ _ hj2 hi he
        have ej : j = i - vBody pre - 1 := by omega
        subst ej
        simp only [Option.some.injEq] at hb'
        rw [← hb', e2]
      · simp at hb'
  · rename_i hc
    apply lastSome_eq_none
    intro j hj
    have hjk : j < k := by simpa using hj
    split
    · rename_i he
      have hj2 : vBody pre + 1 + j ≤ vLen pre k post := by unfold vLen; omega
      have := T_inj pre k post ts hs hlen _ _ hj2 hi he
      exfalso; apply hc; omega
    · rfl

include hs hlen in
theorem mv_volE (i : Nat) (hi : i ≤ vLen pre k post) :
    volE (mvLayout pre k post asg ts).endings (ts.getD i 0) =
      decide (vBody pre + 2 ≤ i ∧ i ≤ vBody pre + k + 1) := by
  unfold volE mvLayout
  simp only [List.any_map]
  by_cases hc : vBody pre + 2 ≤ i ∧ i ≤ vBody pre + k + 1
  · simp only [hc, and_self, decide_true]
    rw [List.any_eq_true]
    refine ⟨i - vBody pre - 2, by simp; omega, ?_⟩
    have e : vBody pre + 2 + (i - vBody pre - 2) = i := by omega
    simp [e]
  · simp only [hc, decide_false]
    rw [List.any_eq_false]
    intro j hj
    have hjk : j < k := by simpa using hj
    simp only [Function.comp, decide_eq_true_eq]
    intro he
    have hj2 : vBody pre + 2 + j ≤ vLen pre k post := by unfold vLen; omega
    have := T_inj pre k post ts hs hlen _ _ hj2 hi he
    apply hc; omega

theorem getD_mem_of_lt (l : List Int) (i : Nat) (h : i < l.length) : l.getD i 0 ∈ l :=
  List.mem_of_getElem? (getD_get l i h)

include hs hlen hk in
theorem mv_info (i : Nat) (hi : i ≤ vLen pre k post) :
    infoAt (mvLayout pre k post asg ts) (ts.getD i 0) =
      { repeatStart := decide (i = vBody pre),
        repeatEnd := if vBody pre + 2 ≤ i ∧ (i - vBody pre - 1 < k ∨ (k = 1 ∧ i = vBody pre + 2)) then some (ts.getD (vBody pre) 0) else none,
        voltaStart := if vBody pre + 1 ≤ i ∧ i ≤ vBody pre + k then some (numsOf asg (i - vBody pre - 1), ts.getD (i + 1) 0) else none,
        voltaEnd := decide (vBody pre + 2 ≤ i ∧ i ≤ vBody pre + k + 1),
        isEnd := decide (i = vLen pre k post), isStart := decide (i = 0) } := by
  unfold infoAt
  rw [mv_repA pre k post asg ts hs hlen hk i hi, mv_repE pre k post asg ts hs hlen i hi,
    mv_volS pre k post asg ts hs hlen i hi, mv_volE pre k post asg ts hs hlen i hi]
  have e1 : decide (ts.getD i 0 = (mvLayout pre k post asg ts).last) = decide (i = vLen pre k post) := by
    by_cases h : i = vLen pre k post
    · subst h; simp [mvLayout]
    · have : ¬ ts.getD i 0 = ts.getD (vLen pre k post) 0 :=
        fun he => h (T_inj pre k post ts hs hlen _ _ hi (Nat.le_refl _) he)
      simp only [mvLayout, this, h, decide_false]
  have e2 : decide (ts.getD i 0 = (mvLayout pre k post asg ts).first) = decide (i = 0) := by
    by_cases h : i = 0
    · subst h; simp [mvLayout]
    · have : ¬ ts.getD i 0 = ts.getD 0 0 :=
        fun he => h (T_inj pre k post ts hs hlen _ _ hi (Nat.zero_le _) he)
      simp only [mvLayout, this, h, decide_false]
  rw [e1, e2]
  simp [mvLayout]

include hs hlen hk in
theorem mv_keys : (mkTable (mvLayout pre k post asg ts)).map (·.1) = ts := by
  have hv : vLen pre k post = vBody pre + 1 + k + (if post then 1 else 0) := rfl
  refine mkTable_keys_of_times _ _ hs (fun t ht => ?_) (fun t ht => ?_)
  · simp only [Layout.times, mvLayout, List.flatMap_map, List.append_nil, List.mem_cons, List.mem_append,
      List.mem_flatMap, List.mem_range, List.not_mem_nil, or_false] at ht
    rcases ht with rfl | rfl | ⟨j, hj, rfl | rfl⟩ | ⟨j, hj, rfl | rfl⟩
    · exact getD_mem_of_lt ts _ (by omega)
    · exact getD_mem_of_lt ts _ (by omega)
    · exact getD_mem_of_lt ts _ (by omega)
    · have := (repIdx_mem k j).mp hj
      exact getD_mem_of_lt ts _ (by omega)
    · exact getD_mem_of_lt ts _ (by omega)
    · exact getD_mem_of_lt ts _ (by omega)
  · obtain ⟨i, hi⟩ := List.getElem?_of_mem ht
    have hil := (List.getElem?_eq_some_iff.mp hi).1
    have hi' : i ≤ vLen pre k post := by omega
    have ht' : t = ts.getD i 0 := by
      rw [List.getD_eq_getElem?_getD, hi]; rfl
    subst ht'
    rw [isKey_eq_info, mv_info pre k post asg ts hs hlen hk i hi']
    simp only [Bool.or_false]
    by_cases h0 : i = 0
    · simp [h0]
    · by_cases hc : i = vBody pre
      · simp [hc]
      · by_cases h1 : vBody pre + 1 ≤ i ∧ i ≤ vBody pre + k
        · simp [h1]
        · by_cases h2 : vBody pre + 2 ≤ i ∧ i ≤ vBody pre + k + 1
          · simp [h2]
          · have hb : vBody pre = 0 ∨ vBody pre = 1 := by unfold vBody; cases pre <;> simp
            have : i = vLen pre k post := by
              rw [hv] at hi' ⊢
              cases post <;> simp at hi' ⊢ <;> omega
            simp [this]

end mvfacts

section mvproc
variable (pre : Bool) (k : Nat) (post : Bool) (asg : List Nat) (ts : List Int)

/-- raw destinations of bracket `b`: back to the section once per number other than the last of all, then on -/
def mvBracketRaw (b : Nat) : List (Tag × Dest) :=
  (List.replicate (mBack asg b) (10, vBody pre)).map fv ++
  ((if asg.getLast? = some b then [vNext pre k post] else []) ++
   (if vBody pre + 1 + b + 1 = vLen pre k post then [Dest.fin] else [])).map fp

/-- entry `x` of the info list when the boundary pass is over -/
def mvFinal (x : Nat) : SegInfo :=
  if x < vBody pre then { to := [Dest.seg (vBody pre)].map fp, ty := tyAt ts x }
  else if x = vBody pre then { to := (voltaPairs (vBody pre) k asg).map fv, ty := tyAt ts x }
  else if x ≤ vBody pre + k then
    { to := mvBracketRaw pre k post asg (x - vBody pre - 1), ty := tyAt ts x, voltaNums := numsOf asg (x - vBody pre - 1) }
  else { to := [Dest.fin].map fp, ty := tyAt ts x }

/-- entry `x` not yet reached, after the section has been passed: the scan at the section has written each bracket's numbers -/
def mvPending (x : Nat) : SegInfo :=
  if vBody pre < x ∧ x ≤ vBody pre + k then { voltaNums := numsOf asg (x - vBody pre - 1) } else {}

def mvCell (i x : Nat) : SegInfo :=
  if x < i then mvFinal pre k post asg ts x else if vBody pre < i then mvPending pre k asg x else {}

/-- the state of the boundary pass in front of segment `i`, in closed form: the entries below `i` are final, the others
pending.  `cve` and `cvt` (end of the group, how many numbers) are set at the section.  `cvrs`, the place the brackets send
back to, starts at 0 and moves up to the start of the section at the first bracket that sends back: bracket 0 whenever there
are several brackets, hence the test on `mBack asg 0`. -/
def mvSt (i : Nat) : BState :=
  { info := (List.range (vLen pre k post)).map (mvCell pre k post asg ts i),
    cvrs := if vBody pre + 2 ≤ i ∧ 0 < mBack asg 0 then ts.getD (vBody pre) 0 else 0,
    cve := if vBody pre < i then ts.getD (vBody pre + 1 + k) 0 else 0,
    cvt := if vBody pre < i then asg.length else 0 }

theorem mvSt_get (i x : Nat) :
    (mvSt pre k post asg ts i).info[x]? = if x < vLen pre k post then some (mvCell pre k post asg ts i x) else none := by
  unfold mvSt
  simp only [List.getElem?_map]
  by_cases hx : x < vLen pre k post
  · rw [List.getElem?_range hx]; simp [hx]
  · simp [hx]

theorem mv_step_info (i : Nat) (f : SegInfo → SegInfo)
    (hc : vBody pre < i ↔ vBody pre < i + 1)
    (hf : f (mvCell pre k post asg ts i i) = mvFinal pre k post asg ts i) :
    modAt i f (mvSt pre k post asg ts i).info = (mvSt pre k post asg ts (i + 1)).info := by
  refine modAt_range_map _ i _ _ f ?_ (fun x hx => ?_)
  · rw [hf, mvCell, if_pos (Nat.lt_succ_self i)]
  · unfold mvCell
    by_cases h1 : x < i
    · rw [if_pos h1, if_pos (by omega)]
    · rw [if_neg h1, if_neg (by omega)]
      by_cases h3 : vBody pre < i
      · rw [if_pos h3, if_pos (hc.mp h3)]
      · rw [if_neg h3, if_neg (fun h => h3 (hc.mpr h))]

end mvproc

section mvsteps
variable (pre : Bool) (k : Nat) (post : Bool) (asg : List Nat) (ts : List Int)
variable (hs : StrictSorted ts) (hlen : ts.length = vLen pre k post + 1) (hk : 1 ≤ k)

include hs hlen hk in
theorem mv_get (i : Nat) (hi : i ≤ vLen pre k post) :
    tblGet (ts.getD i 0) (mkTable (mvLayout pre k post asg ts)) =
      some (infoAt (mvLayout pre k post asg ts) (ts.getD i 0)) := by
  refine mkTable_get_mem _ _ ?_
  rw [mv_keys pre k post asg ts hs hlen hk]
  exact getD_mem_of_lt ts i (by omega)

include hs hlen in
theorem mv_id (i : Nat) (hi : i ≤ vLen pre k post) :
    idOf ts (ts.getD i 0) = some (if i = vLen pre k post then Dest.fin else Dest.seg i) := by
  rw [idOf_sorted ts hs i _ (getD_get ts i (by omega)), hlen]
  by_cases h : i = vLen pre k post
  · simp [h]
  · simp [h]

include hs hlen hk in
/-- a section outside the group — the lead-in (on to the repeated section) or the music after the last bracket (on to END):
one plain destination, the next boundary -/
theorem mv_step_plain (i : Nat) (hil : i < vLen pre k post) (hout : i < vBody pre ∨ vBody pre + k < i) :
    procSeg (mvLayout pre k post asg ts) (mkTable (mvLayout pre k post asg ts)) ts i (ts.getD i 0) (ts.getD (i + 1) 0)
      (mvSt pre k post asg ts i) = some (mvSt pre k post asg ts (i + 1)) := by
  have hv : vLen pre k post = vBody pre + 1 + k + (if post then 1 else 0) := rfl
  have hb : vBody pre ≤ 1 := by unfold vBody; split <;> omega
  have hp : (if post then 1 else 0) ≤ 1 := by split <;> omega
  have hinfo := mv_info pre k post asg ts hs hlen hk (i + 1) hil
  have c2 : ¬ (vBody pre + 2 ≤ i + 1 ∧ (i + 1 - vBody pre - 1 < k ∨ (k = 1 ∧ i + 1 = vBody pre + 2))) := by omega
  have c3 : ¬ (vBody pre + 1 ≤ i + 1 ∧ i + 1 ≤ vBody pre + k) := by omega
  have c4 : ¬ (vBody pre + 2 ≤ i + 1 ∧ i + 1 ≤ vBody pre + k + 1) := by omega
  have c5 : ¬ (i + 1 = 0) := by omega
  simp only [c2, c3, c4, c5, if_false, decide_false] at hinfo
  have hro : RepeatOnly (infoAt (mvLayout pre k post asg ts) (ts.getD (i + 1) 0)) := by
    rw [hinfo]; simp [RepeatOnly, NoNav]
  rw [procSeg_repeatOnly _ _ _ i _ _ _ _ _ (mv_get pre k post asg ts hs hlen hk (i + 1) hil)
    (mv_id pre k post ts hs hlen (i + 1) hil) hro none (by rw [hinfo])]
  have e := mv_step_info pre k post asg ts i
    (fun s => { s with to := s.to ++ repRaw (infoAt (mvLayout pre k post asg ts) (ts.getD (i + 1) 0))
                                  (if i + 1 = vLen pre k post then Dest.fin else Dest.seg (i + 1)) none,
                       ty := if ts.getD i 0 = 0 then SegType.leapEnd else s.ty })
    (by omega)
    (by rw [hinfo]
        rcases hout with h | h
        · have d1 : i + 1 = vBody pre := by omega
          have d2 : ¬ vBody pre = vLen pre k post := by omega
          have d3 : ¬ vBody pre < i := by omega
          simp [mvCell, mvFinal, repRaw, backDests, fp, tyAt, h, d1, d2, d3]
        · have d1 : ¬ vLen pre k post = vBody pre := by omega
          have d2 : i + 1 = vLen pre k post := by omega
          have d3 : vBody pre < i := by omega
          have d4 : ¬ i < vBody pre := by omega
          have d5 : ¬ i = vBody pre := by omega
          have d6 : ¬ i ≤ vBody pre + k := by omega
          simp [mvCell, mvFinal, mvPending, repRaw, backDests, fp, tyAt, d1, d2, d3, d4, d5, d6])
  rw [e]
  rcases hout with h | h
  · have d1 : ¬ vBody pre < i := by omega
    have d2 : ¬ vBody pre < i + 1 := by omega
    have d3 : ¬ vBody pre + 2 ≤ i := by omega
    have d4 : ¬ vBody pre + 2 ≤ i + 1 := by omega
    simp [mvSt, d1, d2, d3, d4]
  · have d1 : vBody pre < i := by omega
    have d2 : vBody pre < i + 1 := by omega
    have d3 : vBody pre + 2 ≤ i := by omega
    have d4 : vBody pre + 2 ≤ i + 1 := by omega
    simp [mvSt, d1, d2, d3, d4]

variable (hk10 : k ≤ 10) (hasg : ∀ x ∈ asg, x < k)

include hs hlen hk hk10 hasg in
/-- the repeated section: the scan over the consecutive brackets -/
theorem mv_step_body :
    procSeg (mvLayout pre k post asg ts) (mkTable (mvLayout pre k post asg ts)) ts (vBody pre)
      (ts.getD (vBody pre) 0) (ts.getD (vBody pre + 1) 0)
      (mvSt pre k post asg ts (vBody pre)) = some (mvSt pre k post asg ts (vBody pre + 1)) := by
  have hv : vLen pre k post = vBody pre + 1 + k + (if post then 1 else 0) := rfl
  have h1 : vBody pre + 1 ≤ vLen pre k post := by omega
  have hinfo := mv_info pre k post asg ts hs hlen hk (vBody pre + 1) h1
  have c1 : ¬ (vBody pre + 1 = vBody pre) := by omega
  have c2 : ¬ (vBody pre + 2 ≤ vBody pre + 1) := by omega
  have c3 : (vBody pre + 1 ≤ vBody pre + 1 ∧ vBody pre + 1 ≤ vBody pre + k) := by omega
  have c5 : ¬ (vBody pre + 1 = 0) := by omega
  have c6 : ¬ (vBody pre + 1 = vLen pre k post) := by omega
  have c7 : vBody pre + 1 - vBody pre - 1 = 0 := by omega
  simp only [c1, c2, c3, c5, c6, c7, false_and, if_false, decide_false, and_self, if_true] at hinfo
  have hscan := voltaScan_run (mkTable (mvLayout pre k post asg ts)) ts (vBody pre) (vBody pre) k
    (fun j => ts.getD (vBody pre + 1 + j) 0) (numsOf asg)
    (by
      intro j hj
      have hj1 : vBody pre + 1 + j ≤ vLen pre k post := by omega
      rw [mv_get pre k post asg ts hs hlen hk _ hj1, mv_info pre k post asg ts hs hlen hk _ hj1]
      have d1 : (vBody pre + 1 ≤ vBody pre + 1 + j ∧ vBody pre + 1 + j ≤ vBody pre + k) := by omega
      have d2 : vBody pre + 1 + j - vBody pre - 1 = j := by omega
      have d3 : vBody pre + 1 + j + 1 = vBody pre + 1 + (j + 1) := by omega
      simp only [Option.bind_some, d1, and_self, if_true, d2, d3])
    (by
      have hj1 : vBody pre + 1 + k ≤ vLen pre k post := by omega
      rw [mv_get pre k post asg ts hs hlen hk _ hj1, mv_info pre k post asg ts hs hlen hk _ hj1]
      have d1 : ¬ (vBody pre + 1 ≤ vBody pre + 1 + k ∧ vBody pre + 1 + k ≤ vBody pre + k) := by omega
      simp only [Option.bind_some, d1, if_false])
    (by
      intro j hj
      have hj1 : vBody pre + 1 + j ≤ vLen pre k post := by omega
      rw [mv_id pre k post ts hs hlen _ hj1]
      have : ¬ (vBody pre + 1 + j = vLen pre k post) := by omega
      simp [this])
    k 0 10 { (mvSt pre k post asg ts (vBody pre)) with cvt := 0, cve := ts.getD (vBody pre + 1) 0 }
    (by omega) hk10 rfl
  rw [procSeg_noNav _ _ ts _ _ _ _ _ _ (mv_get pre k post asg ts hs hlen hk _ h1) (mv_id pre k post ts hs hlen _ h1)
    (by rw [hinfo]; exact ⟨rfl, rfl, rfl, rfl, rfl, rfl⟩), hinfo]
  simp only [stRepeatStart, stRepeatEnd, stVoltaStart, stVoltaEnd, stEnd, Bool.false_eq_true, if_false,
    Option.isSome_some, Bool.not_false, Bool.and_self, if_true, Option.bind_some]
  rw [hscan]
  simp only [Option.bind_some, stFirst_eq, Option.some.injEq]
  have e3 : vBody pre < vBody pre + 1 := Nat.lt_succ_self _
  have e4 : ¬ vBody pre + 2 ≤ vBody pre + 1 := by omega
  have e5 : ¬ vBody pre + 2 ≤ vBody pre := by omega
  refine BState.ext' _ _ ?_ ?_ ?_ ?_
  · apply List.ext_getElem?
    intro x
    rw [modAt_get, scanFold_get _ _ _ _ _ _ x (by omega), mvSt_get, mvSt_get]
    by_cases hx : x < vLen pre k post
    · simp only [hx, if_true, Option.map_some]
      by_cases hxc : x = vBody pre
      · subst hxc
        have hent : (List.range' 0 k).flatMap
            (fun b => (numsOf asg b).map fun n => (Tag.volta n, Dest.seg (vBody pre + 1 + b))) =
            (voltaPairs (vBody pre) k asg).map fv := by
          unfold voltaPairs
          rw [List.map_flatMap, ← List.range_eq_range']
          apply flatMap_congr'
          intro j _
          rw [List.map_map]
          rfl
        have e2 : ¬ (vBody pre + 1 + 0 ≤ vBody pre ∧ vBody pre < vBody pre + 1 + 0 + k) := by omega
        simp only [if_true, hent, e2, if_false, mvCell, Nat.lt_irrefl, e3, mvFinal, List.append_nil, List.nil_append, tyAt]
      · simp only [hxc, if_false, List.append_nil]
        by_cases hlt : x < vBody pre
        · have e1 : x < vBody pre + 1 := by omega
          have e2 : ¬ (vBody pre + 1 + 0 ≤ x ∧ x < vBody pre + 1 + 0 + k) := by omega
          simp only [mvCell, hlt, e1, e2, if_true, if_false, List.append_nil]
        · have e1 : ¬ x < vBody pre + 1 := by omega
          simp only [mvCell, hlt, e1, e3, Nat.lt_irrefl, if_true, if_false, List.nil_append, mvPending, Nat.sub_add_eq]
          by_cases hb : vBody pre < x ∧ x ≤ vBody pre + k
          · have hb' : vBody pre + 1 + 0 ≤ x ∧ x < vBody pre + 1 + 0 + k := by omega
            simp only [hb, hb', and_self, if_true]
          · have hb' : ¬ (vBody pre + 1 + 0 ≤ x ∧ x < vBody pre + 1 + 0 + k) := by omega
            simp only [hb, hb', if_false]
    · simp [hx]
  · simp [mvSt, e4, e5]
  · simp [mvSt]
  · simp [mvSt, numsOf_total asg k hasg]

theorem mBack0_pos (asg : List Nat) (k : Nat) (hk2 : 2 ≤ k) (hlast : asg.getLast? = some (k - 1))
    (hsurj : ∀ j, j < k → j ∈ asg) : 0 < mBack asg 0 := by
  unfold mBack
  rw [List.count_pos_iff]
  have hne : asg ≠ [] := by intro h; simp [h] at hlast
  have h0 : 0 ∈ asg := hsurj 0 (by omega)
  rw [← List.dropLast_concat_getLast hne, List.mem_append] at h0
  rcases h0 with h0 | h0
  · exact h0
  · exfalso
    simp only [List.mem_singleton] at h0
    have : asg.getLast? = some (asg.getLast hne) := List.getLast?_eq_some_getLast hne
    rw [this] at hlast
    simp only [Option.some.injEq] at hlast
    omega

variable (hlast : asg.getLast? = some (k - 1)) (hsurj : ∀ j, j < k → j ∈ asg) (ha : 0 ≤ ts.getD (vBody pre) 0)

include hlast hsurj ha in
/-- `current_volta_repeat_start` across bracket `b`: 0 up to the first bracket, the start of the section from the first
bracket that sends the music back (which the first one does when there are several) -/
theorem mv_cvrs (b : Nat) (hb : b < k) :
    (mBack asg b ≠ 0 →
      newCvrs (if b + 1 < k ∨ (k = 1 ∧ b = 0) then some (ts.getD (vBody pre) 0) else none)
        (mvSt pre k post asg ts (vBody pre + 1 + b)).cvrs = ts.getD (vBody pre) 0) ∧
    (mvSt pre k post asg ts (vBody pre + 1 + b + 1)).cvrs =
      if mBack asg b = 0 then (mvSt pre k post asg ts (vBody pre + 1 + b)).cvrs else ts.getD (vBody pre) 0 := by
  have d2 : vBody pre + 2 ≤ vBody pre + 1 + b + 1 := by omega
  by_cases hb0 : b = 0
  · subst hb0
    have d1 : ¬ (vBody pre + 2 ≤ vBody pre + 1 + 0) := by omega
    have hR : 0 + 1 < k ∨ (k = 1 ∧ 0 = 0) := by omega
    rw [if_pos hR]
    simp only [mvSt, d1, d2, false_and, true_and, if_false, newCvrs]
    refine ⟨fun _ => by split <;> omega, ?_⟩
    by_cases h0 : mBack asg 0 = 0
    · simp [h0]
    · simp [h0, Nat.pos_of_ne_zero h0]
  · have hp := mBack0_pos asg k (by omega) hlast hsurj
    have d1 : vBody pre + 2 ≤ vBody pre + 1 + b := by omega
    simp only [mvSt, d1, d2, hp, and_self, if_true, ite_self, and_true]
    intro _
    split <;> simp [newCvrs]

include hs hlen hk hlast hsurj ha in
/-- a bracket: back to the section once per number other than the last, on after the last number -/
theorem mv_step_bracket (b : Nat) (hb : b < k) :
    procSeg (mvLayout pre k post asg ts) (mkTable (mvLayout pre k post asg ts)) ts (vBody pre + 1 + b)
      (ts.getD (vBody pre + 1 + b) 0) (ts.getD (vBody pre + 1 + b + 1) 0)
      (mvSt pre k post asg ts (vBody pre + 1 + b)) = some (mvSt pre k post asg ts (vBody pre + 1 + b + 1)) := by
  have hv : vLen pre k post = vBody pre + 1 + k + (if post then 1 else 0) := rfl
  have h1 : vBody pre + 1 + b + 1 ≤ vLen pre k post := by omega
  have hil : vBody pre + 1 + b < vLen pre k post := by omega
  have d1 : vBody pre < vBody pre + 1 + b := by omega
  have d2 : vBody pre < vBody pre + 1 + b ∧ vBody pre + 1 + b ≤ vBody pre + k := by omega
  have d3 : vBody pre + 1 + b - vBody pre - 1 = b := by omega
  have hinfo := mv_info pre k post asg ts hs hlen hk (vBody pre + 1 + b + 1) h1
  have c1 : ¬ (vBody pre + 1 + b + 1 = vBody pre) := by omega
  have c4 : (vBody pre + 2 ≤ vBody pre + 1 + b + 1 ∧ vBody pre + 1 + b + 1 ≤ vBody pre + k + 1) := by omega
  have hcell : (mvSt pre k post asg ts (vBody pre + 1 + b)).info[vBody pre + 1 + b]? =
      some ({ voltaNums := numsOf asg b } : SegInfo) := by
    rw [mvSt_get]
    simp only [hil, if_true, mvCell, Nat.lt_irrefl, if_false, d1, mvPending, d2, and_self, d3]
  have hcvt : (mvSt pre k post asg ts (vBody pre + 1 + b)).cvt = asg.length := by simp [mvSt, d1]
  have hcve : (mvSt pre k post asg ts (vBody pre + 1 + b)).cve = ts.getD (vBody pre + 1 + k) 0 := by simp [mvSt, d1]
  have hm : ((numsOf asg b).filter fun n => decide (n ≠ (mvSt pre k post asg ts (vBody pre + 1 + b)).cvt)).length = mBack asg b := by
    rw [hcvt]; exact numsOf_back asg b
  have hidc : idOf ts (ts.getD (vBody pre) 0) = some (Dest.seg (vBody pre)) := by
    rw [mv_id pre k post ts hs hlen _ (by omega)]
    have : ¬ vBody pre = vLen pre k post := by omega
    simp [this]
  have hre : (infoAt (mvLayout pre k post asg ts) (ts.getD (vBody pre + 1 + b + 1) 0)).repeatEnd =
      if (b + 1 < k ∨ (k = 1 ∧ b = 0)) then some (ts.getD (vBody pre) 0) else none := by
    rw [hinfo]
    show (if _ then _ else _) = _
    by_cases hR : (b + 1 < k ∨ (k = 1 ∧ b = 0))
    · have : (vBody pre + 2 ≤ vBody pre + 1 + b + 1 ∧ (vBody pre + 1 + b + 1 - vBody pre - 1 < k ∨ (k = 1 ∧ vBody pre + 1 + b + 1 = vBody pre + 2))) := by omega
      rw [if_pos this, if_pos hR]
    · have : ¬ (vBody pre + 2 ≤ vBody pre + 1 + b + 1 ∧ (vBody pre + 1 + b + 1 - vBody pre - 1 < k ∨ (k = 1 ∧ vBody pre + 1 + b + 1 = vBody pre + 2))) := by omega
      rw [if_neg this, if_neg hR]
  obtain ⟨hnew, hcv⟩ := mv_cvrs pre k post asg ts hlast hsurj ha b hb
  have hnext : idOf ts (ts.getD (vBody pre + 1 + k) 0) = some (vNext pre k post) := by
    rw [mv_id pre k post ts hs hlen _ (by omega)]
    unfold vNext
    cases post with
    | true =>
      have : ¬ vBody pre + 1 + k = vLen pre k true := by simp at hv; omega
      simp only [this, if_false, if_true]
      congr 2; omega
    | false =>
      have : vBody pre + 1 + k = vLen pre k false := by simp at hv; omega
      simp [this]
  have hinfoEq := mv_step_info pre k post asg ts (vBody pre + 1 + b)
    (fun s => { s with to := s.to ++ mvBracketRaw pre k post asg b,
                       ty := if ts.getD (vBody pre + 1 + b) 0 = 0 then SegType.leapEnd else s.ty })
    (by omega)
    (by
      have d4 : ¬ vBody pre + 1 + b < vBody pre := by omega
      have d5 : ¬ vBody pre + 1 + b = vBody pre := by omega
      simp only [mvCell, Nat.lt_irrefl, if_false, d1, if_true, mvPending, d2, and_self, mvFinal, d3, d4, d5,
        List.nil_append, tyAt])
  have d6 : vBody pre < vBody pre + 1 + b + 1 := by omega
  rw [procSeg_voltaEnd _ _ ts _ _ _ _ _ _ _ (Dest.seg (vBody pre)) (vNext pre k post) (mBack asg b)
    (mv_get pre k post asg ts hs hlen hk _ h1) (mv_id pre k post ts hs hlen _ h1)
    (by rw [hinfo]; exact decide_eq_true c4) (by rw [hinfo]; exact decide_eq_false c1)
    (by rw [hinfo]; exact ⟨rfl, rfl, rfl, rfl, rfl, rfl⟩) hcell hm
    (by
      by_cases h0 : mBack asg b = 0
      · exact Or.inl h0
      · right; rw [hre, hnew h0]; exact hidc)
    (by intro _; rw [hcve]; exact hnext), Option.some.injEq]
  refine BState.ext' _ _ ?_ ?_ ?_ ?_
  · refine Eq.trans ?_ hinfoEq
    show modAt _ _ _ = _
    congr 1
    funext s
    have hlist : List.replicate (mBack asg b) (Tag.volta 10, Dest.seg (vBody pre)) ++
        (if ({ voltaNums := numsOf asg b } : SegInfo).voltaNums.contains (mvSt pre k post asg ts (vBody pre + 1 + b)).cvt = true then
          [(Tag.plain, vNext pre k post)] else []) ++
        (if (infoAt (mvLayout pre k post asg ts) (ts.getD (vBody pre + 1 + b + 1) 0)).isEnd = true then
          [(Tag.plain, if vBody pre + 1 + b + 1 = vLen pre k post then Dest.fin else Dest.seg (vBody pre + 1 + b + 1))]
         else []) = mvBracketRaw pre k post asg b := by
      rw [hcvt, numsOf_last, hinfo]
      unfold mvBracketRaw
      by_cases hL : asg.getLast? = some b <;> by_cases hEq : vBody pre + 1 + b + 1 = vLen pre k post <;>
        simp [hL, hEq, fv, fp]
    rw [hlist]
  · show (if mBack asg b = 0 then _ else _) = _
    rw [hcv]
    by_cases h0 : mBack asg b = 0
    · rw [if_pos h0, if_pos h0]
    · rw [if_neg h0, if_neg h0, hre, hnew h0]
  · simp [mvSt, d1, d6]
  · simp [mvSt, d1, d6]

end mvsteps

theorem sort_replicate (x : Nat × Nat) (m : Nat) :
    (List.replicate m x).foldl (fun acc x => insVolta x acc) [] = List.replicate m x := by
  obtain ⟨_, hp⟩ := sortVolta_spec (List.replicate m x) [] List.Pairwise.nil
  rw [List.append_nil] at hp
  rw [List.eq_replicate_iff]
  refine ⟨?_, ?_⟩
  · rw [hp.length_eq]; simp
  · intro b hb
    exact (List.mem_replicate.mp (hp.subset hb)).2

section mvmain
variable (pre : Bool) (k : Nat) (post : Bool) (asg : List Nat) (ts : List Int)
variable (hs : StrictSorted ts) (hlen : ts.length = vLen pre k post + 1) (hk : 1 ≤ k) (hk10 : k ≤ 10)
variable (hasg : ∀ x ∈ asg, x < k) (hN9 : asg.length ≤ 9)
variable (hlast : asg.getLast? = some (k - 1)) (hsurj : ∀ j, j < k → j ∈ asg) (ha : 0 ≤ ts.getD (vBody pre) 0)

theorem mv_noNav (x : Nat) : nav1Of (mvFinal pre k post asg ts x).to = [] := by
  unfold mvFinal
  split
  · exact nav1Of_fp _
  · split
    · exact nav1Of_fv _
    · split
      · rw [mvBracketRaw, nav1Of_append, nav1Of_fv, nav1Of_fp]; rfl
      · exact nav1Of_fp _

include hlast hk hasg in
theorem mv_cleanTo (x : Nat) (hx : x < vLen pre k post) :
    cleanToBase (mvFinal pre k post asg ts x).to = some (mTo pre k post asg x, []) := by
  have hv : vLen pre k post = vBody pre + 1 + k + (if post then 1 else 0) := rfl
  unfold mvFinal mTo
  by_cases h1 : x < vBody pre
  · rw [if_pos h1, if_pos h1, cleanTo_plain]; rfl
  · by_cases h2 : x = vBody pre
    · rw [if_neg h1, if_pos h2, if_neg h1, if_pos h2]
      have := cleanTo_mix (voltaPairs (vBody pre) k asg) []
      simp only [List.map_nil, List.append_nil] at this
      rw [this, voltaPairs_sorted _ _ _ hasg, voltaTarget_dests]
      simp [bracketDest]
    · by_cases h3 : x ≤ vBody pre + k
      · rw [if_neg h1, if_neg h2, if_pos h3, if_neg h1, if_neg h2, if_pos h3]
        obtain ⟨b, rfl⟩ : ∃ b, x = vBody pre + 1 + b := ⟨x - vBody pre - 1, by omega⟩
        have eb : vBody pre + 1 + b - vBody pre - 1 = b := by omega
        rw [eb, mvBracketRaw, cleanTo_mix, sort_replicate]
        by_cases hL : asg.getLast? = some b
        · have hbk : b = k - 1 := by rw [hlast] at hL; simpa using hL.symm
          cases post with
          | false =>
            have hE : vBody pre + 1 + b + 1 = vLen pre k false := by simp at hv; omega
            simp [hL, hE, vNext]
          | true =>
            have hE : ¬ vBody pre + 1 + b + 1 = vLen pre k true := by simp at hv; omega
            have hne : ¬ (vBody pre + k + 1 = vBody pre) := by omega
            simp [hL, hE, vNext, insSorted, hne]
        · have hE : ¬ vBody pre + 1 + b + 1 = vLen pre k post := by
            intro hE
            apply hL
            rw [hlast]
            congr 1
            cases post <;> simp at hv <;> omega
          simp [hL, hE]
      · rw [if_neg h1, if_neg h2, if_neg h3, if_neg h1, if_neg h2, if_neg h3, cleanTo_plain]; rfl

include hs hlen hk hk10 hasg hN9 hlast hsurj ha in
theorem mv_mkSegments :
    mkSegments (mvLayout pre k post asg ts) =
      some (mvGraph pre k post asg (tyAt ts) (fun i => (ts.getD i 0, ts.getD (i + 1) 0))) := by
  have hv : vLen pre k post = vBody pre + 1 + k + (if post then 1 else 0) := rfl
  have hkeys := mv_keys pre k post asg ts hs hlen hk
  have hsup : (mvLayout pre k post asg ts).supported = true := by
    simp only [Layout.supported, mvLayout, List.all_map, List.all_eq_true, Function.comp, decide_eq_true_eq]
    intro j _ n hn
    exact numsOf_small asg j hN9 n hn
  have he : (if post then 1 else 0) ≤ 1 := by cases post <;> simp
  refine mkSegments_run _ ts (vLen pre k post) hkeys hlen hsup (mvSt pre k post asg ts) ?_ (fun i hi => ?_) _
    (by simp [mvSt]) (by simp [mvGraph]) (fun i inf hinf => ?_)
  · unfold mvSt
    have e : (List.range (vLen pre k post)).map (mvCell pre k post asg ts 0) =
        (List.range (vLen pre k post)).map (fun _ => ({} : SegInfo)) :=
      List.map_congr_left (fun x _ => by simp [mvCell])
    rw [e, range_map_const]
    simp
  · by_cases h1 : i < vBody pre
    · exact mv_step_plain pre k post asg ts hs hlen hk i hi (Or.inl h1)
    · by_cases h2 : i = vBody pre
      · subst h2
        exact mv_step_body pre k post asg ts hs hlen hk hk10 hasg
      · by_cases h3 : i ≤ vBody pre + k
        · obtain ⟨b, rfl⟩ : ∃ b, i = vBody pre + 1 + b := ⟨i - vBody pre - 1, by omega⟩
          exact mv_step_bracket pre k post asg ts hs hlen hk hlast hsurj ha b (by omega)
        · exact mv_step_plain pre k post asg ts hs hlen hk i hi (Or.inr (by omega))
  · rw [mvSt_get] at hinf
    have hi : i < vLen pre k post := by
      by_cases h : i < vLen pre k post
      · exact h
      · simp [h] at hinf
    simp only [hi, if_true, Option.some.injEq, mvCell] at hinf
    subst hinf
    refine ⟨mTo pre k post asg i, [], ?_, ?_⟩
    · rw [cleanTo_noNav _ _ (mv_noNav pre k post asg ts i)]
      exact mv_cleanTo pre k post asg ts hk hasg hlast i hi
    · rw [mvGraph_get pre k post asg _ _ i hi]
      have hty : (mvFinal pre k post asg ts i).ty = tyAt ts i := by
        unfold mvFinal
        split
        · rfl
        · split
          · rfl
          · split <;> rfl
      rw [hty]

end mvmain

end C09
