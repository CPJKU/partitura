/-
C08 — lemmas behind the theorems about `reconstruct` and `Score.roundTrip`: the pieces of the reader (`firstOfBar`,
`barNames`, the order of the snote lines) and, on the writer's side, the (beat, offset) key inside a measure
and what every line of the file says of the stored note it was written for (`LineOf`, `line_at`; these stand in
`namespace C08`, beside the theorems of Props/C08Compose and C08Fallback that are stated with them).
-/
import PartituraModel.Proofs.Orders
import PartituraModel.Proofs.C08
import Mathlib.Data.List.Basic
import Mathlib.Algebra.Order.Field.Basic

namespace C08C
open Model Model.MatchTime

theorem firstOfBar_spec (ns : List (Nat × SNote)) (b : Int) (n : SNote) (h : firstOfBar ns b = some n) :
    n.measure = b ∧ ∃ i, (i, n) ∈ ns := by
  unfold firstOfBar at h
  cases hf : ns.find? (fun x => x.2.measure = b) with
  | none => simp [hf] at h
  | some p =>
    simp only [hf, Option.map_some, Option.some.injEq] at h
    subst h
    have h1 := List.find?_some hf
    have h2 := List.mem_of_find?_eq_some hf
    exact ⟨by simpa using h1, p.1, h2⟩

theorem firstOfBar_exists (ns : List (Nat × SNote)) (p : Nat × SNote) (hp : p ∈ ns) :
    ∃ n, firstOfBar ns p.2.measure = some n := by
  unfold firstOfBar
  cases hf : ns.find? (fun x => x.2.measure = p.2.measure) with
  | none =>
    rw [List.find?_eq_none] at hf
    exact absurd (by simp) (hf p hp)
  | some q => exact ⟨q.2, rfl⟩

theorem isDedup : Lists.IsDedupAdj barNames.dedupSortedInt := ⟨rfl, fun _ => rfl, fun _ _ _ => rfl⟩

theorem barNames_spec (ns : List (Nat × SNote)) :
    (barNames ns).Pairwise (· < ·) ∧ ∀ x, x ∈ barNames ns ↔ ∃ n ∈ ns, n.2.measure = x := by
  unfold barNames
  constructor
  · have hs : (sortBy (fun a b : Int => decide (a ≤ b)) (ns.map (·.2.measure))).Pairwise (· ≤ ·) :=
      (C08S.isSort fun a b : Int => decide (a ≤ b)).pairwise_key (key := id) _
    exact isDedup.strict (fun hab hne => lt_of_le_of_ne hab hne) (fun hab hbc => lt_of_lt_of_le hab hbc) hs
  · intro x
    rw [isDedup.mem, (C08S.isSort _).mem, List.mem_map]

/-- the comparison of `sortSNotes` -/
def snLe (a b : Nat × SNote) : Bool :=
  decide (a.2.measure < b.2.measure) ||
    (decide (a.2.measure = b.2.measure) &&
      (decide (a.2.beat < b.2.beat) ||
       (decide (a.2.beat = b.2.beat) && decide (a.2.offset.val ≤ b.2.offset.val))))

theorem snLe_iff (a b : Nat × SNote) : snLe a b = true ↔
    (a.2.measure < b.2.measure ∨ (a.2.measure = b.2.measure ∧
      (a.2.beat < b.2.beat ∨ (a.2.beat = b.2.beat ∧ a.2.offset.val ≤ b.2.offset.val)))) := by
  unfold snLe
  simp only [Bool.or_eq_true, Bool.and_eq_true, decide_eq_true_eq]

theorem snLe_order : Lists.TotalPreorder snLe :=
  .lex (fun a : Nat × SNote => a.2.measure) (.lex (fun a : Nat × SNote => a.2.beat) (.of_key fun a : Nat × SNote => a.2.offset.val))

theorem measureOf_spec (sc : Score) (o : Int) (mi : Nat) (m : Meas) (h : sc.measureOf o = some mi)
    (hm : sc.ms[mi]? = some m) : m.s ≤ o ∧ o < m.e := by
  unfold Score.measureOf at h
  have hp := (List.mem_filter.mp (List.mem_of_getLast? h)).2
  simpa only [hm, Bool.and_eq_true, decide_eq_true_eq] using hp

/-- inside one measure and one metre beat and offset are the quotient and the remainder of `rel·den` by `4·divs`, so a smaller
    (beat, offset) key means an earlier note -/
theorem rel_le_of_key_le (divs den : Nat) (hd : 0 < divs) (hn : 0 < den) (r1 r2 : Int)
    (hkey : encBeat divs den r1 < encBeat divs den r2
      ∨ (encBeat divs den r1 = encBeat divs den r2 ∧ encOffset divs den r1 ≤ encOffset divs den r2)) : r1 ≤ r2 := by
  have hD : (0 : Int) < 4 * (divs : Int) := by omega
  have hk : (0 : Int) < (den : Int) := by omega
  have lo1 : encBeat divs den r1 * (4 * (divs : Int)) ≤ r1 * (den : Int) := Int.ediv_mul_le _ (by omega)
  have lo2 : encBeat divs den r2 * (4 * (divs : Int)) ≤ r2 * (den : Int) := Int.ediv_mul_le _ (by omega)
  have hi1 : r1 * (den : Int) < (encBeat divs den r1 + 1) * (4 * (divs : Int)) :=
    Int.lt_ediv_add_one_mul_self _ hD
  rcases hkey with hb | ⟨hb, hoff⟩
  · have h3 : (encBeat divs den r1 + 1) * (4 * (divs : Int)) ≤ encBeat divs den r2 * (4 * (divs : Int)) :=
      mul_le_mul_of_nonneg_right (by omega) (le_of_lt hD)
    have h4 : r1 * (den : Int) < r2 * (den : Int) := by omega
    exact le_of_lt (lt_of_mul_lt_mul_right h4 (le_of_lt hk))
  · rw [C08P.encOffset_eq, C08P.encOffset_eq, hb] at hoff
    have hc : (0 : Rat) < ((4 * divs * den : Nat) : Rat) := by
      have : 0 < 4 * divs * den := by positivity
      exact_mod_cast this
    have h5 := mul_le_mul_of_nonneg_right hoff (le_of_lt hc)
    rw [div_mul_cancel₀ _ (ne_of_gt hc), div_mul_cancel₀ _ (ne_of_gt hc)] at h5
    have h6 : r1 * (den : Int) - encBeat divs den r2 * (4 * (divs : Int))
        ≤ r2 * (den : Int) - encBeat divs den r2 * (4 * (divs : Int)) := by exact_mod_cast h5
    have h7 : r1 * (den : Int) ≤ r2 * (den : Int) := by omega
    exact le_of_mul_le_mul_right h7 hk

theorem absR_eq_abs (x : Rat) : absR x = |x| :=
  Round.ite_neg_eq_abs x

theorem one_div_5000_mul_le (a : Nat) (ha : 0 < a) : 1 / (5000 * (a : Rat)) ≤ 1 / 5000 :=
  one_div_le_one_div_of_le (by norm_num) (le_mul_of_one_le_right (by norm_num) (by exact_mod_cast ha))

theorem beat_rounding_small (x : Rat) (den : Nat) (hden : 0 < den) :
    |4 * (dec4 x - x) / (den : Rat)| ≤ 1 / 5000 :=
  (C08P.beat_rounding x den hden).trans (one_div_5000_mul_le den hden)

end C08C

namespace C08
open Model Model.MatchTime

theorem roundTrip_lines (sc : Score) (stored : List (Int × Int)) (ks : List (Int × Nat)) (r : Recon)
    (h : sc.roundTrip stored ks = some r) :
    ∃ sts, sc.storedLines stored = some sts
      ∧ reconstruct (sts.map STime.toSNote) sc.readTS (sc.readKS ks) = some r := by
  unfold Score.roundTrip at h
  cases hs : sc.storedLines stored with
  | none => simp [hs] at h
  | some sts => exact ⟨sts, rfl, by simpa [hs] using h⟩

/-- the snote line `n` is what the reader gets for a note stored at `o` with duration `d`, found in measure `m` (the
    `mi`-th) under the time signature `s` -/
structure LineOf (sc : Score) (n : SNote) (o d : Int) (mi : Nat) (m : Meas) (s : TSig) : Prop where
  found : sc.measureOf o = some mi
  bar : sc.ms[mi]? = some m
  sig : tsAt sc.ts o = some s
  number : n.measure = sc.firstMeasureNumber + mi
  beat : n.beat = encBeat sc.divs s.den (o - m.s) + 1
  offset : n.offset = Frac.ofRat (encOffset sc.divs s.den (o - m.s))
  dur : n.dur = Frac.ofRat (encDur sc.divs d)
  comps : n.comps = []
  onsetB : n.onsetB = dec4 (sc.beats o)

theorem stored_line (sc : Score) (stored : List (Int × Int)) (sts : List STime) (h : sc.storedLines stored = some sts)
    (i : Nat) (st : STime) (hi : sts[i]? = some st) :
    ∃ o d mi, stored[i]? = some (o, d) ∧ sc.measureOf o = some mi ∧ sc.encode mi o d = some st := by
  unfold Score.storedLines at h
  obtain ⟨p, hp, hf⟩ := Lists.mapM_getElem?_right h hi
  cases hm : sc.measureOf p.1 with
  | none => simp [hm] at hf
  | some mi =>
    simp only [hm, Option.bind_eq_bind, Option.bind_some] at hf
    exact ⟨p.1, p.2, mi, hp, hm, hf⟩

theorem encode_fields (sc : Score) (mi : Nat) (o d : Int) (st : STime) (h : sc.encode mi o d = some st) :
    ∃ m s, sc.ms[mi]? = some m ∧ tsAt sc.ts o = some s
      ∧ st.measure = sc.firstMeasureNumber + mi ∧ st.beat = encBeat sc.divs s.den (o - m.s) + 1
      ∧ st.offset = encOffset sc.divs s.den (o - m.s) ∧ st.dur = encDur sc.divs d
      ∧ st.onsetB = sc.beats o ∧ st.offsetB = sc.beats (o + d) := by
  unfold Score.encode at h
  cases hm : sc.ms[mi]? with
  | none => simp [hm] at h
  | some m =>
    cases hs : tsAt sc.ts o with
    | none => simp [hm, hs] at h
    | some s =>
      simp [hm, hs] at h
      subst h
      exact ⟨m, s, rfl, rfl, rfl, rfl, rfl, rfl, rfl, rfl⟩

theorem line_at (sc : Score) (stored : List (Int × Int)) (sts : List STime) (h : sc.storedLines stored = some sts)
    (i : Nat) (n : SNote) (hi : (sts.map STime.toSNote)[i]? = some n) :
    ∃ o d mi m s, stored[i]? = some (o, d) ∧ LineOf sc n o d mi m s := by
  rw [List.getElem?_map] at hi
  cases hst : sts[i]? with
  | none => simp [hst] at hi
  | some st =>
    simp only [hst, Option.map_some, Option.some.injEq] at hi
    subst hi
    obtain ⟨o, d, mi, hsto, hm, henc⟩ := stored_line sc stored sts h i st hst
    obtain ⟨m, s, hms, hs, h1, h2, h3, h4, h5, _⟩ := encode_fields sc mi o d st henc
    exact ⟨o, d, mi, m, s, hsto, hm, hms, hs, h1, h2, congrArg Frac.ofRat h3, congrArg Frac.ofRat h4, rfl, congrArg dec4 h5⟩

theorem line_of_mem (sc : Score) (stored : List (Int × Int)) (sts : List STime) (h : sc.storedLines stored = some sts)
    (n : SNote) (hn : n ∈ sts.map STime.toSNote) :
    ∃ o d mi m s, (o, d) ∈ stored ∧ LineOf sc n o d mi m s := by
  obtain ⟨i, hi⟩ := List.mem_iff_getElem?.mp hn
  obtain ⟨o, d, mi, m, s, hsto, hl⟩ := line_at sc stored sts h i n hi
  exact ⟨o, d, mi, m, s, List.mem_of_getElem? hsto, hl⟩

theorem LineOf.same_bar {sc : Score} {n n₁ : SNote} {o d o₁ d₁ : Int} {mi mj : Nat} {m m₁ : Meas} {s s₁ : TSig}
    (h : LineOf sc n o d mi m s) (h₁ : LineOf sc n₁ o₁ d₁ mj m₁ s₁) (hm : n₁.measure = n.measure) : mj = mi ∧ m₁ = m := by
  have h1 := h.number
  have h2 := h₁.number
  have hmij : mj = mi := by omega
  subst hmij
  exact ⟨rfl, Option.some.inj (h₁.bar.symm.trans h.bar)⟩

end C08
