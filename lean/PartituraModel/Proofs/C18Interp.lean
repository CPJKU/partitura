/-
C18 — linear interpolation through strictly increasing knots, and the time maps built on it.  (`interpExt` extrapolates
beyond the end knots, scipy's `fill_value="extrapolate"`; the interpolant of the score time maps, Model/TimeMap.lean,
answers NaN there.)
-/
import PartituraModel.Proofs.C18Lists
import PartituraModel.Proofs.Linear

namespace C18P
open Model Model.Codec

abbrev IncX (ks : List (Rat × Rat)) : Prop := ks.Pairwise (fun a b => a.1 < b.1)
abbrev IncY (ks : List (Rat × Rat)) : Prop := ks.Pairwise (fun a b => a.2 < b.2)

theorem incX_head {x0 y0 x1 y1 : Rat} {ks : List (Rat × Rat)} (h : IncX ((x0, y0) :: (x1, y1) :: ks)) : x0 < x1 :=
  (List.pairwise_cons.mp h).1 (x1, y1) List.mem_cons_self

theorem linSeg_of_lt {x0 x1 : Rat} (h : x0 < x1) (y0 y1 q : Rat) :
    linSeg x0 y0 x1 y1 q = some ((y1 - y0) / (x1 - x0) * (q - x0) + y0) := if_neg h.ne'

theorem interpExt_two (x0 y0 x1 y1 q : Rat) : interpExt [(x0, y0), (x1, y1)] q = linSeg x0 y0 x1 y1 q := rfl

theorem interpExt_three (x0 y0 x1 y1 q : Rat) (k2 : Rat × Rat) (rest : List (Rat × Rat)) :
    interpExt ((x0, y0) :: (x1, y1) :: k2 :: rest) q
      = if q ≤ x1 then linSeg x0 y0 x1 y1 q else interpExt ((x1, y1) :: k2 :: rest) q := rfl

theorem interpExt_eq (rest : List (Rat × Rat)) (p q : Rat × Rat) (hx : IncX (p :: q :: rest)) (s : Rat) :
    interpExt (p :: q :: rest) s = some (Linear.interp p q rest s) := by
  induction rest generalizing p q with
  | nil => exact linSeg_of_lt (incX_head hx) ..
  | cons r more ih =>
    rw [interpExt_three, linSeg_of_lt (incX_head hx), ih q r hx.of_cons]
    exact (apply_ite some ..).symm

theorem interpExt_knot (ks : List (Rat × Rat)) (hx : IncX ks) (x y : Rat) (hm : (x, y) ∈ ks) :
    interpExt ks x = some y := by
  match ks, hm with
  | [k], hm => obtain rfl := List.mem_singleton.mp hm; rfl
  | p :: q :: rest, hm => exact (interpExt_eq rest p q hx x).trans (congrArg some (Linear.interp_knot rest p q hx _ hm))

theorem interpExt_strictMono (ks : List (Rat × Rat)) (hx : IncX ks) (hy : IncY ks) (h2 : 2 ≤ ks.length)
    (s t : Rat) (hst : s < t) :
    ∃ p q, interpExt ks s = some p ∧ interpExt ks t = some q ∧ p < q := by
  match ks, h2 with
  | p :: q :: rest, _ =>
    exact ⟨_, _, interpExt_eq rest p q hx s, interpExt_eq rest p q hx t, Linear.interp_strictMono rest p q hx hy hst⟩

theorem interpExt_total (ks : List (Rat × Rat)) (k0 k1 : Rat × Rat)
    (hx : IncX (k0 :: k1 :: ks)) (hy : IncY (k0 :: k1 :: ks)) (s : Rat) :
    ∃ p, interpExt (k0 :: k1 :: ks) s = some p := by
  obtain ⟨p, _, hp, _, _⟩ := interpExt_strictMono _ hx hy (by simp) s (s + 1) (lt_add_one s)
  exact ⟨p, hp⟩

/-- the knots of the inverse map before scipy sorts them again (`swapKnots` is this list sorted) -/
def swapK (ks : List (Rat × Rat)) : List (Rat × Rat) := ks.map fun k => (k.2, k.1)

theorem swapK_swapK (ks : List (Rat × Rat)) : swapK (swapK ks) = ks := by
  unfold swapK
  rw [List.map_map]
  exact List.map_id ks

theorem incX_swapK {ks : List (Rat × Rat)} (hy : IncY ks) : IncX (swapK ks) := List.pairwise_map.mpr hy

theorem incY_swapK {ks : List (Rat × Rat)} (hx : IncX ks) : IncY (swapK ks) := List.pairwise_map.mpr hx

theorem interpExt_inverse (ks : List (Rat × Rat)) (hx : IncX ks) (hy : IncY ks) (h2 : 2 ≤ ks.length) (s : Rat) :
    ∃ p, interpExt ks s = some p ∧ interpExt (swapK ks) p = some s := by
  match ks, h2 with
  | p :: q :: rest, _ =>
    exact ⟨_, interpExt_eq rest p q hx s, (interpExt_eq _ _ _ (incX_swapK hy) _).trans
      (congrArg some (Linear.interp_swap rest p q hx hy s))⟩

theorem swapKnots_eq (ks : List (Rat × Rat)) (hy : IncY ks) : swapKnots ks = swapK ks := by
  unfold swapKnots swapK
  apply (isSort _).eq_self
  rw [List.pairwise_map]
  exact hy.imp (fun h => by simpa using le_of_lt h)

theorem timeMaps_inverse (ks : List (Rat × Rat)) (hx : IncX ks) (hy : IncY ks) :
    (∀ u m, (u, m) ∈ ks → ptimeToStime ks m = some u) ∧
    (2 ≤ ks.length →
      (∀ s, ∃ p, stimeToPtime ks s = some p ∧ ptimeToStime ks p = some s) ∧
      (∀ p, ∃ s, ptimeToStime ks p = some s ∧ stimeToPtime ks s = some p)) := by
  unfold ptimeToStime stimeToPtime
  rw [swapKnots_eq ks hy]
  refine ⟨fun u m h => interpExt_knot _ (incX_swapK hy) m u (List.mem_map.mpr ⟨(u, m), h, rfl⟩), fun h2 => ⟨?_, ?_⟩⟩
  · exact interpExt_inverse ks hx hy h2
  · intro p
    have := interpExt_inverse (swapK ks) (incX_swapK hy) (incY_swapK hx) (by simpa [swapK] using h2) p
    rwa [swapK_swapK] at this

theorem timeMaps_strictMono (ks : List (Rat × Rat)) (hx : IncX ks) (hy : IncY ks) (h2 : 2 ≤ ks.length) :
    (∀ s t, s < t → ∃ p q, stimeToPtime ks s = some p ∧ stimeToPtime ks t = some q ∧ p < q) ∧
    (∀ p q, p < q → ∃ s t, ptimeToStime ks p = some s ∧ ptimeToStime ks q = some t ∧ s < t) := by
  unfold ptimeToStime stimeToPtime
  rw [swapKnots_eq ks hy]
  exact ⟨interpExt_strictMono ks hx hy h2,
    interpExt_strictMono _ (incX_swapK hy) (incY_swapK hx) (by simpa [swapK] using h2)⟩

theorem isDedupAdj : Lists.IsDedupAdj dedupAdj := ⟨rfl, fun _ => rfl, fun _ _ _ => rfl⟩

theorem mem_dedupAdj (l : List Rat) (x : Rat) : x ∈ dedupAdj l ↔ x ∈ l := isDedupAdj.mem

theorem dedupAdj_strict (l : List Rat) (h : l.Pairwise (· ≤ ·)) : (dedupAdj l).Pairwise (· < ·) :=
  isDedupAdj.strict lt_of_le_of_ne lt_of_lt_of_le h

theorem uniqueSorted_strict (l : List Rat) : (uniqueSorted l).Pairwise (· < ·) :=
  dedupAdj_strict _ (pairwise_isort_le (fun x => x) l)

theorem mem_uniqueSorted (l : List Rat) (x : Rat) : x ∈ uniqueSorted l ↔ x ∈ l := by
  unfold uniqueSorted
  rw [mem_dedupAdj]
  exact ((isSort _).perm l).mem_iff

/-- the matched notes `get_time_maps_from_alignment` averages at the score onset `u` -/
def knotRows (ro : Bool) (rows : List TRow) (u : Rat) : List TRow :=
  rows.filter fun r => decide (r.1 = u) && (!ro || decide (r.2.1 > 0))

theorem timeKnots_eq (ro : Bool) (rows : List TRow) :
    timeKnots ro rows = (uniqueSorted (rows.map (·.1))).filterMap fun u =>
      if knotRows ro rows u = [] then none else some (u, mean ((knotRows ro rows u).map (·.2.2))) := by
  unfold timeKnots knotRows
  congr 1
  funext u
  simp only
  split
  · rename_i h; rw [if_pos h]
  · rename_i x xs h; rw [if_neg (by rw [h]; exact List.cons_ne_nil _ _), h]

theorem mem_knotRows (ro : Bool) (rows : List TRow) (u : Rat) (r : TRow) :
    r ∈ knotRows ro rows u ↔ r ∈ rows ∧ r.1 = u ∧ (ro = true → r.2.1 > 0) := by
  unfold knotRows
  rw [List.mem_filter]
  cases ro <;> simp

theorem timeKnots_incX (ro : Bool) (rows : List TRow) : IncX (timeKnots ro rows) := by
  rw [timeKnots_eq]
  refine List.Pairwise.filterMap _ (fun a a' haa' b hb b' hb' => ?_) (uniqueSorted_strict (rows.map (·.1)))
  -- both knots carry their own onset as abscissa
  simp only [Option.ite_none_left_eq_some, Option.some.injEq] at hb hb'
  rw [← hb.2, ← hb'.2]
  exact haa'

end C18P
