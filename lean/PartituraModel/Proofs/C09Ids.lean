/-
C09: the rank `update_note_ids_after_unfolding` assigns (position among the notes with the same id ordered by onset) is
the number of the visit of the note's segment; the suffix it appends can be read back whatever the original id looks
like; the ranks are pairwise different among the notes with one id, with or without duplicate ids in the original.
-/
import PartituraModel.Proofs.C09Shape
import PartituraModel.Proofs.Scan

namespace C09
open Model.Unfold

theorem two_le_filter {α : Type} (R : α → Bool) : ∀ (l : List α) (a b : Nat) (x y : α),
    a < b → l[a]? = some x → l[b]? = some y → R x = true → R y = true → 2 ≤ (l.filter R).length := by
  intro l
  induction l with
  | nil => intro a b x y _ h; simp at h
  | cons z zs ih =>
    intro a b x y hab hx hy rx ry
    cases b with
    | zero => omega
    | succ b =>
      simp only [List.getElem?_cons_succ] at hy
      cases a with
      | zero =>
        simp only [List.getElem?_cons_zero, Option.some.injEq] at hx
        subst hx
        have hmem : y ∈ zs.filter R := List.mem_filter.mpr ⟨List.mem_of_getElem? hy, ry⟩
        have : 1 ≤ (zs.filter R).length := List.length_pos_of_mem hmem
        simp only [List.filter_cons, rx, if_true, List.length_cons]
        omega
      | succ a =>
        simp only [List.getElem?_cons_succ] at hx
        have := ih a b x y (by omega) hx hy rx ry
        simp only [List.filter_cons]
        split <;> simp <;> omega

theorem out_elem (objs : List Obj) (vs : List Visit) (c : OObj) (hc : c ∈ variantObjs objs 0 vs [])
    (hx : c.extra = false) :
    ∃ v o, vs[c.visit]? = some v ∧ CopyOf objs v c o := by
  obtain ⟨v, _, hv, _, ⟨hx', _⟩ | ⟨_, o, hco, _⟩⟩ := out_mem objs vs c hc
  · rw [hx] at hx'; cases hx'
  · exact ⟨v, o, hv, hco⟩

theorem out_extra_kind (objs : List Obj) (vs : List Visit) (c : OObj) (hc : c ∈ variantObjs objs 0 vs [])
    (hx : c.extra = true) : c.kind = .fermata := by
  obtain ⟨_, _, _, _, ⟨_, hk, _⟩ | ⟨hx', _⟩⟩ := out_mem objs vs c hc
  · exact hk
  · rw [hx] at hx'; cases hx'

theorem out_note_not_extra (objs : List Obj) (vs : List Visit) (c : OObj) (hc : c ∈ variantObjs objs 0 vs [])
    (hk : c.kind = .note) : c.extra = false := by
  cases hx : c.extra with
  | false => rfl
  | true => have := out_extra_kind objs vs c hc hx; rw [hk] at this; cases this

def UniqueNoteIds (objs : List Obj) : Prop :=
  ∀ (i j : Nat) (oi oj : Obj), objs[i]? = some oi → objs[j]? = some oj → oi.kind = .note → oj.kind = .note →
    oi.nid = oj.nid → oi.nid ≠ none → i = j

theorem keepP_iff (c : OObj) : keepP c = true ↔ c.kind.isSig = false ∧ c.extra = false := by simp [keepP]

/-- with unique note ids, the notes of the unfolded part that carry the id of a note are the copies of that note -/
theorem same_id_iff (objs : List Obj) (vs : List Visit) (huniq : UniqueNoteIds objs) (c x : OObj)
    (hc : c ∈ variantObjs objs 0 vs []) (hx : x ∈ variantObjs objs 0 vs []) (hk : c.kind = .note) (hn : c.nid ≠ none) :
    (x.kind = .note ∧ x.nid = c.nid) ↔ (keepP x = true ∧ x.orig = c.orig) := by
  obtain ⟨_, o, _, hco⟩ := out_elem objs vs c hc (out_note_not_extra objs vs c hc hk)
  have hon : o.kind = .note := by rw [← hco.kind]; exact hk
  constructor
  · rintro ⟨hxk, hxn⟩
    have hxx := out_note_not_extra objs vs x hx hxk
    obtain ⟨_, ox, _, hcx⟩ := out_elem objs vs x hx hxx
    refine ⟨by simp [keepP, hxk, hxx, Kind.isSig], ?_⟩
    apply huniq x.orig c.orig ox o hcx.orig hco.orig (by rw [← hcx.kind]; exact hxk) hon
    · rw [← hcx.nid, hxn, hco.nid]
    · rw [← hcx.nid, hxn]; exact hn
  · rintro ⟨hkp, he⟩
    obtain ⟨_, ox, _, hcx⟩ := out_elem objs vs x hx ((keepP_iff x).mp hkp).2
    have hox := hcx.orig
    rw [he, hco.orig] at hox
    cases hox
    exact ⟨by rw [hcx.kind]; exact hon, by rw [hcx.nid, hco.nid]⟩

/-- the copies of one original stand in `sorted(part.notes)` in the order of the visits that made them -/
theorem copy_before (objs : List Obj) (vs : List Visit) (hoff : OffsetsOK 0 vs) (hpos : ∀ v ∈ vs, v.s < v.e)
    (a pos : Nat) (x c : OObj) (hxa : (variantObjs objs 0 vs [])[a]? = some x)
    (hc : (variantObjs objs 0 vs [])[pos]? = some c) (hkx : keepP x = true) (hkc : keepP c = true)
    (he : x.orig = c.orig) : noteBefore (a, x) pos c = decide (x.visit < c.visit) := by
  obtain ⟨hos, hcx⟩ := (keepP_iff c).mp hkc
  obtain ⟨vc, o, hvc, hco⟩ := out_elem objs vs c (List.mem_of_getElem? hc) hcx
  obtain ⟨vq, oq, hvq, hcq⟩ := out_elem objs vs x (List.mem_of_getElem? hxa) ((keepP_iff x).mp hkx).2
  have hoq := hcq.orig
  rw [he, hco.orig] at hoq
  cases hoq
  rw [hco.kind] at hos
  -- order of onsets = order of visits
  have hord : ∀ (m n : Nat) (vm vn : Visit), vs[m]? = some vm → vs[n]? = some vn → inWin vm o = true →
      inWin vn o = true → m < n → o.start + (vm.off - vm.s) < o.start + (vn.off - vn.s) := by
    intro m n vm vn hm hn wm wn hmn
    have := offsets_mono vs 0 hoff hpos m n vm vn hmn hm hn
    simp only [inWin, Bool.and_eq_true, decide_eq_true_eq] at wm wn
    omega
  simp only [noteBefore, hcq.cls, hco.cls, Nat.lt_irrefl, decide_false, Bool.false_or, decide_true, Bool.true_and]
  rw [hcq.start, hco.start]
  rcases Nat.lt_trichotomy x.visit c.visit with hlt | heq | hgt
  · have := hord _ _ vq vc hvq hvc hcq.win hco.win hlt
    simp [this, hlt]
  · -- the same visit: it is the same element
    rw [heq, hvc] at hvq
    cases hvq
    have hap : ¬ a < pos := by
      intro hlt
      have h2 := two_le_filter (fun y : OObj => keepP y && (decide (y.orig = c.orig) && decide (y.visit = c.visit)))
        (variantObjs objs 0 vs []) a pos x c hlt hxa hc (by simp [hkx, he, heq]) (by simp [hkc])
      rw [count_copies objs vs c.orig o hco.orig hco.kept hos (fun n => decide (n = c.visit))] at h2
      have := enum_filter_idx_le (fun nv : Nat × Visit => inWin nv.2 o) vs 0 c.visit
      omega
    simp [heq, hap]
  · have := hord _ _ vc vq hvc hvq hco.win hcq.win hgt
    have h2 : ¬ (o.start + (vq.off - vq.s) = o.start + (vc.off - vc.s)) := by omega
    have h3 : ¬ (o.start + (vq.off - vq.s) < o.start + (vc.off - vc.s)) := by omega
    have h4 : ¬ x.visit < c.visit := by omega
    simp [h2, h3, h4]

theorem idRank_eq (objs : List Obj) (vs : List Visit)
    (hoff : OffsetsOK 0 vs) (hpos : ∀ v ∈ vs, v.s < v.e) (huniq : UniqueNoteIds objs)
    (pos : Nat) (c : OObj) (hc : (variantObjs objs 0 vs [])[pos]? = some c)
    (hk : c.kind = .note) (hn : c.nid ≠ none) :
    ∃ o, objs[c.orig]? = some o ∧
      idRank (variantObjs objs 0 vs []) pos c = 1 + ((vs.take c.visit).filter fun v => inWin v o).length := by
  have hcm : c ∈ variantObjs objs 0 vs [] := List.mem_of_getElem? hc
  have hcx := out_note_not_extra objs vs c hcm hk
  obtain ⟨vc, o, hvc, hco⟩ := out_elem objs vs c hcm hcx
  refine ⟨o, hco.orig, ?_⟩
  have hos : o.kind.isSig = false := by rw [← hco.kind, hk]; rfl
  have hkeep : keepP c = true := by simp [keepP, hk, hcx, Kind.isSig]
  -- the notes with the id of `c` in front of it are the copies of its original made in earlier visits
  have hpred : ∀ q ∈ enum 0 (variantObjs objs 0 vs []),
      (decide (q.2.kind = Kind.note) && decide (q.2.nid = c.nid) && noteBefore q pos c) =
      (keepP q.2 && (decide (q.2.orig = c.orig) && decide (q.2.visit < c.visit))) := by
    intro q hq
    obtain ⟨a, x⟩ := q
    have hxa := ((enum_mem _ 0 a x).mp hq).2
    simp only [Nat.sub_zero] at hxa
    have hb : (decide (x.kind = Kind.note) && decide (x.nid = c.nid)) = (keepP x && decide (x.orig = c.orig)) :=
      Bool.eq_iff_iff.mpr (by simpa using same_id_iff objs vs huniq c x hcm (List.mem_of_getElem? hxa) hk hn)
    show (_ && _ && _) = (_ && (_ && _))
    rw [← Bool.and_assoc, hb]
    cases hab : (keepP x && decide (x.orig = c.orig)) with
    | false => rfl
    | true =>
      simp only [Bool.and_eq_true, decide_eq_true_eq] at hab
      rw [Bool.true_and, Bool.true_and, copy_before objs vs hoff hpos a pos x c hxa hc hab.1 hkeep hab.2]
  unfold idRank
  congr 1
  rw [List.filter_congr hpred]
  rw [enum_filter_snd (fun y : OObj => keepP y && (decide (y.orig = c.orig) && decide (y.visit < c.visit)))]
  rw [count_copies objs vs c.orig o hco.orig hco.kept hos (fun n => decide (n < c.visit))]
  have := enum_take_filter (fun v : Visit => inWin v o) vs 0 c.visit
  simp only [Nat.zero_add] at this
  exact this

theorem toDigits_inj (a b : Nat) (h : Nat.toDigits 10 a = Nat.toDigits 10 b) : a = b := by
  have := congrArg (Nat.ofDigitChars 10 · 0) h
  rwa [Nat.ofDigitChars_toDigits (by decide) (by decide), Nat.ofDigitChars_toDigits (by decide) (by decide)] at this

theorem dash_not_in_toDigits (n : Nat) : ¬ '-' ∈ Nat.toDigits 10 n := fun h =>
  absurd (Nat.isDigit_of_mem_toDigits (by decide) (by decide) h) (by decide)

theorem split_last_sep {α : Type} [DecidableEq α] (sep : α) (xs ys ds es : List α) (hd : sep ∉ ds) (he : sep ∉ es)
    (h : xs ++ sep :: ds = ys ++ sep :: es) : xs = ys ∧ ds = es := by
  have h' := congrArg List.reverse h
  simp only [List.reverse_append, List.reverse_cons, List.append_assoc, List.singleton_append] at h'
  obtain ⟨e1, e2⟩ := Lists.sep_unique (by simpa using hd) (by simpa using he) h'
  exact ⟨List.reverse_inj.mp e2, List.reverse_inj.mp e1⟩

theorem noteBefore_irrefl (i : Nat) (x : OObj) : noteBefore (i, x) i x = false := by
  simp [noteBefore]

theorem noteBefore_trans (i j k : Nat) (x y z : OObj)
    (h1 : noteBefore (i, x) j y = true) (h2 : noteBefore (j, y) k z = true) : noteBefore (i, x) k z = true := by
  simp only [noteBefore, Bool.or_eq_true, Bool.and_eq_true, decide_eq_true_eq] at *
  omega

theorem noteBefore_total (i j : Nat) (x y : OObj) (hij : i ≠ j) :
    noteBefore (i, x) j y = true ∨ noteBefore (j, y) i x = true := by
  simp only [noteBefore, Bool.or_eq_true, Bool.and_eq_true, decide_eq_true_eq]
  omega

theorem filter_length_lt_of_imp {α : Type} (P Q : α → Bool) (l : List α) (himp : ∀ a ∈ l, P a = true → Q a = true)
    (w : α) (hw : w ∈ l) (hwP : P w = false) (hwQ : Q w = true) : (l.filter P).length < (l.filter Q).length := by
  obtain ⟨l1, l2, rfl⟩ := List.append_of_mem hw
  have h1 : l1.countP P ≤ l1.countP Q :=
    List.countP_mono_left fun a ha => himp a (List.mem_append_left _ ha)
  have h2 : l2.countP P ≤ l2.countP Q :=
    List.countP_mono_left fun a ha => himp a (List.mem_append_right _ (List.mem_cons_of_mem _ ha))
  rw [← List.countP_eq_length_filter, ← List.countP_eq_length_filter, List.countP_append, List.countP_append,
    List.countP_cons, List.countP_cons, hwP, hwQ]
  simp only [Bool.false_eq_true, if_false, if_true]
  omega

/-- two notes with the same id at different positions get different ranks: the one that comes first in
`sorted(part.notes)` gets the smaller one -/
theorem idRank_lt (out : List OObj) (i j : Nat) (x y : OObj) (hx : out[i]? = some x)
    (hkx : x.kind = .note) (hid : x.nid = y.nid) (hb : noteBefore (i, x) j y = true) :
    idRank out i x < idRank out j y := by
  unfold idRank
  have hmem : (i, x) ∈ enum 0 out := (enum_mem out 0 i x).mpr ⟨Nat.zero_le _, by simpa using hx⟩
  have := filter_length_lt_of_imp
    (fun q : Nat × OObj => decide (q.2.kind = Kind.note) && decide (q.2.nid = x.nid) && noteBefore q i x)
    (fun q : Nat × OObj => decide (q.2.kind = Kind.note) && decide (q.2.nid = y.nid) && noteBefore q j y)
    (enum 0 out)
    (by
      intro q _ hq
      simp only [Bool.and_eq_true, decide_eq_true_eq] at hq ⊢
      exact ⟨⟨hq.1.1, by rw [hq.1.2, hid]⟩, noteBefore_trans q.1 i j q.2 x y hq.2 hb⟩)
    (i, x) hmem
    (by simp [noteBefore_irrefl])
    (by simp [hkx, hid, hb])
  omega

theorem idRank_ne (out : List OObj) (i j : Nat) (x y : OObj) (hx : out[i]? = some x) (hy : out[j]? = some y)
    (hkx : x.kind = .note) (hky : y.kind = .note) (hid : x.nid = y.nid) (hij : i ≠ j) :
    idRank out i x ≠ idRank out j y := by
  rcases noteBefore_total i j x y hij with h | h
  · have := idRank_lt out i j x y hx hkx hid h; omega
  · have := idRank_lt out j i y x hy hky hid.symm h; omega

end C09
