/-
C12 — `key_name_to_fifths_mode` on EVERY string: the string algorithm of the source (two rotations of the
list of fifths, their reversals, four correction thresholds, the two-character test and the `"F"` test) computes one
closed form — position of the first letter on the line of fifths, minus three for a minor key, minus seven per flat
(when there is one) or plus seven per sharp.  The positions of the seven letters on the rotated lists are one
evaluated table; the flags of the string and the accidentals are argued.  The theorems are in Props/C12Keys.lean.
-/
import PartituraModel.Model.Conversions
import PartituraModel.Proofs.Lists

namespace C12Keys
open Model Gen Gen.C12

/-- the part of `key_name_to_fifths_mode` after the tests on the string, with their outcomes as Boolean arguments so
    that a proof can split on them: same text as `keyNameToFifthsModeL` -/
def keyCore (fl : List String) (k0 : String) (hasM hasB len2 isF : Bool) (nb ns : Int) : Option (Int × Mode) :=
  if hasM then
    let sList := fl.drop 4 ++ fl.take 4
    match indexOf k0 sList with
    | none => none
    | some i =>
      if hasB || (len2 && i > 2) then
        (indexOf k0 sList.reverse).map fun j =>
          let idx : Int := j + 1
          let corr : Int := if idx > 4 then 1 else 0
          (-idx - 7 * (nb - corr), Mode.minor)
      else
        let idx : Int := i
        let corr : Int := if idx > 2 then 1 else 0
        some (idx + 7 * (ns - corr), Mode.minor)
  else
    let sList := fl.drop 1 ++ fl.take 1
    if hasB || isF then
      (indexOf k0 sList.reverse).map fun j =>
        let idx : Int := j + 1
        let corr : Int := if idx > 1 then 1 else 0
        (-idx - 7 * (nb - corr), Mode.major)
    else
      (indexOf k0 sList).map fun i =>
        let idx : Int := i
        let corr : Int := if idx > 5 then 1 else 0
        (idx + 7 * (ns - corr), Mode.major)

theorem keyNameL_core (fl : List String) (name : String) :
    keyNameToFifthsModeL fl name = match name.toList with
      | [] => none
      | c0 :: _ => keyCore fl (String.ofList [c0]) (name.toList.contains 'm') (name.toList.contains 'b')
          (name.toList.length == 2) (name == "F") (countChar 'b' name) (countChar '#' name) := by
  unfold keyNameToFifthsModeL keyCore
  cases name.toList <;> rfl

/-- the closed form of the core: line-of-fifths position, minor shift, accidentals -/
def coreValue (fl : List String) (k0 : String) (hasM hasB : Bool) (nb ns : Int) : Option (Int × Mode) :=
  (indexOf k0 fl).map fun (i : Nat) =>
    ((i : Int) - 1 - (if hasM then 3 else 0) + (if hasB then -7 * nb else 7 * ns),
      if hasM then Mode.minor else Mode.major)

/-- the seven letters on the two rotations of the list, read from either end: the position found, corrected at the
    threshold of its branch, is the position `i` on the list itself less the shift of the mode -/
theorem letter_positions : ∀ k ∈ k2fFifthsList, ∃ i < 7, indexOf k k2fFifthsList = some i ∧
    (∃ p < 7, indexOf k (k2fFifthsList.drop 4 ++ k2fFifthsList.take 4) = some p ∧
      (p : Int) - 7 * (if (p : Int) > 2 then 1 else 0) = i - 1 - 3) ∧
    (∃ j < 7, indexOf k (k2fFifthsList.drop 4 ++ k2fFifthsList.take 4).reverse = some j ∧
      -((j : Int) + 1) + 7 * (if (j : Int) + 1 > 4 then 1 else 0) = i - 1 - 3) ∧
    (∃ p < 7, indexOf k (k2fFifthsList.drop 1 ++ k2fFifthsList.take 1) = some p ∧
      (p : Int) - 7 * (if (p : Int) > 5 then 1 else 0) = i - 1 - 0) ∧
    (∃ j < 7, indexOf k (k2fFifthsList.drop 1 ++ k2fFifthsList.take 1).reverse = some j ∧
      -((j : Int) + 1) + 7 * (if (j : Int) + 1 > 1 then 1 else 0) = i - 1 - 0) := by
  decide +kernel

theorem flat_value (a c n t : Int) (h : -a + 7 * c = t) : -a - 7 * (n - c) = t + -7 * n := by omega

theorem sharp_value (a c n t : Int) (h : a - 7 * c = t) : a + 7 * (n - c) = t + 7 * n := by omega

/-- the core computes the closed form over the regenerated list of fifths, whatever the first letter, under the
    three facts that tie the flags of one string together -/
theorem keyCore_value (k0 : String) (hasM hasB len2 isF : Bool) (nb ns : Int)
    (hF : isF = true → nb = 0 ∧ ns = 0 ∧ hasM = false)
    (h2 : len2 = true → hasM = true → (indexOf k0 k2fFifthsList).isSome → ns = 0)
    (hB : hasB = false → nb = 0) :
    keyCore k2fFifthsList k0 hasM hasB len2 isF nb ns = coreValue k2fFifthsList k0 hasM hasB nb ns := by
  by_cases hk : k0 ∈ k2fFifthsList
  · obtain ⟨i, -, e0, ⟨p4, -, e1, s4⟩, ⟨j4, -, e2, f4⟩, ⟨p1, -, e3, s1⟩, ⟨j1, -, e4, f1⟩⟩ := letter_positions k0 hk
    rw [e0] at h2
    simp only [keyCore, coreValue, e0, e1, e2, e3, e4, Option.map_some, Option.bind_eq_bind, Option.bind_some,
      Option.pure_def]
    -- a flat side is taken with a `b` in the name, or with no accidental at all
    cases hasM <;> cases hasB <;>
      simp only [Bool.false_eq_true, if_false, if_true, Bool.true_or, Bool.false_or, Option.some.injEq,
        Prod.mk.injEq, and_true]
    · cases isF
      · simp only [Bool.false_eq_true, if_false, Option.some.injEq, Prod.mk.injEq, and_true]
        exact sharp_value _ _ _ _ s1
      · obtain ⟨hb, hs, -⟩ := hF rfl
        simp only [if_true, Option.some.injEq, Prod.mk.injEq, and_true, hb, hs]
        exact flat_value _ _ _ _ f1
    · exact flat_value _ _ _ _ f1
    · split
      · rename_i hc
        simp only [Bool.and_eq_true, decide_eq_true_eq] at hc
        simp only [Option.some.injEq, Prod.mk.injEq, and_true, hB rfl, h2 hc.1 rfl rfl]
        exact flat_value _ _ _ _ f4
      · simp only [Option.some.injEq, Prod.mk.injEq, and_true]
        exact sharp_value _ _ _ _ s4
    · exact flat_value _ _ _ _ f4
  · -- not one of the seven letters: every search fails
    have hn : ∀ l : List String, (∀ x ∈ l, x ∈ k2fFifthsList) → indexOf k0 l = none :=
      fun l hl => by rw [indexOf_eq, if_neg fun m => hk (hl _ m)]
    have hrot : ∀ r, ∀ x ∈ k2fFifthsList.drop r ++ k2fFifthsList.take r, x ∈ k2fFifthsList := fun r x m =>
      (List.mem_append.mp m).elim List.mem_of_mem_drop List.mem_of_mem_take
    simp only [keyCore, coreValue, hn _ (hrot _), hn _ fun x m => hrot _ x (List.mem_reverse.mp m), hn _ fun _ m => m]
    cases hasM <;> cases hasB <;> cases isF <;> rfl

end C12Keys
