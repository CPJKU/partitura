/-
The parts a final state denotes do not depend on the ORDER in which the `<tie>` elements were collected, when no two ties
start at the same note (`partsOf_ties_perm`); since the state machine never reads the tie list (`step_ties`, `run_setTies` of
`Proofs/C19Step.lean`), a `<tie>` may be moved across any events (`tie_move_states`).
-/
import PartituraModel.Proofs.C19Step
import PartituraModel.Proofs.Dicts

set_option linter.unusedSimpArgs false
set_option linter.unusedVariables false

namespace C19T
open Model Model.Mei C19S

theorem chainDur_perm (notes : List RNote) (ties ties' : List (String × String)) (h : ties'.Perm ties)
    (hnd : (ties.map (·.1)).Nodup) : ∀ (fuel : Nat) (id : String), chainDur notes ties' fuel id = chainDur notes ties fuel id := by
  intro fuel
  induction fuel with
  | zero => intro id; rfl
  | succ n ih =>
    intro id
    simp only [chainDur]
    have hf : ties'.find? (fun t => t.1 = id) = ties.find? (fun t => t.1 = id) :=
      (Dicts.find?_perm_unique _ h.symm fun x hx y hy px py =>
        Lists.eq_of_nodup_map hnd hx hy ((of_decide_eq_true px).trans (of_decide_eq_true py).symm)).symm
    rw [hf]
    cases ties.find? (fun t => decide (t.1 = id)) with
    | none => rfl
    | some t =>
      obtain ⟨_, nxt⟩ := t
      simp only []
      cases notes.find? (fun n => n.xmlid = nxt) with
      | none => rfl
      | some n => simp only [ih nxt]

theorem mkPart_ties_perm (st : St) (ties' : List (String × String)) (h : ties'.Perm st.ties)
    (hnd : (st.ties.map (·.1)).Nodup) (i : Nat) (d : PartDef) :
    mkPart { st with ties := ties' } i d = mkPart st i d := by
  have hs : ∀ a, (ties'.map (·.1)).contains a = (st.ties.map (·.1)).contains a := fun _ => (h.map _).contains_eq
  have he : ∀ a, (ties'.map (·.2)).contains a = (st.ties.map (·.2)).contains a := fun _ => (h.map _).contains_eq
  have hc := chainDur_perm st.notes.reverse st.ties ties' h hnd
  have hl : ties'.length = st.ties.length := h.length_eq
  have hrm : resolveMeter { st with ties := ties' } d = resolveMeter st d := rfl
  have hrk : resolveKey { st with ties := ties' } d = resolveKey st d := rfl
  simp only [mkPart, hrm, hrk]
  cases resolveMeter st d with
  | none => rfl
  | some bu =>
    simp only [hs, he, hc, hl]

theorem partsOf_ties_perm (st : St) (ties' : List (String × String)) (h : ties'.Perm st.ties)
    (hnd : (st.ties.map (·.1)).Nodup) : partsOf { st with ties := ties' } = partsOf st := by
  unfold partsOf
  have hp : partsInOrder { st with ties := ties' } = partsInOrder st := rfl
  rw [hp]
  congr 1
  funext di
  exact mkPart_ties_perm st ties' h hnd di.2 di.1

theorem measureLen_ties (st : St) (t : List (String × String)) : measureLen (setTies t st) = measureLen st := rfl

/-- same state but for the tie lists, which are permutations of each other -/
def SimT (a b : St) : Prop := setTies b.ties a = b ∧ a.ties.Perm b.ties

theorem step_simT (a b : St) (e : Ev) (h : SimT a b) : RelOpt SimT (stepEv a e) (stepEv b e) := by
  obtain ⟨h1, h2⟩ := h
  have hb : stepEv b e = (stepEv a e).map (setTies (evTies e ++ b.ties)) := by
    rw [← h1, step_ties]
    rfl
  cases ha : stepEv a e with
  | none => rw [hb, ha]; exact trivial
  | some x =>
    rw [hb, ha]
    simp only [Option.map_some, RelOpt]
    have hk := (step_keeps a x e ha).1
    refine ⟨rfl, ?_⟩
    show x.ties.Perm (evTies e ++ b.ties)
    rw [hk]
    exact List.Perm.append_left _ h2

theorem tie_leaf (st : St) (as : List (String × String)) (evs : List Ev) (hp : PlainAttrs as) :
    runEvs st (.op "tie" as :: .cl :: evs) = runEvs (setTies (tieOf "tie" as ++ st.ties) st) evs :=
  leaf_state st (setTies (tieOf "tie" as ++ st.ties) (core st)) "tie" as evs (openCore_plain _ _ "tie" as hp (by decide)) rfl

theorem tie_move_states (st : St) (as : List (String × String)) (mid post : List Ev) (hp : PlainAttrs as) :
    RelOpt SimT (runEvs st (.op "tie" as :: .cl :: (mid ++ post))) (runEvs st (mid ++ .op "tie" as :: .cl :: post)) := by
  rw [tie_leaf st as (mid ++ post) hp, runEvs_append, runEvs_append, run_setTies]
  cases hm : runEvs st mid with
  | none => exact trivial
  | some s1 =>
    simp only [Option.map_some, Option.bind_some]
    rw [tie_leaf s1 as post hp]
    refine run_rel step_simT post _ _ ⟨rfl, ?_⟩
    have hk := (run_ties mid st s1 hm).1
    show ((tiesOf mid).reverse ++ (tieOf "tie" as ++ st.ties)).Perm (tieOf "tie" as ++ s1.ties)
    rw [hk, ← List.append_assoc, ← List.append_assoc]
    exact List.Perm.append_right _ List.perm_append_comm

theorem eq_setTies_of (a b : St) (h : setTies b.ties a = b) : setTies a.ties b = a := by
  rw [← h]
  rfl

end C19T
