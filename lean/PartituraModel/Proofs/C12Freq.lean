/-
C12 — frequency ↔ pitch over ℝ for formulas of the SHAPE the source uses, with the constants as parameters:

  freq  = a4 / D · B ^ ((p − R) / O)            midi_pitch_to_frequency
  pitch = round (O · log₂ (M · f / a4) + R')     frequency_to_midi_pitch

under  B = 2,  M = D · 2^k,  k · O = R − R'   (what `C12.freq_consts` decides for the regenerated constants).
-/
import Mathlib.Analysis.SpecialFunctions.Log.Base

namespace C12Freq

theorem scaled (D M O R R' : ℝ) (k : ℕ) (hD : D ≠ 0) (hO : O ≠ 0) (hM : M = D * 2 ^ k) (hk : (k : ℝ) * O = R - R')
    (p a4 f : ℝ) (h : 0 < a4) :
    M * f / a4 = (f / (a4 / D * (2 : ℝ) ^ ((p - R) / O))) * (2 : ℝ) ^ ((p - R') / O) := by
  have h2 : (0 : ℝ) < 2 := by norm_num
  have hx : (0 : ℝ) < (2 : ℝ) ^ ((p - R) / O) := Real.rpow_pos_of_pos h2 _
  have e : (p - R') / O = (k : ℝ) + (p - R) / O := by
    field_simp
    linarith
  rw [e, Real.rpow_add h2, Real.rpow_natCast, hM]
  field_simp

theorem inverse (D M O R R' : ℝ) (k : ℕ) (hD : D ≠ 0) (hO : O ≠ 0) (hM : M = D * 2 ^ k) (hk : (k : ℝ) * O = R - R')
    (p : ℤ) (a4 : ℝ) (h : 0 < a4) :
    round (O * Real.logb 2 (M * (a4 / D * (2 : ℝ) ^ (((p : ℝ) - R) / O)) / a4) + R') = p := by
  have h2 : (0 : ℝ) < 2 := by norm_num
  have hne : a4 / D * (2 : ℝ) ^ (((p : ℝ) - R) / O) ≠ 0 :=
    mul_ne_zero (div_ne_zero (ne_of_gt h) hD) (ne_of_gt (Real.rpow_pos_of_pos h2 _))
  rw [scaled D M O R R' k hD hO hM hk (p : ℝ) a4 _ h, div_self hne, one_mul,
    Real.logb_rpow (by norm_num) (by norm_num)]
  have : O * (((p : ℝ) - R') / O) + R' = (p : ℝ) := by field_simp; ring
  rw [this, round_intCast]

theorem le_root40 {x : ℝ} (hx : 0 ≤ x) (h : x ^ (40 : ℕ) ≤ 2) : x ≤ (2 : ℝ) ^ (1 / 40 : ℝ) := by
  have e : x = (x ^ (40 : ℕ)) ^ (((40 : ℕ) : ℝ)⁻¹) := (Real.pow_rpow_inv_natCast hx (by norm_num)).symm
  rw [e, show ((40 : ℕ) : ℝ)⁻¹ = (1 / 40 : ℝ) by norm_num]
  exact Real.rpow_le_rpow (by positivity) h (by norm_num)

/-- within 1 % of 1 the logarithm is at most 1/40, because (101/100)^40 ≤ 2 and (100/99)^40 ≤ 2 -/
theorem log_small (r : ℝ) (h1 : 99 / 100 ≤ r) (h2 : r ≤ 101 / 100) : |Real.logb 2 r| ≤ 1 / 40 := by
  have hr : 0 < r := lt_of_lt_of_le (by norm_num) h1
  have hb : (1 : ℝ) < 2 := by norm_num
  have up : (101 / 100 : ℝ) ≤ (2 : ℝ) ^ (1 / 40 : ℝ) := le_root40 (by norm_num) (by norm_num)
  have lo : (100 / 99 : ℝ) ≤ (2 : ℝ) ^ (1 / 40 : ℝ) := le_root40 (by norm_num) (by norm_num)
  rw [abs_le]
  constructor
  · rw [Real.le_logb_iff_rpow_le hb hr]
    have hpos : (0 : ℝ) < (2 : ℝ) ^ (1 / 40 : ℝ) := Real.rpow_pos_of_pos (by norm_num) _
    have e : (2 : ℝ) ^ (-(1 / 40) : ℝ) = ((2 : ℝ) ^ (1 / 40 : ℝ))⁻¹ := Real.rpow_neg (by norm_num) _
    rw [e]
    calc ((2 : ℝ) ^ (1 / 40 : ℝ))⁻¹ ≤ (100 / 99 : ℝ)⁻¹ := inv_anti₀ (by norm_num) lo
      _ = 99 / 100 := by norm_num
      _ ≤ r := h1
  · rw [Real.logb_le_iff_le_rpow hb hr]
    exact le_trans h2 up

/-- inversion under perturbation: a frequency within 1 % of the exact one and a logarithm off by at most 0.01
    still round to the pitch (octave size 12: the margin is 12 · (1/40 + 1/100) = 0.42 < 1/2) -/
theorem stable (D M R R' : ℝ) (k : ℕ) (hD : D ≠ 0) (hM : M = D * 2 ^ k) (hk : (k : ℝ) * 12 = R - R')
    (p : ℤ) (a4 f d : ℝ) (h : 0 < a4) (hD0 : 0 < D)
    (hf1 : 99 / 100 * (a4 / D * (2 : ℝ) ^ (((p : ℝ) - R) / 12)) ≤ f)
    (hf2 : f ≤ 101 / 100 * (a4 / D * (2 : ℝ) ^ (((p : ℝ) - R) / 12)))
    (hd : |d| ≤ 1 / 100) :
    round (12 * (Real.logb 2 (M * f / a4) + d) + R') = p := by
  have h2 : (0 : ℝ) < 2 := by norm_num
  set F : ℝ := a4 / D * (2 : ℝ) ^ (((p : ℝ) - R) / 12) with hF
  have hFpos : 0 < F := by
    have := Real.rpow_pos_of_pos h2 (((p : ℝ) - R) / 12)
    positivity
  have hfpos : 0 < f := lt_of_lt_of_le (by positivity) hf1
  rw [scaled D M 12 R R' k hD (by norm_num) hM hk (p : ℝ) a4 f h]
  have hr1 : 99 / 100 ≤ f / F := by rw [le_div_iff₀ hFpos]; exact hf1
  have hr2 : f / F ≤ 101 / 100 := by rw [div_le_iff₀ hFpos]; exact hf2
  have hrpos : 0 < f / F := by positivity
  have hxpos : (0 : ℝ) < (2 : ℝ) ^ (((p : ℝ) - R') / 12) := Real.rpow_pos_of_pos h2 _
  rw [Real.logb_mul (ne_of_gt hrpos) (ne_of_gt hxpos), Real.logb_rpow (by norm_num) (by norm_num)]
  have hε := log_small (f / F) hr1 hr2
  set ε := Real.logb 2 (f / F)
  rw [abs_le] at hε hd
  have e : 12 * (ε + ((p : ℝ) - R') / 12 + d) + R' = (p : ℝ) + 12 * (ε + d) := by ring
  rw [e, round_eq, Int.floor_eq_iff]
  constructor <;> [linarith only [hε.1, hd.1]; linarith only [hε.2, hd.2]]

/-- frequency → pitch → frequency: the frequency of ANY real pitch number `p` differs from `f` by the factor
    2^((p − x)/O), where x is the unrounded pitch number of `f` -/
theorem back (D M O R R' : ℝ) (k : ℕ) (hD : 0 < D) (hO : O ≠ 0) (hM : M = D * 2 ^ k) (hk : (k : ℝ) * O = R - R')
    (f a4 : ℝ) (hf : 0 < f) (h : 0 < a4) (p : ℝ) :
    a4 / D * (2 : ℝ) ^ ((p - R) / O) = f * (2 : ℝ) ^ ((p - (O * Real.logb 2 (M * f / a4) + R')) / O) := by
  have h2 : (0 : ℝ) < 2 := by norm_num
  have hMpos : 0 < M := by rw [hM]; positivity
  have hq : 0 < M * f / a4 := by positivity
  have hpow : (2 : ℝ) ^ (Real.logb 2 (M * f / a4)) = M * f / a4 := Real.rpow_logb h2 (by norm_num) hq
  generalize Real.logb 2 (M * f / a4) = L at hpow
  have e : (p - R) / O = (p - (O * L + R')) / O + L + (-(k : ℝ)) := by
    field_simp
    linarith
  rw [e, Real.rpow_add h2, Real.rpow_add h2, hpow, Real.rpow_neg (le_of_lt h2), Real.rpow_natCast, hM]
  field_simp

end C12Freq
