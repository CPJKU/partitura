/-
The sort key of the loaded notes in ticks (`rnoteLe`) and in seconds (`KeyLe`; `secLe`,
`sortNotesSec`, `loadFileS` of Model/PerfIds.lean) and when the two orders agree; every tick the loader sees is
non-negative when the delta times of the file are, and a file the exporter writes has no negative tick when no
time of the performance is mapped to one (`loaderTracks_written_nonneg`).
-/
import PartituraModel.Model.PerfIds
import PartituraModel.Proofs.C06Sort
import PartituraModel.Proofs.C06Defaults
import PartituraModel.Proofs.C06Pair
import PartituraModel.Proofs.C06History

namespace C06Ids
open Model Model.PerfMidi C06Sort

theorem rnoteLe_iff (a b : RNote) : rnoteLe a b = true ↔
    (a.on < b.on ∨ (a.on = b.on ∧ (a.pitch < b.pitch ∨ (a.pitch = b.pitch ∧
      (a.off < b.off ∨ (a.off = b.off ∧ a.ch ≤ b.ch)))))) := by
  simp [rnoteLe]

theorem rnoteLe_order : Lists.TotalPreorder rnoteLe :=
  .lex RNote.on (.lex RNote.pitch (.lex RNote.off (.of_key RNote.ch)))

/-- lexicographic order of (onset, pitch, offset, channel) with the times in seconds -/
def KeyLe (sec : Int → Rat) (a b : RNote) : Prop :=
  sec a.on < sec b.on ∨ (sec a.on = sec b.on ∧ (a.pitch < b.pitch ∨ (a.pitch = b.pitch ∧
    (sec a.off < sec b.off ∨ (sec a.off = sec b.off ∧ a.ch ≤ b.ch)))))

end C06Ids

namespace C06Order
open Model Model.PerfMidi C06Sort C06Ids C06Pair C06Lists C06Export C06Defaults

theorem secLe_iff (sec : Int → Rat) (a b : RNote) : secLe sec a b = true ↔ KeyLe sec a b := by
  simp [secLe, KeyLe]

theorem secLe_order (sec : Int → Rat) : Lists.TotalPreorder (secLe sec) :=
  .lex (fun a : RNote => sec a.on) (.lex RNote.pitch (.lex (fun a : RNote => sec a.off) (.of_key RNote.ch)))

theorem sorted_sortNotesSec (sec : Int → Rat) (l : List RNote) : (sortNotesSec sec l).Pairwise (KeyLe sec) :=
  ((isSort (secLe sec)).pairwise (secLe_order sec) l).imp (secLe_iff sec _ _).mp

def StrictOn (sec : Int → Rat) : Prop := ∀ x y, 0 ≤ x → x < y → sec x < sec y

theorem strictOn_lt_iff (sec : Int → Rat) (h : StrictOn sec) (x y : Int) (hx : 0 ≤ x) (hy : 0 ≤ y) :
    sec x < sec y ↔ x < y := by
  constructor
  · intro hlt
    by_contra hn
    rcases lt_or_eq_of_le (not_lt.mp hn) with h1 | h1
    · exact lt_asymm hlt (h y x hy h1)
    · rw [h1] at hlt; exact lt_irrefl _ hlt
  · exact h x y hx

theorem strictOn_eq_iff (sec : Int → Rat) (h : StrictOn sec) (x y : Int) (hx : 0 ≤ x) (hy : 0 ≤ y) :
    sec x = sec y ↔ x = y := by
  constructor
  · intro he
    rcases lt_trichotomy x y with h1 | h1 | h1
    · exact absurd he (ne_of_lt (h x y hx h1))
    · exact h1
    · exact absurd he.symm (ne_of_lt (h y x hy h1))
  · intro he; rw [he]

theorem secLe_eq_rnoteLe (sec : Int → Rat) (h : StrictOn sec) (a b : RNote)
    (ha : 0 ≤ a.on ∧ 0 ≤ a.off) (hb : 0 ≤ b.on ∧ 0 ≤ b.off) : secLe sec a b = rnoteLe a b := by
  rw [Bool.eq_iff_iff, secLe_iff, rnoteLe_iff]
  unfold KeyLe
  rw [strictOn_lt_iff sec h _ _ ha.1 hb.1, strictOn_eq_iff sec h _ _ ha.1 hb.1,
    strictOn_lt_iff sec h _ _ ha.2 hb.2, strictOn_eq_iff sec h _ _ ha.2 hb.2]

theorem sortNotesSec_eq (sec : Int → Rat) (h : StrictOn sec) (l : List RNote)
    (hpos : ∀ n ∈ l, 0 ≤ n.on ∧ 0 ≤ n.off) : sortNotesSec sec l = sortNotes l := by
  unfold sortNotesSec sortNotes
  exact sortBy_congr_le _ _ l (fun a ha b hb => secLe_eq_rnoteLe sec h a b (hpos a ha) (hpos b hb))

def NonnegTicks (l : Track) : Prop := ∀ m ∈ l, 0 ≤ m.1

theorem NonnegTicks.ne {T : Track} (h : NonnegTicks T) : NonnegTicks (ne T) := fun x hx => h x (mem_ne.mp hx).1

theorem toAbsFrom_nonneg (t : Int) (ht : 0 ≤ t) (l : Track) (h : NonnegTicks l) : NonnegTicks (toAbsFrom t l) := by
  induction l generalizing t with
  | nil => intro m hm; simp [toAbsFrom] at hm
  | cons a l ih =>
    obtain ⟨d, e⟩ := a
    have hd : 0 ≤ d := h (d, e) (List.mem_cons_self ..)
    intro m hm
    simp only [toAbsFrom, List.mem_cons] at hm
    rcases hm with rfl | hm
    · show 0 ≤ t + d; omega
    · exact ih (t + d) (by omega) (fun x hx => h x (List.mem_cons_of_mem _ hx)) m hm

theorem lastTick_nonneg (l : Track) (h : NonnegTicks l) : 0 ≤ lastTick l := by
  induction l with
  | nil => simp [lastTick]
  | cons a l ih =>
    cases l with
    | nil => exact h a (List.mem_cons_self ..)
    | cons b l =>
      simp only [lastTick]
      exact ih (fun x hx => h x (List.mem_cons_of_mem _ hx))

theorem fixEot_nonneg (l : Track) (h : NonnegTicks l) : NonnegTicks (fixEot l) := by
  intro m hm
  simp only [fixEot, List.mem_append, List.mem_filter, List.mem_singleton] at hm
  rcases hm with ⟨hm, _⟩ | rfl
  · exact h m hm
  · exact lastTick_nonneg l h

theorem mergeAbs_nonneg (ts : List Track) (h : ∀ t ∈ ts, NonnegTicks t) : NonnegTicks (mergeAbs ts) := by
  unfold mergeAbs
  apply fixEot_nonneg
  intro m hm
  rw [(isSort _).mem, List.mem_flatten] at hm
  obtain ⟨t, ht, hmt⟩ := hm
  exact h t ht m hmt

theorem merged_or_not_nonneg (c : Prop) [Decidable c] (ts : List Track) (h : ∀ t ∈ ts, NonnegTicks t) :
    ∀ T ∈ (if c then [mergeAbs ts] else ts), NonnegTicks T := by
  split
  · intro T hT
    rw [List.mem_singleton.mp hT]
    exact mergeAbs_nonneg ts h
  · exact h

theorem loaderTracks_nonneg (merge : Bool) (tracks : List Track) (h : ∀ t ∈ tracks, NonnegTicks t) :
    ∀ t ∈ loaderTracks merge tracks, NonnegTicks t := by
  refine merged_or_not_nonneg _ _ fun t ht => ?_
  obtain ⟨t0, ht0, rfl⟩ := List.mem_map.mp ht
  exact toAbsFrom_nonneg 0 le_rfl t0 (h t0 ht0)

theorem pairFrom_nonneg (s : Sounding) (l : Track) (hl : NonnegTicks l)
    (hs : ∀ κ on vel, s κ = some (on, vel) → 0 ≤ on) : ∀ n ∈ pairFrom s l, 0 ≤ n.on ∧ 0 ≤ n.off := by
  induction l generalizing s with
  | nil => intro n hn; cases hn
  | cons m l ih =>
    obtain ⟨k, e⟩ := m
    have hk : 0 ≤ k := hl (k, e) (List.mem_cons_self ..)
    have hl' : NonnegTicks l := fun x hx => hl x (List.mem_cons_of_mem _ hx)
    have hset : ∀ (κ0 : Nat) (v : Option (Int × Nat)), (∀ on vel, v = some (on, vel) → 0 ≤ on) →
        ∀ κ on vel, (s.set κ0 v) κ = some (on, vel) → 0 ≤ on := by
      intro κ0 v hv κ on vel hh
      unfold Sounding.set at hh
      split at hh
      · exact hv on vel hh
      · exact hs κ on vel hh
    rcases start_or_release e with hnone | ⟨ch, p, _, ⟨v, hv, rfl⟩ | hrel⟩
    · rw [pairFrom_skip s k e l hnone]
      exact ih s hl' hs
    · rw [pairFrom_on_pos _ _ _ _ _ _ hv]
      exact ih _ hl' (hset _ _ fun on vel hh => by cases hh; exact hk)
    · cases hsk : s (noteHash ch p) with
      | none =>
        rw [pairFrom_release_none s k e ch p l hrel hsk]
        exact ih s hl' hs
      | some ov =>
        obtain ⟨on, vel⟩ := ov
        rw [pairFrom_release_some s k e ch p l hrel on vel hsk]
        intro n hn
        rcases List.mem_cons.mp hn with rfl | hn
        · exact ⟨hs _ on vel hsk, hk⟩
        · exact ih _ hl' (hset _ none fun _ _ hh => by cases hh) n hn

theorem pairNotes_nonneg (l : Track) (hl : NonnegTicks (ne l)) : ∀ n ∈ pairNotes l, 0 ≤ n.on ∧ 0 ≤ n.off :=
  C06History.pairNotes_ne l ▸ pairFrom_nonneg _ (ne l) hl (fun _ _ _ hh => by cases hh)

theorem mem_temposOf (l : Track) (c : Int × Nat) : c ∈ temposOf l ↔ (c.1, Ev.tempo c.2) ∈ l := by
  induction l with
  | nil => simp only [temposOf, List.not_mem_nil]
  | cons m l ih =>
    obtain ⟨k, e⟩ := m
    cases e <;>
      simp only [temposOf, List.mem_cons, ih, Prod.ext_iff, Ev.tempo.injEq, reduceCtorEq, and_false, false_or]

/-- every time of the performance is mapped to a non-negative tick -/
def TicksNonneg (q : Rat → Int) (p : PPart) : Prop :=
  (∀ m ∈ p.metaOther, 0 ≤ q m.time) ∧ (∀ m ∈ p.keySigs, 0 ≤ q m.time) ∧ (∀ m ∈ p.timeSigs, 0 ≤ q m.time) ∧
  (∀ m ∈ p.controls, 0 ≤ q m.time) ∧ (∀ n ∈ p.notes, 0 ≤ q n.on ∧ 0 ≤ q n.off) ∧ (∀ m ∈ p.programs, 0 ≤ q m.time)

theorem partEvents_nonneg (q : Rat → Int) (p : PPart) (h : TicksNonneg q p) : ∀ i ∈ partEvents q p, 0 ≤ i.2.1 := by
  obtain ⟨h1, h2, h3, h4, h5, h6⟩ := h
  intro i hi
  simp only [partEvents, List.mem_append, List.mem_map, List.mem_flatMap] at hi
  rcases hi with ((((⟨m, hm, rfl⟩ | ⟨m, hm, rfl⟩) | ⟨m, hm, rfl⟩) | ⟨m, hm, rfl⟩) | ⟨n, hn, hi⟩) | ⟨m, hm, rfl⟩
  · exact h1 m hm
  · exact h2 m hm
  · exact h3 m hm
  · exact h4 m hm
  · have hn' := h5 n (((isSort _).mem).mp hn)
    simp only [noteIns, List.mem_cons, List.not_mem_nil, or_false] at hi
    rcases hi with rfl | rfl
    · exact hn'.1
    · exact hn'.2
  · exact h6 m hm

theorem insertAll_nonneg (q : Rat → Int) (parts : List PPart) (h : ∀ p ∈ parts, TicksNonneg q p) :
    ∀ i ∈ insertAll q parts, 0 ≤ i.2.1 := by
  intro i hi
  rcases List.mem_append.mp ((insertAll_defaults q parts).mem_iff.mp hi) with hi | hi
  · obtain ⟨p, hp, hi⟩ := List.mem_flatMap.mp hi
    exact partEvents_nonneg q p (h p hp) i hi
  · -- a default program sits at the tick of an event
    obtain ⟨_, p, hp, j, hj, he⟩ := mem_defaults q parts i hi
    exact he ▸ partEvents_nonneg q p (h p hp) j hj

theorem trackAbs_nonneg (ins : List Ins) (h : ∀ i ∈ ins, 0 ≤ i.2.1) (tr : Nat) : NonnegTicks (trackAbs ins tr) := by
  intro m hm
  unfold trackAbs at hm
  rw [(isSort _).mem] at hm
  obtain ⟨i, hi, rfl⟩ := List.mem_map.mp hm
  exact h i (List.mem_filter.mp hi).1

theorem exportAbs_nonneg (q : Rat → Int) (mpq : Nat) (parts : List PPart) (h : ∀ p ∈ parts, TicksNonneg q p) :
    ∀ t ∈ exportAbs q mpq parts, NonnegTicks t := by
  have hins := insertAll_nonneg q parts h
  intro t ht
  obtain ⟨_, _, htr⟩ := Lists.forall₂_mem_right
    (forall₂_exportAbs (fun _ t => NonnegTicks t) q mpq parts
      (fun tr m hm => (List.mem_cons.mp hm).elim (fun e => e ▸ le_refl _) (trackAbs_nonneg _ hins tr m))
      fun tr => trackAbs_nonneg _ hins tr) t ht
  exact htr

theorem savedAbs_nonneg (q : Rat → Int) (mpq : Nat) (ms : Bool) (parts : List PPart)
    (h : ∀ p ∈ parts, TicksNonneg q p) : ∀ t ∈ savedAbs q mpq ms parts, NonnegTicks t := by
  intro t ht
  obtain ⟨t0, ht0, rfl⟩ := List.mem_map.mp ht
  exact fixEot_nonneg _ (merged_or_not_nonneg _ _ (exportAbs_nonneg q mpq parts h) t0 ht0)

theorem loaderTracks_written_nonneg (q : Rat → Int) (mpq : Nat) (ms ml : Bool) (parts : List PPart)
    (h : ∀ p ∈ parts, TicksNonneg q p) :
    ∀ T ∈ loaderTracks ml ((savedAbs q mpq ms parts).map toDelta), NonnegTicks T := by
  unfold loaderTracks
  rw [C06Lists.map_toAbs_toDelta]
  exact merged_or_not_nonneg _ _ (savedAbs_nonneg q mpq ms parts h)

end C06Order
