/-
Correct rounding of a non-negative rational to binary64 as a record of significand and exponent
(`Model.Binary64.readFloat`, the model of Python's `float(text)`; behind C03's tempo numbers and, as `Model.MatchFloat.fl`,
C08's loaded durations): the binade found by `binExp` contains the input; a rational strictly inside the rounding interval
of a binary64 number is read as that number; a binary64 number reads as itself; seventeen significant digits are always
inside the interval; a natural number below 2^53 is a binary64 number.
`Model.MatchCodec.toBinary64` is the same rounding with a rational for result and a sign (Proofs/ToBinary64.lean); no
theorem relates the two.  The namespaces are those of the modules that go on from here: `C03.Float` (Proofs/C03Float.lean) and,
for `nat_is_dbl`, `C08F` (Proofs/C08Float.lean).
-/
import PartituraModel.Model.Binary64
import PartituraModel.Proofs.Round
import PartituraModel.Proofs.Pow2
import Mathlib.Tactic.Linarith
import Mathlib.Tactic.Positivity
import Mathlib.Tactic.Ring
import Mathlib.Tactic.NormNum
import Mathlib.Tactic.FieldSimp
import Mathlib.Algebra.Order.Field.Rat

namespace C03.Float
open Model Model.Binary64

theorem pow2_eq (k : Int) : pow2 k = (2 : ℚ) ^ k := Pow2.ite_eq_zpow k

theorem binExp_spec (v : ℚ) (hv : 0 < v) : pow2 (binExp v + 52) ≤ v ∧ v < pow2 (binExp v + 53) := by
  have hd : 0 < v.den := v.den_pos
  obtain ⟨n, hn⟩ := Int.eq_ofNat_of_zero_le (Rat.num_pos.mpr hv).le
  have hn0 : 0 < n := by have := Rat.num_pos.mpr hv; omega
  have hvq : v = (n : ℚ) / (v.den : ℚ) := by
    have := Rat.num_div_den v
    rw [hn, Int.cast_natCast] at this
    exact this.symm
  unfold binExp
  simp only [hn, Int.toNat_natCast]
  generalize hs : v.den.log2 + 1 = s
  have hds : v.den < 2 ^ s := hs ▸ Nat.lt_log2_self
  have hw1 : n * 2 ^ s / v.den ≠ 0 :=
    (Nat.pos_of_ne_zero fun h => by
      have := (Nat.div_eq_zero_iff.mp h).resolve_left hd.ne'
      have := Nat.le_mul_of_pos_left (2 ^ s) hn0
      omega).ne'
  -- the leading bit of the integer quotient is that of the quotient
  have hlo := (Nat.le_div_iff_mul_le hd).mp (Nat.log2_self_le hw1)
  have hhi := (Nat.div_lt_iff_lt_mul hd).mp (Nat.lt_log2_self (n := n * 2 ^ s / v.den))
  generalize (n * 2 ^ s / v.den).log2 = L at hlo hhi ⊢
  have hdq : (0 : ℚ) < (v.den : ℚ) := by exact_mod_cast hd
  have hsq : (0 : ℚ) < (2 : ℚ) ^ s := by positivity
  have e : ∀ j : ℕ, pow2 ((L : Int) - s - 52 + (52 + j : ℕ)) = (2 : ℚ) ^ (L + j) / (2 : ℚ) ^ s := fun j => by
    rw [pow2_eq, eq_div_iff hsq.ne', ← zpow_natCast, ← zpow_natCast, ← zpow_add₀ two_ne_zero]
    congr 1; push_cast; ring
  have e1 := e 0
  have e2 := e 1
  simp only [Nat.add_zero, Nat.cast_ofNat] at e1
  rw [show ((52 + 1 : ℕ) : ℤ) = 53 by norm_num] at e2
  rw [e1, e2, hvq]
  constructor
  · rw [div_le_div_iff₀ hsq hdq]
    exact_mod_cast hlo
  · rw [div_lt_div_iff₀ hdq hsq]
    exact_mod_cast hhi

theorem binade_unique {v : ℚ} {a b : Int} (ha1 : pow2 (a + 52) ≤ v) (ha2 : v < pow2 (a + 53))
    (hb1 : pow2 (b + 52) ≤ v) (hb2 : v < pow2 (b + 53)) : a = b := by
  have h1 : pow2 (a + 52) < pow2 (b + 53) := lt_of_le_of_lt ha1 hb2
  have h2 : pow2 (b + 52) < pow2 (a + 53) := lt_of_le_of_lt hb1 ha2
  rw [Pow2.lt_iff pow2_eq] at h1 h2
  omega

theorem binExp_eq {v : ℚ} {e : Int} (h1 : pow2 (e + 52) ≤ v) (h2 : v < pow2 (e + 53)) : binExp v = e :=
  have hv : 0 < v := lt_of_lt_of_le (Pow2.pos pow2_eq _) h1
  binade_unique (binExp_spec v hv).1 (binExp_spec v hv).2 h1 h2

theorem pow2_52 (e : Int) : pow2 (e + 52) = 2 ^ 52 * pow2 e := Pow2.add_natCast pow2_eq e 52
theorem pow2_53 (e : Int) : pow2 (e + 53) = 2 ^ 53 * pow2 e := Pow2.add_natCast pow2_eq e 53
theorem pow2_m2 (e : Int) : pow2 (e - 2) = pow2 e / 4 := by
  have : pow2 e = pow2 (e - 2) * pow2 2 := by rw [← Pow2.add pow2_eq]; congr 1; omega
  rw [this]; have : pow2 2 = 4 := by rfl
  rw [this]; ring

theorem readFloat_in_binade (v : ℚ) (e : Int) (m : Nat) (h1 : pow2 (e + 52) ≤ v) (h2 : v < pow2 (e + 53))
    (hm : |v / pow2 e - (m : Int)| < 1 / 2) :
    readFloat v = if m = 2 ^ 53 then ⟨2 ^ 52, e + 1⟩ else ⟨m, e⟩ := by
  have hv : 0 < v := lt_of_lt_of_le (Pow2.pos pow2_eq _) h1
  unfold readFloat
  simp only [not_le.mpr hv, if_false, binExp_eq h1 h2, Round.roundHalfEven_near hm, Int.toNat_natCast]

/-- `readFloat_in_binade` with the binade and the half unit written out; `T` stands for `2 ^ 52`, `P` for the unit in
    the last place, so that the arithmetic is about two variables -/
theorem readFloat_of_bounds (v T P : ℚ) (e : Int) (m : Nat) (hT : T = 2 ^ 52) (hP : P = pow2 e)
    (h1 : T * P ≤ v) (h2 : v < 2 * T * P) (hlo : (m : ℚ) * P - P / 2 < v) (hhi : v < (m : ℚ) * P + P / 2) :
    readFloat v = if m = 2 ^ 53 then ⟨2 ^ 52, e + 1⟩ else ⟨m, e⟩ := by
  have hP0 : 0 < P := hP ▸ Pow2.pos pow2_eq e
  refine readFloat_in_binade v e m (by rw [pow2_52, ← hT, ← hP]; exact h1)
    (by rw [pow2_53, pow_succ, ← hT, ← hP, mul_comm T 2]; exact h2) ?_
  rw [abs_lt, Int.cast_natCast, ← hP]
  constructor
  · rw [lt_sub_iff_add_lt, lt_div_iff₀ hP0]; linarith
  · rw [sub_lt_iff_lt_add, div_lt_iff₀ hP0]; linarith

theorem readFloat_of_close (d : Dbl) (hn : d.Normal) (v : ℚ) (hc : closeTo d v = true) : readFloat v = d := by
  obtain ⟨m, e⟩ := d
  obtain ⟨hm1, hm2⟩ := hn
  simp only at hm1 hm2
  simp only [closeTo, Dbl.value, Bool.and_eq_true, decide_eq_true_eq, Pow2.pred pow2_eq, pow2_m2] at hc
  obtain ⟨hlo, hhi⟩ := hc
  have hne : m ≠ 2 ^ 53 := by omega
  obtain ⟨T, hT⟩ : ∃ T : ℚ, T = 2 ^ 52 := ⟨_, rfl⟩
  obtain ⟨P, hP⟩ : ∃ P : ℚ, P = pow2 e := ⟨_, rfl⟩
  have hT1 : 1 ≤ T := hT ▸ one_le_pow₀ one_le_two
  have hm1q : T ≤ (m : ℚ) := by rw [hT]; exact_mod_cast hm1
  have hm2q : (m : ℚ) + 1 ≤ 2 * T := by rw [hT, mul_comm, ← pow_succ]; exact_mod_cast hm2
  have hP0 : 0 < P := hP ▸ Pow2.pos pow2_eq e
  rw [← hP] at hlo hhi
  have hTP : P ≤ T * P := le_mul_of_one_le_left hP0.le hT1
  by_cases hb : m = 2 ^ 52
  · have hmq : (m : ℚ) = T := by rw [hb, hT]; norm_num
    rw [if_pos hb, hmq] at hlo
    rw [hmq] at hhi
    by_cases hx : T * P ≤ v
    · rw [readFloat_of_bounds v T P e m hT hP hx (by linarith) (by rw [hmq]; linarith) (by rw [hmq]; linarith),
        if_neg hne]
    · -- just below the power of two: the binade below, where the significand rounds up to `2 ^ 53`
      have hx' : v < T * P := not_le.mp hx
      have h253 : ((2 ^ 53 : Nat) : ℚ) = 2 * T := by rw [hT, mul_comm, ← pow_succ]; norm_num
      rw [readFloat_of_bounds v T (P / 2) (e - 1) (2 ^ 53) hT (by rw [Pow2.pred pow2_eq, hP]) (by linarith) (by linarith)
        (by rw [h253]; linarith) (by rw [h253]; linarith), if_pos rfl, hb]
      congr 1; omega
  · rw [if_neg hb] at hlo
    have hm1' : T + 1 ≤ (m : ℚ) := by
      have : 2 ^ 52 + 1 ≤ m := by omega
      rw [hT]; exact_mod_cast this
    have hmP : (T + 1) * P ≤ (m : ℚ) * P := mul_le_mul_of_nonneg_right hm1' hP0.le
    have hmP2 : ((m : ℚ) + 1) * P ≤ 2 * T * P := mul_le_mul_of_nonneg_right hm2q hP0.le
    rw [readFloat_of_bounds v T P e m hT hP (by linarith) (by linarith) hlo hhi, if_neg hne]

theorem readFloat_zero : readFloat 0 = Dbl.zero := by simp [readFloat]

theorem readFloat_exact (d : Dbl) (hn : d.Normal) : readFloat d.value = d := by
  apply readFloat_of_close d hn
  have h1 := Pow2.pos pow2_eq (d.e - 1)
  have h2 := Pow2.pos pow2_eq (d.e - 2)
  simp only [closeTo, Bool.and_eq_true, decide_eq_true_eq]
  constructor
  · split <;> linarith
  · linarith

theorem seventeen_digits (d : Dbl) (hn : d.Normal) (v : ℚ) (h : |v - d.value| * 10 ^ 17 ≤ 5 * d.value) :
    readFloat v = d := by
  apply readFloat_of_close d hn
  obtain ⟨m, e⟩ := d
  obtain ⟨hm1, hm2⟩ := hn
  simp only at hm1 hm2
  have hP := Pow2.pos pow2_eq e
  have hm2q : (m : ℚ) ≤ 2 ^ 53 - 1 := by
    have : m + 1 ≤ 2 ^ 53 := hm2
    have : ((m + 1 : Nat) : ℚ) ≤ ((2 ^ 53 : Nat) : ℚ) := by exact_mod_cast this
    push_cast at this; linarith
  simp only [Dbl.value] at h
  simp only [closeTo, Dbl.value, Bool.and_eq_true, decide_eq_true_eq, Pow2.pred pow2_eq, pow2_m2]
  have h1 : (v - (m : ℚ) * pow2 e) * 10 ^ 17 ≤ 5 * ((m : ℚ) * pow2 e) :=
    le_trans (mul_le_mul_of_nonneg_right (le_abs_self _) (by positivity)) h
  have h2 : -(v - (m : ℚ) * pow2 e) * 10 ^ 17 ≤ 5 * ((m : ℚ) * pow2 e) :=
    le_trans (mul_le_mul_of_nonneg_right (neg_le_abs _) (by positivity)) h
  have hmP : (m : ℚ) * pow2 e ≤ (2 ^ 53 - 1) * pow2 e := mul_le_mul_of_nonneg_right hm2q hP.le
  constructor
  · split
    · rename_i hb
      have hmq : (m : ℚ) = 2 ^ 52 := by rw [hb]; norm_num
      rw [hmq] at h2 ⊢
      linarith
    · linarith
  · linarith

theorem readFloat_within (v : ℚ) (hv : 0 < v) : |v - (readFloat v).value| ≤ pow2 ((readFloat v).e - 1) := by
  obtain ⟨h1, h2⟩ := binExp_spec v hv
  have hP := Pow2.pos pow2_eq (binExp v)
  rw [pow2_52] at h1
  have hq : (2 : ℚ) ^ 52 ≤ v / pow2 (binExp v) := by rw [le_div_iff₀ hP]; exact h1
  have hr : (2 : Int) ^ 52 ≤ roundHalfEven (v / pow2 (binExp v)) := Round.le_roundHalfEven (by exact_mod_cast hq)
  have hd := Round.mul_close v hP
  unfold readFloat
  simp only [not_le.mpr hv, if_false]
  generalize roundHalfEven (v / pow2 (binExp v)) = r at hr hd ⊢
  obtain ⟨n, rfl⟩ := Int.eq_ofNat_of_zero_le (show 0 ≤ r by omega)
  simp only [Int.toNat_natCast]
  rw [Int.cast_natCast, abs_sub_comm] at hd
  split
  · rename_i hn
    simp only [Dbl.value]
    have : ((2 ^ 52 : Nat) : ℚ) * pow2 (binExp v + 1) = (n : ℚ) * pow2 (binExp v) := by
      rw [hn, Pow2.add pow2_eq]; have : pow2 1 = 2 := rfl
      rw [this]; push_cast; ring
    rw [this, show binExp v + 1 - 1 = binExp v by omega]
    linarith
  · simp only [Dbl.value, Pow2.pred pow2_eq]
    exact hd

theorem readFloat_ne_of_far (d : Dbl) (v : ℚ) (hv : 0 < v) (h : pow2 (d.e - 1) < |v - d.value|) : readFloat v ≠ d := by
  intro he
  have := readFloat_within v hv
  rw [he] at this
  linarith

end C03.Float

namespace C08F
open Model Model.Binary64 C03.Float

theorem nat_is_dbl (k : Nat) (h0 : 0 < k) (hk : k < 2 ^ 53) : ∃ d : Dbl, d.Normal ∧ d.value = (k : Rat) := by
  have hne : k ≠ 0 := by omega
  have hlo : 2 ^ k.log2 ≤ k := Nat.log2_self_le hne
  have hhi : k < 2 ^ (k.log2 + 1) := Nat.lt_log2_self
  have hj : k.log2 ≤ 52 := by
    by_contra hc
    have h53 : 53 ≤ k.log2 := by omega
    have : 2 ^ 53 ≤ 2 ^ k.log2 := Nat.pow_le_pow_right (by norm_num) h53
    omega
  refine ⟨⟨k * 2 ^ (52 - k.log2), (k.log2 : Int) - 52⟩, ⟨?_, ?_⟩, ?_⟩
  · show 2 ^ 52 ≤ k * 2 ^ (52 - k.log2)
    calc 2 ^ 52 = 2 ^ k.log2 * 2 ^ (52 - k.log2) := by rw [← Nat.pow_add]; congr 1; omega
      _ ≤ k * 2 ^ (52 - k.log2) := Nat.mul_le_mul_right _ hlo
  · show k * 2 ^ (52 - k.log2) < 2 ^ 53
    calc k * 2 ^ (52 - k.log2) < 2 ^ (k.log2 + 1) * 2 ^ (52 - k.log2) :=
          Nat.mul_lt_mul_of_pos_right hhi (Nat.pow_pos (by norm_num))
      _ = 2 ^ 53 := by rw [← Nat.pow_add]; congr 1; omega
  · show ((k * 2 ^ (52 - k.log2) : Nat) : Rat) * pow2 ((k.log2 : Int) - 52) = (k : Rat)
    have e : ((k.log2 : Int) - 52) = -((52 - k.log2 : Nat) : Int) := by omega
    rw [e, pow2_eq]
    push_cast
    have h2 : ((2 : Rat) ^ (52 - k.log2)) ≠ 0 := by positivity
    rw [zpow_neg, zpow_natCast]
    field_simp

end C08F
