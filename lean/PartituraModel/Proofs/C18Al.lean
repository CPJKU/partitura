/-
C18 — lemmas about Model/CodecAl.lean: alignments of any form.
-/
import PartituraModel.Model.CodecAl
import PartituraModel.Proofs.C18Match

namespace C18P
open Model Model.Codec

/-- the four kinds of entry the first loop of `to_matched_score` distinguishes -/
theorem entry_cases (a : AEntry) :
    a.label = none ∨ (a.label = some "match" ∧ a.sid = none) ∨ (∃ v, a.label = some "match" ∧ a.sid = some v) ∨
      ∃ l, a.label = some l ∧ l ≠ "match" := by
  cases hl : a.label with
  | none => exact Or.inl rfl
  | some l =>
    by_cases hm : l = "match"
    · subst hm
      cases hs : a.sid with
      | none => exact Or.inr (Or.inl ⟨rfl, rfl⟩)
      | some v => exact Or.inr (Or.inr (Or.inl ⟨v, rfl, rfl⟩))
    · exact Or.inr (Or.inr (Or.inr ⟨l, rfl, hm⟩))

section
variable (a : AEntry) (rest : List AEntry)

theorem normaliseIds_unlabelled (h : a.label = none) : normaliseIds (a :: rest) = (a :: rest, false) := by
  rw [normaliseIds, h]

theorem normaliseIds_no_sid (h : a.label = some "match") (hs : a.sid = none) :
    normaliseIds (a :: rest) = (a :: rest, false) := by
  rw [normaliseIds, h]; simp only [if_true, hs]

theorem normaliseIds_match {v : IdVal} (h : a.label = some "match") (hs : a.sid = some v) :
    normaliseIds (a :: rest)
      = ({ a with sid := some (.str (pyStr v)) } :: (normaliseIds rest).1, (normaliseIds rest).2) := by
  rw [normaliseIds, h]; simp only [if_true, hs]

theorem normaliseIds_other {l : String} (h : a.label = some l) (hm : l ≠ "match") :
    normaliseIds (a :: rest) = (a :: (normaliseIds rest).1, (normaliseIds rest).2) := by
  rw [normaliseIds, h]; simp only [if_neg hm]

end

theorem normaliseIds_idem (al : List AEntry) : normaliseIds (normaliseIds al).1 = normaliseIds al := by
  induction al with
  | nil => rfl
  | cons a rest ih =>
    rcases entry_cases a with h | ⟨h, hs⟩ | ⟨v, h, hs⟩ | ⟨l, h, hm⟩
    · rw [normaliseIds_unlabelled a rest h]
      exact normaliseIds_unlabelled a rest h
    · rw [normaliseIds_no_sid a rest h hs]
      exact normaliseIds_no_sid a rest h hs
    · rw [normaliseIds_match a rest h hs]
      exact (normaliseIds_match { a with sid := some (.str (pyStr v)) } _ h rfl).trans (by rw [ih]; rfl)
    · rw [normaliseIds_other a rest h hm]
      exact (normaliseIds_other _ _ h hm).trans (by rw [ih])

/-- what the rewriting does to an entry -/
def Rewritten (a b : AEntry) : Prop :=
  b.label = a.label ∧ b.pid = a.pid ∧
    (b.sid = a.sid ∨ (a.label = some "match" ∧ ∃ v, a.sid = some v ∧ b.sid = some (.str (pyStr v))))

theorem normaliseIds_spec (al : List AEntry) : List.Forall₂ Rewritten al (normaliseIds al).1 := by
  have hrefl : ∀ l : List AEntry, List.Forall₂ Rewritten l l :=
    fun l => List.forall₂_same.mpr (fun a _ => ⟨rfl, rfl, Or.inl rfl⟩)
  induction al with
  | nil => exact List.Forall₂.nil
  | cons a rest ih =>
    rcases entry_cases a with h | ⟨h, hs⟩ | ⟨v, h, hs⟩ | ⟨l, h, hm⟩
    · rw [normaliseIds_unlabelled a rest h]; exact hrefl _
    · rw [normaliseIds_no_sid a rest h hs]; exact hrefl _
    · rw [normaliseIds_match a rest h hs]
      exact List.Forall₂.cons ⟨rfl, rfl, Or.inr ⟨h, v, hs, rfl⟩⟩ ih
    · rw [normaliseIds_other a rest h hm]
      exact List.Forall₂.cons ⟨rfl, rfl, Or.inl rfl⟩ ih

theorem normaliseIds_length (al : List AEntry) : (normaliseIds al).1.length = al.length :=
  (normaliseIds_spec al).length_eq.symm

theorem normaliseIds_ok_iff (al : List AEntry) :
    (normaliseIds al).2 = true ↔ ∀ a ∈ al, ∃ l, a.label = some l ∧ (l = "match" → a.sid.isSome) := by
  induction al with
  | nil => simp [normaliseIds]
  | cons a rest ih =>
    rw [List.forall_mem_cons]
    rcases entry_cases a with h | ⟨h, hs⟩ | ⟨v, h, hs⟩ | ⟨l, h, hm⟩
    · rw [normaliseIds_unlabelled a rest h]
      exact ⟨fun hf => (by cases hf), fun ⟨⟨l, h1, _⟩, _⟩ => (by rw [h] at h1; cases h1)⟩
    · rw [normaliseIds_no_sid a rest h hs]
      refine ⟨fun hf => (by cases hf), fun ⟨⟨l, h1, h2⟩, _⟩ => ?_⟩
      rw [h] at h1
      cases h1
      rw [hs] at h2
      cases h2 rfl
    · rw [normaliseIds_match a rest h hs]
      exact ⟨fun hr => ⟨⟨_, h, fun _ => by rw [hs]; rfl⟩, ih.mp hr⟩, fun hr => ih.mpr hr.2⟩
    · rw [normaliseIds_other a rest h hm]
      exact ⟨fun hr => ⟨⟨l, h, fun e => absurd e hm⟩, ih.mp hr⟩, fun hr => ih.mpr hr.2⟩

theorem normaliseIds_ofARow (al : List ARow) : (normaliseIds (al.map ofARow)).1 = al.map ofARow := by
  induction al with
  | nil => rfl
  | cons a rest ih =>
    obtain ⟨l, s, p⟩ := a
    rw [List.map_cons, normaliseIds]
    by_cases hm : l = "match"
    · cases s with
      | none => simp [ofARow, hm]
      | some s => simp [ofARow, hm, pyStr, ih]
    · simp [ofARow, hm, ih]

/-- By induction: the rewriting stops at a match without score id, and there `notePairs` of the flattened list raises
    at that very entry; everywhere else both sides take the same step. -/
theorem notePairsA_flatS (ss : List SRow) (ps : List PRow) (al : List AEntry) (hlab : ∀ a ∈ al, a.label.isSome) :
    (if (normaliseIds al).2 then notePairsA ss ps (normaliseIds al).1 else none)
      = notePairs ss ps (al.map flatS) := by
  induction al with
  | nil => simp [normaliseIds, notePairsA, notePairs]
  | cons a rest ih =>
    have ih' := ih (fun b hb => hlab b (by simp [hb]))
    obtain ⟨l, hl⟩ := Option.isSome_iff_exists.mp (hlab a (by simp))
    rw [List.map_cons, notePairs]
    by_cases hm : l = "match"
    · cases hs : a.sid with
      | none =>
        rw [normaliseIds_no_sid a rest (by rw [hl, hm]) hs]
        cases notePairs ss ps (rest.map flatS) <;> simp [flatS, hl, hm, hs]
      | some v =>
        rw [normaliseIds_match a rest (by rw [hl, hm]) hs, ← ih']
        simp only
        rw [notePairsA]
        simp only [hl, hm, if_true, flatS, hs, Option.map_some, Option.getD_some]
        cases hr : (normaliseIds rest).2 with
        | false => simp
        | true =>
          simp only [if_true]
          generalize notePairsA ss ps (normaliseIds rest).1 = tl
          cases sIndex ss (pyStr v) with
          | none => cases tl <;> simp
          | some i =>
            simp only
            cases hp : a.pid with
            | none => cases tl <;> simp
            | some pv =>
              cases pv with
              | str p => cases hpi : pIndex ps p <;> cases tl <;> simp [hpi]
              | int n => cases tl <;> simp
              | none => cases tl <;> simp
    · rw [normaliseIds_other a rest hl hm, ← ih']
      simp only
      rw [notePairsA]
      simp only [hl, hm, if_false, flatS, Option.getD_some]
      cases (normaliseIds rest).2 with
      | false => simp
      | true =>
        simp only [if_true]
        cases notePairsA ss ps (normaliseIds rest).1 <;> simp

theorem toMatchedScore_eq_bind (ss : List SRow) (ps : List PRow) (al : List ARow) :
    toMatchedScore ss ps al = (notePairs ss ps al).bind fun l =>
      allSome ((isort (fun a b => lexLe (sKey ss a.1) (sKey ss b.1)) l).map (mkRow ss ps)) := by
  unfold toMatchedScore matchedPairs
  cases notePairs ss ps al <;> rfl

theorem toMatchedScoreA_snd (ss : List SRow) (ps : List PRow) (al : List AEntry) :
    (toMatchedScoreA ss ps al).2 = (normaliseIds al).1 := by
  unfold toMatchedScoreA
  simp only
  split <;> rfl

theorem toMatchedScoreA_fst (ss : List SRow) (ps : List PRow) (al : List AEntry) (hlab : ∀ a ∈ al, a.label.isSome) :
    (toMatchedScoreA ss ps al).1 = toMatchedScore ss ps (al.map flatS) := by
  rw [toMatchedScore_eq_bind, ← notePairsA_flatS ss ps al hlab]
  unfold toMatchedScoreA
  simp only
  cases (normaliseIds al).2 <;> simp

theorem toMatchedScoreA_unlabelled (ss : List SRow) (ps : List PRow) (al : List AEntry)
    (h : ∃ a ∈ al, a.label = none) : (toMatchedScoreA ss ps al).1 = none := by
  unfold toMatchedScoreA
  simp only
  cases hok : (normaliseIds al).2 with
  | false => simp
  | true =>
    obtain ⟨a, ha, hn⟩ := h
    obtain ⟨l, hl, _⟩ := (normaliseIds_ok_iff al).mp hok a ha
    rw [hn] at hl; cases hl

theorem flatS_ofARow (a : ARow) : flatS (ofARow a) = a := by
  obtain ⟨l, s, p⟩ := a
  cases s <;> cases p <;> simp [flatS, ofARow, pyStr]

theorem flatS_sid (a : AEntry) : (flatS a).sid = a.sid.map pyStr := rfl

theorem flatS_pid_eq_some (a : AEntry) (p : String) : (flatS a).pid = some p ↔ a.pid = some (.str p) := by
  unfold flatS
  cases a.pid with
  | none => simp
  | some pv => cases pv <;> simp

theorem flatP_ofARow (a : ARow) : flatP (ofARow a) = a := by
  obtain ⟨l, s, p⟩ := a
  cases s <;> cases p <;> simp [flatP, ofARow, pyStr]

section
variable (ss : List SRow) (ps : List PRow) (a : AEntry) (rest : List AEntry)

/-- the three kinds of entry `get_matched_notes` distinguishes: a key it reads is missing (it raises), not a match,
    a match with both ids -/
theorem keysOk_cases : (keysOk a = false ∧ matchedNotesA ss ps (a :: rest) = none) ∨
    (∃ l, a.label = some l ∧ l ≠ "match" ∧ keysOk a = true) ∨
    ∃ sv pv, a.label = some "match" ∧ a.sid = some sv ∧ a.pid = some pv ∧ keysOk a = true := by
  rw [matchedNotesA]
  unfold keysOk
  cases hl : a.label with
  | none => exact Or.inl ⟨rfl, rfl⟩
  | some l =>
    by_cases hm : l = "match"
    · subst hm
      cases hs : a.sid <;> cases hp : a.pid <;> simp
    · exact Or.inr (Or.inl ⟨l, rfl, hm, by simp [hm]⟩)

theorem matchedNotesA_cons_other {l : String} (h : a.label = some l) (hm : l ≠ "match") :
    matchedNotesA ss ps (a :: rest) = matchedNotesA ss ps rest := by
  rw [matchedNotesA, h]; simp only [if_neg hm]

theorem matchedNotesA_cons_match {sv pv : IdVal} (h : a.label = some "match") (hs : a.sid = some sv)
    (hp : a.pid = some pv) :
    matchedNotesA ss ps (a :: rest) = (matchedNotesA ss ps rest).map (pairsOf ss ps sv pv ++ ·) := by
  rw [matchedNotesA, h]; simp only [if_true, hs, hp]

end

theorem pairsOf_flatP (ss : List SRow) (ps : List PRow) {a : AEntry} {sv pv : IdVal} (h : a.label = some "match")
    (hs : a.sid = some sv) (hp : a.pid = some pv) : pairsOf ss ps sv pv = (pairOf ss ps (flatP a)).toList := by
  simp only [pairsOf, pairOf, flatP, h, hs, hp, Option.getD_some, if_true, Option.map_some]
  cases sv with
  | str s => simp only; cases sIndex ss s <;> cases pIndex ps (pyStr pv) <;> rfl
  | int n => rfl
  | none => rfl

theorem matchedNotesA_flatP (ss : List SRow) (ps : List PRow) (al : List AEntry) :
    matchedNotesA ss ps al = if al.all keysOk then some (matchedNotes ss ps (al.map flatP)) else none := by
  induction al with
  | nil => rfl
  | cons a rest ih =>
    rw [List.all_cons, List.map_cons, matchedNotes_cons]
    rcases keysOk_cases ss ps a rest with ⟨h, hn⟩ | ⟨l, hl, hm, h⟩ | ⟨sv, pv, hl, hs, hp, h⟩
    · rw [hn, h]; rfl
    · rw [matchedNotesA_cons_other ss ps a rest hl hm, ih, h, Bool.true_and,
        show pairOf ss ps (flatP a) = none by simp [pairOf, flatP, hl, hm]]
      rfl
    · rw [matchedNotesA_cons_match ss ps a rest hl hs hp, ih, h, Bool.true_and, pairsOf_flatP ss ps hl hs hp]
      split <;> rfl

theorem pairsOf_sublist (ss : List SRow) (ps : List PRow) (sv pv : IdVal) :
    (pairsOf ss ps sv pv).Sublist (pairsOf ss ps (.str (pyStr sv)) pv) := by
  cases sv with
  | str s => simp [pyStr]
  | int n => simp [pairsOf]
  | none => simp [pairsOf]

theorem matchedNotesA_after (ss : List SRow) (ps : List PRow) (al : List AEntry) (l : List (Nat × Nat))
    (h : matchedNotesA ss ps al = some l) :
    ∃ l', matchedNotesA ss ps (normaliseIds al).1 = some l' ∧ l.Sublist l' := by
  induction al generalizing l with
  | nil => exact ⟨l, h, List.Sublist.refl _⟩
  | cons a rest ih =>
    rcases keysOk_cases ss ps a rest with ⟨_, hn⟩ | ⟨lab, hl, hm, _⟩ | ⟨sv, pv, hl, hs, hp, _⟩
    · rw [hn] at h
      cases h
    · rw [matchedNotesA_cons_other ss ps a rest hl hm] at h
      rw [normaliseIds_other a rest hl hm, matchedNotesA_cons_other ss ps a _ hl hm]
      exact ih l h
    · rw [matchedNotesA_cons_match ss ps a rest hl hs hp] at h
      obtain ⟨l0, hr, rfl⟩ := Option.map_eq_some_iff.mp h
      obtain ⟨l0', h1, h2⟩ := ih l0 hr
      rw [normaliseIds_match a rest hl hs,
        matchedNotesA_cons_match ss ps { a with sid := some (.str (pyStr sv)) } _ hl rfl hp, h1]
      exact ⟨_, rfl, (pairsOf_sublist ss ps sv pv).append h2⟩

end C18P
