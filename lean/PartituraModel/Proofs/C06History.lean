/-
The loader reads a track through `ne` (no `end_of_track`) except for `meta_other` (`core`); an object and the file it is saved to
load alike up to that; `fixEot` is idempotent, so a parsed file is a fixed point of save-and-parse.
-/
import PartituraModel.Model.PerfObject
import PartituraModel.Proofs.C06Lists
import PartituraModel.Proofs.C06Pair

namespace C06History
open Model Model.PerfMidi C06Sort C06Lists C06Pair C06Stable

theorem ne_cons_eot (k : Int) (t : Track) : ne ((k, Ev.eot) :: t) = ne t := by
  simp [ne, isEot]

theorem ne_cons_other (k : Int) (e : Ev) (t : Track) (h : isEot e = false) : ne ((k, e) :: t) = (k, e) :: ne t := by
  simp [ne, h]

theorem pairFrom_ne (l : Track) : ∀ s, pairFrom s (ne l) = pairFrom s l := by
  induction l with
  | nil => intro s; rfl
  | cons m l ih =>
    intro s
    obtain ⟨k, e⟩ := m
    cases e with
    | eot => rw [ne_cons_eot, ih, pairFrom_skip s k Ev.eot l rfl]
    | noteOn ch p v =>
      rw [ne_cons_other _ _ _ rfl]
      simp only [pairFrom, ih]
    | noteOff ch p v =>
      rw [ne_cons_other _ _ _ rfl]
      simp only [pairFrom, ih]
    | _ => rw [ne_cons_other _ _ _ rfl, pairFrom_skip _ _ _ _ rfl, pairFrom_skip _ _ _ _ rfl, ih]

theorem pairNotes_ne (l : Track) : pairNotes (ne l) = pairNotes l := pairFrom_ne l _

theorem metasOf_ne (t : Track) : metasOf (ne t) = (metasOf t).filter (fun m => m.2.isSome) := by
  induction t with
  | nil => rfl
  | cons m t ih =>
    obtain ⟨k, e⟩ := m
    cases e with
    | eot => rw [ne_cons_eot, ih]; simp [metasOf]
    | _ => rw [ne_cons_other _ _ _ rfl]; simp [metasOf, ih]

/-- a loaded track without the `end_of_track` entries of its `meta_other` -/
def core (t : RTrack) : RTrack := { t with metas := t.metas.filter (fun m => m.2.isSome) }

theorem kept_core (t : RTrack) : (core t).kept = t.kept := rfl

theorem mem_of_map_core {L1 L2 : List RTrack} (h : L1.map core = L2.map core) {rt : RTrack} (hrt : rt ∈ L1) :
    ∃ rt' ∈ L2, rt.fileTrack = rt'.fileTrack ∧ rt.notes = rt'.notes := by
  obtain ⟨rt', hrt', he⟩ := List.mem_map.mp (h ▸ List.mem_map_of_mem (f := core) hrt)
  exact ⟨rt', hrt', show (core rt).fileTrack = (core rt').fileTrack from congrArg _ he.symm,
    show (core rt).notes = (core rt').notes from congrArg _ he.symm⟩

theorem core_readTrack (i : Nat) (t : Track) : core (readTrack i t) = readTrack i (ne t) := by
  unfold core readTrack
  simp only
  rw [pairNotes_ne, metasOf_ne, controlsOf_eq, controlsOf_eq, programsOf_eq, programsOf_eq, timeSigsOf_eq, timeSigsOf_eq,
    keySigsOf_eq, keySigsOf_eq, sel_ne _ rfl, sel_ne _ rfl, sel_ne _ rfl, sel_ne _ rfl]

theorem loadFile_core (m : Bool) (ts : List Track) :
    (loadFile m ts).map core
      = (((loaderTracks m ts).map ne).zipIdx.map fun p => readTrack p.2 p.1).filter RTrack.kept := by
  unfold loadFile
  have hf : ∀ l : List RTrack, (l.filter RTrack.kept).map core = (l.map core).filter RTrack.kept := by
    intro l
    rw [List.filter_map]
    rfl
  rw [hf, List.zipIdx_map, List.map_map, List.map_map]
  congr 1
  apply List.map_congr_left
  intro p _
  exact core_readTrack p.2 p.1

theorem tempoList_ne (d : Nat) (ts : List Track) : tempoList d (ts.map ne) = tempoList d ts := by
  unfold tempoList
  congr 2
  rw [List.flatMap_map]
  apply List.flatMap_congr
  intro t _
  rw [temposOf_eq, temposOf_eq, sel_ne _ rfl]

theorem secondsAt_ne (d : Nat) (ts : List Track) (ppq : Nat) : secondsAt d (ts.map ne) ppq = secondsAt d ts ppq := by
  funext k
  unfold secondsAt
  rw [tempoList_ne]

theorem loaderTracks_saved_ne (m : Bool) (f : MidiObj) :
    (loaderTracks m f.saved.tracks).map ne = (loaderTracks m f.tracks).map ne := by
  have h : f.saved.tracks.map toAbs = (f.tracks.map toAbs).map fixEot := by
    simp only [MidiObj.saved, List.map_map, Function.comp_def, toAbs_toDelta]
  rw [ne_loaderTracks, ne_loaderTracks, h, mergedNe_map_fixEot, map_ne_fixEot]

theorem lastTick_append_one (l : Track) (k : Int) (e : Ev) : lastTick (l ++ [(k, e)]) = k := by
  induction l with
  | nil => rfl
  | cons a l ih =>
    cases l with
    | nil => obtain ⟨x, y⟩ := a; rfl
    | cons b r =>
      have : lastTick (a :: (b :: r ++ [(k, e)])) = lastTick (b :: r ++ [(k, e)]) := by
        obtain ⟨x, y⟩ := a; rfl
      rw [List.cons_append, this]
      exact ih

theorem fixEot_idem (l : Track) : fixEot (fixEot l) = fixEot l := by
  have h := filter_fixEot l
  have e : fixEot (fixEot l) = (fixEot l).filter (fun m => !isEot m.2) ++ [(lastTick (fixEot l), Ev.eot)] := rfl
  rw [e, h]
  have e2 : lastTick (fixEot l) = lastTick l := by
    unfold fixEot
    rw [lastTick_append_one]
  rw [e2]
  rfl

theorem saved_idem (f : MidiObj) : f.saved.saved = f.saved := by
  unfold MidiObj.saved
  simp only [List.map_map]
  congr 1
  apply List.map_congr_left
  intro t _
  simp [toAbs_toDelta, fixEot_idem]

theorem not_kept (t : RTrack) (h : t.kept = false) : t.notes = [] ∧ t.controls = [] ∧ t.programs = [] := by
  unfold RTrack.kept at h
  simp only [Bool.not_eq_false', Bool.and_eq_true, List.isEmpty_iff] at h
  exact ⟨h.1.1, h.1.2, h.2⟩

theorem flatMap_zipIdx_read {β : Type} (g : Track → List β) (ts : List Track) (k : Nat) (f : RTrack → List β)
    (h : ∀ i t, f (readTrack i t) = g t) :
    ((ts.zipIdx k).map fun p => readTrack p.2 p.1).flatMap f = ts.flatMap g := by
  rw [List.flatMap_map]
  induction ts generalizing k with
  | nil => rfl
  | cons t ts ih =>
    rw [List.zipIdx_cons, List.flatMap_cons, List.flatMap_cons, h, ih]

/-- all controls of the walked tracks are in the performed parts (a track that makes no part has none) -/
theorem loadFile_controls (m : Bool) (ts : List Track) :
    (loadFile m ts).flatMap (·.controls) = (loaderTracks m ts).flatMap controlsOf := by
  unfold loadFile
  rw [Lists.flatMap_filter_of_nil _ _ _ fun t _ h => (not_kept t h).2.1]
  exact flatMap_zipIdx_read controlsOf _ 0 _ (fun _ _ => rfl)

theorem loadFile_programs (m : Bool) (ts : List Track) :
    (loadFile m ts).flatMap (·.programs) = (loaderTracks m ts).flatMap programsOf := by
  unfold loadFile
  rw [Lists.flatMap_filter_of_nil _ _ _ fun t _ h => (not_kept t h).2.2]
  exact flatMap_zipIdx_read programsOf _ 0 _ (fun _ _ => rfl)

theorem loadFile_notes (m : Bool) (ts : List Track) :
    (loadFile m ts).flatMap (·.notes) = (loaderTracks m ts).flatMap fun t => sortNotes (pairNotes t) := by
  unfold loadFile
  rw [Lists.flatMap_filter_of_nil _ _ _ fun t _ h => (not_kept t h).1]
  exact flatMap_zipIdx_read (fun t => sortNotes (pairNotes t)) _ 0 _ (fun _ _ => rfl)

end C06History
