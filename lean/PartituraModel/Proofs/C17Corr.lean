/-
C17: the square-root-free comparison `better` of Model/KeyEst.lean orders two keys exactly as
their Pearson correlations with the histogram are ordered (over the reals).
-/
import PartituraModel.Proofs.C17Key
import Mathlib.Analysis.Real.Sqrt
import Mathlib.Tactic.Linarith
import Mathlib.Tactic.Ring

namespace C17K
open Model Model.KeyEst

theorem sgnSqF_strictMono : StrictMono (sgnSqF (F := ℝ)) := by
  intro x y hxy
  unfold sgnSqF
  split_ifs with hx hy hy
  · nlinarith
  · nlinarith [mul_pos_of_neg_of_neg hx hx, mul_nonneg (not_lt.mp hy) (not_lt.mp hy)]
  · linarith
  · nlinarith [not_lt.mp hx]

/-- Pearson correlations c/√(vx·v) of two keys compare as sgn(c)c²·v' compare (vx, va, vb > 0) -/
theorem corr_order (ca cb va vb vx : ℝ) (hx : 0 < vx) (ha : 0 < va) (hb : 0 < vb) :
    cb / Real.sqrt (vx * vb) < ca / Real.sqrt (vx * va) ↔ sgnSqF cb * va < sgnSqF ca * vb := by
  have hA : 0 < Real.sqrt (vx * va) := Real.sqrt_pos.mpr (mul_pos hx ha)
  have hB : 0 < Real.sqrt (vx * vb) := Real.sqrt_pos.mpr (mul_pos hx hb)
  have hAA : Real.sqrt (vx * va) * Real.sqrt (vx * va) = vx * va := Real.mul_self_sqrt (le_of_lt (mul_pos hx ha))
  have hBB : Real.sqrt (vx * vb) * Real.sqrt (vx * vb) = vx * vb := Real.mul_self_sqrt (le_of_lt (mul_pos hx hb))
  rw [div_lt_div_iff₀ hB hA, ← sgnSqF_strictMono.lt_iff_lt, sgnSqF_mul _ _ hA, sgnSqF_mul _ _ hB, hAA, hBB, mul_left_comm,
    mul_left_comm (sgnSqF ca), mul_lt_mul_iff_right₀ hx]

theorem sgnSq_cast (c : ℚ) : ((sgnSq c : ℚ) : ℝ) = sgnSqF (c : ℝ) := by
  unfold sgnSq sgnSqF
  by_cases h : c < 0
  · have h' : (c : ℝ) < 0 := by exact_mod_cast h
    rw [if_pos h, if_pos h']; push_cast; ring
  · have h' : ¬ (c : ℝ) < 0 := by
      intro e; apply h; exact_mod_cast e
    rw [if_neg h, if_neg h']; push_cast; ring

theorem better_iff_corr (ca cb va vb vx : ℚ) (hx : 0 < vx) (ha : 0 < va) (hb : 0 < vb) :
    better (sgnSq ca, va) (sgnSq cb, vb) = true ↔
      (cb : ℝ) / Real.sqrt ((vx : ℝ) * vb) < (ca : ℝ) / Real.sqrt ((vx : ℝ) * va) := by
  rw [corr_order (ca : ℝ) cb va vb vx (by exact_mod_cast hx) (by exact_mod_cast ha) (by exact_mod_cast hb)]
  simp only [better, decide_eq_true_eq, gt_iff_lt]
  rw [← sgnSq_cast, ← sgnSq_cast]
  constructor
  · intro h; exact_mod_cast h
  · intro h; exact_mod_cast h

end C17K
