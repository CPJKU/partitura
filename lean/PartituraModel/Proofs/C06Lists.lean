/-
What a selector (controls, programs, signatures, meta, tempo) reads from a track is unchanged by sorting and by
`end_of_track` messages; a track without its `end_of_track` messages (`ne`) under `fixEot`, merging and loading; what the
exporter writes into the track of a given number.
-/
import PartituraModel.Model.PerfMidi
import PartituraModel.Proofs.C06Sort

namespace C06Lists
open Model Model.PerfMidi C06Sort

variable {β : Type}

/-- the messages a selector `g` picks from a track, with their ticks -/
def sel (g : Ev → Option β) (t : Track) : List (Int × β) :=
  t.filterMap (fun m => (g m.2).map (fun b => (m.1, b)))

def gCtl : Ev → Option (Nat × Nat × Nat)
  | .control ch n v => some (n, v, ch)
  | _ => none

def gProg : Ev → Option (Nat × Nat)
  | .program ch g => some (g, ch)
  | _ => none

def gTime : Ev → Option (Nat × Nat)
  | .timeSig n d => some (n, d)
  | _ => none

def gKey : Ev → Option (Int × Bool)
  | .keySig f m => some (f, m)
  | _ => none

/-- meta messages other than `end_of_track` -/
def gMeta : Ev → Option Nat
  | .metaMsg i => some i
  | _ => none

def gTempo : Ev → Option Nat
  | .tempo m => some m
  | _ => none

/-- a function on tracks that treats the first message as `sel g` does is `sel g` -/
theorem eq_sel (g : Ev → Option β) (f : Track → List (Int × β)) (h0 : f [] = [])
    (hc : ∀ k e t, f ((k, e) :: t) = match g e with | some b => (k, b) :: f t | none => f t) :
    ∀ t, f t = sel g t
  | [] => h0
  | (k, e) :: t => by
    rw [hc, eq_sel g f h0 hc t]
    unfold sel
    rw [List.filterMap_cons]
    cases g e <;> rfl

theorem controlsOf_eq : ∀ t, controlsOf t = sel gCtl t :=
  eq_sel gCtl controlsOf rfl fun _ e _ => by cases e <;> rfl

theorem programsOf_eq : ∀ t, programsOf t = sel gProg t :=
  eq_sel gProg programsOf rfl fun _ e _ => by cases e <;> rfl

theorem timeSigsOf_eq : ∀ t, timeSigsOf t = sel gTime t :=
  eq_sel gTime timeSigsOf rfl fun _ e _ => by cases e <;> rfl

theorem keySigsOf_eq : ∀ t, keySigsOf t = sel gKey t :=
  eq_sel gKey keySigsOf rfl fun _ e _ => by cases e <;> rfl

theorem temposOf_eq : ∀ t, temposOf t = sel gTempo t :=
  eq_sel gTempo temposOf rfl fun _ e _ => by cases e <;> rfl

/-- the loaded meta list without its `end_of_track` entries -/
def realMetas (l : List (Int × Option Nat)) : List (Int × Nat) :=
  l.filterMap (fun m => m.2.map (fun i => (m.1, i)))

theorem realMetas_metasOf : ∀ t, realMetas (metasOf t) = sel gMeta t :=
  eq_sel gMeta (fun t => realMetas (metasOf t)) rfl fun _ e _ => by cases e <;> rfl

theorem sel_append (g : Ev → Option β) (a b : Track) : sel g (a ++ b) = sel g a ++ sel g b := by
  simp [sel, List.filterMap_append]

theorem sel_perm (g : Ev → Option β) {a b : Track} (h : a.Perm b) : (sel g a).Perm (sel g b) :=
  h.filterMap _

theorem sel_sortBy (g : Ev → Option β) (le : TMsg → TMsg → Bool) (t : Track) :
    (sel g (sortBy le t)).Perm (sel g t) :=
  sel_perm g ((isSort le).perm t)

theorem sel_cons (g : Ev → Option β) (m : TMsg) (t : Track) : sel g (m :: t) = sel g [m] ++ sel g t :=
  sel_append g [m] t

theorem sel_cons_none (g : Ev → Option β) (m : TMsg) (t : Track) (h : g m.2 = none) :
    sel g (m :: t) = sel g t := by
  simp [sel, h]

/-- a track without its `end_of_track` messages: every reader of the loader but `metasOf` sees no more of a track, and
    everything mido does to a track commutes with it -/
def ne (t : Track) : Track := t.filter (fun m => !isEot m.2)

theorem sel_ne (g : Ev → Option β) (h : g Ev.eot = none) (t : Track) : sel g (ne t) = sel g t := by
  induction t with
  | nil => rfl
  | cons m t ih =>
    obtain ⟨k, e⟩ := m
    unfold ne at ih ⊢
    cases e with
    | eot => rw [List.filter_cons_of_neg Bool.false_ne_true, ih, sel_cons_none g _ _ h]
    | _ => rw [List.filter_cons_of_pos rfl, sel_cons, ih, ← sel_cons]

theorem filter_fixEot (l : Track) :
    (fixEot l).filter (fun m => !isEot m.2) = l.filter (fun m => !isEot m.2) := by
  unfold fixEot
  rw [List.filter_append, List.filter_filter]
  simp [isEot]

theorem ne_fixEot (t : Track) : ne (fixEot t) = ne t := filter_fixEot t

theorem map_ne_fixEot (ts : List Track) : (ts.map fixEot).map ne = ts.map ne := by
  rw [List.map_map]
  exact List.map_congr_left fun t _ => ne_fixEot t

theorem sel_fixEot (g : Ev → Option β) (h : g Ev.eot = none) (t : Track) :
    sel g (fixEot t) = sel g t := by
  rw [← sel_ne g h, ne_fixEot, sel_ne g h]

theorem sel_flatten (g : Ev → Option β) (ts : List Track) : sel g ts.flatten = ts.flatMap (sel g) :=
  List.filterMap_flatten.trans List.flatMap_def.symm

theorem flatMap_sel_ne (g : Ev → Option β) (h : g Ev.eot = none) (ts : List Track) :
    (ts.map ne).flatMap (sel g) = ts.flatMap (sel g) := by
  rw [List.flatMap_map]
  exact List.flatMap_congr fun t _ => sel_ne g h t

theorem ne_sortBy (l : Track) : ne (sortBy tickLe l) = sortBy tickLe (ne l) :=
  (isSort tickLe).filter_comm tickLe_order _ l

/-- all messages but `end_of_track` of a list of tracks, in order of tick (stable) -/
def mergedNe (ts : List Track) : Track := sortBy tickLe (ts.map ne).flatten

theorem ne_mergeAbs (ts : List Track) : ne (mergeAbs ts) = mergedNe ts := by
  unfold mergeAbs mergedNe
  rw [ne_fixEot, ne_sortBy]
  exact congrArg _ List.filter_flatten

theorem mergedNe_map_fixEot (ts : List Track) : mergedNe (ts.map fixEot) = mergedNe ts := by
  unfold mergedNe
  rw [map_ne_fixEot]

theorem map_toAbs_toDelta (ts : List Track) : (ts.map toDelta).map toAbs = ts := by
  rw [List.map_map, show toAbs ∘ toDelta = id from funext toAbs_toDelta, List.map_id]

theorem ne_loaderTracks (ml : Bool) (ts : List Track) :
    (loaderTracks ml ts).map ne = if ml then [mergedNe (ts.map toAbs)] else (ts.map toAbs).map ne := by
  unfold loaderTracks
  cases ml with
  | false => rfl
  | true => simp only [if_true, List.map_cons, List.map_nil, ne_mergeAbs]

theorem mem_ne {x : TMsg} {t : Track} : x ∈ ne t ↔ x ∈ t ∧ isEot x.2 = false := by
  simp [ne]

theorem mem_loaderTracks {ml : Bool} {ts : List Track} {T : Track} (hT : T ∈ loaderTracks ml ts) {x : TMsg}
    (hx : x ∈ ne T) : ∃ t ∈ ts, x ∈ toAbs t := by
  have hT' : ne T ∈ (loaderTracks ml ts).map ne := List.mem_map_of_mem hT
  rw [ne_loaderTracks] at hT'
  split at hT'
  · rw [List.mem_singleton.mp hT', mergedNe, (isSort _).mem, List.mem_flatten] at hx
    obtain ⟨t', ht', hm⟩ := hx
    obtain ⟨t'', ht'', rfl⟩ := List.mem_map.mp ht'
    obtain ⟨t, ht, rfl⟩ := List.mem_map.mp ht''
    exact ⟨t, ht, (mem_ne.mp hm).1⟩
  · obtain ⟨t', ht', e⟩ := List.mem_map.mp hT'
    obtain ⟨t, ht, rfl⟩ := List.mem_map.mp ht'
    exact ⟨t, ht, (mem_ne.mp (e ▸ hx)).1⟩

theorem le_lastTick (l : Track) (h : l.Pairwise (fun a b => a.1 ≤ b.1)) : ∀ m ∈ l, m.1 ≤ lastTick l := by
  induction l with
  | nil => intro m hm; cases hm
  | cons a l ih =>
    cases l with
    | nil =>
      intro m hm
      rcases List.mem_cons.mp hm with rfl | hm
      · obtain ⟨k, e⟩ := m; exact le_refl _
      · cases hm
    | cons b r =>
      rw [List.pairwise_cons] at h
      have hl : lastTick (a :: b :: r) = lastTick (b :: r) := by
        obtain ⟨k, e⟩ := a; rfl
      rw [hl]
      intro m hm
      rcases List.mem_cons.mp hm with rfl | hm
      · exact le_trans (h.1 b (List.mem_cons_self)) (ih h.2 b (List.mem_cons_self))
      · exact ih h.2 m hm

theorem sorted_fixEot (l : Track) (h : l.Pairwise (fun a b => a.1 ≤ b.1)) :
    (fixEot l).Pairwise (fun a b => a.1 ≤ b.1) := by
  unfold fixEot
  rw [List.pairwise_append]
  refine ⟨h.sublist List.filter_sublist, List.pairwise_singleton _ _, ?_⟩
  intro a ha b hb
  rw [List.mem_singleton] at hb
  subst hb
  exact le_lastTick l h a (List.mem_filter.mp ha).1

/-- what `g` selects from the messages appended to track number `tr` -/
def evI (g : Ev → Option β) (tr : Nat) (ins : List Ins) : List (Int × β) :=
  sel g ((ins.filter (fun i => decide (i.1 = tr))).map (fun i => i.2))

theorem evI_append (g : Ev → Option β) (tr : Nat) (a b : List Ins) :
    evI g tr (a ++ b) = evI g tr a ++ evI g tr b := by
  simp [evI, List.filter_append, sel_append]

theorem evI_nil (g : Ev → Option β) (tr : Nat) : evI g tr [] = [] := rfl

theorem evI_flatMap {γ : Type} (g : Ev → Option β) (tr : Nat) (l : List γ) (f : γ → List Ins) :
    evI g tr (l.flatMap f) = l.flatMap fun c => evI g tr (f c) := by
  induction l with
  | nil => rfl
  | cons c l ih => rw [List.flatMap_cons, evI_append, ih, List.flatMap_cons]

theorem evI_perm (g : Ev → Option β) (tr : Nat) {a b : List Ins} (h : a.Perm b) : (evI g tr a).Perm (evI g tr b) :=
  sel_perm g ((h.filter _).map _)

theorem mem_evI (g : Ev → Option β) (tr : Nat) (ins : List Ins) (x : Int × β) :
    x ∈ evI g tr ins ↔ ∃ i ∈ ins, i.1 = tr ∧ (g i.2.2).map (fun b => (i.2.1, b)) = some x := by
  simp only [evI, sel, List.mem_filterMap, List.mem_map, List.mem_filter, decide_eq_true_eq]
  constructor
  · rintro ⟨_, ⟨i, ⟨hi, ht⟩, rfl⟩, h⟩
    exact ⟨i, hi, ht, h⟩
  · rintro ⟨i, hi, ht, h⟩
    exact ⟨_, ⟨i, ⟨hi, ht⟩, rfl⟩, h⟩

theorem sel_trackAbs (g : Ev → Option β) (ins : List Ins) (tr : Nat) :
    (sel g (trackAbs ins tr)).Perm (evI g tr ins) := by
  unfold trackAbs evI
  exact sel_sortBy g _ _

theorem defaultPrograms_mem (acc : List Ins) (p : PPart) :
    ∀ i ∈ defaultPrograms acc p, p.programs = [] ∧ ∃ ch, (ch, i.1) ∈ chanTracks p ∧ i.2.2 = Ev.program ch 0 := by
  intro i hi
  unfold defaultPrograms at hi
  split at hi
  · rename_i hnil
    have hnil' : p.programs = [] := by simpa using hnil
    split at hi
    · simp at hi
    · simp only [List.mem_flatMap, List.mem_map] at hi
      obtain ⟨tr, _, ch, hch, rfl⟩ := hi
      rw [mem_uniqueSorted] at hch
      obtain ⟨ct, hct, rfl⟩ := List.mem_map.mp hch
      have hct' := List.mem_filter.mp hct
      have ht : ct.2 = tr := by simpa using hct'.2
      refine ⟨hnil', ct.1, ?_, rfl⟩
      have : (ct.1, tr) = ct := by rw [← ht]
      rw [this]
      exact hct'.1
  · simp at hi

theorem evI_defaultPrograms (g : Ev → Option β) (hg : ∀ ch pr, g (Ev.program ch pr) = none)
    (tr : Nat) (acc : List Ins) (p : PPart) : evI g tr (defaultPrograms acc p) = [] := by
  unfold evI sel
  rw [List.filterMap_eq_nil_iff]
  intro m hm
  obtain ⟨i, hi, rfl⟩ := List.mem_map.mp hm
  obtain ⟨_, ch, _, hch⟩ := defaultPrograms_mem acc p i (List.mem_filter.mp hi).1
  simp [hch, hg]

theorem evI_foldl (g : Ev → Option β) (hg : ∀ ch pr, g (Ev.program ch pr) = none) (q : Rat → Int)
    (tr : Nat) (parts : List PPart) (acc : List Ins) :
    evI g tr (parts.foldl (insertPart q) acc)
      = evI g tr acc ++ parts.flatMap (fun p => evI g tr (partEvents q p)) := by
  induction parts generalizing acc with
  | nil => simp
  | cons p parts ih =>
    rw [List.foldl_cons, ih, List.flatMap_cons]
    unfold insertPart
    simp only [evI_append, evI_defaultPrograms g hg, List.append_nil, List.append_assoc]

theorem evI_insertAll (g : Ev → Option β) (hg : ∀ ch pr, g (Ev.program ch pr) = none) (q : Rat → Int)
    (tr : Nat) (parts : List PPart) :
    evI g tr (insertAll q parts) = parts.flatMap (fun p => evI g tr (partEvents q p)) := by
  unfold insertAll
  rw [evI_foldl g hg, evI_nil, List.nil_append]

theorem evI_map (g : Ev → Option β) (tr : Nat) {γ : Type} (l : List γ) (f : γ → Ins) :
    evI g tr (l.map f) = l.filterMap (fun c =>
      if (f c).1 = tr then (g (f c).2.2).map (fun b => ((f c).2.1, b)) else none) := by
  induction l with
  | nil => rfl
  | cons c l ih =>
    have hh := ih
    unfold evI sel at hh ⊢
    by_cases h : (f c).1 = tr
    · simp only [List.map_cons, List.filter_cons, h, decide_true, if_true, List.filterMap_cons]
      cases g (f c).2.2 <;> simp [hh]
    · simp only [List.map_cons, List.filter_cons, h, decide_false, List.filterMap_cons]
      simp [hh]

theorem ev_none (g : Ev → Option β) (h0 : g Ev.eot = none) (h1 : ∀ i, g (Ev.metaMsg i) = none) (m : PMetaO) :
    g m.ev = none := by
  unfold PMetaO.ev
  split
  · exact h0
  · exact h1 _

theorem evI_map_none (g : Ev → Option β) (tr : Nat) {γ : Type} (l : List γ) (f : γ → Ins)
    (h : ∀ c, g (f c).2.2 = none) : evI g tr (l.map f) = [] := by
  rw [evI_map, List.filterMap_eq_nil_iff]
  intro c _
  simp [h]

theorem evI_noteIns (g : Ev → Option β) (q : Rat → Int) (tr : Nat) (n : PNote) :
    evI g tr (noteIns q n)
      = if n.track = tr then sel g [(q n.on, Ev.noteOn n.ch n.pitch n.vel), (q n.off, Ev.noteOff n.ch n.pitch 0)]
        else [] := by
  unfold evI noteIns
  by_cases h : n.track = tr
  · simp only [List.filter_cons, List.filter_nil, h, decide_true, if_true, List.map_cons, List.map_nil]
  · simp only [List.filter_cons, List.filter_nil, h, decide_false, if_false, List.map_nil, Bool.false_eq_true]
    rfl

theorem evI_notes_none (g : Ev → Option β) (hon : ∀ a b c, g (Ev.noteOn a b c) = none)
    (hoff : ∀ a b c, g (Ev.noteOff a b c) = none) (q : Rat → Int) (tr : Nat) (l : List PNote) :
    evI g tr (l.flatMap (noteIns q)) = [] := by
  induction l with
  | nil => rfl
  | cons n l ih =>
    rw [List.flatMap_cons, evI_append, ih, List.append_nil, evI_noteIns, sel_cons_none g _ _ (hon _ _ _),
      sel_cons_none g _ _ (hoff _ _ _)]
    exact ite_self _

end C06Lists
