/-
C03 — `do_attributes` as a whole: grouping by time, the clef lists, the `<staves>` flag; `<staff-details>` read back;
re-export of what was read from an `<attributes>` element.
-/
import PartituraModel.Model.XmlAttrs
import PartituraModel.Proofs.C03Attr
import PartituraModel.Proofs.C03BarOps
import PartituraModel.Proofs.C03Sort

namespace C03.Attrs
open Model Model.XmlNote Model.XmlDir Model.XmlAttrs C03.Text

theorem attrGroups_items (s : AttrSrc) : ∀ g ∈ attrGroups s, g.2 = itemsAt (entries s) g.1 ∧ g.2 ≠ [] :=
  C03.BarOps.groupsOf_items (entries s)

theorem firstSeen_isFirstSeen : Dicts.IsFirstSeen firstSeen := ⟨rfl, fun _ _ => rfl⟩

theorem mem_firstSeen {t : Nat} {l : List Nat} : t ∈ firstSeen l ↔ t ∈ l := firstSeen_isFirstSeen.mem

theorem firstSeen_nodup (l : List Nat) : (firstSeen l).Nodup := firstSeen_isFirstSeen.nodup l

theorem clefEntries_perm (cs : List ClefSrc) : (clefEntries cs).Perm (cs.map fun c => (c.t, c.item)) := by
  unfold clefEntries
  have h1 : ∀ t ∈ firstSeen (cs.map (·.t)),
      ((clefsAt cs t).map fun c => (t, c.item)).Perm ((cs.map fun c => (c.t, c.item)).filter fun e => e.1 == t) := by
    intro t _
    have hp : ((clefsAt cs t).map fun c => (t, c.item)).Perm ((cs.filter fun c => c.t == t).map fun c => (t, c.item)) :=
      ((C03.Sort.isSort numLt).perm _).map _
    refine hp.trans (List.Perm.of_eq ?_)
    rw [List.filter_map]
    apply List.map_congr_left
    intro c hc
    have : c.t = t := by simpa using (List.mem_filter.mp hc).2
    simp [this]
  refine (List.Perm.flatMap_left _ h1).trans ?_
  have := firstSeen_isFirstSeen.groups_perm Prod.fst (cs.map fun c => (c.t, c.item))
  rw [List.map_map] at this
  exact this

theorem attrLoop_times (k : Nat) (inc : Bool) (gs : List (Nat × List AttrItem)) :
    (attrLoop k inc gs).map (·.1) = gs.map (·.1) := by
  induction gs generalizing inc with
  | nil => rfl
  | cons g rest ih => obtain ⟨t, items⟩ := g; simp [attrLoop, ih]

theorem attrLoop_mem (k : Nat) (inc : Bool) (gs : List (Nat × List AttrItem)) (e : Nat × Xml)
    (h : e ∈ attrLoop k inc gs) : ∃ g ∈ gs, ∃ st, e = (g.1, writeAttributes g.2 st) := by
  induction gs generalizing inc with
  | nil => simp [attrLoop] at h
  | cons g rest ih =>
    obtain ⟨t, items⟩ := g
    rcases List.mem_cons.mp h with rfl | h
    · exact ⟨(t, items), by simp, _, rfl⟩
    · obtain ⟨g, hg, st, rfl⟩ := ih _ h
      exact ⟨g, List.mem_cons_of_mem _ hg, st, rfl⟩

theorem writeAttributes_noClef (items : List AttrItem) (st : Option Nat) (h : items.any (·.isClef) = false) :
    writeAttributes items st = writeAttributes items none := by
  unfold writeAttributes
  have : items.dropWhile (!·.isClef) = [] := Lists.dropWhile_of_all fun x hx => by
    have := List.any_eq_false.mp h x hx; simpa using this
  simp only [this]

theorem attrLoop_included (k : Nat) (gs : List (Nat × List AttrItem)) :
    attrLoop k true gs = gs.map fun g => (g.1, writeAttributes g.2 none) := by
  induction gs with
  | nil => rfl
  | cons g rest ih => obtain ⟨t, items⟩ := g; simp [attrLoop, ih]

theorem attrLoop_noClef (k : Nat) (gs : List (Nat × List AttrItem)) (h : ∀ g ∈ gs, g.2.any (·.isClef) = false) :
    attrLoop k false gs = gs.map fun g => (g.1, writeAttributes g.2 none) := by
  induction gs with
  | nil => rfl
  | cons g rest ih =>
    obtain ⟨t, items⟩ := g
    have h0 : items.any (·.isClef) = false := h (t, items) (by simp)
    simp only [attrLoop, h0, Bool.false_or, List.map_cons, Bool.false_eq_true, if_false]
    rw [ih fun g hg => h g (List.mem_cons_of_mem _ hg), writeAttributes_noClef items _ h0]

theorem attrLoop_split (k : Nat) (pre post : List (Nat × List AttrItem)) (g : Nat × List AttrItem)
    (hpre : ∀ h ∈ pre, h.2.any (·.isClef) = false) (hg : g.2.any (·.isClef) = true) :
    attrLoop k false (pre ++ g :: post) =
      pre.map (fun h => (h.1, writeAttributes h.2 none)) ++ (g.1, writeAttributes g.2 (some k)) ::
        post.map (fun h => (h.1, writeAttributes h.2 none)) := by
  induction pre with
  | nil =>
    obtain ⟨t, items⟩ := g
    simp only [List.nil_append, attrLoop, List.map_nil, Bool.false_eq_true, if_false]
    have : (false || items.any (·.isClef)) = true := by simpa using hg
    rw [this, attrLoop_included]
  | cons h rest ih =>
    obtain ⟨t, items⟩ := h
    have h0 : items.any (·.isClef) = false := hpre (t, items) (by simp)
    simp only [List.cons_append, attrLoop, h0, Bool.false_or, List.map_cons, Bool.false_eq_true, if_false]
    rw [ih fun x hx => hpre x (List.mem_cons_of_mem _ hx), writeAttributes_noClef items _ h0]

def sdKids : Option Int → List Xml
  | some l => if l = 0 then [] else [leaf .staffLines (showIntC l)]
  | none => []

theorem itemEls_sd (l : Option Int) : itemEls (.staffDetails l) = [.el .staffDetails [] [] (sdKids l)] := by
  cases l <;> rfl

theorem read_sd (l : Option Int) :
    readStaffDetails (.el .staffDetails [] [] (sdKids l)) = some { number := 1, lines := truthy l } := by
  cases l with
  | none => simp [sdKids, readStaffDetails, Xml.kids, find, findall, tagInt, attrInt, Xml.get, Xml.attrs, Model.lookup, intOr, truthy]
  | some l =>
    by_cases h0 : l = 0
    · simp [sdKids, readStaffDetails, Xml.kids, find, findall, tagInt, attrInt, Xml.get, Xml.attrs, Model.lookup, intOr, truthy, h0]
    · simp [sdKids, readStaffDetails, Xml.kids, find, findall, tagInt, attrInt, Xml.get, Xml.attrs, Model.lookup, intOr, truthy, h0,
        leaf, Xml.tag, Xml.text, showIntC_ne_nil, parseIntC_showIntC]

theorem read_staffs (items : List AttrItem) :
    (findall .staffDetails (items.flatMap itemEls)).mapM readStaffDetails = some (canonStaffs items) := by
  rw [findall_flatMap]
  induction items with
  | nil => rfl
  | cons i r ih =>
    rw [List.flatMap_cons]
    cases i with
    | staffDetails l =>
      have hall : findall .staffDetails (itemEls (.staffDetails l)) = itemEls (.staffDetails l) := by
        simp [itemEls_sd, findall, Xml.tag]
      rw [hall, itemEls_sd, List.singleton_append, List.mapM_cons, read_sd, ih]
      rfl
    | _ => exact ih

theorem staffs_roundtrip (items : List AttrItem) (staves : Option Nat) :
    readStaffs (writeAttributes items staves) = some (canonStaffs items) := by
  unfold readStaffs
  rw [C03.Attr.findall_kids .staffDetails (by decide) items staves]
  exact read_staffs items

def normStaffNo : Option Int → Int
  | some s => if s = 0 then 1 else s
  | none => 1

def normMode : Option Str → Option Str
  | some m => if m = [] then none else some m
  | none => none

/-- the representative of an entry that the importer picks: an empty mode is no mode, 0 staff lines are none, a clef
    without staff (or staff 0) is on staff 1, an octave change of 0 is none — all written as the same element -/
def normItem : AttrItem → AttrItem
  | .key f m => .key f (normMode m)
  | .staffDetails l => .staffDetails (truthy l)
  | .clef st sg l oc => .clef (some (normStaffNo st)) sg l (truthy oc)
  | .divisions q => .divisions q
  | .time a b => .time a b

theorem itemEls_norm (i : AttrItem) : itemEls (normItem i) = itemEls i := by
  cases i with
  | divisions q => rfl
  | time a b => rfl
  | key f m =>
    cases m with
    | none => rfl
    | some m => by_cases h : m = [] <;> simp [normItem, normMode, itemEls, h]
  | staffDetails l =>
    cases l with
    | none => rfl
    | some l => by_cases h : l = 0 <;> simp [normItem, itemEls, truthy, h]
  | clef st sg l oc =>
    have h1 : clefAttrs (some (normStaffNo st)) = clefAttrs st := by
      cases st with
      | none => simp [clefAttrs, normStaffNo]
      | some s => by_cases h : s = 0 <;> simp [clefAttrs, normStaffNo, h]
    have h2 : ocEls (truthy oc) = ocEls oc := by
      cases oc with
      | none => rfl
      | some c => by_cases h : c = 0 <;> simp [ocEls, truthy, h]
    simp only [normItem, itemEls, h1, h2]

theorem isClef_norm (i : AttrItem) : (normItem i).isClef = i.isClef := by cases i <;> rfl

theorem stavesPart_map (st : Option Nat) (f : AttrItem → AttrItem) (l : List AttrItem) :
    C03.Attr.stavesPart st (l.map f) = C03.Attr.stavesPart st l := by
  cases st <;> cases l <;> rfl

theorem writeAttributes_norm (items : List AttrItem) (st : Option Nat) :
    writeAttributes (items.map normItem) st = writeAttributes items st := by
  have hw : ∀ l : List AttrItem, writeAttributes l st = .el .attributes [] []
      ((l.takeWhile (!·.isClef)).flatMap itemEls ++ C03.Attr.stavesPart st (l.dropWhile (!·.isClef)) ++
        (l.dropWhile (!·.isClef)).flatMap itemEls) := fun _ => rfl
  have hc : ((fun x : AttrItem => !x.isClef) ∘ normItem) = fun x => !x.isClef := by
    funext x; simp [isClef_norm]
  have he : (itemEls ∘ normItem) = itemEls := by funext x; simp [itemEls_norm]
  rw [hw, hw, List.takeWhile_map, List.dropWhile_map, hc, stavesPart_map, List.flatMap_map, List.flatMap_map]
  simp only [itemEls_norm]

def isTail : AttrItem → Bool
  | .staffDetails _ => true
  | .clef _ _ _ _ => true
  | _ => false

theorem firsts_tail (l : List AttrItem) (h : ∀ i ∈ l, isTail i = true) :
    firstTime l = none ∧ firstKey l = none ∧ firstDivisions l = none ∧ firstMode l = none := by
  have hsel : ∀ i ∈ l, C03.Attr.timeOf i = none ∧ C03.Attr.keyOf i = none ∧ C03.Attr.divisionsOf i = none ∧
      C03.Attr.modeOf i = none := fun i hi => by
    have hi := h i hi
    cases i with
    | staffDetails _ => exact ⟨rfl, rfl, rfl, rfl⟩
    | clef _ _ _ _ => exact ⟨rfl, rfl, rfl, rfl⟩
    | _ => cases hi
  rw [C03.Attr.firstTime_eq, C03.Attr.firstKey_eq, C03.Attr.firstDivisions_eq, C03.Attr.firstMode_eq]
  simp only [List.findSome?_eq_none_iff]
  exact ⟨fun i hi => (hsel i hi).1, fun i hi => (hsel i hi).2.1, fun i hi => (hsel i hi).2.2.1,
    fun i hi => (hsel i hi).2.2.2⟩

def tailOf (c : CanonItems) : List AttrItem := c.staffs.map AttrItem.staffDetails ++ c.clefs.map clefItem

theorem tailOf_isTail (c : CanonItems) : ∀ i ∈ tailOf c, isTail i = true := by
  intro i hi
  rcases List.mem_append.mp hi with h | h
  · obtain ⟨_, _, rfl⟩ := List.mem_map.mp h; rfl
  · obtain ⟨_, _, rfl⟩ := List.mem_map.mp h; rfl

theorem items_eq (c : CanonItems) :
    c.items = divItems c.divisions ++ (keyItems c.key ++ (timeItems c.time ++ tailOf c)) := by
  simp [CanonItems.items, tailOf, List.append_assoc]

theorem firsts_items (c : CanonItems) :
    firstTime c.items = c.time ∧ firstKey c.items = c.key ∧ firstDivisions c.items = c.divisions ∧
      firstMode c.items = c.key.bind fun fm => normMode fm.2 := by
  obtain ⟨h1, h2, h3, h4⟩ := firsts_tail (tailOf c) (tailOf_isTail c)
  rw [items_eq]
  cases c.divisions <;> rcases c.key with _ | ⟨f, _ | m⟩ <;> rcases c.time with _ | ⟨a, b⟩ <;>
    simp [divItems, keyItems, timeItems, firstTime, firstKey, firstDivisions, firstMode, h1, h2, h3, h4, normMode]

theorem canon_time (c : CanonItems) (h : c.ok) : (canonAttrs c.items).time = c.time := by
  simp only [canonAttrs, (firsts_items c).1]
  rcases hc : c.time with _ | ⟨a, b⟩
  · rfl
  · have := h.2 a b hc
    simp [this.1, this.2]

theorem canon_div (c : CanonItems) (h : c.ok) : (canonAttrs c.items).divisions = c.divisions := by
  simp only [canonAttrs, (firsts_items c).2.2.1]
  cases hc : c.divisions with
  | none => rfl
  | some q => simp [truthy, h.1 q hc]

theorem canon_key (c : CanonItems) :
    keyRead (canonAttrs c.items).key = c.key.map fun fm => (fm.1, normMode fm.2) := by
  simp only [canonAttrs, (firsts_items c).2.1, (firsts_items c).2.2.2]
  rcases c.key with _ | ⟨f, m⟩ <;> simp [keyRead]

/-- the clef an item denotes (`canonClefs` item by item) -/
def clefOf : AttrItem → Option ClefRead
  | .clef st sg l oc => some { staff := normStaffNo st, sign := some sg, line := l, octaveChange := truthy oc }
  | _ => none

/-- the staff an item denotes (`canonStaffs` item by item) -/
def staffOf : AttrItem → Option StaffRead
  | .staffDetails l => some { number := 1, lines := truthy l }
  | _ => none

theorem canonClefs_eq (items : List AttrItem) : canonClefs items = items.filterMap clefOf := by
  induction items with
  | nil => rfl
  | cons i r ih =>
    cases i with
    | clef st sg l oc => cases st <;> simp only [canonClefs, List.filterMap_cons, clefOf, normStaffNo, ih]
    | _ => simp only [canonClefs, List.filterMap_cons, clefOf, ih]

theorem canonStaffs_eq (items : List AttrItem) : canonStaffs items = items.filterMap staffOf := by
  induction items with
  | nil => rfl
  | cons i r ih => cases i <;> simp only [canonStaffs, List.filterMap_cons, staffOf, ih]

theorem front_none {β : Type} (sel : AttrItem → Option β) (hd : ∀ q, sel (.divisions q) = none)
    (hk : ∀ f m, sel (.key f m) = none) (ht : ∀ a b, sel (.time a b) = none) (d k t) (l : List AttrItem) :
    (divItems d ++ keyItems k ++ timeItems t ++ l).filterMap sel = l.filterMap sel := by
  cases d <;> rcases k with _ | ⟨f, m⟩ <;> rcases t with _ | ⟨a, b⟩ <;>
    simp [divItems, keyItems, timeItems, hd, hk, ht]

theorem canon_clefs (c : CanonItems) : (canonAttrs c.items).clefs = c.clefs.map fun x =>
    { staff := normStaffNo x.1, sign := some x.2.1, line := x.2.2.1, octaveChange := truthy x.2.2.2 } := by
  simp only [canonAttrs, canonClefs_eq, CanonItems.items, List.append_assoc]
  rw [← List.append_assoc, ← List.append_assoc, front_none clefOf (fun _ => rfl) (fun _ _ => rfl) (fun _ _ => rfl),
    List.filterMap_append, List.filterMap_map, List.filterMap_map]
  simp [clefOf, Function.comp_def, clefItem]

theorem canon_staffs (c : CanonItems) :
    canonStaffs c.items = c.staffs.map fun l => { number := 1, lines := truthy l } := by
  simp only [canonStaffs_eq, CanonItems.items, List.append_assoc]
  rw [← List.append_assoc, ← List.append_assoc, front_none staffOf (fun _ => rfl) (fun _ _ => rfl) (fun _ _ => rfl),
    List.filterMap_append, List.filterMap_map, List.filterMap_map]
  simp [staffOf, Function.comp_def, clefItem]
theorem reexport_canon (c : CanonItems) (h : c.ok) :
    reexportItems (canonAttrs c.items) (canonStaffs c.items) = c.items.map normItem := by
  unfold reexportItems
  rw [canon_time c h, canon_div c h, canon_key c, canon_clefs c, canon_staffs c]
  simp only [CanonItems.items, List.map_append, List.map_map]
  have h1 : divItems c.divisions = (divItems c.divisions).map normItem := by cases c.divisions <;> rfl
  have h2 : keyItems (c.key.map fun fm => (fm.1, normMode fm.2)) = (keyItems c.key).map normItem := by
    rcases c.key with _ | ⟨f, m⟩ <;> rfl
  have h3 : timeItems c.time = (timeItems c.time).map normItem := by rcases c.time with _ | ⟨a, b⟩ <;> rfl
  have h4 : (c.clefs.map ((fun c : ClefRead => AttrItem.clef (some c.staff) (signText c.sign) c.line c.octaveChange) ∘
      fun x => { staff := normStaffNo x.1, sign := some x.2.1, line := x.2.2.1, octaveChange := truthy x.2.2.2 })) =
      c.clefs.map (normItem ∘ clefItem) := rfl
  rw [← h1, ← h2, ← h3, h4]
  rfl

theorem attributes_fixpoint (c : CanonItems) (h : c.ok) (st : Option Nat) :
    writeAttributes (reexportItems (canonAttrs c.items) (canonStaffs c.items)) st = writeAttributes c.items st := by
  rw [reexport_canon c h, writeAttributes_norm]

/-- the objects the five iteration calls returned, each with its time -/
def objects (s : AttrSrc) : List (Nat × AttrItem) :=
  s.quarters.map (fun q => (q.1, AttrItem.divisions q.2)) ++ s.keys.map (fun k => (k.1, AttrItem.key k.2.1 k.2.2)) ++
  s.times.map (fun x => (x.1, AttrItem.time x.2.1 x.2.2)) ++ s.staffs.map (fun x => (x.1, AttrItem.staffDetails x.2)) ++
  s.clefs.map fun c => (c.t, c.item)

theorem entries_perm (s : AttrSrc) : (entries s).Perm (objects s) :=
  List.Perm.append_left _ (clefEntries_perm s.clefs)

theorem entries_ok (s : AttrSrc) (h : ∀ c ∈ s.clefs, TextOK c.sign) (t : Nat) : WellFormedAttrs (itemsAt (entries s) t) := by
  intro i hi
  obtain ⟨e, he, rfl⟩ := List.mem_map.mp hi
  have hm : e ∈ objects s := (entries_perm s).subset (List.mem_filter.mp he).1
  unfold objects at hm
  simp only [List.mem_append, List.mem_map] at hm
  rcases hm with (((⟨_, _, rfl⟩ | ⟨_, _, rfl⟩) | ⟨_, _, rfl⟩) | ⟨_, _, rfl⟩) | ⟨c, hc, rfl⟩
  · trivial
  · trivial
  · trivial
  · trivial
  · exact h c hc

theorem doAttributes_mem (s : AttrSrc) (e : Nat × Xml) (h : e ∈ doAttributes s) :
    ∃ st, e.2 = writeAttributes (itemsAt (entries s) e.1) st := by
  obtain ⟨g, hg, st, rfl⟩ := attrLoop_mem _ _ _ e h
  exact ⟨st, by rw [(attrGroups_items s g hg).1]⟩

theorem itemsAt_append (a b : List (Nat × AttrItem)) (t : Nat) : itemsAt (a ++ b) t = itemsAt a t ++ itemsAt b t := by
  simp [itemsAt]

theorem itemsAt_map {α : Type} (l : List α) (k : α → Nat) (f : α → AttrItem) (t : Nat) :
    itemsAt (l.map fun x => (k x, f x)) t = (l.filter fun x => k x == t).map f := by
  unfold itemsAt
  rw [List.filter_map, List.map_map]
  rfl

theorem itemsAt_groups (ks : List Nat) (hnd : ks.Nodup) (h : Nat → List ClefSrc) (t : Nat) :
    itemsAt (ks.flatMap fun t' => (h t').map fun c => (t', c.item)) t = if t ∈ ks then (h t).map ClefSrc.item else [] := by
  induction ks with
  | nil => rfl
  | cons k r ih =>
    obtain ⟨hk, hr⟩ := List.nodup_cons.mp hnd
    rw [List.flatMap_cons, itemsAt_append, ih hr]
    have h1 : itemsAt ((h k).map fun c => (k, c.item)) t = if k = t then (h k).map ClefSrc.item else [] := by
      rw [itemsAt_map (h k) (fun _ => k) ClefSrc.item t]
      by_cases hkt : k = t <;> simp [hkt]
    rw [h1]
    by_cases hkt : k = t
    · subst hkt; simp [hk]
    · have : ¬ t = k := fun h => hkt h.symm
      simp [hkt, this]

theorem itemsAt_clefEntries (cs : List ClefSrc) (t : Nat) : itemsAt (clefEntries cs) t = (clefsAt cs t).map ClefSrc.item := by
  unfold clefEntries
  rw [itemsAt_groups _ (firstSeen_nodup _) (clefsAt cs) t]
  by_cases ht : t ∈ firstSeen (cs.map (·.t))
  · simp [ht]
  · have : cs.filter (fun c => c.t == t) = [] := by
      rw [List.filter_eq_nil_iff]
      intro c hc hct
      exact ht (mem_firstSeen.mpr (List.mem_map.mpr ⟨c, hc, by simpa using hct⟩))
    simp [ht, clefsAt, this, Model.Xml.isortBy]

theorem filter_le_one {α : Type} (p : α → Bool) (l : List α) (h : (l.filter p).length ≤ 1) :
    l.filter p = (l.find? p).toList := by
  induction l with
  | nil => rfl
  | cons a r ih =>
    by_cases hp : p a = true
    · rw [List.filter_cons_of_pos hp] at h ⊢
      rw [List.eq_nil_of_length_eq_zero (Nat.le_zero.mp (Nat.le_of_succ_le_succ h)), List.find?_cons_of_pos hp]
      rfl
    · rw [List.filter_cons_of_neg hp] at h ⊢
      rw [List.find?_cons_of_neg hp]
      exact ih h

/-- at most one quarter duration, key signature and time signature of the source at time `t` (the property's domain) -/
def DomainAt (s : AttrSrc) (t : Nat) : Prop :=
  (s.quarters.filter fun q => q.1 == t).length ≤ 1 ∧ (s.keys.filter fun k => k.1 == t).length ≤ 1 ∧
  (s.times.filter fun x => x.1 == t).length ≤ 1

def canonAt (s : AttrSrc) (t : Nat) : CanonItems where
  divisions := (s.quarters.find? fun q => q.1 == t).map (·.2)
  key := (s.keys.find? fun k => k.1 == t).map (·.2)
  time := (s.times.find? fun x => x.1 == t).map (·.2)
  staffs := (s.staffs.filter fun x => x.1 == t).map (·.2)
  clefs := (clefsAt s.clefs t).map fun c => (c.staff, c.sign, c.line, c.octaveChange)

theorem itemsAt_canon (s : AttrSrc) (t : Nat) (h : DomainAt s t) : itemsAt (entries s) t = (canonAt s t).items := by
  obtain ⟨h1, h2, h3⟩ := h
  unfold entries
  simp only [itemsAt_append, itemsAt_clefEntries]
  rw [itemsAt_map s.quarters (·.1) (fun q => AttrItem.divisions q.2), itemsAt_map s.keys (·.1) (fun k => AttrItem.key k.2.1 k.2.2),
    itemsAt_map s.times (·.1) (fun x => AttrItem.time x.2.1 x.2.2), itemsAt_map s.staffs (·.1) (fun x => AttrItem.staffDetails x.2),
    filter_le_one _ _ h1, filter_le_one _ _ h2, filter_le_one _ _ h3]
  unfold CanonItems.items canonAt
  simp only [List.map_map]
  congr 1
  congr 1
  congr 1
  congr 1
  · generalize (s.quarters.find? fun q => q.1 == t) = o
    cases o <;> rfl
  · generalize (s.keys.find? fun k => k.1 == t) = o
    rcases o with _ | ⟨_, _, _⟩ <;> rfl
  · generalize (s.times.find? fun x => x.1 == t) = o
    rcases o with _ | ⟨_, _, _⟩ <;> rfl

end C03.Attrs
