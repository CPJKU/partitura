/-
C09: the steps of the boundary pass on any layout: updates of one entry (`modAt` is `List.modify`), the step without navigation
marks (`procSeg_noNav`), the scan over the brackets (`voltaScan_run`), the step at the end of a bracket (`procSeg_voltaEnd`);
cleaning up volta and plain destinations (`cleanTo_mix`); a state of the builder given entry by entry (`modAt_range_map`).
-/
import PartituraModel.Proofs.C09Table

namespace C09
open Model.Unfold

theorem modAt_eq {α : Type} (f : α → α) : ∀ (l : List α) (i : Nat), modAt i f l = l.modify i f
  | [], _ => by simp [modAt]
  | a :: as, 0 => by simp [modAt]
  | a :: as, i + 1 => by simp [modAt, modAt_eq f as i]

theorem modAt_get {α : Type} (f : α → α) (l : List α) (i j : Nat) :
    (modAt i f l)[j]? = if j = i then (l[j]?).map f else l[j]? := by
  rw [modAt_eq, List.getElem?_modify]
  by_cases h : i = j <;> simp [h, eq_comm]

theorem modAt_length {α : Type} (f : α → α) : ∀ (l : List α) (i : Nat), (modAt i f l).length = l.length := by
  intro l i
  rw [modAt_eq, List.length_modify]

theorem modAt_modAt {α : Type} (f g : α → α) (l : List α) (i : Nat) :
    modAt i f (modAt i g l) = modAt i (fun a => f (g a)) l := by
  rw [modAt_eq, modAt_eq, modAt_eq, List.modify_modify_eq]; rfl

theorem modAt_id {α : Type} (f : α → α) (hf : ∀ a, f a = a) (l : List α) (i : Nat) : modAt i f l = l := by
  rw [modAt_eq, show f = id from funext hf, List.modify_id]

theorem modAt_eta (l : List SegInfo) (i : Nat) :
    modAt i (fun s : SegInfo => { to := s.to, ty := s.ty, voltaNums := s.voltaNums }) l = l :=
  modAt_id _ (fun _ => rfl) l i

/-- a raw destination under a volta label, from the pair (label, segment) -/
def fv (p : Nat × Nat) : Tag × Dest := (Tag.volta p.1, Dest.seg p.2)
/-- a raw destination without label -/
def fp (d : Dest) : Tag × Dest := (Tag.plain, d)

theorem foldr_mix (F : Tag × Dest → Option (List (Nat × Nat)) → Option (List (Nat × Nat)))
    (hFv : ∀ n j l, F (Tag.volta n, Dest.seg j) (some l) = some ((n, j) :: l))
    (hFp : ∀ d l, F (Tag.plain, d) (some l) = some l) (P : List (Nat × Nat)) (l : List Dest) :
    List.foldr F (some []) (P.map fv ++ l.map fp) = some P := by
  induction P with
  | nil =>
    simp only [List.map_nil, List.nil_append]
    induction l with
    | nil => rfl
    | cons d ds ih => simp only [List.map_cons, List.foldr_cons, ih, fp, hFp]
  | cons q qs ih => simp only [List.map_cons, List.cons_append, List.foldr_cons, ih, fv, hFv]

theorem plainOf_mix (P : List (Nat × Nat)) (l : List Dest) : plainOf (P.map fv ++ l.map fp) = l := by
  simp [plainOf, Function.comp_def, fv, fp]

theorem nav1Of_mix (P : List (Nat × Nat)) (l : List Dest) : nav1Of (P.map fv ++ l.map fp) = [] := by
  simp [nav1Of, Function.comp_def, fv, fp]

theorem nav2Of_mix (P : List (Nat × Nat)) (l : List Dest) : nav2Of (P.map fv ++ l.map fp) = [] := by
  simp [nav2Of, Function.comp_def, fv, fp]

theorem voltaOf_mix (P : List (Nat × Nat)) (l : List Dest) : voltaOf (P.map fv ++ l.map fp) = some P :=
  foldr_mix _ (fun _ _ _ => rfl) (fun _ _ => rfl) P l

theorem nav1Of_append (a b : List (Tag × Dest)) : nav1Of (a ++ b) = nav1Of a ++ nav1Of b := by
  unfold nav1Of; rw [List.filterMap_append]

theorem nav1Of_fv (P : List (Nat × Nat)) : nav1Of (P.map fv) = [] := by
  simp [nav1Of, Function.comp_def, fv]

theorem nav1Of_fp (l : List Dest) : nav1Of (l.map fp) = [] := by
  simp [nav1Of, Function.comp_def, fp]

theorem cleanTo_mix (P : List (Nat × Nat)) (l : List Dest) :
    cleanToBase (P.map fv ++ l.map fp) =
      some (((P.foldl (fun acc x => insVolta x acc) []).map fun x => Dest.seg x.2) ++
        (((l.foldl (fun acc d => match d with
            | Dest.seg j => insSorted j acc
            | Dest.fin => acc) []).map Dest.seg).filter
          fun d => !((P.foldl (fun acc x => insVolta x acc) []).map fun x => Dest.seg x.2).contains d) ++
        (if l.contains Dest.fin then [Dest.fin] else []), []) := by
  rw [cleanToBase_named, plainOf_mix, nav1Of_mix, nav2Of_mix, voltaOf_mix]
  cases l.contains Dest.fin <;> simp [plainIdxOf] <;> rfl

def NoNav (b : BInfo) : Prop :=
  b.coda = false ∧ b.tocoda = false ∧ b.dacapo = false ∧ b.fine = false ∧ b.segno = false ∧ b.dalsegno = false

theorem addTo_addTo (i : Nat) (a b : List (Tag × Dest)) (info : List SegInfo) :
    addTo i b (addTo i a info) = addTo i (a ++ b) info := by
  unfold addTo
  rw [modAt_modAt]
  congr 1
  funext s
  simp [List.append_assoc]

theorem addTo_nil (i : Nat) (info : List SegInfo) : addTo i [] info = info :=
  modAt_id _ (fun s => by simp) info i

theorem stRepeatStart_eq (i : Nat) (b : BInfo) (idSe : Dest) (st : BState) :
    stRepeatStart i b idSe st =
      { st with info := addTo i (if b.repeatStart then [(Tag.plain, idSe)] else []) st.info } := by
  unfold stRepeatStart
  split
  · rfl
  · rw [addTo_nil]

theorem stEnd_eq (i : Nat) (b : BInfo) (idSe : Dest) (st : BState) :
    stEnd i b idSe st = { st with info := addTo i (if b.isEnd then [(Tag.plain, idSe)] else []) st.info } := by
  unfold stEnd
  split
  · rfl
  · rw [addTo_nil]

theorem stFirst_eq (i : Nat) (ss : Int) (st : BState) :
    stFirst i ss st =
      { st with info := modAt i (fun s => { s with ty := if ss = 0 then .leapEnd else s.ty }) st.info } := by
  unfold stFirst setTy
  split
  · rfl
  · rw [modAt_eta]

/-- at a boundary without navigation marks the step is the repeat and volta branches, the end of the part and the type -/
theorem procSeg_noNav (L : Layout) (tb : BTable) (times : List Int) (i : Nat) (ss se : Int) (st : BState)
    (b : BInfo) (idSe : Dest) (hget : tblGet se tb = some b) (hid : idOf times se = some idSe) (hb : NoNav b) :
    procSeg L tb times i ss se st =
      (stRepeatEnd times i b idSe (stRepeatStart i b idSe st)).bind fun st =>
      (stVoltaStart tb times i b se st).bind fun st =>
      (stVoltaEnd times i b st).bind fun st => some (stFirst i ss (stEnd i b idSe st)) := by
  obtain ⟨h3, h4, h5, h6, h7, h8⟩ := hb
  unfold procSeg
  rw [hget, hid]
  simp only [stLeapEnd, stToCoda, stJumpBack, stFine, h3, h4, h5, h6, h7, h8, Bool.false_eq_true, if_false,
    Option.bind_some]

theorem cleanTo_plain (l : List Dest) :
    cleanToBase (l.map fp) =
      some ((l.foldl (fun acc d => match d with
          | Dest.seg j => insSorted j acc
          | Dest.fin => acc) []).map Dest.seg ++ (if l.contains Dest.fin then [Dest.fin] else []), []) := by
  have hf : ∀ x : List Dest, x.filter (fun _ => true) = x := fun x => List.filter_eq_self.mpr (fun _ _ => rfl)
  have := cleanTo_mix [] l
  simpa [hf] using this

theorem range_map_const {α : Type} (a : α) (n : Nat) : (List.range n).map (fun _ => a) = List.replicate n a := by
  rw [List.map_const', List.length_range]

theorem range_map_get {α : Type} (n : Nat) (c : Nat → α) (i : Nat) (x : α) (h : ((List.range n).map c)[i]? = some x) :
    i < n ∧ x = c i := by
  obtain ⟨hi, rfl⟩ := List.getElem?_eq_some_iff.mp h
  rw [List.length_map, List.length_range] at hi
  exact ⟨hi, by rw [List.getElem_map, List.getElem_range]⟩

theorem modAt_range_map {α : Type} (n i : Nat) (c c' : Nat → α) (f : α → α) (hi : f (c i) = c' i)
    (hne : ∀ x, x ≠ i → c' x = c x) : modAt i f ((List.range n).map c) = (List.range n).map c' := by
  apply List.ext_getElem?
  intro x
  rw [modAt_get]
  simp only [List.getElem?_map]
  by_cases hn : x < n
  · rw [List.getElem?_range hn]
    by_cases hx : x = i
    · rw [if_pos hx, hx, Option.map_some, Option.map_some, Option.map_some, hi]
    · rw [if_neg hx, Option.map_some, Option.map_some, hne x hx]
  · rw [List.getElem?_eq_none (by simpa using hn)]
    split <;> rfl

/-- type of segment `j`: "the first segment is always a leap destination" is tested as `ss == 0` -/
def tyAt (ts : List Int) (j : Nat) : SegType := if ts.getD j 0 = 0 then .leapEnd else .dflt

theorem tyAt_ne (ts : List Int) (i : Nat) : tyAt ts i ≠ SegType.leapStart := by
  unfold tyAt; split <;> simp

theorem BState.ext' (a b : BState) (h1 : a.info = b.info) (h2 : a.cvrs = b.cvrs) (h3 : a.cve = b.cve)
    (h4 : a.cvt = b.cvt) : a = b := by
  cases a; cases b; simp_all

/-- the `for vn in current_volta_numbers` loop: one `Z_Volta_` destination per number other than the total -/
theorem voltaEndLoop_eq (times : List Int) (i : Nat) (re : Option Int) (d : Dest) :
    ∀ (nums : List Nat) (st : BState),
      ((nums.filter fun n => decide (n ≠ st.cvt)).length = 0 ∨ idOf times (newCvrs re st.cvrs) = some d) →
      voltaEndLoop times i re nums st =
        some { st with
          cvrs := if (nums.filter fun n => decide (n ≠ st.cvt)).length = 0 then st.cvrs else newCvrs re st.cvrs,
          info := addTo i (List.replicate (nums.filter fun n => decide (n ≠ st.cvt)).length (Tag.volta 10, d)) st.info } := by
  intro nums
  induction nums with
  | nil => intro st _; simp [voltaEndLoop, addTo_nil]
  | cons vn rest ih =>
    intro st h
    rw [voltaEndLoop_cons]
    by_cases hv : vn = st.cvt
    · simp only [hv, ne_eq, not_true_eq_false, if_false, List.filter_cons, decide_false, Bool.false_eq_true] at h ⊢
      exact ih st h
    · simp only [ne_eq, hv, not_false_eq_true, if_true, List.filter_cons, decide_true, List.length_cons] at h ⊢
      have hid : idOf times (newCvrs re st.cvrs) = some d := h.resolve_left (by omega)
      rw [hid, Option.bind_some, ih _ (Or.inr (by simp only [newCvrs_idem]; exact hid))]
      simp only [newCvrs_idem, addTo_addTo, if_neg (Nat.succ_ne_zero _), ite_self, ne_eq, List.replicate_succ]
      rfl

/-- what the `for volta_number in range(10)` scan over the brackets `j, …, j + m - 1` does to the raw information
(bracket `b` is segment `c + 1 + b` and carries the numbers `nums b`): the destinations go to entry `i`, the numbers to the
entry of the bracket -/
def scanFold (i c : Nat) (nums : Nat → List Nat) : Nat → Nat → List SegInfo → List SegInfo
  | _, 0, info => info
  | j, m + 1, info =>
    scanFold i c nums (j + 1) m
      (modAt (c + 1 + j) (fun s => { s with voltaNums := s.voltaNums ++ nums j })
        (addTo i ((nums j).map fun n => (Tag.volta n, Dest.seg (c + 1 + j))) info))

theorem voltaScan_run (tb : BTable) (times : List Int) (i c k : Nat) (V : Nat → Int) (nums : Nat → List Nat)
    (h1 : ∀ j, j < k → (tblGet (V j) tb).bind (·.voltaStart) = some (nums j, V (j + 1)))
    (h2 : (tblGet (V k) tb).bind (·.voltaStart) = none)
    (h3 : ∀ j, j < k → idOf times (V j) = some (.seg (c + 1 + j))) :
    ∀ (m j fuel : Nat) (st : BState), j + m = k → m ≤ fuel → st.cve = V j →
      voltaScan tb times i fuel st =
        some { st with info := scanFold i c nums j m st.info, cve := V k,
                       cvt := st.cvt + ((List.range' j m).flatMap nums).length } := by
  intro m
  induction m with
  | zero =>
    intro j fuel st hj _ hc
    have : j = k := by omega
    subst this
    have e : ({ st with info := st.info, cve := V j, cvt := st.cvt + 0 } : BState) = st := by
      cases st
      simp only [BState.mk.injEq, Nat.add_zero, true_and, and_true]
      exact hc.symm
    cases fuel with
    | zero =>
      simp only [voltaScan, List.range'_zero, List.flatMap_nil, List.length_nil, scanFold, e]
    | succ f =>
      simp only [voltaScan, hc, h2, List.range'_zero, List.flatMap_nil, List.length_nil, scanFold, e]
  | succ m ih =>
    intro j fuel st hj hf hc
    obtain ⟨f, rfl⟩ : ∃ f, fuel = f + 1 := ⟨fuel - 1, by omega⟩
    have hjk : j < k := by omega
    simp only [voltaScan, hc, h1 j hjk, h3 j hjk]
    rw [ih (j + 1) f _ (by omega) (by omega) rfl]
    simp only [List.range'_succ, List.flatMap_cons, List.length_append, scanFold, Option.some.injEq]
    congr 1
    omega

/-- read entry by entry: `i` lies in front of the brackets, so the two updates of a bracket never meet in one entry -/
theorem scanFold_get (i c : Nat) (nums : Nat → List Nat) : ∀ (m j : Nat) (info : List SegInfo) (x : Nat),
    i < c + 1 + j →
    (scanFold i c nums j m info)[x]? = (info[x]?).map fun s =>
      { s with
        to := s.to ++ (if x = i then
          (List.range' j m).flatMap (fun b => (nums b).map fun n => (Tag.volta n, Dest.seg (c + 1 + b))) else []),
        voltaNums := s.voltaNums ++ (if c + 1 + j ≤ x ∧ x < c + 1 + j + m then nums (x - (c + 1)) else []) } := by
  intro m
  induction m with
  | zero =>
    intro j info x _
    have h0 : ¬ (c + 1 + j ≤ x ∧ x < c + 1 + j + 0) := by omega
    simp only [scanFold, List.range'_zero, List.flatMap_nil, ite_self, List.append_nil, h0, if_false]
    cases info[x]? <;> rfl
  | succ m ih =>
    intro j info x hi
    simp only [scanFold]
    rw [ih (j + 1) _ x (by omega), modAt_get]
    unfold addTo
    rw [modAt_get]
    by_cases hxi : x = i
    · subst hxi
      have h1 : ¬ x = c + 1 + j := by omega
      have h2 : ¬ (c + 1 + (j + 1) ≤ x ∧ x < c + 1 + (j + 1) + m) := by omega
      have h3 : ¬ (c + 1 + j ≤ x ∧ x < c + 1 + j + (m + 1)) := by omega
      simp only [h1, h2, h3, if_false, if_true, List.range'_succ, List.flatMap_cons]
      cases info[x]? with
      | none => rfl
      | some s => simp [List.append_assoc]
    · simp only [hxi, if_false]
      by_cases hxj : x = c + 1 + j
      · subst hxj
        have h2 : ¬ (c + 1 + (j + 1) ≤ c + 1 + j ∧ c + 1 + j < c + 1 + (j + 1) + m) := by omega
        have h3 : c + 1 + j ≤ c + 1 + j ∧ c + 1 + j < c + 1 + j + (m + 1) := by omega
        have e : c + 1 + j - (c + 1) = j := by omega
        simp only [h2, h3, and_self, if_false, if_true, e]
        cases info[c + 1 + j]? with
        | none => rfl
        | some s => simp
      · simp only [hxj, if_false]
        by_cases h4 : c + 1 + (j + 1) ≤ x ∧ x < c + 1 + (j + 1) + m
        · have h5 : c + 1 + j ≤ x ∧ x < c + 1 + j + (m + 1) := by omega
          simp only [h4, h5, and_self, if_true]
        · have h5 : ¬ (c + 1 + j ≤ x ∧ x < c + 1 + j + (m + 1)) := by omega
          simp only [h4, h5, if_false]

theorem stRepeatEnd_voltaEnd (times : List Int) (i : Nat) (b : BInfo) (idSe : Dest) (st : BState)
    (h : b.voltaEnd = true) : stRepeatEnd times i b idSe st = some st := by
  unfold stRepeatEnd
  cases b.repeatEnd <;> simp [h]

theorem stVoltaEnd_eq (times : List Int) (i : Nat) (b : BInfo) (st st' : BState) (s : SegInfo) (d : Dest)
    (hve : b.voltaEnd = true) (hs : st.info[i]? = some s)
    (hloop : voltaEndLoop times i b.repeatEnd s.voltaNums st = some st')
    (hid : s.voltaNums.contains st'.cvt = true → idOf times st'.cve = some d) :
    stVoltaEnd times i b st =
      some { st' with info := addTo i (if s.voltaNums.contains st'.cvt then [(Tag.plain, d)] else []) st'.info } := by
  unfold stVoltaEnd
  simp only [hve, if_true, hs, hloop]
  cases hc : s.voltaNums.contains st'.cvt with
  | false => simp [addTo_nil]
  | true => simp [hid hc]

/-- the segment in front of the end of a bracket: one `Z_Volta_` destination `d0` (the start of the repeat) per number it carries
other than the total, the segment `dn` behind the group when it carries the total, END when the part ends here -/
theorem procSeg_voltaEnd (L : Layout) (tb : BTable) (ts : List Int) (i : Nat) (ss se : Int) (st : BState) (b : BInfo)
    (idSe : Dest) (s : SegInfo) (d0 dn : Dest) (m : Nat) (hget : tblGet se tb = some b) (hid : idOf ts se = some idSe)
    (hve : b.voltaEnd = true) (hrs : b.repeatStart = false) (hnav : NoNav b) (hs : st.info[i]? = some s)
    (hm : (s.voltaNums.filter fun n => decide (n ≠ st.cvt)).length = m)
    (hd0 : m = 0 ∨ idOf ts (newCvrs b.repeatEnd st.cvrs) = some d0)
    (hdn : s.voltaNums.contains st.cvt = true → idOf ts st.cve = some dn) :
    procSeg L tb ts i ss se st =
      some { st with
        cvrs := if m = 0 then st.cvrs else newCvrs b.repeatEnd st.cvrs,
        info := modAt i (fun s' => { s' with
          to := s'.to ++ (List.replicate m (Tag.volta 10, d0) ++
            (if s.voltaNums.contains st.cvt then [(Tag.plain, dn)] else []) ++ (if b.isEnd then [(Tag.plain, idSe)] else [])),
          ty := if ss = 0 then .leapEnd else s'.ty }) st.info } := by
  have hloop := voltaEndLoop_eq ts i b.repeatEnd d0 s.voltaNums st (by rw [hm]; exact hd0)
  rw [hm] at hloop
  have hsv := stVoltaEnd_eq ts i b st _ s dn hve hs hloop hdn
  rw [procSeg_noNav L tb ts i ss se st b idSe hget hid hnav]
  simp only [stRepeatStart, stVoltaStart, hrs, Bool.false_eq_true, if_false, stRepeatEnd_voltaEnd _ _ _ _ _ hve,
    Option.bind_some, hve, Bool.not_true, Bool.and_false, hsv, stEnd_eq, stFirst_eq, addTo_addTo]
  unfold addTo
  rw [modAt_modAt]

end C09
