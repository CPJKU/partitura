/-
The signature columns through the inverse direction.  First the loop that collects the CHANGES of a column (`changes`,
Model/NoteArrayTs.lean) and what a "previous"-interpolation table made from them (`StepMap.lastLE`, property C10) returns at
the onset of every row (`lastLE_changes_column`); then the created part: its signature maps state at every row's onset what
the row carries (`created_ts_at_row`, `created_ks_at_row`), so over any part table that copies the columns (`ColsTable`)
the table that comes back holds them (`fromArrayXW_cols`, `…_ts_back`, `…_ks_back`).  (Imports Props/C12.lean: `C12.midi_spelling`
discharges the spelling hypothesis for the part `note_array_to_score` creates, `C12.key_bijection` gives the key names
of the key-signature columns (repaired, fixes/C05-10) back.  Imports Proofs/C10Sig.lean: the signature maps of the created part are read
through C10's equations `tsMap_eq`, `ksMap_eq`.)
-/
import PartituraModel.Model.NoteArrayTs
import PartituraModel.Proofs.C05Inverse
import PartituraModel.Proofs.C05Compose
import PartituraModel.Proofs.C10Sig
import PartituraModel.Props.C12
import PartituraModel.Model.NoteArrayTsF
import Mathlib.Data.List.Destutter
import Mathlib.Data.Prod.Lex
import Mathlib.Algebra.Order.Field.Rat

namespace NoteArray
open List Model

section Changes
variable {α : Type} [DecidableEq α]

theorem changes_cons (p : Int × α) (l : List (Int × α)) :
    changes (p :: l) = (0, p.2) :: changesFrom p.2 l := by
  simp [changes, changesFrom]

theorem changesFrom_values (s : α) (l : List (Int × α)) :
    s :: (changesFrom s l).map (·.2) = List.destutter' (· ≠ ·) s (l.map (·.2)) := by
  induction l generalizing s with
  | nil => simp [changesFrom]
  | cons p l ih =>
    by_cases h : p.2 = s
    · simp only [changesFrom, h, ↓reduceIte, map_cons, destutter'_cons, ne_eq, not_true_eq_false]
      exact ih s
    · have h' : s ≠ p.2 := fun e => h e.symm
      simp only [changesFrom, h, ↓reduceIte, map_cons, destutter'_cons, ne_eq, h', not_false_eq_true]
      rw [ih p.2]

theorem changesFrom_sublist (s : α) (l : List (Int × α)) : (changesFrom s l).Sublist l := by
  induction l generalizing s with
  | nil => exact Sublist.slnil
  | cons p l ih =>
    unfold changesFrom
    split
    · exact (ih s).cons p
    · exact (ih p.2).cons_cons p

theorem changesFrom_chain (s : α) (l : List (Int × α)) :
    (s :: (changesFrom s l).map (·.2)).IsChain (· ≠ ·) := by
  rw [changesFrom_values]
  exact List.isChain_destutter' _ _ _

/-- the same definition as `C10.SortedLE`: C10's lookup lemmas apply as they are -/
def OnsetSorted (l : List (Int × α)) : Prop := l.Pairwise (fun p q => p.1 ≤ q.1)

def Consistent (l : List (Int × α)) : Prop := ∀ p ∈ l, ∀ q ∈ l, p.1 = q.1 → p.2 = q.2

theorem lastLE_changesFrom (s : α) (l : List (Int × α)) (x : Int) (hs : OnsetSorted l) :
    (StepMap.lastLE (changesFrom s l) x).getD s = (StepMap.lastLE l x).getD s := by
  induction l generalizing s with
  | nil => rfl
  | cons p l ih =>
    have hs' : OnsetSorted l := (pairwise_cons.mp hs).2
    have hle : ∀ q ∈ l, p.1 ≤ q.1 := (pairwise_cons.mp hs).1
    rw [C10.getD_lastLE_cons]
    by_cases h : p.2 = s
    · rw [changesFrom, if_pos h]
      by_cases hx : p.1 ≤ x
      · rw [if_pos hx, ih s hs', h]
      · rw [if_neg hx, (C10.lastLE_eq_none_iff _ x (hs'.sublist (changesFrom_sublist s l))).mpr fun e he => by
          have := hle e ((changesFrom_sublist s l).subset he)
          omega]
        rfl
    · rw [changesFrom, if_neg h, C10.getD_lastLE_cons, ih p.2 hs']

/-- `firstAtZero (changes rows)` - what `note_array_to_score` hands to `create_part` - read by
    "previous" interpolation at the onset of any row gives that row's value: the rebuilt part carries a change wherever
    the column changes, also when it returns to an earlier value. -/
theorem lastLE_changes_at_row (l : List (Int × α)) (hs : OnsetSorted l) (hc : Consistent l)
    (hnn : ∀ p ∈ l, 0 ≤ p.1) : ∀ p ∈ l, StepMap.lastLE (firstAtZero (changes l)) p.1 = some p.2 := by
  cases l with
  | nil => intro p hp; simp at hp
  | cons q l =>
    intro p hp
    have h0 : ¬ p.1 < 0 := by have := hnn p hp; omega
    have hA := lastLE_changesFrom q.2 (q :: l) p.1 hs
    rw [C10.lastLE_at_row (q :: l) hs p hp fun e he => hc e he p hp, Option.getD_some] at hA
    have hq : changesFrom q.2 (q :: l) = changesFrom q.2 l := by simp [changesFrom]
    rw [changes_cons]
    simp only [firstAtZero, StepMap.lastLE, h0, ↓reduceIte]
    rw [hq] at hA
    cases hl : StepMap.lastLE (changesFrom q.2 l) p.1 with
    | none => rw [hl] at hA; simpa using hA
    | some w => rw [hl] at hA; simpa using hA

end Changes

theorem lastLE_map {β γ : Type} (f : β → γ) (tbl : StepMap.Tbl β) (x : Int) :
    StepMap.lastLE (tbl.map fun p => (p.1, f p.2)) x = (StepMap.lastLE tbl x).map f :=
  C10.lastLE_map f tbl x

def lexKey (k : Rat × Int × Rat) : Rat ×ₗ Int ×ₗ Rat := toLex (k.1, toLex (k.2.1, k.2.2))

theorem leLex_iff (a b : Rat × Int × Rat) : leLex a b = true ↔ lexKey a ≤ lexKey b := by
  unfold leLex lexKey
  simp only [Bool.or_eq_true, Bool.and_eq_true, decide_eq_true_eq, Prod.Lex.toLex_le_toLex]

/-- the array after `np.lexsort` is ordered by onset_div -/
theorem sortArr_sorted (a : List ARow) :
    (sortArr true a).Pairwise (fun r r' => r.onsetDiv ≤ r'.onsetDiv) := by
  have h := isort_sorted (fun r => lexKey (sortKey true r))
    (fun x y => leLex (sortKey true x) (sortKey true y)) (fun x y => leLex_iff _ _) a
  refine h.imp ?_
  intro r r' hle
  unfold lexKey sortKey at hle
  simp only [↓reduceIte, Prod.Lex.toLex_le_toLex] at hle
  rcases hle with h1 | ⟨h1, _⟩
  · exact_mod_cast le_of_lt h1
  · exact_mod_cast le_of_eq h1

/-- a time signature of the list handed to `create_part`, as `time_signature_map` reports it -/
def tsValue (v : Int × Int) : StepMap.TSv := (v.1.toNat, v.2.toNat, StepMap.musicalBeats v.1.toNat)

def tsTriples (tl : List (Int × (Int × Int))) : List (Int × Nat × Nat) :=
  tl.map fun x => (x.1, x.2.1.toNat, x.2.2.toNat)

theorem tsRows_tsTriples (tl : List (Int × (Int × Int))) :
    StepMap.tsRows (tsTriples tl) = tl.map fun p => (p.1, tsValue p.2) := by
  unfold StepMap.tsRows tsTriples tsValue
  rw [map_map]
  rfl

/-- where "previous" interpolation in a table answers, the back-filled lookup with a default in the table read through
    `f` (what a signature map of C10 computes on the timeline) answers the same -/
theorem lookupPrev_map_of_some {β γ : Type} (f : β → γ) (tbl : StepMap.Tbl β) (x : Int) (d : γ) {v : β}
    (h : StepMap.lastLE tbl x = some v) :
    some ((StepMap.lookupPrev (tbl.map fun p => (p.1, f p.2)) x).getD d) = some (f v) := by
  rw [show map _ _ = C10.mapVal f _ from rfl, C10.lookupPrev_mapVal, C10.lookupPrev_of_some tbl x v h]
  rfl

theorem tsMap_lastLE (tl : List (Int × (Int × Int))) (last x : Int) (hx : 0 ≤ x) {v : Int × Int}
    (h : StepMap.lastLE tl x = some v) :
    StepMap.tsMap (some (0, last)) (tsTriples tl) x = some (tsValue v) := by
  rw [C10.tsMap_eq (some (0, last)) _ x hx nofun, tsRows_tsTriples]
  exact lookupPrev_map_of_some tsValue tl x _ h

theorem dummySpell_keeps (p : Int) :
    Model.spellingToMidi (dummySpell p).1 (some (dummySpell p).2.1) (dummySpell p).2.2 = some p := by
  obtain ⟨s, a, o, hm, hs, _⟩ := C12.midi_spelling p
  unfold dummySpell
  rw [hm]
  exact hs

theorem fromArrayXW_rowsC : fromArrayXW rowsC = fromArrayX := by
  -- unfolded first, the two bodies are compared as written (a bare `rfl` is slow to check)
  unfold fromArrayXW fromArrayX; rfl

theorem fromArrayXW_ok (pt : PartTable) (hb hd ht hk : Bool) (a : List ARow) (dv : Option Nat) (tsl : List (Int × Int × Int))
    (est san : Bool) (x : XOut) (h : fromArrayXW pt hb hd ht hk a dv tsl est san = .ok x) :
    ∃ d l kss ms,
      fromArray hb hd ht a dv = .ok (d, l) ∧
      invKeySigs hk (sortArr hd a) l = some kss ∧
      createdMeasures d (invTimeSigs hd ht (sortArr hd a) l d tsl est) san
        (xLast (invTimeSigs hd ht (sortArr hd a) l d tsl est) kss (xAna hb ht (sortArr hd a) l d) l)
        (xAna hb ht (sortArr hd a) l d) = .ok ms ∧
      x.divs = d ∧ x.kss = kss ∧ x.measures = ms ∧
      x.tss = (invTimeSigs hd ht (sortArr hd a) l d tsl est).getD [] ∧
      pt (createdDesc d (invTimeSigs hd ht (sortArr hd a) l d tsl est) kss ms
          (xLast (invTimeSigs hd ht (sortArr hd a) l d tsl est) kss (xAna hb ht (sortArr hd a) l d) l))
        (mkNotes dummySpell 0 l) xOpts = some x.rows := by
  -- four stages, each of which may refuse
  unfold fromArrayXW at h
  split at h
  · cases h
  rename_i d l hfa
  split at h
  · cases h
  rename_i kss hks
  split at h
  · cases h
  rename_i ms hms
  split at h
  · cases h
  rename_i rows hrows
  cases h
  exact ⟨d, l, kss, ms, hfa, hks, hms, rfl, rfl, rfl, rfl, hrows⟩

theorem createdDesc_part (d : Nat) (ts : Option (List (Int × (Int × Int)))) (kss : List (Int × Int × Mode))
    (ms : List (Int × Int)) (last : Int) (l : List (Int × Int × Int)) (o : Opts) :
    (createdDesc d ts kss ms last).part o (mkNotes dummySpell 0 l)
      = createPart d l ((createdDesc d ts kss ms last).maps o) dummySpell := rfl

theorem createdDesc_span (d : Nat) (ts : Option (List (Int × (Int × Int)))) (kss : List (Int × Int × Mode))
    (ms : List (Int × Int)) (last : Int) : (createdDesc d ts kss ms last).span = some (0, last) := by
  unfold Desc.span createdDesc
  by_cases h : 0 < last <;> simp [h]

theorem createdDesc_tss (d : Nat) (tl : List (Int × (Int × Int))) (kss : List (Int × Int × Mode))
    (ms : List (Int × Int)) (last : Int) : (createdDesc d (some tl) kss ms last).tss = tsTriples tl := by
  unfold Desc.tss createdDesc tsTriples
  simp only [Option.getD_some, map_map]
  rfl

theorem createdDesc_ts (d : Nat) (tl : List (Int × (Int × Int))) (kss : List (Int × Int × Mode))
    (ms : List (Int × Int)) (last x : Int) (hx : 0 ≤ x) {v : Int × Int} (h : StepMap.lastLE tl x = some v) :
    (createdDesc d (some tl) kss ms last).ts x =
      some ((v.1.toNat : Int), (v.2.toNat : Int), (StepMap.musicalBeats v.1.toNat : Int)) := by
  unfold Desc.ts
  rw [createdDesc_span, createdDesc_tss, tsMap_lastLE tl last x hx h]
  rfl

/-- valid time-signature columns: rows with the same onset carry the same signature, no negative numbers -/
def TsColumnsOK (a : List ARow) : Prop :=
  (∀ r ∈ a, ∀ r' ∈ a, r.onsetDiv = r'.onsetDiv → tsSig r = tsSig r') ∧ ∀ r ∈ a, 0 ≤ r.tsBeats ∧ 0 ≤ r.tsBeatType

theorem onsetsWith_map {β : Type} (f : ARow → β) (sa : List ARow) :
    onsetsWith f sa (sa.map divTriple) = sa.map fun r => (r.onsetDiv, f r) := by
  unfold onsetsWith
  induction sa with
  | nil => rfl
  | cons r sa ih => simp only [map_cons, zipWith_cons_cons, ih]; rfl

/-- the time-signature column the loop runs over -/
def tsColumn (sa : List ARow) : List (Int × (Int × Int)) := sa.map fun r => (r.onsetDiv, tsSig r)

/-- a column of the sorted array whose rows agree at equal onsets and start at or after time 0: the list handed to
    `create_part`, read by "previous" interpolation, gives at the onset of every row the value of that row -/
theorem lastLE_changes_column {β : Type} [DecidableEq β] (f : ARow → β) (a : List ARow)
    (hcons : ∀ r ∈ a, ∀ r' ∈ a, r.onsetDiv = r'.onsetDiv → f r = f r') (hnn : ∀ r ∈ a, 0 ≤ r.onsetDiv) :
    ∀ r ∈ sortArr true a,
      StepMap.lastLE (firstAtZero (changes ((sortArr true a).map fun r => (r.onsetDiv, f r)))) r.onsetDiv =
        some (f r) := by
  intro r hr
  have hmem : ∀ p ∈ (sortArr true a).map (fun r => (r.onsetDiv, f r)), ∃ r' ∈ a, p = (r'.onsetDiv, f r') := by
    intro p hp
    obtain ⟨r', hr', rfl⟩ := mem_map.mp hp
    exact ⟨r', mem_sortArr.mp hr', rfl⟩
  refine lastLE_changes_at_row _ ?_ ?_ ?_ (r.onsetDiv, f r) (mem_map.mpr ⟨r, hr, rfl⟩)
  · exact pairwise_map.mpr (sortArr_sorted a)
  · intro p hp q hq hpq
    obtain ⟨r1, h1, rfl⟩ := hmem p hp
    obtain ⟨r2, h2, rfl⟩ := hmem q hq
    exact hcons r1 h1 r2 h2 hpq
  · intro p hp
    obtain ⟨r1, h1, rfl⟩ := hmem p hp
    exact hnn r1 h1

theorem created_ts_at_row (a : List ARow) (hok : TsColumnsOK a) (hnn : ∀ r ∈ a, 0 ≤ r.onsetDiv)
    (d : Nat) (kss : List (Int × Int × Mode)) (ms : List (Int × Int)) (last : Int) :
    ∀ r ∈ sortArr true a,
      (createdDesc d (some (firstAtZero (changes (tsColumn (sortArr true a))))) kss ms last).ts r.onsetDiv
        = some (r.tsBeats, r.tsBeatType, (StepMap.musicalBeats r.tsBeats.toNat : Int)) := by
  intro r hr
  have hra : r ∈ a := mem_sortArr.mp hr
  have hL : StepMap.lastLE (firstAtZero (changes (tsColumn (sortArr true a)))) r.onsetDiv = some (tsSig r) :=
    lastLE_changes_column tsSig a hok.1 hnn r hr
  rw [createdDesc_ts d _ kss ms last r.onsetDiv (hnn r hra) hL]
  simp only [tsSig, Option.some.injEq, Prod.mk.injEq, and_true]
  exact ⟨Int.toNat_of_nonneg (hok.2 r hra).1, Int.toNat_of_nonneg (hok.2 r hra).2⟩

theorem invTimeSigs_columns (hd : Bool) (sa : List ARow) (l : List (Int × Int × Int)) (d : Nat)
    (tsl : List (Int × Int × Int)) (est : Bool) :
    invTimeSigs hd true sa l d tsl est = some (firstAtZero (changes (onsetsWith tsSig sa l))) := by
  unfold invTimeSigs; rfl

theorem maps_ts_on (desc : Desc) (t : Int) : (desc.maps xOpts).ts t = (desc.ts t).getD (0, 0, 0) := rfl

/-- what the inverse direction asks of a part table: on the part `note_array_to_score` creates, its rows carry, note by
    note, the triple and what the description's signature maps state at the onset (`rowsC_cols`; the stored table:
    Props/C05TsStored.lean `rowsF_cols`) -/
def ColsTable (pt : PartTable) : Prop :=
  ∀ (d : Nat) (ts : Option (List (Int × (Int × Int)))) (kss : List (Int × Int × Mode)) (ms : List (Int × Int))
    (last : Int) (l : List (Int × Int × Int)) (out : List Row),
    pt (createdDesc d ts kss ms last) (mkNotes dummySpell 0 l) xOpts = some out →
      out.map rowCols ~ l.map fun x =>
        (x, ((createdDesc d ts kss ms last).ts x.1).getD (0, 0, 0), ((createdDesc d ts kss ms last).ks x.1).getD (0, 0))

theorem rowsC_cols : ColsTable rowsC := by
  intro d ts kss ms last l out h
  have h' := (rowsC_some _ _ _ _ h).2
  rw [createdDesc_part] at h'
  exact rows_createPart_cols d l _ dummySpell xOpts out (fun y _ => dummySpell_keeps y.2.2) h'

theorem fromArrayXW_cols {pt : PartTable} (hpt : ColsTable pt) (hb ht hk : Bool) (a : List ARow) (dv : Option Nat)
    (tsl : List (Int × Int × Int)) (est san : Bool) (x : XOut)
    (h : fromArrayXW pt hb true ht hk a dv tsl est san = .ok x) :
    ∃ d kss ms last, (∀ r ∈ a, 0 ≤ r.onsetDiv) ∧
      invKeySigs hk (sortArr true a) ((sortArr true a).map divTriple) = some kss ∧
      x.rows.map rowCols ~ (sortArr true a).map fun r => (divTriple r,
        ((createdDesc d (invTimeSigs true ht (sortArr true a) ((sortArr true a).map divTriple) d tsl est) kss ms
          last).ts r.onsetDiv).getD (0, 0, 0),
        ((createdDesc d (invTimeSigs true ht (sortArr true a) ((sortArr true a).map divTriple) d tsl est) kss ms
          last).ks r.onsetDiv).getD (0, 0)) := by
  obtain ⟨d, l, kss, ms, hfa, hks, _, _, _, _, _, hrows⟩ := fromArrayXW_ok pt _ _ _ _ _ _ _ _ _ _ h
  obtain ⟨hl, hpos, _⟩ := fromArray_div_ok hb ht a dv d l hfa
  subst hl
  have hP := hpt _ _ _ _ _ _ _ hrows
  rw [map_map] at hP
  exact ⟨d, kss, ms, _, fun r hr => (hpos _ (mem_map_of_mem (mem_sortArr.mpr hr))).1, hks, hP⟩

theorem fromArrayXW_triples {pt : PartTable} (hpt : ColsTable pt) (hb ht hk : Bool) (a : List ARow) (dv : Option Nat)
    (tsl : List (Int × Int × Int)) (est san : Bool) (x : XOut)
    (h : fromArrayXW pt hb true ht hk a dv tsl est san = .ok x) :
    x.rows.map rowTriple ~ a.map divTriple := by
  obtain ⟨_, _, _, _, _, _, hP⟩ := fromArrayXW_cols hpt hb ht hk a dv tsl est san x h
  have hP1 := hP.map Prod.fst
  rw [map_map, map_map] at hP1
  exact hP1.trans ((sortArr_perm true a).map divTriple)

theorem fromArrayXW_ts_back {pt : PartTable} (hpt : ColsTable pt) (hb hk : Bool) (a : List ARow) (dv : Option Nat)
    (tsl : List (Int × Int × Int)) (est san : Bool) (x : XOut)
    (h : fromArrayXW pt hb true true hk a dv tsl est san = .ok x) (hok : TsColumnsOK a) :
    x.rows.map (fun r => (r.onsetDiv, r.durDiv, r.pitch, r.tsBeats, r.tsBeatType))
      ~ a.map (fun r => (r.onsetDiv, r.durDiv, r.pitch, r.tsBeats, r.tsBeatType)) := by
  obtain ⟨d, kss, ms, last, hnn, _, hP⟩ := fromArrayXW_cols hpt hb true hk a dv tsl est san x h
  rw [invTimeSigs_columns, onsetsWith_map] at hP
  have hP2 := hP.map (fun c : (Int × Int × Int) × (Int × Int × Int) × (Int × Int) =>
    (c.1.1, c.1.2.1, c.1.2.2, c.2.1.1, c.2.1.2.1))
  rw [map_map, map_map] at hP2
  refine (hP2.trans (Perm.of_eq (map_congr_left fun r hr => ?_))).trans ((sortArr_perm true a).map _)
  have hts := created_ts_at_row a hok hnn d kss ms last r hr
  rw [show tsColumn (sortArr true a) = (sortArr true a).map fun r => (r.onsetDiv, tsSig r) from rfl] at hts
  simp only [Function.comp, divTriple, hts]
  rfl

theorem allSomeL_spec {β : Type} : ∀ (l : List (Int × Option β)) (out : List (Int × β)),
    allSomeL l = some out → l = out.map fun p => (p.1, some p.2) := by
  intro l
  induction l with
  | nil => intro out h; simp [allSomeL] at h; subst h; rfl
  | cons e l ih =>
    intro out h
    obtain ⟨t, v⟩ := e
    cases v with
    | none => simp [allSomeL] at h
    | some v =>
      simp only [allSomeL, Option.map_eq_some_iff] at h
      obtain ⟨o', ho', rfl⟩ := h
      rw [ih o' ho']
      simp

theorem lastLE_of_allSome {β γ : Type} (g : β → Option γ) (T : StepMap.Tbl β) (out : StepMap.Tbl γ)
    (h : allSomeL (T.map fun p => (p.1, g p.2)) = some out) (x : Int) (v : β)
    (hv : StepMap.lastLE T x = some v) : ∃ w, g v = some w ∧ StepMap.lastLE out x = some w := by
  have hs := allSomeL_spec _ _ h
  have h1 := lastLE_map g T x
  have h2 := lastLE_map (fun w : γ => some w) out x
  rw [hs] at h1
  rw [h1] at h2
  rw [hv] at h2
  cases ho : StepMap.lastLE out x with
  | none => rw [ho] at h2; simp at h2
  | some w =>
    rw [ho] at h2
    simp only [Option.map_some, Option.some.injEq] at h2
    exact ⟨w, h2, rfl⟩

/-- valid key-signature columns: rows with the same onset carry the same key, fifths in -7..7, mode 1 or -1 -/
def KsColumnsOK (a : List ARow) : Prop :=
  (∀ r ∈ a, ∀ r' ∈ a, r.onsetDiv = r'.onsetDiv → (r.ksFifths, r.ksMode) = (r'.ksFifths, r'.ksMode)) ∧
  ∀ r ∈ a, -7 ≤ r.ksFifths ∧ r.ksFifths ≤ 7 ∧ (r.ksMode = 1 ∨ r.ksMode = -1)

theorem keyIntToMode_ok (m : Int) (h : m = 1 ∨ m = -1) : ∃ md, keyIntToMode m = some md ∧ keyModeToInt md = m := by
  rcases h with rfl | rfl
  · exact ⟨.major, by decide, rfl⟩
  · exact ⟨.minor, by decide, rfl⟩

/-- a valid row has a key name, and `create_part` reads the row's key back from it (C12 `key_bijection`) -/
theorem keyNameOf_ok (r : ARow) (h1 : -7 ≤ r.ksFifths) (h2 : r.ksFifths ≤ 7) (h3 : r.ksMode = 1 ∨ r.ksMode = -1) :
    ∃ name md, keyNameOf r = some name ∧ keyNameToFifthsMode name = some (r.ksFifths, md) ∧
      keyModeToInt md = r.ksMode := by
  obtain ⟨md, hmd, hback⟩ := keyIntToMode_ok r.ksMode h3
  obtain ⟨hsome, hbij⟩ := C12.key_bijection r.ksFifths h1 h2 md
  obtain ⟨name, hname⟩ := Option.isSome_iff_exists.mp hsome
  refine ⟨name, md, ?_, ?_, hback⟩
  · unfold keyNameOf; rw [hmd]; exact hname
  · rw [hname] at hbij; exact hbij

theorem ksMap_lastLE (ks : List (Int × (Int × Mode))) (last x : Int) (hx : 0 ≤ x) {v : Int × Mode}
    (h : StepMap.lastLE ks x = some v) :
    StepMap.ksMap (some (0, last)) (ks.map fun p => (p.1, p.2.1, p.2.2)) x = some (v.1, keyModeToInt v.2) := by
  rw [C10.ksMap_eq (some (0, last)) _ x hx nofun,
    show StepMap.ksRows (ks.map fun p => (p.1, p.2.1, p.2.2)) = ks.map fun p => (p.1, (p.2.1, keyModeToInt p.2.2)) by
      unfold StepMap.ksRows; rw [map_map]; rfl]
  exact lookupPrev_map_of_some (fun v : Int × Mode => (v.1, keyModeToInt v.2)) ks x _ h

theorem createdDesc_ks (d : Nat) (ts : Option (List (Int × (Int × Int)))) (ks : List (Int × (Int × Mode)))
    (ms : List (Int × Int)) (last x : Int) (hx : 0 ≤ x) {v : Int × Mode} (h : StepMap.lastLE ks x = some v) :
    (createdDesc d ts (ks.map fun p => (p.1, p.2.1, p.2.2)) ms last).ks x = some (v.1, keyModeToInt v.2) := by
  unfold Desc.ks
  rw [createdDesc_span]
  exact ksMap_lastLE ks last x hx h

theorem maps_ks_on (desc : Desc) (t : Int) : (desc.maps xOpts).ks t = (desc.ks t).getD (0, 0) := rfl

theorem keyNameOf_congr (r r' : ARow) (h : (r.ksFifths, r.ksMode) = (r'.ksFifths, r'.ksMode)) :
    keyNameOf r = keyNameOf r' := by
  simp only [Prod.mk.injEq] at h
  unfold keyNameOf
  rw [h.1, h.2]

theorem invKeySigs_ok (sa : List ARow) (l : List (Int × Int × Int)) (kss : List (Int × Int × Mode))
    (h : invKeySigs true sa l = some kss) :
    ∃ names ks', allSomeL (onsetsWith keyNameOf sa l) = some names ∧
      allSomeL ((firstAtZero (changes names)).map fun p => (p.1, keyNameToFifthsMode p.2)) = some ks' ∧
      kss = ks'.map fun p => (p.1, p.2.1, p.2.2) := by
  unfold invKeySigs at h
  simp only [Bool.not_true, Bool.false_eq_true, ↓reduceIte] at h
  cases hn : allSomeL (onsetsWith keyNameOf sa l) with
  | none => rw [hn] at h; cases h
  | some names =>
    rw [hn] at h
    simp only [Option.map_eq_some_iff] at h
    obtain ⟨ks', hks', rfl⟩ := h
    exact ⟨names, ks', rfl, hks', rfl⟩

theorem created_ks_at_row (a : List ARow) (hok : KsColumnsOK a) (hnn : ∀ r ∈ a, 0 ≤ r.onsetDiv)
    (kss : List (Int × Int × Mode))
    (hks : invKeySigs true (sortArr true a) ((sortArr true a).map divTriple) = some kss)
    (d : Nat) (ts : Option (List (Int × (Int × Int)))) (ms : List (Int × Int)) (last : Int) :
    ∀ r ∈ sortArr true a, (createdDesc d ts kss ms last).ks r.onsetDiv = some (r.ksFifths, r.ksMode) := by
  obtain ⟨names, ks', hnames, hks', rfl⟩ := invKeySigs_ok _ _ _ hks
  have hcol := allSomeL_spec _ _ hnames
  rw [onsetsWith_map] at hcol
  -- the column of names is a column of the sorted array
  have hnm : names = (sortArr true a).map fun r => (r.onsetDiv, (keyNameOf r).getD "") := by
    have := congrArg (map fun q : Int × Option String => (q.1, q.2.getD "")) hcol
    simpa [map_map, Function.comp_def] using this.symm
  intro r hr
  have hra := mem_sortArr.mp hr
  obtain ⟨h1, h2, h3⟩ := hok.2 r hra
  obtain ⟨nm, md, hnmr, hback, hmode⟩ := keyNameOf_ok r h1 h2 h3
  have hL : StepMap.lastLE (firstAtZero (changes names)) r.onsetDiv = some nm := by
    have := lastLE_changes_column (fun r => (keyNameOf r).getD "") a
      (fun r1 h1 r2 h2 h12 => by rw [keyNameOf_congr r1 r2 (hok.1 r1 h1 r2 h2 h12)]) hnn r hr
    rw [← hnm] at this
    simpa [hnmr] using this
  obtain ⟨w, hw, hL'⟩ := lastLE_of_allSome keyNameToFifthsMode _ ks' hks' r.onsetDiv nm hL
  rw [hback] at hw
  rw [createdDesc_ks d ts ks' ms last r.onsetDiv (hnn r hra) hL', show w = (r.ksFifths, md) from (Option.some.inj hw).symm,
    hmode]

theorem fromArrayXW_ks_back {pt : PartTable} (hpt : ColsTable pt) (hb ht : Bool) (a : List ARow) (dv : Option Nat)
    (tsl : List (Int × Int × Int)) (est san : Bool) (x : XOut)
    (h : fromArrayXW pt hb true ht true a dv tsl est san = .ok x) (hok : KsColumnsOK a) :
    x.rows.map (fun r => (r.onsetDiv, r.durDiv, r.pitch, r.ksFifths, r.ksMode))
      ~ a.map (fun r => (r.onsetDiv, r.durDiv, r.pitch, r.ksFifths, r.ksMode)) := by
  obtain ⟨d, kss, ms, last, hnn, hks, hP⟩ := fromArrayXW_cols hpt hb ht true a dv tsl est san x h
  have hP2 := hP.map (fun c : (Int × Int × Int) × (Int × Int × Int) × (Int × Int) =>
    (c.1.1, c.1.2.1, c.1.2.2, c.2.2.1, c.2.2.2))
  rw [map_map, map_map] at hP2
  refine (hP2.trans (Perm.of_eq (map_congr_left fun r hr => ?_))).trans ((sortArr_perm true a).map _)
  simp only [Function.comp, divTriple, created_ks_at_row a hok hnn kss hks d _ ms last r hr]
  rfl

end NoteArray
