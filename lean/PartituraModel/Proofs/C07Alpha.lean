/-
C07 — the side condition `FieldsOKGen` derived from a CHARACTER-LEVEL description of the field texts.

`fieldsOKGen` asks, for every group, that the rest of the pattern matches at no later offset of the run of
characters the group's class can swallow.  Here that is reduced in two steps:

* `sepOK` (concrete characters): the character `z` that starts the literal behind a group occurs nowhere in
  the window that follows it - up to and including the first character outside the group's class;
  `fieldsOKGen_of_sepOK`.
* `sepOKS` (symbolic, a check of the TEMPLATE alone): when every field text `v n` is drawn from an alphabet
  `A n` (a predicate on characters) and has at least `N n` characters, the window condition follows from
  `A n z = false` for the fields inside the window; `sepOK_of_sepOKS`.  The text that follows the line is a
  known literal `tl` (empty, or the identifier literal of a composite line).  It is decided for the generated
  table in Props/C07Alpha.lean, so no condition on the written texts is left for the codecs whose output
  alphabet is proved in Proofs/C07AlphaText.lean.
-/
import PartituraModel.Model.Template
import PartituraModel.Proofs.C07Early

namespace Model.Template

/-- `z` does not occur in `l` before, or as, the first character outside `cls` -/
def winFree (cls : CharClass) (z : Char) : List Char → Bool
  | [] => true
  | d :: l => d != z && (if cls.mem d then winFree cls z l else true)

theorem winFree_drop (cls : CharClass) (z : Char) : ∀ (l : List Char) (i : Nat), winFree cls z l = true →
    i ≤ (l.takeWhile cls.mem).length → (l.drop i).head? ≠ some z := by
  intro l
  induction l with
  | nil => intro i _ _; simp
  | cons d l ih =>
    intro i h hi
    simp only [winFree, Bool.and_eq_true, bne_iff_ne, ne_eq] at h
    cases i with
    | zero =>
      simp only [List.drop_zero, List.head?_cons, ne_eq, Option.some.injEq]
      exact h.1
    | succ i =>
      simp only [List.drop_succ_cons]
      by_cases hc : cls.mem d = true
      · simp only [hc, if_true] at h
        simp only [List.takeWhile_cons, hc, if_true, List.length_cons] at hi
        exact ih i h.2 (by omega)
      · simp only [List.takeWhile_cons, hc] at hi
        simp at hi

theorem matchSegs_head_ne (z : Char) (p : List PChar) (q : List Seg) (s : List Char) (h : s.head? ≠ some z) :
    matchSegs (.lit (.ch z :: p) :: q) s = none := by
  cases s with
  | nil => simp [matchSegs, litMatch]
  | cons c s =>
    have hc : (z == c) = false := by
      simp only [List.head?_cons, ne_eq, Option.some.injEq] at h
      simp only [beq_eq_false_iff_ne, ne_eq]
      exact fun e => h e.symm
    simp [matchSegs, litMatch, PChar.matches, hc]

theorem allBetween_of_winFree (cls : CharClass) (z : Char) (p : List PChar) (q : List Seg) (x rest : List Char)
    (hx : x.all cls.mem = true) (hw : cls.mem z = false ∨ winFree cls z rest = true) :
    allBetween x.length (((x ++ z :: rest).takeWhile cls.mem).length)
      (fun j => (matchSegs (.lit (.ch z :: p) :: q) ((x ++ z :: rest).drop j)).isNone) = true := by
  unfold allBetween
  rw [List.all_eq_true]
  intro i hi
  rw [List.mem_range] at hi
  rw [List.takeWhile_append_of_pos (List.all_eq_true.mp hx)] at hi
  by_cases hz : cls.mem z = true
  · have hw' : winFree cls z rest = true := by
      rcases hw with h | h
      · rw [hz] at h; cases h
      · exact h
    simp only [List.takeWhile_cons, hz, if_true, List.length_append, List.length_cons] at hi
    have hd : (x ++ z :: rest).drop (x.length + 1 + i) = rest.drop i := by
      rw [Nat.add_assoc, ← List.drop_drop, List.drop_left]
      simp [Nat.add_comm 1 i, ← List.drop_drop]
    show (matchSegs (.lit (.ch z :: p) :: q) ((x ++ z :: rest).drop (x.length + 1 + i))).isNone = true
    rw [hd, matchSegs_head_ne z p q _ (winFree_drop cls z rest i hw' (by omega))]
    rfl
  · simp only [List.takeWhile_cons, hz, List.length_append, List.length_nil] at hi
    simp at hi

/-- character-level side condition: every text lies in its class with the minimal length, the group is
    followed by a literal that starts with a plain character `z`, and `z` does not occur again in the window
    behind it -/
def sepOK : List OSeg → List Seg → (String → List Char) → List Char → Bool
  | [], [], _, _ => true
  | .lit _ :: o, .lit _ :: q, v, tail => sepOK o q v tail
  | .fld n :: o, .fld _ cls lo :: q, v, tail =>
    (v n).all cls.mem && lo ≤ (v n).length
      && (match q, render o v ++ tail with
          | .lit (.ch z :: _) :: _, r0 :: rest => r0 == z && (!cls.mem z || winFree cls z rest)
          | _, _ => false)
      && sepOK o q v tail
  | _, _, _, _ => false

theorem fieldsOKGen_of_sepOK : ∀ (o : List OSeg) (q : List Seg) (v : String → List Char) (tail : List Char),
    sepOK o q v tail = true → fieldsOKGen o q v tail = true := by
  intro o q v tail
  fun_induction sepOK o q v tail with
  | case1 => intro _; rfl
  | case2 _ o _ q v tail ih => intro h; simpa [fieldsOKGen] using ih h
  | case3 n o nm cls lo q v tail ih =>
    intro h
    simp only [Bool.and_eq_true, decide_eq_true_eq] at h
    obtain ⟨⟨⟨hx, hlo⟩, hm⟩, hr⟩ := h
    simp only [fieldsOKGen, Bool.and_eq_true, decide_eq_true_eq]
    refine ⟨⟨⟨hx, hlo⟩, ?_⟩, ih hr⟩
    split at hm
    · rename_i z p q' r0 rest hrest
      simp only [Bool.and_eq_true, beq_iff_eq, Bool.or_eq_true, Bool.not_eq_true'] at hm
      obtain ⟨rfl, hw⟩ := hm
      rw [hrest]
      exact allBetween_of_winFree cls r0 p q' (v n) rest hx hw
    · cases hm
  | case4 => intro h; cases h

/-- the window condition on the template's own text: known characters are tested, a field inside the window
    must have an alphabet without `z`; the window may not run past the end of the line -/
def winFreeS (A : String → Char → Bool) (cls : CharClass) (z : Char) : List Sym → Bool
  | [] => true
  | .ch d :: l => d != z && (if cls.mem d then winFreeS A cls z l else true)
  | .fld n :: l => !A n z && winFreeS A cls z l

theorem winFree_field (cls : CharClass) (z : Char) (A : Char → Bool) (hz : A z = false) : ∀ (x rest : List Char),
    x.all A = true → winFree cls z rest = true → winFree cls z (x ++ rest) = true := by
  intro x
  induction x with
  | nil => intro rest _ h; exact h
  | cons c x ih =>
    intro rest hx hr
    simp only [List.all_cons, Bool.and_eq_true] at hx
    have hne : c ≠ z := fun e => by rw [e, hz] at hx; cases hx.1
    simp only [List.cons_append, winFree, Bool.and_eq_true, bne_iff_ne, ne_eq]
    refine ⟨hne, ?_⟩
    split
    · exact ih rest hx.2 hr
    · rfl

theorem winFree_of_winFreeS (A : String → Char → Bool) (cls : CharClass) (z : Char) (v : String → List Char)
    (hv : ∀ n, (v n).all (A n) = true) : ∀ (syms : List Sym), winFreeS A cls z syms = true →
    winFree cls z (renderS v syms) = true := by
  intro syms
  induction syms with
  | nil => intro _; rfl
  | cons s syms ih =>
    intro h
    cases s with
    | ch d =>
      simp only [winFreeS, Bool.and_eq_true, bne_iff_ne, ne_eq] at h
      simp only [renderS, winFree, Bool.and_eq_true, bne_iff_ne, ne_eq]
      refine ⟨h.1, ?_⟩
      split
      · rename_i hc; simp only [hc, if_true] at h; exact ih h.2
      · rfl
    | fld n =>
      simp only [winFreeS, Bool.and_eq_true, Bool.not_eq_true'] at h
      simp only [renderS]
      exact winFree_field cls z (A n) h.1 _ _ (hv n) (ih h.2)

/-- a character the class excludes (for the classes defined by exclusion): a text drawn from an alphabet that
    does not contain it lies in the class -/
def clsExcl : CharClass → Option Char
  | .notComma => some ','
  | .any => some '\n'
  | .notRParen => some ')'
  | _ => none

theorem all_cls_of_alpha (cls : CharClass) (e : Char) (he : clsExcl cls = some e) (A : Char → Bool) (hA : A e = false) :
    ∀ (x : List Char), x.all A = true → x.all cls.mem = true := by
  intro x hx
  rw [List.all_eq_true] at hx ⊢
  intro c hc
  have hne : c ≠ e := fun h => by have := hx c hc; rw [h, hA] at this; cases this
  cases cls <;> simp only [clsExcl, Option.some.injEq, reduceCtorEq] at he <;> subst he <;>
    simpa [CharClass.mem] using hne

/-- the side condition as a check of the template: alphabets `A`, minimal lengths `N`, and the KNOWN text `tl`
    that follows the line (empty for a line of its own, `-deletion.` behind the score note of a deletion) -/
def sepOKS (A : String → Char → Bool) (N : String → Nat) (tl : List Char) : List OSeg → List Seg → Bool
  | [], [] => true
  | .lit _ :: o, .lit _ :: q => sepOKS A N tl o q
  | .fld n :: o, .fld _ cls lo :: q =>
    (match clsExcl cls with | some e => !A n e | none => false) && decide (lo ≤ N n)
      && (match q, flat o ++ tl.map Sym.ch with
          | .lit (.ch z :: _) :: _, .ch r0 :: rest => r0 == z && (!cls.mem z || winFreeS A cls z rest)
          | _, _ => false)
      && sepOKS A N tl o q
  | _, _ => false

theorem sepOK_of_sepOKS (A : String → Char → Bool) (N : String → Nat) (tl : List Char) (v : String → List Char)
    (hv : ∀ n, (v n).all (A n) = true) (hN : ∀ n, N n ≤ (v n).length) : ∀ (o : List OSeg) (q : List Seg),
    sepOKS A N tl o q = true → sepOK o q v tl = true := by
  intro o q
  fun_induction sepOKS A N tl o q with
  | case1 => intro _; rfl
  | case2 _ o _ q ih => intro h; simpa [sepOK] using ih h
  | case3 n o nm cls lo q ih =>
    intro h
    simp only [Bool.and_eq_true, decide_eq_true_eq] at h
    obtain ⟨⟨⟨hcls, hlo⟩, hm⟩, hr⟩ := h
    simp only [sepOK, Bool.and_eq_true, decide_eq_true_eq]
    refine ⟨⟨⟨?_, Nat.le_trans hlo (hN n)⟩, ?_⟩, ih hr⟩
    · split at hcls
      · rename_i e he
        simp only [Bool.not_eq_true'] at hcls
        exact all_cls_of_alpha cls e he (A n) hcls _ (hv n)
      · cases hcls
    · split at hm
      · rename_i z p q' r0 rest hflat
        simp only [Bool.and_eq_true, beq_iff_eq, Bool.or_eq_true, Bool.not_eq_true'] at hm
        obtain ⟨rfl, hw⟩ := hm
        have hren : render o v ++ tl = r0 :: renderS v rest := by
          rw [← renderS_flat, ← renderS_chars v tl, ← renderS_append, hflat]; rfl
        rw [hren]
        simp only [beq_self_eq_true, Bool.true_and, Bool.or_eq_true, Bool.not_eq_true']
        rcases hw with hw | hw
        · exact Or.inl hw
        · exact Or.inr (winFree_of_winFreeS A cls r0 v hv rest hw)
      · cases hm
  | case4 => intro h; cases h

end Model.Template
