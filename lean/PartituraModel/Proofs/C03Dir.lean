/-
C03 — the `<direction>` and `<sound tempo>` elements read back; what is needed to write a read `<direction>` again
(namespace `C03.Fix2`, continued in Proofs/C03Bar.lean and Proofs/C03PartList.lean).
-/
import PartituraModel.Model.XmlDir
import PartituraModel.Proofs.C03Text

namespace C03.Dir
open Model Model.XmlNote Model.XmlDir C03.Text

theorem staff_read (front : List Xml) (hfront : ∀ x ∈ front, x.tag = .directionType) (staff : Option Int) :
    tagInt (find .staff (front ++ dirStaffEl staff)) = some (if staff = some 1 then none else staff) := by
  unfold find
  rw [findall_append, findall_none [Tag.directionType] (fun x hx => by simp [hfront x hx]) (by decide)]
  cases staff with
  | none => simp [dirStaffEl, findall, tagInt]
  | some s =>
    by_cases h1 : s = 1
    · simp [dirStaffEl, h1, findall, tagInt]
    · simp [dirStaffEl, h1, findall, leaf, Xml.tag, tagInt, Xml.text, showIntC_ne_nil, parseIntC_showIntC]

theorem types_read (front : List Xml) (hfront : ∀ x ∈ front, x.tag = .directionType) (staff : Option Int) :
    findall .directionType (front ++ dirStaffEl staff) = front := by
  rw [findall_append, findall_all hfront]
  cases staff with
  | none => simp [dirStaffEl, findall]
  | some s => by_cases h1 : s = 1 <;> simp [dirStaffEl, h1, findall, leaf, Xml.tag]

theorem truthy_staff (staff : Option Int) :
    truthy (if staff = some 1 then none else staff) = if staff = some 1 then none else truthy staff := by
  split <;> simp [truthy]

theorem intOr_nat_one (k : Nat) : intOr (attrInt (.el t [(.number, natDigits k), (.type, typ)] [] []) .number) 1 =
    intOr (some (k : Int)) 1 := by
  rw [attrInt_number]

theorem readDir_el (as : List (Attr × Str)) (types : List (List Xml)) (staff : Option Int) :
    readDir (.el .direction as [] (types.map dirType ++ dirStaffEl staff)) =
      ((types.map dirType).mapM readDirType).map fun items =>
        { staff := if staff = some 1 then none else truthy staff, items := items } := by
  have hf : ∀ x ∈ types.map dirType, x.tag = Tag.directionType := fun x hx => by
    obtain ⟨_, _, rfl⟩ := List.mem_map.mp hx; rfl
  simp only [readDir, Xml.kids, staff_read _ hf, types_read _ hf, truthy_staff, Option.bind_eq_bind, Option.bind_some,
    Option.pure_def]
  cases (types.map dirType).mapM readDirType <;> rfl

theorem readDirType_dynamics (name : Str) :
    readDirType (dirType [.el .dynamics [] [] [empty (.other name)]]) = some (.dynamics [name]) := rfl

theorem readDirType_words (t : Str) (h : t ≠ []) : readDirType (dirType [leaf .words t]) = some (.words [t]) := by
  simp [readDirType, dirType, Xml.kids, Xml.tag, leaf, Xml.text, h]

theorem readDirType_wedge (k : Nat) (typ : Str) :
    readDirType (dirType [.el .wedge [(.number, natDigits k), (.type, typ)] [] []]) =
      if typ = sCresc then some (.wedgeStart true (intOr (some (k : Int)) 1))
      else if typ = sDim then some (.wedgeStart false (intOr (some (k : Int)) 1))
      else if typ = sStop then some (.wedgeStop (intOr (some (k : Int)) 1)) else some .wedgeOther := by
  simp only [readDirType, dirType, Xml.kids, Xml.tag, intOr_nat_one]
  simp [Xml.get, Xml.attrs, Model.lookup]

theorem readDirType_dashes (k : Nat) (typ : Str) :
    readDirType (dirType [.el .dashes [(.number, natDigits k), (.type, typ)] [] []]) =
      some (.dashes (if typ = sStart then .start else if typ = sStop then .stop else .other) (intOr (some (k : Int)) 1)) := by
  simp only [readDirType, dirType, Xml.kids, Xml.tag, intOr_nat_one, rangeType]
  simp [Xml.get, Xml.attrs, Model.lookup]

theorem readDirType_pedal (typ : Str) (rest : List (Attr × Str)) (h : Model.lookup Attr.number rest = none) :
    readDirType (dirType [.el .pedal ((.type, typ) :: rest) [] []]) =
      some (.pedal (if typ = sStart then .start else if typ = sStop then .stop else .other)
        (Model.lookup Attr.line rest == some sYes) 1) := by
  simp [readDirType, dirType, Xml.kids, Xml.tag, rangeType, Xml.get, Xml.attrs, Model.lookup, attrInt, intOr, h]

theorem digit_ne_dot (c : Char) (h : c.isDigit = true) : (c != '.') = true := Digits.of_isDigit h (by decide +kernel)

theorem stripZeros_id (fp : Str) (h : fp.getLast? ≠ some '0') : stripZeros fp = fp := by
  unfold stripZeros
  cases hr : fp.reverse with
  | nil => simp [List.reverse_eq_nil_iff.mp hr]
  | cons c r =>
    have hfp : fp = (c :: r).reverse := by rw [← hr, List.reverse_reverse]
    have hc : c ≠ '0' := by
      intro e
      apply h
      rw [hfp, e]
      simp
    have : (c == '0') = false := by simpa using hc
    simp only [List.dropWhile_cons, this]
    simp [hfp]

theorem parseTempo_text (t : TempoVal) (h : WellFormedTempo t) : parseTempo (tempoText t) = some t := by
  cases t with
  | whole n =>
    have hnd : ∀ c ∈ natDigits n, (c != '.') = true := fun c hc => digit_ne_dot c (Digits.natDigits_isDigit n c hc)
    simp only [tempoText, parseTempo, Lists.takeWhile_of_all hnd, Lists.dropWhile_of_all hnd,
      allDigits_natDigits, Digits.digitsToNat_natDigits]
    rfl
  | dec ip fp =>
    obtain ⟨hne, hdig, hlast⟩ := h
    have hdot : (fun (c : Char) => c != '.') '.' = false := by decide
    have hip : ∀ c ∈ natDigits ip, (c != '.') = true := fun c hc => digit_ne_dot c (Digits.natDigits_isDigit ip c hc)
    have htk := Lists.takeWhile_stop (r := fp) hip hdot
    have hdr := Lists.dropWhile_stop (r := fp) hip hdot
    simp only [tempoText, parseTempo, htk, hdr, allDigits_natDigits, Digits.digitsToNat_natDigits, hdig,
      stripZeros_id fp hlast]
    simp [hne]

theorem sound_roundtrip (t : TempoVal) (h : WellFormedTempo t) : readSound (writeSound t) = some (some t) := by
  unfold readSound writeSound
  simp only [Xml.get, Xml.attrs, Model.lookup, if_true, parseTempo_text t h, Option.map_some]

end C03.Dir

namespace C03.Fix2
open Model Model.XmlNote Model.XmlDir

theorem filterString_idem (s : Str) : filterString (filterString s) = filterString s := by
  unfold filterString
  rw [List.filter_filter]
  simp

theorem dirStaffEl_canon (staff : Option Int) (h : staff ≠ some 0) :
    dirStaffEl (if staff = some 1 then none else truthy staff) = dirStaffEl staff := by
  cases staff with
  | none => rfl
  | some s =>
    by_cases h1 : s = 1
    · subst h1; rfl
    · have h0 : s ≠ 0 := fun e => h (by rw [e])
      simp [h1, truthy, h0]

theorem intOr_toNat (k : Nat) (h : k ≠ 0) : (intOr (some (k : Int)) 1).toNat = k := by
  rw [C03.Text.intOr_ne_zero (Int.natCast_ne_zero.mpr h)]
  rfl

end C03.Fix2
