/-
C17, binary64 steps of ps13: the binary64 evaluation of compute_morphetic_pitch and of
p2pn's quotient agrees with the exact one on the whole MIDI range (kernel-evaluated tables), lifted to
stage 1; stage 1 in binary64 answers one spelling per row.
-/
import PartituraModel.Model.C17Float
import PartituraModel.Proofs.C17Window

namespace C17F
open Model Model.Ps13 Model.C17Float

/-- WHOLE table (chromatic pitches -21 .. 106, i.e. MIDI 0 .. 127, x 7 morphs): the binary64 evaluation, operation by
    operation, gives the exact value for the chroma plus 7 per octave.  The chroma is evaluated to a numeral first
    (`forceInt`), so that the kernel meets only the 84 distinct exact terms and reduces each of them once. -/
theorem float_table : ((List.range 128).all fun c => (List.range 7).all fun m =>
    morpheticPitchF ((c : Int) - 21) (m : Int) ==
      forceInt (((c : Int) - 21) % 12) (fun ch => morpheticPitch ch m) + 7 * (((c : Int) - 21) / 12)) = true := by
  decide +kernel

/-- WHOLE table: `np.floor(m_pitch / 7.0)` is the integer floor division for every morphetic pitch -42 .. 97 -/
theorem morphOctave_table' : ((List.range 140).all fun k =>
    morphOctave ((k : Int) - 42) == ((k : Int) - 42) / 7) = true := by
  decide +kernel

theorem morphOctave_table (k : Nat) (hk : k < 140) : morphOctave ((k : Int) - 42) = ((k : Int) - 42) / 7 := by
  have := morphOctave_table'
  rw [List.all_eq_true] at this
  simpa using this k (List.mem_range.mpr hk)

theorem morpheticPitchF_eq (cp : Int) (m : Nat) (h0 : -21 ≤ cp) (h1 : cp ≤ 106) (hm : m < 7) :
    morpheticPitchF cp (m : Int) = morpheticPitch cp (m : Int) := by
  have hf := float_table
  simp only [List.all_eq_true, List.mem_range, beq_iff_eq, forceInt_eq] at hf
  have := hf (cp + 21).toNat (by omega) m hm
  rwa [show (((cp + 21).toNat : Nat) : Int) - 21 = cp by omega, ← C17P.morpheticPitch_shift] at this

theorem morpheticPitch_range (cp : Int) (m : Nat) (h0 : -21 ≤ cp) (h1 : cp ≤ 106) (hm : m < 7) :
    -42 ≤ morpheticPitch cp (m : Int) ∧ morpheticPitch cp (m : Int) ≤ 97 := by
  unfold morpheticPitch morpheticPitchOf
  dsimp only
  generalize argBestNE _ _ _ = k
  have : -2 ≤ cp / 12 ∧ cp / 12 ≤ 8 := by omega
  -- whichever of the three candidate octaves is chosen, it is within one of `cp / 12`
  rcases (by omega : k = 0 ∨ k = 1 ∨ 2 ≤ k) with rfl | rfl | hk
  · rw [if_pos rfl]; omega
  · rw [if_neg (by decide), if_pos rfl]; omega
  · rw [if_neg (by omega), if_neg (by omega)]; omega

theorem p2pnF_eq (c mp : Int) (h0 : -42 ≤ mp) (h1 : mp ≤ 97) : p2pnF c mp = p2pn c mp := by
  have := morphOctave_table (mp + 42).toNat (by omega)
  have e : (((mp + 42).toNat : Nat) : Int) - 42 = mp := by omega
  simp only [e] at this
  simp only [p2pnF, p2pn, this]

theorem mem_morphArray (c0 : Nat) (ch : List Nat) (vecs : List CVec) (m : Nat) (h : m ∈ morphArray c0 ch vecs) :
    m < 7 := by
  unfold morphArray at h
  rw [List.mem_iff_getElem] at h
  obtain ⟨i, hi, rfl⟩ := h
  simp only [List.getElem_zipWith]
  exact C17P.morphOf_lt _ _ _

theorem zipWith_congr_mem {α β γ : Type} (f g : α → β → γ) : ∀ (l : List α) (r : List β),
    (∀ a ∈ l, ∀ b ∈ r, f a b = g a b) → List.zipWith f l r = List.zipWith g l r
  | [], _, _ => by simp
  | _ :: _, [], _ => by simp
  | a :: l, b :: r, h => by
    simp only [List.zipWith_cons_cons]
    rw [h a (by simp) b (by simp), zipWith_congr_mem f g l r (fun a' ha b' hb => h a' (by simp [ha]) b' (by simp [hb]))]

theorem stage1F_eq (a b : Nat) (sorted : List Row) (hr : ∀ r ∈ sorted, 0 ≤ r.2 ∧ r.2 ≤ 127) :
    stage1F a b sorted = stage1 a b sorted := by
  unfold stage1F stage1
  apply zipWith_congr_mem
  intro c hc m hm
  have hm7 := mem_morphArray _ _ _ m hm
  simp only [List.mem_map] at hc
  obtain ⟨r, hrm, rfl⟩ := hc
  have := hr r hrm
  rw [morpheticPitchF_eq _ m (by omega) (by omega) hm7]
  obtain ⟨l, u⟩ := morpheticPitch_range (r.2 - 21) m (by omega) (by omega) hm7
  exact p2pnF_eq _ _ l u

theorem stage1F_length (a b : Nat) (sorted : List Row) : (stage1F a b sorted).length = sorted.length := by
  simp only [stage1F, List.length_zipWith, C17P.morphArray_length, C17P.chromaVectors_length, List.length_map]
  omega

theorem ps13F_length (a b : Nat) (notes : List Row) (sp : List (String × Int × Int)) (h : ps13F a b notes = some sp) :
    notes ≠ [] ∧ sp.length = notes.length := by
  refine ⟨fun e => ?_, (C17P.wrap_spec _ (stage1F_length a b) notes sp h).1⟩
  rw [e] at h
  cases h

end C17F
