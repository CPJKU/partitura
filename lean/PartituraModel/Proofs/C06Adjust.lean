/-
`adjust_time` is the integral of the tempo map; under a constant tempo it is linear in the tick;
a time converted to the nearest tick and back is at most half a tick away.
-/
import PartituraModel.Model.PerfMidi
import PartituraModel.Proofs.Ticks
import PartituraModel.Proofs.Orders
import Mathlib.Tactic.Ring
import Mathlib.Tactic.Positivity

namespace C06Adjust
open Model Model.PerfMidi

/-- seconds per tick under tempo `mpq` -/
def unit (ppq mpq : Nat) : Rat := (mpq : Rat) / ((ppq : Rat) * 1000000)

/-- … which is the tick length of Proofs/Ticks.lean -/
theorem unit_eq (ppq mpq : Nat) : unit ppq mpq = (mpq : Rat) / (1000000 * ppq) := by rw [unit, mul_comm]

theorem unit_nonneg (ppq mpq : Nat) : 0 ≤ unit ppq mpq := by
  unfold unit; positivity

theorem unit_pos (ppq mpq : Nat) (hp : 0 < ppq) (hm : 0 < mpq) : 0 < unit ppq mpq :=
  unit_eq ppq mpq ▸ Ticks.tickLen_pos hm hp

/-- Σ over the tempo segments: the segment that starts at `cur.1` with tempo `cur.2` lasts until the next
    change (or for ever); the part of it before tick `k` counts -/
def integral (ppq : Nat) (k : Int) : Int × Nat → List (Int × Nat) → Rat
  | cur, [] => (max (k - cur.1) 0 : Int) * unit ppq cur.2
  | cur, nxt :: rest => (max (min k nxt.1 - cur.1) 0 : Int) * unit ppq cur.2 + integral ppq k nxt rest

/-- tempo changes in order of tick, none before `lo` (the shape of `C04T.Asc` and `C04Ed.SAsc` for the score's tables) -/
def SortedFrom (lo : Int) : List (Int × Nat) → Prop
  | [] => True
  | c :: rest => lo ≤ c.1 ∧ SortedFrom c.1 rest

theorem tickToSec_eq (d : Int) (mpq ppq : Nat) : tickToSec d mpq ppq = (d : Rat) * unit ppq mpq :=
  unit_eq ppq mpq ▸ Ticks.tickToSec_eq d mpq ppq

theorem integral_nonneg (ppq : Nat) (k : Int) (cur : Int × Nat) (rest : List (Int × Nat)) :
    0 ≤ integral ppq k cur rest := by
  induction rest generalizing cur with
  | nil => exact mul_nonneg (Int.cast_nonneg (le_max_right _ _)) (unit_nonneg _ _)
  | cons nxt rest ih =>
    exact add_nonneg (mul_nonneg (Int.cast_nonneg (le_max_right _ _)) (unit_nonneg _ _)) (ih nxt)

theorem integral_zero (ppq : Nat) (k : Int) (cur : Int × Nat) (rest : List (Int × Nat))
    (hk : k ≤ cur.1) (hs : SortedFrom cur.1 rest) : integral ppq k cur rest = 0 := by
  induction rest generalizing cur with
  | nil =>
    unfold integral
    rw [max_eq_right (sub_nonpos.mpr hk), Int.cast_zero, zero_mul]
  | cons nxt rest ih =>
    unfold integral
    rw [max_eq_right (sub_nonpos.mpr ((min_le_left _ _).trans hk)), ih nxt (hk.trans hs.1) hs.2, Int.cast_zero,
      zero_mul, add_zero]

/-- the loop of `adjust_time`, started inside the segment (`lastTick ≤ tick`), adds the integral -/
theorem adjustLoop_eq (ppq : Nat) (k : Int) (time : Rat) (lt : Int) (lm : Nat) (tc : List (Int × Nat))
    (hk : lt ≤ k) (hs : SortedFrom lt tc) :
    adjustLoop k ppq time lt lm tc = time + integral ppq k (lt, lm) tc := by
  induction tc generalizing time lt lm with
  | nil =>
    unfold adjustLoop integral
    rw [max_eq_left (sub_nonneg.mpr hk)]
    rfl
  | cons c rest ih =>
    obtain ⟨ct, m⟩ := c
    obtain ⟨h1, h2⟩ := hs
    unfold adjustLoop integral
    split
    · rename_i hlt
      rw [integral_zero ppq k (ct, m) rest hlt.le h2, add_zero, min_eq_left hlt.le, max_eq_left (sub_nonneg.mpr hk)]
      rfl
    · rename_i hge
      rw [ih _ ct m (not_lt.mp hge) h2, tickToSec_eq, min_eq_right (not_lt.mp hge), max_eq_left (sub_nonneg.mpr h1),
        add_assoc]

theorem integral_mono (ppq : Nat) (a b : Int) (hab : a ≤ b) (cur : Int × Nat) (rest : List (Int × Nat)) :
    integral ppq a cur rest ≤ integral ppq b cur rest := by
  induction rest generalizing cur with
  | nil =>
    exact mul_le_mul_of_nonneg_right (Int.cast_le.mpr (max_le_max (sub_le_sub_right hab _) le_rfl)) (unit_nonneg _ _)
  | cons nxt rest ih =>
    exact add_le_add (mul_le_mul_of_nonneg_right
      (Int.cast_le.mpr (max_le_max (sub_le_sub_right (min_le_min_right _ hab) _) le_rfl)) (unit_nonneg _ _)) (ih nxt)

def AllPos (l : List (Int × Nat)) : Prop := ∀ c ∈ l, 0 < c.2

theorem integral_strictMono (ppq : Nat) (hp : 0 < ppq) (a b : Int) (hab : a < b)
    (cur : Int × Nat) (rest : List (Int × Nat)) (hcur : cur.1 ≤ a) (hm : 0 < cur.2)
    (hs : SortedFrom cur.1 rest) (hpos : AllPos rest) :
    integral ppq a cur rest < integral ppq b cur rest := by
  induction rest generalizing cur with
  | nil =>
    unfold integral
    rw [max_eq_left (sub_nonneg.mpr hcur), max_eq_left (sub_nonneg.mpr (hcur.trans hab.le))]
    exact mul_lt_mul_of_pos_right (Int.cast_lt.mpr (sub_lt_sub_right hab _)) (unit_pos _ _ hp hm)
  | cons nxt rest ih =>
    obtain ⟨h1, h2⟩ := hs
    unfold integral
    by_cases hn : nxt.1 ≤ a
    · -- both are past the next change: the first terms agree
      rw [min_eq_right hn, min_eq_right (hn.trans hab.le)]
      exact (add_lt_add_iff_left _).mpr (ih nxt hn (hpos nxt List.mem_cons_self) h2 fun c hc => hpos c (List.mem_cons_of_mem _ hc))
    · -- `a` is inside the current segment
      rw [integral_zero ppq a nxt rest (not_le.mp hn).le h2, add_zero, min_eq_left (not_le.mp hn).le,
        max_eq_left (sub_nonneg.mpr hcur)]
      refine lt_add_of_lt_of_nonneg (mul_lt_mul_of_pos_right (Int.cast_lt.mpr ?_) (unit_pos _ _ hp hm))
        (integral_nonneg ppq b nxt rest)
      exact lt_of_lt_of_le (sub_lt_sub_right (lt_min hab (not_le.mp hn)) _) (le_max_left _ _)

theorem adjustTime_eq (ppq : Nat) (k : Int) (t0 : Int) (m0 : Nat) (rest : List (Int × Nat))
    (hk : 0 ≤ k) (hs : SortedFrom 0 ((t0, m0) :: rest)) :
    adjustTime k ((t0, m0) :: rest) ppq = some (integral ppq k (0, m0) ((t0, m0) :: rest)) := by
  unfold adjustTime
  simp only
  rw [adjustLoop_eq ppq k 0 0 m0 _ hk hs, zero_add]

theorem sortedFrom_of_pairwise (lo : Int) (l : List (Int × Nat))
    (hlo : ∀ c ∈ l, lo ≤ c.1) (h : l.Pairwise (fun a b => tempoLe a b = true)) : SortedFrom lo l := by
  induction l generalizing lo with
  | nil => trivial
  | cons c rest ih =>
    rw [List.pairwise_cons] at h
    refine ⟨hlo c (List.mem_cons_self), ih c.1 ?_ h.2⟩
    intro d hd
    have := h.1 d hd
    simpa [tempoLe] using this

theorem tempoLe_order : Lists.TotalPreorder tempoLe := .of_key Prod.fst

end C06Adjust

-- what Props/C06Regen.lean (a loaded performance saved again) takes from here: seconds under a constant tempo, and the
-- half tick of the exporter's rounding
namespace C06Regen
open Model Model.PerfMidi C06Adjust

theorem adjustLoop_const (ppq : Nat) (k : Int) (time : Rat) (lt : Int) (m : Nat) (tc : List (Int × Nat))
    (h : ∀ c ∈ tc, c.2 = m) : adjustLoop k ppq time lt m tc = time + ((k - lt : Int) : Rat) * unit ppq m := by
  induction tc generalizing time lt with
  | nil => unfold adjustLoop; rfl
  | cons c rest ih =>
    obtain ⟨ct, m'⟩ := c
    have hm : m' = m := h (ct, m') List.mem_cons_self
    subst hm
    unfold adjustLoop
    split
    · rfl
    · rw [ih _ _ (fun c hc => h c (List.mem_cons_of_mem _ hc)), tickToSec_eq]
      push_cast
      ring

theorem half_tick (mpq ppq : Nat) (hm : 0 < mpq) (hp : 0 < ppq) (t : Rat) :
    |tickToSec (quant mpq ppq t) mpq ppq - t| ≤ (mpq : Rat) / (2 * 1000000 * ppq) :=
  Ticks.tickToSec_secToTick_close t mpq ppq hm hp

end C06Regen
