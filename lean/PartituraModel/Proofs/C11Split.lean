/-
C11 — soundness of the breadth-first split search `findTieSplit` (Model/Durations.lean).
-/
import PartituraModel.Proofs.C11Dur

namespace C11Split
open Model Model.Dur Gen C11Dur

/-- the pieces tile `[s, e)`: consecutive, each non-empty -/
def Tiles : Nat → Nat → List Piece → Prop
  | s, e, [] => s = e
  | s, e, (l, r, _) :: rest => l = s ∧ l < r ∧ Tiles r e rest

theorem tiles_cons (s e l r : Nat) (x : Est) (rest : List Piece) :
    Tiles s e ((l, r, x) :: rest) ↔ l = s ∧ l < r ∧ Tiles r e rest := Iff.rfl

theorem search_found (success : List Nat → Bool) (expand : List Nat → List (List Nat)) (P : List Nat → Prop)
    (hexp : ∀ st, P st → ∀ st' ∈ expand st, P st') :
    ∀ (fuel : Nat) (queue : List (List Nat)) (st : List Nat), (∀ q ∈ queue, P q) →
      search success expand fuel queue = .found st → P st ∧ success st = true := by
  intro fuel
  induction fuel with
  | zero => intro queue st _ h; simp [search] at h
  | succ f ih =>
    intro queue st hq h
    cases queue with
    | nil => simp [search] at h
    | cons q rest =>
      unfold search at h
      split at h
      · rename_i hs
        simp only [Outcome.found.injEq] at h
        subst h
        exact ⟨hq _ (List.mem_cons_self), hs⟩
      · apply ih (rest ++ expand q) st _ h
        intro x hx
        rcases List.mem_append.mp hx with hx | hx
        · exact hq _ (List.mem_cons_of_mem _ hx)
        · exact hexp q (hq _ (List.mem_cons_self)) x hx

theorem expand_length (start stop unit maxSplits : Nat) (st : List Nat) :
    ∀ st' ∈ splitExpand start stop unit maxSplits st, st'.length ≤ maxSplits := by
  intro st' h
  unfold splitExpand at h
  split at h
  · simp at h
  · rename_i hlt
    simp only at h
    have := (List.mem_filter.mp h).1
    obtain ⟨s, _, rfl⟩ := List.mem_map.mp this
    simp only [List.length_append, List.length_cons, List.length_nil]
    omega

/-- what one piece of an accepted state looks like -/
def pieceOf (divs : Nat) (p : Nat × Nat) : Piece :=
  (p.1, p.2, (estimate ((p.2 : Rat) - (p.1 : Rat)) divs false).getD .empty)

def PieceOK (divs : Nat) (p : Piece) : Prop :=
  ∃ sd, p.2.2 = .single sd ∧ symbolicToNumeric sd divs = some ((p.2.1 - p.1 : Nat) : Rat)

theorem piece_ok (divs l r : Nat)
    (h : (match estimate ((r : Rat) - (l : Rat)) divs false with | some e => e.truthy | none => false) = true) :
    l < r ∧ PieceOK divs (pieceOf divs (l, r)) := by
  split at h
  · rename_i e he
    obtain ⟨⟨sd, rfl⟩, hpos⟩ := estimate_truthy _ _ _ he h
    have hlr : l < r := by
      have : (l : Rat) < r := by linarith
      exact_mod_cast this
    refine ⟨hlr, sd, ?_, ?_⟩
    · simp [pieceOf, he]
    · have hc : ((r : Rat) - (l : Rat)) = ((r - l : Nat) : Rat) := by
        rw [Nat.cast_sub (le_of_lt hlr)]
      rw [hc] at he
      exact single_back _ _ _ _ he
  · simp at h

theorem splitSuccess_nil (a b divs : Nat) : splitSuccess a b divs [] =
    ((match estimate ((b : Rat) - (a : Rat)) divs false with | some e => e.truthy | none => false) && true) := rfl

theorem splitSuccess_cons (a b divs x : Nat) (xs : List Nat) : splitSuccess a b divs (x :: xs) =
    ((match estimate ((x : Rat) - (a : Rat)) divs false with | some e => e.truthy | none => false) &&
      splitSuccess x b divs xs) := rfl

theorem pieces_sound (divs : Nat) : ∀ (mid : List Nat) (a b : Nat),
    splitSuccess a b divs mid = true →
    Tiles a b ((pairs (a :: mid ++ [b])).map (pieceOf divs)) ∧
    ((pairs (a :: mid ++ [b])).map (pieceOf divs)).length = mid.length + 1 ∧
    ∀ p ∈ (pairs (a :: mid ++ [b])).map (pieceOf divs), PieceOK divs p := by
  intro mid
  induction mid with
  | nil =>
    intro a b h
    rw [splitSuccess_nil, Bool.and_true] at h
    obtain ⟨hlt, hok⟩ := piece_ok divs a b h
    show Tiles a b [pieceOf divs (a, b)] ∧ _
    refine ⟨(tiles_cons ..).mpr ⟨rfl, hlt, rfl⟩, rfl, fun p hp => ?_⟩
    cases List.mem_singleton.mp hp; exact hok
  | cons x xs ih =>
    intro a b h
    rw [splitSuccess_cons, Bool.and_eq_true] at h
    obtain ⟨hlt, hok⟩ := piece_ok divs a x h.1
    obtain ⟨t, len, ok⟩ := ih x b h.2
    rw [show pairs (a :: (x :: xs) ++ [b]) = (a, x) :: pairs (x :: xs ++ [b]) from rfl, List.map_cons]
    refine ⟨(tiles_cons ..).mpr ⟨rfl, hlt, t⟩, by simp only [List.length_cons]; omega, fun p hp => ?_⟩
    rcases List.mem_cons.mp hp with rfl | hp
    · exact hok
    · exact ok p hp

end C11Split
