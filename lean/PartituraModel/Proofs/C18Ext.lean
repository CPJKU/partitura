/-
C18 — lemmas about Model/CodecX.lean: the tempo curves on any good grouping (`unique_onset_idxs`), sampled at any
`input_onsets`; the assignments of `onsetwise_to_notewise`; `get_unique_onset_idxs` for any `eps`.
-/
import PartituraModel.Model.CodecX
import PartituraModel.Proofs.C18Decode
import PartituraModel.Proofs.Previous

namespace C18P
open Model Model.Codec

/-- `holdAt` walks along the knots at or before `q` and answers the value of the last one -/
theorem holdAt_scan (q : Rat) :
    Lists.IsPrevScan (fun k : Rat × Rat => k.1 ≤ q) (·.2) fun y ks => holdAt ks y q :=
  ⟨fun _ => rfl, fun _ _ _ => rfl⟩

theorem holdAt_head_gt (ks : List (Rat × Rat)) (y q : Rat) (h : ∀ k ∈ ks.head?, q < k.1) : holdAt ks y q = y :=
  (holdAt_scan q).of_head_neg y fun k hk => not_le.mpr (h k hk)

theorem holdAt_knot (ks : List (Rat × Rat)) (hx : IncX ks) (x y y' : Rat) (hm : (x, y) ∈ ks) :
    holdAt ks y' x = y := by
  obtain ⟨pre, post, rfl⟩ := List.append_of_mem hm
  obtain ⟨_, hpost, hpre⟩ := List.pairwise_append.mp hx
  exact (holdAt_scan x).cut y' (fun a ha => (hpre a ha (x, y) List.mem_cons_self).le) (le_refl x)
    fun b hb => not_le.mpr (List.rel_of_pairwise_cons hpost (List.mem_of_mem_head? hb))

theorem holdAt_mem (ks : List (Rat × Rat)) (y q : Rat) : holdAt ks y q = y ∨ holdAt ks y q ∈ ks.map (·.2) := by
  rcases (holdAt_scan q).mem y ks with h | ⟨a, ha, _, h⟩
  · exact Or.inl h
  · exact Or.inr (h ▸ List.mem_map_of_mem ha)

theorem le_lastX (x0 : Rat) (ks : List (Rat × Rat)) (y0 : Rat) (hx : IncX ((x0, y0) :: ks)) :
    ∀ k ∈ (x0, y0) :: ks, k.1 ≤ lastX x0 ks := by
  induction ks generalizing x0 y0 with
  | nil => intro k hk; simp at hk; subst hk; simp [lastX]
  | cons k1 rest ih =>
    obtain ⟨x1, y1⟩ := k1
    have hx' := List.pairwise_cons.mp hx
    intro k hk
    simp only [lastX]
    have h1 := ih x1 y1 hx'.2
    rcases List.mem_cons.mp hk with rfl | hk
    · have : x0 < x1 := hx'.1 (x1, y1) (by simp)
      have := h1 (x1, y1) (by simp)
      simp only at *
      linarith
    · exact h1 k hk

theorem zeroHold_knot (ks : List (Rat × Rat)) (hx : IncX ks) (lo hi x y : Rat) (hm : (x, y) ∈ ks) :
    zeroHold ks lo hi x = some y := by
  unfold zeroHold
  rw [sortKnots_of_incX ks hx]
  cases ks with
  | nil => simp at hm
  | cons k0 rest =>
    obtain ⟨x0, y0⟩ := k0
    cases rest with
    | nil =>
      simp only [List.mem_singleton, Prod.mk.injEq] at hm
      simp [hm.2]
    | cons k1 rest =>
      simp only
      have hx' := List.pairwise_cons.mp hx
      have hle := le_lastX x0 (k1 :: rest) y0 hx (x, y) hm
      simp only at hle
      rcases List.mem_cons.mp hm with h | h
      · simp only [Prod.mk.injEq] at h
        obtain ⟨rfl, rfl⟩ := h
        rw [if_neg (lt_irrefl _), if_neg (not_lt.mpr hle)]
        congr 1
        apply holdAt_head_gt
        intro k hk
        simp only [List.head?_cons, Option.mem_def, Option.some.injEq] at hk
        subst hk
        exact hx'.1 _ (by simp)
      · have hlt : x0 < x := hx'.1 (x, y) h
        rw [if_neg (not_lt.mpr (le_of_lt hlt)), if_neg (not_lt.mpr hle)]
        congr 1
        exact holdAt_knot _ hx'.2 x y y0 h

theorem zeroHold_range (ks : List (Rat × Rat)) (hne : ks ≠ []) (lo hi q : Rat) :
    ∃ v, zeroHold ks lo hi q = some v ∧ (v = lo ∨ v = hi ∨ v ∈ ks.map (·.2)) := by
  unfold zeroHold
  have hperm : (sortKnots ks).Perm ks := (isSort _).perm ks
  have hmem : ∀ v, v ∈ (sortKnots ks).map (·.2) → v ∈ ks.map (·.2) := by
    intro v hv
    exact (hperm.map _).mem_iff.mp hv
  cases hs : sortKnots ks with
  | nil =>
    rw [hs] at hperm
    exact absurd hperm.symm.eq_nil hne
  | cons k0 rest =>
    obtain ⟨x0, y0⟩ := k0
    rw [hs] at hmem
    cases rest with
    | nil => exact ⟨y0, rfl, Or.inr (Or.inr (hmem y0 (by simp)))⟩
    | cons k1 rest =>
      simp only
      split
      · exact ⟨lo, rfl, Or.inl rfl⟩
      · split
        · exact ⟨hi, rfl, Or.inr (Or.inl rfl)⟩
        · refine ⟨_, rfl, Or.inr (Or.inr ?_)⟩
          rcases holdAt_mem (k1 :: rest) y0 q with h | h
          · rw [h]; exact hmem y0 (by simp)
          · apply hmem
            simp only [List.map_cons, List.mem_cons] at h ⊢
            right; exact h

theorem tempoSeqs_xs (ns : List MNote) (gs : List (Grp MNote)) (xs ss mono : List Rat)
    (h : tempoSeqs ns gs = some (xs, ss, mono)) : ∃ ls, xs = groupMeans (·.so) gs ++ [ls] := by
  unfold tempoSeqs at h
  split at h
  · rename_i ls lp _ _
    simp only at h
    split at h
    · simp only [Option.some.injEq, Prod.mk.injEq] at h
      exact ⟨ls, h.1.symm⟩
    · simp at h
  · simp at h

theorem forall₂_zeroHold_knots (xs ys : List Rat) (lo hi : Rat) (hx : xs.Pairwise (· < ·)) (hlen : xs.length = ys.length) :
    List.Forall₂ (fun x y => zeroHold (xs.zip ys) lo hi x = some y) xs ys :=
  List.forall₂_iff_zip.mpr ⟨hlen, fun h => zeroHold_knot _ (zip_incX _ _ hx) lo hi _ _ h⟩

theorem exists_head_getLast {α : Type} (l : List α) (h : l ≠ []) :
    ∃ a b, l.head? = some a ∧ l.getLast? = some b ∧ a ∈ l ∧ b ∈ l := by
  obtain ⟨a, t, rfl⟩ := List.exists_cons_of_ne_nil h
  exact ⟨a, (a :: t).getLast h, rfl, List.getLast?_eq_some_getLast h, List.mem_cons_self, List.getLast_mem h⟩

variable {ns : List MNote} {gs : List (Grp MNote)}

/-- `tempo_by_average` on a good grouping, sampled at `input_onsets`: the zero-order interpolator through (unique
    score onset, beat period), with the first and the last beat period as fill values -/
theorem tempoAverageAt_eq (hg : GoodGroups ns gs) (hsd : ∀ x ∈ ns, 0 ≤ x.sd) (hpd : ∀ x ∈ ns, 0 ≤ x.pd)
    (inputs : Option (List Rat)) :
    ∃ bp b0 bl, tempoAverage ns gs = some bp ∧ bp.length = gs.length ∧ (∀ b ∈ bp, 0 < b) ∧ b0 ∈ bp ∧ bl ∈ bp ∧
      tempoAverageAt ns gs inputs = allSome ((inputs.getD (groupMeans (·.so) gs)).map
        (zeroHold ((groupMeans (·.so) gs).zip bp) b0 bl)) := by
  obtain ⟨ls, ss, mono, bp, h1, hb, hl, hpos⟩ := tempoAverage_data hg hsd hpd
  have hbne : bp ≠ [] := fun h0 => hg.ne (List.length_eq_zero_iff.mp (by rw [← hl, h0]; rfl))
  obtain ⟨b0, bl, hb0, hbl, hm0, hml⟩ := exists_head_getLast bp hbne
  refine ⟨bp, b0, bl, by unfold tempoAverage; rw [h1, hb], hl, hpos, hm0, hml, ?_⟩
  unfold tempoAverageAt
  rw [h1]
  simp only [← hb, hb0, hbl, List.dropLast_concat]

/-- without `input_onsets` the zero-order interpolator is evaluated at its own knots and returns the beat periods -/
theorem tempoAverageAt_none (hg : GoodGroups ns gs) (hsd : ∀ x ∈ ns, 0 ≤ x.sd) (hpd : ∀ x ∈ ns, 0 ≤ x.pd) :
    ∃ bp, tempoAverageAt ns gs none = some bp ∧ tempoAverage ns gs = some bp ∧ bp.length = gs.length ∧ ∀ b ∈ bp, 0 < b := by
  obtain ⟨bp, b0, bl, h1, hl, hpos, _, _, h⟩ := tempoAverageAt_eq hg hsd hpd none
  refine ⟨bp, ?_, h1, hl, hpos⟩
  rw [h]
  exact (allSome_map_eq_some_iff _ _ _).mpr
    (forall₂_zeroHold_knots _ bp b0 bl hg.inc (by rw [groupMeans_length, hl]))

theorem tempoAverageAt_pos (hg : GoodGroups ns gs) (hsd : ∀ x ∈ ns, 0 ≤ x.sd) (hpd : ∀ x ∈ ns, 0 ≤ x.pd)
    (inputs : List Rat) :
    ∃ out, tempoAverageAt ns gs (some inputs) = some out ∧ out.length = inputs.length ∧ ∀ b ∈ out, 0 < b := by
  obtain ⟨bp, b0, bl, _, hl, hpos, hm0, hml, h⟩ := tempoAverageAt_eq hg hsd hpd (some inputs)
  rw [h]
  have hzne : (groupMeans (·.so) gs).zip bp ≠ [] := by
    intro h0
    have := congrArg List.length h0
    rw [List.length_zip, groupMeans_length, hl, Nat.min_self] at this
    exact hg.ne (List.length_eq_zero_iff.mp this)
  apply allSome_map_pos
  intro x
  obtain ⟨v, hv, hcase⟩ := zeroHold_range _ hzne b0 bl x
  refine ⟨v, hv, ?_⟩
  rcases hcase with rfl | rfl | hm
  · exact hpos _ hm0
  · exact hpos _ hml
  · obtain ⟨k, hk, rfl⟩ := List.mem_map.mp hm
    exact hpos _ (List.of_mem_zip hk).2

theorem tempoDerivativeAt_pos (hg : GoodGroups ns gs) (hsd : ∀ x ∈ ns, 0 ≤ x.sd) (hpd : ∀ x ∈ ns, 0 ≤ x.pd)
    (inputs : Option (List Rat)) :
    ∃ out, tempoDerivativeAt ns gs inputs = some out ∧
      out.length = (inputs.getD (groupMeans (·.so) gs)).length ∧ ∀ b ∈ out, 0 < b := by
  obtain ⟨ls, ss, mono, h1, h3, h4, h5⟩ := tempoSeqs_spec hg hsd hpd
  have hl : (groupMeans (·.so) gs ++ [ls]).length = gs.length + 1 := by
    rw [List.length_append, groupMeans_length]; rfl
  obtain ⟨bp, hb⟩ := derivative_samples_pos _ mono h3 h4 (h5.trans hl.symm)
    (by have := List.length_pos_iff.mpr hg.ne; omega) (inputs.getD (groupMeans (·.so) gs))
  refine ⟨bp, ?_, hb.2⟩
  unfold tempoDerivativeAt
  rw [h1]
  simp only [List.dropLast_concat]
  exact hb.1

theorem pickGroups_mem {α : Type} (ns : List α) (idx : List (List Nat)) (gs : List (Grp α))
    (h : pickGroups ns idx = some gs) : ∀ g ∈ gs, ∀ p ∈ g, p.2 ∈ ns ∧ ns[p.1]? = some p.2 := by
  intro g hg p hp
  obtain ⟨i, _, hi⟩ := allSome_map_mem _ idx gs h g hg
  obtain ⟨k, _, hk⟩ := allSome_map_mem _ i g hi p hp
  obtain ⟨x, hx, rfl⟩ := Option.map_eq_some_iff.mp hk
  exact ⟨List.mem_of_getElem? hx, hx⟩

theorem arange_length (n : Nat) : (arange n).length = n := by simp [arange]

theorem arange_strict (n : Nat) : (arange n).Pairwise (· < ·) := by
  unfold arange
  rw [List.pairwise_map]
  refine List.Pairwise.imp ?_ (List.pairwise_lt_range (n := n))
  intro a b h
  exact_mod_cast h

theorem zip4_length (a b c d : List Rat) (h1 : a.length = b.length) (h2 : a.length = c.length) (h3 : a.length = d.length) :
    (zip4 a b c d).length = a.length := by
  induction a generalizing b c d with
  | nil => simp [zip4]
  | cons x xs ih =>
    cases b with
    | nil => exact absurd h1 (Nat.succ_ne_zero _)
    | cons y ys =>
      cases c with
      | nil => exact absurd h2 (Nat.succ_ne_zero _)
      | cons z zs =>
        cases d with
        | nil => exact absurd h3 (Nat.succ_ne_zero _)
        | cons u us =>
          simp only [zip4, List.length_cons, Nat.add_right_cancel_iff]
          exact ih ys zs us (Nat.succ.inj h1) (Nat.succ.inj h2) (Nat.succ.inj h3)

theorem zipWith4_eq_map_zip {α β γ δ ε : Type} (f : α → β → γ → δ → ε) (as : List α) (bs : List β) (cs : List γ) (ds : List δ) :
    zipWith4 f as bs cs ds = (as.zip (bs.zip (cs.zip ds))).map fun t => f t.1 t.2.1 t.2.2.1 t.2.2.2 := by
  induction as generalizing bs cs ds with
  | nil => simp [zipWith4]
  | cons a as ih =>
    cases bs with
    | nil => simp [zipWith4]
    | cons b bs =>
      cases cs with
      | nil => simp [zipWith4]
      | cons c cs =>
        cases ds with
        | nil => simp [zipWith4]
        | cons d ds => simp [zipWith4, ih]

theorem map_zipWith4 {α β γ δ ε ζ : Type} (f : α → β → γ → δ → ε) (g : ε → ζ) (h : α → β → γ → ζ)
    (hfg : ∀ a b c d, g (f a b c d) = h a b c) (as : List α) (bs : List β) (cs : List γ) (ds : List δ)
    (hl : cs.length ≤ ds.length) : (zipWith4 f as bs cs ds).map g = zipWith3 h as bs cs := by
  rw [zipWith4_eq_map_zip, zipWith3_eq_map_zip, List.map_map]
  conv_rhs => rw [← List.map_fst_zip hl, List.zip_map_right, List.zip_map_right, List.map_map]
  exact List.map_congr_left fun t _ => hfg ..

theorem zipWith4_enumFrom {α β γ δ ε : Type} (f : α → β → γ → δ → ε) (i : Nat) (as : List α) (bs : List β)
    (cs : List γ) (ds : List δ) :
    zipWith4 (fun a b c (s : Nat × δ) => f a b c s.2) as bs cs (enumFrom i ds) = zipWith4 f as bs cs ds := by
  rw [zipWith4_eq_map_zip, zipWith4_eq_map_zip]
  conv_rhs => rw [← enumFrom_map_snd i ds, List.zip_map_right, List.zip_map_right, List.zip_map_right, List.map_map]
  rfl

theorem alignment_pairs_eq (ids : List String) (info : List SRow)
    (h : List.Forall₂ (fun id (s : SRow) => s.id = id) ids info)
    (f : String → Rat × Rat → ParamRow → Nat × SRow → DNote) (hf : ∀ a b c d, (f a b c d).1 = a)
    (od : List (Rat × Rat)) (ps : List ParamRow) (order : List (Nat × SRow)) :
    ∀ p ∈ List.zipWith (fun (s : SRow) (d : DNote) => (s.id, d.1)) info (zipWith4 f ids od ps order), p.1 = p.2 := by
  intro p hp
  rw [zipWith4_eq_map_zip] at hp
  obtain ⟨k, hk, rfl⟩ := List.mem_iff_getElem.mp hp
  simp only [List.length_zipWith, List.length_map, List.length_zip] at hk
  simp only [List.getElem_zipWith, List.getElem_map, List.getElem_zip, hf]
  exact (List.forall₂_iff_get.mp h).2 k (by omega) (by omega)

theorem clipPitch_id (p : Int) (h1 : 1 ≤ p) (h2 : p ≤ 127) : clipPitch p = p := by
  unfold clipPitch clipInt
  rw [if_neg (by omega), if_neg (by omega)]

theorem clipPitch_range (p : Int) : 1 ≤ clipPitch p ∧ clipPitch p ≤ 127 := by
  unfold clipPitch clipInt
  split
  · omega
  · split <;> omega

theorem matchedWidthOk_true (mk arr : Bool) (fs : List String) : matchedWidthOk mk arr fs = true := by
  unfold matchedWidthOk rowWidth matchedFieldNames baseFields
  cases mk <;> cases arr <;> simp
  omega

/-- the assignments of `onsetwise_to_notewise`, group by group -/
def asgOf (gs : List (List Nat)) (w : List Rat) : List (Nat × Rat) :=
  ((gs.zip w).map fun t => t.1.map fun i => (i, t.2)).flatten

theorem assignments_eq (w : List Rat) (gs : List (List Nat)) (hlen : w.length = gs.length) :
    assignments w gs = some (asgOf gs w) := by
  induction gs generalizing w with
  | nil => cases w <;> simp [assignments, asgOf]
  | cons g gs ih =>
    cases w with
    | nil => exact absurd hlen (Nat.succ_ne_zero _).symm
    | cons x ws =>
      simp only [assignments, ih ws (Nat.succ.inj hlen), Option.map_some, asgOf, List.zip_cons_cons, List.map_cons,
        List.flatten_cons]

theorem asgOf_fst (gs : List (List Nat)) (w : List Rat) (hlen : w.length = gs.length) :
    (asgOf gs w).map Prod.fst = gs.flatten := by
  rw [asgOf, List.map_flatten, List.map_map]
  conv_rhs => rw [← List.map_fst_zip (l₁ := gs) (l₂ := w) hlen.ge]
  congr 1
  exact List.map_congr_left fun t _ => by simp [Function.comp_def]

theorem asgOf_groups (gs : List (List Nat)) (w : List Rat) (hlen : w.length = gs.length) :
    List.Forall₂ (fun g x => ∀ i ∈ g, (i, x) ∈ asgOf gs w) gs w :=
  List.forall₂_iff_zip.mpr ⟨hlen.symm, fun {g x} h i hi =>
    List.mem_flatten.mpr ⟨_, List.mem_map.mpr ⟨(g, x), h, rfl⟩, List.mem_map.mpr ⟨i, hi, rfl⟩⟩⟩

/-- `onsetwise_to_notewise` on a partition of the cells `0 … n-1`: every cell of a group holds the group's value -/
theorem toNotewise_spec (n : Nat) (gs : List (List Nat)) (w : List Rat) (hperm : gs.flatten.Perm (List.range n))
    (hlen : w.length = gs.length) :
    ∃ v, toNotewise w gs = some v ∧ v.length = n ∧ List.Forall₂ (fun g x => ∀ i ∈ g, v[i]? = some x) gs w := by
  have hn : (gs.map List.length).sum = n := by
    rw [← List.length_flatten, hperm.length_eq, List.length_range]
  have hkeys := asgOf_fst gs w hlen
  -- no cell is assigned twice, so the order of the assignments does not matter
  have hnd : ((asgOf gs w).reverse.map Prod.fst).Nodup := by
    rw [List.map_reverse, List.nodup_reverse, hkeys]
    exact hperm.nodup_iff.mpr List.nodup_range
  have hlt : ∀ p ∈ asgOf gs w, p.1 < n := fun p hp =>
    List.mem_range.mp (hperm.mem_iff.mp (hkeys ▸ List.mem_map.mpr ⟨p, hp, rfl⟩))
  refine ⟨(List.range n).map fun i => (lookup i (asgOf gs w).reverse).getD 0, ?_, by simp, ?_⟩
  · unfold toNotewise
    rw [assignments_eq w gs hlen, hn]
    exact if_pos (List.all_eq_true.mpr fun p hp => by simpa using hlt p hp)
  · refine (asgOf_groups gs w hlen).imp fun g x h i hi => ?_
    rw [List.getElem?_map, List.getElem?_range (hlt (i, x) (h i hi)), Option.map_some,
      Model.lookup_of_mem hnd (List.mem_reverse.mpr (h i hi))]
    rfl

/-- `notewise_to_onsetwise` of a vector that is constant on every (non-empty) group: the constants -/
theorem toOnsetwise_const (v : List Rat) {gs : List (List Nat)} {w : List Rat}
    (h : List.Forall₂ (fun g x => ∀ i ∈ g, v[i]? = some x) gs w) (hne : ∀ g ∈ gs, g ≠ []) :
    toOnsetwise v gs = some w := by
  unfold toOnsetwise
  rw [allSome_eq_some]
  induction h with
  | nil => rfl
  | @cons g x gs w hg _ ih =>
    have hget : getAll v g = some (g.map fun _ => x) := by
      unfold getAll
      rw [allSome_eq_some, List.map_map]
      exact List.map_congr_left hg
    obtain ⟨a, t, rfl⟩ := List.exists_cons_of_ne_nil (hne g List.mem_cons_self)
    rw [List.map_cons, List.map_cons, ih fun g' hg' => hne g' (List.mem_cons_of_mem _ hg'), hget]
    simp only [Option.bind_some, List.map_cons]
    rw [← List.map_cons (f := fun _ => x), mean_const (a :: t) x (List.cons_ne_nil _ _)]

theorem groupsByEps_spec {α : Type} (e : Rat) (he : 0 ≤ e) (key : α → Rat) (l : List α) :
    (groupsByEps e key l).flatten.Perm (enumFrom 0 l) ∧ (∀ g ∈ groupsByEps e key l, g ≠ []) ∧
    (groupsByEps e key l).Pairwise (fun g h => ∀ a ∈ g, ∀ b ∈ h, key a.2 < key b.2) ∧
    (∀ g ∈ groupsByEps e key l, g.IsChain (fun a b => key b.2 - key a.2 ≤ e)) :=
  sortedRuns_spec e he key l

end C18P
