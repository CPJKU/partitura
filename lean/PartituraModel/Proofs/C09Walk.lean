/-
C09: the enumeration on every segment table.  Every enumerated path is a walk in the segment graph; fuel monotonicity;
what `list_of_destinations_from_last_segment` offers by the destinations used so far, a jump that is no leap, single
steps of the enumeration; one path only under `no_repeats` or `all_repeats`; the enumeration does not look at the times of
the segments.
-/
import PartituraModel.Model.Unfold

namespace C09
open Model.Unfold

/-- `d` is a destination the code's segment table allows from segment `a`
(either immediately or after a leap, when the awaiting destinations are released) -/
def Edge (g : List Seg) (a : Nat) (d : Dest) : Prop :=
  ∃ s, g[a]? = some s ∧ (d ∈ s.to ∨ d ∈ s.await)

/-- consecutive elements are joined by edges -/
def Walk (g : List Seg) : List Nat → Prop
  | [] => True
  | [_] => True
  | a :: b :: rest => Edge g a (.seg b) ∧ Walk g (b :: rest)

theorem path_eq (st : PState) : st.path = st.prev.reverse ++ [st.cur] := by simp [PState.path]

theorem walk_snoc (g : List Seg) (l : List Nat) (a b : Nat)
    (h : Walk g (l ++ [a])) (e : Edge g a (.seg b)) : Walk g (l ++ [a] ++ [b]) := by
  induction l with
  | nil => exact ⟨e, trivial⟩
  | cons x xs ih =>
    cases xs with
    | nil =>
      simp only [List.cons_append, List.nil_append, Walk] at h ⊢
      exact ⟨h.1, e, trivial⟩
    | cons y ys =>
      simp only [List.cons_append, Walk] at h ⊢
      exact ⟨h.1, ih h.2⟩

/-- a path state's own segment table only ever offers destinations of the original table -/
def SegsOK (g segs : List Seg) : Prop :=
  ∀ (i : Nat) (s : Seg), segs[i]? = some s →
    ∃ s0 : Seg, g[i]? = some s0 ∧ s.await = s0.await ∧ ∀ d ∈ s.to, d ∈ s0.to ∨ d ∈ s0.await

def Inv (g : List Seg) (st : PState) : Prop :=
  SegsOK g st.segs ∧ Walk g st.path ∧ st.path.head? = some 0

theorem rewriteSegs_get (segs : List Seg) (k i : Nat) :
    (rewriteSegs k segs)[i]? = (segs[i]?).map (rewriteSeg (k + i)) := by
  induction segs generalizing k i with
  | nil => simp [rewriteSegs]
  | cons s rest ih =>
    cases i with
    | zero => simp [rewriteSegs]
    | succ i =>
      simp only [rewriteSegs, List.getElem?_cons_succ]
      rw [ih]
      congr 2
      omega

theorem segsOK_rewrite (g segs : List Seg) (h : SegsOK g segs) : SegsOK g (rewriteSegs 0 segs) := by
  intro i s hs
  rw [rewriteSegs_get] at hs
  cases hsi : segs[i]? with
  | none => simp [hsi] at hs
  | some s1 =>
    simp only [hsi, Option.map_some, Option.some.injEq] at hs
    obtain ⟨s0, h0, haw, hto⟩ := h i s1 hsi
    refine ⟨s0, h0, ?_, ?_⟩
    · rw [← hs]; unfold rewriteSeg; split <;> simp [haw]
    · intro d hd
      rw [← hs] at hd
      unfold rewriteSeg at hd
      split at hd
      · exact hto d hd
      · simp only [List.mem_append, List.mem_filter] at hd
        rcases hd with hd | hd
        · exact hto d hd.1
        · right; rw [← haw]; exact hd

theorem path_jump (st : PState) (j : Nat) :
    ((st.cur :: st.prev).reverse ++ [j]) = (j :: st.cur :: st.prev).reverse := by
  simp

/-- `list_of_destinations_from_last_segment` offers one destination of the segment (minimal and maximal unfolding, forced
sequence) or, by default, all of them or those behind the last used one -/
theorem dests_spec (st : PState) (ds : List Dest) (h : st.dests = some ds) :
    ∃ s, st.segs[st.cur]? = some s ∧
      ((∃ d ∈ s.to, ds = [d]) ∨
        (st.noRepeats = false ∧ st.allRepeats = false ∧ (ds = s.to ∨ ∃ k, ds = s.to.drop (k + 1)))) := by
  unfold PState.dests at h
  cases hs : st.segs[st.cur]? with
  | none => simp [hs] at h
  | some s =>
    refine ⟨s, rfl, ?_⟩
    simp only [hs] at h
    cases hli : lastIndex s.to (st.used st.cur) with
    | none => simp [hli] at h
    | some li =>
      simp only [hli] at h
      have one : ∀ (o : Option Dest), (∀ x, o = some x → x ∈ s.to) → (o.map fun d => [d]) = some ds → ∃ d ∈ s.to, ds = [d] := by
        intro o ho hm
        cases o with
        | none => cases hm
        | some x => exact ⟨x, ho x rfl, (Option.some.inj hm).symm⟩
      cases hnr : st.noRepeats with
      | true =>
        rw [hnr, if_pos rfl] at h
        exact Or.inl (one _ (fun x hx => List.mem_of_getLast? hx) h)
      | false =>
        rw [hnr, if_neg (by simp)] at h
        cases hall : (s.forceSeq || st.allRepeats) with
        | true =>
          rw [hall, if_pos rfl] at h
          left
          cases li with
          | none => exact one _ (fun x hx => List.mem_of_head? hx) h
          | some k =>
            simp only at h
            split at h
            · exact one _ (fun x hx => List.mem_of_getElem? hx) h
            · exact one _ (fun x hx => List.mem_of_head? hx) h
        | false =>
          rw [hall, if_neg (by simp)] at h
          refine Or.inr ⟨rfl, (Bool.or_eq_false_iff.mp hall).2, ?_⟩
          cases li with
          | none => exact Or.inl (Option.some.inj h).symm
          | some k =>
            simp only at h
            split at h
            · exact Or.inr ⟨k, (Option.some.inj h).symm⟩
            · exact Or.inl (Option.some.inj h).symm

theorem dests_sub (st : PState) (ds : List Dest) (h : st.dests = some ds) :
    ∃ s, st.segs[st.cur]? = some s ∧ ∀ d ∈ ds, d ∈ s.to := by
  obtain ⟨s, hs, hc⟩ := dests_spec st ds h
  refine ⟨s, hs, ?_⟩
  rcases hc with ⟨d, hd, rfl⟩ | ⟨_, _, rfl | ⟨k, rfl⟩⟩
  · intro x hx; rw [List.mem_singleton.mp hx]; exact hd
  · exact fun _ hd => hd
  · exact fun _ hd => List.mem_of_mem_drop hd

theorem jump_spec (il : Bool) (st st' : PState) (j : Nat) (h : st.jump il j = some st') :
    st'.cur = j ∧ st'.prev = st.cur :: st.prev ∧ (st'.segs = st.segs ∨ st'.segs = rewriteSegs 0 st.segs) := by
  unfold PState.jump at h
  split at h
  · split at h
    · rw [← Option.some.inj h]
      cases st.jumped <;> cases il <;> exact ⟨rfl, rfl, by simp⟩
    · rw [← Option.some.inj h]
      exact ⟨rfl, rfl, .inl rfl⟩
  · cases h

theorem jump_path (il : Bool) (st st' : PState) (j : Nat) (h : st.jump il j = some st') :
    st'.path = st.path ++ [j] := by
  obtain ⟨h1, h2, _⟩ := jump_spec il st st' j h
  simp [PState.path, h1, h2]

theorem inv_jump (g : List Seg) (il : Bool) (st st' : PState) (j : Nat) (hinv : Inv g st)
    (hd : ∃ s, st.segs[st.cur]? = some s ∧ Dest.seg j ∈ s.to)
    (h : st.jump il j = some st') : Inv g st' := by
  obtain ⟨hsegs, hwalk, hhead⟩ := hinv
  obtain ⟨s, hs, hj⟩ := hd
  obtain ⟨s0, h0, _, hto⟩ := hsegs _ s hs
  have hedge : Edge g st.cur (.seg j) := ⟨s0, h0, hto _ hj⟩
  have hp := jump_path il st st' j h
  refine ⟨?_, ?_, ?_⟩
  · rcases (jump_spec il st st' j h).2.2 with e | e
    · rw [e]; exact hsegs
    · rw [e]; exact segsOK_rewrite g _ hsegs
  · rw [hp]
    rw [path_eq] at hwalk ⊢
    exact walk_snoc g _ _ _ hwalk hedge
  · rw [hp]
    rw [path_eq] at hhead ⊢
    cases hr : st.prev.reverse with
    | nil => simp [hr] at hhead ⊢; exact hhead
    | cons x xs => simp [hr] at hhead ⊢; exact hhead

/-- a finished path: it starts at segment 0, walks along edges of the table, and its last segment offers the end -/
def GoodPath (g : List Seg) (p : List Nat) : Prop :=
  p.head? = some 0 ∧ Walk g p ∧ ∃ l, p.getLast? = some l ∧ Edge g l .fin

theorem stepList_fin (rec : PState → Option (List (List Nat))) (il : Bool) (st : PState) (ds : List Dest)
    (ps : List (List Nat)) :
    stepList rec il st (.fin :: ds) = some ps ↔ ∃ r, stepList rec il st ds = some r ∧ ps = st.path :: r := by
  simp only [stepList]
  cases hr : stepList rec il st ds with
  | none => simp
  | some r => simp [eq_comm]

theorem stepList_seg (rec : PState → Option (List (List Nat))) (il : Bool) (st : PState) (j : Nat) (ds : List Dest)
    (ps : List (List Nat)) :
    stepList rec il st (.seg j :: ds) = some ps ↔
      ∃ st' a b, st.jump il j = some st' ∧ rec st' = some a ∧ stepList rec il st ds = some b ∧ ps = a ++ b := by
  simp only [stepList]
  cases hj : st.jump il j with
  | none => simp
  | some st' =>
    cases ha : rec st' with
    | none => simp [ha]
    | some a =>
      cases hb : stepList rec il st ds with
      | none => simp [ha]
      | some b => simp [ha, eq_comm]

theorem stepList_good (g : List Seg) (il : Bool) (rec : PState → Option (List (List Nat)))
    (hrec : ∀ st ps, Inv g st → rec st = some ps → ∀ p ∈ ps, GoodPath g p)
    (st : PState) (hinv : Inv g st) (s : Seg) (hs : st.segs[st.cur]? = some s) :
    ∀ (ds : List Dest) (ps : List (List Nat)), (∀ d ∈ ds, d ∈ s.to) →
      stepList rec il st ds = some ps → ∀ p ∈ ps, GoodPath g p := by
  intro ds
  induction ds with
  | nil =>
    intro ps _ h p hp
    simp only [stepList, Option.some.injEq] at h
    subst h
    simp at hp
  | cons d ds ih =>
    intro ps hsub h p hp
    have ih' := fun r hr => ih r (fun d hd => hsub d (List.mem_cons_of_mem _ hd)) hr p
    cases d with
    | fin =>
      obtain ⟨r, hr, rfl⟩ := (stepList_fin rec il st ds ps).mp h
      rcases List.mem_cons.mp hp with rfl | hp
      · obtain ⟨hsegs, hwalk, hhead⟩ := hinv
        obtain ⟨s0, h0, _, hto⟩ := hsegs _ s hs
        exact ⟨hhead, hwalk, st.cur, by simp [PState.path], s0, h0, hto _ (hsub _ List.mem_cons_self)⟩
      · exact ih' r hr hp
    | seg j =>
      obtain ⟨st', a, b, hj, ha, hb, rfl⟩ := (stepList_seg rec il st j ds ps).mp h
      rcases List.mem_append.mp hp with hp | hp
      · exact hrec st' a (inv_jump g il st st' j hinv ⟨s, hs, hsub _ List.mem_cons_self⟩ hj) ha p hp
      · exact ih' b hb hp

theorem unfoldFrom_good (g : List Seg) (il : Bool) :
    ∀ (f : Nat) (st : PState) (ps : List (List Nat)), Inv g st →
      unfoldFrom il f st = some ps → ∀ p ∈ ps, GoodPath g p := by
  intro f
  induction f with
  | zero => intro st ps _ h; simp [unfoldFrom] at h
  | succ f ih =>
    intro st ps hinv h p hp
    simp only [unfoldFrom] at h
    cases hd : st.dests with
    | none => simp [hd] at h
    | some ds =>
      simp only [hd] at h
      obtain ⟨s, hs, hsub⟩ := dests_sub st ds hd
      exact stepList_good g il (unfoldFrom il f) ih st hinv s hs ds ps hsub h p hp

theorem inv_init (g : List Seg) (nr ar : Bool) : Inv g (initState g nr ar) := by
  refine ⟨?_, ?_, ?_⟩
  · intro i s hs
    exact ⟨s, hs, rfl, fun d hd => Or.inl hd⟩
  · simp [initState, PState.path, Walk]
  · simp [initState, PState.path]

theorem stepList_mono (il : Bool) (r1 r2 : PState → Option (List (List Nat)))
    (h12 : ∀ st ps, r1 st = some ps → r2 st = some ps) (st : PState) :
    ∀ (ds : List Dest) (ps : List (List Nat)), stepList r1 il st ds = some ps → stepList r2 il st ds = some ps := by
  intro ds
  induction ds with
  | nil => intro ps h; exact h
  | cons d ds ih =>
    intro ps h
    cases d with
    | fin =>
      obtain ⟨r, hr, rfl⟩ := (stepList_fin r1 il st ds ps).mp h
      exact (stepList_fin r2 il st ds _).mpr ⟨r, ih r hr, rfl⟩
    | seg j =>
      obtain ⟨st', a, b, hj, ha, hb, rfl⟩ := (stepList_seg r1 il st j ds ps).mp h
      exact (stepList_seg r2 il st j ds _).mpr ⟨st', a, b, hj, h12 st' a ha, ih b hb, rfl⟩

theorem unfoldFrom_mono (il : Bool) :
    ∀ (f : Nat) (st : PState) (ps : List (List Nat)),
      unfoldFrom il f st = some ps → unfoldFrom il (f + 1) st = some ps := by
  intro f
  induction f with
  | zero => intro st ps h; simp [unfoldFrom] at h
  | succ f ih =>
    intro st ps h
    rw [unfoldFrom] at h ⊢
    cases hd : st.dests with
    | none => simp [hd] at h
    | some ds =>
      simp only [hd] at h ⊢
      exact stepList_mono il _ _ ih st ds ps h

theorem unfoldFrom_mono_add (il : Bool) (f k : Nat) (st : PState) (ps : List (List Nat))
    (h : unfoldFrom il f st = some ps) : unfoldFrom il (f + k) st = some ps := by
  induction k with
  | zero => exact h
  | succ k ih => exact unfoldFrom_mono il _ st ps ih

theorem dests_unf (st : PState) (s : Seg) (hs : st.segs[st.cur]? = some s) :
    st.dests = (match lastIndex s.to (st.used st.cur) with
      | none => none
      | some li =>
        if st.noRepeats then s.to.getLast?.map fun d => [d]
        else if s.forceSeq || st.allRepeats then
          match li with
          | none => s.to.head?.map fun d => [d]
          | some k => if k + 1 < s.to.length then s.to[k + 1]?.map fun d => [d] else s.to.head?.map fun d => [d]
        else
          match li with
          | none => some s.to
          | some k => if k + 1 < s.to.length then some (s.to.drop (k + 1)) else some s.to) := by
  unfold PState.dests
  rw [hs]
  simp only []
  cases lastIndex s.to (st.used st.cur) with
  | none => rfl
  | some li => cases li <;> rfl

theorem dests_fresh (st : PState) (s : Seg) (hs : st.segs[st.cur]? = some s) (hu : st.used st.cur = []) :
    st.dests = (if st.noRepeats then s.to.getLast?.map fun d => [d]
      else if s.forceSeq || st.allRepeats then s.to.head?.map fun d => [d] else some s.to) := by
  rw [dests_unf st s hs]
  simp [lastIndex, hu]

theorem lastIndex_one (a : Dest) (used : List Dest) (x : Dest) (hl : used.getLast? = some x) (hx : x = a) :
    lastIndex [a] used = some (some 0) := by
  subst hx
  unfold lastIndex
  rw [hl]
  simp [positions, Nat.mod_one]

theorem lastIndex_two_fst (a b : Dest) (hab : a ≠ b) (used : List Dest) (hl : used.getLast? = some a) :
    lastIndex [a, b] used = some (some 0) := by
  unfold lastIndex
  rw [hl]
  have hba : ¬ b = a := fun h => hab h.symm
  simp [positions, hba, Nat.mod_one]

theorem lastIndex_two_snd (a b : Dest) (hab : a ≠ b) (used : List Dest) (hl : used.getLast? = some b) :
    lastIndex [a, b] used = some (some 1) := by
  unfold lastIndex
  rw [hl]
  simp [positions, hab, Nat.mod_one]

theorem dests_one (st : PState) (s : Seg) (a : Dest) (hs : st.segs[st.cur]? = some s) (hto : s.to = [a])
    (hu : ∀ x, (st.used st.cur).getLast? = some x → x = a) : st.dests = some [a] := by
  have hli : ∃ li, lastIndex [a] (st.used st.cur) = some li := by
    cases hl : (st.used st.cur).getLast? with
    | none => exact ⟨none, by simp [lastIndex, hl]⟩
    | some x => exact ⟨some 0, lastIndex_one _ _ x hl (hu x hl)⟩
  obtain ⟨li, hli⟩ := hli
  rw [dests_unf st s hs, hto, hli]
  cases st.noRepeats <;> cases (s.forceSeq || st.allRepeats) <;> cases li <;> simp

/-- a segment with two different destinations `a`, `b`: once `a` was the last one used only `b` is left; before that, and again
after `b` was used, a round begins — the last, the first or both, by the mode -/
theorem dests_two (st : PState) (s : Seg) (a b : Dest) (hs : st.segs[st.cur]? = some s) (hto : s.to = [a, b])
    (hab : a ≠ b) (hu : ∀ x, (st.used st.cur).getLast? = some x → x = a ∨ x = b) :
    st.dests = some (if (st.used st.cur).getLast? = some a then [b] else
      if st.noRepeats then [b] else if s.forceSeq || st.allRepeats then [a] else [a, b]) := by
  rw [dests_unf st s hs, hto]
  cases hl : (st.used st.cur).getLast? with
  | none =>
    rw [show lastIndex [a, b] (st.used st.cur) = some none by simp [lastIndex, hl]]
    cases st.noRepeats <;> cases (s.forceSeq || st.allRepeats) <;> simp
  | some x =>
    rcases hu x hl with rfl | rfl
    · rw [lastIndex_two_fst _ _ hab _ hl]
      cases st.noRepeats <;> cases (s.forceSeq || st.allRepeats) <;> simp
    · rw [lastIndex_two_snd _ _ hab _ hl, if_neg (fun h => hab (Option.some.inj h).symm)]
      cases st.noRepeats <;> cases (s.forceSeq || st.allRepeats) <;> simp

theorem dests_second (st : PState) (s : Seg) (c : Nat) (nx : Dest) (hs : st.segs[st.cur]? = some s)
    (hto : s.to = [.seg c, nx]) (hnx : nx ≠ .seg c) (hu : st.used st.cur = [.seg c]) :
    st.dests = some [nx] := by
  rw [dests_two st s _ _ hs hto (Ne.symm hnx) (fun x hx => by rw [hu] at hx; exact Or.inl (Option.some.inj hx).symm),
    if_pos (by rw [hu]; rfl)]

/-- the state after an ordinary step to segment `j` -/
def afterJump (st : PState) (j : Nat) : PState :=
  { st with cur := j, prev := st.cur :: st.prev,
            used := fun k => if k = st.cur then st.used k ++ [Dest.seg j] else st.used k }

theorem afterJump_used_ne (st : PState) (j x : Nat) (h : x ≠ st.cur) : (afterJump st j).used x = st.used x :=
  if_neg h

theorem afterJump_used_cur (st : PState) (j : Nat) : (afterJump st j).used st.cur = st.used st.cur ++ [Dest.seg j] :=
  if_pos rfl

theorem jump_plain (il : Bool) (st : PState) (j : Nat) (sj sp : Seg) (hj : st.segs[j]? = some sj)
    (hp : st.segs[st.cur]? = some sp) (hnl : sp.ty ≠ .leapStart) :
    st.jump il j = some (afterJump st j) := by
  unfold PState.jump afterJump
  rw [hj, hp]
  simp [hnl]

theorem positions_append (d : Dest) : ∀ (l1 l2 : List Dest) (s : Nat),
    positions d (l1 ++ l2) s = positions d l1 s ++ positions d l2 (s + l1.length) := by
  intro l1
  induction l1 with
  | nil => intro l2 s; simp [positions]
  | cons x xs ih =>
    intro l2 s
    simp only [List.cons_append, positions, List.length_cons]
    have e : s + 1 + xs.length = s + (xs.length + 1) := by omega
    split
    · rw [ih, e]; rfl
    · rw [ih, e]

theorem positions_length (d : Dest) : ∀ (l : List Dest) (s : Nat), (positions d l s).length = l.count d := by
  intro l
  induction l with
  | nil => intro s; rfl
  | cons x xs ih =>
    intro s
    simp only [positions, List.count_cons]
    by_cases h : x = d
    · simp [h, ih]
    · have : ¬ ((x == d) = true) := by simpa using h
      simp [h, ih]

/-- after the first `n ≥ 1` destinations have been used in order, the last used one sits at index `n - 1`
(also when the same destination occurs several times in the list) -/
theorem lastIndex_prefix (ds : List Dest) (n : Nat) (h2 : n + 1 ≤ ds.length) :
    lastIndex ds (ds.take (n + 1)) = some (some n) := by
  have hn : n < ds.length := by omega
  obtain ⟨d, hd⟩ : ∃ d, ds[n] = d := ⟨_, rfl⟩
  have htake : ds.take (n + 1) = ds.take n ++ [d] := by
    rw [List.take_add_one, List.getElem?_eq_getElem hn, hd]; rfl
  have hsplit : ds = ds.take n ++ d :: ds.drop (n + 1) := by
    conv => lhs; rw [← List.take_append_drop n ds, List.drop_eq_getElem_cons hn, hd]
  unfold lastIndex
  rw [htake]
  simp only [List.getLast?_append, List.getLast?_singleton, Option.some_or]
  have hcnt : (ds.take n ++ [d]).count d = (ds.take n).count d + 1 := by
    rw [List.count_append, List.count_singleton_self]
  have hpos : positions d ds 0 =
      positions d (ds.take n) 0 ++ (n :: positions d (ds.drop (n + 1)) (n + 1)) := by
    have e : positions d ds 0 = positions d (ds.take n ++ d :: ds.drop (n + 1)) 0 :=
      congrArg (fun l => positions d l 0) hsplit
    rw [e, positions_append]
    have hl : (ds.take n).length = n := by simp; omega
    simp only [positions, if_true, hl, Nat.zero_add]
  rw [hcnt, hpos]
  have hl1 : (positions d (ds.take n) 0).length = (ds.take n).count d := positions_length _ _ _
  simp only [Nat.add_sub_cancel, List.length_append, List.length_cons, hl1]
  have hmod : (ds.take n).count d % ((ds.take n).count d + ((positions d (ds.drop (n + 1)) (n + 1)).length + 1))
      = (ds.take n).count d := Nat.mod_eq_of_lt (by omega)
  rw [hmod, List.getElem?_append_right (by omega), hl1, Nat.sub_self]
  rfl

theorem dests_prefix (st : PState) (s : Seg) (n : Nat) (hs : st.segs[st.cur]? = some s)
    (hu : st.used st.cur = s.to.take n) (hn : n < s.to.length)
    (hnr : st.noRepeats = false) (har : st.allRepeats = true) :
    st.dests = some [s.to[n]] := by
  rw [dests_unf st s hs]
  simp only [hu, hnr, har, Bool.false_eq_true, if_false, Bool.or_true, if_true]
  cases n with
  | zero =>
    have : lastIndex s.to (s.to.take 0) = some none := by simp [lastIndex]
    rw [this]
    simp only
    rw [List.head?_eq_getElem?, List.getElem?_eq_getElem hn]
    rfl
  | succ n =>
    rw [lastIndex_prefix s.to n (by omega)]
    simp only [hn, if_true, List.getElem?_eq_getElem hn, Option.map_some]

theorem dests_next (st : PState) (s : Seg) (front : List Dest) (d : Dest) (back : List Dest)
    (hs : st.segs[st.cur]? = some s) (hto : s.to = front ++ d :: back) (hu : st.used st.cur = front)
    (hnr : st.noRepeats = false) (har : st.allRepeats = true) : st.dests = some [d] := by
  have hn : front.length < s.to.length := by rw [hto]; simp
  rw [dests_prefix st s front.length hs (by rw [hu, hto, List.take_left']; rfl) hn hnr har]
  simp only [hto, List.getElem_append_right (Nat.le_refl _), Nat.sub_self, List.getElem_cons_zero]

theorem unfold_step_seg (il : Bool) (f : Nat) (st st' : PState) (j : Nat)
    (hd : st.dests = some [.seg j]) (hj : st.jump il j = some st') :
    unfoldFrom il (f + 1) st = unfoldFrom il f st' := by
  rw [unfoldFrom, hd]
  simp only [stepList, hj]
  cases unfoldFrom il f st' <;> simp

theorem unfold_step_fin (il : Bool) (f : Nat) (st : PState) (hd : st.dests = some [.fin]) :
    unfoldFrom il (f + 1) st = some [st.path] := by
  rw [unfoldFrom, hd]
  simp [stepList]

/-! with `no_repeats` or `all_repeats` the enumeration does not branch -/

theorem dests_single (st : PState) (h : st.noRepeats = true ∨ st.allRepeats = true) (ds : List Dest)
    (hd : st.dests = some ds) : ∃ d, ds = [d] := by
  obtain ⟨s, _, hc⟩ := dests_spec st ds hd
  rcases hc with ⟨d, _, rfl⟩ | ⟨h1, h2, _⟩
  · exact ⟨d, rfl⟩
  · rcases h with h | h
    · rw [h1] at h; cases h
    · rw [h2] at h; cases h

theorem jump_flags (il : Bool) (st st' : PState) (j : Nat) (h : st.jump il j = some st')
    (hf : st.noRepeats = true ∨ st.allRepeats = true) : st'.noRepeats = true ∨ st'.allRepeats = true := by
  unfold PState.jump at h
  split at h
  · rename_i sj sp _ _
    split at h
    · simp only [Option.some.injEq] at h
      subst h
      by_cases hj : st.jumped = true <;> cases il <;> simp [hj] <;> (rcases hf with hf | hf <;> simp [hf])
    · simp only [Option.some.injEq] at h
      subst h
      exact hf
  · cases h

theorem unfoldFrom_single (il : Bool) : ∀ (f : Nat) (st : PState) (ps : List (List Nat)),
    (st.noRepeats = true ∨ st.allRepeats = true) → unfoldFrom il f st = some ps → ∃ p, ps = [p] := by
  intro f
  induction f with
  | zero => intro st ps _ h; simp [unfoldFrom] at h
  | succ f ih =>
    intro st ps hf h
    simp only [unfoldFrom] at h
    cases hd : st.dests with
    | none => simp [hd] at h
    | some ds =>
      simp only [hd] at h
      obtain ⟨d, rfl⟩ := dests_single st hf ds hd
      cases d with
      | fin =>
        simp only [stepList, Option.map_some, Option.some.injEq] at h
        exact ⟨st.path, h.symm⟩
      | seg j =>
        obtain ⟨st', a, b, hj, ha, hb, rfl⟩ := (stepList_seg _ il st j [] ps).mp h
        obtain ⟨p, rfl⟩ := ih st' a (jump_flags il st st' j hj hf) ha
        exact ⟨p, by rw [← Option.some.inj hb]; rfl⟩

/-- the table with every time set to 0: what of the table the enumeration reads -/
def eraseTimes (g : List Seg) : List Seg := g.map fun s => { s with start := 0, stp := 0 }

theorem eraseTimes_get (g : List Seg) (i : Nat) :
    (eraseTimes g)[i]? = (g[i]?).map fun s => { s with start := 0, stp := 0 } := by
  simp [eraseTimes]

theorem rewriteSegs_erase : ∀ (g : List Seg) (k : Nat), rewriteSegs k (eraseTimes g) = eraseTimes (rewriteSegs k g) := by
  intro g
  induction g with
  | nil => intro k; rfl
  | cons s rest ih =>
    intro k
    simp only [eraseTimes, List.map_cons, rewriteSegs] at ih ⊢
    rw [ih]
    congr 1
    unfold rewriteSeg
    split <;> rfl

def eraseSt (st : PState) : PState := { st with segs := eraseTimes st.segs }

theorem dests_erase (st : PState) : (eraseSt st).dests = st.dests := by
  unfold PState.dests eraseSt
  simp only [eraseTimes_get]
  cases st.segs[st.cur]? <;> rfl

theorem jump_erase (il : Bool) (st : PState) (j : Nat) :
    (eraseSt st).jump il j = (st.jump il j).map eraseSt := by
  unfold PState.jump eraseSt
  simp only [eraseTimes_get]
  cases hj : st.segs[j]? with
  | none => rfl
  | some sj =>
    cases hp : st.segs[st.cur]? with
    | none => rfl
    | some sp =>
      simp only [Option.map_some]
      by_cases hl : sj.ty = .leapEnd ∧ sp.ty = .leapStart
      · simp only [hl, and_self, if_true, Option.map_some, Option.some.injEq]
        cases st.jumped <;> cases il <;> simp [rewriteSegs_erase]
      · simp only [hl, if_false, Option.map_some]

theorem path_erase (st : PState) : (eraseSt st).path = st.path := rfl

theorem unfoldFrom_erase (il : Bool) : ∀ (f : Nat) (st : PState),
    unfoldFrom il f (eraseSt st) = unfoldFrom il f st := by
  intro f
  induction f with
  | zero => intro st; rfl
  | succ f ih =>
    intro st
    simp only [unfoldFrom, dests_erase]
    cases st.dests with
    | none => rfl
    | some ds =>
      simp only
      induction ds with
      | nil => rfl
      | cons d ds ihd =>
        cases d with
        | fin => simp only [stepList, ihd, path_erase]
        | seg j =>
          simp only [stepList, jump_erase]
          cases st.jump il j with
          | none => rfl
          | some st' => simp only [Option.map_some, ih, ihd]

theorem getPaths_erase (g : List Seg) (nr ar il : Bool) (fuel : Nat) :
    getPaths (eraseTimes g) nr ar il fuel = getPaths g nr ar il fuel :=
  unfoldFrom_erase il fuel (initState g nr ar)

end C09
