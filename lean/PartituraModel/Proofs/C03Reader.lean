/-
C03 — reading back what `mergeWithVoice` / `mergeVoices` wrote.  The reader (`runEvs`, both the MusicXML
semantics and the importer's) stays in step with the writer's `(last_t, last_note_onset)` bookkeeping; what it returns
and where it meets the non-note children (Model/XmlTrace.lean `otherTrace`) are followed together (`ReadsAs`).
-/
import PartituraModel.Model.XmlTrace
import PartituraModel.Proofs.C03Sort

namespace C03.Reader
open Model.Xml C03.Sort

theorem itemLt_true {a b : Item} :
    itemLt a b = true ↔ a.onset < b.onset ∨ (a.onset = b.onset ∧ a.order < b.order) := by
  simp [itemLt]

theorem itemLt_false {a b : Item} :
    itemLt a b = false ↔ ¬ (a.onset < b.onset ∨ (a.onset = b.onset ∧ a.order < b.order)) := by
  rw [← itemLt_true]; simp

theorem itemLt_order : Lists.TotalPreorder fun a b => !itemLt b a where
  total a b := by
    simp only [Bool.not_eq_true', itemLt_false]; omega
  trans a b c := by
    simp only [Bool.not_eq_true', itemLt_false]; omega

theorem runEvs_append (spec : Bool) (st : Nat) (s : RState) (a b : List Ev) :
    runEvs spec st s (a ++ b) = (runEvs spec st s a).bind fun s' => runEvs spec st s' b :=
  Lists.run_append (stepEv spec st) (runEvs spec st) (fun _ => rfl) (fun _ _ _ => rfl) s a b

theorem otherTrace_append (spec : Bool) (st : Nat) (s : RState) (a b : List Ev) :
    otherTrace spec st s (a ++ b) =
      otherTrace spec st s a ++ (match runEvs spec st s a with | some s' => otherTrace spec st s' b | none => []) := by
  induction a generalizing s with
  | nil => simp [otherTrace, runEvs]
  | cons e es ih =>
    simp only [List.cons_append, otherTrace, runEvs]
    cases h : stepEv spec st s e with
    | none => simp
    | some s' => simp [ih, List.append_assoc]

/-- reading `evs` from state `s` succeeds and ends in `s'`; `tr` are the non-note children met on the way -/
structure Reads (spec : Bool) (st : Nat) (s : RState) (evs : List Ev) (s' : RState) (tr : List OtherAt) : Prop where
  run : runEvs spec st s evs = some s'
  trace : otherTrace spec st s evs = tr

theorem Reads.nil (spec : Bool) (st : Nat) (s : RState) : Reads spec st s [] s [] := ⟨rfl, rfl⟩

theorem Reads.append {spec : Bool} {st : Nat} {s s1 s2 : RState} {a b : List Ev} {t1 t2 : List OtherAt}
    (h1 : Reads spec st s a s1 t1) (h2 : Reads spec st s1 b s2 t2) : Reads spec st s (a ++ b) s2 (t1 ++ t2) := by
  constructor
  · rw [runEvs_append, h1.run]; exact h2.run
  · simp only [otherTrace_append, h1.run, h1.trace, h2.trace]

/-- `forward_backup_if_needed` read back -/
theorem reads_fb (spec : Bool) {st t : Nat} {s : RState} (hle : s.pos ≤ s.maxt) (ht : st ≤ t) :
    Reads spec st s ((fb t s.pos).map (·.ev)) { s with pos := t, maxt := max s.maxt t } [] := by
  unfold fb
  by_cases h1 : s.pos < t
  · have hpos : s.pos + (t - s.pos) = t := by omega
    constructor
    · simp only [h1, if_true, List.map_cons, List.map_nil, runEvs, stepEv, Option.bind_some, hpos]
    · simp [h1, otherTrace, stepEv]
  · by_cases h2 : t < s.pos
    · have hpos : s.pos - (s.pos - t) = t := by omega
      have hclamp : ¬ (s.pos < st + (s.pos - t)) := by omega
      constructor
      · simp only [h1, h2, if_true, if_false, List.map_cons, List.map_nil, runEvs, stepEv, Option.bind_some, hclamp,
          hpos]
      · simp [h1, h2, otherTrace, stepEv]
    · have : t = s.pos := by omega
      subst this
      constructor
      · simp only [h1, if_false, List.map_nil, runEvs, Nat.max_eq_left hle]
      · simp [otherTrace]

structure Inside (st B : Nat) (s : RState) : Prop where
  start : st ≤ s.pos
  le : s.pos ≤ s.maxt
  bound : s.maxt ≤ B

/-- what is compared of a non-note child: position, rank, signature -/
def key (e : OtherAt) : Nat × Nat × String := (e.pos, e.order, e.sig)
def okey (o : OtherIn) : Nat × Nat × String := (o.onset, o.order, o.sig)

/-- Reading `evs` from `s` succeeds: the notes `ns` are returned (in this order), the non-note children `os` are met,
    each at the position it was written for and not beyond the furthest position reached in the end, and the reader
    stops at `p`, still inside the measure `[st, B]`. -/
abbrev ReadsAs (spec : Bool) (st B : Nat) (s : RState) (evs : List Ev) (ns : List NoteOut) (os : List (Nat × Nat × String))
    (p : Nat) : Prop :=
  ∃ s' tr, Reads spec st s evs s' tr ∧ s'.out = ns.reverse ++ s.out ∧ s'.pos = p ∧ Inside st B s' ∧
    s.maxt ≤ s'.maxt ∧ tr.map key = os ∧ ∀ e ∈ tr, e.pos ≤ e.maxt ∧ e.maxt ≤ s'.maxt

theorem ReadsAs.nil {spec : Bool} {st B : Nat} {s : RState} (h : Inside st B s) : ReadsAs spec st B s [] [] [] s.pos :=
  ⟨s, [], Reads.nil .., rfl, rfl, h, Nat.le_refl _, rfl, fun e he => by cases he⟩

/-- readings follow one another; the second may have a later bound -/
theorem ReadsAs.append {spec : Bool} {st B1 B2 : Nat} {s : RState} {a b : List Ev} {ns1 ns2 : List NoteOut}
    {os1 os2 : List (Nat × Nat × String)} {p1 p2 : Nat} (h1 : ReadsAs spec st B1 s a ns1 os1 p1)
    (h2 : ∀ s1 : RState, s1.pos = p1 → Inside st B1 s1 → ReadsAs spec st B2 s1 b ns2 os2 p2) :
    ReadsAs spec st B2 s (a ++ b) (ns1 ++ ns2) (os1 ++ os2) p2 := by
  obtain ⟨s1, tr1, hr1, hout1, hp1, hin1, hm1, hk1, hb1⟩ := h1
  obtain ⟨s2, tr2, hr2, hout2, hp2, hin2, hm2, hk2, hb2⟩ := h2 s1 hp1 hin1
  refine ⟨s2, tr1 ++ tr2, hr1.append hr2, ?_, hp2, hin2, Nat.le_trans hm1 hm2, ?_, ?_⟩
  · rw [hout2, hout1, List.reverse_append, List.append_assoc]
  · rw [List.map_append, hk1, hk2]
  · intro e he
    rcases List.mem_append.mp he with h | h
    · exact ⟨(hb1 e h).1, Nat.le_trans (hb1 e h).2 hm2⟩
    · exact hb2 e h

theorem fb_forward {t p : Nat} (h : p ≤ t) : (fb t p).map (·.ev) = if p < t then [Ev.forward (t - p)] else [] := by
  unfold fb
  by_cases h1 : p < t
  · simp [h1]
  · have h2 : ¬ t < p := by omega
    simp [h1, h2]

theorem readsAs_fb (spec : Bool) {st B t : Nat} {s : RState} (hin : Inside st B s) (ht : st ≤ t) (htB : t ≤ B) :
    ReadsAs spec st B s ((fb t s.pos).map (·.ev)) [] [] t :=
  ⟨_, [], reads_fb spec hin.le ht, rfl, rfl, ⟨ht, Nat.le_max_right _ _, Nat.max_le.mpr ⟨hin.bound, htB⟩⟩,
    Nat.le_max_left _ _, rfl, fun e he => by cases he⟩

@[simp] theorem onset_note (p : Placed) : (Item.note p).onset = p.onset := rfl
@[simp] theorem order_note (p : Placed) : (Item.note p).order = 6 := rfl
@[simp] theorem onset_other (o : OtherIn) : (Item.other o).onset = o.onset := rfl
@[simp] theorem order_other (o : OtherIn) : (Item.other o).order = o.order := rfl

-- 6 is the rank of notes in the `order` table of `merge_with_voice` (`Item.order`)
def keyGe (it : Item) (t : Nat) : Prop := t < it.onset ∨ (t = it.onset ∧ 6 ≤ it.order)
def keyGt (it : Item) (t : Nat) : Prop := t < it.onset ∨ (t = it.onset ∧ 6 < it.order)

/-- a note lies inside the measure `[st, B]`; a grace note has no duration -/
def PlacedOK (st B : Nat) (p : Placed) : Prop := st ≤ p.onset ∧ p.onset + p.dur ≤ B ∧ (p.grace = true → p.dur = 0)
/-- another element lies inside the measure and does not carry the rank of notes -/
def OtherOK (st B : Nat) (o : OtherIn) : Prop := st ≤ o.onset ∧ o.onset ≤ B ∧ o.order ≠ 6

def ItemOK (st B : Nat) : Item → Prop
  | .note p => PlacedOK st B p
  | .other o => OtherOK st B o

def noteOf : Item → Option Placed
  | .note p => some p
  | .other _ => none

def otherOf : Item → Option OtherIn
  | .note _ => none
  | .other o => some o

def notesOf (l : List Item) : List Placed := l.filterMap noteOf
def othersOf (l : List Item) : List OtherIn := l.filterMap otherOf

/-- every `<chord/>` note directly follows a note with its onset and duration -/
def ChordOKP : Option (Nat × Nat) → List Placed → Prop
  | _, [] => True
  | prevN, p :: r => (p.chord = true → prevN = some (p.onset, p.dur)) ∧ ChordOKP (some (p.onset, p.dur)) r

theorem otherTrace_note (spec : Bool) (st : Nat) (s : RState) (p : Placed) : otherTrace spec st s [p.ev] = [] := by
  unfold otherTrace Placed.ev
  cases stepEv spec st s (.note p.idx p.dur p.chord p.grace p.voice p.staff) <;> rfl

/-- What the loop of `placeItems` maintains: the reader, in state `s`, stands where the writer thinks it does
    (`lastT`); `last` is the item placed before, `prevN` the last note, which a `<chord/>` note refers to. -/
structure Ready (st B : Nat) (items : List Item) (lastT lno : Nat) (last : Option Item) (prevN : Option (Nat × Nat))
    (s : RState) : Prop where
  sorted : SortedBy itemLt items
  after : ∀ l, last = some l → ∀ it ∈ items, itemLt it l = false
  chord : ChordOKP prevN (notesOf items)
  ok : ∀ it ∈ items, ItemOK st B it
  pos : s.pos = lastT
  inside : Inside st B s
  /-- behind the last note either nothing was placed (the reader still sits at its end) or something that sorts after
      every note of its onset: a `<chord/>` note, which sorts with the notes of that onset, can then only come directly
      behind its note -/
  prev : ∀ t d, prevN = some (t, d) → s.prev = some (t, d) ∧ lno = t ∧
    ∃ l, last = some l ∧ keyGe l t ∧ (lastT = t + d ∨ keyGt l t)

/-- What either reader does at a `<note>` without `<chord/>` (a grace note has no duration): the same. -/
theorem stepEv_note (spec : Bool) (st : Nat) (s : RState) (p : Placed) (hc : p.chord = false)
    (hg : p.grace = true → p.dur = 0) :
    stepEv spec st s p.ev = some
      { pos := s.pos + p.dur, prev := some (s.pos, p.dur), maxt := max s.maxt (s.pos + p.dur),
        out := { p.out with onset := s.pos } :: s.out } := by
  have hd : (if (spec && p.grace) = true then 0 else p.dur) = p.dur := by
    by_cases h : p.grace = true <;> simp [h, hg]
  simp only [Placed.ev, stepEv, hc, Bool.false_eq_true, if_false, hd]
  rfl

/-- … and at a `<chord/>` note that sits right behind the note it belongs to. -/
theorem stepEv_chord (spec : Bool) (st : Nat) (s : RState) (p : Placed) (hc : p.chord = true)
    (hprev : s.prev = some (p.onset, p.dur)) (hpos : s.pos = p.onset + p.dur) (hg : p.grace = true → p.dur = 0) :
    stepEv spec st s p.ev = some
      { pos := p.onset + p.dur, prev := some (p.onset, p.dur), maxt := max s.maxt (p.onset + p.dur),
        out := p.out :: s.out } := by
  have hd : (if p.grace = true then 0 else p.dur) = p.dur := by
    by_cases h : p.grace = true <;> simp [h, hg]
  cases spec <;> simp only [Placed.ev, stepEv, hc, if_true, hprev, hd, hpos, Bool.false_eq_true, if_false] <;> rfl

theorem reads_note {spec : Bool} {st : Nat} {s s1 : RState} {p : Placed} (h : stepEv spec st s p.ev = some s1) :
    Reads spec st s [p.ev] s1 [] :=
  ⟨by simp only [runEvs, h, Option.bind_some], otherTrace_note ..⟩

/-- the loop goes on behind the item `x`, once the reader is known to stand where the writer then thinks it does -/
theorem Ready.tail {st B : Nat} {x : Item} {rest : List Item} {lastT lno : Nat} {last : Option Item}
    {prevN : Option (Nat × Nat)} {s : RState} (h : Ready st B (x :: rest) lastT lno last prevN s) {lastT' lno' : Nat}
    {prevN' : Option (Nat × Nat)} {s' : RState} (hpos : s'.pos = lastT') (hin : Inside st B s')
    (hchord : ChordOKP prevN' (notesOf rest))
    (hprev : ∀ t d, prevN' = some (t, d) → s'.prev = some (t, d) ∧ lno' = t ∧
      ∃ l, some x = some l ∧ keyGe l t ∧ (lastT' = t + d ∨ keyGt l t)) :
    Ready st B rest lastT' lno' (some x) prevN' s' :=
  ⟨(List.pairwise_cons.mp h.sorted).2, fun _ hl it hit => Option.some.inj hl ▸ (List.pairwise_cons.mp h.sorted).1 it hit,
    hchord, fun it hit => h.ok it (List.mem_cons_of_mem _ hit), hpos, hin, hprev⟩

/-- one note of the loop: the events written for it bring the reader behind the note -/
theorem place_note (spec : Bool) {st B : Nat} {p : Placed} {rest : List Item} {lastT lno : Nat} {last : Option Item}
    {prevN : Option (Nat × Nat)} {s : RState} (h : Ready st B (.note p :: rest) lastT lno last prevN s) :
    ∃ pre s1, (placeItems lastT lno (.note p :: rest)).map (·.ev) =
        pre ++ (placeItems (p.onset + p.dur) p.onset rest).map (·.ev) ∧
      Reads spec st s pre s1 [] ∧
      Ready st B rest (p.onset + p.dur) p.onset (some (.note p)) (some (p.onset, p.dur)) s1 ∧
      s1.out = p.out :: s.out ∧ s.maxt ≤ s1.maxt := by
  obtain ⟨hst_p, hB_p, hgrace⟩ : PlacedOK st B p := h.ok (.note p) (List.mem_cons_self ..)
  obtain ⟨hc, hchordRest⟩ := h.chord
  obtain ⟨hst, hle, hB⟩ := h.inside
  obtain rfl := h.pos
  have hready : ∀ s1 : RState, s1.pos = p.onset + p.dur → s1.prev = some (p.onset, p.dur) → s1.pos ≤ s1.maxt →
      s1.maxt ≤ B → Ready st B rest (p.onset + p.dur) p.onset (some (.note p)) (some (p.onset, p.dur)) s1 :=
    fun s1 h1 h2 h3 h4 => h.tail h1 ⟨by omega, h3, h4⟩ hchordRest
      (by intro t d htd; cases htd; exact ⟨h2, rfl, .note p, rfl, by simp [keyGe], Or.inl rfl⟩)
  by_cases hch : p.chord = true
  · -- a chord note: the reader sits right behind the note it belongs to
    obtain ⟨hprev, hlno, l, hl, _, hadj⟩ := h.prev p.onset p.dur (hc hch)
    have hadj' : s.pos = p.onset + p.dur := by
      rcases hadj with h' | h'
      · exact h'
      · have := h.after l hl (.note p) (List.mem_cons_self ..)
        rw [itemLt_false] at this
        unfold keyGt at h'
        simp only [onset_note, order_note] at this
        omega
    refine ⟨[p.ev], _, ?_, reads_note (stepEv_chord spec st s p hch hprev hadj' hgrace),
      hready _ rfl rfl (Nat.le_max_right _ _) (by simp only; omega), rfl, Nat.le_max_left _ _⟩
    simp only [placeItems, hch, if_true, hlno, fb, Nat.lt_irrefl, if_false, List.nil_append, List.map_cons]
    rfl
  · -- an ordinary note: forward/backup to its onset, then the note
    have hch' : p.chord = false := by simpa using hch
    refine ⟨(fb p.onset s.pos).map (·.ev) ++ [p.ev], _, ?_,
      (reads_fb spec hle hst_p).append (reads_note (stepEv_note spec st _ p hch' hgrace)),
      hready _ rfl rfl (Nat.le_max_right _ _) (by simp only; omega), rfl, by simp only; omega⟩
    simp only [placeItems, hch', Bool.false_eq_true, if_false, List.map_append, List.map_cons, List.append_assoc]
    rfl

/-- one non-note child of the loop: the reader meets it at its onset -/
theorem place_other (spec : Bool) {st B : Nat} {o : OtherIn} {rest : List Item} {lastT lno : Nat} {last : Option Item}
    {prevN : Option (Nat × Nat)} {s : RState} (h : Ready st B (.other o :: rest) lastT lno last prevN s) :
    ∃ pre s1, (placeItems lastT lno (.other o :: rest)).map (·.ev) = pre ++ (placeItems o.onset lno rest).map (·.ev) ∧
      Reads spec st s pre s1 [{ pos := o.onset, maxt := s1.maxt, order := o.order, sig := o.sig }] ∧
      Ready st B rest o.onset lno (some (.other o)) prevN s1 ∧ s1.out = s.out ∧ s.maxt ≤ s1.maxt := by
  obtain ⟨hst_o, hB_o, hord⟩ : OtherOK st B o := h.ok (.other o) (List.mem_cons_self ..)
  obtain ⟨hst, hle, hB⟩ := h.inside
  obtain rfl := h.pos
  refine ⟨(fb o.onset s.pos).map (·.ev) ++ [Ev.other o.order o.sig], { s with pos := o.onset, maxt := max s.maxt o.onset },
    ?_, (reads_fb spec hle hst_o).append ⟨rfl, rfl⟩,
    h.tail rfl ⟨hst_o, Nat.le_max_right _ _, Nat.max_le.mpr ⟨hB, hB_o⟩⟩ h.chord ?_, rfl, Nat.le_max_left _ _⟩
  · simp only [placeItems, List.map_append, List.map_cons, List.append_assoc]
    rfl
  · intro t d htd
    obtain ⟨hprev, hlno, l, hl, hge, _⟩ := h.prev t d htd
    have hol := h.after l hl (.other o) (List.mem_cons_self ..)
    rw [itemLt_false] at hol
    have hgt : keyGt (.other o) t := by
      unfold keyGe at hge
      unfold keyGt
      simp only [onset_other, order_other] at hol ⊢
      omega
    refine ⟨hprev, hlno, .other o, rfl, ?_, Or.inr hgt⟩
    unfold keyGt at hgt; unfold keyGe; omega

theorem lastAfter_append_cons (a : Nat) (l : List Out) (x : Out) (r : List Out) :
    lastAfter a (l ++ x :: r) = lastAfter x.after r := by
  unfold lastAfter
  rw [List.getLast?_append_cons]
  cases r with
  | nil => rfl
  | cons y ys => rw [List.getLast?_cons_cons, List.getLast?_eq_some_getLast (List.cons_ne_nil y ys)]

theorem reads_placeItems (spec : Bool) (st B : Nat) :
    ∀ (items : List Item) (lastT lno : Nat) (last : Option Item) (prevN : Option (Nat × Nat)) (s : RState),
      Ready st B items lastT lno last prevN s →
      ReadsAs spec st B s ((placeItems lastT lno items).map (·.ev)) ((notesOf items).map Placed.out)
        ((othersOf items).map okey) (lastAfter lastT (placeItems lastT lno items)) := by
  intro items
  induction items with
  | nil =>
    intro lastT lno last prevN s h
    exact ⟨s, [], Reads.nil .., rfl, h.pos, h.inside, Nat.le_refl _, rfl, fun e he => by cases he⟩
  | cons x rest ih =>
    intro lastT lno last prevN s h
    cases x with
    | note p =>
      obtain ⟨pre, s1, hsplit, hread1, hready, hout1, hmax1⟩ := place_note spec h
      obtain ⟨s', tr, hread, hout, hfin, hin, hmax, htr, hbd⟩ := ih _ _ _ _ s1 hready
      refine ⟨s', tr, by rw [hsplit]; exact hread1.append hread, ?_,
        hfin.trans (by simp only [placeItems, lastAfter_append_cons]), hin, by omega, htr, hbd⟩
      rw [hout, hout1]; simp [notesOf, noteOf]
    | other o =>
      obtain ⟨pre, s1, hsplit, hread1, hready, hout1, hmax1⟩ := place_other spec h
      obtain ⟨s', tr, hread, hout, hfin, hin, hmax, htr, hbd⟩ := ih _ _ _ _ s1 hready
      refine ⟨s', _ :: tr, by rw [hsplit]; exact hread1.append hread, by rw [hout, hout1]; rfl,
        hfin.trans (by simp only [placeItems, lastAfter_append_cons]), hin, by omega, ?_, ?_⟩
      · rw [List.map_cons, htr]; rfl
      · intro e he
        rcases List.mem_cons.mp he with rfl | he
        · exact ⟨hready.pos ▸ hready.inside.le, hmax⟩
        · exact hbd e he

def OnsetSorted (A : List Placed) : Prop := A.Pairwise (fun a b => a.onset ≤ b.onset)

theorem sortedBy_map_note {A : List Placed} (h : OnsetSorted A) : SortedBy itemLt (A.map Item.note) := by
  unfold SortedBy
  rw [List.pairwise_map]
  refine h.imp ?_
  intro a b hab
  rw [itemLt_false]; simp; omega

theorem filterMap_items (A : List Placed) (O : List OtherIn) :
    (A.map Item.note ++ O.map Item.other).filterMap noteOf = A ∧
    (A.map Item.note ++ O.map Item.other).filterMap otherOf = O := by
  simp only [List.filterMap_append, List.filterMap_map]
  constructor
  · rw [show noteOf ∘ Item.note = some from rfl, show noteOf ∘ Item.other = fun _ => none from rfl]; simp
  · rw [show otherOf ∘ Item.note = fun _ => none from rfl, show otherOf ∘ Item.other = some from rfl]; simp

theorem notesOf_merged {A : List Placed} (O : List OtherIn) (h : OnsetSorted A) :
    notesOf (isortBy itemLt (A.map Item.note ++ O.map Item.other)) = A := by
  rw [notesOf, filterMap_isortBy itemLt_order (lt' := fun a b => itemLt (.note a) (.note b)) noteOf
    (fun a b x y ha hb => by cases a <;> cases ha; cases b <;> cases hb; rfl), (filterMap_items A O).1]
  exact isortBy_of_sorted (List.pairwise_map.mp (sortedBy_map_note h))

theorem othersOf_merged (A : List Placed) (O : List OtherIn) :
    othersOf (isortBy itemLt (A.map Item.note ++ O.map Item.other)) = isortBy otherLt O := by
  rw [othersOf, filterMap_isortBy itemLt_order (lt' := otherLt) otherOf
    (fun a b x y ha hb => by cases a <;> cases ha; cases b <;> cases hb; rfl), (filterMap_items A O).2]

theorem placeItems_ne_nil (items : List Item) (lastT lno : Nat) (h : items ≠ []) :
    placeItems lastT lno items ≠ [] := by
  cases items with
  | nil => exact absurd rfl h
  | cons x rest => cases x <;> simp [placeItems]

theorem head_fb_append (t p a : Nat) (ev : Ev) (r : List Out) :
    ∀ e ∈ (fb t p ++ { onset := t, after := a, ev := ev } :: r).head?, e.onset = p := by
  intro e he
  unfold fb at he
  split at he
  · cases he; rfl
  · split at he
    · cases he; rfl
    · cases he; show t = p; omega

theorem head_placeItems (items : List Item) (t : Nat) (e : Out) (r : List Out)
    (h : placeItems t t items = e :: r) : e.onset = t := by
  have he : e ∈ (placeItems t t items).head? := by rw [h]; rfl
  cases items with
  | nil => cases he
  | cons x rest =>
    cases x with
    | note p => simp only [placeItems, ite_self] at he; exact head_fb_append _ t _ _ _ e he
    | other o => simp only [placeItems] at he; exact head_fb_append _ t _ _ _ e he

theorem lastAfter_ne_nil (a b : Nat) (l : List Out) (h : l ≠ []) : lastAfter a l = lastAfter b l := by
  unfold lastAfter
  rw [List.getLast?_eq_some_getLast h]

/-- the notes of one voice: inside the measure, in the order of their onsets, every `<chord/>` note behind its note -/
structure VoiceOK (st B : Nat) (A : List Placed) : Prop where
  ok : ∀ p ∈ A, PlacedOK st B p
  sorted : OnsetSorted A
  chord : ChordOKP none A

theorem reads_mergeWithVoice (spec : Bool) {st B : Nat} {A : List Placed} {O : List OtherIn} (s : RState)
    (hA : VoiceOK st B A) (hO : ∀ o ∈ O, OtherOK st B o) (hin : Inside st B s) :
    ReadsAs spec st B s ((mergeWithVoice A O s.pos).map (·.ev)) (A.map Placed.out) ((isortBy otherLt O).map okey)
      (lastAfter s.pos (mergeWithVoice A O s.pos)) := by
  -- the loop starts ready: the sorted items of the voice and the other elements, the reader at the start
  have hready : Ready st B (isortBy itemLt (A.map Item.note ++ O.map Item.other)) s.pos s.pos none none s := by
    refine ⟨isortBy_sorted itemLt_order _, (by intro l hl; cases hl),
      (by rw [notesOf_merged O hA.sorted]; exact hA.chord), ?_, rfl, hin,
      (by intro t d h; cases h)⟩
    intro it hit
    rw [(isSort _).mem, List.mem_append] at hit
    rcases hit with hit | hit
    · obtain ⟨p, hp, rfl⟩ := List.mem_map.mp hit; exact hA.ok p hp
    · obtain ⟨o, ho, rfl⟩ := List.mem_map.mp hit; exact hO o ho
  have h := reads_placeItems spec st B _ s.pos s.pos none none s hready
  rw [notesOf_merged O hA.sorted, othersOf_merged] at h
  exact h

/-- where the stream of a later voice starts -/
def firstOnset (start : Nat) (ns : List Placed) : Nat :=
  match ns with
  | [] => start
  | p :: _ => p.onset

/-- the `<backup>`/`<forward>` of a voice switch followed by the stream of the voice -/
def voiceEvs (A : List Placed) (O' : List OtherIn) (t0 pos : Nat) : List Ev :=
  (match mergeWithVoice A O' t0 with
    | [] => []
    | e :: _ => (fb e.onset pos).map (·.ev)) ++ (mergeWithVoice A O' t0).map (·.ev)

theorem reads_voice (spec : Bool) {st B : Nat} {A : List Placed} {O' : List OtherIn} (t0 : Nat) (s : RState)
    (hA : VoiceOK st B A) (hO : ∀ o ∈ O', OtherOK st B o) (hin : Inside st B s) (hst0 : st ≤ t0) (ht0B : t0 ≤ B) :
    ReadsAs spec st B s (voiceEvs A O' t0 s.pos) (A.map Placed.out) ((isortBy otherLt O').map okey)
      (lastAfter s.pos (mergeWithVoice A O' t0)) := by
  unfold voiceEvs
  cases helem : mergeWithVoice A O' t0 with
  | nil =>
    -- nothing is written for a voice without notes that carries no other elements
    obtain ⟨hA0, hO0⟩ : A = [] ∧ O' = [] := by
      have := isortBy_eq_nil (Classical.byContradiction fun h => placeItems_ne_nil _ t0 t0 h helem)
      simpa using this
    subst hA0 hO0
    exact ReadsAs.nil hin
  | cons e r =>
    have he : e.onset = t0 := head_placeItems _ t0 e r helem
    simp only [he]
    rw [← helem]
    refine (readsAs_fb spec hin hst0 ht0B).append fun s1 hp hin1 => ?_
    subst hp
    rw [lastAfter_ne_nil s.pos s1.pos _ (by rw [helem]; simp)]
    exact reads_mergeWithVoice spec s1 hA hO hin1

theorem mergeVoices_cons_first (O : List OtherIn) (start pos v : Nat) (ns : List Placed)
    (rest : List (Nat × List Placed)) :
    mergeVoices O start true pos ((v, ns) :: rest) =
      (voiceEvs ns O start pos ++ (mergeVoices O start false (lastAfter pos (mergeWithVoice ns O start)) rest).1,
       (mergeVoices O start false (lastAfter pos (mergeWithVoice ns O start)) rest).2) := by
  simp only [mergeVoices, voiceEvs, List.append_assoc]; rfl

theorem mergeVoices_cons_later (O : List OtherIn) (start pos v : Nat) (ns : List Placed)
    (rest : List (Nat × List Placed)) :
    mergeVoices O start false pos ((v, ns) :: rest) =
      (voiceEvs ns [] (firstOnset start ns) pos ++
        (mergeVoices O start false (lastAfter pos (mergeWithVoice ns [] (firstOnset start ns))) rest).1,
       (mergeVoices O start false (lastAfter pos (mergeWithVoice ns [] (firstOnset start ns))) rest).2) := by
  cases ns <;> (simp only [mergeVoices, voiceEvs, List.append_assoc, firstOnset]; rfl)

/-- the voices of a segment one after the other; the other elements travel with the first voice -/
theorem reads_mergeVoices (spec : Bool) {st B start : Nat} {O : List OtherIn} (hO : ∀ o ∈ O, OtherOK st B o)
    (hstart : st ≤ start) (hstartB : start ≤ B) :
    ∀ (voices : List (Nat × List Placed)) (first : Bool) (s : RState), (∀ v ∈ voices, VoiceOK st B v.2) → Inside st B s →
      ReadsAs spec st B s (mergeVoices O start first s.pos voices).1 ((voices.flatMap (·.2)).map Placed.out)
        (if first = true ∧ voices ≠ [] then (isortBy otherLt O).map okey else [])
        (mergeVoices O start first s.pos voices).2 := by
  intro voices
  induction voices with
  | nil =>
    intro first s _ hin
    rw [if_neg (by simp)]
    exact ReadsAs.nil hin
  | cons vn rest ih =>
    intro first s hv hin
    obtain ⟨v, ns⟩ := vn
    have hA : VoiceOK st B ns := hv (v, ns) (List.mem_cons_self ..)
    have key : ∀ (O' : List OtherIn) (t0 : Nat), (∀ o ∈ O', OtherOK st B o) → st ≤ t0 → t0 ≤ B →
        ReadsAs spec st B s
          (voiceEvs ns O' t0 s.pos ++ (mergeVoices O start false (lastAfter s.pos (mergeWithVoice ns O' t0)) rest).1)
          ((((v, ns) :: rest).flatMap (·.2)).map Placed.out) ((isortBy otherLt O').map okey)
          (mergeVoices O start false (lastAfter s.pos (mergeWithVoice ns O' t0)) rest).2 := by
      intro O' t0 hO' hst0 ht0B
      rw [List.flatMap_cons, List.map_append, ← List.append_nil ((isortBy otherLt O').map okey)]
      refine (reads_voice spec t0 s hA hO' hin hst0 ht0B).append fun s1 hp hin1 => ?_
      have h := ih false s1 (fun v h => hv v (List.mem_cons_of_mem _ h)) hin1
      rwa [if_neg (by simp), hp] at h
    cases first
    · rw [mergeVoices_cons_later, if_neg (by simp)]
      have ht0 : st ≤ firstOnset start ns ∧ firstOnset start ns ≤ B := by
        cases ns with
        | nil => exact ⟨hstart, hstartB⟩
        | cons p r =>
          obtain ⟨h1, h2, _⟩ := hA.ok p (List.mem_cons_self ..)
          exact ⟨h1, by simp only [firstOnset]; omega⟩
      exact key [] _ (by intro o ho; cases ho) ht0.1 ht0.2
    · rw [mergeVoices_cons_first, if_pos ⟨rfl, by simp⟩]
      exact key O start hO hstart hstartB

end C03.Reader
