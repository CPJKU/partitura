/-
C07 — `FractionalSymbolicDuration.bound_integers` (Model/MatchCodec.lean `boundInts`, `Frac.mkB`, `Frac.addB`,
`fracFromStringB`, `decTsigB`): the total model refines the exact fragment (`Frac.mk?`, `Frac.add?`,
`fracFromString`, `decTsig`), and the structure of the approximation (first minimum over the table).
-/
import PartituraModel.Model.MatchCodec
import PartituraModel.Proofs.C07Frac
import PartituraModel.Proofs.Lists

open Model.MatchCodec

namespace C07Bound

theorem boundInts_in (n d : Nat) (t : Option Nat) (hn : n ≤ BOUND) (hd : d ≤ BOUND) :
    boundInts n d t = some (n, d) := by
  unfold boundInts
  have : ¬ (n > BOUND ∨ d > BOUND) := by omega
  simp only [this, if_false]

theorem mkB_of_mk? (n d : Nat) (t : Option Nat) (f : Frac) (h : Frac.mk? n d t = some f) :
    Frac.mkB n d t = some f := by
  obtain ⟨rfl, hn, hd⟩ := C07Codec.mk?_some n d t f h
  unfold Frac.mkB
  rw [boundInts_in n d t hn hd]
  rfl

theorem addB_of_add? (a b c : Frac) (h : Frac.add? a b = some c) : Frac.addB a b = some c := by
  obtain ⟨hda, hdb, hn, hl, rfl⟩ := C07Codec.add?_eq_some a b c h
  unfold Frac.addB
  simp only [hda, hdb, or_self, if_false, boundInts_in _ _ none hn hl, Option.map_some]

def stepB (acc p : Frac) : Except DecErr Frac :=
  match Frac.addB acc p with
  | some r => .ok r
  | none => .error .value

theorem fracSumB_eq (ps : List Frac) :
    fracSumB ps = ps.foldlM stepB { num := 0, den := 1, tdiv := none, add := none } := rfl

theorem foldlM_refines (ps : List Frac) (acc f : Frac) (h : ps.foldlM C07Codec.stepF acc = .ok f) :
    ps.foldlM stepB acc = .ok f :=
  C07Codec.foldlM_stepF (R := fun ps acc f => ps.foldlM stepB acc = .ok f) (fun _ => rfl)
    (fun p ps acc r1 r ha _ ih => by
      simp only [List.foldlM_cons, bind, Except.bind, stepB, addB_of_add? acc p r1 ha]
      exact ih) ps acc f h
theorem fracSumB_of (ps : List Frac) (f : Frac) (h : fracSum ps = .ok f) : fracSumB ps = .ok f := by
  rw [fracSumB_eq]
  rw [C07Codec.fracSum_eq] at h
  exact foldlM_refines ps _ f h

/-- the interpreter of one `+`-separated part of `fracFromStringB` -/
def oneB (x : List Char) : Except DecErr Frac :=
  match fracSimple x with
  | none => .error .value
  | some (n, d, t) => match Frac.mkB n d t with
    | some f => .ok f
    | none => .error .value

theorem fracFromStringB_eq (s : List Char) : fracFromStringB s =
    match fracSimple s with
    | some (n, d, t) => (match Frac.mkB n d t with | some f => .ok f | none => .error .value)
    | none =>
      if (splitOn '+' s).length > 1 then do
        let ps ← (splitOn '+' s).mapM oneB
        if ps.any (fun p => p.fullDen = 0) then .error .value else fracSumB ps
      else .error .value := rfl

theorem oneB_of (x : List Char) (f : Frac) (h : C07Codec.oneF x = .ok f) : oneB x = .ok f := by
  unfold C07Codec.oneF at h
  unfold oneB
  cases hs : fracSimple x with
  | none => simp [hs] at h
  | some ndt =>
    obtain ⟨n, d, t⟩ := ndt
    simp only [hs] at h ⊢
    cases hm : Frac.mk? n d t with
    | none => simp [hm] at h
    | some g =>
      simp only [hm] at h
      injection h with h
      subst h
      simp only [mkB_of_mk? n d t g hm]

theorem mapM_of_refines {α β ε : Type} (f g : α → Except ε β) (hfg : ∀ x y, f x = .ok y → g x = .ok y)
    (xs : List α) (ys : List β) (h : xs.mapM f = .ok ys) : xs.mapM g = .ok ys :=
  Lists.mapM_ok_iff_forall₂.mpr ((Lists.mapM_ok_iff_forall₂.mp h).imp hfg)

theorem fracFromStringB_of_ok (s : List Char) (f : Frac) (h : fracFromString s = .ok f) :
    fracFromStringB s = .ok f := by
  rw [fracFromStringB_eq]
  rcases C07Codec.fracFromString_ok s f h with ⟨hs, h1⟩ | ⟨hs, hlen, ps, hm, hany, hsum⟩
  · -- a simple duration is read as a single part
    obtain ⟨ndt, hs⟩ := Option.isSome_iff_exists.mp hs
    simpa only [oneB, hs] using oneB_of s f h1
  · simp only [hs, hlen, if_true, bind, Except.bind, mapM_of_refines _ _ oneB_of _ ps hm, hany, Bool.false_eq_true,
      if_false]
    exact fracSumB_of ps f hsum
theorem decTsigB_of_ok (s : List Char) (t : TimeSig) (h : decTsig s = .ok t) : decTsigB s = .ok t := by
  unfold decTsig at h
  unfold decTsigB
  simp only [bind, Except.bind] at h ⊢
  cases hm : (decList (strip s)).mapM fracFromString with
  | error e => simp [hm] at h
  | ok fs =>
    simp only [hm] at h
    simp only [mapM_of_refines _ _ fracFromStringB_of_ok _ fs hm]
    exact h

/-- `np.argmin` as a loop: the result stands among the candidates (the running best in front); those before it
    are strictly worse, those behind it are not better -/
theorem bestDen_spec (val : Rat) (l : List Nat) (best : Nat) :
    ∃ l1 l2, best :: l = l1 ++ bestDen val l best (boundDif val best) :: l2 ∧
      (∀ x ∈ l1, boundDif val (bestDen val l best (boundDif val best)) < boundDif val x) ∧
      (∀ x ∈ l2, boundDif val (bestDen val l best (boundDif val best)) ≤ boundDif val x) := by
  -- `bestDen` is the scan of `Lists.scan_first_min` for "strictly smaller error" (it carries no positions)
  obtain ⟨l1, m, l2, e, hm, h1, h2⟩ := Lists.scan_first_min (p := fun x y => boundDif val x < boundDif val y)
    (scan := fun l _ _ b => bestDen val l b (boundDif val b)) (out := fun _ b => b)
    (hnil := fun _ _ _ => rfl) (hcons := fun _ _ _ _ _ => rfl) (trans := fun _ _ _ => lt_trans)
    (negtrans := fun _ _ _ h1 h2 => not_lt.mpr (le_trans (not_lt.mp h2) (not_lt.mp h1))) best l
  exact ⟨l1, l2, hm ▸ e, hm ▸ h1, fun x hx => not_lt.mp (hm ▸ h2 x hx)⟩

theorem chooseDen_mem (val : Rat) (l : List Nat) (h : l ≠ []) : chooseDen val l ∈ l := by
  cases l with
  | nil => exact absurd rfl h
  | cons d r =>
    obtain ⟨l1, l2, hl, -, -⟩ := bestDen_spec val r d
    show bestDen val r d (boundDif val d) ∈ d :: r
    rw [hl]; simp

theorem chooseDen_min (val : Rat) (l : List Nat) : ∀ d ∈ l, boundDif val (chooseDen val l) ≤ boundDif val d := by
  cases l with
  | nil => intro d hd; simp at hd
  | cons d0 r =>
    obtain ⟨l1, l2, hl, h1, h2⟩ := bestDen_spec val r d0
    intro d hd
    rw [hl, List.mem_append, List.mem_cons] at hd
    rcases hd with hd | rfl | hd
    · exact Rat.le_of_lt (h1 d hd)
    · exact Rat.le_refl
    · exact h2 d hd

/-- `np.argmin` returns the FIRST minimum: everything in front of the chosen candidate is strictly worse -/
theorem chooseDen_first (val : Rat) (l l1 l2 : List Nat) (hl : l = l1 ++ chooseDen val l :: l2)
    (hnot : chooseDen val l ∉ l1) : ∀ x ∈ l1, boundDif val (chooseDen val l) < boundDif val x := by
  cases l with
  | nil => simp at hl
  | cons d0 r =>
    obtain ⟨m1, m2, hm, h1, -⟩ := bestDen_spec val r d0
    have hm1 : chooseDen val (d0 :: r) ∉ m1 := fun h => absurd (h1 _ h) (Rat.lt_irrefl)
    rw [(Lists.sep_unique hnot hm1 (hl.symm.trans hm)).1]
    exact h1
end C07Bound
