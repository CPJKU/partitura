/-
C04 — the helper dictionaries of `map_to_track_channel` / `assign_group_part_voice` hand out ranks that
identify their keys: two inputs get the same rank exactly when they are equal (for the nested helper:
when they are equal under the same outer key).  The columns of the six modes are rank columns, paired and
wrapped (`Tells`): which keys share a track, a (track, channel) pair, a cell.
-/
import PartituraModel.Model.MidiModes
import PartituraModel.Proofs.C04Group

namespace C04M
open Model Model.MidiModes

section generic
variable {α : Type} [DecidableEq α]

theorem indexOf_append (x : α) (d e : List α) (i : Nat) (h : indexOf x d = some i) : indexOf x (d ++ e) = some i := by
  obtain ⟨hm, rfl⟩ := indexOf_eq_some_iff.mp h
  exact indexOf_eq_some_iff.mpr ⟨List.mem_append_left _ hm, List.idxOf_append_of_mem hm⟩

theorem indexOf_append_new (x : α) (d : List α) (h : x ∉ d) : indexOf x (d ++ [x]) = some d.length := by
  refine indexOf_eq_some_iff.mpr ⟨List.mem_append_right _ (List.mem_singleton_self x), ?_⟩
  rw [List.idxOf_append_of_notMem h, List.idxOf_cons_self, Nat.add_zero]

theorem setdefaultRank_spec (d : List α) (x : α) :
    indexOf x (setdefaultRank d x).1 = some (setdefaultRank d x).2 ∧
    ∀ y i, indexOf y d = some i → indexOf y (setdefaultRank d x).1 = some i := by
  unfold setdefaultRank
  cases h : indexOf x d with
  | some i => exact ⟨h, fun y j hy => hy⟩
  | none => exact ⟨indexOf_append_new x d (indexOf_eq_none_iff.mp h), fun y j hy => indexOf_append y d [x] j hy⟩

theorem rankLoop_length (d xs : List α) : (rankLoop d xs).length = xs.length := by
  induction xs generalizing d with
  | nil => rfl
  | cons x xs ih => simp [rankLoop, ih]

/-- the ranks a run hands out are the positions of the inputs in the dict it ends with -/
theorem rankLoop_index (d xs : List α) :
    ∃ D : List α, (∀ y i, indexOf y d = some i → indexOf y D = some i) ∧
      ∀ p ∈ xs.zip (rankLoop d xs), indexOf p.1 D = some p.2 := by
  induction xs generalizing d with
  | nil => exact ⟨d, fun _ _ h => h, fun p hp => by cases hp⟩
  | cons x xs ih =>
    obtain ⟨s1, s2⟩ := setdefaultRank_spec d x
    obtain ⟨D, hD, hall⟩ := ih (setdefaultRank d x).1
    refine ⟨D, fun y i h => hD y i (s2 y i h), fun p hp => ?_⟩
    rw [rankLoop, List.zip_cons_cons, List.mem_cons] at hp
    rcases hp with rfl | hp
    · exact hD x _ s1
    · exact hall p hp

theorem rankLoop_inj (d xs : List α) :
    ∀ p ∈ xs.zip (rankLoop d xs), ∀ q ∈ xs.zip (rankLoop d xs), (p.2 = q.2 ↔ p.1 = q.1) := by
  obtain ⟨D, _, hall⟩ := rankLoop_index d xs
  intro p hp q hq
  have h1 := hall p hp
  have h2 := hall q hq
  constructor
  · intro h
    exact indexOf_inj h1 (h ▸ h2)
  · intro h
    rw [h, h2] at h1
    exact (Option.some.inj h1).symm

end generic

section nested
variable {α β : Type} [DecidableEq α] [DecidableEq β]

theorem setdefaultNested_eq (d : List (α × List β)) (a : α) (b : β) :
    (setdefaultNested d a b).1 =
      C04D.upsert d a (fun _ => (setdefaultRank (innerOf d a) b).1) (setdefaultRank (innerOf d a) b).1 := by
  unfold setdefaultNested C04D.upsert
  cases h : lookup a d with
  | some inner =>
    rw [Dicts.upsert_of_key (not_not.mp fun hk => by rw [lookup_eq_none_iff.mpr hk] at h; cases h)]
    refine List.map_congr_left fun e _ => ?_
    split
    · rename_i he
      rw [he]
    · rfl
  | none => rw [Dicts.upsert_of_not_key (lookup_eq_none_iff.mp h)]

theorem setdefaultNested_spec (d : List (α × List β)) (a : α) (b : β) :
    (setdefaultNested d a b).2 = (setdefaultRank (innerOf d a) b).2 ∧
    ∀ a', innerOf (setdefaultNested d a b).1 a' = if a' = a then (setdefaultRank (innerOf d a) b).1 else innerOf d a' := by
  refine ⟨by unfold setdefaultNested; cases lookup a d <;> rfl, fun a' => ?_⟩
  rw [innerOf, setdefaultNested_eq, C04D.lookup_upsert]
  by_cases ha' : a' = a
  · rw [if_pos ha'.symm, if_pos ha']
    cases lookup a d <;> rfl
  · rw [if_neg fun h => ha' h.symm, if_neg ha']
    rfl

theorem nestedLoop_length (d : List (α × List β)) (ps : List (α × β)) : (nestedLoop d ps).length = ps.length := by
  induction ps generalizing d with
  | nil => rfl
  | cons p ps ih => obtain ⟨a, b⟩ := p; simp [nestedLoop, ih]

theorem nestedLoop_index (d : List (α × List β)) (ps : List (α × β)) :
    ∃ D : α → List β, (∀ a y i, indexOf y (innerOf d a) = some i → indexOf y (D a) = some i) ∧
      ∀ p ∈ ps.zip (nestedLoop d ps), indexOf p.1.2 (D p.1.1) = some p.2 := by
  induction ps generalizing d with
  | nil => exact ⟨innerOf d, fun _ _ _ h => h, fun p hp => by cases hp⟩
  | cons x ps ih =>
    obtain ⟨a, b⟩ := x
    obtain ⟨n1, n2⟩ := setdefaultNested_spec d a b
    obtain ⟨s1, s2⟩ := setdefaultRank_spec (innerOf d a) b
    obtain ⟨D, hD, hall⟩ := ih (setdefaultNested d a b).1
    refine ⟨D, fun a' y i h => hD a' y i ?_, fun p hp => ?_⟩
    · rw [n2 a']
      split
      · rename_i ha
        subst ha
        exact s2 y i h
      · exact h
    · rw [nestedLoop, List.zip_cons_cons, List.mem_cons] at hp
      rcases hp with rfl | hp
      · refine hD a b _ ?_
        rw [n2 a, if_pos rfl, n1]
        exact s1
      · exact hall p hp

theorem nestedLoop_inj (d : List (α × List β)) (ps : List (α × β)) :
    ∀ p ∈ ps.zip (nestedLoop d ps), ∀ q ∈ ps.zip (nestedLoop d ps), p.1.1 = q.1.1 → (p.2 = q.2 ↔ p.1.2 = q.1.2) := by
  obtain ⟨D, _, hall⟩ := nestedLoop_index d ps
  intro p hp q hq hpq
  have h1 := hall p hp
  have h2 := hall q hq
  rw [hpq] at h1
  constructor
  · intro h
    exact indexOf_inj h1 (h ▸ h2)
  · intro h
    rw [h, h2] at h1
    exact (Option.some.inj h1).symm

end nested

section zips
variable {α α' β β' γ : Type}

theorem exists_zip_left {l : List α} {r : List β} (h : l.length ≤ r.length) {a : α} (ha : a ∈ l) : ∃ b, (a, b) ∈ l.zip r := by
  obtain ⟨p, hp, rfl⟩ := List.mem_map.mp (by rw [List.map_fst_zip h]; exact ha : a ∈ (l.zip r).map Prod.fst)
  exact ⟨p.2, hp⟩

theorem exists_zip_right {l : List α} {r : List β} (h : r.length ≤ l.length) {b : β} (hb : b ∈ r) : ∃ a, (a, b) ∈ l.zip r := by
  obtain ⟨p, hp, rfl⟩ := List.mem_map.mp (by rw [List.map_snd_zip h]; exact hb : b ∈ (l.zip r).map Prod.snd)
  exact ⟨p.1, hp⟩

theorem mem_zip_zip {l1 : List α} {l2 : List β} {l3 : List γ} {a : α} {b : β} {c : γ}
    (h : (a, (b, c)) ∈ l1.zip (l2.zip l3)) : (a, b) ∈ l1.zip l2 ∧ (a, c) ∈ l1.zip l3 := by
  obtain ⟨i, hi, he⟩ := List.mem_iff_getElem.mp h
  simp only [List.getElem_zip, Prod.mk.injEq] at he
  simp only [List.length_zip, Nat.lt_min] at hi
  exact ⟨List.mem_iff_getElem.mpr ⟨i, by rw [List.length_zip]; exact Nat.lt_min.mpr ⟨hi.1, hi.2.1⟩, by simp [he.1, he.2.1]⟩,
    List.mem_iff_getElem.mpr ⟨i, by rw [List.length_zip]; exact Nat.lt_min.mpr ⟨hi.1, hi.2.2⟩, by simp [he.1, he.2.2]⟩⟩

theorem mem_zip_map_left (f : α → α') {l1 : List α} {l2 : List β} {a : α} {b : β}
    (h : (a, b) ∈ l1.zip l2) : (f a, b) ∈ (l1.map f).zip l2 := by
  rw [List.zip_map_left]
  exact List.mem_map.mpr ⟨(a, b), h, rfl⟩

theorem mem_zip_map_right (g : β → β') {l1 : List α} {l2 : List β} {a : α} {b' : β'}
    (h : (a, b') ∈ l1.zip (l2.map g)) : ∃ b, (a, b) ∈ l1.zip l2 ∧ g b = b' := by
  rw [List.zip_map_right] at h
  obtain ⟨⟨a', b⟩, hm, he⟩ := List.mem_map.mp h
  cases he
  exact ⟨b, hm, rfl⟩

end zips

section tells
variable {κ ν ν' μ μ' α β : Type} [DecidableEq α] [DecidableEq β]

/-- the entries of the column `col` (aligned with `keys`), seen through `g`, agree exactly on the keys `R` relates -/
def Tells (keys : List κ) (col : List ν) (g : ν → μ) (R : κ → κ → Prop) : Prop :=
  ∀ a ∈ keys.zip col, ∀ b ∈ keys.zip col, (g a.2 = g b.2 ↔ R a.1 b.1)

omit [DecidableEq α] [DecidableEq β] in
theorem Tells.congr {keys : List κ} {col : List ν} {g : ν → μ} {g' : ν → μ'} {R R' : κ → κ → Prop}
    (hg : ∀ x y, g' x = g' y ↔ g x = g y) (hR : ∀ a b, R a b ↔ R' a b) (H : Tells keys col g R) :
    Tells keys col g' R' :=
  fun a ha b hb => (hg a.2 b.2).trans ((H a ha b hb).trans (hR a.1 b.1))

omit [DecidableEq α] [DecidableEq β] in
theorem Tells.map {keys : List κ} {col : List ν} (h : ν → ν') {g : ν' → μ} {R : κ → κ → Prop}
    (H : Tells keys col (fun x => g (h x)) R) : Tells keys (col.map h) g R := by
  rintro ⟨ka, va⟩ ha ⟨kb, vb⟩ hb
  obtain ⟨xa, hxa, rfl⟩ := mem_zip_map_right h ha
  obtain ⟨xb, hxb, rfl⟩ := mem_zip_map_right h hb
  exact H (ka, xa) hxa (kb, xb) hxb

omit [DecidableEq α] [DecidableEq β] in
theorem Tells.zip_fst {keys : List κ} {c1 : List ν} (c2 : List ν') {g : ν → μ} {R : κ → κ → Prop}
    (H : Tells keys c1 g R) : Tells keys (c1.zip c2) (fun x => g x.1) R := by
  rintro ⟨ka, xa, ya⟩ ha ⟨kb, xb, yb⟩ hb
  exact H (ka, xa) (mem_zip_zip ha).1 (kb, xb) (mem_zip_zip hb).1

omit [DecidableEq α] [DecidableEq β] in
theorem Tells.zip_snd {keys : List κ} (c1 : List ν) {c2 : List ν'} {g : ν' → μ} {R : κ → κ → Prop}
    (H : Tells keys c2 g R) : Tells keys (c1.zip c2) (fun x => g x.2) R := by
  rintro ⟨ka, xa, ya⟩ ha ⟨kb, xb, yb⟩ hb
  exact H (ka, ya) (mem_zip_zip ha).2 (kb, yb) (mem_zip_zip hb).2

omit [DecidableEq α] [DecidableEq β] in
theorem tells_const (keys : List κ) (c : ν) (g : ν → μ) : Tells keys (keys.map fun _ => c) g (fun _ _ => True) := by
  rintro ⟨ka, va⟩ ha ⟨kb, vb⟩ hb
  obtain ⟨_, _, rfl⟩ := mem_zip_map_right _ ha
  obtain ⟨_, _, rfl⟩ := mem_zip_map_right _ hb
  exact iff_true_intro rfl

omit [DecidableEq β] in
theorem tells_ranks (f : κ → α) (keys : List κ) : Tells keys (ranks (keys.map f)) id (fun a b => f a = f b) := by
  intro a ha b hb
  exact rankLoop_inj [] (keys.map f) (f a.1, a.2) (mem_zip_map_left f ha) (f b.1, b.2) (mem_zip_map_left f hb)

omit [DecidableEq β] in
theorem tells_ranks_self (keys : List α) : Tells keys (ranks keys) id (fun a b => a = b) := by
  have := tells_ranks id keys
  rwa [List.map_id] at this

theorem tells_ranks_nranks (f : κ → α) (g : κ → β) (keys : List κ) :
    Tells keys ((ranks (keys.map f)).zip (nranks (keys.map fun k => (f k, g k)))) id
      (fun a b => f a = f b ∧ g a = g b) := by
  rintro ⟨ka, ra, na⟩ ha ⟨kb, rb, nb⟩ hb
  obtain ⟨ha1, ha2⟩ := mem_zip_zip ha
  obtain ⟨hb1, hb2⟩ := mem_zip_zip hb
  have r := tells_ranks f keys (ka, ra) ha1 (kb, rb) hb1
  have n := nestedLoop_inj [] (keys.map fun k => (f k, g k)) ((f ka, g ka), na)
    (mem_zip_map_left (fun k => (f k, g k)) ha2) ((f kb, g kb), nb) (mem_zip_map_left (fun k => (f k, g k)) hb2)
  simp only [id, Prod.mk.injEq] at r n ⊢
  exact ⟨fun ⟨h1, h2⟩ => ⟨r.mp h1, (n (r.mp h1)).mp h2⟩, fun ⟨h1, h2⟩ => ⟨r.mpr h1, (n h1).mpr h2⟩⟩

end tells

/-- which keys share a track / a (track, channel) pair, per export mode -/
def SameTrack (mode : Nat) (a b : Key) : Prop :=
  match mode with
  | 0 => kPart a = kPart b
  | 1 => kGroup a = kGroup b
  | 2 => True
  | 3 => kPart a = kPart b
  | 4 => True
  | _ => kPart a = kPart b ∧ kVoice a = kVoice b

def SameTC (mode : Nat) (a b : Key) : Prop :=
  match mode with
  | 0 => kPart a = kPart b ∧ kVoice a = kVoice b
  | 1 => kGroup a = kGroup b ∧ kPart a = kPart b
  | 2 => kPart a = kPart b
  | 3 => kPart a = kPart b
  | 4 => True
  | _ => kPart a = kPart b ∧ kVoice a = kVoice b

theorem export_modes (mode : Nat) (hm : mode ≤ 5) (keys : List Key) (tcs : List (Nat × Nat))
    (h : mapToTrackChannel mode keys = some tcs) :
    ∀ a ∈ keys.zip tcs, ∀ b ∈ keys.zip tcs,
      (a.2.1 = b.2.1 ↔ SameTrack mode a.1 b.1) ∧ (a.2 = b.2 ↔ SameTC mode a.1 b.1) := by
  suffices H : Tells keys tcs Prod.fst (SameTrack mode) ∧ Tells keys tcs id (SameTC mode) from
    fun a ha b hb => ⟨H.1 a ha b hb, H.2 a ha b hb⟩
  -- the columns are rank columns, paired and shifted
  match mode, hm with
  | 0, _ =>
    cases h
    rw [List.zip_map_right]
    refine ⟨Tells.map _ ?_, Tells.map _ ?_⟩
    · exact (tells_ranks kPart keys).zip_fst _
    · exact (tells_ranks_nranks kPart kVoice keys).congr (by simp [Prod.ext_iff]) fun _ _ => Iff.rfl
  | 1, _ =>
    cases h
    rw [List.zip_map_right]
    refine ⟨Tells.map _ ?_, Tells.map _ ?_⟩
    · exact (tells_ranks kGroup keys).zip_fst _
    · exact (tells_ranks_nranks kGroup kPart keys).congr (by simp [Prod.ext_iff]) fun _ _ => Iff.rfl
  | 2, _ =>
    cases h
    exact ⟨Tells.map _ fun _ _ _ _ => iff_true_intro rfl,
      ((tells_ranks kPart keys).congr (by simp) fun _ _ => Iff.rfl).map _⟩
  | 3, _ =>
    cases h
    refine ⟨Tells.map _ ?_, Tells.map _ ?_⟩
    · exact tells_ranks kPart keys
    · exact (tells_ranks kPart keys).congr (by simp) fun _ _ => Iff.rfl
  | 4, _ =>
    cases h
    exact ⟨tells_const keys _ _, tells_const keys _ _⟩
  | 5, _ =>
    cases h
    have T := (tells_ranks (fun k => (kPart k, kVoice k)) keys).congr (fun _ _ => Iff.rfl) fun _ _ => Prod.ext_iff
    refine ⟨Tells.map _ ?_, Tells.map _ ?_⟩
    · exact T
    · exact T.congr (by simp) fun _ _ => Iff.rfl

/-- which (track, channel) pairs land in the same (part, voice) cell / the same part group, per import mode -/
def SameCellIn (mode : Nat) (a b : Nat × Nat) : Prop :=
  match mode with
  | 0 => a = b
  | 1 => a = b
  | 2 => a.1 = b.1
  | 3 => a.1 = b.1
  | 4 => True
  | _ => a = b

theorem import_modes (mode : Nat) (hm : mode ≤ 5) (trch : List (Nat × Nat)) :
    ∀ a ∈ trch.zip (assignGroupPartVoice mode trch), ∀ b ∈ trch.zip (assignGroupPartVoice mode trch),
      ((a.2.2.1 = b.2.2.1 ∧ a.2.2.2 = b.2.2.2) ↔ SameCellIn mode a.1 b.1) ∧
      (mode = 1 → (a.2.1 = b.2.1 ↔ a.1.1 = b.1.1)) := by
  suffices H : Tells trch (assignGroupPartVoice mode trch) (fun c => c.2) (SameCellIn mode) ∧
      (mode = 1 → Tells trch (assignGroupPartVoice mode trch) (fun c => c.1) (fun a b => a.1 = b.1)) from
    fun a ha b hb => ⟨Prod.ext_iff.symm.trans (H.1 a ha b hb), fun h1 => H.2 h1 a ha b hb⟩
  have track := tells_ranks (fun x : Nat × Nat => x.1) trch
  match mode, hm with
  | 0, _ =>
    have T := tells_ranks_nranks (fun x : Nat × Nat => x.1) (fun x => x.2) trch
    rw [show trch.map (fun k => (k.1, k.2)) = trch from List.map_id' trch] at T
    refine ⟨?_, fun h => absurd h (by decide)⟩
    show Tells trch (List.zipWith _ _ _) _ _
    rw [← List.map_uncurry_zip_eq_zipWith]
    exact (T.congr (by simp [Prod.ext_iff]) fun _ _ => Prod.ext_iff.symm).map _
  | 1, _ =>
    show Tells trch (List.zipWith _ _ _) _ _ ∧ (_ → Tells trch (List.zipWith _ _ _) _ _)
    rw [← List.map_uncurry_zip_eq_zipWith]
    exact ⟨(((tells_ranks_self trch).zip_snd _).congr (by simp) fun _ _ => Iff.rfl).map _,
      fun _ => ((track.zip_fst _).congr (by simp) fun _ _ => Iff.rfl).map _⟩
  | 2, _ => exact ⟨(track.congr (by simp) fun _ _ => Iff.rfl).map _, fun h => absurd h (by decide)⟩
  | 3, _ => exact ⟨(track.congr (by simp) fun _ _ => Iff.rfl).map _, fun h => absurd h (by decide)⟩
  | 4, _ => exact ⟨tells_const trch _ _, fun h => absurd h (by decide)⟩
  | 5, _ =>
    exact ⟨((tells_ranks_self trch).congr (by simp) fun _ _ => Iff.rfl).map _, fun h => absurd h (by decide)⟩

/-- one (track, channel) per key; a mode outside 0..5 only passes on an empty key list -/
theorem mapToTrackChannel_length (mode : Nat) (keys : List Key) (tcs : List (Nat × Nat))
    (h : mapToTrackChannel mode keys = some tcs) : tcs.length = keys.length := by
  have r1 : ∀ {α : Type} [DecidableEq α] (xs : List α), (ranks xs).length = xs.length := fun xs => rankLoop_length [] xs
  have r2 : ∀ {α β : Type} [DecidableEq α] [DecidableEq β] (xs : List (α × β)), (nranks xs).length = xs.length :=
    fun xs => nestedLoop_length [] xs
  match mode with
  | 0 | 1 | 2 | 3 | 4 | 5 =>
    cases h
    simp [r1, r2]
  | n + 6 =>
    cases keys with
    | nil => cases h; rfl
    | cons k ks => cases h

theorem assign_length (mode : Nat) (trch : List (Nat × Nat)) : (assignGroupPartVoice mode trch).length = trch.length := by
  have r1 : ∀ {α : Type} [DecidableEq α] (xs : List α), (ranks xs).length = xs.length := fun xs => rankLoop_length [] xs
  have r2 : (nranks trch).length = trch.length := nestedLoop_length [] trch
  unfold assignGroupPartVoice
  split <;> simp [r1, r2]

theorem assign_total (mode : Nat) (trch : List (Nat × Nat)) (tc : Nat × Nat) (h : tc ∈ trch) :
    ∃ c, (tc, c) ∈ trch.zip (assignGroupPartVoice mode trch) :=
  exists_zip_left (Nat.le_of_eq (assign_length mode trch).symm) h

end C04M
