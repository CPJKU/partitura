/-
C13 — the pitch-class roll: finite sums in the `foldr` form of the model (`sumOver`), the octave fold as a sum over a
residue class, the column sum and the exact quotients, the returned column entry by entry.
-/
import PartituraModel.Proofs.C13
import PartituraModel.Model.PianoRollPcF
import Mathlib.Tactic.IntervalCases
import Mathlib.Tactic.FieldSimp
import Mathlib.Tactic.Ring

namespace C13
open Model Model.PianoRoll
open List

/-- `Σ_{p ∈ l} f p`, in the `foldr` form the model uses -/
def sumOver (f : Nat → Int) (l : List Nat) : Int := l.foldr (fun p s => f p + s) 0

theorem sumOver_eq_sum (f : Nat → Int) (l : List Nat) : sumOver f l = (l.map f).sum := by
  unfold sumOver
  rw [sum_eq_foldr, foldr_map]

theorem sumOver_append (f : Nat → Int) (a b : List Nat) :
    sumOver f (a ++ b) = sumOver f a + sumOver f b := by
  rw [sumOver_eq_sum, sumOver_eq_sum, sumOver_eq_sum, map_append, sum_append]

theorem sumOver_zero (f : Nat → Int) (l : List Nat) (h : ∀ p ∈ l, f p = 0) : sumOver f l = 0 := by
  rw [sumOver_eq_sum]
  exact sum_eq_zero (forall_mem_map.mpr h)

theorem sumOver_nonneg (f : Nat → Int) (l : List Nat) (h : ∀ p ∈ l, 0 ≤ f p) : 0 ≤ sumOver f l := by
  rw [sumOver_eq_sum]
  exact sum_nonneg (forall_mem_map.mpr h)

theorem sumOver_eq_zero_iff (f : Nat → Int) (l : List Nat) (h : ∀ p ∈ l, 0 ≤ f p) :
    sumOver f l = 0 ↔ ∀ p ∈ l, f p = 0 := by
  constructor
  · induction l with
    | nil => intro _ p hp; simp at hp
    | cons x l ih =>
      intro hs p hp
      simp only [sumOver, foldr_cons] at hs ih
      have h1 := h x (by simp)
      have h2 := sumOver_nonneg f l (fun p hp => h p (by simp [hp]))
      simp only [sumOver] at h2
      simp only [mem_cons] at hp
      rcases hp with rfl | hp
      · omega
      · exact ih (fun p hp => h p (by simp [hp])) (by omega) p hp
  · exact sumOver_zero f l

theorem filter_mod_block (c : Nat) (hc : c < 12) :
    (range 12).filter (fun i => i % 12 = c) = [c] := by
  interval_cases c <;> decide

/-- the residues-`c` members of `0 .. 12k-1` are `c, 12 + c, …`: the fold over octaves -/
theorem sumOver_fold (g : Nat → Int) (c : Nat) (hc : c < 12) (k : Nat) :
    sumOver g ((range (12 * k)).filter (fun p => p % 12 = c)) =
      sumOver (fun i => g (12 * i + c)) (range k) := by
  induction k with
  | zero => simp [sumOver]
  | succ k ih =>
    have h1 : 12 * (k + 1) = 12 * k + 12 := by ring
    rw [h1, range_add, filter_append, sumOver_append, ih,
      show range (k + 1) = range k ++ [k] from range_succ, sumOver_append]
    congr 1
    rw [filter_map]
    have : (fun i => decide (i % 12 = c)) ∘ (fun x => 12 * k + x) = fun i => decide (i % 12 = c) := by
      funext i
      simp
    rw [this, filter_mod_block c hc]
    simp [sumOver]

theorem foldr_div (v : Nat → Int) (d : Rat) (l : List Nat) :
    l.foldr (fun c s => (v c : Rat) / d + s) 0 = ((sumOver v l : Int) : Rat) / d := by
  induction l with
  | nil => simp [sumOver]
  | cons x l ih =>
    simp only [foldr_cons, sumOver] at ih ⊢
    rw [ih]
    push_cast
    ring

theorem pcValue_nonneg (r : Roll) (b : Bool) (j : Int) (hnn : ∀ p j, 0 ≤ r.cell p j) (c : Nat) :
    0 ≤ pcValue r b c j := by
  unfold pcValue
  simp only
  split
  · omega
  · unfold pcCell
    exact sumOver_nonneg (fun i => r.cell (12 * (i : Int) + c) j) (range 11) (fun p _ => hnn _ _)

theorem pcColSum_nonneg (r : Roll) (b : Bool) (j : Int) (hnn : ∀ p j, 0 ≤ r.cell p j) : 0 ≤ pcColSum r b j :=
  sumOver_nonneg (fun c => pcValue r b c j) (range 12) (fun p _ => pcValue_nonneg r b j hnn p)

theorem pcValue_of_silent (r : Roll) (b : Bool) (j : Int) (hnn : ∀ p j, 0 ≤ r.cell p j) (hs : pcColSum r b j = 0)
    (c : Nat) (hc : c < 12) : pcValue r b c j = 0 :=
  (sumOver_eq_zero_iff (fun c => pcValue r b c j) (range 12) (fun p _ => pcValue_nonneg r b j hnn p)).mp hs
    c (mem_range.mpr hc)

theorem pcOut_sum (r : Roll) (b : Bool) (j : Int) (hs : pcColSum r b j ≠ 0) :
    (range 12).foldr (fun (c : Nat) (s : Rat) => pcOut r b true c j + s) 0 = 1 := by
  have : (fun (c : Nat) (s : Rat) => pcOut r b true c j + s) =
      fun (c : Nat) (s : Rat) => ((pcValue r b c j : Int) : Rat) / ((pcColSum r b j : Int) : Rat) + s := by
    funext c s
    simp [pcOut, hs]
  rw [this, foldr_div (fun c => pcValue r b c j) _ (range 12)]
  exact div_self (a := ((pcColSum r b j : Int) : Rat)) (by exact_mod_cast hs)

theorem pcOut_eq (r : Roll) (b : Bool) (c j : Int) :
    pcOut r b true c j = (pcValue r b c j : Rat) / (((if pcColSum r b j = 0 then 1 else pcColSum r b j : Int)) : Rat) := by
  simp [pcOut]

theorem pcOut_nonneg (r : Roll) (b : Bool) (j : Int) (hnn : ∀ p j, 0 ≤ r.cell p j) (c : Nat) :
    0 ≤ pcOut r b true c j := by
  rw [pcOut_eq]
  have hv := pcValue_nonneg r b j hnn c
  have hs0 := pcColSum_nonneg r b j hnn
  apply div_nonneg
  · exact_mod_cast hv
  · split <;> [norm_num; exact_mod_cast hs0]

theorem foldr_err (f g : Nat → Rat) (ε : Rat) (l : List Nat) (h : ∀ c ∈ l, |f c - g c| ≤ g c * ε) :
    |l.foldr (fun c s => f c + s) 0 - l.foldr (fun c s => g c + s) 0| ≤ l.foldr (fun c s => g c + s) 0 * ε := by
  induction l with
  | nil => simp
  | cons x l ih =>
    simp only [foldr_cons]
    have h1 := h x (by simp)
    have h2 := ih (fun c hc => h c (by simp [hc]))
    have : f x + foldr (fun c s => f c + s) 0 l - (g x + foldr (fun c s => g c + s) 0 l) =
        (f x - g x) + (foldr (fun c s => f c + s) 0 l - foldr (fun c s => g c + s) 0 l) := by ring
    rw [this]
    calc _ ≤ |f x - g x| + |foldr (fun c s => f c + s) 0 l - foldr (fun c s => g c + s) 0 l| := abs_add_le _ _
      _ ≤ g x * ε + foldr (fun c s => g c + s) 0 l * ε := add_le_add h1 h2
      _ = _ := by ring

/-- the returned column, entry by entry: `fl` of the quotient `pcOut` when normalising (`fl = id`: `pcColumn`), the
    folded integer otherwise -/
theorem pcColumnG_eq (fl : Rat → Rat) (r : Roll) (b nz : Bool) (j : Int) :
    pcColumnG fl r b nz j = (range 12).map fun (c : Nat) => (if nz then fl else id) (pcOut r b nz (c : Int) j) := by
  have hs : ((range 12).map fun (c : Nat) => pcValue r b (c : Int) j).foldr (fun v acc => v + acc) 0 = pcColSum r b j := by
    unfold pcColSum
    rw [foldr_map, tbl_pc_rows]
  unfold pcColumnG
  simp only [tbl_pc_rows, hs, map_map]
  cases nz <;> simp [pcOut, Function.comp_def]

end C13
