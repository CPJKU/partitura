/-
C11 — installing a tie chain in the note list (`tieOne`, `tieStage1` of Model/Measures.lean) leaves the summed
duration and the end of every tie chain, and the onset/pitch/voice/staff/id of every note, as they were.

`Walk ns x d e` is the recursion of the Python properties `duration_tied` / `end_tied` started at the note with
key `x`: follow `tie_next` to the end, adding durations.  `Installed` says what a turn of stage 1 that cuts a note does
to the list, as a list and through lookups; the per-turn lemmas of C11Rows, C11Contig and C11Within are read off it.
At the end: stage 2 never fires (`tieStage2_id`), and the tie check of `sanitize_part` changes nothing on adjacent ties (`sanitize_noop`).
-/
import PartituraModel.Proofs.C11Tie
import PartituraModel.Proofs.C11Lists
import PartituraModel.Proofs.Lists
import PartituraModel.Proofs.Folds

namespace C11Walk
open Model Model.Dur Model.Meas C11Tie

/-- the note with key `x` (first match, as the model addresses notes) -/
def lk (ns : List Note) (x : Nat) : Option Note := ns.find? (·.key = x)

inductive Walk (ns : List Note) : Nat → Nat → Nat → Prop
  | last (x : Nat) (n : Note) : lk ns x = some n → n.tieNext = none → Walk ns x (n.stop - n.start) n.stop
  | step (x : Nat) (n : Note) (t d e : Nat) : lk ns x = some n → n.tieNext = some t → Walk ns t d e →
      Walk ns x ((n.stop - n.start) + d) e

theorem lk_map (g : Note → Note) (hg : ∀ n, (g n).key = n.key) (ns : List Note) (x : Nat) :
    lk (ns.map g) x = (lk ns x).map g := by
  unfold lk
  rw [List.find?_map]
  exact congrArg (fun p => (ns.find? p).map g) (funext fun n => by simp only [Function.comp, hg])

theorem next_map (g : Note → Note) (hk : ∀ n, (g n).key = n.key) (ns : List Note) (n : Note)
    (ht : (g n).tieNext = n.tieNext) :
    ((g n).tieNext.bind fun k => (ns.map g).find? (·.key = k)) = (n.tieNext.bind fun k => ns.find? (·.key = k)).map g := by
  rw [ht]
  cases n.tieNext with
  | none => rfl
  | some t => exact lk_map g hk ns t

/-- end and summed duration of a chain read keys, times and forward links only -/
theorem chainEndDur_map (g : Note → Note)
    (hg : ∀ n, (g n).key = n.key ∧ (g n).tieNext = n.tieNext ∧ (g n).start = n.start ∧ (g n).stop = n.stop)
    (ns : List Note) : ∀ (fuel : Nat) (n : Note), chainEndDur (ns.map g) fuel (g n) = chainEndDur ns fuel n
  | 0, n => by unfold chainEndDur; rw [(hg n).2.2.1, (hg n).2.2.2]
  | fuel + 1, n => by
    unfold chainEndDur
    rw [next_map g (fun n => (hg n).1) ns n (hg n).2.1, (hg n).2.2.1, (hg n).2.2.2]
    cases n.tieNext.bind fun k => ns.find? (·.key = k) with
    | none => rfl
    | some nx => simp only [Option.map_some]; rw [chainEndDur_map g hg ns fuel nx]

theorem chainKeys_map (g : Note → Note) (hg : ∀ n, (g n).key = n.key ∧ (g n).tieNext = n.tieNext)
    (ns : List Note) : ∀ (fuel : Nat) (n : Note), chainKeys (ns.map g) fuel (g n) = chainKeys ns fuel n
  | 0, n => by unfold chainKeys; rw [(hg n).1]
  | fuel + 1, n => by
    unfold chainKeys
    rw [next_map g (fun n => (hg n).1) ns n (hg n).2, (hg n).1]
    cases n.tieNext.bind fun k => ns.find? (·.key = k) with
    | none => rfl
    | some nx => simp only [Option.map_some]; rw [chainKeys_map g hg ns fuel nx]

/-- `part.add` keeps the notes in time order: `insertNote` is the insertion of the shared insertion sort -/
theorem insNote : Lists.IsInsertionSort (fun a b : Note => decide (a.start < b.start)) insertNote (List.foldr insertNote []) :=
  ⟨fun _ => rfl, fun a b l => by simp only [insertNote, decide_eq_true_eq], rfl, fun _ _ => rfl⟩

theorem lk_some (ns : List Note) (x : Nat) (n : Note) (h : lk ns x = some n) : n.key = x ∧ n ∈ ns :=
  C11Lists.find_key_some Note.key h

theorem mem_foldInsert (more l : List Note) (x : Note) :
    x ∈ more.foldl (fun acc n => insertNote n acc) l ↔ x ∈ more ∨ x ∈ l :=
  insNote.mem_foldl_ins more l x

/-- notes inserted under other keys do not show in a lookup: it reads the head of the notes with the key, and an insertion
    does not show in a filter it fails -/
theorem lk_foldInsert_ne (more base : List Note) (x : Nat) (h : ∀ m ∈ more, m.key ≠ x) :
    lk (more.foldl (fun acc n => insertNote n acc) base) x = lk base x := by
  unfold lk
  rw [← List.head?_filter, ← List.head?_filter, insNote.foldl_ins_filter_neg more base fun m hm => decide_eq_false (h m hm)]

theorem lk_foldInsert_self (more base : List Note) (hnd : (more.map (·.key)).Nodup)
    (hfresh : ∀ m ∈ more, lk base m.key = none) :
    ∀ m ∈ more, lk (more.foldl (fun acc n => insertNote n acc) base) m.key = some m := by
  intro m hm
  cases h : lk (more.foldl (fun acc n => insertNote n acc) base) m.key with
  | none => exact absurd (decide_eq_true rfl) (List.find?_eq_none.mp h m ((mem_foldInsert more base m).mpr (Or.inl hm)))
  | some n =>
    obtain ⟨hk, hmem⟩ := lk_some _ _ _ h
    rcases (mem_foldInsert more base n).mp hmem with h1 | h1
    · rw [Lists.eq_of_nodup_map hnd h1 hm hk]
    · exact absurd (decide_eq_true hk) (List.find?_eq_none.mp (hfresh m hm) n h1)

theorem freshKey_gt (ns : List Note) : ∀ n ∈ ns, n.key < freshKey ns := fun n hn => by
  unfold freshKey
  rw [← List.foldl_map (f := fun n : Note => n.key + 1) (g := max)]
  exact Lists.foldl_max_ge_mem 0 _ (n.key + 1) (List.mem_map.mpr ⟨n, hn, rfl⟩)

theorem lk_none_of_fresh (ns : List Note) (x : Nat) (h : freshKey ns ≤ x) : lk ns x = none := by
  unfold lk
  rw [List.find?_eq_none]
  intro n hn hc
  have := freshKey_gt ns n hn
  simp only [decide_eq_true_eq] at hc
  omega

/-- keys of a chain: the head keeps `ck`; the further pieces get the distinct keys `base + i`, `base + i + 1`, … -/
theorem chainFrom_keys (orig : Note) (base : Nat) : ∀ (ps : List (Nat × Nat × Option Est)) (i : Nat)
    (prev : Option Nat) (ck : Nat) (cid : Option String), ps ≠ [] →
    ∃ h t, chainFrom orig base i prev ck cid ps = h :: t ∧ h.key = ck ∧ (t.map (·.key)).Nodup ∧ ∀ m ∈ t, base + i ≤ m.key := by
  intro ps
  induction ps with
  | nil => intro i prev ck cid h; exact absurd rfl h
  | cons p rest ih =>
    intro i prev ck cid _
    obtain ⟨l, r, sy⟩ := p
    cases rest with
    | nil => exact ⟨_, [], rfl, rfl, List.nodup_nil, fun _ h => absurd h List.not_mem_nil⟩
    | cons q rest' =>
      obtain ⟨h, t, hc, hk, i1, i2⟩ := ih (i + 1) (some ck) (base + i) (cid.bind makeTiedNoteId) (List.cons_ne_nil _ _)
      refine ⟨_, h :: t, congrArg (List.cons _) hc, rfl, List.nodup_cons.mpr ⟨fun hm => ?_, i1⟩, fun m hm => ?_⟩
      · obtain ⟨m, hm, e⟩ := List.mem_map.mp hm
        have e : m.key = h.key := e
        have := i2 m hm
        omega
      · rcases List.mem_cons.mp hm with rfl | hm
        · omega
        · have := i2 m hm
          omega

/-- what a lookup may change without changing what the note contributes to a chain or a row -/
structure UpTo (n n' : Note) : Prop where
  key : n'.key = n.key
  start : n'.start = n.start
  stop : n'.stop = n.stop
  tieNext : n'.tieNext = n.tieNext
  pitch : n'.pitch = n.pitch
  voice : n'.voice = n.voice
  staff : n'.staff = n.staff
  id : n'.id = n.id
  prev : n.tiePrev.isSome → n'.tiePrev.isSome
  sym : n'.sym = n.sym

theorem upTo_refl (n : Note) : UpTo n n := ⟨rfl, rfl, rfl, rfl, rfl, rfl, rfl, rfl, id, rfl⟩

theorem relinkNext_map (orig : Note) (chain ns : List Note) :
    ∃ r : Note → Note, (∀ n, UpTo n (r n)) ∧ (∀ n, r n = n ∨ orig.tieNext = some n.key) ∧
      relinkNext orig chain ns = ns.map r := by
  unfold relinkNext
  split
  · rename_i t last ht _
    refine ⟨fun n => if n.key = t then { n with tiePrev := some last.key } else n, fun n => ?_, fun n => ?_, rfl⟩
    · show UpTo n (if n.key = t then { n with tiePrev := some last.key } else n)
      split
      · exact ⟨rfl, rfl, rfl, rfl, rfl, rfl, rfl, rfl, fun _ => rfl, rfl⟩
      · exact upTo_refl n
    · show (if n.key = t then { n with tiePrev := some last.key } else n) = n ∨ _
      split
      · rename_i h; exact Or.inr (by rw [ht, h])
      · exact Or.inl rfl
  · exact ⟨id, upTo_refl, fun _ => Or.inl rfl, (List.map_id _).symm⟩

theorem repl_key {orig first : Note} (hfk : first.key = orig.key) (n : Note) :
    (if n.key = orig.key then first else n).key = n.key := by
  split
  · rename_i h; rw [hfk, h]
  · rfl

/-- **the list after the chain `first :: more` was put in place of `orig`** (a turn of stage 1 that cuts `orig`):
    as a list — `first` stands where `orig` stood, the further pieces are inserted in time order, the note `orig` was
    tied to gets its back link rewritten (`r`) — and read through the lookups -/
structure Installed (ns : List Note) (orig first : Note) (more : List Note) (r : Note → Note) (ns' : List Note) : Prop where
  here : lk ns orig.key = some orig
  chain : ∃ ps, PTiles orig.start orig.stop ps ∧
    ChainSpec orig orig.start orig.stop orig.tiePrev orig.key orig.id ps (first :: more)
  upTo : ∀ n, UpTo n (r n)
  relinked : ∀ n, r n = n ∨ orig.tieNext = some n.key
  list : ns' = (more.foldl (fun acc n => insertNote n acc) (ns.map fun n => if n.key = orig.key then first else n)).map r
  nodup : (more.map (·.key)).Nodup
  fresh : ∀ m ∈ more, freshKey ns ≤ m.key
  new : ∀ m ∈ more, lk ns' m.key = some (r m)
  old : ∀ x n, lk ns x = some n → lk ns' x = some (r (if n.key = orig.key then first else n))
  inv : ∀ x n', lk ns' x = some n' → ∃ m, n' = r m ∧ (m ∈ first :: more ∨ (lk ns x = some m ∧ m.key ≠ orig.key))

theorem installed (ns : List Note) (orig : Note) (ps : List (Nat × Nat × Option Est)) (hk : lk ns orig.key = some orig)
    (hne : ps ≠ []) (ht : PTiles orig.start orig.stop ps) :
    ∃ first more r, mkChain orig (freshKey ns) ps = first :: more ∧
      Installed ns orig first more r (installChain ns orig (mkChain orig (freshKey ns) ps)) := by
  have sp := chainFrom_spec orig (freshKey ns) ps 0 orig.tiePrev orig.key orig.id orig.start orig.stop hne ht
  obtain ⟨first, more, hc, hfk, hnd, hge⟩ := chainFrom_keys orig (freshKey ns) ps 0 orig.tiePrev orig.key orig.id hne
  have hc' : mkChain orig (freshKey ns) ps = first :: more := hc
  obtain ⟨r, hr, hrel, hlist⟩ := relinkNext_map orig (first :: more)
    (more.foldl (fun acc n => insertNote n acc) (ns.map fun n => if n.key = orig.key then first else n))
  have hlist' : installChain ns orig (first :: more) = _ := hlist
  have hg := repl_key hfk
  -- the lookups of the list before the back link is rewritten
  have hside : ∀ m ∈ more, lk (ns.map fun n => if n.key = orig.key then first else n) m.key = none := by
    intro m hm
    rw [lk_map _ hg, lk_none_of_fresh ns m.key (hge m hm)]; rfl
  have hnew := lk_foldInsert_self more _ hnd hside
  have hold : ∀ x, (∀ m ∈ more, m.key ≠ x) → lk (installChain ns orig (first :: more)) x =
      ((lk ns x).map fun (n : Note) => if n.key = orig.key then first else n).map r := by
    intro x hx
    rw [hlist', lk_map r (fun n => (hr n).key), lk_foldInsert_ne more _ x hx, lk_map _ hg]
  rw [hc']
  refine ⟨first, more, r, rfl, hk, ⟨ps, ht, hc ▸ sp⟩, hr, hrel, hlist', hnd, hge, ?_, ?_, ?_⟩
  · intro m hm
    rw [hlist', lk_map r (fun n => (hr n).key), hnew m hm]; rfl
  · intro x n hn
    rw [hold x fun m hm e => ?_, hn]; rfl
    obtain ⟨h1, h2⟩ := lk_some ns x n hn
    have := freshKey_gt ns n h2
    have := hge m hm
    omega
  · intro x n' hx
    by_cases hin : ∃ m ∈ more, m.key = x
    · obtain ⟨m, hm, rfl⟩ := hin
      rw [hlist', lk_map r (fun n => (hr n).key), hnew m hm] at hx
      exact ⟨m, (Option.some.inj hx).symm, Or.inl (List.mem_cons_of_mem _ hm)⟩
    · rw [hold x fun m hm e => hin ⟨m, hm, e⟩] at hx
      cases hn : lk ns x with
      | none => rw [hn] at hx; cases hx
      | some n0 =>
        rw [hn] at hx
        have hx' : n' = r (if n0.key = orig.key then first else n0) := (Option.some.inj hx).symm
        by_cases hk0 : n0.key = orig.key
        · rw [if_pos hk0] at hx'; exact ⟨first, hx', Or.inl List.mem_cons_self⟩
        · rw [if_neg hk0] at hx'; exact ⟨n0, hx', Or.inr ⟨rfl, hk0⟩⟩

theorem Installed.head {ns : List Note} {orig first : Note} {more : List Note} {r : Note → Note} {ns' : List Note}
    (h : Installed ns orig first more r ns') :
    first.start = orig.start ∧ first.key = orig.key ∧ first.id = orig.id ∧ first.tiePrev = orig.tiePrev ∧
    first.pitch = orig.pitch ∧ first.voice = orig.voice ∧ first.staff = orig.staff := by
  obtain ⟨ps, _, sp⟩ := h.chain
  obtain ⟨f, t, hc, a, b, c, d⟩ := sp.head
  cases hc
  obtain ⟨e1, e2, e3⟩ := sp.same first List.mem_cons_self
  exact ⟨a, b, c, d, e1, e2, e3⟩

theorem Installed.at_key {ns : List Note} {orig first : Note} {more : List Note} {r : Note → Note} {ns' : List Note}
    (h : Installed ns orig first more r ns') {x : Nat} {n : Note} (hn : lk ns x = some n) (hk : n.key = orig.key) : n = orig := by
  have := h.here
  rw [← hk, (lk_some ns x n hn).1, hn] at this
  exact Option.some.inj this

theorem Installed.found {ns : List Note} {orig first : Note} {more : List Note} {r : Note → Note} {ns' : List Note}
    (h : Installed ns orig first more r ns') : ∀ m ∈ first :: more, lk ns' m.key = some (r m) := by
  intro m hm
  rcases List.mem_cons.mp hm with rfl | hm
  · rw [h.head.2.1, h.old _ _ h.here, if_pos rfl]
  · exact h.new m hm

theorem walk_last_upTo {ns' : List Note} {x : Nat} {n n' : Note} (hn' : lk ns' x = some n') (hu : UpTo n n')
    (h : n.tieNext = none) : Walk ns' x (n.stop - n.start) n.stop := by
  have := Walk.last x n' hn' (by rw [hu.tieNext]; exact h)
  rw [hu.start, hu.stop] at this; exact this

theorem walk_step_upTo {ns' : List Note} {x t d e : Nat} {n n' : Note} (hn' : lk ns' x = some n') (hu : UpTo n n')
    (h : n.tieNext = some t) (hw : Walk ns' t d e) : Walk ns' x ((n.stop - n.start) + d) e := by
  have := Walk.step x n' t d e hn' (by rw [hu.tieNext]; exact h) hw
  rw [hu.start, hu.stop] at this; exact this

/-- walking down a chain that sits in the list: from its head to its last member, then on where that member's tie leads -/
theorem walk_chain (ns' : List Note) : ∀ (c : List Note) (a : Note), Linked (a :: c) →
    (∀ m ∈ a :: c, ∃ m', lk ns' m.key = some m' ∧ UpTo m m') →
    ∀ (lastN : Note), (a :: c).getLast? = some lastN →
    ((lastN.tieNext = none → Walk ns' a.key (sumDur (a :: c)) lastN.stop) ∧
     (∀ t d e, lastN.tieNext = some t → Walk ns' t d e → Walk ns' a.key (sumDur (a :: c) + d) e)) := by
  intro c
  induction c with
  | nil =>
    intro a _ hin lastN hl
    simp only [List.getLast?_singleton, Option.some.injEq] at hl
    subst hl
    obtain ⟨a', ha', hu⟩ := hin a List.mem_cons_self
    rw [show sumDur [a] = a.stop - a.start by simp [sumDur]]
    exact ⟨walk_last_upTo ha' hu, fun t d e ht hw => walk_step_upTo ha' hu ht hw⟩
  | cons b rest ih =>
    intro a hlink hin lastN hl
    obtain ⟨l1, l2, _, l4⟩ := (linked_cons2 ..).mp hlink
    have hl' : (b :: rest).getLast? = some lastN := by simpa [List.getLast?_cons_cons] using hl
    obtain ⟨i1, i2⟩ := ih b l4 (fun m hm => hin m (List.mem_cons_of_mem _ hm)) lastN hl'
    obtain ⟨a', ha', hu⟩ := hin a List.mem_cons_self
    rw [show sumDur (a :: b :: rest) = (a.stop - a.start) + sumDur (b :: rest) by simp [sumDur]]
    exact ⟨fun hn => walk_step_upTo ha' hu l2 (i1 hn),
      fun t d e ht hw => by rw [Nat.add_assoc]; exact walk_step_upTo ha' hu l2 (i2 t d e ht hw)⟩

theorem Installed.walk {ns : List Note} {orig first : Note} {more : List Note} {r : Note → Note} {ns' : List Note}
    (h : Installed ns orig first more r ns') : ∀ x d e, Walk ns x d e → Walk ns' x d e := by
  obtain ⟨ps, _, sp⟩ := h.chain
  obtain ⟨lastN, hl1, hl2, hl3, _⟩ := sp.last
  obtain ⟨wc1, wc2⟩ := walk_chain ns' more first sp.linked (fun m hm => ⟨r m, h.found m hm, h.upTo m⟩) lastN hl1
  rw [sp.sum, h.head.2.1, hl2] at wc1
  rw [sp.sum, h.head.2.1] at wc2
  have hother : ∀ x n, lk ns x = some n → x ≠ orig.key → lk ns' x = some (r n) := fun x n hn hx => by
    rw [h.old x n hn, if_neg (by rw [(lk_some ns x n hn).1]; exact hx)]
  intro x d e hw
  induction hw with
  | last x n hn htn =>
    by_cases hx : x = orig.key
    · subst hx
      cases (h.here.symm.trans hn)
      exact wc1 (by rw [hl3]; exact htn)
    · exact walk_last_upTo (hother x n hn hx) (h.upTo n) htn
  | step x n t d e hn htn _ ih =>
    by_cases hx : x = orig.key
    · subst hx
      cases (h.here.symm.trans hn)
      exact wc2 t d e (by rw [hl3]; exact htn) ih
    · exact walk_step_upTo (hother x n hn hx) (h.upTo n) htn ih

/-- what stays of a note under its key: onset, pitch, voice, staff, id; a note that had a `tie_prev` still has one -/
def RowKept (ns ns' : List Note) : Prop :=
  ∀ x n, lk ns x = some n → ∃ n', lk ns' x = some n' ∧ n'.start = n.start ∧ n'.pitch = n.pitch ∧
    n'.voice = n.voice ∧ n'.staff = n.staff ∧ n'.id = n.id ∧ (n.tiePrev.isSome → n'.tiePrev.isSome)

theorem rowKept_refl (ns : List Note) : RowKept ns ns :=
  fun _ n h => ⟨n, h, rfl, rfl, rfl, rfl, rfl, id⟩

theorem rowKept_trans {a b c : List Note} (h1 : RowKept a b) (h2 : RowKept b c) : RowKept a c := by
  intro x n hn
  obtain ⟨n', hn', e1, e2, e3, e4, e5, e6⟩ := h1 x n hn
  obtain ⟨n'', hn'', f1, f2, f3, f4, f5, f6⟩ := h2 x n' hn'
  exact ⟨n'', hn'', f1.trans e1, f2.trans e2, f3.trans e3, f4.trans e4, f5.trans e5, fun h => f6 (e6 h)⟩

theorem Installed.rowKept {ns : List Note} {orig first : Note} {more : List Note} {r : Note → Note} {ns' : List Note}
    (h : Installed ns orig first more r ns') : RowKept ns ns' := by
  obtain ⟨hfs, _, hfid, hfp, hp, hv, hst⟩ := h.head
  intro x n hn
  refine ⟨_, h.old x n hn, ?_⟩
  split
  · rename_i hx
    cases h.at_key hn hx
    have hu := h.upTo first
    exact ⟨by rw [hu.start, hfs], by rw [hu.pitch, hp], by rw [hu.voice, hv], by rw [hu.staff, hst], by rw [hu.id, hfid],
      fun hh => hu.prev (by rw [hfp]; exact hh)⟩
  · have hu := h.upTo n
    exact ⟨hu.start, hu.pitch, hu.voice, hu.staff, hu.id, hu.prev⟩

/-- the pieces stage 1 makes of a note: its extent cut at the measure starts inside it, each piece with the estimate
    for its length under the divisions in force at its start -/
def stagePieces (qd : List (Int × Nat)) (ms : List Nat) (note : Note) : List (Nat × Nat × Option Est) :=
  (pieceBounds note.start note.stop (cutPoints note.start note.stop ms)).map
    fun b => (b.1, b.2, some (estimateI (b.2 - b.1) (quarterAt qd b.1)))

/-- one turn of stage 1: nothing changes (no note under the key, or no measure start inside it), or the note is replaced
    by the chain of its `stagePieces` -/
theorem tieOne_turn (qd : List (Int × Nat)) (ms : List Nat) (ns : List Note) (k : Nat) :
    (tieOne qd ms ns k = ns ∧ ∀ note, lk ns k = some note → cutPoints note.start note.stop ms = []) ∨
    ∃ note first more r, lk ns k = some note ∧ Installed ns note first more r (tieOne qd ms ns k) ∧
      ∀ m ∈ first :: more,
        (m.start, m.stop) ∈ pieceBounds note.start note.stop (cutPoints note.start note.stop ms) ∧
        m.sym = some (estimateI (m.stop - m.start) (quarterAt qd m.start)) := by
  unfold tieOne
  cases hn : ns.find? (·.key = k) with
  | none => exact Or.inl ⟨rfl, fun note h => by rw [show lk ns k = none from hn] at h; cases h⟩
  | some note =>
    simp only
    cases hcut : cutPoints note.start note.stop ms with
    | nil =>
      refine Or.inl ⟨rfl, fun note' h => ?_⟩
      rw [show lk ns k = some note from hn] at h
      cases h; exact hcut
    | cons c cs =>
      have ht := cutPoints_tiles (fun b => some (estimateI (b.2 - b.1) (quarterAt qd b.1))) ms note.start note.stop
        (cutPoints_cons_lt ms note.start note.stop c cs hcut)
      have hne : stagePieces qd ms note ≠ [] := by
        unfold stagePieces pieceBounds; rw [hcut]; exact List.cons_ne_nil _ _
      have hk : lk ns note.key = some note := by rw [(lk_some ns k note hn).1]; exact hn
      obtain ⟨first, more, r, hc, hi⟩ := installed ns note _ hk hne ht
      refine Or.inr ⟨note, first, more, r, hn, by unfold stagePieces at hi; rw [hcut] at hi; exact hi, fun m hm => ?_⟩
      have hmem : (m.start, m.stop, m.sym) ∈ stagePieces qd ms note := by
        rw [← (mkChain_sound note (freshKey ns) _ hne ht).2.bounds, hc]; exact List.mem_map.mpr ⟨m, hm, rfl⟩
      obtain ⟨b, hbm, hbe⟩ := List.mem_map.mp hmem
      have h1 : b.1 = m.start := congrArg (·.1) hbe
      have h2 : b.2 = m.stop := congrArg (·.2.1) hbe
      have h3 : some (estimateI (b.2 - b.1) (quarterAt qd b.1)) = m.sym := congrArg (·.2.2) hbe
      exact ⟨by rw [← h1, ← h2]; exact hbm, by rw [← h3, h1, h2]⟩

theorem tieStage1_induct (I : List Note → Prop) (qd : List (Int × Nat)) (ms : List Nat)
    (hstep : ∀ cur k, I cur → I (tieOne qd ms cur k)) (ns : List Note) (h0 : I ns) : I (tieStage1 qd ms ns) :=
  Lists.foldl_inv I _ hstep _ ns h0

/-- the loop of stage 1, with the turns that change nothing already dealt with -/
theorem tieStage1_induct_installed (I : List Note → Prop) (qd : List (Int × Nat)) (ms : List Nat)
    (hstep : ∀ cur orig first more r cur', I cur → Installed cur orig first more r cur' → I cur')
    (ns : List Note) (h0 : I ns) : I (tieStage1 qd ms ns) :=
  tieStage1_induct I qd ms (fun cur k hc => by
    rcases tieOne_turn qd ms cur k with ⟨h, _⟩ | ⟨_, _, _, _, _, hi, _⟩
    · rw [h]; exact hc
    · exact hstep _ _ _ _ _ _ hc hi) ns h0

theorem tieStage1_sound (qd : List (Int × Nat)) (ms : List Nat) (ns : List Note) :
    (∀ x d e, Walk ns x d e → Walk (tieStage1 qd ms ns) x d e) ∧ RowKept ns (tieStage1 qd ms ns) :=
  tieStage1_induct_installed (fun cur => (∀ x d e, Walk ns x d e → Walk cur x d e) ∧ RowKept ns cur) qd ms
    (fun _ _ _ _ _ _ ⟨w1, r1⟩ hi => ⟨fun x d e h => hi.walk x d e (w1 x d e h), rowKept_trans r1 hi.rowKept⟩)
    ns ⟨fun _ _ _ h => h, rowKept_refl ns⟩

/-- `symbolic_duration` is never `None` for a note in a part: the stored value, else the estimate -/
theorem symbolicDuration_isNone (qd : List (Int × Nat)) (n : Note) : (symbolicDuration qd n).isNone = false := by
  unfold symbolicDuration; split <;> rfl

theorem tieStage2_id (qd : List (Int × Nat)) (ns : List Note) : tieStage2 qd ns = ns := by
  refine Lists.foldl_inv (· = ns) (tieTwo qd) (fun cur k hcur => ?_) _ ns rfl
  subst hcur
  unfold tieTwo
  split
  · rfl
  · simp [symbolicDuration_isNone]

theorem tieNotes_eq (p : PartM) (ns : List Note) : tieNotes p ns = tieStage1 p.qd (p.measures.map (·.start)) ns := by
  unfold tieNotes
  rw [tieStage2_id]

/-- every tie link of the list joins adjacent notes, and no note ends before it starts -/
def ContigAll (ns : List Note) : Prop :=
  ∀ n ∈ ns, n.start ≤ n.stop ∧ ∀ t nx, n.tieNext = some t → ns.find? (·.key = t) = some nx → nx.start = n.stop

theorem chainEndDur_contig (ns : List Note) (hc : ContigAll ns) : ∀ (fuel : Nat) (n : Note), n ∈ ns →
    (chainEndDur ns fuel n).1 = n.start + (chainEndDur ns fuel n).2 := by
  intro fuel
  induction fuel with
  | zero =>
    intro n hn
    have := (hc n hn).1
    simp only [chainEndDur]; omega
  | succ f ih =>
    intro n hn
    have h0 := (hc n hn).1
    unfold chainEndDur
    split
    · simp only; omega
    · rename_i nx hnx
      cases ht : n.tieNext with
      | none => rw [ht] at hnx; simp at hnx
      | some t =>
        rw [ht] at hnx
        simp only [Option.bind_some] at hnx
        have hmem : nx ∈ ns := List.mem_of_find?_eq_some hnx
        have hadj := (hc n hn).2 t nx ht hnx
        have := ih nx hmem
        simp only
        omega

theorem sanitizeStep_noop (ns : List Note) (tol : Nat) (hc : ContigAll ns) (h : Note) : sanitizeStep tol ns h = ns := by
  unfold sanitizeStep
  split
  · rfl
  · rename_i n hn
    have hmem : n ∈ ns := List.mem_of_find?_eq_some hn
    have := chainEndDur_contig ns hc ns.length n hmem
    simp only
    split
    · rename_i hbig
      exfalso
      rw [this] at hbig
      have : ((n.start + (chainEndDur ns ns.length n).2 : Nat) : Int) - (n.start : Int) -
          ((chainEndDur ns ns.length n).2 : Int) = 0 := by push_cast; omega
      rw [this] at hbig
      simp at hbig
    · rfl

theorem sanitize_noop (ns : List Note) (tol : Nat) (hc : ContigAll ns) : sanitizeTies ns tol = ns :=
  Lists.foldl_inv (· = ns) (sanitizeStep tol) (fun _ h ha => ha ▸ sanitizeStep_noop ns tol hc h) _ ns rfl

end C11Walk
