/-
The elements written by `MeiWrite.writeMei` drive the `Mei` state machine event by event: the measures of the section, the
header, the whole document.
-/
import PartituraModel.Proofs.C19MeiMeasure

namespace C19M
open Model Model.Mei Model.MeiWrite

/-- a `scoreDef` written for a key or meter change (with partitura's own attribute names): no effect on what is read -/
theorem sdChange_spec (nstaves : Nat) (as : List (String × String))
    (h : attr as "dur" = none ∧ natAttr as "meter.unit" = none ∧
      meterOfAttrs as "meter.count" "meter.unit" = none ∧ keyOfAttrs as "key.sig" "key.mode" = none)
    (st : Mei.St) (hc : SecCtx st nstaves) :
    ∃ M, runEvs st (el "scoreDef" as []) = some { st with meters := M, started := true } := by
  obtain ⟨M, hM⟩ := ensureStarted_ok st hc.meters
  refine ⟨M, runEvs_el (openEv_scoreDef_sec st as (pre_noDur st "scoreDef" as h.1 h.2.1 (by decide)) hc.inSec) rfl
    (closeEv_scoreDef_sec (push st "scoreDef" as) as st.stack rfl hc.inSec _ ?_ h.2.2.1 h.2.2.2)⟩
  show ensureStarted ({ ({ st with inSection := true } : Mei.St) with stack := st.stack }) = _
  rw [C19S.inSection_eta st hc.inSec]
  exact hM

theorem sdChanges_spec {α : Type} (nstaves : Nat) (xs : List α) (f : α → List (String × String))
    (h : ∀ x, attr (f x) "dur" = none ∧ natAttr (f x) "meter.unit" = none ∧
      meterOfAttrs (f x) "meter.count" "meter.unit" = none ∧ keyOfAttrs (f x) "key.sig" "key.mode" = none)
    (st : Mei.St) (hc : SecCtx st nstaves) :
    ∃ M s, runEvs st (xs.map fun x => el "scoreDef" (f x) []).flatten = some { st with meters := M, started := s } := by
  induction xs generalizing st with
  | nil => exact ⟨st.meters, st.started, rfl⟩
  | cons x rest ih =>
    obtain ⟨M, hM⟩ := sdChange_spec nstaves (f x) (h x) st hc
    obtain ⟨M', s, r⟩ := ih { st with meters := M, started := true } (hc.congr rfl rfl rfl rfl)
    exact ⟨M', s, runEvs_seq hM r⟩

theorem measures_spec (divs nstaves : Nat) (ms : List MMeasure) (ks : List String) (t : Nat)
    (hchain : measuresChain t ms = true) (hok : ∀ m ∈ ms, measureOk divs nstaves m = true)
    (st : Mei.St) (hc : SecCtx st nstaves) (hpos : st.pos = (t : Rat) / (divs : Rat)) :
    Written (measuresEvs nstaves ks ms) st fun st' => ∃ new, st'.notes = new ++ st.notes ∧
      st'.stack = st.stack ∧ SecCtx st' nstaves ∧ Reads divs (· < nstaves) new (ms.flatMap (·.notes)) := by
  induction ms generalizing ks t st with
  | nil => exact ⟨[], st, rfl, rfl, [], rfl, rfl, hc, Reads.nil _ _⟩
  | cons m rest ih =>
    simp only [measuresChain, Bool.and_eq_true, decide_eq_true_eq] at hchain
    obtain ⟨hstart, hchain'⟩ := hchain
    obtain ⟨M1, s1, r1⟩ := sdChanges_spec nstaves (m.keys.filter fun k => k.t ≠ 0)
      (fun k => [("mode", k.mode.getD "major"), ("sig", sigStr k.fifths), ("pname", k.pname)]) (fun _ => ⟨rfl, rfl, rfl, rfl⟩) st hc
    obtain ⟨M2, s2, r2⟩ := sdChanges_spec nstaves (m.meters.filter fun x => x.1 ≠ 0)
      (fun x => [("count", natStr x.2.1), ("unit", natStr x.2.2)]) (fun _ => ⟨rfl, rfl, rfl, rfl⟩)
      { st with meters := M1, started := s1 } (hc.congr rfl rfl rfl rfl)
    obtain ⟨layers, ends, hfin, hends, hle, hfill, hlst, hcover⟩ := measureOk_unpack divs nstaves m (hok m (by simp))
    obtain ⟨me, st3, hme, r3, new3, n3, k3, p3, c3, _, _, _, b3, f3⟩ := measure_run divs nstaves ks m layers hfin ends hends
      hle hfill hlst { st with meters := M2, started := s2 } (hc.congr rfl rfl rfl rfl)
      (hstart ▸ hpos)
    obtain ⟨more, st4, hmore, r4, new4, n4, s4, c4, R4⟩ :=
      ih ((m.keys.filter fun k => k.t ≠ 0).foldl (fun cur k => keyList cur k.fifths) ks) m.end_ hchain'
        (fun x hx => hok x (by simp [hx])) st3 c3 p3
    have R3 : Reads divs (· < nstaves) new3 m.notes :=
      ⟨b3, fun y hy hk => (hcover y hy).elim fun l hl => f3 l hl.1 y hl.2 hk⟩
    refine ⟨_, st4, ?_, runEvs_seq (runEvs_seq (runEvs_seq r1 r2) r3) r4, new4 ++ new3, by rw [n4, n3]; simp,
      by rw [s4, k3], c4, R3.append R4⟩
    rw [measuresEvs]
    simp only [hme, hmore]
    rfl

theorem defChild_spec (st : Mei.St) (rest : List Frame) (tag : String) (as : List (String × String))
    (f' : Frame) (st1 : Mei.St)
    (ho : openEv st tag as = some (push { st1 with stack := f' :: rest } tag as))
    (ht : tag ∉ C19S.closeTags) :
    runEvs st (el tag as []) = some { st1 with stack := f' :: rest } :=
  runEvs_el ho rfl (closeEv_plain _ tag as (f' :: rest) rfl ht)

theorem staffDef_spec (p : MPart) (s b u : Nat) (hm : p.meter0 = some (b, u))
    (st : Mei.St) (hin : st.inSection = false) :
    ∃ d us, runEvs st (staffDefEvs p s) = some { st with units := us, defs := d :: st.defs } ∧ d.meter = some (b, u) := by
  let A : List (String × String) := [("n", natStr s), ("lines", "5")]
  have hoA := openEv_plain st "staffDef" A rfl rfl (by decide)
  let f0 : Frame := { tag := "staffDef", attrs := A }
  let st1 : Mei.St := push st "staffDef" A
  -- the clef attributes as the writer computes them: `G` on line 2 unless the part has a clef on this staff
  obtain ⟨shp, lnS, ln, hlnS, hevs⟩ : ∃ (shp lnS : String) (ln : Nat), natOfString lnS = some ln ∧
      staffDefEvs p s = el "staffDef" A (el "clef" [("shape", shp), ("line", lnS)] [] ++
        (match p.key0 with
          | some k => el "keySig" [("mode", k.mode.getD "major"), ("sig", sigStr k.fifths), ("pname", k.pname)] []
          | none => []) ++
        el "meterSig" [("count", natStr b), ("unit", natStr u)] []) := by
    refine ⟨_, _, ((p.clefs0.filter fun c => c.1 = s).getLast?.map (·.2.2)).getD 2, ?_, by simp only [staffDefEvs, hm]; rfl⟩
    cases (p.clefs0.filter fun c => c.1 = s).getLast? with
    | none => decide
    | some c => exact natOfString_showNat _
  obtain ⟨c1, hc1⟩ := openEv_clef_def st1 [("shape", shp), ("line", lnS)] f0 st.stack shp ln
    (pre_noDur st1 "clef" _ rfl rfl (by decide)) rfl rfl rfl rfl (by simp [natAttr, attr, lookup, hlnS])
  have r2 := defChild_spec st1 st.stack "clef" _ { f0 with cClef := c1 } st1 hc1 (by decide)
  let st2 : Mei.St := { st1 with stack := { f0 with cClef := c1 } :: st.stack }
  obtain ⟨f2, hf2, r3⟩ : ∃ f2 : Frame, f2.tag = "staffDef" ∧ runEvs st2 (match p.key0 with
        | some k => el "keySig" [("mode", k.mode.getD "major"), ("sig", sigStr k.fifths), ("pname", k.pname)] []
        | none => []) = some { st1 with stack := f2 :: st.stack } := by
    cases p.key0 with
    | none => exact ⟨{ f0 with cClef := c1 }, rfl, rfl⟩
    | some k =>
      obtain ⟨c, hc⟩ := openEv_keySig_def st2 [("mode", k.mode.getD "major"), ("sig", sigStr k.fifths), ("pname", k.pname)]
        { f0 with cClef := c1 } st.stack (pre_noDur st2 "keySig" _ rfl rfl (by decide)) rfl rfl
      exact ⟨{ ({ f0 with cClef := c1 } : Frame) with cKey := c }, rfl, defChild_spec st2 st.stack "keySig" _ _ st2 hc (by decide)⟩
  let st3 : Mei.St := { st1 with stack := f2 :: st.stack }
  have r4 := defChild_spec st3 st.stack "meterSig" _ { f2 with cMeter := some (b, u) } { st3 with units := u :: st3.units }
    (openEv_meterSig_def st3 [("count", natStr b), ("unit", natStr u)] b u f2 st.stack rfl rfl (natAttr_natStr "count" b _)
      (natAttr_natStr "unit" u []) rfl hf2) (by decide)
  obtain ⟨d, hd, hdm⟩ := closeEv_staffDef { st1 with units := u :: st.units, stack := { f2 with cMeter := some (b, u) } :: st.stack }
    { f2 with cMeter := some (b, u) } st.stack rfl hf2 hin (b, u) rfl
  rw [hevs]
  exact ⟨d, u :: st.units, runEvs_el hoA (runEvs_seq (runEvs_seq r2 r3) r4) hd, hdm⟩

theorem staffDefs_spec (p : MPart) (b u : Nat) (hm : p.meter0 = some (b, u)) (ss : List Nat)
    (st : Mei.St) (hin : st.inSection = false) :
    ∃ ds us, runEvs st (ss.flatMap (staffDefEvs p)) = some { st with units := us, defs := ds ++ st.defs } ∧
      ds.length = ss.length ∧ ∀ d ∈ ds, ∃ m, d.meter = some m := by
  induction ss generalizing st with
  | nil => exact ⟨[], st.units, rfl, rfl, by simp⟩
  | cons s rest ih =>
    obtain ⟨d, us1, r1, m1⟩ := staffDef_spec p s b u hm st hin
    obtain ⟨ds, us2, r2, l2, m2⟩ := ih { st with units := us1, defs := d :: st.defs } hin
    refine ⟨ds ++ [d], us2, ?_, by simp [l2], ?_⟩
    · rw [List.flatMap_cons, runEvs_seq r1 r2]
      simp
    · intro x hx
      rcases List.mem_append.mp hx with h | h
      · exact m2 x h
      · simp at h; subst h; exact ⟨_, m1⟩

/-- an element that only structures the document: what is inside it runs between its start and its end, which leave
    nothing behind -/
theorem plain_el (st : Mei.St) (tag : String) (as : List (String × String)) (children : List Ev) (s2 : Mei.St)
    (htag : tag ∉ C19S.openTags ∧ tag ∉ C19S.closeTags) (h1 : attr as "dur" = none) (h2 : natAttr as "meter.unit" = none)
    (hrun : runEvs (push st tag as) children = some s2) (hstack : s2.stack = (push st tag as).stack) :
    runEvs st (el tag as children) = some { s2 with stack := st.stack } :=
  runEvs_el (openEv_plain st tag as h1 h2 htag.1) hrun (closeEv_plain s2 tag as st.stack hstack htag.2)

/-- anything `Q` that does not depend on the open elements holds after such an element if it holds inside -/
theorem plain_el_of (Q : Mei.St → Prop) (hQ : ∀ s k, Q s → Q { s with stack := k })
    (st : Mei.St) (tag : String) (as : List (String × String)) (children : List Ev)
    (htag : tag ∉ C19S.openTags ∧ tag ∉ C19S.closeTags) (h1 : attr as "dur" = none) (h2 : natAttr as "meter.unit" = none)
    (h : ∃ s2, runEvs (push st tag as) children = some s2 ∧ s2.stack = (push st tag as).stack ∧ Q s2) :
    ∃ s3, runEvs st (el tag as children) = some s3 ∧ s3.stack = st.stack ∧ Q s3 := by
  obtain ⟨s2, hrun, hstack, hq⟩ := h
  exact ⟨_, plain_el st tag as children s2 htag h1 h2 hrun hstack, rfl, hQ s2 _ hq⟩

theorem plain_el_same (st : Mei.St) (tag : String) (children : List Ev) (htag : tag ∉ C19S.openTags ∧ tag ∉ C19S.closeTags)
    (hrun : runEvs (push st tag []) children = some (push st tag [])) :
    runEvs st (el tag [] children) = some st :=
  plain_el st tag [] children (push st tag []) htag rfl rfl hrun rfl

/-- what is known of the state after the document: one definition per staff, each with a meter, and the notes read -/
def DocPost (p : MPart) (st : Mei.St) : Prop :=
  st.defs.length = p.nstaves ∧ AllMeters st ∧ Reads p.divs (· < p.nstaves) st.notes (p.measures.flatMap (·.notes))

theorem score_spec (p : MPart) (b u : Nat) (hm : p.meter0 = some (b, u))
    (hchain : measuresChain 0 p.measures = true) (hok : ∀ m ∈ p.measures, measureOk p.divs p.nstaves m = true)
    (ks : List String)
    (st : Mei.St) (hin : st.inSection = false) (hnl : inLayer st.stack = false) (hnt : tupletsOf st.stack = [])
    (hch : st.chord = none) (hdefs : st.defs = []) (hpos : st.pos = 0) (hnotes : st.notes = []) :
    Written ((measuresEvs p.nstaves ks p.measures).map fun body =>
        el "scoreDef" [] (el "staffGrp" [("bar.thru", "true")] ((stavesOf p.nstaves).flatMap (staffDefEvs p))) ++ el "section" [] body)
      st fun st' => st'.stack = st.stack ∧ DocPost p st' := by
  have ho5 := openEv_scoreDef_head st [] (pre_noDur st "scoreDef" [] rfl rfl (by decide)) hin
  let s5 : Mei.St := push { st with sdMeter := meterOfAttrs [] "meter.count" "meter.unit", sdKey := keyOfAttrs [] "key.sig" "key.mode" } "scoreDef" []
  obtain ⟨ds, us, rD, lD, mD⟩ := staffDefs_spec p b u hm (stavesOf p.nstaves) (push s5 "staffGrp" [("bar.thru", "true")]) hin
  have rG := plain_el s5 "staffGrp" [("bar.thru", "true")] _ _ (by decide) rfl rfl rD rfl
  have hc5 := closeEv_scoreDef_head { (push s5 "staffGrp" [("bar.thru", "true")]) with units := us, defs := ds ++ st.defs, stack := s5.stack }
    { tag := "scoreDef", attrs := [] } st.stack rfl rfl hin
  let s6 : Mei.St := { s5 with units := us, defs := ds ++ st.defs, stack := st.stack, sdMeterChild := none, sdKeyChild := none }
  have ho7 := openEv_section s6 [] (pre_noDur s6 "section" [] rfl rfl (by decide))
  have hdefs6 : s6.defs = ds := by show ds ++ st.defs = ds; rw [hdefs]; simp
  have hc7 : SecCtx (push { s6 with inSection := true } "section" []) p.nstaves :=
    ⟨inLayer_push_false _ _ _ hnl (by decide), (C19S.tupletsOf_cons_of_ne (by decide) _).trans hnt, hch,
      by show s6.defs.length = _; rw [hdefs6, lD]; simp [stavesOf], fun d hd => mD d (hdefs6 ▸ hd), rfl⟩
  obtain ⟨body, s8, hbody, r8, new, n8, k8, c8, R8⟩ := measures_spec p.divs p.nstaves p.measures ks 0 hchain hok _ hc7
    (by show st.pos = _; rw [hpos]; simp)
  have hcl := closeEv_plain s8 "section" [] st.stack k8 (by decide)
  refine ⟨_, _, by rw [hbody]; rfl, runEvs_seq (runEvs_el ho5 rG hc5) (runEvs_el ho7 r8 hcl), rfl, c8.defs, c8.meters, ?_⟩
  have : s8.notes = new := by rw [n8]; show new ++ st.notes = new; rw [hnotes]; simp
  exact this ▸ R8

/-- `export_import` (MEI), the state machine part: the written document runs through, and every note of the part is read -/
theorem doc_spec (p : MPart) (hexp : Exportable p = true) :
    Written (writeMei p) {} (DocPost p) := by
  simp only [Exportable, Bool.and_eq_true, decide_eq_true_eq, List.all_eq_true] at hexp
  obtain ⟨⟨⟨_, hm0⟩, hchain⟩, hok⟩ := hexp
  obtain ⟨⟨b, u⟩, hm⟩ := Option.isSome_iff_exists.mp hm0
  -- the elements around the score only structure the document
  obtain ⟨_, s6, hw, r6⟩ := score_spec p b u hm hchain (fun m hm => hok m hm) (initKeys p)
    (push (push (push (push (push {} "mei" [("meiversion", "4.0.1")]) "music" []) "body" []) "mdiv" []) "score" []) rfl rfl rfl rfl rfl rfl rfl
  obtain ⟨body, hbody, rfl⟩ := Option.map_eq_some_iff.mp hw
  have hQ : ∀ (s : Mei.St) k, DocPost p s → DocPost p { s with stack := k } := fun _ _ h => h
  obtain ⟨s', r', h'⟩ := plain_el_of (DocPost p) hQ _ "music" [] _ (by decide) rfl rfl
    (plain_el_of (DocPost p) hQ _ "body" [] _ (by decide) rfl rfl
      (plain_el_of (DocPost p) hQ _ "mdiv" [] _ (by decide) rfl rfl
        (plain_el_of (DocPost p) hQ _ "score" [] _ (by decide) rfl rfl ⟨s6, r6⟩)))
  -- the header of the file leaves no trace
  have rH : runEvs (push {} "mei" [("meiversion", "4.0.1")]) (el "meiHead" [] (el "fileDesc" [] (el "titleStmt" [] (el "title" [] [])))) =
      some (push {} "mei" [("meiversion", "4.0.1")]) :=
    plain_el_same _ "meiHead" _ (by decide) <| plain_el_same _ "fileDesc" _ (by decide) <|
      plain_el_same _ "titleStmt" _ (by decide) <| plain_el_same _ "title" [] (by decide) rfl
  obtain ⟨stF, r, _, hF⟩ := plain_el_of (DocPost p) hQ {} "mei" [("meiversion", "4.0.1")] _ (by decide) rfl rfl
    ⟨s', runEvs_seq rH r', h'⟩
  exact ⟨_, stF, by simp only [writeMei, hbody, Option.map_some]; rfl, r, hF⟩

theorem mkPart_mem (st : Mei.St) (i : Nat) (d : PartDef) (m : Nat × Nat) (hm : d.meter = some m) :
    ∃ P, mkPart st i d = some P ∧ ∀ r ∈ st.notes, r.part = i → ∃ x ∈ P.notes, factOfMeiNote x = rfact r := by
  have hres : resolveMeter st d = some m := by simp [resolveMeter, hm]
  obtain ⟨mb, mu⟩ := m
  simp only [mkPart, hres]
  refine ⟨_, rfl, ?_⟩
  intro r hr hp
  simp only [List.mem_mergeSort, List.mem_map, List.mem_filter, List.mem_reverse]
  exact ⟨_, ⟨r, ⟨hr, by simp [hp]⟩, rfl⟩, by simp [factOfMeiNote, rfact]⟩

/-- the proof of `C19.export_import_mei` (`Props/C19MeiWrite.lean`, where the claim is spelt out) -/
theorem export_import_mei_aux (p : MPart) (h : Exportable p = true) :
    ∃ evs parts, writeMei p = some evs ∧ Mei.denote evs = some parts ∧
      ∀ f ∈ facts p, ∃ part ∈ parts, ∃ x ∈ part.notes, factOfMeiNote x = f := by
  obtain ⟨evs, stF, hw, hrun, hlen, hall, hpart, hfacts⟩ := doc_spec p h
  -- every definition yields a part
  have hdef : ∀ di ∈ (partsInOrder stF).zipIdx, ∃ m, di.1.meter = some m := fun di hdi => hall di.1 (by
    have := List.mem_of_getElem? (List.mem_zipIdx_iff_getElem?.mp hdi)
    simpa [partsInOrder] using this)
  obtain ⟨parts, hparts⟩ := Lists.mapM_total (fun (di : PartDef × Nat) => mkPart stF di.2 di.1) _ fun di hdi => by
    obtain ⟨m, hm⟩ := hdef di hdi
    obtain ⟨P, hP, _⟩ := mkPart_mem stF di.2 di.1 m hm
    simp [hP]
  refine ⟨evs, parts, hw, by simp only [Mei.denote, hrun]; exact hparts, fun f hf => ?_⟩
  simp only [facts, List.mem_flatten, List.mem_map] at hf
  obtain ⟨l, ⟨m, hm, rfl⟩, hfl⟩ := hf
  simp only [List.mem_map, List.mem_filter] at hfl
  obtain ⟨x, ⟨hx, hk⟩, rfl⟩ := hfl
  obtain ⟨r, hr, hrf⟩ := hfacts x (List.mem_flatMap.mpr ⟨m, hm, hx⟩) (by simpa using hk)
  -- the part of the definition the note was read into holds it
  have hi : r.part < (partsInOrder stF).length := by simpa [partsInOrder, hlen] using hpart r hr
  have hdi : ((partsInOrder stF)[r.part], r.part) ∈ (partsInOrder stF).zipIdx :=
    List.mem_zipIdx_iff_getElem?.mpr (by simp [List.getElem?_eq_getElem hi])
  obtain ⟨mt, hmt⟩ := hdef _ hdi
  obtain ⟨P, hP, hnotes⟩ := mkPart_mem stF r.part _ mt hmt
  have hPin : P ∈ parts := by
    have := List.mem_map_of_mem (f := fun (di : PartDef × Nat) => mkPart stF di.2 di.1) hdi
    rw [Lists.mapM_eq_some_iff.mp hparts, hP] at this
    simpa using this
  obtain ⟨y, hy, hyf⟩ := hnotes r hr rfl
  exact ⟨P, hPin, y, hy, by rw [hyf, hrf]⟩

end C19M
