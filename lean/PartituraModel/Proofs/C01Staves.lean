/-
C01 helper lemmas: the memo `Part._number_of_staves` (Model/TimelineY.lean: `computeStaves`, `readStaves`).
`compute_number_of_staves` is a maximum, so it depends on WHICH objects the four `iter_all` calls return, not on
their order; which objects they return is determined by the listings of the starting registries.
-/
import PartituraModel.Proofs.C01Y
import PartituraModel.Proofs.Folds

namespace TL

/-- the loop `if e.staff is not None and e.staff > max_staves: max_staves = e.staff` is the maximum of the initial value
and the `staff` attributes there are -/
theorem stavesFold_eq_max (staff : ObjRef → Option Nat) (m : Nat) (l : List ObjRef) :
    stavesFold staff m l = (l.filterMap staff).foldl max m := by
  induction l generalizing m with
  | nil => rfl
  | cons a l ih =>
    have step : stavesFold staff m (a :: l)
        = stavesFold staff (match staff a with | some k => if k > m then k else m | none => m) l := rfl
    rw [step, ih]
    cases h : staff a with
    | none => rw [List.filterMap_cons_none h]
    | some k =>
      rw [List.filterMap_cons_some h, List.foldl_cons]
      congr 1
      show (if k > m then k else m) = max m k
      by_cases hkm : k > m
      · rw [if_pos hkm, Nat.max_eq_right (Nat.le_of_lt hkm)]
      · rw [if_neg hkm, Nat.max_eq_left (Nat.le_of_not_lt hkm)]

theorem stavesFold_spec (staff : ObjRef → Option Nat) (m : Nat) (l : List ObjRef) :
    m ≤ stavesFold staff m l ∧ (∀ o ∈ l, ∀ k, staff o = some k → k ≤ stavesFold staff m l)
      ∧ (stavesFold staff m l = m ∨ ∃ o ∈ l, staff o = some (stavesFold staff m l)) := by
  rw [stavesFold_eq_max]
  refine ⟨Lists.foldl_max_ge_init m _,
    fun o ho k hk => Lists.foldl_max_ge_mem m _ k (List.mem_filterMap.mpr ⟨o, ho, hk⟩),
    (Lists.foldl_max_mem m _).imp_right fun h => ?_⟩
  obtain ⟨o, ho, hk⟩ := List.mem_filterMap.mp h
  exact ⟨o, ho, hk⟩

theorem stavesFold_le_of_subset (staff : ObjRef → Option Nat) (m : Nat) {l l' : List ObjRef}
    (h : ∀ o, o ∈ l → o ∈ l') : stavesFold staff m l ≤ stavesFold staff m l' := by
  rw [stavesFold_eq_max, stavesFold_eq_max]
  refine Lists.foldl_max_mono m fun k hk => ?_
  obtain ⟨o, ho, hko⟩ := List.mem_filterMap.mp hk
  exact ⟨k, List.mem_filterMap.mpr ⟨o, h o ho, hko⟩, le_refl k⟩

theorem stavesFold_congr (staff : ObjRef → Option Nat) (m : Nat) {l l' : List ObjRef}
    (h : ∀ o, o ∈ l ↔ o ∈ l') : stavesFold staff m l = stavesFold staff m l' :=
  Nat.le_antisymm (stavesFold_le_of_subset staff m fun o => (h o).mp)
    (stavesFold_le_of_subset staff m fun o => (h o).mpr)

/-- several loops in a row are one loop over the concatenated answers -/
theorem stavesFoldl_eq {α : Type} (staff : ObjRef → Option Nat) (L : α → List ObjRef) (qs : List α) (m : Nat) :
    qs.foldl (fun acc q => stavesFold staff acc (L q)) m = stavesFold staff m (qs.flatMap L) := by
  unfold stavesFold
  rw [List.foldl_flatMap]

theorem stavesFoldl_spec {α : Type} (staff : ObjRef → Option Nat) (L : α → List ObjRef) (qs : List α) (m : Nat) :
    m ≤ qs.foldl (fun acc q => stavesFold staff acc (L q)) m
      ∧ (∀ q ∈ qs, ∀ o ∈ L q, ∀ k, staff o = some k → k ≤ qs.foldl (fun acc q => stavesFold staff acc (L q)) m)
      ∧ (qs.foldl (fun acc q => stavesFold staff acc (L q)) m = m
          ∨ ∃ q ∈ qs, ∃ o ∈ L q, staff o = some (qs.foldl (fun acc q => stavesFold staff acc (L q)) m)) := by
  rw [stavesFoldl_eq]
  obtain ⟨h1, h2, h3⟩ := stavesFold_spec staff m (qs.flatMap L)
  refine ⟨h1, fun q hq o ho => h2 o (List.mem_flatMap.mpr ⟨q, hq, ho⟩), h3.imp_right ?_⟩
  rintro ⟨o, ho, hk⟩
  obtain ⟨q, hq, hoq⟩ := List.mem_flatMap.mp ho
  exact ⟨q, hq, o, hoq, hk⟩

theorem rangePoints_all (pts : List Point) : rangePoints pts none none = pts := by
  unfold rangePoints
  simp [geOpt, ltOptB]

theorem mem_iterAll_whole {s : Part} (hs : s.times.Pairwise (· < ·)) (c : Nat) (incl : Bool) (o : ObjRef) :
    o ∈ iterAll s (some c) none none incl .starting
      ↔ (∃ x, Listed s .start x o) ∧ clsMatch (some c) incl o.cls := by
  rw [iterAll_eq hs, rangePoints_all]
  simp only [List.mem_flatMap, mem_iterReg, inclEff, Mode.side, Listed]
  constructor
  · rintro ⟨p, hp, h1, h2⟩
    exact ⟨⟨p.t, p, hp, rfl, h1⟩, h2⟩
  · rintro ⟨⟨x, p, hp, -, h1⟩, h2⟩
    exact ⟨p, hp, h1, h2⟩

theorem stavesQuery_eq (s : Part) (c : Nat) (incl : Bool) :
    iterAllX s (some c) .absent .absent (some incl) none = iterAll s (some c) none none incl .starting := by
  rw [iterAllX_eq, iterAllQ_eq_ceil]
  simp only [Bound.key, Option.map_none, Option.getD_some, Option.getD_none, modeOfString_starting]

theorem computeStaves_congr {s s' : Part} (hs : s.times.Pairwise (· < ·)) (hs' : s'.times.Pairwise (· < ·))
    (hl : ∀ x o, Listed s' .start x o ↔ Listed s .start x o) (staff : ObjRef → Option Nat) :
    computeStaves s' staff = computeStaves s staff := by
  unfold computeStaves
  rw [stavesFoldl_eq staff (fun q : Nat × Bool => iterAllX s' (some q.1) .absent .absent (some q.2) none),
    stavesFoldl_eq staff (fun q : Nat × Bool => iterAllX s (some q.1) .absent .absent (some q.2) none)]
  refine stavesFold_congr staff _ fun o => ?_
  simp only [List.mem_flatMap, stavesQuery_eq, mem_iterAll_whole hs', mem_iterAll_whole hs, hl]

/-- the memo is empty or holds what `compute_number_of_staves` would return now -/
def StavesOk (staff : ObjRef → Option Nat) (y : YPart) : Prop :=
  y.staves = none ∨ y.staves = some (computeStaves y.c.part staff)

/-- the operations that go through `Part` (everything but the direct `TimePoint` calls and the Slur / Tuplet
setters, which edit registries behind the part's back) -/
def OpY.partLevel : OpY → Bool
  | .base (.tpAdd _ _ _) => false
  | .base (.tpRemove _ _ _) => false
  | .base (.slurStart _ _) => false
  | .base (.slurEnd _ _) => false
  | .tupletStart _ _ => false
  | .tupletEnd _ _ => false
  | _ => true

theorem stepY_stavesOk {staff : ObjRef → Option Nat} {y y' : YPart} {out : OutY} (h : YInv y)
    (hs : StavesOk staff y) {op : OpY} (hq : op.qdNonneg) (hp : op.partLevel = true)
    (he : stepY staff y op = .ok (y', out)) : StavesOk staff y' := by
  have hY' : YInv y' := stepY_preserves h hq he
  cases op with
  | tupletStart tup note => cases hp
  | tupletEnd tup note => cases hp
  | view name =>
    simp only [stepY, Except.ok.injEq, Prod.mk.injEq] at he
    obtain ⟨rfl, -⟩ := he; exact hs
  | duration o =>
    simp only [stepY, Except.ok.injEq, Prod.mk.injEq] at he
    obtain ⟨rfl, -⟩ := he; exact hs
  | staves =>
    simp only [stepY, Except.ok.injEq, Prod.mk.injEq] at he
    obtain ⟨rfl, -⟩ := he
    unfold readStaves
    cases hm : y.staves with
    | some n => simp only; exact hs
    | none => simp only; exact Or.inr rfl
  | base opx =>
    simp only [stepY] at he
    cases hx : stepX y.c opx with
    | error e => rw [hx] at he; cases he
    | ok r =>
      obtain ⟨c', o'⟩ := r
      rw [hx] at he
      simp only [Except.map, Except.ok.injEq, Prod.mk.injEq] at he
      obtain ⟨rfl, -⟩ := he
      -- either the memo is reset, or the starting listings are what they were
      by_cases hr : opx.resetsStaves = true
      · left; simp only [hr, if_true]
      · have hr' : opx.resetsStaves = false := by simpa using hr
        simp only [hr', Bool.false_eq_true, if_false]
        have keep : ∀ x o, Listed c'.part .start x o ↔ Listed y.c.part .start x o := by
          obtain ⟨s', rfl, hm⟩ := stepX_shape h.2 hx
          have key : ∀ sd x, regAt s'.points sd x = regAt y.c.part.points sd x := by
            cases hm with
            | same => exact fun _ _ => rfl
            | timeline h1 h2 =>
              rcases OpX.toOp_cases h1 with rfl | ⟨o, st, en, rfl, rfl⟩ | ⟨o, w, w', rfl, rfl⟩
              · exact step_regAt_frame h.1 hq (fun o st en e => by subst e; cases hr')
                  (fun o w e => by subst e; cases hr') h2
              · cases hr'
              · cases hr'
            | tpAdd ho _ => subst ho; cases hp
            | tpRemove ho => subst ho; cases hp
            | slurStart ho => subst ho; cases hp
            | slurEnd ho => subst ho; cases hp
          intro x o
          rw [listed_iff_regAt hY'.1.sorted, listed_iff_regAt h.1.sorted]
          exact Iff.of_eq (congrArg _ (key .start x))
        rcases hs with e | e
        · left; exact e
        · right
          rw [e]
          congr 1
          exact (computeStaves_congr h.1.sorted hY'.1.sorted keep staff).symm

end TL
