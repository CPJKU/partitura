/-
The state machine of `Model/Mei.lean` by kind of element.  Its two step functions equal functions (`openCore`, `closeCore`) that
see the stack of open elements only through a small context (`Ctx`) and dispatch on the kind of element (`Kind`, `CKind`)
instead of on its name; `openEv_eq` / `closeEv_eq` (`openEv_of_pre`) are the bridge, and nothing after them unfolds `openEv` /
`closeEv`.  Then: what a child of a layer does, what a step leaves alone (`OpenFrame`, `Untouched`), runs (`run_keeps`, `run_rel`),
from runs to denotations, elements the machine passes over (`leaf_state`), the tie list: never read (`step_ties`), along a run.
-/
import PartituraModel.Model.Mei
import PartituraModel.Proofs.C19Run
import PartituraModel.Proofs.Lists

set_option linter.unusedSimpArgs false
set_option linter.unusedVariables false

namespace C19S
open Model Model.Mei

/-- what a step sees of the stack: tag of the innermost open element (`""`: none) and, where a step reads them, its
    attributes; the enclosing tuplets, innermost first; whether a `layer` is open -/
structure Ctx where
  ptag : String
  pattrs : List (String × String)
  tups : List (Nat × Nat)
  lay : Bool
  deriving DecidableEq

def ptagOf (s : List Frame) : String := (s.head?.map (·.tag)).getD ""

/-- the attributes of the innermost open element are looked at only when it is a `staffDef` (number of a clef)
    or a `note` (an `accid` child) -/
def ctxOf (s : List Frame) : Ctx :=
  ⟨ptagOf s, if ptagOf s = "staffDef" ∨ ptagOf s = "note" then (s.head?.map (·.attrs)).getD [] else [], tupletsOf s, inLayer s⟩

/-- what a child element writes into the frame of its parent (`staffDef` / `scoreDef`) -/
inductive TopMod where
  | keep
  | meter (m : Option (Nat × Nat))
  | key (k : Option (Int × Option String))
  | clef (c : Option (Nat × String × Nat × Int))

def applyTop : TopMod → List Frame → List Frame
  | .keep, s => s
  | .meter m, s => setTop s fun f => { f with cMeter := m }
  | .key k, s => setTop s fun f => { f with cKey := k }
  | .clef c, s => setTop s fun f => { f with cClef := c }

def durOfT (tups : List (Nat × Nat)) (as : List (String × String)) : Option Rat :=
  match (attr as "dur").bind durNumber with
  | none => none
  | some v =>
    let dots := (natAttr as "dots").getD 0
    match tups with
    | [] => some (meiValue v dots none)
    | [(a, b)] => if a = 0 then none else some (meiValue v dots (some (a, b)))
    | _ => none

/-- the written durations an element adds to `durEls` (`none`: a malformed `@dur`, or nested tuplets) -/
def newDurEls (tups : List (Nat × Nat)) (as : List (String × String)) : Option (List DurEl) :=
  match attr as "dur" with
  | none => some []
  | some d =>
    match durNumber d with
    | none => none
    | some v =>
      match tups with
      | [] => some [⟨v, (natAttr as "dots").getD 0, none, natAttr as "dur.ppq"⟩]
      | [t] => some [⟨v, (natAttr as "dots").getD 0, some t, natAttr as "dur.ppq"⟩]
      | _ => none

/-- the beat units an element adds to `units` -/
def newUnits (tag : String) (as : List (String × String)) : List Nat :=
  (if tag = "meterSig" then (natAttr as "unit").toList else []) ++ (natAttr as "meter.unit").toList

/-- the state after the two recorders of `openEv` -/
def recorded (st : St) (us : List Nat) (es : List DurEl) : St := { st with units := us ++ st.units, durEls := es ++ st.durEls }

/-- the tie a single element contributes: a `tie` with both `@startid` and `@endid` (without the leading `#`) -/
def tieOf (tag : String) (as : List (String × String)) : List (String × String) :=
  if tag = "tie" then
    match attr as "startid", attr as "endid" with
    | some a, some b => [(String.ofList (a.toList.drop 1), String.ofList (b.toList.drop 1))]
    | _, _ => []
  else []

/-- the element names `openEv` tells apart among the children of a layer -/
inductive LKind where
  | chord | note | accid | rest | mRest (multi : Bool) | space | tuplet | other
  deriving DecidableEq

/-- the element names `openEv` tells apart -/
inductive Kind where
  | tie | meterSig | sect | scoreDef | keySig | clef | measure | staff | layer
  | content (k : LKind)
  deriving DecidableEq

/-- the kind of a child of a layer, asked for in the order in which `openEv` asks -/
def lkindOf (tag : String) : LKind :=
  if tag = "chord" then .chord else if tag = "note" then .note else if tag = "accid" then .accid
  else if tag = "rest" then .rest else if tag = "mRest" then .mRest false else if tag = "multiRest" then .mRest true
  else if tag = "space" then .space else if tag = "tuplet" then .tuplet else .other

def kindOf (tag : String) : Kind :=
  if tag = "section" then .sect else if tag = "scoreDef" then .scoreDef else if tag = "meterSig" then .meterSig
  else if tag = "keySig" then .keySig else if tag = "clef" then .clef else if tag = "measure" then .measure
  else if tag = "staff" then .staff else if tag = "layer" then .layer else if tag = "tie" then .tie
  else .content (lkindOf tag)

/-- the names `kindOf` has a branch for -/
def openTags : List String :=
  ["tie", "meterSig", "section", "scoreDef", "keySig", "clef", "measure", "staff", "layer", "chord", "note", "accid", "rest",
   "mRest", "multiRest", "space", "tuplet"]

theorem kindOf_other {tag : String} (h : tag ∉ openTags) : kindOf tag = .content .other := by
  simp only [openTags, List.mem_cons, List.not_mem_nil, or_false, not_or] at h
  simp only [kindOf, lkindOf, h, if_false]

def noteAt (st : St) (as : List (String × String)) (d : Rat) (kind : Nat) (step : String) (oct : Nat) (staff : Nat) : RNote :=
  ⟨st.staffIdx, (attr as "xml:id").getD "", st.cursor, d, kind, step, (noteAlter as).getD 0, oct, st.voice,
   (natAttr as "staff").getD staff⟩

def restAt (st : St) (as : List (String × String)) (d : Rat) : RNote :=
  ⟨st.staffIdx, (attr as "xml:id").getD "", st.cursor, d, 2, "", 0, 0, st.voice, (natAttr as "staff").getD st.staffN⟩

/-- what a child of a layer does: the new open chord, note list and cursor (`openEv` inside a layer touches
    nothing else) -/
def layerUpd (c : Ctx) (st : St) (as : List (String × String)) : LKind → Option (Option (Rat × Option Nat) × List RNote × Rat)
  | .chord => (durOfT c.tups as).map fun d => (some (d, natAttr as "staff"), st.notes, st.cursor)
  | .note =>
    if c.ptag = "chord" then
      match st.chord with
      | none => none
      | some (d, cstaff) => do
        let step ← attr as "pname"
        let oct ← (attr as "oct").bind natOfString
        pure (st.chord, noteAt st as d 0 (upperStep step) oct (cstaff.getD st.staffN) :: st.notes, st.cursor)
    else do
      let grace := (attr as "grace").isSome
      let d ← if grace then some 0 else durOfT c.tups as
      let step ← attr as "pname"
      let oct ← (attr as "oct").bind natOfString
      pure (st.chord, noteAt st as d (if grace then 1 else 0) (upperStep step) oct st.staffN :: st.notes, st.cursor + d)
  | .accid =>
    -- a child accidental: used when the note itself carries neither @accid nor @accid.ges
    some (st.chord,
      if c.ptag = "note" ∧ ¬ ((attr c.pattrs "accid").isSome || (attr c.pattrs "accid.ges").isSome) then
        match st.notes, noteAlter as with
        | n :: rest, some a => { n with alter := a } :: rest
        | _, _ => st.notes
      else st.notes,
      st.cursor)
  | .rest => (durOfT c.tups as).map fun d => (st.chord, restAt st as d :: st.notes, st.cursor + d)
  | .mRest multi =>
    if multi && (natAttr as "num").getD 1 > 1 then none
    else (measureLen st).map fun d => (st.chord, restAt st as d :: st.notes, st.cursor + d)
  | .space =>
    match attr as "dur" with
    | some _ => (durOfT c.tups as).map fun d => (st.chord, st.notes, st.cursor + d)
    | none => (measureLen st).map fun d => (st.chord, st.notes, st.pos + d)   -- fills the rest of the measure
  | .tuplet =>
    match c.tups with
    | [] => some (st.chord, st.notes, st.cursor)
    | _ => none                                     -- nested tuplets: outside the supported subset
  | .other => some (st.chord, st.notes, st.cursor)

def layerBody (c : Ctx) (st : St) (as : List (String × String)) (k : LKind) : Option St :=
  (layerUpd c st as k).map fun u => { st with chord := u.1, notes := u.2.1, cursor := u.2.2 }

/-- what a `<clef>` does: nothing, its clef written into the frame of its `staffDef`, or a clef change inside a layer -/
inductive ClefDo where
  | nothing
  | inDef (c : Nat × String × Nat × Int)
  | change (sh : String) (ln : Nat) (oct : Int)

/-- `none`: a clef without `@shape` or `@line` (and not a copy of another one, `@sameas`) is refused -/
def clefDo (c : Ctx) (as : List (String × String)) : Option ClefDo :=
  if (attr as "sameas").isSome then some .nothing
  else
    match attr as "shape", natAttr as "line" with
    | some sh, some ln =>
      some (if c.ptag = "staffDef" then .inDef ((natAttr c.pattrs "n").getD 1, sh, ln, clefOctave as)
            else if c.lay then .change sh ln (clefOctave as) else .nothing)
    | _, _ => none

def ClefDo.on (st : St) : ClefDo → St × TopMod
  | .nothing => (st, .keep)
  | .inDef x => (st, .clef (some x))
  | .change sh ln oct => ({ st with clefs := (st.staffIdx, st.cursor, st.staffN, sh, ln, oct) :: st.clefs }, .keep)

theorem clefDo_inDef {c : Ctx} {as : List (String × String)} {x : Nat × String × Nat × Int}
    (h : clefDo c as = some (.inDef x)) : c.ptag = "staffDef" := by
  unfold clefDo at h
  split at h
  · cases h
  · split at h
    · by_cases hp : c.ptag = "staffDef"
      · exact hp
      · rw [if_neg hp] at h
        split at h <;> cases h
    · cases h

/-- the result of an element that writes nothing into the frame of its parent -/
def keep (x : Option St) : Option (St × TopMod) := x.map (·, .keep)

/-- `openEv` without the stack, by kind of element: the new state (stack untouched) and what is written into
    the parent's frame -/
def coreBody (c : Ctx) (st : St) (as : List (String × String)) : Kind → Option (St × TopMod)
  | .tie => keep (some { st with ties := tieOf "tie" as ++ st.ties })
  | .meterSig =>
    some (st, if c.ptag = "staffDef" || c.ptag = "scoreDef" then .meter (meterOfAttrs as "count" "unit") else .keep)
  | .sect => keep (some { st with inSection := true })
  | .scoreDef =>
    keep (some (if st.inSection then st
      else { st with sdMeter := meterOfAttrs as "meter.count" "meter.unit", sdKey := keyOfAttrs as "key.sig" "key.mode" }))
  | .keySig =>
    some (st, if c.ptag = "staffDef" || c.ptag = "scoreDef" then .key (keyOfAttrs as "sig" "mode") else .keep)
  | .clef => (clefDo c as).map (ClefDo.on st)
  | .measure => keep ((ensureStarted st).map fun st => { st with measName := attr as "n", staffIdx := 0, staffEnds := [] })
  | .staff =>
    keep (some (if c.ptag = "measure" then { st with staffN := (natAttr as "n").getD (st.staffIdx + 1), layerIdx := 0, layerEnds := [] }
                else st))
  | .layer =>
    keep (some (if c.ptag = "staff" then { st with voice := (natAttr as "n").getD (st.layerIdx + 1), cursor := st.pos } else st))
  | .content k => keep (if !c.lay then some st else layerBody c st as k)

theorem coreBody_other (c : Ctx) (st : St) (as : List (String × String)) :
    coreBody c st as (.content .other) = some (st, .keep) := by
  simp [coreBody, layerBody, layerUpd, keep]

/-- `recordDurEl` seen through the enclosing tuplets only -/
def recordDurElT (tups : List (Nat × Nat)) (st : St) (as : List (String × String)) : Option St :=
  (newDurEls tups as).map fun es => recorded st [] es

def openCore (c : Ctx) (st : St) (tag : String) (as : List (String × String)) : Option (St × TopMod) :=
  (recordDurElT c.tups (recordUnits st tag as) as).bind fun st => coreBody c st as (kindOf tag)

/-- the element names `closeEv` tells apart -/
inductive CKind where
  | scoreDef | staffDef | layer | staff | measure | chord | other

def ckindOf (tag : String) : CKind :=
  if tag = "scoreDef" then .scoreDef else if tag = "staffDef" then .staffDef
  else if tag = "layer" then .layer else if tag = "staff" then .staff
  else if tag = "measure" then .measure else if tag = "chord" then .chord else .other

/-- the names `ckindOf` has a branch for -/
def closeTags : List String := ["scoreDef", "staffDef", "layer", "staff", "measure", "chord"]

theorem ckindOf_other {tag : String} (h : tag ∉ closeTags) : ckindOf tag = .other := by
  simp only [closeTags, List.mem_cons, List.not_mem_nil, or_false, not_or] at h
  simp only [ckindOf, h, if_false]

/-- the part a `staffDef` declares: what its `meterSig` / `keySig` / `clef` children wrote into its frame goes before
    its own attributes -/
def partDefOf (f : Frame) : PartDef := {
  xmlid := (attr f.attrs "xml:id").getD "", n := (natAttr f.attrs "n").getD 1, ppq := natAttr f.attrs "ppq",
  meter := (match f.cMeter with | some m => some m | none => meterOfAttrs f.attrs "meter.count" "meter.unit"),
  key := (match f.cKey with | some k => some k | none => keyOfAttrs f.attrs "key.sig" "key.mode"),
  clef := (match f.cClef with
    | some c => some c
    | none => match natAttr f.attrs "n", attr f.attrs "clef.shape", natAttr f.attrs "clef.line" with
      | some n, some sh, some ln => some (n, sh, ln, clefOctave f.attrs)
      | _, _, _ => none) }

/-- `closeEv` after the innermost element `f` has been taken off the stack, by kind of element (`below`: tag of the
    element that is innermost now); the stack itself is not touched -/
def closeBody (f : Frame) (below : String) (st : St) : CKind → Option St
  | .scoreDef =>
    if st.inSection then (ensureStarted st).map fun st => applySdChange st f
    else some { st with sdMeterChild := f.cMeter, sdKeyChild := f.cKey }
  | .staffDef => some (if !st.inSection then { st with defs := partDefOf f :: st.defs } else st)
  | .layer =>
    some (if below = "staff" then { st with layerEnds := st.cursor :: st.layerEnds, layerIdx := st.layerIdx + 1 } else st)
  | .staff =>
    some (if below = "measure" then
        let e := ratMaxFrom st.pos st.layerEnds
        { st with measures := (st.staffIdx, st.measNo, st.measName, st.pos, e) :: st.measures,
                  staffEnds := e :: st.staffEnds, staffIdx := st.staffIdx + 1 }
      else st)
  | .measure =>
    if st.staffIdx ≠ st.defs.length then none
    else some { st with pos := ratMaxFrom st.pos st.staffEnds, measNo := st.measNo + 1 }
  | .chord =>
    some (match st.chord with
      | some (d, _) => { st with cursor := st.cursor + d, chord := none }
      | none => st)
  | .other => some st

def closeCore (f : Frame) (below : String) (st : St) : Option St := closeBody f below st (ckindOf f.tag)

def withStack (st : St) (s : List Frame) : St := { st with stack := s }

def newFrame (tag : String) (as : List (String × String)) : Frame := { tag := tag, attrs := as }

theorem durOfAttrs_eq (st : St) (as : List (String × String)) : durOfAttrs st as = durOfT (tupletsOf st.stack) as := rfl

theorem recordUnits_eq (st : St) (tag : String) (as : List (String × String)) :
    recordUnits st tag as = recorded st (newUnits tag as) [] := by
  -- both sides put `@unit` of a meterSig in front of `@meter.unit`, whichever of the two is there
  unfold recordUnits newUnits
  by_cases h : tag = "meterSig"
  · rw [if_pos h, if_pos h]
    cases natAttr as "meter.unit" <;> cases natAttr as "unit" <;> rfl
  · rw [if_neg h, if_neg h]
    cases natAttr as "meter.unit" <;> rfl

theorem recordUnits_stack (st : St) (tag : String) (as : List (String × String)) (s : List Frame) :
    recordUnits (withStack st s) tag as = withStack (recordUnits st tag as) s := by
  rw [recordUnits_eq, recordUnits_eq]; rfl

theorem openCore_eq (c : Ctx) (st : St) (tag : String) (as : List (String × String)) :
    openCore c st tag as =
      (newDurEls c.tups as).bind fun es => coreBody c (recorded st (newUnits tag as) es) as (kindOf tag) := by
  unfold openCore recordDurElT
  rw [recordUnits_eq]
  cases newDurEls c.tups as <;> rfl

theorem recordDurEl_eq (st : St) (as : List (String × String)) :
    recordDurEl st as = (recordDurElT (tupletsOf st.stack) (withStack st []) as).map fun s => withStack s st.stack := by
  unfold recordDurEl recordDurElT newDurEls
  cases attr as "dur" with
  | none => rfl
  | some d =>
    dsimp only
    cases durNumber d with
    | none => rfl
    | some v => rcases tupletsOf st.stack with _ | ⟨t, _ | ⟨t2, ts⟩⟩ <;> rfl

theorem ensureStarted_eq (st : St) :
    ensureStarted st = if st.started then some st
      else ((partsInOrder st).mapM (resolveMeter st)).map fun ms => { st with meters := ms, started := true } := by
  unfold ensureStarted
  split
  · rfl
  · cases (partsInOrder st).mapM (resolveMeter st) <;> rfl

theorem ensureStarted_stack (st : St) (s : List Frame) :
    ensureStarted (withStack st s) = (ensureStarted st).map fun x => withStack x s := by
  rw [ensureStarted_eq, ensureStarted_eq]
  show (if st.started then _ else Option.map _ ((partsInOrder st).mapM (resolveMeter st))) = _
  split
  · rfl
  · cases (partsInOrder st).mapM (resolveMeter st) <;> rfl

theorem measureLen_stack (st : St) (s : List Frame) : measureLen (withStack st s) = measureLen st := rfl

theorem durOfAttrs_stack (st : St) (s : List Frame) (as : List (String × String)) :
    durOfAttrs (withStack st s) as = durOfT (tupletsOf s) as := rfl

@[simp] theorem applyTop_keep (s : List Frame) : applyTop .keep s = s := rfl
@[simp] theorem applyTop_meter_cons (m) (f : Frame) (r : List Frame) :
    applyTop (.meter m) (f :: r) = { f with cMeter := m } :: r := rfl
@[simp] theorem applyTop_key_cons (k) (f : Frame) (r : List Frame) :
    applyTop (.key k) (f :: r) = { f with cKey := k } :: r := rfl
@[simp] theorem applyTop_clef_cons (c) (f : Frame) (r : List Frame) :
    applyTop (.clef c) (f :: r) = { f with cClef := c } :: r := rfl
@[simp] theorem applyTop_nil (t : TopMod) : applyTop t [] = [] := by cases t <;> rfl

/-- the frame of the parent after a child has written into it -/
def TopMod.on : TopMod → Frame → Frame
  | .keep, f => f
  | .meter m, f => { f with cMeter := m }
  | .key k, f => { f with cKey := k }
  | .clef c, f => { f with cClef := c }

theorem applyTop_cons (tm : TopMod) (f : Frame) (r : List Frame) : applyTop tm (f :: r) = tm.on f :: r := by
  cases tm <;> rfl

theorem TopMod.on_tag (tm : TopMod) (f : Frame) : (tm.on f).tag = f.tag := by
  cases tm <;> rfl

/-- a child writes into the innermost frame only -/
theorem applyTop_append (tm : TopMod) (s r : List Frame) (h : s = [] → tm = .keep) :
    applyTop tm (s ++ r) = applyTop tm s ++ r := by
  cases s with
  | nil => rw [h rfl]; rfl
  | cons f s => rw [List.cons_append, applyTop_cons, applyTop_cons, List.cons_append]

theorem drop_applyTop (tm : TopMod) (s : List Frame) (d : Nat) : (applyTop tm s).drop (d + 1) = s.drop (d + 1) := by
  cases s with
  | nil => rw [applyTop_nil]
  | cons f s => rw [applyTop_cons]; rfl

theorem applyTop_tags (tm : TopMod) (s : List Frame) : (applyTop tm s).map (·.tag) = s.map (·.tag) := by
  cases s with
  | nil => rw [applyTop_nil]
  | cons f r => rw [applyTop_cons, List.map_cons, List.map_cons, tm.on_tag]

theorem tupletsOf_append (a b : List Frame) : tupletsOf (a ++ b) = tupletsOf a ++ tupletsOf b :=
  List.filterMap_append

theorem inLayer_append (a b : List Frame) : inLayer (a ++ b) = (inLayer a || inLayer b) :=
  List.any_append

theorem tupletsOf_cons_of_ne {f : Frame} (h : f.tag ≠ "tuplet") (s : List Frame) : tupletsOf (f :: s) = tupletsOf s := by
  simp [tupletsOf, h]

theorem inLayer_cons_of_ne {f : Frame} (h : f.tag ≠ "layer") (s : List Frame) : inLayer (f :: s) = inLayer s := by
  simp [inLayer, h]

theorem pattrs_of_ptag (stack : List Frame) (h : ptagOf stack = "staffDef" ∨ ptagOf stack = "note") :
    (ctxOf stack).pattrs = (stack.head?.map (·.attrs)).getD [] := if_pos h

/-! ## what a child of a layer does, and the staff a note stands on -/

theorem layerUpd_chord_note {c : Ctx} {st : St} {as : List (String × String)} {u : Option (Rat × Option Nat) × List RNote × Rat}
    (hp : c.ptag = "chord") (h : layerUpd c st as .note = some u) :
    ∃ d cstaff step oct, st.chord = some (d, cstaff) ∧
      u = (st.chord, noteAt st as d 0 (upperStep step) oct (cstaff.getD st.staffN) :: st.notes, st.cursor) := by
  simp only [layerUpd, hp, if_true] at h
  split at h
  · cases h
  · rename_i d cstaff hch
    obtain ⟨step, _, h⟩ := Option.bind_eq_some_iff.mp h
    obtain ⟨oct, _, h⟩ := Option.bind_eq_some_iff.mp h
    exact ⟨d, cstaff, step, oct, hch, (Option.some.inj h).symm⟩

theorem layerUpd_single_note {c : Ctx} {st : St} {as : List (String × String)} {u : Option (Rat × Option Nat) × List RNote × Rat}
    (hp : c.ptag ≠ "chord") (h : layerUpd c st as .note = some u) :
    ∃ d kind step oct, (d = 0 ∨ durOfT c.tups as = some d) ∧
      u = (st.chord, noteAt st as d kind (upperStep step) oct st.staffN :: st.notes, st.cursor + d) := by
  have fin : ∀ d kind, (d = 0 ∨ durOfT c.tups as = some d) →
      ((attr as "pname").bind fun step => ((attr as "oct").bind natOfString).bind fun oct =>
        some (st.chord, noteAt st as d kind (upperStep step) oct st.staffN :: st.notes, st.cursor + d)) = some u →
      ∃ d kind step oct, (d = 0 ∨ durOfT c.tups as = some d) ∧
        u = (st.chord, noteAt st as d kind (upperStep step) oct st.staffN :: st.notes, st.cursor + d) := by
    intro d kind hd h
    obtain ⟨step, _, h⟩ := Option.bind_eq_some_iff.mp h
    obtain ⟨oct, _, h⟩ := Option.bind_eq_some_iff.mp h
    exact ⟨d, kind, step, oct, hd, (Option.some.inj h).symm⟩
  simp only [layerUpd, hp, if_false] at h
  split at h
  · exact fin 0 _ (Or.inl rfl) h
  · obtain ⟨d, hd, h⟩ := Option.bind_eq_some_iff.mp h
    exact fin d _ (Or.inr hd) h

theorem openCore_layer (c : Ctx) (st : St) (tag : String) (as : List (String × String)) (r : St × TopMod) (k : LKind)
    (hl : c.lay = true) (hk : kindOf tag = .content k) (h : openCore c st tag as = some r) :
    ∃ u, layerUpd c st as k = some u ∧ r.1.chord = u.1 ∧ r.1.notes = u.2.1 ∧ r.1.cursor = u.2.2 ∧ r.1.staffN = st.staffN := by
  rw [openCore_eq, hk] at h
  obtain ⟨es, _, h⟩ := Option.bind_eq_some_iff.mp h
  simp only [coreBody, hl, Bool.not_true, Bool.false_eq_true, if_false, keep, layerBody] at h
  obtain ⟨s, hs, rfl⟩ := Option.map_eq_some_iff.mp h
  obtain ⟨u, hu, rfl⟩ := Option.map_eq_some_iff.mp hs
  exact ⟨u, hu, rfl, rfl, rfl, rfl⟩

theorem openCore_chord_note (c : Ctx) (st : St) (as : List (String × String)) (r : St × TopMod)
    (hl : c.lay = true) (hp : c.ptag = "chord") (d : Rat) (cstaff : Option Nat) (hch : st.chord = some (d, cstaff))
    (h : openCore c st "note" as = some r) :
    ∃ n, r.1.notes = n :: st.notes ∧ n.staff = (natAttr as "staff").getD (cstaff.getD st.staffN) ∧
      n.onset = st.cursor ∧ n.dur = d ∧ n.voice = st.voice ∧
      r.1.chord = st.chord ∧ r.1.staffN = st.staffN ∧ r.1.cursor = st.cursor := by
  obtain ⟨u, hu, e1, e2, e3, e4⟩ := openCore_layer c st "note" as r .note hl rfl h
  obtain ⟨d', cstaff', step, oct, hch', rfl⟩ := layerUpd_chord_note hp hu
  obtain ⟨rfl, rfl⟩ := Prod.mk.inj (Option.some.inj (hch.symm.trans hch'))
  exact ⟨_, e2, rfl, rfl, rfl, rfl, e1, e4, e3⟩

theorem openCore_chord (c : Ctx) (st : St) (as : List (String × String)) (r : St × TopMod)
    (hl : c.lay = true) (h : openCore c st "chord" as = some r) :
    ∃ d, r.1.chord = some (d, natAttr as "staff") ∧ r.1.staffN = st.staffN ∧ r.1.notes = st.notes ∧ r.1.cursor = st.cursor := by
  obtain ⟨u, hu, e1, e2, e3, e4⟩ := openCore_layer c st "chord" as r .chord hl rfl h
  obtain ⟨d, _, rfl⟩ := Option.map_eq_some_iff.mp hu
  exact ⟨d, e1, e4, e2, e3⟩

theorem layerUpd_single {c : Ctx} {st : St} {as : List (String × String)} {k : LKind}
    {u : Option (Rat × Option Nat) × List RNote × Rat}
    (hk : (k = .note ∧ c.ptag ≠ "chord") ∨ k = .rest ∨ ∃ m, k = .mRest m) (h : layerUpd c st as k = some u) :
    ∃ n : RNote, u = (st.chord, n :: st.notes, st.cursor + n.dur) ∧ n.staff = (natAttr as "staff").getD st.staffN ∧
      n.onset = st.cursor ∧ n.voice = st.voice := by
  rcases hk with ⟨rfl, hp⟩ | rfl | ⟨m, rfl⟩
  · obtain ⟨d, kind, step, oct, _, rfl⟩ := layerUpd_single_note hp h
    exact ⟨_, rfl, rfl, rfl, rfl⟩
  · obtain ⟨d, _, rfl⟩ := Option.map_eq_some_iff.mp h
    exact ⟨_, rfl, rfl, rfl, rfl⟩
  · simp only [layerUpd] at h
    split at h
    · cases h
    · obtain ⟨d, _, rfl⟩ := Option.map_eq_some_iff.mp h
      exact ⟨_, rfl, rfl, rfl, rfl⟩

theorem openCore_single (c : Ctx) (st : St) (tag : String) (as : List (String × String)) (r : St × TopMod)
    (hl : c.lay = true) (hp : c.ptag ≠ "chord")
    (ht : tag = "note" ∨ tag = "rest" ∨ tag = "mRest" ∨ tag = "multiRest")
    (h : openCore c st tag as = some r) :
    ∃ n, r.1.notes = n :: st.notes ∧ n.staff = (natAttr as "staff").getD st.staffN ∧ n.onset = st.cursor ∧
      n.voice = st.voice ∧ r.1.staffN = st.staffN ∧ r.1.cursor = st.cursor + n.dur := by
  obtain ⟨k, hk, hs⟩ : ∃ k, kindOf tag = .content k ∧ ((k = .note ∧ c.ptag ≠ "chord") ∨ k = .rest ∨ ∃ m, k = .mRest m) := by
    rcases ht with rfl | rfl | rfl | rfl
    · exact ⟨_, rfl, Or.inl ⟨rfl, hp⟩⟩
    · exact ⟨_, rfl, Or.inr (Or.inl rfl)⟩
    · exact ⟨_, rfl, Or.inr (Or.inr ⟨_, rfl⟩)⟩
    · exact ⟨_, rfl, Or.inr (Or.inr ⟨_, rfl⟩)⟩
  obtain ⟨u, h1, _, e2, e3, e4⟩ := openCore_layer c st tag as r k hl hk h
  obtain ⟨n, rfl, a2, a3, a4⟩ := layerUpd_single hs h1
  exact ⟨n, e2, a2, a3, a4, e4, e3⟩

/-! ## the bridge: the chains of tests of the model and of `kindOf` / `ckindOf` are walked together -/

/-- where the model asks `tag = x`, so does `kindOf`: the two branches are compared one by one, `tag` staying a variable -/
theorem ite_both {α β : Type} {c : Prop} [Decidable c] (G : β → α) {a r : α} {x y : β}
    (h1 : c → a = G x) (h2 : ¬c → r = G y) : (if c then a else r) = G (if c then x else y) := by
  by_cases h : c
  · rw [if_pos h, if_pos h, h1 h]
  · rw [if_neg h, if_neg h, h2 h]

/-- a test of the model that also asks for something else (`tag = x && b`, `b` about the parent), against `kindOf`'s
    `tag = x`: when `b` fails the model goes on down its chain (`hr`: the walk goes on as well), and ends where an
    element of the name `x` that does nothing ends (`h2`) -/
theorem ite_and {α β : Type} {c : Prop} [Decidable c] {b : Bool} (G : β → α) {a r : α} {x y : β}
    (hr : r = G y) (h1 : c → b = true → a = G x) (h2 : c → b = false → G y = G x) :
    (if (decide c && b) = true then a else r) = G (if c then x else y) := by
  by_cases h : c
  · rw [if_pos h, decide_eq_true h, Bool.true_and]
    cases hb : b
    · rw [if_neg Bool.false_ne_true, hr, h2 h hb]
    · rw [if_pos rfl, h1 h hb]
  · rw [if_neg h, decide_eq_false h, Bool.false_and, if_neg Bool.false_ne_true, hr]

/-- the same when the other side makes the second test inside its branch for `x` (`c'`, with `b = true ↔ c'`) and gives
    there what the model gives, or else what an element that does nothing gives (`h2`) -/
theorem ite_and_inner {α β γ : Type} {c c' : Prop} [Decidable c] [Decidable c'] {b : Bool} (hbc : b = true ↔ c')
    (G : β → α) (H : γ → α) {a r : α} {x y : β} {u v : γ}
    (hr : r = G y) (hx : G x = H (if c' then u else v)) (h1 : a = H u) (h2 : c → G y = H v) :
    (if (decide c && b) = true then a else r) = G (if c then x else y) :=
  ite_and G hr (fun _ hb => by rw [hx, if_pos (hbc.mp hb)]; exact h1)
    fun hc hb => by rw [hx, if_neg (fun h => Bool.false_ne_true (hb ▸ hbc.mpr h))]; exact h2 hc

/-- one branch of the model for two names -/
theorem ite_or {α β : Type} {c d : Prop} [Decidable c] [Decidable d] (G : β → α) {a r : α} {x1 x2 y : β}
    (h1 : c → a = G x1) (h2 : ¬c → d → a = G x2) (h3 : ¬c → ¬d → r = G y) :
    (if (decide c || decide d) = true then a else r) = G (if c then x1 else if d then x2 else y) := by
  by_cases hc : c
  · rw [if_pos hc, decide_eq_true hc, Bool.true_or, if_pos rfl, h1 hc]
  · by_cases hd : d
    · rw [if_neg hc, if_pos hd, decide_eq_true hd, Bool.or_true, if_pos rfl, h2 hc hd]
    · rw [if_neg hc, if_neg hd, decide_eq_false hc, decide_eq_false hd, Bool.or_false, if_neg Bool.false_ne_true, h3 hc hd]

/-- the state after an element has been opened on `stack`, from what `coreBody` gives -/
def pushed (stack : List Frame) (tag : String) (as : List (String × String)) (x : Option (St × TopMod)) : Option St :=
  x.map fun r => withStack r.1 (newFrame tag as :: applyTop r.2 stack)

def after (stack : List Frame) (tag : String) (as : List (String × String)) (s0 : St) (k : Kind) : Option St :=
  pushed stack tag as (coreBody (ctxOf stack) s0 as k)

def afterL (stack : List Frame) (tag : String) (as : List (String × String)) (s0 : St) (k : LKind) : Option St :=
  pushed stack tag as (keep (layerBody (ctxOf stack) s0 as k))

theorem openEv_eq (st : St) (tag : String) (as : List (String × String)) :
    openEv st tag as = (openCore (ctxOf st.stack) (withStack st []) tag as).map fun r =>
      withStack r.1 (newFrame tag as :: applyTop r.2 st.stack) := by
  unfold openEv openCore
  rw [recordDurEl_eq, show (recordUnits st tag as).stack = st.stack by rw [recordUnits_eq]; rfl, ← recordUnits_stack]
  show _ = Option.map _ ((recordDurElT (tupletsOf st.stack) (recordUnits (withStack st []) tag as) as).bind _)
  cases recordDurElT (tupletsOf st.stack) (recordUnits (withStack st []) tag as) as with
  | none => rfl
  | some s0 =>
    generalize st.stack = stack
    refine (Option.bind_some _ _).trans ((?_ : _ = after stack tag as s0 (kindOf tag)))
    -- an element that only pushes its frame, and one that writes `t` into its parent's frame
    let P (s : St) : Option St := pushed stack tag as (keep (some s))
    let T (t : TopMod) : Option St := pushed stack tag as (some (s0, t))
    have hoth : after stack tag as s0 (.content .other) = P s0 := by
      simp only [after, coreBody_other]; rfl
    -- one `refine` per test of `openEv`, in the order of `kindOf` and then of `lkindOf`
    unfold kindOf
    refine ite_both (after stack tag as s0) (fun _ => rfl) fun _ => ?_
    refine ite_both (after stack tag as s0) (fun _ => ite_both P (fun _ => rfl) fun _ => rfl) fun _ => ?_
    refine ite_both (after stack tag as s0) (fun _ => ite_both T (fun _ => rfl) fun _ => rfl) fun _ => ?_
    refine ite_both (after stack tag as s0) (fun _ => ite_both T (fun _ => rfl) fun _ => rfl) fun _ => ?_
    refine ite_both (after stack tag as s0) (fun _ => ?_) fun _ => ?_
    · let C (d : ClefDo) : Option St := pushed stack tag as (some (d.on s0))
      refine ite_both (fun o : Option ClefDo => pushed stack tag as (o.map (ClefDo.on s0))) (fun _ => rfl) fun _ => ?_
      -- without `@shape` or without `@line` both sides refuse
      cases attr as "shape" with
      | none => rfl
      | some sh =>
        cases natAttr as "line" with
        | none => rfl
        | some ln =>
          refine ite_both C (fun hp => ?_) fun _ => ite_both C (fun _ => rfl) fun _ => rfl
          show _ = T (.clef (some ((natAttr (ctxOf stack).pattrs "n").getD 1, sh, ln, clefOctave as)))
          rw [pattrs_of_ptag stack (Or.inl hp)]
          cases stack <;> rfl
    refine ite_both (after stack tag as s0) (fun _ => ?_) fun _ => ?_
    · show (ensureStarted (withStack s0 stack)).bind _ = Option.map _ (keep ((ensureStarted s0).map _))
      rw [ensureStarted_stack]
      cases ensureStarted s0 <;> rfl
    -- staff, layer: outside a measure / a staff they are elements like any other
    refine ite_and_inner (c' := (ctxOf stack).ptag = "measure") decide_eq_true_iff (after stack tag as s0) P ?_ rfl rfl
      fun h => by subst h; simp only [String.reduceEq, ↓reduceIte, lkindOf]; exact hoth
    refine ite_and_inner (c' := (ctxOf stack).ptag = "staff") decide_eq_true_iff (after stack tag as s0) P ?_ rfl rfl
      fun h => by subst h; simp only [String.reduceEq, ↓reduceIte, lkindOf]; exact hoth
    refine ite_both (after stack tag as s0) (fun _ => ?_) fun _ => ?_
    · simp only [after, coreBody, tieOf, ↓reduceIte]
      cases attr as "startid" <;> cases attr as "endid" <;> rfl
    -- the children of a layer: outside a layer nothing happens
    refine ite_both (fun o : Option St => pushed stack tag as (keep o)) (fun _ => rfl) fun _ => ?_
    unfold lkindOf
    refine ite_both (afterL stack tag as s0) (fun _ => ?_) fun _ => ?_
    · simp only [afterL, pushed, keep, layerBody, layerUpd, durOfAttrs_stack, ctxOf]
      cases durOfT (tupletsOf stack) as <;> rfl
    refine ite_both (afterL stack tag as s0) (fun _ => ?_) fun _ => ?_
    · simp only [afterL, pushed, keep, layerBody, layerUpd]
      refine ite_both (fun o => Option.map _ (Option.map _ (Option.map _ o))) (fun _ => ?_) fun _ => ?_
      · rw [show (withStack s0 stack).chord = s0.chord from rfl]
        rcases s0.chord with _ | ⟨d, cstaff⟩
        · rfl
        · cases attr as "pname" <;> cases (attr as "oct").bind natOfString <;> rfl
      · refine ite_both (fun o => Option.map _ (Option.map _ (Option.map _ o))) (fun _ => ?_) fun _ => ?_
        · cases attr as "pname" <;> cases (attr as "oct").bind natOfString <;> rfl
        · simp only [durOfAttrs_stack, ctxOf]
          cases durOfT (tupletsOf stack) as <;> cases attr as "pname" <;> cases (attr as "oct").bind natOfString <;> rfl
    -- accid: under any parent but a note it is an element like any other
    refine ite_and (afterL stack tag as s0) ?_ (fun _ hb => ?_) (fun h hb => ?_)
    rotate_left
    · have hp : ptagOf stack = "note" := of_decide_eq_true hb
      simp only [afterL, pushed, keep, layerBody, layerUpd, Option.map_some]
      rw [pattrs_of_ptag stack (Or.inr hp)]
      by_cases ha : ((attr ((stack.head?.map (·.attrs)).getD []) "accid").isSome ||
          (attr ((stack.head?.map (·.attrs)).getD []) "accid.ges").isSome) = true
      · refine (if_pos ha).trans ?_
        rw [if_neg (fun h => h.2 ha)]
        rfl
      · refine (if_neg ha).trans ?_
        rw [if_pos ⟨hp, ha⟩, show (withStack s0 stack).notes = s0.notes from rfl]
        rcases s0.notes with _ | ⟨n, rest⟩
        · rfl
        · cases noteAlter as <;> rfl
    · subst h
      have hp : ¬(ctxOf stack).ptag = "note" := of_decide_eq_false hb
      simp only [afterL, String.reduceEq, ↓reduceIte, layerBody, layerUpd]
      rw [if_neg (fun h => hp h.1)]
    refine ite_both (afterL stack tag as s0) (fun _ => ?_) fun _ => ?_
    · simp only [afterL, pushed, keep, layerBody, layerUpd, durOfAttrs_stack, ctxOf]
      cases durOfT (tupletsOf stack) as <;> rfl
    refine ite_or (afterL stack tag as s0) (fun h => ?_) (fun _ h => ?_) fun _ _ => ?_
    · subst h
      simp only [afterL, pushed, keep, layerBody, layerUpd, measureLen_stack, String.reduceEq, decide_false, Bool.false_and,
        Bool.false_eq_true, ↓reduceIte]
      cases measureLen s0 <;> rfl
    · subst h
      simp only [afterL, pushed, keep, layerBody, layerUpd, measureLen_stack, decide_true, Bool.true_and]
      refine ite_both (fun o => Option.map _ (Option.map _ (Option.map _ o))) (fun _ => rfl) fun _ => ?_
      cases measureLen s0 <;> rfl
    refine ite_both (afterL stack tag as s0) (fun _ => ?_) fun _ => ?_
    · simp only [afterL, pushed, keep, layerBody, layerUpd, measureLen_stack, durOfAttrs_stack, ctxOf]
      cases attr as "dur" with
      | none => cases measureLen s0 <;> rfl
      | some _ => cases durOfT (tupletsOf stack) as <;> rfl
    refine ite_both (afterL stack tag as s0) (fun _ => ?_) fun _ => rfl
    simp only [afterL, pushed, keep, layerBody, layerUpd, ctxOf]
    show (match tupletsOf stack with | [] => _ | _ => none) = _
    cases tupletsOf stack <;> rfl

theorem applySdChange_stack (st : St) (f : Frame) (s : List Frame) :
    applySdChange (withStack st s) f = withStack (applySdChange st f) s := by
  unfold applySdChange withStack
  simp only []
  split <;> split <;> rfl

theorem below_iff (rest : List Frame) (t : String) (ht : t ≠ "") : rest.head?.map (·.tag) = some t ↔ ptagOf rest = t := by
  cases rest with
  | nil => simp [ptagOf, ht.symm]
  | cons g r => simp [ptagOf]

theorem closeEv_eq (st : St) :
    closeEv st = match st.stack with
      | [] => none
      | f :: rest => (closeCore f (ptagOf rest) (withStack st [])).map fun x => withStack x rest := by
  unfold closeEv
  cases st.stack with
  | nil => rfl
  | cons f rest =>
    obtain ⟨tag, fas, cm, ck, cc⟩ := f
    let G (k : CKind) : Option St :=
      (closeBody ⟨tag, fas, cm, ck, cc⟩ (ptagOf rest) (withStack st []) k).map fun x => withStack x rest
    show _ = G (ckindOf tag)
    -- one `refine` per test of `closeEv`, in the order of `ckindOf`
    unfold ckindOf
    refine ite_both G (fun _ => ?_) fun _ => ?_
    · refine ite_both (Option.map _) (fun _ => ?_) fun _ => rfl
      show (match ensureStarted (withStack st rest) with | some st => _ | none => none) = _
      rw [ensureStarted_stack st rest, ensureStarted_stack st []]
      cases ensureStarted st with
      | none => rfl
      | some x =>
        show some (applySdChange (withStack x rest) _) = some (withStack (applySdChange (withStack x []) _) rest)
        rw [applySdChange_stack, applySdChange_stack]
        rfl
    -- staffDef: inside the section it declares nothing; layer, staff: only directly in a staff / a measure
    let W (s : St) : Option St := some (withStack s rest)
    refine ite_and_inner (c' := (!st.inSection) = true) Iff.rfl G W ?_ rfl rfl
      fun h => by subst h; simp only [String.reduceEq, ↓reduceIte]; rfl
    refine ite_and_inner (c' := ptagOf rest = "staff") (decide_eq_true_iff.trans (below_iff rest "staff" (by decide))) G W ?_ rfl rfl
      fun h => by subst h; simp only [String.reduceEq, ↓reduceIte]; rfl
    refine ite_and_inner (c' := ptagOf rest = "measure") (decide_eq_true_iff.trans (below_iff rest "measure" (by decide))) G W ?_ rfl rfl
      fun h => by subst h; simp only [String.reduceEq, ↓reduceIte]; rfl
    refine ite_both G (fun _ => ite_both (Option.map _) (fun _ => rfl) fun _ => rfl) fun _ => ?_
    refine ite_both G (fun _ => ?_) fun _ => rfl
    show (match st.chord with | some (d, _) => _ | none => _) = Option.map _ (some (match st.chord with | some (d, _) => _ | none => _))
    split <;> rfl

/-- everything of a state but the stack of open elements -/
def core (st : St) : St := withStack st []

theorem core_withStack (st : St) (s : List Frame) : core (withStack st s) = core st := rfl

theorem withStack_core (st : St) : withStack (core st) st.stack = st := rfl

theorem eq_of_core (a b : St) (h : core a = core b) (hs : a.stack = b.stack) : a = b := by
  rw [← withStack_core a, ← withStack_core b, h, hs]

/-- both runs refuse, or both succeed with related states -/
def RelOpt (R : St → St → Prop) : Option St → Option St → Prop
  | some a, some b => R a b
  | none, none => True
  | _, _ => False

/-- related runs that go on with functions that agree on related states (`x = some a`: what else is known of the
    left state comes from the run that led to it) -/
theorem RelOpt.bind_eq {β : Type} {R : St → St → Prop} {x y : Option St} (h : RelOpt R x y) {f g : St → Option β}
    (hfg : ∀ a b, x = some a → R a b → f a = g b) : x.bind f = y.bind g := by
  cases x <;> cases y
  · rfl
  · exact h.elim
  · exact h.elim
  · exact hfg _ _ rfl h

theorem RelOpt.bind {R S : St → St → Prop} {x y : Option St} (h : RelOpt R x y) {f g : St → Option St}
    (hfg : ∀ a b, R a b → RelOpt S (f a) (g b)) : RelOpt S (x.bind f) (y.bind g) := by
  cases x <;> cases y
  · exact trivial
  · exact h.elim
  · exact h.elim
  · exact hfg _ _ h

theorem stepEv_op (st : St) (tag : String) (as : List (String × String)) :
    stepEv st (.op tag as) = (openCore (ctxOf st.stack) (core st) tag as).map fun r =>
      withStack r.1 (newFrame tag as :: applyTop r.2 st.stack) := openEv_eq st tag as

theorem stepEv_cl (st : St) :
    stepEv st .cl = match st.stack with
      | [] => none
      | f :: rest => (closeCore f (ptagOf rest) (core st)).map fun x => withStack x rest := closeEv_eq st

/-- the recorders in the vocabulary of `openCore` -/
theorem pre_eq (st : St) (tag : String) (as : List (String × String)) :
    recordDurEl (recordUnits st tag as) as
      = (newDurEls (tupletsOf st.stack) as).map fun es => recorded st (newUnits tag as) es := by
  rw [recordDurEl_eq, recordUnits_eq]
  show Option.map _ (recordDurElT (tupletsOf st.stack) _ as) = _
  unfold recordDurElT
  cases newDurEls (tupletsOf st.stack) as <;> rfl

theorem openEv_of_pre {st st1 : St} {tag : String} {as : List (String × String)}
    (hpre : recordDurEl (recordUnits st tag as) as = some st1) :
    openEv st tag as = (coreBody (ctxOf st.stack) (core st1) as (kindOf tag)).map fun r =>
      withStack r.1 (newFrame tag as :: applyTop r.2 st.stack) := by
  rw [pre_eq] at hpre
  obtain ⟨es, hes, rfl⟩ := Option.map_eq_some_iff.mp hpre
  rw [openEv_eq, openCore_eq]
  show ((newDurEls (tupletsOf st.stack) as).bind _).map _ = _
  rw [hes]
  rfl

theorem step_some (st s : St) (e : Ev) (h : stepEv st e = some s) :
    (∃ tag as r, e = .op tag as ∧ openCore (ctxOf st.stack) (core st) tag as = some r ∧
      s = withStack r.1 (newFrame tag as :: applyTop r.2 st.stack)) ∨
    (∃ f rest x, e = .cl ∧ st.stack = f :: rest ∧ closeCore f (ptagOf rest) (core st) = some x ∧ s = withStack x rest) := by
  cases e with
  | op tag as =>
    rw [stepEv_op] at h
    obtain ⟨r, hr, rfl⟩ := Option.map_eq_some_iff.mp h
    exact Or.inl ⟨tag, as, r, rfl, hr, rfl⟩
  | cl =>
    rw [stepEv_cl] at h
    cases hs : st.stack with
    | nil => simp [hs] at h
    | cons f rest =>
      simp only [hs] at h
      obtain ⟨x, hx, rfl⟩ := Option.map_eq_some_iff.mp h
      exact Or.inr ⟨f, rest, x, rfl, rfl, hx, rfl⟩

theorem run_keeps {I : St → Prop} (hstep : ∀ st s e, stepEv st e = some s → I st → I s) (evs : List Ev) :
    ∀ st s, runEvs st evs = some s → I st → I s := fun st s h =>
  Lists.foldlM_induction stepEv (R := fun _ a b => I a → I b) (fun _ h => h)
    (fun e _ s s1 _ h1 ih hi => ih (hstep s s1 e h1 hi)) evs st s (runEvs_eq_foldlM st evs ▸ h)

theorem run_rel {R : St → St → Prop} (hstep : ∀ a b e, R a b → RelOpt R (stepEv a e) (stepEv b e)) (evs : List Ev) :
    ∀ a b, R a b → RelOpt R (runEvs a evs) (runEvs b evs) := by
  induction evs with
  | nil => exact fun _ _ h => h
  | cons e es ih =>
    intro a b h
    simp only [runEvs]
    have hs := hstep a b e h
    generalize stepEv a e = x at hs ⊢
    generalize stepEv b e = y at hs ⊢
    cases x <;> cases y
    · exact trivial
    · exact hs.elim
    · exact hs.elim
    · exact ih _ _ hs

theorem closeCore_other (f : Frame) (b : String) (st : St) (h : ckindOf f.tag = .other) : closeCore f b st = some st := by
  unfold closeCore
  rw [h]
  rfl


/-! ## what a step may establish about its result -/

def POk (P : St × TopMod → Prop) : Option (St × TopMod) → Prop
  | some r => P r
  | none => True

@[simp] theorem POk_some (P : St × TopMod → Prop) (r : St × TopMod) : POk P (some r) = P r := rfl
@[simp] theorem POk_none (P : St × TopMod → Prop) : POk P none = True := rfl

theorem POk_keep (P : St × TopMod → Prop) (x : Option St) (h : ∀ s, x = some s → P (s, .keep)) : POk P (keep x) := by
  cases x with
  | none => exact trivial
  | some s => exact h s rfl

theorem POk_keep_ite {P : St × TopMod → Prop} {c : Prop} [Decidable c] {a b : St} (ha : P (a, .keep)) (hb : P (b, .keep)) :
    POk P (keep (some (if c then a else b))) := by
  show P (if c then a else b, .keep)
  split <;> assumption

/-! ## what a step leaves alone -/

/-- the ties an element contributes, by kind -/
def kindTies (as : List (String × String)) : Kind → List (String × String)
  | .tie => tieOf "tie" as
  | _ => []

theorem tieOf_kind (tag : String) (as : List (String × String)) : tieOf tag as = kindTies as (kindOf tag) := by
  by_cases ht : tag = "tie"
  · subst ht; rfl
  · simp only [tieOf, kindOf, if_neg ht, apply_ite (kindTies as)]
    simp only [kindTies, ite_self]

/-- `s` has the two recorded lists of `st`, and is inside the section part if `st` is -/
structure Untouched (st s : St) : Prop where
  durEls : s.durEls = st.durEls
  units : s.units = st.units
  inSection : st.inSection = true → s.inSection = true

theorem Untouched.trans {a b c : St} (h1 : Untouched a b) (h2 : Untouched b c) : Untouched a c :=
  ⟨h2.durEls.trans h1.durEls, h2.units.trans h1.units, fun h => h2.inSection (h1.inSection h)⟩

theorem ensureStarted_frame (st s : St) (h : ensureStarted st = some s) : Untouched st s := by
  rw [ensureStarted_eq] at h
  split at h
  · obtain rfl := Option.some.inj h; exact ⟨rfl, rfl, id⟩
  · obtain ⟨ms, _, rfl⟩ := Option.map_eq_some_iff.mp h; exact ⟨rfl, rfl, id⟩

theorem applySdChange_frame (st : St) (f : Frame) : Untouched st (applySdChange st f) := by
  unfold applySdChange
  simp only []
  split <;> split <;> exact ⟨rfl, rfl, id⟩

/-- what opening an element of kind `k` leaves alone: the two recorded lists, the `inSection`
    flag once it is set; and only a `meterSig` / `keySig` / `clef` child of a `staffDef` or `scoreDef` writes into the frame
    of its parent — a meter only a `meterSig`, namely its own -/
structure OpenFrame (c : Ctx) (st : St) (as : List (String × String)) (k : Kind) (r : St × TopMod) : Prop where
  durEls : r.1.durEls = st.durEls
  units : r.1.units = st.units
  inSection : st.inSection = true → r.1.inSection = true
  top : r.2 = .keep ∨ c.ptag = "staffDef" ∨ c.ptag = "scoreDef"
  meter : ∀ m, r.2 = .meter m → k = .meterSig ∧ m = meterOfAttrs as "count" "unit"

theorem OpenFrame.of_untouched {c : Ctx} {st s : St} {as : List (String × String)} {k : Kind} (h : Untouched st s) :
    OpenFrame c st as k (s, .keep) :=
  ⟨h.durEls, h.units, h.inSection, Or.inl rfl, fun _ e => nomatch e⟩

theorem coreBody_frame (c : Ctx) (st : St) (as : List (String × String)) (k : Kind) :
    POk (OpenFrame c st as k) (coreBody c st as k) := by
  have child : ∀ (t : TopMod), (if c.ptag = "staffDef" || c.ptag = "scoreDef" then t else .keep) = .keep ∨
      c.ptag = "staffDef" ∨ c.ptag = "scoreDef" := fun t => by
    by_cases h : (c.ptag = "staffDef" || c.ptag = "scoreDef") = true
    · exact Or.inr (by simpa using h)
    · exact Or.inl (if_neg h)
  cases k with
  | tie => exact ⟨rfl, rfl, id, Or.inl rfl, fun _ h => nomatch h⟩
  | sect => exact ⟨rfl, rfl, fun _ => rfl, Or.inl rfl, fun _ h => nomatch h⟩
  | meterSig =>
    refine ⟨rfl, rfl, id, child _, fun m h => ⟨rfl, ?_⟩⟩
    have h' : (if c.ptag = "staffDef" || c.ptag = "scoreDef" then TopMod.meter (meterOfAttrs as "count" "unit") else .keep) = .meter m := h
    split at h' <;> cases h'
    rfl
  | keySig =>
    refine ⟨rfl, rfl, id, child _, fun m h => ?_⟩
    have h' : (if c.ptag = "staffDef" || c.ptag = "scoreDef" then TopMod.key (keyOfAttrs as "sig" "mode") else .keep) = .meter m := h
    split at h' <;> cases h'
  | clef =>
    show POk _ ((clefDo c as).map _)
    cases h : clefDo c as with
    | none => exact trivial
    | some d =>
      cases d with
      | inDef x => exact ⟨rfl, rfl, id, Or.inr (Or.inl (clefDo_inDef h)), fun _ e => nomatch e⟩
      | _ => exact .of_untouched ⟨rfl, rfl, id⟩
  | measure =>
    refine POk_keep _ _ fun s hs => ?_
    obtain ⟨x, hx, rfl⟩ := Option.map_eq_some_iff.mp hs
    exact .of_untouched ((ensureStarted_frame st x hx).trans ⟨rfl, rfl, id⟩)
  | content k =>
    refine POk_keep _ _ fun s hs => ?_
    split at hs
    · obtain rfl := Option.some.inj hs; exact .of_untouched ⟨rfl, rfl, id⟩
    · obtain ⟨u, _, rfl⟩ := Option.map_eq_some_iff.mp hs; exact .of_untouched ⟨rfl, rfl, id⟩
  | _ => exact POk_keep_ite (.of_untouched ⟨rfl, rfl, id⟩) (.of_untouched ⟨rfl, rfl, id⟩)

theorem openCore_frame {c : Ctx} {st : St} {tag : String} {as : List (String × String)} {r : St × TopMod}
    (h : openCore c st tag as = some r) :
    ∃ es, newDurEls c.tups as = some es ∧ coreBody c (recorded st (newUnits tag as) es) as (kindOf tag) = some r ∧
      OpenFrame c (recorded st (newUnits tag as) es) as (kindOf tag) r := by
  rw [openCore_eq] at h
  obtain ⟨es, hes, h⟩ := Option.bind_eq_some_iff.mp h
  have hf := coreBody_frame c (recorded st (newUnits tag as) es) as (kindOf tag)
  rw [h] at hf
  exact ⟨es, hes, h, hf⟩

theorem closeBody_frame (f : Frame) (b : String) (st s : St) (k : CKind) (h : closeBody f b st k = some s) : Untouched st s := by
  cases k with
  | scoreDef =>
    simp only [closeBody] at h
    split at h
    · obtain ⟨x, hx, rfl⟩ := Option.map_eq_some_iff.mp h
      exact (ensureStarted_frame st x hx).trans (applySdChange_frame x f)
    · obtain rfl := Option.some.inj h
      exact ⟨rfl, rfl, id⟩
  | measure =>
    simp only [closeBody] at h
    split at h
    · cases h
    · obtain rfl := Option.some.inj h
      exact ⟨rfl, rfl, id⟩
  | other =>
    obtain rfl := Option.some.inj h
    exact ⟨rfl, rfl, id⟩
  | _ =>
    obtain rfl := Option.some.inj h
    split <;> exact ⟨rfl, rfl, id⟩

/-! ## from runs to denotations -/

def partsOf (st : St) : Option (List Part) := ((partsInOrder st).zipIdx).mapM fun (d, i) => mkPart st i d

theorem denote_eq (evs : List Ev) : denote evs = (runEvs {} evs).bind partsOf := by
  unfold denote partsOf
  cases runEvs {} evs <;> rfl

theorem denote_append (pre post : List Ev) (st : St) (hrun : runEvs {} pre = some st) :
    denote (pre ++ post) = (runEvs st post).bind partsOf := by
  rw [denote_eq, runEvs_append, hrun]
  rfl

theorem partsOf_of_core (a b : St) (h : core a = core b) : partsOf a = partsOf b :=
  show partsOf (core a) = partsOf (core b) by rw [h]

theorem bind_partsOf_of_rel {R : St → St → Prop} (hR : ∀ a b, R a b → core a = core b) (x y : Option St)
    (h : RelOpt R x y) : x.bind partsOf = y.bind partsOf :=
  h.bind_eq fun a b _ hab => partsOf_of_core a b (hR a b hab)

/-! ## elements that carry no duration, elements that are closed silently -/

/-- attributes that carry no duration and no beat unit (every attribute a `section` has in MEI) -/
def PlainAttrs (as : List (String × String)) : Prop := attr as "dur" = none ∧ natAttr as "meter.unit" = none

instance (as : List (String × String)) : Decidable (PlainAttrs as) := by unfold PlainAttrs; infer_instance

theorem openCore_plain (c : Ctx) (st : St) (tag : String) (as : List (String × String)) (hp : PlainAttrs as)
    (ht : tag ≠ "meterSig") : openCore c st tag as = coreBody c st as (kindOf tag) := by
  have h1 : newDurEls c.tups as = some [] := by simp [newDurEls, hp.1]
  have h2 : newUnits tag as = [] := by simp [newUnits, hp.2, ht]
  rw [openCore_eq, h1, h2]
  rfl

theorem stepEv_cl_other (st : St) (f : Frame) (rest : List Frame) (hs : st.stack = f :: rest) (hf : ckindOf f.tag = .other) :
    stepEv st .cl = some (withStack st rest) := by
  rw [stepEv_cl, hs]
  simp only [closeCore_other _ _ _ hf, Option.map_some]
  rfl

theorem leaf_state (st x : St) (tag : String) (as : List (String × String)) (evs : List Ev)
    (hopen : openCore (ctxOf st.stack) (core st) tag as = some (x, .keep)) (hcl : ckindOf tag = .other) :
    runEvs st (.op tag as :: .cl :: evs) = runEvs (withStack x st.stack) evs := by
  simp only [runEvs]
  rw [stepEv_op, hopen]
  show (match stepEv (withStack x (newFrame tag as :: st.stack)) .cl with | some st' => runEvs st' evs | none => none) = _
  rw [stepEv_cl_other _ (newFrame tag as) st.stack rfl hcl]
  rfl

/-! ## the tie list and the `inSection` flag along a run -/

theorem tieOf_reverse (tag : String) (as : List (String × String)) : (tieOf tag as).reverse = tieOf tag as := by
  unfold tieOf
  split
  · split <;> rfl
  · rfl

/-- all ties of an event list, in document order -/
def tiesOf : List Ev → List (String × String)
  | [] => []
  | .op tag as :: es => tieOf tag as ++ tiesOf es
  | .cl :: es => tiesOf es

/-- `s` has the ties of `st` plus `extra` (newest first) and is still inside the section part if `st` was -/
def Keeps (st : St) (extra : List (String × String)) (s : St) : Prop :=
  s.ties = extra ++ st.ties ∧ (st.inSection = true → s.inSection = true)

theorem Keeps.rfl' (st : St) : Keeps st [] st := ⟨rfl, id⟩

def evTies : Ev → List (String × String)
  | .op tag as => tieOf tag as
  | .cl => []

end C19S

namespace C19T
open Model Model.Mei C19S

def setTies (t : List (String × String)) (s : St) : St := { s with ties := t }

end C19T

namespace C19S
open Model Model.Mei C19T

/-! ### the state machine never reads the tie list -/

theorem ensureStarted_ties (st : St) (t : List (String × String)) :
    ensureStarted (setTies t st) = (ensureStarted st).map (setTies t) := by
  rw [ensureStarted_eq, ensureStarted_eq]
  show (if st.started then _ else Option.map _ ((partsInOrder st).mapM (resolveMeter st))) = _
  split
  · rfl
  · cases (partsInOrder st).mapM (resolveMeter st) <;> rfl

theorem layerUpd_ties (c : Ctx) (st : St) (t : List (String × String)) (as : List (String × String)) (k : LKind) :
    layerUpd c (setTies t st) as k = layerUpd c st as k := by
  cases k <;> rfl

theorem coreBody_ties (c : Ctx) (st : St) (t : List (String × String)) (as : List (String × String)) (k : Kind) :
    coreBody c (setTies t st) as k = (coreBody c st as k).map fun r => (setTies (kindTies as k ++ t) r.1, r.2) := by
  cases k with
  | measure =>
    simp only [coreBody, ensureStarted_ties]
    cases ensureStarted st <;> rfl
  | clef =>
    show Option.map _ (clefDo c as) = Option.map _ (Option.map _ (clefDo c as))
    cases clefDo c as with
    | none => rfl
    | some d => cases d <;> rfl
  | content k =>
    simp only [coreBody, layerBody, layerUpd_ties]
    split
    · rfl
    · cases layerUpd c st as k <;> rfl
  | scoreDef =>
    have hi : (setTies t st).inSection = st.inSection := rfl
    simp only [coreBody, hi]
    split <;> rfl
  | staff => simp only [coreBody]; split <;> rfl
  | layer => simp only [coreBody]; split <;> rfl
  | _ => rfl

theorem openCore_ties (c : Ctx) (st : St) (t : List (String × String)) (tag : String) (as : List (String × String)) :
    openCore c (setTies t st) tag as = (openCore c st tag as).map fun r => (setTies (tieOf tag as ++ t) r.1, r.2) := by
  rw [openCore_eq, openCore_eq, tieOf_kind]
  cases newDurEls c.tups as with
  | none => rfl
  | some es => exact coreBody_ties c (recorded st _ es) t as _

theorem applySdChange_ties (st : St) (t : List (String × String)) (f : Frame) :
    applySdChange (setTies t st) f = setTies t (applySdChange st f) := by
  unfold applySdChange setTies
  simp only []
  split <;> split <;> rfl

theorem closeCore_ties (f : Frame) (b : String) (st : St) (t : List (String × String)) :
    closeCore f b (setTies t st) = (closeCore f b st).map (setTies t) := by
  unfold closeCore
  cases ckindOf f.tag with
  | scoreDef =>
    show (if st.inSection = true then _ else _) = Option.map _ (if st.inSection = true then _ else _)
    split
    · rw [ensureStarted_ties]
      cases ensureStarted st with
      | none => rfl
      | some x => exact congrArg some (applySdChange_ties x t f)
    · rfl
  | measure =>
    show (if st.staffIdx ≠ st.defs.length then _ else _) = Option.map _ (if st.staffIdx ≠ st.defs.length then _ else _)
    split <;> rfl
  | chord =>
    show some (match st.chord with | some (d, _) => _ | none => _) =
      Option.map _ (some (match st.chord with | some (d, _) => _ | none => _))
    split <;> rfl
  | staffDef =>
    show some (if (!st.inSection) = true then _ else _) = Option.map _ (some (if (!st.inSection) = true then _ else _))
    split <;> rfl
  | other => rfl
  | _ =>
    -- `layer`, `staff`: the test is on the element below
    simp only [closeBody, Option.map_some]
    split <;> rfl

theorem step_ties (st : St) (t : List (String × String)) (e : Ev) :
    stepEv (setTies t st) e = (stepEv st e).map (setTies (evTies e ++ t)) := by
  cases e with
  | op tag as =>
    rw [stepEv_op, stepEv_op]
    have hc : core (setTies t st) = setTies t (core st) := rfl
    have hs : (setTies t st).stack = st.stack := rfl
    rw [hc, hs, openCore_ties]
    cases openCore (ctxOf st.stack) (core st) tag as with
    | none => rfl
    | some r => rfl
  | cl =>
    rw [stepEv_cl, stepEv_cl]
    have hs : (setTies t st).stack = st.stack := rfl
    rw [hs]
    cases st.stack with
    | nil => rfl
    | cons f rest =>
      simp only []
      have hc : core (setTies t st) = setTies t (core st) := rfl
      rw [hc, closeCore_ties]
      cases closeCore f (ptagOf rest) (core st) with
      | none => rfl
      | some x => rfl

theorem tiesOf_eq_flatMap (evs : List Ev) : tiesOf evs = evs.flatMap evTies := by
  induction evs with
  | nil => rfl
  | cons e es ih => cases e <;> simp [tiesOf, evTies, ih]

theorem tiesOf_cons_reverse (e : Ev) (es : List Ev) (t : List (String × String)) :
    (tiesOf es).reverse ++ (evTies e ++ t) = (tiesOf (e :: es)).reverse ++ t := by
  cases e with
  | op tag as => simp [tiesOf, evTies, List.reverse_append, tieOf_reverse]
  | cl => simp [tiesOf, evTies]

theorem run_setTies (evs : List Ev) : ∀ (st : St) (t : List (String × String)),
    runEvs (setTies t st) evs = (runEvs st evs).map (setTies ((tiesOf evs).reverse ++ t)) := by
  induction evs with
  | nil => intro st t; simp [runEvs, tiesOf]
  | cons e es ih =>
    intro st t
    simp only [runEvs, step_ties]
    cases hs : stepEv st e with
    | none => rfl
    | some x =>
      simp only [Option.map_some, ih]
      cases runEvs x es with
      | none => rfl
      | some y =>
        simp only [Option.map_some, tiesOf_cons_reverse]

theorem step_keeps (st s : St) (e : Ev) (h : stepEv st e = some s) : Keeps st (evTies e) s := by
  constructor
  · have := step_ties st st.ties e
    rw [show setTies st.ties st = st from rfl, h] at this
    exact congrArg St.ties (Option.some.inj this)
  · rcases step_some st s e h with ⟨tag, as, r, rfl, hr, rfl⟩ | ⟨f, rest, x, rfl, hs, hc, rfl⟩
    · obtain ⟨_, _, _, hf⟩ := openCore_frame hr
      exact hf.inSection
    · exact (closeBody_frame f _ (core st) x _ hc).inSection

/-- `mei_ties_collected`: whatever else the events do, the tie list at the end holds exactly the tie elements
    of the events read, newest first -/
theorem run_ties (evs : List Ev) (st s : St) (h : runEvs st evs = some s) :
    s.ties = (tiesOf evs).reverse ++ st.ties ∧ (st.inSection = true → s.inSection = true) := by
  constructor
  · have := run_setTies evs st st.ties
    rw [show setTies st.ties st = st from rfl, h] at this
    exact congrArg St.ties (Option.some.inj this)
  · exact run_keeps (I := fun x => st.inSection = true → x.inSection = true)
      (fun a b e hab hi h0 => (step_keeps a b e hab).2 (hi h0)) evs st s h id

end C19S
