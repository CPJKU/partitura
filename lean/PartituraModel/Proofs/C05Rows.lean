/-
Structure of `rows` / `restRows` (one row per selected note, what is in it),
tie chains.
-/
import PartituraModel.Proofs.C05Sort
import PartituraModel.Proofs.Forall2

namespace NoteArray

open List

/-- `note.voice if note.voice is not None else -1` -/
def rawVoice (n : Note) : Int := match n.voice with | some v => v | none => -1

def alterOr0 (n : Note) : Int := match n.alter with | some a => a | none => 0

def fixVoice (m : Int) (r : Row) : Row := if r.voice = -1 then { r with voice := m + 1 } else r

theorem mapM'_eq_mapM {α β : Type} (f : α → Option β) : ∀ l : List α, mapM' f l = l.mapM f :=
  Lists.eq_mapM (mapM' f) rfl fun _ _ => rfl

theorem mapM'_forall₂ {α β : Type} (f : α → Option β) (l : List α) (bs : List β) (h : mapM' f l = some bs) :
    Forall₂ (fun a b => f a = some b) l bs :=
  Lists.mapM_forall₂ (mapM'_eq_mapM f l ▸ h)

/-- a table that is made only when nothing raises and a test passes -/
theorem guarded_eq_some {α : Type} {c : Prop} [Decidable c] {b : Bool} {x : Option α} {out : α}
    (h : (if c then none else if b = true then x else none) = some out) : b = true ∧ x = some out := by
  split at h
  · cases h
  · split at h
    · exact ⟨‹_›, h⟩
    · cases h

theorem sanitizeVoices_eq (rs : List Row) :
    sanitizeVoices rs = match maxList (rs.map (·.voice)) with
      | none => rs
      | some m => rs.map (fixVoice m) := by
  unfold sanitizeVoices
  cases maxList (rs.map (·.voice)) with
  | none => rfl
  | some m => rfl

theorem maxList_cons (a : Int) (l : List Int) :
    maxList (a :: l) = some ((maxList l).elim a fun m => if a ≤ m then m else a) := by
  rw [maxList]; cases maxList l <;> rfl

theorem maxList_none {l : List Int} (h : maxList l = none) : l = [] := (Lists.optMin_none _ rfl maxList_cons).mp h

theorem maxList_isSome {l : List Int} (h : l ≠ []) : ∃ m, maxList l = some m := by
  cases hm : maxList l with
  | none => exact absurd (maxList_none hm) h
  | some m => exact ⟨m, rfl⟩

theorem maxList_spec (l : List Int) (m : Int) (h : maxList l = some m) : m ∈ l ∧ ∀ x ∈ l, x ≤ m :=
  Lists.optMin_spec (le := (· ≥ ·)) _ rfl maxList_cons Int.le_refl (fun _ _ _ h1 h2 => Int.le_trans h2 h1)
    (fun a m => by split <;> omega) h

theorem maxList_const (l : List Int) (c : Int) (hne : l ≠ []) (h : ∀ x ∈ l, x = c) : maxList l = some c := by
  obtain ⟨m, hm⟩ := maxList_isSome hne
  rw [hm, h m (maxList_spec l m hm).1]

/-- a chain in which every note starts where the previous one ends -/
def Contiguous : List Note → Prop
  | [] => True
  | [_] => True
  | a :: b :: l => b.onset = a.onset + a.dur ∧ Contiguous (b :: l)

def lastEnd : List Note → Int → Int
  | [], e => e
  | n :: l, _ => lastEnd l (n.onset + n.dur)

theorem chainFrom_head (notes : List Note) : ∀ (fuel : Nat) (n : Note) (c : List Note),
    chainFrom notes fuel n = some c → ∃ t, c = n :: t := by
  intro fuel
  cases fuel with
  | zero => intro n c h; simp [chainFrom] at h
  | succ f =>
    intro n c h
    unfold chainFrom at h
    split at h
    · simp at h; exact ⟨[], h.symm⟩
    · split at h
      · simp at h
      · simp only [Option.map_eq_some_iff] at h
        obtain ⟨t, _, rfl⟩ := h
        exact ⟨t, rfl⟩

/-- every link of the chain is a tie link of the note list -/
def Linked (notes : List Note) : List Note → Prop
  | [] => True
  | [a] => a.tieNext = none
  | a :: b :: l => (∃ j, a.tieNext = some j ∧ notes[j]? = some b) ∧ Linked notes (b :: l)

theorem chainFrom_linked (notes : List Note) : ∀ (fuel : Nat) (n : Note) (c : List Note),
    chainFrom notes fuel n = some c → Linked notes c := by
  intro fuel
  induction fuel with
  | zero => intro n c h; simp [chainFrom] at h
  | succ f ih =>
    intro n c h
    unfold chainFrom at h
    split at h
    · rename_i hn
      simp at h; subst h; exact hn
    · rename_i j hj
      split at h
      · simp at h
      · rename_i m hm
        simp only [Option.map_eq_some_iff] at h
        obtain ⟨t, hc, rfl⟩ := h
        obtain ⟨t', ht'⟩ := chainFrom_head notes f m t hc
        subst ht'
        exact ⟨⟨j, hj, hm⟩, ih m _ hc⟩

/-- the row the table holds for note `n` (voice pass applied) -/
def finalRow (M : Maps) (dv : Int) (n : Note) (d pch : Int) (m : Int) : Row :=
  { mkRow M dv n d pch n.step (alterOr0 n) n.octave with
    voice := if rawVoice n = -1 then m + 1 else rawVoice n }

theorem mkRow_voice (M : Maps) (dv : Int) (n : Note) (d p : Int) (s : String) (a o : Int) :
    (mkRow M dv n d p s a o).voice = rawVoice n := by
  unfold mkRow rawVoice; rfl

theorem mkRow_durDiv (M : Maps) (dv : Int) (n : Note) (d p : Int) (s : String) (a o : Int) :
    (mkRow M dv n d p s a o).durDiv = d := by
  show n.onset + d - n.onset = d
  omega

theorem noteRow_spec (notes : List Note) (M : Maps) (dv : Int) (n : Note) (r : Row)
    (h : noteRow notes M dv n = some r) :
    ∃ d pch, durationTied notes n = some d ∧ Model.spellingToMidi n.step n.alter n.octave = some pch ∧
      r = mkRow M dv n d pch n.step (alterOr0 n) n.octave := by
  unfold noteRow at h
  cases hd : durationTied notes n with
  | none => simp [hd] at h
  | some d =>
    cases hp : Model.spellingToMidi n.step n.alter n.octave with
    | none => simp [hd, hp] at h
    | some pch =>
      simp [hd, hp] at h
      exact ⟨d, pch, rfl, rfl, by rw [← h]; rfl⟩

theorem restRow_spec (notes : List Note) (M : Maps) (n : Note) (r : Row)
    (h : restRow notes M n = some r) :
    ∃ d, durationTied notes n = some d ∧ r = mkRow M 0 n d 0 "0" 0 0 := by
  unfold restRow at h
  cases hd : durationTied notes n with
  | none => simp [hd] at h
  | some d =>
    simp [hd] at h
    exact ⟨d, rfl, by rw [← h]⟩

/-- a row with the voice rule applied for note `n` -/
def withVoice (r0 : Row) (n : Note) (m : Int) : Row :=
  { r0 with voice := if rawVoice n = -1 then m + 1 else rawVoice n }

theorem fixVoice_withVoice (r0 : Row) (n : Note) (m : Int) (h : r0.voice = rawVoice n) :
    fixVoice m r0 = withVoice r0 n m := by
  unfold fixVoice withVoice
  rw [h]
  split
  · rfl
  · cases r0
    simp at h
    simp [h]

/-- the voice pass over rows made one per note, each carrying its note's voice or the marker -1: every row gets
    the voice rule of its note, with `m` the largest voice of the table -/
theorem sanitizeVoices_spec {notes : List Note} {rs0 : List Row} {R : Note → Row → Prop}
    (hf : Forall₂ R notes rs0) (hv : ∀ n r, R n r → r.voice = rawVoice n) :
    Forall₂ (fun n r => ∃ r0 m, R n r0 ∧ maxList (notes.map rawVoice) = some m ∧ r = withVoice r0 n m)
      notes (sanitizeVoices rs0) := by
  have hvs : rs0.map (·.voice) = notes.map rawVoice :=
    (Lists.forall₂_map_eq rawVoice (·.voice) (fun n r h => (hv n r h).symm) hf).symm
  rw [sanitizeVoices_eq]
  cases hmax : maxList (rs0.map (·.voice)) with
  | none =>
    have hrs0 : rs0 = [] := by simpa using maxList_none hmax
    subst hrs0
    rw [forall₂_nil_right_iff.mp hf]
    exact Forall₂.nil
  | some m =>
    rw [forall₂_map_right_iff]
    exact hf.imp fun n r hr => ⟨r, m, hr, hvs ▸ hmax, fixVoice_withVoice r n m (hv n r hr)⟩

/-- what `rows` returns, before the sort: for every selected note, in order, its final row -/
theorem rows_structure (p : Part) (o : Opts) (out : List Row) (h : rows p o = some out) :
    ∃ dv rs, divsOf p o = some dv ∧
      out = sortRows rs ∧
      Forall₂ (fun n r => ∃ d pch m, durationTied p.notes n = some d ∧
          Model.spellingToMidi n.step n.alter n.octave = some pch ∧
          maxList ((notesTied p.notes).map rawVoice) = some m ∧
          r = finalRow p.maps dv n d pch m) (notesTied p.notes) rs := by
  unfold rows at h
  cases hdv : divsOf p o with
  | none => simp [hdv] at h
  | some dv =>
    cases hm : mapM' (noteRow p.notes p.maps dv) (notesTied p.notes) with
    | none => simp [hdv, hm] at h
    | some rs0 =>
      simp [hdv, hm] at h
      refine ⟨dv, sanitizeVoices rs0, rfl, h.symm, ?_⟩
      refine (sanitizeVoices_spec (mapM'_forall₂ _ _ _ hm) fun n r hr => ?_).imp fun n r ⟨r0, m, hr0, hmax, hr⟩ => ?_
      · obtain ⟨_, _, _, _, rfl⟩ := noteRow_spec _ _ _ _ _ hr
        exact mkRow_voice ..
      · obtain ⟨d, pch, hd, hp, rfl⟩ := noteRow_spec _ _ _ _ _ hr0
        -- `finalRow … m` is `withVoice (mkRow …) n m` by definition
        exact ⟨d, pch, m, hd, hp, hmax, hr⟩

theorem restRows_structure (p : Part) (out : List Row) (h : restRows p false = some out) :
    ∃ rs, out = sortRows rs ∧
      Forall₂ (fun n r => ∃ d m, durationTied p.notes n = some d ∧
          maxList ((restsOf p.notes).map rawVoice) = some m ∧
          r = withVoice (mkRow p.maps 0 n d 0 "0" 0 0) n m) (restsOf p.notes) rs := by
  unfold restRows restRowsWith at h
  cases hm : mapM' (restRow p.notes p.maps) (restsOf p.notes) with
  | none => simp [hm] at h
  | some rs0 =>
    simp [hm] at h
    refine ⟨sanitizeVoices rs0, h.symm, ?_⟩
    refine (sanitizeVoices_spec (mapM'_forall₂ _ _ _ hm) fun n r hr => ?_).imp fun n r ⟨r0, m, hr0, hmax, hr⟩ => ?_
    · obtain ⟨_, _, rfl⟩ := restRow_spec _ _ _ _ hr
      exact mkRow_voice ..
    · obtain ⟨d, hd, rfl⟩ := restRow_spec _ _ _ _ hr0
      exact ⟨d, m, hd, hmax, hr⟩

end NoteArray
