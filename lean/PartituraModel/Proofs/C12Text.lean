/-
C12 — what the conversions read off a string: a unit name followed by dots (`to_quarter_tempo` counts the dots and strips
them), whether a character occurs (`key_name_to_fifths_mode` tests and counts `b`, `#`), and the characters of the step
letters, of the printed accidentals and of the unit names.  No Mathlib.
-/
import PartituraModel.Model.Pitch
import PartituraModel.Proofs.Scan

namespace C12
open Model Gen

/-- a unit name without blanks and dots, followed by `d` dots: `to_quarter_tempo` counts the dots and strips them off -/
theorem dotted_unit (l : List Char) (d : Nat) (hl : ∀ c ∈ l, isBlank c = false ∧ c ≠ '.') :
    ((l ++ List.replicate d '.').filter (· = '.')).length = d ∧
    ((stripChars (l ++ List.replicate d '.')).reverse.dropWhile (· = '.')).reverse = l := by
  have hx : ∀ c ∈ l ++ List.replicate d '.', isBlank c = false := fun c hc =>
    (List.mem_append.mp hc).elim (fun h => (hl c h).1) fun h => by rw [List.eq_of_mem_replicate h]; rfl
  constructor
  · rw [List.filter_append, List.filter_eq_nil_iff.mpr fun c hc => by simpa using (hl c hc).2]
    simp
  · rw [stripChars, Lists.strip_of_all hx, List.reverse_append,
      List.dropWhile_append_of_pos fun c hc => by simp [List.eq_of_mem_replicate (List.mem_reverse.mp hc)],
      Lists.dropWhile_of_head fun c hc => by simpa using (hl c (List.mem_reverse.mp (List.mem_of_mem_head? hc))).2,
      List.reverse_reverse]

theorem countChar_pos (c : Char) (s : String) : 0 < countChar c s ↔ s.toList.contains c = true := by
  simp [countChar, List.length_pos_iff_exists_mem]

theorem step_letters : ∀ s ∈ ["C", "D", "E", "F", "G", "A", "B"], ∃ c ∈ ['C', 'D', 'E', 'F', 'G', 'A', 'B'],
    s.toList = [c] ∧ isStepChar c = true ∧ upper s = s ∧ upper (String.ofList [c]) = s := by
  decide +kernel

/-- the accidentals `pitch_spelling_to_note_name` prints are read back as the alteration they stand for -/
theorem acc_strings : ∀ a ∈ [(-3 : Int), -2, -1, 0, 1, 2, 3], (∀ x ∈ (accString a).toList, isAccChar x = true) ∧
    lookup (if (accString a).toList.isEmpty then "n" else String.ofList (accString a).toList) SIGN_TO_ALTER
      = some (some a) := by
  decide +kernel

theorem label_chars :
    ∀ e ∈ LABEL_DURS, (∀ c ∈ e.1.toList, isBlank c = false ∧ c ≠ '.') ∧ lookup e.1 LABEL_DURS = some e.2 := by
  decide +kernel

end C12
