/-
C13 — the rasteriser, once.  `makeRows fl o notes M row irow` (Model/PianoRollMargin.lean) is `_make_pianoroll` with the
rounding function `fl`, the number of rows `M`, the row `row n` a note is drawn in and the position `irow n` reported
in its index row all ARBITRARY; `makeWith fl` (Model/PianoRollFloat.lean) is its instance at the integer rows, and
`makePianoroll` is `makeWith id`.  Minimum length, separation, collision handling (maximum velocity), "non-zero iff
covered", the bounds, order independence and the index rows are facts about the integer frames and the integer rows,
whatever produced them: they are proved here for `makeRows` and instantiated in Props/C13.lean (exact reading),
Props/C13Raster.lean and Props/C13Vel0.lean (any rounding) and Props/C13Margin.lean (a real pitch margin).  `makeRows_ext`: only
the frames, the column count and the rows of the notes matter, so two roundings with the same frames give the same roll.
-/
import PartituraModel.Model.PianoRollMargin
import PartituraModel.Proofs.C13

namespace C13
open Model Model.PianoRoll
open List

theorem lit_min_frames : Gen.C13L_MIN_FRAMES = 1 := by decide
theorem lit_sep_on : Gen.C13L_SEP_ON = 1 := by decide
theorem lit_sep_off : Gen.C13L_SEP_OFF = 0 := by decide
theorem lit_min_shown : Gen.C13L_MIN_SHOWN = 1 := by decide

/-- exclusive end of the frames that are actually filled -/
def offCellG (fl : Rat → Rat) (o : Opts) (t0 : Rat) (n : Note) : Int :=
  if o.onsetOnly then onFrameG fl o t0 n + 1 else offIdxG fl o t0 n

theorem durFramesG_pos (fl : Rat → Rat) (o : Opts) (n : Note) : 1 ≤ durFramesG fl o n := by
  unfold durFramesG
  simp only [lit_min_frames]
  split <;> omega

theorem onFrameG_lt_offFullG (fl : Rat → Rat) (o : Opts) (t0 : Rat) (n : Note) : onFrameG fl o t0 n < offFullG fl o t0 n := by
  have := durFramesG_pos fl o n
  unfold offFullG
  omega

theorem offIdxG_eq (fl : Rat → Rat) (o : Opts) (t0 : Rat) (n : Note) :
    offIdxG fl o t0 n = if o.onsetOnly then offFullG fl o t0 n
      else max (onFrameG fl o t0 n + 1) (offFullG fl o t0 n - if o.noteSep then 1 else 0) := by
  unfold offIdxG
  rw [lit_min_shown, lit_sep_on, lit_sep_off, max_def]

theorem min_one_frameG (fl : Rat → Rat) (o : Opts) (t0 : Rat) (n : Note) :
    onFrameG fl o t0 n < offCellG fl o t0 n ∧ offCellG fl o t0 n ≤ offFullG fl o t0 n ∧
    (o.onsetOnly = true → offCellG fl o t0 n = onFrameG fl o t0 n + 1) ∧
    (o.onsetOnly = false → o.noteSep = false → offCellG fl o t0 n = offFullG fl o t0 n) ∧
    (o.onsetOnly = false → o.noteSep = true →
      offCellG fl o t0 n = max (onFrameG fl o t0 n + 1) (offFullG fl o t0 n - 1)) := by
  have := onFrameG_lt_offFullG fl o t0 n
  unfold offCellG
  rw [offIdxG_eq]
  cases o.onsetOnly <;> cases o.noteSep <;>
    simp only [Bool.false_eq_true, Bool.true_eq_false, if_false, if_true, false_implies, true_implies, implies_true,
      and_true, true_and] <;> omega

theorem onFrameG_lt_offCellG (fl : Rat → Rat) (o : Opts) (t0 : Rat) (n : Note) : onFrameG fl o t0 n < offCellG fl o t0 n :=
  (min_one_frameG fl o t0 n).1

theorem mem_noteCellsR (fl : Rat → Rat) (o : Opts) (row : Note → Int) (t0 : Rat) (n : Note) (p j v : Int) :
    (p, j, v) ∈ noteCellsR fl o row t0 n ↔
      p = row n ∧ v = n.vel ∧ onFrameG fl o t0 n ≤ j ∧ j < offCellG fl o t0 n := by
  unfold noteCellsR offCellG
  simp only
  by_cases h : o.onsetOnly = true
  · simp only [h, if_true, mem_singleton, Prod.mk.injEq]
    constructor
    · rintro ⟨h1, h2, h3⟩; exact ⟨h1, h3, by omega, by omega⟩
    · rintro ⟨h1, h2, h3, h4⟩; exact ⟨h1, by omega, h2⟩
  · have h' : o.onsetOnly = false := by simpa using h
    simp only [h', Bool.false_eq_true, ↓reduceIte, mem_map, mem_range, Prod.mk.injEq]
    constructor
    · rintro ⟨k, hk, h1, h2, h3⟩
      exact ⟨h1.symm, h3.symm, by omega, by omega⟩
    · rintro ⟨h1, h2, h3, h4⟩
      exact ⟨(j - onFrameG fl o t0 n).toNat, by omega, h1.symm, by omega, h2.symm⟩

theorem mem_fillOfR (fl : Rat → Rat) (o : Opts) (row : Note → Int) (notes : List Note) (p j v : Int) :
    (p, j, v) ∈ fillOfR fl o row notes ↔
      ∃ n ∈ notes, row n = p ∧ n.vel = v ∧
        onFrameG fl o (t0Of o notes) n ≤ j ∧ j < offCellG fl o (t0Of o notes) n := by
  unfold fillOfR
  rw [mem_flatMap]
  constructor
  · rintro ⟨n, hn, hc⟩
    rw [mem_noteCellsR] at hc
    exact ⟨n, mem_sortedNotes.mp hn, hc.1.symm, hc.2.1.symm, hc.2.2.1, hc.2.2.2⟩
  · rintro ⟨n, hn, h1, h2, h3, h4⟩
    exact ⟨n, mem_sortedNotes.mpr hn, (mem_noteCellsR ..).mpr ⟨h1.symm, h2.symm, h3, h4⟩⟩

theorem maxOffOfG_eq (fl : Rat → Rat) (o : Opts) (notes : List Note) :
    maxOffOfG fl o notes = (maxInt? (notes.map (offFullG fl o (t0Of o notes)))).getD 0 := by
  unfold maxOffOfG maxInt?
  rw [best?_perm linearLe_intGe ((sortedNotes_perm notes).map _)]

section perm
variable (fl : Rat → Rat) (o : Opts) {notes notes' : List Note} (hp : notes ~ notes')
include hp

omit fl o in
theorem lowestQ_perm : lowestQ notes = lowestQ notes' := by
  unfold lowestQ minInt?
  rw [best?_perm linearLe_intLe (hp.map _)]

omit fl o in
theorem highestQ_perm : highestQ notes = highestQ notes' := by
  unfold highestQ maxInt?
  rw [best?_perm linearLe_intGe (hp.map _)]

omit fl in
/-- with a margin the first and last pitch are those of the notes (`lowestQ`, `highestQ`), else constants -/
theorem lowestOf_perm : lowestOf o notes = lowestOf o notes' :=
  congrArg (fun x => if o.pitchMargin > -1 then x else Gen.C13_LOWEST_PITCH) (lowestQ_perm hp)

omit fl in
theorem rowsFull_perm : rowsFull o notes = rowsFull o notes' := by
  unfold rowsFull highestOf
  rw [lowestOf_perm o hp, show (maxInt? (notes.map (·.pitch))).getD 0 = highestQ notes from rfl, highestQ_perm hp]
  rfl

theorem maxOffOfG_perm : maxOffOfG fl o notes = maxOffOfG fl o notes' := by
  rw [maxOffOfG_eq, maxOffOfG_eq, t0Of_perm o hp]
  unfold maxInt?
  rw [best?_perm linearLe_intGe (hp.map _)]

theorem colsOfG_perm : colsOfG fl o notes = colsOfG fl o notes' := by
  unfold colsOfG
  rw [maxOffOfG_perm fl o hp, t0Of_perm o hp]

theorem fillOfR_perm (row : Note → Int) : fillOfR fl o row notes ~ fillOfR fl o row notes' := by
  unfold fillOfR
  rw [t0Of_perm o hp]
  exact Perm.flatMap_right _ (((sortedNotes_perm notes).trans hp).trans (sortedNotes_perm notes').symm)

end perm

/-- the roll assembled when no check fails -/
def rollOfR (fl : Rat → Rat) (o : Opts) (notes : List Note) (M : Int) (row irow : Note → Int) (N : Int) : Roll :=
  { rows := if o.pianoRange then slicedRows M else M
    cols := N
    rowStart := rowStartOf o
    binary := o.binary
    fill := fillOfR fl o row notes
    idx := idxOfR fl o irow notes }

theorem makeRows_eq_some (fl : Rat → Rat) (o : Opts) (notes : List Note) (M : Int) (row irow : Note → Int) (r : Roll) :
    makeRows fl o notes M row irow = some r ↔
      notes ≠ [] ∧ (∀ n ∈ notes, 0 ≤ n.dur) ∧
      ∃ N, colsOfG fl o notes = some N ∧
        (∀ e ∈ fillOfR fl o row notes, inBounds M N e = true) ∧ r = rollOfR fl o notes M row irow N := by
  have e1 : notes.isEmpty = true ↔ notes = [] := isEmpty_iff
  have e2 : (notes.any fun n => decide (n.dur < 0)) = true ↔ ¬ ∀ n ∈ notes, 0 ≤ n.dur := by
    simp only [any_eq_true, decide_eq_true_eq, not_forall, not_le, exists_prop]
  unfold makeRows rollOfR
  by_cases h1 : notes = []
  · rw [if_pos (e1.mpr h1)]
    exact ⟨nofun, fun h => absurd h1 h.1⟩
  rw [if_neg (mt e1.mp h1)]
  by_cases h2 : ∀ n ∈ notes, 0 ≤ n.dur
  swap
  · rw [if_pos (e2.mpr h2)]
    exact ⟨nofun, fun h => absurd h.2.1 h2⟩
  rw [if_neg (mt e2.mp (not_not.mpr h2))]
  cases hc : colsOfG fl o notes with
  | none => exact ⟨nofun, fun ⟨_, _, N, hN, _⟩ => nomatch hN⟩
  | some N =>
    simp only [all_eq_true, Option.some.injEq]
    constructor
    · intro h
      split at h
      · rename_i h3; exact ⟨h1, h2, N, rfl, h3, (Option.some.inj h).symm⟩
      · cases h
    · rintro ⟨_, _, N', rfl, h3, rfl⟩
      rw [if_pos h3]

/-- `pr_idx[idx.argsort()]` is the table of index rows in input order -/
theorem idxOfR_eq (fl : Rat → Rat) (o : Opts) (irow : Note → Int) (notes : List Note) :
    idxOfR fl o irow notes = notes.map fun n =>
      (irow n, onFrameG fl o (t0Of o notes) n, offIdxG fl o (t0Of o notes) n, n.pitch) := by
  unfold idxOfR
  exact unsort_sorted (fun n => (irow n, onFrameG fl o (t0Of o notes) n, offIdxG fl o (t0Of o notes) n, n.pitch)) notes

/-- note `n` sounds in cell `(p, j)` of the un-sliced roll whose rows are given by `row` -/
def CoversR (fl : Rat → Rat) (o : Opts) (row : Note → Int) (notes : List Note) (n : Note) (p j : Int) : Prop :=
  row n = p ∧ onFrameG fl o (t0Of o notes) n ≤ j ∧ j < offCellG fl o (t0Of o notes) n

section cells
variable (fl : Rat → Rat) (o : Opts) (notes : List Note) (M : Int) (row irow : Note → Int) (r : Roll)
  (h : makeRows fl o notes M row irow = some r)
include h

theorem cells_in_rangeR (n : Note) (hn : n ∈ notes) (q j : Int) (hc : CoversR fl o row notes n q j) :
    0 ≤ q ∧ q < M ∧ 0 ≤ j ∧ j < r.cols := by
  obtain ⟨_, _, N, _, hb, rfl⟩ := (makeRows_eq_some fl o notes M row irow r).mp h
  have := hb _ ((mem_fillOfR fl o row notes q j n.vel).mpr ⟨n, hn, hc.1, rfl, hc.2.1, hc.2.2⟩)
  simpa [inBounds, rollOfR, and_assoc] using this

theorem cell_valueR (p j : Int) (hp0 : 0 ≤ p) (hp1 : p < r.rows) :
    ((¬ ∃ n ∈ notes, CoversR fl o row notes n (p + r.rowStart) j) → r.cell p j = 0) ∧
    ((∃ n ∈ notes, CoversR fl o row notes n (p + r.rowStart) j) →
      ∃ n ∈ notes, CoversR fl o row notes n (p + r.rowStart) j ∧
        (∀ n' ∈ notes, CoversR fl o row notes n' (p + r.rowStart) j → n'.vel ≤ n.vel) ∧
        r.cell p j = if o.binary = true ∧ n.vel ≠ 0 then 1 else n.vel) := by
  obtain ⟨_, _, N, _, hb, rfl⟩ := (makeRows_eq_some fl o notes M row irow r).mp h
  have hcov : ∀ n ∈ notes, ∀ q, CoversR fl o row notes n q j → (q, j, n.vel) ∈ fillOfR fl o row notes := by
    intro n hn q hc
    exact (mem_fillOfR ..).mpr ⟨n, hn, hc.1, rfl, hc.2.1, hc.2.2⟩
  constructor
  · intro hno
    refine Roll.cell_eq_zero _ ?_
    rintro ⟨a, b, c⟩ he ⟨h1, h2⟩
    simp only at h1 h2
    subst h1 h2
    obtain ⟨n, hn, h3, h4, h5, h6⟩ := (mem_fillOfR ..).mp he
    exact hno ⟨n, hn, h3, h5, h6⟩
  · rintro ⟨n0, hn0, hc0⟩
    have hj := hb _ (hcov n0 hn0 _ hc0)
    simp only [inBounds, Bool.and_eq_true, decide_eq_true_eq] at hj
    cases hk : keyMax (fillOfR fl o row notes) (p + (rollOfR fl o notes M row irow N).rowStart) j with
    | none =>
      exfalso
      rw [keyMax_none_iff] at hk
      exact hk _ (hcov n0 hn0 _ hc0) ⟨rfl, rfl⟩
    | some v =>
      obtain ⟨hv1, hv2⟩ := (keyMax_some_iff ..).mp hk
      obtain ⟨n, hn, h3, h4, h5, h6⟩ := (mem_fillOfR ..).mp hv1
      refine ⟨n, hn, ⟨h3, h5, h6⟩, ?_, ?_⟩
      · intro n' hn' hc'
        rw [h4]
        exact hv2 _ (hcov n' hn' _ hc') rfl rfl
      · rw [h4]
        exact Roll.cell_of_keyMax _ ⟨hp0, hp1, hj.1.2, hj.2⟩ hk

/-- **cell (p, j) is non-zero exactly when a note of non-zero velocity sounds there** — all velocities `≥ 0`: a
    velocity-0 note never hides a sounding one (the maximum wins) and never lights a cell -/
theorem cell_iff_soundingR (hv : ∀ n ∈ notes, 0 ≤ n.vel) (p j : Int) (hp0 : 0 ≤ p) (hp1 : p < r.rows) :
    r.cell p j ≠ 0 ↔ ∃ n ∈ notes, CoversR fl o row notes n (p + r.rowStart) j ∧ n.vel ≠ 0 := by
  obtain ⟨h1, h2⟩ := cell_valueR fl o notes M row irow r h p j hp0 hp1
  constructor
  · intro hne
    obtain ⟨n, hn, hcov, _, he⟩ := h2 (by_contra fun hc => hne (h1 hc))
    refine ⟨n, hn, hcov, fun h0 => hne ?_⟩
    rw [he, h0]
    simp
  · rintro ⟨n', hn', hc', hv'⟩
    obtain ⟨n, hn, _, hmax, he⟩ := h2 ⟨n', hn', hc'⟩
    have h1' := hmax n' hn' hc'
    have h2' := hv n' hn'
    rw [he]
    split <;> omega

theorem cell_iffR (hv : ∀ n ∈ notes, 0 < n.vel) (p j : Int) (hp0 : 0 ≤ p) (hp1 : p < r.rows) :
    r.cell p j ≠ 0 ↔ ∃ n ∈ notes, CoversR fl o row notes n (p + r.rowStart) j := by
  rw [cell_iff_soundingR fl o notes M row irow r h (fun n hn => (hv n hn).le) p j hp0 hp1]
  exact ⟨fun ⟨n, hn, hc, _⟩ => ⟨n, hn, hc⟩, fun ⟨n, hn, hc⟩ => ⟨n, hn, hc, (hv n hn).ne'⟩⟩

theorem cell_binaryR (hv : ∀ n ∈ notes, 0 < n.vel) (hb : o.binary = true ∨ ∀ n ∈ notes, n.vel = 1)
    (p j : Int) (hp0 : 0 ≤ p) (hp1 : p < r.rows)
    (hc : ∃ n ∈ notes, CoversR fl o row notes n (p + r.rowStart) j) : r.cell p j = 1 := by
  obtain ⟨n, hn, _, _, he⟩ := (cell_valueR fl o notes M row irow r h p j hp0 hp1).2 hc
  have := hv n hn
  rw [he]
  rcases hb with hb | hb
  · rw [if_pos ⟨hb, by omega⟩]
  · split
    · rfl
    · exact hb n hn

theorem cell_nonnegR (hv : ∀ n ∈ notes, 0 ≤ n.vel) (p j : Int) : 0 ≤ r.cell p j := by
  by_cases hp : 0 ≤ p ∧ p < r.rows
  · obtain ⟨h1, h2⟩ := cell_valueR fl o notes M row irow r h p j hp.1 hp.2
    by_cases hc : ∃ n ∈ notes, CoversR fl o row notes n (p + r.rowStart) j
    · obtain ⟨n, hn, _, _, he⟩ := h2 hc
      have := hv n hn
      rw [he]
      split <;> omega
    · rw [h1 hc]
  · exact (Roll.cell_out r (j := j) fun hc => hp ⟨hc.1, hc.2.1⟩).ge

theorem idx_rowsR : r.idx = notes.map fun n =>
    (irow n, onFrameG fl o (t0Of o notes) n, offIdxG fl o (t0Of o notes) n, n.pitch) := by
  obtain ⟨_, _, N, _, _, rfl⟩ := (makeRows_eq_some fl o notes M row irow r).mp h
  exact idxOfR_eq fl o irow notes

end cells

/-- covering a cell, read off a note's index row (`onset ≤ j < offset`; in onset mode `j = onset`) -/
theorem coversR_iff_idx (fl : Rat → Rat) (o : Opts) (row : Note → Int) (notes : List Note) (n : Note) (q j : Int) :
    CoversR fl o row notes n q j ↔ row n = q ∧ onFrameG fl o (t0Of o notes) n ≤ j ∧
      j < (if o.onsetOnly then onFrameG fl o (t0Of o notes) n + 1 else offIdxG fl o (t0Of o notes) n) := by
  unfold CoversR offCellG
  rfl

theorem makeRows_perm (fl : Rat → Rat) (o : Opts) (M : Int) (row irow : Note → Int) {a b : List Note} (hab : a ~ b)
    (r : Roll) (hr : makeRows fl o a M row irow = some r) :
    ∃ r', makeRows fl o b M row irow = some r' ∧ r.rows = r'.rows ∧ r.cols = r'.cols ∧
      (∀ p j, r.cell p j = r'.cell p j) ∧ r.idx ~ r'.idx := by
  obtain ⟨hne, hd, N, hN, hb, rfl⟩ := (makeRows_eq_some fl o a M row irow r).mp hr
  refine ⟨rollOfR fl o b M row irow N, ?_, rfl, rfl, ?_, ?_⟩
  · rw [makeRows_eq_some]
    refine ⟨fun hnil => hne (by subst hnil; exact hab.eq_nil), fun n hn => hd n (hab.mem_iff.mpr hn), N,
      by rw [← colsOfG_perm fl o hab]; exact hN, ?_, rfl⟩
    intro e he
    exact hb e ((fillOfR_perm fl o hab row).mem_iff.mpr he)
  · exact cell_congr _ _ rfl rfl rfl rfl fun p j => keyMax_perm (fillOfR_perm fl o hab row) p j
  · simp only [rollOfR, idxOfR_eq]
    rw [t0Of_perm o hab]
    exact hab.map _

/-- the two halves of an order-independence statement, from "a result for one order gives a related result for the
    other" in both directions -/
theorem indep_of_transfer {α β : Type} {f : α → Option β} {P : β → β → Prop} {a b : α}
    (k1 : ∀ r, f a = some r → ∃ r', f b = some r' ∧ P r r') (k2 : ∀ r, f b = some r → ∃ r', f a = some r') :
    (f a = none ↔ f b = none) ∧ ∀ r r', f a = some r → f b = some r' → P r r' := by
  refine ⟨⟨fun hn => ?_, fun hn => ?_⟩, fun r r' hr hr' => ?_⟩
  · cases hr : f b with
    | none => rfl
    | some r' => obtain ⟨r, hr2⟩ := k2 r' hr; rw [hn] at hr2; cases hr2
  · cases hr : f a with
    | none => rfl
    | some r => obtain ⟨r', hr2, _⟩ := k1 r hr; rw [hn] at hr2; cases hr2
  · obtain ⟨r'', hr2, hP⟩ := k1 r hr
    rw [hr'] at hr2
    cases hr2
    exact hP

theorem makeWith_rows (fl : Rat → Rat) (o : Opts) (notes : List Note) :
    makeWith fl o notes = makeRows fl o notes (rowsFull o notes) (rowOf o (lowestOf o notes))
      (fun n => rowOf o (lowestOf o notes) n - idxStartOf o) := rfl

/-- the index rows of `makeWith`, in input order; the vertical position is the row in the sliced roll -/
theorem idx_rowsG (fl : Rat → Rat) (o : Opts) (notes : List Note) (r : Roll) (h : makeWith fl o notes = some r) :
    r.idx = notes.map fun n =>
      (rowOf o (lowestOf o notes) n - r.rowStart, onFrameG fl o (t0Of o notes) n, offIdxG fl o (t0Of o notes) n, n.pitch) := by
  rw [makeWith_rows] at h
  obtain ⟨_, _, N, _, _, rfl⟩ := (makeRows_eq_some fl o notes _ _ _ r).mp h
  simp only [rollOfR, idxOfR_eq, idxStartOf_eq]

/-- **the index rows of the sounding notes designate exactly the non-zero cells** (velocities `≥ 0`): cell `(p, j)` is
    non-zero iff the index row of some note of non-zero velocity has vertical position `p` and `onset ≤ j < offset` (in
    onset mode: `j = onset`) -/
theorem idx_designate_soundingG (fl : Rat → Rat) (o : Opts) (notes : List Note) (r : Roll) (h : makeWith fl o notes = some r)
    (hv : ∀ n ∈ notes, 0 ≤ n.vel) (p j : Int) (hp0 : 0 ≤ p) (hp1 : p < r.rows) :
    r.cell p j ≠ 0 ↔
      ∃ n ∈ notes, n.vel ≠ 0 ∧
        rowOf o (lowestOf o notes) n - r.rowStart = p ∧ onFrameG fl o (t0Of o notes) n ≤ j ∧
        j < (if o.onsetOnly then onFrameG fl o (t0Of o notes) n + 1 else offIdxG fl o (t0Of o notes) n) := by
  rw [cell_iff_soundingR fl o notes _ _ _ r (makeWith_rows fl o notes ▸ h) hv p j hp0 hp1]
  simp only [coversR_iff_idx]
  constructor
  · rintro ⟨n, hn, ⟨h1, h2, h3⟩, h0⟩
    exact ⟨n, hn, h0, by omega, h2, h3⟩
  · rintro ⟨n, hn, h0, h1, h2, h3⟩
    exact ⟨n, hn, ⟨by omega, h2, h3⟩, h0⟩

/-- with velocities `> 0` every index row counts -/
theorem idx_designateG (fl : Rat → Rat) (o : Opts) (notes : List Note) (r : Roll) (h : makeWith fl o notes = some r)
    (hv : ∀ n ∈ notes, 0 < n.vel) (p j : Int) (hp0 : 0 ≤ p) (hp1 : p < r.rows) :
    r.cell p j ≠ 0 ↔
      ∃ row ∈ r.idx, row.1 = p ∧ row.2.1 ≤ j ∧ j < (if o.onsetOnly then row.2.1 + 1 else row.2.2.1) := by
  rw [idx_designate_soundingG fl o notes r h (fun n hn => (hv n hn).le) p j hp0 hp1, idx_rowsG fl o notes r h]
  simp only [mem_map]
  constructor
  · rintro ⟨n, hn, _, hc⟩
    exact ⟨_, ⟨n, hn, rfl⟩, hc⟩
  · rintro ⟨_, ⟨n, hn, rfl⟩, hc⟩
    exact ⟨n, hn, (hv n hn).ne', hc⟩

theorem makeWith_order_indep (fl : Rat → Rat) (o : Opts) {notes notes' : List Note} (hp : notes ~ notes') :
    (makeWith fl o notes = none ↔ makeWith fl o notes' = none) ∧
    ∀ r r', makeWith fl o notes = some r → makeWith fl o notes' = some r' →
      r.rows = r'.rows ∧ r.cols = r'.cols ∧ (∀ p j, r.cell p j = r'.cell p j) ∧ r.idx ~ r'.idx := by
  rw [makeWith_rows, makeWith_rows, ← rowsFull_perm o hp, ← lowestOf_perm o hp]
  exact indep_of_transfer
    (f := fun l => makeRows fl o l (rowsFull o notes) (rowOf o (lowestOf o notes))
      (fun n => rowOf o (lowestOf o notes) n - idxStartOf o))
    (makeRows_perm fl o _ _ _ hp) (fun r hr => (makeRows_perm fl o _ _ _ hp.symm r hr).imp fun _ h => h.1)

/-- the number of columns as a function of the last offset frame `L` -/
def colsFrom (fl : Rat → Rat) (o : Opts) (t0 : Rat) (L : Int) : Option Int :=
  match o.endTime with
  | none => some (Rat.ceil (fl (trailMarginG fl o + (L : Rat))))
  | some e =>
    let e' := fl (fl e - t0)
    if fl (e' * (o.timeDiv : Rat)) < (L : Rat) then none
    else some (Rat.ceil (fl (trailMarginG fl o + fl ((o.timeDiv : Rat) * e'))))

theorem colsOfG_eq (fl : Rat → Rat) (o : Opts) (notes : List Note) :
    colsOfG fl o notes = colsFrom fl o (t0Of o notes) (maxOffOfG fl o notes) := rfl

/-- only the frames, the column count and the rows of the notes that are there matter -/
theorem makeRows_ext (fl fl' : Rat → Rat) (o : Opts) (notes : List Note) (M : Int) (row row' irow irow' : Note → Int)
    (hon : ∀ n ∈ notes, onFrameG fl o (t0Of o notes) n = onFrameG fl' o (t0Of o notes) n)
    (hoff : ∀ n ∈ notes, offFullG fl o (t0Of o notes) n = offFullG fl' o (t0Of o notes) n)
    (hcols : colsOfG fl o notes = colsOfG fl' o notes)
    (h1 : ∀ n ∈ notes, row n = row' n) (h2 : ∀ n ∈ notes, irow n = irow' n) :
    makeRows fl o notes M row irow = makeRows fl' o notes M row' irow' := by
  have hidx : ∀ n ∈ notes, offIdxG fl o (t0Of o notes) n = offIdxG fl' o (t0Of o notes) n := by
    intro n hn
    unfold offIdxG
    rw [hoff n hn, hon n hn]
  have hfill : fillOfR fl o row notes = fillOfR fl' o row' notes := by
    unfold fillOfR
    apply flatMap_congr
    intro n hn
    have hn' := mem_sortedNotes.mp hn
    unfold noteCellsR
    rw [hon n hn', hidx n hn', h1 n hn']
  have hix : idxOfR fl o irow notes = idxOfR fl' o irow' notes := by
    unfold idxOfR
    congr 1
    apply map_congr_left
    intro x hx
    have hn := mem_sortedNotes.mp (mem_map.mpr ⟨x, hx, rfl⟩)
    rw [hon _ hn, hidx _ hn, h2 _ hn]
  unfold makeRows
  rw [hcols, hfill, hix]

theorem makeWith_congr (fl fl' : Rat → Rat) (o : Opts) (notes : List Note)
    (hf : ∀ n ∈ notes, onFrameG fl o (t0Of o notes) n = onFrameG fl' o (t0Of o notes) n ∧
      durFramesG fl o n = durFramesG fl' o n)
    (hc : colsFrom fl o (t0Of o notes) (maxOffOfG fl' o notes) = colsFrom fl' o (t0Of o notes) (maxOffOfG fl' o notes)) :
    makeWith fl o notes = makeWith fl' o notes := by
  have hoff : ∀ n ∈ notes, offFullG fl o (t0Of o notes) n = offFullG fl' o (t0Of o notes) n := by
    intro n hn
    unfold offFullG
    rw [(hf n hn).1, (hf n hn).2]
  have hmax : maxOffOfG fl o notes = maxOffOfG fl' o notes := by
    unfold maxOffOfG
    rw [map_congr_left fun n hn => hoff n (mem_sortedNotes.mp hn)]
  rw [makeWith_rows, makeWith_rows]
  exact makeRows_ext fl fl' o notes _ _ _ _ _ (fun n hn => (hf n hn).1) hoff (by rw [colsOfG_eq, colsOfG_eq, hmax, hc])
    (fun _ _ => rfl) (fun _ _ => rfl)

theorem makeWith_id_eq (o : Opts) (notes : List Note) : makeWith id o notes = makePianoroll o notes := rfl

theorem makePianoroll_rows (o : Opts) (notes : List Note) :
    makePianoroll o notes = makeRows id o notes (rowsFull o notes) (rowOf o (lowestOf o notes))
      (fun n => rowOf o (lowestOf o notes) n - idxStartOf o) := rfl

/-- `CoversR` at the integer rows -/
def CoversG (fl : Rat → Rat) (o : Opts) (notes : List Note) (n : Note) (p j : Int) : Prop :=
  rowOf o (lowestOf o notes) n = p ∧
    onFrameG fl o (t0Of o notes) n ≤ j ∧ j < offCellG fl o (t0Of o notes) n

/-- `CoversG` without rounding, in the definitions of Model/PianoRoll.lean -/
def Covers (o : Opts) (notes : List Note) (n : Note) (p j : Int) : Prop :=
  rowOf o (lowestOf o notes) n = p ∧
    onFrame o (t0Of o notes) n ≤ j ∧ j < offCell o (t0Of o notes) n

/-! the facts above, read for the definitions of Model/PianoRoll.lean and Model/PianoRollFloat.lean -/

theorem mem_noteCellsG (fl : Rat → Rat) (o : Opts) (lowest : Int) (t0 : Rat) (n : Note) (p j v : Int) :
    (p, j, v) ∈ noteCellsG fl o lowest t0 n ↔
      p = rowOf o lowest n ∧ v = n.vel ∧ onFrameG fl o t0 n ≤ j ∧ j < offCellG fl o t0 n :=
  mem_noteCellsR fl o (rowOf o lowest) t0 n p j v

theorem mem_noteCells (o : Opts) (lowest : Int) (t0 : Rat) (n : Note) (p j v : Int) :
    (p, j, v) ∈ noteCells o lowest t0 n ↔
      p = rowOf o lowest n ∧ v = n.vel ∧ onFrame o t0 n ≤ j ∧ j < offCell o t0 n :=
  mem_noteCellsG id o lowest t0 n p j v

theorem mem_fillOfG (fl : Rat → Rat) (o : Opts) (notes : List Note) (p j v : Int) :
    (p, j, v) ∈ fillOfG fl o notes ↔
      ∃ n ∈ notes, rowOf o (lowestOf o notes) n = p ∧ n.vel = v ∧
        onFrameG fl o (t0Of o notes) n ≤ j ∧ j < offCellG fl o (t0Of o notes) n :=
  mem_fillOfR fl o (rowOf o (lowestOf o notes)) notes p j v

theorem mem_fillOf (o : Opts) (notes : List Note) (p j v : Int) :
    (p, j, v) ∈ fillOf o notes ↔
      ∃ n ∈ notes, rowOf o (lowestOf o notes) n = p ∧ n.vel = v ∧
        onFrame o (t0Of o notes) n ≤ j ∧ j < offCell o (t0Of o notes) n :=
  mem_fillOfG id o notes p j v

theorem idxOfG_eq (fl : Rat → Rat) (o : Opts) (notes : List Note) :
    PianoRoll.idxOfG fl o notes = notes.map (idxRowG fl o (lowestOf o notes) (t0Of o notes) (idxStartOf o)) :=
  idxOfR_eq fl o (fun n => rowOf o (lowestOf o notes) n - idxStartOf o) notes

theorem maxOffOf_eq (o : Opts) (notes : List Note) :
    maxOffOf o notes = (maxInt? (notes.map (offFull o (t0Of o notes)))).getD 0 :=
  maxOffOfG_eq id o notes

/-- `rollOfR` at the integer rows without rounding, in the definitions of Model/PianoRoll.lean -/
def rollOf (o : Opts) (notes : List Note) (N : Int) : Roll :=
  { rows := if o.pianoRange then slicedRows (rowsFull o notes) else rowsFull o notes
    cols := N
    rowStart := rowStartOf o
    binary := o.binary
    fill := fillOf o notes
    idx := idxOf o notes }

theorem makePianoroll_eq_some (o : Opts) (notes : List Note) (r : Roll) :
    makePianoroll o notes = some r ↔
      notes ≠ [] ∧ (∀ n ∈ notes, 0 ≤ n.dur) ∧
      ∃ N, colsOf o notes = some N ∧
        (∀ e ∈ fillOf o notes, inBounds (rowsFull o notes) N e = true) ∧ r = rollOf o notes N := by
  rw [makePianoroll_rows]
  exact makeRows_eq_some id o notes _ _ _ r

theorem idxOf_eq (o : Opts) (notes : List Note) :
    PianoRoll.idxOf o notes = notes.map (idxRow o (lowestOf o notes) (t0Of o notes) (idxStartOf o)) :=
  idxOfG_eq id o notes

end C13
