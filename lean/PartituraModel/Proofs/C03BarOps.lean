/-
C03 — the barlines of a part: `do_barlines` groups its objects by onset, and the importer pairs repeats and endings through
`ongoing` (`repCalls`, `endCalls`).
-/
import PartituraModel.Model.XmlBar
import PartituraModel.Proofs.Dicts
import Mathlib.Data.List.Perm.Basic

namespace C03.BarOps
open Model Model.XmlNote Model.XmlBar

theorem insertKey_sortedInsert : Lists.IsSortedInsert (· < ·) insertKey := ⟨fun _ => rfl, fun _ _ _ => rfl⟩

theorem sortedKeys_sorted (l : List Nat) : (sortedKeys l).Pairwise (· < ·) :=
  insertKey_sortedInsert.foldr_pairwise Nat.lt_trans (fun h1 h2 => by omega) l

theorem mem_sortedKeys {t : Nat} {l : List Nat} : t ∈ sortedKeys l ↔ t ∈ l := insertKey_sortedInsert.mem_foldr

theorem sortedKeys_nodup (l : List Nat) : (sortedKeys l).Nodup :=
  (sortedKeys_sorted l).imp (fun h => Nat.ne_of_lt h)

/-- a dict of lists keyed by time, read out in the order of the keys: `for t in sorted(by_onset.keys())` -/
def groupsOf {β : Type} (es : List (Nat × β)) : List (Nat × List β) :=
  (sortedKeys (es.map (·.1))).map fun t => (t, (es.filter fun e => e.1 == t).map (·.2))

theorem groupsOf_keys {β : Type} (es : List (Nat × β)) : ((groupsOf es).map (·.1)).Pairwise (· < ·) := by
  rw [groupsOf, List.map_map, show ((fun g : Nat × List β => g.1) ∘ fun t => (t, _)) = id from rfl, List.map_id]
  exact sortedKeys_sorted _

theorem groupsOf_items {β : Type} (es : List (Nat × β)) :
    ∀ g ∈ groupsOf es, g.2 = (es.filter fun e => e.1 == g.1).map (·.2) ∧ g.2 ≠ [] := by
  intro g hg
  obtain ⟨t, ht, rfl⟩ := List.mem_map.mp hg
  obtain ⟨e, he, het⟩ := List.mem_map.mp (mem_sortedKeys.mp ht)
  exact ⟨rfl, List.ne_nil_of_mem (List.mem_map_of_mem (List.mem_filter.mpr ⟨he, by simp [het]⟩))⟩

theorem groupsOf_cover {β : Type} [DecidableEq β] (es : List (Nat × β)) :
    ((groupsOf es).flatMap fun g => g.2.map fun i => (g.1, i)).Perm es := by
  rw [groupsOf, List.flatMap_map]
  have : ∀ t, ((es.filter fun e => e.1 == t).map (·.2)).map (fun i => (t, i)) = es.filter fun e => e.1 == t := fun t => by
    rw [List.map_map]
    conv_rhs => rw [← List.map_id (es.filter fun e => e.1 == t)]
    exact List.map_congr_left fun e he => by
      have : e.1 = t := by simpa using (List.mem_filter.mp he).2
      simp [← this]
  simp only [this]
  exact Dicts.flatMap_filter_perm Prod.fst (sortedKeys_nodup _) es fun e he => mem_sortedKeys.mpr (List.mem_map_of_mem he)

theorem barGroups_eq (start stop : Nat) (s : BarSrc) :
    barGroups start stop s = (groupsOf (entries s)).map fun g => (g.1, locOf start stop g.1, g.2) := by
  simp only [barGroups, groupsOf, List.map_map]; rfl

def _root_.Model.XmlBar.BarOp.rep? : BarOp → Option (RepDir × Nat)
  | .rep d pos => some (d, pos)
  | .ending _ _ _ => none

def _root_.Model.XmlBar.BarOp.end? : BarOp → Option (EndType × Option Str × Nat)
  | .rep _ _ => none
  | .ending ty n pos => some (ty, n, pos)

/-- the calls of `_handle_repeat` a list of repeats causes when each is met first at its start, then at its end -/
def repCalls (rs : List (Nat × Nat)) : List (RepDir × Nat) :=
  rs.flatMap fun r => [(RepDir.forward, r.1), (RepDir.backward, r.2)]

def endCalls (es : List (Option Str × Nat × Nat)) (stopNumbers : List (Option Str)) : List (EndType × Option Str × Nat) :=
  (es.zip stopNumbers).flatMap fun p => [(EndType.start, p.1.1, p.1.2.1), (EndType.stop, p.2, p.1.2.2)]

theorem mapIdx_id_of {α : Type} (f : Nat → α → α) (l : List α) (h : ∀ i (hi : i < l.length), f i l[i] = l[i]) :
    l.mapIdx f = l := by
  apply List.ext_getElem (by simp)
  intro i h1 h2
  simp [h i h2]

theorem mapIdx_set_last {α : Type} (f : α → α) (l : List α) (o : α) :
    (l ++ [o]).mapIdx (fun j x => if j = l.length then f x else x) = l ++ [f o] := by
  rw [List.mapIdx_append]
  simp only [List.mapIdx_cons, List.mapIdx_nil, Nat.zero_add, if_true]
  congr 1
  exact mapIdx_id_of _ l (fun i hi => by simp [Nat.ne_of_lt hi])

theorem setRepStop_last (l : List RepObj) (o : RepObj) (t : Nat) :
    setRepStop (l ++ [o]) l.length t = l ++ [{ o with stop := some t }] := mapIdx_set_last _ l o

theorem setEndStop_last (l : List EndObj) (o : EndObj) (t : Nat) :
    setEndStop (l ++ [o]) l.length t = l ++ [{ o with stop := some t }] := mapIdx_set_last _ l o

/-- `_handle_repeat` on the part of the state it touches -/
def repStep (s : List RepObj × Option Nat) (c : RepDir × Nat) : List RepObj × Option Nat :=
  match c.1 with
  | .forward => (s.1 ++ [{ start := some c.2, stop := none }], some s.1.length)
  | .backward =>
    match s.2 with
    | some i => (setRepStop s.1 i c.2, none)
    | none => (s.1 ++ [{ start := none, stop := some c.2 }], none)
  | .other => s

def endStep (s : List EndObj × Option Nat) (c : EndType × Option Str × Nat) : List EndObj × Option Nat :=
  match c.1 with
  | .start => (s.1 ++ [{ number := c.2.1, start := some c.2.2, stop := none }], some s.1.length)
  | .stop =>
    match s.2 with
    | some i => (setEndStop s.1 i c.2.2, none)
    | none => (s.1 ++ [{ number := c.2.1, start := none, stop := some c.2.2 }], none)
  | .other => s

theorem applyOp_repState (st : BarState) (op : BarOp) :
    ((applyOp st op).repeats, (applyOp st op).openRepeat) =
      op.rep?.elim (st.repeats, st.openRepeat) (repStep (st.repeats, st.openRepeat)) := by
  cases op with
  | rep d pos =>
    simp only [BarOp.rep?, applyOp, handleRepeat, repStep]
    cases d with
    | forward => rfl
    | backward => cases st.openRepeat <;> rfl
    | other => rfl
  | ending ty n pos =>
    simp only [BarOp.rep?, applyOp, handleEnding]
    cases ty with
    | start => rfl
    | stop => cases st.openEnding <;> rfl
    | other => rfl

theorem applyOp_endState (st : BarState) (op : BarOp) :
    ((applyOp st op).endings, (applyOp st op).openEnding) =
      op.end?.elim (st.endings, st.openEnding) (endStep (st.endings, st.openEnding)) := by
  cases op with
  | ending ty n pos =>
    simp only [BarOp.end?, applyOp, handleEnding, endStep]
    cases ty with
    | start => rfl
    | stop => cases st.openEnding <;> rfl
    | other => rfl
  | rep d pos =>
    simp only [BarOp.end?, applyOp, handleRepeat]
    cases d with
    | forward => rfl
    | backward => cases st.openRepeat <;> rfl
    | other => rfl

/-- a part of the state that every call changes by a step of its own, or leaves alone, can be followed by itself -/
theorem foldl_view {σ τ ω μ : Type} (f : σ → ω → σ) (view : σ → τ) (mark : ω → Option μ) (step : τ → μ → τ)
    (h : ∀ s o, view (f s o) = (mark o).elim (view s) (step (view s))) (ops : List ω) (s : σ) :
    view (ops.foldl f s) = (ops.filterMap mark).foldl step (view s) := by
  induction ops generalizing s with
  | nil => rfl
  | cons o ops ih =>
    rw [List.foldl_cons, ih, h, List.filterMap_cons]
    cases mark o <;> rfl

theorem foldl_repState (ops : List BarOp) (st : BarState) :
    ((ops.foldl applyOp st).repeats, (ops.foldl applyOp st).openRepeat) =
      (ops.filterMap BarOp.rep?).foldl repStep (st.repeats, st.openRepeat) :=
  foldl_view applyOp (fun st => (st.repeats, st.openRepeat)) BarOp.rep? repStep applyOp_repState ops st

theorem foldl_endState (ops : List BarOp) (st : BarState) :
    ((ops.foldl applyOp st).endings, (ops.foldl applyOp st).openEnding) =
      (ops.filterMap BarOp.end?).foldl endStep (st.endings, st.openEnding) :=
  foldl_view applyOp (fun st => (st.endings, st.openEnding)) BarOp.end? endStep applyOp_endState ops st

theorem repCalls_fold (rs : List (Nat × Nat)) (base : List RepObj) :
    (repCalls rs).foldl repStep (base, none) = (base ++ rs.map fun r => ⟨some r.1, some r.2⟩, none) := by
  induction rs generalizing base with
  | nil => simp [repCalls]
  | cons r rs ih =>
    have : repCalls (r :: rs) = (RepDir.forward, r.1) :: (RepDir.backward, r.2) :: repCalls rs := by
      simp [repCalls]
    rw [this, List.foldl_cons, List.foldl_cons]
    simp only [repStep, setRepStop_last]
    rw [ih]
    simp

theorem endCalls_fold (es : List (Option Str × Nat × Nat)) (ns : List (Option Str)) (hlen : ns.length = es.length)
    (base : List EndObj) :
    (endCalls es ns).foldl endStep (base, none) = (base ++ es.map fun e => ⟨e.1, some e.2.1, some e.2.2⟩, none) := by
  induction es generalizing base ns with
  | nil => simp [endCalls]
  | cons e es ih =>
    cases ns with
    | nil => simp at hlen
    | cons n ns =>
      have : endCalls (e :: es) (n :: ns) =
          (EndType.start, e.1, e.2.1) :: (EndType.stop, n, e.2.2) :: endCalls es ns := by
        simp [endCalls]
      rw [this, List.foldl_cons, List.foldl_cons]
      simp only [endStep, setEndStop_last]
      rw [ih ns (by simpa using hlen)]
      simp

end C03.BarOps
