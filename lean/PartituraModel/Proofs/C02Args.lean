/-
C02 — arguments of any shape (`Nested`); the last key time through `getLast?`, the exact domain of the maps.
-/
import PartituraModel.Model.TimeMapHist
import PartituraModel.Proofs.C02Part

namespace C02Proofs
open Model.TimeMap

mutual
  theorem nested_map_flat {α β : Type} (f : α → β) : ∀ a : Nested α, (a.map f).flat = a.flat.map f
    | .leaf a => by simp [Nested.map, Nested.flat]
    | .node xs => by
      simp only [Nested.map, Nested.flat]
      exact nested_mapList_flat f xs
  theorem nested_mapList_flat {α β : Type} (f : α → β) :
      ∀ xs : List (Nested α), Nested.flatList (Nested.mapList f xs) = (Nested.flatList xs).map f
    | [] => by simp [Nested.mapList, Nested.flatList]
    | x :: xs => by
      simp only [Nested.mapList, Nested.flatList, List.map_append]
      rw [nested_map_flat f x, nested_mapList_flat f xs]
end

mutual
  theorem nested_map_map {α β γ : Type} (f : α → β) (g : β → γ) :
      ∀ a : Nested α, (a.map f).map g = a.map (fun x => g (f x))
    | .leaf a => by simp [Nested.map]
    | .node xs => by
      simp only [Nested.map]
      rw [nested_mapList_mapList f g xs]
  theorem nested_mapList_mapList {α β γ : Type} (f : α → β) (g : β → γ) :
      ∀ xs : List (Nested α), Nested.mapList g (Nested.mapList f xs) = Nested.mapList (fun x => g (f x)) xs
    | [] => by simp [Nested.mapList]
    | x :: xs => by
      simp only [Nested.mapList]
      rw [nested_map_map f g x, nested_mapList_mapList f g xs]
end

theorem nested_mapList_eq {α β : Type} (f : α → β) :
    ∀ xs : List (Nested α), Nested.mapList f xs = xs.map (Nested.map f)
  | [] => by simp [Nested.mapList]
  | x :: xs => by simp only [Nested.mapList, List.map_cons]; rw [nested_mapList_eq f xs]

theorem lastOf_eq : ∀ l : List Int, lastOf l = l.getLast?.getD 0
  | [] => rfl
  | [_] => rfl
  | _ :: b :: rest => by rw [lastOf, lastOf_eq (b :: rest), List.getLast?_cons_cons]

theorem endX_of_xs (ks : List (Rat × Rat)) (l : List Int) (h : ks.map (·.1) = l.map (fun (t : Int) => (t : Rat))) :
    endX ks = ((lastOf l : Int) : Rat) := by
  rw [endX_eq, h, List.getLast?_map, lastOf_eq]
  cases l.getLast? <;> simp

theorem endX_finalKnots (p : Part) (m : Mode) : endX (finalKnots p m) = ((lastOf (keyTimes p m) : Int) : Rat) :=
  endX_of_xs _ _ (finalKnots_xs p m)

theorem lastOf_mem (l : List Int) (h : l ≠ []) : lastOf l ∈ l := by
  rw [lastOf_eq, List.getLast?_eq_some_getLast h]
  exact List.getLast_mem h

theorem le_lastOf (l : List Int) (hp : l.Pairwise (· < ·)) (x : Int) (hx : x ∈ l) : x ≤ lastOf l := by
  rw [lastOf_eq, List.getLast?_eq_some_getLast (List.ne_nil_of_mem hx)]
  exact le_getLast_of_pairwise l _ hp x hx

theorem head_lt_lastOf (a b : Int) (rest : List Int) (hp : (a :: b :: rest).Pairwise (· < ·)) :
    a < lastOf (a :: b :: rest) := by
  have hp' := List.pairwise_cons.mp hp
  have h1 : a < b := hp'.1 b List.mem_cons_self
  have h2 := le_lastOf (b :: rest) hp'.2 b List.mem_cons_self
  simp only [lastOf]
  omega

theorem firstX_swap (ks : List (Rat × Rat)) : firstX (swap ks) = firstY ks := by
  cases ks with
  | nil => rfl
  | cons k rest => obtain ⟨x0, y0⟩ := k; rfl

end C02Proofs
