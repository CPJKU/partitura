/-
C11 — `readingOKB` (Model/MeasuresDec.lean) holds exactly when `TsOK`, `ExistingOK` and `BarsIntegral` do (`readingOKB_iff`):
the side conditions of the measure theorems are decided by one executable test on the part.
-/
import PartituraModel.Model.MeasuresDec
import PartituraModel.Proofs.C11Bar

namespace C11Decide
open Model Model.Dur Model.Meas Model.TimeMap C02Proofs C11Meas C11Bar

theorem sortedIntB_iff : ∀ l : List Int, sortedIntB l = true ↔ l.Pairwise (· ≤ ·)
  | [] => ⟨fun _ => .nil, fun _ => rfl⟩
  | a :: rest => by
    unfold sortedIntB
    rw [Bool.and_eq_true, List.pairwise_cons, sortedIntB_iff rest, List.all_eq_true]
    simp only [decide_eq_true_eq]

theorem tsOKB_iff (p : PartM) : tsOKB p = true ↔ TsOK p := by
  unfold tsOKB
  simp only [Bool.and_eq_true, sortedIntB_iff, List.all_eq_true, decide_eq_true_eq, Bool.not_eq_true',
    List.isEmpty_eq_false_iff]
  exact ⟨fun ⟨⟨⟨h1, h2⟩, h3⟩, h4⟩ => ⟨h1, h2, h3, h4⟩, fun h => ⟨⟨⟨h.sorted, h.range⟩, h.lt⟩, h.nonempty⟩⟩

theorem tdB_iff : ∀ (l : List Measure) (n : Nat), tdB n l = true ↔ TD n l
  | [], _ => ⟨fun _ => trivial, fun _ => rfl⟩
  | m :: rest, n => by
    unfold tdB
    rw [Bool.and_eq_true, Bool.and_eq_true, td_cons, tdB_iff rest, decide_eq_true_eq, decide_eq_true_eq, and_assoc]

theorem existingOKB_iff (p : PartM) (l : List (Nat × Nat × Nat)) : existingOKB p l = true ↔ ExistingOK p l := by
  unfold existingOKB
  simp only [Bool.and_eq_true, tdB_iff, List.all_eq_true, decide_eq_true_eq, Bool.not_eq_true', Bool.and_eq_false_iff,
    decide_eq_false_iff_not, ← not_and_or]
  exact ⟨fun ⟨⟨h1, h2⟩, h3⟩ => ⟨h1, h2, h3⟩, fun h => ⟨⟨h.ordered, h.inside⟩, h.noStraddle⟩⟩

theorem wfNotatedB_iff (p : TimeMap.Part) : wfNotatedB p = true ↔ WF p .notated := by
  unfold wfNotatedB WF
  simp only [Bool.and_eq_true, List.all_eq_true, decide_eq_true_eq]
  exact ⟨fun ⟨⟨⟨h1, h2⟩, h3⟩, h4⟩ => ⟨h1, h2, h3, fun _ s hs => ⟨(h4 s hs).1, (h4 s hs).2, fun hm => by cases hm⟩⟩,
    fun ⟨h1, h2, h3, h4⟩ => ⟨⟨⟨h1, h2⟩, h3⟩, fun s hs => ⟨(h4 (by decide) s hs).1, (h4 (by decide) s hs).2.1⟩⟩⟩
theorem beatL_sound (k : KP) (L : Nat) (h : beatL k = some L) : 0 < L ∧ k.divs = (L : Rat) * k.fac := by
  unfold beatL at h
  split at h
  · cases h
  · rename_i hfac
    simp only at h
    split at h
    · rename_i hr
      obtain ⟨hden, hnum⟩ := hr
      have hL : L = (k.divs / k.fac).num.toNat := (Option.some.inj h).symm
      have hcast : ((L : Nat) : Int) = (k.divs / k.fac).num := by rw [hL]; exact Int.toNat_of_nonneg (le_of_lt hnum)
      have hq : ((k.divs / k.fac).num : Rat) = k.divs / k.fac := Rat.coe_int_num_of_den_eq_one hden
      constructor
      · omega
      · have : ((L : Nat) : Rat) = k.divs / k.fac := by
          rw [← hq]; exact_mod_cast hcast
        rw [this, div_mul_cancel₀ _ hfac]
    · cases h

theorem zip_tail_split {α : Type} : ∀ (l : List α) (a b : α), (a, b) ∈ l.zip l.tail →
    ∃ pre post, l = pre ++ a :: b :: post := by
  intro l
  induction l with
  | nil => intro a b h; simp at h
  | cons x rest ih =>
    intro a b h
    cases rest with
    | nil => simp at h
    | cons y rest' =>
      simp only [List.tail_cons, List.zip_cons_cons, List.mem_cons] at h
      rcases h with h | h
      · obtain ⟨rfl, rfl⟩ := Prod.mk.inj h
        exact ⟨[], rest', rfl⟩
      · obtain ⟨pre, post, hp⟩ := ih a b (by simpa using h)
        exact ⟨x :: pre, post, by rw [hp]; rfl⟩

theorem stretchBeatB_sound (p : PartM) (x : Nat × Nat × Nat)
    (h : stretchBeatB (keypoints (toTimeMapPart p) .notated) x = true) : ∃ L, StretchBeat p x L := by
  unfold stretchBeatB at h
  obtain ⟨kk, hkk, hok⟩ := List.any_eq_true.mp h
  simp only [Bool.and_eq_true] at hok
  obtain ⟨⟨h1, h2⟩, h3⟩ := hok
  obtain ⟨pre, post, hsplit⟩ := zip_tail_split _ kk.1 kk.2 hkk
  cases hb : beatL kk.1 with
  | none => rw [hb] at h3; cases h3
  | some L =>
    obtain ⟨hpos, hdiv⟩ := beatL_sound kk.1 L hb
    exact ⟨L, pre, post, kk.1, kk.2, hsplit, of_decide_eq_true h1, of_decide_eq_true h2, hpos, hdiv⟩

theorem beatL_complete (k : KP) (L : Nat) (hL : 0 < L) (hd : k.divs = (L : Rat) * k.fac) (hf : 0 < k.fac) :
    beatL k = some L := by
  have hfac : k.fac ≠ 0 := ne_of_gt hf
  have hr : k.divs / k.fac = (L : Rat) := by rw [hd, mul_div_assoc, div_self hfac, mul_one]
  unfold beatL
  rw [if_neg hfac]
  simp only [hr]
  have h1 : ((L : Nat) : Rat).den = 1 := Rat.den_natCast L
  have h2 : ((L : Nat) : Rat).num = (L : Int) := Rat.num_natCast L
  rw [if_pos ⟨h1, by rw [h2]; exact_mod_cast hL⟩, h2]
  simp

theorem zip_tail_mem {α : Type} : ∀ (pre post : List α) (a b : α), (a, b) ∈ (pre ++ a :: b :: post).zip (pre ++ a :: b :: post).tail := by
  intro pre
  induction pre with
  | nil => intro post a b; simp
  | cons x rest ih =>
    intro post a b
    cases rest with
    | nil => simp
    | cons y rest' =>
      have := ih post a b
      simp only [List.cons_append, List.tail_cons, List.zip_cons_cons, List.mem_cons] at this ⊢
      right
      exact this

theorem stretchBeatB_complete (p : PartM) (hwf : WF (toTimeMapPart p) .notated) (x : Nat × Nat × Nat) (L : Nat)
    (h : StretchBeat p x L) : stretchBeatB (keypoints (toTimeMapPart p) .notated) x = true := by
  obtain ⟨pre, post, k, k', hsplit, h1, h2, h3, h4⟩ := h
  have hok := (keypoints_ok (toTimeMapPart p) .notated hwf).1.2 k (by rw [hsplit]; simp)
  unfold stretchBeatB
  apply List.any_eq_true.mpr
  refine ⟨(k, k'), by rw [hsplit]; exact zip_tail_mem pre post k k', ?_⟩
  simp only [Bool.and_eq_true]
  refine ⟨⟨decide_eq_true h1, decide_eq_true h2⟩, ?_⟩
  rw [beatL_complete k L h3 h4 hok.2]
  rfl

theorem barsIntegralB_iff (p : PartM) (l : List (Nat × Nat × Nat)) : barsIntegralB p l = true ↔ BarsIntegral p l := by
  unfold barsIntegralB BarsIntegral
  rw [Bool.and_eq_true, wfNotatedB_iff]
  refine and_congr_right fun hwf => ?_
  simp only [List.all_eq_true, Bool.and_eq_true, Bool.or_eq_true, Bool.not_eq_true', decide_eq_true_eq,
    decide_eq_false_iff_not]
  refine forall₂_congr fun x _ => and_congr_right fun _ => ?_
  constructor
  · rintro (h | h) hlt
    · exact absurd hlt h
    · exact stretchBeatB_sound p x h
  · intro h
    by_cases hlt : x.1 < x.2.1
    · obtain ⟨L, hL⟩ := h hlt
      exact Or.inr (stretchBeatB_complete p hwf x L hL)
    · exact Or.inl hlt

theorem readingOKB_iff (p : PartM) :
    readingOKB p = true ↔ ∃ l, stretches p = some l ∧ TsOK p ∧ ExistingOK p l ∧ BarsIntegral p l := by
  unfold readingOKB
  cases stretches p with
  | none => exact ⟨fun h => (by cases h), fun ⟨_, h, _⟩ => (by cases h)⟩
  | some l =>
    simp only [Bool.and_eq_true, tsOKB_iff, existingOKB_iff, barsIntegralB_iff, and_assoc]
    exact ⟨fun h => ⟨l, rfl, h⟩, fun ⟨_, hl, h⟩ => by cases hl; exact h⟩

end C11Decide
