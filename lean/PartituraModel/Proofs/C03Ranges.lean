/-
C03 — range numbers (Model/RangeNumbers.lean): the number handed out is free, open ranges
of one label always carry distinct numbers, and pairing by number recovers the ranges.
-/
import PartituraModel.Model.RangeNumbers
import PartituraModel.Proofs.Lists
import Mathlib.Data.List.Nodup

namespace C03.Ranges
open Model.Ranges

theorem freeFrom_spec : ∀ (fuel : Nat) (used : List Nat) (n : Nat), used.length ≤ fuel →
    freeFrom fuel used n ∉ used ∧ n ≤ freeFrom fuel used n ∧ ∀ m, n ≤ m → m < freeFrom fuel used n → m ∈ used := by
  intro fuel
  induction fuel with
  | zero =>
    intro used n h
    have : used = [] := List.length_eq_zero_iff.mp (Nat.le_zero.mp h)
    subst this
    exact ⟨by simp, Nat.le_refl _, fun m h1 h2 => by simp [freeFrom] at h2; omega⟩
  | succ fuel ih =>
    intro used n h
    unfold freeFrom
    by_cases hn : n ∈ used
    · rw [if_pos hn]
      have hlen : (used.erase n).length ≤ fuel := by
        rw [List.length_erase_of_mem hn]; omega
      obtain ⟨h1, h2, h3⟩ := ih (used.erase n) (n + 1) hlen
      refine ⟨?_, by omega, ?_⟩
      · intro hmem
        exact h1 ((List.mem_erase_of_ne (by omega)).mpr hmem)
      · intro m hm1 hm2
        by_cases hmn : m = n
        · subst hmn; exact hn
        · exact List.mem_of_mem_erase (h3 m (by omega) hm2)
    · rw [if_neg hn]
      exact ⟨hn, Nat.le_refl _, fun m h1 h2 => by omega⟩

theorem smallestFree_spec (used : List Nat) :
    smallestFree used ∉ used ∧ 1 ≤ smallestFree used ∧ ∀ m, 1 ≤ m → m < smallestFree used → m ∈ used :=
  freeFrom_spec used.length used 1 (Nat.le_refl _)

structure CInv (c : Counter) : Prop where
  keys : (c.map (·.1)).Nodup
  numbers : (c.map fun e => (e.1.1, e.2)).Nodup

/-- the counter is an association list and `find` its `Model.lookup` -/
theorem find_eq_lookup (k : Key) : ∀ c : Counter, find k c = Model.lookup k c
  | [] => rfl
  | (k', n) :: rest => by rw [find, Model.lookup, find_eq_lookup k rest]

theorem find_none {k : Key} {c : Counter} (h : find k c = none) : k ∉ c.map (·.1) :=
  Model.lookup_eq_none_iff.mp (find_eq_lookup k c ▸ h)

theorem find_some {k : Key} {c : Counter} {n : Nat} (h : find k c = some n) : (k, n) ∈ c :=
  Model.lookup_mem (find_eq_lookup k c ▸ h)

theorem erase_sublist (k : Key) (c : Counter) : (erase k c).Sublist c := by
  induction c with
  | nil => exact List.Sublist.refl _
  | cons e rest ih =>
    obtain ⟨k', n⟩ := e
    unfold erase
    by_cases hk : k' = k
    · simp only [hk, if_true]; exact List.sublist_cons_self _ _
    · simp only [hk, if_false]; exact ih.cons_cons _

theorem mem_usedBy {label n : Nat} {c : Counter} : n ∈ usedBy label c ↔ ∃ r, ((label, r), n) ∈ c := by
  unfold usedBy
  simp only [List.mem_map, List.mem_filter]
  constructor
  · rintro ⟨e, ⟨he, hl⟩, rfl⟩
    obtain ⟨⟨l, r⟩, n⟩ := e
    simp at hl; subst hl
    exact ⟨r, he⟩
  · rintro ⟨r, h⟩
    exact ⟨((label, r), n), ⟨h, by simp⟩, rfl⟩

theorem cinv_toggle {c : Counter} (h : CInv c) (k : Key) : CInv (toggle c k).1 := by
  unfold toggle
  cases hf : find k c with
  | some n =>
    simp only
    exact ⟨h.keys.sublist ((erase_sublist k c).map _), h.numbers.sublist ((erase_sublist k c).map _)⟩
  | none =>
    simp only
    have hnew : k ∉ c.map (·.1) := find_none hf
    have hfree := (smallestFree_spec (usedBy k.1 c)).1
    refine ⟨?_, ?_⟩
    · rw [List.map_append, List.nodup_append]
      refine ⟨h.keys, by simp, ?_⟩
      intro a ha b hb
      simp at hb; subst hb
      intro hab; subst hab
      exact hnew ha
    · rw [List.map_append, List.nodup_append]
      refine ⟨h.numbers, by simp, ?_⟩
      intro a ha b hb
      simp at hb; subst hb
      intro hab; subst hab
      obtain ⟨e, he, heq⟩ := List.mem_map.mp ha
      obtain ⟨⟨l, r⟩, n⟩ := e
      simp only [Prod.mk.injEq] at heq
      obtain ⟨hl, hn⟩ := heq
      subst hl; subst hn
      exact hfree (mem_usedBy.mpr ⟨r, he⟩)

theorem cinv_counterAfter (ks : List Key) {c : Counter} (h : CInv c) : CInv (counterAfter c ks) := by
  induction ks generalizing c with
  | nil => exact h
  | cons k rest ih => exact ih (cinv_toggle h k)

theorem cinv_nil : CInv [] := ⟨by simp, by simp⟩

/-- a range: its start note and that note's time, its stop note and that note's time -/
structure Rng where
  sN : Nat
  sT : Nat
  eN : Nat
  eT : Nat

/-- an element of the document: range `r` starts (`true`) or stops (`false`) here -/
abbrev REv := Nat × Bool

section
variable (label : Nat) (tbl : Nat → Rng)

def markOf (e : REv) (n : Nat) : Mark :=
  { note := if e.2 then (tbl e.1).sN else (tbl e.1).eN,
    time := if e.2 then (tbl e.1).sT else (tbl e.1).eT,
    isStart := e.2, number := n }

/-- the `<slur>`/`<tuplet>` elements the exporter writes for a sequence of starts and stops -/
def marksOf (c : Counter) : List REv → List Mark
  | [] => []
  | e :: rest => markOf tbl e (toggle c (label, e.1)).2 :: marksOf (toggle c (label, e.1)).1 rest

/-- the open ranges: identity, which end was met first, number -/
abbrev Open := List (Nat × Bool × Nat)

def cOf (S : Open) : Counter := S.map fun x => ((label, x.1), x.2.2)

def lookupS (r : Nat) : Open → Option (Bool × Nat)
  | [] => none
  | x :: rest => if x.1 = r then some x.2 else lookupS r rest

def eraseS (r : Nat) : Open → Open
  | [] => []
  | x :: rest => if x.1 = r then rest else x :: eraseS r rest

def pendingOf (r : Nat) (isStart : Bool) : Pending :=
  if isStart then { startNote := some ((tbl r).sN, (tbl r).sT), stopNote := none }
  else { startNote := none, stopNote := some ((tbl r).eN, (tbl r).eT) }

/-- the importer's `ongoing` when the open ranges are `S` -/
def ongoingOf (S : Open) : Ongoing := fun k =>
  (S.find? fun x => x.2.1 = k.1 ∧ x.2.2 = k.2).map fun x => pendingOf tbl x.1 x.2.1

theorem find_cOf (S : Open) (r : Nat) : find (label, r) (cOf label S) = (lookupS r S).map (·.2) := by
  induction S with
  | nil => rfl
  | cons x rest ih =>
    simp only [cOf, List.map_cons, find, lookupS]
    by_cases h : x.1 = r
    · simp [h]
    · have : ¬ ((label, x.1) = (label, r)) := by simp [h]
      simp only [this, h, if_false]
      exact ih

theorem erase_cOf (S : Open) (r : Nat) : erase (label, r) (cOf label S) = cOf label (eraseS r S) := by
  induction S with
  | nil => rfl
  | cons x rest ih =>
    simp only [cOf, List.map_cons, erase, eraseS]
    by_cases h : x.1 = r
    · simp [h]
    · have : ¬ ((label, x.1) = (label, r)) := by simp [h]
      simp only [this, h, if_false, List.map_cons]
      congr 1

theorem usedBy_cOf (S : Open) : usedBy label (cOf label S) = S.map (·.2.2) := by
  unfold usedBy cOf
  rw [List.filter_eq_self.mpr]
  · simp [List.map_map, Function.comp_def]
  · intro e he
    obtain ⟨x, _, rfl⟩ := List.mem_map.mp he
    simp

/-- one element of the document on the open ranges: the new open ranges, the number written, the range closed -/
def stepS (S : Open) (e : REv) : Open × Nat × Option Nat :=
  match lookupS e.1 S with
  | some tn => (eraseS e.1 S, tn.2, some e.1)
  | none => (S ++ [(e.1, e.2, smallestFree (S.map (·.2.2)))], smallestFree (S.map (·.2.2)), none)

theorem toggle_cOf (S : Open) (e : REv) :
    toggle (cOf label S) (label, e.1) = (cOf label (stepS S e).1, (stepS S e).2.1) := by
  unfold toggle stepS
  rw [find_cOf]
  cases h : lookupS e.1 S with
  | some tn => simp [erase_cOf]
  | none =>
    have hu := usedBy_cOf label S
    simp only [Option.map_none, hu]
    simp [cOf]

/-- the elements come in a sensible order: a range is met at most twice, once as a start and once as a stop -/
def WFEvs : Open → List Nat → List REv → Prop
  | _, _, [] => True
  | S, closed, e :: rest =>
    (match lookupS e.1 S with
      | some tn => tn.1 ≠ e.2
      | none => e.1 ∉ closed) ∧
    WFEvs (stepS S e).1 (match (stepS S e).2.2 with | some r => r :: closed | none => closed) rest

/-- the ranges closed by a sequence of elements, in the order they are closed -/
def closedBy : Open → List REv → List Nat
  | _, [] => []
  | S, e :: rest =>
    (match (stepS S e).2.2 with | some r => [r] | none => []) ++ closedBy (stepS S e).1 rest

def finalS : Open → List REv → Open
  | S, [] => S
  | S, e :: rest => finalS (stepS S e).1 rest

structure SInv (S : Open) : Prop where
  ids : (S.map (·.1)).Nodup
  nums : (S.map (·.2.2)).Nodup

theorem lookupS_eq_lookup (r : Nat) (S : Open) : lookupS r S = Model.lookup r S := by
  induction S with
  | nil => rfl
  | cons x rest ih => rw [lookupS, Model.lookup, ih]

theorem eraseS_sublist (r : Nat) (S : Open) : (eraseS r S).Sublist S := by
  induction S with
  | nil => exact List.Sublist.refl _
  | cons x rest ih =>
    unfold eraseS
    by_cases hx : x.1 = r
    · simp only [hx, if_true]; exact List.sublist_cons_self _ _
    · simp only [hx, if_false]; exact ih.cons_cons _

theorem sinv_iff_cinv (S : Open) : SInv S ↔ CInv (cOf label S) := by
  have h1 : (cOf label S).map (·.1) = (S.map (·.1)).map fun r => (label, r) := by
    simp only [cOf, List.map_map, Function.comp_def]
  have h2 : (cOf label S).map (fun e => (e.1.1, e.2)) = (S.map (·.2.2)).map fun n => (label, n) := by
    simp only [cOf, List.map_map, Function.comp_def]
  have inj : Function.Injective fun r : Nat => (label, r) := fun a b h => (Prod.mk.inj h).2
  exact ⟨fun h => ⟨h1 ▸ h.ids.map inj, h2 ▸ h.nums.map inj⟩,
    fun h => ⟨List.Nodup.of_map _ (h1 ▸ h.keys), List.Nodup.of_map _ (h2 ▸ h.numbers)⟩⟩

theorem sinv_step {S : Open} (h : SInv S) (e : REv) : SInv (stepS S e).1 := by
  have := cinv_toggle ((sinv_iff_cinv 0 S).mp h) (0, e.1)
  rw [toggle_cOf] at this
  exact (sinv_iff_cinv 0 _).mpr this

theorem find?_of_mem {S : Open} (h : SInv S) {x : Nat × Bool × Nat} (hm : x ∈ S) {p : Nat × Bool × Nat → Bool}
    (hp : p x = true) (hnum : ∀ y, p y = true → y.2.2 = x.2.2) : S.find? p = some x := by
  induction S with
  | nil => cases hm
  | cons y rest ih =>
    rcases List.mem_cons.mp hm with rfl | hx
    · exact List.find?_cons_of_pos hp
    · have hne : ¬ p y = true := fun hy =>
        (List.nodup_cons.mp h.nums).1 (List.mem_map.mpr ⟨x, hx, (hnum y hy).symm⟩)
      rw [List.find?_cons_of_neg hne]
      exact ih ⟨(List.nodup_cons.mp h.ids).2, (List.nodup_cons.mp h.nums).2⟩ hx

theorem find?_of_free {S : Open} {n : Nat} (hn : n ∉ S.map (·.2.2)) {p : Nat × Bool × Nat → Bool}
    (hnum : ∀ y, p y = true → y.2.2 = n) : S.find? p = none :=
  List.find?_eq_none.mpr fun y hy hp => hn (List.mem_map.mpr ⟨y, hy, hnum y hp⟩)

/-- Looking among the open ranges after `r` was closed, with a test that fixes the number: the closed range is not found
    any more, every other one as before (no two open ranges carry one number). -/
theorem find?_eraseS {S : Open} (h : SInv S) {r : Nat} {t : Bool} {n : Nat} (hm : (r, t, n) ∈ S)
    (p : Nat × Bool × Nat → Bool) (hnum : ∀ y, p y = true → p (r, t, n) = true → y.2.2 = n) :
    (eraseS r S).find? p = if p (r, t, n) = true then none else S.find? p := by
  induction S with
  | nil => cases hm
  | cons x rest ih =>
    have hids := List.nodup_cons.mp h.ids
    have hnums := List.nodup_cons.mp h.nums
    unfold eraseS
    by_cases hx : x.1 = r
    · have hxe : x = (r, t, n) := by
        rcases List.mem_cons.mp hm with h1 | h1
        · exact h1.symm
        · exact absurd (List.mem_map.mpr ⟨(r, t, n), h1, hx.symm⟩) hids.1
      subst hxe
      rw [if_pos rfl]
      by_cases hp : p (r, t, n) = true
      · rw [if_pos hp, List.find?_eq_none]
        intro y hy hyp
        exact hnums.1 (List.mem_map.mpr ⟨y, hy, hnum y hyp hp⟩)
      · rw [if_neg hp, List.find?_cons_of_neg hp]
    · have hmr : (r, t, n) ∈ rest := by
        rcases List.mem_cons.mp hm with h1 | h1
        · exact absurd (by rw [← h1]) hx
        · exact h1
      rw [if_neg hx]
      by_cases hxp : p x = true
      · have hp : ¬ p (r, t, n) = true := fun hp =>
          hnums.1 (List.mem_map.mpr ⟨(r, t, n), hmr, (hnum x hxp hp).symm⟩)
        rw [List.find?_cons_of_pos hxp, List.find?_cons_of_pos hxp, if_neg hp]
      · rw [List.find?_cons_of_neg hxp, List.find?_cons_of_neg hxp]
        exact ih ⟨hids.2, hnums.2⟩ hmr

theorem ongoingOf_mem {S : Open} (h : SInv S) {r : Nat} {t : Bool} {n : Nat} (hm : (r, t, n) ∈ S) :
    ongoingOf tbl S (t, n) = some (pendingOf tbl r t) := by
  unfold ongoingOf
  rw [find?_of_mem h hm (by simp) (fun y hy => by simp at hy; exact hy.2)]
  rfl

theorem ongoingOf_none {S : Open} {n : Nat} (hn : n ∉ S.map (·.2.2)) (t : Bool) : ongoingOf tbl S (t, n) = none := by
  unfold ongoingOf
  rw [find?_of_free hn fun y hy => (of_decide_eq_true hy).2]
  rfl

theorem ongoingOf_erase {S : Open} (h : SInv S) {r : Nat} {t : Bool} {n : Nat} (hm : (r, t, n) ∈ S) :
    oerase (t, n) (ongoingOf tbl S) = ongoingOf tbl (eraseS r S) := by
  funext k
  unfold oerase ongoingOf
  rw [find?_eraseS h hm _ (fun y hy hp => by simp at hy hp; rw [hy.2, hp.2])]
  by_cases hk : k = (t, n)
  · subst hk; simp
  · have : ¬ (t = k.1 ∧ n = k.2) := by
      intro hc; apply hk; ext <;> simp [hc.1, hc.2]
    simp [hk, this]

theorem ongoingOf_append {S : Open} {r : Nat} {t : Bool} {n : Nat} (hn : n ∉ S.map (·.2.2)) :
    oset (t, n) (pendingOf tbl r t) (ongoingOf tbl S) = ongoingOf tbl (S ++ [(r, t, n)]) := by
  funext k
  unfold oset ongoingOf
  rw [List.find?_append]
  by_cases hk : k = (t, n)
  · subst hk
    simp only [if_true]
    rw [find?_of_free hn fun y hy => (of_decide_eq_true hy).2]
    simp
  · simp only [hk, if_false]
    have : ¬ (t = k.1 ∧ n = k.2) := by
      intro hc; apply hk; ext <;> simp [hc.1, hc.2]
    cases hfind : S.find? (fun x => x.2.1 = k.1 ∧ x.2.2 = k.2) with
    | some x => simp
    | none => simp [this]

def TimeOK : Prop := ∀ r, (tbl r).sT ≤ (tbl r).eT

/-- Reading the marks the exporter writes, with any reader `step`: it is enough to say what the reader does at an element
    that opens a range (under a number no open range carries) and at one that closes an open range (under its number).
    `T` is whatever else is known of the elements still to come. -/
theorem foldl_marksOf {σ : Type} (step : σ → Mark → σ) (I : Open → List (Nat × Nat) → σ → Prop)
    (T : Open → List REv → Prop) (hT : ∀ S e rest, T S (e :: rest) → T (stepS S e).1 rest)
    (hopen : ∀ S r t rest d s, SInv S → I S d s → T S ((r, t) :: rest) → lookupS r S = none →
      smallestFree (S.map (·.2.2)) ∉ S.map (·.2.2) →
      I (S ++ [(r, t, smallestFree (S.map (·.2.2)))]) d (step s (markOf tbl (r, t) (smallestFree (S.map (·.2.2))))))
    (hclose : ∀ S r t t' n rest d s, SInv S → I S d s → T S ((r, t) :: rest) → (r, t', n) ∈ S → t' ≠ t →
      I (eraseS r S) (d ++ [((tbl r).sN, (tbl r).eN)]) (step s (markOf tbl (r, t) n))) :
    ∀ (evs : List REv) (S : Open) (closed : List Nat) (d : List (Nat × Nat)) (s : σ),
      SInv S → I S d s → WFEvs S closed evs → T S evs →
      I (finalS S evs) (d ++ (closedBy S evs).map fun r => ((tbl r).sN, (tbl r).eN))
        ((marksOf label tbl (cOf label S) evs).foldl step s)
  | [], S, _, d, s, _, hI, _, _ => by simpa [marksOf, closedBy, finalS] using hI
  | (r, t) :: rest, S, closed, d, s, hS, hI, hwf, hTS => by
    obtain ⟨hhead, hrest⟩ := hwf
    have hS' := sinv_step hS (r, t)
    have hT' := hT S (r, t) rest hTS
    have ht : toggle (cOf label S) (label, r) = _ := toggle_cOf label S (r, t)
    simp only [marksOf, List.foldl_cons, ht, closedBy, finalS, List.map_append, ← List.append_assoc]
    cases hl : lookupS r S with
    | none =>
      have e : stepS S (r, t) = (S ++ [(r, t, smallestFree (S.map (·.2.2)))], smallestFree (S.map (·.2.2)), none) := by
        unfold stepS; rw [hl]
      rw [e] at hS' hT' hrest ⊢
      simpa using foldl_marksOf step I T hT hopen hclose rest _ _ _ _ hS'
        (hopen S r t rest d s hS hI hTS hl (smallestFree_spec _).1) hrest hT'
    | some tn =>
      have e : stepS S (r, t) = (eraseS r S, tn.2, some r) := by unfold stepS; rw [hl]
      rw [hl] at hhead
      rw [e] at hS' hT' hrest ⊢
      simpa using foldl_marksOf step I T hT hopen hclose rest _ _ _ _ hS'
        (hclose S r t tn.1 tn.2 rest d s hS hI hTS (Model.lookup_mem (lookupS_eq_lookup r S ▸ hl)) hhead) hrest hT'


theorem pairAll_marksOf (checkTime : Bool) (htime : checkTime = true → TimeOK tbl) (evs : List REv) (S : Open)
    (closed : List Nat) (st : PState) (hS : SInv S) (hong : st.ongoing = ongoingOf tbl S) (hwf : WFEvs S closed evs) :
    (pairAll checkTime st (marksOf label tbl (cOf label S) evs)).done =
        st.done ++ (closedBy S evs).map (fun r => ((tbl r).sN, (tbl r).eN)) ∧
      (pairAll checkTime st (marksOf label tbl (cOf label S) evs)).lost = st.lost ∧
      (pairAll checkTime st (marksOf label tbl (cOf label S) evs)).ongoing = ongoingOf tbl (finalS S evs) := by
  have := foldl_marksOf label tbl (pairStep checkTime)
    (fun S d s => s.ongoing = ongoingOf tbl S ∧ s.done = d ∧ s.lost = st.lost) (fun _ _ => True) (fun _ _ _ _ => trivial)
    ?_ ?_ evs S closed st.done st hS ⟨hong, rfl, rfl⟩ hwf trivial
  · exact ⟨this.2.1, this.2.2, this.1⟩
  · -- a new range: nothing is kept under its number
    intro S r t rest d s _ ⟨hong, hd, hlost⟩ _ _ hfree
    have hn1 := ongoingOf_none tbl hfree true
    have hn2 := ongoingOf_none tbl hfree false
    have happ := ongoingOf_append tbl (r := r) (t := t) hfree
    cases t <;> refine ⟨?_, ?_, ?_⟩ <;> simp [pairStep, pairCore, markOf, ofind, hong, hn1, hn2, ← happ, pendingOf, hd, hlost]
  · -- the other end of an open range: it waits under its number
    intro S r t t' n rest d s hS ⟨hong, hd, hlost⟩ _ hm hne
    -- the times are looked at by `handle_slurs` only
    have hnr : (checkTime && decide ((tbl r).eT < (tbl r).sT)) = false := by
      cases hc : checkTime
      · rfl
      · have := htime hc r
        simpa using this
    have hfound := ongoingOf_mem tbl hS hm
    have herase := ongoingOf_erase tbl hS hm
    cases t with
    | true =>
      -- the stop came first and waits under (false, n)
      cases t' with
      | true => exact absurd rfl hne
      | false => refine ⟨?_, ?_, ?_⟩ <;> simp [pairStep, pairCore, markOf, ofind, hong, hfound, pendingOf, hnr, herase, hd, hlost]
    | false =>
      cases t' with
      | false => exact absurd rfl hne
      | true => refine ⟨?_, ?_, ?_⟩ <;> simp [pairStep, pairCore, markOf, ofind, hong, hfound, pendingOf, hnr, herase, hd, hlost]

end

end C03.Ranges
