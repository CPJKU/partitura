/-
C18 — the list functions of Model/Codec.lean (`isort`, `runs`, `enumFrom`, `allSome`, `scatter`); the onset grouping
`groupsBy` is a partition of the tagged notes that only looks at the keys.
-/
import PartituraModel.Model.Codec
import Mathlib.Data.List.Perm.Basic
import Mathlib.Data.List.Nodup
import Mathlib.Data.List.Range
import Mathlib.Tactic.Linarith
import PartituraModel.Proofs.Lists
import PartituraModel.Proofs.Orders
import PartituraModel.Proofs.Forall2

namespace C18P
open Model Model.Codec

variable {α β γ : Type}

theorem isSort (le : α → α → Bool) : Lists.IsInsertionSort le (insertBy le) (isort le) :=
  ⟨fun _ => rfl, fun _ _ _ => rfl, rfl, fun _ _ => rfl⟩

theorem pairwise_isort_le (key : α → Rat) (l : List α) :
    (isort (fun a b => decide (key a ≤ key b)) l).Pairwise (fun a b => key a ≤ key b) :=
  (isSort _).pairwise_key l

/-- how `runs` grows at the front: the run of the second element is opened or extended -/
theorem runs_cons_cons (brk : α → α → Bool) (a b : α) (t : List α) :
    ∃ g gs, runs brk (b :: t) = (b :: g) :: gs ∧
      runs brk (a :: b :: t) = if brk a b then [a] :: (b :: g) :: gs else (a :: b :: g) :: gs := by
  induction t generalizing a b with
  | nil => exact ⟨[], [], rfl, rfl⟩
  | cons c t ih =>
    obtain ⟨g, gs, -, h2⟩ := ih b c
    obtain ⟨g', gs', h'⟩ : ∃ g' gs', runs brk (b :: c :: t) = (b :: g') :: gs' := by
      rw [h2]; split <;> exact ⟨_, _, rfl⟩
    exact ⟨g', gs', h', runs.eq_2 brk a b (c :: t) _ _ h'⟩

theorem runs_induction (brk : α → α → Bool) {P : List α → List (List α) → Prop} (nil : P [] [])
    (single : ∀ a, P [a] [[a]])
    (break_ : ∀ a b t g gs, runs brk (b :: t) = (b :: g) :: gs → brk a b = true →
      P (b :: t) ((b :: g) :: gs) → P (a :: b :: t) ([a] :: (b :: g) :: gs))
    (join : ∀ a b t g gs, runs brk (b :: t) = (b :: g) :: gs → brk a b = false →
      P (b :: t) ((b :: g) :: gs) → P (a :: b :: t) ((a :: b :: g) :: gs)) :
    ∀ l, P l (runs brk l) := by
  intro l
  induction l with
  | nil => exact nil
  | cons a rest ih =>
    cases rest with
    | nil => exact single a
    | cons b t =>
      obtain ⟨g, gs, h1, h2⟩ := runs_cons_cons brk a b t
      rw [h1] at ih
      rw [h2]
      cases hb : brk a b
      · exact join a b t g gs h1 hb ih
      · exact break_ a b t g gs h1 hb ih

theorem runs_flatten (brk : α → α → Bool) (l : List α) : (runs brk l).flatten = l :=
  runs_induction brk (P := fun l gs => gs.flatten = l) rfl (fun _ => rfl)
    (fun a b t g gs _ _ ih => by rw [List.flatten_cons, ih]; rfl)
    (fun a b t g gs _ _ ih => by rw [List.flatten_cons] at ih ⊢; rw [← ih]; rfl) l

theorem runs_ne_nil (brk : α → α → Bool) (l : List α) : ∀ g ∈ runs brk l, g ≠ [] :=
  runs_induction brk (P := fun _ gs => ∀ g ∈ gs, g ≠ []) (by simp) (by simp)
    (fun a b t g gs _ _ ih => List.forall_mem_cons.mpr ⟨by simp, ih⟩)
    (fun a b t g gs _ _ ih => List.forall_mem_cons.mpr ⟨by simp, (List.forall_mem_cons.mp ih).2⟩) l

theorem runs_chain (brk : α → α → Bool) (l : List α) : ∀ g ∈ runs brk l, g.IsChain (fun a b => brk a b = false) :=
  runs_induction brk (P := fun _ gs => ∀ g ∈ gs, g.IsChain (fun a b => brk a b = false)) (by simp) (by simp)
    (fun a b t g gs _ _ ih => List.forall_mem_cons.mpr ⟨by simp, ih⟩)
    (fun a b t g gs _ hb ih => List.forall_mem_cons.mpr
      ⟨List.IsChain.cons_cons hb (List.forall_mem_cons.mp ih).1, (List.forall_mem_cons.mp ih).2⟩) l

theorem runs_map (f : α → β) (brk : α → α → Bool) (brk' : β → β → Bool)
    (h : ∀ a b, brk' (f a) (f b) = brk a b) (l : List α) :
    runs brk' (l.map f) = (runs brk l).map (List.map f) :=
  runs_induction brk (P := fun l gs => runs brk' (l.map f) = gs.map (List.map f)) rfl (fun _ => rfl)
    (fun a b t g gs _ hb ih => by
      obtain ⟨g', gs', h1, h2⟩ := runs_cons_cons brk' (f a) (f b) (t.map f)
      rw [List.map_cons, List.map_cons, h2, h, hb, if_pos rfl, ← h1, ← List.map_cons, ih]; rfl)
    (fun a b t g gs _ hb ih => by
      obtain ⟨g', gs', h1, h2⟩ := runs_cons_cons brk' (f a) (f b) (t.map f)
      rw [List.map_cons, List.map_cons, h2, h, hb, if_neg (by simp)]
      rw [List.map_cons, h1] at ih
      simp only [List.map_cons, List.cons.injEq] at ih ⊢
      exact ⟨⟨trivial, ih.1.1, ih.1.2⟩, ih.2⟩) l

theorem isEnum : Lists.IsEnum (enumFrom (α := α)) := ⟨fun _ => rfl, fun _ _ _ => rfl⟩

theorem enumFrom_map (f : α → β) (i : Nat) (l : List α) :
    enumFrom i (l.map f) = (enumFrom i l).map (fun p => (p.1, f p.2)) := by
  rw [isEnum.eq_zipIdx, isEnum.eq_zipIdx, List.zipIdx_map, List.map_map, List.map_map]
  rfl

theorem enumFrom_map_fst (i : Nat) (l : List α) : (enumFrom i l).map Prod.fst = List.range' i l.length := by
  rw [isEnum.eq_zipIdx, List.map_map]
  exact List.zipIdx_map_snd i l

theorem enumFrom_map_snd (i : Nat) (l : List α) : (enumFrom i l).map Prod.snd = l := isEnum.map_snd i l

theorem enumFrom_length (i : Nat) (l : List α) : (enumFrom i l).length = l.length := isEnum.length i l

theorem mem_enumFrom_iff (i : Nat) (l : List α) (k : Nat) (x : α) :
    (k, x) ∈ enumFrom i l ↔ i ≤ k ∧ l[k - i]? = some x :=
  isEnum.mem

theorem mem_enumFrom (i : Nat) (l : List α) (k : Nat) (hk : k < l.length) : (i + k, l[k]) ∈ enumFrom i l :=
  (mem_enumFrom_iff i l _ _).mpr ⟨Nat.le_add_right i k, by rw [Nat.add_sub_cancel_left]; exact List.getElem?_eq_getElem hk⟩

theorem mem_enumFrom_snd (i : Nat) (l : List α) (p : Nat × α) (h : p ∈ enumFrom i l) : p.2 ∈ l :=
  List.mem_of_getElem? ((mem_enumFrom_iff i l p.1 p.2).mp h).2

/-- zipping a list with a second list is a map over the tagged list, the second list read by index -/
theorem enumFrom_zipWith (f : α → β → γ) (i : Nat) (l : List α) (m : List β) (G : Nat → β)
    (hlen : l.length = m.length) (hG : ∀ k (hk : k < m.length), G (i + k) = m[k]) :
    enumFrom i (List.zipWith f l m) = (enumFrom i l).map (fun p => (p.1, f p.2 (G p.1))) := by
  apply List.ext_getElem?
  intro k
  rw [isEnum.getElem?_eq, List.getElem?_map, isEnum.getElem?_eq, List.getElem?_zipWith]
  by_cases hk : k < m.length
  · rw [List.getElem?_eq_getElem hk, List.getElem?_eq_getElem (hlen ▸ hk)]
    simp only [Option.map_some, hG k hk]
  · rw [List.getElem?_eq_none (l := l) (by omega)]
    rfl

/-- the grouping only looks at the keys: it commutes with any re-labelling of the tagged notes
    that preserves the keys -/
theorem groupsBy_tagged (key : α → Rat) (key' : β → Rat) (l : List α) (l' : List β)
    (φ : Nat × α → Nat × β) (hE : enumFrom 0 l' = (enumFrom 0 l).map φ)
    (hk : ∀ p, key' (φ p).2 = key p.2) :
    groupsBy key' l' = (groupsBy key l).map (List.map φ) := by
  unfold groupsBy
  rw [hE]
  rw [(isSort (fun a b => decide (key a.2 ≤ key b.2))).map (isSort (fun a b => decide (key' a.2 ≤ key' b.2))) φ
    (by intro a b; simp [hk])]
  rw [runs_map φ (fun a b => decide (key b.2 - key a.2 > eps)) (fun a b => decide (key' b.2 - key' a.2 > eps))
    (by intro a b; simp [hk])]

theorem runs_separated (key : α → Rat) (c : Rat) (hc : 0 ≤ c) (l : List α)
    (hs : l.Pairwise (fun a b => key a ≤ key b)) :
    (runs (fun a b => decide (key b - key a > c)) l).Pairwise
      (fun g h => ∀ a ∈ g, ∀ b ∈ h, key a < key b) := by
  revert hs
  refine runs_induction _ (P := fun l gs => l.Pairwise (fun a b => key a ≤ key b) →
    gs.Pairwise (fun g h => ∀ a ∈ g, ∀ b ∈ h, key a < key b)) (fun _ => .nil) (fun _ _ => List.pairwise_singleton _ _)
    ?_ ?_ l
  · intro a b t g gs h1 hb ih hs
    have hs' := List.pairwise_cons.mp hs
    have hfl := runs_flatten (fun a b => decide (key b - key a > c)) (b :: t)
    rw [h1] at hfl
    refine List.pairwise_cons.mpr ⟨?_, ih hs'.2⟩
    intro h hh x hx y hy
    rw [List.mem_singleton.mp hx]
    have hy' : y ∈ b :: t := hfl ▸ List.mem_flatten.mpr ⟨h, hh, hy⟩
    have hby : key b ≤ key y := by
      rcases List.mem_cons.mp hy' with rfl | hyt
      · exact le_refl _
      · exact (List.pairwise_cons.mp hs'.2).1 y hyt
    have := of_decide_eq_true hb
    linarith
  · intro a b t g gs h1 _ ih hs
    have hs' := List.pairwise_cons.mp hs
    have ih' := List.pairwise_cons.mp (ih hs'.2)
    refine List.pairwise_cons.mpr ⟨?_, ih'.2⟩
    intro h hh x hx y hy
    rcases List.mem_cons.mp hx with rfl | hxg
    · exact (hs'.1 b List.mem_cons_self).trans_lt (ih'.1 h hh b List.mem_cons_self y hy)
    · exact ih'.1 h hh x hxg y hy

theorem runs_isort_separated (key : α → Rat) (c : Rat) (hc : 0 ≤ c) (l : List α) :
    (runs (fun a b => decide (key b - key a > c)) (isort (fun a b => decide (key a ≤ key b)) l)).Pairwise
      (fun g h => ∀ a ∈ g, ∀ b ∈ h, key a < key b) :=
  runs_separated key c hc _ (pairwise_isort_le key l)

theorem eps_nonneg : 0 ≤ eps := by unfold eps; norm_num

/-- `get_unique_onset_idxs(key(l), e)`: sort the tagged list by key and break it where neighbours are more than `e`
    apart.  The groups partition the tagged list, none is empty, every member of an earlier group lies strictly
    below every member of a later one, and neighbours within a group are at most `e` apart. -/
theorem sortedRuns_spec (e : Rat) (he : 0 ≤ e) (key : α → Rat) (l : List α) :
    (runs (fun a b => decide (key b.2 - key a.2 > e))
        (isort (fun a b => decide (key a.2 ≤ key b.2)) (enumFrom 0 l))).flatten.Perm (enumFrom 0 l) ∧
    (∀ g ∈ runs (fun a b => decide (key b.2 - key a.2 > e))
        (isort (fun a b => decide (key a.2 ≤ key b.2)) (enumFrom 0 l)), g ≠ []) ∧
    (runs (fun a b => decide (key b.2 - key a.2 > e))
        (isort (fun a b => decide (key a.2 ≤ key b.2)) (enumFrom 0 l))).Pairwise
      (fun g h => ∀ a ∈ g, ∀ b ∈ h, key a.2 < key b.2) ∧
    (∀ g ∈ runs (fun a b => decide (key b.2 - key a.2 > e))
        (isort (fun a b => decide (key a.2 ≤ key b.2)) (enumFrom 0 l)), g.IsChain (fun a b => key b.2 - key a.2 ≤ e)) :=
  ⟨by rw [runs_flatten]; exact (isSort _).perm _, runs_ne_nil _ _,
    runs_isort_separated (fun (p : Nat × α) => key p.2) e he _,
    fun g hg => (runs_chain _ _ g hg).imp fun h => by simpa using h⟩

theorem groupsBy_flatten_perm (key : α → Rat) (l : List α) : (groupsBy key l).flatten.Perm (enumFrom 0 l) :=
  (sortedRuns_spec eps eps_nonneg key l).1

theorem groupsBy_ne_nil (key : α → Rat) (l : List α) : ∀ g ∈ groupsBy key l, g ≠ [] :=
  (sortedRuns_spec eps eps_nonneg key l).2.1

theorem mem_groupsBy {key : α → Rat} {l : List α} {g : Grp α} {p : Nat × α} (hg : g ∈ groupsBy key l) (hp : p ∈ g) :
    p.2 ∈ l :=
  mem_enumFrom_snd 0 l p ((groupsBy_flatten_perm key l).mem_iff.mp (List.mem_flatten.mpr ⟨g, hg, hp⟩))

theorem groupsBy_ne_nil_of_ne_nil (key : α → Rat) (l : List α) (h : l ≠ []) : groupsBy key l ≠ [] := by
  intro h0
  have := groupsBy_flatten_perm key l
  rw [h0] at this
  simp only [List.flatten_nil] at this
  have := this.length_eq
  simp [enumFrom_length] at this
  exact h (List.length_eq_zero_iff.mp this.symm)

theorem allSome_eq_some (l : List (Option β)) (ys : List β) : allSome l = some ys ↔ l = ys.map some :=
  Lists.allSome_eq_some_iff rfl (fun _ => rfl) (fun _ _ => rfl)

theorem allSome_map_mem {α : Type} (f : α → Option β) (l : List α) (ys : List β) (h : allSome (l.map f) = some ys)
    (y : β) (hy : y ∈ ys) : ∃ x ∈ l, f x = some y := by
  rw [allSome_eq_some] at h
  have : some y ∈ l.map f := h ▸ List.mem_map_of_mem hy
  exact List.mem_map.mp this

theorem allSome_isSome_of {β : Type} (l : List (Option β)) (h : ∀ o ∈ l, o.isSome) : ∃ ys, allSome l = some ys :=
  Lists.allSome_total rfl (fun _ => rfl) (fun _ _ => rfl) h

theorem forall₂_exists_zip {α β : Type} {R : α → β → Prop} {l : List α} {m : List β} (h : List.Forall₂ R l m) :
    ∃ Z : List (α × β), l = Z.map (·.1) ∧ m = Z.map (·.2) ∧ ∀ z ∈ Z, R z.1 z.2 := by
  obtain ⟨hlen, hZ⟩ := List.forall₂_iff_zip.mp h
  exact ⟨l.zip m, (List.map_fst_zip hlen.le).symm, (List.map_snd_zip hlen.ge).symm, fun z hz => hZ hz⟩

theorem allSome_map_eq_some_iff {α β : Type} (f : α → Option β) (l : List α) (ys : List β) :
    allSome (l.map f) = some ys ↔ List.Forall₂ (fun x y => f x = some y) l ys := by
  rw [allSome_eq_some, ← List.forall₂_eq_eq_eq, List.forall₂_map_left_iff, List.forall₂_map_right_iff]

theorem scatter_perm (xs : List β) (T : List (Nat × β)) (h : T.Perm (enumFrom 0 xs)) :
    scatter xs.length T = some xs := by
  unfold scatter
  rw [allSome_eq_some]
  have hnd : (T.map Prod.fst).Nodup := by
    have := (h.map Prod.fst).nodup_iff
    rw [this, enumFrom_map_fst]
    exact List.nodup_range'
  apply List.ext_getElem
  · simp
  · intro k h1 h2
    simp only [List.getElem_map, List.getElem_range]
    have hk : k < xs.length := by simpa using h1
    apply Model.lookup_of_mem hnd
    have := mem_enumFrom 0 xs k hk
    rw [Nat.zero_add] at this
    exact h.mem_iff.mpr this

theorem scatter_exists (n : Nat) (T : List (Nat × β)) (h : (T.map Prod.fst).Perm (List.range n)) :
    ∃ ps, scatter n T = some ps ∧ ps.length = n ∧ ∀ i v, (i, v) ∈ T → ps[i]? = some v := by
  have hnd : (T.map Prod.fst).Nodup := h.nodup_iff.mpr List.nodup_range
  -- every index below `n` is a key of `T`, so every look-up answers
  obtain ⟨ps, hps⟩ := allSome_isSome_of ((List.range n).map fun i => lookup i T) (by
    intro o ho
    obtain ⟨i, hi, rfl⟩ := List.mem_map.mp ho
    obtain ⟨p, hp, rfl⟩ := List.mem_map.mp (h.mem_iff.mpr hi)
    rw [Model.lookup_of_mem hnd (show (p.1, p.2) ∈ T from hp)]
    rfl)
  have hmap := (allSome_eq_some _ _).mp hps
  refine ⟨ps, hps, by simpa using (congrArg List.length hmap).symm, fun i v hv => ?_⟩
  have hi : i < n := List.mem_range.mp (h.mem_iff.mp (List.mem_map.mpr ⟨(i, v), hv, rfl⟩))
  have := congrArg (·[i]?) hmap
  simp only [List.getElem?_map, List.getElem?_range hi, Option.map_some, Model.lookup_of_mem hnd hv] at this
  cases hp : ps[i]? with
  | none => rw [hp] at this; simp at this
  | some w => rw [hp] at this; simp at this; rw [this]

theorem scatter_flatten_map (ns : List α) (gs : List (Grp α)) (h : gs.flatten.Perm (enumFrom 0 ns)) (f : α → β) :
    scatter ns.length (gs.map (List.map fun p => (p.1, f p.2))).flatten = some (ns.map f) := by
  have := scatter_perm (ns.map f) (gs.map (List.map fun p => (p.1, f p.2))).flatten
    (by rw [← List.map_flatten, enumFrom_map]; exact h.map _)
  rwa [List.length_map] at this

/-- Values `v c x` computed group by group from a datum `c` of the group and the note `x`, written back to note
    order (`scatter`), zipped with the notes again (`w`) and grouped again by a key that `w` preserves: the groups
    are the old ones, every note replaced by `w x (v c x)`. -/
theorem groupsBy_scatter (key : α → Rat) (key' : δ → Rat) (ns : List α) (cs : List γ)
    (hcs : (groupsBy key ns).length ≤ cs.length) (v : γ → α → β) (w : α → β → δ)
    (hk : ∀ x y, key' (w x y) = key x) (d : β) :
    ∃ ps, scatter ns.length
        (List.zipWith (fun g c => g.map fun p => (p.1, v c p.2)) (groupsBy key ns) cs).flatten = some ps ∧
      List.Forall₂ (fun x y => ∃ c ∈ cs, y = v c x) ns ps ∧
      groupsBy key' (List.zipWith w ns ps)
        = List.zipWith (fun g c => g.map fun p => (p.1, w p.2 (v c p.2))) (groupsBy key ns) cs := by
  have hperm := groupsBy_flatten_perm key ns
  obtain ⟨C, hC⟩ : ∃ C, (groupsBy key ns).zip cs = C := ⟨_, rfl⟩
  have hC1 : C.map (·.1) = groupsBy key ns := hC ▸ List.map_fst_zip hcs
  have hz : ∀ {ε : Type} (f : Grp α → γ → ε), List.zipWith f (groupsBy key ns) cs = C.map fun t => f t.1 t.2 :=
    fun f => by rw [← hC, ← List.map_uncurry_zip_eq_zipWith]; rfl
  rw [hz, hz]
  have hkeys : ((C.map fun t => t.1.map fun p => (p.1, v t.2 p.2)).flatten.map Prod.fst).Perm (List.range ns.length) := by
    have e : (C.map fun t => t.1.map fun p => (p.1, v t.2 p.2)).flatten.map Prod.fst
        = (groupsBy key ns).flatten.map Prod.fst := by
      rw [← hC1]
      simp only [List.map_flatten, List.map_map]
      congr 1
      exact List.map_congr_left fun t _ => by simp [Function.comp_def]
    rw [e]
    have := hperm.map Prod.fst
    rw [enumFrom_map_fst] at this
    simpa [List.range_eq_range'] using this
  obtain ⟨ps, hsc, hlen, hget⟩ := scatter_exists ns.length _ hkeys
  have hnote : ∀ t ∈ C, ∀ p ∈ t.1, ps[p.1]? = some (v t.2 p.2) := fun t ht p hp =>
    hget _ _ (List.mem_flatten.mpr ⟨_, List.mem_map.mpr ⟨t, ht, rfl⟩, List.mem_map.mpr ⟨p, hp, rfl⟩⟩)
  refine ⟨ps, hsc, ?_, ?_⟩
  · rw [List.forall₂_iff_get]
    refine ⟨hlen.symm, fun k h1 h2 => ?_⟩
    obtain ⟨g, hg, hkg⟩ := List.mem_flatten.mp
      (hperm.mem_iff.mpr ((mem_enumFrom_iff 0 ns k ns[k]).mpr ⟨Nat.zero_le _, by simp⟩))
    rw [← hC1] at hg
    obtain ⟨t, ht, rfl⟩ := List.mem_map.mp hg
    have := hnote t ht _ hkg
    rw [List.getElem?_eq_getElem h2, Option.some.injEq] at this
    exact ⟨t.2, (List.of_mem_zip (hC ▸ ht)).2, this⟩
  · rw [groupsBy_tagged key key' ns _ (fun p => (p.1, w p.2 (ps[p.1]?.getD d)))
      (enumFrom_zipWith w 0 ns ps (fun i => ps[i]?.getD d) hlen.symm
        (fun k hk => by simp [List.getElem?_eq_getElem hk])) (fun p => hk _ _), ← hC1, List.map_map]
    refine List.map_congr_left fun t ht => List.map_congr_left fun p hp => ?_
    simp only [hnote t ht p hp, Option.getD_some]

end C18P
