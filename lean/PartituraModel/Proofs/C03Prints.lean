/-
C03 — pages and systems: the numbering state machine of `_handle_print` / `_handle_new_page` / `_handle_new_system` in closed
form.
-/
import PartituraModel.Model.XmlBar

namespace C03.Prints
open Model Model.XmlNote Model.XmlBar

/-- the objects made for the starts `ts` (latest first), latest first: the k-th object made has the number k, ends where the
    next one starts; the latest one (whose successor's start is `next`) is open when `next = none` -/
def stackFrom (next : Option Nat) : List Nat → List PageObj
  | [] => []
  | t :: r => { number := r.length + 1, start := t, stop := next } :: stackFrom (some t) r

/-- the positions at which one `<print>` at `pos` makes a new page -/
def pageNews (p : Nat × (Bool × Bool)) : List Nat := if p.2.1 && p.1 != 0 then [p.1] else []

/-- … and a new system: `new-page` makes one, `new-system` makes one (both: two at the same position) -/
def systemNews (p : Nat × (Bool × Bool)) : List Nat :=
  (if p.2.1 && p.1 != 0 then [p.1] else []) ++ (if p.2.2 && p.1 != 0 then [p.1] else [])

theorem newObj_stack (t : Nat) (r : List Nat) (pos : Nat) :
    newObj (stackFrom none (t :: r)) pos = if pos = 0 then stackFrom none (t :: r) else stackFrom none (pos :: t :: r) := by
  by_cases h : pos = 0 <;> simp [newObj, stackFrom, h]

theorem handlePrint_stack (tp : Nat) (rp : List Nat) (ts : Nat) (rs : List Nat) (p : Nat × (Bool × Bool)) :
    handlePrint { pages := stackFrom none (tp :: rp), systems := stackFrom none (ts :: rs) } p.1 p.2 =
      { pages := stackFrom none ((pageNews p).reverse ++ tp :: rp),
        systems := stackFrom none ((systemNews p).reverse ++ ts :: rs) } := by
  obtain ⟨pos, np, ns⟩ := p
  by_cases h : pos = 0 <;> cases np <;> cases ns <;>
    simp [handlePrint, newObj_stack, pageNews, systemNews, h]

theorem foldl_stack (ps : List (Nat × (Bool × Bool))) (tp : Nat) (rp : List Nat) (ts : Nat) (rs : List Nat) :
    ps.foldl (fun st p => handlePrint st p.1 p.2) { pages := stackFrom none (tp :: rp), systems := stackFrom none (ts :: rs) } =
      { pages := stackFrom none ((ps.flatMap pageNews).reverse ++ tp :: rp),
        systems := stackFrom none ((ps.flatMap systemNews).reverse ++ ts :: rs) } := by
  induction ps generalizing tp rp ts rs with
  | nil => rfl
  | cons p rest ih =>
    rw [List.foldl_cons, handlePrint_stack]
    -- the lists stay non-empty: expose their heads
    have hne : ∀ (news : List Nat) (t : Nat) (r : List Nat), ∃ t' r', news.reverse ++ t :: r = t' :: r' := by
      intro news t r
      cases h : news.reverse ++ t :: r with
      | nil => simp at h
      | cons a b => exact ⟨a, b, rfl⟩
    obtain ⟨tp', rp', hp⟩ := hne (pageNews p) tp rp
    obtain ⟨ts', rs', hs⟩ := hne (systemNews p) ts rs
    rw [hp, hs, ih, ← hp, ← hs]
    simp [List.flatMap_cons, List.reverse_append, List.append_assoc]

theorem stackFrom_numbers (next : Option Nat) (l : List Nat) :
    (stackFrom next l).map (·.number) = (List.range' 1 l.length).reverse := by
  induction l generalizing next with
  | nil => rfl
  | cons t r ih =>
    simp only [stackFrom, List.map_cons, ih, List.length_cons]
    rw [List.range'_1_concat, List.reverse_append]
    simp [Nat.add_comm]

theorem stackFrom_starts (next : Option Nat) (l : List Nat) : (stackFrom next l).map (·.start) = l := by
  induction l generalizing next with
  | nil => rfl
  | cons t r ih => simp [stackFrom, ih]

theorem stackFrom_stops (next : Option Nat) (l : List Nat) :
    (stackFrom next l).map (·.stop) = (next :: l.map some).take l.length := by
  induction l generalizing next with
  | nil => rfl
  | cons t r ih => simp [stackFrom, ih]

end C03.Prints
