/-
Scanning a text (Lean core only; the namespace is `Lists`, as in Proofs/Lists.lean): a run of elements of one class (`p`)
ends where the rest is empty or starts outside the class, and `takeWhile p` / `dropWhile p` split the text exactly there.
This is how the readers of the models find the end of a number, of a word or of a field, and why what the writers print is
read back the way it was put together (`takeWhile_stop`, `dropWhile_stop`; `sep_unique` for a separator).  `str.strip()`
(`strip_of_ends`) is the same scan from both ends, and `sub in s` (`IsContains`) looks for a prefix at every place.
-/

namespace Lists

variable {α : Type} {p : α → Bool} {a a' r r' l : List α}

theorem takeWhile_of_all (h : ∀ x ∈ l, p x = true) : l.takeWhile p = l := by
  simpa using List.takeWhile_append_of_pos (l₂ := []) h

theorem dropWhile_of_all (h : ∀ x ∈ l, p x = true) : l.dropWhile p = [] := by
  simpa using List.dropWhile_append_of_pos (l₂ := []) h

theorem dropWhile_of_head (h : ∀ x ∈ l.head?, p x = false) : l.dropWhile p = l := by
  cases l with
  | nil => rfl
  | cons x l => exact List.dropWhile_cons_of_neg (by simp [h x rfl])

theorem takeWhile_run (ha : ∀ x ∈ a, p x = true) (hr : ∀ x ∈ r.head?, p x = false) : (a ++ r).takeWhile p = a := by
  rw [List.takeWhile_append_of_pos ha]
  cases r with
  | nil => rw [List.takeWhile_nil, List.append_nil]
  | cons x r => rw [List.takeWhile_cons_of_neg (by simp [hr x rfl]), List.append_nil]

theorem dropWhile_run (ha : ∀ x ∈ a, p x = true) (hr : ∀ x ∈ r.head?, p x = false) : (a ++ r).dropWhile p = r := by
  rw [List.dropWhile_append_of_pos ha, dropWhile_of_head hr]

theorem takeWhile_stop {x : α} (ha : ∀ x ∈ a, p x = true) (hx : p x = false) : (a ++ x :: r).takeWhile p = a :=
  takeWhile_run ha fun _ h => Option.mem_some_iff.mp h ▸ hx

theorem dropWhile_stop {x : α} (ha : ∀ x ∈ a, p x = true) (hx : p x = false) : (a ++ x :: r).dropWhile p = x :: r :=
  dropWhile_run ha fun _ h => Option.mem_some_iff.mp h ▸ hx

/-- a text is cut into a run of `p` and a rest that does not go on with `p` in one way only -/
theorem run_unique (ha : ∀ x ∈ a, p x = true) (ha' : ∀ x ∈ a', p x = true) (hr : ∀ x ∈ r.head?, p x = false)
    (hr' : ∀ x ∈ r'.head?, p x = false) (h : a ++ r = a' ++ r') : a = a' ∧ r = r' :=
  ⟨by rw [← takeWhile_run ha hr, h, takeWhile_run ha' hr'], by rw [← dropWhile_run ha hr, h, dropWhile_run ha' hr']⟩

/-- the part before the first separator and the part after it -/
theorem sep_unique [DecidableEq α] {s : α} {l₁ l₂ r₁ r₂ : List α} (h₁ : s ∉ l₁) (h₂ : s ∉ l₂)
    (h : l₁ ++ s :: r₁ = l₂ ++ s :: r₂) : l₁ = l₂ ∧ r₁ = r₂ := by
  have hp : ∀ {l : List α}, s ∉ l → ∀ x ∈ l, (x != s) = true := fun hl x hx => bne_iff_ne.mpr fun e => hl (e ▸ hx)
  have hs : ∀ t : List α, ∀ x ∈ (s :: t).head?, (x != s) = false := fun _ x hx => by
    rw [Option.mem_def, List.head?_cons, Option.some.injEq] at hx
    rw [← hx, bne_self_eq_false]
  obtain ⟨e, e'⟩ := run_unique (hp h₁) (hp h₂) (hs r₁) (hs r₂) h
  exact ⟨e, List.tail_eq_of_cons_eq e'⟩

/-! ### `str.strip()` -/

/-- stripping `ws` from both ends leaves a text alone whose first and last element are not `ws` -/
theorem strip_of_ends {ws : α → Bool} (h₁ : ∀ x ∈ l.head?, ws x = false) (h₂ : ∀ x ∈ l.getLast?, ws x = false) :
    ((l.dropWhile ws).reverse.dropWhile ws).reverse = l := by
  rw [dropWhile_of_head h₁, dropWhile_of_head (by simpa using h₂), List.reverse_reverse]

theorem strip_of_all {ws : α → Bool} (h : ∀ x ∈ l, ws x = false) :
    ((l.dropWhile ws).reverse.dropWhile ws).reverse = l :=
  strip_of_ends (fun x hx => h x (List.mem_of_mem_head? hx)) fun x hx => h x (List.mem_of_getLast? hx)

/-- `f sub s` is Python's `sub in s` on lists.  The models each define their own (`pyContains`, `hasSub`, `findLit`); an
    instance is `⟨fun _ => rfl, fun _ _ _ => rfl⟩`. -/
structure IsContains [BEq α] (f : List α → List α → Bool) : Prop where
  nil : ∀ sub, f sub [] = sub.isEmpty
  cons : ∀ sub c cs, f sub (c :: cs) = (sub.isPrefixOf (c :: cs) || f sub cs)

namespace IsContains

variable [BEq α] [LawfulBEq α] {f : List α → List α → Bool}

theorem iff_infix (h : IsContains f) {sub : List α} : ∀ {s : List α}, f sub s = true ↔ sub <:+: s
  | [] => by rw [h.nil, List.isEmpty_iff, List.infix_nil]
  | c :: cs => by rw [h.cons, Bool.or_eq_true, List.isPrefixOf_iff_prefix, iff_infix h, List.infix_cons_iff]

theorem append (h : IsContains f) (sub a b : List α) : f sub (a ++ (sub ++ b)) = true :=
  h.iff_infix.mpr ⟨a, b, (List.append_assoc ..).symm ▸ rfl⟩

end IsContains

/-- a character with its code in the range is in the list of the range, which evaluation writes out (the ten digits of
    `Char.isDigit`, the step letters `'A'` … `'G'`) -/
theorem char_mem_of_range {c : Char} {lo hi : Nat} (h1 : lo ≤ c.toNat) (h2 : c.toNat ≤ hi) :
    c ∈ (List.range' lo (hi + 1 - lo)).map Char.ofNat := by
  rw [← Char.ofNat_toNat c]
  exact List.mem_map_of_mem (List.mem_range'_1.mpr ⟨h1, by omega⟩)

end Lists
