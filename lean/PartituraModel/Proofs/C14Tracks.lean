/-
Track renumbering: first-occurrence deduplication, index lookup, the renumbering in explicit form
(`sanitizeWith_explicit`: every note, control and program gets the position of its (part, track) pair).
-/
import PartituraModel.Proofs.C14Sort
import PartituraModel.Proofs.Dicts

namespace C14P
open Model Model.Pedal

variable {α : Type} [DecidableEq α]

/-- the model filters with `decide (b ≠ a)` -/
theorem isFirstSeen : Dicts.IsFirstSeen (dedup (α := α)) :=
  ⟨rfl, fun a l => by rw [dedup]; exact congrArg _ (List.filter_congr fun b _ => decide_not)⟩

theorem mem_dedup (l : List α) (a : α) : a ∈ dedup l ↔ a ∈ l := isFirstSeen.mem

theorem nodup_dedup (l : List α) : (dedup l).Nodup := isFirstSeen.nodup l

/-- the new numbers of one part under the numbering `f` of the (part, track) pairs -/
def renumTriple (f : Nat × Int → Nat) (p : PartTracks × Nat) : List Nat × List Nat × List Nat :=
  (p.1.notes.map (fun t => f (p.2, t)), p.1.controls.map (fun t => f (p.2, trackOr t)),
   p.1.programs.map (fun t => f (p.2, trackOr t)))

/-- position in the enumeration `u` (0 for a pair that is not in it: never looked up) -/
def rankIn (u : List (Nat × Int)) (k : Nat × Int) : Nat := (trackMap u k).getD 0

theorem trackMap_eq_rank (u : List (Nat × Int)) (k : Nat × Int) (hk : k ∈ u) :
    trackMap u k = some (rankIn u k) ∧ rankIn u k < u.length := by
  obtain ⟨j, hj⟩ := indexOf_of_mem hk
  rw [rankIn, trackMap, hj]
  exact ⟨rfl, indexOf_lt_length hj⟩

theorem rankIn_inj (u : List (Nat × Int)) (a b : Nat × Int) (ha : a ∈ u) (hb : b ∈ u) (h : rankIn u a = rankIn u b) :
    a = b :=
  indexOf_inj (trackMap_eq_rank u a ha).1 (h ▸ (trackMap_eq_rank u b hb).1)

theorem part_keys (parts : List PartTracks) (p : PartTracks × Nat) (hp : p ∈ parts.zipIdx) :
    (∀ t ∈ p.1.notes, (p.2, t) ∈ trackKeys parts)
    ∧ (∀ t ∈ p.1.controls, (p.2, trackOr t) ∈ trackKeys parts)
    ∧ (∀ t ∈ p.1.programs, (p.2, trackOr t) ∈ trackKeys parts) := by
  unfold trackKeys
  refine ⟨fun t ht => ?_, fun t ht => ?_, fun t ht => ?_⟩
  · exact List.mem_append_left _ (List.mem_append_left _ (List.mem_flatMap.mpr ⟨p, hp, List.mem_map_of_mem ht⟩))
  · exact List.mem_append_left _ (List.mem_append_right _ (List.mem_flatMap.mpr ⟨p, hp, List.mem_map_of_mem ht⟩))
  · exact List.mem_append_right _ (List.mem_flatMap.mpr ⟨p, hp, List.mem_map_of_mem ht⟩)

/-- `sanitize_track_numbers` with an enumeration that holds every pair: it never fails and gives every note,
    control and program the position of its (part, track) pair -/
theorem sanitizeWith_explicit (parts : List PartTracks) (u : List (Nat × Int))
    (hu : ∀ k ∈ trackKeys parts, k ∈ u) :
    sanitizeWith u parts = some (parts.zipIdx.map (renumTriple (rankIn u))) := by
  unfold sanitizeWith
  apply mapM'_eq_some
  intro p hp
  obtain ⟨k1, k2, k3⟩ := part_keys parts p hp
  have hsome : ∀ k ∈ trackKeys parts, trackMap u k = some (rankIn u k) :=
    fun k hk => (trackMap_eq_rank u k (hu k hk)).1
  rw [sanitizePart, mapM'_eq_some _ (fun t => rankIn u (p.2, t)) p.1.notes (fun t ht => hsome _ (k1 t ht)),
    mapM'_eq_some _ (fun t => rankIn u (p.2, trackOr t)) p.1.controls (fun t ht => hsome _ (k2 t ht)),
    mapM'_eq_some _ (fun t => rankIn u (p.2, trackOr t)) p.1.programs (fun t ht => hsome _ (k3 t ht))]
  rfl

end C14P
