/-
C01 helper lemmas: the class ids of the object records stay inside the generated class table as long as only
objects of timed classes are handed to `add` (`ClsOk`); with that, the query results in ANY reachable state
(`WInv`) in terms of the listings.
-/
import PartituraModel.Proofs.C01Main

namespace TL

/-- the objects handed to `add` are instances of timed classes -/
def Op.clsOk : Op → Prop
  | .add o _ _ => o.cls < Gen.numClasses
  | _ => True

instance (op : Op) : Decidable op.clsOk := by
  cases op <;> simp only [Op.clsOk] <;> infer_instance

theorem clsOk_setObj {objs : List ObjSt} {o : ObjRef} {f : ObjSt → ObjSt} (hf : ∀ e, (f e).ref = e.ref)
    (h : ∀ e ∈ objs, e.ref.cls < Gen.numClasses) (ho : o.cls < Gen.numClasses) :
    ∀ e ∈ setObj objs o f, e.ref.cls < Gen.numClasses := by
  intro e he
  have : e.ref ∈ (setObj objs o f).map (·.ref) := List.mem_map_of_mem he
  rcases (mem_refs_setObj hf).mp this with h' | h'
  · obtain ⟨e0, he0, hr⟩ := List.mem_map.mp h'
    rw [← hr]; exact h e0 he0
  · rw [h']; exact ho

theorem addSideOpt_clsOk {s s' : Part} {sd : Side} {t : Option Int} {o : ObjRef} (hc : ClsOk s)
    (ho : o.cls < Gen.numClasses) (h : addSideOpt s sd t o = .ok s') : ClsOk s' := by
  cases t with
  | none => cases h; exact hc
  | some t =>
    simp only [addSideOpt, addSide_eq] at h
    cases he : ensurePoint s t with
    | error e => simp [he, Except.map] at h
    | ok s1 =>
      simp only [he, Except.map, Except.ok.injEq] at h
      subst h
      unfold ClsOk register
      simp only [(ensurePoint_frame he).1]
      exact clsOk_setObj (fun e => by simp) hc ho

theorem removeSide_frame {s s' : Part} {sd : Side} {o : ObjRef} (doit : Prop) [Decidable doit]
    (h : (if doit then removeSide s sd o else .ok s) = .ok s') : s'.qtab = s.qtab ∧ (ClsOk s → ClsOk s') := by
  by_cases hd : doit
  case neg => rw [if_neg hd] at h; cases h; exact ⟨rfl, id⟩
  rw [if_pos hd] at h
  unfold removeSide at h
  split at h
  · cases h; exact ⟨rfl, id⟩
  · rename_i t hat
    cases hcl : cleanupPoint
        { s with points := modifyPoint s.points t (fun p => p.setReg sd (regRemove (p.reg sd) o)) } t with
    | error e => simp [hcl, bind, Except.bind] at h
    | ok s2 =>
      simp only [hcl, bind, Except.bind, pure, Except.pure, Except.ok.injEq] at h
      subst h
      refine ⟨(cleanupPoint_frame hcl).2, fun hc => ?_⟩
      unfold ClsOk
      simp only [(cleanupPoint_frame hcl).1]
      -- the record of `o` exists already (its side is set), so `o`'s class is known
      obtain ⟨e, he, hr⟩ := known_of_at hat
      exact clsOk_setObj (fun e => by simp) hc (hr ▸ hc e he)

theorem stepRemove_frame {s s' : Part} {o : ObjRef} {w : Which} (h : stepRemove s o w = .ok s') :
    s'.qtab = s.qtab ∧ (ClsOk s → ClsOk s') := by
  unfold stepRemove at h
  cases h1 : (if w = .start ∨ w = .both then removeSide s .start o else .ok s) with
  | error e => simp [h1, Except.bind] at h
  | ok s1 =>
    rw [h1] at h
    obtain ⟨q1, c1⟩ := removeSide_frame _ h1
    obtain ⟨q2, c2⟩ := removeSide_frame (s := s1) (sd := .stop) (w = .stop ∨ w = .both) h
    exact ⟨q2.trans q1, fun hc => c2 (c1 hc)⟩

theorem step_clsOk {s s' : Part} {out : Out} {op : Op} (hc : ClsOk s) (ho : op.clsOk)
    (h : step s op = .ok (s', out)) : ClsOk s' := by
  cases op with
  | add o st en =>
    simp only [step, stepAdd] at h
    split at h
    · simp [Except.map] at h
    · cases h1 : addSideOpt s .start st o with
      | error e => simp [h1, Except.bind, Except.map] at h
      | ok s1 =>
        cases h2 : addSideOpt s1 .stop en o with
        | error e => simp [h1, h2, Except.bind, Except.map] at h
        | ok s2 =>
          simp only [h1, h2, Except.bind, Except.map, Except.ok.injEq, Prod.mk.injEq] at h
          exact h.1 ▸ addSideOpt_clsOk (addSideOpt_clsOk hc ho h1) ho h2
  | remove o w =>
    simp only [step] at h
    cases hr : stepRemove s o w with
    | error e => simp [hr, Except.map] at h
    | ok s2 =>
      simp only [hr, Except.map, Except.ok.injEq, Prod.mk.injEq] at h
      exact h.1 ▸ (stepRemove_frame hr).2 hc
  | setQD t q =>
    simp only [step, Except.ok.injEq, Prod.mk.injEq] at h
    rw [← h.1]
    unfold ClsOk setQD
    split <;> exact hc
  | getOrAdd t =>
    simp only [step, stepGetOrAdd] at h
    cases he : ensurePoint s t with
    | error e => simp [he, Except.map] at h
    | ok s1 =>
      simp only [he, Except.map, Except.ok.injEq, Prod.mk.injEq] at h
      rw [← h.1]
      unfold ClsOk
      simp only [(ensurePoint_frame he).1]
      exact hc
  | _ => rw [query_state rfl h]; exact hc

theorem init_clsOk (q : Nat) : ClsOk (Part.init q) := by
  intro e he
  simp [Part.init] at he

/-- the matching objects one visited point contributes -/
def segOf (sd : Side) (cls : Option Nat) (incl : Bool) (p : Point) : Int × List ObjRef :=
  (p.t, iterReg (p.reg sd) cls incl)

theorem segments_spec {s : Part} (hW : WInv s) (hk : ClsOk s) (sd : Side) (cls : Option Nat) (incl : Bool)
    (L : List Point) (hsub : ∀ p ∈ L, p ∈ s.points) :
    (L.flatMap fun p => iterReg (p.reg sd) cls incl) = (L.map (segOf sd cls incl)).flatMap (·.2)
    ∧ (L.map (segOf sd cls incl)).map (·.1) = L.map (·.t)
    ∧ (∀ seg ∈ L.map (segOf sd cls incl), seg.2.Nodup
        ∧ ∀ o, o ∈ seg.2 ↔ Listed s sd seg.1 o ∧ ClassSpecRT cls incl o.cls) := by
  refine ⟨by simp [List.flatMap_map, segOf], by simp [List.map_map, segOf, Function.comp_def], ?_⟩
  intro seg hseg
  obtain ⟨p, hp, rfl⟩ := List.mem_map.mp hseg
  have hpm := hsub p hp
  refine ⟨nodup_iterReg (hW.regNodup sd p hpm) cls incl, ?_⟩
  intro o
  simp only [segOf]
  rw [mem_iterReg]
  constructor
  · rintro ⟨ho, hm⟩
    have hkn := hW.listedKnown sd p hpm o ho
    obtain ⟨e, he, hr⟩ := List.mem_map.mp hkn
    have hcls : o.cls < Gen.numClasses := by rw [← hr]; exact hk e he
    exact ⟨⟨p, hpm, rfl, ho⟩, (clsMatch_specRT hcls).mp hm⟩
  · rintro ⟨⟨p', hp', hpt, ho⟩, hm⟩
    have : p' = p := point_unique hW.sorted hp' hpm hpt
    subst this
    have hkn := hW.listedKnown sd p' hpm o ho
    obtain ⟨e, he, hr⟩ := List.mem_map.mp hkn
    have hcls : o.cls < Gen.numClasses := by rw [← hr]; exact hk e he
    exact ⟨ho, (clsMatch_specRT hcls).mpr hm⟩

end TL
