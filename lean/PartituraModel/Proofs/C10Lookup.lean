/-
Previous-value lookup (`lastLE`, `lookupPrev`, `interpPrev` of Model/StepMap.lean): scipy answers the value of the last row
of the stretch of rows at or before `x` (`lastLE_eq`); in a table in time order that is the last such row in table order
and the row in force (over Proofs/Previous.lean).  `SortedLE`, `SortedLT`, `InForce`, `upTo` are the vocabulary of Props/C10*.
-/
import PartituraModel.Model.StepMap
import PartituraModel.Proofs.Previous

namespace C10
open Model Model.StepMap

/-- rows in time order, coincident times allowed -/
def SortedLE {α : Type} (tbl : Tbl α) : Prop := tbl.Pairwise fun a b => a.1 ≤ b.1

/-- rows in time order, at most one per time -/
def SortedLT {α : Type} (tbl : Tbl α) : Prop := tbl.Pairwise fun a b => a.1 < b.1

/-- `e` is in force at `x`: it starts at or before `x`, and nothing that starts at or before `x` starts later -/
def InForce {α : Type} (tbl : Tbl α) (x : Int) (e : Int × α) : Prop :=
  e ∈ tbl ∧ e.1 ≤ x ∧ ∀ e' ∈ tbl, e'.1 ≤ x → e'.1 ≤ e.1

theorem SortedLT.le {α : Type} {tbl : Tbl α} (h : SortedLT tbl) : SortedLE tbl :=
  List.Pairwise.imp (fun h => Int.le_of_lt h) h

theorem lastLE_cons_of_lt {α : Type} (t : Int) (v : α) (rest : Tbl α) (x : Int) (h : x < t) :
    lastLE ((t, v) :: rest) x = none :=
  if_pos h

theorem lastLE_cons_of_le {α : Type} (t : Int) (v : α) (rest : Tbl α) (x : Int) (h : t ≤ x) :
    lastLE ((t, v) :: rest) x = some ((lastLE rest x).getD v) := by
  have : ¬ x < t := by omega
  simp only [lastLE, this, if_false]
  cases lastLE rest x <;> rfl

theorem getD_lastLE_cons {α : Type} (s : α) (p : Int × α) (l : Tbl α) (x : Int) :
    (lastLE (p :: l) x).getD s = if p.1 ≤ x then (lastLE l x).getD p.2 else s := by
  by_cases hx : p.1 ≤ x
  · rw [if_pos hx, lastLE_cons_of_le p.1 p.2 l x hx]; rfl
  · rw [if_neg hx, lastLE_cons_of_lt p.1 p.2 l x (by omega)]; rfl

/-- `lastLE`, with the answer so far carried along, is a scan for the last row that starts at or before `x` -/
theorem lastLE_scan {α : Type} (x : Int) :
    Lists.IsPrevScan (fun e : Int × α => e.1 ≤ x) (fun e => some e.2) fun c l => (lastLE l x).or c := by
  refine ⟨fun _ => rfl, fun c ⟨t, v⟩ l => ?_⟩
  by_cases hx : x < t
  · rw [lastLE_cons_of_lt t v l x hx, if_neg (by omega)]
    rfl
  · rw [lastLE_cons_of_le t v l x (by omega), if_pos (by omega)]
    cases lastLE l x <;> rfl

/-- the first row answers up to the next row: the scan stops at the first row after `x` -/
theorem lastLE_head {α : Type} (t : Int) (v : α) (rest : Tbl α) (x : Int) (ht : t ≤ x)
    (hr : ∀ e ∈ rest.head?, x < e.1) : lastLE ((t, v) :: rest) x = some v := by
  have := (lastLE_scan x).cut (pre := []) (e := (t, v)) (post := rest) none (fun _ h => nomatch h) ht
    (fun b hb => Int.not_le.mpr (hr b hb))
  simpa using this

/-- `lastLE` answers the last row of the stretch of rows at or before `x` (what `np.searchsorted` counts), in time
    order or not -/
theorem lastLE_eq {α : Type} (tbl : Tbl α) (x : Int) :
    lastLE tbl x = (tbl.takeWhile fun e => decide (e.1 ≤ x)).getLast?.map (·.2) := by
  have h := (lastLE_scan x).eq none tbl
  rw [Option.or_none] at h
  rw [h]
  cases (tbl.takeWhile fun e => decide (e.1 ≤ x)).getLast? <;> rfl

theorem lastLE_map {β γ : Type} (f : β → γ) (tbl : Tbl β) (x : Int) :
    lastLE (tbl.map fun p => (p.1, f p.2)) x = (lastLE tbl x).map f := by
  rw [lastLE_eq, lastLE_eq, List.takeWhile_map, List.getLast?_map, Option.map_map, Option.map_map]
  rfl

/-- the rows that start at or before `x`, in table order -/
def upTo {α : Type} (tbl : Tbl α) (x : Int) : Tbl α := tbl.filter fun e => decide (e.1 ≤ x)

theorem upTo_nil_of_lt {α : Type} (tbl : Tbl α) (x : Int) (h : ∀ e ∈ tbl, x < e.1) : upTo tbl x = [] := by
  unfold upTo
  rw [List.filter_eq_nil_iff]
  intro e he
  have := h e he
  simp only [decide_eq_true_eq]
  omega

theorem SortedLE.closed {α : Type} {tbl : Tbl α} (hs : SortedLE tbl) (x : Int) :
    Lists.Closed (fun a b => a.1 ≤ b.1) (fun e => e.1 ≤ x) tbl :=
  ⟨hs, fun _ _ hab hb => Int.le_trans hab hb⟩

/-- **`lookup_last_in_order`**: in a table in time order (coincident times allowed) scipy's answer is the value of
    the LAST row, in table order, that starts at or before `x`; NaN when there is none -/
theorem lookup_last_in_order {α : Type} (tbl : Tbl α) (x : Int) (hs : SortedLE tbl) :
    lastLE tbl x = (upTo tbl x).getLast?.map (·.2) := by
  rw [lastLE_eq, (hs.closed x).takeWhile_eq_filter]
  rfl

theorem inForce_of_last_upTo {α : Type} (tbl : Tbl α) (x : Int) (hs : SortedLE tbl) (e : Int × α)
    (h : (upTo tbl x).getLast? = some e) : InForce tbl x e :=
  have ⟨h1, h2, h3⟩ := Lists.getLast?_filter_greatest (P := fun e : Int × α => e.1 ≤ x) hs h
  ⟨h1, h2, fun a ha hax => (h3 a ha hax).elim (fun h => h ▸ Int.le_refl _) id⟩

theorem lastLE_eq_none_iff {α : Type} (tbl : Tbl α) (x : Int) (hs : SortedLE tbl) :
    lastLE tbl x = none ↔ ∀ e ∈ tbl, x < e.1 := by
  rw [lookup_last_in_order tbl x hs, Option.map_eq_none_iff, List.getLast?_eq_none_iff, upTo, List.filter_eq_nil_iff]
  simp only [decide_eq_true_eq, Int.not_le]

theorem lastLE_some_inForce {α : Type} (tbl : Tbl α) (x : Int) (hs : SortedLE tbl) (w : α)
    (h : lastLE tbl x = some w) : ∃ e, InForce tbl x e ∧ e.2 = w := by
  rw [lookup_last_in_order tbl x hs] at h
  obtain ⟨e, he, rfl⟩ := Option.map_eq_some_iff.mp h
  exact ⟨e, inForce_of_last_upTo tbl x hs e he, rfl⟩

theorem lastLE_of_inForce {α : Type} (tbl : Tbl α) (x : Int) (hs : SortedLT tbl) (e : Int × α)
    (h : InForce tbl x e) : lastLE tbl x = some e.2 := by
  rw [lookup_last_in_order tbl x hs.le, upTo,
    Lists.getLast?_filter_of_greatest (P := fun e => e.1 ≤ x) hs h.1 h.2.1 fun b hb hbx => Int.not_lt.mpr (h.2.2 b hb hbx)]
  rfl

/-- coincident times allowed: at the time of a row the answer is that row's value, if the rows at that time agree -/
theorem lastLE_at_row {α : Type} (tbl : Tbl α) (hs : SortedLE tbl) (p : Int × α) (hp : p ∈ tbl)
    (hc : ∀ q ∈ tbl, q.1 = p.1 → q.2 = p.2) : lastLE tbl p.1 = some p.2 := by
  cases h : lastLE tbl p.1 with
  | none => exact absurd ((lastLE_eq_none_iff tbl p.1 hs).mp h p hp) (Int.lt_irrefl _)
  | some w =>
    obtain ⟨e, ⟨he, hle, hmax⟩, rfl⟩ := lastLE_some_inForce tbl p.1 hs w h
    rw [hc e he (Int.le_antisymm hle (hmax p hp (Int.le_refl _)))]

theorem lookupPrev_of_some {α : Type} (tbl : Tbl α) (x : Int) (w : α) (h : lastLE tbl x = some w) :
    lookupPrev tbl x = some w := by
  simp only [lookupPrev, h]

theorem lookupPrev_of_none {α : Type} (tbl : Tbl α) (x : Int) (h : lastLE tbl x = none) :
    lookupPrev tbl x = tbl.head?.map (·.2) := by
  simp only [lookupPrev, h]

theorem lookupPrev_isSome {α : Type} (rows : Tbl α) (x : Int) (hne : rows ≠ []) : (lookupPrev rows x).isSome := by
  cases rows with
  | nil => exact absurd rfl hne
  | cons hd rest =>
    unfold lookupPrev
    cases lastLE (hd :: rest) x <;> rfl

/-- on a table with rows the default of a map is never used -/
theorem some_getD_lookupPrev {α : Type} (rows : Tbl α) (x : Int) (d : α) (hne : rows ≠ []) :
    some ((lookupPrev rows x).getD d) = lookupPrev rows x := by
  obtain ⟨w, hw⟩ := Option.isSome_iff_exists.mp (lookupPrev_isSome rows x hne)
  rw [hw]
  rfl

theorem lookupPrev_of_inForce {α : Type} (tbl : Tbl α) (x : Int) (hs : SortedLT tbl) (e : Int × α)
    (h : InForce tbl x e) : lookupPrev tbl x = some e.2 :=
  lookupPrev_of_some tbl x e.2 (lastLE_of_inForce tbl x hs e h)

theorem lookupPrev_before {α : Type} (t : Int) (v : α) (rest : Tbl α) (x : Int) (h : x < t) :
    lookupPrev ((t, v) :: rest) x = some v :=
  lookupPrev_of_none _ x (lastLE_cons_of_lt t v rest x h)

theorem lookupPrev_eq_lastLE {α : Type} (tbl : Tbl α) (x : Int) (hne : tbl ≠ []) (h0 : ∀ e ∈ tbl.head?, e.1 ≤ x) :
    lookupPrev tbl x = lastLE tbl x := by
  obtain ⟨⟨t, v⟩, rest, rfl⟩ := List.exists_cons_of_ne_nil hne
  have h := lastLE_cons_of_le t v rest x (h0 (t, v) rfl)
  rw [lookupPrev_of_some _ x _ h, h]

/-- a non-NaN answer of scipy is also the answer of the single-sample wrapper -/
theorem interpPrev_of_some {α : Type} (tbl : Tbl α) (x : Int) (w : α) (h : lastLE tbl x = some w) :
    interpPrev tbl x = some w := by
  unfold interpPrev
  split
  · rename_i t v
    by_cases hx : x < t
    · rw [lastLE_cons_of_lt t v [] x hx] at h; cases h
    · rwa [lastLE_cons_of_le t v [] x (by omega)] at h
  · exact h

/-- rows whose values are a function of the elements' payload -/
def mapVal {β γ : Type} (g : β → γ) (l : Tbl β) : Tbl γ := l.map fun e => (e.1, g e.2)

theorem mapVal_id {β : Type} (l : Tbl β) : mapVal id l = l := List.map_id' l

theorem lookupPrev_mapVal {β γ : Type} (g : β → γ) (l : Tbl β) (x : Int) :
    lookupPrev (mapVal g l) x = (lookupPrev l x).map g := by
  unfold lookupPrev mapVal
  rw [lastLE_map]
  cases lastLE l x with
  | some w => rfl
  | none => cases l <;> rfl

/-- the three clauses of `ts_spec`, `ks_spec`, `ts_spec_stored` and (per staff) `clef_spec`: a map that on the timeline
    answers the back-filled lookup in the rows `(t, g v)`, and `d` when there are none, reports `d` without rows, `g` of
    the element in force, and `g` of the first element before all of them -/
theorem sig_spec {β γ : Type} (g : β → γ) (tbl : Tbl β) (x : Int) (m : Option γ) (d : γ)
    (hm : m = some ((lookupPrev (mapVal g tbl) x).getD d)) :
    (tbl = [] → m = some d) ∧ (SortedLT tbl → ∀ e, InForce tbl x e → m = some (g e.2)) ∧
    (∀ e rest, tbl = e :: rest → x < e.1 → m = some (g e.2)) := by
  rw [lookupPrev_mapVal] at hm
  refine ⟨fun h => by rw [hm, h]; rfl, fun hs e he => by rw [hm, lookupPrev_of_inForce tbl x hs e he]; rfl, ?_⟩
  rintro ⟨t, v⟩ rest rfl hlt
  rw [hm, lookupPrev_before t v rest x hlt]
  rfl

end C10
