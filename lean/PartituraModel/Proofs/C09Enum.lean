/-
C09: the model's `enum` (`enumerate(l, k)`): membership, the element at a position, and counting by index or by content.
-/
import PartituraModel.Model.Unfold
import PartituraModel.Proofs.Lists

namespace C09
open Model.Unfold

theorem isEnum {α : Type} : Lists.IsEnum (enum (α := α)) := ⟨fun _ => rfl, fun _ _ _ => rfl⟩

theorem enum_mem {α : Type} (l : List α) (k i : Nat) (a : α) :
    (i, a) ∈ enum k l ↔ k ≤ i ∧ l[i - k]? = some a :=
  isEnum.mem

theorem enum_get {α : Type} (l : List α) (k i : Nat) : (enum k l)[i]? = (l[i]?).map fun a => (k + i, a) :=
  isEnum.getElem?_eq l k i

theorem enum_length {α : Type} (l : List α) (k : Nat) : (enum k l).length = l.length := isEnum.length k l

theorem enum_pairwise_idx {α : Type} (l : List α) (k : Nat) : (enum k l).Pairwise (fun a b => a.1 < b.1) :=
  isEnum.pairwise k l

theorem enum_filter_idx {α : Type} (P : Nat × α → Bool) (l : List α) (k i : Nat) (a : α) (hk : k ≤ i)
    (h : l[i - k]? = some a) :
    ((enum k l).filter (fun q => decide (q.1 = i) && P q)).length = if P (i, a) then 1 else 0 := by
  induction l generalizing k with
  | nil => simp at h
  | cons x xs ih =>
    simp only [enum, List.filter_cons]
    by_cases hik : i = k
    · subst hik
      simp only [Nat.sub_self, List.getElem?_cons_zero, Option.some.injEq] at h
      subst h
      have htail : (enum (i + 1) xs).filter (fun q => decide (q.1 = i) && P q) = [] := by
        rw [List.filter_eq_nil_iff]
        intro q hq
        obtain ⟨j, y⟩ := q
        have := ((enum_mem xs (i + 1) j y).mp hq).1
        have hne : ¬ (j = i) := by omega
        simp [hne]
      rw [htail]
      cases P (i, x) <;> simp
    · have e : i - k = (i - (k + 1)) + 1 := by omega
      rw [e, List.getElem?_cons_succ] at h
      have hne : ¬ (k = i) := by omega
      simp only [hne, decide_false, Bool.false_and, Bool.false_eq_true, if_false]
      exact ih (k + 1) (by omega) h

theorem enum_filter_snd {α : Type} (R : α → Bool) (l : List α) (k : Nat) :
    ((enum k l).filter fun q => R q.2).length = (l.filter R).length := by
  induction l generalizing k with
  | nil => rfl
  | cons a as ih =>
    simp only [enum, List.filter_cons]
    cases R a <;> simp [ih]

theorem enum_take_filter {α : Type} (R : α → Bool) (l : List α) (k K : Nat) :
    ((enum k l).filter fun q => decide (q.1 < k + K) && R q.2).length = ((l.take K).filter R).length := by
  induction l generalizing k K with
  | nil => simp [enum]
  | cons a as ih =>
    cases K with
    | zero =>
      have : (enum k (a :: as)).filter (fun q => decide (q.1 < k + 0) && R q.2) = [] := by
        rw [List.filter_eq_nil_iff]
        intro q hq
        obtain ⟨i, x⟩ := q
        have := ((enum_mem (a :: as) k i x).mp hq).1
        have h : ¬ i < k := by omega
        simp [h]
      rw [this]; simp
    | succ K =>
      simp only [enum, List.filter_cons, List.take_succ_cons]
      have h1 : k < k + (K + 1) := by omega
      have e : ∀ q : Nat × α, (decide (q.1 < k + (K + 1)) && R q.2) = (decide (q.1 < (k + 1) + K) && R q.2) := by
        intro q
        have : (q.1 < k + (K + 1)) ↔ (q.1 < (k + 1) + K) := by omega
        simp [this]
      have e2 : (enum (k + 1) as).filter (fun q => decide (q.1 < k + (K + 1)) && R q.2) =
          (enum (k + 1) as).filter (fun q => decide (q.1 < (k + 1) + K) && R q.2) :=
        List.filter_congr (fun q _ => e q)
      rw [e2]
      simp only [h1, decide_true, Bool.true_and]
      cases R a <;> simp [ih]

theorem enum_filter_idx_le {α : Type} (P : Nat × α → Bool) (l : List α) (k n : Nat) :
    ((enum k l).filter (fun q => decide (q.1 = n) && P q)).length ≤ 1 := by
  by_cases h : k ≤ n ∧ n - k < l.length
  · have := enum_filter_idx P l k n l[n - k] h.1 (List.getElem?_eq_getElem h.2)
    rw [this]; split <;> omega
  · have : (enum k l).filter (fun q => decide (q.1 = n) && P q) = [] := by
      rw [List.filter_eq_nil_iff]
      intro q hq
      obtain ⟨j, x⟩ := q
      have hm := (enum_mem l k j x).mp hq
      have hlt := (List.getElem?_eq_some_iff.mp hm.2).1
      have : ¬ j = n := by
        intro e; subst e
        exact h ⟨hm.1, hlt⟩
      simp [this]
    rw [this]; simp

end C09
