/-
C02 — the walk of `set_quarter_duration` (`setQDAux`): what it does in one equation, and that it keeps the quarter lists
well formed.  `C02.lastBefore`, the value stored just before `t`, is defined here: the equation and the probed decision
table (Props/C02Probed.lean) are stated with it.
-/
import PartituraModel.Model.TimeMapHist
import PartituraModel.Proofs.Previous

namespace C02

/-- the value stored just before `t` (`quarters[i-1]`), `prev` if no entry is before `t` -/
def lastBefore (t : Int) : Option Nat → List (Int × Nat) → Option Nat
  | prev, [] => prev
  | prev, (t0, q0) :: rest => if t0 < t then lastBefore t (some q0) rest else prev

end C02

namespace C02Proofs
open Model.TimeMap C02

theorem setQDAux_isSet (t : Int) (q : Nat) :
    Lists.IsSetEntry (α := Int × Nat) (·.1) (·.2) (· < ·) Prod.mk t q (setQDAux t q) :=
  ⟨fun _ => rfl, fun _ _ _ => rfl⟩


theorem setQDAux_mem (t : Int) (q : Nat) (l : List (Int × Nat)) (prev : Option Nat) (e : Int × Nat)
    (h : e ∈ setQDAux t q prev l) : e = (t, q) ∨ e ∈ l :=
  (setQDAux_isSet t q).mem l prev e h

theorem setQDAux_forall {P : Int × Nat → Prop} {t : Int} {q : Nat} {l : List (Int × Nat)} (prev : Option Nat)
    (hP : P (t, q)) (h : ∀ e ∈ l, P e) : ∀ e ∈ setQDAux t q prev l, P e :=
  fun e he => (setQDAux_mem t q l prev e he).elim (fun e' => e' ▸ hP) (h e)

theorem setQDAux_times (t : Int) (q : Nat) (l : List (Int × Nat)) (prev : Option Nat) (x : Int)
    (h : x ∈ (setQDAux t q prev l).map (·.1)) : x = t ∨ x ∈ l.map (·.1) := by
  obtain ⟨e, he, rfl⟩ := List.mem_map.mp h
  rcases setQDAux_mem t q l prev e he with h | h
  · exact Or.inl (by rw [h])
  · exact Or.inr (List.mem_map.mpr ⟨e, h, rfl⟩)

theorem setQDAux_pairwise (t : Int) (q : Nat) (l : List (Int × Nat)) (prev : Option Nat)
    (hp : (l.map (·.1)).Pairwise (· < ·)) : ((setQDAux t q prev l).map (·.1)).Pairwise (· < ·) :=
  List.pairwise_map.mpr ((setQDAux_isSet t q).pairwise (fun _ _ => rfl) (fun _ _ _ => Int.lt_trans)
    (fun _ h1 h2 => by omega) l prev (List.pairwise_map.mp hp))

/- The walk is analysed by its own induction principle (`fun_induction setQDAux`); its six cases, in this order: the end
of the list is reached with `q` stored last (nothing happens) / with another value (`(t, q)` is appended); an entry before
`t` is passed; the entry at `t` is overwritten; the first later entry is met with `q` stored just before it (nothing
happens) / with another value (`(t, q)` is inserted in front of it). -/
/-- **what the walk does, in one equation**: the entries before `t` are kept; behind them the entry at `t` is overwritten,
or `(t, q)` is entered unless `q` is what is stored just before -/
theorem setQDAux_eq (t : Int) (q : Nat) (prev : Option Nat) (l : List (Int × Nat)) :
    setQDAux t q prev l =
      l.takeWhile (fun e => decide (e.1 < t)) ++
        (match l.dropWhile (fun e => decide (e.1 < t)) with
         | (t0, q0) :: r => if t0 = t then (t0, q) :: r
             else if lastBefore t prev l = some q then (t0, q0) :: r else (t, q) :: (t0, q0) :: r
         | [] => if lastBefore t prev l = some q then [] else [(t, q)]) := by
  fun_induction setQDAux t q prev l with
  | case1 => exact (if_pos rfl).symm
  | case2 prev hq => exact (if_neg hq).symm
  | case3 prev t0 q0 rest h1 ih =>
    have hd : decide (((t0, q0) : Int × Nat).1 < t) = true := decide_eq_true h1
    rw [List.takeWhile_cons_of_pos (p := fun e : Int × Nat => decide (e.1 < t)) hd, List.dropWhile_cons_of_pos (p := fun e : Int × Nat => decide (e.1 < t)) hd, lastBefore, if_pos h1, ih]; rfl
  | case4 prev q0 rest h1 =>
    have hd : ¬ decide (((t, q0) : Int × Nat).1 < t) = true := by rw [decide_eq_false h1]; exact Bool.false_ne_true
    rw [List.takeWhile_cons_of_neg (p := fun e : Int × Nat => decide (e.1 < t)) hd, List.dropWhile_cons_of_neg (p := fun e : Int × Nat => decide (e.1 < t)) hd]; exact (if_pos rfl).symm
  | case5 t0 q0 rest h1 h2 =>
    have hd : ¬ decide (((t0, q0) : Int × Nat).1 < t) = true := by rw [decide_eq_false h1]; exact Bool.false_ne_true
    rw [List.takeWhile_cons_of_neg (p := fun e : Int × Nat => decide (e.1 < t)) hd, List.dropWhile_cons_of_neg (p := fun e : Int × Nat => decide (e.1 < t)) hd, lastBefore, if_neg h1]
    exact ((if_neg h2).trans (if_pos rfl)).symm
  | case6 prev t0 q0 rest h1 h2 hq =>
    have hd : ¬ decide (((t0, q0) : Int × Nat).1 < t) = true := by rw [decide_eq_false h1]; exact Bool.false_ne_true
    rw [List.takeWhile_cons_of_neg (p := fun e : Int × Nat => decide (e.1 < t)) hd, List.dropWhile_cons_of_neg (p := fun e : Int × Nat => decide (e.1 < t)) hd, lastBefore, if_neg h1]
    exact ((if_neg h2).trans (if_neg hq)).symm

theorem setQD_head (h0 : Int) (a : Nat) (r : List (Int × Nat)) (t : Int) (q : Nat) (ht : h0 ≤ t) :
    ∃ a' r', setQD ((h0, a) :: r) t q = (h0, a') :: r' := by
  unfold setQD setQDAux
  by_cases h1 : h0 < t
  · rw [if_pos h1]; exact ⟨a, _, rfl⟩
  · rw [if_neg h1, if_pos (by omega)]; exact ⟨q, _, rfl⟩

end C02Proofs
