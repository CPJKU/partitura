/-
C02 — the key-point construction of `_time_interpolator`
(sorted keys, carry-forward loop = "value in force", cumulative knots form a strictly
increasing chain when all divisions and factors are positive).
-/
import PartituraModel.Proofs.C02Interp
import PartituraModel.Proofs.Lists

namespace C02Proofs
open Model.TimeMap

theorem insertKey_sortedInsert : Lists.IsSortedInsert (· < ·) insertKey := ⟨fun _ => rfl, fun _ _ _ => rfl⟩

theorem mem_insertKey (x k : Int) (l : List Int) : x ∈ insertKey k l ↔ x = k ∨ x ∈ l :=
  insertKey_sortedInsert.mem_ins

theorem pairwise_insertKey (k : Int) (l : List Int) (h : l.Pairwise (· < ·)) : (insertKey k l).Pairwise (· < ·) :=
  insertKey_sortedInsert.ins_pairwise lt_trans (fun h1 h2 => lt_of_le_of_ne (not_lt.mp h1) (Ne.symm h2)) k h

theorem insertKey_idem (k : Int) : ∀ l : List Int, insertKey k (insertKey k l) = insertKey k l
  | [] => by simp [insertKey]
  | a :: as => by
    by_cases h1 : k < a
    · simp [insertKey, h1]
    · by_cases h2 : k = a
      · simp [insertKey, h2]
      · simp [insertKey, h1, h2, insertKey_idem k as]

theorem mem_foldr_insertKey (x : Int) (keys ts : List Int) : x ∈ ts.foldr insertKey keys ↔ x ∈ ts ∨ x ∈ keys :=
  insertKey_sortedInsert.mem_foldr_acc

theorem pairwise_foldr_insertKey (keys : List Int) (h : keys.Pairwise (· < ·)) (ts : List Int) :
    (ts.foldr insertKey keys).Pairwise (· < ·) :=
  insertKey_sortedInsert.foldr_pairwise_acc lt_trans (fun h1 h2 => lt_of_le_of_ne (not_lt.mp h1) (Ne.symm h2)) h ts

theorem mem_sortedKeys (x : Int) (l : List Int) : x ∈ sortedKeys l ↔ x ∈ l := insertKey_sortedInsert.mem_foldr

theorem pairwise_sortedKeys (l : List Int) : (sortedKeys l).Pairwise (· < ·) :=
  pairwise_foldr_insertKey [] List.Pairwise.nil l

theorem lastAssoc_eq {α : Type} : ∀ (l : List (Int × α)) (t : Int),
    lastAssoc l t = ((l.filter (fun e => decide (e.1 = t))).getLast?).map (·.2)
  | [], _ => rfl
  | (k, v) :: rest, t => by
    rw [lastAssoc, lastAssoc_eq rest t, List.filter_cons]
    by_cases hk : k = t
    · rw [if_pos (decide_eq_true hk), if_pos hk]
      cases rest.filter (fun e => decide (e.1 = t)) with
      | nil => rfl
      | cons a as => rw [List.getLast?_cons_cons, List.getLast?_eq_some_getLast (List.cons_ne_nil a as)]; rfl
    · rw [if_neg hk, if_neg (show ¬ decide ((k, v).1 = t) = true by simpa using hk)]
      cases ((rest.filter (fun e => decide (e.1 = t))).getLast?).map (·.2) <;> rfl

theorem lastAssoc_mem {α : Type} (l : List (Int × α)) (t : Int) (v : α) (h : lastAssoc l t = some v) : (t, v) ∈ l := by
  rw [lastAssoc_eq, Option.map_eq_some_iff] at h
  obtain ⟨e, he, rfl⟩ := h
  have hm := List.mem_filter.mp (List.mem_of_getLast? he)
  rw [← of_decide_eq_true hm.2]
  exact hm.1

theorem lastAssoc_none_iff {α : Type} (l : List (Int × α)) (t : Int) : lastAssoc l t = none ↔ ∀ e ∈ l, e.1 ≠ t := by
  rw [lastAssoc_eq, Option.map_eq_none_iff, List.getLast?_eq_none_iff, List.filter_eq_nil_iff]
  simp only [decide_eq_true_eq]

theorem lastAssoc_cons_self {α : Type} (k : Int) (v : α) (rest : List (Int × α)) (h : ∀ e ∈ rest, e.1 ≠ k) :
    lastAssoc ((k, v) :: rest) k = some v := by
  rw [lastAssoc, (lastAssoc_none_iff rest k).mpr h]
  exact if_pos rfl

theorem facAssign_at_zero (m : Mode) (hm : m ≠ .quarter) (s0 : TSig) (rest : List TSig)
    (hs0 : s0.t = 0) (hlater : ∀ s ∈ rest, 0 < s.t) :
    lastAssoc (facAssign m (s0 :: rest)) 0 = some (factorOf m s0) := by
  cases m with
  | quarter => exact absurd rfl hm
  | notated | musical =>
    show lastAssoc ((s0.t, _) :: rest.map _) 0 = _
    rw [hs0]
    apply lastAssoc_cons_self
    intro e he
    obtain ⟨s, hs, rfl⟩ := List.mem_map.mp he
    exact Int.ne_of_gt (hlater s hs)

theorem qdAssign_at_zero (q0 : Nat) (qrest : List (Int × Nat)) (hlater : ∀ e ∈ qrest, 0 < e.1) :
    lastAssoc (qdAssign ((0, q0) :: qrest)) 0 = some (q0 : Rat) := by
  apply lastAssoc_cons_self (rest := qdAssign qrest)
  intro e he
  obtain ⟨e', he', rfl⟩ := List.mem_map.mp he
  exact Int.ne_of_gt (hlater e' he')

theorem beatMode_ne_quarter (tp : Part) : beatMode tp ≠ .quarter := by
  unfold beatMode
  split <;> simp

theorem lastAssoc_key_mem {α : Type} (l : List (Int × α)) (t : Int) (h : lastAssoc l t ≠ none) :
    t ∈ l.map (·.1) := by
  cases hv : lastAssoc l t with
  | none => exact absurd hv h
  | some v => exact List.mem_map.mpr ⟨(t, v), lastAssoc_mem l t v hv, rfl⟩

/-- one component of the carry-forward loop -/
def carry1 (assign : List (Int × Rat)) : List Int → Rat → List (Int × Rat)
  | [], _ => []
  | t :: rest, cur =>
    let v := match lastAssoc assign t with | some q => q | none => cur
    (t, v) :: carry1 assign rest v

theorem carry_components (qd fs : List (Int × Rat)) : ∀ (keys : List Int) (cd cb : Rat),
    (carry qd fs keys cd cb).map (fun k => (k.t, k.divs)) = carry1 qd keys cd ∧
    (carry qd fs keys cd cb).map (fun k => (k.t, k.fac)) = carry1 fs keys cb ∧
    (carry qd fs keys cd cb).map (·.t) = keys
  | [], _, _ => ⟨rfl, rfl, rfl⟩
  | t :: rest, cd, cb => by
    simp only [carry, carry1, List.map_cons]
    have h := carry_components qd fs rest
    exact ⟨by rw [(h _ _).1]; rfl, by rw [(h _ _).2.1]; rfl, by rw [(h _ _).2.2]⟩

/-- `v` is the value in force at `t`: the value assigned at the latest assignment time `≤ t`,
    or the default when nothing was assigned at or before `t` -/
def InForce (assign : List (Int × Rat)) (dflt : Rat) (t : Int) (v : Rat) : Prop :=
  (∃ s, s ≤ t ∧ lastAssoc assign s = some v ∧ ∀ s', s < s' → s' ≤ t → lastAssoc assign s' = none)
  ∨ (v = dflt ∧ ∀ s', s' ≤ t → lastAssoc assign s' = none)

theorem inforce_at_assigned (assign : List (Int × Rat)) (dflt : Rat) (t : Int) (v w : Rat)
    (h : InForce assign dflt t v) (ha : lastAssoc assign t = some w) : v = w := by
  rcases h with ⟨s, hst, hv, hnone⟩ | ⟨_, hnone⟩
  · rcases Int.lt_or_eq_of_le hst with hlt | heq
    · have := hnone t hlt (Int.le_refl _)
      rw [ha] at this; cases this
    · subst heq
      rw [ha] at hv
      injection hv with hv
      exact hv.symm
  · have := hnone t (Int.le_refl _)
    rw [ha] at this; cases this

theorem InForce.mono {assign : List (Int × Rat)} {dflt v : Rat} {t t' : Int} (h : InForce assign dflt t v)
    (htt : t ≤ t') (hnone : ∀ s', t < s' → s' ≤ t' → lastAssoc assign s' = none) : InForce assign dflt t' v := by
  rcases h with ⟨s, hs, hv, hn⟩ | ⟨hd, hn⟩
  · refine Or.inl ⟨s, hs.trans htt, hv, fun s' h1 h2 => ?_⟩
    by_cases h3 : s' ≤ t
    · exact hn s' h1 h3
    · exact hnone s' (by omega) h2
  · refine Or.inr ⟨hd, fun s' h2 => ?_⟩
    by_cases h3 : s' ≤ t
    · exact hn s' h3
    · exact hnone s' (by omega) h2

/-- `lo` is where the loop stands: every key left is `≥ lo`, every assignment time `≥ lo` is a key, and `cur` is the value in
force at `lo - 1` -/
theorem carry1_inforce (assign : List (Int × Rat)) (dflt : Rat) : ∀ (keys : List Int) (cur : Rat) (lo : Int),
    keys.Pairwise (· < ·) → (∀ k ∈ keys, lo ≤ k) →
    (∀ s, lo ≤ s → lastAssoc assign s ≠ none → s ∈ keys) →
    InForce assign dflt (lo - 1) cur →
    ∀ e ∈ carry1 assign keys cur, InForce assign dflt e.1 e.2
  | [], _, _, _, _, _, _ => by simp [carry1]
  | t :: rest, cur, lo, hp, hlo, hall, hinv => by
    rw [List.pairwise_cons] at hp
    have hlot : lo ≤ t := hlo t List.mem_cons_self
    have hgap : ∀ s', lo ≤ s' → s' < t → lastAssoc assign s' = none := by
      intro s' h1 h2
      by_contra hne
      rcases List.mem_cons.mp (hall s' h1 hne) with h | h
      · omega
      · have := hp.1 s' h; omega
    -- the value at `t`: the one assigned there, else the one carried over the gap
    have hat : InForce assign dflt t (match lastAssoc assign t with | some q => q | none => cur) := by
      cases hv : lastAssoc assign t with
      | some q => exact Or.inl ⟨t, le_refl _, hv, fun s' h1 h2 => by omega⟩
      | none =>
        refine hinv.mono (by omega) fun s' h1 h2 => ?_
        by_cases h3 : s' = t
        · rw [h3]; exact hv
        · exact hgap s' (by omega) (by omega)
    intro e he
    unfold carry1 at he
    rcases List.mem_cons.mp he with he | he
    · subst he; exact hat
    · refine carry1_inforce assign dflt rest _ (t + 1) hp.2 ?_ ?_ ?_ e he
      · intro k hk; have := hp.1 k hk; omega
      · intro s h1 hne
        rcases List.mem_cons.mp (hall s (by omega) hne) with h | h
        · omega
        · exact h
      · rw [Int.add_sub_cancel]; exact hat

theorem carry1_pos (assign : List (Int × Rat)) (hpos : ∀ e ∈ assign, 0 < e.2) :
    ∀ (keys : List Int) (cur : Rat), 0 < cur → ∀ e ∈ carry1 assign keys cur, 0 < e.2
  | [], _, _ => by simp [carry1]
  | t :: rest, cur, hc => by
    intro e he
    unfold carry1 at he
    have hv : 0 < (match lastAssoc assign t with | some q => q | none => cur) := by
      cases h : lastAssoc assign t with
      | some q => exact hpos (t, q) (lastAssoc_mem assign t q h)
      | none => exact hc
    rcases List.mem_cons.mp he with he | he
    · subst he; exact hv
    · exact carry1_pos assign hpos rest _ hv e he

/-- `InForce` over a mapped assignment list, read as "the entry with the greatest key `≤ t`, or the default before every
entry" (the reading that C10 calls `InForce`) -/
theorem inForce_map {α : Type} (l : List α) (key : α → Int) (val : α → Rat) (dflt : Rat) (t : Int) (v : Rat)
    (h : InForce (l.map fun e => (key e, val e)) dflt t v) :
    (∃ e ∈ l, key e ≤ t ∧ (∀ e' ∈ l, key e' ≤ t → key e' ≤ key e) ∧ v = val e) ∨
    ((∀ e' ∈ l, t < key e') ∧ v = dflt) := by
  have hmem : ∀ e' ∈ l, (key e', val e') ∈ l.map fun e => (key e, val e) := fun e' he' =>
    List.mem_map.mpr ⟨e', he', rfl⟩
  rcases h with ⟨t0, h0, hv, hnone⟩ | ⟨hv, hnone⟩
  · obtain ⟨e, he, heq⟩ := List.mem_map.mp (lastAssoc_mem _ t0 v hv)
    simp only [Prod.mk.injEq] at heq
    refine Or.inl ⟨e, he, by omega, ?_, heq.2.symm⟩
    intro e' he' hle
    by_contra hlt
    exact (lastAssoc_none_iff _ _).mp (hnone (key e') (by omega) hle) _ (hmem e' he') rfl
  · refine Or.inr ⟨?_, hv⟩
    intro e' he'
    by_contra hlt
    exact (lastAssoc_none_iff _ _).mp (hnone (key e') (by omega)) _ (hmem e' he') rfl

/-- key points at strictly increasing times with positive divisions and factors -/
def KPsOK (kps : List KP) : Prop :=
  (kps.map (·.t)).Pairwise (· < ·) ∧ ∀ k ∈ kps, 0 < k.divs ∧ 0 < k.fac

/-- knots to the right of key point `k` whose ordinate is `y` -/
def tailKnots (k : KP) (y : Rat) : List KP → List (Rat × Rat)
  | [] => []
  | k' :: rest =>
    ((k'.t : Rat), y + k.fac * (((k'.t : Int) : Rat) - (k.t : Rat)) / k.divs) ::
      tailKnots k' (y + k.fac * (((k'.t : Int) : Rat) - (k.t : Rat)) / k.divs) rest

theorem knots_eq : ∀ (rest : List KP) (k : KP) (y : Rat),
    knots (k :: rest) y = ((k.t : Rat), y) :: tailKnots k y rest
  | [], _, _ => rfl
  | k' :: rest, k, y => by
    simp only [knots, tailKnots]
    rw [knots_eq rest k']

theorem step_pos (k k' : KP) (ht : k.t < k'.t) (hd : 0 < k.divs) (hf : 0 < k.fac) :
    0 < k.fac * (((k'.t : Int) : Rat) - (k.t : Rat)) / k.divs := by
  exact div_pos (mul_pos hf (sub_pos.mpr (Int.cast_lt.mpr ht))) hd

theorem tailKnots_chain : ∀ (rest : List KP) (k : KP) (y : Rat), KPsOK (k :: rest) →
    Chain (k.t : Rat) y (tailKnots k y rest)
  | [], _, _, _ => trivial
  | k' :: rest, k, y, h => by
    obtain ⟨hp, hpos⟩ := h
    have hp' : (∀ t ∈ (k' :: rest).map (·.t), k.t < t) ∧ ((k' :: rest).map (·.t)).Pairwise (· < ·) :=
      List.pairwise_cons.mp hp
    have ht : k.t < k'.t := hp'.1 k'.t List.mem_cons_self
    have hk := hpos k List.mem_cons_self
    exact ⟨Int.cast_lt.mpr ht, lt_add_of_pos_right y (step_pos k k' ht hk.1 hk.2),
      tailKnots_chain rest k' _ ⟨hp'.2, fun q hq => hpos q (List.mem_cons_of_mem _ hq)⟩⟩

theorem knots_ok (kps : List KP) (y : Rat) (h : KPsOK kps) (h2 : 2 ≤ kps.length) :
    KnotsOK (knots kps y) := by
  match kps, h2 with
  | k :: k' :: rest, _ =>
    rw [knots_eq]
    exact ⟨by simp [tailKnots], tailKnots_chain (k' :: rest) k y h⟩

end C02Proofs
