/-
Seconds and MIDI ticks (`Model.secToTick`, `Model.tickToSec`): one tick lasts `mpq / (10^6 ppq)` seconds, a tick count
becomes seconds by multiplying with that length, and seconds become ticks by rounding to a multiple of it.  The facts
below are those of `Proofs/Round.lean` about rounding to a multiple of a unit, read for this unit.
-/
import PartituraModel.Model.Pitch
import PartituraModel.Proofs.Round

namespace Ticks
open Model

theorem tickToSec_eq (k : ℤ) (mpq ppq : ℕ) : tickToSec k mpq ppq = (k : ℚ) * ((mpq : ℚ) / (1000000 * ppq)) := by
  rw [tickToSec, mul_comm, mul_div_assoc]

theorem secToTick_eq (t : ℚ) (mpq ppq : ℕ) :
    secToTick t mpq ppq = roundHalfEven (t / ((mpq : ℚ) / (1000000 * ppq))) := by
  rw [secToTick, div_div_eq_mul_div, mul_comm]

theorem tickLen_pos {mpq ppq : ℕ} (hm : 0 < mpq) (hp : 0 < ppq) : (0 : ℚ) < (mpq : ℚ) / (1000000 * ppq) :=
  div_pos (Nat.cast_pos.mpr hm) (mul_pos (by norm_num) (Nat.cast_pos.mpr hp))

/-- ticks → seconds → ticks is the identity: the image of a whole tick is that whole number, which rounding leaves alone -/
theorem secToTick_tickToSec (k : ℤ) (mpq ppq : ℕ) (hm : 0 < mpq) (hp : 0 < ppq) :
    secToTick (tickToSec k mpq ppq) mpq ppq = k := by
  rw [secToTick_eq, tickToSec_eq, mul_div_assoc, div_self (tickLen_pos hm hp).ne', mul_one, Round.roundHalfEven_int]

/-- seconds → ticks → seconds moves a time by at most half a tick -/
theorem tickToSec_secToTick_close (t : ℚ) (mpq ppq : ℕ) (hm : 0 < mpq) (hp : 0 < ppq) :
    |tickToSec (secToTick t mpq ppq) mpq ppq - t| ≤ (mpq : ℚ) / (2 * 1000000 * ppq) := by
  rw [secToTick_eq, tickToSec_eq]
  exact (Round.mul_close t (tickLen_pos hm hp)).trans_eq (by rw [div_div, mul_comm, mul_assoc])

/-- a later time never gets an earlier tick, whatever `mpq` and `ppq` (for `mpq = 0` every tick is 0) -/
theorem secToTick_mono (mpq ppq : ℕ) {t t' : ℚ} (h : t ≤ t') : secToTick t mpq ppq ≤ secToTick t' mpq ppq :=
  Round.roundHalfEven_mono (div_le_div_of_nonneg_right
    (mul_le_mul_of_nonneg_left h (mul_nonneg (by norm_num) (Nat.cast_nonneg ppq))) (Nat.cast_nonneg mpq))

theorem secToTick_nonneg (mpq ppq : ℕ) {t : ℚ} (h : 0 ≤ t) : 0 ≤ secToTick t mpq ppq :=
  Round.le_roundHalfEven (by
    rw [Int.cast_zero]
    exact div_nonneg (mul_nonneg (mul_nonneg (by norm_num) (Nat.cast_nonneg ppq)) h) (Nat.cast_nonneg mpq))

end Ticks
