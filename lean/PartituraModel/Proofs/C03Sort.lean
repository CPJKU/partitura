/-
C03 — the stable insertion sort of Model/XmlMeasure.lean (`insertBy`, `isortBy`) as an instance of `Lists.IsInsertionSort`:
sorted when `fun a b => !lt b a` is a total preorder, identity on sorted input, stable (it commutes with picking out the
members of one kind).
-/
import PartituraModel.Model.XmlMeasure
import Mathlib.Data.List.Perm.Basic
import PartituraModel.Proofs.Lists

namespace C03.Sort
open Model.Xml

variable {α : Type}

/-- no element is strictly smaller than an earlier one -/
def SortedBy (lt : α → α → Bool) (l : List α) : Prop := l.Pairwise (fun a b => lt b a = false)

theorem isSort (lt : α → α → Bool) : Lists.IsInsertionSort (fun a b => !lt b a) (insertBy lt) (isortBy lt) :=
  ⟨fun _ => rfl, fun a b l => by cases h : lt b a <;> simp [insertBy, h], rfl, fun _ _ => rfl⟩

theorem isortBy_sorted {lt : α → α → Bool} (h : Lists.TotalPreorder fun a b => !lt b a) (l : List α) :
    SortedBy lt (isortBy lt l) :=
  ((isSort lt).pairwise h l).imp fun hab => (Bool.not_eq_true' _).mp hab

theorem isortBy_of_sorted {lt : α → α → Bool} {l : List α} (hl : SortedBy lt l) : isortBy lt l = l :=
  (isSort lt).eq_self (hl.imp fun hab => (Bool.not_eq_true' _).mpr hab)

theorem isortBy_eq_nil {lt : α → α → Bool} {l : List α} (h : isortBy lt l = []) : l = [] :=
  List.nil_perm.mp (h ▸ (isSort lt).perm l)

/-- The sort is stable: sorting the whole list and picking out the members of one kind (`sel`, which keeps the order) is
    sorting them alone. -/
theorem filterMap_isortBy {β : Type} {lt : α → α → Bool} (h : Lists.TotalPreorder fun a b => !lt b a)
    {lt' : β → β → Bool} (sel : α → Option β)
    (hsel : ∀ a b x y, sel a = some x → sel b = some y → lt' x y = lt a b) (l : List α) :
    (isortBy lt l).filterMap sel = isortBy lt' (l.filterMap sel) :=
  (isSort lt).filterMap_comm (isSort lt') h sel (fun a b x y ha hb => by rw [hsel b a y x hb ha]) l

end C03.Sort
