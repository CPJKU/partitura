/-
C13 — the list functions of Model/PianoRoll.lean: the extremum `best?` (first / last pitch, `min_time`, last offset), the
stable sort by onset and the permutation that undoes it, `max(fill_dict[key])`; with them the sort-free forms and the
permutation invariance of the whole-array quantities.  Also Python's `int()` and the values of the generated constants.
-/
import PartituraModel.Model.PianoRoll
import PartituraModel.Proofs.Round
import Mathlib.Data.List.Perm.Basic
import Mathlib.Algebra.Order.Field.Rat
import Mathlib.Tactic.Linarith
import PartituraModel.Proofs.Lists
import PartituraModel.Proofs.Orders

namespace C13
open Model Model.PianoRoll
open List

structure LinearLe {α : Type} (le : α → α → Bool) : Prop extends Lists.TotalPreorder le where
  antisymm : ∀ a b, le a b = true → le b a = true → a = b

theorem best?_cons {α : Type} (le : α → α → Bool) (a : α) (l : List α) :
    best? le (a :: l) = some ((best? le l).elim a fun m => if le a m then a else m) := by
  rw [best?]; cases best? le l <;> rfl

theorem best?_eq_none {α : Type} (le : α → α → Bool) (l : List α) : best? le l = none ↔ l = [] :=
  Lists.optMin_none _ rfl (best?_cons le)

theorem LinearLe.pick {α : Type} {le : α → α → Bool} (h : LinearLe le) (a m : α) :
    (if le a m then a else m) = a ∧ le a m = true ∨ (if le a m then a else m) = m ∧ le m a = true := by
  by_cases hle : le a m = true
  · rw [if_pos hle]; exact Or.inl ⟨rfl, hle⟩
  · rw [if_neg hle]; exact Or.inr ⟨rfl, (h.total a m).resolve_left hle⟩

theorem best?_spec {α : Type} {le : α → α → Bool} (h : LinearLe le) (l : List α) (m : α) (hm : best? le l = some m) :
    m ∈ l ∧ ∀ x ∈ l, le m x = true :=
  Lists.optMin_spec (le := fun a b => le a b = true) _ rfl (best?_cons le) h.refl h.trans h.pick hm

theorem best?_some_iff {α : Type} {le : α → α → Bool} (h : LinearLe le) (l : List α) (m : α) :
    best? le l = some m ↔ m ∈ l ∧ ∀ x ∈ l, le m x = true :=
  ⟨best?_spec h l m, fun ⟨hm, hle⟩ => Lists.optMin_eq_some (le := fun a b => le a b = true) _ rfl (best?_cons le)
    h.refl h.trans h.antisymm h.pick hm hle⟩

theorem best?_perm {α : Type} {le : α → α → Bool} (h : LinearLe le) {l l' : List α} (hp : l ~ l') :
    best? le l = best? le l' :=
  Lists.optMin_congr (le := fun a b => le a b = true) _ rfl (best?_cons le) h.refl h.trans h.antisymm h.pick
    fun _ => hp.mem_iff

theorem LinearLe.of_le {α : Type} [LinearOrder α] : LinearLe (fun a b : α => decide (a ≤ b)) :=
  ⟨.of_key id, fun _ _ h1 h2 => le_antisymm (of_decide_eq_true h1) (of_decide_eq_true h2)⟩

theorem linearLe_ratLe : LinearLe (fun a b : Rat => decide (a ≤ b)) := .of_le

theorem linearLe_intLe : LinearLe (fun a b : Int => decide (a ≤ b)) := .of_le

theorem linearLe_intGe : LinearLe (fun a b : Int => decide (b ≤ a)) := .of_le (α := Intᵒᵈ)

theorem minRat?_some_iff (l : List Rat) (m : Rat) :
    minRat? l = some m ↔ m ∈ l ∧ ∀ x ∈ l, m ≤ x := by
  unfold minRat?
  rw [best?_some_iff linearLe_ratLe]
  simp

theorem minInt?_some_iff (l : List Int) (m : Int) :
    minInt? l = some m ↔ m ∈ l ∧ ∀ x ∈ l, m ≤ x := by
  unfold minInt?
  rw [best?_some_iff linearLe_intLe]
  simp

theorem maxInt?_some_iff (l : List Int) (m : Int) :
    maxInt? l = some m ↔ m ∈ l ∧ ∀ x ∈ l, x ≤ m := by
  unfold maxInt?
  rw [best?_some_iff linearLe_intGe]
  simp

theorem best?_map_of_ne_nil {α β : Type} {le : β → β → Bool} (h : LinearLe le) (f : α → β) {l : List α} (hne : l ≠ []) :
    ∃ a ∈ l, best? le (l.map f) = some (f a) ∧ ∀ b ∈ l, le (f a) (f b) = true := by
  cases hb : best? le (l.map f) with
  | none => exact absurd (map_eq_nil_iff.mp ((best?_eq_none le _).mp hb)) hne
  | some m =>
    obtain ⟨h1, h2⟩ := best?_spec h _ m hb
    obtain ⟨a, ha, rfl⟩ := mem_map.mp h1
    exact ⟨a, ha, rfl, fun b hb => h2 _ (mem_map_of_mem hb)⟩

theorem isSort {α : Type} (le : α → α → Bool) : Lists.IsInsertionSort le (insertBy le) (sortBy le) :=
  ⟨fun _ => rfl, fun _ _ _ => rfl, rfl, fun _ _ => rfl⟩

theorem sortBy_pairwise {α : Type} {le : α → α → Bool} (h : Lists.TotalPreorder le) (l : List α) :
    (sortBy le l).Pairwise (fun a b => le a b = true) :=
  (isSort le).pairwise h l

theorem totalPre_leOnset : Lists.TotalPreorder leOnset := .of_key fun a : Nat × Note => a.2.onset

theorem totalPre_leIdx {α : Type} : Lists.TotalPreorder (leIdx (α := α)) := .of_key Prod.fst

theorem isEnum : Lists.IsEnum enumFrom := ⟨fun _ => rfl, fun _ _ _ => rfl⟩

theorem enumFrom_map_snd (i : Nat) (l : List Note) : (enumFrom i l).map (·.2) = l :=
  isEnum.map_snd i l

theorem sortedNotes_perm (notes : List Note) : sortedNotes notes ~ notes := by
  unfold sortedNotes sorted
  have h := ((isSort leOnset).perm (enumFrom 0 notes)).map (·.2)
  rwa [enumFrom_map_snd] at h

theorem mem_sortedNotes {notes : List Note} {n : Note} : n ∈ sortedNotes notes ↔ n ∈ notes :=
  (sortedNotes_perm notes).mem_iff

theorem sortedNotes_pairwise (notes : List Note) :
    (sortedNotes notes).Pairwise (fun a b => a.onset ≤ b.onset) := by
  unfold sortedNotes sorted
  have h := sortBy_pairwise totalPre_leOnset (enumFrom 0 notes)
  rw [pairwise_map]
  refine h.imp ?_
  intro a b hab
  simpa [leOnset] using hab

/-- `onset[0]` of the sorted onsets is `min(onset)` -/
theorem head_sortedNotes (notes : List Note) :
    (sortedNotes notes).head?.map (·.onset) = minRat? (notes.map (·.onset)) := by
  have hp := sortedNotes_perm notes
  have hs := sortedNotes_pairwise notes
  cases hS : sortedNotes notes with
  | nil =>
    rw [hS] at hp
    have : notes = [] := hp.symm.eq_nil
    subst this
    rfl
  | cons a S =>
    rw [hS] at hp hs
    simp only [head?_cons, Option.map_some]
    symm
    rw [minRat?_some_iff]
    constructor
    · exact mem_map.mpr ⟨a, hp.mem_iff.mp (by simp), rfl⟩
    · intro x hx
      obtain ⟨n, hn, rfl⟩ := mem_map.mp hx
      have hn' : n ∈ a :: S := hp.mem_iff.mpr hn
      simp only [mem_cons] at hn'
      rcases hn' with rfl | hn'
      · exact le_refl _
      · exact (pairwise_cons.mp hs).1 n hn'

theorem mem_enumFrom {i : Nat} {l : List Note} {x : Nat × Note} (h : x ∈ enumFrom i l) :
    i ≤ x.1 ∧ l[x.1 - i]? = some x.2 :=
  isEnum.mem.mp h

theorem unsort_sorted {β : Type} (f : Note → β) (notes : List Note) :
    unsort ((sorted notes).map fun x => (x.1, f x.2)) = notes.map f := by
  unfold unsort sorted
  set L := enumFrom 0 notes with hL
  set g : Nat × Note → Nat × β := fun x => (x.1, f x.2) with hg
  have hperm : sortBy leIdx ((sortBy leOnset L).map g) ~ L.map g :=
    ((isSort leIdx).perm _).trans (((isSort leOnset).perm L).map g)
  have hpw1 : (sortBy leIdx ((sortBy leOnset L).map g)).Pairwise (fun a b => leIdx a b = true) :=
    sortBy_pairwise totalPre_leIdx _
  have hpw2 : (L.map g).Pairwise (fun a b => leIdx a b = true) := by
    rw [pairwise_map]
    refine (isEnum.pairwise 0 notes).imp ?_
    intro a b hab
    simp only [leIdx, hg, decide_eq_true_eq]
    omega
  have heq : sortBy leIdx ((sortBy leOnset L).map g) = L.map g := by
    refine Perm.eq_of_pairwise ?_ hpw1 hpw2 hperm
    intro a b ha hb hab hba
    have ha' : a ∈ L.map g := hperm.mem_iff.mp ha
    obtain ⟨x, hx, rfl⟩ := mem_map.mp ha'
    obtain ⟨y, hy, rfl⟩ := mem_map.mp hb
    simp only [leIdx, hg, decide_eq_true_eq] at hab hba
    have hxy : x.1 = y.1 := by omega
    have h1 := (mem_enumFrom hx).2
    have h2 := (mem_enumFrom hy).2
    rw [hxy] at h1
    rw [h1] at h2
    simp only [Option.some.injEq] at h2
    have hxy' : x = y := Prod.ext hxy h2
    rw [hxy']
  rw [heq, map_map]
  have : ((fun x : Nat × β => x.2) ∘ g) = f ∘ (fun x : Nat × Note => x.2) := by
    funext x; simp [hg]
  rw [this, ← map_map, hL, enumFrom_map_snd]

theorem keyMax_some_iff (fill : List Entry) (p j v : Int) :
    keyMax fill p j = some v ↔ (p, j, v) ∈ fill ∧ ∀ e ∈ fill, e.1 = p → e.2.1 = j → e.2.2 ≤ v := by
  unfold keyMax
  rw [maxInt?_some_iff]
  constructor
  · rintro ⟨hmem, hall⟩
    obtain ⟨e, he, rfl⟩ := mem_map.mp hmem
    rw [mem_filter] at he
    obtain ⟨he1, he2⟩ := he
    simp only [Bool.and_eq_true, beq_iff_eq] at he2
    refine ⟨?_, ?_⟩
    · have : e = (p, j, e.2.2) := by
        obtain ⟨a, b, c⟩ := e
        simp only at he2
        simp [he2.1, he2.2]
      rw [← this]; exact he1
    · intro e' he' h1 h2
      apply hall
      refine mem_map.mpr ⟨e', mem_filter.mpr ⟨he', ?_⟩, rfl⟩
      simp [h1, h2]
  · rintro ⟨hmem, hall⟩
    refine ⟨mem_map.mpr ⟨(p, j, v), mem_filter.mpr ⟨hmem, by simp⟩, rfl⟩, ?_⟩
    intro x hx
    obtain ⟨e, he, rfl⟩ := mem_map.mp hx
    rw [mem_filter] at he
    obtain ⟨he1, he2⟩ := he
    simp only [Bool.and_eq_true, beq_iff_eq] at he2
    exact hall e he1 he2.1 he2.2

theorem keyMax_none_iff (fill : List Entry) (p j : Int) :
    keyMax fill p j = none ↔ ∀ e ∈ fill, ¬ (e.1 = p ∧ e.2.1 = j) := by
  unfold keyMax maxInt?
  rw [best?_eq_none, map_eq_nil_iff, filter_eq_nil_iff]
  simp only [Bool.and_eq_true, beq_iff_eq]

theorem keyMax_perm {fill fill' : List Entry} (h : fill ~ fill') (p j : Int) :
    keyMax fill p j = keyMax fill' p j := by
  unfold keyMax maxInt?
  exact best?_perm linearLe_intGe ((h.filter _).map _)

theorem minRat?_sortedNotes (notes : List Note) :
    minRat? ((sortedNotes notes).map (·.onset)) = minRat? (notes.map (·.onset)) :=
  best?_perm linearLe_ratLe ((sortedNotes_perm notes).map _)

/-- `min_time` without the sort -/
theorem t0Of_eq (o : Opts) (notes : List Note) :
    t0Of o notes =
      (let m := (minRat? (notes.map (·.onset))).getD 0
       if o.removeSilence then m else if 0 ≤ m then 0 else m) := by
  unfold t0Of
  rw [head_sortedNotes, minRat?_sortedNotes]

section perm
variable (o : Opts) {notes notes' : List Note} (hp : notes ~ notes')
include hp

theorem t0Of_perm : t0Of o notes = t0Of o notes' := by
  rw [t0Of_eq, t0Of_eq]
  unfold minRat?
  rw [best?_perm linearLe_ratLe (hp.map _)]

end perm

theorem all_perm {α : Type} (f : α → Bool) {l l' : List α} (h : l ~ l') : l.all f = l'.all f :=
  h.all_eq

theorem any_perm {α : Type} (f : α → Bool) {l l' : List α} (h : l ~ l') : l.any f = l'.any f :=
  h.any_eq

theorem Roll.cell_out (r : Roll) {p j : Int} (h : ¬ (0 ≤ p ∧ p < r.rows ∧ 0 ≤ j ∧ j < r.cols)) : r.cell p j = 0 :=
  if_neg h

theorem Roll.cell_eq_zero (r : Roll) {p j : Int} (h : ∀ e ∈ r.fill, ¬ (e.1 = p + r.rowStart ∧ e.2.1 = j)) :
    r.cell p j = 0 := by
  unfold Roll.cell
  split
  · rw [(keyMax_none_iff ..).mpr h]
  · rfl

theorem Roll.cell_of_keyMax (r : Roll) {p j v : Int} (hin : 0 ≤ p ∧ p < r.rows ∧ 0 ≤ j ∧ j < r.cols)
    (hk : keyMax r.fill (p + r.rowStart) j = some v) : r.cell p j = if r.binary = true ∧ v ≠ 0 then 1 else v := by
  unfold Roll.cell
  rw [if_pos hin, hk]
  by_cases hb : r.binary = true <;> by_cases hv0 : v = 0 <;> simp [hb, hv0]

theorem cell_congr (r r' : Roll) (h1 : r.rows = r'.rows) (h2 : r.cols = r'.cols)
    (h3 : r.rowStart = r'.rowStart) (h4 : r.binary = r'.binary)
    (h5 : ∀ p j, keyMax r.fill p j = keyMax r'.fill p j) : ∀ p j, r.cell p j = r'.cell p j := by
  intro p j
  unfold Roll.cell
  rw [h1, h2, h3, h4, h5]

theorem truncRat_eq_iff {q : Rat} (hq : 0 ≤ q) (k : Int) :
    truncRat q = k ↔ (k : Rat) ≤ q ∧ q < (k : Rat) + 1 :=
  Round.trunc_eq_iff (fun _ => rfl) hq k

theorem truncRat_eq_iff_neg {q : Rat} (hq : q < 0) (k : Int) :
    truncRat q = k ↔ (k : Rat) - 1 < q ∧ q ≤ (k : Rat) :=
  Round.trunc_eq_iff_neg (fun _ => rfl) hq k

theorem truncRat_spec (q : Rat) :
    (0 ≤ q → 0 ≤ truncRat q ∧ (truncRat q : Rat) ≤ q ∧ q < (truncRat q : Rat) + 1) ∧
    (q < 0 → truncRat q ≤ 0 ∧ q ≤ (truncRat q : Rat) ∧ (truncRat q : Rat) - 1 < q) ∧
    (∀ k : Int, q = (k : Rat) → truncRat q = k) :=
  have h := Round.trunc_spec (t := truncRat) (fun _ => rfl) q
  ⟨h.1, h.2, fun k hk => hk ▸ Round.trunc_int (fun _ => rfl) k⟩

theorem truncRat_intCast (v : Int) : truncRat (v : Rat) = v := Round.trunc_int (fun _ => rfl) v

theorem truncRat_add_int (k : Int) (q : Rat) (hk : 0 ≤ k) (hq : 0 ≤ q) : truncRat ((k : Rat) + q) = k + truncRat q := by
  obtain ⟨b1, b2⟩ := (truncRat_eq_iff hq _).mp rfl
  rw [truncRat_eq_iff (add_nonneg (by exact_mod_cast hk) hq), Int.cast_add]
  constructor <;> linarith

/-! ### the generated constants (Gen/C13Tables.lean) have the documented values -/

theorem tbl_lowest : Gen.C13_LOWEST_PITCH = 0 := by decide
theorem tbl_highest : Gen.C13_HIGHEST_PITCH = 127 := by decide
theorem tbl_piano_lo : Gen.C13_PIANO_LO = 21 := by decide
theorem tbl_piano_hi : Gen.C13_PIANO_HI = 109 := by decide
theorem tbl_idx_start : Gen.C13_IDX_START = 0 := by decide
theorem tbl_idx_start_piano : Gen.C13_IDX_START_PIANO = 21 := by decide
theorem tbl_drum : Gen.C13_DRUM_CHANNEL = 9 := by decide
theorem tbl_dec_shapes : Gen.C13_DEC_SHAPES = [(88, 21), (128, 0)] := by decide
theorem tbl_pc_rows : Gen.C13_PC_ROWS = 12 := by decide
theorem tbl_pc_span : Gen.C13_PC_SPAN = 128 := by decide
theorem tbl_pc_step : Gen.C13_PC_STEP = 12 := by decide
theorem tbl_pc_mod : Gen.C13_PC_MOD = 12 := by decide
theorem tbl_pc_slices : pcSlices = 11 := by decide

/-- the index rows are offset by the first row of the slice -/
theorem idxStartOf_eq (o : Opts) : idxStartOf o = rowStartOf o := by
  unfold idxStartOf rowStartOf
  rw [tbl_idx_start, tbl_idx_start_piano, tbl_piano_lo]

theorem slicedRows_eq (M : Int) : slicedRows M = (if M < 109 then M else 109) - (if M < 21 then M else 21) := by
  unfold slicedRows
  rw [tbl_piano_lo, tbl_piano_hi]

/-- the unit `prepare` uses, given what `"auto"` infers from the columns of the array -/
theorem unit_of_auto {g : Args} {units : List String} {unit u0 : String}
    (hu : if g.timeUnit = "auto" then timeUnitsAuto units = some unit else unit = g.timeUnit)
    (h0 : timeUnitsAuto units = some u0) : unit = if g.timeUnit = "auto" then u0 else g.timeUnit := by
  by_cases ha : g.timeUnit = "auto"
  · rw [if_pos ha, h0] at hu
    rw [if_pos ha]
    exact (Option.some.inj hu).symm
  · rw [if_neg ha] at hu ⊢
    exact hu

theorem toNotes_eq_mapM (a : NoteArray) (k : Nat) (rows : List Row) : toNotes a k rows = rows.mapM (toNote a k) := by
  induction rows with
  | nil => rfl
  | cons r rs ih =>
    rw [toNotes, ih, mapM_cons]
    cases toNote a k r <;> cases rs.mapM (toNote a k) <;> rfl

end C13
