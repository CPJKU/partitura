/-
C09: time signatures, key signatures and clefs in the unfolded part.  `create_variant_part`
copies such an object only when it differs from the previous one of its class (`sigSkip` / `prevSig`); here: whatever
is left out is in force anyway.
-/
import PartituraModel.Proofs.C09Variant

namespace C09
open Model.Unfold

/-- what matters of a copy for the signature maps: class, time, compared fields -/
def sv (c : OObj) : Kind × Int × List Int := (c.kind, c.start, c.payload)

/-- among `views` some entry of kind `k` lies strictly before `t`, the latest such entries include one that says `pay` -/
def InForceBefore (views : List (Kind × Int × List Int)) (k : Kind) (pay : List Int) (t : Int) : Prop :=
  ∃ c ∈ views, c.1 = k ∧ c.2.2 = pay ∧ c.2.1 < t ∧ ∀ q ∈ views, q.1 = k → q.2.1 < t → q.2.1 ≤ c.2.1

/-- the object list of a part is read off its timeline: time points in order (harness `ordered_objects`, the order in
which `create_variant_part` meets the objects) -/
def TimeOrdered (objs : List Obj) : Prop := objs.Pairwise (fun a b => a.start ≤ b.start)

theorem isSig_not_dropped (k : Kind) (h : k.isSig = true) : k.dropped = false := by
  cases k <;> simp_all [Kind.isSig, Kind.dropped]

theorem inForce_append (views extra : List (Kind × Int × List Int)) (k : Kind) (pay : List Int) (t : Int)
    (h : InForceBefore views k pay t) (hex : ∀ q ∈ extra, q.1 = k → t ≤ q.2.1) :
    InForceBefore (views ++ extra) k pay t := by
  obtain ⟨c, hc, h1, h2, h3, h4⟩ := h
  refine ⟨c, List.mem_append_left _ hc, h1, h2, h3, ?_⟩
  intro q hq hk hlt
  rcases List.mem_append.mp hq with hq | hq
  · exact h4 q hq hk hlt
  · have := hex q hq hk; omega

/-- the step of the fold in `prevSig` -/
def later (best : Option OObj) (o : OObj) : Option OObj :=
  match best with
  | none => some o
  | some b => if b.start < o.start then some o else some b

/-- the fold in `prevSig` keeps the later of two objects, once it has one -/
theorem foldl_later_some (l : List OObj) (b : OObj) :
    l.foldl later (some b) = some (l.foldl (fun m y => if m.start < y.start then y else m) b) := by
  induction l generalizing b with
  | nil => rfl
  | cons x xs ih =>
    simp only [List.foldl_cons, later]
    split <;> exact ih _

theorem foldl_later (l : List OObj) (p : OObj) (h : l.foldl later none = some p) :
    p ∈ l ∧ ∀ q ∈ l, q.start ≤ p.start := by
  cases l with
  | nil => cases h
  | cons x xs =>
    rw [List.foldl_cons, show later none x = some x from rfl, foldl_later_some, Option.some.injEq] at h
    subst h
    exact ⟨Lists.foldl_pick_mem (fun y m : OObj => m.start < y.start) xs x,
      Lists.foldl_pick_best (fun y m : OObj => m.start < y.start) (fun a b => b.start ≤ a.start) (fun _ => Int.le_refl _)
        (fun _ _ _ h1 h2 => Int.le_trans h2 h1) (fun _ _ h => Int.le_of_lt h) (fun _ _ h => Int.not_lt.mp h) xs x⟩

theorem prevSig_spec (out : List OObj) (k : Kind) (t : Int) (p : OObj) (h : prevSig out k t = some p) :
    p ∈ out ∧ p.kind = k ∧ p.start < t ∧ ∀ q ∈ out, q.kind = k → q.start < t → q.start ≤ p.start := by
  have h' : (out.filter fun o => o.kind = k && o.start < t).foldl later none = some p := h
  obtain ⟨h1, h2⟩ := foldl_later _ p h'
  rw [List.mem_filter] at h1
  obtain ⟨m1, m2⟩ := h1
  simp only [Bool.and_eq_true, decide_eq_true_eq] at m2
  exact ⟨m1, m2.1, m2.2, fun q hq hk hlt => h2 q (List.mem_filter.mpr ⟨hq, by simp [hk, hlt]⟩)⟩

theorem sigSkip_spec (seen : List OObj) (o : Obj) (t : Int) (h : sigSkip seen o t = true) :
    ∃ p, prevSig seen o.kind t = some p ∧ p.payload = o.payload := by
  unfold sigSkip at h
  simp only [Bool.and_eq_true] at h
  obtain ⟨_, h2⟩ := h
  cases hp : prevSig seen o.kind t with
  | none => simp [hp] at h2
  | some p =>
    simp only [hp, decide_eq_true_eq] at h2
    exact ⟨p, rfl, h2⟩

/-- one visit, first pass: a signature / clef of the window is copied, or the latest copy of its class made so far
(before its shifted time) says the same -/
theorem copyPass_sig (v : Visit) (k : Nat) (l : List (Nat × Obj)) (seen : List OObj) :
    l.Pairwise (fun a b => a.2.start ≤ b.2.start) →
    ∀ (i : Nat) (o : Obj), (i, o) ∈ l → inWin v o = true → o.kind.isSig = true →
      mkCopy i k o (v.off - v.s) ∈ copyPass v k l seen ∨
      InForceBefore ((seen ++ copyPass v k l seen).map sv) o.kind o.payload (o.start + (v.off - v.s)) := by
  fun_induction copyPass v k l seen with
  | case1 => intro _ i o h; cases h
  | case2 j x rest seen hwx hd ih =>
    intro hp i o hmem hw hs
    rcases List.mem_cons.mp hmem with he | he
    · obtain ⟨rfl, rfl⟩ := Prod.mk.inj he
      rw [isSig_not_dropped _ hs] at hd; cases hd
    · exact ih (List.pairwise_cons.mp hp).2 i o he hw hs
  | case3 j x rest seen hwx hd hsk ih =>
    intro hp i o hmem hw hs
    rcases List.mem_cons.mp hmem with he | he
    · -- left out: the latest copy of its class says the same, and everything still to come in this visit is not earlier
      obtain ⟨rfl, rfl⟩ := Prod.mk.inj he
      obtain ⟨p, hp1, hp2⟩ := sigSkip_spec seen o _ hsk
      obtain ⟨m1, m2, m3, m4⟩ := prevSig_spec seen o.kind _ p hp1
      refine Or.inr ⟨sv p, List.mem_map.mpr ⟨p, List.mem_append_left _ m1, rfl⟩, m2, hp2, m3, ?_⟩
      intro q hq hk hlt
      obtain ⟨q', hq', rfl⟩ := List.mem_map.mp hq
      rcases List.mem_append.mp hq' with hq' | hq'
      · exact m4 q' hq' hk hlt
      · obtain ⟨q0, hq0, _, _, rfl⟩ := copyPass_mem v k rest seen q' hq'
        have hge : o.start ≤ q0.2.start := (List.pairwise_cons.mp hp).1 q0 hq0
        simp only [sv, mkCopy] at hlt
        exfalso; omega
    · exact ih (List.pairwise_cons.mp hp).2 i o he hw hs
  | case4 j x rest seen hwx hd hsk ih =>
    intro hp i o hmem hw hs
    rcases List.mem_cons.mp hmem with he | he
    · obtain ⟨rfl, rfl⟩ := Prod.mk.inj he
      exact Or.inl List.mem_cons_self
    · rcases ih (List.pairwise_cons.mp hp).2 i o he hw hs with h | h
      · exact Or.inl (List.mem_cons_of_mem _ h)
      · rw [List.append_assoc] at h
        exact Or.inr h
  | case5 j x rest seen hwx ih =>
    intro hp i o hmem hw hs
    rcases List.mem_cons.mp hmem with he | he
    · obtain ⟨rfl, rfl⟩ := Prod.mk.inj he
      simp only [inWin, Bool.and_eq_true, decide_eq_true_eq] at hw
      exact absurd hw hwx
    · exact ih (List.pairwise_cons.mp hp).2 i o he hw hs

theorem enum_pairwise (objs : List Obj) (h : TimeOrdered objs) (k : Nat) :
    (enum k objs).Pairwise (fun a b => a.2.start ≤ b.2.start) :=
  (List.pairwise_map (f := Prod.snd) (R := fun a b : Obj => a.start ≤ b.start)).mp (by rw [isEnum.map_snd]; exact h)

theorem resolve_sv (news : List OObj) : (resolve news).map sv = news.map sv := by
  unfold resolve
  rw [List.map_map]
  rfl

/-- one visit: the same for everything the visit adds (the extra fermatas are no signatures) -/
theorem visitCopies_sig (objs : List Obj) (hsorted : TimeOrdered objs) (v : Visit) (k : Nat)
    (out : List OObj) (i : Nat) (o : Obj) (hio : objs[i]? = some o) (hw : inWin v o = true) (hs : o.kind.isSig = true) :
    (∃ c ∈ visitCopies objs v k out, core c = core (mkCopy i k o (v.off - v.s))) ∨
    InForceBefore ((out ++ visitCopies objs v k out).map sv) o.kind o.payload (o.start + (v.off - v.s)) := by
  have hm : (i, o) ∈ enum 0 objs := (enum_mem objs 0 i o).mpr ⟨Nat.zero_le _, by simpa using hio⟩
  rcases copyPass_sig v k (enum 0 objs) out (enum_pairwise objs hsorted 0) i o hm hw hs with h | h
  · left
    have hr : ∀ c ∈ copyPass v k (enum 0 objs) out, ∃ c' ∈ resolve (copyPass v k (enum 0 objs) out), core c' = core c := by
      intro c hc
      unfold resolve
      exact ⟨_, List.mem_map.mpr ⟨c, hc, rfl⟩, rfl⟩
    obtain ⟨c', hc', hcore⟩ := hr _ h
    refine ⟨c', ?_, hcore⟩
    unfold visitCopies
    exact List.mem_append_left _ hc'
  · right
    have e : (out ++ visitCopies objs v k out).map sv =
        (out ++ copyPass v k (enum 0 objs) out).map sv ++ (fermataPass v k (enum 0 objs)).map sv := by
      unfold visitCopies
      simp only [List.map_append, resolve_sv, List.append_assoc]
    rw [e]
    apply inForce_append _ _ _ _ _ h
    intro q hq hk
    obtain ⟨q', hq', rfl⟩ := List.mem_map.mp hq
    have hf := (fermataPass_extra v k _ q' hq').2.1
    simp only [sv] at hk
    rw [hf] at hk
    rw [← hk] at hs
    cases hs

theorem variantObjs_later (objs : List Obj) : ∀ (vs : List Visit) (k : Nat) (out : List OObj) (off : Int),
    OffsetsOK off vs → (∀ v ∈ vs, v.s < v.e) →
    ∃ X, variantObjs objs k vs out = out ++ X ∧ ∀ q ∈ X, off ≤ q.start := by
  intro vs
  induction vs with
  | nil => intro k out off _ _; exact ⟨[], by simp [variantObjs], by simp⟩
  | cons w ws ih =>
    intro k out off hok hpos
    obtain ⟨h0, hrest⟩ := hok
    have hw := hpos w List.mem_cons_self
    obtain ⟨X, hX, hXs⟩ := ih (k + 1) (out ++ visitCopies objs w k out) (off + (w.e - w.s)) hrest
      (fun v hv => hpos v (List.mem_cons_of_mem _ hv))
    refine ⟨visitCopies objs w k out ++ X, by simp only [variantObjs, hX, List.append_assoc], ?_⟩
    intro q hq
    rcases List.mem_append.mp hq with hq | hq
    · obtain ⟨_, hkind⟩ := visitCopies_mem objs w k out q hq
      rcases hkind with ⟨_, _, _, hst⟩ | ⟨_, o, hco, _⟩
      · rw [hst]; omega
      · have hst := hco.start
        have hwin := hco.win
        simp only [inWin, Bool.and_eq_true, decide_eq_true_eq] at hwin
        omega
    · have := hXs q hq; omega

theorem variantObjs_sig (objs : List Obj) (hsorted : TimeOrdered objs) :
    ∀ (vs : List Visit) (k : Nat) (out : List OObj) (off : Int), OffsetsOK off vs → (∀ v ∈ vs, v.s < v.e) →
    ∀ (n : Nat) (v : Visit), vs[n]? = some v → ∀ (i : Nat) (o : Obj), objs[i]? = some o → inWin v o = true →
      o.kind.isSig = true →
      (∃ c ∈ variantObjs objs k vs out, core c = core (mkCopy i (k + n) o (v.off - v.s))) ∨
      InForceBefore ((variantObjs objs k vs out).map sv) o.kind o.payload (o.start + (v.off - v.s)) := by
  intro vs
  induction vs with
  | nil => intro k out off _ _ n v h; simp at h
  | cons w ws ih =>
    intro k out off hok hpos n v hv i o hio hw hs
    obtain ⟨h0, hrest⟩ := hok
    have hposw := hpos w List.mem_cons_self
    have hpos' : ∀ v ∈ ws, v.s < v.e := fun v hv => hpos v (List.mem_cons_of_mem _ hv)
    cases n with
    | zero =>
      simp only [List.getElem?_cons_zero, Option.some.injEq] at hv
      subst hv
      simp only [variantObjs, Nat.add_zero]
      obtain ⟨X, hX, hXs⟩ := variantObjs_later objs ws (k + 1) (out ++ visitCopies objs w k out) (off + (w.e - w.s)) hrest hpos'
      rcases visitCopies_sig objs hsorted w k out i o hio hw hs with ⟨c, hc, hcore⟩ | h
      · exact Or.inl ⟨c, (mem_variantObjs objs ws _ _ c).mpr (Or.inl (List.mem_append_right _ hc)), hcore⟩
      · right
        rw [hX, List.map_append]
        apply inForce_append _ _ _ _ _ h
        intro q hq _
        obtain ⟨q', hq', rfl⟩ := List.mem_map.mp hq
        have := hXs q' hq'
        simp only [inWin, Bool.and_eq_true, decide_eq_true_eq] at hw
        simp only [sv]
        omega
    | succ n =>
      simp only [List.getElem?_cons_succ] at hv
      have e : k + (n + 1) = k + 1 + n := by omega
      simp only [variantObjs]
      rw [e]
      exact ih (k + 1) _ (off + (w.e - w.s)) hrest hpos' n v hv i o hio hw hs

end C09
