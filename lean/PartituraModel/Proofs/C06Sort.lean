/-
`sortBy` and `uniqueSorted` as instances of the shared insertion sorts (Proofs/Lists.lean); the sort by tick is the only
stable arrangement in order of tick; delta/absolute times; `min` of a list.
-/
import PartituraModel.Model.PerfMidi
import Mathlib.Data.List.Perm.Basic
import Mathlib.Tactic.Linarith
import PartituraModel.Proofs.Lists
import PartituraModel.Proofs.Orders

namespace C06Sort
open Model Model.PerfMidi

variable {α : Type}

theorem isSort (le : α → α → Bool) : Lists.IsInsertionSort le (insertBy le) (sortBy le) :=
  ⟨fun _ => rfl, fun _ _ _ => rfl, rfl, fun _ _ => rfl⟩

theorem length_sortBy (le : α → α → Bool) (l : List α) : (sortBy le l).length = l.length :=
  (isSort le).length l

theorem insertBy_congr (le1 le2 : α → α → Bool) (a : α) (s : List α)
    (h : ∀ b ∈ s, le1 a b = le2 a b) : insertBy le1 a s = insertBy le2 a s := by
  induction s with
  | nil => rfl
  | cons b s ih =>
    simp only [insertBy]
    rw [h b (List.mem_cons_self ..), ih (fun c hc => h c (List.mem_cons_of_mem _ hc))]

theorem sortBy_congr_le (le1 le2 : α → α → Bool) (l : List α)
    (h : ∀ a ∈ l, ∀ b ∈ l, le1 a b = le2 a b) : sortBy le1 l = sortBy le2 l := by
  induction l with
  | nil => rfl
  | cons a l ih =>
    simp only [sortBy]
    rw [ih (fun x hx y hy => h x (List.mem_cons_of_mem _ hx) y (List.mem_cons_of_mem _ hy))]
    exact insertBy_congr le1 le2 a _
      (fun b hb => h a (List.mem_cons_self ..) b (List.mem_cons_of_mem _ (((isSort _).mem).mp hb)))

theorem tickLe_order : Lists.TotalPreorder tickLe := .of_key Prod.fst

theorem isUnique : Lists.IsSortedInsert (· < ·) insertU := ⟨fun _ => rfl, fun _ _ _ => rfl⟩

theorem mem_uniqueSorted (l : List Nat) (a : Nat) : a ∈ uniqueSorted l ↔ a ∈ l := isUnique.mem_foldr

theorem strict_uniqueSorted (l : List Nat) : (uniqueSorted l).Pairwise (· < ·) :=
  isUnique.foldr_pairwise Nat.lt_trans (fun h hne => Nat.lt_of_le_of_ne (Nat.le_of_not_lt h) (Ne.symm hne)) l

theorem nodup_uniqueSorted (l : List Nat) : (uniqueSorted l).Nodup :=
  (strict_uniqueSorted l).imp (fun h => Nat.ne_of_lt h)

theorem toAbsFrom_toDeltaFrom (t : Int) (l : Track) : toAbsFrom t (toDeltaFrom t l) = l := by
  induction l generalizing t with
  | nil => rfl
  | cons m l ih =>
    obtain ⟨k, e⟩ := m
    simp only [toDeltaFrom, toAbsFrom]
    have : t + (k - t) = k := by omega
    rw [this, ih]

theorem toAbs_toDelta (l : Track) : toAbs (toDelta l) = l := toAbsFrom_toDeltaFrom 0 l

theorem toDeltaFrom_toAbsFrom (t : Int) (l : Track) : toDeltaFrom t (toAbsFrom t l) = l := by
  induction l generalizing t with
  | nil => rfl
  | cons m l ih =>
    obtain ⟨k, e⟩ := m
    simp only [toDeltaFrom, toAbsFrom]
    have : t + k - t = k := by omega
    rw [this, ih]

theorem toDelta_toAbs (l : Track) : toDelta (toAbs l) = l := toDeltaFrom_toAbsFrom 0 l

theorem minTick_cons (a : Int) (l : List Int) :
    minTick (a :: l) = some ((minTick l).elim a fun m => if a ≤ m then a else m) := by
  rw [minTick]; cases minTick l <;> rfl

theorem minRat_cons (a : Rat) (l : List Rat) :
    minRat (a :: l) = some ((minRat l).elim a fun m => if a ≤ m then a else m) := by
  rw [minRat]; cases minRat l <;> rfl

theorem maxRat_cons (a : Rat) (l : List Rat) :
    maxRat (a :: l) = some ((maxRat l).elim a fun m => if m ≤ a then a else m) := by
  rw [maxRat]; cases maxRat l <;> rfl

theorem minTick_none (l : List Int) : minTick l = none ↔ l = [] :=
  Lists.optMin_none _ rfl minTick_cons

theorem minRat_none (l : List Rat) : minRat l = none ↔ l = [] :=
  Lists.optMin_none _ rfl minRat_cons

theorem maxRat_none (l : List Rat) : maxRat l = none ↔ l = [] :=
  Lists.optMin_none _ rfl maxRat_cons

theorem minTick_spec (l : List Int) (m : Int) (h : minTick l = some m) : m ∈ l ∧ ∀ x ∈ l, m ≤ x :=
  Lists.optMin_spec (le := (· ≤ ·)) _ rfl minTick_cons le_refl (fun _ _ _ => le_trans)
    (fun a m => if h : a ≤ m then Or.inl ⟨if_pos h, h⟩ else Or.inr ⟨if_neg h, le_of_not_ge h⟩) h

theorem maxRat_spec (l : List Rat) (m : Rat) (h : maxRat l = some m) : m ∈ l ∧ ∀ x ∈ l, x ≤ m :=
  Lists.optMin_spec (le := (· ≥ ·)) _ rfl maxRat_cons le_refl (fun _ _ _ h1 h2 => le_trans h2 h1)
    (fun a m => if h : m ≤ a then Or.inl ⟨if_pos h, h⟩ else Or.inr ⟨if_neg h, le_of_not_ge h⟩) h

theorem minRat_spec (l : List Rat) (m : Rat) (h : minRat l = some m) : m ∈ l ∧ ∀ x ∈ l, m ≤ x :=
  Lists.optMin_spec (le := (· ≤ ·)) _ rfl minRat_cons le_refl (fun _ _ _ => le_trans)
    (fun a m => if h : a ≤ m then Or.inl ⟨if_pos h, h⟩ else Or.inr ⟨if_neg h, le_of_not_ge h⟩) h

end C06Sort

namespace C06Stable
open Model Model.PerfMidi C06Sort

/-- the messages of a track at tick `k`, in order -/
def atTick (k : Int) (l : Track) : Track := l.filter (fun m => decide (m.1 = k))

theorem atTick_sortBy (k : Int) (l : Track) : atTick k (sortBy tickLe l) = atTick k l :=
  (isSort tickLe).filter (fun a b ha hb => decide_eq_true ((of_decide_eq_true ha).trans (of_decide_eq_true hb).symm).le) l

theorem sorted_sortBy_tick (l : Track) : (sortBy tickLe l).Pairwise (fun a b => a.1 ≤ b.1) :=
  ((isSort tickLe).pairwise tickLe_order l).imp (fun h => by simpa [tickLe] using h)

/-- the stable sort by tick is the only arrangement in order of tick that keeps, at every tick, the
    messages in their order -/
theorem sortBy_unique (l l' : Track) (hs : l'.Pairwise (fun a b => a.1 ≤ b.1))
    (h : ∀ k, atTick k l' = atTick k l) : sortBy tickLe l = l' :=
  Lists.pairwise_key_ext Int.le_antisymm (fun m : TMsg => m.1) (sorted_sortBy_tick l) hs
    (fun k => (atTick_sortBy k l).trans (h k).symm)

theorem sortBy_congr (l l' : Track) (h : ∀ k, atTick k l = atTick k l') :
    sortBy tickLe l = sortBy tickLe l' :=
  sortBy_unique l _ (sorted_sortBy_tick l') (fun k => by rw [atTick_sortBy, h])

theorem sortBy_idem (l : Track) : sortBy tickLe (sortBy tickLe l) = sortBy tickLe l :=
  (isSort tickLe).eq_self ((isSort tickLe).pairwise tickLe_order l)

theorem atTick_flatMap {γ : Type} (k : Int) (ts : List γ) (f : γ → Track) :
    atTick k (ts.flatMap f) = ts.flatMap (fun t => atTick k (f t)) :=
  List.filter_flatMap

theorem sortBy_flatMap_sortBy {γ : Type} (ts : List γ) (f : γ → Track) :
    sortBy tickLe (ts.flatMap (fun t => sortBy tickLe (f t))) = sortBy tickLe (ts.flatMap f) := by
  refine sortBy_congr _ _ (fun k => ?_)
  rw [atTick_flatMap, atTick_flatMap]
  congr 1
  funext t
  exact atTick_sortBy k (f t)

end C06Stable
