/-
C11 — the concrete bar-end map of `add_measures` (C02's beat maps, `Model.Meas.barEnd`) is what the measure theorems
ask for (`C11Meas.LocalOK`) when every stretch of one time signature lies on one linear piece of the beat map on which
a beat lasts a whole number `L` of divisions; the bar end then has the closed form `n + beats * L`.
-/
import PartituraModel.Proofs.C11Meas
import PartituraModel.Props.C02

namespace C11Bar
open Model Model.Dur Model.Meas C11Meas
open Model.TimeMap C02Proofs

/-- the stretch `x = (start, end, beats)` lies on one linear piece of the (notated) beat map — no quarter-duration
    change strictly inside it — and on that piece a beat lasts `L` divisions:
    `divs = L * fac`, i.e. `L = 4 * quarter_duration / beat_type` -/
def StretchBeat (p : PartM) (x : Nat × Nat × Nat) (L : Nat) : Prop :=
  ∃ (pre post : List KP) (k k' : KP), keypoints (toTimeMapPart p) .notated = pre ++ k :: k' :: post ∧
    k.t ≤ (x.1 : Int) ∧ (x.2.1 : Int) ≤ k'.t ∧ 0 < L ∧ k.divs = (L : Rat) * k.fac

theorem beatMap_eq (p : PartM) (x : Rat) : beatMap (toTimeMapPart p) x = fwd (toTimeMapPart p) .notated x := rfl
theorem invBeatMap_eq (p : PartM) (y : Rat) : invBeatMap (toTimeMapPart p) y = inv (toTimeMapPart p) .notated y := rfl

theorem line_lt (L t y a c b : Rat) (hL : 0 < L) :
    y + (a - t) * (1 / L) < y + (c - t) * (1 / L) + b ↔ a < c + b * L := by
  rw [show y + (c - t) * (1 / L) + b = y + (c + b * L - t) * (1 / L) by field_simp; ring,
    add_lt_add_iff_left, mul_lt_mul_iff_left₀ (one_div_pos.mpr hL), sub_lt_sub_iff_right]

theorem barEnd_on_line (tp : TimeMap.Part) (hwf : WF tp .notated) (L t y n e b last bl : Rat) (hL : 0 < L)
    (hline : ∀ x, n ≤ x → x ≤ e → fwd tp .notated x = some (y + (x - t) * (1 / L))) (hne : n ≤ e) (hb : 0 ≤ b)
    (hel : e ≤ last) (hbl : fwd tp .notated last = some bl) (v : Rat)
    (h : inv tp .notated (pyMin (y + (n - t) * (1 / L) + b) bl) = some v) :
    (v = n + b * L ∧ n + b * L ≤ e) ∨ (e ≤ v ∧ e < n + b * L) := by
  have hfe := hline e hne le_rfl
  unfold pyMin at h
  split at h
  · -- the end of the part comes first
    rename_i hlt
    rw [C02.inv_fwd tp .notated hwf _ _ hbl] at h
    cases h
    exact Or.inr ⟨hel, (line_lt L t y e n b hL).mp
      (lt_of_le_of_lt (C02.fwd_mono tp .notated hwf e last _ _ hel hfe hbl) hlt)⟩
  · by_cases hc : n + b * L ≤ e
    · -- a whole bar fits
      have hfc := hline (n + b * L) (le_add_of_nonneg_right (mul_nonneg hb hL.le)) hc
      rw [show y + (n + b * L - t) * (1 / L) = y + (n - t) * (1 / L) + b by field_simp; ring] at hfc
      rw [C02.inv_fwd tp .notated hwf _ _ hfc] at h
      cases h
      exact Or.inl ⟨rfl, hc⟩
    · -- the bar would end beyond the stretch
      refine Or.inr ⟨le_of_not_gt fun hve => ?_, not_le.mp hc⟩
      have := C02.fwd_strictMono tp .notated hwf v e _ _ hve (C02.fwd_inv tp .notated hwf _ _ h) hfe
      exact not_lt.mpr this.le ((line_lt L t y e n b hL).mpr (not_le.mp hc))

theorem barEnd_linear (p : PartM) (hwf : WF (toTimeMapPart p) .notated) (s e b L : Nat)
    (hfs : p.first ≤ s) (hel : e ≤ p.last) (hlin : StretchBeat p (s, e, b) L) (n : Nat) (hsn : s ≤ n) (hne : n < e)
    (v : Rat) (h : barEnd p (n : Rat) b = some v) :
    (v = ((n + b * L : Nat) : Rat) ∧ n + b * L ≤ e) ∨ ((e : Rat) ≤ v ∧ e < n + b * L) := by
  obtain ⟨pre, post, k, k', hk, hks, hek, hL, hdiv⟩ := hlin
  simp only at hks hek
  have hkm : k ∈ keypoints (toTimeMapPart p) .notated := by rw [hk]; simp
  obtain ⟨hdpos, hfpos⟩ := (keypoints_ok (toTimeMapPart p) .notated hwf).1.2 k hkm
  have hLq : (0 : Rat) < (L : Rat) := by exact_mod_cast hL
  have hr : k.fac / k.divs = 1 / (L : Rat) := by
    rw [hdiv, div_mul_cancel_right₀ (ne_of_gt hfpos), one_div]
  have hkn : ((k.t : Int) : Rat) ≤ (n : Rat) := by exact_mod_cast hks.trans (by exact_mod_cast hsn)
  have hek' : (e : Rat) ≤ ((k'.t : Int) : Rat) := by exact_mod_cast hek
  obtain ⟨yk, hyk, _⟩ := C02.fwd_segment (toTimeMapPart p) .notated hwf pre post k k' hk (n : Rat) hkn
    ((Nat.cast_le.mpr hne.le).trans hek')
  have hline : ∀ x : Rat, (n : Rat) ≤ x → x ≤ (e : Rat) →
      fwd (toTimeMapPart p) .notated x = some (yk + (x - (k.t : Rat)) * (1 / (L : Rat))) := by
    intro x h1 h2
    obtain ⟨yk', hyk', hfx⟩ := C02.fwd_segment (toTimeMapPart p) .notated hwf pre post k k' hk x (hkn.trans h1) (h2.trans hek')
    rw [hyk] at hyk'
    cases hyk'
    rw [hfx, hr]
  have hfl : (((toTimeMapPart p).first : Int) : Rat) ≤ ((toTimeMapPart p).last : Rat) := by
    show (((p.first : Nat) : Int) : Rat) ≤ (((p.last : Nat) : Int) : Rat)
    exact_mod_cast (by omega : p.first ≤ p.last)
  obtain ⟨bl, hbl⟩ := C02.fwd_defined (toTimeMapPart p) .notated hwf ((toTimeMapPart p).last : Rat) hfl le_rfl
  rw [show (((toTimeMapPart p).last : Int) : Rat) = (p.last : Rat) from Int.cast_natCast _] at hbl
  unfold barEnd at h
  simp only [beatMap_eq, invBeatMap_eq, hline n le_rfl (Nat.cast_le.mpr hne.le), hbl] at h
  have := barEnd_on_line (toTimeMapPart p) hwf L k.t yk n e b p.last bl hLq hline (Nat.cast_le.mpr hne.le)
    (Nat.cast_nonneg b) (Nat.cast_le.mpr hel) hbl v h
  exact_mod_cast this

/-- the side condition for real parts: positive divisions and signature numbers (`WF`), every stretch has a positive
    number of beats per bar, and every non-empty stretch is linear with a whole number of divisions per beat -/
def BarsIntegral (p : PartM) (l : List (Nat × Nat × Nat)) : Prop :=
  WF (toTimeMapPart p) .notated ∧ ∀ x ∈ l, 0 < x.2.2 ∧ (x.1 < x.2.1 → ∃ L, StretchBeat p x L)

theorem barEnd_localOK (p : PartM) (l : List (Nat × Nat × Nat)) (hsc : SC p.first p.last l) (hb : BarsIntegral p l) :
    AllLocalOK (barEnd p) l := by
  intro x hx n hlo hhi v hv
  obtain ⟨s, e, b⟩ := x
  simp only at hlo hhi hv
  obtain ⟨hbpos, hlin⟩ := hb.2 (s, e, b) hx
  simp only at hbpos hlin
  obtain ⟨L, hL⟩ := hlin (by omega)
  obtain ⟨b1, b2⟩ := sc_bounds l _ _ hsc (s, e, b) hx
  have hLpos : 0 < L := by obtain ⟨_, _, _, _, _, _, _, h, _⟩ := hL; exact h
  rcases barEnd_linear p hb.1 s e b L b1 b2 hL n hlo hhi v hv with ⟨h1, h2⟩ | ⟨h1, h2⟩
  · refine ⟨?_, fun _ => ⟨_, h1⟩⟩
    rw [h1]
    have : 0 < b * L := Nat.mul_pos hbpos hLpos
    exact_mod_cast (by omega : n < n + b * L)
  · refine ⟨lt_of_lt_of_le (by exact_mod_cast hhi) h1, ?_⟩
    intro hc
    exact absurd h1 (not_le.mpr hc)

theorem add_measures_real (p : PartM) (fuel : Nat) (l : List (Nat × Nat × Nat)) (ms' : List Measure) (hok : TsOK p)
    (hl : stretches p = some l) (hex : ExistingOK p l) (hb : BarsIntegral p l) (h : addMeasures p fuel = .ok ms') :
    TN p.first 1 ms' p.last (1 + (ms'.length : Int)) ∧ (p.measures.map ext).Sublist (ms'.map ext) ∧
    ∀ m ∈ ms', (∃ x ∈ p.measures, ext x = ext m) ∨ ∃ x ∈ l, JSeg (barEnd p) p.measures x.1 x.2.1 x.2.2 m :=
  add_measures_sound _ p fuel l ms' (barEnd_localOK p l (stretches_chain p hok l hl) hb) hok hl hex h

end C11Bar
