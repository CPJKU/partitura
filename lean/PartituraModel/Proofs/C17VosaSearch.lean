/-
C17: the modelled search `Vosa.search` never answers `none` on a non-empty array (`search_isSome`).  First the
crystallisation loop (`VoSA.estimate_voices`): it never answers `none` from a well-formed context (`CtxWF`) and state
(`StWF`), every step is a `Grows`; a lemma `foo_ok` says that `foo` of Model/Vosa.lean answers `some` under these
invariants, and what of them its answer keeps.  Then: the context `search` builds from the contigs is well-formed.
-/
import PartituraModel.Proofs.C17VosaContigs
import PartituraModel.Proofs.Forall2

namespace C17VosaLoop
open Model Model.Vosa C17VosaContigs

/-- the context `search` builds: stream numbers and row numbers are in range, a contig has as many
    first notes as streams, at most as many last notes, at most `numV` streams; a maximal contig has
    exactly `numV` streams -/
structure CtxWF (ctx : Ctx) (n : Nat) : Prop where
  streams_ix : ∀ (sid : Nat) (s : Stream), ctx.streams[sid]? = some s → s.first.ix < n ∧ s.last.ix < n
  contig_ok : ∀ c ∈ ctx.contigs.toList, (∀ sid ∈ c.sids, sid < ctx.streams.size) ∧
    c.first.length = c.sids.length ∧ c.last.length ≤ c.sids.length ∧ c.sids.length ≤ ctx.numV ∧
    (∀ x ∈ c.first, x.ix < n) ∧ (∀ x ∈ c.last, x.ix < n)
  max_full : ∀ mci ∈ ctx.maxIdx, ∃ c, ctx.contigs[mci]? = some c ∧ c.sids.length = ctx.numV

/-- the state of the loop: one `skip_contig` per row, one `_voice` per stream, one voice manager per maximal contig with
    `numV` voices that hold numbers of existing streams; the voices left unassigned by the last forward / backward step exist -/
structure StWF (ctx : Ctx) (n : Nat) (st : St) : Prop where
  skip_size : st.skip.size = n
  sv_size : st.sv.size = ctx.streams.size
  vms_size : st.vms.size = ctx.maxIdx.length
  vm_ok : ∀ (k : Nat) (vm : Array (List Nat)), st.vms[k]? = some vm → vm.size = ctx.numV ∧
    ∀ (es : Nat) (voice : List Nat), vm[es]? = some voice → ∀ sid ∈ voice, sid < ctx.streams.size
  fun_ok : ∀ es ∈ st.fUn, es < ctx.numV
  bun_ok : ∀ es ∈ st.bUn, es < ctx.numV

/-- `Voice` number `es` of voice manager `k` holds a stream -/
def VNE (st : St) (k es : Nat) : Prop :=
  ∀ (vm : Array (List Nat)) (voice : List Nat), st.vms[k]? = some vm → vm[es]? = some voice → voice ≠ []

/-- `st'` is well-formed and every voice that held a stream in `st` holds one in `st'`: what every step of the
    loop does to the state -/
def Grows (ctx : Ctx) (n : Nat) (st st' : St) : Prop :=
  StWF ctx n st' ∧ ∀ k es, VNE st k es → VNE st' k es

theorem Grows.refl {ctx : Ctx} {n : Nat} {st : St} (h : StWF ctx n st) : Grows ctx n st st :=
  ⟨h, fun _ _ h => h⟩

theorem Grows.trans {ctx : Ctx} {n : Nat} {a b c : St} (h1 : Grows ctx n a b) (h2 : Grows ctx n b c) :
    Grows ctx n a c :=
  ⟨h2.1, fun k es h => h2.2 k es (h1.2 k es h)⟩

theorem stampStream_isSome (ctx : Ctx) (v : Int) (voice : Array (Option Int)) (sid : Nat)
    (h : sid < ctx.streams.size) : ∃ voice', stampStream ctx v voice sid = some voice' := by
  simp only [stampStream, Array.getElem?_eq_getElem h, Option.map_some]
  exact ⟨_, rfl⟩

theorem setStreamVoice_ok (ctx : Ctx) (st : St) (sid : Nat) (v : Int)
    (h1 : sid < st.sv.size) (h2 : sid < ctx.streams.size) :
    ∃ voice', setStreamVoice ctx st sid v =
      some { st with sv := st.sv.setIfInBounds sid (some v), voice := voice' } := by
  obtain ⟨voice', hv⟩ := stampStream_isSome ctx v st.voice sid h2
  exact ⟨voice', by simp [setStreamVoice, h1, hv]⟩

theorem sortSids_ok (ctx : Ctx) (sids : List Nat) (h : ∀ s ∈ sids, s < ctx.streams.size) :
    ∃ new, sortSids ctx sids = some new ∧ new.Perm sids := by
  let g : Nat → Rat × Nat := fun s => (((ctx.streams[s]?).map (·.onset)).getD 0, s)
  have hm : (sids.mapM fun s => (streamOnset ctx s).map fun o => (o, s)) = some (sids.map g) := by
    apply Lists.mapM_eq_some_of_forall
    intro s hs
    simp [streamOnset, g, Array.getElem?_eq_getElem (h s hs)]
  refine ⟨(isort (fun a b : Rat × Nat => decide (a.1 ≤ b.1)) (sids.map g)).map (·.2),
    by simp only [sortSids, hm, Option.map_some], ?_⟩
  have hp := ((C17S.isSort (fun a b : Rat × Nat => decide (a.1 ≤ b.1))).perm (sids.map g)).map (·.2)
  refine hp.trans ?_
  simp [List.map_map, Function.comp_def, g]

theorem stampFold_isSome (ctx : Ctx) (v : Int) : ∀ (l : List Nat) (voice : Array (Option Int)),
    (∀ s ∈ l, s < ctx.streams.size) → ∃ voice', l.foldlM (fun a s => stampStream ctx v a s) voice = some voice' := by
  intro l voice h
  obtain ⟨v', hv, _⟩ := Lists.foldlM_inv (fun a s => stampStream ctx v a s) (fun _ => True) l voice trivial
    (fun a s hs _ => by obtain ⟨x, hx⟩ := stampStream_isSome ctx v a s (h s hs); exact ⟨x, hx, trivial⟩)
  exact ⟨v', hv⟩

theorem vappend_ok (ctx : Ctx) (n : Nat) (k es sid : Nat) (st : St) (hst : StWF ctx n st)
    (hk : k < st.vms.size) (hes : es < ctx.numV) (hsid : sid < ctx.streams.size) :
    ∃ st', vappend ctx k es sid st = some st' ∧ Grows ctx n st st' ∧ VNE st' k es := by
  obtain ⟨voice1, h1⟩ := setStreamVoice_ok ctx st sid es (by rw [hst.sv_size]; exact hsid) hsid
  have hvm : st.vms[k]? = some st.vms[k] := Array.getElem?_eq_getElem hk
  obtain ⟨hsz, hvoices⟩ := hst.vm_ok k _ hvm
  have hes' : es < (st.vms[k]).size := by rw [hsz]; exact hes
  have hold : (st.vms[k])[es]? = some (st.vms[k])[es] := Array.getElem?_eq_getElem hes'
  have hvalid : ∀ s ∈ (st.vms[k])[es] ++ [sid], s < ctx.streams.size := by
    intro s hs
    rcases List.mem_append.mp hs with h | h
    · exact hvoices es _ hold s h
    · simp at h; rw [h]; exact hsid
  obtain ⟨new, hnew, hperm⟩ := sortSids_ok ctx _ hvalid
  have hnewvalid : ∀ s ∈ new, s < ctx.streams.size := fun s hs => hvalid s (hperm.subset hs)
  obtain ⟨voice2, h2⟩ := stampFold_isSome ctx es new voice1 hnewvalid
  have hnewne : new ≠ [] := by
    intro e
    have := hperm.length_eq
    rw [e] at this
    simp at this
  -- a voice of the new voice managers is the voice just rebuilt or the voice it was
  have hcell : ∀ (k' : Nat) (vm' : Array (List Nat)), (st.vms.setIfInBounds k ((st.vms[k]).setIfInBounds es new))[k']? = some vm' →
      ∃ vm0, st.vms[k']? = some vm0 ∧ vm'.size = vm0.size ∧
        ∀ (es' : Nat) (voice : List Nat), vm'[es']? = some voice → voice = new ∨ vm0[es']? = some voice := by
    intro k' vm' hk'
    by_cases hkk : k = k'
    · subst hkk
      simp only [Array.getElem?_setIfInBounds_self, hk, if_true, Option.some.injEq] at hk'
      subst hk'
      refine ⟨_, hvm, by simp, fun es' voice hv' => ?_⟩
      by_cases hee : es = es'
      · subst hee
        simp only [Array.getElem?_setIfInBounds_self, hes', if_true, Option.some.injEq] at hv'
        exact Or.inl hv'.symm
      · rw [Array.getElem?_setIfInBounds_ne hee] at hv'
        exact Or.inr hv'
    · rw [Array.getElem?_setIfInBounds_ne hkk] at hk'
      exact ⟨vm', hk', rfl, fun _ _ h => Or.inr h⟩
  refine ⟨{ st with sv := st.sv.setIfInBounds sid (some (es : Int)), voice := voice2,
                     vms := st.vms.setIfInBounds k ((st.vms[k]).setIfInBounds es new) }, ?_, ⟨?_, ?_⟩, ?_⟩
  · simp only [vappend, Option.bind_eq_bind, h1, Option.bind_some, hvm, hold, hnew, h2, Option.pure_def]
  · refine ⟨hst.skip_size, by simp [hst.sv_size], by simp [hst.vms_size], ?_, hst.fun_ok, hst.bun_ok⟩
    intro k' vm' hk'
    obtain ⟨vm0, h0, hsz', hc⟩ := hcell k' vm' hk'
    refine ⟨by rw [hsz', (hst.vm_ok k' vm0 h0).1], fun es' voice hv' => ?_⟩
    rcases hc es' voice hv' with rfl | h
    · exact hnewvalid
    · exact (hst.vm_ok k' vm0 h0).2 es' voice h
  · intro k' es' hne vm voice hvm' hv'
    obtain ⟨vm0, h0, _, hc⟩ := hcell k' vm hvm'
    rcases hc es' voice hv' with rfl | h
    · exact hnewne
    · exact hne vm0 voice h0 h
  · intro vm voice hvm' hv'
    simp only [Array.getElem?_setIfInBounds_self, hk, if_true, Option.some.injEq] at hvm'
    subst hvm'
    simp only [Array.getElem?_setIfInBounds_self, hes', if_true, Option.some.injEq] at hv'
    subst hv'
    exact hnewne

/-- all voices of voice manager `vm` hold a stream, and every stream number is in range -/
def VmOK (ctx : Ctx) (vm : Array (List Nat)) : Prop :=
  vm.size = ctx.numV ∧ ∀ (es : Nat) (voice : List Nat), vm[es]? = some voice →
    voice ≠ [] ∧ ∀ sid ∈ voice, sid < ctx.streams.size

/-- the stream at the end of a voice that holds one exists, and so does the row of its end note -/
theorem end_ok (ctx : Ctx) (n : Nat) (hctx : CtxWF ctx n) (voice : List Nat) (last : Bool)
    (hne : voice ≠ []) (hv : ∀ sid ∈ voice, sid < ctx.streams.size) :
    ∃ s str, (if last then voice.getLast? else voice.head?) = some s ∧ ctx.streams[s]? = some str ∧
      (if last then str.last else str.first).ix < n := by
  have hs : ∃ s, (if last then voice.getLast? else voice.head?) = some s ∧ s ∈ voice := by
    cases last with
    | true => exact ⟨voice.getLast hne, by simp [List.getLast?_eq_some_getLast hne], List.getLast_mem hne⟩
    | false => exact ⟨voice.head hne, by simp [List.head?_eq_some_head hne], List.head_mem hne⟩
  obtain ⟨s, hs1, hs2⟩ := hs
  have hlt := hv s hs2
  have hix := hctx.streams_ix s _ (Array.getElem?_eq_getElem hlt)
  refine ⟨s, ctx.streams[s], hs1, Array.getElem?_eq_getElem hlt, ?_⟩
  cases last <;> simp [hix.1, hix.2]

theorem voiceEnds_ok (ctx : Ctx) (n : Nat) (hctx : CtxWF ctx n) (vm : Array (List Nat)) (last : Bool)
    (hvm : VmOK ctx vm) :
    ∃ l, voiceEnds ctx vm last = some l ∧ l.length = ctx.numV ∧ ∀ x ∈ l, x.ix < n := by
  obtain ⟨l, hl, hlen, hix⟩ := Lists.mapM_ok (fun sids : List Nat => (if last then sids.getLast? else sids.head?).bind fun s =>
      ctx.streams[s]?.map fun str => if last then str.last else str.first) (fun x => x.ix < n) vm.toList
    (fun voice hvoice => by
      obtain ⟨es, hes, rfl⟩ := List.mem_iff_getElem.mp hvoice
      have hes' : es < vm.size := by simpa using hes
      have hget : vm[es]? = some (vm.toList[es]) := by simp [Array.getElem?_eq_getElem hes']
      obtain ⟨s, str, h1, h2, h3⟩ := end_ok ctx n hctx _ last (hvm.2 es _ hget).1 (hvm.2 es _ hget).2
      exact ⟨_, by rw [h1, Option.bind_some, h2, Option.map_some], h3⟩)
  exact ⟨l, hl, by rw [hlen]; simpa using hvm.1, hix⟩

theorem bumpSkip_ok (ctx : Ctx) (n : Nat) (hctx : CtxWF ctx n) (vm : Array (List Nat)) (last : Bool)
    (hvm : VmOK ctx vm) (skip : Array Nat) (hs : skip.size = n) (es : Nat) (hes : es < ctx.numV) :
    ∃ skip', bumpSkip ctx vm last skip es = some skip' ∧ skip'.size = n := by
  have hes' : es < vm.size := by rw [hvm.1]; exact hes
  have hvoice := hvm.2 es _ (Array.getElem?_eq_getElem hes')
  obtain ⟨s, str, h1, h2, h3⟩ := end_ok ctx n hctx _ last hvoice.1 hvoice.2
  refine ⟨skip.modify (if last then str.last else str.first).ix (· + 1), ?_, by simp [hs]⟩
  have hb : (if last then str.last else str.first).ix < skip.size := hs ▸ h3
  cases last <;> simp only [Bool.false_eq_true, if_false, if_true] at h1 hb ⊢ <;>
    simp only [bumpSkip, Option.bind_eq_bind, Array.getElem?_eq_getElem hes', Option.bind_some, Bool.false_eq_true,
      if_false, if_true, h1, h2, hb, Option.pure_def]

theorem cost1_isSome (skip : Array Nat) (c x : N) (hc : c.ix < skip.size) (hx : x.ix < skip.size) :
    ∃ v, cost1 skip c x = some v := by
  unfold cost1
  split
  · exact ⟨_, rfl⟩
  · simp only [Array.getElem?_eq_getElem hc, Array.getElem?_eq_getElem hx]
    split <;> exact ⟨_, rfl⟩

theorem pairwiseCost_ok (skip : Array Nat) (nxt : List N) (hn : ∀ x ∈ nxt, x.ix < skip.size)
    (prev : List N) (hp : ∀ x ∈ prev, x.ix < skip.size) :
    ∃ cost, pairwiseCost skip prev nxt = some cost ∧ cost.length = prev.length ∧ C17S.Rect cost nxt.length :=
  Lists.mapM_ok (fun c => nxt.mapM fun x => cost1 skip c x) (fun row => row.length = nxt.length) prev (fun c hc => by
    obtain ⟨row, hr, hl, _⟩ := Lists.mapM_ok (fun x => cost1 skip c x) (fun _ => True) nxt (fun x hx => by
      obtain ⟨v, hv⟩ := cost1_isSome skip c x (hp c hc) (hn x hx)
      exact ⟨v, hv, trivial⟩)
    exact ⟨row, hr, hl⟩)

theorem transpose_ok (C : Nat) (m : List (List Int)) (hrect : C17S.Rect m C) :
    ∃ con, transpose C m = some con ∧ con.length = C ∧ C17S.Rect con m.length := by
  obtain ⟨con, h1, h2, h3⟩ := Lists.mapM_ok (fun j => m.mapM fun row => row[j]?) (fun col => col.length = m.length)
    (List.range C) (fun j hj => by
      obtain ⟨col, hc, hl, _⟩ := Lists.mapM_ok (fun row : List Int => row[j]?) (fun _ => True) m (fun row hrow =>
        ⟨row[j]'(by rw [hrect row hrow]; exact List.mem_range.mp hj), List.getElem?_eq_getElem _, trivial⟩)
      exact ⟨col, hc, hl⟩)
  exact ⟨con, h1, by simpa using h2, h3⟩

theorem estBest_bounds (cost : List (List Int)) (C nA : Nat) (hrect : C17S.Rect cost C)
    (hR : nA ≤ cost.length) (hC : nA ≤ C) :
    (∀ x ∈ (estBest cost nA).1, x.1 < cost.length ∧ x.2 < C) ∧ ∀ i ∈ (estBest cost nA).2, i < cost.length := by
  constructor
  · have h := C17S.bestAux_matching cost C hrect nA [] [] List.nodup_nil List.nodup_nil (by simpa using hR) (by simpa using hC)
    exact h.2.2
  · intro i hi
    simp only [estBest, List.mem_filter, List.mem_range] at hi
    exact hi.1

theorem vmOK_of (ctx : Ctx) (n : Nat) (st : St) (hst : StWF ctx n st) (k : Nat) (hk : k < st.vms.size)
    (hfull : ∀ es, VNE st k es) : VmOK ctx st.vms[k] := by
  have hvm : st.vms[k]? = some st.vms[k] := Array.getElem?_eq_getElem hk
  obtain ⟨h1, h2⟩ := hst.vm_ok k _ hvm
  exact ⟨h1, fun es voice hv => ⟨hfull es _ _ hvm hv, h2 es voice hv⟩⟩

theorem appendFold_ok (ctx : Ctx) (n : Nat) (k : Nat) (sids : List Nat)
    (hsids : ∀ sid ∈ sids, sid < ctx.streams.size) (best : List (Nat × Nat))
    (hbest : ∀ x ∈ best, x.1 < ctx.numV ∧ x.2 < sids.length)
    (st : St) (hst : StWF ctx n st) (hk : k < st.vms.size) :
    ∃ st', best.foldlM (fun st (x : Nat × Nat) => sids[x.2]?.bind fun sid => vappend ctx k x.1 sid st) st = some st' ∧
      Grows ctx n st st' := by
  apply Lists.foldlM_inv _ (Grows ctx n st) best st (.refl hst)
  intro s x hx hs
  obtain ⟨h1, h2⟩ := hbest x hx
  have hk' : k < s.vms.size := by rw [hs.1.vms_size, ← hst.vms_size]; exact hk
  obtain ⟨s', e, hs', _⟩ := vappend_ok ctx n k x.1 (sids[x.2]) s hs.1 hk' h1 (hsids _ (List.getElem_mem h2))
  exact ⟨s', by simp [List.getElem?_eq_getElem h2, e], hs.trans hs'⟩

theorem skipFold_ok (ctx : Ctx) (n : Nat) (hctx : CtxWF ctx n) (vm : Array (List Nat)) (last : Bool)
    (hvm : VmOK ctx vm) (un : List Nat) (hun : ∀ es ∈ un, es < ctx.numV) (skip : Array Nat) (hs : skip.size = n) :
    ∃ skip', un.foldlM (bumpSkip ctx vm last) skip = some skip' ∧ skip'.size = n :=
  Lists.foldlM_inv (bumpSkip ctx vm last) (fun s => s.size = n) un skip hs
    (fun s es hes hsz => bumpSkip_ok ctx n hctx vm last hvm s hsz es (hun es hes))

/-- what both halves of a visit do with their cost matrix (rows = the voices, at most as many columns as the neighbour has
    streams): the unassigned rows are voices, and the connections found are appended from any well-formed state -/
theorem connect_ok (ctx : Ctx) (n k : Nat) (sids : List Nat) (hsids : ∀ sid ∈ sids, sid < ctx.streams.size)
    (cost : List (List Int)) (C nA : Nat) (hrect : C17S.Rect cost C) (hrows : cost.length = ctx.numV)
    (hR : nA ≤ ctx.numV) (hC : nA ≤ C) (hCs : C ≤ sids.length) :
    (∀ es ∈ (estBest cost nA).2, es < ctx.numV) ∧ ∀ st, StWF ctx n st → k < st.vms.size →
      ∃ st', (estBest cost nA).1.foldlM (fun st (x : Nat × Nat) => sids[x.2]?.bind fun sid => vappend ctx k x.1 sid st) st
        = some st' ∧ Grows ctx n st st' := by
  have hb := estBest_bounds cost C nA hrect (hrows ▸ hR) hC
  rw [hrows] at hb
  exact ⟨hb.2, fun st hst hk => appendFold_ok ctx n k sids hsids _
    (fun x hx => ⟨(hb.1 x hx).1, lt_of_lt_of_le (hb.1 x hx).2 hCs⟩) st hst hk⟩

theorem forward_ok (ctx : Ctx) (n : Nat) (hctx : CtxWF ctx n) (k : Nat) (nx : Contig) (st : St)
    (hst : StWF ctx n st) (hk : k < st.vms.size) (hfull : ∀ es, VNE st k es) (hnx : nx ∈ ctx.contigs.toList) :
    ∃ st', forward ctx k nx st = some st' ∧ Grows ctx n st st' := by
  have hvm := vmOK_of ctx n st hst k hk hfull
  obtain ⟨hsid, hfl, _, hle, hfix, _⟩ := hctx.contig_ok nx hnx
  obtain ⟨skip', hsk, hsz⟩ := skipFold_ok ctx n hctx _ true hvm st.fUn hst.fun_ok st.skip hst.skip_size
  obtain ⟨prev, hprev, hpl, hpix⟩ := voiceEnds_ok ctx n hctx _ true hvm
  obtain ⟨cost, hcost, hcl, hrect⟩ := pairwiseCost_ok skip' nx.first (fun x hx => by rw [hsz]; exact hfix x hx)
    prev (fun x hx => by rw [hsz]; exact hpix x hx)
  obtain ⟨hun, happ⟩ := connect_ok ctx n k nx.sids hsid cost nx.first.length nx.first.length hrect (hcl.trans hpl)
    (hfl ▸ hle) le_rfl hfl.le
  rcases hE : estBest cost nx.first.length with ⟨best, un⟩
  rw [hE] at hun happ
  obtain ⟨st', e, h1⟩ := happ { st with skip := skip', fUn := un }
    ⟨hsz, hst.sv_size, hst.vms_size, hst.vm_ok, hun, hst.bun_ok⟩ hk
  refine ⟨st', ?_, h1⟩
  simp only [forward, Option.bind_eq_bind, Array.getElem?_eq_getElem hk, Option.bind_some, hsk, hprev, hcost, hE]
  exact e

/-- `forward_ok` with the first notes of the voices (`last := false`) and the transposed matrix -/
theorem backward_ok (ctx : Ctx) (n : Nat) (hctx : CtxWF ctx n) (k : Nat) (pv : Contig) (st : St)
    (hst : StWF ctx n st) (hk : k < st.vms.size) (hfull : ∀ es, VNE st k es) (hpv : pv ∈ ctx.contigs.toList) :
    ∃ st', backward ctx k pv st = some st' ∧ Grows ctx n st st' := by
  have hvm := vmOK_of ctx n st hst k hk hfull
  obtain ⟨hsid, _, hll, hle, _, hlix⟩ := hctx.contig_ok pv hpv
  obtain ⟨skip', hsk, hsz⟩ := skipFold_ok ctx n hctx _ false hvm st.bUn hst.bun_ok st.skip hst.skip_size
  obtain ⟨nxt, hnxt, hnl, hnix⟩ := voiceEnds_ok ctx n hctx _ false hvm
  obtain ⟨cost, hcost, hcl, hrect⟩ := pairwiseCost_ok skip' nxt (fun x hx => by rw [hsz]; exact hnix x hx)
    pv.last (fun x hx => by rw [hsz]; exact hlix x hx)
  obtain ⟨con, hcon, hconl, hcrect⟩ := transpose_ok nxt.length cost hrect
  obtain ⟨hun, happ⟩ := connect_ok ctx n k pv.sids hsid con pv.last.length pv.last.length (hcl ▸ hcrect) (hconl.trans hnl)
    (le_trans hll hle) le_rfl hll
  rcases hE : estBest con pv.last.length with ⟨best, un⟩
  rw [hE] at hun happ
  obtain ⟨st', e, h1⟩ := happ { st with skip := skip', bUn := un }
    ⟨hsz, hst.sv_size, hst.vms_size, hst.vm_ok, hst.fun_ok, hun⟩ hk
  refine ⟨st', ?_, h1⟩
  simp only [backward, Option.bind_eq_bind, Array.getElem?_eq_getElem hk, Option.bind_some, hsk, hnxt, hcost, hcon, hE]
  exact e

theorem pyGet_mem (a : Array Contig) (i : Int) (c : Contig) (h : pyGet a i = some c) : c ∈ a.toList := by
  unfold pyGet at h
  split at h
  · exact Array.mem_toList_iff.mpr (Array.mem_of_getElem? h)
  · split at h
    · exact Array.mem_toList_iff.mpr (Array.mem_of_getElem? h)
    · exact absurd h (by simp)

theorem visit_ok (ctx : Ctx) (n : Nat) (hctx : CtxWF ctx n) (nix : Nat) (st : St) (mk : Nat × Nat)
    (hst : StWF ctx n st) (hk : mk.2 < st.vms.size) (hfull : ∀ es, VNE st mk.2 es) :
    ∃ st', visit ctx nix st mk = some st' ∧ Grows ctx n st st' := by
  obtain ⟨mci, k⟩ := mk
  simp only at hk hfull
  have hbw : ∀ st1, StWF ctx n st1 → k < st1.vms.size → (∀ es, VNE st1 k es) →
      ∃ st2, (match pyGet ctx.contigs ((mci : Int) - ((nix : Int) - 1)), pyGet ctx.contigs ((mci : Int) - (nix : Int)) with
      | some _, some pv => if hasVoiceInfo st1 pv then some st1 else backward ctx k pv st1
      | _, _ => some st1) = some st2 ∧ Grows ctx n st1 st2 := by
    intro st1 hst1 hk1 hfull1
    cases hb : pyGet ctx.contigs ((mci : Int) - ((nix : Int) - 1)) with
    | none => exact ⟨st1, rfl, .refl hst1⟩
    | some bc =>
      cases hp : pyGet ctx.contigs ((mci : Int) - (nix : Int)) with
      | none => exact ⟨st1, rfl, .refl hst1⟩
      | some pv =>
        simp only
        split
        · exact ⟨st1, rfl, .refl hst1⟩
        · exact backward_ok ctx n hctx k pv st1 hst1 hk1 hfull1 (pyGet_mem _ _ _ hp)
  simp only [visit, Option.bind_eq_bind]
  cases hf : pyGet ctx.contigs ((mci : Int) + ((nix : Int) - 1)) with
  | none => simp only [Option.bind_some]; exact hbw st hst hk hfull
  | some fc =>
    cases hn : pyGet ctx.contigs ((mci : Int) + (nix : Int)) with
    | none => simp only [Option.bind_some]; exact hbw st hst hk hfull
    | some nx =>
      simp only
      split
      · simp only [Option.bind_some]; exact hbw st hst hk hfull
      · obtain ⟨st1, e1, h1⟩ := forward_ok ctx n hctx k nx st hst hk hfull (pyGet_mem _ _ _ hn)
        have hk1 : k < st1.vms.size := by rw [h1.1.vms_size, ← hst.vms_size]; exact hk
        obtain ⟨st2, e2, h2⟩ := hbw st1 h1.1 hk1 (fun es => h1.2 k es (hfull es))
        exact ⟨st2, by simp only [e1, Option.bind_some]; exact e2, h1.trans h2⟩

/-- every voice of every voice manager holds a stream -/
def AllFull (ctx : Ctx) (st : St) : Prop := ∀ k, k < ctx.maxIdx.length → ∀ es, VNE st k es

theorem pass_ok (ctx : Ctx) (n : Nat) (hctx : CtxWF ctx n) (nix : Nat) (st : St)
    (hst : StWF ctx n st) (hfull : AllFull ctx st) :
    ∃ st', ctx.maxIdx.zipIdx.foldlM (visit ctx nix) st = some st' ∧ StWF ctx n st' ∧ AllFull ctx st' := by
  apply Lists.foldlM_inv (visit ctx nix) (fun s => StWF ctx n s ∧ AllFull ctx s) _ st ⟨hst, hfull⟩
  intro s mk hmk ⟨hs, hf⟩
  have hk : mk.2 < ctx.maxIdx.length := by
    have := List.mem_zipIdx hmk
    simp at this; omega
  obtain ⟨s', e, hs'⟩ := visit_ok ctx n hctx nix s mk hs (by rw [hs.vms_size]; exact hk) (hf mk.2 hk)
  exact ⟨s', e, hs'.1, fun k' hk' es => hs'.2 k' es (hf k' hk' es)⟩

theorem crystallise_ok (ctx : Ctx) (n : Nat) (hctx : CtxWF ctx n) : ∀ (rem : Nat) (st : St),
    StWF ctx n st → AllFull ctx st → ∃ st', crystallise ctx rem st = some st' := by
  intro rem
  induction rem with
  | zero => intro st _ _; exact ⟨st, rfl⟩
  | succ r ih =>
    intro st hst hfull
    obtain ⟨st1, e, hst1, hf1⟩ := pass_ok ctx n hctx (ctx.nTimepoints + 1 - r) st hst hfull
    simp only [crystallise, e, Option.bind_some]
    split
    · exact ⟨st1, rfl⟩
    · exact ih st1 hst1 hf1

theorem initMax_ok (ctx : Ctx) (n : Nat) (hctx : CtxWF ctx n) (st : St) (mk : Nat × Nat)
    (hst : StWF ctx n st) (hk : mk.2 < st.vms.size) (hmci : mk.1 ∈ ctx.maxIdx) :
    ∃ st', initMax ctx st mk = some st' ∧ Grows ctx n st st' ∧ ∀ es, VNE st' mk.2 es := by
  obtain ⟨mci, k⟩ := mk
  simp only at hk hmci
  obtain ⟨c, hc, hlen⟩ := hctx.max_full mci hmci
  have hcmem : c ∈ ctx.contigs.toList := Array.mem_toList_iff.mpr (Array.mem_of_getElem? hc)
  -- a numbered stream of the contig: the stream exists and its number is a voice
  have hpair : ∀ x ∈ c.sids.zipIdx, x.1 < ctx.streams.size ∧ x.2 < ctx.numV := by
    intro x hx
    have hx' := List.mem_zipIdx hx
    simp at hx'
    exact ⟨(hctx.contig_ok c hcmem).1 _ (by rw [hx'.2]; exact List.getElem_mem _), by rw [← hlen]; exact hx'.1⟩
  obtain ⟨st1, e1, hst1, hvms1⟩ := Lists.foldlM_inv (fun st (x : Nat × Nat) => setStreamVoice ctx st x.1 x.2)
    (fun s => StWF ctx n s ∧ s.vms = st.vms) c.sids.zipIdx st ⟨hst, rfl⟩
    (by
      intro s x hx ⟨hs, hv⟩
      obtain ⟨v', e⟩ := setStreamVoice_ok ctx s x.1 x.2 (by rw [hs.sv_size]; exact (hpair x hx).1) (hpair x hx).1
      exact ⟨_, e, ⟨hs.skip_size, by simp [hs.sv_size], hs.vms_size, hs.vm_ok, hs.fun_ok, hs.bun_ok⟩, hv⟩)
  have g1 : Grows ctx n st st1 := ⟨hst1, fun k' es' h vm voice hvm hv => h vm voice (hvms1 ▸ hvm) hv⟩
  have hk1 : k < st1.vms.size := by rw [hvms1]; exact hk
  obtain ⟨st2, e2, g2, hQ, _⟩ := Lists.foldlM_collect (fun st (x : Nat × Nat) => vappend ctx k x.2 x.1 st)
    (Grows ctx n st1) (fun x s => VNE s k x.2) c.sids.zipIdx st1 (.refl hst1)
    (by
      intro s x hx hs
      have hks : k < s.vms.size := by rw [hs.1.vms_size, ← hst1.vms_size]; exact hk1
      obtain ⟨s', e, hs', hv⟩ := vappend_ok ctx n k x.2 x.1 s hs.1 hks (hpair x hx).2 (hpair x hx).1
      exact ⟨s', e, hs.trans hs', hv, fun b h => hs'.2 k b.2 h⟩)
  refine ⟨st2, ?_, g1.trans g2, ?_⟩
  · simp only [initMax, Option.bind_eq_bind, hc, Option.bind_some]
    rw [show (c.sids.zipIdx.foldlM (fun st (x : Nat × Nat) => setStreamVoice ctx st x.1 (x.2 : Int)) st) = some st1 from e1]
    exact e2
  · intro es vm voice hvm hv
    have hsz := (g2.1.vm_ok k vm hvm).1
    have hes : es < ctx.numV := by
      rw [← hsz]
      by_contra hcon
      rw [Array.getElem?_eq_none (by omega)] at hv
      exact absurd hv (by simp)
    have hin : (c.sids[es]'(by rw [hlen]; exact hes), es) ∈ c.sids.zipIdx := by
      rw [List.mem_zipIdx_iff_getElem?]
      simp [List.getElem?_eq_getElem (show es < c.sids.length by rw [hlen]; exact hes)]
    exact hQ _ hin vm voice hvm hv

theorem initAll_ok (ctx : Ctx) (n : Nat) (hctx : CtxWF ctx n) (st : St) (hst : StWF ctx n st) :
    ∃ st', ctx.maxIdx.zipIdx.foldlM (initMax ctx) st = some st' ∧ StWF ctx n st' ∧ AllFull ctx st' := by
  obtain ⟨st', e, hst', hQ, _⟩ := Lists.foldlM_collect (initMax ctx) (fun s => StWF ctx n s)
    (fun (mk : Nat × Nat) s => ∀ es, VNE s mk.2 es) ctx.maxIdx.zipIdx st hst
    (by
      intro s mk hmk hs
      have hm := List.mem_zipIdx hmk
      simp at hm
      have hk : mk.2 < s.vms.size := by rw [hs.vms_size]; exact hm.1
      have hmci : mk.1 ∈ ctx.maxIdx := by rw [hm.2]; exact List.getElem_mem _
      obtain ⟨s', e, hs', hfull⟩ := initMax_ok ctx n hctx s mk hs hk hmci
      exact ⟨s', e, hs'.1, hfull, fun b h es => hs'.2 b.2 es (h es)⟩)
  refine ⟨st', e, hst', ?_⟩
  intro k hk es
  have hin : (ctx.maxIdx[k], k) ∈ ctx.maxIdx.zipIdx := by
    rw [List.mem_zipIdx_iff_getElem?]; simp [List.getElem?_eq_getElem hk]
  exact hQ _ hin es

end C17VosaLoop

namespace C17VosaSearch
open Model Model.Vosa C17VosaContigs C17VosaLoop

theorem cnt_perm (l l' : List N) (h : l.Perm l') (t : Rat) : cnt l t = cnt l' t := by
  unfold cnt
  exact (h.filter _).length_eq

theorem cnt_byOnset (l : List N) (t : Rat) : cnt (byOnset l) t = cnt l t :=
  cnt_perm _ _ ((C17S.isSort _).perm l) t

theorem mem_timepoints_byOnset (l : List N) (t : Rat) :
    t ∈ timepoints (byOnset l) ↔ (∃ n ∈ l, n.on = t) ∨ (∃ n ∈ l, n.off = t) := by
  rw [mem_timepoints]
  simp only [byOnset, mem_isort]

theorem cnt_sub (l all : List N) (hnd : l.Nodup) (hsub : ∀ x ∈ l, x ∈ all) (t : Rat) : cnt l t ≤ cnt all t := by
  unfold cnt
  apply List.Subperm.length_le
  apply (hnd.filter _).subperm
  intro x hx
  obtain ⟨h1, h2⟩ := List.mem_filter.mp hx
  exact List.mem_filter.mpr ⟨hsub x h1, h2⟩

theorem maxCnt_le (notes : List N) (B : Nat) (h : ∀ t ∈ timepoints notes, cnt notes t ≤ B) : maxCnt notes ≤ B := by
  unfold maxCnt
  rcases List.mem_cons.mp (C17V.foldl_max_spec ((timepoints notes).map (cnt notes)) 0).1 with e | e
  · rw [e]; omega
  · obtain ⟨t, ht, e'⟩ := List.mem_map.mp e
    rw [← e']; exact h t ht

theorem maxCnt_sub (l all : List N) (hnd : l.Nodup) (hsub : ∀ x ∈ l, x ∈ all) :
    maxCnt (byOnset l) ≤ maxCnt all := by
  apply maxCnt_le
  intro t ht
  rw [cnt_byOnset]
  refine le_trans (cnt_sub l all hnd hsub t) (cnt_le_max all t ?_)
  rw [mem_timepoints]
  rcases (mem_timepoints_byOnset l t).mp ht with ⟨n, hn, e⟩ | ⟨n, hn, e⟩
  · exact Or.inl ⟨n, hsub n hn, e⟩
  · exact Or.inr ⟨n, hsub n hn, e⟩

/-- notes of a contig that sound together are counted by its number of streams -/
theorem maxCnt_ge (l sn : List N) (tp : Rat) (hnd : sn.Nodup) (hne : sn ≠ [])
    (hs : ∀ x ∈ sn, x ∈ l ∧ x.on ≤ tp ∧ tp < x.off) : sn.length ≤ maxCnt (byOnset l) := by
  obtain ⟨t', ht'⟩ := Option.isSome_iff_exists.mp (maxRat_isSome (sn.map fun n => n.on) (by simpa using hne))
  obtain ⟨n0, hn0, hn0t⟩ := List.mem_map.mp (maxRat_mem _ _ ht')
  have hin : t' ∈ timepoints (byOnset l) :=
    (mem_timepoints_byOnset l t').mpr (Or.inl ⟨n0, (hs n0 hn0).1, hn0t⟩)
  have hle : t' ≤ tp := by rw [← hn0t]; exact (hs n0 hn0).2.1
  have h1 : sn.length ≤ cnt l t' := by
    unfold cnt
    apply List.Subperm.length_le
    apply hnd.subperm
    intro x hx
    obtain ⟨hxl, _, hoff⟩ := hs x hx
    refine List.mem_filter.mpr ⟨hxl, ?_⟩
    simp only [Bool.and_eq_true, decide_eq_true_eq]
    exact ⟨maxRat_ge _ _ ht' x.on (List.mem_map.mpr ⟨x, hx, rfl⟩), lt_of_le_of_lt hle hoff⟩
  have h2 := cnt_le_max (byOnset l) t' hin
  rw [cnt_byOnset] at h2
  omega

/-- what holds of every (notes, number of voices) pair `make_contigs` produces -/
def CL (all : List N) (c : List N × Nat) : Prop :=
  c.1 ≠ [] ∧ c.1.Nodup ∧ (∀ x ∈ c.1, x ∈ all) ∧
  ∃ sn tp, sn.length = c.2 ∧ sn.Nodup ∧ sn ≠ [] ∧ ∀ x ∈ sn, x ∈ c.1 ∧ x.on ≤ tp ∧ tp < x.off

/-- what holds of the sounding notes of every timepoint -/
def SN (all : List N) (sn : List N) : Prop :=
  sn.Nodup ∧ (∀ x ∈ sn, x ∈ all) ∧ ∃ tp : Rat, ∀ x ∈ sn, x.on ≤ tp ∧ tp < x.off

theorem hasIx_false (n : N) (c : List N) (h : hasIx n c = false) : n ∉ c := by
  intro hin
  have : hasIx n c = true := by
    simp only [hasIx, List.any_eq_true]
    exact ⟨n, hin, by simp⟩
  rw [h] at this
  exact absurd this (by simp)

theorem appendNew_spec (all : List N) : ∀ (sn cur : List N), cur.Nodup → (∀ x ∈ cur, x ∈ all) → (∀ x ∈ sn, x ∈ all) →
    (appendNew cur sn).Nodup ∧ (∀ x ∈ appendNew cur sn, x ∈ all) ∧ ∀ x ∈ cur, x ∈ appendNew cur sn := by
  intro sn
  unfold appendNew
  induction sn with
  | nil => intro cur h1 h2 _; exact ⟨h1, h2, fun x h => h⟩
  | cons a r ih =>
    intro cur h1 h2 h3
    simp only [List.foldl_cons]
    by_cases hh : hasIx a cur = true
    · simp only [hh, if_true]
      exact ih cur h1 h2 (fun x hx => h3 x (List.mem_cons_of_mem _ hx))
    · simp only [hh, Bool.false_eq_true, if_false]
      have hnot : a ∉ cur := hasIx_false a cur (by simpa using hh)
      obtain ⟨k1, k2, k3⟩ := ih (cur ++ [a]) (Lists.nodup_concat h1 hnot)
        (by
          intro x hx
          rcases List.mem_append.mp hx with h | h
          · exact h2 x h
          · simp at h; subst h; exact h3 _ (List.mem_cons_self ..))
        (fun x hx => h3 x (List.mem_cons_of_mem _ hx))
      exact ⟨k1, k2, fun x hx => k3 x (List.mem_append_left _ hx)⟩

theorem sounding_SN (all : List N) (hnd : all.Nodup) (tp : Rat) : SN all (sounding all tp) := by
  have hp : (sounding all tp).Perm (all.filter fun n => decide (n.on ≤ tp) && decide (tp < n.off)) :=
    (C17S.isSort _).perm _
  refine ⟨hp.nodup_iff.mpr (hnd.filter _), ?_, tp, ?_⟩
  · intro x hx
    exact (List.mem_filter.mp (hp.subset hx)).1
  · intro x hx
    have := (List.mem_filter.mp (hp.subset hx)).2
    simpa using this

theorem contigNoteLists_CL (all : List N) (hne : all ≠ []) (hnd : all.Nodup) :
    ∃ cl, contigNoteLists all = some (cl, (timepoints all).length, maxCnt all) ∧ ∀ c ∈ cl, CL all c := by
  refine contigNoteLists_spec (CL all) (SN all) ?_ ?_ all hne (sounding_SN all hnd)
  · rintro sn ⟨h1, h2, tp, h3⟩ hsn
    exact ⟨hsn, h1, h2, sn, tp, rfl, h1, hsn, fun x hx => ⟨hx, h3 x hx⟩⟩
  · rintro cur nv sn ⟨g1, g2, g3, sn0, tp0, g4, g5, g6, g7⟩ hsn
    obtain ⟨k1, k2, k3⟩ := appendNew_spec all sn cur g2 g3 hsn.2.1
    refine ⟨?_, k1, k2, sn0, tp0, g4, g5, g6, fun x hx => ⟨k3 x (g7 x hx).1, (g7 x hx).2⟩⟩
    intro e
    obtain ⟨y, hy⟩ := List.exists_mem_of_ne_nil _ g1
    have hmem : y ∈ appendNew cur sn := k3 y hy
    have e' : appendNew cur sn = [] := e
    rw [e'] at hmem
    exact absurd hmem (by simp)

/-- how a numbered contig relates to the `Contig` it comes from -/
def RC (total : Nat) (raw : ContigRaw) (c : Contig) : Prop :=
  c.first = raw.first ∧ c.last = raw.last ∧ c.sids.length = raw.streams.length ∧ ∀ sid ∈ c.sids, sid < total

theorem numberContigs_spec : ∀ (raws : List ContigRaw) (base : Nat),
    (numberContigs raws base).2 = raws.flatMap (·.streams) ∧
    List.Forall₂ (RC (base + (raws.flatMap (·.streams)).length)) raws (numberContigs raws base).1 := by
  intro raws
  induction raws with
  | nil => intro base; simp [numberContigs]
  | cons r rs ih =>
    intro base
    obtain ⟨h1, h2⟩ := ih (base + r.streams.length)
    rcases hn : numberContigs rs (base + r.streams.length) with ⟨cs', ss⟩
    rw [hn] at h1 h2
    simp only at h1 h2
    simp only [numberContigs, hn, List.flatMap_cons, List.length_append]
    refine ⟨by rw [h1], List.Forall₂.cons ⟨rfl, rfl, by simp, ?_⟩ ?_⟩
    · intro sid hsid
      simp only [List.mem_map, List.mem_range] at hsid
      obtain ⟨i, hi, rfl⟩ := hsid
      omega
    · refine h2.imp ?_
      intro raw c hrc
      refine ⟨hrc.1, hrc.2.1, hrc.2.2.1, fun sid hsid => ?_⟩
      have := hrc.2.2.2 sid hsid
      omega

theorem mkNotes_ix (rows : List Row) : (mkNotes rows).map (·.ix) = List.range rows.length := by
  simp only [mkNotes, List.map_map]
  rw [List.range_eq_range', ← List.zipIdx_map_snd 0 rows]
  exact List.map_congr_left (fun x _ => rfl)

theorem mkNotes_facts (rows : List Row) :
    (mkNotes rows).Nodup ∧ (∀ x ∈ mkNotes rows, x.ix < rows.length) ∧ (mkNotes rows).length = rows.length := by
  have h := mkNotes_ix rows
  refine ⟨List.Nodup.of_map (·.ix) (by rw [h]; exact List.nodup_range), ?_, by simp [mkNotes]⟩
  intro x hx
  have : x.ix ∈ (mkNotes rows).map (·.ix) := List.mem_map.mpr ⟨x, hx, rfl⟩
  rw [h] at this
  exact List.mem_range.mp this

theorem ctxWF_of_contigs (all : List N) (n : Nat) (hix : ∀ x ∈ all, x.ix < n) (cl : List (List N × Nat)) (numV : Nat)
    (hCL : ∀ c ∈ cl, CL all c) (hnumV : maxCnt all = numV) (raws : List ContigRaw)
    (hraws : cl.mapM (fun c : List N × Nat => mkContig c.1) = some raws) (contigs : List Contig) (streams : List Stream)
    (hnum : numberContigs raws 0 = (contigs, streams)) (graces : Array (List Nat)) (nT : Nat) :
    CtxWF { graces := graces, streams := streams.toArray, contigs := contigs.toArray, numV := numV,
            maxIdx := (cl.zipIdx.filter fun (c : (List N × Nat) × Nat) => c.1.2 == numV).map (·.2), nTimepoints := nT } n := by
  obtain ⟨hstreams, hRC⟩ := numberContigs_spec raws 0
  rw [hnum] at hstreams hRC
  simp only [Nat.zero_add] at hstreams hRC
  rw [← hstreams] at hRC
  -- what `Contig(notes)` holds, for a contig of `make_contigs`
  have hcontig : ∀ (c : List N × Nat) (raw : ContigRaw), c ∈ cl → mkContig c.1 = some raw →
      raw.streams.length = maxCnt (byOnset c.1) ∧ raw.first.length = maxCnt (byOnset c.1) ∧
      raw.last.length ≤ maxCnt (byOnset c.1) ∧ maxCnt (byOnset c.1) ≤ numV ∧ c.2 ≤ maxCnt (byOnset c.1) ∧
      (∀ s ∈ raw.streams, s.first.ix < n ∧ s.last.ix < n) ∧
      (∀ x ∈ raw.first, x.ix < n) ∧ (∀ x ∈ raw.last, x.ix < n) := by
    intro c raw hc hraw
    obtain ⟨g1, g2, g3, sn, tp, g4, g5, g6, g7⟩ := hCL c hc
    obtain ⟨raw', e, k1, k2, k3, k4, k5, k6⟩ := mkContig_spec c.1 g1
    rw [hraw] at e
    cases e
    refine ⟨k1, k2, k3, ?_, ?_, ?_, ?_, ?_⟩
    · rw [← hnumV]; exact maxCnt_sub c.1 _ g2 g3
    · rw [← g4]; exact maxCnt_ge c.1 sn tp g5 g6 g7
    · intro s hs
      exact ⟨hix _ (g3 _ (k4 s hs).1), hix _ (g3 _ (k4 s hs).2)⟩
    · intro x hx; exact hix _ (g3 _ (k5 x hx))
    · intro x hx; exact hix _ (g3 _ (k6 x hx))
  refine ⟨?_, ?_, ?_⟩
  · intro sid s hs
    have hmem : s ∈ streams := by
      have : streams[sid]? = some s := by simpa using hs
      exact List.mem_of_getElem? this
    rw [hstreams, List.mem_flatMap] at hmem
    obtain ⟨raw, hraw, hsr⟩ := hmem
    obtain ⟨c, hc, hm⟩ := Lists.mapM_mem hraws raw hraw
    exact (hcontig c raw hc hm).2.2.2.2.2.1 s hsr
  · intro c' hc'
    have hc'' : c' ∈ contigs := by simpa using hc'
    obtain ⟨raw, hraw, hrc⟩ := Lists.forall₂_mem_right hRC c' hc''
    obtain ⟨c, hc, hm⟩ := Lists.mapM_mem hraws raw hraw
    obtain ⟨k1, k2, k3, k4, _, _, k7, k8⟩ := hcontig c raw hc hm
    obtain ⟨r1, r2, r3, r4⟩ := hrc
    refine ⟨by simpa using r4, by rw [r1, r3, k1, k2], by rw [r2, r3, k1]; exact k3,
      by rw [r3, k1]; exact k4, by rw [r1]; exact k7, by rw [r2]; exact k8⟩
  · intro mci hmci
    simp only [List.mem_map, List.mem_filter] at hmci
    obtain ⟨⟨c, i⟩, ⟨hzi, hnv⟩, rfl⟩ := hmci
    have hget : cl[i]? = some c := by
      rw [List.mem_zipIdx_iff_getElem?] at hzi; simpa using hzi
    obtain ⟨raw, hrawget, hm⟩ := Lists.mapM_getElem?_left hraws hget
    obtain ⟨hi1, hraw⟩ := List.getElem?_eq_some_iff.mp hrawget
    have hi2 : i < contigs.length := hRC.length_eq ▸ hi1
    have hrc : RC streams.length raw contigs[i] := hraw ▸ hRC.get hi1 hi2
    refine ⟨contigs[i], by simp [hi2], ?_⟩
    obtain ⟨k1, _, _, k4, k5, _⟩ := hcontig c raw (List.mem_of_getElem? hget) hm
    have : c.2 = numV := by simpa using hnv
    rw [hrc.2.2.1, k1]
    show maxCnt (byOnset c.1) = numV
    omega

theorem stWF_init (ctx : Ctx) (n : Nat) :
    StWF ctx n { voice := Array.replicate n none, skip := Array.replicate n 0, sv := Array.replicate ctx.streams.size none,
                 vms := Array.replicate ctx.maxIdx.length (Array.replicate ctx.numV []), fUn := [], bUn := [] } := by
  refine ⟨by simp, by simp, by simp, ?_, by simp, by simp⟩
  intro k vm hk
  have : vm = Array.replicate ctx.numV [] := by
    simp only [Array.getElem?_replicate] at hk
    split at hk
    · exact (Option.some.inj hk).symm
    · exact absurd hk (by simp)
  subst this
  refine ⟨by simp, ?_⟩
  intro es voice hv
  simp only [Array.getElem?_replicate] at hv
  split at hv
  · cases hv; simp
  · exact absurd hv (by simp)

theorem search_isSome (rows : List Row) (hne : rows ≠ []) : (search rows).isSome := by
  obtain ⟨hnd0, hix0, hlen0⟩ := mkNotes_facts rows
  have hperm : (byOnset (mkNotes rows)).Perm (mkNotes rows) := (C17S.isSort _).perm _
  have hnd : (byOnset (mkNotes rows)).Nodup := hperm.nodup_iff.mpr hnd0
  have hix : ∀ x ∈ byOnset (mkNotes rows), x.ix < rows.length := fun x hx => hix0 x (hperm.subset hx)
  have hnotes : byOnset (mkNotes rows) ≠ [] := by
    intro e
    have := hperm.length_eq
    rw [e, hlen0] at this
    exact hne (List.eq_nil_of_length_eq_zero this.symm)
  obtain ⟨links, hlinks⟩ := Option.isSome_iff_exists.mp (graceLinks_isSome (mkNotes rows))
  obtain ⟨cl, hcl, hCL⟩ := contigNoteLists_CL _ hnotes hnd
  generalize (timepoints (byOnset (mkNotes rows))).length = nT at hcl
  generalize hnumV : maxCnt (byOnset (mkNotes rows)) = numV at hcl
  obtain ⟨raws, hraws⟩ := Lists.mapM_total (fun c : List N × Nat => mkContig c.1) cl
    (fun c hc => mkContig_isSome c.1 (hCL c hc).1)
  rcases hnum : numberContigs raws 0 with ⟨contigs, streams⟩
  let maxIdx := (cl.zipIdx.filter fun (c : (List N × Nat) × Nat) => c.1.2 == numV).map (·.2)
  let ctx : Ctx := { graces := gracesOf (mkNotes rows).length links, streams := streams.toArray, contigs := contigs.toArray,
                     numV := numV, maxIdx := maxIdx, nTimepoints := nT }
  have hctx : CtxWF ctx rows.length :=
    ctxWF_of_contigs _ rows.length hix cl numV hCL hnumV raws hraws contigs streams hnum _ nT
  let st0 : St := { voice := Array.replicate (mkNotes rows).length none, skip := Array.replicate (mkNotes rows).length 0,
                    sv := Array.replicate streams.length none,
                    vms := Array.replicate maxIdx.length (Array.replicate numV []), fUn := [], bUn := [] }
  have hst0 : StWF ctx rows.length st0 := by
    simp only [st0, hlen0]
    exact stWF_init ctx rows.length
  obtain ⟨st1, e1, hst1, hfull⟩ := initAll_ok ctx rows.length hctx st0 hst0
  obtain ⟨st2, e2⟩ := crystallise_ok ctx rows.length hctx (nT + 1) st1 hst1 hfull
  have : search rows = some (ctx, st2) := by
    simp only [search, Option.bind_eq_bind, hlinks, Option.bind_some, hcl, hraws, hnum]
    rw [show (List.foldlM (initMax ctx) st0 maxIdx.zipIdx) = some st1 from e1]
    simp only [Option.bind_some]
    rw [show crystallise ctx (nT + 1) st1 = some st2 from e2]
    rfl
  rw [this]
  rfl

end C17VosaSearch
