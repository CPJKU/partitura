/-
`Performance.sanitize_track_numbers`: the sorted duplicate-free key list and
the position of a key in it; the special shape the MIDI loader produces (one track number per part).
-/
import PartituraModel.Model.PerfMidi
import PartituraModel.Proofs.C06Sort

namespace C06Tracks
open Model Model.PerfMidi C06Sort C06Stable

/-- lexicographic order of (part index, track number) -/
def LexLt (a b : Nat × Int) : Prop := a.1 < b.1 ∨ (a.1 = b.1 ∧ a.2 < b.2)

instance (a b : Nat × Int) : Decidable (LexLt a b) := by unfold LexLt; infer_instance

theorem pairLe_iff (a b : Nat × Int) : pairLe a b = true ↔ (a.1 < b.1 ∨ (a.1 = b.1 ∧ a.2 ≤ b.2)) := by
  simp [pairLe]

theorem pairLe_order : Lists.TotalPreorder pairLe := .lex Prod.fst (.of_key Prod.snd)

theorem lexLt_of_le_ne (a b : Nat × Int) (h : pairLe a b = true) (hne : a ≠ b) : LexLt a b := by
  rw [pairLe_iff] at h
  unfold LexLt
  obtain ⟨a1, a2⟩ := a
  obtain ⟨b1, b2⟩ := b
  simp only [ne_eq, Prod.mk.injEq] at *
  omega

theorem lexLt_irrefl (a : Nat × Int) : ¬ LexLt a a := by unfold LexLt; omega

theorem lexLt_asymm (a b : Nat × Int) (h : LexLt a b) : ¬ LexLt b a := by unfold LexLt at *; omega

theorem isDedupAdj : Lists.IsDedupAdj dedupAdj := ⟨rfl, fun _ => rfl, fun _ _ _ => rfl⟩

theorem mem_dedupAdj (l : List (Nat × Int)) (x : Nat × Int) : x ∈ dedupAdj l ↔ x ∈ l := isDedupAdj.mem

theorem strict_dedupAdj (l : List (Nat × Int)) (h : l.Pairwise (fun x y => pairLe x y = true)) :
    (dedupAdj l).Pairwise LexLt :=
  isDedupAdj.strict (lexLt_of_le_ne _ _)
    (fun {a b c} hab hbc => by rw [pairLe_iff] at hbc; unfold LexLt at *; omega) h

theorem mem_sanitizeKeys (l : List (Nat × Int)) (x : Nat × Int) : x ∈ sanitizeKeys l ↔ x ∈ l := by
  unfold sanitizeKeys
  rw [mem_dedupAdj, (isSort _).mem]

theorem strict_sanitizeKeys (l : List (Nat × Int)) : (sanitizeKeys l).Pairwise LexLt :=
  strict_dedupAdj _ ((isSort pairLe).pairwise pairLe_order l)

theorem indexOfKey_eq (k : Nat × Int) : ∀ l, indexOfKey k l = Model.indexOf k l
  | [] => rfl
  | a :: l => by rw [indexOfKey, indexOfKey_eq k l]; rfl

/-- `sanitizeKeys` is determined by its specification: THE strictly increasing list with the members of `keys` -/
theorem sanitizeKeys_unique (keys l : List (Nat × Int)) (hl : l.Pairwise LexLt) (hm : ∀ x, x ∈ l ↔ x ∈ keys) :
    sanitizeKeys keys = l :=
  Lists.pairwise_ext (lexLt_asymm _ _) (strict_sanitizeKeys keys) hl fun x => (mem_sanitizeKeys keys x).trans (hm x).symm

/-- the keys of parts that carry one track number each: part `k + j` has track `t_j` -/
def keysFrom : Nat → List (Int × Nat) → List (Nat × Int)
  | _, [] => []
  | k, (t, _) :: ts => (k, t) :: keysFrom (k + 1) ts

theorem keysFrom_ge (k : Nat) (ts : List (Int × Nat)) : ∀ x ∈ keysFrom k ts, k ≤ x.1 := by
  induction ts generalizing k with
  | nil => intro x hx; cases hx
  | cons tc ts ih =>
    intro x hx
    rcases List.mem_cons.mp hx with rfl | hx
    · exact le_rfl
    · exact Nat.le_of_succ_le (ih (k + 1) x hx)

theorem keysFrom_strict (k : Nat) (ts : List (Int × Nat)) : (keysFrom k ts).Pairwise LexLt := by
  induction ts generalizing k with
  | nil => exact List.Pairwise.nil
  | cons tc ts ih =>
    exact List.pairwise_cons.mpr ⟨fun x hx => Or.inl (keysFrom_ge (k + 1) ts x hx), ih (k + 1)⟩

/-- part `k + j` has `c_j + 1` entries, all with track `t_j`: as a set its pairs are `keysFrom k ts` -/
theorem mem_keysFrom (k : Nat) (ts : List (Int × Nat)) (x : Nat × Int) :
    x ∈ keysFrom k ts ↔
      x ∈ ((ts.map fun tc => List.replicate (tc.2 + 1) tc.1).zipIdx k).flatMap fun p => p.1.map fun t => (p.2, t) := by
  induction ts generalizing k with
  | nil => rfl
  | cons tc ts ih =>
    obtain ⟨t, c⟩ := tc
    rw [keysFrom, List.map_cons, List.zipIdx_cons, List.flatMap_cons, List.mem_cons, List.mem_append, ih (k + 1),
      List.map_replicate, List.mem_replicate]
    exact or_congr_left (and_iff_right (Nat.succ_ne_zero c)).symm

theorem indexOfKey_keysFrom (k : Nat) (ts : List (Int × Nat)) (j : Nat) (tc : Int × Nat)
    (h : ts[j]? = some tc) : indexOfKey (k + j, tc.1) (keysFrom k ts) = some j := by
  induction ts generalizing k j with
  | nil => cases h
  | cons tc0 ts ih =>
    obtain ⟨t0, c0⟩ := tc0
    unfold keysFrom indexOfKey
    cases j with
    | zero => cases h; exact if_pos rfl
    | succ j =>
      have hne : ¬ ((k, t0) : Nat × Int) = (k + (j + 1), tc.1) := fun e => by
        have := congrArg Prod.fst e
        omega
      have := ih (k + 1) j h
      rw [Nat.add_assoc, Nat.add_comm 1 j] at this
      rw [if_neg hne, this]
      rfl

theorem sanitizeKeys_single (ts : List (Int × Nat)) :
    sanitizeKeys ((ts.map fun tc => List.replicate (tc.2 + 1) tc.1).zipIdx.flatMap fun p => p.1.map fun t => (p.2, t))
      = keysFrom 0 ts :=
  sanitizeKeys_unique _ _ (keysFrom_strict 0 ts) (mem_keysFrom 0 ts)

theorem kept_pos (t : RTrack) (h : t.kept = true) : 0 < t.notes.length + t.controls.length + t.programs.length := by
  unfold RTrack.kept at h
  by_contra hc
  have h0 : t.notes.length = 0 ∧ t.controls.length = 0 ∧ t.programs.length = 0 := by omega
  simp [List.length_eq_zero_iff.mp h0.1, List.length_eq_zero_iff.mp h0.2.1, List.length_eq_zero_iff.mp h0.2.2] at h

theorem loadFile_kept (merge : Bool) (tracks : List Track) : ∀ t ∈ loadFile merge tracks, t.kept = true :=
  fun _ ht => (List.mem_filter.mp ht).2

/-- every kept track carries ONE track number, as often as it has notes, controls and programs -/
theorem map_partTracks (rts : List RTrack) (hk : ∀ t ∈ rts, t.kept = true) :
    rts.map partTracks
      = (rts.map fun t => ((t.fileTrack : Int), t.notes.length + t.controls.length + t.programs.length - 1)).map
          fun tc => List.replicate (tc.2 + 1) tc.1 := by
  rw [List.map_map]
  refine List.map_congr_left fun t ht => ?_
  have := kept_pos t (hk t ht)
  simp only [Function.comp, partTracks]
  congr 1
  omega

end C06Tracks
