/-
C15: lemmas about `distinctParts` (de-duplication of the flattened part list by identity, fixes/C15-11).
-/
import PartituraModel.Proofs.C15Refs
import PartituraModel.Proofs.Dicts
import Mathlib.Data.List.Nodup

namespace C15
open Model.Merge

@[simp] theorem distinctParts_nil : distinctParts [] = [] := rfl

@[simp] theorem distinctParts_singleton (p : APart) : distinctParts [p] = [p] := rfl

theorem distinctParts_cons (p : APart) (ps : List APart) :
    distinctParts (p :: ps) = p :: (distinctParts ps).filter fun q => q.pid != p.pid := rfl

theorem distinctParts_firstSeen : Dicts.IsFirstSeenBy (·.pid) distinctParts := ⟨rfl, fun _ _ => rfl⟩

theorem distinctParts_sublist (ps : List APart) : (distinctParts ps).Sublist ps := distinctParts_firstSeen.sublist ps

theorem mem_of_mem_distinctParts {ps : List APart} {q : APart} (h : q ∈ distinctParts ps) : q ∈ ps :=
  (distinctParts_sublist ps).subset h

theorem pid_mem_distinctParts (ps : List APart) (k : Nat) :
    k ∈ (distinctParts ps).map (·.pid) ↔ k ∈ ps.map (·.pid) := distinctParts_firstSeen.mem_keys

theorem distinctParts_nodup (ps : List APart) : ((distinctParts ps).map (·.pid)).Nodup :=
  distinctParts_firstSeen.nodup_keys ps

theorem distinctParts_of_nodup {ps : List APart} (h : (ps.map (·.pid)).Nodup) : distinctParts ps = ps :=
  distinctParts_firstSeen.of_nodup h

theorem distinctParts_idem (ps : List APart) : distinctParts (distinctParts ps) = distinctParts ps :=
  distinctParts_of_nodup (distinctParts_nodup ps)

theorem mem_distinctParts {ps : List APart} (hc : SameObject ps) {p : APart} (hp : p ∈ ps) : p ∈ distinctParts ps := by
  obtain ⟨q, hq, hk⟩ := List.mem_map.mp ((pid_mem_distinctParts ps p.pid).mpr (List.mem_map.mpr ⟨p, hp, rfl⟩))
  rw [← hc q (mem_of_mem_distinctParts hq) p hp hk]
  exact hq

theorem length_distinctParts_le (ps : List APart) : (distinctParts ps).length ≤ ps.length :=
  (distinctParts_sublist ps).length_le

theorem distinctParts_append (l r : List APart) :
    distinctParts (l ++ r)
      = distinctParts l ++ (distinctParts r).filter fun q => !(l.map (·.pid)).contains q.pid := by
  induction l with
  | nil => simp
  | cons a l ih =>
    rw [List.cons_append, distinctParts_cons, ih, distinctParts_cons, List.filter_append, List.filter_filter,
      List.cons_append]
    congr 2
    refine List.filter_congr fun q _ => ?_
    simp only [bne, List.map_cons, List.contains_cons, Bool.not_or]

theorem distinctParts_relisted (l r : List APart) (p : APart) (h : ∃ q ∈ l, q.pid = p.pid) :
    distinctParts (l ++ [p] ++ r) = distinctParts (l ++ r) := by
  have hp : (l.map (·.pid)).contains p.pid = true := by
    obtain ⟨q, hq, hqp⟩ := h
    exact List.contains_iff_mem.mpr (List.mem_map.mpr ⟨q, hq, hqp⟩)
  rw [List.append_assoc, distinctParts_append, distinctParts_append l r, List.singleton_append, distinctParts_cons,
    List.filter_cons, hp]
  simp only [Bool.not_true, Bool.false_eq_true, if_false, List.filter_filter]
  congr 1
  refine List.filter_congr fun q _ => ?_
  cases hc : (l.map (·.pid)).contains q.pid with
  | true => rfl
  | false =>
    have : q.pid ≠ p.pid := fun e => by rw [e, hp] at hc; cases hc
    simp [this]

end C15
