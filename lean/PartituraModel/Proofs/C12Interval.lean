/-
C12 — the sizes of intervals and `Interval.change_quality`.  `genericBase`, `qualityOffset`, `isPerfect` specify a size
independently of the table: the semitones of the number in the major scale plus the offset of the quality on the ladder
of perfect or of imperfect numbers.  INTERVAL_TO_SEMITONES and the two ladders of `change_quality` are checked against
them.  No Mathlib (Props/C16.lean and Props/C16Roman.lean stand on this file too).
-/
import PartituraModel.Model.Pitch
import PartituraModel.Proofs.Lists

namespace C12
open Model Gen

/-- semitones of the number in the major scale; numbers outside 1..7 have no size and are never asked for -/
def genericBase : Nat → Int
  | 1 => 0 | 2 => 2 | 3 => 4 | 4 => 5 | 5 => 7 | 6 => 9 | 7 => 11 | _ => 0

def qualityOffset (perfect : Bool) : String → Option Int
  | "dd" => some (if perfect then -2 else -3)
  | "d" => some (if perfect then -1 else -2)
  | "m" => if perfect then none else some (-1)
  | "M" => if perfect then none else some 0
  | "P" => if perfect then some 0 else none
  | "A" => some 1
  | "AA" => some 2
  | _ => none

/-- the source's ladder test also lists 8, which has no size: only 1..7 are specified -/
def isPerfect (n : Nat) : Bool := n == 1 || n == 4 || n == 5

theorem contains_keys {α β : Type} [DecidableEq α] (k : α) (l : List (α × β)) :
    (l.map Prod.fst).contains k = (lookup k l).isSome :=
  Bool.eq_iff_iff.mpr (List.contains_iff_mem.trans lookup_isSome_iff.symm)

theorem interval_key_list : INTERVAL_TO_SEMITONES.map Prod.fst = INTERVALCLASSES := by decide +kernel

theorem listed_sized {c : String} (hc : c ∈ INTERVALCLASSES) : (lookup c INTERVAL_TO_SEMITONES).isSome := by
  rw [← contains_keys, interval_key_list]
  simpa using hc

theorem interval_sizes : ∀ q ∈ ["dd", "d", "m", "M", "P", "A", "AA"], ∀ n ∈ [1, 2, 3, 4, 5, 6, 7],
    intervalSemitones q n = (qualityOffset (isPerfect n) q).map (genericBase n + ·) := by
  decide +kernel

theorem interval_listed {q : String} (hq : q ∈ ["dd", "d", "m", "M", "P", "A", "AA"]) {n : Nat}
    (hn : n ∈ [1, 2, 3, 4, 5, 6, 7]) :
    INTERVALCLASSES.contains (q ++ showNat n) = (qualityOffset (isPerfect n) q).isSome := by
  rw [← interval_key_list, contains_keys, ← intervalSemitones, interval_sizes q hq n hn, Option.isSome_map]

/-- along each ladder of `change_quality` the offsets are consecutive; the numbers 1 and 2 stand for the two kinds of
    number -/
theorem ladder_rows : ∀ n ∈ [1, 2], ∀ i ∈ List.range (qualityLadder n).length,
    ∃ q ∈ ["dd", "d", "m", "M", "P", "A", "AA"], (qualityLadder n)[i]? = some q ∧
      qualityOffset (isPerfect n) q = some ((i : Int) - (if isPerfect n then 2 else 3)) := by decide +kernel

theorem ladder_step {n : Nat} (hn : n ∈ [1, 2]) {q q' : String} {k : Int}
    (h : changeQualityOn (qualityLadder n) q k = some q') :
    q' ∈ ["dd", "d", "m", "M", "P", "A", "AA"] ∧ ∃ o, qualityOffset (isPerfect n) q = some o ∧
      qualityOffset (isPerfect n) q' = some (o + k) := by
  unfold changeQualityOn at h
  cases hi : indexOf q (qualityLadder n) with
  | none => rw [hi] at h; cases h
  | some i =>
    rw [hi] at h
    simp only at h
    split at h
    · cases h
    · rename_i hb
      simp only [Bool.or_eq_true, decide_eq_true_eq, not_or, Int.not_lt, ge_iff_le, Int.not_le] at hb
      obtain ⟨q0, -, e0, o0⟩ := ladder_rows n hn i (List.mem_range.mpr (indexOf_lt_length hi))
      obtain ⟨q1, m1, e1, o1⟩ := ladder_rows n hn (i + k).toNat (List.mem_range.mpr (by omega))
      rw [getElem?_of_indexOf hi] at e0
      rw [h] at e1
      cases e0; cases e1
      exact ⟨m1, _, o0, by rw [o1]; congr 1; omega⟩

/-- a ladder depends only on the kind of its number; the second conjunct is the number `Interval.validate` reduces a
    number 1..7 to -/
theorem ladders : ∀ n ∈ [1, 2, 3, 4, 5, 6, 7], qualityLadder n = qualityLadder (if isPerfect n then 1 else 2) ∧
    (if n % 7 = 0 then 7 else n % 7) = n := by
  decide +kernel

theorem quality_step {q : String} {n : Nat} {k : Int} {q' : String}
    (hq : q ∈ ["dd", "d", "m", "M", "P", "A", "AA"]) (hn : n ∈ [1, 2, 3, 4, 5, 6, 7])
    (hv : intervalValid q n "up" = true) (h : changeQuality n q k = some q') :
    intervalValid q' n "up" = true ∧ intervalSemitones q' n = (intervalSemitones q n).map (· + k) := by
  obtain ⟨hlad, hmod⟩ := ladders n hn
  -- a class is valid exactly when its quality has an offset, and its size is degree plus offset
  have hval : ∀ q ∈ ["dd", "d", "m", "M", "P", "A", "AA"],
      intervalValid q n "up" = (qualityOffset (isPerfect n) q).isSome := by
    intro q hq
    simp only [intervalValid, hmod, interval_listed hq hn]
    exact Bool.and_true _
  unfold changeQuality at h
  split at h
  · rename_i hk
    cases h
    simp [hv, hk]
  · rw [hlad] at h
    have hp : isPerfect (if isPerfect n then 1 else 2) = isPerfect n := by cases isPerfect n <;> rfl
    obtain ⟨hq', o, ho, ho'⟩ := ladder_step (by cases isPerfect n <;> simp) h
    rw [hp] at ho ho'
    rw [hval q' hq', interval_sizes q' hq' n hn, interval_sizes q hq n hn, ho, ho']
    simp [Int.add_assoc]

theorem change_quality_on_far (l : List String) (q : String) (k : Int) (hl : l.length ≤ 6) (hk : k < -5 ∨ 5 < k) :
    changeQualityOn l q k = none := by
  unfold changeQualityOn
  cases h : indexOf q l with
  | none => rfl
  | some i =>
    have : i < l.length := indexOf_lt_length h
    have hcond : (decide ((i : Int) + k < 0) || decide ((i : Int) + k ≥ (l.length : Int))) = true := by
      simp; omega
    simp only [hcond, if_true]

end C12
