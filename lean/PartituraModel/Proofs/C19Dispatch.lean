/-
The extension of a file name and the lookup in the table of loaders, as `load_score` uses them.
-/
import PartituraModel.Model.LoadDispatch

namespace C19Ext
open Model Model.LoadDispatch

theorem extOf_spec (dir stem x : List Char) (hx : ∀ c ∈ x, c ≠ '.' ∧ c ≠ '/') (hs : ∀ c ∈ stem, c ≠ '/')
    (hstem : stem.any (· ≠ '.') = true) :
    extOf (dir ++ '/' :: (stem ++ '.' :: x)) = '.' :: x := by
  have hbase : lastComponent (dir ++ '/' :: (stem ++ '.' :: x)) = stem ++ '.' :: x := by
    simp only [lastComponent, List.reverse_append, List.reverse_cons, List.append_assoc, List.singleton_append]
    have : ∀ c ∈ x.reverse ++ '.' :: stem.reverse, (decide (c ≠ '/')) = true := by
      intro c hc
      rcases List.mem_append.mp hc with h | h
      · simpa using (hx c (List.mem_reverse.mp h)).2
      · rcases List.mem_cons.mp h with rfl | h
        · decide
        · simpa using hs c (List.mem_reverse.mp h)
    rw [← List.append_assoc, List.takeWhile_append_of_pos this]
    simp
  have hext : (stem ++ '.' :: x).reverse.takeWhile (· ≠ '.') = x.reverse := by
    simp only [List.reverse_append, List.reverse_cons, List.append_assoc, List.singleton_append]
    rw [List.takeWhile_append_of_pos (fun c hc => by simpa using (hx c (List.mem_reverse.mp hc)).1)]
    simp
  simp only [extOf, hbase, hext, List.length_reverse, List.length_append, List.length_cons]
  have hlen : ¬ (x.length = stem.length + (x.length + 1)) := by omega
  simp only [hlen, if_false]
  have hdrop : ((stem ++ '.' :: x).reverse.drop (x.length + 1)).reverse = stem := by
    simp only [List.reverse_append, List.reverse_cons, List.append_assoc, List.singleton_append]
    rw [show x.reverse ++ '.' :: stem.reverse = (x.reverse ++ ['.']) ++ stem.reverse by simp]
    rw [List.drop_left' (by simp)]
    simp
  rw [hdrop, hstem]
  simp

/-- no extension is listed twice: looking a row's extension up gives the row's reader (whole finite table) -/
theorem table_lookup : ∀ row ∈ table, lookup row.1 table = some row.2 := by decide +kernel

end C19Ext
