/-
C09: the enumeration on a chain with simple repeats, and how often an object is copied (the copies of one
original, visit by visit).
-/
import PartituraModel.Proofs.C09Variant
import PartituraModel.Proofs.C09Walk

namespace C09
open Model.Unfold

theorem drop_eq_cons {α : Type} {l : List α} {i : Nat} {b : α} {fs : List α} (h : l.drop i = b :: fs) :
    l[i]? = some b ∧ l.drop (i + 1) = fs := by
  have h1 := congrArg (fun l => l[0]?) h
  have h2 := congrArg List.tail h
  exact ⟨by simpa using h1, by simpa [List.tail_drop] using h2⟩

/-- where segment `i` of `n` leads when nothing sends the music elsewhere: the next segment, the end after the last -/
def nextDest (n i : Nat) : Dest := if i + 1 = n then .fin else .seg (i + 1)

def chainSeg (n i : Nat) (b : Bool) (ty : SegType) (t : Int × Int) : Seg :=
  { start := t.1, stp := t.2, to := if b then [.seg i, nextDest n i] else [nextDest n i], await := [], ty := ty }

/-- the segment table of a part whose only structure is a set of pairwise disjoint simple repeats:
section `i` is repeated iff `flags[i]` -/
def chainGraph (flags : List Bool) (tys : List SegType) (times : List (Int × Int)) : List Seg :=
  (enum 0 flags).map fun q => chainSeg flags.length q.1 q.2 (tys.getD q.1 .dflt) (times.getD q.1 (0, 0))

/-- the default policy from section `i` on: a repeated section is played twice or once, the twice-played alternatives first -/
def allPaths : Nat → List Bool → List (List Nat)
  | _, [] => [[]]
  | i, false :: fs => (allPaths (i + 1) fs).map fun s => i :: s
  | i, true :: fs => ((allPaths (i + 1) fs).map fun s => i :: i :: s) ++ ((allPaths (i + 1) fs).map fun s => i :: s)

/-- `all_repeats`: every repeated section twice -/
def maxPath : Nat → List Bool → List Nat
  | _, [] => []
  | i, false :: fs => i :: maxPath (i + 1) fs
  | i, true :: fs => i :: i :: maxPath (i + 1) fs

/-- `no_repeats`: every section once -/
def minPath : Nat → List Bool → List Nat
  | _, [] => []
  | i, _ :: fs => i :: minPath (i + 1) fs

theorem allPaths_length (flags : List Bool) (i : Nat) : (allPaths i flags).length = 2 ^ (flags.count true) := by
  induction flags generalizing i with
  | nil => simp [allPaths]
  | cons b fs ih =>
    cases b with
    | false => simp [allPaths, ih]
    | true =>
      simp only [allPaths, List.length_append, List.length_map, ih, List.count_cons_self]
      rw [Nat.pow_succ]; omega

theorem chainGraph_get (flags : List Bool) (tys : List SegType) (times : List (Int × Int)) (i : Nat) :
    (chainGraph flags tys times)[i]? =
      (flags[i]?).map fun b => chainSeg flags.length i b (tys.getD i .dflt) (times.getD i (0, 0)) := by
  unfold chainGraph
  rw [List.getElem?_map, enum_get]
  cases flags[i]? <;> simp

def pathsFrom (nr ar : Bool) (i : Nat) (rest : List Bool) : List (List Nat) :=
  if nr then [minPath i rest] else if ar then [maxPath i rest] else allPaths i rest

theorem pathsFrom_nil (nr ar : Bool) (i : Nat) : pathsFrom nr ar i [] = [[]] := by
  cases nr <;> cases ar <;> simp [pathsFrom, minPath, maxPath, allPaths]

theorem pathsFrom_false (nr ar : Bool) (i : Nat) (fs : List Bool) :
    pathsFrom nr ar i (false :: fs) = (pathsFrom nr ar (i + 1) fs).map fun s => i :: s := by
  cases nr <;> cases ar <;> simp [pathsFrom, minPath, maxPath, allPaths]

section chain
variable (flags : List Bool) (tys : List SegType) (times : List (Int × Int))
variable (il nr ar : Bool)

theorem chain_ty (hty : ∀ t ∈ tys, t ≠ SegType.leapStart) (i : Nat) : tys.getD i .dflt ≠ SegType.leapStart := by
  rw [List.getD_eq_getElem?_getD]
  cases h : tys[i]? with
  | none => simp
  | some t => simpa using hty t (List.mem_of_getElem? h)

/-- the enumeration from section `i'` on, the rest of the table unused so far, gives the paths of the policy over the tail `fs`;
a section costs at most two steps of fuel -/
def ChainIH (i' : Nat) (fs : List Bool) : Prop :=
  ∀ (fuel : Nat), 2 * fs.length ≤ fuel → ∀ (st : PState), st.segs = chainGraph flags tys times → st.cur = i' →
    (∀ k, i' ≤ k → st.used k = []) → st.noRepeats = nr → st.allRepeats = ar →
    unfoldFrom il fuel st = some ((pathsFrom nr ar i' fs).map fun sfx => st.prev.reverse ++ sfx)

theorem advanceStep (hty : ∀ t ∈ tys, t ≠ SegType.leapStart) (i : Nat) (b : Bool) (fs : List Bool) (hdrop : flags.drop i = b :: fs)
    (ih : fs ≠ [] → ChainIH flags tys times il nr ar (i + 1) fs)
    (f : Nat) (hf : 2 * fs.length ≤ f) (st : PState) (hsegs : st.segs = chainGraph flags tys times)
    (hcur : st.cur = i) (hused : ∀ k, i < k → st.used k = []) (hnr : st.noRepeats = nr) (har : st.allRepeats = ar) :
    stepList (unfoldFrom il f) il st [nextDest flags.length i] =
      some ((pathsFrom nr ar (i + 1) fs).map fun sfx => st.path ++ sfx) := by
  have hlen : (flags.drop i).length = fs.length + 1 := by rw [hdrop]; simp
  rw [List.length_drop] at hlen
  obtain ⟨hget, hdrop'⟩ := drop_eq_cons hdrop
  have hsp : st.segs[st.cur]? = some (chainSeg flags.length i b (tys.getD i .dflt) (times.getD i (0, 0))) := by
    rw [hsegs, hcur, chainGraph_get, hget]; rfl
  by_cases hfs : fs = []
  · subst hfs
    have : i + 1 = flags.length := by simp at hlen; omega
    simp [nextDest, this, stepList, pathsFrom_nil]
  · have hlt : i + 1 < flags.length := by
      cases fs with
      | nil => exact absurd rfl hfs
      | cons x xs => simp at hlen; omega
    have hne : ¬ (i + 1 = flags.length) := by omega
    obtain ⟨b', fs', hfs'⟩ : ∃ b' fs', fs = b' :: fs' := by
      cases fs with
      | nil => exact absurd rfl hfs
      | cons x xs => exact ⟨x, xs, rfl⟩
    have hget' : flags[i + 1]? = some b' := (drop_eq_cons (hdrop'.trans hfs')).1
    have hsj : st.segs[i + 1]? = some (chainSeg flags.length (i + 1) b' (tys.getD (i + 1) .dflt) (times.getD (i + 1) (0, 0))) := by
      rw [hsegs, chainGraph_get, hget']; rfl
    have hj := jump_plain il st (i + 1) _ _ hsj hsp (chain_ty tys hty i)
    simp only [nextDest, hne, if_false, stepList, hj]
    have := ih hfs f hf (afterJump st (i + 1)) hsegs rfl
      (fun k hk => by rw [afterJump_used_ne st _ k (by omega)]; exact hused k (by omega)) hnr har
    rw [this]
    simp [path_eq, hcur, afterJump]

theorem advance (hty : ∀ t ∈ tys, t ≠ SegType.leapStart) (i : Nat) (b : Bool) (fs : List Bool) (hdrop : flags.drop i = b :: fs)
    (ih : fs ≠ [] → ChainIH flags tys times il nr ar (i + 1) fs)
    (f : Nat) (hf : 2 * fs.length ≤ f) (st : PState) (hsegs : st.segs = chainGraph flags tys times)
    (hcur : st.cur = i) (hused : ∀ k, i < k → st.used k = []) (hnr : st.noRepeats = nr) (har : st.allRepeats = ar)
    (hd : st.dests = some [nextDest flags.length i]) :
    unfoldFrom il (f + 1) st = some ((pathsFrom nr ar (i + 1) fs).map fun sfx => st.path ++ sfx) := by
  rw [unfoldFrom, hd]
  exact advanceStep flags tys times il nr ar hty i b fs hdrop ih f hf st hsegs hcur hused hnr har

theorem nextDest_ne_seg (n i j : Nat) (hj : j ≤ i) : Dest.seg j ≠ nextDest n i := by
  unfold nextDest
  split
  · simp
  · intro h; injection h with h; omega

theorem nextDest_ne (n i : Nat) : nextDest n i ≠ Dest.seg i := (nextDest_ne_seg n i i (Nat.le_refl _)).symm

/-- by cases on the flag of section `i`: without a repeat the step goes on (`advance`); with one, the fresh segment offers by
the policy itself, the next, or both, and once itself is used only the next is left (`dests_second`) -/
theorem chain_unfold (hty : ∀ t ∈ tys, t ≠ SegType.leapStart) :
    ∀ (rest : List Bool) (i : Nat), flags.drop i = rest → rest ≠ [] → ChainIH flags tys times il nr ar i rest := by
  intro rest
  induction rest with
  | nil => intro i _ h; exact absurd rfl h
  | cons b fs ihfs =>
    intro i hdrop _ fuel hfuel st hsegs hcur hused hnr har
    obtain ⟨hget, hdrop'⟩ := drop_eq_cons hdrop
    have ih : fs ≠ [] → ChainIH flags tys times il nr ar (i + 1) fs := fun h => ihfs (i + 1) hdrop' h
    have hsp : st.segs[st.cur]? = some (chainSeg flags.length i b (tys.getD i .dflt) (times.getD i (0, 0))) := by
      rw [hsegs, hcur, chainGraph_get, hget]; rfl
    have hu0 : st.used st.cur = [] := by rw [hcur]; exact hused i (Nat.le_refl _)
    have hfresh := dests_fresh st _ hsp hu0
    simp only [List.length_cons] at hfuel
    obtain ⟨f, rfl⟩ : ∃ f, fuel = f + 1 := ⟨fuel - 1, by omega⟩
    have hpre : ∀ (l : List (List Nat)), (l.map fun sfx => st.path ++ sfx) =
        ((l.map fun s => i :: s).map fun sfx => st.prev.reverse ++ sfx) := by
      intro l; simp [path_eq, hcur]
    cases b with
    | false =>
      have hd : st.dests = some [nextDest flags.length i] := by
        rw [hfresh]; cases st.noRepeats <;> cases st.allRepeats <;> simp [chainSeg]
      rw [advance flags tys times il nr ar hty i false fs hdrop ih f (by omega) st hsegs hcur
        (fun k hk => hused k (by omega)) hnr har hd, pathsFrom_false, hpre]
    | true =>
      cases hnrv : nr with
      | true =>
        have hd : st.dests = some [nextDest flags.length i] := by
          rw [hfresh, hnr, hnrv]; simp [chainSeg]
        rw [advance flags tys times il nr ar hty i true fs hdrop ih f (by omega) st hsegs hcur
          (fun k hk => hused k (by omega)) hnr har hd, hpre, hnrv]
        simp [pathsFrom, minPath]
      | false =>
        -- the self-repeat: jump to i, then the only destination left is the next section
        have hsi : st.segs[i]? = some (chainSeg flags.length i true (tys.getD i .dflt) (times.getD i (0, 0))) := by
          have := hsp
          rw [hcur] at this
          exact this
        have hself := jump_plain il st i _ _ hsi hsp (chain_ty tys hty i)
        obtain ⟨f', rfl⟩ : ∃ f', f = f' + 1 := ⟨f - 1, by omega⟩
        let st1 : PState := afterJump st i
        have hsp1 : st1.segs[st1.cur]? = some (chainSeg flags.length i true (tys.getD i .dflt) (times.getD i (0, 0))) := hsi
        have hd1 : st1.dests = some [nextDest flags.length i] :=
          dests_second st1 _ i (nextDest flags.length i) hsp1 (by simp [chainSeg]) (nextDest_ne _ _)
            (by show (afterJump st i).used i = _
                rw [← hcur, afterJump_used_cur, hu0]; rfl)
        have hrun1 := advance flags tys times il nr ar hty i true fs hdrop ih f' (by omega) st1 hsegs rfl
          (fun k hk => by rw [afterJump_used_ne st _ k (by omega)]; exact hused k (by omega))
          hnr har hd1
        have hpath1 : st1.path = st.prev.reverse ++ [i, i] := by
          simp [path_eq, st1, hcur, afterJump]
        cases harv : ar with
        | true =>
          have hd : st.dests = some [Dest.seg i] := by
            rw [hfresh, hnr, hnrv, har, harv]; simp [chainSeg]
          rw [unfoldFrom, hd]
          simp only [stepList, hself]
          rw [hrun1, hpath1, hnrv, harv]
          simp [pathsFrom, maxPath]
        | false =>
          have hd : st.dests = some [Dest.seg i, nextDest flags.length i] := by
            rw [hfresh, hnr, hnrv, har, harv]; simp [chainSeg]
          rw [unfoldFrom, hd]
          have hstep := advanceStep flags tys times il nr ar hty i true fs hdrop ih (f' + 1) (by omega) st hsegs hcur
            (fun k hk => hused k (by omega)) hnr har
          simp only [stepList, hself] at hstep ⊢
          rw [hrun1, hstep, hpath1, hnrv, harv]
          simp [pathsFrom, allPaths, path_eq, hcur, Function.comp_def]

end chain

theorem maxPath_ge (flags : List Bool) (k j : Nat) (h : j ∈ maxPath k flags) : k ≤ j := by
  induction flags generalizing k with
  | nil => simp [maxPath] at h
  | cons x xs ih =>
    cases x <;> simp only [maxPath, List.mem_cons] at h
    · rcases h with h | h
      · omega
      · have := ih (k + 1) h; omega
    · rcases h with h | h | h
      · omega
      · omega
      · have := ih (k + 1) h; omega

theorem minPath_ge (flags : List Bool) (k j : Nat) (h : j ∈ minPath k flags) : k ≤ j := by
  induction flags generalizing k with
  | nil => simp [minPath] at h
  | cons x xs ih =>
    simp only [minPath, List.mem_cons] at h
    rcases h with h | h
    · omega
    · have := ih (k + 1) h; omega

theorem max_min_counts_aux (flags : List Bool) (k i : Nat) (b : Bool) (h : flags[i - k]? = some b) (hk : k ≤ i) :
    (maxPath k flags).count i = (if b then 2 else 1) ∧ (minPath k flags).count i = 1 := by
  induction flags generalizing k with
  | nil => simp at h
  | cons x xs ih =>
    by_cases hik : i = k
    · subst hik
      simp only [Nat.sub_self, List.getElem?_cons_zero, Option.some.injEq] at h
      subst h
      have h1 : (maxPath (i + 1) xs).count i = 0 :=
        List.count_eq_zero.mpr (fun hm => by have := maxPath_ge xs (i + 1) i hm; omega)
      have h2 : (minPath (i + 1) xs).count i = 0 :=
        List.count_eq_zero.mpr (fun hm => by have := minPath_ge xs (i + 1) i hm; omega)
      cases x <;> simp [maxPath, minPath, h1, h2]
    · have hlt : k < i := by omega
      have e : i - k = (i - (k + 1)) + 1 := by omega
      rw [e, List.getElem?_cons_succ] at h
      obtain ⟨i1, i2⟩ := ih (k + 1) h (by omega)
      have hne : ¬ (k = i) := by omega
      cases x <;> simp [maxPath, minPath, hne, i1, i2]

def DisjointSegs (g : List Seg) : Prop :=
  ∀ (a b : Nat) (sa sb : Seg), g[a]? = some sa → g[b]? = some sb → a ≠ b →
    sa.stp ≤ sb.start ∨ sb.stp ≤ sa.start

theorem win_count (g : List Seg) (hdis : DisjointSegs g) (o : Obj) (j : Nat) (s : Seg) (hj : g[j]? = some s)
    (hin : s.start ≤ o.start ∧ o.start < s.stp) :
    ∀ (path : List Nat) (off : Int) (vs : List Visit), visitsFrom g off path = some vs →
      (vs.filter fun v => inWin v o).length = path.count j := by
  intro path
  induction path with
  | nil =>
    intro off vs h
    simp only [visitsFrom, Option.some.injEq] at h
    subst h; simp
  | cons a rest ih =>
    intro off vs h
    obtain ⟨sa, vs', hg, hr, rfl⟩ := visitsFrom_cons g off a rest vs h
    have hrec := ih _ _ hr
    simp only [List.filter_cons, List.count_cons]
    by_cases haj : a = j
    · subst haj
      rw [hg] at hj
      simp only [Option.some.injEq] at hj
      subst hj
      have : inWin ⟨sa.start, sa.stp, off⟩ o = true := by simp [inWin, hin.1, hin.2]
      simp [this, hrec]
    · have : inWin ⟨sa.start, sa.stp, off⟩ o = false := by
        cases hw : inWin ⟨sa.start, sa.stp, off⟩ o with
        | false => rfl
        | true =>
          simp only [inWin, Bool.and_eq_true, decide_eq_true_eq] at hw
          rcases hdis a j sa s hg hj haj with h1 | h1 <;> omega
      have hne : ¬ ((a == j) = true) := by simpa using haj
      simp [this, hrec, hne]

theorem flat_count_visit (objs : List Obj) (i : Nat) (o : Obj) (hi : objs[i]? = some o)
    (hd : o.kind.dropped = false) (hs : o.kind.isSig = false) (Rv : Nat → Bool) :
    ∀ (vs : List Visit) (k : Nat),
      (((enum k vs).flatMap fun nv =>
          ((enum 0 objs).filter (copyable nv.2)).map fun q => core (mkCopy q.1 nv.1 q.2 (nv.2.off - nv.2.s))).filter
        fun t => decide (t.1 = i) && Rv t.2.1).length =
      ((enum k vs).filter fun nv => Rv nv.1 && inWin nv.2 o).length := by
  intro vs
  induction vs with
  | nil => intro k; simp [enum]
  | cons v vs ih =>
    intro k
    simp only [enum, List.flatMap_cons, List.filter_append, List.length_append, ih, List.filter_cons]
    have hhead : ((((enum 0 objs).filter (copyable v)).map fun q => core (mkCopy q.1 k q.2 (v.off - v.s))).filter
        fun t => decide (t.1 = i) && Rv t.2.1).length = if (Rv k && inWin v o) then 1 else 0 := by
      rw [List.filter_map, List.length_map, List.filter_filter]
      have hfun : (fun q : Nat × Obj => ((fun t : Nat × Nat × Kind × Int × Option Int × List Int × Option String × Bool =>
            decide (t.1 = i) && Rv t.2.1) ∘ fun q => core (mkCopy q.1 k q.2 (v.off - v.s))) q && copyable v q) =
          fun q => decide (q.1 = i) && (Rv k && copyable v q) := by
        funext q
        show (decide (q.1 = i) && Rv k && copyable v q) = _
        rw [Bool.and_assoc]
      rw [hfun, enum_filter_idx (fun q => Rv k && copyable v q) objs 0 i o (Nat.zero_le _) (by simpa using hi)]
      simp [copyable, hd, hs]
    rw [hhead]
    cases Rv k <;> cases inWin v o <;> simp <;> omega

theorem count_copies (objs : List Obj) (vs : List Visit) (i : Nat) (o : Obj) (hi : objs[i]? = some o)
    (hd : o.kind.dropped = false) (hs : o.kind.isSig = false) (Rv : Nat → Bool) :
    ((variantObjs objs 0 vs []).filter fun y : OObj => keepP y && (decide (y.orig = i) && Rv y.visit)).length =
      ((enum 0 vs).filter fun nv => Rv nv.1 && inWin nv.2 o).length := by
  have h : ((variantObjs objs 0 vs []).filter fun y : OObj => keepP y && (decide (y.orig = i) && Rv y.visit)).length =
      ((((variantObjs objs 0 vs []).filter keepP).map core).filter fun t => decide (t.1 = i) && Rv t.2.1).length := by
    rw [List.filter_map, List.length_map, List.filter_filter]
    congr 1
    exact List.filter_congr (fun y _ => by rw [Bool.and_comm]; rfl)
  rw [h, variantObjs_keep]
  simp only [List.filter_nil, List.map_nil, List.nil_append]
  exact flat_count_visit objs i o hi hd hs Rv vs 0

end C09
