/-
The divisions `inferPpq` chooses for an MEI document (`C19.mei_inferPpq_exact`): the closed form of a written value, the keys'
least common multiple (`lcmKeys_eq_lcm`), and why a key that divides it makes the written value a whole number of divisions
(`exact_of_key`, `key_exact`; `elem_exact`: whole reciprocals, `1/2^j` for breve and long, tuplets).
-/
import PartituraModel.Proofs.C19
import PartituraModel.Model.Mei
import PartituraModel.Proofs.Round
import PartituraModel.Proofs.Lists
import Mathlib.Tactic.Linarith

namespace C19P
open Model.Mei

theorem meiValue_closed (v : Rat) (d : Nat) (a b : Nat) :
    meiValue v d (some (a, b)) = 4 / v * (2 - 1 / (2 : Rat) ^ d) * (b : Rat) / (a : Rat) := by
  simp [meiValue, dotted_closed]

theorem meiValue_closed_plain (v : Rat) (d : Nat) :
    meiValue v d none = 4 / v * (2 - 1 / (2 : Rat) ^ d) := by
  simp [meiValue, dotted_closed]

abbrev F (acc : Nat) (k : Rat) : Nat := if k < 1 then acc else Nat.lcm acc k.floor.toNat

theorem lcmKeys_eq (ks : List Rat) : lcmKeys ks = ks.foldl F 4 := rfl

/-- the natural number a key contributes to the lcm: its floor, or nothing (1) when it is below 1 -/
def keyNat (k : Rat) : Nat := if k < 1 then 1 else k.floor.toNat

theorem lcmKeys_eq_lcm (ks : List Rat) : lcmKeys ks = (ks.map keyNat).foldl Nat.lcm 4 := by
  rw [lcmKeys, List.foldl_map]
  congr 1
  funext acc k
  unfold keyNat
  split
  · exact (Nat.lcm_one_right acc).symm
  · rfl

theorem keyNat_natCast (m : Nat) (hm : 1 ≤ m) : keyNat (m : Rat) = m := by
  rw [keyNat, if_neg (not_lt.mpr (by exact_mod_cast hm)), Round.floor_toNat_natCast]

theorem keyNat_pos (k : Rat) : 0 < keyNat k := by
  unfold keyNat
  split
  · exact Nat.one_pos
  · rename_i hk
    have : (1 : Int) ≤ k.floor := Rat.le_floor_iff.mpr (by simpa using not_lt.mp hk)
    omega

theorem four_dvd_lcmKeys (ks : List Rat) : 4 ∣ lcmKeys ks :=
  lcmKeys_eq_lcm ks ▸ (Lists.foldl_lcm_dvd_iff.mp (Nat.dvd_refl _)).1

theorem dvd_lcmKeys (ks : List Rat) (m : Nat) (hm : 1 ≤ m) (h : (m : Rat) ∈ ks) : m ∣ lcmKeys ks :=
  lcmKeys_eq_lcm ks ▸ (Lists.foldl_lcm_dvd_iff.mp (Nat.dvd_refl _)).2 m (keyNat_natCast m hm ▸ List.mem_map_of_mem h)

theorem lcmKeys_pos (ks : List Rat) : 0 < lcmKeys ks :=
  lcmKeys_eq_lcm ks ▸ Lists.foldl_lcm_pos (by decide) fun d hd => by
    obtain ⟨k, _, rfl⟩ := List.mem_map.mp hd
    exact keyNat_pos k

theorem exact_of_key (L m : Nat) (hm : m ∣ L) (hm0 : 0 < m) (val : Rat) (c : Int)
    (hval : (m : Rat) * val = 4 * (c : Rat)) : C19D.QI ((L : Rat) / 4) val := by
  obtain ⟨t, rfl⟩ := hm
  refine ⟨t * c, ?_⟩
  have hm' : (m : Rat) ≠ 0 := by exact_mod_cast (Nat.pos_iff_ne_zero.mp hm0)
  have : val = 4 * (c : Rat) / (m : Rat) := by
    field_simp
    linarith [hval]
  rw [this]
  push_cast
  field_simp

theorem inferPpq_of_no_durppq (els : List DurEl) (units : List Nat) (hno : ∀ e ∈ els, e.durppq = none) :
    inferPpq els units =
      (allKeys els).map fun keys => ((lcmKeys (keys ++ units.map fun (u : Nat) => (u : Rat)) : Nat) : Rat) / 4 := by
  unfold inferPpq
  cases hk : allKeys els with
  | none => rfl
  | some keys =>
    have hfind : (els.zip keys).find? (fun ek => ek.1.durppq.isSome) = none :=
      List.find?_eq_none.mpr fun x hx => by simp [hno x.1 (List.of_mem_zip hx).1]
    simp only [hfind, Option.map_some]

theorem allKeys_mem (els : List DurEl) (ks : List Rat) (h : allKeys els = some ks) :
    ∀ e ∈ els, ∃ k ∈ ks, durKey e = some k := by
  induction els generalizing ks with
  | nil => intro e he; cases he
  | cons a rest ih =>
    simp only [allKeys] at h
    split at h
    · rename_i k ks' hk hks
      simp at h
      subst h
      intro e he
      rcases List.mem_cons.mp he with rfl | he
      · exact ⟨k, by simp, hk⟩
      · obtain ⟨k', hk', hd⟩ := ih ks' hks e he
        exact ⟨k', by simp [hk'], hd⟩
    · simp at h

/-- the values the MEI duration table can produce (whole reciprocals, breve = 1/2, long = 1/4, …),
    and tuplets with positive terms on any positive value -/
def WellFormed (e : DurEl) : Prop :=
  match e.tup with
  | none => (∃ n : Nat, 0 < n ∧ e.v = (n : Rat)) ∨ (∃ j : Nat, e.v = 1 / (2 : Rat) ^ j)
  | some (a, b) => 0 < e.v ∧ 0 < a ∧ 0 < b

theorem two_pow_ne (d : Nat) : ((2 : Rat) ^ d) ≠ 0 := pow_ne_zero _ (by norm_num)

theorem meiValue_tuplet (v : Rat) (d a b : Nat) :
    meiValue v d (some (a, b)) = meiValue (v * (a : Rat) / (b : Rat)) d none := by
  rw [meiValue_closed, meiValue_closed_plain, div_div_eq_mul_div]
  ring

theorem key_exact (L m : Nat) (hm : m ∣ L) (hm0 : 0 < m) (x : Rat) (hx : x ≠ 0) (d : Nat) (t : Int)
    (h : (m : Rat) = x * (2 : Rat) ^ d * (t : Rat)) : C19D.QI ((L : Rat) / 4) (meiValue x d none) := by
  refine exact_of_key L m hm hm0 _ (t * ((2 : Int) ^ (d + 1) - 1)) ?_
  have h2 := two_pow_ne d
  rw [meiValue_closed_plain, h]
  push_cast
  field_simp
  ring

theorem elem_exact (ks : List Rat) (e : DurEl) (k : Rat) (hk : durKey e = some k) (hmem : k ∈ ks)
    (hw : WellFormed e) : C19D.QI ((lcmKeys ks : Rat) / 4) (meiValue e.v e.dots e.tup) := by
  obtain ⟨v, d, tup, dp⟩ := e
  have key : ∀ m : Nat, 0 < m → k = (m : Rat) → m ∣ lcmKeys ks := fun m hm e => dvd_lcmKeys ks m hm (e ▸ hmem)
  cases tup with
  | none =>
    simp only [WellFormed] at hw
    simp only [durKey, Option.some.injEq] at hk
    rcases hw with ⟨n, hn, rfl⟩ | ⟨j, rfl⟩
    · have hn' : (n : Rat) ≠ 0 := by exact_mod_cast (Nat.pos_iff_ne_zero.mp hn)
      have hm : 0 < n * 2 ^ d := Nat.mul_pos hn (by positivity)
      exact key_exact _ (n * 2 ^ d) (key _ hm (by rw [← hk]; push_cast; ring)) hm _ hn' d 1 (by push_cast; ring)
    · have h2j := two_pow_ne j
      by_cases hjd : j ≤ d
      · obtain ⟨i, rfl⟩ := Nat.exists_eq_add_of_le hjd
        have e : (1 / (2 : Rat) ^ j) * (2 : Rat) ^ (j + i) = ((2 ^ i : Nat) : Rat) := by
          push_cast; rw [pow_add]; field_simp
        exact key_exact _ (2 ^ i) (key _ (by positivity) (by rw [← hk, e])) (by positivity) _ (one_div_ne_zero h2j) _ 1
          (by rw [← e]; push_cast; ring)
      · -- the key is below 1 and does not enter the lcm: the value is a whole number of quarters
        obtain ⟨i, rfl⟩ := Nat.exists_eq_add_of_le (Nat.le_of_lt (Nat.lt_of_not_le hjd))
        refine ⟨(lcmKeys ks : Nat) * 2 ^ i * ((2 : Int) ^ (d + 1) - 1), ?_⟩
        have h2d := two_pow_ne d
        rw [meiValue_closed_plain]
        push_cast
        rw [pow_add]
        field_simp
        ring
  | some ab =>
    obtain ⟨a, b⟩ := ab
    simp only [WellFormed] at hw
    obtain ⟨hv, ha, hb⟩ := hw
    simp only [durKey, if_neg (Nat.pos_iff_ne_zero.mp hb), Option.some.injEq] at hk
    rw [meiValue_tuplet]
    generalize hx : v * (a : Rat) / (b : Rat) = x at hk
    have hxpos : 0 < x := hx ▸ div_pos (mul_pos hv (by exact_mod_cast ha)) (by exact_mod_cast hb)
    obtain ⟨p, hp⟩ : ∃ p : Nat, x.num = (p : Int) := ⟨x.num.toNat, by have := Rat.num_pos.mpr hxpos; omega⟩
    have hp0 : 0 < p := by have := Rat.num_pos.mpr hxpos; omega
    have hm : 0 < p * 2 ^ d := Nat.mul_pos hp0 (by positivity)
    refine key_exact _ (p * 2 ^ d) (key _ hm (by rw [← hk, hp]; push_cast; ring)) hm x (ne_of_gt hxpos) d x.den ?_
    have : (p : Rat) = x * (x.den : Rat) := by
      rw [Rat.mul_den_eq_num, hp]; simp
    push_cast
    rw [this]
    ring

end C19P
