/-
C04 — the tie chains of `Model.ScoreMidiTies` one step at a time: what `chain` returns on positive fuel, and the
equations of `durationTied` (Model/MidiPair.lean) / `endTied` at the last member of a chain and at a link.
-/
import PartituraModel.Model.ScoreMidiTies

namespace C04Ties
open Model.MidiPair Model.ScoreMidiTies

theorem chain_cases {notes : List ScoreNote} {k i : Nat} {c : List ScoreNote} (h : chain notes (k + 1) i = some c) :
    ∃ n, notes[i]? = some n ∧
      ((n.tieNext = none ∧ c = [n]) ∨ ∃ j c', n.tieNext = some j ∧ chain notes k j = some c' ∧ c = n :: c') := by
  simp only [chain] at h
  cases hn : notes[i]? with
  | none => simp [hn] at h
  | some n =>
    simp only [hn] at h
    refine ⟨n, rfl, ?_⟩
    cases ht : n.tieNext with
    | none => simp only [ht] at h; cases h; exact Or.inl ⟨rfl, rfl⟩
    | some j =>
      simp only [ht] at h
      cases hc : chain notes k j with
      | none => simp [hc] at h
      | some c' => simp only [hc, Option.map_some] at h; cases h; exact Or.inr ⟨j, c', rfl, hc, rfl⟩

theorem durationTied_last {notes : List ScoreNote} {i : Nat} {n : ScoreNote} (k : Nat) (hn : notes[i]? = some n)
    (ht : n.tieNext = none) : durationTied notes (k + 1) i = n.dur := by
  simp only [durationTied, hn, ht]

theorem durationTied_link {notes : List ScoreNote} {i j : Nat} {n : ScoreNote} (k : Nat) (hn : notes[i]? = some n)
    (ht : n.tieNext = some j) : durationTied notes (k + 1) i = n.dur + durationTied notes k j := by
  simp only [durationTied, hn, ht]

theorem endTied_last {notes : List ScoreNote} {i : Nat} {n : ScoreNote} (k : Nat) (hn : notes[i]? = some n)
    (ht : n.tieNext = none) : endTied notes (k + 1) i = n.start + n.dur := by
  simp only [endTied, hn, ht]

theorem endTied_link {notes : List ScoreNote} {i j : Nat} {n : ScoreNote} (k : Nat) (hn : notes[i]? = some n)
    (ht : n.tieNext = some j) : endTied notes (k + 1) i = endTied notes k j := by
  simp only [endTied, hn, ht]

theorem chain_ne_nil (notes : List ScoreNote) : ∀ (fuel i : Nat) (c : List ScoreNote),
    chain notes fuel i = some c → c ≠ [] := by
  intro fuel i c h
  cases fuel with
  | zero => simp [chain] at h
  | succ k =>
    obtain ⟨n, _, ⟨_, rfl⟩ | ⟨_, _, _, _, rfl⟩⟩ := chain_cases h <;> exact List.cons_ne_nil _ _

end C04Ties
