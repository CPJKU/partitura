/-
C20 — two facts about Model/ArgForms.lean: `iter_parts` walks a tree of groups depth first;
and in the heap model of `transpose` the deep copy only appends cells and the in-place rewriting writes only into the
copy.
-/
import PartituraModel.Model.ArgForms
import PartituraModel.Proofs.C20Store

namespace C20Heap
open Model.ArgForms

theorem iterNodes_eq_flatMap (xs : List Node) : iterNodes xs = xs.flatMap iterNode := by
  induction xs with
  | nil => rfl
  | cons x xs ih => rw [iterNodes, ih, List.flatMap_cons]

theorem iterNodes_singleton (n : Node) : iterNodes [n] = iterNode n := List.append_nil _

/-- lists and tuples are among the sequence types `iter_parts` walks (the tuple `(list, tuple, set)` of its
    `isinstance` test is REGENERATED from the source: Gen.C20.iterPartsSeqTypes) -/
theorem iterParts_seq (b : Bool) (xs : List Node) : iterParts (ScoreArg.seq b xs) = some (iterNodes xs) := by
  have h1 : "list" ∈ Gen.C20.iterPartsSeqTypes := by decide +kernel
  have h2 : "tuple" ∈ Gen.C20.iterPartsSeqTypes := by decide +kernel
  cases b <;> simp [iterParts, h1, h2]

theorem writeNote_eq {α : Type} (f : α → α) : writeNote f = C20Store.upd f := rfl

theorem writeNote_length {α : Type} (f : α → α) (cells : List α) (a : Nat) :
    (writeNote f cells a).length = cells.length := writeNote_eq f ▸ C20Store.upd_length f cells a

theorem writePart_length {α : Type} (f : α → α) (p : PartObj) :
    ∀ cells : List α, (writePart f cells p).length = cells.length := by
  induction p with
  | nil => intro cells; rfl
  | cons a as ih => intro cells; simp [writePart, ih, writeNote_length]

theorem writeNote_get {α : Type} (f : α → α) (cells : List α) (a i : Nat) :
    (writeNote f cells a)[i]? = if i = a then (cells[i]?).map f else cells[i]? :=
  writeNote_eq f ▸ C20Store.upd_get f cells a i

theorem writePart_get {α : Type} (f : α → α) (p : PartObj) (hnd : p.Nodup) :
    ∀ (cells : List α) (i : Nat),
      (writePart f cells p)[i]? = if i ∈ p then (cells[i]?).map f else cells[i]? := by
  induction p with
  | nil => intro cells i; simp [writePart]
  | cons a as ih =>
    intro cells i
    have hna : a ∉ as := (List.nodup_cons.mp hnd).1
    have hnd' : as.Nodup := (List.nodup_cons.mp hnd).2
    simp only [writePart]
    rw [ih hnd', writeNote_get]
    by_cases hia : i = a
    · subst hia
      simp [hna]
    · simp [hia]

theorem writePart_append {α : Type} (f : α → α) (p q : PartObj) :
    ∀ cells : List α, writePart f cells (p ++ q) = writePart f (writePart f cells p) q := by
  induction p with
  | nil => intro cells; rfl
  | cons a as ih => intro cells; simp [writePart, ih]

theorem writeParts_flatten {α : Type} (f : α → α) (ps : List PartObj) :
    ∀ cells : List α, writeParts f cells ps = writePart f cells ps.flatten := by
  induction ps with
  | nil => intro cells; rfl
  | cons p ps ih => intro cells; simp [writeParts, ih, writePart_append]

theorem writeParts_length {α : Type} (f : α → α) (ps : List PartObj) (cells : List α) :
    (writeParts f cells ps).length = cells.length := by
  rw [writeParts_flatten, writePart_length]

theorem writePart_not_mem {α : Type} (f : α → α) (p : PartObj) :
    ∀ (cells : List α) (i : Nat), i ∉ p → (writePart f cells p)[i]? = cells[i]? := by
  induction p with
  | nil => intro cells i _; rfl
  | cons a as ih =>
    intro cells i hi
    show (writePart f (writeNote f cells a) as)[i]? = _
    rw [ih _ i (fun h => hi (List.mem_cons_of_mem _ h)), writeNote_get,
      if_neg (fun e : i = a => hi (e ▸ List.mem_cons_self ..))]

theorem copyPart_snd {α : Type} (cells : List α) (p : PartObj) :
    (copyPart cells p).2 = List.range' cells.length p.length := rfl

theorem copyPart_fst_length {α : Type} (cells : List α) (p : PartObj) (h : ∀ a ∈ p, a < cells.length) :
    (copyPart cells p).1.length = cells.length + p.length := by
  simp only [copyPart, List.length_append]
  congr 1
  induction p with
  | nil => rfl
  | cons a as ih =>
    have ha : a < cells.length := h a (List.mem_cons_self ..)
    simp only [List.filterMap_cons, List.getElem?_eq_getElem ha, List.length_cons]
    rw [ih (fun b hb => h b (List.mem_cons_of_mem _ hb))]

/-- the deep copy only allocates -/
theorem copyParts_extends {α : Type} (ps : List PartObj) :
    ∀ cells : List α, ∃ ext, (copyParts cells ps).1 = cells ++ ext := by
  induction ps with
  | nil => intro cells; exact ⟨[], by simp [copyParts]⟩
  | cons p ps ih =>
    intro cells
    obtain ⟨e, he⟩ := ih (copyPart cells p).1
    refine ⟨p.filterMap (fun a => cells[a]?) ++ e, ?_⟩
    simp only [copyParts]
    rw [he]
    simp [copyPart, List.append_assoc]

theorem copyParts_fresh {α : Type} (ps : List PartObj) :
    ∀ (cells : List α), ∀ q ∈ (copyParts cells ps).2, ∀ a ∈ q, cells.length ≤ a := by
  induction ps with
  | nil => intro cells q hq; cases hq
  | cons p ps ih =>
    intro cells q hq a ha
    rcases List.mem_cons.mp hq with rfl | hq
    · exact (List.mem_range'_1.mp ha).1
    · exact Nat.le_trans (List.length_append ▸ Nat.le_add_right ..) (ih (copyPart cells p).1 q hq a ha)

theorem getElem?_append_ext {α : Type} (cells ext : List α) (i : Nat) (h : i < cells.length) :
    (cells ++ ext)[i]? = cells[i]? := List.getElem?_append_left h

/-- valid parts are copied to consecutive addresses from the old length on: no two copied notes share a cell -/
theorem copyParts_addresses {α : Type} (ps : List PartObj) :
    ∀ (cells : List α), (∀ p ∈ ps, ∀ x ∈ p, x < cells.length) →
      (copyParts cells ps).2.flatten = List.range' cells.length ps.flatten.length ∧
      (copyParts cells ps).1.length = cells.length + ps.flatten.length := by
  induction ps with
  | nil => intro cells _; simp [copyParts]
  | cons p ps ih =>
    intro cells hwf
    have hp : ∀ a ∈ p, a < cells.length := hwf p (List.mem_cons_self ..)
    have hlen := copyPart_fst_length cells p hp
    have hwf' : ∀ q ∈ ps, ∀ x ∈ q, x < (copyPart cells p).1.length := fun q hq x hx =>
      hlen ▸ Nat.lt_of_lt_of_le (hwf q (List.mem_cons_of_mem _ hq) x hx) (Nat.le_add_right ..)
    obtain ⟨h1, h2⟩ := ih (copyPart cells p).1 hwf'
    simp only [copyParts, List.flatten_cons, List.length_append]
    rw [h1, h2, copyPart_snd, hlen]
    refine ⟨?_, Nat.add_assoc ..⟩
    rw [List.range'_append_1] <;> rfl

/-- reading the freshly copied notes of a valid part back, address by address, whatever surrounds them -/
theorem copyPart_read {α : Type} (cells : List α) (p : PartObj) (hp : ∀ a ∈ p, a < cells.length) :
    ∀ pre ext : List α,
      (List.range' pre.length p.length).map (fun x => (pre ++ (p.filterMap (fun a => cells[a]?) ++ ext))[x]?)
        = p.map (fun a => cells[a]?) := by
  induction p with
  | nil => intro _ _; rfl
  | cons a as ih =>
    intro pre ext
    have ha : a < cells.length := hp a (List.mem_cons_self ..)
    have := ih (fun b hb => hp b (List.mem_cons_of_mem _ hb)) (pre ++ [cells[a]]) ext
    rw [List.length_append, List.length_singleton, List.append_assoc, List.singleton_append] at this
    simp only [List.filterMap_cons, List.getElem?_eq_getElem ha, List.length_cons, List.range'_succ, List.map_cons,
      List.cons_append, this]
    congr 1
    exact (List.getElem?_append_right (Nat.le_refl _)).trans (by rw [Nat.sub_self]; rfl)

/-- **a deep copy holds what the original holds**: read through the new heap, the copied parts show exactly the
    contents of the argument's parts -/
theorem copyParts_contents {α : Type} (cells0 : List α) (ps : List PartObj)
    (hwf : ∀ p ∈ ps, ∀ x ∈ p, x < cells0.length) :
    ∀ e : List α,
      (copyParts (cells0 ++ e) ps).2.map (fun q => q.map (fun x => (copyParts (cells0 ++ e) ps).1[x]?))
        = ps.map (fun p => p.map (fun x => cells0[x]?)) := by
  induction ps with
  | nil => intro e; rfl
  | cons p ps ih =>
    intro e
    have hp : ∀ a ∈ p, a < cells0.length := hwf p (List.mem_cons_self ..)
    have hp' : ∀ a ∈ p, a < (cells0 ++ e).length := fun a ha => by
      rw [List.length_append]; exact Nat.lt_of_lt_of_le (hp a ha) (Nat.le_add_right _ _)
    show _ :: _ = _ :: _
    congr 1
    · obtain ⟨ext, hext⟩ := copyParts_extends ps (copyPart (cells0 ++ e) p).1
      show (List.range' _ _).map (fun x => (copyParts (copyPart (cells0 ++ e) p).1 ps).1[x]?) = _
      rw [hext]
      show (List.range' _ _).map (fun x => (cells0 ++ e ++ _ ++ ext)[x]?) = _
      rw [List.append_assoc (cells0 ++ e), copyPart_read _ p hp']
      exact List.map_congr_left fun a ha => List.getElem?_append_left (hp a ha)
    · -- the tail: induction, the heap has grown
      have := ih (fun q hq => hwf q (List.mem_cons_of_mem _ hq)) (e ++ p.filterMap (fun a => (cells0 ++ e)[a]?))
      rw [← List.append_assoc] at this
      exact this

theorem withParts_parts (a : TArg) (qs : List PartObj) (h : qs.length = a.parts.length) :
    (a.withParts qs).parts = qs := by
  cases a with
  | score ps => rfl
  | group ps => rfl
  | seq ps => rfl
  | part p =>
    match qs, h with
    | [q], _ => rfl

theorem copyParts_snd_length {α : Type} (ps : List PartObj) :
    ∀ cells : List α, (copyParts cells ps).2.length = ps.length := by
  induction ps with
  | nil => intro cells; rfl
  | cons p ps ih => intro cells; simp [copyParts, ih]

theorem transpose_heap_grows {α : Type} (f : α → α) (cells : List α) (a : TArg) :
    cells.length ≤ (transpose f cells a).1.length := by
  simp only [transpose, writeParts_length, deepcopy]
  obtain ⟨ext, hext⟩ := copyParts_extends a.parts cells
  rw [hext]; simp


end C20Heap
