/-
C02 — from a well-formed `Part` to a well-formed knot list; `prevValue` as a scan.
-/
import PartituraModel.Proofs.C02Keys
import PartituraModel.Proofs.Previous

namespace C02Proofs
open Model.TimeMap

/-- the (decidable) side conditions under which the maps are strictly increasing:
    at least two time points, positive divisions, positive signature numbers -/
def WF (p : Part) (m : Mode) : Prop :=
  2 ≤ p.npoints ∧ p.first < p.last ∧ (∀ e ∈ p.qd, 0 < e.2) ∧
  (m ≠ .quarter → ∀ s ∈ p.ts, 0 < s.beats ∧ 0 < s.beatType ∧ (m = .musical → 0 < s.mb))

instance (p : Part) (m : Mode) : Decidable (WF p m) := by
  unfold WF; infer_instance

/-- the keys of the `defaultdict`: first and last time point, every quarter-duration change time, every
signature start (beat maps only) -/
theorem mem_keyTimes (p : Part) (m : Mode) (t : Int) :
    t ∈ keyTimes p m ↔
      t = p.first ∨ t = p.last ∨ t ∈ (qdAssign p.qd).map (·.1) ∨ t ∈ (facAssign m p.ts).map (·.1) := by
  rw [keyTimes, mem_sortedKeys, List.mem_cons, List.mem_cons, List.mem_append]

theorem mem_qdAssign_keys (qd : List (Int × Nat)) (t : Int) : t ∈ (qdAssign qd).map (·.1) ↔ ∃ e ∈ qd, e.1 = t := by
  simp only [qdAssign, List.map_map, List.mem_map, Function.comp_apply]

theorem mem_facAssign_keys (m : Mode) (ts : List TSig) (t : Int) :
    t ∈ (facAssign m ts).map (·.1) ↔ m ≠ .quarter ∧ ∃ s ∈ ts, s.t = t := by
  cases m <;> simp only [facAssign, List.map_map, List.mem_map, Function.comp_apply, List.map_nil,
    List.not_mem_nil, ne_eq, reduceCtorEq, not_true_eq_false, not_false_eq_true, false_and, true_and]

theorem first_mem_keyTimes (p : Part) (m : Mode) : p.first ∈ keyTimes p m :=
  (mem_keyTimes p m _).mpr (Or.inl rfl)

theorem last_mem_keyTimes (p : Part) (m : Mode) : p.last ∈ keyTimes p m :=
  (mem_keyTimes p m _).mpr (Or.inr (Or.inl rfl))

theorem keyTimes_head (p : Part) (m : Mode) : ∃ t0, (keyTimes p m).head? = some t0 := by
  cases h : keyTimes p m with
  | nil => exact absurd (h ▸ first_mem_keyTimes p m) List.not_mem_nil
  | cons a as => exact ⟨a, rfl⟩

theorem keyTimes_pairwise (p : Part) (m : Mode) : (keyTimes p m).Pairwise (· < ·) :=
  pairwise_sortedKeys _

theorem head_le_of_pairwise {α : Type} [Preorder α] (l : List α) (a : α) (hp : l.Pairwise (· < ·))
    (h : l.head? = some a) : ∀ x ∈ l, a ≤ x :=
  Lists.pairwise_head? le_refl (hp.imp le_of_lt) h

theorem le_getLast_of_pairwise {α : Type} [Preorder α] (l : List α) (hne : l ≠ []) (hp : l.Pairwise (· < ·)) (x : α)
    (hx : x ∈ l) : x ≤ l.getLast hne :=
  Lists.pairwise_getLast? le_refl (hp.imp le_of_lt) (List.getLast?_eq_some_getLast hne) x hx

theorem head?_of_least : ∀ (l : List Int) (a : Int), l.Pairwise (· < ·) → a ∈ l → (∀ x ∈ l, a ≤ x) →
    l.head? = some a
  | [], _, _, ha, _ => by simp at ha
  | b :: rest, a, hp, ha, hmin => by
    rw [List.head?_cons, le_antisymm (head_le_of_pairwise (b :: rest) b hp rfl a ha) (hmin b List.mem_cons_self)]

theorem first_key_eq (p : Part) (m : Mode) (a : Int) (ha : a ∈ keyTimes p m) (hf : a ≤ p.first)
    (hl : a ≤ p.last) (hq : ∀ e ∈ p.qd, a ≤ e.1) (ht : m ≠ .quarter → ∀ s ∈ p.ts, a ≤ s.t) :
    (keyTimes p m).head? = some a := by
  refine head?_of_least _ a (keyTimes_pairwise p m) ha fun x hx => ?_
  rw [mem_keyTimes, mem_qdAssign_keys, mem_facAssign_keys] at hx
  rcases hx with rfl | rfl | ⟨e, he, rfl⟩ | ⟨hm, s, hs, rfl⟩
  exacts [hf, hl, hq e he, ht hm s hs]

theorem two_le_length_of_mem {l : List Int} {a b : Int} (ha : a ∈ l) (hb : b ∈ l) (hab : a ≠ b) :
    2 ≤ l.length := by
  match l, ha, hb with
  | [x], ha, hb =>
    simp only [List.mem_singleton] at ha hb
    exact absurd (ha.trans hb.symm) hab
  | _ :: _ :: _, _, _ => simp

theorem keypoints_times (p : Part) (m : Mode) : (keypoints p m).map (·.t) = keyTimes p m :=
  (carry_components _ _ _ _ _).2.2

theorem keypoints_length (p : Part) (m : Mode) : (keypoints p m).length = (keyTimes p m).length := by
  rw [← keypoints_times, List.length_map]

theorem qdAssign_pos (qd : List (Int × Nat)) (h : ∀ e ∈ qd, 0 < e.2) : ∀ e ∈ qdAssign qd, (0 : Rat) < e.2 := by
  intro e he
  unfold qdAssign at he
  obtain ⟨a, ha, rfl⟩ := List.mem_map.mp he
  show (0 : Rat) < ((a.2 : Nat) : Rat)
  exact_mod_cast h a ha

theorem factorOf_pos (m : Mode) (s : TSig) (hb : 0 < s.beats) (ht : 0 < s.beatType) (hm : m = .musical → 0 < s.mb) :
    0 < factorOf m s := by
  have hb' : (0 : Rat) < s.beats := by exact_mod_cast hb
  have ht' : (0 : Rat) < s.beatType := by exact_mod_cast ht
  cases m with
  | quarter => simp [factorOf]
  | notated => simp only [factorOf]; exact div_pos ht' (by norm_num)
  | musical =>
    have hm' : (0 : Rat) < s.mb := by exact_mod_cast hm rfl
    simp only [factorOf]
    exact mul_pos (div_pos ht' (by norm_num)) (div_pos hm' hb')

theorem facAssign_pos (m : Mode) (ts : List TSig)
    (h : m ≠ .quarter → ∀ s ∈ ts, 0 < s.beats ∧ 0 < s.beatType ∧ (m = .musical → 0 < s.mb)) :
    ∀ e ∈ facAssign m ts, (0 : Rat) < e.2 := by
  intro e he
  cases m with
  | quarter => simp [facAssign] at he
  | notated | musical =>
    simp only [facAssign] at he
    obtain ⟨s, hs, rfl⟩ := List.mem_map.mp he
    obtain ⟨h1, h2, h3⟩ := h (by decide) s hs
    exact factorOf_pos _ s h1 h2 h3

theorem mem_keypoints {p : Part} {m : Mode} {k : KP} (hk : k ∈ keypoints p m) :
    (k.t, k.divs) ∈ carry1 (qdAssign p.qd) (keyTimes p m) 1 ∧ (k.t, k.fac) ∈ carry1 (facAssign m p.ts) (keyTimes p m) 1 :=
  have h := carry_components (qdAssign p.qd) (facAssign m p.ts) (keyTimes p m) 1 1
  ⟨h.1 ▸ List.mem_map.mpr ⟨k, hk, rfl⟩, h.2.1 ▸ List.mem_map.mpr ⟨k, hk, rfl⟩⟩

theorem keypoints_ok (p : Part) (m : Mode) (h : WF p m) :
    KPsOK (keypoints p m) ∧ 2 ≤ (keypoints p m).length := by
  obtain ⟨_, hfl, hq, hts⟩ := h
  refine ⟨⟨?_, fun k hk => ⟨?_, ?_⟩⟩, ?_⟩
  · rw [keypoints_times]; exact keyTimes_pairwise p m
  · exact carry1_pos _ (qdAssign_pos p.qd hq) _ 1 (by norm_num) _ (mem_keypoints hk).1
  · exact carry1_pos _ (facAssign_pos m p.ts hts) _ 1 (by norm_num) _ (mem_keypoints hk).2
  · rw [keypoints_length]
    exact two_le_length_of_mem (first_mem_keyTimes p m) (last_mem_keyTimes p m) (by omega)

theorem knots0_ok (p : Part) (m : Mode) (h : WF p m) : KnotsOK (knots (keypoints p m) 0) :=
  knots_ok _ 0 (keypoints_ok p m h).1 (keypoints_ok p m h).2

theorem finalKnots_ok (p : Part) (m : Mode) (h : WF p m) : KnotsOK (finalKnots p m) :=
  knotsOK_shift _ _ (knots0_ok p m h)

theorem fwd_eq (p : Part) (m : Mode) (h : WF p m) (x : Rat) : fwd p m x = interp (finalKnots p m) x := by
  unfold fwd
  rw [if_neg (by have := h.1; omega)]

theorem inv_eq (p : Part) (m : Mode) (h : WF p m) (y : Rat) : inv p m y = interp (swap (finalKnots p m)) y := by
  unfold inv
  rw [if_neg (by have := h.1; omega)]

theorem knots_xs : ∀ (kps : List KP) (y : Rat), (knots kps y).map (·.1) = kps.map (fun k => (k.t : Rat))
  | [], _ => rfl
  | [_], _ => rfl
  | k :: k' :: rest, y => by
    simp only [knots, List.map_cons]
    rw [knots_xs (k' :: rest)]
    rfl

theorem shiftBy_xs (s : Rat) (ks : List (Rat × Rat)) : (shiftBy s ks).map (·.1) = ks.map (·.1) := by
  unfold shiftBy
  rw [List.map_map]
  rfl

theorem finalKnots_xs (p : Part) (m : Mode) :
    (finalKnots p m).map (·.1) = (keyTimes p m).map (fun (t : Int) => (t : Rat)) := by
  unfold finalKnots
  simp only
  rw [shiftBy_xs, knots_xs, ← keypoints_times, List.map_map]
  rfl

theorem firstX_knots0 (p : Part) (m : Mode) (t : Int) (h : (keyTimes p m).head? = some t) :
    firstX (knots (keypoints p m) 0) = (t : Rat) ∧ firstY (knots (keypoints p m) 0) = 0 := by
  unfold keypoints
  cases hk : keyTimes p m with
  | nil => rw [hk] at h; cases h
  | cons a as =>
    rw [hk] at h
    cases h
    simp only [carry, knots_eq]
    exact ⟨rfl, rfl⟩

theorem firstX_shiftBy (s : Rat) (ks : List (Rat × Rat)) : firstX (shiftBy s ks) = firstX ks := by
  cases ks with
  | nil => rfl
  | cons k rest => rfl

theorem firstX_finalKnots (p : Part) (m : Mode) (t : Int) (h : (keyTimes p m).head? = some t) :
    firstX (finalKnots p m) = (t : Rat) := by
  unfold finalKnots
  rw [firstX_shiftBy]
  exact (firstX_knots0 p m t h).1

theorem keyTimes_contains_qd (p : Part) (m : Mode) (s : Int) (h : lastAssoc (qdAssign p.qd) s ≠ none) :
    s ∈ keyTimes p m :=
  (mem_keyTimes p m s).mpr (Or.inr (Or.inr (Or.inl (lastAssoc_key_mem _ s h))))

theorem keyTimes_contains_ts (p : Part) (m : Mode) (s : Int) (h : lastAssoc (facAssign m p.ts) s ≠ none) :
    s ∈ keyTimes p m :=
  (mem_keyTimes p m s).mpr (Or.inr (Or.inr (Or.inr (lastAssoc_key_mem _ s h))))

theorem carried_inforce (assign : List (Int × Rat)) (keys : List Int) (hp : keys.Pairwise (· < ·))
    (hall : ∀ s, lastAssoc assign s ≠ none → s ∈ keys) :
    ∀ e ∈ carry1 assign keys 1, InForce assign 1 e.1 e.2 := by
  cases hk : keys with
  | nil => simp [carry1]
  | cons t0 rest =>
    rw [← hk]
    have hmin : ∀ x ∈ keys, t0 ≤ x := head_le_of_pairwise keys t0 hp (by rw [hk]; rfl)
    refine carry1_inforce assign 1 keys 1 t0 hp hmin (fun s _ hne => hall s hne) ?_
    refine Or.inr ⟨rfl, ?_⟩
    intro s' hs'
    by_contra hne
    have := hmin s' (hall s' hne)
    omega

theorem prevValue_scan (t : Rat) :
    Lists.IsPrevScan (fun e : Int × Nat => (e.1 : Rat) ≤ t) (·.2) (fun c l => prevValue c l t) :=
  ⟨fun _ => rfl, fun _ _ _ => rfl⟩

theorem prevValue_before (cur : Nat) (t : Rat) (rest : List (Int × Nat)) (h : ∀ x ∈ rest, t < (x.1 : Rat)) :
    prevValue cur rest t = cur :=
  (prevValue_scan t).of_head_neg cur fun a ha => not_le.mpr (h a (List.mem_of_mem_head? ha))

theorem prevValue_spec (t : Rat) (e : Int × Nat) (post : List (Int × Nat)) (he : (e.1 : Rat) ≤ t)
    (hpost : ∀ x ∈ post, t < (x.1 : Rat)) (pre : List (Int × Nat)) (cur : Nat) (hpre : ∀ x ∈ pre, (x.1 : Rat) ≤ t) :
    prevValue cur (pre ++ e :: post) t = e.2 :=
  (prevValue_scan t).cut cur hpre he fun b hb => not_le.mpr (hpost b (List.mem_of_mem_head? hb))

theorem closed_cast {l : List (Int × Nat)} (hs : (l.map (·.1)).Pairwise (· < ·)) (t : Rat) :
    Lists.Closed (fun a b : Int × Nat => a.1 < b.1) (fun e => (e.1 : Rat) ≤ t) l :=
  ⟨List.pairwise_map.mp hs, fun _ _ hab hb => ((Int.cast_lt (R := Rat)).mpr hab).le.trans hb⟩

theorem actualDur_some (ks : List (Rat × Rat)) (s e : Int) (a : Rat) (h : actualDur ks (s, e) = some a) :
    ∃ v0 v1, interp ks (s : Rat) = some v0 ∧ interp ks (e : Rat) = some v1 ∧ a = v1 - v0 := by
  unfold actualDur at h
  simp only at h
  cases h0 : interp ks (s : Rat) with
  | none => rw [h0] at h; cases h
  | some v0 =>
    cases h1 : interp ks (e : Rat) with
    | none => rw [h0, h1] at h; cases h
    | some v1 =>
      rw [h0, h1] at h
      injection h with h
      exact ⟨v0, v1, rfl, rfl, h.symm⟩

end C02Proofs
