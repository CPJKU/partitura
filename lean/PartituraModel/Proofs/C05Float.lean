/-
`f32round` (Model/NoteArrayMaps.lean) is a correct rounding to 24
significant bits: `pow2` is the integer power of two, `expOf` the binary exponent, the result lies within
half a unit in the last place and is a multiple of that unit; the rounding `r32` of non-negative numbers behind it is
monotone, subnormal range included, and `f32round` is its odd extension (`f32round_odd`), which carries both facts to all
rationals (Props/C05Order.lean `float32_monotone`: storing two numbers never inverts their order, it can only merge them).
-/
import PartituraModel.Model.NoteArrayMaps
import PartituraModel.Proofs.Round
import Mathlib.Tactic.Ring
import PartituraModel.Proofs.Pow2

namespace NoteArray
open Model

theorem pow2_eq_zpow (s : Int) : pow2 s = (2 : Rat) ^ s := Pow2.ite_eq_zpow s

theorem ratAbs_eq (x : Rat) : ratAbs x = |x| := by
  unfold ratAbs
  split
  · rename_i h; rw [abs_of_neg h]
  · rename_i h; rw [abs_of_nonneg (not_lt.mp h)]

theorem expOf_spec (a : Rat) (ha : 0 < a) : pow2 (expOf a) ≤ a ∧ a < pow2 (expOf a + 1) := by
  have hn0 : a.num.natAbs ≠ 0 := by have := Rat.num_pos.mpr ha; omega
  -- 2^(k-1) < a < 2^(k+1) with k = log2 num - log2 den; `expOf` asks on which side of 2^k `a` lies
  obtain ⟨hlow, hhigh⟩ := Pow2.bracket_of_bits a ha (Nat.log2_self_le hn0) Nat.lt_log2_self
    (Nat.log2_self_le a.den_nz) Nat.lt_log2_self
  unfold expOf
  simp only
  split
  · rename_i hlt
    exact ⟨by rw [pow2_eq_zpow]; exact hlow.le, by rwa [sub_add_cancel]⟩
  · rename_i hge
    exact ⟨not_lt.mp hge, by rw [pow2_eq_zpow]; exact hhigh⟩

open Round

/-- the positive branch of `f32round` -/
def r32 (a : Rat) : Rat :=
  (roundHalfEven (a / pow2 (max (expOf a - 23) (-149))) : Rat) * pow2 (max (expOf a - 23) (-149))

theorem f32round_pos (x : Rat) (hx : 0 < x) : f32round x = r32 x := by
  unfold f32round r32
  have h0 : x ≠ 0 := ne_of_gt hx
  have ha : ratAbs x = x := by rw [ratAbs_eq, abs_of_pos hx]
  simp only [h0, if_false, ha, not_lt.mpr hx.le]

theorem f32round_neg (x : Rat) (hx : x < 0) : f32round x = - r32 (-x) := by
  unfold f32round r32
  have h0 : x ≠ 0 := ne_of_lt hx
  have ha : ratAbs x = -x := by rw [ratAbs_eq, abs_of_neg hx]
  simp only [h0, if_false, ha, hx, if_true]

theorem f32round_odd : OddExt f32round r32 := ⟨rfl, f32round_pos, f32round_neg⟩

/-- **`f32round` rounds to the nearest number with 24 significant bits.**  For `x ≠ 0` in the normal range
    (`2^-126 ≤ |x|`), with `e` the binary exponent of `x` (`2^e ≤ |x| < 2^(e+1)`): the result is an integer
    multiple `m` of the unit in the last place `2^(e-23)` with `0 ≤ ±m ≤ 2^24` (a binary32 value), and it is
    within half a unit of `x`. -/
theorem f32round_spec (x : Rat) (hx : x ≠ 0) (hnorm : pow2 (-126) ≤ |x|) :
    pow2 (expOf |x|) ≤ |x| ∧ |x| < pow2 (expOf |x| + 1) ∧
    |f32round x - x| ≤ pow2 (expOf |x| - 24) ∧
    ∃ m : Int, f32round x = (m : Rat) * pow2 (expOf |x| - 23) ∧ |m| ≤ 2 ^ 24 := by
  have ha : 0 < |x| := abs_pos.mpr hx
  obtain ⟨he1, he2⟩ := expOf_spec |x| ha
  have he := (Pow2.lt_iff pow2_eq_zpow).mp (hnorm.trans_lt he2)
  have hs : max (expOf |x| - 23) (-149) = expOf |x| - 23 := by omega
  have hps := Pow2.pos pow2_eq_zpow (expOf |x| - 23)
  have hr : r32 |x| = (roundHalfEven (|x| / pow2 (expOf |x| - 23)) : Rat) * pow2 (expOf |x| - 23) := by
    unfold r32; rw [hs]
  -- the significand lies between 0 and 2^24, since `|x|` lies between 0 and `2^24` units
  have hm0 : 0 ≤ roundHalfEven (|x| / pow2 (expOf |x| - 23)) :=
    le_roundHalfEven (by push_cast; exact div_nonneg ha.le hps.le)
  have hm1 : roundHalfEven (|x| / pow2 (expOf |x| - 23)) ≤ 2 ^ 24 :=
    roundHalfEven_le (by
      rw [Int.cast_pow, Int.cast_ofNat, div_le_iff₀ hps, ← Pow2.add_natCast pow2_eq_zpow,
        show expOf |x| - 23 + (24 : ℕ) = expOf |x| + 1 by omega]
      exact he2.le)
  refine ⟨he1, he2, ?_, ?_⟩
  · rw [f32round_odd.err hx, hr, show expOf |x| - 24 = expOf |x| - 23 - 1 by omega, Pow2.pred pow2_eq_zpow]
    exact mul_close |x| hps
  · rcases lt_or_gt_of_ne hx with h | h
    · refine ⟨-roundHalfEven (|x| / pow2 (expOf |x| - 23)), ?_, by rwa [abs_neg, abs_of_nonneg hm0]⟩
      rw [f32round_neg x h, ← abs_of_neg h, hr]; push_cast; ring
    · refine ⟨roundHalfEven (|x| / pow2 (expOf |x| - 23)), ?_, by rwa [abs_of_nonneg hm0]⟩
      rw [f32round_pos x h, ← abs_of_pos h, abs_abs, hr]

theorem r32_nonneg (a : Rat) (ha : 0 ≤ a) : 0 ≤ r32 a :=
  mul_nonneg (Int.cast_nonneg (le_roundHalfEven (by push_cast; exact div_nonneg ha (Pow2.pos pow2_eq_zpow _).le)))
    (Pow2.pos pow2_eq_zpow _).le

/-- each number lies below the top of its binade, and the one with the coarser unit is not clamped at `2^-149`, so it lies
    at or above the bottom of its binade: `Round.mul_mono` -/
theorem r32_mono {x y : Rat} (hx : 0 < x) (hxy : x ≤ y) : r32 x ≤ r32 y := by
  obtain ⟨x1, x2⟩ := expOf_spec x hx
  obtain ⟨y1, y2⟩ := expOf_spec y (hx.trans_le hxy)
  unfold r32
  exact mul_mono pow2_eq_zpow 23 hxy
    (x2.trans_le ((Pow2.le_iff pow2_eq_zpow).mpr (by omega))) (y2.trans_le ((Pow2.le_iff pow2_eq_zpow).mpr (by omega)))
    (fun h => by rwa [show max (expOf x - 23) (-149) + (23 : ℕ) = expOf x by omega])
    (fun h => by rwa [show max (expOf y - 23) (-149) + (23 : ℕ) = expOf y by omega])

end NoteArray
