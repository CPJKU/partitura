/-
`mergeTables` / `mergeRestTables` COPY the float cells, the sort
key and the pitch of the rows they are given (prefixing touches the id, rescaling the three division columns), and the
dispatch over a given part table (`Tree.tableW`, …) at `rowsC` / `restRowsC` is the dispatch of `ensureNoteArray` / `ensureRestArray`.  (Imports Props/C05.lean: the merged
table is described there, `C05.merge_union`, `C05.rows_sorted`.)
-/
import PartituraModel.Props.C05
import PartituraModel.Model.NoteArrayF64

namespace NoteArray
open List

/-- `r` carries the float cells, the sort key, the pitch and the voice of `r0` -/
def Copied (r r0 : Row) : Prop :=
  r.key = r0.key ∧ r.onsetBeat = r0.onsetBeat ∧ r.durBeat = r0.durBeat ∧ r.onsetQuarter = r0.onsetQuarter ∧
  r.durQuarter = r0.durQuarter ∧ r.pitch = r0.pitch ∧ r.voice = r0.voice

theorem Copied.refl (r : Row) : Copied r r := ⟨rfl, rfl, rfl, rfl, rfl, rfl, rfl⟩

theorem Copied.trans {a b c : Row} (h1 : Copied a b) (h2 : Copied b c) : Copied a c := by
  obtain ⟨a1, a2, a3, a4, a5, a6, a7⟩ := h1
  obtain ⟨b1, b2, b3, b4, b5, b6, b7⟩ := h2
  exact ⟨a1.trans b1, a2.trans b2, a3.trans b3, a4.trans b4, a5.trans b5, a6.trans b6, a7.trans b7⟩

theorem prefixed_mem (u : Bool) (ts : List (List Row)) (t' : List Row) (h : t' ∈ C05.prefixed u ts) :
    ∃ t ∈ ts, tableDivs t' = tableDivs t ∧
      ∀ r ∈ t', ∃ r0 ∈ t, Copied r r0 ∧ r.onsetDiv = r0.onsetDiv ∧ r.durDiv = r0.durDiv ∧ r.divsPq = r0.divsPq := by
  unfold C05.prefixed at h
  split at h
  · obtain ⟨t, ht, j, rfl⟩ := prefixFrom_mem ts 0 t' h
    refine ⟨t, ht, ?_, ?_⟩
    · cases t <;> rfl
    · intro r hr
      unfold prefixTable at hr
      obtain ⟨r0, hr0, rfl⟩ := mem_map.mp hr
      exact ⟨r0, hr0, Copied.refl _, rfl, rfl, rfl⟩
  · exact ⟨t', h, rfl, fun r hr => ⟨r, hr, Copied.refl r, rfl, rfl, rfl⟩⟩

theorem mergeTables_copied (u : Bool) (ts : List (List Row)) (out : List Row) (h : mergeTables u ts = some out) :
    ∀ r ∈ out, ∃ t ∈ ts, ∃ r0 ∈ t, Copied r r0 ∧
      r.onsetDiv = r0.onsetDiv * ((Model.natLcm (ts.map tableDivs) / tableDivs t : Nat) : Int) ∧
      r.durDiv = r0.durDiv * ((Model.natLcm (ts.map tableDivs) / tableDivs t : Nat) : Int) ∧
      r.divsPq = r0.divsPq * ((Model.natLcm (ts.map tableDivs) / tableDivs t : Nat) : Int) := by
  intro r hr
  obtain ⟨hperm, _⟩ := C05.merge_union u ts out h
  have hr' := hperm.mem_iff.mp hr
  obtain ⟨t1, ht1, hr1⟩ := mem_flatten.mp hr'
  obtain ⟨t', ht', rfl⟩ := mem_map.mp ht1
  obtain ⟨t, ht, hdivs, hrows⟩ := prefixed_mem u ts t' ht'
  unfold scaleTable at hr1
  obtain ⟨r1, hr1m, rfl⟩ := mem_map.mp hr1
  obtain ⟨r0, hr0, hc, hon, hdur, hdq⟩ := hrows r1 hr1m
  refine ⟨t, ht, r0, hr0, hc, ?_, ?_, ?_⟩
  · show r1.onsetDiv * _ = _
    rw [hon, hdivs]
  · show r1.durDiv * _ = _
    rw [hdur, hdivs]
  · show r1.divsPq * _ = _
    rw [hdq, hdivs]

/-- rest lists: prefixing only (no rescaling) -/
theorem mergeRestTables_copied (u : Bool) (ts : List (List Row)) :
    ∀ r ∈ mergeRestTables u ts, ∃ t ∈ ts, ∃ r0 ∈ t, Copied r r0 ∧ r.onsetDiv = r0.onsetDiv ∧ r.durDiv = r0.durDiv := by
  intro r hr
  unfold mergeRestTables at hr
  have hr' := (C05.rows_sorted _).2.mem_iff.mp hr
  obtain ⟨t', ht', hrt⟩ := mem_flatten.mp hr'
  by_cases hu : u = true
  · simp only [hu, if_true] at ht'
    obtain ⟨t, ht, j, rfl⟩ := prefixFrom_mem ts 0 t' ht'
    unfold prefixTable at hrt
    obtain ⟨r0, hr0, rfl⟩ := mem_map.mp hrt
    exact ⟨t, ht, r0, hr0, Copied.refl _, rfl, rfl⟩
  · simp only [hu] at ht'
    exact ⟨t', ht', r, hrt, Copied.refl r, rfl, rfl⟩

mutual
theorem tableW_rowsC (u : Bool) (o : Opts) : ∀ t : Tree, t.tableW rowsC u o = t.table u o
  | .part d ns => by rw [Tree.tableW, Tree.table]
  | .group cs => by rw [Tree.tableW, Tree.table, tablesOfW_rowsC u o cs]
theorem tablesOfW_rowsC (u : Bool) (o : Opts) : ∀ cs : List Tree, tablesOfW rowsC u o cs = tablesOf u o cs
  | [] => by rw [tablesOfW, tablesOf]
  | c :: cs => by
    rw [tablesOfW, tablesOf, tableW_rowsC u o c, tablesOfW_rowsC u o cs]
    cases Tree.table u o c <;> cases tablesOf u o cs <;> rfl
end

mutual
theorem restTableW_restRowsC (u : Bool) (o : Opts) (c : Bool) :
    ∀ t : Tree, t.restTableW restRowsC u o c = t.restTable u o c
  | .part d ns => by rw [Tree.restTableW, Tree.restTable]
  | .group cs => by rw [Tree.restTableW, Tree.restTable, restTablesOfW_restRowsC u o c cs]
theorem restTablesOfW_restRowsC (u : Bool) (o : Opts) (c : Bool) :
    ∀ cs : List Tree, restTablesOfW restRowsC u o c cs = restTablesOf u o c cs
  | [] => by rw [restTablesOfW, restTablesOf]
  | t :: cs => by
    rw [restTablesOfW, restTablesOf, restTableW_restRowsC u o c t, restTablesOfW_restRowsC u o c cs]
    cases Tree.restTable u o c t <;> cases restTablesOf u o c cs <;> rfl
end

theorem tablesOfW_parts (pt : PartTable) (u : Bool) (o : Opts) : ∀ ps : List (Desc × List Note),
    tablesOfW pt u o (ps.map fun p => Tree.part p.1 p.2) =
      NoteArray.mapM' (fun (p : Desc × List Note) => pt p.1 p.2 { o with divs := true }) ps := by
  intro ps
  induction ps with
  | nil => rw [List.map_nil, tablesOfW]; rfl
  | cons p ps ih =>
    rw [List.map_cons, tablesOfW, ih, Tree.tableW]
    conv_rhs => rw [NoteArray.mapM']
    cases pt p.1 p.2 { o with divs := true } <;>
      cases NoteArray.mapM' (fun (p : Desc × List Note) => pt p.1 p.2 { o with divs := true }) ps <;> rfl

theorem tablesOfW_cons_some (pt : PartTable) (u : Bool) (o : Opts) (c : Tree) (cs : List Tree) (ts : List (List Row))
    (h : tablesOfW pt u o (c :: cs) = some ts) :
    ∃ t ts', c.tableW pt u o = some t ∧ tablesOfW pt u o cs = some ts' ∧ ts = t :: ts' := by
  rw [tablesOfW] at h
  split at h
  · rename_i t ts' h1 h2
    exact ⟨t, ts', h1, h2, (Option.some.inj h).symm⟩
  · cases h

theorem restTablesOfW_cons_some (rt : RestTable) (u : Bool) (o : Opts) (cl : Bool) (c : Tree) (cs : List Tree)
    (ts : List (List Row)) (h : restTablesOfW rt u o cl (c :: cs) = some ts) :
    ∃ t ts', c.restTableW rt u o cl = some t ∧ restTablesOfW rt u o cl cs = some ts' ∧ ts = t :: ts' := by
  rw [restTablesOfW] at h
  split at h
  · rename_i t ts' h1 h2
    exact ⟨t, ts', h1, h2, (Option.some.inj h).symm⟩
  · cases h

/-- a row of the table of a tree is a COPY (float cells, key, pitch, voice) of a row of the table of one of its parts -/
def FromPart (pt : PartTable) (o : Opts) (ps : List (Desc × List Note)) (r : Row) : Prop :=
  ∃ p ∈ ps, ∃ tab, pt p.1 p.2 { o with divs := true } = some tab ∧ ∃ r0 ∈ tab, Copied r r0

mutual
theorem tableW_copied (pt : PartTable) (u : Bool) (o : Opts) :
    ∀ (t : Tree) (out : List Row), t.tableW pt u o = some out → ∀ r ∈ out, FromPart pt o t.parts r
  | .part d ns, out, h, r, hr => by
    rw [Tree.tableW] at h
    rw [Tree.parts]
    exact ⟨(d, ns), mem_singleton.mpr rfl, out, h, r, hr, Copied.refl r⟩
  | .group cs, out, h, r, hr => by
    rw [Tree.tableW] at h
    rw [Tree.parts]
    obtain ⟨ts, hts, hm⟩ := Option.bind_eq_some_iff.mp h
    obtain ⟨t, ht, r1, hr1, hc, _⟩ := mergeTables_copied u ts out hm r hr
    obtain ⟨p, hp, tab, htab, r0, hr0, hc0⟩ := tablesOfW_copied pt u o cs ts hts t ht r1 hr1
    exact ⟨p, hp, tab, htab, r0, hr0, hc.trans hc0⟩
theorem tablesOfW_copied (pt : PartTable) (u : Bool) (o : Opts) :
    ∀ (cs : List Tree) (ts : List (List Row)), tablesOfW pt u o cs = some ts →
      ∀ t ∈ ts, ∀ r ∈ t, FromPart pt o (partsOf cs) r
  | [], ts, h, t, ht, r, hr => by
    rw [tablesOfW] at h
    cases h
    cases ht
  | c :: cs, ts, h, t, ht, r, hr => by
    obtain ⟨t0, ts', h1, h2, rfl⟩ := tablesOfW_cons_some pt u o c cs ts h
    rw [partsOf]
    rcases mem_cons.mp ht with rfl | ht'
    · obtain ⟨p, hp, rest⟩ := tableW_copied pt u o c t h1 r hr
      exact ⟨p, mem_append_left _ hp, rest⟩
    · obtain ⟨p, hp, rest⟩ := tablesOfW_copied pt u o cs ts' h2 t ht' r hr
      exact ⟨p, mem_append_right _ hp, rest⟩
end

/-- the same for rest tables -/
def FromPartRests (rt : RestTable) (o : Opts) (cl : Bool) (ps : List (Desc × List Note)) (r : Row) : Prop :=
  ∃ p ∈ ps, ∃ tab, rt p.1 p.2 { o with metr := false, divs := false } cl = some tab ∧ ∃ r0 ∈ tab, Copied r r0

mutual
theorem restTableW_copied (rt : RestTable) (u : Bool) (o : Opts) (cl : Bool) :
    ∀ (t : Tree) (out : List Row), t.restTableW rt u o cl = some out → ∀ r ∈ out, FromPartRests rt o cl t.parts r
  | .part d ns, out, h, r, hr => by
    rw [Tree.restTableW] at h
    rw [Tree.parts]
    exact ⟨(d, ns), mem_singleton.mpr rfl, out, h, r, hr, Copied.refl r⟩
  | .group cs, out, h, r, hr => by
    rw [Tree.restTableW] at h
    rw [Tree.parts]
    obtain ⟨ts, hts, rfl⟩ := Option.map_eq_some_iff.mp h
    obtain ⟨t, ht, r1, hr1, hc, _⟩ := mergeRestTables_copied u ts r hr
    obtain ⟨p, hp, tab, htab, r0, hr0, hc0⟩ := restTablesOfW_copied rt u o cl cs ts hts t ht r1 hr1
    exact ⟨p, hp, tab, htab, r0, hr0, hc.trans hc0⟩
theorem restTablesOfW_copied (rt : RestTable) (u : Bool) (o : Opts) (cl : Bool) :
    ∀ (cs : List Tree) (ts : List (List Row)), restTablesOfW rt u o cl cs = some ts →
      ∀ t ∈ ts, ∀ r ∈ t, FromPartRests rt o cl (partsOf cs) r
  | [], ts, h, t, ht, r, hr => by
    rw [restTablesOfW] at h
    cases h
    cases ht
  | c :: cs, ts, h, t, ht, r, hr => by
    obtain ⟨t0, ts', h1, h2, rfl⟩ := restTablesOfW_cons_some rt u o cl c cs ts h
    rw [partsOf]
    rcases mem_cons.mp ht with rfl | ht'
    · obtain ⟨p, hp, rest⟩ := restTableW_copied rt u o cl c t h1 r hr
      exact ⟨p, mem_append_left _ hp, rest⟩
    · obtain ⟨p, hp, rest⟩ := restTablesOfW_copied rt u o cl cs ts' h2 t ht' r hr
      exact ⟨p, mem_append_right _ hp, rest⟩
end

end NoteArray
