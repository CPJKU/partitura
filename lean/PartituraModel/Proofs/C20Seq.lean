/-
C20 — the container protocol (Model/IterProto.lean), basic and extended: what one call does to one handle, the `next` outputs of a run seen through an observation, and the three slice forms.
-/
import PartituraModel.Model.IterProto

namespace C20SeqAux
open Model Model.IterProto

def isItem {α : Type} : Out3 α → Bool
  | .item _ => true
  | _ => false

theorem range_succ_map {β : Type} (n : Nat) (g : Nat → β) :
    (List.range (1 + n)).map g = g 0 :: (List.range n).map (fun k => g (k + 1)) := by
  rw [Nat.add_comm 1, List.range_succ_eq_map]
  simp [List.map_map, Function.comp]

/-- an index outside `-n … n-1` fails both tests of Python's index normalisation -/
theorem index_out_of_range {n : Nat} {i : Int} (h : i < -(n : Int) ∨ (n : Int) ≤ i) :
    (0 ≤ i → ¬ i.toNat < n) ∧ (¬ 0 ≤ i → ¬ -i ≤ (n : Int)) :=
  ⟨fun h0 hlt => h.elim
      (fun h => Int.not_lt.mpr h0 (Int.lt_of_lt_of_le h (Int.neg_nonpos_of_nonneg (Int.natCast_nonneg n))))
      (fun h => Int.not_lt.mpr h ((Int.toNat_lt h0).mp hlt)),
   fun h0 hle => h.elim (fun h => Int.not_lt.mpr (Int.neg_le_of_neg_le hle) h)
      (fun h => h0 (Int.le_trans (Int.natCast_nonneg n) h))⟩

theorem neg_index_lt {n : Nat} {i : Int} (h0 : ¬ 0 ≤ i) (h1 : -i ≤ (n : Int)) : n - (-i).toNat < n := by
  omega

/-- a successful assignment replaces the element at the position the index denotes: the position `pyIndex` reads
    in every list of that length -/
theorem setItem_eq_some {α : Type} {parts ps : List α} {i : Int} {a : α} (h : setItem parts i a = some ps) :
    ∃ k, k < parts.length ∧ ps = parts.set k a ∧ ∀ l : List α, l.length = parts.length → pyIndex l i = l[k]? := by
  unfold setItem at h
  split at h
  · rename_i h0
    split at h
    · exact ⟨_, ‹_›, (Option.some.inj h).symm, fun l _ => if_pos h0⟩
    · cases h
  · rename_i h0
    split at h
    · rename_i hle
      refine ⟨_, neg_index_lt h0 hle, (Option.some.inj h).symm, fun l hl => ?_⟩
      rw [pyIndex, if_neg h0, hl, if_pos hle]
    · cases h

theorem setItem_length {α : Type} {parts ps : List α} {i : Int} {a : α} (h : setItem parts i a = some ps) :
    ps.length = parts.length := by
  obtain ⟨k, _, rfl, _⟩ := setItem_eq_some h
  exact List.length_set

/-- where a handle stands after `next`: one further if there was an item, else where it stood — either way it
    reads from there on what a handle at `c + 1` reads -/
theorem getElem?_advance {α : Type} (l : List α) (c k : Nat) :
    l[(if c < l.length then c + 1 else c) + k]? = l[c + (k + 1)]? := by
  split
  · rw [Nat.add_right_comm, Nat.add_assoc]
  · have hc := Nat.le_of_not_lt ‹_›
    rw [List.getElem?_eq_none_iff.mpr (Nat.le_trans hc (Nat.le_add_right ..)),
      List.getElem?_eq_none_iff.mpr (Nat.le_trans hc (Nat.le_add_right ..))]

theorem step_next {α : Type} (parts : List α) (s : State) (h c : Nat) (hc : s.cursors[h]? = some c) :
    (step parts s (Op.next h)).2 = expected parts c ∧
    (step parts s (Op.next h)).1.cursors[h]? = some (if c < parts.length then c + 1 else c) := by
  simp only [step, hc, expected]
  cases hp : parts[c]? with
  | none => simp [hc, Nat.not_lt.mpr (List.getElem?_eq_none_iff.mp hp)]
  | some a => simp [(List.getElem?_eq_some_iff.mp hp).1, (List.getElem?_eq_some_iff.mp hc).1]

theorem step_other {α : Type} (parts : List α) (s : State) (op : Op) (h c : Nat) (hop : op ≠ Op.next h)
    (hc : s.cursors[h]? = some c) : (step parts s op).1.cursors[h]? = some c := by
  cases op with
  | iter => exact (List.getElem?_append_left (List.getElem?_eq_some_iff.mp hc).1).trans hc
  | next h' =>
    have hh : h' ≠ h := fun e => hop (e ▸ rfl)
    simp only [step]
    split
    · exact hc
    · split
      · exact (List.getElem?_set_ne hh).trans hc
      · exact hc
  | len => exact hc
  | getitem i => simp only [step]; split <;> exact hc

theorem getitem_eq {α : Type} (parts : List α) (s : State) (i : Int) (k : Nat) (hk : k < parts.length)
    (h : pyIndex parts i = parts[k]?) : step parts s (Op.getitem i) = (s, expected parts k) := by
  simp only [step, expected, h, List.getElem?_eq_getElem hk]

section Extended
variable {α : Type}

theorem view_length (rev : Bool) (l : List α) : (view rev l).length = l.length := by
  cases rev <;> simp [view]

theorem isItem_expected3 (l : List α) (n : Nat) : isItem (expected3 l n) = decide (n < l.length) := by
  unfold expected3
  cases hp : l[n]? with
  | none => simp [isItem, List.getElem?_eq_none_iff.mp hp]
  | some a => simp [isItem, (List.getElem?_eq_some_iff.mp hp).1]

theorem expected3_advance (l : List α) (c k : Nat) :
    expected3 l ((if c < l.length then c + 1 else c) + k) = expected3 l (c + (k + 1)) := by
  unfold expected3; rw [getElem?_advance]

theorem not_set_of_noSet {ops : List (Op3 α)} (h : noSet ops = true) : ∀ op ∈ ops, ∀ i a, op ≠ Op3.set i a := by
  induction ops with
  | nil => intro _ ho; cases ho
  | cons o ops ih =>
    cases o with
    | set i a => cases h
    | _ => exact List.forall_mem_cons.mpr ⟨fun _ _ e => (nomatch e), ih h⟩

variable [DecidableEq α]

theorem step3_parts (ps : List α × State3) (op : Op3 α) :
    (step3 ps op).1.1 = ps.1 ∨ ∃ i a, op = Op3.set i a ∧ setItem ps.1 i a = some (step3 ps op).1.1 := by
  cases op with
  | set i a =>
    simp only [step3]
    split
    · exact Or.inr ⟨i, a, rfl, ‹_›⟩
    · exact Or.inl rfl
  | next h =>
    simp only [step3]
    split
    · exact Or.inl rfl
    · split <;> exact Or.inl rfl
  | getitem i => simp only [step3]; split <;> exact Or.inl rfl
  | slice a b st => simp only [step3]; split <;> exact Or.inl rfl
  | _ => exact Or.inl rfl

theorem step3_length (ps : List α × State3) (op : Op3 α) : (step3 ps op).1.1.length = ps.1.length := by
  rcases step3_parts ps op with h | ⟨i, a, _, h⟩
  · rw [h]
  · exact setItem_length h

theorem step3_next (ps : List α × State3) (h : Nat) (rev : Bool) (c : Nat) (hc : ps.2.cursors[h]? = some (rev, c)) :
    (step3 ps (Op3.next h)).2 = expected3 (view rev ps.1) c ∧
    (step3 ps (Op3.next h)).1.2.cursors[h]? = some (rev, if c < (view rev ps.1).length then c + 1 else c) := by
  simp only [step3, hc, expected3]
  cases hp : (view rev ps.1)[c]? with
  | none => simp [hc, Nat.not_lt.mpr (List.getElem?_eq_none_iff.mp hp)]
  | some a => simp [(List.getElem?_eq_some_iff.mp hp).1, (List.getElem?_eq_some_iff.mp hc).1]

theorem step3_other (ps : List α × State3) (op : Op3 α) (h : Nat) (rc : Bool × Nat) (hop : op ≠ Op3.next h)
    (hc : ps.2.cursors[h]? = some rc) : (step3 ps op).1.2.cursors[h]? = some rc := by
  cases op with
  | iter => exact (List.getElem?_append_left (List.getElem?_eq_some_iff.mp hc).1).trans hc
  | riter => exact (List.getElem?_append_left (List.getElem?_eq_some_iff.mp hc).1).trans hc
  | next h' =>
    have hh : h' ≠ h := fun e => hop (e ▸ rfl)
    simp only [step3]
    split
    · exact hc
    · split
      · exact (List.getElem?_set_ne hh).trans hc
      · exact hc
  | set i a => simp only [step3]; split <;> exact hc
  | getitem i => simp only [step3]; split <;> exact hc
  | slice a b st => simp only [step3]; split <;> exact hc
  | _ => exact hc

/-- **the `next h` outputs of any run, seen through an observation `g`**: if what `g` sees of `expected3` is the same
    (`e`) for every part list satisfying an invariant that the calls of the run keep, the successive results of `next h`
    look like `e c`, `e (c + 1)`, … -/
theorem next_outputs_map {β : Type} (Inv : List α → Prop) (g : Out3 α → β) (e : Nat → β) (rev : Bool)
    (hg : ∀ q, Inv q → ∀ n, g (expected3 (view rev q) n) = e n) (h : Nat) (ops : List (Op3 α)) :
    (∀ op ∈ ops, ∀ qs : List α × State3, Inv qs.1 → Inv (step3 qs op).1.1) →
    ∀ (ps : List α × State3) (c : Nat), Inv ps.1 → ps.2.cursors[h]? = some (rev, c) →
      (nextOutputs3 h ops (run3 ps ops).2).map g = (List.range (countNext3 h ops)).map (fun k => e (c + k)) := by
  induction ops with
  | nil => intro _ ps c _ _; rfl
  | cons op ops ih =>
    intro hops ps c hi hc
    obtain ⟨hop1, hops'⟩ := List.forall_mem_cons.mp hops
    have hi' := hop1 ps hi
    show (nextOutputs3 h (op :: ops) ((step3 ps op).2 :: (run3 (step3 ps op).1 ops).2)).map g = _
    by_cases hop : op = Op3.next h
    · subst hop
      obtain ⟨ho, hc'⟩ := step3_next ps h rev c hc
      simp only [nextOutputs3, countNext3, if_true, List.map_cons, ih hops' _ _ hi' hc', ho, range_succ_map, hg _ hi]
      congr 1
      apply List.map_congr_left
      intro k _
      rw [← hg _ hi, ← hg _ hi, expected3_advance]
    · have := ih hops' _ c hi' (step3_other ps op h _ hop hc)
      cases op with
      | next h' =>
        have hh : h' ≠ h := fun e => hop (e ▸ rfl)
        simpa only [nextOutputs3, countNext3, if_neg hh, Nat.zero_add] using this
      | _ => exact this

end Extended

theorem filterMap_range_eq {α : Type} (l : List α) (a : Nat) (f : Nat → Option α) :
    ∀ n : Nat, a + n ≤ l.length → (∀ k, k < n → f k = l[a + k]?) →
      (List.range n).filterMap f = (l.drop a).take n := by
  intro n
  induction n with
  | zero => intro _ _; rfl
  | succ n ih =>
    intro h hf
    have hlt : a + n < l.length := h
    rw [List.range_succ, List.filterMap_append, ih (Nat.le_of_lt hlt) (fun k hk => hf k (Nat.lt_succ_of_lt hk)),
      List.take_add_one, List.getElem?_drop, List.filterMap_cons, hf n (Nat.lt_succ_self n),
      List.getElem?_eq_getElem hlt]
    rfl

theorem count_fwd (a b : Nat) :
    (if (a : Int) < (b : Int) then (((b : Int) - (a : Int) + 1 - 1) / 1).toNat else 0) = b - a := by
  rw [Int.add_sub_cancel, Int.ediv_one, Int.toNat_sub]
  split
  · rfl
  · exact (Nat.sub_eq_zero_of_le (Int.ofNat_le.mp (Int.not_lt.mp ‹_›))).symm

theorem slice_between {α : Type} (l : List α) (a b : Nat) (hab : a ≤ b) (hb : b ≤ l.length) :
    pySlice l (some (a : Int)) (some (b : Int)) none = some ((l.drop a).take (b - a)) := by
  have ha : ¬ ((a : Int) > (l.length : Int)) := Int.not_lt.mpr (Int.ofNat_le.mpr (Nat.le_trans hab hb))
  have hb' : ¬ ((b : Int) > (l.length : Int)) := Int.not_lt.mpr (Int.ofNat_le.mpr hb)
  simp only [pySlice, Option.getD_none, Int.one_ne_zero, if_false, Int.one_pos, gt_iff_lt, if_true,
    Int.not_lt.mpr (Int.natCast_nonneg _), ha, hb', count_fwd a b]
  rw [filterMap_range_eq l a _ (b - a) (by rw [Nat.add_sub_cancel' hab]; exact hb)
    (fun k _ => by rw [Int.mul_one, ← Int.natCast_add, Int.toNat_natCast])]

theorem slice_all {α : Type} (l : List α) : pySlice l none none none = some l := by
  have hc := count_fwd 0 l.length
  rw [Int.natCast_zero, Nat.sub_zero] at hc
  simp only [pySlice, Option.getD_none, Int.one_ne_zero, if_false, Int.one_pos, gt_iff_lt, if_true, hc]
  rw [filterMap_range_eq l 0 _ l.length (Nat.le_of_eq (Nat.zero_add _))
    (fun k _ => by rw [Int.mul_one, Int.zero_add, Int.toNat_natCast, Nat.zero_add]), List.drop_zero, List.take_length]

theorem slice_rev {α : Type} (l : List α) : pySlice l none none (some (-1)) = some l.reverse := by
  have hc : (if (-1 : Int) < (l.length : Int) - 1 then (((l.length : Int) - 1 - -1 + - -1 - 1) / - -1).toNat else 0)
      = l.reverse.length := by
    rw [List.length_reverse, Int.neg_neg, Int.ediv_one, Int.add_sub_cancel, Int.sub_neg, Int.sub_add_cancel,
      Int.toNat_natCast]
    split
    · rfl
    · omega
  simp only [pySlice, Option.getD_some, show ¬ (-1 : Int) = 0 by decide, show ¬ (-1 : Int) > 0 by decide, if_false, hc]
  rw [filterMap_range_eq l.reverse 0 _ _ (Nat.le_of_eq (Nat.zero_add _)) (fun k hk => ?_), List.drop_zero,
    List.take_length]
  rw [List.length_reverse] at hk
  rw [Nat.zero_add, List.getElem?_reverse hk, Int.mul_neg_one, ← Int.sub_eq_add_neg, ← Int.natCast_one,
    ← Int.natCast_sub (Nat.lt_of_le_of_lt (Nat.zero_le k) hk), ← Int.natCast_sub (Nat.le_sub_one_of_lt hk),
    Int.toNat_natCast]

end C20SeqAux
