/-
C01 helper lemmas: one step and histories of the extended machine `stepX` (Model/TimelineX.lean).
-/
import PartituraModel.Proofs.C01X

namespace TL

/-- the invariant of all histories of the extended machine: `WInv` of the part, and a fresh memo -/
def XInv (c : CPart) : Prop := WInv c.part ∧ CacheOk c

def OpX.negTime : OpX → Bool
  | .base op => op.negTime
  | .tpAdd _ t _ => decide (t < 0)
  | .tpRemove _ t _ => decide (t < 0)
  | .addDefault _ st en => isNeg (st.getD Gen.C01Sig.addStartDefault) || isNeg (en.getD Gen.C01Sig.addEndDefault)
  | _ => false

theorem xinv_lift {s : Part} (h : WInv s) : XInv (lift s) := ⟨h, cacheOk_lift s⟩

theorem cacheOk_same_table {c : CPart} (h : CacheOk c) {s' : Part} (hq : s'.qtab = c.part.qtab) :
    CacheOk { c with part := s' } := by
  unfold CacheOk
  simp only [hq]
  exact h

/-- the timeline operation an extended operation amounts to once its arguments are decoded, if any -/
def OpX.toOp : OpX → Option Op
  | .base op => some op
  | .addDefault o st en => some (.add o (st.getD Gen.C01Sig.addStartDefault) (en.getD Gen.C01Sig.addEndDefault))
  | .removeX o w =>
    match whichSides w with
    | (true, true) => some (.remove o .both)
    | (true, false) => some (.remove o .start)
    | (false, true) => some (.remove o .stop)
    | (false, false) => none
  | _ => none

/-- `part.remove(o, which)` with `which` as the caller writes it: nothing at all (a string that selects no side), or
`Part.remove` on the sides the string selects -/
theorem removeX_decode (o : ObjRef) (w : Option String) :
    ((OpX.removeX o w).toOp = none ∧ ∀ s, stepRemoveX s o w = .ok s)
    ∨ ∃ w', (OpX.removeX o w).toOp = some (.remove o w') ∧ ∀ s, stepRemoveX s o w = stepRemove s o w' := by
  simp only [OpX.toOp, stepRemoveX]
  rcases whichSides w with ⟨_ | _, _ | _⟩
  · exact Or.inl ⟨rfl, fun _ => rfl⟩
  · exact Or.inr ⟨.stop, rfl, fun _ => rfl⟩
  · exact Or.inr ⟨.start, rfl, fun _ => rfl⟩
  · exact Or.inr ⟨.both, rfl, fun _ => rfl⟩

theorem OpX.toOp_cases {op : OpX} {op' : Op} (h : op.toOp = some op') :
    op = .base op'
    ∨ (∃ o st en, op = .addDefault o st en
        ∧ op' = .add o (st.getD Gen.C01Sig.addStartDefault) (en.getD Gen.C01Sig.addEndDefault))
    ∨ (∃ o w w', op = .removeX o w ∧ op' = .remove o w') := by
  cases op with
  | base op => simp only [OpX.toOp, Option.some.injEq] at h; exact Or.inl (h ▸ rfl)
  | addDefault o st en => simp only [OpX.toOp, Option.some.injEq] at h; exact Or.inr (Or.inl ⟨o, st, en, rfl, h.symm⟩)
  | removeX o w =>
    rcases removeX_decode o w with ⟨h0, -⟩ | ⟨w', h1, -⟩
    · rw [h0] at h; cases h
    · rw [h1] at h; exact Or.inr (Or.inr ⟨o, w, w', rfl, (Option.some.inj h).symm⟩)
  | _ => cases h

/-- the ways a successful step of the extended machine changes the part: not at all, by one operation of the
timeline machine, or by one of the `TimePoint` / `Slur` methods -/
inductive PartMove (s : Part) (op : OpX) : Part → Prop
  | same : PartMove s op s
  | timeline {op' : Op} {s' : Part} {out : Out} : op.toOp = some op' → step s op' = .ok (s', out) → PartMove s op s'
  | tpAdd {sd : Side} {t : Int} {o : ObjRef} {p : Point} :
      op = .tpAdd sd t o → getPoint s.points t = some p → PartMove s op (tpRegister s sd t o)
  | tpRemove {sd : Side} {t : Int} {o : ObjRef} : op = .tpRemove sd t o → PartMove s op (tpUnregister s sd t o)
  | slurStart {slur note : ObjRef} : op = .slurStart slur note → PartMove s op (slurSetStart s slur)
  | slurEnd {slur note : ObjRef} : op = .slurEnd slur note → PartMove s op (slurSetEnd s slur note)

theorem slurSetStart_qtab (s : Part) (slur : ObjRef) : (slurSetStart s slur).qtab = s.qtab := by
  unfold slurSetStart
  split
  · rw [tpUnregister_eq, allowEmpty_qtab]; rfl
  · rfl

theorem slurSetEnd_qtab (s : Part) (slur note : ObjRef) : (slurSetEnd s slur note).qtab = s.qtab := by
  unfold slurSetEnd
  have h1 : (match (getObj s.objs slur).stop with
      | some t => tpUnregister s .stop t slur
      | none => s).qtab = s.qtab := by
    split
    · rw [tpUnregister_eq, allowEmpty_qtab]; rfl
    · rfl
  simp only
  split <;> exact h1

/-- a successful step that starts with a fresh memo ends with a fresh memo, and the part has made one of the
moves of `PartMove`: every invariant of the extended machine is shown move by move -/
theorem stepX_shape {c c' : CPart} {out : OutX} (hc : CacheOk c) {op : OpX} (he : stepX c op = .ok (c', out)) :
    ∃ s', c' = lift s' ∧ PartMove c.part op s' := by
  have hl : c = lift c.part := (cacheOk_iff c).mp hc
  have same : ∀ s' : Part, s'.qtab = c.part.qtab → ({ c with part := s' } : CPart) = lift s' := by
    intro s' hq
    show ({ part := s', qcache := c.qcache } : CPart) = _
    rw [show c.qcache = interpTable c.part.qtab from hc, ← hq]
    rfl
  cases op with
  | base op =>
    simp only [stepX] at he
    rw [hl, stepC_lift] at he
    cases hs : step c.part op with
    | error e => rw [hs] at he; cases he
    | ok r =>
      rw [hs] at he
      cases he
      exact ⟨r.1, rfl, .timeline rfl hs⟩
  | tpAdd sd t o =>
    simp only [stepX] at he
    split at he
    · cases he
    · split at he
      · cases he; exact ⟨c.part, hl, .same⟩
      · rename_i p hp
        cases he
        exact ⟨_, same _ rfl, .tpAdd rfl hp⟩
  | tpRemove sd t o =>
    simp only [stepX] at he
    split at he
    · cases he
    · split at he
      · cases he; exact ⟨c.part, hl, .same⟩
      · cases he
        exact ⟨_, same _ (by rw [tpUnregister_eq, allowEmpty_qtab]; rfl), .tpRemove rfl⟩
  | slurStart slur note =>
    simp only [stepX] at he
    cases he
    exact ⟨_, same _ (slurSetStart_qtab _ _), .slurStart rfl⟩
  | slurEnd slur note =>
    simp only [stepX] at he
    cases he
    exact ⟨_, same _ (slurSetEnd_qtab _ _ _), .slurEnd rfl⟩
  | removeX o w =>
    simp only [stepX] at he
    rcases removeX_decode o w with ⟨-, hr⟩ | ⟨w', hop, hr⟩
    · rw [hr] at he; cases he; exact ⟨c.part, hl, .same⟩
    · rw [hr] at he
      cases hs : stepRemove c.part o w' with
      | error e => rw [hs] at he; cases he
      | ok s' =>
        rw [hs] at he
        cases he
        exact ⟨s', same _ ((stepRemove_frame hs).1), .timeline (out := .unit) hop (by simp only [step, hs, Except.map])⟩
  | addDefault o st en =>
    simp only [stepX] at he
    rw [hl, stepAddC_lift] at he
    cases hs : stepAdd c.part o (st.getD Gen.C01Sig.addStartDefault) (en.getD Gen.C01Sig.addEndDefault) with
    | error e => rw [hs] at he; cases he
    | ok s' =>
      rw [hs] at he
      cases he
      exact ⟨s', rfl, .timeline (out := .unit) rfl (by simp only [step, hs, Except.map])⟩
  | iterAllX cls a b incl mode => simp only [stepX] at he; cases he; exact ⟨c.part, hl, .same⟩
  | mapCached xs => simp only [stepX] at he; cases he; exact ⟨c.part, hl, .same⟩
  | mapFresh xs => simp only [stepX] at he; cases he; exact ⟨c.part, hl, .same⟩

theorem stepRemove_wspec {s : Part} (hW : WInv s) (o : ObjRef) (w : Which) :
    ∃ s', stepRemove s o w = .ok s' ∧ WInv s' ∧ s'.qtab = s.qtab := by
  obtain ⟨s', out, he, hW'⟩ := wstep_ok hW (op := .remove o w) trivial rfl
  simp only [step] at he
  cases hr : stepRemove s o w with
  | error e => rw [hr] at he; cases he
  | ok s'' =>
    rw [hr] at he
    simp only [Except.map, Except.ok.injEq, Prod.mk.injEq] at he
    obtain ⟨rfl, -⟩ := he
    exact ⟨s'', rfl, hW', (stepRemove_frame hr).1⟩

theorem stepX_ok {c : CPart} (h : XInv c) {op : OpX} (hq : op.qdNonneg) (hn : op.negTime = false) :
    ∃ r, stepX c op = .ok r := by
  have hc : c = lift c.part := (cacheOk_iff c).mp h.2
  cases op with
  | base op =>
    obtain ⟨s', out, he, -⟩ := wstep_ok h.1 hq hn
    refine ⟨(lift s', .base out), ?_⟩
    simp only [stepX]
    rw [hc, stepC_lift, he]
    rfl
  | tpAdd sd t o =>
    simp only [OpX.negTime, decide_eq_false_iff_not] at hn
    simp only [stepX, hn, if_false]
    split <;> exact ⟨_, rfl⟩
  | tpRemove sd t o =>
    simp only [OpX.negTime, decide_eq_false_iff_not] at hn
    simp only [stepX, hn, if_false]
    split <;> exact ⟨_, rfl⟩
  | slurStart slur note => exact ⟨_, rfl⟩
  | slurEnd slur note => exact ⟨_, rfl⟩
  | removeX o w =>
    simp only [stepX]
    rcases removeX_decode o w with ⟨-, hr⟩ | ⟨w', -, hr⟩
    · rw [hr]; exact ⟨_, rfl⟩
    · obtain ⟨s', hs, -, -⟩ := stepRemove_wspec h.1 o w'
      rw [hr, hs]; exact ⟨_, rfl⟩
  | addDefault o st en =>
    simp only [OpX.negTime] at hn
    obtain ⟨s', out, he, -⟩ := wstep_ok h.1
      (op := .add o (st.getD Gen.C01Sig.addStartDefault) (en.getD Gen.C01Sig.addEndDefault)) trivial hn
    simp only [step] at he
    simp only [stepX]
    rw [hc, stepAddC_lift]
    cases hs : stepAdd c.part o (st.getD Gen.C01Sig.addStartDefault) (en.getD Gen.C01Sig.addEndDefault) with
    | error e => rw [hs] at he; cases he
    | ok s'' => exact ⟨_, rfl⟩
  | iterAllX cls a b incl mode => exact ⟨_, rfl⟩
  | mapCached xs => exact ⟨_, rfl⟩
  | mapFresh xs => exact ⟨_, rfl⟩

def nextX (c : CPart) (op : OpX) : CPart :=
  match stepX c op with
  | .ok (c', _) => c'
  | .error _ => c

theorem nextX_keeps {P : CPart → Prop} {c : CPart} {op : OpX} (hs : P c)
    (h : ∀ c' out, stepX c op = .ok (c', out) → P c') : P (nextX c op) := by
  unfold nextX; split
  · exact h _ _ ‹_›
  · exact hs

theorem runX_eq_foldl (c : CPart) (ops : List OpX) : runX c ops = ops.foldl nextX c :=
  Lists.run_eq_foldl_of (fun _ => rfl) (fun c op _ => by simp only [runX, nextX]; cases stepX c op <;> rfl) c ops

/-- the arguments under which the extended machine keeps the FULL invariant: the property's `Valid` for the
timeline operations; `tp.add_*_object(o)` only on a free side of `o`; `tp.remove_*_object(o)` only on the point
`o` refers to (what the Slur / Tuplet setters do); quarter durations at times `≥ 0` -/
def ValidX (c : CPart) : OpX → Prop
  | .base op => Valid c.part op
  | .tpAdd sd _ o => (getObj c.part.objs o).at sd = none
  | .tpRemove sd t o => (getObj c.part.objs o).at sd = some t
  | .addDefault o st en =>
    Valid c.part (.add o (st.getD Gen.C01Sig.addStartDefault) (en.getD Gen.C01Sig.addEndDefault))
  | _ => True

instance (c : CPart) (op : OpX) : Decidable (ValidX c op) := by
  cases op <;> simp only [ValidX] <;> infer_instance

def ValidHistoryX (c : CPart) : List OpX → Prop
  | [] => True
  | op :: ops => ValidX c op ∧ ValidHistoryX (nextX c op) ops

instance : (c : CPart) → (ops : List OpX) → Decidable (ValidHistoryX c ops)
  | _, [] => isTrue trivial
  | c, op :: ops =>
    have := instDecidableValidHistoryX (nextX c op) ops
    inferInstanceAs (Decidable (ValidX c op ∧ ValidHistoryX (nextX c op) ops))

def OpX.clsOk : OpX → Prop
  | .base op => op.clsOk
  | .tpAdd _ _ o => o.cls < Gen.numClasses
  | .tpRemove _ _ o => o.cls < Gen.numClasses
  | .slurStart slur _ => slur.cls < Gen.numClasses
  | .slurEnd slur _ => slur.cls < Gen.numClasses
  | .addDefault o _ _ => o.cls < Gen.numClasses
  | _ => True

instance (op : OpX) : Decidable op.clsOk := by
  cases op <;> simp only [OpX.clsOk] <;> infer_instance

theorem OpX.toOp_conds {c : CPart} {op : OpX} {op' : Op} (h : op.toOp = some op') :
    (op.qdNonneg → QDNonneg op') ∧ (op.clsOk → op'.clsOk) ∧ (ValidX c op → Valid c.part op') := by
  rcases OpX.toOp_cases h with rfl | ⟨o, st, en, rfl, rfl⟩ | ⟨o, w, w', rfl, rfl⟩
  · exact ⟨id, id, id⟩
  · exact ⟨fun _ => trivial, id, id⟩
  · exact ⟨fun _ => trivial, fun _ => trivial, fun _ => trivial⟩

/-- an accepted operation of the extended machine: the memo stays fresh (no hypothesis on the arguments: also
after `set_quarter_duration` at a negative time), and the part keeps each invariant under its condition -/
theorem stepX_keeps {c c' : CPart} {out : OutX} (hc : CacheOk c) {op : OpX} (he : stepX c op = .ok (c', out)) :
    CacheOk c' ∧ Keeps c.part c'.part op.qdNonneg op.clsOk (ValidX c op) := by
  obtain ⟨s', rfl, hm⟩ := stepX_shape hc he
  refine ⟨cacheOk_lift s', ?_⟩
  show Keeps c.part s' _ _ _
  cases hm with
  | same => exact .rfl
  | timeline h1 h2 =>
    obtain ⟨k1, k2, k3⟩ := OpX.toOp_conds (c := c) h1
    exact ⟨fun h hq => (step_keeps h2).winv h (k1 hq), fun h ho => (step_keeps h2).clsOk h (k2 ho),
      fun h hv => (step_keeps h2).inv h (k3 hv)⟩
  | tpAdd ho hp =>
    subst ho
    exact tpRegister_keeps (List.mem_map.mpr ⟨_, (getPoint_some hp).1, (getPoint_some hp).2⟩)
  | tpRemove ho => subst ho; exact tpUnregister_keeps
  | slurStart ho => subst ho; exact slurSetStart_keeps
  | slurEnd ho => subst ho; exact slurSetEnd_keeps

theorem stepX_preserves {c c' : CPart} {out : OutX} (h : XInv c) {op : OpX} (hq : op.qdNonneg)
    (he : stepX c op = .ok (c', out)) : XInv c' :=
  ⟨(stepX_keeps h.2 he).2.winv h.1 hq, (stepX_keeps h.2 he).1⟩

theorem xinv_init (q : Nat) : XInv (CPart.init q) := xinv_lift (init_winv q)

end TL
