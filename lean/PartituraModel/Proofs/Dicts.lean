/-
Python dicts in insertion order, as association lists: a list read back group after group under distinct keys, the keys of a
dict in the order of their first appearance, and `d[k].append(x)` on a `defaultdict(list)` with the loop that files a list
under its keys, and `d[k] = F d[k]` on a list of entries that carry their key (no Mathlib).  `Model.lookup` itself, `del d[k]`
included: Proofs/Lists.lean.
-/
import PartituraModel.Proofs.Lists

namespace Dicts

variable {α γ κ : Type} [DecidableEq κ]

/-- `for k in ks: for x in l: if f(x) == k` meets every element of `l` once -/
theorem flatMap_filter_perm (f : α → κ) {ks : List κ} (hnd : ks.Nodup) (l : List α) (hall : ∀ x ∈ l, f x ∈ ks) :
    (ks.flatMap fun k => l.filter fun x => f x = k).Perm l := by
  induction ks generalizing l with
  | nil => rw [List.eq_nil_iff_forall_not_mem.mpr fun x hx => List.not_mem_nil (hall x hx)]; exact .nil
  | cons k ks ih =>
    obtain ⟨hk, hnd'⟩ := List.nodup_cons.mp hnd
    -- the groups of the other keys are those of what is left when the group of `k` is taken out
    have hrest : ∀ k' ∈ ks, (l.filter fun x => f x = k') = (l.filter fun x => !decide (f x = k)).filter fun x => f x = k' := by
      intro k' hk'
      rw [List.filter_filter]
      refine List.filter_congr fun x _ => ?_
      by_cases hx : f x = k'
      · simp [hx, show k' ≠ k from fun e => hk (e ▸ hk')]
      · simp [hx]
    rw [List.flatMap_cons, List.flatMap_def, List.map_congr_left hrest, ← List.flatMap_def]
    refine ((ih hnd' _ fun x hx => ?_).append_left _).trans (List.filter_append_perm _ l)
    obtain ⟨hxl, hxk⟩ := List.mem_filter.mp hx
    exact (List.mem_cons.mp (hall x hxl)).resolve_left (by simpa using hxk)

/-! ### the keys of a dict in the order of their first appearance -/

/-- of the entries with one key the first stays, where it stands (`Merge.distinctParts`, by part identity) -/
structure IsFirstSeenBy (key : α → κ) (nub : List α → List α) : Prop where
  nil : nub [] = []
  cons : ∀ a l, nub (a :: l) = a :: (nub l).filter (key · != key a)

namespace IsFirstSeenBy
variable {key : α → κ} {nub : List α → List α}

theorem sublist (h : IsFirstSeenBy key nub) : ∀ l, (nub l).Sublist l
  | [] => by rw [h.nil]; exact .slnil
  | a :: l => by rw [h.cons]; exact (List.filter_sublist.trans (h.sublist l)).cons_cons a

theorem mem_keys (h : IsFirstSeenBy key nub) {k : κ} {l : List α} : k ∈ (nub l).map key ↔ k ∈ l.map key := by
  induction l with
  | nil => rw [h.nil]
  | cons a l ih =>
    rw [h.cons, List.map_cons, List.map_cons, List.mem_cons, List.mem_cons, ← ih]
    refine ⟨Or.imp_right fun hk => (List.filter_sublist.map key).subset hk, fun hk => ?_⟩
    by_cases hka : k = key a
    · exact Or.inl hka
    · obtain ⟨b, hb, rfl⟩ := List.mem_map.mp (hk.resolve_left hka)
      exact Or.inr (List.mem_map.mpr ⟨b, List.mem_filter.mpr ⟨hb, bne_iff_ne.mpr hka⟩, rfl⟩)

theorem nodup_keys (h : IsFirstSeenBy key nub) : ∀ l, ((nub l).map key).Nodup
  | [] => by rw [h.nil]; exact List.nodup_nil
  | a :: l => by
    rw [h.cons, List.map_cons]
    refine List.nodup_cons.mpr ⟨fun hm => ?_, List.Pairwise.sublist (List.filter_sublist.map key) (h.nodup_keys l)⟩
    obtain ⟨b, hb, hk⟩ := List.mem_map.mp hm
    exact bne_iff_ne.mp (List.mem_filter.mp hb).2 hk

/-- nothing goes where the keys are distinct already -/
theorem of_nodup (h : IsFirstSeenBy key nub) : ∀ {l : List α}, (l.map key).Nodup → nub l = l
  | [], _ => h.nil
  | a :: l, hn => by
    rw [List.map_cons, List.nodup_cons] at hn
    rw [h.cons, h.of_nodup hn.2, List.filter_eq_self.mpr]
    exact fun b hb => bne_iff_ne.mpr fun hk => hn.1 (List.mem_map.mpr ⟨b, hb, hk⟩)

end IsFirstSeenBy

/-- every key once, where it first occurs (`XmlAttrs.firstSeen`, `PerfMidi.nub`) -/
abbrev IsFirstSeen (nub : List κ → List κ) : Prop := IsFirstSeenBy id nub

namespace IsFirstSeen
variable {nub : List κ → List κ}

theorem mem (h : IsFirstSeen nub) {x : κ} {l : List κ} : x ∈ nub l ↔ x ∈ l := by
  simpa only [List.map_id] using h.mem_keys (k := x) (l := l)

theorem nodup (h : IsFirstSeen nub) (l : List κ) : (nub l).Nodup := by
  simpa only [List.map_id] using h.nodup_keys l

/-- `for k in d: for x in d[k]` after `d[f(x)].append(x)` for the elements of `l` -/
theorem groups_perm (h : IsFirstSeen nub) (f : α → κ) (l : List α) :
    ((nub (l.map f)).flatMap fun k => l.filter fun x => f x = k).Perm l :=
  flatMap_filter_perm f (h.nodup _) l fun _ hx => h.mem.mpr (List.mem_map_of_mem hx)

end IsFirstSeen

/-- the same keys by a left fold with the keys seen so far (`ScoreMidi.firstSeen`, `C17Voices.allSeen`): what was seen stays in
    front, nothing repeats, and the members are those seen and those of the list -/
theorem firstSeen_aux (l acc : List κ) (hacc : acc.Nodup) :
    (∃ ext, l.foldl (fun acc x => if acc.contains x then acc else acc ++ [x]) acc = acc ++ ext) ∧
    (l.foldl (fun acc x => if acc.contains x then acc else acc ++ [x]) acc).Nodup ∧
    ∀ x, x ∈ l.foldl (fun acc x => if acc.contains x then acc else acc ++ [x]) acc ↔ x ∈ acc ∨ x ∈ l := by
  induction l generalizing acc with
  | nil => exact ⟨⟨[], (List.append_nil _).symm⟩, hacc, fun x => by rw [List.foldl_nil, List.mem_nil_iff, or_false]⟩
  | cons y ys ih =>
    rw [List.foldl_cons]
    split
    · rename_i hy
      have hy : y ∈ acc := List.contains_iff_mem.mp hy
      refine ⟨(ih acc hacc).1, (ih acc hacc).2.1, fun x => ((ih acc hacc).2.2 x).trans ?_⟩
      rw [List.mem_cons]
      exact ⟨Or.imp_right Or.inr, fun h => h.elim Or.inl fun h => h.elim (fun e => Or.inl (e ▸ hy)) Or.inr⟩
    · rename_i hy
      have hnd : (acc ++ [y]).Nodup := Lists.nodup_concat hacc fun h => hy (List.contains_iff_mem.mpr h)
      obtain ⟨⟨ext, he⟩, h2, h3⟩ := ih _ hnd
      refine ⟨⟨y :: ext, by rw [he, List.append_assoc, List.singleton_append]⟩, h2, fun x => (h3 x).trans ?_⟩
      rw [List.mem_append, List.mem_singleton, List.mem_cons, or_assoc]

/-! ### a key that goes to the end unless it is there: the keys after either kind of write below -/

theorem mem_put_key {ks : List κ} {k x : κ} : x ∈ (if k ∈ ks then ks else ks ++ [k]) ↔ x ∈ ks ∨ x = k := by
  split
  · rename_i hk
    exact ⟨Or.inl, fun h => h.elim id (· ▸ hk)⟩
  · rw [List.mem_append, List.mem_singleton]

theorem nodup_put_key {ks : List κ} {k : κ} (h : ks.Nodup) : (if k ∈ ks then ks else ks ++ [k]).Nodup := by
  split
  · exact h
  · exact Lists.nodup_concat h ‹_›

/-! ### `d[k].append(x)` on a `defaultdict(list)` -/

/-- the list under `k` gets `x` at its end; a new key goes to the end of the dict (`C17Midi.appendAt`, `Xml.addTo`) -/
structure IsAppendAt (app : List (κ × List α) → κ → α → List (κ × List α)) : Prop where
  nil : ∀ k x, app [] k x = [(k, [x])]
  cons : ∀ a l d k x, app ((a, l) :: d) k x = if a = k then (a, l ++ [x]) :: d else (a, l) :: app d k x

namespace IsAppendAt
variable {app : List (κ × List α) → κ → α → List (κ × List α)}

theorem keys (h : IsAppendAt app) (d : List (κ × List α)) (k : κ) (x : α) :
    (app d k x).map (·.1) = if k ∈ d.map (·.1) then d.map (·.1) else d.map (·.1) ++ [k] := by
  induction d with
  | nil => rw [h.nil]; rfl
  | cons e d ih =>
    obtain ⟨a, l⟩ := e
    rw [h.cons]
    by_cases hak : a = k
    · rw [if_pos hak, List.map_cons, List.map_cons, if_pos (List.mem_cons.mpr (Or.inl hak.symm))]
    · rw [if_neg hak, List.map_cons, List.map_cons, ih]
      by_cases hk : k ∈ d.map (·.1)
      · rw [if_pos hk, if_pos (List.mem_cons_of_mem _ hk)]
      · rw [if_neg hk, if_neg fun hm => (List.mem_cons.mp hm).elim (fun e => hak e.symm) hk]; rfl

theorem mem_keys (h : IsAppendAt app) (d : List (κ × List α)) (k : κ) (x : α) (k' : κ) :
    k' ∈ (app d k x).map (·.1) ↔ k' ∈ d.map (·.1) ∨ k' = k :=
  h.keys d k x ▸ mem_put_key

theorem nodup (h : IsAppendAt app) {d : List (κ × List α)} (hd : (d.map (·.1)).Nodup) (k : κ) (x : α) :
    ((app d k x).map (·.1)).Nodup :=
  h.keys d k x ▸ nodup_put_key hd

/-- `d[k']` afterwards (`[]` for a key that is not there: `.getD []`) -/
theorem lookup (h : IsAppendAt app) (d : List (κ × List α)) (k : κ) (x : α) (k' : κ) :
    Model.lookup k' (app d k x) = if k' = k then some ((Model.lookup k d).getD [] ++ [x]) else Model.lookup k' d := by
  induction d with
  | nil =>
    rw [h.nil]
    by_cases hk : k' = k
    · simp [Model.lookup, hk]
    · simp [Model.lookup, hk, Ne.symm hk]
  | cons e d ih =>
    obtain ⟨a, l⟩ := e
    rw [h.cons]
    by_cases hak : a = k
    · subst hak
      by_cases hk : k' = a
      · simp [Model.lookup, hk]
      · simp [Model.lookup, hk, Ne.symm hk]
    · rw [if_neg hak]
      by_cases hak' : a = k'
      · simp [Model.lookup, hak', hak' ▸ hak]
      · simp [Model.lookup, hak, hak', ih]

theorem flat (h : IsAppendAt app) (d : List (κ × List α)) (k : κ) (x : α) :
    ((app d k x).flatMap (·.2)).Perm (d.flatMap (·.2) ++ [x]) := by
  induction d with
  | nil => rw [h.nil]; exact .of_eq (List.append_nil _)
  | cons e d ih =>
    obtain ⟨a, l⟩ := e
    rw [h.cons]
    split
    · rw [List.flatMap_cons, List.flatMap_cons, List.append_assoc, List.append_assoc]
      exact List.perm_append_comm.append_left l
    · rw [List.flatMap_cons, List.flatMap_cons, List.append_assoc]
      exact ih.append_left l

/-! `for e in l: d[kf(e)].append(vf(e))` -/

variable (kf : γ → κ) (vf : γ → α)

theorem foldl_nodup (h : IsAppendAt app) (l : List γ) {d : List (κ × List α)} (hd : (d.map (·.1)).Nodup) :
    ((l.foldl (fun d e => app d (kf e) (vf e)) d).map (·.1)).Nodup :=
  Lists.foldl_inv (fun d => (d.map (·.1)).Nodup) _ (fun _ _ hd => h.nodup hd _ _) l d hd

theorem mem_foldl_keys (h : IsAppendAt app) (l : List γ) (d : List (κ × List α)) (k : κ) :
    k ∈ (l.foldl (fun d e => app d (kf e) (vf e)) d).map (·.1) ↔ k ∈ d.map (·.1) ∨ k ∈ l.map kf := by
  induction l generalizing d with
  | nil => rw [List.foldl_nil, List.map_nil, List.mem_nil_iff, or_false]
  | cons e l ih => rw [List.foldl_cons, ih, h.mem_keys, List.map_cons, List.mem_cons, or_assoc]

/-- under `k` the elements of `l` with that key come after what was there, in the order of `l` -/
theorem foldl_lookup (h : IsAppendAt app) (l : List γ) (d : List (κ × List α)) (k : κ) :
    (Model.lookup k (l.foldl (fun d e => app d (kf e) (vf e)) d)).getD [] =
      (Model.lookup k d).getD [] ++ (l.filter fun e => kf e = k).map vf := by
  induction l generalizing d with
  | nil => rw [List.foldl_nil, List.filter_nil, List.map_nil, List.append_nil]
  | cons e l ih =>
    rw [List.foldl_cons, ih, h.lookup]
    by_cases hk : kf e = k
    · subst hk
      rw [if_pos rfl, List.filter_cons_of_pos (by simp), List.map_cons, Option.getD_some, List.append_assoc]; rfl
    · rw [if_neg (Ne.symm hk), List.filter_cons_of_neg (by simpa using hk)]

theorem foldl_flat (h : IsAppendAt app) (l : List γ) (d : List (κ × List α)) :
    ((l.foldl (fun d e => app d (kf e) (vf e)) d).flatMap (·.2)).Perm (d.flatMap (·.2) ++ l.map vf) := by
  induction l generalizing d with
  | nil => rw [List.foldl_nil, List.map_nil, List.append_nil]
  | cons e l ih =>
    rw [List.foldl_cons, List.map_cons, List.append_cons]
    exact (ih _).trans ((h.flat d _ _).append_right _)

/-- the dict built from `{}`: each entry holds the elements of `l` with its key, in the order of `l` -/
theorem foldl_group (h : IsAppendAt app) (l : List γ) :
    ∀ g ∈ l.foldl (fun d e => app d (kf e) (vf e)) [], g.2 = (l.filter fun e => kf e = g.1).map vf := by
  intro g hg
  have := h.foldl_lookup kf vf l [] g.1
  rwa [Model.lookup_of_mem (h.foldl_nodup kf vf l (d := []) List.nodup_nil) hg] at this

end IsAppendAt

/-! ### `d[k] = F d[k]`: an entry is rewritten in place or appended

An entry carries its key (`key : ε → κ`: the first component of a pair, the identity field of a record); a read finds the first
entry under a key.  `upsert` rewrites every entry under `k` where `IsAppendAt.cons` stops at the first, so the two agree on
dicts with distinct keys only; the lemmas on keys and reads below have the statements of `IsAppendAt.keys`, `mem_keys`,
`nodup`, `lookup` (the keys are the same list in both, whence `mem_put_key`, `nodup_put_key` for both), and neither family
needs distinct keys, which a bridge between them would.  `upsert` is written as
`Timeline.setObj` is (by `rfl`): the key is tested with `any (· == k)`, rewritten under `if · = k` and read with
`find? (· == k)`; `any_key_iff` and `find?_key_eq_none_iff` turn the two Boolean tests into membership among the keys. -/

section Upsert
variable {ε : Type}

theorem any_key_iff (key : ε → κ) (d : List ε) (k : κ) : d.any (fun e => key e == k) = true ↔ k ∈ d.map key := by
  simp only [List.any_eq_true, beq_iff_eq, List.mem_map]

theorem find?_key_eq_none_iff (key : ε → κ) (d : List ε) (k : κ) :
    d.find? (fun e => key e == k) = none ↔ k ∉ d.map key := by
  simp only [List.find?_eq_none, beq_iff_eq, List.mem_map, not_exists, not_and]

/-- the entry under `k` becomes `F` of itself; when there is none, `e0` is appended -/
def upsert (key : ε → κ) (d : List ε) (k : κ) (F : ε → ε) (e0 : ε) : List ε :=
  if d.any (fun e => key e == k) then d.map (fun e => if key e = k then F e else e) else d ++ [e0]

variable {key : ε → κ} {k : κ} {F : ε → ε} {e0 : ε} {d : List ε}

theorem upsert_of_key (h : k ∈ d.map key) :
    upsert key d k F e0 = d.map fun e => if key e = k then F e else e :=
  if_pos ((any_key_iff key d k).mpr h)

theorem upsert_of_not_key (h : k ∉ d.map key) : upsert key d k F e0 = d ++ [e0] :=
  if_neg fun hc => h ((any_key_iff key d k).mp hc)

section
variable {x t : κ} (hF : ∀ e, key e = k → key (F e) = k) (h0 : key e0 = k)
include hF

theorem key_rewrite (e : ε) : key (if key e = k then F e else e) = key e := by
  split
  · rename_i he; rw [hF e he, he]
  · rfl

include h0

theorem keys_upsert :
    (upsert key d k F e0).map key = if k ∈ d.map key then d.map key else d.map key ++ [k] := by
  split
  · rename_i h
    rw [upsert_of_key h, List.map_map]
    exact List.map_congr_left fun e _ => key_rewrite hF e
  · rename_i h
    rw [upsert_of_not_key h, List.map_append, List.map_singleton, h0]

theorem mem_keys_upsert : x ∈ (upsert key d k F e0).map key ↔ x ∈ d.map key ∨ x = k :=
  keys_upsert hF h0 ▸ mem_put_key

theorem nodup_keys_upsert (h : (d.map key).Nodup) : ((upsert key d k F e0).map key).Nodup :=
  keys_upsert hF h0 ▸ nodup_put_key h

/-- **the read after the write**: under `k` what `F` makes of the old entry (`e0` when there was none); other keys as before -/
theorem find?_upsert :
    (upsert key d k F e0).find? (fun e => key e == t)
      = if k = t then some ((d.find? fun e => key e == k).elim e0 F) else d.find? fun e => key e == t := by
  by_cases h : k ∈ d.map key
  · -- rewritten in place: the keys stand where they stood, so the same entry is found
    have hp : ((fun e => key e == t) ∘ fun e => if key e = k then F e else e) = fun e => key e == t :=
      funext fun e => congrArg (· == t) (key_rewrite hF e)
    rw [upsert_of_key h, List.find?_map, hp]
    split
    · rename_i hkt
      subst hkt
      cases hf : d.find? (fun e => key e == k) with
      | none => exact absurd h ((find?_key_eq_none_iff key d k).mp hf)
      | some e =>
        have he : key e = k := by simpa using List.find?_some hf
        simp [he]
    · rename_i hkt
      cases hf : d.find? (fun e => key e == t) with
      | none => rfl
      | some e =>
        have he : key e = t := by simpa using List.find?_some hf
        have hk : ¬ key e = k := fun hk => hkt (hk.symm.trans he)
        simp [hk]
  · rw [upsert_of_not_key h, List.find?_append]
    split
    · rename_i hkt
      subst hkt
      simp [(find?_key_eq_none_iff key d k).mpr h, h0]
    · rename_i hkt
      simp [h0, hkt]

end

/-- a read sees no difference between two orders of a list in which at most one entry passes the test -/
theorem find?_perm_unique (p : ε → Bool) {l l' : List ε} (h : l.Perm l')
    (hu : ∀ x ∈ l, ∀ y ∈ l, p x = true → p y = true → x = y) : l.find? p = l'.find? p := by
  induction h with
  | nil => rfl
  | cons a _ ih =>
    simp only [List.find?_cons]
    cases hp : p a with
    | true => rfl
    | false => exact ih fun x hx y hy => hu x (List.mem_cons_of_mem _ hx) y (List.mem_cons_of_mem _ hy)
  | swap a b l =>
    simp only [List.find?_cons]
    cases hpa : p a with
    | true =>
      cases hpb : p b with
      | true =>
        have : b = a := hu b (by simp) a (by simp) hpb hpa
        simp [this]
      | false => rfl
    | false => rfl
  | trans h1 h2 ih1 ih2 =>
    rw [ih1 hu]
    exact ih2 fun x hx y hy => hu x (h1.mem_iff.mpr hx) y (h1.mem_iff.mpr hy)

end Upsert

end Dicts
