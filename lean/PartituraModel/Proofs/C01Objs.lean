/-
C01 helper lemmas: object records (`getObj/setObj`: a dict keyed by the reference, Proofs/Dicts.lean), registries
(`regAdd/regRemove`), `modifyPoint`, side accessors.
-/
import PartituraModel.Model.Timeline
import PartituraModel.Proofs.Dicts

namespace TL

@[simp] theorem setReg_t (p : Point) (sd : Side) (l : List ObjRef) : (p.setReg sd l).t = p.t := by
  cases sd <;> rfl
@[simp] theorem setReg_quarter (p : Point) (sd : Side) (l : List ObjRef) : (p.setReg sd l).quarter = p.quarter := by
  cases sd <;> rfl
@[simp] theorem setReg_prev (p : Point) (sd : Side) (l : List ObjRef) : (p.setReg sd l).prev = p.prev := by
  cases sd <;> rfl
@[simp] theorem setReg_next (p : Point) (sd : Side) (l : List ObjRef) : (p.setReg sd l).next = p.next := by
  cases sd <;> rfl
@[simp] theorem setReg_reg_same (p : Point) (sd : Side) (l : List ObjRef) : (p.setReg sd l).reg sd = l := by
  cases sd <;> rfl
theorem setReg_reg_other (p : Point) {sd sd' : Side} (h : sd' ≠ sd) (l : List ObjRef) :
    (p.setReg sd l).reg sd' = p.reg sd' := by
  cases sd <;> cases sd'
  · exact absurd rfl h
  · rfl
  · rfl
  · exact absurd rfl h
theorem setReg_reg (p : Point) (sd sd' : Side) (l : List ObjRef) :
    (p.setReg sd l).reg sd' = if sd' = sd then l else p.reg sd' := by
  by_cases h : sd' = sd
  · subst h; simp
  · simp [h, setReg_reg_other p h]

@[simp] theorem setAt_ref (e : ObjSt) (sd : Side) (v : Option Int) : (e.setAt sd v).ref = e.ref := by
  cases sd <;> rfl
@[simp] theorem setAt_at_same (e : ObjSt) (sd : Side) (v : Option Int) : (e.setAt sd v).at sd = v := by
  cases sd <;> rfl
theorem setAt_at_other (e : ObjSt) {sd sd' : Side} (h : sd' ≠ sd) (v : Option Int) :
    (e.setAt sd v).at sd' = e.at sd' := by
  cases sd <;> cases sd'
  · exact absurd rfl h
  · rfl
  · rfl
  · exact absurd rfl h
theorem setAt_at (e : ObjSt) (sd sd' : Side) (v : Option Int) :
    (e.setAt sd v).at sd' = if sd' = sd then v else e.at sd' := by
  by_cases h : sd' = sd
  · subst h; simp
  · simp [h, setAt_at_other e h]

theorem reg_nonempty_of_mem {p : Point} {sd : Side} {o : ObjRef} (h : o ∈ p.reg sd) :
    p.starting ≠ [] ∨ p.ending ≠ [] := by
  cases sd
  · left; intro e; simp [Point.reg, e] at h
  · right; intro e; simp [Point.reg, e] at h

theorem reg_eq_nil_of_empty {p : Point} (h : p.starting.length + p.ending.length = 0) (sd : Side) :
    p.reg sd = [] := by
  cases sd
  · simp only [Point.reg]; exact List.eq_nil_of_length_eq_zero (by omega)
  · simp only [Point.reg]; exact List.eq_nil_of_length_eq_zero (by omega)

theorem mem_regAdd {l : List ObjRef} {o x : ObjRef} : x ∈ regAdd l o ↔ x ∈ l ∨ x = o := by
  unfold regAdd
  split
  · constructor
    · exact Or.inl
    · rintro (h | rfl)
      · exact h
      · assumption
  · simp

theorem nodup_regAdd {l : List ObjRef} (o : ObjRef) (h : l.Nodup) : (regAdd l o).Nodup := by
  unfold regAdd
  split
  · exact h
  · exact Lists.nodup_concat h ‹_›

theorem mem_regRemove {l : List ObjRef} {o x : ObjRef} : x ∈ regRemove l o ↔ x ∈ l ∧ x ≠ o := by
  simp [regRemove]

theorem regRemove_of_not_mem {l : List ObjRef} {o : ObjRef} (h : o ∉ l) : regRemove l o = l := by
  unfold regRemove
  rw [List.filter_eq_self]
  intro a ha
  simp only [ne_eq, decide_not, Bool.not_eq_eq_eq_not, Bool.not_true, decide_eq_false_iff_not]
  rintro rfl
  exact h ha

theorem nodup_regRemove {l : List ObjRef} (o : ObjRef) (h : l.Nodup) : (regRemove l o).Nodup :=
  h.sublist List.filter_sublist

theorem mem_modifyPoint {pts : List Point} {t : Int} {f : Point → Point} {p' : Point} :
    p' ∈ modifyPoint pts t f ↔ ∃ p ∈ pts, p' = if p.t = t then f p else p := by
  simp only [modifyPoint, List.mem_map]
  constructor
  · rintro ⟨p, hp, rfl⟩; exact ⟨p, hp, rfl⟩
  · rintro ⟨p, hp, rfl⟩; exact ⟨p, hp, rfl⟩

theorem times_modifyPoint {pts : List Point} {t : Int} {f : Point → Point} (hf : ∀ p, (f p).t = p.t) :
    (modifyPoint pts t f).map (·.t) = pts.map (·.t) := by
  simp only [modifyPoint, List.map_map]
  apply List.map_congr_left
  intro p _
  simp only [Function.comp]
  split <;> simp [hf]

theorem lnk_modifyPoint {pts : List Point} {t : Int} {f : Point → Point}
    (hf : ∀ p, (f p).t = p.t ∧ (f p).prev = p.prev ∧ (f p).next = p.next) :
    (modifyPoint pts t f).map (fun p => (p.t, p.prev, p.next)) = pts.map (fun p => (p.t, p.prev, p.next)) := by
  simp only [modifyPoint, List.map_map]
  apply List.map_congr_left
  intro p _
  simp only [Function.comp]
  split <;> simp [hf]

theorem modifyPoint_of_not_mem {pts : List Point} {t : Int} (ht : t ∉ pts.map (·.t)) (f : Point → Point) :
    modifyPoint pts t f = pts := by
  unfold modifyPoint
  rw [List.map_congr_left (g := id), List.map_id]
  intro p hp
  have : p.t ≠ t := fun e => ht (e ▸ List.mem_map_of_mem hp)
  simp [this]

def blank (o : ObjRef) : ObjSt := { ref := o, start := none, stop := none }

theorem getObj_def (objs : List ObjSt) (o : ObjRef) :
    getObj objs o = (objs.find? (fun e => e.ref == o)).getD (blank o) := by
  unfold getObj blank
  cases objs.find? (fun e => e.ref == o) <;> rfl

@[simp] theorem getObj_ref (objs : List ObjSt) (o : ObjRef) : (getObj objs o).ref = o := by
  rw [getObj_def]
  cases h : objs.find? (fun e => e.ref == o) with
  | none => rfl
  | some e =>
    have := List.find?_some h
    simpa using this

theorem getObj_of_not_mem {objs : List ObjSt} {o : ObjRef} (h : o ∉ objs.map (·.ref)) :
    getObj objs o = blank o := by
  rw [getObj_def]
  have : objs.find? (fun e => e.ref == o) = none := by
    rw [List.find?_eq_none]
    intro e he hc
    apply h
    simp only [beq_iff_eq] at hc
    exact List.mem_map.mpr ⟨e, he, hc⟩
  rw [this]; rfl

theorem getObj_mem_or_blank (objs : List ObjSt) (o : ObjRef) :
    (getObj objs o ∈ objs ∧ o ∈ objs.map (·.ref)) ∨ (getObj objs o = blank o ∧ o ∉ objs.map (·.ref)) := by
  by_cases h : o ∈ objs.map (·.ref)
  · left
    refine ⟨?_, h⟩
    rw [getObj_def]
    cases hf : objs.find? (fun e => e.ref == o) with
    | none =>
      rw [List.find?_eq_none] at hf
      obtain ⟨e, he, rfl⟩ := List.mem_map.mp h
      have := hf e he
      simp at this
    | some e => exact List.mem_of_find?_eq_some hf
  · right
    exact ⟨getObj_of_not_mem h, h⟩

theorem blank_at (o : ObjRef) (sd : Side) : (blank o).at sd = none := by cases sd <;> rfl

/-- a record with a side set is a stored one: the record made up for an unknown object has no side -/
theorem getObj_mem_of_at {objs : List ObjSt} {o : ObjRef} {sd : Side} {τ : Int}
    (h : (getObj objs o).at sd = some τ) : getObj objs o ∈ objs := by
  rcases getObj_mem_or_blank objs o with ⟨hm, _⟩ | ⟨hb, _⟩
  · exact hm
  · rw [hb, blank_at] at h; cases h

theorem getObj_of_mem {objs : List ObjSt} (hn : (objs.map (·.ref)).Nodup) {e : ObjSt} (he : e ∈ objs) :
    getObj objs e.ref = e := by
  induction objs with
  | nil => cases he
  | cons a r ih =>
    simp only [List.map_cons, List.nodup_cons] at hn
    rw [getObj_def]
    rcases List.mem_cons.mp he with rfl | he'
    · simp
    · have hne : a.ref ≠ e.ref := fun hc => hn.1 (hc ▸ List.mem_map_of_mem he')
      have : (a :: r).find? (fun x => x.ref == e.ref) = r.find? (fun x => x.ref == e.ref) := by
        simp [hne]
      rw [this, ← getObj_def]
      exact ih hn.2 he'

/-- the records are a dict keyed by `ObjSt.ref` (Proofs/Dicts.lean) -/
theorem setObj_eq (objs : List ObjSt) (o : ObjRef) (f : ObjSt → ObjSt) :
    setObj objs o f = Dicts.upsert (·.ref) objs o f (f (blank o)) := rfl

theorem setObj_of_mem {objs : List ObjSt} {o : ObjRef} (h : o ∈ objs.map (·.ref)) (f : ObjSt → ObjSt) :
    setObj objs o f = objs.map (fun e => if e.ref = o then f e else e) := Dicts.upsert_of_key h

theorem setObj_of_not_mem {objs : List ObjSt} {o : ObjRef} (h : o ∉ objs.map (·.ref)) (f : ObjSt → ObjSt) :
    setObj objs o f = objs ++ [f (blank o)] := Dicts.upsert_of_not_key h

theorem mem_setObj {objs : List ObjSt} (hn : (objs.map (·.ref)).Nodup) {o : ObjRef} {f : ObjSt → ObjSt}
    {e' : ObjSt} :
    e' ∈ setObj objs o f ↔ (e' ∈ objs ∧ e'.ref ≠ o) ∨ e' = f (getObj objs o) := by
  by_cases h : o ∈ objs.map (·.ref)
  · rw [setObj_of_mem h, List.mem_map]
    constructor
    · rintro ⟨e, he, rfl⟩
      by_cases hr : e.ref = o
      · right
        subst hr
        simp [getObj_of_mem hn he]
      · left
        simp [hr, he]
    · rintro (⟨he, hr⟩ | rfl)
      · exact ⟨e', he, by simp [hr]⟩
      · rcases getObj_mem_or_blank objs o with ⟨hm, _⟩ | ⟨_, hnm⟩
        · exact ⟨getObj objs o, hm, by simp⟩
        · exact absurd h hnm
  · rw [setObj_of_not_mem h, getObj_of_not_mem h, List.mem_append, List.mem_singleton]
    constructor
    · rintro (he | rfl)
      · exact Or.inl ⟨he, fun hc => h (List.mem_map.mpr ⟨e', he, hc⟩)⟩
      · exact Or.inr rfl
    · rintro (⟨he, _⟩ | rfl)
      · exact Or.inl he
      · exact Or.inr rfl

section
variable {objs : List ObjSt} {o : ObjRef} {f : ObjSt → ObjSt} (hf : ∀ e, (f e).ref = e.ref)
include hf

theorem refs_setObj :
    (setObj objs o f).map (·.ref) = if o ∈ objs.map (·.ref) then objs.map (·.ref) else objs.map (·.ref) ++ [o] :=
  Dicts.keys_upsert (fun e he => (hf e).trans he) (hf _)

theorem nodup_refs_setObj (hn : (objs.map (·.ref)).Nodup) : ((setObj objs o f).map (·.ref)).Nodup :=
  Dicts.nodup_keys_upsert (fun e he => (hf e).trans he) (hf _) hn

theorem mem_refs_setObj {x : ObjRef} : x ∈ (setObj objs o f).map (·.ref) ↔ x ∈ objs.map (·.ref) ∨ x = o :=
  Dicts.mem_keys_upsert (fun e he => (hf e).trans he) (hf _)

theorem find?_setObj (t : ObjRef) :
    (setObj objs o f).find? (fun e => e.ref == t)
      = if o = t then some ((objs.find? fun e => e.ref == o).elim (f (blank o)) f) else objs.find? fun e => e.ref == t :=
  Dicts.find?_upsert (fun e he => (hf e).trans he) (hf _)

theorem getObj_setObj_same : getObj (setObj objs o f) o = f (getObj objs o) := by
  rw [getObj_def, getObj_def, find?_setObj hf, if_pos rfl]
  cases objs.find? (fun e => e.ref == o) <;> rfl

theorem getObj_setObj_other {o' : ObjRef} (hne : o' ≠ o) : getObj (setObj objs o f) o' = getObj objs o' := by
  rw [getObj_def, getObj_def, find?_setObj hf, if_neg (Ne.symm hne)]

end

theorem getObj_setAt {objs : List ObjSt} (sd : Side) (o : ObjRef) (v : Option Int)
    (sd' : Side) (o' : ObjRef) :
    (getObj (setObj objs o (fun e => e.setAt sd v)) o').at sd'
      = if o' = o ∧ sd' = sd then v else (getObj objs o').at sd' := by
  by_cases ho : o' = o
  · subst ho
    rw [getObj_setObj_same (fun e => by simp), setAt_at]
    by_cases hs : sd' = sd <;> simp [hs]
  · rw [getObj_setObj_other (fun e => by simp) ho]
    simp [ho]

end TL
