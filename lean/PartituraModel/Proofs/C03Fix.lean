/-
C03 — saving the loaded note again gives the same element (the element-level part of the byte fixpoint).
-/
import PartituraModel.Proofs.C03Note

namespace C03.Fix
open Model Model.XmlNote C03.Text C03.Note

theorem canonNumber_ne_zero (n : NoteAttrs) {k : Nat} (h : k ≠ 0) : canonNumber n k = k := by
  unfold canonNumber
  exact intOr_ne_zero (by exact_mod_cast h) _

theorem graceEl_map (g : Option GraceType) :
    graceEl (g.map fun g => if g = .acciaccatura then GraceType.acciaccatura else .grace) = graceEl g := by
  cases g with
  | none => rfl
  | some g => cases g <;> rfl

theorem alterEl_truthy (a : Option Int) : alterEl (truthy a) = alterEl a := by
  cases a with
  | none => rfl
  | some a => by_cases h : a = 0 <;> simp [truthy, alterEl, h]

theorem body_fix (b : Body) (h : b ≠ .rest true) : bodyEls (reexportBody (canonBody b)) = bodyEls b := by
  cases b with
  | pitched step alter octave grace =>
    simp only [canonBody, reexportBody, bodyEls, graceEl_map, alterEl_truthy]
  | unpitched step octave nh =>
    cases nh with
    | none => rfl
    | some p => rfl
  | rest hidden =>
    cases hidden with
    | true => exact absurd rfl h
    | false => rfl

theorem isGrace_fix (b : Body) : (reexportBody (canonBody b)).isGrace = b.isGrace := by
  cases b with
  | pitched step alter octave grace => cases grace <;> rfl
  | unpitched step octave nh => rfl
  | rest hidden => rfl

theorem articEls_fix (arts : List ArtName) : articEls ((artsOf arts).map .known) = articEls arts := by
  have : artsOf ((artsOf arts).map .known) = artsOf arts := by
    rw [artsOf, List.filterMap_map]; exact List.filterMap_some
  rw [articEls_eq, this, ← articEls_eq]

theorem fingeringEls_fix (ts : List Tech) : fingeringEls ((fingsOf ts).map .fingering) = fingeringEls ts := by
  have : fingsOf ((fingsOf ts).map .fingering) = fingsOf ts := by
    rw [fingsOf, List.filterMap_map]; exact List.filterMap_some
  rw [fingeringEls_eq, this, ← fingeringEls_eq]

/-- stops in front, starts behind: filtering by the flag separates them again -/
theorem filter_marks {α β γ : Type} (p : γ → Bool) (f : α → γ) (g : β → γ) (l1 : List α) (l2 : List β)
    (h1 : ∀ a, p (f a) = false) (h2 : ∀ b, p (g b) = true) :
    ((l1.map f ++ l2.map g).filter fun m => !p m) = l1.map f ∧ ((l1.map f ++ l2.map g).filter fun m => p m) = l2.map g := by
  constructor
  · rw [List.filter_append, List.filter_eq_self.mpr, List.filter_eq_nil_iff.mpr, List.append_nil]
    · intro m hm; obtain ⟨a, _, rfl⟩ := List.mem_map.mp hm; simp [h2 a]
    · intro m hm; obtain ⟨a, _, rfl⟩ := List.mem_map.mp hm; simp [h1 a]
  · rw [List.filter_append, List.filter_eq_nil_iff.mpr, List.filter_eq_self.mpr, List.nil_append]
    · intro m hm; obtain ⟨a, _, rfl⟩ := List.mem_map.mp hm; simp [h2 a]
    · intro m hm; obtain ⟨a, _, rfl⟩ := List.mem_map.mp hm; simp [h1 a]

theorem map_id_of_ne_zero (n : NoteAttrs) (l : List Nat) (h : ∀ k ∈ l, k ≠ 0) :
    l.map (fun k => (canonNumber n k).toNat) = l := by
  induction l with
  | nil => rfl
  | cons a r ih =>
    rw [List.map_cons, canonNumber_ne_zero n (h a (by simp)), ih fun k hk => h k (List.mem_cons_of_mem _ hk)]
    simp

theorem slurs_fix (n : NoteAttrs) (h0 : ∀ k ∈ n.slurStops, k ≠ 0) (h1 : ∀ k ∈ n.slurStarts, k ≠ 0) :
    (((canon n).slurs.filter fun m => !m.1).map fun m => m.2.toNat) = n.slurStops ∧
    (((canon n).slurs.filter fun m => m.1).map fun m => m.2.toNat) = n.slurStarts := by
  have := filter_marks (·.1) (canonSlur n false) (canonSlur n true) n.slurStops n.slurStarts (fun _ => rfl) (fun _ => rfl)
  simp only [canon]
  rw [this.1, this.2, List.map_map, List.map_map]
  exact ⟨map_id_of_ne_zero n _ h0, map_id_of_ne_zero n _ h1⟩

theorem tupletStart_fix (n : NoteAttrs) (t : TupletStart) (hk : t.number ≠ 0)
    (hi : t.info = none → canonTupletInfo n t = none) :
    tupletStartEl (reexportTuplet (canonTupletStart n t)) = tupletStartEl t := by
  unfold tupletStartEl
  have hnum : (reexportTuplet (canonTupletStart n t)).number = t.number := by
    unfold reexportTuplet canonTupletStart
    split <;> simp [canonNumber_ne_zero n hk]
  have hinfo : (reexportTuplet (canonTupletStart n t)).info = t.info := by
    cases hti : t.info with
    | none =>
      have : canonTupletInfo n t = none := hi hti
      simp only [reexportTuplet, canonTupletStart, this]
      rfl
    | some i =>
      have : canonTupletInfo n t = some i := by unfold canonTupletInfo; rw [hti]
      simp only [reexportTuplet, canonTupletStart, this]
      cases i; rfl
  rw [hnum, hinfo]

theorem tuplets_fix (n : NoteAttrs) (h0 : ∀ k ∈ n.tupletStops, k ≠ 0)
    (h1 : ∀ t ∈ n.tupletStarts, t.number ≠ 0 ∧ (t.info = none → canonTupletInfo n t = none)) :
    (((canon n).tuplets.filter fun m => !m.isStart).map fun m => m.number.toNat) = n.tupletStops ∧
    (((canon n).tuplets.filter fun m => m.isStart).map reexportTuplet).map tupletStartEl = n.tupletStarts.map tupletStartEl := by
  have := filter_marks (·.isStart) (canonTupletStop n) (canonTupletStart n) n.tupletStops n.tupletStarts (fun _ => rfl)
    (fun _ => rfl)
  simp only [canon]
  rw [this.1, this.2, List.map_map, List.map_map, List.map_map]
  refine ⟨map_id_of_ne_zero n _ h0, ?_⟩
  apply List.map_congr_left
  intro t ht
  exact tupletStart_fix n t (h1 t ht).1 (h1 t ht).2

theorem id_fix (n : NoteAttrs) (k : Nat) (h : n.id ≠ some []) : idAttrs (reexport (canon n) k) = idAttrs n := by
  have e : (reexport (canon n) k).id = n.id := by
    show strOrNone n.id = n.id
    cases hi : n.id with
    | none => rfl
    | some s => exact strOrNone_ok fun e => h (by rw [hi, e])
  unfold idAttrs; rw [e]

theorem durEl_fix (n : NoteAttrs) (k : Nat) : durEl (reexport (canon n) k) = durEl n := by
  have e : (reexport (canon n) k).body.isGrace = n.body.isGrace := isGrace_fix n.body
  have d : (reexport (canon n) k).dur = Int.toNat (if n.body.isGrace then 0 else (n.dur : Int)) := rfl
  unfold durEl; rw [e, d]
  split <;> rfl

theorem voiceEl_fix (n : NoteAttrs) (k : Nat) {v : Int} (hv : n.voice = some v) (hv0 : v ≠ 0) :
    voiceEl (reexport (canon n) k) = voiceEl n := by
  have e : (reexport (canon n) k).voice = n.voice := by
    show some (intOr n.voice 1) = _
    rw [hv, intOr_ne_zero hv0]
  unfold voiceEl; rw [e]

theorem timeModEl_fix (n : NoteAttrs) (k : Nat)
    (h : ∀ a b, n.actualNotes = some a → n.normalNotes = some b → a ≠ 0 ∧ b ≠ 0) :
    timeModEl (reexport (canon n) k) = timeModEl n := by
  have e : (reexport (canon n) k).actualNotes = canonActual n ∧ (reexport (canon n) k).normalNotes = canonNormal n :=
    ⟨rfl, rfl⟩
  unfold timeModEl; rw [e.1, e.2]
  unfold canonActual canonNormal
  cases ha : n.actualNotes with
  | none => rfl
  | some a =>
    cases hb : n.normalNotes with
    | none => rfl
    | some b =>
      obtain ⟨ha0, hb0⟩ := h a b ha hb
      simp only [truthy, ha0, hb0, if_false]

theorem staffEl_fix (n : NoteAttrs) (h1 : n.nStaves > 1 → ∃ s, n.staff = some s ∧ s ≠ 0) (h0 : n.staff ≠ some 0) :
    staffEl (reexport (canon n) n.nStaves) = staffEl n := by
  have e : (reexport (canon n) n.nStaves).staff = some (intOr n.staff 1) ∧
      (reexport (canon n) n.nStaves).nStaves = n.nStaves := ⟨rfl, rfl⟩
  unfold staffEl; rw [e.1, e.2]
  cases hs : n.staff with
  | none =>
    have : ¬ n.nStaves > 1 := fun hgt => by
      obtain ⟨s, hs', _⟩ := h1 hgt
      rw [hs] at hs'; cases hs'
    simp only [intOr, ne_eq, not_true_eq_false, false_or, this, if_false]
  | some s => rw [intOr_ne_zero fun e => h0 (by rw [hs, e])]

theorem notationKids_fix (n : NoteAttrs) (k : Nat)
    (hnum : ∀ k ∈ n.slurStops ++ n.slurStarts ++ n.tupletStops ++ n.tupletStarts.map (·.number), k ≠ 0)
    (htup : ∀ t ∈ n.tupletStarts, t.info = none → canonTupletInfo n t = none) :
    notationKids (reexport (canon n) k) = notationKids n := by
  simp only [List.mem_append] at hnum
  have hsl := slurs_fix n (fun k hk => hnum k (.inl (.inl (.inl hk)))) (fun k hk => hnum k (.inl (.inl (.inr hk))))
  have htu := tuplets_fix n (fun k hk => hnum k (.inl (.inr hk)))
    (fun t ht => ⟨hnum _ (.inr (List.mem_map.mpr ⟨t, ht, rfl⟩)), htup t ht⟩)
  have e : (reexport (canon n) k).arts = (artsOf n.arts).map .known ∧
      (reexport (canon n) k).technical = (fingsOf n.technical).map .fingering := ⟨rfl, rfl⟩
  unfold notationKids articulationsEl technicalEl
  rw [e.1, e.2, articEls_fix, fingeringEls_fix, show (reexport (canon n) k).slurStops = n.slurStops from hsl.1,
    show (reexport (canon n) k).slurStarts = n.slurStarts from hsl.2,
    show (reexport (canon n) k).tupletStops = n.tupletStops from htu.1,
    show (reexport (canon n) k).tupletStarts.map tupletStartEl = n.tupletStarts.map tupletStartEl from htu.2]
  rfl

end C03.Fix
