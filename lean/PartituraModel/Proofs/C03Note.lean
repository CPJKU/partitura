/-
C03 — the note element codec: reading back what `writeNote` wrote, field by field; then its `<notations>`.
-/
import PartituraModel.Proofs.C03Text
import PartituraModel.Proofs.Lists

namespace C03.Note
open Model Model.XmlNote C03.Text

theorem tag_chordEl (n : NoteAttrs) : ∀ x ∈ chordEl n, x.tag = .chord := by
  unfold chordEl; split <;> simp [empty, Xml.tag]

theorem tag_graceEl (g : Option GraceType) : ∀ x ∈ graceEl g, x.tag = .grace := by
  unfold graceEl; split <;> simp [empty, Xml.tag]

theorem tag_bodyEls (b : Body) : ∀ x ∈ bodyEls b, x.tag ∈ [Tag.grace, .pitch, .unpitched, .notehead, .rest] := by
  cases b with
  | pitched step alter octave grace =>
    intro x hx
    simp only [bodyEls, List.mem_append, List.mem_singleton] at hx
    rcases hx with hx | hx
    · simp [tag_graceEl grace x hx]
    · subst hx; simp [Xml.tag]
  | unpitched step octave nh =>
    intro x hx
    simp only [bodyEls, List.mem_append, List.mem_singleton] at hx
    rcases hx with hx | hx
    · subst hx; simp [Xml.tag]
    · cases nh with
      | none => simp [noteheadEl] at hx
      | some p => obtain ⟨t, f⟩ := p; simp only [noteheadEl, List.mem_singleton] at hx; subst hx; simp [Xml.tag]
  | rest hidden =>
    intro x hx
    simp only [bodyEls] at hx
    split at hx
    · simp at hx
    · simp only [List.mem_singleton] at hx; subst hx; simp [empty, Xml.tag]

theorem tag_durEl (n : NoteAttrs) : ∀ x ∈ durEl n, x.tag = .duration := by
  unfold durEl; split <;> simp [leaf, Xml.tag]

theorem tag_tieEls (t : Tag) (n : NoteAttrs) : ∀ x ∈ tieEls t n, x.tag = t := by
  unfold tieEls
  intro x hx
  simp only [List.mem_append] at hx
  rcases hx with hx | hx <;> (split at hx <;> simp at hx; subst hx; rfl)

theorem tag_voiceEl (n : NoteAttrs) : ∀ x ∈ voiceEl n, x.tag = .voice := by
  unfold voiceEl; split
  · split <;> simp [leaf, Xml.tag]
  · simp

theorem tag_stemEl (n : NoteAttrs) : ∀ x ∈ stemEl n, x.tag = .stem := by
  unfold stemEl; split <;> simp [leaf, Xml.tag]

theorem tag_typeEl (n : NoteAttrs) : ∀ x ∈ typeEl n, x.tag = .type := by
  unfold typeEl; split <;> simp [leaf, Xml.tag]

theorem tag_dotEls (n : NoteAttrs) : ∀ x ∈ dotEls n, x.tag = .dot := by
  unfold dotEls; intro x hx; rw [List.eq_of_mem_replicate hx]; rfl

theorem tag_timeModEl (n : NoteAttrs) : ∀ x ∈ timeModEl n, x.tag = .timeModification := by
  unfold timeModEl; split <;> simp [Xml.tag]

theorem tag_staffEl (n : NoteAttrs) : ∀ x ∈ staffEl n, x.tag = .staff := by
  unfold staffEl; split
  · split <;> simp [leaf, Xml.tag]
  · simp

theorem tag_notationsEl (n : NoteAttrs) : ∀ x ∈ notationsEl n, x.tag = .notations := by
  unfold notationsEl; split <;> simp [Xml.tag]

/-- The children of a written note are a sequence of pieces with one tag each, and the body: `findall` picks its piece. -/
theorem findall_noteKids (t : Tag) (n : NoteAttrs) :
    findall t (noteKids n) = (if t = .chord then chordEl n else []) ++ findall t (bodyEls n.body) ++
      (if t = .duration then durEl n else []) ++ (if t = .tie then tieEls .tie n else []) ++
      (if t = .voice then voiceEl n else []) ++ (if t = .stem then stemEl n else []) ++
      (if t = .type then typeEl n else []) ++ (if t = .dot then dotEls n else []) ++
      (if t = .timeModification then timeModEl n else []) ++ (if t = .staff then staffEl n else []) ++
      (if t = .notations then notationsEl n else []) := by
  simp only [noteKids, findall_append, findall_tagged (tag_chordEl n), findall_tagged (tag_durEl n),
    findall_tagged (tag_tieEls .tie n), findall_tagged (tag_voiceEl n), findall_tagged (tag_stemEl n),
    findall_tagged (tag_typeEl n), findall_tagged (tag_dotEls n), findall_tagged (tag_timeModEl n),
    findall_tagged (tag_staffEl n), findall_tagged (tag_notationsEl n)]

theorem findall_bodyEls_nil {t : Tag} (b : Body) (h : t ∉ [Tag.grace, .pitch, .unpitched, .notehead, .rest]) :
    findall t (bodyEls b) = [] :=
  findall_none _ (tag_bodyEls b) h

theorem fa_duration (n : NoteAttrs) : findall .duration (noteKids n) = durEl n := by
  simp [findall_noteKids, findall_bodyEls_nil]

theorem fa_tie (n : NoteAttrs) : findall .tie (noteKids n) = tieEls .tie n := by
  simp [findall_noteKids, findall_bodyEls_nil]

theorem fa_voice (n : NoteAttrs) : findall .voice (noteKids n) = voiceEl n := by
  simp [findall_noteKids, findall_bodyEls_nil]

theorem fa_stem (n : NoteAttrs) : findall .stem (noteKids n) = stemEl n := by
  simp [findall_noteKids, findall_bodyEls_nil]

theorem fa_type (n : NoteAttrs) : findall .type (noteKids n) = typeEl n := by
  simp [findall_noteKids, findall_bodyEls_nil]

theorem fa_dot (n : NoteAttrs) : findall .dot (noteKids n) = dotEls n := by
  simp [findall_noteKids, findall_bodyEls_nil]

theorem fa_timeMod (n : NoteAttrs) : findall .timeModification (noteKids n) = timeModEl n := by
  simp [findall_noteKids, findall_bodyEls_nil]

theorem fa_staff (n : NoteAttrs) : findall .staff (noteKids n) = staffEl n := by
  simp [findall_noteKids, findall_bodyEls_nil]

theorem fa_notations (n : NoteAttrs) : findall .notations (noteKids n) = notationsEl n := by
  simp [findall_noteKids, findall_bodyEls_nil]

theorem fa_chord (n : NoteAttrs) : findall .chord (noteKids n) = chordEl n := by
  simp [findall_noteKids, findall_bodyEls_nil]

theorem fa_body (t : Tag) (n : NoteAttrs) (h : t ∈ [Tag.grace, .pitch, .unpitched, .notehead, .rest]) :
    findall t (noteKids n) = findall t (bodyEls n.body) := by
  rw [findall_noteKids]
  simp only [List.mem_cons, List.not_mem_nil, or_false] at h
  rcases h with rfl | rfl | rfl | rfl | rfl <;> simp

@[simp] theorem kids_writeNote (n : NoteAttrs) : (writeNote n).kids = noteKids n := rfl

theorem tagInt_duration (n : NoteAttrs) :
    tagInt (find .duration (noteKids n)) = some (if n.body.isGrace then none else some (n.dur : Int)) := by
  unfold find; rw [fa_duration]; unfold durEl
  split
  · rfl
  · exact tagInt_leaf_nat _ _

theorem tagInt_voice (n : NoteAttrs) : tagInt (find .voice (noteKids n)) = some (truthy n.voice) := by
  unfold find; rw [fa_voice]
  exact tagInt_head_optLeaf .voice n.voice

theorem tagInt_staff (n : NoteAttrs) :
    tagInt (find .staff (noteKids n)) =
      some (match n.staff with | some s => if s ≠ 1 ∨ n.nStaves > 1 then some s else none | none => none) := by
  unfold find; rw [fa_staff]; unfold staffEl
  cases n.staff with
  | none => rfl
  | some s =>
    dsimp only
    split
    · exact tagInt_leaf_int _ s
    · rfl

theorem read_duration (n : NoteAttrs) :
    readDuration (noteKids n) = some (if n.body.isGrace then 0 else (n.dur : Int)) := by
  rw [readDuration, tagInt_duration, Option.map_some, intOr_zero]
  split <;> rfl

theorem read_staff (n : NoteAttrs) : readStaff (noteKids n) = some (intOr n.staff 1) := by
  rw [readStaff, tagInt_staff, Option.map_some]
  cases n.staff with
  | none => rfl
  | some s =>
    dsimp only
    split
    · rfl
    · rename_i hc
      have : s = 1 := Classical.byContradiction fun h => hc (Or.inl h)
      subst this; rfl

theorem read_voice (n : NoteAttrs) : readVoice (noteKids n) = some (canonVoice n) := by
  rw [readVoice, tagInt_voice, Option.map_some, intOr_truthy, canonVoice]

theorem read_symType (n : NoteAttrs) (h : ∀ s ∈ n.symType, TextOK s) : readSymType (noteKids n) = n.symType := by
  unfold readSymType find
  rw [fa_type]
  exact strOrNone_tagStr_leaf .type n.symType h

theorem read_stem (n : NoteAttrs) (h : ∀ s ∈ n.stem, TextOK s) :
    strOrNone (tagStr (find .stem (noteKids n))) = n.stem := by
  unfold find
  rw [fa_stem]
  exact strOrNone_tagStr_leaf .stem n.stem h

theorem read_dots (n : NoteAttrs) : (findall .dot (noteKids n)).length = n.dots := by
  rw [fa_dot]; exact List.length_replicate

theorem read_chord (n : NoteAttrs) : (find .chord (noteKids n)).isSome = n.chord := by
  unfold find
  rw [fa_chord]
  unfold chordEl
  cases n.chord <;> rfl

theorem read_id (n : NoteAttrs) : strOrNone ((writeNote n).get .id) = strOrNone n.id := by
  unfold writeNote Xml.get Xml.attrs idAttrs
  cases n.id <;> rfl

theorem read_timeMod (n : NoteAttrs) :
    readActual (noteKids n) = some (canonActual n) ∧ readNormal (noteKids n) = some (canonNormal n) := by
  unfold readActual readNormal canonActual canonNormal findPath
  rw [fa_timeMod]
  unfold timeModEl
  cases n.actualNotes with
  | none => exact ⟨rfl, rfl⟩
  | some a =>
    cases n.normalNotes with
    | none => exact ⟨rfl, rfl⟩
    | some b =>
      have ha : tagInt (some (leaf .actualNotes (showIntC a))) = some (some a) := tagInt_leaf_int _ a
      have hb : tagInt (some (leaf .normalNotes (showIntC b))) = some (some b) := tagInt_leaf_int _ b
      exact ⟨congrArg (Option.map truthy) ha, congrArg (Option.map truthy) hb⟩

theorem read_ties (n : NoteAttrs) :
    ∃ ts, tieTypes (noteKids n) = some ts ∧ ts.contains ['s', 't', 'o', 'p'] = n.tiePrev ∧
      ts.contains ['s', 't', 'a', 'r', 't'] = n.tieNext := by
  unfold tieTypes
  rw [fa_tie]
  unfold tieEls
  cases n.tiePrev <;> cases n.tieNext <;> exact ⟨_, rfl, by decide⟩

theorem findall_singleton_same (x : Xml) : findall x.tag [x] = [x] := by simp [findall]

theorem findall_grace_bodyEls (b : Body) :
    findall .grace (bodyEls b) = match b with | .pitched _ _ _ g => graceEl g | _ => [] := by
  cases b with
  | pitched step alter octave grace =>
    simp only [bodyEls, findall_append, findall_all (tag_graceEl grace)]
    exact List.append_nil _
  | unpitched step octave nh => cases nh <;> rfl
  | rest hidden => cases hidden <;> rfl

theorem find_grace_isSome (n : NoteAttrs) : (find .grace (noteKids n)).isSome = n.body.isGrace := by
  unfold find
  rw [fa_body .grace n (by decide), findall_grace_bodyEls]
  cases n.body with
  | pitched step alter octave grace =>
    cases grace with
    | none => rfl
    | some g => cases g <;> rfl
  | unpitched step octave nh => rfl
  | rest hidden => rfl

theorem readGrace_graceEl (g : Option GraceType) :
    (graceEl g).head?.map readGrace = g.map fun g => if g = .acciaccatura then GraceType.acciaccatura else .grace := by
  cases g with
  | none => rfl
  | some g => cases g <;> rfl

theorem tag_alterEl (a : Option Int) : ∀ x ∈ alterEl a, x.tag = .alter := by
  cases a with
  | none => exact fun _ h => nomatch h
  | some a => unfold alterEl; split <;> simp [leaf, Xml.tag]

theorem tagInt_alterEl (a : Option Int) (r : List Xml) (h : ∀ x ∈ r, x.tag ≠ .alter) :
    tagInt (find .alter (alterEl a ++ r)) = some (truthy a) := by
  unfold find
  rw [findall_append, findall_of_ne h, List.append_nil, findall_all (tag_alterEl a)]
  exact tagInt_head_optLeaf .alter a

theorem find_body (t : Tag) (n : NoteAttrs) (h : t ∈ [Tag.grace, .pitch, .unpitched, .notehead, .rest]) :
    find t (noteKids n) = find t (bodyEls n.body) :=
  congrArg List.head? (fa_body t n h)

/-- The children `readBody` looks for are written by the body alone (`find_body`); then by the kind of body: a pitched one
    writes a `<pitch>`, an unpitched one an `<unpitched>` and no `<pitch>`, a rest neither, so `readBody` takes the branch of
    that kind, where the leaves read back one by one. -/
theorem read_body (n : NoteAttrs) (h : BodyOK n.body) : readBody (noteKids n) = some (canonBody n.body) := by
  unfold readBody
  rw [find_body .pitch n (by decide), find_body .unpitched n (by decide), find_body .grace n (by decide),
    find_body .notehead n (by decide)]
  cases hb : n.body with
  | pitched step alter octave grace =>
    rw [hb] at h
    have hp : find .pitch (bodyEls (.pitched step alter octave grace)) =
        some (.el .pitch [] [] ([leaf .step step] ++ alterEl alter ++ [leaf .octave (showIntC octave)])) := by
      simp only [find, bodyEls, findall_append, findall_tagged (tag_graceEl grace)]
      rfl
    have hg : find .grace (bodyEls (.pitched step alter octave grace)) = (graceEl grace).head? :=
      congrArg List.head? (findall_grace_bodyEls _)
    have ha : tagInt (find .alter ([leaf .step step] ++ alterEl alter ++ [leaf .octave (showIntC octave)])) =
        some (truthy alter) := by
      rw [List.append_assoc]
      exact tagInt_alterEl alter _ (by simp [leaf, Xml.tag])
    have ho : tagInt (find .octave ([leaf .step step] ++ alterEl alter ++ [leaf .octave (showIntC octave)])) =
        some (some octave) := by
      unfold find
      rw [findall_append, findall_append, findall_tagged_ne (tag_alterEl alter) (by decide)]
      exact tagInt_leaf_int _ octave
    rw [hp, hg]
    simp only [Xml.kids, ha, ho, readGrace_graceEl, Option.bind_eq_bind, Option.bind_some, Option.pure_def, canonBody]
    show some (BodyR.pitched (some (pyStr step)) _ _ _) = _
    rw [pyStr_ok h]
  | unpitched step octave nh =>
    rw [hb] at h
    have hstep : pyStr step = step := pyStr_ok h.1
    have ho : tagInt (some (leaf .displayOctave (showIntC octave))) = some (some octave) := tagInt_leaf_int _ _
    cases nh with
    | none =>
      show (tagInt (some (leaf .displayOctave (showIntC octave)))).bind _ = _
      rw [ho]
      show some (BodyR.unpitched (some (pyStr step)) _ _ _) = _
      rw [hstep]; rfl
    | some p =>
      obtain ⟨t, f⟩ := p
      have ht : pyStr t = t := pyStr_ok (h.2 (t, f) rfl)
      show (tagInt (some (leaf .displayOctave (showIntC octave)))).bind _ = _
      rw [ho]
      cases f <;>
      · show some (BodyR.unpitched (some (pyStr step)) _ (some (pyStr t)) _) = _
        rw [hstep, ht]; rfl
  | rest hidden =>
    cases hidden <;> rfl

/-! ## `<notations>`: fermata, articulations, fingering, slur and tuplet elements -/

theorem tag_fermataEl (n : NoteAttrs) : ∀ x ∈ (if n.fermata then [empty .fermata] else []), x.tag = .fermata := by
  split <;> simp [empty, Xml.tag]

theorem tag_articulationsEl (n : NoteAttrs) : ∀ x ∈ articulationsEl n, x.tag = .articulations := by
  unfold articulationsEl; split <;> simp [Xml.tag]

theorem tag_technicalEl (n : NoteAttrs) : ∀ x ∈ technicalEl n, x.tag = .technical := by
  unfold technicalEl; split <;> simp [Xml.tag]

theorem tag_rangeEls (t : Tag) (typ : Str) (l : List Nat) : ∀ x ∈ l.map (rangeEl t typ), x.tag = t := by
  intro x hx
  obtain ⟨k, _, rfl⟩ := List.mem_map.mp hx
  rfl

theorem tag_tupletStarts (l : List TupletStart) : ∀ x ∈ l.map tupletStartEl, x.tag = .tuplet := by
  intro x hx
  obtain ⟨k, _, rfl⟩ := List.mem_map.mp hx
  rfl

theorem findall_notationKids (t : Tag) (n : NoteAttrs) :
    findall t (notationKids n) = (if t = .tied then tieEls .tied n else []) ++
      (if t = .fermata then (if n.fermata then [empty .fermata] else []) else []) ++
      (if t = .articulations then articulationsEl n else []) ++ (if t = .technical then technicalEl n else []) ++
      (if t = .slur then n.slurStops.map (rangeEl .slur ['s', 't', 'o', 'p']) else []) ++
      (if t = .slur then n.slurStarts.map (rangeEl .slur ['s', 't', 'a', 'r', 't']) else []) ++
      (if t = .tuplet then n.tupletStops.map (rangeEl .tuplet ['s', 't', 'o', 'p']) else []) ++
      (if t = .tuplet then n.tupletStarts.map tupletStartEl else []) := by
  simp only [notationKids, findall_append, findall_tagged (tag_tieEls .tied n), findall_tagged (tag_fermataEl n),
    findall_tagged (tag_articulationsEl n), findall_tagged (tag_technicalEl n), findall_tagged (tag_rangeEls _ _ _),
    findall_tagged (tag_tupletStarts _)]

theorem fn_fermata (n : NoteAttrs) : findall .fermata (notationKids n) = if n.fermata then [empty .fermata] else [] := by
  simp [findall_notationKids]

theorem fn_articulations (n : NoteAttrs) : findall .articulations (notationKids n) = articulationsEl n := by
  simp [findall_notationKids]

theorem fn_technical (n : NoteAttrs) : findall .technical (notationKids n) = technicalEl n := by
  simp [findall_notationKids]

theorem fn_slur (n : NoteAttrs) : findall .slur (notationKids n) =
    n.slurStops.map (rangeEl .slur ['s', 't', 'o', 'p']) ++ n.slurStarts.map (rangeEl .slur ['s', 't', 'a', 'r', 't']) := by
  simp [findall_notationKids]

theorem fn_tuplet (n : NoteAttrs) : findall .tuplet (notationKids n) =
    n.tupletStops.map (rangeEl .tuplet ['s', 't', 'o', 'p']) ++ n.tupletStarts.map tupletStartEl := by
  simp [findall_notationKids]

theorem notationsOf_noteKids (n : NoteAttrs) : notationsOf (noteKids n) = notationKids n := by
  unfold notationsOf find
  rw [fa_notations]
  unfold notationsEl
  by_cases h : notationKids n = []
  · simp [h]
  · simp [h, Xml.kids]

theorem findPath_notations (t : Tag) (n : NoteAttrs) :
    findPath .notations t (noteKids n) = (findall t (notationKids n)).head? := by
  unfold findPath
  rw [fa_notations]
  unfold notationsEl
  by_cases h : notationKids n = []
  · simp [h, findall]
  · simp [h, Xml.kids]

theorem read_fermata (n : NoteAttrs) : (find .fermata (notationKids n)).isSome = n.fermata := by
  unfold find
  rw [fn_fermata]
  split <;> simp_all

def artsOf (arts : List ArtName) : List Artic :=
  arts.filterMap fun a => match a with
    | .known k => some k
    | .unknown => none

def fingsOf (ts : List Tech) : List Nat :=
  ts.filterMap fun t => match t with
    | .fingering f => some f
    | .otherNotation => none

def tagArtic (k : Xml) : Option Artic := match k.tag with | .artic x => some x | _ => none

/-- the written children are the image of the articulations the note denotes -/
theorem articEls_eq (arts : List ArtName) : articEls arts = (artsOf arts).map fun k => empty (.artic k) := by
  rw [articEls, artsOf, List.map_filterMap]
  congr 1; funext a; cases a <;> rfl

theorem articEls_read (arts : List ArtName) : (articEls arts).filterMap tagArtic = artsOf arts := by
  rw [articEls_eq, List.filterMap_map]
  exact List.filterMap_some

theorem read_arts (n : NoteAttrs) : readArts (noteKids n) = artsOf n.arts := by
  unfold readArts
  rw [findPath_notations, fn_articulations]
  unfold articulationsEl
  have hr := articEls_read n.arts
  by_cases h : articEls n.arts = []
  · rw [h] at hr
    simp only [h, if_true, List.head?_nil]
    simpa using hr
  · simp only [h, if_false, List.head?_cons, Xml.kids]
    exact hr

theorem fingeringEls_eq (ts : List Tech) :
    fingeringEls ts = (fingsOf ts).map fun f => leaf .fingering (natDigits f) := by
  rw [fingeringEls, fingsOf, List.map_filterMap]
  congr 1; funext a; cases a <;> rfl

theorem fingeringEls_tags (ts : List Tech) : ∀ x ∈ fingeringEls ts, x.tag = .fingering := by
  rw [fingeringEls_eq]; intro x hx; obtain ⟨f, _, rfl⟩ := List.mem_map.mp hx; rfl

theorem mapM_map_some {α β γ : Type} (f : β → Option γ) (g : α → β) (h : α → γ) (l : List α)
    (hf : ∀ a ∈ l, f (g a) = some (h a)) : (l.map g).mapM f = some (l.map h) := by
  rw [List.mapM_map]; exact Lists.mapM_eq_some_of_forall hf

theorem fingeringEls_read (ts : List Tech) :
    (fingeringEls ts).mapM (fun f => firstInt f.text) = some (fingsOf ts) := by
  rw [fingeringEls_eq, mapM_map_some (fun f : Xml => firstInt f.text) (fun f => leaf .fingering (natDigits f)) id _
    fun f _ => firstInt_natDigits f, List.map_id]

theorem read_fingering (n : NoteAttrs) : readFingering (noteKids n) = some (fingsOf n.technical) := by
  unfold readFingering
  rw [findPath_notations, fn_technical]
  unfold technicalEl
  have hr := fingeringEls_read n.technical
  by_cases h : fingeringEls n.technical = []
  · rw [h] at hr
    simp only [h, if_true, List.head?_nil]
    simpa using hr
  · simp only [h, if_false, List.head?_cons, Xml.kids]
    rw [findall_all (fingeringEls_tags n.technical)]
    exact hr

/-- the stop elements followed by the start elements, read back when the reader skips none of them -/
theorem mapM_stops_starts {α β γ δ : Type} (f : γ → Option (Option δ)) (g1 : α → γ) (g2 : β → γ) (h1 : α → δ)
    (h2 : β → δ) (l1 : List α) (l2 : List β) (H1 : ∀ a ∈ l1, f (g1 a) = some (some (h1 a)))
    (H2 : ∀ b ∈ l2, f (g2 b) = some (some (h2 b))) :
    ((l1.map g1 ++ l2.map g2).mapM f).bind (fun l => some (l.filterMap id)) = some (l1.map h1 ++ l2.map h2) := by
  rw [List.mapM_append, mapM_map_some f g1 (fun a => some (h1 a)) l1 H1, mapM_map_some f g2 (fun b => some (h2 b)) l2 H2]
  simp only [Option.bind_eq_bind, Option.bind_some, Option.pure_def, List.filterMap_append, List.filterMap_map]
  exact congrArg some (congrArg₂ _ (congrFun (List.filterMap_eq_map (f := h1)) l1) (congrFun (List.filterMap_eq_map (f := h2)) l2))

theorem rangeKind_rangeEl_stop (t : Tag) (k : Nat) : rangeKind (rangeEl t ['s', 't', 'o', 'p'] k) = some (some false) := by
  simp [rangeKind, rangeEl, Xml.get, Xml.attrs, Model.lookup]

theorem rangeKind_rangeEl_start (t : Tag) (k : Nat) :
    rangeKind (rangeEl t ['s', 't', 'a', 'r', 't'] k) = some (some true) := by
  simp [rangeKind, rangeEl, Xml.get, Xml.attrs, Model.lookup]

theorem attrInt_rangeEl (t : Tag) (typ : Str) (k : Nat) : attrInt (rangeEl t typ k) .number = some (k : Int) :=
  attrInt_number t k _ _ _

theorem read_slurs (n : NoteAttrs) :
    readSlurs (canonVoice n) (notationKids n) =
      some (n.slurStops.map (canonSlur n false) ++ n.slurStarts.map (canonSlur n true)) := by
  unfold readSlurs
  rw [fn_slur]
  exact mapM_stops_starts (readSlurEl (canonVoice n)) (rangeEl .slur ['s', 't', 'o', 'p'])
    (rangeEl .slur ['s', 't', 'a', 'r', 't']) (canonSlur n false) (canonSlur n true) _ _
    (fun k _ => by simp [readSlurEl, rangeKind_rangeEl_stop, attrInt_rangeEl, canonSlur, canonNumber])
    (fun k _ => by simp [readSlurEl, rangeKind_rangeEl_start, attrInt_rangeEl, canonSlur, canonNumber])

theorem info_types {t : TupletStart} {i : TupletInfo} (h : t.info = some i) :
    t.actualType = some i.actualType ∧ t.normalType = some i.normalType := by
  unfold TupletStart.info at h
  split at h
  · cases h; exact ⟨‹_›, ‹_›⟩
  · cases h

theorem readTupletInfo_full (attrs : List (Attr × Str)) (i : TupletInfo) (s : Option Str) (a b : Option Int) :
    readTupletInfo (.el .tuplet attrs [] (tupletInfoEls (some i))) s a b =
      some (some ⟨i.actualNotes, pyStr i.actualType, i.normalNotes, pyStr i.normalType⟩) := by
  show (tagInt (some (leaf .tupletNumber (showIntC i.actualNotes)))).bind _ = _
  rw [tagInt_leaf_int]
  show (tagInt (some (leaf .tupletNumber (showIntC i.normalNotes)))).bind _ = _
  rw [tagInt_leaf_int]
  rfl

theorem readTupletInfo_start (n : NoteAttrs) (t : TupletStart)
    (hw : (∀ s ∈ t.actualType, TextOK s) ∧ (∀ s ∈ t.normalType, TextOK s)) :
    readTupletInfo (tupletStartEl t) n.symType (canonActual n) (canonNormal n) = some (canonTupletInfo n t) := by
  unfold tupletStartEl canonTupletInfo
  cases hi : t.info with
  | none => rfl
  | some i =>
    obtain ⟨h1, h2⟩ := info_types hi
    rw [readTupletInfo_full, pyStr_ok (hw.1 _ h1), pyStr_ok (hw.2 _ h2)]

theorem read_tuplets (n : NoteAttrs)
    (hw : ∀ t ∈ n.tupletStarts, (∀ s ∈ t.actualType, TextOK s) ∧ (∀ s ∈ t.normalType, TextOK s)) :
    readTuplets (canonVoice n) n.symType (canonActual n) (canonNormal n) (notationKids n) =
      some (n.tupletStops.map (canonTupletStop n) ++ n.tupletStarts.map (canonTupletStart n)) := by
  unfold readTuplets
  rw [fn_tuplet]
  exact mapM_stops_starts (readTupletEl (canonVoice n) n.symType (canonActual n) (canonNormal n))
    (rangeEl .tuplet ['s', 't', 'o', 'p']) tupletStartEl (canonTupletStop n) (canonTupletStart n) _ _
    (fun k _ => by simp [readTupletEl, rangeKind_rangeEl_stop, attrInt_rangeEl, canonTupletStop, canonNumber])
    (fun t ht => by
      have hk : rangeKind (tupletStartEl t) = some (some true) := by
        simp [rangeKind, tupletStartEl, Xml.get, Xml.attrs, Model.lookup]
      have hn : attrInt (tupletStartEl t) .number = some (t.number : Int) := attrInt_number _ _ _ _ _
      simp [readTupletEl, hk, hn, readTupletInfo_start n t (hw t ht), canonTupletStart, canonNumber])

end C03.Note
