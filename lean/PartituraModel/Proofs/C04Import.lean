/-
C04 — the importer, for any file: what `loadScoreMidi` returns (`load_inv`), what the reader collects from the tracks of
a written file, ticks to musical time; and the notes with the (part, voice) cell that `assign_group_part_voice` gives to
the (track, channel) they were read from (`import_cells`), the shapes of the cells, when the import returns.
-/
import Mathlib.Tactic.FieldSimp
import Mathlib.Tactic.Ring
import PartituraModel.Model.ScoreMidiSpec
import PartituraModel.Proofs.C04Sort
import PartituraModel.Proofs.C04Modes
import PartituraModel.Proofs.C04SortedSet
import PartituraModel.Proofs.Forall2

namespace C04I
open Model Model.Ticks Model.MidiPair Model.MidiModes Model.ScoreMidi

theorem map_snd_zip {α β γ : Type} (f : β → γ) {l : List α} {r : List β} (h : r.length ≤ l.length) :
    (l.zip r).map (fun c => f c.2) = r.map f :=
  (List.map_map (g := f) (f := Prod.snd) (l := l.zip r)).symm.trans (congrArg (List.map f) (List.map_snd_zip h))

/-- what `create_part` receives of a note, without the voice -/
def strip (n : Int × Nat × Int × Int) : Int × Nat × Int := (n.1, n.2.1, n.2.2.1)

def noteRow (n : NoteRec) : Int × Nat × Int := (n.on, n.pitch, n.off - n.on)

theorem load_inv (mode ticks : Nat) (tracks : List (List (Int × Msg))) (imp : Imported)
    (h : loadScoreMidi mode ticks tracks = some imp) :
    let byTrCh := notesByTrCh ((readTracks tracks).filter fun e => !e.2.1.isEmpty)
    let trch := sortedTC (byTrCh.map (·.1))
    let gpv := assignGroupPartVoice mode trch
    List.Forall₂ (fun q e => ∃ pid, q = some pid ∧ e.1 = pid ∧
        importPart ticks byTrCh trch gpv (sigTables (readTracks tracks)) (some pid) = some e)
      (firstSeen (gpv.map (·.2.1))) imp.parts ∧
    imp.tempos = (readTracks tracks).flatMap (fun e => e.2.2.2.2) := by
  unfold loadScoreMidi at h
  intro byTrCh trch gpv
  dsimp only at h
  split at h
  · exact absurd h (by simp)
  · simp only [Option.map_eq_some_iff] at h
    obtain ⟨parts, hp, rfl⟩ := h
    refine ⟨(Lists.mapM_forall₂ hp).imp fun q e hq => ?_, rfl⟩
    cases q with
    | none => cases hq
    | some pid => exact ⟨pid, rfl, by cases hq; rfl, hq⟩

/-- the quarter duration `create_part` sets is the file's ticks per quarter -/
theorem import_divs (mode ticks : Nat) (tracks : List (List (Int × Msg))) (imp : Imported)
    (h : loadScoreMidi mode ticks tracks = some imp) : ∀ e ∈ imp.parts, e.2.divs = ticks := by
  intro e he
  obtain ⟨_, _, pid, _, _, hq⟩ := Lists.forall₂_mem_right (load_inv mode ticks tracks imp h).1 e he
  rw [← Option.some.inj hq]

theorem readTracks_deltas (trs : List (List (Int × Msg))) :
    readTracks (trs.map (deltasFrom 0)) =
      (trs.zipIdx).map fun x => ((x.2, pairTrack (deltasFrom 0 x.1), timeSigsOf x.1, keySigsOf x.1, temposOf x.1) : TrackRead) := by
  unfold readTracks
  rw [List.zipIdx_map, List.map_map]
  exact List.map_congr_left fun x _ => by simp only [Function.comp, Prod.map, id, pairTrack, C04S.absolute_deltas]

theorem mem_readTracks (trs : List (List (Int × Msg))) (rd : TrackRead) :
    rd ∈ readTracks (trs.map (deltasFrom 0)) ↔ ∃ (hi : rd.1 < trs.length),
      rd = (rd.1, pairTrack (deltasFrom 0 trs[rd.1]), timeSigsOf trs[rd.1], keySigsOf trs[rd.1], temposOf trs[rd.1]) := by
  rw [readTracks_deltas, List.mem_map]
  constructor
  · rintro ⟨⟨T, i⟩, hx, rfl⟩
    have hT : trs[i]? = some T := List.mem_zipIdx_iff_getElem?.mp hx
    obtain ⟨hi, rfl⟩ := List.getElem?_eq_some_iff.mp hT
    exact ⟨hi, rfl⟩
  · rintro ⟨hi, hrd⟩
    exact ⟨(trs[rd.1], rd.1), List.mem_zipIdx_iff_getElem?.mpr (List.getElem?_eq_getElem hi), hrd.symm⟩

theorem readTracks_tempos (trs : List (List (Int × Msg))) :
    (readTracks (trs.map (deltasFrom 0))).flatMap (fun e => e.2.2.2.2) = trs.flatMap temposOf := by
  rw [readTracks_deltas, List.flatMap_map]
  exact C04G.flatMap_zipIdx temposOf trs 0

/-- ticks to musical time: divide by the quarter duration of the created part, add the origin -/
def toMusical (P : Nat) (o : Rat) (r : Int × Nat × Int) : Rat × Rat × Nat :=
  ((r.1 : Rat) / (P : Rat) + o, (r.2.2 : Rat) / (P : Rat), r.2.1)

theorem importedRows_eq (o : Rat) (imp : Imported) (P : Nat) (hd : ∀ e ∈ imp.parts, e.2.divs = P) :
    importedRows o imp = (imp.parts.flatMap fun e => e.2.notes.map strip).map (toMusical P o) := by
  unfold importedRows
  rw [List.map_flatMap]
  apply List.flatMap_congr
  intro e he
  rw [List.map_map]
  apply List.map_congr_left
  intro n _
  simp only [Function.comp, toMusical, strip, placeNote, hd e he]
  congr 2
  push_cast
  ring

theorem writtenRows_musical (P : Nat) (o : Rat) (parts : List PartIn) (hP : 0 < P)
    (hex : ∀ x ∈ parts, ∀ t, ((tick P x.base o t : Int) : Rat) = (P : Rat) * (quarter x.base t - o)) :
    (writtenRows P o parts).map (toMusical P o) = scoreRows parts := by
  unfold writtenRows scoreRows
  rw [List.map_flatMap]
  apply List.flatMap_congr
  intro x hx
  rw [List.map_map]
  apply List.map_congr_left
  intro n _
  have hP' : (P : Rat) ≠ 0 := by exact_mod_cast (Nat.pos_iff_ne_zero.mp hP)
  simp only [Function.comp, toMusical]
  rw [Int.cast_sub, hex x hx, hex x hx]
  refine Prod.ext ?_ (Prod.ext ?_ rfl)
  · simp only
    field_simp
    ring
  · simp only
    field_simp
    ring

end C04I

namespace C04C
open Model Model.Ticks Model.MidiPair Model.MidiModes Model.ScoreMidi
open C04I (noteRow)

theorem lookup_zip_nodup {α β : Type} [DecidableEq α] (keys : List α) (vs : List β) (hn : keys.Nodup)
    (hl : keys.length ≤ vs.length) (k : α) (v : β) (h : (k, v) ∈ keys.zip vs) : lookup k (keys.zip vs) = some v :=
  Model.lookup_of_mem (by rw [List.map_fst_zip hl]; exact hn) h

theorem notesByTrCh_flatMap {β : Type} (F : Nat × Nat → NoteRec → β) (pt : List TrackRead) :
    ((notesByTrCh (pt.filter fun e => !e.2.1.isEmpty)).flatMap fun x => x.2.map (F x.1)).Perm
      (pt.flatMap fun e => e.2.1.map fun n => F (e.1, n.ch) n) := by
  unfold notesByTrCh
  rw [List.flatMap_assoc, Lists.flatMap_filter_of_nil _ _ _ fun e _ he => by rw [show e.2.1 = [] by simpa using he]; rfl]
  refine List.Perm.flatMap_left _ fun e _ => ?_
  -- channel after channel: the notes of the track
  rw [List.flatMap_map, C04G.channelsOf_eq]
  have hch : ∀ ch, ((e.2.1.filter fun n => n.ch = ch).map (F (e.1, ch))) =
      (e.2.1.filter fun n => n.ch = ch).flatMap fun n => [F (e.1, n.ch) n] := fun ch => by
    rw [List.map_eq_flatMap]
    exact List.flatMap_congr fun n hn => by rw [show n.ch = ch by simpa using (List.mem_filter.mp hn).2]
  simp only [hch]
  exact (C04G.firstSeen_flatMap_perm (fun n : NoteRec => n.ch) e.2.1 _).trans (List.Perm.of_eq List.map_eq_flatMap.symm)

theorem import_cells_byTrCh (mode ticks : Nat) (tracks : List (List (Int × Msg))) (imp : Imported)
    (h : loadScoreMidi mode ticks tracks = some imp) :
    let byTrCh := notesByTrCh ((readTracks tracks).filter fun e => !e.2.1.isEmpty)
    let trch := sortedTC (byTrCh.map (·.1))
    let Z := trch.zip (assignGroupPartVoice mode trch)
    (imp.parts.flatMap fun e => e.2.notes.map fun n => (C04I.strip n, ((some e.1 : Option Nat), n.2.2.2))).Perm
      (byTrCh.flatMap fun x => x.2.map fun n => (noteRow n, tagOf (lookup x.1 Z))) := by
  intro byTrCh trch Z
  obtain ⟨hf, _⟩ := C04I.load_inv mode ticks tracks imp h
  have hlen : trch.length = (assignGroupPartVoice mode trch).length := (C04M.assign_length mode trch).symm
  have hnd : trch.Nodup := C04IS.sortedTC_nodup _
  -- part after part: the cells of the part, each with the entries under its (track, channel)
  let H : (Nat × Nat) × Cell → List ((Int × Nat × Int) × (Option Nat × Int)) := fun c =>
    (byTrCh.filter (fun x => x.1 = c.1)).flatMap fun x => x.2.map fun n => (noteRow n, tagOf (some c.2))
  have e1 : (imp.parts.flatMap fun e => e.2.notes.map fun n => (C04I.strip n, ((some e.1 : Option Nat), n.2.2.2))) =
      (firstSeen (Z.map (·.2.2.1))).flatMap fun q => (Z.filter (fun c => c.2.2.1 = q)).flatMap H := by
    rw [C04I.map_snd_zip (l := trch) (r := assignGroupPartVoice mode trch) (fun c => c.2.1) hlen.ge]
    symm
    apply Lists.forall₂_flatMap_eq hf
    rintro _ e ⟨pid, rfl, _, hqe⟩
    simp only [importPart, Option.some.injEq] at hqe
    subst hqe
    simp only [cellNotes, cellsOf, List.map_flatMap, List.map_map]
    refine List.flatMap_congr fun c hc => List.flatMap_congr fun x _ => List.map_congr_left fun n _ => ?_
    have hcp : c.2.2.1 = some pid := by simpa using (List.mem_filter.mp hc).2
    simp only [Function.comp, C04I.strip, noteRow, tagOf, voiceInt, hcp]
    cases c.2.2.2 <;> rfl
  rw [e1]
  refine (C04G.firstSeen_flatMap_perm (fun c : (Nat × Nat) × Cell => c.2.2.1) Z H).trans ?_
  -- cell after cell: a cell is found again by the lookup of its (track, channel)
  have e2 : Z.flatMap H = trch.flatMap fun k =>
      (byTrCh.filter (fun x => x.1 = k)).flatMap fun x => x.2.map fun n => (noteRow n, tagOf (lookup x.1 Z)) := by
    conv_rhs => rw [← List.map_fst_zip (l₁ := trch) hlen.le, List.flatMap_map]
    refine List.flatMap_congr fun c hc => List.flatMap_congr fun x hx => ?_
    rw [show x.1 = c.1 by simpa using (List.mem_filter.mp hx).2, lookup_zip_nodup trch _ hnd (Nat.le_of_eq hlen) c.1 c.2 hc]
  rw [e2]
  exact C04G.group_flatMap_perm (fun x : (Nat × Nat) × List NoteRec => x.1) trch hnd byTrCh
    (fun x hx => (C04IS.mem_sortedTC _ _).mpr (List.mem_map.mpr ⟨x, hx, rfl⟩)) _

theorem import_cells (mode ticks : Nat) (tracks : List (List (Int × Msg))) (imp : Imported)
    (h : loadScoreMidi mode ticks tracks = some imp) :
    let byTrCh := notesByTrCh ((readTracks tracks).filter fun e => !e.2.1.isEmpty)
    let trch := sortedTC (byTrCh.map (·.1))
    let Z := trch.zip (assignGroupPartVoice mode trch)
    (imp.parts.flatMap fun e => e.2.notes.map fun n => (C04I.strip n, ((some e.1 : Option Nat), n.2.2.2))).Perm
      ((tracks.zipIdx).flatMap fun ti => (pairTrack ti.1).map fun n => (noteRow n, tagOf (lookup (ti.2, n.ch) Z))) := by
  intro byTrCh trch Z
  refine (import_cells_byTrCh mode ticks tracks imp h).trans
    ((notesByTrCh_flatMap (fun k n => (noteRow n, tagOf (lookup k Z))) (readTracks tracks)).trans (List.Perm.of_eq ?_))
  unfold readTracks
  rw [List.flatMap_map]
  rfl

theorem mem_byTrCh (tracks : List (List (Int × Msg))) (i ch : Nat) :
    (i, ch) ∈ (notesByTrCh ((readTracks tracks).filter fun e => !e.2.1.isEmpty)).map (·.1) ↔
      ∃ tr, tracks[i]? = some tr ∧ ∃ n ∈ pairTrack tr, n.ch = ch := by
  simp only [notesByTrCh, readTracks, List.mem_map, List.mem_flatMap, List.mem_filter, C04G.channelsOf_eq,
    C04G.mem_firstSeen]
  constructor
  · rintro ⟨x, ⟨e, ⟨⟨ti, hti, rfl⟩, _⟩, c, ⟨n, hn, rfl⟩, rfl⟩, hx⟩
    obtain ⟨tr, j⟩ := ti
    simp only [Prod.mk.injEq] at hx
    obtain ⟨rfl, rfl⟩ := hx
    exact ⟨tr, List.mem_zipIdx_iff_getElem?.mp hti, n, hn, rfl⟩
  · rintro ⟨tr, htr, n, hn, rfl⟩
    refine ⟨((i, n.ch), (pairTrack tr).filter (fun m => m.ch = n.ch)), ⟨_, ⟨⟨(tr, i), List.mem_zipIdx_iff_getElem?.mpr htr, rfl⟩, ?_⟩, n.ch, ⟨n, hn, rfl⟩, rfl⟩, rfl⟩
    simp only [Bool.not_eq_eq_eq_not, Bool.not_true, List.isEmpty_eq_false_iff]
    exact List.ne_nil_of_mem hn

theorem mem_zipWith_exists {α β γ : Type} (f : α → β → γ) {l₁ : List α} {l₂ : List β} {c : γ}
    (h : c ∈ List.zipWith f l₁ l₂) : ∃ a b, c = f a b := by
  rw [← List.map_uncurry_zip_eq_zipWith] at h
  obtain ⟨ab, _, rfl⟩ := List.mem_map.mp h
  exact ⟨ab.1, ab.2, rfl⟩

/-- the shapes of the cells `assign_group_part_voice` hands out: a part and a positive voice (modes 0, 2), a group
    and a part (mode 1), a part alone (modes 3, 4, 5), nothing for any other mode -/
theorem assign_cell_cases (mode : Nat) (trch : List (Nat × Nat)) :
    ∀ c ∈ assignGroupPartVoice mode trch,
      (∃ p v, c = (none, some p, some (v + 1))) ∨ (∃ g p, c = (some g, some p, none)) ∨
      (∃ p, c = (none, some p, none)) ∨ (5 < mode ∧ c = (none, none, none)) := by
  intro c hc
  match mode with
  | 0 => obtain ⟨p, v, rfl⟩ := mem_zipWith_exists _ hc; exact Or.inl ⟨p, v, rfl⟩
  | 1 => obtain ⟨g, p, rfl⟩ := mem_zipWith_exists _ hc; exact Or.inr (Or.inl ⟨g, p, rfl⟩)
  | 2 => obtain ⟨v, _, rfl⟩ := List.mem_map.mp hc; exact Or.inl ⟨0, v, rfl⟩
  | 3 => obtain ⟨p, _, rfl⟩ := List.mem_map.mp hc; exact Or.inr (Or.inr (Or.inl ⟨p, rfl⟩))
  | 4 => obtain ⟨_, _, rfl⟩ := List.mem_map.mp hc; exact Or.inr (Or.inr (Or.inl ⟨0, rfl⟩))
  | 5 => obtain ⟨p, _, rfl⟩ := List.mem_map.mp hc; exact Or.inr (Or.inr (Or.inl ⟨p, rfl⟩))
  | n + 6 => obtain ⟨_, _, rfl⟩ := List.mem_map.mp hc; exact Or.inr (Or.inr (Or.inr ⟨by omega, rfl⟩))

theorem assign_voice_shape (mode : Nat) (trch : List (Nat × Nat)) :
    ∀ c ∈ assignGroupPartVoice mode trch, c.2.2 = none ∨ ∃ v, c.2.2 = some (v + 1) := by
  intro c hc
  rcases assign_cell_cases mode trch c hc with ⟨p, v, rfl⟩ | ⟨g, p, rfl⟩ | ⟨p, rfl⟩ | ⟨_, rfl⟩
  exacts [Or.inr ⟨v, rfl⟩, Or.inl rfl, Or.inl rfl, Or.inl rfl]

theorem voiceInt_inj (x y : Option Nat) (hx : x = none ∨ ∃ v, x = some (v + 1)) (hy : y = none ∨ ∃ v, y = some (v + 1))
    (h : voiceInt x = voiceInt y) : x = y := by
  rcases hx with rfl | ⟨v, rfl⟩ <;> rcases hy with rfl | ⟨w, rfl⟩
  · rfl
  · simp only [voiceInt] at h; omega
  · simp only [voiceInt] at h; omega
  · simp only [voiceInt] at h
    have : v = w := by omega
    rw [this]

theorem tagOf_eq_iff (mode : Nat) (trch : List (Nat × Nat)) {c₁ c₂ : Cell} (h₁ : c₁ ∈ assignGroupPartVoice mode trch)
    (h₂ : c₂ ∈ assignGroupPartVoice mode trch) :
    tagOf (some c₁) = tagOf (some c₂) ↔ (c₁.2.1 = c₂.2.1 ∧ c₁.2.2 = c₂.2.2) := by
  simp only [tagOf, Prod.mk.injEq]
  exact and_congr_right fun _ => ⟨voiceInt_inj _ _ (assign_voice_shape mode trch c₁ h₁) (assign_voice_shape mode trch c₂ h₂),
    fun h => by rw [h]⟩

theorem assign_part_some (mode : Nat) (hm : mode ≤ 5) (trch : List (Nat × Nat)) :
    ∀ c ∈ assignGroupPartVoice mode trch, ∃ p, c.2.1 = some p := by
  intro c hc
  rcases assign_cell_cases mode trch c hc with ⟨p, v, rfl⟩ | ⟨g, p, rfl⟩ | ⟨p, rfl⟩ | ⟨h5, _⟩
  exacts [⟨p, rfl⟩, ⟨p, rfl⟩, ⟨p, rfl⟩, absurd hm (by omega)]

theorem import_total (mode : Nat) (hm : mode ≤ 5) (ticks : Nat) (tracks : List (List (Int × Msg)))
    (hne : ∃ (i : Nat) (tr : List (Int × Msg)), tracks[i]? = some tr ∧ pairTrack tr ≠ []) :
    ∃ imp, loadScoreMidi mode ticks tracks = some imp := by
  unfold loadScoreMidi
  dsimp only
  obtain ⟨i, tr, htr, hp⟩ := hne
  obtain ⟨n, hn⟩ := List.exists_mem_of_ne_nil _ hp
  have hmem := (mem_byTrCh tracks i n.ch).mpr ⟨tr, htr, n, hn, rfl⟩
  have hne' : (notesByTrCh ((readTracks tracks).filter fun e => !e.2.1.isEmpty)).isEmpty = false := by
    rw [List.isEmpty_eq_false_iff]
    intro h0
    rw [h0] at hmem
    simp at hmem
  rw [if_neg (by simp [hne'])]
  refine Option.isSome_iff_exists.mp ?_
  rw [Option.isSome_map]
  refine Lists.mapM_isSome fun q hq => ?_
  rw [C04G.mem_firstSeen] at hq
  obtain ⟨c, hc, rfl⟩ := List.mem_map.mp hq
  obtain ⟨p, hp'⟩ := assign_part_some mode hm _ c hc
  rw [hp']
  rfl

end C04C
