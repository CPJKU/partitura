/-
The content of a written `layer` read back by the `Mei` state machine: notes, rests, chords, tuplets.
Each theorem has the form `Written w st Q`: the writer succeeds on an exportable input and its events run, from a state
inside the layer, to a state in which the written notes have been read.
-/
import PartituraModel.Proofs.C19MeiEvents
import PartituraModel.Proofs.C19MeiWriter

namespace C19M
open Model Model.Mei Model.MeiWrite

theorem alterToMei_read : ∀ e ∈ alterToMei, accidValue e.2 = some e.1 := by decide

theorem step_read : ∀ e ∈ KernWrite.stepLetters, upperStep (lowerStep e.1) = e.1 := by decide +kernel

/-- the state machine stands inside a layer (possibly inside one tuplet), outside any chord -/
structure Ctx (st : Mei.St) (tup : Option (Nat × Nat)) : Prop where
  inl : inLayer st.stack = true
  par : parentTag st ≠ "chord"
  tups : tupletsOf st.stack = tupList tup
  ch : st.chord = none
  num : ∀ a b, tup = some (a, b) → a ≠ 0

def rfact (r : RNote) : KernWrite.Fact := ⟨r.onset, r.dur, r.kind, r.step, r.alter, r.octave, r.staff⟩

/-- quarters a written event lasts: nothing for a grace note -/
def qOf (divs : Nat) (m : MNote) : Rat := if m.n.kind = 1 then 0 else (m.n.dur : Rat) / (divs : Rat)

/-- what the children of a written `note` do: nothing, or an `accid` child sets the alteration -/
def ChildrenOk (st : Mei.St) (A : List (String × String)) (children : List Ev) (alt : Int) : Prop :=
  ∀ (st2 : Mei.St) (n : RNote) (ns : List RNote),
    st2.stack = { tag := "note", attrs := A } :: st.stack → inLayer st2.stack = true → st2.notes = n :: ns →
    n.alter = (noteAlter A).getD 0 → runEvs st2 children = some { st2 with notes := { n with alter := alt } :: ns }

theorem ChildrenOk.nil (st : Mei.St) (A : List (String × String)) : ChildrenOk st A [] ((noteAlter A).getD 0) := by
  intro st2 n ns _ _ hn ha
  rw [← ha]
  show some st2 = some { st2 with notes := n :: ns }
  rw [← hn]

/-- the three ways a pitched note is written: no alteration, `@accid.ges` (the key signature says it), `accid` child -/
theorem noteEl_shape (ks : List String) (m : MNote) (sd : KernWrite.SymDur) (d' : String)
    (hsym : m.n.sym = some sd) (hd : meiDurOf sd.type = some d') (k2 : m.n.kind ≠ 2)
    (halt : ∀ a, m.n.alter = some a → ∃ acc, lookup a alterToMei = some acc) (st : Mei.St) :
    ∃ ges children, noteEl ks m = some (el "note" (noteAttrs m d' sd ges) children, d') ∧
      ChildrenOk st (noteAttrs m d' sd ges) children (m.n.alter.getD 0) := by
  have hread : ∀ ges, noteAlter (noteAttrs m d' sd ges) = ges.bind accidValue := by
    intro ges
    obtain ⟨_, _, _, _, _, _, a7, a8, _⟩ := noteAttrs_read m d' sd ges
    simp only [noteAlter, a7, a8]
  simp only [noteEl, hsym, hd, k2, if_false]
  cases hal : m.n.alter with
  | none => exact ⟨none, [], rfl, by simpa [hread] using ChildrenOk.nil st (noteAttrs m d' sd none)⟩
  | some a =>
    obtain ⟨acc, hacc⟩ := halt a hal
    have hacc' : accidValue acc = some a := alterToMei_read (a, acc) (Model.lookup_mem hacc)
    simp only [hacc]
    by_cases hk : ks.contains (lowerStep m.n.step ++ acc) = true
    · exact ⟨some acc, [], by rw [if_pos hk], by simpa [hread, hacc'] using ChildrenOk.nil st (noteAttrs m d' sd (some acc))⟩
    · refine ⟨none, el "accid" [("accid", acc)] [], by rw [if_neg hk], ?_⟩
      intro st2 n ns hst2 hin2 hn _
      obtain ⟨_, _, _, _, _, _, a7, a8, _⟩ := noteAttrs_read m d' sd none
      have hna : noteAlter [("accid", acc)] = some a := by simp [noteAlter, attr, lookup, hacc']
      exact runEvs_el (openEv_accid st2 _ _ _ n ns a (pre_noDur st2 "accid" _ rfl rfl (by decide)) hin2 hst2 a7 a8 hn hna) rfl
        (closeEv_plain _ "accid" _ st2.stack rfl (by decide))

theorem single_spec (divs : Nat) (tup : Option (Nat × Nat)) (ks : List String) (m : MNote)
    (hok : noteOkM divs tup m = true) (st : Mei.St) (hc : Ctx st tup) :
    Written ((noteEl ks m).map (·.1)) st fun st' => ∃ de r,
      st' = { st with notes := r :: st.notes, cursor := st.cursor + qOf divs m, durEls := de } ∧ r.part = st.staffIdx ∧
      (m.n.kind ≠ 2 → rfact r = ⟨st.cursor, qOf divs m, m.n.kind, m.n.step, m.n.alter.getD 0, m.n.octave, m.n.staff⟩) := by
  obtain ⟨hk, sd, d', v, q0, hsym, hd, hv, hq0, hqv, hpitch⟩ := noteOkM_unpack divs tup m hok
  by_cases k2 : m.n.kind = 2
  · obtain ⟨r1, r2, r3, r4, r6⟩ := restAttrs_read m d' sd
    have hdo := hq0 ▸ durOfAttrs_spec st (restAttrs m d' sd) d' sd tup v r1 r2 hc.tups hc.num hv
    obtain ⟨de, hpre⟩ := pre_dur st "rest" (restAttrs m d' sd) d' v tup r1 hv hc.tups r4 (by decide)
    have k1 : m.n.kind ≠ 1 := by omega
    have hq : q0 = qOf divs m := by rw [hqv k1]; simp [qOf, k1]
    refine ⟨el "rest" (restAttrs m d' sd) [], _, by simp only [noteEl, hsym, hd, k2, if_true, Option.map_some],
      runEvs_el (openEv_rest st _ _ q0 hpre hc.inl hdo) rfl (closeEv_plain _ "rest" _ st.stack rfl (by decide)),
      de, ⟨st.staffIdx, m.id, st.cursor, q0, 2, "", 0, 0, st.voice, st.staffN⟩, ?_, rfl, fun h => absurd k2 h⟩
    simp [hq, r3, r6, push]
  · obtain ⟨⟨ul, hstep⟩, hoct, halt⟩ := hpitch k2
    obtain ⟨ges, children, hev, hch⟩ := noteEl_shape ks m sd d' hsym hd k2 halt st
    have hstepr : upperStep (lowerStep m.n.step) = m.n.step :=
      step_read (m.n.step, ul) (Model.lookup_mem hstep)
    have hkind : (if decide (m.n.kind = 1) = true then (1 : Nat) else 0) = m.n.kind := by
      by_cases k1 : m.n.kind = 1
      · simp [k1]
      · have : m.n.kind = 0 := by omega
        simp [this]
    obtain ⟨a1, a2, a3, a4, a5, a6, a7, a8, a9, a11⟩ := noteAttrs_read m d' sd ges
    have hdo := hq0 ▸ durOfAttrs_spec st (noteAttrs m d' sd ges) d' sd tup v a1 a2 hc.tups hc.num hv
    obtain ⟨de, hpre⟩ := pre_dur st "note" (noteAttrs m d' sd ges) d' v tup a1 hv hc.tups a9 (by decide)
    have hdo' : durOfAttrs { st with durEls := de } (noteAttrs m d' sd ges) = some q0 := hdo
    have hoctr : (attr (noteAttrs m d' sd ges) "oct").bind natOfString = some m.n.octave.toNat := by
      rw [a4]; exact natOfString_intStr _ hoct
    have hq : (if (attr (noteAttrs m d' sd ges) "grace").isSome then some (0 : Rat)
        else durOfAttrs { st with durEls := de } (noteAttrs m d' sd ges)) = some (qOf divs m) := by
      rw [a6, hdo']
      by_cases k1 : m.n.kind = 1
      · simp [k1, qOf]
      · simp [k1, qOf, hqv k1]
    let n0 : RNote := ⟨st.staffIdx, m.id, st.cursor, qOf divs m, m.n.kind, m.n.step,
      (noteAlter (noteAttrs m d' sd ges)).getD 0, m.n.octave.toNat, st.voice, m.n.staff⟩
    let stO : Mei.St := { st with durEls := de, notes := n0 :: st.notes, cursor := st.cursor + qOf divs m,
                                   stack := { tag := "note", attrs := noteAttrs m d' sd ges } :: st.stack }
    have hopen : openEv st "note" (noteAttrs m d' sd ges) = some stO := by
      rw [openEv_note st (noteAttrs m d' sd ges) _ _ _ _ hpre hc.inl hc.par hq a3 hoctr]
      simp only [a5, a6, a11, hstepr, hkind, Option.getD_some]
      rfl
    refine ⟨_, _, by rw [hev]; rfl,
      runEvs_el hopen (hch stO n0 st.notes rfl (inLayer_push _ _ hc.inl) rfl rfl) (closeEv_plain _ "note" _ st.stack rfl (by decide)),
      de, { n0 with alter := m.n.alter.getD 0 }, rfl, rfl, fun _ => ?_⟩
    simp [rfact, n0, Int.toNat_of_nonneg hoct]

/-- the notes `new` that the state machine has read all lie in parts that `P` admits, and every note and grace note
    of `ms` is among them -/
def Reads (divs : Nat) (P : Nat → Prop) (new : List RNote) (ms : List MNote) : Prop :=
  (∀ r ∈ new, P r.part) ∧ ∀ m ∈ ms, m.n.kind ≠ 2 → ∃ r ∈ new, rfact r = factOf divs m

theorem Reads.nil (divs : Nat) (P : Nat → Prop) : Reads divs P [] [] := ⟨by simp, by simp⟩

theorem Reads.single {divs : Nat} {P : Nat → Prop} {r : RNote} {m : MNote} (hp : P r.part)
    (hf : m.n.kind ≠ 2 → rfact r = factOf divs m) : Reads divs P [r] [m] :=
  ⟨by simpa using hp, by simpa using hf⟩

theorem Reads.append {divs : Nat} {P : Nat → Prop} {n1 n2 : List RNote} {m1 m2 : List MNote}
    (h1 : Reads divs P n1 m1) (h2 : Reads divs P n2 m2) : Reads divs P (n2 ++ n1) (m1 ++ m2) := by
  refine ⟨fun r hr => (List.mem_append.mp hr).elim (h2.1 r) (h1.1 r), fun m hm hk => ?_⟩
  rcases List.mem_append.mp hm with h | h
  · obtain ⟨r, hr, hf⟩ := h1.2 m h hk
    exact ⟨r, List.mem_append_right _ hr, hf⟩
  · obtain ⟨r, hr, hf⟩ := h2.2 m h hk
    exact ⟨r, List.mem_append_left _ hr, hf⟩

theorem Reads.mono {divs : Nat} {P P' : Nat → Prop} {new : List RNote} {ms ms' : List MNote} (h : Reads divs P new ms)
    (hP : ∀ i, P i → P' i) (hms : ∀ m ∈ ms', m ∈ ms) : Reads divs P' new ms' :=
  ⟨fun r hr => hP _ (h.1 r hr), fun m hm hk => h.2 m (hms m hm) hk⟩

theorem chordNote_spec (divs : Nat) (tup : Option (Nat × Nat)) (ks : List String) (m : MNote) (cur dur : Nat)
    (hok : noteOkM divs tup m = true ∧ m.start = cur ∧ m.n.kind = 0 ∧ m.n.dur = dur)
    (st : Mei.St) (hin : inLayer st.stack = true) (hpar : parentTag st = "chord")
    (htups : tupletsOf st.stack = tupList tup) (hchord : st.chord = some ((dur : Rat) / (divs : Rat), none))
    (hcur : st.cursor = (cur : Rat) / (divs : Rat)) :
    Written ((noteEl ks m).map (·.1)) st fun st' => ∃ de r,
      st' = { st with notes := r :: st.notes, durEls := de } ∧ r.part = st.staffIdx ∧ rfact r = factOf divs m := by
  obtain ⟨hok, hstart, k0, hdur⟩ := hok
  obtain ⟨hk, sd, d', v, q0, hsym, hd, hv, hq0, hqv, hpitch⟩ := noteOkM_unpack divs tup m hok
  have k2 : m.n.kind ≠ 2 := by omega
  obtain ⟨⟨ul, hstep⟩, hoct, halt⟩ := hpitch k2
  obtain ⟨ges, children, hev, hch⟩ := noteEl_shape ks m sd d' hsym hd k2 halt st
  have hstepr : upperStep (lowerStep m.n.step) = m.n.step :=
    step_read (m.n.step, ul) (Model.lookup_mem hstep)
  obtain ⟨a1, a2, a3, a4, a5, a6, a7, a8, a9, a11⟩ := noteAttrs_read m d' sd ges
  obtain ⟨de, hpre⟩ := pre_dur st "note" (noteAttrs m d' sd ges) d' v tup a1 hv htups a9 (by decide)
  have hoctr : (attr (noteAttrs m d' sd ges) "oct").bind natOfString = some m.n.octave.toNat := by
    rw [a4]; exact natOfString_intStr _ hoct
  let n0 : RNote := ⟨st.staffIdx, m.id, st.cursor, (dur : Rat) / (divs : Rat), 0, m.n.step,
    (noteAlter (noteAttrs m d' sd ges)).getD 0, m.n.octave.toNat, st.voice, m.n.staff⟩
  let stO : Mei.St := { st with durEls := de, notes := n0 :: st.notes,
                                 stack := { tag := "note", attrs := noteAttrs m d' sd ges } :: st.stack }
  have hopen : openEv st "note" (noteAttrs m d' sd ges) = some stO := by
    rw [openEv_note_in_chord st (noteAttrs m d' sd ges) _ _ none _ _ hpre hin hpar hchord a3 hoctr]
    simp only [a5, a11, hstepr, Option.getD_some]
    rfl
  refine ⟨_, _, by rw [hev]; rfl,
    runEvs_el hopen (hch stO n0 st.notes rfl (inLayer_push _ _ hin) rfl rfl) (closeEv_plain _ "note" _ st.stack rfl (by decide)),
    de, { n0 with alter := m.n.alter.getD 0 }, rfl, rfl, ?_⟩
  simp [rfact, n0, factOf, k0, hcur, hstart, hdur, Int.toNat_of_nonneg hoct]

theorem chordNotes_spec (divs : Nat) (tup : Option (Nat × Nat)) (ks : List String) (cur dur : Nat) (ms : List MNote)
    (hok : ∀ m ∈ ms, noteOkM divs tup m = true ∧ m.start = cur ∧ m.n.kind = 0 ∧ m.n.dur = dur)
    (st : Mei.St) (hin : inLayer st.stack = true) (hpar : parentTag st = "chord")
    (htups : tupletsOf st.stack = tupList tup) (hchord : st.chord = some ((dur : Rat) / (divs : Rat), none))
    (hcur : st.cursor = (cur : Rat) / (divs : Rat)) :
    Written ((mapMOpt (fun m => (noteEl ks m).map (·.1)) ms).map List.flatten) st fun st' => ∃ de new,
      st' = { st with notes := new ++ st.notes, durEls := de } ∧ Reads divs (· = st.staffIdx) new ms := by
  induction ms generalizing st with
  | nil => exact Written.nil ⟨st.durEls, [], rfl, Reads.nil _ _⟩
  | cons m rest ih =>
    refine Written.cons (chordNote_spec divs tup ks m cur dur (hok m (by simp)) st hin hpar htups hchord hcur) ?_
    rintro _ ⟨de1, r1, rfl, p1, f1⟩
    refine Written.mono (ih (fun x hx => hok x (by simp [hx])) _ hin hpar htups hchord hcur) ?_
    rintro _ ⟨de2, new2, rfl, R2⟩
    exact ⟨de2, new2 ++ [r1], by simp, (Reads.single p1 fun _ => f1).append R2⟩

/-- what a leaf leaves behind: the layer at the leaf's end, the leaf's notes read at its start -/
def LeafPost (divs : Nat) (st : Mei.St) (notes : List MNote) (cur' : Nat) (st' : Mei.St) : Prop :=
  ∃ de new, st' = { st with notes := new ++ st.notes, cursor := (cur' : Rat) / (divs : Rat), durEls := de } ∧
    Reads divs (· = st.staffIdx) new notes

theorem LeafPost.refl (divs : Nat) (st : Mei.St) (cur : Nat) (hcur : st.cursor = (cur : Rat) / (divs : Rat)) :
    LeafPost divs st [] cur st :=
  ⟨st.durEls, [], by simp [← hcur], Reads.nil _ _⟩

theorem LeafPost.trans {divs : Nat} {st st1 st2 : Mei.St} {n1 n2 : List MNote} {c1 c2 : Nat}
    (p1 : LeafPost divs st n1 c1 st1) (p2 : LeafPost divs st1 n2 c2 st2) : LeafPost divs st (n1 ++ n2) c2 st2 := by
  obtain ⟨de1, new1, rfl, R1⟩ := p1
  obtain ⟨de2, new2, rfl, R2⟩ := p2
  exact ⟨de2, new2 ++ new1, by simp, R1.append R2⟩

theorem LeafPost.ctx {divs : Nat} {tup : Option (Nat × Nat)} {st st1 : Mei.St} {n : List MNote} {c : Nat}
    (p : LeafPost divs st n c st1) (hc : Ctx st tup) : Ctx st1 tup ∧ st1.cursor = (c : Rat) / (divs : Rat) := by
  obtain ⟨de, new, rfl, _⟩ := p
  exact ⟨⟨hc.inl, hc.par, hc.tups, hc.ch, hc.num⟩, rfl⟩

theorem chord_spec (divs : Nat) (tup : Option (Nat × Nat)) (ks : List String) (ms : List MNote) (cur cur' : Nat)
    (hok : leafOk divs tup cur (.chord ms) = some cur') (st : Mei.St) (hc : Ctx st tup) (hcur : st.cursor = (cur : Rat) / (divs : Rat)) :
    Written (leafEvs ks (.chord ms)) st (LeafPost divs st ms cur') := by
  obtain ⟨last, hlast, hok, hall'⟩ := leafOk_chord hok
  -- the chord element carries the written duration of its last note
  obtain ⟨hokL, _, k0L, _⟩ := hall' last (List.mem_of_getLast? hlast)
  obtain ⟨_, sdL, dL, v, q0, hsymL, hdL, hv, hq0, hqv, hpitchL⟩ := noteOkM_unpack divs tup last hokL
  obtain rfl : q0 = (last.n.dur : Rat) / (divs : Rat) := hqv (by omega)
  obtain ⟨c1, c2, c3, c4⟩ := chordAttrs_read dL sdL
  obtain ⟨A, hA⟩ : ∃ A, A = [("dur", dL)] ++ dotsAttr sdL := ⟨_, rfl⟩
  rw [← hA] at c1 c2 c3 c4
  have hdo := hq0 ▸ durOfAttrs_spec st _ dL sdL tup v c1 c2 hc.tups hc.num hv
  obtain ⟨de, hpre⟩ := pre_dur st "chord" _ dL v tup c1 hv hc.tups c4 (by decide)
  let stC : Mei.St := push { st with durEls := de, chord := some ((last.n.dur : Rat) / (divs : Rat), none) } "chord" A
  have hopen : openEv st "chord" A = some stC := by rw [openEv_chord st A _ _ hpre hc.inl hdo, c3]
  obtain ⟨_, _, hw, hrun, de2, new, rfl, hr⟩ := chordNotes_spec divs tup ks cur last.n.dur ms hall' stC (inLayer_push _ _ hc.inl)
    rfl ((C19S.tupletsOf_cons_of_ne (by simp) _).trans hc.tups) rfl hcur
  rw [mapMOpt_comp_map, Option.map_map] at hw
  obtain ⟨els, hel, rfl⟩ := Option.map_eq_some_iff.mp hw
  have hev : leafEvs ks (.chord ms) = some (el "chord" A (els.map (·.1)).flatten) := by
    obtain ⟨x, hx, hfx⟩ := mapMOpt_getLast _ ms els hel last hlast
    obtain ⟨_, _, hsh, _⟩ := noteEl_shape ks last sdL dL hsymL hdL (by omega) (hpitchL (by omega)).2.2 st
    cases hfx.symm.trans hsh
    simp only [leafEvs, hel, hlast, hsymL, hx, Option.map_some, Option.getD_some, hA]
  refine ⟨_, _, hev, runEvs_el hopen hrun (closeEv_chord _ _ st.stack _ none rfl rfl rfl), de2, new, ?_, hr⟩
  simp only [stC, push, hc.ch, hcur, hok, Mei.St.mk.injEq, true_and, and_true]
  push_cast; ring

theorem leaf_spec (divs : Nat) (tup : Option (Nat × Nat)) (ks : List String) (l : Leaf) (cur cur' : Nat)
    (hok : leafOk divs tup cur l = some cur') (st : Mei.St) (hc : Ctx st tup) (hcur : st.cursor = (cur : Rat) / (divs : Rat)) :
    Written (leafEvs ks l) st (LeafPost divs st (leafNotes l) cur') := by
  cases l with
  | single m =>
    obtain ⟨hm, hstart, hok⟩ := leafOk_single hok
    refine (single_spec divs tup ks m hm st hc).mono ?_
    rintro _ ⟨de, r, rfl, hp, hf⟩
    refine ⟨de, [r], ?_, Reads.single hp fun hk => ?_⟩
    · have : st.cursor + qOf divs m = (cur' : Rat) / (divs : Rat) := by
        rw [hcur, hok]
        by_cases k1 : m.n.kind = 1
        · simp [qOf, k1]
        · simp only [qOf, k1, if_false]; push_cast; ring
      rw [this]; rfl
    · rw [hf hk, hcur, ← hstart]
      simp [factOf, qOf]
  | chord ms => exact chord_spec divs tup ks ms cur cur' hok st hc hcur

theorem leaves_spec (divs : Nat) (tup : Option (Nat × Nat)) (ks : List String) (ls : List Leaf) (cur cur' : Nat)
    (hok : leavesOk divs tup cur ls = some cur') (st : Mei.St) (hc : Ctx st tup) (hcur : st.cursor = (cur : Rat) / (divs : Rat)) :
    Written ((mapMOpt (leafEvs ks) ls).map List.flatten) st (LeafPost divs st (ls.flatMap leafNotes) cur') := by
  induction ls generalizing cur st with
  | nil =>
    simp only [leavesOk, Option.some.injEq] at hok
    subst hok
    exact Written.nil (LeafPost.refl divs st cur hcur)
  | cons l rest ih =>
    rw [leavesOk_cons] at hok
    obtain ⟨c1, h1, hok⟩ := Option.bind_eq_some_iff.mp hok
    exact Written.cons (leaf_spec divs tup ks l cur c1 h1 st hc hcur) fun s1 p1 =>
      (ih c1 hok s1 (p1.ctx hc).1 (p1.ctx hc).2).mono fun _ p2 => p1.trans p2

theorem tuplet_spec (divs : Nat) (ks : List String) (num numbase : Nat) (inner : List Leaf) (cur c1 : Nat) (hnum : num ≠ 0)
    (hok : leavesOk divs (some (num, numbase)) cur inner = some c1)
    (st : Mei.St) (hc : Ctx st none) (hcur : st.cursor = (cur : Rat) / (divs : Rat)) :
    Written (itemEvs ks (.tuplet num numbase inner)) st (LeafPost divs st (inner.flatMap leafNotes) c1) := by
  have hopen := openEv_tuplet st [("num", natStr num), ("numbase", natStr numbase)] (pre_noDur st "tuplet" _ rfl rfl (by decide))
    hc.inl hc.tups
  have hcT : Ctx (push st "tuplet" [("num", natStr num), ("numbase", natStr numbase)]) (some (num, numbase)) :=
    ⟨inLayer_push _ _ hc.inl, by simp [parentTag, push], by rw [push, tupletsOf_push_tuplet, hc.tups]; rfl, hc.ch,
      fun a b hab => by cases hab; exact hnum⟩
  refine Written.el hopen (leaves_spec divs _ ks inner cur c1 hok _ hcT hcur) ?_
  rintro _ ⟨de, new, rfl, hr⟩
  exact ⟨_, closeEv_plain _ "tuplet" _ st.stack rfl (by decide), de, new, rfl, hr⟩

theorem items_spec (divs : Nat) (ks : List String) (items : List Item) (cur cur' : Nat)
    (hok : itemsOk divs cur items = some cur') (st : Mei.St) (hc : Ctx st none) (hcur : st.cursor = (cur : Rat) / (divs : Rat)) :
    Written ((mapMOpt (itemEvs ks) items).map List.flatten) st (LeafPost divs st (items.flatMap itemNotes) cur') := by
  induction items generalizing cur st with
  | nil =>
    simp only [itemsOk, Option.some.injEq] at hok
    subst hok
    exact Written.nil (LeafPost.refl divs st cur hcur)
  | cons it rest ih =>
    -- the item, then the others from where it left the layer
    have step : ∀ c1, itemsOk divs c1 rest = some cur' → Written (itemEvs ks it) st (LeafPost divs st (itemNotes it) c1) →
        Written ((mapMOpt (itemEvs ks) (it :: rest)).map List.flatten) st (LeafPost divs st ((it :: rest).flatMap itemNotes) cur') :=
      fun c1 hok h1 => Written.cons h1 fun s1 p1 =>
        (ih c1 hok s1 (p1.ctx hc).1 (p1.ctx hc).2).mono fun _ p2 => p1.trans p2
    cases it with
    | leaf l =>
      rw [itemsOk_cons_leaf] at hok
      obtain ⟨c1, h1, hok⟩ := Option.bind_eq_some_iff.mp hok
      exact step c1 hok (leaf_spec divs none ks l cur c1 h1 st hc hcur)
    | tuplet num numbase inner =>
      rw [itemsOk_cons_tuplet] at hok
      split at hok
      · cases hok
      · rename_i hnum
        obtain ⟨c1, h1, hok⟩ := Option.bind_eq_some_iff.mp hok
        exact step c1 hok (tuplet_spec divs ks num numbase inner cur c1 hnum h1 st hc hcur)

end C19M
