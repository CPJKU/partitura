/-
The notes `create_part` adds satisfy every side condition of C11's theorems about
`tie_notes` / `find_tuplets` / `sanitize_part` (distinct keys, no dangling ties, chains that end, contiguous links),
so `sanitize=True` is covered by C11's statement without any hypothesis left.  (Imports Props/C11Sound.lean: the
side conditions are the hypotheses of the theorems there.)
-/
import PartituraModel.Model.NoteArrayTs
import PartituraModel.Props.C11Sound

namespace NoteArray
open List Model Model.Meas C11Walk C11Rows C11Sound

theorem createdMeasNotes_spec (d : Nat) : ∀ (l : List (Int × Int × Int)) (i : Nat),
    ∀ n ∈ createdMeasNotes d i l, i ≤ n.key ∧ n.tieNext = none ∧ n.tiePrev = none ∧ n.start ≤ n.stop := by
  intro l
  induction l with
  | nil => intro i n hn; simp [createdMeasNotes] at hn
  | cons x l ih =>
    intro i n hn
    unfold createdMeasNotes at hn
    rcases mem_append.mp hn with h | h
    · split at h
      · rename_i hpos
        simp only [mem_singleton] at h
        subst h
        refine ⟨Nat.le_refl _, rfl, rfl, ?_⟩
        show x.1.toNat ≤ (x.1 + x.2.1).toNat
        omega
      · simp at h
    · obtain ⟨h1, h2⟩ := ih (i + 1) n h
      exact ⟨by omega, h2⟩

theorem createdMeasNotes_keys (d : Nat) : ∀ (l : List (Int × Int × Int)) (i : Nat),
    ((createdMeasNotes d i l).map (·.key)).Pairwise (· < ·) := by
  intro l
  induction l with
  | nil => intro i; simp [createdMeasNotes]
  | cons x l ih =>
    intro i
    unfold createdMeasNotes
    rw [map_append, pairwise_append]
    refine ⟨?_, ih (i + 1), ?_⟩
    · split <;> simp
    · intro a ha b hb
      obtain ⟨n, hn, rfl⟩ := mem_map.mp hb
      have := (createdMeasNotes_spec d l (i + 1) n hn).1
      split at ha
      · simp only [map_cons, map_nil, mem_singleton] at ha
        rw [ha]
        omega
      · simp at ha

theorem createdMeasNotes_keysOK (d : Nat) (l : List (Int × Int × Int)) (i : Nat) :
    KeysOK (createdMeasNotes d i l) := by
  unfold KeysOK
  exact (createdMeasNotes_keys d l i).imp (fun h => Nat.ne_of_lt h)

theorem createdMeasNotes_linksOK (d : Nat) (l : List (Int × Int × Int)) (i : Nat) :
    LinksOK (createdMeasNotes d i l) := by
  intro n hn t ht
  rw [(createdMeasNotes_spec d l i n hn).2.1] at ht
  cases ht

theorem createdMeasNotes_walkable (d : Nat) (l : List (Int × Int × Int)) (i : Nat) :
    Walkable (createdMeasNotes d i l) := by
  intro n hn _
  exact ⟨_, _, Walk.last n.key n (lk_self _ (createdMeasNotes_keysOK d l i) n hn) (createdMeasNotes_spec d l i n hn).2.1⟩

theorem createdMeasNotes_contig (d : Nat) (l : List (Int × Int × Int)) (i : Nat) :
    ContigAll (createdMeasNotes d i l) := by
  intro n hn
  obtain ⟨_, h2, _, h4⟩ := createdMeasNotes_spec d l i n hn
  refine ⟨h4, ?_⟩
  intro t nx ht
  rw [h2] at ht
  cases ht

theorem sounding_createdMeasNotes (d : Nat) (l : List (Int × Int × Int)) (i : Nat) :
    (sounding (createdMeasNotes d i l)).map (fun r => (r.1, r.2.1)) =
      (createdMeasNotes d i l).map fun n => (n.start, n.stop - n.start) := by
  unfold sounding
  rw [map_map]
  have hf : (createdMeasNotes d i l).filter (fun n => n.tiePrev.isNone) = createdMeasNotes d i l := by
    rw [filter_eq_self]
    intro n hn
    rw [(createdMeasNotes_spec d l i n hn).2.2.1]; rfl
  rw [hf]
  apply map_congr_left
  intro n hn
  have h2 := (createdMeasNotes_spec d l i n hn).2.1
  simp only [Function.comp]
  cases hlen : (createdMeasNotes d i l).length with
  | zero => simp [chainEndDur]
  | succ k => simp [chainEndDur, h2]

end NoteArray
