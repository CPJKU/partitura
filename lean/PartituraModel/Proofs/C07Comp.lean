/-
C07 — composite lines (`snote(..)-note(..).`, `snote(..)-deletion.`, `insertion-note(..).`,
`ornament(..)-note(..).`, `stime(..)-ptime(..).`): written by concatenating the parts, read by searching
every component over the WHOLE line.  The composition lemma reduces the composite round trip to the
round trips of the components at their offsets.
-/
import PartituraModel.Model.MatchLine
import PartituraModel.Proofs.Scan

namespace C07Comp
open Model Model.Template Model.MatchCodec Model.MatchLine

/-- one part of a composite line, written as `txt`, standing behind `pre` and before `tail` in the whole
    line: a literal carries no values; a component is written as `txt` and the search of its pattern over
    the whole line gives its values back -/
def PartOK (ts : List Template) (pre tail : Str) (p : CPart) (vs : List Val) (txt : Str) : Prop :=
  match p with
  | .lit s => vs = [] ∧ txt = s.toList
  | .tpl n => ∃ t, findTpl ts n = some t ∧ vs.length = t.fields.length ∧
      formatT t vs = some txt ∧ parseT t (pre ++ (txt ++ tail)) = .ok vs

/-- all parts, each at its offset (`pre` grows by the text of the parts already written) -/
def PartsOK (ts : List Template) : Str → List CPart → List (List Val) → List Str → Str → Prop
  | _, [], [], [], _ => True
  | pre, p :: ps, vs :: vss, x :: xs, tail =>
    PartOK ts pre (xs.flatten ++ tail) p vs x ∧ PartsOK ts (pre ++ x) ps vss xs tail
  | _, _, _, _, _ => False

theorem formatParts_ok (ts : List Template) (ps : List CPart) (pre : Str) (vss : List (List Val)) (xs : List Str)
    (tail : Str) (h : PartsOK ts pre ps vss xs tail) : formatParts ts ps vss.flatten = some xs.flatten := by
  fun_induction PartsOK ts pre ps vss xs tail with
  | case1 => rfl
  | case2 pre p ps vs vss x xs tail ih =>
    obtain ⟨hp, hr⟩ := h
    have hrec := ih hr
    cases p with
    | lit s =>
      obtain ⟨hv, hx⟩ := hp
      subst hv; subst hx
      simp only [List.flatten_cons, List.nil_append, formatParts, hrec, Option.map_some]
    | tpl n =>
      obtain ⟨t, hf, hlen, hfmt, _⟩ := hp
      simp only [List.flatten_cons, formatParts, hf]
      have h1 : ¬ ((vs ++ vss.flatten).length < t.fields.length) := by
        simp only [List.length_append]; omega
      have h2 : (vs ++ vss.flatten).take t.fields.length = vs := by
        rw [← hlen]; simp
      have h3 : (vs ++ vss.flatten).drop t.fields.length = vss.flatten := by
        rw [← hlen]; simp
      simp only [h1, if_false, h2, h3, hfmt, hrec]
  | case3 => exact h.elim

theorem parseParts_ok (ts : List Template) (ps : List CPart) (pre : Str) (vss : List (List Val)) (xs : List Str)
    (tail : Str) (h : PartsOK ts pre ps vss xs tail) :
    parseParts ts (pre ++ (xs.flatten ++ tail)) ps = .ok vss.flatten := by
  fun_induction PartsOK ts pre ps vss xs tail with
  | case1 => rfl
  | case2 pre p ps vs vss x xs tail ih =>
    obtain ⟨hp, hr⟩ := h
    have hrec := ih hr
    have hline : pre ++ ((x :: xs).flatten ++ tail) = (pre ++ x) ++ (xs.flatten ++ tail) := by
      simp
    rw [hline]
    cases p with
    | lit s =>
      obtain ⟨hv, _⟩ := hp
      subst hv
      simp only [List.flatten_cons, List.nil_append, parseParts]
      exact hrec
    | tpl n =>
      obtain ⟨t, hf, _, _, hparse⟩ := hp
      have hparse' : parseT t ((pre ++ x) ++ (xs.flatten ++ tail)) = .ok vs := by
        rw [← hparse]; simp
      simp only [List.flatten_cons, parseParts, hf, hparse', hrec, bind, Except.bind, pure, Except.pure]
  | case3 => exact h.elim

theorem findLit_isContains : Lists.IsContains findLit := ⟨fun _ => rfl, fun _ _ _ => rfl⟩

theorem findLit_of_part (ts : List Template) (i : String) (ps : List CPart) (pre : Str) (vss : List (List Val))
    (xs : List Str) (tail : Str) (h : PartsOK ts pre ps vss xs tail) (hm : CPart.lit i ∈ ps) :
    findLit i.toList (pre ++ (xs.flatten ++ tail)) = true := by
  fun_induction PartsOK ts pre ps vss xs tail with
  | case1 => cases hm
  | case2 pre p ps vs vss x xs tail ih =>
    obtain ⟨hp, hr⟩ := h
    have e : pre ++ ((x :: xs).flatten ++ tail) = (pre ++ x) ++ (xs.flatten ++ tail) := by simp
    rcases List.mem_cons.mp hm with he | hm'
    · subst he
      obtain ⟨_, hx⟩ := hp
      subst hx
      rw [e, List.append_assoc]
      exact findLit_isContains.append _ _ _
    · rw [e]
      exact ih hr hm'
  | case3 => exact h.elim

/-- if every part is written and found at its offset, the composite is written as the concatenation and the
    parse over the written line (whatever follows) returns all values in order -/
theorem composite_ok (ts : List Template) (c : Composite) (vss : List (List Val)) (xs : List Str) (tail : Str)
    (hid : c.idents.all (fun i => c.parts.contains (.lit i)) = true)
    (h : PartsOK ts [] c.parts vss xs tail) :
    formatC ts c vss.flatten = some xs.flatten ∧ parseC ts c (xs.flatten ++ tail) = .ok vss.flatten := by
  constructor
  · exact formatParts_ok ts _ _ _ _ _ h
  · unfold parseC
    have hall : (c.idents.all fun i => findLit i.toList (xs.flatten ++ tail)) = true := by
      rw [List.all_eq_true] at hid ⊢
      intro i hi
      have hm := hid i hi
      have hm' : CPart.lit i ∈ c.parts := by simpa using hm
      have := findLit_of_part ts i c.parts [] vss xs tail h hm'
      simpa using this
    simp only [hall, Bool.not_true, Bool.false_eq_true, if_false]
    have := parseParts_ok ts c.parts [] vss xs tail h
    simpa using this

theorem render_append (o1 o2 : List OSeg) (v : String → List Char) : render (o1 ++ o2) v = render o1 v ++ render o2 v := by
  induction o1 with
  | nil => rfl
  | cons s o ih => cases s <;> simp [render, ih]

theorem encodeFields_length (t : Template) (a : Option Str) (fs : List (String × Enc × Dec)) (vs : List Val)
    (r : List (String × Str)) (h : encodeFields t a fs vs = some r) : vs.length = fs.length := by
  fun_induction encodeFields t a fs vs generalizing r with
  | case1 => rfl
  | case2 => cases h
  | case3 f fs v vs e d hc s r' hrest henc ih => simp [ih r' hrest]
  | case4 => cases h
  | case5 => cases h

theorem formatT_length (t : Template) (vals : List Val) (l : Str) (h : formatT t vals = some l) :
    vals.length = t.fields.length := by
  unfold formatT at h
  split at h
  · simp at h
  · simp only [Option.map_eq_some_iff] at h
    obtain ⟨r, hr, _⟩ := h
    exact encodeFields_length t _ _ _ _ hr


end C07Comp
