/-
C17: the option handling of the estimators (`Model.C17Wrap`):
unit selection, the fast key index, the ranking of `return_sorted_keys`.
-/
import PartituraModel.Model.C17Wrap
import PartituraModel.Proofs.C17Key
import PartituraModel.Proofs.Orders
import Mathlib.Data.List.Basic
import Mathlib.Data.List.Sort
import Mathlib.Tactic.Linarith

namespace C17W
open Model Model.C17Wrap Model.KeyEst Gen

/-- the unit selection, written out: score units (beat, quarter, div) before performance units (sec, tick) -/
def pick (fields : List String) : Option (String × String) :=
  if "onset_beat" ∈ fields then some ("onset_beat", "duration_beat")
  else if "onset_quarter" ∈ fields then some ("onset_quarter", "duration_quarter")
  else if "onset_div" ∈ fields then some ("onset_div", "duration_div")
  else if "onset_sec" ∈ fields then some ("onset_sec", "duration_sec")
  else if "onset_tick" ∈ fields then some ("onset_tick", "duration_tick")
  else none

theorem timeUnits_eq_pick (fields : List String) : timeUnits fields = pick fields := by
  simp only [timeUnits, TIME_UNIT_BRANCHES, timeUnitsAux, firstMatch, pick, List.any_cons, List.any_nil,
    List.contains_iff_mem, Bool.or_false, Bool.or_eq_true]
  by_cases h1 : "onset_beat" ∈ fields <;> by_cases h2 : "onset_quarter" ∈ fields <;>
    by_cases h3 : "onset_div" ∈ fields <;> by_cases h4 : "onset_sec" ∈ fields <;>
    by_cases h5 : "onset_tick" ∈ fields <;> simp [h1, h2, h3, h4, h5]

theorem lookup_append_left {β : Type} (k : String) (l r : List (String × β)) (hk : k ∉ r.map (·.1)) :
    lookup k (l ++ r) = lookup k l := by
  rw [lookup_append, lookup_eq_none_iff.mpr hk, Option.or_none]

theorem pick_score (fields : List String)
    (hs : "onset_beat" ∈ fields ∨ "onset_quarter" ∈ fields ∨ "onset_div" ∈ fields) :
    ∃ u, timeUnits fields = some u ∧
      u ∈ [("onset_beat", "duration_beat"), ("onset_quarter", "duration_quarter"), ("onset_div", "duration_div")] := by
  rw [timeUnits_eq_pick]
  unfold pick
  by_cases h1 : "onset_beat" ∈ fields
  · exact ⟨_, by rw [if_pos h1], by simp⟩
  · by_cases h2 : "onset_quarter" ∈ fields
    · exact ⟨_, by rw [if_neg h1, if_pos h2], by simp⟩
    · have h3 : "onset_div" ∈ fields := (hs.resolve_left h1).resolve_left h2
      exact ⟨_, by rw [if_neg h1, if_neg h2, if_pos h3], by simp⟩

theorem score_not_perf : ∀ u ∈ [("onset_beat", "duration_beat"), ("onset_quarter", "duration_quarter"),
    ("onset_div", "duration_div")], ∀ f ∈ ["onset_sec", "duration_sec", "onset_tick", "duration_tick"],
    u.1 ≠ f ∧ u.2 ≠ f := by
  decide +kernel

theorem tab_get (h : Nat → Rat) (j : Nat) (hj : j < 12) : (Tab.ofFun h).get j = h j := by
  simp only [Tab.ofFun]
  rw [List.getD_eq_getElem?_getD, List.getElem?_map, List.getElem?_range hj]
  rfl

theorem keyScore_congr (ps : ProfileSet) (h h' : Nat → Rat) (e : ∀ j, j < 12 → h j = h' j) (i : Nat) :
    keyScore ps h i = keyScore ps h' i := by
  simp only [keyScore, C17K.cov12_congr e fun _ _ => rfl]

theorem keyIndexOfHist_congr (ps : ProfileSet) (h h' : Nat → Rat) (e : ∀ j, j < 12 → h j = h' j) :
    keyIndexOfHist ps h = keyIndexOfHist ps h' := by
  unfold keyIndexOfHist
  rw [C17K.cov12_congr e e]
  have : keyScore ps h = keyScore ps h' := funext (keyScore_congr ps h h' e)
  rw [this]

theorem estimateKeyFast_eq (ps : ProfileSet) (notes : List KNote) :
    estimateKeyFast ps notes = estimateKey ps notes := by
  simp only [estimateKeyFast, estimateKey, keyIndex, keyIndexFast_eq]
  rw [keyIndexOfHist_congr ps _ (hist notes) (fun j hj => tab_get _ j hj)]

theorem rankLe_iff_not_better (a b : Ranked) (ha : 0 < a.2.2) (hb : 0 < b.2.2) :
    rankLe a b = true ↔ better b.2 a.2 = false := by
  have e : rankLe a b = true ↔ b.2.1 / b.2.2 ≤ a.2.1 / a.2.2 := by
    unfold rankLe rankValue; exact decide_eq_true_iff
  rw [e, div_le_div_iff₀ hb ha]
  simp only [better, decide_eq_false_iff_not, not_lt, gt_iff_lt]

theorem rankLe_order : Lists.TotalPreorder rankLe := .of_key fun a : Ranked => OrderDual.toDual (rankValue a.2)

theorem scored_fst (ps : ProfileSet) (h : Nat → Rat) : (scored ps h).map (·.1) = List.finRange 24 := by
  simp [scored, List.map_map, Function.comp_def]

theorem mem_scored (ps : ProfileSet) (h : Nat → Rat) (x : Ranked) :
    x ∈ scored ps h ↔ x.2 = keyScore ps h x.1.val := by
  simp only [scored, List.mem_map, List.mem_finRange, true_and, keyScoreFast_eq]
  constructor
  · rintro ⟨i, rfl⟩; rfl
  · intro e; exact ⟨x.1, by rw [← e]⟩

theorem sortedKeyIdx_perm (ps : ProfileSet) (h : Nat → Rat) : (sortedKeyIdx ps h).Perm (List.finRange 24) := by
  unfold sortedKeyIdx
  split
  · exact List.Perm.refl _
  · rw [← scored_fst ps h]
    exact (List.mergeSort_perm _ _).map _

theorem sortedKeyIdx_sorted (ps : ProfileSet) (h : Nat → Rat) (hv : cov12 h h ≠ 0) :
    (sortedKeyIdx ps h).Pairwise fun a b =>
      better (keyScore ps h b.val) (keyScore ps h a.val) = false := by
  unfold sortedKeyIdx
  rw [if_neg hv]
  have hs := List.pairwise_mergeSort rankLe_order.trans rankLe_order.total' (scored ps h)
  rw [List.pairwise_map]
  refine List.Pairwise.imp_of_mem ?_ hs
  intro a b ha hb hab
  have ha' := (mem_scored ps h a).mp ((List.mergeSort_perm _ _).subset ha)
  have hb' := (mem_scored ps h b).mp ((List.mergeSort_perm _ _).subset hb)
  have pa : 0 < a.2.2 := by rw [ha']; exact C17K.profile_variance_pos ps _
  have pb : 0 < b.2.2 := by rw [hb']; exact C17K.profile_variance_pos ps _
  have := (rankLe_iff_not_better a b pa pb).mp hab
  rw [ha', hb'] at this
  exact this

theorem sortedKeyIdx_head (ps : ProfileSet) (h : Nat → Rat) (m : Nat) (hu : C17K.UniqueMaxH ps h m) :
    ∃ x rest, sortedKeyIdx ps h = x :: rest ∧ x.val = m := by
  obtain ⟨h0, hm, hbest⟩ := hu
  have hp := sortedKeyIdx_perm ps h
  have hs := sortedKeyIdx_sorted ps h h0
  cases hl : sortedKeyIdx ps h with
  | nil => rw [hl] at hp; have := hp.length_eq; simp at this
  | cons x rest =>
    refine ⟨x, rest, rfl, ?_⟩
    by_contra hne
    have hmem : (⟨m, hm⟩ : Fin 24) ∈ sortedKeyIdx ps h := hp.symm.subset (List.mem_finRange _)
    rw [hl] at hmem hs
    rcases List.mem_cons.mp hmem with e | hin
    · exact hne (by rw [← e])
    · have := (List.pairwise_cons.mp hs).1 _ hin
      simp only at this
      rw [hbest x.val x.isLt hne] at this
      exact absurd this (by simp)

end C17W
