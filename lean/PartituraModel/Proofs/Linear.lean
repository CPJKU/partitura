/-
The line through two points and the piecewise-linear map through a list of knots, over an ordered field: what
`np.interp` and scipy's `interp1d(kind="linear")` compute.  The model has several copies of the interpolant
(`Model.TimeMap.interpAux`, `Model.Codec.interpExt`, `Model.MatchTime.interpLin`); each is `Linear.interp` where it
answers at all.
-/
import Mathlib.Order.Monotone.Union
import Mathlib.Algebra.Order.Field.Basic
import Mathlib.Tactic.FieldSimp
import Mathlib.Tactic.Ring

namespace Linear
variable {K : Type} [Field K]

/-- the line through `(x0, y0)` and `(x1, y1)`, at `x` -/
def line (x0 y0 x1 y1 x : K) : K := (y1 - y0) / (x1 - x0) * (x - x0) + y0

theorem line_left (x0 y0 x1 y1 : K) : line x0 y0 x1 y1 x0 = y0 := by
  rw [line, sub_self, mul_zero, zero_add]

theorem line_right {x0 x1 : K} (y0 y1 : K) (hx : x0 ≠ x1) : line x0 y0 x1 y1 x1 = y1 := by
  rw [line, div_mul_cancel₀ _ (sub_ne_zero.mpr hx.symm), sub_add_cancel]

/-- the line through the swapped points is the inverse -/
theorem line_swap {x0 y0 x1 y1 : K} (hx : x0 ≠ x1) (hy : y0 ≠ y1) (x : K) :
    line y0 x0 y1 x1 (line x0 y0 x1 y1 x) = x := by
  have h1 : x1 - x0 ≠ 0 := sub_ne_zero.mpr hx.symm
  have h2 : y1 - y0 ≠ 0 := sub_ne_zero.mpr hy.symm
  unfold line
  field_simp
  ring

/-- the same value as the mean of the two ordinates, each weighted by the distance to the other abscissa -/
theorem line_eq_weighted {x0 x1 : K} (y0 y1 x : K) (hx : x0 ≠ x1) :
    (x - x0) / (x1 - x0) * y1 + (x1 - x) / (x1 - x0) * y0 = line x0 y0 x1 y1 x := by
  have : x1 - x0 ≠ 0 := sub_ne_zero.mpr hx.symm
  unfold line
  field_simp
  ring

variable [LinearOrder K]

/-- through the knots `p :: q :: rest`; below `p` and above the last knot the end segments are continued
    (`fill_value="extrapolate"`) -/
def interp : K × K → K × K → List (K × K) → K → K
  | p, q, [], x => line p.1 p.2 q.1 q.2 x
  | p, q, k :: more, x => if x ≤ q.1 then line p.1 p.2 q.1 q.2 x else interp q k more x

abbrev IncX (ks : List (K × K)) : Prop := ks.Pairwise fun a b => a.1 < b.1
abbrev IncY (ks : List (K × K)) : Prop := ks.Pairwise fun a b => a.2 < b.2

section
variable {p q r : K × K} {x : K}

theorem interp_of_le (p : K × K) (rest : List (K × K)) (h : x ≤ q.1) :
    interp p q rest x = line p.1 p.2 q.1 q.2 x := by
  cases rest with
  | nil => rfl
  | cons k more => exact if_pos h

theorem interp_of_gt (p : K × K) (more : List (K × K)) (h : q.1 < x) :
    interp p q (r :: more) x = interp q r more x := if_neg (not_le.mpr h)

theorem interp_first (rest : List (K × K)) (h : p.1 ≤ q.1) : interp p q rest p.1 = p.2 := by
  rw [interp_of_le p rest h, line_left]

theorem interp_second (rest : List (K × K)) (h : p.1 ≠ q.1) : interp p q rest q.1 = q.2 := by
  rw [interp_of_le p rest le_rfl, line_right _ _ h]

/-- from the second knot on the first one plays no part: the two segments meet there -/
theorem interp_tail (more : List (K × K)) (hpq : p.1 ≠ q.1) (hqr : q.1 ≤ r.1) (h : q.1 ≤ x) :
    interp p q (r :: more) x = interp q r more x := by
  rcases h.eq_or_lt with rfl | h
  · rw [interp_second _ hpq, interp_first _ hqr]
  · exact interp_of_gt p more h

end

theorem interp_knot (rest : List (K × K)) (p q : K × K) (hx : IncX (p :: q :: rest)) :
    ∀ k ∈ p :: q :: rest, interp p q rest k.1 = k.2 := by
  induction rest generalizing p q with
  | nil =>
    intro k hk
    have hpq : p.1 < q.1 := List.rel_of_pairwise_cons hx List.mem_cons_self
    rcases List.mem_cons.mp hk with rfl | hk
    · exact interp_first _ hpq.le
    · rw [List.mem_singleton.mp hk]
      exact interp_second _ hpq.ne
  | cons r more ih =>
    intro k hk
    have hpq : p.1 < q.1 := List.rel_of_pairwise_cons hx List.mem_cons_self
    have hqr : q.1 < r.1 := List.rel_of_pairwise_cons hx.of_cons List.mem_cons_self
    rcases List.mem_cons.mp hk with rfl | hk
    · exact interp_first _ hpq.le
    · rw [interp_tail more hpq.ne hqr.le]
      · exact ih q r hx.of_cons k hk
      · rcases List.mem_cons.mp hk with rfl | hk
        · exact le_rfl
        · exact (List.rel_of_pairwise_cons hx.of_cons hk).le

/-- between two neighbouring knots the map is the line through them -/
theorem interp_segment {u v : K × K} {post : List (K × K)} {x : K} (hu : u.1 ≤ x) (hv : x ≤ v.1) :
    ∀ (pre : List (K × K)) (p q : K × K) (rest : List (K × K)), IncX (p :: q :: rest) →
      p :: q :: rest = pre ++ u :: v :: post → interp p q rest x = line u.1 u.2 v.1 v.2 x
  | [], p, q, rest, _, he => by
    cases he
    exact interp_of_le _ _ hv
  | a :: pre, p, q, rest, hx, he => by
    have he' : q :: rest = pre ++ u :: v :: post := (List.cons.inj he).2
    -- `q` is `u` or a knot before it, so `x` lies from the second knot on
    have hqu : q.1 ≤ u.1 := (List.mem_cons.mp (he' ▸ List.mem_append_right _ List.mem_cons_self : u ∈ q :: rest)).elim
      (fun e => e ▸ le_rfl) fun h => (List.rel_of_pairwise_cons hx.of_cons h).le
    cases rest with
    | nil =>
      have := congrArg List.length he'
      simp only [List.length_cons, List.length_append, List.length_nil] at this
      omega
    | cons r more =>
      rw [interp_tail more (List.rel_of_pairwise_cons hx List.mem_cons_self).ne
        (List.rel_of_pairwise_cons hx.of_cons List.mem_cons_self).le (hqu.trans hu)]
      exact interp_segment hu hv pre q r more hx.of_cons he'

variable [IsStrictOrderedRing K]

theorem line_strictMono {x0 y0 x1 y1 : K} (hx : x0 < x1) (hy : y0 < y1) : StrictMono (line x0 y0 x1 y1) :=
  fun _ _ hab => add_lt_add_left
    (mul_lt_mul_of_pos_left (sub_lt_sub_right hab x0) (div_pos (sub_pos.mpr hy) (sub_pos.mpr hx))) y0

theorem line_monotone {x0 y0 x1 y1 : K} (hx : x0 < x1) (hy : y0 ≤ y1) : Monotone (line x0 y0 x1 y1) :=
  fun _ _ hab => add_le_add_left
    (mul_le_mul_of_nonneg_left (sub_le_sub_right hab x0) (div_nonneg (sub_nonneg.mpr hy) (sub_nonneg.mpr hx.le))) y0

theorem line_le_right {x0 y0 x1 y1 : K} (hx : x0 < x1) (hy : y0 < y1) {x : K} :
    line x0 y0 x1 y1 x ≤ y1 ↔ x ≤ x1 := by
  simpa only [line_right y0 y1 hx.ne] using (line_strictMono hx hy).le_iff_le (a := x) (b := x1)

theorem interp_strictMono (rest : List (K × K)) (p q : K × K) (hx : IncX (p :: q :: rest))
    (hy : IncY (p :: q :: rest)) : StrictMono (interp p q rest) := by
  induction rest generalizing p q with
  | nil =>
    exact line_strictMono (List.rel_of_pairwise_cons hx List.mem_cons_self)
      (List.rel_of_pairwise_cons hy List.mem_cons_self)
  | cons r more ih =>
    have hpq : p.1 < q.1 := List.rel_of_pairwise_cons hx List.mem_cons_self
    have hqr : q.1 < r.1 := List.rel_of_pairwise_cons hx.of_cons List.mem_cons_self
    -- below the second knot the first segment, from it on the map through the remaining knots
    refine StrictMonoOn.Iic_union_Ici (a := q.1) ?_ ?_
    · exact ((line_strictMono hpq (List.rel_of_pairwise_cons hy List.mem_cons_self)).strictMonoOn _).congr
        fun x hx => (interp_of_le p _ hx).symm
    · exact ((ih q r hx.of_cons hy.of_cons).strictMonoOn _).congr
        fun x hx => (interp_tail more hpq.ne hqr.le hx).symm

/-- ordinates that only do not decrease: the map does not decrease -/
theorem interp_monotone (rest : List (K × K)) (p q : K × K) (hx : IncX (p :: q :: rest))
    (hy : (p :: q :: rest).Pairwise fun a b => a.2 ≤ b.2) : Monotone (interp p q rest) := by
  induction rest generalizing p q with
  | nil =>
    exact line_monotone (List.rel_of_pairwise_cons hx List.mem_cons_self)
      (List.rel_of_pairwise_cons hy List.mem_cons_self)
  | cons r more ih =>
    have hpq : p.1 < q.1 := List.rel_of_pairwise_cons hx List.mem_cons_self
    have hqr : q.1 < r.1 := List.rel_of_pairwise_cons hx.of_cons List.mem_cons_self
    refine MonotoneOn.Iic_union_Ici (a := q.1) ?_ ?_
    · exact ((line_monotone hpq (List.rel_of_pairwise_cons hy List.mem_cons_self)).monotoneOn _).congr
        fun x hx => (interp_of_le p _ hx).symm
    · exact ((ih q r hx.of_cons hy.of_cons).monotoneOn _).congr
        fun x hx => (interp_tail more hpq.ne hqr.le hx).symm

/-- knots increasing in both coordinates: the map through the swapped knots is the inverse -/
theorem interp_swap (rest : List (K × K)) (p q : K × K) (hx : IncX (p :: q :: rest)) (hy : IncY (p :: q :: rest))
    (x : K) : interp (p.2, p.1) (q.2, q.1) (rest.map fun k => (k.2, k.1)) (interp p q rest x) = x := by
  have hpq : p.1 < q.1 := List.rel_of_pairwise_cons hx List.mem_cons_self
  have hpq' : p.2 < q.2 := List.rel_of_pairwise_cons hy List.mem_cons_self
  induction rest generalizing p q with
  | nil => exact line_swap hpq.ne hpq'.ne x
  | cons r more ih =>
    have hqr : q.1 < r.1 := List.rel_of_pairwise_cons hx.of_cons List.mem_cons_self
    have hqr' : q.2 < r.2 := List.rel_of_pairwise_cons hy.of_cons List.mem_cons_self
    rw [List.map_cons]
    by_cases h : x ≤ q.1
    · rw [interp_of_le p _ h, interp_of_le _ _ (show _ ≤ (q.2, q.1).1 from (line_le_right hpq hpq').mpr h)]
      exact line_swap hpq.ne hpq'.ne x
    · have h := not_le.mp h
      rw [interp_of_gt p more h, interp_of_gt _ _ (show (q.2, q.1).1 < _ from ?_)]
      · exact ih q r hx.of_cons hy.of_cons hqr hqr'
      · -- above the second knot the value is above its ordinate
        have := interp_strictMono more q r hx.of_cons hy.of_cons h
        rwa [interp_first more hqr.le] at this

end Linear
