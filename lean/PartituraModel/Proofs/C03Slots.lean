/-
C03 — wedges and dashes: the importer's pairing through `ongoing[("wedge", n)]` / `ongoing[("dashes", n)]` on the numbers
the exporter's counter hands out.
-/
import PartituraModel.Model.XmlDir
import PartituraModel.Proofs.C03Ranges
import PartituraModel.Proofs.Lists

namespace C03.Slots
open Model.Ranges Model.XmlDir C03.Ranges

section
variable (tbl : Nat → Rng)

/-- the importer's slots hold, under every number, the start element of the open range that carries it -/
def Agree (slots : List (Nat × Nat)) (S : Open) : Prop :=
  ∀ k, Model.lookup k slots = (S.find? fun x => x.2.2 = k).map fun x => (tbl x.1).sN

/-- every range is met first at its start (wedges and dashes start before they stop in the document) -/
def StartFirst : Open → List REv → Prop
  | _, [] => True
  | S, e :: rest => (lookupS e.1 S = none → e.2 = true) ∧ StartFirst (stepS S e).1 rest

def AllStarts (S : Open) : Prop := ∀ x ∈ S, x.2.1 = true

/-- The importer's slots on the exporter's marks: `foldl_marksOf` with the reader state `(slots, done)`.  A step needs to
    know that the slots hold the start of every open range under its number (`Agree`) and that open ranges were met at
    their start (`AllStarts`). -/
theorem slots_marksOf (label : Nat) (evs : List REv) (S : Open) (closed : List Nat) (slots done : List (Nat × Nat))
    (hS : SInv S) (hall : AllStarts S) (hag : Agree tbl slots S) (hwf : WFEvs S closed evs) (hsf : StartFirst S evs) :
    ((marksOf label tbl (cOf label S) evs).foldl slotStep (slots, done)).2 =
        done ++ (closedBy S evs).map (fun r => ((tbl r).sN, (tbl r).eN)) ∧
      Agree tbl ((marksOf label tbl (cOf label S) evs).foldl slotStep (slots, done)).1 (finalS S evs) := by
  have := foldl_marksOf label tbl slotStep (fun S d s => s.2 = d ∧ Agree tbl s.1 S ∧ AllStarts S) StartFirst
    (fun _ _ _ h => h.2) ?_ ?_ evs S closed done (slots, done) hS ⟨rfl, hag, hall⟩ hwf hsf
  · exact ⟨this.1, this.2.1⟩
  · -- a new range is met at its start
    intro S r t rest d s _ ⟨hd, hag, hall⟩ hsf hl hfree
    obtain rfl : t = true := hsf.1 hl
    refine ⟨by simp [slotStep, markOf, hd], fun k => ?_, fun x hx => ?_⟩
    · rw [List.find?_append]
      by_cases hk : k = smallestFree (S.map (·.2.2))
      · subst hk
        have : (S.find? fun x => x.2.2 = smallestFree (S.map (·.2.2))) = none :=
          find?_of_free hfree fun y hy => of_decide_eq_true hy
        simp [slotStep, markOf, Model.lookup, this]
      · have hne : ¬ smallestFree (S.map (·.2.2)) = k := fun e => hk e.symm
        simp only [slotStep, markOf, if_true, Model.lookup, hne, if_false, Model.lookup_filter_ne, hk, hag k]
        cases S.find? fun x => x.2.2 = k <;> simp [hne]
    · rcases List.mem_append.mp hx with h1 | h1
      · exact hall x h1
      · simp at h1; subst h1; rfl
  · -- the stop of an open range: its start is kept under the number
    intro S r t t' n rest d s hS ⟨hd, hag, hall⟩ _ hm hne
    obtain rfl : t' = true := hall _ hm
    obtain rfl : t = false := by cases t <;> simp_all
    have hfound : (S.find? fun x => x.2.2 = n) = some (r, true, n) :=
      find?_of_mem hS hm (by simp) (fun y hy => by simpa using hy)
    refine ⟨by simp [slotStep, markOf, hag n, hfound, hd], fun k => ?_, fun x hx => hall x ((eraseS_sublist r S).subset hx)⟩
    have : (slotStep s (markOf tbl (r, false) n)).1 = s.1.filter (·.1 ≠ n) := by simp [slotStep, markOf, hag n, hfound]
    rw [this, Model.lookup_filter_ne, find?_eraseS hS hm _ (fun y hy hp => by simp at hy hp; rw [hy, hp]), hag k]
    by_cases hk : k = n
    · simp [hk]
    · simp [hk, Ne.symm hk]

end

end C03.Slots
