/-
C07 — a STRUCTURAL sufficient condition for `noEarly`: when a component of a composite line is searched
over the whole line, no anchored match of its pattern starts inside the text written in front of it.

The text in front is the rendering of an out_pattern (`snote(…)` + `-`, `insertion-`, `ornament(…)-` …).
`neOK` walks that out_pattern symbolically (literal characters are known, field texts are not) and
accepts when at every offset

* inside a literal: the component's first literal `H` (`note(`) clashes with the known characters, or it
  matches completely (`note(` inside `snote(`) and then the comma count decides: the pattern's groups
  exclude the comma, so a match consumes exactly `litCommas` commas and its closing literal (`)`) would
  have to stand in the piece between the c-th and the (c+1)-th comma - a piece made of field texts only;
* inside a field text: `H` cannot be completed because the character that follows the field is none of
  the characters of `H` after its first, while `H` contains a marker character `m` (`(`) field texts
  do not contain.

The only conditions on the field texts are: no `m` in the fields in front, and no `,` / closing
character in the fields the comma count walks over ("identifiers without separators").
-/
import PartituraModel.Model.Template
import PartituraModel.Proofs.C07Search

namespace Model.Template

inductive Sym
  | ch (c : Char)
  | fld (n : String)
  deriving DecidableEq, Repr

def flat : List OSeg → List Sym
  | [] => []
  | .lit s :: o => s.toList.map Sym.ch ++ flat o
  | .fld n :: o => .fld n :: flat o

def renderS (v : String → List Char) : List Sym → List Char
  | [] => []
  | .ch c :: r => c :: renderS v r
  | .fld n :: r => v n ++ renderS v r

def symFields : List Sym → List String
  | [] => []
  | .ch _ :: r => symFields r
  | .fld n :: r => n :: symFields r

theorem renderS_append (v : String → List Char) (a b : List Sym) :
    renderS v (a ++ b) = renderS v a ++ renderS v b := by
  induction a with
  | nil => rfl
  | cons s a ih => cases s <;> simp [renderS, ih]

theorem renderS_chars (v : String → List Char) (l : List Char) : renderS v (l.map Sym.ch) = l := by
  induction l with
  | nil => rfl
  | cons c l ih => simp [renderS, ih]

theorem renderS_flat (v : String → List Char) (o : List OSeg) : renderS v (flat o) = render o v := by
  induction o with
  | nil => rfl
  | cons s o ih =>
    cases s with
    | lit s => simp [flat, render, renderS_append, renderS_chars, ih]
    | fld n => simp [flat, render, renderS, ih]

theorem symFields_flat_append_lit (o : List OSeg) (s : String) :
    symFields (flat (o ++ [.lit s])) = symFields (flat o) := by
  have hch : ∀ l : List Char, symFields (l.map Sym.ch) = [] := by
    intro l
    induction l with
    | nil => rfl
    | cons c l ih => simpa [symFields] using ih
  have happ : ∀ a b : List Sym, symFields (a ++ b) = symFields a ++ symFields b := by
    intro a b
    induction a with
    | nil => rfl
    | cons s a ih => cases s <;> simp [symFields, ih]
  induction o with
  | nil => simp [flat, hch, symFields]
  | cons x o ih => cases x <;> simp [flat, symFields, happ, hch, ih]

inductive Tri
  | clash
  | full (rest : List Sym)
  | unknown
  deriving DecidableEq, Repr

/-- match a literal of plain characters against the symbolic text: `clash` = a known character differs,
    `full r` = the literal is matched by known characters and `r` follows, `unknown` = a field text or the
    end is reached first -/
def symLit : List PChar → List Sym → Tri
  | [], r => .full r
  | .ch c :: P, .ch d :: r => if c = d then symLit P r else .clash
  | _, _ => .unknown

theorem symLit_clash (v : String → List Char) (y : List Char) (P : List PChar) (syms : List Sym)
    (h : symLit P syms = .clash) : litMatch P (renderS v syms ++ y) = none := by
  fun_induction symLit P syms with
  | case1 => cases h
  | case2 c P r ih =>
    simp only [renderS, List.cons_append, litMatch, PChar.matches, beq_self_eq_true, if_true]
    exact ih h
  | case3 c P d r hcd => simp [renderS, litMatch, PChar.matches, hcd]
  | case4 => cases h

theorem symLit_full (v : String → List Char) (y : List Char) (P : List PChar) (syms r : List Sym)
    (h : symLit P syms = .full r) : litMatch P (renderS v syms ++ y) = some (renderS v r ++ y) := by
  fun_induction symLit P syms with
  | case1 => cases h; rfl
  | case2 c P r' ih =>
    simp only [renderS, List.cons_append, litMatch, PChar.matches, beq_self_eq_true, if_true]
    exact ih h
  | case3 => cases h
  | case4 => cases h

/-- `m` is a text the segment list matches completely -/
def Matches : List Seg → List Char → Prop
  | [], m => m = []
  | .lit p :: q, m => ∃ l m', m = l ++ m' ∧ litAgree p l = true ∧ Matches q m'
  | .fld _ cls _ :: q, m => ∃ f m', m = f ++ m' ∧ f.all cls.mem = true ∧ Matches q m'

theorem take_all_of_le_takeWhile (f : Char → Bool) : ∀ (s : List Char) (n : Nat), n ≤ (s.takeWhile f).length →
    (s.take n).all f = true := by
  intro s
  induction s with
  | nil => intro n _; simp
  | cons c s ih =>
    intro n h
    cases n with
    | zero => simp
    | succ n =>
      simp only [List.takeWhile_cons] at h
      by_cases hc : f c = true
      · simp only [hc, if_true, List.length_cons] at h
        simp only [List.take_succ_cons, List.all_cons, hc, Bool.true_and]
        exact ih n (by omega)
      · simp [hc] at h

theorem matchSegs_Matches : ∀ (q : List Seg) (x : List Char) (g : List (String × List Char)),
    matchSegs q x = some g → ∃ m r, x = m ++ r ∧ Matches q m := by
  intro q
  induction q with
  | nil => intro x g _; exact ⟨[], x, rfl, rfl⟩
  | cons sg q ih =>
    intro x g h
    cases sg with
    | lit p =>
      simp only [matchSegs] at h
      split at h
      · rename_i s' hs'
        obtain ⟨l, hl, ha⟩ := litMatch_some p x s' hs'
        obtain ⟨m', r, hm, hM⟩ := ih s' g h
        exact ⟨l ++ m', r, by rw [hl, hm]; simp, l, m', rfl, ha, hM⟩
      · simp at h
    | fld name cls lo =>
      simp only [matchSegs, Option.map_eq_some_iff] at h
      obtain ⟨⟨a, r'⟩, ht, _⟩ := h
      obtain ⟨n, hn, ha, hk⟩ := tryLens_some _ _ _ _ _ _ ht
      obtain ⟨m', r, hm, hM⟩ := ih _ _ hk
      refine ⟨x.take n ++ m', r, ?_, x.take n, m', rfl, take_all_of_le_takeWhile _ _ _ hn, hM⟩
      rw [List.append_assoc, ← hm, List.take_append_drop]

/-- `z` occurs in `x` behind exactly `c` commas and before the next one -/
def inPiece (z : Char) : Nat → List Char → Bool
  | _, [] => false
  | c, d :: x =>
    if d = ',' then (match c with | 0 => false | c' + 1 => inPiece z c' x)
    else if c = 0 then (d == z || inPiece z 0 x) else inPiece z c x

def commas (l : List Char) : Nat := (l.filter (· == ',')).length

theorem inPiece_skip (z : Char) (y : List Char) : ∀ (l : List Char) (c : Nat), inPiece z c y = true →
    inPiece z (commas l + c) (l ++ y) = true := by
  intro l
  induction l with
  | nil => intro c h; simpa [commas] using h
  | cons d l ih =>
    intro c h
    by_cases hd : d = ','
    · subst hd
      have e : commas (',' :: l) + c = (commas l + c) + 1 := by
        simp [commas]; omega
      rw [e]
      simp only [List.cons_append, inPiece, if_true]
      exact ih c h
    · have e : commas (d :: l) + c = commas l + c := by
        simp [commas, hd]
      rw [e]
      simp only [List.cons_append, inPiece, hd, if_false]
      by_cases h0 : commas l + c = 0
      · simp only [h0, if_true]
        have := ih c h
        rw [h0] at this
        simp [this]
      · simp only [h0, if_false]
        exact ih c h

theorem inPiece_mem (z : Char) (_hz : z ≠ ',') (y : List Char) : ∀ (l : List Char), commas l = 0 → z ∈ l →
    inPiece z 0 (l ++ y) = true := by
  intro l
  induction l with
  | nil => intro _ h; simp at h
  | cons d l ih =>
    intro hc hm
    have hd : d ≠ ',' := by
      intro e; subst e; simp [commas] at hc
    have hc' : commas l = 0 := by simpa [commas, hd] using hc
    simp only [List.cons_append, inPiece, hd, if_false, if_true]
    rcases List.mem_cons.mp hm with e | hm'
    · subst e; simp
    · simp [ih hc' hm']

/-- a literal without wildcard agrees with its own characters only -/
theorem litAgree_eq_map : ∀ (p : List PChar) (l : List Char), p.all (· != PChar.dot) = true → litAgree p l = true →
    p = l.map PChar.ch
  | [], [], _, _ => rfl
  | [], _ :: _, _, h => by simp [litAgree] at h
  | _ :: _, [], _, h => by simp [litAgree] at h
  | .dot :: _, _ :: _, hp, _ => by simp at hp
  | .ch a :: p, c :: l, hp, h => by
    simp only [litAgree, Bool.and_eq_true, PChar.matches, beq_iff_eq] at h
    simp only [List.all_cons, Bool.and_eq_true] at hp
    rw [h.1, litAgree_eq_map p l hp.2 h.2, List.map_cons]

theorem litAgree_chars (p : List PChar) (l : List Char) (hp : p.all (· != PChar.dot) = true) (h : litAgree p l = true) :
    commas l = (p.filter (· == PChar.ch ',')).length ∧ ∀ z, PChar.ch z ∈ p → z ∈ l := by
  rw [litAgree_eq_map p l hp h]
  refine ⟨?_, fun z hz => ?_⟩
  · rw [List.filter_map, List.length_map]
    exact congrArg List.length (List.filter_congr fun c _ => by
      by_cases hc : c = ','
      · subst hc; rfl
      · rw [beq_eq_false_iff_ne.mpr hc]
        exact (beq_eq_false_iff_ne.mpr fun e => hc (PChar.ch.inj e)).symm)
  · obtain ⟨c, hc, e⟩ := List.mem_map.mp hz
    exact PChar.ch.inj e ▸ hc

/-- the last segment is a literal without comma and wildcard that contains `z` -/
def lastLitHas (z : Char) : List Seg → Bool
  | [] => false
  | s :: q =>
    match q with
    | [] => (match s with
      | .lit p => p.contains (PChar.ch z) && p.all (fun c => c != PChar.ch ',' && c != PChar.dot)
      | .fld _ _ _ => false)
    | _ :: _ => lastLitHas z q

theorem all_notComma_commas (f : List Char) (h : f.all CharClass.notComma.mem = true) : commas f = 0 := by
  rw [commas, List.length_eq_zero_iff, List.filter_eq_nil_iff]
  intro c hc
  simpa [CharClass.mem] using List.all_eq_true.mp h c hc
/-- the first segment of a comma-free pattern consumes a text `l` with as many commas as its literal holds; a literal
    without wildcard consumes its own characters -/
theorem Matches_cons (s : Seg) (q : List Seg) (m : List Char) (hM : Matches (s :: q) m)
    (hcf : commaFree (s :: q) = true) :
    ∃ l m', m = l ++ m' ∧ Matches q m' ∧ commaFree q = true ∧ litCommas (s :: q) = commas l + litCommas q ∧
      ∀ p, s = .lit p → commas l = (p.filter (· == PChar.ch ',')).length ∧ ∀ z, PChar.ch z ∈ p → z ∈ l := by
  cases s with
  | lit p =>
    obtain ⟨l, m', hm, ha, hM'⟩ := hM
    simp only [commaFree, Bool.and_eq_true] at hcf
    obtain ⟨hc1, hc2⟩ := litAgree_chars p l hcf.1 ha
    exact ⟨l, m', hm, hM', hcf.2, by simp only [litCommas, hc1], fun p' e => by cases e; exact ⟨hc1, hc2⟩⟩
  | fld name cls lo =>
    obtain ⟨f, m', hm, hf, hM'⟩ := hM
    simp only [commaFree, Bool.and_eq_true, beq_iff_eq] at hcf
    have hc0 : commas f = 0 := all_notComma_commas f (by rw [← hcf.1]; exact hf)
    exact ⟨f, m', hm, hM', hcf.2, by simp only [litCommas, hc0, Nat.zero_add], fun p e => by cases e⟩

/-- a match of a pattern whose groups exclude the comma has its closing character `z`
    in the piece behind exactly `litCommas` commas -/
theorem Matches_inPiece (z : Char) (hz : z ≠ ',') : ∀ (q : List Seg) (m r : List Char),
    Matches q m → commaFree q = true → lastLitHas z q = true → inPiece z (litCommas q) (m ++ r) = true := by
  intro q
  induction q with
  | nil => intro m r _ _ h; simp [lastLitHas] at h
  | cons sg q ih =>
    intro m r hM hcf hl
    obtain ⟨l, m', rfl, hM', hcf', he, hlit⟩ := Matches_cons sg q m hM hcf
    cases q with
    | cons s' q' =>
      rw [he, List.append_assoc]
      exact inPiece_skip z _ l _ (ih m' r hM' hcf' (by simpa [lastLitHas] using hl))
    | nil =>
      -- the last segment: a literal that holds `z` and no comma
      cases sg with
      | fld name cls lo => simp [lastLitHas] at hl
      | lit p =>
        obtain ⟨hc1, hc2⟩ := hlit p rfl
        simp only [Matches] at hM'
        subst hM'
        simp only [lastLitHas, Bool.and_eq_true, List.contains_iff_mem] at hl
        have hnc : (p.filter (· == PChar.ch ',')).length = 0 := by
          rw [List.length_eq_zero_iff, List.filter_eq_nil_iff]
          intro a ha'
          have := List.all_eq_true.mp hl.2 a ha'
          simp only [Bool.and_eq_true, bne_iff_ne, ne_eq] at this
          simpa using this.1
        simp only [litCommas, hnc, Nat.add_zero, List.append_nil]
        exact inPiece_mem z hz r l (by rw [hc1, hnc]) (hc2 z (by simpa using hl.1))

/-- walk the symbolic text to the piece behind `c` commas: `some names` = that piece is reached and
    closed by a comma, holds no literal `z`, and `names` are the fields walked over (their texts must
    hold neither `,` nor `z`); `none` = cannot tell -/
def winOK (z : Char) : Nat → List Sym → Option (List String)
  | _, [] => none
  | c, .fld n :: r => (winOK z c r).map (n :: ·)
  | c, .ch d :: r =>
    if d = ',' then (match c with | 0 => some [] | c' + 1 => winOK z c' r)
    else if c = 0 ∧ d = z then none else winOK z c r

def CleanText (z : Char) (x : List Char) : Prop := ∀ d ∈ x, d ≠ ',' ∧ d ≠ z

theorem inPiece_clean (z : Char) (y : List Char) (c : Nat) : ∀ (f : List Char), CleanText z f →
    inPiece z c (f ++ y) = inPiece z c y := by
  intro f
  induction f with
  | nil => intro _; rfl
  | cons d f ih =>
    intro h
    have hd := h d (by simp)
    have ih' := ih (fun e he => h e (by simp [he]))
    simp only [List.cons_append, inPiece, hd.1, if_false]
    by_cases hc : c = 0
    · subst hc
      have : (d == z) = false := by simpa using hd.2
      simp [this, ih']
    · simp [hc, ih']

theorem winOK_sound (z : Char) (v : String → List Char) (y : List Char) (syms : List Sym) (c : Nat)
    (names : List String) (h : winOK z c syms = some names) (hclean : ∀ n ∈ names, CleanText z (v n)) :
    inPiece z c (renderS v syms ++ y) = false := by
  fun_induction winOK z c syms generalizing names with
  | case1 => cases h
  | case2 c n r ih =>
    obtain ⟨ns, hns, rfl⟩ := Option.map_eq_some_iff.mp h
    simp only [renderS, List.append_assoc]
    rw [inPiece_clean z _ c (v n) (hclean n (by simp))]
    exact ih ns hns (fun m hm => hclean m (by simp [hm]))
  | case3 r => simp [renderS, inPiece]
  | case4 c' r ih =>
    simp only [renderS, List.cons_append, inPiece, if_true]
    exact ih names h hclean
  | case5 => cases h
  | case6 c d r hd hcz ih =>
    simp only [renderS, List.cons_append, inPiece, hd, if_false]
    by_cases hc : c = 0
    · subst hc
      have : (d == z) = false := by simpa using fun e => hcz ⟨rfl, e⟩
      simp only [if_true, this, Bool.false_or]
      exact ih names h hclean
    · simp only [hc, if_false]
      exact ih names h hclean

def tailAvoids (P : List PChar) (d m : Char) : Bool :=
  P.all (fun p => match p with | .ch c => c != d | .dot => false) && P.contains (PChar.ch m)

theorem litMatch_avoid (P : List PChar) (d m : Char) (y : List Char) : ∀ (u : List Char),
    P.all (fun p => match p with | .ch c => c != d | .dot => false) = true → PChar.ch m ∈ P → m ∉ u →
    litMatch P (u ++ d :: y) = none := by
  intro u
  induction u generalizing P with
  | nil =>
    intro hall hm _
    cases P with
    | nil => simp at hm
    | cons p P =>
      simp only [List.all_cons, Bool.and_eq_true] at hall
      cases p with
      | dot => simp at hall
      | ch c =>
        have : (c == d) = false := by simpa using hall.1
        simp [litMatch, PChar.matches, this]
  | cons a u ih =>
    intro hall hm hu
    cases P with
    | nil => simp at hm
    | cons p P =>
      simp only [List.all_cons, Bool.and_eq_true] at hall
      cases p with
      | dot => simp at hall
      | ch c =>
        simp only [List.cons_append, litMatch, PChar.matches]
        by_cases hca : c = a
        · subst hca
          simp only [beq_self_eq_true, if_true]
          have hcm : c ≠ m := by
            intro e; subst e; exact hu (by simp)
          have hm' : PChar.ch m ∈ P := by
            simp only [List.mem_cons, PChar.ch.injEq] at hm
            rcases hm with e | hm
            · exact absurd e.symm hcm
            · exact hm
          exact ih P hall.2 hm' (fun e => hu (by simp [e]))
        · have : (c == a) = false := by simpa using hca
          simp [this]

/-- the structural check of all offsets of the symbolic text in front of a component whose pattern is
    `lit H :: q'`; `some names` = no anchored match can start there provided no field text holds the marker
    `m` and the texts of `names` hold neither `,` nor `z` -/
def neOK (H : List PChar) (q' : List Seg) (z m : Char) : List Sym → Option (List String)
  | [] => some []
  | .ch d :: r =>
    match (match symLit H (.ch d :: r) with
      | .clash => some []
      | .full r' => if commaFree q' && lastLitHas z q' && z != ',' then winOK z (litCommas q') r' else none
      | .unknown => none), neOK H q' z m r with
    | some a, some b => some (a ++ b)
    | _, _ => none
  | .fld _ :: r =>
    match r with
    | .ch d :: _ => if tailAvoids (H.drop 1) d m then neOK H q' z m r else none
    | _ => none

/-- where the first literal is matched completely by known characters (`note(` inside `snote(`), the comma count
    decides: a match would put its closing character into a piece of the line that holds none -/
theorem matchSegs_full_none (H : List PChar) (q' : List Seg) (z : Char) (v : String → List Char) (y : List Char)
    (syms r' : List Sym) (names : List String) (hfull : symLit H syms = .full r')
    (hcf : commaFree q' = true) (hl : lastLitHas z q' = true) (hz : z ≠ ',')
    (hw : winOK z (litCommas q') r' = some names) (hclean : ∀ n ∈ names, CleanText z (v n)) :
    matchSegs (Seg.lit H :: q') (renderS v syms ++ y) = none := by
  simp only [matchSegs, symLit_full v y H syms r' hfull]
  cases hms : matchSegs q' (renderS v r' ++ y) with
  | none => rfl
  | some g =>
    obtain ⟨mm, rr, hx, hM⟩ := matchSegs_Matches q' _ g hms
    have h1 := Matches_inPiece z hz q' mm rr hM hcf hl
    rw [← hx, winOK_sound z v y r' (litCommas q') names hw hclean] at h1
    cases h1

/-- inside a field text: the first literal cannot be completed before the character `d` that follows the field,
    because its tail avoids `d` and holds the marker `m`, which the field text does not -/
theorem matchSegs_in_field (h0 : PChar) (P : List PChar) (q' : List Seg) (d m a : Char) (u rest : List Char)
    (hta : tailAvoids P d m = true) (hm : m ∉ u) : matchSegs (Seg.lit (h0 :: P) :: q') (a :: u ++ d :: rest) = none := by
  simp only [tailAvoids, Bool.and_eq_true, List.contains_iff_mem] at hta
  simp only [matchSegs, List.cons_append, litMatch, litMatch_avoid P d m rest u hta.1 hta.2 hm, ite_self]

theorem neOK_sound (H : List PChar) (q' : List Seg) (z m : Char) (v : String → List Char) (y : List Char)
    (hH : H ≠ []) (syms : List Sym) (names : List String)
    (h : neOK H q' z m syms = some names) (hm : ∀ n ∈ symFields syms, m ∉ v n)
    (hclean : ∀ n ∈ names, CleanText z (v n)) (k : Nat) (hk : k < (renderS v syms).length) :
    matchSegs (Seg.lit H :: q') ((renderS v syms ++ y).drop k) = none := by
  fun_induction neOK H q' z m syms generalizing names k with
  | case1 => simp [renderS] at hk
  | case2 d r a b hb ha ih =>
    obtain rfl : a ++ b = names := Option.some.inj h
    cases k with
    | zero =>
      -- at a known character: a clash, or a complete match refuted by the comma count
      simp only [List.drop_zero]
      split at ha
      · rename_i hcl
        simp only [matchSegs, symLit_clash v y H _ hcl]
      · rename_i r' hfull
        split at ha
        · rename_i hcond
          simp only [Bool.and_eq_true, bne_iff_ne, ne_eq] at hcond
          exact matchSegs_full_none H q' z v y _ r' a hfull hcond.1.1 hcond.1.2 hcond.2 ha
            (fun n hn => hclean n (by simp [hn]))
        · cases ha
      · cases ha
    | succ k =>
      simp only [renderS, List.cons_append, List.drop_succ_cons]
      simp only [renderS, List.length_cons] at hk
      exact ih b hb (fun n hn => hm n (by simpa [symFields] using hn))
        (fun n hn => hclean n (by simp [hn])) k (by omega)
  | case3 => cases h
  | case4 n d r' hta ih =>
    simp only [renderS, List.append_assoc]
    by_cases hkv : k < (v n).length
    · -- inside the field text
      rw [List.drop_append_of_le_length (by omega), List.drop_eq_getElem_cons hkv]
      have hmu : m ∉ (v n).drop (k + 1) := fun hin => hm n (by simp [symFields]) (List.mem_of_mem_drop hin)
      cases H with
      | nil => exact absurd rfl hH
      | cons h0 P => exact matchSegs_in_field h0 P q' d m _ _ _ hta hmu
    · -- behind the field text
      have hk2 : (v n).length ≤ k := by omega
      rw [List.drop_append, List.drop_eq_nil_of_le hk2, List.nil_append]
      simp only [renderS, List.length_append] at hk
      exact ih names h (fun n' hn' => hm n' (by
        simp only [symFields, List.mem_cons] at hn' ⊢; exact Or.inr hn')) hclean (k - (v n).length) (by
        simp only [renderS] at hk ⊢; omega)
  | case5 => cases h
  | case6 => cases h

/-- the marker character of a component's first literal (`note(`, `ptime([`) and the character that
    closes a performed note -/
def marker : Char := '('
def closer : Char := ')'

/-- the structural check of a symbolic text against the pattern of `b`, whose first segment must be a non-empty
    literal: `some names` = no anchored match of the pattern starts inside the text, provided no field text holds `(`
    and the texts of the fields `names` hold neither `,` nor `)` -/
def patNames (b : Template) (syms : List Sym) : Option (List String) :=
  match b.pat with
  | .lit H :: q' => if H.isEmpty then none else neOK H q' closer marker syms
  | _ => none

theorem patNames_pat (b : Template) (syms : List Sym) (names : List String) (h : patNames b syms = some names) :
    ∃ H q', b.pat = .lit H :: q' ∧ H ≠ [] ∧ neOK H q' closer marker syms = some names := by
  unfold patNames at h
  split at h
  · rename_i H q' hpat
    split at h
    · cases h
    · rename_i hne
      exact ⟨H, q', hpat, by rintro rfl; simp at hne, h⟩
  · cases h

theorem patNames_sound (b : Template) (syms : List Sym) (names : List String) (v : String → List Char) (y : List Char)
    (h : patNames b syms = some names) (hm : ∀ n ∈ symFields syms, marker ∉ v n)
    (hclean : ∀ n ∈ names, CleanText closer (v n)) (k : Nat) (hk : k < (renderS v syms).length) :
    matchSegs b.pat ((renderS v syms ++ y).drop k) = none := by
  obtain ⟨H, q', hpat, hH, hok⟩ := patNames_pat b syms names h
  rw [hpat]
  exact neOK_sound H q' closer marker v y hH syms names hok hm hclean k hk

/-- the structural check of the text in front of component `b`, written with the out_pattern `o`:
    `some names` = no anchored match of `b`'s pattern can start in front of it, provided no field text in
    front holds `(` and the texts of the fields `names` hold neither `,` nor `)` -/
def earlyNames (o : List OSeg) (b : Template) : Option (List String) :=
  match b.pat with
  | .lit H :: q' => if H.isEmpty then none else neOK H q' closer marker (flat o)
  | _ => none

theorem earlyNames_eq (o : List OSeg) (b : Template) : earlyNames o b = patNames b (flat o) := rfl

/-- `noEarly` for the last component of a composite, from the structural check -/
theorem early_of_names (o : List OSeg) (b : Template) (names : List String) (v : String → List Char) (s : List Char)
    (hn : earlyNames o b = some names) (hm : ∀ n ∈ symFields (flat o), marker ∉ v n)
    (hclean : ∀ n ∈ names, CleanText closer (v n)) : noEarly b.pat (render o v) s = true := by
  unfold noEarly
  rw [List.all_eq_true]
  intro k hk
  simp only [List.mem_range] at hk
  have := patNames_sound b (flat o) names v s (earlyNames_eq o b ▸ hn) hm hclean k (by rw [renderS_flat]; exact hk)
  rw [renderS_flat] at this
  simp [this]

end Model.Template
