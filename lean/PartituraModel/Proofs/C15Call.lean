/-
C15: lemmas about the call as a whole (Model/MergeCall.lean): flattening of arguments with foreign objects,
`mergeChecked` / `mergeCall` against `mergeParts`.
-/
import PartituraModel.Model.MergeCall
import PartituraModel.Proofs.C15Loop

namespace C15
open Model.Merge

mutual
  theorem xflattenTree_toX : ∀ t : Tree, xflattenTree t.toX = some (flattenTree t)
    | .part p => by simp [Tree.toX, xflattenTree, flattenTree]
    | .group cs => by simp [Tree.toX, xflattenTree, flattenTree, xflattenList_toX cs]
  theorem xflattenList_toX : ∀ ts : List Tree, xflattenList (Tree.listToX ts) = some (flattenList ts)
    | [] => by simp [Tree.listToX, xflattenList, flattenList]
    | t :: ts => by simp [Tree.listToX, xflattenList, flattenList, xflattenTree_toX t, xflattenList_toX ts]
end

theorem xiterParts_toX (s : Shape) : xiterParts s.toX = some (iterParts s) := by
  cases s with
  | one t => simp [Shape.toX, xiterParts, iterParts, xflattenTree_toX]
  | many ts => simp [Shape.toX, xiterParts, iterParts, xflattenList_toX]

theorem xflattenList_parts (l : List APart) : xflattenList (l.map .part) = some l := by
  induction l with
  | nil => simp [xflattenList]
  | cons p ps ih => simp [xflattenList, xflattenTree, ih]

theorem xflattenList_none_of_mem {ts : List XTree} {t : XTree} (ht : t ∈ ts) (hbad : xflattenTree t = none) :
    xflattenList ts = none := by
  induction ts with
  | nil => simp at ht
  | cons a as ih =>
    rcases List.mem_cons.mp ht with rfl | h
    · simp [xflattenList, hbad]
    · simp only [xflattenList, ih h]
      cases xflattenTree a <;> rfl

theorem xargParts_toX (a : Arg) : (xargParts a.toX).toOption = argParts a := by
  cases a with
  | plain s => simp [Arg.toX, xargParts, xiterParts_toX, argParts, Except.toOption]
  | score s ops =>
    simp only [Arg.toX, xargParts, argParts]
    cases runOps (mkScore s) ops <;> simp [Except.toOption]

theorem mergeChecked_single {m : Mode} {parts : List APart} {p : APart} (h : distinctParts parts = [p]) :
    mergeChecked m parts = .ok (.same p) := by
  rw [mergeChecked, h]

theorem mergeChecked_many {m : Mode} {parts : List APart} (h2 : 2 ≤ (distinctParts parts).length) :
    mergeChecked m parts =
      if !((distinctParts parts).all fun p => 0 < p.divs) then .error .divisions
      else match mergeParts m (distinctParts parts) with
        | some r => .ok r
        | none => .error .other := by
  unfold mergeChecked
  generalize distinctParts parts = ps at h2 ⊢
  match ps, h2 with
  | _ :: _ :: _, _ => rfl

theorem mergeChecked_toOption (m : Mode) (parts : List APart) :
    (mergeChecked m parts).toOption = mergeParts m (distinctParts parts) := by
  unfold mergeChecked
  match h : distinctParts parts with
  | [] => simp [mergeParts_nil, Except.toOption]
  | [p] => simp [mergeParts_singleton, Except.toOption]
  | p :: q :: rest =>
    simp only
    by_cases hd : ((p :: q :: rest).all fun p => 0 < p.divs) = true
    · simp only [hd, Bool.not_true, Bool.false_eq_true, if_false]
      cases mergeParts m (p :: q :: rest) <;> simp [Except.toOption]
    · simp only [hd, Bool.not_false, if_true, Except.toOption]
      rw [mergeParts_two]
      simp [hd]

theorem contains_eq_isSome (r : String) : Gen.C15.reassignValues.contains r = (modeOf r).isSome := by
  simp only [Gen.C15.reassignValues, List.contains_cons, List.contains_nil, modeOf]
  -- the validator and the parser of the mode test `r` against the same three strings in the same order
  cases r == "voice" <;> cases r == "staff" <;> cases r == "auto" <;> rfl

theorem mergeCall_of_mode {r : String} {m : Mode} (hm : modeOf r = some m) (a : XArg) :
    mergeCall (some r) a = (xargParts a).bind (mergeChecked m) := by
  have hv : Gen.C15.reassignValues.contains r = true := by rw [contains_eq_isSome, hm]; rfl
  simp only [mergeCall, Option.getD_some, hv, Bool.not_true, Bool.false_eq_true, if_false, hm]
  cases xargParts a <;> rfl

end C15
