/-
The sample tables of `time_signature_map`, `key_signature_map` and `clef_map`: what the maps do to their rows before
interpolating (`prepared`: two default rows when there is none, a single row twice, back-fill to the first time point)
does not change the answer on the timeline.  One equation per map (`tsMap_eq`, `tsMapE_eq`, `ksMap_eq`, `clefStaff_eq`):
the back-filled lookup in the rows, the default when there are none.
-/
import PartituraModel.Model.StepMapPart
import PartituraModel.Proofs.C10Lookup
import PartituraModel.Proofs.Forall2

namespace C10
open Model Model.StepMap

theorem interpPrev_backfill {α : Type} (rows : Tbl α) (f l x : Int) (hne : rows ≠ []) (hx : f ≤ x) :
    interpPrev (backfill (some (f, l)) rows) x = lookupPrev rows x := by
  obtain ⟨w, hw⟩ := Option.isSome_iff_exists.mp (lookupPrev_isSome rows x hne)
  rw [hw]
  apply interpPrev_of_some
  cases rows with
  | nil => exact absurd rfl hne
  | cons hd rest =>
    obtain ⟨t, v⟩ := hd
    by_cases hft : f < t
    · -- a copy of the first row is put in front: it answers where the rows themselves answer NaN
      simp only [backfill, hft, if_true]
      rw [lastLE_cons_of_le f v _ x hx, ← hw]
      unfold lookupPrev
      cases lastLE ((t, v) :: rest) x <;> rfl
    · simp only [backfill, hft, if_false]
      rw [← hw, lastLE_cons_of_le t v rest x (by omega)]
      exact (lookupPrev_of_some _ x _ (lastLE_cons_of_le t v rest x (by omega))).symm

/-- what `time_signature_map` and `clef_map` do to their rows before interpolating: two default rows (first and
    last time point) when there are none, a single row twice, then the back-fill to the first time point -/
def prepared {α : Type} (span : Span) (dflt : α) (rows : Tbl α) : Tbl α :=
  backfill span (match rows with
    | [] => let (t0, tN) := spanOrZero span; [(t0, dflt), (tN, dflt)]
    | [r] => [r, r]
    | _ => rows)

theorem tsTableOf_eq (span : Span) (rows : Tbl TSv) : tsTableOf span rows = prepared span (4, 4, 4) rows := by
  match rows with
  | [] | [_] | _ :: _ :: _ => rfl

theorem clefTableStaff_eq (span : Span) (rows : Tbl ClefV) (noneCode s : Int) :
    clefTableStaff span rows noneCode s = prepared span (s, noneCode, 0, 0) (rows.filter fun r => r.2.1 = s) := by
  unfold clefTableStaff
  generalize rows.filter (fun r => r.2.1 = s) = mine
  match mine with
  | [] | [_] | _ :: _ :: _ => rfl

theorem prepared_nil {α : Type} (span : Span) (v : α) :
    prepared span v [] = [((spanOrZero span).1, v), ((spanOrZero span).2, v)] := by
  cases span with
  | none => rfl
  | some p => exact if_neg (Int.lt_irrefl p.1)

theorem interpPrev_prepared_nil {α : Type} (span : Span) (v : α) (x : Int) (hx : (spanOrZero span).1 ≤ x) :
    interpPrev (prepared span v []) x = some v := by
  rw [prepared_nil]
  apply interpPrev_of_some
  rw [lastLE_cons_of_le _ _ _ x hx]
  by_cases h2 : x < (spanOrZero span).2
  · rw [lastLE_cons_of_lt _ _ _ x h2]; rfl
  · rw [lastLE_cons_of_le _ _ _ x (by omega)]; rfl

theorem span_eq_some {α : Type} {span : Span} {rows : List α} (hsp : span = none → rows = []) (hr : rows ≠ []) :
    ∃ f l, span = some (f, l) := by
  cases span with
  | none => exact absurd (hsp rfl) hr
  | some p => exact ⟨p.1, p.2, rfl⟩

/-- on the timeline a map built with `prepared` answers the back-filled lookup in its rows, and the default when it has
    none (a part without time points has no rows) -/
theorem interpPrev_prepared_eq {α : Type} (span : Span) (d : α) (rows : Tbl α) (x : Int)
    (hx : (spanOrZero span).1 ≤ x) (hsp : span = none → rows = []) :
    interpPrev (prepared span d rows) x = some ((lookupPrev rows x).getD d) := by
  match rows with
  | [] => exact interpPrev_prepared_nil span d x hx
  | [(t, w)] =>
    obtain ⟨f, l, rfl⟩ := span_eq_some hsp (List.cons_ne_nil _ _)
    show interpPrev (backfill (some (f, l)) [(t, w), (t, w)]) x = _
    rw [interpPrev_backfill _ f l x (List.cons_ne_nil _ _) hx]
    -- the row twice answers like the row once
    unfold lookupPrev lastLE lastLE
    by_cases h : x < t <;> simp only [h, if_true, if_false] <;> rfl
  | a :: b :: rest =>
    obtain ⟨f, l, rfl⟩ := span_eq_some hsp (List.cons_ne_nil _ _)
    rw [some_getD_lookupPrev _ x d (List.cons_ne_nil _ _)]
    exact interpPrev_backfill _ f l x (List.cons_ne_nil _ _) hx

/-- the time signatures as a table keyed by start time (for `SortedLT` / `InForce`) -/
def tsTbl (ts : List TimeMap.TSig) : Tbl TimeMap.TSig := ts.map fun s => (s.t, s)

theorem ksRows_eq (kss : List (Int × Int × Mode)) :
    ksRows kss = mapVal (fun v : Int × Mode => (v.1, keyModeToInt v.2)) kss := rfl

theorem tsRowsE_eq (ts : List TimeMap.TSig) :
    tsRowsE ts = mapVal (fun s : TimeMap.TSig => (s.beats, s.beatType, s.mb)) (tsTbl ts) := by
  unfold tsRowsE tsTbl mapVal
  rw [List.map_map]
  rfl

theorem tsTable_eq_tableOf (span : Span) (tss : List (Int × Nat × Nat)) :
    tsTable span tss = tsTableOf span (tsRows tss) := rfl

theorem tsMap_eq (span : Span) (tss : List (Int × Nat × Nat)) (x : Int) (hx : (spanOrZero span).1 ≤ x)
    (hsp : span = none → tss = []) : tsMap span tss x = some ((lookupPrev (tsRows tss) x).getD (4, 4, 4)) := by
  unfold tsMap
  rw [tsTable_eq_tableOf, tsTableOf_eq]
  exact interpPrev_prepared_eq span _ _ x hx fun h => List.map_eq_nil_iff.mpr (hsp h)

theorem tsMapE_eq (span : Span) (ts : List TimeMap.TSig) (x : Int) (hx : (spanOrZero span).1 ≤ x)
    (hsp : span = none → ts = []) : tsMapE span ts x = some ((lookupPrev (tsRowsE ts) x).getD (4, 4, 4)) := by
  unfold tsMapE
  rw [tsTableOf_eq]
  exact interpPrev_prepared_eq span _ _ x hx fun h => List.map_eq_nil_iff.mpr (hsp h)

/-- `key_signature_map` does not double a single row and puts both default rows at the first time point: the same
    equation by its own case split -/
theorem ksMap_eq (span : Span) (kss : List (Int × Int × Mode)) (x : Int) (hx : (spanOrZero span).1 ≤ x)
    (hsp : span = none → kss = []) : ksMap span kss x = some ((lookupPrev (ksRows kss) x).getD (0, 1)) := by
  cases kss with
  | nil =>
    apply interpPrev_of_some
    show lastLE [((spanOrZero span).1, ((0 : Int), (1 : Int))), ((spanOrZero span).1, (0, 1))] x = _
    rw [lastLE_cons_of_le _ _ _ x hx, lastLE_cons_of_le _ _ _ x hx]
    rfl
  | cons a rest =>
    obtain ⟨f, l, rfl⟩ := span_eq_some hsp (List.cons_ne_nil _ _)
    rw [some_getD_lookupPrev (ksRows (a :: rest)) x _ (List.cons_ne_nil _ _)]
    exact interpPrev_backfill (ksRows (a :: rest)) f l x (List.cons_ne_nil _ _) hx

/-- the row of one clef (missing line / octave change = 0); `none` = `KeyError` of `clef_sign_to_int` -/
def clefRow (c : RawClef) : Option (Int × ClefV) :=
  (clefSignToInt c.2.2.1).map fun code => (c.1, (c.2.1, code, c.2.2.2.1.getD 0, c.2.2.2.2.getD 0))

theorem clefRows_eq_mapM : ∀ clefs : List RawClef, clefRows clefs = clefs.mapM clefRow
  | [] => rfl
  | (t, st, sign, line, oc) :: rest => by
    rw [List.mapM_cons, ← clefRows_eq_mapM rest]
    show (match clefSignToInt sign, clefRows rest with
      | some code, some rs =>
        some ((t, (st, code, (match line with | some l => l | none => 0), match oc with | some o => o | none => 0)) :: rs)
      | _, _ => none) = (clefRow (t, st, sign, line, oc)).bind fun r => (clefRows rest).bind fun rs => some (r :: rs)
    unfold clefRow
    -- `getD` computes once `line` and `oc` are `none` or `some`
    cases clefSignToInt sign with
    | none => rfl
    | some code => cases clefRows rest <;> cases line <;> cases oc <;> rfl

theorem clefRows_forall₂ (clefs : List RawClef) (rows : Tbl ClefV) (h : clefRows clefs = some rows) :
    List.Forall₂ (fun c r => clefRow c = some r) clefs rows :=
  Lists.mapM_forall₂ (clefRows_eq_mapM clefs ▸ h)

theorem clefRows_times (clefs : List RawClef) (rows : Tbl ClefV) (h : clefRows clefs = some rows) :
    rows.map (·.1) = clefs.map (·.1) := by
  have hf := clefRows_forall₂ clefs rows h
  clear h
  induction hf with
  | nil => rfl
  | cons hab _ ih =>
    obtain ⟨code, -, rfl⟩ := Option.map_eq_some_iff.mp hab
    rw [List.map_cons, List.map_cons, ih]

theorem clefRows_sorted (clefs : List RawClef) (rows : Tbl ClefV) (h : clefRows clefs = some rows)
    (hs : clefs.Pairwise fun a b => a.1 ≤ b.1) : SortedLE rows := by
  unfold SortedLE
  have h1 : (rows.map (·.1)).Pairwise (· ≤ ·) := by
    rw [clefRows_times clefs rows h, List.pairwise_map]
    exact hs
  rwa [List.pairwise_map] at h1

theorem clefStaff_eq (span : Span) (rows : Tbl ClefV) (noneCode s x : Int) (hx : (spanOrZero span).1 ≤ x)
    (hsp : span = none → rows = []) :
    interpPrev (clefTableStaff span rows noneCode s) x
      = some ((lookupPrev (rows.filter fun r => r.2.1 = s) x).getD (s, noneCode, 0, 0)) := by
  rw [clefTableStaff_eq]
  exact interpPrev_prepared_eq span _ _ x hx fun h => by rw [hsp h]; rfl

/-- `clef_map` of a part whose clef signs are all known: one interpolator per staff `1..number_of_staves`
    (`6` is the code of the `none` clef, `CLEF_TO_INT["none"]`) -/
theorem clefMap_rows (span : Span) (clefs : List RawClef) (others : List Int) (rows : Tbl ClefV)
    (hr : clefRows clefs = some rows) (x : Int) :
    ∃ res, clefMap span clefs others x = some res ∧
      res.length = numberOfStaves (clefs.map (·.2.1) ++ others) ∧
      ∀ i : Nat, i < numberOfStaves (clefs.map (·.2.1) ++ others) →
        res[i]? = some (interpPrev (clefTableStaff span rows 6 ((i : Int) + 1)) x) := by
  have hn : clefSignToInt "none" = some 6 := by decide +kernel
  refine ⟨_, by unfold clefMap; rw [hr, hn], by rw [List.length_map, List.length_range], fun i hi => ?_⟩
  rw [List.getElem?_map, List.getElem?_range hi]
  rfl

end C10
