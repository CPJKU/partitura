/-
C12 — Python's `x in (…)` chains (`Model.chainFind`), and the equations `fG = f`: the conversion functions of
Model/Conversions.lean coincide with their namesakes of Model/Pitch.lean, some up to the wrapping of the result
(`fifthsModeToKeyNameG`: Props/C12Ext.lean, where the meaning of a mode argument is defined).  Every lemma here re-elaborates when a literal
of the source changes.

Names.  A conversion function exists in two or three copies, told apart by the last letter:
  * no suffix (`spellingToMidi`, Model/Pitch.lean): written by hand, constants as numerals;
  * `G` (`spellingToMidiG`; Model/Conversions.lean, Model/ConversionsArr.lean): over the literals GENERATED from the
    function's own body (Gen/C12Tables.lean, namespace `Gen.C12`; Gen/C12Lits.lean, namespace `Gen.C12L`), with
    Python's glue (mode chains, range guard, keyword defaults);
  * `key_name_to_fifths_mode` has three: `keyNameToFifthsModeL fl` takes its `fifths_list` as a parameter (and is
    otherwise the text of Model/Pitch.lean), `…G` is its value at the generated list, `…K` (Model/ConversionsArr.lean)
    has every constant (K) of the body generated: rotations, thresholds, marks, the factor seven;
  * `…Arr` are the `ndarray` forms of the tick conversions, `…N` (Model/ConversionsNum.lean) takes a Python number.
A theorem `X` of Props/C12.lean is about the first copy.  Where it is stated again for the `G` copy it is `X_src`
(Props/C12Ext.lean, eight of them), transported along the equations of this file; for the `G`/`K` copies of
Model/ConversionsArr.lean `X_lits` (Props/C12Lits.lean, along Proofs/C12Lits.lean); for the array form
`tick_sec_tick_arr` (Props/C12More.lean).
-/
import PartituraModel.Model.Conversions
import PartituraModel.Proofs.Scan

namespace C12
open Model Gen

/-- the step test of `ensure_pitch_spelling_format`: a key of MIDI_BASE_CLASS or the rest letter, in either case -/
def stepAccepted (s : String) : Bool := !((lookup (lower s) MIDI_BASE_CLASS).isNone && decide (lower s ≠ "r"))

end C12

namespace C12Bridge
open Model Gen Gen.C12

/-- the test of `ensure_pitch_spelling_format` on an accepted step, in the form its text has -/
theorem step_test {s : String} (h : C12.stepAccepted s = true) :
    ((lookup (lower s) MIDI_BASE_CLASS).isNone && decide (lower s ≠ "r")) = false := by
  rwa [C12.stepAccepted, Bool.not_eq_true'] at h

theorem chainFind_map {β γ : Type} (g : β → γ) (x : PyLit) :
    ∀ l : List (List PyLit × β), chainFind x (l.map fun e => (e.1, g e.2)) = (chainFind x l).map g
  | [] => rfl
  | (t, b) :: rest => by
    simp only [List.map_cons, chainFind]
    split
    · rfl
    · exact chainFind_map g x rest

theorem chainFind_isSome {β : Type} (x : PyLit) :
    ∀ l : List (List PyLit × β), (chainFind x l).isSome ↔ x ∈ (l.map Prod.fst).flatten
  | [] => by simp [chainFind]
  | (t, b) :: rest => by
    rw [chainFind, List.map_cons, List.flatten_cons, List.mem_append, ← chainFind_isSome x rest]
    split <;> simp_all

theorem chainFind_mem {β : Type} (x : PyLit) :
    ∀ (l : List (List PyLit × β)) (b : β), chainFind x l = some b → b ∈ l.map Prod.snd
  | (t, b') :: rest, b, h => by
    rw [chainFind] at h
    split at h
    · cases h; exact List.mem_cons_self
    · exact List.mem_cons_of_mem _ (chainFind_mem x rest b h)

theorem isStepCharG_eq : isStepCharG = isStepChar := by
  funext c; rfl

theorem isAccCharG_eq : isAccCharG = isAccChar := by
  funext c
  simp [isAccCharG, isAccChar, noteAccChars, Bool.or_assoc]

theorem matchNoteNameAtG_eq (cs : List Char) : matchNoteNameAtG cs = matchNoteNameAt cs := by
  unfold matchNoteNameAtG matchNoteNameAt
  rw [isStepCharG_eq, isAccCharG_eq]
  rfl

theorem searchNoteNameG_eq : ∀ cs : List Char, searchNoteNameG cs = searchNoteName cs
  | [] => rfl
  | c :: rest => by
    unfold searchNoteNameG searchNoteName
    rw [matchNoteNameAtG_eq, searchNoteNameG_eq rest]
    rfl

theorem alterOr_zero (a : Option Int) : alterOr a 0 = a.getD 0 := by
  cases a with
  | none => rfl
  | some v =>
    by_cases h : v = 0
    · simp [alterOr, h]
    · simp [alterOr, h]

theorem spellingToMidiG_eq (s : String) (a : Option Int) (o : Int) : spellingToMidiG s a o = spellingToMidi s a o := by
  unfold spellingToMidiG spellingToMidi
  have h1 : s2mShift = 1 := rfl
  have h2 : s2mOctave = 12 := rfl
  have h3 : s2mNoAlter = 0 := rfl
  rw [h1, h2, h3, alterOr_zero]

/-- every step letter of the dummy spelling table is a letter `ensure_pitch_spelling_format` accepts -/
theorem dummy_steps_ok :
    ∀ e ∈ DUMMY_PS_BASE_CLASS, C12.stepAccepted e.2.1 = true := by
  decide +kernel

theorem ensureFormat_int (s : String) (a o : Int) (h : C12.stepAccepted s = true) :
    ensureFormat s (.int a) (.int o) = some (upper s, some a, some o) := by
  unfold ensureFormat
  simp only [step_test h]
  rfl

theorem midiToSpellingG_eq (p : Int) :
    midiToSpellingG p = (midiToSpelling p).map fun r => (r.1, some r.2.1, some r.2.2) := by
  unfold midiToSpellingG midiToSpelling
  have h1 : m2sOctave = 12 := rfl
  have h2 : m2sShift = 1 := rfl
  have h3 : m2sModulus = 12 := rfl
  rw [h1, h2, h3]
  cases hf : DUMMY_PS_BASE_CLASS.find? (fun e => decide ((e.1 : Int) = p % 12)) with
  | none => rfl
  | some e =>
    obtain ⟨k, step, alter⟩ := e
    have hok := dummy_steps_ok _ (List.mem_of_find?_eq_some hf)
    simp only [Option.map_some]
    exact ensureFormat_int step alter (p / 12 - 1) hok

/-- the seven step characters of the pattern are letters `ensure_pitch_spelling_format` accepts -/
theorem step_chars_ok :
    ∀ c ∈ ['A', 'B', 'C', 'D', 'E', 'F', 'G'],
      C12.stepAccepted (String.ofList [c]) = true := by
  decide +kernel

theorem isStepChar_mem (c : Char) (h : isStepChar c = true) : c ∈ ['A', 'B', 'C', 'D', 'E', 'F', 'G'] := by
  simp only [isStepChar, Bool.and_eq_true, decide_eq_true_eq] at h
  exact Lists.char_mem_of_range (lo := 65) (hi := 71) h.1 h.2

theorem ensureFormat_sign (s : String) (sg : String) (o : Int) (h : C12.stepAccepted s = true) :
    ensureFormat s (.sign sg) (.int o) = (lookup sg SIGN_TO_ALTER).map fun a => (upper s, a, some o) := by
  unfold ensureFormat
  simp only [step_test h]
  cases lookup sg SIGN_TO_ALTER <;> rfl

theorem matchNoteNameAt_step {cs : List Char} {c : Char} {acc digs : List Char}
    (h : matchNoteNameAt cs = some (c, acc, digs)) : isStepChar c = true := by
  unfold matchNoteNameAt at h
  split at h
  · cases h
  · split at h
    · rename_i hstep
      dsimp only at h
      split at h
      · cases h
      · cases h; exact hstep
    · cases h

theorem searchNoteName_step : ∀ {cs : List Char} {c : Char} {acc digs : List Char},
    searchNoteName cs = some (c, acc, digs) → isStepChar c = true
  | [], _, _, _, h => by cases h
  | x :: xs, c, acc, digs, h => by
    unfold searchNoteName at h
    cases hm : matchNoteNameAt (x :: xs) with
    | some r => rw [hm] at h; cases h; exact matchNoteNameAt_step hm
    | none => rw [hm] at h; exact searchNoteName_step h

theorem noteNameToSpellingG_eq (name : String) :
    noteNameToSpellingG name = (noteNameToSpelling name).map fun r => (r.1, r.2.1, some r.2.2) := by
  unfold noteNameToSpellingG noteNameToSpelling
  rw [searchNoteNameG_eq]
  cases hs : searchNoteName name.toList with
  | none => rfl
  | some r =>
    obtain ⟨c, acc, digs⟩ := r
    have hok := step_chars_ok c (isStepChar_mem c (searchNoteName_step hs))
    simp only
    rw [ensureFormat_sign _ _ _ hok]
    cases lookup (if acc.isEmpty = true then "n" else String.ofList acc) SIGN_TO_ALTER <;> rfl

theorem noteNameToMidiG_eq (name : String) : noteNameToMidiG name = noteNameToMidi name := by
  unfold noteNameToMidiG noteNameToMidi
  rw [noteNameToSpellingG_eq]
  cases noteNameToSpelling name with
  | none => rfl
  | some r =>
    obtain ⟨s, a, o⟩ := r
    simp only [Option.map_some]
    exact spellingToMidiG_eq s a o

theorem keyNameToFifthsModeG_eq (name : String) : keyNameToFifthsModeG name = keyNameToFifthsMode name := rfl

theorem qualityLadderG_eq (n : Nat) : qualityLadderG n = qualityLadder n := by
  simp [qualityLadderG, qualityLadder, cqPerfectNumbers, cqPerfectLadder, cqOtherLadder, or_assoc]

theorem changeQualityG_eq (n : Nat) (q : String) (k : Int) : changeQualityG n q k = changeQuality n q k := by
  unfold changeQualityG changeQuality
  rw [qualityLadderG_eq]

theorem getD_ne_zero (x : Option Nat) (d : Nat) (hd : d ≠ 0) (hx : x ≠ some 0) : x.getD d ≠ 0 := by
  cases x with
  | none => exact hd
  | some v => exact fun h => hx (congrArg some h)

/-- a keyword left out is the default of BOTH functions (the two signatures carry the same values) -/
theorem secToTickG_eq (t : Rat) (mpq ppq : Option Nat) (hm : mpq.getD 500000 ≠ 0) :
    secToTickG t mpq ppq = some (secToTick t (mpq.getD 500000) (ppq.getD 480)) := by
  unfold secToTickG secToTick
  exact if_neg hm

theorem tickToSecG_eq (k : Int) (mpq ppq : Option Nat) (hp : ppq.getD 480 ≠ 0) :
    tickToSecG (k : Rat) mpq ppq = some (tickToSec k (mpq.getD 500000) (ppq.getD 480)) := by
  unfold tickToSecG tickToSec
  exact if_neg hp

end C12Bridge
