/-
C15 - the sounding rows (onset, tied duration, pitch) of the merged part are the rescaled rows of the
inputs.  Tied durations are looked up by identity in the part that holds the note, so the rows are taken over an
explicit store (`rowsIn S l`), first for the elements in order of insertion, then for any permutation of them.
-/
import PartituraModel.Proofs.C15Loop
import PartituraModel.Proofs.C15Refs
import PartituraModel.Proofs.Dicts

namespace C15
open Model.Merge

theorem findOid_of_mem {l : List Elem} (hnd : (l.map (·.oid)).Nodup) {x : Elem} (hx : x ∈ l) :
    findOid l x.oid = some x := by
  induction l with
  | nil => cases hx
  | cons y ys ih =>
    have hy := List.nodup_cons.mp hnd
    rw [findOid, List.find?_cons]
    rcases List.mem_cons.mp hx with rfl | hx
    · rw [beq_self_eq_true]
    · have hne : (y.oid == x.oid) = false :=
        beq_eq_false_iff_ne.mpr fun heq => hy.1 (List.mem_map.mpr ⟨x, hx, heq.symm⟩)
      rw [hne]
      exact ih hy.2 hx

theorem findOid_perm {l l' : List Elem} (hp : l.Perm l') (hnd : (l.map (·.oid)).Nodup) (k : Nat) :
    findOid l k = findOid l' k :=
  Dicts.find?_perm_unique _ hp fun _ hx _ hy px py =>
    Lists.eq_of_nodup_map hnd hx hy ((beq_iff_eq.mp px).trans (beq_iff_eq.mp py).symm)

/-- the notes the note array lists: `Note` instances that do not continue a tie -/
def isHead (e : Elem) : Bool := isNote e.cls && !e.tiePrev

/-- rows of the elements `l`, tied durations looked up in the store `S` -/
def rowsIn (S l : List Elem) : List Row := (l.filter isHead).map (rowOf S)

theorem rowsIn_append (S l1 l2 : List Elem) : rowsIn S (l1 ++ l2) = rowsIn S l1 ++ rowsIn S l2 := by
  simp only [rowsIn, List.filter_append, List.map_append]

theorem rowsIn_congr {S S' : List Elem} (h : ∀ k, findOid S k = findOid S' k) (l : List Elem) :
    rowsIn S l = rowsIn S' l := by
  have : rowOf S = rowOf S' := funext fun e => by simp only [rowOf, durTied, h]
  rw [rowsIn, this]; rfl

theorem rows_perm {es es' : List Elem} (hp : es.Perm es') (hnd : (es.map (·.oid)).Nodup) :
    (rows es).Perm (rows es') := by
  -- `rows es` is `rowsIn es es` by definition
  have h : (rowsIn es es).Perm (rowsIn es es') := (hp.filter _).map _
  rwa [rowsIn_congr (findOid_perm hp hnd) es'] at h

theorem durOf_scaled {x e : Elem} {k : Nat} (hs : x.start = e.start * k) (ht : x.stop = e.stop.map (· * k)) :
    durOf x = (durOf e).map (· * (k : Int)) := by
  rw [durOf, durOf, hs, ht]
  cases e.stop with
  | none => rfl
  | some s => exact congrArg some (by push_cast; exact (Int.sub_mul ..).symm)

def tieStep (S : List Elem) (k : Nat) (acc : Option Int) : Option Int :=
  match acc, (findOid S k).bind durOf with
  | some a, some d => some (d + a)
  | _, _ => none

theorem durTied_eq (S : List Elem) (e : Elem) : durTied S e = e.chain.foldr (tieStep S) (durOf e) := rfl

theorem foldr_scaled (S P : List Elem) (k : Nat) (ch : List Nat) (init : Option Int)
    (hch : ∀ kk ∈ ch, (findOid S kk).bind durOf = ((findOid P kk).bind durOf).map (· * (k : Int))) :
    ch.foldr (tieStep S) (init.map (· * (k : Int))) = (ch.foldr (tieStep P) init).map (· * (k : Int)) := by
  induction ch with
  | nil => rfl
  | cons c cs ih =>
    rw [List.foldr_cons, List.foldr_cons, ih fun kk hkk => hch kk (List.mem_cons_of_mem _ hkk)]
    simp only [tieStep, hch c List.mem_cons_self]
    cases cs.foldr (tieStep P) init <;> cases (findOid P c).bind durOf <;> simp [Int.add_mul]

/-- the store `S` answers every tie link of part `p` with the duration the linked note has in `p`, times `k` -/
def ChainsScaled (S : List Elem) (p : APart) (k : Nat) : Prop :=
  ∀ e ∈ p.elems, ∀ kk ∈ e.chain,
    (findOid S kk).bind durOf = ((findOid p.elems kk).bind durOf).map (· * (k : Int))

theorem sound_scaled {S : List Elem} {p : APart} {k : Nat} (hS : ChainsScaled S p k) (m : Mode) (c : Ctx)
    (hc : c.mult = k) {e : Elem} (he : e ∈ p.elems) :
    (rowOf S (xform m c e)).sound = scaleSound k (rowOf p.elems e).sound := by
  have hd : durTied S (xform m c e) = (durTied p.elems e).map (· * (k : Int)) := by
    rw [durTied_eq, durTied_eq, xform_chain,
      durOf_scaled (e := e) (by rw [xform_start, hc]) (by rw [xform_stop, hc])]
    exact foldr_scaled _ _ _ _ _ (hS e he)
  simp only [Row.sound, rowOf, scaleSound, xform_start, xform_pitch, hc, hd]

theorem keep_of_head (m : Mode) (first : Bool) {e : Elem} (h : isHead e = true) : keep m first e = true :=
  keep_of_isGeneric m first (isGeneric_of_isNote (Bool.and_eq_true_iff.mp h).1)

theorem heads_transfer (m : Mode) (c : Ctx) (p : APart) :
    (transfer m (·.elems) c p).filter isHead = (p.elems.filter isHead).map (xform m c) := by
  have hx : isHead ∘ xform m c = isHead := funext fun e => by
    simp only [Function.comp, isHead, xform_cls, xform_tiePrev]
  rw [transfer, List.filter_map, hx, List.filter_filter]
  congr 1
  refine List.filter_congr fun e _ => ?_
  cases h : isHead e with
  | false => rfl
  | true => exact keep_of_head m c.first h

theorem rows_transfer {S : List Elem} {p : APart} {k : Nat} (hS : ChainsScaled S p k) (m : Mode) (c : Ctx)
    (hc : c.mult = k) :
    (rowsIn S (transfer m (·.elems) c p)).map Row.sound = (rows p.elems).map fun r => scaleSound k r.sound := by
  rw [rowsIn, heads_transfer, rows, List.map_map, List.map_map, List.map_map]
  exact List.map_congr_left fun e he => sound_scaled hS m c hc (List.mem_filter.mp he).1

theorem rows_mergeFrom (S : List Elem) (m : Mode) (L : Nat) (first : Bool) (vo so np : Nat) (qs : List APart)
    (hq : ∀ p ∈ qs, ChainsScaled S p (L / p.divs)) :
    (rowsIn S (mergeFrom m L first vo so np qs)).map Row.sound
      = qs.flatMap fun p => (rows p.elems).map fun r => scaleSound (L / p.divs) r.sound := by
  induction qs generalizing first vo so np with
  | nil => rfl
  | cons p qs ih =>
    rw [mergeFrom, rowsIn_append, List.map_append, List.flatMap_cons,
      ih _ _ _ _ fun r hr => hq r (List.mem_cons_of_mem _ hr)]
    -- `partOut m c p` is `transfer m (·.elems) c p` by definition
    exact congrArg (· ++ _) (rows_transfer (hq p List.mem_cons_self) m _ rfl)

theorem nodup_part {ps : List APart} (h : OidsDistinct ps) {p : APart} (hp : p ∈ ps) :
    (p.elems.map (·.oid)).Nodup := by
  obtain ⟨a, b, rfl⟩ := List.append_of_mem hp
  rw [OidsDistinct, List.flatMap_append, List.flatMap_cons, List.map_append, List.map_append] at h
  exact (List.nodup_append.mp (List.nodup_append.mp h).2.1).1

theorem raw_nodup (m : Mode) (L : Nat) {ps : List APart} (hid : OidsDistinct ps) :
    ((mergeFrom m L true 0 0 0 ps).map (·.oid)).Nodup :=
  hid.sublist (mergeFrom_oids_sublist m L ps)

theorem sounding_raw (m : Mode) (L : Nat) (ps : List APart) (hid : OidsDistinct ps) (hties : TiesClosed ps) :
    ((rows (mergeFrom m L true 0 0 0 ps)).map Row.sound)
      = ps.flatMap fun p => (rows p.elems).map fun r => scaleSound (L / p.divs) r.sound := by
  refine rows_mergeFrom _ m L true 0 0 0 ps fun p hp e he kk hkk => ?_
  -- the linked note `e2` is a note of `p`; its image is the one element of the merged list with its identity
  obtain ⟨e2, he2, rfl, hg⟩ := hties p hp e he kk hkk
  obtain ⟨i, hi⟩ := List.getElem?_of_mem hp
  have hmem : image m L ps i p e2 ∈ mergeFrom m L true 0 0 0 ps :=
    mem_merged.mpr ⟨i, p, e2, hi, he2, keep_of_isGeneric m _ hg, rfl⟩
  have hfind := findOid_of_mem (raw_nodup m L hid) hmem
  rw [image, xform_oid] at hfind
  rw [hfind, findOid_of_mem (nodup_part hid hp) he2]
  exact durOf_scaled (image_start ..) (image_stop ..)

end C15
