/-
Powers of two with an integer exponent: the closed form of the models' `pow2` functions (each model has its own copy),
and what follows for any function that has it.
-/
import Mathlib.Algebra.Order.Field.Power
import Mathlib.Algebra.Order.Field.Rat
import Mathlib.Tactic.Positivity
import Mathlib.Tactic.Push

namespace Pow2

/-- the body of every model's `pow2` -/
theorem ite_eq_zpow (e : ℤ) :
    (if 0 ≤ e then ((2 ^ e.toNat : ℕ) : ℚ) else 1 / ((2 ^ (-e).toNat : ℕ) : ℚ)) = (2 : ℚ) ^ e := by
  split
  · rename_i h
    have : ((e.toNat : ℕ) : ℤ) = e := Int.toNat_of_nonneg h
    push_cast
    rw [← zpow_natCast, this]
  · rename_i h
    have hn : (((-e).toNat : ℕ) : ℤ) = -e := Int.toNat_of_nonneg (by omega)
    push_cast
    rw [← zpow_natCast, hn, zpow_neg, one_div, inv_inv]

/-- a positive rational lies within a factor 2 of `2 ^ (a - b)`, where `2^a ≤ numerator < 2^(a+1)` and
    `2^b ≤ denominator < 2^(b+1)` -/
theorem bracket_of_bits (q : ℚ) (hq : 0 < q) {a b : ℕ} (a1 : 2 ^ a ≤ q.num.natAbs) (a2 : q.num.natAbs < 2 ^ (a + 1))
    (b1 : 2 ^ b ≤ q.den) (b2 : q.den < 2 ^ (b + 1)) :
    (2 : ℚ) ^ ((a : ℤ) - b - 1) < q ∧ q < (2 : ℚ) ^ ((a : ℤ) - b + 1) := by
  have hqe : q = (q.num.natAbs : ℚ) / (q.den : ℚ) := by
    rw [Nat.cast_natAbs, abs_of_pos (Rat.num_pos.mpr hq)]
    exact (Rat.num_div_den q).symm
  have hdpos : (0 : ℚ) < (q.den : ℚ) := by exact_mod_cast q.den_pos
  have A1 : (2 : ℚ) ^ (a : ℤ) ≤ (q.num.natAbs : ℚ) := by rw [zpow_natCast]; exact_mod_cast a1
  have A2 : (q.num.natAbs : ℚ) < (2 : ℚ) ^ ((a : ℤ) + 1) := by
    rw [show ((a : ℤ) + 1) = ((a + 1 : ℕ) : ℤ) by push_cast; rfl, zpow_natCast]; exact_mod_cast a2
  have B1 : (2 : ℚ) ^ (b : ℤ) ≤ (q.den : ℚ) := by rw [zpow_natCast]; exact_mod_cast b1
  have B2 : (q.den : ℚ) < (2 : ℚ) ^ ((b : ℤ) + 1) := by
    rw [show ((b : ℤ) + 1) = ((b + 1 : ℕ) : ℤ) by push_cast; rfl, zpow_natCast]; exact_mod_cast b2
  have two : (2 : ℚ) ≠ 0 := two_ne_zero
  constructor
  · rw [show (a : ℤ) - b - 1 = a - (b + 1) by omega, zpow_sub₀ two, hqe, div_lt_div_iff₀ (by positivity) hdpos]
    calc (2 : ℚ) ^ (a : ℤ) * (q.den : ℚ) < (2 : ℚ) ^ (a : ℤ) * (2 : ℚ) ^ ((b : ℤ) + 1) :=
          mul_lt_mul_of_pos_left B2 (by positivity)
      _ ≤ (q.num.natAbs : ℚ) * (2 : ℚ) ^ ((b : ℤ) + 1) := mul_le_mul_of_nonneg_right A1 (by positivity)
  · rw [show (a : ℤ) - b + 1 = (a + 1) - b by omega, zpow_sub₀ two, hqe, div_lt_div_iff₀ hdpos (by positivity)]
    calc (q.num.natAbs : ℚ) * (2 : ℚ) ^ (b : ℤ) ≤ (q.num.natAbs : ℚ) * (q.den : ℚ) :=
          mul_le_mul_of_nonneg_left B1 (by positivity)
      _ < (2 : ℚ) ^ ((a : ℤ) + 1) * (q.den : ℚ) := mul_lt_mul_of_pos_right A2 hdpos

variable {p : ℤ → ℚ} (hp : ∀ e, p e = 2 ^ e)
include hp

theorem pos (e : ℤ) : 0 < p e := by rw [hp]; positivity

theorem add (a b : ℤ) : p (a + b) = p a * p b := by simp only [hp]; exact zpow_add₀ two_ne_zero a b

theorem succ (e : ℤ) : p (e + 1) = p e * 2 := by simp only [hp]; exact zpow_add_one₀ two_ne_zero e

theorem pred (e : ℤ) : p (e - 1) = p e / 2 := by simp only [hp]; rw [zpow_sub_one₀ two_ne_zero, div_eq_mul_inv]

theorem natCast (n : ℕ) : p n = ((2 ^ n : ℕ) : ℚ) := by rw [hp, zpow_natCast]; push_cast; rfl

theorem add_natCast (e : ℤ) (n : ℕ) : p (e + n) = 2 ^ n * p e := by
  simp only [hp]; rw [zpow_add₀ two_ne_zero, zpow_natCast, mul_comm]

theorem le_iff {a b : ℤ} : p a ≤ p b ↔ a ≤ b := by simp only [hp]; exact zpow_le_zpow_iff_right₀ one_lt_two

theorem lt_iff {a b : ℤ} : p a < p b ↔ a < b := by simp only [hp]; exact zpow_lt_zpow_iff_right₀ one_lt_two

end Pow2
