/-
C08 — the binary64 model of the loaded durations (Model/MatchFloat.lean):
a natural number below 2^53 is a binary64 number, so `fl` leaves it alone.
-/
import PartituraModel.Model.MatchFloat
import PartituraModel.Proofs.Binary64

namespace C08F
open Model Model.MatchTime Model.Binary64 Model.MatchFloat C03.Float

theorem fl_nat (k : Nat) (hk : k < 2 ^ 53) : fl (k : Rat) = (k : Rat) := by
  unfold fl
  rcases Nat.eq_zero_or_pos k with h0 | h0
  · subst h0
    simp [readFloat_zero, Dbl.zero, Dbl.value]
  · obtain ⟨d, hn, hv⟩ := nat_is_dbl k h0 hk
    rw [← hv, readFloat_exact d hn]

end C08F
