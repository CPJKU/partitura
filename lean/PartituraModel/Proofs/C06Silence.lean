/-
`remove_silence_from_performed_part`: the shift, the "previous" interpolation on samples in order of time, the partition of the controls into groups.
-/
import PartituraModel.Model.PerfMidi
import PartituraModel.Proofs.Dicts
import PartituraModel.Proofs.C06Sort

namespace C06Silence
open Model Model.PerfMidi C06Sort

theorem shiftT_eq_max (s t : Rat) : shiftT s t = max (t - s) 0 := by
  unfold shiftT
  split
  · next h => exact (max_eq_right h.le).symm
  · next h => exact (max_eq_left (not_lt.mp h)).symm

theorem shiftT_of_le (s t : Rat) (h : s ≤ t) : shiftT s t = t - s := by
  rw [shiftT_eq_max, max_eq_left (sub_nonneg.mpr h)]

theorem shiftT_nonneg (s t : Rat) : 0 ≤ shiftT s t := by
  rw [shiftT_eq_max]
  exact le_max_right _ _

theorem shiftT_mono (s a b : Rat) (h : a ≤ b) : shiftT s a ≤ shiftT s b := by
  rw [shiftT_eq_max, shiftT_eq_max]
  exact max_le_max (sub_le_sub_right h s) le_rfl

theorem shiftT_pos_iff (s t : Rat) : 0 < shiftT s t ↔ s < t := by
  rw [shiftT_eq_max, lt_max_iff, sub_pos, or_iff_left (lt_irrefl 0)]

theorem removeSilence_some (p r : SPart) (h : removeSilence p = some r) :
    ∃ s, minRat (p.notes.map (·.on)) = some s ∧
      r = { notes := p.notes.map fun n => { n with on := shiftT s n.on, off := shiftT s n.off },
            controls := sortBy ctlTimeLe ((groupControls p.controls).flatMap (shiftGroup s)),
            programs := p.programs.map fun g => { g with time := shiftT s g.time } } := by
  unfold removeSilence at h
  cases hs : minRat (p.notes.map (·.on)) with
  | none => rw [hs] at h; cases h
  | some s => rw [hs] at h; exact ⟨s, rfl, (Option.some.inj h).symm⟩

theorem ctlTimeLe_order : Lists.TotalPreorder ctlTimeLe := .of_key PCtl.time

theorem prevBest_later (t : Rat) (best : Option (Rat × Nat)) (l : List (Rat × Nat)) (hl : ∀ y ∈ l, t < y.1) :
    prevBest t best l = best := by
  induction l with
  | nil => rfl
  | cons y l ih =>
    obtain ⟨y1, y2⟩ := y
    have : ¬ y1 ≤ t := not_le.mpr (hl (y1, y2) List.mem_cons_self)
    simp only [prevBest, this, if_false]
    exact ih fun z hz => hl z (List.mem_cons_of_mem _ hz)

theorem prevBest_take (t x : Rat) (v : Nat) (best : Option (Rat × Nat)) (l : List (Rat × Nat)) (hx : x ≤ t)
    (hb : ∀ b, best = some b → b.1 ≤ x) : prevBest t best ((x, v) :: l) = prevBest t (some (x, v)) l := by
  cases best with
  | none => simp only [prevBest, hx, if_true]
  | some b =>
    obtain ⟨bx, bv⟩ := b
    simp only [prevBest, hx, if_true, hb (bx, bv) rfl]

/-- on samples strictly in order of time, starting after the best so far, the loop ends on the sample at `t` -/
theorem prevBest_sorted (t : Rat) (v : Nat) (l : List (Rat × Nat)) (best : Option (Rat × Nat))
    (hs : l.Pairwise (fun a b => a.1 < b.1)) (hb : ∀ b, best = some b → ∀ x ∈ l, b.1 < x.1)
    (hm : (t, v) ∈ l) : prevBest t best l = some (t, v) := by
  induction l generalizing best with
  | nil => cases hm
  | cons c l ih =>
    obtain ⟨x, w⟩ := c
    rw [List.pairwise_cons] at hs
    have hbx : ∀ b, best = some b → b.1 ≤ x := fun b h => (hb b h (x, w) List.mem_cons_self).le
    rcases List.mem_cons.mp hm with heq | hm'
    · -- the head is the sample at t: it is taken, and nothing after it is ≤ t
      cases heq
      rw [prevBest_take t t v best l le_rfl hbx]
      exact prevBest_later t _ l hs.1
    · -- the sample at t comes later: the head is taken, and the loop goes on after it
      rw [prevBest_take t x w best l (hs.1 (t, v) hm').le hbx]
      exact ih (some (x, w)) hs.2 (fun b hb' => by cases hb'; exact hs.1) hm'

theorem nub_firstSeen : Dicts.IsFirstSeen nub := ⟨rfl, fun _ _ => rfl⟩

theorem nub_partition {γ : Type} (f : γ → Nat) (X : List γ) :
    ((nub (X.map f)).flatMap fun v => X.filter (fun x => f x == v)).Perm X :=
  nub_firstSeen.groups_perm f X

/-- (shifted time, number, channel, track) of the controls strictly after `s` -/
def laterKeys (s : Rat) (X : List PCtl) : List (Rat × Nat × Nat × Nat) :=
  (X.filter (fun c => decide (s < c.time))).map fun c => (c.time - s, c.num, c.ch, c.track)

def ctlKey (c : PCtl) : Rat × Nat × Nat × Nat := (c.time, c.num, c.ch, c.track)

theorem laterKeys_flatMap {γ : Type} (s : Rat) (l : List γ) (f : γ → List PCtl) :
    laterKeys s (l.flatMap f) = l.flatMap (fun a => laterKeys s (f a)) := by
  unfold laterKeys
  rw [List.filter_flatMap, List.map_flatMap]

theorem laterKeys_perm (s : Rat) {X Y : List PCtl} (h : X.Perm Y) : (laterKeys s X).Perm (laterKeys s Y) :=
  (h.filter _).map _

theorem filter_pos_map (s : Rat) (num ch tr : Nat) (F : Rat → PCtl)
    (hF : ∀ t, (F t).time = shiftT s t ∧ (F t).num = num ∧ (F t).ch = ch ∧ (F t).track = tr) (T : List Rat) :
    ((T.map F).filter (fun c => decide (0 < c.time))).map ctlKey
      = (T.filter (fun t => decide (s < t))).map (fun t => (t - s, num, ch, tr)) := by
  rw [List.filter_map, List.map_map]
  have : (fun c : PCtl => decide (0 < c.time)) ∘ F = fun t => decide (s < t) := by
    funext t
    simp only [Function.comp, (hF t).1, shiftT_pos_iff]
  rw [this]
  refine List.map_congr_left ?_
  intro t ht
  have hst : s < t := by simpa using (List.mem_filter.mp ht).2
  obtain ⟨h1, h2, h3, h4⟩ := hF t
  simp only [Function.comp, ctlKey, h1, h2, h3, h4, shiftT_of_le s t (le_of_lt hst)]

theorem later_times (s : Rat) (num ch tr : Nat) (L : List PCtl)
    (hL : ∀ c ∈ L, c.track = tr ∧ c.ch = ch ∧ c.num = num) :
    ((((L.map (fun c => (c.time, c.val))).filter (fun c => decide (s ≤ c.1))).map (·.1)).filter
        (fun t => decide (s < t))).map (fun t => (t - s, num, ch, tr)) = laterKeys s L := by
  induction L with
  | nil => rfl
  | cons c L ih =>
    have ih' := ih (fun c' hc' => hL c' (List.mem_cons_of_mem _ hc'))
    obtain ⟨h1, h2, h3⟩ := hL c List.mem_cons_self
    unfold laterKeys at ih' ⊢
    by_cases hlt : s < c.time
    · have hle : s ≤ c.time := le_of_lt hlt
      simp only [List.map_cons, List.filter_cons, hle, hlt, decide_true, if_true]
      rw [ih', h1, h2, h3]
    · by_cases hle : s ≤ c.time
      · simp only [List.map_cons, List.filter_cons, hle, hlt, decide_true, decide_false, if_true]
        simpa using ih'
      · simp only [List.map_cons, List.filter_cons, hle, hlt, decide_false]
        simpa using ih'

/-- one group: after dropping what lands on time 0, the shifted controls are the group's controls strictly
    after `s`, shifted (values aside) -/
theorem shiftGroup_later (s : Rat) (tr ch num : Nat) (X : List PCtl)
    (hX : ∀ c ∈ X, c.track = tr ∧ c.ch = ch ∧ c.num = num) :
    ((shiftGroup s (tr, ch, num, X.map (fun c => (c.time, c.val)))).filter (fun c => decide (0 < c.time))).map ctlKey
      = laterKeys s X := by
  cases X with
  | nil => rfl
  | cons x X =>
    have e : (x :: X).map (fun c => (c.time, c.val)) = (x.time, x.val) :: X.map (fun c => (c.time, c.val)) := rfl
    rw [e]
    simp only [shiftGroup]
    rw [← e, filter_pos_map s num ch tr _ (fun t => ⟨rfl, rfl, rfl, rfl⟩)]
    generalize hT : (((x :: X).map (fun c => (c.time, c.val))).filter (fun c => decide (s ≤ c.1))).map (·.1) = T
    have hT2 : (T.filter (fun t => decide (s < t))).map (fun t => (t - s, num, ch, tr)) = laterKeys s (x :: X) := by
      rw [← hT]
      exact later_times s num ch tr (x :: X) hX
    split
    · exact hT2
    · rw [List.filter_cons_of_neg (by simp)]
      exact hT2

/-- all groups: the controls strictly after `s` are kept (shifted), as a multiset of (time, number, channel,
    track) -/
theorem groups_later (s : Rat) (cs : List PCtl) :
    ((((groupControls cs).flatMap (shiftGroup s)).filter (fun c => decide (0 < c.time))).map ctlKey).Perm
      (laterKeys s cs) := by
  rw [List.filter_flatMap, List.map_flatMap]
  unfold groupControls
  simp only [List.flatMap_assoc, List.flatMap_map]
  have inner : ∀ tr ch num,
      ((shiftGroup s (tr, ch, num,
          (((cs.filter (fun c => c.track == tr)).filter (fun c => c.ch == ch)).filter (fun c => c.num == num)).map
            (fun c => (c.time, c.val)))).filter (fun c => decide (0 < c.time))).map ctlKey
        = laterKeys s (((cs.filter (fun c => c.track == tr)).filter (fun c => c.ch == ch)).filter (fun c => c.num == num)) := by
    intro tr ch num
    refine shiftGroup_later s tr ch num _ ?_
    intro c hc
    have h3 := List.mem_filter.mp hc
    have h2 := List.mem_filter.mp h3.1
    have h1 := List.mem_filter.mp h2.1
    exact ⟨by simpa using h1.2, by simpa using h2.2, by simpa using h3.2⟩
  simp only [inner]
  have lvl3 : ∀ tr ch, ((nub (((cs.filter (fun c => c.track == tr)).filter (fun c => c.ch == ch)).map (·.num))).flatMap fun num =>
        laterKeys s (((cs.filter (fun c => c.track == tr)).filter (fun c => c.ch == ch)).filter (fun c => c.num == num))).Perm
      (laterKeys s ((cs.filter (fun c => c.track == tr)).filter (fun c => c.ch == ch))) := by
    intro tr ch
    rw [← laterKeys_flatMap]
    exact laterKeys_perm s (nub_partition (fun c : PCtl => c.num) _)
  have lvl2 : ∀ tr, ((nub ((cs.filter (fun c => c.track == tr)).map (·.ch))).flatMap fun ch =>
        (nub (((cs.filter (fun c => c.track == tr)).filter (fun c => c.ch == ch)).map (·.num))).flatMap fun num =>
          laterKeys s (((cs.filter (fun c => c.track == tr)).filter (fun c => c.ch == ch)).filter (fun c => c.num == num))).Perm
      (laterKeys s (cs.filter (fun c => c.track == tr))) := by
    intro tr
    refine (List.Perm.flatMap_left _ fun ch _ => lvl3 tr ch).trans ?_
    rw [← laterKeys_flatMap]
    exact laterKeys_perm s (nub_partition (fun c : PCtl => c.ch) _)
  refine (List.Perm.flatMap_left _ fun tr _ => lvl2 tr).trans ?_
  rw [← laterKeys_flatMap]
  exact laterKeys_perm s (nub_partition (fun c : PCtl => c.track) _)

end C06Silence
