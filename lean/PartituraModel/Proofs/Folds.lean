/-
`List.foldl min` and `List.foldl max` over a linear order (`np.min`, `np.max`, chains of `np.minimum`).  What needs no order
(invariants of a left fold, the fold that picks by a test) is in Proofs/Lists.lean, whose namespace `Lists` this file shares.
-/
import Mathlib.Order.MinMax

namespace Lists

variable {α : Type} [LinearOrder α]

theorem foldl_min_le_init (x : α) (l : List α) : l.foldl min x ≤ x := by
  induction l generalizing x with
  | nil => exact le_refl _
  | cons y ys ih => exact le_trans (ih (min x y)) (min_le_left _ _)

theorem foldl_min_le_mem (x : α) (l : List α) (y : α) (hy : y ∈ l) : l.foldl min x ≤ y := by
  induction l generalizing x with
  | nil => cases hy
  | cons z zs ih =>
    rw [List.foldl_cons]
    rcases List.mem_cons.mp hy with rfl | h
    · exact le_trans (foldl_min_le_init _ _) (min_le_right _ _)
    · exact ih _ h

theorem foldl_min_mem (x : α) (l : List α) : l.foldl min x = x ∨ l.foldl min x ∈ l := by
  induction l generalizing x with
  | nil => exact Or.inl rfl
  | cons z zs ih =>
    rcases ih (min x z) with h | h
    · rcases min_choice x z with h2 | h2
      · left; rw [List.foldl_cons, h, h2]
      · right; rw [List.foldl_cons, h, h2]; exact List.mem_cons_self
    · right; exact List.mem_cons_of_mem _ h

theorem le_foldl_min (x : α) (l : List α) (b : α) (hx : b ≤ x) (hl : ∀ y ∈ l, b ≤ y) : b ≤ l.foldl min x := by
  rcases foldl_min_mem x l with h | h
  · rw [h]; exact hx
  · exact hl _ h

theorem foldl_min_eq_init (x : α) (l : List α) (hl : ∀ y ∈ l, x ≤ y) : l.foldl min x = x :=
  le_antisymm (foldl_min_le_init x l) (le_foldl_min x l x (le_refl _) hl)

/-- the fold looks at the members only: it is no larger when every member of the other list is above one of this list -/
theorem foldl_min_anti (x : α) {l₁ l₂ : List α} (h : ∀ y ∈ l₂, ∃ z ∈ l₁, z ≤ y) : l₁.foldl min x ≤ l₂.foldl min x :=
  le_foldl_min x l₂ _ (foldl_min_le_init x l₁) fun y hy =>
    let ⟨z, hz, hzy⟩ := h y hy
    le_trans (foldl_min_le_mem x l₁ z hz) hzy

theorem foldl_min_congr (x : α) {l₁ l₂ : List α} (h : ∀ y, y ∈ l₁ ↔ y ∈ l₂) : l₁.foldl min x = l₂.foldl min x :=
  le_antisymm (foldl_min_anti x fun y hy => ⟨y, (h y).mpr hy, le_refl y⟩)
    (foldl_min_anti x fun y hy => ⟨y, (h y).mp hy, le_refl y⟩)

/-! `max` is `min` of the reversed order -/

/-- `max` written with a test -/
theorem ite_lt_eq_max : (fun x y : α => if x < y then y else x) = max := by
  funext x y
  rcases lt_or_ge x y with h | h
  · rw [if_pos h, max_eq_right h.le]
  · rw [if_neg (not_lt.mpr h), max_eq_left h]

theorem foldl_max_ge_init (x : α) (l : List α) : x ≤ l.foldl max x := foldl_min_le_init (α := αᵒᵈ) x l

theorem foldl_max_ge_mem (x : α) (l : List α) (y : α) (hy : y ∈ l) : y ≤ l.foldl max x :=
  foldl_min_le_mem (α := αᵒᵈ) x l y hy

theorem foldl_max_mem (x : α) (l : List α) : l.foldl max x = x ∨ l.foldl max x ∈ l := foldl_min_mem (α := αᵒᵈ) x l

theorem foldl_max_le (x : α) (l : List α) (b : α) (hx : x ≤ b) (hl : ∀ y ∈ l, y ≤ b) : l.foldl max x ≤ b :=
  le_foldl_min (α := αᵒᵈ) x l b hx hl

theorem foldl_max_mono (x : α) {l₁ l₂ : List α} (h : ∀ y ∈ l₁, ∃ z ∈ l₂, y ≤ z) : l₁.foldl max x ≤ l₂.foldl max x :=
  foldl_min_anti (α := αᵒᵈ) x h

end Lists
