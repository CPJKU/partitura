/-
C08 — the stable insertion sort of Model/MatchTime.lean (`insertBy`, `sortBy`) as an instance of `Lists.IsInsertionSort`;
a list sorted together with its indices (`(List.range n).zip l`, as `np.lexsort` and `sort_snotes` return positions); the
last element of a sorted list at or below a bound; `mapM` in `Option` followed by a `map`.
-/
import PartituraModel.Model.MatchTime
import PartituraModel.Proofs.Forall2
import PartituraModel.Proofs.Previous

namespace C08S
open Model Model.MatchTime

variable {α : Type}

theorem isSort (le : α → α → Bool) : Lists.IsInsertionSort le (insertBy le) (sortBy le) :=
  ⟨fun _ => rfl, fun _ _ _ => rfl, rfl, fun _ _ => rfl⟩

theorem sortBy_id (le : α → α → Bool) (l : List α) (h : l.Pairwise (fun a b => le a b = true)) :
    sortBy le l = l :=
  (isSort le).eq_self h

theorem sortBy_zip_range_fst (le : Nat × α → Nat × α → Bool) (l : List α) :
    ((sortBy le ((List.range l.length).zip l)).map Prod.fst).Perm (List.range l.length) := by
  have := ((isSort le).perm ((List.range l.length).zip l)).map Prod.fst
  rwa [List.map_fst_zip (by simp)] at this

/-- `k` is the last entry of `l` with key at or below `b`; on a list in key order the greatest such -/
structure LastAt (key : α → Rat) (l : List α) (b : Rat) (k : α) : Prop where
  mem : k ∈ l
  le : key k ≤ b
  last : ∀ x ∈ l, key x ≤ b → key x ≤ key k

theorem LastAt.map {β : Type} {key : β → Rat} (f : α → β) {l : List α} {b : Rat} {k : α}
    (h : LastAt (fun x => key (f x)) l b k) : LastAt key (l.map f) b (f k) :=
  ⟨List.mem_map_of_mem h.mem, h.le, fun x hx hxb => by
    obtain ⟨y, hy, rfl⟩ := List.mem_map.mp hx
    exact h.last y hy hxb⟩

theorem lastLE_spec {key : α → Rat} (l : List α) (h : l.Pairwise (fun a b => key a ≤ key b)) (b : Rat) :
    match (l.filter fun x => decide (key x ≤ b)).getLast? with
    | some p => LastAt key l b p
    | none => ∀ x ∈ l, ¬ key x ≤ b := by
  cases hq : (l.filter fun x => decide (key x ≤ b)).getLast? with
  | none => exact fun x hx hle =>
      List.filter_eq_nil_iff.mp (List.getLast?_eq_none_iff.mp hq) x hx (decide_eq_true hle)
  | some p =>
    have ⟨h1, h2, h3⟩ := Lists.getLast?_filter_greatest (P := fun x => key x ≤ b) h hq
    exact ⟨h1, h2, fun x hx hxb => (h3 x hx hxb).elim (fun h => h ▸ Rat.le_refl) id⟩

theorem mapM_map {α β γ : Type} (f : α → Option β) (g : β → γ) (h : α → γ)
    (hfg : ∀ a b, f a = some b → g b = h a) :
    ∀ (l : List α) (l' : List β), l.mapM f = some l' → l'.map g = l.map h := fun _ _ hl =>
  (Lists.forall₂_map_eq h g (fun a b hab => (hfg a b hab).symm) (Lists.mapM_forall₂ hl)).symm

end C08S
