/-
C17, the MIDI importer: the dictionaries of Model/C17Midi.lean, the whole-table check of `note_hash`,
the pairing of note-on and note-off messages, the grouping of `notes_by_part`.
-/
import PartituraModel.Model.C17Midi
import PartituraModel.Proofs.Dicts

namespace C17M
open Model Model.C17Midi Gen

theorem appendAt_isAppendAt {κ α : Type} [DecidableEq κ] : Dicts.IsAppendAt (appendAt (κ := κ) (α := α)) :=
  ⟨fun _ _ => rfl, fun _ _ _ _ _ => rfl⟩

/-- entry `i` of the 16 × 128 table of `note_hash`, channel-major -/
def hashAt (i : Nat) : Nat := noteHash (i / 128) (i % 128)

def incrUpTo (f : Nat → Nat) : Nat → Bool
  | 0 => true
  | n + 1 => incrUpTo f n && (n == 0 || decide (f (n - 1) < f n))

theorem incr_spec (f : Nat → Nat) : ∀ N, incrUpTo f N = true → ∀ i j, i < j → j < N → f i < f j := by
  intro N
  induction N with
  | zero => intro _ i j _ h; omega
  | succ n ih =>
    intro h i j hij hj
    simp only [incrUpTo, Bool.and_eq_true, Bool.or_eq_true, beq_iff_eq, decide_eq_true_eq] at h
    obtain ⟨h1, h2⟩ := h
    by_cases hjn : j < n
    · exact ih h1 i j hij hjn
    · have hj' : j = n := by omega
      subst hj'
      rcases h2 with h2 | h2
      · omega
      · by_cases hi : i = j - 1
        · subst hi; exact h2
        · have := ih h1 i (j - 1) (by omega) (by omega)
          omega

/-- the WHOLE table of the regenerated `note_hash` is strictly increasing (kernel-evaluated) -/
theorem hash_incr : incrUpTo hashAt 2048 = true := by decide +kernel

theorem hash_inj {c n c' n' : Nat} (hc : c < 16) (hn : n < 128) (hc' : c' < 16) (hn' : n' < 128)
    (h : noteHash c n = noteHash c' n') : c = c' ∧ n = n' := by
  have e1 : hashAt (c * 128 + n) = noteHash c n := by
    unfold hashAt; congr 1 <;> omega
  have e2 : hashAt (c' * 128 + n') = noteHash c' n' := by
    unfold hashAt; congr 1 <;> omega
  have key := incr_spec hashAt 2048 hash_incr
  rcases Nat.lt_trichotomy (c * 128 + n) (c' * 128 + n') with hlt | heq | hgt
  · have := key _ _ hlt (by omega); omega
  · omega
  · have := key _ _ hgt (by omega); omega

/-- on valid data bytes the key of `sounding_notes` IS the pair (channel, note) -/
theorem hash_eq_iff {c n c' n' : Nat} (hc : c < 16) (hn : n < 128) (hc' : c' < 16) (hn' : n' < 128) :
    noteHash c n = noteHash c' n' ↔ (c, n) = (c', n') :=
  ⟨fun h => by obtain ⟨rfl, rfl⟩ := hash_inj hc hn hc' hn' h; rfl, fun h => by cases h; rfl⟩

theorem lookup_dictSet (d : List (Nat × Int)) (k k' : Nat) (v : Int) :
    lookup k' (dictSet d k v) = if k' = k then some v else lookup k' d := lookup_cons_filter_ne k' k v d

theorem lookup_dictDel (d : List (Nat × Int)) (k k' : Nat) :
    lookup k' (dictDel d k) = if k' = k then none else lookup k' d := lookup_filter_ne k' k d

/-- a message that starts a note / that ends one (MIDI: a note-on with velocity 0 is a note-off) -/
def startsNote (m : Msg) : Prop := m.type = "note_on" ∧ 0 < m.vel
def endsNote (m : Msg) : Prop := m.type = "note_off" ∨ (m.type = "note_on" ∧ m.vel = 0)

instance (m : Msg) : Decidable (startsNote m) := by unfold startsNote; infer_instance
instance (m : Msg) : Decidable (endsNote m) := by unfold endsNote; infer_instance

/-- the messages of a track form complete notes: with `S` the keys (channel, note) sounding before the first message,
    every note-on finds its key silent, every note-off finds it sounding, nothing sounds after the last message; data
    bytes are valid (channel < 16, note < 128).  Any other message may stand anywhere. -/
inductive WellPaired : List (Nat × Nat) → List Msg → Prop
  | nil : WellPaired [] []
  | skip (S : List (Nat × Nat)) (m : Msg) (ms : List Msg) :
      ¬ startsNote m → ¬ endsNote m → WellPaired S ms → WellPaired S (m :: ms)
  | on (S : List (Nat × Nat)) (m : Msg) (ms : List Msg) :
      startsNote m → (m.ch, m.note) ∉ S → m.ch < 16 → m.note < 128 →
      WellPaired ((m.ch, m.note) :: S) ms → WellPaired S (m :: ms)
  | off (S : List (Nat × Nat)) (m : Msg) (ms : List Msg) :
      endsNote m → (m.ch, m.note) ∈ S → WellPaired (S.erase (m.ch, m.note)) ms → WellPaired S (m :: ms)

/-- the pitches of the note-on messages that start a note, in file order -/
def onPitches (ms : List Msg) : List Int := (ms.filter fun m => decide (startsNote m)).map fun m => (m.note : Int)

/-- all notes a track state has completed, and their pitches -/
def flatNotes (st : TrackSt) : List Note3 := st.notes.flatMap (·.2)
def pitches (l : List Note3) : List Int := l.map (·.2.1)

theorem relevant_on : "note_on" ∈ MIDI_RELEVANT := by decide +kernel
theorem relevant_off : "note_off" ∈ MIDI_RELEVANT := by decide +kernel

theorem step_eq (qu : Option Nat) (st : TrackSt) (m : Msg) :
    step qu st m =
      if startsNote m then
        { st with t := st.t + m.dt,
                  sounding := dictSet st.sounding (noteHash m.ch m.note) (quantT qu (st.t + m.dt)) }
      else if endsNote m then
        match lookup (noteHash m.ch m.note) st.sounding with
        | none => { st with t := st.t + m.dt }
        | some t0 =>
          { t := st.t + m.dt, sounding := dictDel st.sounding (noteHash m.ch m.note),
            notes := appendAt st.notes m.ch (t0, (m.note : Int), quantT qu (st.t + m.dt) - t0) }
      else { st with t := st.t + m.dt } := by
  unfold step startsNote endsNote
  by_cases hon : m.type = "note_on"
  · by_cases hv : 0 < m.vel
    · simp [hon, hv, relevant_on]
    · have : m.vel = 0 := by omega
      simp [hon, this, relevant_on]
      cases lookup (noteHash m.ch m.note) st.sounding <;> rfl
  · by_cases hoff : m.type = "note_off"
    · simp [hoff, relevant_off]
      cases lookup (noteHash m.ch m.note) st.sounding <;> rfl
    · simp [hon, hoff]

theorem step_cases (qu : Option Nat) (st : TrackSt) (m : Msg) :
    step qu st m = { st with t := st.t + m.dt } ∨
    (∃ h, step qu st m = { t := st.t + m.dt, sounding := dictSet st.sounding h (quantT qu (st.t + m.dt)), notes := st.notes }) ∨
    (∃ h t0, lookup h st.sounding = some t0 ∧
      step qu st m = { t := st.t + m.dt, sounding := dictDel st.sounding h,
                       notes := appendAt st.notes m.ch (t0, (m.note : Int), quantT qu (st.t + m.dt) - t0) }) := by
  rw [step_eq]
  by_cases hs : startsNote m
  · rw [if_pos hs]; exact Or.inr (Or.inl ⟨_, rfl⟩)
  · rw [if_neg hs]
    by_cases he : endsNote m
    · rw [if_pos he]
      cases hl : lookup (noteHash m.ch m.note) st.sounding
      · exact Or.inl rfl
      · exact Or.inr (Or.inr ⟨_, _, hl, rfl⟩)
    · rw [if_neg he]; exact Or.inl rfl

theorem ends_not_starts {m : Msg} (h : endsNote m) : ¬ startsNote m := by
  rintro ⟨hon, hv⟩
  rcases h with hoff | ⟨_, h0⟩
  · rw [hon] at hoff; exact absurd hoff (by decide)
  · omega

theorem step_skip (qu : Option Nat) (st : TrackSt) (m : Msg) (h1 : ¬ startsNote m) (h2 : ¬ endsNote m) :
    (step qu st m).sounding = st.sounding ∧ (step qu st m).notes = st.notes := by
  rw [step_eq, if_neg h1, if_neg h2]; exact ⟨rfl, rfl⟩

theorem step_on (qu : Option Nat) (st : TrackSt) (m : Msg) (h : startsNote m) :
    (step qu st m).sounding = dictSet st.sounding (noteHash m.ch m.note) (quantT qu (st.t + m.dt)) ∧
    (step qu st m).notes = st.notes := by
  rw [step_eq, if_pos h]; exact ⟨rfl, rfl⟩

theorem step_off (qu : Option Nat) (st : TrackSt) (m : Msg) (h : endsNote m) (t0 : Int)
    (hl : lookup (noteHash m.ch m.note) st.sounding = some t0) :
    (step qu st m).sounding = dictDel st.sounding (noteHash m.ch m.note) ∧
    (step qu st m).notes = appendAt st.notes m.ch (t0, (m.note : Int), quantT qu (st.t + m.dt) - t0) := by
  rw [step_eq, if_neg (ends_not_starts h), if_pos h, hl]; exact ⟨rfl, rfl⟩

/-- what the dictionary `sounding_notes` knows is exactly the set `S` of sounding keys -/
def Inv (st : TrackSt) (S : List (Nat × Nat)) : Prop :=
  S.Nodup ∧ (∀ k ∈ S, k.1 < 16 ∧ k.2 < 128) ∧
  ∀ c n, c < 16 → n < 128 → ((lookup (noteHash c n) st.sounding).isSome ↔ (c, n) ∈ S)

theorem pitches_append (a b : List Note3) : pitches (a ++ b) = pitches a ++ pitches b := by simp [pitches]

theorem onPitches_cons_start {m : Msg} (ms : List Msg) (h : startsNote m) :
    onPitches (m :: ms) = (m.note : Int) :: onPitches ms := by
  simp [onPitches, List.filter, h]

theorem onPitches_cons_other {m : Msg} (ms : List Msg) (h : ¬ startsNote m) : onPitches (m :: ms) = onPitches ms := by
  simp [onPitches, List.filter, h]

theorem run_pitches (qu : Option Nat) (S : List (Nat × Nat)) (ms : List Msg) (hw : WellPaired S ms) :
    ∀ st, Inv st S →
      (pitches (flatNotes (ms.foldl (step qu) st))).Perm
        (pitches (flatNotes st) ++ (S.map fun k => (k.2 : Int)) ++ onPitches ms) := by
  induction hw with
  | nil => intro st _; simp [onPitches]
  | skip S m ms h1 h2 _ ih =>
    intro st hinv
    obtain ⟨e1, e2⟩ := step_skip qu st m h1 h2
    have hinv' : Inv (step qu st m) S := by
      obtain ⟨a, b, c⟩ := hinv
      exact ⟨a, b, by rw [e1]; exact c⟩
    have := ih (step qu st m) hinv'
    simp only [List.foldl_cons]
    rw [onPitches_cons_other ms h1]
    simpa [flatNotes, e2] using this
  | on S m ms h1 hnot hc hn _ ih =>
    intro st hinv
    obtain ⟨e1, e2⟩ := step_on qu st m h1
    obtain ⟨ia, ib, ic⟩ := hinv
    have hinv' : Inv (step qu st m) ((m.ch, m.note) :: S) := by
      refine ⟨List.nodup_cons.mpr ⟨hnot, ia⟩, ?_, ?_⟩
      · intro k hk
        rcases List.mem_cons.mp hk with rfl | hk
        · exact ⟨hc, hn⟩
        · exact ib k hk
      · intro c n hc' hn'
        rw [e1, lookup_dictSet, List.mem_cons, ← ic c n hc' hn']
        simp only [hash_eq_iff hc' hn' hc hn]
        split <;> simp [*]
    have := ih (step qu st m) hinv'
    simp only [List.foldl_cons]
    rw [onPitches_cons_start ms h1]
    refine this.trans ?_
    simp only [flatNotes, e2, List.map_cons, List.append_assoc, List.cons_append]
    exact List.Perm.append_left _ (List.perm_middle.symm)
  | off S m ms h1 hmem _ ih =>
    intro st hinv
    obtain ⟨ia, ib, ic⟩ := hinv
    obtain ⟨hc, hn⟩ := ib _ hmem
    have hsome := (ic m.ch m.note hc hn).mpr hmem
    obtain ⟨t0, ht0⟩ := Option.isSome_iff_exists.mp hsome
    obtain ⟨e1, e2⟩ := step_off qu st m h1 t0 ht0
    have hinv' : Inv (step qu st m) (S.erase (m.ch, m.note)) := by
      refine ⟨ia.erase _, fun k hk => ib k (List.mem_of_mem_erase hk), ?_⟩
      intro c n hc' hn'
      rw [e1, lookup_dictDel]
      simp only [hash_eq_iff hc' hn' hc hn]
      split
      · next h => rw [h]; simpa using ia.not_mem_erase
      · next h => rw [ic c n hc' hn', List.mem_erase_of_ne h]
    have := ih (step qu st m) hinv'
    simp only [List.foldl_cons]
    rw [onPitches_cons_other ms (ends_not_starts h1)]
    refine this.trans ?_
    have hfl : (pitches (flatNotes (step qu st m))).Perm (pitches (flatNotes st) ++ [(m.note : Int)]) := by
      unfold flatNotes
      rw [e2]
      have := (appendAt_isAppendAt.flat st.notes m.ch (t0, (m.note : Int), quantT qu (st.t + m.dt) - t0)).map (fun x : Note3 => x.2.1)
      simpa [pitches] using this
    have hS : (S.map fun k => (k.2 : Int)).Perm ((m.note : Int) :: (S.erase (m.ch, m.note)).map fun k => (k.2 : Int)) := by
      have := (List.perm_cons_erase hmem).map (fun k : Nat × Nat => (k.2 : Int))
      simpa using this
    refine ((hfl.append_right _).append_right _).trans ?_
    simp only [List.append_assoc, List.cons_append, List.nil_append]
    refine List.Perm.append_left _ ?_
    refine List.Perm.trans ?_ ((hS.symm).append_right _)
    simp

theorem filter_nonempty_flat {κ α : Type} (d : List (κ × List α)) :
    (d.filter fun e => 0 < e.2.length).flatMap (·.2) = d.flatMap (·.2) :=
  Lists.flatMap_filter_of_nil _ _ d fun e _ h => List.eq_nil_of_length_eq_zero (by simpa using h)

theorem step_notes (qu : Option Nat) (st : TrackSt) (m : Msg) :
    (step qu st m).notes = st.notes ∨ ∃ x, (step qu st m).notes = appendAt st.notes m.ch x := by
  rcases step_cases qu st m with e | ⟨_, e⟩ | ⟨_, _, _, e⟩ <;> rw [e]
  · exact Or.inl rfl
  · exact Or.inl rfl
  · exact Or.inr ⟨_, rfl⟩

theorem runTrack_nodup (qu : Option Nat) (ms : List Msg) : ((runTrack qu ms).notes.map (·.1)).Nodup :=
  Lists.foldl_inv (fun st => (st.notes.map (·.1)).Nodup) (step qu) (fun st m h => by
    rcases step_notes qu st m with e | ⟨x, e⟩
    · rw [e]; exact h
    · rw [e]; exact appendAt_isAppendAt.nodup h _ _) ms {} (by simp)

/-- the entries one track contributes to `notes_by_track_ch` -/
def trackEntries (qu : Option Nat) (tr : List Msg) (i : Nat) : List (Key × List Note3) :=
  ((runTrack qu tr).notes.filter fun e => 0 < e.2.length).map fun e => ((i, e.1), e.2)

def entriesFrom (qu : Option Nat) (tracks : List (List Msg)) (k : Nat) : List (Key × List Note3) :=
  (tracks.zipIdx k).flatMap fun x => trackEntries qu x.1 x.2

theorem notesByTrackCh_eq (qu : Option Nat) (tracks : List (List Msg)) :
    notesByTrackCh qu tracks = entriesFrom qu tracks 0 := rfl

theorem trackEntries_flat (qu : Option Nat) (tr : List Msg) (i : Nat) :
    (trackEntries qu tr i).flatMap (·.2) = flatNotes (runTrack qu tr) := by
  unfold trackEntries flatNotes
  rw [← filter_nonempty_flat (runTrack qu tr).notes]
  simp [List.flatMap_map]

theorem entriesFrom_flat (qu : Option Nat) (tracks : List (List Msg)) (k : Nat) :
    (entriesFrom qu tracks k).flatMap (·.2) = tracks.flatMap fun tr => flatNotes (runTrack qu tr) := by
  induction tracks generalizing k with
  | nil => rfl
  | cons tr rest ih =>
    have := ih (k + 1)
    unfold entriesFrom at this ⊢
    simp only [List.zipIdx_cons, List.flatMap_cons, List.flatMap_append, trackEntries_flat, this]

theorem trackEntries_keys (qu : Option Nat) (tr : List Msg) (i : Nat) :
    ((trackEntries qu tr i).map (·.1)).Nodup ∧ ∀ k ∈ (trackEntries qu tr i).map (·.1), k.1 = i := by
  unfold trackEntries
  constructor
  · have h := (runTrack_nodup qu tr)
    have h2 : (((runTrack qu tr).notes.filter fun e => 0 < e.2.length).map (·.1)).Nodup :=
      (List.filter_sublist.map _).nodup h
    have : ((((runTrack qu tr).notes.filter fun e => 0 < e.2.length).map (·.1)).map fun c : Nat => ((i, c) : Key)).Nodup :=
      List.Pairwise.map _ (fun a b e x => e (by injection x)) h2
    simpa [List.map_map, Function.comp_def] using this
  · intro k hk
    simp only [List.map_map, List.mem_map, Function.comp] at hk
    obtain ⟨e, _, rfl⟩ := hk
    rfl

theorem entriesFrom_keys (qu : Option Nat) (tracks : List (List Msg)) (k : Nat) :
    ((entriesFrom qu tracks k).map (·.1)).Nodup ∧ ∀ x ∈ (entriesFrom qu tracks k).map (·.1), k ≤ x.1 := by
  induction tracks generalizing k with
  | nil => simp [entriesFrom]
  | cons tr rest ih =>
    obtain ⟨h1, h2⟩ := ih (k + 1)
    obtain ⟨t1, t2⟩ := trackEntries_keys qu tr k
    have e : entriesFrom qu (tr :: rest) k = trackEntries qu tr k ++ entriesFrom qu rest (k + 1) := by
      simp [entriesFrom, List.zipIdx_cons]
    rw [e, List.map_append]
    constructor
    · refine List.nodup_append.mpr ⟨t1, h1, ?_⟩
      intro a ha b hb hab
      subst hab
      have := t2 a ha
      have := h2 a hb
      omega
    · intro x hx
      rcases List.mem_append.mp hx with hx | hx
      · have := t2 x hx; omega
      · have := h2 x hx; omega

theorem lookup_self {κ ν : Type} [DecidableEq κ] (d : List (κ × ν)) (h : (d.map (·.1)).Nodup) :
    (d.map (·.1)).map (fun k => lookup k d) = d.map (fun e => some e.2) := by
  rw [List.map_map]
  exact List.map_congr_left fun e he => lookup_of_mem h he

theorem perKey_perm (nb : List (Key × List Note3)) (hn : (nb.map (·.1)).Nodup) (perKey : List (List Note3))
    (h : perKeyNotes nb = some perKey) : perKey.Perm (nb.map (·.2)) := by
  unfold perKeyNotes at h
  have h1 := Lists.mapM_eq_some_iff.mp h
  have hp : (sortedKeys nb).Perm (nb.map (·.1)) := List.mergeSort_perm _ _
  have h2 := hp.map (fun k => lookup k nb)
  rw [h1, lookup_self nb hn] at h2
  have h3 := h2.map (fun o : Option (List Note3) => o.getD [])
  simpa [List.map_map, Function.comp_def] using h3

theorem perKey_total (nb : List (Key × List Note3)) : ∃ perKey, perKeyNotes nb = some perKey :=
  Lists.mapM_total _ _ fun _ hk =>
    lookup_isSome_iff.mpr ((List.mergeSort_perm _ _).subset hk)

theorem noteList_perm (qu : Option Nat) (tracks : List (List Msg)) (perKey : List (List Note3))
    (h : perKeyNotes (notesByTrackCh qu tracks) = some perKey) :
    (noteList perKey).Perm (tracks.flatMap fun tr => flatNotes (runTrack qu tr)) := by
  have hk := (entriesFrom_keys qu tracks 0).1
  rw [← notesByTrackCh_eq] at hk
  have hp := perKey_perm _ hk perKey h
  have := hp.flatten
  rw [notesByTrackCh_eq] at this
  unfold noteList
  refine this.trans ?_
  rw [← entriesFrom_flat qu tracks 0]
  simp [List.flatMap_def]

theorem notesByPart_flat (items : List Item) :
    ((notesByPart items).flatMap (·.2)).Perm (items.map (·.note)) :=
  appendAt_isAppendAt.foldl_flat Item.part Item.note items []

theorem addPart_flat {π : Type} (pl : List (Option Nat × List π)) (pg : Option Nat) (p : π) :
    ((addPart pl pg p).flatMap (·.2)).Perm (pl.flatMap (·.2) ++ [p]) := by
  cases pg with
  | none => simp [addPart]
  | some g => exact appendAt_isAppendAt.flat pl (some g) p

/-- the loop of `routeParts` over `notes_by_part`: the parts it adds hold exactly the notes of the entries, and carry the key -/
theorem routeFold_spec (gpv : List (Option Nat × Option Nat × Option Nat)) (key : Option String) :
    ∀ (es : List (Nat × List NoteOut)) (pl0 pl : List (Option Nat × List PartOut)),
      es.foldlM (fun (pl : List (Option Nat × List PartOut)) e =>
        (lookup (some e.1) (gpv.map fun g => (g.2.1, g.1)).reverse).bind fun pg =>
          some (addPart pl pg { id := fmt1 MIDI_PART_ID_FORMAT (e.1 + MIDI_PART_ID_OFFSET), key := key, notes := e.2 })) pl0 = some pl →
      ((pl.flatMap (·.2)).flatMap (·.notes)).Perm ((pl0.flatMap (·.2)).flatMap (·.notes) ++ es.flatMap (·.2)) ∧
      ((∀ p ∈ pl0.flatMap (·.2), p.key = key) → ∀ p ∈ pl.flatMap (·.2), p.key = key) := by
  intro es
  induction es with
  | nil => intro pl0 pl h; simp at h; subst h; simp
  | cons e rest ih =>
    intro pl0 pl h
    simp only [List.foldlM_cons, Option.bind_eq_bind, Option.bind_eq_some_iff] at h
    obtain ⟨pl1, ⟨pg, _, hpl1⟩, hrest⟩ := h
    obtain ⟨hperm, hkey⟩ := ih pl1 pl hrest
    simp only [Option.some.injEq] at hpl1
    subst hpl1
    have hadd := addPart_flat pl0 pg ({ id := fmt1 MIDI_PART_ID_FORMAT (e.1 + MIDI_PART_ID_OFFSET), key := key, notes := e.2 } : PartOut)
    constructor
    · refine hperm.trans ((hadd.flatMap_right (·.notes)).append_right _ |>.trans ?_)
      simp
    · intro h0
      apply hkey
      intro p hp
      rcases List.mem_append.mp (hadd.subset hp) with a | a
      · exact h0 p a
      · rw [List.mem_singleton.mp a]

/-- `d[k] = v` and `d.setdefault(k, v)` rewrite the entry under `k` in place (or leave it) or append one -/
theorem setItem_eq_upsert {κ ν : Type} [DecidableEq κ] (d : List (κ × ν)) (k : κ) (v : ν) :
    setItem d k v = Dicts.upsert Prod.fst d k (fun _ => (k, v)) (k, v) := by
  unfold setItem Dicts.upsert
  exact ite_congr (propext (lookup_isSome_iff.trans (Dicts.any_key_iff Prod.fst d k).symm)) (fun _ => rfl) (fun _ => rfl)

theorem setDefault_eq_upsert {κ ν : Type} [DecidableEq κ] (d : List (κ × ν)) (k : κ) (v : ν) :
    (setDefault d k v).1 = Dicts.upsert Prod.fst d k id (k, v) := by
  unfold setDefault
  cases hl : lookup k d with
  | none => exact (Dicts.upsert_of_not_key (lookup_eq_none_iff.mp hl)).symm
  | some x =>
    rw [Dicts.upsert_of_key (lookup_isSome_iff.mp (by rw [hl]; rfl))]
    rw [List.map_congr_left (g := id) fun e _ => by split <;> rfl, List.map_id]

theorem keys_setItem {κ ν : Type} [DecidableEq κ] (d : List (κ × ν)) (k : κ) (v : ν) (k' : κ) :
    k' ∈ (setItem d k v).map (·.1) ↔ k' ∈ d.map (·.1) ∨ k' = k := by
  rw [setItem_eq_upsert]; exact Dicts.mem_keys_upsert (fun _ _ => rfl) rfl

theorem keys_setDefault {κ ν : Type} [DecidableEq κ] (d : List (κ × ν)) (k : κ) (v : ν) (k' : κ) :
    k' ∈ (setDefault d k v).1.map (·.1) ↔ k' ∈ d.map (·.1) ∨ k' = k := by
  rw [setDefault_eq_upsert]; exact Dicts.mem_keys_upsert (fun _ h => h) rfl
theorem assignStep_part (mode : Nat) (hm : mode ≤ 5) (st : AssignSt) (k k' : Key) :
    k' ∈ (assignStep mode st k).part.map (·.1) ↔ k' ∈ st.part.map (·.1) ∨ k' = k := by
  have : mode = 0 ∨ mode = 1 ∨ mode = 2 ∨ mode = 3 ∨ mode = 4 ∨ mode = 5 := by omega
  rcases this with h | h | h | h | h | h <;> subst h <;>
    simp only [assignStep, if_true, Nat.reduceEqDiff, if_false, keys_setItem, keys_setDefault]

theorem assign_fold_part (mode : Nat) (hm : mode ≤ 5) (keys : List Key) (st : AssignSt) (k' : Key) :
    k' ∈ (keys.foldl (assignStep mode) st).part.map (·.1) ↔ k' ∈ st.part.map (·.1) ∨ k' ∈ keys := by
  induction keys generalizing st with
  | nil => simp
  | cons k rest ih =>
    simp only [List.foldl_cons, ih, assignStep_part mode hm, List.mem_cons]
    constructor
    · rintro ((x | x) | x)
      · exact Or.inl x
      · exact Or.inr (Or.inl x)
      · exact Or.inr (Or.inr x)
    · rintro (x | x | x)
      · exact Or.inl (Or.inl x)
      · exact Or.inl (Or.inr x)
      · exact Or.inr x

theorem assign_part_some (mode : Nat) (hm : mode ≤ 5) (keys : List Key) :
    ∀ g ∈ assign mode keys, g.2.1.isSome := by
  intro g hg
  unfold assign at hg
  simp only [List.mem_map] at hg
  obtain ⟨k, hk, rfl⟩ := hg
  simp only
  rw [lookup_isSome_iff, assign_fold_part mode hm]
  exact Or.inr hk

theorem assign_length (mode : Nat) (keys : List Key) : (assign mode keys).length = keys.length := by
  simp [assign]

theorem pvl_length : ∀ (gpv : List (Option Nat × Option Nat × Option Nat)) (perKey : List (List Note3)),
    gpv.length = perKey.length → (partVoiceList gpv perKey).length = (noteList perKey).length := by
  intro gpv
  induction gpv with
  | nil => intro perKey h; cases perKey with
    | nil => rfl
    | cons _ _ => simp at h
  | cons g gs ih =>
    intro perKey h
    cases perKey with
    | nil => simp at h
    | cons l ls =>
      have := ih ls (by simpa using h)
      simp only [partVoiceList, noteList, List.zip_cons_cons, List.flatMap_cons, List.length_append, List.length_map,
        List.flatten_cons] at this ⊢
      omega

theorem pvl_length_perKey (mode : Nat) (nb : List (Key × List Note3)) (perKey : List (List Note3))
    (h : perKeyNotes nb = some perKey) :
    (partVoiceList (assign mode (sortedKeys nb)) perKey).length = (noteList perKey).length :=
  pvl_length _ _ (by rw [assign_length, Lists.mapM_length h])

/-- the item the zip of `mkItems` makes of one row and its running number -/
def mkItem (ids : Bool) (z : (Nat × Note3) × (Option Int × (String × Int × Int))) (i : Nat) : Item :=
  { part := z.1.1,
    note := { onset := z.1.2.1, pitch := z.1.2.2.1, dur := z.1.2.2.2, voice := z.2.1.getD 0, step := z.2.2.1,
              alter := z.2.2.2.1, octave := z.2.2.2.2, idx := i,
              id := if ids then some (fmt1 MIDI_NOTE_ID_FORMAT i) else none } }

/-- whatever of an item does not involve the running number is read off the zipped rows -/
theorem mkItems_map {β : Type} (f : Item → β) (g : (Nat × Note3) × (Option Int × (String × Int × Int)) → β) (ids : Bool)
    (h : ∀ z i, f (mkItem ids z i) = g z) (parts : List Nat) (nl : List Note3) (voices : List (Option Int))
    (sp : List (String × Int × Int)) :
    (mkItems ids parts nl voices sp).map f = ((parts.zip nl).zip (voices.zip sp)).map g := by
  unfold mkItems
  rw [List.map_map]
  generalize (parts.zip nl).zip (voices.zip sp) = Z
  suffices hk : ∀ k, (Z.zipIdx k).map (f ∘ fun x => mkItem ids x.1 x.2) = Z.map g from hk 0
  induction Z with
  | nil => intro k; rfl
  | cons z Z ih => intro k; simp only [List.zipIdx_cons, List.map_cons, ih (k + 1), Function.comp, h]

/-- what of a note the file and the estimators decide: (pitch, voice), spelling -/
def face (n : NoteOut) : (Int × Int) × (String × Int × Int) := ((n.pitch, n.voice), (n.step, n.alter, n.octave))

theorem mkItems_face (ids : Bool) (parts : List Nat) (nl : List Note3) (voices : List (Option Int))
    (sp : List (String × Int × Int)) (h1 : parts.length = nl.length) (h2 : voices.length = nl.length)
    (h3 : sp.length = nl.length) :
    (mkItems ids parts nl voices sp).map (fun it => face it.note) =
      ((nl.map (·.2.1)).zip (voices.map (·.getD 0))).zip sp := by
  rw [mkItems_map _ (fun z => ((z.1.2.2.1, z.2.1.getD 0), z.2.2)) ids (fun _ _ => rfl)]
  induction nl generalizing parts voices sp with
  | nil => cases parts <;> simp_all
  | cons n nl ih =>
    cases parts with
    | nil => simp at h1
    | cons p ps =>
      cases voices with
      | nil => simp at h2
      | cons v vs =>
        cases sp with
        | nil => simp at h3
        | cons s sp =>
          simp only [List.zip_cons_cons, List.map_cons, List.cons.injEq, true_and]
          exact ih ps vs sp (by simpa using h1) (by simpa using h2) (by simpa using h3)

theorem wellPaired_range (S : List (Nat × Nat)) (ms : List Msg) (h : WellPaired S ms) :
    ∀ p ∈ onPitches ms, 0 ≤ p ∧ p ≤ 127 := by
  induction h with
  | nil => simp [onPitches]
  | skip S m ms h1 _ _ ih => rwa [onPitches_cons_other ms h1]
  | on S m ms h1 _ _ hn _ ih =>
    intro p hp
    rw [onPitches_cons_start ms h1] at hp
    rcases List.mem_cons.mp hp with rfl | hp
    · omega
    · exact ih p hp
  | off S m ms h1 _ _ ih =>
    rwa [onPitches_cons_other ms (ends_not_starts h1)]

theorem voicesOf_length (e : Bool) (pvl : List (Option Nat × Option Nat)) (nl : List Note3) (v : List (Option Int))
    (h : voicesOf e pvl nl = some v) : v.length = pvl.length := by
  unfold voicesOf at h
  cases e with
  | false => simp at h; subst h; simp
  | true =>
    simp only [if_true, Option.bind_eq_some_iff] at h
    obtain ⟨est, _, h⟩ := h
    split at h
    · simp at h
    · rename_i hl
      simp only [Option.some.injEq] at h
      subst h
      simp only [List.length_map, List.length_zip]
      simp only [ne_eq, Decidable.not_not] at hl
      omega

theorem pvl_mem (gpv : List (Option Nat × Option Nat × Option Nat)) (perKey : List (List Note3)) :
    ∀ x ∈ partVoiceList gpv perKey, ∃ g ∈ gpv, x = (g.2.1, g.2.2) := by
  intro x hx
  unfold partVoiceList at hx
  obtain ⟨y, hy, hx⟩ := List.mem_flatMap.mp hx
  obtain ⟨_, _, rfl⟩ := List.mem_map.mp hx
  exact ⟨y.1, (List.of_mem_zip hy).1, rfl⟩

theorem notesByPart_keys (items : List Item) : ∀ k ∈ (notesByPart items).map (·.1), k ∈ items.map (·.part) := fun k hk =>
  ((appendAt_isAppendAt.mem_foldl_keys Item.part Item.note items [] k).mp hk).resolve_left List.not_mem_nil

theorem mkItems_parts (ids : Bool) (parts : List Nat) (nl : List Note3) (voices : List (Option Int))
    (sp : List (String × Int × Int)) : ∀ k ∈ (mkItems ids parts nl voices sp).map (·.part), k ∈ parts := by
  intro k hk
  unfold mkItems at hk
  simp only [List.map_map, List.mem_map, Function.comp] at hk
  obtain ⟨x, hx, rfl⟩ := hk
  have h1 : x.1 ∈ (parts.zip nl).zip (voices.zip sp) := by
    obtain ⟨i, hi, hxi⟩ := List.mem_iff_getElem.mp hx
    rw [← hxi]
    simp only [List.getElem_zipIdx]
    exact List.getElem_mem _
  exact (List.of_mem_zip (List.of_mem_zip h1).1).1

theorem routeParts_total (gpv : List (Option Nat × Option Nat × Option Nat)) (key : Option String) (items : List Item)
    (h : ∀ it ∈ items, some it.part ∈ gpv.map (·.2.1)) : ∃ parts, routeParts gpv key items = some parts := by
  unfold routeParts
  obtain ⟨pl, hpl, _⟩ := Lists.foldlM_inv (fun (pl : List (Option Nat × List PartOut)) (e : Nat × List NoteOut) =>
      (lookup (some e.1) (gpv.map fun g => (g.2.1, g.1)).reverse).bind fun pg =>
        some (addPart pl pg { id := fmt1 MIDI_PART_ID_FORMAT (e.1 + MIDI_PART_ID_OFFSET), key := key, notes := e.2 }))
    (fun _ => True) (notesByPart items) [] trivial (fun pl e he _ => by
      have hsome : (lookup (some e.1) (gpv.map fun g => (g.2.1, g.1)).reverse).isSome := by
        rw [lookup_isSome_iff]
        obtain ⟨it, hit, hpe⟩ := List.mem_map.mp (notesByPart_keys items e.1 (List.mem_map.mpr ⟨e, he, rfl⟩))
        have := h it hit
        rw [hpe] at this
        simpa [List.map_reverse, List.map_map, Function.comp_def] using this
      obtain ⟨pg, hpg⟩ := Option.isSome_iff_exists.mp hsome
      exact ⟨_, by rw [hpg]; rfl, trivial⟩)
  exact ⟨pl.flatMap (·.2), by simp [hpl]⟩

end C17M
