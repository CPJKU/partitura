/-
C03 — for the element codecs: finding the written children back.  `find` / `findall` / `findPath` over a concatenation of
pieces whose tags are known, and over children written item by item (the first child of a kind belongs to the first item
that writes one).  Only the tree of Model/XmlNote.lean is needed.
-/
import PartituraModel.Model.XmlNote

namespace C03.Text
open Model Model.XmlNote

theorem findall_append (t : Tag) (a b : List Xml) : findall t (a ++ b) = findall t a ++ findall t b := by
  simp [findall]

theorem findall_of_ne {t : Tag} {l : List Xml} (h : ∀ x ∈ l, x.tag ≠ t) : findall t l = [] := by
  unfold findall; rw [List.filter_eq_nil_iff]; intro x hx; simpa using h x hx

theorem findall_none {t : Tag} {l : List Xml} (ts : List Tag) (h : ∀ x ∈ l, x.tag ∈ ts) (hn : t ∉ ts) :
    findall t l = [] :=
  findall_of_ne fun x hx e => hn (e ▸ h x hx)

theorem findall_all {t : Tag} {l : List Xml} (h : ∀ x ∈ l, x.tag = t) : findall t l = l := by
  unfold findall
  rw [List.filter_eq_self]
  intro x hx
  simp [h x hx]

theorem findall_tagged {t u : Tag} {l : List Xml} (h : ∀ x ∈ l, x.tag = u) : findall t l = if t = u then l else [] := by
  split
  · rename_i e; exact findall_all (e ▸ h)
  · rename_i hn; exact findall_of_ne fun x hx e => hn (e.symm.trans (h x hx))

theorem findall_tagged_ne {t u : Tag} {l : List Xml} (h : ∀ x ∈ l, x.tag = u) (hn : t ≠ u) : findall t l = [] := by
  rw [findall_tagged h, if_neg hn]

theorem findall_flatMap {α : Type} (t : Tag) (l : List α) (w : α → List Xml) :
    findall t (l.flatMap w) = l.flatMap fun i => findall t (w i) := List.filter_flatMap

theorem find_flatMap {α : Type} (t : Tag) (l : List α) (w : α → List Xml) :
    find t (l.flatMap w) = l.findSome? fun i => find t (w i) := by
  unfold find; rw [findall_flatMap, List.head?_flatMap]

theorem findPath_flatMap {α : Type} (a b : Tag) (l : List α) (w : α → List Xml) :
    findPath a b (l.flatMap w) = l.findSome? fun i => findPath a b (w i) := by
  unfold findPath; rw [findall_flatMap, List.flatMap_assoc, List.head?_flatMap]

theorem find_map {α : Type} (t : Tag) (l : List α) (w : α → Xml) :
    find t (l.map w) = l.findSome? fun i => find t [w i] := by
  rw [List.map_eq_flatMap, find_flatMap]

end C03.Text
