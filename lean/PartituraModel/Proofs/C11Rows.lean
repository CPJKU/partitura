/-
C11 — the rows of the note array, as a LIST, are the same before and after `tie_notes`: no row is lost, none is
added, the order is kept (Model/Measures.lean: `tieOne`, `tieStage1`).

A row is a note without `tie_prev`.  `rowsOf` lists, in iteration order, key, onset, pitch, voice and id of the rows;
the tied duration and end of each row are covered by the `Walk` theorems of Proofs/C11Walk.lean.
Well-formedness of the input (kept as an invariant over the loop): keys are distinct (`KeysOK` — the model addresses
notes by key), and every tie points at a note of the list that has a back link (`LinksOK`).
-/
import PartituraModel.Proofs.C11Walk

namespace C11Rows
open Model Model.Dur Model.Meas C11Tie C11Walk

def isRow (n : Note) : Bool := n.tiePrev.isNone

abbrev Fields := Nat × Nat × String × Option Int × Option String

def fields (n : Note) : Fields := (n.key, n.start, n.pitch, n.voice, n.id)

def rowsOf (ns : List Note) : List Fields := (ns.filter isRow).map fields

def KeysOK (ns : List Note) : Prop := (ns.map (·.key)).Nodup

def LinksOK (ns : List Note) : Prop := ∀ n ∈ ns, ∀ t, n.tieNext = some t → ∃ m, lk ns t = some m ∧ m.tiePrev.isSome = true

theorem mem_rowsOf {ns : List Note} {f : Fields} : f ∈ rowsOf ns ↔ ∃ n ∈ ns, n.tiePrev = none ∧ fields n = f := by
  unfold rowsOf isRow
  simp only [List.mem_map, List.mem_filter, Option.isNone_iff_eq_none, and_assoc]

theorem rowsOf_map (g : Note → Note) : ∀ (l : List Note), (∀ n ∈ l, isRow (g n) = isRow n ∧ fields (g n) = fields n) →
    rowsOf (l.map g) = rowsOf l := by
  intro l
  induction l with
  | nil => intro _; rfl
  | cons a as ih =>
    intro h
    obtain ⟨h1, h2⟩ := h a List.mem_cons_self
    have ih' := ih (fun n hn => h n (List.mem_cons_of_mem _ hn))
    unfold rowsOf at ih' ⊢
    rw [List.map_cons, List.filter_cons, List.filter_cons, h1]
    split
    · rw [List.map_cons, List.map_cons, h2, ih']
    · exact ih'

theorem rowsOf_foldInsert (more : List Note) (h : ∀ m ∈ more, m.tiePrev.isSome = true) (l : List Note) :
    rowsOf (more.foldl (fun acc n => insertNote n acc) l) = rowsOf l := by
  unfold rowsOf
  rw [insNote.foldl_ins_filter_neg more l fun m hm => by
    unfold isRow
    cases hp : m.tiePrev with
    | none => have := h m hm; rw [hp] at this; cases this
    | some _ => rfl]

theorem keysOK_eq (ns : List Note) (h : KeysOK ns) (a b : Note) (ha : a ∈ ns) (hb : b ∈ ns) (hab : a.key = b.key) : a = b :=
  Lists.eq_of_nodup_map h ha hb hab

theorem lk_self (ns : List Note) (h : KeysOK ns) (a : Note) (ha : a ∈ ns) : lk ns a.key = some a :=
  C11Lists.find_key_self Note.key ns h a ha

theorem linked_tail_prev : ∀ (c : List Note) (a : Note), Linked (a :: c) → ∀ m ∈ c, m.tiePrev.isSome = true := by
  intro c
  induction c with
  | nil => intro a _ m hm; simp at hm
  | cons b rest ih =>
    intro a h m hm
    obtain ⟨_, _, h3, h4⟩ := (linked_cons2 a b rest).mp h
    rcases List.mem_cons.mp hm with rfl | hm
    · rw [h3]; rfl
    · exact ih b h4 m hm

theorem linked_next : ∀ (c : List Note) (a : Note), Linked (a :: c) → ∀ m ∈ a :: c,
    (a :: c).getLast? = some m ∨ ∃ b ∈ c, m.tieNext = some b.key ∧ b.tiePrev.isSome = true ∧ b.start = m.stop := by
  intro c
  induction c with
  | nil =>
    intro a _ m hm
    exact Or.inl (by rw [List.mem_singleton.mp hm]; rfl)
  | cons b rest ih =>
    intro a h m hm
    obtain ⟨h1, h2, h3, h4⟩ := (linked_cons2 a b rest).mp h
    rcases List.mem_cons.mp hm with rfl | hm
    · exact Or.inr ⟨b, List.mem_cons_self, h2, by rw [h3]; rfl, h1.symm⟩
    · rcases ih b h4 m hm with h5 | ⟨b', hb', h6⟩
      · exact Or.inl (by rw [List.getLast?_cons_cons]; exact h5)
      · exact Or.inr ⟨b', List.mem_cons_of_mem _ hb', h6⟩

section
variable {ns : List Note} {orig first : Note} {more : List Note} {r : Note → Note} {ns' : List Note}

theorem _root_.C11Walk.Installed.rows (h : Installed ns orig first more r ns') (hkeys : KeysOK ns) (hlinks : LinksOK ns) :
    rowsOf ns' = rowsOf ns := by
  obtain ⟨ps, _, sp⟩ := h.chain
  obtain ⟨hfs, hfk, hfid, hfp, hp, hv, _⟩ := h.head
  have horig := (lk_some ns _ _ h.here).2
  have hprev := linked_tail_prev more first sp.linked
  have hrepl : ∀ n ∈ ns, isRow (if n.key = orig.key then first else n) = isRow n ∧
      fields (if n.key = orig.key then first else n) = fields n := by
    intro n hn
    split
    · rename_i hk
      cases keysOK_eq ns hkeys n orig hn horig hk
      exact ⟨by unfold isRow; rw [hfp], by unfold fields; rw [hfk, hfs, hfid, hp, hv]⟩
    · exact ⟨rfl, rfl⟩
  rw [h.list, rowsOf_map r, rowsOf_foldInsert more hprev, rowsOf_map _ ns hrepl]
  intro n hn
  have hu := h.upTo n
  refine ⟨?_, by unfold fields; rw [hu.key, hu.start, hu.pitch, hu.voice, hu.id]⟩
  rcases h.relinked n with e | htn
  · rw [e]
  · -- the relinked note had a back link already
    have hnp : n.tiePrev.isSome = true := by
      rcases (mem_foldInsert more _ n).mp hn with hn | hn
      · exact hprev n hn
      · obtain ⟨n0, hn0, rfl⟩ := List.mem_map.mp hn
        obtain ⟨m, hm1, hm2⟩ := hlinks orig horig _ htn
        rw [repl_key hfk, lk_self ns hkeys n0 hn0] at hm1
        cases hm1
        split
        · rename_i hk
          cases keysOK_eq ns hkeys n0 orig hn0 horig hk
          rw [hfp]; exact hm2
        · exact hm2
    have := hu.prev hnp
    unfold isRow
    cases h1 : n.tiePrev with
    | none => rw [h1] at hnp; cases hnp
    | some a =>
      cases h2 : (r n).tiePrev with
      | none => rw [h2] at this; cases this
      | some b => rfl

theorem _root_.C11Walk.Installed.keys (h : Installed ns orig first more r ns') (hkeys : KeysOK ns) : KeysOK ns' := by
  have hg : ((fun n : Note => n.key) ∘ fun n => if n.key = orig.key then first else n) = fun n => n.key :=
    funext (repl_key h.head.2.1)
  unfold KeysOK
  rw [h.list, List.map_map, show ((fun n : Note => n.key) ∘ r) = fun n => n.key from funext fun n => (h.upTo n).key,
    ((insNote.foldl_ins_perm more _).map _).nodup_iff, List.map_append, List.map_map, hg, List.nodup_append]
  refine ⟨h.nodup, hkeys, ?_⟩
  intro a ha b hb hab
  obtain ⟨m, hm, rfl⟩ := List.mem_map.mp ha
  obtain ⟨n, hn, rfl⟩ := List.mem_map.mp hb
  have := freshKey_gt ns n hn
  have := h.fresh m hm
  omega

/-- where a tie link of the list after a turn comes from: it is an old link (of an old note, or of `orig` and now leaving the
    last piece, which ends and sounds like `orig`), or a new link between two consecutive pieces -/
theorem _root_.C11Walk.Installed.link_cases (h : Installed ns orig first more r ns') {x t : Nat} {n' : Note}
    (hx : lk ns' x = some n') (ht : n'.tieNext = some t) :
    (∃ y n, lk ns y = some n ∧ n.tieNext = some t ∧
      n'.stop = n.stop ∧ n'.pitch = n.pitch ∧ n'.voice = n.voice ∧ n'.staff = n.staff) ∨
    (∃ m ∈ first :: more, ∃ b ∈ more, n' = r m ∧ t = b.key ∧ lk ns' t = some (r b) ∧ b.tiePrev.isSome = true ∧
      b.start = m.stop ∧ b.pitch = m.pitch ∧ b.voice = m.voice ∧ b.staff = m.staff) := by
  obtain ⟨ps, _, sp⟩ := h.chain
  obtain ⟨lastN, hl1, hl2, hl3, _⟩ := sp.last
  obtain ⟨m, rfl, hm⟩ := h.inv x n' hx
  have hu := h.upTo m
  rw [hu.tieNext] at ht
  rw [hu.stop, hu.pitch, hu.voice, hu.staff]
  rcases hm with hm | ⟨hm, _⟩
  · obtain ⟨s1, s2, s3⟩ := sp.same m hm
    rcases linked_next more first sp.linked m hm with hl | ⟨b, hb, hmb, hbp, hadj⟩
    · rw [hl1] at hl
      cases hl
      exact Or.inl ⟨orig.key, orig, h.here, by rw [← hl3]; exact ht, hl2, s1, s2, s3⟩
    · rw [hmb] at ht
      cases ht
      obtain ⟨b1, b2, b3⟩ := sp.same b (List.mem_cons_of_mem _ hb)
      exact Or.inr ⟨m, hm, b, hb, rfl, rfl, h.new b hb, hbp, hadj, by rw [b1, s1], by rw [b2, s2], by rw [b3, s3]⟩
  · exact Or.inl ⟨x, m, hm, ht, rfl, rfl, rfl, rfl⟩

theorem _root_.C11Walk.Installed.links (h : Installed ns orig first more r ns') (hkeys' : KeysOK ns') (hlinks : LinksOK ns) : LinksOK ns' := by
  intro x hx t hxt
  rcases h.link_cases (lk_self ns' hkeys' x hx) hxt with ⟨y, n, hn, hnt, _⟩ | ⟨m, _, b, hb, _, _, hlk, hbp, _⟩
  · obtain ⟨m0, h1, h2⟩ := hlinks n (lk_some ns y n hn).2 t hnt
    obtain ⟨m', hm', _, _, _, _, _, hp⟩ := h.rowKept t m0 h1
    exact ⟨m', hm', hp h2⟩
  · exact ⟨r b, hlk, (h.upTo b).prev hbp⟩

end

theorem tieStage1_induct_wf (I : List Note → Prop) (qd : List (Int × Nat)) (ms : List Nat)
    (hstep : ∀ cur orig first more r cur', KeysOK cur → LinksOK cur → I cur → Installed cur orig first more r cur' → I cur')
    (ns : List Note) (hkeys : KeysOK ns) (hlinks : LinksOK ns) (h0 : I ns) :
    KeysOK (tieStage1 qd ms ns) ∧ LinksOK (tieStage1 qd ms ns) ∧ I (tieStage1 qd ms ns) :=
  tieStage1_induct_installed (fun cur => KeysOK cur ∧ LinksOK cur ∧ I cur) qd ms
    (fun _ _ _ _ _ _ ⟨a1, a2, a3⟩ hi => ⟨hi.keys a1, hi.links (hi.keys a1) a2, hstep _ _ _ _ _ _ a1 a2 a3 hi⟩)
    ns ⟨hkeys, hlinks, h0⟩

theorem tieStage1_rows (qd : List (Int × Nat)) (ms : List Nat) (ns : List Note) (hkeys : KeysOK ns) (hlinks : LinksOK ns) :
    rowsOf (tieStage1 qd ms ns) = rowsOf ns ∧ KeysOK (tieStage1 qd ms ns) ∧ LinksOK (tieStage1 qd ms ns) :=
  let ⟨a, b, c⟩ := tieStage1_induct_wf (fun cur => rowsOf cur = rowsOf ns) qd ms
    (fun _ _ _ _ _ _ k l i hi => (hi.rows k l).trans i) ns hkeys hlinks rfl
  ⟨c, a, b⟩

end C11Rows
