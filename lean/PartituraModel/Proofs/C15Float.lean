/-
C15 - lemmas about the model of `int(lcm / d)` (Model/MergeFloat.lean): below 2^53 the double division of a
multiple by its divisor is exact.
-/
import PartituraModel.Model.MergeFloat

namespace C15
open Model.Merge

theorem rneNat_of_dvd {a b : Nat} (hb : 0 < b) (h : b ∣ a) : rneNat a b = a / b := by
  have hr : a % b = 0 := Nat.mod_eq_zero_of_dvd h
  simp only [rneNat, hr, Nat.mul_zero, hb, if_true]

theorem toDouble_small {n : Nat} (h : n < 2 ^ 53) : toDouble n = n := by
  unfold toDouble
  rw [if_pos h]

theorem flog2From_spec {a d : Nat} (hd : d ≤ a) : ∀ n, d * 2 ^ flog2From n a d ≤ a
  | 0 => by simpa [flog2From] using hd
  | n + 1 => by
    unfold flog2From
    split
    · assumption
    · exact flog2From_spec hd n

-- 63 is the fuel of `flog2`
theorem flog2_spec {a d : Nat} (hd : d ≤ a) : d * 2 ^ flog2 a d ≤ a := flog2From_spec hd 63

theorem pow_le_lt_exp {e : Nat} {q : Nat} (h1 : 2 ^ e ≤ q) (h2 : q < 2 ^ 53) : e ≤ 52 := by
  have h : 2 ^ e < 2 ^ 53 := Nat.lt_of_le_of_lt h1 h2
  have := (Nat.pow_lt_pow_iff_right (a := 2) (by decide)).mp h
  omega

/-- The quotient `q` is below 2^53, so its binary exponent `e` is at most 52 and `q * 2^(52-e)`, the significand the
division has to round, is a whole number: `rneNat` does not round. -/
theorem floatQuot_exact {d q : Nat} (hd : 0 < d) (hq : 0 < q) (hq53 : q < 2 ^ 53) : floatQuot (q * d) d = q := by
  have hle : d ≤ q * d := Nat.le_mul_of_pos_left d hq
  have hs := flog2_spec hle
  show rneNat (q * d * 2 ^ 52) (d * 2 ^ flog2 (q * d) d) * 2 ^ flog2 (q * d) d / 2 ^ 52 = q
  generalize flog2 (q * d) d = e at hs ⊢
  have h2 : 2 ^ e ≤ q := by
    have : 2 ^ e * d ≤ q * d := by rw [Nat.mul_comm]; exact hs
    exact Nat.le_of_mul_le_mul_right this hd
  have he : e ≤ 52 := pow_le_lt_exp h2 hq53
  obtain ⟨k, hk⟩ : ∃ k, 52 = e + k := ⟨52 - e, by omega⟩
  have hpow : (2 : Nat) ^ 52 = 2 ^ e * 2 ^ k := by rw [hk, Nat.pow_add]
  have hb : 0 < d * 2 ^ e := Nat.mul_pos hd (Nat.two_pow_pos _)
  have hfac : q * d * 2 ^ 52 = (d * 2 ^ e) * (q * 2 ^ k) := by rw [hpow]; ac_rfl
  have hdvd : d * 2 ^ e ∣ q * d * 2 ^ 52 := ⟨_, hfac⟩
  have hquot : q * d * 2 ^ 52 / (d * 2 ^ e) = q * 2 ^ k := by
    rw [hfac]; exact Nat.mul_div_cancel_left _ hb
  rw [rneNat_of_dvd hb hdvd, hquot]
  have : q * 2 ^ k * 2 ^ e = q * 2 ^ 52 := by rw [hpow]; ac_rfl
  rw [this]
  exact Nat.mul_div_cancel _ (Nat.two_pow_pos _)

theorem floatMult_exact {L d : Nat} (hd : 0 < d) (hdvd : d ∣ L) (hL : 0 < L) (h53 : L < 2 ^ 53) :
    floatMult L d = L / d := by
  have hdL : d ≤ L := Nat.le_of_dvd hL hdvd
  unfold floatMult
  rw [toDouble_small h53, toDouble_small (Nat.lt_of_le_of_lt hdL h53)]
  obtain ⟨q, rfl⟩ := hdvd
  have hq : 0 < q := by
    rcases Nat.eq_zero_or_pos q with h | h
    · subst h; simp at hL
    · exact h
  have hq53 : q < 2 ^ 53 := by
    have : q ≤ d * q := Nat.le_mul_of_pos_left q hd
    exact Nat.lt_of_le_of_lt this h53
  rw [Nat.mul_div_cancel_left _ hd, Nat.mul_comm d q]
  exact floatQuot_exact hd hq hq53

end C15
