/-
C02 — call histories of `set_quarter_duration` in any order of times: what `inForceR` picks, what one call does to the
stored times, the calls inside an edit / query history.
-/
import PartituraModel.Model.TimeMapCalls
import PartituraModel.Proofs.C02QDLaw

namespace C02Proofs
open Model.TimeMap C02

theorem inForceR_cons (c : Int × Nat) (h : List (Int × Nat)) (x : Rat) :
    inForceR (c :: h) x =
      if (c.1 : Rat) ≤ x ∧ ∀ b, inForceR h x = some b → b.1 ≤ c.1 then some c else inForceR h x := by
  cases hh : inForceR h x with
  | none => simp [inForceR, hh]
  | some b' => simp [inForceR, hh]

theorem greatest_of_split {x : Rat} {b : Int × Nat} {pre post : List (Int × Nat)}
    (hpre : ∀ c ∈ pre, (c.1 : Rat) ≤ x → c.1 < b.1) (hpost : ∀ c ∈ post, (c.1 : Rat) ≤ x → c.1 ≤ b.1) :
    ∀ d ∈ pre ++ b :: post, (d.1 : Rat) ≤ x → d.1 ≤ b.1 := by
  intro d hd hdx
  rcases List.mem_append.mp hd with hd | hd
  · exact (hpre d hd hdx).le
  · rcases List.mem_cons.mp hd with rfl | hd
    · exact le_refl _
    · exact hpost d hd hdx

/-- the list holds the MOST RECENT call first: the pick is later than every more recent call at or before `x` and not
earlier than any older one -/
theorem inForceR_char (x : Rat) : ∀ (l : List (Int × Nat)),
    (inForceR l x = none ↔ ∀ c ∈ l, ¬ ((c.1 : Rat) ≤ x)) ∧
    (∀ b, inForceR l x = some b ↔ ∃ pre post, l = pre ++ b :: post ∧ (b.1 : Rat) ≤ x ∧
      (∀ c ∈ pre, (c.1 : Rat) ≤ x → c.1 < b.1) ∧ (∀ c ∈ post, (c.1 : Rat) ≤ x → c.1 ≤ b.1))
  | [] => by simp [inForceR]
  | c :: h => by
    obtain ⟨ihn, ihs⟩ := inForceR_char x h
    have hold : ∀ b', inForceR h x = some b' → ∀ d ∈ h, (d.1 : Rat) ≤ x → d.1 ≤ b'.1 := by
      intro b' hb'
      obtain ⟨pre, post, rfl, _, h1, h2⟩ := (ihs b').mp hb'
      exact greatest_of_split h1 h2
    rw [inForceR_cons]
    by_cases hc : (c.1 : Rat) ≤ x ∧ ∀ b, inForceR h x = some b → b.1 ≤ c.1
    · -- `c` is picked: the split is at the head
      rw [if_pos hc]
      refine ⟨⟨fun h0 => (by cases h0), fun h0 => absurd hc.1 (h0 c List.mem_cons_self)⟩, fun b => ⟨fun hb => ?_, ?_⟩⟩
      · cases hb
        refine ⟨[], h, rfl, hc.1, fun _ hd => absurd hd List.not_mem_nil, fun d hd hdx => ?_⟩
        cases hh : inForceR h x with
        | none => exact absurd hdx (ihn.mp hh d hd)
        | some b' => exact (hold b' hh d hd hdx).trans (hc.2 b' hh)
      · rintro ⟨pre, post, he, hbx, hpre, _⟩
        cases pre with
        | nil => rw [(List.cons.inj he).1]
        | cons p ps =>
          -- `b` lies among the older calls, so their pick is not earlier than `b`, nor later than `c`
          exfalso
          obtain ⟨rfl, rfl⟩ := List.cons.inj he
          have h1 := hpre c List.mem_cons_self hc.1
          cases hh : inForceR (ps ++ b :: post) x with
          | none => exact ihn.mp hh b (List.mem_append_right _ List.mem_cons_self) hbx
          | some b' =>
            have := hold b' hh b (List.mem_append_right _ List.mem_cons_self) hbx
            have := hc.2 b' hh
            omega
    · -- the pick among the older calls stands, and `c`, if at or before `x`, is strictly earlier
      rw [if_neg hc]
      refine ⟨ihn.trans ⟨fun h0 d hd => ?_, fun h0 d hd => h0 d (List.mem_cons_of_mem _ hd)⟩, fun b => (ihs b).trans ⟨?_, ?_⟩⟩
      · rcases List.mem_cons.mp hd with rfl | hd
        · exact fun hdx => hc ⟨hdx, fun b hb => by rw [ihn.mpr h0] at hb; cases hb⟩
        · exact h0 d hd
      · rintro ⟨pre, post, rfl, hbx, hpre, hpost⟩
        refine ⟨c :: pre, post, rfl, hbx, fun d hd hdx => ?_, hpost⟩
        rcases List.mem_cons.mp hd with rfl | hd
        · by_contra hlt
          have hb : inForceR (pre ++ b :: post) x = some b := (ihs b).mpr ⟨pre, post, rfl, hbx, hpre, hpost⟩
          exact hc ⟨hdx, fun b' hb' => by rw [hb] at hb'; cases hb'; omega⟩
        · exact hpre d hd hdx
      · rintro ⟨pre, post, he, hbx, hpre, hpost⟩
        cases pre with
        | nil =>
          -- `c` itself would have been picked
          exfalso
          obtain ⟨rfl, rfl⟩ := List.cons.inj he
          refine hc ⟨hbx, fun b' hb' => ?_⟩
          obtain ⟨pre', post', rfl, hb'x, _, _⟩ := (ihs b').mp hb'
          exact hpost b' (List.mem_append_right _ List.mem_cons_self) hb'x
        | cons p ps =>
          obtain ⟨rfl, rfl⟩ := List.cons.inj he
          exact ⟨ps, post, rfl, hbx, fun d hd => hpre d (List.mem_cons_of_mem _ hd), hpost⟩

theorem inForceR_greatest {x : Rat} {l : List (Int × Nat)} {b : Int × Nat} (h : inForceR l x = some b) :
    b ∈ l ∧ (b.1 : Rat) ≤ x ∧ ∀ c ∈ l, (c.1 : Rat) ≤ x → c.1 ≤ b.1 := by
  obtain ⟨pre, post, rfl, hbx, hpre, hpost⟩ := ((inForceR_char x l).2 b).mp h
  exact ⟨List.mem_append_right _ List.mem_cons_self, hbx, greatest_of_split hpre hpost⟩

theorem cast_le_pred (t0 t : Int) : ((t0 : Rat) ≤ (t : Rat) - 1) ↔ t0 < t := by
  rw [← Int.cast_one (R := Rat), ← Int.cast_sub, Int.cast_le, Int.le_sub_one_iff]

theorem lastBefore_scan (t : Int) :
    Lists.IsPrevScan (fun e : Int × Nat => e.1 < t) (fun e => some e.2) (lastBefore t) :=
  ⟨fun _ => rfl, fun _ _ _ => rfl⟩

/-- the two scans run the same stretch: `t0 < t` iff `t0 ≤ t - 1` on integers -/
theorem lastBefore_eq (t : Int) (l : List (Int × Nat)) (cur : Nat) :
    lastBefore t (some cur) l = some (prevValue cur l ((t : Rat) - 1)) := by
  rw [(lastBefore_scan t).eq, (prevValue_scan _).eq]
  simp only [cast_le_pred]
  cases (l.takeWhile fun e => decide (e.1 < t)).getLast? <;> rfl

theorem setQDAux_struct (t : Int) (q : Nat) (l : List (Int × Nat)) (prev : Option Nat)
    (hp : (l.map (·.1)).Pairwise (· < ·)) :
    (t ∈ l.map (·.1) → (setQDAux t q prev l).map (·.1) = l.map (·.1)) ∧
    (t ∉ l.map (·.1) → lastBefore t prev l = some q → setQDAux t q prev l = l) ∧
    (t ∉ l.map (·.1) → lastBefore t prev l ≠ some q →
      ∀ u, u ∈ (setQDAux t q prev l).map (·.1) ↔ u = t ∨ u ∈ l.map (·.1)) := by
  -- the cases in the order given in Proofs/C02Hist.lean: end/redundant, end/new, pass, overwrite, later/redundant, later/new
  fun_induction setQDAux t q prev l with
  | case1 => exact ⟨fun _ => rfl, fun _ _ => rfl, fun _ h => absurd rfl h⟩
  | case2 prev hq =>
    exact ⟨fun h => absurd h List.not_mem_nil, fun _ h => absurd h hq, fun _ _ u => by
      rw [List.map_cons, List.map_nil, List.mem_singleton]; exact (or_iff_left List.not_mem_nil).symm⟩
  | case3 prev t0 q0 rest h1 ih =>
    -- an entry before `t` is passed: neither the stored times other than its own nor the value before `t` change
    obtain ⟨ih1, ih2, ih3⟩ := ih (List.pairwise_cons.mp hp).2
    have hmem : t ∈ ((t0, q0) :: rest).map (·.1) ↔ t ∈ rest.map (·.1) := by
      rw [List.map_cons, List.mem_cons]; exact or_iff_right (by omega)
    have ep : lastBefore t prev ((t0, q0) :: rest) = lastBefore t (some q0) rest := by rw [lastBefore, if_pos h1]
    rw [ep, hmem]
    refine ⟨fun h => by rw [List.map_cons, ih1 h]; rfl, fun h hq => by rw [ih2 h hq], fun h hq u => ?_⟩
    rw [List.map_cons, List.mem_cons, ih3 h hq u, List.map_cons, List.mem_cons, or_left_comm]
  | case4 prev q0 rest =>
    have hin : t ∈ ((t, q0) :: rest).map (·.1) := List.mem_cons_self
    exact ⟨fun _ => rfl, fun h => absurd hin h, fun h => absurd hin h⟩
  | case5 t0 q0 rest h1 h2 => exact ⟨fun _ => rfl, fun _ _ => rfl, fun _ h => absurd (by rw [lastBefore, if_neg h1]) h⟩
  | case6 prev t0 q0 rest h1 h2 hq =>
    have hnot : t ∉ ((t0, q0) :: rest).map (·.1) := by
      rw [List.map_cons, List.mem_cons]
      rintro (h | h)
      · exact h2 h.symm
      · have : t0 < t := (List.pairwise_cons.mp hp).1 t h
        omega
    exact ⟨fun h => absurd h hnot, fun _ h => absurd (by rw [lastBefore, if_neg h1] at h; exact h) hq, fun _ _ u => by
      rw [List.map_cons, List.mem_cons]⟩
theorem hrun_qd_from (h : List HOp) : ∀ (s : HState), (h.foldl hstep s).qd = qdTableFrom s.qd (qdCalls h) := by
  induction h with
  | nil => intro s; rfl
  | cons op rest ih =>
    intro s
    simp only [List.foldl_cons]
    rw [ih]
    cases op with
    | setQD t q => rfl
    | beat o => cases o <;> rfl
    | measure a e => rfl
    | span a e => rfl
    | query => rfl

theorem qdCalls_mem : ∀ (h : List HOp) (c : Int × Nat), c ∈ qdCalls h → HOp.setQD c.1 c.2 ∈ h
  | [], c, hc => by simp [qdCalls] at hc
  | op :: rest, c, hc => by
    cases op with
    | setQD t q =>
      simp only [qdCalls, List.mem_cons] at hc
      rcases hc with hc | hc
      · rw [hc]; exact List.mem_cons_self
      · exact List.mem_cons_of_mem _ (qdCalls_mem rest c hc)
    | _ => exact List.mem_cons_of_mem _ (qdCalls_mem rest c hc)

end C02Proofs
