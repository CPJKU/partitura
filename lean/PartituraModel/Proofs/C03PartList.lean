/-
C03 — the part list: the lazy writer (`handle_parents`) produces the bracket sequence of the forest, and
`_parse_partlist` reads a bracket sequence back as the forest; the forests for which writing what was read gives the
same elements (`CanonicalForest`).
-/
import PartituraModel.Model.XmlPartList
import PartituraModel.Proofs.C03Dir

namespace C03.PL
open Model Model.XmlNote Model.PartList
open Model.PartList.Forest

abbrev F := Forest GroupW PartW

def stopOf (g : GroupW) : PLEl := .groupStop g.number

/-- the bracket sequence of a forest -/
def emit : F → List PLEl
  | .nil => []
  | .part p r => .scorePart p :: emit r
  | .group g c r => .groupStart g :: (emit c ++ stopOf g :: emit r)

/-- the groups that are still open after the last part of the forest: innermost first -/
def spine : F → List GroupW
  | .nil => []
  | .part _ r => spine r
  | .group g c r =>
    match r with
    | .nil => spine c ++ [g]
    | _ => spine r

/-- the bracket sequence without the closing brackets of the spine -/
def emitOpen : F → List PLEl
  | .nil => []
  | .part p r => .scorePart p :: emitOpen r
  | .group g c r =>
    match r with
    | .nil => .groupStart g :: emitOpen c
    | _ => .groupStart g :: (emit c ++ stopOf g :: emitOpen r)

theorem emit_eq (f : F) : emit f = emitOpen f ++ (spine f).map stopOf := by
  induction f with
  | nil => rfl
  | part p r ih => simp [emit, emitOpen, spine, ih]
  | group g c r ihc ihr =>
    cases r with
    | nil => simp [emit, emitOpen, spine, ihc]
    | part p r' => simp only [emit, emitOpen, spine] at ihr ⊢; simp [ihr]
    | group g' c' r' => simp only [emit, emitOpen, spine] at ihr ⊢; simp [ihr]

theorem spine_group_ne (g : GroupW) (c r : F) (h : r ≠ .nil) : spine (.group g c r) = spine r := by
  cases r with
  | nil => exact absurd rfl h
  | part _ _ => rfl
  | group _ _ _ => rfl

theorem emitOpen_group_ne (g : GroupW) (c r : F) (h : r ≠ .nil) :
    emitOpen (.group g c r) = .groupStart g :: (emit c ++ stopOf g :: emitOpen r) := by
  cases r with
  | nil => exact absurd rfl h
  | part _ _ => rfl
  | group _ _ _ => rfl

/-- no group of `A` is (the same object as) a group of `B` -/
def D (A B : List GroupW) : Prop := ∀ a ∈ A, ∀ b ∈ B, a.gid ≠ b.gid

theorem walkUp_spec (stack pend base : List GroupW) (h1 : D pend stack)
    (h2 : ∀ b ∈ base.head?, b ∈ stack) : walkUp stack (pend ++ base) = (pend, base.head?) := by
  induction pend with
  | nil =>
    cases base with
    | nil => rfl
    | cons b bs =>
      have hb : b ∈ stack := h2 b (by simp)
      have : stack.any (fun s => s.gid == b.gid) = true := List.any_eq_true.mpr ⟨b, hb, by simp⟩
      simp [walkUp, this]
  | cons g gs ih =>
    have hg : stack.any (fun s => s.gid == g.gid) = false := by
      rw [Bool.eq_false_iff]
      intro hc
      obtain ⟨s, hs, he⟩ := List.any_eq_true.mp hc
      have he' : s.gid = g.gid := by simpa using he
      exact h1 g (by simp) s hs he'.symm
    have ih' := ih (fun a ha b hb => h1 a (List.mem_cons_of_mem _ ha) b hb)
    simp only [List.cons_append, walkUp, hg, Bool.false_eq_true, if_false, ih']

theorem closeUntil_spec (extra base : List GroupW) (out : List PLEl)
    (h : ∀ b ∈ base.head?, ∀ e ∈ extra, b.gid ≠ e.gid) :
    closeUntil base.head? (extra ++ base) out = (base, out ++ extra.map stopOf) := by
  induction extra generalizing out with
  | nil =>
    cases base with
    | nil => simp [closeUntil]
    | cons b bs => simp [closeUntil]
  | cons e es ih =>
    have hne : ¬ (base.head?.map (·.gid) = some e.gid) := by
      intro hc
      cases hb : base.head? with
      | none => simp [hb] at hc
      | some b =>
        rw [hb] at hc
        simp only [Option.map_some, Option.some.injEq] at hc
        exact h b (by simp [hb]) e (by simp) hc
    simp only [List.cons_append, closeUntil, hne, if_false]
    rw [ih _ (fun b hb e' he' => h b hb e' (List.mem_cons_of_mem _ he'))]
    simp [stopOf]

theorem writePart_spec (extra base pend : List GroupW) (out : List PLEl) (p : PartW)
    (h1 : D pend (extra ++ base)) (h2 : D extra base) :
    writePart { stack := extra ++ base, out := out } (p, pend ++ base) =
      { stack := pend ++ base, out := out ++ extra.map stopOf ++ pend.reverse.map .groupStart ++ [.scorePart p] } := by
  have hw := walkUp_spec (extra ++ base) pend base h1 (fun b hb => by
    cases base with
    | nil => simp at hb
    | cons b' bs => simp only [List.head?_cons, Option.mem_def, Option.some.injEq] at hb; subst hb; simp)
  have hc := closeUntil_spec extra base out (fun b hb e he => by
    cases base with
    | nil => simp at hb
    | cons b' bs =>
      simp only [List.head?_cons, Option.mem_def, Option.some.injEq] at hb
      subst hb
      exact fun heq => h2 e he b' (by simp) heq.symm)
  unfold writePart
  simp only [hw, hc]

/-- how often the object `i` occurs among the groups `l` -/
def occ (i : Nat) (l : List GroupW) : Nat := (l.map (·.gid)).count i

theorem occ_append (i : Nat) (a b : List GroupW) : occ i (a ++ b) = occ i a + occ i b := by
  simp [occ, List.count_append]

theorem occ_cons (i : Nat) (g : GroupW) (l : List GroupW) : occ i (g :: l) = occ i l + (if g.gid = i then 1 else 0) := by
  simp [occ, List.count_cons]

theorem occ_nil (i : Nat) : occ i [] = 0 := rfl

/-- no object occurs twice; counted, so that what `write_forest` asks of parts and rearrangements of its list is arithmetic -/
def Distinct (l : List GroupW) : Prop := ∀ i, occ i l ≤ 1

theorem distinct_iff (l : List GroupW) : Distinct l ↔ (l.map (·.gid)).Nodup := List.nodup_iff_count.symm

theorem occ_pos {g : GroupW} {l : List GroupW} (h : g ∈ l) : 0 < occ g.gid l :=
  List.count_pos_iff.mpr (List.mem_map_of_mem h)

theorem D_of_distinct {A B l : List GroupW} (h : Distinct l) (hs : ∀ i, occ i A + occ i B ≤ occ i l) : D A B := by
  intro a ha b hb e
  have h1 : 0 < occ b.gid A := e ▸ occ_pos ha
  have h2 := occ_pos hb
  have := hs b.gid
  have := h b.gid
  omega

theorem occ_spine_le (i : Nat) : ∀ f : F, occ i (spine f) ≤ occ i (groups f)
  | .nil => Nat.le_refl _
  | .part _ r => occ_spine_le i r
  | .group g c r => by
    by_cases hr : r = .nil
    · subst hr
      have := occ_spine_le i c
      simp only [spine, groups, occ_append, occ_cons, occ_nil]
      omega
    · rw [spine_group_ne g c r hr]
      have := occ_spine_le i r
      simp only [groups, occ_append, occ_cons]
      omega

/-- The writer in the middle of a level: `base` are the open ancestors (on the stack), `pend` the ancestors not opened yet
    (the first part below them opens them), `extra` what earlier siblings left on the stack (the first part closes them);
    all these and the groups of the forest are different objects.  Afterwards the stack holds the spine of the forest above
    them. -/
theorem write_forest (f : F) : ∀ (pend base extra : List GroupW) (out : List PLEl),
    f ≠ .nil → f.NonEmpty → Distinct (groups f ++ pend ++ base ++ extra) →
    (flatten (pend ++ base) f).foldl writePart { stack := extra ++ base, out := out } =
      { stack := spine f ++ pend ++ base,
        out := out ++ extra.map stopOf ++ pend.reverse.map .groupStart ++ emitOpen f } := by
  induction f with
  | nil => intro _ _ _ _ h; exact absurd rfl h
  | part p r ih =>
    intro pend base extra out _ hne hd
    have hstep := writePart_spec extra base pend out p
      (D_of_distinct hd fun i => by simp only [occ_append]; omega)
      (D_of_distinct hd fun i => by simp only [occ_append]; omega)
    simp only [flatten, List.foldl_cons, hstep]
    by_cases hr : r = .nil
    · subst hr
      simp [flatten, spine, emitOpen]
    · have := ih [] (pend ++ base) [] (out ++ extra.map stopOf ++ pend.reverse.map .groupStart ++ [.scorePart p])
        hr hne (fun i => by have := hd i; simp only [groups, occ_append, occ_nil] at this ⊢; omega)
      simp only [List.nil_append, List.reverse_nil, List.map_nil, List.append_nil] at this
      rw [this]
      simp [spine, emitOpen]
  | group g c r ihc ihr =>
    intro pend base extra out _ hne hd
    obtain ⟨hcne, hcN, hrN⟩ := hne
    -- the children, with `g` waiting to be opened
    have hc := ihc (g :: pend) base extra out hcne hcN
      (fun i => by have := hd i; simp only [groups, occ_append, occ_cons] at this ⊢; omega)
    simp only [flatten]
    rw [show g :: (pend ++ base) = (g :: pend) ++ base from rfl, List.foldl_append, hc]
    by_cases hr : r = .nil
    · subst hr
      simp [flatten, spine, emitOpen, List.reverse_cons]
    · -- the rest of the level: what the children left open is closed by its first part
      have hr' := ihr [] (pend ++ base) (spine c ++ [g])
        (out ++ extra.map stopOf ++ (g :: pend).reverse.map .groupStart ++ emitOpen c) hr hrN
        (fun i => by
          have := hd i
          have := occ_spine_le i c
          simp only [groups, occ_append, occ_cons, occ_nil] at *
          omega)
      have e1 : spine c ++ (g :: pend) ++ base = (spine c ++ [g]) ++ (pend ++ base) := by simp
      rw [e1]
      simp only [List.nil_append] at hr'
      rw [hr', spine_group_ne g c r hr, emitOpen_group_ne g c r hr]
      simp [emit_eq c, List.reverse_cons, stopOf]

abbrev R := Forest GroupR PartR

theorem append_nil (f : Forest γ π) : f.append .nil = f := by
  induction f with
  | nil => rfl
  | part p r ih => simp [Forest.append, ih]
  | group g c r _ ihr => simp [Forest.append, ihr]

theorem append_assoc (a b c : Forest γ π) : (a.append b).append c = a.append (b.append c) := by
  induction a with
  | nil => rfl
  | part p r ih => simp [Forest.append, ih]
  | group g ch r _ ihr => simp [Forest.append, ihr]

theorem addNode_nil (s : RState) : addNode s .nil = s := by
  obtain ⟨stack, done⟩ := s
  cases stack with
  | nil => simp [addNode, append_nil]
  | cons top rest => obtain ⟨g, cs⟩ := top; simp [addNode, append_nil]

theorem addNode_addNode (s : RState) (a b : R) : addNode (addNode s a) b = addNode s (a.append b) := by
  unfold addNode
  cases hs : s.stack with
  | nil => simp [append_assoc]
  | cons top rest => obtain ⟨g, cs⟩ := top; simp [append_assoc]

/-- what the importer makes of one written element -/
def canonEl : PLEl → PLRead
  | .groupStart g => .groupStart (canonGroup g)
  | .groupStop _ => .groupStop
  | .scorePart p => .scorePart (canonPart p)

theorem runPL_append (s : RState) (a b : List PLRead) :
    runPL s (a ++ b) = (runPL s a).bind fun s' => runPL s' b := by
  induction a generalizing s with
  | nil => simp [runPL]
  | cons e es ih =>
    simp only [List.cons_append, runPL]
    cases stepPL s e with
    | none => simp
    | some s' => simp [ih]

/-- reading the bracket sequence of a forest adds the forest to the current level -/
theorem runPL_emit (f : F) : ∀ (s : RState) (rest : List PLRead),
    runPL s ((emit f).map canonEl ++ rest) = runPL (addNode s (f.map canonGroup canonPart)) rest := by
  induction f with
  | nil => intro s rest; simp [emit, Forest.map, addNode_nil]
  | part p r ih =>
    intro s rest
    simp only [emit, List.map_cons, List.cons_append, runPL, canonEl, stepPL, Option.bind_some, Forest.map]
    rw [ih, addNode_addNode]
    rfl
  | group g c r ihc ihr =>
    intro s rest
    have e1 : (emit (.group g c r)).map canonEl ++ rest =
        .groupStart (canonGroup g) :: ((emit c).map canonEl ++ (.groupStop :: ((emit r).map canonEl ++ rest))) := by
      simp [emit, canonEl, stopOf]
    rw [e1]
    simp only [runPL, stepPL, Option.bind_some]
    rw [ihc]
    have e2 : addNode { s with stack := (canonGroup g, Forest.nil) :: s.stack } (c.map canonGroup canonPart) =
        { s with stack := (canonGroup g, c.map canonGroup canonPart) :: s.stack } := rfl
    rw [e2]
    simp only [runPL, stepPL, Option.bind_some]
    rw [ihr, addNode_addNode]
    have e3 : ({ stack := s.stack, done := s.done } : RState) = s := rfl
    rw [e3]
    rfl

theorem parse_emit (f : F) : parsePartList ((emit f).map canonEl) = some (f.map canonGroup canonPart) := by
  unfold parsePartList
  have := runPL_emit f { stack := [], done := .nil } []
  simp only [List.append_nil] at this
  rw [this]
  simp [runPL, addNode, Forest.append]

/-- the abbreviation child as `plXml` writes it (there an anonymous `match`) -/
def abbrEls : Option Str → List Xml
  | some a => if a = [] then [] else [leaf tPartAbbreviation (Model.XmlDir.filterString a)]
  | none => []

theorem tag_abbrEls (abbr : Option Str) : ∀ x ∈ abbrEls abbr, x.tag = tPartAbbreviation := by
  cases abbr with
  | none => exact fun _ h => nomatch h
  | some a => unfold abbrEls; split <;> simp [leaf, Xml.tag]

/-- the first text among the name children, and among the abbreviation children, of a written `<score-part>` -/
theorem firstText_scorePart (nm : Str) (abbr : Option Str) :
    firstText tPartName (leaf tPartName nm :: abbrEls abbr) = (if nm = [] then none else some nm) ∧
    firstText tPartAbbreviation (leaf tPartName nm :: abbrEls abbr) =
      (((abbrEls abbr).map (·.text)).filter (· ≠ [])).head? := by
  have hn : ∀ x ∈ [leaf tPartName nm], x.tag = tPartName := fun x hx => by rw [List.mem_singleton.mp hx]; rfl
  have hne : tPartName ≠ tPartAbbreviation := by decide
  unfold firstText
  rw [show leaf tPartName nm :: abbrEls abbr = [leaf tPartName nm] ++ abbrEls abbr from rfl, C03.Text.findall_append, C03.Text.findall_append,
    C03.Text.findall_all hn, C03.Text.findall_tagged_ne (tag_abbrEls abbr) hne, C03.Text.findall_tagged_ne hn hne.symm,
    C03.Text.findall_all (tag_abbrEls abbr)]
  constructor
  · by_cases h : nm = [] <;> simp [leaf, Xml.text, h]
  · rfl
theorem readPL_plXml (e : PLEl) : readPL (plXml e) = canonEl e := by
  cases e with
  | groupStart g =>
    obtain ⟨gid, number, symbol, name⟩ := g
    have hsym : tagStr (find tGroupSymbol (optEl tGroupSymbol symbol ++ optEl tGroupName name)) = symbol.map pyStr := by
      cases symbol <;> cases name <;> rfl
    have hname : tagStr (find tGroupName (optEl tGroupSymbol symbol ++ optEl tGroupName name)) = name.map pyStr := by
      cases symbol <;> cases name <;> rfl
    simp only [plXml, readPL, Xml.tag, Xml.kids, hsym, hname, canonEl, canonGroup]
    simp [Xml.get, Xml.attrs, Model.lookup, attrInt, tPartGroup, tScorePart]
  | groupStop number =>
    simp [plXml, readPL, Xml.tag, Xml.get, Xml.attrs, Model.lookup, canonEl, sStart, sStop]
  | scorePart p =>
    obtain ⟨id, name, abbr⟩ := p
    have hx : plXml (.scorePart ⟨id, name, abbr⟩) =
        .el tScorePart [(.id, id)] [] (leaf tPartName (nameText name) :: abbrEls abbr) := rfl
    have h1 : firstText tPartName (leaf tPartName (nameText name) :: abbrEls abbr) = canonText name :=
      (firstText_scorePart _ _).1.trans (by cases name <;> rfl)
    have h2 : firstText tPartAbbreviation (leaf tPartName (nameText name) :: abbrEls abbr) = canonText abbr := by
      rw [(firstText_scorePart _ _).2]
      cases abbr with
      | none => rfl
      | some a =>
        by_cases ha : a = []
        · subst ha; rfl
        · by_cases hn : Model.XmlDir.filterString a = [] <;> simp [abbrEls, ha, leaf, Xml.text, canonText, hn]
    have ht : (tScorePart = tPartGroup) = False := by simp [tScorePart, tPartGroup, nScorePart, nPartGroup]
    rw [hx]
    simp only [readPL, Xml.tag, Xml.kids, ht, if_false, if_true, h1, h2, canonEl, canonPart]
    simp [Xml.get, Xml.attrs, Model.lookup]

end C03.PL

namespace C03.Fix2
open Model Model.XmlNote Model.XmlDir Model.PartList
open Model.PartList.Forest

/-- `"{}".format(group.number)` of a number `_parse_partlist` read -/
def numberText : Option Int → Str
  | some n => showIntC n
  | none => ['N', 'o', 'n', 'e']

/-- the representative of its meaning the importer picks: the number is printed the way Python prints what was read from
    it, symbol and name are not empty strings -/
def CanonicalGroup (g : GroupW) : Prop :=
  numberText (parseIntC g.number) = g.number ∧ g.symbol ≠ some [] ∧ g.name ≠ some []

/-- an abbreviation is either empty (not written) or has something left once NULs are dropped -/
def CanonicalPart (p : PartW) : Prop := ∀ a, p.abbr = some a → a = [] ∨ Model.XmlDir.filterString a ≠ []

/-- what the `<part-list>` children written for a structure look like, as a function of what the importer reads from them -/
def emitRead : Forest GroupR PartR → List Xml
  | .nil => []
  | .part p r =>
    plXml (.scorePart { id := match p.id with | some i => i | none => [], name := p.name, abbr := p.abbr }) :: emitRead r
  | .group g c r =>
    plXml (.groupStart { gid := 0, number := numberText g.number, symbol := g.symbol, name := g.name }) ::
      (emitRead c ++ plXml (.groupStop (numberText g.number)) :: emitRead r)

def CanonicalForest : Forest GroupW PartW → Prop
  | .nil => True
  | .part p r => CanonicalPart p ∧ CanonicalForest r
  | .group g c r => CanonicalGroup g ∧ CanonicalForest c ∧ CanonicalForest r

theorem optEl_pyStr (t : Tag) (s : Option Str) (h : s ≠ some []) : optEl t (s.map pyStr) = optEl t s := by
  cases s with
  | none => rfl
  | some v =>
    have : v ≠ [] := fun e => h (by rw [e])
    simp [optEl, pyStr, this]

theorem groupStart_fix (g : GroupW) (h : CanonicalGroup g) :
    plXml (.groupStart { gid := 0, number := numberText (canonGroup g).number, symbol := (canonGroup g).symbol,
                         name := (canonGroup g).name }) = plXml (.groupStart g) := by
  obtain ⟨h1, h2, h3⟩ := h
  simp only [plXml, canonGroup, h1, optEl_pyStr _ _ h2, optEl_pyStr _ _ h3]

theorem scorePart_fix (p : PartW) (h : CanonicalPart p) :
    plXml (.scorePart { id := match (canonPart p).id with | some i => i | none => [], name := (canonPart p).name,
                        abbr := (canonPart p).abbr }) = plXml (.scorePart p) := by
  obtain ⟨id, name, abbr⟩ := p
  have hn : nameText (canonText name) = nameText name := by
    cases name with
    | none => rfl
    | some s =>
      by_cases hs : Model.XmlDir.filterString s = []
      · simp [canonText, nameText, hs]
      · simp [canonText, nameText, hs, filterString_idem]
  have ha : C03.PL.abbrEls (canonText abbr) = C03.PL.abbrEls abbr := by
    cases abbr with
    | none => rfl
    | some a =>
      rcases h a rfl with h0 | h0
      · subst h0; simp [canonText, Model.XmlDir.filterString, C03.PL.abbrEls]
      · have ha0 : a ≠ [] := fun e => h0 (by rw [e]; rfl)
        simp [canonText, h0, ha0, filterString_idem, C03.PL.abbrEls]
  have e1 : ∀ (i : Str) (n a : Option Str), plXml (.scorePart ⟨i, n, a⟩) =
      .el tScorePart [(.id, i)] [] (leaf tPartName (nameText n) :: C03.PL.abbrEls a) := fun _ _ _ => rfl
  simp only [e1, canonPart, hn, ha]

theorem emit_canonical (f : Forest GroupW PartW) (hc : CanonicalForest f) :
    (C03.PL.emit f).map plXml = emitRead (f.map canonGroup canonPart) := by
  induction f with
  | nil => rfl
  | part p r ih =>
    simp only [C03.PL.emit, List.map_cons, Forest.map, emitRead, scorePart_fix p hc.1, ih hc.2]
  | group g c r ihc ihr =>
    obtain ⟨hg, hcc, hcr⟩ := hc
    simp only [C03.PL.emit, List.map_cons, List.map_append, Forest.map, emitRead, groupStart_fix g hg, ihc hcc, ihr hcr,
      C03.PL.stopOf]
    have : numberText (canonGroup g).number = g.number := hg.1
    rw [this]

end C03.Fix2
