/-
C09: every `"<n>_Volta_"` label the boundary pass of `_make_segments` produces
is an ending number of the part (one decimal digit when the layout is `supported`) or the `Z` of the jump back
(label 10) — the hypothesis of `mkSegments_refines`.
-/
import PartituraModel.Proofs.C09CleanStr
import PartituraModel.Proofs.C09Steps

namespace C09
open Model.Unfold

/-- what the table registers as the numbers of a bracket are one-digit numbers -/
def TblOK (tb : BTable) : Prop := ∀ t b nums e, tblGet t tb = some b → b.voltaStart = some (nums, e) → ∀ n ∈ nums, n < 10

theorem mkTable_ok (L : Layout) (hs : L.supported = true) : TblOK (mkTable L) := by
  intro t b nums e hget hv n hn
  rw [mkTable_get] at hget
  split at hget
  · rw [← Option.some.inj hget] at hv
    obtain ⟨v, hv1, hv2⟩ := lastSome_mem _ L.endings (nums, e) hv
    split at hv2
    · rw [← (Prod.mk.inj (Option.some.inj hv2)).1] at hn
      simpa using List.all_eq_true.mp (List.all_eq_true.mp hs v hv1) n hn
    · cases hv2
  · cases hget

def InfOK (inf : SegInfo) : Prop := ∀ p ∈ inf.to, ∀ lb, p.1 = Tag.volta lb → lb ≤ 10

theorem labelsOK_iff (infs : List SegInfo) : LabelsOK infs ↔ ∀ inf ∈ infs, InfOK inf := Iff.rfl

theorem modAt_ok {f : SegInfo → SegInfo} (hf : ∀ inf, InfOK inf → InfOK (f inf)) (i : Nat) (infs : List SegInfo)
    (h : LabelsOK infs) : LabelsOK (modAt i f infs) := by
  intro inf hinf
  obtain ⟨k, hk⟩ := List.getElem?_of_mem hinf
  rw [modAt_get] at hk
  split at hk
  · obtain ⟨a, ha, rfl⟩ := Option.map_eq_some_iff.mp hk
    exact hf a (h a (List.mem_of_getElem? ha))
  · exact h inf (List.mem_of_getElem? hk)

theorem addTo_ok (i : Nat) (ds : List (Tag × Dest)) (hds : ∀ p ∈ ds, ∀ lb, p.1 = Tag.volta lb → lb ≤ 10)
    (infs : List SegInfo) (h : LabelsOK infs) : LabelsOK (addTo i ds infs) := by
  apply modAt_ok _ i infs h
  intro inf hinf p hp lb hlb
  rcases List.mem_append.mp hp with hp | hp
  · exact hinf p hp lb hlb
  · exact hds p hp lb hlb

theorem modAt_keep (f : SegInfo → SegInfo) (hf : ∀ inf, (f inf).to = inf.to) (i : Nat) (infs : List SegInfo)
    (h : LabelsOK infs) : LabelsOK (modAt i f infs) :=
  modAt_ok (fun inf hinf p hp lb hlb => hinf p (by rw [← hf inf]; exact hp) lb hlb) i infs h

theorem setTy_ok (i : Nat) (ty : SegType) (infs : List SegInfo) (h : LabelsOK infs) : LabelsOK (setTy i ty infs) :=
  modAt_keep _ (by intro _; rfl) i infs h

theorem keepLeapEnd_ok (i : Nat) (infs : List SegInfo) (h : LabelsOK infs) : LabelsOK (keepLeapEnd i infs) :=
  modAt_keep _ (by intro _; rfl) i infs h

theorem plain_labels (ds : List (Tag × Dest)) (h : ∀ p ∈ ds, ∀ lb, p.1 ≠ Tag.volta lb) :
    ∀ p ∈ ds, ∀ lb, p.1 = Tag.volta lb → lb ≤ 10 :=
  fun p hp lb hlb => absurd hlb (h p hp lb)

theorem voltaScan_ok (tb : BTable) (htb : TblOK tb) (times : List Int) (i : Nat) :
    ∀ (k : Nat) (st st' : BState), LabelsOK st.info → voltaScan tb times i k st = some st' → LabelsOK st'.info := by
  intro k
  induction k with
  | zero => intro st st' h hs; simp only [voltaScan, Option.some.injEq] at hs; subst hs; exact h
  | succ k ih =>
    intro st st' h hs
    simp only [voltaScan] at hs
    split at hs
    · simp only [Option.some.injEq] at hs; subst hs; exact h
    · rename_i nums e hget
      split at hs
      · rename_i ci _
        refine ih _ st' ?_ hs
        refine modAt_keep _ (by intro _; rfl) _ _ ?_
        refine addTo_ok _ _ ?_ _ h
        intro p hp lb hlb
        obtain ⟨n, hn, rfl⟩ := List.mem_map.mp hp
        simp only [Tag.volta.injEq] at hlb
        subst hlb
        -- the numbers come from the table
        cases hg : tblGet st.cve tb with
        | none => simp [hg] at hget
        | some b =>
          simp only [hg, Option.bind_some] at hget
          have := htb _ b nums e hg hget n hn
          omega
      · cases hs

theorem voltaEndLoop_ok (times : List Int) (i : Nat) (re : Option Int) :
    ∀ (nums : List Nat) (st st' : BState), LabelsOK st.info → voltaEndLoop times i re nums st = some st' →
      LabelsOK st'.info := by
  intro nums
  induction nums with
  | nil => intro st st' h hs; simp only [voltaEndLoop, Option.some.injEq] at hs; subst hs; exact h
  | cons vn rest ih =>
    intro st st' h hs
    simp only [voltaEndLoop] at hs
    split at hs
    · split at hs
      · cases hs
      · refine ih _ st' ?_ hs
        refine addTo_ok _ _ ?_ _ h
        intro p hp lb hlb
        simp only [List.mem_singleton] at hp
        subst hp
        simp only [Tag.volta.injEq] at hlb
        omega
    · exact ih _ st' h hs

theorem addPlain_ok (i : Nat) (ds : List (Tag × Dest)) (hds : ∀ p ∈ ds, ∀ lb, p.1 ≠ Tag.volta lb)
    (infs : List SegInfo) (h : LabelsOK infs) : LabelsOK (addTo i ds infs) :=
  addTo_ok i ds (plain_labels ds hds) infs h

theorem stRepeatStart_ok (i : Nat) (b : BInfo) (d : Dest) (st : BState) (h : LabelsOK st.info) :
    LabelsOK (stRepeatStart i b d st).info := by
  unfold stRepeatStart
  split
  · exact addPlain_ok _ _ (by simp) _ h
  · exact h

theorem stRepeatEnd_ok (times : List Int) (i : Nat) (b : BInfo) (d : Dest) (st st' : BState) (h : LabelsOK st.info)
    (hs : stRepeatEnd times i b d st = some st') : LabelsOK st'.info := by
  unfold stRepeatEnd at hs
  split at hs
  · simp only [Option.some.injEq] at hs; subst hs; exact h
  · split at hs
    · simp only [Option.some.injEq] at hs; subst hs; exact h
    · split at hs
      · cases hs
      · simp only [Option.some.injEq] at hs; subst hs
        exact addPlain_ok _ _ (by simp) _ h

theorem stVoltaStart_ok (tb : BTable) (htb : TblOK tb) (times : List Int) (i : Nat) (b : BInfo) (se : Int)
    (st st' : BState) (h : LabelsOK st.info) (hs : stVoltaStart tb times i b se st = some st') : LabelsOK st'.info := by
  unfold stVoltaStart at hs
  split at hs
  · exact voltaScan_ok tb htb times i 10 _ st' (by exact h) hs
  · simp only [Option.some.injEq] at hs; subst hs; exact h

def voltaEndBody (times : List Int) (i : Nat) (b : BInfo) (nums : List Nat) (st : BState) : Option BState :=
  match voltaEndLoop times i b.repeatEnd nums st with
  | none => none
  | some st =>
    if nums.contains st.cvt then
      match idOf times st.cve with
      | none => none
      | some d => some { st with info := addTo i [(Tag.plain, d)] st.info }
    else some st

theorem voltaEndBody_ok (times : List Int) (i : Nat) (b : BInfo) (nums : List Nat) (st st' : BState) (h : LabelsOK st.info)
    (hs : voltaEndBody times i b nums st = some st') : LabelsOK st'.info := by
  unfold voltaEndBody at hs
  split at hs
  · cases hs
  · rename_i st1 hl
    have h1 : LabelsOK st1.info := voltaEndLoop_ok times i b.repeatEnd _ st st1 h hl
    split at hs
    · split at hs
      · cases hs
      · simp only [Option.some.injEq] at hs; subst hs
        exact addPlain_ok _ _ (by simp) _ h1
    · simp only [Option.some.injEq] at hs; subst hs; exact h1

theorem stVoltaEnd_body (times : List Int) (i : Nat) (b : BInfo) (st : BState) :
    stVoltaEnd times i b st = if b.voltaEnd then voltaEndBody times i b (match st.info[i]? with
      | some s => s.voltaNums
      | none => []) st else some st := rfl

theorem stVoltaEnd_ok (times : List Int) (i : Nat) (b : BInfo) (st st' : BState) (h : LabelsOK st.info)
    (hs : stVoltaEnd times i b st = some st') : LabelsOK st'.info := by
  rw [stVoltaEnd_body] at hs
  by_cases hb : b.voltaEnd = true
  · rw [if_pos hb] at hs
    exact voltaEndBody_ok times i b _ st st' h hs
  · rw [if_neg hb] at hs
    simp only [Option.some.injEq] at hs; subst hs; exact h

theorem stLeapEnd_ok (flag : Bool) (i : Nat) (d : Dest) (st st' : BState) (h : LabelsOK st.info)
    (hs : stLeapEnd flag i d st = some st') : LabelsOK st'.info := by
  unfold stLeapEnd at hs
  split at hs
  · split at hs
    · cases hs
    · simp only [Option.some.injEq] at hs; subst hs
      exact setTy_ok _ _ _ (addPlain_ok _ _ (by simp) _ h)
  · simp only [Option.some.injEq] at hs; subst hs; exact h

theorem stToCoda_ok (L : Layout) (times : List Int) (i : Nat) (b : BInfo) (d : Dest) (st st' : BState) (h : LabelsOK st.info)
    (hs : stToCoda L times i b d st = some st') : LabelsOK st'.info := by
  unfold stToCoda at hs
  split at hs
  · split at hs
    · cases hs
    · split at hs
      · cases hs
      · simp only [Option.some.injEq] at hs; subst hs
        exact addPlain_ok _ _ (by simp) _ h
  · simp only [Option.some.injEq] at hs; subst hs; exact h

theorem stJumpBack_ok (flag : Bool) (target : Option Int) (times : List Int) (i : Nat) (d : Dest) (st st' : BState)
    (h : LabelsOK st.info) (hs : stJumpBack flag target times i d st = some st') : LabelsOK st'.info := by
  unfold stJumpBack at hs
  split at hs
  · split at hs
    · cases hs
    · split at hs
      · cases hs
      · simp only [Option.some.injEq] at hs; subst hs
        exact setTy_ok _ _ _ (addPlain_ok _ _ (by simp) _ h)
  · simp only [Option.some.injEq] at hs; subst hs; exact h

theorem stFine_ok (L : Layout) (times : List Int) (i : Nat) (b : BInfo) (d : Dest) (st st' : BState) (h : LabelsOK st.info)
    (hs : stFine L times i b d st = some st') : LabelsOK st'.info := by
  unfold stFine at hs
  split at hs
  · split at hs
    · cases hs
    · simp only [Option.some.injEq] at hs; subst hs
      exact addPlain_ok _ _ (by simp) _ h
  · simp only [Option.some.injEq] at hs; subst hs; exact h

theorem stEnd_ok (i : Nat) (b : BInfo) (d : Dest) (st : BState) (h : LabelsOK st.info) : LabelsOK (stEnd i b d st).info := by
  unfold stEnd
  split
  · exact addPlain_ok _ _ (by simp) _ h
  · exact h

theorem stFirst_ok (i : Nat) (ss : Int) (st : BState) (h : LabelsOK st.info) : LabelsOK (stFirst i ss st).info := by
  unfold stFirst
  split
  · exact setTy_ok _ _ _ h
  · exact h

theorem bind_ok {f : BState → Option BState} {o : Option BState} {st' : BState}
    (ho : ∀ s, o = some s → LabelsOK s.info) (hf : ∀ s s', LabelsOK s.info → f s = some s' → LabelsOK s'.info)
    (h : o.bind f = some st') : LabelsOK st'.info := by
  cases o with
  | none => cases h
  | some s => exact hf s st' (ho s rfl) h

theorem procSeg_ok (L : Layout) (tb : BTable) (htb : TblOK tb) (times : List Int) (i : Nat) (ss se : Int)
    (st st' : BState) (h : LabelsOK st.info) (hs : procSeg L tb times i ss se st = some st') : LabelsOK st'.info := by
  unfold procSeg at hs
  split at hs
  · rename_i b idSe _ _
    refine bind_ok (fun s hs1 => stRepeatEnd_ok times i b idSe _ s (stRepeatStart_ok i b idSe st h) hs1) ?_ hs
    intro s1 s' h1 hs
    refine bind_ok (fun s hs1 => stVoltaStart_ok tb htb times i b se s1 s h1 hs1) ?_ hs
    intro s2 s' h2 hs
    refine bind_ok (fun s hs1 => stVoltaEnd_ok times i b s2 s h2 hs1) ?_ hs
    intro s3 s' h3 hs
    refine bind_ok (fun s hs1 => stLeapEnd_ok b.coda i idSe s3 s h3 hs1) ?_ hs
    intro s4 s' h4 hs
    refine bind_ok (fun s hs1 => stToCoda_ok L times i b idSe s4 s h4 hs1) ?_ hs
    intro s5 s' h5 hs
    refine bind_ok (fun s hs1 => stJumpBack_ok b.dacapo _ times i idSe s5 s h5 hs1) ?_ hs
    intro s6 s' h6 hs
    refine bind_ok (fun s hs1 => stFine_ok L times i b idSe s6 s h6 hs1) ?_ hs
    intro s7 s' h7 hs
    refine bind_ok (fun s hs1 => stLeapEnd_ok b.segno i idSe s7 s h7 hs1) ?_ hs
    intro s8 s' h8 hs
    refine bind_ok (fun s hs1 => stJumpBack_ok b.dalsegno _ times i idSe s8 s h8 hs1) ?_ hs
    intro s9 s' h9 hs
    simp only [Option.some.injEq] at hs
    subst hs
    exact stFirst_ok _ _ _ (stEnd_ok _ _ _ _ h9)
  · cases hs

theorem procAll_ok (L : Layout) (tb : BTable) (htb : TblOK tb) (times : List Int) :
    ∀ (ts : List Int) (i : Nat) (st st' : BState), LabelsOK st.info → procAll L tb times i ts st = some st' →
      LabelsOK st'.info := by
  intro ts
  induction ts with
  | nil => intro i st st' h hs; simp only [procAll, Option.some.injEq] at hs; subst hs; exact h
  | cons ss rest ih =>
    intro i st st' h hs
    cases rest with
    | nil => simp only [procAll, Option.some.injEq] at hs; subst hs; exact h
    | cons se rest =>
      simp only [procAll] at hs
      split at hs
      · cases hs
      · rename_i st1 hp
        exact ih (i + 1) st1 st' (procSeg_ok L tb htb times i ss se st st1 h hp) hs

theorem labels_ok (L : Layout) (hs : L.supported = true) (st : BState) (n : Nat)
    (h : procAll L (mkTable L) ((mkTable L).map (·.1)) 0 ((mkTable L).map (·.1)) { info := List.replicate n {} } = some st) :
    LabelsOK st.info := by
  refine procAll_ok L (mkTable L) (mkTable_ok L hs) _ _ 0 _ st ?_ h
  intro inf hinf p hp
  rw [List.eq_of_mem_replicate hinf] at hp
  cases hp

/-- `add_segments` on numbers and on id strings agree, for every layout the model accepts. -/
theorem mkSegments_str (L : Layout) (g : List Seg) (h : mkSegments L = some g) :
    mkSegmentsStr L = some (g.map fun s => (s.to.map Dest.str, s.await.map Dest.str)) := by
  have hs : L.supported = true := by
    cases hsup : L.supported with
    | true => rfl
    | false => simp [mkSegments, hsup] at h
  exact mkSegments_refines L g h fun st n hp => labels_ok L hs st n hp

end C09
