/-
C01 helper lemmas: the generated MRO table IS the reflexive-transitive closure of the generated `__subclasses__()`
table — what `iter_subclasses` walks — by kernel evaluation of the WHOLE tables plus an induction on the MRO length;
the class filter of the queries for ARBITRARY class arguments (reachability `ClassSpecRT`, MRO `ClassSpec`).
-/
import PartituraModel.Proofs.C01Query

namespace TL

/-- `SubclassRT d c`: `d` is `c`, or reachable from `c` through `__subclasses__()` edges -/
inductive SubclassRT : Nat → Nat → Prop
  | refl (c : Nat) : SubclassRT c c
  | step {d m c : Nat} : d ∈ Gen.directSubclasses.getD m [] → SubclassRT m c → SubclassRT d c

theorem class_ids_bounded_tab :
    (∀ row ∈ Gen.directSubclasses, ∀ c ∈ row, c < Gen.numClasses)
    ∧ (∀ row ∈ Gen.iterSubclassesTab, ∀ c ∈ row, c < Gen.numClasses)
    ∧ (∀ row ∈ Gen.mroTab, ∀ c ∈ row, c < Gen.numClasses)
    ∧ (∀ c ∈ Gen.objectSubclasses, c < Gen.numClasses) := by
  decide +kernel

theorem mro_trans_tab :
    ∀ a ∈ List.range Gen.numClasses, ∀ b ∈ Gen.mroTab.getD a [], ∀ c ∈ Gen.mroTab.getD b [],
      c ∈ Gen.mroTab.getD a [] := by
  decide +kernel

theorem direct_in_mro_tab :
    ∀ m ∈ List.range Gen.numClasses, ∀ d ∈ Gen.directSubclasses.getD m [], m ∈ Gen.mroTab.getD d [] := by
  decide +kernel

/-- every strict ancestor in the MRO is an ancestor-or-self of a direct parent, whose MRO is shorter -/
theorem mro_step_tab :
    ∀ d ∈ List.range Gen.numClasses, ∀ c ∈ Gen.mroTab.getD d [], c ≠ d →
      ∃ m ∈ Gen.mroTab.getD d [], d ∈ Gen.directSubclasses.getD m [] ∧ c ∈ Gen.mroTab.getD m []
        ∧ (Gen.mroTab.getD m []).length < (Gen.mroTab.getD d []).length := by
  decide +kernel

theorem isSubclass_iff_mem (d c : Nat) : isSubclass d c = true ↔ c ∈ Gen.mroTab.getD d [] := by
  simp [isSubclass]

theorem isSubclass_bounds {d c : Nat} (h : isSubclass d c = true) : d < Gen.numClasses ∧ c < Gen.numClasses := by
  rw [isSubclass_iff_mem] at h
  refine ⟨?_, ?_⟩
  · have := mem_getD_lt h
    rwa [class_table_lengths.2.2.2] at this
  · obtain ⟨row, hr, hx⟩ := mem_getD_row h
    exact class_ids_bounded_tab.2.2.1 row hr c hx

theorem direct_bounds {d m : Nat} (h : d ∈ Gen.directSubclasses.getD m []) :
    d < Gen.numClasses ∧ m < Gen.numClasses := by
  refine ⟨?_, ?_⟩
  · obtain ⟨row, hr, hx⟩ := mem_getD_row h
    exact class_ids_bounded_tab.1 row hr d hx
  · have := mem_getD_lt h
    rwa [class_table_lengths.2.1] at this

theorem iterSubclasses_bounds {k c : Nat} (h : k ∈ iterSubclasses c) : k < Gen.numClasses ∧ c < Gen.numClasses := by
  have hc : c < Gen.numClasses := by
    by_cases hcc : c < Gen.numClasses
    · exact hcc
    · rw [iterSubclasses_out_of_range (by omega)] at h
      cases h
  refine ⟨?_, hc⟩
  rw [iterSubclasses_eq_tab c (List.mem_range.mpr hc)] at h
  obtain ⟨row, hr, hx⟩ := mem_getD_row h
  exact class_ids_bounded_tab.2.1 row hr k hx

/-- MRO membership is reachability through `__subclasses__()`: induction on the length of the MRO -/
theorem closure_of_mro : ∀ (n d c : Nat), (Gen.mroTab.getD d []).length ≤ n → c ∈ Gen.mroTab.getD d [] →
    SubclassRT d c := by
  intro n
  induction n with
  | zero =>
    intro d c hlen hmem
    have : Gen.mroTab.getD d [] = [] := List.eq_nil_of_length_eq_zero (by omega)
    rw [this] at hmem
    cases hmem
  | succ n ih =>
    intro d c hlen hmem
    by_cases hcd : c = d
    · subst hcd; exact SubclassRT.refl c
    · have hd : d < Gen.numClasses := (isSubclass_bounds ((isSubclass_iff_mem d c).mpr hmem)).1
      obtain ⟨m, -, hdm, hcm, hlt⟩ := mro_step_tab d (List.mem_range.mpr hd) c hmem hcd
      exact SubclassRT.step hdm (ih m c (by omega) hcm)

theorem subclassRT_iff (d c : Nat) : SubclassRT d c ↔ (d = c ∨ isSubclass d c = true) := by
  constructor
  · intro h
    induction h with
    | refl c => exact Or.inl rfl
    | @step d m c hdm _ ih =>
      right
      obtain ⟨hd, hm⟩ := direct_bounds hdm
      have hmd : m ∈ Gen.mroTab.getD d [] := direct_in_mro_tab m (List.mem_range.mpr hm) d hdm
      rw [isSubclass_iff_mem]
      rcases ih with rfl | hmc
      · exact hmd
      · rw [isSubclass_iff_mem] at hmc
        exact mro_trans_tab d (List.mem_range.mpr hd) m hmd c hmc
  · rintro (rfl | h)
    · exact SubclassRT.refl d
    · rw [isSubclass_iff_mem] at h
      exact closure_of_mro _ d c (Nat.le_refl _) h

/-- the class filter as the property states it, with the subclass relation as reachability through
`__subclasses__()` (equivalently the MRO, `subclassRT_iff`) -/
def ClassSpecRT (cls : Option Nat) (incl : Bool) (k : Nat) : Prop :=
  match cls with
  | none => incl = true
  | some c => if incl then SubclassRT k c else k = c

theorem clsMatch_specRT {cls : Option Nat} {incl : Bool} {k : Nat} (hk : k < Gen.numClasses) :
    clsMatch cls incl k ↔ ClassSpecRT cls incl k := by
  cases cls with
  | none =>
    have := objectSubclasses_tab.2 k (List.mem_range.mpr hk)
    simp [clsMatch, ClassSpecRT, subSeq, this]
  | some c =>
    cases incl with
    | false => simp [clsMatch, ClassSpecRT, eq_comm]
    | true =>
      simp only [clsMatch, ClassSpecRT, subSeq, Option.some.injEq, true_and, if_true]
      rw [subclassRT_iff]
      by_cases hc : c < Gen.numClasses
      · have hd := iterSubclasses_desc_tab c (List.mem_range.mpr hc) k (List.mem_range.mpr hk)
        have hr := isSubclass_refl_tab c (List.mem_range.mpr hc)
        rw [hd]
        constructor
        · rintro (rfl | ⟨-, h⟩)
          · exact Or.inl rfl
          · exact Or.inr h
        · rintro (rfl | h)
          · exact Or.inl rfl
          · by_cases hkc : k = c
            · exact Or.inl hkc.symm
            · exact Or.inr ⟨hkc, h⟩
      · rw [iterSubclasses_out_of_range (by omega)]
        constructor
        · rintro (rfl | h)
          · exact Or.inl rfl
          · cases h
        · rintro (rfl | h)
          · exact Or.inl rfl
          · exact absurd (isSubclass_bounds h).2 hc

/-- the class filter as the property states it: the exact class or, with `include_subclasses`, any
subclass according to the MRO of the live classes; `cls = none` stands for `object` (every object is an
instance, none has it as exact class) -/
def ClassSpec (cls : Option Nat) (incl : Bool) (k : Nat) : Prop :=
  match cls with
  | none => incl = true
  | some c => if incl then isSubclass k c = true else k = c

/-- for a class of the table as query class the two formulations agree: the MRO table is the closure, and reflexive -/
theorem classSpecRT_iff_mro {cls : Option Nat} {incl : Bool} {k : Nat}
    (hc : ∀ c, cls = some c → c < Gen.numClasses) : ClassSpecRT cls incl k ↔ ClassSpec cls incl k := by
  cases cls with
  | none => rfl
  | some c =>
    cases incl with
    | false => rfl
    | true =>
      simp only [ClassSpecRT, ClassSpec, if_true, subclassRT_iff]
      exact ⟨fun h => h.elim (fun e => e ▸ isSubclass_refl_tab c (List.mem_range.mpr (hc c rfl))) id, Or.inr⟩

theorem clsMatch_spec {cls : Option Nat} {incl : Bool} {k : Nat} (hk : k < Gen.numClasses)
    (hc : ∀ c, cls = some c → c < Gen.numClasses) : clsMatch cls incl k ↔ ClassSpec cls incl k :=
  (clsMatch_specRT hk).trans (classSpecRT_iff_mro hc)

/-- for generated ids the two formulations of the class filter agree -/
theorem classSpecRT_iff {cls : Option Nat} {incl : Bool} {k : Nat} (hk : k < Gen.numClasses)
    (hc : ∀ c, cls = some c → c < Gen.numClasses) : ClassSpecRT cls incl k ↔ ClassSpec cls incl k := by
  rw [← clsMatch_specRT hk, clsMatch_spec hk hc]

end TL
