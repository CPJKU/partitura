/-
C03 — the `<attributes>` codec read back.
-/
import PartituraModel.Model.XmlDir
import PartituraModel.Proofs.C03Text

namespace C03.Attr
open Model Model.XmlNote Model.XmlDir C03.Text

/-- the `<staves>` child as `writeAttributes` writes it (there an anonymous `match`) -/
def stavesPart (staves : Option Nat) (post : List AttrItem) : List Xml :=
  match staves, post with
  | some k, _ :: _ => [leaf .staves (natDigits k)]
  | _, _ => []

theorem tag_stavesPart (staves : Option Nat) (post : List AttrItem) : ∀ x ∈ stavesPart staves post, x.tag = .staves := by
  unfold stavesPart
  split <;> simp [leaf, Xml.tag]

theorem kids_write (items : List AttrItem) (staves : Option Nat) :
    (writeAttributes items staves).kids =
      (items.takeWhile (!·.isClef)).flatMap itemEls ++ stavesPart staves (items.dropWhile (!·.isClef)) ++
        (items.dropWhile (!·.isClef)).flatMap itemEls := rfl

theorem findall_kids (t : Tag) (ht : t ≠ .staves) (items : List AttrItem) (staves : Option Nat) :
    findall t (writeAttributes items staves).kids = findall t (items.flatMap itemEls) := by
  rw [kids_write, findall_append, findall_append, findall_tagged_ne (tag_stavesPart _ _) ht, List.append_nil,
    ← findall_append, ← List.flatMap_append, List.takeWhile_append_dropWhile]

/-! ### the first item of a kind

`firstTime`, `firstKey`, `firstDivisions`, `firstMode` pick the first item that has what they look for; `find` and
`findPath` on the written children pick the first child that has it.  Item by item the two agree. -/

def timeOf : AttrItem → Option (Int × Int)
  | .time a b => some (a, b)
  | _ => none

def keyOf : AttrItem → Option (Int × Option Str)
  | .key f m => some (f, m)
  | _ => none

def divisionsOf : AttrItem → Option Int
  | .divisions q => some q
  | _ => none

def modeOf : AttrItem → Option Str
  | .key _ (some m) => if m = [] then none else some m
  | _ => none

theorem firstTime_eq (items : List AttrItem) : firstTime items = items.findSome? timeOf := by
  induction items with
  | nil => rfl
  | cons i r ih => cases i with
    | time a b => rfl
    | _ => exact ih

theorem firstKey_eq (items : List AttrItem) : firstKey items = items.findSome? keyOf := by
  induction items with
  | nil => rfl
  | cons i r ih => cases i with
    | key f m => rfl
    | _ => exact ih

theorem firstDivisions_eq (items : List AttrItem) : firstDivisions items = items.findSome? divisionsOf := by
  induction items with
  | nil => rfl
  | cons i r ih => cases i with
    | divisions q => rfl
    | _ => exact ih

theorem firstMode_eq (items : List AttrItem) : firstMode items = items.findSome? modeOf := by
  induction items with
  | nil => rfl
  | cons i r ih => cases i with
    | key f m =>
      cases m with
      | none => exact ih
      | some m =>
        by_cases hm : m = []
        · subst hm; exact ih
        · simp only [firstMode, List.findSome?_cons, modeOf, hm, if_false]
    | _ => exact ih

/-- an integer child looked for among the children the items write: the first item that writes one has it -/
theorem tagInt_first {β : Type} (look : List Xml → Option Xml) (sel : AttrItem → Option β) (t : Tag) (f : β → Int)
    (items : List AttrItem) (hflat : look (items.flatMap itemEls) = items.findSome? fun i => look (itemEls i))
    (hsel : ∀ i, look (itemEls i) = (sel i).map fun b => leaf t (showIntC (f b))) :
    tagInt (look (items.flatMap itemEls)) = some ((items.findSome? sel).map f) := by
  have : (fun i => look (itemEls i)) = Option.map (fun b => leaf t (showIntC (f b))) ∘ sel := funext hsel
  rw [hflat, this, ← List.map_findSome?]
  exact tagInt_map_leaf _ _ _

theorem read_beats (items : List AttrItem) :
    tagInt (findPath .time .beats (items.flatMap itemEls)) = some ((firstTime items).map (·.1)) ∧
    tagInt (findPath .time .beatType (items.flatMap itemEls)) = some ((firstTime items).map (·.2)) := by
  rw [firstTime_eq]
  exact ⟨tagInt_first _ timeOf .beats (·.1) items (findPath_flatMap ..) fun i => by cases i <;> rfl,
    tagInt_first _ timeOf .beatType (·.2) items (findPath_flatMap ..) fun i => by cases i <;> rfl⟩

theorem read_fifths (items : List AttrItem) :
    tagInt (findPath .key .fifths (items.flatMap itemEls)) = some ((firstKey items).map (·.1)) := by
  rw [firstKey_eq]
  exact tagInt_first _ keyOf .fifths (·.1) items (findPath_flatMap ..) fun i => by cases i <;> rfl

theorem read_divisions (items : List AttrItem) :
    tagInt (find .divisions (items.flatMap itemEls)) = some (firstDivisions items) := by
  rw [firstDivisions_eq]
  exact (tagInt_first _ divisionsOf .divisions id items (find_flatMap ..) fun i => by cases i <;> rfl).trans
    (congrArg some Option.map_id')

theorem read_mode (items : List AttrItem) :
    tagStr (findPath .key .mode (items.flatMap itemEls)) = firstMode items := by
  have ht : ∀ o : Option Xml, tagStr o = o.map fun x => pyStr x.text := fun o => by cases o <;> rfl
  rw [findPath_flatMap, ht, List.map_findSome?, firstMode_eq]
  congr 1
  funext i
  cases i with
  | key f m =>
    cases m with
    | none => rfl
    | some m =>
      by_cases hm : m = []
      · subst hm; rfl
      · simp only [Function.comp, itemEls, modeOf, hm, if_false]
        exact congrArg some (pyStr_ok hm)
  | _ => rfl

theorem firstMode_some (items : List AttrItem) (h : (firstMode items).isSome) : (firstKey items).isSome := by
  induction items with
  | nil => cases h
  | cons i r ih => cases i with
    | key f m => rfl
    | _ => exact ih h

theorem parseIntC_None : parseIntC sNone = none := by decide

theorem tag_ocEls (oc : Option Int) : ∀ x ∈ ocEls oc, x.tag = .clefOctaveChange := by
  unfold ocEls
  split
  · split <;> simp [leaf, Xml.tag]
  · simp

theorem read_clef (st : Option Int) (sg : Str) (l oc : Option Int) (hs : TextOK sg) :
    readClef (.el .clef (clefAttrs st) [] ([leaf .sign sg, leaf .line (lineText l)] ++ ocEls oc)) =
      some { staff := (match st with | some s => if s = 0 then 1 else s | none => 1), sign := some sg, line := l,
             octaveChange := truthy oc } := by
  have hline : tagInt (some (leaf .line (lineText l))) = some l := by
    cases l with
    | none => rfl
    | some l => exact tagInt_leaf_int _ l
  have hstaff : ∀ kids, intOr (attrInt (.el .clef (clefAttrs st) [] kids) .number) 1 =
      (match st with | some s => if s = 0 then 1 else s | none => 1) := by
    intro kids
    cases st with
    | none => rfl
    | some s =>
      by_cases h0 : s = 0
      · subst h0; rfl
      · by_cases h1 : s = 1
        · subst h1; rfl
        · simp [clefAttrs, h0, h1, attrInt, Xml.get, Xml.attrs, Model.lookup, intOr, parseIntC_showIntC]
  have hfo : tagInt (find .clefOctaveChange ([leaf .sign sg, leaf .line (lineText l)] ++ ocEls oc)) = some (truthy oc) := by
    show tagInt (findall .clefOctaveChange (ocEls oc)).head? = _
    rw [findall_all (tag_ocEls oc)]
    exact tagInt_head_optLeaf .clefOctaveChange oc
  have hfl : find .line ([leaf .sign sg, leaf .line (lineText l)] ++ ocEls oc) = some (leaf .line (lineText l)) := rfl
  have hfs : tagStr (find .sign ([leaf .sign sg, leaf .line (lineText l)] ++ ocEls oc)) = some (pyStr sg) := rfl
  unfold readClef
  simp only [Xml.kids, hfl, hfs, hfo, hline, hstaff, Option.bind_eq_bind, Option.bind_some, Option.pure_def,
    pyStr_ok hs]

theorem read_clefs (items : List AttrItem) (h : WellFormedAttrs items) :
    (findall .clef (items.flatMap itemEls)).mapM readClef = some (canonClefs items) := by
  rw [findall_flatMap]
  induction items with
  | nil => rfl
  | cons i r ih =>
    have hr : WellFormedAttrs r := fun j hj => h j (List.mem_cons_of_mem _ hj)
    rw [List.flatMap_cons]
    cases i with
    | clef st sg l oc =>
      have hs : TextOK sg := h (.clef st sg l oc) (List.mem_cons_self ..)
      show List.mapM readClef (.el .clef (clefAttrs st) [] ([leaf .sign sg, leaf .line (lineText l)] ++ ocEls oc) ::
        r.flatMap fun i => findall .clef (itemEls i)) = _
      rw [List.mapM_cons, read_clef st sg l oc hs, ih hr]
      rfl
    | _ => exact ih hr

end C03.Attr
