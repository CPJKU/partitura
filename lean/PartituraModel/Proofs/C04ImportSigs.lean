/-
C04 — the importer's signature tables, for any file: `make_track_to_part_mapping`, the sanitize step, and what
`load_score_midi` hands to `create_part` as key / time signatures of a part.  `Column`: the records of a file read
through the key or the time signatures when track `i` holds `S i` — the shape the file of an export has.
-/
import PartituraModel.Proofs.C04Import
import PartituraModel.Model.ScoreMidiImportSpec

namespace C04IS
open Model Model.Ticks Model.MidiPair Model.MidiModes Model.ScoreMidi

theorem trackToParts_eq (trch : List (Nat × Nat)) (gpv : List Cell) (tr : Nat) :
    trackToParts trch gpv tr = firstSeen (((trch.zip gpv).filter fun e => e.1.1 = tr).map (·.2.2.1)) := by
  unfold trackToParts firstSeen
  rw [List.foldl_map]
  -- the two loops test membership with different, lawful, equality tests
  simp only [List.contains_iff_mem]

theorem mem_trackToParts (trch : List (Nat × Nat)) (gpv : List Cell) (tr : Nat) (q : Option Nat) :
    (trackToParts trch gpv tr).contains q = true ↔ ∃ c ∈ trch.zip gpv, c.1.1 = tr ∧ c.2.2.1 = q := by
  rw [trackToParts_eq, List.contains_iff_mem, C04G.mem_firstSeen, List.mem_map]
  simp only [List.mem_filter, decide_eq_true_eq]
  exact ⟨fun ⟨e, ⟨he, ht⟩, hq⟩ => ⟨e, he, ht, hq⟩, fun ⟨e, he, ht, hq⟩ => ⟨e, ⟨he, ht⟩, hq⟩⟩

theorem mem_fromTracks {β : Type} (trch : List (Nat × Nat)) (gpv : List Cell) (q : Option Nat)
    (tbl : List (Nat × List β)) (k : β) :
    k ∈ (tbl.flatMap fun t => if (trackToParts trch gpv t.1).contains q then t.2 else []) ↔
      ∃ t ∈ tbl, k ∈ t.2 ∧ ∃ c ∈ trch.zip gpv, c.1.1 = t.1 ∧ c.2.2.1 = q := by
  rw [List.mem_flatMap]
  constructor
  · rintro ⟨t, ht, hk⟩
    split at hk
    · rename_i hc
      exact ⟨t, ht, hk, (mem_trackToParts trch gpv t.1 q).mp hc⟩
    · cases hk
  · rintro ⟨t, ht, hk, hc⟩
    refine ⟨t, ht, ?_⟩
    rw [if_pos ((mem_trackToParts trch gpv t.1 q).mpr hc)]
    exact hk

theorem mem_keySigsOf (evs : List (Int × Msg)) (t : Int) (name : String) :
    (t, name) ∈ keySigsOf evs ↔ (t, Msg.keySig name) ∈ evs := by
  unfold keySigsOf
  rw [List.mem_filterMap]
  constructor
  · rintro ⟨⟨t', m⟩, he, hx⟩
    cases m <;> simp at hx
    obtain ⟨rfl, rfl⟩ := hx
    exact he
  · intro he
    exact ⟨_, he, rfl⟩

theorem mem_timeSigsOf (evs : List (Int × Msg)) (t n d : Int) :
    (t, n, d) ∈ timeSigsOf evs ↔ (t, Msg.timeSig n d) ∈ evs := by
  unfold timeSigsOf
  rw [List.mem_filterMap]
  constructor
  · rintro ⟨⟨t', m⟩, he, hx⟩
    cases m <;> simp at hx
    obtain ⟨rfl, rfl, rfl⟩ := hx
    exact he
  · intro he
    exact ⟨_, he, rfl⟩

theorem import_part_tables (mode ticks : Nat) (tracks : List (List (Int × Msg))) (imp : Imported)
    (h : loadScoreMidi mode ticks tracks = some imp) :
    let byTrCh := notesByTrCh ((readTracks tracks).filter fun e => !e.2.1.isEmpty)
    let trch := sortedTC (byTrCh.map (·.1))
    let gpv := assignGroupPartVoice mode trch
    let sig := sigTables (readTracks tracks)
    ∀ e ∈ imp.parts,
      e.2.keySigs = sortedSet ltKS
        ((sig.trackKS.flatMap fun t => if (trackToParts trch gpv t.1).contains (some e.1) then t.2 else []) ++ sig.globalKS) ∧
      e.2.timeSigs =
        (let tss := sortedSet ltTS
          ((sig.trackTS.flatMap fun t => if (trackToParts trch gpv t.1).contains (some e.1) then t.2 else []) ++ sig.globalTS)
         if tss.isEmpty then [(0, 4, 4)] else tss) := by
  dsimp only
  intro e he
  obtain ⟨_, _, pid, _, rfl, hq⟩ := Lists.forall₂_mem_right (C04I.load_inv mode ticks tracks imp h).1 e he
  rw [← Option.some.inj hq]
  -- the two sides are the same terms; the default check would unfold the tables to compare them
  exact ⟨by with_reducible rfl, by with_reducible rfl⟩

theorem import_part_has_cell (mode ticks : Nat) (tracks : List (List (Int × Msg))) (imp : Imported)
    (h : loadScoreMidi mode ticks tracks = some imp) :
    let byTrCh := notesByTrCh ((readTracks tracks).filter fun e => !e.2.1.isEmpty)
    let trch := sortedTC (byTrCh.map (·.1))
    let gpv := assignGroupPartVoice mode trch
    ∀ e ∈ imp.parts, ∃ c ∈ trch.zip gpv, c.2.2.1 = some e.1 := by
  intro byTrCh trch gpv e he
  obtain ⟨q, hqm, pid, rfl, rfl, _⟩ := Lists.forall₂_mem_right (C04I.load_inv mode ticks tracks imp h).1 e he
  obtain ⟨c, hc, hcq⟩ := List.mem_map.mp ((C04G.mem_firstSeen _ _).mp hqm)
  obtain ⟨tc, htc⟩ := C04M.exists_zip_right (C04M.assign_length mode trch).le hc
  exact ⟨(tc, c), htc, hcq⟩

/-- the condition of the sanitize step -/
def sanitizes (pt : List TrackRead) : Bool :=
  ((pt.filter fun e => e.2.1.isEmpty).flatMap fun e => e.2.2.1).isEmpty &&
    ((pt.filter fun e => !e.2.1.isEmpty).map fun e => e.2.2.1.length).any (· = 0) &&
    ((pt.filter fun e => !e.2.1.isEmpty).map fun e => e.2.2.1.length).any (· ≠ 0)

theorem sigTables_ts_eq (pt : List TrackRead) :
    (sigTables pt).globalTS = (if sanitizes pt then (pt.filter fun e => !e.2.1.isEmpty).flatMap (fun e => e.2.2.1)
      else (pt.filter fun e => e.2.1.isEmpty).flatMap (fun e => e.2.2.1)) ∧
    (sigTables pt).trackTS = (if sanitizes pt then [] else (pt.filter fun e => !e.2.1.isEmpty).map (fun e => (e.1, e.2.2.1))) := by
  unfold sigTables sanitizes
  exact ⟨rfl, rfl⟩

theorem sigTables_ts_cases (perTrack : List TrackRead) :
    ((sigTables perTrack).globalTS = (perTrack.filter fun e => !e.2.1.isEmpty).flatMap (fun e => e.2.2.1) ∧
      (sigTables perTrack).trackTS = []) ∨
    ((sigTables perTrack).globalTS = (perTrack.filter fun e => e.2.1.isEmpty).flatMap (fun e => e.2.2.1) ∧
      (sigTables perTrack).trackTS = (perTrack.filter fun e => !e.2.1.isEmpty).map (fun e => (e.1, e.2.2.1))) := by
  obtain ⟨hG, hT⟩ := sigTables_ts_eq perTrack
  rw [hG, hT]
  cases sanitizes perTrack
  · exact Or.inr ⟨rfl, rfl⟩
  · exact Or.inl ⟨rfl, rfl⟩

theorem sigTables_ts_sub (pt : List TrackRead) (k : Int × Int × Int)
    (h : k ∈ (sigTables pt).globalTS ∨ ∃ t ∈ (sigTables pt).trackTS, k ∈ t.2) : ∃ rd ∈ pt, k ∈ rd.2.2.1 := by
  rcases sigTables_ts_cases pt with ⟨hG, hT⟩ | ⟨hG, hT⟩ <;> rw [hG, hT] at h <;>
    simp only [List.mem_flatMap, List.mem_map, List.not_mem_nil, false_and, exists_false, or_false] at h
  · obtain ⟨rd, hrd, hk⟩ := h
    exact ⟨rd, (List.mem_filter.mp hrd).1, hk⟩
  · rcases h with ⟨rd, hrd, hk⟩ | ⟨_, ⟨rd, hrd, rfl⟩, hk⟩ <;> exact ⟨rd, (List.mem_filter.mp hrd).1, hk⟩

theorem sigTables_ts_keep (pt : List TrackRead) (rd : TrackRead) (hrd : rd ∈ pt) (hne : rd.2.1.isEmpty = false) :
    (∀ k ∈ rd.2.2.1, k ∈ (sigTables pt).globalTS) ∨ (rd.1, rd.2.2.1) ∈ (sigTables pt).trackTS := by
  have hwith : rd ∈ pt.filter fun e => !e.2.1.isEmpty := List.mem_filter.mpr ⟨hrd, by simp [hne]⟩
  rcases sigTables_ts_cases pt with ⟨hG, _⟩ | ⟨_, hT⟩
  · exact Or.inl fun k hk => hG ▸ List.mem_flatMap.mpr ⟨rd, hwith, hk⟩
  · exact Or.inr (hT ▸ List.mem_map.mpr ⟨rd, hwith, rfl⟩)

theorem import_part_ids (mode ticks : Nat) (tracks : List (List (Int × Msg))) (imp : Imported)
    (h : loadScoreMidi mode ticks tracks = some imp) :
    let byTrCh := notesByTrCh ((readTracks tracks).filter fun e => !e.2.1.isEmpty)
    let trch := sortedTC (byTrCh.map (·.1))
    let gpv := assignGroupPartVoice mode trch
    imp.parts.map (fun e => some e.1) = firstSeen (gpv.map (·.2.1)) := by
  intro byTrCh trch gpv
  have H := (C04I.load_inv mode ticks tracks imp h).1.imp fun q e ⟨pid, hq, he, _⟩ => (hq.trans (he ▸ rfl) : q = some e.1)
  exact (List.forall₂_eq_eq_eq ▸ List.forall₂_map_right_iff.mpr H : _ = _).symm

theorem trackTS_shape (a : Anacrusis) (p : Nat) (o : Rat) (ktc : List (Key × (Nat × Nat))) (parts : List PartIn) (tr : Nat)
    (x : Int × Msg) (hx : x ∈ trackTS a p o ktc parts tr) : ∃ t n d, x = (t, Msg.timeSig n d) := by
  simp only [trackTS, List.mem_flatMap] at hx
  obtain ⟨xi, _, hx⟩ := hx
  split at hx
  · simp only [tsImages, List.mem_map] at hx
    obtain ⟨e, _, rfl⟩ := hx
    exact ⟨_, _, _, rfl⟩
  · simp at hx

theorem mem_specTracks {keys : List Key} {tcs : List (Nat × Nat)} (hlen : keys.length = tcs.length) (tr : Nat) :
    tr ∈ specTracks (keys.zip tcs) ↔ ∃ ch, (tr, ch) ∈ tcs := by
  unfold specTracks
  rw [C04G.mem_firstSeen, List.map_snd_zip hlen.ge, List.mem_map]
  constructor
  · rintro ⟨tc, htcm, rfl⟩
    exact ⟨tc.2, htcm⟩
  · rintro ⟨ch, hch⟩
    exact ⟨(tr, ch), hch, rfl⟩

theorem specTrackTS_isEmpty (a : Anacrusis) (p : Nat) (o : Rat) (ktc : List (Key × (Nat × Nat))) (parts : List PartIn)
    (tr : Nat) : (specTrackTS a p o ktc parts tr).isEmpty = true ↔ trackTS a p o ktc parts tr = [] := by
  rw [List.isEmpty_iff]
  unfold specTrackTS
  constructor
  · intro hnil
    apply List.eq_nil_iff_forall_not_mem.mpr
    intro x hx
    obtain ⟨t, n, d, rfl⟩ := trackTS_shape _ _ _ _ _ _ x hx
    have := (mem_timeSigsOf _ t n d).mpr hx
    rw [hnil] at this
    cases this
  · intro hnil
    rw [hnil]
    rfl

/-- The records `pt` of a file read through one column `sel` (the key or the time signatures), when `T` lists the
    tracks with notes, track `i` holds the entries `S i`, and only tracks with notes hold any — the file of an export,
    with `S` what the score puts into the track. -/
structure Column {β : Type} (pt : List TrackRead) (T : List Nat) (sel : TrackRead → List β) (S : Nat → List β) : Prop where
  notes : ∀ rd ∈ pt, rd.2.1.isEmpty = false ↔ rd.1 ∈ T
  record : ∀ i ∈ T, ∃ rd ∈ pt, rd.1 = i
  entries : ∀ rd ∈ pt, ∀ k, k ∈ sel rd ↔ k ∈ S rd.1
  sounding : ∀ i k, k ∈ S i → i ∈ T

namespace Column
variable {β : Type} {pt : List TrackRead} {T : List Nat} {sel : TrackRead → List β} {S : Nat → List β}

theorem mem_withNotes (h : Column pt T sel S) {rd : TrackRead} :
    rd ∈ pt.filter (fun e => !e.2.1.isEmpty) ↔ rd ∈ pt ∧ rd.1 ∈ T := by
  rw [List.mem_filter, Bool.not_eq_true']
  exact and_congr_right fun hrd => h.notes rd hrd

theorem exists_withNotes (h : Column pt T sel S) {P : TrackRead → Prop} {Q : Nat → Prop}
    (hPQ : ∀ rd ∈ pt, P rd ↔ Q rd.1) :
    (∃ rd ∈ pt.filter (fun e => !e.2.1.isEmpty), P rd) ↔ ∃ i ∈ T, Q i := by
  constructor
  · rintro ⟨rd, hrd, hP⟩
    obtain ⟨hrd, hi⟩ := h.mem_withNotes.mp hrd
    exact ⟨rd.1, hi, (hPQ rd hrd).mp hP⟩
  · rintro ⟨i, hi, hQ⟩
    obtain ⟨rd, hrd, rfl⟩ := h.record i hi
    exact ⟨rd, h.mem_withNotes.mpr ⟨hrd, hi⟩, (hPQ rd hrd).mpr hQ⟩

theorem sel_eq_nil (h : Column pt T sel S) {rd : TrackRead} (hrd : rd ∈ pt) : sel rd = [] ↔ S rd.1 = [] := by
  simp only [List.eq_nil_iff_forall_not_mem, h.entries rd hrd]

theorem without_nil (h : Column pt T sel S) : (pt.filter fun e => e.2.1.isEmpty).flatMap sel = [] := by
  apply List.eq_nil_iff_forall_not_mem.mpr
  intro k hk
  obtain ⟨rd, hrd, hk⟩ := List.mem_flatMap.mp hk
  obtain ⟨hrd, hemp⟩ := List.mem_filter.mp hrd
  rw [(h.notes rd hrd).mpr (h.sounding rd.1 k ((h.entries rd hrd k).mp hk))] at hemp
  cases hemp

theorem mem_fromTracks (h : Column pt T sel S) (trch : List (Nat × Nat)) (gpv : List Cell) (q : Option Nat) (k : β) :
    k ∈ ((pt.filter fun e => !e.2.1.isEmpty).map fun e => (e.1, sel e)).flatMap
        (fun t => if (trackToParts trch gpv t.1).contains q then t.2 else []) ↔
      ∃ tr, (∃ c ∈ trch.zip gpv, c.1.1 = tr ∧ c.2.2.1 = q) ∧ k ∈ S tr := by
  rw [C04IS.mem_fromTracks]
  simp only [List.mem_map]
  constructor
  · rintro ⟨_, ⟨rd, hrd, rfl⟩, hk, hc⟩
    exact ⟨rd.1, hc, (h.entries rd (h.mem_withNotes.mp hrd).1 k).mp hk⟩
  · rintro ⟨tr, hc, hk⟩
    obtain ⟨rd, hrd, rfl⟩ := h.record tr (h.sounding tr k hk)
    exact ⟨_, ⟨rd, h.mem_withNotes.mpr ⟨hrd, h.sounding rd.1 k hk⟩, rfl⟩, (h.entries rd hrd k).mpr hk, hc⟩

theorem mem_partKeySigs {S : Nat → List (Int × String)} (h : Column pt T (fun e => e.2.2.2.1) S) (trch : List (Nat × Nat)) (gpv : List Cell)
    (q : Option Nat) (k : Int × String) :
    k ∈ ((sigTables pt).trackKS.flatMap fun t => if (trackToParts trch gpv t.1).contains q then t.2 else []) ++
        (sigTables pt).globalKS ↔
      ∃ tr, (∃ c ∈ trch.zip gpv, c.1.1 = tr ∧ c.2.2.1 = q) ∧ k ∈ S tr := by
  unfold sigTables
  dsimp only
  rw [h.without_nil, List.append_nil, h.mem_fromTracks]

theorem sanitizes_iff {S : Nat → List (Int × Int × Int)} (h : Column pt T (fun e => e.2.2.1) S) :
    sanitizes pt = true ↔ (∃ i ∈ T, S i = []) ∧ ∃ i ∈ T, S i ≠ [] := by
  unfold sanitizes
  rw [h.without_nil]
  simp only [List.isEmpty_nil, Bool.true_and, Bool.and_eq_true, List.any_map, List.any_eq_true, Function.comp,
    decide_eq_true_eq]
  exact and_congr (h.exists_withNotes fun rd hrd => List.length_eq_zero_iff.trans (h.sel_eq_nil hrd))
    (h.exists_withNotes fun rd hrd => not_congr (List.length_eq_zero_iff.trans (h.sel_eq_nil hrd)))

/-- `P` lists the tracks of the cells of part `pid` -/
theorem partTimeSigs_eq {S : Nat → List (Int × Int × Int)} (h : Column pt T (fun e => e.2.2.1) S) (trch : List (Nat × Nat)) (gpv : List Cell) (pid : Nat)
    (P : List Nat) (hP : ∀ tr, tr ∈ P ↔ ∃ c ∈ trch.zip gpv, c.1.1 = tr ∧ c.2.2.1 = some pid) (hcell : ∃ tr ∈ P, tr ∈ T) :
    (let tss := sortedSet ltTS
        (((sigTables pt).trackTS.flatMap fun t => if (trackToParts trch gpv t.1).contains (some pid) then t.2 else []) ++
          (sigTables pt).globalTS)
      if tss.isEmpty then [(0, 4, 4)] else tss) =
    if T.all (fun i => (S i).isEmpty) then [(0, 4, 4)]
    else if T.any (fun i => (S i).isEmpty) then sortedSet ltTS (T.flatMap S)
    else sortedSet ltTS (P.flatMap S) := by
  have hall : T.all (fun i => (S i).isEmpty) = true ↔ ¬ ∃ i ∈ T, S i ≠ [] := by
    simp only [List.all_eq_true, List.isEmpty_iff]
    exact ⟨fun H ⟨i, hi, hne⟩ => hne (H i hi), fun H i hi => by_contra fun hne => H ⟨i, hi, hne⟩⟩
  have hany : T.any (fun i => (S i).isEmpty) = true ↔ ∃ i ∈ T, S i = [] := by
    simp only [List.any_eq_true, List.isEmpty_iff]
  -- a non-empty sorted set is handed on as it is; it depends on the members only
  have hset : ∀ l l' : List (Int × Int × Int), (∀ k, k ∈ l ↔ k ∈ l') → (∃ k, k ∈ l') →
      (if (sortedSet ltTS l).isEmpty then [(0, 4, 4)] else sortedSet ltTS l) = sortedSet ltTS l' := by
    intro l l' hm ⟨k, hk⟩
    rw [sortedSet_congr ltTS_strict l l' hm, if_neg]
    rw [sortedSet_isEmpty ltTS_strict, List.isEmpty_iff]
    exact List.ne_nil_of_mem hk
  obtain ⟨hG, hTr⟩ := sigTables_ts_eq pt
  rw [hG, hTr]
  dsimp only
  by_cases hN : ∃ i ∈ T, S i ≠ []
  · rw [if_neg (fun hc => hall.mp hc hN)]
    by_cases hZ : ∃ i ∈ T, S i = []
    · rw [if_pos (hany.mpr hZ), if_pos (h.sanitizes_iff.mpr ⟨hZ, hN⟩), if_pos (h.sanitizes_iff.mpr ⟨hZ, hN⟩)]
      apply hset
      · intro k
        rw [List.flatMap_nil, List.nil_append, List.mem_flatMap, List.mem_flatMap]
        exact h.exists_withNotes fun rd hrd => h.entries rd hrd k
      · obtain ⟨i, hi, hne⟩ := hN
        obtain ⟨k, hk⟩ := List.exists_mem_of_ne_nil _ hne
        exact ⟨k, List.mem_flatMap.mpr ⟨i, hi, hk⟩⟩
    · have hsan : ¬ sanitizes pt = true := fun hc => hZ (h.sanitizes_iff.mp hc).1
      rw [if_neg (fun hc => hZ (hany.mp hc)), if_neg hsan, if_neg hsan]
      apply hset
      · intro k
        rw [h.without_nil, List.append_nil, h.mem_fromTracks, List.mem_flatMap]
        exact exists_congr fun tr => and_congr_left' (hP tr).symm
      · obtain ⟨tr, htr, hi⟩ := hcell
        have hne : S tr ≠ [] := fun hnil => hZ ⟨tr, hi, hnil⟩
        obtain ⟨k, hk⟩ := List.exists_mem_of_ne_nil _ hne
        exact ⟨k, List.mem_flatMap.mpr ⟨tr, htr, hk⟩⟩
  · -- no track holds a time signature: nothing reaches the part
    have hsan : ¬ sanitizes pt = true := fun hc => hN (h.sanitizes_iff.mp hc).2
    rw [if_pos (hall.mpr hN), if_neg hsan, if_neg hsan, h.without_nil, List.append_nil]
    have hnil : ((pt.filter fun e => !e.2.1.isEmpty).map fun e => (e.1, e.2.2.1)).flatMap
        (fun t => if (trackToParts trch gpv t.1).contains (some pid) then t.2 else []) = [] := by
      apply List.eq_nil_iff_forall_not_mem.mpr
      intro k hk
      obtain ⟨tr, _, hk⟩ := (h.mem_fromTracks trch gpv (some pid) k).mp hk
      exact hN ⟨tr, h.sounding tr k hk, List.ne_nil_of_mem hk⟩
    rw [hnil]
    rfl

end Column

end C04IS
