/-
Span of a tie chain = summed duration + the silence inside it.
-/
import PartituraModel.Proofs.C05Rows
import PartituraModel.Model.NoteArrayTie

namespace NoteArray
open List

/-- every member of the chain starts no earlier than the previous member ends (a chain that runs forward in
    time: what an importer can produce) -/
def Forward : List Note → Prop
  | [] => True
  | [_] => True
  | a :: b :: l => a.onset + a.dur ≤ b.onset ∧ Forward (b :: l)

theorem chainEnd_eq_lastEnd : ∀ (c : List Note) (e : Int), chainEnd c e = lastEnd c e := by
  intro c
  induction c with
  | nil => intro e; rfl
  | cons a c ih => intro e; simp only [chainEnd, lastEnd]; exact ih _

/-- span = sum + gaps, for EVERY chain (no hypothesis: overlapping members count as negative gaps) -/
theorem span_eq_sum_add_gaps : ∀ (c : List Note) (a : Note),
    lastEnd (a :: c) a.onset - a.onset = durSum (a :: c) + gapSum (a :: c) := by
  intro c
  induction c with
  | nil => intro a; simp [durSum, lastEnd, gapSum]
  | cons b c ih =>
    intro a
    have h := ih b
    have e1 : lastEnd (a :: b :: c) a.onset = lastEnd (b :: c) b.onset := rfl
    have e2 : durSum (a :: b :: c) = a.dur + durSum (b :: c) := rfl
    have e3 : gapSum (a :: b :: c) = (b.onset - (a.onset + a.dur)) + gapSum (b :: c) := rfl
    rw [e1, e2, e3]
    omega

theorem gapSum_nonneg : ∀ (c : List Note) (a : Note), Forward (a :: c) → 0 ≤ gapSum (a :: c) := by
  intro c
  induction c with
  | nil => intro a _; simp [gapSum]
  | cons b c ih =>
    intro a h
    obtain ⟨hb, hc⟩ := h
    have := ih b hc
    have e3 : gapSum (a :: b :: c) = (b.onset - (a.onset + a.dur)) + gapSum (b :: c) := rfl
    rw [e3]; omega

theorem gapSum_zero_iff : ∀ (c : List Note) (a : Note), Forward (a :: c) →
    (gapSum (a :: c) = 0 ↔ Contiguous (a :: c)) := by
  intro c
  induction c with
  | nil => intro a _; simp [gapSum, Contiguous]
  | cons b c ih =>
    intro a h
    obtain ⟨hb, hc⟩ := h
    have hn := gapSum_nonneg c b hc
    have hi := ih b hc
    have e3 : gapSum (a :: b :: c) = (b.onset - (a.onset + a.dur)) + gapSum (b :: c) := rfl
    have e4 : Contiguous (a :: b :: c) ↔ (b.onset = a.onset + a.dur ∧ Contiguous (b :: c)) := Iff.rfl
    rw [e3, e4]
    constructor
    · intro h0
      have h1 : gapSum (b :: c) = 0 := by omega
      exact ⟨by omega, hi.mp h1⟩
    · intro ⟨h1, h2⟩
      have := hi.mpr h2
      omega

end NoteArray
