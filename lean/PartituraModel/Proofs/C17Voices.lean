/-
C17, voices: rename_voices and the reversal are a bijection of the distinct
voice values onto 1..k; the chord grouping is the partition by (onset, duration); scatter.
-/
import PartituraModel.Model.Voices
import PartituraModel.Proofs.C17Midi
import Mathlib.Data.List.Dedup
import Mathlib.Data.List.Basic
import PartituraModel.Proofs.Lists
import PartituraModel.Proofs.Folds

namespace C17V
open Model Model.Voices

/-- the keys of `vmap` after the generator of `rename_voices` has consumed `vs` -/
def allSeen : List Int → List Int → List Int
  | [], seen => seen
  | v :: rest, seen => if v ∈ seen then allSeen rest seen else allSeen rest (seen ++ [v])

theorem allSeen_eq_foldl (vs seen : List Int) :
    allSeen vs seen = vs.foldl (fun acc x => if acc.contains x then acc else acc ++ [x]) seen := by
  induction vs generalizing seen with
  | nil => rfl
  | cons v rest ih =>
    rw [allSeen, List.foldl_cons]
    by_cases h : v ∈ seen
    · rw [if_pos h, if_pos (List.contains_iff_mem.mpr h)]; exact ih _
    · rw [if_neg h, if_neg (fun c => h (List.contains_iff_mem.mp c))]; exact ih _

theorem allSeen_prefix (vs seen : List Int) (h : seen.Nodup) : ∃ ext, allSeen vs seen = seen ++ ext := by
  rw [allSeen_eq_foldl]; exact (Dicts.firstSeen_aux vs seen h).1

theorem renameAux_eq (vs : List Int) : ∀ seen, seen.Nodup →
    renameAux vs seen = vs.map (fun v => (((allSeen vs seen).idxOf v : Nat) : Int) + 1) := by
  induction vs with
  | nil => intro seen _; rfl
  | cons v rest ih =>
    intro seen hnd
    simp only [renameAux, indexOf_eq, allSeen, List.map_cons]
    by_cases hv : v ∈ seen
    · simp only [hv, if_true]
      obtain ⟨ext, hext⟩ := allSeen_prefix rest seen hnd
      rw [ih seen hnd]
      congr 1
      rw [hext, List.idxOf_append_of_mem hv]
    · simp only [hv, if_false]
      have hnd' := Lists.nodup_concat hnd hv
      obtain ⟨ext, hext⟩ := allSeen_prefix rest (seen ++ [v]) hnd'
      rw [ih (seen ++ [v]) hnd']
      congr 1
      rw [hext, List.idxOf_append_of_mem (by simp), List.idxOf_append_of_notMem hv]
      simp

/-- the distinct voice values in order of first occurrence -/
def firstOcc (vs : List Int) : List Int := allSeen vs []

theorem firstOcc_nodup (vs : List Int) : (firstOcc vs).Nodup := by
  rw [firstOcc, allSeen_eq_foldl]; exact (Dicts.firstSeen_aux vs [] List.nodup_nil).2.1

theorem mem_firstOcc (vs : List Int) (x : Int) : x ∈ firstOcc vs ↔ x ∈ vs := by
  rw [firstOcc, allSeen_eq_foldl, (Dicts.firstSeen_aux vs [] List.nodup_nil).2.2, List.mem_nil_iff, false_or]

theorem firstOcc_length (vs : List Int) : (firstOcc vs).length = vs.dedup.length := by
  apply List.Perm.length_eq
  rw [List.perm_ext_iff_of_nodup (firstOcc_nodup vs) (List.nodup_dedup vs)]
  intro a
  rw [mem_firstOcc, List.mem_dedup]

theorem rename_eq (vs : List Int) :
    rename vs = vs.map (fun v => (((firstOcc vs).idxOf v : Nat) : Int) + 1) :=
  renameAux_eq vs [] List.nodup_nil

theorem mem_rename (vs : List Int) (x : Int) :
    x ∈ rename vs ↔ 1 ≤ x ∧ x ≤ ((firstOcc vs).length : Int) := by
  rw [rename_eq]
  simp only [List.mem_map]
  constructor
  · rintro ⟨v, hv, rfl⟩
    have := List.idxOf_lt_length_of_mem ((mem_firstOcc vs v).mpr hv)
    omega
  · rintro ⟨h1, h2⟩
    have hlt : (x - 1).toNat < (firstOcc vs).length := by omega
    refine ⟨(firstOcc vs)[(x - 1).toNat], (mem_firstOcc vs _).mp (List.getElem_mem hlt), ?_⟩
    rw [(firstOcc_nodup vs).idxOf_getElem]
    omega

theorem foldl_max_spec {α : Type} [LinearOrder α] (l : List α) (b : α) :
    l.foldl max b ∈ b :: l ∧ ∀ x ∈ b :: l, x ≤ l.foldl max b :=
  ⟨List.mem_cons.mpr (Lists.foldl_max_mem b l),
    fun x hx => (List.mem_cons.mp hx).elim (fun e => e ▸ Lists.foldl_max_ge_init b l) (Lists.foldl_max_ge_mem b l x)⟩

theorem listMax_spec (l : List Int) (m : Int) (h : listMax l = some m) : m ∈ l ∧ ∀ x ∈ l, x ≤ m := by
  cases l with
  | nil => cases h
  | cons a rest => cases h; exact foldl_max_spec rest a

theorem listMax_rename (vs : List Int) (h : vs ≠ []) :
    listMax (rename vs) = some ((firstOcc vs).length : Int) := by
  have hne : rename vs ≠ [] := by
    rw [rename_eq]; simpa using h
  cases hr : rename vs with
  | nil => exact absurd hr hne
  | cons a rest =>
    have hm : ∃ m, listMax (a :: rest) = some m := ⟨_, rfl⟩
    obtain ⟨m, hm⟩ := hm
    rw [hm]
    obtain ⟨h1, h2⟩ := listMax_spec _ _ hm
    rw [← hr] at h1 h2
    have hle := ((mem_rename vs m).mp h1).2
    have hpos : 0 < (firstOcc vs).length := by
      cases vs with
      | nil => exact absurd rfl h
      | cons v _ =>
        exact List.length_pos_of_mem ((mem_firstOcc _ v).mpr List.mem_cons_self)
    have hK : ((firstOcc vs).length : Int) ∈ rename vs := (mem_rename vs _).mpr ⟨by omega, le_refl _⟩
    have := h2 _ hK
    congr 1
    omega

theorem finalize_eq (vs : List Int) (h : vs ≠ []) :
    finalize vs = some (vs.map fun v => ((firstOcc vs).length : Int) - (((firstOcc vs).idxOf v : Nat) : Int)) := by
  simp only [finalize, reverseVoices, listMax_rename vs h, Option.map_some]
  rw [rename_eq, List.map_map]
  congr 1
  apply List.map_congr_left
  intro v _
  simp only [Function.comp]
  omega

theorem setAll_length (members : List Nat) (v : Int) : ∀ cells : List (Option Int),
    (setAll cells members v).length = cells.length := by
  induction members with
  | nil => intro cells; rfl
  | cons m ms ih => intro cells; simp only [setAll, List.foldl_cons] at *; rw [ih]; simp

theorem setAll_getElem? (members : List Nat) (v : Int) : ∀ (cells : List (Option Int)) (p : Nat),
    (setAll cells members v)[p]? =
      if p ∈ members ∧ p < cells.length then some (some v) else cells[p]? := by
  induction members with
  | nil => intro cells p; simp [setAll]
  | cons m ms ih =>
    intro cells p
    simp only [setAll, List.foldl_cons] at *
    rw [ih]
    simp only [List.length_set, List.mem_cons, List.getElem?_set]
    by_cases hpm : p ∈ ms
    · by_cases hl : p < cells.length
      · simp [hpm, hl]
      · have hnone : cells[p]? = none := List.getElem?_eq_none (by omega)
        by_cases hm : m = p
        · subst hm; simp [hpm, hl]
        · simp [hpm, hl, hm]
    · by_cases hm : m = p
      · subst hm; by_cases hl : m < cells.length <;> simp [hpm, hl]
      · have : ¬ p = m := fun e => hm e.symm
        simp [hpm, hm, this]

theorem scatter_rel (equivs : List (Nat × List Nat)) (i j : Nat)
    (hrel : ∀ e ∈ equivs, i ∈ e.2 ↔ j ∈ e.2) :
    ∀ (out : List (Nat × Int)) (cells cells' : List (Option Int)),
      i < cells.length → j < cells.length → cells[i]? = cells[j]? →
      scatter equivs out cells = some cells' → cells'[i]? = cells'[j]? := by
  intro out
  induction out with
  | nil => intro cells cells' _ _ h hs; simp only [scatter, Option.some.injEq] at hs; subst hs; exact h
  | cons x rest ih =>
    intro cells cells' hi hj h hs
    obtain ⟨id, v⟩ := x
    simp only [scatter] at hs
    split at hs
    · cases hs
    · rename_i members hl
      have hmem := hrel _ (Model.lookup_mem hl)
      simp only at hmem
      refine ih (setAll cells members v) cells' (by rw [setAll_length]; exact hi)
        (by rw [setAll_length]; exact hj) ?_ hs
      rw [setAll_getElem?, setAll_getElem?]
      by_cases hm : i ∈ members
      · simp [hm, hmem.mp hm, hi, hj]
      · have hm' : j ∉ members := fun e => hm (hmem.mpr e)
        simp [hm, hm', h]

theorem allSome_eq (cells : List (Option Int)) (vs : List Int) (h : allSome cells = some vs) : cells = vs.map some :=
  (Lists.allSome_eq_some_iff rfl (fun _ => rfl) (fun _ _ => rfl)).mp h

theorem allSome_of_all (cells : List (Option Int))
    (h : ∀ p, p < cells.length → ∃ w, cells[p]? = some (some w)) : ∃ vs, allSome cells = some vs := by
  refine ⟨cells.map (·.getD 0), (Lists.allSome_eq_some_iff rfl (fun _ => rfl) (fun _ _ => rfl)).mpr ?_⟩
  refine List.ext_getElem (by simp) fun p hp _ => ?_
  obtain ⟨w, hw⟩ := h p hp
  rw [List.getElem?_eq_getElem hp, Option.some.injEq] at hw
  simp [hw]

/-- if every id answered by the search is a key of `idx_equivs`, the scatter loop does not raise,
    keeps what was written, and writes every member of every answered id -/
theorem scatter_total (equivs : List (Nat × List Nat)) :
    ∀ (out : List (Nat × Int)) (cells : List (Option Int)),
      (∀ x ∈ out, ∃ ms, lookup x.1 equivs = some ms) →
      ∃ cells', scatter equivs out cells = some cells' ∧ cells'.length = cells.length ∧
        (∀ p : Nat, (∃ w, cells[p]? = some (some w)) → ∃ w, cells'[p]? = some (some w)) ∧
        (∀ x ∈ out, ∀ ms, lookup x.1 equivs = some ms → ∀ p ∈ ms, p < cells.length →
          ∃ w, cells'[p]? = some (some w)) := by
  intro out
  induction out with
  | nil => intro cells _; exact ⟨cells, rfl, rfl, fun p h => h, by simp⟩
  | cons x rest ih =>
    intro cells hkeys
    obtain ⟨id, v⟩ := x
    obtain ⟨ms, hms⟩ := hkeys (id, v) List.mem_cons_self
    obtain ⟨cells', hs, hlen, hkeep, hset⟩ := ih (setAll cells ms v) (fun y hy => hkeys y (List.mem_cons_of_mem _ hy))
    refine ⟨cells', ?_, ?_, ?_, ?_⟩
    · simp only [scatter, hms]; exact hs
    · rw [hlen, setAll_length]
    · intro p hp
      apply hkeep
      rw [setAll_getElem?]
      split
      · exact ⟨v, rfl⟩
      · exact hp
    · intro y hy ms' hms' p hp hpl
      rcases List.mem_cons.mp hy with hy | hy
      · subst hy
        simp only at hms'
        rw [hms] at hms'
        simp only [Option.some.injEq] at hms'
        subst hms'
        apply hkeep
        rw [setAll_getElem?]
        simp [hp, hpl]
      · exact hset y hy ms' hms' p hp (by rw [setAll_length]; exact hpl)

/-- the (onset, duration) key of row `i` -/
def keyOf (notes : List VNote) (i : Nat) : Option (Rat × Rat) := notes[i]?.map fun x => (x.2.1, x.2.2)

/-- the groups as a dictionary from the (onset, duration) key to the members -/
def pairs (gs : List Group) : List ((Rat × Rat) × List (Nat × Int)) := gs.map fun g => (g.key, g.first :: g.rest)

/-- `note_by_key[key].append(m)` is the `d[k].append(x)` of Model/C17Midi.lean -/
theorem addToGroups_pairs (key : Rat × Rat) (m : Nat × Int) (gs : List Group) :
    pairs (addToGroups gs key m) = C17Midi.appendAt (pairs gs) key m := by
  induction gs with
  | nil => rfl
  | cons g rest ih =>
    simp only [addToGroups, pairs, List.map_cons, C17Midi.appendAt] at ih ⊢
    split
    · rfl
    · rw [List.map_cons, ih]

theorem pairs_keys (gs : List Group) : (pairs gs).map (·.1) = gs.map (·.key) := by
  simp [pairs, List.map_map, Function.comp_def]

/-- the loop of `groups` files row `i` under its (onset, duration) key -/
theorem pairs_groupsAux : ∀ (rest : List VNote) (t : Nat) (gs : List Group),
    pairs (groupsAux rest t gs) =
      (rest.zipIdx t).foldl (fun d e => C17Midi.appendAt d (e.1.2.1, e.1.2.2) (e.2, e.1.1)) (pairs gs)
  | [], _, _ => rfl
  | (p, on, du) :: rest, t, gs => by
    rw [groupsAux, pairs_groupsAux rest (t + 1), addToGroups_pairs]; rfl

theorem pairs_groups (notes : List VNote) : pairs (groups notes) =
    notes.zipIdx.foldl (fun d e => C17Midi.appendAt d (e.1.2.1, e.1.2.2) (e.2, e.1.1)) [] :=
  pairs_groupsAux notes 0 []

theorem groups_keys_nodup (notes : List VNote) : ((groups notes).map (·.key)).Nodup := by
  rw [← pairs_keys, pairs_groups]
  exact C17M.appendAt_isAppendAt.foldl_nodup _ _ _ List.nodup_nil

theorem groups_mem (notes : List VNote) {g : Group} (hg : g ∈ groups notes) (i : Nat) :
    i ∈ g.members ↔ (i < notes.length ∧ keyOf notes i = some g.key) := by
  have hp : (g.key, g.first :: g.rest) ∈ pairs (groups notes) := List.mem_map.mpr ⟨g, hg, rfl⟩
  rw [pairs_groups] at hp
  have : g.first :: g.rest = _ :=
    C17M.appendAt_isAppendAt.foldl_group (fun e : VNote × Nat => (e.1.2.1, e.1.2.2)) (fun e => (e.2, e.1.1)) _ _ hp
  rw [show g.members = (g.first :: g.rest).map (·.1) from rfl, this]
  simp only [List.map_map, List.mem_map, List.mem_filter, Function.comp, decide_eq_true_eq, keyOf]
  constructor
  · rintro ⟨⟨x, j⟩, ⟨hx, hk⟩, rfl⟩
    have := List.mem_zipIdx_iff_getElem?.mp hx
    exact ⟨(List.getElem?_eq_some_iff.mp this).1, by rw [this, ← hk]; rfl⟩
  · rintro ⟨hi, hk⟩
    refine ⟨(notes[i], i), ⟨List.mem_zipIdx_iff_getElem?.mpr (by simp [List.getElem?_eq_getElem hi]), ?_⟩, rfl⟩
    simpa [List.getElem?_eq_getElem hi] using hk

theorem groups_cover (notes : List VNote) {i : Nat} (hi : i < notes.length) :
    ∃ g ∈ groups notes, keyOf notes i = some g.key := by
  have : (notes[i].2.1, notes[i].2.2) ∈ (pairs (groups notes)).map (·.1) := by
    rw [pairs_groups, C17M.appendAt_isAppendAt.mem_foldl_keys]
    exact Or.inr (List.mem_map.mpr ⟨(notes[i], i), List.mem_zipIdx_iff_getElem?.mpr (by simp [List.getElem?_eq_getElem hi]), rfl⟩)
  rw [pairs_keys] at this
  obtain ⟨g, hg, e⟩ := List.mem_map.mp this
  exact ⟨g, hg, by simp [keyOf, List.getElem?_eq_getElem hi, e]⟩
theorem leaderAux_mem : ∀ (rest : List (Nat × Int)) (b : Nat × Int),
    leaderAux rest b = b.1 ∨ leaderAux rest b ∈ rest.map (·.1) := by
  intro rest
  induction rest with
  | nil => intro b; left; rfl
  | cons m ms ih =>
    intro b
    simp only [leaderAux]
    split
    · rcases ih m with h | h
      · right; rw [h]; simp
      · right; simp only [List.map_cons, List.mem_cons]; exact Or.inr h
    · rcases ih b with h | h
      · left; exact h
      · right; simp only [List.map_cons, List.mem_cons]; exact Or.inr h

theorem leader_mem (g : Group) : g.leader ∈ g.members := by
  simp only [Group.leader, Group.members, List.mem_cons]
  exact leaderAux_mem g.rest g.first

theorem finalize_none_nil : finalize [] = none := by
  simp [finalize, reverseVoices, rename, renameAux, listMax]

theorem chord_same_voice (vosa : Vosa) (notes : List VNote) (out : List Int)
    (h : estimateVoices vosa false notes = some out) (i j : Nat)
    (hi : i < notes.length) (hj : j < notes.length) (hk : keyOf notes i = keyOf notes j) :
    out[i]? = out[j]? := by
  unfold estimateVoices at h
  split at h
  · cases h
  · split at h
    · cases h
    · rename_i cells hs
      split at h
      · cases h
      · rename_i voices hv
        have hrel : ∀ e ∈ idxEquivs false notes, i ∈ e.2 ↔ j ∈ e.2 := by
          intro e he
          simp only [idxEquivs, Bool.false_eq_true, if_false, List.mem_map] at he
          obtain ⟨g, hg, rfl⟩ := he
          simp only
          rw [groups_mem notes hg i, groups_mem notes hg j, hk]
          simp [hi, hj]
        have hc := scatter_rel _ i j hrel _ _ cells (by simpa using hi) (by simpa using hj)
          (by simp [hi, hj]) hs
        rw [allSome_eq cells voices hv] at hc
        simp only [List.getElem?_map] at hc
        have hvv : voices[i]? = voices[j]? := by
          cases h1 : voices[i]? <;> cases h2 : voices[j]? <;> simp [h1, h2] at hc ⊢
          exact hc
        have hne : voices ≠ [] := by
          intro e; subst e; rw [finalize_none_nil] at h; cases h
        rw [finalize_eq voices hne] at h
        simp only [Option.some.injEq] at h
        subst h
        simp only [List.getElem?_map, hvv]

/-- the search answers exactly the ids it was given, each once -/
def VosaCovers (vosa : Vosa) (rows : List VRow) : Prop :=
  ((vosa rows).map (·.1)).Perm (rows.map (·.1))

theorem isSortAsc : Lists.IsInsertionSort (fun k x : Nat => decide (k ≤ x)) insertAsc sortAsc :=
  ⟨fun _ => rfl, fun a b l => by simp [insertAsc], rfl, fun _ _ => rfl⟩

theorem mem_sortAsc (x : Nat) (l : List Nat) : x ∈ sortAsc l ↔ x ∈ l := isSortAsc.mem

/-- `idx_equivs` built as one entry `(f x, m x)` per element of `L` with distinct ids: every id the search is given is a
    key, and every row a member of some key's entry, as soon as the ids are the `f x` and the `m x` cover the rows -/
theorem equivs_of_map {β : Type} (L : List β) (f : β → Nat) (m : β → List Nat) (hnd : (L.map f).Nodup) (ids : List Nat)
    (n : Nat) (hids : ∀ id, id ∈ ids ↔ ∃ x ∈ L, f x = id) (hcov : ∀ p, p < n → ∃ x ∈ L, p ∈ m x) :
    (∀ id ∈ ids, ∃ ms, lookup id (L.map fun x => (f x, m x)) = some ms) ∧
    (∀ p, p < n → ∃ id ∈ ids, ∃ ms, lookup id (L.map fun x => (f x, m x)) = some ms ∧ p ∈ ms) := by
  have hl : ∀ x ∈ L, lookup (f x) (L.map fun x => (f x, m x)) = some (m x) := fun x hx =>
    lookup_of_mem (by simpa [List.map_map, Function.comp_def] using hnd) (List.mem_map.mpr ⟨x, hx, rfl⟩)
  refine ⟨fun id hid => ?_, fun p hp => ?_⟩
  · obtain ⟨x, hx, rfl⟩ := (hids id).mp hid
    exact ⟨_, hl x hx⟩
  · obtain ⟨x, hx, hpx⟩ := hcov p hp
    exact ⟨f x, (hids _).mpr ⟨x, hx, rfl⟩, m x, hl x hx, hpx⟩

theorem equivs_facts (mono : Bool) (notes : List VNote) :
    (∀ id ∈ (vosaInput mono notes).map (·.1), ∃ ms, lookup id (idxEquivs mono notes) = some ms) ∧
    (∀ p, p < notes.length → ∃ id ∈ (vosaInput mono notes).map (·.1), ∃ ms,
        lookup id (idxEquivs mono notes) = some ms ∧ p ∈ ms) := by
  cases mono with
  | true =>
    have hids : (vosaInput true notes).map (·.1) = List.range notes.length := by
      simp only [vosaInput, if_true, List.map_map]
      rw [List.range_eq_range', ← List.zipIdx_map_snd 0 notes]
      exact List.map_congr_left (fun x _ => rfl)
    exact equivs_of_map (List.range notes.length) id (fun i => [i]) (by simpa using List.nodup_range) _ _
      (fun i => by simp [hids]) (fun p hp => ⟨p, by simpa using hp, by simp⟩)
  | false =>
    have hkey : ∀ g ∈ groups notes, keyOf notes g.leader = some g.key := fun g hg =>
      ((groups_mem notes hg g.leader).mp (leader_mem g)).2
    -- two groups with the same leader have the same key, hence are the same group
    have hnd : ((groups notes).map (·.leader)).Nodup :=
      (List.Nodup.of_map _ (groups_keys_nodup notes)).map_on fun g hg g' hg' e =>
        Lists.eq_of_nodup_map (groups_keys_nodup notes) hg hg' (Option.some.inj ((hkey g hg).symm.trans (e ▸ hkey g' hg')))
    refine equivs_of_map (groups notes) (·.leader) (·.members) hnd _ _ (fun id => ?_) (fun p hp => ?_)
    · simp only [vosaInput, Bool.false_eq_true, if_false, idxEquivs, List.map_map, List.mem_map,
        List.mem_filterMap, mem_sortAsc, Function.comp]
      constructor
      · rintro ⟨x, ⟨a, ⟨g, hg, rfl⟩, hx⟩, rfl⟩
        refine ⟨g, hg, ?_⟩
        cases hn : notes[g.leader]? with
        | none => simp [hn] at hx
        | some y => simp [hn] at hx; subst hx; rfl
      · rintro ⟨g, hg, rfl⟩
        have := ((groups_mem notes hg g.leader).mp (leader_mem g)).1
        exact ⟨(g.leader, notes[g.leader]), ⟨g.leader, ⟨g, hg, rfl⟩, by simp [List.getElem?_eq_getElem this]⟩, rfl⟩
    · obtain ⟨g, hg, hk⟩ := groups_cover notes hp
      exact ⟨g, hg, (groups_mem notes hg p).mpr ⟨hp, hk⟩⟩

theorem total_given_vosa (vosa : Vosa) (mono : Bool) (notes : List VNote) (hne : notes ≠ [])
    (hc : VosaCovers vosa (vosaInput mono notes)) :
    ∃ out voices, estimateVoices vosa mono notes = some out ∧ voices.length = notes.length ∧
      finalize voices = some out := by
  obtain ⟨hE1, hE2⟩ := equivs_facts mono notes
  have hkeys : ∀ x ∈ vosa (vosaInput mono notes), ∃ ms, lookup x.1 (idxEquivs mono notes) = some ms := by
    intro x hx
    apply hE1
    exact hc.subset (List.mem_map_of_mem hx)
  obtain ⟨cells, hs, hlen, _, hset⟩ := scatter_total (idxEquivs mono notes) _ (List.replicate notes.length none) hkeys
  have hall : ∀ p, p < cells.length → ∃ w, cells[p]? = some (some w) := by
    intro p hp
    have hp' : p < notes.length := by simpa [hlen] using hp
    obtain ⟨id, hid, ms, hms, hpm⟩ := hE2 p hp'
    have : id ∈ (vosa (vosaInput mono notes)).map (·.1) := hc.symm.subset hid
    obtain ⟨x, hx, rfl⟩ := List.mem_map.mp this
    exact hset x hx ms hms p hpm (by simpa using hp')
  obtain ⟨voices, hv⟩ := allSome_of_all cells hall
  have hvl : voices.length = notes.length := by
    have := congrArg List.length (allSome_eq cells voices hv)
    simp [hlen] at this
    omega
  have hvne : voices ≠ [] := by
    intro e; subst e
    simp at hvl
    exact hne (List.eq_nil_of_length_eq_zero hvl.symm)
  refine ⟨_, voices, ?_, hvl, finalize_eq voices hvne⟩
  simp only [estimateVoices, hne, if_false, hs, hv, finalize_eq voices hvne]

end C17V
