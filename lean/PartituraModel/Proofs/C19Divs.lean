/-
The divisions `inferPpq` chooses represent every onset, duration and measure boundary of an MEI document, end to end through
`runEvs`.  The invariant (`Good`, `Inv`): every position the machine holds is a whole multiple of `1/q`, provided `q` makes
whole the written value of every well-formed element recorded in `durEls` (`HD`) and every measure length `4·beats/unit` for
the units recorded in `units` (`HU`); that every duration the machine advances by and the unit of every meter in force ARE
recorded is part of it.  `inferPpq` provides such a `q` (`C19.mei_inferPpq_exact`).
-/
import PartituraModel.Proofs.C19Step
import PartituraModel.Proofs.C19MeiPpq
import PartituraModel.Proofs.Lists

set_option linter.unusedSimpArgs false
set_option linter.unusedVariables false

namespace C19D
open Model Model.Mei C19S C19P

theorem QI_ratMaxFrom (q d : Rat) (l : List Rat) (hd : QI q d) (hl : ∀ x ∈ l, QI q x) : QI q (ratMaxFrom d l) := by
  cases l with
  | nil => exact hd
  | cons a rest =>
    exact Lists.foldl_keeps_all _ (fun x y hx hy => by split <;> assumption) rest a (hl a List.mem_cons_self)
      fun y hy => hl y (List.mem_cons_of_mem _ hy)

/-- the beat unit of a meter is a recorded ("good") unit -/
def MU (G : Nat → Prop) (m : Option (Nat × Nat)) : Prop := ∀ b u, m = some (b, u) → G u

theorem MU_none (G : Nat → Prop) : MU G none := fun _ _ h => by cases h

/-- the hypothesis on `q` for the meters: it makes the measures of every recorded unit whole -/
def HU (q : Rat) (G : Nat → Prop) : Prop := ∀ u, G u → u ≠ 0 → ∀ b : Nat, QI q (4 * (b : Rat) / (u : Rat))

/-- what the invariant says about a state (the stack of open elements apart) -/
structure Good (q : Rat) (G : Nat → Prop) (st : St) : Prop where
  pos : QI q st.pos
  cursor : QI q st.cursor
  staffEnds : ∀ x ∈ st.staffEnds, QI q x
  layerEnds : ∀ x ∈ st.layerEnds, QI q x
  notes : ∀ n ∈ st.notes, QI q n.onset ∧ QI q n.dur
  chord : ∀ d s, st.chord = some (d, s) → QI q d
  measures : ∀ m ∈ st.measures, QI q m.2.2.2.1 ∧ QI q m.2.2.2.2
  sdMeter : MU G st.sdMeter
  sdMeterChild : MU G st.sdMeterChild
  defs : ∀ d ∈ st.defs, MU G d.meter
  meters : ∀ m ∈ st.meters, G m.2

/-- the frames of the open elements carry only meters whose units are recorded -/
def FrameOk (G : Nat → Prop) (f : Frame) : Prop :=
  MU G f.cMeter ∧ MU G (meterOfAttrs f.attrs "meter.count" "meter.unit")

def StackOk (G : Nat → Prop) (s : List Frame) : Prop := ∀ f ∈ s, FrameOk G f

/-- the meter in force for an element: what a `meterSig` child wrote into its frame, else its own attributes -/
theorem FrameOk.meter {G : Nat → Prop} {f : Frame} (hf : FrameOk G f) :
    MU G (match f.cMeter with | some m => some m | none => meterOfAttrs f.attrs "meter.count" "meter.unit") := by
  cases h : f.cMeter with
  | some m => exact fun b u e => hf.1 b u (h.trans e)
  | none => exact hf.2

theorem good_init (q : Rat) (G : Nat → Prop) : Good q G {} :=
  ⟨QI_zero q, QI_zero q, by simp, by simp, by simp, by simp, by simp, MU_none G, MU_none G, by simp, by simp⟩

theorem meterOfAttrs_unit (as : List (String × String)) (kc ku : String) (b u : Nat)
    (h : meterOfAttrs as kc ku = some (b, u)) : natAttr as ku = some u := by
  unfold meterOfAttrs at h
  cases h1 : natAttr as kc <;> cases h2 : natAttr as ku <;> simp [h1, h2] at h
  simp [h.2]

theorem newUnits_mem (tag : String) (as : List (String × String)) :
    (∀ u, natAttr as "meter.unit" = some u → u ∈ newUnits tag as) ∧
      (tag = "meterSig" → ∀ u, natAttr as "unit" = some u → u ∈ newUnits tag as) := by
  refine ⟨fun u h => ?_, fun ht u h => ?_⟩ <;> simp [newUnits, *]

theorem durNumber_wf (s : String) (v : Rat) (h : durNumber s = some v) :
    ((∃ n : Nat, 0 < n ∧ v = (n : Rat)) ∨ (∃ j : Nat, v = 1 / (2 : Rat) ^ j)) ∧ 0 < v := by
  unfold durNumber at h
  by_cases h1 : s = "long"
  · simp [h1] at h
    subst h
    exact ⟨Or.inr ⟨2, by norm_num⟩, by norm_num⟩
  by_cases h2 : (s = "breve" || s = "0") = true
  · simp only [h1, if_false, h2, if_true, Option.some.injEq] at h
    subst h
    exact ⟨Or.inr ⟨1, by norm_num⟩, by norm_num⟩
  simp only [h1, if_false, h2] at h
  cases hn : natOfString s with
  | none => simp [hn] at h
  | some n =>
    simp only [hn] at h
    by_cases h0 : n = 0
    · simp [h0] at h
    · simp [h0] at h
      subst h
      have : 0 < n := Nat.pos_of_ne_zero h0
      exact ⟨Or.inl ⟨n, this, rfl⟩, by exact_mod_cast this⟩

theorem newDurEls_some {tups : List (Nat × Nat)} {as : List (String × String)} {es : List DurEl} {ds : String}
    (hd : attr as "dur" = some ds) (h : newDurEls tups as = some es) :
    ∃ v, durNumber ds = some v ∧
      ((tups = [] ∧ es = [⟨v, (natAttr as "dots").getD 0, none, natAttr as "dur.ppq"⟩]) ∨
       ∃ t, tups = [t] ∧ es = [⟨v, (natAttr as "dots").getD 0, some t, natAttr as "dur.ppq"⟩]) := by
  unfold newDurEls at h
  simp only [hd] at h
  cases hv : durNumber ds with
  | none => simp [hv] at h
  | some v =>
    simp only [hv] at h
    match tups, h with
    | [], h => exact ⟨v, rfl, Or.inl ⟨rfl, (Option.some.inj h).symm⟩⟩
    | [t], h => exact ⟨v, rfl, Or.inr ⟨t, rfl, (Option.some.inj h).symm⟩⟩
    | _ :: _ :: _, h => simp at h

/-- when the element's own duration is used (`durOfT` succeeds) the element recorded is well formed (or its value
    is 0: a tuplet with `@numbase` 0) and its written value is that duration -/
theorem newDurEls_spec (tups : List (Nat × Nat)) (as : List (String × String)) (es : List DurEl)
    (h : newDurEls tups as = some es) :
    (es = [] ∧ attr as "dur" = none) ∨
    (∃ e, es = [e] ∧
      ∀ d, durOfT tups as = some d → (WellFormed e ∨ d = 0) ∧ meiValue e.v e.dots e.tup = d) := by
  cases h1 : attr as "dur" with
  | none => simp [newDurEls, h1] at h; exact Or.inl ⟨h, rfl⟩
  | some ds =>
    obtain ⟨v, h2, hes⟩ := newDurEls_some h1 h
    obtain ⟨hw, hpos⟩ := durNumber_wf ds v h2
    right
    rcases hes with ⟨rfl, rfl⟩ | ⟨⟨a, b⟩, rfl, rfl⟩
    · refine ⟨_, rfl, fun d hd => ?_⟩
      simp only [durOfT, h1, Option.bind_some, h2, Option.some.injEq] at hd
      exact ⟨Or.inl hw, hd⟩
    · refine ⟨_, rfl, fun d hd => ?_⟩
      simp only [durOfT, h1, Option.bind_some, h2] at hd
      by_cases ha : a = 0
      · simp [ha] at hd
      · simp only [ha, if_false, Option.some.injEq] at hd
        refine ⟨?_, hd⟩
        by_cases hb : b = 0
        · right
          rw [← hd, hb]
          simp [meiValue]
        · left
          exact ⟨hpos, Nat.pos_of_ne_zero ha, Nat.pos_of_ne_zero hb⟩

theorem resolveMeter_MU (q : Rat) (G : Nat → Prop) (st : St) (hg : Good q G st) (d : PartDef) (hd : d ∈ st.defs) :
    MU G (resolveMeter st d) := by
  intro b u h
  unfold resolveMeter at h
  cases h1 : d.meter with
  | some m => simp [h1] at h; exact hg.defs d hd b u (by rw [h1, h])
  | none =>
    simp only [h1] at h
    cases h2 : st.sdMeter with
    | some m => simp [h2] at h; exact hg.sdMeter b u (by rw [h2, h])
    | none => simp only [h2] at h; exact hg.sdMeterChild b u h

theorem ensureStarted_good (q : Rat) (G : Nat → Prop) (st s : St) (h : ensureStarted st = some s) (hg : Good q G st) :
    Good q G s := by
  rw [ensureStarted_eq] at h
  split at h
  · obtain rfl := Option.some.inj h; exact hg
  · obtain ⟨ms, hm, rfl⟩ := Option.map_eq_some_iff.mp h
    refine { hg with meters := fun m hmem => ?_ }
    obtain ⟨d, hd, hfd⟩ := Lists.mapM_mem hm m hmem
    have hd' : d ∈ st.defs := by simpa [partsInOrder] using hd
    exact resolveMeter_MU q G st hg d hd' m.1 m.2 (by rw [hfd])

theorem measureLen_good (q : Rat) (G : Nat → Prop) (st : St) (d : Rat) (hg : Good q G st)
    (hG : HU q G) (h : measureLen st = some d) : QI q d := by
  unfold measureLen at h
  cases hm : st.meters[st.staffIdx]? with
  | none => simp [hm] at h
  | some bu =>
    obtain ⟨b, u⟩ := bu
    simp only [hm] at h
    by_cases hu : u = 0
    · simp [hu] at h
    · simp only [hu, if_false, Option.some.injEq] at h
      subst h
      exact hG u (hg.meters (b, u) (List.mem_of_getElem? hm)) hu b

theorem good_layer {q : Rat} {G : Nat → Prop} {st : St} (hg : Good q G st) (ch : Option (Rat × Option Nat))
    (ns : List RNote) (cu : Rat) (h1 : ∀ d s, ch = some (d, s) → QI q d) (h2 : ∀ n ∈ ns, QI q n.onset ∧ QI q n.dur)
    (h3 : QI q cu) : Good q G { st with chord := ch, notes := ns, cursor := cu } :=
  { hg with cursor := h3, notes := h2, chord := h1 }

theorem layerUpd_ok (q : Rat) (G : Nat → Prop) (c : Ctx) (st : St) (as : List (String × String)) (k : LKind)
    (u : Option (Rat × Option Nat) × List RNote × Rat) (h : layerUpd c st as k = some u) (hg : Good q G st)
    (hq : ∀ d, durOfT c.tups as = some d → QI q d)
    (hG : HU q G) :
    (∀ d s, u.1 = some (d, s) → QI q d) ∧ (∀ n ∈ u.2.1, QI q n.onset ∧ QI q n.dur) ∧ QI q u.2.2 := by
  have push : ∀ (n : RNote), QI q n.onset → QI q n.dur → ∀ m ∈ n :: st.notes, QI q m.onset ∧ QI q m.dur :=
    fun n h1 h2 => List.forall_mem_cons.mpr ⟨⟨h1, h2⟩, hg.notes⟩
  cases k with
  | chord =>
    obtain ⟨d, hd, rfl⟩ := Option.map_eq_some_iff.mp h
    exact ⟨fun d' s' e => by cases e; exact hq d hd, hg.notes, hg.cursor⟩
  | note =>
    by_cases hp : c.ptag = "chord"
    · obtain ⟨d, cstaff, step, oct, hch, rfl⟩ := layerUpd_chord_note hp h
      exact ⟨hg.chord, push _ hg.cursor (hg.chord d cstaff hch), hg.cursor⟩
    · obtain ⟨d, kind, step, oct, hd, rfl⟩ := layerUpd_single_note hp h
      have hd' : QI q d := hd.elim (fun e => e ▸ QI_zero q) (hq d)
      exact ⟨hg.chord, push _ hg.cursor hd', QI_add hg.cursor hd'⟩
  | accid =>
    obtain rfl := Option.some.inj h
    refine ⟨hg.chord, ?_, hg.cursor⟩
    dsimp only
    split
    · split
      · rename_i n rest a hn _
        have hn' : st.notes = n :: rest := hn
        exact List.forall_mem_cons.mpr ⟨hg.notes n (by rw [hn']; simp), fun m hm => hg.notes m (by rw [hn']; simp [hm])⟩
      · exact hg.notes
    · exact hg.notes
  | rest =>
    obtain ⟨d, hd, rfl⟩ := Option.map_eq_some_iff.mp h
    exact ⟨hg.chord, push _ hg.cursor (hq d hd), QI_add hg.cursor (hq d hd)⟩
  | mRest multi =>
    simp only [layerUpd] at h
    split at h
    · cases h
    · obtain ⟨d, hd, rfl⟩ := Option.map_eq_some_iff.mp h
      have hd' := measureLen_good q G st d hg hG hd
      exact ⟨hg.chord, push _ hg.cursor hd', QI_add hg.cursor hd'⟩
  | space =>
    simp only [layerUpd] at h
    split at h
    · obtain ⟨d, hd, rfl⟩ := Option.map_eq_some_iff.mp h
      exact ⟨hg.chord, hg.notes, QI_add hg.cursor (hq d hd)⟩
    · obtain ⟨d, hd, rfl⟩ := Option.map_eq_some_iff.mp h
      exact ⟨hg.chord, hg.notes, QI_add hg.pos (measureLen_good q G st d hg hG hd)⟩
  | tuplet =>
    simp only [layerUpd] at h
    split at h
    · obtain rfl := Option.some.inj h; exact ⟨hg.chord, hg.notes, hg.cursor⟩
    · cases h
  | other => obtain rfl := Option.some.inj h; exact ⟨hg.chord, hg.notes, hg.cursor⟩

/-- an element keeps every position a whole number of `1/q` when `q` makes its own duration whole, its `@meter.unit`
    is a recorded unit, and `q` makes the measures of every recorded unit whole -/
def CoreOk (q : Rat) (G : Nat → Prop) (c : Ctx) (st : St) (as : List (String × String)) (r : St × TopMod) : Prop :=
  Good q G st → (∀ d, durOfT c.tups as = some d → QI q d) → MU G (meterOfAttrs as "meter.count" "meter.unit") →
    (HU q G) → Good q G r.1

theorem coreBody_ok (q : Rat) (G : Nat → Prop) (c : Ctx) (st : St) (as : List (String × String)) (k : Kind) :
    POk (CoreOk q G c st as) (coreBody c st as k) := by
  have keepOk : ∀ t, CoreOk q G c st as (st, t) := fun _ hg _ _ _ => hg
  cases k with
  | tie => exact fun hg _ _ _ => { hg with }
  | sect => exact fun hg _ _ _ => { hg with }
  | meterSig => exact keepOk _
  | keySig => exact keepOk _
  | scoreDef => exact POk_keep_ite (keepOk _) fun hg _ hm _ => { hg with sdMeter := hm }
  | clef =>
    show POk _ ((clefDo c as).map _)
    cases clefDo c as with
    | none => exact trivial
    | some d =>
      cases d with
      | change sh ln oct => exact fun hg _ _ _ => { hg with }
      | _ => exact keepOk _
  | measure =>
    refine POk_keep _ _ fun s hs => ?_
    obtain ⟨x, hx, rfl⟩ := Option.map_eq_some_iff.mp hs
    exact fun hg _ _ _ => { ensureStarted_good q G st x hx hg with staffEnds := fun _ h => nomatch h }
  | staff => exact POk_keep_ite (fun hg _ _ _ => { hg with layerEnds := fun _ h => nomatch h }) (keepOk _)
  | layer => exact POk_keep_ite (fun hg _ _ _ => { hg with cursor := hg.pos }) (keepOk _)
  | content k =>
    refine POk_keep _ _ fun s hs => ?_
    split at hs
    · obtain rfl := Option.some.inj hs; exact keepOk _
    · obtain ⟨u, hu, rfl⟩ := Option.map_eq_some_iff.mp hs
      intro hg hq _ hG
      obtain ⟨h1, h2, h3⟩ := layerUpd_ok q G c st as k u hu hg hq hG
      exact good_layer hg _ _ _ h1 h2 h3

/-- the hypothesis on `q`: every well-formed recorded element has a whole value -/
def HD (q : Rat) (l : List DurEl) : Prop := ∀ e ∈ l, WellFormed e → QI q (meiValue e.v e.dots e.tup)

theorem kindOf_meterSig {tag : String} (h : kindOf tag = .meterSig) : tag = "meterSig" := by
  by_cases hm : tag ∈ openTags
  · exact (by decide +kernel : ∀ t ∈ openTags, kindOf t = .meterSig → t = "meterSig") tag hm h
  · rw [kindOf_other hm] at h
    cases h

theorem openCore_ok (q : Rat) (G : Nat → Prop) (c : Ctx) (st : St) (tag : String) (as : List (String × String))
    (r : St × TopMod) (h : openCore c st tag as = some r) :
    (∃ nd, r.1.units = newUnits tag as ++ st.units ∧ r.1.durEls = nd ++ st.durEls) ∧
    (HD q r.1.durEls → (∀ u ∈ r.1.units, G u) → (HU q G) →
      Good q G st → Good q G r.1 ∧ MU G (meterOfAttrs as "meter.count" "meter.unit") ∧ (∀ m, r.2 = .meter m → MU G m)) := by
  obtain ⟨es, hes, hb, ⟨c1, c2, _, _, c4⟩⟩ := openCore_frame h
  have c3 := coreBody_ok q G c (recorded st (newUnits tag as) es) as (kindOf tag)
  rw [hb] at c3
  obtain ⟨hn1, hn2⟩ := newUnits_mem tag as
  refine ⟨⟨es, c2, c1⟩, fun hD hU hG hg => ?_⟩
  have hun : ∀ u ∈ newUnits tag as, G u := fun u hu =>
    hU u (by rw [c2]; exact (List.mem_append_left _ hu : u ∈ newUnits tag as ++ st.units))
  have hmu : MU G (meterOfAttrs as "meter.count" "meter.unit") := fun b u hm =>
    hun u (hn1 u (meterOfAttrs_unit as _ _ b u hm))
  have hq : ∀ d, durOfT c.tups as = some d → QI q d := fun d hd => by
    rcases newDurEls_spec _ _ _ hes with ⟨_, hnd⟩ | ⟨e, rfl, he⟩
    · simp [durOfT, hnd] at hd
    · obtain ⟨hw, hv⟩ := he d hd
      rcases hw with hw | h0
      · rw [← hv]; exact hD e (by rw [c1]; exact List.mem_append_left _ (List.mem_singleton_self e)) hw
      · rw [h0]; exact QI_zero q
  refine ⟨c3 { hg with } hq hmu hG, hmu, fun m hm => ?_⟩
  obtain ⟨ht, hmm⟩ := c4 m hm
  intro b u hbu
  exact hun u (hn2 (kindOf_meterSig ht) u (meterOfAttrs_unit as _ _ b u (by rw [← hmm, hbu])))

/-- the two halves of `applySdChange`: the new meter for every part (`sdM`), the new key (`sdK`) -/
def sdM (st : St) (meter : Option (Nat × Nat)) : St :=
  match meter with
  | some (b, u) => { st with tsigs := ((List.range st.defs.length).map fun i => (i, st.pos, b, u)).reverse ++ st.tsigs,
                             meters := st.meters.map fun _ => (b, u) }
  | none => st

def sdK (n : Nat) (st : St) (key : Option (Int × Option String)) : St :=
  match key with
  | some (fi, mo) => { st with ksigs := ((List.range n).map fun i => (i, st.pos, fi, mo)).reverse ++ st.ksigs }
  | none => st

theorem applySdChange_eq (st : St) (f : Frame) :
    applySdChange st f = sdK st.defs.length (sdM st (match f.cMeter with
      | some m => some m
      | none => meterOfAttrs f.attrs "meter.count" "meter.unit")) (match f.cKey with
      | some k => some k
      | none => keyOfAttrs f.attrs "key.sig" "key.mode") := by
  rfl

theorem applySdChange_good (q : Rat) (G : Nat → Prop) (st : St) (f : Frame) (hg : Good q G st) (hf : FrameOk G f) :
    Good q G (applySdChange st f) := by
  have hm := hf.meter
  rw [applySdChange_eq]
  generalize (match f.cMeter with
      | some m => some m
      | none => meterOfAttrs f.attrs "meter.count" "meter.unit") = meter at hm
  generalize (match f.cKey with
      | some k => some k
      | none => keyOfAttrs f.attrs "key.sig" "key.mode") = key
  have h1 : Good q G (sdM st meter) := by
    cases meter with
    | none => exact hg
    | some bu =>
      obtain ⟨b, u⟩ := bu
      have hu : G u := hm b u rfl
      refine { hg with meters := fun m hmm => ?_ }
      obtain ⟨_, _, rfl⟩ := List.mem_map.mp hmm
      exact hu
  cases key with
  | none => exact h1
  | some k => exact { h1 with }

theorem closeBody_ok (q : Rat) (G : Nat → Prop) (f : Frame) (below : String) (st s : St) (k : CKind)
    (h : closeBody f below st k = some s) (hg : Good q G st) (hf : FrameOk G f) : Good q G s := by
  have cons : ∀ {α : Type} {P : α → Prop} {a : α} {l : List α}, P a → (∀ x ∈ l, P x) → ∀ x ∈ a :: l, P x :=
    fun ha hl => List.forall_mem_cons.mpr ⟨ha, hl⟩
  have pick : ∀ {c : Prop} [Decidable c] {a : St}, Good q G a → Good q G (if c then a else st) := fun ha => by
    split
    · exact ha
    · exact hg
  cases k with
  | scoreDef =>
    simp only [closeBody] at h
    split at h
    · obtain ⟨x, hx, rfl⟩ := Option.map_eq_some_iff.mp h
      exact applySdChange_good q G x _ (ensureStarted_good q G st x hx hg) hf
    · obtain rfl := Option.some.inj h
      exact { hg with sdMeterChild := hf.1 }
  | staffDef =>
    obtain rfl := Option.some.inj h
    exact pick { hg with defs := cons hf.meter hg.defs }
  | layer =>
    obtain rfl := Option.some.inj h
    exact pick { hg with layerEnds := cons hg.cursor hg.layerEnds }
  | staff =>
    obtain rfl := Option.some.inj h
    have he := QI_ratMaxFrom q st.pos st.layerEnds hg.pos hg.layerEnds
    exact pick { hg with staffEnds := cons he hg.staffEnds, measures := cons ⟨hg.pos, he⟩ hg.measures }
  | measure =>
    simp only [closeBody] at h
    split at h
    · cases h
    · obtain rfl := Option.some.inj h
      exact { hg with pos := QI_ratMaxFrom q st.pos st.staffEnds hg.pos hg.staffEnds }
  | chord =>
    obtain rfl := Option.some.inj h
    split
    · rename_i d sx hch
      exact { hg with cursor := QI_add hg.cursor (hg.chord d sx hch), chord := fun _ _ h => nomatch h }
    · exact hg
  | other =>
    obtain rfl := Option.some.inj h
    exact hg

def Inv (q : Rat) (G : Nat → Prop) (st : St) : Prop :=
  HD q st.durEls → (∀ u ∈ st.units, G u) → Good q G st ∧ StackOk G st.stack

theorem stackOk_applyTop (G : Nat → Prop) (tm : TopMod) (s : List Frame) (hs : StackOk G s)
    (hm : ∀ m, tm = .meter m → MU G m) : StackOk G (applyTop tm s) := by
  cases s with
  | nil => rw [applyTop_nil]; exact hs
  | cons t rest =>
    obtain ⟨ht, hr⟩ := List.forall_mem_cons.mp hs
    rw [applyTop_cons]
    refine List.forall_mem_cons.mpr ⟨?_, hr⟩
    cases tm with
    | meter m => exact ⟨hm m rfl, ht.2⟩
    | _ => exact ht

theorem step_inv (q : Rat) (G : Nat → Prop) (hG : HU q G)
    (st s : St) (e : Ev) (h : stepEv st e = some s) (hi : Inv q G st) : Inv q G s := by
  rcases step_some st s e h with ⟨tag, as, r, rfl, hr, rfl⟩ | ⟨f, rest, x, rfl, hs, hc, rfl⟩
  · obtain ⟨⟨nd, hu, hd⟩, hok⟩ := openCore_ok q G _ _ _ _ r hr
    intro hD hU
    have hD' : HD q r.1.durEls := hD
    have hU' : ∀ u ∈ r.1.units, G u := hU
    obtain ⟨hg, hs⟩ := hi (fun e he => hD' e (by rw [hd]; exact List.mem_append_right _ he))
      (fun u hu' => hU' u (by rw [hu]; exact List.mem_append_right _ hu'))
    obtain ⟨g1, g2, g3⟩ := hok hD' hU' hG { hg with }
    refine ⟨{ g1 with }, ?_⟩
    intro f hf
    rcases List.mem_cons.mp hf with rfl | hf'
    · exact ⟨MU_none G, g2⟩
    · exact stackOk_applyTop G r.2 st.stack hs g3 f hf'
  · have hf := closeBody_frame f _ _ x _ hc
    intro hD hU
    have hD' : HD q x.durEls := hD
    have hU' : ∀ u ∈ x.units, G u := hU
    obtain ⟨hg, hst⟩ := hi (by rw [hf.durEls] at hD'; exact hD') (by rw [hf.units] at hU'; exact hU')
    rw [hs] at hst
    exact ⟨{ closeBody_ok q G f _ _ x _ hc { hg with } (hst f (by simp)) with }, fun g hg' => hst g (List.mem_cons_of_mem _ hg')⟩

theorem inv_init (q : Rat) (G : Nat → Prop) : Inv q G {} :=
  fun _ _ => ⟨good_init q G, fun f hf => by cases hf⟩

theorem run_good (q : Rat) (evs : List Ev) (st : St) (h : runEvs {} evs = some st) (hD : HD q st.durEls)
    (hU : ∀ u ∈ st.units, u ≠ 0 → ∀ b : Nat, QI q (4 * (b : Rat) / (u : Rat))) : Good q (· ∈ st.units) st :=
  (run_keeps (step_inv q (· ∈ st.units) hU) evs {} st h (inv_init q _) hD (fun u hu => hu)).1

/-! ## every element that carries `@dur` enters the list the divisions are inferred from -/

theorem run_mono (evs : List Ev) (st s : St) (h : runEvs st evs = some s) :
    (∃ nd, s.durEls = nd ++ st.durEls) ∧ (∃ nu, s.units = nu ++ st.units) := by
  refine run_keeps (I := fun s => (∃ nd, s.durEls = nd ++ st.durEls) ∧ ∃ nu, s.units = nu ++ st.units) ?_ evs st s h
    ⟨⟨[], rfl⟩, ⟨[], rfl⟩⟩
  intro a b e hab ⟨⟨nd, hd⟩, ⟨nu, hu⟩⟩
  rcases step_some a b e hab with ⟨tag, as, r, rfl, hr, rfl⟩ | ⟨f, rest, x, rfl, hs, hc, rfl⟩
  · obtain ⟨md, _, _, hf⟩ := openCore_frame hr
    exact ⟨⟨md ++ nd, by rw [List.append_assoc, ← hd]; exact hf.durEls⟩, ⟨_ ++ nu, by rw [List.append_assoc, ← hu]; exact hf.units⟩⟩
  · have hf := closeBody_frame f _ _ x _ hc
    exact ⟨⟨nd, hf.durEls.trans hd⟩, ⟨nu, hf.units.trans hu⟩⟩

theorem step_enters (st s : St) (tag : String) (as : List (String × String)) (ds : String)
    (h : stepEv st (.op tag as) = some s) (hd : attr as "dur" = some ds) :
    ∃ e, s.durEls = e :: st.durEls ∧ durNumber ds = some e.v ∧ e.dots = (natAttr as "dots").getD 0 ∧
      e.durppq = natAttr as "dur.ppq" ∧
      (e.tup = none ∧ tupletsOf st.stack = [] ∨ ∃ t, e.tup = some t ∧ tupletsOf st.stack = [t]) := by
  rw [stepEv_op] at h
  obtain ⟨r, hr, rfl⟩ := Option.map_eq_some_iff.mp h
  obtain ⟨es, hes, _, hf⟩ := openCore_frame hr
  obtain ⟨v, hv, hes⟩ := newDurEls_some hd hes
  rcases hes with ⟨ht, rfl⟩ | ⟨t, ht, rfl⟩
  · exact ⟨_, hf.durEls, hv, rfl, rfl, Or.inl ⟨rfl, ht⟩⟩
  · exact ⟨_, hf.durEls, hv, rfl, rfl, Or.inr ⟨t, rfl, ht⟩⟩

end C19D
