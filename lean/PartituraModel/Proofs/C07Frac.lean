/-
C07 — fractional symbolic durations with additive components (`1/4+1/8/3+3`): the string round trip and
the formatting fixpoint; time signatures; quoted pre-1.0 strings; tempo indication; integer lists.
-/
import PartituraModel.Model.MatchCodec
import PartituraModel.Proofs.C07Codec
import PartituraModel.Proofs.Forall2

open Model.MatchCodec

namespace C07Codec

theorem mem_splitOn (sep c : Char) (hc : c ≠ sep) : ∀ (s : List Char), c ∈ s → ∃ p ∈ splitOn sep s, c ∈ p := by
  intro s
  induction s with
  | nil => intro h; simp at h
  | cons d s ih =>
    intro h
    unfold splitOn
    by_cases hd : d = sep
    · simp only [hd, if_true]
      have hcs : c ∈ s := by
        rcases List.mem_cons.mp h with e | h'
        · exact absurd (e.trans hd) hc
        · exact h'
      obtain ⟨p, hp, hcp⟩ := ih hcs
      exact ⟨p, by simp [hp], hcp⟩
    · simp only [hd, if_false]
      rcases List.mem_cons.mp h with e | h'
      · subst e
        cases hs : splitOn sep s with
        | nil => exact ⟨[c], by simp, by simp⟩
        | cons x xs => exact ⟨c :: x, by simp, by simp⟩
      · obtain ⟨p, hp, hcp⟩ := ih h'
        cases hs : splitOn sep s with
        | nil => rw [hs] at hp; simp at hp
        | cons x xs =>
          rw [hs] at hp
          rcases List.mem_cons.mp hp with e | hp'
          · subst e; exact ⟨d :: p, by simp, by simp [hcp]⟩
          · exact ⟨p, by simp [hp'], hcp⟩

theorem allDigits_false_of_mem (p : List Char) (c : Char) (hc : c.isDigit = false) (h : c ∈ p) : allDigits p = false := by
  unfold allDigits
  have : p.all Char.isDigit = false := by
    rw [List.all_eq_false]
    exact ⟨c, h, by simp [hc]⟩
  simp [this]

theorem fracSimple_none_of_plus (s : List Char) (h : '+' ∈ s) : fracSimple s = none := by
  obtain ⟨p, hp, hcp⟩ := mem_splitOn '/' '+' (by decide) s h
  have hf := allDigits_false_of_mem p '+' (by decide) hcp
  unfold fracSimple
  split
  · rename_i n hn
    rw [hn] at hp
    simp only [List.mem_singleton] at hp
    subst hp
    simp [hf]
  · rename_i n d hn
    rw [hn] at hp
    simp only [List.mem_cons, List.not_mem_nil, or_false] at hp
    rcases hp with e | e <;> subst e <;> simp [hf]
  · rename_i n d t hn
    rw [hn] at hp
    simp only [List.mem_cons, List.not_mem_nil, or_false] at hp
    rcases hp with e | e | e <;> subst e <;> simp [hf]
  · rfl

theorem fracStr1_chars (n d : Nat) (t : Option Nat) : ∀ c ∈ fracStr1 n d t, c.isDigit = true ∨ c = '/' := by
  intro c hc
  unfold fracStr1 at hc
  cases t with
  | none =>
    simp only at hc
    split at hc
    · exact Or.inl (showNatS_isDigit n c hc)
    · simp only [List.mem_append, List.mem_cons] at hc
      rcases hc with h | h | h
      · exact Or.inl (showNatS_isDigit n c h)
      · exact Or.inr h
      · exact Or.inl (showNatS_isDigit d c h)
  | some t =>
    simp only [List.mem_append, List.mem_cons] at hc
    rcases hc with (h | h | h) | h | h
    · exact Or.inl (showNatS_isDigit n c h)
    · exact Or.inr h
    · exact Or.inl (showNatS_isDigit d c h)
    · exact Or.inr h
    · exact Or.inl (showNatS_isDigit t c h)

theorem fracStr1_no_plus (n d : Nat) (t : Option Nat) : ∀ c ∈ fracStr1 n d t, c ≠ '+' := by
  intro c hc e
  subst e
  rcases fracStr1_chars n d t '+' hc with h | h
  · exact absurd h (by decide)
  · exact absurd h (by decide)

theorem fracStr1_ne_nil (n d : Nat) (t : Option Nat) : fracStr1 n d t ≠ [] := by
  unfold fracStr1
  cases t with
  | none =>
    simp only
    split
    · exact showNatS_ne_nil n
    · intro h
      have := congrArg List.length h
      simp at this
  | some t =>
    intro h
    have := congrArg List.length h
    simp at this

abbrev Comp := Nat × Nat × Option Nat

def compStr (c : Comp) : List Char := fracStr1 c.1 c.2.1 c.2.2
def compFrac (c : Comp) : Frac := { num := c.1, den := c.2.1, tdiv := c.2.2, add := none }

/-- a component as the class keeps it: non-zero numerator, numbers within the bound, non-zero denominator -/
def CompOK (c : Comp) : Prop := c.1 ≠ 0 ∧ c.1 ≤ BOUND ∧ c.2.1 ≤ BOUND ∧ (compFrac c).fullDen ≠ 0

/-- the interpreter of one `+`-separated part (the local function `one` of `fracFromString`) -/
def oneF (x : List Char) : Except DecErr Frac :=
  match fracSimple x with
  | none => .error .value
  | some (n, d, t) => match Frac.mk? n d t with
    | some f => .ok f
    | none => .error .unmodelled

theorem fracFromString_eq (s : List Char) : fracFromString s =
    match fracSimple s with
    | some (n, d, t) => (match Frac.mk? n d t with | some f => .ok f | none => .error .unmodelled)
    | none =>
      if (splitOn '+' s).length > 1 then do
        let ps ← (splitOn '+' s).mapM oneF
        if ps.any (fun p => p.fullDen = 0) then .error .value else fracSum ps
      else .error .value := rfl

theorem fracFromString_ratio (n d : Nat) (hn : n ≤ BOUND) (hd : d ≤ BOUND) :
    fracFromString (showNatS n ++ '/' :: showNatS d) = .ok ⟨n, d, none, none⟩ := by
  rw [fracFromString_eq, fracSimple_2]
  simp only [mk?_of_le n d none hn hd]

theorem oneF_compStr (c : Comp) (h : CompOK c) : oneF (compStr c) = .ok (compFrac c) := by
  obtain ⟨n, d, t⟩ := c
  simp only [oneF, compStr, fracSimple_str1, mk?_of_le n d t h.2.1 h.2.2.1]
  rfl

theorem oneF_ok (x : List Char) (p : Frac) (h : oneF x = .ok p) : p.add = none ∧ p.num ≤ BOUND ∧ p.den ≤ BOUND := by
  unfold oneF at h
  split at h
  · cases h
  · rename_i n d t _
    cases hmk : Frac.mk? n d t with
    | none => simp [hmk] at h
    | some g =>
      simp only [hmk, Except.ok.injEq] at h
      subst h
      obtain ⟨rfl, hb⟩ := mk?_some n d t g hmk
      exact ⟨rfl, hb⟩

theorem mapM_ok {α β ε : Type} (f : α → Except ε β) (xs : List α) (ys : List β) (h : xs.mapM f = .ok ys) :
    ys.length = xs.length ∧ ∀ y ∈ ys, ∃ x ∈ xs, f x = .ok y :=
  have h := Lists.mapM_ok_iff_forall₂.mp h
  ⟨h.length_eq.symm, Lists.forall₂_mem_right h⟩

theorem mapM_oneF (cs : List Comp) (h : ∀ c ∈ cs, CompOK c) :
    (cs.map compStr).mapM oneF = .ok (cs.map compFrac) :=
  Lists.mapM_ok_iff_forall₂.mpr (List.forall₂_map_left_iff.mpr (List.forall₂_map_right_iff.mpr
    (List.forall₂_same.mpr fun c hc => oneF_compStr c (h c hc))))

theorem plus_mem_join (cs : List Comp) (h2 : 2 ≤ cs.length) : '+' ∈ joinWith ['+'] (cs.map compStr) := by
  cases cs with
  | nil => simp at h2
  | cons a cs =>
    cases cs with
    | nil => simp at h2
    | cons b cs => simp [joinWith]

def compsStr (cs : List Comp) : List Char := joinWith ['+'] (cs.map compStr)

/-- the text `c₁+c₂+…` (two or more well-formed components) is read as the
    left-to-right sum of the components -/
theorem fracFromString_compsStr (cs : List Comp) (h2 : 2 ≤ cs.length) (hc : ∀ c ∈ cs, CompOK c) :
    fracFromString (compsStr cs) = fracSum (cs.map compFrac) := by
  rw [fracFromString_eq]
  unfold compsStr
  rw [fracSimple_none_of_plus _ (plus_mem_join cs h2)]
  simp only
  have hsplit : splitOn '+' (joinWith ['+'] (cs.map compStr)) = cs.map compStr := by
    apply splitOn_joinWith
    · intro e
      rw [List.map_eq_nil_iff] at e
      subst e
      simp at h2
    · intro x hx c hcx
      simp only [List.mem_map] at hx
      obtain ⟨cc, _, rfl⟩ := hx
      exact fracStr1_no_plus _ _ _ c hcx
  rw [hsplit]
  have hlen : (cs.map compStr).length > 1 := by simp; omega
  simp only [hlen, if_true, mapM_oneF cs hc, bind, Except.bind]
  have hany : (cs.map compFrac).any (fun p => p.fullDen = 0) = false := by
    rw [List.any_eq_false]
    intro p hp
    simp only [List.mem_map] at hp
    obtain ⟨c, hcm, rfl⟩ := hp
    simpa using (hc c hcm).2.2.2
  simp only [hany, Bool.false_eq_true, if_false]

def nz (c : Comp) : Bool := c.1 != 0

theorem add?_comps (a b r : Frac) (h : Frac.add? a b = some r) :
    r.add = some ((a.comps ++ b.comps).filter nz) ∧ r.comps = (a.comps ++ b.comps).filter nz ∧ r.tdiv = none := by
  obtain ⟨-, -, -, -, rfl⟩ := add?_eq_some a b r h
  exact ⟨rfl, rfl, rfl⟩

def stepF (acc p : Frac) : Except DecErr Frac :=
  match Frac.add? acc p with
  | some r => .ok r
  | none => .error .unmodelled

theorem fracSum_eq (ps : List Frac) : fracSum ps = ps.foldlM stepF { num := 0, den := 1, tdiv := none, add := none } := rfl

/-- induction over a sum that succeeded: every step is a successful `Frac.add?` -/
theorem foldlM_stepF {R : List Frac → Frac → Frac → Prop} (nil : ∀ acc, R [] acc acc)
    (cons : ∀ p ps acc r1 r, Frac.add? acc p = some r1 → ps.foldlM stepF r1 = .ok r → R ps r1 r → R (p :: ps) acc r) :
    ∀ (ps : List Frac) (acc r : Frac), ps.foldlM stepF acc = .ok r → R ps acc r
  | [], acc, r, h => by
    obtain rfl : acc = r := Except.ok.inj h
    exact nil acc
  | p :: ps, acc, r, h => by
    simp only [List.foldlM_cons, bind, Except.bind, stepF] at h
    cases ha : Frac.add? acc p with
    | none => simp [ha] at h
    | some r1 =>
      simp only [ha] at h
      exact cons p ps acc r1 r ha h (foldlM_stepF nil cons ps r1 r h)

theorem foldlM_comps (ps : List Frac) (acc r : Frac) (hne : ps ≠ []) (h : ps.foldlM stepF acc = .ok r) :
    r.add = some ((acc.comps ++ ps.flatMap Frac.comps).filter nz) :=
  foldlM_stepF (R := fun ps acc r => ps ≠ [] → r.add = some ((acc.comps ++ ps.flatMap Frac.comps).filter nz))
    (fun _ h => absurd rfl h)
    (fun p ps acc r1 r ha hf ih _ => by
      obtain ⟨h1, h2, _⟩ := add?_comps acc p r1 ha
      cases ps with
      | nil =>
        obtain rfl : r1 = r := Except.ok.inj hf
        simp [h1]
      | cons q qs =>
        rw [ih (by simp), h2]
        simp only [List.flatMap_cons, List.filter_append, List.filter_filter, Bool.and_self, List.append_assoc]) ps acc r h hne
theorem foldlM_value (ps : List Frac) (acc r : Frac) (h : ps.foldlM stepF acc = .ok r) :
    r.value = acc.value + (ps.map Frac.value).foldr (· + ·) 0 :=
  foldlM_stepF (R := fun ps acc r => r.value = acc.value + (ps.map Frac.value).foldr (· + ·) 0) (fun _ => by simp)
    (fun p ps acc r1 r ha _ ih => by
      rw [ih, frac_add_value acc p r1 ha]
      simp only [List.map_cons, List.foldr_cons]
      ring) ps acc r h

theorem comps_compFrac (c : Comp) : (compFrac c).comps = [c] := rfl

theorem flatMap_comps (cs : List Comp) : (cs.map compFrac).flatMap Frac.comps = cs := by
  induction cs with
  | nil => rfl
  | cons c cs ih => simp [List.flatMap_cons, comps_compFrac, ih]

theorem fracSum_add (cs : List Comp) (h2 : 2 ≤ cs.length) (hc : ∀ c ∈ cs, CompOK c) (f : Frac)
    (h : fracSum (cs.map compFrac) = .ok f) : f.add = some cs := by
  rw [fracSum_eq] at h
  have hne : cs.map compFrac ≠ [] := by
    intro e
    rw [List.map_eq_nil_iff] at e
    subst e
    simp at h2
  have := foldlM_comps _ _ f hne h
  rw [this, flatMap_comps]
  have h0 : ({ num := 0, den := 1, tdiv := none, add := none } : Frac).comps = [(0, 1, none)] := rfl
  rw [h0]
  have hall : cs.filter nz = cs := by
    rw [List.filter_eq_self]
    intro c hcm
    have := (hc c hcm).1
    simpa [nz] using this
  simp [hall, nz]

/-- a duration as the class builds it: simple within the bound, or the sum of two or more well-formed
    components -/
def FracWF (f : Frac) : Prop :=
  match f.add with
  | none => f.num ≤ BOUND ∧ f.den ≤ BOUND
  | some cs => 2 ≤ cs.length ∧ (∀ c ∈ cs, CompOK c) ∧ fracSum (cs.map compFrac) = .ok f

/-- string round trip of every duration (simple, with tuple divisor, with additive components) -/
theorem fracFromString_toStr_full (f : Frac) (h : FracWF f) : fracFromString f.toStr = .ok f := by
  unfold FracWF at h
  cases ha : f.add with
  | none =>
    rw [ha] at h
    exact fracFromString_toStr f ha h.1 h.2
  | some cs =>
    rw [ha] at h
    simp only at h
    obtain ⟨h2, hc, hs⟩ := h
    have : f.toStr = compsStr cs := by
      unfold Frac.toStr compsStr
      rw [ha]
      rfl
    rw [this, fracFromString_compsStr cs h2 hc, hs]

theorem comps_map (ps : List Frac) (h : ∀ p ∈ ps, p.add = none) :
    (ps.map fun p => ((p.num, p.den, p.tdiv) : Comp)).map compFrac = ps := by
  induction ps with
  | nil => rfl
  | cons p ps ih =>
    simp only [List.map_cons]
    rw [ih (fun q hq => h q (by simp [hq]))]
    congr 1
    have := h p (by simp)
    obtain ⟨n, d, t, a⟩ := p
    simp only at this
    subst this
    rfl

/-- what a successful `fracFromString` went through: one simple part, or two or more parts, none with a zero
    denominator, summed -/
theorem fracFromString_ok (s : List Char) (f : Frac) (h : fracFromString s = .ok f) :
    ((fracSimple s).isSome = true ∧ oneF s = .ok f) ∨
    (fracSimple s = none ∧ (splitOn '+' s).length > 1 ∧ ∃ ps, (splitOn '+' s).mapM oneF = .ok ps ∧
      ps.any (fun p => p.fullDen = 0) = false ∧ fracSum ps = .ok f) := by
  rw [fracFromString_eq] at h
  cases hs : fracSimple s with
  | some ndt => exact .inl ⟨rfl, by simpa only [oneF, hs] using h⟩
  | none =>
    simp only [hs] at h
    split at h
    · rename_i hl
      cases hm : (splitOn '+' s).mapM oneF with
      | error e => simp [hm, bind, Except.bind] at h
      | ok ps =>
        simp only [hm, bind, Except.bind] at h
        split at h
        · cases h
        · rename_i hany
          exact .inr ⟨rfl, hl, ps, rfl, by simpa using hany, h⟩
    · cases h

/-- whatever text was read as the duration `f` - provided no `+`-separated part was a zero duration (those are
    dropped from the components, so the object changes while its text and value are kept) - `f` is a duration as
    the class builds it; hence (`fracFromString_toStr_full`) the text written for `f` is read as `f` again -/
theorem frac_fixpoint (s : List Char) (f : Frac) (h : fracFromString s = .ok f)
    (hz : ∀ ps, (splitOn '+' s).mapM oneF = .ok ps → ∀ p ∈ ps, p.num ≠ 0) : FracWF f := by
  rcases fracFromString_ok s f h with ⟨-, h1⟩ | ⟨-, hlen, ps, hm, hany, hsum⟩
  · obtain ⟨ha, hb⟩ := oneF_ok s f h1
    unfold FracWF
    rw [ha]
    exact hb
  · obtain ⟨hlps, hfrom⟩ := mapM_ok oneF _ ps hm
    have hprops : ∀ p ∈ ps, p.add = none ∧ p.num ≤ BOUND ∧ p.den ≤ BOUND := fun p hp => by
      obtain ⟨x, _, hx⟩ := hfrom p hp
      exact oneF_ok x p hx
    -- the parts are the components of the sum
    let cs : List Comp := ps.map fun p => (p.num, p.den, p.tdiv)
    have hcs : cs.map compFrac = ps := comps_map ps (fun p hp => (hprops p hp).1)
    have hlen2 : 2 ≤ cs.length := by
      simp only [cs, List.length_map]
      omega
    have hok : ∀ c ∈ cs, CompOK c := by
      intro c hc
      simp only [cs, List.mem_map] at hc
      obtain ⟨p, hp, rfl⟩ := hc
      refine ⟨hz ps hm p hp, (hprops p hp).2.1, (hprops p hp).2.2, ?_⟩
      simpa [compFrac, Frac.fullDen] using List.any_eq_false.mp hany p hp
    have hsum' : fracSum (cs.map compFrac) = .ok f := by rw [hcs]; exact hsum
    unfold FracWF
    rw [fracSum_add cs hlen2 hok f hsum']
    exact ⟨hlen2, hok, hsum'⟩
theorem lastIndexOf_snoc' (c : Char) (a : List Char) : lastIndexOf c (a ++ [c]) = some a.length :=
  lastIndexOf_snoc c a

/-- `interpret_as_string_old(format_string_old(s)) = s` for a non-empty text without blanks at its ends -/
theorem decStrOld_encQuoted (s : List Char) (hs : strip s = s) (hne : s ≠ []) : decStrOld (encQuoted s) = s := by
  unfold encQuoted decStrOld
  rw [hs]
  simp only [lastIndexOf_snoc, List.take_left']
  have : 1 ≤ s.length := by
    cases s with
    | nil => exact absurd rfl hne
    | cons c r => simp
  simp [this, hs]

/-- a tempo indication (one text without comma, not starting with `[`, no blanks at its ends, not empty) -/
theorem decTempo_id (s : List Char) (hs : strip s = s) (hne : s ≠ []) (hc : ∀ c ∈ s, c ≠ ',')
    (hb : s.head? ≠ some '[') : decTempo s = some s := by
  unfold decTempo decList
  have hbody : listBodyOf s = s := by
    unfold listBodyOf
    split
    · rename_i r; simp at hb
    · rfl
  simp only [hbody, hs]
  have : s.isEmpty = false := by
    cases s with
    | nil => exact absurd rfl hne
    | cons c r => rfl
  simp [this, splitOn_no_sep ',' s hc, hs]

theorem digit_word (c : Char) (h : c.isDigit = true) : c ≠ ',' ∧ isWs c = false :=
  Digits.of_isDigit h (by decide +kernel)

theorem showIntS_word (i : Int) : ∀ c ∈ showIntS i, c ≠ ',' ∧ isWs c = false := by
  intro c hc
  unfold showIntS at hc
  split at hc
  · simp only [List.mem_cons] at hc
    rcases hc with rfl | hc
    · exact ⟨by decide, by decide⟩
    · exact digit_word c (showNatS_isDigit _ c hc)
  · exact digit_word c (showNatS_isDigit _ c hc)

theorem showIntS_ne_nil (i : Int) : showIntS i ≠ [] := by
  unfold showIntS
  split
  · simp
  · exact showNatS_ne_nil _

theorem mapM_parseInt (l : List Int) : (l.map showIntS).mapM parseInt = some l := by
  induction l with
  | nil => rfl
  | cons i l ih => simp [List.mapM_cons, parseInt_showIntS, ih]

theorem words_ints (l : List Int) : Words (l.map showIntS) := by
  intro x hx c hc
  simp only [List.mem_map] at hx
  obtain ⟨i, _, rfl⟩ := hx
  exact showIntS_word i c hc

theorem ints_ne (l : List Int) : l.map showIntS ≠ [[]] := by
  intro e
  cases l with
  | nil => simp at e
  | cons i l =>
    simp only [List.map_cons, List.cons.injEq] at e
    exact showIntS_ne_nil i e.1

/-- lists of integers (`beatSubDivision` of 1.0.0, the onsets of a `ptime` line) -/
theorem decListInt_encList (l : List Int) : decListInt (encList (l.map showIntS)) = some l := by
  unfold decListInt
  rw [decList_encList _ (words_ints l) (ints_ne l)]
  exact mapM_parseInt l

theorem decListInt_encListBody (l : List Int) : decListInt (encListBody (l.map showIntS)) = some l := by
  unfold decListInt
  rw [decList_encListBody _ (words_ints l) (ints_ne l) (by
    intro x hx
    cases l with
    | nil => simp at hx
    | cons i l =>
      simp only [List.map_cons, List.head?_cons, Option.some.injEq] at hx
      subst hx
      unfold showIntS
      split
      · simp
      · intro e
        obtain ⟨c, r, hsn, hc⟩ := showNatS_cons i.toNat
        rw [hsn] at e
        simp only [List.head?_cons, Option.some.injEq] at e
        rw [e] at hc
        exact absurd hc (by decide))]
  exact mapM_parseInt l

theorem encTsig_word (t : TimeSig) : ∀ c ∈ encTsig t, c ≠ ',' ∧ isWs c = false := by
  intro c hc
  unfold encTsig at hc
  simp only [List.mem_append, List.mem_cons] at hc
  rcases hc with h | rfl | h
  · exact digit_word c (showNatS_isDigit _ c h)
  · exact ⟨by decide, by decide⟩
  · exact digit_word c (showNatS_isDigit _ c h)

/-- `MatchTimeSignature.from_string(str(ts))` for `n/d` within the bound -/
theorem decTsig_encTsig (n d : Nat) (hn : n ≤ BOUND) (hd : d ≤ BOUND) :
    decTsig (encTsig ⟨n, d, []⟩) = .ok ⟨n, d, []⟩ := by
  have hw : Words [encTsig ⟨n, d, []⟩] := fun x hx c hc => by
    rw [List.mem_singleton.mp hx] at hc
    exact encTsig_word _ c hc
  obtain ⟨c, r, hsn, hc⟩ := showNatS_cons n
  have hhead : encTsig ⟨n, d, []⟩ = c :: (r ++ '/' :: showNatS d) := by simp [encTsig, hsn]
  -- a text without comma and bracket is a list of one item: itself
  have hdl : decList (encListBody [encTsig ⟨n, d, []⟩]) = [encTsig ⟨n, d, []⟩] :=
    decList_encListBody _ hw (by rw [hhead]; simp) (fun x hx => by
      simp only [List.head?_cons, Option.some.injEq] at hx
      rw [← hx, hhead, List.head?_cons]
      intro e
      injection e with e
      rw [e] at hc
      exact absurd hc (by decide))
  have hj : ∀ x : List Char, encListBody [x] = x := fun _ => rfl
  rw [hj] at hdl
  unfold decTsig
  rw [strip_id _ (fun c hc => (encTsig_word _ c hc).2), hdl]
  simp only [List.mapM_cons, List.mapM_nil, encTsig, fracFromString_ratio n d hn hd, bind, Except.bind, pure,
    Except.pure]

theorem toStr_chars (f : Frac) : ∀ c ∈ f.toStr, c.isDigit = true ∨ c = '/' ∨ c = '+' := by
  intro c hc
  unfold Frac.toStr at hc
  split at hc
  · exact (fracStr1_chars _ _ _ c hc).imp_right Or.inl
  · rcases mem_joinWith _ c _ hc with h | ⟨x, hx, hcx⟩
    · exact Or.inr (Or.inr (List.mem_singleton.mp h))
    · obtain ⟨cc, _, rfl⟩ := List.mem_map.mp hx
      exact (fracStr1_chars _ _ _ c hcx).imp_right Or.inl

theorem toStr_word (f : Frac) : ∀ c ∈ f.toStr, c ≠ ',' ∧ isWs c = false := by
  intro c hc
  rcases toStr_chars f c hc with h | rfl | rfl
  · exact digit_word c h
  · exact ⟨by decide, by decide⟩
  · exact ⟨by decide, by decide⟩

theorem mapM_fracFromString (fs : List Frac) (h : ∀ f ∈ fs, FracWF f) :
    (fs.map Frac.toStr).mapM fracFromString = .ok fs :=
  Lists.mapM_ok_iff_forall₂.mpr (List.forall₂_map_left_iff.mpr
    (List.forall₂_same.mpr fun f hf => fracFromString_toStr_full f (h f hf)))

/-- the list form of a time signature (`[6/8]`, `[2/4,3/4]` of 0.4.0 / 0.5.0) -/
theorem decTsig_encTsigList (t : TimeSig) (hn : t.num ≤ BOUND) (hd : t.den ≤ BOUND) (ho : ∀ f ∈ t.others, FracWF f) :
    decTsig (encTsigList t) = .ok t := by
  obtain ⟨n, d, others⟩ := t
  simp only at hn hd ho
  unfold decTsig encTsigList
  simp only
  have hw : Words (encTsig ⟨n, d, others⟩ :: others.map Frac.toStr) := by
    intro x hx c hc
    rcases List.mem_cons.mp hx with rfl | hx'
    · exact encTsig_word _ c hc
    · obtain ⟨f, _, rfl⟩ := List.mem_map.mp hx'
      exact toStr_word f c hc
  have hne : (encTsig ⟨n, d, others⟩ :: others.map Frac.toStr) ≠ [[]] := by
    intro e
    have hl := congrArg List.length (List.cons.inj e).1
    simp [encTsig] at hl
  have hws : ∀ c ∈ encList (encTsig ⟨n, d, others⟩ :: others.map Frac.toStr), isWs c = false := by
    intro c hc
    unfold encList encListBody at hc
    simp only [List.mem_cons, List.mem_append, List.not_mem_nil, or_false] at hc
    rcases hc with rfl | hc | rfl
    · decide
    · rcases mem_joinWith _ c _ hc with h | ⟨x, hx, hcx⟩
      · rw [List.mem_singleton.mp h]
        decide
      · exact (hw x hx c hcx).2
    · decide
  rw [strip_id _ hws, decList_encList _ hw hne]
  simp only [List.mapM_cons, encTsig, fracFromString_ratio n d hn hd, mapM_fracFromString others ho, bind,
    Except.bind, pure, Except.pure]

end C07Codec
