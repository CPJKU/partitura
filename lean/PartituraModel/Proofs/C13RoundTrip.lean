/-
Round trip for C13: the roll of non-touching notes aligned to the frame grid decodes back to those notes, every onset
moved by the one shift that `remove_silence` and the time margin cause (none under `RoundTripOpts`).

The two halves meet in `Shows F T S`: the matrix `F` shows the stretches `S`.  Decoder side (`Shows.maxRun_iff`, no
rasteriser in it): the maximal runs of such a matrix are exactly `S`.  Rasteriser side (`shows_roll`, no decoder in it): the
roll of aligned, non-touching notes shows the notes' frame spans.
-/
import PartituraModel.Proofs.C13Decode
import PartituraModel.Proofs.C13Rows
import Mathlib.Tactic.Ring
import Mathlib.Tactic.FieldSimp

namespace C13
open Model Model.PianoRoll
open List

theorem maxRun_unique {f : Nat → Int} {T : Nat} {x y : Run} (hx : MaxRun f T x) (hy : MaxRun f T y)
    (hp : x.pitch = y.pitch) (s : Nat) (hs1 : x.on ≤ s) (hs2 : s < x.off) (hs3 : y.on ≤ s) (hs4 : s < y.off) :
    x = y := by
  obtain ⟨x1, x2, x3, x4, x5, x6⟩ := hx
  obtain ⟨y1, y2, y3, y4, y5, y6⟩ := hy
  have hv : x.vel = y.vel := by rw [← x4 s hs1 hs2, ← y4 s hs3 hs4]
  have hon : x.on = y.on :=
    stretch_start_unique (t := s + 1) (by omega) (by omega) (fun s' h1 h2 => x4 s' h1 (by omega)) x5
      (fun s' h1 h2 => hv ▸ y4 s' h1 (by omega)) (hv ▸ y5)
  -- the run that ends first would be extendable to the right
  have key : ∀ {x y : Run}, x.vel = y.vel → y.on < x.off → y.off ≤ T → (∀ s, y.on ≤ s → s < y.off → f s = y.vel) →
      (x.off = T ∨ f x.off ≠ x.vel) → ¬ x.off < y.off := by
    intro x y hv h1 h2 y4 x6 h
    rcases x6 with h0 | h0
    · omega
    · exact h0 (by rw [y4 x.off (by omega) h, hv])
  have := key hv (by omega) y3 y4 x6
  have := key hv.symm (by omega) x3 x4 y6
  exact Run.ext hp hv hon (by omega)

/-- the matrix `F` (row, time) shows the stretches `S`: each carries its non-zero value, every non-zero cell lies in one,
    and two stretches of one row are the same or at least one cell apart -/
structure Shows (F : Nat → Nat → Int) (T : Nat) (S : List Run) : Prop where
  ok : ∀ x ∈ S, x.vel ≠ 0 ∧ x.on < x.off ∧ x.off ≤ T
  val : ∀ x ∈ S, ∀ s, x.on ≤ s → s < x.off → F x.pitch s = x.vel
  cov : ∀ p s, F p s ≠ 0 → ∃ x ∈ S, x.pitch = p ∧ x.on ≤ s ∧ s < x.off
  sep : ∀ x ∈ S, ∀ y ∈ S, x.pitch = y.pitch → x = y ∨ x.off < y.on ∨ y.off < x.on

/-- a non-zero cell in the row of a stretch lies in it or at a distance from it -/
theorem Shows.near {F : Nat → Nat → Int} {T : Nat} {S : List Run} (h : Shows F T S) {x : Run} (hx : x ∈ S) {s : Nat}
    (hs : F x.pitch s ≠ 0) : (x.on ≤ s ∧ s < x.off) ∨ x.off < s ∨ s + 1 < x.on := by
  obtain ⟨y, hy, hp, h1, h2⟩ := h.cov _ s hs
  rcases h.sep x hx y hy hp.symm with rfl | h3 | h3
  · exact Or.inl ⟨h1, h2⟩
  · exact Or.inr (Or.inl (by omega))
  · exact Or.inr (Or.inr (by omega))

theorem Shows.maxRun_iff {F : Nat → Nat → Int} {T : Nat} {S : List Run} (h : Shows F T S) (x : Run) :
    MaxRun (F x.pitch) T x ↔ x ∈ S := by
  have mp : ∀ x ∈ S, MaxRun (F x.pitch) T x := by
    intro x hx
    obtain ⟨v0, hlt, hT⟩ := h.ok x hx
    refine ⟨v0, hlt, hT, h.val x hx, ?_, ?_⟩
    · by_cases h0 : x.on = 0
      · exact Or.inl h0
      · refine Or.inr fun hc => ?_
        have := h.near hx (s := x.on - 1) (by rw [hc]; exact v0)
        omega
    · refine or_iff_not_imp_right.mpr fun hc => ?_
      have := h.near hx (s := x.off) (by rw [not_not.mp hc]; exact v0)
      omega
  refine ⟨fun hm => ?_, mp x⟩
  -- the first cell of the run is non-zero, so it lies in a stretch; that stretch is a maximal run through the same cell
  have ⟨v0, hlt, _, hval, _, _⟩ := hm
  obtain ⟨y, hy, hp, h1, h2⟩ := h.cov x.pitch x.on (by rw [hval x.on (le_refl _) hlt]; exact v0)
  have hmy := mp y hy
  rw [hp] at hmy
  exact (maxRun_unique hm hmy hp.symm x.on (le_refl _) hlt h1 h2) ▸ hy

theorem cellAt_toCols (r : Roll) (p t : Nat) : cellAt r.toCols p t = r.cell p t := by
  unfold cellAt Roll.toCols
  by_cases ht : t < r.cols.toNat
  · rw [getElem?_map, getElem?_range ht]
    simp only [Option.map_some, valAt]
    by_cases hp : p < r.rows.toNat
    · rw [getElem?_map, getElem?_range hp]
      rfl
    · rw [getElem?_eq_none (by simpa using hp)]
      exact (Roll.cell_out _ fun hc => hp (by have := hc.2.1; omega)).symm
  · rw [getElem?_eq_none (by simpa using ht)]
    exact (Roll.cell_out _ fun hc => ht (by have := hc.2.2.2; omega)).symm

theorem length_toCols (r : Roll) : r.toCols.length = r.cols.toNat := by
  simp [Roll.toCols]

/-! ### the matrix of a concrete roll, evaluated row-wise

Each of the `rows * cols` cells of `toCols` scans the whole fill list; for a concrete roll that dominates the
evaluation of an example.  `sparseCols r ps` writes only the rows `ps` into zero columns, and is `toCols` when every fill
entry lies in one of those rows. -/

def sparseCols (r : Roll) (ps : List Nat) : List (List Int) :=
  (List.range r.cols.toNat).map fun (j : Nat) =>
    ps.foldl (fun col p => col.set p (r.cell p j)) (List.replicate r.rows.toNat 0)

theorem foldl_set_range (f : Nat → Int) (R : Nat) : ∀ (ps : List Nat) (l : List Int), l.length = R →
    (∀ p, p ∉ ps → p < R → l[p]? = some (f p)) → ps.foldl (fun col p => col.set p (f p)) l = (range R).map f := by
  intro ps
  induction ps with
  | nil =>
    intro l hl h
    rw [foldl_nil]
    apply ext_getElem?
    intro p
    by_cases hp : p < R
    · rw [h p not_mem_nil hp, getElem?_map, getElem?_range hp]; rfl
    · rw [getElem?_eq_none (by omega), getElem?_eq_none (by simp; omega)]
  | cons q ps ih =>
    intro l hl h
    refine ih (l.set q (f q)) (by rw [length_set, hl]) fun p hp hpR => ?_
    rw [getElem?_set]
    by_cases hq : q = p
    · subst hq; rw [if_pos rfl, if_pos (by omega)]
    · rw [if_neg hq]; exact h p (by simp [hp, Ne.symm hq]) hpR

theorem toCols_eq_sparse (r : Roll) (ps : List Nat) (h : ∀ e ∈ r.fill, ∃ p ∈ ps, e.1 = (p : Int) + r.rowStart) :
    r.toCols = sparseCols r ps := by
  unfold Roll.toCols sparseCols
  apply map_congr_left
  intro j _
  refine (foldl_set_range (fun p => r.cell p j) _ ps _ length_replicate fun p hp hpR => ?_).symm
  rw [getElem?_replicate, if_pos hpR]
  -- no fill entry lies in row `p`
  refine congrArg some (Roll.cell_eq_zero r ?_).symm
  rintro e he ⟨h1, _⟩
  obtain ⟨q, hq, heq⟩ := h e he
  have : q = p := by omega
  exact hp (this ▸ hq)

/-- the form in which examples use it: the hypothesis is closed and decidable -/
theorem bind_toCols {β : Type} (x : Option Roll) (ps : List Nat) (F : Roll → List (List Int) → Option β)
    (h : x.all (fun r => r.fill.all fun e => ps.any fun p => e.1 == (p : Int) + r.rowStart) = true) :
    x.bind (fun r => F r r.toCols) = x.bind (fun r => F r (sparseCols r ps)) := by
  cases x with
  | none => rfl
  | some r =>
    simp only [Option.all_some, all_eq_true, any_eq_true, beq_iff_eq] at h
    simp only [Option.bind_some, toCols_eq_sparse r ps h]

/-- the options under which onsets and durations can be read back: positive resolution, full notes,
    fixed pitch axis, no margins, frame 0 at time 0, velocities kept -/
structure RoundTripOpts (o : Opts) : Prop where
  td_pos : 0 < o.timeDiv
  oo : o.onsetOnly = false
  ns : o.noteSep = false
  pm : o.pitchMargin = -1
  tm : o.timeMargin = 0
  rs : o.removeSilence = false
  et : o.endTime = none
  bi : o.binary = false

/-- onset and duration are whole numbers of frames, the duration at least one -/
def GridAligned (o : Opts) (n : Note) : Prop :=
  ∃ k d : Nat, 1 ≤ d ∧ (o.timeDiv : Rat) * n.onset = k ∧ (o.timeDiv : Rat) * n.dur = d

/-- notes of one pitch neither overlap nor touch -/
def NonTouching (notes : List Note) : Prop :=
  notes.Pairwise fun a b => a.pitch = b.pitch → a.onset + a.dur < b.onset ∨ b.onset + b.dur < a.onset

/-- options under which times can be read back up to one shift: full notes on the fixed pitch axis, velocities kept,
    a non-negative margin; `remove_silence`, `end_time`, `piano_range` are free -/
structure ShiftOpts (o : Opts) : Prop where
  td_pos : 0 < o.timeDiv
  oo : o.onsetOnly = false
  ns : o.noteSep = false
  pm : o.pitchMargin = -1
  tm : 0 ≤ o.timeMargin
  bi : o.binary = false

/-- onset (relative to the time `t0` of frame 0) and duration are whole numbers of frames, the duration at least one -/
def GridAlignedAt (o : Opts) (t0 : Rat) (n : Note) : Prop :=
  ∃ k d : Nat, 1 ≤ d ∧ (o.timeDiv : Rat) * (n.onset - t0) = k ∧ (o.timeDiv : Rat) * n.dur = d

/-- what the round trip needs of the options: positive resolution, full notes, the fixed pitch axis, velocities kept -/
structure FullOpts (o : Opts) : Prop where
  td_pos : 0 < o.timeDiv
  oo : o.onsetOnly = false
  ns : o.noteSep = false
  pm : o.pitchMargin = -1
  bi : o.binary = false

theorem ShiftOpts.full {o : Opts} (h : ShiftOpts o) : FullOpts o := ⟨h.td_pos, h.oo, h.ns, h.pm, h.bi⟩

/-- the frames of an aligned note: onset `k` frames after the leading margin, `d` frames long -/
theorem at_frames {o : Opts} {t0 : Rat} {n : Note} (hg : GridAlignedAt o t0 n) :
    ∃ k d : Nat, 1 ≤ d ∧ (o.timeDiv : Rat) * (n.onset - t0) = k ∧ (o.timeDiv : Rat) * n.dur = d ∧
      onFrame o t0 n = (k : Int) + marginFrames o ∧ offFull o t0 n = onFrame o t0 n + d := by
  obtain ⟨k, d, hd, hk, hdur⟩ := hg
  have hon : onFrame o t0 n = (k : Int) + marginFrames o := by
    unfold onFrame
    rw [hk, ← Int.cast_natCast k, Round.roundHalfEven_int]
  have hdf : durFrames o n = (d : Int) := by
    unfold durFrames
    simp only
    rw [hdur, ← Int.cast_natCast d, Round.roundHalfEven_int]
    split <;> omega
  exact ⟨k, d, hd, hk, hdur, hon, by unfold offFull; rw [hdf]⟩

theorem aligned_span {o : Opts} (ho : FullOpts o) {t0 : Rat} {n : Note} (hg : GridAlignedAt o t0 n) :
    onFrame o t0 n < offFull o t0 n ∧ offCell o t0 n = offFull o t0 n := by
  obtain ⟨k, d, hd, _, _, hon, hoff⟩ := at_frames hg
  refine ⟨by omega, ?_⟩
  unfold offCell offIdx
  simp only [ho.oo, ho.ns, Bool.false_eq_true, if_false]
  split <;> omega

theorem grid_gap {o : Opts} (ho : FullOpts o) {t0 : Rat} {a b : Note} (ha : GridAlignedAt o t0 a)
    (hb : GridAlignedAt o t0 b) (hd : a.onset + a.dur < b.onset) : offFull o t0 a < onFrame o t0 b := by
  obtain ⟨ka, da, _, a1, a2, a4, a5⟩ := at_frames ha
  obtain ⟨kb, _, _, b1, _, b4, _⟩ := at_frames hb
  have htd : (0 : Rat) < (o.timeDiv : Rat) := by exact_mod_cast ho.td_pos
  have h := mul_lt_mul_of_pos_left hd htd
  rw [mul_sub] at a1 b1
  rw [mul_add] at h
  have : ((ka + da : Nat) : Rat) < ((kb : Nat) : Rat) := by push_cast; linarith
  have := Nat.cast_lt.mp this
  omega

/-- the onset frame over `time_div` is the onset moved by the one shift -/
theorem onFrame_div {o : Opts} (ho : FullOpts o) {t0 : Rat} {n : Note} (hg : GridAlignedAt o t0 n) :
    ((onFrame o t0 n : Int) : Rat) / (o.timeDiv : Rat) =
      n.onset + (((marginFrames o : Int) : Rat) / (o.timeDiv : Rat) - t0) := by
  obtain ⟨k, _, _, hk, _, hon, _⟩ := at_frames hg
  have htd : ((o.timeDiv : Int) : Rat) ≠ 0 := by exact_mod_cast ho.td_pos.ne'
  rw [hon, Int.cast_add, Int.cast_natCast, ← hk]
  field_simp
  ring

/-- without margin, with silence kept and no negative onset there is no shift -/
theorem shift_of_roundTrip {o : Opts} {notes : List Note} (ho : RoundTripOpts o)
    (hg : ∀ n ∈ notes, GridAligned o n) :
    ShiftOpts o ∧ (∀ n ∈ notes, GridAlignedAt o (t0Of o notes) n) ∧
    ((marginFrames o : Int) : Rat) / (o.timeDiv : Rat) - t0Of o notes = 0 := by
  have ht0 : t0Of o notes = 0 := by
    have hm : 0 ≤ (minRat? (notes.map (·.onset))).getD 0 := by
      cases hmin : minRat? (notes.map (·.onset)) with
      | none => exact le_refl _
      | some m =>
        obtain ⟨n, hn, rfl⟩ := mem_map.mp ((minRat?_some_iff _ _).mp hmin).1
        obtain ⟨k, _, _, hk, _⟩ := hg n hn
        have htd : (0 : Rat) < (o.timeDiv : Rat) := by exact_mod_cast ho.td_pos
        rw [Option.getD_some]
        exact nonneg_of_mul_nonneg_right (by rw [hk]; exact Nat.cast_nonneg k) htd
    rw [t0Of_eq, ho.rs]
    simp [hm]
  refine ⟨⟨ho.td_pos, ho.oo, ho.ns, ho.pm, by rw [ho.tm], ho.bi⟩, ?_, ?_⟩
  · intro n hn
    obtain ⟨k, d, hd, hk, hdur⟩ := hg n hn
    exact ⟨k, d, hd, by rw [ht0, sub_zero]; exact hk, hdur⟩
  · rw [ht0]
    unfold marginFrames
    rw [ho.tm, zero_mul, (truncRat_spec 0).2.2 0 Int.cast_zero.symm]
    simp

theorem rowsFull_fixed {o : Opts} (hpm : o.pitchMargin = -1) (notes : List Note) : rowsFull o notes = 128 := by
  simp [rowsFull, lowestOf, highestOf, hpm, tbl_lowest, tbl_highest]

/-- on the fixed pitch axis the roll has one of the two shapes the decoder accepts -/
theorem fixed_axis_shape {o : Opts} {notes : List Note} {r : Roll} (hpm : o.pitchMargin = -1)
    (h : makePianoroll o notes = some r) :
    (o.pianoRange = false ∧ r.rows = 128 ∧ rowStartOf o = 0) ∨ (o.pianoRange = true ∧ r.rows = 88 ∧ rowStartOf o = 21) := by
  obtain ⟨_, _, N, _, _, rfl⟩ := (makePianoroll_eq_some o notes r).mp h
  cases hp : o.pianoRange with
  | false => exact Or.inl ⟨rfl, by simp [rollOf, hp, rowsFull_fixed hpm], by simp [rowStartOf, hp]⟩
  | true => exact Or.inr ⟨rfl, by simp [rollOf, hp, rowsFull_fixed hpm, slicedRows_eq], by simp [rowStartOf, hp, tbl_piano_lo]⟩

theorem rowStart_eq {o : Opts} {notes : List Note} {r : Roll} (h : makePianoroll o notes = some r) :
    r.rowStart = rowStartOf o := by
  obtain ⟨_, _, N, _, _, hr⟩ := (makePianoroll_eq_some o notes r).mp h
  rw [hr]; rfl

/-- the run a note should decode to -/
def runOf (o : Opts) (t0 : Rat) (n : Note) : Run :=
  { pitch := (n.pitch - rowStartOf o).toNat, vel := n.vel,
    on := (onFrame o t0 n).toNat, off := (offFull o t0 n).toNat }

section span
variable {o : Opts} {notes : List Note} {r : Roll} (ho : FullOpts o) (h : makePianoroll o notes = some r)
  (hg : ∀ n ∈ notes, GridAlignedAt o (t0Of o notes) n)
include ho hg

theorem covers_iff {n : Note} (hn : n ∈ notes) (q j : Int) :
    Covers o notes n q j ↔ n.pitch = q ∧ onFrame o (t0Of o notes) n ≤ j ∧ j < offFull o (t0Of o notes) n := by
  unfold Covers rowOf
  rw [(aligned_span ho (hg n hn)).2, if_neg (by rw [ho.pm]; decide)]

theorem same_note (hnt : NonTouching notes) {n n' : Note} (hn : n ∈ notes) (hn' : n' ∈ notes)
    (hp : n'.pitch = n.pitch) {j : Int}
    (h1 : onFrame o (t0Of o notes) n' ≤ j) (h2 : j < offFull o (t0Of o notes) n')
    (h3 : onFrame o (t0Of o notes) n ≤ j) (h4 : j < offFull o (t0Of o notes) n) : n' = n := by
  rcases Lists.pairwise_mem hnt hn' hn with he | hR | hR
  · exact he
  · exfalso
    rcases hR hp with hh | hh
    · have := grid_gap ho (hg n' hn') (hg n hn) hh; omega
    · have := grid_gap ho (hg n hn) (hg n' hn') hh; omega
  · exfalso
    rcases hR hp.symm with hh | hh
    · have := grid_gap ho (hg n hn) (hg n' hn') hh; omega
    · have := grid_gap ho (hg n' hn') (hg n hn) hh; omega

include h

/-- a note lies inside the roll: its first and its last cell were drawn -/
theorem note_box (hpr : o.pianoRange = true → ∀ n ∈ notes, 21 ≤ n.pitch ∧ n.pitch ≤ 108) {n : Note} (hn : n ∈ notes) :
    0 ≤ n.pitch - rowStartOf o ∧ n.pitch - rowStartOf o < r.rows ∧
    0 ≤ onFrame o (t0Of o notes) n ∧ offFull o (t0Of o notes) n ≤ r.cols := by
  have hlt := (aligned_span ho (hg n hn)).1
  have hrows := (makePianoroll_rows o notes).symm.trans h
  have b1 := cells_in_rangeR id o notes _ _ _ r hrows n hn _ (onFrame o (t0Of o notes) n)
    ((covers_iff ho hg hn _ _).mpr ⟨rfl, le_refl _, hlt⟩)
  have b2 := cells_in_rangeR id o notes _ _ _ r hrows n hn _ (offFull o (t0Of o notes) n - 1)
    ((covers_iff ho hg hn _ _).mpr ⟨rfl, by omega, by omega⟩)
  rw [rowsFull_fixed ho.pm] at b1
  rcases fixed_axis_shape ho.pm h with ⟨_, h128, h0⟩ | ⟨hp, h88, h21⟩
  · omega
  · have := hpr hp n hn
    omega

/-- the run a note should decode to, in the integers the rasteriser works with -/
theorem runOf_cast (hpr : o.pianoRange = true → ∀ n ∈ notes, 21 ≤ n.pitch ∧ n.pitch ≤ 108) {n : Note} (hn : n ∈ notes) :
    ((runOf o (t0Of o notes) n).pitch : Int) = n.pitch - rowStartOf o ∧
    ((runOf o (t0Of o notes) n).on : Int) = onFrame o (t0Of o notes) n ∧
    ((runOf o (t0Of o notes) n).off : Int) = offFull o (t0Of o notes) n := by
  obtain ⟨hp0, _, g0, _⟩ := note_box ho h hg hpr hn
  have := (aligned_span ho (hg n hn)).1
  simp only [runOf]
  omega

/-- the cells of a note hold its velocity: no other note of its pitch reaches them -/
theorem note_val (hnt : NonTouching notes) (hpr : o.pianoRange = true → ∀ n ∈ notes, 21 ≤ n.pitch ∧ n.pitch ≤ 108)
    {n : Note} (hn : n ∈ notes) {j : Int} (h1 : onFrame o (t0Of o notes) n ≤ j) (h2 : j < offFull o (t0Of o notes) n) :
    r.cell (n.pitch - rowStartOf o) j = n.vel := by
  have hrs := rowStart_eq h
  obtain ⟨hp0, hp1, _⟩ := note_box ho h hg hpr hn
  obtain ⟨n0, hn0, hc0, _, he⟩ := (cell_valueR id o notes _ _ _ r ((makePianoroll_rows o notes).symm.trans h) _ j hp0 hp1).2
    ⟨n, hn, (covers_iff ho hg hn _ _).mpr ⟨by rw [hrs]; omega, h1, h2⟩⟩
  obtain ⟨c1, c2, c3⟩ := (covers_iff ho hg hn0 _ _).mp hc0
  rw [he, same_note ho hg hnt hn hn0 (by rw [hrs] at c1; omega) c2 c3 h1 h2]
  simp [ho.bi]

theorem shows_roll (hv : ∀ n ∈ notes, n.vel ≠ 0) (hnt : NonTouching notes)
    (hpr : o.pianoRange = true → ∀ n ∈ notes, 21 ≤ n.pitch ∧ n.pitch ≤ 108) :
    Shows (cellAt r.toCols) r.toCols.length (notes.map (runOf o (t0Of o notes))) := by
  have hrs := rowStart_eq h
  refine ⟨?_, ?_, ?_, ?_⟩
  · intro x hx
    obtain ⟨n, hn, rfl⟩ := mem_map.mp hx
    obtain ⟨_, c2, c3⟩ := runOf_cast ho h hg hpr hn
    have := (aligned_span ho (hg n hn)).1
    have := (note_box ho h hg hpr hn).2.2.2
    rw [length_toCols]
    exact ⟨hv n hn, by omega, by omega⟩
  · intro x hx s h1 h2
    obtain ⟨n, hn, rfl⟩ := mem_map.mp hx
    obtain ⟨c1, c2, c3⟩ := runOf_cast ho h hg hpr hn
    rw [cellAt_toCols, c1]
    exact note_val ho h hg hnt hpr hn (by omega) (by omega)
  · intro p s hne
    rw [cellAt_toCols] at hne
    -- a non-zero cell lies in a row of the roll and is covered by a note
    have hprow : (0 : Int) ≤ (p : Int) ∧ (p : Int) < r.rows := by
      by_contra hc
      exact hne (Roll.cell_out _ fun hh => hc ⟨hh.1, hh.2.1⟩)
    obtain ⟨n, hn, hc⟩ := by_contra fun hc => hne
      ((cell_valueR id o notes _ _ _ r ((makePianoroll_rows o notes).symm.trans h) _ (s : Int) hprow.1 hprow.2).1 hc)
    obtain ⟨d1, d2, d3⟩ := (covers_iff ho hg hn _ _).mp hc
    obtain ⟨c1, c2, c3⟩ := runOf_cast ho h hg hpr hn
    exact ⟨_, mem_map.mpr ⟨n, hn, rfl⟩, by omega, by omega, by omega⟩
  · intro x hx y hy hp
    obtain ⟨a, ha, rfl⟩ := mem_map.mp hx
    obtain ⟨b, hb, rfl⟩ := mem_map.mp hy
    obtain ⟨a1, a2, a3⟩ := runOf_cast ho h hg hpr ha
    obtain ⟨b1, b2, b3⟩ := runOf_cast ho h hg hpr hb
    have hpab : a.pitch = b.pitch := by omega
    rcases Lists.pairwise_mem hnt ha hb with rfl | hR | hR
    · exact Or.inl rfl
    · rcases hR hpab with hh | hh
      · have := grid_gap ho (hg a ha) (hg b hb) hh; exact Or.inr (Or.inl (by omega))
      · have := grid_gap ho (hg b hb) (hg a ha) hh; exact Or.inr (Or.inr (by omega))
    · rcases hR hpab.symm with hh | hh
      · have := grid_gap ho (hg b hb) (hg a ha) hh; exact Or.inr (Or.inr (by omega))
      · have := grid_gap ho (hg a ha) (hg b hb) hh; exact Or.inr (Or.inl (by omega))

end span

/-- **round trip up to one shift**: decoding the roll of non-touching notes aligned to the grid that starts at
    `min_time` gives back every pitch, duration and velocity, and every onset as its onset frame over `time_div` -/
theorem decode_encode_frames (o : Opts) (notes : List Note) (r : Roll) (ho : FullOpts o)
    (h : makePianoroll o notes = some r) (hg : ∀ n ∈ notes, GridAlignedAt o (t0Of o notes) n)
    (hv : ∀ n ∈ notes, n.vel ≠ 0) (hnt : NonTouching notes)
    (hpr : o.pianoRange = true → ∀ n ∈ notes, 21 ≤ n.pitch ∧ n.pitch ≤ 108) :
    ∃ out, decode r.rows.toNat r.toCols (o.timeDiv : Rat) = some out ∧
      out ~ notes.map (fun n => (n.pitch, ((onFrame o (t0Of o notes) n : Int) : Rat) / (o.timeDiv : Rat), n.dur, n.vel)) := by
  have hS := shows_roll ho h hg hv hnt hpr
  obtain ⟨hnd, _, hmem⟩ := decodeRuns_spec r.toCols
  -- two notes with the same run would have one pitch and touch
  have hnd2 : (notes.map (runOf o (t0Of o notes))).Nodup := by
    rw [Nodup, pairwise_map]
    refine hnt.imp_of_mem fun {a b} ha hb hR heq => ?_
    obtain ⟨a1, a2, a3⟩ := runOf_cast ho h hg hpr ha
    obtain ⟨b1, b2, b3⟩ := runOf_cast ho h hg hpr hb
    have := (aligned_span ho (hg a ha)).1
    rw [heq] at a1 a2 a3
    rcases hR (by omega) with hh | hh
    · have := grid_gap ho (hg a ha) (hg b hb) hh; omega
    · have := grid_gap ho (hg b hb) (hg a ha) hh; omega
  have hperm : decodeRuns r.toCols ~ notes.map (runOf o (t0Of o notes)) :=
    (perm_ext_iff_of_nodup hnd hnd2).mpr fun x => (hmem x).trans (hS.maxRun_iff x)
  have hshape : (r.rows.toNat = 128 ∧ rowStartOf o = 0) ∨ (r.rows.toNat = 88 ∧ rowStartOf o = 21) := by
    rcases fixed_axis_shape ho.pm h with ⟨_, h128, h0⟩ | ⟨_, h88, h21⟩
    · exact Or.inl ⟨by omega, h0⟩
    · exact Or.inr ⟨by omega, h21⟩
  have htd : ((o.timeDiv : Int) : Rat) ≠ 0 := by exact_mod_cast ho.td_pos.ne'
  refine ⟨_, (decode_eq_emit ..).trans (((emitRuns_spec ..).2 (rowStartOf o) hshape).2 (Or.inl htd)), ?_⟩
  refine (hperm.map _).trans (Perm.of_eq ?_)
  rw [map_map]
  apply map_congr_left
  intro n hn
  obtain ⟨c1, c2, c3⟩ := runOf_cast ho h hg hpr hn
  obtain ⟨k, d, _, _, hdur, _, hoff⟩ := at_frames (hg n hn)
  simp only [Function.comp, outOf, Prod.mk.injEq]
  refine ⟨by omega, by rw [← c2, Int.cast_natCast], ?_, rfl⟩
  have hc : ((runOf o (t0Of o notes) n).off - (runOf o (t0Of o notes) n).on : Nat) = d := by omega
  rw [hc, ← hdur]
  field_simp

end C13
