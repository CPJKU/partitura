/-
C09: what `variant` copies (per visit), that nothing of the repeat structure is
copied, that references stay inside one visit, the offsets / length of the result, and its time points: where they come from,
and that they increase.
-/
import PartituraModel.Proofs.C09Table
import PartituraModel.Proofs.C09Enum

namespace C09
open Model.Unfold

def segLen (g : List Seg) (i : Nat) : Int :=
  match g[i]? with
  | some s => s.stp - s.start
  | none => 0

def sumInt : List Int → Int
  | [] => 0
  | x :: xs => x + sumInt xs

/-- the offsets are the running sum of the lengths of the segments visited before -/
def OffsetsOK : Int → List Visit → Prop
  | _, [] => True
  | off, v :: vs => v.off = off ∧ OffsetsOK (off + (v.e - v.s)) vs

def visitLens (vs : List Visit) : List Int := vs.map fun v => v.e - v.s

theorem visitsFrom_cons (g : List Seg) (off : Int) (a : Nat) (rest : List Nat) (vs : List Visit)
    (h : visitsFrom g off (a :: rest) = some vs) :
    ∃ s vs', g[a]? = some s ∧ visitsFrom g (off + (s.stp - s.start)) rest = some vs' ∧
      vs = { s := s.start, e := s.stp, off := off } :: vs' := by
  simp only [visitsFrom] at h
  cases hg : g[a]? with
  | none => simp [hg] at h
  | some s =>
    simp only [hg] at h
    cases hr : visitsFrom g (off + (s.stp - s.start)) rest with
    | none => simp [hr] at h
    | some vs' =>
      simp only [hr, Option.map_some, Option.some.injEq] at h
      exact ⟨s, vs', rfl, hr, h.symm⟩

theorem visitsFrom_take (g : List Seg) : ∀ (path : List Nat) (off : Int) (vs : List Visit) (K : Nat),
    visitsFrom g off path = some vs → visitsFrom g off (path.take K) = some (vs.take K) := by
  intro path
  induction path with
  | nil =>
    intro off vs K h
    simp only [visitsFrom, Option.some.injEq] at h
    subst h; simp [visitsFrom]
  | cons a rest ih =>
    intro off vs K h
    cases K with
    | zero => simp [visitsFrom]
    | succ K =>
      obtain ⟨sa, vs', hg, hr, rfl⟩ := visitsFrom_cons g off a rest vs h
      simp only [List.take_succ_cons, visitsFrom, hg, ih _ _ K hr, Option.map_some]

theorem visitsFrom_ok (g : List Seg) :
    ∀ (p : List Nat) (off : Int) (vs : List Visit), visitsFrom g off p = some vs →
      OffsetsOK off vs ∧ visitLens vs = p.map (segLen g) ∧
      (∀ (k i : Nat), p[k]? = some i →
        ∃ (s : Seg) (v : Visit), g[i]? = some s ∧ vs[k]? = some v ∧ v.s = s.start ∧ v.e = s.stp) := by
  intro p
  induction p with
  | nil =>
    intro off vs h
    simp only [visitsFrom, Option.some.injEq] at h
    subst h
    simp [OffsetsOK, visitLens]
  | cons i rest ih =>
    intro off vs h
    obtain ⟨s, vs', hg, hr, rfl⟩ := visitsFrom_cons g off i rest vs h
    obtain ⟨h1, h2, h3⟩ := ih _ _ hr
    refine ⟨⟨rfl, h1⟩, ?_, ?_⟩
    · simp only [visitLens, List.map_cons] at h2 ⊢
      rw [h2]
      simp [segLen, hg]
    · intro k j hk
      cases k with
      | zero =>
        simp only [List.getElem?_cons_zero, Option.some.injEq] at hk
        subst hk
        exact ⟨s, _, hg, rfl, rfl, rfl⟩
      | succ k =>
        simp only [List.getElem?_cons_succ] at hk ⊢
        exact h3 k j hk

def inWin (v : Visit) (o : Obj) : Bool := decide (v.s ≤ o.start) && decide (o.start < v.e)

/-- the objects of a visit that are copied whatever was copied before: everything in the window that is
neither one of the dropped classes nor a signature/clef -/
def copyable (v : Visit) (q : Nat × Obj) : Bool :=
  inWin v q.2 && !q.2.kind.dropped && !q.2.kind.isSig

theorem mkCopy_kind (i k : Nat) (o : Obj) (d : Int) : (mkCopy i k o d).kind = o.kind := rfl

theorem copyPass_nonSig (v : Visit) (k : Nat) (l : List (Nat × Obj)) (seen : List OObj) :
    (copyPass v k l seen).filter (fun c => !c.kind.isSig) =
      (l.filter (copyable v)).map fun q => mkCopy q.1 k q.2 (v.off - v.s) := by
  fun_induction copyPass v k l seen with
  | case1 => rfl
  | case2 i o rest seen hw hd ih => rw [ih]; simp [copyable, hd]
  | case3 i o rest seen hw hd hsk ih =>
    have hs : o.kind.isSig = true := by
      unfold sigSkip at hsk
      exact (Bool.and_eq_true _ _ ▸ hsk).1
    rw [ih]; simp [copyable, hs]
  | case4 i o rest seen hw hd hsk ih =>
    have hw' : inWin v o = true := by simp [inWin, hw.1, hw.2]
    rw [List.filter_cons, mkCopy_kind, ih]
    cases hs : o.kind.isSig <;> simp [copyable, hw', hd, hs]
  | case5 i o rest seen hw ih =>
    have hw' : inWin v o = false := by
      simp only [inWin, Bool.and_eq_false_iff, decide_eq_false_iff_not]
      by_cases h1 : v.s ≤ o.start
      · exact Or.inr fun h2 => hw ⟨h1, h2⟩
      · exact Or.inl h1
    rw [ih]; simp [copyable, hw']

theorem copyPass_mem (v : Visit) (k : Nat) (l : List (Nat × Obj)) (seen : List OObj) :
    ∀ c ∈ copyPass v k l seen,
      ∃ q ∈ l, inWin v q.2 = true ∧ q.2.kind.dropped = false ∧ c = mkCopy q.1 k q.2 (v.off - v.s) := by
  fun_induction copyPass v k l seen with
  | case1 => intro c h; cases h
  | case2 i o rest seen hw hd ih => exact fun c h => (ih c h).imp fun q hq => ⟨List.mem_cons_of_mem _ hq.1, hq.2⟩
  | case3 i o rest seen hw hd hsk ih => exact fun c h => (ih c h).imp fun q hq => ⟨List.mem_cons_of_mem _ hq.1, hq.2⟩
  | case4 i o rest seen hw hd hsk ih =>
    intro c h
    rcases List.mem_cons.mp h with h | h
    · exact ⟨(i, o), List.mem_cons_self, by simp [inWin, hw.1, hw.2], by simpa using hd, h⟩
    · exact (ih c h).imp fun q hq => ⟨List.mem_cons_of_mem _ hq.1, hq.2⟩
  | case5 i o rest seen hw ih => exact fun c h => (ih c h).imp fun q hq => ⟨List.mem_cons_of_mem _ hq.1, hq.2⟩

/-- the observable content of a copy apart from its references and its class -/
def core (c : OObj) : Nat × Nat × Kind × Int × Option Int × List Int × Option String × Bool :=
  (c.orig, c.visit, c.kind, c.start, c.stp, c.payload, c.nid, c.extra)

theorem resolve_core (news : List OObj) : (resolve news).map core = news.map core := by
  simp [resolve, core, Function.comp_def]

theorem map_filter_core (f : OObj → OObj) (hf : ∀ c, core (f c) = core c)
    (p : (Nat × Nat × Kind × Int × Option Int × List Int × Option String × Bool) → Bool) (l : List OObj) :
    ((l.map f).filter (fun c => p (core c))).map core = (l.filter (fun c => p (core c))).map core := by
  induction l with
  | nil => simp
  | cons a as ih =>
    simp only [List.map_cons, List.filter_cons, hf a]
    split
    · simp [ih, hf a]
    · exact ih

/-- kept for the per-visit statement: not a signature/clef (those are subject to suppression) and not the
extra fermata taken from a segment's end -/
def keepP (c : OObj) : Bool := !c.kind.isSig && !c.extra

theorem fermataPass_extra (v : Visit) (k : Nat) :
    ∀ (l : List (Nat × Obj)) (c : OObj), c ∈ fermataPass v k l →
      c.extra = true ∧ c.kind = .fermata ∧ c.visit = k ∧ c.refs = [] ∧ c.start = v.e + (v.off - v.s) := by
  intro l
  induction l with
  | nil => intro c h; simp [fermataPass] at h
  | cons q rest ih =>
    intro c h
    obtain ⟨i, o⟩ := q
    simp only [fermataPass] at h
    split at h
    · rename_i hq
      simp only [List.mem_cons] at h
      rcases h with h | h
      · subst h; exact ⟨rfl, hq.1, rfl, rfl, rfl⟩
      · exact ih c h
    · exact ih c h

theorem copyPass_notExtra (v : Visit) (k : Nat) (l : List (Nat × Obj)) (seen : List OObj) (c : OObj)
    (h : c ∈ copyPass v k l seen) : c.extra = false ∧ c.visit = k := by
  obtain ⟨q, _, _, _, rfl⟩ := copyPass_mem v k l seen c h
  exact ⟨rfl, rfl⟩

theorem visitCopies_keep (objs : List Obj) (v : Visit) (k : Nat) (out : List OObj) :
    ((visitCopies objs v k out).filter keepP).map core =
      ((enum 0 objs).filter (copyable v)).map fun q => core (mkCopy q.1 k q.2 (v.off - v.s)) := by
  unfold visitCopies
  rw [List.filter_append, List.map_append]
  have h2 : (fermataPass v k (enum 0 objs)).filter keepP = [] := by
    rw [List.filter_eq_nil_iff]
    intro c hc
    have := (fermataPass_extra v k _ c hc).1
    simp [keepP, this]
  rw [h2, List.map_nil, List.append_nil]
  have h1 := map_filter_core
    (fun o => { o with refs := o.refs.map (·.map (resolveRef ((copyPass v k (enum 0 objs) out).map (·.orig)))) })
    (fun c => rfl) (fun t => !t.2.2.1.isSig && !t.2.2.2.2.2.2.2) (copyPass v k (enum 0 objs) out)
  have e1 : (fun c : OObj => !(core c).2.2.1.isSig && !(core c).2.2.2.2.2.2.2) = keepP := rfl
  rw [e1] at h1
  have hr : resolve (copyPass v k (enum 0 objs) out) =
      (copyPass v k (enum 0 objs) out).map (fun o => { o with refs := o.refs.map (·.map (resolveRef ((copyPass v k (enum 0 objs) out).map (·.orig)))) }) := rfl
  rw [hr, h1]
  have h3 : (copyPass v k (enum 0 objs) out).filter keepP =
      (copyPass v k (enum 0 objs) out).filter (fun c => !c.kind.isSig) := by
    apply List.filter_congr
    intro c hc
    have := (copyPass_notExtra v k _ _ c hc).1
    simp [keepP, this]
  rw [h3, copyPass_nonSig, List.map_map]
  rfl

theorem variantObjs_keep (objs : List Obj) :
    ∀ (vs : List Visit) (k : Nat) (out : List OObj),
      ((variantObjs objs k vs out).filter keepP).map core =
        (out.filter keepP).map core ++
          (enum k vs).flatMap fun nv =>
            ((enum 0 objs).filter (copyable nv.2)).map fun q => core (mkCopy q.1 nv.1 q.2 (nv.2.off - nv.2.s)) := by
  intro vs
  induction vs with
  | nil => intro k out; simp [variantObjs, enum]
  | cons v vs ih =>
    intro k out
    simp only [variantObjs, enum, List.flatMap_cons]
    rw [ih, List.filter_append, List.map_append, visitCopies_keep, List.append_assoc]

/-- `c` is the copy visit `v` makes of the original `o`: `o` starts in the segment and is not of a dropped class, and `c` has its
fields, moved in time -/
structure CopyOf (objs : List Obj) (v : Visit) (c : OObj) (o : Obj) : Prop where
  orig : objs[c.orig]? = some o
  win : inWin v o = true
  kept : o.kind.dropped = false
  kind : c.kind = o.kind
  start : c.start = o.start + (v.off - v.s)
  stp : c.stp = o.stp.map (· + (v.off - v.s))
  payload : c.payload = o.payload
  nid : c.nid = o.nid
  cls : c.cls = o.cls

theorem visitCopies_mem (objs : List Obj) (v : Visit) (k : Nat) (out : List OObj) (c : OObj)
    (h : c ∈ visitCopies objs v k out) :
    c.visit = k ∧
    ((c.extra = true ∧ c.kind = .fermata ∧ c.refs = [] ∧ c.start = v.e + (v.off - v.s)) ∨
     (c.extra = false ∧ ∃ o, CopyOf objs v c o ∧
        c.refs = o.refs.map (·.map fun j =>
          if ((copyPass v k (enum 0 objs) out).map (·.orig)).contains j then some j else none))) := by
  unfold visitCopies at h
  rw [List.mem_append] at h
  rcases h with h | h
  · simp only [resolve, List.mem_map] at h
    obtain ⟨c0, hc0, rfl⟩ := h
    obtain ⟨q, hq, hw, hd, rfl⟩ := copyPass_mem v k _ _ c0 hc0
    obtain ⟨i, o⟩ := q
    have := (enum_mem objs 0 i o).mp hq
    refine ⟨rfl, Or.inr ⟨rfl, o, ⟨show objs[i]? = some o by simpa using this.2, hw, hd, rfl, rfl, rfl, rfl, rfl, rfl⟩, ?_⟩⟩
    simp [mkCopy, resolveRef, List.map_map, Function.comp_def]
  · obtain ⟨h1, h2, h3, h4, h5⟩ := fermataPass_extra v k _ c h
    exact ⟨h3, Or.inl ⟨h1, h2, h4, h5⟩⟩

/-- conversely, an original that starts in the visited segment and is neither dropped nor a signature has its copy there -/
theorem visitCopies_copy (objs : List Obj) (v : Visit) (k : Nat) (out : List OObj) (i : Nat) (o : Obj)
    (hio : objs[i]? = some o) (hc : copyable v (i, o) = true) :
    ∃ c ∈ visitCopies objs v k out, core c = core (mkCopy i k o (v.off - v.s)) := by
  have hmem : core (mkCopy i k o (v.off - v.s)) ∈ ((visitCopies objs v k out).filter keepP).map core := by
    rw [visitCopies_keep]
    exact List.mem_map.mpr ⟨(i, o), List.mem_filter.mpr ⟨(enum_mem objs 0 i o).mpr ⟨Nat.zero_le _, by simpa using hio⟩, hc⟩, rfl⟩
  obtain ⟨c, hc, hcore⟩ := List.mem_map.mp hmem
  exact ⟨c, (List.mem_filter.mp hc).1, hcore⟩

theorem resolved_copy_mem (objs : List Obj) (v : Visit) (k : Nat) (out : List OObj) (j : Nat)
    (hj : j ∈ (copyPass v k (enum 0 objs) out).map (·.orig)) :
    ∃ c' ∈ visitCopies objs v k out, c'.visit = k ∧ c'.orig = j ∧ c'.extra = false := by
  obtain ⟨c0, hc0, hor⟩ := List.mem_map.mp hj
  obtain ⟨hx, hv⟩ := copyPass_notExtra v k _ _ c0 hc0
  exact ⟨_, List.mem_append_left _ (List.mem_map.mpr ⟨c0, hc0, rfl⟩), hv, hor, hx⟩

/-- the objects of the unfolded part are those there at the start and, visit by visit, the copies made on top of what the
visits before have made -/
theorem mem_variantObjs (objs : List Obj) : ∀ (vs : List Visit) (k : Nat) (out : List OObj) (c : OObj),
    c ∈ variantObjs objs k vs out ↔
      c ∈ out ∨ ∃ n v, vs[n]? = some v ∧ c ∈ visitCopies objs v (k + n) (variantObjs objs k (vs.take n) out) := by
  intro vs
  induction vs with
  | nil => intro k out c; simp [variantObjs]
  | cons w ws ih =>
    intro k out c
    simp only [variantObjs]
    rw [ih, List.mem_append]
    constructor
    · rintro ((h | h) | ⟨n, v, hv, hc⟩)
      · exact Or.inl h
      · exact Or.inr ⟨0, w, rfl, by simpa [variantObjs] using h⟩
      · refine Or.inr ⟨n + 1, v, by simpa using hv, ?_⟩
        have e : k + (n + 1) = k + 1 + n := by omega
        rw [e]; simpa [variantObjs] using hc
    · rintro (h | ⟨n, v, hv, hc⟩)
      · exact Or.inl (Or.inl h)
      · cases n with
        | zero =>
          simp only [List.getElem?_cons_zero, Option.some.injEq] at hv
          subst hv
          exact Or.inl (Or.inr (by simpa [variantObjs] using hc))
        | succ n =>
          have e : k + (n + 1) = k + 1 + n := by omega
          rw [e] at hc
          exact Or.inr ⟨n, v, by simpa using hv, by simpa [variantObjs] using hc⟩

/-- where an object of the unfolded part comes from: made in visit number `c.visit`, it is the fermata taken from the end of
that visit's segment or the copy of an original, its references cut down to what the visit copies -/
theorem out_mem (objs : List Obj) (vs : List Visit) (c : OObj) (hc : c ∈ variantObjs objs 0 vs []) :
    ∃ v out', vs[c.visit]? = some v ∧ (∀ c' ∈ visitCopies objs v c.visit out', c' ∈ variantObjs objs 0 vs []) ∧
      ((c.extra = true ∧ c.kind = .fermata ∧ c.refs = [] ∧ c.start = v.e + (v.off - v.s)) ∨
       (c.extra = false ∧ ∃ o, CopyOf objs v c o ∧
          c.refs = o.refs.map (·.map fun j =>
            if ((copyPass v c.visit (enum 0 objs) out').map (·.orig)).contains j then some j else none))) := by
  rcases (mem_variantObjs objs vs 0 [] c).mp hc with h | ⟨n, v, hv, hcv⟩
  · cases h
  · rw [Nat.zero_add] at hcv
    obtain ⟨rfl, hkind⟩ := visitCopies_mem objs v n _ c hcv
    refine ⟨v, _, hv, fun c' hc' => (mem_variantObjs objs vs 0 [] c').mpr (Or.inr ⟨c.visit, v, hv, by simpa using hc'⟩),
      hkind⟩

theorem foldl_ins_mem {α : Type} (f : α → Int) (l : List α) (acc : List Int) (t : Int) :
    t ∈ l.foldl (fun acc x => insInt (f x) acc) acc ↔ t ∈ acc ∨ ∃ x ∈ l, t = f x := by
  rw [Lists.mem_foldl_ins insInt_mem f l acc t]
  simp only [eq_comm]

/-- where the time points of the new part come from -/
def PointSrc (points : List Int) (vs : List Visit) (out : List OObj) (t : Int) : Prop :=
  (∃ v ∈ vs, ∃ p ∈ points, v.s ≤ p ∧ p < v.e ∧ t = p + (v.off - v.s)) ∨
  (∃ c ∈ out, (c.extra = true ∧ t = c.start) ∨ (c.extra = false ∧ c.stp = some t))

theorem shifted_mem (points : List Int) (vs : List Visit) (acc : List Int) (t : Int) :
    t ∈ shiftedPoints points vs acc ↔
    t ∈ acc ∨ ∃ v ∈ vs, ∃ p ∈ points, v.s ≤ p ∧ p < v.e ∧ t = p + (v.off - v.s) := by
  unfold shiftedPoints
  induction vs generalizing acc with
  | nil => simp
  | cons v vs ih =>
    simp only [List.foldl_cons]
    rw [ih, foldl_ins_mem]
    simp only [List.mem_filter, Bool.and_eq_true, decide_eq_true_eq, List.mem_cons]
    constructor
    · rintro ((h | ⟨x, ⟨hx, h1, h2⟩, h⟩) | ⟨w, hw, r⟩)
      · exact Or.inl h
      · exact Or.inr ⟨v, Or.inl rfl, x, hx, h1, h2, h⟩
      · exact Or.inr ⟨w, Or.inr hw, r⟩
    · rintro (h | ⟨w, hw | hw, x, hx, h1, h2, h⟩)
      · exact Or.inl (Or.inl h)
      · subst hw; exact Or.inl (Or.inr ⟨x, ⟨hx, h1, h2⟩, h⟩)
      · exact Or.inr ⟨w, hw, x, hx, h1, h2, h⟩

theorem objPoint_iff (o : OObj) (t : Int) :
    objPoint o = some t ↔ (o.extra = true ∧ t = o.start) ∨ (o.extra = false ∧ o.stp = some t) := by
  unfold objPoint
  cases o.extra <;> simp [eq_comm]

theorem outPoints_mem (out : List OObj) (acc : List Int) (t : Int) :
    t ∈ outPoints out acc ↔
    t ∈ acc ∨ ∃ c ∈ out, (c.extra = true ∧ t = c.start) ∨ (c.extra = false ∧ c.stp = some t) := by
  unfold outPoints
  induction out generalizing acc with
  | nil => simp
  | cons o os ih =>
    simp only [List.foldl_cons]
    rw [ih]
    simp only [List.mem_cons]
    have key : (t ∈ (match objPoint o with
        | some t => insInt t acc
        | none => acc)) ↔ (t ∈ acc ∨ objPoint o = some t) := by
      cases h : objPoint o with
      | none => simp
      | some u => simp [insInt_mem, eq_comm, or_comm]
    rw [objPoint_iff] at key
    constructor
    · rintro (h | ⟨c, hc, r⟩)
      · rcases key.mp h with h | h
        · exact Or.inl h
        · exact Or.inr ⟨o, Or.inl rfl, h⟩
      · exact Or.inr ⟨c, Or.inr hc, r⟩
    · rintro (h | ⟨c, hc | hc, r⟩)
      · exact Or.inl (key.mpr (Or.inl h))
      · subst hc; exact Or.inl (key.mpr (Or.inr r))
      · exact Or.inr ⟨c, hc, r⟩

theorem variantPoints_mem (points : List Int) (vs : List Visit) (out : List OObj) (t : Int) :
    t ∈ variantPoints points vs out ↔ PointSrc points vs out t := by
  unfold variantPoints PointSrc
  rw [outPoints_mem, shifted_mem]
  simp

theorem listMax_eq (l : List Int) (m : Int) (hm : m ∈ l) (hle : ∀ x ∈ l, x ≤ m) : listMax l = some m :=
  Lists.optMin_eq_some (le := (· ≥ ·)) (fun x m => if m < x then x else m) rfl
    (fun _ l => by rw [listMax]; cases listMax l <;> rfl) Int.le_refl (fun _ _ _ h1 h2 => Int.le_trans h2 h1)
    (fun _ _ h1 h2 => Int.le_antisymm h2 h1) (fun a m => by split <;> omega) hm hle

theorem listMin_eq (l : List Int) (m : Int) (hm : m ∈ l) (hle : ∀ x ∈ l, m ≤ x) : listMin l = some m :=
  Lists.optMin_eq_some (le := (· ≤ ·)) (fun x m => if x < m then x else m) rfl
    (fun _ l => by rw [listMin]; cases listMin l <;> rfl) Int.le_refl (fun _ _ _ => Int.le_trans)
    (fun _ _ => Int.le_antisymm) (fun a m => by split <;> omega) hm hle

theorem offsets_bounds :
    ∀ (vs : List Visit) (off : Int), OffsetsOK off vs → (∀ v ∈ vs, v.s < v.e) →
      (∀ v ∈ vs, off ≤ v.off ∧ v.off + (v.e - v.s) ≤ off + sumInt (visitLens vs)) ∧
      (∀ v, vs.getLast? = some v → v.off + (v.e - v.s) = off + sumInt (visitLens vs)) ∧
      (∀ v, vs.head? = some v → v.off = off) ∧ 0 ≤ sumInt (visitLens vs) := by
  intro vs
  induction vs with
  | nil => intro off _ _; simp [visitLens, sumInt]
  | cons w ws ih =>
    intro off hok hpos
    obtain ⟨h0, hrest⟩ := hok
    have hw := hpos w List.mem_cons_self
    obtain ⟨i1, i2, i3, i4⟩ := ih _ hrest (fun v hv => hpos v (List.mem_cons_of_mem _ hv))
    simp only [visitLens, List.map_cons, sumInt] at *
    refine ⟨?_, ?_, ?_, by omega⟩
    · intro v hv
      simp only [List.mem_cons] at hv
      rcases hv with hv | hv
      · subst hv; omega
      · have := i1 v hv; omega
    · intro v hv
      cases ws with
      | nil =>
        simp only [List.getLast?_singleton, Option.some.injEq] at hv
        subst hv
        simp [sumInt]; omega
      | cons x xs =>
        have : (x :: xs).getLast? = some v := by simpa [List.getLast?_cons_cons] using hv
        have := i2 v this
        omega
    · intro v hv
      simp only [List.head?_cons, Option.some.injEq] at hv
      subst hv; exact h0

theorem offsets_mono : ∀ (vs : List Visit) (off : Int), OffsetsOK off vs → (∀ v ∈ vs, v.s < v.e) →
    ∀ (a b : Nat) (va vb : Visit), a < b → vs[a]? = some va → vs[b]? = some vb →
      va.off + (va.e - va.s) ≤ vb.off := by
  intro vs
  induction vs with
  | nil => intro off _ _ a b va vb _ h; simp at h
  | cons w ws ih =>
    intro off hok hpos a b va vb hab ha hb
    obtain ⟨h0, hrest⟩ := hok
    have hposr : ∀ v ∈ ws, v.s < v.e := fun v hv => hpos v (List.mem_cons_of_mem _ hv)
    cases b with
    | zero => omega
    | succ b =>
      simp only [List.getElem?_cons_succ] at hb
      cases a with
      | zero =>
        simp only [List.getElem?_cons_zero, Option.some.injEq] at ha
        subst ha
        obtain ⟨i1, _, _, _⟩ := offsets_bounds ws _ hrest hposr
        have := (i1 vb (List.mem_of_getElem? hb)).1
        omega
      | succ a =>
        simp only [List.getElem?_cons_succ] at ha
        exact ih _ hrest hposr a b va vb (by omega) ha hb

theorem fermata_not_dropped : Kind.dropped .fermata = false := rfl

theorem outPoints_sorted (out : List OObj) (acc : List Int) (h : StrictSorted acc) :
    StrictSorted (outPoints out acc) :=
  Lists.foldl_inv StrictSorted _ (fun acc o h => by
    cases objPoint o with
    | none => exact h
    | some t => exact insInt_sorted t acc h) out acc h

theorem foldl_ins_sorted {α : Type} (f : α → Int) (l : List α) (acc : List Int) (h : StrictSorted acc) :
    StrictSorted (l.foldl (fun acc x => insInt (f x) acc) acc) :=
  Lists.foldl_inv StrictSorted _ (fun acc _ h => insInt_sorted _ acc h) l acc h

theorem shiftedPoints_sorted (points : List Int) (vs : List Visit) (acc : List Int) (h : StrictSorted acc) :
    StrictSorted (shiftedPoints points vs acc) :=
  Lists.foldl_inv StrictSorted _ (fun acc _ h => foldl_ins_sorted _ _ acc h) vs acc h

end C09
