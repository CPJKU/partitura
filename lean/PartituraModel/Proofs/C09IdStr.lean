/-
C09: the numeric order the model puts on segments is the order of
the id strings `chr(65 + i)` in Python, for every number of segments; the sort keys
`"<n>_Volta_<ID>"`; the classification of raw destination strings by substring.
-/
import PartituraModel.Model.UnfoldIds

namespace C09
open Model.Unfold

theorem pyLt_single (a b : Nat) : pyLt [a] [b] = decide (a < b) := by
  simp [pyLt]

theorem pyLt_cons (a b : Nat) (as bs : PyStr) :
    pyLt (a :: as) (b :: bs) = (decide (a < b) || (a == b && pyLt as bs)) := rfl

theorem pyLt_irrefl : ∀ s : PyStr, pyLt s s = false := by
  intro s
  induction s with
  | nil => rfl
  | cons a as ih => simp [pyLt, ih]

theorem pyLt_append_left (p : PyStr) (x y : PyStr) : pyLt (p ++ x) (p ++ y) = pyLt x y := by
  induction p with
  | nil => rfl
  | cons a as ih => simp [pyLt, ih]

theorem segId_lt_iff (i j : Nat) : pyLt (segId i) (segId j) = true ↔ i < j := by
  simp [segId, pyLt]

theorem segId_le_iff (i j : Nat) : pyLe (segId i) (segId j) = true ↔ i ≤ j := by
  simp [pyLe, segId, pyLt]

theorem segId_injective (i j : Nat) (h : segId i = segId j) : i = j := by
  simp [segId] at h
  exact h

theorem segId_ne_end (i : Nat) : segId i ≠ endId := by
  simp [segId, endId]

theorem end_le_segId_iff (i : Nat) : pyLe endId (segId i) = true ↔ 5 ≤ i := by
  simp [pyLe, segId, endId, pyLt]
  omega

theorem segId_lt_end_iff (i : Nat) : pyLt (segId i) endId = true ↔ i ≤ 4 := by
  simp [segId, endId, pyLt]
  omega

theorem lePast_eq (d : Dest) (i : Nat) : d.lePast i = pyLe d.str (segId i) := by
  cases d with
  | seg j =>
    have := segId_le_iff j i
    simp only [Dest.lePast, Dest.str]
    cases h : pyLe (segId j) (segId i) <;> simp_all
  | fin =>
    have := end_le_segId_iff i
    simp only [Dest.lePast, Dest.str]
    cases h : pyLe endId (segId i) <;> simp_all

theorem ahead_eq (own j : Nat) : (Dest.seg j).ahead own = pyLt (segId own) (segId j) := by
  have := segId_lt_iff own j
  simp only [Dest.ahead]
  cases h : pyLt (segId own) (segId j) <;> simp_all

theorem not_ahead_eq (own j : Nat) : (!(Dest.seg j).ahead own) = pyLe (segId j) (segId own) := by
  rw [ahead_eq]
  rfl

theorem labelChar_lt (a b : Nat) (ha : a ≤ 10) (hb : b ≤ 10) : labelChar a < labelChar b ↔ a < b := by
  unfold labelChar
  split <;> split <;> omega

theorem labelChar_inj (a b : Nat) (ha : a ≤ 10) (hb : b ≤ 10) : labelChar a = labelChar b ↔ a = b := by
  unfold labelChar
  split <;> split <;> omega

theorem volta_key_lt (a b : Nat × Nat) (ha : a.1 ≤ 10) (hb : b.1 ≤ 10) :
    pyLt (rawStr (.volta a.1) (.seg a.2)) (rawStr (.volta b.1) (.seg b.2)) = true ↔
      a.1 < b.1 ∨ (a.1 = b.1 ∧ a.2 < b.2) := by
  have h1 := labelChar_lt a.1 b.1 ha hb
  have h2 := labelChar_inj a.1 b.1 ha hb
  simp only [rawStr, Dest.str, List.cons_append, pyLt_cons, pyLt_append_left, Bool.or_eq_true, decide_eq_true_eq, Bool.and_eq_true,
    beq_iff_eq, segId_lt_iff, h1, h2]

theorem volta_key_le (a b : Nat × Nat) (ha : a.1 ≤ 10) (hb : b.1 ≤ 10) :
    pyLe (rawStr (.volta a.1) (.seg a.2)) (rawStr (.volta b.1) (.seg b.2)) = voltaLe a b := by
  have h := volta_key_lt b a hb ha
  unfold pyLe voltaLe
  cases hlt : pyLt (rawStr (.volta b.1) (.seg b.2)) (rawStr (.volta a.1) (.seg a.2))
  · have : ¬ (b.1 < a.1 ∨ (b.1 = a.1 ∧ b.2 < a.2)) := by
      intro hh
      rw [h.mpr hh] at hlt
      cases hlt
    simp only [Bool.not_false, Bool.true_eq, Bool.or_eq_true, decide_eq_true_eq, Bool.and_eq_true]
    omega
  · have := h.mp hlt
    simp only [Bool.not_true, Bool.false_eq, Bool.or_eq_false_iff, decide_eq_false_iff_not, Bool.and_eq_false_iff]
    omega

theorem volta_key_cut (lb : Nat) (d : Dest) : (rawStr (.volta lb) d).drop 8 = d.str := by
  simp [rawStr, voltaMark]

theorem nav_key_cut (n : Nat) (d : Dest) : (navMark n ++ d.str).drop 12 = d.str := by
  simp [navMark, navSub]

theorem sorted_ids (l : List Nat) (h : l.Pairwise (· < ·)) :
    (l.map segId).Pairwise (fun a b => pyLt a b = true) := by
  rw [List.pairwise_map]
  exact h.imp fun {a b} hab => (segId_lt_iff a b).mpr hab

theorem pyContains_single (a b : Nat) (r : PyStr) (c : Nat) : pyContains (a :: b :: r) [c] = false := by
  simp [pyContains, List.isPrefixOf]

theorem isPrefixOf_second (a b : Nat) (r : PyStr) (c d : Nat) (t : PyStr) (h : (b == d) = false) :
    List.isPrefixOf (a :: b :: r) (c :: d :: t) = false := by
  simp [List.isPrefixOf, h]

/- The searched strings are literals and so is the raw string up to its last character `65 + i`: the search runs on the
literals and stops at a one-character rest (`pyContains_single`). -/

theorem class_plain (d : Dest) :
    pyContains voltaSub (rawStr .plain d) = false ∧ pyContains navSub (rawStr .plain d) = false := by
  cases d with
  | fin => exact ⟨rfl, rfl⟩
  | seg i => exact ⟨pyContains_single _ _ _ _, pyContains_single _ _ _ _⟩

theorem class_nav1 (d : Dest) :
    pyContains voltaSub (rawStr .nav1 d) = false ∧ pyContains (navMark 1) (rawStr .nav1 d) = true ∧
      pyContains (navMark 2) (rawStr .nav1 d) = false := by
  cases d with
  | fin => exact ⟨rfl, rfl, rfl⟩
  | seg i =>
    refine ⟨?_, rfl, ?_⟩ <;> (conv => lhs; whnf) <;> exact pyContains_single _ _ _ _

theorem class_nav2 (d : Dest) :
    pyContains voltaSub (rawStr .nav2 d) = false ∧ pyContains (navMark 2) (rawStr .nav2 d) = true ∧
      pyContains (navMark 1) (rawStr .nav2 d) = false := by
  cases d with
  | fin => exact ⟨rfl, rfl, rfl⟩
  | seg i =>
    refine ⟨?_, rfl, ?_⟩ <;> (conv => lhs; whnf) <;> exact pyContains_single _ _ _ _

theorem class_nav_sub (d : Dest) : pyContains navSub (rawStr .nav1 d) = true ∧ pyContains navSub (rawStr .nav2 d) = true :=
  ⟨rfl, rfl⟩

/-- the label character in front is never looked at twice: the second character already differs -/
theorem class_volta (lb : Nat) (d : Dest) :
    pyContains voltaSub (rawStr (.volta lb) d) = true ∧ pyContains navSub (rawStr (.volta lb) d) = false := by
  constructor
  · show (List.isPrefixOf _ _ || pyContains voltaSub (voltaMark ++ d.str)) = true
    rw [Bool.or_eq_true]
    right
    cases d <;> rfl
  · show (List.isPrefixOf _ _ || pyContains navSub (voltaMark ++ d.str)) = false
    rw [Bool.or_eq_false_iff]
    refine ⟨isPrefixOf_second _ _ _ _ _ _ rfl, ?_⟩
    cases d with
    | fin => rfl
    | seg i => conv => lhs; whnf
               exact pyContains_single _ _ _ _

theorem class_volta_not_nav (lb : Nat) (d : Dest) (n : Nat) :
    pyContains (navMark n) (rawStr (.volta lb) d) = false := by
  show (List.isPrefixOf _ _ || pyContains (navMark n) (voltaMark ++ d.str)) = false
  rw [Bool.or_eq_false_iff]
  refine ⟨isPrefixOf_second _ _ _ _ _ _ rfl, ?_⟩
  cases d with
  | fin => rfl
  | seg i => conv => lhs; whnf
             exact pyContains_single _ _ _ _

theorem class_plain_not_nav (d : Dest) (n : Nat) : pyContains (navMark n) (rawStr .plain d) = false := by
  cases d with
  | fin => rfl
  | seg i => exact pyContains_single _ _ _ _

theorem alphaId_25_26 : alphaId 4 25 = [90] ∧ alphaId 4 26 = [65, 65] := by decide +kernel

theorem alphaId_small (i : Nat) (h : i < 26) (fuel : Nat) : alphaId (fuel + 1) i = segId i := by
  simp [alphaId, h, segId]

end C09
