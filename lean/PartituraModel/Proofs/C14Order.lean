/-
The sounding ends do not depend on the ORDER of the note list; the threshold assignment in index-free form
(`soundOffs_eq_map`, `setThreshold_eq`, `buildPart_eq_some`).

`soundOffSpec ns cs thr i n` (Proofs/C14Main.lean) mentions the list `ns` in two places: the closing sentinel
(`max` of the releases) and the re-strikes (onsets of the notes at the OTHER positions).  Both are invariant under
permutation of the list; the second because "a note at another position" is membership in the list with ONE copy of
the note erased.
-/
import PartituraModel.Proofs.C14Moments

namespace C14P
open Model Model.Pedal

theorem maxOf_le_of_subset (n0 : Note) (rest : List Note) (m0 : Note) (rest' : List Note)
    (h : ∀ n ∈ n0 :: rest, n ∈ m0 :: rest') :
    maxOf n0.off (rest.map (·.off)) ≤ maxOf m0.off (rest'.map (·.off)) := by
  unfold maxOf
  apply Lists.foldl_max_le
  · exact off_le_maxOf m0 rest' n0 (h n0 (List.mem_cons_self ..))
  · intro y hy
    obtain ⟨n, hn, rfl⟩ := List.mem_map.mp hy
    exact off_le_maxOf m0 rest' n (h n (List.mem_cons_of_mem _ hn))

theorem closing_perm (ns ns' : List Note) (E : List Ev) (hp : ns.Perm ns') : closing ns E = closing ns' E := by
  cases ns with
  | nil => rw [List.nil_perm.mp hp]
  | cons n0 rest =>
    cases ns' with
    | nil => exact absurd (List.perm_nil.mp hp) (by simp)
    | cons m0 rest' =>
      rw [closing_cons, closing_cons, le_antisymm (maxOf_le_of_subset n0 rest m0 rest' (fun n hn => hp.mem_iff.mp hn))
        (maxOf_le_of_subset m0 rest' n0 rest (fun n hn => hp.mem_iff.mpr hn))]

theorem other_position_iff (ns : List Note) (i : Nat) (n : Note) (hi : ns[i]? = some n) (m : Note) :
    (∃ j, ns[j]? = some m ∧ j ≠ i) ↔ m ∈ ns.erase n := by
  obtain ⟨hlt, hget⟩ := List.getElem?_eq_some_iff.mp hi
  have hmem : n ∈ ns := List.mem_of_getElem? hi
  have hperm : (ns.eraseIdx i).Perm (ns.erase n) := by
    have h1 : (n :: ns.eraseIdx i).Perm ns := by
      have := List.getElem_cons_eraseIdx_perm hlt
      rwa [hget] at this
    exact (h1.trans (List.perm_cons_erase hmem)).cons_inv
  rw [← hperm.mem_iff, List.mem_eraseIdx_iff_getElem?]
  constructor
  · rintro ⟨j, h1, h2⟩; exact ⟨j, h2, h1⟩
  · rintro ⟨j, h1, h2⟩; exact ⟨j, h2, h1⟩

theorem other_position_perm (ns ns' : List Note) (hp : ns.Perm ns') (i i' : Nat) (n : Note)
    (hi : ns[i]? = some n) (hi' : ns'[i']? = some n) (m : Note) :
    (∃ j, ns[j]? = some m ∧ j ≠ i) ↔ (∃ j, ns'[j]? = some m ∧ j ≠ i') := by
  rw [other_position_iff ns i n hi, other_position_iff ns' i' n hi', (hp.erase n).mem_iff]

theorem mem_restrikes_perm (ns ns' : List Note) (hp : ns.Perm ns') (i i' : Nat) (n : Note)
    (hi : ns[i]? = some n) (hi' : ns'[i']? = some n) (t : Rat) :
    t ∈ restrikes ns i n ↔ t ∈ restrikes ns' i' n := by
  simp only [mem_restrikes', other_position_perm ns ns' hp i i' n hi hi']

theorem spec_perm (ns ns' : List Note) (cs : List Control) (thr : Int) (hp : ns.Perm ns') (i i' : Nat) (n : Note)
    (hi : ns[i]? = some n) (hi' : ns'[i']? = some n) :
    soundOffSpec ns cs thr i n = soundOffSpec ns' cs thr i' n := by
  unfold soundOffSpec
  rw [closing_perm ns ns' _ hp]
  split
  · unfold minOf
    apply Lists.foldl_min_congr
    intro y
    simp only [List.mem_append]
    rw [mem_restrikes_perm ns ns' hp i i' n hi hi' y]
  · rfl

/-- the sounding end of the note `n` of the list `ns` (at its first position; `spec_perm`: at any) -/
def specOf (ns : List Note) (cs : List Control) (thr : Int) (n : Note) : Rat :=
  soundOffSpec ns cs thr (ns.idxOf n) n

theorem specOf_no_controls (ns : List Note) (thr : Int) (n : Note) : specOf ns [] thr n = n.off :=
  soundOffSpec_up rfl

theorem spec_eq_specOf (ns : List Note) (cs : List Control) (thr : Int) (i : Nat) (n : Note) (hi : ns[i]? = some n) :
    soundOffSpec ns cs thr i n = specOf ns cs thr n :=
  spec_perm ns ns cs thr (List.Perm.refl _) i _ n hi (List.getElem?_idxOf (List.mem_of_getElem? hi))

theorem specOf_perm (ns ns' : List Note) (cs : List Control) (thr : Int) (hp : ns.Perm ns') (n : Note) (hn : n ∈ ns) :
    specOf ns cs thr n = specOf ns' cs thr n :=
  spec_perm ns ns' cs thr hp _ _ n (List.getElem?_idxOf hn) (List.getElem?_idxOf (hp.mem_iff.mp hn))

theorem soundOffs_eq_map (ns : List Note) (cs : List Control) (thr : Int) :
    soundOffs ns cs thr = some (ns.map (specOf ns cs thr)) := by
  rw [soundOffs_eq]
  congr 1
  rw [← map_zipIdx_fst (specOf ns cs thr) ns 0]
  apply List.map_congr_left
  intro m hm
  exact spec_eq_specOf ns cs thr m.2 m.1 (List.mem_zipIdx_iff_getElem?.mp hm)

theorem setThreshold_eq (p : Part) (thr : Int) :
    setThreshold p thr = some { p with sound := p.notes.map (specOf p.notes p.controls thr), thr := thr } := by
  rw [setThreshold, soundOffs_eq_map]

theorem rethreshold_eq (p : Part) (ts : List Int) :
    rethreshold p ts = some (ts.map (fun t => p.notes.map (specOf p.notes p.controls t))) := by
  induction ts generalizing p with
  | nil => rfl
  | cons t rest ih =>
    unfold rethreshold
    rw [setThreshold_eq]
    simp only
    rw [ih]
    rfl

theorem buildPart_eq (ns : List Note) (cs : List Control) (thr : Int) :
    buildPart ns cs thr = if ns.all validNote then some ⟨ns, ns.map (specOf ns cs thr), cs, thr⟩ else none := by
  rw [buildPart, setThreshold_eq]

theorem buildPart_eq_some (ns : List Note) (cs : List Control) (thr : Int) (p : Part) :
    buildPart ns cs thr = some p ↔
      (∀ n ∈ ns, validNote n = true) ∧ p = ⟨ns, ns.map (specOf ns cs thr), cs, thr⟩ := by
  rw [buildPart_eq, ← List.all_eq_true]
  split
  · rw [Option.some.injEq]
    exact ⟨fun h => ⟨‹_›, h.symm⟩, fun h => h.2.symm⟩
  · exact ⟨fun h => (by cases h), fun h => absurd h.1 ‹_›⟩

end C14P
