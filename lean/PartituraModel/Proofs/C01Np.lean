/-
C01 helper lemmas: the numpy primitives as algorithms (Model/TimelineExt.lean) and the list
operations of Model/Timeline.lean that stand for them; `quarter_duration_map` on rational times.
-/
import PartituraModel.Model.TimelineExt
import PartituraModel.Proofs.C01Points
import PartituraModel.Proofs.Lists
import Mathlib.Algebra.Order.Ring.Cast
import Mathlib.Algebra.Order.Field.Rat

namespace TL

/-- `r` is the insertion index of `key` (side="left"): everything before is smaller, nothing from `r` on is -/
def IsLB (a : List Int) (key : Int) (r : Nat) : Prop :=
  r ≤ a.length ∧ (∀ j x, j < r → a[j]? = some x → x < key) ∧ (∀ j x, r ≤ j → a[j]? = some x → key ≤ x)

theorem isLB_unique {a : List Int} {key : Int} {r r' : Nat} (h : IsLB a key r) (h' : IsLB a key r') : r = r' := by
  rcases Nat.lt_trichotomy r r' with hlt | heq | hgt
  · have hlen : r < a.length := by have := h'.1; omega
    have hx : a[r]? = some a[r] := List.getElem?_eq_getElem hlen
    have h1 := h'.2.1 r _ hlt hx
    have h2 := h.2.2 r _ (Nat.le_refl r) hx
    omega
  · exact heq
  · have hlen : r' < a.length := by have := h.1; omega
    have hx : a[r']? = some a[r'] := List.getElem?_eq_getElem hlen
    have h1 := h.2.1 r' _ hgt hx
    have h2 := h'.2.2 r' _ (Nat.le_refl r') hx
    omega

theorem sorted_getElem? {a : List Int} (hs : a.Pairwise (· ≤ ·)) {i j : Nat} {x y : Int}
    (hi : a[i]? = some x) (hj : a[j]? = some y) (hij : i ≤ j) : x ≤ y :=
  Lists.pairwise_getElem?_of_le Int.le_refl hs hij hi hj

theorem searchsorted_le_length (a : List Int) (key : Int) : searchsorted a key ≤ a.length := by
  induction a with
  | nil => simp [searchsorted]
  | cons x xs ih =>
    simp only [searchsorted]
    split
    · simp; omega
    · simp

theorem searchsorted_isLB {a : List Int} (hs : a.Pairwise (· ≤ ·)) (key : Int) : IsLB a key (searchsorted a key) := by
  obtain ⟨pre, post, rfl, h1, h2, hlen⟩ := searchsorted_split id a key
  rw [List.map_id] at hlen
  rw [hlen]
  refine ⟨by simp, fun j x hj hx => ?_, fun j x hj hx => ?_⟩
  · rw [List.getElem?_append_left hj] at hx
    exact h1 x (List.mem_of_getElem? hx)
  · rw [List.getElem?_append_right hj] at hx
    cases post with
    | nil => simp at hx
    | cons b r =>
      have hb : key ≤ b := h2 b (by simp)
      rcases List.mem_cons.mp (List.mem_of_getElem? hx) with rfl | hr
      · exact hb
      · have := (List.pairwise_cons.mp (List.pairwise_append.mp hs).2.1).1 x hr
        omega

theorem bsearchLoop_isLB {a : List Int} (hs : a.Pairwise (· ≤ ·)) (key : Int) (fuel : Nat) :
    ∀ lo hi, lo ≤ hi → hi ≤ a.length → hi - lo ≤ fuel →
      (∀ j x, j < lo → a[j]? = some x → x < key) → (∀ j x, hi ≤ j → a[j]? = some x → key ≤ x) →
      IsLB a key (bsearchLoop a key fuel lo hi) := by
  induction fuel with
  | zero =>
    intro lo hi h1 h2 h3 hA hB
    have : lo = hi := by omega
    subst this
    exact ⟨h2, hA, hB⟩
  | succ fuel ih =>
    intro lo hi h1 h2 h3 hA hB
    simp only [bsearchLoop]
    by_cases hlt : lo < hi
    · simp only [hlt, if_true]
      have hmid1 : lo ≤ lo + (hi - lo) / 2 := by omega
      have hmid2 : lo + (hi - lo) / 2 < hi := by omega
      have hlen : lo + (hi - lo) / 2 < a.length := by omega
      have hx : a[lo + (hi - lo) / 2]? = some a[lo + (hi - lo) / 2] := List.getElem?_eq_getElem hlen
      rw [hx]
      simp only
      by_cases hc : a[lo + (hi - lo) / 2] < key
      · simp only [hc, if_true]
        apply ih _ _ (by omega) h2 (by omega) _ hB
        intro j x hj hjx
        have := sorted_getElem? hs hjx hx (by omega)
        omega
      · simp only [hc, if_false]
        apply ih _ _ hmid1 (by omega) (by omega) hA
        intro j x hj hjx
        have := sorted_getElem? hs hx hjx hj
        omega
    · simp only [hlt, if_false]
      have : lo = hi := by omega
      subst this
      exact ⟨h2, hA, hB⟩

theorem bsearch_isLB {a : List Int} (hs : a.Pairwise (· ≤ ·)) (key : Int) : IsLB a key (bsearch a key) := by
  unfold bsearch
  apply bsearchLoop_isLB hs key a.length 0 a.length (Nat.zero_le _) (Nat.le_refl _) (by omega)
  · intro j x hj; omega
  · intro j x hj hx
    have := (List.getElem?_eq_some_iff.mp hx).1
    omega

theorem le_of_lt_pairwise {a : List Int} (hs : a.Pairwise (· < ·)) : a.Pairwise (· ≤ ·) :=
  hs.imp (fun h => Int.le_of_lt h)

/-- on rational times it is the same scan as `qdAtAux`, with the test `(e.1 : Rat) ≤ x` -/
theorem qdAtAuxQ_scan (x : Rat) :
    Lists.IsPrevScan (fun e : Int × Nat => (e.1 : Rat) ≤ x) (·.2) (fun c l => qdAtAuxQ c l x) :=
  ⟨fun _ => rfl, fun _ _ _ => rfl⟩

theorem qdAtAuxQ_cast (cur : Nat) (l : List (Int × Nat)) (t : Int) : qdAtAuxQ cur l (t : Rat) = qdAtAux cur l t := by
  rw [(qdAtAuxQ_scan t).eq, (qdAtAux_scan t).eq]
  simp only [Int.cast_le]

theorem auxQ_head_gt (cur : Nat) (l : List (Int × Nat)) (x : Rat) (h : ∀ e ∈ l.head?, x < (e.1 : Rat)) :
    qdAtAuxQ cur l x = cur :=
  (qdAtAuxQ_scan x).of_head_neg cur fun a ha => not_le.mpr (h a ha)

theorem qdAtQ_spec {tab : List (Int × Nat)} (hs : (tab.map (·.1)).Pairwise (· < ·)) (x : Rat) :
    (∀ e ∈ tab, (e.1 : Rat) ≤ x → (∀ e' ∈ tab, (e'.1 : Rat) ≤ x → e'.1 ≤ e.1) → qdAtQ tab x = some e.2)
    ∧ ((∀ e ∈ tab, x < (e.1 : Rat)) → qdAtQ tab x = tab.head?.map (·.2)) := by
  constructor
  · intro e he hex hmax
    -- the table is in time order and the test is inherited backwards: the last entry that passes is the greatest
    have hc : Lists.Closed (fun a b : Int × Nat => a.1 < b.1) (fun e => (e.1 : Rat) ≤ x) tab :=
      ⟨List.pairwise_map.mp hs, fun _ _ hab hb => ((Int.cast_lt (R := Rat)).mpr hab).le.trans hb⟩
    have hlast := Lists.getLast?_filter_of_greatest hc.1 he hex fun b hb hbx => Int.not_lt.mpr (hmax b hb hbx)
    rw [← hc.takeWhile_eq_filter] at hlast
    cases tab with
    | nil => cases he
    | cons a r =>
      rw [qdAtQ]
      by_cases ha : (a.1 : Rat) ≤ x
      · have h0 : qdAtAuxQ 0 (a :: r) x = qdAtAuxQ a.2 r x := ((qdAtAuxQ_scan x).cons 0 a r).trans (if_pos ha)
        rw [← h0, (qdAtAuxQ_scan x).eq 0 (a :: r), hlast]; rfl
      · rw [List.takeWhile_cons_of_neg (by simpa using ha)] at hlast; cases hlast
  · intro hall
    cases tab with
    | nil => rfl
    | cons f r =>
      obtain ⟨a, b⟩ := f
      simp only [qdAtQ, List.head?_cons, Option.map_some]
      rw [auxQ_head_gt b r x]
      intro e he
      exact hall e (by simp [List.mem_of_mem_head? he])

end TL
