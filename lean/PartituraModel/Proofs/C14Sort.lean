/-
The list primitives of Model/Pedal.lean: the stable insertion sort `sortBy`, `searchsortedLeft`, `mapM'`.
The Proofs modules of C14 share the namespace `C14P`.
-/
import PartituraModel.Model.Pedal
import Mathlib.Data.List.Perm.Basic
import Mathlib.Tactic.Linarith
import Mathlib.Algebra.Order.Field.Rat
import PartituraModel.Proofs.Lists
import PartituraModel.Proofs.Orders
import PartituraModel.Proofs.Folds

namespace C14P
open Model Model.Pedal

variable {α : Type}

abbrev SortedBy (key : α → Rat) (l : List α) : Prop := l.Pairwise (fun a b => key a ≤ key b)

theorem isSort (key : α → Rat) :
    Lists.IsInsertionSort (fun a b => decide (key a ≤ key b)) (insertBy key) (sortBy key) :=
  ⟨fun _ => rfl, fun _ _ _ => by simp only [insertBy, decide_eq_true_eq], rfl, fun _ _ => rfl⟩

theorem sorted_sortBy (key : α → Rat) (l : List α) : SortedBy key (sortBy key l) :=
  (isSort key).pairwise_key l

theorem stable_sortBy (key : α → Rat) (t : Rat) (l : List α) :
    (sortBy key l).filter (fun a => decide (key a = t)) = l.filter (fun a => decide (key a = t)) :=
  (isSort key).filter (fun a b ha hb => by rw [of_decide_eq_true ha, of_decide_eq_true hb]; exact decide_eq_true (le_refl t)) l

theorem sortBy_map {β : Type} (key : β → Rat) (f : α → β) (l : List α) :
    sortBy key (l.map f) = (sortBy (fun a => key (f a)) l).map f :=
  (isSort fun a => key (f a)).map (isSort key) f (fun _ _ => rfl) l

theorem foldl_min_mono (x y : Rat) (l : List Rat) (h : x ≤ y) : l.foldl min x ≤ l.foldl min y := by
  induction l generalizing x y with
  | nil => exact h
  | cons z zs ih => exact ih _ _ (min_le_min_right z h)

theorem searchsortedLeft_cons (t : Rat) (ts : List Rat) (x : Rat) :
    searchsortedLeft (t :: ts) x = if t < x then searchsortedLeft ts x + 1 else 0 := by
  unfold searchsortedLeft
  rw [List.takeWhile_cons]
  by_cases h : t < x
  · rw [if_pos (decide_eq_true h), if_pos h, List.length_cons]
  · rw [if_neg (by simpa using h), if_neg h, List.length_nil]

theorem searchsortedLeft_le (l : List Rat) (x : Rat) : searchsortedLeft l x ≤ l.length :=
  (List.takeWhile_sublist _).length_le

theorem mapM'_eq_mapM {α β : Type} (f : α → Option β) (l : List α) : mapM' f l = l.mapM f :=
  Lists.eq_mapM (mapM' f) rfl (fun _ _ => rfl) l

theorem mapM'_eq_some_iff {α β : Type} (f : α → Option β) (l : List α) (bs : List β) :
    mapM' f l = some bs ↔ l.map f = bs.map some := by
  rw [mapM'_eq_mapM]; exact Lists.mapM_eq_some_iff

theorem mapM'_mem {α β : Type} {f : α → Option β} {l : List α} {bs : List β} (h : mapM' f l = some bs)
    (b : β) (hb : b ∈ bs) : ∃ a ∈ l, f a = some b :=
  Lists.mapM_mem (mapM'_eq_mapM f l ▸ h) b hb

theorem mapM'_exists {α β : Type} (f : α → Option β) (l : List α) (h : ∀ a ∈ l, ∃ b, f a = some b) :
    ∃ bs, mapM' f l = some bs :=
  mapM'_eq_mapM f l ▸ Lists.mapM_exists f l h

theorem mapM'_none_of_mem {α β : Type} (f : α → Option β) (l : List α) (a : α) (ha : a ∈ l) (h : f a = none) :
    mapM' f l = none :=
  mapM'_eq_mapM f l ▸ Lists.mapM_eq_none_iff.mpr ⟨a, ha, h⟩

theorem mapM'_eq_some {β : Type} (f : α → Option β) (g : α → β) (l : List α)
    (h : ∀ a ∈ l, f a = some (g a)) : mapM' f l = some (l.map g) := by
  rw [mapM'_eq_mapM]; exact Lists.mapM_eq_some_of_forall h

end C14P
