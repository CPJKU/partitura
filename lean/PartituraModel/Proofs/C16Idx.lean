/-
`_transpose_note_inplace` on step indices (`transposeIdx`, Model/Transpose.lean) in the coordinates (staff position,
MIDI pitch): the two determine the note (`coords_inj`), and `transposeIdx` is the translation by ((number − 1) mod 7
staff positions, `s` semitones) in them (`transposeIdx_iff`).  The regenerated tables enter through `base_table` only.
-/
import PartituraModel.Model.Transpose

namespace C16
open Model Gen

/-- the natural steps in closed form: step `i` of the scale lies ⌊(12·i + 5)/7⌋ semitones above C -/
theorem base_table : ∀ i ∈ List.range 7, basePcIdx i = some ((12 * (i : Int) + 5) / 7) := by decide +kernel

theorem basePc {i : Nat} (hi : i < 7) : basePcIdx i = some ((12 * (i : Int) + 5) / 7) :=
  base_table i (List.mem_range.mpr hi)

theorem stepIdx_lt (i n : Nat) (up : Bool) : transposeStepIdx i n up < 7 := by
  unfold transposeStepIdx
  split <;> omega

/-- `_transpose_step` as a remainder of integers -/
theorem stepIdx_cast (i : Nat) {n : Nat} (hn : 1 ≤ n) (up : Bool) :
    ((transposeStepIdx i n up : Nat) : Int) =
      (if up then (i : Int) + ((n : Int) - 1) else (i : Int) - ((n : Int) - 1)) % 7 := by
  unfold transposeStepIdx
  split <;> omega

/-- between two natural steps the distance modulo 12 is the plain distance, plus an octave when the target has the
    smaller index: the classes increase with the index and stay inside one octave -/
theorem wrap {i j : Nat} (hi : i < 7) (hj : j < 7) :
    ((12 * (j : Int) + 5) / 7 - (12 * (i : Int) + 5) / 7) % 12 =
      (12 * (j : Int) + 5) / 7 - (12 * (i : Int) + 5) / 7 + (if j < i then 12 else 0) := by
  split <;> omega

theorem coords_inj {j j' : Nat} (hj : j < 7) (hj' : j' < 7) {a a' o o' : Int}
    (hd : diatonicIdx j o = diatonicIdx j' o') (hm : midiIdx j a o = midiIdx j' a' o') :
    j = j' ∧ a = a' ∧ o = o' := by
  unfold diatonicIdx at hd
  -- 7·o + j with j < 7 determines o and j
  obtain ⟨rfl, rfl⟩ : j = j' ∧ o = o' := by omega
  simp only [midiIdx, basePc hj, Option.map_some, Option.some.injEq] at hm
  omega

theorem transposeIdx_moves {i : Nat} (hi : i < 7) (a o : Int) {n : Nat} (hn : 1 ≤ n) (s : Int) (up : Bool) :
    ∃ j a' o', transposeIdx i a o n s up = some (j, a', o') ∧ j < 7 ∧
      diatonicIdx j o' =
        (if up then diatonicIdx i o + ((n : Int) - 1) % 7 else diatonicIdx i o - ((n : Int) - 1) % 7) ∧
      midiIdx j a' o' = (midiIdx i a o).map (fun m => if up then m + s else m - s) := by
  have hc := stepIdx_cast i hn up
  have hj := stepIdx_lt i n up
  have hw := wrap hi hj
  have hw' := wrap hj hi
  simp only [transposeIdx, basePc hi, basePc hj]
  generalize transposeStepIdx i n up = j at hc hj hw hw' ⊢
  -- with the wrap facts in hand and the two classes as unknowns the rest is linear arithmetic
  cases up <;> simp only [Bool.false_eq_true, if_false, if_true] at hc ⊢ <;>
    refine ⟨_, _, _, rfl, hj, ?_, ?_⟩ <;>
    simp only [midiIdx, diatonicIdx, basePc hi, basePc hj, Option.map_some, Option.some.injEq] <;>
    generalize (12 * (j : Int) + 5) / 7 = bj at hw hw' ⊢ <;>
    generalize (12 * (i : Int) + 5) / 7 = bi at hw hw' ⊢ <;>
    omega

theorem transposeIdx_iff {i : Nat} (hi : i < 7) (a o : Int) {n : Nat} (hn : 1 ≤ n) (s : Int) (up : Bool)
    (j : Nat) (a' o' : Int) :
    transposeIdx i a o n s up = some (j, a', o') ↔
      j < 7 ∧
      diatonicIdx j o' =
        (if up then diatonicIdx i o + ((n : Int) - 1) % 7 else diatonicIdx i o - ((n : Int) - 1) % 7) ∧
      midiIdx j a' o' = (midiIdx i a o).map (fun m => if up then m + s else m - s) := by
  obtain ⟨j0, a0, o0, e, hj0, hd0, hm0⟩ := transposeIdx_moves hi a o hn s up
  rw [e]
  constructor
  · intro h
    obtain ⟨rfl, rfl, rfl⟩ : j0 = j ∧ a0 = a' ∧ o0 = o' := by simpa using h
    exact ⟨hj0, hd0, hm0⟩
  · rintro ⟨hj, hd, hm⟩
    obtain ⟨rfl, rfl, rfl⟩ := coords_inj hj0 hj (hd0.trans hd.symm) (hm0.trans hm.symm)
    rfl

theorem transposeIdx_lt {i : Nat} (hi : i < 7) {a o : Int} {n : Nat} (hn : 1 ≤ n) {s : Int} {up : Bool} {j : Nat}
    {a' o' : Int} (h : transposeIdx i a o n s up = some (j, a', o')) : j < 7 :=
  ((transposeIdx_iff hi a o hn s up j a' o').mp h).1

/-- transposing back by the same interval restores the note, in either order: the translation is undone -/
theorem there_and_back (i : Nat) (hi : i < 7) (a o : Int) (n : Nat) (hn : 1 ≤ n) (s : Int) (up : Bool)
    (j : Nat) (a' o' : Int) (h : transposeIdx i a o n s up = some (j, a', o')) :
    transposeIdx j a' o' n s (!up) = some (i, a, o) := by
  obtain ⟨hj, hd, hm⟩ := (transposeIdx_iff hi a o hn s up j a' o').mp h
  refine (transposeIdx_iff hj a' o' hn s (!up) i a o).mpr ⟨hi, ?_, ?_⟩
  · cases up <;> simp only [Bool.not_true, Bool.not_false, Bool.false_eq_true, if_false, if_true] at hd ⊢ <;> omega
  · rw [hm, midiIdx, basePc hi]
    cases up <;> simp

end C16
