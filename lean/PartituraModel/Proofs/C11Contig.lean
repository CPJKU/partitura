/-
C11 — what stage 1 of `tie_notes` keeps of every tie LINK of the list: any relation between the end, pitch,
voice and staff of a note and the start, pitch, voice and staff of the note it is tied to that holds for adjacent copies
— in particular "the next note starts where this one ends" (contiguity) and "same pitch, voice and staff".
With it `sanitize_part`'s tie check is discharged for the OUTPUT of `tie_notes`, not assumed.
-/
import PartituraModel.Proofs.C11Rows

namespace C11Contig
open Model Model.Dur Model.Meas C11Tie C11Walk C11Rows

/-- what a link relation may read of the two notes -/
abbrev Face := Nat × String × Option Int × Option Int

def outFace (n : Note) : Face := (n.stop, n.pitch, n.voice, n.staff)
def inFace (n : Note) : Face := (n.start, n.pitch, n.voice, n.staff)

/-- every tie link of the list (found by key, as the model follows links) satisfies `P` -/
def LinkRel (P : Face → Face → Prop) (ns : List Note) : Prop :=
  ∀ x n t nx, lk ns x = some n → n.tieNext = some t → lk ns t = some nx → P (outFace n) (inFace nx)

def NonNeg (ns : List Note) : Prop := ∀ x n, lk ns x = some n → n.start ≤ n.stop

theorem upTo_out {n n' : Note} (h : UpTo n n') : outFace n' = outFace n := by
  unfold outFace; rw [h.stop, h.pitch, h.voice, h.staff]

theorem upTo_in {n n' : Note} (h : UpTo n n') : inFace n' = inFace n := by
  unfold inFace; rw [h.start, h.pitch, h.voice, h.staff]

theorem _root_.C11Walk.Installed.linkRel {ns : List Note} {orig first : Note} {more : List Note} {r : Note → Note}
    {ns' : List Note} (h : Installed ns orig first more r ns') (P : Face → Face → Prop) (hP : ∀ f, P f f) (hlinks : LinksOK ns)
    (hnn : NonNeg ns) (hrel : LinkRel P ns) : NonNeg ns' ∧ LinkRel P ns' := by
  constructor
  · obtain ⟨ps, ht, sp⟩ := h.chain
    intro x n' hx
    obtain ⟨m, rfl, hm⟩ := h.inv x n' hx
    rw [(h.upTo m).start, (h.upTo m).stop]
    refine hm.elim (fun hm => Nat.le_of_lt ?_) fun hm => hnn x m hm.1
    have : (m.start, m.stop, m.sym) ∈ ps := by rw [← sp.bounds]; exact List.mem_map.mpr ⟨m, hm, rfl⟩
    exact ptiles_pos ps _ _ ht _ this
  · intro x n' t nx' hx htn ht'
    rcases h.link_cases hx htn with ⟨y, n, hn, hnt, e1, e2, e3, e4⟩ | ⟨m, _, b, _, rfl, _, hlk, _, hadj, b1, b2, b3⟩
    · -- an old link: what is found under the old target looks, from the side of the link, like what was there
      obtain ⟨nx0, hnx0, _⟩ := hlinks n (lk_some ns _ _ hn).2 t hnt
      obtain ⟨n0', hn0', f1, f2, f3, f4, _, _⟩ := h.rowKept t nx0 hnx0
      rw [hn0'] at ht'
      cases ht'
      have := hrel y n t nx0 hn hnt hnx0
      unfold outFace inFace at this ⊢
      rw [e1, e2, e3, e4, f1, f2, f3, f4]; exact this
    · rw [hlk] at ht'
      cases ht'
      have : inFace (r b) = outFace (r m) := by
        rw [upTo_in (h.upTo b), upTo_out (h.upTo m)]; unfold inFace outFace; rw [hadj, b1, b2, b3]
      rw [this]; exact hP _

theorem tieStage1_links (P : Face → Face → Prop) (hP : ∀ f, P f f) (qd : List (Int × Nat)) (ms : List Nat)
    (ns : List Note) (hkeys : KeysOK ns) (hlinks : LinksOK ns) (hnn : NonNeg ns) (hrel : LinkRel P ns) :
    NonNeg (tieStage1 qd ms ns) ∧ LinkRel P (tieStage1 qd ms ns) :=
  (tieStage1_induct_wf (fun cur => NonNeg cur ∧ LinkRel P cur) qd ms
    (fun _ _ _ _ _ _ _ l i hi => hi.linkRel P hP l i.1 i.2) ns hkeys hlinks ⟨hnn, hrel⟩).2.2

/-- the next note starts where this one ends -/
def adjP : Face → Face → Prop := fun a b => b.1 = a.1

/-- … and has the same pitch, voice and staff -/
def sameP : Face → Face → Prop := fun a b => b = a

theorem contigAll_iff (ns : List Note) (hkeys : KeysOK ns) : ContigAll ns ↔ NonNeg ns ∧ LinkRel adjP ns := by
  constructor
  · intro h
    refine ⟨fun x n hn => (h n (lk_some ns x n hn).2).1, ?_⟩
    intro x n t nx hn ht hx
    exact (h n (lk_some ns x n hn).2).2 t nx ht hx
  · rintro ⟨h1, h2⟩ n hn
    have hl := lk_self ns hkeys n hn
    exact ⟨h1 _ n hl, fun t nx ht hx => h2 n.key n t nx hl ht hx⟩

end C11Contig
