/-
C11 — `format_symbolic_duration` names the value: for type names without `.` and `_` the formatted string
determines type, dots and the tuplet ratio (Model/SymConv.lean `formatChars`).
-/
import PartituraModel.Model.SymConv
import PartituraModel.Proofs.Digits

namespace C11Conv
open Model Model.Dur Model.Meas Model.Conv Gen

theorem tupletSuffix_stops (p : Char → Bool) (hp : p '_' = false) (a n : Option Nat) :
    ∀ c ∈ (tupletSuffix a n).head?, p c = false := by
  unfold tupletSuffix
  split
  · exact fun c hc => by cases hc; exact hp
  · exact fun c hc => by cases hc

theorem tupletSuffix_eq_nil (a n : Option Nat) : tupletSuffix a n = [] ↔ ¬ (a.isSome ∧ n.isSome) := by
  cases a <;> cases n <;> simp [tupletSuffix]

theorem tupletSuffix_inj (a n a' n' : Option Nat) (h : tupletSuffix a n = tupletSuffix a' n') :
    ((a.isSome ∧ n.isSome) ↔ (a'.isSome ∧ n'.isSome)) ∧ (a.isSome → n.isSome → a = a' ∧ n = n') := by
  have hiff : (a.isSome ∧ n.isSome) ↔ (a'.isSome ∧ n'.isSome) := by
    rw [← not_iff_not, ← tupletSuffix_eq_nil, ← tupletSuffix_eq_nil, h]
  refine ⟨hiff, fun ha hn => ?_⟩
  obtain ⟨ha', hn'⟩ := hiff.mp ⟨ha, hn⟩
  obtain ⟨x, rfl⟩ := Option.isSome_iff_exists.mp ha
  obtain ⟨y, rfl⟩ := Option.isSome_iff_exists.mp hn
  obtain ⟨x', rfl⟩ := Option.isSome_iff_exists.mp ha'
  obtain ⟨y', rfl⟩ := Option.isSome_iff_exists.mp hn'
  simp only [tupletSuffix] at h
  have h := List.tail_eq_of_cons_eq h
  have hs : ∀ k : Nat, ∀ c ∈ ('/' :: natDigits k).head?, c.isDigit = false := fun k c hc => by cases hc; rfl
  obtain ⟨e1, e2⟩ := Lists.run_unique (Digits.natDigits_isDigit x) (Digits.natDigits_isDigit x') (hs y) (hs y') h
  have e3 : natDigits y = natDigits y' := by simpa using e2
  simp [Digits.natDigits_inj e1, Digits.natDigits_inj e3]


def plainChar (c : Char) : Bool := c != '.' && c != '_'

theorem format_injective (ty ty' : String) (d d' : Nat) (a n a' n' : Option Nat)
    (hty : ∀ c ∈ ty.toList, plainChar c = true) (hty' : ∀ c ∈ ty'.toList, plainChar c = true)
    (h : formatChars (some (.single (ty, d, a, n))) = formatChars (some (.single (ty', d', a', n')))) :
    ty = ty' ∧ d = d' ∧ ((a.isSome ∧ n.isSome) ↔ (a'.isSome ∧ n'.isSome)) ∧ (a.isSome → n.isSome → a = a' ∧ n = n') := by
  simp only [formatChars, Option.some.injEq, List.append_assoc] at h
  have stop1 : ∀ (k : Nat) (x y : Option Nat), ∀ c ∈ (List.replicate k '.' ++ tupletSuffix x y).head?, plainChar c = false := by
    intro k x y
    cases k with
    | zero => simpa using tupletSuffix_stops plainChar (by decide) x y
    | succ k => exact fun c hc => by cases hc; rfl
  obtain ⟨e1, e2⟩ := Lists.run_unique hty hty' (stop1 d a n) (stop1 d' a' n') h
  have hdot : ∀ k : Nat, ∀ c ∈ List.replicate k '.', (c == '.') = true := by
    intro k c hc; rw [List.eq_of_mem_replicate hc]; rfl
  obtain ⟨e3, e4⟩ := Lists.run_unique (p := (· == '.')) (hdot d) (hdot d')
    (tupletSuffix_stops _ (by decide) a n) (tupletSuffix_stops _ (by decide) a' n') e2
  have e5 : d = d' := by simpa using congrArg List.length e3
  obtain ⟨e6, e7⟩ := tupletSuffix_inj a n a' n' e4
  exact ⟨String.ext e1, e5, e6, e7⟩

theorem format_inj_on (sd sd' : SymDur) (hp : ∀ c ∈ sd.1.toList, plainChar c = true)
    (hp' : ∀ c ∈ sd'.1.toList, plainChar c = true) (hr : sd.2.2.1.isSome = sd.2.2.2.isSome)
    (hr' : sd'.2.2.1.isSome = sd'.2.2.2.isSome)
    (h : formatChars (some (.single sd)) = formatChars (some (.single sd'))) : sd = sd' := by
  obtain ⟨ty, d, a, n⟩ := sd
  obtain ⟨ty', d', a', n'⟩ := sd'
  obtain ⟨rfl, rfl, hiff, heq⟩ := format_injective ty ty' d d' a n a' n' hp hp' h
  cases a with
  | some x =>
    cases n with
    | some y => obtain ⟨rfl, rfl⟩ := heq rfl rfl; rfl
    | none => cases hr
  | none =>
    cases n with
    | some y => cases hr
    | none =>
      cases a' with
      | some x' =>
        cases n' with
        | some y' => cases (hiff.mpr ⟨rfl, rfl⟩).1
        | none => cases hr'
      | none =>
        cases n' with
        | some y' => cases hr'
        | none => rfl

theorem format_rows_injective (S : List SymDur) (a n : Nat) (hn : S.Nodup)
    (hS : ∀ sd ∈ S, sd.2.2 = (none, none) ∧ sd.1 ≠ "" ∧ sd.1 ≠ "unknown" ∧ ∀ c ∈ sd.1.toList, plainChar c = true) :
    ((S ++ S.map fun sd => (sd.1, sd.2.1, some a, some n)).map fun sd => formatChars (some (.single sd))).Nodup ∧
    ∀ sd ∈ S ++ S.map fun sd => (sd.1, sd.2.1, some a, some n),
      formatChars (some (.single sd)) ≠ formatChars none ∧ formatChars (some (.single sd)) ≠ formatChars (some .empty) := by
  have hmem : ∀ sd ∈ S ++ S.map fun sd => (sd.1, sd.2.1, some a, some n), (∃ s ∈ S, sd.1 = s.1) ∧
      (sd.2.2 = (none, none) ∨ sd.2.2 = (some a, some n)) := by
    intro sd h
    rcases List.mem_append.mp h with h | h
    · exact ⟨⟨sd, h, rfl⟩, Or.inl (hS sd h).1⟩
    · obtain ⟨s, hs, rfl⟩ := List.mem_map.mp h
      exact ⟨⟨s, hs, rfl⟩, Or.inr rfl⟩
  have hplain : ∀ sd ∈ S ++ S.map fun sd => (sd.1, sd.2.1, some a, some n), ∀ c ∈ sd.1.toList, plainChar c = true := by
    intro sd h
    obtain ⟨⟨s, hs, e⟩, _⟩ := hmem sd h
    rw [e]; exact (hS s hs).2.2.2
  have hratio : ∀ sd ∈ S ++ S.map fun sd => (sd.1, sd.2.1, some a, some n), sd.2.2.1.isSome = sd.2.2.2.isSome := by
    intro sd h
    rcases (hmem sd h).2 with e | e <;> simp [e]
  have hL : (S ++ S.map fun sd => (sd.1, sd.2.1, some a, some n)).Nodup := by
    refine List.nodup_append.mpr ⟨hn, List.pairwise_map.mpr (hn.imp_of_mem ?_), ?_⟩
    · intro x y hx hy hne e
      have ex := (hS x hx).1
      have ey := (hS y hy).1
      obtain ⟨x1, x2, x3⟩ := x
      obtain ⟨y1, y2, y3⟩ := y
      cases ex; cases ey; cases e; exact hne rfl
    · intro x hx y hy e
      obtain ⟨s, _, rfl⟩ := List.mem_map.mp hy
      have := (hS _ hx).1
      rw [e] at this
      cases this
  refine ⟨List.pairwise_map.mpr (hL.imp_of_mem fun hx hy hne h => hne
    (format_inj_on _ _ (hplain _ hx) (hplain _ hy) (hratio _ hx) (hratio _ hy) h)), ?_⟩
  intro sd h
  obtain ⟨⟨s, hs, e⟩, _⟩ := hmem sd h
  have hp := hplain sd h
  obtain ⟨ty, d, a, n⟩ := sd
  constructor
  · intro h
    have := (format_injective ty "unknown" d 0 a n none none hp (by decide) h).1
    exact (hS s hs).2.2.1 (e ▸ this)
  · intro h
    have := (format_injective ty "" d 0 a n none none hp (by decide) h).1
    exact (hS s hs).2.1 (e ▸ this)

end C11Conv
