/-
C09: `argBest` returns the first of the best (for a strict weak order; maximum and first minimum are
instances), the choice `alignPick`, substring test `hasSub`.
-/
import PartituraModel.Proofs.C09Enum
import PartituraModel.Proofs.Scan
import PartituraModel.Model.UnfoldAlign

namespace C09
open Model.Unfold

theorem argBest_cons (better : Nat → Nat → Bool) (x : Nat) (l : List Nat) (i k b : Nat) :
    argBest better (x :: l) i (some (k, b)) =
      if better x b then argBest better l (i + 1) (some (i, x)) else argBest better l (i + 1) (some (k, b)) := by
  rw [argBest]; split <;> rfl

theorem argBest_top (better : Nat → Nat → Bool) (hirr : ∀ x, better x x = false)
    (htr : ∀ x y z, better x y = true → better y z = true → better x z = true)
    (hntr : ∀ x y z, better x y = false → better y z = false → better x z = false)
    (xs : List Nat) (k b : Nat) (h : argBest better xs 0 none = some (k, b)) :
    xs[k]? = some b ∧ (∀ x ∈ xs, better x b = false) ∧ ∀ m x, m < k → xs[m]? = some x → better b x = true := by
  cases xs with
  | nil => cases h
  | cons x xs =>
    obtain ⟨k', m, hm, h1, h2, h3⟩ := Lists.scan_first_min_getElem? (fun x y => better x y = true)
      (fun l i k b => argBest better l i (some (k, b))) (fun k b => some (k, b)) (fun _ _ _ => rfl) (argBest_cons better)
      (fun x => Bool.eq_false_iff.mp (hirr x)) htr
      (fun x y z h1 h2 => Bool.eq_false_iff.mp (hntr x y z (Bool.eq_false_iff.mpr h1) (Bool.eq_false_iff.mpr h2))) x xs
    obtain ⟨rfl, rfl⟩ := Prod.mk.inj (Option.some.inj (h.symm.trans hm))
    exact ⟨h1, fun x hx => Bool.eq_false_iff.mpr (h2 x hx), h3⟩

theorem argBest_max_top (xs : List Nat) (k b : Nat) (h : argBest (fun x y => y < x) xs 0 none = some (k, b)) :
    b ∈ xs ∧ ∀ x ∈ xs, x ≤ b := by
  obtain ⟨h1, h2, _⟩ := argBest_top (fun x y => y < x) (by simp) (by simp only [decide_eq_true_eq]; omega)
    (by simp only [decide_eq_false_iff_not]; omega) xs k b h
  exact ⟨List.mem_of_getElem? h1, fun x hx => by simpa using h2 x hx⟩

theorem argBest_min_top (xs : List Nat) (k b : Nat) (h : argBest (fun x y => x < y) xs 0 none = some (k, b)) :
    xs[k]? = some b ∧ (∀ x ∈ xs, b ≤ x) ∧ ∀ m x, m < k → xs[m]? = some x → b < x := by
  obtain ⟨h1, h2, h3⟩ := argBest_top (fun x y => x < y) (by simp) (by simp only [decide_eq_true_eq]; omega)
    (by simp only [decide_eq_false_iff_not]; omega) xs k b h
  exact ⟨h1, fun x hx => by simpa using h2 x hx, fun m x hm hx => by simpa using h3 m x hm hx⟩

theorem argBest_some (better : Nat → Nat → Bool) (xs : List Nat) : ∀ (i : Nat) (acc : Option (Nat × Nat)),
    (xs ≠ [] ∨ acc ≠ none) → ∃ r, argBest better xs i acc = some r := by
  induction xs with
  | nil =>
    intro i acc h
    rcases h with h | h
    · exact absurd rfl h
    · cases acc with
      | none => exact absurd rfl h
      | some r => exact ⟨r, rfl⟩
  | cons x xs ih =>
    intro i acc _
    cases acc with
    | none => simp only [argBest]; exact ih _ _ (Or.inr (by simp))
    | some jy =>
      obtain ⟨j, y⟩ := jy
      simp only [argBest]
      exact ih _ _ (Or.inr (by split <;> simp))

/-- coverage of a variant: how many of the alignment's ids are ids of its (first-of-a-tie) notes -/
def covOf (ids : List String) (v : Variant) : Nat := (ids.filter fun a => (tiedIds v).contains (some a)).length

def lenOf (v : Variant) : Nat := (tiedIds v).length

theorem zip_map_get {α : Type} (f g : α → Nat) (l : List α) (k : Nat) (c : Nat × Nat)
    (h : ((l.map f).zip (l.map g))[k]? = some c) : ∃ v, l[k]? = some v ∧ c = (f v, g v) := by
  rw [List.getElem?_zip_eq_some] at h
  obtain ⟨h1, h2⟩ := h
  rw [List.getElem?_map] at h1 h2
  cases hv : l[k]? with
  | none => simp [hv] at h1
  | some v =>
    simp only [hv, Option.map_some, Option.some.injEq] at h1 h2
    exact ⟨v, rfl, Prod.ext h1.symm h2.symm⟩

theorem zip_map_get' {α : Type} (f g : α → Nat) (l : List α) (k : Nat) (v : α) (h : l[k]? = some v) :
    ((l.map f).zip (l.map g))[k]? = some (f v, g v) := by
  rw [List.getElem?_zip_eq_some]
  simp [List.getElem?_map, h]

theorem pairwise_pos {β : Type} (l : List (Nat × β)) (h : l.Pairwise (fun a b => a.1 < b.1)) (m r : Nat) (a b : Nat × β)
    (hm : l[m]? = some a) (hr : l[r]? = some b) (hlt : a.1 < b.1) : m < r := by
  rcases Nat.lt_trichotomy m r with h1 | h1 | h1
  · exact h1
  · subst h1; rw [hm] at hr; cases hr; omega
  · have := Lists.pairwise_getElem? h h1 hr hm; omega

/-- the variants with coverage `best`, as `alignPick` lists them: position, coverage, number of notes -/
def bestIdx (cs : List Variant) (ids : List String) (best : Nat) : List (Nat × Nat × Nat) :=
  (enum 0 ((cs.map (covOf ids)).zip (cs.map lenOf))).filter fun q => q.2.1 = best

theorem alignPick_eq (cs : List Variant) (ids : List String) (hids : ids ≠ []) :
    alignPick cs ids =
      match argBest (fun x y => y < x) (cs.map (covOf ids)) 0 none with
      | none => none
      | some (_, best) =>
        (argBest (fun x y => x < y) ((bestIdx cs ids best).map (·.2.2)) 0 none).bind fun r =>
          ((bestIdx cs ids best)[r.1]?).map (·.1) := by
  unfold alignPick
  have hne : ids.isEmpty = false := by cases ids with
    | nil => exact absurd rfl hids
    | cons _ _ => rfl
  rw [hne]
  rfl

theorem mem_bestIdx (cs : List Variant) (ids : List String) (best j c l : Nat) :
    (j, (c, l)) ∈ bestIdx cs ids best ↔ ∃ v, cs[j]? = some v ∧ c = covOf ids v ∧ l = lenOf v ∧ c = best := by
  unfold bestIdx
  rw [List.mem_filter, enum_mem]
  constructor
  · rintro ⟨⟨_, hz⟩, hb⟩
    obtain ⟨v, hv, hc⟩ := zip_map_get (covOf ids) lenOf cs j (c, l) (by simpa using hz)
    simp only [Prod.mk.injEq] at hc
    exact ⟨v, hv, hc.1, hc.2, by simpa using hb⟩
  · rintro ⟨v, hv, rfl, rfl, hb⟩
    exact ⟨⟨Nat.zero_le _, by simpa using zip_map_get' (covOf ids) lenOf cs j v hv⟩, by simpa using hb⟩

/-- the choice of `unfold_part_alignment`: an index of a variant with the greatest coverage, among those one with the
fewest notes -/
theorem alignPick_spec (cs : List Variant) (ids : List String) (k : Nat) (h : alignPick cs ids = some k) :
    ids ≠ [] ∧ ∃ v, cs[k]? = some v ∧
      (∀ (j : Nat) v', cs[j]? = some v' → covOf ids v' ≤ covOf ids v) ∧
      (∀ (j : Nat) v', cs[j]? = some v' → covOf ids v' = covOf ids v → lenOf v ≤ lenOf v') ∧
      (∀ (j : Nat) v', cs[j]? = some v' → covOf ids v' = covOf ids v → lenOf v' = lenOf v → k ≤ j) := by
  have hids : ids ≠ [] := by
    intro he
    subst he
    simp [alignPick] at h
  refine ⟨hids, ?_⟩
  rw [alignPick_eq cs ids hids] at h
  cases hbest : argBest (fun x y => y < x) (cs.map (covOf ids)) 0 none with
  | none => rw [hbest] at h; cases h
  | some kb =>
    obtain ⟨kk, best⟩ := kb
    rw [hbest] at h
    simp only at h
    obtain ⟨_, hb1⟩ := argBest_max_top _ kk best hbest
    cases hr : argBest (fun x y => x < y) ((bestIdx cs ids best).map (·.2.2)) 0 none with
    | none => rw [hr] at h; cases h
    | some r =>
      obtain ⟨ri, rb⟩ := r
      rw [hr] at h
      simp only [Option.bind_some] at h
      obtain ⟨m1, m2, m3⟩ := argBest_min_top _ ri rb hr
      cases hq : (bestIdx cs ids best)[ri]? with
      | none => rw [hq] at h; cases h
      | some q =>
        obtain ⟨qi, qc, ql⟩ := q
        rw [hq] at h
        simp only [Option.map_some, Option.some.injEq] at h
        subst h
        rw [List.getElem?_map, hq] at m1
        simp only [Option.map_some, Option.some.injEq] at m1
        obtain ⟨v, hv, hc1, hc2, hq2⟩ := (mem_bestIdx cs ids best qi qc ql).mp (List.mem_of_getElem? hq)
        have hmemOf : ∀ (j : Nat) v', cs[j]? = some v' → covOf ids v' = covOf ids v →
            (j, (covOf ids v', lenOf v')) ∈ bestIdx cs ids best :=
          fun j v' hv' hcov => (mem_bestIdx cs ids best j _ _).mpr ⟨v', hv', rfl, rfl, by omega⟩
        refine ⟨v, hv, ?_, ?_, ?_⟩
        · intro j v' hv'
          have := hb1 _ (List.mem_map.mpr ⟨v', List.mem_of_getElem? hv', rfl⟩)
          omega
        · intro j v' hv' hcov
          have := m2 (lenOf v') (List.mem_map.mpr ⟨_, hmemOf j v' hv' hcov, rfl⟩)
          omega
        · -- the first of the shortest: positions in `bestIdx` increase with the index of the variant
          intro j v' hv' hcov hlen
          by_cases hjk : qi ≤ j
          · exact hjk
          · exfalso
            obtain ⟨m, hm⟩ := List.getElem?_of_mem (hmemOf j v' hv' hcov)
            have hpw : (bestIdx cs ids best).Pairwise (fun a b => a.1 < b.1) := (enum_pairwise_idx _ 0).filter _
            have hmr := pairwise_pos _ hpw m ri _ _ hm hq (by show j < qi; omega)
            have := m3 m (lenOf v') hmr (by rw [List.getElem?_map, hm]; rfl)
            omega

theorem alignPick_total (cs : List Variant) (ids : List String) (hi : ids ≠ []) (hc : cs ≠ []) :
    ∃ k, alignPick cs ids = some k := by
  rw [alignPick_eq cs ids hi]
  obtain ⟨⟨kk, best⟩, hbest⟩ := argBest_some (fun x y => y < x) (cs.map (covOf ids)) 0 none (Or.inl (by simpa using hc))
  rw [hbest]
  simp only
  obtain ⟨hb3, _⟩ := argBest_max_top _ kk best hbest
  obtain ⟨v, hv, hvb⟩ := List.mem_map.mp hb3
  obtain ⟨j, hj⟩ := List.getElem?_of_mem hv
  have hmem := (mem_bestIdx cs ids best j _ _).mpr ⟨v, hj, rfl, rfl, hvb⟩
  have hne2 : (bestIdx cs ids best).map (·.2.2) ≠ [] := by
    intro he
    rw [List.map_eq_nil_iff] at he
    rw [he] at hmem
    cases hmem
  obtain ⟨⟨ri, rb⟩, hr⟩ := argBest_some (fun x y => x < y) _ 0 none (Or.inl hne2)
  obtain ⟨m1, _, _⟩ := argBest_min_top _ ri rb hr
  rw [List.getElem?_map] at m1
  cases hq : (bestIdx cs ids best)[ri]? with
  | none => rw [hq] at m1; cases m1
  | some q => exact ⟨q.1, by rw [hr, Option.bind_some, hq]; rfl⟩

theorem isPrefixOf_append_self (sub rest : List Char) : sub.isPrefixOf (sub ++ rest) = true :=
  List.isPrefixOf_iff_prefix.mpr (List.prefix_append sub rest)

theorem hasSub_isContains : Lists.IsContains hasSub := ⟨fun _ => rfl, fun _ _ _ => rfl⟩

theorem hasSub_append (sub l : List Char) : hasSub sub (l ++ sub) = true := by
  simpa using hasSub_isContains.append sub l []

theorem filterMap_of_map_some {α β : Type} (f : α → Option β) : ∀ (l : List α) (r : List β),
    l.map f = r.map some → r = l.filterMap f
  | [], [], _ => rfl
  | a :: l, b :: r, h => by
    obtain ⟨h1, h2⟩ := List.cons.inj h
    rw [List.filterMap_cons, h1, ← filterMap_of_map_some f l r h2]

/-- the first loop of `unfold_part_alignment`: the score ids of the entries that count, all of them or a KeyError -/
theorem alignIds_eq (al : List AEntry) : alignIds al = (al.filter (·.counts)).mapM (·.sid) := by
  fun_induction alignIds al with
  | case1 => rfl
  | case2 e rest hc hs => simp [hc, hs]
  | case3 e rest hc s hs ih =>
    simp only [List.filter_cons, hc, if_true, List.mapM_cons, hs, ih]
    cases List.mapM (fun x : AEntry => x.sid) (List.filter (fun x => x.counts) rest) <;> rfl
  | case4 e rest hc ih => simp [hc, ih]

end C09
