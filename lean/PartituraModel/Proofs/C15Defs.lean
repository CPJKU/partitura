/-
C15: definitions used in the statements of Props/C15.lean (hypotheses, and the concrete parts of the
non-vacuity examples).
-/
import PartituraModel.Model.Merge

namespace C15
open Model.Merge

/-- voice and staff numbers start from 1 (MusicXML; "voice numbers start from 1" in `merge_parts`) -/
def NumberedFrom1 (ps : List APart) : Prop :=
  ∀ p ∈ ps, ∀ e ∈ allElems p, (∀ v ∈ e.voice, 1 ≤ v) ∧ (∀ s ∈ e.staff, 1 ≤ s)

/-- part A, divisions 3: a quarter note tied to a half note (voice 1), a rest alone in voice 2, a note without staff,
measure, time signature, a clef on an empty second staff, a fermata -/
def exA : APart := { pid := 0, divs := 3, elems := [
  { oid := 0, cls := classId "Note", start := 0, stop := some 3, voice := some 1, staff := some 1, pitch := some 60, tiePrev := false, chain := [4] },
  { oid := 1, cls := classId "Rest", start := 0, stop := some 9, voice := some 2, staff := some 1, pitch := none, tiePrev := false, chain := [] },
  { oid := 2, cls := classId "Clef", start := 0, stop := none, voice := none, staff := some 2, pitch := none, tiePrev := false, chain := [] },
  { oid := 3, cls := classId "Measure", start := 0, stop := some 12, voice := none, staff := none, pitch := none, tiePrev := false, chain := [] },
  { oid := 4, cls := classId "Note", start := 3, stop := some 9, voice := some 1, staff := some 1, pitch := some 60, tiePrev := true, chain := [] },
  { oid := 5, cls := classId "Note", start := 9, stop := some 12, voice := some 1, staff := none, pitch := some 64, tiePrev := false, chain := [] }] }

/-- part B, divisions 4: two notes in voices 1 and 3, a grace note, a measure, a tempo, words on staff 1; a slur that
ends with the last note and whose start is not in the score (on the timeline by its end only) -/
def exB : APart := { pid := 1, divs := 4, elems := [
  { oid := 10, cls := classId "Note", start := 0, stop := some 6, voice := some 1, staff := some 1, pitch := some 48, tiePrev := false, chain := [] },
  { oid := 11, cls := classId "GraceNote", start := 0, stop := some 0, voice := some 1, staff := some 1, pitch := some 50, tiePrev := false, chain := [] },
  { oid := 12, cls := classId "Measure", start := 0, stop := some 16, voice := none, staff := none, pitch := none, tiePrev := false, chain := [] },
  { oid := 13, cls := classId "Tempo", start := 0, stop := none, voice := none, staff := none, pitch := none, tiePrev := false, chain := [] },
  { oid := 14, cls := classId "Words", start := 0, stop := none, voice := none, staff := some 1, pitch := none, tiePrev := false, chain := [] },
  { oid := 15, cls := classId "Note", start := 6, stop := some 16, voice := some 3, staff := none, pitch := some 55, tiePrev := false, chain := [] }], tails := [
  { oid := 16, cls := classId "Slur", start := 0, stop := some 16, voice := none, staff := none, pitch := none, tiePrev := false, chain := [], refs := [15] }] }

/-- part C, divisions 2: five simultaneous voices on one staff -/
def exC : APart := { pid := 2, divs := 2, elems := (List.range 5).map fun v =>
  { oid := 20 + v, cls := classId "Note", start := 0, stop := some 2, voice := some (v + 1), staff := some 1, pitch := some 60, tiePrev := false, chain := [] } }

/-- part D, divisions 2: one note in voice 1 -/
def exD : APart := { pid := 3, divs := 2, elems := [
  { oid := 30, cls := classId "Note", start := 0, stop := some 2, voice := some 1, staff := some 1, pitch := some 72, tiePrev := false, chain := [] }] }

/-- what the examples show of a result -/
def summary : Result → Nat × List (Nat × Nat × Option Nat × Option Nat × Option Nat)
  | .merged L es => (L, es.map fun e => (e.oid, e.start, e.stop, e.voice, e.staff))
  | .same p => (0, p.elems.map fun e => (e.oid, e.start, e.stop, e.voice, e.staff))

end C15
