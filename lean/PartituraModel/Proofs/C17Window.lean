/-
C17: the incremental chroma vectors of compute_chroma_vector_array are the pitch-class counts of
the window [j - K_pre, j + K_post) — hence non-negative and ≥ 1 at the note's own chroma when
K_post ≥ 1 — and the morph chosen by compute_morph_array is the morph some tonic chroma assigns.
-/
import PartituraModel.Proofs.C17Ps13
import PartituraModel.Proofs.Lists
import Mathlib.Data.List.Count
import Mathlib.Tactic.Linarith

namespace C17P
open Model Model.Ps13 Gen

/-- number of notes of chroma `c` among the first `k` -/
def cnt (ch : List Nat) (c k : Nat) : Int := ((ch.take k).count c : Int)

/-- count of chroma `c` in the window of note `j` -/
def win (ch : List Nat) (a b j c : Nat) : Int := cnt ch c (j + b) - cnt ch c (j - a)

theorem cnt_zero (ch : List Nat) (c : Nat) : cnt ch c 0 = 0 := by simp [cnt]

theorem cnt_succ (ch : List Nat) (c k : Nat) (hk : k < ch.length) :
    cnt ch c (k + 1) = cnt ch c k + (if ch[k] = c then 1 else 0) := by
  simp only [cnt, List.take_add_one, List.getElem?_eq_getElem hk, Option.toList_some, List.count_append,
    List.count_singleton]
  split <;> simp_all

theorem cnt_ge (ch : List Nat) (c k k' : Nat) (hk : ch.length ≤ k) (hk' : ch.length ≤ k') :
    cnt ch c k = cnt ch c k' := by
  simp only [cnt, List.take_of_length_le hk, List.take_of_length_le hk']

theorem cnt_mono (ch : List Nat) (c k k' : Nat) (h : k ≤ k') : cnt ch c k ≤ cnt ch c k' := by
  simp only [cnt]
  have : (ch.take k).Sublist (ch.take k') := by
    have e : ch.take k = (ch.take k').take k := by rw [List.take_take]; congr 1; omega
    rw [e]; exact List.take_sublist _ _
  exact_mod_cast this.count_le c

theorem foldl_bump (l : List Nat) : ∀ (v : CVec) (c : Nat),
    (l.foldl (fun v x => v.bump x 1) v).get c = v.get c + (l.count c : Int) := by
  induction l with
  | nil => intro v c; simp
  | cons x xs ih =>
    intro v c
    rw [List.foldl_cons, ih]
    simp only [CVec.bump, List.count_cons]
    by_cases h : c = x
    · subst h; simp; ring
    · have h' : ¬ (x == c) = true := by simpa using fun e => h e.symm
      simp [h, h']

theorem initVec_eq (ch : List Nat) (a b c : Nat) : (initVec ch b).get c = win ch a b 0 c := by
  simp only [initVec, foldl_bump, CVec.zero, win, cnt, Nat.zero_add, Nat.zero_sub, List.take_zero,
    List.count_nil]
  simp

theorem bumpAt_eq (ch : List Nat) (v : CVec) (k : Nat) (d : Int) (c : Nat) (hk : k < ch.length) :
    (bumpAt ch v k d).get c = v.get c + (if ch[k] = c then d else 0) := by
  simp only [bumpAt, List.getElem?_eq_getElem hk, CVec.bump]
  by_cases h : ch[k] = c
  · simp [h]
  · have : ¬ c = ch[k] := fun e => h e.symm
    simp [h, this]

theorem stepVec_eq (ch : List Nat) (a b : Nat) (v : CVec) (i : Nat) (hi1 : 1 ≤ i) (hin : i < ch.length)
    (hv : ∀ c, v.get c = win ch a b (i - 1) c) : ∀ c, (stepVec ch a b v i).get c = win ch a b i c := by
  intro c
  simp only [stepVec, win]
  have e1 : (if i + b ≤ ch.length then bumpAt ch v (i + b - 1) 1 else v).get c =
      cnt ch c (i + b) - cnt ch c (i - 1 - a) := by
    split
    · rename_i h
      rw [bumpAt_eq ch v _ 1 c (by omega), hv c]
      simp only [win]
      have := cnt_succ ch c (i + b - 1) (by omega)
      rw [show i + b - 1 + 1 = i + b by omega] at this
      rw [this, show i - 1 + b = i + b - 1 by omega]
      ring
    · rename_i h
      rw [hv c]
      simp only [win]
      rw [cnt_ge ch c (i - 1 + b) (i + b) (by omega) (by omega)]
  split
  · rename_i h
    rw [bumpAt_eq ch _ _ (-1) c (by omega), e1]
    have := cnt_succ ch c (i - a - 1) (by omega)
    rw [show i - a - 1 + 1 = i - a by omega] at this
    rw [this, show i - 1 - a = i - a - 1 by omega]
    split <;> ring
  · rename_i h
    rw [e1, show i - 1 - a = 0 by omega, show i - a = 0 by omega]

theorem vecLoop_eq (ch : List Nat) (a b : Nat) : ∀ (fuel i : Nat) (v : CVec), 1 ≤ i → i + fuel ≤ ch.length →
    (∀ c, v.get c = win ch a b (i - 1) c) →
    ∀ p, p < fuel → ∃ w, (vecLoop ch a b fuel i v)[p]? = some w ∧ ∀ c, w.get c = win ch a b (i + p) c := by
  intro fuel
  induction fuel with
  | zero => intro i v _ _ _ p hp; omega
  | succ n ih =>
    intro i v hi1 hin hv p hp
    have hstep := stepVec_eq ch a b v i hi1 (by omega) hv
    cases p with
    | zero => exact ⟨stepVec ch a b v i, by simp [vecLoop], by simpa using hstep⟩
    | succ q =>
      obtain ⟨w, hw, hc⟩ := ih (i + 1) (stepVec ch a b v i) (by omega) (by omega) (by simpa using hstep) q (by omega)
      refine ⟨w, by simpa [vecLoop] using hw, ?_⟩
      intro c; rw [hc c]; congr 1; omega

/-- `chroma_vector_array[j][c]` is the number of notes of chroma `c` in the window of note `j` -/
theorem chromaVectors_eq (ch : List Nat) (a b j : Nat) (hj : j < ch.length) :
    ∃ w, (chromaVectors ch a b)[j]? = some w ∧ ∀ c, w.get c = win ch a b j c := by
  cases j with
  | zero => exact ⟨initVec ch b, by simp [chromaVectors], fun c => initVec_eq ch a b c⟩
  | succ q =>
    obtain ⟨w, hw, hc⟩ := vecLoop_eq ch a b (ch.length - 1) 1 (initVec ch b) (by omega) (by omega)
      (fun c => by simpa using initVec_eq ch a b c) q (by omega)
    refine ⟨w, by simpa [chromaVectors] using hw, ?_⟩
    intro c; rw [hc c]; congr 1; omega

theorem win_nonneg (ch : List Nat) (a b j c : Nat) : 0 ≤ win ch a b j c := by
  have := cnt_mono ch c (j - a) (j + b) (by omega)
  simp only [win]; omega

theorem win_self (ch : List Nat) (a b j : Nat) (hb : 1 ≤ b) (hj : j < ch.length) :
    1 ≤ win ch a b j ch[j] := by
  have h1 := cnt_mono ch ch[j] (j - a) j (by omega)
  have h2 := cnt_mono ch ch[j] (j + 1) (j + b) (by omega)
  have h3 := cnt_succ ch ch[j] j hj
  simp only [if_true] at h3
  simp only [win]; omega

theorem argBestNE_max (x : Int) (xs : List Int) :
    ∃ m, (x :: xs)[argBestNE (fun a b => decide (a > b)) x xs]? = some m ∧ ∀ (k : Nat) (y : Int), (x :: xs)[k]? = some y → y ≤ m := by
  obtain ⟨k, m, hm, h1, h2, -⟩ := Lists.scan_first_min_getElem? (fun a b : Int => decide (a > b) = true)
    (argBestAux _) (fun k _ => k) (fun _ _ _ => rfl) (fun _ _ _ _ _ => rfl) (by simp)
    (by simp only [decide_eq_true_eq]; omega) (by simp only [decide_eq_true_eq]; omega) x xs
  exact ⟨m, (show argBestNE _ x xs = k from hm) ▸ h1, fun j y hy => by simpa using h2 y (List.mem_of_getElem? hy)⟩

theorem sum_map_nonneg (v : Nat → Int) (hv : ∀ c, 0 ≤ v c) : ∀ l : List Nat, 0 ≤ (l.map v).sum := by
  intro l
  induction l with
  | nil => simp
  | cons a rest ih => simp only [List.map_cons, List.sum_cons]; have := hv a; omega

theorem sum_ge_of_mem (v : Nat → Int) (hv : ∀ c, 0 ≤ v c) : ∀ (l : List Nat) (x : Nat), x ∈ l → v x ≤ (l.map v).sum := by
  intro l
  induction l with
  | nil => intro x hx; simp at hx
  | cons a rest ih =>
    intro x hx
    simp only [List.map_cons, List.sum_cons]
    have hnn := sum_map_nonneg v hv rest
    rcases List.mem_cons.mp hx with h | h
    · subst h; omega
    · have := ih x h; have := hv a; omega

theorem morphOf_lt (c0 cj : Int) (v : CVec) : morphOf c0 cj v < 7 := by
  obtain ⟨m, hm, -⟩ := argBestNE_max (strength c0 cj v 0) ((List.range' 1 6).map (strength c0 cj v))
  have := (List.getElem?_eq_some_iff.mp hm).1
  rw [List.length_cons, List.length_map, List.length_range'] at this
  exact this

/-- the morph chosen for a note is the morph that SOME tonic chroma assigns to it, provided the
    note's own chroma is counted in its window -/
theorem morphOf_spec (c0 cj : Nat) (v : CVec) (hv : ∀ c, 0 ≤ v.get c) (hcj : cj < 12) (hself : 1 ≤ v.get cj) :
    ∃ ct : Nat, ct < 12 ∧ morphForTonic c0 cj ct = ((morphOf c0 cj v : Nat) : Int) := by
  let S : List Int := (List.range 7).map (strength c0 cj v)
  obtain ⟨m, hm, hmax⟩ := argBestNE_max (strength c0 cj v 0) ((List.range' 1 6).map (strength c0 cj v))
  change S[morphOf c0 cj v]? = some m at hm
  change ∀ (k : Nat) (x : Int), S[k]? = some x → x ≤ m at hmax
  have hrlt := morphOf_lt c0 cj v
  have hmval : m = strength c0 cj v (morphOf c0 cj v) := by
    simp only [S, List.getElem?_map, List.getElem?_range hrlt, Option.map_some, Option.some.injEq] at hm
    exact hm.symm
  -- the morph that the note's own chroma, taken as tonic, assigns
  have hmj0 : 0 ≤ morphForTonic c0 cj cj := by simp only [morphForTonic]; omega
  have hmj7 : morphForTonic c0 cj cj < 7 := by simp only [morphForTonic]; omega
  have hmjmem : cj ∈ tonicSet c0 cj (morphForTonic c0 cj cj).toNat := by
    simp only [tonicSet, List.mem_filter, List.mem_range, decide_eq_true_eq]
    exact ⟨hcj, by omega⟩
  have h1 : v.get cj ≤ strength c0 cj v (morphForTonic c0 cj cj).toNat := sum_ge_of_mem v.get hv _ _ hmjmem
  have h2 : strength c0 cj v (morphForTonic c0 cj cj).toNat ≤ m := by
    apply hmax (morphForTonic c0 cj cj).toNat
    simp only [S, List.getElem?_map, List.getElem?_range (show (morphForTonic c0 cj cj).toNat < 7 by omega), Option.map_some]
  have hpos : 0 < strength c0 cj v (morphOf c0 cj v) := by rw [← hmval]; omega
  have hne : tonicSet c0 cj (morphOf c0 cj v) ≠ [] := by
    intro e
    simp only [strength, e, List.map_nil, List.sum_nil] at hpos
    omega
  obtain ⟨ct, hct⟩ := List.exists_mem_of_ne_nil _ hne
  simp only [tonicSet, List.mem_filter, List.mem_range, decide_eq_true_eq] at hct
  exact ⟨ct, hct.1, hct.2⟩

theorem alter_bound_core (c0 cj : Nat) (hc0 : c0 < 12) (hcj : cj < 12) (cp : Int) (hcp : cp % 12 = (cj : Int))
    (v : CVec) (hv : ∀ c, 0 ≤ v.get c) (hself : 1 ≤ v.get cj) :
    -2 ≤ (p2pn cp (morpheticPitch cp ((morphOf c0 cj v : Nat) : Int))).2.1 ∧
    (p2pn cp (morpheticPitch cp ((morphOf c0 cj v : Nat) : Int))).2.1 ≤ 2 := by
  obtain ⟨ct, hct, hmorph⟩ := morphOf_spec c0 cj v hv hcj hself
  have htab := acc_table ⟨c0, hc0⟩ ⟨cj, hcj⟩ ⟨ct, hct⟩
  simp only [] at htab
  rw [hmorph] at htab
  have hal := alterOf_shift cp ((morphOf c0 cj v : Nat) : Int)
  rw [hcp] at hal
  rw [← hal] at htab
  exact htab

/-- `compute_chroma_array` of the sorted rows -/
def chromaOf (sorted : List Row) : List Nat :=
  List.map (fun c : Int => (c % 12).toNat) (List.map (fun r : Row => r.2 - 21) sorted)

theorem chromaOf_length (sorted : List Row) : (chromaOf sorted).length = sorted.length := by
  simp [chromaOf]

theorem chromaOf_getElem (sorted : List Row) (k : Nat) (hk : k < sorted.length) :
    (chromaOf sorted)[k]'(by rw [chromaOf_length]; exact hk) = ((sorted[k].2 - 21) % 12).toNat := by
  simp [chromaOf]

theorem chromaOf_head (sorted : List Row) : (chromaOf sorted).headD 0 < 12 := by
  cases hch' : chromaOf sorted with
  | nil => simp
  | cons x xs =>
    simp only [List.headD_cons]
    have : x ∈ chromaOf sorted := by rw [hch']; exact List.mem_cons_self
    simp only [chromaOf, List.mem_map] at this
    obtain ⟨c, _, rfl⟩ := this
    omega

theorem stage1_alter_bound (a b : Nat) (hb : 1 ≤ b) (sorted : List Row) :
    ∀ s ∈ stage1 a b sorted, -2 ≤ s.2.1 ∧ s.2.1 ≤ 2 := by
  intro s hs
  obtain ⟨k, hk, rfl⟩ := List.getElem_of_mem hs
  have hkn : k < sorted.length := by rw [stage1_length] at hk; exact hk
  have hkc : k < (chromaOf sorted).length := by rw [chromaOf_length]; exact hkn
  have hkv : k < (chromaVectors (chromaOf sorted) a b).length := by rw [chromaVectors_length]; omega
  have hform : (stage1 a b sorted)[k] =
      p2pn (sorted[k].2 - 21) (morpheticPitch (sorted[k].2 - 21)
        ((morphOf ((chromaOf sorted).headD 0) (((sorted[k].2 - 21) % 12).toNat)
          ((chromaVectors (chromaOf sorted) a b)[k]'hkv) : Nat) : Int)) := by
    simp only [stage1, morphArray, List.getElem_zipWith, List.getElem_map, chromaOf]
  rw [hform]
  obtain ⟨w, hw, hwin⟩ := chromaVectors_eq (chromaOf sorted) a b k hkc
  have hwk : (chromaVectors (chromaOf sorted) a b)[k]'hkv = w := by
    rw [List.getElem?_eq_getElem hkv] at hw
    exact Option.some.inj hw
  rw [hwk]
  have hself := win_self (chromaOf sorted) a b k hb hkc
  rw [chromaOf_getElem sorted k hkn, ← hwin] at hself
  exact alter_bound_core _ _ (chromaOf_head sorted) (by omega) (sorted[k].2 - 21) (by omega) w
    (fun c => by rw [hwin]; exact win_nonneg _ a b k c) hself

end C17P
