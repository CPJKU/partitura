/-
Consecutive intervals over a linear order: a `Chain R a b l` runs from `a` to `b` through the intervals of `l`, each with `R` between
its ends.  That a chain is ordered, lies between its ends, covers exactly what lies between them, and holds every interval that no
member starts strictly inside, is proved here once.  Users: the tilings of C11 (`C11Meas.tn_chain`, `C11Meas.sc_chain`,
`C11Tie.ptiles_chain`, `C11Rests.rtiles_chain`).
-/
import Mathlib.Order.Defs.LinearOrder

namespace C11Chain

/-- consecutive intervals from `a` to `b`, each with `R` between its ends -/
def Chain {K : Type} (R : K → K → Prop) : K → K → List (K × K) → Prop
  | a, b, [] => a = b
  | a, b, x :: l => x.1 = a ∧ R x.1 x.2 ∧ Chain R x.2 b l

section
variable {K : Type} [LinearOrder K] {R : K → K → Prop} (hR : ∀ x y, R x y → x ≤ y)
include hR

theorem chain_le : ∀ (l : List (K × K)) (a b : K), Chain R a b l → a ≤ b
  | [], _, _, h => le_of_eq h
  | x :: l, a, b, ⟨h1, h2, h3⟩ => h1 ▸ le_trans (hR _ _ h2) (chain_le l _ _ h3)

theorem chain_mem : ∀ (l : List (K × K)) (a b : K), Chain R a b l → ∀ x ∈ l, a ≤ x.1 ∧ R x.1 x.2 ∧ x.2 ≤ b
  | [], _, _, _, _, hx => absurd hx List.not_mem_nil
  | y :: l, a, b, ⟨h1, h2, h3⟩, x, hx => by
    rcases List.mem_cons.mp hx with rfl | hx
    · exact ⟨le_of_eq h1.symm, h2, chain_le hR l _ _ h3⟩
    · obtain ⟨i1, i2, i3⟩ := chain_mem l _ _ h3 x hx
      exact ⟨h1 ▸ le_trans (hR _ _ h2) i1, i2, i3⟩

theorem chain_pairwise : ∀ (l : List (K × K)) (a b : K), Chain R a b l → l.Pairwise fun x y => x.2 ≤ y.1
  | [], _, _, _ => List.Pairwise.nil
  | _ :: l, _, _, ⟨_, _, h3⟩ =>
    List.pairwise_cons.mpr ⟨fun y hy => (chain_mem hR l _ _ h3 y hy).1, chain_pairwise l _ _ h3⟩

theorem chain_cover : ∀ (l : List (K × K)) (a b : K), Chain R a b l → ∀ t : K,
    ((∃ x ∈ l, x.1 ≤ t ∧ t < x.2) ↔ (a ≤ t ∧ t < b))
  | [], a, b, h, t => by
    cases (h : a = b)
    exact ⟨fun ⟨_, hx, _⟩ => absurd hx List.not_mem_nil, fun ⟨h1, h2⟩ => absurd h2 (not_lt.mpr h1)⟩
  | y :: l, a, b, ⟨h1, h2, h3⟩, t => by
    have ih := chain_cover l _ _ h3 t
    have hle := chain_le hR l _ _ h3
    subst h1
    constructor
    · rintro ⟨x, hx, c1, c2⟩
      rcases List.mem_cons.mp hx with rfl | hx
      · exact ⟨c1, lt_of_lt_of_le c2 hle⟩
      · obtain ⟨d1, d2⟩ := ih.mp ⟨x, hx, c1, c2⟩
        exact ⟨le_trans (hR _ _ h2) d1, d2⟩
    · rintro ⟨c1, c2⟩
      by_cases hc : t < y.2
      · exact ⟨y, List.mem_cons_self, c1, hc⟩
      · obtain ⟨x, hx, d⟩ := ih.mpr ⟨not_lt.mp hc, c2⟩
        exact ⟨x, List.mem_cons_of_mem _ hx, d⟩

end

section
variable {K : Type} [LinearOrder K] {R : K → K → Prop}

/-- an interval no member of the chain starts strictly inside lies within ONE member -/
theorem chain_within (hR : ∀ x y, R x y → x ≤ y) : ∀ (l : List (K × K)) (a b : K), Chain R a b l → ∀ s e : K, a ≤ s → s < e → e ≤ b →
    (∀ x ∈ l, ¬ (s < x.1 ∧ x.1 < e)) → ∃ x ∈ l, x.1 ≤ s ∧ e ≤ x.2
  | [], a, b, h, s, e, h1, h2, h3, _ => by
    cases (h : a = b); exact absurd (lt_of_lt_of_le (lt_of_le_of_lt h1 h2) h3) (lt_irrefl _)
  | y :: l, a, b, ⟨e1, _, e3⟩, s, e, h1, h2, h3, hno => by
    by_cases hs : s < y.2
    · refine ⟨y, List.mem_cons_self, e1 ▸ h1, le_of_not_gt fun hlt => ?_⟩
      cases l with
      | nil => cases (e3 : y.2 = b); exact absurd (lt_of_lt_of_le hlt h3) (lt_irrefl _)
      | cons z l' => exact hno z (List.mem_cons_of_mem _ List.mem_cons_self) ⟨e3.1 ▸ hs, e3.1 ▸ hlt⟩
    · obtain ⟨x, hx, hh⟩ := chain_within hR l _ _ e3 s e (not_lt.mp hs) h2 h3 (fun x hx => hno x (List.mem_cons_of_mem _ hx))
      exact ⟨x, List.mem_cons_of_mem _ hx, hh⟩
end

end C11Chain
