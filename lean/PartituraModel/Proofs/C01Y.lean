/-
C01 helper lemmas: the machine `stepY` (Model/TimelineY.lean) — comparisons, the Tuplet setters, the shape of a step,
what an accepted operation keeps (`stepY_keeps`: a fresh memo, `WInv`, `ClsOk`, `Inv` under `ValidY`), and histories as
left folds of `nextY` (`runY_keeps`).
-/
import PartituraModel.Proofs.C01XStep
import PartituraModel.Model.TimelineY

namespace TL

/-- a comparison method of the generated table is the comparison its lambda denotes, applied to the two times in
the order of the arguments -/
theorem tpCompare_of_lookup {d sym : String} (h : lookupStr Gen.C01Views.cmpLambdas d = some sym) (a b : Int) :
    tpCompare d a b = cmpEval sym a b := by
  have hkey : Gen.C01Views.cmpKeyIsT = true := by decide
  have hswap : Gen.C01Views.compareSwapped = false := by decide
  unfold tpCompare
  rw [hkey, h, hswap]
  rfl

theorem lookupStr_mem {α : Type} {l : List (String × α)} {k : String} {v : α} (h : lookupStr l k = some v) :
    (k, v) ∈ l := by
  induction l with
  | nil => simp [lookupStr] at h
  | cons e rest ih =>
    obtain ⟨k', v'⟩ := e
    simp only [lookupStr] at h
    split at h
    · next hk =>
      simp only [Option.some.injEq] at h
      subst hk; subst h
      exact List.mem_cons_self
    · exact List.mem_cons_of_mem _ (ih h)

/-- the timeline effect of a Tuplet setter is nothing, or ONE `remove_*_object` at the point where the previous
note starts / ends -/
theorem tupletDetach_cases (s : Part) (sd : Side) (tup : ObjRef) (old note : Option ObjRef) :
    tupletDetach s sd tup old note = s
    ∨ ∃ n o t, note = some n ∧ old = some o ∧ ((getObj s.objs n).at sd).isSome ∧ (getObj s.objs o).at sd = some t
        ∧ tupletDetach s sd tup old note = tpUnregister s sd t tup := by
  unfold tupletDetach
  cases note with
  | none => exact Or.inl rfl
  | some n =>
    cases hn : (getObj s.objs n).at sd with
    | none => left; simp only [hn]
    | some tn =>
      cases old with
      | none => left; simp only [hn]
      | some o =>
        cases ho : (getObj s.objs o).at sd with
        | none => left; simp only [hn, ho]
        | some t => exact Or.inr ⟨n, o, t, rfl, rfl, by simp [hn], ho, by simp only [hn, ho]⟩

theorem tupletDetach_qtab (s : Part) (sd : Side) (tup : ObjRef) (old note : Option ObjRef) :
    (tupletDetach s sd tup old note).qtab = s.qtab := by
  rcases tupletDetach_cases s sd tup old note with he | ⟨n, o, t, -, -, -, -, he⟩
  · rw [he]
  · rw [he, tpUnregister_eq, allowEmpty_qtab]; rfl

/-- the invariant of all histories of the machine `stepY` -/
def YInv (y : YPart) : Prop := XInv y.c

/-- what a successful step of the machine `stepY` does to the part with its memo: nothing, one step of the
extended machine, or a tuplet detach on one side -/
theorem stepY_shape {staff : ObjRef → Option Nat} {y y' : YPart} {out : OutY} {op : OpY}
    (he : stepY staff y op = .ok (y', out)) :
    y'.c = y.c
    ∨ (∃ opx outx, op = .base opx ∧ stepX y.c opx = .ok (y'.c, outx))
    ∨ (∃ tup note, op = .tupletStart tup note
        ∧ y'.c = { y.c with part := tupletDetach y.c.part .start tup (assocGet y.tupStart tup) note })
    ∨ (∃ tup note, op = .tupletEnd tup note
        ∧ y'.c = { y.c with part := tupletDetach y.c.part .stop tup (assocGet y.tupEnd tup) note }) := by
  cases op with
  | base op =>
    simp only [stepY] at he
    cases hs : stepX y.c op with
    | error e => rw [hs] at he; cases he
    | ok r =>
      rw [hs] at he
      cases he
      exact Or.inr (Or.inl ⟨op, r.2, rfl, hs⟩)
  | tupletStart tup note =>
    simp only [stepY, Except.ok.injEq, Prod.mk.injEq] at he
    obtain ⟨rfl, -⟩ := he
    exact Or.inr (Or.inr (Or.inl ⟨tup, note, rfl, rfl⟩))
  | tupletEnd tup note =>
    simp only [stepY, Except.ok.injEq, Prod.mk.injEq] at he
    obtain ⟨rfl, -⟩ := he
    exact Or.inr (Or.inr (Or.inr ⟨tup, note, rfl, rfl⟩))
  | view name =>
    simp only [stepY, Except.ok.injEq, Prod.mk.injEq] at he
    obtain ⟨rfl, -⟩ := he
    exact Or.inl rfl
  | staves =>
    simp only [stepY, Except.ok.injEq, Prod.mk.injEq] at he
    obtain ⟨rfl, -⟩ := he
    unfold readStaves
    split <;> exact Or.inl rfl
  | duration o =>
    simp only [stepY, Except.ok.injEq, Prod.mk.injEq] at he
    obtain ⟨rfl, -⟩ := he
    exact Or.inl rfl

def OpY.negTime : OpY → Bool
  | .base op => op.negTime
  | _ => false

def nextY (staff : ObjRef → Option Nat) (y : YPart) (op : OpY) : YPart :=
  match stepY staff y op with
  | .ok (y', _) => y'
  | .error _ => y

theorem nextY_keeps {staff : ObjRef → Option Nat} {P : YPart → Prop} {y : YPart} {op : OpY} (hs : P y)
    (h : ∀ y' out, stepY staff y op = .ok (y', out) → P y') : P (nextY staff y op) := by
  unfold nextY; split
  · exact h _ _ ‹_›
  · exact hs

theorem runY_eq_foldl (staff : ObjRef → Option Nat) (y : YPart) (ops : List OpY) :
    runY staff y ops = ops.foldl (nextY staff) y :=
  Lists.run_eq_foldl_of (fun _ => rfl) (fun y op _ => by simp only [runY, nextY]; cases stepY staff y op <;> rfl) y ops

def OpY.clsOk : OpY → Prop
  | .base op => op.clsOk
  | .tupletStart tup _ => tup.cls < Gen.numClasses
  | .tupletEnd tup _ => tup.cls < Gen.numClasses
  | _ => True

instance (op : OpY) : Decidable op.clsOk := by
  cases op <;> simp only [OpY.clsOk] <;> infer_instance

/-- the arguments under which the machine `stepY` keeps the FULL invariant: `ValidX` for the operations of
`stepX`; a Tuplet setter only while the tuplet is registered where its previous note starts (ends) — the way
the importers use it -/
def tupletOk (s : Part) (sd : Side) (tup : ObjRef) (old : Option ObjRef) : Prop :=
  match old with
  | none => True
  | some o =>
    match (getObj s.objs o).at sd with
    | none => True
    | some t => (getObj s.objs tup).at sd = some t

instance (s : Part) (sd : Side) (tup : ObjRef) (old : Option ObjRef) : Decidable (tupletOk s sd tup old) := by
  unfold tupletOk
  split
  · infer_instance
  · split <;> infer_instance

theorem tupletOk_iff (s : Part) (sd : Side) (tup : ObjRef) (old : Option ObjRef) :
    tupletOk s sd tup old
      ↔ ∀ o, old = some o → ∀ t, (getObj s.objs o).at sd = some t → (getObj s.objs tup).at sd = some t := by
  unfold tupletOk
  cases old with
  | none => simp
  | some o =>
    cases h : (getObj s.objs o).at sd with
    | none => simp [h]
    | some t => simp [h]

def ValidY (y : YPart) : OpY → Prop
  | .base op => ValidX y.c op
  | .tupletStart tup _ => tupletOk y.c.part .start tup (assocGet y.tupStart tup)
  | .tupletEnd tup _ => tupletOk y.c.part .stop tup (assocGet y.tupEnd tup)
  | _ => True

instance (y : YPart) (op : OpY) : Decidable (ValidY y op) := by
  cases op <;> simp only [ValidY] <;> infer_instance

def ValidHistoryY (staff : ObjRef → Option Nat) (y : YPart) : List OpY → Prop
  | [] => True
  | op :: ops => ValidY y op ∧ ValidHistoryY staff (nextY staff y op) ops

instance (staff : ObjRef → Option Nat) : (y : YPart) → (ops : List OpY) → Decidable (ValidHistoryY staff y ops)
  | _, [] => isTrue trivial
  | y, op :: ops =>
    have := instDecidableValidHistoryY staff (nextY staff y op) ops
    inferInstanceAs (Decidable (ValidY y op ∧ ValidHistoryY staff (nextY staff y op) ops))

theorem tupletDetach_keeps {s : Part} {sd : Side} {tup : ObjRef} {old note : Option ObjRef} {qd : Prop} :
    Keeps s (tupletDetach s sd tup old note) qd (tup.cls < Gen.numClasses) (tupletOk s sd tup old) := by
  rcases tupletDetach_cases s sd tup old note with he | ⟨n, o, t, -, ho, -, hat, he⟩
  · rw [he]; exact .rfl
  · rw [he]
    exact ⟨tpUnregister_keeps.winv, tpUnregister_keeps (qd := qd).clsOk,
      fun h hv => tpUnregister_keeps (qd := qd).inv h ((tupletOk_iff _ _ _ _).mp hv o ho t hat)⟩

theorem stepY_keeps {staff : ObjRef → Option Nat} {y y' : YPart} {out : OutY} (hc : CacheOk y.c) {op : OpY}
    (he : stepY staff y op = .ok (y', out)) :
    CacheOk y'.c ∧ Keeps y.c.part y'.c.part op.qdNonneg op.clsOk (ValidY y op) := by
  rcases stepY_shape he with e | ⟨opx, outx, rfl, hs⟩ | ⟨tup, note, rfl, e⟩ | ⟨tup, note, rfl, e⟩
  · rw [e]; exact ⟨hc, .rfl⟩
  · exact stepX_keeps hc hs
  · rw [e]; exact ⟨cacheOk_same_table hc (tupletDetach_qtab _ _ _ _ _), tupletDetach_keeps⟩
  · rw [e]; exact ⟨cacheOk_same_table hc (tupletDetach_qtab _ _ _ _ _), tupletDetach_keeps⟩

theorem stepY_preserves {staff : ObjRef → Option Nat} {y y' : YPart} {out : OutY} (h : YInv y) {op : OpY}
    (hq : op.qdNonneg) (he : stepY staff y op = .ok (y', out)) : YInv y' :=
  ⟨(stepY_keeps h.2 he).2.winv h.1 hq, (stepY_keeps h.2 he).1⟩

/-- every history of `stepY` keeps `YInv`, and with it whatever the accepted operations keep under `YInv` and a
condition `C` on their arguments -/
theorem runY_keeps {staff : ObjRef → Option Nat} {K : YPart → Prop} {C : OpY → Prop}
    (hK : ∀ {y y' out op}, YInv y → K y → op.qdNonneg → C op → stepY staff y op = .ok (y', out) → K y')
    {y : YPart} (h : YInv y) (hk : K y) (ops : List OpY) (hq : ∀ op ∈ ops, op.qdNonneg) (hc : ∀ op ∈ ops, C op) :
    YInv (runY staff y ops) ∧ K (runY staff y ops) := by
  rw [runY_eq_foldl]
  exact Lists.foldl_keeps_all (nextY staff) (P := fun y => YInv y ∧ K y) (C := fun op => op.qdNonneg ∧ C op)
    (fun y op h hc => nextY_keeps (P := fun y => YInv y ∧ K y) h fun _ _ he =>
      ⟨stepY_preserves h.1 hc.1 he, hK h.1 h.2 hc.1 hc.2 he⟩)
    ops y ⟨h, hk⟩ fun op hop => ⟨hq op hop, hc op hop⟩

end TL
