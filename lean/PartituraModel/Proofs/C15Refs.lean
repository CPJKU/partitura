/-
C15: the hypotheses and predicates the statements name (beside `NumberedFrom1` and the example parts of
Proofs/C15Defs.lean), and what needs the model only: references between elements, flattening of nested groups,
histories of a Score, parts with several divisions values.
-/
import PartituraModel.Model.Merge
import PartituraModel.Proofs.Lists

namespace C15
open Model.Merge

/-- every Python object occurs once: the oids of all elements of all parts are pairwise different -/
def OidsDistinct (ps : List APart) : Prop := ((ps.flatMap (·.elems)).map (·.oid)).Nodup

/-- the notes a note is tied to are notes of the same part -/
def TiesClosed (ps : List APart) : Prop :=
  ∀ p ∈ ps, ∀ e ∈ p.elems, ∀ k ∈ e.chain, ∃ e2 ∈ p.elems, e2.oid = k ∧ isGeneric e2.cls = true

/-- every object - by its start or by its end only - occurs once in the inputs -/
def ObjectsDistinct (ps : List APart) : Prop :=
  ((ps.flatMap (·.elems)).map (·.oid) ++ (ps.flatMap (·.tails)).map (·.oid)).Nodup

/-- identities stand for objects: two entries with the same identity are the same part -/
def SameObject (ps : List APart) : Prop := ∀ a ∈ ps, ∀ b ∈ ps, a.pid = b.pid → a = b

/-- every reference of an object of a part points to an object of the same part -/
def RefsClosed (ps : List APart) : Prop :=
  ∀ p ∈ ps, ∀ e ∈ allElems p, ∀ r ∈ e.refs, ∃ t ∈ allElems p, t.oid = r

/-- the object with identity `k` is transferred to the merged part from some input -/
def Kept (m : Mode) (ps : List APart) (k : Nat) : Prop :=
  ∃ j q t, ps[j]? = some q ∧ t ∈ allElems q ∧ keep m (j == 0) t = true ∧ t.oid = k

/-- `names` (a class tuple of the source) describes exactly the classes `pred` over the whole class table:
`isinstance(e, names)` iff `pred (class of e)` -/
def Describes (names : List String) (pred : Nat → Bool) : Prop :=
  ∀ c ∈ List.range Gen.numClasses, (names.any fun n => isSub c (classId n)) = pred c

instance (names : List String) (pred : Nat → Bool) : Decidable (Describes names pred) := by
  unfold Describes; infer_instance

theorem hasOid_iff {es : List Elem} {k : Nat} : hasOid es k = true ↔ ∃ t ∈ es, t.oid = k := by
  simp [hasOid]

theorem mem_dangling {es : List Elem} {a r : Nat} :
    (a, r) ∈ dangling es ↔ ∃ e ∈ es, e.oid = a ∧ r ∈ e.refs ∧ ¬ ∃ t ∈ es, t.oid = r := by
  simp only [dangling, List.mem_flatMap, List.mem_map, List.mem_filter, Prod.mk.injEq,
    Bool.not_eq_true', ← Bool.not_eq_true, hasOid_iff]
  constructor
  · rintro ⟨e, he, r', ⟨hr, hn⟩, rfl, rfl⟩
    exact ⟨e, he, rfl, hr, hn⟩
  · rintro ⟨e, he, rfl, hr, hn⟩
    exact ⟨e, he, r, ⟨hr, hn⟩, rfl, rfl⟩

theorem flattenList_append (a b : List Tree) : flattenList (a ++ b) = flattenList a ++ flattenList b := by
  induction a with
  | nil => simp [flattenList]
  | cons t ts ih => simp [flattenList, ih, List.append_assoc]

theorem flattenList_parts (l : List APart) : flattenList (l.map .part) = l := by
  induction l with
  | nil => simp [flattenList]
  | cons p ps ih => simp [flattenList, flattenTree, ih]

theorem flattenTree_group (ts : List Tree) : flattenTree (.group ts) = flattenList ts := by
  simp [flattenTree]

theorem mkScore_parts (s : Shape) : (mkScore s).parts = iterParts s := by
  cases s <;> rfl

theorem runOps_append (sc : AScore) (a b : List ScoreOp) :
    runOps sc (a ++ b) = (runOps sc a).bind fun sc' => runOps sc' b :=
  Lists.run_append (fun sc o => o.run sc) runOps (fun _ => rfl) (fun _ _ _ => rfl) sc a b

theorem ScoreOp.run_structure {sc sc' : AScore} {o : ScoreOp} (h : o.run sc = some sc') :
    sc'.partStructure = sc.partStructure := by
  cases o with
  | setItem i p =>
    rw [ScoreOp.run] at h
    split at h <;> cases h
    rfl
  | pop i =>
    rw [ScoreOp.run] at h
    split at h <;> cases h
    rfl
  | assign ps => cases h; rfl
  | append p => cases h; rfl
  | reverse => cases h; rfl

theorem divsOf_eq_zero_of_length {qds : List Nat} (h : qds.length ≠ 1) : divsOf qds = 0 := by
  match qds with
  | [] => rfl
  | [d] => simp at h
  | _ :: _ :: _ => rfl

theorem mem_iff_of_subset {l l' : List String} (h : l ⊆ l' ∧ l' ⊆ l) (s : String) : s ∈ l ↔ s ∈ l' :=
  ⟨@h.1 s, @h.2 s⟩

/-- part E, divisions 2: two notes under a slur (oid 42), the first tied to the second, a fermata on the first -/
def exE : APart := { pid := 4, divs := 2, elems := [
  { oid := 40, cls := classId "Note", start := 0, stop := some 2, voice := some 1, staff := some 1, pitch := some 60, tiePrev := false, chain := [41], refs := [43, 42, 41] },
  { oid := 42, cls := classId "Slur", start := 0, stop := some 4, voice := none, staff := none, pitch := none, tiePrev := false, chain := [], refs := [41, 40] },
  { oid := 43, cls := classId "Fermata", start := 0, stop := none, voice := none, staff := none, pitch := none, tiePrev := false, chain := [], refs := [40] },
  { oid := 41, cls := classId "Note", start := 2, stop := some 4, voice := some 1, staff := some 1, pitch := some 60, tiePrev := true, chain := [], refs := [42, 40] }] }

end C15
