/-
C07 — the dispatch table of the generated templates: the format versions, the parser list of each, the
conditions under which the parsers tried before a kind reject a written line of that kind (`condsFor`), and the
one kernel evaluation of everything Props/C07Dispatch.lean computes from these tables (`dispatch_evaluated`).  It
rests on the definitions of Proofs/C07Dispatch.lean alone, on none of the line theorems.
-/
import PartituraModel.Proofs.C07Dispatch
import PartituraModel.Gen.MatchTemplates

namespace C07
open Model Model.Template Model.MatchCodec Model.MatchLine Gen

def allVersions : List (Nat × Nat × Nat) := [(0, 1, 0), (0, 2, 0), (0, 3, 0), (0, 4, 0), (0, 5, 0), (1, 0, 0)]

def orderOf (ver : Nat × Nat × Nat) : List String := if ver.1 ≥ 1 then dispatchOrderV1 else dispatchOrderV0

/-- the conditions under which the parsers tried before `k` reject a written line of kind `k` -/
def condsFor (ver : Nat × Nat × Nat) (k : String) : Option (List String × List String) :=
  match lineSyms matchTemplates matchComposites (verName ver ++ "/" ++ k) with
  | none => none
  | some syms => dispatchConds matchTemplates matchComposites ver syms ((orderOf ver).takeWhile (· != k))

/-- What Props/C07Dispatch.lean computes on the generated tables (one look-up for its last example apart), in ONE
    kernel evaluation: the
    structural check of the whole dispatch table, the number of kinds it covers, some of the conditions it yields
    (for the info line of every version: none, and its parser is a template of kind `info`), and the dispatch of
    one written line.  Looking a template up by name (string comparisons along the whole table) is by far the
    dearest step of each of them, and the kernel meets every look-up once when they are evaluated together. -/
theorem dispatch_evaluated :
    (∀ ver ∈ allVersions, ∀ k ∈ orderOf ver,
      (lineSyms matchTemplates matchComposites (verName ver ++ "/" ++ k)).isSome = true →
      (condsFor ver k).isSome = true) ∧
    (allVersions.flatMap fun ver => (orderOf ver).filter fun k =>
      (lineSyms matchTemplates matchComposites (verName ver ++ "/" ++ k)).isSome).length = 68 ∧
    condsFor (0, 5, 0) "no_played" = some
      (["a:Anchor", "a:NoteName", "a:Modifier", "a:Octave", "a:Measure", "a:Beat", "a:Offset", "a:Duration", "a:OnsetInBeats"],
       ["-deletion.", "-trailing_score_note."]) ∧
    (condsFor (0, 5, 0) "trill" = some ([], ["insertion-", "hammer_bounce-", "trailing_played_note-"]) ∧
      condsFor (1, 0, 0) "ornament" = some ([], ["insertion-"]) ∧ condsFor (1, 0, 0) "stime_ptime" = some ([], []) ∧
      condsFor (0, 3, 0) "meta" = some ([], []) ∧ condsFor (1, 0, 0) "section" = some ([], [])) ∧
    (∀ ver ∈ allVersions, condsFor ver "info" = some ([], []) ∧
      (findTpl matchTemplates (verName ver ++ "/" ++ "info")).map (·.kind) = some "info") ∧
    (dispatch matchTemplates matchComposites dispatchOrderV0 (0, 5, 0)
      "snote(n1,[C,n],4,1:1,0,1/4,0.0,1.0,[v1])-trailing_score_note.".toList).map (·.1) = some "trailing_score" := by
  -- the literal as a character list: see the remark at the first example of Props/C07.lean
  rw [String.toList_ofList]
  decide +kernel

end C07
