/-
C18 — `decode_performance`'s bookkeeping and the composition of the whole pipeline
`to_matched_score` → `encode_tempo` → (storage) → `decode_performance`.
-/
import PartituraModel.Proofs.C18Tempo
import PartituraModel.Proofs.C18Roundtrip
import PartituraModel.Proofs.C18Match
import PartituraModel.Proofs.C18Norm

namespace C18P
open Model Model.Codec

theorem getAll_range {α : Type} (l : List α) : getAll l (List.range' 0 l.length) = some l := by
  unfold getAll
  rw [allSome_eq_some]
  apply List.ext_getElem
  · simp
  · intro k h1 h2
    have hk : k < l.length := by simpa using h2
    simp [List.getElem?_eq_getElem hk]

theorem getAll_length {α : Type} (l : List α) (idx : List Nat) (out : List α) (h : getAll l idx = some out) :
    out.length = idx.length := by
  unfold getAll at h
  rw [allSome_eq_some] at h
  have := congrArg List.length h
  simpa using this.symm

theorem zipWith_enumFrom {α β γ : Type} (f : α → β → γ) (i : Nat) (l : List α) (m : List β) :
    List.zipWith (fun (s : Nat × α) p => f s.2 p) (enumFrom i l) m = List.zipWith f l m := by
  induction l generalizing i m with
  | nil => simp [enumFrom]
  | cons a as ih =>
    cases m with
    | nil => simp [enumFrom]
    | cons b bs => simp [enumFrom, ih]

theorem isort_enumFrom_of_sorted (info : List SRow)
    (hsorted : info.Pairwise (fun a b => lexLe (a.odiv, a.pitch) (b.odiv, b.pitch) = true)) :
    isort (fun (a b : Nat × SRow) => lexLe (a.2.odiv, a.2.pitch) (b.2.odiv, b.2.pitch)) (enumFrom 0 info)
      = enumFrom 0 info := by
  apply (isSort _).eq_self
  have : ((enumFrom 0 info).map Prod.snd).Pairwise (fun a b => lexLe (a.odiv, a.pitch) (b.odiv, b.pitch) = true) := by
    rw [enumFrom_map_snd]; exact hsorted
  exact List.pairwise_map.mp this

theorem decodePerformance_sorted (n : Norm) (ss : List SRow) (ids : List String) (ps : List ParamRow)
    (info : List SRow) (hinfo : selectRows ss ids = some info) (hlen : info.length = ps.length)
    (hsorted : info.Pairwise (fun a b => lexLe (a.odiv, a.pitch) (b.odiv, b.pitch) = true)) :
    decodePerformance n ss ids ps =
      (decodeTime n (List.zipWith mkDRow info ps)).map fun od =>
        zipWith3 (fun id (x : Rat × Rat) (p : ParamRow) => (id, x.1, x.2, decodeVel p.vel)) ids od ps := by
  unfold decodePerformance
  rw [hinfo]
  simp only [hlen, ne_eq, not_true_eq_false, if_false]
  rw [isort_enumFrom_of_sorted info hsorted, enumFrom_map_fst, hlen, getAll_range]
  simp only
  have hrows : List.zipWith (fun (s : Nat × SRow) (p : ParamRow) => mkDRow s.2 p)
      (enumFrom 0 info) ps = List.zipWith mkDRow info ps := zipWith_enumFrom mkDRow 0 info ps
  rw [hrows]
  cases decodeTime n (List.zipWith mkDRow info ps) <;> rfl

theorem lastIndexOf_none (x : String) (l : List String) (h : x ∉ l) : lastIndexOf x l = none := by
  induction l with
  | nil => rfl
  | cons a rest ih =>
    simp only [List.mem_cons, not_or] at h
    simp only [lastIndexOf, ih h.2]
    rw [if_neg (fun e => h.1 e.symm)]

theorem lastIndexOf_of_count_le_one (x : String) (l : List String) (i : Nat) (hc : l.count x ≤ 1) (h : l[i]? = some x) :
    lastIndexOf x l = some i := by
  induction l generalizing i with
  | nil => simp at h
  | cons a rest ih =>
    cases i with
    | zero =>
      simp only [List.getElem?_cons_zero, Option.some.injEq] at h
      subst h
      have hnot : a ∉ rest := by
        intro hm
        have := List.count_pos_iff.mpr hm
        simp only [List.count_cons_self] at hc
        omega
      simp only [lastIndexOf, lastIndexOf_none a rest hnot, if_true]
    | succ k =>
      simp only [List.getElem?_cons_succ] at h
      have hm : x ∈ rest := List.mem_of_getElem? h
      have hpos := List.count_pos_iff.mpr hm
      have hc' : rest.count x ≤ 1 := by
        have := List.count_le_count_cons (a := x) (b := a) (l := rest)
        omega
      simp only [lastIndexOf, ih k hc' h]

theorem lastIndexOf_nodup (x : String) (l : List String) (i : Nat) (hnd : l.Nodup) (h : l[i]? = some x) :
    lastIndexOf x l = some i :=
  lastIndexOf_of_count_le_one x l i (List.nodup_iff_count_le_one.mp hnd x) h

theorem selectRows_self (ss : List SRow) (hnd : (ss.map (·.id)).Nodup) : selectRows ss (ss.map (·.id)) = some ss := by
  unfold selectRows
  rw [allSome_eq_some]
  apply List.ext_getElem
  · simp
  · intro k h1 h2
    have hk : k < ss.length := by simpa using h2
    simp only [List.getElem_map]
    have : lastIndexOf (ss[k]).id (ss.map (·.id)) = some k := by
      apply lastIndexOf_nodup _ _ _ hnd
      simp [List.getElem?_eq_getElem hk]
    rw [this]
    simp [List.getElem?_eq_getElem hk]

theorem snoteIds_selectRows (ss : List SRow) (hnd : (ss.map (·.id)).Nodup) (rows : List MRow)
    (h : ∀ r ∈ rows, ∃ s, ss[r.sidx]? = some s) :
    ∃ info, snoteIds ss rows = some (info.map (·.id)) ∧ selectRows ss (info.map (·.id)) = some info ∧
      List.Forall₂ (fun (r : MRow) s => ss[r.sidx]? = some s) rows info := by
  induction rows with
  | nil => exact ⟨[], rfl, rfl, List.Forall₂.nil⟩
  | cons r rest ih =>
    obtain ⟨info, h1, h2, h3⟩ := ih (fun r hr => h r (List.mem_cons_of_mem _ hr))
    obtain ⟨s, hs⟩ := h r List.mem_cons_self
    -- unique ids: the dict of `decode_performance` finds the id at the row's own index
    have hl := lastIndexOf_nodup s.id _ r.sidx hnd (by simp [hs])
    refine ⟨s :: info, ?_, ?_, List.Forall₂.cons hs h3⟩
    · unfold snoteIds at h1 ⊢
      simp only [List.map_cons, allSome, hs, Option.map_some, h1]
    · unfold selectRows at h2 ⊢
      simp only [List.map_cons, allSome, hl, Option.bind_some, hs, h2, Option.map_some]

theorem lastIndexOf_get (x : String) (l : List String) (i : Nat) (h : lastIndexOf x l = some i) : l[i]? = some x := by
  induction l generalizing i with
  | nil => simp [lastIndexOf] at h
  | cons a rest ih =>
    simp only [lastIndexOf] at h
    split at h
    · rename_i k hk
      simp only [Option.some.injEq] at h
      subst h
      simpa using ih k hk
    · split at h
      · rename_i hax
        simp only [Option.some.injEq] at h
        subst h
        simp [hax]
      · cases h

theorem selectRows_spec (ss : List SRow) (ids : List String) (info : List SRow) (h : selectRows ss ids = some info) :
    List.Forall₂ (fun id (s : SRow) => s ∈ ss ∧ s.id = id) ids info := by
  refine ((allSome_map_eq_some_iff _ ids info).mp h).imp fun id s h1 => ?_
  obtain ⟨i, hi, h1⟩ := Option.bind_eq_some_iff.mp h1
  obtain ⟨a, ha, hid⟩ := map_getElem?_some _ _ _ _ (lastIndexOf_get _ _ _ hi)
  rw [ha] at h1
  cases h1
  exact ⟨List.mem_of_getElem? ha, hid⟩

theorem scatter_length {β : Type} (n : Nat) (T : List (Nat × β)) (l : List β) (h : scatter n T = some l) : l.length = n := by
  unfold scatter at h
  rw [allSome_eq_some] at h
  have := congrArg List.length h
  simpa using this.symm

theorem shiftMin_length (l : List (Rat × Rat)) : (shiftMin l).length = l.length := by
  cases l with
  | nil => rfl
  | cons a rest => obtain ⟨o, d⟩ := a; simp [shiftMin]

theorem decodeTime_length (n : Norm) (rs : List DRow) (l : List (Rat × Rat)) (h : decodeTime n rs = some l) :
    l.length = rs.length := by
  unfold decodeTime at h
  simp only at h
  split at h
  · split at h
    · rename_i l' hl'
      simp only [Option.some.injEq] at h
      rw [← h, shiftMin_length]
      exact scatter_length _ _ _ hl'
    · cases h
  · cases h

theorem zipWith3_map_fst {β γ δ : Type} (f : β → γ → δ) (as : List String) (bs : List β) (cs : List γ)
    (hb : bs.length = as.length) (hc : cs.length = as.length) :
    (zipWith3 (fun a b c => (a, f b c)) as bs cs).map Prod.fst = as := by
  rw [zipWith3_eq_map_zip, List.map_map]
  exact List.map_fst_zip (by rw [List.length_zip]; omega)

theorem selectRows_length (ss : List SRow) (ids : List String) (info : List SRow) (h : selectRows ss ids = some info) :
    info.length = ids.length := (selectRows_spec ss ids info h).length_eq.symm

/-- the beat periods the tempo-curve method `m` yields for the matched notes `ns` -/
def tempoOf (m : Method) (ns : List MNote) : Option (List Rat) :=
  match m with
  | .average => tempoAverage ns (encGroups ns)
  | .derivative => tempoDerivative ns (encGroups ns)
  | .given bp => if bp.length = (encGroups ns).length then some bp else none

theorem encode_eq_given (m : Method) (n : Norm) (sd : Rat) (ns : List MNote) (bp : List Rat)
    (h : tempoOf m ns = some bp) (hlen : bp.length = (encGroups ns).length) :
    encode m n sd ns = encode (.given bp) n sd ns := by
  unfold encode
  cases m with
  | average => simp only [tempoOf] at h; simp only [h, hlen, if_true]
  | derivative => simp only [tempoOf] at h; simp only [h, hlen, if_true]
  | given bp' =>
    simp only [tempoOf] at h
    split at h
    · simp only [Option.some.injEq] at h; subst h; rfl
    · cases h

theorem tempoOf_pos (m : Method) (hm : m = .average ∨ m = .derivative) (ns : List MNote) (hne : ns ≠ [])
    (hsd : ∀ x ∈ ns, 0 ≤ x.sd) (hpd : ∀ x ∈ ns, 0 ≤ x.pd) :
    ∃ bp, tempoOf m ns = some bp ∧ bp.length = (encGroups ns).length ∧ ∀ b ∈ bp, 0 < b := by
  rcases hm with rfl | rfl
  · exact tempoAverage_pos (goodGroups_enc ns hne) hsd hpd
  · exact tempoDerivative_pos (goodGroups_enc ns hne) hsd hpd

theorem mem_zip_map {α β : Type} (l : List α) (g : α → β) (a : α) (c : β) (h : (a, c) ∈ l.zip (l.map g)) : c = g a := by
  induction l with
  | nil => simp at h
  | cons x xs ih =>
    simp only [List.map_cons, List.zip_cons_cons, List.mem_cons, Prod.mk.injEq] at h
    rcases h with ⟨rfl, rfl⟩ | h
    · rfl
    · exact ih h

/-- the columns that the code stores as logarithms, read back through `F` (`2 ** log2 ·`) -/
def logCols (F : Rat → Rat) (n : Norm) (c : List Rat) : List Rat :=
  match n, c with
  | .log, [b] => [F b]
  | .ratioLog, [r, m] => [F r, m]
  | _, c => c

/-- what the decoder reads of an encoded row (time parameters, velocity) when the articulation
    ratio and the logarithmic tempo columns pass through `F` -/
def viaLog (F : Rat → Rat) (n : Norm) (p : TParam × Rat) : ParamRow :=
  ⟨p.1.timing, F p.1.ratio, logCols F n p.1.cols, p.2⟩

theorem logCols_scaleRow (F : Rat → Rat) (hF : ∀ r, 0 < r → F r = r) (n : Norm) (sd m b : Rat)
    (hb : 0 < b) (hm : 0 < m) : logCols F n (scaleRow n sd m b) = scaleRow n sd m b := by
  cases n <;> simp only [scaleRow, logCols]
  · rw [hF b hb]
  · rw [hF _ (div_pos hb hm)]

theorem artRatio_pos (b sd pd : Rat) (hb : 0 < b) (hpd : 0 < pd) : 0 < artRatio b sd pd := by
  unfold artRatio
  split
  · exact div_pos hb (by linarith)
  · rename_i h
    exact div_pos hpd (mul_pos hb (not_le.mp h))

/-- what the encoder stores of a note is read back unchanged through `F`: the articulation ratio and the
    logarithmic tempo columns are positive -/
theorem viaLog_stored (F : Rat → Rat) (hF : ∀ r, 0 < r → F r = r) (n : Norm) (sd m b e v : Rat) (x : MNote)
    (hb : 0 < b) (hm : 0 < m) (hpd : 0 < x.pd) :
    viaLog F n (⟨b, e - x.po, artRatio b x.sd x.pd, scaleRow n sd m b⟩, v)
      = ⟨e - x.po, artRatio b x.sd x.pd, scaleRow n sd m b, v⟩ := by
  simp only [viaLog]
  rw [hF _ (artRatio_pos b _ _ hb hpd), logCols_scaleRow F hF n sd m b hb hm]

theorem selectRows_trips (ss : List SRow) (ps : List PRow) (M : List Trip) (hM : ∀ t ∈ M, t.In ss ps)
    (hu : ∀ t ∈ M, lastIndexOf t.2.1.id (ss.map (·.id)) = some t.1.1) :
    selectRows ss (M.map (·.2.1.id)) = some (M.map (·.2.1)) := by
  unfold selectRows
  rw [allSome_eq_some, List.map_map, List.map_map]
  exact List.map_congr_left fun t ht => by simp [hu t ht, (hM t ht).1]

/-- `encode_performance` then `decode_performance` on a matched score given as the list `M` of its matches.  `F`
    stands for storing `log2 ·` and reading `2 ** ·` (articulation ratio, logarithmic tempo columns) and need only be
    the identity on positive numbers; `hu`: the id of every matched row is found at that row when searched from the
    end, as `decode_performance`'s dict does.

    Every list on the way is a map over `M` zipped with the encoder's output (`Z`), so each `zipWith` of the two
    functions is a map over `Z` and what is claimed of row `k` is shown for one member of `Z`. -/
theorem pipeline_roundtrip (F : Rat → Rat) (hF : ∀ r, 0 < r → F r = r)
    (m : Method) (hm : m = .average ∨ m = .derivative) (n : Norm) (sd : Rat)
    (ss : List SRow) (ps : List PRow) (al : List ARow) (M : List Trip)
    (hrows : toMatchedScore ss ps al = some (M.map Trip.row)) (hne : M ≠ [])
    (hM : ∀ t ∈ M, t.In ss ps)
    (hsorted : M.Pairwise (fun a b => lexLe (sKey ss a.1.1) (sKey ss b.1.1) = true))
    (hu : ∀ t ∈ M, lastIndexOf t.2.1.id (ss.map (·.id)) = some t.1.1)
    (hsd : ∀ s ∈ ss, 0 ≤ s.sd) (hvel : ∀ p ∈ ps, 1 ≤ p.vel ∧ p.vel ≤ 127)
    (hstd : ∀ bp, tempoOf m ((M.map Trip.row).map toMNote) = some bp → C18.StdOk n sd bp) :
    ∃ params, encodePerformance m n sd ss ps al = some (params, M.map (·.2.1.id)) ∧
      decodePerformance n ss (M.map (·.2.1.id)) (params.map (viaLog F n)) =
        some (M.map fun t => (t.2.1.id, t.2.2.po - minPo ((M.map Trip.row).map toMNote),
          if t.2.1.sd = 0 then 0 else t.row.pd, t.2.2.vel)) := by
  obtain ⟨ns, hns⟩ : ∃ ns, (M.map Trip.row).map toMNote = ns := ⟨_, rfl⟩
  have hnsne : ns ≠ [] := by rw [← hns]; simpa using hne
  -- a matched note has the duration of its score row and a tabled (clipped, so positive) performed duration
  have hdur : ∀ x ∈ ns, 0 ≤ x.sd ∧ 0 < x.pd := by
    rw [← hns, List.map_map]
    intro x hx
    obtain ⟨t, ht, rfl⟩ := List.mem_map.mp hx
    exact ⟨hsd _ (List.mem_of_getElem? (hM t ht).1), clip_pos t.2.2.pd⟩
  rw [hns] at hstd
  obtain ⟨bp, hbp, hbplen, hbppos⟩ := tempoOf_pos m hm ns hnsne (fun x hx => (hdur x hx).1) (fun x hx => (hdur x hx).2.le)
  obtain ⟨tps, ht1, htrows, ht3⟩ := codec_roundtrip_rows n sd ns bp hnsne hbplen hbppos (fun x hx => (hdur x hx).1)
    (scale_rescale n sd bp hbppos (hstd bp hbp))
  have hsel := selectRows_trips ss ps M hM hu
  have hinfo : (M.map (·.2.1)).Pairwise (fun a b => lexLe (a.odiv, a.pitch) (b.odiv, b.pitch) = true) := by
    rw [List.pairwise_map]
    refine hsorted.imp_of_mem fun {a b} ha hb h => ?_
    simpa [sKey, (hM a ha).1, (hM b hb).1] using h
  refine ⟨List.zipWith (fun t (r : MRow) => (t, encodeVel r.vel)) tps (M.map Trip.row), ?_, ?_⟩
  · unfold encodePerformance
    rw [hrows]
    simp only [hns, encode_eq_given m n sd ns bp hbp hbplen, ht1, snoteIds_trips ss ps M hM]
  rw [← hns, List.map_map, List.forall₂_map_left_iff] at htrows
  obtain ⟨Z, hZ1, hZ2, hZ⟩ := forall₂_exists_zip htrows
  rw [decodePerformance_sorted n ss _ _ _ hsel (by simp [htrows.length_eq]) hinfo]
  have hD : List.zipWith mkDRow (M.map (·.2.1))
      ((List.zipWith (fun t (r : MRow) => (t, encodeVel r.vel)) tps (M.map Trip.row)).map (viaLog F n))
      = List.zipWith toDRow ns tps := by
    rw [← hns, hZ1, hZ2]
    simp only [List.map_map, List.zipWith_map, List.zipWith_self]
    refine List.map_congr_left fun z hz => ?_
    obtain ⟨b, c, e, hbc, htp⟩ := hZ z hz
    have hb : 0 < b := hbppos b (List.of_mem_zip hbc).1
    have hc : c = scaleRow n sd (mean bp) b := by
      rw [scale_eq_map] at hbc
      exact mem_zip_map bp _ b c hbc
    have hmean : 0 < mean bp := mean_pos bp (by intro h0; rw [h0] at hbc; simp at hbc) hbppos
    simp only [Function.comp, htp, hc]
    rw [viaLog_stored F hF n sd (mean bp) b e _ _ hb hmean (show 0 < (toMNote z.1.row).pd from clip_pos _)]
    rfl
  rw [hD, ht3, ← hns, hZ1, hZ2]
  simp only [Option.map_some, Option.some.injEq, zipWith3_eq_map_zip, List.map_map, List.zipWith_map,
    List.zipWith_self, List.zip_map']
  refine List.map_congr_left fun z hz => ?_
  have hv := hvel _ (List.mem_of_getElem? (hM z.1 (hZ1 ▸ List.mem_map_of_mem hz)).2)
  simp [viaLog, decodeVel_encodeVel _ hv.1 hv.2, toMNote, Trip.row]

end C18P
