/-
C11 — `fill_rests` (measure-wise) over a whole part: with pairwise disjoint, non-empty measures the rests added
for one measure start and end inside it, so the window of every other measure never sees them — the fold over
`part.measures` adds, for every measure, exactly the rests computed from the ORIGINAL objects of that measure.
-/
import PartituraModel.Proofs.C11Rests

namespace C11RestsX
open Model Model.Dur Model.Meas Model.Rests Gen C11Rests

theorem measureRests_inside (qd : List (Int × Nat)) (hbig : ∀ t, divsAt qd t ≤ 1099511627776) (k : Nat) (ns : List GNote)
    (S E : Nat) (hSE : S < E)
    (hnat : ∀ n ∈ window (S : Rat) (E : Rat) ns, IsNat n.start ∧ IsNat n.stop)
    (hord : ∀ n ∈ window (S : Rat) (E : Rat) ns, n.start ≤ n.stop)
    (rests : List GNote) (h : measureRests qd k ns (S : Rat) (E : Rat) = some rests) :
    ∀ r ∈ rests, (S : Rat) ≤ r.start ∧ r.start < r.stop ∧ r.stop ≤ (E : Rat) := by
  intro r hr
  rcases (measureRests_inv qd k ns _ _ rests h).2.2 r hr with ⟨sp, hsp, hrsp⟩ | ⟨v, _, part, hv, hp2⟩
  · -- whole-measure rests of empty staves
    obtain ⟨_, q, hq, hrq⟩ := staffRests_mem qd k _ _ _ _ sp hsp r hrsp
    exact mkRests_inside true S E hSE _ (hbig _) _ _ _ q hq r hrq
  · set nv := (window (S : Rat) (E : Rat) ns).filter (fun n => decide (n.voice = v)) with hnv
    have hsub : ∀ n ∈ nv, n ∈ window (S : Rat) (E : Rat) ns := fun n hn => (List.mem_filter.mp hn).1
    obtain ⟨sp, hsp, staff, staffOf, q, hst, hq2⟩ := voiceRests_mem qd (S : Rat) (E : Rat) v nv part hv r hp2
    have hin : ∀ n ∈ nv, (S : Rat) ≤ n.start ∧ n.start < (E : Rat) ∧ n.start ≤ n.stop := by
      intro n hn
      have hw := hsub n hn
      have := (List.mem_filter.mp hw).2
      simp only [decide_eq_true_eq] at this
      exact ⟨this.1, this.2, hord n hw⟩
    obtain ⟨s1, s2, s3⟩ := voiceSpans_inside _ _ nv hin sp hsp
    obtain ⟨a, b, rfl, _⟩ := span_nat _ _ ⟨S, rfl⟩ ⟨E, rfl⟩ nv (fun n hn => hnat n (hsub n hn)) sp hsp
    have hab : a < b := by
      have s2' : (a : Rat) < (b : Rat) := s2
      exact_mod_cast s2' 
    obtain ⟨t1, t2, t3⟩ := mkRests_inside true a b hab _ (hbig _) v staff staffOf q hst r hq2
    simp only at s1 s3
    exact ⟨by linarith, t2, by linarith⟩

theorem window_addAll (S E : Rat) (rests ns : List GNote) (h : ∀ r ∈ rests, ¬ (S ≤ r.start ∧ r.start < E)) :
    window S E (addAll rests ns) = window S E ns :=
  filter_addAll _ rests ns fun r hr => decide_eq_false (h r hr)

/-- `_fill_rests_within_measure` reads the part only through the window of its measure -/
theorem measureRests_congr (qd : List (Int × Nat)) (k : Nat) (ns ns' : List GNote) (S E : Rat)
    (h : window S E ns = window S E ns') : measureRests qd k ns S E = measureRests qd k ns' S E := by
  unfold measureRests
  rw [h]

/-- the measures as `fill_rests` gets them -/
def castM (ms : List (Nat × Nat)) : List (Rat × Rat) := ms.map fun m => ((m.1 : Rat), (m.2 : Rat))

def Sep (ms : List (Nat × Nat)) : Prop := ms.Pairwise fun a b => a.2 ≤ b.1 ∨ b.2 ≤ a.1

theorem sep_point {a b : Nat × Nat} (h : a.2 ≤ b.1 ∨ b.2 ≤ a.1) (t : Rat) (h1 : (a.1 : Rat) ≤ t) (h2 : t < (a.2 : Rat)) :
    ¬ ((b.1 : Rat) ≤ t ∧ t < (b.2 : Rat)) := by
  rintro ⟨c1, c2⟩
  rcases h with hd | hd
  · exact absurd (lt_of_le_of_lt c1 h2) (not_lt.mpr (by exact_mod_cast hd))
  · exact absurd (lt_of_le_of_lt h1 c2) (not_lt.mpr (by exact_mod_cast hd))

def WindowsOK (ms : List (Nat × Nat)) (ns : List GNote) : Prop :=
  ∀ m ∈ ms, ∀ n ∈ window (m.1 : Rat) (m.2 : Rat) ns, (IsNat n.start ∧ IsNat n.stop) ∧ n.start ≤ n.stop

theorem fillRests_decomposes (qd : List (Int × Nat)) (hbig : ∀ t, divsAt qd t ≤ 1099511627776) (k : Nat)
    (orig : List GNote) : ∀ (ms : List (Nat × Nat)) (cur out : List GNote),
    Sep ms → (∀ m ∈ ms, m.1 < m.2) → WindowsOK ms orig →
    (∀ m ∈ ms, window (m.1 : Rat) (m.2 : Rat) cur = window (m.1 : Rat) (m.2 : Rat) orig) →
    fillRests qd k (castM ms) cur = some out →
    (∀ m ∈ ms, ∃ rests, measureRests qd k orig (m.1 : Rat) (m.2 : Rat) = some rests) ∧
    ∀ x, x ∈ out ↔ x ∈ cur ∨ ∃ m ∈ ms, ∃ rests, measureRests qd k orig (m.1 : Rat) (m.2 : Rat) = some rests ∧ x ∈ rests := by
  intro ms
  induction ms with
  | nil =>
    intro cur out _ _ _ _ h
    simp only [fillRests, castM, List.map_nil, List.foldl_nil, Option.some.injEq] at h
    subst h
    exact ⟨by intro m hm; simp at hm, by intro x; simp⟩
  | cons m rest ih =>
    intro cur out hsep hne hwin hcur h
    obtain ⟨s1, s2⟩ := List.pairwise_cons.mp hsep
    unfold fillRests castM at h
    rw [List.map_cons, List.foldl_cons] at h
    have hm0 := hcur m List.mem_cons_self
    -- the fold goes on only from an answer: the measure has rests
    obtain ⟨mid, hmid, _⟩ := fill_stepOK qd (measureRests qd k) (measureRests_made qd k) _ _ out h
    cases hr : measureRests qd k cur (m.1 : Rat) (m.2 : Rat) with
    | none =>
      have hstep : fillMeasure qd k (some cur) ((m.1 : Rat), (m.2 : Rat)) = none := by
        unfold fillMeasure; simp only [hr, Option.map_none]
      rw [hstep] at hmid; cases hmid
    | some rests =>
      have hstep : fillMeasure qd k (some cur) ((m.1 : Rat), (m.2 : Rat)) = some (addAll rests cur) := by
        unfold fillMeasure; simp only [hr, Option.map_some]
      rw [hstep] at h
      have hro : measureRests qd k orig (m.1 : Rat) (m.2 : Rat) = some rests := by
        rw [← measureRests_congr qd k cur orig _ _ hm0]; exact hr
      have hw := hwin m List.mem_cons_self
      have hinside := measureRests_inside qd hbig k orig m.1 m.2 (hne m List.mem_cons_self)
        (fun n hn => (hw n hn).1) (fun n hn => (hw n hn).2) rests hro
      -- the windows of the remaining measures do not see the new rests
      have hcur' : ∀ m' ∈ rest, window (m'.1 : Rat) (m'.2 : Rat) (addAll rests cur) =
          window (m'.1 : Rat) (m'.2 : Rat) orig := by
        intro m' hm'
        rw [window_addAll _ _ rests cur]
        · exact hcur m' (List.mem_cons_of_mem _ hm')
        · intro r hr'
          obtain ⟨i1, i2, i3⟩ := hinside r hr'
          exact sep_point (s1 m' hm') r.start i1 (lt_of_lt_of_le i2 i3)
      obtain ⟨j1, j2⟩ := ih (addAll rests cur) out s2 (fun x hx => hne x (List.mem_cons_of_mem _ hx))
        (fun x hx => hwin x (List.mem_cons_of_mem _ hx)) hcur' h
      refine ⟨List.forall_mem_cons.mpr ⟨⟨rests, hro⟩, j1⟩, fun x => ?_⟩
      have hm : (∃ rs, measureRests qd k orig (m.1 : Rat) (m.2 : Rat) = some rs ∧ x ∈ rs) ↔ x ∈ rests :=
        ⟨fun ⟨rs, h1, h2⟩ => Option.some.inj (hro.symm.trans h1) ▸ h2, fun h => ⟨rests, hro, h⟩⟩
      rw [j2 x, mem_addAll, List.exists_mem_cons_iff, hm, or_assoc, or_left_comm]

theorem fill_gaps_all (qd : List (Int × Nat)) (hbig : ∀ t, divsAt qd t ≤ 1099511627776) (k : Nat) (ns out : List GNote)
    (ms : List (Nat × Nat)) (hsep : Sep ms) (hne : ∀ m ∈ ms, m.1 < m.2) (hwin : WindowsOK ms ns)
    (hold : ∀ n ∈ ns, n.added = none) (h : fillRests qd k (castM ms) ns = some out)
    (m : Nat × Nat) (hm : m ∈ ms) (v : Int) (hv : ∃ n ∈ window (m.1 : Rat) (m.2 : Rat) ns, n.voice = v)
    (t : Rat) (hS : (m.1 : Rat) ≤ t) (hE : t < (m.2 : Rat)) :
    (∃ r ∈ out, r.added.isSome = true ∧ r.voice = v ∧ r.start ≤ t ∧ t < r.stop) ↔
      ∀ n ∈ window (m.1 : Rat) (m.2 : Rat) ns, n.voice = v → ¬ (n.start ≤ t ∧ t < n.stop) := by
  obtain ⟨j1, j2⟩ := fillRests_decomposes qd hbig k ns ms ns out hsep hne hwin (fun _ _ => rfl) h
  obtain ⟨rests, hro⟩ := j1 m hm
  have hw := hwin m hm
  have hg := measure_gaps qd hbig k ns _ _ ⟨m.1, rfl⟩ ⟨m.2, rfl⟩ (fun n hn => (hw n hn).1) (fun n hn => (hw n hn).2)
    rests hro v hv t hS hE
  rw [← hg]
  constructor
  · rintro ⟨r, hr, hadd, hrv, c1, c2⟩
    rcases (j2 r).mp hr with hr | ⟨m', hm', rs, h1, h2⟩
    · rw [hold r hr] at hadd; cases hadd
    · have hw' := hwin m' hm'
      obtain ⟨i1, i2, i3⟩ := measureRests_inside qd hbig k ns m'.1 m'.2 (hne m' hm')
        (fun n hn => (hw' n hn).1) (fun n hn => (hw' n hn).2) rs h1 r h2
      rcases eq_or_ne m' m with heq | hne
      · subst heq
        rw [hro] at h1
        have : rests = rs := Option.some.inj h1
        subst this
        exact ⟨r, h2, hrv, c1, c2⟩
      · have : Std.Symm fun a b : Nat × Nat => a.2 ≤ b.1 ∨ b.2 ≤ a.1 := ⟨fun _ _ h => h.symm⟩
        exact absurd ⟨hS, hE⟩ (sep_point (hsep.forall hm' hm hne) t (le_trans i1 c1) (lt_of_lt_of_le c2 i3))
  · rintro ⟨r, hr, hrv, c1, c2⟩
    refine ⟨r, (j2 r).mpr (Or.inr ⟨m, hm, rests, hro, hr⟩), ?_, hrv, c1, c2⟩
    exact made_added qd r (measureRests_made qd k ns _ _ rests hro r hr)

end C11RestsX
