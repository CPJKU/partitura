/-
C15 - the loop of `merge_parts`: the class table, what `xform` does to each field of an element,
the voices / staves in use, the loop in closed form (`loop`, `mem_transferred`), when `mergeParts` succeeds and what
its result holds, and the block of voice / staff numbers a part gets in the merged part (`InBlock`).
-/
import PartituraModel.Proofs.C15Basic
import PartituraModel.Proofs.C15Defs

namespace C15
open Model.Merge

theorem mroTab_length : Gen.mroTab.length = Gen.numClasses := by decide +kernel

theorem lt_of_isSub {c d : Nat} (h : isSub c d = true) : c ∈ List.range Gen.numClasses := by
  rw [List.mem_range, ← mroTab_length]
  by_contra hge
  rw [isSub, List.getD_eq_getElem?_getD, List.getElem?_eq_none (Nat.le_of_not_lt hge)] at h
  cases h

/-- The two facts about the generated class table the proofs rest on: a `Note` is a `GenericNote`, and no class a
tie, slur, tuplet, beam or grace chain refers to - notes and rests of any kind, slurs, tuplets, beams - is discarded
in any mode. -/
theorem class_table : ∀ c ∈ List.range Gen.numClasses,
    (isNote c = true → isGeneric c = true) ∧
    ((isGeneric c || isSub c (classId "Slur") || isSub c (classId "Tuplet") || isSub c (classId "Beam")) = true →
      discard .voice c = false ∧ discard .staff c = false ∧ discard .auto c = false) := by
  decide +kernel

theorem isGeneric_of_isNote {c : Nat} (h : isNote c = true) : isGeneric c = true :=
  (class_table c (lt_of_isSub h)).1 h

theorem not_discard_of_isGeneric (m : Mode) {c : Nat} (h : isGeneric c = true) : discard m c = false := by
  have := (class_table c (lt_of_isSub h)).2 (by rw [h]; rfl)
  cases m
  exacts [this.1, this.2.1, this.2.2]

theorem keep_of_not_discard {m : Mode} (first : Bool) {e : Elem} (h : discard m e.cls = false) :
    keep m first e = true := by
  rw [keep, h]; exact Bool.or_true _

theorem keep_of_isGeneric (m : Mode) (first : Bool) {e : Elem} (h : isGeneric e.cls = true) :
    keep m first e = true :=
  keep_of_not_discard first (not_discard_of_isGeneric m h)

theorem renumber_eq (m : Mode) (c : Ctx) (e : Elem) :
    renumber m c e = { e with voice := (renumber m c e).voice, staff := (renumber m c e).staff } := by
  cases m <;> simp only [renumber]
  · split <;> rfl
  · split <;> rfl
  · split <;> split <;> rfl

theorem xform_eq (m : Mode) (c : Ctx) (e : Elem) :
    xform m c e = { e with start := e.start * c.mult, stop := e.stop.map (· * c.mult),
                           voice := (renumber m c e).voice, staff := (renumber m c e).staff } := by
  rw [xform, renumber_eq]; rfl

theorem xform_start (m : Mode) (c : Ctx) (e : Elem) : (xform m c e).start = e.start * c.mult := by
  rw [xform_eq]
theorem xform_stop (m : Mode) (c : Ctx) (e : Elem) : (xform m c e).stop = e.stop.map (· * c.mult) := by
  rw [xform_eq]
theorem xform_oid (m : Mode) (c : Ctx) (e : Elem) : (xform m c e).oid = e.oid := by
  rw [xform_eq]
theorem xform_cls (m : Mode) (c : Ctx) (e : Elem) : (xform m c e).cls = e.cls := by
  rw [xform_eq]
theorem xform_pitch (m : Mode) (c : Ctx) (e : Elem) : (xform m c e).pitch = e.pitch := by
  rw [xform_eq]
theorem xform_tiePrev (m : Mode) (c : Ctx) (e : Elem) : (xform m c e).tiePrev = e.tiePrev := by
  rw [xform_eq]
theorem xform_chain (m : Mode) (c : Ctx) (e : Elem) : (xform m c e).chain = e.chain := by
  rw [xform_eq]
theorem xform_refs (m : Mode) (c : Ctx) (e : Elem) : (xform m c e).refs = e.refs := by
  rw [xform_eq]
theorem xform_extra (m : Mode) (c : Ctx) (e : Elem) : (xform m c e).extra = e.extra := by
  rw [xform_eq]

theorem xform_voice (m : Mode) (c : Ctx) (e : Elem) :
    (xform m c e).voice =
      if isGeneric e.cls = true then
        match m with
        | .voice => e.voice.map (· + c.vOff)
        | .staff => e.voice
        | .auto => e.voice.map fun v => c.nPrev * 4 + rank c.uV v
      else e.voice := by
  rw [xform_eq]
  cases m <;> simp only [renumber] <;> split <;> (try split) <;> rfl

theorem xform_staff (m : Mode) (c : Ctx) (e : Elem) :
    (xform m c e).staff =
      if withStaff e.cls = true then
        match m with
        | .voice => e.staff
        | .staff => some (e.staff.getD 1 + c.sOff)
        | .auto => some (c.nPrev + rank c.uS (e.staff.getD 1))
      else e.staff := by
  rw [xform_eq]
  cases m <;> simp only [renumber] <;> split <;> (try split) <;> rfl

theorem voice_mode_voice_other (c : Ctx) (e : Elem) (hg : isGeneric e.cls = false) :
    (xform .voice c e).voice = e.voice := by
  rw [xform_voice, hg]; rfl

theorem voice_mode_staff (c : Ctx) (e : Elem) : (xform .voice c e).staff = e.staff := by
  rw [xform_staff]; split <;> rfl

theorem staff_mode_staff_other (c : Ctx) (e : Elem) (hs : withStaff e.cls = false) :
    (xform .staff c e).staff = e.staff := by
  rw [xform_staff, hs]; rfl

theorem staff_mode_voice (c : Ctx) (e : Elem) : (xform .staff c e).voice = e.voice := by
  rw [xform_voice]; split <;> rfl

@[simp] theorem ctxAt_first (L : Nat) (ps : List APart) (i : Nat) (p : APart) :
    (ctxAt L ps i p).first = (i == 0) := rfl
@[simp] theorem ctxAt_mult (L : Nat) (ps : List APart) (i : Nat) (p : APart) :
    (ctxAt L ps i p).mult = L / p.divs := rfl
@[simp] theorem ctxAt_vOff (L : Nat) (ps : List APart) (i : Nat) (p : APart) :
    (ctxAt L ps i p).vOff = sumBefore maxVoice ps i := Nat.zero_add _
@[simp] theorem ctxAt_sOff (L : Nat) (ps : List APart) (i : Nat) (p : APart) :
    (ctxAt L ps i p).sOff = sumBefore maxStaff ps i := Nat.zero_add _
@[simp] theorem ctxAt_nPrev (L : Nat) (ps : List APart) (i : Nat) (p : APart) :
    (ctxAt L ps i p).nPrev = sumBefore nStaves ps i := Nat.zero_add _
@[simp] theorem ctxAt_uV (L : Nat) (ps : List APart) (i : Nat) (p : APart) :
    (ctxAt L ps i p).uV = uVoices p := rfl
@[simp] theorem ctxAt_uS (L : Nat) (ps : List APart) (i : Nat) (p : APart) :
    (ctxAt L ps i p).uS = uStaves p := rfl

theorem image_start (m : Mode) (L : Nat) (ps : List APart) (i : Nat) (p : APart) (e : Elem) :
    (image m L ps i p e).start = e.start * (L / p.divs) := xform_start _ _ _

theorem image_stop (m : Mode) (L : Nat) (ps : List APart) (i : Nat) (p : APart) (e : Elem) :
    (image m L ps i p e).stop = e.stop.map (· * (L / p.divs)) := xform_stop _ _ _

section
variable {L : Nat} {ps : List APart} {i : Nat} {p : APart} {e : Elem}

theorem image_voice_voice (hg : isGeneric e.cls = true) :
    (image .voice L ps i p e).voice = e.voice.map (· + sumBefore maxVoice ps i) := by
  rw [image, xform_voice, if_pos hg, ctxAt_vOff]

theorem image_staff_staff (hs : withStaff e.cls = true) :
    (image .staff L ps i p e).staff = some (e.staff.getD 1 + sumBefore maxStaff ps i) := by
  rw [image, xform_staff, if_pos hs, ctxAt_sOff]

theorem image_auto_voice (hg : isGeneric e.cls = true) :
    (image .auto L ps i p e).voice = e.voice.map fun v => sumBefore nStaves ps i * 4 + rank (uVoices p) v := by
  rw [image, xform_voice, if_pos hg, ctxAt_nPrev, ctxAt_uV]

theorem image_auto_staff (hs : withStaff e.cls = true) :
    (image .auto L ps i p e).staff = some (sumBefore nStaves ps i + rank (uStaves p) (e.staff.getD 1)) := by
  rw [image, xform_staff, if_pos hs, ctxAt_nPrev, ctxAt_uS]
end

theorem ctxG_zero (L : Nat) (first : Bool) (vo so np : Nat) (p : APart) (ps : List APart) :
    ctxG L first vo so np (p :: ps) 0 p = ctxOf L first vo so np p := by
  simp only [ctxG, sumBefore_zero, Nat.add_zero, beq_self_eq_true, Bool.and_true]

theorem ctxG_succ (L : Nat) (first : Bool) (vo so np : Nat) (q p : APart) (ps : List APart) (i : Nat) :
    ctxG L first vo so np (q :: ps) (i + 1) p
      = ctxG L false (vo + maxVoice q) (so + maxStaff q) (np + nStaves q) ps i p := by
  simp only [ctxG, sumBefore_succ, Nat.add_assoc, show (i + 1 == 0) = false from rfl, Bool.and_false, Bool.false_and]

/-- The loop of `merge_parts` over the parts with its running offsets, collecting `out c p` for every part `p`
it reaches in state `c`.  `mergeFrom` and `tailsFrom` are this loop for different `out`. -/
def loop {α : Type} (out : Ctx → APart → List α) (L : Nat) : Bool → Nat → Nat → Nat → List APart → List α
  | _, _, _, _, [] => []
  | first, vo, so, np, p :: ps =>
    out (ctxOf L first vo so np p) p ++ loop out L false (vo + maxVoice p) (so + maxStaff p) (np + nStaves p) ps

theorem mem_loop {α : Type} {out : Ctx → APart → List α} {L : Nat} {x : α} :
    ∀ {first : Bool} {vo so np : Nat} {ps : List APart},
      x ∈ loop out L first vo so np ps ↔ ∃ i p, ps[i]? = some p ∧ x ∈ out (ctxG L first vo so np ps i p) p
  | _, _, _, _, [] => by simp only [loop, List.not_mem_nil, List.getElem?_nil, reduceCtorEq, false_and, exists_false]
  | first, vo, so, np, q :: qs => by
    rw [loop, List.mem_append, mem_loop]
    constructor
    · rintro (h | ⟨i, p, hp, h⟩)
      · exact ⟨0, q, rfl, (ctxG_zero ..).symm ▸ h⟩
      · exact ⟨i + 1, p, hp, (ctxG_succ ..).symm ▸ h⟩
    · rintro ⟨i, p, hp, h⟩
      cases i with
      | zero => cases hp; exact Or.inl (ctxG_zero .. ▸ h)
      | succ i => exact Or.inr ⟨i, p, hp, ctxG_succ .. ▸ h⟩

/-- what the loop takes over from the objects `src p` of a part: those it keeps, rescaled and renumbered -/
def transfer (m : Mode) (src : APart → List Elem) (c : Ctx) (p : APart) : List Elem :=
  ((src p).filter (keep m c.first)).map (xform m c)

theorem mergeFrom_eq_loop (m : Mode) (L : Nat) : ∀ (first : Bool) (vo so np : Nat) (ps : List APart),
    mergeFrom m L first vo so np ps = loop (transfer m (·.elems)) L first vo so np ps
  | _, _, _, _, [] => rfl
  | _, _, _, _, _ :: ps => congrArg (_ ++ ·) (mergeFrom_eq_loop m L _ _ _ _ ps)

theorem tailsFrom_eq_loop (m : Mode) (L : Nat) : ∀ (first : Bool) (vo so np : Nat) (ps : List APart),
    tailsFrom m L first vo so np ps = loop (transfer m (·.tails)) L first vo so np ps
  | _, _, _, _, [] => rfl
  | _, _, _, _, _ :: ps => congrArg (_ ++ ·) (tailsFrom_eq_loop m L _ _ _ _ ps)

theorem mem_transferred {m : Mode} {src : APart → List Elem} {L : Nat} {ps : List APart} {e' : Elem} :
    e' ∈ loop (transfer m src) L true 0 0 0 ps
      ↔ ∃ i p e, ps[i]? = some p ∧ e ∈ src p ∧ keep m (i == 0) e = true ∧ e' = image m L ps i p e := by
  simp only [mem_loop, transfer, List.mem_map, List.mem_filter]
  constructor
  · rintro ⟨i, p, hp, e, ⟨he, hk⟩, rfl⟩; exact ⟨i, p, e, hp, he, hk, rfl⟩
  · rintro ⟨i, p, e, hp, he, hk, rfl⟩; exact ⟨i, p, hp, e, ⟨he, hk⟩, rfl⟩

theorem mem_merged {m : Mode} {L : Nat} {ps : List APart} {e' : Elem} :
    e' ∈ mergeFrom m L true 0 0 0 ps
      ↔ ∃ i p e, ps[i]? = some p ∧ e ∈ p.elems ∧ keep m (i == 0) e = true ∧ e' = image m L ps i p e := by
  rw [mergeFrom_eq_loop, mem_transferred]

theorem mem_tails {m : Mode} {L : Nat} {ps : List APart} {e' : Elem} :
    e' ∈ tailsFrom m L true 0 0 0 ps
      ↔ ∃ i p e, ps[i]? = some p ∧ e ∈ p.tails ∧ keep m (i == 0) e = true ∧ e' = image m L ps i p e := by
  rw [tailsFrom_eq_loop, mem_transferred]

/-- objects are moved, not copied: the identities transferred are among those of the inputs, in their order -/
theorem oids_sublist (m : Mode) (src : APart → List Elem) (L : Nat) :
    ∀ (first : Bool) (vo so np : Nat) (ps : List APart),
      ((loop (transfer m src) L first vo so np ps).map (·.oid)).Sublist ((ps.flatMap src).map (·.oid))
  | _, _, _, _, [] => List.Sublist.slnil
  | first, vo, so, np, p :: ps => by
    rw [loop, List.map_append, List.flatMap_cons, List.map_append]
    refine List.Sublist.append ?_ (oids_sublist m src L _ _ _ _ ps)
    have : (transfer m src (ctxOf L first vo so np p) p).map (·.oid)
        = ((src p).filter (keep m first)).map (·.oid) := by
      rw [transfer, List.map_map]; exact List.map_congr_left fun e _ => xform_oid m _ e
    rw [this]; exact List.filter_sublist.map _

theorem mergeFrom_oids_sublist (m : Mode) (L : Nat) (ps : List APart) :
    ((mergeFrom m L true 0 0 0 ps).map (·.oid)).Sublist ((ps.flatMap (·.elems)).map (·.oid)) :=
  mergeFrom_eq_loop m L .. ▸ oids_sublist m (·.elems) L true 0 0 0 ps

theorem mergedTails_oids_sublist (m : Mode) (ps : List APart) :
    ((mergedTails m ps).map (·.oid)).Sublist ((ps.flatMap (·.tails)).map (·.oid)) :=
  show ((tailsFrom m _ true 0 0 0 ps).map (·.oid)).Sublist _ from
    tailsFrom_eq_loop m _ .. ▸ oids_sublist m (·.tails) _ true 0 0 0 ps

theorem mem_uVoices {p : APart} {v : Nat} :
    v ∈ uVoices p ↔ ∃ e ∈ allElems p, isGeneric e.cls = true ∧ e.voice = some v := by
  simp only [uVoices, mem_uniq, voicesOf, List.mem_filterMap]
  constructor
  · rintro ⟨e, he, h⟩
    by_cases hg : isGeneric e.cls = true
    · exact ⟨e, he, hg, by simpa [hg] using h⟩
    · simp [hg] at h
  · rintro ⟨e, he, hg, hv⟩; exact ⟨e, he, by rw [if_pos hg, hv]⟩

theorem mem_uStaves {p : APart} {s : Nat} :
    s ∈ uStaves p ↔ ∃ e ∈ allElems p, withStaff e.cls = true ∧ e.staff.getD 1 = s := by
  simp only [uStaves, mem_uniq, stavesOf, List.mem_map, List.mem_filter, and_assoc]

theorem voice_mem_uVoices {p : APart} {e : Elem} {v : Nat} (he : e ∈ allElems p) (hg : isGeneric e.cls = true)
    (hv : e.voice = some v) : v ∈ uVoices p := mem_uVoices.mpr ⟨e, he, hg, hv⟩

theorem staff_mem_uStaves {p : APart} {e : Elem} (he : e ∈ allElems p) (hs : withStaff e.cls = true) :
    e.staff.getD 1 ∈ uStaves p := mem_uStaves.mpr ⟨e, he, hs, rfl⟩

theorem voice_le_maxVoice {p : APart} {e : Elem} {v : Nat} (he : e ∈ allElems p) (hg : isGeneric e.cls = true)
    (hv : e.voice = some v) : v ≤ maxVoice p := le_maxOr1 (voice_mem_uVoices he hg hv)

theorem staff_le_maxStaff {p : APart} {e : Elem} (he : e ∈ allElems p) (hs : withStaff e.cls = true) :
    e.staff.getD 1 ≤ maxStaff p := le_maxOr1 (staff_mem_uStaves he hs)

theorem keysOk_ctxOf (L : Nat) (first : Bool) (vo so np : Nat) (p : APart) {e : Elem} (he : e ∈ allElems p) :
    keysOk (ctxOf L first vo so np p) e = true := by
  simp only [keysOk, ctxOf, Bool.and_eq_true, Bool.or_eq_true, Bool.not_eq_true']
  constructor
  · cases hg : isGeneric e.cls with
    | false => exact Or.inl rfl
    | true =>
      right
      cases hv : e.voice with
      | none => rfl
      | some v => exact List.contains_iff_mem.mpr (voice_mem_uVoices he hg hv)
  · cases hs : withStaff e.cls with
    | false => exact Or.inl rfl
    | true => exact Or.inr (List.contains_iff_mem.mpr (staff_mem_uStaves he hs))

/-- the dictionary lookups of auto mode cannot fail: every voice and staff of `allElems p` is a key of the tables
    built from `p` (`keysOk_ctxOf`) -/
theorem keysFrom_true (m : Mode) (L : Nat) : ∀ (first : Bool) (vo so np : Nat) (ps : List APart),
    keysFrom m L first vo so np ps = true
  | _, _, _, _, [] => rfl
  | first, vo, so, np, p :: ps => by
    rw [keysFrom, keysFrom_true, Bool.and_true, List.all_eq_true]
    exact fun e he => keysOk_ctxOf L first vo so np p (List.mem_filter.mp he).1

theorem mergeParts_nil (m : Mode) : mergeParts m [] = none := rfl

theorem mergeParts_singleton (m : Mode) (p : APart) : mergeParts m [p] = some (.same p) := rfl

/-- the key check of auto mode always holds (`keysFrom_true`) and drops out -/
theorem mergeParts_two (m : Mode) (p q : APart) (rest : List APart) :
    mergeParts m (p :: q :: rest) =
      if (p :: q :: rest).all (fun p => 0 < p.divs) && voicesGiven (p :: q :: rest) then
        some (.merged (lcmList ((p :: q :: rest).map (·.divs)))
          (isort iterLe (mergeFrom m (lcmList ((p :: q :: rest).map (·.divs))) true 0 0 0 (p :: q :: rest))))
      else none := by
  simp only [mergeParts, keysFrom_true, Bool.or_true, Bool.and_true]

theorem mergeParts_merged_iff {m : Mode} {ps : List APart} {L : Nat} {es : List Elem} :
    mergeParts m ps = some (.merged L es) ↔
      2 ≤ ps.length ∧ (∀ p ∈ ps, 0 < p.divs) ∧ voicesGiven ps = true ∧ L = lcmList (ps.map (·.divs))
        ∧ es = isort iterLe (mergeFrom m L true 0 0 0 ps) := by
  match ps with
  | [] => simp [mergeParts_nil]
  | [p] => simp [mergeParts_singleton]
  | p :: q :: rest =>
    rw [mergeParts_two]
    split
    · rename_i hc
      simp only [Bool.and_eq_true, List.all_eq_true, decide_eq_true_eq] at hc
      simp only [Option.some.injEq, Result.merged.injEq]
      constructor
      · rintro ⟨rfl, rfl⟩; exact ⟨by simp, hc.1, hc.2, rfl, rfl⟩
      · rintro ⟨_, _, _, rfl, rfl⟩; exact ⟨rfl, rfl⟩
    · rename_i hc
      simp only [Bool.and_eq_true, List.all_eq_true, decide_eq_true_eq] at hc
      exact ⟨fun h => (nomatch h), fun h => absurd ⟨h.2.1, h.2.2.1⟩ hc⟩

theorem merged_divs {m : Mode} {ps : List APart} {L : Nat} {es : List Elem}
    (h : mergeParts m ps = some (.merged L es)) : L = lcmList (ps.map (·.divs)) :=
  (mergeParts_merged_iff.mp h).2.2.2.1

theorem merged_perm {m : Mode} {ps : List APart} {L : Nat} {es : List Elem}
    (h : mergeParts m ps = some (.merged L es)) : es.Perm (mergeFrom m L true 0 0 0 ps) := by
  obtain ⟨_, _, _, _, rfl⟩ := mergeParts_merged_iff.mp h
  exact (isSort _).perm _

theorem mem_es {m : Mode} {ps : List APart} {L : Nat} {es : List Elem}
    (h : mergeParts m ps = some (.merged L es)) (e' : Elem) :
    e' ∈ es ↔ ∃ i p e, ps[i]? = some p ∧ e ∈ p.elems ∧ keep m (i == 0) e = true ∧ e' = image m L ps i p e := by
  rw [(merged_perm h).mem_iff, mem_merged]

theorem mem_mergedTails {m : Mode} {ps : List APart} {L : Nat} {es : List Elem}
    (h : mergeParts m ps = some (.merged L es)) (e' : Elem) :
    e' ∈ mergedTails m ps
      ↔ ∃ i p e, ps[i]? = some p ∧ e ∈ p.tails ∧ keep m (i == 0) e = true ∧ e' = image m L ps i p e := by
  rw [mergedTails, ← merged_divs h, mem_tails]

theorem mem_registered {m : Mode} {ps : List APart} {L : Nat} {es : List Elem}
    (h : mergeParts m ps = some (.merged L es)) (e' : Elem) :
    e' ∈ es ++ mergedTails m ps
      ↔ ∃ i p e, ps[i]? = some p ∧ e ∈ allElems p ∧ keep m (i == 0) e = true ∧ e' = image m L ps i p e := by
  simp only [List.mem_append, mem_es h, mem_mergedTails h, allElems, or_and_right, and_or_left, exists_or]

theorem exists_mem_registered {m : Mode} {ps : List APart} {L : Nat} {es : List Elem}
    (h : mergeParts m ps = some (.merged L es)) (P : Elem → Prop) :
    (∃ e' ∈ es ++ mergedTails m ps, P e') ↔
      ∃ i p e, ps[i]? = some p ∧ e ∈ allElems p ∧ keep m (i == 0) e = true ∧ P (image m L ps i p e) := by
  simp only [mem_registered h]
  constructor
  · rintro ⟨_, ⟨i, p, e, hp, he, hk, rfl⟩, hP⟩; exact ⟨i, p, e, hp, he, hk, hP⟩
  · rintro ⟨i, p, e, hp, he, hk, hP⟩; exact ⟨_, ⟨i, p, e, hp, he, hk, rfl⟩, hP⟩

theorem mergeParts_zero_divs (m : Mode) {ps : List APart} (h2 : 2 ≤ ps.length) {p : APart} (hp : p ∈ ps)
    (h0 : p.divs = 0) : mergeParts m ps = none := by
  match ps, h2 with
  | a :: b :: rest, _ =>
    rw [mergeParts_two, if_neg]
    intro hc
    simp only [Bool.and_eq_true, List.all_eq_true, decide_eq_true_eq] at hc
    exact absurd (hc.1 p hp) (by omega)

/-- a missing staff counts as staff 1, so staves start from 1 as well -/
theorem one_le_staff {ps : List APart} (hnum : NumberedFrom1 ps) {p : APart} (hp : p ∈ ps) {e : Elem}
    (he : e ∈ allElems p) : 1 ≤ e.staff.getD 1 := by
  cases hs : e.staff with
  | none => exact Nat.le_refl 1
  | some s => exact (hnum p hp e he).2 s hs

/-- Part `i` owns the block of numbers `(k·Σ_{<i} w, k·Σ_{≤i} w]`, where `w` is the width a part reserves
(`maxVoice`, `maxStaff`, `nStaves`) and `k` the numbers per unit of width (1, or the 4 voices per staff of auto
mode).  Every renumbering of `merge_parts` puts the numbers of part `i` into its block. -/
def InBlock (w : APart → Nat) (k : Nat) (ps : List APart) (i : Nat) (p : APart) (n : Nat) : Prop :=
  sumBefore w ps i * k < n ∧ n ≤ sumBefore w ps i * k + w p * k

section
variable {w : APart → Nat} {k : Nat} {ps : List APart} {i j : Nat} {p q : APart} {n m : Nat} {a : Elem}

theorem InBlock.lt (hn : InBlock w k ps i p n) (hm : InBlock w k ps j q m) (hij : i < j) (hp : ps[i]? = some p) :
    n < m := by
  have h := Nat.mul_le_mul_right k (sumBefore_mono w hij hp)
  rw [Nat.add_mul] at h
  exact Nat.lt_of_le_of_lt (hn.2.trans h) hm.1

theorem InBlock.ne (hn : InBlock w k ps i p n) (hm : InBlock w k ps j q m) (hij : i ≠ j) (hp : ps[i]? = some p)
    (hq : ps[j]? = some q) : n ≠ m :=
  (Nat.lt_or_gt_of_ne hij).elim (fun h => Nat.ne_of_lt (hn.lt hm h hp)) fun h => Nat.ne_of_gt (hm.lt hn h hq)

theorem voice_inBlock (hnum : NumberedFrom1 ps) (hp : ps[i]? = some p) (ha : a ∈ allElems p)
    (hga : isGeneric a.cls = true) {va : Nat} (hva : a.voice = some va) :
    InBlock maxVoice 1 ps i p (va + sumBefore maxVoice ps i) := by
  have h1 := (hnum p (List.mem_of_getElem? hp) a ha).1 va hva
  have h2 := voice_le_maxVoice ha hga hva
  constructor <;> omega

theorem staff_inBlock (hnum : NumberedFrom1 ps) (hp : ps[i]? = some p) (ha : a ∈ allElems p)
    (hsa : withStaff a.cls = true) : InBlock maxStaff 1 ps i p (a.staff.getD 1 + sumBefore maxStaff ps i) := by
  have h1 := one_le_staff hnum (List.mem_of_getElem? hp) ha
  have h2 := staff_le_maxStaff ha hsa
  constructor <;> omega

theorem auto_staff_inBlock (ha : a ∈ allElems p) (hsa : withStaff a.cls = true) :
    InBlock nStaves 1 ps i p (sumBefore nStaves ps i + rank (uStaves p) (a.staff.getD 1)) := by
  have h1 := rank_pos (uStaves p) (a.staff.getD 1)
  have h2 : _ ≤ nStaves p := rank_le (staff_mem_uStaves ha hsa)
  constructor <;> omega

/-- auto mode reserves 4 voice numbers per staff: the ranks fit when the part has at most that many voices -/
theorem auto_voice_inBlock (ha : a ∈ allElems p) (hga : isGeneric a.cls = true) {va : Nat}
    (hva : a.voice = some va) (h4 : (uVoices p).length ≤ 4 * nStaves p) :
    InBlock nStaves 4 ps i p (sumBefore nStaves ps i * 4 + rank (uVoices p) va) := by
  have h1 := rank_pos (uVoices p) va
  have h2 := rank_le (voice_mem_uVoices ha hga hva)
  constructor <;> omega
end

end C15
