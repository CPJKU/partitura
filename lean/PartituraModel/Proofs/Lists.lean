/-
General facts about lists (Lean core only; namespace `Lists`, the facts on `Model.lookup`, `Model.indexOf`, `Model.natLcm`
in `Model`): association lists, positions, least common multiples by a fold, `mapM`, `allSome` and `foldlM` in `Option`,
lists without duplicates, invariants of left folds, a list zipped with its positions and the models' `enumerate`, the fold
that picks by a test, the least element of a list (from the right; the first one, from the left), lists in order (what
their members determine, their ends), and the functions of which several models have a copy, each given by a structure of
its defining equations which a model's copy meets by `rfl`: equal neighbours dropped (`IsDedupAdj`), the sorted insertion
without duplicates (`IsSortedInsert`), and the stable insertion sort (`IsInsertionSort`) with what it asks of its test
(`TotalPreorder`; Proofs/Orders.lean has the instances over a linear order).
-/
import PartituraModel.Model.Basic

namespace Model

variable {α β : Type} [DecidableEq α]

theorem lookup_mem {k : α} {v : β} :
    ∀ {l : List (α × β)}, lookup k l = some v → (k, v) ∈ l
  | (a, b) :: rest, h => by
    unfold lookup at h
    split at h
    · rename_i hab
      cases h
      exact hab ▸ List.mem_cons_self
    · exact List.mem_cons_of_mem _ (lookup_mem h)

theorem lookup_of_mem {l : List (α × β)} (hn : (l.map (·.1)).Nodup) {k : α} {v : β}
    (he : (k, v) ∈ l) : lookup k l = some v := by
  induction l with
  | nil => cases he
  | cons a rest ih =>
    obtain ⟨ha, hn'⟩ := List.nodup_cons.mp hn
    rw [lookup]
    rcases List.mem_cons.mp he with rfl | he
    · rw [if_pos rfl]
    · rw [if_neg fun (hk : a.1 = k) => ha (List.mem_map.mpr ⟨(k, v), he, hk.symm⟩)]
      exact ih hn' he

theorem lookup_eq_none_iff {k : α} {l : List (α × β)} : lookup k l = none ↔ k ∉ l.map (·.1) := by
  induction l with
  | nil => exact iff_of_true rfl List.not_mem_nil
  | cons e rest ih =>
    rw [lookup, List.map_cons, List.mem_cons]
    split
    · rename_i he
      exact iff_of_false (Option.some_ne_none _) fun h => h (Or.inl he.symm)
    · rename_i he
      exact ih.trans (not_congr (or_iff_right fun h => he h.symm).symm)

theorem lookup_isSome_iff {k : α} {l : List (α × β)} : (lookup k l).isSome ↔ k ∈ l.map (·.1) := by
  rw [Option.isSome_iff_ne_none, ne_eq, lookup_eq_none_iff, Classical.not_not]

theorem lookup_eq_find? (k : α) (l : List (α × β)) :
    lookup k l = (l.find? fun e => e.1 == k).map (·.2) := by
  induction l with
  | nil => rfl
  | cons e rest ih =>
    obtain ⟨a, b⟩ := e
    by_cases h : a = k
    · simp [lookup, h]
    · simp [lookup, h, ih]

theorem lookup_append (k : α) (l r : List (α × β)) :
    lookup k (l ++ r) = (lookup k l).or (lookup k r) := by
  induction l with
  | nil => rfl
  | cons e rest ih =>
    rw [List.cons_append, lookup, lookup]
    split
    · rfl
    · exact ih

/-- values mapped key by key, keys kept -/
theorem lookup_map_snd {α β γ : Type} [DecidableEq α] (g : α → β → γ) (l : List (α × β)) (k : α) :
    lookup k (l.map fun e => (e.1, g e.1 e.2)) = (lookup k l).map (g k) := by
  induction l with
  | nil => rfl
  | cons e rest ih =>
    simp only [List.map_cons, lookup]
    by_cases h : e.1 = k
    · subst h; simp
    · simp [h, ih]

/-- `del d[n]` on an association list -/
theorem lookup_filter_ne (k n : α) (l : List (α × β)) :
    lookup k (l.filter (·.1 ≠ n)) = if k = n then none else lookup k l := by
  induction l with
  | nil => exact (ite_self _).symm
  | cons x l ih =>
    obtain ⟨a, b⟩ := x
    rw [List.filter_cons]
    by_cases ha : a = n
    · rw [if_neg (by simpa using ha), ih, lookup]
      by_cases hk : k = n
      · rw [if_pos hk, if_pos hk]
      · rw [if_neg hk, if_neg hk, if_neg fun e => hk (e.symm.trans ha)]
    · rw [if_pos (by simpa using ha), lookup, lookup, ih]
      by_cases hak : a = k
      · rw [if_pos hak, if_neg fun e => ha (hak.trans e), if_pos hak]
      · rw [if_neg hak, if_neg hak]

/-- `d[n] = v` as `del d[n]` with the new entry in front -/
theorem lookup_cons_filter_ne (k n : α) (v : β) (l : List (α × β)) :
    lookup k ((n, v) :: l.filter (·.1 ≠ n)) = if k = n then some v else lookup k l := by
  rw [lookup, lookup_filter_ne]
  by_cases h : k = n
  · rw [if_pos h.symm, if_pos h]
  · rw [if_neg (Ne.symm h), if_neg h, if_neg h]

/-- `indexOf` is the library's `idxOf`, as an option -/
theorem indexOf_eq (x : α) (l : List α) :
    indexOf x l = if x ∈ l then some (l.idxOf x) else none := by
  induction l with
  | nil => rfl
  | cons a l ih =>
    rw [indexOf, ih]
    by_cases h : a = x
    · simp [h]
    · have h' : ¬ x = a := fun e => h e.symm
      have hb : (a == x) = false := beq_eq_false_iff_ne.mpr h
      by_cases hm : x ∈ l <;> simp [h, h', hm, List.idxOf_cons, hb]

theorem indexOf_eq_some_iff {x : α} {l : List α} {k : Nat} :
    indexOf x l = some k ↔ x ∈ l ∧ l.idxOf x = k := by
  rw [indexOf_eq]; split <;> simp [*]

theorem indexOf_eq_none_iff {x : α} {l : List α} : indexOf x l = none ↔ x ∉ l := by
  rw [indexOf_eq]; split <;> simp [*]

theorem getElem?_of_indexOf {x : α} {l : List α} {k : Nat} (h : indexOf x l = some k) :
    l[k]? = some x := by
  obtain ⟨hm, rfl⟩ := indexOf_eq_some_iff.mp h
  exact List.getElem?_eq_some_iff.mpr ⟨List.idxOf_lt_length_of_mem hm, List.getElem_idxOf _⟩

theorem indexOf_of_mem {x : α} {l : List α} (h : x ∈ l) : ∃ k, indexOf x l = some k :=
  ⟨_, indexOf_eq_some_iff.mpr ⟨h, rfl⟩⟩

theorem indexOf_lt_length {x : α} {l : List α} {k : Nat} (h : indexOf x l = some k) :
    k < l.length :=
  (List.getElem?_eq_some_iff.mp (getElem?_of_indexOf h)).1

theorem indexOf_inj {x y : α} {l : List α} {k : Nat} (hx : indexOf x l = some k)
    (hy : indexOf y l = some k) : x = y :=
  Option.some.inj ((getElem?_of_indexOf hx).symm.trans (getElem?_of_indexOf hy))

theorem indexOf_of_getElem? {x : α} {l : List α} {k : Nat} (hl : l.Nodup)
    (h : l[k]? = some x) : indexOf x l = some k := by
  obtain ⟨hk, rfl⟩ := List.getElem?_eq_some_iff.mp h
  exact indexOf_eq_some_iff.mpr ⟨List.getElem_mem hk, hl.idxOf_getElem k hk⟩

/-- in a strictly increasing list the positions are ordered as the members are -/
theorem indexOf_lt_iff {lt : α → α → Prop} (hasym : ∀ {a b}, lt a b → ¬ lt b a)
    {l : List α} (hl : l.Pairwise lt) {a b : α} {i j : Nat} (ha : indexOf a l = some i) (hb : indexOf b l = some j) :
    i < j ↔ lt a b := by
  obtain ⟨hi, rfl⟩ := List.getElem?_eq_some_iff.mp (getElem?_of_indexOf ha)
  obtain ⟨hj, rfl⟩ := List.getElem?_eq_some_iff.mp (getElem?_of_indexOf hb)
  have hp := List.pairwise_iff_getElem.mp hl
  refine ⟨hp i j hi hj, fun h => ?_⟩
  rcases Nat.lt_trichotomy i j with h1 | rfl | h1
  · exact h1
  · exact absurd h (hasym h)
  · exact absurd h (hasym (hp j i hj hi h1))

end Model

theorem Lists.foldl_lcm_dvd_iff {l : List Nat} {a k : Nat} : l.foldl Nat.lcm a ∣ k ↔ a ∣ k ∧ ∀ d ∈ l, d ∣ k := by
  induction l generalizing a with
  | nil => simp
  | cons x l ih => simp only [List.foldl_cons, ih, Nat.lcm_dvd_iff, List.forall_mem_cons, and_assoc]

theorem Lists.foldl_lcm_pos {l : List Nat} {a : Nat} (ha : 0 < a) (h : ∀ d ∈ l, 0 < d) : 0 < l.foldl Nat.lcm a := by
  induction l generalizing a with
  | nil => exact ha
  | cons x l ih =>
    exact ih (Nat.lcm_pos ha (h x List.mem_cons_self)) fun d hd => h d (List.mem_cons_of_mem _ hd)

namespace Model

/-- `natLcm` is the least common multiple: it divides exactly the common multiples -/
theorem natLcm_dvd_iff {l : List Nat} {k : Nat} : natLcm l ∣ k ↔ ∀ d ∈ l, d ∣ k :=
  Lists.foldl_lcm_dvd_iff.trans (and_iff_right (Nat.one_dvd k))

theorem dvd_natLcm {l : List Nat} {d : Nat} (h : d ∈ l) : d ∣ natLcm l := natLcm_dvd_iff.mp (Nat.dvd_refl _) d h

theorem natLcm_dvd {l : List Nat} {k : Nat} (h : ∀ d ∈ l, d ∣ k) : natLcm l ∣ k := natLcm_dvd_iff.mpr h

theorem natLcm_pos {l : List Nat} (h : ∀ d ∈ l, 0 < d) : 0 < natLcm l := Lists.foldl_lcm_pos Nat.one_pos h

end Model

namespace Lists

variable {α β : Type}

theorem mapM_eq_some_iff {f : α → Option β} {l : List α} {r : List β} :
    l.mapM f = some r ↔ l.map f = r.map some := by
  induction l generalizing r with
  | nil => cases r <;> simp
  | cons a l ih =>
    rw [List.mapM_cons, List.map_cons]
    cases f a with
    | none => cases r <;> simp
    | some b =>
      cases hl : l.mapM f with
      | none =>
        have : ∀ r : List β, l.map f ≠ r.map some := fun r h => by rw [ih.mpr h] at hl; cases hl
        cases r <;> simp [this]
      | some bs =>
        rw [ih.mp hl]
        cases r with
        | nil => simp
        | cons c r => simp [List.map_inj_right fun _ _ h => Option.some.inj h]

theorem mapM_eq_some_of_forall {f : α → Option β} {g : α → β} {l : List α} (h : ∀ a ∈ l, f a = some (g a)) :
    l.mapM f = some (l.map g) := by
  rw [mapM_eq_some_iff, List.map_map]
  exact List.map_congr_left h

theorem mapM_isSome {f : α → Option β} {l : List α} (h : ∀ a ∈ l, (f a).isSome) : (l.mapM f).isSome := by
  induction l with
  | nil => rfl
  | cons a l ih =>
    obtain ⟨b, hb⟩ := Option.isSome_iff_exists.mp (h a List.mem_cons_self)
    obtain ⟨bs, hbs⟩ := Option.isSome_iff_exists.mp (ih fun x hx => h x (List.mem_cons_of_mem _ hx))
    rw [List.mapM_cons, hb, hbs]
    rfl

theorem mapM_mem {f : α → Option β} {l : List α} {r : List β} (h : l.mapM f = some r) :
    ∀ b ∈ r, ∃ a ∈ l, f a = some b :=
  fun _ hb => List.mem_map.mp (mapM_eq_some_iff.mp h ▸ List.mem_map_of_mem hb)

theorem mapM_length {f : α → Option β} {l : List α} {r : List β} (h : l.mapM f = some r) : r.length = l.length := by
  simpa using (congrArg List.length (mapM_eq_some_iff.mp h)).symm

theorem mapM_eq_none_iff {f : α → Option β} {l : List α} : l.mapM f = none ↔ ∃ a ∈ l, f a = none := by
  induction l with
  | nil => exact ⟨nofun, fun ⟨_, h, _⟩ => nomatch h⟩
  | cons a l ih =>
    simp only [List.mapM_cons, List.mem_cons, exists_eq_or_imp, ← ih]
    cases f a with
    | none => exact ⟨fun _ => Or.inl rfl, fun _ => rfl⟩
    | some b =>
      cases l.mapM f with
      | none => exact ⟨fun _ => Or.inr rfl, fun _ => rfl⟩
      | some bs => exact ⟨nofun, fun h => h.elim nofun nofun⟩

theorem mapM_total (f : α → Option β) (l : List α) (h : ∀ a ∈ l, (f a).isSome) : ∃ r, l.mapM f = some r :=
  Option.isSome_iff_exists.mp (mapM_isSome h)

theorem mapM_exists (f : α → Option β) (l : List α) (h : ∀ a ∈ l, ∃ b, f a = some b) : ∃ r, l.mapM f = some r :=
  mapM_total f l fun a ha => Option.isSome_iff_exists.mpr (h a ha)

theorem mapM_mem_left {f : α → Option β} {l : List α} {r : List β} (h : l.mapM f = some r) :
    ∀ a ∈ l, ∃ b ∈ r, f a = some b := fun _ ha =>
  (List.mem_map.mp (mapM_eq_some_iff.mp h ▸ List.mem_map_of_mem (f := f) ha)).imp fun _ h => ⟨h.1, h.2.symm⟩

/-- the result at a place is the step's answer for the element at that place -/
theorem mapM_getElem? {f : α → Option β} {l : List α} {r : List β} (h : l.mapM f = some r) (i : Nat) :
    l[i]?.map f = r[i]?.map some := by
  rw [← List.getElem?_map, ← List.getElem?_map, mapM_eq_some_iff.mp h]

theorem mapM_getElem?_left {f : α → Option β} {l : List α} {r : List β} (h : l.mapM f = some r) {i : Nat} {a : α}
    (ha : l[i]? = some a) : ∃ b, r[i]? = some b ∧ f a = some b := by
  have := mapM_getElem? h i
  rw [ha, Option.map_some] at this
  exact (Option.map_eq_some_iff.mp this.symm).imp fun _ h => ⟨h.1, h.2.symm⟩

theorem mapM_getElem?_right {f : α → Option β} {l : List α} {r : List β} (h : l.mapM f = some r) {i : Nat} {b : β}
    (hb : r[i]? = some b) : ∃ a, l[i]? = some a ∧ f a = some b := by
  have := mapM_getElem? h i
  rw [hb, Option.map_some] at this
  exact Option.map_eq_some_iff.mp this

theorem mapM_ok (f : α → Option β) (P : β → Prop) (l : List α) (h : ∀ a ∈ l, ∃ b, f a = some b ∧ P b) :
    ∃ r, l.mapM f = some r ∧ r.length = l.length ∧ ∀ b ∈ r, P b := by
  obtain ⟨r, hr⟩ := mapM_exists f l fun a ha => (h a ha).imp fun _ h => h.1
  refine ⟨r, hr, mapM_length hr, fun b hb => ?_⟩
  obtain ⟨a, ha, e⟩ := mapM_mem hr b hb
  obtain ⟨b', e', hP⟩ := h a ha
  exact Option.some.inj (e'.symm.trans e) ▸ hP

/-- a function with the two equations of `mapM` (the models' `mapM'`, `mapMOpt`) is `List.mapM`; `hc` is `fun _ _ => rfl`
    for a copy that is polymorphic in both element types (the `match` of a copy at fixed types does not unfold against
    the one written here while `f a` is stuck) -/
theorem eq_mapM (m : List α → Option (List β)) {f : α → Option β} (h0 : m [] = some [])
    (hc : ∀ a l, m (a :: l) = match f a, m l with
      | some b, some bs => some (b :: bs)
      | _, _ => none) : ∀ l, m l = l.mapM f
  | [] => h0
  | a :: l => by
    rw [hc, eq_mapM m h0 hc l, List.mapM_cons]
    cases f a <;> cases l.mapM f <;> rfl

/-- a function that collects a list of options when all are `some` (the models' `allSome`) is `mapM id` -/
theorem allSome_eq_mapM {f : List (Option α) → Option (List α)} (h0 : f [] = some [])
    (hn : ∀ l, f (none :: l) = none) (hs : ∀ a l, f (some a :: l) = (f l).map (a :: ·)) : ∀ l, f l = l.mapM id
  | [] => h0
  | none :: l => hn l
  | some a :: l => by
    rw [hs, allSome_eq_mapM h0 hn hs l, List.mapM_cons]
    cases l.mapM id <;> rfl

theorem allSome_eq_some_iff {f : List (Option α) → Option (List α)} (h0 : f [] = some [])
    (hn : ∀ l, f (none :: l) = none) (hs : ∀ a l, f (some a :: l) = (f l).map (a :: ·)) {l : List (Option α)}
    {r : List α} : f l = some r ↔ l = r.map some := by
  rw [allSome_eq_mapM h0 hn hs, mapM_eq_some_iff, List.map_id]

theorem allSome_total {f : List (Option α) → Option (List α)} (h0 : f [] = some [])
    (hn : ∀ l, f (none :: l) = none) (hs : ∀ a l, f (some a :: l) = (f l).map (a :: ·)) {l : List (Option α)}
    (h : ∀ o ∈ l, o.isSome) : ∃ r, f l = some r :=
  allSome_eq_mapM h0 hn hs l ▸ mapM_total id l h

/-- on a list whose images are all different the map is injective -/
theorem eq_of_nodup_map {f : α → β} : ∀ {l : List α}, (l.map f).Nodup → ∀ {a b : α}, a ∈ l → b ∈ l → f a = f b → a = b
  | x :: l, h, a, b, ha, hb, hab => by
    obtain ⟨hx, hl⟩ := List.nodup_cons.mp h
    rcases List.mem_cons.mp ha with rfl | ha' <;> rcases List.mem_cons.mp hb with rfl | hb'
    · rfl
    · exact (hx (List.mem_map.mpr ⟨b, hb', hab.symm⟩)).elim
    · exact (hx (List.mem_map.mpr ⟨a, ha', hab⟩)).elim
    · exact eq_of_nodup_map hl ha' hb' hab

theorem nodup_concat {l : List α} {a : α} (h : l.Nodup) (ha : a ∉ l) : (l ++ [a]).Nodup :=
  List.nodup_append.mpr ⟨h, List.pairwise_singleton _ a, fun x hx y hy => by
    rw [List.mem_singleton.mp hy]
    exact fun e => ha (e ▸ hx)⟩

/-- a list in order for a relation that relates nothing to itself has no duplicates -/
theorem pairwise_nodup {R : α → α → Prop} (irrefl : ∀ a, ¬ R a a) {l : List α} (h : l.Pairwise R) : l.Nodup :=
  h.imp fun {a b} (hab : R a b) (e : a = b) => irrefl b (e ▸ hab)

/-- what every step keeps holds at the end -/
theorem foldl_inv {σ : Type} (I : σ → Prop) (f : σ → α → σ) (hstep : ∀ s a, I s → I (f s a)) :
    ∀ (l : List α) (s : σ), I s → I (l.foldl f s)
  | [], _, hs => hs
  | a :: l, s, hs => foldl_inv I f hstep l (f s a) (hstep s a hs)

/-- the same under a condition `H` on the rest of the list that hands every element its condition `C` in the state it meets
    (a history that is valid step by step) -/
theorem foldl_keeps {σ : Type} (f : σ → α → σ) {P : σ → Prop} {C : σ → α → Prop} {H : σ → List α → Prop}
    (hH : ∀ s a l, H s (a :: l) → C s a ∧ H (f s a) l) (hstep : ∀ s a, P s → C s a → P (f s a)) :
    ∀ (l : List α) (s : σ), P s → H s l → P (l.foldl f s)
  | [], _, hs, _ => hs
  | a :: l, s, hs, hh => foldl_keeps f hH hstep l _ (hstep s a hs (hH s a l hh).1) (hH s a l hh).2

/-- the same for a condition on the elements alone -/
theorem foldl_keeps_all {σ : Type} (f : σ → α → σ) {P : σ → Prop} {C : α → Prop}
    (hstep : ∀ s a, P s → C a → P (f s a)) (l : List α) (s : σ) (hs : P s) (hc : ∀ a ∈ l, C a) : P (l.foldl f s) :=
  foldl_keeps f (H := fun _ l => ∀ a ∈ l, C a)
    (fun _ a _ h => ⟨h a List.mem_cons_self, fun a' h' => h a' (List.mem_cons_of_mem _ h')⟩) hstep l s hs hc

/-- two folds whose single steps keep a relation between their states keep it to the end -/
theorem foldl_sim {σ σ' : Type} {f : σ → α → σ} {f' : σ' → β → σ'} {R : σ → σ' → Prop} {g : β → α}
    (h : ∀ s s' b, R s s' → R (f s (g b)) (f' s' b)) :
    ∀ (l : List β) (s : σ) (s' : σ'), R s s' → R ((l.map g).foldl f s) (l.foldl f' s')
  | [], _, _, hr => hr
  | b :: l, s, s', hr => foldl_sim h l _ _ (h s s' b hr)

/-- collecting into a list with an insertion that adds exactly its element (sorted or not, with or without duplicates:
    `hins` is `IsSortedInsert.mem_ins` or `IsInsertionSort.mem_ins` below) -/
theorem mem_foldl_ins {ins : β → List β → List β} (hins : ∀ a x l, x ∈ ins a l ↔ x = a ∨ x ∈ l)
    (g : α → β) (l : List α) (acc : List β) (x : β) :
    x ∈ l.foldl (fun acc a => ins (g a) acc) acc ↔ x ∈ acc ∨ ∃ a ∈ l, g a = x := by
  induction l generalizing acc with
  | nil => simp
  | cons a rest ih =>
    simp only [List.foldl_cons, ih, hins, List.mem_cons, exists_eq_or_imp]
    rw [or_comm (a := x = _), or_assoc, eq_comm]

/-- a recursion that moves to the next state at every element is the left fold of that move -/
theorem run_eq_foldl_of {σ : Type} {run : σ → List α → σ} {next : σ → α → σ} (h0 : ∀ s, run s [] = s)
    (h1 : ∀ s a l, run s (a :: l) = run (next s a) l) (s : σ) (l : List α) : run s l = l.foldl next s := by
  induction l generalizing s with
  | nil => exact h0 s
  | cons a l ih => rw [h1, List.foldl_cons, ih]

/-- induction over a loop that returned -/
theorem foldlM_induction {σ : Type} (f : σ → α → Option σ) {R : List α → σ → σ → Prop} (nil : ∀ s, R [] s s)
    (cons : ∀ x l s s1 s', f s x = some s1 → R l s1 s' → R (x :: l) s s') :
    ∀ (l : List α) (s s' : σ), l.foldlM f s = some s' → R l s s'
  | [], s, s', e => by
    simp only [List.foldlM_nil, Option.pure_def, Option.some.injEq] at e
    exact e ▸ nil s
  | x :: l, s, s', e => by
    simp only [List.foldlM_cons, Option.bind_eq_bind, Option.bind_eq_some_iff] at e
    obtain ⟨s1, e1, e2⟩ := e
    exact cons x l s s1 s' e1 (foldlM_induction f nil cons l s1 s' e2)

/-- a `foldlM` whose every step succeeds and keeps `I` succeeds and keeps `I`; what a step establishes for its
    element (`Q`), and no later step destroys, holds of every element at the end -/
theorem foldlM_collect {σ : Type} (f : σ → α → Option σ) (I : σ → Prop) (Q : α → σ → Prop) :
    ∀ (l : List α) (s : σ), I s →
    (∀ s a, a ∈ l → I s → ∃ s', f s a = some s' ∧ I s' ∧ Q a s' ∧ ∀ b, Q b s → Q b s') →
    ∃ s', l.foldlM f s = some s' ∧ I s' ∧ (∀ a ∈ l, Q a s') ∧ ∀ b, Q b s → Q b s' := by
  intro l
  induction l with
  | nil => intro s hs _; exact ⟨s, by simp, hs, by simp, fun _ h => h⟩
  | cons a r ih =>
    intro s hs hstep
    obtain ⟨s1, h1, hI1, hQ1, hm1⟩ := hstep s a List.mem_cons_self hs
    obtain ⟨s2, h2, hI2, hQ2, hm2⟩ := ih s1 hI1 (fun s a ha hI => hstep s a (List.mem_cons_of_mem _ ha) hI)
    refine ⟨s2, by simp [List.foldlM_cons, h1, h2], hI2, ?_, fun b h => hm2 b (hm1 b h)⟩
    intro x hx
    rcases List.mem_cons.mp hx with rfl | hx
    · exact hm2 x hQ1
    · exact hQ2 x hx

theorem foldlM_inv {σ : Type} (f : σ → α → Option σ) (I : σ → Prop) (l : List α) (s : σ) (hs : I s)
    (hstep : ∀ s a, a ∈ l → I s → ∃ s', f s a = some s' ∧ I s') : ∃ s', l.foldlM f s = some s' ∧ I s' := by
  obtain ⟨s', e, hI, _⟩ := foldlM_collect f I (fun _ _ => True) l s hs (fun s a ha hI => by
    obtain ⟨s', e, hI'⟩ := hstep s a ha hI
    exact ⟨s', e, hI', trivial, fun _ _ => trivial⟩)
  exact ⟨s', e, hI⟩

/-- a recursive "run the steps, stop at the first refusal" is `foldlM` -/
theorem eq_foldlM {σ : Type} (step : σ → α → Option σ) (run : σ → List α → Option σ) (h0 : ∀ s, run s [] = some s)
    (hc : ∀ s a l, run s (a :: l) = (step s a).bind fun s' => run s' l) (s : σ) (l : List α) : run s l = l.foldlM step s := by
  induction l generalizing s with
  | nil => exact h0 s
  | cons a l ih =>
    rw [hc, List.foldlM_cons]
    cases step s a with
    | none => rfl
    | some s' => exact ih s'

theorem run_append {σ : Type} (step : σ → α → Option σ) (run : σ → List α → Option σ) (h0 : ∀ s, run s [] = some s)
    (hc : ∀ s a l, run s (a :: l) = (step s a).bind fun s' => run s' l) (s : σ) (a b : List α) :
    run s (a ++ b) = (run s a).bind fun s' => run s' b := by
  simp only [eq_foldlM step run h0 hc, List.foldlM_append, Option.bind_eq_bind]

theorem mem_zip_range {l : List α} {i : Nat} {a : α} : (i, a) ∈ (List.range l.length).zip l ↔ l[i]? = some a := by
  simp only [List.mem_iff_getElem?, List.getElem?_zip_eq_some]
  constructor
  · rintro ⟨k, h1, h2⟩
    rw [List.getElem?_range (List.getElem?_eq_some_iff.mp h2).1, Option.some.injEq] at h1
    exact h1 ▸ h2
  · exact fun h => ⟨i, List.getElem?_range (List.getElem?_eq_some_iff.mp h).1, h⟩

theorem pairwise_getElem? {R : α → α → Prop} {l : List α} (h : l.Pairwise R) {i j : Nat} {a b : α} (hij : i < j)
    (ha : l[i]? = some a) (hb : l[j]? = some b) : R a b := by
  obtain ⟨hi, rfl⟩ := List.getElem?_eq_some_iff.mp ha
  obtain ⟨hj, rfl⟩ := List.getElem?_eq_some_iff.mp hb
  exact List.pairwise_iff_getElem.mp h i j hi hj hij

theorem pairwise_getElem?_of_le {R : α → α → Prop} (refl : ∀ a, R a a) {l : List α} (h : l.Pairwise R) {i j : Nat}
    {a b : α} (hij : i ≤ j) (ha : l[i]? = some a) (hb : l[j]? = some b) : R a b := by
  rcases Nat.eq_or_lt_of_le hij with rfl | hlt
  · exact Option.some.inj (ha.symm.trans hb) ▸ refl a
  · exact pairwise_getElem? h hlt ha hb

/-- a filter that only drops elements which contribute nothing leaves the `flatMap` as it is -/
theorem flatMap_filter_of_nil (p : α → Bool) (f : α → List β) (l : List α) (h : ∀ x ∈ l, p x = false → f x = []) :
    (l.filter p).flatMap f = l.flatMap f := by
  induction l with
  | nil => rfl
  | cons x xs ih =>
    have ih' := ih (fun y hy => h y (List.mem_cons_of_mem _ hy))
    cases hp : p x
    · rw [List.filter_cons_of_neg (by simp [hp]), List.flatMap_cons, ih', h x List.mem_cons_self hp, List.nil_append]
    · rw [List.filter_cons_of_pos hp, List.flatMap_cons, List.flatMap_cons, ih']

/-- `e i l` is `enumerate(l, i)`: the model has one such function per region; each is `List.zipIdx` with the pairs turned -/
structure IsEnum (e : Nat → List α → List (Nat × α)) : Prop where
  nil : ∀ i, e i [] = []
  cons : ∀ i a l, e i (a :: l) = (i, a) :: e (i + 1) l

namespace IsEnum
variable {e : Nat → List α → List (Nat × α)} (h : IsEnum e)
include h

theorem eq_zipIdx (k : Nat) (l : List α) : e k l = (l.zipIdx k).map fun p => (p.2, p.1) := by
  induction l generalizing k with
  | nil => rw [h.nil]; rfl
  | cons a l ih => rw [h.cons, ih, List.zipIdx_cons, List.map_cons]

theorem getElem?_eq (l : List α) (k i : Nat) : (e k l)[i]? = l[i]?.map fun a => (k + i, a) := by
  rw [h.eq_zipIdx, List.getElem?_map, List.getElem?_zipIdx]
  cases l[i]? <;> rfl

theorem length (k : Nat) (l : List α) : (e k l).length = l.length := by
  rw [h.eq_zipIdx, List.length_map, List.length_zipIdx]

theorem map_snd (k : Nat) (l : List α) : (e k l).map Prod.snd = l := by
  rw [h.eq_zipIdx, List.map_map]
  exact List.zipIdx_map_fst k l

theorem mem {k : Nat} {l : List α} {x : Nat × α} : x ∈ e k l ↔ k ≤ x.1 ∧ l[x.1 - k]? = some x.2 := by
  rw [h.eq_zipIdx, List.mem_map]
  constructor
  · rintro ⟨⟨a, i⟩, hp, rfl⟩
    exact List.mem_zipIdx_iff_le_and_getElem?_sub.mp hp
  · exact fun hx => ⟨(x.2, x.1), List.mem_zipIdx_iff_le_and_getElem?_sub.mpr hx, rfl⟩

theorem pairwise (k : Nat) (l : List α) : (e k l).Pairwise fun a b => a.1 < b.1 := by
  induction l generalizing k with
  | nil => rw [h.nil]; exact .nil
  | cons a l ih => rw [h.cons]; exact List.pairwise_cons.mpr ⟨fun x hx => (h.mem.mp hx).1, ih (k + 1)⟩

end IsEnum

/-- sorting by the saved index (`a[idx.argsort()]`, `sorted(zip(idx, vals))`) a list whose indices are a permutation of
    `range n` puts the indices back in order -/
theorem sortByIdx_range {β : Type} (srt : List (Nat × β) → List (Nat × β)) (hperm : ∀ l, (srt l).Perm l)
    (hs : ∀ l, (srt l).Pairwise fun a b => a.1 ≤ b.1) (l : List (Nat × β)) (n : Nat)
    (h : (l.map (·.1)).Perm (List.range n)) : (srt l).map (·.1) = List.range n := by
  apply List.Perm.eq_of_pairwise (le := fun a b => a ≤ b)
  · intro a b _ _ h1 h2; omega
  · rw [List.pairwise_map]; exact hs l
  · exact List.pairwise_lt_range.imp fun h => Nat.le_of_lt h
  · exact ((hperm l).map _).trans h

/-- a fold that keeps, of the value so far and the next element, the one a test `p` prefers (`min`, `max`, `argmin`
    written with `if`): the result is one of them, -/
theorem foldl_pick_mem (p : α → α → Prop) [DecidableRel p] : ∀ (l : List α) (b : α),
    l.foldl (fun m y => if p y m then y else m) b ∈ b :: l := by
  intro l
  induction l with
  | nil => intro b; exact List.mem_cons_self ..
  | cons y ys ih =>
    intro b
    rw [List.foldl_cons]
    rcases List.mem_cons.mp (ih (if p y b then y else b)) with h | h
    · rw [h]
      split
      · exact List.mem_cons_of_mem _ (List.mem_cons_self ..)
      · exact List.mem_cons_self ..
    · exact List.mem_cons_of_mem _ (List.mem_cons_of_mem _ h)

/-- and it is in relation `r` to all of them, where `r` is a preorder that `p` decides -/
theorem foldl_pick_best (p : α → α → Prop) [DecidableRel p] (r : α → α → Prop)
    (hrefl : ∀ a, r a a) (htrans : ∀ a b c, r a b → r b c → r a c)
    (htake : ∀ y m, p y m → r y m) (hkeep : ∀ y m, ¬ p y m → r m y) : ∀ (l : List α) (b : α),
    ∀ x ∈ b :: l, r (l.foldl (fun m y => if p y m then y else m) b) x := by
  intro l
  induction l with
  | nil => intro b x hx; rw [List.mem_singleton.mp hx]; exact hrefl b
  | cons y ys ih =>
    intro b x hx
    rw [List.foldl_cons]
    have hb : r (if p y b then y else b) b ∧ r (if p y b then y else b) y := by
      split
      · exact ⟨htake _ _ ‹_›, hrefl _⟩
      · exact ⟨hrefl _, hkeep _ _ ‹_›⟩
    have hacc := ih (if p y b then y else b) _ List.mem_cons_self
    rcases List.mem_cons.mp hx with rfl | hx
    · exact htrans _ _ _ hacc hb.1
    · rcases List.mem_cons.mp hx with rfl | hx
      · exact htrans _ _ _ hacc hb.2
      · exact ih _ x (List.mem_cons_of_mem _ hx)

section optMin
/- `f` is `min(l)` or `max(l)` computed from the right: `pick a m` chooses between the head and the extremum of the tail
   (`if a ≤ m then a else m` and the like). -/
variable {le : α → α → Prop} (pick : α → α → α) {f : List α → Option α} (h0 : f [] = none)
  (hc : ∀ a l, f (a :: l) = some ((f l).elim a (pick a)))
include h0 hc

theorem optMin_none {l : List α} : f l = none ↔ l = [] := by
  cases l with
  | nil => exact iff_of_true h0 rfl
  | cons a l => rw [hc]; exact iff_of_false nofun nofun

/-- when `pick` returns the `le`-smaller of its arguments the result is a least element of the list -/
theorem optMin_spec (refl : ∀ a, le a a) (trans : ∀ a b c, le a b → le b c → le a c)
    (hpick : ∀ a m, pick a m = a ∧ le a m ∨ pick a m = m ∧ le m a) :
    ∀ {l : List α} {m : α}, f l = some m → m ∈ l ∧ ∀ x ∈ l, le m x
  | [], _, h => by rw [h0] at h; cases h
  | a :: l, m, h => by
    rw [hc] at h
    cases hl : f l with
    | none =>
      rw [hl] at h
      cases h
      rw [(optMin_none pick h0 hc).mp hl]
      exact ⟨List.mem_cons_self, fun x hx => List.mem_singleton.mp hx ▸ refl a⟩
    | some m' =>
      rw [hl] at h
      obtain ⟨h1, h2⟩ := optMin_spec refl trans hpick hl
      cases h
      show pick a m' ∈ a :: l ∧ ∀ x ∈ a :: l, le (pick a m') x
      rcases hpick a m' with ⟨e, ham⟩ | ⟨e, hma⟩ <;> rw [e]
      · exact ⟨List.mem_cons_self, List.forall_mem_cons.mpr ⟨refl a, fun x hx => trans _ _ _ ham (h2 x hx)⟩⟩
      · exact ⟨List.mem_cons_of_mem _ h1, List.forall_mem_cons.mpr ⟨hma, h2⟩⟩

/-- and for an antisymmetric `le` it is the only one -/
theorem optMin_eq_some (refl : ∀ a, le a a) (trans : ∀ a b c, le a b → le b c → le a c)
    (antisymm : ∀ a b, le a b → le b a → a = b) (hpick : ∀ a m, pick a m = a ∧ le a m ∨ pick a m = m ∧ le m a)
    {l : List α} {m : α} (hm : m ∈ l) (hle : ∀ x ∈ l, le m x) : f l = some m := by
  cases hl : f l with
  | none => rw [(optMin_none pick h0 hc).mp hl] at hm; cases hm
  | some m' =>
    obtain ⟨h1, h2⟩ := optMin_spec pick h0 hc refl trans hpick hl
    rw [antisymm m' m (h2 m hm) (hle m' h1)]

/-- so it depends on the members of the list only -/
theorem optMin_congr (refl : ∀ a, le a a) (trans : ∀ a b c, le a b → le b c → le a c)
    (antisymm : ∀ a b, le a b → le b a → a = b) (hpick : ∀ a m, pick a m = a ∧ le a m ∨ pick a m = m ∧ le m a)
    {l l' : List α} (h : ∀ x, x ∈ l ↔ x ∈ l') : f l = f l' := by
  cases hl : f l with
  | none =>
    have : l = [] := (optMin_none pick h0 hc).mp hl
    subst this
    rw [List.eq_nil_iff_forall_not_mem.mpr fun x hx => List.not_mem_nil ((h x).mpr hx), h0]
  | some m =>
    obtain ⟨h1, h2⟩ := optMin_spec pick h0 hc refl trans hpick hl
    exact (optMin_eq_some pick h0 hc refl trans antisymm hpick ((h m).mp h1) fun x hx => h2 x ((h x).mpr hx)).symm

end optMin

section scan
/- A scan for the first minimum (`np.argmin`, `min(…, key=…)` as a loop): `scan l i k b` runs through the rest `l`, whose
   head has position `i`, with the best element so far `b` and its position `k`; it takes a later element only when that
   is strictly better (`p`, the strict part of a total preorder) and answers `out k b` at the end. -/
variable {ρ : Type} (p : α → α → Prop) [DecidableRel p] (scan : List α → Nat → Nat → α → ρ) (out : Nat → α → ρ)
  (hnil : ∀ i k b, scan [] i k b = out k b)
  (hcons : ∀ x l i k b, scan (x :: l) i k b = if p x b then scan l (i + 1) i x else scan l (i + 1) k b)
  (irrefl : ∀ a, ¬ p a a) (trans : ∀ a b c, p a b → p b c → p a c) (negtrans : ∀ a b c, ¬ p a b → ¬ p b c → ¬ p a c)
include hnil hcons trans negtrans

/-- the invariant: of the part already seen, `l1 ++ b :: l2`, the running best `b` is the first minimum -/
theorem scan_first_min_aux (l : List α) : ∀ (l1 : List α) (b : α) (l2 : List α) (i : Nat), i = (l1 ++ b :: l2).length →
    (∀ x ∈ l1, p b x) → (∀ x ∈ l2, ¬ p x b) → ∃ l1' m l2', l1 ++ b :: (l2 ++ l) = l1' ++ m :: l2' ∧
      scan l i l1.length b = out l1'.length m ∧ (∀ x ∈ l1', p m x) ∧ ∀ x ∈ l2', ¬ p x m := by
  induction l with
  | nil => exact fun l1 b l2 i _ h1 h2 => ⟨l1, b, l2, by rw [List.append_nil], hnil .., h1, h2⟩
  | cons x l ih =>
    intro l1 b l2 i hi h1 h2
    rw [hcons]
    split
    · next hx =>
      have hall : ∀ y ∈ l1 ++ b :: l2, p x y := fun y hy =>
        (List.mem_append.mp hy).elim (fun hy => trans x b y hx (h1 y hy)) fun hy =>
          (List.mem_cons.mp hy).elim (fun e => e ▸ hx) fun hy => Decidable.by_contra fun h => negtrans x y b h (h2 y hy) hx
      obtain ⟨l1', m, l2', e, h⟩ := ih (l1 ++ b :: l2) x [] (i + 1) (by rw [List.length_append, ← hi]; rfl) hall nofun
      exact ⟨l1', m, l2', by rw [← e, List.append_assoc]; rfl, hi ▸ h⟩
    · next hx =>
      obtain ⟨l1', m, l2', e, h⟩ := ih l1 b (l2 ++ [x]) (i + 1)
        (by rw [← List.cons_append, ← List.append_assoc, List.length_append, ← hi]; rfl) h1 fun y hy =>
          (List.mem_append.mp hy).elim (h2 y) fun hy => List.mem_singleton.mp hy ▸ hx
      exact ⟨l1', m, l2', by rw [← e, List.append_assoc]; rfl, h⟩

/-- the result stands in the list (the running best in front) with strictly worse elements before it and no better one
    behind -/
theorem scan_first_min (b : α) (l : List α) : ∃ l1 m l2, b :: l = l1 ++ m :: l2 ∧ scan l 1 0 b = out l1.length m ∧
    (∀ x ∈ l1, p m x) ∧ ∀ x ∈ l2, ¬ p x m :=
  scan_first_min_aux p scan out hnil hcons trans negtrans l [] b [] 1 rfl nofun nofun

include irrefl in
/-- the same by positions -/
theorem scan_first_min_getElem? (b : α) (l : List α) : ∃ k m, scan l 1 0 b = out k m ∧ (b :: l)[k]? = some m ∧
    (∀ x ∈ b :: l, ¬ p x m) ∧ ∀ j x, j < k → (b :: l)[j]? = some x → p m x := by
  obtain ⟨l1, m, l2, e, hm, h1, h2⟩ := scan_first_min p scan out hnil hcons trans negtrans b l
  refine ⟨l1.length, m, hm, ?_, fun x hx => ?_, fun j x hj hx => h1 x ?_⟩
  · rw [e, List.getElem?_append_right (Nat.le_refl _), Nat.sub_self]; rfl
  · rcases List.mem_append.mp (e ▸ hx) with hx | hx
    · exact fun h => irrefl m (trans m x m (h1 x hx) h)
    · exact (List.mem_cons.mp hx).elim (fun e => e ▸ irrefl m) (h2 x)
  · rw [e, List.getElem?_append_left hj] at hx
    exact List.mem_of_getElem? hx

end scan

/-- a list that is strictly increasing for an asymmetric order is determined by its members -/
theorem pairwise_ext {lt : α → α → Prop} (hasym : ∀ {a b}, lt a b → ¬ lt b a) {l₁ l₂ : List α}
    (h₁ : l₁.Pairwise lt) (h₂ : l₂.Pairwise lt) (h : ∀ x, x ∈ l₁ ↔ x ∈ l₂) : l₁ = l₂ :=
  have irrefl : ∀ a, ¬ lt a a := fun _ h => hasym h h
  List.Perm.eq_of_pairwise (fun _ _ _ _ hab hba => absurd hba (hasym hab)) h₁ h₂
    ((List.perm_ext_iff_of_nodup (pairwise_nodup irrefl h₁) (pairwise_nodup irrefl h₂)).mpr h)

/-- two members of a list in order are the same or in order, one way or the other -/
theorem pairwise_mem {R : α → α → Prop} {l : List α} (h : l.Pairwise R) {a b : α} (ha : a ∈ l) (hb : b ∈ l) :
    a = b ∨ R a b ∨ R b a := by
  induction l with
  | nil => cases ha
  | cons c l ih =>
    obtain ⟨hc, hl⟩ := List.pairwise_cons.mp h
    rcases List.mem_cons.mp ha with rfl | ha' <;> rcases List.mem_cons.mp hb with rfl | hb'
    · exact Or.inl rfl
    · exact Or.inr (Or.inl (hc b hb'))
    · exact Or.inr (Or.inr (hc a ha'))
    · exact ih hl ha' hb'

/-- the head of a list in order is first in the order too -/
theorem pairwise_head? {R : α → α → Prop} (refl : ∀ a, R a a) {l : List α} (hl : l.Pairwise R) {a : α}
    (h : l.head? = some a) : ∀ x ∈ l, R a x := by
  obtain ⟨t, rfl⟩ := List.head?_eq_some_iff.mp h
  exact fun x hx => (List.mem_cons.mp hx).elim (· ▸ refl a) ((List.pairwise_cons.mp hl).1 x)

theorem pairwise_getLast? {R : α → α → Prop} (refl : ∀ a, R a a) {l : List α} (hl : l.Pairwise R) {z : α}
    (h : l.getLast? = some z) : ∀ x ∈ l, R x z := by
  obtain ⟨t, rfl⟩ := List.getLast?_eq_some_iff.mp h
  exact fun x hx => (List.mem_append.mp hx).elim (fun hx => (List.pairwise_append.mp hl).2.2 x hx z List.mem_cons_self)
    fun hx => List.mem_singleton.mp hx ▸ refl z

/-- a list in order of a key is determined by what it holds under every key -/
theorem pairwise_key_ext {κ : Type} [DecidableEq κ] {le : κ → κ → Prop} (antisymm : ∀ {j k}, le j k → le k j → j = k)
    (key : α → κ) {l₁ l₂ : List α} (h₁ : l₁.Pairwise fun a b => le (key a) (key b))
    (h₂ : l₂.Pairwise fun a b => le (key a) (key b))
    (h : ∀ k, l₁.filter (fun a => key a = k) = l₂.filter (fun a => key a = k)) : l₁ = l₂ := by
  have mem : ∀ {l l' : List α}, (∀ k, l.filter (fun a => key a = k) = l'.filter (fun a => key a = k)) →
      ∀ a ∈ l, a ∈ l' :=
    fun {l l'} h a ha => (List.mem_filter.mp (h (key a) ▸ List.mem_filter.mpr ⟨ha, decide_eq_true rfl⟩)).1
  induction l₁ generalizing l₂ with
  | nil =>
    cases l₂ with
    | nil => rfl
    | cons b l₂ => cases mem (fun k => (h k).symm) b List.mem_cons_self
  | cons a l₁ ih =>
    cases l₂ with
    | nil => cases mem h a List.mem_cons_self
    | cons b l₂ =>
      obtain ⟨ha, t₁⟩ := List.pairwise_cons.mp h₁
      obtain ⟨hb, t₂⟩ := List.pairwise_cons.mp h₂
      -- the heads have the same key, so each is the first of its key in both lists
      have hk : key a = key b := by
        rcases List.mem_cons.mp (mem h a List.mem_cons_self) with e | ha'
        · rw [e]
        · rcases List.mem_cons.mp (mem (fun k => (h k).symm) b List.mem_cons_self) with e | hb'
          · rw [e]
          · exact antisymm (ha b hb') (hb a ha')
      have h0 := h (key a)
      simp only [List.filter_cons, decide_eq_true hk.symm, decide_true, if_true] at h0
      obtain ⟨rfl, t0⟩ := List.cons.inj h0
      refine congrArg _ (ih t₁ t₂ fun k => ?_)
      by_cases e : key a = k
      · exact e ▸ t0
      · simpa [List.filter_cons, e] using h k

/-- around an entry of a list in order: what stands before it is related to it, and it to what stands behind -/
theorem pairwise_split {r : α → α → Prop} {pre post : List α} {u : α} (h : (pre ++ u :: post).Pairwise r) :
    (∀ a ∈ pre, r a u) ∧ ∀ b ∈ post, r u b :=
  ⟨fun a ha => (List.pairwise_append.mp h).2.2 a ha u List.mem_cons_self,
    (List.pairwise_cons.mp (List.pairwise_append.mp h).2.1).1⟩

/-- `dedup l` drops every element that equals its successor (`np.unique`, `sorted(set(…))`: what is left to do after the
    sort).  The models each define their own; an instance is `⟨rfl, fun _ => rfl, fun _ _ _ => rfl⟩`. -/
structure IsDedupAdj [DecidableEq α] (dedup : List α → List α) : Prop where
  nil : dedup [] = []
  single : ∀ a, dedup [a] = [a]
  cons : ∀ a b l, dedup (a :: b :: l) = if a = b then dedup (b :: l) else a :: dedup (b :: l)

namespace IsDedupAdj

variable [DecidableEq α] {dedup : List α → List α} (h : IsDedupAdj dedup)
include h

theorem mem {x : α} : ∀ {l : List α}, x ∈ dedup l ↔ x ∈ l
  | [] => by rw [h.nil]
  | [a] => by rw [h.single]
  | a :: b :: l => by
    rw [h.cons]
    split
    · rename_i e
      subst e
      rw [mem]
      exact ⟨List.mem_cons_of_mem _, fun hx => (List.mem_cons.mp hx).elim (· ▸ List.mem_cons_self) id⟩
    · rw [List.mem_cons, mem, List.mem_cons (b := a)]

/-- on a list in order of `le` the result is in order of its strict part `lt` -/
theorem strict {le lt : α → α → Prop} (hne : ∀ {a b}, le a b → a ≠ b → lt a b)
    (htr : ∀ {a b c}, lt a b → le b c → lt a c) : ∀ {l : List α}, l.Pairwise le → (dedup l).Pairwise lt
  | [], _ => by rw [h.nil]; exact List.Pairwise.nil
  | [a], _ => by rw [h.single]; exact List.pairwise_singleton _ _
  | a :: b :: l, hl => by
    obtain ⟨ha, hl'⟩ := List.pairwise_cons.mp hl
    rw [h.cons]
    split
    · exact strict hne htr hl'
    · rename_i hab
      have hlt := hne (ha b List.mem_cons_self) hab
      refine List.pairwise_cons.mpr ⟨fun x hx => ?_, strict hne htr hl'⟩
      rcases List.mem_cons.mp (h.mem.mp hx) with rfl | hx
      · exact hlt
      · exact htr hlt ((List.pairwise_cons.mp hl').1 x hx)

end IsDedupAdj

/-- `ins a l` puts `a` at its place into the strictly increasing list `l` unless it is there already (`sorted(set(…))`,
    `np.unique`, one element at a time).  The models each define their own, and the facts below are stated for all of
    them; an order given as a `Bool` function `f` is the instance `lt a b := f a b = true`. -/
structure IsSortedInsert (lt : α → α → Prop) [DecidableRel lt] [DecidableEq α] (ins : α → List α → List α) :
    Prop where
  ins_nil : ∀ a, ins a [] = [a]
  ins_cons : ∀ a b l, ins a (b :: l) = if lt a b then a :: b :: l else if a = b then b :: l else b :: ins a l

namespace IsSortedInsert

variable {lt : α → α → Prop} [DecidableRel lt] [DecidableEq α] {ins : α → List α → List α}
  (h : IsSortedInsert lt ins)
include h

theorem mem_ins {a x : α} : ∀ {l : List α}, x ∈ ins a l ↔ x = a ∨ x ∈ l
  | [] => by rw [h.ins_nil, List.mem_singleton]; exact (or_iff_left List.not_mem_nil).symm
  | b :: l => by
    rw [h.ins_cons]
    split
    · exact List.mem_cons
    · split
      · rename_i e
        exact ⟨Or.inr, fun hx => hx.elim (fun hx => hx ▸ e ▸ List.mem_cons_self) id⟩
      · rw [List.mem_cons, mem_ins, List.mem_cons]; exact or_left_comm

/-- inserting the elements of `l` into a list that is there already -/
theorem mem_foldr_acc {x : α} {l acc : List α} : x ∈ l.foldr ins acc ↔ x ∈ l ∨ x ∈ acc := by
  induction l with
  | nil => exact (or_iff_right List.not_mem_nil).symm
  | cons a l ih => rw [List.foldr_cons, h.mem_ins, ih, List.mem_cons, or_assoc]

theorem mem_foldr {x : α} {l : List α} : x ∈ l.foldr ins [] ↔ x ∈ l :=
  h.mem_foldr_acc.trans (or_iff_left List.not_mem_nil)

/-- for a transitive order in which two different elements are comparable -/
theorem ins_pairwise (trans : ∀ {a b c}, lt a b → lt b c → lt a c) (total : ∀ {a b}, ¬ lt a b → a ≠ b → lt b a)
    (a : α) : ∀ {l : List α}, l.Pairwise lt → (ins a l).Pairwise lt
  | [], _ => by rw [h.ins_nil]; exact List.pairwise_singleton _ _
  | b :: l, hl => by
    have hb := List.pairwise_cons.mp hl
    rw [h.ins_cons]
    split
    · rename_i hab
      exact List.Pairwise.cons (fun x hx => (List.mem_cons.mp hx).elim (· ▸ hab) (trans hab <| hb.1 x ·)) hl
    · split
      · exact hl
      · rename_i hab hne
        refine List.Pairwise.cons (fun x hx => ?_) (ins_pairwise trans total a hb.2)
        exact (h.mem_ins.mp hx).elim (· ▸ total hab hne) (hb.1 x)

theorem foldr_pairwise_acc (trans : ∀ {a b c}, lt a b → lt b c → lt a c)
    (total : ∀ {a b}, ¬ lt a b → a ≠ b → lt b a) {acc : List α} (hacc : acc.Pairwise lt) :
    ∀ l : List α, (l.foldr ins acc).Pairwise lt
  | [] => hacc
  | a :: l => h.ins_pairwise trans total a (foldr_pairwise_acc trans total hacc l)

theorem foldr_pairwise (trans : ∀ {a b c}, lt a b → lt b c → lt a c) (total : ∀ {a b}, ¬ lt a b → a ≠ b → lt b a)
    (l : List α) : (l.foldr ins []).Pairwise lt :=
  h.foldr_pairwise_acc trans total .nil l

/-- for a strict order the result has no repeats -/
theorem foldr_nodup (irrefl : ∀ {a}, ¬ lt a a) (trans : ∀ {a b c}, lt a b → lt b c → lt a c)
    (total : ∀ {a b}, ¬ lt a b → a ≠ b → lt b a) (l : List α) : (l.foldr ins []).Nodup :=
  (h.foldr_pairwise trans total l).imp fun {a b} (hab : lt a b) (e : a = b) => irrefl (e ▸ hab : lt b b)

/-- and depends on the members of the list only -/
theorem foldr_congr (irrefl : ∀ {a}, ¬ lt a a) (trans : ∀ {a b c}, lt a b → lt b c → lt a c)
    (total : ∀ {a b}, ¬ lt a b → a ≠ b → lt b a) {l₁ l₂ : List α} (hm : ∀ x, x ∈ l₁ ↔ x ∈ l₂) :
    l₁.foldr ins [] = l₂.foldr ins [] :=
  pairwise_ext (fun hab hba => irrefl (trans hab hba)) (h.foldr_pairwise trans total l₁) (h.foldr_pairwise trans total l₂)
    fun x => h.mem_foldr.trans ((hm x).trans h.mem_foldr.symm)

end IsSortedInsert

/-- what a stable sort needs of its test to sort; Proofs/Orders.lean has the instances (a key in a linear order, the
    lexicographic order) -/
structure TotalPreorder (le : α → α → Bool) : Prop where
  total : ∀ a b, le a b = true ∨ le b a = true
  trans : ∀ a b c, le a b = true → le b c = true → le a c = true

namespace TotalPreorder

variable {le : α → α → Bool}

theorem refl (h : TotalPreorder le) (a : α) : le a a = true := (h.total a a).elim id id

/-- totality as core's `List.pairwise_mergeSort` asks for it -/
theorem total' (h : TotalPreorder le) (a b : α) : (le a b || le b a) = true := Bool.or_eq_true _ _ ▸ h.total a b

theorem congr {le' : α → α → Bool} (h : TotalPreorder le) (he : ∀ a b, le' a b = le a b) : TotalPreorder le' :=
  (funext fun a => funext (he a) : le' = le) ▸ h

/-- comparing what a function makes of the elements -/
theorem comap (h : TotalPreorder le) (f : β → α) : TotalPreorder fun a b => le (f a) (f b) :=
  ⟨fun a b => h.total (f a) (f b), fun a b c => h.trans (f a) (f b) (f c)⟩

end TotalPreorder

/-- `ins a l` puts `a` in front of the first element of `l` that it is `le` to, and `srt` inserts the elements of a
    list from the right, so that elements that compare as equal keep their order. Every such pair of functions is
    the same one; the models each define their own, and the facts below are stated for all of them. -/
structure IsInsertionSort (le : α → α → Bool) (ins : α → List α → List α) (srt : List α → List α) : Prop where
  ins_nil : ∀ a, ins a [] = [a]
  ins_cons : ∀ a b l, ins a (b :: l) = if le a b then a :: b :: l else b :: ins a l
  srt_nil : srt [] = []
  srt_cons : ∀ a l, srt (a :: l) = ins a (srt l)

namespace IsInsertionSort

variable {le : α → α → Bool} {ins : α → List α → List α} {srt : List α → List α} (h : IsInsertionSort le ins srt)
include h

theorem ins_perm (a : α) (l : List α) : (ins a l).Perm (a :: l) := by
  induction l with
  | nil => rw [h.ins_nil]
  | cons b l ih =>
    rw [h.ins_cons]
    split
    · exact List.Perm.refl _
    · exact (ih.cons b).trans (List.Perm.swap a b l)

theorem perm (l : List α) : (srt l).Perm l := by
  induction l with
  | nil => rw [h.srt_nil]
  | cons a l ih => rw [h.srt_cons]; exact (h.ins_perm a _).trans (ih.cons a)

theorem foldl_ins_perm : ∀ (more l : List α), (more.foldl (fun acc a => ins a acc) l).Perm (more ++ l)
  | [], l => List.Perm.refl l
  | a :: more, l =>
    (foldl_ins_perm more (ins a l)).trans (((h.ins_perm a l).append_left more).trans List.perm_middle)

theorem mem_ins {a x : α} {l : List α} : x ∈ ins a l ↔ x = a ∨ x ∈ l :=
  (h.ins_perm a l).mem_iff.trans List.mem_cons

theorem mem {x : α} {l : List α} : x ∈ srt l ↔ x ∈ l := (h.perm l).mem_iff

theorem length (l : List α) : (srt l).length = l.length := (h.perm l).length_eq

/-- inserting into a list ordered by a relation `R` that `le` decides between the new element and the list -/
theorem ins_pairwise {R : α → α → Prop} {a : α} {l : List α} (hyes : ∀ x ∈ l, le a x = true → R a x)
    (hno : ∀ x ∈ l, le a x = false → R x a) (hmono : ∀ x ∈ l, ∀ y ∈ l, le a x = true → R x y → le a y = true)
    (hl : l.Pairwise R) : (ins a l).Pairwise R := by
  induction l with
  | nil => rw [h.ins_nil]; exact List.pairwise_singleton _ _
  | cons b l ih =>
    have hb := List.pairwise_cons.mp hl
    rw [h.ins_cons]
    split
    · rename_i hab
      refine List.pairwise_cons.mpr ⟨fun x hx => ?_, hl⟩
      rcases List.mem_cons.mp hx with rfl | hx'
      · exact hyes _ List.mem_cons_self hab
      · exact hyes x hx (hmono b List.mem_cons_self x hx hab (hb.1 x hx'))
    · rename_i hab
      refine List.pairwise_cons.mpr ⟨fun x hx => ?_, ih (fun x hx => hyes x (List.mem_cons_of_mem _ hx))
        (fun x hx => hno x (List.mem_cons_of_mem _ hx))
        (fun x hx y hy => hmono x (List.mem_cons_of_mem _ hx) y (List.mem_cons_of_mem _ hy)) hb.2⟩
      rcases h.mem_ins.mp hx with rfl | hx'
      · exact hno b List.mem_cons_self (Bool.eq_false_iff.mpr hab)
      · exact hb.1 x hx'

/-- stability: where the input is pairwise in relation `Q`, elements that compare as equal stay in that relation -/
theorem pairwise_stable (ho : TotalPreorder le) {Q : α → α → Prop} {l : List α}
    (hl : l.Pairwise Q) : (srt l).Pairwise fun a b => le a b = true ∧ (le b a = true → Q a b) := by
  induction l with
  | nil => rw [h.srt_nil]; exact List.Pairwise.nil
  | cons a l ih =>
    have ha := List.pairwise_cons.mp hl
    rw [h.srt_cons]
    refine h.ins_pairwise (fun x hx hax => ⟨hax, fun _ => ha.1 x (h.mem.mp hx)⟩) (fun x _ hax => ⟨?_, fun hxa => ?_⟩)
      (fun x _ y _ hax hxy => ho.trans a x y hax hxy.1) (ih ha.2)
    · exact (ho.total a x).resolve_left (Bool.eq_false_iff.mp hax)
    · exact absurd hxa (Bool.eq_false_iff.mp hax)

theorem pairwise (ho : TotalPreorder le) (l : List α) :
    (srt l).Pairwise fun a b => le a b = true :=
  (h.pairwise_stable ho (Q := fun _ _ => True) (List.pairwise_of_forall fun _ _ => trivial)).imp And.left

/-- the first element of the result is a least element of the input -/
theorem head?_le (ho : TotalPreorder le) {l : List α} {a : α} (hd : (srt l).head? = some a) :
    a ∈ l ∧ ∀ x ∈ l, le a x = true :=
  ⟨h.mem.mp (List.mem_of_head? hd), fun x hx => pairwise_head? ho.refl (h.pairwise ho l) hd x (h.mem.mpr hx)⟩

theorem getLast?_le (ho : TotalPreorder le) {l : List α} {z : α} (hz : (srt l).getLast? = some z) :
    z ∈ l ∧ ∀ x ∈ l, le x z = true :=
  ⟨h.mem.mp (List.mem_of_getLast? hz), fun x hx => pairwise_getLast? ho.refl (h.pairwise ho l) hz x (h.mem.mpr hx)⟩

theorem eq_self {l : List α} (hl : l.Pairwise fun a b => le a b = true) : srt l = l := by
  induction l with
  | nil => exact h.srt_nil
  | cons a l ih =>
    have ha := List.pairwise_cons.mp hl
    rw [h.srt_cons, ih ha.2]
    cases l with
    | nil => exact h.ins_nil a
    | cons b l => rw [h.ins_cons, if_pos (ha.1 b List.mem_cons_self)]

/-- a class `P` whose members are mutually `le` does not see where the new element went: in front of the first member,
    if it is one itself -/
theorem ins_filter {P : α → Bool} (hP : ∀ a b, P a = true → P b = true → le a b = true) (a : α) (l : List α) :
    (ins a l).filter P = (a :: l).filter P := by
  induction l with
  | nil => rw [h.ins_nil]
  | cons b l ih =>
    rw [h.ins_cons]
    split
    · rfl
    · rename_i hab
      rw [List.filter_cons, ih]
      cases ha : P a with
      | false => simp only [List.filter_cons, ha, Bool.false_eq_true, if_false]
      | true =>
        have hb : P b = false := Bool.eq_false_iff.mpr fun hb => hab (hP a b ha hb)
        simp only [List.filter_cons, ha, hb, Bool.false_eq_true, if_false]

/-- stability: the elements of a class `P` of mutually `le` elements keep their order -/
theorem filter {P : α → Bool} (hP : ∀ a b, P a = true → P b = true → le a b = true) (l : List α) :
    (srt l).filter P = l.filter P := by
  induction l with
  | nil => rw [h.srt_nil]
  | cons a l ih => rw [h.srt_cons, h.ins_filter hP, List.filter_cons, List.filter_cons, ih]

/-- an element that fails the test does not show in the filtered list, wherever it is inserted -/
theorem ins_filter_neg {p : α → Bool} {a : α} (ha : p a = false) : ∀ l : List α, (ins a l).filter p = l.filter p
  | [] => by rw [h.ins_nil]; exact List.filter_cons_of_neg (Bool.eq_false_iff.mp ha)
  | b :: l => by
    rw [h.ins_cons]
    split
    · exact List.filter_cons_of_neg (Bool.eq_false_iff.mp ha)
    · rw [List.filter_cons, List.filter_cons, ins_filter_neg ha l]

/-- in front of elements it is `le` to, the new element stays in front -/
theorem ins_of_le_all (a : α) (l : List α) (hl : ∀ x ∈ l, le a x = true) : ins a l = a :: l := by
  cases l with
  | nil => exact h.ins_nil a
  | cons b l => rw [h.ins_cons, if_pos (hl b List.mem_cons_self)]

/-- an element the selector drops is not seen after the insertion -/
theorem ins_filterMap_none {sel : α → Option β} {a : α} (ha : sel a = none) :
    ∀ l : List α, (ins a l).filterMap sel = l.filterMap sel
  | [] => by rw [h.ins_nil, List.filterMap_cons_none ha]
  | b :: l => by
    rw [h.ins_cons]
    split
    · exact List.filterMap_cons_none ha
    · rw [List.filterMap_cons, List.filterMap_cons, ins_filterMap_none ha l]

/-- an element the selector keeps is inserted among the selected values at the place it had in the sorted list, when the
    order of the selected values is the order of the elements they come from -/
theorem ins_filterMap_some {le' : β → β → Bool} {ins' : β → List β → List β} {srt' : List β → List β}
    (h' : IsInsertionSort le' ins' srt')
    (trans : ∀ a b c, le a b = true → le b c = true → le a c = true) {sel : α → Option β}
    (hsel : ∀ a b x y, sel a = some x → sel b = some y → le' x y = le a b) {a : α} {x : β} (ha : sel a = some x)
    {l : List α} (hl : l.Pairwise fun a b => le a b = true) :
    (ins a l).filterMap sel = ins' x (l.filterMap sel) := by
  induction l with
  | nil => rw [h.ins_nil, List.filterMap_cons_some ha, List.filterMap_nil, h'.ins_nil]
  | cons b l ih =>
    obtain ⟨hb, hl'⟩ := List.pairwise_cons.mp hl
    rw [h.ins_cons]
    split
    · -- in front of `b`, hence in front of everything selected from `b :: l`
      rename_i hab
      rw [List.filterMap_cons_some ha, h'.ins_of_le_all]
      intro y hy
      obtain ⟨c, hc, hcy⟩ := List.mem_filterMap.mp hy
      rw [hsel a c x y ha hcy]
      rcases List.mem_cons.mp hc with rfl | hc
      · exact hab
      · exact trans a b c hab (hb c hc)
    · rename_i hab
      rw [List.filterMap_cons, ih hl', List.filterMap_cons]
      cases hb' : sel b with
      | none => rfl
      | some y =>
        show _ = ins' x (y :: _)
        rw [h'.ins_cons, hsel a b x y ha hb', if_neg hab]

/-- a stable insertion sort of a total preorder commutes with picking out and relabelling the members of one kind -/
theorem filterMap_comm {le' : β → β → Bool} {ins' : β → List β → List β} {srt' : List β → List β}
    (h' : IsInsertionSort le' ins' srt')
    (ho : TotalPreorder le) (sel : α → Option β)
    (hsel : ∀ a b x y, sel a = some x → sel b = some y → le' x y = le a b) (l : List α) :
    (srt l).filterMap sel = srt' (l.filterMap sel) := by
  induction l with
  | nil => rw [h.srt_nil, List.filterMap_nil, h'.srt_nil]
  | cons a l ih =>
    rw [h.srt_cons, List.filterMap_cons]
    cases ha : sel a with
    | none => rw [h.ins_filterMap_none ha, ih]
    | some x => rw [h.ins_filterMap_some h' ho.trans hsel ha (h.pairwise ho l), ih, h'.srt_cons]

/-- the stable sort of a total preorder commutes with every filter -/
theorem filter_comm (ho : TotalPreorder le) (p : α → Bool) (l : List α) :
    (srt l).filter p = srt (l.filter p) := by
  rw [← List.filterMap_eq_filter]
  refine h.filterMap_comm h ho _ (fun a b x y ha hb => ?_) l
  rw [(Option.guard_eq_some_iff.mp ha).1, (Option.guard_eq_some_iff.mp hb).1]

omit h in
/-- sorting commutes with a relabelling that keeps the order -/
theorem map {le' : β → β → Bool} {ins' : β → List β → List β} {srt' : List β → List β}
    (h : IsInsertionSort le ins srt) (h' : IsInsertionSort le' ins' srt') (f : α → β)
    (hf : ∀ a b, le' (f a) (f b) = le a b) (l : List α) : srt' (l.map f) = (srt l).map f := by
  have hins : ∀ a l, ins' (f a) (List.map f l) = (ins a l).map f := fun a l => by
    induction l with
    | nil => rw [List.map_nil, h'.ins_nil, h.ins_nil]; rfl
    | cons b l ih =>
      rw [List.map_cons, h'.ins_cons, h.ins_cons, hf, ih]
      split <;> rfl
  induction l with
  | nil => rw [List.map_nil, h'.srt_nil, h.srt_nil]; rfl
  | cons a l ih => rw [List.map_cons, h'.srt_cons, h.srt_cons, ih, hins]

/-- several insertions that fail a test do not show in the filtered list -/
theorem foldl_ins_filter_neg {p : α → Bool} (more l : List α) (hm : ∀ a ∈ more, p a = false) :
    (more.foldl (fun acc a => ins a acc) l).filter p = l.filter p :=
  Lists.foldl_keeps_all (fun acc a => ins a acc) (P := fun acc => acc.filter p = l.filter p)
    (fun acc _ hacc ha => (h.ins_filter_neg ha acc).trans hacc) more l rfl hm

theorem mem_foldl_ins (more l : List α) (x : α) : x ∈ more.foldl (fun acc a => ins a acc) l ↔ x ∈ more ∨ x ∈ l :=
  (h.foldl_ins_perm more l).mem_iff.trans List.mem_append

/-- past elements it is not `le` to, in front of one it is -/
theorem ins_append (a : α) : ∀ (l1 l2 : List α), (∀ x ∈ l1, le a x = false) →
    (∀ b, l2.head? = some b → le a b = true) → ins a (l1 ++ l2) = l1 ++ a :: l2
  | [], [], _, _ => h.ins_nil a
  | [], b :: l2, _, h2 => by rw [List.nil_append, h.ins_cons, if_pos (h2 b rfl)]; rfl
  | x :: l1, l2, h1, h2 => by
    rw [List.cons_append, h.ins_cons, h1 x List.mem_cons_self]
    simp only [Bool.false_eq_true, if_false, List.cons_append]
    rw [ins_append a l1 l2 (fun y hy => h1 y (List.mem_cons_of_mem _ hy)) h2]

end IsInsertionSort

end Lists
