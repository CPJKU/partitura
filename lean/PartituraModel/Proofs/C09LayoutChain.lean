/-
C09: layouts whose only structure is repeats.  `procSeg` in closed form for boundaries that carry only repeat
information, the cleaned destination lists, the table of any such layout (`repeatsOnly_mkSegments`); the chain of r
pairwise disjoint simple repeats over symbolic boundary times is an instance.
-/
import PartituraModel.Proofs.C09Steps
import PartituraModel.Proofs.C09Shape
import PartituraModel.Model.UnfoldFam

namespace C09
open Model.Unfold

/-- nothing but repeat starts/ends (and the end of the part) is registered at this boundary -/
def RepeatOnly (b : BInfo) : Prop := b.voltaStart = none ∧ b.voltaEnd = false ∧ NoNav b

/-- what a repeat that ends at the boundary contributes: on to the next segment, back to its start -/
def backDests (idSe : Dest) : Option Dest → List Dest
  | some d => [idSe, d]
  | none => []

/-- the raw destinations segment `i` gets from the boundary at its end: all plain -/
def repRaw (b : BInfo) (idSe : Dest) (back : Option Dest) : List (Tag × Dest) :=
  ((if b.repeatStart then [idSe] else []) ++ backDests idSe back ++ (if b.isEnd then [idSe] else [])).map fp

theorem procSeg_repeatOnly (L : Layout) (tb : BTable) (times : List Int) (i : Nat) (ss se : Int) (st : BState)
    (b : BInfo) (idSe : Dest) (hget : tblGet se tb = some b) (hid : idOf times se = some idSe)
    (hb : RepeatOnly b) (back : Option Dest)
    (hback : match b.repeatEnd with
      | none => back = none
      | some rs => ∃ d, idOf times rs = some d ∧ back = some d) :
    procSeg L tb times i ss se st =
      some { st with info := modAt i (fun s => { s with to := s.to ++ repRaw b idSe back,
                                                        ty := if ss = 0 then .leapEnd else s.ty }) st.info } := by
  obtain ⟨h1, h2, hnav⟩ := hb
  have hre : stRepeatEnd times i b idSe (stRepeatStart i b idSe st) =
      some { st with info := addTo i ((if b.repeatStart then [(Tag.plain, idSe)] else []) ++
        (backDests idSe back).map fp) st.info } := by
    rw [stRepeatStart_eq]
    unfold stRepeatEnd
    cases hre : b.repeatEnd with
    | none =>
      rw [hre] at hback
      subst hback
      simp only [backDests, List.map_nil, List.append_nil]
    | some rs =>
      rw [hre] at hback
      obtain ⟨d, hd, rfl⟩ := hback
      simp only [h2, Bool.false_eq_true, if_false, hd, addTo_addTo]
      rfl
  rw [procSeg_noNav L tb times i ss se st b idSe hget hid hnav, hre]
  simp only [stVoltaStart, stVoltaEnd, h1, h2, Option.isSome_none, Bool.false_and, Bool.false_eq_true, if_false,
    Option.bind_some, stEnd_eq, stFirst_eq, addTo_addTo]
  unfold addTo
  rw [modAt_modAt]
  congr 3
  funext s
  cases hrs : b.repeatStart <;> cases hie : b.isEnd <;> simp [repRaw, fp, hrs, hie]

theorem nav1Of_repRaw (b : BInfo) (idSe : Dest) (back : Option Dest) : nav1Of (repRaw b idSe back) = [] :=
  nav1Of_fp _

theorem cleanTo_repRaw (b : BInfo) (idSe : Dest) (back : Option Dest) (i : Nat)
    (hne : b.repeatStart = true ∨ back.isSome = true ∨ b.isEnd = true)
    (hid : idSe = .fin ∨ idSe = .seg (i + 1))
    (hback : ∀ d, back = some d → ∃ j, d = .seg j ∧ j ≤ i) :
    cleanToBase (repRaw b idSe back) = some (back.toList ++ [idSe], []) := by
  unfold repRaw backDests
  rw [cleanTo_plain]
  cases back with
  | none =>
    rcases hid with rfl | rfl <;> cases hrs : b.repeatStart <;> cases hie : b.isEnd <;>
      simp_all [insSorted]
  | some d =>
    obtain ⟨j, rfl, hj⟩ := hback d rfl
    have h1 : j < i + 1 := by omega
    have h2 : ¬ i + 1 < j := by omega
    have h3 : ¬ i + 1 = j := by omega
    rcases hid with rfl | rfl <;> cases hrs : b.repeatStart <;> cases hie : b.isEnd <;>
      simp [insSorted, h1, h2, h3]

theorem idOf_next (ts : List Int) (hs : StrictSorted ts) (n : Nat) (hlen : ts.length = n + 1) (i : Nat) (hi : i < n) :
    idOf ts (ts.getD (i + 1) 0) = some (nextDest n i) := by
  rw [idOf_sorted ts hs (i + 1) _ (getD_get ts (i + 1) (by omega)), hlen]
  unfold nextDest
  by_cases h : i + 1 = n
  · rw [if_pos (by omega), if_pos h]
  · rw [if_neg (by omega), if_neg h]

/-- segment `i` offers the start of the repeat that ends at its end (if any), then the next segment -/
def repTable (ts : List Int) (n : Nat) (back : Nat → Option Dest) : List Seg :=
  (List.range n).map fun i =>
    { start := ts.getD i 0, stp := ts.getD (i + 1) 0, to := (back i).toList ++ [nextDest n i], await := [],
      ty := tyAt ts i }

/-- the boundary at the end of segment `i` carries repeats only, `back i` is the segment the repeat ending there starts at (none
without one) and lies not ahead, and something is registered there besides the start of the part -/
def RepSeg (L : Layout) (ts : List Int) (back : Nat → Option Dest) (i : Nat) : Prop :=
  RepeatOnly (infoAt L (ts.getD (i + 1) 0)) ∧
  (match (infoAt L (ts.getD (i + 1) 0)).repeatEnd with
    | none => back i = none
    | some rs => ∃ d, idOf ts rs = some d ∧ back i = some d) ∧
  (∀ d, back i = some d → ∃ j, d = .seg j ∧ j ≤ i) ∧
  ((infoAt L (ts.getD (i + 1) 0)).repeatStart = true ∨ (back i).isSome = true ∨
    (infoAt L (ts.getD (i + 1) 0)).isEnd = true)

theorem mkSegments_of_repSeg (L : Layout) (ts : List Int) (n : Nat)
    (hkeys : (mkTable L).map (·.1) = ts) (hs : StrictSorted ts) (hlen : ts.length = n + 1)
    (hsup : L.supported = true) (back : Nat → Option Dest)
    (hseg : ∀ i, i < n → RepSeg L ts back i) :
    mkSegments L = some (repTable ts n back) := by
  let fin : Nat → SegInfo := fun j =>
    { to := repRaw (infoAt L (ts.getD (j + 1) 0)) (nextDest n j) (back j), ty := tyAt ts j }
  refine mkSegments_run L ts n hkeys hlen hsup
    (fun k => { info := (List.range n).map fun j => if j < k then fin j else {} }) ?_ ?_ _
    (by simp) (by simp [repTable]) ?_
  · simp only [Nat.not_lt_zero, if_false, range_map_const]
  · intro i hi
    obtain ⟨g1, g2, _, _⟩ := hseg i hi
    have hmem : ts.getD (i + 1) 0 ∈ (mkTable L).map (·.1) := by
      rw [hkeys]; exact List.mem_of_getElem? (getD_get ts (i + 1) (by omega))
    rw [procSeg_repeatOnly L _ ts i _ _ _ _ _ (mkTable_get_mem L _ hmem) (idOf_next ts hs n hlen i hi) g1 (back i) g2]
    simp only [Option.some.injEq]
    congr 1
    refine modAt_range_map n i _ _ _ ?_ (fun x hx => ?_)
    · simp only [Nat.lt_irrefl, if_false, Nat.lt_succ_self, if_true, fin, tyAt, List.nil_append]
    · by_cases h : x < i
      · rw [if_pos h, if_pos (by omega)]
      · rw [if_neg h, if_neg (by omega)]
  · intro i inf hinf
    obtain ⟨hi, rfl⟩ := range_map_get n _ i inf hinf
    simp only [hi, if_true]
    obtain ⟨_, _, g3, g4⟩ := hseg i hi
    refine ⟨(back i).toList ++ [nextDest n i], [], ?_, ?_⟩
    · rw [cleanTo_noNav _ _ (nav1Of_repRaw _ _ _)]
      refine cleanTo_repRaw _ _ _ i g4 ?_ g3
      unfold nextDest
      by_cases h : i + 1 = n <;> simp [h]
    · simp only [repTable, List.getElem?_map, List.getElem?_range hi, Option.map_some, fin]

/-- only repeats, each inside the part and of positive length; the part has positive length -/
structure RepeatsOnly (L : Layout) : Prop where
  endings : L.endings = []
  codas : L.codas = []
  tocodas : L.tocodas = []
  dacapos : L.dacapos = []
  fines : L.fines = []
  segnos : L.segnos = []
  dalsegnos : L.dalsegnos = []
  pos : L.first < L.last
  inside : ∀ r ∈ L.repeats, L.first ≤ r.1 ∧ r.1 < r.2 ∧ r.2 ≤ L.last

section rep
variable (L : Layout) (hL : RepeatsOnly L)

include hL in
theorem rep_infoAt (t : Int) : RepeatOnly (infoAt L t) := by
  simp [RepeatOnly, NoNav, infoAt, hL.endings, hL.codas, hL.tocodas, hL.dacapos, hL.fines, hL.segnos, hL.dalsegnos,
    volS, volE, lastSome]

include hL in
theorem rep_isKey (t : Int) : isKey L t = (repA L.repeats t || (repE L.repeats t).isSome ||
    decide (t = L.last) || decide (t = L.first)) := by
  simp [isKey, hL.endings, hL.codas, hL.tocodas, hL.dacapos, hL.fines, hL.segnos, hL.dalsegnos, volS, volE, lastSome]

theorem repE_some (reps : List (Int × Int)) (t rs : Int) (h : repE reps t = some rs) : (rs, t) ∈ reps := by
  obtain ⟨r, hr, he⟩ := lastSome_mem _ reps rs h
  split at he
  · rename_i h2
    have : r = (rs, t) := Prod.ext (Option.some.inj he) h2
    rw [← this]
    exact hr
  · cases he

include hL in
theorem rep_key_bounds (t : Int) (h : isKey L t = true) : L.first ≤ t ∧ t ≤ L.last := by
  rw [rep_isKey L hL] at h
  simp only [Bool.or_eq_true, decide_eq_true_eq] at h
  have hp := hL.pos
  rcases h with ((h | h) | h) | h
  · unfold repA at h
    rw [List.any_eq_true] at h
    obtain ⟨r, hr, he⟩ := h
    simp only [decide_eq_true_eq] at he
    have := hL.inside r hr
    omega
  · cases he : repE L.repeats t with
    | none => rw [he] at h; simp at h
    | some rs =>
      have := hL.inside _ (repE_some _ _ _ he)
      simp only at this
      omega
  · omega
  · omega

include hL in
theorem rep_keys_two : 2 ≤ ((mkTable L).map (·.1)).length := by
  have hkey := fun t => mkTable_mem_keys L t
  obtain ⟨a, ha⟩ := List.getElem?_of_mem ((hkey L.first).mpr (by rw [rep_isKey L hL]; simp))
  obtain ⟨b, hb⟩ := List.getElem?_of_mem ((hkey L.last).mpr (by rw [rep_isKey L hL]; simp))
  have hab : a ≠ b := by
    intro h; subst h
    rw [ha] at hb
    have := hL.pos
    simp only [Option.some.injEq] at hb
    omega
  have := (List.getElem?_eq_some_iff.mp ha).1
  have := (List.getElem?_eq_some_iff.mp hb).1
  omega

include hL in
theorem rep_start_earlier (i : Nat) (se rs : Int) (hse : ((mkTable L).map (·.1))[i + 1]? = some se)
    (hre : repE L.repeats se = some rs) : ∃ j, j ≤ i ∧ ((mkTable L).map (·.1))[j]? = some rs := by
  have hm : (rs, se) ∈ L.repeats := repE_some _ _ _ hre
  have hin := hL.inside _ hm
  simp only at hin
  have hk : rs ∈ (mkTable L).map (·.1) := (mkTable_mem_keys L rs).mpr (by
    rw [rep_isKey L hL]
    have : repA L.repeats rs = true := by
      unfold repA; rw [List.any_eq_true]; exact ⟨_, hm, by simp⟩
    simp [this])
  obtain ⟨j, hj⟩ := List.getElem?_of_mem hk
  refine ⟨j, ?_, hj⟩
  rcases Nat.lt_or_ge i j with h | h
  · exfalso
    rcases Nat.lt_or_ge (i + 1) j with h' | h'
    · have := sorted_get_lt _ (mkTable_sorted L) (i + 1) j se rs h' hse hj; omega
    · have : j = i + 1 := by omega
      subst this
      rw [hse] at hj
      simp only [Option.some.injEq] at hj
      omega
  · exact h

end rep

/-- the backward destination of segment `i`: the start of the repeat that ends at its end (the last one registered there) -/
def repBack (L : Layout) (ts : List Int) (i : Nat) : Option Dest :=
  match (infoAt L (ts.getD (i + 1) 0)).repeatEnd with
  | none => none
  | some rs => idOf ts rs

/-- Any layout whose only structure is repeats: `add_segments` builds the table in which a segment offers the start of the repeat
that ends at its end — an earlier boundary or its own start — and then its successor. -/
theorem repeatsOnly_mkSegments (L : Layout) (hL : RepeatsOnly L) :
    ∃ n, ((mkTable L).map (·.1)).length = n + 1 ∧ 1 ≤ n ∧
      mkSegments L = some (repTable ((mkTable L).map (·.1)) n (repBack L ((mkTable L).map (·.1)))) ∧
      ∀ i, i < n → ∀ d, repBack L ((mkTable L).map (·.1)) i = some d → ∃ j, d = .seg j ∧ j ≤ i := by
  let ts := (mkTable L).map (·.1)
  have hs : StrictSorted ts := mkTable_sorted L
  have hkey : ∀ t, t ∈ ts ↔ isKey L t = true := fun t => mkTable_mem_keys L t
  have hfirst : L.first ∈ ts := (hkey _).mpr (by rw [rep_isKey L hL]; simp)
  have hp := hL.pos
  have hlen2 : 2 ≤ ts.length := rep_keys_two L hL
  obtain ⟨n, hn⟩ : ∃ n, ts.length = n + 1 := ⟨ts.length - 1, by omega⟩
  have hn1 : 1 ≤ n := by omega
  let back := repBack L ts
  have hsup : L.supported = true := by simp [Layout.supported, hL.endings]
  have hseg : ∀ i, i < n → RepSeg L ts back i := by
    intro i hi
    unfold RepSeg
    have hse := getD_get ts (i + 1) (by omega)
    generalize e1 : ts.getD (i + 1) 0 = se at hse
    have hsem : se ∈ ts := List.mem_of_getElem? hse
    have hrs : ∀ rs, (infoAt L se).repeatEnd = some rs → ∃ j, j ≤ i ∧ idOf ts rs = some (.seg j) := by
      intro rs hre
      obtain ⟨j, hji, hj⟩ := rep_start_earlier L hL i se rs hse hre
      refine ⟨j, hji, ?_⟩
      rw [idOf_sorted ts hs j rs hj, hn]
      have : ¬ j + 1 = n + 1 := by omega
      rw [if_neg this]
    refine ⟨rep_infoAt L hL se, ?_, ?_, ?_⟩
    · cases hre : (infoAt L se).repeatEnd with
      | none => simp only [back, repBack, e1, hre]
      | some rs =>
        obtain ⟨j, _, hid⟩ := hrs rs hre
        exact ⟨_, hid, by simp only [back, repBack, e1, hre]; exact hid⟩
    · intro d hd
      cases hre : (infoAt L se).repeatEnd with
      | none => simp only [back, repBack, e1, hre] at hd; exact absurd hd (by simp)
      | some rs =>
        obtain ⟨j, hji, hid⟩ := hrs rs hre
        simp only [back, repBack, e1, hre, hid, Option.some.injEq] at hd
        exact ⟨j, hd.symm, hji⟩
    · -- something is registered at `se`, and it is not only "start of the part"
      have hk := (hkey se).mp hsem
      rw [rep_isKey L hL] at hk
      simp only [Bool.or_eq_true, decide_eq_true_eq] at hk
      rcases hk with ((h | h) | h) | h
      · left; exact h
      · right; left
        cases hre : repE L.repeats se with
        | none => rw [hre] at h; simp at h
        | some rs =>
          have hre' : (infoAt L se).repeatEnd = some rs := hre
          obtain ⟨j, _, hid⟩ := hrs rs hre'
          simp only [back, repBack, e1, hre', hid, Option.isSome_some]
      · right; right
        show decide (se = L.last) = true
        exact decide_eq_true h
      · exfalso
        obtain ⟨a, ha⟩ := List.getElem?_of_mem hfirst
        have h0 : 0 < ts.length := by omega
        have hb := (rep_key_bounds L hL (ts[0]) ((hkey _).mp (List.getElem_mem h0))).1
        have hlt := sorted_get_lt ts hs 0 (i + 1) ts[0] se (by omega) (List.getElem?_eq_getElem h0) hse
        omega
  exact ⟨n, hn, hn1, mkSegments_of_repSeg L ts n rfl hs hn hsup back hseg, fun i hi => (hseg i hi).2.2.1⟩

/-- two neighbouring sections without a repeat would be one segment: there is no boundary between them -/
def NoAdjFalse (flags : List Bool) : Prop :=
  ∀ j, flags[j]? = some false → flags[j + 1]? ≠ some false

theorem sorted_inj (ts : List Int) (hs : StrictSorted ts) (i j : Nat) (t : Int)
    (hi : ts[i]? = some t) (hj : ts[j]? = some t) : i = j := by
  rcases Nat.lt_trichotomy i j with h | h | h
  · have := sorted_get_lt ts hs i j t t h hi hj; omega
  · exact h
  · have := sorted_get_lt ts hs j i t t h hj hi; omega

theorem chainRepeats_sub : ∀ (ts : List Int) (flags : List Bool), StrictSorted ts →
    ∀ r ∈ chainRepeats ts flags, r.1 ∈ ts ∧ r.2 ∈ ts ∧ r.1 < r.2
  | [], _, _, r, h | [_], _, _, r, h | _ :: _ :: _, [], _, r, h => by simp [chainRepeats] at h
  | a :: b :: ts, f :: fs, hs, r, h => by
    rw [chainRepeats, List.mem_append] at h
    rcases h with h | h
    · cases f with
      | false => simp at h
      | true => simp only [if_true, List.mem_singleton] at h; subst h; exact ⟨by simp, by simp, hs.1⟩
    · have := chainRepeats_sub (b :: ts) fs hs.2 r h
      exact ⟨List.mem_cons_of_mem _ this.1, List.mem_cons_of_mem _ this.2.1, this.2.2⟩

theorem repA_of_lt (reps : List (Int × Int)) (t : Int) (h : ∀ r ∈ reps, t < r.1) : repA reps t = false := by
  unfold repA
  rw [List.any_eq_false]
  intro r hr
  have := h r hr
  simp only [decide_eq_true_eq]; omega

theorem repE_of_lt (reps : List (Int × Int)) (t : Int) (h : ∀ r ∈ reps, t < r.2) : repE reps t = none := by
  apply lastSome_eq_none
  intro r hr
  have := h r hr
  rw [if_neg (by omega)]

theorem chain_repA : ∀ (ts : List Int) (flags : List Bool), StrictSorted ts → ∀ (j : Nat) (t : Int), ts[j]? = some t →
    flags.length + 1 ≤ ts.length → repA (chainRepeats ts flags) t = (flags[j]?).getD false
  | [], _, _, j, t, hj, _ => by simp at hj
  | [_], flags, _, j, t, _, hl => by
    have : flags = [] := List.eq_nil_of_length_eq_zero (by simpa using hl)
    subst this; rfl
  | _ :: _ :: _, [], _, j, t, _, _ => by simp [chainRepeats, repA]
  | a :: b :: ts, f :: fs, hs, j, t, hj, hl => by
    have hlt : ∀ y ∈ b :: ts, a < y := sorted_head_lt a _ hs
    rw [chainRepeats, repA, List.any_append]
    cases j with
    | zero =>
      simp only [List.getElem?_cons_zero, Option.some.injEq] at hj
      subst hj
      have : repA (chainRepeats (b :: ts) fs) a = false :=
        repA_of_lt _ _ fun r hr => hlt _ (chainRepeats_sub _ _ hs.2 r hr).1
      rw [repA] at this
      rw [this]
      cases f <;> simp
    | succ j =>
      simp only [List.getElem?_cons_succ] at hj ⊢
      have hat := hlt t (List.mem_of_getElem? hj)
      have := chain_repA (b :: ts) fs hs.2 j t hj (by simpa using hl)
      rw [repA] at this
      rw [this]
      have : ¬ a = t := by omega
      cases f <;> simp [this]

theorem chain_repE : ∀ (ts : List Int) (flags : List Bool), StrictSorted ts → ∀ (j : Nat) (t : Int), ts[j]? = some t →
    repE (chainRepeats ts flags) t =
      (match j with
       | 0 => none
       | j' + 1 => if (flags[j']?).getD false then ts[j']? else none)
  | [], _, _, j, t, hj => by simp at hj
  | [_], _, _, j, t, hj => by
    cases j with
    | zero => rfl
    | succ j => simp at hj
  | _ :: _ :: _, [], _, j, t, _ => by cases j <;> simp [chainRepeats, repE, lastSome]
  | a :: b :: ts, f :: fs, hs, j, t, hj => by
    have hlt : ∀ y ∈ b :: ts, a < y := sorted_head_lt a _ hs
    rw [chainRepeats, repE, lastSome_append]
    cases j with
    | zero =>
      simp only [List.getElem?_cons_zero, Option.some.injEq] at hj
      subst hj
      have h1 : repE (chainRepeats (b :: ts) fs) a = none :=
        repE_of_lt _ _ fun r hr => hlt _ (chainRepeats_sub _ _ hs.2 r hr).2.1
      have hab : ¬ b = a := by have := hs.1; omega
      rw [repE] at h1
      rw [h1]
      cases f <;> simp [Option.or, lastSome, hab]
    | succ j =>
      simp only [List.getElem?_cons_succ] at hj
      have h1 := chain_repE (b :: ts) fs hs.2 j t hj
      rw [repE] at h1
      rw [h1]
      cases j with
      | zero =>
        simp only [List.getElem?_cons_zero, Option.some.injEq] at hj
        subst hj
        cases f <;> simp [Option.or, lastSome]
      | succ j =>
        simp only [List.getElem?_cons_succ] at hj
        have hbt : ¬ b = t := by
          have := sorted_head_lt b ts hs.2 t (List.mem_of_getElem? hj); omega
        simp only [List.getElem?_cons_succ]
        cases f <;> simp [Option.or_none, lastSome, hbt]

section chain
variable (t0 : Int) (rest : List Int) (flags : List Bool)
variable (hs : StrictSorted (t0 :: rest)) (hlen : rest.length = flags.length)
variable (hadj : NoAdjFalse flags)

include hs hlen hadj in
theorem chain_keys : (mkTable (chainLayout t0 rest flags)).map (·.1) = t0 :: rest := by
  have hl : flags.length + 1 ≤ (t0 :: rest).length := by simp [hlen]
  refine mkTable_keys_of_times _ _ hs (fun t ht => ?_) (fun t ht => ?_)
  · simp only [Layout.times, chainLayout, List.flatMap_nil, List.append_nil, List.mem_cons, List.mem_flatMap,
      List.not_mem_nil, or_false] at ht
    rcases ht with rfl | rfl | ⟨r, hr, h⟩
    · exact List.mem_cons_self
    · exact List.mem_of_getElem? (getLastD_get t0 rest)
    · rcases h with rfl | rfl
      · exact (chainRepeats_sub _ _ hs r hr).1
      · exact (chainRepeats_sub _ _ hs r hr).2.1
  · obtain ⟨j, hj⟩ := List.getElem?_of_mem ht
    have hjl : j < (t0 :: rest).length := (List.getElem?_eq_some_iff.mp hj).1
    simp only [List.length_cons] at hjl
    by_cases h0 : j = 0
    · subst h0
      simp only [List.getElem?_cons_zero, Option.some.injEq] at hj
      simp [isKey, chainLayout, hj]
    · by_cases hn : j = rest.length
      · subst hn
        rw [getLastD_get] at hj
        simp only [Option.some.injEq] at hj
        subst hj
        simp [isKey, chainLayout]
      · -- an inner boundary: a repeat starts or ends here
        have hA := chain_repA (t0 :: rest) flags hs j t hj hl
        have hE := chain_repE (t0 :: rest) flags hs j t hj
        obtain ⟨j', rfl⟩ : ∃ j', j = j' + 1 := ⟨j - 1, by omega⟩
        simp only at hE
        have h1 : j' < flags.length := by omega
        have h2 : j' + 1 < flags.length := by omega
        cases hf1 : flags[j' + 1]'h2 with
        | true =>
          have : (flags[j' + 1]?).getD false = true := by rw [List.getElem?_eq_getElem h2, hf1]; rfl
          rw [this] at hA
          simp [isKey, chainLayout, hA]
        | false =>
          have hf0 : flags[j']? = some true := by
            cases hv : flags[j']'h1 with
            | true => rw [List.getElem?_eq_getElem h1, hv]
            | false =>
              exfalso
              apply hadj j' (by rw [List.getElem?_eq_getElem h1, hv])
              rw [List.getElem?_eq_getElem h2, hf1]
          rw [hf0] at hE
          simp only [Option.getD_some, if_true] at hE
          have hjl' : j' < (t0 :: rest).length := by simp; omega
          rw [List.getElem?_eq_getElem hjl'] at hE
          simp [isKey, chainLayout, hE]

def chainTys (ts : List Int) : List SegType := ts.map fun t => if t = 0 then .leapEnd else .dflt

theorem chainTys_getD (ts : List Int) (j : Nat) (h : j < ts.length) : (chainTys ts).getD j .dflt = tyAt ts j := by
  unfold chainTys tyAt
  rw [List.getD_eq_getElem?_getD, List.getD_eq_getElem?_getD, List.getElem?_map, List.getElem?_eq_getElem h]
  rfl

variable (hne : flags ≠ [])

include hs hlen hne in
theorem chain_repeatsOnly : RepeatsOnly (chainLayout t0 rest flags) := by
  have hrest : rest ≠ [] := fun h => hne (List.eq_nil_of_length_eq_zero (by rw [← hlen, h]; rfl))
  refine ⟨rfl, rfl, rfl, rfl, rfl, rfl, rfl, ?_, fun r hr => ?_⟩
  · show t0 < rest.getLastD t0
    rw [List.getLastD_eq_getLast?, List.getLast?_eq_some_getLast hrest]
    exact sorted_head_lt t0 rest hs _ (List.getLast_mem hrest)
  · obtain ⟨h1, h2, h3⟩ := chainRepeats_sub _ _ hs r hr
    refine ⟨?_, h3, le_getLastD t0 rest hs _ h2⟩
    rcases List.mem_cons.mp h1 with h | h
    · exact Int.le_of_eq h.symm
    · exact Int.le_of_lt (sorted_head_lt t0 rest hs _ h)

include hs hlen hadj hne in
theorem chain_mkSegments :
    mkSegments (chainLayout t0 rest flags) =
      some (chainGraph flags (chainTys (t0 :: rest)) ((t0 :: rest).zip rest)) := by
  obtain ⟨n, hn, _, hseg, _⟩ := repeatsOnly_mkSegments _ (chain_repeatsOnly t0 rest flags hs hlen hne)
  rw [chain_keys t0 rest flags hs hlen hadj] at hn hseg
  have hnl : n = flags.length := by simp only [List.length_cons] at hn; omega
  subst hnl
  rw [hseg]
  congr 1
  apply List.ext_getElem?
  intro i
  rw [chainGraph_get]
  simp only [repTable, List.getElem?_map]
  by_cases hi : i < flags.length
  · have h0 : i < (t0 :: rest).length := by omega
    have hss := getD_get (t0 :: rest) i h0
    have hse := getD_get (t0 :: rest) (i + 1) (by omega)
    have etm : ((t0 :: rest).zip rest).getD i (0, 0) = ((t0 :: rest).getD i 0, (t0 :: rest).getD (i + 1) 0) := by
      rw [List.getD_eq_getElem?_getD,
        List.getElem?_zip_eq_some.mpr (show (t0 :: rest)[i]? = some ((t0 :: rest).getD i 0, (t0 :: rest).getD (i + 1) 0).1 ∧ _
          from ⟨hss, hse⟩)]
      rfl
    -- the backward destination of a repeated section is its own start
    have hback : repBack (chainLayout t0 rest flags) (t0 :: rest) i = if flags[i] then some (Dest.seg i) else none := by
      unfold repBack
      show (match repE (chainRepeats (t0 :: rest) flags) _ with
        | none => none
        | some rs => idOf (t0 :: rest) rs) = _
      rw [chain_repE (t0 :: rest) flags hs (i + 1) _ hse]
      simp only [List.getElem?_eq_getElem hi, Option.getD_some, hss]
      cases flags[i] with
      | false => rfl
      | true => simp only [if_true]; rw [idOf_sorted _ hs i _ hss, hn, if_neg (by omega)]
    rw [List.getElem?_range hi, List.getElem?_eq_getElem hi, Option.map_some, Option.map_some,
      chainTys_getD (t0 :: rest) i h0, etm, hback]
    cases flags[i] <;> rfl
  · rw [List.getElem?_eq_none (by simpa using hi), List.getElem?_eq_none (by simpa using hi)]
    rfl

end chain

theorem no_repeats_graph (first last : Int) (h : first < last) :
    mkSegments { first := first, last := last } =
      some [{ start := first, stp := last, to := [.fin], await := [],
              ty := if first = 0 then .leapEnd else .dflt }] :=
  chain_mkSegments first [last] [false] ⟨h, trivial⟩ rfl (fun j hj => by cases j <;> simp at hj ⊢) (by simp)

end C09
