/-
C09: the cleanup-and-order block of `_make_segments` run on the raw
destination STRINGS (`cleanToStr`) gives the id strings of what the model's `cleanTo` computes on
(tag, destination) pairs with segment NUMBERS.
-/
import PartituraModel.Proofs.C09IdStr
import PartituraModel.Proofs.C09Table

namespace C09
open Model.Unfold

theorem str_injective (a b : Dest) (h : a.str = b.str) : a = b := by
  cases a <;> cases b
  · simp only [Dest.str] at h
    rw [segId_injective _ _ h]
  · exact absurd h (segId_ne_end _)
  · exact absurd h.symm (segId_ne_end _)
  · rfl

theorem str_eq_end (d : Dest) : (d.str == endId) = (d == Dest.fin) := by
  cases d with
  | seg i =>
    have h1 : (segId i == endId) = false := by simpa using segId_ne_end i
    have h2 : (Dest.seg i == Dest.fin) = false := by simp
    simp only [Dest.str, h1, h2]
  | fin => simp [Dest.str]

theorem contains_map_str (l : List Dest) (d : Dest) : (l.map Dest.str).contains d.str = l.contains d := by
  induction l with
  | nil => rfl
  | cons a as ih =>
    simp only [List.map_cons, List.contains_cons, ih]
    congr 1
    cases h : d == a
    · have : d ≠ a := by simpa using h
      have : d.str ≠ a.str := fun hh => this (str_injective _ _ hh)
      simpa using this
    · have : d = a := by simpa using h
      subst this
      simp

theorem insSorted_map (j : Nat) : ∀ acc : List Nat, (insSorted j acc).map segId = insStr (segId j) (acc.map segId) := by
  intro acc
  induction acc with
  | nil => rfl
  | cons y ys ih =>
    simp only [insSorted, List.map_cons, insStr]
    have h1 := segId_lt_iff j y
    by_cases hlt : j < y
    · simp [hlt, h1.mpr hlt]
    · have : pyLt (segId j) (segId y) = false := by
        cases h : pyLt (segId j) (segId y)
        · rfl
        · exact absurd (h1.mp h) hlt
      simp only [hlt, if_false, this, Bool.false_eq_true]
      by_cases heq : j = y
      · subst heq
        simp
      · have hne : segId j ≠ segId y := fun hh => heq (segId_injective _ _ hh)
        simp [heq, hne, ih]

/-- the plain destinations: numbers kept sorted by the model, strings sorted by the code -/
theorem plain_sort (plain : List Dest) : ∀ acc : List Nat,
    (plain.foldl (fun acc d => match d with
      | .seg j => insSorted j acc
      | .fin => acc) acc).map segId =
    ((plain.map Dest.str).filter fun d => d != endId).foldl (fun acc d => insStr d acc) (acc.map segId) := by
  induction plain with
  | nil => intro acc; rfl
  | cons d ds ih =>
    intro acc
    cases d with
    | seg j =>
      have hne : (segId j != endId) = true := by simpa using segId_ne_end j
      simp only [List.foldl_cons, List.map_cons, Dest.str, List.filter_cons, hne, if_true, ih, insSorted_map]
    | fin =>
      simp only [List.foldl_cons, List.map_cons, Dest.str, List.filter_cons, ih]
      simp

def vkey (x : Nat × Nat) : PyStr := rawStr (.volta x.1) (.seg x.2)

theorem insVolta_map (x : Nat × Nat) (hx : x.1 ≤ 10) : ∀ l : List (Nat × Nat), (∀ y ∈ l, y.1 ≤ 10) →
    (insVolta x l).map vkey = insStrStable (vkey x) (l.map vkey) := by
  intro l
  induction l with
  | nil => intro _; rfl
  | cons y ys ih =>
    intro hl
    have hy : y.1 ≤ 10 := hl y (List.mem_cons_self ..)
    have hle : pyLe (vkey y) (vkey x) = voltaLe y x := volta_key_le y x hy hx
    simp only [insVolta, List.map_cons, insStrStable]
    rw [hle]
    cases voltaLe y x
    · simp
    · simp [ih fun z hz => hl z (List.mem_cons_of_mem _ hz)]

theorem insVolta_labels (x : Nat × Nat) (hx : x.1 ≤ 10) (l : List (Nat × Nat)) (hl : ∀ y ∈ l, y.1 ≤ 10) :
    ∀ y ∈ insVolta x l, y.1 ≤ 10 :=
  fun y hy => (insVolta_is.mem_ins.mp hy).elim (· ▸ hx) (hl y)

theorem volta_sort (vs : List (Nat × Nat)) (hvs : ∀ y ∈ vs, y.1 ≤ 10) : ∀ acc : List (Nat × Nat), (∀ y ∈ acc, y.1 ≤ 10) →
    (vs.foldl (fun acc x => insVolta x acc) acc).map vkey =
      (vs.map vkey).foldl (fun acc d => insStrStable d acc) (acc.map vkey) := by
  induction vs with
  | nil => intro acc _; rfl
  | cons x xs ih =>
    intro acc hacc
    have hx : x.1 ≤ 10 := hvs x (List.mem_cons_self ..)
    simp only [List.foldl_cons, List.map_cons]
    rw [ih (fun y hy => hvs y (List.mem_cons_of_mem _ hy)) _ (insVolta_labels x hx acc hacc), insVolta_map x hx acc hacc]

theorem vkey_cut (l : List (Nat × Nat)) : (l.map vkey).map (fun d => d.drop 8) = (l.map fun x => Dest.seg x.2).map Dest.str := by
  induction l with
  | nil => rfl
  | cons x xs ih =>
    simp only [List.map_cons, ih, vkey, volta_key_cut]

def voltaList (raw : List (Tag × Dest)) : List (Nat × Nat) :=
  raw.filterMap fun p => match p.1, p.2 with
    | .volta lb, .seg j => some (lb, j)
    | _, _ => none

/-- every `"<n>_Volta_"` destination is a segment (never END) with a label the model knows (digit or `Z`) -/
def VoltaOK (raw : List (Tag × Dest)) : Prop :=
  ∀ p ∈ raw, ∀ lb, p.1 = Tag.volta lb → lb ≤ 10 ∧ p.2 ≠ Dest.fin

theorem voltaOK_tail {p : Tag × Dest} {raw : List (Tag × Dest)} (h : VoltaOK (p :: raw)) : VoltaOK raw :=
  fun q hq lb hl => h q (List.mem_cons_of_mem _ hq) lb hl

theorem voltaOf_eq (raw : List (Tag × Dest)) (h : VoltaOK raw) : voltaOf raw = some (voltaList raw) := by
  induction raw with
  | nil => rfl
  | cons p ps ih =>
    have ih' := ih (voltaOK_tail h)
    obtain ⟨t, d⟩ := p
    have hp := h (t, d) (List.mem_cons_self ..)
    simp only [voltaOf, List.foldr_cons] at ih' ⊢
    rw [ih']
    cases t <;> cases d <;> simp [voltaList] at hp ⊢

theorem voltaList_labels (raw : List (Tag × Dest)) (h : VoltaOK raw) : ∀ y ∈ voltaList raw, y.1 ≤ 10 := by
  intro y hy
  obtain ⟨⟨t, d⟩, hp, hsel⟩ := List.mem_filterMap.mp hy
  cases t with
  | volta lb =>
    cases d with
    | seg j =>
      rw [← Option.some.inj hsel]
      exact (h _ hp lb rfl).1
    | fin => cases hsel
  | plain => cases hsel
  | nav1 => cases hsel
  | nav2 => cases hsel

/-- selecting raw strings by a substring test and cutting off the mark is selecting tagged destinations: the test holds
exactly of the raw strings of those `sel` keeps, and what is left of such a string is the string of what `sel` returns -/
theorem filter_rawOf {β : Type} (sel : Tag × Dest → Option β) (Q : PyStr → Bool) (cut : PyStr → PyStr)
    (out : β → PyStr) (raw : List (Tag × Dest))
    (h : ∀ p ∈ raw, match sel p with
      | some b => Q (rawOf p) = true ∧ cut (rawOf p) = out b
      | none => Q (rawOf p) = false) :
    ((raw.map rawOf).filter Q).map cut = (raw.filterMap sel).map out := by
  induction raw with
  | nil => rfl
  | cons p ps ih =>
    have hp := h p (List.mem_cons_self ..)
    have ih' := ih fun q hq => h q (List.mem_cons_of_mem _ hq)
    rw [List.map_cons, List.filter_cons, List.filterMap_cons]
    cases hs : sel p with
    | none =>
      rw [hs] at hp
      simp only [hp, Bool.false_eq_true, if_false]
      exact ih'
    | some b =>
      rw [hs] at hp
      simp only [hp.1, if_true, List.map_cons, hp.2, ih']

theorem filter_plain (raw : List (Tag × Dest)) :
    (raw.map rawOf).filter (fun d => !pyContains voltaSub d && !pyContains navSub d) = (plainOf raw).map Dest.str := by
  rw [← List.map_id (List.filter _ _)]
  refine filter_rawOf _ _ id Dest.str raw fun p _ => ?_
  obtain ⟨t, d⟩ := p
  cases t with
  | plain => exact ⟨by simp [rawOf, class_plain d], rfl⟩
  | volta lb => simp [rawOf, (class_volta lb d).1]
  | nav1 => simp [rawOf, (class_nav_sub d).1]
  | nav2 => simp [rawOf, (class_nav_sub d).2]

theorem filter_volta (raw : List (Tag × Dest)) (h : VoltaOK raw) :
    (raw.map rawOf).filter (fun d => pyContains voltaSub d) = (voltaList raw).map vkey := by
  rw [← List.map_id (List.filter _ _)]
  refine filter_rawOf _ _ id vkey raw fun p hp => ?_
  obtain ⟨t, d⟩ := p
  cases t with
  | plain => cases d <;> exact (class_plain _).1
  | volta lb =>
    cases d with
    | fin => exact absurd rfl (h _ hp lb rfl).2
    | seg j => exact ⟨(class_volta lb (Dest.seg j)).1, rfl⟩
  | nav1 => cases d <;> exact (class_nav1 _).1
  | nav2 => cases d <;> exact (class_nav2 _).1

theorem filter_nav1 (raw : List (Tag × Dest)) :
    ((raw.map rawOf).filter (fun d => pyContains (navMark 1) d)).map (fun d => d.drop 12) = (nav1Of raw).map Dest.str := by
  refine filter_rawOf _ _ _ Dest.str raw fun p _ => ?_
  obtain ⟨t, d⟩ := p
  cases t with
  | plain => exact class_plain_not_nav d 1
  | volta lb => exact class_volta_not_nav lb d 1
  | nav1 => exact ⟨(class_nav1 d).2.1, nav_key_cut 1 d⟩
  | nav2 => exact (class_nav2 d).2.2

theorem filter_nav2 (raw : List (Tag × Dest)) :
    ((raw.map rawOf).filter (fun d => pyContains (navMark 2) d)).map (fun d => d.drop 12) = (nav2Of raw).map Dest.str := by
  refine filter_rawOf _ _ _ Dest.str raw fun p _ => ?_
  obtain ⟨t, d⟩ := p
  cases t with
  | plain => exact class_plain_not_nav d 2
  | volta lb => exact class_volta_not_nav lb d 2
  | nav1 => exact (class_nav1 d).2.2
  | nav2 => exact ⟨(class_nav2 d).2.1, nav_key_cut 2 d⟩

theorem filter_str (l : List Dest) (P : Dest → Bool) (Q : PyStr → Bool) (h : ∀ d ∈ l, Q d.str = P d) :
    (l.map Dest.str).filter Q = (l.filter P).map Dest.str := by
  induction l with
  | nil => rfl
  | cons a as ih =>
    have ha := h a (List.mem_cons_self ..)
    have ih' := ih fun d hd => h d (List.mem_cons_of_mem _ hd)
    simp only [List.map_cons, List.filter_cons, ha, ih']
    cases P a <;> simp

theorem vkey_not_end (l : List (Nat × Nat)) : (l.map vkey).contains endId = false := by
  induction l with
  | nil => rfl
  | cons x xs ih =>
    simp only [List.map_cons, List.contains_cons, ih, Bool.or_false]
    simp [vkey, rawStr, endId, voltaMark]

theorem contains_end (l : List Dest) : (l.map Dest.str).contains endId = l.contains Dest.fin :=
  contains_map_str l Dest.fin

theorem filter_ne_end_id (l : List Dest) (h : l.contains Dest.fin = false) :
    (l.map Dest.str).filter (fun d => d != endId) = l.map Dest.str := by
  induction l with
  | nil => rfl
  | cons a as ih =>
    simp only [List.contains_cons, Bool.or_eq_false_iff] at h
    have ha : (a.str != endId) = true := by
      have := str_eq_end a
      have h1 : (a == Dest.fin) = false := by
        cases a
        · rfl
        · simp at h
      simp [bne, this, h1]
    simp only [List.map_cons, List.filter_cons, ha, if_true, ih h.2]

theorem plainIdx_str (plain : List Dest) :
    ((plain.map Dest.str).filter fun d => d != endId).foldl (fun acc d => insStr d acc) [] = (plainIdxOf plain).map segId := by
  have := plain_sort plain []
  simp only [List.map_nil] at this
  exact this.symm

theorem volta_str (vl : List (Nat × Nat)) (hvl : ∀ y ∈ vl, y.1 ≤ 10) :
    ((vl.map vkey).foldl (fun acc d => insStrStable d acc) []).map (fun d => d.drop 8) =
      ((vl.foldl (fun acc x => insVolta x acc) []).map fun x => Dest.seg x.2).map Dest.str := by
  have := volta_sort vl hvl [] (by intro y hy; cases hy)
  simp only [List.map_nil] at this
  rw [← this, vkey_cut]

/-- the ordering block, list by list: each sort and each filter on strings is the sort or filter on numbers (`hV`, `hP`), and the
test for END among the strings is the test for `fin` (`hE`) -/
theorem order_refines (own : Nat) (plain nav1 nav2 : List Dest) (vl : List (Nat × Nat)) (hvl : ∀ y ∈ vl, y.1 ≤ 10) :
    orderStr (segId own) (plain.map Dest.str) (vl.map vkey) (nav1.map Dest.str) (nav2.map Dest.str) =
      ((orderNum own plain vl nav1 nav2).1.map Dest.str, (orderNum own plain vl nav1 nav2).2.map Dest.str) := by
  have hE : (vl.map vkey ++ plain.map Dest.str ++ nav1.map Dest.str).contains endId =
      (plain.contains Dest.fin || nav1.contains Dest.fin) := by
    simp only [List.contains_append, vkey_not_end, contains_end, Bool.false_or]
  have hEmpty : (nav1.map Dest.str).isEmpty = nav1.isEmpty := by cases nav1 <;> rfl
  have hV := volta_str vl hvl
  generalize hVdef : ((vl.foldl (fun acc x => insVolta x acc) []).map fun x => Dest.seg x.2) = V at hV
  have hP : ∀ b : Bool, b = (plain.contains Dest.fin || nav1.contains Dest.fin) →
      (if b = true then (plain.map Dest.str).filter (fun d => d != endId) else plain.map Dest.str).foldl
        (fun acc d => insStr d acc) [] = (plainIdxOf plain).map segId := by
    intro b hb
    cases b with
    | true => exact plainIdx_str plain
    | false =>
      have : plain.contains Dest.fin = false := by
        cases h : plain.contains Dest.fin
        · rfl
        · rw [h] at hb; cases hb
      simp only [Bool.false_eq_true, if_false]
      rw [← filter_ne_end_id plain this]
      exact plainIdx_str plain
  have hN : ∀ b : Bool, (if b = true then nav1.map Dest.str ++ [endId] else nav1.map Dest.str) =
      (if b = true then nav1 ++ [Dest.fin] else nav1).map Dest.str := by
    intro b; cases b <;> simp [Dest.str]
  have hsegs : (plainIdxOf plain).map segId = ((plainIdxOf plain).map Dest.seg).map Dest.str := by
    rw [List.map_map]; rfl
  have hP' : ((plainIdxOf plain).map segId).filter (fun d => !(V.map Dest.str).contains d) =
      (((plainIdxOf plain).map Dest.seg).filter fun d => !V.contains d).map Dest.str := by
    rw [hsegs]
    exact filter_str _ _ _ fun d _ => by rw [contains_map_str]
  unfold orderStr orderNum
  simp only [hE, hEmpty, hP _ rfl, hN, hV, hVdef, hP']
  generalize hN'def : (if (plain.contains Dest.fin || nav1.contains Dest.fin) = true then nav1 ++ [Dest.fin] else nav1) = N'
  generalize hPdef : (((plainIdxOf plain).map Dest.seg).filter fun d => !V.contains d) = P'
  have hmem : ∀ d ∈ P', ∃ j, d = Dest.seg j := by
    intro d hd
    rw [← hPdef] at hd
    obtain ⟨j, _, rfl⟩ := List.mem_map.mp (List.mem_filter.mp hd).1
    exact ⟨j, rfl⟩
  have hA : (P'.map Dest.str).filter (fun d => pyLt (segId own) d) = (P'.filter fun d => d.ahead own).map Dest.str :=
    filter_str _ _ _ fun d hd => by
      obtain ⟨j, rfl⟩ := hmem d hd
      exact (ahead_eq own j).symm
  have hB : (P'.map Dest.str).filter (fun d => pyLe d (segId own)) = (P'.filter fun d => !d.ahead own).map Dest.str :=
    filter_str _ _ _ fun d hd => by
      obtain ⟨j, rfl⟩ := hmem d hd
      exact (not_ahead_eq own j).symm
  have hC : (N'.map Dest.str).filter (fun d => d != endId) = (N'.filter fun d => decide (d ≠ Dest.fin)).map Dest.str :=
    filter_str _ _ _ fun d _ => by
      have := str_eq_end d
      cases d <;> simp_all [bne]
  have hD : (N'.map Dest.str).filter (fun d => d == endId) = (N'.filter fun d => decide (d = Dest.fin)).map Dest.str :=
    filter_str _ _ _ fun d _ => by
      have := str_eq_end d
      cases d <;> simp_all
  cases nav1.isEmpty <;> simp [hA, hB, hC, hD]

theorem cleanTo_refines (own : Nat) (raw : List (Tag × Dest)) (h : VoltaOK raw) :
    (cleanTo own raw).map (fun r => (r.1.map Dest.str, r.2.map Dest.str)) =
      some (cleanToStr (segId own) (raw.map rawOf)) := by
  rw [cleanTo_named, voltaOf_eq raw h]
  simp only [Option.map_some]
  unfold cleanToStr
  rw [filter_plain, filter_volta raw h, filter_nav1, filter_nav2,
    order_refines own _ _ _ _ (voltaList_labels raw h)]

theorem voltaOf_some_ne_fin (raw : List (Tag × Dest)) (l : List (Nat × Nat)) (h : voltaOf raw = some l) :
    ∀ p ∈ raw, ∀ lb, p.1 = Tag.volta lb → p.2 ≠ Dest.fin := by
  induction raw generalizing l with
  | nil => intro p hp; cases hp
  | cons q qs ih =>
    intro p hp lb hlb
    simp only [voltaOf, List.foldr_cons] at h
    cases htl : voltaOf qs with
    | none =>
      simp only [voltaOf] at htl
      rw [htl] at h
      cases h
    | some l' =>
      rcases List.mem_cons.mp hp with rfl | hp
      · simp only [voltaOf] at htl
        rw [htl] at h
        obtain ⟨t, d⟩ := p
        simp only at hlb
        subst hlb
        cases d with
        | seg j => simp
        | fin => simp at h
      · exact ih l' htl p hp lb hlb

theorem cleanTo_some_voltaOK (own : Nat) (raw : List (Tag × Dest)) (r : List Dest × List Dest)
    (h : cleanTo own raw = some r) (hl : ∀ p ∈ raw, ∀ lb, p.1 = Tag.volta lb → lb ≤ 10) : VoltaOK raw := by
  rw [cleanTo_named] at h
  cases hv : voltaOf raw with
  | none => rw [hv] at h; cases h
  | some l =>
    intro p hp lb hlb
    exact ⟨hl p hp lb hlb, voltaOf_some_ne_fin raw l hv p hp lb hlb⟩

/-- every `"<n>_Volta_"` label is a decimal digit or `Z` -/
def LabelsOK (infs : List SegInfo) : Prop :=
  ∀ inf ∈ infs, ∀ p ∈ inf.to, ∀ lb, p.1 = Tag.volta lb → lb ≤ 10

theorem buildSegs_refines (times : List Int) (info : List SegInfo) (i : Nat) (ts : List Int) (infs : List SegInfo) :
    ∀ (g : List Seg), buildSegs times info i ts infs = some g → LabelsOK infs →
    buildStr i ts infs = g.map fun s => (s.to.map Dest.str, s.await.map Dest.str) := by
  fun_induction buildStr i ts infs with
  | case1 i s e rest inf infs ih =>
    intro g hg hok
    obtain ⟨to, aw, tl, hct, htl, rfl⟩ := (buildSegs_cons times info i s e rest inf infs g).mp hg
    have hc := cleanTo_refines i inf.to (cleanTo_some_voltaOK i _ _ hct (hok _ (List.mem_cons_self ..)))
    rw [hct] at hc
    rw [List.map_cons, ← Option.some.inj hc, ih tl htl fun inf' h' => hok inf' (List.mem_cons_of_mem _ h')]
  | case2 ts i infs hne =>
    intro g hg _
    have : buildSegs times info i ts infs = some [] := by
      unfold buildSegs
      split
      · exact absurd rfl (hne _ _ _ _ _ rfl)
      · rfl
    rw [this] at hg
    rw [← Option.some.inj hg]; rfl

/-- Table level: when `add_segments` (the model, on numbers) succeeds and the labels are digits or `Z`, the string
algorithm builds the id strings of the same `to` / `await_to` lists. -/
theorem mkSegments_refines (L : Layout) (g : List Seg) (h : mkSegments L = some g)
    (hl : ∀ st n, procAll L (mkTable L) ((mkTable L).map (·.1)) 0 ((mkTable L).map (·.1))
        { info := List.replicate n {} } = some st → LabelsOK st.info) :
    mkSegmentsStr L = some (g.map fun s => (s.to.map Dest.str, s.await.map Dest.str)) := by
  unfold mkSegments at h
  unfold mkSegmentsStr
  cases hs : L.supported with
  | false => simp [hs] at h
  | true =>
    simp only [hs, Bool.not_true, Bool.false_eq_true, if_false, List.length_map] at h ⊢
    split at h
    · cases h
    · rename_i st hp
      rw [hp]
      simp only
      rw [buildSegs_refines _ _ 0 _ _ g h (hl st _ hp)]

end C09
