/-
C17, key estimation: the exact argmax is invariant under octave shifts and
positive scaling of the durations and rotates with transposition; the variance of every key profile is positive.
-/
import PartituraModel.Model.KeyEst
import Mathlib.Algebra.Order.Field.Rat
import Mathlib.Tactic.Ring
import Mathlib.Tactic.Linarith
import Mathlib.Data.List.Rotate
import Mathlib.Algebra.BigOperators.Ring.List

namespace C17K
open Model Model.KeyEst

theorem sum12_congr (f g : Nat → Rat) (h : ∀ j, j < 12 → f j = g j) : sum12 f = sum12 g := by
  rw [sum12, List.map_congr_left fun j hj => h j (List.mem_range.mp hj), sum12]

theorem sum12_mul (k : Rat) (f : Nat → Rat) : sum12 (fun j => k * f j) = k * sum12 f :=
  List.sum_map_mul_left ..

/-- rotation of a 12-vector to the right by `t` places -/
def rotL (t : Nat) (f : Nat → Rat) : Nat → Rat := fun j => f ((j + 12 - t) % 12)

theorem sum12_rot2 (F G : Nat → Rat) (t : Nat) (ht : t < 12) :
    sum12 (fun j => F ((j + 12 - t) % 12) * G j) = sum12 (fun k => F k * G ((k + t) % 12)) := by
  -- the list of terms on the left is the one on the right rotated by `12 - t` places
  have : (List.range 12).map (fun j => F ((j + 12 - t) % 12) * G j) =
      ((List.range 12).map (fun k => F k * G ((k + t) % 12))).rotate (12 - t) := by
    refine List.ext_getElem (by rw [List.length_rotate, List.length_map, List.length_map]) fun j hj _ => ?_
    rw [List.length_map, List.length_range] at hj
    simp only [List.getElem_rotate, List.getElem_map, List.getElem_range, List.length_map, List.length_range]
    rw [show (j + (12 - t)) % 12 = (j + 12 - t) % 12 by omega, show ((j + 12 - t) % 12 + t) % 12 = j by omega]
  rw [sum12, this, (List.rotate_perm _ _).sum_eq, sum12]

theorem sum12_rot1 (F : Nat → Rat) (t : Nat) (ht : t < 12) : sum12 (rotL t F) = sum12 F := by
  have := sum12_rot2 F (fun _ => 1) t ht
  simp only [mul_one] at this
  exact this

theorem hist_cons (n : KNote) (rest : List KNote) (pc : Nat) :
    hist (n :: rest) pc = (if n.1 % 12 = (pc : Int) then n.2 else 0) + hist rest pc := by
  simp only [hist, List.filter_cons]
  split <;> simp_all

theorem hist_octave : ∀ (notes : List KNote) (shifts : List Int) (pc : Nat),
    hist (List.zipWith (fun n k => (n.1 + 12 * k, n.2)) notes shifts) pc =
    hist (notes.take shifts.length) pc := by
  intro notes
  induction notes with
  | nil => intro shifts pc; simp
  | cons n rest ih =>
    intro shifts pc
    cases shifts with
    | nil => simp
    | cons k ks =>
      simp only [List.zipWith_cons_cons, List.length_cons, List.take_succ_cons, hist_cons, ih]
      have : (n.1 + 12 * k) % 12 = n.1 % 12 := by omega
      rw [this]

theorem hist_scale (k : Rat) : ∀ (notes : List KNote) (pc : Nat),
    hist (notes.map fun n => (n.1, n.2 * k)) pc = k * hist notes pc := by
  intro notes
  induction notes with
  | nil => intro pc; simp [hist]
  | cons n rest ih =>
    intro pc
    simp only [List.map_cons, hist_cons, ih]
    split <;> ring

theorem hist_transpose (s : Int) : ∀ (notes : List KNote) (pc : Nat), pc < 12 →
    hist (notes.map fun n => (n.1 + s, n.2)) pc = rotL (s % 12).toNat (hist notes) pc := by
  intro notes
  induction notes with
  | nil => intro pc _; simp [hist, rotL]
  | cons n rest ih =>
    intro pc hpc
    simp only [List.map_cons, hist_cons, ih pc hpc, rotL]
    have : ((n.1 + s) % 12 = (pc : Int)) ↔ (n.1 % 12 = (((pc + 12 - (s % 12).toNat) % 12 : Nat) : Int)) := by
      omega
    by_cases h : (n.1 + s) % 12 = (pc : Int)
    · rw [if_pos h, if_pos (this.mp h)]
    · rw [if_neg h, if_neg (fun e => h (this.mpr e))]

theorem argBestAux_map {α β : Type} (f : α → β) (b : α → α → Bool) (b' : β → β → Bool)
    (hb : ∀ x y, b' (f x) (f y) = b x y) :
    ∀ (l : List α) (i bi : Nat) (bv : α),
      argBestAux b' (l.map f) i bi (f bv) = argBestAux b l i bi bv := by
  intro l
  induction l with
  | nil => intro i bi bv; rfl
  | cons x xs ih =>
    intro i bi bv
    simp only [List.map_cons, argBestAux, hb]
    split
    · exact ih _ _ _
    · exact ih _ _ _

theorem argBestAux_keep {α : Type} (b : α → α → Bool) : ∀ (rest : List α) (i bi : Nat) (bv : α),
    (∀ x ∈ rest, b x bv = false) → argBestAux b rest i bi bv = bi
  | [], _, _, _, _ => rfl
  | x :: xs, i, bi, bv, h => by
    rw [argBestAux, h x List.mem_cons_self]
    exact argBestAux_keep b xs (i + 1) bi bv fun y hy => h y (List.mem_cons_of_mem _ hy)

/-- an element that beats every other one is taken when the scan reaches it, whatever the running best, and kept -/
theorem argBestAux_top {α : Type} (b : α → α → Bool) (hasym : ∀ x y, b x y = true → b y x = false) (t : α) (post : List α) :
    ∀ (pre : List α) (i bi : Nat) (bv : α), (∀ y ∈ bv :: pre ++ post, b t y = true) →
      argBestAux b (pre ++ t :: post) i bi bv = i + pre.length
  | [], i, bi, bv, h => by
    rw [List.nil_append, argBestAux, h bv (by simp)]
    exact argBestAux_keep b post (i + 1) i t fun y hy => hasym t y (h y (by simp [hy]))
  | p :: pre, i, bi, bv, h => by
    rw [List.cons_append, argBestAux]
    split
    · rw [argBestAux_top b hasym t post pre (i + 1) i p fun y hy => h y (List.mem_cons_of_mem _ hy), List.length_cons]; omega
    · rw [argBestAux_top b hasym t post pre (i + 1) bi bv fun y hy => h y ((List.mem_cons.mp hy).elim
        (fun e => e ▸ List.mem_cons_self) fun hy => List.mem_cons_of_mem _ (List.mem_cons_of_mem _ hy)), List.length_cons]; omega

theorem argBestNE_unique {α : Type} (b : α → α → Bool) (hasym : ∀ x y, b x y = true → b y x = false)
    (x : α) (xs : List α) (r : Nat) (hr : r < (x :: xs).length)
    (hbest : ∀ i (hi : i < (x :: xs).length), i ≠ r → b (x :: xs)[r] (x :: xs)[i] = true) :
    argBestNE b x xs = r := by
  cases r with
  | zero =>
    exact argBestAux_keep b xs 1 0 x fun y hy => by
      obtain ⟨i, hi, rfl⟩ := List.getElem_of_mem hy
      exact hasym _ _ (hbest (i + 1) (by simpa using hi) (by omega))
  | succ r =>
    have hr' : r < xs.length := by simpa using hr
    have key := argBestAux_top b hasym xs[r] (xs.drop (r + 1)) (xs.take r) 1 0 x fun y hy => by
      rcases List.mem_cons.mp hy with rfl | hy
      · exact hbest 0 (by simp) (by omega)
      · rcases List.mem_append.mp hy with hy | hy
        · obtain ⟨i, hi, rfl⟩ := List.mem_take_iff_getElem.mp hy
          exact hbest (i + 1) (by rw [List.length_cons]; omega) (by omega)
        · obtain ⟨i, hi, rfl⟩ := List.mem_drop_iff_getElem.mp hy
          exact hbest (r + 1 + i + 1) (by rw [List.length_cons]; omega) (by omega)
    rw [List.getElem_cons_drop, List.take_append_drop, List.length_take, Nat.min_eq_left hr'.le] at key
    rw [argBestNE, key, Nat.add_comm]

theorem better_asymm (x y : Rat × Rat) : better x y = true → better y x = false := by
  simp only [better, decide_eq_true_eq, decide_eq_false_iff_not, not_lt]
  intro h; exact le_of_lt h

theorem mean12_scale (k : Rat) (h : Nat → Rat) : mean12 (fun j => k * h j) = k * mean12 h := by
  simp only [mean12, sum12_mul]; ring

theorem cov12_scale_left (k : Rat) (h g : Nat → Rat) :
    cov12 (fun j => k * h j) g = k * cov12 h g := by
  simp only [cov12, mean12_scale]
  rw [← sum12_mul]
  apply sum12_congr
  intro j _; ring

theorem cov12_scale_both (k : Rat) (h : Nat → Rat) :
    cov12 (fun j => k * h j) (fun j => k * h j) = k * k * cov12 h h := by
  simp only [cov12, mean12_scale]
  rw [← sum12_mul]
  apply sum12_congr
  intro j _; ring

/-- `t ↦ sgn(t)·t²` over an ordered field; `sgnSq` of Model/KeyEst.lean is the rational instance -/
def sgnSqF {F : Type} [Field F] [LinearOrder F] [IsStrictOrderedRing F] (c : F) : F :=
  if c < 0 then -(c * c) else c * c

theorem sgnSqF_mul {F : Type} [Field F] [LinearOrder F] [IsStrictOrderedRing F] (c a : F) (ha : 0 < a) :
    sgnSqF (c * a) = sgnSqF c * (a * a) := by
  unfold sgnSqF
  have : c * a < 0 ↔ c < 0 := by
    constructor
    · intro h; by_contra hc; rw [not_lt] at hc; nlinarith [mul_nonneg hc (le_of_lt ha)]
    · intro h; exact mul_neg_of_neg_of_pos h ha
  by_cases hc : c < 0
  · rw [if_pos hc, if_pos (this.mpr hc)]; ring
  · rw [if_neg hc, if_neg (fun e => hc (this.mp e))]; ring

theorem sgnSq_scale (k c : Rat) (hk : 0 < k) : sgnSq (k * c) = k * k * sgnSq c := by
  rw [mul_comm k c, mul_comm (k * k)]
  exact sgnSqF_mul c k hk

theorem keyIndexOfHist_scale (ps : ProfileSet) (h : Nat → Rat) (k : Rat) (hk : 0 < k) :
    keyIndexOfHist ps (fun j => k * h j) = keyIndexOfHist ps h := by
  have hkk : 0 < k * k := mul_pos hk hk
  unfold keyIndexOfHist
  rw [cov12_scale_both]
  have hz : k * k * cov12 h h = 0 ↔ cov12 h h = 0 := by
    constructor
    · intro e; rcases mul_eq_zero.mp e with e | e
      · exact absurd e (ne_of_gt hkk)
      · exact e
    · intro e; rw [e]; ring
  by_cases h0 : cov12 h h = 0
  · rw [if_pos h0, if_pos (hz.mpr h0)]
  · rw [if_neg h0, if_neg (fun e => h0 (hz.mp e))]
    have hscore : ∀ i, keyScore ps (fun j => k * h j) i =
        (fun a : Rat × Rat => (k * k * a.1, a.2)) (keyScore ps h i) := by
      intro i
      simp only [keyScore, cov12_scale_left, sgnSq_scale _ _ hk]
    -- both sides of the comparison are multiplied by `k * k > 0`
    have hb : ∀ x y : Rat × Rat,
        better ((fun a : Rat × Rat => (k * k * a.1, a.2)) x) ((fun a : Rat × Rat => (k * k * a.1, a.2)) y) = better x y := by
      intro x y
      simp only [better]
      congr 1
      apply propext
      constructor
      · intro hh; nlinarith
      · intro hh; nlinarith
    unfold argBestNE
    rw [hscore 0]
    have : (List.range' 1 23).map (keyScore ps fun j => k * h j) =
        ((List.range' 1 23).map (keyScore ps h)).map (fun a : Rat × Rat => (k * k * a.1, a.2)) := by
      rw [List.map_map]; apply List.map_congr_left; intro i _; exact hscore i
    rw [this]
    exact argBestAux_map _ better better hb _ _ _ _

theorem mean12_congr (f g : Nat → Rat) (h : ∀ j, j < 12 → f j = g j) : mean12 f = mean12 g := by
  simp only [mean12, sum12_congr f g h]

theorem cov12_congr {f f' g g' : Nat → Rat} (hf : ∀ j, j < 12 → f j = f' j) (hg : ∀ j, j < 12 → g j = g' j) :
    cov12 f g = cov12 f' g' := by
  simp only [cov12, mean12_congr f f' hf, mean12_congr g g' hg]
  apply sum12_congr
  intro j hj; rw [hf j hj, hg j hj]

theorem rotL_zero (g : Nat → Rat) (j : Nat) (hj : j < 12) : rotL 0 g j = g j := by
  simp only [rotL]
  have : (j + 12 - 0) % 12 = j := by omega
  rw [this]

theorem baseProfile_mod (ps : ProfileSet) (b : Bool) (k : Nat) : baseProfile ps b (k % 12) = baseProfile ps b k := by
  simp only [baseProfile, Nat.mod_mod]

theorem keyProfile_eq (ps : ProfileSet) (i : Nat) :
    keyProfile ps i = rotL (i % 12) (baseProfile ps (decide (12 ≤ i))) := by
  funext j
  simp only [keyProfile, rotL, baseProfile_mod]

/-- the key whose tonic is `t` semitones below that of key `i`, same mode -/
def tau (t i : Nat) : Nat := (i / 12) * 12 + (i % 12 + 12 - t) % 12

theorem mean12_rot (t : Nat) (ht : t < 12) (f : Nat → Rat) : mean12 (rotL t f) = mean12 f := by
  simp only [mean12, sum12_rot1 f t ht]

theorem cov12_rot (t a : Nat) (ht : t < 12) (ha : a < 12) (h B : Nat → Rat) :
    cov12 (rotL t h) (rotL a B) = cov12 h (rotL ((a + 12 - t) % 12) B) := by
  have ha' : (a + 12 - t) % 12 < 12 := Nat.mod_lt _ (by omega)
  simp only [cov12, mean12_rot t ht, mean12_rot a ha, mean12_rot _ ha']
  have := sum12_rot2 (fun k => h k - mean12 h) (fun j => rotL a B j - mean12 B) t ht
  simp only [rotL] at this ⊢
  rw [this]
  apply sum12_congr
  intro k _
  have e : ((k + t) % 12 + 12 - a) % 12 = (k + 12 - (a + 12 - t) % 12) % 12 := by omega
  rw [e]

theorem cov12_rot_self (t : Nat) (ht : t < 12) (f g : Nat → Rat) : cov12 (rotL t f) (rotL t g) = cov12 f g := by
  rw [cov12_rot t t ht ht, show (t + 12 - t) % 12 = 0 by omega]
  exact cov12_congr (fun _ _ => rfl) (rotL_zero g)

/-- the variance of every shipped key profile is positive: that of its mode's base profile (3 sets x 2 modes, evaluated),
    of which it is a rotation -/
theorem profile_variance_pos (ps : ProfileSet) (i : Nat) : 0 < cov12 (keyProfile ps i) (keyProfile ps i) := by
  rw [keyProfile_eq, cov12_rot_self _ (Nat.mod_lt _ (by omega))]
  cases ps <;> cases decide (12 ≤ i) <;> decide +kernel

theorem keyScore_transpose (ps : ProfileSet) (h h' : Nat → Rat) (t : Nat) (ht : t < 12)
    (hh : ∀ j, j < 12 → h' j = rotL t h j) (i : Nat) :
    keyScore ps h' i = keyScore ps h (tau t i) := by
  have hmode : decide (12 ≤ tau t i) = decide (12 ≤ i) := by
    simp only [tau]; congr 1; apply propext; omega
  have htm : tau t i % 12 = (i % 12 + 12 - t) % 12 := by simp only [tau]; omega
  simp only [keyScore]
  rw [cov12_congr hh (fun _ _ => rfl), keyProfile_eq ps i, keyProfile_eq ps (tau t i), hmode, htm,
    cov12_rot t (i % 12) ht (Nat.mod_lt _ (by omega)),
    cov12_rot_self _ (Nat.mod_lt _ (by omega)), cov12_rot_self _ (Nat.mod_lt _ (by omega))]

/-- key `m` has the strictly greatest correlation (and the correlations are defined) -/
def UniqueMaxH (ps : ProfileSet) (h : Nat → Rat) (m : Nat) : Prop :=
  cov12 h h ≠ 0 ∧ m < 24 ∧ ∀ i, i < 24 → i ≠ m → better (keyScore ps h m) (keyScore ps h i) = true

theorem keyIndexOfHist_unique (ps : ProfileSet) (h : Nat → Rat) (m : Nat) (hu : UniqueMaxH ps h m) :
    keyIndexOfHist ps h = m := by
  obtain ⟨h0, hm, hbest⟩ := hu
  unfold keyIndexOfHist
  rw [if_neg h0]
  have hL : (keyScore ps h 0 :: (List.range' 1 23).map (keyScore ps h)) = (List.range 24).map (keyScore ps h) := by
    rfl
  apply argBestNE_unique better better_asymm _ _ m (by simpa using hm)
  intro i hi hne
  simp only [hL, List.getElem_map, List.getElem_range]
  exact hbest i (by simpa using hi) hne

/-- the key `s` semitones above key `m`, same mode (`key_transpose` of Props/C17.lean writes the formula out) -/
def transposeKey (s : Int) (m : Nat) : Nat := (m / 12) * 12 + (m % 12 + (s % 12).toNat) % 12

theorem keyIndexOfHist_transpose (ps : ProfileSet) (h h' : Nat → Rat) (t : Nat) (ht : t < 12)
    (hh : ∀ j, j < 12 → h' j = rotL t h j) (m : Nat) (hu : UniqueMaxH ps h m) :
    keyIndexOfHist ps h' = (m / 12) * 12 + (m % 12 + t) % 12 := by
  obtain ⟨h0, hm, hbest⟩ := hu
  apply keyIndexOfHist_unique
  refine ⟨?_, by omega, ?_⟩
  · rwa [cov12_congr hh hh, cov12_rot_self t ht]
  · intro i hi hne
    rw [keyScore_transpose ps h h' t ht hh, keyScore_transpose ps h h' t ht hh]
    have e1 : tau t ((m / 12) * 12 + (m % 12 + t) % 12) = m := by simp only [tau]; omega
    rw [e1]
    apply hbest
    · simp only [tau]; omega
    · simp only [tau]; omega

theorem argBestAux_lt {α : Type} (b : α → α → Bool) : ∀ (rest : List α) (i bi : Nat) (bv : α),
    bi < i → argBestAux b rest i bi bv < i + rest.length := by
  intro rest
  induction rest with
  | nil => intro i bi bv h; simpa [argBestAux] using h
  | cons x xs ih =>
    intro i bi bv h
    simp only [argBestAux, List.length_cons]
    split
    · have := ih (i + 1) i x (by omega); omega
    · have := ih (i + 1) bi bv (by omega); omega

theorem keyIndexOfHist_lt (ps : ProfileSet) (h : Nat → Rat) : keyIndexOfHist ps h < 24 := by
  unfold keyIndexOfHist
  split
  · omega
  · have := argBestAux_lt better ((List.range' 1 23).map (keyScore ps h)) 1 0 (keyScore ps h 0) (by omega)
    simpa [argBestNE] using this

end C17K
