/-
C18 — the tempo normalisations over exact rationals: rescale ∘ scale = id.
-/
import PartituraModel.Proofs.C18Basic
import Mathlib.Data.List.Forall2

namespace C18P
open Model Model.Codec

def scaleRow (n : Norm) (sd m b : Rat) : List Rat :=
  match n with
  | .bp => [b]
  | .log => [b]
  | .ratio => [b / m, m]
  | .ratioLog => [b / m, m]
  | .std => [if sd = 0 then 0 else (b - m) / sd, m, sd]

theorem scale_eq_map (n : Norm) (sd : Rat) (bps : List Rat) : scale n sd bps = bps.map (scaleRow n sd (mean bps)) := by
  cases n <;> rfl

theorem scale_length (n : Norm) (sd : Rat) (bp : List Rat) : (scale n sd bp).length = bp.length := by
  rw [scale_eq_map, List.length_map]

theorem scale_rescale (n : Norm) (sd : Rat) (bps : List Rat) (hpos : ∀ b ∈ bps, 0 < b)
    (hsd : C18.StdOk n sd bps) :
    List.Forall₂ (fun c b => rescale n c = some b) (scale n sd bps) bps := by
  rw [scale_eq_map, List.forall₂_map_left_iff]
  refine List.forall₂_same.mpr fun b hb => ?_
  have hm : mean bps ≠ 0 := ne_of_gt (mean_pos bps (List.ne_nil_of_mem hb) hpos)
  cases n with
  | bp | log => rfl
  | ratio | ratioLog =>
    simp only [scaleRow, rescale, Option.some.injEq]
    field_simp
  | std =>
    simp only [scaleRow, rescale, Option.some.injEq]
    by_cases h0 : sd = 0
    · have hv : variance bps = 0 := by rw [← hsd rfl, h0]; ring
      have := eq_mean_of_variance_zero bps hv b hb
      simp only [h0, if_true]
      rw [← this]; ring
    · simp only [h0, if_false]
      field_simp
      ring

end C18P
