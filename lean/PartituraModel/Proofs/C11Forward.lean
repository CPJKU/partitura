/-
C11 — tie chains END (`duration_tied` / `end_tied` return) under local, decidable conditions: when every tie points at a note of the
list that starts LATER (`Forward`), the walk from any note exists (`walk_of_forward`: the start time grows along a chain and is bounded;
any bound serves, Props/C11Compose.lean takes the sum of the starts and concludes `Walkable`).  Adjacent ties (`ContigAll`) out of
notes of positive length are such ties (`forward_of_contig`).
-/
import PartituraModel.Proofs.C11Sound

namespace C11Forward
open Model Model.Dur Model.Meas C11Walk C11Rows C11Sound

def Forward (ns : List Note) : Prop :=
  ∀ n ∈ ns, ∀ t, n.tieNext = some t → ∃ m, lk ns t = some m ∧ n.start < m.start

/-- a chain whose starts grow and are bounded ends: induction on the room left below the bound -/
theorem walk_of_forward (ns : List Note) (hf : Forward ns) : ∀ (k x : Nat) (n : Note), lk ns x = some n →
    (∀ m ∈ ns, m.start ≤ n.start + k) → ∃ d e, Walk ns x d e := by
  intro k
  induction k with
  | zero =>
    intro x n hn hb
    cases ht : n.tieNext with
    | none => exact ⟨_, _, Walk.last x n hn ht⟩
    | some t =>
      obtain ⟨m, hm, hlt⟩ := hf n (lk_some ns x n hn).2 t ht
      have := hb m (lk_some ns t m hm).2
      omega
  | succ k ih =>
    intro x n hn hb
    cases ht : n.tieNext with
    | none => exact ⟨_, _, Walk.last x n hn ht⟩
    | some t =>
      obtain ⟨m, hm, hlt⟩ := hf n (lk_some ns x n hn).2 t ht
      obtain ⟨d, e, hw⟩ := ih t m hm (fun m' hm' => by have := hb m' hm'; omega)
      exact ⟨_, e, Walk.step x n t d e hn ht hw⟩

theorem forward_of_contig (ns : List Note) (hlinks : LinksOK ns) (hc : ContigAll ns)
    (hpos : ∀ n ∈ ns, n.tieNext.isSome = true → n.start < n.stop) : Forward ns := by
  intro n hn t ht
  obtain ⟨m, hm, _⟩ := hlinks n hn t ht
  refine ⟨m, hm, ?_⟩
  have h1 := (hc n hn).2 t m ht hm
  have h2 := hpos n hn (by rw [ht]; rfl)
  omega

end C11Forward
