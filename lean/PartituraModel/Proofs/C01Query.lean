/-
C01 helper lemmas: the read-only queries — `iter_prev` / `iter_next` as a walk along the links, the index slice of
`iter_all` as a time range, and one registry's answer: its members, that it has no duplicates, and its order
(class walk first, then insertion order; the registries are insertion-ordered `_OrderedSet`s).
-/
import PartituraModel.Proofs.C01Ops
import PartituraModel.Proofs.C01Classes

namespace TL

theorem walk_none (pts : List Point) (link : Point → Option Int) (fuel : Nat) :
    walk pts link fuel none = .ok [] := by
  cases fuel <;> rfl

theorem prev_of_links {l r : List Point} {p : Point} (hl : LinksFrom none (l ++ p :: r)) :
    p.prev = lastT l none := by
  rw [linksFrom_iff_seg, linksSeg_append] at hl
  exact hl.2.1

theorem next_of_links {l r : List Point} {p : Point} (hl : LinksFrom none (l ++ p :: r)) :
    p.next = headT r none := by
  rw [linksFrom_iff_seg, linksSeg_append] at hl
  have := hl.2.2.1
  cases r <;> simpa [headT] using this

theorem lastT_reverse (b : List Point) : lastT b.reverse none = headT b none := by
  cases b with
  | nil => rfl
  | cons x b => rw [List.reverse_cons, lastT_concat]; rfl

/-- following `link` through a sorted timeline visits exactly `vs`, when every point of `vs` links to the one
after it and the last one to nothing -/
theorem walk_chain {pts : List Point} (hs : (pts.map (·.t)).Pairwise (· < ·)) (link : Point → Option Int) :
    ∀ (vs : List Point) (fuel : Nat), (∀ q ∈ vs, q ∈ pts) →
      (∀ a q b, vs = a ++ q :: b → link q = headT b none) → vs.length ≤ fuel →
      walk pts link fuel (headT vs none) = .ok vs
  | [], fuel, _, _, _ => walk_none pts link fuel
  | q :: vs, 0, _, _, hlen => by simp at hlen
  | q :: vs, fuel + 1, hsub, hc, hlen => by
    have ih := walk_chain hs link vs fuel (fun x hx => hsub x (List.mem_cons_of_mem _ hx))
      (fun a x b h => hc (q :: a) x b (by rw [h]; rfl)) (by simpa using hlen)
    show walk pts link (fuel + 1) (some q.t) = _
    simp only [walk, findPoint_of_mem hs (hsub q List.mem_cons_self), hc [] q vs rfl, ih]
    rfl

/-- `iter_prev` / `iter_next` from the point `p` at `t`, along a chain `p :: vs` of `link` -/
theorem iterLinks_chain {s : Part} (hs : s.times.Pairwise (· < ·)) (link : Point → Option Int)
    (cls : Option Nat) (eq incl : Bool) {p : Point} {vs : List Point} (hp : 0 ≤ p.t)
    (hsub : ∀ q ∈ p :: vs, q ∈ s.points) (hc : ∀ a q b, p :: vs = a ++ q :: b → link q = headT b none)
    (hlen : vs.length ≤ s.points.length) :
    iterLinks s link p.t cls eq incl
      = .ok (.objs (((if eq then [p] else []) ++ vs).flatMap fun p => iterReg p.starting cls incl)) := by
  have hgp : getPoint s.points p.t = some p := by
    obtain ⟨l, r, h⟩ := List.append_of_mem (hsub p List.mem_cons_self)
    rw [h]
    exact getPoint_of_split (h ▸ hs)
  have hw : walk s.points link (s.points.length + 1) (if eq then some p.t else link p)
      = .ok ((if eq then [p] else []) ++ vs) := by
    cases eq with
    | true => exact walk_chain hs link (p :: vs) _ hsub hc (by simpa using hlen)
    | false =>
      simp only [Bool.false_eq_true, if_false, List.nil_append, hc [] p vs rfl]
      exact walk_chain hs link vs _ (fun x hx => hsub x (List.mem_cons_of_mem _ hx))
        (fun a x b h => hc (p :: a) x b (by rw [h]; rfl)) (by omega)
  simp only [iterLinks, if_neg (show ¬ p.t < 0 by omega), hgp, hw]
  rfl

theorem iterLinks_noPoint {s : Part} {t : Int} (ht : 0 ≤ t) (hmem : t ∉ s.times) (link : Point → Option Int)
    (cls : Option Nat) (eq incl : Bool) : iterLinks s link t cls eq incl = .ok .noPoint := by
  simp only [iterLinks, if_neg (show ¬ t < 0 by omega), getPoint_none_of_not_mem hmem]
  rfl

/-- the points `iter_prev` visits: those before `t` (and the one at `t` if `eq`), latest first -/
def prevPoints (pts : List Point) (t : Int) (eq : Bool) : List Point :=
  (pts.filter (fun x => decide (x.t < t) || (eq && decide (x.t = t)))).reverse

/-- the points `iter_next` visits -/
def nextPoints (pts : List Point) (t : Int) (eq : Bool) : List Point :=
  pts.filter (fun x => decide (t < x.t) || (eq && decide (x.t = t)))

/-- a test of the times that is constant below and constant above the time of a point of a sorted list -/
theorem filter_times_split {l r : List Point} {p : Point} (hs : ((l ++ p :: r).map (·.t)).Pairwise (· < ·))
    (f : Int → Bool) (bl br : Bool) (hl : ∀ x, x < p.t → f x = bl) (hr : ∀ x, p.t < x → f x = br) :
    (l ++ p :: r).filter (fun a => f a.t)
      = (if bl then l else []) ++ (if f p.t then [p] else []) ++ (if br then r else []) := by
  have e1 : l.filter (fun a => f a.t) = if bl then l else [] := by
    cases bl
    · exact List.filter_eq_nil_iff.mpr fun a ha => by simp [hl a.t (sorted_pre_lt hs a ha)]
    · exact List.filter_eq_self.mpr fun a ha => hl a.t (sorted_pre_lt hs a ha)
  have e2 : r.filter (fun a => f a.t) = if br then r else [] := by
    cases br
    · exact List.filter_eq_nil_iff.mpr fun a ha => by simp [hr a.t (sorted_post_gt hs (Int.le_refl p.t) a ha)]
    · exact List.filter_eq_self.mpr fun a ha => hr a.t (sorted_post_gt hs (Int.le_refl p.t) a ha)
  rw [List.filter_append, List.filter_cons, e1, e2, List.append_assoc]
  cases f p.t <;> rfl

theorem iterPrev_spec {s : Part} (h : WInv s) {t : Int} (ht : 0 ≤ t) (cls : Option Nat)
    (eq incl : Bool) :
    iterLinks s (·.prev) t cls eq incl
      = .ok (if t ∈ s.times then
          .objs ((prevPoints s.points t eq).flatMap fun p => iterReg p.starting cls incl)
        else .noPoint) := by
  by_cases hmem : t ∈ s.times
  · obtain ⟨l, p, r, hsplit, rfl, -, -⟩ := split_at_time h.sorted hmem
    have hs := h.sorted
    rw [Part.times, hsplit] at hs
    have hvis : prevPoints s.points p.t eq = (if eq then [p] else []) ++ l.reverse := by
      rw [prevPoints, hsplit, filter_times_split hs (fun x => decide (x < p.t) || (eq && decide (x = p.t))) true false
        (fun x hx => by simp [hx]) (fun x hx => by simp; omega)]
      cases eq <;> simp
    rw [if_pos hmem, hvis, iterLinks_chain h.sorted (·.prev) cls eq incl (vs := l.reverse) ht]
    · intro q hq
      rw [hsplit]
      rcases List.mem_cons.mp hq with rfl | hq
      · simp
      · exact List.mem_append_left _ (List.mem_reverse.mp hq)
    · intro a q b hab
      have hrev : l ++ p :: r = b.reverse ++ q :: (a.reverse ++ r) := by
        have := congrArg List.reverse hab
        simp only [List.reverse_cons, List.reverse_reverse, List.reverse_append] at this
        rw [List.append_cons, this]
        simp
      rw [← lastT_reverse]
      exact prev_of_links (hrev ▸ hsplit ▸ h.links)
    · rw [hsplit, List.length_append, List.length_reverse]
      omega
  · rw [if_neg hmem, iterLinks_noPoint ht hmem]

theorem iterNext_spec {s : Part} (h : WInv s) {t : Int} (ht : 0 ≤ t) (cls : Option Nat)
    (eq incl : Bool) :
    iterLinks s (·.next) t cls eq incl
      = .ok (if t ∈ s.times then
          .objs ((nextPoints s.points t eq).flatMap fun p => iterReg p.starting cls incl)
        else .noPoint) := by
  by_cases hmem : t ∈ s.times
  · obtain ⟨l, p, r, hsplit, rfl, -, -⟩ := split_at_time h.sorted hmem
    have hs := h.sorted
    rw [Part.times, hsplit] at hs
    have hvis : nextPoints s.points p.t eq = (if eq then [p] else []) ++ r := by
      rw [nextPoints, hsplit, filter_times_split hs (fun x => decide (p.t < x) || (eq && decide (x = p.t))) false true
        (fun x hx => by simp; omega) (fun x hx => by simp [hx])]
      cases eq <;> simp
    rw [if_pos hmem, hvis, iterLinks_chain h.sorted (·.next) cls eq incl (vs := r) ht]
    · intro q hq
      rw [hsplit]
      exact List.mem_append_right _ hq
    · intro a q b hab
      have hsp : s.points = (l ++ a) ++ q :: b := by rw [hsplit, hab, List.append_assoc]
      exact next_of_links (hsp ▸ h.links)
    · rw [hsplit, List.length_append, List.length_cons]
      omega
  · rw [if_neg hmem, iterLinks_noPoint ht hmem]

/-- `pts[si:ei]` for downward-closed cut predicates on a sorted list -/
theorem slice_eq_filter (A B : Int → Bool) (hA : ∀ x y, x < y → A y = true → A x = true)
    (hB : ∀ x y, x < y → B y = true → B x = true) (pts : List Point)
    (hs : (pts.map (·.t)).Pairwise (· < ·)) :
    (pts.drop ((pts.map (·.t)).takeWhile A).length).take
        (((pts.map (·.t)).takeWhile B).length - ((pts.map (·.t)).takeWhile A).length)
      = pts.filter (fun p => !A p.t && B p.t) := by
  have hcl : ∀ C : Int → Bool, (∀ x y, x < y → C y = true → C x = true) →
      Lists.Closed (fun a b : Point => a.t < b.t) (fun p => C p.t = true) pts :=
    fun C hC => ⟨List.pairwise_map.mp hs, fun a b hab hb => hC _ _ hab hb⟩
  have hlen : ∀ C : Int → Bool, ((pts.map (·.t)).takeWhile C).length
      = (pts.takeWhile fun p => decide (C p.t = true)).length := by
    intro C
    rw [List.takeWhile_map, List.length_map]
    congr 2
    funext p
    simp
  -- the stretch that passes `A`, the stretch that passes `B`; behind each the test fails throughout
  obtain ⟨l, r, hpts, hl, hr0, hlA⟩ := Lists.exists_cut (fun p : Point => A p.t = true) pts
  have hr := (hcl A hA).tail_neg hpts hr0
  obtain ⟨m, r', hpts', hm, hr0', hlB⟩ := Lists.exists_cut (fun p : Point => B p.t = true) pts
  have hr' := (hcl B hB).tail_neg hpts' hr0'
  rw [hlen A, hlen B, hlA, hlB]
  subst hpts
  have hfl : l.filter (fun p => !A p.t && B p.t) = [] := List.filter_eq_nil_iff.mpr fun p hp => by simp [hl p hp]
  have hfr : r.filter (fun p => !A p.t && B p.t) = r.filter (fun p => B p.t) :=
    List.filter_congr fun p hp => by simp [hr p hp]
  rw [List.drop_left, List.filter_append, hfl, hfr, List.nil_append]
  rcases Nat.le_total l.length m.length with hle | hle
  · -- the `A`-stretch is inside the `B`-stretch: what lies between is the answer
    obtain ⟨m', rfl⟩ : ∃ m', m = l ++ m' := ⟨m.drop l.length, by
      have := congrArg (List.take l.length) hpts'
      rw [List.take_left, List.take_append_of_le_length hle] at this
      exact (List.take_append_drop l.length m).symm.trans (by rw [← this])⟩
    rw [List.append_assoc] at hpts'
    have hr2 := List.append_cancel_left hpts'
    subst hr2
    rw [List.length_append, Nat.add_sub_cancel_left, List.take_left, List.filter_append,
      List.filter_eq_self.mpr fun p hp => hm p (List.mem_append_right _ hp),
      List.filter_eq_nil_iff.mpr fun p hp => by simpa using hr' p hp, List.append_nil]
  · -- the `B`-stretch ends inside the `A`-stretch: nothing passes `B` behind `A`
    have hsub : ∀ p ∈ r, p ∈ r' := by
      intro p hp
      have := congrArg (List.drop m.length) hpts'
      rw [List.drop_left, List.drop_append_of_le_length hle] at this
      rw [← this]; exact List.mem_append_right _ hp
    rw [Nat.sub_eq_zero_of_le hle, List.take_zero]
    exact (List.filter_eq_nil_iff.mpr fun p hp => by simpa using hr' p (hsub p hp)).symm

def geOpt (a : Option Int) (x : Int) : Bool :=
  match a with
  | none => true
  | some v => decide (v ≤ x)

def ltOptB (x : Int) (b : Option Int) : Bool :=
  match b with
  | none => true
  | some v => decide (x < v)

/-- the points `iter_all(start=a, end=b)` visits on a sorted timeline -/
def rangePoints (pts : List Point) (a b : Option Int) : List Point :=
  pts.filter (fun p => geOpt a p.t && ltOptB p.t b)

theorem slice_opt (pts : List Point) (hs : (pts.map (·.t)).Pairwise (· < ·)) (a b : Option Int) :
    (pts.drop (startIdx pts a)).take (endIdx pts b - startIdx pts a) = rangePoints pts a b := by
  have key := slice_eq_filter (fun x => !geOpt a x) (fun x => ltOptB x b) ?_ ?_ pts hs
  · have e1 : startIdx pts a = ((pts.map (·.t)).takeWhile fun x => !geOpt a x).length := by
      cases a with
      | none => cases pts <;> simp [startIdx, geOpt]
      | some v =>
        simp only [startIdx, geOpt, searchsorted_eq]
        congr 2
        funext x
        by_cases h : x < v
        · have : ¬ v ≤ x := by omega
          simp [h, this]
        · have : v ≤ x := by omega
          simp [h, this]
    have e2 : endIdx pts b = ((pts.map (·.t)).takeWhile fun x => ltOptB x b).length := by
      cases b with
      | none =>
        have all : ∀ l : List Int, l.takeWhile (fun _ => true) = l := fun l => by
          induction l with
          | nil => rfl
          | cons x xs ih => rw [List.takeWhile_cons_of_pos rfl, ih]
        show pts.length = ((pts.map (·.t)).takeWhile fun _ => true).length
        rw [all, List.length_map]
      | some v => simp only [endIdx, ltOptB, searchsorted_eq]
    rw [e1, e2, key]
    simp [rangePoints]
  · intro x y hxy hy
    cases a with
    | none => simp [geOpt] at hy
    | some v => simp [geOpt] at hy ⊢; omega
  · intro x y hxy hy
    cases b with
    | none => rfl
    | some v => simp [ltOptB] at hy ⊢; omega

theorem iterAll_eq {s : Part} (hs : s.times.Pairwise (· < ·)) (cls : Option Nat) (a b : Option Int)
    (incl : Bool) (mode : Mode) :
    iterAll s cls a b incl mode
      = (rangePoints s.points a b).flatMap fun p => iterReg (p.reg mode.side) cls (inclEff cls incl) := by
  unfold iterAll
  simp only [slice_opt s.points hs a b]

/-- class `k` is yielded for the query class: the class itself, or (with `include_subclasses`) one of
the classes `iter_subclasses` enumerates -/
def clsMatch (cls : Option Nat) (incl : Bool) (k : Nat) : Prop :=
  cls = some k ∨ (incl = true ∧ k ∈ subSeq cls)

/-- the classes `iter_starting / iter_ending (cls, include_subclasses)` walk, in that order: the class itself,
then `iter_subclasses(cls)` -/
def classOrder (cls : Option Nat) (incl : Bool) : List Nat :=
  (match cls with | none => [] | some c => [c]) ++ (if incl then subSeq cls else [])

theorem iterReg_eq_classOrder (reg : List ObjRef) (cls : Option Nat) (incl : Bool) :
    iterReg reg cls incl = (classOrder cls incl).flatMap fun c => reg.filter (fun o => o.cls == c) := by
  unfold iterReg classOrder
  cases cls <;> cases incl <;> simp

theorem classOrder_nodup (cls : Option Nat) (incl : Bool) : (classOrder cls incl).Nodup := by
  obtain ⟨hnd, hself⟩ := subSeq_ok cls
  unfold classOrder
  cases cls <;> cases incl <;> simp_all

theorem mem_classOrder {cls : Option Nat} {incl : Bool} {k : Nat} :
    k ∈ classOrder cls incl ↔ clsMatch cls incl k := by
  unfold classOrder clsMatch
  cases cls <;> cases incl <;> simp [eq_comm]

theorem mem_iterReg {reg : List ObjRef} {cls : Option Nat} {incl : Bool} {o : ObjRef} :
    o ∈ iterReg reg cls incl ↔ o ∈ reg ∧ clsMatch cls incl o.cls := by
  rw [iterReg_eq_classOrder, ← mem_classOrder]
  simp only [List.mem_flatMap, List.mem_filter, beq_iff_eq]
  exact ⟨fun ⟨c, hc, ho, e⟩ => ⟨ho, e ▸ hc⟩, fun ⟨ho, hc⟩ => ⟨_, hc, ho, rfl⟩⟩

theorem nodup_iterReg {reg : List ObjRef} (hreg : reg.Nodup) (cls : Option Nat) (incl : Bool) :
    (iterReg reg cls incl).Nodup := by
  rw [iterReg_eq_classOrder]
  unfold List.Nodup
  rw [List.pairwise_flatMap]
  refine ⟨fun c _ => hreg.sublist List.filter_sublist, (classOrder_nodup cls incl).imp ?_⟩
  intro c c' hne x hx y hy hxy
  simp only [List.mem_filter, beq_iff_eq] at hx hy
  exact hne (hx.2.symm.trans (hxy ▸ hy.2))

theorem idxOf_cons_ne {α : Type} [DecidableEq α] {a b : α} (l : List α) (h : a ≠ b) :
    (a :: l).idxOf b = l.idxOf b + 1 := by
  rw [List.idxOf_cons, beq_false_of_ne h]
  rfl

theorem pairwise_idxOf_of_nodup {α : Type} [DecidableEq α] : ∀ {l : List α}, l.Nodup →
    l.Pairwise (fun a b => l.idxOf a < l.idxOf b)
  | [], _ => List.Pairwise.nil
  | a :: l, hn => by
    have hn' := List.nodup_cons.mp hn
    refine List.Pairwise.cons ?_ ?_
    · intro b hb
      have hne : a ≠ b := fun e => hn'.1 (e ▸ hb)
      rw [List.idxOf_cons_self, idxOf_cons_ne _ hne]
      omega
    · refine (pairwise_idxOf_of_nodup hn'.2).imp_of_mem ?_
      intro x y hx hy hxy
      have h1 : a ≠ x := fun e => hn'.1 (e ▸ hx)
      have h2 : a ≠ y := fun e => hn'.1 (e ▸ hy)
      rw [idxOf_cons_ne _ h1, idxOf_cons_ne _ h2]
      omega

/-- the order of one point's answer: by position of the class in the walk, then by position in the registry
(= insertion order) -/
theorem buckets_ordered {reg : List ObjRef} (hn : reg.Nodup) : ∀ {ord : List Nat}, ord.Nodup →
    (ord.flatMap fun c => reg.filter (fun o => o.cls == c)).Pairwise fun o1 o2 =>
      ord.idxOf o1.cls < ord.idxOf o2.cls ∨ (o1.cls = o2.cls ∧ reg.idxOf o1 < reg.idxOf o2)
  | [], _ => List.Pairwise.nil
  | c :: rest, ho => by
    have ho' := List.nodup_cons.mp ho
    rw [List.flatMap_cons, List.pairwise_append]
    refine ⟨?_, ?_, ?_⟩
    · have := ((pairwise_idxOf_of_nodup hn).sublist (List.filter_sublist (p := fun o => o.cls == c)))
      refine this.imp_of_mem ?_
      intro x y hx hy hxy
      have e1 : x.cls = c := by simpa using (List.mem_filter.mp hx).2
      have e2 : y.cls = c := by simpa using (List.mem_filter.mp hy).2
      exact Or.inr ⟨e1.trans e2.symm, hxy⟩
    · refine (buckets_ordered hn ho'.2).imp_of_mem ?_
      intro x y hx hy hxy
      have cls_in : ∀ z, z ∈ (rest.flatMap fun c => reg.filter (fun o => o.cls == c)) → z.cls ∈ rest := by
        intro z hz
        obtain ⟨d, hd, hz'⟩ := List.mem_flatMap.mp hz
        have : z.cls = d := by simpa using (List.mem_filter.mp hz').2
        rw [this]; exact hd
      have h1 : c ≠ x.cls := fun e => ho'.1 (e ▸ cls_in x hx)
      have h2 : c ≠ y.cls := fun e => ho'.1 (e ▸ cls_in y hy)
      rcases hxy with h | h
      · left
        rw [idxOf_cons_ne _ h1, idxOf_cons_ne _ h2]
        omega
      · exact Or.inr h
    · intro x hx y hy
      have e1 : x.cls = c := by simpa using (List.mem_filter.mp hx).2
      obtain ⟨d, hd, hy'⟩ := List.mem_flatMap.mp hy
      have e2 : y.cls = d := by simpa using (List.mem_filter.mp hy').2
      have hne : c ≠ y.cls := fun e => ho'.1 (by rw [e, e2]; exact hd)
      left
      rw [e1, List.idxOf_cons_self, idxOf_cons_ne _ hne]
      omega

end TL
