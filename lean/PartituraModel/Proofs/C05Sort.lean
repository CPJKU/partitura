/-
The insertion sort of Model/NoteArray.lean is a permutation, sorts, and is
stable (which is what makes "sort by pitch, then stably by onset" a lexicographic sort).
-/
import PartituraModel.Model.NoteArray
import Mathlib.Data.List.Perm.Basic
import Mathlib.Algebra.Order.Field.Rat
import PartituraModel.Proofs.Lists
import PartituraModel.Proofs.Orders

namespace NoteArray

open List

theorem isSort {α : Type} (le : α → α → Bool) : Lists.IsInsertionSort le (insertBy le) (isort le) :=
  ⟨fun _ => rfl, fun _ _ _ => rfl, rfl, fun _ _ => rfl⟩

def Lex {α K : Type} [LinearOrder K] (key : α → K) (R : α → α → Prop) (a b : α) : Prop :=
  key a < key b ∨ (key a = key b ∧ R a b)

theorem Lex.pairwise_congr {α K : Type} [LinearOrder K] {key key' : α → K} {R : α → α → Prop} {l : List α}
    (h : l.Pairwise (Lex key R)) (hk : ∀ a ∈ l, key a = key' a) : l.Pairwise (Lex key' R) :=
  h.imp_of_mem fun ha hb hab => by
    unfold Lex at hab ⊢
    rwa [← hk _ ha, ← hk _ hb]

/-- stability: sorting an `R`-sorted list by a key gives a list sorted by (key, R) -/
theorem isort_lex {α K : Type} [LinearOrder K] (key : α → K) (R : α → α → Prop)
    (le : α → α → Bool) (hle : ∀ a b, le a b = true ↔ key a ≤ key b)
    (l : List α) (hl : l.Pairwise R) : (isort le l).Pairwise (Lex key R) :=
  (isSort le).pairwise_iff_stable hle hl

theorem isort_sorted {α K : Type} [LinearOrder K] (key : α → K)
    (le : α → α → Bool) (hle : ∀ a b, le a b = true ↔ key a ≤ key b)
    (l : List α) : (isort le l).Pairwise (fun a b => key a ≤ key b) :=
  ((isSort le).pairwise (.of_iff key hle) l).imp (hle _ _).mp

theorem sortRows_perm (rs : List Row) : sortRows rs ~ rs := ((isSort _).perm _).trans ((isSort _).perm _)

end NoteArray
