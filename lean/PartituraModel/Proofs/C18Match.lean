/-
C18 — `get_matched_notes` holds exactly the matches with both ids present; `to_matched_score`, when it returns, holds one
row (`mkRow`) per such match, ordered by (onset_div, pitch); `get_time_maps_from_alignment` reads one row per pair of
`get_matched_notes`.
-/
import PartituraModel.Proofs.C18Lists
import Mathlib.Data.List.Forall2

namespace C18P
open Model Model.Codec

theorem lexLe_order : Lists.TotalPreorder lexLe := .lex Prod.fst (.of_key Prod.snd)

theorem pairwise_isort_lexLe {α : Type} (f : α → Int × Int) (l : List α) :
    (isort (fun a b => lexLe (f a) (f b)) l).Pairwise (fun a b => lexLe (f a) (f b) = true) :=
  (isSort _).pairwise (lexLe_order.comap f) l

/-- what `get_matched_notes` takes from one entry -/
def pairOf (ss : List SRow) (ps : List PRow) (a : ARow) : Option (Nat × Nat) :=
  if a.label = "match" then
    match a.sid, a.pid with
    | some s, some p =>
      match sIndex ss s, pIndex ps p with
      | some i, some j => some (i, j)
      | _, _ => none
    | _, _ => none
  else none

theorem matchedNotes_cons (ss : List SRow) (ps : List PRow) (a : ARow) (al : List ARow) :
    matchedNotes ss ps (a :: al) = (pairOf ss ps a).toList ++ matchedNotes ss ps al := by
  show (a :: al).filterMap (pairOf ss ps) = _
  rw [List.filterMap_cons]
  cases pairOf ss ps a <;> rfl

/-- `to_matched_score` does not raise at the entry: a match has a score id, and when that id is known also a
    performance id that is known -/
def NoRaise (ss : List SRow) (ps : List PRow) (a : ARow) : Prop :=
  a.label = "match" → ∃ s, a.sid = some s ∧ (sIndex ss s = none ∨ ∃ p, a.pid = some p ∧ (pIndex ps p).isSome)

theorem notePairs_eq_some_iff (ss : List SRow) (ps : List PRow) (al : List ARow) (l : List (Nat × Nat)) :
    notePairs ss ps al = some l ↔ (∀ a ∈ al, NoRaise ss ps a) ∧ l = matchedNotes ss ps al := by
  induction al generalizing l with
  | nil => simp [notePairs, matchedNotes, eq_comm]
  | cons a rest ih =>
    obtain ⟨lab, s, p⟩ := a
    rw [notePairs, matchedNotes_cons, List.forall_mem_cons]
    cases hr : notePairs ss ps rest with
    | none =>
      -- a later entry raises
      have hno : ¬ ∀ a ∈ rest, NoRaise ss ps a := fun h => by
        have := (ih (matchedNotes ss ps rest)).mpr ⟨h, rfl⟩
        rw [hr] at this
        cases this
      simp only [reduceCtorEq, false_iff]
      exact fun h => hno h.1.2
    | some tl =>
      obtain ⟨hrest, rfl⟩ := (ih tl).mp hr
      have hsl : ∀ A : List (Nat × Nat), (some A = some l ↔ l = A) := fun A => by
        rw [Option.some.injEq]; exact eq_comm
      rw [iff_true_intro hrest, and_true]
      simp only
      by_cases hm : lab = "match"
      · simp only [hm, if_true, NoRaise, true_imp_iff, pairOf]
        cases s with
        | none => simp
        | some s =>
          cases hi : sIndex ss s with
          | none => cases p <;> simp [hi, hsl]
          | some i =>
            cases p with
            | none => simp [hi]
            | some p => cases hj : pIndex ps p <;> simp [hi, hj, hsl]
      · simp [hm, NoRaise, hsl, pairOf]

theorem notePairs_eq (ss : List SRow) (ps : List PRow) (al : List ARow) (l : List (Nat × Nat))
    (h : notePairs ss ps al = some l) : l = matchedNotes ss ps al :=
  ((notePairs_eq_some_iff ss ps al l).mp h).2

theorem pairOf_eq_some_iff (ss : List SRow) (ps : List PRow) (a : ARow) (i j : Nat) :
    pairOf ss ps a = some (i, j) ↔ a.label = "match" ∧ ∃ s p, a.sid = some s ∧ a.pid = some p ∧
      sIndex ss s = some i ∧ pIndex ps p = some j := by
  obtain ⟨lab, s, p⟩ := a
  unfold pairOf
  by_cases hm : lab = "match"
  · cases s <;> cases p <;> simp [hm]
    rename_i s p
    cases sIndex ss s <;> cases pIndex ps p <;> simp
  · simp [hm]

theorem mem_matchedNotes (ss : List SRow) (ps : List PRow) (al : List ARow) (i j : Nat) :
    (i, j) ∈ matchedNotes ss ps al ↔
      ∃ a ∈ al, a.label = "match" ∧ ∃ s p, a.sid = some s ∧ a.pid = some p ∧
        sIndex ss s = some i ∧ pIndex ps p = some j := by
  show (i, j) ∈ al.filterMap (pairOf ss ps) ↔ _
  simp only [List.mem_filterMap, pairOf_eq_some_iff]

theorem matchedPairs_spec (ss : List SRow) (ps : List PRow) (al : List ARow) (l : List (Nat × Nat))
    (h : matchedPairs ss ps al = some l) :
    l.Perm (matchedNotes ss ps al) ∧
      l.Pairwise (fun a b => lexLe (sKey ss a.1) (sKey ss b.1) = true) := by
  unfold matchedPairs at h
  cases hn : notePairs ss ps al with
  | none => rw [hn] at h; simp at h
  | some l0 =>
    rw [hn] at h
    simp only [Option.map_some, Option.some.injEq] at h
    have h0 := notePairs_eq ss ps al l0 hn
    subst h
    constructor
    · rw [← h0]; exact (isSort _).perm _
    · exact pairwise_isort_lexLe (fun a : Nat × Nat => sKey ss a.1) l0

theorem toMatchedScore_spec (ss : List SRow) (ps : List PRow) (al : List ARow) (rows : List MRow)
    (h : toMatchedScore ss ps al = some rows) :
    ∃ pairs : List (Nat × Nat), pairs.Perm (matchedNotes ss ps al) ∧
      pairs.Pairwise (fun a b => lexLe (sKey ss a.1) (sKey ss b.1) = true) ∧
      List.Forall₂ (fun ij r => mkRow ss ps ij = some r) pairs rows := by
  unfold toMatchedScore at h
  cases hp : matchedPairs ss ps al with
  | none => rw [hp] at h; simp at h
  | some pairs =>
    rw [hp] at h
    obtain ⟨h1, h2⟩ := matchedPairs_spec ss ps al pairs hp
    refine ⟨pairs, h1, h2, ?_⟩
    exact (allSome_map_eq_some_iff _ pairs rows).mp h

/-- a match of the alignment together with the score row and the performance row it names -/
abbrev Trip := (Nat × Nat) × SRow × PRow

/-- the row of `to_matched_score` for a match -/
def Trip.row (t : Trip) : MRow :=
  ⟨t.1.1, t.2.1.so, t.2.1.sd, t.2.1.pitch, t.2.2.po, if clipDur > t.2.2.pd then clipDur else t.2.2.pd, t.2.2.vel⟩

/-- the index pair of `t` points at the two rows `t` carries -/
def Trip.In (ss : List SRow) (ps : List PRow) (t : Trip) : Prop :=
  ss[t.1.1]? = some t.2.1 ∧ ps[t.1.2]? = some t.2.2

theorem mkRow_spec (ss : List SRow) (ps : List PRow) (ij : Nat × Nat) (r : MRow) (h : mkRow ss ps ij = some r) :
    ∃ s p, ss[ij.1]? = some s ∧ ps[ij.2]? = some p ∧ r = Trip.row (ij, s, p) := by
  unfold mkRow at h
  cases hs : ss[ij.1]? with
  | none => rw [hs] at h; simp at h
  | some s =>
    cases hp : ps[ij.2]? with
    | none => rw [hs, hp] at h; simp at h
    | some p =>
      rw [hs, hp] at h
      simp only [Option.some.injEq] at h
      exact ⟨s, p, rfl, rfl, h.symm⟩

theorem trips_of_forall₂ (ss : List SRow) (ps : List PRow) {pairs : List (Nat × Nat)} {rows : List MRow}
    (h : List.Forall₂ (fun ij r => mkRow ss ps ij = some r) pairs rows) :
    ∃ M : List Trip, M.map (·.1) = pairs ∧ (∀ t ∈ M, t.In ss ps) ∧ rows = M.map Trip.row := by
  induction h with
  | nil => exact ⟨[], rfl, by simp, rfl⟩
  | @cons ij r _ _ hmk _ ih =>
    obtain ⟨M, h1, h2, h3⟩ := ih
    obtain ⟨s, p, hs, hp, rfl⟩ := mkRow_spec ss ps ij r hmk
    refine ⟨(ij, s, p) :: M, by simp [h1], ?_, by simp [h3]⟩
    intro t ht
    rcases List.mem_cons.mp ht with rfl | ht
    · exact ⟨hs, hp⟩
    · exact h2 t ht

/-- `to_matched_score`, when it returns, as ONE list: the matches with both ids present, rearranged in the order of
    (onset_div, pitch), each with the two rows it names; the table is the list of their rows.  Every other list of
    the pipeline (`snote_ids`, the rows `decode_performance` selects, the encoder's input) is a map of it too. -/
theorem toMatchedScore_trips (ss : List SRow) (ps : List PRow) (al : List ARow) (rows : List MRow)
    (h : toMatchedScore ss ps al = some rows) :
    ∃ M : List Trip, (M.map (·.1)).Perm (matchedNotes ss ps al) ∧
      (M.map (·.1)).Pairwise (fun a b => lexLe (sKey ss a.1) (sKey ss b.1) = true) ∧
      (∀ t ∈ M, t.In ss ps) ∧ rows = M.map Trip.row := by
  obtain ⟨pairs, hperm, hsorted, hpairs⟩ := toMatchedScore_spec ss ps al rows h
  obtain ⟨M, rfl, hM, rfl⟩ := trips_of_forall₂ ss ps hpairs
  exact ⟨M, hperm, hsorted, hM, rfl⟩

theorem snoteIds_trips (ss : List SRow) (ps : List PRow) (M : List Trip) (hM : ∀ t ∈ M, t.In ss ps) :
    snoteIds ss (M.map Trip.row) = some (M.map (·.2.1.id)) := by
  unfold snoteIds
  rw [allSome_eq_some, List.map_map, List.map_map]
  exact List.map_congr_left fun t ht => by simp [Trip.row, (hM t ht).1]

theorem clip_pos (pd : Rat) : 0 < (if clipDur > pd then clipDur else pd) := by
  unfold clipDur
  split
  · norm_num
  · rename_i h
    exact lt_of_lt_of_le (by norm_num) (not_lt.mp h)

/-- `3 / 40` is `clipDur`, the 0.075 s below which `to_matched_score` replaces a performed duration -/
theorem clip_of_le (pd : Rat) (h : 3 / 40 ≤ pd) : (if clipDur > pd then clipDur else pd) = pd :=
  if_neg (by unfold clipDur; exact not_lt.mpr h)

theorem map_getElem?_some {α β : Type} (f : α → β) (l : List α) (i : Nat) (y : β) (h : (l.map f)[i]? = some y) :
    ∃ a, l[i]? = some a ∧ f a = y :=
  Option.map_eq_some_iff.mp (List.getElem?_map .. ▸ h)

theorem matchedNotes_rows (ss : List SRow) (ps : List PRow) (al : List ARow) :
    ∀ ij ∈ matchedNotes ss ps al, ∃ s p, ss[ij.1]? = some s ∧ ps[ij.2]? = some p := by
  intro ij hij
  obtain ⟨i, j⟩ := ij
  obtain ⟨a, _, _, sid, pid, _, _, hi, hj⟩ := (mem_matchedNotes ss ps al i j).mp hij
  obtain ⟨s, hs, _⟩ := map_getElem?_some _ _ _ _ (getElem?_of_indexOf hi)
  obtain ⟨p, hp, _⟩ := map_getElem?_some _ _ _ _ (getElem?_of_indexOf hj)
  exact ⟨s, p, hs, hp⟩

theorem timeMapRows_spec (ss : List SRow) (ps : List PRow) (al : List ARow) :
    ∃ rows, timeMapRows ss ps al = some rows ∧
      List.Forall₂ (fun (ij : Nat × Nat) (r : TRow) => ∃ s p, ss[ij.1]? = some s ∧ ps[ij.2]? = some p ∧
        r = (s.so, s.sd, p.po)) (matchedNotes ss ps al) rows := by
  unfold timeMapRows
  have h := matchedNotes_rows ss ps al
  generalize matchedNotes ss ps al = l at h
  induction l with
  | nil => exact ⟨[], rfl, List.Forall₂.nil⟩
  | cons ij rest ih =>
    obtain ⟨rows, h1, h2⟩ := ih (fun x hx => h x (List.mem_cons_of_mem _ hx))
    obtain ⟨s, p, hs, hp⟩ := h ij (by simp)
    refine ⟨(s.so, s.sd, p.po) :: rows, ?_, List.Forall₂.cons ⟨s, p, hs, hp, rfl⟩ h2⟩
    simp only [List.map_cons, allSome, hs, hp, h1, Option.map_some]

end C18P
