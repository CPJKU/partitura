/-
What the written file holds for a selector, track by track and as a whole; what the loader sees of it under merging on either
side, up to `end_of_track` (`seen_ne`).
-/
import PartituraModel.Model.PerfMidi
import PartituraModel.Proofs.C06Lists
import PartituraModel.Proofs.Forall2

namespace C06Export
open Model Model.PerfMidi C06Sort C06Lists

variable {β : Type}

/-- the track numbers that receive a message, in increasing order: the j-th becomes file track j -/
def usedTracks (q : Rat → Int) (parts : List PPart) : List Nat :=
  uniqueSorted ((insertAll q parts).map (·.1))

-- the events of the performance with track number `tr`, with their ticks
def perfControls (q : Rat → Int) (parts : List PPart) (tr : Nat) : List (Int × Nat × Nat × Nat) :=
  parts.flatMap fun p => (p.controls.filter (fun c => decide (c.track = tr))).map fun c => (q c.time, c.num, c.val, c.ch)

def perfPrograms (q : Rat → Int) (parts : List PPart) (tr : Nat) : List (Int × Nat × Nat) :=
  parts.flatMap fun p => (p.programs.filter (fun c => decide (c.track = tr))).map fun c => (q c.time, c.prog, c.ch)

def perfTimeSigs (q : Rat → Int) (parts : List PPart) (tr : Nat) : List (Int × Nat × Nat) :=
  parts.flatMap fun p => (p.timeSigs.filter (fun c => decide (c.track = tr))).map fun c => (q c.time, c.num, c.den)

def perfKeySigs (q : Rat → Int) (parts : List PPart) (tr : Nat) : List (Int × Int × Bool) :=
  parts.flatMap fun p => (p.keySigs.filter (fun c => decide (c.track = tr))).map fun c => (q c.time, c.fifths, c.minor)

/-- entries of `meta_other` other than `end_of_track` -/
def perfMetas (q : Rat → Int) (parts : List PPart) (tr : Nat) : List (Int × Nat) :=
  parts.flatMap fun p => (p.metaOther.filter (fun c => decide (c.track = tr))).filterMap fun c => c.id.map fun i => (q c.time, i)

theorem evI_map_some (g : Ev → Option β) (tr : Nat) {γ : Type} (l : List γ) (f : γ → Ins) (b : γ → β)
    (h : ∀ c, g (f c).2.2 = some (b c)) :
    evI g tr (l.map f) = (l.filter fun c => decide ((f c).1 = tr)).map fun c => ((f c).2.1, b c) := by
  rw [evI_map, ← List.filterMap_eq_map, List.filterMap_filter]
  simp only [h, Option.map_some, decide_eq_true_eq, Function.comp_def]

/-- the appends of a part list by list, as a selector reads them -/
theorem evI_partEvents (g : Ev → Option β) (q : Rat → Int) (tr : Nat) (p : PPart) :
    evI g tr (partEvents q p)
      = evI g tr (p.metaOther.map fun m => (m.track, q m.time, m.ev))
        ++ evI g tr (p.keySigs.map fun m => (m.track, q m.time, Ev.keySig m.fifths m.minor))
        ++ evI g tr (p.timeSigs.map fun m => (m.track, q m.time, Ev.timeSig m.num m.den))
        ++ evI g tr (p.controls.map fun c => (c.track, q c.time, Ev.control c.ch c.num c.val))
        ++ evI g tr ((sortBy noteLe p.notes).flatMap (noteIns q))
        ++ evI g tr (p.programs.map fun g => (g.track, q g.time, Ev.program g.ch g.prog)) := by
  simp only [partEvents, evI_append]

theorem evI_ctl_part (q : Rat → Int) (tr : Nat) (p : PPart) :
    evI gCtl tr (partEvents q p)
      = (p.controls.filter (fun c => decide (c.track = tr))).map fun c => (q c.time, c.num, c.val, c.ch) := by
  rw [evI_partEvents, evI_map_none gCtl tr p.metaOther _ (ev_none _ rfl fun _ => rfl),
    evI_notes_none gCtl (fun _ _ _ => rfl) fun _ _ _ => rfl, evI_map_some gCtl tr p.controls _ _ fun _ => rfl]
  simp only [evI_map, gCtl, Option.map_none, ite_self, List.filterMap_none, List.append_nil, List.nil_append]

theorem evI_time_part (q : Rat → Int) (tr : Nat) (p : PPart) :
    evI gTime tr (partEvents q p)
      = (p.timeSigs.filter (fun c => decide (c.track = tr))).map fun c => (q c.time, c.num, c.den) := by
  rw [evI_partEvents, evI_map_none gTime tr p.metaOther _ (ev_none _ rfl fun _ => rfl),
    evI_notes_none gTime (fun _ _ _ => rfl) fun _ _ _ => rfl, evI_map_some gTime tr p.timeSigs _ _ fun _ => rfl]
  simp only [evI_map, gTime, Option.map_none, ite_self, List.filterMap_none, List.append_nil, List.nil_append]

theorem evI_key_part (q : Rat → Int) (tr : Nat) (p : PPart) :
    evI gKey tr (partEvents q p)
      = (p.keySigs.filter (fun c => decide (c.track = tr))).map fun c => (q c.time, c.fifths, c.minor) := by
  rw [evI_partEvents, evI_map_none gKey tr p.metaOther _ (ev_none _ rfl fun _ => rfl),
    evI_notes_none gKey (fun _ _ _ => rfl) fun _ _ _ => rfl, evI_map_some gKey tr p.keySigs _ _ fun _ => rfl]
  simp only [evI_map, gKey, Option.map_none, ite_self, List.filterMap_none, List.append_nil, List.nil_append]

theorem evI_prog_part (q : Rat → Int) (tr : Nat) (p : PPart) :
    evI gProg tr (partEvents q p)
      = (p.programs.filter (fun c => decide (c.track = tr))).map fun c => (q c.time, c.prog, c.ch) := by
  rw [evI_partEvents, evI_map_none gProg tr p.metaOther _ (ev_none _ rfl fun _ => rfl),
    evI_notes_none gProg (fun _ _ _ => rfl) fun _ _ _ => rfl, evI_map_some gProg tr p.programs _ _ fun _ => rfl]
  simp only [evI_map, gProg, Option.map_none, ite_self, List.filterMap_none, List.append_nil, List.nil_append]

theorem evI_meta_part (q : Rat → Int) (tr : Nat) (p : PPart) :
    evI gMeta tr (partEvents q p)
      = (p.metaOther.filter (fun c => decide (c.track = tr))).filterMap fun c => c.id.map fun i => (q c.time, i) := by
  have hm : evI gMeta tr (p.metaOther.map fun m => (m.track, q m.time, m.ev))
      = (p.metaOther.filter (fun c => decide (c.track = tr))).filterMap fun c => c.id.map fun i => (q c.time, i) := by
    rw [evI_map, List.filterMap_filter]
    simp only [decide_eq_true_eq]
    congr 1
    funext c
    cases h : c.id <;> simp [PMetaO.ev, h, gMeta]
  rw [evI_partEvents, hm, evI_notes_none gMeta (fun _ _ _ => rfl) fun _ _ _ => rfl]
  simp only [evI_map, gMeta, Option.map_none, ite_self, List.filterMap_none, List.append_nil]

theorem evI_tempo_part (q : Rat → Int) (tr : Nat) (p : PPart) : evI gTempo tr (partEvents q p) = [] := by
  rw [evI_partEvents, evI_map_none gTempo tr p.metaOther _ (ev_none _ rfl fun _ => rfl),
    evI_notes_none gTempo (fun _ _ _ => rfl) fun _ _ _ => rfl]
  simp only [evI_map, gTempo, Option.map_none, ite_self, List.filterMap_none, List.append_nil]

theorem perfControls_eq (q : Rat → Int) (parts : List PPart) (tr : Nat) :
    perfControls q parts tr = parts.flatMap fun p => evI gCtl tr (partEvents q p) := by
  simp only [perfControls, evI_ctl_part]

theorem perfPrograms_eq (q : Rat → Int) (parts : List PPart) (tr : Nat) :
    perfPrograms q parts tr = parts.flatMap fun p => evI gProg tr (partEvents q p) := by
  simp only [perfPrograms, evI_prog_part]

theorem perfTimeSigs_eq (q : Rat → Int) (parts : List PPart) (tr : Nat) :
    perfTimeSigs q parts tr = parts.flatMap fun p => evI gTime tr (partEvents q p) := by
  simp only [perfTimeSigs, evI_time_part]

theorem perfKeySigs_eq (q : Rat → Int) (parts : List PPart) (tr : Nat) :
    perfKeySigs q parts tr = parts.flatMap fun p => evI gKey tr (partEvents q p) := by
  simp only [perfKeySigs, evI_key_part]

theorem perfMetas_eq (q : Rat → Int) (parts : List PPart) (tr : Nat) :
    perfMetas q parts tr = parts.flatMap fun p => evI gMeta tr (partEvents q p) := by
  simp only [perfMetas, evI_meta_part]

/-- a statement about every file track: the first holds `set_tempo` and then the bucket-sorted messages of
    the smallest used track number, the others the bucket-sorted messages of theirs -/
theorem forall₂_exportAbs (P : Nat → Track → Prop) (q : Rat → Int) (mpq : Nat) (parts : List PPart)
    (h0 : ∀ tr, P tr ((0, Ev.tempo mpq) :: trackAbs (insertAll q parts) tr))
    (h : ∀ tr, P tr (trackAbs (insertAll q parts) tr)) :
    List.Forall₂ P (usedTracks q parts) (exportAbs q mpq parts) := by
  unfold exportAbs usedTracks
  dsimp only
  generalize uniqueSorted ((insertAll q parts).map (·.1)) = ks
  cases ks with
  | nil => exact List.Forall₂.nil
  | cons t0 ts =>
    refine List.Forall₂.cons (h0 t0) ?_
    rw [List.forall₂_map_right_iff]
    exact List.forall₂_same.mpr fun tr _ => h tr

theorem sel_exportAbs (g : Ev → Option β) (hprog : ∀ ch pr, g (Ev.program ch pr) = none)
    (htempo : ∀ m, g (Ev.tempo m) = none) (q : Rat → Int) (mpq : Nat) (parts : List PPart) :
    List.Forall₂ (fun tr t => (sel g t).Perm (parts.flatMap fun p => evI g tr (partEvents q p)))
      (usedTracks q parts) (exportAbs q mpq parts) := by
  have key : ∀ tr, (sel g (trackAbs (insertAll q parts) tr)).Perm
      (parts.flatMap fun p => evI g tr (partEvents q p)) := by
    intro tr
    rw [← evI_insertAll g hprog]
    exact sel_trackAbs g _ tr
  refine forall₂_exportAbs _ q mpq parts (fun tr => ?_) key
  rw [sel_cons_none g _ _ (htempo mpq)]
  exact key tr

theorem loaderTracks_saved (q : Rat → Int) (mpq : Nat) (parts : List PPart) :
    loaderTracks false ((savedAbs q mpq false parts).map toDelta) = (exportAbs q mpq parts).map fixEot := by
  simp [loaderTracks, savedAbs, toAbs_toDelta]

theorem sel_loaderTracks (g : Ev → Option β) (heot : g Ev.eot = none) (hprog : ∀ ch pr, g (Ev.program ch pr) = none)
    (htempo : ∀ m, g (Ev.tempo m) = none) (q : Rat → Int) (mpq : Nat) (parts : List PPart) :
    List.Forall₂ (fun tr t => (sel g t).Perm (parts.flatMap fun p => evI g tr (partEvents q p)))
      (usedTracks q parts) (loaderTracks false ((savedAbs q mpq false parts).map toDelta)) := by
  rw [loaderTracks_saved, List.forall₂_map_right_iff]
  refine (sel_exportAbs g hprog htempo q mpq parts).imp fun tr t h => ?_
  rw [sel_fixEot g heot]
  exact h

theorem length_exportAbs (q : Rat → Int) (mpq : Nat) (parts : List PPart) :
    (exportAbs q mpq parts).length = (usedTracks q parts).length :=
  (forall₂_exportAbs (fun _ _ => True) q mpq parts (fun _ => trivial) (fun _ => trivial)).length_eq.symm

theorem ne_savedAbs (q : Rat → Int) (mpq : Nat) (ms : Bool) (parts : List PPart) :
    (savedAbs q mpq ms parts).map ne
      = if ms && decide (1 < (exportAbs q mpq parts).length) then [mergedNe (exportAbs q mpq parts)]
        else (exportAbs q mpq parts).map ne := by
  unfold savedAbs
  simp only
  rw [map_ne_fixEot]
  split
  · simp only [List.map_cons, List.map_nil, ne_mergeAbs]
  · rfl

/-- **What the loader sees of the written file**, up to `end_of_track`: the exporter's tracks, or — merged on either
    side — all their messages in order of tick -/
theorem seen_ne (q : Rat → Int) (mpq : Nat) (ms ml : Bool) (parts : List PPart) :
    (loaderTracks ml ((savedAbs q mpq ms parts).map toDelta)).map ne
      = if ml || (ms && decide (1 < (usedTracks q parts).length)) then [mergedNe (exportAbs q mpq parts)]
        else (exportAbs q mpq parts).map ne := by
  rw [ne_loaderTracks, map_toAbs_toDelta, ← length_exportAbs q mpq parts]
  have hs := ne_savedAbs q mpq ms parts
  cases ml with
  | false => simpa using hs
  | true =>
    simp only [if_true, Bool.true_or]
    unfold mergedNe
    rw [hs]
    split
    · -- merged on save as well: the saved track is in order of tick already
      simp only [List.flatten_cons, List.flatten_nil, List.append_nil]
      exact congrArg (fun t => [t]) (C06Stable.sortBy_idem _)
    · rfl

theorem sel_file (g : Ev → Option β) (h : g Ev.eot = none) (q : Rat → Int) (mpq : Nat) (ms ml : Bool)
    (parts : List PPart) :
    ((loaderTracks ml ((savedAbs q mpq ms parts).map toDelta)).flatMap (sel g)).Perm
      ((exportAbs q mpq parts).flatMap (sel g)) := by
  rw [← flatMap_sel_ne g h, seen_ne, ← flatMap_sel_ne g h (exportAbs q mpq parts)]
  split
  · simp only [List.flatMap_cons, List.flatMap_nil, List.append_nil, mergedNe]
    exact (sel_sortBy g _ _).trans (List.Perm.of_eq (sel_flatten g _))
  · exact List.Perm.refl _

theorem sel_file_perf (g : Ev → Option β) (heot : g Ev.eot = none) (hprog : ∀ ch pr, g (Ev.program ch pr) = none)
    (htempo : ∀ m, g (Ev.tempo m) = none) (q : Rat → Int) (mpq : Nat) (ms ml : Bool) (parts : List PPart) :
    ((loaderTracks ml ((savedAbs q mpq ms parts).map toDelta)).flatMap (sel g)).Perm
      ((usedTracks q parts).flatMap fun tr => parts.flatMap fun p => evI g tr (partEvents q p)) := by
  refine (sel_file g heot q mpq ms ml parts).trans ?_
  refine (Lists.forall₂_flatMap_perm ?_ _ _ (fun _ _ h => h)).symm
  exact (sel_exportAbs g hprog htempo q mpq parts).imp (fun _ _ h => h.symm)

theorem tempos_exportAbs (q : Rat → Int) (mpq : Nat) (parts : List PPart) (hne : usedTracks q parts ≠ []) :
    (exportAbs q mpq parts).flatMap (sel gTempo) = [(0, mpq)] := by
  have key : ∀ tr, sel gTempo (trackAbs (insertAll q parts) tr) = [] := by
    intro tr
    have h1 := sel_trackAbs gTempo (insertAll q parts) tr
    rw [evI_insertAll gTempo (fun _ _ => rfl), List.flatMap_eq_nil_iff.mpr fun p _ => evI_tempo_part q tr p] at h1
    exact h1.eq_nil
  unfold usedTracks at hne
  unfold exportAbs
  dsimp only
  generalize uniqueSorted ((insertAll q parts).map (·.1)) = ks at hne
  cases ks with
  | nil => exact absurd rfl hne
  | cons t0 ts =>
    rw [List.flatMap_cons, List.flatMap_eq_nil_iff.mpr, List.append_nil]
    · exact congrArg ((0, mpq) :: ·) (key t0)
    · intro t ht
      obtain ⟨tr, _, rfl⟩ := List.mem_map.mp ht
      exact key tr

theorem tempos_file (q : Rat → Int) (mpq : Nat) (ms ml : Bool) (parts : List PPart) (hne : usedTracks q parts ≠ []) :
    (loaderTracks ml ((savedAbs q mpq ms parts).map toDelta)).flatMap temposOf = [(0, mpq)] := by
  have h := sel_file gTempo rfl q mpq ms ml parts
  rw [tempos_exportAbs q mpq parts hne] at h
  rw [funext temposOf_eq]
  exact List.perm_singleton.mp h

end C06Export
