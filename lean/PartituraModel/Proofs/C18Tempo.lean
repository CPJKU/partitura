/-
C18 — the tempo curves.  Truncation (`encKey`, Proofs/C18Basic) is monotone, so the onset groups are separated and the unique score onsets
strictly increasing; `last_time` lies after every onset, so `monotonize_times` keeps at least two points and its output
is strictly increasing.  Hence `tempo_by_average` and `tempo_by_derivative` return positive beat periods, on the built-in
onset groups and on any grouping that is `GoodGroups`.
-/
import PartituraModel.Proofs.C18Basic
import PartituraModel.Proofs.C18Interp

namespace C18P
open Model Model.Codec

/-- a grouping of the notes `ns` the tempo curves can work with: at least one group, no empty group, every member a
    note of the table, the mean score onsets of the groups strictly increasing (the order the caller lists them in) -/
structure GoodGroups (ns : List MNote) (gs : List (Grp MNote)) : Prop where
  ne : gs ≠ []
  grp_ne : ∀ g ∈ gs, g ≠ []
  mem : ∀ g ∈ gs, ∀ p ∈ g, p.2 ∈ ns
  inc : (groupMeans (·.so) gs).Pairwise (· < ·)

variable {α : Type}

theorem groupMeans_length (f : α → Rat) (gs : List (Grp α)) : (groupMeans f gs).length = gs.length :=
  List.length_map _

theorem groupMeans_strict_of_separated (key : α → Rat) (gs : List (Grp α)) (hne : ∀ g ∈ gs, g ≠ [])
    (hsep : gs.Pairwise (fun g h => ∀ a ∈ g, ∀ b ∈ h, key a.2 < key b.2)) :
    (groupMeans key gs).Pairwise (· < ·) := by
  unfold groupMeans
  rw [List.pairwise_map]
  apply List.Pairwise.imp_of_mem _ hsep
  intro g h hg hh hgh
  apply mean_lt _ _ (by simpa using hne g hg)
  intro x hx
  obtain ⟨a, ha, rfl⟩ := List.mem_map.mp hx
  apply lt_mean _ _ (by simpa using hne h hh)
  intro y hy
  obtain ⟨b, hb, rfl⟩ := List.mem_map.mp hy
  exact hgh a ha b hb

theorem absR_nonneg (y : Rat) : 0 ≤ absR y := by
  unfold absR
  split <;> linarith

theorem isClose_self (a : Rat) : isClose a a = true := by
  have h0 : absR (a - a) = 0 := by rw [sub_self]; exact if_neg (lt_irrefl 0)
  have := absR_nonneg a
  rw [isClose, h0, decide_eq_true_eq]
  linarith

theorem lastTime_gt (l : List α) (f g : α → Rat) (hfg : ∀ x ∈ l, f x ≤ g x) (t : Rat)
    (h : lastTime (l.map f) (l.map g) = some t) : ∀ x ∈ l, f x < t := by
  cases l with
  | nil => simp [lastTime] at h
  | cons a as =>
    simp only [List.map_cons, lastTime, Option.some.injEq] at h
    have hmax : ∀ (k : α → Rat), ∀ x ∈ a :: as, k x ≤ maxL (k a) (as.map k) :=
      fun k x hx => le_maxL _ _ _ (by rw [← List.map_cons]; exact List.mem_map_of_mem hx)
    have hle : maxL (f a) (as.map f) ≤ maxL (g a) (as.map g) := by
      refine maxL_le _ _ _ ((hfg a List.mem_cons_self).trans (hmax g a List.mem_cons_self)) ?_
      intro y hy
      obtain ⟨x, hx, rfl⟩ := List.mem_map.mp hy
      exact (hfg x (List.mem_cons_of_mem _ hx)).trans (hmax g x (List.mem_cons_of_mem _ hx))
    intro x hx
    rw [← h]
    split
    · exact (hmax f x hx).trans_lt (lt_add_one _)
    · rename_i hne
      -- not close, in particular not equal: the latest offset exceeds the latest onset
      have hneq : maxL (f a) (as.map f) ≠ maxL (g a) (as.map g) :=
        fun e => hne (by rw [← e]; exact isClose_self _)
      exact (hmax f x hx).trans_lt (lt_of_le_of_ne hle hneq)

theorem maskKnots_sublist (m : Rat) (l : List (Rat × Rat)) : (maskKnots m l).Sublist l := by
  induction l generalizing m with
  | nil => simp [maskKnots]
  | cons k rest ih =>
    obtain ⟨x, s⟩ := k
    simp only [maskKnots]
    split
    · exact (ih s).cons_cons _
    · exact (ih m).cons _

/-- `monotonize_times` keeps the first point and then what `maskKnots` keeps above it -/
theorem monoKnots_cons (k : Rat × Rat) (rest : List (Rat × Rat)) :
    monoKnots (k :: rest) = k :: maskKnots k.2 rest := rfl

theorem monoKnots_sublist : ∀ l : List (Rat × Rat), (monoKnots l).Sublist l
  | [] => .slnil
  | k :: rest => (maskKnots_sublist k.2 rest).cons_cons k

theorem maskKnots_incY (m : Rat) (l : List (Rat × Rat)) :
    (∀ k ∈ maskKnots m l, m < k.2) ∧ IncY (maskKnots m l) := by
  induction l generalizing m with
  | nil => simp [maskKnots]
  | cons k rest ih =>
    obtain ⟨x, s⟩ := k
    simp only [maskKnots]
    split
    · rename_i hms
      obtain ⟨h1, h2⟩ := ih s
      refine ⟨?_, List.pairwise_cons.mpr ⟨fun k hk => h1 k hk, h2⟩⟩
      intro k hk
      rcases List.mem_cons.mp hk with rfl | hk
      · exact hms
      · exact lt_trans hms (h1 k hk)
    · exact ih m

theorem monoKnots_incY : ∀ l : List (Rat × Rat), IncY (monoKnots l)
  | [] => .nil
  | k :: rest => List.pairwise_cons.mpr (maskKnots_incY k.2 rest)

theorem monoKnots_incX (l : List (Rat × Rat)) (h : IncX l) : IncX (monoKnots l) :=
  List.Pairwise.sublist (monoKnots_sublist l) h

theorem maskKnots_append_last (m : Rat) (l : List (Rat × Rat)) (k : Rat × Rat) (hm : m < k.2)
    (hl : ∀ a ∈ l, a.2 < k.2) : maskKnots m (l ++ [k]) = maskKnots m l ++ [k] := by
  induction l generalizing m with
  | nil =>
    obtain ⟨x, s⟩ := k
    simp [maskKnots, hm]
  | cons a rest ih =>
    obtain ⟨x, s⟩ := a
    simp only [List.cons_append, maskKnots]
    have has : s < k.2 := hl (x, s) (by simp)
    have hrest : ∀ a ∈ rest, a.2 < k.2 := fun a ha => hl a (List.mem_cons_of_mem _ ha)
    split
    · rw [ih s has hrest]; simp
    · rw [ih m hm hrest]

theorem monoKnots_append_last (l : List (Rat × Rat)) (k : Rat × Rat) (hne : l ≠ [])
    (hl : ∀ a ∈ l, a.2 < k.2) : monoKnots (l ++ [k]) = monoKnots l ++ [k] := by
  obtain ⟨a, rest, rfl⟩ := List.exists_cons_of_ne_nil hne
  exact congrArg (a :: ·) (maskKnots_append_last a.2 rest k (hl a List.mem_cons_self)
    fun b hb => hl b (List.mem_cons_of_mem _ hb))

theorem maskKnots_id (m : Rat) (l : List (Rat × Rat)) (hm : ∀ a ∈ l, m < a.2) (h : IncY l) : maskKnots m l = l := by
  induction l generalizing m with
  | nil => simp [maskKnots]
  | cons a rest ih =>
    obtain ⟨x, s⟩ := a
    have h' := List.pairwise_cons.mp h
    simp only [maskKnots]
    rw [if_pos (hm (x, s) (by simp)), ih s (fun a ha => h'.1 a ha) h'.2]

theorem monoKnots_id : ∀ l : List (Rat × Rat), IncY l → monoKnots l = l
  | [], _ => rfl
  | k :: rest, h => congrArg (k :: ·) (maskKnots_id k.2 rest (List.pairwise_cons.mp h).1 (List.pairwise_cons.mp h).2)

theorem sortKnots_of_incX (ks : List (Rat × Rat)) (h : IncX ks) : sortKnots ks = ks := by
  unfold sortKnots
  apply (isSort _).eq_self
  exact h.imp (fun h => by simpa using le_of_lt h)

theorem zip_incX (xs ys : List Rat) (h : xs.Pairwise (· < ·)) : IncX (xs.zip ys) := by
  induction xs generalizing ys with
  | nil => simp
  | cons x xs ih =>
    cases ys with
    | nil => simp
    | cons y ys =>
      have h' := List.pairwise_cons.mp h
      simp only [List.zip_cons_cons]
      refine List.pairwise_cons.mpr ⟨?_, ih ys h'.2⟩
      intro k hk
      exact h'.1 k.1 (List.of_mem_zip hk).1

theorem zip_incY (xs ys : List Rat) (h : ys.Pairwise (· < ·)) : IncY (xs.zip ys) := by
  induction xs generalizing ys with
  | nil => simp
  | cons x xs ih =>
    cases ys with
    | nil => simp
    | cons y ys =>
      have h' := List.pairwise_cons.mp h
      simp only [List.zip_cons_cons]
      refine List.pairwise_cons.mpr ⟨?_, ih ys h'.2⟩
      intro k hk
      exact h'.1 k.2 (List.of_mem_zip hk).2

theorem monoKnots_ne_nil (l : List (Rat × Rat)) (h : l ≠ []) : monoKnots l ≠ [] := by
  cases l with
  | nil => exact absurd rfl h
  | cons k rest => obtain ⟨x, s⟩ := k; simp [monoKnots]

theorem allSome_map_strictMono (f : Rat → Option Rat)
    (hf : ∀ s t, s < t → ∃ p q, f s = some p ∧ f t = some q ∧ p < q) (xs : List Rat)
    (hxs : xs.Pairwise (· < ·)) :
    ∃ ys, allSome (xs.map f) = some ys ∧ List.Forall₂ (fun x y => f x = some y) xs ys ∧ ys.Pairwise (· < ·) := by
  induction xs with
  | nil => exact ⟨[], rfl, List.Forall₂.nil, List.Pairwise.nil⟩
  | cons x rest ih =>
    have h' := List.pairwise_cons.mp hxs
    obtain ⟨ys, h1, h2, h3⟩ := ih h'.2
    obtain ⟨p, _, hp, _, _⟩ := hf x (x + 1) (by linarith)
    refine ⟨p :: ys, ?_, List.Forall₂.cons hp h2, List.pairwise_cons.mpr ⟨?_, h3⟩⟩
    · simp only [List.map_cons, allSome, hp, h1, Option.map_some]
    · intro y hy
      obtain ⟨x', hx', hfx'⟩ := Lists.forall₂_mem_right h2 _ hy
      obtain ⟨p', q', hp', hq', hpq⟩ := hf x x' (h'.1 x' hx')
      rw [hp] at hp'
      rw [hfx'] at hq'
      cases hp'; cases hq'
      exact hpq

theorem forall₂_interp_knots (xs ss : List Rat) (hx : xs.Pairwise (· < ·)) (hlen : xs.length = ss.length) :
    List.Forall₂ (fun x y => interpExt (xs.zip ss) x = some y) xs ss :=
  List.forall₂_iff_zip.mpr ⟨hlen, fun h => interpExt_knot _ (zip_incX _ _ hx) _ _ h⟩

theorem forall₂_some_unique (f : Rat → Option Rat) (xs ys zs : List Rat)
    (h1 : List.Forall₂ (fun x y => f x = some y) xs ys) (h2 : List.Forall₂ (fun x y => f x = some y) xs zs) :
    ys = zs :=
  (List.map_inj_right fun _ _ h => Option.some.inj h).mp
    ((Lists.forall₂_map_eq f some (fun _ _ h => h) h1).symm.trans (Lists.forall₂_map_eq f some (fun _ _ h => h) h2))

theorem monotonize_strict (xs ss : List Rat) (hx : xs.Pairwise (· < ·)) (hlen : xs.length = ss.length)
    (h2 : 2 ≤ (monoKnots (xs.zip ss)).length) :
    ∃ mono, monotonize xs ss = some mono ∧ mono.length = xs.length ∧ mono.Pairwise (· < ·) ∧
      List.Forall₂ (fun (k : Rat × Rat) y => k ∈ monoKnots (xs.zip ss) → y = k.2) (xs.zip ss) mono := by
  have hkx : IncX (monoKnots (xs.zip ss)) := monoKnots_incX _ (zip_incX _ _ hx)
  obtain ⟨mono, hm1, hm2, hm3⟩ := allSome_map_strictMono _
    (interpExt_strictMono _ hkx (monoKnots_incY _) h2) xs hx
  have hfun : monoFun xs ss = interpExt (monoKnots (xs.zip ss)) := by
    unfold monoFun
    rw [sortKnots_of_incX _ hkx]
  have hml : xs.length = mono.length := hm2.length_eq
  refine ⟨mono, by unfold monotonize; rw [hfun]; exact hm1, hml.symm, hm3, ?_⟩
  rw [List.forall₂_iff_get]
  refine ⟨by rw [List.length_zip]; omega, ?_⟩
  intro i h1 h2' hmem
  have hxi : i < xs.length := by rw [List.length_zip] at h1; omega
  have := (List.forall₂_iff_get.mp hm2).2 i hxi h2'
  simp only [List.get_eq_getElem, List.getElem_zip] at hmem this ⊢
  rw [interpExt_knot _ hkx _ _ hmem] at this
  exact (Option.some.inj this).symm

theorem monotonize_id (xs ss : List Rat) (hx : xs.Pairwise (· < ·)) (hs : ss.Pairwise (· < ·))
    (hlen : xs.length = ss.length) : monotonize xs ss = some ss := by
  unfold monotonize monoFun
  rw [monoKnots_id _ (zip_incY _ _ hs), sortKnots_of_incX _ (zip_incX _ _ hx)]
  exact (allSome_map_eq_some_iff _ _ _).mpr (forall₂_interp_knots xs ss hx hlen)

theorem monotonize_const (xs ss : List Rat) (k0 : Rat × Rat) (h : monoKnots (xs.zip ss) = [k0]) :
    monotonize xs ss = some (xs.map fun _ => k0.2) := by
  unfold monotonize monoFun
  rw [h]
  have : sortKnots [k0] = [k0] := by simp [sortKnots, isort, insertBy]
  rw [this, allSome_eq_some, List.map_map]
  apply List.map_congr_left
  intro x _
  obtain ⟨a, b⟩ := k0
  simp [interpExt]

/-- `monotonize_times` returns whenever the abscissae increase and there is a point: the first point is always
    kept, so either one point is kept (a constant) or at least two (interpolation) -/
theorem monotonize_defined (xs ss : List Rat) (hx : xs.Pairwise (· < ·)) (hlen : xs.length = ss.length)
    (hne : xs ≠ []) : ∃ mono, monotonize xs ss = some mono := by
  match hk : monoKnots (xs.zip ss) with
  | [] =>
    refine absurd hk (monoKnots_ne_nil _ fun h0 => hne ?_)
    have := congrArg List.length h0
    rw [List.length_zip, ← hlen, Nat.min_self] at this
    exact List.length_eq_zero_iff.mp this
  | [k0] => exact ⟨_, monotonize_const xs ss k0 hk⟩
  | _ :: _ :: _ =>
    obtain ⟨mono, h, _⟩ := monotonize_strict xs ss hx hlen (by rw [hk]; simp)
    exact ⟨mono, h⟩

theorem encGroups_separated (ns : List MNote) :
    (encGroups ns).Pairwise (fun g h => ∀ a ∈ g, ∀ b ∈ h, a.2.so < b.2.so) :=
  (sortedRuns_spec eps eps_nonneg (fun n : MNote => encKey n.so) ns).2.2.1.imp
    fun hgh a ha b hb => lt_of_encKey_lt _ _ (hgh a ha b hb)

theorem goodGroups_enc (ns : List MNote) (hne : ns ≠ []) : GoodGroups ns (encGroups ns) :=
  ⟨groupsBy_ne_nil_of_ne_nil _ ns hne, groupsBy_ne_nil _ ns, fun _ hg _ hp => mem_groupsBy hg hp,
   groupMeans_strict_of_separated (fun n : MNote => n.so) (encGroups ns) (groupsBy_ne_nil _ ns) (encGroups_separated ns)⟩

variable {ns : List MNote} {gs : List (Grp MNote)}

theorem GoodGroups.ns_ne (hg : GoodGroups ns gs) : ns ≠ [] := by
  obtain ⟨g, gs', rfl⟩ := List.exists_cons_of_ne_nil hg.ne
  obtain ⟨p, hp⟩ := List.exists_mem_of_ne_nil g (hg.grp_ne g List.mem_cons_self)
  exact List.ne_nil_of_mem (hg.mem g List.mem_cons_self p hp)

theorem groupMeans_lt {β : Type} (f : β → Rat) (gs : List (Grp β)) (hne : ∀ g ∈ gs, g ≠ []) (t : Rat)
    (h : ∀ g ∈ gs, ∀ p ∈ g, f p.2 < t) : ∀ m ∈ groupMeans f gs, m < t := by
  intro m hm
  obtain ⟨g, hgm, rfl⟩ := List.mem_map.mp hm
  apply mean_lt _ _ (by simpa using hne g hgm)
  intro x hx
  obtain ⟨a, ha, rfl⟩ := List.mem_map.mp hx
  exact h g hgm a ha

theorem pairwise_append_last (l : List Rat) (t : Rat) (h : l.Pairwise (· < ·)) (ht : ∀ m ∈ l, m < t) :
    (l ++ [t]).Pairwise (· < ·) := by
  rw [List.pairwise_append]
  refine ⟨h, by simp, ?_⟩
  intro a ha b hb
  rw [List.mem_singleton] at hb
  subst hb
  exact ht a ha

theorem diffs_pos (l : List Rat) (h : l.Pairwise (· < ·)) : ∀ d ∈ diffs l, 0 < d := by
  induction l with
  | nil => simp [diffs]
  | cons a rest ih =>
    cases rest with
    | nil => simp [diffs]
    | cons b t =>
      have h' := List.pairwise_cons.mp h
      intro d hd
      simp only [diffs, List.mem_cons] at hd
      rcases hd with rfl | hd
      · have := h'.1 b (by simp); linarith
      · exact ih h'.2 d hd

theorem zipWith_div_pos (a b : List Rat) (ha : ∀ x ∈ a, 0 < x) (hb : ∀ x ∈ b, 0 < x) :
    ∀ x ∈ List.zipWith (· / ·) a b, 0 < x := by
  induction a generalizing b with
  | nil => simp
  | cons x xs ih =>
    cases b with
    | nil => simp
    | cons y ys =>
      intro z hz
      simp only [List.zipWith_cons_cons, List.mem_cons] at hz
      rcases hz with rfl | hz
      · exact div_pos (ha x (by simp)) (hb y (by simp))
      · exact ih ys (fun x hx => ha x (List.mem_cons_of_mem _ hx)) (fun x hx => hb x (List.mem_cons_of_mem _ hx)) z hz

theorem uniqueSeqs_spec (hg : GoodGroups ns gs) (hsd : ∀ x ∈ ns, 0 ≤ x.sd) (hpd : ∀ x ∈ ns, 0 ≤ x.pd) :
    ∃ ls lp, lastTime (ns.map (·.so)) (ns.map fun n => n.so + n.sd) = some ls ∧
      lastTime (ns.map (·.po)) (ns.map fun n => n.po + n.pd) = some lp ∧
      (groupMeans (·.so) gs ++ [ls]).Pairwise (· < ·) ∧ ∀ m ∈ groupMeans (·.po) gs, m < lp := by
  obtain ⟨ls, hls⟩ := lastTime_some ns (·.so) (fun n => n.so + n.sd) hg.ns_ne
  obtain ⟨lp, hlp⟩ := lastTime_some ns (·.po) (fun n => n.po + n.pd) hg.ns_ne
  have hso := lastTime_gt ns (·.so) _ (fun x hx => le_add_of_nonneg_right (hsd x hx)) ls hls
  have hpo := lastTime_gt ns (·.po) _ (fun x hx => le_add_of_nonneg_right (hpd x hx)) lp hlp
  have hlt : ∀ (f : MNote → Rat) (t : Rat), (∀ x ∈ ns, f x < t) → ∀ m ∈ groupMeans f gs, m < t :=
    fun f t h => groupMeans_lt f gs hg.grp_ne t fun g hg' p hp => h p.2 (hg.mem g hg' p hp)
  exact ⟨ls, lp, hls, hlp, pairwise_append_last _ ls hg.inc (hlt _ ls hso), hlt _ lp hpo⟩

theorem tempoSeqs_spec (hg : GoodGroups ns gs) (hsd : ∀ x ∈ ns, 0 ≤ x.sd) (hpd : ∀ x ∈ ns, 0 ≤ x.pd) :
    ∃ ls ss mono, tempoSeqs ns gs = some (groupMeans (·.so) gs ++ [ls], ss, mono) ∧
      (groupMeans (·.so) gs ++ [ls]).Pairwise (· < ·) ∧ mono.Pairwise (· < ·) ∧ mono.length = gs.length + 1 := by
  obtain ⟨ls, lp, hls, hlp, hxs, hpm⟩ := uniqueSeqs_spec hg hsd hpd
  have hlen : (groupMeans (·.so) gs ++ [ls]).length = (groupMeans (·.po) gs ++ [lp]).length := by
    simp only [List.length_append, groupMeans_length, List.length_singleton]
  -- `last_time` lies above all performed means: that point is kept, and so is the first
  have hzne : (groupMeans (·.so) gs).zip (groupMeans (·.po) gs) ≠ [] := by
    obtain ⟨g, gs', rfl⟩ := List.exists_cons_of_ne_nil hg.ne
    simp [groupMeans]
  have hk2 : 2 ≤ (monoKnots ((groupMeans (·.so) gs ++ [ls]).zip (groupMeans (·.po) gs ++ [lp]))).length := by
    have hzlt : ∀ a ∈ (groupMeans (·.so) gs).zip (groupMeans (·.po) gs), a.2 < ((ls, lp) : Rat × Rat).2 :=
      fun a ha => hpm _ (List.of_mem_zip ha).2
    rw [List.zip_append (by simp only [groupMeans_length]), List.zip_cons_cons, List.zip_nil_right,
      monoKnots_append_last _ (ls, lp) hzne hzlt, List.length_append]
    have := List.length_pos_iff.mpr (monoKnots_ne_nil _ hzne)
    simp only [List.length_cons, List.length_nil]
    omega
  obtain ⟨mono, hm1, hm2, hm3, _⟩ := monotonize_strict _ _ hxs hlen hk2
  refine ⟨ls, groupMeans (·.po) gs ++ [lp], mono, ?_, hxs, hm3, by rw [hm2, List.length_append, groupMeans_length]; rfl⟩
  unfold tempoSeqs
  simp only [hls, hlp, hm1]

theorem tempoAverage_data (hg : GoodGroups ns gs) (hsd : ∀ x ∈ ns, 0 ≤ x.sd) (hpd : ∀ x ∈ ns, 0 ≤ x.pd) :
    ∃ ls ss mono bp, tempoSeqs ns gs = some (groupMeans (·.so) gs ++ [ls], ss, mono) ∧
      bp = List.zipWith (· / ·) (diffs mono) (diffs (groupMeans (·.so) gs ++ [ls])) ∧
      bp.length = gs.length ∧ ∀ b ∈ bp, 0 < b := by
  obtain ⟨ls, ss, mono, h1, h3, h4, h5⟩ := tempoSeqs_spec hg hsd hpd
  refine ⟨ls, ss, mono, _, h1, rfl, ?_, zipWith_div_pos _ _ (diffs_pos mono h4) (diffs_pos _ h3)⟩
  rw [List.length_zipWith, diffs_length, diffs_length, h5, List.length_append, groupMeans_length]
  simp

theorem tempoAverage_pos (hg : GoodGroups ns gs) (hsd : ∀ x ∈ ns, 0 ≤ x.sd) (hpd : ∀ x ∈ ns, 0 ≤ x.pd) :
    ∃ bp, tempoAverage ns gs = some bp ∧ bp.length = gs.length ∧ ∀ b ∈ bp, 0 < b := by
  obtain ⟨ls, ss, mono, bp, h1, hb, hl, hpos⟩ := tempoAverage_data hg hsd hpd
  exact ⟨bp, by unfold tempoAverage; rw [h1, hb], hl, hpos⟩

theorem firstOrderDerivative_pos (f : Rat → Option Rat)
    (hf : ∀ s t, s < t → ∃ p q, f s = some p ∧ f t = some q ∧ p < q) (x : Rat) :
    ∃ d, firstOrderDerivative f x = some d ∧ 0 < d := by
  -- the three sample points of the central difference as the model writes them; the middle one has weight 0 and
  -- only has to be defined, which `hf` says of the smaller of any two points
  obtain ⟨a, c, ha, hc, hac⟩ := hf (x + (0 - 1) * (1 / 2)) (x + (2 - 1) * (1 / 2)) (by linarith)
  obtain ⟨b, _, hb, _, _⟩ := hf (x + (1 - 1) * (1 / 2)) (x + (1 - 1) * (1 / 2) + 1) (by linarith)
  refine ⟨_, by unfold firstOrderDerivative; rw [ha, hb, hc], ?_⟩
  apply div_pos _ (by norm_num)
  linarith

theorem allSome_map_pos (f : Rat → Option Rat) (h : ∀ x, ∃ d, f x = some d ∧ 0 < d) (l : List Rat) :
    ∃ ys, allSome (l.map f) = some ys ∧ ys.length = l.length ∧ ∀ y ∈ ys, 0 < y := by
  induction l with
  | nil => exact ⟨[], rfl, rfl, by simp⟩
  | cons x rest ih =>
    obtain ⟨ys, h1, h2, h3⟩ := ih
    obtain ⟨d, hd, hpos⟩ := h x
    refine ⟨d :: ys, by simp only [List.map_cons, allSome, hd, h1, Option.map_some], by simp [h2], ?_⟩
    intro y hy
    rcases List.mem_cons.mp hy with rfl | hy
    · exact hpos
    · exact h3 y hy

theorem derivative_samples_pos (xs mono : List Rat) (hx : xs.Pairwise (· < ·)) (hm : mono.Pairwise (· < ·))
    (hlen : mono.length = xs.length) (h2 : 2 ≤ xs.length) (pts : List Rat) :
    ∃ out, allSome (pts.map (firstOrderDerivative (interpExt (sortKnots (xs.zip mono))))) = some out ∧
      out.length = pts.length ∧ ∀ b ∈ out, 0 < b := by
  rw [sortKnots_of_incX _ (zip_incX _ _ hx)]
  exact allSome_map_pos _ (firstOrderDerivative_pos _
    (interpExt_strictMono _ (zip_incX _ _ hx) (zip_incY _ _ hm) (by rw [List.length_zip]; omega))) pts

theorem tempoDerivative_pos (hg : GoodGroups ns gs) (hsd : ∀ x ∈ ns, 0 ≤ x.sd) (hpd : ∀ x ∈ ns, 0 ≤ x.pd) :
    ∃ bp, tempoDerivative ns gs = some bp ∧ bp.length = gs.length ∧ ∀ b ∈ bp, 0 < b := by
  obtain ⟨ls, ss, mono, h1, h3, h4, h5⟩ := tempoSeqs_spec hg hsd hpd
  have hl : (groupMeans (·.so) gs ++ [ls]).length = gs.length + 1 := by
    rw [List.length_append, groupMeans_length]; rfl
  obtain ⟨bp, hb1, hb2, hb3⟩ := derivative_samples_pos _ mono h3 h4 (h5.trans hl.symm)
    (by have := List.length_pos_iff.mpr hg.ne; omega) (groupMeans (·.so) gs)
  exact ⟨bp, by unfold tempoDerivative; rw [h1]; exact hb1, by rw [hb2, groupMeans_length], hb3⟩

theorem tempoAverage_exact (hg : GoodGroups ns gs) (hsd : ∀ x ∈ ns, 0 ≤ x.sd) (hpd : ∀ x ∈ ns, 0 ≤ x.pd)
    (hinc : (groupMeans (·.po) gs).Pairwise (· < ·)) :
    ∃ ls lp, lastTime (ns.map (·.so)) (ns.map fun n => n.so + n.sd) = some ls ∧
      lastTime (ns.map (·.po)) (ns.map fun n => n.po + n.pd) = some lp ∧
      tempoAverage ns gs = some (List.zipWith (· / ·)
        (diffs (groupMeans (·.po) gs ++ [lp])) (diffs (groupMeans (·.so) gs ++ [ls]))) := by
  obtain ⟨ls, lp, hls, hlp, hxs, hpm⟩ := uniqueSeqs_spec hg hsd hpd
  refine ⟨ls, lp, hls, hlp, ?_⟩
  unfold tempoAverage tempoSeqs
  simp only [hls, hlp]
  rw [monotonize_id _ _ hxs (pairwise_append_last _ lp hinc hpm) (by simp only [List.length_append, groupMeans_length, List.length_singleton])]

end C18P
