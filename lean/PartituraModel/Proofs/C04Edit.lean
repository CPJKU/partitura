/-
C04 — lemmas about `Model.ScoreEdit`: what `Part.set_quarter_duration` does to the table the exporter
reads, that the edits keep the table well formed, and that reads leave the score object as it is.
-/
import PartituraModel.Model.ScoreEdit
import PartituraModel.Proofs.C04Ticks
import PartituraModel.Proofs.Previous

namespace C04Ed
open Model Model.Ticks Model.MidiModes Model.ScoreMidi Model.ScoreEdit
open C04T (valAt valAt_cons valAt_later valAt_map)

/-- change times strictly ascend from `t0` (what `searchsorted` + "insert unless stored" maintains); `C04T.Asc` is the
    weak form the integral needs (`SAsc.asc`) -/
def SAsc : Nat → List (Nat × Nat) → Prop
  | _, [] => True
  | t0, (t1, _) :: rest => t0 < t1 ∧ SAsc t1 rest

theorem SAsc.gt {t0 : Nat} {l : List (Nat × Nat)} (h : SAsc t0 l) : ∀ e ∈ l, t0 < e.1 := by
  induction l generalizing t0 with
  | nil => intro e he; cases he
  | cons a rest ih =>
    obtain ⟨t1, q1⟩ := a
    intro e he
    rcases List.mem_cons.mp he with rfl | he
    · exact h.1
    · exact Nat.lt_trans h.1 (ih h.2 e he)

theorem SAsc.asc {t0 : Nat} {l : List (Nat × Nat)} (h : SAsc t0 l) : C04T.Asc t0 (qRates l) := by
  induction l generalizing t0 with
  | nil => trivial
  | cons a rest ih =>
    obtain ⟨t1, q1⟩ := a
    exact ⟨Nat.le_of_lt h.1, ih h.2⟩

theorem setQuarterDuration_eq (b : TimeBase) (t q : Nat) :
    setQuarterDuration b t q =
      if t = 0 then { b with d0 := q } else { b with qd := setQdGo (some b.d0) b.qd t q } := by
  unfold setQuarterDuration qdTable
  by_cases ht : t = 0
  · subst ht
    simp [setQdGo]
  · have : 0 < t := Nat.pos_of_ne_zero ht
    simp [setQdGo, this, ht]

theorem setQdGo_isSet (t q : Nat) :
    Lists.IsSetEntry (α := Nat × Nat) (·.1) (·.2) (· < ·) Prod.mk t q (fun prev l => setQdGo prev l t q) :=
  ⟨fun _ => rfl, fun _ _ _ => rfl⟩

theorem setQdGo_mem (prev : Option Nat) (l : List (Nat × Nat)) (t q : Nat) :
    ∀ e ∈ setQdGo prev l t q, e ∈ l ∨ e = (t, q) :=
  fun e he => ((setQdGo_isSet t q).mem l prev e he).symm

theorem SAsc.pairwise {t0 : Nat} {l : List (Nat × Nat)} (h : SAsc t0 l) : l.Pairwise fun a b => a.1 < b.1 := by
  induction l generalizing t0 with
  | nil => exact List.Pairwise.nil
  | cons a rest ih => exact List.pairwise_cons.mpr ⟨h.2.gt, ih h.2⟩

theorem SAsc.of_pairwise {t0 : Nat} : ∀ {l : List (Nat × Nat)}, (l.Pairwise fun a b => a.1 < b.1) → (∀ e ∈ l, t0 < e.1) → SAsc t0 l
  | [], _, _ => trivial
  | a :: _, hp, hb => ⟨hb a List.mem_cons_self, SAsc.of_pairwise (List.pairwise_cons.mp hp).2 fun e he => (List.pairwise_cons.mp hp).1 e he⟩

theorem setQdGo_sasc (prev : Option Nat) (l : List (Nat × Nat)) (t0 t q : Nat) (h : SAsc t0 l) (ht : t0 < t) :
    SAsc t0 (setQdGo prev l t q) :=
  SAsc.of_pairwise ((setQdGo_isSet t q).pairwise (fun _ _ => rfl) (fun _ _ _ => Nat.lt_trans) (fun k h1 h2 => by omega) l prev h.pairwise)
    fun e he => (setQdGo_mem prev l t q e he).elim (h.gt e) fun e' => e' ▸ ht

theorem divAt_eq (b : TimeBase) (t : Nat) : divAt b t = valAt b.d0 b.qd t := rfl

theorem valAt_eq_filter (d : Nat) (l : List (Nat × Nat)) (x : Nat) :
    valAt d l x = ((l.filter fun e => decide (e.1 ≤ x)).getLast?.map (·.2)).getD d := by
  induction l generalizing d with
  | nil => rfl
  | cons a l ih =>
    rw [valAt_cons, ih]
    by_cases ha : a.1 ≤ x
    · rw [if_pos ha, List.filter_cons_of_pos (by simpa using ha), List.getLast?_cons]
      cases (l.filter fun e => decide (e.1 ≤ x)).getLast? <;> rfl
    · rw [if_neg ha, List.filter_cons_of_neg (by simpa using ha)]

theorem valAt_mem (d : Nat) (l : List (Nat × Nat)) (x : Nat) : valAt d l x = d ∨ valAt d l x ∈ l.map (·.2) := by
  rw [valAt_eq_filter]
  cases h : (l.filter fun e => decide (e.1 ≤ x)).getLast? with
  | none => exact Or.inl rfl
  | some e => exact Or.inr (List.mem_map_of_mem (List.mem_filter.mp (List.mem_of_getLast? h)).1)

theorem valAt_eq {t0 : Nat} {l : List (Nat × Nat)} (h : SAsc t0 l) (d x : Nat) :
    valAt d l x = ((l.takeWhile fun e => decide (e.1 ≤ x)).getLast?.map (·.2)).getD d := by
  rw [valAt_eq_filter, Lists.Closed.takeWhile_eq_filter (P := fun e : Nat × Nat => e.1 ≤ x)
    ⟨h.pairwise, fun _ _ hlt hle => Nat.le_trans (Nat.le_of_lt hlt) hle⟩]

theorem setQdGo_valAt (d : Nat) (l : List (Nat × Nat)) (t0 t q x : Nat) (h : SAsc t0 l) (ht : t0 < t) :
    valAt d (setQdGo (some d) l t q) x = if t ≤ x ∧ ∀ e ∈ l, t < e.1 → x < e.1 then q else valAt d l x := by
  rw [valAt_eq (setQdGo_sasc _ _ _ _ _ h ht), valAt_eq h]
  have := (setQdGo_isSet t q).law (Q := (· ≤ x)) (Lists.isPrevScan_takeWhile _ _) (fun _ _ => rfl) (fun _ _ => rfl)
    (fun _ _ _ => Nat.lt_trans) (fun _ _ h => Nat.lt_asymm h) (fun k h1 h2 => by omega)
    (fun _ _ hlt hle => Nat.le_trans (Nat.le_of_lt hlt) hle) l d h.pairwise
  simpa only [Nat.not_le] using this

theorem setQdGo_has (d : Nat) (l : List (Nat × Nat)) (t0 t q : Nat) (h : SAsc t0 l) (ht : t0 < t) :
    q = d ∨ q ∈ (setQdGo (some d) l t q).map (·.2) := by
  have := valAt_mem d (setQdGo (some d) l t q) t
  rwa [setQdGo_valAt d l t0 t q t h ht, if_pos ⟨Nat.le_refl t, fun e _ hlt => hlt⟩] at this

theorem quarterRaw_diff (b : TimeBase) (hasc : C04T.Asc 0 (qRates b.qd)) (x y : Nat) (hxy : x ≤ y)
    (hnext : ∀ e ∈ b.qd, x < e.1 → y ≤ e.1) :
    quarterRaw b y - quarterRaw b x = 1 / (divAt b x : Rat) * (((y : Int) : Rat) - ((x : Int) : Rat)) := by
  rw [quarterRaw, quarterRaw, C04T.integ_diff _ _ _ x y hasc (Nat.zero_le _) hxy, qRates,
    valAt_map (fun d : Nat => 1 / (d : Rat)), divAt_eq]
  intro e he
  obtain ⟨z, hz, rfl⟩ := List.mem_map.mp he
  exact hnext z hz

/-- the table of a part as `set_quarter_duration` maintains it: positive values, strictly ascending times after 0 -/
def Table (b : TimeBase) : Prop := 0 < b.d0 ∧ (∀ e ∈ b.qd, 0 < e.2) ∧ SAsc 0 b.qd

theorem Table.wf {b : TimeBase} (h : Table b) : C04T.WellFormed b := ⟨h.1, h.2.1, h.2.2.asc⟩

theorem setQuarterDuration_qd (b : TimeBase) (t q : Nat) (h : SAsc 0 b.qd) :
    SAsc 0 (setQuarterDuration b t q).qd ∧ ∀ e ∈ (setQuarterDuration b t q).qd, e ∈ b.qd ∨ e = (t, q) := by
  rw [setQuarterDuration_eq]
  split
  · exact ⟨h, fun e he => Or.inl he⟩
  · rename_i ht
    exact ⟨setQdGo_sasc _ _ _ _ _ h (Nat.pos_of_ne_zero ht), setQdGo_mem _ _ _ _⟩

theorem setQuarterDuration_from (b : TimeBase) (t q x : Nat) (h : SAsc 0 b.qd) (htx : t ≤ x)
    (hnext : ∀ e ∈ b.qd, t < e.1 → x < e.1) : divAt (setQuarterDuration b t q) x = q := by
  rw [setQuarterDuration_eq, divAt_eq]
  split
  · rename_i ht
    subst ht
    exact valAt_later _ _ _ fun e he => hnext e he (h.gt e he)
  · rename_i ht
    rw [setQdGo_valAt _ _ 0 _ _ _ h (Nat.pos_of_ne_zero ht), if_pos ⟨htx, hnext⟩]

theorem setQuarterDuration_table (b : TimeBase) (t q : Nat) (h : Table b) (hq : 0 < q) :
    Table (setQuarterDuration b t q) := by
  obtain ⟨h1, h2⟩ := setQuarterDuration_qd b t q h.2.2
  refine ⟨?_, fun e he => ?_, h1⟩
  · rw [setQuarterDuration_eq]
    split
    · exact hq
    · exact h.1
  · rcases h2 e he with h' | rfl
    · exact h.2.1 e h'
    · exact hq

def EditOk : Edit → Prop
  | .setQd _ _ q => 0 < q
  | _ => True

theorem editPart_table (x : PartIn) (e : Edit) (h : Table x.base) (he : EditOk e) : Table (editPart x e).base := by
  cases e with
  | setQd i t q => exact setQuarterDuration_table _ _ _ h he
  | addNote i r => exact h
  | removeNote i k => exact h
  | setTS i t beats bt => exact h

theorem applyEdit_table (ps : List PartIn) (e : Edit) (h : ∀ x ∈ ps, Table x.base) (he : EditOk e) :
    ∀ x ∈ applyEdit ps e, Table x.base := by
  intro x hx
  unfold applyEdit at hx
  obtain ⟨xi, hxi, rfl⟩ := List.mem_map.mp hx
  have hmem : xi.1 ∈ ps := List.fst_mem_of_mem_zipIdx hxi
  split
  · exact editPart_table _ _ (h _ hmem) he
  · exact h _ hmem

theorem applyEdits_table (ps : List PartIn) (es : List Edit) (h : ∀ x ∈ ps, Table x.base) (he : ∀ e ∈ es, EditOk e) :
    ∀ x ∈ es.foldl applyEdit ps, Table x.base := by
  induction es generalizing ps with
  | nil => exact h
  | cons e rest ih =>
    simp only [List.foldl_cons]
    exact ih _ (applyEdit_table ps e h (he e List.mem_cons_self)) (fun e' he' => he e' (List.mem_cons_of_mem _ he'))

theorem applyEdit_length (ps : List PartIn) (e : Edit) : (applyEdit ps e).length = ps.length := by
  simp [applyEdit]

theorem applyEdit_get (ps : List PartIn) (e : Edit) (i : Nat) (x : PartIn) (hx : ps[i]? = some x) :
    (applyEdit ps e)[i]? = some (if i = e.part then editPart x e else x) := by
  unfold applyEdit
  rw [List.getElem?_map, List.getElem?_zipIdx, hx]
  simp

theorem run_out (ps : List PartIn) (ops : List Op) (i : Nat) (op : Op) (hop : ops[i]? = some op) :
    (run ps ops).2[i]? = some (step ((editsOf (ops.take i)).foldl applyEdit ps) op).2 := by
  induction ops generalizing ps i with
  | nil => simp at hop
  | cons o rest ih =>
    cases i with
    | zero =>
      simp only [List.getElem?_cons_zero, Option.some.injEq] at hop
      subst hop
      simp [run, editsOf]
    | succ j =>
      simp only [List.getElem?_cons_succ] at hop
      simp only [run, List.getElem?_cons_succ, List.take_succ_cons]
      rw [ih _ j hop]
      cases o with
      | edit e => simp [step, editsOf]
      | save c => simp [step, editsOf]
      | view => simp [step, editsOf]

end C04Ed
