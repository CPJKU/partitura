/-
C11 — what a tiling by measures (`C11Meas.TN`, what `add_measures` produces) gives to the functions that run
after it: the measure starts are in time order (the hypothesis of `tie_notes_within_measures`), and an interval of the
timeline that no measure starts strictly inside lies within ONE measure.
-/
import PartituraModel.Proofs.C11Meas

namespace C11Compose
open Model Model.Dur Model.Meas C11Meas

theorem tn_starts_sorted (l : List Measure) (a b : Nat) (k k' : Int) (h : TN a k l b k') :
    (l.map (·.start)).Pairwise (· ≤ ·) := by
  rw [List.pairwise_map]
  exact (tn_disjoint l a b k k' h).1.imp_of_mem
    fun hx _ hxy => Nat.le_trans (Nat.le_of_lt (tn_nonempty l a b k k' h _ hx)) hxy

theorem tn_within (l : List Measure) (a b : Nat) (k k' : Int) (h : TN a k l b k') (s e : Nat) (h1 : a ≤ s) (h2 : s < e)
    (h3 : e ≤ b) (hno : ∀ m ∈ l, ¬ (s < m.start ∧ m.start < e)) : ∃ m ∈ l, m.start ≤ s ∧ e ≤ m.stop := by
  obtain ⟨x, hx, hh⟩ := C11Chain.chain_within (fun _ _ => Nat.le_of_lt) _ _ _ (tn_chain l a b k k' h) s e h1 h2 h3
    (fun x hx => by obtain ⟨m, hm, rfl⟩ := List.mem_map.mp hx; exact hno m hm)
  obtain ⟨m, hm, rfl⟩ := List.mem_map.mp hx
  exact ⟨m, hm, hh⟩

theorem tn_sep (l : List Measure) (a b : Nat) (k k' : Int) (h : TN a k l b k') :
    (l.map ext).Pairwise (fun x y => x.2 ≤ y.1 ∨ y.2 ≤ x.1) ∧ ∀ x ∈ l.map ext, x.1 < x.2 := by
  constructor
  · rw [List.pairwise_map]
    exact (tn_disjoint l a b k k' h).1.imp (fun hxy => Or.inl hxy)
  · intro x hx
    obtain ⟨m, hm, rfl⟩ := List.mem_map.mp hx
    exact tn_nonempty l a b k k' h m hm

end C11Compose
