/-
C03 — what the reader returns (`measureOut`) is a permutation of the notes of the measure,
each with its onset, duration (none for grace notes), staff, and the voice `remove_voice_polyphony` left it in.
-/
import PartituraModel.Proofs.C03Measure

namespace C03.Perm
open Model.Xml C03.Sort C03.Reader C03.Voices C03.Main

variable {α β : Type}

theorem orOne_staffWritten (nStaves st : Nat) : orOne (staffWritten nStaves st) = orOne st := by
  unfold staffWritten orOne
  by_cases h0 : st = 0
  · simp [h0]
  · by_cases h1 : st = 1
    · subst h1; by_cases h : 1 < nStaves <;> simp [h]
    · simp [h0, h1]

/-- a member of a grace sequence as it should be read in voice `v` -/
def refOut (v : Nat) (g : GraceRef) : NoteOut :=
  { idx := g.idx, onset := g.onset, dur := 0, voice := orOne v, staff := orOne g.staff }

theorem emitOne_out (nStaves v : Nat) (n : NoteIn) :
    (emitOne nStaves v n).map Placed.out =
      if n.grace then (if n.gracePrev then [] else n.seq.map (refOut v)) else [n.out v] := by
  unfold emitOne
  by_cases hg : n.grace = true
  · by_cases hp : n.gracePrev = true
    · simp [hg, hp]
    · simp [hg, hp, Placed.out, refOut, orOne_staffWritten]
  · simp [hg, Placed.out, NoteIn.out, orOne_staffWritten]

theorem emitVoice_out (nStaves v : Nat) (ns : List NoteIn) :
    (emitVoice nStaves v ns).map Placed.out =
      ns.flatMap fun n => if n.grace then (if n.gracePrev then [] else n.seq.map (refOut v)) else [n.out v] := by
  rw [emitVoice_eq, List.map_flatMap]
  exact List.flatMap_congr fun n _ => emitOne_out nStaves v n

/-- The grace notes and the other notes of the voice are looked at apart: a note that is not a grace note emits itself,
    and what the grace notes emit are their sequences, which `hg` says are the grace notes again. -/
theorem voice_perm (nStaves v : Nat) (ns : List NoteIn)
    (hg : ((ns.filter fun n => n.grace && !n.gracePrev).flatMap (·.seq)).Perm ((ns.filter (·.grace)).map NoteIn.ref)) :
    ((emitVoice nStaves v ns).map Placed.out).Perm (ns.map (NoteIn.out v)) := by
  rw [emitVoice_out]
  refine ((List.filter_append_perm (fun n : NoteIn => n.grace) ns).flatMap_right _).symm.trans ?_
  rw [List.flatMap_append]
  have h1 : ((ns.filter (·.grace)).flatMap fun n =>
      if n.grace then (if n.gracePrev then [] else n.seq.map (refOut v)) else [n.out v]).Perm
      ((ns.filter (·.grace)).map (NoteIn.out v)) := by
    have e1 : ((ns.filter (·.grace)).flatMap fun n =>
        if n.grace then (if n.gracePrev then [] else n.seq.map (refOut v)) else [n.out v]) =
        (((ns.filter fun n => n.grace && !n.gracePrev).flatMap (·.seq)).map (refOut v)) := by
      rw [List.map_flatMap]
      clear hg
      induction ns with
      | nil => rfl
      | cons n rest ih =>
        by_cases hgr : n.grace = true
        · by_cases hp : n.gracePrev = true
          · simp [List.filter_cons, hgr, hp, ih]
          · simp [List.filter_cons, hgr, hp, ih]
        · simp [List.filter_cons, hgr, ih]
    rw [e1]
    refine (hg.map _).trans ?_
    rw [List.map_map]
    apply List.Perm.of_eq
    apply List.map_congr_left
    intro n hn
    have : n.grace = true := (List.mem_filter.mp hn).2
    simp [refOut, NoteIn.ref, NoteIn.out, this]
  have h2 : ((ns.filter fun n => !n.grace).flatMap fun n =>
      if n.grace then (if n.gracePrev then [] else n.seq.map (refOut v)) else [n.out v]) =
      (ns.filter fun n => !n.grace).map (NoteIn.out v) := by
    rw [List.map_eq_flatMap]
    refine List.flatMap_congr fun n hn => ?_
    rw [if_neg (by simpa using (List.mem_filter.mp hn).2)]
  rw [h2]
  refine (h1.append_right _).trans ?_
  rw [← List.map_append]
  apply List.Perm.map
  have := List.filter_append_perm (fun n : NoteIn => n.grace) ns
  simpa using this

theorem graceOK_perm {ns ns' : List NoteIn} (h : ns'.Perm ns)
    (hg : ((ns.filter fun n => n.grace && !n.gracePrev).flatMap (·.seq)).Perm ((ns.filter (·.grace)).map NoteIn.ref)) :
    ((ns'.filter fun n => n.grace && !n.gracePrev).flatMap (·.seq)).Perm ((ns'.filter (·.grace)).map NoteIn.ref) :=
  (((h.filter _).flatMap_right _).trans hg).trans ((h.filter _).map _).symm

/-- what the notes of a segment should read back as, voice by voice as `remove_voice_polyphony` leaves them -/
def segExpected (s : Segment) : List NoteOut :=
  (assignVoices s.notes).flatMap fun vn => vn.2.map (NoteIn.out vn.1)

theorem segOut_perm (mstart nStaves : Nat) (s : Segment) (hwf : SegWF mstart s) :
    (segOut nStaves s).Perm (segExpected s) := by
  unfold segOut segPlaced segExpected
  rw [List.flatMap_map, List.map_flatMap]
  have hper : ∀ vn ∈ segVoices s,
      ((tagChords none (emitVoice nStaves vn.1 (sortVoice vn.2))).map Placed.out).Perm (vn.2.map (NoteIn.out vn.1)) := by
    intro vn hvn
    rw [tagChords_map _ fun _ _ => rfl]
    refine (voice_perm nStaves vn.1 (sortVoice vn.2)
      (graceOK_perm (sortVoice_perm vn.2) (voiceWF_of_mem hwf hvn).2)).trans ?_
    exact (sortVoice_perm vn.2).map _
  refine (List.Perm.flatMap_left _ hper).trans ?_
  unfold segVoices
  simp only
  split
  · rename_i hempty
    have : assignVoices s.notes = [] := isortBy_eq_nil (List.isEmpty_iff.mp hempty)
    simp [this]
  · exact ((isSort voiceLt).perm _).flatMap_right _

/-- what the notes of a measure should read back as -/
def measureExpected (m : MeasureContent) : List NoteOut := m.segs.flatMap segExpected

theorem measureOut_perm (m : MeasureContent) (hwf : MeasureWF m) : (measureOut m).Perm (measureExpected m) :=
  List.Perm.flatMap_left _ fun a ha => segOut_perm m.start m.nStaves a (hwf.2.2 a ha)

end C03.Perm
