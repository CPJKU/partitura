/-
Inverse direction: what `fromArray` returns and what the table of the
created part holds; with beat columns only, the divisions chosen by `divsFromBeats` put every
(denominator-limited) onset and duration exactly on the grid.
-/
import PartituraModel.Proofs.C05Rows
import PartituraModel.Proofs.C05Merge
import Mathlib.Tactic.Ring

namespace NoteArray

open List

theorem finish_ok (d : Nat) (l : List (Int × Int × Int)) (d' : Nat) (l' : List (Int × Int × Int))
    (h : finish d l = .ok (d', l')) :
    d' = d ∧ l' = l ∧ ∀ x ∈ l, 0 ≤ x.1 ∧ 0 ≤ x.2.1 := by
  unfold finish at h
  split at h
  · cases h
  · split at h
    · cases h
    · rename_i h1 h2
      cases h
      refine ⟨rfl, rfl, ?_⟩
      intro x hx
      simp only [any_eq_true, decide_eq_true_eq, not_exists, not_and, not_lt] at h1 h2
      exact ⟨h2 x hx, h1 x hx⟩

theorem sortArr_perm (hasDiv : Bool) (a : List ARow) : sortArr hasDiv a ~ a := (isSort _).perm a

theorem mem_sortArr {hd : Bool} {a : List ARow} {r : ARow} : r ∈ sortArr hd a ↔ r ∈ a := (sortArr_perm hd a).mem_iff

theorem fromArray_div_ok (hb ht : Bool) (a : List ARow) (dv : Option Nat) (d : Nat)
    (l : List (Int × Int × Int)) (h : fromArray hb true ht a dv = .ok (d, l)) :
    l = (sortArr true a).map divTriple ∧ (∀ x ∈ l, 0 ≤ x.1 ∧ 0 ≤ x.2.1) ∧ ∀ dv', dv = some dv' → d = dv' := by
  -- every accepting branch ends in `finish` on the triples, with the argument as divisions if there is one
  have key : ∀ d0, (∀ dv', dv = some dv' → d0 = dv') → finish d0 ((sortArr true a).map divTriple) = .ok (d, l) →
      l = (sortArr true a).map divTriple ∧ (∀ x ∈ l, 0 ≤ x.1 ∧ 0 ≤ x.2.1) ∧ ∀ dv', dv = some dv' → d = dv' := by
    intro d0 hd0 hf
    obtain ⟨hd, hl, hnn⟩ := finish_ok _ _ _ _ hf
    exact ⟨hl, hl ▸ hnn, hd ▸ hd0⟩
  by_cases he : a.isEmpty = true
  · rw [fromArray, if_pos he] at h; cases h
  rw [fromArray, if_neg he] at h
  -- division columns only: the `divs` argument is required, and not 0; with beat columns too it is used when given,
  -- else the divisions are estimated
  cases hb <;> cases dv <;>
    simp only [Bool.or_true, Bool.not_true, Bool.not_false, Bool.false_eq_true, if_false, if_true] at h
  · cases h
  · split at h
    · cases h
    · exact key _ (fun _ e => (Option.some.inj e).symm ▸ rfl) h
  · split at h
    · cases h
    · exact key _ (fun _ e => by cases e) h
  · exact key _ (fun _ e => (Option.some.inj e).symm ▸ rfl) h

theorem mkNotes_forall₂ (spell : Int → String × Int × Int) :
    ∀ (l : List (Int × Int × Int)) (i : Nat),
      Forall₂ (fun x n => ∃ j, n = mkNote spell j x) l (mkNotes spell i l) := by
  intro l
  induction l with
  | nil => intro i; exact Forall₂.nil
  | cons x l ih => intro i; exact Forall₂.cons ⟨i, rfl⟩ (ih (i + 1))

theorem mkNotes_all (spell : Int → String × Int × Int) (l : List (Int × Int × Int)) (i : Nat) :
    ∀ n ∈ mkNotes spell i l, ∃ j x, n = mkNote spell j x := fun n hn =>
  let ⟨x, _, j, h⟩ := Lists.forall₂_mem_right (mkNotes_forall₂ spell l i) n hn
  ⟨j, x, h⟩

theorem notesTied_mkNotes (spell : Int → String × Int × Int) (l : List (Int × Int × Int)) (i : Nat) :
    notesTied (mkNotes spell i l) = mkNotes spell i l := by
  unfold notesTied
  rw [filter_eq_self]
  intro n hn
  obtain ⟨j, x, rfl⟩ := mkNotes_all spell l i n hn
  unfold Note.pitched mkNote
  by_cases hx : x.2.1 > 0 <;> simp [hx]

theorem durationTied_untied (notes : List Note) (n : Note) (h : n.tieNext = none) (hl : notes ≠ []) :
    durationTied notes n = some n.dur := by
  unfold durationTied
  cases notes with
  | nil => exact absurd rfl hl
  | cons a l => simp [chainFrom, h, durSum]

def rowTriple (r : Row) : Int × Int × Int := (r.onsetDiv, r.durDiv, r.pitch)

def rowCols (r : Row) : (Int × Int × Int) × (Int × Int × Int) × (Int × Int) :=
  (rowTriple r, (r.tsBeats, r.tsBeatType, r.tsMusBeats), (r.ksFifths, r.ksMode))

theorem rows_createPart_cols (d : Nat) (l : List (Int × Int × Int)) (M : Maps)
    (spell : Int → String × Int × Int) (o : Opts) (out : List Row)
    (hspell : ∀ x ∈ l, Model.spellingToMidi (spell x.2.2).1 (some (spell x.2.2).2.1) (spell x.2.2).2.2 = some x.2.2)
    (h : rows (createPart d l M spell) o = some out) :
    out.map rowCols ~ l.map fun x => (x, M.ts x.1, M.ks x.1) := by
  obtain ⟨dv, rs, _, hout, hf⟩ := rows_structure _ _ _ h
  have hnotes : (createPart d l M spell).notes = mkNotes spell 0 l := rfl
  rw [hnotes, notesTied_mkNotes] at hf
  -- triple by triple: the final row of the created note `mkNote spell j x` has the columns `(x, M.ts x.1, M.ks x.1)`;
  -- the sort then only permutes them
  have hC : Forall₂ (fun x r => rowCols r = (x, M.ts x.1, M.ks x.1)) l rs := by
    apply Lists.forall₂_compose (mkNotes_forall₂ spell l 0) hf
    intro x n r hx hn ⟨j, hj⟩ ⟨d', pch, m, hd, hp, _, hr⟩
    have hne : mkNotes spell 0 l ≠ [] := by
      intro he; rw [he] at hn; simp at hn
    have hd2 := durationTied_untied (mkNotes spell 0 l) n (by rw [hj]; rfl) hne
    rw [hd] at hd2
    have hdd : d' = n.dur := by simpa using hd2
    have hsp := hspell x hx
    subst hj
    have hpp : pch = x.2.2 := by
      have : Model.spellingToMidi (mkNote spell j x).step (mkNote spell j x).alter (mkNote spell j x).octave
          = some x.2.2 := hsp
      rw [hp] at this
      simpa using this
    subst hr
    have hM : (createPart d l M spell).maps = M := rfl
    rw [hM]
    unfold rowCols rowTriple finalRow mkRow
    simp only [hdd, hpp]
    have h1 : (mkNote spell j x).onset = x.1 := rfl
    have h2 : (mkNote spell j x).dur = x.2.1 := rfl
    rw [h1, h2]
    obtain ⟨a, b, c⟩ := x
    simp
  have hm : rs.map rowCols = l.map fun x => (x, M.ts x.1, M.ks x.1) :=
    (Lists.forall₂_map_eq (fun x => (x, M.ts x.1, M.ks x.1)) rowCols (fun _ _ hab => hab.symm) hC).symm
  rw [hout, ← hm]
  exact (sortRows_perm rs).map rowCols

theorem rows_createPart (d : Nat) (l : List (Int × Int × Int)) (M : Maps)
    (spell : Int → String × Int × Int) (o : Opts) (out : List Row)
    (hspell : ∀ x ∈ l, Model.spellingToMidi (spell x.2.2).1 (some (spell x.2.2).2.1) (spell x.2.2).2.2 = some x.2.2)
    (h : rows (createPart d l M spell) o = some out) :
    out.map rowTriple ~ l := by
  have hP := (rows_createPart_cols d l M spell o out hspell h).map Prod.fst
  rwa [map_map, map_map, show (Prod.fst ∘ fun x : Int × Int × Int => (x, M.ts x.1, M.ks x.1)) = id from rfl,
    map_id] at hP

open Model

theorem truncRat_intCast (z : Int) : truncRat (z : Rat) = z := by
  unfold truncRat
  split
  · have : (-(z : Rat)) = ((-z : Int) : Rat) := by push_cast; rfl
    rw [this, Rat.floor_intCast]; omega
  · exact Rat.floor_intCast z

theorem mul_den_int (k : Nat) (r : Rat) (h : r.den ∣ k) :
    ((k : Rat) * r) = (((((k / r.den : Nat) : Int) * r.num : Int)) : Rat) := by
  obtain ⟨c, rfl⟩ := h
  rw [Nat.mul_div_cancel_left c r.den_pos]
  have hr : r * (r.den : Rat) = (r.num : Rat) := Rat.mul_den_eq_num r
  push_cast
  calc (r.den : Rat) * (c : Rat) * r = (c : Rat) * (r * (r.den : Rat)) := by ring
    _ = (c : Rat) * (r.num : Rat) := by rw [hr]

theorem truncRat_mul_den (k : Nat) (r : Rat) (h : r.den ∣ k) :
    ((truncRat ((k : Rat) * r) : Int) : Rat) = (k : Rat) * r := by
  rw [mul_den_int k r h, truncRat_intCast]

theorem beatShift_nonneg (rows : List (Rat × Rat)) : 0 ≤ beatShift rows := by
  unfold beatShift
  split
  · split <;> omega
  · omega

theorem den_dvd_beatDivs {rows : List (Rat × Rat)} {x : Rat × Rat} (hx : x ∈ rows) :
    (limitDen x.1 256).den ∣ beatDivs rows ∧ (limitDen x.2 256).den ∣ beatDivs rows := by
  have hmem : (limitDen x.1 256, limitDen x.2 256) ∈ limited rows :=
    mem_map_of_mem (f := fun x => (limitDen x.1 256, limitDen x.2 256)) hx
  exact ⟨Model.dvd_natLcm (mem_append_right _ (mem_map_of_mem (f := fun f : Rat × Rat => f.1.den) hmem)),
    Model.dvd_natLcm (mem_append_left _ (mem_map_of_mem (f := fun f : Rat × Rat => f.2.den) hmem))⟩

theorem divsFromBeats_exact (rows : List (Rat × Rat)) :
    Forall₂ (fun (x : Rat × Rat) (y : Int × Int) =>
        (y.1 : Rat) = ((divsFromBeats rows).1 : Rat) * limitDen x.1 256 + (beatShift rows : Rat) ∧
        (y.2 : Rat) = ((divsFromBeats rows).1 : Rat) * limitDen x.2 256) rows (divsFromBeats rows).2 := by
  unfold divsFromBeats
  simp only
  unfold limited
  rw [map_map, forall₂_map_right_iff, forall₂_same]
  intro x hx
  obtain ⟨h1, h2⟩ := den_dvd_beatDivs hx
  simp only [Function.comp]
  constructor
  · push_cast
    rw [truncRat_mul_den _ _ h1]
  · exact truncRat_mul_den _ _ h2

/-- the (onset_beat, duration_beat) pairs of the sorted array: the argument of `create_divs_from_beats` -/
def beatRows (a : List ARow) : List (Rat × Rat) := (sortArr false a).map fun r => (r.onsetBeat, r.durBeat)

theorem fromArray_beat_shift (ht : Bool) (a : List ARow) (d : Nat) (l : List (Int × Int × Int))
    (h : fromArray true false ht a none = .ok (d, l)) :
    d = beatDivs (beatRows a) ∧
    Forall₂ (fun (r : ARow) (x : Int × Int × Int) =>
        (x.1 : Rat) = (d : Rat) * limitDen r.onsetBeat 256 + (beatShift (beatRows a) : Rat) ∧
        (x.2.1 : Rat) = (d : Rat) * limitDen r.durBeat 256 ∧ x.2.2 = r.pitch) (sortArr false a) l := by
  have hfin : finish (divsFromBeats (beatRows a)).1
      (zipWith (fun (od : Int × Int) (r : ARow) => (od.1, od.2, r.pitch)) (divsFromBeats (beatRows a)).2
        (sortArr false a)) = .ok (d, l) := by
    by_cases he : a.isEmpty = true
    · rw [fromArray, if_pos he] at h; cases h
    · rw [fromArray, if_neg he] at h; exact h
  obtain ⟨rfl, rfl, _⟩ := finish_ok _ _ _ _ hfin
  refine ⟨rfl, ?_⟩
  have hf := divsFromBeats_exact (beatRows a)
  unfold beatRows at hf ⊢
  rw [forall₂_map_left_iff] at hf
  -- with the shift, the two results of `divsFromBeats` and the sorted array as variables, `zipWith` reduces along `hf`
  generalize beatShift (map (fun r => (r.onsetBeat, r.durBeat)) (sortArr false a)) = sh at hf ⊢
  generalize (divsFromBeats (map (fun r => (r.onsetBeat, r.durBeat)) (sortArr false a))).2 = od at hf ⊢
  generalize (divsFromBeats (map (fun r => (r.onsetBeat, r.durBeat)) (sortArr false a))).1 = dd at hf ⊢
  generalize sortArr false a = a' at hf ⊢
  induction hf with
  | nil => exact Forall₂.nil
  | cons hab _ ih => exact Forall₂.cons ⟨hab.1, hab.2, rfl⟩ ih

end NoteArray
