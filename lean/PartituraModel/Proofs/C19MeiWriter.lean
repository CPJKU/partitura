/-
Facts about the MEI writer alone: `mapMOpt` is `List.mapM`, the checks behind `Exportable` (`noteOkM`, `leafOk`, `leavesOk`,
`itemsOk`, `measureOk`) taken apart, and that every note of a measure is written in one of its layers.
-/
import PartituraModel.Model.MeiWrite
import PartituraModel.Proofs.Lists

namespace C19M
open Model Model.Mei Model.MeiWrite

theorem mapMOpt_eq_mapM {α β : Type} (f : α → Option β) (l : List α) : mapMOpt f l = l.mapM f :=
  Lists.eq_mapM (mapMOpt f) rfl (fun _ _ => rfl) l

theorem mapMOpt_map {α β : Type} (f : α → Option β) (l : List α) (r : List β) (h : mapMOpt f l = some r) :
    l.map f = r.map some :=
  Lists.mapM_eq_some_iff.mp (mapMOpt_eq_mapM f l ▸ h)

theorem mapMOpt_some {α β : Type} (f : α → Option β) (l : List α) (r : List β) (h : mapMOpt f l = some r) :
    r.length = l.length ∧ ∀ i (hi : i < l.length) (hi' : i < r.length), f l[i] = some r[i] := by
  have h' := mapMOpt_map f l r h
  refine ⟨by simpa using (congrArg List.length h').symm, fun i hi hi' => ?_⟩
  have := congrArg (·[i]?) h'
  simpa [hi, hi'] using this

theorem mapMOpt_comp_map {α β γ : Type} (f : α → Option β) (g : β → γ) (l : List α) :
    mapMOpt (fun a => (f a).map g) l = (mapMOpt f l).map (List.map g) := by
  induction l with
  | nil => rfl
  | cons a rest ih =>
    rw [mapMOpt, mapMOpt, ih]
    cases f a <;> cases mapMOpt f rest <;> rfl

theorem mapMOpt_getLast {α β : Type} (f : α → Option β) (l : List α) (r : List β) (h : mapMOpt f l = some r)
    (last : α) (hl : l.getLast? = some last) : ∃ x, r.getLast? = some x ∧ f last = some x := by
  have h := congrArg List.getLast? (mapMOpt_map f l r h)
  simp only [List.getLast?_map, hl, Option.map_some] at h
  cases hr : r.getLast? with
  | none => simp [hr] at h
  | some x => exact ⟨x, rfl, by simpa [hr] using h⟩

theorem noteOkM_unpack (divs : Nat) (tup : Option (Nat × Nat)) (m : MNote) (h : noteOkM divs tup m = true) :
    m.n.kind ≤ 2 ∧ ∃ sd d v q0, m.n.sym = some sd ∧ meiDurOf sd.type = some d ∧ Mei.durNumber d = some v ∧
      q0 = Mei.meiValue v sd.dots tup ∧ (m.n.kind ≠ 1 → q0 = (m.n.dur : Rat) / (divs : Rat)) ∧
      (m.n.kind ≠ 2 → (∃ ul, lookup m.n.step KernWrite.stepLetters = some ul) ∧ 0 ≤ m.n.octave ∧
        ∀ a, m.n.alter = some a → ∃ acc, lookup a alterToMei = some acc) := by
  simp only [noteOkM, Bool.and_eq_true, Bool.or_eq_true, decide_eq_true_eq] at h
  obtain ⟨⟨hk, hs⟩, hp⟩ := h
  refine ⟨hk, ?_⟩
  cases hsym : m.n.sym with
  | none => simp [hsym] at hs
  | some sd =>
    simp only [hsym, Bool.and_eq_true, Bool.or_eq_true, decide_eq_true_eq] at hs
    obtain ⟨hq, hv⟩ := hs
    obtain ⟨q0, hq0⟩ := Option.isSome_iff_exists.mp hq
    obtain ⟨d, hd, hq0'⟩ := Option.bind_eq_some_iff.mp hq0
    obtain ⟨v, hdv, rfl⟩ := Option.map_eq_some_iff.mp hq0'
    refine ⟨sd, d, v, _, rfl, hd, hdv, rfl, ?_, ?_⟩
    · intro hk1
      rcases hv with hv | hv
      · exact absurd hv hk1
      · rw [hq0] at hv; simpa using hv
    · intro hk2
      rcases hp with hp | hp
      · exact absurd hp hk2
      · obtain ⟨⟨h1, h2⟩, h3⟩ := hp
        refine ⟨Option.isSome_iff_exists.mp h1, h2, ?_⟩
        intro a ha
        rw [ha] at h3
        exact Option.isSome_iff_exists.mp h3

def leafNotes : Leaf → List MNote
  | .single m => [m]
  | .chord ms => ms

def itemNotes : Item → List MNote
  | .leaf l => leafNotes l
  | .tuplet _ _ inner => inner.flatMap leafNotes

theorem leafOk_single {divs : Nat} {tup : Option (Nat × Nat)} {cur cur' : Nat} {m : MNote}
    (h : leafOk divs tup cur (.single m) = some cur') :
    noteOkM divs tup m = true ∧ m.start = cur ∧ cur' = if m.n.kind = 1 then cur else cur + m.n.dur := by
  rw [leafOk] at h
  split at h
  · rename_i hc
    rw [Bool.and_eq_true, decide_eq_true_eq] at hc
    exact ⟨hc.1, hc.2, (Option.some.inj h).symm⟩
  · cases h

theorem leafOk_chord {divs : Nat} {tup : Option (Nat × Nat)} {cur cur' : Nat} {ms : List MNote}
    (h : leafOk divs tup cur (.chord ms) = some cur') :
    ∃ last, ms.getLast? = some last ∧ cur' = cur + last.n.dur ∧
      ∀ m ∈ ms, noteOkM divs tup m = true ∧ m.start = cur ∧ m.n.kind = 0 ∧ m.n.dur = last.n.dur := by
  rw [leafOk] at h
  cases hlast : ms.getLast? with
  | none => rw [hlast] at h; cases h
  | some last =>
    rw [hlast] at h
    dsimp only at h
    split at h
    · rename_i hall
      refine ⟨last, rfl, (Option.some.inj h).symm, fun m hm => ?_⟩
      have := List.all_eq_true.mp hall m hm
      simp only [Bool.and_eq_true, decide_eq_true_eq] at this
      exact ⟨this.1.1.1, this.1.1.2, this.1.2, this.2⟩
    · cases h

theorem leavesOk_cons (divs : Nat) (tup : Option (Nat × Nat)) (cur : Nat) (l : Leaf) (rest : List Leaf) :
    leavesOk divs tup cur (l :: rest) = (leafOk divs tup cur l).bind fun c => leavesOk divs tup c rest := by
  rw [leavesOk]
  cases leafOk divs tup cur l <;> rfl

theorem itemsOk_cons_leaf (divs cur : Nat) (l : Leaf) (rest : List Item) :
    itemsOk divs cur (.leaf l :: rest) = (leafOk divs none cur l).bind fun c => itemsOk divs c rest := by
  rw [itemsOk]
  cases leafOk divs none cur l <;> rfl

theorem itemsOk_cons_tuplet (divs cur num numbase : Nat) (inner : List Leaf) (rest : List Item) :
    itemsOk divs cur (.tuplet num numbase inner :: rest) =
      if num = 0 then none else (leavesOk divs (some (num, numbase)) cur inner).bind fun c => itemsOk divs c rest := by
  rw [itemsOk]
  cases leavesOk divs (some (num, numbase)) cur inner <;> rfl

theorem leafOk_ge (divs : Nat) (tup : Option (Nat × Nat)) (c : Nat) (l : Leaf) (c' : Nat)
    (h : leafOk divs tup c l = some c') : c ≤ c' := by
  cases l with
  | single m =>
    obtain ⟨_, _, rfl⟩ := leafOk_single h
    split <;> omega
  | chord ms =>
    obtain ⟨_, _, rfl, _⟩ := leafOk_chord h
    omega

theorem leavesOk_ge (divs : Nat) (tup : Option (Nat × Nat)) (ls : List Leaf) (c c' : Nat)
    (h : leavesOk divs tup c ls = some c') : c ≤ c' := by
  induction ls generalizing c with
  | nil => exact Nat.le_of_eq (Option.some.inj h)
  | cons l rest ih =>
    rw [leavesOk_cons] at h
    obtain ⟨c1, h1, h⟩ := Option.bind_eq_some_iff.mp h
    exact Nat.le_trans (leafOk_ge divs tup c l c1 h1) (ih c1 h)

theorem itemsOk_ge (divs : Nat) (items : List Item) (cur e : Nat) (h : itemsOk divs cur items = some e) : cur ≤ e := by
  induction items generalizing cur with
  | nil => exact Nat.le_of_eq (Option.some.inj h)
  | cons it rest ih =>
    cases it with
    | leaf l =>
      rw [itemsOk_cons_leaf] at h
      obtain ⟨c1, h1, h⟩ := Option.bind_eq_some_iff.mp h
      exact Nat.le_trans (leafOk_ge divs none cur l c1 h1) (ih c1 h)
    | tuplet num numbase inner =>
      rw [itemsOk_cons_tuplet] at h
      split at h
      · cases h
      · obtain ⟨c1, h1, h⟩ := Option.bind_eq_some_iff.mp h
        exact Nat.le_trans (leavesOk_ge divs _ inner cur c1 h1) (ih c1 h)

def stavesOf (nstaves : Nat) : List Nat := (List.range nstaves).map (· + 1)

theorem mem_stavesOf (nstaves s : Nat) : s ∈ stavesOf nstaves ↔ 1 ≤ s ∧ s ≤ nstaves := by
  simp only [stavesOf, List.mem_map, List.mem_range]
  constructor
  · rintro ⟨a, ha, rfl⟩; omega
  · rintro ⟨h1, h2⟩; exact ⟨s - 1, by omega, by omega⟩

theorem insertNat_sorted : Lists.IsSortedInsert (· < ·) insertNat :=
  ⟨fun _ => rfl, fun a b l => by
    rw [insertNat]
    by_cases h : a = b
    · subst h; simp
    · simp [h]⟩

theorem mem_insertNat (a x : Nat) (l : List Nat) : x ∈ insertNat a l ↔ x = a ∨ x ∈ l := insertNat_sorted.mem_ins

theorem mem_sortedUnique (l : List Nat) (x : Nat) : x ∈ sortedUnique l ↔ x ∈ l := by
  simpa [sortedUnique] using Lists.mem_foldl_ins mem_insertNat id l [] x

theorem majorityStaff_mem (notes : List MNote) (x : MNote) (hx : x ∈ notes) :
    ∃ y ∈ notes, y.n.voice = x.n.voice ∧ y.n.staff = majorityStaff notes x.n.voice := by
  have hne : x.n.staff ∈ ((notes.filter fun m => m.n.voice = x.n.voice).map (·.n.staff)) :=
    List.mem_map.mpr ⟨x, List.mem_filter.mpr ⟨hx, by simp⟩, rfl⟩
  -- the choice starts at one of the staves of the voice and only ever moves to another of them
  have hmem : majorityStaff notes x.n.voice ∈ (notes.filter fun m => m.n.voice = x.n.voice).map (·.n.staff) := by
    refine Lists.foldl_keeps_all _ (P := (· ∈ _)) (C := (· ∈ _)) (fun best s hb hs => ?_) _ _ ?_
      fun s hs => (mem_sortedUnique _ s).mp hs
    · split
      · exact hs
      · exact hb
    · cases hc : sortedUnique ((notes.filter fun m => m.n.voice = x.n.voice).map (·.n.staff)) with
      | nil => exact absurd ((mem_sortedUnique _ _).mpr hne) (by rw [hc]; exact List.not_mem_nil)
      | cons c0 rest => exact (mem_sortedUnique _ _).mp (by rw [hc]; exact List.mem_cons_self)
  obtain ⟨y, hy, hys⟩ := List.mem_map.mp hmem
  have := List.mem_filter.mp hy
  exact ⟨y, this.1, by simpa using this.2, hys⟩

theorem onsetLeaves_notes (group : List MNote) :
    (onsetLeaves group).flatMap leafNotes = (group.filter fun m => m.n.kind = 1) ++ group.filter fun m => m.n.kind ≠ 1 := by
  rw [onsetLeaves, List.flatMap_append, List.flatMap_map]
  congr 1
  · exact List.flatMap_singleton' _
  · generalize (group.filter fun m => m.n.kind ≠ 1) = plain
    rcases plain with _ | ⟨a, _ | ⟨b, rest⟩⟩ <;> simp [leafNotes]

theorem mem_onsetLeaves (group : List MNote) (x : MNote) (hx : x ∈ group) :
    x ∈ (onsetLeaves group).flatMap leafNotes := by
  rw [onsetLeaves_notes, List.mem_append, List.mem_filter, List.mem_filter]
  by_cases hk : x.n.kind = 1
  · exact Or.inl ⟨hx, by simp [hk]⟩
  · exact Or.inr ⟨hx, by simp [hk]⟩
theorem mem_layerItems (notes : List MNote) (x : MNote) (hx : x ∈ notes) :
    x ∈ (layerItems notes x.n.voice).flatMap itemNotes := by
  simp only [layerItems, List.flatMap_map]
  have hvn : x ∈ notes.filter fun m => m.n.voice = x.n.voice := List.mem_filter.mpr ⟨hx, by simp⟩
  have ht : x.start ∈ sortedUnique ((notes.filter fun m => m.n.voice = x.n.voice).map (·.start)) :=
    (mem_sortedUnique _ _).mpr (List.mem_map.mpr ⟨x, hvn, rfl⟩)
  have hg := mem_onsetLeaves ((notes.filter fun m => m.n.voice = x.n.voice).filter fun m => m.start = x.start) x
    (List.mem_filter.mpr ⟨hvn, by simp⟩)
  simp only [List.mem_flatMap] at hg ⊢
  obtain ⟨l, hl, hxl⟩ := hg
  exact ⟨l, ⟨x.start, ht, hl⟩, by simpa [itemNotes] using hxl⟩

theorem measureLayers_cover (nstaves : Nat) (m : MMeasure) (hst : ∀ x ∈ m.notes, 1 ≤ x.n.staff ∧ x.n.staff ≤ nstaves)
    (x : MNote) (hx : x ∈ m.notes) :
    ∃ l ∈ measureLayers nstaves m, x ∈ l.2.2.flatMap itemNotes := by
  obtain ⟨y, hy, hyv, hys⟩ := majorityStaff_mem m.notes x hx
  refine ⟨(majorityStaff m.notes x.n.voice, x.n.voice, layerItems m.notes x.n.voice), ?_, mem_layerItems m.notes x hx⟩
  simp only [measureLayers, List.mem_map]
  refine ⟨(majorityStaff m.notes x.n.voice, x.n.voice), ?_, by simp⟩
  simp only [List.mem_flatMap]
  refine ⟨majorityStaff m.notes x.n.voice, ?_, ?_⟩
  · exact hys ▸ (mem_stavesOf nstaves _).mpr (hst y hy)
  · have hin : (sortedUnique (m.notes.map (·.n.staff))).contains (majorityStaff m.notes x.n.voice) = true := by
      rw [List.contains_eq_mem]
      simp only [decide_eq_true_eq]
      rw [mem_sortedUnique, ← hys]
      exact List.mem_map.mpr ⟨y, hy, rfl⟩
    simp only [hin, if_true, List.mem_map]
    refine ⟨x.n.voice, ?_, rfl⟩
    rw [mem_sortedUnique]
    exact List.mem_map.mpr ⟨y, List.mem_filter.mpr ⟨hy, by simp [hys]⟩, hyv⟩

theorem measureLayers_staff (nstaves : Nat) (m : MMeasure) :
    ∀ l ∈ measureLayers nstaves m, 1 ≤ l.1 ∧ l.1 ≤ nstaves := by
  intro l hl
  simp only [measureLayers, List.mem_map, List.mem_flatMap] at hl
  obtain ⟨sv, ⟨s, hs, hsv⟩, rfl⟩ := hl
  have hs := (mem_stavesOf nstaves s).mp (List.mem_map.mpr hs)
  split at hsv
  · simp only [List.mem_map] at hsv
    obtain ⟨v, _, rfl⟩ := hsv
    split <;> exact hs
  · cases hsv

theorem leavesOf_notes (items : List Item) (inner : List Leaf) (h : leavesOf items = some inner) :
    items.flatMap itemNotes = inner.flatMap leafNotes := by
  induction items generalizing inner with
  | nil => simp [leavesOf] at h; subst h; rfl
  | cons it rest ih =>
    cases it with
    | leaf l =>
      simp only [leavesOf, Option.map_eq_some_iff] at h
      obtain ⟨r, hr, rfl⟩ := h
      simp [itemNotes, ih r hr]
    | tuplet _ _ _ => simp [leavesOf] at h

theorem wrapItems_notes (items : List Item) (i j num nb : Nat) (hij : i ≤ j) (w : List Item)
    (h : wrapItems items i j num nb = some w) : w.flatMap itemNotes = items.flatMap itemNotes := by
  simp only [wrapItems, Option.map_eq_some_iff] at h
  obtain ⟨inner, hin, rfl⟩ := h
  have hsl := leavesOf_notes _ inner hin
  have hsplit : items = items.take i ++ ((items.drop i).take (j + 1 - i) ++ items.drop (j + 1)) := by
    have h1 : items.drop (j + 1) = (items.drop i).drop (j + 1 - i) := by
      rw [List.drop_drop]; congr 1; omega
    rw [h1, List.take_append_drop, List.take_append_drop]
  conv => rhs; rw [hsplit]
  simp only [List.flatMap_append, List.flatMap_cons, List.flatMap_nil, List.append_nil, itemNotes, hsl, List.append_assoc]

/-- what wrapping tuplets must keep of a layer: its staff and its notes -/
def layerKey (l : Nat × Nat × List Item) : Nat × List MNote := (l.1, l.2.2.flatMap itemNotes)

theorem applyTuplet_keep (start end_ : Nat) (layers layers' : List (Nat × Nat × List Item)) (t : MTuplet)
    (h : applyTuplet start end_ layers t = some layers') : layers'.map layerKey = layers.map layerKey := by
  rw [applyTuplet] at h
  by_cases h1 : (t.startT < start || t.endEndT > end_) = true
  · rw [if_pos h1] at h; cases h; rfl
  rw [if_neg h1] at h
  by_cases h2 : t.startT > t.endStartT
  · rw [if_pos h2] at h; cases h; rfl
  rw [if_neg h2] at h
  by_cases h3 : (!t.sameVoiceStaff) = true
  · rw [if_pos h3] at h; cases h; rfl
  rw [if_neg h3] at h
  -- the tuplet is wrapped: in the layer of its start note, the items from the start note to the end note
  cases hr : t.ratio with
  | none => simp [hr] at h
  | some nn =>
    obtain ⟨num, numbase⟩ := nn
    cases hfind : layers.find? fun l => (findItem t.startId l.2.2 0).isSome with
    | none => simp [hr, hfind] at h
    | some l0 =>
      cases hi : findItem t.startId l0.2.2 0 with
      | none => simp [hr, hfind, hi] at h
      | some i =>
        cases hj : findItem t.endId l0.2.2 0 with
        | none => simp [hr, hfind, hi, hj] at h
        | some j =>
          simp only [hr, hfind, hi, hj] at h
          by_cases hij : i ≤ j
          · rw [if_pos hij, Option.map_eq_some_iff] at h
            obtain ⟨w, hw, rfl⟩ := h
            rw [List.map_map]
            refine List.map_congr_left fun l _ => ?_
            by_cases he : l = l0
            · simp [layerKey, he, wrapItems_notes l0.2.2 i j num numbase hij w hw]
            · simp [he]
          · simp [hij] at h

theorem applyTuplets_keep (start end_ : Nat) (layers layers' : List (Nat × Nat × List Item)) (ts : List MTuplet)
    (h : applyTuplets start end_ layers ts = some layers') : layers'.map layerKey = layers.map layerKey := by
  induction ts generalizing layers with
  | nil => simp [applyTuplets] at h; rw [h]
  | cons t rest ih =>
    simp only [applyTuplets] at h
    cases h1 : applyTuplet start end_ layers t with
    | none => simp [h1] at h
    | some l1 =>
      simp only [h1] at h
      exact (ih l1 h).trans (applyTuplet_keep start end_ layers l1 t h1)

theorem finalLayers_cover (nstaves : Nat) (m : MMeasure) (layers : List (Nat × Nat × List Item))
    (h : finalLayers nstaves m = some layers) (hst : ∀ x ∈ m.notes, 1 ≤ x.n.staff ∧ x.n.staff ≤ nstaves) :
    (∀ l ∈ layers, 1 ≤ l.1 ∧ l.1 ≤ nstaves) ∧ ∀ x ∈ m.notes, ∃ l ∈ layers, x ∈ l.2.2.flatMap itemNotes := by
  simp only [finalLayers] at h
  split at h
  · simp at h
  · have hk := applyTuplets_keep m.start m.end_ _ layers m.tuplets h
    constructor
    · intro l hl
      obtain ⟨l0, hl0, e⟩ := List.mem_map.mp (hk ▸ List.mem_map_of_mem (f := layerKey) hl)
      have e1 : l0.1 = l.1 := congrArg (·.1) e
      exact e1 ▸ measureLayers_staff nstaves m l0 hl0
    · intro x hx
      obtain ⟨l0, hl0, hx0⟩ := measureLayers_cover nstaves m hst x hx
      obtain ⟨l, hl, e⟩ := List.mem_map.mp (hk ▸ List.mem_map_of_mem (f := layerKey) hl0)
      have e2 : l.2.2.flatMap itemNotes = l0.2.2.flatMap itemNotes := congrArg (·.2) e
      exact ⟨l, hl, e2 ▸ hx0⟩

theorem measureOk_unpack (divs nstaves : Nat) (m : MMeasure) (h : measureOk divs nstaves m = true) :
    ∃ layers ends, finalLayers nstaves m = some layers ∧ mapMOpt (fun l => itemsOk divs m.start l.2.2) layers = some ends ∧
      (∀ e ∈ ends, e ≤ m.end_) ∧ m.end_ ∈ ends ∧ (∀ l ∈ layers, 1 ≤ l.1 ∧ l.1 ≤ nstaves) ∧
      ∀ x ∈ m.notes, ∃ l ∈ layers, x ∈ l.2.2.flatMap itemNotes := by
  simp only [measureOk] at h
  cases hfin : finalLayers nstaves m with
  | none => simp [hfin] at h
  | some layers =>
    simp only [hfin] at h
    cases hends : mapMOpt (fun l => itemsOk divs m.start l.2.2) layers with
    | none => simp [hends] at h
    | some ends =>
      simp only [hends, Bool.and_eq_true, List.all_eq_true, decide_eq_true_eq, List.contains_eq_mem] at h
      obtain ⟨⟨hle, hfill⟩, hnotes⟩ := h
      obtain ⟨hlst, hcover⟩ := finalLayers_cover nstaves m layers hfin fun x hx => ⟨(hnotes x hx).1.1.1, (hnotes x hx).1.1.2⟩
      exact ⟨layers, ends, rfl, hends, hle, hfill, hlst, hcover⟩

end C19M
