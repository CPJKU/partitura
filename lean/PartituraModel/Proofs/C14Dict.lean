/-
The statements on a part of note dictionaries: the threshold assignment, the constructors, the equations of one statement
(`step`, `xstep`) and what every statement and history preserves.
-/
import PartituraModel.Proofs.C14Order
import PartituraModel.Proofs.C14Valid
import PartituraModel.Model.PedalHist

namespace C14P
open Model Model.Pedal

theorem storeSound_eq_zipWith (ns : List PNote) (so : List Rat) :
    storeSound ns so = List.zipWith (fun n s => { n with soundOff := s }) ns so := by
  induction ns generalizing so with
  | nil => cases so <;> rfl
  | cons n rest ih => cases so <;> simp [storeSound, ih]

theorem storeSound_map (f : PNote → Rat) (l : List PNote) :
    storeSound l (l.map f) = l.map (fun n => { n with soundOff := f n }) := by
  induction l with
  | nil => rfl
  | cons a rest ih => simp only [List.map_cons, storeSound, ih]

/-- the note after an assignment of the threshold to a part holding the notes `L` -/
def resound (L : List PNote) (cs : List Control) (t : Int) (n : PNote) : PNote :=
  { n with soundOff := specOf (L.map PNote.toNote) cs t n.toNote }

theorem assignThr_eq_map (p : PPart) (t : Int) :
    assignThr p t = some { p with notes := p.notes.map (resound p.notes p.controls t), thr := t } := by
  unfold assignThr
  rw [soundOffs_eq_map]
  simp only
  rw [List.map_map, storeSound_map (specOf (p.notes.map PNote.toNote) p.controls t ∘ PNote.toNote) p.notes]
  rfl

theorem resound_perm (L L' : List PNote) (cs : List Control) (t : Int) (hp : L.Perm L') (n : PNote) (hn : n ∈ L) :
    resound L cs t n = resound L' cs t n := by
  unfold resound
  rw [specOf_perm (L.map PNote.toNote) (L'.map PNote.toNote) cs t (hp.map _) n.toNote (List.mem_map_of_mem hn)]

theorem soundOffs_length (ns : List Note) (cs : List Control) (thr : Int) (so : List Rat)
    (h : soundOffs ns cs thr = some so) : so.length = ns.length := by
  rw [soundOffs_eq_map, Option.some.injEq] at h
  rw [← h, List.length_map]

theorem resound_ge (L : List PNote) (cs : List Control) (t : Int) (n : PNote) (hn : n ∈ L) :
    n.off ≤ (resound L cs t n).soundOff :=
  spec_ge_off _ cs t _ n.toNote (List.mem_map_of_mem hn)

/-- after the assignment the `sound_off` column is `adjust_offsets_w_sustain` of the notes of the part -/
theorem soundOffs_resound (L : List PNote) (cs : List Control) (t : Int) :
    soundOffs ((L.map (resound L cs t)).map PNote.toNote) cs t = some ((L.map (resound L cs t)).map (·.soundOff)) := by
  rw [List.map_map, List.map_map, show PNote.toNote ∘ resound L cs t = PNote.toNote from rfl, soundOffs_eq_map,
    List.map_map]
  rfl

theorem assignThr_no_controls (ns : List PNote) (thr : Int) (h : ∀ n ∈ ns, n.soundOff = n.off) :
    assignThr { notes := ns, controls := [], thr := thr } thr = some { notes := ns, controls := [], thr := thr } := by
  rw [assignThr_eq_map]
  have : ns.map (resound ns [] thr) = ns :=
    (List.map_congr_left fun n hn => by
      rw [resound, specOf_no_controls, show n.toNote.off = n.soundOff from (h n hn).symm]; rfl).trans (List.map_id ns)
  simp only [this]

theorem setAt_eq_set {α : Type} (l : List α) (i : Nat) (b : α) : setAt l i b = l.set i b := by
  induction l generalizing i with
  | nil => rfl
  | cons a rest ih => cases i <;> simp [setAt, ih]

theorem removeAt_eq_eraseIdx {α : Type} (l : List α) (i : Nat) : removeAt l i = l.eraseIdx i := by
  induction l generalizing i with
  | nil => rfl
  | cons a rest ih => cases i <;> simp [removeAt, ih]

theorem length_removeAt {α : Type} (l : List α) (i : Nat) (h : i < l.length) : (removeAt l i).length + 1 = l.length := by
  rw [removeAt_eq_eraseIdx, List.length_eraseIdx_of_lt h]
  omega

theorem insertAt_eq {α : Type} (l : List α) (i : Nat) (x : α) : insertAt l i x = l.take i ++ x :: l.drop i := by
  induction l generalizing i with
  | nil => cases i <;> rfl
  | cons a rest ih => cases i <;> simp [insertAt, ih]

theorem length_insertAt {α : Type} (l : List α) (i : Nat) (b : α) : (insertAt l i b).length = l.length + 1 := by
  rw [insertAt_eq, List.length_append, List.length_cons, List.length_take, List.length_drop]
  omega

theorem mem_insertAt {α : Type} (l : List α) (i : Nat) (b x : α) (h : x ∈ insertAt l i b) : x = b ∨ x ∈ l := by
  rw [insertAt_eq, List.mem_append, List.mem_cons] at h
  rcases h with h | h | h
  · exact Or.inr (List.mem_of_mem_take h)
  · exact Or.inl h
  · exact Or.inr (List.mem_of_mem_drop h)

/-- entry `k` of the trace of a history is the outcome of statement `k` in the state the first `k` statements lead
    to — for every run function that lists the outcomes of a step function (`runOps`, `xrun`, `yrun`, `boxRun`) -/
theorem run_getElem {σ α β : Type} (f : σ → α → σ × β) (run : σ → List α → List (σ × β))
    (hrun : ∀ s o os, run s (o :: os) = f s o :: run (f s o).1 os)
    (s : σ) (ops : List α) (k : Nat) (a : α) (h : ops[k]? = some a) :
    (run s ops)[k]? = some (f ((ops.take k).foldl (fun s o => (f s o).1) s) a) := by
  induction ops generalizing s k with
  | nil => cases h
  | cons o rest ih =>
    rw [hrun]
    cases k with
    | zero =>
      obtain rfl : o = a := Option.some.inj h
      rfl
    | succ k' => exact ih (f s o).1 k' h

theorem run_invariant {σ α β : Type} (f : σ → α → σ × β) (run : σ → List α → List (σ × β))
    (hnil : ∀ s, run s [] = []) (hrun : ∀ s o os, run s (o :: os) = f s o :: run (f s o).1 os)
    (I : σ → Prop) (ops : List α) (hstep : ∀ o ∈ ops, ∀ s, I s → I (f s o).1) (s : σ) (hs : I s) :
    ∀ x ∈ run s ops, I x.1 := by
  induction ops generalizing s with
  | nil => rw [hnil]; intro x hx; cases hx
  | cons o rest ih =>
    rw [hrun]
    have h1 := hstep o List.mem_cons_self s hs
    intro x hx
    rcases List.mem_cons.mp hx with rfl | hx
    · exact h1
    · exact ih (fun o' ho' => hstep o' (List.mem_cons_of_mem _ ho')) _ h1 x hx

/-- the control stream after a history, when `C cs os` says what the statements `os` make of the stream `cs` -/
theorem foldl_controls {α : Type} (f : PPart → α → PPart × Obs) (C : List Control → List α → List Control)
    (hC0 : ∀ cs, C cs [] = cs) (hC : ∀ p o os, C (f p o).1.controls os = C p.controls (o :: os))
    (p : PPart) (ops : List α) : (ops.foldl (fun s o => (f s o).1) p).controls = C p.controls ops := by
  induction ops generalizing p with
  | nil => exact (hC0 _).symm
  | cons o rest ih => rw [List.foldl_cons, ih, hC]

theorem defaulted_toRaw (n : PNote) : defaulted (toRaw n) n.pitch = n := rfl

theorem copyNote_eq (n : PNote) : copyNote n = if validInit n = true then some n else none := rfl

theorem initNote_eq_some (r : RawNote) (n : PNote) :
    initNote r = some n ↔ ∃ p, r.pitch.or r.midiPitch = some p ∧ validInit (defaulted r p) = true ∧ defaulted r p = n := by
  unfold initNote
  cases r.pitch.or r.midiPitch with
  | none => simp
  | some p => by_cases hv : validInit (defaulted r p) = true <;> simp [hv]

theorem validInit_of_init {r : RawNote} {n : PNote} (h : initNote r = some n) : validInit n = true := by
  obtain ⟨_, _, hv, rfl⟩ := (initNote_eq_some r n).mp h
  exact hv

theorem buildRaw_eq_some (rs : List RawNote) (cs : List Control) (thr : Int) (p : PPart) :
    buildRaw rs cs thr = some p ↔
      ∃ ns, mapM' initNote rs = some ns ∧ p = ⟨ns.map (resound ns cs thr), cs, thr⟩ := by
  unfold buildRaw
  cases mapM' initNote rs with
  | none => exact ⟨fun h => (by cases h), fun h => (by obtain ⟨_, h, _⟩ := h; cases h)⟩
  | some ns =>
    simp only [assignThr_eq_map]
    exact ⟨fun h => ⟨ns, rfl, (Option.some.inj h).symm⟩, fun h => (by obtain ⟨_, h, e⟩ := h; cases h; rw [e])⟩

theorem built_notes (P : PNote → Prop) (hinit : ∀ r ∈ rs, ∀ n, initNote r = some n → P n)
    (hsound : ∀ (n : PNote) (s : Rat), P n → n.off ≤ s → P { n with soundOff := s })
    (cs : List Control) (thr : Int) (p : PPart) (hp : buildRaw rs cs thr = some p) :
    ∀ n ∈ p.notes, P n := by
  obtain ⟨ns, hns, rfl⟩ := (buildRaw_eq_some rs cs thr p).mp hp
  intro x hx
  obtain ⟨n, hn, rfl⟩ := List.mem_map.mp hx
  obtain ⟨r, hr, hrn⟩ := mapM'_mem hns n hn
  exact hsound n _ (hinit r hr n hrn) (resound_ge _ _ _ n hn)

theorem step_thr_eq (p : PPart) (t : Int) :
    step p (.thr t) = ({ p with notes := p.notes.map (resound p.notes p.controls t), thr := t }, .ok) := by
  rw [step, assignThr_eq_map]

theorem step_cases (p : PPart) (o : Op) :
    (∃ t, o = .thr t ∧ step p o = ({ p with notes := p.notes.map (resound p.notes p.controls t), thr := t }, .ok))
    ∨ (∃ i op n m, o = .set i op ∧ p.notes[i]? = some n ∧ setItem n op = .ok m
        ∧ step p o = ({ p with notes := p.notes.set i m }, .ok))
    ∨ (∃ r n, o = .append r ∧ initNote r = some n ∧ step p o = ({ p with notes := p.notes ++ [n] }, .ok))
    ∨ (∃ e, e ≠ .ok ∧ step p o = (p, e)) := by
  cases o with
  | thr t => exact Or.inl ⟨t, rfl, step_thr_eq p t⟩
  | set i op =>
    cases hn : p.notes[i]? with
    | none => exact Or.inr (Or.inr (Or.inr ⟨.idxErr, by decide, by simp only [step, hn]⟩))
    | some n =>
      cases hm : setItem n op with
      | ok m => exact Or.inr (Or.inl ⟨i, op, n, m, rfl, hn, hm, by simp only [step, hn, hm, setAt_eq_set]⟩)
      | error e =>
        refine Or.inr (Or.inr (Or.inr ?_))
        cases e
        · exact ⟨.keyErr, by decide, by simp only [step, hn, hm]⟩
        · exact ⟨.valErr, by decide, by simp only [step, hn, hm]⟩
  | append r =>
    cases hn : initNote r with
    | some n => exact Or.inr (Or.inr (Or.inl ⟨r, n, rfl, hn, by simp only [step, hn]⟩))
    | none => exact Or.inr (Or.inr (Or.inr ⟨.valErr, by decide, by simp only [step, hn]⟩))

theorem step_controls (p : PPart) (o : Op) : (step p o).1.controls = p.controls := by
  rcases step_cases p o with ⟨_, _, e⟩ | ⟨_, _, _, _, _, _, _, e⟩ | ⟨_, _, _, _, e⟩ | ⟨_, _, e⟩ <;> rw [e]

theorem step_preserves (P : PNote → Prop) (p : PPart) (o : Op)
    (hinit : ∀ r n, o = .append r → initNote r = some n → P n)
    (hset : ∀ i n m op, o = .set i op → P n → setItem n op = .ok m → P m)
    (hsound : ∀ (n : PNote) (s : Rat), P n → n.off ≤ s → P { n with soundOff := s })
    (hp : ∀ n ∈ p.notes, P n) : ∀ n ∈ (step p o).1.notes, P n := by
  rcases step_cases p o with ⟨t, _, e⟩ | ⟨i, op, n0, m, ho, hn0, hm, e⟩ | ⟨r, n0, ho, hn0, e⟩ | ⟨_, _, e⟩ <;> rw [e]
  · intro x hx
    obtain ⟨n, hn, rfl⟩ := List.mem_map.mp hx
    exact hsound n _ (hp n hn) (resound_ge _ _ _ n hn)
  · intro n hn
    rcases List.mem_or_eq_of_mem_set hn with h | rfl
    · exact hp n h
    · exact hset i n0 _ op ho (hp n0 (List.mem_of_getElem? hn0)) hm
  · intro n hn
    rcases List.mem_append.mp hn with h | h
    · exact hp n h
    · rw [List.mem_singleton.mp h]
      exact hinit r n0 ho hn0
  · exact hp

theorem history_preserves (P : PNote → Prop)
    (hset : ∀ n m op, P n → setItem n op = .ok m → P m)
    (hsound : ∀ (n : PNote) (s : Rat), P n → n.off ≤ s → P { n with soundOff := s })
    (p : PPart) (ops : List Op) (hinit : ∀ o ∈ ops, ∀ r n, o = .append r → initNote r = some n → P n)
    (hp : ∀ n ∈ p.notes, P n) : ∀ x ∈ runOps p ops, ∀ n ∈ x.1.notes, P n :=
  run_invariant step runOps (fun _ => rfl) (fun _ _ _ => rfl) (fun p => ∀ n ∈ p.notes, P n) ops
    (fun o ho p hp => step_preserves P p o (hinit o ho) (fun _ n m op _ => hset n m op) hsound hp) p hp

/-- what a copy does to the part: nothing (it succeeds only on a note that is valid as it stands, and is that note) -/
theorem xstep_copy (p : PPart) (i : Nat) : (xstep p (.copyNote i)).1 = p := by
  rw [xstep]
  cases hn : p.notes[i]? with
  | none => rfl
  | some n =>
    obtain ⟨hi, rfl⟩ := List.getElem?_eq_some_iff.mp hn
    simp only [copyNote_eq]
    by_cases hv : validInit p.notes[i] = true
    · simp only [if_pos hv, setAt_eq_set, List.set_getElem_self hi]
    · simp only [if_neg hv]

/-- the four statements `xstep` adds to `step`: the notes of the new state are old ones or the one just constructed, the
    controls move only under a control statement, and a raising statement leaves the part as it was -/
theorem xstep_added (p : PPart) (o : XOp) (ho : ∀ b, o ≠ .base b) :
    (∀ n ∈ (xstep p o).1.notes, n ∈ p.notes ∨ ∃ i r, o = .insNote i r ∧ initNote r = some n)
    ∧ (xstep p o).1.controls = (match o with | .ctl c => (ctlStep p.controls c).getD p.controls | _ => p.controls)
    ∧ ((xstep p o).2 ≠ .ok → (xstep p o).1 = p) := by
  cases o with
  | base b => exact absurd rfl (ho b)
  | delNote i =>
    rw [xstep]
    split
    · exact ⟨fun n hn => Or.inl (List.mem_of_mem_eraseIdx (removeAt_eq_eraseIdx .. ▸ hn)), rfl, fun h => absurd rfl h⟩
    · exact ⟨fun n hn => Or.inl hn, rfl, fun _ => rfl⟩
  | insNote i r =>
    rw [xstep]
    cases hn0 : initNote r with
    | none => exact ⟨fun n hn => Or.inl hn, rfl, fun _ => rfl⟩
    | some n0 =>
      exact ⟨fun n hn => (mem_insertAt _ _ _ _ hn).elim (fun e => Or.inr ⟨i, r, rfl, e ▸ hn0⟩) Or.inl, rfl,
        fun h => absurd rfl h⟩
  | copyNote i => rw [xstep_copy]; exact ⟨fun n hn => Or.inl hn, rfl, fun _ => rfl⟩
  | ctl c =>
    rw [xstep]
    show _ ∧ _ = (ctlStep p.controls c).getD p.controls ∧ _
    cases ctlStep p.controls c with
    | none => exact ⟨fun n hn => Or.inl hn, rfl, fun _ => rfl⟩
    | some cs => exact ⟨fun n hn => Or.inl hn, rfl, fun h => absurd rfl h⟩

/-- only a control statement touches the control list, so `ctlAfter` follows it along a history -/
theorem ctlAfter_xstep (p : PPart) (o : XOp) (os : List XOp) :
    ctlAfter (xstep p o).1.controls os = ctlAfter p.controls (o :: os) := by
  cases o with
  | base o => rw [show (xstep p (.base o)).1.controls = p.controls from step_controls p o]; rfl
  | _ => rw [(xstep_added p _ (fun b h => by cases h)).2.1]; rfl

theorem xstep_preserves (P : PNote → Prop) (p : PPart) (o : XOp)
    (hinit : ∀ r n, initNote r = some n → P n)
    (hset : ∀ i n m op, o = .base (.set i op) → P n → setItem n op = .ok m → P m)
    (hsound : ∀ (n : PNote) (s : Rat), P n → n.off ≤ s → P { n with soundOff := s })
    (hp : ∀ n ∈ p.notes, P n) : ∀ n ∈ (xstep p o).1.notes, P n := by
  cases o with
  | base o => exact step_preserves P p o (fun r n _ => hinit r n) (fun i n m op ho => hset i n m op (ho ▸ rfl)) hsound hp
  | _ =>
    intro n hn
    rcases (xstep_added p _ (fun b h => by cases h)).1 n hn with h | ⟨_, r, _, h⟩
    · exact hp n h
    · exact hinit r n h

theorem xhistory_preserves (P : PNote → Prop) (allowed : SetOp → Prop)
    (hinit : ∀ r n, initNote r = some n → P n)
    (hset : ∀ n m op, allowed op → P n → setItem n op = .ok m → P m)
    (hsound : ∀ (n : PNote) (s : Rat), P n → n.off ≤ s → P { n with soundOff := s })
    (p : PPart) (ops : List XOp) (hops : ∀ o ∈ ops, ∀ i op, o = .base (.set i op) → allowed op)
    (hp : ∀ n ∈ p.notes, P n) : ∀ x ∈ xrun p ops, ∀ n ∈ x.1.notes, P n :=
  run_invariant xstep xrun (fun _ => rfl) (fun _ _ _ => rfl) (fun p => ∀ n ∈ p.notes, P n) ops
    (fun o ho p hp => xstep_preserves P p o hinit (fun i n m op he => hset n m op (hops o ho i op he)) hsound hp) p hp

end C14P
