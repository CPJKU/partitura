/-
The vocabulary of `pairing_sound` and `pairing_complete_iff` — `proj` (the note messages of one (channel, pitch)
hash), `notesOf` (the paired notes of one hash), `IsRelease`, `Alt`, `AltC` (alternating runs) — and the lemmas behind
them: note pairing works key by key; on an alternating on/off run it returns the notes; it uses every note message
of a (channel, pitch) exactly when the messages strictly alternate note-on / release.
-/
import PartituraModel.Model.PerfMidi
import PartituraModel.Proofs.C06Sort

namespace C06Pair
open Model Model.PerfMidi

/-- the hash a note message is filed under -/
def evKey : Ev → Option Nat
  | .noteOn ch p _ => some (noteHash ch p)
  | .noteOff ch p _ => some (noteHash ch p)
  | _ => none

/-- the note messages of one (channel, pitch) hash, in file order -/
def proj (κ : Nat) (l : Track) : Track := l.filter (fun m => decide (evKey m.2 = some κ))

def RNote.key (n : RNote) : Nat := noteHash n.ch n.pitch

def notesOf (κ : Nat) (l : List RNote) : List RNote := l.filter (fun n => decide (RNote.key n = κ))

theorem set_other (s : Sounding) (h κ : Nat) (v : Option (Int × Nat)) (hne : κ ≠ h) :
    (s.set h v) κ = s κ := by
  simp [Sounding.set, hne]

theorem set_same (s : Sounding) (h : Nat) (v : Option (Int × Nat)) : (s.set h v) h = v := by
  simp [Sounding.set]

/-- the message releases the note (channel `ch`, pitch `p`): a note-off or a note-on with velocity 0 -/
def IsRelease (e : Ev) (ch p : Nat) : Prop := (∃ v, e = Ev.noteOff ch p v) ∨ e = Ev.noteOn ch p 0

theorem pairFrom_on_pos (s : Sounding) (k : Int) (ch p v : Nat) (rest : Track) (hv : 0 < v) :
    pairFrom s ((k, Ev.noteOn ch p v) :: rest) = pairFrom (s.set (noteHash ch p) (some (k, v))) rest := by
  simp [pairFrom, hv]

theorem pairFrom_release_none (s : Sounding) (k : Int) (e : Ev) (ch p : Nat) (rest : Track) (h : IsRelease e ch p)
    (hs : s (noteHash ch p) = none) : pairFrom s ((k, e) :: rest) = pairFrom s rest := by
  rcases h with ⟨v, rfl⟩ | rfl <;> simp [pairFrom, hs]

theorem pairFrom_release_some (s : Sounding) (k : Int) (e : Ev) (ch p : Nat) (rest : Track) (h : IsRelease e ch p)
    (on : Int) (vel : Nat) (hs : s (noteHash ch p) = some (on, vel)) :
    pairFrom s ((k, e) :: rest) = ⟨p, on, k, vel, ch⟩ :: pairFrom (s.set (noteHash ch p) none) rest := by
  rcases h with ⟨v, rfl⟩ | rfl <;> simp [pairFrom, hs]

theorem pairFrom_skip (s : Sounding) (k : Int) (e : Ev) (rest : Track) (he : evKey e = none) :
    pairFrom s ((k, e) :: rest) = pairFrom s rest := by
  cases e <;> simp_all [pairFrom, evKey]

theorem start_or_release (e : Ev) : evKey e = none ∨
    ∃ ch p, evKey e = some (noteHash ch p) ∧ ((∃ v, 0 < v ∧ e = Ev.noteOn ch p v) ∨ IsRelease e ch p) := by
  cases e with
  | noteOn ch p v =>
    refine Or.inr ⟨ch, p, rfl, ?_⟩
    rcases Nat.eq_zero_or_pos v with rfl | hv
    · exact Or.inr (Or.inr rfl)
    · exact Or.inl ⟨v, hv, rfl⟩
  | noteOff ch p v => exact Or.inr ⟨ch, p, rfl, Or.inr (Or.inl ⟨v, rfl⟩)⟩
  | _ => exact Or.inl rfl

theorem proj_cons_same (κ : Nat) (m : TMsg) (l : Track) (h : evKey m.2 = some κ) :
    proj κ (m :: l) = m :: proj κ l := by
  simp [proj, h]

theorem proj_cons_other (κ : Nat) (m : TMsg) (l : Track) (h : evKey m.2 ≠ some κ) :
    proj κ (m :: l) = proj κ l := by
  simp [proj, h]

theorem notesOf_cons_same (κ : Nat) (n : RNote) (l : List RNote) (h : RNote.key n = κ) :
    notesOf κ (n :: l) = n :: notesOf κ l := by
  simp [notesOf, h]

theorem notesOf_cons_other (κ : Nat) (n : RNote) (l : List RNote) (h : RNote.key n ≠ κ) :
    notesOf κ (n :: l) = notesOf κ l := by
  simp [notesOf, h]

/-- pairing works key by key: the notes of hash `κ` are what pairing the messages of hash `κ` alone gives,
    from any state that agrees on `κ` -/
theorem pair_proj (κ : Nat) (l : Track) (s s' : Sounding) (h : s κ = s' κ) :
    notesOf κ (pairFrom s l) = pairFrom s' (proj κ l) := by
  induction l generalizing s s' with
  | nil => rfl
  | cons m l ih =>
    obtain ⟨k, e⟩ := m
    rcases start_or_release e with hnone | ⟨ch, p, hkey, hstep⟩
    · rw [pairFrom_skip s k e l hnone, proj_cons_other κ (k, e) l (by simp [hnone])]
      exact ih s s' h
    · by_cases hk : noteHash ch p = κ
      · -- a message of hash κ: both loops take the same step
        subst hk
        rw [proj_cons_same _ (k, e) l hkey]
        rcases hstep with ⟨v, hv, rfl⟩ | hrel
        · rw [pairFrom_on_pos _ _ _ _ _ _ hv, pairFrom_on_pos _ _ _ _ _ _ hv]
          exact ih _ _ (by rw [set_same, set_same])
        · cases hs : s (noteHash ch p) with
          | none =>
            rw [pairFrom_release_none s k e ch p l hrel hs, pairFrom_release_none s' k e ch p _ hrel (h.symm.trans hs)]
            exact ih _ _ h
          | some ov =>
            obtain ⟨on, vel⟩ := ov
            rw [pairFrom_release_some s k e ch p l hrel on vel hs, pairFrom_release_some s' k e ch p _ hrel on vel (h.symm.trans hs),
              notesOf_cons_same (noteHash ch p) ⟨p, on, k, vel, ch⟩ _ rfl]
            congr 1
            exact ih _ _ (by rw [set_same, set_same])
      · -- a message of another hash: `proj κ` drops it, and the state at `κ` does not change
        have hne : κ ≠ noteHash ch p := fun h' => hk h'.symm
        rw [proj_cons_other κ (k, e) l fun h' => hk (Option.some.inj (hkey.symm.trans h'))]
        rcases hstep with ⟨v, hv, rfl⟩ | hrel
        · rw [pairFrom_on_pos _ _ _ _ _ _ hv]
          exact ih _ _ (by rw [set_other _ _ _ _ hne]; exact h)
        · cases hs : s (noteHash ch p) with
          | none =>
            rw [pairFrom_release_none s k e ch p l hrel hs]
            exact ih _ _ h
          | some ov =>
            obtain ⟨on, vel⟩ := ov
            rw [pairFrom_release_some s k e ch p l hrel on vel hs,
              notesOf_cons_other κ ⟨p, on, k, vel, ch⟩ _ (show RNote.key ⟨p, on, k, vel, ch⟩ ≠ κ from hk)]
            exact ih _ _ (by rw [set_other _ _ _ _ hne]; exact h)

/-- a run of messages in which note-ons (velocity > 0) and releases of the same channel and pitch
    alternate — what a track holds for one (channel, pitch) when its notes do not overlap; the last note
    may still be sounding at the end of the track -/
inductive Alt : Track → List RNote → Prop
  | nil : Alt [] []
  | sounding (k : Int) (ch p v : Nat) : 0 < v → Alt [(k, Ev.noteOn ch p v)] []
  | pair (k₁ k₂ : Int) (ch p v : Nat) (e : Ev) (rest : Track) (ns : List RNote) :
      0 < v → IsRelease e ch p → Alt rest ns →
      Alt ((k₁, Ev.noteOn ch p v) :: (k₂, e) :: rest) (⟨p, k₁, k₂, v, ch⟩ :: ns)

theorem pair_alt (κ : Nat) (l : Track) (ns : List RNote) (h : Alt l ns)
    (hκ : ∀ m ∈ l, evKey m.2 = some κ) (s : Sounding) (hs : s κ = none) :
    pairFrom s l = ns := by
  induction h generalizing s with
  | nil => rfl
  | sounding k ch p v hv => rw [pairFrom_on_pos _ _ _ _ _ _ hv]; rfl
  | pair k₁ k₂ ch p v e rest ns hv hrel _ ih =>
    have hk : noteHash ch p = κ := by
      have := hκ (k₁, Ev.noteOn ch p v) (List.mem_cons_self)
      simpa [evKey] using this
    have hrest : ∀ m ∈ rest, evKey m.2 = some κ := fun m hm =>
      hκ m (List.mem_cons_of_mem _ (List.mem_cons_of_mem _ hm))
    have hs1 : (s.set (noteHash ch p) (some (k₁, v))) (noteHash ch p) = some (k₁, v) := set_same _ _ _
    have hs2 : ((s.set (noteHash ch p) (some (k₁, v))).set (noteHash ch p) none) κ = none := by
      rw [hk]; exact set_same _ _ _
    rw [pairFrom_on_pos _ _ _ _ _ _ hv]
    rw [pairFrom_release_some _ _ _ _ _ _ hrel k₁ v hs1, ih hrest _ hs2]

theorem proj_key (κ : Nat) (l : Track) : ∀ m ∈ proj κ l, evKey m.2 = some κ := by
  intro m hm
  have := (List.mem_filter.mp hm).2
  simpa using this

theorem pairNotes_of_alt (l : Track) (f : Nat → List RNote) (h : ∀ κ, Alt (proj κ l) (f κ)) (κ : Nat) :
    notesOf κ (pairNotes l) = f κ := by
  unfold pairNotes
  rw [pair_proj κ l (fun _ => none) (fun _ => none) rfl]
  exact pair_alt κ _ _ (h κ) (proj_key κ l) _ rfl

end C06Pair

-- the vocabulary of `pairing_complete_iff` (Props/C06Pairing.lean): starts and releases counted, `AltC` without the notes
namespace C06PairIff
open Model Model.PerfMidi C06Pair

/-- a note-on that starts a note (velocity > 0) -/
def isOn : Ev → Bool
  | .noteOn _ _ v => decide (0 < v)
  | _ => false

/-- a message that releases a note: note-off, or note-on with velocity 0 -/
def isRel : Ev → Bool
  | .noteOff _ _ _ => true
  | .noteOn _ _ v => decide (v = 0)
  | _ => false

/-- the number of note starts / of releases in a run of messages -/
def ons (l : Track) : Nat := l.countP (fun m => isOn m.2)
def rels (l : Track) : Nat := l.countP (fun m => isRel m.2)

/-- strict alternation start, release, start, release, …, ending released -/
inductive AltC : Track → Prop
  | nil : AltC []
  | pair (k₁ k₂ : Int) (e₁ e₂ : Ev) (rest : Track) :
      isOn e₁ = true → isRel e₂ = true → AltC rest → AltC ((k₁, e₁) :: (k₂, e₂) :: rest)

theorem on_or_rel (e : Ev) (κ : Nat) (h : evKey e = some κ) :
    (∃ ch p v, e = Ev.noteOn ch p v ∧ 0 < v ∧ noteHash ch p = κ ∧ isOn e = true ∧ isRel e = false) ∨
    (∃ ch p, noteHash ch p = κ ∧ isOn e = false ∧ isRel e = true ∧ IsRelease e ch p) := by
  rcases start_or_release e with h0 | ⟨ch, p, hkey, ⟨v, hv, rfl⟩ | hrel⟩
  · rw [h0] at h; cases h
  · refine Or.inl ⟨ch, p, v, rfl, hv, Option.some.inj (hkey.symm.trans h), by simp [isOn, hv], ?_⟩
    simp [isRel]; omega
  · refine Or.inr ⟨ch, p, Option.some.inj (hkey.symm.trans h), ?_, ?_, hrel⟩ <;>
      rcases hrel with ⟨v, rfl⟩ | rfl <;> rfl

theorem ons_cons (m : TMsg) (l : Track) : ons (m :: l) = ons l + (if isOn m.2 then 1 else 0) := by
  unfold ons
  rw [List.countP_cons]

theorem rels_cons (m : TMsg) (l : Track) : rels (m :: l) = rels l + (if isRel m.2 then 1 else 0) := by
  unfold rels
  rw [List.countP_cons]

/-- the two states of the loader for one (channel, pitch) — nothing sounding / a note sounding — together:
    bounds on the number of notes paired, and what the run looks like when the bounds are met -/
theorem pair_bounds (κ : Nat) (l : Track) (hκ : ∀ m ∈ l, evKey m.2 = some κ) :
    ∀ s : Sounding,
      (s κ = none →
        (pairFrom s l).length ≤ ons l ∧ (pairFrom s l).length ≤ rels l ∧
        ((pairFrom s l).length = ons l → (pairFrom s l).length = rels l → AltC l)) ∧
      (∀ x, s κ = some x →
        (pairFrom s l).length ≤ ons l + 1 ∧ (pairFrom s l).length ≤ rels l ∧
        ((pairFrom s l).length = ons l + 1 → (pairFrom s l).length = rels l →
          ∃ k e M, l = (k, e) :: M ∧ isRel e = true ∧ AltC M)) := by
  induction l with
  | nil =>
    intro s
    refine ⟨fun _ => ⟨by simp [pairFrom], by simp [pairFrom], fun _ _ => AltC.nil⟩, fun x _ => ⟨by simp [pairFrom], by simp [pairFrom], ?_⟩⟩
    intro h
    simp [pairFrom, ons] at h
  | cons m l ih =>
    intro s
    obtain ⟨k, e⟩ := m
    have hl : ∀ m ∈ l, evKey m.2 = some κ := fun m hm => hκ m (List.mem_cons_of_mem _ hm)
    have he : evKey e = some κ := hκ (k, e) List.mem_cons_self
    rcases on_or_rel e κ he with ⟨ch, p, v, rfl, hv, hk, hon, hrel⟩ | ⟨ch, p, hk, hon, hrel, hform⟩
    · -- a note start: the state becomes "sounding"
      have hstep : pairFrom s ((k, Ev.noteOn ch p v) :: l) = pairFrom (s.set (noteHash ch p) (some (k, v))) l :=
        pairFrom_on_pos s k ch p v l hv
      have hopen : (s.set (noteHash ch p) (some (k, v))) κ = some (k, v) := by rw [← hk]; exact set_same _ _ _
      obtain ⟨b1, b2, b3⟩ := (ih hl (s.set (noteHash ch p) (some (k, v)))).2 (k, v) hopen
      rw [hstep, ons_cons, rels_cons]
      simp only [hon, hrel, if_true, Bool.false_eq_true, if_false, Nat.add_zero]
      constructor
      · intro _
        refine ⟨b1, b2, ?_⟩
        intro h1 h2
        obtain ⟨k', e', M, rfl, hr, hM⟩ := b3 h1 h2
        exact AltC.pair k k' _ e' M hon hr hM
      · intro x _
        refine ⟨by omega, b2, ?_⟩
        intro h1 _
        omega
    · -- a release
      rw [ons_cons, rels_cons]
      simp only [hon, hrel, if_true, Bool.false_eq_true, if_false, Nat.add_zero]
      constructor
      · intro hs
        have hs' : s (noteHash ch p) = none := by rw [hk]; exact hs
        have hstep : pairFrom s ((k, e) :: l) = pairFrom s l := pairFrom_release_none s k e ch p l hform hs'
        obtain ⟨a1, a2, _⟩ := (ih hl s).1 hs
        rw [hstep]
        refine ⟨a1, by omega, ?_⟩
        intro _ h2
        omega
      · intro x hs
        obtain ⟨on, vel⟩ := x
        have hs' : s (noteHash ch p) = some (on, vel) := by rw [hk]; exact hs
        have hstep : pairFrom s ((k, e) :: l) = ⟨p, on, k, vel, ch⟩ :: pairFrom (s.set (noteHash ch p) none) l :=
          pairFrom_release_some s k e ch p l hform on vel hs'
        have hclosed : (s.set (noteHash ch p) none) κ = none := by rw [← hk]; exact set_same _ _ _
        obtain ⟨a1, a2, a3⟩ := (ih hl (s.set (noteHash ch p) none)).1 hclosed
        rw [hstep, List.length_cons]
        refine ⟨by omega, by omega, ?_⟩
        intro h1 h2
        exact ⟨k, e, l, rfl, hrel, a3 (by omega) (by omega)⟩

theorem pair_altC (κ : Nat) (l : Track) (h : AltC l) (hκ : ∀ m ∈ l, evKey m.2 = some κ) :
    ∀ s : Sounding, s κ = none → (pairFrom s l).length = ons l ∧ (pairFrom s l).length = rels l := by
  induction h with
  | nil => intro s _; exact ⟨rfl, rfl⟩
  | pair k₁ k₂ e₁ e₂ rest hon hrel _ ih =>
    intro s hs
    have hrest : ∀ m ∈ rest, evKey m.2 = some κ := fun m hm =>
      hκ m (List.mem_cons_of_mem _ (List.mem_cons_of_mem _ hm))
    have he1 := hκ (k₁, e₁) List.mem_cons_self
    have he2 := hκ (k₂, e₂) (List.mem_cons_of_mem _ List.mem_cons_self)
    rcases on_or_rel e₁ κ he1 with ⟨ch, p, v, rfl, hv, hk, _, hrel1⟩ | ⟨_, _, _, hon', _, _⟩
    · rcases on_or_rel e₂ κ he2 with ⟨_, _, _, _, _, _, _, hrel'⟩ | ⟨ch2, p2, hk2, hon2, _, hform⟩
      · rw [hrel'] at hrel; exact absurd hrel (by simp)
      · have hopen : (s.set (noteHash ch p) (some (k₁, v))) (noteHash ch2 p2) = some (k₁, v) := by
          rw [hk2, ← hk]; exact set_same _ _ _
        have hclosed : ((s.set (noteHash ch p) (some (k₁, v))).set (noteHash ch2 p2) none) κ = none := by
          rw [← hk2]; exact set_same _ _ _
        have hstep : pairFrom s ((k₁, Ev.noteOn ch p v) :: (k₂, e₂) :: rest)
            = ⟨p2, k₁, k₂, v, ch2⟩ :: pairFrom ((s.set (noteHash ch p) (some (k₁, v))).set (noteHash ch2 p2) none) rest := by
          rw [pairFrom_on_pos s k₁ ch p v _ hv]
          exact pairFrom_release_some _ k₂ e₂ ch2 p2 rest hform k₁ v hopen
        obtain ⟨i1, i2⟩ := ih hrest _ hclosed
        rw [hstep, List.length_cons, ons_cons, ons_cons, rels_cons, rels_cons]
        simp only [hon, hrel, hrel1, hon2, if_true, Bool.false_eq_true, if_false, Nat.add_zero]
        omega
    · rw [hon'] at hon; exact absurd hon (by simp)

end C06PairIff
