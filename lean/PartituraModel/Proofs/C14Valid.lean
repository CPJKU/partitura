/-
The dictionary protocol of one `PerformedNote`: the validators as propositions, `note[key] = v` as validator + store.
-/
import PartituraModel.Model.PedalDict
import Mathlib.Algebra.Order.Field.Rat

namespace C14P
open Model Model.Pedal

theorem okRange_iff (v : Int) : okRange v = true ↔ 0 ≤ v ∧ v ≤ 127 := by
  simp only [okRange, Bool.not_eq_true', Bool.or_eq_false_iff, decide_eq_false_iff_not, not_lt, and_comm]

theorem okNoteOff_iff (a v : Rat) : okNoteOff a v = true ↔ a < 0 ∨ (0 ≤ v ∧ a ≤ v) := by
  simp only [okNoteOff, Bool.or_eq_true, decide_eq_true_eq, Bool.not_eq_true', Bool.or_eq_false_iff,
    decide_eq_false_iff_not, not_lt]

theorem okSoundOff_iff (a v : Rat) : okSoundOff a v = true ↔ a < 0 ∨ (0 ≤ v ∧ a ≤ v) :=
  okNoteOff_iff a v

theorem okOffTick_iff (t : Option Int) (v : Int) :
    okOffTick t v = true ↔ t.getD (-1) < 0 ∨ (0 ≤ v ∧ t.getD (-1) ≤ v) := by
  simp only [okOffTick, Bool.or_eq_true, decide_eq_true_eq, Bool.not_eq_true', Bool.or_eq_false_iff,
    decide_eq_false_iff_not, not_lt]

theorem optAll_iff {α : Type} (p : α → Bool) (o : Option α) : optAll p o = true ↔ ∀ a, o = some a → p a = true := by
  cases o <;> simp [optAll]

/-- a note passes every validator exactly when: MIDI ranges, no negative time, onset ≤ release ≤ sounding end, a given
    onset tick not negative and not after a given release tick.  (`_validate_note_off`, `_validate_sound_off` and
    `_validate_note_off_tick` let everything pass when the neighbour they compare with is negative; the neighbour's own
    validator rules that out.) -/
theorem validInit_iff (n : PNote) :
    validInit n = true ↔
      (0 ≤ n.pitch ∧ n.pitch ≤ 127 ∧ 0 ≤ n.vel ∧ n.vel ≤ 127 ∧ 0 ≤ n.on ∧ 0 ≤ n.off ∧ 0 ≤ n.soundOff)
      ∧ n.on ≤ n.off ∧ n.off ≤ n.soundOff
      ∧ (∀ t, n.onTick = some t → 0 ≤ t) ∧ (∀ t u, n.onTick = some t → n.offTick = some u → t ≤ u) := by
  simp only [validInit, Bool.and_eq_true, okRange_iff, okNoteOff_iff, okSoundOff_iff, decide_eq_true_eq, optAll_iff,
    okOffTick_iff]
  constructor
  · rintro ⟨⟨⟨⟨⟨⟨⟨p1, p2⟩, h0⟩, hno⟩, v1, v2⟩, hs⟩, hot⟩, hoft⟩
    obtain ⟨h0off, ho⟩ := hno.resolve_left (not_lt.mpr h0)
    obtain ⟨h0so, hss⟩ := hs.resolve_left (not_lt.mpr h0off)
    refine ⟨⟨p1, p2, v1, v2, h0, h0off, h0so⟩, ho, hss, hot, fun t u ht hu => ?_⟩
    have h1 := hoft u hu
    rw [ht, Option.getD_some] at h1
    exact (h1.resolve_left (not_lt.mpr (hot t ht))).2
  · rintro ⟨⟨p1, p2, v1, v2, h0, h0off, h0so⟩, ho, hs, hot, hoft⟩
    refine ⟨⟨⟨⟨⟨⟨⟨p1, p2⟩, h0⟩, Or.inr ⟨h0off, ho⟩⟩, v1, v2⟩, Or.inr ⟨h0so, hs⟩⟩, hot⟩, fun u hu => ?_⟩
    cases ht : n.onTick with
    | none => exact Or.inl (by decide)
    | some t => exact Or.inr ⟨le_trans (hot t ht) (hoft t u ht hu), hoft t u ht hu⟩

/-- the validator of the key of `note[key] = v`, against the stored neighbours (`False`: not an accepted key) -/
def accepts (n : PNote) : SetOp → Prop
  | .pitch v => 0 ≤ v ∧ v ≤ 127
  | .velocity v => 0 ≤ v ∧ v ≤ 127
  | .noteOn v => 0 ≤ v
  | .noteOff v => n.on < 0 ∨ (0 ≤ v ∧ n.on ≤ v)
  | .soundOff v => n.off < 0 ∨ (0 ≤ v ∧ n.off ≤ v)
  | .noteOnTick v => 0 ≤ v
  | .noteOffTick v => n.onTick.getD (-1) < 0 ∨ (0 ≤ v ∧ n.onTick.getD (-1) ≤ v)
  | .midiPitch _ => False
  | .other => False
  | _ => True

/-- the note after an accepted `note[key] = v` -/
def stored (n : PNote) : SetOp → PNote
  | .id v => { n with id := some v }
  | .pitch v => { n with pitch := v, midiPitch := v }
  | .noteOn v => { n with on := v }
  | .noteOff v => { n with off := v }
  | .soundOff v => { n with soundOff := v }
  | .velocity v => { n with vel := v }
  | .track v => { n with track := v }
  | .channel v => { n with chan := v }
  | .noteOnTick v => { n with onTick := some v }
  | .noteOffTick v => { n with offTick := some v }
  | _ => n

theorem ite_ok_iff {c : Prop} [Decidable c] (a m : PNote) :
    (if c then Except.ok a else Except.error SetErr.value) = .ok m ↔ c ∧ a = m := by
  split <;> simp [*]

theorem setItem_ok_iff (n m : PNote) (op : SetOp) : setItem n op = .ok m ↔ accepts n op ∧ stored n op = m := by
  cases op <;>
    simp only [setItem, accepts, stored, ite_ok_iff, okRange_iff, okNoteOff_iff, okSoundOff_iff, okOffTick_iff,
      Except.ok.injEq, true_and, false_and, reduceCtorEq]

end C14P
