/-
C20 — `Performance.sanitize_track_numbers` (Model/ArgForms.lean `sanitizeWith`) reaches a fixed point.
`Performance.sanitize_track_numbers` is also modelled in Model/PedalHist.lean (`sanitizeBox`; Proofs/C14Box.lean proves the
fixed point there through states numbered by their own positions); the two models and proofs do not rest on each other.
-/
import PartituraModel.Model.ArgForms
import PartituraModel.Proofs.Lists

namespace C20San
open Model Model.ArgForms

/-- the lexicographic order `sorted` uses on (part index, track) pairs -/
def plt (a b : Nat × Int) : Prop := a.1 < b.1 ∨ (a.1 = b.1 ∧ a.2 < b.2)

theorem pairLt_iff (a b : Nat × Int) : pairLt a b = true ↔ plt a b := by
  simp [pairLt, plt]

theorem plt_irrefl (a : Nat × Int) : ¬ plt a a := by
  simp [plt]

theorem plt_trans {a b c : Nat × Int} (h1 : plt a b) (h2 : plt b c) : plt a c := by
  rcases h1 with h1 | ⟨e1, h1⟩ <;> rcases h2 with h2 | ⟨e2, h2⟩
  · exact Or.inl (Nat.lt_trans h1 h2)
  · exact Or.inl (e2 ▸ h1)
  · exact Or.inl (e1 ▸ h2)
  · exact Or.inr ⟨e1.trans e2, Int.lt_trans h1 h2⟩

theorem plt_tri (a b : Nat × Int) : plt a b ∨ a = b ∨ plt b a := by
  rcases Nat.lt_trichotomy a.1 b.1 with h | h | h
  · exact Or.inl (Or.inl h)
  · rcases Int.lt_trichotomy a.2 b.2 with h2 | h2 | h2
    · exact Or.inl (Or.inr ⟨h, h2⟩)
    · exact Or.inr (Or.inl (Prod.ext h h2))
    · exact Or.inr (Or.inr (Or.inr ⟨h.symm, h2⟩))
  · exact Or.inr (Or.inr (Or.inl h))

abbrev SSorted (l : List (Nat × Int)) : Prop := l.Pairwise plt

theorem insertPair_isSortedInsert : Lists.IsSortedInsert (fun a b => pairLt a b = true) insertPair :=
  ⟨fun _ => rfl, fun _ _ _ => rfl⟩

theorem sortedSet_sorted (l : List (Nat × Int)) : SSorted (sortedSet l) := by
  refine (insertPair_isSortedInsert.foldr_pairwise ?_ ?_ l).imp (pairLt_iff _ _).mp <;> simp only [pairLt_iff]
  · exact plt_trans
  · exact fun {a b} h1 h2 => ((plt_tri a b).resolve_left h1).resolve_left h2

theorem mem_sortedSet (l : List (Nat × Int)) (y : Nat × Int) : y ∈ sortedSet l ↔ y ∈ l :=
  insertPair_isSortedInsert.mem_foldr

theorem SSorted.nodup {l : List (Nat × Int)} (h : SSorted l) : l.Nodup := Lists.pairwise_nodup plt_irrefl h

theorem mem_of_indexOf {α : Type} [DecidableEq α] (x : α) (l : List α) (k : Nat) (h : indexOf x l = some k) : x ∈ l :=
  (indexOf_eq_some_iff.mp h).1

/-- the track ids after the renumbering: the k-th pair keeps its part index and gets track k -/
def relabel : Nat → List (Nat × Int) → List (Nat × Int)
  | _, [] => []
  | s, x :: xs => (x.1, (s : Int)) :: relabel (s + 1) xs

theorem relabel_length : ∀ (l : List (Nat × Int)) (s : Nat), (relabel s l).length = l.length
  | [], _ => rfl
  | _ :: as, s => congrArg (· + 1) (relabel_length as (s + 1))

theorem relabel_getElem : ∀ (l : List (Nat × Int)) (s k : Nat),
    (relabel s l)[k]? = (l[k]?).map (fun x => (x.1, ((s + k : Nat) : Int))) := by
  intro l
  induction l with
  | nil => intro s k; simp [relabel]
  | cons a as ih =>
    intro s k
    cases k with
    | zero => simp [relabel]
    | succ j => simp only [relabel, List.getElem?_cons_succ, ih, Nat.add_assoc, Nat.add_comm 1]

theorem mem_relabel (l : List (Nat × Int)) (s : Nat) (z : Nat × Int) (h : z ∈ relabel s l) :
    ∃ k x, l[k]? = some x ∧ z = (x.1, ((s + k : Nat) : Int)) := by
  obtain ⟨k, hk⟩ := List.getElem?_of_mem h
  rw [relabel_getElem] at hk
  cases hx : l[k]? with
  | none => simp [hx] at hk
  | some x =>
    simp only [hx, Option.map_some, Option.some.injEq] at hk
    exact ⟨k, x, hx, hk.symm⟩

theorem relabel_sorted : ∀ (l : List (Nat × Int)) (s : Nat), SSorted l → SSorted (relabel s l) := by
  intro l
  induction l with
  | nil => intro s _; simp [relabel]
  | cons a as ih =>
    intro s h
    have ha := List.pairwise_cons.mp h
    simp only [relabel]
    refine List.pairwise_cons.mpr ⟨?_, ih (s + 1) ha.2⟩
    intro z hz
    obtain ⟨k, x, hx, rfl⟩ := mem_relabel as (s + 1) z hz
    have hax : plt a x := ha.1 x (List.mem_of_getElem? hx)
    unfold plt at hax ⊢
    simp only
    omega

def rho (d : Int) (ids : List (Nat × Int)) (x : Nat × Int) : Nat × Int :=
  (x.1, getTrack d ((indexOf x ids).map (fun k => (k : Int))))

theorem pairsOf_sanitizePart (d : Int) (ids : List (Nat × Int)) (i : Nat) (pp : PPart) :
    pairsOf d i (sanitizePart d ids i pp) = (pairsOf d i pp).map (rho d ids) := by
  simp only [pairsOf, sanitizePart, List.map_append, List.map_map]
  rfl

theorem allPairs_sanitizeFrom (d : Int) (ids : List (Nat × Int)) :
    ∀ (pps : List PPart) (s : Nat),
      allPairs d s (sanitizeFrom d ids s pps) = (allPairs d s pps).map (rho d ids) := by
  intro pps
  induction pps with
  | nil => intro s; rfl
  | cons pp pps ih =>
    intro s
    simp only [sanitizeFrom, allPairs, List.map_append, pairsOf_sanitizePart, ih]

/-- Both lists are strictly increasing, so it is enough that they have the same members: the pass sends the pair at
    position `k` of the old ids to (its part, `k`), which is what `relabel` puts at position `k`. -/
theorem trackIds_after (d : Int) (pps : List PPart) :
    trackIds d (sanitizeWith d pps) = relabel 0 (trackIds d pps) := by
  have hs := sortedSet_sorted (allPairs d 0 pps)
  apply Lists.pairwise_ext (fun h1 h2 => plt_irrefl _ (plt_trans h1 h2)) (sortedSet_sorted _) (relabel_sorted _ 0 hs)
  intro y
  show y ∈ sortedSet (allPairs d 0 (sanitizeFrom d (trackIds d pps) 0 pps)) ↔ y ∈ relabel 0 (sortedSet (allPairs d 0 pps))
  rw [mem_sortedSet, allPairs_sanitizeFrom, List.mem_map]
  constructor
  · rintro ⟨x, hx, rfl⟩
    have hxL : x ∈ sortedSet (allPairs d 0 pps) := (mem_sortedSet _ x).mpr hx
    obtain ⟨k, hk⟩ := indexOf_of_mem hxL
    have hg := getElem?_of_indexOf hk
    apply List.mem_of_getElem? (i := k)
    rw [relabel_getElem]
    simp [hg, rho, trackIds, hk, getTrack]
  · intro hy
    obtain ⟨k, x, hx, rfl⟩ := mem_relabel _ 0 y hy
    have hxL : x ∈ sortedSet (allPairs d 0 pps) := List.mem_of_getElem? hx
    refine ⟨x, (mem_sortedSet _ x).mp hxL, ?_⟩
    have hk := indexOf_of_getElem? hs.nodup hx
    simp [rho, trackIds, hk, getTrack]

theorem indexOf_relabel (L : List (Nat × Int)) (hs : SSorted L) (x : Nat × Int) (k : Nat) (hk : indexOf x L = some k) :
    indexOf (x.1, (k : Int)) (relabel 0 L) = some k := by
  apply indexOf_of_getElem? (relabel_sorted L 0 hs).nodup
  rw [relabel_getElem, getElem?_of_indexOf hk, Nat.zero_add]
  rfl

theorem mapTrack_fixed (d : Int) (L : List (Nat × Int)) (hs : SSorted L) (i : Nat) (t : Option Int)
    (hm : (i, getTrack d t) ∈ L) :
    mapTrack d (relabel 0 L) i (mapTrack d L i t) = mapTrack d L i t := by
  obtain ⟨k, hk⟩ := indexOf_of_mem hm
  unfold mapTrack
  rw [hk]
  show (indexOf (i, (k : Int)) (relabel 0 L)).map (fun k => (k : Int)) = _
  rw [indexOf_relabel L hs _ k hk]

theorem mapMeta_fixed (d : Int) (hd : d < 0) (L : List (Nat × Int)) (hs : SSorted L) (i : Nat) (t : Option Int) :
    mapMeta d (relabel 0 L) i (mapMeta d L i t) = mapMeta d L i t := by
  cases hk : indexOf (i, getTrack d t) L with
  | some k =>
    unfold mapMeta
    rw [hk]
    show (match indexOf (i, (k : Int)) (relabel 0 L) with
          | some k' => some (k' : Int)
          | none => some (k : Int)) = some (k : Int)
    rw [indexOf_relabel L hs _ k hk]
  | none =>
    -- the event keeps its entry; if that entry happens to be a pair of the new numbering it is mapped to itself
    simp only [mapMeta, hk]
    cases hk2 : indexOf (i, getTrack d t) (relabel 0 L) with
    | none => rfl
    | some j =>
      have hg := getElem?_of_indexOf hk2
      rw [relabel_getElem] at hg
      cases hx : L[j]? with
      | none => simp [hx] at hg
      | some x =>
        simp only [hx, Option.map_some, Option.some.injEq, Prod.mk.injEq, Nat.zero_add] at hg
        cases t with
        | none =>
          simp only [getTrack, Option.getD_none] at hg
          omega
        | some v =>
          simp only [getTrack, Option.getD_some] at hg
          simp [hg.2]

theorem sanitizePart_fixed (d : Int) (hd : d < 0) (L : List (Nat × Int)) (hs : SSorted L) (i : Nat) (pp : PPart)
    (hm : ∀ x ∈ pairsOf d i pp, x ∈ L) :
    sanitizePart d (relabel 0 L) i (sanitizePart d L i pp) = sanitizePart d L i pp := by
  have hmem : ∀ t ∈ pp.notes ++ pp.controls ++ pp.programs, (i, getTrack d t) ∈ L := by
    intro t ht
    exact hm _ (List.mem_map.mpr ⟨t, ht, rfl⟩)
  have hfix : ∀ l : List (Option Int), (∀ t ∈ l, t ∈ pp.notes ++ pp.controls ++ pp.programs) →
      (l.map (mapTrack d L i)).map (mapTrack d (relabel 0 L) i) = l.map (mapTrack d L i) := fun l hl => by
    rw [List.map_map]
    exact List.map_congr_left fun t ht => mapTrack_fixed d L hs i t (hmem t (hl t ht))
  simp only [sanitizePart, PPart.mk.injEq]
  refine ⟨hfix _ fun t ht => ?_, hfix _ fun t ht => ?_, hfix _ fun t ht => ?_, ?_⟩
  · simp [ht]
  · simp [ht]
  · simp [ht]
  · rw [List.map_map]
    exact List.map_congr_left fun t _ => mapMeta_fixed d hd L hs i t

theorem sanitizeFrom_fixed (d : Int) (hd : d < 0) (L : List (Nat × Int)) (hs : SSorted L) :
    ∀ (pps : List PPart) (s : Nat), (∀ x ∈ allPairs d s pps, x ∈ L) →
      sanitizeFrom d (relabel 0 L) s (sanitizeFrom d L s pps) = sanitizeFrom d L s pps := by
  intro pps
  induction pps with
  | nil => intro s _; rfl
  | cons pp pps ih =>
    intro s hm
    simp only [sanitizeFrom]
    rw [sanitizePart_fixed d hd L hs s pp (fun x hx => hm x (by simp [allPairs, hx])),
        ih (s + 1) (fun x hx => hm x (by simp [allPairs, hx]))]

theorem sanitizeWith_idem (d : Int) (hd : d < 0) (pps : List PPart) :
    sanitizeWith d (sanitizeWith d pps) = sanitizeWith d pps := by
  have h1 := trackIds_after d pps
  show sanitizeFrom d (trackIds d (sanitizeWith d pps)) 0 (sanitizeWith d pps) = sanitizeWith d pps
  rw [h1]
  exact sanitizeFrom_fixed d hd _ (sortedSet_sorted _) pps 0 (fun x hx => (mem_sortedSet _ x).mpr hx)

end C20San
