/-
C01 helper lemmas: what an accepted operation keeps of the part (`Keeps`: each invariant under its condition on the
arguments), the `TimePoint` methods called directly (`tpRegister`, `tpUnregister`), the Slur setters, the ghost
`allowEmpty`, and the argument conventions of Model/TimelineX.lean.
-/
import PartituraModel.Proofs.C01Cache
import Mathlib.Algebra.Order.Floor.Ring
import Mathlib.Data.Rat.Floor

namespace TL

/-- what an accepted operation keeps of the part, each invariant under its condition on the arguments: the
invariant of all histories (`qd`: quarter durations are set at times `≥ 0`), the class ids (`cls`: the objects
handed over are of timed classes), the full invariant (`valid`) -/
structure Keeps (s s' : Part) (qd cls valid : Prop) : Prop where
  winv : WInv s → qd → WInv s'
  clsOk : ClsOk s → cls → ClsOk s'
  inv : Inv s → valid → Inv s'

theorem Keeps.rfl {s : Part} {qd cls valid : Prop} : Keeps s s qd cls valid :=
  ⟨fun h _ => h, fun h _ => h, fun h _ => h⟩

theorem step_keeps {s s' : Part} {out : Out} {op : Op} (he : step s op = .ok (s', out)) :
    Keeps s s' (QDNonneg op) op.clsOk (Valid s op) :=
  ⟨fun h hq => wstep_preserves h hq he, fun h ho => step_clsOk h ho he, fun h hv => step_preserves h hv he⟩

/-- `allowEmpty` writes the ghost only: `t` is recorded when the point at `t` is empty -/
theorem allowEmpty_eq (s : Part) (t : Int) :
    ∃ r, allowEmpty s t = { s with requested := r }
      ∧ ∀ x, x ∈ r ↔ x ∈ s.requested
          ∨ (x = t ∧ ∃ p, findPoint s.points t = some p ∧ p.starting.length + p.ending.length = 0) := by
  unfold allowEmpty
  cases hf : findPoint s.points t with
  | none => exact ⟨s.requested, rfl, fun x => ⟨Or.inl, fun h => h.elim id fun ⟨_, p, hp, _⟩ => by cases hp⟩⟩
  | some p =>
    simp only
    split
    · rename_i hc
      exact ⟨_, rfl, fun x => by
        rw [List.mem_append, List.mem_singleton]
        exact or_congr_right ⟨fun h => ⟨h, p, rfl, hc.1⟩, fun h => h.1⟩⟩
    · rename_i hc
      refine ⟨s.requested, rfl, fun x => ⟨Or.inl, ?_⟩⟩
      rintro (h | ⟨rfl, p', hp', he⟩)
      · exact h
      · cases hp'
        exact Decidable.by_contra fun hx => hc ⟨he, hx⟩

theorem allowEmpty_points (s : Part) (t : Int) : (allowEmpty s t).points = s.points := by
  obtain ⟨r, e, -⟩ := allowEmpty_eq s t; rw [e]

theorem allowEmpty_objs (s : Part) (t : Int) : (allowEmpty s t).objs = s.objs := by
  obtain ⟨r, e, -⟩ := allowEmpty_eq s t; rw [e]

theorem allowEmpty_qtab (s : Part) (t : Int) : (allowEmpty s t).qtab = s.qtab := by
  obtain ⟨r, e, -⟩ := allowEmpty_eq s t; rw [e]

theorem allowEmpty_times (s : Part) (t : Int) : (allowEmpty s t).times = s.times := by
  unfold Part.times; rw [allowEmpty_points]

theorem listed_allowEmpty (s : Part) (t : Int) (sd : Side) (x : Int) (o : ObjRef) :
    Listed (allowEmpty s t) sd x o ↔ Listed s sd x o := by
  unfold Listed; rw [allowEmpty_points]

theorem strict_allowEmpty (s : Part) (t : Int) : Strict (allowEmpty s t) ↔ Strict s := by
  unfold Strict; rw [allowEmpty_points, allowEmpty_objs]

/-- a point that is the only one allowed to be empty may be recorded in the ghost instead -/
theorem allowEmpty_wcore {s : Part} {t : Int} (h : WCore (some t) s) : WCore none (allowEmpty s t) := by
  obtain ⟨r, e, hr⟩ := allowEmpty_eq s t
  rw [e]
  refine { h with nonempty := fun p hp => ?_, requestedOn := fun x hx => ?_ }
  · rcases h.nonempty p hp with a | a | a | a
    · exact Or.inl a
    · exact Or.inr (Or.inl a)
    · exact Or.inr (Or.inr (Or.inl ((hr _).mpr (Or.inl a))))
    · -- the point at `t`: listed somewhere, or empty and now recorded
      have hpt : p.t = t := Option.some.inj a
      by_cases he : p.starting.length + p.ending.length = 0
      · exact Or.inr (Or.inr (Or.inl ((hr _).mpr (Or.inr ⟨hpt, p, hpt ▸ findPoint_of_mem h.sorted hp, he⟩))))
      · by_cases hs : p.starting = []
        · exact Or.inr (Or.inl fun hn => he (by simp [hs, hn]))
        · exact Or.inl hs
  · rcases (hr x).mp hx with a | ⟨rfl, p, hp, -⟩
    · exact h.requestedOn x a
    · exact List.mem_map.mpr ⟨p, (findPoint_mem hp).1, (findPoint_mem hp).2⟩

theorem tpRegister_eq (s : Part) (sd : Side) (t : Int) (o : ObjRef) : tpRegister s sd t o = register s sd t o := rfl

theorem tpUnregister_eq (s : Part) (sd : Side) (t : Int) (o : ObjRef) :
    tpUnregister s sd t o = allowEmpty (unregister s sd t o) t := rfl

theorem tpRegister_winv {s : Part} (h : WInv s) {sd : Side} {t : Int} (o : ObjRef) (ht : t ∈ s.times) :
    WInv (tpRegister s sd t o) :=
  (winv_iff _).mpr ⟨register_winv (h.core.weaken (some t)) ht, (register_links s sd t o).mpr h.links⟩

theorem tpUnregister_winv {s : Part} (h : WInv s) (sd : Side) (t : Int) (o : ObjRef) :
    WInv (tpUnregister s sd t o) := by
  rw [tpUnregister_eq]
  refine (winv_iff _).mpr ⟨allowEmpty_wcore (unregister_winv h.core), ?_⟩
  rw [allowEmpty_points]
  exact (unregister_links s sd t o).mpr h.links

theorem tpRegister_inv {s : Part} (h : Inv s) {sd : Side} {t : Int} {o : ObjRef} (ht : t ∈ s.times)
    (hfree : (getObj s.objs o).at sd = none) : Inv (tpRegister s sd t o) :=
  (inv_iff_winv_strict _).mpr ⟨tpRegister_winv h.toWInv o ht,
    strict_register (h.toWInv.core.weaken (some t)) ht h.strict hfree⟩

theorem tpUnregister_inv {s : Part} (h : Inv s) {sd : Side} {t : Int} {o : ObjRef}
    (hat : (getObj s.objs o).at sd = some t) : Inv (tpUnregister s sd t o) :=
  (inv_iff_winv_strict _).mpr ⟨tpUnregister_winv h.toWInv sd t o,
    (strict_allowEmpty _ _).mpr (strict_unregister h.toWInv.core h.strict hat)⟩

/-- the listings after `tp.remove_*_object(o)`: the one AT `t` is gone, nothing else -/
theorem tpUnregister_listed {s : Part} (hs : s.times.Pairwise (· < ·)) (sd : Side) (t : Int) (o : ObjRef)
    (sd' : Side) (x : Int) (o' : ObjRef) :
    Listed (tpUnregister s sd t o) sd' x o' ↔ Listed s sd' x o' ∧ ¬ (o' = o ∧ sd' = sd ∧ x = t) := by
  rw [tpUnregister_eq, listed_allowEmpty, unregister_listed hs]

/-- the references after `tp.remove_*_object(o)`: `o`'s side is cleared WHATEVER it was -/
theorem tpUnregister_refs (s : Part) (sd : Side) (t : Int) (o : ObjRef)
    (sd' : Side) (o' : ObjRef) :
    (getObj (tpUnregister s sd t o).objs o').at sd'
      = if o' = o ∧ sd' = sd then none else (getObj s.objs o').at sd' := by
  rw [tpUnregister_eq, allowEmpty_objs]
  exact getObj_setAt sd o none sd' o'

theorem tpRegister_refs (s : Part) (sd : Side) (t : Int) (o : ObjRef)
    (sd' : Side) (o' : ObjRef) :
    (getObj (tpRegister s sd t o).objs o').at sd'
      = if o' = o ∧ sd' = sd then some t else (getObj s.objs o').at sd' :=
  getObj_setAt sd o (some t) sd' o'

theorem tpRegister_clsOk {s : Part} (hc : ClsOk s) (sd : Side) (t : Int) {o : ObjRef} (ho : o.cls < Gen.numClasses) :
    ClsOk (tpRegister s sd t o) :=
  clsOk_setObj (f := fun e => e.setAt sd (some t)) (fun e => by simp) hc ho

theorem tpUnregister_clsOk {s : Part} (hc : ClsOk s) (sd : Side) (t : Int) {o : ObjRef} (ho : o.cls < Gen.numClasses) :
    ClsOk (tpUnregister s sd t o) := by
  unfold ClsOk
  rw [tpUnregister, allowEmpty_objs]
  exact clsOk_setObj (f := fun e => e.setAt sd none) (fun e => by simp) hc ho

/-- `tp.add_*_object(o)` on an existing point keeps the full invariant when that side of `o` is free -/
theorem tpRegister_keeps {s : Part} {sd : Side} {t : Int} {o : ObjRef} {qd : Prop} (ht : t ∈ s.times) :
    Keeps s (tpRegister s sd t o) qd (o.cls < Gen.numClasses) ((getObj s.objs o).at sd = none) :=
  ⟨fun h _ => tpRegister_winv h o ht, fun h ho => tpRegister_clsOk h sd t ho, fun h hv => tpRegister_inv h ht hv⟩

/-- `tp.remove_*_object(o)` keeps the full invariant when `tp` is the point `o` refers to -/
theorem tpUnregister_keeps {s : Part} {sd : Side} {t : Int} {o : ObjRef} {qd : Prop} :
    Keeps s (tpUnregister s sd t o) qd (o.cls < Gen.numClasses) ((getObj s.objs o).at sd = some t) :=
  ⟨fun h _ => tpUnregister_winv h sd t o, fun h ho => tpUnregister_clsOk h sd t ho, fun h hv => tpUnregister_inv h hv⟩

theorem slurSetStart_keeps {s : Part} {slur : ObjRef} {qd : Prop} :
    Keeps s (slurSetStart s slur) qd (slur.cls < Gen.numClasses) True := by
  unfold slurSetStart
  split
  · rename_i t ht
    exact ⟨tpUnregister_keeps.winv, tpUnregister_keeps (qd := qd).clsOk, fun h _ => tpUnregister_keeps (qd := qd).inv h ht⟩
  · exact .rfl

theorem slurSetEnd_keeps {s : Part} {slur note : ObjRef} {qd : Prop} :
    Keeps s (slurSetEnd s slur note) qd (slur.cls < Gen.numClasses) True := by
  unfold slurSetEnd
  -- first the slur leaves the point where it ends, so that its end is free; then it joins the point where the note ends
  have h1 : Keeps s (match (getObj s.objs slur).stop with
        | some t => tpUnregister s .stop t slur
        | none => s) qd (slur.cls < Gen.numClasses) True
      ∧ (Inv s → (getObj (match (getObj s.objs slur).stop with
        | some t => tpUnregister s .stop t slur
        | none => s).objs slur).at .stop = none) := by
    split
    · rename_i t ht
      exact ⟨⟨tpUnregister_keeps.winv, tpUnregister_keeps (qd := qd).clsOk,
        fun h _ => tpUnregister_keeps (qd := qd).inv h ht⟩, fun h => by rw [tpUnregister_refs]; simp⟩
    · rename_i hn
      exact ⟨.rfl, fun _ => hn⟩
  simp only
  split
  · rename_i t' ht'
    have hmem := fun {s1 : Part} (hW : WInv s1) (h : (getObj s1.objs note).stop = some t') =>
      hW.core.getObj_refOn .stop note h
    exact ⟨fun h hq => tpRegister_winv (h1.1.winv h hq) slur (hmem (h1.1.winv h hq) ht'),
      fun h ho => tpRegister_clsOk (h1.1.clsOk h ho) _ _ ho,
      fun h _ => tpRegister_inv (h1.1.inv h trivial) (hmem (h1.1.inv h trivial).toWInv ht') (h1.2 h)⟩
  · exact h1.1

/-- `searchsortedQ` at a real bound is `searchsorted` at any integer with the same integers below it -/
theorem searchsortedQ_eq (ts : List Int) (x : Rat) (k : Int) (hk : ∀ y : Int, (y : Rat) < x ↔ y < k) :
    searchsortedQ ts x = searchsorted ts k := by
  induction ts with
  | nil => rfl
  | cons y ys ih =>
    simp only [searchsortedQ, searchsorted, ih]
    by_cases h : y < k
    · simp [h, (hk y).mpr h]
    · have : ¬ (y : Rat) < x := fun hc => h ((hk y).mp hc)
      simp [h, this]

theorem lt_iff_lt_ceil (x : Rat) (y : Int) : (y : Rat) < x ↔ y < ⌈x⌉ := Int.lt_ceil.symm

theorem searchsortedQ_ceil (ts : List Int) (x : Rat) : searchsortedQ ts x = searchsorted ts ⌈x⌉ :=
  searchsortedQ_eq ts x ⌈x⌉ (lt_iff_lt_ceil x)

theorem searchsortedQ_int (ts : List Int) (k : Int) : searchsortedQ ts (k : Rat) = searchsorted ts k :=
  searchsortedQ_eq ts k k (fun y => by exact_mod_cast Iff.rfl)

/-- `iter_all` with the bounds as reals (any accepted form), mode and flag already decoded -/
def iterAllQ (s : Part) (cls : Option Nat) (a b : Option Rat) (incl : Bool) (mode : Mode) : List ObjRef :=
  let si := startIdxQ s.points a
  let ei := endIdxQ s.points b
  ((s.points.drop si).take (ei - si)).flatMap fun p => iterReg (p.reg mode.side) cls (inclEff cls incl)

theorem iterAllQ_eq_ceil (s : Part) (cls : Option Nat) (a b : Option Rat) (incl : Bool) (mode : Mode) :
    iterAllQ s cls a b incl mode = iterAll s cls (a.map Int.ceil) (b.map Int.ceil) incl mode := by
  unfold iterAllQ iterAll
  have h1 : startIdxQ s.points a = startIdx s.points (a.map Int.ceil) := by
    cases a <;> simp [startIdxQ, startIdx, searchsortedQ_ceil]
  have h2 : endIdxQ s.points b = endIdx s.points (b.map Int.ceil) := by
    cases b <;> simp [endIdxQ, endIdx, searchsortedQ_ceil]
  rw [h1, h2]

theorem whichSides_default : whichSides none = (true, true) := by decide
theorem whichSides_start : whichSides (some "start") = (true, false) := by decide
theorem whichSides_end : whichSides (some "end") = (false, true) := by decide
theorem whichSides_both : whichSides (some "both") = (true, true) := by decide

theorem whichSides_other (w : String) (h1 : w ≠ "start") (h2 : w ≠ "end") (h3 : w ≠ "both") :
    whichSides (some w) = (false, false) := by
  simp [whichSides, Gen.C01Sig.removeStartWhich, Gen.C01Sig.removeEndWhich, Gen.C01Sig.removeUnknownStart,
    Gen.C01Sig.removeUnknownEnd, h1, h2, h3]

theorem modeOfString_ending : modeOfString "ending" = .ending := by decide
theorem modeOfString_starting : modeOfString "starting" = .starting := by decide

theorem modeOfString_other (m : String) (h1 : m ≠ "ending") : (modeOfString m).side = .start := by
  unfold modeOfString
  simp only [Gen.C01Sig.iterAllEndingModes, Gen.C01Sig.iterAllStartingModes, Gen.C01Sig.iterAllUnknownModeEnding,
    List.mem_singleton, h1, if_false]
  split <;> rfl

theorem iterAllX_eq (s : Part) (cls : Option Nat) (a b : Bound) (incl : Option Bool) (mode : Option String) :
    iterAllX s cls a b incl mode
      = iterAllQ s cls a.key b.key (incl.getD false) (modeOfString (mode.getD "starting")) := by
  cases a <;> cases b <;> rfl

end TL
