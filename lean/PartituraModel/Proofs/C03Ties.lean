/-
C03 — the importer's pairing of ties by pitch (Model/RangeNumbers.lean `readTies`, with
fixes/C03-12) recovers the tie links of the score.
-/
import PartituraModel.Model.RangeNumbers
import Mathlib.Data.List.Nodup

namespace C03.Ties
open Model.Ranges

/-- `A` comes before `B` in the document -/
def Before (A B : TieNote) (ns : List TieNote) : Prop := ∃ l1 l2 l3, ns = l1 ++ A :: l2 ++ B :: l3

def entry (A : TieNote) : Int × Nat × Nat := (A.pitch, A.note, A.stop)

/-- the open tied notes together with the notes still to come that carry a start -/
def pool (o : OpenTies) (ns : List TieNote) : List (Int × Nat × Nat) := o ++ (ns.filter (·.hasStart)).map entry

/-- What is known when the notes `n :: rest` are still to come, the notes in `o` are open and the links `L` are
    still to be made; `stopDone` says that the stop of `n` has been dealt with already. -/
structure Inv (stopDone : Bool) (o : OpenTies) (L : List (Nat × Nat)) (n : TieNote) (rest : List TieNote) : Prop where
  /-- identities are distinct, also against the open notes -/
  ids : ((o.map (·.2.1)) ++ (n :: rest).map (·.note)).Nodup
  /-- the links to be made end at the notes that carry a stop, in document order -/
  stops : L.map (·.2) = ((if stopDone then rest else n :: rest).filter (·.hasStop)).map (·.note)
  /-- no note is continued twice -/
  once : (L.map (·.1)).Nodup
  /-- the first note of a link is open already, or comes before the second one and carries a start; it has the
      pitch of the second one and ends where that starts -/
  link : ∀ ab ∈ L, ∃ B ∈ n :: rest, B.note = ab.2 ∧
    ((B.pitch, ab.1, B.start) ∈ o ∨
      ∃ A, A.note = ab.1 ∧ A.hasStart = true ∧ A.pitch = B.pitch ∧ A.stop = B.start ∧ Before A B (n :: rest))
  /-- among the open notes and the notes that carry a start, no two of one pitch end at the same time -/
  apart : ∀ e ∈ pool o (n :: rest), ∀ e' ∈ pool o (n :: rest), e.1 = e'.1 → e.2.2 = e'.2.2 → e = e'

theorem removeFirst_eq_erase (x : Int × Nat × Nat) : ∀ o : OpenTies, removeFirst x o = o.erase x
  | [] => rfl
  | y :: ys => by
    rw [removeFirst, List.erase_cons, removeFirst_eq_erase x ys]
    by_cases h : y = x <;> simp [h]

theorem pickTie_spec {o : OpenTies} {pitch : Int} {a pos : Nat} (hm : (pitch, a, pos) ∈ o)
    (hun : ∀ e ∈ o, e.1 = pitch → e.2.2 = pos → e = (pitch, a, pos)) :
    pickTie pitch pos o = some (pitch, a, pos) := by
  unfold pickTie
  simp only
  have hc : (pitch, a, pos) ∈ o.filter fun e => e.1 == pitch := List.mem_filter.mpr ⟨hm, by simp⟩
  cases hf : (o.filter fun e => e.1 == pitch).find? (fun e => e.2.2 == pos) with
  | none =>
    rw [List.find?_eq_none] at hf
    exact absurd (by simp) (hf _ hc)
  | some e =>
    have he := List.find?_some hf
    have hem := List.mem_of_find?_eq_some hf
    obtain ⟨heo, hep⟩ := List.mem_filter.mp hem
    simp only [Option.some.injEq]
    exact hun e heo (by simpa using hep) (by simpa using he)

theorem note_notin_rest {so : Bool} {o : OpenTies} {L : List (Nat × Nat)} {n : TieNote} {rest : List TieNote}
    (h : Inv so o L n rest) : n.note ∉ rest.map (·.note) ∧ n.note ∉ o.map (·.2.1) := by
  have h1 := (List.nodup_append.mp h.ids).2.1
  simp only [List.map_cons, List.nodup_cons] at h1
  refine ⟨h1.1, ?_⟩
  intro hc
  exact (List.nodup_append.mp h.ids).2.2 _ hc n.note (by simp) rfl

theorem not_before_head {A n : TieNote} {rest : List TieNote} (hn : n.note ∉ rest.map (·.note))
    (h : Before A n (n :: rest)) : False := by
  obtain ⟨l1, l2, l3, hbef⟩ := h
  apply hn
  cases l1 with
  | nil =>
    simp only [List.nil_append, List.cons_append, List.cons.injEq] at hbef
    rw [hbef.2]; simp
  | cons x xs =>
    simp only [List.cons_append, List.cons.injEq] at hbef
    rw [hbef.2]; simp

/-- the stop of the first note: the next link is made with the right open note -/
theorem stop_phase {o : OpenTies} {L : List (Nat × Nat)} {n : TieNote} {rest : List TieNote}
    (h : Inv false o L n rest) (hs : n.hasStop = true) :
    ∃ a L', L = (a, n.note) :: L' ∧ pickTie n.pitch n.start o = some (n.pitch, a, n.start) ∧
      Inv true (removeFirst (n.pitch, a, n.start) o) L' n rest := by
  obtain ⟨hnr, hno⟩ := note_notin_rest h
  have hst := h.stops
  simp only [Bool.false_eq_true, if_false, List.filter_cons, hs, if_true, List.map_cons] at hst
  obtain ⟨ab, L', hL⟩ : ∃ ab L', L = ab :: L' := by
    cases L with
    | nil => simp at hst
    | cons ab L' => exact ⟨ab, L', rfl⟩
  subst hL
  simp only [List.map_cons, List.cons.injEq] at hst
  obtain ⟨hab2, hst'⟩ := hst
  obtain ⟨a, b⟩ := ab
  simp only at hab2
  subst hab2
  obtain ⟨B, hB, hBn, hlink⟩ := h.link (a, n.note) (List.mem_cons_self ..)
  have hBeq : B = n := by
    rcases List.mem_cons.mp hB with h' | h'
    · exact h'
    · exact absurd (List.mem_map.mpr ⟨B, h', hBn⟩) hnr
  subst hBeq
  have hopen : (B.pitch, a, B.start) ∈ o := by
    rcases hlink with h' | ⟨A, _, _, _, _, hbef⟩
    · exact h'
    · exact (not_before_head hnr hbef).elim
  have hun : ∀ e ∈ o, e.1 = B.pitch → e.2.2 = B.start → e = (B.pitch, a, B.start) := by
    intro e he hp hstop
    exact h.apart e (List.mem_append_left _ he) _ (List.mem_append_left _ hopen) hp hstop
  refine ⟨a, L', rfl, pickTie_spec hopen hun, ?_⟩
  have hsub : (removeFirst (B.pitch, a, B.start) o).Sublist o := removeFirst_eq_erase _ o ▸ List.erase_sublist
  have honce := h.once
  simp only [List.map_cons, List.nodup_cons] at honce
  refine ⟨?_, by simpa using hst', honce.2, ?_, ?_⟩
  · exact h.ids.sublist ((hsub.map _).append_right _)
  · intro ab' hab'
    obtain ⟨B', hB', hBn', hlink'⟩ := h.link ab' (List.mem_cons_of_mem _ hab')
    refine ⟨B', hB', hBn', ?_⟩
    rcases hlink' with h' | h'
    · left
      rw [removeFirst_eq_erase]
      refine (List.mem_erase_of_ne ?_).mpr h'
      intro heq
      simp only [Prod.mk.injEq] at heq
      exact honce.1 (heq.2.1 ▸ List.mem_map.mpr ⟨ab', hab', rfl⟩)
    · exact Or.inr h'
  · intro e he e' he'
    have hmono : ∀ x ∈ pool (removeFirst (B.pitch, a, B.start) o) (B :: rest), x ∈ pool o (B :: rest) := by
      intro x hx
      rcases List.mem_append.mp hx with hx | hx
      · exact List.mem_append_left _ (hsub.subset hx)
      · exact List.mem_append_right _ hx
    exact h.apart e (hmono e he) e' (hmono e' he')

/-- the start of the first note: it becomes an open note -/
theorem start_phase {o : OpenTies} {L : List (Nat × Nat)} {n : TieNote} {rest : List TieNote}
    (h : Inv true o L n rest) :
    ∀ m rest', rest = m :: rest' → Inv false (if n.hasStart then o ++ [entry n] else o) L m rest' := by
  intro m rest' hrest
  subst hrest
  obtain ⟨hnr, hno⟩ := note_notin_rest h
  have hstops := h.stops
  simp only [if_true] at hstops
  refine ⟨?_, by simpa using hstops, h.once, ?_, ?_⟩
  · -- identities
    have hids := h.ids
    by_cases hst : n.hasStart = true
    · simp only [hst, if_true, List.map_append, List.map_cons, List.map_nil, entry]
      have : ((o.map (·.2.1)) ++ (n :: m :: rest').map (·.note)).Perm
          ((o.map (·.2.1) ++ [n.note]) ++ (m :: rest').map (·.note)) := by
        simp
      exact this.nodup_iff.mp hids
    · simp only [hst, Bool.false_eq_true, if_false]
      refine hids.sublist ?_
      exact List.Sublist.append_left (List.sublist_cons_self _ _) _
  · -- links
    intro ab hab
    obtain ⟨B, hB, hBn, hlink⟩ := h.link ab hab
    have hBrest : B ∈ m :: rest' := by
      rcases List.mem_cons.mp hB with h' | h'
      · exfalso
        subst h'
        have : ab.2 ∈ (m :: rest').map (·.note) := by
          have : ab.2 ∈ L.map (·.2) := List.mem_map.mpr ⟨ab, hab, rfl⟩
          rw [hstops] at this
          obtain ⟨x, hx, hxe⟩ := List.mem_map.mp this
          exact List.mem_map.mpr ⟨x, (List.mem_filter.mp hx).1, hxe⟩
        rw [← hBn] at this
        exact hnr this
      · exact h'
    refine ⟨B, hBrest, hBn, ?_⟩
    rcases hlink with h' | ⟨A, hA1, hA2, hA3, hA4, l1, l2, l3, hbef⟩
    · left
      by_cases hst : n.hasStart = true
      · simp only [hst, if_true]; exact List.mem_append_left _ h'
      · simp only [hst, Bool.false_eq_true, if_false]; exact h'
    · cases l1 with
      | nil =>
        -- the first note of the link is `n` itself
        simp only [List.nil_append, List.cons_append, List.cons.injEq] at hbef
        obtain ⟨hAn, _⟩ := hbef
        subst hAn
        left
        simp only [hA2, if_true]
        apply List.mem_append_right
        simp [entry, hA1, hA3, hA4]
      | cons x xs =>
        simp only [List.cons_append, List.cons.injEq] at hbef
        exact Or.inr ⟨A, hA1, hA2, hA3, hA4, xs, l2, l3, hbef.2⟩
  · -- the pool has the same members as before
    have hmono : ∀ x ∈ pool (if n.hasStart then o ++ [entry n] else o) (m :: rest'), x ∈ pool o (n :: m :: rest') := by
      intro x hx
      unfold pool at hx ⊢
      have hsplit : (n :: m :: rest').filter (·.hasStart) =
          (if n.hasStart then [n] else []) ++ (m :: rest').filter (·.hasStart) := by
        rw [List.filter_cons]; split <;> simp
      rw [hsplit, List.map_append]
      by_cases hst : n.hasStart = true
      · simp only [hst, if_true, List.append_assoc] at hx
        simp only [hst, if_true, List.map_cons, List.map_nil]
        exact hx
      · simp only [hst, Bool.false_eq_true, if_false] at hx
        simp only [hst, Bool.false_eq_true, if_false, List.map_nil, List.nil_append]
        exact hx
    intro e he e' he'
    exact h.apart e (hmono e he) e' (hmono e' he')

theorem skip_stop {o : OpenTies} {L : List (Nat × Nat)} {n : TieNote} {rest : List TieNote}
    (h : Inv false o L n rest) (hs : n.hasStop = false) : Inv true o L n rest :=
  ⟨h.ids, by have := h.stops; simpa [List.filter_cons, hs] using this, h.once, h.link, h.apart⟩

/-- one note: the links it makes are the next ones of `L`, and the invariant passes to the next note -/
theorem tieStep_inv {o : OpenTies} {L : List (Nat × Nat)} {n : TieNote} {rest : List TieNote} (h : Inv false o L n rest) :
    ∃ o' pre L', L = pre ++ L' ∧ (∀ acc, tieStep (o, acc) n = (o', acc ++ pre)) ∧
      (∀ m rest', rest = m :: rest' → Inv false o' L' m rest') ∧ (rest = [] → L' = []) := by
  by_cases hs : n.hasStop = true
  · obtain ⟨a, L', hL, hpick, h'⟩ := stop_phase h hs
    refine ⟨_, [(a, n.note)], L', hL, fun acc => ?_, start_phase h', fun hr => ?_⟩
    · simp only [tieStep, hs, if_true, hpick, entry]
    · have := h'.stops; subst hr; simpa using this
  · have hs' : n.hasStop = false := by simpa using hs
    have h' := skip_stop h hs'
    refine ⟨_, [], L, rfl, fun acc => ?_, start_phase h', fun hr => ?_⟩
    · simp only [tieStep, hs', Bool.false_eq_true, if_false, entry, List.append_nil]
    · have := h'.stops; subst hr; simpa using this

theorem readTies_spec : ∀ (rest : List TieNote) (n : TieNote) (o : OpenTies) (L acc : List (Nat × Nat)),
    Inv false o L n rest → ((n :: rest).foldl tieStep (o, acc)).2 = acc ++ L := by
  intro rest
  induction rest with
  | nil =>
    intro n o L acc h
    obtain ⟨o', pre, L', rfl, hstep, _, hnil⟩ := tieStep_inv h
    simp [hstep, hnil rfl]
  | cons m rest' ih =>
    intro n o L acc h
    obtain ⟨o', pre, L', rfl, hstep, hnext, _⟩ := tieStep_inv h
    rw [List.foldl_cons, hstep, ih m o' L' _ (hnext m rest' rfl), List.append_assoc]

end C03.Ties
