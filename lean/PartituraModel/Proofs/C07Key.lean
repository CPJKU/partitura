/-
C07 — key names as texts.  Every key name of the tables is a step letter with at most one accidental
(`Shape`); the 1.0.0 spelling appends `m` for minor, the 0.3.0 spelling ` Maj` / ` min`.  What
`parseKey1` and `decKey` do with a text of either spelling, alone or as a double key `X/Y`, is proved here
for all shapes, so that the key tables themselves are only consulted once per key (`Named`).
-/
import PartituraModel.Model.MatchCodec
import PartituraModel.Proofs.C07Codec
import Mathlib.Data.List.Basic

namespace C07Key
open Model Model.MatchCodec

def steps : Str := "ABCDEFG".toList
def alts : List Str := [[], ['#'], ['b']]

/-- a step letter with at most one accidental -/
def Shape (n : Str) : Prop := ∃ c ∈ steps, ∃ al ∈ alts, n = c :: al

def sfx : Mode → Str
  | .major => []
  | .minor => ['m']

def word : Mode → Str
  | .major => "Maj".toList
  | .minor => "min".toList

/-- the 1.0.0 and the 0.3.0 spelling of the key with name `n` and mode `m` -/
def v100 (n : Str) (m : Mode) : Str := n ++ sfx m
def v030 (n : Str) (m : Mode) : Str := n ++ ' ' :: word m

/-- what the tables say of the key `fm`: its name is `n`, and the 1.0.0 spelling of `n` is read as `fm` -/
def Named (fm : Int × Mode) (n : Str) : Prop :=
  Shape n ∧ keyAt fm.1 fm.2 = some n ∧ keyNameV100 fm.1 fm.2 = some (v100 n fm.2) ∧
    keyOfName (v100 n fm.2) = some fm

instance (n : Str) : Decidable (Shape n) := by unfold Shape; infer_instance
instance (fm : Int × Mode) (n : Str) : Decidable (Named fm n) := by unfold Named; infer_instance

-- What the character-level functions make of the 21 shapes in either mode is finite and evaluated
-- (`v100_facts`, `v030_chars`, `v030_facts`, `second_pair`, `steps_facts`); what follows from it is proved.
theorem v100_facts (m : Mode) : ∀ c ∈ steps, ∀ al ∈ alts, isV1KeyName (v100 (c :: al) m) = true ∧
    capFirst (v100 (c :: al) m) = v100 (c :: al) m ∧ ∀ x ∈ v100 (c :: al) m, x ≠ '/' ∧ (x ≠ ',' ∧ x ≠ '\n') ∧ isWs x = false := by
  cases m <;> decide +kernel

theorem parseKey1_v100 (a : Str) (fa : Int × Mode) (h : isV1KeyName a = true) (hs : ∀ x ∈ a, x ≠ '/')
    (hk : keyOfName (capFirst a) = some fa) : parseKey1 a = some ⟨fa.1, fa.2, none⟩ := by
  simp only [parseKey1, isV1KeySpelling, C07Codec.splitOn_no_sep '/' a hs, h, if_true, hk, Option.map_some]

theorem parseKey1_v100_pair (a b : Str) (fa fb : Int × Mode) (ha : isV1KeyName a = true) (hb : isV1KeyName b = true)
    (hsa : ∀ x ∈ a, x ≠ '/') (hsb : ∀ x ∈ b, x ≠ '/') (hka : keyOfName (capFirst a) = some fa)
    (hkb : keyOfName (capFirst b) = some fb) : parseKey1 (a ++ '/' :: b) = some ⟨fa.1, fa.2, some fb⟩ := by
  have hsp : splitOn '/' (a ++ '/' :: b) = [a, b] := by
    rw [C07Codec.splitOn_append _ _ _ hsa, C07Codec.splitOn_no_sep _ _ hsb]
  simp only [parseKey1, isV1KeySpelling, hsp, ha, hb, Bool.and_self, if_true, hka, hkb]

/-- the groups `key_signature_pattern` finds behind the first mode word -/
def second (u : Str) : Str × Str × Str :=
  let t1 := u.dropWhile (· = '/')
  let t2 := t1.dropWhile (fun d => 'A' ≤ d && d ≤ 'G')
  (t1.takeWhile (fun d => 'A' ≤ d && d ≤ 'G'), t2.takeWhile isSharpFlat,
    ((t2.dropWhile isSharpFlat).dropWhile isWs).takeWhile isAz)

theorem v030_chars (m : Mode) : (∀ c ∈ steps, ('A' ≤ c && c ≤ 'G') = true ∧ c.toUpper = c) ∧
    (∀ al ∈ alts, ∀ x ∈ al, isSharpFlat x = true) ∧ (∀ x ∈ word m, isAz x = true) ∧
    (word m).isEmpty = false ∧ isMinorWord (word m) = (m == .minor) := by
  cases m <;> decide +kernel

/-- the pattern matches a name in the 0.3.0 spelling at once, whatever follows the mode word -/
theorem matchKeyPatAt_v030 (c : Char) (al u : Str) (m : Mode) (hc : c ∈ steps) (hal : al ∈ alts)
    (hu : ∀ y ∈ u.head?, isAz y = false) :
    matchKeyPatAt (v030 (c :: al) m ++ u) = some (c, al, word m, (second u).1, (second u).2.1, (second u).2.2) := by
  have e : v030 (c :: al) m ++ u = c :: (al ++ ' ' :: (word m ++ u)) := by simp [v030]
  rw [e]
  obtain ⟨hst, hsf, haz, hne, _⟩ := v030_chars m
  have ha : (al ++ ' ' :: (word m ++ u)).takeWhile isSharpFlat = al :=
    Lists.takeWhile_stop (hsf al hal) (by decide)
  have hd : ((al ++ ' ' :: (word m ++ u)).drop al.length).dropWhile isWs = word m ++ u := by
    rw [List.drop_left]
    cases m <;> rfl
  have hm : (word m ++ u).takeWhile isAz = word m ∧ (word m ++ u).dropWhile isAz = u :=
    ⟨Lists.takeWhile_run haz hu, Lists.dropWhile_run haz hu⟩
  simp only [matchKeyPatAt, (hst c hc).1, Bool.not_true, Bool.false_eq_true, if_false, ha, hd, hm.1, hm.2, hne, second]

theorem second_pair (m : Mode) : ∀ d ∈ steps, ∀ bl ∈ alts,
    second ('/' :: v030 (d :: bl) m) = ([d], bl, word m) := by
  cases m <;> decide +kernel

theorem v030_facts (m : Mode) : ∀ c ∈ steps, ∀ al ∈ alts, isV1KeyName (v030 (c :: al) m) = false ∧
    (∀ x ∈ (v030 (c :: al) m).getLast?, isWs x = false) ∧ ∀ x ∈ v030 (c :: al) m, x ≠ '/' ∧ x ≠ ',' ∧ x ≠ '\n' := by
  cases m <;> decide +kernel

/-- the name the parser puts together from the groups step, accidentals, mode word -/
theorem name_of_groups (c : Char) (al : Str) (m : Mode) (hc : c ∈ steps) :
    c.toUpper :: (al ++ if isMinorWord (word m) = true then ['m'] else []) = v100 (c :: al) m := by
  rw [((v030_chars m).1 c hc).2, (v030_chars m).2.2.2.2]
  cases m <;> simp [v100, sfx]

/-- a text the 1.0.0 pattern rejects and the key pattern matches at its head is read from the groups -/
theorem parseKey1_groups (s : Str) (c : Char) (al w d bl v : Str) (fm : Int × Mode) (h1 : isV1KeySpelling s = false)
    (h2 : matchKeyPatAt s = some (c, al, w, d, bl, v))
    (hk : keyOfName (c.toUpper :: (al ++ if isMinorWord w then ['m'] else [])) = some fm) :
    parseKey1 s = if d.isEmpty then some ⟨fm.1, fm.2, none⟩ else
      (keyOfName (upperS d ++ bl ++ if isMinorWord v then ['m'] else [])).map fun fm2 => ⟨fm.1, fm.2, some fm2⟩ := by
  have h3 : searchKeyPat s = some (c, al, w, d, bl, v) := by
    cases s with
    | nil => simp [matchKeyPatAt] at h2
    | cons c s => simp only [searchKeyPat, h2]
  simp only [parseKey1, h1, Bool.false_eq_true, if_false, h3, hk]

theorem parseKey1_v030 (c : Char) (al : Str) (m : Mode) (fm : Int × Mode) (hc : c ∈ steps) (hal : al ∈ alts)
    (hk : keyOfName (v100 (c :: al) m) = some fm) : parseKey1 (v030 (c :: al) m) = some ⟨fm.1, fm.2, none⟩ := by
  obtain ⟨hv, _, hs⟩ := v030_facts m c hc al hal
  have hp := matchKeyPatAt_v030 c al [] m hc hal (by simp)
  rw [List.append_nil] at hp
  exact parseKey1_groups _ _ _ _ _ _ _ fm
    (by simp only [isV1KeySpelling, C07Codec.splitOn_no_sep '/' _ (fun x hx => (hs x hx).1), hv]) hp
    (by rw [name_of_groups c al m hc, hk])

theorem parseKey1_v030_pair (c d : Char) (al bl : Str) (m m' : Mode) (fm fm' : Int × Mode) (hc : c ∈ steps)
    (hal : al ∈ alts) (hd : d ∈ steps) (hbl : bl ∈ alts) (hk : keyOfName (v100 (c :: al) m) = some fm)
    (hk' : keyOfName (v100 (d :: bl) m') = some fm') :
    parseKey1 (v030 (c :: al) m ++ '/' :: v030 (d :: bl) m') = some ⟨fm.1, fm.2, some fm'⟩ := by
  obtain ⟨hv, _, hs⟩ := v030_facts m c hc al hal
  obtain ⟨_, _, hs'⟩ := v030_facts m' d hd bl hbl
  have hp := matchKeyPatAt_v030 c al ('/' :: v030 (d :: bl) m') m hc hal (by simp; decide)
  have hsp : splitOn '/' (v030 (c :: al) m ++ '/' :: v030 (d :: bl) m') = [v030 (c :: al) m, v030 (d :: bl) m'] := by
    rw [C07Codec.splitOn_append _ _ _ (fun x hx => (hs x hx).1), C07Codec.splitOn_no_sep _ _ (fun x hx => (hs' x hx).1)]
  have := parseKey1_groups (v030 (c :: al) m ++ '/' :: v030 (d :: bl) m') _ _ _ _ _ _ fm
    (by simp only [isV1KeySpelling, hsp, hv, Bool.false_and])
    hp
    (by rw [name_of_groups c al m hc, hk])
  rw [this]
  simp only [second_pair m' d hd bl hbl, List.isEmpty_cons, Bool.false_eq_true, if_false, upperS, List.map_cons,
    List.map_nil, List.cons_append, List.nil_append, name_of_groups d bl m' hd, hk', Option.map_some]

/-- a written key: it begins with a step letter, holds no comma or line break and does not end in a blank -/
def Written (t : Str) : Prop :=
  (∃ c ∈ steps, ∃ r, t = c :: r) ∧ (∀ x ∈ t, x ≠ ',' ∧ x ≠ '\n') ∧ ∀ x ∈ t.getLast?, isWs x = false

theorem steps_facts : ∀ c ∈ steps, c ≠ '[' ∧ isWs c = false ∧ c.toLower ≠ 'm' := by decide +kernel

theorem Written.strip {t : Str} (h : Written t) : strip t = t := by
  obtain ⟨⟨c, hc, r, rfl⟩, _, hl⟩ := h
  exact C07Codec.strip_of_ends _ (by simpa using (steps_facts c hc).2.1) hl

theorem Written.pair {a b : Str} (ha : Written a) (hb : Written b) : Written (a ++ '/' :: b) := by
  obtain ⟨⟨c, hc, r, rfl⟩, hca, _⟩ := ha
  obtain ⟨⟨d, hd, r', rfl⟩, hcb, hl⟩ := hb
  refine ⟨⟨c, hc, _, rfl⟩, ?_, ?_⟩
  · intro x hx
    rcases List.mem_append.mp hx with h | h
    · exact hca x h
    · rcases List.mem_cons.mp h with rfl | h
      · decide
      · exact hcb x h
  · rwa [List.getLast?_append_cons, List.getLast?_cons_cons]

/-- a written key is read as a one-element list, so `from_string` is `_parse_key_signature` on it -/
theorem decKey_written (t : Str) (k : Key1) (ht : Written t) (hp : parseKey1 t = some k) :
    decKey t = some (some ⟨k, []⟩) := by
  have hl : decList t = [t] := by
    obtain ⟨⟨c, hc, r, rfl⟩, hcomma, _⟩ := id ht
    have hb : listBodyOf (c :: r) = c :: r := by
      unfold listBodyOf
      split
      · rename_i heq; injection heq with e; exact absurd e (steps_facts c hc).1
      · rfl
    simp only [decList, hb, ht.strip, List.isEmpty_cons, Bool.false_eq_true, if_false,
      C07Codec.splitOn_no_sep ',' _ (fun x hx => (hcomma x hx).1), List.map_cons, List.map_nil]
  simp only [decKey, hl, List.mapM_cons, List.mapM_nil, hp]
  rfl

theorem written_v100 (c : Char) (al : Str) (m : Mode) (hc : c ∈ steps) (hal : al ∈ alts) : Written (v100 (c :: al) m) :=
  have h := (v100_facts m c hc al hal).2.2
  ⟨⟨c, hc, _, rfl⟩, fun x hx => (h x hx).2.1, fun x hx => (h x (List.mem_of_getLast? hx)).2.2⟩

theorem written_v030 (c : Char) (al : Str) (m : Mode) (hc : c ∈ steps) (hal : al ∈ alts) : Written (v030 (c :: al) m) :=
  have h := v030_facts m c hc al hal
  ⟨⟨c, hc, _, rfl⟩, fun x hx => (h.2.2 x hx).2, h.2.1⟩

theorem text_v100 (k : Key1) (n : Str) (hn : Named (k.fifths, k.mode) n) (ha : ∀ b ∈ k.alt, ∃ n', Named b n') :
    ∃ t, encKey1 .v100 k = some t ∧ parseKey1 t = some k ∧ Written t := by
  obtain ⟨f, m, alt⟩ := k
  obtain ⟨⟨c, hc, al, hal, rfl⟩, -, hname, hkey⟩ := hn
  obtain ⟨h1, h2, h3⟩ := v100_facts m c hc al hal
  rw [← h2] at hkey
  cases alt with
  | none =>
    exact ⟨_, by simp only [encKey1, hname], parseKey1_v100 _ _ h1 (fun x hx => (h3 x hx).1) hkey, written_v100 c al m hc hal⟩
  | some b =>
    obtain ⟨_, ⟨d, hd, bl, hbl, rfl⟩, -, hname', hkey'⟩ := ha b rfl
    obtain ⟨g1, g2, g3⟩ := v100_facts b.2 d hd bl hbl
    rw [← g2] at hkey'
    exact ⟨_, by simp only [encKey1, hname, hname', Option.map_some],
      parseKey1_v100_pair _ _ _ _ h1 g1 (fun x hx => (h3 x hx).1) (fun x hx => (g3 x hx).1) hkey hkey',
      (written_v100 c al m hc hal).pair (written_v100 d bl b.2 hd hbl)⟩

theorem keyNameV030_eq (f : Int) (m : Mode) (n : Str) (h : keyAt f m = some n) : keyNameV030 f m = some (v030 n m) := by
  simp only [keyNameV030, h, Option.map_some]
  cases m <;> rfl

theorem text_v030 (k : Key1) (n : Str) (hn : Named (k.fifths, k.mode) n) (ha : ∀ b ∈ k.alt, ∃ n', Named b n') :
    ∃ t, encKey1 .v030 k = some t ∧ parseKey1 t = some k ∧ Written t := by
  obtain ⟨f, m, alt⟩ := k
  obtain ⟨⟨c, hc, al, hal, rfl⟩, hat, -, hkey⟩ := hn
  have hname := keyNameV030_eq f m _ hat
  cases alt with
  | none => exact ⟨_, by simp only [encKey1, hname], parseKey1_v030 c al m _ hc hal hkey, written_v030 c al m hc hal⟩
  | some b =>
    obtain ⟨_, ⟨d, hd, bl, hbl, rfl⟩, hat', -, hkey'⟩ := ha b rfl
    exact ⟨_, by simp only [encKey1, hname, keyNameV030_eq b.1 b.2 _ hat', Option.map_some],
      parseKey1_v030_pair c d al bl m b.2 _ _ hc hal hd hbl hkey hkey',
      (written_v030 c al m hc hal).pair (written_v030 d bl b.2 hd hbl)⟩

theorem mapM_texts (enc : Key1 → Option Str) : ∀ (ks : List Key1),
    (∀ k ∈ ks, ∃ t, enc k = some t ∧ parseKey1 t = some k ∧ Written t) →
    ∃ texts, ks.mapM enc = some texts ∧ texts.mapM parseKey1 = some ks ∧ ∀ t ∈ texts, Written t
  | [], _ => ⟨[], rfl, rfl, by simp⟩
  | k :: ks, h => by
    obtain ⟨t, h1, h2, h3⟩ := h k (by simp)
    obtain ⟨ts, g1, g2, g3⟩ := mapM_texts enc ks (fun x hx => h x (by simp [hx]))
    refine ⟨t :: ts, by simp [List.mapM_cons, h1, g1], by simp [List.mapM_cons, h2, g2], ?_⟩
    intro x hx
    rcases List.mem_cons.mp hx with rfl | hx
    · exact h3
    · exact g3 x hx

/-- a written key is not one of the mode words that make `[x,minor]` a key of 0.1.0 -/
theorem not_mode_word (t : Str) (ht : Written t) : (lowerS t == "minor".toList || lowerS t == "major".toList ||
    lowerS t == "min".toList || lowerS t == "maj".toList) = false := by
  obtain ⟨⟨c, hc, r, rfl⟩, _, _⟩ := ht
  have e : ∀ w : Str, w.head? = some 'm' → (lowerS (c :: r) == w) = false := by
    intro w hw
    cases w with
    | nil => simp at hw
    | cons x w =>
      simp only [List.head?_cons, Option.some.injEq] at hw
      simp [lowerS, hw, (steps_facts c hc).2.2]
  rw [e _ (by decide), e _ (by decide), e _ (by decide), e _ (by decide)]
  rfl

/-- the list spelling: written keys between brackets are read back one by one -/
theorem decKey_encList (texts : List Str) (k : Key1) (ks : List Key1) (hp : texts.mapM parseKey1 = some (k :: ks))
    (hw : ∀ t ∈ texts, Written t) : decKey (encList texts) = some (some ⟨k, ks⟩) := by
  have hl : decList (encList texts) = texts := by
    apply C07Codec.decList_encList_of texts (fun t ht => (hw t ht).strip) (fun t ht x hx => ((hw t ht).2.1 x hx).1)
    rintro rfl
    obtain ⟨⟨_, _, _, h⟩, _⟩ := hw [] (by simp)
    simp at h
  unfold decKey
  simp only [hl]
  cases texts with
  | nil => simp at hp
  | cons a tr =>
    cases tr with
    | nil => simp only [hp]
    | cons b tr =>
      cases tr with
      | nil => simp only [not_mode_word b (hw b (by simp)), Bool.false_eq_true, if_false, hp]
      | cons c tr => simp only [hp]

end C07Key

namespace C07
open Model Model.MatchCodec

/-- the 30 keys -/
def allKeys : List (Int × Mode) :=
  (List.range 15).flatMap fun (i : Nat) => [((i : Int) - 7, Mode.major), ((i : Int) - 7, Mode.minor)]

def key1 (fm : Int × Mode) : KeySig := { main := { fifths := fm.1, mode := fm.2, alt := none }, others := [] }
def key2 (a b : Int × Mode) : KeySig := { main := { fifths := a.1, mode := a.2, alt := some b }, others := [] }

end C07
