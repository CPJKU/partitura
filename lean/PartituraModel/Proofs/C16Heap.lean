/-
C16 — what the two loops of `transpose` (Model/TransposeHeap.lean) do to each cell of a heap: which cells they reach and
how often, that they change pitch fields only, when they raise, and what they leave when they stop at the first raise.
The nested loops that return are one loop over `targets` (`foldl_parts_eq`), so frame, count, totality and the interval
without a size are proved for the inner loop.
-/
import PartituraModel.Model.TransposeHeap
import PartituraModel.Proofs.Lists
import PartituraModel.Proofs.Dicts

namespace C16Heap
open Model Model.TH

/-- a cell with its pitch fields blanked: "everything else" of an object -/
def erase : Cell → Cell
  | .note _ _ _ rs p => .note "" none 0 rs p
  | c => c

theorem erase_transposed {iv : Interval} {c c' : Cell} (h : Cell.transposed iv c = some c') :
    erase c' = erase c := by
  cases c with
  | note s a o rs p =>
    simp only [Cell.transposed, Option.map_eq_some_iff] at h
    obtain ⟨r, _, rfl⟩ := h
    rfl
  | score ps => simp [Cell.transposed] at h
  | part os => simp [Cell.transposed] at h
  | other rs p => simp [Cell.transposed] at h

theorem erase_eq {c c' : Cell} (h : erase c' = erase c) :
    c' = c ∨ ∃ s a o s' a' o' rs p, c' = .note s' a' o' rs p ∧ c = .note s a o rs p := by
  cases c with
  | note s a o rs p =>
    cases c' with
    | note s' a' o' rs' p' =>
      simp only [erase, Cell.note.injEq, true_and] at h
      exact Or.inr ⟨s, a, o, s', a', o', rs, p, by rw [h.1, h.2], rfl⟩
    | _ => simp [erase] at h
  | _ => cases c' <;> simp_all [erase]

theorem erase_shift (k : Nat) (c : Cell) : erase (c.shift k) = (erase c).shift k := by
  cases c <;> rfl

theorem isNote_shift (k : Nat) (c : Cell) : (c.shift k).isNote = c.isNote := by
  cases c <;> rfl

theorem transposed_shift (iv : Interval) (k : Nat) (c : Cell) :
    Cell.transposed iv (c.shift k) = (Cell.transposed iv c).map (Cell.shift k) := by
  cases c with
  | note s a o rs p =>
    simp only [Cell.shift, Cell.transposed, Option.map_map]
    rfl
  | score ps => rfl
  | part os => rfl
  | other rs p => rfl

/-! ### heaps that agree on everything but pitch fields -/

def SameFrame (h h' : Heap) : Prop :=
  h'.length = h.length ∧ ∀ a : Nat, (h'[a]?).map erase = (h[a]?).map erase

theorem SameFrame.refl (h : Heap) : SameFrame h h := ⟨rfl, fun _ => rfl⟩

theorem SameFrame.trans {h1 h2 h3 : Heap} (a : SameFrame h1 h2) (b : SameFrame h2 h3) : SameFrame h1 h3 :=
  ⟨b.1.trans a.1, fun x => (b.2 x).trans (a.2 x)⟩

theorem SameFrame.symm {h h' : Heap} (hf : SameFrame h h') : SameFrame h' h :=
  ⟨hf.1.symm, fun a => (hf.2 a).symm⟩

theorem SameFrame.at {h h' : Heap} (hf : SameFrame h h') (a : Nat) :
    h'[a]? = h[a]? ∨ ∃ s al o s' al' o' rs p,
      h'[a]? = some (.note s' al' o' rs p) ∧ h[a]? = some (.note s al o rs p) := by
  have := hf.2 a
  cases h1 : h'[a]? with
  | none =>
    cases h2 : h[a]? with
    | none => exact Or.inl rfl
    | some c => simp [h1, h2] at this
  | some c' =>
    cases h2 : h[a]? with
    | none => simp [h1, h2] at this
    | some c =>
      simp only [h1, h2, Option.map_some, Option.some.injEq] at this
      rcases erase_eq this with rfl | ⟨s, al, o, s', al', o', rs, p, rfl, rfl⟩
      · exact Or.inl rfl
      · exact Or.inr ⟨s, al, o, s', al', o', rs, p, rfl, rfl⟩

theorem notesOf_sameFrame {h h' : Heap} (hf : SameFrame h h') (objs : List Nat) :
    notesOf h' objs = notesOf h objs := by
  unfold notesOf
  apply List.filter_congr
  intro a _
  rcases hf.at a with e | ⟨s, al, o, s', al', o', rs, p, e1, e2⟩
  · rw [e]
  · rw [e1, e2]
    rfl

theorem part_sameFrame {h h' : Heap} (hf : SameFrame h h') {p : Nat} {os : List Nat}
    (hp : h[p]? = some (.part os)) : h'[p]? = some (.part os) := by
  rcases hf.at p with e | ⟨s, al, o, s', al', o', rs, pl, -, e2⟩
  · rw [e, hp]
  · rw [hp] at e2
    cases e2

/-! ### the inner loop; the two nested loops are one loop over `targets` -/

theorem transposeAt_spec {iv : Interval} {h h' : Heap} {a : Nat} (e : transposeAt iv h a = some h') :
    ∃ c c', h[a]? = some c ∧ Cell.transposed iv c = some c' ∧ h' = h.set a c' := by
  unfold transposeAt at e
  simp only [Option.map_eq_some_iff, Option.bind_eq_some_iff] at e
  obtain ⟨c', ⟨c, hc, hc'⟩, rfl⟩ := e
  exact ⟨c, c', hc, hc', rfl⟩

theorem transposeAt_get {iv : Interval} {h h' : Heap} {x : Nat} (e : transposeAt iv h x = some h') (a : Nat) :
    h'[a]? = if x = a then h[x]?.bind (Cell.transposed iv) else h[a]? := by
  obtain ⟨c, c', hc, hc', rfl⟩ := transposeAt_spec e
  rw [List.getElem?_set]
  by_cases hax : x = a
  · subst hax
    rw [if_pos rfl, if_pos rfl, hc, Option.bind_some, hc']
    simp [(List.getElem?_eq_some_iff.mp hc).1]
  · simp [hax]

theorem transposeAt_frame {iv : Interval} {h h' : Heap} {x : Nat} (e : transposeAt iv h x = some h') :
    SameFrame h h' := by
  obtain ⟨c, c', hc, hc', rfl⟩ := transposeAt_spec e
  obtain ⟨hx, -⟩ := List.getElem?_eq_some_iff.mp hc
  refine ⟨by simp, fun a => ?_⟩
  rw [List.getElem?_set]
  by_cases hax : x = a
  · subst hax
    rw [hc]
    simp [hx, erase_transposed hc']
  · simp [hax]

theorem foldl_at (iv : Interval) : ∀ (l : List Nat) (h h' : Heap), l.foldlM (transposeAt iv) h = some h' →
    SameFrame h h' :=
  Lists.foldlM_induction _ SameFrame.refl fun _ _ _ _ _ e1 ih => (transposeAt_frame e1).trans ih

/-- the addresses the loops of `transpose` visit, in order, read off the heap BEFORE the loops -/
def targets (h : Heap) (ps : List Nat) : List Nat :=
  ps.flatMap fun (p : Nat) => match h[p]? with
    | some (Cell.part objs) => notesOf h objs
    | _ => []

theorem targets_sameFrame {h h' : Heap} (hf : SameFrame h h') (ps : List Nat) :
    targets h' ps = targets h ps := by
  unfold targets
  congr 1
  funext p
  rcases hf.at p with e | ⟨s, al, o, s', al', o', rs, pl, e1, e2⟩
  · rw [e]
    split
    · exact notesOf_sameFrame hf _
    · rfl
  · rw [e1, e2]

/-- the notes the loops of `transpose` reach -/
abbrev visited (h : Heap) (root : Nat) : List Nat := targets h (partsOf h root)

theorem visited_is_note {h : Heap} {ps : List Nat} {a : Nat} (ha : a ∈ targets h ps) :
    ∃ s al o rs p, h[a]? = some (Cell.note s al o rs p) := by
  unfold targets at ha
  obtain ⟨q, _, hq⟩ := List.mem_flatMap.mp ha
  split at hq
  · unfold notesOf at hq
    obtain ⟨_, hn⟩ := List.mem_filter.mp hq
    split at hn
    · rename_i c hc
      cases c <;> simp [Cell.isNote] at hn
      exact ⟨_, _, _, _, _, hc⟩
    · cases hn
  · cases hq

theorem targets_cons {h : Heap} {p : Nat} {objs : List Nat} (hp : h[p]? = some (.part objs)) (ps : List Nat) :
    targets h (p :: ps) = notesOf h objs ++ targets h ps := by
  simp [targets, hp]

theorem transposePart_part {iv : Interval} {p : Nat} {h : Heap} {objs : List Nat}
    (hp : h[p]? = some (.part objs)) : transposePart iv h p = (notesOf h objs).foldlM (transposeAt iv) h := by
  simp only [transposePart, hp]

theorem transposePart_other {iv : Interval} {p : Nat} {h : Heap}
    (hp : ∀ objs, h[p]? ≠ some (Cell.part objs)) : transposePart iv h p = none := by
  unfold transposePart
  split
  · rename_i objs hq; exact absurd hq (hp objs)
  · rfl

/-- the outer loop reads `part.notes` when it reaches the part, but the inner loop changes pitch fields only, so the
    notes are those the heap listed BEFORE the loops: the two nested loops are one loop over `targets h ps` -/
theorem foldl_parts_eq (iv : Interval) : ∀ (ps : List Nat) (h : Heap), (∀ p ∈ ps, ∃ os, h[p]? = some (Cell.part os)) →
    ps.foldlM (transposePart iv) h = (targets h ps).foldlM (transposeAt iv) h
  | [], _, _ => rfl
  | p :: ps, h, hp => by
    obtain ⟨os, hos⟩ := hp p List.mem_cons_self
    rw [targets_cons hos, List.foldlM_append, List.foldlM_cons, transposePart_part hos]
    cases e : (notesOf h os).foldlM (transposeAt iv) h with
    | none => rfl
    | some h1 =>
      have f1 := foldl_at iv _ _ _ e
      simp only [Option.bind_eq_bind, Option.bind_some]
      rw [foldl_parts_eq iv ps h1 fun q hq => (hp q (List.mem_cons_of_mem _ hq)).imp fun _ => part_sameFrame f1,
        targets_sameFrame f1]

theorem foldl_parts_isPart (iv : Interval) : ∀ (ps : List Nat) (h h' : Heap), ps.foldlM (transposePart iv) h = some h' →
    ∀ p ∈ ps, ∃ os, h[p]? = some (Cell.part os) :=
  Lists.foldlM_induction _ (fun _ _ hq => nomatch hq) fun p ps h h1 h' e1 ih q hq => by
    unfold transposePart at e1
    split at e1
    · rename_i objs hp
      rcases List.mem_cons.mp hq with rfl | hq
      · exact ⟨objs, hp⟩
      · exact (ih q hq).imp fun _ => part_sameFrame (foldl_at iv _ _ _ e1).symm
    · cases e1

theorem foldl_parts_flat {iv : Interval} {ps : List Nat} {h h' : Heap} (e : ps.foldlM (transposePart iv) h = some h') :
    (targets h ps).foldlM (transposeAt iv) h = some h' :=
  foldl_parts_eq iv ps h (foldl_parts_isPart iv ps h h' e) ▸ e

/-! ### `deepcopy`: what the loops read off the copy is what they read off the argument, shifted -/

theorem copy_hi (h : Heap) (f : Cell → Cell) (a : Nat) : (h ++ h.map f)[a + h.length]? = (h[a]?).map f := by
  rw [List.getElem?_append_right (by omega)]
  simp

theorem notesOf_copy (h : Heap) (objs : List Nat) :
    notesOf (h ++ h.map (Cell.shift h.length)) (objs.map (· + h.length)) = (notesOf h objs).map (· + h.length) := by
  unfold notesOf
  rw [List.filter_map]
  congr 1
  apply List.filter_congr
  intro a _
  simp only [Function.comp, copy_hi]
  cases h[a]? with
  | none => rfl
  | some c => simp [isNote_shift]

theorem listedParts_copy (h : Heap) (root : Nat) :
    listedParts (h ++ h.map (Cell.shift h.length)) (root + h.length) = (listedParts h root).map (· + h.length) := by
  unfold listedParts
  rw [copy_hi]
  cases h[root]? with
  | none => rfl
  | some c => cases c <;> simp [Cell.shift]

theorem uniqueParts_map (n : Nat) : ∀ (l seen : List Nat),
    uniqueParts (seen.map (· + n)) (l.map (· + n)) = (uniqueParts seen l).map (· + n)
  | [], _ => rfl
  | p :: ps, seen => by
    have hc : (seen.map (· + n)).contains (p + n) = seen.contains p := by
      induction seen with
      | nil => rfl
      | cons x xs ih =>
        simp only [List.map_cons, List.contains_cons, ih]
        have : (p + n == x + n) = (p == x) := by
          by_cases hpx : p = x
          · subst hpx; simp
          · have h2 : ¬ (p + n = x + n) := by omega
            rw [beq_eq_false_iff_ne.mpr hpx, beq_eq_false_iff_ne.mpr h2]
        rw [this]
    simp only [List.map_cons, uniqueParts, hc]
    split
    · exact uniqueParts_map n ps seen
    · rw [List.map_cons]
      congr 1
      exact uniqueParts_map n ps (p :: seen)

theorem uniqueParts_nil_cons (p : Nat) (ps : List Nat) : uniqueParts [] (p :: ps) = p :: uniqueParts [p] ps := rfl

/-- what the dict has seen only filters what it would hand out from an empty start -/
theorem uniqueParts_seen : ∀ (l seen : List Nat),
    uniqueParts seen l = (uniqueParts [] l).filter fun p => !seen.contains p
  | [], _ => rfl
  | p :: ps, seen => by
    rw [uniqueParts_nil_cons, uniqueParts, uniqueParts_seen ps [p], List.filter_cons, List.filter_filter]
    by_cases hp : seen.contains p = true
    · rw [if_pos hp, uniqueParts_seen ps seen]
      simp only [hp, Bool.not_true, Bool.false_eq_true, if_false]
      apply List.filter_congr
      intro x _
      by_cases hx : x = p
      · subst hx; simpa using hp
      · simp [hx]
    · rw [if_neg hp, uniqueParts_seen ps (p :: seen)]
      simp only [Bool.not_eq_true] at hp
      simp only [hp, Bool.not_false, if_true]
      congr 1
      apply List.filter_congr
      intro x _
      simp [Bool.and_comm]

theorem partsOf_firstSeen : Dicts.IsFirstSeen (uniqueParts []) :=
  ⟨rfl, fun a l => by
    rw [uniqueParts_nil_cons, uniqueParts_seen l [a]]
    congr 1
    apply List.filter_congr
    intro x _
    by_cases hx : x = a <;> simp [bne, hx]⟩

theorem partsOf_copy (h : Heap) (root : Nat) :
    partsOf (h ++ h.map (Cell.shift h.length)) (root + h.length) = (partsOf h root).map (· + h.length) := by
  unfold partsOf
  rw [listedParts_copy]
  exact uniqueParts_map h.length _ []

theorem targets_copy (h : Heap) (ps : List Nat) :
    targets (h ++ h.map (Cell.shift h.length)) (ps.map (· + h.length)) = (targets h ps).map (· + h.length) := by
  induction ps with
  | nil => rfl
  | cons p ps ih =>
    unfold targets at ih ⊢
    rw [List.map_cons, List.flatMap_cons, List.flatMap_cons, List.map_append, ih, copy_hi]
    congr 1
    cases h[p]? with
    | none => rfl
    | some c =>
      cases c with
      | part os => simp only [Option.map_some, Cell.shift]; exact notesOf_copy h os
      | score ps' => rfl
      | note s a o rs p' => rfl
      | other rs p' => rfl

/-! ### every cell is transposed as often as it is listed -/

/-- `_transpose_note_inplace` applied `k` times to one object -/
def iterT (iv : Interval) : Nat → Cell → Option Cell
  | 0, c => some c
  | k + 1, c => (Cell.transposed iv c).bind (iterT iv k)

theorem iterT_shift (iv : Interval) (n : Nat) : ∀ (k : Nat) (c : Cell),
    iterT iv k (c.shift n) = (iterT iv k c).map (Cell.shift n)
  | 0, c => rfl
  | k + 1, c => by
    simp only [iterT, transposed_shift]
    cases Cell.transposed iv c with
    | none => rfl
    | some c' => simpa using iterT_shift iv n k c'

theorem foldl_at_count (iv : Interval) : ∀ (l : List Nat) (h h' : Heap), l.foldlM (transposeAt iv) h = some h' →
    ∀ a, h'[a]? = h[a]?.bind (iterT iv (l.count a)) :=
  Lists.foldlM_induction _ (fun h a => by cases h[a]? <;> rfl) fun x l h h1 h' e1 ih a => by
    rw [ih a, transposeAt_get e1 a]
    by_cases hax : x = a
    · subst hax
      rw [if_pos rfl, List.count_cons_self, Option.bind_assoc]
      rfl
    · rw [if_neg hax, List.count_cons_of_ne hax]

theorem count_map_add (n a : Nat) (l : List Nat) : (l.map (· + n)).count (a + n) = l.count a := by
  induction l with
  | nil => rfl
  | cons x l ih =>
    simp only [List.map_cons, List.count_cons, ih]
    congr 1
    by_cases hxa : x = a
    · simp [hxa]
    · simp [hxa]

/-- `transpose` with the dispatch read off the argument: the loops run over the copies of the argument's parts -/
theorem transpose_eq (h : Heap) (root : Nat) (iv : Interval) :
    transpose h root iv =
      (((partsOf h root).map (· + h.length)).foldlM (transposePart iv) (h ++ h.map (Cell.shift h.length))).map
        fun h2 => (h2, root + h.length) := by
  unfold transpose deepcopy
  simp only [partsOf_copy]

theorem transpose_unfold {h h' : Heap} {root r' : Nat} {iv : Interval} (e : transpose h root iv = some (h', r')) :
    r' = root + h.length ∧
    SameFrame (h ++ h.map (Cell.shift h.length)) h' ∧
    ∀ a, h'[a]? = (h ++ h.map (Cell.shift h.length))[a]?.bind
      (iterT iv (((visited h root).map (· + h.length)).count a)) := by
  rw [transpose_eq] at e
  simp only [Option.map_eq_some_iff, Prod.mk.injEq] at e
  obtain ⟨h2, e2, rfl, rfl⟩ := e
  have e3 := foldl_parts_flat e2
  refine ⟨rfl, foldl_at iv _ _ _ e3, fun a => ?_⟩
  rw [foldl_at_count iv _ _ _ e3 a, targets_copy]

theorem transpose_count {h h' : Heap} {root r' : Nat} {iv : Interval} (e : transpose h root iv = some (h', r'))
    (a : Nat) :
    h'[a + h.length]? =
      (h[a]?.bind (iterT iv ((visited h root).count a))).map (Cell.shift h.length) := by
  rw [(transpose_unfold e).2.2, count_map_add, copy_hi]
  cases h[a]? with
  | none => rfl
  | some c => simp [iterT_shift]

theorem partsOf_sameFrame {h h' : Heap} (hf : SameFrame h h') (r : Nat) : partsOf h' r = partsOf h r := by
  unfold partsOf listedParts
  rcases hf.at r with e | ⟨s, al, o, s', al', o', rs, pl, e1, e2⟩
  · rw [e]
  · rw [e1, e2]

theorem targets_result {h h' : Heap} {root r' : Nat} {iv : Interval} (e : transpose h root iv = some (h', r')) :
    visited h' r' = (visited h root).map (· + h.length) := by
  obtain ⟨hr, f, -⟩ := transpose_unfold e
  unfold visited
  rw [partsOf_sameFrame f, targets_sameFrame f, hr, partsOf_copy, targets_copy]

/-- the invariant behind totality without `Nodup`: every address the loops may touch holds a cell of the kind `G` -/
def AllGood (G : Cell → Prop) (T : List Nat) (h : Heap) : Prop := ∀ a ∈ T, ∃ c, h[a]? = some c ∧ G c

theorem foldl_at_good (iv : Interval) (G : Cell → Prop)
    (hG : ∀ c, G c → ∃ c', Cell.transposed iv c = some c' ∧ G c') (T : List Nat) :
    ∀ (l : List Nat) (h : Heap), (∀ a ∈ l, a ∈ T) → AllGood G T h →
      ∃ h', l.foldlM (transposeAt iv) h = some h' ∧ AllGood G T h' := fun l h sub inv =>
  Lists.foldlM_inv _ (AllGood G T) l h inv fun h x hx inv => by
    obtain ⟨c, hc, gc⟩ := inv x (sub x hx)
    obtain ⟨c', hc', gc'⟩ := hG c gc
    have e1 : transposeAt iv h x = some (h.set x c') := by simp [transposeAt, hc, hc']
    refine ⟨_, e1, fun a ha => ?_⟩
    rw [transposeAt_get e1 a]
    by_cases hax : x = a
    · subst hax; exact ⟨c', by rw [if_pos rfl, hc]; exact hc', gc'⟩
    · rw [if_neg hax]; exact inv a ha

theorem foldl_parts_good (iv : Interval) (G : Cell → Prop)
    (hG : ∀ c, G c → ∃ c', Cell.transposed iv c = some c' ∧ G c') (T : List Nat) (ps : List Nat) (h : Heap)
    (hp : ∀ p ∈ ps, ∃ os, h[p]? = some (Cell.part os)) (sub : ∀ a ∈ targets h ps, a ∈ T) (inv : AllGood G T h) :
    (ps.foldlM (transposePart iv) h).isSome := by
  obtain ⟨h', e, -⟩ := foldl_at_good iv G hG T _ h sub inv
  rw [foldl_parts_eq iv ps h hp, e]
  rfl

/-! ### an interval without a size moves no note -/

theorem foldl_at_none (iv : Interval) (hN : ∀ c, Cell.transposed iv c = none) :
    ∀ (l : List Nat) (h h' : Heap), l.foldlM (transposeAt iv) h = some h' → l = [] ∧ h' = h :=
  Lists.foldlM_induction _ (fun _ => ⟨rfl, rfl⟩) fun _ _ _ _ _ e1 _ => by
    obtain ⟨c, _, -, hc', -⟩ := transposeAt_spec e1
    rw [hN c] at hc'
    cases hc'

theorem foldl_parts_none (iv : Interval) (hN : ∀ c, Cell.transposed iv c = none) (ps : List Nat) (h h' : Heap)
    (e : ps.foldlM (transposePart iv) h = some h') : targets h ps = [] ∧ h' = h :=
  foldl_at_none iv hN _ _ _ (foldl_parts_flat e)

/-! ### the loops as the interpreter runs them, to the first raise (`runNotes`, `runParts`, `transposeRun`) -/

theorem runNotes_cons_some {iv : Interval} {a : Nat} {l : List Nat} {h h' : Heap}
    (e : transposeAt iv h a = some h') : runNotes iv (a :: l) h = runNotes iv l h' := by
  simp [runNotes, e]

theorem runNotes_cons_none {iv : Interval} {a : Nat} {l : List Nat} {h : Heap}
    (e : transposeAt iv h a = none) : runNotes iv (a :: l) h = (h, false) := by
  simp [runNotes, e]

theorem runParts_cons_part {iv : Interval} {p : Nat} {ps : List Nat} {h : Heap} {objs : List Nat}
    (hp : h[p]? = some (Cell.part objs)) :
    runParts iv (p :: ps) h =
      if (runNotes iv (notesOf h objs) h).2 then runParts iv ps (runNotes iv (notesOf h objs) h).1
      else runNotes iv (notesOf h objs) h := by
  simp [runParts, hp]

theorem runParts_cons_other {iv : Interval} {p : Nat} {ps : List Nat} {h : Heap}
    (hp : ∀ objs, h[p]? ≠ some (Cell.part objs)) : runParts iv (p :: ps) h = (h, false) := by
  unfold runParts
  split
  · rename_i objs hq; exact absurd hq (hp objs)
  · rfl

theorem runNotes_agrees (iv : Interval) : ∀ (l : List Nat) (h : Heap),
    l.foldlM (transposeAt iv) h = (if (runNotes iv l h).2 then some (runNotes iv l h).1 else none)
  | [], h => rfl
  | a :: l, h => by
    cases e : transposeAt iv h a with
    | none => simp [runNotes_cons_none e, e]
    | some h' =>
      rw [runNotes_cons_some e]
      simpa [e] using runNotes_agrees iv l h'

theorem runParts_agrees (iv : Interval) : ∀ (ps : List Nat) (h : Heap),
    ps.foldlM (transposePart iv) h = (if (runParts iv ps h).2 then some (runParts iv ps h).1 else none)
  | [], h => rfl
  | p :: ps, h => by
    by_cases hp : ∃ objs, h[p]? = some (Cell.part objs)
    · obtain ⟨objs, hp⟩ := hp
      rw [runParts_cons_part hp, List.foldlM_cons, transposePart_part hp, runNotes_agrees]
      cases hr : (runNotes iv (notesOf h objs) h).2 with
      | false => simp [hr]
      | true => simpa [hr] using runParts_agrees iv ps _
    · have hp' : ∀ objs, h[p]? ≠ some (Cell.part objs) := fun objs hq => hp ⟨objs, hq⟩
      rw [runParts_cons_other hp', List.foldlM_cons, transposePart_other hp']
      rfl

/-- `transpose` is `transposeRun` with the heap forgotten when it raises -/
theorem transposeRun_agrees (h : Heap) (root : Nat) (iv : Interval) :
    transpose h root iv = (transposeRun h root iv).2.map fun r => ((transposeRun h root iv).1, r) := by
  unfold transpose transposeRun
  simp only
  rw [runParts_agrees]
  split <;> simp

theorem runNotes_frame (iv : Interval) : ∀ (l : List Nat) (h : Heap),
    SameFrame h (runNotes iv l h).1 ∧ ∀ a, a ∉ l → (runNotes iv l h).1[a]? = h[a]?
  | [], h => ⟨SameFrame.refl _, fun _ _ => rfl⟩
  | x :: l, h => by
    cases e : transposeAt iv h x with
    | none => rw [runNotes_cons_none e]; exact ⟨SameFrame.refl _, fun _ _ => rfl⟩
    | some h' =>
      rw [runNotes_cons_some e]
      have f1 := transposeAt_frame e
      obtain ⟨f2, g2⟩ := runNotes_frame iv l h'
      refine ⟨f1.trans f2, fun a ha => ?_⟩
      simp only [List.mem_cons, not_or] at ha
      rw [g2 a ha.2, transposeAt_get e a, if_neg (Ne.symm ha.1)]

theorem runParts_only_targets (iv : Interval) : ∀ (ps : List Nat) (h : Heap) (a : Nat), a ∉ targets h ps →
    (runParts iv ps h).1[a]? = h[a]?
  | [], _, _, _ => rfl
  | p :: ps, h, a, ha => by
    by_cases hp : ∃ objs, h[p]? = some (Cell.part objs)
    · obtain ⟨objs, hp⟩ := hp
      rw [targets_cons hp, List.mem_append, not_or] at ha
      obtain ⟨f1, g1⟩ := runNotes_frame iv (notesOf h objs) h
      rw [runParts_cons_part hp]
      split
      · rw [runParts_only_targets iv ps _ a (by rw [targets_sameFrame f1]; exact ha.2), g1 a ha.1]
      · exact g1 a ha.1
    · rw [runParts_cons_other fun objs hq => hp ⟨objs, hq⟩]

/-- whatever happens — the call returns or raises at any note — the cells of the argument are what they were -/
theorem transposeRun_frame (h : Heap) (root : Nat) (iv : Interval) (a : Nat) (ha : a < h.length) :
    (transposeRun h root iv).1[a]? = h[a]? := by
  unfold transposeRun deepcopy
  simp only
  -- the targets of the loops are addresses of the copy
  rw [runParts_only_targets, List.getElem?_append_left ha]
  rw [partsOf_copy, targets_copy]
  intro hm
  obtain ⟨b, -, hb⟩ := List.mem_map.mp hm
  omega

end C16Heap
