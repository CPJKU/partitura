/-
C02 — the elapsed sum over the carried key points does not depend on the key list: a key time at which nothing is
assigned (first / last time point of a part) can be inserted behind the first key without changing the sum over an
interval that ends at or before some key, and strictly increasing lists are determined by their members
(`elapsed_carry_congr`).
-/
import PartituraModel.Proofs.C02Exact

namespace C02Proofs
open Model.TimeMap

theorem insertKey_of_mem (t : Int) (l : List Int) (hp : l.Pairwise (· < ·)) (h : t ∈ l) : insertKey t l = l :=
  Lists.pairwise_ext (fun h => lt_asymm h) (pairwise_insertKey t l hp) hp fun x => by
    rw [mem_insertKey]
    exact ⟨fun hx => hx.elim (fun e => e ▸ h) id, Or.inr⟩

theorem elapsed_insert_aux (qd fs : List (Int × Rat)) (t : Int)
    (hq : lastAssoc qd t = none) (hf : lastAssoc fs t = none) :
    ∀ (rest : List Int) (kp : KP) (a b : Rat), kp.t < t → (kp.t :: rest).Pairwise (· < ·) →
      (∃ k ∈ kp.t :: rest, b ≤ ((k : Int) : Rat)) →
      elapsed (kp :: carry qd fs (insertKey t rest) kp.divs kp.fac) a b =
        elapsed (kp :: carry qd fs rest kp.divs kp.fac) a b := by
  intro rest
  fun_induction insertKey t rest with
  | case1 =>
    -- `t` behind the last key: the new stretch lies beyond `b`
    intro kp a b _ _ ⟨k, hk, hb⟩
    rw [List.mem_singleton] at hk
    subst hk
    simp only [carry, elapsed]
    rw [overlap_of_le_left hb]
    ring
  | case2 k2 rest2 h1 =>
    -- `t` between `kp` and the next key: the stretch is cut in two at the same rate
    intro kp a b hkt _ _
    simp only [carry, elapsed, hq, hf]
    rw [overlap_split (a := a) (b := b) (Int.cast_le.mpr hkt.le) (Int.cast_le.mpr h1.le)]
    ring
  | case3 rest2 h1 => intro _ _ _ _ _ _; rfl
  | case4 k2 rest2 h1 h2 ih =>
    intro kp a b hkt hp hr
    have hp' := List.pairwise_cons.mp hp
    have hk2 : kp.t < k2 := hp'.1 k2 List.mem_cons_self
    have hr' : ∃ k ∈ k2 :: rest2, b ≤ ((k : Int) : Rat) := by
      obtain ⟨k, hk, hb⟩ := hr
      rcases List.mem_cons.mp hk with rfl | hk
      · exact ⟨k2, List.mem_cons_self, hb.trans (Int.cast_le.mpr hk2.le)⟩
      · exact ⟨k, hk, hb⟩
    simp only [carry, elapsed]
    congr 1
    exact ih _ a b (by simp only; omega) hp'.2 hr'
theorem elapsed_insertKey (qd fs : List (Int × Rat)) (keys : List Int) (t0 t : Int)
    (hp : keys.Pairwise (· < ·)) (hh : keys.head? = some t0) (ht0 : t0 ≤ t)
    (hun : t ∉ keys → lastAssoc qd t = none ∧ lastAssoc fs t = none) (a b : Rat)
    (hr : ∃ k ∈ keys, b ≤ ((k : Int) : Rat)) :
    elapsed (carry qd fs (insertKey t keys) 1 1) a b = elapsed (carry qd fs keys 1 1) a b ∧
    (insertKey t keys).head? = some t0 := by
  by_cases hm : t ∈ keys
  · rw [insertKey_of_mem t keys hp hm]; exact ⟨rfl, hh⟩
  · obtain ⟨hq, hf⟩ := hun hm
    cases keys with
    | nil => simp at hh
    | cons k rest =>
      simp only [List.head?_cons, Option.some.injEq] at hh
      subst hh
      have hlt : k < t := lt_of_le_of_ne ht0 fun h => hm (h ▸ List.mem_cons_self)
      have hins : insertKey t (k :: rest) = k :: insertKey t rest := by
        simp only [insertKey, if_neg (by omega : ¬ t < k), if_neg (by omega : ¬ t = k)]
      rw [hins]
      exact ⟨elapsed_insert_aux qd fs t hq hf rest ⟨k, _, _⟩ a b hlt hp hr, rfl⟩

theorem elapsed_insertKeys (qd fs : List (Int × Rat)) (keys : List Int) (t0 : Int)
    (hp : keys.Pairwise (· < ·)) (hh : keys.head? = some t0)
    (hun : ∀ t, t ∉ keys → lastAssoc qd t = none ∧ lastAssoc fs t = none) (a b : Rat)
    (hr : ∃ k ∈ keys, b ≤ ((k : Int) : Rat)) :
    ∀ ts : List Int, (∀ t ∈ ts, t0 ≤ t) →
      elapsed (carry qd fs (ts.foldr insertKey keys) 1 1) a b = elapsed (carry qd fs keys 1 1) a b ∧
      (ts.foldr insertKey keys).head? = some t0
  | [], _ => ⟨rfl, hh⟩
  | t :: ts, h => by
    obtain ⟨ih, ihh⟩ := elapsed_insertKeys qd fs keys t0 hp hh hun a b hr ts fun s hs => h s (List.mem_cons_of_mem _ hs)
    have sub : ∀ k ∈ keys, k ∈ ts.foldr insertKey keys := fun k hk => (mem_foldr_insertKey k keys ts).mpr (Or.inr hk)
    obtain ⟨e, eh⟩ := elapsed_insertKey qd fs _ t0 t (pairwise_foldr_insertKey keys hp ts) ihh
      (h t List.mem_cons_self) (fun hn => hun t fun hin => hn (sub t hin)) a b
      (hr.imp fun k hk => ⟨sub k hk.1, hk.2⟩)
    exact ⟨e.trans ih, eh⟩

theorem elapsed_carry_congr (qd fs : List (Int × Rat)) (ks1 ks2 : List Int) (t0 : Int)
    (p1 : ks1.Pairwise (· < ·)) (p2 : ks2.Pairwise (· < ·))
    (h1 : ks1.head? = some t0) (h2 : ks2.head? = some t0)
    (u1 : ∀ t, t ∉ ks1 → lastAssoc qd t = none ∧ lastAssoc fs t = none)
    (u2 : ∀ t, t ∉ ks2 → lastAssoc qd t = none ∧ lastAssoc fs t = none) (a b : Rat)
    (b1 : ∃ k ∈ ks1, b ≤ ((k : Int) : Rat)) (b2 : ∃ k ∈ ks2, b ≤ ((k : Int) : Rat)) :
    elapsed (carry qd fs ks1 1 1) a b = elapsed (carry qd fs ks2 1 1) a b := by
  -- both are the sum over the merged key list
  have e1 := (elapsed_insertKeys qd fs ks1 t0 p1 h1 u1 a b b1 ks2 (head_le_of_pairwise ks2 t0 p2 h2)).1
  have e2 := (elapsed_insertKeys qd fs ks2 t0 p2 h2 u2 a b b2 ks1 (head_le_of_pairwise ks1 t0 p1 h1)).1
  rw [← e1, ← e2, Lists.pairwise_ext (fun h => lt_asymm h) (pairwise_foldr_insertKey ks1 p1 ks2)
    (pairwise_foldr_insertKey ks2 p2 ks1)
    fun x => by rw [mem_foldr_insertKey, mem_foldr_insertKey, or_comm]]

end C02Proofs
