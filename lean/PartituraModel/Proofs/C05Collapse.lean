/-
`collapse_rests` / `rec_collapse_rests` (Model/NoteArray.lean: `absorbS`, `absorbAll`, `visitRow`, `passS`,
`collapsePass`, `recCollapse`): what a pass keeps of every row; when it merges nothing; and, on a clean table,
where a pass is a plain left-to-right scan (`passS_clean_induction`), that it moves durations without creating
or losing any, leaves a clean table, and returns fewer rows when it merges.
-/
import PartituraModel.Model.NoteArray
import PartituraModel.Proofs.Lists
import Mathlib.Algebra.Order.Field.Rat
import Mathlib.Algebra.BigOperators.Group.List.Basic

namespace NoteArray
open List

/-- the row without its three durations: what a pass never changes -/
def core (r : Row) : Row := { r with durBeat := 0, durDiv := 0, durQuarter := 0 }

/-- the key rows are absorbed by -/
def rkey (r : Row) : Int × Int := (r.onsetDiv, r.voice)

theorem hits_iff (t : Int) (v : Int) (x : Row) : hits t v x = true ↔ rkey x = (t, v) := by
  unfold hits rkey
  simp only [Bool.and_eq_true, decide_eq_true_eq, Prod.mk.injEq]

theorem core_absorbS (store : Rat → Rat) (acc x : Row) : core (absorbS store acc x) = core acc := rfl

theorem absorbS_onset (store : Rat → Rat) (acc x : Row) : (absorbS store acc x).onsetDiv = acc.onsetDiv := rfl
theorem absorbS_voice (store : Rat → Rat) (acc x : Row) : (absorbS store acc x).voice = acc.voice := rfl

/-- the loop over a stretch of the array takes up, in order, the rows that start at the target in the voice -/
theorem absorbAll_eq_foldl (store : Rat → Rat) (t v : Int) : ∀ (l : List Row) (acc : Row),
    absorbAll store t v acc l = (l.filter (hits t v)).foldl (absorbS store) acc
  | [], _ => rfl
  | x :: l, acc => by
    rw [absorbAll, absorbAll_eq_foldl store t v l]
    by_cases hx : hits t v x = true
    · rw [if_pos hx, filter_cons_of_pos hx, foldl_cons]
    · rw [if_neg hx, filter_cons_of_neg hx]

theorem core_absorbAll (store : Rat → Rat) (t : Int) (v : Int) (l : List Row) (acc : Row) :
    core (absorbAll store t v acc l) = core acc := by
  rw [absorbAll_eq_foldl]
  exact Lists.foldl_inv (fun r => core r = core acc) (absorbS store) (fun _ _ h => h) _ acc rfl

theorem absorbAll_onset (store : Rat → Rat) (t : Int) (v : Int) (l : List Row) (acc : Row) :
    (absorbAll store t v acc l).onsetDiv = acc.onsetDiv :=
  (congrArg Row.onsetDiv (core_absorbAll store t v l acc) :)

theorem absorbAll_voice (store : Rat → Rat) (t : Int) (v : Int) (l : List Row) (acc : Row) :
    (absorbAll store t v acc l).voice = acc.voice :=
  (congrArg Row.voice (core_absorbAll store t v l acc) :)

theorem absorbAll_none (store : Rat → Rat) (t : Int) (v : Int) (l : List Row) (acc : Row)
    (h : ∀ x ∈ l, hits t v x = false) : absorbAll store t v acc l = acc := by
  rw [absorbAll_eq_foldl, filter_eq_nil_iff.mpr fun x hx => by rw [h x hx]; exact Bool.false_ne_true]
  rfl

theorem core_visitRow (store : Rat → Rat) (pre : List (Row × Bool)) (c : Row) (post : List Row) :
    core (visitRow store pre c post).1 = core c := by
  unfold visitRow
  simp only
  rw [core_absorbAll]
  split
  · rw [core_absorbS, core_absorbAll]
  · rw [core_absorbAll]

/-- induction along a pass: a row whose key was found is passed by (`skip`), any other row is visited and its end
    recorded if it took something up (`visit`) -/
theorem passS_induction (store : Rat → Rat)
    {M : List (Row × Bool) → List (Int × Int) → List Row → List (Row × Bool) × List (Int × Int) → Prop}
    (nil : ∀ pre tg, M pre tg [] (pre, tg))
    (skip : ∀ pre tg c post r, tg.contains (c.onsetDiv, c.voice) = true →
      M (pre ++ [(c, false)]) tg post r → M pre tg (c :: post) r)
    (visit : ∀ pre tg c post r, ¬ tg.contains (c.onsetDiv, c.voice) = true →
      M (pre ++ [((visitRow store pre c post).1, true)])
        (if (visitRow store pre c post).2 then (c.onsetDiv + c.durDiv, c.voice) :: tg else tg) post r →
      M pre tg (c :: post) r) :
    ∀ (post : List Row) (pre : List (Row × Bool)) (tg : List (Int × Int)), M pre tg post (passS store pre tg post) := by
  intro post
  induction post with
  | nil => intro pre tg; exact nil pre tg
  | cons c post ih =>
    intro pre tg
    rw [passS]
    by_cases hd : tg.contains (c.onsetDiv, c.voice) = true
    · rw [if_pos hd]; exact skip _ _ _ _ _ hd (ih _ _)
    · rw [if_neg hd]; exact visit _ _ _ _ _ hd (ih _ _)

/-- a pass keeps every row's place and everything but its durations -/
theorem passS_core (store : Rat → Rat) (post : List Row) (pre : List (Row × Bool)) (tg : List (Int × Int)) :
    (passS store pre tg post).1.map (fun x => core x.1) = pre.map (fun x => core x.1) ++ post.map core :=
  passS_induction store
    (M := fun pre _ post r => r.1.map (fun x => core x.1) = pre.map (fun x => core x.1) ++ post.map core)
    (fun _ _ => by simp) (fun _ _ _ _ _ _ ih => by rw [ih]; simp)
    (fun _ _ _ _ _ _ ih => by rw [ih]; simp [core_visitRow]) post pre tg

theorem passS_prefix (store : Rat → Rat) (post : List Row) (pre : List (Row × Bool)) (tg : List (Int × Int)) :
    pre <+: (passS store pre tg post).1 :=
  passS_induction store (M := fun pre _ _ r => pre <+: r.1) (fun _ _ => prefix_refl _)
    (fun _ _ _ _ _ _ ih => (prefix_append _ _).trans ih) (fun _ _ _ _ _ _ ih => (prefix_append _ _).trans ih) post pre tg

theorem passS_length (store : Rat → Rat) (post : List Row) (pre : List (Row × Bool)) (tg : List (Int × Int)) :
    (passS store pre tg post).1.length = pre.length + post.length := by
  simpa using congrArg length (passS_core store post pre tg)

theorem collapsePass_sublist (store : Rat → Rat) (rows : List Row) :
    ((collapsePass store rows).1.map core).Sublist (rows.map core) := by
  unfold collapsePass
  simp only
  have h := passS_core store rows [] []
  simp only [map_nil, nil_append] at h
  rw [← h, map_map]
  have : (map (core ∘ fun x => x.1) (filter (fun x => x.2) (passS store [] [] rows).1)) =
      (filter (fun x => x.2) (passS store [] [] rows).1).map (fun x => core x.1) := rfl
  rw [this]
  exact (filter_sublist).map _

theorem recCollapse_induction {P : List Row → Prop} (store : Rat → Rat)
    (hstep : ∀ rows, P rows → P (collapsePass store rows).1) :
    ∀ (fuel : Nat) (rows : List Row), P rows → P (recCollapse store fuel rows) := by
  intro fuel
  induction fuel with
  | zero => exact fun _ h => h
  | succ n ih =>
    intro rows h
    rw [recCollapse]
    split
    · exact ih _ (hstep rows h)
    · exact hstep rows h

/-- no row of `l` starts where `c` ends (as stored) in its voice -/
def NoHit (c : Row) (l : List Row) : Prop :=
  ∀ x ∈ l, hits (c.onsetDiv + c.durDiv) c.voice x = false

theorem visitRow_of_nohit_before (store : Rat → Rat) (pre : List (Row × Bool)) (c : Row) (post : List Row)
    (h : NoHit c (pre.map (·.1) ++ [c])) :
    visitRow store pre c post =
      (absorbAll store (c.onsetDiv + c.durDiv) c.voice c post,
       post.any (hits (c.onsetDiv + c.durDiv) c.voice)) := by
  have hpre : ∀ x ∈ pre.map (·.1), hits (c.onsetDiv + c.durDiv) c.voice x = false :=
    fun x hx => h x (mem_append_left _ hx)
  have hself : hits (c.onsetDiv + c.durDiv) c.voice c = false :=
    h c (mem_append_right _ mem_cons_self)
  have hany : (pre.any fun x => hits (c.onsetDiv + c.durDiv) c.voice x.1) = false := by
    rw [any_eq_false]
    intro x hx
    rw [hpre x.1 (mem_map_of_mem hx)]
    simp
  unfold visitRow
  simp only [absorbAll_none store _ _ _ c hpre, hself, hany, Bool.false_eq_true, if_false, Bool.false_or]

theorem visitRow_snd_false (store : Rat → Rat) (pre : List (Row × Bool)) (c : Row) (post : List Row) :
    (visitRow store pre c post).2 = false ↔ NoHit c (pre.map (·.1) ++ c :: post) := by
  unfold visitRow NoHit
  simp only [Bool.or_eq_false_iff, any_eq_false, Bool.not_eq_true]
  constructor
  · rintro ⟨⟨h1, h2⟩, h3⟩ x hx
    rcases mem_append.mp hx with hx | hx
    · obtain ⟨y, hy, rfl⟩ := mem_map.mp hx
      exact h1 y hy
    · rcases mem_cons.mp hx with rfl | hx
      · exact h2
      · exact h3 x hx
  · intro h
    exact ⟨⟨fun y hy => h _ (mem_append_left _ (mem_map_of_mem hy)), h c (mem_append_right _ mem_cons_self)⟩,
      fun x hx => h x (mem_append_right _ (mem_cons_of_mem _ hx))⟩

theorem visitRow_of_nohit (store : Rat → Rat) (pre : List (Row × Bool)) (c : Row) (post : List Row)
    (h : NoHit c (pre.map (·.1) ++ c :: post)) : visitRow store pre c post = (c, false) := by
  have hpost : ∀ x ∈ post, hits (c.onsetDiv + c.durDiv) c.voice x = false :=
    fun x hx => h x (mem_append_right _ (mem_cons_of_mem _ hx))
  have hbefore : NoHit c (pre.map (·.1) ++ [c]) := by
    intro x hx
    rcases mem_append.mp hx with hx | hx
    · exact h x (mem_append_left _ hx)
    · exact h x (mem_append_right _ (mem_singleton.mp hx ▸ mem_cons_self))
  rw [visitRow_of_nohit_before store pre c post hbefore, absorbAll_none store _ _ _ c hpost,
    any_eq_false.mpr fun x hx => by simp [hpost x hx]]

theorem passS_tg_grows (store : Rat → Rat) (post : List Row) (pre : List (Row × Bool)) (tg : List (Int × Int)) :
    tg.length ≤ (passS store pre tg post).2.length :=
  passS_induction store (M := fun _ tg _ r => tg.length ≤ r.2.length) (fun _ _ => Nat.le_refl _)
    (fun _ _ _ _ _ _ ih => ih)
    (fun _ _ _ _ _ _ ih => by split at ih; exacts [Nat.le_trans (by simp) ih, ih]) post pre tg

theorem passS_nomerge (store : Rat → Rat) : ∀ (post : List Row) (pre : List (Row × Bool)),
    ((passS store pre [] post).2 = [] ↔ ∀ c ∈ post, NoHit c (pre.map (·.1) ++ post)) ∧
    ((passS store pre [] post).2 = [] →
      (passS store pre [] post).1 = pre ++ post.map (fun c => (c, true))) := by
  intro post
  induction post with
  | nil => intro pre; simp [passS]
  | cons c post ih =>
    intro pre
    rw [passS, if_neg (by simp)]
    simp only
    by_cases hv : (visitRow store pre c post).2 = true
    · -- the key that is recorded now is still there at the end
      rw [if_pos hv]
      have hne : (passS store (pre ++ [((visitRow store pre c post).1, true)])
          [(c.onsetDiv + c.durDiv, c.voice)] post).2 ≠ [] := by
        intro e
        have := passS_tg_grows store post (pre ++ [((visitRow store pre c post).1, true)])
          [(c.onsetDiv + c.durDiv, c.voice)]
        rw [e] at this
        simp at this
      refine ⟨⟨fun e => absurd e hne, fun hn => ?_⟩, fun e => absurd e hne⟩
      have := (visitRow_snd_false store pre c post).mpr (hn c mem_cons_self)
      rw [hv] at this
      cases this
    · rw [if_neg hv]
      have hc := (visitRow_snd_false store pre c post).mp (by simpa using hv)
      rw [visitRow_of_nohit store pre c post hc]
      obtain ⟨i1, i2⟩ := ih (pre ++ [(c, true)])
      simp only [map_append, map_cons, map_nil, append_assoc, cons_append, nil_append] at i1 i2
      exact ⟨i1.trans (by simp [hc]), i2⟩

theorem collapsePass_nomerge (store : Rat → Rat) (rows : List Row) :
    ((collapsePass store rows).2 = false ↔ ∀ c ∈ rows, NoHit c rows) ∧
    ((collapsePass store rows).2 = false → (collapsePass store rows).1 = rows) := by
  obtain ⟨h1, h2⟩ := passS_nomerge store rows []
  have hflag : (collapsePass store rows).2 = false ↔ (passS store [] [] rows).2 = [] := by
    unfold collapsePass
    simp
  rw [hflag]
  refine ⟨by simpa using h1, fun h => ?_⟩
  unfold collapsePass
  simp only
  rw [h2 h]
  simp [filter_map, Function.comp_def]

/-- not yet absorbed: the key has not been looked for and found -/
def alive (tg : List (Int × Int)) (r : Row) : Bool := !(tg.contains (rkey r))

theorem alive_cons (k : Int × Int) (tg : List (Int × Int)) (x : Row) :
    alive (k :: tg) x = (alive tg x && !hits k.1 k.2 x) := by
  have : hits k.1 k.2 x = (rkey x == k) := by
    rw [Bool.eq_iff_iff, hits_iff, beq_iff_eq]
  rw [this, alive, alive, contains_cons, Bool.not_or, Bool.and_comm]

/-- the rows a pass has put into its output so far -/
def emitted (pre : List (Row × Bool)) : List Row := (pre.filter (·.2)).map (·.1)

theorem emitted_append (pre : List (Row × Bool)) (x : Row × Bool) :
    emitted (pre ++ [x]) = emitted pre ++ (if x.2 then [x.1] else []) := by
  unfold emitted
  rw [filter_append, map_append]
  congr 1
  cases hx : x.2 <;> simp [hx]

theorem mem_emitted {pre : List (Row × Bool)} {a : Row} (h : a ∈ emitted pre) : (a, true) ∈ pre := by
  unfold emitted at h
  obtain ⟨x, hx, rfl⟩ := mem_map.mp h
  obtain ⟨hx1, hx2⟩ := mem_filter.mp hx
  have : x = (x.1, true) := by
    cases x with
    | mk r b => simp at hx2; simp [hx2]
  rw [← this]; exact hx1

/-- the conditions under which a pass is a plain left-to-right scan: rows ordered by (stored) onset, every
    row ends (stored) after it starts, rows of one voice do not overlap; `pre` / `tg` relate to what is left -/
structure Clean (pre : List (Row × Bool)) (tg : List (Int × Int)) (post : List Row) : Prop where
  pre_le : ∀ x ∈ pre, ∀ c ∈ post, x.1.onsetDiv ≤ c.onsetDiv
  sorted : post.Pairwise (fun a b => a.onsetDiv ≤ b.onsetDiv)
  pos : ∀ c ∈ post, c.onsetDiv < c.onsetDiv + c.durDiv
  apart : post.Pairwise (fun a b => a.voice = b.voice → a.onsetDiv + a.durDiv ≤ b.onsetDiv)
  tg_le : ∀ k ∈ tg, ∀ c ∈ post, c.voice = k.2 → k.1 ≤ c.onsetDiv

/-- a table on which a pass is a plain scan -/
def CleanTable (rows : List Row) : Prop := Clean [] [] rows

theorem CleanTable.of {t : List Row} (sorted : t.Pairwise (fun a b => a.onsetDiv ≤ b.onsetDiv))
    (pos : ∀ c ∈ t, c.onsetDiv < c.onsetDiv + c.durDiv)
    (apart : t.Pairwise (fun a b => a.voice = b.voice → a.onsetDiv + a.durDiv ≤ b.onsetDiv)) : CleanTable t :=
  { pre_le := fun _ hx => (by cases hx), sorted := sorted, pos := pos, apart := apart, tg_le := fun _ hk => (by cases hk) }

theorem Clean.fresh {pre : List (Row × Bool)} {tg : List (Int × Int)} {c : Row} {post : List Row}
    (h : Clean pre tg (c :: post)) : (c.onsetDiv + c.durDiv, c.voice) ∉ tg := by
  intro hk
  have h1 := h.tg_le _ hk c mem_cons_self rfl
  have h2 := h.pos c mem_cons_self
  exact absurd h1 (not_le.mpr h2)

/-- under `Clean` nothing before the row and not the row itself starts where it ends -/
theorem visitRow_clean {pre : List (Row × Bool)} {tg : List (Int × Int)} {c : Row} {post : List Row}
    (h : Clean pre tg (c :: post)) :
    visitRow store pre c post =
      (absorbAll store (c.onsetDiv + c.durDiv) c.voice c post,
       post.any (hits (c.onsetDiv + c.durDiv) c.voice)) := by
  refine visitRow_of_nohit_before store pre c post fun x hx => ?_
  have hle : x.onsetDiv ≤ c.onsetDiv := by
    rcases mem_append.mp hx with hx | hx
    · obtain ⟨y, hy, rfl⟩ := mem_map.mp hx
      exact h.pre_le y hy c mem_cons_self
    · rw [mem_singleton.mp hx]
  unfold hits
  simp [ne_of_lt (lt_of_le_of_lt hle (h.pos c mem_cons_self))]

theorem Clean.skip {pre : List (Row × Bool)} {tg : List (Int × Int)} {c : Row} {post : List Row}
    (h : Clean pre tg (c :: post)) (x : Row × Bool) (hx : x.1.onsetDiv = c.onsetDiv) :
    Clean (pre ++ [x]) tg post where
  pre_le := by
    intro y hy d hd
    rcases mem_append.mp hy with hy | hy
    · exact h.pre_le y hy d (mem_cons_of_mem _ hd)
    · rw [mem_singleton.mp hy, hx]
      exact (pairwise_cons.mp h.sorted).1 d hd
  sorted := (pairwise_cons.mp h.sorted).2
  pos := fun d hd => h.pos d (mem_cons_of_mem _ hd)
  apart := (pairwise_cons.mp h.apart).2
  tg_le := fun k hk d hd => h.tg_le k hk d (mem_cons_of_mem _ hd)

theorem Clean.visit {pre : List (Row × Bool)} {tg : List (Int × Int)} {c : Row} {post : List Row}
    (h : Clean pre tg (c :: post)) (x : Row × Bool) (hx : x.1.onsetDiv = c.onsetDiv) :
    Clean (pre ++ [x]) ((c.onsetDiv + c.durDiv, c.voice) :: tg) post :=
  { h.skip x hx with
    tg_le := by
      intro k hk d hd hv
      rcases mem_cons.mp hk with rfl | hk
      · exact (pairwise_cons.mp h.apart).1 d hd hv.symm
      · exact h.tg_le k hk d (mem_cons_of_mem _ hd) hv }

/-- induction along a pass over a clean stretch: a row whose key was found is left out (`skip`); any other row
    takes up the waiting rows that start where it ends, and its end is recorded if there are any (`visit`) -/
theorem passS_clean_induction (store : Rat → Rat)
    {M : List (Row × Bool) → List (Int × Int) → List Row → List (Row × Bool) × List (Int × Int) → Prop}
    (nil : ∀ pre tg, M pre tg [] (pre, tg))
    (skip : ∀ pre tg c post r, Clean pre tg (c :: post) → alive tg c = false →
      M (pre ++ [(c, false)]) tg post r → M pre tg (c :: post) r)
    (visit : ∀ pre tg c post r, Clean pre tg (c :: post) → alive tg c = true →
      M (pre ++ [(absorbAll store (c.onsetDiv + c.durDiv) c.voice c post, true)])
        (if post.any (hits (c.onsetDiv + c.durDiv) c.voice) then (c.onsetDiv + c.durDiv, c.voice) :: tg else tg)
        post r →
      M pre tg (c :: post) r) :
    ∀ (post : List Row) (pre : List (Row × Bool)) (tg : List (Int × Int)), Clean pre tg post →
      M pre tg post (passS store pre tg post) :=
  passS_induction store (M := fun pre tg post r => Clean pre tg post → M pre tg post r)
    (fun pre tg _ => nil pre tg)
    (fun _ _ c _ _ hd ih h => skip _ _ _ _ _ h (by rw [alive, rkey, hd]; rfl) (ih (h.skip (c, false) rfl)))
    (fun pre tg c post r hd ih h => by
      rw [visitRow_clean h] at ih
      refine visit _ _ _ _ _ h (by simpa [alive, rkey] using hd) (ih ?_)
      split
      · exact h.visit _ (absorbAll_onset ..)
      · exact h.skip _ (absorbAll_onset ..))

section Measure
variable {A : Type} [AddCommMonoid A]

theorem absorbAll_measure (store : Rat → Rat) (μ : Row → A)
    (hμ : ∀ acc x, μ (absorbS store acc x) = μ acc + μ x) (t : Int) (v : Int) (l : List Row) (acc : Row) :
    μ (absorbAll store t v acc l) = μ acc + ((l.filter (hits t v)).map μ).sum := by
  rw [absorbAll_eq_foldl]
  induction l.filter (hits t v) generalizing acc with
  | nil => simp
  | cons x f ih => rw [foldl_cons, ih, hμ, map_cons, sum_cons, add_assoc]

/-- the part of a measure that belongs to voice `v` -/
def wv (μ : Row → A) (v : Int) (r : Row) : A := if r.voice = v then μ r else 0

def sumW (μ : Row → A) (v : Int) (l : List Row) : A := (l.map (wv μ v)).sum

theorem sumW_append (μ : Row → A) (v : Int) (a b : List Row) : sumW μ v (a ++ b) = sumW μ v a + sumW μ v b := by
  unfold sumW; rw [map_append, sum_append]

theorem sumW_nil (μ : Row → A) (v : Int) : sumW μ v [] = 0 := rfl
theorem sumW_cons (μ : Row → A) (v : Int) (x : Row) (l : List Row) : sumW μ v (x :: l) = wv μ v x + sumW μ v l := by
  unfold sumW; rw [map_cons, sum_cons]
theorem sumW_single (μ : Row → A) (v : Int) (r : Row) : sumW μ v [r] = wv μ v r := by
  unfold sumW; simp

theorem sum_filter_split {α : Type} (f : α → A) (p q : α → Bool) (hq : ∀ x, q x = true → p x = true) (l : List α) :
    ((l.filter fun x => p x && !q x).map f).sum + ((l.filter q).map f).sum = ((l.filter p).map f).sum := by
  induction l with
  | nil => simp
  | cons x l ih =>
    have := hq x
    cases hp : p x <;> cases hqx : q x <;> simp_all [add_assoc, add_left_comm]

theorem alive_split (μ : Row → A) (v : Int) (tg : List (Int × Int)) (k : Int × Int) (hk : k ∉ tg) (post : List Row) :
    sumW μ v (post.filter (alive (k :: tg))) + sumW μ v (post.filter (fun x => hits k.1 k.2 x)) =
      sumW μ v (post.filter (alive tg)) := by
  rw [funext (alive_cons k tg)]
  refine sum_filter_split (wv μ v) _ _ (fun x hx => ?_) post
  simpa [alive, (hits_iff _ _ _).1 hx] using hk

/-- the rows a key hits all have its voice -/
theorem sumW_hits (μ : Row → A) (v : Int) (t : Int) (vc : Int) (l : List Row) :
    sumW μ v (l.filter (hits t vc)) = if vc = v then ((l.filter (hits t vc)).map μ).sum else 0 := by
  unfold sumW
  rw [map_congr_left (g := fun x => if vc = v then μ x else 0) fun x hx => by
    rw [wv, (Prod.mk.inj ((hits_iff _ _ _).mp (mem_filter.mp hx).2)).2]]
  split <;> simp

/-- **one clean pass moves durations, it does not create or lose any**: what is in the output plus what
    is still waiting (and alive) is constant -/
theorem passS_total (store : Rat → Rat) (μ : Row → A) (hμ : ∀ acc x, μ (absorbS store acc x) = μ acc + μ x)
    (v : Int) (post : List Row) (pre : List (Row × Bool)) (tg : List (Int × Int)) (h : Clean pre tg post) :
    sumW μ v (emitted (passS store pre tg post).1) =
      sumW μ v (emitted pre) + sumW μ v (post.filter (alive tg)) := by
  refine passS_clean_induction store (M := fun pre tg post r =>
    sumW μ v (emitted r.1) = sumW μ v (emitted pre) + sumW μ v (post.filter (alive tg))) ?_ ?_ ?_ post pre tg h
  · intro pre tg
    rw [filter_nil, sumW_nil, add_zero]
  · intro pre tg c post r _ hal ih
    rw [ih, emitted_append, filter_cons_of_neg (by simp [hal])]
    simp
  · intro pre tg c post r h hal ih
    -- the row put out weighs what `c` and the rows it took up weighed
    have hacc : wv μ v (absorbAll store (c.onsetDiv + c.durDiv) c.voice c post) =
        wv μ v c + sumW μ v (post.filter (hits (c.onsetDiv + c.durDiv) c.voice)) := by
      unfold wv
      rw [absorbAll_voice, sumW_hits, absorbAll_measure store μ hμ]
      split
      · rfl
      · simp
    -- and those rows are no longer alive
    have hs : sumW μ v (post.filter (alive (if post.any (hits (c.onsetDiv + c.durDiv) c.voice) then
          (c.onsetDiv + c.durDiv, c.voice) :: tg else tg))) +
        sumW μ v (post.filter (hits (c.onsetDiv + c.durDiv) c.voice)) = sumW μ v (post.filter (alive tg)) := by
      split
      · exact alive_split μ v tg _ h.fresh post
      · rename_i hany
        rw [filter_eq_nil_iff.mpr fun x hx hh => hany (any_eq_true.mpr ⟨x, hx, hh⟩), sumW_nil, add_zero]
    rw [ih, emitted_append, if_pos rfl, sumW_append, sumW_single, hacc, filter_cons_of_pos hal, sumW_cons, ← hs,
      add_assoc, add_assoc, add_comm (sumW μ v (post.filter (hits (c.onsetDiv + c.durDiv) c.voice)))]

theorem collapsePass_total (store : Rat → Rat) (μ : Row → A) (hμ : ∀ acc x, μ (absorbS store acc x) = μ acc + μ x)
    (v : Int) (rows : List Row) (h : CleanTable rows) :
    sumW μ v (collapsePass store rows).1 = sumW μ v rows := by
  have := passS_total store μ hμ v rows [] [] h
  rwa [(filter_eq_self (p := alive [])).mpr fun x _ => rfl, show emitted [] = [] from rfl, sumW_nil, zero_add] at this

end Measure

theorem absorbAll_durDiv (store : Rat → Rat) (t : Int) (v : Int) (l : List Row) (acc : Row) :
    (absorbAll store t v acc l).durDiv = acc.durDiv + ((l.filter (hits t v)).map (·.durDiv)).sum :=
  absorbAll_measure store (·.durDiv) (fun _ _ => rfl) t v l acc

theorem hits_unique {pre : List (Row × Bool)} {tg : List (Int × Int)} {c : Row} {post : List Row}
    (h : Clean pre tg (c :: post)) :
    post.filter (hits (c.onsetDiv + c.durDiv) c.voice) = [] ∨
    ∃ x ∈ post, hits (c.onsetDiv + c.durDiv) c.voice x = true ∧
      post.filter (hits (c.onsetDiv + c.durDiv) c.voice) = [x] := by
  have hap : (post.filter (hits (c.onsetDiv + c.durDiv) c.voice)).Pairwise
      (fun a b => a.voice = b.voice → a.onsetDiv + a.durDiv ≤ b.onsetDiv) :=
    (pairwise_cons.mp h.apart).2.sublist filter_sublist
  cases hf : post.filter (hits (c.onsetDiv + c.durDiv) c.voice) with
  | nil => exact Or.inl rfl
  | cons x rest =>
    have hx : x ∈ post.filter (hits (c.onsetDiv + c.durDiv) c.voice) := by rw [hf]; exact mem_cons_self
    obtain ⟨hxp, hxh⟩ := mem_filter.mp hx
    cases rest with
    | nil => exact Or.inr ⟨x, hxp, hxh, rfl⟩
    | cons y rest =>
      exfalso
      have hy : y ∈ post.filter (hits (c.onsetDiv + c.durDiv) c.voice) := by
        rw [hf]; exact mem_cons_of_mem _ mem_cons_self
      obtain ⟨kx1, kx2⟩ := Prod.mk.inj ((hits_iff _ _ _).mp hxh)
      obtain ⟨ky1, ky2⟩ := Prod.mk.inj ((hits_iff _ _ _).mp (mem_filter.mp hy).2)
      rw [hf] at hap
      have hxy : x.onsetDiv + x.durDiv ≤ y.onsetDiv := (pairwise_cons.mp hap).1 y mem_cons_self (kx2.trans ky2.symm)
      have hpos := h.pos x (mem_cons_of_mem _ hxp)
      omega

/-- on a clean stretch the row that `c` becomes is no shorter than `c`, and ends before every waiting row of its
    voice that it does not take up: it ends where `c` ends, or where the one row it takes up ends -/
theorem absorbAll_end {store : Rat → Rat} {pre : List (Row × Bool)} {tg : List (Int × Int)} {c : Row}
    {post : List Row} (h : Clean pre tg (c :: post)) :
    c.durDiv ≤ (absorbAll store (c.onsetDiv + c.durDiv) c.voice c post).durDiv ∧
    ∀ b ∈ post, hits (c.onsetDiv + c.durDiv) c.voice b = false → c.voice = b.voice →
      c.onsetDiv + (absorbAll store (c.onsetDiv + c.durDiv) c.voice c post).durDiv ≤ b.onsetDiv := by
  have hhead := pairwise_cons.mp h.apart
  rw [absorbAll_durDiv]
  rcases hits_unique h with hn | ⟨x, hx, hxh, hf⟩
  · rw [hn]
    simp only [map_nil, sum_nil, add_zero]
    exact ⟨le_refl _, fun b hb _ hv => hhead.1 b hb hv⟩
  · rw [hf]
    simp only [map_cons, map_nil, sum_cons, sum_nil, add_zero]
    obtain ⟨kx1, kx2⟩ := Prod.mk.inj ((hits_iff _ _ _).mp hxh)
    have hxpos := h.pos x (mem_cons_of_mem _ hx)
    refine ⟨by omega, fun b hb hnb hv => ?_⟩
    have hcb : c.onsetDiv + c.durDiv ≤ b.onsetDiv := hhead.1 b hb hv
    have hne : x ≠ b := fun e => by rw [e, hnb] at hxh; cases hxh
    rcases (Lists.pairwise_mem hhead.2 hx hb).resolve_left hne with hxb | hbx
    · have : x.onsetDiv + x.durDiv ≤ b.onsetDiv := hxb (kx2.trans hv)
      omega
    · have : b.onsetDiv + b.durDiv ≤ x.onsetDiv := hbx (hv.symm.trans kx2.symm)
      have := h.pos b (mem_cons_of_mem _ hb)
      omega

/-- what a pass has put out so far is itself clean, and ends before whatever is still alive in its voice -/
structure Good (pre : List (Row × Bool)) (tg : List (Int × Int)) (post : List Row) : Prop where
  clean : CleanTable (emitted pre)
  before : ∀ a ∈ emitted pre, ∀ b ∈ post, alive tg b = true → a.voice = b.voice →
    a.onsetDiv + a.durDiv ≤ b.onsetDiv

theorem Good.skip {pre : List (Row × Bool)} {tg : List (Int × Int)} {c : Row} {post : List Row}
    (hg : Good pre tg (c :: post)) : Good (pre ++ [(c, false)]) tg post := by
  have he : emitted (pre ++ [(c, false)]) = emitted pre := by rw [emitted_append]; simp
  exact { clean := by rw [he]; exact hg.clean
          before := by rw [he]; exact fun a ha b hb => hg.before a ha b (mem_cons_of_mem _ hb) }

/-- the row `a` put out for `c` starts where `c` starts, in its voice, and ends as `absorbAll_end` says -/
theorem Good.visit {pre : List (Row × Bool)} {tg : List (Int × Int)} {c a : Row} {post : List Row}
    (h : Clean pre tg (c :: post)) (hg : Good pre tg (c :: post)) (hal : alive tg c = true)
    (honset : a.onsetDiv = c.onsetDiv) (hvoice : a.voice = c.voice) (hdur : c.durDiv ≤ a.durDiv)
    (hend : ∀ b ∈ post, hits (c.onsetDiv + c.durDiv) c.voice b = false → c.voice = b.voice →
      c.onsetDiv + a.durDiv ≤ b.onsetDiv) :
    Good (pre ++ [(a, true)])
      (if post.any (hits (c.onsetDiv + c.durDiv) c.voice) then (c.onsetDiv + c.durDiv, c.voice) :: tg else tg)
      post := by
  have he : emitted (pre ++ [(a, true)]) = emitted pre ++ [a] := by rw [emitted_append]; rfl
  refine { clean := .of ?_ ?_ ?_, before := ?_ }
  · rw [he, pairwise_append]
    refine ⟨hg.clean.sorted, pairwise_singleton _ _, fun x hx b hb => ?_⟩
    rw [mem_singleton.mp hb, honset]
    exact h.pre_le _ (mem_emitted hx) c mem_cons_self
  · rw [he]
    intro x hx
    rcases mem_append.mp hx with hx | hx
    · exact hg.clean.pos x hx
    · rw [mem_singleton.mp hx]
      have := h.pos c mem_cons_self
      omega
  · rw [he, pairwise_append]
    refine ⟨hg.clean.apart, pairwise_singleton _ _, fun x hx b hb => ?_⟩
    rw [mem_singleton.mp hb, honset, hvoice]
    exact hg.before x hx c mem_cons_self hal
  · rw [he]
    intro x hx b hb hab hv
    -- a waiting row that stays alive was alive before and is not taken up by `c`
    have hstay : alive tg b = true ∧ hits (c.onsetDiv + c.durDiv) c.voice b = false := by
      split at hab
      · rw [alive_cons] at hab
        simpa using hab
      · rename_i hany
        exact ⟨hab, by simpa using fun hh => hany (any_eq_true.mpr ⟨b, hb, hh⟩)⟩
    rcases mem_append.mp hx with hx | hx
    · exact hg.before x hx b (mem_cons_of_mem _ hb) hstay.1 hv
    · rw [mem_singleton.mp hx] at hv ⊢
      rw [honset]
      exact hend b hb hstay.2 (hvoice ▸ hv)

theorem collapsePass_clean (store : Rat → Rat) (rows : List Row) (h : CleanTable rows) :
    CleanTable (collapsePass store rows).1 := by
  have hg : Good (passS store [] [] rows).1 (passS store [] [] rows).2 [] :=
    passS_clean_induction store (M := fun pre tg post r => Good pre tg post → Good r.1 r.2 [])
      (fun _ _ hg => hg)
      (fun _ _ _ _ _ _ _ ih hg => ih hg.skip)
      (fun _ _ _ _ _ hc hal ih hg => ih (hg.visit hc hal (absorbAll_onset ..) (absorbAll_voice ..)
        (absorbAll_end hc).1 (absorbAll_end hc).2))
      rows [] [] h
      { clean := .of Pairwise.nil (fun _ ha => by cases ha) Pairwise.nil
        before := fun _ ha => by cases ha }
  exact hg.clean

/-- on a clean stretch a row is left out of the output as soon as one already is, a waiting row has a key that
    was found, or a key is found on the way (the row that has it is then still waiting) -/
theorem passS_drops (store : Rat → Rat) (post : List Row) (pre : List (Row × Bool)) (tg : List (Int × Int))
    (h : Clean pre tg post)
    (hd : (∃ x ∈ pre, x.2 = false) ∨ (∃ c ∈ post, rkey c ∈ tg) ∨ (passS store pre tg post).2 ≠ tg) :
    ∃ x ∈ (passS store pre tg post).1, x.2 = false := by
  refine passS_clean_induction store (M := fun pre tg post r =>
    ((∃ x ∈ pre, x.2 = false) ∨ (∃ c ∈ post, rkey c ∈ tg) ∨ r.2 ≠ tg) → ∃ x ∈ r.1, x.2 = false)
    ?_ ?_ ?_ post pre tg h hd
  · rintro pre tg (h | ⟨c, hc, _⟩ | h)
    · exact h
    · cases hc
    · exact absurd rfl h
  · intro pre tg c post r _ _ ih _
    exact ih (Or.inl ⟨(c, false), by simp, rfl⟩)
  · intro pre tg c post r _ hal ih hd
    apply ih
    rcases hd with ⟨x, hx, hx2⟩ | ⟨c', hc', hk⟩ | hne
    · exact Or.inl ⟨x, mem_append_left _ hx, hx2⟩
    · rcases mem_cons.mp hc' with rfl | hc'
      · simp [alive, hk] at hal
      · refine Or.inr (Or.inl ⟨c', hc', ?_⟩)
        split
        · exact mem_cons_of_mem _ hk
        · exact hk
    · by_cases hany : post.any (hits (c.onsetDiv + c.durDiv) c.voice) = true
      · obtain ⟨x, hx, hxh⟩ := any_eq_true.mp hany
        refine Or.inr (Or.inl ⟨x, hx, ?_⟩)
        rw [if_pos hany, (hits_iff _ _ _).1 hxh]
        exact mem_cons_self
      · rw [if_neg hany]
        exact Or.inr (Or.inr hne)

theorem collapsePass_shorter (store : Rat → Rat) (rows : List Row) (h : CleanTable rows)
    (hm : (collapsePass store rows).2 = true) : (collapsePass store rows).1.length < rows.length := by
  unfold collapsePass at hm ⊢
  simp only at hm ⊢
  have hne : (passS store [] [] rows).2 ≠ [] := fun e => by rw [e] at hm; cases hm
  obtain ⟨x, hx, hx2⟩ := passS_drops store rows [] [] h (Or.inr (Or.inr hne))
  rw [length_map]
  calc _ < (passS store [] [] rows).1.length := length_filter_lt_length_iff_exists.2 ⟨x, hx, by simp [hx2]⟩
    _ = rows.length := by rw [passS_length, length_nil, Nat.zero_add]

theorem recCollapse_clean (store : Rat → Rat) (fuel : Nat) (rows : List Row) (h : CleanTable rows) :
    CleanTable (recCollapse store fuel rows) :=
  recCollapse_induction store (collapsePass_clean store) fuel rows h

theorem recCollapse_total {A : Type} [AddCommMonoid A] (store : Rat → Rat) (μ : Row → A)
    (hμ : ∀ acc x, μ (absorbS store acc x) = μ acc + μ x) (v : Int) (fuel : Nat) (rows : List Row)
    (h : CleanTable rows) : sumW μ v (recCollapse store fuel rows) = sumW μ v rows :=
  (recCollapse_induction (P := fun t => CleanTable t ∧ sumW μ v t = sumW μ v rows) store
    (fun t ht => ⟨collapsePass_clean store t ht.1, (collapsePass_total store μ hμ v t ht.1).trans ht.2⟩)
    fuel rows ⟨h, rfl⟩).2

theorem recCollapse_stable (store : Rat → Rat) : ∀ (fuel : Nat) (rows : List Row), CleanTable rows →
    rows.length < fuel → (collapsePass store (recCollapse store fuel rows)).2 = false := by
  intro fuel
  induction fuel with
  | zero => intro rows _ h; cases h
  | succ n ih =>
    intro rows h hl
    rw [recCollapse]
    by_cases hm : (collapsePass store rows).2 = true
    · rw [if_pos hm]
      apply ih _ (collapsePass_clean store rows h)
      have := collapsePass_shorter store rows h hm
      omega
    · rw [if_neg hm]
      have hm' : (collapsePass store rows).2 = false := by simpa using hm
      rw [(collapsePass_nomerge store rows).2 hm']
      exact hm'

end NoteArray
