/-
What the `Mei` state machine does with the elements the MEI writer writes: running the events of an element, `Written`
(the form of every theorem about a level of the writer), reading written attributes back, and the step `openEv` /
`closeEv` takes for each element name the writer uses, read off `Proofs/C19Step.lean` in the writer's terms (`pre`, `push`).
-/
import PartituraModel.Model.MeiWrite
import PartituraModel.Proofs.C19Step
import PartituraModel.Proofs.Digits
import PartituraModel.Proofs.Lists

namespace C19M
open Model Model.Mei Model.MeiWrite

theorem natOfString_showNat (n : Nat) : natOfString (showNat n) = some n := by
  have hall : (natDigits n).all Char.isDigit = true := List.all_eq_true.mpr (Digits.natDigits_isDigit n)
  simp [natOfString, showNat, Digits.natDigits_ne_nil, hall, Digits.digitsToNat_natDigits]

theorem natOfString_intStr (i : Int) (h : 0 ≤ i) : natOfString (intStr i) = some i.toNat := by
  have : ¬ (i < 0) := by omega
  simp [intStr, showInt, this, natOfString_showNat]

theorem natAttr_natStr (k : String) (n : Nat) (as : List (String × String)) : natAttr ((k, natStr n) :: as) k = some n := by
  simp [natAttr, attr, lookup, natStr, natOfString_showNat]

theorem runEvs_seq {st s1 s2 : Mei.St} {a b : List Ev} (h1 : runEvs st a = some s1) (h2 : runEvs s1 b = some s2) :
    runEvs st (a ++ b) = some s2 := by
  rw [C19S.runEvs_append, h1]; exact h2

theorem runEvs_el {st s1 s2 s3 : Mei.St} {tag : String} {as : List (String × String)} {children : List Ev}
    (ho : openEv st tag as = some s1) (hr : runEvs s1 children = some s2) (hc : closeEv s2 = some s3) :
    runEvs st (el tag as children) = some s3 := by
  simp only [el, List.cons_append, runEvs, stepEv, ho, C19S.runEvs_append, hr, Option.bind_some, hc]

/-- The form of every theorem about a level of the writer: its output `w` exists and, read from `st`, takes the state
    machine to a state with `Q`. -/
def Written (w : Option (List Ev)) (st : Mei.St) (Q : Mei.St → Prop) : Prop :=
  ∃ evs st', w = some evs ∧ runEvs st evs = some st' ∧ Q st'

theorem Written.mono {w : Option (List Ev)} {st : Mei.St} {Q Q' : Mei.St → Prop} (h : Written w st Q)
    (hQ : ∀ s, Q s → Q' s) : Written w st Q' := by
  obtain ⟨evs, st', hw, hr, hq⟩ := h
  exact ⟨evs, st', hw, hr, hQ _ hq⟩

/-- an element: it opens, its content (made from `b` by `g`) is written and read, it closes -/
theorem Written.el {β : Type} {w : Option β} {g : β → List Ev} {st s1 : Mei.St} {tag : String} {as : List (String × String)}
    {Q Q' : Mei.St → Prop} (ho : openEv st tag as = some s1) (h : Written (w.map g) s1 Q')
    (hc : ∀ s2, Q' s2 → ∃ s3, closeEv s2 = some s3 ∧ Q s3) : Written (w.map fun b => el tag as (g b)) st Q := by
  obtain ⟨evs, s2, hw, hr, hq⟩ := h
  obtain ⟨b, rfl, rfl⟩ := Option.map_eq_some_iff.mp hw
  obtain ⟨s3, hcl, hq3⟩ := hc s2 hq
  exact ⟨_, s3, rfl, runEvs_el ho hr hcl, hq3⟩

theorem Written.nil {α : Type} {f : α → Option (List Ev)} {st : Mei.St} {Q : Mei.St → Prop} (h : Q st) :
    Written ((mapMOpt f []).map List.flatten) st Q := ⟨[], st, rfl, rfl, h⟩

theorem Written.cons {α : Type} {f : α → Option (List Ev)} {a : α} {rest : List α} {st : Mei.St} {Q1 Q : Mei.St → Prop}
    (h1 : Written (f a) st Q1) (h2 : ∀ s1, Q1 s1 → Written ((mapMOpt f rest).map List.flatten) s1 Q) :
    Written ((mapMOpt f (a :: rest)).map List.flatten) st Q := by
  obtain ⟨e, s1, he, r1, q1⟩ := h1
  obtain ⟨_, s2, hw, r2, q2⟩ := h2 s1 q1
  obtain ⟨es, hes, rfl⟩ := Option.map_eq_some_iff.mp hw
  exact ⟨(e :: es).flatten, s2, by rw [mapMOpt, he, hes]; rfl, by rw [List.flatten_cons]; exact runEvs_seq r1 r2, q2⟩

/-- what `openEv` does first: the beat units and the written durations are collected for the inferred ppq -/
abbrev pre (st : Mei.St) (tag : String) (as : List (String × String)) : Option Mei.St := recordDurEl (recordUnits st tag as) as

theorem pre_noDur (st : Mei.St) (tag : String) (as : List (String × String)) (h1 : attr as "dur" = none)
    (h2 : natAttr as "meter.unit" = none) (h3 : tag ≠ "meterSig") : pre st tag as = some st := by
  simp [pre, recordDurEl, recordUnits, h1, h2, h3]

/-- `closeEv` on a stack whose top is `f`: what `Proofs/C19Step.lean` says it does for the kind of `f` -/
theorem closeEv_top {st : Mei.St} {f : Frame} {rest : List Frame} (hs : st.stack = f :: rest) :
    closeEv st = (C19S.closeBody f (C19S.ptagOf rest) (C19S.core st) (C19S.ckindOf f.tag)).map fun x => C19S.withStack x rest := by
  rw [C19S.closeEv_eq, hs]
  rfl

theorem closeEv_plain (st : Mei.St) (tag : String) (as : List (String × String)) (rest : List Frame)
    (hs : st.stack = { tag := tag, attrs := as } :: rest) (ht : tag ∉ C19S.closeTags) :
    closeEv st = some { st with stack := rest } := by
  rw [closeEv_top hs, C19S.ckindOf_other ht]
  rfl

theorem lookup_dotsAttr (sd : KernWrite.SymDur) (k : String) (hk : k ≠ "dots") : lookup k (dotsAttr sd) = none := by
  unfold dotsAttr
  split
  · rfl
  · simp [lookup, Ne.symm hk]

theorem lookup_dotsAttr_self (sd : KernWrite.SymDur) :
    (lookup "dots" (dotsAttr sd)).bind natOfString = if sd.dots = 0 then none else some sd.dots := by
  unfold dotsAttr
  split
  · rfl
  · simp [lookup, natStr, natOfString_showNat]

theorem lookup_tieAttr (n : KernWrite.XNote) (k : String) (hk : k ≠ "tie") : lookup k (tieAttr n) = none := by
  unfold tieAttr
  split_ifs <;> simp [lookup, Ne.symm hk]

theorem lookup_gesAttr (ges : Option String) (k : String) (hk : k ≠ "accid.ges") : lookup k (gesAttr ges) = none := by
  cases ges with
  | none => rfl
  | some a => simp [gesAttr, lookup, Ne.symm hk]

theorem lookup_gesAttr_self (ges : Option String) : lookup "accid.ges" (gesAttr ges) = ges := by
  cases ges <;> rfl

theorem lookup_graceAttr (n : KernWrite.XNote) (k : String) (hk : k ≠ "grace") : lookup k (graceAttr n) = none := by
  unfold graceAttr
  split
  · simp [lookup, Ne.symm hk]
  · rfl

theorem lookup_graceAttr_self (n : KernWrite.XNote) : (lookup "grace" (graceAttr n)).isSome = decide (n.kind = 1) := by
  unfold graceAttr
  split <;> simp [lookup, *]

theorem noteAttrs_read (m : MNote) (d : String) (sd : KernWrite.SymDur) (ges : Option String) :
    attr (noteAttrs m d sd ges) "dur" = some d ∧
    natAttr (noteAttrs m d sd ges) "dots" = (if sd.dots = 0 then none else some sd.dots) ∧
    attr (noteAttrs m d sd ges) "pname" = some (lowerStep m.n.step) ∧
    attr (noteAttrs m d sd ges) "oct" = some (intStr m.n.octave) ∧
    natAttr (noteAttrs m d sd ges) "staff" = some m.n.staff ∧
    (attr (noteAttrs m d sd ges) "grace").isSome = decide (m.n.kind = 1) ∧
    attr (noteAttrs m d sd ges) "accid" = none ∧
    attr (noteAttrs m d sd ges) "accid.ges" = ges ∧
    natAttr (noteAttrs m d sd ges) "meter.unit" = none ∧
    attr (noteAttrs m d sd ges) "xml:id" = some m.id := by
  have hd := lookup_dotsAttr_self sd
  have hg := lookup_graceAttr_self m.n
  simp only [natAttr, attr, noteAttrs, lookup_append] at *
  -- the keys are distinct, so each lookup falls through to its own entry; the `dots` conjunct is `hd`
  refine ⟨?_, ?_, ?_, ?_, ?_, ?_, ?_, ?_, ?_, ?_⟩ <;>
    simp [lookup, lookup_dotsAttr, lookup_tieAttr, lookup_gesAttr, lookup_gesAttr_self, lookup_graceAttr, natStr, natOfString_showNat, hg]
  exact hd

theorem restAttrs_read (m : MNote) (d : String) (sd : KernWrite.SymDur) :
    attr (restAttrs m d sd) "dur" = some d ∧
    natAttr (restAttrs m d sd) "dots" = (if sd.dots = 0 then none else some sd.dots) ∧
    natAttr (restAttrs m d sd) "staff" = none ∧
    natAttr (restAttrs m d sd) "meter.unit" = none ∧
    attr (restAttrs m d sd) "xml:id" = some m.id := by
  have hd := lookup_dotsAttr_self sd
  simp only [natAttr, attr, restAttrs, lookup_append]
  refine ⟨?_, ?_, ?_, ?_, ?_⟩ <;> simp [lookup, lookup_dotsAttr]
  exact hd

theorem chordAttrs_read (d : String) (sd : KernWrite.SymDur) :
    attr ([("dur", d)] ++ dotsAttr sd) "dur" = some d ∧
    natAttr ([("dur", d)] ++ dotsAttr sd) "dots" = (if sd.dots = 0 then none else some sd.dots) ∧
    natAttr ([("dur", d)] ++ dotsAttr sd) "staff" = none ∧
    natAttr ([("dur", d)] ++ dotsAttr sd) "meter.unit" = none := by
  have hd := lookup_dotsAttr_self sd
  simp only [natAttr, attr, lookup_append]
  refine ⟨?_, ?_, ?_, ?_⟩ <;> simp [lookup, lookup_dotsAttr]
  exact hd

/-- the tuplet frames of the stack, as the leaves see them -/
def tupList (tup : Option (Nat × Nat)) : List (Nat × Nat) :=
  match tup with
  | none => []
  | some t => [t]

theorem durOfAttrs_spec (st : Mei.St) (as : List (String × String)) (d : String) (sd : KernWrite.SymDur)
    (tup : Option (Nat × Nat)) (v : Rat)
    (hdur : attr as "dur" = some d) (hdots : natAttr as "dots" = if sd.dots = 0 then none else some sd.dots)
    (htup : tupletsOf st.stack = tupList tup) (hnum : ∀ a b, tup = some (a, b) → a ≠ 0) (hv : durNumber d = some v) :
    durOfAttrs st as = some (meiValue v sd.dots tup) := by
  have hdd : (natAttr as "dots").getD 0 = sd.dots := by
    rw [hdots]; split <;> simp_all
  simp only [durOfAttrs, hdur, Option.bind_some, hv, htup, hdd]
  cases tup with
  | none => rfl
  | some ab =>
    obtain ⟨a, b⟩ := ab
    simp [tupList, hnum a b rfl]

theorem pre_dur (st : Mei.St) (tag : String) (as : List (String × String)) (d : String) (v : Rat) (tup : Option (Nat × Nat))
    (hdur : attr as "dur" = some d) (hv : durNumber d = some v) (htup : tupletsOf st.stack = tupList tup)
    (h2 : natAttr as "meter.unit" = none) (h3 : tag ≠ "meterSig") :
    ∃ de, pre st tag as = some { st with durEls := de } := by
  refine ⟨⟨v, (natAttr as "dots").getD 0, tup, natAttr as "dur.ppq"⟩ :: st.durEls, ?_⟩
  cases tup <;> simp [pre, recordDurEl, recordUnits, hdur, hv, h2, h3, htup, tupList]

def parentTag (st : Mei.St) : String := (st.stack.head?.map (·.tag)).getD ""

def push (st : Mei.St) (tag : String) (as : List (String × String)) : Mei.St :=
  { st with stack := { tag := tag, attrs := as } :: st.stack }

theorem inLayer_push (f : Frame) (stack : List Frame) (h : inLayer stack = true) : inLayer (f :: stack) = true := by
  simp only [inLayer, List.any_cons, Bool.or_eq_true] at h ⊢
  exact Or.inr h

theorem inLayer_push_false (st : Mei.St) (tag : String) (as : List (String × String)) (h : inLayer st.stack = false)
    (ht : tag ≠ "layer") : inLayer (push st tag as).stack = false :=
  (C19S.inLayer_cons_of_ne (f := { tag := tag, attrs := as }) ht st.stack).trans h

theorem tupletsOf_nil : tupletsOf [] = [] := rfl

theorem tupletsOf_push_tuplet (num numbase : Nat) (stack : List Frame) :
    tupletsOf ({ tag := "tuplet", attrs := [("num", natStr num), ("numbase", natStr numbase)] } :: stack) =
      (num, numbase) :: tupletsOf stack := by
  have h2 : natAttr [("num", natStr num), ("numbase", natStr numbase)] "numbase" = some numbase := natAttr_natStr "numbase" numbase []
  simp only [tupletsOf, List.filterMap_cons, ↓reduceIte, natAttr_natStr, h2]

section steps
open C19S

theorem pre_stack {st st1 : Mei.St} {tag : String} {as : List (String × String)} (hpre : pre st tag as = some st1) :
    st1.stack = st.stack := by
  rw [pre, pre_eq] at hpre
  obtain ⟨es, _, rfl⟩ := Option.map_eq_some_iff.mp hpre
  rfl

/-- `openEv` once the recorders have run: what `Proofs/C19Step.lean` says it does for the kind of element, on the state the
    recorders leave.  The equations below, one for each element name the writer uses, are read off it. -/
theorem openEv_pre {st st1 : Mei.St} {tag : String} {as : List (String × String)} (hpre : pre st tag as = some st1) :
    openEv st tag as = (coreBody (ctxOf st1.stack) (core st1) as (kindOf tag)).map fun r =>
      withStack r.1 (newFrame tag as :: applyTop r.2 st1.stack) := by
  rw [openEv_of_pre hpre, pre_stack hpre]

theorem openEv_note (st : Mei.St) (as : List (String × String)) (st1 : Mei.St) (d : Rat) (step : String) (oct : Nat)
    (hpre : pre st "note" as = some st1) (hin : inLayer st1.stack = true) (hpar : parentTag st1 ≠ "chord")
    (hd : (if (attr as "grace").isSome then some 0 else durOfAttrs st1 as) = some d)
    (hstep : attr as "pname" = some step) (hoct : (attr as "oct").bind natOfString = some oct) :
    openEv st "note" as = some (push
      { st1 with notes := ⟨st1.staffIdx, (attr as "xml:id").getD "", st1.cursor, d, if (attr as "grace").isSome then 1 else 0,
                            upperStep step, (noteAlter as).getD 0, oct, st1.voice, (natAttr as "staff").getD st1.staffN⟩ :: st1.notes,
                 cursor := st1.cursor + d } "note" as) := by
  have hp : ptagOf st1.stack ≠ "chord" := hpar
  rw [openEv_pre hpre]
  rw [durOfAttrs_eq] at hd
  by_cases hg : (attr as "grace").isSome = true
  · rw [if_pos hg] at hd
    cases hd
    simp [coreBody, kindOf, lkindOf, keep, layerBody, layerUpd, noteAt, ctxOf, core, withStack, newFrame, hin, hp, hg, hstep, hoct, push]
  · rw [if_neg hg] at hd
    simp [coreBody, kindOf, lkindOf, keep, layerBody, layerUpd, noteAt, ctxOf, core, withStack, newFrame, hin, hp, hg, hd, hstep, hoct, push]

theorem openEv_note_in_chord (st : Mei.St) (as : List (String × String)) (st1 : Mei.St) (d : Rat) (cstaff : Option Nat)
    (step : String) (oct : Nat)
    (hpre : pre st "note" as = some st1) (hin : inLayer st1.stack = true) (hpar : parentTag st1 = "chord")
    (hch : st1.chord = some (d, cstaff)) (hstep : attr as "pname" = some step)
    (hoct : (attr as "oct").bind natOfString = some oct) :
    openEv st "note" as = some (push
      { st1 with notes := ⟨st1.staffIdx, (attr as "xml:id").getD "", st1.cursor, d, 0, upperStep step, (noteAlter as).getD 0, oct,
                            st1.voice, (natAttr as "staff").getD (cstaff.getD st1.staffN)⟩ :: st1.notes } "note" as) := by
  have hp : ptagOf st1.stack = "chord" := hpar
  rw [openEv_pre hpre]
  simp [coreBody, kindOf, lkindOf, keep, layerBody, layerUpd, noteAt, ctxOf, core,
    withStack, newFrame, hin, hp, hch, hstep, hoct, push]

theorem openEv_rest (st : Mei.St) (as : List (String × String)) (st1 : Mei.St) (d : Rat)
    (hpre : pre st "rest" as = some st1) (hin : inLayer st1.stack = true) (hd : durOfAttrs st1 as = some d) :
    openEv st "rest" as = some (push
      { st1 with notes := ⟨st1.staffIdx, (attr as "xml:id").getD "", st1.cursor, d, 2, "", 0, 0, st1.voice,
                            (natAttr as "staff").getD st1.staffN⟩ :: st1.notes,
                 cursor := st1.cursor + d } "rest" as) := by
  rw [openEv_pre hpre]
  rw [durOfAttrs_eq] at hd
  simp [coreBody, kindOf, lkindOf, keep, layerBody, layerUpd, restAt, ctxOf, core, withStack, newFrame, hin, hd, push]

theorem openEv_chord (st : Mei.St) (as : List (String × String)) (st1 : Mei.St) (d : Rat)
    (hpre : pre st "chord" as = some st1) (hin : inLayer st1.stack = true) (hd : durOfAttrs st1 as = some d) :
    openEv st "chord" as = some (push { st1 with chord := some (d, natAttr as "staff") } "chord" as) := by
  rw [openEv_pre hpre]
  rw [durOfAttrs_eq] at hd
  simp [coreBody, kindOf, lkindOf, keep, layerBody, layerUpd, ctxOf, core, withStack, newFrame, hin, hd, push]

theorem openEv_tuplet (st : Mei.St) (as : List (String × String))
    (hpre : pre st "tuplet" as = some st) (hin : inLayer st.stack = true) (ht : tupletsOf st.stack = []) :
    openEv st "tuplet" as = some (push st "tuplet" as) := by
  rw [openEv_pre hpre]
  simp [coreBody, kindOf, lkindOf, keep, layerBody, layerUpd, ctxOf, core, withStack, newFrame, hin, ht, push]

theorem openEv_accid (st : Mei.St) (as pattrs : List (String × String)) (rest : List Frame) (n : RNote) (ns : List RNote) (a : Int)
    (hpre : pre st "accid" as = some st) (hin : inLayer st.stack = true)
    (hstack : st.stack = { tag := "note", attrs := pattrs } :: rest)
    (h1 : attr pattrs "accid" = none) (h2 : attr pattrs "accid.ges" = none)
    (hn : st.notes = n :: ns) (ha : noteAlter as = some a) :
    openEv st "accid" as = some (push { st with notes := { n with alter := a } :: ns } "accid" as) := by
  have hin' : inLayer ({ tag := "note", attrs := pattrs } :: rest) = true := hstack ▸ hin
  rw [openEv_pre hpre]
  simp [coreBody, kindOf, lkindOf, keep, layerBody, layerUpd, ctxOf, ptagOf, core,
    withStack, newFrame, hin', hstack, h1, h2, hn, ha, push]

theorem closeEv_chord (st : Mei.St) (f : Frame) (rest : List Frame) (d : Rat) (cs : Option Nat)
    (hs : st.stack = f :: rest) (hf : f.tag = "chord") (hc : st.chord = some (d, cs)) :
    closeEv st = some { st with stack := rest, cursor := st.cursor + d, chord := none } := by
  rw [closeEv_top hs, hf]
  simp [closeBody, ckindOf, core, withStack, hc]

theorem openEv_layer (st : Mei.St) (as : List (String × String))
    (hpre : pre st "layer" as = some st) (hpar : parentTag st = "staff") :
    openEv st "layer" as =
      some (push { st with voice := (natAttr as "n").getD (st.layerIdx + 1), cursor := st.pos } "layer" as) := by
  have hp : ptagOf st.stack = "staff" := hpar
  rw [openEv_pre hpre]
  simp [coreBody, kindOf, keep, ctxOf, core, withStack, newFrame, hp, push]

theorem closeEv_layer (st : Mei.St) (f g : Frame) (rest : List Frame) (hs : st.stack = f :: g :: rest)
    (hf : f.tag = "layer") (hg : g.tag = "staff") :
    closeEv st = some { st with stack := g :: rest, layerEnds := st.cursor :: st.layerEnds, layerIdx := st.layerIdx + 1 } := by
  have hg' : ptagOf (g :: rest) = "staff" := hg
  rw [closeEv_top hs, hf]
  simp [closeBody, ckindOf, core, withStack, hg']

theorem openEv_staff (st : Mei.St) (as : List (String × String))
    (hpre : pre st "staff" as = some st) (hpar : parentTag st = "measure") :
    openEv st "staff" as =
      some (push { st with staffN := (natAttr as "n").getD (st.staffIdx + 1), layerIdx := 0, layerEnds := [] } "staff" as) := by
  have hp : ptagOf st.stack = "measure" := hpar
  rw [openEv_pre hpre]
  simp [coreBody, kindOf, keep, ctxOf, core, withStack, newFrame, hp, push]

theorem closeEv_staff (st : Mei.St) (f g : Frame) (rest : List Frame) (hs : st.stack = f :: g :: rest)
    (hf : f.tag = "staff") (hg : g.tag = "measure") :
    closeEv st = some { st with stack := g :: rest,
                                measures := (st.staffIdx, st.measNo, st.measName, st.pos, ratMaxFrom st.pos st.layerEnds) :: st.measures,
                                staffEnds := ratMaxFrom st.pos st.layerEnds :: st.staffEnds, staffIdx := st.staffIdx + 1 } := by
  have hg' : ptagOf (g :: rest) = "measure" := hg
  rw [closeEv_top hs, hf]
  simp [closeBody, ckindOf, core, withStack, hg']

/-- every part has a meter of its own (written as a `meterSig` child of its `staffDef`) -/
def AllMeters (st : Mei.St) : Prop := ∀ d ∈ st.defs, ∃ m, d.meter = some m

theorem mapM_resolve (st : Mei.St) (ds : List PartDef) (h : ∀ d ∈ ds, ∃ m, d.meter = some m) :
    ∃ ms, ds.mapM (resolveMeter st) = some ms :=
  Lists.mapM_total _ _ fun d hd => by
    obtain ⟨m, hm⟩ := h d hd
    simp [resolveMeter, hm]

theorem ensureStarted_ok (st : Mei.St) (h : AllMeters st) :
    ∃ M, ensureStarted st = some { st with meters := M, started := true } := by
  by_cases hs : st.started = true
  · refine ⟨st.meters, ?_⟩
    simp only [ensureStarted, hs, if_true]
    congr 1
    cases st
    simp_all
  · obtain ⟨ms, hms⟩ := mapM_resolve st (partsInOrder st) (by
      intro d hd
      exact h d (by simpa [partsInOrder] using hd))
    exact ⟨ms, by simp [ensureStarted, hs, hms]⟩

theorem openEv_measure (st : Mei.St) (as : List (String × String)) (M : List (Nat × Nat))
    (hpre : pre st "measure" as = some st) (hes : ensureStarted st = some { st with meters := M, started := true }) :
    openEv st "measure" as =
      some (push { st with meters := M, started := true, measName := attr as "n", staffIdx := 0, staffEnds := [] } "measure" as) := by
  rw [openEv_pre hpre]
  show ((keep ((ensureStarted (withStack st [])).map _)).map _) = _
  rw [ensureStarted_stack, hes]
  rfl

theorem closeEv_measure (st : Mei.St) (f : Frame) (rest : List Frame) (hs : st.stack = f :: rest)
    (hf : f.tag = "measure") (hn : st.staffIdx = st.defs.length) :
    closeEv st = some { st with stack := rest, pos := ratMaxFrom st.pos st.staffEnds, measNo := st.measNo + 1 } := by
  rw [closeEv_top hs, hf]
  simp [closeBody, ckindOf, core, withStack, hn]

theorem openEv_scoreDef_sec (st : Mei.St) (as : List (String × String))
    (hpre : pre st "scoreDef" as = some st) (hin : st.inSection = true) :
    openEv st "scoreDef" as = some (push st "scoreDef" as) := by
  rw [openEv_pre hpre]
  simp [coreBody, kindOf, keep, core, withStack, newFrame, hin, push]

theorem closeEv_scoreDef_sec (st : Mei.St) (as : List (String × String)) (rest : List Frame)
    (hs : st.stack = { tag := "scoreDef", attrs := as } :: rest) (hin : st.inSection = true) (stE : Mei.St)
    (hes : ensureStarted { st with stack := rest, inSection := true } = some stE)
    (h1 : meterOfAttrs as "meter.count" "meter.unit" = none) (h2 : keyOfAttrs as "key.sig" "key.mode" = none) :
    closeEv st = some stE := by
  have hes' : ensureStarted (withStack ({ st with inSection := true } : Mei.St) rest) = some stE := hes
  rw [inSection_eta st hin, ensureStarted_stack] at hes'
  obtain ⟨x, hx, rfl⟩ := Option.map_eq_some_iff.mp hes'
  have hin' : (core st).inSection = true := hin
  rw [closeEv_top hs]
  show ((if (core st).inSection = true then (ensureStarted (withStack st [])).map _ else _).map _) = _
  rw [if_pos hin', ensureStarted_stack, hx]
  simp [applySdChange, h1, h2, withStack]

/-- an element of a name the state machine does not know, without a duration: wherever it stands, it is only put on the
    stack (`staffDef` is such a name: only its end means something) -/
theorem openEv_plain (st : Mei.St) (tag : String) (as : List (String × String)) (h1 : attr as "dur" = none)
    (h2 : natAttr as "meter.unit" = none) (htag : tag ∉ openTags) : openEv st tag as = some (push st tag as) := by
  rw [openEv_eq, openCore_plain _ _ _ _ ⟨h1, h2⟩ fun h => htag (by simp [h, openTags]), kindOf_other htag,
    coreBody_other]
  rfl

theorem openEv_scoreDef_head (st : Mei.St) (as : List (String × String))
    (hpre : pre st "scoreDef" as = some st) (hin : st.inSection = false) :
    openEv st "scoreDef" as =
      some (push { st with sdMeter := meterOfAttrs as "meter.count" "meter.unit", sdKey := keyOfAttrs as "key.sig" "key.mode" }
        "scoreDef" as) := by
  rw [openEv_pre hpre]
  simp [coreBody, kindOf, keep, core, withStack, newFrame, hin, push]

theorem openEv_section (st : Mei.St) (as : List (String × String)) (hpre : pre st "section" as = some st) :
    openEv st "section" as = some (push { st with inSection := true } "section" as) := by
  rw [openEv_pre hpre]
  simp [coreBody, kindOf, keep, core, withStack, newFrame, push]

theorem openEv_clef_def (st : Mei.St) (as : List (String × String)) (f : Frame) (rest : List Frame) (sh : String) (ln : Nat)
    (hpre : pre st "clef" as = some st) (hs : st.stack = f :: rest) (hf : f.tag = "staffDef")
    (h1 : attr as "sameas" = none) (h2 : attr as "shape" = some sh) (h3 : natAttr as "line" = some ln) :
    ∃ c, openEv st "clef" as = some (push { st with stack := { f with cClef := c } :: rest } "clef" as) := by
  have hp : ptagOf (f :: rest) = "staffDef" := hf
  refine ⟨some ((natAttr f.attrs "n").getD 1, sh, ln, clefOctave as), ?_⟩
  rw [openEv_pre hpre]
  simp [coreBody, kindOf, clefDo, ClefDo.on, ctxOf, applyTop, setTop, core, withStack, newFrame, hp, hs, h1, h2, h3, push]

theorem openEv_keySig_def (st : Mei.St) (as : List (String × String)) (f : Frame) (rest : List Frame)
    (hpre : pre st "keySig" as = some st) (hs : st.stack = f :: rest) (hf : f.tag = "staffDef") :
    ∃ c, openEv st "keySig" as = some (push { st with stack := { f with cKey := c } :: rest } "keySig" as) := by
  have hp : ptagOf (f :: rest) = "staffDef" := hf
  refine ⟨keyOfAttrs as "sig" "mode", ?_⟩
  rw [openEv_pre hpre]
  simp [coreBody, kindOf, ctxOf, applyTop, setTop, core, withStack, newFrame, hp, hs, push]

theorem openEv_meterSig_def (st : Mei.St) (as : List (String × String)) (b u : Nat) (f : Frame) (rest : List Frame)
    (hd : attr as "dur" = none) (hmu : natAttr as "meter.unit" = none) (hb : natAttr as "count" = some b)
    (hu : natAttr as "unit" = some u) (hs : st.stack = f :: rest) (hf : f.tag = "staffDef") :
    openEv st "meterSig" as =
      some (push { st with units := u :: st.units, stack := { f with cMeter := some (b, u) } :: rest } "meterSig" as) := by
  have hpre : pre st "meterSig" as = some { st with units := u :: st.units } := by
    simp [pre, recordDurEl, recordUnits, hd, hmu, hu]
  have hp : ptagOf (f :: rest) = "staffDef" := hf
  rw [openEv_pre hpre]
  simp [coreBody, kindOf, ctxOf, applyTop, setTop, core, withStack, newFrame, hp, hs, meterOfAttrs, hb, hu, push]

theorem closeEv_staffDef (st : Mei.St) (f : Frame) (rest : List Frame) (hs : st.stack = f :: rest) (hf : f.tag = "staffDef")
    (hin : st.inSection = false) (m : Nat × Nat) (hm : f.cMeter = some m) :
    ∃ d, closeEv st = some { st with stack := rest, defs := d :: st.defs } ∧ d.meter = some m := by
  refine ⟨partDefOf f, ?_, by simp [partDefOf, hm]⟩
  rw [closeEv_top hs, hf]
  simp [closeBody, ckindOf, core, withStack, hin]

theorem closeEv_scoreDef_head (st : Mei.St) (f : Frame) (rest : List Frame) (hs : st.stack = f :: rest) (hf : f.tag = "scoreDef")
    (hin : st.inSection = false) :
    closeEv st = some { st with stack := rest, sdMeterChild := f.cMeter, sdKeyChild := f.cKey } := by
  rw [closeEv_top hs, hf]
  simp [closeBody, ckindOf, core, withStack, hin]

end steps

end C19M
