/-
The measure tables: measures in time order (`Ordered`, and `Tiles` when there are no gaps) make the lookup in a table zipped
from their starts find the measure that holds `x` (`ordered_lastLE_zip`); from it `measure_map`, `measure_number_map` and
`metrical_position_map` after the pickup correction of the first measure (`corrected`) and the filling of missing numbers.
-/
import PartituraModel.Model.StepMapPart
import PartituraModel.Proofs.C10Lookup
import PartituraModel.Proofs.Lists
import PartituraModel.Proofs.Round

namespace C10
open Model Model.StepMap

/-- every measure is non-empty and starts at or after the end of the previous one (no overlap) -/
def Ordered : List (Int × Int) → Prop
  | [] => True
  | [(s, e)] => s < e
  | (s, e) :: (s', e') :: rest => s < e ∧ e ≤ s' ∧ Ordered ((s', e') :: rest)

/-- every measure is non-empty and starts where the previous one ends (no gaps either) -/
def Tiles : List (Int × Int) → Prop
  | [] => True
  | [(s, e)] => s < e
  | (s, e) :: (s', e') :: rest => s < e ∧ e = s' ∧ Tiles ((s', e') :: rest)

/-- beside the two recursive definitions: every measure non-empty, and a chain condition between neighbours -/
theorem ordered_iff : ∀ L : List (Int × Int), Ordered L ↔ (∀ m ∈ L, m.1 < m.2) ∧ L.IsChain fun a b => a.2 ≤ b.1
  | [] => by simp [Ordered]
  | [(s, e)] => by simp [Ordered]
  | (s, e) :: (s', e') :: rest => by
    simp only [Ordered, ordered_iff ((s', e') :: rest), List.isChain_cons_cons, List.forall_mem_cons]
    tauto

theorem tiles_iff : ∀ L : List (Int × Int), Tiles L ↔ (∀ m ∈ L, m.1 < m.2) ∧ L.IsChain fun a b => a.2 = b.1
  | [] => by simp [Tiles]
  | [(s, e)] => by simp [Tiles]
  | (s, e) :: (s', e') :: rest => by
    simp only [Tiles, tiles_iff ((s', e') :: rest), List.isChain_cons_cons, List.forall_mem_cons]
    tauto

theorem Tiles.ordered {L : List (Int × Int)} (h : Tiles L) : Ordered L :=
  (ordered_iff L).mpr ⟨((tiles_iff L).mp h).1, ((tiles_iff L).mp h).2.imp fun {_ _} h => Int.le_of_eq h⟩

theorem Tiles.tail {m : Int × Int} {rest : List (Int × Int)} (h : Tiles (m :: rest)) : Tiles rest :=
  (tiles_iff rest).mpr
    ⟨fun a ha => ((tiles_iff _).mp h).1 a (List.mem_cons_of_mem _ ha), ((tiles_iff _).mp h).2.tail⟩

theorem Ordered.tail {m : Int × Int} {rest : List (Int × Int)} (h : Ordered (m :: rest)) : Ordered rest :=
  (ordered_iff rest).mpr
    ⟨fun a ha => ((ordered_iff _).mp h).1 a (List.mem_cons_of_mem _ ha), ((ordered_iff _).mp h).2.tail⟩

theorem Ordered.mem_lt {L : List (Int × Int)} (h : Ordered L) : ∀ m ∈ L, m.1 < m.2 :=
  ((ordered_iff L).mp h).1

theorem Ordered.head_lt {s e : Int} {rest : List (Int × Int)} (h : Ordered ((s, e) :: rest)) : s < e :=
  h.mem_lt (s, e) List.mem_cons_self

theorem Ordered.later {s0 e0 : Int} {rest : List (Int × Int)} (h : Ordered ((s0, e0) :: rest)) :
    ∀ m ∈ rest, e0 ≤ m.1 := by
  induction rest generalizing s0 e0 with
  | nil => intro m hm; cases hm
  | cons a r ih =>
    obtain ⟨s1, e1⟩ := a
    intro m hm
    have h1 : e0 ≤ s1 := h.2.1
    have h2 : Ordered ((s1, e1) :: r) := h.2.2
    rcases List.mem_cons.mp hm with rfl | hm'
    · exact h1
    · have := ih h2 m hm'
      have := h2.head_lt
      omega

theorem ordered_of_disjoint : ∀ (l : List (Int × Int)), (∀ m ∈ l, m.1 < m.2) →
    l.Pairwise (fun a b => a.1 ≤ b.1) → l.Pairwise (fun a b => a.2 ≤ b.1 ∨ b.2 ≤ a.1) → Ordered l
  | [], _, _, _ => trivial
  | [(s, e)], hpos, _, _ => hpos (s, e) (List.mem_singleton.mpr rfl)
  | (s, e) :: (s', e') :: rest, hpos, hsort, hdis => by
    have h1 : s < e := hpos (s, e) (List.mem_cons_self ..)
    have h2 : s' < e' := hpos (s', e') (List.mem_cons_of_mem _ (List.mem_cons_self ..))
    have hs := (List.pairwise_cons.mp hsort)
    have hd := (List.pairwise_cons.mp hdis)
    have h3 : s ≤ s' := hs.1 (s', e') (List.mem_cons_self ..)
    have h4 : e ≤ s' ∨ e' ≤ s := hd.1 (s', e') (List.mem_cons_self ..)
    refine ⟨h1, ?_, ordered_of_disjoint ((s', e') :: rest)
      (fun m hm => hpos m (List.mem_cons_of_mem _ hm)) hs.2 hd.2⟩
    rcases h4 with h4 | h4
    · exact h4
    · omega

/-- inside measure `i` of measures in time order every earlier start is at or before `x` and the next start is after
    `x`: the lookup in a table zipped from the starts stops at row `i` -/
theorem ordered_lastLE_zip {β : Type} (L : List (Int × Int)) (vals : List β) (x : Int) (ht : Ordered L)
    (hl : vals.length = L.length) (i : Nat) (s e : Int) (hi : L[i]? = some (s, e)) (hs : s ≤ x) (he : x < e) :
    lastLE ((L.map (·.1)).zip vals) x = vals[i]? := by
  induction L generalizing vals i with
  | nil => rw [List.getElem?_nil] at hi; cases hi
  | cons a rest ih =>
    obtain ⟨s0, e0⟩ := a
    cases vals with
    | nil => cases hl
    | cons v0 vrest =>
      have hl' : vrest.length = rest.length := Nat.succ.inj hl
      simp only [List.map_cons, List.zip_cons_cons]
      cases i with
      | zero =>
        obtain ⟨rfl, rfl⟩ := Prod.mk.inj (Option.some.inj hi)
        -- the next row is the next measure, which starts at or after the end of this one
        refine (lastLE_head s0 v0 _ x hs fun p hp => ?_).trans rfl
        cases rest with
        | nil => cases hp
        | cons b r2 =>
          cases vrest with
          | nil => cases hl'
          | cons v1 vr2 =>
            have h1 : e0 ≤ b.1 := ht.later b List.mem_cons_self
            rw [← Option.some.inj hp]
            show x < b.1
            omega
      | succ j =>
        simp only [List.getElem?_cons_succ] at hi ⊢
        have h1 : e0 ≤ s := ht.later (s, e) (List.mem_of_getElem? hi)
        have h2 := ht.head_lt
        rw [lastLE_cons_of_le _ _ _ x (by omega), ih vrest ht.tail hl' j hi]
        have hj : j < vrest.length := by
          rw [hl']
          exact (List.getElem?_eq_some_iff.mp hi).1
        rw [List.getElem?_eq_getElem hj]; rfl

theorem map_self_eq_zip (L : List (Int × Int)) : (L.map fun m => (m.1, m)) = (L.map (·.1)).zip L := by
  have := List.zip_map' (f := fun m : Int × Int => m.1) (g := id) (l := L)
  rw [List.map_id] at this
  exact this.symm

theorem pickupStart_some (s e : Int) (b d : Rat) :
    pickupStart s e (some b) (some d)
      = if ((e - s : Int) : Rat) < b * d then roundHalfEven ((e : Rat) - b * d) else s := rfl

theorem pickupStart_le (s e : Int) (b d : Option Rat) : pickupStart s e b d ≤ s := by
  unfold pickupStart
  split
  · rename_i b d
    split
    · rename_i h
      have h1 : (e : Rat) - b * d ≤ (s : Rat) := by
        rw [Int.cast_sub] at h
        linarith
      have := Round.roundHalfEven_mono h1
      rwa [Round.roundHalfEven_int] at this
    · exact Int.le_refl _
  · exact Int.le_refl _

/-- the measures with the pickup-corrected first start -/
def corrected (ms : List (Int × Int)) (b d : Option Rat) : List (Int × Int) :=
  match ms with
  | [] => []
  | (s, e) :: rest => (pickupStart s e b d, e) :: rest

/-- `corrected` only lowers the first start: a chain condition that reads the END of the earlier and the START of the
    later measure survives, and so does non-emptiness -/
theorem chain_corrected {R : Int → Int → Prop} (ms : List (Int × Int)) (b d : Option Rat)
    (hpos : ∀ m ∈ ms, m.1 < m.2) (hc : ms.IsChain fun a b => R a.2 b.1) :
    (∀ m ∈ corrected ms b d, m.1 < m.2) ∧ (corrected ms b d).IsChain fun a b => R a.2 b.1 := by
  match ms with
  | [] => exact ⟨hpos, hc⟩
  | (s, e) :: rest =>
    have hp := pickupStart_le s e b d
    have hlt : s < e := hpos (s, e) List.mem_cons_self
    refine ⟨fun m hm => ?_, ?_⟩
    · rcases List.mem_cons.mp hm with rfl | hm
      · show pickupStart s e b d < e
        omega
      · exact hpos m (List.mem_cons_of_mem _ hm)
    · cases rest with
      | nil => exact List.isChain_singleton _
      | cons a r => exact List.isChain_cons_cons.mpr (List.isChain_cons_cons.mp hc)

theorem ordered_corrected (ms : List (Int × Int)) (b d : Option Rat) (h : Ordered ms) : Ordered (corrected ms b d) :=
  (ordered_iff _).mpr (chain_corrected ms b d ((ordered_iff ms).mp h).1 ((ordered_iff ms).mp h).2)

theorem tiles_corrected (ms : List (Int × Int)) (b d : Option Rat) (h : Tiles ms) : Tiles (corrected ms b d) :=
  (tiles_iff _).mpr (chain_corrected ms b d ((tiles_iff ms).mp h).1 ((tiles_iff ms).mp h).2)

theorem corrected_length (ms : List (Int × Int)) (b d : Option Rat) : (corrected ms b d).length = ms.length := by
  cases ms with
  | nil => rfl
  | cons a rest => rfl

theorem corrected_zero (s e : Int) (rest : List (Int × Int)) (b d : Option Rat) :
    (corrected ((s, e) :: rest) b d)[0]? = some (pickupStart s e b d, e) := rfl

/-- the corrected list has the same measures but for the first start, which is never later: a position inside
    measure `i` is still inside the `i`-th corrected measure -/
theorem corrected_get (ms : List (Int × Int)) (b d : Option Rat) (i : Nat) (s e : Int) (hi : ms[i]? = some (s, e)) :
    (corrected ms b d)[i]? = some (if i = 0 then pickupStart s e b d else s, e)
    ∧ (if i = 0 then pickupStart s e b d else s) ≤ s := by
  match ms, i with
  | [], _ => simp at hi
  | a :: rest, 0 =>
    obtain rfl : a = (s, e) := Option.some.inj hi
    exact ⟨rfl, pickupStart_le s e b d⟩
  | a :: rest, j + 1 => exact ⟨hi, Int.le_refl _⟩

theorem measureTable_eq (span : Span) (ms : List (Int × Int)) (b d : Option Rat) (h : ms ≠ []) :
    measureTable span ms b d = (corrected ms b d).map fun m => (m.1, m) := by
  cases ms with
  | nil => exact absurd rfl h
  | cons a rest => rfl

theorem measureTbl_ordered (span : Span) (ms : List (Int × Int)) (b d : Option Rat)
    (x : Int) (ht : Ordered ms) (i : Nat) (s e : Int) (hi : ms[i]? = some (s, e)) (hs : s ≤ x) (he : x < e) :
    interpPrev (measureTable span ms b d) x = some (if i = 0 then pickupStart s e b d else s, e) := by
  have hne : ms ≠ [] := by intro h; rw [h] at hi; cases hi
  rw [measureTable_eq _ _ _ _ hne, map_self_eq_zip]
  obtain ⟨hg, hle⟩ := corrected_get ms b d i s e hi
  have := ordered_lastLE_zip (corrected ms b d) (corrected ms b d) x
    (ordered_corrected _ _ _ ht) rfl i _ e hg (by omega) he
  rw [hg] at this
  exact interpPrev_of_some _ x _ this

theorem allSome_eq_some {α : Type} (l : List (Option α)) (r : List α) (h : allSome l = some r) : l = r.map some :=
  (Lists.allSome_eq_some_iff rfl (fun _ => rfl) (fun _ _ => rfl)).mp h

theorem fillNumbers_length (nums : List (Option Int)) : (fillNumbers nums).length = nums.length := by
  simp [fillNumbers]

/-- a measure that carries a number keeps it: the back-fill only touches `None`s -/
theorem fillNumbers_get (nums : List (Option Int)) (i : Nat) (n : Int) (h : nums[i]? = some (some n)) :
    (fillNumbers nums)[i]? = some (some n) := by
  have hi : i < nums.length := (List.getElem?_eq_some_iff.mp h).1
  unfold fillNumbers
  rw [List.getElem?_map, List.getElem?_range hi]
  simp [h]

theorem allSome_of_forall_some {α : Type} (l : List (Option α)) (h : ∀ o ∈ l, o ≠ none) : ∃ r, allSome l = some r :=
  Lists.allSome_total rfl (fun _ => rfl) (fun _ _ => rfl) fun o ho => Option.isSome_iff_ne_none.mpr (h o ho)

theorem fillNumbers_no_none (nums : List (Option Int)) (h : ∀ o ∈ nums, o ≠ none) :
    ∀ o ∈ fillNumbers nums, o ≠ none := by
  intro o ho
  obtain ⟨i, hi, rfl⟩ := List.mem_map.mp ho
  have hi' : i < nums.length := List.mem_range.mp hi
  have hmem : nums[i] ∈ nums := List.getElem_mem hi'
  cases hn : nums[i] with
  | none => exact absurd hn (h _ hmem)
  | some k =>
    rw [List.getElem?_eq_getElem hi', hn]
    simp

/-- the measures without their numbers (`bars` of a part description) -/
def strip (ms : List (Int × Int × Option Int)) : List (Int × Int) := ms.map fun m => (m.1, m.2.1)

theorem bars_eq_strip (p : PartD) : bars p = strip p.ms := rfl

/-- the number table is the corrected starts zipped with the filled numbers (`hstarts`); the lookup stops at row `i`,
    which holds the number the measure carries (`fillNumbers_get`) -/
theorem measureNumberTbl_ordered (span : Span) (ms : List (Int × Int × Option Int)) (b d : Option Rat)
    (x : Int) (ht : Ordered (strip ms)) (filled : List Int)
    (hf : allSome (fillNumbers (ms.map (·.2.2))) = some filled)
    (i : Nat) (s e n : Int) (hi : ms[i]? = some (s, e, some n)) (hs : s ≤ x) (he : x < e) :
    (measureNumberTable span ms b d).map (fun tbl => interpPrev tbl x) = some (some n) := by
  cases ms with
  | nil => cases hi
  | cons a rest =>
    obtain ⟨s0, e0, n0⟩ := a
    unfold measureNumberTable
    simp only [hf, Option.map_some, Option.some.injEq]
    have hstarts : pickupStart s0 e0 b d :: rest.map (·.1)
        = (corrected (strip ((s0, e0, n0) :: rest)) b d).map (·.1) := by
      show _ :: _ = _ :: List.map _ (List.map _ rest)
      rw [List.map_map]
      rfl
    rw [hstarts]
    have hi' : (strip ((s0, e0, n0) :: rest))[i]? = some (s, e) := by
      unfold strip; rw [List.getElem?_map, hi]; rfl
    obtain ⟨hg, hle⟩ := corrected_get _ b d i s e hi'
    have hfill := allSome_eq_some _ _ hf
    have hlen : filled.length = (corrected (strip ((s0, e0, n0) :: rest)) b d).length := by
      have := congrArg List.length hfill
      rw [fillNumbers_length] at this
      simpa [corrected_length, strip] using this.symm
    have := ordered_lastLE_zip _ filled x (ordered_corrected _ b d ht) hlen i _ e hg (by omega) he
    have hfi : filled[i]? = some n := by
      have h1 := fillNumbers_get (((s0, e0, n0) :: rest).map (·.2.2)) i n (by rw [List.getElem?_map, hi]; rfl)
      rw [hfill, List.getElem?_map] at h1
      cases hq : filled[i]? with
      | none => rw [hq] at h1; cases h1
      | some q => rw [hq] at h1; exact congrArg some (Option.some.inj (Option.some.inj h1))
    rw [hfi] at this
    exact interpPrev_of_some _ x _ this

theorem barLookups_eq_mapM (tbl : Tbl (Int × Int)) :
    ∀ l : List (Int × Int), barLookups tbl l = l.mapM fun m => interpPrev tbl m.1 :=
  Lists.eq_mapM (barLookups tbl) rfl fun m rest => by
    rw [barLookups]
    cases interpPrev tbl m.1 <;> cases barLookups tbl rest <;> rfl

theorem barLookups_isEmpty (tbl : Tbl (Int × Int)) (l look : List (Int × Int)) (h : barLookups tbl l = some look) :
    look.isEmpty = l.isEmpty := by
  have := Lists.mapM_length (barLookups_eq_mapM tbl l ▸ h)
  cases look <;> cases l <;> first | rfl | cases this

theorem barLookupsTbl_ordered (span : Span) (ms : List (Int × Int)) (b d : Option Rat) (ht : Ordered ms) :
    barLookups (measureTable span ms b d) ms = some (corrected ms b d) := by
  rw [barLookups_eq_mapM, Lists.mapM_eq_some_iff]
  apply List.ext_getElem?
  intro j
  rw [List.getElem?_map, List.getElem?_map]
  cases hm : ms[j]? with
  | none =>
    have hj : (corrected ms b d).length ≤ j := by rw [corrected_length]; exact List.getElem?_eq_none_iff.mp hm
    rw [List.getElem?_eq_none_iff.mpr hj]
    rfl
  | some m =>
    -- the start of a measure lies in that measure
    obtain ⟨s, e⟩ := m
    have hlt : s < e := ht.mem_lt (s, e) (List.mem_of_getElem? hm)
    show some (interpPrev (measureTable span ms b d) s) = _
    rw [measureTbl_ordered span ms b d s ht j s e hm (Int.le_refl _) hlt, (corrected_get ms b d j s e hm).1]
    rfl

theorem diffs_tiles (L : List (Int × Int)) (ht : Tiles L) (last : Int × Int) (hl : L.getLast? = some last) :
    diffs (L.map (·.1) ++ [last.2]) = L.map fun m => m.2 - m.1 := by
  induction L with
  | nil => cases hl
  | cons a rest ih =>
    obtain ⟨s, e⟩ := a
    cases rest with
    | nil =>
      obtain rfl : (s, e) = last := Option.some.inj hl
      rfl
    | cons b r2 =>
      obtain ⟨s', e'⟩ := b
      rw [List.getLast?_cons_cons] at hl
      have h1 : e = s' := ht.2.1
      have := ih ht.tail hl
      simp only [List.map_cons, List.cons_append] at this ⊢
      rw [diffs, this, h1]

theorem map_dup_eq_zip (l : List Int) : (l.map fun s => (s, s)) = l.zip l := by
  have := List.zip_map' (f := id) (g := id) (l := l)
  rw [List.map_id] at this
  exact this.symm

/-- the position map never answers NaN: `PPoly` extrapolates -/
theorem metricalOfBars_isSome (look : List (Int × Int)) (x : Int) : (metricalOfBars look x).isSome := by
  unfold metricalOfBars
  cases hl : look.getLast? with
  | none => rfl
  | some last =>
    have hne : (look.map (·.1)).map (fun s => (s, s)) ≠ [] := by
      intro h
      rw [List.map_eq_nil_iff.mp (List.map_eq_nil_iff.mp h)] at hl
      cases hl
    obtain ⟨b, hb⟩ := Option.isSome_iff_exists.mp (lookupPrev_isSome _ x hne)
    simp only [hb]
    rfl

/-- inside measure `i` of bars in time order: the distance from its start; the length is looked up in the
    differences of the bar lines -/
theorem metricalOfBars_ordered (L : List (Int × Int)) (x : Int) (ht : Ordered L) (i : Nat) (s e : Int)
    (hi : L[i]? = some (s, e)) (hs : s ≤ x) (he : x < e) :
    ∃ last, L.getLast? = some last ∧
      metricalOfBars L x = some (x - s, interpPrev ((L.map (·.1)).zip (diffs (L.map (·.1) ++ [last.2]))) x) := by
  have hne : L ≠ [] := by intro h; rw [h] at hi; cases hi
  obtain ⟨last, hlast⟩ := Option.isSome_iff_exists.mp (List.getLast?_isSome.mpr hne)
  refine ⟨last, hlast, ?_⟩
  unfold metricalOfBars
  simp only [hlast]
  rw [map_dup_eq_zip]
  have h1 := ordered_lastLE_zip L (L.map (·.1)) x ht (by simp) i s e hi hs he
  rw [List.getElem?_map, hi] at h1
  rw [lookupPrev_of_some _ x _ h1]

theorem metricalOfBars_tiles (L : List (Int × Int)) (x : Int) (ht : Tiles L) (i : Nat) (s e : Int)
    (hi : L[i]? = some (s, e)) (hs : s ≤ x) (he : x < e) :
    metricalOfBars L x = some (x - s, some (e - s)) := by
  obtain ⟨last, hlast, h⟩ := metricalOfBars_ordered L x ht.ordered i s e hi hs he
  rw [h, diffs_tiles L ht last hlast]
  have h2 := ordered_lastLE_zip L (L.map fun m => m.2 - m.1) x ht.ordered (by simp) i s e hi hs he
  rw [List.getElem?_map, hi] at h2
  rw [interpPrev_of_some _ x _ h2]

theorem metricalTbl_tiles (span : Span) (ms : List (Int × Int)) (b d : Option Rat)
    (x : Int) (ht : Tiles ms) (i : Nat) (s e : Int) (hi : ms[i]? = some (s, e)) (hs : s ≤ x) (he : x < e) :
    metricalFromTable (measureTable span ms b d) ms x
      = some (x - (if i = 0 then pickupStart s e b d else s), some (e - (if i = 0 then pickupStart s e b d else s))) := by
  unfold metricalFromTable
  rw [barLookupsTbl_ordered span ms b d ht.ordered]
  obtain ⟨hg, hle⟩ := corrected_get ms b d i s e hi
  exact metricalOfBars_tiles _ x (tiles_corrected _ _ _ ht) i _ e hg (by omega) he

theorem metricalTbl_ordered (span : Span) (ms : List (Int × Int)) (b d : Option Rat)
    (x : Int) (ht : Ordered ms) (i : Nat) (s e : Int) (hi : ms[i]? = some (s, e)) (hs : s ≤ x) (he : x < e) :
    (metricalFromTable (measureTable span ms b d) ms x).map (·.1)
      = some (x - (if i = 0 then pickupStart s e b d else s)) := by
  unfold metricalFromTable
  rw [barLookupsTbl_ordered span ms b d ht]
  obtain ⟨hg, hle⟩ := corrected_get ms b d i s e hi
  obtain ⟨_, _, h⟩ := metricalOfBars_ordered _ x (ordered_corrected _ _ _ ht) i _ e hg (by omega) he
  show (metricalOfBars (corrected ms b d) x).map (·.1) = _
  rw [h]; rfl

theorem measureMapsP_eq (p : PartD) (hr : raisesP p = false) (x : Int) :
    measureMapP p x = some (interpPrev (measureTable p.span (bars p) (beatsPerBar p) (divsPerBeat p)) x) ∧
    measureNumberMapP p x
      = (measureNumberTable p.span p.ms (beatsPerBar p) (divsPerBeat p)).map (fun tbl => interpPrev tbl x) ∧
    metricalMapP p x = metricalFromTable (measureTable p.span (bars p) (beatsPerBar p) (divsPerBeat p)) (bars p) x := by
  unfold measureMapP measureNumberMapP metricalMapP measureTableP
  rw [hr]
  exact ⟨rfl, rfl, rfl⟩

end C10
