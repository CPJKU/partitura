/-
C11 — the model of `find_tuplets` (Model/Tuplets.lean): it only writes symbolic durations, and
what sounds does not depend on symbolic durations.
-/
import PartituraModel.Model.Tuplets
import PartituraModel.Proofs.C11Walk

namespace C11Tup
open Model Model.Dur Model.Meas Model.Tup Gen

def strip (n : Note) : Note := { n with sym := none }

theorem sounding_strip (ns : List Note) : sounding (ns.map strip) = sounding ns := by
  unfold sounding
  rw [List.length_map, List.filter_map, List.map_map]
  apply List.map_congr_left
  intro n _
  simp only [Function.comp]
  rw [C11Walk.chainEndDur_map strip (fun _ => ⟨rfl, rfl, rfl, rfl⟩)]
  rfl

theorem sounding_of_strip_eq (ns ns' : List Note) (h : ns'.map strip = ns.map strip) : sounding ns' = sounding ns := by
  rw [← sounding_strip ns', h, sounding_strip]

theorem assign_strip (sd : SymDur) (keys : List Nat) (ns : List Note) : (assign sd keys ns).map strip = ns.map strip := by
  unfold assign
  rw [List.map_map]
  apply List.map_congr_left
  intro n _
  simp only [Function.comp]
  split <;> rfl

theorem scanGroup_strip (qd : List (Int × Nat)) (group : List Note) (actual : Nat) : ∀ (fuel tupStart : Nat) (st : TState),
    (scanGroup qd group actual fuel tupStart st).notes.map strip = st.notes.map strip := by
  intro fuel
  induction fuel with
  | zero => intro _ st; rfl
  | succ fuel ih =>
    intro tupStart st
    unfold scanGroup
    split
    · dsimp only
      split
      · split
        · exact ih _ _
        · split
          · exact ih _ _
          · split
            · split
              · rw [ih]; exact assign_strip _ _ _
              · exact ih _ _
            · exact ih _ _
      · rfl
    · rfl

theorem doGroup_strip (qd : List (Int × Nat)) (st : TState) (group : List Note) :
    (doGroup qd st group).notes.map strip = st.notes.map strip :=
  Lists.foldl_inv (fun s : TState => s.notes.map strip = st.notes.map strip) _
    (fun s actual hs => by
      split
      · exact hs
      · exact (scanGroup_strip _ _ _ _ _ _).trans hs) searchFor st rfl

theorem findTupletsBy_strip (noSym : Note → Bool) (qd : List (Int × Nat)) (ns : List Note) :
    (findTupletsBy noSym qd ns).notes.map strip = ns.map strip :=
  Lists.foldl_inv (fun st : TState => st.notes.map strip = ns.map strip) (doGroup qd)
    (fun st g hst => (doGroup_strip qd st g).trans hst) _ ⟨ns, []⟩ rfl

theorem candidates_none (noSym : Note → Bool) (h : ∀ n, noSym n = false) (ns : List Note) : candidatesBy noSym ns = [] := by
  unfold candidatesBy
  rw [Lists.foldl_inv (· = (([], none) : List (List Note) × Option Nat)) (candStep noSym)
    (fun st a hst => by unfold candStep; rw [h a]; exact hst) ns _ rfl]
  rfl

end C11Tup
