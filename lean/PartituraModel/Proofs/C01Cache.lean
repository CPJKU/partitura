/-
C01 helper lemmas: the memo `Part._quarter_map` (Model/TimelineX.lean `CPart`, `stepC`).
-/
import PartituraModel.Model.TimelineX
import PartituraModel.Proofs.C01ClsOk

namespace TL

/-- the part with a fresh memo -/
def lift (s : Part) : CPart := { part := s, qcache := interpTable s.qtab }

theorem cacheOk_iff (c : CPart) : CacheOk c ↔ c = lift c.part := by
  cases c with
  | mk p q =>
    simp only [CacheOk, lift, CPart.mk.injEq, true_and]

theorem cacheOk_lift (s : Part) : CacheOk (lift s) := rfl

@[simp] theorem lift_part (s : Part) : (lift s).part = s := rfl
@[simp] theorem lift_qcache (s : Part) : (lift s).qcache = interpTable s.qtab := rfl

theorem qdAt_interpTable (tab : List (Int × Nat)) (t : Int) : qdAt (interpTable tab) t = qdAt tab t := by
  unfold interpTable
  split
  · rename_i h
    match tab, h with
    | [(x, y)], _ =>
      simp only [List.cons_append, List.nil_append, qdAt, qdAtAux]
      split <;> rfl
  · rfl

theorem ensurePointC_lift (s : Part) (t : Int) :
    ensurePointC (lift s) t = (ensurePoint s t).map lift := by
  unfold ensurePointC ensurePoint
  simp only [lift_part, lift_qcache, qdAt_interpTable]
  by_cases ht : t < 0
  · simp only [ht, if_true]; rfl
  · simp only [ht, if_false]
    cases hg : getPoint s.points t with
    | some p => rfl
    | none =>
      cases hq : qdAt s.qtab t with
      | none => rfl
      | some q =>
        simp only
        cases addPoint s.points { t := t, quarter := q, prev := none, next := none, starting := [], ending := [] } with
        | error e => rfl
        | ok pts => rfl

theorem addSideC_lift (s : Part) (sd : Side) (t : Int) (o : ObjRef) :
    addSideC (lift s) sd t o = (addSide s sd t o).map lift := by
  unfold addSideC addSide
  rw [ensurePointC_lift]
  cases h : ensurePoint s t with
  | error e => rfl
  | ok s1 =>
    have := (ensurePoint_frame h).2
    simp only [Except.map, bind, Except.bind, pure, Except.pure, lift, this]

theorem addSideOptC_lift (s : Part) (sd : Side) (t : Option Int) (o : ObjRef) :
    addSideOptC (lift s) sd t o = (addSideOpt s sd t o).map lift := by
  cases t with
  | none => rfl
  | some t => exact addSideC_lift s sd t o

theorem stepAddC_lift (s : Part) (o : ObjRef) (st en : Option Int) :
    stepAddC (lift s) o st en = (stepAdd s o st en).map lift := by
  unfold stepAddC stepAdd
  split
  · rfl
  · rw [addSideOptC_lift]
    cases addSideOpt s .start st o with
    | error e => rfl
    | ok s1 =>
      simp only [Except.map, Except.bind]
      rw [addSideOptC_lift]
      rfl

theorem stepGetOrAddC_lift (s : Part) (t : Int) :
    stepGetOrAddC (lift s) t = (stepGetOrAdd s t).map lift := by
  unfold stepGetOrAddC stepGetOrAdd
  rw [ensurePointC_lift]
  cases ensurePoint s t with
  | error e => rfl
  | ok s1 => rfl

theorem setQD_qtab (s : Part) (t : Int) (q : Nat) :
    (setQD s t q).qtab = ((qtabUpdate s.qtab t q).2).getD s.qtab := by
  unfold setQD
  split
  · rename_i h; rw [h]; rfl
  · rename_i h; rw [h]; rfl

theorem setQDC_lift (s : Part) (t : Int) (q : Nat) : setQDC (lift s) t q = lift (setQD s t q) := by
  unfold setQDC
  simp only [lift_part]
  cases h : (qtabUpdate s.qtab t q).2 with
  | none => rw [setQD_unchanged (i := (qtabUpdate s.qtab t q).1) (Prod.ext rfl h)]
  | some tab' =>
    have := setQD_qtab s t q
    rw [h] at this
    simp only [lift, this, Option.getD_some]

theorem stepC_lift (s : Part) (op : Op) :
    stepC (lift s) op = (step s op).map fun r => (lift r.1, r.2) := by
  cases op with
  | add o st en =>
    simp only [stepC, step, stepAddC_lift]
    cases stepAdd s o st en <;> rfl
  | remove o w =>
    simp only [stepC, step, lift_part]
    cases h : stepRemove s o w with
    | error e => rfl
    | ok s' =>
      have := (stepRemove_frame h).1
      simp only [Except.map, lift, this]
  | setQD t q => simp only [stepC, step, setQDC_lift, Except.map]
  | getOrAdd t =>
    simp only [stepC, step, stepGetOrAddC_lift]
    cases stepGetOrAdd s t <;> rfl
  | iterAll cls a b incl mode => rfl
  | iterPrev t cls eq incl =>
    simp only [stepC, step, lift_part]
    cases iterLinks s (·.prev) t cls eq incl <;> rfl
  | iterNext t cls eq incl =>
    simp only [stepC, step, lift_part]
    cases iterLinks s (·.next) t cls eq incl <;> rfl
  | first => rfl
  | last => rfl
  | getPoint t =>
    simp only [stepC, step, lift_part]
    split <;> rfl
  | quarterDurations a b => rfl

end TL
