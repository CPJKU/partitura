/-
C16 — the keys `quality + str(number)` of INTERVAL_TO_SEMITONES: which of them have a size, and that a key with a simple
number determines quality and number.
-/
import PartituraModel.Model.Pitch
import PartituraModel.Proofs.Lists
import PartituraModel.Proofs.Digits

namespace C16
open Model Gen

/-- a suffix of a key that is a non-empty string of digits is one of the numbers 1..7 -/
def sufOK (d : List Char) : Bool :=
  (d.isEmpty || !d.all Char.isDigit) || (decide (1 ≤ digitsToNat d) && decide (digitsToNat d ≤ 7))

/-- whole-table fact about the regenerated INTERVAL_TO_SEMITONES: every suffix of a key that reads as a number reads
    as one of 1..7 (every suffix, since the quality in front is any string), and no key contains a minus sign -/
theorem key_suffixes : ∀ k ∈ INTERVAL_TO_SEMITONES.map (·.1),
    (∀ m ∈ List.range (k.toList.length + 1), sufOK (k.toList.drop m) = true) ∧ ('-' ∉ k.toList) := by
  decide +kernel

theorem showInt_natCast (m : Nat) : showInt (m : Int) = showNat m := by
  unfold showInt
  simp

theorem toList_key (q : String) (ds : List Char) : (q ++ String.ofList ds).toList = q.toList ++ ds := by
  simp [String.toList_append, String.toList_ofList]

theorem sized_nat {q : String} {m : Nat} {z : Int}
    (h : lookup (q ++ showNat m) INTERVAL_TO_SEMITONES = some z) : 1 ≤ m ∧ m ≤ 7 := by
  have hk := key_suffixes _ (List.mem_map.mpr ⟨_, Model.lookup_mem h, rfl⟩)
  have hl : (q ++ showNat m).toList = q.toList ++ natDigits m := toList_key q _
  have h1 := hk.1 q.toList.length (by rw [hl]; simp; omega)
  rw [hl, List.drop_left] at h1
  unfold sufOK at h1
  -- the digits of a number are a numeral, so the first disjunct of `sufOK` is off
  have hnum := Digits.numeral_natDigits m
  simp only [Bool.and_eq_true, Bool.not_eq_true'] at hnum
  simp only [hnum.1, hnum.2, Bool.not_true, Bool.or_self, Bool.false_or, Bool.and_eq_true,
    decide_eq_true_eq, Digits.digitsToNat_natDigits] at h1
  exact h1

theorem sized_int {q : String} {n : Int} {z : Int}
    (h : lookup (q ++ showInt n) INTERVAL_TO_SEMITONES = some z) : 1 ≤ n ∧ n ≤ 7 := by
  by_cases hn : n < 0
  · exfalso
    have hk := key_suffixes _ (List.mem_map.mpr ⟨_, Model.lookup_mem h, rfl⟩)
    apply hk.2
    unfold showInt
    rw [if_pos hn, toList_key]
    simp
  · obtain ⟨m, rfl⟩ := Int.eq_ofNat_of_zero_le (by omega : 0 ≤ n)
    rw [showInt_natCast] at h
    have := sized_nat h
    omega

theorem digit_single : ∀ m ∈ List.range 8, (natDigits m).length = 1 := by decide +kernel

/-- `quality + str(number)` determines quality and number (numbers 1..7: one digit) -/
theorem key_inj {q q' : String} {m k : Nat} (hm : m ≤ 7) (hk : k ≤ 7)
    (h : q' ++ showNat m = q ++ showNat k) : q' = q ∧ m = k := by
  have h' := congrArg String.toList h
  simp only [showNat] at h'
  rw [toList_key, toList_key] at h'
  have hm' := digit_single m (List.mem_range.mpr (by omega))
  have hk' := digit_single k (List.mem_range.mpr (by omega))
  obtain ⟨h1, h2⟩ := List.append_inj' h' (by rw [hm', hk'])
  exact ⟨String.toList_inj.mp h1, Digits.natDigits_inj h2⟩

end C16
