/-
The default programs the exporter adds — how many, for which (track, channel), at which
tick —, the exact list of all its appends, and from it the programs of the whole written file and of each track.
-/
import PartituraModel.Model.PerfMidi
import PartituraModel.Proofs.Dicts
import PartituraModel.Proofs.C06Export
import PartituraModel.Proofs.Forall2
import Mathlib.Data.List.Nodup
import Mathlib.Data.List.Dedup

namespace C06Defaults
open Model Model.PerfMidi C06Sort C06Lists C06Export C06Stable

theorem minTick_congr (l l' : List Int) (h : ∀ t, t ∈ l ↔ t ∈ l') : minTick l = minTick l' :=
  Lists.optMin_congr (le := (· ≤ ·)) _ rfl minTick_cons le_refl (fun _ _ _ => le_trans) (fun _ _ => le_antisymm)
    (fun a m => if h : a ≤ m then Or.inl ⟨if_pos h, h⟩ else Or.inr ⟨if_neg h, le_of_not_ge h⟩) h

/-- the default program of one (channel, track) pair at tick `m` -/
def dflt (m : Int) (ct : Nat × Nat) : Ins := (ct.2, m, Ev.program ct.1 0)

theorem dflt_injective (m : Int) : Function.Injective (dflt m) := by
  intro a b h
  obtain ⟨a1, a2⟩ := a
  obtain ⟨b1, b2⟩ := b
  simp only [dflt, Prod.mk.injEq, Ev.program.injEq, and_true, true_and] at h
  obtain ⟨h1, h2⟩ := h
  subst h1 h2
  rfl

theorem mem_defaultPrograms (acc : List Ins) (p : PPart) (hnil : p.programs = []) (m : Int)
    (hm : minTick (acc.map (fun i => i.2.1)) = some m) (i : Ins) :
    i ∈ defaultPrograms acc p ↔ ∃ ct ∈ chanTracks p, i = dflt m ct := by
  unfold defaultPrograms
  simp only [hnil, List.isEmpty_nil, if_true, hm, List.mem_flatMap, List.mem_map, mem_uniqueSorted]
  constructor
  · rintro ⟨tr, _, ch, ⟨ct, hct, rfl⟩, rfl⟩
    have hct' := List.mem_filter.mp hct
    have ht : ct.2 = tr := by simpa using hct'.2
    refine ⟨ct, hct'.1, ?_⟩
    rw [← ht]
    rfl
  · rintro ⟨ct, hct, rfl⟩
    refine ⟨ct.2, ⟨ct, hct, rfl⟩, ct.1, ⟨ct, ?_, rfl⟩, rfl⟩
    exact List.mem_filter.mpr ⟨hct, by simp⟩

theorem nodup_defaultPrograms (acc : List Ins) (p : PPart) : (defaultPrograms acc p).Nodup := by
  unfold defaultPrograms
  split
  · split
    · exact List.nodup_nil
    · rename_i m _
      rw [List.nodup_flatMap]
      constructor
      · intro tr _
        refine List.Nodup.map ?_ (nodup_uniqueSorted _)
        intro a b h
        simpa using h
      · refine (nodup_uniqueSorted _).imp ?_
        intro a b hab
        simp only [Function.onFun]
        intro x hx hy
        obtain ⟨_, _, rfl⟩ := List.mem_map.mp hx
        obtain ⟨_, _, h⟩ := List.mem_map.mp hy
        simp only [Prod.mk.injEq] at h
        exact hab h.1.symm
  · exact List.nodup_nil

/-- a part without programs gets exactly one `program_change 0` per distinct (channel, track) pair
    of its notes and controls, all at the smallest tick present so far -/
theorem defaultPrograms_perm (acc : List Ins) (p : PPart) (hnil : p.programs = []) (m : Int)
    (hm : minTick (acc.map (fun i => i.2.1)) = some m) :
    (defaultPrograms acc p).Perm ((chanTracks p).dedup.map (dflt m)) := by
  rw [List.perm_ext_iff_of_nodup (nodup_defaultPrograms acc p)
    (List.Nodup.map (dflt_injective m) (List.nodup_dedup _))]
  intro i
  rw [mem_defaultPrograms acc p hnil m hm]
  simp only [List.mem_map, List.mem_dedup]
  constructor
  · rintro ⟨ct, h, rfl⟩; exact ⟨ct, h, rfl⟩
  · rintro ⟨ct, h, rfl⟩; exact ⟨ct, h, rfl⟩

theorem defaultPrograms_of_programs (acc : List Ins) (p : PPart) (h : p.programs ≠ []) : defaultPrograms acc p = [] := by
  unfold defaultPrograms
  have : p.programs.isEmpty = false := by
    cases hp : p.programs with
    | nil => exact absurd hp h
    | cons _ _ => rfl
  simp [this]

theorem defaultPrograms_none (acc : List Ins) (p : PPart) (hm : minTick (acc.map (fun i => i.2.1)) = none) :
    defaultPrograms acc p = [] := by
  unfold defaultPrograms
  split
  · rw [hm]
  · rfl

theorem defaultPrograms_tick (acc : List Ins) (p : PPart) :
    ∀ i ∈ defaultPrograms acc p, i.2.1 ∈ acc.map (fun i => i.2.1) := by
  intro i hi
  unfold defaultPrograms at hi
  split at hi
  · split at hi
    · cases hi
    · next m hm =>
      simp only [List.mem_flatMap, List.mem_map] at hi
      obtain ⟨_, _, _, _, rfl⟩ := hi
      exact (minTick_spec _ m hm).1
  · cases hi

/-- a part that appends no event has no note and no control, hence no (channel, track) pair: where a default program
    is due, the list of ticks it looks at is not empty -/
theorem chanTracks_nil_of_no_events (q : Rat → Int) (p : PPart) (h : partEvents q p = []) : chanTracks p = [] := by
  unfold partEvents at h
  simp only [List.append_eq_nil_iff, List.map_eq_nil_iff, List.flatMap_eq_nil_iff] at h
  obtain ⟨⟨⟨⟨⟨_, _⟩, _⟩, hc⟩, hn⟩, _⟩ := h
  have hn' : p.notes = [] := by
    cases hp : p.notes with
    | nil => rfl
    | cons a l =>
      have hmem : a ∈ sortBy noteLe p.notes := ((isSort _).mem).mpr (by rw [hp]; exact List.mem_cons_self)
      have := hn a hmem
      simp [noteIns] at this
  unfold chanTracks
  rw [hc, hn']
  rfl

/-- the default programs of a performance: for every part WITHOUT programs one `program_change 0` per distinct
    (channel, track) of its notes and controls, at the smallest tick of any event of this or an EARLIER part
    (`seen`: the events of the earlier parts) -/
def defaultsFrom (q : Rat → Int) (seen : List Ins) : List PPart → List Ins
  | [] => []
  | p :: rest =>
    let ev := seen ++ partEvents q p
    (if p.programs.isEmpty then
      match minTick (ev.map fun i => i.2.1) with
      | some m => (chanTracks p).dedup.map (dflt m)
      | none => []
     else []) ++ defaultsFrom q ev rest

/-- The invariant is that `acc` (what the exporter holds) and `seen` (the events of the earlier parts) have the same SET of
    ticks: a default program lands on a tick that is present already (`defaultPrograms_tick`), so it never changes the
    `minTick` the next part looks at, and `defaultsFrom` may ignore the default programs added so far. -/
theorem foldl_defaults (q : Rat → Int) (rest : List PPart) :
    ∀ (acc seen : List Ins), (∀ t, t ∈ acc.map (fun i => i.2.1) ↔ t ∈ seen.map (fun i => i.2.1)) →
      (rest.foldl (insertPart q) acc).Perm (acc ++ rest.flatMap (partEvents q) ++ defaultsFrom q seen rest) := by
  induction rest with
  | nil => intro acc seen _; simp [defaultsFrom]
  | cons p rest ih =>
    intro acc seen hticks
    have hticks' : ∀ t, t ∈ (acc ++ partEvents q p).map (fun i => i.2.1) ↔ t ∈ (seen ++ partEvents q p).map (fun i => i.2.1) := by
      intro t
      simp only [List.map_append, List.mem_append]
      rw [hticks t]
    have hmin := minTick_congr _ _ hticks'
    have hd : (defaultPrograms (acc ++ partEvents q p) p).Perm
        (if p.programs.isEmpty then
          match minTick ((seen ++ partEvents q p).map fun i => i.2.1) with
          | some m => (chanTracks p).dedup.map (dflt m)
          | none => []
         else []) := by
      rw [← hmin]
      split
      · next hnil =>
        split
        · next m hm => exact defaultPrograms_perm _ p (List.isEmpty_iff.mp hnil) m hm
        · next hm => rw [defaultPrograms_none _ p hm]
      · next hnil => rw [defaultPrograms_of_programs _ p fun h => hnil (h ▸ rfl)]
    have hticks'' : ∀ t, t ∈ (insertPart q acc p).map (fun i => i.2.1) ↔ t ∈ (seen ++ partEvents q p).map (fun i => i.2.1) := by
      intro t
      rw [← hticks' t]
      show t ∈ ((acc ++ partEvents q p) ++ defaultPrograms (acc ++ partEvents q p) p).map _ ↔ _
      rw [List.map_append, List.mem_append, or_iff_left_of_imp]
      intro h
      obtain ⟨i, hi, rfl⟩ := List.mem_map.mp h
      exact defaultPrograms_tick _ p i hi
    rw [List.foldl_cons]
    refine (ih (insertPart q acc p) (seen ++ partEvents q p) hticks'').trans ?_
    unfold insertPart
    simp only [defaultsFrom, List.flatMap_cons, List.append_assoc]
    refine List.Perm.append_left _ (List.Perm.append_left _ ?_)
    -- D ++ (R ++ F) ~ R ++ (D' ++ F)
    rw [← List.append_assoc, ← List.append_assoc]
    refine List.Perm.append_right _ ?_
    exact (List.Perm.append_right _ hd).trans List.perm_append_comm

theorem insertAll_defaults (q : Rat → Int) (parts : List PPart) :
    (insertAll q parts).Perm (parts.flatMap (partEvents q) ++ defaultsFrom q [] parts) := by
  unfold insertAll
  have := foldl_defaults q parts [] [] (fun _ => Iff.rfl)
  simpa using this

theorem defaultsFrom_spec (q : Rat → Int) (parts : List PPart) (seen : List Ins) :
    ∀ x ∈ defaultsFrom q seen parts, ∃ pre p post, parts = pre ++ p :: post ∧ p.programs = [] ∧
      minTick ((seen ++ (pre ++ [p]).flatMap (partEvents q)).map fun i => i.2.1) = some x.2.1 ∧
      ∃ ct ∈ chanTracks p, x = dflt x.2.1 ct := by
  induction parts generalizing seen with
  | nil => intro x hx; simp [defaultsFrom] at hx
  | cons p rest ih =>
    intro x hx
    simp only [defaultsFrom, List.mem_append] at hx
    rcases hx with hx | hx
    · by_cases hnil : p.programs = []
      · simp only [hnil, List.isEmpty_nil, if_true] at hx
        cases hm : minTick ((seen ++ partEvents q p).map fun i => i.2.1) with
        | none => rw [hm] at hx; exact absurd hx List.not_mem_nil
        | some m =>
          rw [hm] at hx
          obtain ⟨ct, hct, rfl⟩ := List.mem_map.mp hx
          refine ⟨[], p, rest, rfl, hnil, ?_, ct, List.mem_dedup.mp hct, rfl⟩
          simpa [dflt] using hm
      · have : p.programs.isEmpty = false := by
          cases hp : p.programs with
          | nil => exact absurd hp hnil
          | cons _ _ => rfl
        simp [this] at hx
    · obtain ⟨pre, p', post, hparts, hnil, hmin, hct⟩ := ih (seen ++ partEvents q p) x hx
      refine ⟨p :: pre, p', post, by rw [hparts]; rfl, hnil, ?_, hct⟩
      simpa [List.flatMap_cons, List.append_assoc] using hmin

theorem mem_defaults (q : Rat → Int) (parts : List PPart) (x : Ins) (hx : x ∈ defaultsFrom q [] parts) :
    (∃ p ∈ parts, p.programs = [] ∧ ∃ ct ∈ chanTracks p, ∃ m, x = dflt m ct) ∧
    ∃ p ∈ parts, ∃ i ∈ partEvents q p, i.2.1 = x.2.1 := by
  obtain ⟨pre, p, post, rfl, hnil, hmin, ct, hct, he⟩ := defaultsFrom_spec q parts [] x hx
  refine ⟨⟨p, List.mem_append_right _ List.mem_cons_self, hnil, ct, hct, _, he⟩, ?_⟩
  obtain ⟨i, hi, hm⟩ := List.mem_map.mp (minTick_spec _ _ hmin).1
  obtain ⟨p', hp', hi⟩ := List.mem_flatMap.mp hi
  refine ⟨p', ?_, i, hi, hm⟩
  rcases List.mem_append.mp hp' with h | h
  · exact List.mem_append_left _ h
  · exact List.mem_append_right _ (List.mem_singleton.mp h ▸ List.mem_cons_self)

theorem mem_insertAll_of_partEvents (q : Rat → Int) (parts : List PPart) (p : PPart) (hp : p ∈ parts)
    (i : Ins) (hi : i ∈ partEvents q p) : i ∈ insertAll q parts :=
  (insertAll_defaults q parts).mem_iff.mpr (List.mem_append_left _ (List.mem_flatMap.mpr ⟨p, hp, hi⟩))

/-- the program changes among a list of appends: (tick, program, channel) -/
def progsOfIns (ins : List Ins) : List (Int × Nat × Nat) :=
  ins.filterMap fun i => (gProg i.2.2).map fun b => (i.2.1, b)

theorem evI_eq_filterMap {β : Type} (g : Ev → Option β) (tr : Nat) (ins : List Ins) :
    evI g tr ins = (ins.filter (fun i => decide (i.1 = tr))).filterMap fun i => (g i.2.2).map fun b => (i.2.1, b) := by
  unfold evI sel
  rw [List.filterMap_map]
  rfl

theorem flatMap_evI_perm {β : Type} (g : Ev → Option β) (ins : List Ins) (l : List Nat) (hl : l.Nodup)
    (hc : ∀ i ∈ ins, i.1 ∈ l) :
    (l.flatMap fun tr => evI g tr ins).Perm (ins.filterMap fun i => (g i.2.2).map fun b => (i.2.1, b)) := by
  have h := Dicts.flatMap_filter_perm (fun i : Ins => i.1) hl ins hc
  have h2 := h.filterMap (fun i => (g i.2.2).map fun b => (i.2.1, b))
  refine List.Perm.trans (List.Perm.of_eq ?_) h2
  rw [List.filterMap_flatMap]
  apply List.flatMap_congr
  intro tr _
  exact evI_eq_filterMap g tr ins

theorem progsOfIns_dflt (m : Int) (l : List (Nat × Nat)) :
    progsOfIns (l.map (dflt m)) = l.map fun ct => (m, 0, ct.1) := by
  unfold progsOfIns
  rw [List.filterMap_map, ← List.filterMap_eq_map]
  rfl

end C06Defaults

namespace C06Merged
open Model Model.PerfMidi

/-- what a default program is: program 0 on a channel that a part without programs uses on track `tr` -/
def IsDefaultProg (parts : List PPart) (tr : Nat) (x : Int × Nat × Nat) : Prop :=
  x.2.1 = 0 ∧ ∃ p ∈ parts, p.programs = [] ∧ (x.2.2, tr) ∈ chanTracks p

end C06Merged

namespace C06Defaults
open Model Model.PerfMidi C06Sort C06Lists C06Export C06Merged

/-- the default programs that land on track number `tr`: (tick, 0, channel) -/
def trackDefaults (q : Rat → Int) (parts : List PPart) (tr : Nat) : List (Int × Nat × Nat) :=
  evI gProg tr (defaultsFrom q [] parts)

theorem trackDefaults_isDefault (q : Rat → Int) (parts : List PPart) (tr : Nat) :
    ∀ x ∈ trackDefaults q parts tr, IsDefaultProg parts tr x := by
  intro x hx
  obtain ⟨i, hi, rfl, hix⟩ := (mem_evI _ _ _ x).mp hx
  obtain ⟨⟨p, hp, hnil, ct, hct, m, rfl⟩, _⟩ := mem_defaults q parts i hi
  obtain rfl : (m, 0, ct.1) = x := Option.some.inj hix
  exact ⟨rfl, p, hp, hnil, hct⟩

theorem prog_trackAbs (q : Rat → Int) (parts : List PPart) (tr : Nat) :
    (sel gProg (trackAbs (insertAll q parts) tr)).Perm (perfPrograms q parts tr ++ trackDefaults q parts tr) := by
  refine (sel_trackAbs gProg _ tr).trans ((evI_perm gProg tr (insertAll_defaults q parts)).trans ?_)
  rw [evI_append, evI_flatMap, ← perfPrograms_eq, trackDefaults]

theorem prog_exportAbs (q : Rat → Int) (mpq : Nat) (parts : List PPart) :
    List.Forall₂ (fun tr t => (sel gProg t).Perm (perfPrograms q parts tr ++ trackDefaults q parts tr))
      (usedTracks q parts) (exportAbs q mpq parts) := by
  refine forall₂_exportAbs _ q mpq parts (fun tr => ?_) (prog_trackAbs q parts)
  rw [sel_cons_none gProg _ _ (by rfl)]
  exact prog_trackAbs q parts tr

theorem progs_file (q : Rat → Int) (mpq : Nat) (ms ml : Bool) (parts : List PPart) :
    ((loaderTracks ml ((savedAbs q mpq ms parts).map toDelta)).flatMap (sel gProg)).Perm
      ((usedTracks q parts).flatMap (perfPrograms q parts) ++ (usedTracks q parts).flatMap (trackDefaults q parts)) :=
  (sel_file gProg rfl q mpq ms ml parts).trans
    ((Lists.forall₂_flatMap_perm (prog_exportAbs q mpq parts) _ _ fun _ _ h => h.symm).symm.trans
      (List.flatMap_append_perm _ _ _).symm)

theorem mem_usedTracks (q : Rat → Int) (parts : List PPart) (i : Ins) (hi : i ∈ insertAll q parts) :
    i.1 ∈ usedTracks q parts :=
  (mem_uniqueSorted _ _).mpr (List.mem_map_of_mem hi)

theorem perfPrograms_perm (q : Rat → Int) (parts : List PPart) :
    ((usedTracks q parts).flatMap (perfPrograms q parts)).Perm
      (parts.flatMap fun p => p.programs.map fun c => (q c.time, c.prog, c.ch)) := by
  have e : perfPrograms q parts = fun tr => ((parts.flatMap (·.programs)).filter fun c => decide (c.track = tr)).map
      fun c => (q c.time, c.prog, c.ch) := by
    funext tr
    rw [perfPrograms, List.filter_flatMap, List.map_flatMap]
  rw [e, ← List.map_flatMap, ← List.map_flatMap]
  refine (Dicts.flatMap_filter_perm (fun c : PProg => c.track) (nodup_uniqueSorted _) _ fun c hc => ?_).map _
  obtain ⟨p, hp, hc⟩ := List.mem_flatMap.mp hc
  exact mem_usedTracks q parts (c.track, q c.time, Ev.program c.ch c.prog)
    (mem_insertAll_of_partEvents q parts p hp _ (List.mem_append_right _ (List.mem_map.mpr ⟨c, hc, rfl⟩)))

theorem trackDefaults_perm (q : Rat → Int) (parts : List PPart) :
    ((usedTracks q parts).flatMap (trackDefaults q parts)).Perm (progsOfIns (defaultsFrom q [] parts)) :=
  flatMap_evI_perm gProg _ _ (nodup_uniqueSorted _) fun i hi =>
    mem_usedTracks q parts i ((insertAll_defaults q parts).mem_iff.mpr (List.mem_append_right _ hi))

end C06Defaults
