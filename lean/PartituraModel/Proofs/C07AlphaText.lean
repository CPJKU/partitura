/-
C07 — the output alphabets of the codecs: for each formatter a set of characters and a minimal length
(`encAlpha`), and the proof that what the formatter writes lies in it (`TextOK`), codec by codec (the 30 single
keys in their four spellings by evaluation).  `C07.alpha_text` (Props/C07Alpha.lean) collects them.
-/
import PartituraModel.Proofs.C07Frac
import PartituraModel.Proofs.C07Key

namespace C07
open Model Model.Template Model.MatchCodec

/-- characters of an identifier "without separators" (the reading of the property: letters, digits, `_ . # + -`) -/
def idChar (c : Char) : Bool := c.isAlphanum || c == '_' || c == '.' || c == '#' || c == '+' || c == '-'

/-- characters `format_int` writes -/
def intChar (c : Char) : Bool := c.isDigit || c == '-'

/-- characters `'%.kf'` writes -/
def fixChar (c : Char) : Bool := c.isDigit || c == '-' || c == '.'

/-- characters of a list of identifiers written without its brackets -/
def listChar (c : Char) : Bool := idChar c || c == ','

/-- characters of a symbolic duration -/
def fracChar (c : Char) : Bool := c.isDigit || c == '/' || c == '+'

/-- a time signature with further components, written as a list -/
def tsigLChar (c : Char) : Bool := fracChar c || c == ',' || c == '[' || c == ']'

/-- a list of identifiers or integers with its brackets -/
def listBChar (c : Char) : Bool := listChar c || c == '[' || c == ']'

/-- free text: anything but a line break -/
def notNl (c : Char) : Bool := c != '\n'

/-- a key name of the 0.3.0 / 1.0.0 spellings: no line break, no comma -/
def notNlComma (c : Char) : Bool := c != '\n' && c != ','

/-- output alphabet and minimal text length of the codecs described at character level -/
def encAlpha : Enc → Option ((Char → Bool) × Nat)
  | .int => some (intChar, 1)
  | .fix _ => some (fixChar, 1)
  | .repr => some (fixChar, 1)
  | .listBody => some (listChar, 0)
  | .strip => some (idChar, 1)
  | .raw => some (idChar, 1)
  | .upper => some (idChar, 1)
  | .lower => some (idChar, 1)
  | .accTable _ => some (idChar, 1)
  | .frac => some (fracChar, 1)
  | .fracRational => some (fracChar, 1)
  | .version => some (fixChar, 1)
  | .tsig => some (fracChar, 1)
  | .tsigList => some (tsigLChar, 1)
  | .quoted => some (notNl, 1)
  | .list => some (listBChar, 1)
  | .key .v010 => some (notNl, 1)
  | .key .v030list => some (notNl, 1)
  | .key _ => some (notNlComma, 1)
  | _ => none

/-- the text a formatter writes for a value lies in the formatter's alphabet and has the minimal length -/
def TextOK (e : Enc) (v : Val) : Prop :=
  ∃ A N, encAlpha e = some (A, N) ∧ ∀ text, encode e v = some text → text.all A = true ∧ N ≤ text.length

theorem idChar_not_ws (c : Char) (h : idChar c = true) : isWs c = false := by
  cases hw : isWs c with
  | false => rfl
  | true =>
    exfalso
    simp only [isWs, Bool.or_eq_true, decide_eq_true_eq] at hw
    rcases hw with ((((rfl | rfl) | rfl) | rfl) | rfl) | rfl <;> revert h <;> decide

theorem showNatS_len (n : Nat) : 1 ≤ (showNatS n).length := by
  obtain ⟨d, ds, h, _⟩ := C07Codec.showNatS_cons n
  simp [h]

theorem showNatS_all (P : Char → Bool) (hP : ∀ c, c.isDigit = true → P c = true) (n : Nat) :
    (showNatS n).all P = true := by
  rw [List.all_eq_true]
  intro c hc
  exact hP c (C07Codec.showNatS_isDigit n c hc)

theorem showIntS_alpha (i : Int) : (showIntS i).all intChar = true ∧ 1 ≤ (showIntS i).length := by
  have hn : ∀ n, (showNatS n).all intChar = true := showNatS_all intChar (fun c h => by simp [intChar, h])
  unfold showIntS
  split
  · refine ⟨?_, by simp⟩
    simp only [List.all_cons, Bool.and_eq_true]
    exact ⟨by decide, hn _⟩
  · exact ⟨hn _, showNatS_len _⟩

theorem showNatS_fix (n : Nat) : (showNatS n).all fixChar = true :=
  showNatS_all fixChar (fun c h => by simp [fixChar, h]) n

theorem showNatS_frac (n : Nat) : (showNatS n).all fracChar = true :=
  showNatS_all fracChar (fun c h => by simp [fracChar, h]) n

theorem printFixed_alpha (k : Nat) (neg : Bool) (n : Nat) :
    (printFixed k neg n).all fixChar = true ∧ 1 ≤ (printFixed k neg n).length := by
  unfold printFixed
  constructor
  · simp only [List.all_append, Bool.and_eq_true]
    refine ⟨⟨?_, showNatS_fix _⟩, ?_⟩
    · cases neg <;> simp [fixChar]
    · split
      · rfl
      · simp only [List.all_cons, padZeros, List.all_append, Bool.and_eq_true, List.all_replicate]
        refine ⟨by decide, by split <;> decide, showNatS_fix _⟩
  · have := showNatS_len (n / pow10 k)
    simp only [List.length_append]
    omega

theorem encRepr_alpha (q : Rat) (text : Str) (h : encRepr q = some text) :
    text.all fixChar = true ∧ 1 ≤ text.length := by
  unfold encRepr at h
  simp only at h
  -- for either sign: outside the positional range and without a finite expansion nothing is written,
  -- otherwise a fixed-point numeral
  split at h
  all_goals
    split at h
    · cases h
    · split at h
      · cases h
      · cases h
        exact printFixed_alpha _ _ _

theorem joinWith_all (P : Char → Bool) (sep : Str) (hsep : sep.all P = true) (l : List Str)
    (h : ∀ x ∈ l, x.all P = true) : (joinWith sep l).all P = true := by
  rw [List.all_eq_true]
  intro c hc
  rcases C07Codec.mem_joinWith sep c l hc with hs | ⟨x, hx, hcx⟩
  · exact List.all_eq_true.mp hsep c hs
  · exact List.all_eq_true.mp (h x hx) c hcx

theorem joinWith_len (sep x : Str) (r : List Str) : x.length ≤ (joinWith sep (x :: r)).length := by
  cases r with
  | nil => simp [joinWith]
  | cons y r => simp only [joinWith, List.length_append]; omega

theorem toStr_alpha (f : Frac) (h : f.add ≠ some []) : f.toStr.all fracChar = true ∧ 1 ≤ f.toStr.length := by
  constructor
  · rw [List.all_eq_true]
    intro c hc
    rcases C07Codec.toStr_chars f c hc with h | rfl | rfl
    · simp [fracChar, h]
    · decide
    · decide
  · unfold Frac.toStr
    cases ha : f.add with
    | none => exact List.length_pos_iff.mpr (C07Codec.fracStr1_ne_nil _ _ _)
    | some comps =>
      cases comps with
      | nil => exact absurd ha h
      | cons c cs =>
        exact Nat.le_trans (List.length_pos_iff.mpr (C07Codec.fracStr1_ne_nil c.1 c.2.1 c.2.2)) (joinWith_len _ _ _)

theorem toStrRational_alpha (f : Frac) (h : f.add ≠ some []) :
    f.toStrRational.all fracChar = true ∧ 1 ≤ f.toStrRational.length := by
  unfold Frac.toStrRational
  split
  · refine ⟨?_, by simp⟩
    simp only [List.all_append, Bool.and_eq_true]
    exact ⟨showNatS_frac _, by decide⟩
  · exact toStr_alpha f h

theorem textOK_of {e : Enc} {v : Val} {A : Char → Bool} {N : Nat} {x : Str} (hA : encAlpha e = some (A, N))
    (hx : encode e v = some x) (h : x.all A = true ∧ N ≤ x.length) : TextOK e v :=
  ⟨A, N, hA, fun text ht => by rw [hx] at ht; cases ht; exact h⟩

/-- the decidable form of `TextOK` for one value (used over the finite tables of steps and accidentals) -/
def textOKb (e : Enc) (v : Val) : Bool :=
  match encAlpha e, encode e v with
  | some (A, N), some x => x.all A && decide (N ≤ x.length)
  | some _, none => true
  | none, _ => false

theorem textOK_of_b (e : Enc) (v : Val) (h : textOKb e v = true) : TextOK e v := by
  unfold textOKb at h
  split at h
  · rename_i A N x hA hx
    exact textOK_of hA hx (by simpa using h)
  · rename_i AN hA hx
    exact ⟨AN.1, AN.2, hA, fun text ht => by rw [hx] at ht; cases ht⟩
  · cases h

theorem all_mono (P Q : Char → Bool) (h : ∀ c, P c = true → Q c = true) (x : Str) (hx : x.all P = true) :
    x.all Q = true := by
  rw [List.all_eq_true] at hx ⊢
  exact fun c hc => h c (hx c hc)

theorem encVersion_alpha (a b c : Nat) : (encVersion a b c).all fixChar = true ∧ 1 ≤ (encVersion a b c).length := by
  unfold encVersion
  have := showNatS_len a
  refine ⟨?_, by simp only [List.length_append]; omega⟩
  simp only [List.all_append, List.all_cons, Bool.and_eq_true]
  exact ⟨⟨showNatS_fix a, by decide, showNatS_fix b⟩, by decide, showNatS_fix c⟩

theorem encTsig_alpha (t : TimeSig) : (encTsig t).all fracChar = true ∧ 1 ≤ (encTsig t).length := by
  unfold encTsig
  have := showNatS_len t.num
  refine ⟨?_, by simp only [List.length_append]; omega⟩
  simp only [List.all_append, List.all_cons, Bool.and_eq_true]
  exact ⟨showNatS_frac _, by decide, showNatS_frac _⟩

theorem encList_all (P : Char → Bool) (hb : P '[' = true ∧ P ']' = true ∧ P ',' = true) (l : List Str)
    (h : ∀ x ∈ l, x.all P = true) : (encList l).all P = true ∧ 1 ≤ (encList l).length := by
  unfold encList encListBody
  refine ⟨?_, by simp⟩
  simp only [List.all_cons, List.all_append, Bool.and_eq_true, List.all_nil]
  exact ⟨hb.1, joinWith_all P [','] (by simp [hb.2.2]) l h, hb.2.1, trivial⟩

theorem key1_alpha : ∀ fm ∈ allKeys, ∀ fmt ∈ [KeyFmt.v100, KeyFmt.v030, KeyFmt.v010, KeyFmt.v030list],
    textOKb (.key fmt) (.key (key1 fm)) = true := by decide +kernel

end C07
