/-
C09: the sort of the `"<n>_Volta_<ID>"` destinations (`insVolta`), and the
numbers on the brackets of a volta group described by an assignment number ↦ bracket.
-/
import PartituraModel.Proofs.C09Table
import PartituraModel.Proofs.C09Enum
import PartituraModel.Model.UnfoldFam
import PartituraModel.Proofs.Dicts

namespace C09
open Model.Unfold

def vle (a b : Nat × Nat) : Prop := voltaLe a b = true

theorem vle_iff (a b : Nat × Nat) : vle a b ↔ a.1 < b.1 ∨ (a.1 = b.1 ∧ a.2 ≤ b.2) := by
  simp [vle, voltaLe]

theorem vle_total (a b : Nat × Nat) (h : ¬ vle a b) : vle b a := by
  rw [vle_iff] at *
  omega

theorem vle_trans (a b c : Nat × Nat) (h1 : vle a b) (h2 : vle b c) : vle a c := by
  rw [vle_iff] at *
  omega

theorem vle_antisymm (a b : Nat × Nat) (h1 : vle a b) (h2 : vle b a) : a = b := by
  rw [vle_iff] at *
  apply Prod.ext <;> omega

theorem insVolta_sorted (x : Nat × Nat) (l : List (Nat × Nat)) (h : l.Pairwise vle) : (insVolta x l).Pairwise vle := by
  refine insVolta_is.ins_pairwise (fun y _ hy => ?_) (fun y _ hy => ?_) (fun y _ z _ hy hyz => ?_) h
  · exact vle_total y x (by simpa [vle] using hy)
  · simpa [vle] using hy
  · have hy' : ¬ vle y x := by simpa [vle] using hy
    have : ¬ vle z x := fun hzx => hy' (vle_trans y z x hyz hzx)
    simpa [vle] using this

theorem sortVolta_spec (l acc : List (Nat × Nat)) (h : acc.Pairwise vle) :
    (l.foldl (fun acc x => insVolta x acc) acc).Pairwise vle ∧
    (l.foldl (fun acc x => insVolta x acc) acc).Perm (l ++ acc) :=
  ⟨Lists.foldl_inv (·.Pairwise vle) _ (fun acc x h => insVolta_sorted x acc h) l acc h, insVolta_is.foldl_ins_perm l acc⟩

theorem sortVolta_eq (l target : List (Nat × Nat)) (hp : l.Perm target) (hs : target.Pairwise vle) :
    l.foldl (fun acc x => insVolta x acc) [] = target := by
  obtain ⟨h1, h2⟩ := sortVolta_spec l [] List.Pairwise.nil
  rw [List.append_nil] at h2
  exact List.Perm.eq_of_pairwise (fun a b _ _ => vle_antisymm a b) h1 hs (h2.trans hp)

theorem flatMap_congr' {α β : Type} (F G : α → List β) : ∀ (L : List α), (∀ j ∈ L, F j = G j) →
    L.flatMap F = L.flatMap G :=
  fun L h => by rw [List.flatMap_def, List.flatMap_def, List.map_congr_left h]

/-- `(number, segment)` pairs of the section's volta destinations, in the order the code collects them -/
def voltaPairs (c k : Nat) (asg : List Nat) : List (Nat × Nat) :=
  (List.range k).flatMap fun j => (numsOf asg j).map fun n => (n, c + 1 + j)

def voltaTarget (c : Nat) (asg : List Nat) : List (Nat × Nat) :=
  (enum 0 asg).map fun q => (q.1 + 1, c + 1 + q.2)

theorem voltaPairs_perm (c k : Nat) (asg : List Nat) (h : ∀ x ∈ asg, x < k) :
    (voltaPairs c k asg).Perm (voltaTarget c asg) := by
  have hp := Dicts.flatMap_filter_perm (fun q : Nat × Nat => q.2) (List.nodup_range (n := k)) (enum 0 asg) (by
    intro q hq
    obtain ⟨i, x⟩ := q
    have := ((enum_mem asg 0 i x).mp hq).2
    exact List.mem_range.mpr (h x (List.mem_of_getElem? this)))
  have := hp.map (fun q : Nat × Nat => (q.1 + 1, c + 1 + q.2))
  refine List.Perm.trans ?_ this
  rw [List.map_flatMap]
  unfold voltaPairs numsOf
  rw [flatMap_congr' _ (fun j => ((enum 0 asg).filter fun q => decide (q.2 = j)).map fun q => (q.1 + 1, c + 1 + q.2))]
  intro j _
  rw [List.map_map]
  apply List.map_congr_left
  intro q hq
  have := (List.mem_filter.mp hq).2
  simp only [decide_eq_true_eq] at this
  simp [this]

theorem voltaTarget_sorted (c : Nat) (asg : List Nat) : (voltaTarget c asg).Pairwise vle := by
  unfold voltaTarget
  have key : ∀ (l : List Nat) (k : Nat), ((enum k l).map fun q => (q.1 + 1, c + 1 + q.2)).Pairwise vle ∧
      ∀ z ∈ (enum k l).map (fun q : Nat × Nat => (q.1 + 1, c + 1 + q.2)), k + 1 ≤ z.1 := by
    intro l
    induction l with
    | nil => intro k; simp [enum]
    | cons a as ih =>
      intro k
      obtain ⟨i1, i2⟩ := ih (k + 1)
      simp only [enum, List.map_cons]
      refine ⟨List.pairwise_cons.mpr ⟨?_, i1⟩, ?_⟩
      · intro z hz
        have := i2 z hz
        rw [vle_iff]
        left
        show k + 1 < z.1
        omega
      · intro z hz
        simp only [List.mem_cons] at hz
        rcases hz with rfl | hz
        · exact Nat.le_refl _
        · have := i2 z hz; omega
  exact (key asg 0).1

theorem voltaPairs_sorted (c k : Nat) (asg : List Nat) (h : ∀ x ∈ asg, x < k) :
    (voltaPairs c k asg).foldl (fun acc x => insVolta x acc) [] = voltaTarget c asg :=
  sortVolta_eq _ _ (voltaPairs_perm c k asg h) (voltaTarget_sorted c asg)

theorem voltaTarget_dests (c : Nat) (asg : List Nat) :
    (voltaTarget c asg).map (fun x => Dest.seg x.2) = asg.map fun j => Dest.seg (c + 1 + j) := by
  unfold voltaTarget
  rw [List.map_map]
  have key : ∀ (l : List Nat) (k : Nat), (enum k l).map ((fun x : Nat × Nat => Dest.seg x.2) ∘ fun q => (q.1 + 1, c + 1 + q.2)) =
      l.map fun j => Dest.seg (c + 1 + j) := by
    intro l
    induction l with
    | nil => intro k; rfl
    | cons a as ih => intro k; simp only [enum, List.map_cons, ih]; rfl
  exact key asg 0

theorem numsOf_back (asg : List Nat) (j : Nat) :
    ((numsOf asg j).filter fun n => decide (n ≠ asg.length)).length = asg.dropLast.count j := by
  unfold numsOf
  rw [List.filter_map, List.length_map, List.filter_filter]
  have e : ((enum 0 asg).filter fun q => ((fun n => decide (n ≠ asg.length)) ∘ fun q : Nat × Nat => q.1 + 1) q && decide (q.2 = j)) =
      (enum 0 asg).filter fun q => decide (q.1 < 0 + (asg.length - 1)) && decide (q.2 = j) := by
    apply List.filter_congr
    intro q hq
    obtain ⟨i, x⟩ := q
    have := ((enum_mem asg 0 i x).mp hq).2
    have hlt := (List.getElem?_eq_some_iff.mp this).1
    simp only [Nat.sub_zero] at hlt
    simp only [Function.comp, Nat.zero_add]
    by_cases h1 : i + 1 = asg.length
    · have : ¬ i < asg.length - 1 := by omega
      simp [h1, this]
    · have : i < asg.length - 1 := by omega
      simp [h1, this]
  rw [e, enum_take_filter (fun x : Nat => decide (x = j)) asg 0 (asg.length - 1), List.dropLast_eq_take,
    List.count_eq_length_filter]
  congr 1

theorem mem_numsOf (asg : List Nat) (j n : Nat) : n ∈ numsOf asg j ↔ ∃ i, asg[i]? = some j ∧ n = i + 1 := by
  unfold numsOf
  rw [List.mem_map]
  constructor
  · rintro ⟨⟨i, x⟩, hq, rfl⟩
    rw [List.mem_filter, enum_mem] at hq
    obtain ⟨⟨_, hm⟩, hx⟩ := hq
    simp only [decide_eq_true_eq] at hx
    exact ⟨i, by simpa [hx] using hm, rfl⟩
  · rintro ⟨i, hi, rfl⟩
    exact ⟨(i, j), List.mem_filter.mpr ⟨(enum_mem asg 0 i j).mpr ⟨Nat.zero_le _, by simpa using hi⟩, by simp⟩, rfl⟩

theorem numsOf_last (asg : List Nat) (j : Nat) :
    (numsOf asg j).contains asg.length = decide (asg.getLast? = some j) := by
  rw [Bool.eq_iff_iff, List.contains_iff_mem, decide_eq_true_iff, mem_numsOf, List.getLast?_eq_getElem?]
  constructor
  · rintro ⟨i, hi, hn⟩
    have : asg.length - 1 = i := by omega
    rw [this]
    exact hi
  · intro h
    have hlt := (List.getElem?_eq_some_iff.mp h).1
    exact ⟨asg.length - 1, h, by omega⟩

theorem numsOf_small (asg : List Nat) (j : Nat) (h : asg.length ≤ 9) : ∀ n ∈ numsOf asg j, n < 10 := by
  intro n hn
  obtain ⟨i, hi, rfl⟩ := (mem_numsOf asg j n).mp hn
  have := (List.getElem?_eq_some_iff.mp hi).1
  omega

theorem numsOf_range (k j : Nat) (hj : j < k) : numsOf (List.range k) j = [j + 1] := by
  unfold numsOf
  have key : ∀ (m s : Nat), ((enum s (List.range' s m)).filter fun q : Nat × Nat => decide (q.2 = j)).map (·.1 + 1) =
      if s ≤ j ∧ j < s + m then [j + 1] else [] := by
    intro m
    induction m with
    | zero => intro s; simp [enum]
    | succ m ih =>
      intro s
      simp only [List.range'_succ, enum, List.filter_cons]
      by_cases hs : s = j
      · subst hs
        have h1 : ¬ (s + 1 ≤ s ∧ s < s + 1 + m) := by omega
        have h2 : s ≤ s ∧ s < s + (m + 1) := by omega
        simp [ih, h1, h2]
      · simp only [hs, decide_false, Bool.false_eq_true, if_false, ih]
        by_cases hc : s + 1 ≤ j ∧ j < s + 1 + m
        · have hc' : s ≤ j ∧ j < s + (m + 1) := by omega
          simp [hc, hc']
        · have hc' : ¬ (s ≤ j ∧ j < s + (m + 1)) := by omega
          simp [hc, hc']
  have := key k 0
  rw [← List.range_eq_range'] at this
  rw [this]
  simp [hj]

theorem numsOf_total (asg : List Nat) (k : Nat) (h : ∀ x ∈ asg, x < k) :
    ((List.range' 0 k).flatMap (numsOf asg)).length = asg.length := by
  -- the (number, bracket) pairs collected bracket by bracket are a permutation of those listed number by number: count them
  have h1 := (voltaPairs_perm 0 k asg h).length_eq
  unfold voltaPairs voltaTarget at h1
  rw [List.length_map, enum_length] at h1
  rw [← h1, ← List.range_eq_range']
  simp [List.length_flatMap]

end C09
