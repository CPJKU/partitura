/-
Decimal numerals as character lists: a digit is one of ten characters, the value of a numeral (`Model.digitsToNat`) and the
numeral of a value (`Model.natDigits`) invert each other, and Python's `int()` (sign, blanks around) reads back what `str()`
printed.
-/
import PartituraModel.Model.Basic
import PartituraModel.Proofs.Scan
import Mathlib.Tactic.IntervalCases
import Mathlib.Tactic.Ring

namespace Digits
open Model

/-! ### a digit is one of ten characters -/

def digitChars : List Char := ['0', '1', '2', '3', '4', '5', '6', '7', '8', '9']

theorem mem_digitChars {c : Char} : c ∈ digitChars ↔ c.isDigit = true := by
  refine ⟨fun h => ?_, fun h => ?_⟩
  · revert c; decide
  · simp only [Char.isDigit, Bool.and_eq_true, decide_eq_true_eq] at h
    exact Lists.char_mem_of_range (lo := 48) (hi := 57) h.1 h.2

/-- what holds of the ten digit characters (by `decide`) holds of every digit: a digit is no blank, no sign, no
    separator -/
@[elab_as_elim]
theorem of_isDigit {P : Char → Prop} {c : Char} (hc : c.isDigit = true) (h : ∀ c ∈ digitChars, P c) : P c :=
  h c (mem_digitChars.mpr hc)

theorem digitChar_isDigit (d : Nat) (h : d < 10) : (digitChar d).isDigit = true := by
  interval_cases d <;> decide

theorem digitChar_toNat (d : Nat) (h : d < 10) : (digitChar d).toNat - '0'.toNat = d := by
  interval_cases d <;> decide

/-- a non-empty text of digits passes the test `allDigits` of the readers, which unfolds to this -/
theorem numeral_of_isDigit {ds : List Char} (hne : ds ≠ []) (hd : ∀ c ∈ ds, c.isDigit = true) :
    (!ds.isEmpty && ds.all Char.isDigit) = true := by
  obtain ⟨c, r, rfl⟩ := List.exists_cons_of_ne_nil hne
  rw [List.all_eq_true.mpr hd]
  rfl

theorem digitsToNat_append (a b : List Char) : digitsToNat (a ++ b) = digitsToNat a * 10 ^ b.length + digitsToNat b := by
  -- the digits read so far count `10 ^ k` times when `k` more follow
  have acc : ∀ (cs : List Char) (n : Nat), cs.foldl (fun n c => 10 * n + (c.toNat - '0'.toNat)) n
      = n * 10 ^ cs.length + cs.foldl (fun n c => 10 * n + (c.toNat - '0'.toNat)) 0 := by
    intro cs
    induction cs with
    | nil => intro n; simp
    | cons c cs ih =>
      intro n
      rw [List.foldl_cons, List.foldl_cons, ih, ih (10 * 0 + _), List.length_cons, Nat.pow_succ]
      ring
  unfold digitsToNat
  rw [List.foldl_append, acc b]

theorem natDigitsRev_ne_nil (fuel n : Nat) (h : n < fuel) : natDigitsRev fuel n ≠ [] := by
  cases fuel with
  | zero => omega
  | succ f => unfold natDigitsRev; split <;> simp

theorem natDigitsRev_isDigit (fuel n : Nat) : ∀ c ∈ natDigitsRev fuel n, c.isDigit = true := by
  induction fuel generalizing n with
  | zero => simp [natDigitsRev]
  | succ fuel ih =>
    unfold natDigitsRev
    split
    · rename_i hlt
      intro c hc
      rw [List.mem_singleton.mp hc]
      exact digitChar_isDigit n hlt
    · intro c hc
      rcases List.mem_cons.mp hc with rfl | hc
      · exact digitChar_isDigit (n % 10) (Nat.mod_lt _ (by decide))
      · exact ih _ c hc

theorem digitsToNat_natDigitsRev (fuel n : Nat) (h : n < fuel) : digitsToNat (natDigitsRev fuel n).reverse = n := by
  have one : ∀ d < 10, digitsToNat [digitChar d] = d := fun d hd =>
    (Nat.zero_add _).trans (digitChar_toNat d hd)
  induction fuel generalizing n with
  | zero => omega
  | succ fuel ih =>
    unfold natDigitsRev
    split
    · exact one n ‹_›
    · rw [List.reverse_cons, digitsToNat_append, ih _ (by omega), one _ (Nat.mod_lt _ (by decide))]
      exact Nat.div_add_mod' n 10

theorem digitsToNat_natDigits (n : Nat) : digitsToNat (natDigits n) = n :=
  digitsToNat_natDigitsRev (n + 1) n (Nat.lt_succ_self n)

theorem natDigits_ne_nil (n : Nat) : natDigits n ≠ [] := by
  unfold natDigits
  simpa using natDigitsRev_ne_nil (n + 1) n (by omega)

theorem natDigits_isDigit (n : Nat) : ∀ c ∈ natDigits n, c.isDigit = true := fun c hc =>
  natDigitsRev_isDigit _ _ c (List.mem_reverse.mp hc)

theorem natDigits_mem (n : Nat) : ∀ c ∈ natDigits n, c ∈ digitChars := fun c hc =>
  mem_digitChars.mpr (natDigits_isDigit n c hc)

theorem natDigits_eq_cons (n : Nat) : ∃ c r, natDigits n = c :: r ∧ c.isDigit = true := by
  obtain ⟨c, r, h⟩ := List.exists_cons_of_ne_nil (natDigits_ne_nil n)
  exact ⟨c, r, h, natDigits_isDigit n c (h ▸ List.mem_cons_self)⟩

theorem numeral_natDigits (n : Nat) : (!(natDigits n).isEmpty && (natDigits n).all Char.isDigit) = true :=
  numeral_of_isDigit (natDigits_ne_nil n) (natDigits_isDigit n)

theorem natDigits_inj {a b : Nat} (h : natDigits a = natDigits b) : a = b := by
  rw [← digitsToNat_natDigits a, h, digitsToNat_natDigits]

/-- the first run of digits of a numeral is the numeral (what the readers' `firstInt` / `firstNat` look for) -/
theorem leadingDigits_natDigits (n : Nat) :
    ((natDigits n).dropWhile fun c => !c.isDigit).takeWhile Char.isDigit = natDigits n := by
  obtain ⟨c, r, hcr, hd⟩ := natDigits_eq_cons n
  rw [Lists.dropWhile_of_head (by simp [hcr, hd]), Lists.takeWhile_of_all (natDigits_isDigit n)]

/-- `int(s)` for the plain forms: blanks (`ws`) around, an optional sign, ASCII digits; `none` = ValueError.  The
    readers of the models are this function for their own `ws`, by `⟨fun _ => rfl⟩`. -/
structure IsPyInt (ws : Char → Bool) (parse : List Char → Option Int) : Prop where
  eq : ∀ s, parse s =
    match ((s.dropWhile ws).reverse.dropWhile ws).reverse with
    | '-' :: r => if (!r.isEmpty && r.all Char.isDigit) = true then some (-(digitsToNat r : Int)) else none
    | '+' :: r => if (!r.isEmpty && r.all Char.isDigit) = true then some (digitsToNat r : Int) else none
    | r => if (!r.isEmpty && r.all Char.isDigit) = true then some (digitsToNat r : Int) else none

namespace IsPyInt

/- `hws`: none of the characters that `str()` of an integer prints is a blank (by `decide` for a model's `ws`), so that
   stripping leaves the text alone; `'+'` is read but never printed. -/
variable {ws : Char → Bool} {parse : List Char → Option Int} (h : IsPyInt ws parse)
  (hws : ∀ c ∈ '-' :: digitChars, ws c = false)
include h hws

theorem digits {ds : List Char} (hne : ds ≠ []) (hd : ∀ c ∈ ds, c.isDigit = true) :
    parse ds = some (digitsToNat ds : Int) := by
  rw [h.eq, Lists.strip_of_all fun c hc => hws c (List.mem_cons_of_mem _ (mem_digitChars.mpr (hd c hc)))]
  split
  · exact absurd (hd '-' (by simp)) (by decide)
  · exact absurd (hd '+' (by simp)) (by decide)
  · rw [if_pos (numeral_of_isDigit hne hd)]

theorem neg_digits {ds : List Char} (hne : ds ≠ []) (hd : ∀ c ∈ ds, c.isDigit = true) :
    parse ('-' :: ds) = some (-(digitsToNat ds : Int)) := by
  rw [h.eq, Lists.strip_of_all fun c hc => (List.mem_cons.mp hc).elim (fun e => hws c (e ▸ List.mem_cons_self))
    fun hc => hws c (List.mem_cons_of_mem _ (mem_digitChars.mpr (hd c hc)))]
  exact if_pos (numeral_of_isDigit hne hd)

/-- `int(str(n)) = n` -/
theorem natDigits (n : Nat) : parse (natDigits n) = some (n : Int) := by
  rw [h.digits hws (natDigits_ne_nil n) (natDigits_isDigit n), digitsToNat_natDigits]

/-- `int(str(i)) = i`; the argument is the body of `XmlNote.showIntC` and `KernWrite.showIntChars`, and of
    `MatchCodec.showIntS` once its own copy `showNatS` of `natDigits` is rewritten (`Model.showInt` is the same text as a
    `String`) -/
theorem showInt (i : Int) : parse (if i < 0 then '-' :: Model.natDigits (-i).toNat else Model.natDigits i.toNat) = some i := by
  split
  · rw [h.neg_digits hws (natDigits_ne_nil _) (natDigits_isDigit _), digitsToNat_natDigits]
    congr 1
    omega
  · rw [h.natDigits hws]
    congr 1
    omega

end IsPyInt

end Digits
