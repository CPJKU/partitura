/-
Refinement: `soundOffs` (the literal mirror of `adjust_offsets_w_sustain`) never fails and computes, per note,
`if pedal down before the release then min(closing sentinel, pedal-up moments ≥ release, re-strikes ≥ release) else release`.
-/
import PartituraModel.Proofs.C14Pedal
import PartituraModel.Proofs.C14Clip

namespace C14P
open Model Model.Pedal

/-- sounding end of note `n = ns[i]` in the vocabulary of the property -/
def soundOffSpec (ns : List Note) (cs : List Control) (thr : Int) (i : Nat) (n : Note) : Rat :=
  if downBefore n.off (pedalStream cs thr) then
    minOf ((closing ns (pedalStream cs thr)).getD n.off) (upTimes n.off (pedalStream cs thr) ++ restrikes ns i n)
  else n.off

theorem soundOffSpec_up {ns : List Note} {cs : List Control} {thr : Int} {i : Nat} {n : Note}
    (h : downBefore n.off (pedalStream cs thr) = false) : soundOffSpec ns cs thr i n = n.off := by
  rw [soundOffSpec, h]
  rfl

theorem soundOffSpec_down {ns : List Note} {cs : List Control} {thr : Int} {i : Nat} {n : Note}
    (h : downBefore n.off (pedalStream cs thr) = true) :
    soundOffSpec ns cs thr i n
      = minOf ((closing ns (pedalStream cs thr)).getD n.off) (upTimes n.off (pedalStream cs thr) ++ restrikes ns i n) := by
  rw [soundOffSpec, if_pos h]

theorem map_zipIdx_fst {α β : Type} (f : α → β) (l : List α) (k : Nat) :
    (l.zipIdx k).map (fun m => f m.1) = l.map f := by
  rw [show (fun m : α × Nat => f m.1) = f ∘ Prod.fst from rfl, ← List.map_map, List.zipIdx_map_fst]

theorem checkSoundOff_ok (n : Note) (x : Rat) (h : n.off ≤ x) : checkSoundOff n x = some x := by
  unfold checkSoundOff
  by_cases h0 : n.off < 0
  · simp [h0]
  · have h1 : ¬ x < 0 := by intro hx; exact h0 (lt_of_le_of_lt h hx)
    have h2 : ¬ x < n.off := not_lt.mpr h
    simp [h0, h1, h2]

theorem mem_upTimes (r : Rat) (E : List Ev) (y : Rat) :
    y ∈ upTimes r E ↔ ∃ e ∈ E, r ≤ e.1 ∧ e.2 = false ∧ e.1 = y := by
  unfold upTimes
  simp only [List.mem_map, List.mem_filter, Bool.and_eq_true, decide_eq_true_eq, Bool.not_eq_true']
  constructor
  · rintro ⟨e, ⟨he, h1, h2⟩, rfl⟩; exact ⟨e, he, h1, h2, rfl⟩
  · rintro ⟨e, he, h1, h2, rfl⟩; exact ⟨e, ⟨he, h1, h2⟩, rfl⟩

theorem mem_restrikes (ns : List Note) (i : Nat) (n : Note) (t : Rat) :
    t ∈ restrikes ns i n ↔ n.off ≤ t ∧ ∃ j m, ns[j]? = some m ∧ j ≠ i ∧ m.pitch = n.pitch ∧ m.on = t := by
  unfold restrikes
  simp only [List.mem_map, List.mem_filter, Bool.and_eq_true, decide_eq_true_eq]
  constructor
  · rintro ⟨m, ⟨hm, ⟨h1, h2⟩, h3⟩, rfl⟩
    exact ⟨h3, m.2, m.1, List.mem_zipIdx_iff_getElem?.mp hm, h1, h2, rfl⟩
  · rintro ⟨h3, j, m, hm, h1, h2, rfl⟩
    exact ⟨(m, j), ⟨List.mem_zipIdx_iff_getElem?.mpr hm, ⟨h1, h2⟩, h3⟩, rfl⟩

/-- … with "a note at another position" kept together, the form in which the position can be exchanged -/
theorem mem_restrikes' (ns : List Note) (i : Nat) (n : Note) (t : Rat) :
    t ∈ restrikes ns i n ↔ n.off ≤ t ∧ ∃ m, (∃ j, ns[j]? = some m ∧ j ≠ i) ∧ m.pitch = n.pitch ∧ m.on = t := by
  rw [mem_restrikes]
  exact and_congr_right fun _ =>
    ⟨fun ⟨j, m, h1, h2, h3⟩ => ⟨m, ⟨j, h1, h2⟩, h3⟩, fun ⟨m, ⟨j, h1, h2⟩, h3⟩ => ⟨j, m, h1, h2, h3⟩⟩

theorem restrikes_ge (ns : List Note) (i : Nat) (n : Note) : ∀ y ∈ restrikes ns i n, n.off ≤ y :=
  fun y hy => ((mem_restrikes ns i n y).mp hy).1

theorem upTimes_ge (r : Rat) (E : List Ev) : ∀ y ∈ upTimes r E, r ≤ y := by
  intro y hy
  obtain ⟨e, _, h, _, rfl⟩ := (mem_upTimes r E y).mp hy
  exact h

theorem minOf_le (x : Rat) (l : List Rat) (y : Rat) (hy : y ∈ x :: l) : minOf x l ≤ y := by
  rcases List.mem_cons.mp hy with rfl | hy
  · exact Lists.foldl_min_le_init _ _
  · exact Lists.foldl_min_le_mem _ _ _ hy

theorem le_maxOf (x : Rat) (l : List Rat) (y : Rat) (hy : y ∈ x :: l) : y ≤ maxOf x l := by
  rcases List.mem_cons.mp hy with rfl | hy
  · exact Lists.foldl_max_ge_init _ _
  · exact Lists.foldl_max_ge_mem _ _ _ hy

theorem off_le_maxOf (n0 : Note) (rest : List Note) (n : Note) (hn : n ∈ n0 :: rest) :
    n.off ≤ maxOf n0.off (rest.map (·.off)) :=
  le_maxOf _ _ _ (List.mem_map_of_mem (f := fun m : Note => m.off) hn)

theorem minOf_le_off (n0 : Note) (rest : List Note) (n : Note) (hn : n ∈ n0 :: rest) :
    minOf n0.off (rest.map (·.off)) ≤ n.off :=
  minOf_le _ _ _ (List.mem_map_of_mem (f := fun m : Note => m.off) hn)

theorem closing_cons (n0 : Note) (rest : List Note) (E : List Ev) :
    closing (n0 :: rest) E = E.getLast?.map (fun pl => max (pl.1 + 1) (maxOf n0.off (rest.map (·.off)) + 1)) := by
  unfold closing
  cases E.getLast? <;> rfl

theorem closing_cons_cons (n0 : Note) (rest : List Note) (p0 : Ev) (E : List Ev) :
    closing (n0 :: rest) (p0 :: E) = some (max ((E.getLast?.getD p0).1 + 1) (maxOf n0.off (rest.map (·.off)) + 1)) := by
  rw [closing_cons, List.getLast?_cons]
  rfl

theorem closing_gt (ns : List Note) (E : List Ev) (c : Rat) (hc : closing ns E = some c) (n : Note) (hn : n ∈ ns) :
    n.off < c := by
  cases ns with
  | nil => cases hn
  | cons n0 rest =>
    rw [closing_cons] at hc
    obtain ⟨pl, _, rfl⟩ := Option.map_eq_some_iff.mp hc
    exact lt_of_le_of_lt (off_le_maxOf n0 rest n hn) (lt_of_lt_of_le (lt_add_one _) (le_max_right _ _))

theorem spec_ge_off (ns : List Note) (cs : List Control) (thr : Int) (i : Nat) (n : Note) (hn : n ∈ ns) :
    n.off ≤ soundOffSpec ns cs thr i n := by
  unfold soundOffSpec
  split
  · apply Lists.le_foldl_min
    · cases hc : closing ns (pedalStream cs thr) with
      | none => exact le_refl _
      | some c => exact le_of_lt (closing_gt ns _ c hc n hn)
    · intro y hy
      rcases List.mem_append.mp hy with h | h
      · exact upTimes_ge _ _ y h
      · exact restrikes_ge _ _ _ y h
  · exact le_refl _

theorem soundOffs_of_no_pedal (ns : List Note) (cs : List Control) (thr : Int) (h : pedalEvents cs thr = []) :
    soundOffs ns cs thr = some (ns.map (·.off)) := by
  cases ns with
  | nil => rfl
  | cons n0 rest =>
    unfold soundOffs
    simp only [h]
    exact mapM'_eq_some _ _ _ (fun n _ => checkSoundOff_ok n n.off (le_refl _))

theorem soundOffs_eq (ns : List Note) (cs : List Control) (thr : Int) :
    soundOffs ns cs thr = some (ns.zipIdx.map (fun m => soundOffSpec ns cs thr m.2 m.1)) := by
  cases ns with
  | nil => rfl
  | cons n0 rest =>
    cases hped : pedalEvents cs thr with
    | nil =>
      rw [soundOffs_of_no_pedal _ cs thr hped, ← map_zipIdx_fst (fun n : Note => n.off) (n0 :: rest) 0]
      exact congrArg some (List.map_congr_left (fun m _ => (soundOffSpec_up (by rw [pedalStream, hped]; rfl)).symm))
    | cons p ps =>
      unfold soundOffs
      simp only [hped]
      have hstream : pedalStream cs thr = sortBy (fun e : Ev => e.1) (p :: ps) := by rw [pedalStream, hped]
      have hE := sorted_sortBy (fun e : Ev => e.1) (p :: ps)
      -- the sorted stream is not empty, so the table exists
      cases hs : sortBy (fun e : Ev => e.1) (p :: ps) with
      | nil => exact absurd (congrArg List.length hs) (by rw [(isSort _).length]; exact Nat.succ_ne_zero _)
      | cons q qs =>
        rw [hs] at hE hstream
        rw [pedalTable_cons]
        apply mapM'_eq_some
        intro m hm
        have hmem : m.1 ∈ n0 :: rest := List.mem_of_getElem? (List.mem_zipIdx_iff_getElem?.mp hm)
        have hoff := off_le_maxOf n0 rest m.1 hmem
        rw [pedalEnd_table _ q qs _ m.1.off hE
          (lt_of_le_of_lt (min_le_right _ _) (lt_of_lt_of_le (sub_one_lt _) (minOf_le_off n0 rest m.1 hmem)))
          (not_lt.mpr (hoff.trans ((lt_add_one _).le.trans (le_max_right _ _)))) (le_closingTime q qs _ hE)]
        simp only
        rw [restrikeClip_spec]
        have hspec : soundOffSpec (n0 :: rest) cs thr m.2 m.1 =
            minOf (if downBefore m.1.off (q :: qs) then
                minOf (max ((qs.getLast?.getD q).1 + 1) (maxOf n0.off (rest.map (·.off)) + 1)) (upTimes m.1.off (q :: qs))
              else m.1.off) (restrikes (n0 :: rest) m.2 m.1) := by
          simp only [soundOffSpec, hstream, closing_cons_cons]
          split
          · simp only [Option.getD_some, minOf, List.foldl_append]
          · exact (Lists.foldl_min_eq_init _ _ (restrikes_ge _ _ _)).symm
        rw [← hspec]
        exact checkSoundOff_ok _ _ (spec_ge_off _ _ _ _ _ hmem)

theorem soundOffAt_eq (ns : List Note) (cs : List Control) (thr : Int) (i : Nat) :
    soundOffAt ns cs thr i = ns[i]?.map (fun n => soundOffSpec ns cs thr i n) := by
  unfold soundOffAt
  rw [soundOffs_eq]
  simp only [List.getElem?_map, List.getElem?_zipIdx, Option.map_map]
  cases ns[i]? <;> simp

end C14P
