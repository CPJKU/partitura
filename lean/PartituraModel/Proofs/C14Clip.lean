/-
Re-strike clipping: the position arithmetic of the repaired loop (searchsorted among the same-pitch notes
sorted by onset, stepping over the note itself) computes the minimum with the onsets of the *other* notes of
the same pitch at or after the release — for every way of ordering simultaneous onsets.
-/
import PartituraModel.Proofs.C14Sort

namespace C14P
open Model Model.Pedal

abbrev NI := Note × Nat

/-- the onsets the note `i` can be cut at, among an arbitrary list of indexed notes -/
def cutsIn (S : List NI) (i : Nat) (off : Rat) : List Rat :=
  (S.filter (fun m => decide (m.2 ≠ i) && decide (off ≤ m.1.on))).map (fun m => m.1.on)

theorem cutsIn_cons_skip (m : NI) (S : List NI) (i : Nat) (off : Rat) (h : m.2 = i ∨ m.1.on < off) :
    cutsIn (m :: S) i off = cutsIn S i off := by
  rw [cutsIn, List.filter_cons, if_neg (by rcases h with h | h <;> simp [h])]
  rfl

theorem cutsIn_cons_take (m : NI) (S : List NI) (i : Nat) (off : Rat) (h1 : m.2 ≠ i) (h2 : off ≤ m.1.on) :
    cutsIn (m :: S) i off = m.1.on :: cutsIn S i off := by
  rw [cutsIn, List.filter_cons, if_pos (by simp [h1, h2])]
  rfl

theorem cuts_ge_head (m : NI) (S : List NI) (i : Nat) (off : Rat)
    (hs : ∀ a ∈ S, m.1.on ≤ a.1.on) : ∀ y ∈ cutsIn S i off, m.1.on ≤ y := by
  intro y hy
  obtain ⟨a, ha, rfl⟩ := List.mem_map.mp hy
  exact hs a (List.mem_filter.mp ha).1

theorem findPos_notin (S : List NI) (i : Nat) (h : ∀ m ∈ S, m.2 ≠ i) :
    findPos (fun m : NI => decide (m.2 = i)) S = S.length := by
  induction S with
  | nil => rfl
  | cons m S' ih =>
    rw [findPos, if_neg (by simpa using h m List.mem_cons_self), ih (fun a ha => h a (List.mem_cons_of_mem _ ha)),
      List.length_cons]

theorem clipIn_notin (S : List NI) (i : Nat) (n : Note) (x : Rat) (h : ∀ m ∈ S, m.2 ≠ i) :
    restrikeClipIn S i n x =
      cutAt (S.map (fun m => m.1.on)) (searchsortedLeft (S.map (fun m => m.1.on)) n.off) x := by
  unfold restrikeClipIn
  simp only [findPos_notin S i h]
  have hn : ∀ k, S.length ≤ k → cutAt (S.map (fun m => m.1.on)) k x = x := fun k hk => by
    rw [cutAt, List.getElem?_eq_none (by rw [List.length_map]; exact hk)]
  split
  · rename_i hj
    rw [hj, hn _ (Nat.le_succ _), hn _ (le_refl _)]
  · rfl

theorem clipIn_cons (m : NI) (S : List NI) (i : Nat) (n : Note) (x : Rat) :
    restrikeClipIn (m :: S) i n x =
      if m.1.on < n.off then
        if m.2 = i then cutAt (S.map (fun m => m.1.on)) (searchsortedLeft (S.map (fun m => m.1.on)) n.off) x
        else restrikeClipIn S i n x
      else if m.2 = i then cutAt (S.map (fun m => m.1.on)) 0 x else min x m.1.on := by
  simp only [restrikeClipIn, List.map_cons, findPos, searchsortedLeft_cons, decide_eq_true_eq]
  by_cases h1 : m.1.on < n.off <;> by_cases h2 : m.2 = i
  · simp only [if_pos h1, if_pos h2, Nat.add_one_ne_zero, if_false]; rfl
  · simp only [if_pos h1, if_neg h2, Nat.add_right_cancel_iff]
    split <;> rfl
  · simp only [if_neg h1, if_pos h2, if_true]; rfl
  · simp only [if_neg h1, if_neg h2, (Nat.add_one_ne_zero _).symm, if_false]; rfl

theorem clipIn_spec (S : List NI) (i : Nat) (n : Note) (x : Rat) (hS : SortedBy (fun m : NI => m.1.on) S)
    (hnd : (S.map (·.2)).Nodup) :
    restrikeClipIn S i n x = (cutsIn S i n.off).foldl min x := by
  induction S with
  | nil => rfl
  | cons m S' ih =>
    have hs := List.pairwise_cons.mp hS
    have hnd' := List.nodup_cons.mp (List.map_cons ▸ hnd)
    have hnotin : m.2 = i → ∀ a ∈ S', a.2 ≠ i := fun hmi a ha hai =>
      hnd'.1 (List.mem_map.mpr ⟨a, ha, hai.trans hmi.symm⟩)
    -- once the note itself is passed it is no longer in the list: `clipIn_notin` reads the remaining search as the clip again
    have hself : m.2 = i → cutAt (S'.map (fun m => m.1.on)) (searchsortedLeft (S'.map (fun m => m.1.on)) n.off) x
        = (cutsIn S' i n.off).foldl min x := fun hm =>
      (clipIn_notin S' i n x (hnotin hm)).symm.trans (ih hs.2 hnd'.2)
    rw [clipIn_cons]
    by_cases hlt : m.1.on < n.off
    · rw [if_pos hlt, cutsIn_cons_skip _ _ _ _ (Or.inr hlt)]
      by_cases hm : m.2 = i
      · rw [if_pos hm]
        exact hself hm
      · rw [if_neg hm]
        exact ih hs.2 hnd'.2
    · have hle : n.off ≤ m.1.on := not_lt.mp hlt
      rw [if_neg hlt]
      by_cases hm : m.2 = i
      · -- the note itself is the first candidate position: step over it; every later onset is a candidate
        have h0 : searchsortedLeft (S'.map (fun m => m.1.on)) n.off = 0 := by
          cases S' with
          | nil => rfl
          | cons a _ =>
            rw [List.map_cons, searchsortedLeft_cons, if_neg (not_lt.mpr (le_trans hle (hs.1 a List.mem_cons_self)))]
        rw [if_pos hm, cutsIn_cons_skip _ _ _ _ (Or.inl hm), ← h0]
        exact hself hm
      · rw [if_neg hm, cutsIn_cons_take _ _ _ _ hm hle, List.foldl_cons]
        exact (Lists.foldl_min_eq_init _ _ (fun y hy =>
          le_trans (min_le_right _ _) (cuts_ge_head m S' i n.off hs.1 y hy))).symm

theorem nodup_zipIdx_snd {α : Type} (l : List α) (k : Nat) : ((l.zipIdx k).map (·.2)).Nodup :=
  List.zipIdx_map_snd k l ▸ List.nodup_range'

theorem cuts_samePitch (ns : List Note) (i : Nat) (n : Note) :
    cutsIn (samePitch ns n.pitch) i n.off = restrikes ns i n := by
  unfold cutsIn samePitch restrikes
  rw [List.filter_filter]
  congr 1
  apply List.filter_congr
  intro m _
  exact Bool.and_right_comm _ _ _

/-- every onset-sorted arrangement of the same-pitch notes (an unstable `argsort` may order simultaneous onsets
    in any way) cuts at the first onset of another note of the same pitch at or after the release -/
theorem clipIn_perm (ns : List Note) (i : Nat) (n : Note) (x : Rat) (S : List NI)
    (hp : S.Perm (samePitch ns n.pitch)) (hS : SortedBy (fun m : NI => m.1.on) S) :
    restrikeClipIn S i n x = minOf x (restrikes ns i n) := by
  rw [clipIn_spec S i n x hS, ← cuts_samePitch]
  · exact Lists.foldl_min_congr x fun _ => ((hp.filter _).map _).mem_iff
  · exact (hp.map (·.2)).nodup_iff.mpr ((nodup_zipIdx_snd ns 0).sublist (List.filter_sublist.map _))

theorem restrikeClip_spec (ns : List Note) (i : Nat) (n : Note) (x : Rat) :
    restrikeClip ns i n x = minOf x (restrikes ns i n) :=
  clipIn_perm ns i n x _ ((isSort _).perm _) (sorted_sortBy _ _)

end C14P
