/-
C17, ps13: p2pn sounds the chromatic pitch; elementwise facts about stage 1; the sort / sort-back wrapper around
stage 1 (`wrap`), through which everything about `ps13` and `C17Float.ps13F` goes; the double-accidental bound (finite
table, octave-shift invariance).
-/
import PartituraModel.Model.Ps13
import PartituraModel.Model.C17Float
import PartituraModel.Proofs.Orders
import Mathlib.Algebra.Order.Field.Rat
import Mathlib.Tactic.Ring

namespace C17P
open Model Model.Ps13 Gen

/-- whole-table fact (7 morphs): the step of morph r has a MIDI base class b with
    b − UND_CHROMA[r] + (12 if r > 1) = 9, i.e. the ASA octave convention of p2pn and the
    MIDI octave convention of `pitch_spelling_to_midi_pitch` differ by exactly 21 semitones -/
theorem morph_table : ∀ r : Fin 7, ∃ b,
    lookup (lower (stepName r.val)) MIDI_BASE_CLASS = some b ∧
    b - undChroma r.val + (if (r.val : Int) > 1 then 12 else 0) = 9 := by
  decide +kernel

theorem p2pn_sounds (c mp : Int) :
    spellingToMidi (p2pn c mp).1 (some (p2pn c mp).2.1) (p2pn c mp).2.2 = some (c + 21) := by
  obtain ⟨b, hb, hsum⟩ := morph_table ⟨(mp % 7).toNat, by omega⟩
  rw [show (((mp % 7).toNat : Nat) : Int) = mp % 7 by omega] at hb hsum
  simp only [p2pn, spellingToMidi, hb, Option.map_some, Option.getD_some]
  refine congrArg some ?_
  split_ifs at hsum ⊢ <;> omega

theorem vecLoop_length (ch : List Nat) (a b : Nat) :
    ∀ (fuel i : Nat) (v : CVec), (vecLoop ch a b fuel i v).length = fuel := by
  intro fuel
  induction fuel with
  | zero => intro i v; rfl
  | succ n ih => intro i v; simp [vecLoop, ih]

theorem chromaVectors_length (ch : List Nat) (a b : Nat) :
    (chromaVectors ch a b).length = ch.length - 1 + 1 := by
  simp [chromaVectors, vecLoop_length]

theorem morphArray_length (c0 : Nat) (ch : List Nat) (vecs : List CVec) :
    (morphArray c0 ch vecs).length = min ch.length vecs.length := by
  simp [morphArray]

theorem stage1_length (a b : Nat) (sorted : List Row) :
    (stage1 a b sorted).length = sorted.length := by
  simp only [stage1, List.length_zipWith, morphArray_length, chromaVectors_length, List.length_map]
  omega

/-- every spelling produced by stage 1 is `p2pn` of the row's chromatic pitch and SOME morphetic
    pitch: enough for "sounds its pitch", whatever the morph heuristic decided -/
theorem stage1_getElem (a b : Nat) (sorted : List Row) (k : Nat) (h : k < sorted.length) :
    ∃ mp, (stage1 a b sorted)[k]'(by rw [stage1_length]; exact h) = p2pn (sorted[k].2 - 21) mp := by
  simp only [stage1, List.getElem_zipWith, List.getElem_map]
  exact ⟨_, rfl⟩

theorem idxLe_order {α : Type} : Lists.TotalPreorder (idxLe (α := α)) := .of_key Prod.fst

theorem sortBack_fst {α : Type} (idxs : List Nat) (vals : List α) (n : Nat)
    (hlen : vals.length = idxs.length) (hperm : idxs.Perm (List.range n)) :
    (((idxs.zip vals).mergeSort idxLe).map (·.1)) = List.range n :=
  Lists.sortByIdx_range (fun l => l.mergeSort idxLe) (fun l => List.mergeSort_perm l idxLe)
    (fun l => (List.pairwise_mergeSort (le := idxLe (α := α)) idxLe_order.trans idxLe_order.total' l).imp
      fun h => by simpa [idxLe] using h) _ n (by rw [List.map_fst_zip (by omega)]; exact hperm)

theorem rowLe_order : Lists.TotalPreorder rowLe :=
  .lex (fun a : Row × Nat => a.1.1) (.of_key fun a : Row × Nat => a.1.2)

theorem sortRows_perm (notes : List Row) : (sortRows notes).Perm notes.zipIdx :=
  List.mergeSort_perm _ _

/-- the order on rows that `rowLe` implements -/
def rowKeyLe (r r' : Row) : Prop := r.1 < r'.1 ∨ (r.1 = r'.1 ∧ r.2 ≤ r'.2)

theorem rowKeyLe_antisymm (a b : Row) : rowKeyLe a b → rowKeyLe b a → a = b := by
  intro h1 h2
  rcases h1 with h1 | ⟨h1, h1'⟩ <;> rcases h2 with h2 | ⟨h2, h2'⟩
  · exact absurd h2 (lt_asymm h1)
  · rw [h2] at h1; exact absurd h1 (lt_irrefl _)
  · rw [h1] at h2; exact absurd h2 (lt_irrefl _)
  · exact Prod.ext h1 (Int.le_antisymm h1' h2')

theorem sortedRows_pairwise (notes : List Row) :
    ((sortRows notes).map (·.1)).Pairwise rowKeyLe := by
  rw [List.pairwise_map]
  have := List.pairwise_mergeSort (le := rowLe) rowLe_order.trans rowLe_order.total' notes.zipIdx
  exact this.imp (fun h => by
    simpa [rowLe, rowKeyLe, Bool.or_eq_true, Bool.and_eq_true, decide_eq_true_eq] using h)

theorem sortedRows_perm (notes : List Row) : ((sortRows notes).map (·.1)).Perm notes := by
  have := (sortRows_perm notes).map (·.1)
  simpa using this

theorem sortedRows_eq_of_perm (notes notes' : List Row) (h : notes.Perm notes') :
    (sortRows notes).map (·.1) = (sortRows notes').map (·.1) := by
  apply List.Perm.eq_of_pairwise (le := rowKeyLe)
  · intro a b _ _; exact rowKeyLe_antisymm a b
  · exact sortedRows_pairwise notes
  · exact sortedRows_pairwise notes'
  · exact ((sortedRows_perm notes).trans h).trans (sortedRows_perm notes').symm

theorem zip_eq_map_of_fst_range {β : Type} (notes : List Row) (l : List (Nat × β))
    (hfst : l.map (·.1) = List.range notes.length) :
    notes.zip (l.map (·.2)) = l.map (fun p => ((notes[p.1]?).getD (0, 0), p.2)) := by
  have hlen : l.length = notes.length := by
    have := congrArg List.length hfst; simpa using this
  apply List.ext_getElem
  · simp [hlen]
  · intro i h1 h2
    have hi : i < l.length := by simpa using h2
    have hi' : i < notes.length := by omega
    have : (l.map (·.1))[i]'(by simpa using hi) = i := by simp only [hfst, List.getElem_range]
    rw [List.getElem_map] at this
    simp [this, hi']

/-- what `ps13s1` + `estimate_spelling` do around stage 1: sort the rows, spell the sorted rows, sort the spellings back.
    `ps13 a b` is `wrap (stage1 a b)` and `C17Float.ps13F a b` is `wrap (stage1F a b)` by unfolding: a hypothesis about
    either is used as one about `wrap`. -/
def wrap (stage : List Row → List (String × Int × Int)) (notes : List Row) : Option (List (String × Int × Int)) :=
  if notes = [] then none
  else some (((((sortRows notes).map (·.2)).zip (stage ((sortRows notes).map (·.1)))).mergeSort idxLe).map (·.2))

/-- the wrapper answers one spelling per row, and pairs every row with the spelling its sorted copy received -/
theorem wrap_spec (stage : List Row → List (String × Int × Int)) (hlen : ∀ l, (stage l).length = l.length)
    (notes : List Row) (sp : List (String × Int × Int)) (h : wrap stage notes = some sp) :
    sp.length = notes.length ∧
    (notes.zip sp).Perm (((sortRows notes).map (·.1)).zip (stage ((sortRows notes).map (·.1)))) := by
  unfold wrap at h
  split at h
  · cases h
  · simp only [Option.some.injEq] at h
    subst h
    have hperm : ((sortRows notes).map (·.2)).Perm (List.range notes.length) := by
      have := (sortRows_perm notes).map (·.2)
      simpa [List.range_eq_range'] using this
    have hfst := sortBack_fst _ (stage ((sortRows notes).map (·.1))) _ (by simp [hlen]) hperm
    refine ⟨by simpa using congrArg List.length hfst, ?_⟩
    -- position `i` of the answer holds the spelling that was paired with row number `i`
    rw [zip_eq_map_of_fst_range notes _ hfst]
    refine ((List.mergeSort_perm _ idxLe).map _).trans ?_
    have hmap : ((sortRows notes).map (·.2)).map (fun i => (notes[i]?).getD (0, 0)) = (sortRows notes).map (·.1) := by
      rw [List.map_map]
      apply List.map_congr_left
      intro x hx
      have hmem : x ∈ notes.zipIdx := (sortRows_perm notes).subset hx
      rw [List.mem_zipIdx_iff_getElem?] at hmem
      simp [hmem]
    rw [show (fun p : Nat × (String × Int × Int) => ((notes[p.1]?).getD (0, 0), p.2)) =
      Prod.map (fun i => (notes[i]?).getD (0, 0)) id from rfl, ← List.zip_map_left, hmap]

theorem wrap_congr (stage stage' : List Row → List (String × Int × Int)) (notes : List Row)
    (h : stage ((sortRows notes).map (·.1)) = stage' ((sortRows notes).map (·.1))) : wrap stage notes = wrap stage' notes := by
  unfold wrap; rw [h]

theorem ps13_zip_perm (a b : Nat) (notes : List Row) (sp : List (String × Int × Int))
    (h : ps13 a b notes = some sp) :
    (notes.zip sp).Perm (((sortRows notes).map (·.1)).zip (stage1 a b ((sortRows notes).map (·.1)))) :=
  (wrap_spec _ (stage1_length a b) notes sp h).2

theorem ps13_mem_stage1 (a b : Nat) (notes : List Row) (sp : List (String × Int × Int))
    (h : ps13 a b notes = some sp) : ∀ s ∈ sp, s ∈ stage1 a b ((sortRows notes).map (·.1)) := by
  obtain ⟨hlen, hp⟩ := wrap_spec _ (stage1_length a b) notes sp h
  intro s hs
  obtain ⟨k, hk, rfl⟩ := List.getElem_of_mem hs
  have hmem : (notes[k]'(by omega), sp[k]) ∈ notes.zip sp := List.mem_iff_getElem.mpr ⟨k, by simp; omega, by simp⟩
  exact (List.of_mem_zip (hp.subset hmem)).2

theorem ps13_spec (a b : Nat) (notes : List Row) (sp : List (String × Int × Int))
    (h : ps13 a b notes = some sp) :
    sp.length = notes.length ∧
    ∀ i (hi : i < notes.length), ∃ mp, sp[i]? = some (p2pn (notes[i].2 - 21) mp) := by
  obtain ⟨hlen, hp⟩ := wrap_spec _ (stage1_length a b) notes sp h
  refine ⟨hlen, fun i hi => ?_⟩
  -- the pair (row, spelling) is a pair (sorted row, its stage-1 entry)
  have hmem : (notes[i], sp[i]'(by omega)) ∈ notes.zip sp := List.mem_iff_getElem.mpr ⟨i, by simp; omega, by simp⟩
  obtain ⟨k, hk, hke⟩ := List.mem_iff_getElem.mp (hp.subset hmem)
  simp only [List.length_zip, List.length_map, stage1_length] at hk
  obtain ⟨mp, hmp⟩ := stage1_getElem a b ((sortRows notes).map (·.1)) k (by simp; omega)
  rw [List.getElem_zip, Prod.mk.injEq] at hke
  refine ⟨mp, ?_⟩
  rw [List.getElem?_eq_getElem (by omega), ← hke.2, hmp, hke.1]

/-- alteration given to a note of chromatic pitch `cp` whose morph is `m` -/
def alterOf (cp m : Int) : Int := (p2pn cp (morpheticPitch cp m)).2.1

/-- WHOLE finite domain (12 x 12 x 12): first-note chroma c0, note chroma cj, tonic chroma ct.
    The alteration of a note whose morph is the one the tonic `ct` assigns to it is at most a
    double accidental. -/
theorem acc_table : ∀ c0 cj ct : Fin 12,
    -2 ≤ alterOf (cj.val : Int) (morphForTonic (c0.val : Int) (cj.val : Int) (ct.val : Int)) ∧
    alterOf (cj.val : Int) (morphForTonic (c0.val : Int) (cj.val : Int) (ct.val : Int)) ≤ 2 := by
  -- The morph is evaluated to a numeral first (`force`): the kernel then meets only the 84 distinct terms
  -- `alterOf cj m`, with their rational arithmetic, and reduces each of them once.
  have sweep : ∀ c0 cj ct : Fin 12,
      C17Float.force (morphForTonic (c0.val : Int) (cj.val : Int) (ct.val : Int)).toNat
        (fun m => decide ((alterOf cj.val m).natAbs ≤ 2)) = true := by
    decide +kernel
  intro c0 cj ct
  have h := sweep c0 cj ct
  have hm : (((morphForTonic c0 cj ct).toNat : Nat) : Int) = morphForTonic c0 cj ct := by
    unfold morphForTonic; omega
  rw [C17Float.force_eq, decide_eq_true_eq, hm] at h
  omega

theorem octDiff_shift (cp m d : Int) :
    octDiff cp m (cp / 12 + d) = octDiff (cp % 12) m ((cp % 12) / 12 + d) := by
  have h0 : (cp % 12) / 12 = 0 := by omega
  have h1 : (cp % 12) % 12 = cp % 12 := by omega
  unfold octDiff
  rw [h0, h1]
  congr 1
  push_cast
  ring

theorem morpheticPitch_shift (cp m : Int) :
    morpheticPitch cp m = morpheticPitch (cp % 12) m + 7 * (cp / 12) := by
  have h0 : (cp % 12) / 12 = 0 := by omega
  have e0 := octDiff_shift cp m 0
  have e1 := octDiff_shift cp m 1
  have e2 : octDiff cp m (cp / 12 - 1) = octDiff (cp % 12) m (cp % 12 / 12 - 1) := by
    have := octDiff_shift cp m (-1)
    simpa only [Int.sub_eq_add_neg] using this
  simp only [Int.add_zero] at e0
  unfold morpheticPitch
  rw [e0, e1, e2, h0]
  unfold morpheticPitchOf
  generalize argBestNE _ _ _ = k
  simp only []
  split
  · omega
  · split <;> omega

theorem alterOf_shift (cp m : Int) : alterOf cp m = alterOf (cp % 12) m := by
  unfold alterOf
  rw [morpheticPitch_shift cp m]
  generalize morpheticPitch (cp % 12) m = x
  simp only [p2pn, undChroma]
  have : (x + 7 * (cp / 12)) % 7 = x % 7 := by omega
  rw [this]
  omega

end C17P
