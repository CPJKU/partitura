/-
C02 — the interpolated value is the integral of the rate
`fac / divs` over the key-point stretches (`elapsed`).
-/
import PartituraModel.Proofs.C02Part
import Mathlib.Tactic.Linarith

namespace C02Proofs
open Model.TimeMap

/-- length of `[a, b] ∩ [u, v]` -/
def overlap (a b u v : Rat) : Rat := max 0 (min b v - max a u)

/-- the statement's sum: over every stretch between consecutive key points, the part of `[a, b]`
inside the stretch, divided by the quarter duration and multiplied by the beat factor in force -/
def elapsed : List KP → Rat → Rat → Rat
  | k :: k' :: rest, a, b =>
    overlap a b (k.t : Rat) (k'.t : Rat) * (k.fac / k.divs) + elapsed (k' :: rest) a b
  | _, _, _ => 0

theorem overlap_of_le_left {a b u v : Rat} (hbu : b ≤ u) : overlap a b u v = 0 := by
  unfold overlap
  exact max_eq_left (sub_nonpos.mpr ((min_le_left b v).trans (hbu.trans (le_max_right a u))))

theorem overlap_of_ge_right {a b u v : Rat} (hva : v ≤ a) : overlap a b u v = 0 := by
  unfold overlap
  exact max_eq_left (sub_nonpos.mpr ((min_le_right b v).trans (hva.trans (le_max_left a u))))

theorem overlap_within {a b u v : Rat} (hua : u ≤ a) (hbv : b ≤ v) : overlap a b u v = max 0 (b - a) := by
  unfold overlap
  rw [min_eq_left hbv, max_eq_left hua]

theorem overlap_inside {a x u v : Rat} (ha : a ≤ u) (hux : u ≤ x) (hxv : x ≤ v) : overlap a x u v = x - u := by
  unfold overlap
  rw [min_eq_left hxv, max_eq_right ha]
  exact max_eq_right (by linarith)

theorem overlap_full {a x u v : Rat} (ha : a ≤ u) (huv : u ≤ v) (hvx : v ≤ x) : overlap a x u v = v - u := by
  unfold overlap
  rw [min_eq_right hvx, max_eq_right ha]
  exact max_eq_right (by linarith)

theorem overlap_lower {a a' x u v : Rat} (ha : a ≤ u) (ha' : a' ≤ u) : overlap a x u v = overlap a' x u v := by
  unfold overlap
  rw [max_eq_right ha, max_eq_right ha']

theorem overlap_add {a c b u v : Rat} (hac : a ≤ c) (hcb : c ≤ b) :
    overlap a c u v + overlap c b u v = overlap a b u v := by
  rcases le_total c u with hcu | huc
  · rw [overlap_of_le_left hcu, zero_add, overlap_lower hcu (hac.trans hcu)]
  · rcases le_total v c with hvc | hcv
    · rw [overlap_of_ge_right hvc, add_zero]
      unfold overlap
      rw [min_eq_right hvc, min_eq_right (hvc.trans hcb)]
    · -- `c` lies inside the stretch: both parts and the whole are non-empty and meet at `c`
      have h1 : max a u ≤ c := max_le hac huc
      have h2 : c ≤ min b v := le_min hcb hcv
      unfold overlap
      rw [min_eq_left hcv, max_eq_left huc, max_eq_right (sub_nonneg.mpr h1), max_eq_right (sub_nonneg.mpr h2),
        max_eq_right (sub_nonneg.mpr (h1.trans h2)), sub_add_sub_cancel']

theorem overlap_comm (a b u v : Rat) : overlap a b u v = overlap u v a b := by
  unfold overlap
  rw [min_comm b v, max_comm a u]

/-- additive in the stretch as well: the two intervals play the same part -/
theorem overlap_split {a b u w v : Rat} (h1 : u ≤ w) (h2 : w ≤ v) :
    overlap a b u v = overlap a b u w + overlap a b w v := by
  rw [overlap_comm a b u v, overlap_comm a b u w, overlap_comm a b w v, overlap_add h1 h2]

/-- no key point lies before `x` -/
def AllFrom (x : Rat) (kps : List KP) : Prop := ∀ k ∈ kps, x ≤ (k.t : Rat)

theorem kps_cons (k : KP) (rest : List KP) (h : KPsOK (k :: rest)) :
    (∀ t ∈ rest.map (·.t), k.t < t) ∧ (rest.map (·.t)).Pairwise (· < ·) := by
  have hp : ((k :: rest).map (·.t)).Pairwise (· < ·) := h.1
  rw [List.map_cons, List.pairwise_cons] at hp
  exact hp

theorem kps_tail_from (k : KP) (rest : List KP) (h : KPsOK (k :: rest)) : AllFrom (k.t : Rat) rest := by
  intro q hq
  have := (kps_cons k rest h).1 q.t (List.mem_map.mpr ⟨q, hq, rfl⟩)
  have : ((k.t : Int) : Rat) < ((q.t : Int) : Rat) := by exact_mod_cast this
  exact this.le

theorem allFrom_of_le_head {x : Rat} (k : KP) (rest : List KP) (h : KPsOK (k :: rest)) (hx : x ≤ (k.t : Rat)) :
    AllFrom x (k :: rest) := by
  intro q hq
  rcases List.mem_cons.mp hq with rfl | hq
  · exact hx
  · exact hx.trans (kps_tail_from k rest h q hq)

theorem kps_tail_ok (k : KP) (rest : List KP) (h : KPsOK (k :: rest)) : KPsOK rest :=
  ⟨(kps_cons k rest h).2, fun q hq => h.2 q (List.mem_cons_of_mem _ hq)⟩

theorem kps_sorted_le (k k' : KP) (rest : List KP) (h : KPsOK (k :: k' :: rest)) : (k.t : Rat) < (k'.t : Rat) := by
  have := (kps_cons k (k' :: rest) h).1 k'.t (by simp)
  exact_mod_cast this

theorem elapsed_zero : ∀ (kps : List KP) (a x : Rat), KPsOK kps → AllFrom x kps → elapsed kps a x = 0
  | [], _, _, _, _ => rfl
  | [_], _, _, _, _ => rfl
  | k :: k' :: rest, a, x, hok, hfrom => by
    simp only [elapsed]
    have h1 : x ≤ (k.t : Rat) := hfrom k List.mem_cons_self
    rw [overlap_of_le_left h1,
      elapsed_zero (k' :: rest) a x (kps_tail_ok k _ hok) (fun q hq => hfrom q (List.mem_cons_of_mem _ hq))]
    ring

theorem elapsed_lower : ∀ (kps : List KP) (a a' x : Rat), KPsOK kps → AllFrom a kps → AllFrom a' kps →
    elapsed kps a x = elapsed kps a' x
  | [], _, _, _, _, _, _ => rfl
  | [_], _, _, _, _, _, _ => rfl
  | k :: k' :: rest, a, a', x, hok, h1, h2 => by
    simp only [elapsed]
    rw [overlap_lower (h1 k List.mem_cons_self) (h2 k List.mem_cons_self),
      elapsed_lower (k' :: rest) a a' x (kps_tail_ok k _ hok)
        (fun q hq => h1 q (List.mem_cons_of_mem _ hq)) (fun q hq => h2 q (List.mem_cons_of_mem _ hq))]

theorem elapsed_add : ∀ (kps : List KP) (a c b : Rat), KPsOK kps → a ≤ c → c ≤ b →
    elapsed kps a c + elapsed kps c b = elapsed kps a b
  | [], _, _, _, _, _, _ => add_zero 0
  | [_], _, _, _, _, _, _ => add_zero 0
  | k :: k' :: rest, a, c, b, hok, hac, hcb => by
    simp only [elapsed]
    rw [← elapsed_add (k' :: rest) a c b (kps_tail_ok k _ hok) hac hcb, ← overlap_add hac hcb]
    ring

theorem elapsed_stretch : ∀ (pre : List KP) (k k' : KP) (post : List KP) (a b : Rat),
    KPsOK (pre ++ k :: k' :: post) → (k.t : Rat) ≤ a → a ≤ b → b ≤ (k'.t : Rat) →
    elapsed (pre ++ k :: k' :: post) a b = (b - a) * (k.fac / k.divs)
  | [], k, k', post, a, b, hok, ha, hab, hb => by
    simp only [List.nil_append, elapsed]
    rw [overlap_within ha hb, max_eq_right (sub_nonneg.mpr hab),
      elapsed_zero (k' :: post) a b (kps_tail_ok k _ hok) (allFrom_of_le_head k' post (kps_tail_ok k _ hok) hb),
      add_zero]
  | q :: pre, k, k', post, a, b, hok, ha, hab, hb => by
    have ih := elapsed_stretch pre k k' post a b (kps_tail_ok q _ hok) ha hab hb
    cases hpre : pre ++ k :: k' :: post with
    | nil => simp at hpre
    | cons r rest =>
      rw [hpre] at ih
      rw [List.cons_append, hpre] at hok ⊢
      -- the stretch from `q` to the next key point `r` ends at or before `k`, hence before `a`
      have hr : (r.t : Rat) ≤ (k.t : Rat) := by
        have hk : k ∈ r :: rest := hpre ▸ by simp
        rcases List.mem_cons.mp hk with rfl | hk
        · exact le_refl _
        · exact kps_tail_from r rest (kps_tail_ok q _ hok) k hk
      simp only [elapsed]
      rw [overlap_of_ge_right (hr.trans ha), ih, zero_mul, zero_add]

theorem interpAux_elapsed : ∀ (rest : List KP) (k : KP) (y x v : Rat), KPsOK (k :: rest) → (k.t : Rat) ≤ x →
    interpAux (k.t : Rat) y (tailKnots k y rest) x = some v → v = y + elapsed (k :: rest) (k.t : Rat) x
  | [], _, _, _, _, _, _, h => by simp [tailKnots, interpAux] at h
  | k' :: rest, k, y, x, v, hok, hx, h => by
    have hlt := kps_sorted_le k k' rest hok
    have hd : 0 < k.divs := (hok.2 k List.mem_cons_self).1
    have hne : ((k'.t : Int) : Rat) - (k.t : Rat) ≠ 0 := (sub_pos.mpr hlt).ne'
    have hdne : k.divs ≠ 0 := ne_of_gt hd
    simp only [tailKnots] at h
    unfold interpAux at h
    simp only [elapsed]
    by_cases hle : x ≤ (k'.t : Rat)
    · rw [if_pos hle] at h
      injection h with h
      rw [overlap_inside (le_refl _) hx hle,
        elapsed_zero (k' :: rest) _ x (kps_tail_ok k _ hok) (allFrom_of_le_head k' rest (kps_tail_ok k _ hok) hle)]
      rw [← h]
      field_simp
      ring
    · rw [if_neg hle] at h
      have hgt : (k'.t : Rat) < x := lt_of_not_ge hle
      have ih := interpAux_elapsed rest k' _ x v (kps_tail_ok k _ hok) hgt.le h
      rw [overlap_full (le_refl _) hlt.le hgt.le]
      have hl : elapsed (k' :: rest) (k.t : Rat) x = elapsed (k' :: rest) (k'.t : Rat) x :=
        elapsed_lower (k' :: rest) _ _ x (kps_tail_ok k _ hok)
          (allFrom_of_le_head k' rest (kps_tail_ok k _ hok) hlt.le)
          (allFrom_of_le_head k' rest (kps_tail_ok k _ hok) le_rfl)
      rw [ih, hl]
      ring

theorem interp_elapsed (kps : List KP) (y0 x v : Rat) (hok : KPsOK kps) (h2 : 2 ≤ kps.length)
    (h : interp (knots kps y0) x = some v) :
    ∃ k rest, kps = k :: rest ∧ (k.t : Rat) ≤ x ∧ v = y0 + elapsed kps (k.t : Rat) x := by
  match kps, h2 with
  | k :: k' :: rest, _ =>
    rw [knots_eq] at h
    obtain ⟨hx, h⟩ := (interp_eq_some (List.cons_ne_nil _ _)).mp h
    exact ⟨k, k' :: rest, rfl, hx, interpAux_elapsed (k' :: rest) k y0 x v hok hx h⟩

theorem keypoints_allFrom (p : Part) (m : Mode) (t0 : Int) (hk : (keyTimes p m).head? = some t0) :
    AllFrom (t0 : Rat) (keypoints p m) := by
  intro k hkm
  have : k.t ∈ keyTimes p m := by rw [← keypoints_times]; exact List.mem_map.mpr ⟨k, hkm, rfl⟩
  exact_mod_cast head_le_of_pairwise _ t0 (keyTimes_pairwise p m) hk _ this

end C02Proofs
