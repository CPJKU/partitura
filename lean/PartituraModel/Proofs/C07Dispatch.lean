/-
C07 — `importmatch.parse_matchline`: a STRUCTURAL reason why a written line of kind k is rejected by every
parser that `FROM_MATCHLINE_METHODS` tries before k's own.

The written line is the rendering of a symbolic text (literal characters known, field texts unknown; the
components of a composite line are numbered so that `NoteName` of the score note and of the performed note
are different fields).  An earlier parser k' rejects it when

* one of its component patterns `lit H :: q'` matches at NO offset of the line: `neOK` of
  Proofs/C07Early.lean over the whole symbolic text (clash of known characters, missing `(` inside field
  texts, comma count where `note(` stands inside `snote(`), or
* one of its identifier literals (`-deletion.`, `insertion-`, …) occurs nowhere: `identGo` cuts the symbolic
  text at the literal characters that are not characters of the identifier; every piece must be a run of
  known characters that does not contain the identifier, or one single field text.

The conditions on the field texts: no `(`; no `,` / `)` in the fields the comma count walks over; no field
text contains one of the identifiers used.
-/
import PartituraModel.Model.MatchLine
import PartituraModel.Proofs.C07Early

namespace Model.Template
open Model Model.MatchCodec Model.MatchLine

/-- the structural check of a whole symbolic line against the pattern of template `b` -/
def rejectTpl (b : Template) (syms : List Sym) : Option (List String) :=
  if b.unmodelled.isSome then some [] else
  match b.pat with
  | .lit H :: q' => if H.isEmpty then none else neOK H q' closer marker syms
  | _ => none

theorem rejectTpl_eq (b : Template) (syms : List Sym) :
    rejectTpl b syms = if b.unmodelled.isSome then some [] else patNames b syms := rfl

theorem rejectTpl_sound (b : Template) (syms : List Sym) (names : List String) (v : String → List Char)
    (h : rejectTpl b syms = some names) (hm : ∀ n ∈ symFields syms, marker ∉ v n)
    (hclean : ∀ n ∈ names, CleanText closer (v n)) : ∃ e, parseT b (renderS v syms) = .error e := by
  unfold parseT
  by_cases hu : b.unmodelled.isSome = true
  · simp only [hu, if_true]; exact ⟨_, rfl⟩
  · have h' : patNames b syms = some names := by rwa [rejectTpl_eq, if_neg hu] at h
    obtain ⟨H, q', hpat, hH, -⟩ := patNames_pat b syms names h'
    have hs : search b.pat (renderS v syms) = none := by
      apply search_none_of
      intro k hk
      by_cases hlt : k < (renderS v syms).length
      · simpa using patNames_sound b syms names v [] h' hm hclean k hlt
      · -- at the end of the line: the first literal is not empty
        obtain rfl : k = (renderS v syms).length := by omega
        rw [hpat, List.drop_length]
        cases H with
        | nil => exact absurd rfl hH
        | cons p P => simp [matchSegs, litMatch]
    simp only [hu, hs]
    exact ⟨_, rfl⟩

theorem isPrefixOf_sep (c : Char) : ∀ (i a b : List Char), c ∉ i → i.isPrefixOf (a ++ c :: b) = i.isPrefixOf a := by
  intro i
  induction i with
  | nil => intro a b _; simp
  | cons x i ih =>
    intro a b hc
    have hx : x ≠ c := fun e => hc (by simp [e])
    have hci : c ∉ i := fun e => hc (by simp [e])
    cases a with
    | nil => simp [List.isPrefixOf, hx]
    | cons y a =>
      simp only [List.cons_append, List.isPrefixOf]
      rw [ih a b hci]

theorem findLit_sep (i : List Char) (hi : i ≠ []) (c : Char) (hc : c ∉ i) : ∀ (a b : List Char),
    findLit i (a ++ c :: b) = (findLit i a || findLit i b) := by
  intro a
  induction a with
  | nil =>
    intro b
    cases i with
    | nil => exact absurd rfl hi
    | cons x i =>
      have hx : x ≠ c := fun e => hc (by simp [e])
      simp [findLit, List.isPrefixOf, hx]
  | cons y a ih =>
    intro b
    have h0 := isPrefixOf_sep c i (y :: a) b hc
    simp only [List.cons_append] at h0
    simp only [List.cons_append, findLit, h0, ih b, Bool.or_assoc]

/-- cut the symbolic text at the literal characters outside the identifier `i`; `run` = the known characters
    of the current piece, `af` = the current piece is a field text -/
def identGo (i : List Char) : List Sym → List Char → Bool → Bool
  | [], run, _ => !findLit i run
  | .ch c :: r, run, af =>
    if i.contains c then (if af then false else identGo i r (run ++ [c]) false)
    else (!findLit i run) && identGo i r [] false
  | .fld _ :: r, run, af => if run.isEmpty && !af then identGo i r [] true else false

/-- `x` is the text of the current piece: the known run, or - behind a field - a field text without the identifier -/
theorem identGo_sound (i : List Char) (hi : i ≠ []) (v : String → List Char) (syms : List Sym) (run : List Char)
    (af : Bool) (x : List Char) (h : identGo i syms run af = true)
    (hf : ∀ n ∈ symFields syms, findLit i (v n) = false)
    (hx : if af then findLit i x = false else x = run) : findLit i (x ++ renderS v syms) = false := by
  fun_induction identGo i syms run af generalizing x with
  | case1 run af =>
    cases af
    · simp only [Bool.false_eq_true, if_false] at hx
      simpa [renderS, hx, identGo] using h
    · simpa [renderS] using hx
  | case2 c r run hc => cases h
  | case3 c r run af hc haf ih =>
    have haf' : af = false := by simpa using haf
    subst haf'
    simp only [Bool.false_eq_true, if_false] at hx
    subst hx
    have := ih (x ++ [c]) h (fun n hn => hf n (by simpa [symFields] using hn)) (by simp)
    simpa [renderS] using this
  | case4 c r run af hc ih =>
    have hci : c ∉ i := by simpa using hc
    simp only [Bool.and_eq_true, Bool.not_eq_true'] at h
    have hx' : findLit i x = false := by
      cases af
      · simp only [Bool.false_eq_true, if_false] at hx
        rw [hx]; exact h.1
      · simpa using hx
    have h2 := ih [] h.2 (fun n hn => hf n (by simpa [symFields] using hn)) (by simp)
    simp only [List.nil_append] at h2
    simp only [renderS, findLit_sep i hi c hci, hx', h2, Bool.or_self]
  | case5 n r run af hcond ih =>
    simp only [Bool.and_eq_true, List.isEmpty_iff, Bool.not_eq_true'] at hcond
    obtain ⟨rfl, rfl⟩ := hcond
    simp only [Bool.false_eq_true, if_false] at hx
    subst hx
    simp only [List.nil_append, renderS]
    exact ih (v n) h (fun m hm => hf m (by simp only [symFields, List.mem_cons]; exact Or.inr hm))
      (by simpa using hf n (by simp [symFields]))
  | case6 => cases h

/-- the first identifier that provably occurs nowhere in the symbolic line -/
def rejectIdents (syms : List Sym) : List String → Option String
  | [] => none
  | i :: is => if !i.toList.isEmpty && identGo i.toList syms [] false then some i else rejectIdents syms is

theorem rejectIdents_sound (syms : List Sym) (v : String → List Char) (ids : List String) (i : String)
    (h : rejectIdents syms ids = some i) (hf : ∀ n ∈ symFields syms, findLit i.toList (v n) = false) :
    i ∈ ids ∧ findLit i.toList (renderS v syms) = false := by
  fun_induction rejectIdents syms ids with
  | case1 => cases h
  | case2 j is hcond =>
    obtain rfl : j = i := Option.some.inj h
    simp only [Bool.and_eq_true, Bool.not_eq_true', List.isEmpty_eq_false_iff] at hcond
    have := identGo_sound j.toList hcond.1 v syms [] false [] hcond.2 hf rfl
    exact ⟨by simp, by simpa using this⟩
  | case3 j is hcond ih =>
    obtain ⟨h1, h2⟩ := ih h
    exact ⟨by simp [h1], h2⟩

/-- the first component template of a composite parser whose pattern matches nowhere -/
def rejectParts (ts : List Template) (syms : List Sym) : List CPart → Option (List String)
  | [] => none
  | .lit _ :: ps => rejectParts ts syms ps
  | .tpl n :: ps =>
    match findTpl ts n with
    | none => some []
    | some b =>
      match rejectTpl b syms with
      | some names => some names
      | none => rejectParts ts syms ps

theorem rejectParts_sound (ts : List Template) (syms : List Sym) (v : String → List Char)
    (hm : ∀ n ∈ symFields syms, marker ∉ v n) (ps : List CPart) (names : List String)
    (h : rejectParts ts syms ps = some names) (hclean : ∀ n ∈ names, CleanText closer (v n)) :
    ∃ e, parseParts ts (renderS v syms) ps = .error e := by
  fun_induction rejectParts ts syms ps with
  | case1 => cases h
  | case2 s ps ih => exact ih h
  | case3 n ps hf => exact ⟨_, by simp only [parseParts, hf]; rfl⟩
  | case4 n ps b hf nm hr =>
    obtain rfl : nm = names := Option.some.inj h
    obtain ⟨e, he⟩ := rejectTpl_sound b syms nm v hr hm hclean
    exact ⟨e, by simp [parseParts, hf, he, bind, Except.bind]⟩
  | case5 n ps b hf hr ih =>
    obtain ⟨e, he⟩ := ih h
    simp only [parseParts, hf]
    cases hp : parseT b (renderS v syms) with
    | error e' => exact ⟨e', by simp [bind, Except.bind]⟩
    | ok vs => exact ⟨e, by simp [he, bind, Except.bind]⟩

/-- why the parser `name'` rejects the symbolic line: (fields that must hold no `,` `)`, identifiers no
    field text may contain); `none` = cannot tell -/
def rejectKind (ts : List Template) (cs : List Composite) (name' : String) (syms : List Sym) :
    Option (List String × List String) :=
  match findTpl ts name' with
  | some b => (rejectTpl b syms).map fun names => (names, [])
  | none =>
    match findComp cs name' with
    | none => some ([], [])
    | some c =>
      match rejectParts ts syms c.parts with
      | some names => some (names, [])
      | none => (rejectIdents syms c.idents).map fun i => ([], [i])

theorem parseC_of_missing (ts : List Template) (c : Composite) (line : Str) (i : String) (hi : i ∈ c.idents)
    (hno : findLit i.toList line = false) : parseC ts c line = .error .nomatch := by
  have : (c.idents.all fun i => findLit i.toList line) = false :=
    List.all_eq_false.mpr ⟨i, hi, by simp [hno]⟩
  simp only [parseC, this, Bool.not_false, if_true]
  rfl

theorem rejectKind_sound (ts : List Template) (cs : List Composite) (name' : String) (syms : List Sym)
    (v : String → List Char) (names ids : List String) (h : rejectKind ts cs name' syms = some (names, ids))
    (hm : ∀ n ∈ symFields syms, marker ∉ v n) (hclean : ∀ n ∈ names, CleanText closer (v n))
    (hid : ∀ i ∈ ids, ∀ n ∈ symFields syms, findLit i.toList (v n) = false) :
    ∃ e, parseLine ts cs name' (renderS v syms) = .error e := by
  unfold rejectKind at h
  unfold parseLine
  cases hf : findTpl ts name' with
  | some b =>
    simp only [hf, Option.map_eq_some_iff, Prod.mk.injEq] at h
    obtain ⟨nm, hr, hn, _⟩ := h
    subst hn
    exact rejectTpl_sound b syms nm v hr hm hclean
  | none =>
    simp only [hf] at h
    simp only
    cases hc : findComp cs name' with
    | none => exact ⟨_, rfl⟩
    | some c =>
      simp only [hc] at h
      simp only
      cases hp : rejectParts ts syms c.parts with
      | some nm =>
        simp only [hp, Option.some.injEq, Prod.mk.injEq] at h
        obtain ⟨rfl, _⟩ := h
        unfold parseC
        split
        · exact ⟨_, rfl⟩
        · exact rejectParts_sound ts syms v hm c.parts nm hp hclean
      | none =>
        simp only [hp, Option.map_eq_some_iff, Prod.mk.injEq] at h
        obtain ⟨i, hi, _, rfl⟩ := h
        obtain ⟨hmem, hno⟩ := rejectIdents_sound syms v c.idents i hi (hid i (by simp))
        exact ⟨_, parseC_of_missing ts c _ i hmem hno⟩

/-- the conditions under which every parser of `earlier` rejects the symbolic line -/
def dispatchConds (ts : List Template) (cs : List Composite) (ver : Nat × Nat × Nat) (syms : List Sym) :
    List String → Option (List String × List String)
  | [] => some ([], [])
  | k' :: rest =>
    match rejectKind ts cs (verName ver ++ "/" ++ k') syms, dispatchConds ts cs ver syms rest with
    | some a, some b => some (a.1 ++ b.1, a.2 ++ b.2)
    | _, _ => none

theorem dispatch_skip (ts : List Template) (cs : List Composite) (ver : Nat × Nat × Nat) (line : Str) :
    ∀ (pre : List String) (rest : List String),
    (∀ k' ∈ pre, ∃ e, parseLine ts cs (verName ver ++ "/" ++ k') line = .error e) →
    dispatch ts cs (pre ++ rest) ver line = dispatch ts cs rest ver line := by
  intro pre
  induction pre with
  | nil => intro rest _; rfl
  | cons k pre ih =>
    intro rest h
    obtain ⟨e, he⟩ := h k (by simp)
    simp only [List.cons_append, dispatch, he]
    exact ih rest (fun k' hk' => h k' (by simp [hk']))

theorem dispatchConds_sound (ts : List Template) (cs : List Composite) (ver : Nat × Nat × Nat) (syms : List Sym)
    (v : String → List Char) (hm : ∀ n ∈ symFields syms, marker ∉ v n) (pre : List String) (names ids : List String)
    (h : dispatchConds ts cs ver syms pre = some (names, ids)) (hclean : ∀ n ∈ names, CleanText closer (v n))
    (hid : ∀ i ∈ ids, ∀ n ∈ symFields syms, findLit i.toList (v n) = false) :
    ∀ k' ∈ pre, ∃ e, parseLine ts cs (verName ver ++ "/" ++ k') (renderS v syms) = .error e := by
  fun_induction dispatchConds ts cs ver syms pre generalizing names ids with
  | case1 => intro k' hk'; cases hk'
  | case2 k rest a b hb ha ih =>
    obtain ⟨rfl, rfl⟩ := Prod.mk.inj (Option.some.inj h)
    intro k' hk'
    rcases List.mem_cons.mp hk' with rfl | hk''
    · exact rejectKind_sound ts cs _ syms v a.1 a.2 ha hm
        (fun n hn => hclean n (by simp [hn])) (fun i hi => hid i (by simp [hi]))
    · exact ih b.1 b.2 hb (fun n hn => hclean n (by simp [hn])) (fun i hi => hid i (by simp [hi])) k' hk''
  | case3 => cases h

/-- the line is the rendering of the symbolic text `syms`; the
    parsers `pre` tried before `k` all pass the structural rejection check; then `parse_matchline` returns
    what `k`'s own parser returns -/
theorem dispatch_struct (ts : List Template) (cs : List Composite) (ver : Nat × Nat × Nat) (syms : List Sym)
    (v : String → List Char) (pre post : List String) (k : String) (names ids : List String) (vals : List Val)
    (hc : dispatchConds ts cs ver syms pre = some (names, ids))
    (hm : ∀ n ∈ symFields syms, marker ∉ v n) (hclean : ∀ n ∈ names, CleanText closer (v n))
    (hid : ∀ i ∈ ids, ∀ n ∈ symFields syms, findLit i.toList (v n) = false)
    (hp : parseLine ts cs (verName ver ++ "/" ++ k) (renderS v syms) = .ok vals) :
    dispatch ts cs (pre ++ k :: post) ver (renderS v syms) = some (k, vals) := by
  rw [dispatch_skip ts cs ver _ pre (k :: post)
    (dispatchConds_sound ts cs ver syms v hm pre names ids hc hclean hid)]
  simp only [dispatch, hp]

/-- the fields of the first / second component of a composite line are named `a:Name` / `b:Name` -/
def tagName (j : Nat) (n : String) : String := String.ofList ((if j = 0 then 'a' else 'b') :: ':' :: n.toList)

def tagSym (j : Nat) : Sym → Sym
  | .ch c => .ch c
  | .fld n => .fld (tagName j n)

theorem renderS_tag (v : String → List Char) (j : Nat) : ∀ (syms : List Sym),
    renderS v (syms.map (tagSym j)) = renderS (fun n => v (tagName j n)) syms := by
  intro syms
  induction syms with
  | nil => rfl
  | cons s r ih => cases s <;> simp [tagSym, renderS, ih]

/-- the field texts of a composite line: those of its first and of its second component -/
def pairVal (vA vB : String → List Char) : String → List Char := fun s =>
  match s.toList with
  | 'a' :: ':' :: r => vA (String.ofList r)
  | 'b' :: ':' :: r => vB (String.ofList r)
  | _ => []

theorem pairVal_a (vA vB : String → List Char) (n : String) : pairVal vA vB (tagName 0 n) = vA n := by
  simp [pairVal, tagName]

theorem pairVal_b (vA vB : String → List Char) (n : String) : pairVal vA vB (tagName 1 n) = vB n := by
  simp [pairVal, tagName]

/-- the symbolic text of the parts of a composite line, components numbered from `j` -/
def partsSyms (ts : List Template) : List CPart → Nat → Option (List Sym)
  | [], _ => some []
  | .lit s :: ps, j => (partsSyms ts ps j).map (s.toList.map Sym.ch ++ ·)
  | .tpl n :: ps, j =>
    match findTpl ts n, partsSyms ts ps (j + 1) with
    | some t, some r => some ((flat t.out).map (tagSym j) ++ r)
    | _, _ => none

/-- the symbolic text of a line kind: the out_pattern of its template, or of the parts of its composite -/
def lineSyms (ts : List Template) (cs : List Composite) (name : String) : Option (List Sym) :=
  match findTpl ts name with
  | some t => some (flat t.out)
  | none =>
    match findComp cs name with
    | some c => partsSyms ts c.parts 0
    | none => none

/-- component - literal - component (`snote(…)-note(…).`) -/
theorem partsSyms_pair (ts : List Template) (x y sep : String) (a b : Template) (vA vB : String → List Char)
    (hfa : findTpl ts x = some a) (hfb : findTpl ts y = some b) :
    ∃ syms, partsSyms ts [.tpl x, .lit sep, .tpl y] 0 = some syms ∧
      renderS (pairVal vA vB) syms = render a.out vA ++ (sep.toList ++ render b.out vB) := by
  refine ⟨_, by simp only [partsSyms, hfa, hfb, Option.map_some]; rfl, ?_⟩
  simp only [renderS_append, renderS_tag, renderS_chars, pairVal_a, Nat.zero_add, pairVal_b, renderS_flat, renderS, List.append_nil]

/-- component - component (`ornament(…)-note(…).`) -/
theorem partsSyms_pair0 (ts : List Template) (x y : String) (a b : Template) (vA vB : String → List Char)
    (hfa : findTpl ts x = some a) (hfb : findTpl ts y = some b) :
    ∃ syms, partsSyms ts [.tpl x, .tpl y] 0 = some syms ∧
      renderS (pairVal vA vB) syms = render a.out vA ++ render b.out vB := by
  refine ⟨_, by simp only [partsSyms, hfa, hfb]; rfl, ?_⟩
  simp only [renderS_append, renderS_tag, pairVal_a, Nat.zero_add, pairVal_b, renderS_flat, renderS, List.append_nil]

/-- component - literal (`snote(…)-deletion.`) -/
theorem partsSyms_suffix (ts : List Template) (x lit : String) (a : Template) (vA vB : String → List Char)
    (hfa : findTpl ts x = some a) :
    ∃ syms, partsSyms ts [.tpl x, .lit lit] 0 = some syms ∧
      renderS (pairVal vA vB) syms = render a.out vA ++ lit.toList := by
  refine ⟨_, by simp only [partsSyms, hfa, Option.map_some]; rfl, ?_⟩
  simp only [renderS_append, renderS_tag, renderS_chars, pairVal_a, renderS_flat, renderS, List.append_nil]

/-- literal - component (`insertion-note(…).`) -/
theorem partsSyms_prefix (ts : List Template) (y lit : String) (b : Template) (vA vB : String → List Char)
    (hfb : findTpl ts y = some b) :
    ∃ syms, partsSyms ts [.lit lit, .tpl y] 0 = some syms ∧
      renderS (pairVal vA vB) syms = lit.toList ++ render b.out vA := by
  refine ⟨_, by simp only [partsSyms, hfb, Option.map_some]; rfl, ?_⟩
  simp only [renderS_append, renderS_tag, renderS_chars, pairVal_a, renderS_flat, renderS, List.append_nil]

end Model.Template
