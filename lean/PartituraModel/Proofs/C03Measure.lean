/-
C03 — a whole measure read back: the voices of a well-formed segment meet the per-voice conditions of
Proofs/C03Reader.lean, so the reader goes through `linearizeSegment`, segment after segment, returning the notes and
meeting the non-note children where they were written for (`reads_linearize`).
-/
import PartituraModel.Proofs.C03Reader
import PartituraModel.Proofs.C03Voices

namespace C03.Main
open Model.Xml C03.Sort C03.Reader C03.Voices

theorem tagChords_chordOK (A : List Placed) (prev prevN : Option (Nat × Nat)) (h : prev = none ∨ prev = prevN) :
    ChordOKP prevN (tagChords prev A) := by
  induction A generalizing prev prevN with
  | nil => simp [tagChords, ChordOKP]
  | cons p rest ih =>
    simp only [tagChords, ChordOKP]
    refine ⟨?_, ?_⟩
    · intro hc
      have : prev = some (p.onset, p.dur) := by simpa using hc
      rcases h with h | h
      · rw [h] at this; cases this
      · rw [← h]; exact this
    · apply ih
      by_cases hg : p.grace = true
      · simp [hg]
      · simp [hg]

/-- `tagChords` sets the `<chord/>` flags and nothing else -/
theorem tagChords_map {β : Type} (f : Placed → β) (hf : ∀ p c, f { p with chord := c } = f p) (A : List Placed)
    (prev : Option (Nat × Nat)) : (tagChords prev A).map f = A.map f := by
  induction A generalizing prev with
  | nil => rfl
  | cons p rest ih => simp [tagChords, ih, hf]

theorem tagChords_forall (P : Nat → Nat → Bool → Prop) (A : List Placed) (prev : Option (Nat × Nat))
    (h : ∀ p ∈ A, P p.onset p.dur p.grace) : ∀ p ∈ tagChords prev A, P p.onset p.dur p.grace := by
  induction A generalizing prev with
  | nil => intro p hp; simp [tagChords] at hp
  | cons q rest ih =>
    intro p hp
    simp only [tagChords, List.mem_cons] at hp
    rcases hp with rfl | hp
    · exact h q (List.mem_cons_self ..)
    · exact ih _ (fun p hp => h p (List.mem_cons_of_mem _ hp)) p hp

theorem onsetSorted_iff (A : List Placed) : OnsetSorted A ↔ (A.map (·.onset)).Pairwise (· ≤ ·) := by
  unfold OnsetSorted; rw [List.pairwise_map]

theorem onsetLt_order : Lists.TotalPreorder fun a b => !onsetLt b a where
  total a b := by simp [onsetLt]; omega
  trans a b c := by simp [onsetLt]; omega

theorem mem_sortVoice {n : NoteIn} {ns : List NoteIn} : n ∈ sortVoice ns ↔ n ∈ ns := by
  unfold sortVoice
  simp only [(isSort _).mem]

theorem sortVoice_perm (ns : List NoteIn) : (sortVoice ns).Perm ns := by
  unfold sortVoice
  exact (((isSort _).perm _).trans ((isSort _).perm _)).trans ((isSort _).perm _)

theorem sortVoice_sorted (ns : List NoteIn) : (sortVoice ns).Pairwise (fun a b => a.onset ≤ b.onset) := by
  unfold sortVoice
  have := isortBy_sorted onsetLt_order
    (isortBy (fun a b => a.grace && !b.grace) (isortBy (fun a b => keyLt b a) ns))
  refine this.imp ?_
  intro a b h
  simp [onsetLt] at h
  exact h

theorem emitOne_spec (nStaves v : Nat) (n : NoteIn) (h4 : ∀ g ∈ n.seq, g.onset = n.onset) :
    ∀ p ∈ emitOne nStaves v n, p.onset = n.onset ∧ p.dur ≤ n.dur ∧ (p.grace = true → p.dur = 0) := by
  intro p hp
  unfold emitOne at hp
  by_cases hg : n.grace = true
  · simp only [hg, if_true] at hp
    by_cases hgp : n.gracePrev = true
    · simp [hgp] at hp
    · simp only [hgp, Bool.false_eq_true, if_false, List.mem_map] at hp
      obtain ⟨g, hgm, rfl⟩ := hp
      exact ⟨h4 g hgm, by simp, fun _ => rfl⟩
  · simp only [hg, Bool.false_eq_true, if_false, List.mem_singleton] at hp
    subst hp
    exact ⟨rfl, Nat.le_refl _, by simp⟩

theorem emitVoice_eq (nStaves v : Nat) (ns : List NoteIn) : emitVoice nStaves v ns = ns.flatMap (emitOne nStaves v) := by
  induction ns with
  | nil => rfl
  | cons n rest ih => rw [emitVoice, ih, List.flatMap_cons]

theorem emitVoice_forall (nStaves v : Nat) (ns : List NoteIn) (lo hi : Nat)
    (h : ∀ n ∈ ns, lo ≤ n.onset ∧ n.onset + n.dur ≤ hi ∧ (n.grace = true → n.dur = 0) ∧ ∀ g ∈ n.seq, g.onset = n.onset) :
    ∀ p ∈ emitVoice nStaves v ns, PlacedOK lo hi p := by
  intro p hp
  rw [emitVoice_eq] at hp
  obtain ⟨n, hn, hpn⟩ := List.mem_flatMap.mp hp
  obtain ⟨h1, h2, _, h4⟩ := h n hn
  obtain ⟨e1, e2, e3⟩ := emitOne_spec nStaves v n h4 p hpn
  exact ⟨by omega, by omega, e3⟩

/-- what a note emits sits on its onset, so the elements of a voice come in the order of its notes -/
theorem emitVoice_sorted (nStaves v : Nat) (ns : List NoteIn)
    (hs : ns.Pairwise (fun a b => a.onset ≤ b.onset))
    (h : ∀ n ∈ ns, ∀ g ∈ n.seq, g.onset = n.onset) : OnsetSorted (emitVoice nStaves v ns) := by
  have hon : ∀ n ∈ ns, ∀ p ∈ emitOne nStaves v n, p.onset = n.onset := fun n hn p hp =>
    (emitOne_spec nStaves v n (h n hn) p hp).1
  rw [OnsetSorted, emitVoice_eq, List.pairwise_flatMap]
  refine ⟨fun n hn => List.pairwise_of_forall_mem_list fun a ha b hb => by rw [hon n hn a ha, hon n hn b hb], ?_⟩
  refine hs.imp_of_mem fun {a b} ha hb hab x hx y hy => ?_
  rw [hon a ha x hx, hon b hb y hy]
  exact hab

theorem voiceWF_nil (s : Segment) : VoiceWF s [] := by
  simp [VoiceWF]

theorem mem_segVoices {s : Segment} {vn : Nat × List NoteIn} (h : vn ∈ segVoices s) :
    vn ∈ assignVoices s.notes ∨ vn = (0, []) := by
  unfold segVoices at h
  simp only at h
  split at h
  · simp at h; exact Or.inr h
  · exact Or.inl ((isSort _).mem.mp h)

theorem voiceWF_of_mem {mstart : Nat} {s : Segment} (hwf : SegWF mstart s) {vn : Nat × List NoteIn}
    (hvn : vn ∈ segVoices s) : VoiceWF s vn.2 := by
  rcases mem_segVoices hvn with h | h
  · exact hwf.2.2.2.2 vn h
  · rw [h]; exact voiceWF_nil s

theorem segPlaced_ok (mstart nStaves : Nat) (s : Segment) (hwf : SegWF mstart s) :
    ∀ v ∈ segPlaced nStaves s, VoiceOK mstart s.stop v.2 := by
  intro v hv
  unfold segPlaced at hv
  obtain ⟨vn, hvn, rfl⟩ := List.mem_map.mp hv
  obtain ⟨hnotes, _⟩ := voiceWF_of_mem hwf hvn
  obtain ⟨hms, hss, _⟩ := hwf
  have hnotes' : ∀ n ∈ sortVoice vn.2, s.start ≤ n.onset ∧ n.onset + n.dur ≤ s.stop ∧ (n.grace = true → n.dur = 0) ∧
      ∀ g ∈ n.seq, g.onset = n.onset := fun n hn => hnotes n (mem_sortVoice.mp hn)
  have hE := emitVoice_forall nStaves vn.1 (sortVoice vn.2) s.start s.stop hnotes'
  have hEs := emitVoice_sorted nStaves vn.1 (sortVoice vn.2) (sortVoice_sorted vn.2) fun n hn => (hnotes' n hn).2.2.2
  refine ⟨?_, ?_, ?_⟩
  · intro p hp
    have := tagChords_forall (fun o d g => s.start ≤ o ∧ o + d ≤ s.stop ∧ (g = true → d = 0)) _ none hE p hp
    exact ⟨by omega, this.2.1, this.2.2⟩
  · rw [onsetSorted_iff, tagChords_map _ fun _ _ => rfl, ← onsetSorted_iff]; exact hEs
  · exact tagChords_chordOK _ none none (Or.inl rfl)

theorem mergeMeasure_eq (voices : List (Nat × List Placed)) (other : List OtherIn) (start stop : Nat) :
    mergeMeasure voices other start stop =
      (mergeVoices other start true start voices).1 ++
        (if (mergeVoices other start true start voices).2 < stop
          then [Ev.forward (stop - (mergeVoices other start true start voices).2)] else []) := rfl

/-- what a segment must read back as: its voices one after the other, each in document order -/
def segOut (nStaves : Nat) (s : Segment) : List NoteOut :=
  ((segPlaced nStaves s).flatMap (·.2)).map Placed.out

theorem segPlaced_ne_nil (nStaves : Nat) (seg : Segment) : segPlaced nStaves seg ≠ [] := by
  unfold segPlaced segVoices
  simp only
  split
  · simp
  · rename_i h
    intro hc
    rw [List.map_eq_nil_iff] at hc
    simp [hc] at h

theorem reads_segment (spec : Bool) {mstart : Nat} (nStaves : Nat) {seg : Segment} (hwf : SegWF mstart seg) (s : RState)
    (hpos : s.pos = seg.start) (hin : Inside mstart seg.stop s) :
    ReadsAs spec mstart seg.stop s (linearizeSegment nStaves seg) (segOut nStaves seg)
      ((isortBy otherLt seg.others).map okey) seg.stop := by
  have hok := segPlaced_ok mstart nStaves seg hwf
  obtain ⟨hms, hss, _, hothers, _⟩ := hwf
  have hO : ∀ o ∈ seg.others, OtherOK mstart seg.stop o := by
    intro o ho
    obtain ⟨h1, h2, h3⟩ := hothers o ho
    exact ⟨by omega, h2, h3⟩
  have h1 := reads_mergeVoices spec hO hms hss (segPlaced nStaves seg) true s hok hin
  rw [hpos, if_pos ⟨rfl, segPlaced_ne_nil nStaves seg⟩] at h1
  -- the `<forward>` to the end of the segment
  have h := h1.append fun s1 hp hin1 => by
    have := readsAs_fb spec hin1 (Nat.le_trans hms hss) (Nat.le_refl _)
    rwa [fb_forward (Nat.le_trans hin1.le hin1.bound), hp] at this
  rw [List.append_nil, List.append_nil] at h
  unfold linearizeSegment
  rw [mergeMeasure_eq]
  exact h

/-- where the last of the segments stops (`t` when there is none): the bound up to which `reads_segments` has read -/
def endOf : Nat → List Segment → Nat
  | t, [] => t
  | _, seg :: rest => endOf seg.stop rest

theorem endOf_eq_stop (m : MeasureContent) (t : Nat) (h : m.segs ≠ []) : endOf t m.segs = m.stop := by
  unfold MeasureContent.stop
  generalize m.segs = segs at h
  induction segs generalizing t with
  | nil => exact absurd rfl h
  | cons seg rest ih =>
    cases rest with
    | nil => rfl
    | cons seg2 rest' =>
      rw [List.getLast?_cons_cons]
      exact ih seg.stop (by simp)

theorem chained_cons {seg : Segment} {rest : List Segment} (h : Chained (seg :: rest)) :
    (∀ sg ∈ rest.head?, sg.start = seg.stop) ∧ Chained rest := by
  cases rest with
  | nil => exact ⟨fun sg hsg => (nomatch hsg), trivial⟩
  | cons seg2 rest' => exact ⟨fun sg hsg => (by cases hsg; exact h.1.symm), h.2⟩

theorem reads_segments (spec : Bool) (mstart nStaves : Nat) :
    ∀ (segs : List Segment) (t : Nat) (s : RState), Chained segs → (∀ seg ∈ segs, SegWF mstart seg) →
      (∀ seg ∈ segs.head?, seg.start = t) → s.pos = t → Inside mstart t s →
      ReadsAs spec mstart (endOf t segs) s (segs.flatMap (linearizeSegment nStaves)) (segs.flatMap (segOut nStaves))
        (segs.flatMap fun seg => (isortBy otherLt seg.others).map okey) (endOf t segs) := by
  intro segs
  induction segs with
  | nil =>
    intro t s _ _ _ hpos hin
    subst hpos
    exact ReadsAs.nil hin
  | cons seg rest ih =>
    intro t s hch hwf hhead hpos hin
    have hsegwf := hwf seg (List.mem_cons_self ..)
    have ht : seg.start = t := hhead seg rfl
    subst ht
    simp only [List.flatMap_cons]
    refine (reads_segment spec nStaves hsegwf s hpos ⟨hin.start, hin.le, Nat.le_trans hin.bound hsegwf.2.1⟩).append
      fun s1 hp hin1 => ?_
    exact ih seg.stop s1 (chained_cons hch).2 (fun sg h => hwf sg (List.mem_cons_of_mem _ h)) (chained_cons hch).1 hp hin1

/-- what a measure must read back as -/
def measureOut (m : MeasureContent) : List NoteOut := m.segs.flatMap (segOut m.nStaves)

theorem reads_linearize (spec : Bool) (m : MeasureContent) (hwf : MeasureWF m) :
    ReadsAs spec m.start m.stop { pos := m.start, prev := none, maxt := m.start, out := [] } (linearize m) (measureOut m)
      (expectedOthers m) m.stop := by
  obtain ⟨hne, hch, hsegs⟩ := hwf
  have h := reads_segments spec m.start m.nStaves m.segs m.start
    { pos := m.start, prev := none, maxt := m.start, out := [] } hch hsegs
    (by intro sg hsg; unfold MeasureContent.start; rw [hsg]) rfl ⟨Nat.le_refl _, Nat.le_refl _, Nat.le_refl _⟩
  rw [endOf_eq_stop m _ hne] at h
  exact h

theorem interpret_linearize (spec : Bool) (m : MeasureContent) (hwf : MeasureWF m) :
    interpretWith spec m.start (linearize m) = some (measureOut m, m.stop) := by
  obtain ⟨s', tr, hread, hout, hp, hin, _⟩ := reads_linearize spec m hwf
  unfold interpretWith
  rw [hread.run, Option.map_some, hout, List.append_nil, List.reverse_reverse,
    Nat.le_antisymm hin.bound (hp ▸ hin.le)]

end C03.Main
