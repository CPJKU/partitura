/-
C19 — which main spine every column belongs to after an interpretation row (`mainsOut`), and the lemmas on `pbvJoins`,
`pbvStep` and `countMain` from which Props/C19KernPaths.lean shows that the arithmetic of `importkern.parse_by_voice`
(Model/KernPbv.lean) counts the columns of the leftmost spine.
-/
import PartituraModel.Model.KernPbv

set_option linter.unusedSimpArgs false

namespace C19.Pbv
open Model Model.Kern

/-- the main spines of the columns a row of interpretation cells leaves (`prev`: the spine of the cell to the left if
    that cell was a `*v`) -/
def mainsOut : List (Col × Nat) → List (List Char) → Option Nat → List Nat
  | (c, _) :: cs, cell :: cells, prev =>
    if cell = "*^".toList then c.main :: c.main :: mainsOut cs cells none
    else if cell = "*v".toList then (if prev = some c.main then [] else [c.main]) ++ mainsOut cs cells (some c.main)
    else if cell = "*-".toList then mainsOut cs cells none
    else c.main :: mainsOut cs cells none
  | _, _, _ => []

theorem tandem_main {st : St} {c : Col} {p : Nat} {cell : List Char} {st' : St} {c' : Col}
    (h : tandem st c p cell = some (st', c')) : c'.main = c.main := by
  -- every branch returns the column itself or the column with another `staff`
  have some_main : ∀ {s : St} {d : Col}, some (s, d) = some (st', c') → d.main = c.main → c'.main = c.main :=
    fun e hd => by cases e; exact hd
  unfold tandem at h
  by_cases h1 : (!c.kern) = true
  · rw [if_pos h1] at h; exact some_main h rfl
  rw [if_neg h1] at h
  by_cases h2 : startsWith cell "*staff" = true
  · rw [if_pos h2] at h
    cases hn : leadingNat (cell.drop 6) <;> rw [hn] at h
    · cases h
    · exact some_main h rfl
  rw [if_neg h2] at h
  by_cases h3 : startsWith cell "*clef" = true
  · rw [if_pos h3] at h
    cases hn : parseClef (cell.drop 5) c.staff <;> rw [hn] at h
    · cases h
    · exact some_main h rfl
  rw [if_neg h3] at h
  by_cases h4 : startsWith cell "*MM" = true
  · rw [if_pos h4] at h; exact some_main h rfl
  rw [if_neg h4] at h
  by_cases h5 : startsWith cell "*M" = true
  · rw [if_pos h5] at h
    cases hn : parseMeter (cell.drop 2) <;> rw [hn] at h
    · cases h
    · exact some_main h rfl
  rw [if_neg h5] at h
  by_cases h6 : startsWith cell "*k[" = true
  · rw [if_pos h6] at h; exact some_main h rfl
  rw [if_neg h6] at h
  by_cases h7 : startsWith cell "*part" = true
  · rw [if_pos h7] at h; exact some_main h rfl
  rw [if_neg h7] at h
  by_cases h8 : startsWith cell "*I" = true
  · rw [if_pos h8] at h; exact some_main h rfl
  rw [if_neg h8] at h
  exact some_main h rfl

/-- how many columns one cell of the spine `m` leaves -/
def cellCols (m : Nat) (cell : List Char) (prev : Option Nat) : Nat :=
  if cell = "*^".toList then 2
  else if cell = "*v".toList then (if prev = some m then 0 else 1)
  else if cell = "*-".toList then 0 else 1

theorem mainsOut_cons (c : Col) (p : Nat) (cs : List (Col × Nat)) (cell : List Char) (cells : List (List Char)) (prev : Option Nat) :
    mainsOut ((c, p) :: cs) (cell :: cells) prev
      = List.replicate (cellCols c.main cell prev) c.main ++ mainsOut cs cells (if cell = "*v".toList then some c.main else none) := by
  rw [mainsOut]
  unfold cellCols
  by_cases h1 : cell = "*^".toList
  · have h2 : ¬ cell = "*v".toList := by rw [h1]; decide
    rw [if_pos h1, if_pos h1, if_neg h2]
    rfl
  · by_cases h2 : cell = "*v".toList
    · rw [if_neg h1, if_neg h1, if_pos h2, if_pos h2, if_pos h2]
      split <;> rfl
    · rw [if_neg h1, if_neg h1, if_neg h2, if_neg h2, if_neg h2]
      split <;> rfl

/-- a `*v` cell keeps its column unless the cell to the left was a `*v` of the same spine -/
theorem interpRow_join (st : St) (c : Col) (p : Nat) (cs : List (Col × Nat)) (cells : List (List Char)) (acc : List Col)
    (joining : Bool) :
    interpRow st ((c, p) :: cs) ("*v".toList :: cells) acc joining =
      interpRow st cs cells
        (if (if joining then acc.head?.map (·.main) else none) = some c.main then acc else c :: acc) true := by
  have h1 : ("*v".toList = "*^".toList) = False := by decide
  simp only [interpRow, h1, if_false, if_true]
  rcases acc with _ | ⟨a, rest⟩ <;> cases joining <;> try rfl
  by_cases hm : a.main = c.main <;> simp [hm]

theorem interpRow_mains (st : St) (cp : List (Col × Nat)) (row : List (List Char)) (acc : List Col) (joining : Bool)
    (st' : St) (cols' : List Col) (h : interpRow st cp row acc joining = some (st', cols')) :
    cols'.map (·.main) = acc.reverse.map (·.main)
      ++ mainsOut cp row (if joining then acc.head?.map (·.main) else none) := by
  induction cp generalizing st row acc joining with
  | nil =>
    cases row with
    | nil =>
      simp only [interpRow, Option.some.injEq, Prod.mk.injEq] at h
      rw [← h.2]
      simp [mainsOut]
    | cons _ _ => simp [interpRow] at h
  | cons cpHead cs ih =>
    obtain ⟨c, p⟩ := cpHead
    cases row with
    | nil => simp [interpRow] at h
    | cons cell cells =>
      rw [mainsOut_cons, cellCols]
      by_cases h2 : cell = "*v".toList
      · subst h2
        rw [interpRow_join] at h
        rw [if_neg (by decide), if_pos rfl, if_pos rfl]
        by_cases hp : (if joining then acc.head?.map (·.main) else none) = some c.main
        · have : acc.head?.map (·.main) = some c.main := by cases joining <;> simp_all
          rw [if_pos hp] at h
          rw [ih _ _ _ _ h, if_pos hp, if_pos rfl, this]
          rfl
        · rw [if_neg hp] at h
          rw [ih _ _ _ _ h, if_neg hp]
          simp
      · simp only [interpRow, if_neg h2] at h
        rw [if_neg h2, if_neg h2]
        by_cases h1 : cell = "*^".toList
        · rw [if_pos h1] at h
          rw [ih _ _ _ _ h, if_pos h1]
          simp
        · rw [if_neg h1] at h
          rw [if_neg h1]
          by_cases h3 : cell = "*-".toList
          · rw [if_pos h3] at h
            rw [ih _ _ _ _ h, if_pos h3]
            simp
          · rw [if_neg h3] at h
            cases ht : tandem st c p cell with
            | none => simp [ht] at h
            | some r =>
              simp only [ht] at h
              rw [ih _ _ _ _ h, if_neg h3]
              simp [tandem_main ht]
theorem mainsOut_prev_irrel (cp : List (Col × Nat)) (row : List (List Char)) (m : Nat)
    (h : ∀ x, cp.head? = some x → x.1.main ≠ m) : mainsOut cp row (some m) = mainsOut cp row none := by
  match cp, row with
  | [], _ => rfl
  | _ :: _, [] => rfl
  | (c, p) :: cs, cell :: cells =>
    have hne : ¬ (some m = some c.main) := fun e => h (c, p) rfl (Option.some.inj e).symm
    rw [mainsOut_cons, mainsOut_cons]
    simp only [cellCols, hne, if_false, reduceCtorEq]

/-- the columns of a spine `m` standing in front of columns of other spines: what the row leaves of the two blocks does not
    depend on the other block — a join at the end of the first block is not continued by a cell of another spine -/
theorem mainsOut_block (m : Nat) (pre post : List (Col × Nat)) (rpre rpost : List (List Char)) (prev : Option Nat)
    (hpre : ∀ x ∈ pre, x.1.main = m) (hpost : ∀ x ∈ post, x.1.main ≠ m) (hl : pre.length = rpre.length)
    (hp : prev = none ∨ prev = some m) :
    mainsOut (pre ++ post) (rpre ++ rpost) prev = mainsOut pre rpre prev ++ mainsOut post rpost none := by
  induction pre generalizing rpre prev with
  | nil =>
    obtain rfl : rpre = [] := List.eq_nil_of_length_eq_zero hl.symm
    rcases hp with rfl | rfl
    · rfl
    · exact mainsOut_prev_irrel post rpost m fun x hx => hpost x (List.mem_of_mem_head? hx)
  | cons x cs ih =>
    obtain ⟨c, p⟩ := x
    cases rpre with
    | nil => simp at hl
    | cons cell cells =>
      rw [List.cons_append, List.cons_append, mainsOut_cons, mainsOut_cons,
        ih cells _ (fun x hx => hpre x (List.mem_cons_of_mem _ hx)) (Nat.succ.inj hl) ?_, List.append_assoc]
      rw [hpre (c, p) List.mem_cons_self]
      split
      · exact Or.inr rfl
      · exact Or.inl rfl
theorem mainsOut_all (P : Nat → Prop) (cp : List (Col × Nat)) (row : List (List Char)) (prev : Option Nat)
    (h : ∀ x ∈ cp, P x.1.main) : ∀ y ∈ mainsOut cp row prev, P y := by
  induction cp generalizing row prev with
  | nil => simp [mainsOut]
  | cons x cs ih =>
    obtain ⟨c, p⟩ := x
    cases row with
    | nil => simp [mainsOut]
    | cons cell cells =>
      intro y hy
      rw [mainsOut_cons] at hy
      rcases List.mem_append.mp hy with hy | hy
      · exact List.eq_of_mem_replicate hy ▸ h (c, p) (List.mem_cons_self ..)
      · exact ih cells _ (fun x hx => h x (List.mem_cons_of_mem _ hx)) y hy

theorem block_of_map {α β : Type} (g : α → β) {P Q : β → Prop} {l : List α} {a b : List β} (h : l.map g = a ++ b)
    (ha : ∀ y ∈ a, P y) (hb : ∀ y ∈ b, Q y) :
    ∃ pre post, l = pre ++ post ∧ pre.length = a.length ∧ (∀ x ∈ pre, P (g x)) ∧ (∀ x ∈ post, Q (g x)) := by
  obtain ⟨pre, post, rfl, rfl, rfl⟩ := List.map_eq_append_iff.mp h
  exact ⟨pre, post, rfl, (List.length_map g).symm, fun _ hx => ha _ (List.mem_map_of_mem hx),
    fun _ hx => hb _ (List.mem_map_of_mem hx)⟩

theorem withPosAux_fst (cols : List Col) (prev : Option Nat) (k : Nat) :
    (withPosAux cols prev k).map Prod.fst = cols := by
  induction cols generalizing prev k with
  | nil => simp [withPosAux]
  | cons c rest ih => simp [withPosAux, ih]

theorem startsWith_star_not_bang (first : List Char) (h : startsWith first "*" = true) : startsWith first "!" = false := by
  cases first with
  | nil => simp [startsWith] at h
  | cons c cs =>
    simp only [startsWith] at h ⊢
    have h' : '*' = c := by simpa [List.isPrefixOf] using h
    subst h'
    simp [List.isPrefixOf]

theorem barRow_cols (st : St) (cp : List (Col × Nat)) (row : List (List Char)) (st' : St)
    (h : barRow st cp row = some st') : st'.cols = st.cols := by
  induction cp generalizing st row with
  | nil =>
    cases row with
    | nil => simp only [barRow, Option.some.injEq] at h; rw [← h]
    | cons _ _ => simp [barRow] at h
  | cons x cs ih =>
    obtain ⟨c, p⟩ := x
    cases row with
    | nil => simp [barRow] at h
    | cons cell cells =>
      simp only [barRow] at h
      split at h
      · have := ih _ cells h
        simpa using this
      · exact ih _ cells h

theorem dataRow_mains (st : St) (cp : List (Col × Nat)) (row : List (List Char)) (acc : List Col) (anchors : List (Nat × Rat))
    (st' : St) (cols' : List Col) (h : dataRow st cp row acc anchors = some (st', cols')) :
    cols'.map (·.main) = acc.reverse.map (·.main) ++ cp.map (·.1.main) := by
  induction cp generalizing st row acc anchors with
  | nil =>
    cases row with
    | nil =>
      simp only [dataRow, Option.some.injEq, Prod.mk.injEq] at h
      rw [← h.2]; simp
    | cons _ _ => simp [dataRow] at h
  | cons x cs ih =>
    obtain ⟨c, p⟩ := x
    cases row with
    | nil => simp [dataRow] at h
    | cons cell cells =>
      simp only [dataRow] at h
      split at h
      · have := ih _ cells (c :: acc) anchors h
        simpa using this
      · split at h
        · split at h
          · simp at h
          · cases ht : tandem st c p cell with
            | none => simp [ht] at h
            | some r =>
              obtain ⟨st2, c2⟩ := r
              simp only [ht] at h
              have := ih _ cells (c2 :: acc) anchors h
              have hc2 := tandem_main ht
              simpa [hc2] using this
        · cases hp : parseToken cell with
          | none => simp [hp] at h
          | some toks =>
            simp only [hp] at h
            split at h
            · have := ih _ cells _ _ h
              cases hlk : lookup (groupKey st.same c) anchors with
              | none => simpa [hlk] using this
              | some t => simpa [hlk] using this
            · simp at h

theorem withPos_mains (cols : List Col) : (withPos cols).map (·.1.main) = cols.map (·.main) := by
  have := congrArg (List.map (·.main)) (withPosAux_fst cols none 0)
  simpa [withPos, List.map_map, Function.comp_def] using this

theorem step_eq {st : St} {first : List Char} {rest : List (List Char)} (hb : startsWith first "!" = false)
    (hlen : (first :: rest).length = st.cols.length) :
    step st (first :: rest) =
      if startsWith first "*" then
        (interpRow { st with widths := updWidths st.widths (withPos st.cols) } (withPos st.cols) (first :: rest) [] false).map
          fun x => { x.1 with cols := x.2 }
      else if startsWith first "=" then
        barRow { st with widths := updWidths st.widths (withPos st.cols) } (withPos st.cols) (first :: rest)
      else
        (dataRow { st with widths := updWidths st.widths (withPos st.cols) } (withPos st.cols) (first :: rest) [] []).map
          fun x => { x.1 with cols := x.2 } := by
  simp only [step, hb, Bool.false_eq_true, if_false, hlen, ne_eq, not_true_eq_false]

theorem step_length {st st' : St} {first : List Char} {rest : List (List Char)} (hb : startsWith first "!" = false)
    (h : step st (first :: rest) = some st') : (first :: rest).length = st.cols.length := by
  simp only [step, hb, Bool.false_eq_true, if_false] at h
  split at h
  · cases h
  · rename_i hlen
    simpa using hlen

theorem step_other_mains (st st' : St) (first : List Char) (rest : List (List Char))
    (hb : startsWith first "!" = false) (hstar : startsWith first "*" = false) (h : step st (first :: rest) = some st') :
    st'.cols.map (·.main) = st.cols.map (·.main) ∧ (first :: rest).length = st.cols.length := by
  have hlen := step_length hb h
  rw [step_eq hb hlen, if_neg (by rw [hstar]; exact Bool.false_ne_true)] at h
  refine ⟨?_, hlen⟩
  split at h
  · rw [barRow_cols _ _ _ _ h]
  · obtain ⟨⟨st2, cols2⟩, hd, rfl⟩ := Option.map_eq_some_iff.mp h
    simpa [withPos_mains] using dataRow_mains _ _ _ _ _ _ _ hd

theorem pbvJoins_zero (seg : List (List Char)) (b : Bool) (h : ∀ cell ∈ seg, cell ≠ "*v".toList) : pbvJoins seg b = 0 := by
  induction seg generalizing b with
  | nil => rfl
  | cons cell cells ih =>
    have h1 : cell ≠ "*v".toList := h cell (by simp)
    simp only [pbvJoins, h1, false_and, if_false, ih _ (fun c hc => h c (List.mem_cons_of_mem _ hc))]

theorem pbvStep_clean (k : Nat) (row : List (List Char)) (hk : k ≤ row.length)
    (hno : ∀ cell ∈ row, cell ≠ "*^".toList ∧ cell ≠ "*v".toList) : pbvStep k row = some k := by
  have hs : pbvSplits (row.take k) = 0 := by
    unfold pbvSplits
    rw [List.length_eq_zero_iff, List.filter_eq_nil_iff]
    intro cell hc
    simpa using (hno cell (List.mem_of_mem_take hc)).1
  have hj : pbvJoins (row.take k) false = 0 :=
    pbvJoins_zero _ _ (fun cell hc => (hno cell (List.mem_of_mem_take hc)).2)
  have : ¬ row.length < k := by omega
  simp [pbvStep, this, hs, hj]

theorem countMain_block (m : Nat) (pre post : List Col) (hpre : ∀ c ∈ pre, c.main = m) (hpost : ∀ c ∈ post, c.main ≠ m) :
    countMain (pre ++ post) m = pre.length := by
  unfold countMain
  rw [List.filter_append]
  have h1 : pre.filter (fun c => decide (c.main = m)) = pre := by
    rw [List.filter_eq_self]; intro c hc; simpa using hpre c hc
  have h2 : post.filter (fun c => decide (c.main = m)) = [] := by
    rw [List.filter_eq_nil_iff]; intro c hc; simpa using hpost c hc
  rw [h1, h2]; simp

theorem initCols_mains_ge (l : List (List Char)) (i : Nat) : ∀ c ∈ initCols l i, i ≤ c.main := by
  induction l generalizing i with
  | nil => simp [initCols]
  | cons h rest ih =>
    intro c hc
    simp only [initCols, List.mem_cons] at hc
    rcases hc with rfl | hc
    · exact Nat.le_refl _
    · have := ih (i + 1) c hc; omega

end C19.Pbv
