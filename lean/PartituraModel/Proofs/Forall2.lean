/-
Membership, `map`, `zip` and `flatMap` along `List.Forall₂`, composition of two, and `mapM` in `Option` and `Except` as a
`Forall₂` (namespace `Lists`).
-/
import Mathlib.Data.List.Forall2
import PartituraModel.Proofs.Lists

namespace Lists

variable {α β : Type} {R : α → β → Prop} {l : List α} {r : List β}

theorem forall₂_mem_right (h : List.Forall₂ R l r) : ∀ y ∈ r, ∃ x ∈ l, R x y := by
  induction h with
  | nil => exact fun _ hy => absurd hy List.not_mem_nil
  | cons hab _ ih =>
    intro y hy
    rcases List.mem_cons.mp hy with rfl | hy
    · exact ⟨_, List.mem_cons_self, hab⟩
    · obtain ⟨x, hx, hxy⟩ := ih y hy
      exact ⟨x, List.mem_cons_of_mem _ hx, hxy⟩

theorem forall₂_mem_left (h : List.Forall₂ R l r) : ∀ x ∈ l, ∃ y ∈ r, R x y := fun x hx =>
  (forall₂_mem_right h.flip x hx).imp fun _ h => h

theorem forall₂_flatMap_perm {γ : Type} (h : List.Forall₂ R l r) (f : α → List γ) (g : β → List γ)
    (hfg : ∀ x y, R x y → (f x).Perm (g y)) : (l.flatMap f).Perm (r.flatMap g) := by
  induction h with
  | nil => exact List.Perm.refl _
  | cons hab _ ih => simp only [List.flatMap_cons]; exact (hfg _ _ hab).append ih

theorem forall₂_flatMap_eq {γ : Type} (h : List.Forall₂ R l r) (f : α → List γ) (g : β → List γ)
    (hfg : ∀ x y, R x y → f x = g y) : l.flatMap f = r.flatMap g := by
  induction h with
  | nil => rfl
  | cons hab _ ih => simp only [List.flatMap_cons, hfg _ _ hab, ih]

theorem forall₂_map_eq {α β γ : Type} (f : α → γ) (g : β → γ) {R : α → β → Prop}
    (hR : ∀ a b, R a b → f a = g b) : ∀ {l : List α} {l' : List β}, List.Forall₂ R l l' → l.map f = l'.map g := by
  intro l l' h
  induction h with
  | nil => rfl
  | cons hab _ ih => simp [hR _ _ hab, ih]

theorem forall₂_compose {α β γ : Type} {A : α → β → Prop} {B : β → γ → Prop} {C : α → γ → Prop} :
    ∀ {l : List α} {m : List β} {r : List γ}, List.Forall₂ A l m → List.Forall₂ B m r →
      (∀ x n y, x ∈ l → n ∈ m → A x n → B n y → C x y) → List.Forall₂ C l r := by
  intro l m r hA
  induction hA generalizing r with
  | nil => intro hB _; cases hB; exact List.Forall₂.nil
  | cons ha _ ih =>
    intro hB hC
    cases hB with
    | cons hb hB' =>
      refine List.Forall₂.cons (hC _ _ _ List.mem_cons_self List.mem_cons_self ha hb) (ih hB' ?_)
      intro x n y hx hn
      exact hC x n y (List.mem_cons_of_mem _ hx) (List.mem_cons_of_mem _ hn)

theorem forall₂_zip_left {α β : Type} {R : α → β → Prop} : ∀ {l : List α} {rs : List β},
    List.Forall₂ R l rs → ∀ a ∈ l, ∃ b, (a, b) ∈ List.zip l rs ∧ R a b := by
  intro l rs hf
  induction hf with
  | nil => intro a ha; simp at ha
  | cons hab _ ih =>
    intro a ha
    rcases List.mem_cons.mp ha with rfl | ha
    · exact ⟨_, by simp, hab⟩
    · obtain ⟨b, hb, hr⟩ := ih a ha
      exact ⟨b, by simp [hb], hr⟩

theorem forall₂_imp_mem {α β : Type} {R S : α → β → Prop} {l : List α} {rs : List β}
    (hf : List.Forall₂ R l rs) (h : ∀ a ∈ l, ∀ b, R a b → S a b) : List.Forall₂ S l rs :=
  List.forall₂_iff_zip.2 ⟨hf.length_eq, fun hab => h _ (List.of_mem_zip hab).1 _ (List.forall₂_zip hf hab)⟩

/-- step by step: every result is the step's answer for the element at its place -/
theorem mapM_forall₂ {f : α → Option β} {l : List α} {r : List β} (h : l.mapM f = some r) :
    List.Forall₂ (fun a b => f a = some b) l r := by
  have h' := mapM_eq_some_iff.mp h
  clear h
  induction l generalizing r with
  | nil => cases r with
    | nil => exact .nil
    | cons b r => cases h'
  | cons a l ih => cases r with
    | nil => cases h'
    | cons b r =>
      rw [List.map_cons, List.map_cons, List.cons.injEq] at h'
      exact .cons h'.1 (ih h'.2)

/-- in `Except` too: the run returns `r` exactly when every step returns the entry of `r` at its place -/
theorem mapM_ok_iff_forall₂ {ε : Type} {f : α → Except ε β} {l : List α} {r : List β} :
    l.mapM f = .ok r ↔ List.Forall₂ (fun a b => f a = .ok b) l r := by
  induction l generalizing r with
  | nil =>
    rw [List.mapM_nil]
    exact ⟨fun h => Except.ok.inj h ▸ .nil, fun h => by cases h; rfl⟩
  | cons a l ih =>
    rw [List.mapM_cons]
    cases ha : f a with
    | error e => exact ⟨nofun, fun h => by cases h with | cons h _ => rw [ha] at h; cases h⟩
    | ok b =>
      cases hl : l.mapM f with
      | error e =>
        refine ⟨nofun, fun h => ?_⟩
        cases h with
        | cons _ h => rw [ih.mpr h] at hl; cases hl
      | ok bs =>
        constructor
        · intro h
          cases h
          exact .cons ha (ih.mp hl)
        · intro h
          cases h with
          | cons h1 h2 =>
            rw [ha] at h1
            cases h1
            rw [ih.mpr h2] at hl
            cases hl
            rfl

end Lists
