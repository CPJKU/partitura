/-
C11 — ingredients of the theorems about `sanitize_part` (Model/Sanitize.lean; `C11.sanitize_complete_noop`, `C11.sanitize_keeps_notes`,
`C11.sanitize_reads_sound_not_spelling` in Props/C11Sound.lean): the grace-note loop changes nothing when every grace note has a main
note (`graceLoop_noop`); the tie check only ever clears links (`sanitizeTies_untie`) and decides on keys, times and links alone
(`sanitizeStep_repaint`).  That it changes nothing on adjacent ties is `C11Walk.sanitize_noop`.
-/
import PartituraModel.Proofs.C11Rows
import PartituraModel.Proofs.C11Grace

namespace C11San
open Model Model.Dur Model.Meas Model.San C11Walk C11Rows

def GracesComplete (gs : List Grace) : Prop :=
  ∀ k g, lkG gs k = some g → (mainNote gs (gs.length + 1) g).isSome = true

theorem graceStep_noop (notes : List Note) (gs : List Grace) (rem : List Nat) (k : Nat) (h : GracesComplete gs) :
    graceStep notes (gs, rem) k = (gs, rem) := by
  cases hg : lkG gs k with
  | none => unfold graceStep; rw [hg]
  | some g => exact C11Grace.graceStep_complete notes (gs, rem) k g hg (h k g hg)

theorem graceLoop_noop (notes : List Note) (gs : List Grace) (h : GracesComplete gs) : graceLoop notes gs = (gs, []) :=
  Lists.foldl_inv (· = (gs, [])) (graceStep notes) (fun _ k ha => ha ▸ graceStep_noop notes gs [] k h) _ (gs, []) rfl

def untie (n : Note) : Note := { n with tieNext := none, tiePrev := none }

theorem sanitizeStep_untie (tol : Nat) (acc : List Note) (h : Note) :
    (sanitizeStep tol acc h).map untie = acc.map untie := by
  unfold sanitizeStep
  split
  · rfl
  · simp only
    split
    · rw [List.map_map]
      apply List.map_congr_left
      intro m _
      simp only [Function.comp]
      split <;> rfl
    · rfl

theorem sanitizeTies_untie (ns : List Note) (tol : Nat) : (sanitizeTies ns tol).map untie = ns.map untie :=
  Lists.foldl_inv (fun a => a.map untie = ns.map untie) (sanitizeStep tol)
    (fun a h ha => (sanitizeStep_untie tol a h).trans ha) _ ns rfl

/-- write other pitches, voices, staves and ids on the notes (any functions of the key) -/
def repaint (π : Nat → String) (ν σ : Nat → Option Int) (ι : Nat → Option String) (n : Note) : Note :=
  { n with pitch := π n.key, voice := ν n.key, staff := σ n.key, id := ι n.key }

section
variable (π : Nat → String) (ν σ : Nat → Option Int) (ι : Nat → Option String)

theorem sanitizeStep_repaint (tol : Nat) (acc : List Note) (h : Note) :
    sanitizeStep tol (acc.map (repaint π ν σ ι)) (repaint π ν σ ι h) = (sanitizeStep tol acc h).map (repaint π ν σ ι) := by
  unfold sanitizeStep
  have hk : (repaint π ν σ ι h).key = h.key := rfl
  rw [hk, show (acc.map (repaint π ν σ ι)).find? (·.key = h.key) = (acc.find? (·.key = h.key)).map (repaint π ν σ ι) from
    lk_map (repaint π ν σ ι) (fun _ => rfl) acc h.key]
  cases acc.find? (·.key = h.key) with
  | none => rfl
  | some n =>
    simp only [Option.map_some, List.length_map]
    rw [chainEndDur_map (repaint π ν σ ι) (fun _ => ⟨rfl, rfl, rfl, rfl⟩),
      chainKeys_map (repaint π ν σ ι) (fun _ => ⟨rfl, rfl⟩)]
    have hs : (repaint π ν σ ι n).start = n.start := rfl
    rw [hs]
    split
    · rw [List.map_map, List.map_map]
      apply List.map_congr_left
      intro m _
      simp only [Function.comp]
      have hmk : (repaint π ν σ ι m).key = m.key := rfl
      rw [hmk]
      split <;> rfl
    · rfl

end

end C11San
