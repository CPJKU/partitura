/-
C11 — the loop of `add_measures` (Model/Measures.lean: `segLoop`, `runStretches`) tiles the timeline,
keeps the existing measures and numbers everything consecutively.  The words of the Props statements come first: numbered
tilings `TN`, the conditions on the part `TsOK` / `ExistingOK`, and on the bar-end map `Integral` / `LocalOK`; `InvAt`, `JSeg`,
`SC`, `Starts` are defined where the loop proofs need them.
-/
import PartituraModel.Model.Measures
import PartituraModel.Proofs.Round
import PartituraModel.Proofs.Lists
import PartituraModel.Proofs.Chain

namespace C11Meas
open Model Model.Dur Model.Meas

def ext (m : Measure) : Nat × Nat := (m.start, m.stop)

/-- `ms` tiles `[a, b)` with non-empty measures numbered `k, k+1, …, k' - 1` in time order -/
def TN : Nat → Int → List Measure → Nat → Int → Prop
  | a, k, [], b, k' => a = b ∧ k = k'
  | a, k, m :: rest, b, k' => m.start = a ∧ m.start < m.stop ∧ m.number = some k ∧ TN m.stop (k + 1) rest b k'

theorem tn_nil (a b : Nat) (k k' : Int) : TN a k [] b k' ↔ (a = b ∧ k = k') := Iff.rfl
theorem tn_cons (a b : Nat) (k k' : Int) (m : Measure) (rest : List Measure) :
    TN a k (m :: rest) b k' ↔ (m.start = a ∧ m.start < m.stop ∧ m.number = some k ∧ TN m.stop (k + 1) rest b k') :=
  Iff.rfl

theorem tn_chain : ∀ (l : List Measure) (a b : Nat) (k k' : Int), TN a k l b k' → C11Chain.Chain (· < ·) a b (l.map ext)
  | [], _, _, _, _, h => h.1
  | _ :: l, _, _, _, _, ⟨h1, h2, _, h4⟩ => ⟨h1, h2, tn_chain l _ _ _ _ h4⟩

theorem tn_nonempty (l : List Measure) (a b : Nat) (k k' : Int) (h : TN a k l b k') : ∀ m ∈ l, m.start < m.stop :=
  fun m hm => (C11Chain.chain_mem (fun _ _ => Nat.le_of_lt) _ _ _ (tn_chain l a b k k' h) _ (List.mem_map.mpr ⟨m, hm, rfl⟩)).2.1

theorem tn_disjoint (l : List Measure) (a b : Nat) (k k' : Int) (h : TN a k l b k') :
    l.Pairwise (fun m m' => m.stop ≤ m'.start) ∧ ∀ m ∈ l, a ≤ m.start ∧ m.stop ≤ b :=
  ⟨List.pairwise_map.mp (C11Chain.chain_pairwise (fun _ _ => Nat.le_of_lt) _ _ _ (tn_chain l a b k k' h)), fun m hm =>
    let ⟨h1, _, h3⟩ := C11Chain.chain_mem (fun _ _ => Nat.le_of_lt) _ _ _ (tn_chain l a b k k' h) _ (List.mem_map.mpr ⟨m, hm, rfl⟩)
    ⟨h1, h3⟩⟩

theorem tn_start_lt (l : List Measure) (a b : Nat) (k k' : Int) (h : TN a k l b k') : ∀ m ∈ l, m.start < b := by
  intro m hm
  have := ((tn_disjoint l a b k k' h).2 m hm).2
  have := tn_nonempty l a b k k' h m hm
  omega

theorem tn_append : ∀ (l1 l2 : List Measure) (a b c : Nat) (k k' k'' : Int),
    TN a k l1 b k' → TN b k' l2 c k'' → TN a k (l1 ++ l2) c k'' := by
  intro l1
  induction l1 with
  | nil =>
    intro l2 a b c k k' k'' h1 h2
    obtain ⟨rfl, rfl⟩ := h1
    exact h2
  | cons m rest ih =>
    intro l2 a b c k k' k'' h1 h2
    obtain ⟨e1, e2, e3, e4⟩ := (tn_cons ..).mp h1
    exact (tn_cons ..).mpr ⟨e1, e2, e3, ih _ _ _ _ _ _ _ e4 h2⟩

theorem tn_numbers : ∀ (l : List Measure) (a b : Nat) (k k' : Int), TN a k l b k' →
    (∀ (i : Nat) (h : i < l.length), (l[i]).number = some (k + (i : Int))) ∧ k' = k + (l.length : Int) := by
  intro l
  induction l with
  | nil => intro a b k k' h; exact ⟨by intro i hi; simp at hi, by have := h.2; simp [this]⟩
  | cons m rest ih =>
    intro a b k k' h
    obtain ⟨_, _, h3, h4⟩ := (tn_cons ..).mp h
    obtain ⟨i1, i2⟩ := ih _ _ _ _ h4
    refine ⟨?_, by rw [i2]; simp only [List.length_cons]; push_cast; omega⟩
    intro i hi
    cases i with
    | zero => simp [h3]
    | succ j =>
      simp only [List.getElem_cons_succ]
      rw [i1 j (by simpa using hi)]
      push_cast
      congr 1
      omega

theorem tn_cover (l : List Measure) (a b : Nat) (k k' : Int) (h : TN a k l b k') :
    ∀ t, a ≤ t → t < b → ∃ m ∈ l, m.start ≤ t ∧ t < m.stop := by
  intro t h1 h2
  obtain ⟨x, hx, c⟩ := (C11Chain.chain_cover (fun _ _ => Nat.le_of_lt) _ _ _ (tn_chain l a b k k' h) t).mpr ⟨h1, h2⟩
  obtain ⟨m, hm, rfl⟩ := List.mem_map.mp hx
  exact ⟨m, hm, c⟩

/-- the remaining existing measures: in time order, non-empty, pairwise disjoint, none before `n` -/
def TD : Nat → List Measure → Prop
  | _, [] => True
  | n, m :: rest => n ≤ m.start ∧ m.start < m.stop ∧ TD m.stop rest

theorem td_cons (n : Nat) (m : Measure) (rest : List Measure) :
    TD n (m :: rest) ↔ (n ≤ m.start ∧ m.start < m.stop ∧ TD m.stop rest) := Iff.rfl

/-- the input the Reading allows: signatures in time order inside `[first, last]`, a non-empty timeline -/
structure TsOK (p : PartM) : Prop where
  sorted : (p.ts.map (·.t)).Pairwise (· ≤ ·)
  range : ∀ s ∈ p.ts, (p.first : Int) ≤ s.t ∧ s.t ≤ (p.last : Int)
  lt : p.first < p.last
  nonempty : p.ts ≠ []

/-- what the Reading asks of the measures already present: in time order, non-empty, pairwise disjoint,
    inside `[first, last]`, none straddling the end of a stretch -/
structure ExistingOK (p : PartM) (l : List (Nat × Nat × Nat)) : Prop where
  ordered : TD p.first p.measures
  inside : ∀ m ∈ p.measures, m.stop ≤ p.last
  noStraddle : ∀ m ∈ p.measures, ∀ x ∈ l, ¬ (m.start < x.2.1 ∧ x.2.1 < m.stop)

/-- on integer positions the bar-end map answers with a later integer position -/
def Integral (f : Rat → Nat → Option Rat) : Prop :=
  ∀ (n beats : Nat) (v : Rat), f (n : Rat) beats = some v → ∃ w : Nat, v = (w : Rat) ∧ n < w

/-- what `add_measures` needs of the bar-end map on a stretch: on the integer positions `lo ≤ n < hi` it answers a later
    position, integral if before `hi` -/
def LocalOK (f : Rat → Nat → Option Rat) (lo hi beats : Nat) : Prop :=
  ∀ n : Nat, lo ≤ n → n < hi → ∀ v : Rat, f (n : Rat) beats = some v → (n : Rat) < v ∧ (v < (hi : Rat) → ∃ k : Nat, v = (k : Rat))

def AllLocalOK (f : Rat → Nat → Option Rat) (l : List (Nat × Nat × Nat)) : Prop :=
  ∀ x ∈ l, LocalOK f x.1 x.2.1 x.2.2

theorem td_mono : ∀ (l : List Measure) (n n' : Nat), n' ≤ n → TD n l → TD n' l := by
  intro l n n' h hd
  cases l with
  | nil => trivial
  | cons m rest =>
    obtain ⟨h1, h2, h3⟩ := (td_cons ..).mp hd
    exact (td_cons ..).mpr ⟨by omega, h2, h3⟩

theorem td_start_ge : ∀ (l : List Measure) (n : Nat), TD n l → ∀ m ∈ l, n ≤ m.start := by
  intro l
  induction l with
  | nil => intro n _ m hm; simp at hm
  | cons m0 rest ih =>
    intro n h m hm
    obtain ⟨h1, h2, h3⟩ := (td_cons ..).mp h
    rcases List.mem_cons.mp hm with hm | hm
    · subst hm; exact h1
    · have := ih _ h3 m hm; omega

theorem firstInWindow_cons_neg (lo hi : Rat) (m : Measure) (ms : List Measure)
    (h : ¬ (lo ≤ (m.start : Rat) ∧ (m.start : Rat) < hi)) :
    firstInWindow lo hi (m :: ms) = (firstInWindow lo hi ms).map fun (i, x) => (i + 1, x) := by
  show (if lo ≤ (m.start : Rat) ∧ (m.start : Rat) < hi then some (0, m)
    else (firstInWindow lo hi ms).map fun (i, x) => (i + 1, x)) = _
  rw [if_neg h]

theorem firstInWindow_cons_pos (lo hi : Rat) (m : Measure) (ms : List Measure)
    (h : lo ≤ (m.start : Rat) ∧ (m.start : Rat) < hi) :
    firstInWindow lo hi (m :: ms) = some (0, m) := by
  show (if lo ≤ (m.start : Rat) ∧ (m.start : Rat) < hi then some (0, m)
    else (firstInWindow lo hi ms).map fun (i, x) => (i + 1, x)) = _
  rw [if_pos h]

theorem firstInWindow_append (lo hi : Rat) : ∀ (l1 l2 : List Measure),
    (∀ m ∈ l1, ¬ (lo ≤ (m.start : Rat) ∧ (m.start : Rat) < hi)) →
    firstInWindow lo hi (l1 ++ l2) = (firstInWindow lo hi l2).map fun (i, x) => (i + l1.length, x) := by
  intro l1
  induction l1 with
  | nil =>
    intro l2 _
    cases h : firstInWindow lo hi l2 with
    | none => simp [h]
    | some p => simp [h]
  | cons m rest ih =>
    intro l2 h
    have e : (m :: rest) ++ l2 = m :: (rest ++ l2) := rfl
    rw [e, firstInWindow_cons_neg _ _ _ _ (h m List.mem_cons_self),
      ih l2 (fun x hx => h x (List.mem_cons_of_mem _ hx))]
    cases firstInWindow lo hi l2 with
    | none => rfl
    | some p =>
      obtain ⟨i, x⟩ := p
      simp only [Option.map_some, List.length_cons]
      congr 2

theorem firstInWindow_none_of (lo hi : Rat) (l : List Measure)
    (h : ∀ m ∈ l, ¬ (lo ≤ (m.start : Rat) ∧ (m.start : Rat) < hi)) : firstInWindow lo hi l = none := by
  have := firstInWindow_append lo hi l [] h
  rwa [List.append_nil] at this

theorem firstInWindow_mem (lo hi : Rat) : ∀ (l : List Measure) (i : Nat) (x : Measure), firstInWindow lo hi l = some (i, x) →
    x ∈ l ∧ lo ≤ (x.start : Rat) ∧ (x.start : Rat) < hi := by
  intro l
  induction l with
  | nil => intro i x h; cases h
  | cons m ms ih =>
    intro i x h
    by_cases hc : lo ≤ (m.start : Rat) ∧ (m.start : Rat) < hi
    · rw [firstInWindow_cons_pos _ _ _ _ hc] at h
      cases h
      exact ⟨List.mem_cons_self, hc⟩
    · rw [firstInWindow_cons_neg _ _ _ _ hc] at h
      cases hr : firstInWindow lo hi ms with
      | none => rw [hr] at h; cases h
      | some p =>
        rw [hr] at h
        cases h
        obtain ⟨a, b⟩ := ih p.1 p.2 hr
        exact ⟨List.mem_cons_of_mem _ a, b⟩

theorem firstInWindow_hit (n k : Nat) (done : List Measure) (m : Measure) (rest : List Measure)
    (hd : ∀ a ∈ done, a.start < n) (h1 : n ≤ m.start) (h2 : m.start < k) :
    firstInWindow (n : Rat) (k : Rat) (done ++ m :: rest) = some (0 + done.length, m) := by
  rw [firstInWindow_append _ _ _ _ fun a ha hc => absurd (hd a ha) (not_lt.mpr (by exact_mod_cast hc.1)),
    firstInWindow_cons_pos _ _ _ _ ⟨by exact_mod_cast h1, by exact_mod_cast h2⟩]
  rfl

theorem firstInWindow_miss (n k : Nat) (done todo : List Measure) (hd : ∀ a ∈ done, a.start < n) (htd : TD n todo)
    (hhead : ∀ a, todo.head? = some a → k ≤ a.start) : firstInWindow (n : Rat) (k : Rat) (done ++ todo) = none := by
  rw [firstInWindow_append _ _ _ _ fun a ha hc => absurd (hd a ha) (not_lt.mpr (by exact_mod_cast hc.1)),
    firstInWindow_none_of]; · rfl
  intro x hx hc
  cases todo with
  | nil => cases hx
  | cons m rest =>
    have hxs : m.start ≤ x.start := by
      rcases List.mem_cons.mp hx with rfl | hx
      · exact Nat.le_refl _
      · have := td_start_ge _ _ ((td_cons ..).mp htd).2.2 x hx
        have := ((td_cons ..).mp htd).2.1
        omega
    have := hhead m rfl
    have : x.start < k := by exact_mod_cast hc.2
    omega

theorem insMeasure :
    Lists.IsInsertionSort (fun a b : Measure => decide (a.start < b.start)) insertMeasure (List.foldr insertMeasure []) :=
  ⟨fun _ => rfl, fun a b l => by simp only [insertMeasure, decide_eq_true_eq], rfl, fun _ _ => rfl⟩

theorem mem_insertMeasure (x y : Measure) (l : List Measure) : y ∈ insertMeasure x l ↔ y = x ∨ y ∈ l :=
  insMeasure.mem_ins

theorem setNumber_append (l1 : List Measure) (m : Measure) (rest : List Measure) (k : Int) :
    setNumber (0 + l1.length) k (l1 ++ m :: rest) = l1 ++ { m with number := some k } :: rest := by
  unfold setNumber
  induction l1 with
  | nil => simp [List.modify]
  | cons a l1 ih =>
    simp only [List.length_cons, List.cons_append]
    have : 0 + (l1.length + 1) = (0 + l1.length) + 1 := by omega
    rw [this, List.modify_succ_cons, ih]

theorem insertMeasure_append (x : Measure) (l1 l2 : List Measure) (h1 : ∀ a ∈ l1, a.start ≤ x.start)
    (h2 : ∀ a, l2.head? = some a → x.start < a.start) : insertMeasure x (l1 ++ l2) = l1 ++ x :: l2 :=
  insMeasure.ins_append x l1 l2 (fun a ha => decide_eq_false (by have := h1 a ha; omega)) fun b hb => decide_eq_true (h2 b hb)

theorem snap_nat (k : Nat) : snap (k : Rat) = (k : Rat) := by
  unfold snap
  have e : ((k : Nat) : Rat) = ((k : Int) : Rat) := by simp
  simp only
  rw [e, Round.roundHalfEven_int]
  simp [absR]

theorem pyMin_nat (a b : Nat) : pyMin (a : Rat) (b : Rat) = ((min a b : Nat) : Rat) := by
  unfold pyMin
  split
  · rename_i h
    have : b < a := by exact_mod_cast h
    rw [Nat.min_eq_right (le_of_lt this)]
  · rename_i h
    have : ¬ (b < a) := by intro hc; apply h; exact_mod_cast hc
    rw [Nat.min_eq_left (by omega)]

/-- the body of `segLoop` at `fuel + 1`, written out once as a rewrite rule: it has to follow Model/Measures.lean word for word -/
theorem seg_eq (f : Rat → Nat → Option Rat) (tsEnd beats fuel : Nat) (s : St) :
    segLoop f tsEnd beats (fuel + 1) s =
    (if ¬ (s.pos < (tsEnd : Rat)) then .ok s
    else
      match f s.pos beats with
      | none => .error "nan"
      | some be =>
        let measureEnd := snap (pyMin (tsEnd : Rat) be)
        match firstInWindow s.pos measureEnd s.ms with
        | some (i, ex) =>
          if (ex.start : Rat) = s.pos then
            if ¬ ((ex.stop : Rat) > s.pos) then .error "assert"
            else segLoop f tsEnd beats fuel ⟨(ex.stop : Rat), setNumber i s.mc s.ms, s.mc + 1⟩
          else
            let new : Measure := ⟨s.pos.floor.toNat, ex.start, some s.mc⟩
            let ms := insertMeasure new (setNumber i (s.mc + 1) s.ms)
            segLoop f tsEnd beats fuel ⟨(ex.stop : Rat), ms, s.mc + 2⟩
        | none =>
          let new : Measure := ⟨s.pos.floor.toNat, measureEnd.floor.toNat, some s.mc⟩
          segLoop f tsEnd beats fuel ⟨measureEnd, insertMeasure new s.ms, s.mc + 1⟩) := rfl

theorem seg_at (f : Rat → Nat → Option Rat) (tsEnd beats fuel : Nat) (s : St) (be : Rat) (i : Nat) (ex : Measure)
    (h1 : s.pos < (tsEnd : Rat)) (h2 : f s.pos beats = some be)
    (h3 : firstInWindow s.pos (snap (pyMin (tsEnd : Rat) be)) s.ms = some (i, ex))
    (h4 : (ex.start : Rat) = s.pos) (h5 : (ex.stop : Rat) > s.pos) :
    segLoop f tsEnd beats (fuel + 1) s =
      segLoop f tsEnd beats fuel ⟨(ex.stop : Rat), setNumber i s.mc s.ms, s.mc + 1⟩ := by
  rw [seg_eq, if_neg (not_not.mpr h1)]
  simp only [h2, h3, h4, if_true, not_not.mpr h5, if_false]

theorem seg_filler (f : Rat → Nat → Option Rat) (tsEnd beats fuel : Nat) (s : St) (be : Rat) (i : Nat) (ex : Measure)
    (h1 : s.pos < (tsEnd : Rat)) (h2 : f s.pos beats = some be)
    (h3 : firstInWindow s.pos (snap (pyMin (tsEnd : Rat) be)) s.ms = some (i, ex))
    (h4 : ¬ ((ex.start : Rat) = s.pos)) :
    segLoop f tsEnd beats (fuel + 1) s =
      segLoop f tsEnd beats fuel ⟨(ex.stop : Rat),
        insertMeasure ⟨s.pos.floor.toNat, ex.start, some s.mc⟩ (setNumber i (s.mc + 1) s.ms), s.mc + 2⟩ := by
  rw [seg_eq, if_neg (not_not.mpr h1)]
  simp only [h2, h3, h4, if_false]

theorem seg_new (f : Rat → Nat → Option Rat) (tsEnd beats fuel : Nat) (s : St) (be : Rat)
    (h1 : s.pos < (tsEnd : Rat)) (h2 : f s.pos beats = some be)
    (h3 : firstInWindow s.pos (snap (pyMin (tsEnd : Rat) be)) s.ms = none) :
    segLoop f tsEnd beats (fuel + 1) s =
      segLoop f tsEnd beats fuel ⟨snap (pyMin (tsEnd : Rat) be),
        insertMeasure ⟨s.pos.floor.toNat, (snap (pyMin (tsEnd : Rat) be)).floor.toNat, some s.mc⟩ s.ms, s.mc + 1⟩ := by
  rw [seg_eq, if_neg (not_not.mpr h1)]
  simp only [h2, h3]

theorem seg_stop (f : Rat → Nat → Option Rat) (tsEnd beats fuel : Nat) (s : St)
    (h1 : ¬ (s.pos < (tsEnd : Rat))) : segLoop f tsEnd beats (fuel + 1) s = .ok s := by
  show (if ¬ (s.pos < (tsEnd : Rat)) then Except.ok s else _) = _
  rw [if_pos h1]

theorem integral_localOK (f : Rat → Nat → Option Rat) (hf : Integral f) (lo hi beats : Nat) : LocalOK f lo hi beats := by
  intro n _ _ v hv
  obtain ⟨w, rfl, hw⟩ := hf n beats v hv
  exact ⟨Nat.cast_lt.mpr hw, fun _ => ⟨w, rfl⟩⟩

/-- what the loop makes of the answer `v` at the integer position `n < hi`: an integer `k` in `(n, hi]`, which is `v`
    unless the stretch ends first -/
theorem bar_cut (hi n : Nat) (hn : n < hi) (v : Rat) (h1 : (n : Rat) < v) (h2 : v < (hi : Rat) → ∃ k : Nat, v = (k : Rat)) :
    ∃ k : Nat, snap (pyMin (hi : Rat) v) = (k : Rat) ∧ n < k ∧ k ≤ hi ∧ (k : Rat) ≤ v ∧ ((k : Rat) = v ∨ k = hi) := by
  by_cases hv : v < (hi : Rat)
  · obtain ⟨k, rfl⟩ := h2 hv
    have hkh : k < hi := by exact_mod_cast hv
    exact ⟨k, by rw [pyMin_nat, snap_nat, Nat.min_eq_right hkh.le], by exact_mod_cast h1, hkh.le, le_rfl, Or.inl rfl⟩
  · refine ⟨hi, ?_, hn, le_rfl, not_lt.mp hv, Or.inr rfl⟩
    unfold pyMin; rw [if_neg hv, snap_nat]

/-- the invariant of `add_measures` at time `n`: `done` tiles `[first, n)` numbered from 1, `todo` are the untouched
    existing measures from `n` on, the existing ones already passed are among `done` with their extents, and every
    other measure of `done` satisfies `Q` -/
def InvAt (Q : Measure → Prop) (first : Nat) (orig : List Measure) (n : Nat) (ms : List Measure) (mc : Int) : Prop :=
  ∃ (done todo consumed : List Measure),
    ms = done ++ todo ∧ TN first 1 done n mc ∧ TD n todo ∧
    orig = consumed ++ todo ∧ (consumed.map ext).Sublist (done.map ext) ∧
    ∀ m ∈ done, (∃ x ∈ orig, ext x = ext m) ∨ Q m

/-- one turn of the loop moves the invariant from `n` to `n'`: the measures `add` tile `[n, n')`, and the existing
    measures `c` that leave `todo` are among them -/
theorem invAt_extend (Q : Measure → Prop) (first : Nat) (orig done todo' consumed add c : List Measure) (n n' : Nat)
    (mc mc' : Int) (htn : TN first 1 done n mc) (horig : orig = consumed ++ (c ++ todo'))
    (hsub : (consumed.map ext).Sublist (done.map ext)) (hq : ∀ m ∈ done, (∃ x ∈ orig, ext x = ext m) ∨ Q m)
    (hadd : TN n mc add n' mc') (htd : TD n' todo') (hc : (c.map ext).Sublist (add.map ext))
    (hqa : ∀ m ∈ add, (∃ x ∈ orig, ext x = ext m) ∨ Q m) :
    InvAt Q first orig n' (done ++ (add ++ todo')) mc' :=
  ⟨done ++ add, todo', consumed ++ c, (List.append_assoc ..).symm, tn_append _ _ _ _ _ _ _ _ htn hadd, htd,
    by rw [horig, List.append_assoc], by rw [List.map_append, List.map_append]; exact hsub.append hc,
    fun m hm => (List.mem_append.mp hm).elim (hq m) (hqa m)⟩

/-- why an added measure `[start, stop)` of a stretch ending at `tsEnd` with `beats` beats per bar has the
    extent it has: it starts inside the stretch, ends where the bar-end map says a full bar from `start` ends, or earlier because the stretch
    ends (next signature change / end of the part) or an existing measure starts there -/
def JSeg (f : Rat → Nat → Option Rat) (orig : List Measure) (lo tsEnd beats : Nat) (m : Measure) : Prop :=
  ∃ v : Rat, f (m.start : Rat) beats = some v ∧ lo ≤ m.start ∧ m.start < tsEnd ∧ (m.stop : Rat) ≤ v ∧ m.stop ≤ tsEnd ∧
    ((m.stop : Rat) = v ∨ m.stop = tsEnd ∨ ∃ x ∈ orig, x.start = m.stop)

/-- one turn of the loop at an integer position `n < tsEnd` on a list `done ++ todo`: it adds the tiling `add` of `[n, n')`
    behind `done`, takes the existing measures `c` out of `todo`, and goes on from `n'` -/
theorem seg_step (f : Rat → Nat → Option Rat) (lo tsEnd beats : Nat) (hf : LocalOK f lo tsEnd beats)
    (fuel : Nat) (done todo : List Measure) (n : Nat) (mc : Int) (r : St) (hlo : lo ≤ n) (hn : n < tsEnd)
    (hdone : ∀ a ∈ done, a.start < n) (htd : TD n todo) (hns : ∀ m ∈ todo, ¬ (m.start < tsEnd ∧ tsEnd < m.stop))
    (h : segLoop f tsEnd beats (fuel + 1) ⟨(n : Rat), done ++ todo, mc⟩ = .ok r) :
    ∃ (add c todo' : List Measure) (n' : Nat) (mc' : Int), todo = c ++ todo' ∧ TN n mc add n' mc' ∧ n' ≤ tsEnd ∧ TD n' todo' ∧
      (c.map ext).Sublist (add.map ext) ∧ (∀ m ∈ add, (∃ x ∈ c, ext x = ext m) ∨ JSeg f todo lo tsEnd beats m) ∧
      segLoop f tsEnd beats fuel ⟨(n' : Rat), done ++ (add ++ todo'), mc'⟩ = .ok r := by
  have hlt : (⟨(n : Rat), done ++ todo, mc⟩ : St).pos < (tsEnd : Rat) := by show (n : Rat) < tsEnd; exact_mod_cast hn
  cases hfv : f (n : Rat) beats with
  | none =>
    rw [seg_eq, if_neg (not_not.mpr hlt)] at h
    simp only [hfv] at h
    cases h
  | some be =>
    obtain ⟨l1, l2⟩ := hf n hlo hn be hfv
    obtain ⟨k, hme, hnh, hhle, hkv, hkc⟩ := bar_cut tsEnd n hn be l1 l2
    have hdle : ∀ a ∈ done, a.start ≤ n := fun a ha => (hdone a ha).le
    by_cases hin : ∃ m rest, todo = m :: rest ∧ m.start < k
    swap
    · -- nothing of `todo` starts before the bar end: a new measure up to it
      have hhead : ∀ a, todo.head? = some a → k ≤ a.start := fun a ha => by
        cases todo with
        | nil => cases ha
        | cons m rest => cases ha; exact not_lt.mp fun hc => hin ⟨_, _, rfl, hc⟩
      have hwin := firstInWindow_miss n k done todo hdone htd hhead
      rw [← hme] at hwin
      rw [seg_new _ _ _ _ _ _ hlt hfv hwin, hme, Round.floor_toNat_natCast, Round.floor_toNat_natCast,
        insertMeasure_append _ _ _ hdle fun a ha => Nat.lt_of_lt_of_le hnh (hhead a ha)] at h
      refine ⟨[⟨n, k, some mc⟩], [], todo, k, mc + 1, rfl, (tn_cons ..).mpr ⟨rfl, hnh, rfl, (tn_nil ..).mpr ⟨rfl, rfl⟩⟩, hhle,
        ?_, List.nil_sublist _, fun m hm => ?_, h⟩
      · cases todo with
        | nil => trivial
        | cons m rest =>
          obtain ⟨_, t2, t3⟩ := (td_cons ..).mp htd
          exact (td_cons ..).mpr ⟨hhead m rfl, t2, t3⟩
      · cases List.mem_singleton.mp hm
        exact Or.inr ⟨be, hfv, hlo, hn, hkv, hhle, hkc.imp_right Or.inl⟩
    obtain ⟨m, rest, rfl, hmw⟩ := hin
    obtain ⟨t1, t2, t3⟩ := (td_cons ..).mp htd
    have hwin := firstInWindow_hit n k done m rest hdone t1 hmw
    rw [← hme] at hwin
    have hstop : m.stop ≤ tsEnd := by have := hns m List.mem_cons_self; omega
    by_cases hat : m.start = n
    · -- the existing measure starts at the position: it is numbered
      rw [seg_at _ _ _ _ _ _ _ _ hlt hfv hwin (by rw [hat])
        (by show (m.stop : Rat) > (n : Rat); exact_mod_cast (by omega : n < m.stop)), setNumber_append] at h
      exact ⟨[{ m with number := some mc }], [m], rest, m.stop, mc + 1, rfl,
        (tn_cons ..).mpr ⟨hat, t2, rfl, (tn_nil ..).mpr ⟨rfl, rfl⟩⟩, hstop, t3, List.Sublist.refl _,
        fun x hx => by cases List.mem_singleton.mp hx; exact Or.inl ⟨m, List.mem_singleton_self _, rfl⟩, h⟩
    · -- it starts later: a measure fills the room up to it
      have hgt : n < m.start := by omega
      rw [seg_filler _ _ _ _ _ _ _ _ hlt hfv hwin (fun hc => hat (by exact_mod_cast (show (m.start : Rat) = (n : Rat) from hc))),
        setNumber_append, Round.floor_toNat_natCast, insertMeasure_append _ _ _ hdle fun a ha => by cases ha; exact hgt] at h
      refine ⟨[⟨n, m.start, some mc⟩, { m with number := some (mc + 1) }], [m], rest, m.stop, mc + 2, rfl,
        (tn_cons ..).mpr ⟨rfl, hgt, rfl, (tn_cons ..).mpr ⟨rfl, t2, rfl, (tn_nil ..).mpr ⟨rfl, by omega⟩⟩⟩, hstop, t3,
        List.Sublist.cons _ (List.Sublist.refl _), fun x hx => ?_, h⟩
      rcases List.mem_cons.mp hx with rfl | hx
      · exact Or.inr ⟨be, hfv, hlo, hn, le_trans (Nat.cast_le.mpr hmw.le) hkv, by show m.start ≤ tsEnd; omega,
          Or.inr (Or.inr ⟨m, List.mem_cons_self, rfl⟩)⟩
      · cases List.mem_singleton.mp hx
        exact Or.inl ⟨m, List.mem_singleton_self _, rfl⟩

theorem seg_inv (f : Rat → Nat → Option Rat) (Q : Measure → Prop) (first : Nat) (orig : List Measure)
    (lo tsEnd beats : Nat) (hf : LocalOK f lo tsEnd beats) (hQ : ∀ m, JSeg f orig lo tsEnd beats m → Q m)
    (hns : ∀ m ∈ orig, ¬ (m.start < tsEnd ∧ tsEnd < m.stop)) :
    ∀ (fuel : Nat) (s s' : St) (n : Nat), s.pos = (n : Rat) → lo ≤ n → n ≤ tsEnd → InvAt Q first orig n s.ms s.mc →
      segLoop f tsEnd beats fuel s = .ok s' → s'.pos = (tsEnd : Rat) ∧ InvAt Q first orig tsEnd s'.ms s'.mc := by
  intro fuel
  induction fuel with
  | zero => intro s s' n _ _ _ _ h; simp [segLoop] at h
  | succ fuel ih =>
    intro s s' n hpos hlo hle hinv h
    by_cases hlt : s.pos < (tsEnd : Rat)
    swap
    · rw [seg_stop _ _ _ _ _ hlt] at h
      cases h
      have : ¬ (n < tsEnd) := by intro hc; apply hlt; rw [hpos]; exact_mod_cast hc
      have hn : n = tsEnd := by omega
      subst hn
      exact ⟨hpos, hinv⟩
    obtain ⟨done, todo, consumed, hms, htn, htd, horig, hsub, hq⟩ := hinv
    have hnlt : n < tsEnd := by rw [hpos] at hlt; exact_mod_cast hlt
    obtain ⟨pos, ms, mc⟩ := s
    simp only at hpos hms htn
    subst hpos hms
    have hsubset : ∀ m ∈ todo, m ∈ orig := fun m hm => horig ▸ List.mem_append_right _ hm
    obtain ⟨add, c, todo', n', mc', rfl, hadd, hle', htd', hc, hqa, h'⟩ := seg_step f lo tsEnd beats hf fuel done todo n mc s'
      hlo hnlt (tn_start_lt _ _ _ _ _ htn) htd (fun m hm => hns m (hsubset m hm)) h
    refine ih _ s' n' rfl (le_trans hlo (C11Chain.chain_le (fun _ _ => Nat.le_of_lt) _ _ _ (tn_chain _ _ _ _ _ hadd))) hle' ?_ h'
    refine invAt_extend Q first orig done todo' consumed add c n n' mc mc' htn horig hsub hq hadd htd' hc fun m hm => ?_
    rcases hqa m hm with ⟨x, hx, e⟩ | ⟨v, j1, j2, j3, j4, j5, j6⟩
    · exact Or.inl ⟨x, hsubset x (List.mem_append_left _ hx), e⟩
    · exact Or.inr (hQ m ⟨v, j1, j2, j3, j4, j5, j6.imp_right (Or.imp_right fun ⟨x, hx, e⟩ => ⟨x, hsubset x hx, e⟩)⟩)

/-- the stretches chain from `a` to `z` -/
def SC : Nat → Nat → List (Nat × Nat × Nat) → Prop
  | a, z, [] => a = z
  | a, z, (s, e, _) :: rest => s = a ∧ s ≤ e ∧ SC e z rest

theorem sc_cons (a z s e b : Nat) (rest : List (Nat × Nat × Nat)) :
    SC a z ((s, e, b) :: rest) ↔ (s = a ∧ s ≤ e ∧ SC e z rest) := Iff.rfl

theorem sc_chain : ∀ (l : List (Nat × Nat × Nat)) (a z : Nat), SC a z l → C11Chain.Chain (· ≤ ·) a z (l.map fun x => (x.1, x.2.1))
  | [], _, _, h => h
  | (_, _, _) :: l, _, _, ⟨h1, h2, h3⟩ => ⟨h1, h2, sc_chain l _ _ h3⟩

theorem sc_bounds (l : List (Nat × Nat × Nat)) (a z : Nat) (h : SC a z l) : ∀ x ∈ l, a ≤ x.1 ∧ x.2.1 ≤ z := fun x hx =>
  let ⟨h1, _, h3⟩ := C11Chain.chain_mem (fun _ _ h => h) _ _ _ (sc_chain l a z h) _ (List.mem_map.mpr ⟨x, hx, rfl⟩)
  ⟨h1, h3⟩

theorem run_inv (f : Rat → Nat → Option Rat) (Q : Measure → Prop) (first : Nat) (orig : List Measure)
    (fuel : Nat) :
    ∀ (l : List (Nat × Nat × Nat)) (a z : Nat) (ms : List Measure) (mc : Int) (ms' : List Measure) (mc' : Int),
      AllLocalOK f l → SC a z l → (∀ m ∈ orig, ∀ x ∈ l, ¬ (m.start < x.2.1 ∧ x.2.1 < m.stop)) →
      (∀ x ∈ l, ∀ m, JSeg f orig x.1 x.2.1 x.2.2 m → Q m) →
      InvAt Q first orig a ms mc → runStretches f fuel l ms mc = .ok (ms', mc') → InvAt Q first orig z ms' mc' := by
  intro l
  induction l with
  | nil =>
    intro a z ms mc ms' mc' _ hsc _ _ hinv h
    have : a = z := hsc
    subst this
    simp only [runStretches, Except.ok.injEq, Prod.mk.injEq] at h
    obtain ⟨rfl, rfl⟩ := h
    exact hinv
  | cons x rest ih =>
    intro a z ms mc ms' mc' hf hsc hns hQl hinv h
    obtain ⟨s, e, b⟩ := x
    obtain ⟨hs, hse, hrest⟩ := (sc_cons ..).mp hsc
    subst hs
    unfold runStretches at h
    split at h
    · cases h
    · rename_i st hst
      obtain ⟨_, hst'⟩ := seg_inv f Q first orig s e b (hf (s, e, b) List.mem_cons_self)
        (hQl (s, e, b) List.mem_cons_self) (fun m hm => hns m hm (s, e, b) List.mem_cons_self)
        fuel ⟨(s : Rat), ms, mc⟩ st s rfl (le_refl _) hse hinv hst
      exact ih e z st.ms st.mc ms' mc' (fun x hx => hf x (List.mem_cons_of_mem _ hx)) hrest
        (fun m hm x hx => hns m hm x (List.mem_cons_of_mem _ hx)) (fun x hx => hQl x (List.mem_cons_of_mem _ hx)) hst' h

/-- the signature changes as `add_measures` lays them out: in time order, the first at `a`, none after `z` -/
structure Starts (a z : Int) (tsl : List (Int × Nat)) : Prop where
  sorted : (tsl.map (·.1)).Pairwise (· ≤ ·)
  le : ∀ x ∈ tsl, x.1 ≤ z
  head : ∃ b rest, tsl = (a, b) :: rest

theorem chain_zip : ∀ (tsl : List (Int × Nat)) (a z : Int), Starts a z tsl →
    SC a.toNat z.toNat ((tsl.zip ((tsl.map (·.1)).tail ++ [z])).map mkStretch) := by
  intro tsl
  induction tsl with
  | nil => intro a z h; obtain ⟨_, _, e⟩ := h.head; cases e
  | cons x rest ih =>
    intro a z h
    obtain ⟨b, _, e⟩ := h.head
    cases e
    cases rest with
    | nil => exact (sc_cons ..).mpr ⟨rfl, Int.toNat_le_toNat (h.le _ List.mem_cons_self), rfl⟩
    | cons y rest' =>
      obtain ⟨t1, b1⟩ := y
      have hs := List.pairwise_cons.mp h.sorted
      exact (sc_cons ..).mpr ⟨rfl, Int.toNat_le_toNat (hs.1 t1 List.mem_cons_self),
        ih t1 z ⟨hs.2, fun x hx => h.le x (List.mem_cons_of_mem _ hx), b1, rest', rfl⟩⟩

theorem tsEnds_eq (last : Nat) (starts : List Int) (h : starts.length = (tsEnds last starts).length) :
    tsEnds last starts = starts.tail ++ [(last : Int)] := by
  unfold tsEnds at h ⊢
  split
  · rfl
  · rename_i e he
    split
    · rfl
    · rename_i hlt
      rw [he] at h
      simp only [hlt, if_false] at h
      cases starts with
      | nil => simp at he
      | cons a as => simp at h

theorem prepend_starts (first : Nat) (z : Int) (hfz : (first : Int) ≤ z) (tsl : List (Int × Nat)) (hne : tsl ≠ [])
    (hs : (tsl.map (·.1)).Pairwise (· ≤ ·)) (hr : ∀ x ∈ tsl, (first : Int) ≤ x.1 ∧ x.1 ≤ z) :
    Starts first z (tsPrepend first tsl) := by
  cases tsl with
  | nil => exact absurd rfl hne
  | cons x rest =>
    obtain ⟨t0, b0⟩ := x
    have e : tsPrepend first ((t0, b0) :: rest) =
        if t0 > (first : Int) then ((first : Int), 4) :: (t0, b0) :: rest else (t0, b0) :: rest := rfl
    rw [e]
    split
    · rename_i hgt
      refine ⟨List.pairwise_cons.mpr ⟨fun a ha => ?_, hs⟩, fun y hy => ?_, 4, _, rfl⟩
      · obtain ⟨y, hy, rfl⟩ := List.mem_map.mp ha
        exact (hr y hy).1
      · rcases List.mem_cons.mp hy with rfl | hy
        · exact hfz
        · exact (hr y hy).2
    · have h0 := hr (t0, b0) List.mem_cons_self
      obtain rfl : t0 = (first : Int) := by simp only at h0; omega
      exact ⟨hs, fun x hx => (hr x hx).2, b0, rest, rfl⟩

theorem dropLast_starts (first last : Nat) (hlt : first < last) (tsl : List (Int × Nat)) (h : Starts first last tsl) :
    Starts first last (tsDropLast last tsl) := by
  obtain ⟨b, rest, rfl⟩ := h.head
  unfold tsDropLast
  split
  · rename_i t b' hl
    split
    · cases rest with
      | nil =>
        simp only [List.getLast?_singleton, Option.some.injEq, Prod.mk.injEq] at hl
        omega
      | cons y ys =>
        rw [List.dropLast_cons_of_ne_nil (List.cons_ne_nil y ys)]
        exact ⟨h.sorted.sublist (((List.dropLast_sublist _).cons_cons _).map _),
          fun x hx => h.le x ((List.mem_cons.mp hx).elim (fun e => e ▸ List.mem_cons_self)
            fun hx => List.mem_cons_of_mem _ (List.dropLast_subset _ hx)), b, _, rfl⟩
    · exact h
  · exact h

theorem stretches_chain (p : PartM) (hok : TsOK p) (l : List (Nat × Nat × Nat)) (h : stretches p = some l) :
    SC p.first p.last l := by
  have hst : Starts p.first p.last (tsDropLast p.last (tsPrepend p.first (p.ts.map fun s => (s.t, s.beats)))) := by
    refine dropLast_starts p.first p.last hok.lt _ (prepend_starts p.first p.last (by exact_mod_cast le_of_lt hok.lt) _
      (by simpa using hok.nonempty) (by rw [List.map_map]; exact hok.sorted) fun x hx => ?_)
    obtain ⟨s, hs, rfl⟩ := List.mem_map.mp hx
    exact hok.range s hs
  unfold stretches at h
  simp only at h
  split at h
  · cases h
  · rename_i hlen
    rw [← Option.some.inj h, tsEnds_eq _ _ (not_not.mp hlen)]
    simpa using chain_zip _ _ _ hst

theorem add_measures_sound (f : Rat → Nat → Option Rat) (p : PartM) (fuel : Nat)
    (l : List (Nat × Nat × Nat)) (ms' : List Measure) (hf : AllLocalOK f l) (hok : TsOK p)
    (hl : stretches p = some l) (hex : ExistingOK p l) (h : addMeasuresWith f p fuel = .ok ms') :
    TN p.first 1 ms' p.last (1 + (ms'.length : Int)) ∧ (p.measures.map ext).Sublist (ms'.map ext) ∧
    ∀ m ∈ ms', (∃ x ∈ p.measures, ext x = ext m) ∨ ∃ x ∈ l, JSeg f p.measures x.1 x.2.1 x.2.2 m := by
  have hts : p.ts.isEmpty = false := by
    cases hts : p.ts with
    | nil => exact absurd hts hok.nonempty
    | cons a as => rfl
  unfold addMeasuresWith at h
  rw [hts] at h
  simp only [Bool.false_eq_true, if_false, Nat.ne_of_lt hok.lt, hl] at h
  cases hr : runStretches f fuel l p.measures 1 with
  | error e => rw [hr] at h; cases h
  | ok r =>
    obtain ⟨msr, mcr⟩ := r
    rw [hr] at h
    simp only [Except.map, Except.ok.injEq] at h
    subst h
    have h0 : InvAt (fun m => ∃ x ∈ l, JSeg f p.measures x.1 x.2.1 x.2.2 m) p.first p.measures p.first p.measures 1 :=
      ⟨[], p.measures, [], rfl, (tn_nil ..).mpr ⟨rfl, rfl⟩, hex.ordered, rfl, List.Sublist.refl _,
        by intro m hm; simp at hm⟩
    obtain ⟨done, todo, consumed, g1, g2, g3, g4, g5, g6⟩ :=
      run_inv f _ p.first p.measures fuel l p.first p.last p.measures 1 msr mcr hf (stretches_chain p hok l hl)
        hex.noStraddle (fun x hx m hj => ⟨x, hx, hj⟩) h0 hr
    -- nothing can be left after the last point
    have htodo : todo = [] := by
      cases todo with
      | nil => rfl
      | cons m rest =>
        exfalso
        obtain ⟨t1, t2, _⟩ := (td_cons ..).mp g3
        have := hex.inside m (by rw [g4]; simp)
        omega
    subst htodo
    simp only [List.append_nil] at g1 g4
    subst g1 g4
    refine ⟨?_, g5, g6⟩
    have := (tn_numbers _ _ _ _ _ g2).2
    rw [← this]; exact g2

theorem add_measures_tile (f : Rat → Nat → Option Rat) (p : PartM) (fuel : Nat)
    (l : List (Nat × Nat × Nat)) (ms' : List Measure) (hf : AllLocalOK f l) (hok : TsOK p)
    (hl : stretches p = some l) (hex : ExistingOK p l) (h : addMeasuresWith f p fuel = .ok ms') :
    ms'.Pairwise (fun m m' => m.stop ≤ m'.start) ∧
    (∀ m ∈ ms', p.first ≤ m.start ∧ m.stop ≤ p.last) ∧
    (∀ t, p.first ≤ t → t < p.last → ∃ m ∈ ms', m.start ≤ t ∧ t < m.stop) ∧
    (p.measures.map ext).Sublist (ms'.map ext) := by
  obtain ⟨htn, hsub, _⟩ := add_measures_sound f p fuel l ms' hf hok hl hex h
  obtain ⟨d1, d2⟩ := tn_disjoint _ _ _ _ _ htn
  exact ⟨d1, d2, tn_cover _ _ _ _ _ htn, hsub⟩

end C11Meas
