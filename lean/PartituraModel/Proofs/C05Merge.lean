/-
Rescaling to a multiple of the divisions is exact; the part prefix of ids (`pad2`, `prefixFrom`) is injective and goes
by the index of the part; `mergeTables` written with the tables it merges (`C05.prefixed`, `C05.mergeTables_eq`).
-/
import PartituraModel.Model.NoteArray
import PartituraModel.Proofs.Digits
import Mathlib.Tactic.FieldSimp

namespace NoteArray

open List Model

theorem rescale_exact (x : Int) (d L : Nat) (hd : 0 < d) (hL : 0 < L) (hdvd : d ∣ L) :
    (((x * ((L / d : Nat) : Int) : Int) : Rat) / (L : Rat)) = (x : Rat) / (d : Rat) := by
  obtain ⟨k, rfl⟩ := hdvd
  have hk : 0 < k := by
    rcases Nat.eq_zero_or_pos k with h | h
    · subst h; simp at hL
    · exact h
  rw [Nat.mul_div_cancel_left k hd]
  have hd' : (d : Rat) ≠ 0 := by exact_mod_cast (Nat.pos_iff_ne_zero.mp hd)
  have hk' : (k : Rat) ≠ 0 := by exact_mod_cast (Nat.pos_iff_ne_zero.mp hk)
  push_cast
  field_simp

theorem pad2_value (i : Nat) : digitsToNat (pad2 i) = i := by
  unfold pad2
  split
  · rename_i h
    unfold digitsToNat
    simp only [foldl_cons, foldl_nil]
    rw [Digits.digitChar_toNat i h]
    decide +revert
  · exact Digits.digitsToNat_natDigits i

theorem pad2_no_underscore (i : Nat) : '_' ∉ pad2 i := by
  unfold pad2
  split
  · rename_i h
    intro hm
    rcases mem_cons.mp hm with h0 | hm
    · exact absurd h0 (by decide)
    · rcases mem_cons.mp hm with h1 | hm
      · exact absurd (h1 ▸ Digits.digitChar_isDigit i h) (by decide)
      · simp at hm
  · exact fun hm => absurd (Digits.natDigits_isDigit i '_' hm) (by decide)

theorem pad2_injective (i j : Nat) (h : pad2 i = pad2 j) : i = j := by
  have := congrArg digitsToNat h
  rwa [pad2_value, pad2_value] at this

theorem prefixFrom_eq_zipIdx : ∀ (ts : List (List Row)) (i : Nat),
    prefixFrom i ts = (ts.zipIdx i).map fun p => prefixTable p.2 p.1
  | [], _ => rfl
  | t :: ts, i => by rw [prefixFrom, prefixFrom_eq_zipIdx ts, zipIdx_cons, map_cons]

theorem prefixFrom_length : ∀ (ts : List (List Row)) (i : Nat), (prefixFrom i ts).length = ts.length := by
  intro ts i
  rw [prefixFrom_eq_zipIdx, length_map, length_zipIdx]

theorem prefixFrom_getElem? (ts : List (List Row)) (i k : Nat) :
    (prefixFrom i ts)[k]? = (ts[k]?).map (prefixTable (i + k)) := by
  rw [prefixFrom_eq_zipIdx, getElem?_map, getElem?_zipIdx]
  cases ts[k]? <;> rfl

theorem prefixFrom_mem (ts : List (List Row)) (i : Nat) (t' : List Row) (h : t' ∈ prefixFrom i ts) :
    ∃ t ∈ ts, ∃ j, t' = prefixTable j t := by
  rw [prefixFrom_eq_zipIdx] at h
  obtain ⟨⟨t, j⟩, hm, rfl⟩ := mem_map.mp h
  exact ⟨t, (mem_zipIdx hm).2.2 ▸ getElem_mem _, j, rfl⟩

theorem prefixFrom_tableDivs (ts : List (List Row)) (i : Nat) :
    (prefixFrom i ts).map tableDivs = ts.map tableDivs := by
  rw [prefixFrom_eq_zipIdx, map_map]
  conv_rhs => rw [← zipIdx_map_fst i ts, map_map]
  exact map_congr_left fun p _ => by cases h : p.1 <;> simp [prefixTable, tableDivs, h]

end NoteArray

namespace C05
open NoteArray List

/-- the tables that are merged: prefixed when asked for and there are at least two -/
def prefixed (unique : Bool) (ts : List (List Row)) : List (List Row) :=
  if unique && decide (1 < ts.length) then prefixFrom 0 ts else ts

theorem prefixed_tableDivs (unique : Bool) (ts : List (List Row)) :
    (prefixed unique ts).map tableDivs = ts.map tableDivs := by
  unfold prefixed; split
  · exact prefixFrom_tableDivs ts 0
  · rfl

theorem mergeTables_eq (unique : Bool) (ts : List (List Row)) :
    mergeTables unique ts =
      if ((ts.map tableDivs).any (· = 0)) then none
      else some (sortRows (((prefixed unique ts).map (scaleTable (Model.natLcm (ts.map tableDivs)))).flatten)) := by
  have : mergeTables unique ts =
      if (((prefixed unique ts).map tableDivs).any (· = 0)) then none
      else some (sortRows (((prefixed unique ts).map
        (scaleTable (Model.natLcm ((prefixed unique ts).map tableDivs)))).flatten)) := rfl
  rw [this, prefixed_tableDivs]

end C05
