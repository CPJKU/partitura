/-
C20 — the three heap models (buffers of Model/ArrayView.lean, list cells of Model/RefHeap.lean, note cells of
Model/ArgForms.lean) are lists addressed by position, and their in-place writes are one function: the cell at an
address, if there is one, becomes `g` of itself (`writeNote_eq`, `writeAll_eq`, `writeWhere_eq`, `appendAt_eq`, each
in the file about its model).  `upd g l a` is core's `l.modify a g` (`upd_eq_modify`), written as the models write
it - a lookup, then `set` - so that their equations hold by unfolding.  Reading after such a write, and that a write at
an address allocated later does not reach a cell that existed before, are stated once here.
-/
namespace C20Store

def upd {β : Type} (g : β → β) (l : List β) (a : Nat) : List β :=
  match l[a]? with
  | some x => l.set a (g x)
  | none => l

variable {β : Type} (g : β → β)

theorem upd_eq_modify (l : List β) (a : Nat) : upd g l a = l.modify a g := by
  unfold upd
  induction l generalizing a with
  | nil => simp
  | cons y l ih =>
    cases a with
    | zero => rfl
    | succ a => rw [List.modify_succ_cons, ← ih]; cases h : l[a]? <;> simp [h]

theorem upd_length (l : List β) (a : Nat) : (upd g l a).length = l.length := by
  rw [upd_eq_modify, List.length_modify]

theorem upd_get (l : List β) (a i : Nat) : (upd g l a)[i]? = if i = a then (l[i]?).map g else l[i]? := by
  rw [upd_eq_modify, List.getElem?_modify]
  by_cases h : a = i
  · subst h; simp
  · simp [h, Ne.symm h]

theorem upd_last (l : List β) (x : β) : upd g (l ++ [x]) l.length = l ++ [g x] := by
  simp [upd]

/-- a write at an address allocated later does not reach a cell that existed before -/
theorem upd_append_old (l ext : List β) {a b : Nat} (ha : l.length ≤ a) (hb : b < l.length) :
    (upd g (l ++ ext) a)[b]? = l[b]? := by
  rw [upd_get, if_neg (by omega), List.getElem?_append_left hb]

end C20Store
