/-
C13 — the decoder on real-valued rolls (Model/PianoRollDecodeQ.lean): the loop of Proofs/C13Decode.lean on the reading
`keyQ` — a non-zero cell sounds with its integer part as velocity, possibly 0 —, so `runsOf_spec` says what its runs are;
on an integer matrix both readings give the same active lists, so it extends the integer decoder.
-/
import PartituraModel.Proofs.C13Decode

namespace C13
open Model Model.PianoRoll
open List

theorem decodeQ_eq_emit (rows : Nat) (cols : List (List Rat)) (td : Rat) :
    decodeQ rows cols td = emitRuns rows (decodeRunsQ cols) td := rfl

theorem decodeRunsQ_eq_runsOf (cols : List (List Rat)) : decodeRunsQ cols = runsOf activeOfQ cols := by
  unfold decodeRunsQ runsOf
  rw [← foldl_enum_eq_foldCols (e := enumColsQ) ⟨fun _ => rfl, fun _ _ _ => rfl⟩]

theorem enumColQ_cast (i : Nat) (col : List Int) :
    enumColQ i (col.map (fun v : Int => (v : Rat))) = (activeOf.enumCol i col).map (fun pv => (pv.1, (pv.2 : Rat))) := by
  induction col generalizing i with
  | nil => rfl
  | cons a col ih => simp [enumColQ, activeOf.enumCol, ih]

theorem activeOfQ_cast (col : List Int) : activeOfQ (col.map (fun v : Int => (v : Rat))) = activeOf col := by
  unfold activeOfQ activeOf
  rw [enumColQ_cast, filter_map, map_map]
  have hf : ((fun pv : Nat × Rat => pv.2 != 0) ∘ fun pv : Nat × Int => (pv.1, (pv.2 : Rat))) = fun pv => pv.2 != 0 := by
    funext pv
    have : ((pv.2 : Rat) = 0) ↔ pv.2 = 0 := by exact_mod_cast Iff.rfl
    rw [Bool.eq_iff_iff]
    simp only [Function.comp, bne_iff_ne, ne_eq, this]
  rw [hf]
  conv_rhs => rw [← map_id (filter (fun pv => pv.2 != 0) (activeOf.enumCol 0 col))]
  apply map_congr_left
  intro pv _
  simp [Function.comp, truncRat_intCast]

theorem decodeRunsQ_cast (cols : List (List Int)) :
    decodeRunsQ (cols.map (fun c : List Int => c.map (fun v : Int => (v : Rat)))) = decodeRuns cols := by
  rw [decodeRunsQ_eq_runsOf, decodeRuns_eq_runsOf]
  have : ∀ (cols : List (List Int)) t st,
      foldCols activeOfQ t (cols.map (fun c : List Int => c.map (fun v : Int => (v : Rat)))) st = foldCols activeOf t cols st := by
    intro cols
    induction cols with
    | nil => intro t st; rfl
    | cons c cs ih => intro t st; simp only [map_cons, foldCols, ih, activeOfQ_cast]
  unfold runsOf
  rw [this]

/-- the key of a real-valued cell: non-zero cells sound, with their integer part -/
def keyQ (q : Rat) : Option Int := if q = 0 then none else some (truncRat q)

theorem isEnum_enumColQ : Lists.IsEnum enumColQ := ⟨fun _ => rfl, fun _ _ _ => rfl⟩

theorem graph_activeOfQ (col : List Rat) : Graph (activeOfQ col) (fun p => keyQ (col[p]?.getD 0)) where
  mem p v := by
    unfold activeOfQ keyQ
    rw [mem_map]
    constructor
    · rintro ⟨⟨p', q⟩, hm, he⟩
      rw [mem_filter, isEnum_enumColQ.mem] at hm
      obtain ⟨⟨_, hq⟩, hne⟩ := hm
      simp only [Prod.mk.injEq] at he
      obtain ⟨rfl, rfl⟩ := he
      simp only [Nat.sub_zero] at hq
      have hne' : q ≠ 0 := by simpa using hne
      rw [hq, Option.getD_some, if_neg hne']
    · intro h
      split at h
      · cases h
      · rename_i hne
        refine ⟨(p, col[p]?.getD 0), ?_, by rw [← Option.some.inj h]⟩
        rw [mem_filter, isEnum_enumColQ.mem]
        refine ⟨⟨Nat.zero_le _, ?_⟩, by simpa using hne⟩
        simp only [Nat.sub_zero]
        cases hc : col[p]? with
        | none => rw [hc] at hne; exact absurd rfl hne
        | some w => rfl
  nodup := by
    unfold activeOfQ
    rw [map_map]
    exact nodup_of_pairwise_fst
      ((isEnum_enumColQ.pairwise 0 col).sublist filter_sublist)

/-- `pianoroll[p, t]` of a real-valued matrix given by its columns (0 outside) -/
def cellAtQ (cols : List (List Rat)) (p t : Nat) : Rat :=
  match cols[t]? with
  | some c => c[p]?.getD 0
  | none => 0

/-- a maximal run of a row of a real-valued roll: non-zero cells of one integer part `vel`, bounded on both sides by
    the edge of the roll, a zero cell, or a cell of another integer part -/
def MaxRunQ (g : Nat → Rat) (T : Nat) (x : Run) : Prop :=
  x.on < x.off ∧ x.off ≤ T ∧ (∀ s, x.on ≤ s → s < x.off → g s ≠ 0 ∧ truncRat (g s) = x.vel) ∧
    (x.on = 0 ∨ g (x.on - 1) = 0 ∨ truncRat (g (x.on - 1)) ≠ x.vel) ∧
    (x.off = T ∨ g x.off = 0 ∨ truncRat (g x.off) ≠ x.vel)

theorem decodeRunsQ_spec (cols : List (List Rat)) :
    (decodeRunsQ cols).Nodup ∧ (decodeRunsQ cols).Pairwise (fun a b => runLe a b = true) ∧
    ∀ x, x ∈ decodeRunsQ cols ↔ MaxRunQ (cellAtQ cols x.pitch) cols.length x := by
  rw [decodeRunsQ_eq_runsOf]
  have := runsOf_spec activeOfQ (fun s p => keyQ (cellAtQ cols p s)) cols (fun j c hj => by
    have : (fun p => keyQ (cellAtQ cols p j)) = fun p => keyQ (c[p]?.getD 0) := by
      funext p; unfold cellAtQ; rw [hj]
    rw [this]; exact graph_activeOfQ c)
  have hk : ∀ (q : Rat) (v : Int), keyQ q = some v ↔ q ≠ 0 ∧ truncRat q = v := by
    intro q v; unfold keyQ; split <;> simp [*]
  have hk' : ∀ (q : Rat) (v : Int), keyQ q ≠ some v ↔ q = 0 ∨ truncRat q ≠ v := by
    intro q v; rw [ne_eq, hk]; by_cases h0 : q = 0 <;> simp [h0]
  refine ⟨this.1, this.2.1, fun x => (this.2.2 x).trans ?_⟩
  unfold MaxRunK MaxRunQ
  simp only [hk, hk']

end C13
