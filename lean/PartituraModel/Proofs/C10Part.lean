/-
C10 — what the maps of Model/StepMapPart.lean take from the beat maps of property C02: `divs_per_beat` and
`beats_per_bar` of a part description, and the key times of a part on `[0, l]`.
-/
import PartituraModel.Proofs.C10Sig
import PartituraModel.Proofs.C10Measures
import PartituraModel.Props.C02

namespace C10
open Model Model.StepMap

theorem sortedTimes_iff : ∀ l : List Int, sortedTimes l = true ↔ l.Pairwise (· ≤ ·)
  | [] => by simp [sortedTimes]
  | [a] => by simp [sortedTimes]
  | a :: b :: rest => by
    have ih := sortedTimes_iff (b :: rest)
    simp only [sortedTimes, Bool.and_eq_true, decide_eq_true_eq, ih]
    constructor
    · rintro ⟨hab, hp⟩
      rw [List.pairwise_cons]
      refine ⟨?_, hp⟩
      intro c hc
      rcases List.mem_cons.mp hc with rfl | hc'
      · exact hab
      · have := (List.pairwise_cons.mp hp).1 c hc'
        omega
    · intro hp
      rw [List.pairwise_cons] at hp
      exact ⟨hp.1 b List.mem_cons_self, hp.2⟩

theorem timePart_first_last (p : PartD) (f l : Int) (h : p.span = some (f, l)) :
    (timePart p).first = f ∧ (timePart p).last = l := by
  unfold timePart
  rw [h]
  exact ⟨rfl, rfl⟩

/-- the key times of the beat map of a part on `[0, l]`: the two ends, the quarter-duration changes, the signature starts -/
theorem mem_keyTimes_timePart (p : PartD) (l : Int) (hspan : p.span = some (0, l)) (x : Int) :
    x ∈ TimeMap.keyTimes (timePart p) (TimeMap.beatMode (timePart p))
      ↔ x = 0 ∨ x = l ∨ x ∈ p.qd.map (·.1) ∨ x ∈ p.ts.map (·.t) := by
  obtain ⟨hf, hl⟩ := timePart_first_last p 0 l hspan
  rw [C02Proofs.mem_keyTimes, hf, hl, C02Proofs.mem_qdAssign_keys, C02Proofs.mem_facAssign_keys]
  show _ ∨ _ ∨ (∃ e ∈ p.qd, e.1 = x) ∨ (_ ∧ ∃ s ∈ p.ts, s.t = x) ↔ _
  simp only [List.mem_map, C02Proofs.beatMode_ne_quarter, ne_eq, not_false_eq_true, true_and]

/-- increasing non-negative times that include 0 and a positive time begin `0, b, …` -/
theorem increasing_from_zero {K : List Int} (hs : K.Pairwise (· < ·)) (hn : ∀ x ∈ K, 0 ≤ x) (h0 : (0 : Int) ∈ K)
    {l : Int} (hl : 0 < l) (hlK : l ∈ K) : ∃ b K'', K = 0 :: b :: K'' ∧ 0 < b := by
  cases K with
  | nil => exact absurd h0 List.not_mem_nil
  | cons a K' =>
    have hs' := List.pairwise_cons.mp hs
    have ha0 : a = 0 := by
      rcases List.mem_cons.mp h0 with h | h
      · exact h.symm
      · have := hs'.1 0 h
        have := hn a List.mem_cons_self
        omega
    subst ha0
    have hlK' : l ∈ K' := by
      rcases List.mem_cons.mp hlK with h | h
      · omega
      · exact h
    cases K' with
    | nil => exact absurd hlK' List.not_mem_nil
    | cons b K'' => exact ⟨b, K'', rfl, hs'.1 b List.mem_cons_self⟩

theorem divsPerBeat_fwd (p : PartD) (h : C02Proofs.WF (timePart p) (TimeMap.beatMode (timePart p))) (b0 d : Rat)
    (h0 : TimeMap.beatMap (timePart p) 0 = some b0) (hd : divsPerBeat p = some d) :
    TimeMap.beatMap (timePart p) d = some (b0 + 1) := by
  unfold divsPerBeat at hd
  rw [h0] at hd
  simp only [Option.bind_some] at hd
  have := C02.fwd_inv _ _ h d (1 + b0) hd
  rw [add_comm]
  exact this

/-- closed form when the first stretch of the beat map (from key point `k` at time 0 to the next key point `k'`)
    is at least one beat long -/
theorem divsPerBeat_closed (p : PartD) (h : C02Proofs.WF (timePart p) (TimeMap.beatMode (timePart p)))
    (k k' : TimeMap.KP) (post : List TimeMap.KP)
    (hk : TimeMap.keypoints (timePart p) (TimeMap.beatMode (timePart p)) = k :: k' :: post)
    (hk0 : k.t = 0) (hreach : k.divs / k.fac ≤ (k'.t : Rat)) :
    divsPerBeat p = some (k.divs / k.fac) := by
  have hkm : k ∈ TimeMap.keypoints (timePart p) (TimeMap.beatMode (timePart p)) := by rw [hk]; simp
  obtain ⟨hd, hf⟩ := (C02Proofs.keypoints_ok _ _ h).1.2 k hkm
  have hpos : (0 : Rat) ≤ k.divs / k.fac := div_nonneg (le_of_lt hd) (le_of_lt hf)
  have hkt : ((k.t : Int) : Rat) = 0 := by rw [hk0]; simp
  obtain ⟨yk, h1, h2⟩ := C02.fwd_segment _ _ h [] post k k' (by simpa using hk) (k.divs / k.fac)
    (by rw [hkt]; exact hpos) hreach
  rw [hkt] at h1 h2
  have e : yk + (k.divs / k.fac - 0) * (k.fac / k.divs) = 1 + yk := by
    have h1' : k.divs ≠ 0 := ne_of_gt hd
    have h2' : k.fac ≠ 0 := ne_of_gt hf
    field_simp
    ring
  rw [e] at h2
  unfold divsPerBeat
  show (TimeMap.fwd (timePart p) (TimeMap.beatMode (timePart p)) 0).bind _ = _
  rw [h1]
  simp only [Option.bind_some]
  exact C02.inv_fwd _ _ h _ _ h2

theorem beatsPerBar_simple (p : PartD) (l : Int) (s0 : TimeMap.TSig) (rest : List TimeMap.TSig)
    (hspan : p.span = some (0, l)) (hts : p.ts = s0 :: rest) (hs0 : s0.t = 0) (hlater : ∀ s ∈ rest, 0 < s.t) :
    beatsPerBar p = some (if p.musical then (s0.mb : Rat) else (s0.beats : Rat)) := by
  unfold beatsPerBar
  rw [hspan, hts, tsMapE_eq (some (0, l)) _ 0 (Int.le_refl _) nofun]
  have : lookupPrev (tsRowsE (s0 :: rest)) 0 = some (s0.beats, s0.beatType, s0.mb) := by
    refine lookupPrev_of_some _ 0 _ (lastLE_head s0.t _ (tsRowsE rest) 0 (by omega) fun e he => ?_)
    -- the next row is the next signature, which starts after 0
    cases rest with
    | nil => cases he
    | cons a r => exact Option.some.inj he ▸ hlater a List.mem_cons_self
  rw [this]
  rfl

/-- the measure maps read the quarter-duration table through `divs_per_beat` alone -/
theorem measureMaps_congr_qd (p : PartD) (qd' : List (Int × Nat))
    (hd : divsPerBeat { p with qd := qd' } = divsPerBeat p) (x : Int) :
    measureMapP { p with qd := qd' } x = measureMapP p x ∧
    measureNumberMapP { p with qd := qd' } x = measureNumberMapP p x ∧
    metricalMapP { p with qd := qd' } x = metricalMapP p x := by
  -- whether the maps raise, the beats per bar and the measures do not mention the table
  have hra : raisesP { p with qd := qd' } = raisesP p := rfl
  have htb : measureTableP { p with qd := qd' } = measureTableP p :=
    congrArg (measureTable p.span (bars p) (beatsPerBar p)) hd
  unfold measureMapP measureNumberMapP metricalMapP
  rw [hra, htb, hd]
  exact ⟨rfl, rfl, rfl⟩

end C10
