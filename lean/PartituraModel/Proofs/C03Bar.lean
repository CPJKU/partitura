/-
C03 — one `<barline>` element: what `readBarline` finds in what `writeBarline` wrote, the children that reading
accounts for (`itemsOfRead`), and the order they come in (`barRank`, namespace `C03.Fix2`); the `<harmony>` and `<print>`
elements read back (namespace `C03.BarOps`).
-/
import PartituraModel.Model.XmlBar
import PartituraModel.Proofs.C03Find

namespace C03.Bar
open Model Model.XmlNote Model.XmlBar C03.Text

theorem read_repeat (items : List BarItem) :
    (find tRepeat (items.map itemEl)).map readRepDir = (items.filterMap BarItem.repDir).head? := by
  rw [find_map, List.map_findSome?, List.head?_filterMap]
  congr 1; funext i; cases i <;> rfl

theorem read_ending (items : List BarItem) :
    (find tEnding (items.map itemEl)).map (fun e => (readEndType e, e.get .number)) =
      (items.filterMap BarItem.ending).head? := by
  rw [find_map, List.map_findSome?, List.head?_filterMap]
  congr 1; funext i; cases i <;> rfl

theorem read_barline_fermata (items : List BarItem) :
    (find .fermata (items.map itemEl)).isSome = items.any BarItem.isFermata := by
  rw [find_map, List.isSome_findSome?]
  congr 1; funext i; cases i <;> rfl

theorem read_style (items : List BarItem) : find tBarStyle (items.map itemEl) = none := by
  rw [find_map, List.findSome?_eq_none_iff]
  intro i _; cases i <;> rfl

theorem bar_roundtrip (loc : Loc) (items : List BarItem) : readBarline (writeBarline loc items) = canonBar loc items := by
  unfold readBarline writeBarline canonBar
  simp only [Xml.kids, read_repeat, read_ending, read_barline_fermata, read_style, Option.map_none]
  simp [Xml.get, Xml.attrs, Model.lookup]

theorem count_filterMap {α β : Type} [BEq α] [LawfulBEq α] [BEq β] [LawfulBEq β] (f : α → Option β)
    (hinj : ∀ a a' b, f a = some b → f a' = some b → a = a') (a : α) (b : β) (hab : f a = some b) (l : List α) :
    l.count a = (l.filterMap f).count b := by
  induction l with
  | nil => rfl
  | cons x r ih =>
    rw [List.filterMap_cons, List.count_cons]
    cases hx : f x with
    | none =>
      have hne : x ≠ a := fun e => by rw [e, hab] at hx; cases hx
      simp [hne, ih]
    | some b' =>
      by_cases hb : b' = b
      · subst hb
        have : x = a := hinj x a b' hx hab
        subst this
        simp [ih]
      · have hne : x ≠ a := fun e => by rw [e, hab] at hx; cases hx; exact hb rfl
        simp [List.count_cons, hne, hb, ih]

/-- the item a `<repeat>` direction was written for -/
def ofRepDir : RepDir → BarItem
  | .forward => .repeatFwd
  | _ => .repeatBwd

theorem ofRepDir_repDir {a : BarItem} {b : RepDir} (h : a.repDir = some b) : ofRepDir b = a := by
  cases a <;> cases h <;> rfl

theorem repDir_inj (a a' : BarItem) (b : RepDir) (h : a.repDir = some b) (h' : a'.repDir = some b) : a = a' :=
  (ofRepDir_repDir h).symm.trans (ofRepDir_repDir h')

/-- the item an `<ending>` type and number were written for -/
def ofEnding : EndType × Option Str → BarItem
  | (.start, some n) => .endingStart n
  | (_, some n) => .endingStop n
  | (_, none) => .fermata

theorem ofEnding_ending {a : BarItem} {b : EndType × Option Str} (h : a.ending = some b) : ofEnding b = a := by
  cases a <;> cases h <;> rfl

theorem ending_inj (a a' : BarItem) (b : EndType × Option Str) (h : a.ending = some b) (h' : a'.ending = some b) :
    a = a' :=
  (ofEnding_ending h).symm.trans (ofEnding_ending h')

theorem count_fermata (items : List BarItem) : items.count .fermata = (items.filter BarItem.isFermata).length := by
  induction items with
  | nil => rfl
  | cons x r ih => cases x <;> simp [List.count_cons, List.filter_cons, BarItem.isFermata, ih]

theorem count_short {β : Type} [BEq β] [LawfulBEq β] [DecidableEq β] (l : List β) (h : l.length ≤ 1) (b : β) :
    l.count b = if l.head? = some b then 1 else 0 := by
  match l, h with
  | [], _ => simp
  | [x], _ => by_cases hx : x = b <;> simp [hx]

/-- the `<ending>` child of type `ty` that a reading accounts for -/
def endingPiece (ty : EndType) (mk : Str → BarItem) : Option (EndType × Option Str) → List BarItem
  | some (t, some n) => if t = ty then [mk n] else []
  | _ => []

theorem itemsOfRead_eq (b : BarRead) :
    itemsOfRead b = (if b.fermata then [.fermata] else []) ++ (if b.rep = some .forward then [.repeatFwd] else []) ++
      endingPiece .start .endingStart b.ending ++ (if b.rep = some .backward then [.repeatBwd] else []) ++
      endingPiece .stop .endingStop b.ending := by
  unfold itemsOfRead
  congr 1
  · congr 1
    · congr 1
      · congr 1
        rcases b.rep with _ | (_ | _ | _) <;> rfl
      · rcases b.ending with _ | ⟨(_ | _ | _), (_ | m)⟩ <;> rfl
    · rcases b.rep with _ | (_ | _ | _) <;> rfl
  · rcases b.ending with _ | ⟨(_ | _ | _), (_ | m)⟩ <;> rfl

theorem endingPiece_cases (ty : EndType) (mk : Str → BarItem) (e : Option (EndType × Option Str)) :
    endingPiece ty mk e = [] ∨ ∃ n, endingPiece ty mk e = [mk n] := by
  rcases e with _ | ⟨t, _ | m⟩
  · exact .inl rfl
  · exact .inl rfl
  · by_cases ht : t = ty
    · exact .inr ⟨m, if_pos ht⟩
    · exact .inl (if_neg ht)

theorem count_ite_singleton (c : Prop) [Decidable c] (x a : BarItem) :
    (if c then [x] else []).count a = if c ∧ x = a then 1 else 0 := by
  by_cases hc : c <;> by_cases hx : x = a <;> simp [hc, hx]

theorem count_endingPiece_mk (ty : EndType) (mk : Str → BarItem) (hinj : ∀ m n, mk m = mk n → m = n)
    (e : Option (EndType × Option Str)) (n : Str) :
    (endingPiece ty mk e).count (mk n) = if e = some (ty, some n) then 1 else 0 := by
  rcases e with _ | ⟨t, _ | m⟩
  · rfl
  · simp [endingPiece]
  · by_cases ht : t = ty <;> by_cases hm : m = n <;> simp [endingPiece, ht, hm]
    exact List.count_eq_zero.mpr fun h => hm (hinj _ _ (List.mem_singleton.mp h).symm)

theorem count_endingPiece_other (ty : EndType) (mk : Str → BarItem) (a : BarItem) (h : ∀ n, mk n ≠ a)
    (e : Option (EndType × Option Str)) : (endingPiece ty mk e).count a = 0 := by
  rcases e with _ | ⟨t, _ | m⟩
  · rfl
  · rfl
  · by_cases ht : t = ty <;> simp [endingPiece, ht, h m]

theorem count_itemsOfRead (b : BarRead) (a : BarItem) :
    (itemsOfRead b).count a =
      match a with
      | .fermata => if b.fermata = true then 1 else 0
      | .repeatFwd => if b.rep = some .forward then 1 else 0
      | .repeatBwd => if b.rep = some .backward then 1 else 0
      | .endingStart n => if b.ending = some (.start, some n) then 1 else 0
      | .endingStop n => if b.ending = some (.stop, some n) then 1 else 0 := by
  rw [itemsOfRead_eq]
  simp only [List.count_append, count_ite_singleton]
  have i1 : ∀ m n, BarItem.endingStart m = .endingStart n → m = n := fun _ _ h => by cases h; rfl
  have i2 : ∀ m n, BarItem.endingStop m = .endingStop n → m = n := fun _ _ h => by cases h; rfl
  cases a with
  | endingStart n =>
    rw [count_endingPiece_mk _ _ i1, count_endingPiece_other _ _ _ (fun _ h => by cases h)]
    simp
  | endingStop n =>
    rw [count_endingPiece_mk _ _ i2, count_endingPiece_other _ _ _ (fun _ h => by cases h)]
    simp
  | _ =>
    rw [count_endingPiece_other _ _ _ (fun _ h => by cases h), count_endingPiece_other _ _ _ (fun _ h => by cases h)]
    simp

end C03.Bar

/-! ### the order of the children

`do_barlines` appends the children of one barline in a fixed order; the children a reading accounts for come in it. -/

namespace C03.Fix2
open Model Model.XmlNote Model.XmlBar

/-- the order in which `do_barlines` appends the children of one barline -/
def barRank : BarItem → Nat
  | .fermata => 0
  | .repeatFwd => 1
  | .endingStart _ => 2
  | .repeatBwd => 3
  | .endingStop _ => 4

theorem sorted_append_piece {l p : List BarItem} {k : Nat} (hl : l.Pairwise (fun x y => barRank x < barRank y) ∧
    ∀ x ∈ l, barRank x < k) (hp : p = [] ∨ ∃ y, p = [y] ∧ barRank y = k) :
    (l ++ p).Pairwise (fun x y => barRank x < barRank y) ∧ ∀ x ∈ l ++ p, barRank x < k + 1 := by
  rcases hp with rfl | ⟨y, rfl, hy⟩
  · rw [List.append_nil]; exact ⟨hl.1, fun x hx => Nat.lt_succ_of_lt (hl.2 x hx)⟩
  · refine ⟨List.pairwise_append.mpr ⟨hl.1, List.pairwise_singleton _ _, fun x hx z hz => ?_⟩, fun x hx => ?_⟩
    · rw [List.mem_singleton.mp hz, hy]; exact hl.2 x hx
    · rcases List.mem_append.mp hx with h | h
      · exact Nat.lt_succ_of_lt (hl.2 x h)
      · rw [List.mem_singleton.mp h, hy]; exact Nat.lt_succ_self k

theorem ite_piece (c : Prop) [Decidable c] (x : BarItem) (k : Nat) (hx : barRank x = k) :
    (if c then [x] else []) = [] ∨ ∃ y, (if c then [x] else []) = [y] ∧ barRank y = k := by
  by_cases hc : c
  · exact .inr ⟨x, if_pos hc, hx⟩
  · exact .inl (if_neg hc)

theorem endingPiece_piece (ty : EndType) (mk : Str → BarItem) (k : Nat) (hk : ∀ n, barRank (mk n) = k)
    (e : Option (EndType × Option Str)) :
    C03.Bar.endingPiece ty mk e = [] ∨ ∃ y, C03.Bar.endingPiece ty mk e = [y] ∧ barRank y = k :=
  (C03.Bar.endingPiece_cases ty mk e).imp_right fun ⟨n, hn⟩ => ⟨mk n, hn, hk n⟩

theorem itemsOfRead_sorted (b : BarRead) : (itemsOfRead b).Pairwise (fun x y => barRank x < barRank y) := by
  rw [C03.Bar.itemsOfRead_eq]
  have h0 := sorted_append_piece (l := []) (k := 0) ⟨.nil, fun _ h => nomatch h⟩
    (ite_piece (b.fermata = true) .fermata 0 rfl)
  have h1 := sorted_append_piece h0 (ite_piece (b.rep = some .forward) .repeatFwd 1 rfl)
  have h2 := sorted_append_piece h1 (endingPiece_piece .start .endingStart 2 (fun _ => rfl) b.ending)
  have h3 := sorted_append_piece h2 (ite_piece (b.rep = some .backward) .repeatBwd 3 rfl)
  exact (sorted_append_piece h3 (endingPiece_piece .stop .endingStop 4 (fun _ => rfl) b.ending)).1

end C03.Fix2

namespace C03.BarOps
open Model Model.XmlNote Model.XmlBar

theorem splitOn_of_not_contains (c : Char) (t : Str) (h : t.contains c = false) : splitOn c t = [t] := by
  induction t with
  | nil => rfl
  | cons x xs ih =>
    have hx : x ≠ c ∧ xs.contains c = false := by
      simp only [List.contains_cons, Bool.or_eq_false_iff, beq_eq_false_iff_ne, ne_eq] at h
      exact ⟨fun e => h.1 e.symm, h.2⟩
    unfold splitOn
    rw [ih hx.2]
    simp [hx.1]

theorem harmony_roundtrip (w : HarmW) (h : WellFormedHarm w) : readHarmony (writeHarmony w) = canonHarmony w := by
  cases w with
  | roman t =>
    obtain ⟨hne, hbar⟩ := h
    show (if t = [] then some [] else if t.contains '|' = true then _ else some [HarmObj.roman t]) = _
    rw [if_neg hne, hbar]
    rfl
  | chord root kind bass =>
    -- the children are found by evaluation; what is left is the test of the root's text
    have hroot : root ≠ [] := h
    cases bass with
    | none =>
      show (if root = [] then none else some [HarmObj.chord root _ _]) = _
      rw [if_neg hroot]; rfl
    | some b =>
      show (if root = [] then none else some [HarmObj.chord root _ (if b = [] then none else some b)]) = _
      rw [if_neg hroot]; rfl
  | cadence t =>
    have hbar : t.contains '|' = false := h
    have hf : find tFunction [leaf tFunction ('|' :: t), kindEl []] = some (leaf tFunction ('|' :: t)) := by
      simp [find, findall, leaf, Xml.tag, kindEl, tFunction, tKind, nFunction, nKind]
    have hs : splitOn '|' ('|' :: t) = [[], t] := by
      unfold splitOn
      rw [splitOn_of_not_contains '|' t hbar]
      simp
    simp only [readHarmony, writeHarmony, Xml.kids, hf, canonHarmony]
    simp [leaf, Xml.text, hs]

theorem print_roundtrip (p s : Bool) : readPrint (writePrint p s) = (p, s) := by
  cases p <;> cases s <;> decide

end C03.BarOps
