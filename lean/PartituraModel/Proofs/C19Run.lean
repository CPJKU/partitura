/-
The MEI reader as a fold over the events (`runEvs = foldlM stepEv`): what a run does on a list put together from pieces.
No Mathlib.
-/
import PartituraModel.Model.Mei
import PartituraModel.Proofs.Lists

namespace C19S
open Model Model.Mei

theorem runEvs_step (s : St) (e : Ev) (l : List Ev) : runEvs s (e :: l) = (stepEv s e).bind fun s' => runEvs s' l := by
  rw [runEvs]
  cases stepEv s e <;> rfl

theorem runEvs_eq_foldlM (st : St) (evs : List Ev) : runEvs st evs = evs.foldlM stepEv st :=
  Lists.eq_foldlM stepEv runEvs (fun _ => rfl) runEvs_step st evs

theorem runEvs_append (st : St) (a b : List Ev) :
    runEvs st (a ++ b) = (runEvs st a).bind fun st' => runEvs st' b :=
  Lists.run_append stepEv runEvs (fun _ => rfl) runEvs_step st a b

theorem runEvs_cons {st s : St} {e : Ev} (h : stepEv st e = some s) (evs : List Ev) : runEvs st (e :: evs) = runEvs s evs := by
  simp only [runEvs, h]

theorem inSection_eta (st : St) (h : st.inSection = true) : ({ st with inSection := true } : St) = st := by
  obtain ⟨s, b⟩ := st
  simp only at h
  subst h
  rfl

end C19S
