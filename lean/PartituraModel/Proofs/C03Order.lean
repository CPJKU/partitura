/-
C03 — the importer handles the `<slur>`/`<tuplet>` elements of one note sorted by number
(`noteOrder`); elements with different numbers do not interact, so this re-ordering does not change which
ranges are recovered.
-/
import PartituraModel.Model.RangeNumbers
import PartituraModel.Proofs.Lists

namespace C03.Order
open Model.Ranges

/-- a step leaves the entries under other numbers alone -/
theorem pairCore_other (ct : Bool) (o : Ongoing) (m : Mark) (b : Bool) {j : Nat} (h : j ≠ m.number) :
    (pairCore ct o m).1 (b, j) = o (b, j) := by
  have hk : ∀ c, (b, j) ≠ (c, m.number) := fun c hc => h (congrArg Prod.snd hc)
  have hs : ∀ c p (o : Ongoing), oset (c, m.number) p o (b, j) = o (b, j) := fun c _ _ => if_neg (hk c)
  have he : ∀ c (o : Ongoing), oerase (c, m.number) o (b, j) = o (b, j) := fun c _ => if_neg (hk c)
  unfold pairCore
  repeat' split
  all_goals simp only [hs, he]

/-- two tables with the same entries under number `n` -/
def Agree (n : Nat) (o o' : Ongoing) : Prop := ∀ b, o (b, n) = o' (b, n)

theorem Agree.oset {n : Nat} {o o' : Ongoing} (h : Agree n o o') (k : Bool × Nat) (p : Pending) :
    Agree n (oset k p o) (oset k p o') := fun b => by simp only [Model.Ranges.oset, h b]

theorem Agree.oerase {n : Nat} {o o' : Ongoing} (h : Agree n o o') (k : Bool × Nat) :
    Agree n (oerase k o) (oerase k o') := fun b => by simp only [Model.Ranges.oerase, h b]

/-- what a step does depends only on the two entries under its own number -/
theorem pairCore_local (ct : Bool) {o o' : Ongoing} (m : Mark) (h : Agree m.number o o') :
    (pairCore ct o m).2 = (pairCore ct o' m).2 ∧ Agree m.number (pairCore ct o m).1 (pairCore ct o' m).1 := by
  unfold pairCore
  simp only [ofind, ← h true, ← h false, ← (h.oerase (false, m.number)) true, ← (h.oerase (true, m.number)) false]
  split
  · split
    · split
      · split
        · exact ⟨rfl, (h.oerase _).oset _ _⟩
        · exact ⟨rfl, h.oerase _⟩
      · exact ⟨rfl, h.oerase _⟩
    · exact ⟨rfl, h.oset _ _⟩
  · split
    · split
      · split
        · exact ⟨rfl, (h.oerase _).oset _ _⟩
        · exact ⟨rfl, h.oerase _⟩
      · exact ⟨rfl, h.oerase _⟩
    · exact ⟨rfl, h.oset _ _⟩

/-- two reader states are the same up to the order in which completed and lost ranges were recorded -/
def PEq (s s' : PState) : Prop := s.ongoing = s'.ongoing ∧ s.done.Perm s'.done ∧ s.lost.Perm s'.lost

theorem PEq.refl (s : PState) : PEq s s := ⟨rfl, List.Perm.refl _, List.Perm.refl _⟩

theorem PEq.trans {a b c : PState} (h1 : PEq a b) (h2 : PEq b c) : PEq a c :=
  ⟨h1.1.trans h2.1, h1.2.1.trans h2.2.1, h1.2.2.trans h2.2.2⟩

theorem pairStep_congr (ct : Bool) {s s' : PState} (h : PEq s s') (m : Mark) :
    PEq (pairStep ct s m) (pairStep ct s' m) := by
  obtain ⟨ho, hd, hl⟩ := h
  unfold pairStep
  rw [ho]
  exact ⟨rfl, hd.append_right _, hl.append_right _⟩

theorem pairAll_congr (ct : Bool) (l : List Mark) {s s' : PState} (h : PEq s s') :
    PEq (pairAll ct s l) (pairAll ct s' l) := by
  induction l generalizing s s' with
  | nil => exact h
  | cons m rest ih => exact ih (pairStep_congr ct h m)

theorem pairStep_comm (ct : Bool) (s : PState) (m1 m2 : Mark) (hne : m1.number ≠ m2.number) :
    PEq (pairStep ct (pairStep ct s m1) m2) (pairStep ct (pairStep ct s m2) m1) := by
  -- the second step sees what the first one saw under its own number
  have a12 := pairCore_local ct m2 fun b => pairCore_other ct s.ongoing m1 b hne.symm
  have a21 := pairCore_local ct m1 fun b => pairCore_other ct s.ongoing m2 b hne
  unfold PEq pairStep
  simp only [a12.1, a21.1, List.append_assoc]
  refine ⟨?_, List.Perm.append_left _ List.perm_append_comm, List.Perm.append_left _ List.perm_append_comm⟩
  funext ⟨b, j⟩
  by_cases h2 : j = m2.number
  · subst h2
    rw [a12.2 b, pairCore_other ct _ m1 b hne.symm]
  · by_cases h1 : j = m1.number
    · subst h1
      rw [a21.2 b, pairCore_other ct _ m2 b hne]
    · rw [pairCore_other ct _ m2 b h2, pairCore_other ct _ m1 b h1, pairCore_other ct _ m1 b h1,
        pairCore_other ct _ m2 b h2]

theorem pairAll_cons (ct : Bool) (s : PState) (m : Mark) (l : List Mark) :
    pairAll ct s (m :: l) = pairAll ct (pairStep ct s m) l := rfl

theorem pairAll_append (ct : Bool) (s : PState) (a b : List Mark) :
    pairAll ct s (a ++ b) = pairAll ct (pairAll ct s a) b := by
  unfold pairAll; rw [List.foldl_append]

theorem pairAll_insert (ct : Bool) (lt : Mark → Mark → Bool) (x : Mark) :
    ∀ (l : List Mark) (s : PState), (∀ y ∈ l, lt y x = true → y.number ≠ x.number) →
      PEq (pairAll ct s (insertMark lt x l)) (pairAll ct s (x :: l)) := by
  intro l
  induction l with
  | nil => intro s _; exact PEq.refl _
  | cons y ys ih =>
    intro s h
    unfold insertMark
    by_cases hyx : lt y x = true
    · simp only [hyx, if_true]
      rw [pairAll_cons]
      refine (ih (pairStep ct s y) (fun z hz => h z (List.mem_cons_of_mem _ hz))).trans ?_
      rw [pairAll_cons, pairAll_cons, pairAll_cons]
      exact pairAll_congr ct ys (pairStep_comm ct s y x (h y (List.mem_cons_self ..) hyx))
    · simp only [hyx, if_false]
      exact PEq.refl _

theorem pairAll_sort_number (ct : Bool) :
    ∀ (l : List Mark) (s : PState),
      PEq (pairAll ct s (sortMarks (fun a b => decide (a.number < b.number)) l)) (pairAll ct s l) := by
  intro l
  induction l with
  | nil => intro s; exact PEq.refl _
  | cons x xs ih =>
    intro s
    unfold sortMarks
    refine (pairAll_insert ct _ x _ s ?_).trans ?_
    · intro y _ hy
      simp at hy; omega
    · rw [pairAll_cons, pairAll_cons]
      exact ih _

abbrev numLt : Mark → Mark → Bool := fun a b => decide (a.number < b.number)
abbrev typeLt : Mark → Mark → Bool := fun a b => !a.isStart && b.isStart

theorem isSortMarks (lt : Mark → Mark → Bool) : Lists.IsInsertionSort (fun a b => !lt b a) (insertMark lt) (sortMarks lt) :=
  ⟨fun _ => rfl, fun a b l => by cases h : lt b a <;> simp [insertMark, h], rfl, fun _ _ => rfl⟩

/-- stops before starts -/
def TypeSorted (l : List Mark) : Prop := l.Pairwise fun a b => typeLt b a = false

theorem noteOrder_eq {l : List Mark} (h : TypeSorted l) : noteOrder l = sortMarks numLt l := by
  unfold noteOrder
  rw [(isSortMarks typeLt).eq_self (h.imp fun hab => (Bool.not_eq_true' _).mpr hab)]

theorem typeSorted_append {A B : List Mark} (hA : ∀ a ∈ A, a.isStart = false) (hB : ∀ b ∈ B, b.isStart = true) :
    TypeSorted (A ++ B) := by
  unfold TypeSorted
  rw [List.pairwise_append]
  refine ⟨?_, ?_, ?_⟩
  · refine List.pairwise_of_forall_mem_list ?_
    intro a ha b _
    simp [typeLt, hA a ha]
  · refine List.pairwise_of_forall_mem_list ?_
    intro a _ b hb
    simp [typeLt, hB b hb]
  · intro a ha b hb
    simp [typeLt, hA a ha]

theorem pairAll_groups (ct : Bool) :
    ∀ (groups : List (List Mark)) (s : PState), (∀ g ∈ groups, TypeSorted g) →
      PEq (pairAll ct s (groups.flatMap noteOrder)) (pairAll ct s groups.flatten) := by
  intro groups
  induction groups with
  | nil => intro s _; exact PEq.refl _
  | cons g rest ih =>
    intro s h
    rw [List.flatMap_cons, List.flatten_cons, pairAll_append, pairAll_append,
      noteOrder_eq (h g (List.mem_cons_self ..))]
    refine (pairAll_congr ct _ (pairAll_sort_number ct g s)).trans ?_
    exact ih _ (fun g' hg' => h g' (List.mem_cons_of_mem _ hg'))

/-- the runs of one note: none is empty, a run belongs to one note, neighbouring runs to different notes -/
def GroupsOK : List (List Mark) → Prop
  | [] => True
  | g :: rest =>
    g ≠ [] ∧ (∀ a ∈ g, ∀ b ∈ g, a.note = b.note) ∧
      (∀ a ∈ g, ∀ g' ∈ rest.head?, ∀ b ∈ g', a.note ≠ b.note) ∧ GroupsOK rest

theorem groupByNote_cons_run (m : Mark) (g : List Mark) (gs : List (List Mark)) (rest : List Mark)
    (h : groupByNote rest = g :: gs) :
    groupByNote (m :: rest) =
      match g with
      | [] => [m] :: gs
      | x :: _ => if x.note = m.note then (m :: g) :: gs else [m] :: g :: gs := by
  cases g <;> simp [groupByNote, h]

theorem groupByNote_flatten : ∀ (groups : List (List Mark)), GroupsOK groups →
    groupByNote groups.flatten = groups := by
  intro groups
  induction groups with
  | nil => intro _; rfl
  | cons g rest ih =>
    intro h
    obtain ⟨hne, hsame, hdiff, hrest⟩ := h
    have ihr := ih hrest
    rw [List.flatten_cons]
    -- put the marks of the first run back one by one, from its end: a suffix `g1` of the run in front of the other runs
    suffices hkey : ∀ (g1 : List Mark), g1 ≠ [] → (∀ a ∈ g1, a ∈ g) →
        groupByNote (g1 ++ rest.flatten) = g1 :: rest from hkey g hne (fun a ha => ha)
    intro g1
    induction g1 with
    | nil => intro h; exact absurd rfl h
    | cons m g2 ih2 =>
      intro _ hsub
      cases g2 with
      | nil =>
        simp only [List.cons_append, List.nil_append]
        cases hr : rest with
        | nil => simp [groupByNote]
        | cons g' gs =>
          have hg' : groupByNote (rest.flatten) = g' :: gs := by rw [ihr, hr]
          rw [hr] at hg'
          rw [groupByNote_cons_run m g' gs _ hg']
          have hg'ne : g' ≠ [] := by rw [hr] at hrest; exact hrest.1
          cases g' with
          | nil => exact absurd rfl hg'ne
          | cons x xs =>
            have : x.note ≠ m.note := by
              have := hdiff m (hsub m (List.mem_cons_self ..)) (x :: xs) (by rw [hr]; simp) x (List.mem_cons_self ..)
              exact fun hc => this hc.symm
            simp [this]
      | cons m2 g3 =>
        have ih' := ih2 (by simp) (fun a ha => hsub a (List.mem_cons_of_mem _ ha))
        simp only [List.cons_append] at ih' ⊢
        rw [groupByNote_cons_run m (m2 :: g3) rest _ ih']
        have : m2.note = m.note :=
          hsame m2 (hsub m2 (List.mem_cons_of_mem _ (List.mem_cons_self ..))) m (hsub m (List.mem_cons_self ..))
        simp [this]

theorem readMarks_groups (ct : Bool) (groups : List (List Mark)) (hok : GroupsOK groups)
    (hts : ∀ g ∈ groups, TypeSorted g) :
    PEq (readMarks ct groups.flatten)
      (pairAll ct { ongoing := fun _ => none, done := [], lost := [] } groups.flatten) := by
  unfold readMarks
  rw [groupByNote_flatten groups hok]
  exact pairAll_groups ct groups _ hts

/-- the elements of one note in the order the exporter numbers them: its stops, then its starts -/
def toggled (g : List Mark × List Mark) : List Mark := g.1 ++ g.2

/-- … and in the order it writes them: each of the two sorted by number -/
def written (g : List Mark × List Mark) : List Mark := sortMarks numLt g.1 ++ sortMarks numLt g.2

theorem mem_written {g : List Mark × List Mark} {a : Mark} : a ∈ written g ↔ a ∈ toggled g := by
  unfold written toggled
  simp only [List.mem_append, (isSortMarks numLt).mem]

theorem groupsOK_written : ∀ (tg : List (List Mark × List Mark)), GroupsOK (tg.map toggled) →
    GroupsOK (tg.map written) := by
  intro tg
  induction tg with
  | nil => intro _; trivial
  | cons g rest ih =>
    intro h
    obtain ⟨hne, hsame, hdiff, hrest⟩ := h
    refine ⟨?_, ?_, ?_, ih hrest⟩
    · intro hc
      apply hne
      cases ht : toggled g with
      | nil => rfl
      | cons x xs =>
        have : x ∈ written g := mem_written.mpr (by rw [ht]; exact List.mem_cons_self ..)
        rw [hc] at this; cases this
    · intro a ha b hb
      exact hsame a (mem_written.mp ha) b (mem_written.mp hb)
    · intro a ha g' hg' b hb
      cases rest with
      | nil => simp at hg'
      | cons g2 rest' =>
        simp only [List.map_cons, List.head?_cons, Option.mem_def, Option.some.injEq] at hg'
        subst hg'
        exact hdiff a (mem_written.mp ha) (toggled g2) (by simp) b (mem_written.mp hb)

theorem typeSorted_written {g : List Mark × List Mark} (h1 : ∀ a ∈ g.1, a.isStart = false)
    (h2 : ∀ b ∈ g.2, b.isStart = true) : TypeSorted (written g) :=
  typeSorted_append (fun a ha => h1 a ((isSortMarks numLt).mem.mp ha))
    (fun b hb => h2 b ((isSortMarks numLt).mem.mp hb))

theorem pairAll_written (ct : Bool) : ∀ (tg : List (List Mark × List Mark)) (s : PState),
    PEq (pairAll ct s (tg.map written).flatten) (pairAll ct s (tg.map toggled).flatten) := by
  intro tg
  induction tg with
  | nil => intro s; exact PEq.refl _
  | cons g rest ih =>
    intro s
    simp only [List.map_cons, List.flatten_cons, written, toggled, pairAll_append]
    refine (pairAll_congr ct _ (pairAll_congr ct _ (pairAll_sort_number ct g.1 s))).trans ?_
    refine (pairAll_congr ct _ (pairAll_sort_number ct g.2 _)).trans ?_
    exact ih _

theorem readMarks_written (ct : Bool) (tg : List (List Mark × List Mark)) (hok : GroupsOK (tg.map toggled))
    (hkind : ∀ g ∈ tg, (∀ a ∈ g.1, a.isStart = false) ∧ (∀ b ∈ g.2, b.isStart = true)) :
    PEq (readMarks ct (tg.map written).flatten)
      (pairAll ct { ongoing := fun _ => none, done := [], lost := [] } (tg.map toggled).flatten) := by
  refine (readMarks_groups ct _ (groupsOK_written tg hok) ?_).trans (pairAll_written ct tg _)
  intro g hg
  obtain ⟨g0, hg0, rfl⟩ := List.mem_map.mp hg
  exact typeSorted_written (hkind g0 hg0).1 (hkind g0 hg0).2

end C03.Order
