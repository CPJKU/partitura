/-
C04 — the file of an export as the importers meet it (`Written`): its origin, its (track, channel) table, and every
written track pairing to the records routed to it.  The round-trip theorems read everything they need of the export
off such a file.  The exporter (Proofs/C04Export) and the importer (Proofs/C04Import, C04ImportSigs) meet only here.
-/
import PartituraModel.Proofs.C04Export
import PartituraModel.Proofs.C04ImportSigs

namespace C04E
open Model Model.Ticks Model.MidiPair Model.MidiModes Model.ScoreMidi
open C04I (noteRow)

theorem noteKeys_group (parts : List PartIn) :
    ∀ a ∈ noteKeys parts, ∀ b ∈ noteKeys parts, kPart a = kPart b → kGroup a = kGroup b := by
  intro a ha b hb hab
  obtain ⟨xi, hxi, n, _, rfl⟩ := (C04E.mem_noteKeys parts a).mp ha
  obtain ⟨xj, hxj, m, _, rfl⟩ := (C04E.mem_noteKeys parts b).mp hb
  simp only [kPart, kGroup] at hab ⊢
  have h1 := List.mem_zipIdx_iff_getElem?.mp hxi
  have h2 := List.mem_zipIdx_iff_getElem?.mp hxj
  rw [hab, h2] at h1
  have := Option.some.inj h1
  rw [this]

theorem zipIdx_flatMap_range {α β : Type} (l : List α) (F : α × Nat → List β) (d : α) :
    l.zipIdx.flatMap F = (List.range l.length).flatMap fun i => F (l[i]?.getD d, i) := by
  rw [List.range_eq_range', ← List.zipIdx_map_snd 0 l, List.flatMap_map]
  exact List.flatMap_congr fun p hp => by rw [List.mem_zipIdx_iff_getElem?.mp hp]; rfl

theorem routes_tagged {τ : Type} (T : Nat × Nat → τ) (ktc : List (Key × (Nat × Nat))) (vel n : Nat) (recs : List NoteOut)
    (hn : ∀ e ∈ recs.filterMap (C04E.routeAny ktc vel), e.1 < n) :
    ((List.range n).flatMap fun tr => (recs.filterMap (C04E.route ktc vel tr)).map fun m => (noteRow m, T (tr, m.ch))).Perm
      (recs.filterMap fun r => (lookup r.key ktc).map fun tc => ((r.on, r.pitch, r.off - r.on), T tc)) := by
  have e1 : ∀ tr, ((recs.filterMap (C04E.route ktc vel tr)).map fun m => (noteRow m, T (tr, m.ch))) =
      ((recs.filterMap (C04E.routeAny ktc vel)).filter (fun e => e.1 = tr)).map fun e => (noteRow e.2, T (e.1, e.2.ch)) := by
    intro tr
    rw [C04E.route_eq_filter, List.map_map]
    apply List.map_congr_left
    intro e he
    have : e.1 = tr := by simpa using (List.mem_filter.mp he).2
    simp [this]
  simp only [e1]
  rw [← List.map_flatMap]
  refine ((Dicts.flatMap_filter_perm (fun e : Nat × NoteRec => e.1) (List.nodup_range (n := n)) _
    (fun e he => List.mem_range.mpr (hn e he))).map _).trans (List.Perm.of_eq ?_)
  rw [List.map_filterMap]
  apply List.filterMap_congr
  intro r _
  simp only [C04E.routeAny, Option.map_map]
  cases lookup r.key ktc with
  | none => rfl
  | some tc => rfl

theorem mem_keySigsOf_of_perm {evs S : List (Int × Msg)} (h : (evs.filter C04D.isKS).Perm S) (t : Int) (name : String) :
    (t, name) ∈ keySigsOf evs ↔ (t, Msg.keySig name) ∈ S := by
  rw [C04IS.mem_keySigsOf, ← h.mem_iff, List.mem_filter]
  exact (and_iff_left rfl).symm

theorem mem_timeSigsOf_of_perm {evs S : List (Int × Msg)} (h : (evs.filter C04D.isTS).Perm S) (t n d : Int) :
    (t, n, d) ∈ timeSigsOf evs ↔ (t, Msg.timeSig n d) ∈ S := by
  rw [C04IS.mem_timeSigsOf, ← h.mem_iff, List.mem_filter]
  exact (and_iff_left rfl).symm

theorem track_of_contribution {γ : Type} (keys : List Key) (tcs : List (Nat × Nat)) (parts : List PartIn)
    (F : PartIn × Nat → List γ) (tr : Nat) (x : γ)
    (hx : x ∈ (parts.zipIdx).flatMap fun xi => if (tracksOfPart (keys.zip tcs) xi.2).contains tr then F xi else []) :
    tr ∈ specTracks (keys.zip tcs) := by
  obtain ⟨xi, _, hx⟩ := List.mem_flatMap.mp hx
  split at hx
  · rename_i hc
    obtain ⟨k, tc, hktc, _, rfl⟩ := (C04E.mem_tracksOfPart _ _ _).mp hc
    exact (C04G.mem_firstSeen _ _).mpr (List.mem_map.mpr ⟨tc, List.mem_map.mpr ⟨(k, tc), hktc, rfl⟩, rfl⟩)
  · cases hx

variable {mode : Nat} {a : Anacrusis} {minPpq vel : Nat} {parts : List PartIn} {ex : Exported}

theorem save_ppq (h : saveScoreMidi mode a minPpq vel parts = some ex) : ex.ppq = exportPpq parts minPpq := by
  obtain ⟨_, _, _, _, _, _, _, _, rfl⟩ := save_inv mode a minPpq vel parts ex h
  rfl

theorem save_exact (h : saveScoreMidi mode a minPpq vel parts = some ex) (hw : ∀ x ∈ parts, C04T.WellFormed x.base) :
    0 < ex.ppq ∧ (∀ b ∈ parts.map (·.base), ∀ d ∈ divisions b, d ∣ ex.ppq) ∧
      ∀ o : Rat, C04T.IsInt ((ex.ppq : Rat) * o) →
        ∀ x ∈ parts, ∀ t, ((tick ex.ppq x.base o t : Int) : Rat) = (ex.ppq : Rat) * (quarter x.base t - o) := by
  rw [save_ppq h]
  obtain ⟨hpos, hdvd⟩ := C04T.ppq_spec (parts.flatMap fun x => divisions x.base) minPpq (fun d hd => by
    obtain ⟨x, hx, hd⟩ := List.mem_flatMap.mp hd
    exact (hw x hx).divisions_pos d hd)
  have hdiv : ∀ x ∈ parts, ∀ d ∈ divisions x.base, d ∣ exportPpq parts minPpq :=
    fun x hx d hd => hdvd d (List.mem_flatMap.mpr ⟨x, hx, hd⟩)
  refine ⟨hpos, fun b hb => ?_, fun o hO x hx t => ?_⟩
  · obtain ⟨x, hx, rfl⟩ := List.mem_map.mp hb
    exact hdiv x hx
  · exact (C04T.tick_exact ((C04T.toTick_isInt_iff _ x.base o t (C04T.quarter_isInt _ x.base (hdiv x hx) t)).mpr hO)).2

theorem save_tracks (h : saveScoreMidi mode a minPpq vel parts = some ex) (hvel : 0 < vel)
    (hw : ∀ x ∈ parts, C04T.WellFormed x.base) :
    ∃ o tcs, origin a (parts.map (·.base)) = some o ∧ mapToTrackChannel mode (noteKeys parts) = some tcs ∧
      (∀ k ∈ noteKeys parts, ∃ tc, lookup k ((noteKeys parts).zip tcs) = some tc ∧ tc.1 < ex.tracks.length) ∧
      ∀ tr (htr : tr < ex.tracks.length),
        C04P.NoOverlap (routedTo ex.ppq o vel ((noteKeys parts).zip tcs) parts tr) →
        (pairTrack (deltasFrom 0 ex.tracks[tr])).Perm (routedTo ex.ppq o vel ((noteKeys parts).zip tcs) parts tr) := by
  obtain ⟨o, metas, tcs, n, ho, hm, htc, hn, rfl⟩ := save_inv mode a minPpq vel parts ex h
  refine ⟨o, tcs, ho, htc, fun k hk => ?_, fun tr htr hno => ?_⟩
  · -- every key has a track below the number of tracks
    obtain ⟨tc, hl⟩ := lookup_zip_some k (noteKeys parts) tcs (C04M.mapToTrackChannel_length mode _ tcs htc).symm hk
    refine ⟨tc, hl, ?_⟩
    have htcm : tc.1 ∈ tcs.map (·.1) := List.mem_map.mpr ⟨tc, (List.of_mem_zip (Model.lookup_mem hl)).2, rfl⟩
    obtain ⟨m, hmx, rfl⟩ := Option.map_eq_some_iff.mp hn
    have := maxList_ge _ m hmx _ htcm
    simp only [List.length_map, List.length_range]
    omega
  · simp only [List.getElem_map, List.getElem_range]
    rw [routedTo_eq] at hno ⊢
    have hT := trackTempos_kind (exportTempos (tkOf (exportPpq parts minPpq) o) parts) tr
    have hM : ∀ x ∈ trackMetas metas ((noteKeys parts).zip tcs) tr, C04P.isNoteMsg x = false := by
      intro x hx
      rcases trackMetas_kinds a _ parts metas hm _ tr x hx with h' | h'
      · exact C04D.isKS_not_note x h'
      · exact C04D.isTS_not_note x h'
    have hperm := trackNotes_perm (exportRecs (tkOf (exportPpq parts minPpq) o) parts) ((noteKeys parts).zip tcs) tr vel
    exact (C04P.pairTrack_writeTrack _ _ _ hT.2 hM ((noOverlap_perm hperm).mpr hno) fun n hn' =>
      route_valid _ vel tr hvel _ (exportRecs_valid _ o parts hw) n (hperm.mem_iff.mp hn')).trans hperm

/-- the (part, voice) tag of a note key is that of the cell of its (track, channel) -/
theorem keyTag_eq (imode : Nat) {keys : List Key} {tcs : List (Nat × Nat)} (hlen : keys.length = tcs.length) {k : Key}
    (hk : k ∈ keys) : ∃ tc c, (k, tc) ∈ keys.zip tcs ∧ (tc, c) ∈ cellTable imode tcs ∧
      keyTag imode (keys.zip tcs) k = some (tagOf (some c)) := by
  obtain ⟨tc, hl⟩ := lookup_zip_some k keys tcs hlen hk
  have hm := Model.lookup_mem hl
  obtain ⟨c, hc⟩ := C04M.assign_total imode (sortedTC tcs) tc ((C04IS.mem_sortedTC _ _).mpr (List.of_mem_zip hm).2)
  refine ⟨tc, c, hm, hc, ?_⟩
  rw [keyTag, hl, Option.map_some, List.map_snd_zip hlen.ge, cellTable,
    C04C.lookup_zip_nodup _ _ (C04IS.sortedTC_nodup tcs) (C04M.assign_length imode _).ge _ _ hc]

/-- The file `ex` of an export holds the score: `o` is the origin and `tcs` the (track, channel) pairs of the note keys
    of the run, and pairing the note ons and offs of every written track gives the records routed to it. -/
structure Written (mode : Nat) (a : Anacrusis) (minPpq vel : Nat) (parts : List PartIn) (ex : Exported)
    (o : Rat) (tcs : List (Nat × Nat)) : Prop where
  save : saveScoreMidi mode a minPpq vel parts = some ex
  origin : origin a (parts.map (·.base)) = some o
  table : mapToTrackChannel mode (noteKeys parts) = some tcs
  track : ∀ k ∈ noteKeys parts, ∃ tc, lookup k ((noteKeys parts).zip tcs) = some tc ∧ tc.1 < ex.tracks.length
  pair : ∀ tr (htr : tr < ex.tracks.length), (pairTrack (deltasFrom 0 ex.tracks[tr])).Perm
    ((exportRecs (tkOf ex.ppq o) parts).filterMap (route ((noteKeys parts).zip tcs) vel tr))

theorem Written.of (h : saveScoreMidi mode a minPpq vel parts = some ex) (hvel : 0 < vel)
    (hw : ∀ x ∈ parts, C04T.WellFormed x.base)
    (hno : ∀ o tcs, Ticks.origin a (parts.map (·.base)) = some o → mapToTrackChannel mode (noteKeys parts) = some tcs →
      ∀ tr, C04P.NoOverlap (routedTo ex.ppq o vel ((noteKeys parts).zip tcs) parts tr)) :
    ∃ o tcs, Written mode a minPpq vel parts ex o tcs := by
  obtain ⟨o, tcs, ho, htc, hkeys, hpair⟩ := save_tracks h hvel hw
  exact ⟨o, tcs, h, ho, htc, hkeys, fun tr htr => routedTo_eq .. ▸ hpair tr htr (hno o tcs ho htc tr)⟩

namespace Written
variable {o : Rat} {tcs : List (Nat × Nat)} (W : Written mode a minPpq vel parts ex o tcs)
include W

/-- the origin and the table of a run are its own: what is stated of "some" origin and table holds of these -/
theorem here {P : Rat → List (Nat × Nat) → Prop}
    (H : ∃ o' tcs', Ticks.origin a (parts.map (·.base)) = some o' ∧ mapToTrackChannel mode (noteKeys parts) = some tcs' ∧ P o' tcs') :
    P o tcs := by
  obtain ⟨o', tcs', ho', htc', hP⟩ := H
  cases W.origin.symm.trans ho'
  cases W.table.symm.trans htc'
  exact hP

theorem length : (noteKeys parts).length = tcs.length := (C04M.mapToTrackChannel_length mode _ tcs W.table).symm

theorem snd : ((noteKeys parts).zip tcs).map (·.2) = tcs := List.map_snd_zip W.length.ge

theorem exact (hw : ∀ x ∈ parts, C04T.WellFormed x.base) (ha : a ≠ .padBar) :
    0 < ex.ppq ∧ ∀ x ∈ parts, ∀ t, ((tick ex.ppq x.base o t : Int) : Rat) = (ex.ppq : Rat) * (quarter x.base t - o) := by
  obtain ⟨hP, hdiv, hex⟩ := save_exact W.save hw
  exact ⟨hP, hex o (C04T.origin_isInt _ a _ o hdiv ha W.origin)⟩

theorem source {i ch : Nat} (h : (i, ch) ∈ tcs) : ∃ xi ∈ parts.zipIdx, ∃ n ∈ xi.1.notes,
    lookup (xi.1.group, xi.2, n.2.2.2) ((noteKeys parts).zip tcs) = some (i, ch) := by
  obtain ⟨k, hmemz⟩ := C04M.exists_zip_right W.length.ge h
  obtain ⟨xi, hxi, n, hn, hkey⟩ := (mem_noteKeys parts k).mp (List.of_mem_zip hmemz).1
  exact ⟨xi, hxi, n, hn, hkey ▸ C04C.lookup_zip_nodup _ tcs (C04G.firstSeen_nodup _) W.length.le _ _ hmemz⟩

theorem note_mem {xi : PartIn × Nat} (hxi : xi ∈ parts.zipIdx) {n : Nat × Nat × Nat × Voice} (hn : n ∈ xi.1.notes) :
    ∃ tc, lookup (xi.1.group, xi.2, n.2.2.2) ((noteKeys parts).zip tcs) = some tc ∧ ∃ (hlt : tc.1 < ex.tracks.length),
      (⟨tick ex.ppq xi.1.base o n.1, tick ex.ppq xi.1.base o (n.1 + n.2.1), tc.2, n.2.2.1, vel⟩ : NoteRec) ∈
        pairTrack (deltasFrom 0 ex.tracks[tc.1]) := by
  obtain ⟨tc, hl, hlt⟩ := W.track _ ((mem_noteKeys parts _).mpr ⟨xi, hxi, n, hn, rfl⟩)
  exact ⟨tc, hl, hlt, (W.pair tc.1 hlt).mem_iff.mpr (List.mem_filterMap.mpr
    ⟨_, (mem_exportRecs _ parts _).mpr ⟨xi, hxi, n, hn, rfl⟩, route_eq_some.mpr ⟨tc.2, hl, rfl⟩⟩)⟩

theorem mem_tcs (i ch : Nat) :
    (i, ch) ∈ tcs ↔ ∃ (hi : i < ex.tracks.length), ∃ n ∈ pairTrack (deltasFrom 0 ex.tracks[i]), n.ch = ch := by
  constructor
  · intro h
    obtain ⟨xi, hxi, n, hn, hl⟩ := W.source h
    obtain ⟨tc, hl', hlt, hm⟩ := W.note_mem hxi hn
    cases hl.symm.trans hl'
    exact ⟨hlt, _, hm, rfl⟩
  · rintro ⟨hi', n, hn, rfl⟩
    obtain ⟨r, _, hr⟩ := List.mem_filterMap.mp ((W.pair i hi').mem_iff.mp hn)
    obtain ⟨ch, hl, rfl⟩ := route_eq_some.mp hr
    exact (List.of_mem_zip (Model.lookup_mem hl)).2

theorem nonempty_iff (i : Nat) (hi : i < ex.tracks.length) :
    (pairTrack (deltasFrom 0 ex.tracks[i])).isEmpty = false ↔ ∃ ch, (i, ch) ∈ tcs := by
  rw [List.isEmpty_eq_false_iff_exists_mem]
  exact ⟨fun ⟨n, hn⟩ => ⟨n.ch, (W.mem_tcs i n.ch).mpr ⟨hi, n, hn, rfl⟩⟩,
    fun ⟨ch, hch⟩ => let ⟨_, n, hn, _⟩ := (W.mem_tcs i ch).mp hch; ⟨n, hn⟩⟩

/-- the sorted list `assign_group_part_voice` receives is `sorted(set(tcs))` -/
theorem trch : sortedTC ((notesByTrCh ((readTracks (ex.tracks.map (deltasFrom 0))).filter fun e => !e.2.1.isEmpty)).map (·.1)) =
    sortedTC tcs := by
  apply C04IS.sortedTC_congr
  rintro ⟨i, ch⟩
  rw [C04C.mem_byTrCh, W.mem_tcs]
  constructor
  · rintro ⟨tr, htr, n, hn, rfl⟩
    simp only [List.getElem?_map, Option.map_eq_some_iff] at htr
    obtain ⟨tr0, htr0, rfl⟩ := htr
    obtain ⟨hi', rfl⟩ := List.getElem?_eq_some_iff.mp htr0
    exact ⟨hi', n, hn, rfl⟩
  · rintro ⟨hi', n, hn, rfl⟩
    exact ⟨deltasFrom 0 ex.tracks[i], by simp [List.getElem?_eq_getElem hi'], n, hn, rfl⟩

theorem column {β : Type} (sel : TrackRead → List β) (S : Nat → List β)
    (hS : ∀ i (hi : i < ex.tracks.length) k,
      k ∈ sel (i, pairTrack (deltasFrom 0 ex.tracks[i]), timeSigsOf ex.tracks[i], keySigsOf ex.tracks[i],
        temposOf ex.tracks[i]) ↔ k ∈ S i)
    (hhas : ∀ i k, k ∈ S i → i ∈ specTracks ((noteKeys parts).zip tcs)) :
    C04IS.Column (readTracks (ex.tracks.map (deltasFrom 0))) (specTracks ((noteKeys parts).zip tcs)) sel S := by
  refine ⟨fun rd hrdm => ?_, fun i hi => ?_, fun rd hrdm k => ?_, hhas⟩
  · obtain ⟨hlt, hrdeq⟩ := (C04I.mem_readTracks _ rd).mp hrdm
    rw [show rd.2.1 = pairTrack (deltasFrom 0 ex.tracks[rd.1]) from congrArg (·.2.1) hrdeq]
    exact (W.nonempty_iff rd.1 hlt).trans (C04IS.mem_specTracks W.length rd.1).symm
  · obtain ⟨ch, hch⟩ := (C04IS.mem_specTracks W.length i).mp hi
    have hlt : i < ex.tracks.length := ((W.mem_tcs i ch).mp hch).1
    exact ⟨_, (C04I.mem_readTracks _ (i, pairTrack (deltasFrom 0 ex.tracks[i]), timeSigsOf ex.tracks[i], keySigsOf ex.tracks[i],
      temposOf ex.tracks[i])).mpr ⟨hlt, rfl⟩, rfl⟩
  · obtain ⟨hlt, hrdeq⟩ := (C04I.mem_readTracks _ rd).mp hrdm
    have := hS rd.1 hlt k
    rwa [← hrdeq] at this

theorem route_lt : ∀ e ∈ (exportRecs (tkOf ex.ppq o) parts).filterMap (routeAny ((noteKeys parts).zip tcs) vel),
    e.1 < ex.tracks.length := by
  intro e he
  simp only [List.mem_filterMap, routeAny, Option.map_eq_some_iff] at he
  obtain ⟨r, hr, tc, htc', rfl⟩ := he
  obtain ⟨tc', htc'', hlt⟩ := W.track r.key (mem_exportRecs_key _ parts r hr)
  cases htc'.symm.trans htc''
  exact hlt

theorem import_cells {imode : Nat} {imp : Imported} (hi : loadScoreMidi imode ex.ppq (ex.tracks.map (deltasFrom 0)) = some imp) :
    (importedCells imp).Perm (writtenCells imode ex.ppq o ((noteKeys parts).zip tcs) parts) := by
  have hic := C04C.import_cells imode ex.ppq _ imp hi
  simp only at hic
  rw [W.trch] at hic
  refine (List.Perm.trans (List.Perm.of_eq ?_) hic).trans ?_
  · rfl
  -- track after track
  rw [zipIdx_flatMap_range _ _ ([] : List (Int × Msg))]
  simp only [List.length_map]
  have hrt := routes_tagged (fun tc => tagOf (lookup tc (cellTable imode tcs))) ((noteKeys parts).zip tcs) vel
    ex.tracks.length (exportRecs (tkOf ex.ppq o) parts) W.route_lt
  refine (List.Perm.trans ?_ hrt).trans (List.Perm.of_eq ?_)
  · apply List.Perm.flatMap_left
    intro i hi'
    have hi'' : i < ex.tracks.length := List.mem_range.mp hi'
    simp only [List.getElem?_map, List.getElem?_eq_getElem hi'', Option.map_some, Option.getD_some]
    exact (W.pair i hi'').map _
  · unfold writtenCells exportRecs
    rw [List.filterMap_flatMap]
    apply List.flatMap_congr
    intro xi _
    rw [List.filterMap_map]
    apply List.filterMap_congr
    intro n _
    simp only [Function.comp, keyTag, W.snd, Option.map_map]
    rfl

theorem import_rows {imode : Nat} {imp : Imported} (hi : loadScoreMidi imode ex.ppq (ex.tracks.map (deltasFrom 0)) = some imp) :
    (imp.parts.flatMap fun e => e.2.notes.map C04I.strip).Perm (writtenRows ex.ppq o parts) := by
  have e1 : (importedCells imp).map Prod.fst = imp.parts.flatMap fun e => e.2.notes.map C04I.strip := by
    unfold importedCells
    rw [List.map_flatMap]
    exact List.flatMap_congr fun e _ => by rw [List.map_map]; rfl
  -- every note has a cell, since its key has a (track, channel)
  have e2 : (writtenCells imode ex.ppq o ((noteKeys parts).zip tcs) parts).map Prod.fst = writtenRows ex.ppq o parts := by
    unfold writtenCells writtenRows
    rw [List.map_flatMap, ← C04G.flatMap_zipIdx (fun x : PartIn => x.notes.map fun n =>
      (tick ex.ppq x.base o n.1, n.2.2.1, tick ex.ppq x.base o (n.1 + n.2.1) - tick ex.ppq x.base o n.1)) parts 0]
    refine List.flatMap_congr fun xi hxi => ?_
    rw [List.map_filterMap, ← List.filterMap_eq_map]
    refine List.filterMap_congr fun n hn => ?_
    obtain ⟨tc, hl, _⟩ := W.track _ ((mem_noteKeys parts _).mpr ⟨xi, hxi, n, hn, rfl⟩)
    simp [keyTag, hl]
  exact e1 ▸ e2 ▸ (W.import_cells hi).map Prod.fst

theorem import_musical {imode : Nat} {imp : Imported} (hi : loadScoreMidi imode ex.ppq (ex.tracks.map (deltasFrom 0)) = some imp)
    (hP : 0 < ex.ppq)
    (hex : ∀ x ∈ parts, ∀ t, ((tick ex.ppq x.base o t : Int) : Rat) = (ex.ppq : Rat) * (quarter x.base t - o)) :
    (importedRows o imp).Perm (scoreRows parts) ∧ ∀ e ∈ imp.parts, e.2.divs = ex.ppq := by
  have hdivs := C04I.import_divs imode ex.ppq _ imp hi
  rw [C04I.importedRows_eq o imp ex.ppq hdivs, ← C04I.writtenRows_musical ex.ppq o parts hP hex]
  exact ⟨(W.import_rows hi).map _, hdivs⟩

theorem import_total (imode : Nat) (him : imode ≤ 5) (hnote : ∃ x ∈ parts, x.notes ≠ []) :
    ∃ imp, loadScoreMidi imode ex.ppq (ex.tracks.map (deltasFrom 0)) = some imp := by
  obtain ⟨x, hx, hxn⟩ := hnote
  obtain ⟨n, hn⟩ := List.exists_mem_of_ne_nil _ hxn
  obtain ⟨i, hi⟩ := List.getElem?_of_mem hx
  obtain ⟨tc, _, hlt, hm⟩ := W.note_mem (xi := (x, i)) (List.mem_zipIdx_iff_getElem?.mpr hi) hn
  exact C04C.import_total imode him _ _
    ⟨tc.1, deltasFrom 0 ex.tracks[tc.1], by simp [List.getElem?_eq_getElem hlt], List.ne_nil_of_mem hm⟩

end Written
end C04E
