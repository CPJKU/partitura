/-
C01 helper lemmas: a sorted list cut at the search index (`searchsorted_split`, `sorted_split`), the link predicate by
segments, the index-based `_add_point` / `_remove_point` of Model/Timeline.lean on a cut list, and the registries as
exact lists (`regAt`).
-/
import PartituraModel.Model.Timeline
import PartituraModel.Proofs.Previous
import PartituraModel.Proofs.Lists

namespace TL

theorem getElem?_app_len {α} (l r : List α) : (l ++ r)[l.length]? = r.head? := by
  induction l with
  | nil => cases r <;> simp
  | cons a l ih => simpa using ih

theorem getElem?_app_len_succ {α} (l : List α) (a : α) (r : List α) :
    (l ++ a :: r)[l.length + 1]? = r.head? := by
  have := getElem?_app_len (l ++ [a]) r
  simpa using this

theorem getElem?_concat_len_pred {α} (l : List α) (a : α) (r : List α) :
    ((l ++ [a]) ++ r)[(l ++ [a]).length - 1]? = some a := by
  simp

theorem insertIdx_app_len {α} (l r : List α) (a : α) : (l ++ r).insertIdx l.length a = l ++ a :: r := by
  induction l with
  | nil => cases r <;> simp
  | cons b l ih => simpa using ih

theorem eraseIdx_app_len {α} (l r : List α) (a : α) : (l ++ a :: r).eraseIdx l.length = l ++ r := by
  induction l with
  | nil => simp
  | cons b l ih => simpa using ih

theorem set_app_len {α} (l r : List α) (a b : α) : (l ++ a :: r).set l.length b = l ++ b :: r := by
  simp

theorem set_app_len_succ {α} (l r : List α) (a b c : α) :
    (l ++ a :: b :: r).set (l.length + 1) c = l ++ a :: c :: r := by
  simp

/-- `np.searchsorted` (side="left") is the length of the leading stretch below `x` -/
theorem searchsorted_eq (l : List Int) (x : Int) : searchsorted l x = (l.takeWhile fun a => decide (a < x)).length := by
  induction l with
  | nil => rfl
  | cons a l ih =>
    by_cases ha : a < x
    · rw [searchsorted, if_pos ha, ih, List.takeWhile_cons_of_pos (by simpa using ha), List.length_cons]
    · rw [searchsorted, if_neg ha, List.takeWhile_cons_of_neg (by simpa using ha), List.length_nil]

theorem searchsorted_app {α : Type} (key : α → Int) (pre post : List α) (x : Int) (h1 : ∀ p ∈ pre, key p < x)
    (h2 : ∀ b ∈ post.head?, x ≤ key b) : searchsorted ((pre ++ post).map key) x = pre.length := by
  rw [searchsorted_eq, List.takeWhile_map, List.length_map]
  exact congrArg _ (Lists.takeWhile_cut (P := fun a => key a < x) h1 fun b hb => Int.not_lt.mpr (h2 b hb))

theorem searchsorted_split {α : Type} (key : α → Int) (l : List α) (x : Int) :
    ∃ pre post, l = pre ++ post ∧ (∀ p ∈ pre, key p < x) ∧ (∀ b ∈ post.head?, x ≤ key b)
      ∧ searchsorted (l.map key) x = pre.length := by
  obtain ⟨pre, post, rfl, h1, h2, -⟩ := Lists.exists_cut (fun a => key a < x) l
  exact ⟨pre, post, rfl, h1, fun b hb => Int.not_lt.mp (h2 b hb),
    searchsorted_app key pre post x h1 fun b hb => Int.not_lt.mp (h2 b hb)⟩

/-- `interp1d(kind="previous")` scans the table with the value of the last entry at or before `x` in hand
(`Lists.IsPrevScan`, Proofs/Previous.lean) -/
theorem qdAtAux_scan (x : Int) : Lists.IsPrevScan (fun e : Int × Nat => e.1 ≤ x) (·.2) (fun c l => qdAtAux c l x) :=
  ⟨fun _ => rfl, fun _ _ _ => rfl⟩

/-- links inside a segment: the first `prev` is `pv`, the last `next` is `nx` -/
def LinksSeg : Option Int → List Point → Option Int → Prop
  | _, [], _ => True
  | pv, p :: rest, nx =>
    p.prev = pv ∧ p.next = (match rest with | [] => nx | q :: _ => some q.t) ∧ LinksSeg (some p.t) rest nx

/-- the time of the last point of a segment; `pv` (what stands before the segment) when it is empty -/
def lastT : List Point → Option Int → Option Int
  | [], pv => pv
  | p :: rest, _ => lastT rest (some p.t)

/-- the time of the first point of a segment; `nx` (what stands behind the segment) when it is empty -/
def headT : List Point → Option Int → Option Int
  | [], nx => nx
  | q :: _, _ => some q.t

theorem linksFrom_iff_seg (pv : Option Int) (l : List Point) : LinksFrom pv l ↔ LinksSeg pv l none := by
  induction l generalizing pv with
  | nil => simp [LinksFrom, LinksSeg]
  | cons p rest ih =>
    simp only [LinksFrom, LinksSeg, ih]
    cases rest <;> simp

theorem linksSeg_append (pv nx : Option Int) (l r : List Point) :
    LinksSeg pv (l ++ r) nx ↔ LinksSeg pv l (headT r nx) ∧ LinksSeg (lastT l pv) r nx := by
  induction l generalizing pv with
  | nil => simp [LinksSeg, lastT]
  | cons p rest ih =>
    simp only [List.cons_append, LinksSeg, ih, lastT]
    cases rest with
    | nil =>
      cases r <;> simp [headT, LinksSeg, lastT, and_assoc]
    | cons q rest' => simp [and_assoc]

def setLastNext : List Point → Option Int → List Point
  | [], _ => []
  | [a], nx => [{ a with next := nx }]
  | a :: b :: r, nx => a :: setLastNext (b :: r) nx

def setHeadPrev : List Point → Option Int → List Point
  | [], _ => []
  | b :: r, pv => { b with prev := pv } :: r

theorem setLastNext_concat (l : List Point) (a : Point) (nx : Option Int) :
    setLastNext (l ++ [a]) nx = l ++ [{ a with next := nx }] := by
  induction l with
  | nil => simp [setLastNext]
  | cons b l ih =>
    cases l with
    | nil => simp [setLastNext]
    | cons c l => simp [setLastNext] at ih ⊢; exact ih

theorem linksSeg_setLastNext (pv nx nx' : Option Int) (l : List Point) (h : LinksSeg pv l nx) :
    LinksSeg pv (setLastNext l nx') nx' := by
  induction l generalizing pv with
  | nil => simp [setLastNext, LinksSeg]
  | cons a l ih =>
    cases l with
    | nil => simp [setLastNext, LinksSeg] at h ⊢; exact h.1
    | cons b r =>
      simp only [LinksSeg] at h
      have := ih (some a.t) h.2.2
      simp only [setLastNext, LinksSeg]
      refine ⟨h.1, ?_, this⟩
      cases r <;> simp [setLastNext, h.2.1]

theorem linksSeg_setHeadPrev (pv pv' nx : Option Int) (l : List Point) (h : LinksSeg pv l nx) :
    LinksSeg pv' (setHeadPrev l pv') nx := by
  cases l with
  | nil => simp [setHeadPrev, LinksSeg]
  | cons b r =>
    simp only [LinksSeg] at h
    exact ⟨rfl, h.2.1, h.2.2⟩

theorem lastT_setLastNext (l : List Point) (nx pv : Option Int) : lastT (setLastNext l nx) pv = lastT l pv := by
  induction l generalizing pv with
  | nil => simp [setLastNext]
  | cons a l ih =>
    cases l with
    | nil => simp [setLastNext, lastT]
    | cons b r => simp only [setLastNext, lastT]; exact ih _

theorem headT_setHeadPrev (l : List Point) (pv nx : Option Int) : headT (setHeadPrev l pv) nx = headT l nx := by
  cases l <;> simp [setHeadPrev, headT]

theorem lastT_concat (l : List Point) (a : Point) (pv : Option Int) : lastT (l ++ [a]) pv = some a.t := by
  induction l generalizing pv with
  | nil => simp [lastT]
  | cons b l ih => simp only [List.cons_append, lastT]; exact ih _

/-- a point as `get_or_add_point` creates it -/
def freshPoint (t : Int) (q : Nat) : Point :=
  { t := t, quarter := q, prev := none, next := none, starting := [], ending := [] }

/-- the result of inserting the fresh point between `pre` and `post` and relinking -/
def insertLinked (pre post : List Point) (t : Int) (q : Nat) : List Point :=
  setLastNext pre (some t)
    ++ { freshPoint t q with prev := lastT pre none, next := headT post none } :: setHeadPrev post (some t)

theorem linkPair_at (l : List Point) (a b : Point) (r : List Point) :
    linkPair (l ++ a :: b :: r) l.length
      = .ok (l ++ { a with next := some b.t } :: { b with prev := some a.t } :: r) := by
  unfold linkPair
  rw [getElem?_app_len, getElem?_app_len_succ]
  simp only [List.head?_cons]
  rw [set_app_len, set_app_len_succ]

theorem addPoint_present (pre post : List Point) (b : Point) (t : Int) (q : Nat)
    (h1 : ∀ p ∈ pre, p.t < t) (hb : b.t = t) :
    addPoint (pre ++ b :: post) (freshPoint t q) = .ok (pre ++ b :: post) := by
  have hs := searchsorted_app (·.t) pre (b :: post) t h1 (by simp [hb])
  unfold addPoint
  simp only [show (freshPoint t q).t = t from rfl, hs]
  simp [hb]
  rfl

theorem ite_bind {ε α β : Type} (c : Prop) [Decidable c] (a b : Except ε α) (k : α → Except ε β) :
    (if c then a >>= k else b >>= k) = (if c then a else b) >>= k := by
  split <;> rfl

theorem length_setLastNext (l : List Point) (nx : Option Int) : (setLastNext l nx).length = l.length := by
  rcases List.eq_nil_or_concat l with rfl | ⟨l', a, rfl⟩
  · rfl
  · rw [List.concat_eq_append, setLastNext_concat, List.length_append, List.length_append]
    rfl

/-- the first relinking of `_add_point`: the new point `x` and its predecessor, if there is one -/
theorem linkBefore (pre : List Point) (x : Point) (post : List Point) :
    (if pre.length > 0 then linkPair (pre ++ x :: post) (pre.length - 1) else pure (pre ++ x :: post))
      = .ok (setLastNext pre (some x.t) ++ { x with prev := lastT pre x.prev } :: post) := by
  rcases List.eq_nil_or_concat pre with rfl | ⟨pre', a, rfl⟩
  · rfl
  · have h := linkPair_at pre' a x post
    rw [List.concat_eq_append, if_pos (by simp), setLastNext_concat, lastT_concat]
    simpa using h

/-- the second relinking: `x` and its successor, if there is one -/
theorem linkAfter (l : List Point) (x : Point) (post : List Point) :
    (if l.length + 1 < (l ++ x :: post).length then linkPair (l ++ x :: post) l.length else pure (l ++ x :: post))
      = .ok (l ++ { x with next := headT post x.next } :: setHeadPrev post (some x.t)) := by
  cases post with
  | nil => rw [if_neg (by simp)]; rfl
  | cons b r => rw [if_pos (by simp), linkPair_at]; rfl

theorem addPoint_absent (pre post : List Point) (t : Int) (q : Nat)
    (h1 : ∀ p ∈ pre, p.t < t) (h2 : ∀ b ∈ post.head?, t < b.t) :
    addPoint (pre ++ post) (freshPoint t q) = .ok (insertLinked pre post t q) := by
  have hs := searchsorted_app (·.t) pre post t h1 (fun b hb => by have := h2 b hb; omega)
  have hne : ∀ b ∈ post.head?, (b.t != (freshPoint t q).t) = true := fun b hb => by
    have := h2 b hb; simp [freshPoint]; omega
  unfold addPoint
  simp only [show (freshPoint t q).t = t from rfl] at hne ⊢
  simp only [hs, getElem?_app_len]
  rw [if_pos (by cases hp : post.head? with | none => rfl | some b => exact hne b hp)]
  simp only [insertIdx_app_len]
  rw [ite_bind, linkBefore]
  show (if _ then _ else _) = _
  rw [ite_bind, ← length_setLastNext pre (some (freshPoint t q).t), linkAfter]
  rfl

/-- the result of deleting the point between `pre` and `post` and linking the neighbours -/
def eraseLinked (pre post : List Point) : List Point :=
  setLastNext pre (headT post none) ++ setHeadPrev post (lastT pre none)

theorem removePoint_present (pre post : List Point) (p : Point) (t : Int)
    (h1 : ∀ a ∈ pre, a.t < t) (hp : p.t = t) :
    removePoint (pre ++ p :: post) t = .ok (eraseLinked pre post) := by
  have hs := searchsorted_app (·.t) pre (p :: post) t h1 (by simp [hp])
  unfold removePoint
  simp only [hs]
  rw [getElem?_app_len]
  simp only [List.head?_cons, hp, ne_eq, not_true_eq_false, if_false, eraseIdx_app_len]
  -- four relinkings: the removed point was the only one, the first, the last, an inner one
  rcases List.eq_nil_or_concat pre with rfl | ⟨pre', a, rfl⟩
  · cases post with
    | nil => simp [eraseLinked, setLastNext, setHeadPrev, pure, Except.pure]
    | cons b r => simp [eraseLinked, setLastNext, setHeadPrev, lastT, pure, Except.pure]
  · simp only [List.concat_eq_append] at *
    have hpos : (pre' ++ [a]).length > 0 := by simp
    have e1 : ∀ post : List Point, (pre' ++ [a] ++ post)[(pre' ++ [a]).length - 1]? = some a :=
      fun post => getElem?_concat_len_pred pre' a post
    have e2 : (pre' ++ [a]).length - 1 = pre'.length := by simp
    simp only [hpos, if_true, e1, getElem?_app_len]
    cases post with
    | nil =>
      simp only [List.head?_nil, Option.map_none, List.append_nil, e2]
      have := set_app_len pre' [] a { a with next := none }
      simp only [this]
      simp [eraseLinked, setLastNext_concat, setHeadPrev, headT, pure, Except.pure]
    | cons b r =>
      simp only [List.head?_cons, Option.map_some, e2]
      have h1' := set_app_len pre' (b :: r) a { a with next := some b.t }
      have h2' := set_app_len (pre' ++ [{ a with next := some b.t }]) r b { b with prev := some a.t }
      simp only [List.append_assoc, List.cons_append, List.nil_append, List.length_append, List.length_cons,
        List.length_nil] at h1' h2' ⊢
      rw [h1', h2']
      simp [eraseLinked, setLastNext_concat, setHeadPrev, headT, lastT_concat, pure, Except.pure]

theorem removePoint_other (pre post : List Point) (p : Point) (t : Int)
    (h1 : ∀ a ∈ pre, a.t < t) (hp : t < p.t) :
    removePoint (pre ++ p :: post) t = .ok (pre ++ p :: post) := by
  have hs := searchsorted_app (·.t) pre (p :: post) t h1 (by simp; omega)
  unfold removePoint
  simp only [hs, getElem?_app_len]
  have : p.t ≠ t := by omega
  simp [this, pure, Except.pure]

-- a point without its links: what relinking leaves alone
def Point.unlink (p : Point) : Point := { p with prev := none, next := none }

@[simp] theorem unlink_t (p : Point) : p.unlink.t = p.t := rfl
@[simp] theorem unlink_quarter (p : Point) : p.unlink.quarter = p.quarter := rfl
@[simp] theorem unlink_starting (p : Point) : p.unlink.starting = p.starting := rfl
@[simp] theorem unlink_ending (p : Point) : p.unlink.ending = p.ending := rfl
@[simp] theorem unlink_reg (p : Point) (sd : Side) : p.unlink.reg sd = p.reg sd := by cases sd <;> rfl

theorem unlink_setLastNext (l : List Point) (nx : Option Int) :
    (setLastNext l nx).map Point.unlink = l.map Point.unlink := by
  induction l with
  | nil => simp [setLastNext]
  | cons a l ih =>
    cases l with
    | nil => simp [setLastNext, Point.unlink]
    | cons b r => simp only [setLastNext, List.map_cons] at ih ⊢; rw [ih]

theorem unlink_setHeadPrev (l : List Point) (pv : Option Int) :
    (setHeadPrev l pv).map Point.unlink = l.map Point.unlink := by
  cases l <;> simp [setHeadPrev, Point.unlink]

theorem unlink_insertLinked (pre post : List Point) (t : Int) (q : Nat) :
    (insertLinked pre post t q).map Point.unlink = (pre ++ freshPoint t q :: post).map Point.unlink := by
  simp [insertLinked, unlink_setLastNext, unlink_setHeadPrev, Point.unlink, freshPoint]

theorem unlink_eraseLinked (pre post : List Point) :
    (eraseLinked pre post).map Point.unlink = (pre ++ post).map Point.unlink := by
  simp [eraseLinked, unlink_setLastNext, unlink_setHeadPrev]

theorem times_of_unlink_eq {l l' : List Point} (h : l'.map Point.unlink = l.map Point.unlink) :
    l'.map (·.t) = l.map (·.t) := by
  have := congrArg (List.map (·.t)) h
  simpa [List.map_map, Function.comp_def] using this

theorem links_insertLinked (pre post : List Point) (t : Int) (q : Nat)
    (h : LinksFrom none (pre ++ post)) : LinksFrom none (insertLinked pre post t q) := by
  rw [linksFrom_iff_seg] at h ⊢
  rw [linksSeg_append] at h
  unfold insertLinked
  rw [linksSeg_append]
  refine ⟨?_, ?_⟩
  · simpa [headT, freshPoint] using linksSeg_setLastNext none _ (some t) pre h.1
  · rw [lastT_setLastNext]
    simp only [LinksSeg, freshPoint, true_and]
    refine ⟨?_, ?_⟩
    · cases post <;> simp [setHeadPrev, headT]
    · exact linksSeg_setHeadPrev _ (some t) none post h.2

theorem links_eraseLinked (pre post : List Point) (p : Point)
    (h : LinksFrom none (pre ++ p :: post)) : LinksFrom none (eraseLinked pre post) := by
  rw [linksFrom_iff_seg] at h ⊢
  rw [linksSeg_append] at h
  unfold eraseLinked
  rw [linksSeg_append, lastT_setLastNext, headT_setHeadPrev]
  refine ⟨linksSeg_setLastNext none _ _ pre h.1, ?_⟩
  have h2 := h.2
  simp only [LinksSeg] at h2
  exact linksSeg_setHeadPrev _ _ none post h2.2.2

theorem linksFrom_congr (pv : Option Int) (l l' : List Point)
    (h : l'.map (fun p => (p.t, p.prev, p.next)) = l.map (fun p => (p.t, p.prev, p.next))) :
    LinksFrom pv l' ↔ LinksFrom pv l := by
  induction l generalizing pv l' with
  | nil =>
    cases l' with
    | nil => simp
    | cons a r => simp at h
  | cons p rest ih =>
    cases l' with
    | nil => simp at h
    | cons p' rest' =>
      simp only [List.map_cons, List.cons.injEq, Prod.mk.injEq] at h
      obtain ⟨⟨ht, hpv, hnx⟩, hr⟩ := h
      have hh : rest'.head?.map (·.t) = rest.head?.map (·.t) := by
        cases rest' <;> cases rest <;> simp_all
      simp only [LinksFrom, ht, hpv, hnx, hh, ih (some p.t) rest' hr]

theorem getPoint_split (pre post : List Point) (t : Int) (h1 : ∀ p ∈ pre, p.t < t)
    (h2 : ∀ b ∈ post.head?, t ≤ b.t) :
    getPoint (pre ++ post) t = (post.head?).bind (fun b => if b.t = t then some b else none) := by
  unfold getPoint
  rw [searchsorted_app (·.t) pre post t h1 h2, getElem?_app_len]
  cases post <;> simp

theorem getPoint_some {pts : List Point} {t : Int} {p : Point} (h : getPoint pts t = some p) : p ∈ pts ∧ p.t = t := by
  unfold getPoint at h
  split at h
  · rename_i q hq
    split at h
    · rename_i hqt
      cases h
      exact ⟨List.mem_of_getElem? hq, hqt⟩
    · cases h
  · cases h

theorem sorted_post_gt {α : Type} {key : α → Int} {pre post : List α} {b : α} {t : Int}
    (hs : ((pre ++ b :: post).map key).Pairwise (· < ·)) (hb : t ≤ key b) : ∀ p ∈ post, t < key p := by
  intro p hp
  simp only [List.map_append, List.map_cons, List.pairwise_append, List.pairwise_cons] at hs
  have := hs.2.1.1 (key p) (List.mem_map_of_mem hp)
  omega

/-- a list strictly sorted by `key`, cut at `x`: the elements below `x` (the search index counts them), the element at
`x` if there is one, the elements above `x` -/
theorem sorted_split {α : Type} (key : α → Int) {l : List α} (hs : (l.map key).Pairwise (· < ·)) (x : Int) :
    ∃ pre mid post, l = pre ++ mid ++ post ∧ (∀ p ∈ pre, key p < x) ∧ (mid = [] ∨ ∃ b, mid = [b] ∧ key b = x)
      ∧ (∀ p ∈ post, x < key p) ∧ searchsorted (l.map key) x = pre.length := by
  obtain ⟨pre, post, rfl, h1, h2, h4⟩ := searchsorted_split key l x
  cases post with
  | nil => exact ⟨pre, [], [], by simp, h1, Or.inl rfl, by simp, h4⟩
  | cons b r =>
    have hb : x ≤ key b := h2 b (by simp)
    have hr := sorted_post_gt hs hb
    by_cases hbx : key b = x
    · exact ⟨pre, [b], r, by simp, h1, Or.inr ⟨b, rfl, hbx⟩, hr, h4⟩
    · refine ⟨pre, [], b :: r, by simp, h1, Or.inl rfl, ?_, h4⟩
      exact List.forall_mem_cons.mpr ⟨by omega, hr⟩

theorem sorted_insert {pre post : List Point} {x : Point} (hs : ((pre ++ post).map (·.t)).Pairwise (· < ·))
    (h1 : ∀ p ∈ pre, p.t < x.t) (h2 : ∀ p ∈ post, x.t < p.t) : ((pre ++ x :: post).map (·.t)).Pairwise (· < ·) := by
  simp only [List.map_append, List.map_cons, List.pairwise_append, List.pairwise_cons] at hs ⊢
  refine ⟨hs.1, ⟨?_, hs.2.1⟩, ?_⟩
  · intro y hy
    obtain ⟨p, hp, rfl⟩ := List.mem_map.mp hy
    exact h2 p hp
  · intro a ha b hb
    rcases List.mem_cons.mp hb with rfl | hb
    · obtain ⟨p, hp, rfl⟩ := List.mem_map.mp ha
      exact h1 p hp
    · exact hs.2.2 a ha b hb

theorem sorted_erase {pre post : List Point} {b : Point} (hs : ((pre ++ b :: post).map (·.t)).Pairwise (· < ·)) :
    ((pre ++ post).map (·.t)).Pairwise (· < ·) :=
  hs.sublist (((List.Sublist.refl pre).append (List.sublist_cons_self b post)).map _)

theorem sorted_filter {pts : List Point} (hs : (pts.map (·.t)).Pairwise (· < ·)) (f : Point → Bool) :
    ((pts.filter f).map (·.t)).Pairwise (· < ·) :=
  hs.sublist (List.filter_sublist.map _)

theorem point_unique {pts : List Point} (hs : (pts.map (·.t)).Pairwise (· < ·)) {p p' : Point}
    (hp : p ∈ pts) (hp' : p' ∈ pts) (ht : p.t = p'.t) : p = p' :=
  Lists.eq_of_nodup_map (hs.imp Int.ne_of_lt) hp hp' ht

theorem findPoint_split (pre r : List Point) (b : Point) (t : Int) (h1 : ∀ p ∈ pre, p.t < t) (hb : b.t = t) :
    findPoint (pre ++ b :: r) t = some b := by
  unfold findPoint
  induction pre with
  | nil => simp [hb]
  | cons a pre ih =>
    have : a.t < t := h1 a (by simp)
    have hne : (a.t == t) = false := by simp; omega
    simp only [List.cons_append, List.find?_cons, hne]
    exact ih (fun p hp => h1 p (by simp [hp]))

theorem split_at_time {pts : List Point} (hs : (pts.map (·.t)).Pairwise (· < ·)) {t : Int}
    (ht : t ∈ pts.map (·.t)) :
    ∃ pre b r, pts = pre ++ b :: r ∧ b.t = t ∧ (∀ p ∈ pre, p.t < t) ∧ (∀ p ∈ r, t < p.t) := by
  obtain ⟨pre, mid, r, rfl, h1, hmid, h2, -⟩ := sorted_split Point.t hs t
  rcases hmid with rfl | ⟨b, rfl, hb⟩
  · obtain ⟨p, hp, hpt⟩ := List.mem_map.mp ht
    rcases List.mem_append.mp hp with hp | hp
    · have := h1 p (by simpa using hp); omega
    · have := h2 p hp; omega
  · exact ⟨pre, b, r, by simp, hb, h1, h2⟩

theorem findPoint_mem {pts : List Point} {t : Int} {p : Point} (h : findPoint pts t = some p) :
    p ∈ pts ∧ p.t = t := by
  unfold findPoint at h
  exact ⟨List.mem_of_find?_eq_some h, by simpa using List.find?_some h⟩

theorem sorted_pre_lt {l r : List Point} {p : Point} (hs : ((l ++ p :: r).map (·.t)).Pairwise (· < ·)) :
    ∀ a ∈ l, a.t < p.t := by
  intro a ha
  simp only [List.map_append, List.map_cons, List.pairwise_append] at hs
  exact hs.2.2 a.t (List.mem_map_of_mem ha) p.t (by simp)

theorem findPoint_of_mem {pts : List Point} (hs : (pts.map (·.t)).Pairwise (· < ·)) {q : Point} (hq : q ∈ pts) :
    findPoint pts q.t = some q := by
  obtain ⟨l, r, rfl⟩ := List.append_of_mem hq
  exact findPoint_split l r q q.t (sorted_pre_lt hs) rfl

theorem getPoint_of_split {l r : List Point} {p : Point}
    (hs : ((l ++ p :: r).map (·.t)).Pairwise (· < ·)) : getPoint (l ++ p :: r) p.t = some p := by
  rw [getPoint_split l (p :: r) p.t (sorted_pre_lt hs) (by simp)]
  simp

theorem getPoint_none_of_not_mem {pts : List Point} {t : Int} (h : t ∉ pts.map (·.t)) :
    getPoint pts t = none := by
  obtain ⟨pre, post, hsplit, h1, h2, -⟩ := searchsorted_split (·.t) pts t
  rw [hsplit, getPoint_split pre post t h1 h2]
  cases post with
  | nil => rfl
  | cons b r =>
    have : b.t ≠ t := by
      intro hb
      apply h
      rw [hsplit]
      simp [← hb]
    simp [this]

theorem split_absent {pts : List Point} (hs : (pts.map (·.t)).Pairwise (· < ·)) {t : Int}
    (ht : t ∉ pts.map (·.t)) :
    ∃ pre post, pts = pre ++ post ∧ (∀ p ∈ pre, p.t < t) ∧ (∀ p ∈ post, t < p.t) := by
  obtain ⟨pre, mid, post, rfl, h1, hmid, h2, -⟩ := sorted_split Point.t hs t
  rcases hmid with rfl | ⟨b, rfl, hb⟩
  · exact ⟨pre, post, by simp, h1, h2⟩
  · exact absurd (List.mem_map.mpr ⟨b, by simp, hb⟩) ht

/-- the registry (in its order) of side `sd` of the point at time `x`; `[]` when there is no point at `x` -/
def regAt (pts : List Point) (sd : Side) (x : Int) : List ObjRef :=
  ((findPoint pts x).map (·.reg sd)).getD []

theorem findPoint_map {pts : List Point} {g : Point → Point} (hg : ∀ p, (g p).t = p.t) (x : Int) :
    findPoint (pts.map g) x = (findPoint pts x).map g := by
  unfold findPoint
  rw [List.find?_map]
  congr 2
  funext p
  simp [hg]

/-- `regAt` reads the time and the registries of a point only: it is the same on two lists that agree up to a map `ν`
that keeps those (`Point.unlink` across relinking, `Point.unquarter` across `set_quarter_duration`) -/
theorem regAt_congr {ν : Point → Point} (hν : ∀ p, (ν p).t = p.t ∧ ∀ sd, (ν p).reg sd = p.reg sd) {l l' : List Point}
    (h : l'.map ν = l.map ν) (sd : Side) (x : Int) : regAt l' sd x = regAt l sd x := by
  have e : ∀ pts : List Point, regAt pts sd x = regAt (pts.map ν) sd x := by
    intro pts
    unfold regAt
    rw [findPoint_map (g := ν) (fun p => (hν p).1)]
    cases findPoint pts x <;> simp [(hν _).2]
  rw [e l', e l, h]

theorem unlink_same (p : Point) : p.unlink.t = p.t ∧ ∀ sd, p.unlink.reg sd = p.reg sd := ⟨rfl, unlink_reg p⟩

/-- a point without its quarter duration: what `set_quarter_duration` leaves alone -/
def Point.unquarter (p : Point) : Point := { p with quarter := 0 }

theorem unquarter_same (p : Point) : p.unquarter.t = p.t ∧ ∀ sd, p.unquarter.reg sd = p.reg sd :=
  ⟨rfl, fun sd => by cases sd <;> rfl⟩

theorem unquarter_of_same {l l' : List Point}
    (h : l'.map (fun p => (p.t, p.prev, p.next, p.starting, p.ending))
      = l.map (fun p => (p.t, p.prev, p.next, p.starting, p.ending))) :
    l'.map Point.unquarter = l.map Point.unquarter := by
  have := congrArg (List.map fun x : Int × Option Int × Option Int × List ObjRef × List ObjRef =>
    (⟨x.1, 0, x.2.1, x.2.2.1, x.2.2.2.1, x.2.2.2.2⟩ : Point)) h
  rw [List.map_map, List.map_map] at this
  exact this

/-- a point with an empty registry on side `sd` is invisible to `regAt · sd` (times being unique) -/
theorem regAt_skip_empty (pre post : List Point) (b : Point) (sd : Side) (x : Int) (hb : b.reg sd = [])
    (h2 : ∀ p ∈ post, p.t ≠ b.t) : regAt (pre ++ b :: post) sd x = regAt (pre ++ post) sd x := by
  unfold regAt findPoint
  induction pre with
  | nil =>
    simp only [List.nil_append, List.find?_cons]
    by_cases hx : b.t = x
    · have hnone : post.find? (fun p => p.t == x) = none := by
        rw [List.find?_eq_none]
        intro p hp
        have := h2 p hp
        simp; omega
      simp [hx, hb, hnone]
    · have : (b.t == x) = false := by simpa using hx
      simp [this]
  | cons a pre ih =>
    simp only [List.cons_append, List.find?_cons]
    cases (a.t == x) with
    | true => rfl
    | false => exact ih

theorem regAt_modify (pts : List Point) (t : Int) (f : Point → Point) (hf : ∀ p, (f p).t = p.t)
    (sd : Side) (x : Int) :
    regAt (modifyPoint pts t f) sd x
      = if x = t then ((findPoint pts t).map (fun p => (f p).reg sd)).getD [] else regAt pts sd x := by
  unfold regAt modifyPoint
  rw [findPoint_map (fun p => by split <;> simp [hf])]
  by_cases hx : x = t
  · subst hx
    simp only [if_true]
    cases hfp : findPoint pts x with
    | none => rfl
    | some p =>
      have := (findPoint_mem hfp).2
      simp [this]
  · simp only [hx, if_false]
    cases hfp : findPoint pts x with
    | none => rfl
    | some p =>
      have := (findPoint_mem hfp).2
      have hne : ¬ p.t = t := by omega
      simp [hne]

theorem regAt_of_point {pts : List Point} (hs : (pts.map (·.t)).Pairwise (· < ·)) {p : Point} (hp : p ∈ pts)
    (sd : Side) : regAt pts sd p.t = p.reg sd := by
  simp only [regAt, findPoint_of_mem hs hp, Option.map_some, Option.getD_some]

theorem regAt_of_mem {pts : List Point} (hs : (pts.map (·.t)).Pairwise (· < ·)) {t : Int}
    (ht : t ∈ pts.map (·.t)) (sd : Side) : ∃ p, findPoint pts t = some p ∧ regAt pts sd t = p.reg sd := by
  obtain ⟨p, hp, rfl⟩ := List.mem_map.mp ht
  exact ⟨p, findPoint_of_mem hs hp, regAt_of_point hs hp sd⟩

end TL
