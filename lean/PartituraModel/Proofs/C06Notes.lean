/-
The notes of the written file.  The note messages the exporter writes for one (track, channel, pitch) alternate between
note-on and note-off when the notes do not overlap, so the loader's pairing returns them (`C06Notes`); the order in which the
stable sort by tick arranges the messages of notes (`sortBy_blocks`), what a track pairs to from its note messages
(`pairs_of_proj`), and the note messages of one (channel, pitch) in the unmerged tracks and in the merged track (`C06Merged`).
-/
import PartituraModel.Model.PerfMidi
import PartituraModel.Proofs.Dicts
import PartituraModel.Proofs.C06Pair
import PartituraModel.Proofs.C06Defaults
import PartituraModel.Proofs.Ticks
import PartituraModel.Proofs.Forall2
import Mathlib.Tactic.Linarith

namespace C06Notes
open Model Model.PerfMidi C06Sort C06Pair C06Lists C06Export

/-- selector form of `proj`: the note messages filed under hash `κ` -/
def gK (κ : Nat) : Ev → Option Ev := fun e => if evKey e = some κ then some e else none

theorem proj_eq_sel (κ : Nat) (t : Track) : proj κ t = sel (gK κ) t := by
  induction t with
  | nil => rfl
  | cons m t ih =>
    obtain ⟨k, e⟩ := m
    unfold proj sel at ih ⊢
    by_cases h : evKey e = some κ
    · have hg : gK κ e = some e := by simp [gK, h]
      simp only [List.filter_cons, h, decide_true, if_true, List.filterMap_cons, hg, Option.map_some]
      rw [ih]
    · have hg : gK κ e = none := by simp [gK, h]
      simp only [List.filter_cons, h, decide_false, List.filterMap_cons, hg, Option.map_none]
      exact ih

theorem gK_program (κ ch pr : Nat) : gK κ (Ev.program ch pr) = none := by simp [gK, evKey]
theorem gK_tempo (κ m : Nat) : gK κ (Ev.tempo m) = none := by simp [gK, evKey]
theorem gK_eot (κ : Nat) : gK κ Ev.eot = none := by simp [gK, evKey]

/-- the notes of the performance on track number `tr` with (channel, pitch) hash `κ`, in the order the
    exporter writes them: part by part, each part's notes by (note_on, note_off) -/
def keyNotes (parts : List PPart) (tr κ : Nat) : List PNote :=
  parts.flatMap fun p =>
    (sortBy noteLe p.notes).filter (fun n => decide (n.track = tr) && decide (noteHash n.ch n.pitch = κ))

def noteMsgs (q : Rat → Int) (n : PNote) : Track :=
  [(q n.on, Ev.noteOn n.ch n.pitch n.vel), (q n.off, Ev.noteOff n.ch n.pitch 0)]

/-- the note as the loader should return it -/
def toR (q : Rat → Int) (n : PNote) : RNote := ⟨n.pitch, q n.on, q n.off, n.vel, n.ch⟩

theorem proj_noteMsgs (q : Rat → Int) (κ : Nat) (n : PNote) :
    proj κ (noteMsgs q n) = if noteHash n.ch n.pitch = κ then noteMsgs q n else [] := by
  unfold proj noteMsgs
  by_cases hk : noteHash n.ch n.pitch = κ
  · simp only [List.filter_cons, List.filter_nil, evKey, hk, decide_true, if_true]
  · simp only [List.filter_cons, List.filter_nil, evKey, Option.some.injEq, hk, decide_false, if_false,
      Bool.false_eq_true]

theorem evI_gK_notes (q : Rat → Int) (tr κ : Nat) (l : List PNote) :
    evI (gK κ) tr (l.flatMap (noteIns q))
      = (l.filter (fun n => decide (n.track = tr) && decide (noteHash n.ch n.pitch = κ))).flatMap (noteMsgs q) := by
  induction l with
  | nil => rfl
  | cons n l ih =>
    rw [List.flatMap_cons, evI_append, ih, evI_noteIns, ← proj_eq_sel]
    show (if _ then proj κ (noteMsgs q n) else []) ++ _ = _
    rw [proj_noteMsgs, ← ite_and]
    by_cases hc : n.track = tr ∧ noteHash n.ch n.pitch = κ
    · rw [if_pos hc, List.filter_cons_of_pos (by simp only [hc.1, hc.2, decide_true, Bool.and_self]), List.flatMap_cons]
    · rw [if_neg hc, List.filter_cons_of_neg (by simpa using hc), List.nil_append]

theorem evI_gK_part (q : Rat → Int) (tr κ : Nat) (p : PPart) :
    evI (gK κ) tr (partEvents q p)
      = ((sortBy noteLe p.notes).filter
          (fun n => decide (n.track = tr) && decide (noteHash n.ch n.pitch = κ))).flatMap (noteMsgs q) := by
  rw [evI_partEvents, evI_map_none (gK κ) tr p.metaOther _ (ev_none _ (gK_eot κ) fun _ => if_neg nofun), evI_gK_notes]
  simp [evI_map, gK, evKey]

theorem evI_gK_insertAll (q : Rat → Int) (tr κ : Nat) (parts : List PPart) :
    evI (gK κ) tr (insertAll q parts) = (keyNotes parts tr κ).flatMap (noteMsgs q) := by
  rw [evI_insertAll (gK κ) (gK_program κ)]
  unfold keyNotes
  rw [List.flatMap_assoc]
  congr 1
  funext p
  exact evI_gK_part q tr κ p

theorem noteMsgs_alt (q : Rat → Int) (S : List PNote) (hv : ∀ n ∈ S, 0 < n.vel) :
    Alt (S.flatMap (noteMsgs q)) (S.map (toR q)) := by
  induction S with
  | nil => exact Alt.nil
  | cons n S ih =>
    rw [List.flatMap_cons, List.map_cons]
    exact Alt.pair _ _ _ _ _ _ _ _ (hv n (List.mem_cons_self)) (Or.inl ⟨0, rfl⟩)
      (ih (fun m hm => hv m (List.mem_cons_of_mem _ hm)))

theorem mem_keyNotes {parts : List PPart} {tr κ : Nat} {n : PNote} (hn : n ∈ keyNotes parts tr κ) :
    (∃ p ∈ parts, n ∈ p.notes) ∧ n.track = tr ∧ noteHash n.ch n.pitch = κ := by
  obtain ⟨p, hp, hn⟩ := List.mem_flatMap.mp hn
  obtain ⟨h1, h2⟩ := List.mem_filter.mp hn
  exact ⟨⟨p, hp, ((isSort _).mem).mp h1⟩, by simpa using h2⟩

theorem noteLe_iff (a b : PNote) : noteLe a b = true ↔ (a.on < b.on ∨ (a.on = b.on ∧ a.off ≤ b.off)) := by
  simp [noteLe]

theorem noteLe_order : Lists.TotalPreorder noteLe := .lex PNote.on (.of_key PNote.off)

/-- two notes do not overlap (as half-open intervals) -/
def Apart (a b : PNote) : Prop := a.off ≤ b.on ∨ b.off ≤ a.on

theorem apart_ordered (a b : PNote) (hb : b.on ≤ b.off)
    (hle : noteLe a b = true) (hap : Apart a b) : a.off ≤ b.on := by
  rw [noteLe_iff] at hle
  rcases hap with h | h
  · exact h
  · rcases hle with h1 | ⟨h1, h2⟩
    · linarith
    · linarith

theorem keyNotes_single (p : PPart) (tr κ : Nat)
    (hwf : ∀ n ∈ p.notes, n.on ≤ n.off)
    (hap : p.notes.Pairwise (fun a b => a.track = b.track → noteHash a.ch a.pitch = noteHash b.ch b.pitch → Apart a b)) :
    (keyNotes [p] tr κ).Pairwise (fun a b => a.off ≤ b.on) := by
  unfold keyNotes
  simp only [List.flatMap_cons, List.flatMap_nil, List.append_nil]
  have hsym : ∀ a b : PNote, (a.track = b.track → noteHash a.ch a.pitch = noteHash b.ch b.pitch → Apart a b) →
      (b.track = a.track → noteHash b.ch b.pitch = noteHash a.ch a.pitch → Apart b a) := by
    intro a b h h1 h2
    rcases h h1.symm h2.symm with h | h
    · exact Or.inr h
    · exact Or.inl h
  have h1 : (sortBy noteLe p.notes).Pairwise
      (fun a b => a.track = b.track → noteHash a.ch a.pitch = noteHash b.ch b.pitch → Apart a b) :=
    (((isSort noteLe).perm p.notes).pairwise_iff (fun {a b} h => hsym a b h)).mpr hap
  have h2 := (isSort noteLe).pairwise noteLe_order p.notes
  have h3 := (h1.and h2).sublist (List.filter_sublist
    (p := fun n => decide (n.track = tr) && decide (noteHash n.ch n.pitch = κ)))
  refine List.Pairwise.imp_of_mem ?_ h3
  intro a b ha hb hab
  have ha' := List.mem_filter.mp ha
  have hb' := List.mem_filter.mp hb
  have hat : a.track = tr ∧ noteHash a.ch a.pitch = κ := by simpa using ha'.2
  have hbt : b.track = tr ∧ noteHash b.ch b.pitch = κ := by simpa using hb'.2
  exact apart_ordered a b (hwf b (((isSort _).mem).mp hb'.1)) hab.2
    (hab.1 (hat.1.trans hbt.1.symm) (hat.2.trans hbt.2.symm))

theorem quant_mono (mpq ppq : Nat) (a b : Rat) (h : a ≤ b) : quant mpq ppq a ≤ quant mpq ppq b :=
  Ticks.secToTick_mono mpq ppq h

end C06Notes

namespace C06Merged
open Model Model.PerfMidi C06Sort C06Pair C06Lists C06Export C06Notes C06Stable C06Defaults

/-- what a stable sort by tick needs of two notes `a`, `b` of one channel and pitch whose messages are
    written in this order (a's before b's, in one track or in tracks merged in this order): either `a` is
    released no later (in ticks) than `b` begins — on one tick the written order is kept —, or `b` is
    released on a tick strictly before the one where `a` begins -/
def MergeOk (q : Rat → Int) (a b : PNote) : Prop := q a.off ≤ q b.on ∨ q b.off < q a.on

instance (q : Rat → Int) (a b : PNote) : Decidable (MergeOk q a b) := by unfold MergeOk; infer_instance

/-- insertion of a note into a list of notes in order of tick: before the first that begins no earlier
    than the note is released -/
def insN (q : Rat → Int) (a : PNote) : List PNote → List PNote
  | [] => [a]
  | b :: S => if q a.off ≤ q b.on then a :: b :: S else b :: insN q a S

/-- the notes in the order of their messages after the stable sort by tick -/
def orderNotes (q : Rat → Int) (N : List PNote) : List PNote := N.foldr (insN q) []

theorem orderNotes_eq_sortBy (q : Rat → Int) (N : List PNote) :
    orderNotes q N = sortBy (fun a b => decide (q a.off ≤ q b.on)) N := by
  have ins (a : PNote) (S : List PNote) : insN q a S = insertBy (fun a b => decide (q a.off ≤ q b.on)) a S := by
    induction S with
    | nil => rfl
    | cons b S ih => simp only [insN, insertBy, decide_eq_true_eq, ih]
  induction N with
  | nil => rfl
  | cons a N ih =>
    show insN q a (orderNotes q N) = insertBy _ a (sortBy _ N)
    rw [ih, ins]

theorem perm_orderNotes (q : Rat → Int) (N : List PNote) : (orderNotes q N).Perm N := by
  rw [orderNotes_eq_sortBy]
  exact (isSort _).perm N

theorem orderNotes_of_sorted (q : Rat → Int) (N : List PNote) (h : N.Pairwise fun a b => q a.off ≤ q b.on) :
    orderNotes q N = N := by
  rw [orderNotes_eq_sortBy]
  exact (isSort _).eq_self (h.imp fun h => decide_eq_true h)

/-- inserting the two messages of a note into the messages of notes in order inserts the note -/
theorem insert_block (q : Rat → Int) (a : PNote) (hw : q a.on ≤ q a.off) (S : List PNote)
    (hS : ∀ b ∈ S, MergeOk q a b ∧ q b.on ≤ q b.off) :
    insertBy tickLe (q a.on, Ev.noteOn a.ch a.pitch a.vel)
        (insertBy tickLe (q a.off, Ev.noteOff a.ch a.pitch 0) (S.flatMap (noteMsgs q)))
      = (insN q a S).flatMap (noteMsgs q) := by
  have ins (k k' : Int) (e e' : Ev) (l : Track) : insertBy tickLe (k, e) ((k', e') :: l)
      = if k ≤ k' then (k, e) :: (k', e') :: l else (k', e') :: insertBy tickLe (k, e) l := by
    simp only [insertBy, tickLe, decide_eq_true_eq]
  induction S with
  | nil => exact (ins _ _ _ _ _).trans (if_pos hw)
  | cons b S ih =>
    have hb := hS b List.mem_cons_self
    show insertBy tickLe _ (insertBy tickLe _
      ((q b.on, Ev.noteOn b.ch b.pitch b.vel) :: (q b.off, Ev.noteOff b.ch b.pitch 0) :: S.flatMap (noteMsgs q)))
        = List.flatMap (noteMsgs q) (if q a.off ≤ q b.on then a :: b :: S else b :: insN q a S)
    by_cases h : q a.off ≤ q b.on
    · rw [ins (q a.off), if_pos h, ins, if_pos hw, if_pos h]
      rfl
    · have h1 : q b.off < q a.on := hb.1.resolve_left h
      rw [ins (q a.off), if_neg h, ins (q a.off), if_neg (by omega), ins (q a.on), if_neg (by omega), ins (q a.on),
        if_neg (by omega), ih fun c hc => hS c (List.mem_cons_of_mem _ hc), if_neg h]
      rfl

/-- the stable sort by tick of the messages of notes written in the order `N` arranges them note by note,
    in the order `orderNotes q N` -/
theorem sortBy_blocks (q : Rat → Int) (N : List PNote) (hw : ∀ n ∈ N, q n.on ≤ q n.off)
    (hno : N.Pairwise (MergeOk q)) :
    sortBy tickLe (N.flatMap (noteMsgs q)) = (orderNotes q N).flatMap (noteMsgs q) := by
  induction N with
  | nil => rfl
  | cons a N ih =>
    rw [List.pairwise_cons] at hno
    have e : sortBy tickLe ((a :: N).flatMap (noteMsgs q))
        = insertBy tickLe (q a.on, Ev.noteOn a.ch a.pitch a.vel)
            (insertBy tickLe (q a.off, Ev.noteOff a.ch a.pitch 0) (sortBy tickLe (N.flatMap (noteMsgs q)))) := by
      simp [List.flatMap_cons, noteMsgs, sortBy]
    rw [e, ih (fun n hn => hw n (List.mem_cons_of_mem _ hn)) hno.2]
    refine insert_block q a (hw a (List.mem_cons_self)) _ ?_
    intro b hb
    have hb' : b ∈ N := (perm_orderNotes q N).mem_iff.mp hb
    exact ⟨hno.1 b hb', hw b (List.mem_cons_of_mem _ hb')⟩

theorem alt_sortBy_noteMsgs (q : Rat → Int) (hq : ∀ a b, a ≤ b → q a ≤ q b) (N : List PNote)
    (hN : ∀ n ∈ N, n.on ≤ n.off ∧ 0 < n.vel) (hno : N.Pairwise (MergeOk q)) :
    Alt (sortBy tickLe (N.flatMap (noteMsgs q))) ((orderNotes q N).map (toR q)) := by
  rw [sortBy_blocks q N (fun n hn => hq _ _ (hN n hn).1) hno]
  exact noteMsgs_alt q _ fun n hn => (hN n ((perm_orderNotes q N).mem_iff.mp hn)).2

theorem proj_sortBy (κ : Nat) (l : Track) : proj κ (sortBy tickLe l) = sortBy tickLe (proj κ l) :=
  (isSort tickLe).filter_comm tickLe_order _ l

theorem proj_ne (κ : Nat) (t : Track) : proj κ (ne t) = proj κ t := by
  rw [proj_eq_sel, proj_eq_sel, sel_ne _ (gK_eot κ)]

theorem proj_fixEot (κ : Nat) (t : Track) : proj κ (fixEot t) = proj κ t := by
  rw [← proj_ne, ne_fixEot, proj_ne]

theorem proj_flatten (κ : Nat) (ts : List Track) : proj κ ts.flatten = ts.flatMap (proj κ) :=
  List.filter_flatten.trans List.flatMap_def.symm

theorem proj_trackAbs_sort (q : Rat → Int) (parts : List PPart) (tr κ : Nat) :
    proj κ (trackAbs (insertAll q parts) tr) = sortBy tickLe ((keyNotes parts tr κ).flatMap (noteMsgs q)) := by
  unfold trackAbs
  rw [proj_sortBy, proj_eq_sel]
  exact congrArg _ (evI_gK_insertAll q tr κ parts)

theorem proj_cons_tempo (κ mpq : Nat) (t : Track) : proj κ ((0, Ev.tempo mpq) :: t) = proj κ t := by
  rw [proj_eq_sel, proj_eq_sel, sel_cons_none _ _ _ (gK_tempo κ mpq)]

/-- what a track pairs to, given its note messages hash by hash: applies to each unmerged track and to the merged one -/
theorem pairs_of_proj (q : Rat → Int) (hq : ∀ a b, a ≤ b → q a ≤ q b) (T : Track) (N : Nat → List PNote)
    (hT : ∀ κ, proj κ T = sortBy tickLe ((N κ).flatMap (noteMsgs q)))
    (hN : ∀ κ, ∀ n ∈ N κ, n.on ≤ n.off ∧ 0 < n.vel) (hno : ∀ κ, (N κ).Pairwise (MergeOk q)) (κ : Nat) :
    notesOf κ (pairNotes T) = (orderNotes q (N κ)).map (toR q) :=
  pairNotes_of_alt T _ (fun κ => hT κ ▸ alt_sortBy_noteMsgs q hq _ (hN κ) (hno κ)) κ

theorem notes_tracks (q : Rat → Int) (hq : ∀ a b, a ≤ b → q a ≤ q b) (mpq : Nat) (parts : List PPart)
    (hwf : ∀ p ∈ parts, ∀ n ∈ p.notes, n.on ≤ n.off ∧ 0 < n.vel)
    (hno : ∀ tr κ, (keyNotes parts tr κ).Pairwise (MergeOk q)) :
    List.Forall₂ (fun tr t => ∀ κ, notesOf κ (pairNotes t) = (orderNotes q (keyNotes parts tr κ)).map (toR q))
      (usedTracks q parts) (loaderTracks false ((savedAbs q mpq false parts).map toDelta)) := by
  have hmem : ∀ tr κ, ∀ n ∈ keyNotes parts tr κ, n.on ≤ n.off ∧ 0 < n.vel := fun tr κ n hn =>
    let ⟨⟨p, hp, hn⟩, _⟩ := mem_keyNotes hn
    hwf p hp n hn
  have key : ∀ tr (t : Track), (∀ κ, proj κ t = proj κ (trackAbs (insertAll q parts) tr)) →
      ∀ κ, notesOf κ (pairNotes t) = (orderNotes q (keyNotes parts tr κ)).map (toR q) := fun tr t ht =>
    pairs_of_proj q hq t _ (fun κ => (ht κ).trans (proj_trackAbs_sort q parts tr κ)) (hmem tr) (hno tr)
  rw [loaderTracks_saved, List.forall₂_map_right_iff]
  refine forall₂_exportAbs _ q mpq parts (fun tr => key tr _ fun κ => ?_) fun tr => key tr _ fun κ => proj_fixEot κ _
  rw [proj_fixEot, proj_cons_tempo]

/-- all notes of hash `κ` in the order their messages are written into the tracks that get merged: by
    track number, within a track part by part, within a part by (note_on, note_off) -/
def mergedKeyNotes (q : Rat → Int) (parts : List PPart) (κ : Nat) : List PNote :=
  (usedTracks q parts).flatMap fun tr => keyNotes parts tr κ

theorem flatMap_proj_exportAbs (q : Rat → Int) (mpq : Nat) (parts : List PPart) (κ : Nat) :
    (exportAbs q mpq parts).flatMap (proj κ)
      = (usedTracks q parts).flatMap fun tr => sortBy tickLe ((keyNotes parts tr κ).flatMap (noteMsgs q)) := by
  refine (Lists.forall₂_flatMap_eq ?_ _ _ (fun _ _ h => Eq.symm h)).symm
  refine forall₂_exportAbs _ q mpq parts ?_ ?_
  · intro tr
    rw [proj_cons_tempo, proj_trackAbs_sort]
  · intro tr
    exact proj_trackAbs_sort q parts tr κ

theorem sortBy_flatMap_proj_exportAbs (q : Rat → Int) (mpq : Nat) (parts : List PPart) (κ : Nat) :
    sortBy tickLe ((exportAbs q mpq parts).flatMap (proj κ))
      = sortBy tickLe ((mergedKeyNotes q parts κ).flatMap (noteMsgs q)) := by
  rw [flatMap_proj_exportAbs, sortBy_flatMap_sortBy]
  unfold mergedKeyNotes
  rw [List.flatMap_assoc]

theorem merged_track (q : Rat → Int) (mpq : Nat) (ms ml : Bool) (parts : List PPart)
    (hm : ml = true ∨ (ms = true ∧ 1 < (usedTracks q parts).length)) :
    ∃ T, loaderTracks ml ((savedAbs q mpq ms parts).map toDelta) = [T] ∧
      ∀ κ, proj κ T = sortBy tickLe ((mergedKeyNotes q parts κ).flatMap (noteMsgs q)) := by
  have h := seen_ne q mpq ms ml parts
  rw [if_pos (by rcases hm with rfl | ⟨rfl, h⟩ <;> simp [*])] at h
  obtain ⟨T, hT⟩ : ∃ T, loaderTracks ml ((savedAbs q mpq ms parts).map toDelta) = [T] :=
    List.length_eq_one_iff.mp ((List.length_map _).symm.trans (congrArg List.length h))
  refine ⟨T, hT, fun κ => ?_⟩
  rw [hT] at h
  rw [← proj_ne, List.head_eq_of_cons_eq h, mergedNe, proj_sortBy, proj_flatten, List.flatMap_map]
  simp only [proj_ne]
  exact sortBy_flatMap_proj_exportAbs q mpq parts κ

theorem perm_of_filter_key {γ : Type} [DecidableEq γ] (key : γ → Nat) (X Y : List γ)
    (h : ∀ κ, (X.filter (fun x => decide (key x = κ))).Perm (Y.filter (fun x => decide (key x = κ)))) :
    X.Perm Y := by
  rw [List.perm_iff_count]
  intro a
  have := (h (key a)).count_eq a
  rw [List.count_filter (by simp), List.count_filter (by simp)] at this
  exact this

theorem note_track_used (q : Rat → Int) (parts : List PPart) (p : PPart) (hp : p ∈ parts)
    (n : PNote) (hn : n ∈ p.notes) : n.track ∈ usedTracks q parts := by
  refine mem_usedTracks q parts (n.track, q n.on, Ev.noteOn n.ch n.pitch n.vel)
    (mem_insertAll_of_partEvents q parts p hp _ ?_)
  unfold partEvents
  simp only [List.mem_append, List.mem_flatMap]
  refine Or.inl (Or.inr ⟨n, ((isSort _).mem).mpr hn, ?_⟩)
  simp [noteIns]

theorem mem_mergedKeyNotes (q : Rat → Int) (parts : List PPart) (κ : Nat) (n : PNote)
    (hn : n ∈ mergedKeyNotes q parts κ) : ∃ p ∈ parts, n ∈ p.notes :=
  let ⟨_, _, hn⟩ := List.mem_flatMap.mp hn
  (mem_keyNotes hn).1

theorem mergedKeyNotes_perm (q : Rat → Int) (parts : List PPart) (κ : Nat) :
    (mergedKeyNotes q parts κ).Perm
      ((parts.flatMap (·.notes)).filter (fun n => decide (noteHash n.ch n.pitch = κ))) := by
  let Z := parts.flatMap fun p => (sortBy noteLe p.notes).filter (fun n => decide (noteHash n.ch n.pitch = κ))
  have hZ : Z.Perm ((parts.flatMap (·.notes)).filter (fun n => decide (noteHash n.ch n.pitch = κ))) := by
    show (parts.flatMap _).Perm _
    rw [List.filter_flatMap]
    refine Lists.forall₂_flatMap_perm (List.forall₂_same.mpr fun p _ => ?_) _ _ (fun _ _ h => h)
    exact ((isSort noteLe).perm p.notes).filter _
  have hk : ∀ tr, keyNotes parts tr κ = Z.filter (fun n => decide (n.track = tr)) := by
    intro tr
    show _ = (parts.flatMap _).filter _
    unfold keyNotes
    rw [List.filter_flatMap]
    refine List.flatMap_congr ?_
    intro p _
    rw [List.filter_filter]
  unfold mergedKeyNotes
  simp only [hk]
  refine (Dicts.flatMap_filter_perm (fun n : PNote => n.track) (nodup_uniqueSorted _) Z ?_).trans hZ
  intro n hn
  obtain ⟨p, hp, hn⟩ := List.mem_flatMap.mp hn
  exact note_track_used q parts p hp n (((isSort _).mem).mp (List.mem_filter.mp hn).1)

end C06Merged
