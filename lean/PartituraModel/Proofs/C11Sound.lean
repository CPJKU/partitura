/-
C11 — the executable, fuel-bounded `sounding` of Model/Measures.lean IS the recursion `Walk` of
`duration_tied` / `end_tied`: a walk visits every key at most once (it is deterministic and finite), so it is at most
as long as the list and the fuel `ns.length` never runs out.  With the row and walk theorems of C11Rows / C11Walk this
gives the note array of the model, as a list, before and after stage 1 of `tie_notes`.
-/
import PartituraModel.Proofs.C11Rows

namespace C11Sound
open Model Model.Dur Model.Meas C11Tie C11Walk C11Rows

/-- `Walk` with the keys it visits -/
inductive WalkP (ns : List Note) : Nat → Nat → Nat → List Nat → Prop
  | last (x : Nat) (n : Note) : lk ns x = some n → n.tieNext = none → WalkP ns x (n.stop - n.start) n.stop [x]
  | step (x : Nat) (n : Note) (t d e : Nat) (p : List Nat) : lk ns x = some n → n.tieNext = some t → WalkP ns t d e p →
      WalkP ns x ((n.stop - n.start) + d) e (x :: p)

theorem walk_path (ns : List Note) : ∀ x d e, Walk ns x d e → ∃ p, WalkP ns x d e p := by
  intro x d e h
  induction h with
  | last x n hn hnone => exact ⟨[x], .last x n hn hnone⟩
  | step x n t d e hn hsome _ ih =>
    obtain ⟨p, hp⟩ := ih
    exact ⟨x :: p, .step x n t d e p hn hsome hp⟩

theorem walkP_walk (ns : List Note) : ∀ x d e p, WalkP ns x d e p → Walk ns x d e := by
  intro x d e p h
  induction h with
  | last x n hn hnone => exact .last x n hn hnone
  | step x n t d e p hn hsome _ ih => exact .step x n t d e hn hsome ih

theorem walkP_unique (ns : List Note) : ∀ x d e p, WalkP ns x d e p → ∀ d' e' p', WalkP ns x d' e' p' →
    d = d' ∧ e = e' ∧ p = p' := by
  intro x d e p h
  induction h with
  | last x n hn hnone =>
    intro d' e' p' h'
    cases h' with
    | last _ n' hn' _ => rw [hn] at hn'; cases hn'; exact ⟨rfl, rfl, rfl⟩
    | step _ n' t _ _ _ hn' hsome _ => rw [hn] at hn'; cases hn'; rw [hnone] at hsome; cases hsome
  | step x n t d e p hn hsome _ ih =>
    intro d' e' p' h'
    cases h' with
    | last _ n' hn' hnone => rw [hn] at hn'; cases hn'; rw [hsome] at hnone; cases hnone
    | step _ n' t' d'' _ p'' hn' hsome' hw' =>
      rw [hn] at hn'; cases hn'
      rw [hsome] at hsome'; cases hsome'
      obtain ⟨i1, i2, i3⟩ := ih _ _ _ hw'
      exact ⟨by rw [i1], i2, by rw [i3]⟩

theorem walkP_head (ns : List Note) : ∀ x d e p, WalkP ns x d e p → ∃ t, p = x :: t := by
  intro x d e p h
  cases h with
  | last => exact ⟨[], rfl⟩
  | step _ _ _ _ _ p => exact ⟨p, rfl⟩

theorem walkP_suffix (ns : List Note) : ∀ x d e p, WalkP ns x d e p →
    ∀ y ∈ p, ∃ d' e' p', WalkP ns y d' e' p' ∧ p' <:+ p := by
  intro x d e p h
  induction h with
  | last x n hn hnone =>
    intro y hy
    simp only [List.mem_singleton] at hy
    subst hy
    exact ⟨_, _, [y], .last y n hn hnone, List.suffix_refl _⟩
  | step x n t d e p hn hsome hw ih =>
    intro y hy
    rcases List.mem_cons.mp hy with rfl | hy
    · exact ⟨_, _, y :: p, .step y n t d e p hn hsome hw, List.suffix_refl _⟩
    · obtain ⟨d', e', p', hp', hs⟩ := ih y hy
      exact ⟨d', e', p', hp', hs.trans (List.suffix_cons x p)⟩

theorem walkP_nodup (ns : List Note) : ∀ x d e p, WalkP ns x d e p → p.Nodup := by
  intro x d e p h
  induction h with
  | last x n hn hnone => simp
  | step x n t d e p hn hsome hw ih =>
    refine List.nodup_cons.mpr ⟨?_, ih⟩
    intro hx
    obtain ⟨d', e', p', hp', hs⟩ := walkP_suffix ns t d e p hw x hx
    have := (walkP_unique ns x _ _ _ (.step x n t d e p hn hsome hw) d' e' p' hp').2.2
    rw [← this] at hs
    have := hs.length_le
    simp at this

theorem walkP_keys (ns : List Note) : ∀ x d e p, WalkP ns x d e p → p ⊆ ns.map (·.key) := by
  intro x d e p h
  induction h with
  | last x n hn hnone =>
    intro y hy
    simp only [List.mem_singleton] at hy
    subst hy
    obtain ⟨h1, h2⟩ := lk_some ns y n hn
    exact List.mem_map.mpr ⟨n, h2, h1⟩
  | step x n t d e p hn hsome hw ih =>
    intro y hy
    rcases List.mem_cons.mp hy with rfl | hy
    · obtain ⟨h1, h2⟩ := lk_some ns y n hn
      exact List.mem_map.mpr ⟨n, h2, h1⟩
    · exact ih hy

theorem walkP_length (ns : List Note) (x d e : Nat) (p : List Nat) (h : WalkP ns x d e p) : p.length ≤ ns.length := by
  have := List.Nodup.length_le_of_subset (walkP_nodup ns x d e p h) (walkP_keys ns x d e p h)
  simpa using this

theorem walk_lk {ns : List Note} {x d e : Nat} (h : Walk ns x d e) : ∃ n, lk ns x = some n := by
  cases h with
  | last _ n h _ => exact ⟨n, h⟩
  | step _ n _ _ _ h _ _ => exact ⟨n, h⟩

theorem chainEndDur_walkP (ns : List Note) : ∀ x d e p, WalkP ns x d e p →
    ∀ (fuel : Nat) (n : Note), lk ns x = some n → p.length ≤ fuel + 1 → chainEndDur ns fuel n = (e, d) := by
  intro x d e p h
  induction h with
  | last x n hn hnone =>
    intro fuel n' hn' _
    rw [hn] at hn'; cases hn'
    cases fuel with
    | zero => rfl
    | succ f => unfold chainEndDur; rw [hnone]; rfl
  | step x n t d e p hn hsome hw ih =>
    intro fuel n' hn' hlen
    rw [hn] at hn'; cases hn'
    obtain ⟨tl, hp⟩ := walkP_head ns t d e p hw
    cases fuel with
    | zero => rw [hp] at hlen; simp at hlen
    | succ f =>
      obtain ⟨nx, hnx⟩ := walk_lk (walkP_walk ns t d e p hw)
      have hrec := ih f nx hnx (by simp only [List.length_cons] at hlen; omega)
      unfold chainEndDur
      have hb : (n.tieNext.bind fun k => ns.find? (·.key = k)) = some nx := by
        rw [hsome]; exact hnx
      rw [hb]
      simp only [hrec]

/-- `duration_tied` of the note with key `x` as the model's `sounding` computes it (0 when there is no such note) -/
def durOf (ns : List Note) (x : Nat) : Nat :=
  match lk ns x with
  | some n => (chainEndDur ns ns.length n).2
  | none => 0

theorem chainEndDur_walk (ns : List Note) (x d e : Nat) (n : Note) (hn : lk ns x = some n) (h : Walk ns x d e) :
    chainEndDur ns ns.length n = (e, d) := by
  obtain ⟨p, hp⟩ := walk_path ns x d e h
  exact chainEndDur_walkP ns x d e p hp ns.length n hn (Nat.le_succ_of_le (walkP_length ns x d e p hp))

theorem durOf_walk (ns : List Note) (x d e : Nat) (h : Walk ns x d e) : durOf ns x = d := by
  obtain ⟨n, hn⟩ := walk_lk h
  unfold durOf
  rw [hn]
  simp only [chainEndDur_walk ns x d e n hn h]

/-- the row of the note array that belongs to a row of `rowsOf`, given the tied duration of its key -/
def rowWith (dur : Nat → Nat) (f : Fields) : Nat × Nat × String × Option Int × Option String :=
  (f.2.1, dur f.1, f.2.2.1, f.2.2.2.1, f.2.2.2.2)

theorem sounding_eq_rows (ns : List Note) (hkeys : KeysOK ns) : sounding ns = (rowsOf ns).map (rowWith (durOf ns)) := by
  unfold sounding rowsOf
  rw [List.map_map]
  have hf : (ns.filter fun n => n.tiePrev.isNone) = ns.filter isRow := rfl
  rw [hf]
  apply List.map_congr_left
  intro n hn
  have hmem : n ∈ ns := (List.mem_filter.mp hn).1
  simp only [Function.comp, rowWith, fields, durOf, lk_self ns hkeys n hmem]

/-- every row's chain can be walked: `duration_tied` terminates on every note of the note array -/
def Walkable (ns : List Note) : Prop := ∀ n ∈ ns, n.tiePrev = none → ∃ d e, Walk ns n.key d e

theorem sounding_congr (ns ns' : List Note) (hk : KeysOK ns) (hk' : KeysOK ns') (hrows : rowsOf ns' = rowsOf ns)
    (hw : Walkable ns) (hkeep : ∀ x d e, Walk ns x d e → Walk ns' x d e) : sounding ns' = sounding ns := by
  rw [sounding_eq_rows ns hk, sounding_eq_rows ns' hk', hrows]
  apply List.map_congr_left
  intro f hf
  obtain ⟨n, hmem, hnone, rfl⟩ := mem_rowsOf.mp hf
  obtain ⟨d, e, hwalk⟩ := hw n hmem hnone
  have h1 := durOf_walk ns n.key d e hwalk
  have h2 := durOf_walk ns' n.key d e (hkeep _ _ _ hwalk)
  simp only [rowWith, fields, h1, h2]

theorem sounding_tieStage1 (qd : List (Int × Nat)) (ms : List Nat) (ns : List Note) (hkeys : KeysOK ns)
    (hlinks : LinksOK ns) (hw : Walkable ns) : sounding (tieStage1 qd ms ns) = sounding ns := by
  obtain ⟨hrows, hk', _⟩ := tieStage1_rows qd ms ns hkeys hlinks
  exact sounding_congr ns _ hkeys hk' hrows hw (tieStage1_sound qd ms ns).1

theorem walkable_tieStage1 (qd : List (Int × Nat)) (ms : List Nat) (ns : List Note) (hkeys : KeysOK ns)
    (hlinks : LinksOK ns) (hw : Walkable ns) : Walkable (tieStage1 qd ms ns) := by
  obtain ⟨hrows, hk', _⟩ := tieStage1_rows qd ms ns hkeys hlinks
  intro n' hn' hnone
  have hrow : fields n' ∈ rowsOf (tieStage1 qd ms ns) := mem_rowsOf.mpr ⟨n', hn', hnone, rfl⟩
  rw [hrows] at hrow
  obtain ⟨n, hmem, hnone', hf⟩ := mem_rowsOf.mp hrow
  obtain ⟨d, e, hwalk⟩ := hw n hmem hnone'
  have hkey : n.key = n'.key := by
    have := congrArg (·.1) hf
    simpa [fields] using this
  rw [← hkey]
  exact ⟨d, e, (tieStage1_sound qd ms ns).1 _ _ _ hwalk⟩

end C11Sound
