/-
A written `measure` read back by the `Mei` state machine: its layers, its staves, and where it ends.
-/
import PartituraModel.Proofs.C19MeiLayer
import PartituraModel.Proofs.Folds

namespace C19M
open Model Model.Mei Model.MeiWrite

/-- between two children of an open `par` element (a `staff` or a `measure`): nothing open but structure -/
structure Between (par : String) (st : Mei.St) : Prop where
  par : parentTag st = par
  noLayer : inLayer st.stack = false
  noTup : tupletsOf st.stack = []
  ch : st.chord = none

theorem Between.congr {par : String} {st st' : Mei.St} (h : Between par st) (hs : st'.stack = st.stack)
    (hc : st'.chord = st.chord) : Between par st' :=
  ⟨by rw [← h.par, parentTag, parentTag, hs], hs ▸ h.noLayer, hs ▸ h.noTup, hc ▸ h.ch⟩

theorem Between.top {par : String} {st : Mei.St} (h : Between par st) (hp : par ≠ "") :
    ∃ g rest, st.stack = g :: rest ∧ g.tag = par := by
  have := h.par
  simp only [parentTag] at this
  cases hs : st.stack with
  | nil => simp [hs] at this; exact absurd this hp
  | cons g rest => simp [hs] at this; exact ⟨g, rest, rfl, this⟩

theorem Between.of_push (st : Mei.St) (tag : String) (as : List (String × String)) (hnl : inLayer st.stack = false)
    (hnt : tupletsOf st.stack = []) (hch : st.chord = none) (h1 : tag ≠ "layer") (h2 : tag ≠ "tuplet") :
    Between tag (push st tag as) :=
  ⟨rfl, inLayer_push_false st tag as hnl h1, (C19S.tupletsOf_cons_of_ne h2 _).trans hnt, hch⟩

theorem layer_spec (divs : Nat) (ks : List String) (l : Nat × Nat × List Item) (start e : Nat)
    (hok : itemsOk divs start l.2.2 = some e) (st : Mei.St) (hc : Between "staff" st) (hpos : st.pos = (start : Rat) / (divs : Rat)) :
    Written (layerEvs ks l) st fun st' => ∃ de new,
      st' = { st with notes := new ++ st.notes, cursor := (e : Rat) / (divs : Rat), voice := (l.2).1,
                      layerEnds := ((e : Rat) / (divs : Rat)) :: st.layerEnds, layerIdx := st.layerIdx + 1, durEls := de } ∧
      Reads divs (· = st.staffIdx) new (l.2.2.flatMap itemNotes) := by
  obtain ⟨g, rest, hstack, hg⟩ := hc.top (by decide)
  have hopen := openEv_layer st [("n", natStr l.2.1)] (pre_noDur _ _ _ rfl rfl (by decide)) hc.par
  rw [natAttr_natStr, Option.getD_some] at hopen
  refine Written.el hopen (items_spec divs ks l.2.2 start e hok _
    ⟨by simp [push, inLayer], by simp [parentTag, push], (C19S.tupletsOf_cons_of_ne (by simp) _).trans hc.noTup, hc.ch, by simp⟩ hpos) ?_
  rintro _ ⟨de, new, rfl, hr⟩
  refine ⟨_, closeEv_layer _ { tag := "layer", attrs := [("n", natStr l.2.1)] } g rest (by simp [push, hstack]) rfl hg, de, new, ?_, hr⟩
  simp [push, hstack]

/-- a time in divisions, in quarters -/
def q (divs : Nat) (t : Nat) : Rat := (t : Rat) / (divs : Rat)

theorem layers_spec (divs : Nat) (ks : List String) (ls : List (Nat × Nat × List Item)) (start : Nat)
    (hok : ∀ l ∈ ls, (itemsOk divs start l.2.2).isSome)
    (st : Mei.St) (hc : Between "staff" st) (hpos : st.pos = (start : Rat) / (divs : Rat)) :
    Written ((mapMOpt (layerEvs ks) ls).map List.flatten) st fun st' => ∃ de new c v,
      st' = { st with notes := new ++ st.notes, cursor := c, voice := v,
                      layerEnds := ((ls.filterMap fun l => itemsOk divs start l.2.2).map (q divs)).reverse ++ st.layerEnds,
                      layerIdx := st.layerIdx + ls.length, durEls := de } ∧
      Reads divs (· = st.staffIdx) new (ls.flatMap fun l => l.2.2.flatMap itemNotes) := by
  induction ls generalizing st with
  | nil => exact Written.nil ⟨st.durEls, [], st.cursor, st.voice, by simp, Reads.nil _ _⟩
  | cons l rest ih =>
    obtain ⟨e, he⟩ := Option.isSome_iff_exists.mp (hok l (by simp))
    refine Written.cons (layer_spec divs ks l start e he st hc hpos) ?_
    rintro _ ⟨de1, new1, rfl, R1⟩
    refine Written.mono (ih (fun x hx => hok x (by simp [hx])) _ (hc.congr rfl rfl) hpos) ?_
    rintro _ ⟨de2, new2, c, v, rfl, R2⟩
    exact ⟨de2, new2 ++ new1, c, v, by simp [he, q, Nat.add_assoc, Nat.add_comm 1], R1.append R2⟩

theorem ratMaxFrom_cons (d a : Rat) (rest : List Rat) : ratMaxFrom d (a :: rest) = rest.foldl max a := by
  rw [ratMaxFrom, Lists.ite_lt_eq_max]

theorem ratMaxFrom_le (d : Rat) (l : List Rat) (B : Rat) (hd : d ≤ B) (hl : ∀ x ∈ l, x ≤ B) : ratMaxFrom d l ≤ B := by
  cases l with
  | nil => exact hd
  | cons a rest =>
    rw [ratMaxFrom_cons]
    exact Lists.foldl_max_le a rest B (hl a (by simp)) fun y hy => hl y (by simp [hy])

theorem ratMaxFrom_ge_mem (d : Rat) (l : List Rat) (x : Rat) (hx : x ∈ l) : x ≤ ratMaxFrom d l := by
  cases l with
  | nil => cases hx
  | cons a rest =>
    rw [ratMaxFrom_cons]
    rcases List.mem_cons.mp hx with rfl | hx
    · exact Lists.foldl_max_ge_init _ rest
    · exact Lists.foldl_max_ge_mem a rest x hx
/-- where the staff `s` of a measure ends: at its longest layer, or where the measure starts if it has none -/
def staffEnd (divs start : Nat) (layers : List (Nat × Nat × List Item)) (pos : Rat) (s : Nat) : Rat :=
  ratMaxFrom pos ((((layers.filter fun l => l.1 = s).filterMap fun l => itemsOk divs start l.2.2).map (q divs)).reverse)

theorem staff_spec (divs : Nat) (ks : List String) (layers : List (Nat × Nat × List Item)) (s : Nat) (start : Nat)
    (hok : ∀ l ∈ layers, (itemsOk divs start l.2.2).isSome)
    (st : Mei.St) (hc : Between "measure" st) (hpos : st.pos = (start : Rat) / (divs : Rat)) :
    Written (staffEvs ks layers s) st fun st' => ∃ de new c v sn li le ms,
      st' = { st with notes := new ++ st.notes, cursor := c, voice := v, staffN := sn,
                      layerIdx := li, layerEnds := le, measures := ms,
                      staffEnds := staffEnd divs start layers st.pos s :: st.staffEnds,
                      staffIdx := st.staffIdx + 1, durEls := de } ∧
      Reads divs (· = st.staffIdx) new ((layers.filter fun l => l.1 = s).flatMap fun l => l.2.2.flatMap itemNotes) := by
  obtain ⟨g, rest, hstack, hg⟩ := hc.top (by decide)
  have hopen := openEv_staff st [("n", natStr s)] (pre_noDur _ _ _ rfl rfl (by decide)) hc.par
  refine Written.el hopen (layers_spec divs ks (layers.filter fun l => l.1 = s) start
    (fun l hl => hok l (List.mem_filter.mp hl).1) _
    (Between.of_push { st with staffN := (natAttr [("n", natStr s)] "n").getD (st.staffIdx + 1), layerIdx := 0, layerEnds := [] }
      "staff" [("n", natStr s)] hc.noLayer hc.noTup hc.ch (by decide) (by decide)) hpos) ?_
  rintro _ ⟨de, new, c, v, rfl, R1⟩
  refine ⟨_, closeEv_staff _ { tag := "staff", attrs := [("n", natStr s)] } g rest (by simp [push, hstack]) rfl hg,
    de, new, c, v, (natAttr [("n", natStr s)] "n").getD (st.staffIdx + 1), 0 + (layers.filter fun l => l.1 = s).length,
    (((layers.filter fun l => l.1 = s).filterMap fun l => itemsOk divs start l.2.2).map (q divs)).reverse ++ [],
    (st.staffIdx, st.measNo, st.measName, st.pos, staffEnd divs start layers st.pos s) :: st.measures, ?_, R1⟩
  simp [push, hstack, staffEnd]

theorem staves_spec (divs : Nat) (ks : List String) (layers : List (Nat × Nat × List Item)) (start : Nat)
    (hok : ∀ l ∈ layers, (itemsOk divs start l.2.2).isSome) (ss : List Nat)
    (st : Mei.St) (hc : Between "measure" st) (hpos : st.pos = (start : Rat) / (divs : Rat)) :
    Written ((mapMOpt (staffEvs ks layers) ss).map List.flatten) st fun st' => ∃ de new c v sn li le ms,
      st' = { st with notes := new ++ st.notes, cursor := c, voice := v,
                      staffN := sn, layerIdx := li, layerEnds := le, measures := ms,
                      staffEnds := (ss.map (staffEnd divs start layers st.pos)).reverse ++ st.staffEnds,
                      staffIdx := st.staffIdx + ss.length, durEls := de } ∧
      Reads divs (fun i => i < st.staffIdx + ss.length) new
        (ss.flatMap fun s => (layers.filter fun l => l.1 = s).flatMap fun l => l.2.2.flatMap itemNotes) := by
  induction ss generalizing st with
  | nil =>
    exact Written.nil ⟨st.durEls, [], st.cursor, st.voice, st.staffN, st.layerIdx, st.layerEnds, st.measures, by simp, Reads.nil _ _⟩
  | cons s rest ih =>
    refine Written.cons (staff_spec divs ks layers s start hok st hc hpos) ?_
    rintro _ ⟨de1, new1, c1, v1, sn1, li1, le1, ms1, rfl, R1⟩
    refine Written.mono (ih _ (hc.congr rfl rfl) hpos) ?_
    rintro _ ⟨de2, new2, c2, v2, sn2, li2, le2, ms2, rfl, R2⟩
    refine ⟨de2, new2 ++ new1, c2, v2, sn2, li2, le2, ms2, by simp [Nat.add_assoc, Nat.add_comm 1], ?_⟩
    exact (R1.mono (fun i (hi : i = _) => by simp only [List.length_cons]; omega) fun _ h => h).append
      (R2.mono (fun i (hi : i < st.staffIdx + 1 + rest.length) => by simp only [List.length_cons]; omega) fun _ h => h)

theorem measure_end (divs start e : Nat) (layers : List (Nat × Nat × List Item)) (ss : List Nat) (pos : Rat)
    (hpos : pos ≤ q divs e) (hle : ∀ l ∈ layers, ∀ x, itemsOk divs start l.2.2 = some x → x ≤ e)
    (lf : Nat × Nat × List Item) (hlf : lf ∈ layers) (hs : lf.1 ∈ ss) (hfill : itemsOk divs start lf.2.2 = some e) :
    ratMaxFrom pos ((ss.map (staffEnd divs start layers pos)).reverse) = q divs e := by
  have hq : ∀ x, x ≤ e → q divs x ≤ q divs e := fun x hx =>
    div_le_div_of_nonneg_right (by exact_mod_cast hx) (by positivity)
  refine le_antisymm (ratMaxFrom_le _ _ _ hpos fun y hy => ?_) ?_
  · obtain ⟨s, _, rfl⟩ := List.mem_map.mp (List.mem_reverse.mp hy)
    refine ratMaxFrom_le _ _ _ hpos fun z hz => ?_
    obtain ⟨x, hx, rfl⟩ := List.mem_map.mp (List.mem_reverse.mp hz)
    obtain ⟨l, hl, hlx⟩ := List.mem_filterMap.mp hx
    exact hq x (hle l (List.mem_filter.mp hl).1 x hlx)
  · refine le_trans (ratMaxFrom_ge_mem pos _ (q divs e) ?_) (ratMaxFrom_ge_mem pos _ _
      (List.mem_reverse.mpr (List.mem_map_of_mem hs)))
    exact List.mem_reverse.mpr (List.mem_map_of_mem
      (List.mem_filterMap.mpr ⟨lf, List.mem_filter.mpr ⟨hlf, by simp⟩, hfill⟩))

/-- inside the `section`, between two measures -/
structure SecCtx (st : Mei.St) (nstaves : Nat) : Prop where
  noLayer : inLayer st.stack = false
  noTup : tupletsOf st.stack = []
  ch : st.chord = none
  defs : st.defs.length = nstaves
  meters : AllMeters st
  inSec : st.inSection = true

/-- the context between two measures looks at the open elements, the open chord, the part definitions and the section flag only -/
theorem SecCtx.congr {st st' : Mei.St} {nstaves : Nat} (h : SecCtx st nstaves) (hs : st'.stack = st.stack)
    (hc : st'.chord = st.chord) (hd : st'.defs = st.defs) (hi : st'.inSection = st.inSection) : SecCtx st' nstaves :=
  ⟨hs ▸ h.noLayer, hs ▸ h.noTup, hc ▸ h.ch, hd ▸ h.defs, fun d hdm => h.meters d (hd ▸ hdm), hi ▸ h.inSec⟩

theorem measure_run (divs nstaves : Nat) (ks : List String) (m : MMeasure) (layers : List (Nat × Nat × List Item))
    (hfin : finalLayers nstaves m = some layers) (ends : List Nat)
    (hends : mapMOpt (fun l => itemsOk divs m.start l.2.2) layers = some ends)
    (hle : ∀ e ∈ ends, e ≤ m.end_) (hfill : m.end_ ∈ ends) (hlst : ∀ l ∈ layers, 1 ≤ l.1 ∧ l.1 ≤ nstaves)
    (st : Mei.St) (hc : SecCtx st nstaves) (hpos : st.pos = (m.start : Rat) / (divs : Rat)) :
    Written (measureEvs ks nstaves m) st fun st' => ∃ new, st'.notes = new ++ st.notes ∧
      st'.stack = st.stack ∧ st'.pos = (m.end_ : Rat) / (divs : Rat) ∧ SecCtx st' nstaves ∧
      st'.sdMeter = st.sdMeter ∧ st'.sdMeterChild = st.sdMeterChild ∧ st'.defs = st.defs ∧
      (∀ r ∈ new, r.part < nstaves) ∧
      ∀ l ∈ layers, ∀ x ∈ l.2.2.flatMap itemNotes, x.n.kind ≠ 2 → ∃ r ∈ new, rfact r = factOf divs x := by
  obtain ⟨M, hM⟩ := ensureStarted_ok st hc.meters
  have hopen := openEv_measure st [("n", intStr m.number)] M (pre_noDur _ _ _ rfl rfl (by decide)) hM
  have hends' := mapMOpt_eq_mapM _ _ ▸ hends
  -- the layer that fills the measure starts at its start and ends at its end
  obtain ⟨lf, hlf, hfl⟩ := Lists.mapM_mem hends' m.end_ hfill
  have hlenS : (stavesOf nstaves).length = nstaves := by simp [stavesOf]
  have hpos' := measure_end divs m.start m.end_ layers (stavesOf nstaves) st.pos
    (hpos ▸ div_le_div_of_nonneg_right (by exact_mod_cast itemsOk_ge divs lf.2.2 m.start m.end_ hfl) (by positivity))
    (fun l hl x hx => (Lists.mapM_mem_left hends' l hl).elim fun e he => hle x (by cases hx.symm.trans he.2; exact he.1))
    lf hlf ((mem_stavesOf nstaves lf.1).mpr (hlst lf hlf)) hfl
  rw [show measureEvs ks nstaves m = (mapMOpt (staffEvs ks layers) (stavesOf nstaves)).map fun es =>
    el "measure" [("n", intStr m.number)] es.flatten by simp only [measureEvs, hfin, stavesOf]]
  refine Written.el hopen (staves_spec divs ks layers m.start (fun l hl => (Lists.mapM_mem_left hends' l hl).elim fun e he => by simp [he.2])
    (stavesOf nstaves) _ (Between.of_push
      { st with meters := M, started := true, measName := attr [("n", intStr m.number)] "n", staffIdx := 0, staffEnds := [] }
      "measure" [("n", intStr m.number)] hc.noLayer hc.noTup hc.ch (by decide) (by decide)) hpos) ?_
  rintro _ ⟨de, new, c, v, sn, li, le, ms, rfl, R1⟩
  refine ⟨_, closeEv_measure _ { tag := "measure", attrs := [("n", intStr m.number)] } st.stack rfl rfl
    (by simp [push, hlenS, hc.defs]), new, rfl, rfl, by simpa [push, q] using hpos',
    hc.congr rfl rfl rfl rfl, rfl, rfl, rfl, fun r hr => ?_, fun l hl x hx hk => ?_⟩
  · simpa [push, hlenS] using R1.1 r hr
  · exact R1.2 x (List.mem_flatMap.mpr ⟨l.1, (mem_stavesOf nstaves l.1).mpr (hlst l hl),
      List.mem_flatMap.mpr ⟨l, List.mem_filter.mpr ⟨hl, by simp⟩, hx⟩⟩) hk

/-- one measure: the state machine goes from the start of the measure to its end, and every written note of the
    measure is read at its place -/
theorem measure_spec (divs nstaves : Nat) (ks : List String) (m : MMeasure) (layers : List (Nat × Nat × List Item))
    (hfin : finalLayers nstaves m = some layers) (ends : List Nat)
    (hends : mapMOpt (fun l => itemsOk divs m.start l.2.2) layers = some ends)
    (hle : ∀ e ∈ ends, e ≤ m.end_) (hfill : m.end_ ∈ ends) (hlst : ∀ l ∈ layers, 1 ≤ l.1 ∧ l.1 ≤ nstaves) (hns : 0 < nstaves)
    (evs : List Ev) (hev : measureEvs ks nstaves m = some evs)
    (st : Mei.St) (hc : SecCtx st nstaves) (hpos : st.pos = (m.start : Rat) / (divs : Rat)) :
    ∃ st' new, runEvs st evs = some st' ∧ st'.notes = new ++ st.notes ∧ st'.stack = st.stack ∧
      st'.pos = (m.end_ : Rat) / (divs : Rat) ∧ SecCtx st' nstaves ∧
      st'.sdMeter = st.sdMeter ∧ st'.sdMeterChild = st.sdMeterChild ∧ st'.defs = st.defs ∧
      (∀ r ∈ new, r.part < nstaves) ∧
      ∀ l ∈ layers, ∀ x ∈ l.2.2.flatMap itemNotes, x.n.kind ≠ 2 → ∃ r ∈ new, rfact r = factOf divs x := by
  obtain ⟨evs', st', hev', hrun, new, h⟩ := measure_run divs nstaves ks m layers hfin ends hends hle hfill hlst st hc hpos
  cases hev.symm.trans hev'
  exact ⟨st', new, hrun, h⟩

end C19M
