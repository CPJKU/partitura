/-
C01 helper lemmas: the invariant of all histories without its link clause (`WCore`), analysed once per primitive
(`ensurePoint`, registration and deregistration `reReg`, `cleanupPoint`) together with the registries as lists (`regAt`)
and the object records; the full invariant is `WInv ∧ Strict`, and `Strict` is carried by the lemmas at the end.
-/
import PartituraModel.Proofs.C01Points
import PartituraModel.Proofs.C01Objs
import PartituraModel.Model.TimelineExt

namespace TL

/-- all clauses of `Inv` except the links; `ex` is a time whose point may (temporarily) be empty -/
structure InvCore (ex : Option Int) (s : Part) : Prop where
  sorted : s.times.Pairwise (· < ·)
  nonneg : ∀ p ∈ s.points, 0 ≤ p.t
  regNodup : ∀ sd, ∀ p ∈ s.points, (p.reg sd).Nodup
  objsNodup : (s.objs.map (·.ref)).Nodup
  listed : ∀ sd, ∀ e ∈ s.objs, ∀ p ∈ s.points, (e.ref ∈ p.reg sd ↔ e.at sd = some p.t)
  refOn : ∀ sd, ∀ e ∈ s.objs, ∀ t, e.at sd = some t → t ∈ s.times
  listedKnown : ∀ sd, ∀ p ∈ s.points, ∀ o ∈ p.reg sd, o ∈ s.objs.map (·.ref)
  nonempty : ∀ p ∈ s.points, p.starting ≠ [] ∨ p.ending ≠ [] ∨ p.t ∈ s.requested ∨ some p.t = ex
  requestedOn : ∀ t ∈ s.requested, t ∈ s.times
  quarter : ∀ p ∈ s.points, qdAt s.qtab p.t = some p.quarter
  qsorted : (s.qtab.map (·.1)).Pairwise (· < ·)
  qhead : s.qtab.head?.map (·.1) = some 0

/-- all clauses of `WInv` except the links; `ex` is a time whose point may (temporarily) be empty -/
structure WCore (ex : Option Int) (s : Part) : Prop where
  sorted : s.times.Pairwise (· < ·)
  nonneg : ∀ p ∈ s.points, 0 ≤ p.t
  regNodup : ∀ sd, ∀ p ∈ s.points, (p.reg sd).Nodup
  objsNodup : (s.objs.map (·.ref)).Nodup
  backListed : ∀ sd, ∀ e ∈ s.objs, ∀ p ∈ s.points, e.at sd = some p.t → e.ref ∈ p.reg sd
  refOn : ∀ sd, ∀ e ∈ s.objs, ∀ t, e.at sd = some t → t ∈ s.times
  listedKnown : ∀ sd, ∀ p ∈ s.points, ∀ o ∈ p.reg sd, o ∈ s.objs.map (·.ref)
  nonempty : ∀ p ∈ s.points, p.starting ≠ [] ∨ p.ending ≠ [] ∨ p.t ∈ s.requested ∨ some p.t = ex
  requestedOn : ∀ t ∈ s.requested, t ∈ s.times
  quarter : ∀ p ∈ s.points, qdAt s.qtab p.t = some p.quarter
  qsorted : (s.qtab.map (·.1)).Pairwise (· < ·)
  qhead : s.qtab.head?.map (·.1) = some 0

theorem winv_iff (s : Part) : WInv s ↔ WCore none s ∧ LinksFrom none s.points := by
  constructor
  · intro h
    exact ⟨⟨h.sorted, h.nonneg, h.regNodup, h.objsNodup, h.backListed, h.refOn, h.listedKnown,
      fun p hp => by rcases h.nonempty p hp with a | a | a <;> simp [a],
      h.requestedOn, h.quarter, h.qsorted, h.qhead⟩, h.links⟩
  · rintro ⟨h, hl⟩
    exact ⟨h.sorted, h.nonneg, hl, h.regNodup, h.objsNodup, h.backListed, h.refOn, h.listedKnown,
      fun p hp => by rcases h.nonempty p hp with a | a | a | a <;> simp_all,
      h.requestedOn, h.quarter, h.qsorted, h.qhead⟩

theorem WCore.weaken {s : Part} (h : WCore none s) (ex : Option Int) : WCore ex s :=
  { h with nonempty := fun p hp => by rcases h.nonempty p hp with a | a | a | a <;> simp_all }

theorem inv_iff_winv_strict (s : Part) : Inv s ↔ WInv s ∧ Strict s := by
  constructor
  · intro h
    exact ⟨⟨h.sorted, h.nonneg, h.links, h.regNodup, h.objsNodup, fun sd e he p hp => (h.listed sd e he p hp).mpr,
      h.refOn, h.listedKnown, h.nonempty, h.requestedOn, h.quarter, h.qsorted, h.qhead⟩,
      fun sd e he p hp => (h.listed sd e he p hp).mp⟩
  · rintro ⟨h, hs⟩
    exact ⟨h.sorted, h.nonneg, h.links, h.regNodup, h.objsNodup,
      fun sd e he p hp => ⟨hs sd e he p hp, h.backListed sd e he p hp⟩,
      h.refOn, h.listedKnown, h.nonempty, h.requestedOn, h.quarter, h.qsorted, h.qhead⟩

theorem invCore_iff (ex : Option Int) (s : Part) : InvCore ex s ↔ WCore ex s ∧ Strict s := by
  constructor
  · intro h
    exact ⟨⟨h.sorted, h.nonneg, h.regNodup, h.objsNodup, fun sd e he p hp => (h.listed sd e he p hp).mpr, h.refOn,
      h.listedKnown, h.nonempty, h.requestedOn, h.quarter, h.qsorted, h.qhead⟩,
      fun sd e he p hp => (h.listed sd e he p hp).mp⟩
  · rintro ⟨h, hs⟩
    exact ⟨h.sorted, h.nonneg, h.regNodup, h.objsNodup,
      fun sd e he p hp => ⟨hs sd e he p hp, h.backListed sd e he p hp⟩,
      h.refOn, h.listedKnown, h.nonempty, h.requestedOn, h.quarter, h.qsorted, h.qhead⟩

theorem Inv.toWInv {s : Part} (h : Inv s) : WInv s := ((inv_iff_winv_strict s).mp h).1

theorem Inv.strict {s : Part} (h : Inv s) : Strict s := ((inv_iff_winv_strict s).mp h).2

theorem WInv.core {s : Part} (h : WInv s) : WCore none s := ((winv_iff s).mp h).1

/-- times being unique, the listings are the members of the registries -/
theorem listed_iff_regAt {s : Part} (hs : s.times.Pairwise (· < ·)) (sd : Side) (x : Int) (o : ObjRef) :
    Listed s sd x o ↔ o ∈ regAt s.points sd x := by
  constructor
  · rintro ⟨p, hp, rfl, ho⟩
    rw [regAt_of_point hs hp]
    exact ho
  · intro ho
    unfold regAt at ho
    cases hf : findPoint s.points x with
    | none => simp [hf] at ho
    | some p => exact ⟨p, (findPoint_mem hf).1, (findPoint_mem hf).2, by simpa [hf] using ho⟩

/-- a statement about every point that does not look at what `ν` forgets holds of both lists that agree up to `ν` -/
theorem forall_mem_of_map_eq {ν : Point → Point} {l l' : List Point} (h : l'.map ν = l.map ν) {Q : Point → Prop}
    (hQ : ∀ p, Q (ν p) ↔ Q p) : (∀ p ∈ l', Q p) ↔ ∀ p ∈ l, Q p := by
  have e : ∀ l : List Point, (∀ p ∈ l, Q p) ↔ ∀ u ∈ l.map ν, Q u := by
    intro l; simp [hQ]
  rw [e l', e l, h]

theorem forall_mem_insert {α : Type} {pre post : List α} {x : α} {Q : α → Prop} :
    (∀ p ∈ pre ++ x :: post, Q p) ↔ Q x ∧ ∀ p ∈ pre ++ post, Q p := by
  simp only [List.mem_append, List.mem_cons]
  grind

/-- `WCore` reads of a point its time, its registries and (in one clause) its quarter duration: across an edit of the
points that keeps time and registries (`ν` forgets the rest) it holds again once the quarter clauses do -/
theorem WCore.of_same {ν : Point → Point} (hν : ∀ p, (ν p).t = p.t ∧ ∀ sd, (ν p).reg sd = p.reg sd)
    {ex : Option Int} {s s' : Part} (h : WCore ex s) (hp : s'.points.map ν = s.points.map ν)
    (ho : s'.objs = s.objs) (hr : s'.requested = s.requested)
    (hquarter : ∀ p ∈ s'.points, qdAt s'.qtab p.t = some p.quarter)
    (hqs : (s'.qtab.map (·.1)).Pairwise (· < ·)) (hqh : s'.qtab.head?.map (·.1) = some 0) : WCore ex s' := by
  have ht : s'.times = s.times := by
    have := congrArg (List.map (·.t)) hp
    simpa only [Part.times, List.map_map, Function.comp_def, (hν _).1] using this
  have hst : ∀ p, (ν p).starting = p.starting ∧ (ν p).ending = p.ending := fun p => ⟨(hν p).2 .start, (hν p).2 .stop⟩
  refine ⟨ht ▸ h.sorted, (forall_mem_of_map_eq hp (by simp [hν])).mpr h.nonneg,
    fun sd => (forall_mem_of_map_eq hp (by simp [hν])).mpr (h.regNodup sd), ho ▸ h.objsNodup,
    fun sd e he => (forall_mem_of_map_eq hp (by simp [hν])).mpr (h.backListed sd e (ho ▸ he)),
    fun sd e he => ht ▸ h.refOn sd e (ho ▸ he),
    fun sd => (forall_mem_of_map_eq hp (by simp [hν])).mpr (ho ▸ h.listedKnown sd),
    (forall_mem_of_map_eq hp (by simp [hν, hst])).mpr (hr ▸ h.nonempty), ht ▸ hr ▸ h.requestedOn, hquarter, hqs, hqh⟩

/-- `WCore` does not look at the links -/
theorem WCore.congr {ex : Option Int} {s s' : Part} (h : WCore ex s)
    (hp : s'.points.map Point.unlink = s.points.map Point.unlink)
    (hq : s'.qtab = s.qtab) (ho : s'.objs = s.objs) (hr : s'.requested = s.requested) : WCore ex s' :=
  h.of_same unlink_same hp ho hr ((forall_mem_of_map_eq hp (fun _ => Iff.rfl)).mpr (hq ▸ h.quarter))
    (hq ▸ h.qsorted) (hq ▸ h.qhead)

theorem qdAt_isSome {tab : List (Int × Nat)} (h : tab.head?.map (·.1) = some 0) (t : Int) :
    ∃ q, qdAt tab t = some q := by
  cases tab with
  | nil => simp at h
  | cons e r => exact ⟨_, rfl⟩

/-- `get_or_add_point` (without the ghost) in any reachable state: the point at `t` is there afterwards, it is
the only new one and it may be empty; every registry is the list it was -/
theorem ensurePoint_wspec {s : Part} (h : WCore none s) (hl : LinksFrom none s.points) {t : Int} (ht : 0 ≤ t) :
    ∃ s', ensurePoint s t = .ok s' ∧ WCore (some t) s' ∧ LinksFrom none s'.points ∧ t ∈ s'.times
      ∧ s'.objs = s.objs ∧ s'.qtab = s.qtab ∧ s'.requested = s.requested
      ∧ (∀ x, x ∈ s'.times ↔ x ∈ s.times ∨ x = t)
      ∧ (∀ sd x, regAt s'.points sd x = regAt s.points sd x) := by
  have hneg : ¬ t < 0 := by omega
  unfold ensurePoint
  simp only [hneg, if_false]
  by_cases hm : t ∈ s.times
  · obtain ⟨l, p, r, hsplit, rfl, -, -⟩ := split_at_time h.sorted hm
    rw [hsplit, getPoint_of_split (by rw [← hsplit]; exact h.sorted), ← hsplit]
    exact ⟨s, rfl, h.weaken _, hl, hm, rfl, rfl, rfl, fun x => ⟨Or.inl, fun hx => hx.elim id (· ▸ hm)⟩,
      fun _ _ => rfl⟩
  · obtain ⟨pre, post, hsplit, h1, h2⟩ := split_absent h.sorted hm
    obtain ⟨q, hq⟩ := qdAt_isSome h.qhead t
    obtain ⟨pts, qtab, objs, req⟩ := s
    subst hsplit
    simp only [getPoint_none_of_not_mem hm, hq]
    change ∃ s', (addPoint (pre ++ post) (freshPoint t q) >>= fun pts => pure (Part.mk pts qtab objs req)) = .ok s' ∧ _
    rw [addPoint_absent pre post t q h1 (fun b hb => h2 b (List.mem_of_mem_head? hb))]
    have hunl := unlink_insertLinked pre post t q
    have htimes : ∀ x, x ∈ (pre ++ freshPoint t q :: post).map (·.t) ↔ x ∈ (pre ++ post).map (·.t) ∨ x = t := by
      intro x
      simp only [List.map_append, List.map_cons, List.mem_append, List.mem_cons, freshPoint]
      grind
    have hfresh : ∀ sd, (freshPoint t q).reg sd = [] := fun sd => by cases sd <;> rfl
    have hw := h.weaken (some t)
    -- the state with the unlinked insertion, clause by clause: the fresh point, and the points there were
    have h0 : WCore (some t) ⟨pre ++ freshPoint t q :: post, qtab, objs, req⟩ :=
      ⟨sorted_insert (x := freshPoint t q) h.sorted h1 h2,
        forall_mem_insert.mpr ⟨ht, hw.nonneg⟩,
        fun sd => forall_mem_insert.mpr ⟨(by rw [hfresh]; exact List.nodup_nil), hw.regNodup sd⟩,
        hw.objsNodup,
        -- no reference points at the fresh point: there was no point at `t`
        fun sd e he => forall_mem_insert.mpr ⟨fun hat => absurd (hw.refOn sd e he t hat) hm, hw.backListed sd e he⟩,
        fun sd e he x hx => (htimes x).mpr (Or.inl (hw.refOn sd e he x hx)),
        fun sd => forall_mem_insert.mpr ⟨fun o ho => (by rw [hfresh] at ho; cases ho), hw.listedKnown sd⟩,
        -- the fresh point is the one that may be empty
        forall_mem_insert.mpr ⟨Or.inr (Or.inr (Or.inr rfl)), hw.nonempty⟩,
        fun x hx => (htimes x).mpr (Or.inl (hw.requestedOn x hx)),
        forall_mem_insert.mpr ⟨hq, hw.quarter⟩, hw.qsorted, hw.qhead⟩
    have ht' := times_of_unlink_eq hunl
    refine ⟨⟨insertLinked pre post t q, qtab, objs, req⟩, rfl, h0.congr hunl rfl rfl rfl,
      links_insertLinked pre post t q hl, ?_, rfl, rfl, rfl, ?_, ?_⟩
    · show t ∈ (insertLinked pre post t q).map (·.t)
      rw [ht']; exact (htimes t).mpr (Or.inr rfl)
    · intro x
      show x ∈ (insertLinked pre post t q).map (·.t) ↔ _
      rw [ht']; exact htimes x
    · intro sd x
      exact (regAt_congr unlink_same hunl sd x).trans (regAt_skip_empty pre post (freshPoint t q) sd x (hfresh sd)
        (fun p hp => by have := h2 p hp; simp only [freshPoint]; omega))

theorem WCore.getObj_backListed {ex : Option Int} {s : Part} (h : WCore ex s) (sd : Side) (o : ObjRef)
    {p : Point} (hp : p ∈ s.points) (hat : (getObj s.objs o).at sd = some p.t) : o ∈ p.reg sd := by
  simpa using h.backListed sd _ (getObj_mem_of_at hat) p hp hat

theorem WCore.getObj_refOn {ex : Option Int} {s : Part} (h : WCore ex s) (sd : Side) (o : ObjRef)
    {t : Int} (ht : (getObj s.objs o).at sd = some t) : t ∈ s.times :=
  h.refOn sd _ (getObj_mem_of_at ht) t ht

theorem Inv.getObj_listed {s : Part} (h : Inv s) (sd : Side) (o : ObjRef)
    {p : Point} (hp : p ∈ s.points) : o ∈ p.reg sd ↔ (getObj s.objs o).at sd = some p.t := by
  rcases getObj_mem_or_blank s.objs o with ⟨hm, _⟩ | ⟨hb, hnm⟩
  · simpa using h.listed sd _ hm p hp
  · rw [hb]
    exact ⟨fun ho => absurd (h.listedKnown sd p hp o ho) hnm, fun hc => by rw [blank_at] at hc; cases hc⟩

/-- the shape `add_*_object` and `remove_*_object` share: the registry of side `sd` of the point at `t` is
rewritten by `g`, and side `sd` of `o`'s record is set to `v` -/
def reReg (s : Part) (sd : Side) (t : Int) (o : ObjRef) (g : List ObjRef → List ObjRef) (v : Option Int) : Part :=
  { s with
    points := modifyPoint s.points t (fun p => p.setReg sd (g (p.reg sd))),
    objs := setObj s.objs o (fun e => e.setAt sd v) }

theorem reReg_times (s : Part) (sd : Side) (t : Int) (o : ObjRef) (g : List ObjRef → List ObjRef) (v : Option Int) :
    (reReg s sd t o g v).times = s.times :=
  times_modifyPoint (fun p => by simp)

theorem reReg_links (s : Part) (sd : Side) (t : Int) (o : ObjRef) (g : List ObjRef → List ObjRef) (v : Option Int) :
    LinksFrom none (reReg s sd t o g v).points ↔ LinksFrom none s.points :=
  linksFrom_congr _ _ _ (lnk_modifyPoint (fun p => by simp))

/-- `WCore` across such a rewriting: `g` keeps registries duplicate-free, adds at most `o` and drops at most
`o`; a new reference `v` is the point at `t`, which then lists `o`; and the point at `t` either lists `o`
afterwards or is the one that may be empty -/
theorem reReg_wcore {ex ex' : Option Int} {s : Part} {sd : Side} {t : Int} {o : ObjRef}
    {g : List ObjRef → List ObjRef} {v : Option Int} (h : WCore ex s)
    (hnd : ∀ l, l.Nodup → (g l).Nodup) (hsub : ∀ l x, x ∈ g l → x ∈ l ∨ x = o)
    (hkeep : ∀ l x, x ∈ l → x ≠ o → x ∈ g l)
    (hv : ∀ x, v = some x → x = t ∧ t ∈ s.times ∧ ∀ l, o ∈ g l)
    (hne : (∀ l, o ∈ g l) ∨ ex' = some t) (hex : ∀ x, ex = some x → x = t ∨ ex' = some x) :
    WCore ex' (reReg s sd t o g v) := by
  have hrefs : ∀ e : ObjSt, (e.setAt sd v).ref = e.ref := fun e => by simp
  have htimes := reReg_times s sd t o g v
  have hreg : ∀ (p : Point) (sd' : Side),
      (if p.t = t then p.setReg sd (g (p.reg sd)) else p).reg sd'
        = if p.t = t ∧ sd' = sd then g (p.reg sd) else p.reg sd' := by
    intro p sd'
    by_cases hp : p.t = t
    · simp only [hp, if_true, true_and, setReg_reg]
    · simp only [hp, if_false, false_and]
  have hpt : ∀ p : Point, (if p.t = t then p.setReg sd (g (p.reg sd)) else p).t = p.t := fun p => by
    split <;> simp
  unfold reReg at htimes ⊢
  refine ⟨by rw [htimes]; exact h.sorted, ?_, ?_, nodup_refs_setObj hrefs h.objsNodup, ?_, ?_, ?_, ?_, ?_, ?_,
    h.qsorted, h.qhead⟩
  · intro p' hp'
    obtain ⟨p, hp, rfl⟩ := mem_modifyPoint.mp hp'
    rw [hpt]; exact h.nonneg p hp
  · intro sd' p' hp'
    obtain ⟨p, hp, rfl⟩ := mem_modifyPoint.mp hp'
    rw [hreg]
    split
    · exact hnd _ (h.regNodup sd p hp)
    · exact h.regNodup sd' p hp
  · intro sd' e' he' p' hp'
    obtain ⟨p, hp, rfl⟩ := mem_modifyPoint.mp hp'
    rw [hpt, hreg]
    rcases (mem_setObj (f := fun e => e.setAt sd v) h.objsNodup).mp he' with ⟨he, hne'⟩ | rfl
    · intro hat
      have hl := h.backListed sd' e' he p hp hat
      split
      · rename_i hc; rw [← hc.2]; exact hkeep _ _ hl hne'
      · exact hl
    · simp only [setAt_ref, getObj_ref, setAt_at]
      by_cases hsd : sd' = sd
      · subst hsd
        simp only [if_true, and_true]
        intro hat
        obtain ⟨hx, -, hin⟩ := hv _ hat
        rw [if_pos hx]; exact hin _
      · simp only [hsd, if_false, and_false]
        exact h.getObj_backListed sd' o hp
  · intro sd' e' he' x hx
    rw [htimes]
    rcases (mem_setObj (f := fun e => e.setAt sd v) h.objsNodup).mp he' with ⟨he, _⟩ | rfl
    · exact h.refOn sd' e' he x hx
    · rw [setAt_at] at hx
      split at hx
      · obtain ⟨rfl, hm, -⟩ := hv x hx; exact hm
      · exact h.getObj_refOn sd' o hx
  · intro sd' p' hp' x hx
    obtain ⟨p, hp, rfl⟩ := mem_modifyPoint.mp hp'
    refine (mem_refs_setObj hrefs).mpr ?_
    rw [hreg] at hx
    split at hx
    · rcases hsub _ _ hx with hx | rfl
      · exact Or.inl (h.listedKnown _ p hp x hx)
      · exact Or.inr rfl
    · exact Or.inl (h.listedKnown sd' p hp x hx)
  · intro p' hp'
    obtain ⟨p, hp, rfl⟩ := mem_modifyPoint.mp hp'
    by_cases hpt' : p.t = t
    · simp only [hpt', if_true, setReg_t]
      rcases hne with hin | hex'
      · have hm : o ∈ (p.setReg sd (g (p.reg sd))).reg sd := by simp [hin]
        rcases reg_nonempty_of_mem hm with a | a
        · exact Or.inl a
        · exact Or.inr (Or.inl a)
      · exact Or.inr (Or.inr (Or.inr hex'.symm))
    · simp only [hpt', if_false]
      rcases h.nonempty p hp with a | a | a | a
      · exact Or.inl a
      · exact Or.inr (Or.inl a)
      · exact Or.inr (Or.inr (Or.inl a))
      · rcases hex _ a.symm with e | e
        · exact absurd e hpt'
        · exact Or.inr (Or.inr (Or.inr e.symm))
  · intro x hx
    rw [htimes]; exact h.requestedOn x hx
  · intro p' hp'
    obtain ⟨p, hp, rfl⟩ := mem_modifyPoint.mp hp'
    have := h.quarter p hp
    split <;> simpa using this

/-- `tp.add_starting_object(o)` / `tp.add_ending_object(o)` on the point at `t` -/
def register (s : Part) (sd : Side) (t : Int) (o : ObjRef) : Part :=
  { s with
    points := modifyPoint s.points t (fun p => p.setReg sd (regAdd (p.reg sd) o)),
    objs := setObj s.objs o (fun e => e.setAt sd (some t)) }

theorem addSide_eq (s : Part) (sd : Side) (t : Int) (o : ObjRef) :
    addSide s sd t o = (ensurePoint s t).map (fun s1 => register s1 sd t o) := by
  unfold addSide register
  cases ensurePoint s t <;> rfl

theorem register_times (s : Part) (sd : Side) (t : Int) (o : ObjRef) : (register s sd t o).times = s.times :=
  reReg_times s sd t o (regAdd · o) (some t)

theorem register_links (s : Part) (sd : Side) (t : Int) (o : ObjRef) :
    LinksFrom none (register s sd t o).points ↔ LinksFrom none s.points :=
  reReg_links s sd t o (regAdd · o) (some t)

/-- registration needs no freeness: afterwards the point at `t` is not empty -/
theorem register_winv {s : Part} {sd : Side} {t : Int} {o : ObjRef} (h : WCore (some t) s)
    (ht : t ∈ s.times) : WCore none (register s sd t o) :=
  reReg_wcore (g := (regAdd · o)) (v := some t) h (fun _ => nodup_regAdd o) (fun _ _ => mem_regAdd.mp)
    (fun _ _ hx _ => mem_regAdd.mpr (Or.inl hx))
    (fun _ hx => ⟨(Option.some.inj hx).symm, ht, fun _ => mem_regAdd.mpr (Or.inr rfl)⟩)
    (Or.inl fun _ => mem_regAdd.mpr (Or.inr rfl)) (fun _ hx => Or.inl (Option.some.inj hx).symm)

/-- `tp.starting_objects[type(o)].remove(o); o.start = None` (before the clean-up of the point) -/
def unregister (s : Part) (sd : Side) (t : Int) (o : ObjRef) : Part :=
  { s with
    points := modifyPoint s.points t (fun p => p.setReg sd (regRemove (p.reg sd) o)),
    objs := setObj s.objs o (fun e => e.setAt sd none) }

theorem unregister_times (s : Part) (sd : Side) (t : Int) (o : ObjRef) : (unregister s sd t o).times = s.times :=
  reReg_times s sd t o (regRemove · o) none

theorem unregister_links (s : Part) (sd : Side) (t : Int) (o : ObjRef) :
    LinksFrom none (unregister s sd t o).points ↔ LinksFrom none s.points :=
  reReg_links s sd t o (regRemove · o) none

/-- deregistration may leave the point at `t` empty -/
theorem unregister_winv {s : Part} {sd : Side} {t : Int} {o : ObjRef} (h : WCore none s) :
    WCore (some t) (unregister s sd t o) :=
  reReg_wcore (g := (regRemove · o)) (v := none) h (fun _ => nodup_regRemove o)
    (fun _ _ hx => Or.inl (mem_regRemove.mp hx).1) (fun _ _ hx hne => mem_regRemove.mpr ⟨hx, hne⟩)
    (fun _ hx => by cases hx) (Or.inr rfl) (fun _ hx => by cases hx)

/-- `_cleanup_point` at a point that is the only one allowed to be empty: the point goes if it is empty, no
other point may be empty afterwards, and every registry is the list it was -/
theorem cleanupPoint_wspec {s : Part} {t : Int} (h : WCore (some t) s) (hl : LinksFrom none s.points)
    (ht : t ∈ s.times) :
    ∃ s', cleanupPoint s t = .ok s' ∧ WCore none s' ∧ LinksFrom none s'.points ∧ s'.objs = s.objs
      ∧ s'.qtab = s.qtab ∧ (∀ sd x, regAt s'.points sd x = regAt s.points sd x) := by
  obtain ⟨pre, b, r, hsplit, hbt, h1, h2⟩ := split_at_time h.sorted ht
  have hfind := findPoint_split pre r b t h1 hbt
  rw [← hsplit] at hfind
  unfold cleanupPoint
  simp only [hfind]
  have hbmem : b ∈ s.points := by rw [hsplit]; simp
  by_cases hemp : b.starting.length + b.ending.length = 0
  · simp only [hemp, if_true]
    have hrm := removePoint_present pre r b t h1 hbt
    rw [← hsplit] at hrm
    rw [hrm]
    have hunl := unlink_eraseLinked pre r
    let s0 : Part := { s with points := pre ++ r, requested := s.requested.filter (· ≠ t) }
    have hsub : ∀ p ∈ s0.points, p ∈ s.points ∧ p.t ≠ t := by
      intro p hp
      rw [hsplit]
      rcases List.mem_append.mp hp with hp | hp
      · exact ⟨by simp [hp], by have := h1 p hp; omega⟩
      · exact ⟨by simp [hp], by have := h2 p hp; omega⟩
    have htimes0 : ∀ x, x ∈ s.times → x ≠ t → x ∈ s0.times := by
      intro x hx hne
      simp only [Part.times, s0, hsplit, List.map_append, List.map_cons, List.mem_append, List.mem_cons] at hx ⊢
      rcases hx with hx | rfl | hx
      · exact Or.inl hx
      · exact absurd hbt hne
      · exact Or.inr hx
    have h0 : WCore none s0 := by
      refine ⟨?_, fun p hp => h.nonneg p (hsub p hp).1, fun sd p hp => h.regNodup sd p (hsub p hp).1,
        h.objsNodup, fun sd e he p hp => h.backListed sd e he p (hsub p hp).1, ?_,
        fun sd p hp => h.listedKnown sd p (hsub p hp).1, ?_, ?_, fun p hp => h.quarter p (hsub p hp).1,
        h.qsorted, h.qhead⟩
      · have hs := h.sorted
        rw [Part.times, hsplit] at hs
        exact sorted_erase hs
      · -- no reference points at the removed point: it lists nothing
        intro sd e he x hx
        refine htimes0 x (h.refOn sd e he x hx) ?_
        rintro rfl
        have := h.backListed sd e he b hbmem (by rw [hbt]; exact hx)
        rw [reg_eq_nil_of_empty hemp sd] at this
        cases this
      · intro p hp
        obtain ⟨hp1, hp2⟩ := hsub p hp
        rcases h.nonempty p hp1 with a | a | a | a
        · exact Or.inl a
        · exact Or.inr (Or.inl a)
        · exact Or.inr (Or.inr (Or.inl (List.mem_filter.mpr ⟨a, by simpa using hp2⟩)))
        · exact absurd (Option.some.inj a) hp2
      · intro x hx
        obtain ⟨hx1, hx2⟩ := List.mem_filter.mp hx
        exact htimes0 x (h.requestedOn x hx1) (by simpa using hx2)
    refine ⟨{ s with points := eraseLinked pre r, requested := s.requested.filter (· ≠ t) }, rfl,
      h0.congr hunl rfl rfl rfl, links_eraseLinked pre r b (hsplit ▸ hl), rfl, rfl, ?_⟩
    intro sd x
    rw [regAt_congr unlink_same hunl, hsplit,
      regAt_skip_empty pre r b sd x (reg_eq_nil_of_empty hemp sd) (fun p hp => by have := h2 p hp; omega)]
  · -- the point stays: it is not empty
    simp only [hemp, if_false]
    refine ⟨s, rfl, { h with nonempty := ?_ }, hl, rfl, rfl, fun _ _ => rfl⟩
    intro p hp
    rcases h.nonempty p hp with a | a | a | a
    · exact Or.inl a
    · exact Or.inr (Or.inl a)
    · exact Or.inr (Or.inr (Or.inl a))
    · have : p = b := point_unique h.sorted hp hbmem ((Option.some.inj a).trans hbt.symm)
      subst this
      by_cases hs1 : p.starting = []
      · exact Or.inr (Or.inl (fun hs2 => hemp (by simp [hs1, hs2])))
      · exact Or.inl hs1

/-- `cleanupPoint` neither reads nor writes the object records -/
theorem cleanupPoint_objs (s : Part) (t : Int) (objs : List ObjSt) :
    cleanupPoint { s with objs := objs } t = (cleanupPoint s t).map (fun s2 => { s2 with objs := objs }) := by
  unfold cleanupPoint
  simp only
  cases findPoint s.points t with
  | none => rfl
  | some p =>
    simp only
    split
    · cases removePoint s.points t <;> rfl
    · rfl

theorem regAt_of_not_mem {pts : List Point} {t : Int} (ht : t ∉ pts.map (·.t)) (sd : Side) : regAt pts sd t = [] := by
  unfold regAt
  cases hf : findPoint pts t with
  | none => rfl
  | some p => exact absurd (List.mem_map.mpr ⟨p, (findPoint_mem hf).1, (findPoint_mem hf).2⟩) ht

/-- rewriting the registry of side `sd` of the point at `t` rewrites that one list (when there is no point at
`t` nothing is rewritten, and the registry there is `[]`) -/
theorem regAt_modifyReg {pts : List Point} (hs : (pts.map (·.t)).Pairwise (· < ·)) {t : Int} (sd : Side)
    (g : List ObjRef → List ObjRef) (ht : t ∈ pts.map (·.t) ∨ g [] = []) (sd' : Side) (x : Int) :
    regAt (modifyPoint pts t (fun p => p.setReg sd (g (p.reg sd)))) sd' x
      = if x = t ∧ sd' = sd then g (regAt pts sd t) else regAt pts sd' x := by
  by_cases hm : t ∈ pts.map (·.t)
  · obtain ⟨p, hfp, hreg⟩ := regAt_of_mem hs hm sd
    rw [regAt_modify _ _ _ (fun p => by simp)]
    by_cases hx : x = t
    · subst hx
      simp only [if_true, true_and, hfp, Option.map_some, Option.getD_some, setReg_reg]
      by_cases hsd : sd' = sd
      · subst hsd; simp only [if_true]; rw [← hreg]
      · simp only [hsd, if_false]; simp [regAt, hfp]
    · simp only [hx, if_false, false_and]
  · rw [modifyPoint_of_not_mem hm]
    split
    · rename_i hc
      rw [hc.1, hc.2, regAt_of_not_mem hm, ht.resolve_left hm]
    · rfl

theorem register_regAt {s : Part} (hs : s.times.Pairwise (· < ·)) {t : Int} (ht : t ∈ s.times) (sd : Side)
    (o : ObjRef) (sd' : Side) (x : Int) :
    regAt (register s sd t o).points sd' x
      = if x = t ∧ sd' = sd then regAdd (regAt s.points sd t) o else regAt s.points sd' x :=
  regAt_modifyReg hs sd (regAdd · o) (Or.inl ht) sd' x

theorem unregister_regAt {s : Part} (hs : s.times.Pairwise (· < ·)) (sd : Side) (t : Int)
    (o : ObjRef) (sd' : Side) (x : Int) :
    regAt (unregister s sd t o).points sd' x
      = if x = t ∧ sd' = sd then regRemove (regAt s.points sd t) o else regAt s.points sd' x :=
  regAt_modifyReg hs sd (regRemove · o) (Or.inr rfl) sd' x

theorem register_listed {s : Part} (hs : s.times.Pairwise (· < ·)) {sd : Side} {t : Int} {o : ObjRef}
    (ht : t ∈ s.times) (sd' : Side) (x : Int) (o' : ObjRef) :
    Listed (register s sd t o) sd' x o' ↔ Listed s sd' x o' ∨ (o' = o ∧ sd' = sd ∧ x = t) := by
  rw [listed_iff_regAt (by rw [register_times]; exact hs), listed_iff_regAt hs, register_regAt hs ht]
  by_cases hc : x = t ∧ sd' = sd
  · obtain ⟨rfl, rfl⟩ := hc
    simp [mem_regAdd]
  · rw [if_neg hc]
    exact ⟨Or.inl, fun h => h.elim id (fun h' => absurd ⟨h'.2.2, h'.2.1⟩ hc)⟩

theorem unregister_listed {s : Part} (hs : s.times.Pairwise (· < ·)) (sd : Side) (t : Int) (o : ObjRef)
    (sd' : Side) (x : Int) (o' : ObjRef) :
    Listed (unregister s sd t o) sd' x o' ↔ Listed s sd' x o' ∧ ¬ (o' = o ∧ sd' = sd ∧ x = t) := by
  rw [listed_iff_regAt (by rw [unregister_times]; exact hs), listed_iff_regAt hs, unregister_regAt hs]
  by_cases hc : x = t ∧ sd' = sd
  · obtain ⟨rfl, rfl⟩ := hc
    simp [mem_regRemove]
  · rw [if_neg hc]
    exact ⟨fun h => ⟨h, fun h' => hc ⟨h'.2.2, h'.2.1⟩⟩, fun h => h.1⟩

theorem WCore.strict_iff {ex : Option Int} {s : Part} (h : WCore ex s) :
    Strict s ↔ ∀ sd x, ∀ o ∈ regAt s.points sd x, (getObj s.objs o).at sd = some x := by
  constructor
  · intro hs sd x o ho
    obtain ⟨p, hp, rfl, hop⟩ := (listed_iff_regAt h.sorted sd x o).mpr ho
    obtain ⟨e, he, rfl⟩ := List.mem_map.mp (h.listedKnown sd p hp o hop)
    rw [getObj_of_mem h.objsNodup he]
    exact hs sd e he p hp hop
  · intro hs sd e he p hp hop
    have := hs sd p.t e.ref ((listed_iff_regAt h.sorted sd p.t e.ref).mp ⟨p, hp, rfl, hop⟩)
    rwa [getObj_of_mem h.objsNodup he] at this

/-- `Strict` across a rewriting of one registry: `g` adds at most `o`; `o` is listed at `t` afterwards only with the new
reference `some t`; and `o` was listed on side `sd` at no other point -/
theorem strict_reReg {ex ex' : Option Int} {s : Part} {sd : Side} {t : Int} {o : ObjRef}
    {g : List ObjRef → List ObjRef} {v : Option Int} (h : WCore ex s) (h' : WCore ex' (reReg s sd t o g v))
    (hg : t ∈ s.times ∨ g [] = []) (hs : Strict s) (hsub : ∀ l x, x ∈ g l → x ∈ l ∨ x = o)
    (hin : o ∈ g (regAt s.points sd t) → v = some t) (hout : ∀ x, x ≠ t → o ∉ regAt s.points sd x) :
    Strict (reReg s sd t o g v) := by
  rw [h'.strict_iff]
  rw [h.strict_iff] at hs
  intro sd' x o' ho'
  unfold reReg at ho' ⊢
  rw [regAt_modifyReg h.sorted sd g hg] at ho'
  rw [getObj_setAt]
  by_cases hoo : o' = o ∧ sd' = sd
  · obtain ⟨rfl, rfl⟩ := hoo
    rw [if_pos ⟨rfl, rfl⟩]
    by_cases hx : x = t
    · subst hx; rw [if_pos ⟨rfl, rfl⟩] at ho'; exact hin ho'
    · rw [if_neg fun hc => hx hc.1] at ho'; exact absurd ho' (hout x hx)
  · rw [if_neg hoo]
    split at ho'
    · rename_i hc
      obtain ⟨rfl, rfl⟩ := hc
      exact (hsub _ _ ho').elim (hs _ _ _) fun e => absurd ⟨e, rfl⟩ hoo
    · exact hs _ _ _ ho'

theorem strict_register {s : Part} {sd : Side} {t : Int} {o : ObjRef} (h : WCore (some t) s) (ht : t ∈ s.times)
    (hs : Strict s) (hfree : (getObj s.objs o).at sd = none) : Strict (register s sd t o) :=
  strict_reReg (g := (regAdd · o)) (v := some t) h (register_winv h ht) (Or.inl ht) hs (fun _ _ => mem_regAdd.mp)
    (fun _ => rfl) fun x _ ho => by
    have := (h.strict_iff.mp hs) sd x o ho
    rw [hfree] at this; cases this

theorem strict_unregister {s : Part} {sd : Side} {t : Int} {o : ObjRef} (h : WCore none s)
    (hs : Strict s) (hat : (getObj s.objs o).at sd = some t) : Strict (unregister s sd t o) :=
  strict_reReg (g := (regRemove · o)) (v := none) h (unregister_winv (t := t) h) (Or.inr rfl) hs
    (fun _ _ hx => Or.inl (mem_regRemove.mp hx).1)
    (fun ho => absurd rfl (mem_regRemove.mp ho).2) fun x hx ho => by
    have := (h.strict_iff.mp hs) sd x o ho
    rw [hat] at this; exact hx (Option.some.inj this).symm

theorem strict_of_same {ex ex' : Option Int} {s s' : Part} (h : WCore ex s) (h' : WCore ex' s') (hs : Strict s)
    (hreg : ∀ sd x, regAt s'.points sd x = regAt s.points sd x) (hobjs : s'.objs = s.objs) : Strict s' := by
  rw [h'.strict_iff]
  rw [h.strict_iff] at hs
  intro sd x o ho
  rw [hreg] at ho
  rw [hobjs]
  exact hs sd x o ho

end TL
