/-
C11 — the model of `fill_rests` (Model/Rests.lean): the rests made for a gap of a voice (Proofs/C11Gaps.lean) tile it
and carry symbolic durations that last as long as they do; nothing is inserted but such rests; a voice, a measure and
the empty staves of a measure are filled exactly.
-/
import PartituraModel.Proofs.C11Gaps
import PartituraModel.Proofs.Chain
import PartituraModel.Proofs.C11Dur
import PartituraModel.Proofs.C02Part

namespace C11Rests
open Model Model.Dur Model.Meas Model.Rests Gen

/-- consecutive rests from `a` to `b`, none of negative length -/
def RTiles : Rat → Rat → List GNote → Prop
  | a, b, [] => a = b
  | a, b, r :: rest => r.start = a ∧ r.start ≤ r.stop ∧ RTiles r.stop b rest

theorem rtiles_chain : ∀ (l : List GNote) (a b : Rat), RTiles a b l →
    C11Chain.Chain (· ≤ ·) a b (l.map fun r => (r.start, r.stop))
  | [], _, _, h => h
  | _ :: l, _, _, ⟨h1, h2, h3⟩ => ⟨h1, h2, rtiles_chain l _ _ h3⟩

theorem rtiles_cover (l : List GNote) (a b : Rat) (h : RTiles a b l) (t : Rat) :
    (∃ r ∈ l, r.start ≤ t ∧ t < r.stop) ↔ (a ≤ t ∧ t < b) := by
  rw [← C11Chain.chain_cover (fun _ _ h => h) _ _ _ (rtiles_chain l a b h) t]
  simp only [List.mem_map, exists_exists_and_eq_and]

theorem rtiles_mem (l : List GNote) (a b : Rat) (h : RTiles a b l) : ∀ r ∈ l, a ≤ r.start ∧ r.stop ≤ b := fun r hr =>
  let ⟨h1, _, h3⟩ := C11Chain.chain_mem (fun _ _ h => h) _ _ _ (rtiles_chain l a b h) _ (List.mem_map.mpr ⟨r, hr, rfl⟩)
  ⟨h1, h3⟩

/-- what the rests carry: the voice they were asked for, and either no value (`{}`) or one symbolic duration
    that lasts exactly as long as the rest under the divisions `div` -/
def RestOK (div : Nat) (v : Int) (r : GNote) : Prop :=
  r.voice = v ∧ (r.added = some .empty ∨
    ∃ sd, r.added = some (.single sd) ∧ symbolicToNumeric sd div = some (r.stop - r.start))

theorem compositeRests_cons (div : Nat) (v : Int) (staffOf : Nat → Int) (sd : SymDur) (l : List SymDur) (j : Nat) (st : Rat)
    (rests : List GNote) (h : compositeRests div v staffOf j st (sd :: l) = some rests) :
    ∃ x tl, symbolicToNumeric sd div = some x ∧ compositeRests div v staffOf (j + 1) (st + x) l = some tl ∧
      rests = ⟨st, st + x, v, staffOf j, some (.single sd)⟩ :: tl := by
  unfold compositeRests at h
  split at h
  · cases h
  · rename_i x hx
    cases hr : compositeRests div v staffOf (j + 1) (st + x) l with
    | none => rw [hr] at h; cases h
    | some tl => rw [hr] at h; exact ⟨x, tl, hx, hr, (Option.some.inj h).symm⟩

theorem compositeRests_tiles (div : Nat) (v : Int) (staffOf : Nat → Int) : ∀ (l : List SymDur) (j : Nat) (st : Rat)
    (rests : List GNote), compositeRests div v staffOf j st l = some rests →
    ∃ total, numericSum l div = some total ∧ RTiles st (st + total) rests
  | [], _, st, _, h => by cases h; exact ⟨0, rfl, (add_zero st).symm⟩
  | sd :: l, j, st, _, h => by
    obtain ⟨x, tl, hx, htl, rfl⟩ := compositeRests_cons div v staffOf sd l j st _ h
    obtain ⟨tot, h1, h2⟩ := compositeRests_tiles div v staffOf l _ _ tl htl
    obtain ⟨c, hc, rfl⟩ := C11Dur.numeric_eq_mul sd div x hx
    refine ⟨_ + tot, by rw [C11Dur.numericSum_cons, hx, h1], rfl, ?_, by rw [← add_assoc]; exact h2⟩
    exact le_add_of_nonneg_right (mul_nonneg (Nat.cast_nonneg div) hc.le)

theorem compositeRests_mem (div : Nat) (v : Int) (staffOf : Nat → Int) : ∀ (l : List SymDur) (j : Nat) (st : Rat)
    (rests : List GNote), compositeRests div v staffOf j st l = some rests → ∀ r ∈ rests,
    ∃ (i : Nat) (sd : SymDur) (x : Rat), symbolicToNumeric sd div = some x ∧ r.stop = r.start + x ∧ r.voice = v ∧
      r.staff = staffOf i ∧ r.added = some (.single sd)
  | [], _, _, _, h, r, hr => by cases h; cases hr
  | sd :: l, j, st, _, h, r, hr => by
    obtain ⟨x, tl, hx, htl, rfl⟩ := compositeRests_cons div v staffOf sd l j st _ h
    rcases List.mem_cons.mp hr with rfl | hr
    · exact ⟨j, sd, x, hx, rfl, rfl, rfl, rfl⟩
    · exact compositeRests_mem div v staffOf l _ _ tl htl r hr

theorem mkRests_inv (com : Bool) (a b : Rat) (div : Nat) (v staff : Int) (staffOf : Nat → Int) (rests : List GNote)
    (h : mkRests com a b div v staff staffOf = some rests) :
    (∃ l, estimate (b - a) div com = some (.composite l) ∧ compositeRests div v staffOf 0 a l = some rests) ∨
    (∃ e, estimate (b - a) div com = some e ∧ (∀ l, e ≠ .composite l) ∧ rests = [⟨a, b, v, staff, some e⟩]) := by
  unfold mkRests at h
  split at h
  · cases h
  · exact Or.inl ⟨_, ‹_›, h⟩
  · exact Or.inr ⟨_, ‹_›, ‹_›, (Option.some.inj h).symm⟩

theorem mkRests_mem (com : Bool) (a b : Rat) (div : Nat) (v staff : Int) (staffOf : Nat → Int) (rests : List GNote)
    (h : mkRests com a b div v staff staffOf = some rests) :
    ∀ r ∈ rests, r.voice = v ∧ r.added.isSome = true ∧ (r.staff = staff ∨ ∃ j, r.staff = staffOf j) := by
  intro r hr
  rcases mkRests_inv _ _ _ _ _ _ _ _ h with ⟨l, _, hc⟩ | ⟨e, _, _, rfl⟩
  · obtain ⟨i, sd, _, _, _, hv, hs, ha⟩ := compositeRests_mem _ _ _ _ _ _ _ hc r hr
    exact ⟨hv, by rw [ha]; rfl, Or.inr ⟨i, hs⟩⟩
  · cases List.mem_singleton.mp hr
    exact ⟨rfl, rfl, Or.inl rfl⟩

theorem mkRests_spec (com : Bool) (a b : Nat) (hab : a ≤ b) (div : Nat) (hbig : div ≤ 1099511627776) (v staff : Int)
    (staffOf : Nat → Int) (rests : List GNote)
    (h : mkRests com (a : Rat) (b : Rat) div v staff staffOf = some rests) :
    RTiles (a : Rat) (b : Rat) rests ∧ ∀ r ∈ rests, RestOK div v r := by
  have hcast : (b : Rat) - (a : Rat) = ((b - a : Nat) : Rat) := (Nat.cast_sub hab).symm
  rcases mkRests_inv _ _ _ _ _ _ _ _ h with ⟨l, he, hc⟩ | ⟨e, he, hnc, rfl⟩ <;> rw [hcast] at he
  · obtain ⟨tot, h1, h2⟩ := compositeRests_tiles div v staffOf l 0 _ rests hc
    rw [C11Dur.composite_back (b - a) div (C11Dur.estimate_inv _ _ _ _ he).1 hbig com l he] at h1
    rw [← Option.some.inj h1, ← hcast, add_sub_cancel] at h2
    refine ⟨h2, fun r hr => ?_⟩
    obtain ⟨_, sd, x, hx, hstop, hv, _, ha⟩ := compositeRests_mem _ _ _ _ _ _ _ hc r hr
    exact ⟨hv, Or.inr ⟨sd, ha, by rw [hstop, add_sub_cancel_left]; exact hx⟩⟩
  · refine ⟨⟨rfl, Nat.cast_le.mpr hab, rfl⟩, fun r hr => ?_⟩
    cases List.mem_singleton.mp hr
    refine ⟨rfl, ?_⟩
    cases e with
    | empty => exact Or.inl rfl
    | single sd => exact Or.inr ⟨sd, rfl, by rw [C11Dur.single_back (b - a) div com sd he, hcast]⟩
    | composite l => exact absurd rfl (hnc l)

theorem mkRests_inside (com : Bool) (a b : Nat) (hab : a < b) (div : Nat) (hbig : div ≤ 1099511627776) (v staff : Int)
    (staffOf : Nat → Int) (rests : List GNote)
    (h : mkRests com (a : Rat) (b : Rat) div v staff staffOf = some rests) :
    ∀ r ∈ rests, (a : Rat) ≤ r.start ∧ r.start < r.stop ∧ r.stop ≤ (b : Rat) := by
  obtain ⟨htile, _⟩ := mkRests_spec com a b (Nat.le_of_lt hab) div hbig v staff staffOf rests h
  intro r hr
  obtain ⟨b1, b2⟩ := rtiles_mem rests _ _ htile r hr
  refine ⟨b1, ?_, b2⟩
  rcases mkRests_inv _ _ _ _ _ _ _ _ h with ⟨l, he, hc⟩ | ⟨e, _, _, rfl⟩
  · obtain ⟨_, sd, x, hx, hstop, _⟩ := compositeRests_mem _ _ _ _ _ _ _ hc r hr
    rw [hstop]
    exact lt_add_of_pos_right _ (C11Dur.numeric_pos sd div (C11Dur.estimate_inv _ _ _ _ he).1 x hx)
  · cases List.mem_singleton.mp hr
    exact Nat.cast_lt.mpr hab

/-- `catOpts` is the models' "all answers, or none" followed by concatenation -/
theorem catOpts_eq : ∀ l : List (Option (List GNote)), catOpts l = (l.mapM id).map List.flatten
  | [] => rfl
  | none :: l => by simp [catOpts]
  | some a :: l => by
    rw [catOpts, catOpts_eq l, List.mapM_cons]
    cases l.mapM id <;> simp

theorem catOpts_eq_some_iff {l : List (Option (List GNote))} {out : List GNote} :
    catOpts l = some out ↔ ∃ parts : List (List GNote), l = parts.map some ∧ out = parts.flatten := by
  rw [catOpts_eq, Option.map_eq_some_iff]
  simp only [Lists.mapM_eq_some_iff, List.map_id]
  exact ⟨fun ⟨p, h1, h2⟩ => ⟨p, h1, h2.symm⟩, fun ⟨p, h1, h2⟩ => ⟨p, h1, h2.symm⟩⟩

theorem catOpts_some (l : List (Option (List GNote))) (out : List GNote) (h : catOpts l = some out) :
    (∀ o ∈ l, ∃ part, o = some part ∧ ∀ r ∈ part, r ∈ out) ∧ (∀ r ∈ out, ∃ part, some part ∈ l ∧ r ∈ part) := by
  obtain ⟨parts, rfl, rfl⟩ := catOpts_eq_some_iff.mp h
  constructor
  · intro o ho
    obtain ⟨p, hp, rfl⟩ := List.mem_map.mp ho
    exact ⟨p, rfl, fun r hr => List.mem_flatten.mpr ⟨p, hp, hr⟩⟩
  · intro r hr
    obtain ⟨p, hp, hrp⟩ := List.mem_flatten.mp hr
    exact ⟨p, List.mem_map.mpr ⟨p, hp, rfl⟩, hrp⟩

/-- `r` was made by `mkRests` for a stretch starting at `a`, with the divisions in force at `a` -/
def Made (qd : List (Int × Nat)) (r : GNote) : Prop :=
  ∃ (com : Bool) (a b : Rat) (voice staff : Int) (staffOf : Nat → Int) (part : List GNote),
    mkRests com a b (divsAt qd a) voice staff staffOf = some part ∧ r ∈ part

theorem made_added (qd : List (Int × Nat)) (r : GNote) (h : Made qd r) : r.added.isSome = true := by
  obtain ⟨com, a, b, voice, staff, staffOf, part, h1, h2⟩ := h
  exact (mkRests_mem _ _ _ _ _ _ _ _ h1 r h2).2.1

/-- an entry of the lists `catOpts` is applied to: nothing, or the rests of one stretch -/
def EntryMade (qd : List (Int × Nat)) (o : Option (List GNote)) : Prop :=
  ∀ part, o = some part → ∀ r ∈ part, Made qd r

theorem entry_ite (qd : List (Int × Nat)) (c : Prop) [Decidable c] (com : Bool) (a b : Rat) (voice staff : Int)
    (staffOf : Nat → Int) :
    EntryMade qd (if c then mkRests com a b (divsAt qd a) voice staff staffOf else some []) := by
  intro part hp r hr
  split at hp
  · exact ⟨com, a, b, voice, staff, staffOf, part, hp, hr⟩
  · simp only [Option.some.injEq] at hp; subst hp; simp at hr

theorem catOpts_made (qd : List (Int × Nat)) (l : List (Option (List GNote))) (out : List GNote)
    (h : catOpts l = some out) (hl : ∀ o ∈ l, EntryMade qd o) : ∀ r ∈ out, Made qd r := by
  intro r hr
  obtain ⟨part, hp1, hp2⟩ := (catOpts_some l out h).2 r hr
  exact hl _ hp1 part rfl r hp2

/-- the entries `L` ask `mkRests` for exactly the stretches `spans`, for the voice `v` with the divisions in force
    at the start of the stretch; every other entry is empty -/
def Asks (qd : List (Int × Nat)) (v : Int) (L : List (Option (List GNote))) (spans : List (Rat × Rat)) : Prop :=
  (∀ o ∈ L, o = some [] ∨ ∃ sp ∈ spans, ∃ staff staffOf, o = mkRests true sp.1 sp.2 (divsAt qd sp.1) v staff staffOf) ∧
  (∀ sp ∈ spans, ∃ o ∈ L, ∃ staff staffOf, o = mkRests true sp.1 sp.2 (divsAt qd sp.1) v staff staffOf)

theorem asks_nil (qd : List (Int × Nat)) (v : Int) : Asks qd v [] [] :=
  ⟨fun _ h => absurd h List.not_mem_nil, fun _ h => absurd h List.not_mem_nil⟩

/-- one more conditional entry, one more conditional stretch -/
theorem asks_cons (qd : List (Int × Nat)) (v : Int) (c : Prop) [Decidable c] (a b : Rat) (staff : Int)
    (staffOf : Nat → Int) (L : List (Option (List GNote))) (spans : List (Rat × Rat)) (h : Asks qd v L spans) :
    Asks qd v ((if c then mkRests true a b (divsAt qd a) v staff staffOf else some []) :: L)
      ((if c then [(a, b)] else []) ++ spans) := by
  have hold : ∀ (e : Option (List GNote)), ∀ sp ∈ spans, ∃ o ∈ e :: L,
      ∃ staff staffOf, o = mkRests true sp.1 sp.2 (divsAt qd sp.1) v staff staffOf := by
    intro e sp hsp
    obtain ⟨o, ho, x⟩ := h.2 sp hsp
    exact ⟨o, List.mem_cons_of_mem _ ho, x⟩
  by_cases hc : c
  · rw [if_pos hc, if_pos hc]
    refine ⟨fun o ho => ?_, fun sp hsp => ?_⟩
    · rcases List.mem_cons.mp ho with rfl | ho
      · exact Or.inr ⟨(a, b), List.mem_cons_self, staff, staffOf, rfl⟩
      · exact (h.1 o ho).imp_right fun ⟨sp, hsp, x⟩ => ⟨sp, List.mem_cons_of_mem _ hsp, x⟩
    · rcases List.mem_cons.mp hsp with rfl | hsp
      · exact ⟨_, List.mem_cons_self, staff, staffOf, rfl⟩
      · exact hold _ sp hsp
  · rw [if_neg hc, if_neg hc]
    exact ⟨fun o ho => (List.mem_cons.mp ho).elim Or.inl (h.1 o), hold _⟩

theorem between_entries (qd : List (Int × Nat)) (v : Int) (staffOf : Nat → Int) : ∀ (se ss : List GNote),
    Asks qd v (betweenRests qd v staffOf se ss) (betweenSpans se ss)
  | [], _ => asks_nil qd v
  | _ :: _, [] => asks_nil qd v
  | b :: se, a :: ss => asks_cons qd v _ b.stop a.start b.staff staffOf _ _ (between_entries qd v staffOf se ss)

theorem voice_entries (qd : List (Int × Nat)) (S E : Rat) (v : Int) (nv rests : List GNote)
    (h : voiceRests qd S E v nv = some rests) :
    ∃ L : List (Option (List GNote)), catOpts L = some rests ∧ Asks qd v L (voiceSpans S E nv) := by
  unfold voiceRests at h
  unfold voiceSpans
  simp only at h ⊢
  split at h
  · rename_i a0 z ha0 hz
    simp only [ha0, hz]
    exact ⟨_, h, asks_cons qd v _ S a0.start a0.staff _ _ _
      (asks_cons qd v _ z.stop E z.staff _ _ _ (between_entries qd v _ _ _))⟩
  · rename_i hno
    refine ⟨[], h, ?_⟩
    split
    · rename_i a0 z ha0 hz
      exact (hno a0 z ha0 hz).elim
    · exact asks_nil qd v

theorem voiceRests_mem (qd : List (Int × Nat)) (S E : Rat) (v : Int) (nv rests : List GNote)
    (h : voiceRests qd S E v nv = some rests) : ∀ r ∈ rests, ∃ sp ∈ voiceSpans S E nv, ∃ staff staffOf part,
      mkRests true sp.1 sp.2 (divsAt qd sp.1) v staff staffOf = some part ∧ r ∈ part := by
  obtain ⟨L, hcat, hL, _⟩ := voice_entries qd S E v nv rests h
  intro r hr
  obtain ⟨part, hp1, hp2⟩ := (catOpts_some L rests hcat).2 r hr
  rcases hL _ hp1 with h0 | ⟨sp, hsp, staff, staffOf, hst⟩
  · cases h0; cases hp2
  · exact ⟨sp, hsp, staff, staffOf, part, hst.symm, hp2⟩

theorem voiceRests_made (qd : List (Int × Nat)) (S E : Rat) (v : Int) (nv out : List GNote)
    (h : voiceRests qd S E v nv = some out) : ∀ r ∈ out, Made qd r := by
  intro r hr
  obtain ⟨sp, _, staff, staffOf, part, hp, hrp⟩ := voiceRests_mem qd S E v nv out h r hr
  exact ⟨true, sp.1, sp.2, v, staff, staffOf, part, hp, hrp⟩

theorem voiceRests_voice (qd : List (Int × Nat)) (S E : Rat) (v : Int) (nv rests : List GNote)
    (h : voiceRests qd S E v nv = some rests) : ∀ r ∈ rests, r.voice = v := by
  intro r hr
  obtain ⟨_, _, _, _, part, hp, hrp⟩ := voiceRests_mem qd S E v nv rests h r hr
  exact (mkRests_mem _ _ _ _ _ _ _ part hp r hrp).1

theorem staffRests_mem (qd : List (Int × Nat)) (k : Nat) (S E : Rat) (free : Int) (staffs : List Int) (out : List GNote)
    (h : staffRests qd k S E free staffs = some out) : ∀ r ∈ out, ∃ (staff : Int) (part : List GNote),
      mkRests true S E (divsAt qd S) free staff (fun _ => staff) = some part ∧ r ∈ part := by
  unfold staffRests at h
  split at h
  · intro r hr
    obtain ⟨part, hp1, hp2⟩ := (catOpts_some _ out h).2 r hr
    obtain ⟨i, _, hi⟩ := List.mem_map.mp hp1
    simp only at hi
    split at hi
    · cases hi; cases hp2
    · exact ⟨_, part, hi, hp2⟩
  · cases h; intro r hr; cases hr

theorem staffRests_ask (qd : List (Int × Nat)) (k : Nat) (S E : Rat) (free : Int) (staffs : List Int) (out : List GNote)
    (h : staffRests qd k S E free staffs = some out) (hfew : staffs.length < k) (s : Nat) (hs1 : 1 ≤ s) (hsk : s ≤ k)
    (hs : (s : Int) ∉ staffs) :
    ∃ part, mkRests true S E (divsAt qd S) free (s : Int) (fun _ => (s : Int)) = some part ∧ ∀ r ∈ part, r ∈ out := by
  unfold staffRests at h
  rw [if_pos hfew] at h
  have hmem := List.mem_map_of_mem (f := fun (i : Nat) =>
      let staff : Int := (i : Int) + 1
      if staffs.contains staff then some [] else mkRests true S E (divsAt qd S) free staff (fun _ => staff))
    (List.mem_range.mpr (show s - 1 < k by omega))
  have hcast : ((s - 1 : Nat) : Int) + 1 = (s : Int) := by omega
  have hnot : staffs.contains (s : Int) = false := by simpa using hs
  simp only [hcast, hnot, Bool.false_eq_true, if_false] at hmem
  exact (catOpts_some _ out h).1 _ hmem

/-- what `_fill_rests_within_measure` concatenates: the rests for the empty staves, then those of every voice that
    has something starting in the measure -/
theorem measureRests_inv (qd : List (Int × Nat)) (k : Nat) (ns : List GNote) (S E : Rat) (rests : List GNote)
    (h : measureRests qd k ns S E = some rests) :
    (∃ sp, staffRests qd k S E (freeVoice (TimeMap.sortedKeys ((window S E ns).map (·.voice))))
        (TimeMap.sortedKeys ((window S E ns).map (·.staff))) = some sp ∧ ∀ r ∈ sp, r ∈ rests) ∧
    (∀ v ∈ TimeMap.sortedKeys ((window S E ns).map (·.voice)), ∃ part,
        voiceRests qd S E v ((window S E ns).filter fun n => decide (n.voice = v)) = some part ∧ ∀ r ∈ part, r ∈ rests) ∧
    ∀ r ∈ rests,
      (∃ sp, staffRests qd k S E (freeVoice (TimeMap.sortedKeys ((window S E ns).map (·.voice))))
        (TimeMap.sortedKeys ((window S E ns).map (·.staff))) = some sp ∧ r ∈ sp) ∨
      ∃ v ∈ TimeMap.sortedKeys ((window S E ns).map (·.voice)), ∃ part,
        voiceRests qd S E v ((window S E ns).filter fun n => decide (n.voice = v)) = some part ∧ r ∈ part := by
  unfold measureRests at h
  simp only at h
  obtain ⟨c1, c2⟩ := catOpts_some _ rests h
  refine ⟨c1 _ List.mem_cons_self, fun v hv => c1 _ (List.mem_cons_of_mem _ (List.mem_map.mpr ⟨v, hv, rfl⟩)), ?_⟩
  intro r hr
  obtain ⟨part, hp1, hp2⟩ := c2 r hr
  rcases List.mem_cons.mp hp1 with hp1 | hp1
  · exact Or.inl ⟨part, hp1.symm, hp2⟩
  · obtain ⟨v, hv, hv'⟩ := List.mem_map.mp hp1
    exact Or.inr ⟨v, hv, part, hv', hp2⟩

theorem measureRests_made (qd : List (Int × Nat)) (k : Nat) (ns : List GNote) (S E : Rat) (out : List GNote)
    (h : measureRests qd k ns S E = some out) : ∀ r ∈ out, Made qd r := by
  intro r hr
  rcases (measureRests_inv qd k ns S E out h).2.2 r hr with ⟨sp, hsp, hrsp⟩ | ⟨v, _, part, hv, hp2⟩
  · obtain ⟨staff, part', hp, hrp⟩ := staffRests_mem qd k S E _ _ sp hsp r hrsp
    exact ⟨true, S, E, _, staff, _, part', hp, hrp⟩
  · exact voiceRests_made qd S E v _ part hv r hp2

theorem groupRestsG_made (qd : List (Int × Nat)) (S E : Rat) (nv out : List GNote)
    (h : groupRestsG qd S E nv = some out) : ∀ r ∈ out, Made qd r := by
  unfold groupRestsG at h
  split at h
  · rename_i a z ha hz
    apply catOpts_made qd _ out h
    intro o ho
    rcases List.mem_cons.mp ho with rfl | ho
    · exact entry_ite qd _ false S a.start a.voice a.staff _
    · rcases List.mem_cons.mp ho with rfl | ho
      · exact entry_ite qd _ false z.stop E z.voice z.staff _
      · simp at ho
  · simp only [Option.some.injEq] at h; subst h; intro r hr; simp at hr

theorem measureRestsG_made (qd : List (Int × Nat)) (uvs : List (Int × Int)) (ns : List GNote) (S E : Rat) (out : List GNote)
    (h : measureRestsG qd uvs ns S E = some out) : ∀ r ∈ out, Made qd r := by
  unfold measureRestsG at h
  split at h
  · simp only [Option.some.injEq] at h; subst h; intro r hr; simp at hr
  · simp only at h
    intro r hr
    obtain ⟨part, hp1, hp2⟩ := (catOpts_some _ out h).2 r hr
    rcases List.mem_append.mp hp1 with hp1 | hp1
    · obtain ⟨g, _, hg⟩ := List.mem_map.mp hp1
      exact groupRestsG_made qd S E _ part hg r hp2
    · obtain ⟨g, _, hg⟩ := List.mem_map.mp hp1
      exact ⟨false, S, E, g.1, g.2, _, part, hg, hp2⟩

/-- `part.add(rest, start, end)` keeps the objects in time order: `insertG` is the insertion of the shared insertion sort -/
theorem insG : Lists.IsInsertionSort (fun a b : GNote => decide (a.start < b.start)) insertG (List.foldr insertG []) :=
  ⟨fun _ => rfl, fun a b l => by simp only [insertG, decide_eq_true_eq], rfl, fun _ _ => rfl⟩

theorem filter_addAll (p : GNote → Bool) (rests ns : List GNote) (h : ∀ r ∈ rests, p r = false) :
    (addAll rests ns).filter p = ns.filter p :=
  insG.foldl_ins_filter_neg rests ns h

theorem mem_addAll (rests ns : List GNote) (x : GNote) : x ∈ addAll rests ns ↔ x ∈ rests ∨ x ∈ ns :=
  insG.mem_foldl_ins rests ns x

/-- one step of either mode: the old objects stay as they are and in order, every new one is a made rest -/
def StepOK (qd : List (Int × Nat)) (ns out : List GNote) : Prop :=
  out.filter (fun n => n.added.isNone) = ns.filter (fun n => n.added.isNone) ∧
  ∀ x ∈ out, x ∈ ns ∨ Made qd x

theorem stepOK_of_rests (qd : List (Int × Nat)) (ns rests : List GNote) (h : ∀ r ∈ rests, Made qd r) :
    StepOK qd ns (addAll rests ns) := by
  refine ⟨filter_addAll _ rests ns fun r hr => ?_, ?_⟩
  · cases ha : r.added with
    | none => have := made_added qd r (h r hr); rw [ha] at this; cases this
    | some e => rfl
  intro x hx
  rcases (mem_addAll rests ns x).mp hx with hx | hx
  · exact Or.inr (h x hx)
  · exact Or.inl hx

theorem stepOK_old (qd : List (Int × Nat)) (ns out : List GNote) (hold : ∀ n ∈ ns, n.added = none)
    (h : StepOK qd ns out) :
    out.filter (fun n => n.added.isNone) = ns ∧ ∀ x ∈ out, x ∈ ns ∨ (x.added.isSome = true ∧ Made qd x) := by
  refine ⟨?_, fun x hx => (h.2 x hx).imp_right fun hm => ⟨made_added qd x hm, hm⟩⟩
  rw [h.1, List.filter_eq_self]
  intro n hn; rw [hold n hn]; rfl

/-- both modes: measure after measure, rests `R` computes from the objects so far are added; if `R` only gives
    made rests, the whole call is `StepOK` -/
theorem fill_stepOK (qd : List (Int × Nat)) (R : List GNote → Rat → Rat → Option (List GNote))
    (hR : ∀ ns S E rests, R ns S E = some rests → ∀ r ∈ rests, Made qd r) :
    ∀ (ms : List (Rat × Rat)) (acc : Option (List GNote)) (out : List GNote),
      ms.foldl (fun acc m => match acc with
        | none => none
        | some ns => (R ns m.1 m.2).map fun rests => addAll rests ns) acc = some out →
      ∃ ns, acc = some ns ∧ StepOK qd ns out
  | [], acc, out, h => ⟨out, h, rfl, fun _ hx => Or.inl hx⟩
  | m :: ms, acc, out, h => by
    rw [List.foldl_cons] at h
    obtain ⟨mid, hmid, b1, b2⟩ := fill_stepOK qd R hR ms _ out h
    cases acc with
    | none => cases hmid
    | some ns =>
      cases hr : R ns m.1 m.2 with
      | none => simp only [hr] at hmid; cases hmid
      | some rests =>
        simp only [hr, Option.map_some, Option.some.injEq] at hmid
        subst hmid
        obtain ⟨a1, a2⟩ := stepOK_of_rests qd ns rests (hR ns _ _ rests hr)
        exact ⟨ns, rfl, b1.trans a1, fun x hx => (b2 x hx).elim (a2 x) Or.inr⟩

theorem fillRests_ok (qd : List (Int × Nat)) (k : Nat) (ms : List (Rat × Rat)) (ns out : List GNote)
    (h : fillRests qd k ms ns = some out) : StepOK qd ns out := by
  obtain ⟨_, hns, hok⟩ := fill_stepOK qd (measureRests qd k) (measureRests_made qd k) ms (some ns) out h
  cases hns; exact hok

theorem fillRestsG_ok (qd : List (Int × Nat)) (uvs : List (Int × Int)) (ms : List (Rat × Rat)) (ns out : List GNote)
    (h : fillRestsG qd uvs ms ns = some out) : StepOK qd ns out := by
  obtain ⟨_, hns, hok⟩ := fill_stepOK qd (measureRestsG qd uvs) (measureRestsG_made qd uvs) ms (some ns) out h
  cases hns; exact hok

def IsNat (q : Rat) : Prop := ∃ k : Nat, q = (k : Rat)

theorem span_nat (S E : Rat) (hS : IsNat S) (hE : IsNat E) (nv : List GNote)
    (hnat : ∀ n ∈ nv, IsNat n.start ∧ IsNat n.stop) :
    ∀ sp ∈ voiceSpans S E nv, ∃ a b : Nat, sp = ((a : Rat), (b : Rat)) ∧ a ≤ b := by
  intro sp hsp
  obtain ⟨hlt, h1, h2⟩ := voiceSpans_mem S E nv sp hsp
  obtain ⟨a, ha⟩ : IsNat sp.1 := by
    rcases h1 with h | ⟨b, hb, h⟩ <;> rw [h]
    · exact hS
    · exact (hnat b hb).2
  obtain ⟨b, hb⟩ : IsNat sp.2 := by
    rcases h2 with h | ⟨a, ha, h⟩ <;> rw [h]
    · exact hE
    · exact (hnat a ha).1
  rw [ha, hb] at hlt
  exact ⟨a, b, Prod.ext ha hb, by exact_mod_cast hlt.le⟩

theorem voice_gaps (qd : List (Int × Nat)) (hbig : ∀ t, divsAt qd t ≤ 1099511627776) (S E : Rat) (hS : IsNat S) (hE : IsNat E)
    (v : Int) (nv : List GNote) (hne : nv ≠ [])
    (hnat : ∀ n ∈ nv, IsNat n.start ∧ IsNat n.stop) (hord : ∀ n ∈ nv, n.start ≤ n.stop)
    (rests : List GNote) (h : voiceRests qd S E v nv = some rests) :
    ∀ t : Rat, S ≤ t → t < E →
      ((∃ r ∈ rests, r.start ≤ t ∧ t < r.stop) ↔ ∀ n ∈ nv, ¬ (n.start ≤ t ∧ t < n.stop)) := by
  obtain ⟨L, hcat, _, hL2⟩ := voice_entries qd S E v nv rests h
  obtain ⟨c1, _⟩ := catOpts_some L rests hcat
  have htiles : ∀ sp ∈ voiceSpans S E nv, ∀ staff staffOf part,
      mkRests true sp.1 sp.2 (divsAt qd sp.1) v staff staffOf = some part → RTiles sp.1 sp.2 part := by
    intro sp hsp staff staffOf part hp
    obtain ⟨a, b, rfl, hab⟩ := span_nat S E hS hE nv hnat sp hsp
    exact (mkRests_spec true a b hab _ (hbig _) v staff staffOf part hp).1
  intro t hSt htE
  rw [← voiceSpans_exact S E nv hne hord t hSt htE]
  constructor
  · rintro ⟨r, hr, hc⟩
    obtain ⟨sp, hsp, staff, staffOf, part, hst, hrp⟩ := voiceRests_mem qd S E v nv rests h r hr
    exact ⟨sp, hsp, (rtiles_cover part _ _ (htiles sp hsp staff staffOf part hst) t).mp ⟨r, hrp, hc⟩⟩
  · rintro ⟨sp, hsp, hc⟩
    obtain ⟨o, ho, staff, staffOf, hst⟩ := hL2 sp hsp
    obtain ⟨part, hp1, hp2⟩ := c1 o ho
    rw [hp1] at hst
    obtain ⟨r, hr, hcov⟩ := (rtiles_cover part _ _ (htiles sp hsp staff staffOf part hst.symm) t).mpr hc
    exact ⟨r, hp2 r hr, hcov⟩

theorem prevValue_le (B : Nat) (rest : List (Int × Nat)) (cur : Nat) (t : Rat) (hc : cur ≤ B) (h : ∀ e ∈ rest, e.2 ≤ B) :
    TimeMap.prevValue cur rest t ≤ B := by
  rcases (C02Proofs.prevValue_scan t).mem cur rest with h' | ⟨a, ha, -, h'⟩
  · exact h'.symm ▸ hc
  · exact h'.symm ▸ h a ha

theorem divsAt_le (qd : List (Int × Nat)) (B : Nat) (hB : 1 ≤ B) (h : ∀ e ∈ qd, e.2 ≤ B) (t : Rat) : divsAt qd t ≤ B := by
  unfold divsAt TimeMap.qdMap
  cases qd with
  | nil => exact hB
  | cons e rest =>
    obtain ⟨t0, q0⟩ := e
    exact prevValue_le B rest q0 t (h (t0, q0) List.mem_cons_self) (fun e he => h e (List.mem_cons_of_mem _ he))

theorem freeVoice_gt (l : List Int) (v : Int) (hv : v ∈ TimeMap.sortedKeys l) :
    v < freeVoice (TimeMap.sortedKeys l) := by
  unfold freeVoice
  cases hl : (TimeMap.sortedKeys l).getLast? with
  | none =>
    rw [List.getLast?_eq_none_iff] at hl
    rw [hl] at hv; cases hv
  | some m =>
    obtain ⟨init, hinit⟩ := List.getLast?_eq_some_iff.mp hl
    have hp := C02Proofs.pairwise_sortedKeys l
    rw [hinit] at hp hv
    rcases List.mem_append.mp hv with hv | hv
    · exact lt_trans ((List.pairwise_append.mp hp).2.2 v hv m List.mem_cons_self) (lt_add_one m)
    · cases List.mem_singleton.mp hv; exact lt_add_one _

theorem measure_gaps (qd : List (Int × Nat)) (hbig : ∀ t, divsAt qd t ≤ 1099511627776) (k : Nat) (ns : List GNote)
    (S E : Rat) (hS : IsNat S) (hE : IsNat E)
    (hnat : ∀ n ∈ window S E ns, IsNat n.start ∧ IsNat n.stop) (hord : ∀ n ∈ window S E ns, n.start ≤ n.stop)
    (rests : List GNote) (h : measureRests qd k ns S E = some rests) (v : Int) (hv : ∃ n ∈ window S E ns, n.voice = v) :
    ∀ t : Rat, S ≤ t → t < E →
      ((∃ r ∈ rests, r.voice = v ∧ r.start ≤ t ∧ t < r.stop) ↔
        ∀ n ∈ window S E ns, n.voice = v → ¬ (n.start ≤ t ∧ t < n.stop)) := by
  intro t hSt htE
  obtain ⟨_, hvoices, hall⟩ := measureRests_inv qd k ns S E rests h
  have hvmem : v ∈ TimeMap.sortedKeys ((window S E ns).map (·.voice)) := by
    rw [C02Proofs.mem_sortedKeys]
    obtain ⟨n, hn, hnv⟩ := hv
    exact List.mem_map.mpr ⟨n, hn, hnv⟩
  set nv := (window S E ns).filter (fun n => decide (n.voice = v)) with hnv
  obtain ⟨partv, hpv1, hpv2⟩ := hvoices v hvmem
  have hnvne : nv ≠ [] := by
    obtain ⟨n, hn, hnv'⟩ := hv
    intro he
    have : n ∈ nv := List.mem_filter.mpr ⟨hn, by simpa using hnv'⟩
    rw [he] at this; simp at this
  have hsub : ∀ n ∈ nv, n ∈ window S E ns := fun n hn => (List.mem_filter.mp hn).1
  have hg := voice_gaps qd hbig S E hS hE v nv hnvne (fun n hn => hnat n (hsub n hn))
    (fun n hn => hord n (hsub n hn)) partv hpv1
  have hiff : (∀ n ∈ nv, ¬ (n.start ≤ t ∧ t < n.stop)) ↔
      ∀ n ∈ window S E ns, n.voice = v → ¬ (n.start ≤ t ∧ t < n.stop) := by
    constructor
    · intro h1 n hn hnv'; exact h1 n (List.mem_filter.mpr ⟨hn, by simpa using hnv'⟩)
    · intro h1 n hn
      have := List.mem_filter.mp hn
      exact h1 n this.1 (by simpa using this.2)
  rw [← hiff, ← hg t hSt htE]
  constructor
  · rintro ⟨r, hr, hrv, hc⟩
    rcases hall r hr with ⟨sp, hsp, hrsp⟩ | ⟨v', _, part, hv', hp2⟩
    · -- a rest of an empty staff has a voice above all voices of the measure
      obtain ⟨_, part', hp, hrp⟩ := staffRests_mem qd k S E _ _ sp hsp r hrsp
      have hfree := (mkRests_mem _ _ _ _ _ _ _ part' hp r hrp).1
      have := freeVoice_gt _ v hvmem
      rw [← hfree, hrv] at this
      exact absurd this (lt_irrefl _)
    · -- a rest of another voice has that voice
      have hrv' := voiceRests_voice qd S E v' _ part hv' r hp2
      have : v' = v := by rw [← hrv', hrv]
      subst this
      rw [hpv1] at hv'
      simp only [Option.some.injEq] at hv'
      subst hv'
      exact ⟨r, hp2, hc⟩
  · rintro ⟨r, hr, hc⟩
    exact ⟨r, hpv2 r hr, voiceRests_voice qd S E v nv partv hpv1 r hr, hc⟩

theorem staff_gaps (qd : List (Int × Nat)) (hbig : ∀ t, divsAt qd t ≤ 1099511627776) (k : Nat) (ns : List GNote)
    (S E : Nat) (hSE : S ≤ E) (rests : List GNote) (h : measureRests qd k ns (S : Rat) (E : Rat) = some rests)
    (hfew : (TimeMap.sortedKeys ((window (S : Rat) (E : Rat) ns).map (·.staff))).length < k)
    (s : Nat) (hs1 : 1 ≤ s) (hsk : s ≤ k) (hempty : ∀ n ∈ window (S : Rat) (E : Rat) ns, n.staff ≠ (s : Int)) :
    ∃ free : Int, (∀ n ∈ window (S : Rat) (E : Rat) ns, n.voice < free) ∧
      ∀ t : Rat, (S : Rat) ≤ t → t < (E : Rat) → ∃ r ∈ rests, r.staff = (s : Int) ∧ r.voice = free ∧ r.start ≤ t ∧ t < r.stop := by
  obtain ⟨⟨sp, hsp1, hsp2⟩, _, _⟩ := measureRests_inv qd k ns (S : Rat) (E : Rat) rests h
  refine ⟨freeVoice (TimeMap.sortedKeys ((window (S : Rat) (E : Rat) ns).map (·.voice))), ?_, ?_⟩
  · intro n hn
    exact freeVoice_gt _ _ ((C02Proofs.mem_sortedKeys _ _).mpr (List.mem_map.mpr ⟨n, hn, rfl⟩))
  · intro t h1 h2
    have hnot : (s : Int) ∉ TimeMap.sortedKeys ((window (S : Rat) (E : Rat) ns).map (·.staff)) := by
      rw [C02Proofs.mem_sortedKeys]
      intro hc
      obtain ⟨n, hn, hns⟩ := List.mem_map.mp hc
      exact hempty n hn hns
    obtain ⟨part, hp1, hp2⟩ := staffRests_ask qd k _ _ _ _ sp hsp1 hfew s hs1 hsk hnot
    obtain ⟨htile, _⟩ := mkRests_spec true S E hSE _ (hbig _) _ _ _ part hp1
    obtain ⟨r, hr, hcov⟩ := (rtiles_cover part _ _ htile t).mpr ⟨h1, h2⟩
    obtain ⟨hvoice, _, hstaff⟩ := mkRests_mem true _ _ _ _ _ _ part hp1 r hr
    exact ⟨r, hsp2 r (hp2 r hr), hstaff.elim id fun ⟨_, h⟩ => h, hvoice, hcov⟩

end C11Rests
