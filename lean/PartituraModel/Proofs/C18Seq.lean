/-
C18 — lemmas about Model/CodecSeq.lean: `get_unique_seq` as a function of its own.
-/
import PartituraModel.Model.CodecSeq
import PartituraModel.Proofs.C18Ext

namespace C18P
open Model Model.Codec

theorem uniqueSeq_eq (o : Rat) (os offs : List Rat) (idx : Option (List (List Nat))) (rd : Bool) (last : Rat)
    (gs : List (Grp Rat)) (hlast : lastTime (o :: os) offs = some last)
    (hgs : (match idx with | none => some (groupsBy (fun x => x) (o :: os)) | some ix => pickGroups (o :: os) ix) = some gs)
    (hne : ∀ g ∈ gs, g ≠ []) :
    uniqueSeq (o :: os) offs idx rd = some ⟨groupMeans (fun x => x) gs ++ [last], last - minL o os, gs.map (·.map (·.1)),
      if rd then some (diffs (groupMeans (fun x => x) gs ++ [last])) else none⟩ := by
  have hany : gs.any (·.isEmpty) = false := by
    rw [Bool.eq_false_iff]
    intro h
    obtain ⟨g0, hg0, he⟩ := List.any_eq_true.mp h
    exact hne g0 hg0 (List.isEmpty_iff.mp he)
  unfold uniqueSeq
  -- the `match` on `idx` in `hgs` is the one of the definition only up to unfolding
  cases idx
  all_goals
    simp only [hlast]
    simp only at hgs
    simp only [hgs, Option.bind_some, hany]
    rfl


theorem uniqueSeq_of_groups {α : Type} (l : List α) (f g : α → Rat) (hne : l ≠ []) (hfg : ∀ x ∈ l, f x ≤ g x)
    (idx : Option (List (List Nat))) (gs : List (Grp Rat))
    (hgs : (match idx with | none => some (groupsBy (fun x => x) (l.map f)) | some ix => pickGroups (l.map f) ix) = some gs)
    (hgne : ∀ g ∈ gs, g ≠ []) (hmem : ∀ g ∈ gs, ∀ p ∈ g, p.2 ∈ l.map f)
    (hinc : (groupMeans (fun x => x) gs).Pairwise (· < ·)) (rd : Bool) :
    ∃ u, uniqueSeq (l.map f) (l.map g) idx rd = some u ∧ u.groups = gs.map (·.map (·.1)) ∧
      (∃ last, u.uOnset = groupMeans (fun x => x) gs ++ [last] ∧ lastTime (l.map f) (l.map g) = some last) ∧
      u.uOnset.Pairwise (· < ·) ∧ u.uOnset.length = u.groups.length + 1 ∧ 0 < u.totalDur ∧
      u.diff = (if rd then some (diffs u.uOnset) else none) ∧
      (∀ d ∈ diffs u.uOnset, 0 < d) ∧ (diffs u.uOnset).length = u.groups.length := by
  obtain ⟨last, hlast⟩ := lastTime_some l f g hne
  have hlt : ∀ x ∈ l, f x < last := lastTime_gt l f g hfg last hlast
  have hu : (groupMeans (fun x => x) gs ++ [last]).Pairwise (· < ·) := pairwise_append_last _ last hinc
    (groupMeans_lt (fun x => x) gs hgne last fun g0 hg0 p hp => by
      obtain ⟨y, hy, hye⟩ := List.mem_map.mp (hmem g0 hg0 p hp)
      rw [← hye]; exact hlt y hy)
  obtain ⟨a, as, rfl⟩ := List.exists_cons_of_ne_nil hne
  have hfirst : minL (f a) (as.map f) < last := by
    obtain ⟨y, hy, hye⟩ := List.mem_map.mp (List.map_cons ▸ minL_mem (f a) (as.map f))
    rw [← hye]; exact hlt y hy
  refine ⟨_, uniqueSeq_eq (f a) (as.map f) _ idx rd last gs hlast hgs hgne, rfl, ⟨last, rfl, hlast⟩, hu, ?_,
    sub_pos.mpr hfirst, rfl, diffs_pos _ hu, ?_⟩
  · simp [groupMeans]
  · rw [diffs_length]; simp [groupMeans]

/-- the groups `get_unique_seq` infers itself -/
theorem uniqueSeq_default_groups (ons : List Rat) :
    (∀ g ∈ groupsBy (fun x => x) ons, g ≠ []) ∧ (∀ g ∈ groupsBy (fun x => x) ons, ∀ p ∈ g, p.2 ∈ ons) ∧
    (groupMeans (fun x => x) (groupsBy (fun x => x) ons)).Pairwise (· < ·) ∧
    (groupsBy (fun x => x) ons).flatten.Perm (enumFrom 0 ons) :=
  ⟨groupsBy_ne_nil _ ons, fun _ hg _ hp => mem_groupsBy hg hp,
    groupMeans_strict_of_separated (fun (x : Rat) => x) _ (groupsBy_ne_nil _ ons)
      (sortedRuns_spec eps eps_nonneg (fun (x : Rat) => x) ons).2.2.1,
    groupsBy_flatten_perm _ ons⟩

end C18P
