/-
C07 — format-then-parse of a single-component line returns the values, given the per-field codec round trips
and the side condition on the field texts.  The codec of a field may be selected by the line's Attribute
(`codecFor`), the interpreted fields may be post-processed by the class (`applyPost`: pitch spelling), and the
line may stand at an offset inside a longer line (component of a composite line): `line_roundtrip_gen`.
"Plain" lines, whose fields are interpreted independently (`RT`), are the special case `RTA_of_RT`.
-/
import PartituraModel.Model.MatchLine
import PartituraModel.Proofs.C07Search
import PartituraModel.Proofs.Lists

namespace C07Line
open Model Model.Template Model.MatchCodec Model.MatchLine

/-- a field whose codec does not depend on the line's Attribute -/
def plainField (f : String × Enc × Dec) : Bool := f.2.1 != Enc.byAttr

/-- the field texts `es` are the encodings of `vals`, and each text is read back as its value by the
    field's interpreter (what the per-codec round-trip theorems establish) -/
def RT : List (String × Enc × Dec) → List Val → List (String × Str) → Prop
  | [], [], [] => True
  | f :: fs, v :: vs, e :: es =>
    e.1 = f.1 ∧ encode f.2.1 v = some e.2 ∧ decode f.2.2 e.2 = .ok v ∧ RT fs vs es
  | _, _, _ => False

def textOf (es : List (String × Str)) (n : String) : Str := (lookup n es).getD []

theorem codecFor_plain (t : Template) (attr : Option Str) (f : String × Enc × Dec) (h : plainField f = true) :
    codecFor t attr f = some f.2 := by
  unfold codecFor
  unfold plainField at h
  have : (f.2.1 == Enc.byAttr) = false := by
    rw [bne_iff_ne] at h
    exact beq_false_of_ne h
  simp [this]

/-- `RTA t attr fs vals raws es`: field by field, with the codec `codecFor t attr f` selected through
    the Attribute text `attr`: the value is written as the text `es[i]`, and that text is interpreted
    as `raws[i]` (the value BEFORE the class's post-processing) -/
def RTA (t : Template) (attr : Option Str) :
    List (String × Enc × Dec) → List Val → List Val → List (String × Str) → Prop
  | [], [], [], [] => True
  | f :: fs, v :: vs, r :: rs, e :: es =>
    e.1 = f.1 ∧ (∃ c, codecFor t attr f = some c ∧ encode c.1 v = some e.2 ∧ decode c.2 e.2 = .ok r) ∧
      RTA t attr fs vs rs es
  | _, _, _, _ => False

theorem RTA.ind (t : Template) (a : Option Str)
    {P : List (String × Enc × Dec) → List Val → List Val → List (String × Str) → Prop} (nil : P [] [] [] [])
    (cons : ∀ f fs v vs r rs e es, e.1 = f.1 →
      (∃ c, codecFor t a f = some c ∧ encode c.1 v = some e.2 ∧ decode c.2 e.2 = .ok r) →
      RTA t a fs vs rs es → P fs vs rs es → P (f :: fs) (v :: vs) (r :: rs) (e :: es)) :
    ∀ fs vs rs es, RTA t a fs vs rs es → P fs vs rs es := by
  intro fs vs rs es h
  fun_induction RTA t a fs vs rs es with
  | case1 => exact nil
  | case2 f fs v vs r rs e es ih => exact cons _ _ _ _ _ _ _ _ h.1 h.2.1 h.2.2 (ih h.2.2)
  | case3 => exact h.elim

theorem RTA_congr (t : Template) (a b : Option Str) : ∀ (fs : List (String × Enc × Dec)) (vs rs : List Val)
    (es : List (String × Str)), RTA t a fs vs rs es → (∀ f ∈ fs, codecFor t a f = codecFor t b f) →
    RTA t b fs vs rs es :=
  RTA.ind t a (fun _ => trivial) fun f fs _ _ _ _ _ _ hn ⟨c, h1, h2, h3⟩ _ ih hc =>
    ⟨hn, ⟨c, by rw [← hc f (by simp)]; exact h1, h2, h3⟩, ih fun g hg => hc g (by simp [hg])⟩

theorem names_of_RTA (t : Template) (a : Option Str) : ∀ (fs : List (String × Enc × Dec)) (vs rs : List Val)
    (es : List (String × Str)), RTA t a fs vs rs es → es.map (·.1) = fs.map (·.1) :=
  RTA.ind t a rfl fun _ _ _ _ _ _ _ _ hn _ _ ih => by simp only [List.map_cons, hn, ih]

theorem lengths_of_RTA (t : Template) (a : Option Str) : ∀ (fs : List (String × Enc × Dec)) (vs rs : List Val)
    (es : List (String × Str)), RTA t a fs vs rs es → vs.length = fs.length ∧ rs.length = fs.length := by
  exact RTA.ind t a ⟨rfl, rfl⟩ fun _ _ _ _ _ _ _ _ _ _ _ ih => by simp only [List.length_cons]; omega

theorem encodeFields_of_RTA (t : Template) (a : Option Str) : ∀ (fs : List (String × Enc × Dec)) (vs rs : List Val)
    (es : List (String × Str)), RTA t a fs vs rs es → encodeFields t a fs vs = some es :=
  RTA.ind t a rfl fun f _ _ _ _ _ e _ hn ⟨c, h1, h2, _⟩ _ ih => by
    obtain ⟨n, s⟩ := e
    simp only [encodeFields, h1, h2, ih, ← (show n = f.1 from hn)]

theorem decodeFields_of_RTA (t : Template) (a : Option Str) (groups : List (String × Str)) :
    ∀ (fs : List (String × Enc × Dec)) (vs rs : List Val) (es : List (String × Str)),
    RTA t a fs vs rs es → (∀ e ∈ es, lookup e.1 groups = some e.2) →
    decodeFields t a groups fs = .ok rs :=
  RTA.ind t a (fun _ => rfl) fun f _ _ _ _ _ e _ hn ⟨c, h1, _, h3⟩ _ ih hl => by
    have hl1 := hl e (by simp)
    rw [hn] at hl1
    simp only [decodeFields, h1, hl1, h3, ih fun e' he' => hl e' (by simp [he']), ofDec, bind, Except.bind, pure,
      Except.pure]

theorem lookup_groupsOf (q : List Seg) (v : String → List Char) (n : String) (h : n ∈ fieldNames q) :
    lookup n (groupsOf q v) = some (v n) := by
  induction q with
  | nil => simp [fieldNames] at h
  | cons sg q ih =>
    cases sg with
    | lit p => simp only [fieldNames] at h; simp only [groupsOf]; exact ih h
    | fld m cls lo =>
      simp only [fieldNames, List.mem_cons] at h
      simp only [groupsOf, lookup]
      by_cases hm : m = n
      · subst hm; simp
      · simp only [hm, if_false]
        rcases h with h | h
        · exact absurd h.symm hm
        · exact ih h

/-- the dependencies between the fields of a template are the two modelled ones (decidable): either no
    codec depends on the Attribute, or there is no post-processing and a field called `Attribute` is a
    plain string (`format_string` / `interpret_as_string`), so that the text the parser sees in the
    Attribute group is the value the formatter looked the codec up with -/
def depsOK (t : Template) : Bool :=
  t.fields.all plainField ||
    (t.post == Post.none &&
      t.fields.all (fun f => f.1 != "Attribute" || (f.2.1 == Enc.strip && f.2.2 == Dec.str)))

theorem lookup_some_of_mem {β : Type} (n : String) (l : List (String × β)) (h : n ∈ l.map (·.1)) :
    ∃ b ∈ l.map (·.2), lookup n l = some b := by
  obtain ⟨b, hb⟩ := Option.isSome_iff_exists.mp (lookup_isSome_iff.mpr h)
  exact ⟨b, List.mem_map.mpr ⟨_, lookup_mem hb, rfl⟩, hb⟩

theorem groupsOf_names (q : List Seg) (v : String → List Char) : (groupsOf q v).map (·.1) = fieldNames q := by
  induction q with
  | nil => rfl
  | cons sg q ih =>
    cases sg with
    | lit p => simpa [groupsOf, fieldNames] using ih
    | fld m c l => simp [groupsOf, fieldNames, ih]

theorem lookup_groupsOf_textOf (q : List Seg) (es : List (String × Str)) (n : String)
    (hn : fieldNames q = es.map (·.1)) : lookup n (groupsOf q (textOf es)) = lookup n es := by
  by_cases hm : n ∈ fieldNames q
  · rw [lookup_groupsOf _ _ _ hm]
    obtain ⟨b, -, hb⟩ := lookup_some_of_mem n es (by rw [← hn]; exact hm)
    unfold textOf
    rw [hb]; rfl
  · rw [lookup_eq_none_iff.mpr (by rw [groupsOf_names]; exact hm), lookup_eq_none_iff.mpr (by rw [← hn]; exact hm)]

theorem applyPost_none (t : Template) (vals : List Val) (h : t.post = Post.none) : applyPost t vals = .ok vals := by
  unfold applyPost
  rw [h]
  rfl

/-- when a field `Attribute` is a plain string, the text of the Attribute group is the value the formatter saw -/
theorem attr_agree (t : Template) (a : Option Str) : ∀ (fs : List (String × Enc × Dec)) (vs rs : List Val)
    (es : List (String × Str)), RTA t a fs vs rs es →
    fs.all (fun f => f.1 != "Attribute" || (f.2.1 == Enc.strip && f.2.2 == Dec.str)) = true →
    (match ((fs.map (·.1)).zip rs).find? (·.1 == "Attribute") with
      | some (_, .str x) => some x
      | _ => none) = lookup "Attribute" es :=
  RTA.ind t a (fun _ => rfl) fun f fs _ _ r _ e _ hn ⟨c, h1, _, h3⟩ _ ih hf => by
    obtain ⟨en, et⟩ := e
    simp only at hn h3
    simp only [List.all_cons, Bool.and_eq_true] at hf
    by_cases hA : f.1 = "Attribute"
    · obtain ⟨he, hd⟩ : f.2.1 = Enc.strip ∧ f.2.2 = Dec.str := by simpa [hA] using hf.1
      have hc : codecFor t a f = some f.2 := by simp [codecFor, he]
      rw [hc] at h1
      injection h1 with h1
      rw [← h1, hd] at h3
      simp only [decode] at h3
      injection h3 with h3
      subst h3
      simp [hA, lookup, hn]
    · have h1 : (f.1 == "Attribute") = false := by simpa using hA
      simp only [List.map_cons, List.zip_cons_cons, List.find?, lookup, h1, hn, if_neg hA]
      exact ih hf.2

/-- the conjuncts of `templateOK` the line theorems rest on (the remaining ones say that every codec is modelled) -/
theorem templateOK_spec (t : Template) (h : templateOK t = true) :
    agree t.out t.pat = true ∧ (fieldNames t.pat).Nodup ∧ fieldNames t.pat = t.fields.map (·.1) ∧
      t.unmodelled.isSome = false := by
  unfold templateOK at h
  simp only [Bool.and_eq_true, beq_iff_eq, decide_eq_true_eq] at h
  obtain ⟨⟨⟨⟨⟨⟨hag, _⟩, hnd⟩, hnames⟩, hun⟩, _⟩, _⟩ := h
  refine ⟨hag, hnd, hnames, ?_⟩
  cases hu : t.unmodelled with
  | none => rfl
  | some x => rw [hu] at hun; cases hun

theorem formatT_eq (t : Template) (vals : List Val) (h : t.unmodelled.isSome = false) :
    formatT t vals = (encodeFields t (attrOf t vals) t.fields vals).map fun es => render t.out (textOf es) := by
  unfold formatT
  rw [h]
  rfl

theorem mem_of_findTpl {ts : List Template} {n : String} {t : Template} (h : findTpl ts n = some t) : t ∈ ts :=
  List.mem_of_find?_eq_some h

/-- the whole single-component line: with the codec of every field selected by `codecFor` through the
    Attribute, the interpreted values post-processed by `applyPost`, the line standing behind `pre`
    (where no anchored match of its pattern starts) and before `tail` -/
theorem line_roundtrip_gen (t : Template) (vals raws : List Val) (es : List (String × Str)) (pre tail : List Char)
    (ht : templateOK t = true) (hd : depsOK t = true)
    (hrt : RTA t (attrOf t vals) t.fields vals raws es)
    (hpost : applyPost t raws = .ok vals)
    (hv : fieldsOKGen t.out t.pat (textOf es) tail = true)
    (hpre : noEarly t.pat pre (render t.out (textOf es) ++ tail) = true) :
    formatT t vals = some (render t.out (textOf es)) ∧
      parseT t (pre ++ (render t.out (textOf es) ++ tail)) = .ok vals := by
  obtain ⟨hag, hnd, hnames, hsome⟩ := templateOK_spec t ht
  have hnm := names_of_RTA _ _ _ _ _ _ hrt
  constructor
  · rw [formatT_eq t vals hsome, encodeFields_of_RTA t _ t.fields vals raws es hrt, Option.map_some]
  · unfold parseT
    simp only [hsome, Bool.false_eq_true, if_false]
    have hs := search_skip t.pat pre _ _ (noEarly_spec _ _ _ hpre)
      (matchSegs_render t.pat t.out (textOf es) tail hag hv)
    rw [hs]
    have hfn : fieldNames t.pat = es.map (·.1) := by rw [hnm, hnames]
    have hl : ∀ e ∈ es, lookup e.1 (groupsOf t.pat (textOf es)) = some e.2 := by
      intro e he
      rw [lookup_groupsOf_textOf _ _ _ hfn]
      have hnd' : (es.map (·.1)).Nodup := by rw [← hfn]; exact hnd
      exact Model.lookup_of_mem hnd' he
    -- the codec selection of the parser agrees with the one of the formatter
    have hrt' : RTA t (lookup "Attribute" (groupsOf t.pat (textOf es))) t.fields vals raws es := by
      unfold depsOK at hd
      rw [Bool.or_eq_true] at hd
      rcases hd with hp | hb
      · refine RTA_congr t _ _ _ _ _ _ hrt ?_
        intro f hf
        rw [List.all_eq_true] at hp
        rw [codecFor_plain t _ f (hp f hf), codecFor_plain t _ f (hp f hf)]
      · simp only [Bool.and_eq_true, beq_iff_eq] at hb
        obtain ⟨hpn, hattr⟩ := hb
        obtain rfl : raws = vals := Except.ok.inj ((applyPost_none t raws hpn).symm.trans hpost)
        rw [lookup_groupsOf_textOf _ _ _ hfn, ← attr_agree t _ t.fields raws raws es hrt hattr]
        exact hrt
    have hdec := decodeFields_of_RTA t _ (groupsOf t.pat (textOf es)) t.fields vals raws es hrt' hl
    simp only [hdec, bind, Except.bind]
    exact hpost

theorem noEarly_nil (q : List Seg) (s : List Char) : noEarly q [] s = true := by
  simp [noEarly]

/-- `RTA` as a Bool, to be evaluated on a concrete line (`RTA_of_rtaB`) -/
def rtaB (t : Template) (attr : Option Str) :
    List (String × Enc × Dec) → List Val → List Val → List (String × Str) → Bool
  | [], [], [], [] => true
  | f :: fs, v :: vs, r :: rs, e :: es =>
    e.1 == f.1 &&
      (match codecFor t attr f with
       | some c => encode c.1 v == some e.2 && (match decode c.2 e.2 with | .ok r' => r' == r | .error _ => false)
       | none => false) && rtaB t attr fs vs rs es
  | _, _, _, _ => false

theorem RTA_of_rtaB (t : Template) (a : Option Str) : ∀ (fs : List (String × Enc × Dec)) (vs rs : List Val)
    (es : List (String × Str)), rtaB t a fs vs rs es = true → RTA t a fs vs rs es := by
  intro fs vs rs es h
  fun_induction rtaB t a fs vs rs es with
  | case1 => trivial
  | case3 => cases h
  | case2 f fs v vs r rs e es ih =>
    simp only [Bool.and_eq_true, beq_iff_eq] at h
    obtain ⟨⟨h1, h2⟩, h4⟩ := h
    refine ⟨h1, ?_, ih h4⟩
    split at h2
    · rename_i c hc
      simp only [Bool.and_eq_true, beq_iff_eq] at h2
      refine ⟨c, hc, h2.1, ?_⟩
      have h3 := h2.2
      split at h3
      · rename_i r' hr'
        rw [hr', beq_iff_eq.mp h3]
      · simp at h3
    · simp at h2

/-- a template whose fields are interpreted independently: no Attribute-dependent codec, no pitch
    post-processing (pedal, ptime, stime, section, the 1.0.0 note, the ornament / trill heads) -/
def plain (t : Template) : Bool := t.post == Post.none && t.fields.all plainField

theorem RTA_of_RT (t : Template) (a : Option Str) : ∀ (fs : List (String × Enc × Dec)) (vs : List Val)
    (es : List (String × Str)), fs.all plainField = true → RT fs vs es → RTA t a fs vs vs es := by
  intro fs vs es hp h
  fun_induction RT fs vs es with
  | case1 => trivial
  | case2 f fs v vs e es ih =>
    simp only [List.all_cons, Bool.and_eq_true] at hp
    exact ⟨h.1, ⟨f.2, codecFor_plain t a f hp.1, h.2.1, h.2.2.1⟩, ih hp.2 h.2.2.2⟩
  | case3 => exact h.elim

/-- `RT` as a Bool, to be evaluated on a concrete line (`RT_of_rtB`) -/
def rtB : List (String × Enc × Dec) → List Val → List (String × Str) → Bool
  | [], [], [] => true
  | f :: fs, v :: vs, e :: es =>
    e.1 == f.1 && encode f.2.1 v == some e.2 &&
      (match decode f.2.2 e.2 with | .ok v' => v' == v | .error _ => false) && rtB fs vs es
  | _, _, _ => false

theorem RT_of_rtB : ∀ (fs : List (String × Enc × Dec)) (vs : List Val) (es : List (String × Str)),
    rtB fs vs es = true → RT fs vs es := by
  intro fs vs es h
  fun_induction rtB fs vs es with
  | case1 => trivial
  | case3 => cases h
  | case2 f fs v vs e es ih =>
    simp only [Bool.and_eq_true, beq_iff_eq] at h
    obtain ⟨⟨⟨h1, h2⟩, h3⟩, h4⟩ := h
    refine ⟨h1, h2, ?_, ih h4⟩
    split at h3
    · rename_i v' hv'
      rw [hv', beq_iff_eq.mp h3]
    · simp at h3

end C07Line
