/-
C03 — `remove_voice_polyphony` is stable: the voices it produces are left alone by a second pass (the part of the byte
fixpoint that concerns the voice numbers of a re-exported score).
-/
import PartituraModel.Proofs.C03Voices

namespace C03.Stable
open Model.Xml C03.Sort C03.Voices

theorem movers1_nil (ns : List NoteIn) (h : Monophonic ns) : movers1 ns = [] :=
  List.eq_nil_iff_forall_not_mem.mpr fun n hn => by
    obtain ⟨hn', hg, m, hm, hmg, hmo, hlt⟩ := mem_movers1.mp hn
    have := h.1 m hm n hn' hmg hg hmo
    omega

theorem removeAll_nil (ns : List NoteIn) : removeAll ns [] = ns := by
  unfold removeAll
  simp

theorem movers2_nil (ns : List NoteIn) (h : Monophonic ns) : movers2 ns = [] :=
  List.eq_nil_iff_forall_not_mem.mpr fun n hn => by
    obtain ⟨hn', m, hm, h1, h2⟩ := mem_movers2.mp hn
    have := h.2 n hn' m hm h1
    omega

theorem removeSingle_stable (ns : List NoteIn) (h : Monophonic ns) (spans : List Span) (ex : List (Nat × List NoteIn)) :
    removeSingle ns spans ex = (ns, spans, ex) := by
  unfold removeSingle
  simp only [movers1_nil ns h, removeAll_nil, movers2_nil ns h, assignMovers]

theorem removeLoop_stable (p : List (Nat × List NoteIn)) (h : ∀ vn ∈ p, Monophonic vn.2) (spans : List Span)
    (ex : List (Nat × List NoteIn)) : removeLoop spans ex p = (p, spans, ex) := by
  induction p generalizing spans ex with
  | nil => rfl
  | cons vn rest ih =>
    obtain ⟨v, ns⟩ := vn
    rw [removeLoop_cons, removeSingle_stable ns (h (v, ns) (by simp))]
    simp only [ih (fun vn hvn => h vn (List.mem_cons_of_mem _ hvn))]

/-- only timing and grace-ness matter: notes whose (onset, duration, grace) come from a monophonic voice are monophonic -/
theorem monophonic_of_timing (ms ns : List NoteIn) (h : Monophonic ms)
    (hsub : ∀ n ∈ ns, ∃ m ∈ ms, n.onset = m.onset ∧ n.dur = m.dur ∧ n.grace = m.grace) : Monophonic ns := by
  constructor
  · intro a ha b hb hga hgb hon
    obtain ⟨ma, hma, ha1, ha2, ha3⟩ := hsub a ha
    obtain ⟨mb, hmb, hb1, hb2, hb3⟩ := hsub b hb
    have := h.1 ma hma mb hmb (by rw [← ha3]; exact hga) (by rw [← hb3]; exact hgb) (by omega)
    omega
  · intro a ha b hb hlt
    obtain ⟨ma, hma, ha1, ha2, ha3⟩ := hsub a ha
    obtain ⟨mb, hmb, hb1, hb2, hb3⟩ := hsub b hb
    have := h.2 ma hma mb hmb (by omega)
    omega

theorem nonOverlap_symm {a b : NoteIn} (h : NonOverlap a b) : NonOverlap b a := fun hc => h ⟨hc.2, hc.1⟩

theorem pairwise_all (l : List NoteIn) (hp : l.Pairwise NonOverlap) : ∀ a ∈ l, ∀ b ∈ l, a ≠ b → NonOverlap a b := by
  induction l with
  | nil => intro a ha; cases ha
  | cons x xs ih =>
    obtain ⟨hx, hxs⟩ := List.pairwise_cons.mp hp
    intro a ha b hb hab
    rcases List.mem_cons.mp ha with ha' | ha' <;> rcases List.mem_cons.mp hb with hb' | hb'
    · exact absurd (ha'.trans hb'.symm) hab
    · rw [ha']; exact hx b hb'
    · rw [hb']; exact nonOverlap_symm (hx a ha')
    · exact ih hxs a ha' b hb' hab

theorem monophonic_of_apart (ns : List NoteIn) (hp : ns.Pairwise NonOverlap) (hs : ∀ n ∈ ns, 0 < n.dur) : Monophonic ns := by
  have hall : ∀ a ∈ ns, ∀ b ∈ ns, a ≠ b → NonOverlap a b := pairwise_all ns hp
  constructor
  · intro a ha b hb _ _ hon
    by_cases hab : a = b
    · rw [hab]
    · exact absurd ⟨by have := hs b hb; omega, by have := hs a ha; omega⟩ (hall a ha b hb hab)
  · intro a ha b hb hlt
    have hab : a ≠ b := fun h => by rw [h] at hlt; omega
    have := hall a ha b hb hab
    unfold NonOverlap at this
    have hb0 := hs b hb
    omega

/-- what is moved sounds: members of `extraneous` have a positive duration -/
def Sounding (ex : List (Nat × List NoteIn)) : Prop := ∀ vn ∈ ex, ∀ n ∈ vn.2, 0 < n.dur

theorem sounding_addTo {ex : List (Nat × List NoteIn)} (h : Sounding ex) (v : Nat) (n : NoteIn) (hn : 0 < n.dur) :
    Sounding (addTo ex v n) := by
  intro vn hvn m hm
  rcases mem_addTo hvn with hvn | ⟨_, ⟨ms, hms, e⟩ | e⟩
  · exact h vn hvn m hm
  · rw [e] at hm
    rcases List.mem_append.mp hm with hm | hm
    · exact h _ hms m hm
    · simp at hm; subst hm; exact hn
  · rw [e] at hm; simp at hm; subst hm; exact hn

theorem assignVoices_monophonic (notes : List NoteIn) (hnd : (notes.map (·.idx)).Nodup) :
    ∀ vn ∈ assignVoices notes, Monophonic vn.2 := by
  intro vn hvn
  rw [assignVoices_eq, List.mem_append] at hvn
  rcases hvn with hvn | hvn
  · exact (kept_voices _ _ [] (partition_nodup notes hnd) vn hvn).1
  · have hs : Sounding (removeLoop [Span.all (maxVoice (partitionVoices notes))] [] (partitionVoices notes)).2.2 :=
      removeLoop_keeps (fun _ ex => Sounding ex) (fun _ _ n hn h => sounding_addTo h _ n hn) _ _ _
        (fun vn h => by cases h)
    exact monophonic_of_apart vn.2 (new_voices_fresh notes vn hvn).2 (hs vn hvn)

end C03.Stable
