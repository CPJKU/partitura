/-
The moments of the property and the threshold: what membership in the lists of `soundOffSpec` means (`mem_moments`:
exactly the `Moment`s of Model/Pedal.lean), that every moment lies before the closing sentinel, and how the sounding
end depends on the threshold (`spec_antitone`: the stream has the same times for every threshold, raising it turns
"down" events into "up" events only); parts without controls.
-/
import PartituraModel.Proofs.C14Main

namespace C14P
open Model Model.Pedal

theorem mem_pedalStream (cs : List Control) (thr : Int) (e : Ev) :
    e ∈ pedalStream cs thr ↔ ∃ c, c ∈ cs ∧ c.number = sustainCC ∧ e = (c.time, decide (thr < c.value)) := by
  unfold pedalStream
  rw [(isSort _).mem]
  unfold pedalEvents
  simp only [List.mem_map, List.mem_filter, decide_eq_true_eq]
  constructor
  · rintro ⟨c, ⟨hc, h64⟩, rfl⟩; exact ⟨c, hc, h64, rfl⟩
  · rintro ⟨c, hc, h64, rfl⟩; exact ⟨c, ⟨hc, h64⟩, rfl⟩

theorem mem_moments (ns : List Note) (cs : List Control) (thr : Int) (i : Nat) (n : Note) (t : Rat) :
    t ∈ upTimes n.off (pedalStream cs thr) ++ restrikes ns i n ↔ Moment ns cs thr i n t := by
  rw [List.mem_append, mem_upTimes, mem_restrikes]
  unfold Moment
  constructor
  · rintro (⟨e, he, h1, h2, rfl⟩ | ⟨h1, h2⟩)
    · obtain ⟨c, hc, h64, rfl⟩ := (mem_pedalStream cs thr e).mp he
      refine ⟨h1, Or.inl ⟨c, hc, h64, ?_, rfl⟩⟩
      simp only [decide_eq_false_iff_not] at h2
      omega
    · exact ⟨h1, Or.inr h2⟩
  · rintro ⟨h1, (⟨c, hc, h64, hv, rfl⟩ | h2)⟩
    · left
      refine ⟨(c.time, decide (thr < c.value)), (mem_pedalStream cs thr _).mpr ⟨c, hc, h64, rfl⟩, h1, ?_, rfl⟩
      simp only [decide_eq_false_iff_not]
      omega
    · exact Or.inr ⟨h1, h2⟩

theorem pedalStream_nil_of_no_pedal (cs : List Control) (thr : Int) (h : ∀ c ∈ cs, c.number ≠ sustainCC) :
    pedalStream cs thr = [] := by
  have : pedalEvents cs thr = [] := by
    unfold pedalEvents
    rw [List.filter_eq_nil_iff.mpr (by intro c hc; simpa using h c hc)]
    rfl
  simp [pedalStream, this, sortBy]

theorem downBefore_false_of_all_up (r : Rat) (E : List Ev) (h : ∀ e ∈ E, e.2 = false) : downBefore r E = false := by
  unfold downBefore
  cases hl : (E.filter (fun e => decide (e.1 < r))).getLast? with
  | none => rfl
  | some e => exact h e (List.mem_filter.mp (List.mem_of_getLast? hl)).1

theorem moments_lt_closing (ns : List Note) (cs : List Control) (thr : Int) (i : Nat) (n : Note) (c : Rat)
    (hwf : ∀ m ∈ ns, m.on ≤ m.off) (hc : closing ns (pedalStream cs thr) = some c) :
    ∀ t ∈ upTimes n.off (pedalStream cs thr) ++ restrikes ns i n, t < c := by
  intro t ht
  rcases List.mem_append.mp ht with h | h
  · obtain ⟨e, he, _, _, rfl⟩ := (mem_upTimes _ _ _).mp h
    cases ns with
    | nil => cases hc
    | cons n0 rest =>
      rw [closing_cons] at hc
      obtain ⟨pl, hl, rfl⟩ := Option.map_eq_some_iff.mp hc
      exact lt_of_le_of_lt (Lists.pairwise_getLast? (fun a => le_refl a.1) (sorted_sortBy (fun e : Ev => e.1) _) hl e he)
        (lt_of_lt_of_le (lt_add_one _) (le_max_left _ _))
  · obtain ⟨_, j, m, hm, _, _, rfl⟩ := (mem_restrikes _ _ _ _).mp h
    have hmem : m ∈ ns := List.mem_of_getElem? hm
    exact lt_of_le_of_lt (hwf m hmem) (closing_gt ns _ c hc m hmem)

theorem closing_some_of_down (ns : List Note) (E : List Ev) (n : Note) (hn : n ∈ ns) (r : Rat)
    (hd : downBefore r E = true) : ∃ c, closing ns E = some c := by
  cases ns with
  | nil => cases hn
  | cons n0 rest =>
    rw [closing_cons]
    cases hl : E.getLast? with
    | none =>
      rw [List.getLast?_eq_none_iff.mp hl] at hd
      cases hd
    | some pl => exact ⟨_, rfl⟩

def ped64 (cs : List Control) : List Control := cs.filter (fun c => c.number = sustainCC)

def evOf (thr : Int) (c : Control) : Ev := (c.time, decide (thr < c.value))

theorem pedalStream_eq (cs : List Control) (thr : Int) :
    pedalStream cs thr = (sortBy (fun c : Control => c.time) (ped64 cs)).map (evOf thr) :=
  sortBy_map (fun e : Ev => e.1) (evOf thr) (ped64 cs)

theorem downBefore_map (r : Rat) (L : List Control) (thr : Int) :
    downBefore r (L.map (evOf thr)) =
      match (L.filter (fun c => decide (c.time < r))).getLast? with
      | some c => decide (thr < c.value)
      | none => false := by
  unfold downBefore
  rw [List.filter_map, List.getLast?_map]
  have : ((fun e : Ev => decide (e.1 < r)) ∘ evOf thr) = (fun c : Control => decide (c.time < r)) := rfl
  rw [this]
  cases (L.filter (fun c => decide (c.time < r))).getLast? <;> rfl

theorem down_mono (r : Rat) (L : List Control) (thr thr' : Int) (h : thr ≤ thr')
    (hd : downBefore r (L.map (evOf thr')) = true) : downBefore r (L.map (evOf thr)) = true := by
  rw [downBefore_map] at hd ⊢
  cases hl : (L.filter (fun c => decide (c.time < r))).getLast? with
  | none => simp [hl] at hd
  | some c =>
    simp only [hl, decide_eq_true_eq] at hd ⊢
    omega

theorem upTimes_mono (r : Rat) (L : List Control) (thr thr' : Int) (h : thr ≤ thr') :
    ∀ y ∈ upTimes r (L.map (evOf thr)), y ∈ upTimes r (L.map (evOf thr')) := by
  intro y hy
  obtain ⟨e, he, h1, h2, h3⟩ := (mem_upTimes _ _ _).mp hy
  obtain ⟨c, hc, rfl⟩ := List.mem_map.mp he
  refine (mem_upTimes _ _ _).mpr ⟨evOf thr' c, List.mem_map.mpr ⟨c, hc, rfl⟩, h1, ?_, h3⟩
  simp only [evOf, decide_eq_false_iff_not] at h2 ⊢
  omega

theorem closing_map (ns : List Note) (L : List Control) (thr thr' : Int) :
    closing ns (L.map (evOf thr)) = closing ns (L.map (evOf thr')) := by
  cases ns with
  | nil => rfl
  | cons n0 rest => rw [closing_cons, closing_cons, List.getLast?_map, List.getLast?_map, Option.map_map, Option.map_map]; rfl

theorem spec_antitone (ns : List Note) (cs : List Control) (thr thr' : Int) (h : thr ≤ thr') (i : Nat) (n : Note)
    (hn : n ∈ ns) : soundOffSpec ns cs thr' i n ≤ soundOffSpec ns cs thr i n := by
  by_cases hd' : downBefore n.off (pedalStream cs thr') = true
  · have hd : downBefore n.off (pedalStream cs thr) = true := by
      rw [pedalStream_eq] at hd' ⊢
      exact down_mono _ _ _ _ h hd'
    have hcl : closing ns (pedalStream cs thr') = closing ns (pedalStream cs thr) := by
      rw [pedalStream_eq, pedalStream_eq]; exact closing_map _ _ _ _
    rw [soundOffSpec_down hd, soundOffSpec_down hd', hcl]
    apply Lists.foldl_min_anti
    intro y hy
    refine ⟨y, ?_, le_refl _⟩
    rcases List.mem_append.mp hy with hu | hr
    · apply List.mem_append_left
      rw [pedalStream_eq] at hu ⊢
      exact upTimes_mono _ _ _ _ h y hu
    · exact List.mem_append_right _ hr
  · rw [soundOffSpec_up (Bool.not_eq_true _ ▸ hd')]
    exact spec_ge_off ns cs thr i n hn

theorem soundOffs_no_controls (ns : List Note) (thr : Int) : soundOffs ns [] thr = some (ns.map (·.off)) :=
  soundOffs_of_no_pedal ns [] thr rfl

end C14P
