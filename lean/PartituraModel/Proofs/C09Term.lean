/-
C09: termination of the path enumeration.  The class: segment tables in which every
segment offers its successor, preceded by at most one backward destination (what `add_segments` builds from
any set of repeats); the measure: the backward jumps not yet consumed, weighted by 2^position.
A table on which the enumeration does not terminate (da capo in the middle of a part).
-/
import PartituraModel.Proofs.C09LayoutChain
import PartituraModel.Proofs.C09Walk

namespace C09
open Model.Unfold

/-- every segment offers the next one (END for the last), possibly after ONE destination that is not ahead;
no awaiting destinations, no segment that starts a leap -/
def RepForm (g : List Seg) : Prop :=
  ∀ i s, g[i]? = some s → s.await = [] ∧ s.ty ≠ .leapStart ∧
    (s.to = [nextDest g.length i] ∨ ∃ j, j ≤ i ∧ s.to = [.seg j, nextDest g.length i])

/-- S i = Σ_{i' < i} (W i' + 1) with W i = S i + 1, i.e. S i = 2^(i+1) - 2 -/
def tS : Nat → Nat
  | 0 => 0
  | i + 1 => 2 * tS i + 2

def tW (i : Nat) : Nat := tS i + 1

theorem tS_pow (i : Nat) : tS i + 2 = 2 ^ (i + 1) := by
  induction i with
  | zero => rfl
  | succ i ih => simp only [tS]; rw [Nat.pow_succ]; omega

/-- Σ_{i = lo}^{lo+k-1} (rem i * W i + 1) -/
def phiFrom (rem : Nat → Nat) : Nat → Nat → Nat
  | _, 0 => 0
  | lo, k + 1 => rem lo * tW lo + 1 + phiFrom rem (lo + 1) k

theorem phiFrom_congr (r1 r2 : Nat → Nat) : ∀ (k lo : Nat), (∀ i, lo ≤ i → r1 i = r2 i) →
    phiFrom r1 lo k = phiFrom r2 lo k := by
  intro k
  induction k with
  | zero => intro lo _; rfl
  | succ k ih =>
    intro lo h
    simp only [phiFrom]
    rw [h lo (Nat.le_refl _), ih (lo + 1) (fun i hi => h i (by omega))]

theorem phiFrom_le (rem : Nat → Nat) (hrem : ∀ i, rem i ≤ 1) : ∀ (k lo : Nat),
    phiFrom rem lo k + tS lo ≤ tS (lo + k) := by
  intro k
  induction k with
  | zero => intro lo; simp [phiFrom]
  | succ k ih =>
    intro lo
    simp only [phiFrom]
    have h1 := ih (lo + 1)
    have h2 := hrem lo
    have e : lo + 1 + k = lo + (k + 1) := by omega
    rw [e] at h1
    simp only [tS, tW] at h1 ⊢
    have : rem lo * (tS lo + 1) ≤ tS lo + 1 := by
      have := Nat.mul_le_mul_right (tS lo + 1) h2
      simpa using this
    omega

theorem phiFrom_split (rem : Nat → Nat) : ∀ (a lo b : Nat),
    phiFrom rem lo (a + b) = phiFrom rem lo a + phiFrom rem (lo + a) b := by
  intro a
  induction a with
  | zero => intro lo b; simp [phiFrom]
  | succ a ih =>
    intro lo b
    have e : a + 1 + b = (a + b) + 1 := by omega
    rw [e]
    simp only [phiFrom]
    rw [ih (lo + 1) b]
    have e2 : lo + 1 + a = lo + (a + 1) := by omega
    rw [e2]
    omega

/-- the backward jump of segment `i` is still to be taken in the current round -/
def remAt (g : List Seg) (used : Nat → List Dest) (i : Nat) : Nat :=
  match g[i]? with
  | some s => (match s.to with
    | [Dest.seg j, _] => if (used i).getLast? = some (.seg j) then 0 else 1
    | _ => 0)
  | none => 0

theorem remAt_le (g : List Seg) (used : Nat → List Dest) (i : Nat) : remAt g used i ≤ 1 := by
  unfold remAt
  split
  · split
    · split <;> omega
    · omega
  · omega

theorem remAt_unf (g : List Seg) (used : Nat → List Dest) (i : Nat) (s : Seg) (hs : g[i]? = some s) :
    remAt g used i = (match s.to with
      | [Dest.seg j, _] => if (used i).getLast? = some (.seg j) then 0 else 1
      | _ => 0) := by
  unfold remAt; rw [hs]

theorem remAt_afterJump_ne (g : List Seg) (st : PState) (j i : Nat) (h : i ≠ st.cur) :
    remAt g (afterJump st j).used i = remAt g st.used i := by
  unfold remAt
  simp only [afterJump, h, if_false]

/-- the measure: what is still due from the current segment on; the segments behind it are reached again only by a backward
jump, and that is counted where it starts -/
def phi (g : List Seg) (st : PState) : Nat := phiFrom (remAt g st.used) st.cur (g.length - st.cur)

/-- the state invariant: the table is `g`, the current segment exists, every used destination was offered -/
def TInv (g : List Seg) (st : PState) : Prop :=
  st.segs = g ∧ st.cur < g.length ∧ ∀ i d, d ∈ st.used i → ∃ s, g[i]? = some s ∧ d ∈ s.to

theorem phi_forward (g : List Seg) (st : PState) (hlt : st.cur + 1 < g.length) :
    phi g (afterJump st (st.cur + 1)) < phi g st := by
  unfold phi
  have e : g.length - st.cur = (g.length - (st.cur + 1)) + 1 := by omega
  have ec : (afterJump st (st.cur + 1)).cur = st.cur + 1 := rfl
  rw [ec, e]
  simp only [phiFrom]
  rw [phiFrom_congr _ (remAt g st.used) _ (st.cur + 1) fun i hi => remAt_afterJump_ne g st _ i (by omega)]
  omega

/-- the backward jump of the current segment, not yet taken in this round, decreases the measure: its weight outweighs
everything that becomes due again between the target and the current segment -/
theorem phi_back (g : List Seg) (st : PState) (s : Seg) (hs : g[st.cur]? = some s) (hcur : st.cur < g.length)
    (j : Nat) (hj : j ≤ st.cur) (hto : s.to = [.seg j, nextDest g.length st.cur])
    (hrem : remAt g st.used st.cur = 1) : phi g (afterJump st j) < phi g st := by
  unfold phi
  have ec : (afterJump st j).cur = j := rfl
  rw [ec]
  have e1 : g.length - j = (st.cur - j) + ((g.length - (st.cur + 1)) + 1) := by omega
  have e2 : g.length - st.cur = (g.length - (st.cur + 1)) + 1 := by omega
  rw [e1, e2, phiFrom_split]
  have ej : j + (st.cur - j) = st.cur := by omega
  rw [ej]
  simp only [phiFrom]
  have hrem' : remAt g (afterJump st j).used st.cur = 0 := by
    rw [remAt_unf g _ _ s hs, hto]
    simp [afterJump]
  rw [hrem', hrem]
  rw [phiFrom_congr _ (remAt g st.used) _ (st.cur + 1) fun i hi => remAt_afterJump_ne g st j i (by omega)]
  have hle := phiFrom_le (remAt g (afterJump st j).used) (remAt_le g _) (st.cur - j) j
  rw [ej] at hle
  simp only [tW]
  omega

section term
variable (g : List Seg) (hg : RepForm g) (il : Bool)

include hg in
theorem rep_dests (st : PState) (hinv : TInv g st) :
    ∃ ds, st.dests = some ds ∧ ∀ d ∈ ds, d = .fin ∨
      ∃ j, d = .seg j ∧ st.jump il j = some (afterJump st j) ∧ TInv g (afterJump st j) ∧
        phi g (afterJump st j) < phi g st := by
  obtain ⟨hsegs, hcur, hused⟩ := hinv
  obtain ⟨s, hs⟩ : ∃ s, g[st.cur]? = some s := ⟨g[st.cur], List.getElem?_eq_getElem hcur⟩
  obtain ⟨haw, hty, hto⟩ := hg st.cur s hs
  have hs' : st.segs[st.cur]? = some s := by rw [hsegs]; exact hs
  have hstep : ∀ j, j < g.length → Dest.seg j ∈ s.to →
      st.jump il j = some (afterJump st j) ∧ TInv g (afterJump st j) := by
    intro j hj hmem
    obtain ⟨sj, hsj⟩ : ∃ sj, g[j]? = some sj := ⟨g[j], List.getElem?_eq_getElem hj⟩
    refine ⟨jump_plain il st j sj s (by rw [hsegs]; exact hsj) hs' hty, hsegs, hj, ?_⟩
    intro i d hd
    simp only [afterJump] at hd
    by_cases hi : i = st.cur
    · simp only [hi, if_true, List.mem_append, List.mem_singleton] at hd
      rcases hd with hd | hd
      · exact hused _ d (by rw [hi]; exact hd)
      · subst hd; rw [hi]; exact ⟨s, hs, hmem⟩
    · simp only [hi, if_false] at hd
      exact hused i d hd
  have hnd : ∀ d ∈ [nextDest g.length st.cur], d = .fin ∨
      ∃ j, d = .seg j ∧ st.jump il j = some (afterJump st j) ∧ TInv g (afterJump st j) ∧
        phi g (afterJump st j) < phi g st := by
    intro d hd
    rw [List.mem_singleton] at hd
    unfold nextDest at hd
    by_cases hl : st.cur + 1 = g.length
    · left; rw [hd, if_pos hl]
    · right
      rw [if_neg hl] at hd
      have hlt : st.cur + 1 < g.length := by omega
      have hm : Dest.seg (st.cur + 1) ∈ s.to := by
        rcases hto with h | ⟨j, _, h⟩
        · rw [h]; simp [nextDest, hl]
        · rw [h]; simp [nextDest, hl]
      obtain ⟨h1, h2⟩ := hstep (st.cur + 1) hlt hm
      exact ⟨st.cur + 1, hd, h1, h2, phi_forward g st hlt⟩
  have hlast : ∀ x, (st.used st.cur).getLast? = some x → x ∈ s.to := by
    intro x hx
    obtain ⟨s', hs'', hm⟩ := hused st.cur x (List.mem_of_getLast? hx)
    rw [hs] at hs''
    simp only [Option.some.injEq] at hs''
    subst hs''
    exact hm
  rcases hto with h1 | ⟨j, hj, h2⟩
  · exact ⟨_, dests_one st s _ hs' h1 (fun x hx => by have := hlast x hx; rw [h1] at this; simpa using this), hnd⟩
  · have hne := nextDest_ne_seg g.length st.cur j hj
    refine ⟨_, dests_two st s _ _ hs' h2 hne
      (fun x hx => by have := hlast x hx; rw [h2] at this; simpa using this), ?_⟩
    by_cases hl : (st.used st.cur).getLast? = some (.seg j)
    · -- the backward jump was the last one used: only the successor is left
      rw [if_pos hl]; exact hnd
    · -- a new round: the backward jump is to be taken, and taking it decreases the measure
      rw [if_neg hl]
      have hrem : remAt g st.used st.cur = 1 := by rw [remAt_unf g _ _ s hs, h2]; simp [hl]
      obtain ⟨k1, k2⟩ := hstep j (by omega) (by rw [h2]; simp)
      have hb := phi_back g st s hs hcur j hj h2 hrem
      intro d hd
      split at hd
      · exact hnd d hd
      · split at hd
        · exact Or.inr ⟨j, List.mem_singleton.mp hd, k1, k2, hb⟩
        · rcases List.mem_cons.mp hd with hd | hd
          · exact Or.inr ⟨j, hd, k1, k2, hb⟩
          · exact hnd d hd

theorem stepList_some (rec : PState → Option (List (List Nat))) (st : PState) :
    ∀ (ds : List Dest), (∀ d ∈ ds, d = .fin ∨ ∃ j st', d = .seg j ∧ st.jump il j = some st' ∧ ∃ ps, rec st' = some ps) →
      ∃ ps, stepList rec il st ds = some ps := by
  intro ds
  induction ds with
  | nil => intro _; exact ⟨[], rfl⟩
  | cons d ds ih =>
    intro h
    obtain ⟨ps', hps'⟩ := ih (fun d' hd' => h d' (List.mem_cons_of_mem _ hd'))
    rcases h d List.mem_cons_self with rfl | ⟨j, st', rfl, hj, ps, hps⟩
    · exact ⟨st.path :: ps', by simp [stepList, hps']⟩
    · exact ⟨ps ++ ps', by simp [stepList, hj, hps, hps']⟩

include hg in
theorem rep_terminates : ∀ (m : Nat) (st : PState), TInv g st → phi g st ≤ m →
    ∃ ps, unfoldFrom il (m + 1) st = some ps := by
  intro m
  induction m with
  | zero =>
    intro st hinv hm
    obtain ⟨ds, hd, hall⟩ := rep_dests g hg il st hinv
    rw [unfoldFrom, hd]
    apply stepList_some
    intro d hdm
    rcases hall d hdm with h | ⟨j, _, _, _, hlt⟩
    · exact Or.inl h
    · omega
  | succ m ih =>
    intro st hinv hm
    obtain ⟨ds, hd, hall⟩ := rep_dests g hg il st hinv
    rw [unfoldFrom, hd]
    apply stepList_some
    intro d hdm
    rcases hall d hdm with h | ⟨j, hdj, hj, hinv', hlt⟩
    · exact Or.inl h
    · exact Or.inr ⟨j, _, hdj, hj, ih _ hinv' (by omega)⟩

end term

theorem repForm_terminates (g : List Seg) (hg : RepForm g) (hne : g ≠ []) (nr ar il : Bool) :
    ∃ ps, getPaths g nr ar il (2 ^ (g.length + 1)) = some ps := by
  have hlen : 0 < g.length := List.length_pos_iff.mpr hne
  have hinv : TInv g (initState g nr ar) := ⟨rfl, hlen, by intro i d hd; simp [initState] at hd⟩
  have hphi : phi g (initState g nr ar) ≤ tS g.length := by
    unfold phi
    have := phiFrom_le (remAt g (initState g nr ar).used) (remAt_le g _) (g.length - (initState g nr ar).cur)
      (initState g nr ar).cur
    have e : (initState g nr ar).cur = 0 := rfl
    rw [e] at this ⊢
    simp only [Nat.sub_zero, Nat.zero_add, tS, Nat.add_zero] at this
    exact this
  obtain ⟨ps, hps⟩ := rep_terminates g hg il (tS g.length) (initState g nr ar) hinv hphi
  refine ⟨ps, ?_⟩
  have hp := tS_pow g.length
  have e : 2 ^ (g.length + 1) = (tS g.length + 1) + 1 := by omega
  unfold getPaths
  rw [e]
  exact unfoldFrom_mono_add il _ 1 _ ps hps

theorem repeats_repForm (L : Layout) (hL : RepeatsOnly L) :
    ∃ g, mkSegments L = some g ∧ g ≠ [] ∧ RepForm g := by
  obtain ⟨n, hn, hn1, hseg, hback⟩ := repeatsOnly_mkSegments L hL
  refine ⟨_, hseg, ?_, ?_⟩
  · intro h
    have := congrArg List.length h
    simp [repTable] at this
    omega
  · intro i s hs'
    obtain ⟨hi, rfl⟩ := range_map_get n _ i s hs'
    refine ⟨rfl, tyAt_ne _ i, ?_⟩
    simp only [repTable, List.length_map, List.length_range]
    cases hb : repBack L ((mkTable L).map (·.1)) i with
    | none => left; rfl
    | some d =>
      right
      obtain ⟨j, rfl, hji⟩ := hback i hi d hb
      exact ⟨j, hji, rfl⟩

/-- da capo (or dal segno to a segno at the start) in the MIDDLE of a part, the first segment starting at
time 0: `A.to = [B, A]` (the jump back comes last), `A` is a leap destination, not a leap start -/
def dcMidGraph : List Seg :=
  [{ start := 0, stp := 4, to := [.seg 1, .seg 0], await := [.seg 1], ty := .leapEnd },
   { start := 4, stp := 12, to := [.fin], await := [], ty := .dflt }]

theorem dcMid_loops (il : Bool) : ∀ (fuel : Nat) (st : PState), st.segs = dcMidGraph → st.cur = 0 →
    st.noRepeats = true → (∃ m, st.used 0 = List.replicate m (.seg 0)) → unfoldFrom il fuel st = none := by
  intro fuel
  induction fuel with
  | zero => intro st _ _ _ _; rfl
  | succ f ih =>
    intro st hsegs hcur hnr ⟨m, hm⟩
    have hs0 : st.segs[st.cur]? = some dcMidGraph[0] := by rw [hsegs, hcur]; rfl
    have hd : st.dests = some [.seg 0] := by
      rw [dests_two st _ (.seg 1) (.seg 0) hs0 rfl (by simp) (fun x hx => by
        rw [hcur, hm] at hx
        exact Or.inr (List.eq_of_mem_replicate (List.mem_of_getLast? hx))), hnr]
      split <;> rfl
    have hj : st.jump il 0 = some (afterJump st 0) :=
      jump_plain il st 0 dcMidGraph[0] dcMidGraph[0] (by rw [hsegs]; rfl) hs0 (by simp [dcMidGraph])
    rw [unfold_step_seg il f st _ _ hd hj, ih (afterJump st 0) hsegs rfl hnr ⟨m + 1, by
      rw [← hcur, afterJump_used_cur, hcur, hm, List.replicate_succ']⟩]

theorem dcMid_no_minimal (il : Bool) (fuel : Nat) : getPaths dcMidGraph true false il fuel = none :=
  dcMid_loops il fuel (initState dcMidGraph true false) rfl rfl rfl ⟨0, rfl⟩

end C09
