/-
C20 — `slice_notearray_by_time` over a heap of buffers (Model/ArrayView.lean) is
characterised completely — the heap grows by ONE buffer holding the specified rows, nothing else changes.
-/
import PartituraModel.Model.ArrayView
import PartituraModel.Proofs.C20Store

namespace C20Arr
open Model.ArrayView C20Store

/-- the rows the slice holds (specification): the active rows in their order; when clipping, rows that start before
    the window are overwritten by the scalar and then every duration is adjusted -/
def sliceSpec {α : Type} (act early : α → Bool) (setAll clipDur : α → α) (clip : Bool) (rows : List α) : List α :=
  if clip then ((rows.filter act).map (fun x => if early x then setAll x else x)).map clipDur else rows.filter act

theorem takeRows_activeFrom {α : Type} (act : α → Bool) (rs : List α) :
    ∀ pre : List α, takeRows (pre ++ rs) (activeFrom act pre.length rs) = rs.filter act := by
  induction rs with
  | nil => intro pre; rfl
  | cons r rs ih =>
    intro pre
    have h := ih (pre ++ [r])
    rw [List.append_assoc, List.singleton_append, List.length_append, List.length_singleton] at h
    have hget : (pre ++ r :: rs)[pre.length]? = some r :=
      (List.getElem?_append_right (Nat.le_refl _)).trans (by rw [Nat.sub_self]; rfl)
    cases hr : act r with
    | true => simp only [activeFrom, hr, if_true, takeRows, List.filterMap_cons, hget, List.filter_cons]; exact congrArg _ h
    | false => simp only [activeFrom, hr, Bool.false_eq_true, if_false, List.filter_cons]; exact h

theorem takeRows_active {α : Type} (act : α → Bool) (rows : List α) :
    takeRows rows (activeIdx act rows) = rows.filter act := by
  have h := takeRows_activeFrom act rows []
  simpa [activeIdx] using h

theorem activeIdx_isEmpty {α : Type} (act : α → Bool) (rows : List α) :
    (activeIdx act rows).isEmpty = (rows.filter act).isEmpty := by
  unfold activeIdx
  generalize 0 = i
  induction rows generalizing i with
  | nil => rfl
  | cons r rs ih =>
    cases hr : act r with
    | true => simp only [activeFrom, hr, if_true, List.filter_cons, List.isEmpty_cons]
    | false => simp only [activeFrom, hr, Bool.false_eq_true, if_false, List.filter_cons, ih]

theorem writeAll_eq {α : Type} (g : α → α) (b : Bufs α) (r : Nat) : writeAll g b r = upd (List.map g) b r := by
  unfold writeAll upd; cases b[r]? <;> rfl

theorem writeWhere_eq {α : Type} (sel : α → Bool) (g : α → α) (b : Bufs α) (r : Nat) :
    writeWhere sel g b r = upd (List.map fun x => if sel x then g x else x) b r := by
  unfold writeWhere upd; cases b[r]? <;> rfl

theorem writeWhere_last {α : Type} (sel : α → Bool) (g : α → α) (bufs : Bufs α) (x : List α) :
    writeWhere sel g (bufs ++ [x]) bufs.length = bufs ++ [x.map (fun r => if sel r then g r else r)] := by
  rw [writeWhere_eq, upd_last]

theorem writeAll_last {α : Type} (g : α → α) (bufs : Bufs α) (x : List α) :
    writeAll g (bufs ++ [x]) bufs.length = bufs ++ [x.map g] := by
  rw [writeAll_eq, upd_last]

theorem sliceByTime_eq {α : Type} (act early : α → Bool) (setAll clipDur : α → α) (clip : Bool)
    (bufs : Bufs α) (a : Nat) (rows : List α) (h : bufs[a]? = some rows) :
    sliceByTime act early setAll clipDur clip bufs a
      = some (bufs ++ [sliceSpec act early setAll clipDur clip rows], bufs.length) := by
  simp only [sliceByTime, sliceGen, h]
  rw [activeIdx_isEmpty]
  cases hE : (rows.filter act).isEmpty with
  | true =>
    have hnil : rows.filter act = [] := by simpa using hE
    simp only [if_true, Bool.not_true, Bool.and_false, Bool.false_eq_true, if_false, bindSel, alloc]
    cases clip <;> simp [sliceSpec, hnil]
  | false =>
    simp only [Bool.false_eq_true, if_false, bindSel, alloc, takeRows_active, Bool.not_false, Bool.and_true]
    cases clip with
    | false => simp [sliceSpec]
    | true =>
      simp only [if_true, writeWhere_last, writeAll_last, sliceSpec]

theorem sliceByTime_char {α : Type} (act early : α → Bool) (setAll clipDur : α → α) (clip : Bool)
    (bufs : Bufs α) (a : Nat) :
    sliceByTime act early setAll clipDur clip bufs a
      = (bufs[a]?).map fun rows => (bufs ++ [sliceSpec act early setAll clipDur clip rows], bufs.length) := by
  cases h : bufs[a]? with
  | none => simp [sliceByTime, sliceGen, h]
  | some rows => exact sliceByTime_eq act early setAll clipDur clip bufs a rows h

theorem sliceByTime_some {α : Type} {act early : α → Bool} {setAll clipDur : α → α} {clip : Bool}
    {bufs : Bufs α} {a : Nat} {res : Bufs α × Nat} (h : sliceByTime act early setAll clipDur clip bufs a = some res) :
    ∃ rows, bufs[a]? = some rows ∧ res = (bufs ++ [sliceSpec act early setAll clipDur clip rows], bufs.length) := by
  rw [sliceByTime_char] at h
  cases hr : bufs[a]? with
  | none => rw [hr] at h; cases h
  | some rows => rw [hr] at h; exact ⟨rows, rfl, (Option.some.inj h).symm⟩

end C20Arr
