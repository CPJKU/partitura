/-
C17: the stages of the modelled contig-mapping search before the crystallisation loop never answer `none` (the
code does not raise inside `VoSA`) on a non-empty array: grace-note links, the contig lists of `make_contigs`, `Contig`.
-/
import PartituraModel.Model.Vosa
import PartituraModel.Proofs.C17Vosa
import PartituraModel.Proofs.Orders
import Mathlib.Data.List.Basic
import Mathlib.Data.List.Perm.Subperm
import Mathlib.Tactic.Linarith

namespace C17VosaContigs
open Model Model.Vosa

theorem minRat_mem (l : List Rat) (m : Rat) (h : minRat l = some m) : m ∈ l := by
  cases l with
  | nil => cases h
  | cons x xs => cases h; exact Lists.foldl_pick_mem (fun y m : Rat => y < m) xs x

theorem maxRat_mem (l : List Rat) (m : Rat) (h : maxRat l = some m) : m ∈ l := by
  cases l with
  | nil => cases h
  | cons x xs => cases h; exact Lists.foldl_pick_mem (fun y m : Rat => m < y) xs x

theorem maxRat_isSome (l : List Rat) (h : l ≠ []) : (maxRat l).isSome := by
  cases l with
  | nil => exact absurd rfl h
  | cons x xs => simp [maxRat]

theorem closestPitch_isSome (p : Int) (l : List N) (h : l ≠ []) : (closestPitch p l).isSome := by
  cases l with
  | nil => exact absurd rfl h
  | cons x xs => simp [closestPitch]

theorem mainOf_isSome (nongrace : List N) (g : N) (hne : nongrace ≠ []) : (mainOf nongrace g).isSome := by
  simp only [mainOf]
  have key : ∀ m : Rat, m ∈ nongrace.map (fun n => n.on) →
      (closestPitch g.p (nongrace.filter fun n => decide (n.on = m))).isSome := by
    intro m hm
    apply closestPitch_isSome
    obtain ⟨n, hn, rfl⟩ := List.mem_map.mp hm
    intro e
    have : n ∈ nongrace.filter fun n' => decide (n'.on = n.on) := by simp [hn]
    rw [e] at this
    exact absurd this (by simp)
  cases hmin : minRat ((nongrace.filter fun n => decide (g.on ≤ n.on)).map fun n => n.on) with
  | some m =>
    simp only [Option.bind_some]
    apply key
    have := minRat_mem _ _ hmin
    obtain ⟨n, hn, rfl⟩ := List.mem_map.mp this
    exact List.mem_map.mpr ⟨n, (List.mem_filter.mp hn).1, rfl⟩
  | none =>
    have hs := maxRat_isSome (nongrace.map fun n => n.on) (by simpa using hne)
    obtain ⟨m, hm⟩ := Option.isSome_iff_exists.mp hs
    simp only [hm, Option.bind_some]
    exact key m (maxRat_mem _ _ hm)

theorem graceLinks_isSome (notes : List N) : (graceLinks notes).isSome := by
  simp only [graceLinks]
  split
  · rfl
  · rename_i hne
    obtain ⟨r, hr⟩ := Lists.mapM_total
      (fun g => (mainOf (notes.filter fun n => decide (n.du ≠ 0)) g).map fun m => (g.ix, m.ix))
      (notes.filter fun n => decide (n.du = 0)) (fun g _ => by
        rw [Option.isSome_map]
        exact mainOf_isSome _ g (by intro e; rw [e] at hne; simp at hne))
    rw [hr]; rfl

theorem dedupAdj_ne_nil : ∀ l : List Rat, l ≠ [] → dedupAdj l ≠ [] := by
  intro l
  induction l with
  | nil => intro h; exact absurd rfl h
  | cons x xs ih =>
    intro _
    cases xs with
    | nil => simp [dedupAdj]
    | cons y r =>
      simp only [dedupAdj]
      split
      · exact ih (by simp)
      · simp

theorem isort_length {α : Type} (le : α → α → Bool) (l : List α) : (isort le l).length = l.length :=
  ((C17S.isSort le).perm l).length_eq

theorem timepoints_ne_nil (notes : List N) (h : notes ≠ []) : timepoints notes ≠ [] := by
  unfold timepoints
  apply dedupAdj_ne_nil
  intro e
  have := congrArg List.length e
  simp only [sortRat, isort_length, List.length_append, List.length_map, List.length_nil] at this
  have : notes.length = 0 := by omega
  exact h (List.eq_nil_of_length_eq_zero this)

/-- a timepoint list where every change of the number of sounding notes is flagged as a boundary -/
def okB : Nat → List (List N × Bool) → Prop
  | _, [] => True
  | prevLen, (sn, sb) :: rest => (sn.length ≠ prevLen → sb = true) ∧ okB sn.length rest

/-- the contig loop of `make_contigs` does not raise (`last_tp` is bound whenever it is read); and what holds of every
    new contig (`hnew`) and survives the extension of a contig by the notes of a timepoint (`hext`) holds of every contig
    it produces, `S` being what is known of the sounding notes of every timepoint -/
theorem contigLists_spec (P : List N × Nat → Prop) (S : List N → Prop)
    (hnew : ∀ sn, S sn → sn ≠ [] → P (sn, sn.length))
    (hext : ∀ cur nv sn, P (cur, nv) → S sn → P (appendNew cur sn, nv)) :
    ∀ (L : List (List N × Bool)) (prevLen : Nat) (acc : List (List N × Nat)),
      okB prevLen L → (acc = [] → prevLen = 0) → (∀ e ∈ L, S e.1) → (∀ c ∈ acc, P c) →
      ∃ cl, contigLists L acc = some cl ∧ ∀ c ∈ cl, P c := by
  intro L
  induction L with
  | nil =>
    intro _ acc _ _ _ hacc
    exact ⟨acc.reverse, rfl, fun c hc => hacc c (List.mem_reverse.mp hc)⟩
  | cons x rest ih =>
    intro prevLen acc hok hacc0 hL hacc
    obtain ⟨sn, sb⟩ := x
    obtain ⟨h1, h2⟩ := hok
    have hsn : S sn := hL (sn, sb) List.mem_cons_self
    have hrest : ∀ e ∈ rest, S e.1 := fun e he => hL e (List.mem_cons_of_mem _ he)
    simp only [contigLists]
    by_cases hc : (sb && !sn.isEmpty) = true
    · rw [if_pos hc]
      have hne : sn ≠ [] := by intro e; subst e; simp at hc
      refine ih sn.length _ h2 (by simp) hrest ?_
      intro c hcm
      rcases List.mem_cons.mp hcm with rfl | hcm
      · exact hnew sn hsn hne
      · exact hacc c hcm
    · rw [if_neg hc]
      cases acc with
      | nil =>
        have hp := hacc0 rfl
        by_cases hs : sn.isEmpty = true
        · simp only [hs, if_true]
          exact ih sn.length [] h2 (fun _ => by simpa [List.isEmpty_iff] using hs) hrest (by simp)
        · exfalso
          apply hc
          have hl : sn.length ≠ prevLen := by
            rw [hp]; intro e; apply hs; simpa [List.isEmpty_iff] using List.eq_nil_of_length_eq_zero e
          simp [h1 hl, hs]
      | cons c more =>
        obtain ⟨cur, nv⟩ := c
        refine ih sn.length _ h2 (by simp) hrest ?_
        intro c hcm
        rcases List.mem_cons.mp hcm with rfl | hcm
        · exact hext cur nv sn (hacc _ List.mem_cons_self) hsn
        · exact hacc c (List.mem_cons_of_mem _ hcm)

/-- the boundary flags `contigNoteLists` computes (`h` = the sounding notes of a timepoint, `g` = the extra marks): a change
    of the count makes the difference non-zero -/
theorem okB_build (h : Rat → List N) (g : Rat → Bool) : ∀ (utp : List Rat) (prev : Nat),
    okB prev ((utp.map h).zip ((utp.zip (diffs (prev : Int) ((utp.map h).map fun s => (s.length : Int)))).map
      fun (x : Rat × Int) => decide (x.2 ≠ 0) || g x.1)) := by
  intro utp
  induction utp with
  | nil => intro prev; simp [okB]
  | cons t ts ih =>
    intro prev
    simp only [List.map_cons, diffs, List.zip_cons_cons, okB]
    refine ⟨?_, ih (h t).length⟩
    intro hne
    have : ((h t).length : Int) - (prev : Int) ≠ 0 := by omega
    simp [this]

theorem mem_isort {α : Type} (le : α → α → Bool) (y : α) (l : List α) : y ∈ isort le l ↔ y ∈ l :=
  ((C17S.isSort le).perm l).mem_iff

theorem sortRat_sorted (l : List Rat) : (sortRat l).Pairwise (· ≤ ·) :=
  (C17S.isSort fun a b : Rat => decide (a ≤ b)).pairwise_key (key := id) l

theorem isDedupAdj : Lists.IsDedupAdj dedupAdj := ⟨rfl, fun _ => rfl, fun _ _ _ => rfl⟩

theorem mem_dedupAdj (x : Rat) (l : List Rat) : x ∈ dedupAdj l ↔ x ∈ l := isDedupAdj.mem

theorem dedupAdj_strict (l : List Rat) (h : l.Pairwise (· ≤ ·)) : (dedupAdj l).Pairwise (· < ·) :=
  isDedupAdj.strict lt_of_le_of_ne lt_of_lt_of_le h

theorem timepoints_strict (notes : List N) : (timepoints notes).Pairwise (· < ·) :=
  dedupAdj_strict _ (sortRat_sorted _)

theorem mem_timepoints (notes : List N) (t : Rat) :
    t ∈ timepoints notes ↔ (∃ n ∈ notes, n.on = t) ∨ (∃ n ∈ notes, n.off = t) := by
  simp only [timepoints, mem_dedupAdj, sortRat, mem_isort, List.mem_append, List.mem_map]

theorem mem_uniqueOnsets (notes : List N) (t : Rat) : t ∈ uniqueOnsets notes ↔ ∃ n ∈ notes, n.on = t := by
  simp only [uniqueOnsets, mem_dedupAdj, sortRat, mem_isort, List.mem_map]

/-- the number of notes sounding at `tp` -/
def cnt (notes : List N) (tp : Rat) : Nat :=
  (notes.filter fun n => decide (n.on ≤ tp) && decide (tp < n.off)).length

theorem sounding_length (notes : List N) (tp : Rat) : (sounding notes tp).length = cnt notes tp := by
  simp only [sounding, byPitch, isort_length, cnt]

theorem maxRat_ge (l : List Rat) (m : Rat) (h : maxRat l = some m) : ∀ x ∈ l, x ≤ m := by
  cases l with
  | nil => cases h
  | cons a r =>
    cases h
    exact Lists.foldl_pick_best (fun y m : Rat => m < y) (fun m x => x ≤ m) le_refl (fun _ _ _ h1 h2 => le_trans h2 h1)
      (fun _ _ => le_of_lt) (fun _ _ => not_lt.mp) r a

theorem find?_zip_map {α β : Type} (f : α → β) (p : β → Bool) : ∀ l : List α,
    (l.zip (l.map f)).find? (fun x => p x.2) = (l.find? fun t => p (f t)).map fun t => (t, f t) := by
  intro l
  induction l with
  | nil => rfl
  | cons a r ih =>
    simp only [List.map_cons, List.zip_cons_cons, List.find?_cons]
    cases p (f a) with
    | true => rfl
    | false => exact ih

/-- the maximal number of simultaneously sounding notes -/
def maxCnt (notes : List N) : Nat := ((timepoints notes).map (cnt notes)).foldl max 0

theorem cnt_le_max (notes : List N) (t : Rat) (ht : t ∈ timepoints notes) : cnt notes t ≤ maxCnt notes :=
  (C17V.foldl_max_spec _ 0).2 _ (List.mem_cons_of_mem _ (List.mem_map.mpr ⟨t, ht, rfl⟩))

/-- `make_contigs` up to the note lists does not raise on a non-empty score, and its number of voices is the maximal
    number of simultaneously sounding notes; `P` and `S` as in `contigLists_spec` -/
theorem contigNoteLists_spec (P : List N × Nat → Prop) (S : List N → Prop)
    (hnew : ∀ sn, S sn → sn ≠ [] → P (sn, sn.length))
    (hext : ∀ cur nv sn, P (cur, nv) → S sn → P (appendNew cur sn, nv))
    (notes : List N) (hne : notes ≠ []) (hS : ∀ tp, S (sounding notes tp)) :
    ∃ cl, contigNoteLists notes = some (cl, (timepoints notes).length, maxCnt notes) ∧ ∀ c ∈ cl, P c := by
  simp only [contigNoteLists]
  have hu := timepoints_ne_nil notes hne
  cases hl : ((timepoints notes).map (sounding notes)).getLast? with
  | none =>
    rw [List.getLast?_eq_none_iff] at hl
    simp at hl
    exact absurd hl hu
  | some lastS =>
    have hok := okB_build (sounding notes)
      (fun tp => (extraMarks ((timepoints notes).map (sounding notes))
        (lastS :: ((timepoints notes).map (sounding notes)).dropLast)
        (diffs 0 (((timepoints notes).map (sounding notes)).map fun s => (s.length : Int)))).any fun m => decide (m = tp))
      (timepoints notes) 0
    obtain ⟨cl, hcl, hP⟩ := contigLists_spec P S hnew hext _ 0 [] hok (fun _ => rfl)
      (fun e he => by
        obtain ⟨tp, _, htp⟩ := List.mem_map.mp (List.of_mem_zip he).1
        rw [← htp]; exact hS tp) (by simp)
    have hmx : (((timepoints notes).map (sounding notes)).map (·.length)).foldl max 0 = maxCnt notes := by
      unfold maxCnt
      congr 1
      simp only [List.map_map]
      exact List.map_congr_left (fun t _ => sounding_length notes t)
    refine ⟨cl, ?_, hP⟩
    rw [← hmx]
    exact Option.map_eq_some_iff.mpr ⟨cl, hcl, rfl⟩

/-- the first timepoint at which the maximal number of notes sounds is the onset of a note:
    the number of sounding notes can only grow at an onset -/
theorem first_max_is_onset (notes : List N) (c : Rat)
    (hm : cnt notes c = maxCnt notes) (hpos : 0 < maxCnt notes)
    (hfirst : ∀ t ∈ timepoints notes, t < c → cnt notes t ≠ maxCnt notes) :
    ∃ n ∈ notes, n.on = c := by
  by_contra hcon
  simp only [not_exists, not_and] at hcon
  let A := notes.filter fun n => decide (n.on ≤ c) && decide (c < n.off)
  have hA : A.length = maxCnt notes := hm
  have hAne : A.map (fun n => n.on) ≠ [] := by
    intro e
    have : A.length = 0 := by simpa using congrArg List.length e
    omega
  obtain ⟨t', ht'⟩ := Option.isSome_iff_exists.mp (maxRat_isSome _ hAne)
  obtain ⟨n0, hn0, hn0t⟩ := List.mem_map.mp (maxRat_mem _ _ ht')
  have hn0' := List.mem_filter.mp hn0
  simp only [Bool.and_eq_true, decide_eq_true_eq] at hn0'
  have hlt : t' < c := by
    rw [← hn0t]
    exact lt_of_le_of_ne hn0'.2.1 (hcon n0 hn0'.1)
  have hin : t' ∈ timepoints notes := (mem_timepoints notes t').mpr (Or.inl ⟨n0, hn0'.1, hn0t⟩)
  have hge : cnt notes c ≤ cnt notes t' := by
    unfold cnt
    rw [← List.countP_eq_length_filter, ← List.countP_eq_length_filter]
    apply List.countP_mono_left
    intro a ha hpa
    simp only [Bool.and_eq_true, decide_eq_true_eq] at hpa ⊢
    have haA : a ∈ A := List.mem_filter.mpr ⟨ha, by simpa using hpa⟩
    have := maxRat_ge _ _ ht' a.on (List.mem_map.mpr ⟨a, haA, rfl⟩)
    exact ⟨this, lt_trans hlt hpa.2⟩
  have hle := cnt_le_max notes t' hin
  exact hfirst t' hin hlt (by omega)

/-- stream `i` (if it exists) holds a note -/
def NE (ss : List (List N)) (i : Nat) : Prop := ∀ s, ss[i]? = some s → s ≠ []

theorem mem_sounding {notes : List N} {tp : Rat} {x : N} (h : x ∈ sounding notes tp) : x ∈ notes := by
  simp only [sounding, byPitch, mem_isort, List.mem_filter] at h
  exact h.1

/-- filling the streams with the notes sounding at one onset: no IndexError while there are at least as many streams as
    notes; the streams that receive a note hold one, no stream loses one, and what holds of all notes involved holds
    of all notes in the streams -/
theorem addToStreams_spec (P : N → Prop) : ∀ (ss : List (List N)) (ns : List N), ns.length ≤ ss.length →
    (∀ s ∈ ss, ∀ x ∈ s, P x) → (∀ x ∈ ns, P x) →
    ∃ ss', addToStreams ss ns = some ss' ∧ ss'.length = ss.length ∧ (∀ s ∈ ss', ∀ x ∈ s, P x) ∧
      ∀ i, i < ns.length ∨ NE ss i → NE ss' i := by
  intro ss
  induction ss with
  | nil =>
    intro ns h hs _
    have : ns = [] := List.eq_nil_of_length_eq_zero (by simpa using h)
    subst this
    exact ⟨[], by simp [addToStreams], rfl, hs, fun i h => h.elim (by simp) id⟩
  | cons s rest ih =>
    intro ns h hs hn
    cases ns with
    | nil => exact ⟨s :: rest, by simp [addToStreams], rfl, hs, fun i h => h.elim (by simp) id⟩
    | cons n ns' =>
      obtain ⟨r, hr, hl, hP, h1⟩ := ih ns' (by simpa using h) (fun s' hs' => hs s' (List.mem_cons_of_mem _ hs'))
        (fun y hy => hn y (List.mem_cons_of_mem _ hy))
      have hhead : (if hasIx n s then s else s ++ [n]) ≠ [] := by
        split
        · rename_i hh
          intro e; rw [e] at hh; simp [hasIx] at hh
        · simp
      refine ⟨(if hasIx n s then s else s ++ [n]) :: r, by simp [addToStreams, hr], by simp [hl], ?_, ?_⟩
      · intro t ht x hx
        rcases List.mem_cons.mp ht with rfl | ht
        · split at hx
          · exact hs s List.mem_cons_self x hx
          · rcases List.mem_append.mp hx with hx | hx
            · exact hs s List.mem_cons_self x hx
            · rw [List.mem_singleton.mp hx]; exact hn _ List.mem_cons_self
        · exact hP t ht x hx
      · intro i hi x hx
        cases i with
        | zero =>
          simp only [List.getElem?_cons_zero, Option.some.injEq] at hx
          subst hx
          exact hhead
        | succ j =>
          simp only [List.getElem?_cons_succ] at hx
          exact h1 j (hi.imp (by simpa using ·) fun hne y hy => hne y (by simpa using hy)) x hx

theorem fold_streams (notes : List N) (m : Nat) (P : N → Prop) (hP : ∀ x ∈ notes, P x) (ons : List Rat)
    (ss : List (List N)) (hl : ss.length = m) (hss : ∀ s ∈ ss, ∀ x ∈ s, P x)
    (hle : ∀ o ∈ ons, (sounding notes o).length ≤ m) :
    ∃ ss', ons.foldlM (fun ss o => addToStreams ss (sounding notes o)) ss = some ss' ∧
      (ss'.length = m ∧ ∀ s ∈ ss', ∀ x ∈ s, P x) ∧ (∀ o ∈ ons, ∀ i, i < (sounding notes o).length → NE ss' i) := by
  obtain ⟨ss', e, hI, hQ, _⟩ := Lists.foldlM_collect (fun ss o => addToStreams ss (sounding notes o))
    (fun ss => ss.length = m ∧ ∀ s ∈ ss, ∀ x ∈ s, P x) (fun o ss => ∀ i, i < (sounding notes o).length → NE ss i)
    ons ss ⟨hl, hss⟩ (fun s o ho hs => by
      obtain ⟨s', h1, hl', hP', hA⟩ := addToStreams_spec P s (sounding notes o) (by rw [hs.1]; exact hle o ho) hs.2
        (fun x hx => hP x (mem_sounding hx))
      exact ⟨s', h1, ⟨by rw [hl', hs.1], hP'⟩, fun i hi => hA i (.inl hi), fun o' h i hi => hA i (.inr (h i hi))⟩)
  exact ⟨ss', e, hI, hQ⟩

theorem mkStream_isSome (l : List N) (h : l ≠ []) : (mkStream l).isSome := by
  unfold mkStream
  have hlen : (byOnset l).length = l.length := by simp [byOnset, isort_length]
  cases hb : byOnset l with
  | nil =>
    rw [hb] at hlen
    exact absurd (List.eq_nil_of_length_eq_zero hlen.symm) h
  | cons f rest =>
    simp only [Option.isSome_map]
    rw [List.find?_isSome]
    have := Lists.foldl_pick_mem (fun y m : Rat => m < y) (rest.map (·.on)) f.on
    rw [List.foldl_map, ← List.map_cons (f := fun n : N => n.on)] at this
    obtain ⟨n, hn, e⟩ := List.mem_map.mp this
    exact ⟨n, hn, by simp [e]⟩

theorem mkStream_ends (l : List N) (str : Stream) (h : mkStream l = some str) :
    str.first ∈ l ∧ str.last ∈ l := by
  unfold mkStream at h
  cases hb : byOnset l with
  | nil => simp [hb] at h
  | cons f rest =>
    simp only [hb, Option.map_eq_some_iff] at h
    obtain ⟨lst, hl, rfl⟩ := h
    have hsub : ∀ x ∈ f :: rest, x ∈ l := by
      intro x hx
      rw [← hb] at hx
      exact (mem_isort _ x l).mp hx
    exact ⟨hsub f (List.mem_cons_self ..), hsub lst (List.mem_of_find?_eq_some hl)⟩

/-- the contig's onset: the first timepoint at which the maximal number of notes sounds -/
theorem contigOnset_spec (notes : List N) (hnotes : notes ≠ []) :
    ∃ c, ((timepoints notes).find? fun t => (sounding notes t).length == maxCnt notes) = some c ∧
      cnt notes c = maxCnt notes ∧ (0 < maxCnt notes → ∃ n ∈ notes, n.on = c) := by
  have hutp := timepoints_ne_nil notes hnotes
  have hex : ∃ c ∈ timepoints notes, cnt notes c = maxCnt notes := by
    rcases List.mem_cons.mp (C17V.foldl_max_spec ((timepoints notes).map (cnt notes)) 0).1 with h | h
    · obtain ⟨t, ht⟩ := List.exists_mem_of_ne_nil _ hutp
      refine ⟨t, ht, ?_⟩
      have := cnt_le_max notes t ht
      unfold maxCnt at this ⊢
      omega
    · obtain ⟨t, ht, e⟩ := List.mem_map.mp h
      exact ⟨t, ht, e⟩
  have hfind : ((timepoints notes).find? fun t => (sounding notes t).length == maxCnt notes).isSome := by
    rw [List.find?_isSome]
    obtain ⟨c, hc, e⟩ := hex
    exact ⟨c, hc, by simp [sounding_length, e]⟩
  obtain ⟨c, hc⟩ := Option.isSome_iff_exists.mp hfind
  obtain ⟨hpc, as, bs, hsplit, has⟩ := List.find?_eq_some_iff_append.mp hc
  have hcm : cnt notes c = maxCnt notes := by simpa [sounding_length] using hpc
  have hfirst : ∀ t ∈ timepoints notes, t < c → cnt notes t ≠ maxCnt notes := by
    intro t ht hlt
    have hs := timepoints_strict notes
    rw [hsplit] at ht hs
    rcases List.mem_append.mp ht with h | h
    · have := has t h
      simpa [sounding_length] using this
    · exfalso
      have hp := (List.pairwise_append.mp hs).2.1
      rcases List.mem_cons.mp h with rfl | h
      · exact lt_irrefl _ hlt
      · exact lt_asymm hlt ((List.pairwise_cons.mp hp).1 t h)
  exact ⟨c, hc, hcm, fun hpos => first_max_is_onset notes c hcm hpos hfirst⟩

/-- `Contig(notes)` does not raise on a non-empty note list, and what it holds: as many streams as the maximal
    number of simultaneously sounding notes (no onset has more sounding notes than streams, and every stream
    receives a note at the contig's onset), as many first notes, at most as many last notes; all of them notes of
    the contig -/
theorem mkContig_spec (l : List N) (hne : l ≠ []) :
    ∃ raw, mkContig l = some raw ∧ raw.streams.length = maxCnt (byOnset l) ∧
      raw.first.length = maxCnt (byOnset l) ∧ raw.last.length ≤ maxCnt (byOnset l) ∧
      (∀ s ∈ raw.streams, s.first ∈ l ∧ s.last ∈ l) ∧ (∀ x ∈ raw.first, x ∈ l) ∧ (∀ x ∈ raw.last, x ∈ l) := by
  have hnotes : byOnset l ≠ [] := by
    intro e
    have := congrArg List.length e
    simp only [byOnset, isort_length, List.length_nil] at this
    exact hne (List.eq_nil_of_length_eq_zero this)
  have hmemN : ∀ x, x ∈ byOnset l ↔ x ∈ l := fun x => mem_isort _ x l
  generalize hN : byOnset l = notes at hnotes hmemN
  have hcounts : (timepoints notes).map (fun tp => (sounding notes tp).length) = (timepoints notes).map (cnt notes) :=
    List.map_congr_left (fun t _ => sounding_length notes t)
  obtain ⟨c, hc, hcm, hon⟩ := contigOnset_spec notes hnotes
  obtain ⟨maxOn, hmax⟩ := Option.isSome_iff_exists.mp
    (maxRat_isSome (notes.map fun n => n.on) (by simpa using hnotes))
  have hle : ∀ o ∈ (uniqueOnsets notes).filter (fun o => decide (c ≤ o)), (sounding notes o).length ≤ maxCnt notes := by
    intro o ho
    rw [sounding_length]
    apply cnt_le_max
    obtain ⟨n, hn, e⟩ := (mem_uniqueOnsets notes o).mp (List.mem_filter.mp ho).1
    exact (mem_timepoints notes o).mpr (Or.inl ⟨n, hn, e⟩)
  obtain ⟨ss, hss, ⟨hlen, hssmem⟩, hD⟩ := fold_streams notes (maxCnt notes) (fun x => x ∈ l)
    (fun x hx => (hmemN x).mp hx) _ (List.replicate (maxCnt notes) []) (by simp)
    (by intro s hs x hx; rw [(List.mem_replicate.mp hs).2] at hx; simp at hx) hle
  have hall : ∀ s ∈ ss, (mkStream s).isSome := by
    intro s hs
    apply mkStream_isSome
    obtain ⟨i, hi, rfl⟩ := List.mem_iff_getElem.mp hs
    obtain ⟨n, hn, e⟩ := hon (by omega)
    have hco : c ∈ (uniqueOnsets notes).filter (fun o => decide (c ≤ o)) :=
      List.mem_filter.mpr ⟨(mem_uniqueOnsets notes c).mpr ⟨n, hn, e⟩, by simp⟩
    exact hD c hco i (by rw [sounding_length, hcm, ← hlen]; exact hi) _ (List.getElem?_eq_getElem hi)
  obtain ⟨st, hst⟩ := Lists.mapM_total mkStream ss hall
  have hm : ((timepoints notes).map fun tp => (sounding notes tp).length).foldl max 0 = maxCnt notes := by
    rw [hcounts]; rfl
  have hsound : ∀ t x, x ∈ sounding notes t → x ∈ l := fun t x hx => (hmemN x).mp (mem_sounding hx)
  refine ⟨{ streams := st, first := sounding notes c, last := sounding notes maxOn }, ?_, ?_, ?_, ?_, ?_, ?_, ?_⟩
  · simp only [mkContig, hN]
    rw [hm, find?_zip_map (fun tp => (sounding notes tp).length) (fun k => k == maxCnt notes), hc, hmax]
    simp only [Option.map_some, hss, Option.bind_some, hst]
  · simp only [Lists.mapM_length hst, hlen]
  · simp only [sounding_length, hcm]
  · simp only [sounding_length]
    apply cnt_le_max
    obtain ⟨n, hn, e⟩ := List.mem_map.mp (maxRat_mem _ _ hmax)
    exact (mem_timepoints notes maxOn).mpr (Or.inl ⟨n, hn, e⟩)
  · intro str hstr
    obtain ⟨s, hs, hms⟩ := Lists.mapM_mem hst str hstr
    obtain ⟨h1, h2⟩ := mkStream_ends s str hms
    exact ⟨hssmem s hs _ h1, hssmem s hs _ h2⟩
  · exact hsound c
  · exact hsound maxOn

theorem mkContig_isSome (l : List N) (hne : l ≠ []) : (mkContig l).isSome := by
  obtain ⟨raw, h, _⟩ := mkContig_spec l hne
  rw [h]; rfl

end C17VosaContigs
