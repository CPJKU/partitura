/-
C17, the modelled contig-mapping search `Model.Vosa`: whatever the search decides, `note_array()` answers every id
it was given exactly once; `est_best_connections` yields a partial matching of streams whenever the matrix has at least
as many rows and columns as assignments are asked for, and its first assignment is a global minimum of the matrix.
-/
import PartituraModel.Model.Vosa
import PartituraModel.Proofs.C17Voices
import Mathlib.Data.List.Basic
import Mathlib.Data.List.Perm.Subperm
import Mathlib.Tactic.Linarith
import PartituraModel.Proofs.Lists

namespace C17S
open Model Model.Voices Model.Vosa

theorem isSort {α : Type} (le : α → α → Bool) : Lists.IsInsertionSort le (insertBy le) (isort le) :=
  ⟨fun _ => rfl, fun _ _ _ => rfl, rfl, fun _ _ => rfl⟩

theorem mkNotes_ids (rows : List Row) : (mkNotes rows).map (·.id) = rows.map (·.1) := by
  simp only [mkNotes, List.map_map]
  conv_rhs => rw [← List.zipIdx_map_fst 0 rows, List.map_map]
  exact List.map_congr_left (fun x _ => rfl)

theorem run_ids (rows : List Row) (out : List (Nat × Int)) (h : run rows = some out) :
    out.map (·.1) = (byOnset (mkNotes rows)).map (·.id) := by
  simp only [run, Option.map_eq_some_iff] at h
  obtain ⟨cs, _, rfl⟩ := h
  simp [List.map_map, Function.comp_def]

theorem run_covers (rows : List Row) (out : List (Nat × Int)) (h : run rows = some out) :
    (out.map (·.1)).Perm (rows.map (·.1)) := by
  rw [run_ids rows out h, ← mkNotes_ids]
  exact ((isSort _).perm _).map _

theorem run_length (rows : List Row) (out : List (Nat × Int)) (h : run rows = some out) :
    out.length = rows.length := by
  have := (run_covers rows out h).length_eq
  simpa using this

theorem withOffsets_ids (offs : List Rat) : ∀ (rows : List VRow) (rows' : List Row),
    withOffsets offs rows = some rows' → rows'.map (·.1) = rows.map (·.1) := by
  intro rows
  induction rows with
  | nil => intro rows' h; simp [withOffsets] at h; subst h; rfl
  | cons r rest ih =>
    intro rows' h
    simp only [withOffsets] at h
    split at h
    · rename_i off t ho ht
      cases h
      simp [ih t ht]
    · exact absurd h (by simp)

theorem withOffsets_total (offs : List Rat) : ∀ (rows : List VRow),
    (∀ r ∈ rows, r.1 < offs.length) → ∃ rows', withOffsets offs rows = some rows' := by
  intro rows
  induction rows with
  | nil => intro _; exact ⟨[], rfl⟩
  | cons r rest ih =>
    intro h
    obtain ⟨t, ht⟩ := ih (fun x hx => h x (List.mem_cons_of_mem _ hx))
    have hr : r.1 < offs.length := h r (List.mem_cons_self ..)
    refine ⟨(r.1, r.2.1, r.2.2.1, r.2.2.2, offs[r.1]) :: t, ?_⟩
    simp only [withOffsets, List.getElem?_eq_getElem hr, ht]

theorem vosaInput_lt (mono : Bool) (notes : List VNote) :
    ∀ r ∈ vosaInput mono notes, r.1 < notes.length := by
  intro r hr
  cases mono with
  | true =>
    simp only [vosaInput, if_true, List.mem_map] at hr
    obtain ⟨⟨x, i⟩, hx, rfl⟩ := hr
    have := List.mem_zipIdx hx
    simp at this
    omega
  | false =>
    simp only [vosaInput, Bool.false_eq_true, if_false, List.mem_filterMap] at hr
    obtain ⟨i, _, hi⟩ := hr
    cases hn : notes[i]? with
    | none => simp [hn] at hi
    | some y =>
      simp [hn] at hi
      subst hi
      exact (List.getElem?_eq_some_iff.mp hn).1

theorem firstMin_mem : ∀ (l : List (Nat × Nat × Int)) (x : Nat × Nat × Int),
    firstMin l = some x → x ∈ l := by
  intro l x h
  cases l with
  | nil => cases h
  | cons a rest => cases h; exact Lists.foldl_pick_mem (fun y b : Nat × Nat × Int => y.2.2 < b.2.2) rest a

theorem firstMin_le : ∀ (l : List (Nat × Nat × Int)) (x : Nat × Nat × Int),
    firstMin l = some x → ∀ y ∈ l, x.2.2 ≤ y.2.2 := by
  intro l x h
  cases l with
  | nil => cases h
  | cons a rest =>
    cases h
    exact Lists.foldl_pick_best (fun y b : Nat × Nat × Int => y.2.2 < b.2.2) (fun x y => x.2.2 ≤ y.2.2)
      (fun _ => le_refl _) (fun _ _ _ => le_trans) (fun _ _ => le_of_lt) (fun _ _ => not_lt.mp) rest a

theorem mem_entries (cost : List (List Int)) (rm cm : List Nat) (i j : Nat) (v : Int) :
    (i, j, v) ∈ entries cost rm cm ↔
      i ∉ rm ∧ j ∉ cm ∧ ∃ row, cost[i]? = some row ∧ row[j]? = some v := by
  simp only [entries, List.mem_flatMap, List.mem_filter, List.mem_map, Prod.exists]
  constructor
  · rintro ⟨row, i', ⟨hri, hrm⟩, v', j', ⟨hvj, hcm⟩, he⟩
    simp only [Prod.mk.injEq] at he
    obtain ⟨rfl, rfl, rfl⟩ := he
    have h1 := List.mem_zipIdx hri
    have h2 := List.mem_zipIdx hvj
    simp at h1 h2 hrm hcm
    refine ⟨hrm, hcm, row, ?_, ?_⟩
    · rw [List.getElem?_eq_some_iff]; exact ⟨h1.1, h1.2.symm⟩
    · rw [List.getElem?_eq_some_iff]; exact ⟨h2.1, h2.2.symm⟩
  · rintro ⟨hrm, hcm, row, hr, hv⟩
    obtain ⟨hi, hri⟩ := List.getElem?_eq_some_iff.mp hr
    obtain ⟨hj, hvj⟩ := List.getElem?_eq_some_iff.mp hv
    refine ⟨row, i, ⟨?_, by simpa using hrm⟩, v, j, ⟨?_, by simpa using hcm⟩, rfl⟩
    · rw [List.mem_zipIdx_iff_getElem?]; simpa using hr
    · rw [List.mem_zipIdx_iff_getElem?]; simpa using hv

def Rect (cost : List (List Int)) (C : Nat) : Prop := ∀ row ∈ cost, row.length = C

theorem exists_not_mem (l : List Nat) (n : Nat) (hlt : l.length < n) :
    ∃ i, i < n ∧ i ∉ l := by
  by_contra hcon
  simp only [not_exists, not_and, not_not] at hcon
  have hsub : List.range n ⊆ l := fun i hi => hcon i (List.mem_range.mp hi)
  have := ((List.nodup_range (n := n)).subperm hsub).length_le
  simp at this
  omega

theorem entries_nonempty (cost : List (List Int)) (C : Nat) (hrect : Rect cost C) (rm cm : List Nat)
    (hr : rm.length < cost.length) (hc : cm.length < C) :
    entries cost rm cm ≠ [] := by
  obtain ⟨i, hi, hirm⟩ := exists_not_mem rm cost.length hr
  obtain ⟨j, hj, hjcm⟩ := exists_not_mem cm C hc
  have hrow : cost[i].length = C := hrect _ (List.getElem_mem hi)
  have hj' : j < cost[i].length := by omega
  have : (i, j, cost[i][j]) ∈ entries cost rm cm := by
    rw [mem_entries]
    exact ⟨hirm, hjcm, cost[i], List.getElem?_eq_getElem hi, List.getElem?_eq_getElem hj'⟩
  intro e
  rw [e] at this
  exact absurd this (by simp)

theorem bestAux_length (cost : List (List Int)) : ∀ (k : Nat) (rm cm : List Nat),
    (bestAux cost k rm cm).length = k := by
  intro k
  induction k with
  | zero => intro rm cm; rfl
  | succ k ih => intro rm cm; simp [bestAux, ih]

/-- the loop of `est_best_connections` builds a partial matching as long as unmasked rows and
    columns remain -/
theorem bestAux_matching (cost : List (List Int)) (C : Nat) (hrect : Rect cost C) :
    ∀ (k : Nat) (rm cm : List Nat), rm.Nodup → cm.Nodup →
      rm.length + k ≤ cost.length → cm.length + k ≤ C →
      ((bestAux cost k rm cm).map (·.1) ++ rm).Nodup ∧ ((bestAux cost k rm cm).map (·.2) ++ cm).Nodup ∧
      ∀ x ∈ bestAux cost k rm cm, x.1 < cost.length ∧ x.2 < C := by
  intro k
  induction k with
  | zero => intro rm cm hrm hcm _ _; simp [bestAux, hrm, hcm]
  | succ k ih =>
    intro rm cm hrm hcm hr hc
    have hne := entries_nonempty cost C hrect rm cm (by omega) (by omega)
    cases hfm : firstMin (entries cost rm cm) with
    | none =>
      cases he : entries cost rm cm with
      | nil => exact absurd he hne
      | cons a r => rw [he] at hfm; simp [firstMin] at hfm
    | some x =>
      obtain ⟨i, j, v⟩ := x
      have hmem := firstMin_mem _ _ hfm
      rw [mem_entries] at hmem
      obtain ⟨hirm, hjcm, row, hrow, hv⟩ := hmem
      have hi : i < cost.length := (List.getElem?_eq_some_iff.mp hrow).1
      have hrl : row.length = C := hrect row (List.mem_of_getElem? hrow)
      have hj : j < C := by rw [← hrl]; exact (List.getElem?_eq_some_iff.mp hv).1
      obtain ⟨h1, h2, h3⟩ := ih (i :: rm) (j :: cm) (List.nodup_cons.mpr ⟨hirm, hrm⟩)
        (List.nodup_cons.mpr ⟨hjcm, hcm⟩) (by simp only [List.length_cons]; omega)
        (by simp only [List.length_cons]; omega)
      simp only [bestAux, hfm, List.map_cons, List.cons_append, List.mem_cons]
      refine ⟨?_, ?_, ?_⟩
      · exact (List.perm_middle.nodup_iff).mp h1
      · exact (List.perm_middle.nodup_iff).mp h2
      · rintro x (rfl | hx)
        · exact ⟨hi, hj⟩
        · exact h3 x hx

theorem bestAux_first_min (cost : List (List Int)) (k : Nat) (hne : entries cost [] [] ≠ []) :
    ∃ i j v, (bestAux cost (k + 1) [] []).head? = some (i, j) ∧
      (∃ row, cost[i]? = some row ∧ row[j]? = some v) ∧
      ∀ (i' j' : Nat) (row' : List Int) (v' : Int), cost[i']? = some row' → row'[j']? = some v' → v ≤ v' := by
  cases hfm : firstMin (entries cost [] []) with
  | none =>
    cases he : entries cost [] [] with
    | nil => exact absurd he hne
    | cons a r => rw [he] at hfm; simp [firstMin] at hfm
  | some x =>
    obtain ⟨i, j, v⟩ := x
    have hmem := firstMin_mem _ _ hfm
    have hle := firstMin_le _ _ hfm
    rw [mem_entries] at hmem
    refine ⟨i, j, v, by simp [bestAux, hfm], hmem.2.2, ?_⟩
    intro i' j' row' v' h1 h2
    exact hle (i', j', v') ((mem_entries cost [] [] i' j' v').mpr ⟨by simp, by simp, row', h1, h2⟩)

end C17S
