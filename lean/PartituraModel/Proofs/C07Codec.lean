/-
C07 — the texts of the match-file codecs: decimal numerals (`showNatS`, the model of `str(int)` in
Model/MatchCodec.lean, is `Model.natDigits`: `showNatS_eq`, so Proofs/Digits.lean applies), `strip`, `int()`, `float()`
of a fixed-point numeral, splitting and joining lists, exact duration addition.  Also used by the C08 attribute codecs.
-/
import PartituraModel.Model.MatchCodec
import PartituraModel.Proofs.Digits
import Mathlib.Tactic.Ring
import Mathlib.Tactic.Push

open Model.MatchCodec

namespace C07Codec

/-! the numerals of Model/MatchCodec.lean are those of Model/Basic.lean -/

theorem showNatS_eq (n : Nat) : showNatS n = Model.natDigits n := by
  unfold showNatS Model.natDigits
  congr 1
  generalize n + 1 = f
  induction f generalizing n with
  | zero => rfl
  | succ f ih => unfold digitsRev Model.natDigitsRev; rw [ih]; rfl

theorem digitsVal_eq : digitsVal = Model.digitsToNat := rfl

theorem digitsVal_showNatS (n : Nat) : digitsVal (showNatS n) = n := by
  rw [showNatS_eq]; exact Digits.digitsToNat_natDigits n

theorem showNatS_isDigit (n : Nat) : ∀ c ∈ showNatS n, c.isDigit = true := by
  rw [showNatS_eq]; exact Digits.natDigits_isDigit n

theorem showNatS_ne_nil (n : Nat) : showNatS n ≠ [] := by
  rw [showNatS_eq]; exact Digits.natDigits_ne_nil n

theorem showNatS_cons (n : Nat) : ∃ d ds, showNatS n = d :: ds ∧ d.isDigit = true := by
  rw [showNatS_eq]; exact Digits.natDigits_eq_cons n

theorem isEmpty_showNatS (n : Nat) : (showNatS n).isEmpty = false := by
  obtain ⟨d, ds, h, _⟩ := showNatS_cons n
  rw [h]
  rfl

theorem allDigits_showNatS (n : Nat) : allDigits (showNatS n) = true := by
  rw [showNatS_eq]; exact Digits.numeral_natDigits n

theorem digit_not_sign (d : Char) (h : d.isDigit = true) : d ≠ '-' ∧ d ≠ '+' := Digits.of_isDigit h (by decide +kernel)

theorem isDigit_not_ws (c : Char) (h : c.isDigit = true) : isWs c = false := Digits.of_isDigit h (by decide +kernel)

theorem strip_of_ends (s : List Char) (h1 : ∀ c ∈ s.head?, isWs c = false) (h2 : ∀ c ∈ s.getLast?, isWs c = false) :
    strip s = s := Lists.strip_of_ends h1 h2

theorem strip_id (s : List Char) (h : ∀ c ∈ s, isWs c = false) : strip s = s := Lists.strip_of_all h

theorem strip_showNatS (n : Nat) : strip (showNatS n) = showNatS n :=
  strip_id _ (fun c hc => isDigit_not_ws c (showNatS_isDigit n c hc))

theorem isPyInt : Digits.IsPyInt isWs parseInt := ⟨fun _ => rfl⟩

/-- `int(format_int(i)) = i` for every integer -/
theorem parseInt_showIntS (i : Int) : parseInt (showIntS i) = some i := by
  simp only [showIntS, showNatS_eq]
  exact isPyInt.showInt (by decide +kernel) i

theorem fullDen_mk (n d : Nat) (ac : Option (List (Nat × Nat × Option Nat))) :
    ({ num := n, den := d, tdiv := none, add := ac } : Frac).fullDen = d := by simp [Frac.fullDen]

/-- a sum within the bound: non-zero denominators, the numbers over the common denominator -/
theorem add?_eq_some (a b r : Frac) (h : Frac.add? a b = some r) :
    a.fullDen ≠ 0 ∧ b.fullDen ≠ 0 ∧
      Nat.lcm a.fullDen b.fullDen / a.fullDen * a.num + Nat.lcm a.fullDen b.fullDen / b.fullDen * b.num ≤ BOUND ∧
      Nat.lcm a.fullDen b.fullDen ≤ BOUND ∧
      r = { num := Nat.lcm a.fullDen b.fullDen / a.fullDen * a.num + Nat.lcm a.fullDen b.fullDen / b.fullDen * b.num,
            den := Nat.lcm a.fullDen b.fullDen, tdiv := none,
            add := some ((a.comps ++ b.comps).filter (fun c => c.1 != 0)) } := by
  unfold Frac.add? at h
  simp only at h
  split at h
  · cases h
  · rename_i hz
    split at h
    · cases h
    · rename_i hb
      exact ⟨fun e => hz (.inl e), fun e => hz (.inr e), by omega, by omega, (Option.some.inj h).symm⟩
theorem frac_add_value (a b c : Frac) (h : Frac.add? a b = some c) : c.value = a.value + b.value := by
  obtain ⟨hda, hdb, -, -, rfl⟩ := add?_eq_some a b c h
  -- the common denominator is `da * k1 = db * k2`, the new numerator `k1 * na + k2 * nb`: cross-multiply
  obtain ⟨k1, hk1⟩ := Nat.dvd_lcm_left a.fullDen b.fullDen
  obtain ⟨k2, hk2⟩ := Nat.dvd_lcm_right a.fullDen b.fullDen
  have e1 : Nat.lcm a.fullDen b.fullDen / a.fullDen = k1 := by
    rw [hk1]; exact Nat.mul_div_cancel_left k1 (Nat.pos_of_ne_zero hda)
  have e2 : Nat.lcm a.fullDen b.fullDen / b.fullDen = k2 := by
    rw [hk2]; exact Nat.mul_div_cancel_left k2 (Nat.pos_of_ne_zero hdb)
  have hl : Nat.lcm a.fullDen b.fullDen ≠ 0 := Nat.lcm_ne_zero hda hdb
  simp only [Frac.value, e1, e2]
  simp only [fullDen_mk]
  have hA : (a.fullDen : Rat) ≠ 0 := by exact_mod_cast hda
  have hB : (b.fullDen : Rat) ≠ 0 := by exact_mod_cast hdb
  have hL : ((Nat.lcm a.fullDen b.fullDen : Nat) : Rat) ≠ 0 := by exact_mod_cast hl
  have c1 : ((Nat.lcm a.fullDen b.fullDen : Nat) : Rat) = a.fullDen * k1 := by exact_mod_cast hk1
  have c2 : ((Nat.lcm a.fullDen b.fullDen : Nat) : Rat) = b.fullDen * k2 := by exact_mod_cast hk2
  have hk1' : (k1 : Rat) ≠ 0 := by
    intro e; apply hL; rw [c1, e]; ring
  have hk2' : (k2 : Rat) ≠ 0 := by
    intro e; apply hL; rw [c2, e]; ring
  push_cast
  rw [div_add_div _ _ hA hB, div_eq_div_iff hL (mul_ne_zero hA hB)]
  have : (a.fullDen : Rat) * k1 = b.fullDen * k2 := by rw [← c1, ← c2]
  rw [c1]
  have h3 : (k2 : Rat) * b.fullDen = a.fullDen * k1 := by rw [this]; ring
  calc ((k1 : Rat) * a.num + k2 * b.num) * (a.fullDen * b.fullDen)
      = a.num * b.fullDen * (a.fullDen * k1) + a.fullDen * b.num * (k2 * b.fullDen) * 1 := by ring
    _ = (a.num * b.fullDen + a.fullDen * b.num) * (a.fullDen * k1) := by rw [h3]; ring

theorem dropWhile_all (p : Char → Bool) (ds : List Char) (h : ∀ c ∈ ds, p c = true) : ds.dropWhile p = [] :=
  Lists.dropWhile_of_all h

theorem digitsVal_append (a b : List Char) : digitsVal (a ++ b) = digitsVal a * 10 ^ b.length + digitsVal b :=
  Digits.digitsToNat_append a b

theorem digitsVal_replicate_zero (k : Nat) (s : List Char) : digitsVal (List.replicate k '0' ++ s) = digitsVal s := by
  induction k with
  | zero => rfl
  | succ k ih =>
    rw [List.replicate_succ, List.cons_append]
    unfold digitsVal at *
    simp only [List.foldl_cons]
    have : 10 * 0 + ('0'.toNat - 48) = 0 := by decide
    rw [this]; exact ih

theorem length_digitsRev_le (fuel : Nat) : ∀ (m k : Nat), 1 ≤ k → m < 10 ^ k → (digitsRev fuel m).length ≤ k := by
  induction fuel with
  | zero => intro m k hk _; simp [digitsRev]
  | succ f ih =>
    intro m k hk hm
    unfold digitsRev
    split
    · simpa using hk
    · rename_i h10
      simp only [List.length_cons]
      have hk2 : 2 ≤ k := by
        by_contra hlt
        have : k = 1 := by omega
        subst this; omega
      have : m / 10 < 10 ^ (k - 1) := by
        have e : 10 ^ k = 10 * 10 ^ (k - 1) := by
          rw [← Nat.pow_succ']; congr 1; omega
        rw [e] at hm
        omega
      have := ih (m / 10) (k - 1) (by omega) this
      omega

theorem length_showNatS_le (m k : Nat) (hk : 1 ≤ k) (hm : m < 10 ^ k) : (showNatS m).length ≤ k := by
  unfold showNatS
  rw [List.length_reverse]
  exact length_digitsRev_le _ m k hk hm

theorem padZeros_length (k m : Nat) (hk : 1 ≤ k) (hm : m < 10 ^ k) : (padZeros k (showNatS m)).length = k := by
  unfold padZeros
  have := length_showNatS_le m k hk hm
  simp only [List.length_append, List.length_replicate]
  omega

theorem padZeros_val (k m : Nat) : digitsVal (padZeros k (showNatS m)) = m := by
  unfold padZeros
  rw [digitsVal_replicate_zero, digitsVal_showNatS]

theorem padZeros_isDigit (k m : Nat) : ∀ c ∈ padZeros k (showNatS m), c.isDigit = true := by
  intro c hc
  unfold padZeros at hc
  rw [List.mem_append] at hc
  rcases hc with hc | hc
  · rw [List.mem_replicate] at hc; rw [hc.2]; decide
  · exact showNatS_isDigit m c hc

/-- the unsigned body of a fixed-point numeral -/
def fixedBody (k n : Nat) : List Char := showNatS (n / pow10 k) ++ '.' :: padZeros k (showNatS (n % pow10 k))

theorem printFixed_eq (k : Nat) (neg : Bool) (n : Nat) (hk : 1 ≤ k) :
    printFixed k neg n = (if neg then ['-'] else []) ++ fixedBody k n := by
  unfold printFixed fixedBody
  have : ¬ k = 0 := by omega
  simp [this]

theorem fixedBody_no_ws (k n : Nat) : ∀ c ∈ fixedBody k n, isWs c = false := by
  intro c hc
  unfold fixedBody at hc
  simp only [List.mem_append, List.mem_cons] at hc
  rcases hc with hc | rfl | hc
  · exact isDigit_not_ws c (showNatS_isDigit _ c hc)
  · decide
  · exact isDigit_not_ws c (padZeros_isDigit _ _ c hc)

theorem parseDecimal_printFixed (k : Nat) (neg : Bool) (n : Nat) (hk : 1 ≤ k) :
    parseDecimal (printFixed k neg n) = some (if neg then -((n : Rat) / (pow10 k : Rat)) else (n : Rat) / (pow10 k : Rat)) := by
  rw [printFixed_eq k neg n hk]
  have hm : n % pow10 k < 10 ^ k := Nat.mod_lt _ (by unfold pow10; positivity)
  have hdig := showNatS_isDigit (n / pow10 k)
  have hdot : Char.isDigit '.' = false := by decide
  have htw : (fixedBody k n).takeWhile Char.isDigit = showNatS (n / pow10 k) :=
    Lists.takeWhile_stop hdig hdot
  have hdw : (fixedBody k n).dropWhile Char.isDigit = '.' :: padZeros k (showNatS (n % pow10 k)) :=
    Lists.dropWhile_stop hdig hdot
  have hfp : (padZeros k (showNatS (n % pow10 k))).all Char.isDigit = true := by
    rw [List.all_eq_true]; exact padZeros_isDigit _ _
  -- the digits before and behind the point are those of `n = (n / 10^k) * 10^k + n % 10^k`, the latter on exactly k places
  have hval : digitsVal (showNatS (n / pow10 k) ++ padZeros k (showNatS (n % pow10 k))) = n := by
    rw [digitsVal_append, padZeros_length k _ hk hm, padZeros_val, digitsVal_showNatS]
    have := Nat.div_add_mod n (pow10 k)
    unfold pow10 at *
    rw [Nat.mul_comm]; exact this
  have hlen := padZeros_length k (n % pow10 k) hk hm
  have hne : ¬ ((showNatS (n / pow10 k)).isEmpty && (padZeros k (showNatS (n % pow10 k))).isEmpty) = true := by
    simp [isEmpty_showNatS]
  have hs : strip ((if neg then ['-'] else []) ++ fixedBody k n) = (if neg then ['-'] else []) ++ fixedBody k n := by
    apply strip_id
    intro c hc
    rcases List.mem_append.mp hc with hc | hc
    · cases neg <;> simp at hc
      subst hc; decide
    · exact fixedBody_no_ws k n c hc
  -- the body begins with a digit, so it carries no sign of its own
  have hsp : splitSign ((if neg then ['-'] else []) ++ fixedBody k n) = (neg, fixedBody k n) := by
    cases neg with
    | true => rfl
    | false =>
      obtain ⟨d, ds, hq, hd⟩ := showNatS_cons (n / pow10 k)
      simp only [fixedBody, hq, Bool.false_eq_true, if_false, List.nil_append, List.cons_append]
      unfold splitSign
      split
      · rename_i heq; injection heq with e1; exact absurd e1 (digit_not_sign d hd).1
      · rename_i heq; injection heq with e1; exact absurd e1 (digit_not_sign d hd).2
      · rfl
  unfold parseDecimal
  simp only [hs, hsp, htw, hdw, hfp, hne, hval, hlen]
  cases neg <;> simp

theorem splitOn_no_sep (sep : Char) (a : List Char) (h : ∀ c ∈ a, c ≠ sep) : splitOn sep a = [a] := by
  induction a with
  | nil => rfl
  | cons c cs ih =>
    have hc : c ≠ sep := h c (by simp)
    unfold splitOn
    rw [if_neg hc, ih (fun d hd => h d (by simp [hd]))]

theorem splitOn_append (sep : Char) (a b : List Char) (h : ∀ c ∈ a, c ≠ sep) :
    splitOn sep (a ++ sep :: b) = a :: splitOn sep b := by
  induction a with
  | nil => simp [splitOn]
  | cons c cs ih =>
    have hc : c ≠ sep := h c (by simp)
    rw [List.cons_append, splitOn, if_neg hc, ih (fun d hd => h d (by simp [hd]))]

theorem showNatS_no (sep : Char) (hs : sep.isDigit = false) (n : Nat) : ∀ c ∈ showNatS n, c ≠ sep := by
  intro c hc e
  subst e
  have := showNatS_isDigit n c hc
  rw [hs] at this
  exact absurd this (by decide)

theorem fracSimple_1 (n : Nat) : fracSimple (showNatS n) = some (n, 1, none) := by
  unfold fracSimple
  rw [splitOn_no_sep '/' _ (showNatS_no '/' (by decide) n)]
  simp [allDigits_showNatS, digitsVal_showNatS]

theorem fracSimple_2 (n d : Nat) : fracSimple (showNatS n ++ '/' :: showNatS d) = some (n, d, none) := by
  unfold fracSimple
  rw [splitOn_append '/' _ _ (showNatS_no '/' (by decide) n), splitOn_no_sep '/' _ (showNatS_no '/' (by decide) d)]
  simp [allDigits_showNatS, digitsVal_showNatS]

theorem fracSimple_3 (n d t : Nat) :
    fracSimple (showNatS n ++ '/' :: showNatS d ++ '/' :: showNatS t) = some (n, d, some t) := by
  unfold fracSimple
  have : showNatS n ++ '/' :: showNatS d ++ '/' :: showNatS t = showNatS n ++ '/' :: (showNatS d ++ '/' :: showNatS t) := by
    simp
  rw [this, splitOn_append '/' _ _ (showNatS_no '/' (by decide) n),
    splitOn_append '/' _ _ (showNatS_no '/' (by decide) d), splitOn_no_sep '/' _ (showNatS_no '/' (by decide) t)]
  simp [allDigits_showNatS, digitsVal_showNatS]

theorem fracSimple_str1 (n d : Nat) (t : Option Nat) : fracSimple (fracStr1 n d t) = some (n, d, t) := by
  unfold fracStr1
  cases t with
  | none =>
    by_cases hd : d = 1
    · simp [hd, fracSimple_1]
    · simp [hd, fracSimple_2]
  | some t =>
    have := fracSimple_3 n d t
    simp only [List.append_assoc, List.cons_append] at this
    simp [this]

/-- the constructor within the bound of `bound_integers` -/
theorem mk?_of_le (n d : Nat) (t : Option Nat) (hn : n ≤ BOUND) (hd : d ≤ BOUND) :
    Frac.mk? n d t = some { num := n, den := d, tdiv := t, add := none } := by
  unfold Frac.mk?
  rw [if_neg (by omega)]

theorem mk?_some (n d : Nat) (t : Option Nat) (g : Frac) (h : Frac.mk? n d t = some g) :
    g = { num := n, den := d, tdiv := t, add := none } ∧ n ≤ BOUND ∧ d ≤ BOUND := by
  unfold Frac.mk? at h
  split at h
  · cases h
  · injection h with h
    exact ⟨h.symm, by omega, by omega⟩

/-- a simple duration (`n`, `n/d`, `n/d/t`, numbers within the bound) is read back from its text -/
theorem fracFromString_toStr (f : Frac) (ha : f.add = none) (hn : f.num ≤ BOUND) (hd : f.den ≤ BOUND) :
    fracFromString f.toStr = .ok f := by
  obtain ⟨n, d, t, a⟩ := f
  simp only at ha hn hd
  subst ha
  simp only [Frac.toStr, fracFromString, fracSimple_str1, mk?_of_le n d t hn hd]

theorem decVersion_encVersion (a b c : Nat) : decVersion (encVersion a b c) = some (a, b, c) := by
  unfold encVersion decVersion
  have hdot : Char.isDigit '.' = false := by decide
  have e : showNatS a ++ '.' :: showNatS b ++ '.' :: showNatS c
      = showNatS a ++ '.' :: (showNatS b ++ '.' :: showNatS c) := by simp
  rw [e]
  have h1 := Lists.takeWhile_stop (r := showNatS b ++ '.' :: showNatS c) (showNatS_isDigit a) hdot
  have h1' := Lists.dropWhile_stop (r := showNatS b ++ '.' :: showNatS c) (showNatS_isDigit a) hdot
  have h2 := Lists.takeWhile_stop (r := showNatS c) (showNatS_isDigit b) hdot
  have h2' := Lists.dropWhile_stop (r := showNatS c) (showNatS_isDigit b) hdot
  have h3 := Lists.takeWhile_of_all (showNatS_isDigit c)
  simp only [h1, h1']
  obtain ⟨x, xs, ha, _⟩ := showNatS_cons a
  rw [ha]
  simp only [h2, h2', h3, isEmpty_showNatS, Bool.false_eq_true, if_false]
  rw [← ha]
  simp [digitsVal_showNatS]

theorem lastIndexOf_go_snoc (c : Char) (a : List Char) : ∀ (i : Nat) (acc : Option Nat),
    lastIndexOf.go c (a ++ [c]) i acc = some (i + a.length) := by
  induction a with
  | nil => intro i acc; simp [lastIndexOf.go]
  | cons d r ih =>
    intro i acc
    simp only [List.cons_append, lastIndexOf.go, List.length_cons]
    rw [ih]
    congr 1; omega

theorem lastIndexOf_snoc (c : Char) (a : List Char) : lastIndexOf c (a ++ [c]) = some a.length := by
  unfold lastIndexOf
  rw [lastIndexOf_go_snoc]; simp

theorem splitOn_joinWith (sep : Char) : ∀ (items : List (List Char)), items ≠ [] →
    (∀ x ∈ items, ∀ c ∈ x, c ≠ sep) → splitOn sep (joinWith [sep] items) = items := by
  intro items
  induction items with
  | nil => intro h; exact absurd rfl h
  | cons x xs ih =>
    intro _ h
    cases xs with
    | nil => simp only [joinWith]; exact splitOn_no_sep sep x (h x (by simp))
    | cons y ys =>
      simp only [joinWith, List.append_assoc, List.singleton_append]
      rw [splitOn_append sep x _ (h x (by simp))]
      congr 1
      exact ih (by simp) (fun z hz => h z (by simp [hz]))

theorem mem_joinWith (sep : List Char) (c : Char) : ∀ (items : List (List Char)), c ∈ joinWith sep items →
    c ∈ sep ∨ ∃ x ∈ items, c ∈ x := by
  intro items
  fun_induction joinWith sep items with
  | case1 => intro h; cases h
  | case2 x => intro h; exact Or.inr ⟨x, by simp, h⟩
  | case3 x y r ih =>
    intro h
    simp only [List.mem_append] at h
    rcases h with (h | h) | h
    · exact Or.inr ⟨x, by simp, h⟩
    · exact Or.inl h
    · rcases ih h with h | ⟨z, hz, hc⟩
      · exact Or.inl h
      · exact Or.inr ⟨z, List.mem_cons_of_mem x hz, hc⟩

/-- words: no comma, no blank -/
def Words (items : List (List Char)) : Prop := ∀ x ∈ items, ∀ c ∈ x, c ≠ ',' ∧ isWs c = false

theorem dropWhile_eq_nil (p : Char → Bool) : ∀ s : List Char, s.dropWhile p = [] → ∀ c ∈ s, p c = true
  | [], _ => by simp
  | d :: s, h => by
    by_cases hd : p d = true
    · simp only [List.dropWhile_cons, hd, if_true] at h
      intro c hc
      rcases List.mem_cons.mp hc with rfl | hc
      · exact hd
      · exact dropWhile_eq_nil p s h c hc
    · simp [hd] at h

theorem strip_eq_nil (s : List Char) (h : strip s = []) : ∀ c ∈ s, isWs c = true := by
  have h1 : ∀ c ∈ s.dropWhile isWs, isWs c = true := fun c hc =>
    dropWhile_eq_nil isWs _ (List.reverse_eq_nil_iff.mp h) c (List.mem_reverse.mpr hc)
  cases hd : s.dropWhile isWs with
  | nil => exact dropWhile_eq_nil isWs s hd
  | cons d r =>
    have := List.head_dropWhile_not isWs (l := s) (by simp [hd])
    simp only [hd, List.head_cons] at this
    exact absurd (h1 d (by simp [hd])) (by simp [this])

/-- the body of a list is split back into its items when each is its own `strip()` and holds no comma
    (the one list whose body is empty without being the empty list is `[""]`) -/
theorem decList_body (items : List (List Char)) (hs : ∀ x ∈ items, strip x = x)
    (hc : ∀ x ∈ items, ∀ c ∈ x, c ≠ ',') (hne : items ≠ [[]]) :
    (if (strip (joinWith [','] items)).isEmpty then [] else (splitOn ',' (joinWith [','] items)).map strip) = items := by
  cases items with
  | nil => rfl
  | cons x xs =>
    have hbody : (strip (joinWith [','] (x :: xs))).isEmpty = false := by
      cases xs with
      | nil =>
        rw [joinWith, hs x (by simp)]
        cases x with
        | nil => exact absurd rfl hne
        | cons c r => rfl
      | cons y ys =>
        cases h : strip (joinWith [','] (x :: y :: ys)) with
        | nil => exact absurd (strip_eq_nil _ h ',' (by simp [joinWith])) (by decide)
        | cons c r => rfl
    rw [hbody, splitOn_joinWith ',' _ (by simp) hc]
    rw [List.map_congr_left hs, List.map_id']
    rfl

/-- `interpret_as_list(format_list(items)) = items` for such items -/
theorem decList_encList_of (items : List (List Char)) (hs : ∀ x ∈ items, strip x = x)
    (hc : ∀ x ∈ items, ∀ c ∈ x, c ≠ ',') (hne : items ≠ [[]]) : decList (encList items) = items := by
  unfold decList encList encListBody
  simp only [listBodyOf, lastIndexOf_snoc, List.take_left']
  exact decList_body items hs hc hne

/-- lists of words of any length (the empty list included; the one list that cannot be written is `[""]`,
    whose text is the empty list's) -/
theorem decList_encList (items : List (List Char)) (hw : Words items) (hne : items ≠ [[]]) :
    decList (encList items) = items :=
  decList_encList_of items (fun x hx => strip_id x fun c hc => (hw x hx c hc).2) (fun x hx c hc => (hw x hx c hc).1) hne

/-- the same when the brackets belong to the pattern's literals (`\\[(?P<X>.*)\\]`) -/
theorem decList_encListBody (items : List (List Char)) (hw : Words items) (hne : items ≠ [[]])
    (hbr : ∀ x, items.head? = some x → x.head? ≠ some '[') :
    decList (encListBody items) = items := by
  unfold decList encListBody
  have hnb : ∀ r, joinWith [','] items ≠ '[' :: r := by
    intro r e
    cases items with
    | nil => simp [joinWith] at e
    | cons x xs =>
      have := hbr x rfl
      cases xs with
      | nil => simp only [joinWith] at e; rw [e] at this; simp at this
      | cons y ys =>
        simp only [joinWith, List.append_assoc, List.singleton_append] at e
        cases x with
        | nil => simp at e
        | cons c cs => simp only [List.cons_append, List.cons.injEq] at e; rw [e.1] at this; simp at this
  have hm : listBodyOf (joinWith [','] items) = joinWith [','] items := by
    unfold listBodyOf
    split
    · rename_i r heq; exact absurd heq (hnb r)
    · rfl
  simp only [hm]
  exact decList_body items (fun x hx => strip_id x fun c hc => (hw x hx c hc).2) (fun x hx c hc => (hw x hx c hc).1) hne


end C07Codec
