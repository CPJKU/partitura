/-
Rounding of a rational to the nearest binary64 number as a rational (`Model.MatchCodec.toBinary64`: behind `'%.kf'` in C07
and, as `Model.PerfMidi.b64`, the tick arithmetic of C06).  The exponent finder takes a first estimate `e0` from the bit
lengths of numerator and denominator, which leaves the quotient between 2^51 and 2^53 (`bracket_both`), then steps down
once and up twice (`normExp`); the upward steps are never taken, and the significand has 53 bits (`binade`).  On a positive
argument the result is `tbPos`: within relative error 2^-53 (`tbPos_close`), positive, monotone (`tbPos_mono`).
`Model.Binary64.readFloat` is the same rounding of a non-negative rational with a record for result
(Proofs/Binary64.lean); no theorem relates the two.  The namespace is `C07Float`, as in Proofs/C07Float.lean, which goes on
from here.
-/
import PartituraModel.Model.MatchCodec
import PartituraModel.Proofs.Round
import PartituraModel.Proofs.Pow2
import Mathlib.Tactic.Linarith
import Mathlib.Tactic.Positivity
import Mathlib.Tactic.Ring
import Mathlib.Tactic.NormNum
import Mathlib.Algebra.Order.Field.Rat
import Mathlib.Algebra.Order.Field.Power

open Model Model.MatchCodec Round

namespace C07Float

theorem pow2_eq (e : Int) : pow2 e = (2 : ℚ) ^ e := Pow2.ite_eq_zpow e

/-- the first estimate of the exponent -/
def e0 (a : ℚ) : ℤ := (Nat.log2 a.num.toNat : ℤ) - (Nat.log2 a.den : ℤ) - 52

/-- the quotient by the first estimate lies between 2^51 and 2^53 -/
theorem bracket_both (a : ℚ) (ha : 0 < a) : (2 : ℚ) ^ 51 < a / pow2 (e0 a) ∧ a / pow2 (e0 a) < (2 : ℚ) ^ 53 := by
  have hnum : 0 < a.num := Rat.num_pos.mpr ha
  have hN : a.num.natAbs = a.num.toNat := by omega
  have hN0 : a.num.toNat ≠ 0 := by omega
  have h := Pow2.bracket_of_bits a ha (a := Nat.log2 a.num.toNat) (b := Nat.log2 a.den)
    (by rw [hN]; exact Nat.log2_self_le hN0) (by rw [hN]; exact Nat.lt_log2_self)
    (Nat.log2_self_le a.den_nz) Nat.lt_log2_self
  have hp : (0 : ℚ) < (2 : ℚ) ^ e0 a := zpow_pos (by norm_num) _
  rw [pow2_eq, lt_div_iff₀ hp, div_lt_iff₀ hp, ← zpow_natCast (2 : ℚ) 51, ← zpow_natCast (2 : ℚ) 53,
    ← zpow_add₀ two_ne_zero, ← zpow_add₀ two_ne_zero]
  unfold e0
  rwa [show ((51 : ℕ) : ℤ) + ((Nat.log2 a.num.toNat : ℤ) - (Nat.log2 a.den : ℤ) - 52)
      = (Nat.log2 a.num.toNat : ℤ) - (Nat.log2 a.den : ℤ) - 1 by omega,
    show ((53 : ℕ) : ℤ) + ((Nat.log2 a.num.toNat : ℤ) - (Nat.log2 a.den : ℤ) - 52)
      = (Nat.log2 a.num.toNat : ℤ) - (Nat.log2 a.den : ℤ) + 1 by omega]

/-- the lower half -/
theorem bracket (a : ℚ) (ha : 0 < a) :
    (2 : ℚ) ^ 51 < a / pow2 ((Nat.log2 a.num.toNat : ℤ) - (Nat.log2 a.den : ℤ) - 52) :=
  (bracket_both a ha).1

/-- the exponent `toBinary64` settles on for a positive `a`, from the first estimate `e0`: one step down, two up -/
def normExp (a : ℚ) (e0 : ℤ) : ℤ :=
  let lo : ℚ := ((2 ^ 52 : ℕ) : ℚ)
  let hi : ℚ := ((2 ^ 53 : ℕ) : ℚ)
  let e1 := if a / pow2 e0 < lo then e0 - 1 else e0
  let e2 := if hi ≤ a / pow2 e1 then e1 + 1 else e1
  let e3 := if hi ≤ a / pow2 e2 then e2 + 1 else e2
  e3

/-- the exponent `toBinary64` settles on -/
def expOf (a : ℚ) : ℤ := normExp a (e0 a)

/-- the binade of a positive number: its unit is `2^(expOf a)`, its significand has 53 bits -/
theorem binade (a : ℚ) (ha : 0 < a) : pow2 (expOf a + (52 : ℕ)) ≤ a ∧ a < pow2 (expOf a + (52 : ℕ) + 1) := by
  obtain ⟨lo, hi⟩ := bracket_both a ha
  have h52 : ((2 ^ 52 : ℕ) : ℚ) = (2 : ℚ) ^ 52 := by norm_num
  have h53 : ((2 ^ 53 : ℕ) : ℚ) = (2 : ℚ) ^ 53 := by norm_num
  -- after the downward step the quotient lies between 2^52 and 2^53
  have h1 : (2 : ℚ) ^ 52 ≤ a / pow2 (if a / pow2 (e0 a) < ((2 ^ 52 : ℕ) : ℚ) then e0 a - 1 else e0 a) ∧
      a / pow2 (if a / pow2 (e0 a) < ((2 ^ 52 : ℕ) : ℚ) then e0 a - 1 else e0 a) < (2 : ℚ) ^ 53 := by
    split
    · next hlt =>
      rw [Pow2.pred pow2_eq, div_div_eq_mul_div, ← div_mul_eq_mul_div]
      rw [h52] at hlt
      constructor <;> linarith
    · next hge => exact ⟨h52 ▸ not_lt.mp hge, hi⟩
  -- so neither upward step is taken
  have hn := not_le.mpr (h53 ▸ h1.2)
  have he : expOf a = if a / pow2 (e0 a) < ((2 ^ 52 : ℕ) : ℚ) then e0 a - 1 else e0 a := by
    unfold expOf normExp
    simp only
    rw [if_neg hn, if_neg hn]
  have hp := Pow2.pos pow2_eq (expOf a)
  rw [← he, le_div_iff₀ hp, div_lt_iff₀ hp] at h1
  rwa [add_assoc, show ((52 : ℕ) : ℤ) + 1 = (53 : ℕ) by norm_num, Pow2.add_natCast pow2_eq, Pow2.add_natCast pow2_eq]

/-- the binary64 value of a positive rational: significand times power of two -/
def tbPos (a : ℚ) : ℚ := ((roundHalfEven (a / pow2 (expOf a)) : ℤ) : ℚ) * pow2 (expOf a)

theorem toBinary64_pos (q : ℚ) (h : 0 < q) : toBinary64 q = tbPos q := by
  have h0 : q ≠ 0 := ne_of_gt h
  have hn : ¬ q < 0 := not_lt.mpr (le_of_lt h)
  unfold toBinary64 tbPos expOf e0 normExp
  simp only [h0, hn, if_false]

theorem toBinary64_neg (q : ℚ) (h : q < 0) : toBinary64 q = -tbPos (-q) := by
  have h0 : q ≠ 0 := ne_of_lt h
  unfold toBinary64 tbPos expOf e0 normExp
  simp only [h0, h, if_false, if_true]

theorem tbPos_close (a : ℚ) (ha : 0 < a) : |tbPos a - a| ≤ a / (2 : ℚ) ^ 53 := by
  have hp := Pow2.pos pow2_eq (expOf a)
  -- half a unit in the last place, and `a` is at least 2^52 units
  refine (mul_close a hp).trans ?_
  rw [le_div_iff₀ (by positivity), show pow2 (expOf a) / 2 * (2 : ℚ) ^ 53 = (2 : ℚ) ^ 52 * pow2 (expOf a) by ring,
    ← Pow2.add_natCast pow2_eq]
  exact (binade a ha).1

theorem tbPos_pos (a : ℚ) (ha : 0 < a) : 0 < tbPos a := by
  have hp := Pow2.pos pow2_eq (expOf a)
  -- the significand is at least `2^52`
  exact (mul_pos (by positivity) hp).trans_le
    (le_mul_of_le (k := 2 ^ 52) hp (by rw [Int.cast_pow, Int.cast_ofNat, ← Pow2.add_natCast pow2_eq]; exact (binade a ha).1))

theorem tbPos_mono (a b : ℚ) (ha : 0 < a) (hab : a ≤ b) : tbPos a ≤ tbPos b :=
  have hb := ha.trans_le hab
  mul_mono pow2_eq 52 hab (binade a ha).2 (binade b hb).2 (fun _ => (binade a ha).1) (fun _ => (binade b hb).1)

/-- `toBinary64` is the odd extension of its positive branch -/
theorem toBinary64_odd : OddExt toBinary64 tbPos := ⟨by simp [toBinary64], toBinary64_pos, toBinary64_neg⟩

theorem toBinary64_mono {a b : ℚ} (hab : a ≤ b) : toBinary64 a ≤ toBinary64 b :=
  toBinary64_odd.mono (fun a ha => (tbPos_pos a ha).le) tbPos_mono hab

theorem toBinary64_rel (x : ℚ) : |toBinary64 x - x| ≤ |x| * (1 / (2 : ℚ) ^ 53) :=
  toBinary64_odd.rel fun h => by rw [mul_one_div]; exact tbPos_close _ h

end C07Float
