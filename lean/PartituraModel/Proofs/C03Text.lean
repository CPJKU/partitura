/-
C03 — for the element codecs: Python's `str(int)` / `int(str)` / `parse_ints` invert each other,
the written leaves and attributes read back.
-/
import PartituraModel.Proofs.C03Find
import PartituraModel.Proofs.Digits

namespace C03.Text
open Model Model.XmlNote

theorem isPyInt : Digits.IsPyInt isBlank parseIntC := ⟨fun _ => rfl⟩

theorem isBlank_facts : ∀ c ∈ '-' :: Digits.digitChars, isBlank c = false := by decide +kernel

theorem allDigits_natDigits (n : Nat) : allDigits (natDigits n) = true := Digits.numeral_natDigits n

/-- `int(str(n)) = n` -/
theorem parseIntC_natDigits (n : Nat) : parseIntC (natDigits n) = some (n : Int) := isPyInt.natDigits isBlank_facts n

/-- `int("{}".format(i)) = i` for every integer -/
theorem parseIntC_showIntC (i : Int) : parseIntC (showIntC i) = some i := isPyInt.showInt isBlank_facts i

theorem showIntC_ne_nil (i : Int) : showIntC i ≠ [] := by
  unfold showIntC
  split
  · simp
  · exact Digits.natDigits_ne_nil _

/-- `parse_ints(str(n))[0] = n` -/
theorem firstInt_natDigits (n : Nat) : firstInt (natDigits n) = some n := by
  simp only [firstInt, Digits.leadingDigits_natDigits, Digits.natDigits_ne_nil n, if_false, Digits.digitsToNat_natDigits]

theorem intOr_truthy (v : Option Int) (d : Int) : intOr (truthy v) d = intOr v d := by
  unfold intOr truthy
  cases v with
  | none => rfl
  | some i => by_cases h : i = 0 <;> simp [h]

theorem intOr_ne_zero {v : Int} (h : v ≠ 0) (d : Int) : intOr (some v) d = v := by simp [intOr, h]

theorem intOr_zero (v : Option Int) : intOr v 0 = v.getD 0 := by
  cases v with
  | none => rfl
  | some i => by_cases h : i = 0 <;> simp [intOr, h]

theorem tagInt_leaf_int (t : Tag) (i : Int) : tagInt (some (leaf t (showIntC i))) = some (some i) := by
  simp only [tagInt, leaf, Xml.text, showIntC_ne_nil, if_false, parseIntC_showIntC]

theorem tagInt_leaf_nat (t : Tag) (k : Nat) : tagInt (some (leaf t (natDigits k))) = some (some (k : Int)) := by
  simp only [tagInt, leaf, Xml.text, Digits.natDigits_ne_nil, if_false, parseIntC_natDigits]

/-- an optional integer child, written unless it is 0, reads back as `truthy` -/
theorem tagInt_head_optLeaf (t : Tag) (o : Option Int) :
    tagInt ((match o with | some a => if a = 0 then [] else [leaf t (showIntC a)] | none => []).head?) =
      some (truthy o) := by
  cases o with
  | none => rfl
  | some a =>
    unfold truthy
    dsimp only
    split
    · rfl
    · exact tagInt_leaf_int _ a

theorem tagInt_map_leaf {α : Type} (t : Tag) (f : α → Int) (o : Option α) :
    tagInt (o.map fun a => leaf t (showIntC (f a))) = some (o.map f) := by
  cases o with
  | none => rfl
  | some a => exact tagInt_leaf_int t (f a)

theorem pyStr_ok {s : Str} (h : TextOK s) : pyStr s = s := by
  unfold pyStr; simp [show s ≠ [] from h]

theorem strOrNone_ok {s : Str} (h : TextOK s) : strOrNone (some s) = some s := by
  unfold strOrNone; simp [show s ≠ [] from h]

theorem strOrNone_tagStr_leaf (t : Tag) (o : Option Str) (h : ∀ s ∈ o, TextOK s) :
    strOrNone (tagStr ((match o with | some s => [leaf t s] | none => []).head?)) = o := by
  cases o with
  | none => rfl
  | some s =>
    have hs : TextOK s := h s rfl
    simp only [List.head?_cons, tagStr, leaf, Xml.text, pyStr_ok hs, strOrNone_ok hs]

theorem attrInt_number (t : Tag) (k : Nat) (as : List (Attr × Str)) (tx : Str) (ks : List Xml) :
    attrInt (.el t ((.number, natDigits k) :: as) tx ks) .number = some (k : Int) := by
  simp [attrInt, Xml.get, Xml.attrs, Model.lookup, parseIntC_natDigits]

end C03.Text
