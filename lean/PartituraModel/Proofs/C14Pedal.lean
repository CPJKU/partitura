/-
The pedal change table of `adjust_offsets_w_sustain` computes, for every release `r` between the first and the
last release, `if downBefore r stream then (first pedal-up time ≥ r, or the closing sentinel) else r`
(`pedalEnd_table`), and its times are ascending (`pedalTable_sorted`).
-/
import PartituraModel.Proofs.C14Sort

namespace C14P
open Model Model.Pedal

/-- walking along the table: the state of the last entry before `r`, the time of the next entry -/
def walkEnd (r : Rat) : Bool → List Ev → Option Rat
  | _, [] => none
  | s, e :: es => if e.1 < r then walkEnd r e.2 es else some (if s then e.1 else r)

theorem pedalEnd_cons_lt (t0 e : Ev) (es : List Ev) (r : Rat) (h0 : t0.1 < r) (he : e.1 < r) :
    pedalEnd (t0 :: e :: es) r = pedalEnd (e :: es) r := by
  simp only [pedalEnd, List.map_cons, searchsortedLeft_cons, if_pos h0, if_pos he, Nat.add_one_ne_zero, if_false,
    Nat.add_sub_cancel, List.getElem?_cons_succ]

theorem pedalEnd_eq_walk (t0 : Ev) (T : List Ev) (r : Rat) (h0 : t0.1 < r) :
    pedalEnd (t0 :: T) r = walkEnd r t0.2 T := by
  induction T generalizing t0 with
  | nil => simp [pedalEnd, h0, walkEnd, searchsortedLeft]
  | cons e es ih =>
    by_cases he : e.1 < r
    · rw [pedalEnd_cons_lt t0 e es r h0 he, ih e he, walkEnd, if_pos he]
    · simp only [pedalEnd, List.map_cons, searchsortedLeft_cons, if_pos h0, if_neg he, Nat.zero_add,
        Nat.add_one_ne_zero, if_false, Nat.sub_self, List.getElem?_cons_zero, List.getElem?_cons_succ, walkEnd]

def lastState (s : Bool) (l : List Ev) : Bool :=
  match l.getLast? with
  | some e => e.2
  | none => s

theorem lastState_cons (s : Bool) (b : Ev) (l : List Ev) : lastState s (b :: l) = lastState b.2 l := by
  cases l with
  | nil => rfl
  | cons x xs =>
    unfold lastState
    rw [List.getLast?_cons_cons]
    cases h : (x :: xs).getLast? with
    | none => simp at h
    | some e => rfl

theorem upTimes_cons (r : Rat) (b : Ev) (E : List Ev) :
    upTimes r (b :: E) = if r ≤ b.1 ∧ b.2 = false then b.1 :: upTimes r E else upTimes r E := by
  by_cases h : r ≤ b.1 <;> cases hb : b.2 <;> simp [upTimes, h, hb]

/-- the walk along the flips of a sorted stream: events before `r` only move the state; from the first event at or
    after `r` on the walk stops at the first flip, which in state "down" is the first pedal-up event (the earliest
    one, the stream being sorted) -/
theorem walk_flips (r c : Rat) (s : Bool) (E : List Ev) (hc : ¬ c < r) (hs : SortedBy (·.1) E)
    (hle : ∀ e ∈ E, e.1 ≤ c) :
    walkEnd r s (flipsFrom s E ++ [(c, false)])
      = some (if lastState s (E.filter (fun e => decide (e.1 < r))) then minOf c (upTimes r E) else r) := by
  induction E generalizing s with
  | nil => simp only [flipsFrom, List.nil_append, walkEnd, if_neg hc]; rfl
  | cons b rest ih =>
    have hp := List.pairwise_cons.mp hs
    have ih' := ih b.2 hp.2 (fun e he => hle e (List.mem_cons_of_mem _ he))
    rw [flipsFrom]
    by_cases hb : b.1 < r
    · rw [List.filter_cons, if_pos (decide_eq_true hb), lastState_cons,
        (upTimes_cons r b rest).trans (if_neg (fun h => absurd hb (not_lt.mpr h.1))), ← ih']
      by_cases hbs : b.2 = s
      · rw [if_pos hbs, hbs]
      · rw [if_neg hbs, List.cons_append, walkEnd, if_pos hb]
    · -- `b` and everything after it lie at or after `r`
      have hb' : r ≤ b.1 := not_lt.mp hb
      have hnil : ∀ l : List Ev, (∀ e ∈ l, b.1 ≤ e.1) → l.filter (fun e => decide (e.1 < r)) = [] := fun l hl =>
        List.filter_eq_nil_iff.mpr (fun e he => by simpa using le_trans hb' (hl e he))
      rw [hnil rest hp.1] at ih'
      rw [hnil (b :: rest) (fun e he => (List.mem_cons.mp he).elim (fun h => h ▸ le_refl _) (hp.1 e))]
      by_cases hbs : b.2 = s
      · subst hbs
        rw [if_pos rfl, ih']
        cases hb2 : b.2
        · rfl
        · rw [(upTimes_cons r b rest).trans (if_neg (fun h => Bool.noConfusion (hb2.symm.trans h.2)))]
      · rw [if_neg hbs, List.cons_append, walkEnd, if_neg hb]
        cases s
        · rfl
        · have hb2 : b.2 = false := by simpa using hbs
          rw [(upTimes_cons r b rest).trans (if_pos ⟨hb', hb2⟩), minOf, List.foldl_cons,
            min_eq_right (hle b List.mem_cons_self)]
          exact congrArg some (Lists.foldl_min_eq_init _ _ (fun y hy => by
            obtain ⟨e, he, rfl⟩ := List.mem_map.mp hy
            exact hp.1 e (List.mem_filter.mp he).1)).symm

theorem downBefore_eq_lastState (r : Rat) (E : List Ev) :
    downBefore r E = lastState false (E.filter (fun e => decide (e.1 < r))) := by
  unfold lastState downBefore
  cases (E.filter (fun e => decide (e.1 < r))).getLast? <;> rfl

theorem pedalTable_cons (p0 : Ev) (E : List Ev) (firstOff lastOff : Rat) :
    pedalTable (p0 :: E) firstOff lastOff = some ((min (p0.1 - 1) (firstOff - 1), false) :: p0 ::
      (flipsFrom p0.2 E ++ [(max ((E.getLast?.getD p0).1 + 1) (lastOff + 1), false)])) := by
  simp only [pedalTable, List.getLast?_cons, flips]

theorem le_closingTime (p0 : Ev) (E : List Ev) (lastOff : Rat) (hE : SortedBy (·.1) (p0 :: E)) :
    ∀ e ∈ p0 :: E, e.1 ≤ max ((E.getLast?.getD p0).1 + 1) (lastOff + 1) := fun e he =>
  (Lists.pairwise_getLast? (fun a => le_refl a.1) hE List.getLast?_cons e he).trans
    ((lt_add_one _).le.trans (le_max_left _ _))

theorem pedalEnd_table (s0 : Rat) (p0 : Ev) (E : List Ev) (c r : Rat) (hE : SortedBy (·.1) (p0 :: E))
    (hs0 : s0 < r) (hc : ¬ c < r) (hle : ∀ e ∈ p0 :: E, e.1 ≤ c) :
    pedalEnd ((s0, false) :: p0 :: (flipsFrom p0.2 E ++ [(c, false)])) r
      = some (if downBefore r (p0 :: E) then minOf c (upTimes r (p0 :: E)) else r) := by
  have hp := List.pairwise_cons.mp hE
  rw [pedalEnd_eq_walk (s0, false) _ r hs0, walkEnd, downBefore_eq_lastState, List.filter_cons]
  by_cases hp0 : p0.1 < r
  · rw [if_pos hp0, if_pos (decide_eq_true hp0), lastState_cons,
      (upTimes_cons r p0 E).trans (if_neg (fun h => absurd hp0 (not_lt.mpr h.1)))]
    exact walk_flips r c p0.2 E hc hp.2 (fun e he => hle e (List.mem_cons_of_mem _ he))
  · rw [if_neg hp0, if_neg (show ¬ decide (p0.1 < r) = true by simpa using hp0),
      List.filter_eq_nil_iff.mpr (fun e he => by simpa using le_trans (not_lt.mp hp0) (hp.1 e he))]
    rfl

theorem flipsFrom_sublist (s : Bool) (E : List Ev) : (flipsFrom s E).Sublist E := by
  induction E generalizing s with
  | nil => exact List.Sublist.refl _
  | cons b rest ih =>
    unfold flipsFrom
    split
    · exact (ih b.2).cons b
    · exact (ih b.2).cons_cons b

theorem pedalTable_sorted (E : List Ev) (firstOff lastOff : Rat) (T : List Ev)
    (hT : pedalTable E firstOff lastOff = some T) (hE : SortedBy (·.1) E) : SortedBy (·.1) T := by
  cases E with
  | nil => simp [pedalTable] at hT
  | cons p0 E' =>
    rw [pedalTable_cons, Option.some.injEq] at hT
    subst hT
    have hp := List.pairwise_cons.mp hE
    have hsub : (p0 :: flipsFrom p0.2 E').Sublist (p0 :: E') := (flipsFrom_sublist p0.2 E').cons_cons p0
    have hle := le_closingTime p0 E' lastOff hE
    have hm : ∀ e ∈ p0 :: E', min (p0.1 - 1) (firstOff - 1) ≤ e.1 := fun e he =>
      ((min_le_left _ _).trans (sub_one_lt _).le).trans (by
        rcases List.mem_cons.mp he with rfl | he
        · exact le_refl _
        · exact hp.1 e he)
    show List.Pairwise _ (_ :: ((p0 :: flipsFrom p0.2 E') ++ [_]))
    refine List.pairwise_cons.mpr ⟨fun e he => ?_, List.pairwise_append.mpr
      ⟨hE.sublist hsub, List.pairwise_singleton _ _, fun a ha b hb => ?_⟩⟩
    · rcases List.mem_append.mp he with h | h
      · exact hm e (hsub.subset h)
      · rw [List.mem_singleton.mp h]
        exact (hm p0 List.mem_cons_self).trans (hle p0 List.mem_cons_self)
    · rw [List.mem_singleton.mp hb]
      exact hle a (hsub.subset ha)

end C14P
