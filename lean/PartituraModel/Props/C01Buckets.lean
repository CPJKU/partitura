/-
C01 — the flat insertion-ordered registry of Model/Timeline.lean is a SOUND ABSTRACTION of the
class-keyed `defaultdict(_OrderedSet)` the code keeps (Model/TimelineBuckets.lean): whatever sequence of
`add_*_object`, `Part.remove` deregistrations, `remove_*_object`, `iter_starting/iter_ending` reads (which
create empty buckets) and `_cleanup_point` emptiness tests is performed, every result is the same.
-/
import PartituraModel.Proofs.C01Buckets

namespace C01
open TL

/-- a bucket IS the per-class view the flat model computes by filtering (also for classes without a key) -/
theorem bucket_is_filter {b : Buckets} {flat : List ObjRef} (h : Rep b flat) (c : Nat) :
    b.get c = flat.filter (fun o => o.cls == c) := by
  unfold Buckets.get
  cases hf : b.find? (fun e => e.1 == c) with
  | some e =>
    have hm := List.mem_of_find?_eq_some hf
    have hk : e.1 = c := by simpa using List.find?_some hf
    simp only [Option.map_some, Option.getD_some]
    rw [h.bucket e hm, hk]
  | none =>
    simp only [Option.map_none, Option.getD_none]
    symm
    apply h.no_key
    intro hc
    obtain ⟨e, he, hk⟩ := List.mem_map.mp hc
    have := List.find?_eq_none.mp hf e he
    simp [hk] at this

/-- `_cleanup_point`: `sum(len(starting buckets)) + sum(len(ending buckets)) == 0` is the model's test
`p.starting.length + p.ending.length = 0` — empty buckets left behind by reading do not matter -/
theorem cleanup_test_sound {bs be : Buckets} {p : Point} (hs : Rep bs p.starting) (he : Rep be p.ending) :
    bs.total + be.total = p.starting.length + p.ending.length := by
  rw [rep_total hs, rep_total he]

/-- walking the classes `ws`: the buckets read are the flat list's per-class views, the keys created on the way
do not change what the dictionary represents -/
theorem rep_walk (flat : List ObjRef) : ∀ (ws : List Nat) (acc : List ObjRef) (b : Buckets), Rep b flat →
    (ws.foldl (fun acc c => (acc.1 ++ acc.2.get c, acc.2.touch c)) (acc, b)).1
      = acc ++ ws.flatMap (fun c => flat.filter (fun o => o.cls == c))
    ∧ Rep (ws.foldl (fun acc c => (acc.1 ++ acc.2.get c, acc.2.touch c)) (acc, b)).2 flat
  | [], acc, b, h => by simp [h]
  | c :: ws, acc, b, h => by
    simp only [List.foldl_cons, List.flatMap_cons]
    obtain ⟨h1, h2⟩ := rep_walk flat ws (acc ++ b.get c) (b.touch c) (rep_touch h c)
    refine ⟨?_, h2⟩
    rw [h1, bucket_is_filter h c, List.append_assoc]

/-- reading (`iter_starting(cls, include_subclasses)`) yields the flat model's answer in the same order and
changes nothing that is represented — it only creates empty buckets -/
theorem reading_is_harmless {b : Buckets} {flat : List ObjRef} (h : Rep b flat) (cls : Option Nat) (incl : Bool) :
    (b.iter cls incl).1 = iterReg flat cls incl ∧ Rep (b.iter cls incl).2 flat := by
  unfold Buckets.iter
  obtain ⟨h1, h2⟩ := rep_walk flat (classWalk cls incl) [] b h
  refine ⟨?_, h2⟩
  rw [h1, iterReg_eq_classOrder, classWalk_eq_classOrder]
  rfl

theorem registry_step {b : Buckets} {flat : List ObjRef} (h : Rep b flat) (op : BOp) :
    (stepB b op).2 = (stepF flat op).2 ∧ Rep (stepB b op).1 (stepF flat op).1 := by
  cases op with
  | add o => exact ⟨rfl, rep_add h o⟩
  | removeTouch o => exact ⟨rfl, rep_removeTouch h o⟩
  | removeIfKey o => exact ⟨rfl, rep_removeIfKey h o⟩
  | iter cls incl =>
    obtain ⟨h1, h2⟩ := reading_is_harmless h cls incl
    exact ⟨by simp only [stepB, stepF, h1], h2⟩
  | total => exact ⟨by simp only [stepB, stepF, rep_total h], h⟩

theorem registry_run : ∀ (ops : List BOp) {b : Buckets} {flat : List ObjRef}, Rep b flat →
    (runB b ops).2 = (runF flat ops).2 ∧ Rep (runB b ops).1 (runF flat ops).1
  | [], _, _, h => ⟨rfl, h⟩
  | op :: ops, b, flat, h => by
    obtain ⟨h1, h2⟩ := registry_step h op
    obtain ⟨h3, h4⟩ := registry_run ops h2
    simp only [runB, runF]
    exact ⟨by rw [h1, h3], h4⟩

/-- every operation sequence on a fresh registry: the dictionary and the flat list give the same results, and
the dictionary keeps representing the list (each bucket = the list's objects of exactly that class, in order) -/
theorem registry_refinement (ops : List BOp) :
    (runB [] ops).2 = (runF [] ops).2 ∧ Rep (runB [] ops).1 (runF [] ops).1 :=
  registry_run ops rep_empty

section Examples

def bA : ObjRef := { id := 0, cls := 2 }
def bB : ObjRef := { id := 1, cls := 3 }
def bC : ObjRef := { id := 2, cls := 2 }

def bops : List BOp :=
  [.add bB, .add bA, .iter (some 1) true, .add bC, .removeTouch bA, .add bA, .removeIfKey bB, .total,
   .iter (some 2) true, .removeIfKey { id := 9, cls := 38 }, .removeTouch { id := 9, cls := 38 }]

/-- reading created the keys 1 (GenericNote) … before any object of those classes existed; the GraceNote bucket (3)
is empty again after the removal but its key stays; `removeTouch` of an unknown object created key 38 -/
example : (runB [] bops).1.map (fun e => (e.1, e.2.map (·.id)))
    = [(3, []), (2, [2, 0]), (1, []), (4, []), (5, []), (38, [])] := by decide +kernel
example : (runF [] bops).1 = [bC, bA] := by decide +kernel
example : (runB [] bops).2 = [.unit, .unit, .objs [bA, bB], .unit, .unit, .unit, .unit, .count 2, .objs [bC, bA],
    .unit, .unit] := by decide +kernel
example : Rep [(3, []), (2, [bC, bA]), (1, [])] [bC, bA] :=
  ⟨by decide, by decide, by decide⟩

end Examples

end C01
