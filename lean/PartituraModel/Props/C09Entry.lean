/-
C09 — the public entry points and the note ids: the literals and the argument dispatch that `harness/translate_c09.py`
reads off the LIVE code on every run (Gen/C09Lits.lean); what every entry point computes in terms of `mkSegments` /
`getPaths` / `variant` / `suffixIds`; END-TO-END statements for a call with NO side condition other than the call having
returned (the hypotheses `OffsetsOK`, positive lengths, `DisjointSegs` of Props/C09 and C09Ext are discharged from
`add_segments` and `get_paths`); ids of ANY shape, duplicates included.
-/
import PartituraModel.Props.C09Ext
import PartituraModel.Proofs.C09Entry
import PartituraModel.Model.UnfoldIds

namespace C09
open Model.Unfold

/-- every probe of the translator succeeded; ids of every shape ('m3-2', 'a' / 'a-1' / 'a-1-1', '7', '-', 'n-', '-5',
'x--2', 'n-01', …) get exactly the separator and the first number appended by the live function, a note without an id
keeps None, of two notes with one id the earlier onset gets the first number -/
theorem lits_extracted :
    Gen.C09.OK = true ∧ Gen.C09.NOTES = [] ∧ Gen.C09.ID_SHAPES_OK = true ∧ Gen.C09.ID_NONE_KEPT = true ∧
    Gen.C09.ID_RANK_BY_ONSET = true := by decide +kernel

/-- the kinds the model drops are exactly the classes whose instances the live `create_variant_part` does not copy
(Repeat, Ending, ToCoda, DaCapo, DalSegno, Segment, System, Page); every other kind stands for a class the live code
copies (Fine, Segno and Coda among them: they are marks, not jump instructions) -/
theorem dropped_classes_are_source (k : Kind) :
    k.dropped = Gen.C09.DROPPED.contains k.className ∧
    (k.dropped = false → Gen.C09.KEPT.contains k.className = true) ∧
    Gen.C09.DROPPED.length = 8 ∧ (∀ c ∈ ["Fine", "Segno", "Coda"], Gen.C09.KEPT.contains c = true) := by
  cases k <;> decide

/-- the suffix of the model is the suffix of the live function: separator and first number -/
theorem id_format_is_source (s : String) (k : Nat) :
    s ++ "-" ++ toString (1 + k) = s ++ Gen.C09.ID_SEP ++ toString (Gen.C09.ID_FIRST + k) := rfl

/-- the segment ids of the model (`chr(65 + i)`, `"END"`) are those the live `add_segments` hands out -/
theorem segment_ids_are_source (i : Nat) : segId i = [Gen.C09.SEG_ID_BASE + i] ∧ endId = Gen.C09.END := ⟨rfl, rfl⟩

/-- the defaults of the signatures and the flags that reach `get_paths` / `new_part_from_path` from each entry point, as
recorded on the live code: maximal = (no_repeats False, all_repeats True, the caller's ignore_leaps, the caller's
update_ids) for a Part and for a Score alike; minimal = (True, False, True, no ids); all variants = (False, False, True,
the caller's update_ids); the variants made for the alignment = (False, False, True, no ids at that point);
`ignore_leaps` defaults to True and `get_paths` to (False, False, True), as documented.  The last line: which of the
enumerated paths each entry point unfolded on a part with one repeat — the first one, and both for the iterator.  (The
default of `update_ids` is not the same everywhere: the signatures say True, the docstrings False, the property "on request"; the
theorems below are stated for whatever the live signature says — `Gen.C09.MAX_DEF.1`, `ITER_DEF`, `NEWPART_DEF`.) -/
theorem entry_defaults_and_flags :
    Gen.C09.MAX_DEF.2 = true ∧ Gen.C09.PATHS_DEF = (false, false, true) ∧
    Gen.C09.maximalCall = (.const false, .const true, .ignoreLeaps, .updateIds) ∧
    Gen.C09.maximalScoreCall = Gen.C09.maximalCall ∧
    Gen.C09.minimalCall = (.const true, .const false, .const true, .const false) ∧
    Gen.C09.minimalScoreCall = Gen.C09.minimalCall ∧
    Gen.C09.iterCall = (.const false, .const false, .const true, .updateIds) ∧
    Gen.C09.variantsCall = (.const false, .const false, .const true, .const false) ∧
    Gen.C09.maximalPick = [0] ∧ Gen.C09.maximalScorePick = [0] ∧ Gen.C09.minimalPick = [0] ∧
    Gen.C09.minimalScorePick = [0] ∧ Gen.C09.iterPick = [0, 1] := by decide +kernel

/-- `new_part_from_path`: the visits of the path, `create_variant_part`, ids on request (default: that of the live signature) -/
theorem new_part_from_path_is (g : List Seg) (p : APart) (path : List Nat) (upd : Option Bool) :
    newPartFromPath g p path upd = (visitsOf g path).map fun vs =>
      if upd.getD Gen.C09.NEWPART_DEF then { variant p vs with objs := suffixIds (variant p vs).objs }
      else variant p vs := rfl

/-- `unfold_part_maximal(part, update_ids, ignore_leaps)`: the FIRST path of the enumeration with all repeats taken
(`no_repeats=False, all_repeats=True, ignore_leap_info=ignore_leaps`), unfolded with `update_ids` (default: that of the live signature; `ignore_leaps` defaults to True) -/
theorem unfold_part_maximal_is (L : Layout) (p : APart) (upd il : Option Bool) (fuel : Nat) :
    unfoldPartMaximal L p upd il fuel =
      (mkSegments L).bind fun g => (getPaths g false true (il.getD true) fuel).bind fun ps =>
        ps.head?.bind fun path => newPartFromPath g p path (some (upd.getD Gen.C09.MAX_DEF.1)) :=
  unfoldWith_first Gen.C09.maximalCall L p (upd.getD Gen.C09.MAX_DEF.1) (il.getD Gen.C09.MAX_DEF.2) fuel

/-- `unfold_part_minimal(part)`: the first path of the enumeration without repeats, ids never updated -/
theorem unfold_part_minimal_is (L : Layout) (p : APart) (fuel : Nat) :
    unfoldPartMinimal L p fuel =
      (mkSegments L).bind fun g => (getPaths g true false true fuel).bind fun ps =>
        ps.head?.bind fun path => newPartFromPath g p path (some false) :=
  unfoldWith_first Gen.C09.minimalCall L p false false fuel

/-- `iter_unfolded_parts(part, update_ids)`: every path of the full enumeration (`False, False, True`), in order -/
theorem iter_unfolded_parts_is (L : Layout) (p : APart) (upd : Option Bool) (fuel : Nat) :
    iterUnfoldedParts L p upd fuel =
      (mkSegments L).bind fun g => (getPaths g false false true fuel).bind fun ps =>
        ps.mapM fun path => newPartFromPath g p path (some (upd.getD Gen.C09.ITER_DEF)) :=
  unfoldWith_eq Gen.C09.iterCall L p (upd.getD Gen.C09.ITER_DEF) true fuel some

/-- unfolding a Score is unfolding each of its parts with the caller's arguments (maximal and minimal) -/
theorem unfold_score_is_partwise (parts : List (Layout × APart)) (upd il : Option Bool) (fuel : Nat) :
    unfoldScoreMaximal parts upd il fuel = parts.mapM (fun lp => unfoldPartMaximal lp.1 lp.2 upd il fuel) ∧
    unfoldScoreMinimal parts fuel = parts.mapM (fun lp => unfoldPartMinimal lp.1 lp.2 fuel) := ⟨rfl, rfl⟩

/-- The suffixed id can be read back: `<id>-<number>` determines the original id and the number WHATEVER the original id
looks like (it may end in `-<n>`, contain the separator, be a number, be a prefix or a suffixed form of another id):
the number is the part after the LAST separator. -/
theorem suffix_unambiguous (s t : String) (a b : Nat) (h : s ++ "-" ++ toString a = t ++ "-" ++ toString b) :
    s = t ∧ a = b := by
  have h' := congrArg String.toList h
  simp only [String.toList_append, Nat.toString_eq_repr, Nat.toList_repr, List.append_assoc] at h'
  have hs : ("-" : String).toList = ['-'] := by decide
  rw [hs] at h'
  simp only [List.cons_append, List.nil_append] at h'
  obtain ⟨r1, r2⟩ := split_last_sep '-' s.toList t.toList _ _ (dash_not_in_toDigits a) (dash_not_in_toDigits b) h'
  exact ⟨String.toList_inj.mp r1, toDigits_inj a b r2⟩

-- non-vacuity: 'a' on its 11th visit and 'a-1' on its first one
example : ("a" ++ "-" ++ toString 11 = "a-11") ∧ ("a-1" ++ "-" ++ toString 1 = "a-1-1") ∧
    ("m3-2" ++ "-" ++ toString 1 = "m3-2-1") := by decide +kernel

/-- Among the notes that share an id (in ANY list of copies: unique or duplicate ids in the original), the one that comes
first in `sorted(part.notes, key=start)` — earlier onset; at one onset Note before GraceNote, then order of registration —
gets the smaller number. -/
theorem ids_rank_order (out : List OObj) (i j : Nat) (x y : OObj) (hx : out[i]? = some x) (hy : out[j]? = some y)
    (hkx : x.kind = .note) (hid : x.nid = y.nid) (hb : noteBefore (i, x) j y = true) :
    idRank out i x < idRank out j y :=
  idRank_lt out i j x y hx hkx hid hb

/-- After `update_note_ids_after_unfolding` no two notes carry the same id — for EVERY list of copies and every shape of
the original ids, duplicates in the original included (a note without an id keeps None). -/
theorem suffixed_ids_distinct (out : List OObj) (i j : Nat) (x y : OObj)
    (hx : (suffixIds out)[i]? = some x) (hy : (suffixIds out)[j]? = some y)
    (hkx : x.kind = .note) (hky : y.kind = .note) (hnx : x.nid ≠ none) (hid : x.nid = y.nid) : i = j := by
  have key : ∀ (k : Nat) (z : OObj), (suffixIds out)[k]? = some z → z.kind = .note → z.nid ≠ none →
      ∃ c s, out[k]? = some c ∧ c.kind = .note ∧ c.nid = some s ∧
        z.nid = some (s ++ "-" ++ toString (idRank out k c)) := by
    intro k z hz hk hn
    cases hc : out[k]? with
    | none =>
      have : (suffixIds out)[k]? = none := by
        unfold suffixIds; rw [List.getElem?_map, enum_get, hc]; rfl
      rw [this] at hz; cases hz
    | some c =>
      have he : (enum 0 out)[k]? = some (k, c) := by rw [enum_get, hc]; simp
      obtain ⟨c', h1, _, _, h4, _, _, _, _, h9⟩ := ids_suffixed_rank out k c he
      rw [hz] at h1
      simp only [Option.some.injEq] at h1
      subst h1
      have hck : c.kind = .note := by rw [← h4]; exact hk
      rw [hck] at h9
      cases hcn : c.nid with
      | none => rw [hcn] at h9; exact absurd h9 hn
      | some s => rw [hcn] at h9; exact ⟨c, s, rfl, hck, hcn, h9⟩
  obtain ⟨cx, s, hcx, hkcx, hncx, hxn⟩ := key i x hx hkx hnx
  obtain ⟨cy, t, hcy, hkcy, hncy, hyn⟩ := key j y hy hky (by rw [← hid]; exact hnx)
  rw [hxn, hyn] at hid
  simp only [Option.some.injEq] at hid
  obtain ⟨hst, hrank⟩ := suffix_unambiguous s t _ _ hid
  by_cases hij : i = j
  · exact hij
  · exact absurd hrank (idRank_ne out i j cx cy hcx hcy hkcx hkcy (by rw [hncx, hncy, hst]) hij)

-- non-vacuity: the ids 'a', 'a' (a duplicate) and 'a-1': the copies get 'a-1', 'a-2', 'a-1-1'
example : (suffixIds
    [{ orig := 0, visit := 0, kind := .note, start := 0, stp := some 1, payload := [], nid := some "a", refs := [] },
     { orig := 1, visit := 0, kind := .note, start := 2, stp := some 3, payload := [], nid := some "a", refs := [] },
     { orig := 2, visit := 0, kind := .note, start := 1, stp := some 2, payload := [], nid := some "a-1", refs := [] }]).map (·.nid)
    = [some "a-1", some "a-2", some "a-1-1"] := by decide +kernel

-- … and at one onset a Note is numbered before a GraceNote with the same id, whatever the order of registration
example : (suffixIds
    [{ orig := 0, visit := 0, kind := .note, start := 0, stp := some 0, payload := [], nid := some "d", refs := [], cls := 1 },
     { orig := 1, visit := 0, kind := .note, start := 0, stp := some 1, payload := [], nid := some "d", refs := [] }]).map (·.nid)
    = [some "d-2", some "d-1"] := by decide +kernel

/-- `new_part_from_path` never misses a segment (no KeyError) on a path the enumeration produced. -/
theorem unfolding_never_misses_a_segment (g : List Seg) (nr ar il : Bool) (fuel : Nat) (ps : List (List Nat))
    (h : getPaths g nr ar il fuel = some ps) (path : List Nat) (hp : path ∈ ps) (p : APart) (upd : Option Bool) :
    ∃ vs v, visitsOf g path = some vs ∧ newPartFromPath g p path upd = some v := by
  obtain ⟨_, hw, l, hl, s, hs, _⟩ := paths_are_walks g nr ar il fuel ps h path hp
  obtain ⟨vs, hvs⟩ := visitsFrom_some g path 0 (walk_indices g path hw (fun l' hl' => by
    rw [hl] at hl'; simp only [Option.some.injEq] at hl'; subst hl'; exact ⟨s, hs⟩))
  have hvs' : visitsOf g path = some vs := hvs
  exact ⟨vs, if upd.getD Gen.C09.NEWPART_DEF then { variant p vs with objs := suffixIds (variant p vs).objs } else variant p vs, hvs',
    by rw [new_part_from_path_is, hvs']; rfl⟩

/-- whichever flags an entry point passes on: when the enumeration on the table of `add_segments` starts with `path`, unfolding
the first path returns (no exception) the part made along `path` -/
theorem first_path_unfolds (call : Gen.C09.Src × Gen.C09.Src × Gen.C09.Src × Gen.C09.Src) (L : Layout) (p : APart)
    (upd il : Bool) (fuel : Nat) (path : List Nat) (rest : List (List Nat))
    (h : ((mkSegments L).bind fun g =>
      getPaths g (call.1.eval upd il) (call.2.1.eval upd il) (call.2.2.1.eval upd il) fuel) = some (path :: rest)) :
    ∃ g v, mkSegments L = some g ∧ (unfoldWith call L p upd il fuel firstPath).bind (·.head?) = some v ∧
      newPartFromPath g p path (some (call.2.2.2.eval upd il)) = some v := by
  rw [unfoldWith_first]
  cases hg : mkSegments L with
  | none => simp [hg] at h
  | some g =>
    simp only [hg, Option.bind_some] at h ⊢
    rw [h]
    simp only [Option.bind_some, List.head?_cons]
    obtain ⟨_, v, _, hv⟩ := unfolding_never_misses_a_segment g _ _ _ fuel _ h path (by simp) p (some (call.2.2.2.eval upd il))
    exact ⟨g, v, rfl, hv, hv⟩

/-- What a successful call `unfold_part_maximal(part, update_ids, ignore_leaps)` returns, with NO side condition: there
are the segment table of `add_segments`, the first path of the all-repeats enumeration and its visits such that
 * the path is permitted: it starts at the first segment, every step is a destination of the table, its last segment
   reaches END;
 * the offsets are the running sums of the visited segments' lengths, every visited segment has positive length, the
   segments are pairwise disjoint;
 * the time points, the quarter durations and the objects are those of `create_variant_part` along these visits, the
   ids suffixed exactly when `update_ids` (default: the live signature's).
Everything Props/C09 proves about `variant p vs` under `OffsetsOK 0 vs`, positive lengths and `DisjointSegs g` therefore
holds for the returned part. -/
theorem unfold_part_maximal_sound (L : Layout) (p : APart) (upd il : Option Bool) (fuel : Nat) (v : Variant)
    (h : unfoldPartMaximal L p upd il fuel = some v) :
    ∃ (g : List Seg) (ps : List (List Nat)) (path : List Nat) (vs : List Visit),
      mkSegments L = some g ∧ getPaths g false true (il.getD true) fuel = some ps ∧ ps.head? = some path ∧
      visitsOf g path = some vs ∧
      path.head? = some 0 ∧ Walk g path ∧ (∃ l, path.getLast? = some l ∧ Edge g l .fin) ∧
      OffsetsOK 0 vs ∧ visitLens vs = path.map (segLen g) ∧ (∀ w ∈ vs, w.s < w.e) ∧ DisjointSegs g ∧
      v.points = (variant p vs).points ∧ v.qd = (variant p vs).qd ∧
      v.objs = (if upd.getD Gen.C09.MAX_DEF.1 then suffixIds (variant p vs).objs else (variant p vs).objs) := by
  rw [unfold_part_maximal_is] at h
  cases hg : mkSegments L with
  | none => simp [hg] at h
  | some g =>
    simp only [hg, Option.bind_some] at h
    cases hps : getPaths g false true (il.getD true) fuel with
    | none => simp [hps] at h
    | some ps =>
      simp only [hps, Option.bind_some] at h
      cases hpath : ps.head? with
      | none => simp [hpath] at h
      | some path =>
        simp only [hpath, Option.bind_some, newPartFromPath] at h
        cases hvs : visitsOf g path with
        | none => simp [hvs] at h
        | some vs =>
          simp only [hvs, Option.map_some, Option.some.injEq, Option.getD_some] at h
          have hmem : path ∈ ps := List.mem_of_mem_head? hpath
          obtain ⟨w1, w2, w3⟩ := paths_are_walks g false true (il.getD true) fuel ps hps path hmem
          obtain ⟨o1, o2, _⟩ := offsets_are_prefix_sums g path vs hvs
          refine ⟨g, ps, path, vs, rfl, hps, hpath, hvs, w1, w2, w3, o1, o2, visits_pos L g hg path vs hvs, segments_disjoint L g hg, ?_, ?_, ?_⟩
          all_goals (subst h; cases upd.getD Gen.C09.MAX_DEF.1 <;> rfl)

/-- Ids on request, END TO END: for the segment table of ANY part and ANY list of segment numbers that has visits (every
enumerated path has: `unfolding_never_misses_a_segment`), in a part whose notes have unique ids the copy `c` made in
visit number `c.visit` (0-based position in the path) of a note with id `s` gets `s-<n>` where `n` = 1 + the number of
EARLIER occurrences of that visit's segment in the path — the visit number — and nothing else of the copy changes.  No
hypothesis on offsets, lengths or disjointness is left: they follow from `add_segments`. -/
theorem ids_are_visit_numbers (L : Layout) (g : List Seg) (hg : mkSegments L = some g) (path : List Nat)
    (vs : List Visit) (hvs : visitsOf g path = some vs) (p : APart) (huniq : UniqueNoteIds p.objs)
    (pos : Nat) (c : OObj) (hc : (variant p vs).objs[pos]? = some c) (hk : c.kind = .note) (s : String)
    (hn : c.nid = some s) :
    ∃ (j : Nat) (c' : OObj), path[c.visit]? = some j ∧ (suffixIds (variant p vs).objs)[pos]? = some c' ∧
      c'.nid = some (s ++ "-" ++ toString (1 + (path.take c.visit).count j)) ∧
      c'.orig = c.orig ∧ c'.visit = c.visit ∧ c'.kind = c.kind ∧ c'.start = c.start ∧ c'.stp = c.stp ∧
      c'.payload = c.payload ∧ c'.refs = c.refs := by
  obtain ⟨hoff, _, _⟩ := offsets_are_prefix_sums g path vs hvs
  obtain ⟨o, c', ho, h1, h2, h3, h4, h5, h6, h7, h8, h9⟩ := ids_suffixed p vs hoff (visits_pos L g hg path vs hvs) huniq pos c hc hk s hn
  have hcm : c ∈ variantObjs p.objs 0 vs [] := List.mem_of_getElem? hc
  obtain ⟨vc, o', hvc, hco⟩ := out_elem p.objs vs c hcm (out_note_not_extra p.objs vs c hcm hk)
  have ho' := hco.orig
  have hwc := hco.win
  rw [ho] at ho'
  simp only [Option.some.injEq] at ho'
  subst ho'
  obtain ⟨j, sg, hj, hsg, e1, e2⟩ := visits_get g path vs hvs c.visit vc hvc
  have hin : sg.start ≤ o.start ∧ o.start < sg.stp := by
    simp only [inWin, Bool.and_eq_true, decide_eq_true_eq] at hwc
    omega
  have hcount := ids_suffixed_visit_number g path vs hvs (segments_disjoint L g hg) o j sg hsg hin c.visit
  refine ⟨j, c', hj, h1, ?_, h3, h4, h5, h6, h7, h8, h9⟩
  rw [h2, hcount]

/-- The segments `add_segments` builds for ANY part (any arrangement of repeats, endings and marks it accepts) tile the
timeline: every segment has positive length and ends where the next one starts — so the sum of the lengths of
consecutive segments is the time they span and no time belongs to two segments (`segments_disjoint`). -/
theorem segments_tile (L : Layout) (g : List Seg) (h : mkSegments L = some g) :
    (∀ (i : Nat) (s : Seg), g[i]? = some s → s.start < s.stp) ∧
    (∀ (i : Nat) (s t : Seg), g[i]? = some s → g[i + 1]? = some t → s.stp = t.start) :=
  ⟨mkSegments_pos L g h, mkSegments_contiguous L g h⟩

-- non-vacuity: a repeat with two endings and a da capo al fine: five segments
example :
    let L : Layout := { first := 0, last := 20, repeats := [(0, 12)], endings := [(8, 12, [1]), (12, 16, [2])],
                        fines := [4], dacapos := [20] }
    ((mkSegments L).map fun g => g.map fun s => (s.start, s.stp)) =
      some [(0, 4), (4, 8), (8, 12), (12, 16), (16, 20)] := by decide +kernel

/-- A part without repeats, endings and marks (any `first < last`): every entry point returns the part made from the
single visit `[first, last)` at offset 0 — the maximal and the minimal unfolding and the only variant are the same part
(`no_repeats_id`: every object once, moved by `−first`), with the ids suffixed `-1` exactly when `update_ids` (never for the
minimal one). -/
theorem unfold_without_structure (p : APart) (first last : Int) (h : first < last) (upd il : Option Bool) (fuel : Nat) :
    let plain := variant p [⟨first, last, 0⟩]
    let outMax := if upd.getD Gen.C09.MAX_DEF.1 then { plain with objs := suffixIds plain.objs } else plain
    let outIter := if upd.getD Gen.C09.ITER_DEF then { plain with objs := suffixIds plain.objs } else plain
    unfoldPartMaximal { first := first, last := last } p upd il (fuel + 1) = some outMax ∧
    unfoldPartMinimal { first := first, last := last } p (fuel + 1) = some plain ∧
    iterUnfoldedParts { first := first, last := last } p upd (fuel + 1) = some [outIter] := by
  have hg := no_repeats_graph first last h
  have hpaths := fun nr ar il' => no_repeats_single_path first last h nr ar il' fuel
  simp only [hg, Option.bind_some] at hpaths
  refine ⟨?_, ?_, ?_⟩
  · rw [unfold_part_maximal_is, hg]
    simp only [Option.bind_some, hpaths, List.head?_cons, new_part_from_path_is, visitsOf, visitsFrom,
      List.getElem?_cons_zero, Option.map_some, Option.getD_some]
  · rw [unfold_part_minimal_is, hg]
    simp only [Option.bind_some, hpaths, List.head?_cons, new_part_from_path_is, visitsOf, visitsFrom,
      List.getElem?_cons_zero, Option.map_some, Option.getD_some]
    simp
  · rw [iter_unfolded_parts_is, hg]
    simp only [Option.bind_some, hpaths, List.mapM_cons, List.mapM_nil, new_part_from_path_is, visitsOf, visitsFrom,
      List.getElem?_cons_zero, Option.map_some, Option.getD_some]
    simp

/-- With `no_repeats=True` or `all_repeats=True` the enumeration follows exactly one destination from every segment, so
for ANY segment table, when it returns it returns exactly ONE path: `paths[0]` in `unfold_part_maximal` /
`unfold_part_minimal` never fails and drops nothing. -/
theorem maximal_minimal_single_path (g : List Seg) (nr ar il : Bool) (fuel : Nat) (ps : List (List Nat))
    (hf : nr = true ∨ ar = true) (h : getPaths g nr ar il fuel = some ps) : ∃ path, ps = [path] :=
  unfoldFrom_single il fuel (initState g nr ar) ps hf h

/-- Every entry point is TOTAL on a part whose only structure is repeats (any number, nested, disjoint, sharing an end):
`add_segments` does not raise, the enumeration terminates within fuel 2^(n+1), every path unfolds. -/
theorem entry_points_total_on_repeats (L : Layout) (hL : RepeatsOnly L) (p : APart) (upd il : Option Bool) :
    ∃ g vmax vmin us, mkSegments L = some g ∧
      unfoldPartMaximal L p upd il (2 ^ (g.length + 1)) = some vmax ∧
      unfoldPartMinimal L p (2 ^ (g.length + 1)) = some vmin ∧
      iterUnfoldedParts L p upd (2 ^ (g.length + 1)) = some us := by
  obtain ⟨g, ps1, hg, _, h1⟩ := repeats_terminate L hL false true (il.getD true)
  obtain ⟨_, ps2, hg2, _, h2⟩ := repeats_terminate L hL true false true
  obtain ⟨_, ps3, hg3, _, h3⟩ := repeats_terminate L hL false false true
  rw [hg] at hg2 hg3
  simp only [Option.some.injEq] at hg2 hg3
  subst hg2 hg3
  obtain ⟨q1, rfl⟩ := maximal_minimal_single_path g false true _ _ ps1 (Or.inr rfl) h1
  obtain ⟨q2, rfl⟩ := maximal_minimal_single_path g true false _ _ ps2 (Or.inl rfl) h2
  obtain ⟨_, vmax, _, hmax, _⟩ := first_path_unfolds Gen.C09.maximalCall L p (upd.getD Gen.C09.MAX_DEF.1) (il.getD Gen.C09.MAX_DEF.2)
    _ q1 [] (by rw [hg]; exact h1)
  obtain ⟨_, vmin, _, hmin, _⟩ := first_path_unfolds Gen.C09.minimalCall L p false false _ q2 [] (by rw [hg]; exact h2)
  obtain ⟨us, hus⟩ := Lists.mapM_exists (fun path => newPartFromPath g p path (some (upd.getD Gen.C09.ITER_DEF))) ps3
    (fun path hp => by
      obtain ⟨_, v, _, hv⟩ := unfolding_never_misses_a_segment g false false true _ _ h3 path hp p (some (upd.getD Gen.C09.ITER_DEF))
      exact ⟨v, hv⟩)
  refine ⟨g, vmax, vmin, us, hg, hmax, hmin, ?_⟩
  rw [iter_unfolded_parts_is, hg]
  simp only [Option.bind_some, h3]
  exact hus

end C09
