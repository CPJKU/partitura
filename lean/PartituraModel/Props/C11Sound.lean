/-
C11 — "the note array before and after is identical", for the executable note array of the model (`sounding`, the list
the driver prints): through `tie_notes`, `find_tuplets` and the whole of `sanitize_part`; and the literal constants of
the source the model rests on.
-/
import PartituraModel.Props.C11Rows
import PartituraModel.Props.C11Tuplets
import PartituraModel.Proofs.C11San
import PartituraModel.Proofs.C11Contig
import PartituraModel.Proofs.C11Within

namespace C11
open Model Model.Dur Model.Meas Model.San Model.Tup Gen C11Rows C11Sound C11Contig C11San C11Within

/-- **sounding_is_walk**: for every list and every key whose chain `duration_tied` / `end_tied` can walk, the
    fuel-bounded recursion of the model (fuel = length of the list) returns exactly the walked end and duration — a
    walk never visits a key twice, so it is never longer than the list -/
theorem sounding_is_walk (ns : List Note) (x d e : Nat) (n : Note) (hn : C11Walk.lk ns x = some n)
    (h : C11Walk.Walk ns x d e) : chainEndDur ns ns.length n = (e, d) :=
  chainEndDur_walk ns x d e n hn h

/-- **tie_notes_note_array_same**: for every part and every note list with distinct keys, ties that point at notes with
    a back link, and chains that end (`Walkable`: `duration_tied` terminates on every row) — the note array of the
    model is, as a list in iteration order, identical before and after `tie_notes`: onset, tied duration, pitch,
    voice, id; hence also in numbers (MIDI pitch from the regenerated `MIDI_BASE_CLASS`) -/
theorem tie_notes_note_array_same (p : PartM) (ns : List Note) (hkeys : KeysOK ns) (hlinks : LinksOK ns)
    (hw : Walkable ns) :
    sounding (tieNotes p ns) = sounding ns ∧ soundingMidi (tieNotes p ns) = soundingMidi ns ∧ Walkable (tieNotes p ns) := by
  rw [C11Walk.tieNotes_eq]
  have h := sounding_tieStage1 p.qd (p.measures.map (·.start)) ns hkeys hlinks hw
  exact ⟨h, by unfold soundingMidi; rw [h], walkable_tieStage1 p.qd _ ns hkeys hlinks hw⟩

/-- **tie_notes_links_kept**: "afterwards every tie chain is contiguous, of one pitch, voice and staff" at the level of
    the list — if every tie link entered joins a note to one that starts where it ends (`ContigAll`), so does every link
    after `tie_notes`; and if every link entered joins notes of the same pitch, voice and staff, so does every link
    afterwards (the links the library creates always do: `tie_sound_same`) -/
theorem tie_notes_links_kept (p : PartM) (ns : List Note) (hkeys : KeysOK ns) (hlinks : LinksOK ns) :
    (C11Walk.ContigAll ns → C11Walk.ContigAll (tieNotes p ns)) ∧
    (NonNeg ns → LinkRel sameP ns → LinkRel sameP (tieNotes p ns)) := by
  rw [C11Walk.tieNotes_eq]
  obtain ⟨_, hk', _⟩ := tieStage1_rows p.qd (p.measures.map (·.start)) ns hkeys hlinks
  constructor
  · intro hc
    obtain ⟨h1, h2⟩ := (contigAll_iff ns hkeys).mp hc
    exact (contigAll_iff _ hk').mpr
      (tieStage1_links adjP (fun _ => rfl) p.qd _ ns hkeys hlinks h1 h2)
  · intro h1 h2
    exact (tieStage1_links sameP (fun _ => rfl) p.qd _ ns hkeys hlinks h1 h2).2

/-- **tie_notes_within_measures**: "afterwards every pitched note lies within one measure" for the whole list — with
    the measures in time order (as `iter_all(Measure)` yields them) no measure starts strictly inside any note after
    `tie_notes`, for every part and every note list with distinct keys -/
theorem tie_notes_within_measures (p : PartM) (ns : List Note) (hkeys : KeysOK ns) (hlinks : LinksOK ns)
    (hs : (p.measures.map (·.start)).Pairwise (· ≤ ·)) :
    ∀ n ∈ tieNotes p ns, ∀ m ∈ p.measures, ¬ (n.start < m.start ∧ m.start < n.stop) := by
  rw [C11Walk.tieNotes_eq]
  obtain ⟨_, hk', _⟩ := tieStage1_rows p.qd (p.measures.map (·.start)) ns hkeys hlinks
  intro n hn m hm
  have hl := lk_self _ hk' n hn
  exact tieStage1_within p.qd _ hs ns n.key n hl m.start (List.mem_map.mpr ⟨m, hm, rfl⟩)

/-- **tie_notes_symdur**: "every symbolic duration the library assigns evaluates to the note's numeric duration under the
    divisions in force" for the whole list — after `tie_notes` the note found under a key is the entered note with its
    extent and stored value untouched, or a piece whose stored value is the estimate for its own length under the
    divisions at its start; and such a value, when it is one notated value, lasts exactly the piece -/
theorem tie_notes_symdur (p : PartM) (ns : List Note) (x : Nat) (n' : Note) (h : C11Walk.lk (tieNotes p ns) x = some n') :
    (∃ n, C11Walk.lk ns x = some n ∧ n'.sym = n.sym ∧ n'.start = n.start ∧ n'.stop = n.stop) ∨
    (n'.sym = some (estimateI (n'.stop - n'.start) (quarterAt p.qd n'.start)) ∧
      ∀ sd, n'.sym = some (.single sd) →
        symbolicToNumeric sd (quarterAt p.qd n'.start) = some ((n'.stop - n'.start : Nat) : Rat)) := by
  rw [C11Walk.tieNotes_eq] at h
  rcases tieStage1_sym p.qd (p.measures.map (·.start)) ns x n' h with h1 | h2
  · exact Or.inl h1
  · refine Or.inr ⟨h2, ?_⟩
    intro sd hsd
    rw [h2] at hsd
    exact symdur_assigned _ _ sd (Option.some.inj hsd)

/-- **tie_then_sanitize**: the tie check of `sanitize_part` finds nothing to remove in the OUTPUT of `tie_notes`,
    whatever the tolerance — the adjacency it needs is proved from `tie_notes` (`tie_notes_links_kept`) -/
theorem tie_then_sanitize (p : PartM) (ns : List Note) (tol : Nat) (hkeys : KeysOK ns) (hlinks : LinksOK ns)
    (hc : C11Walk.ContigAll ns) : sanitizeTies (tieNotes p ns) tol = tieNotes p ns :=
  sanitize_sound_same _ tol ((tie_notes_links_kept p ns hkeys hlinks).1 hc)

/-- **normalise_note_array_same**: `tie_notes`, then `find_tuplets`, then `sanitize_part` (any tolerance) on any part and
    any well-formed note list (distinct keys, ties with back links that join adjacent notes and end): the note array of
    the model afterwards is the note array entered -/
theorem normalise_note_array_same (p : PartM) (ns : List Note) (tol : Nat) (hkeys : KeysOK ns) (hlinks : LinksOK ns)
    (hw : Walkable ns) (hc : C11Walk.ContigAll ns) :
    soundingMidi (sanitizeTies (findTuplets p.qd (tieNotes p ns)).notes tol) = soundingMidi ns ∧
    sounding (sanitizeTies (findTuplets p.qd (tieNotes p ns)).notes tol) = sounding ns := by
  rw [(tuplets_dead p.qd (tieNotes p ns)).2.1, tie_then_sanitize p ns tol hkeys hlinks hc]
  obtain ⟨h1, h2, _⟩ := tie_notes_note_array_same p ns hkeys hlinks hw
  exact ⟨h2, h1⟩

/-- **sanitize_complete_noop**: a part in which every grace note has a main note, every tuplet and slur has both its
    notes and every tie joins adjacent notes is left exactly as it is — nothing removed, no link changed -/
theorem sanitize_complete_noop (s : SanState) (tol : Nat) (hg : GracesComplete s.graces)
    (ht : ∀ t ∈ s.tuplets, spanComplete t = true) (hs : ∀ t ∈ s.slurs, spanComplete t = true)
    (hc : C11Walk.ContigAll s.notes) : sanitizePart s tol = s := by
  unfold sanitizePart
  rw [graceLoop_noop s.notes s.graces hg, List.filter_eq_self.mpr ht, List.filter_eq_self.mpr hs, C11Walk.sanitize_noop s.notes tol hc]
  simp

/-- **sanitize_keeps_notes**: for EVERY part and tolerance, `sanitize_part` removes, moves and alters no plain note:
    the notes afterwards are the notes before but for tie links, which are only ever cleared; grace notes, tuplets and
    slurs are handled without touching them -/
theorem sanitize_keeps_notes (s : SanState) (tol : Nat) :
    (sanitizePart s tol).notes = sanitizeTies s.notes tol ∧
    (sanitizePart s tol).notes.map untie = s.notes.map untie :=
  ⟨rfl, sanitizeTies_untie s.notes tol⟩

/-- **sanitize_reads_sound_not_spelling**: the tie check decides on keys, times and links only — rewrite pitches
    (`alter` `None` for `0`, A♭ for G♯), voices, staves and ids in any way and exactly the same links are cleared -/
theorem sanitize_reads_sound_not_spelling (π : Nat → String) (ν σ : Nat → Option Int) (ι : Nat → Option String)
    (ns : List Note) (tol : Nat) :
    sanitizeTies (ns.map (repaint π ν σ ι)) tol = (sanitizeTies ns tol).map (repaint π ν σ ι) := by
  unfold sanitizeTies
  rw [show (ns.map (repaint π ν σ ι)).filter (fun n => n.tiePrev.isNone ∧ n.tieNext.isSome) =
      (ns.filter (fun n => n.tiePrev.isNone ∧ n.tieNext.isSome)).map (repaint π ν σ ι) by rw [List.filter_map]; rfl,
    List.foldl_map]
  exact List.foldl_hom (List.map (repaint π ν σ ι)) (fun acc h => sanitizeStep_repaint π ν σ ι tol acc h)

/-- `alter=None` and `alter=0` sound the same, for every step and octave (over the regenerated `MIDI_BASE_CLASS`) -/
theorem alter_none_is_zero (step : String) (octave : Int) :
    spellingToMidi step none octave = spellingToMidi step (some 0) octave := by
  unfold spellingToMidi
  simp

/-- **consts_extracted**: every constant was read from the live source, and the values are ones under which the model
    means what its theorems say: the estimator's tolerance is positive and below half a division, tuplets are guessed up
    to a whole bar of four quarters starting from two normal notes, `tie_notes` allows the number of splits
    `find_tie_split` allows by default, the default tie tolerance is 0, and a bar end is snapped to an integer only from
    closer than half a division (so `snap` is the identity on integers and never crosses a half) -/
theorem consts_extracted :
    Gen.C11.extractionOk = true ∧ Gen.C11.notes = [] ∧
    eps = Gen.C11.estimateEps ∧ 0 < eps ∧ eps < 1 / 2 ∧
    Gen.C11.tupletMaxQuarters = 4 ∧ Gen.C11.tupletFirstNormal = 2 ∧
    Gen.C11.tieNotesMaxSplits = Gen.C11.findTieSplitMaxSplits ∧ Gen.C11.sanitizeTieTolerance = 0 ∧
    Gen.C11.addMeasuresDefaultBeats = 4 ∧ 0 < Gen.C11.addMeasuresSnap ∧ Gen.C11.addMeasuresSnap < 1 / 2 := by
  decide +kernel

-- enharmonic spellings: G♯4 = A♭4 = 68, B♯3 = C4 = 60, C♭4 = B3 = 59
example : spellingToMidi "G" (some 1) 4 = some 68 ∧ spellingToMidi "A" (some (-1)) 4 = some 68 ∧
    spellingToMidi "B" (some 1) 3 = some 60 ∧ spellingToMidi "C" none 4 = some 60 ∧
    spellingToMidi "C" (some (-1)) 4 = some 59 ∧ spellingToMidi "B" (some 0) 3 = some 59 := by decide +kernel

-- non-vacuity: the witness of C11-3 ([0, 6) tied to [6, 8), bars of 4) satisfies every hypothesis above
example : Walkable [exA, exB] := by
  intro n hn hnone
  simp only [List.mem_cons, List.not_mem_nil, or_false] at hn
  rcases hn with rfl | rfl
  · exact ⟨8, 8, C11Walk.Walk.step 0 exA 1 2 8 rfl rfl (C11Walk.Walk.last 1 exB rfl rfl)⟩
  · simp [exB] at hnone

def exSound : Nat × Nat × String × Option Int × Option String := (0, 8, "C_0_4", some 1, some "n0")
example : sounding [exA, exB] = [exSound] ∧ sounding (tieNotes exTiePart [exA, exB]) = [exSound] :=
  ⟨by decide +kernel, by decide +kernel⟩

example : ((exTiePart.measures.map (·.start)).Pairwise (· ≤ ·)) := by decide
-- the piece [4, 6) of the witness carries the estimate for 2 divisions at 1 per quarter: a half note
example : C11Walk.lk (tieNotes exTiePart [exA, exB]) 2 =
    some { exA with key := 2, id := some "n0a", start := 4, stop := 6, sym := some (.single ("half", 0, none, none)),
                    tiePrev := some 0, tieNext := some 1 } := by decide +kernel

-- a seeded change in the model's terms: the same chain with the second note written `alter=None`
-- is still one row of the note array, and the tie check (tolerance 0) leaves it tied
def exB' : Note := { exB with pitch := "C_N_4" }
example : sanitizeTies [exA, exB'] 0 = [exA, exB'] ∧
    (sounding [exA, exB']).map (·.2.1) = [8] := by decide +kernel

-- sanitize_part on incomplete structures: the grace note 0 (voice 1, at 0) adopts the plain note of its voice that
-- starts with it; grace note 1 (voice 2) finds none and goes; the tuplet without end note goes; the tie [0,6)→[7,8) with a
-- gap of 1 is cleared at tolerance 0 and kept at tolerance 1
def exC : Note := { exB with start := 7 }
def exSan : SanState :=
  { notes := [exA, exC], graces := [⟨0, 0, some 1, .none⟩, ⟨1, 0, some 2, .none⟩], removed := [],
    tuplets := [(0, true, true), (1, true, false)], slurs := [(0, false, true)] }
example : (sanitizePart exSan 0).graces = [⟨0, 0, some 1, .note 0⟩, ⟨1, 0, some 2, .none⟩] ∧
    (sanitizePart exSan 0).removed = [1] ∧ (sanitizePart exSan 0).tuplets = [(0, true, true)] ∧
    (sanitizePart exSan 0).slurs = [] ∧
    (sanitizePart exSan 0).notes.map (fun n => (n.tiePrev, n.tieNext)) = [(none, none), (none, none)] ∧
    (sanitizePart exSan 1).notes.map (fun n => (n.tiePrev, n.tieNext)) = [(none, some 1), (some 0, none)] := by
  decide +kernel

end C11
