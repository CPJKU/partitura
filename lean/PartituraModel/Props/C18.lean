/-
C18 — decoding an encoded performance reproduces the performance.  Property theorems about the executable model
`Model/Codec.lean` (exact rationals; for the logarithmic normalisations a column holds the number whose `log2` the
code stores, the logarithm/exponential identities live in `Props/C18Real.lean`).
-/
import PartituraModel.Proofs.C18Roundtrip
import PartituraModel.Proofs.C18Norm
import PartituraModel.Proofs.C18Match
import PartituraModel.Proofs.C18Interp

namespace C18
open Model Model.Codec C18P

/-- every row of normalisation columns rescales to the beat period it was computed from -/
theorem normalisation_inverse (n : Norm) (sd : Rat) (bps : List Rat) (hpos : ∀ b ∈ bps, 0 < b)
    (hstd : StdOk n sd bps) :
    List.Forall₂ (fun c b => rescale n c = some b) (scale n sd bps) bps :=
  scale_rescale n sd bps hpos hstd

example : StdOk .std 1 [1, 3] := by intro _; unfold variance mean sumR; simp [sumR]; norm_num
example : scale .std 1 [1, 3] = [[-1, 2, 1], [1, 2, 1]] := by decide +kernel
/-- a constant tempo curve: zero deviation, standardised value 0 (repair C18-7) -/
example : scale .std 0 [3/4, 3/4] = [[0, 3/4, 0], [0, 3/4, 0]] ∧ rescale .std [0, 3/4, 0] = some (3/4) := by
  decide +kernel

/-- decoding the encoded parameters gives every note its performed onset minus the earliest
    performed onset: for every normalisation, for ANY positive beat-period sequence `bp` (one per
    onset group — whatever tempo-curve method produced it), any grouping into chords, any performed
    onsets and durations. -/
theorem timing_roundtrip (n : Norm) (sd : Rat) (ns : List MNote) (bp : List Rat)
    (hne : ns ≠ []) (hlen : bp.length = (encGroups ns).length)
    (hpos : ∀ b ∈ bp, 0 < b) (hsd : ∀ x ∈ ns, 0 ≤ x.sd) (hstd : StdOk n sd bp) :
    ∃ ps, encode (.given bp) n sd ns = some ps ∧ ps.length = ns.length ∧
      (decodeTime n (List.zipWith toDRow ns ps)).map (fun l => l.map Prod.fst)
        = some (ns.map fun x => x.po - minPo ns) := by
  obtain ⟨ps, h1, h2, h3⟩ := codec_roundtrip n sd ns bp hne hlen hpos hsd (scale_rescale n sd bp hpos hstd)
  refine ⟨ps, h1, h2, ?_⟩
  rw [h3]
  simp [List.map_map, Function.comp]

/-- the decoded durations are the durations of the matched score, EXCEPT that a note without score
    duration (grace note) decodes to duration 0 whatever it was played like (open finding F-C18-2).
    Together with `matched_row_duration_partial` (clip at 0.075 s, F-C18-4) this is what holds of the
    property's duration clause. -/
theorem duration_roundtrip_partial (n : Norm) (sd : Rat) (ns : List MNote) (bp : List Rat)
    (hne : ns ≠ []) (hlen : bp.length = (encGroups ns).length)
    (hpos : ∀ b ∈ bp, 0 < b) (hsd : ∀ x ∈ ns, 0 ≤ x.sd) (hstd : StdOk n sd bp) :
    ∃ ps, encode (.given bp) n sd ns = some ps ∧
      (decodeTime n (List.zipWith toDRow ns ps)).map (fun l => l.map Prod.snd)
        = some (ns.map fun x => if x.sd = 0 then 0 else x.pd) := by
  obtain ⟨ps, h1, _, h3⟩ := codec_roundtrip n sd ns bp hne hlen hpos hsd (scale_rescale n sd bp hpos hstd)
  refine ⟨ps, h1, ?_⟩
  rw [h3]
  simp [List.map_map, Function.comp]

/-- the built-in `average` tempo curve is one admissible `bp` (its positivity: `tempo_average_pos`,
    Props/C18Pipeline) -/
theorem encode_average (n : Norm) (sd : Rat) (ns : List MNote) (bp : List Rat)
    (h : tempoAverage ns (encGroups ns) = some bp) (hlen : bp.length = (encGroups ns).length) :
    encode .average n sd ns = encode (.given bp) n sd ns := by
  unfold encode
  simp only [h, hlen, if_true]

/-- a chord (two notes on one onset), a second onset and a grace note; beat periods 1/2, 3/4, 1 -/
def demoNotes : List MNote := [⟨0, 1, 1, 1/2⟩, ⟨0, 2, 17/16, 1⟩, ⟨1, 1, 3/2, 1/4⟩, ⟨2, 0, 9/4, 1/8⟩]

example : demoNotes ≠ [] ∧ [(1 : Rat)/2, 3/4, 1].length = (encGroups demoNotes).length
    ∧ (∀ b ∈ [(1 : Rat)/2, 3/4, 1], 0 < b) ∧ (∀ x ∈ demoNotes, 0 ≤ x.sd) := by decide +kernel
example : StdOk .ratio 0 [1/2, 3/4, 1] := by intro h; cases h
example : (encode (.given [1/2, 3/4, 1]) .ratio 0 demoNotes).map (fun ps => ps.map (·.timing))
    = some [1/32, -1/32, 1/32, 1/32] := by decide +kernel

/-- F-C18-2 at the witness: the grace note played for 1/8 s decodes to 0 s -/
example : ∃ ps, encode (.given [1/2, 3/4, 1]) .bp 0 demoNotes = some ps ∧
    (decodeTime .bp (List.zipWith toDRow demoNotes ps)).map (fun l => l.map Prod.snd) = some [1/2, 1, 1/4, 0]
    ∧ ¬ (decodeTime .bp (List.zipWith toDRow demoNotes ps)).map (fun l => l.map Prod.snd)
          = some (demoNotes.map (·.pd)) := by
  decide +kernel

/-- a MIDI velocity survives `v/127` → (anything within 1/254 of it, e.g. its float32 rounding)
    → `clip(round(·127), 1, 127)` -/
theorem velocity_roundtrip (v : Int) (h1 : 1 ≤ v) (h2 : v ≤ 127) (x : Rat) (hx : |x - encodeVel v| < 1 / 254) :
    decodeVel x = v :=
  decodeVel_near v h1 h2 x hx

theorem velocity_roundtrip_exact (v : Int) (h1 : 1 ≤ v) (h2 : v ≤ 127) : decodeVel (encodeVel v) = v :=
  decodeVel_encodeVel v h1 h2

example : decodeVel (encodeVel 64) = 64 := velocity_roundtrip_exact 64 (by decide) (by decide)
/-- the float32 nearest to 1/127 -/
example : decodeVel (8454661 / 1073741824) = 1 :=
  velocity_roundtrip 1 (by decide) (by decide) _ (by unfold encodeVel; norm_num [abs_lt])

/-- `get_matched_notes`: exactly the alignment's matches whose ids exist on both sides -/
theorem matched_notes (ss : List SRow) (ps : List PRow) (al : List ARow) (i j : Nat) :
    (i, j) ∈ matchedNotes ss ps al ↔
      ∃ a ∈ al, a.label = "match" ∧ ∃ s p, a.sid = some s ∧ a.pid = some p ∧
        sIndex ss s = some i ∧ pIndex ps p = some j :=
  mem_matchedNotes ss ps al i j

/-- `to_matched_score`, when it returns: its rows are built (`mkRow`) from a rearrangement of exactly
    the matches with both ids present, ordered by (onset_div, pitch) -/
theorem matched_table (ss : List SRow) (ps : List PRow) (al : List ARow) (rows : List MRow)
    (h : toMatchedScore ss ps al = some rows) :
    ∃ pairs : List (Nat × Nat), pairs.Perm (matchedNotes ss ps al) ∧
      pairs.Pairwise (fun a b => lexLe (sKey ss a.1) (sKey ss b.1) = true) ∧
      List.Forall₂ (fun ij r => mkRow ss ps ij = some r) pairs rows :=
  toMatchedScore_spec ss ps al rows h

/-- it returns whenever no match with a known score id points to an unknown performance id -/
theorem matched_table_defined (ss : List SRow) (ps : List PRow) (al : List ARow)
    (h : ∀ a ∈ al, a.label = "match" → ∃ s, a.sid = some s ∧
      (sIndex ss s = none ∨ ∃ p, a.pid = some p ∧ (pIndex ps p).isSome)) :
    (notePairs ss ps al).isSome :=
  Option.isSome_iff_exists.mpr ⟨_, (notePairs_eq_some_iff ss ps al _).mpr ⟨h, rfl⟩⟩

/-- content of a row; the performed duration is kept only if it is at least 0.075 s
    (open finding F-C18-4) -/
theorem matched_row_duration_partial (ss : List SRow) (ps : List PRow) (ij : Nat × Nat) (r : MRow)
    (h : mkRow ss ps ij = some r) :
    ∃ s p, ss[ij.1]? = some s ∧ ps[ij.2]? = some p ∧ r.sidx = ij.1 ∧ r.so = s.so ∧ r.sd = s.sd ∧
      r.pitch = s.pitch ∧ r.po = p.po ∧ r.vel = p.vel ∧ (3 / 40 ≤ p.pd → r.pd = p.pd) := by
  obtain ⟨s, p, hs, hp, rfl⟩ := mkRow_spec ss ps ij r h
  exact ⟨s, p, hs, hp, rfl, rfl, rfl, rfl, rfl, rfl, clip_of_le p.pd⟩

def demoScore : List SRow := [⟨"n0", 0, 60, 0, 1⟩, ⟨"n1", 0, 55, 0, 2⟩, ⟨"n2", 4, 62, 1, 1⟩]
def demoPerf : List PRow := [⟨"p0", 1, 3/64, 70⟩, ⟨"p1", 17/16, 1, 60⟩, ⟨"p9", 5, 1, 50⟩]
def demoAl : List ARow := [⟨"match", some "n2", some "p1"⟩, ⟨"insertion", none, some "p9"⟩,
  ⟨"match", some "n0", some "p0"⟩, ⟨"match", some "zz", some "p9"⟩, ⟨"deletion", some "n1", none⟩]

example : toMatchedScore demoScore demoPerf demoAl
    = some [⟨0, 0, 1, 60, 1, 3/40, 70⟩, ⟨2, 1, 1, 62, 17/16, 1, 60⟩] := by decide +kernel

/-- F-C18-4 at the witness: the note played for 3/64 s (46.9 ms) is tabled with 3/40 s -/
example : ∃ r, mkRow demoScore demoPerf (0, 0) = some r ∧ r.pd ≠ 3/64 := ⟨_, rfl, by decide +kernel⟩
example : (notePairs demoScore demoPerf [⟨"match", some "n0", some "p7"⟩]) = none := by decide +kernel

/-- the knots: one per score onset at which a (non-ornament) note is matched, carrying the mean
    performed onset of those notes; score onsets strictly increasing -/
theorem time_maps_knots (ro : Bool) (rows : List TRow) :
    IncX (timeKnots ro rows) ∧
    ∀ u m, (u, m) ∈ timeKnots ro rows ↔
      (∃ r ∈ rows, r.1 = u ∧ (ro = true → r.2.1 > 0)) ∧
        m = mean ((rows.filter fun r => decide (r.1 = u) && (!ro || decide (r.2.1 > 0))).map (·.2.2)) := by
  refine ⟨timeKnots_incX ro rows, fun u m => ?_⟩
  have hex : knotRows ro rows u ≠ [] ↔ ∃ r ∈ rows, r.1 = u ∧ (ro = true → r.2.1 > 0) :=
    ⟨fun h => by
      obtain ⟨r, hr⟩ := List.exists_mem_of_ne_nil _ h
      exact ⟨r, (mem_knotRows ro rows u r).mp hr⟩,
     fun ⟨r, hr⟩ => List.ne_nil_of_mem ((mem_knotRows ro rows u r).mpr hr)⟩
  rw [timeKnots_eq, List.mem_filterMap]
  constructor
  · rintro ⟨a, _, h⟩
    simp only [Option.ite_none_left_eq_some, Option.some.injEq, Prod.mk.injEq] at h
    obtain ⟨hne, rfl, rfl⟩ := h
    exact ⟨hex.mp hne, rfl⟩
  · rintro ⟨⟨r, hr1, hr2, hr3⟩, rfl⟩
    exact ⟨r.1, (mem_uniqueSorted _ _).mpr (List.mem_map.mpr ⟨r, hr1, rfl⟩),
      by subst hr2; rw [if_neg (hex.mpr ⟨r, hr1, rfl, hr3⟩)]; rfl⟩

/-- the score→performance map passes through every knot; when the mean performed onsets are
    strictly increasing the performance→score map passes through every knot as well and, with at
    least two knots, the two maps are inverse to each other everywhere (extrapolation included) -/
theorem time_maps_interp (ro : Bool) (rows : List TRow) :
    (∀ u m, (u, m) ∈ timeKnots ro rows → stimeToPtime (timeKnots ro rows) u = some m) ∧
    (IncY (timeKnots ro rows) →
      (∀ u m, (u, m) ∈ timeKnots ro rows → ptimeToStime (timeKnots ro rows) m = some u) ∧
      (2 ≤ (timeKnots ro rows).length →
        (∀ s, ∃ p, stimeToPtime (timeKnots ro rows) s = some p ∧ ptimeToStime (timeKnots ro rows) p = some s) ∧
        (∀ p, ∃ s, ptimeToStime (timeKnots ro rows) p = some s ∧ stimeToPtime (timeKnots ro rows) s = some p))) := by
  have hx := timeKnots_incX ro rows
  exact ⟨fun u m => interpExt_knot _ hx u m, fun hy => timeMaps_inverse _ hx hy⟩

def demoRows : List TRow := [(0, 1, 1), (0, 2, 5/4), (1, 0, 11/8), (1, 1, 3/2), (2, 0, 2), (3, 1, 5/2)]
example : timeKnots true demoRows = [(0, 9/8), (1, 3/2), (3, 5/2)] := by decide +kernel
example : IncY (timeKnots true demoRows) ∧ 2 ≤ (timeKnots true demoRows).length := by decide +kernel
example : stimeToPtime (timeKnots true demoRows) 2 = some 2 ∧ ptimeToStime (timeKnots true demoRows) 4 = some 6 := by
  decide +kernel

end C18
