/-
C14 — "onsets in seconds and ticks that agree under ppq and mpq … durations … in ticks agreeing with them":
HOW WELL they agree, for all times and all positive ppq / mpq.

`Props/C14.rows_consistent` states that the tick columns are `seconds_to_midi_ticks` of the seconds columns; here the
bounds of that conversion: within half a tick for a time, within one tick for a duration (`rows_ticks_agree`).
-/
import PartituraModel.Proofs.Ticks
import Mathlib.Tactic.Ring
import PartituraModel.Model.PedalOrder

namespace C14
open Model Model.Pedal

/-- `seconds_to_midi_ticks`: one second at mpq = ppq = 1 is 10^6 ticks, ties go to the even tick, and both conversions
    default to the mpq / ppq a `PerformedPart` defaults to -/
theorem tick_tables :
    Gen.C14Order.tickScale = 1000000 ∧ Gen.C14Order.tickHalfEven = true
      ∧ Gen.C14Order.tickDefaultMpq = Gen.C14.defaultMpq ∧ Gen.C14Order.tickDefaultPpq = Gen.C14.defaultPpq :=
  ⟨rfl, rfl, rfl, rfl⟩

/-- the conversions with the regenerated scale are the ones every model of the project uses -/
theorem tick_scale_is_model (t : Rat) (k : Int) (mpq ppq : Nat) :
    secToTickG t mpq ppq = secToTick t mpq ppq ∧ tickToSecG k mpq ppq = tickToSec k mpq ppq := by
  have hs : ((Gen.C14Order.tickScale : Nat) : Rat) = 1000000 := Nat.cast_ofNat
  exact ⟨by rw [secToTickG, hs, secToTick], by rw [tickToSecG, hs, tickToSec]⟩

/-- one tick in seconds -/
def tickLen (mpq ppq : Nat) : Rat := (mpq : Rat) / (1000000 * (ppq : Rat))

theorem tickToSec_eq (k : Int) (mpq ppq : Nat) : tickToSec k mpq ppq = tickLen mpq ppq * (k : Rat) :=
  (Ticks.tickToSec_eq k mpq ppq).trans (mul_comm _ _)

/-- seconds and ticks agree: converting a time to ticks and back moves it by at most half a tick -/
theorem tick_within_half (t : Rat) (mpq ppq : Nat) (hm : 0 < mpq) (hp : 0 < ppq) :
    |tickToSec (secToTick t mpq ppq) mpq ppq - t| ≤ tickLen mpq ppq / 2 :=
  (Ticks.tickToSec_secToTick_close t mpq ppq hm hp).trans_eq (by unfold tickLen; ring)

/-- a time that is a whole number of ticks is converted exactly -/
theorem tick_exact_on_grid (k : Int) (mpq ppq : Nat) (hm : 0 < mpq) (hp : 0 < ppq) :
    secToTick (tickToSec k mpq ppq) mpq ppq = k :=
  Ticks.secToTick_tickToSec k mpq ppq hm hp

/-- a later time never gets an earlier tick -/
theorem tick_mono (t t' : Rat) (mpq ppq : Nat) (hm : 0 < mpq) (hp : 0 < ppq) (h : t ≤ t') :
    secToTick t mpq ppq ≤ secToTick t' mpq ppq :=
  Ticks.secToTick_mono mpq ppq h

/-- the difference of the ticks of two times is within one tick of the difference of the times -/
theorem tick_diff_within_one (a b : Rat) (mpq ppq : Nat) (hm : 0 < mpq) (hp : 0 < ppq) :
    |tickToSec (secToTick b mpq ppq - secToTick a mpq ppq) mpq ppq - (b - a)| ≤ tickLen mpq ppq := by
  have hlin : tickToSec (secToTick b mpq ppq - secToTick a mpq ppq) mpq ppq - (b - a)
      = (tickToSec (secToTick b mpq ppq) mpq ppq - b) - (tickToSec (secToTick a mpq ppq) mpq ppq - a) := by
    rw [tickToSec_eq, tickToSec_eq, tickToSec_eq]
    push_cast
    ring
  rw [hlin]
  calc _ ≤ |tickToSec (secToTick b mpq ppq) mpq ppq - b| + |tickToSec (secToTick a mpq ppq) mpq ppq - a| := abs_sub _ _
    _ ≤ tickLen mpq ppq / 2 + tickLen mpq ppq / 2 :=
        add_le_add (tick_within_half b mpq ppq hm hp) (tick_within_half a mpq ppq hm hp)
    _ = tickLen mpq ppq := by ring

/-- the rows of `note_array()` of a note with 0 ≤ onset ≤ release (and no given onset tick), for all positive ppq / mpq:
    the onset tick is non-negative and within half a tick of the onset in seconds; the duration in ticks is non-negative,
    zero for a zero-length note, and within one tick of release − onset, hence of the duration in seconds whenever no
    pedal extends the note -/
theorem rows_ticks_agree (mpq ppq : Nat) (hm : 0 < mpq) (hp : 0 < ppq) (n : Note) (so : Rat) (hot : n.onTick = none)
    (h0 : 0 ≤ n.on) (h1 : n.on ≤ n.off) :
    0 ≤ (noteRow mpq ppq n so).onsetTick
      ∧ |tickToSec (noteRow mpq ppq n so).onsetTick mpq ppq - (noteRow mpq ppq n so).onsetSec| ≤ tickLen mpq ppq / 2
      ∧ 0 ≤ (noteRow mpq ppq n so).durTick
      ∧ (n.on = n.off → (noteRow mpq ppq n so).durTick = 0)
      ∧ |tickToSec (noteRow mpq ppq n so).durTick mpq ppq - (n.off - n.on)| ≤ tickLen mpq ppq
      ∧ (so = n.off →
          |tickToSec (noteRow mpq ppq n so).durTick mpq ppq - (noteRow mpq ppq n so).durSec| ≤ tickLen mpq ppq) := by
  have hon : (noteRow mpq ppq n so).onsetTick = secToTick n.on mpq ppq := by simp [noteRow, hot]
  have hdur : (noteRow mpq ppq n so).durTick = secToTick n.off mpq ppq - secToTick n.on mpq ppq := by simp [noteRow, hot]
  have hsec : (noteRow mpq ppq n so).onsetSec = n.on := rfl
  have hds : (noteRow mpq ppq n so).durSec = so - n.on := rfl
  have hone := tick_diff_within_one n.on n.off mpq ppq hm hp
  rw [hon, hdur, hsec, hds]
  refine ⟨Ticks.secToTick_nonneg mpq ppq h0, tick_within_half n.on mpq ppq hm hp, ?_, ?_, hone, ?_⟩
  · have := tick_mono n.on n.off mpq ppq hm hp h1
    omega
  · intro he
    rw [he]
    omega
  · intro hso
    rw [hso]
    exact hone

-- mpq = 500000, ppq = 480: a tick is 1/960 s.  A note from 1/3 s to 2/3 s: ticks 320 and 640, exact; from 0.0004 s:
-- tick 0 (0.384 of a tick)
example : noteRow 500000 480 ⟨60, 1/3, 2/3, 64, 0, 1, none⟩ (2/3) = ⟨1/3, 1/3, 320, 320, 60, 64, 0, 1⟩
    ∧ tickLen 500000 480 = 1/960
    ∧ (noteRow 500000 480 ⟨60, 1/2500, 1/1000, 64, 0, 1, none⟩ (1/1000)).onsetTick = 0
    ∧ (noteRow 500000 480 ⟨60, 1/2500, 1/1000, 64, 0, 1, none⟩ (1/1000)).durTick = 1 := by decide +kernel

end C14
