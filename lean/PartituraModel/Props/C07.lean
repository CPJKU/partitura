/-
C07 — match-file lines survive format/parse round trips in every version: property theorems.
Helper lemmas live in Proofs/C07*.lean; the templates are GENERATED (Gen/MatchTemplates.lean).
-/
import PartituraModel.Model.MatchLine
import PartituraModel.Gen.MatchTemplates
import PartituraModel.Proofs.C07Search
import PartituraModel.Proofs.C07Line

namespace C07
open Model Model.Template Model.MatchCodec Model.MatchLine

/-- well-formedness of a template (decidable): the out_pattern and the regular expression have the
    same literals and the same fields in the same order, every group is followed by a literal, field
    names are distinct and are those of the field table, nothing is unmodelled -/
def TemplateOK (t : Template) : Prop := templateOK t = true

/-- side condition on the encoded field texts `v` (decidable; `tail` = the text that follows the line's
    own text, e.g. `-note(...)` after a score note): every text lies in the character class of its
    group with the minimal length, and the literal that terminates it does not occur again inside the
    run of characters the group's class can swallow -/
def FieldsOK (t : Template) (v : String → List Char) (tail : List Char) : Prop :=
  fieldsOK t.out t.pat v tail = true

/-- the general form of the side condition: the rest of the pattern matches at no later offset of the run -/
def FieldsOKGen (t : Template) (v : String → List Char) (tail : List Char) : Prop :=
  fieldsOKGen t.out t.pat v tail = true

instance (t : Template) : Decidable (TemplateOK t) := inferInstanceAs (Decidable (_ = true))
instance (t : Template) (v : String → List Char) (tail : List Char) : Decidable (FieldsOK t v tail) :=
  inferInstanceAs (Decidable (_ = true))

theorem agree_of_templateOK (t : Template) (h : TemplateOK t) : agree t.out t.pat = true :=
  (C07Line.templateOK_spec t h).1

/-- **search (format t v) = some (encoded v)** for every well-formed template and every admissible field
    assignment, whatever text follows: the search of the template's regular expression over the written
    line returns exactly the encoded fields, in order. -/
theorem search_format (t : Template) (v : String → List Char) (tail : List Char)
    (ht : TemplateOK t) (hv : FieldsOK t v tail) :
    search t.pat (render t.out v ++ tail) = some (groupsOf t.pat v) :=
  search_of_matchSegs _ _ _
    (matchSegs_render t.pat t.out v tail (agree_of_templateOK t ht)
      (fieldsOKGen_of_fieldsOK t.pat t.out v tail hv))

/-- the same with the general side condition (needed for `scoreprop`, whose free-text Value is followed
    by comma-separated fields) -/
theorem search_format_gen (t : Template) (v : String → List Char) (tail : List Char)
    (ht : TemplateOK t) (hv : FieldsOKGen t v tail) :
    search t.pat (render t.out v ++ tail) = some (groupsOf t.pat v) :=
  search_of_matchSegs _ _ _ (matchSegs_render t.pat t.out v tail (agree_of_templateOK t ht) hv)

/-- anchored version: the match at offset 0 already succeeds (no scanning involved) -/
theorem matchAt_format (t : Template) (v : String → List Char) (tail : List Char)
    (ht : TemplateOK t) (hv : FieldsOK t v tail) :
    matchSegs t.pat (render t.out v ++ tail) = some (groupsOf t.pat v) :=
  matchSegs_render t.pat t.out v tail (agree_of_templateOK t ht) (fieldsOKGen_of_fieldsOK t.pat t.out v tail hv)

/-- component of a composite line: the component's text starts after a prefix `pre` (the other
    component, a `-`, an `insertion-` …).  If no anchored match of the component's pattern starts inside
    the prefix (decidable `noEarly`; e.g. `note(` inside `snote(` must not complete), the search over the
    whole line finds the component's own fields. -/
theorem search_offset (t : Template) (v : String → List Char) (pre tail : List Char)
    (ht : TemplateOK t) (hv : FieldsOK t v tail)
    (hpre : noEarly t.pat pre (render t.out v ++ tail) = true) :
    search t.pat (pre ++ (render t.out v ++ tail)) = some (groupsOf t.pat v) :=
  search_skip _ _ _ _ (noEarly_spec _ _ _ hpre) (matchAt_format t v tail ht hv)

-- non-vacuity of `search_offset`: the `note(` pattern is first tried inside `snote(` and fails there
example : ∃ t ∈ Gen.matchTemplates, t.name = "v0.5.0/note" ∧
    noEarly t.pat "snote(1-1,[C,#],4,1:2,1/8,1/4+1/8,0.5,1.25,[staff1,s])-".toList
      "note(n1,[C,#],4,100,200,210,60).".toList = true ∧
    (search t.pat "snote(1-1,[C,#],4,1:2,1/8,1/4+1/8,0.5,1.25,[staff1,s])-note(n1,[C,#],4,100,200,210,60).".toList).map
      (fun g => g.map (fun x => String.ofList x.2))
      = some ["n1", "C", "#", "4", "100", "200", "210", "60"] := by
  -- the kernel decodes `"…".toList` of a literal in time quadratic in its length, while a literal is
  -- `String.ofList [chars]` by a built-in rule: the long texts are handed over as character lists
  -- (`rw`, one step per literal; `simp only` does not see a literal as `String.ofList _`)
  rw [String.toList_ofList, String.toList_ofList, String.toList_ofList]
  decide +kernel

/-- every template generated from the live classes is well formed; re-checked by the kernel whenever
    the source changes a regular expression, an out_pattern or a field table -/
theorem templates_ok : ∀ t ∈ Gen.matchTemplates, TemplateOK t := by
  unfold TemplateOK
  decide +kernel

/-- the table is not empty and holds what the property enumerates (non-vacuity of `templates_ok`) -/
example : 40 ≤ Gen.matchTemplates.length ∧ 40 ≤ Gen.matchComposites.length := by decide +kernel

/-- well-formedness of a composite line (decidable): every component is a generated template, and the
    identifier the parser looks for (`-deletion.`, `insertion-`, …) is one of the literals the line is
    written with -/
def compositeOK (ts : List Template) (c : Composite) : Bool :=
  c.parts.all (fun p => match p with
    | .tpl n => (findTpl ts n).isSome
    | .lit _ => true)
  && c.idents.all (fun i => c.parts.contains (.lit i))

/-- every composite line generated from the live classes is well formed -/
theorem composites_ok : ∀ c ∈ Gen.matchComposites, compositeOK Gen.matchTemplates c = true := by
  decide +kernel

-- non-vacuity of `search_format`: a 0.5.0 score note followed by its performed note
def exSnote : String → List Char
  | "Anchor" => "1-1".toList | "NoteName" => "C".toList | "Modifier" => "#".toList | "Octave" => "4".toList
  | "Measure" => "1".toList | "Beat" => "2".toList | "Offset" => "1/8".toList | "Duration" => "1/4+1/8".toList
  | "OnsetInBeats" => "0.5".toList | "OffsetInBeats" => "1.25".toList | "ScoreAttributesList" => "staff1,s".toList
  | _ => []

example : ∃ t ∈ Gen.matchTemplates, t.name = "v0.5.0/snote" ∧
    FieldsOK t exSnote "-note(n1,[C,#],4,100,200,210,60).".toList ∧
    render t.out exSnote = "snote(1-1,[C,#],4,1:2,1/8,1/4+1/8,0.5,1.25,[staff1,s])".toList := by
  rw [String.toList_ofList, String.toList_ofList]
  decide +kernel

/-! ### `to_v1` -/

/-- the 1.0.0 counterpart of a pre-1.0 line kind (an `info` line becomes `info` or `scoreprop`) -/
def v1Kind : String → Option String
  | "meta" => some "scoreprop"
  | "snote_note" => some "snote_note"
  | "deletion" => some "deletion"
  | "trailing_score" => some "deletion"
  | "no_played" => some "deletion"
  | "insertion" => some "insertion"
  | "hammer_bounce" => some "insertion"
  | "trailing_played" => some "insertion"
  | "trill" => some "ornament"
  | "sustain" => some "sustain"
  | "soft" => some "soft"
  | _ => none


/-- **`to_v1` keeps the kind**: whenever a conversion exists, the result is the 1.0.0 counterpart of the
    input's kind (a soft-pedal line stays a soft-pedal line) -/
theorem toV1_kind (ts : List Template) (kind : String) (v : Nat × Nat × Nat) (vals : List Val)
    (k' : String) (vals' : List Val) (h : toV1 ts kind v vals = some (k', vals')) :
    (kind = "info" ∧ (k' = "info" ∨ k' = "scoreprop")) ∨ v1Kind kind = some k' := by
  -- every branch of `toV1` is `some (K, …)` or `o.map fun n => (K, …)` for a constant kind `K`
  have key : ∀ {α : Type} (o : Option α) (K : String) (g : α → List Val),
      o.map (fun n => (K, g n)) = some (k', vals') → K = k' := by
    intro α o K g h
    cases o with
    | none => simp at h
    | some n => exact (Prod.mk.inj (Option.some.inj h)).1
  have fst : ∀ {K : String} {x : List Val}, some (K, x) = some (k', vals') → K = k' :=
    fun h => (Prod.mk.inj (Option.some.inj h)).1
  unfold toV1 at h
  simp only at h
  split at h
  · refine .inl ⟨rfl, ?_⟩
    split at h
    · split at h
      · split at h
        · simp at h
        · exact .inl (fst h).symm
      · split at h
        · split at h
          · simp at h
          · exact .inr (fst h).symm
        · simp at h
    · simp at h
  · split at h
    · split at h
      · simp at h
      · exact .inr (fst h ▸ rfl)
    · simp at h
  · exact .inr (key _ _ _ h ▸ rfl)
  · exact .inr (fst h ▸ rfl)
  · exact .inr (fst h ▸ rfl)
  · exact .inr (fst h ▸ rfl)
  · exact .inr (key _ _ _ h ▸ rfl)
  · exact .inr (key _ _ _ h ▸ rfl)
  · exact .inr (key _ _ _ h ▸ rfl)
  · split at h
    · exact .inr (key _ _ _ h ▸ rfl)
    · simp at h
  · exact .inr (fst h ▸ rfl)
  · exact .inr (fst h ▸ rfl)
  · simp at h

/-- pedal lines: time and value are carried over unchanged -/
theorem toV1_pedal (ts : List Template) (v : Nat × Nat × Nat) (vals : List Val) :
    toV1 ts "sustain" v vals = some ("sustain", vals) ∧ toV1 ts "soft" v vals = some ("soft", vals) := by
  constructor <;> rfl

/-- deletions (and their pre-1.0 variants): every score-note field is carried over unchanged -/
theorem toV1_deletion (ts : List Template) (v : Nat × Nat × Nat) (vals : List Val) :
    toV1 ts "deletion" v vals = some ("deletion", vals) ∧ toV1 ts "trailing_score" v vals = some ("deletion", vals)
      ∧ toV1 ts "no_played" v vals = some ("deletion", vals) := by
  refine ⟨?_, ?_, ?_⟩ <;> rfl

/-- the performed note of a converted line: same id and velocity, MIDI pitch = the spelled pitch,
    integer tick times unchanged (float tick times of versions < 0.3.0 are rounded), channel 1, track 0 -/
theorem noteToV1_content (names : List String) (vals n : List Val) (h : noteToV1 names vals = some n) :
    ∃ (s : Str) (o p : Int), getField names vals "NoteName" = .str s ∧ getField names vals "Octave" = .int o ∧
      spellingToMidi (String.ofList s) (match getField names vals "Modifier" with | .int i => some i | _ => none) o = some p ∧
      n = [getField names vals "Id", .int p, roundTick (getField names vals "Onset"),
           roundTick (getField names vals "Offset"), getField names vals "Velocity", .int 1, .int 0] := by
  unfold noteToV1 at h
  split at h
  · rename_i s o hs ho
    simp only [Option.map_eq_some_iff] at h
    obtain ⟨p, hp, hn⟩ := h
    exact ⟨s, o, p, hs, ho, hp, hn.symm⟩
  · simp at h

theorem roundTick_int (i : Int) : roundTick (.int i) = .int i := rfl

/-- note pairs: the score-note fields are carried over unchanged and the note is converted by `noteToV1` -/
theorem toV1_snote_note (ts : List Template) (v : Nat × Nat × Nat) (vals vals' : List Val) (k : String)
    (h : toV1 ts "snote_note" v vals = some (k, vals')) :
    ∃ (nS : Nat) (names : List String) (n : List Val),
      noteToV1 names (vals.drop nS) = some n ∧ vals' = vals.take nS ++ n ∧ k = "snote_note" := by
  unfold toV1 at h
  simp only [Option.map_eq_some_iff, Prod.mk.injEq] at h
  obtain ⟨n, hn, hk, hv⟩ := h
  exact ⟨_, _, n, hn, hv.symm, hk.symm⟩

-- non-vacuity: a 0.5.0 note pair is converted (pitch C#4 = 61, ticks kept, velocity kept)
example : toV1Line Gen.matchTemplates Gen.matchComposites "snote_note" (0, 5, 0)
    [.str "1-1".toList, .str "C".toList, .int 1, .int 4, .int 1, .int 2, .frac ⟨1, 8, none, none⟩, .frac ⟨1, 4, none, none⟩,
     .dec (1/2), .dec (5/4), .strs ["staff1".toList],
     .str "n1".toList, .str "C".toList, .int 1, .int 4, .int 100, .int 200, .int 210, .int 60]
    = some ("snote_note", "snote(1-1,[C,#],4,1:2,1/8,1/4,0.5000,1.2500,[staff1])-note(n1,61,100,200,60,1,0).".toList) := by
  conv => rhs; rw [String.toList_ofList]
  decide +kernel

example : toV1Line Gen.matchTemplates Gen.matchComposites "soft" (0, 3, 0) [.int 10, .int 64]
    = some ("soft", "soft(10,64).".toList) := by decide +kernel

open C07Line in
/-- **parse (format x) = x, and formatting is a fixpoint**, for every well-formed template whose fields
    are interpreted independently (`plain`: pedal lines, ptime, stime, section, the 1.0.0 performed note,
    ornament / trill heads) - the special case of `line_roundtrip` (Props/C07Lines.lean) with the simple
    hypothesis `RT`: every value is written to a text its own interpreter reads back as that value (what
    the per-codec theorems establish).  Lines with an Attribute-dependent value (info, meta, scoreprop),
    with pitch post-processing (snote, pre-1.0 note) and composite lines: `line_roundtrip`,
    `pitch_line_roundtrip`, `composite_pair` / `_pair0` / `_suffix` / `_prefix` in Props/C07Lines.lean. -/
theorem line_roundtrip_plain (t : Template) (vals : List Val) (es : List (String × Str)) (tail : List Char)
    (ht : TemplateOK t) (hp : plain t = true) (hrt : RT t.fields vals es) (hv : FieldsOK t (textOf es) tail) :
    ∃ line, formatT t vals = some line ∧ parseT t (line ++ tail) = .ok vals ∧
      ((parseT t (line ++ tail)).toOption.bind (formatT t)) = some line := by
  simp only [plain, Bool.and_eq_true, beq_iff_eq] at hp
  obtain ⟨h1, h2⟩ := line_roundtrip_gen t vals vals es [] tail ht (by simp [depsOK, hp.2])
    (RTA_of_RT t _ _ _ _ hp.2 hrt) (applyPost_none t vals hp.1)
    (fieldsOKGen_of_fieldsOK t.pat t.out _ tail hv) (noEarly_nil _ _)
  have h2' : parseT t (render t.out (textOf es) ++ tail) = .ok vals := h2
  exact ⟨_, h1, h2', by rw [h2']; exact h1⟩

-- non-vacuity: the 1.0.0 performed note inside a note pair, and a soft pedal line
example : ∃ t ∈ Gen.matchTemplates, t.name = "v1.0.0/note" ∧ C07Line.plain t = true ∧
    C07Line.rtB t.fields [.str "n1".toList, .int 61, .int 100, .int 200, .int 60, .int 1, .int 0]
      [("Id", "n1".toList), ("MidiPitch", "61".toList), ("Onset", "100".toList), ("Offset", "200".toList),
       ("Velocity", "60".toList), ("Channel", "1".toList), ("Track", "0".toList)] = true ∧
    FieldsOK t (C07Line.textOf [("Id", "n1".toList), ("MidiPitch", "61".toList), ("Onset", "100".toList),
       ("Offset", "200".toList), ("Velocity", "60".toList), ("Channel", "1".toList), ("Track", "0".toList)]) [] := by
  decide +kernel

end C07
