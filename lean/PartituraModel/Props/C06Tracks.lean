/-
C06 — track numbers: `Performance.sanitize_track_numbers` (repaired: fixes/C06-3) and its
composition with the MIDI loader.
-/
import PartituraModel.Model.PerfMidi
import PartituraModel.Proofs.C06Tracks

namespace C06
open Model Model.PerfMidi C06Sort C06Stable C06Tracks

/-- the (part index, track number) pairs of the notes, controls and programs of all parts -/
def allPairs (parts : List (List Int)) : List (Nat × Int) :=
  parts.zipIdx.flatMap fun p => p.1.map fun t => (p.2, t)

/-- the new number of track `t` of part `i` -/
def newTrack (parts : List (List Int)) (i : Nat) (t : Int) : Option Nat :=
  indexOfKey (i, t) (sanitizeKeys (allPairs parts))

/-- `sanitize_track_numbers`: the new numbers are the positions in the key list (first
    conjunct, by definition); every (part, track) pair that occurs gets a number below the number of distinct
    pairs (a), the numbers follow the lexicographic order of (part index, old track number) (b) — so a number
    never occurs in two parts or for two old tracks of one part, the parts keep their relative order and
    the tracks of a part theirs (c, d, e) —, and every number below the count is used (f) -/
theorem sanitize_tracks (parts : List (List Int)) :
    (sanitize parts = parts.zipIdx.map fun p => p.1.map fun t => newTrack parts p.2 t) ∧
    (∀ k ∈ allPairs parts, ∃ n, newTrack parts k.1 k.2 = some n ∧ n < (sanitizeKeys (allPairs parts)).length) ∧
    (∀ a ∈ allPairs parts, ∀ b ∈ allPairs parts, ∀ n m, newTrack parts a.1 a.2 = some n →
        newTrack parts b.1 b.2 = some m → (n < m ↔ LexLt a b)) ∧
    (∀ a ∈ allPairs parts, ∀ b ∈ allPairs parts, ∀ n, newTrack parts a.1 a.2 = some n →
        newTrack parts b.1 b.2 = some n → a = b) ∧
    (∀ a ∈ allPairs parts, ∀ b ∈ allPairs parts, ∀ n m, newTrack parts a.1 a.2 = some n →
        newTrack parts b.1 b.2 = some m → a.1 < b.1 → n < m) ∧
    (∀ a ∈ allPairs parts, ∀ b ∈ allPairs parts, ∀ n m, newTrack parts a.1 a.2 = some n →
        newTrack parts b.1 b.2 = some m → a.1 = b.1 → a.2 < b.2 → n < m) ∧
    (∀ n < (sanitizeKeys (allPairs parts)).length, ∃ k ∈ allPairs parts, newTrack parts k.1 k.2 = some n) := by
  have hstrict := strict_sanitizeKeys (allPairs parts)
  -- the new number is a position in the key list: `Model.indexOf`
  have e : ∀ {k : Nat × Int} {n}, newTrack parts k.1 k.2 = some n → Model.indexOf k (sanitizeKeys (allPairs parts)) = some n :=
    fun h => (indexOfKey_eq _ _).symm.trans h
  have hb : ∀ a ∈ allPairs parts, ∀ b ∈ allPairs parts, ∀ n m, newTrack parts a.1 a.2 = some n →
      newTrack parts b.1 b.2 = some m → (n < m ↔ LexLt a b) :=
    fun a _ b _ n m hn hm => indexOf_lt_iff (lexLt_asymm _ _) hstrict (e hn) (e hm)
  refine ⟨rfl, ?_, hb, ?_, ?_, ?_, ?_⟩
  · intro k hk
    obtain ⟨n, hn⟩ := indexOf_of_mem ((mem_sanitizeKeys _ k).mpr hk)
    exact ⟨n, (indexOfKey_eq _ _).trans hn, indexOf_lt_length hn⟩
  · intro a _ b _ n hn hm
    exact indexOf_inj (e hn) (e hm)
  · intro a ha b hb' n m hn hm hlt
    exact (hb a ha b hb' n m hn hm).mpr (Or.inl hlt)
  · intro a ha b hb' n m hn hm he hlt
    exact (hb a ha b hb' n m hn hm).mpr (Or.inr ⟨he, hlt⟩)
  · intro n hn
    refine ⟨_, (mem_sanitizeKeys _ _).mp (List.getElem_mem hn), (indexOfKey_eq _ _).trans ?_⟩
    exact indexOf_of_getElem? (hstrict.imp fun {a b} (h : LexLt a b) (e : a = b) => lexLt_irrefl b (e ▸ h))
      (List.getElem?_eq_getElem hn)

/-- non-vacuity, and the witness of fixes/C06-3: part 0 uses tracks 7 and 2, part 1 track 2 -/
example : sanitize [[7, 2, 7], [2], []] = [[some 1, some 0, some 1], [some 2], []] := by decide

/-- parts that carry ONE track number each (part j: `c_j + 1` entries with track `t_j`, any `t_j`) are
    numbered by their position -/
theorem sanitize_single_track (ts : List (Int × Nat)) :
    sanitize (ts.map fun tc => List.replicate (tc.2 + 1) tc.1)
      = ts.zipIdx.map fun p => List.replicate (p.1.2 + 1) (some p.2) := by
  rw [(sanitize_tracks _).1]
  unfold newTrack allPairs
  rw [sanitizeKeys_single, List.zipIdx_map, List.map_map]
  refine List.map_congr_left ?_
  intro p hp
  have hget : ts[p.2]? = some p.1 := List.mem_zipIdx_iff_getElem?.mp hp
  simp only [Function.comp, Prod.map, id, List.map_replicate]
  have := indexOfKey_keysFrom 0 ts p.2 p.1 hget
  rw [Nat.zero_add] at this
  rw [this]

/-- The loader: every performed part is read from one file track and all its notes, controls and programs
    carry that track's index, so `Performance(...)`/`sanitize_track_numbers` gives the j-th performed part
    (the j-th file track that holds a note, a control or a program) the number j — for all its notes,
    controls and programs -/
theorem loader_renumbering (rts : List RTrack) (hk : ∀ t ∈ rts, t.kept = true) :
    loadNumbers rts = rts.zipIdx.map fun p =>
      List.replicate (p.1.notes.length + p.1.controls.length + p.1.programs.length) (some p.2) := by
  unfold loadNumbers
  rw [map_partTracks rts hk, sanitize_single_track, List.zipIdx_map, List.map_map]
  refine List.map_congr_left ?_
  intro p hp
  have := kept_pos p.1 (hk p.1 (List.mem_zipIdx_iff_getElem?.mp hp |> List.mem_of_getElem?))
  simp only [Function.comp, Prod.map, id]
  congr 1
  omega

/-- … in particular what `loadFile` returns (its parts are the kept tracks) -/
theorem loadFile_numbers (merge : Bool) (tracks : List Track) :
    (loadNumbers (loadFile merge tracks)).map partNumber
      = (loadFile merge tracks).zipIdx.map fun p => some p.2 := by
  have hk := loadFile_kept merge tracks
  rw [loader_renumbering _ hk, List.map_map]
  refine List.map_congr_left ?_
  intro p hp
  have := kept_pos p.1 (hk p.1 (List.mem_zipIdx_iff_getElem?.mp hp |> List.mem_of_getElem?))
  obtain ⟨c, hc⟩ : ∃ c, p.1.notes.length + p.1.controls.length + p.1.programs.length = c + 1 := ⟨_, (Nat.succ_pred_eq_of_pos this).symm⟩
  simp [partNumber, hc, List.replicate_succ]

/-- non-vacuity: three file tracks, the middle one (tempo only) makes no part: file tracks 0 and 2 become
    parts 0 and 1 -/
example : (loadFile false [[(0, Ev.noteOn 0 60 64), (10, Ev.noteOff 0 60 0)], [(0, Ev.tempo 400000)],
                           [(5, Ev.control 3 64 127), (1, Ev.program 3 9)]]).map (·.fileTrack) = [0, 2] ∧
    loadNumbers (loadFile false [[(0, Ev.noteOn 0 60 64), (10, Ev.noteOff 0 60 0)], [(0, Ev.tempo 400000)],
                           [(5, Ev.control 3 64 127), (1, Ev.program 3 9)]]) = [[some 0], [some 1, some 1]] := by
  decide +kernel

end C06
