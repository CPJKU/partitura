/-
C03 — the literal data the element models copy from the source, compared with the live source on every run.

`Gen/C03Tables.lean` is regenerated by harness/translate_c03.py: the exporter's and importer's tables, and the elements the live
`save_musicxml` writes for a probe score that uses every element kind once (prefix encodings of the trees).  The theorems
below state that the model writers, given the same objects, produce exactly these trees — every element name, attribute
name, fixed value and child order of `make_note_el`, `add_chord_tags`, `do_directions`, `do_attributes`, `do_barlines`,
`do_harmony`, `do_prints` and of the part list is thereby the one of the source the check runs against.
-/
import PartituraModel.Gen.C03Tables
import PartituraModel.Model.XmlNames
import PartituraModel.Model.XmlDir
import PartituraModel.Model.XmlBar
import PartituraModel.Model.XmlPartList
import PartituraModel.Model.XmlAttrs

namespace C03
open Model Model.XmlNote Model.XmlDir Model.XmlBar Model.PartList

/-- **tables_extracted.**  The translator could run every probe. -/
theorem tables_extracted : Gen.C03.extractionOk = true := by decide +kernel

/-- **articulation_tables.**  The enumeration `Artic` is the exporter's `ARTICULATIONS` table, name for name and in its
    order, and `get_articulations` recognises exactly these names. -/
theorem articulation_tables :
    Artic.all.map Artic.name = Gen.C03.articulationsExport ∧
    (Gen.C03.articulationsImport.all fun a => Gen.C03.articulationsExport.contains a) = true ∧
    (Gen.C03.articulationsExport.all fun a => Gen.C03.articulationsImport.contains a) = true := by decide +kernel

/-- **dynamics_table.**  `dynTable` is `DYN_DIRECTIONS`: the same names, each with the same class. -/
theorem dynamics_table :
    (dynTable.all fun e => Model.lookup e.1 Gen.C03.dynDirections == some e.2) = true ∧
    (Gen.C03.dynDirections.all fun e => Model.lookup e.1 dynTable == some e.2) = true ∧
    Gen.C03.pedalDirections = ["sustain_pedal".toList] := by decide +kernel

/-- **merge_order_table.**  The `order` dict of `merge_with_voice`: notes have rank 6 (`Item.order`), the other tags the
    ranks the harness hands to the measure model. -/
theorem merge_order_table :
    Gen.C03.mergeOrder = [("barline".toList, 0), ("attributes".toList, 1), ("direction".toList, 2), ("print".toList, 3),
      ("sound".toList, 4), ("harmony".toList, 5), ("note".toList, 6)] := by decide +kernel

def probeNote : NoteAttrs :=
  { id := none, body := .rest false, dur := 12, chord := false, tiePrev := false, tieNext := false, voice := some 1,
    stem := none, fermata := false, arts := [], technical := [], symType := some "quarter".toList, dots := 0,
    actualNotes := none, normalNotes := none, staff := some 1, nStaves := 2, slurStops := [], slurStarts := [],
    tupletStops := [], tupletStarts := [] }

/-- **note_probes.**  The thirteen `<note>` elements of the probe score (a tied, slurred, dotted note with stem, two
    articulations and a fingering; its partner with a fermata; a chord; an acciaccatura and its main note; a triplet with
    `<time-modification>` and full `<tuplet>` contents; an unpitched note with notehead; a rest; a note in a second voice
    and staff) are what `writeNote` gives. -/
theorem note_probes :
    (writeNote { probeNote with
        id := some "n1".toList, body := .pitched ['C'] (some 1) 4 none, tieNext := true, stem := some "up".toList,
        arts := [.known .staccato, .known .accent], technical := [.fingering 3], dots := 1, slurStarts := [1] }).flat = Gen.C03.note_n1 ∧
    (writeNote { probeNote with
        id := some "n2".toList, body := .pitched ['C'] (some 1) 4 none, tiePrev := true, fermata := true,
        slurStops := [1] }).flat = Gen.C03.note_n2 ∧
    (writeNote { probeNote with id := some "n3".toList, body := .pitched ['G'] none 4 none }).flat = Gen.C03.note_n3 ∧
    (writeNote { probeNote with id := some "n4".toList, body := .pitched ['E'] (some 0) 4 none, chord := true }).flat =
      Gen.C03.note_n4 ∧
    (writeNote { probeNote with
        id := some "g1".toList, body := .pitched ['D'] none 5 (some .acciaccatura), dur := 0, symType := none }).flat = Gen.C03.note_g1 ∧
    (writeNote { probeNote with id := some "n5".toList, body := .pitched ['D'] none 4 none }).flat = Gen.C03.note_n5 ∧
    (writeNote { probeNote with
        id := some "t1".toList, body := .pitched ['A'] none 4 none, dur := 4, symType := some "eighth".toList,
        actualNotes := some 3, normalNotes := some 2,
        tupletStarts := [⟨1, some 3, some "eighth".toList, some 2, some "eighth".toList⟩] }).flat = Gen.C03.note_t1 ∧
    (writeNote { probeNote with
        id := some "t2".toList, body := .pitched ['A'] none 4 none, dur := 4, symType := some "eighth".toList,
        actualNotes := some 3, normalNotes := some 2 }).flat = Gen.C03.note_t2 ∧
    (writeNote { probeNote with
        id := some "t3".toList, body := .pitched ['A'] none 4 none, dur := 4, symType := some "eighth".toList,
        actualNotes := some 3, normalNotes := some 2, tupletStops := [1] }).flat =
      Gen.C03.note_t3 ∧
    (writeNote { probeNote with id := some "u1".toList, body := .unpitched ['E'] 4 (some (['x'], false)) }).flat =
      Gen.C03.note_u1 ∧
    (writeNote { probeNote with id := some "r1".toList, dur := 24, symType := some "half".toList }).flat = Gen.C03.note_r1 ∧
    (writeNote { probeNote with
        id := some "b1".toList, body := .pitched ['C'] none 3 none, dur := 48, voice := some 2, staff := some 2,
        symType := some "whole".toList }).flat = Gen.C03.note_b1 ∧
    (writeNote { probeNote with
        id := some "n6".toList, body := .pitched ['C'] none 4 none, dur := 48, symType := some "whole".toList }).flat = Gen.C03.note_n6 := by decide +kernel

/-- **direction_probes.**  A dynamics mark with staff, a wedge and its stop, words with dashes and their stop, a pedal with
    line and its stop, a tempo, and the first `<attributes>` of a two-staff part. -/
theorem direction_probes :
    (writeDir (.dyn ['f'] (some 2))).flat = Gen.C03.dir_1 ∧
    (writeDir (.wedgeStart true 1 none)).flat = Gen.C03.dir_2 ∧
    (writeDir (.rangeStop true 1)).flat = Gen.C03.dir_3 ∧
    (writeDir (.words "cresc.".toList (some 1) none)).flat = Gen.C03.dir_4 ∧
    (writeDir (.rangeStop false 1)).flat = Gen.C03.dir_5 ∧
    (writeDir (.pedalStart true (some 2))).flat = Gen.C03.dir_6 ∧
    (writeDir (.pedalStop true (some 2))).flat = Gen.C03.dir_7 ∧
    (writeSound (.whole 90)).flat = Gen.C03.sound_1 ∧
    (writeAttributes [.divisions 12, .key (-3) (some "minor".toList), .time 4 4, .staffDetails (some 5),
        .clef (some 1) ['G'] (some 2) (some 0), .clef (some 2) ['F'] (some 4) (some (-1))] (some 2)).flat = Gen.C03.attr_1 := by decide +kernel

/-- **attributes_probes.**  `do_attributes` as a whole on the first and the third measure of the probe part: from the results
    of its five iteration calls (the quarter duration, key and time signature, a staff and two clefs at 0; a clef change at
    96) `doAttributes` makes the two `<attributes>` elements of the file — the order of the children (divisions, key, time,
    staff-details, `<staves>` in front of the first clef, clefs), and `<staves>` once per call. -/
theorem attributes_probes :
    (Model.XmlAttrs.doAttributes
      { quarters := [(0, 12)], keys := [(0, -3, some "minor".toList)], times := [(0, 4, 4)], staffs := [(0, some 5)],
        clefs := [⟨0, 0, some 1, ['G'], some 2, some 0⟩, ⟨0, 0, some 2, ['F'], some 4, some (-1)⟩] }).map
        (fun e => (e.1, e.2.flat)) = [(0, Gen.C03.attr_1)] ∧
    (Model.XmlAttrs.doAttributes
      { quarters := [], keys := [], times := [], staffs := [], clefs := [⟨96, 0, some 2, ['G'], some 2, none⟩] }).map
        (fun e => (e.1, e.2.flat)) = [(96, Gen.C03.attr_2)] := by decide +kernel

/-- **barline_probes.**  The three measures of the probe part through `doBarlines`: a repeat over the first two measures, a
    first ending over the second, a second ending over the third, a left fermata at the third barline (not written into the
    right barline of the second measure), a right fermata at the end. -/
theorem barline_probes :
    (doBarlines 0 48 {
        fermIn := [], fermAfter := [], repeatStart := [0], endingStart := [], repeatEnd := [], endingEnd := [] }).map (fun e => (e.1, e.2.flat)) = [(0, Gen.C03.bar_1)] ∧
    (doBarlines 48 96 {
        fermIn := [], fermAfter := [(96, .left)], repeatStart := [], endingStart := [(48, ['1'])], repeatEnd := [96],
        endingEnd := [(96, ['1'])] }).map (fun e => (e.1, e.2.flat)) =
      [(48, Gen.C03.bar_2), (96, Gen.C03.bar_3)] ∧
    (doBarlines 96 144 {
        fermIn := [(96, .left)], fermAfter := [(144, .right)], repeatStart := [], endingStart := [(96, ['2'])],
        repeatEnd := [], endingEnd := [(144, ['2'])] }).map (fun e => (e.1, e.2.flat)) =
      [(96, Gen.C03.bar_4), (144, Gen.C03.bar_5)] := by decide +kernel

theorem harmony_probes :
    (writeHarmony (.roman "V7".toList)).flat = Gen.C03.harm_1 ∧
    (writeHarmony (.chord ['C'] (some "maj7".toList) (some ['E']))).flat = Gen.C03.harm_2 ∧
    (writeHarmony (.cadence "PAC".toList)).flat = Gen.C03.harm_3 := by decide +kernel

theorem print_probes :
    (doPrints [0] [0]).map (fun e => (e.1, e.2.flat)) = [(0, Gen.C03.print_1)] ∧
    (doPrints [] [96]).map (fun e => (e.1, e.2.flat)) = [(96, Gen.C03.print_2)] := by decide +kernel

/-- **partlist_probe.**  A{B{P1}, P2}: the nested group is closed before the second part, the outer one at the end. -/
theorem partlist_probe :
    ((writePartList (Forest.flatten []
        (.group ⟨0, ['1'], some "brace".toList, some ['A']⟩
          (.group ⟨1, ['2'], none, none⟩ (.part ⟨"P1".toList, some "Probe".toList, some "Pr.".toList⟩ .nil)
            (.part ⟨"P2".toList, none, none⟩ .nil)) .nil))).map fun e => (plXml e).flat) =
      [Gen.C03.pl_1, Gen.C03.pl_2, Gen.C03.pl_3, Gen.C03.pl_4, Gen.C03.pl_5, Gen.C03.pl_6] := by decide +kernel

end C03
