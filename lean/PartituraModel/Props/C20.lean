/-
C20 — the container protocol of `Score` / `Performance` (Model/IterProto.lean, `run`): `len`, indexing with negative
indices, integer assignment, and iteration through handles that each keep their own cursor — every handle yields the
parts in order, once, whatever other calls are interleaved; the shared-cursor design does not (`shared_violates`).
Props/C20Seq.lean extends the protocol (reversed, `in`, slices).  The other half of C20 — read-only entry points leave
their argument alone and can be repeated — is proved over heap models in Props/C20Array.lean (array views),
C20Forms.lean (argument forms, `transpose`), C20Refs.lean (aliasing after `replace_refs`), C20Cache.lean (memo reads)
and C20Perf.lean (`sanitize_track_numbers`).
-/
import PartituraModel.Proofs.C20Seq

namespace C20
open Model Model.IterProto

def countNext (h : Nat) : List Op → Nat
  | [] => 0
  | Op.next h' :: ops => (if h' = h then 1 else 0) + countNext h ops
  | _ :: ops => countNext h ops

/-- past the end a correct iterator answers StopIteration for ever -/
theorem expected_stop {α : Type} (parts : List α) (c : Nat) (hc : parts[c]? = none) (k : Nat) :
    expected parts (c + k) = Out.stop := by
  rw [expected, List.getElem?_eq_none_iff.mpr (Nat.le_trans (List.getElem?_eq_none_iff.mp hc) (Nat.le_add_right c k))]

/-- the handle after `next`: one further if there was an item; else it stays, and answers StopIteration from there on -/
theorem expected_advance {α : Type} (parts : List α) (c k : Nat) :
    expected parts ((if c < parts.length then c + 1 else c) + k) = expected parts (c + (k + 1)) := by
  split
  · rw [Nat.add_right_comm, Nat.add_assoc]
  · have hc := List.getElem?_eq_none_iff.mpr (Nat.le_of_not_lt ‹_›)
    rw [expected_stop parts c hc, expected_stop parts c hc]

/-- **every handle sees the parts in order, whatever else happens**: for every container, every
    state in which handle `h` exists with cursor `c`, and EVERY interleaving `ops` of
    iter/next/len/getitem calls (on this and any number of other handles), the successive results
    of `next h` are parts[c], parts[c+1], … and then StopIteration for ever -/
theorem fresh_in_order {α : Type} (parts : List α) (h : Nat) (ops : List Op) :
    ∀ (s : State) (c : Nat), s.cursors[h]? = some c →
      nextOutputs h ops (run parts s ops).2 = (List.range (countNext h ops)).map (fun k => expected parts (c + k)) := by
  induction ops with
  | nil => intro s c _; rfl
  | cons op ops ih =>
    intro s c hc
    show nextOutputs h (op :: ops) ((step parts s op).2 :: (run parts (step parts s op).1 ops).2) = _
    -- the call is `next h` (it answers `expected parts c`, the cursor moves on) or leaves the cursor of `h` alone
    by_cases hop : op = Op.next h
    · subst hop
      obtain ⟨ho, hc'⟩ := C20SeqAux.step_next parts s h c hc
      simp only [nextOutputs, countNext, if_true, ih _ _ hc', ho, C20SeqAux.range_succ_map, expected_advance]
      rfl
    · have := ih _ c (C20SeqAux.step_other parts s op h c hop hc)
      cases op with
      | next h' =>
        have hh : h' ≠ h := fun e => hop (e ▸ rfl)
        simpa only [nextOutputs, countNext, if_neg hh, Nat.zero_add] using this
      | _ => exact this

/-- corollary: a handle obtained from `iter` yields parts[0], parts[1], …, then StopIteration,
    independently of every other handle (nested and interleaved iterations) -/
theorem fresh_visits_once {α : Type} (parts : List α) (s : State) (ops : List Op) :
    let s' := (step parts s Op.iter).1
    nextOutputs s.cursors.length ops (run parts s' ops).2
      = (List.range (countNext s.cursors.length ops)).map (expected parts) := by
  have h := fresh_in_order parts s.cursors.length ops { cursors := s.cursors ++ [0] } 0 (by simp)
  simpa [step] using h

/-- len and indexing: `c[i]` is parts[i] for 0 ≤ i < n, parts[n+i] for −n ≤ i < 0, IndexError otherwise;
    they do not touch any iterator -/
theorem len_getitem {α : Type} (parts : List α) (s : State) (i : Int) :
    (step parts s Op.len) = (s, Out.length parts.length) ∧
    (step parts s (Op.getitem i)).1 = s ∧
    (0 ≤ i → i < parts.length → (step parts s (Op.getitem i)).2 = expected parts i.toNat) ∧
    (i < 0 → -(parts.length : Int) ≤ i →
        (step parts s (Op.getitem i)).2 = expected parts (parts.length - (-i).toNat)) ∧
    ((i < -(parts.length : Int) ∨ (parts.length : Int) ≤ i) → (step parts s (Op.getitem i)).2 = Out.indexError) := by
  refine ⟨rfl, ?_, ?_, ?_, ?_⟩
  · simp only [step]; split <;> rfl
  · intro h0 h1
    rw [C20SeqAux.getitem_eq parts s i _ ((Int.toNat_lt h0).mpr h1) (if_pos h0)]
  · intro h0 h1
    rw [C20SeqAux.getitem_eq parts s i _ (C20SeqAux.neg_index_lt (Int.not_le.mpr h0) (Int.neg_le_of_neg_le h1))
      (by rw [pyIndex, if_neg (Int.not_le.mpr h0), if_pos (Int.neg_le_of_neg_le h1)])]
  · intro h
    have : pyIndex parts i = none := by
      unfold pyIndex
      split
      · exact List.getElem?_eq_none_iff.mpr (Nat.not_lt.mp ((C20SeqAux.index_out_of_range h).1 ‹_›))
      · exact if_neg ((C20SeqAux.index_out_of_range h).2 ‹_›)
    simp only [step, this]

/-- **assignment is seen consistently by indexing, len and iteration**: after `c[i] = a` with a valid index,
    `c[i]` is `a`, every other index and the length are unchanged, and a fresh iteration yields exactly the new
    part list in order (whatever other calls are interleaved) -/
theorem set_consistent {α : Type} (parts ps : List α) (i : Int) (a : α) (h : setItem parts i a = some ps) :
    ps.length = parts.length ∧ pyIndex ps i = some a ∧
    (∀ s : State, ∀ ops : List Op,
      nextOutputs s.cursors.length ops (run ps (step ps s Op.iter).1 ops).2
        = (List.range (countNext s.cursors.length ops)).map (expected ps)) := by
  obtain ⟨k, hk, rfl, hi⟩ := C20SeqAux.setItem_eq_some h
  exact ⟨List.length_set, (hi _ List.length_set).trans (List.getElem?_set_self hk), fresh_visits_once _⟩

/-- an out-of-range assignment is rejected and changes nothing -/
theorem set_rejects {α : Type} (parts : List α) (i : Int) (a : α)
    (h : i < -(parts.length : Int) ∨ (parts.length : Int) ≤ i) : setItem parts i a = none := by
  unfold setItem
  split
  · exact if_neg ((C20SeqAux.index_out_of_range h).1 ‹_›)
  · exact if_neg ((C20SeqAux.index_out_of_range h).2 ‹_›)

/-- the shared-cursor design (the code before the repair) violates the property: with two parts,
    an inner iteration started after the outer loop took its first item makes the outer loop
    lose parts[1] -/
theorem shared_violates :
    let ops := [Op.iter, Op.next 0, Op.iter, Op.next 1, Op.next 1, Op.next 0]
    nextOutputs 0 ops (srun [10, 20] {} ops).2 = [Out.item 10, Out.stop] ∧
    nextOutputs 0 ops (run [10, 20] {} ops).2 = [Out.item 10, Out.item 20] := by decide +kernel

/-- non-vacuity of `fresh_in_order`: a state with two live handles -/
example : ({ cursors := [1, 0] } : State).cursors[1]? = some 0 := by decide +kernel

end C20
