/-
C11 — list level: `tie_notes` neither loses nor adds a row of the note array and keeps the order of the rows.

The tied duration and end of each row are kept by `tie_notes_sound_same`
(Props/C11.lean) and are determined by the list (`tie_duration_determined`).
-/
import PartituraModel.Props.C11
import PartituraModel.Proofs.C11Sound

namespace C11
open Model Model.Dur Model.Meas Gen C11Rows

/-- **tie_rows_same** (list level, all parts, all note lists with distinct keys whose ties point at notes with a
    back link): the notes without `tie_prev` — the rows of the note array — are, in iteration order, the same before
    and after `tie_notes`, with the same key, onset, pitch, voice and id: no row is lost (the note a split note was
    tied to keeps its back link), none is added (every new piece has a back link), the order is kept (the first
    piece stays where the note was).  The well-formedness is kept too, so the statement composes. -/
theorem tie_rows_same (p : PartM) (ns : List Note) (hkeys : KeysOK ns) (hlinks : LinksOK ns) :
    rowsOf (tieNotes p ns) = rowsOf ns ∧ KeysOK (tieNotes p ns) ∧ LinksOK (tieNotes p ns) := by
  rw [C11Walk.tieNotes_eq]
  exact tieStage1_rows p.qd (p.measures.map (·.start)) ns hkeys hlinks

/-- the tied duration and the end of a row (`duration_tied`, `end_tied`: the recursion `Walk`) are functions of the list -/
theorem tie_duration_determined (ns : List Note) (x d e d' e' : Nat) (h : C11Walk.Walk ns x d e) (h' : C11Walk.Walk ns x d' e') :
    d = d' ∧ e = e' := by
  obtain ⟨p, hp⟩ := C11Sound.walk_path ns x d e h
  obtain ⟨p', hp'⟩ := C11Sound.walk_path ns x d' e' h'
  obtain ⟨h1, h2, _⟩ := C11Sound.walkP_unique ns x d e p hp d' e' p' hp'
  exact ⟨h1, h2⟩

/-- rows with their tied durations: together with `tie_notes_sound_same`, every row of the old list that can be
    walked is a row of the new list at the same place with the same duration and end -/
theorem tie_rows_with_durations (p : PartM) (ns : List Note) (hkeys : KeysOK ns) (hlinks : LinksOK ns) :
    rowsOf (tieNotes p ns) = rowsOf ns ∧
    ∀ x d e, C11Walk.Walk ns x d e → C11Walk.Walk (tieNotes p ns) x d e ∧
      ∀ d' e', C11Walk.Walk (tieNotes p ns) x d' e' → d' = d ∧ e' = e := by
  refine ⟨(tie_rows_same p ns hkeys hlinks).1, ?_⟩
  intro x d e hw
  have hw' := (tie_notes_sound_same p ns).1 x d e hw
  exact ⟨hw', fun d' e' h' => tie_duration_determined _ x d' e' d e h' hw'⟩

-- non-vacuity: the witness of C11-3 — [0, 6) tied to [6, 8), bars of 4: three notes afterwards, still one row
example : KeysOK [exA, exB] := by unfold KeysOK; decide
example : LinksOK [exA, exB] := by
  intro n hn t ht
  simp only [List.mem_cons, List.not_mem_nil, or_false] at hn
  rcases hn with rfl | rfl
  · have : t = 1 := by simpa [exA] using ht.symm
    subst this
    exact ⟨exB, by decide, by decide⟩
  · simp [exB] at ht

def exRow : Fields := (0, 0, "C_0_4", some 1, some "n0")

example : rowsOf [exA, exB] = [exRow] ∧ rowsOf (tieNotes exTiePart [exA, exB]) = [exRow] ∧
    (tieNotes exTiePart [exA, exB]).length = 3 :=
  ⟨by decide +kernel, by decide +kernel, by decide +kernel⟩

end C11
