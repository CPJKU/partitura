/-
C07 — `importmatch.parse_matchline`: a written line of kind k is REJECTED BY EVERY PARSER TRIED BEFORE k's own,
proved from the generated templates (whole table by kernel evaluation), so the ordered dispatch returns what
k's own parser returns.

`lineSyms` is the symbolic text of a written line of a kind (the out_pattern of its template, or of the parts of
its composite, literal characters known, field texts unknown; the fields of the first / second component are
named `a:Name` / `b:Name`).  `dispatchConds` checks, for every parser that stands before k in
FROM_MATCHLINE_METHODS, that one of its component patterns matches at no offset of that text or that one of its
identifier literals occurs nowhere in it, and returns the conditions on the field texts under which this holds:
the score-note fields that must hold no `,` `)` (comma count where `note(` stands inside `snote(`) and the
identifiers (`-deletion.`, `insertion-`, …) no field text may contain; in addition no field text holds `(`.
-/
import PartituraModel.Proofs.C07DispatchTable
import PartituraModel.Gen.MatchTemplates
import PartituraModel.Props.C07Files

namespace C07
open Model Model.Template Model.MatchCodec Model.MatchLine Gen

/-- **the whole dispatch table passes the structural check**: for every format version and every line kind of
    its parser list that exists in that version (68 of the 70 entries), every earlier parser provably rejects the written
    line (kernel evaluation over the generated templates, re-checked whenever a pattern, an out_pattern, an
    identifier literal or the order of FROM_MATCHLINE_METHODS changes) -/
theorem dispatch_table_ok : ∀ ver ∈ allVersions, ∀ k ∈ orderOf ver,
    (lineSyms matchTemplates matchComposites (verName ver ++ "/" ++ k)).isSome = true →
    (condsFor ver k).isSome = true :=
  dispatch_evaluated.1

example : (allVersions.flatMap fun ver => (orderOf ver).filter fun k =>
    (lineSyms matchTemplates matchComposites (verName ver ++ "/" ++ k)).isSome).length = 68 := dispatch_evaluated.2.1

-- the conditions, for the kinds that need any: deletions walk the comma count of the performed note over the
-- score-note fields; the variants of deletion / insertion are told apart by their identifier literal only
example : condsFor (0, 5, 0) "no_played" = some
    (["a:Anchor", "a:NoteName", "a:Modifier", "a:Octave", "a:Measure", "a:Beat", "a:Offset", "a:Duration", "a:OnsetInBeats"],
     ["-deletion.", "-trailing_score_note."]) := dispatch_evaluated.2.2.1
example : condsFor (0, 5, 0) "trill" = some ([], ["insertion-", "hammer_bounce-", "trailing_played_note-"]) ∧
    condsFor (1, 0, 0) "ornament" = some ([], ["insertion-"]) ∧ condsFor (1, 0, 0) "stime_ptime" = some ([], []) ∧
    condsFor (0, 3, 0) "meta" = some ([], []) ∧ condsFor (1, 0, 0) "section" = some ([], []) := dispatch_evaluated.2.2.2.1

theorem split_at_mem : ∀ (l : List String) (k : String), k ∈ l →
    l = l.takeWhile (· != k) ++ k :: (l.dropWhile (· != k)).drop 1 := by
  intro l
  induction l with
  | nil => intro k h; simp at h
  | cons x l ih =>
    intro k h
    by_cases hx : x = k
    · subst hx; simp
    · have hk : k ∈ l := by
        rcases List.mem_cons.mp h with e | h'
        · exact absurd e.symm hx
        · exact h'
      have hb : (x != k) = true := by simpa using hx
      simp only [List.takeWhile_cons, List.dropWhile_cons, hb, if_true, List.cons_append]
      rw [← ih k hk]

/-- **ordered dispatch of a written line** (`parse_matchline`): let the line be a written line of kind `k` of
    version `ver` - the rendering of `k`'s symbolic text under ANY field texts `v` that hold no `(`, no `,` `)`
    in the fields `names` and none of the identifiers `ids`.  Then every parser tried before `k` rejects it,
    and `parse_matchline` returns `k` with exactly the values `k`'s own parser reads (which the round-trip
    theorems `line_roundtrip*`, `composite_*` identify with the written values). -/
theorem dispatch_written (ver : Nat × Nat × Nat) (k : String) (syms : List Sym) (names ids : List String)
    (v : String → List Char) (vals : List Val)
    (hk : k ∈ orderOf ver)
    (hs : lineSyms matchTemplates matchComposites (verName ver ++ "/" ++ k) = some syms)
    (hc : condsFor ver k = some (names, ids))
    (hm : ∀ n ∈ symFields syms, marker ∉ v n) (hclean : ∀ n ∈ names, CleanText closer (v n))
    (hid : ∀ i ∈ ids, ∀ n ∈ symFields syms, findLit i.toList (v n) = false)
    (hp : parseLine matchTemplates matchComposites (verName ver ++ "/" ++ k) (renderS v syms) = .ok vals) :
    dispatch matchTemplates matchComposites (orderOf ver) ver (renderS v syms) = some (k, vals) := by
  unfold condsFor at hc
  rw [hs] at hc
  simp only at hc
  have hsplit := split_at_mem (orderOf ver) k hk
  rw [hsplit]
  exact dispatch_struct matchTemplates matchComposites ver syms v _ _ k names ids vals hc hm hclean hid hp

/-- **a written single-component line** (`sustain(…).`, `info(…).`, `scoreprop(…).`, `section(…).`, `meta(…).`):
    the text `render t.out v` that `matchline` writes for the template of kind `k`, with field texts holding no
    `(` (and satisfying the kind's conditions), is dispatched to `k`'s own parser -/
theorem dispatch_template_line (ver : Nat × Nat × Nat) (k : String) (t : Template) (names ids : List String)
    (v : String → List Char) (vals : List Val) (hk : k ∈ orderOf ver)
    (ht : findTpl matchTemplates (verName ver ++ "/" ++ k) = some t)
    (hc : condsFor ver k = some (names, ids))
    (hm : ∀ n ∈ symFields (flat t.out), marker ∉ v n) (hclean : ∀ n ∈ names, CleanText closer (v n))
    (hid : ∀ i ∈ ids, ∀ n ∈ symFields (flat t.out), findLit i.toList (v n) = false)
    (hp : parseT t (render t.out v) = .ok vals) :
    dispatch matchTemplates matchComposites (orderOf ver) ver (render t.out v) = some (k, vals) := by
  have hs : lineSyms matchTemplates matchComposites (verName ver ++ "/" ++ k) = some (flat t.out) := by
    simp only [lineSyms, ht]
  have hp' : parseLine matchTemplates matchComposites (verName ver ++ "/" ++ k) (renderS v (flat t.out)) = .ok vals := by
    simp only [parseLine, ht, renderS_flat, hp]
  have := dispatch_written ver k (flat t.out) names ids v vals hk hs hc hm hclean hid hp'
  rwa [renderS_flat] at this

/-- **a written composite line** of any of the four shapes: `line` is the text of the parts (`hline`, discharged
    by `partsSyms_pair / _pair0 / _suffix / _prefix` of Proofs/C07Dispatch.lean with the field texts `vA`, `vB`
    of the components); under the kind's conditions on the field texts it is dispatched to its own parser -/
theorem dispatch_composite_line (ver : Nat × Nat × Nat) (k : String) (c : Composite) (syms : List Sym)
    (names ids : List String) (vA vB : String → List Char) (vals : List Val) (hk : k ∈ orderOf ver)
    (ht : findTpl matchTemplates (verName ver ++ "/" ++ k) = none)
    (hcomp : findComp matchComposites (verName ver ++ "/" ++ k) = some c)
    (hsyms : partsSyms matchTemplates c.parts 0 = some syms)
    (hc : condsFor ver k = some (names, ids))
    (hm : ∀ n ∈ symFields syms, marker ∉ pairVal vA vB n)
    (hclean : ∀ n ∈ names, CleanText closer (pairVal vA vB n))
    (hid : ∀ i ∈ ids, ∀ n ∈ symFields syms, findLit i.toList (pairVal vA vB n) = false)
    (hp : parseC matchTemplates c (renderS (pairVal vA vB) syms) = .ok vals) :
    dispatch matchTemplates matchComposites (orderOf ver) ver (renderS (pairVal vA vB) syms) = some (k, vals) := by
  have hs : lineSyms matchTemplates matchComposites (verName ver ++ "/" ++ k) = some syms := by
    simp only [lineSyms, ht, hcomp, hsyms]
  have hp' : parseLine matchTemplates matchComposites (verName ver ++ "/" ++ k) (renderS (pairVal vA vB) syms) = .ok vals := by
    simp only [parseLine, ht, hcomp, hp]
  exact dispatch_written ver k syms names ids (pairVal vA vB) vals hk hs hc hm hclean hid hp'

-- the text of a note pair is the rendering of its symbolic text under the field texts of the two components
example (vA vB : String → List Char) : ∃ a b syms, findTpl matchTemplates "v0.5.0/snote" = some a ∧
    findTpl matchTemplates "v0.5.0/note" = some b ∧
    partsSyms matchTemplates [.tpl "v0.5.0/snote", .lit "-", .tpl "v0.5.0/note"] 0 = some syms ∧
    renderS (pairVal vA vB) syms = render a.out vA ++ ("-".toList ++ render b.out vB) := by
  obtain ⟨syms, h1, h2⟩ := partsSyms_pair matchTemplates "v0.5.0/snote" "v0.5.0/note" "-" _ _ vA vB rfl rfl
  exact ⟨_, _, syms, rfl, rfl, h1, h2⟩

theorem eraseDups_nodup : ∀ (n : Nat) (l : List Str), l.length = n → l.Nodup → l.eraseDups = l := by
  intro n
  induction n with
  | zero => intro l hl _; cases l with | nil => rfl | cons a l => simp at hl
  | succ n ih =>
    intro l hl hnd
    cases l with
    | nil => simp at hl
    | cons a l =>
      rw [List.eraseDups_cons]
      have ha : a ∉ l := (List.nodup_cons.mp hnd).1
      have hf : l.filter (fun b => !b == a) = l := by
        rw [List.filter_eq_self]
        intro b hb
        have : b ≠ a := fun e => ha (e ▸ hb)
        simpa using this
      rw [hf, ih l (by simpa using hl) (List.nodup_cons.mp hnd).2]

theorem versionTexts_clean (a b c : Nat) (n : String) : marker ∉ C07Line.textOf (versionTexts a b c) n := by
  have hfix : ∀ x : Str, x.all fixChar = true → marker ∉ x := fun x hx hin => by
    have := List.all_eq_true.mp hx _ hin
    revert this
    decide
  unfold C07Line.textOf versionTexts
  simp only [lookup]
  split
  · decide +kernel
  · split
    · exact hfix _ (encVersion_alpha a b c).1
    · simp

/-- the version line of ANY version `a.b.c` is dispatched to the info parser by the parser list of each of the
    six format versions: it is a written info line whose two texts hold no `(`, and for an info line the parsers
    tried first ask nothing else (`dispatch_template_line`) -/
theorem version_dispatch (ver : Nat × Nat × Nat) (hv : ver ∈ allVersions) (a b c : Nat) :
    dispatch matchTemplates matchComposites (orderOf ver) ver (versionLine a b c) =
      some ("info", [.str "matchFileVersion".toList, .ver a b c]) := by
  obtain ⟨hc, hf⟩ := dispatch_evaluated.2.2.2.2.1 ver hv
  obtain ⟨t, ht, hk⟩ := Option.map_eq_some_iff.mp hf
  have hmem : t ∈ matchTemplates := C07Line.mem_of_findTpl ht
  have hs := info_shape t hmem hk
  simp only [isInfoShape, Bool.and_eq_true, beq_iff_eq] at hs
  have hr := versionLine_render a b c
  rw [← hs.1.1.1] at hr
  have hk' : "info" ∈ orderOf ver := by
    unfold orderOf
    split <;> decide
  have := dispatch_template_line ver "info" t [] [] _ _ hk' ht hc (fun n _ => versionTexts_clean a b c n)
    (by simp) (by simp) (hr ▸ (version_line_roundtrip t hmem hk a b c).2.1)
  rwa [hr] at this

/-- the version line of each of the six format versions is dispatched to the info parser of that version -/
theorem version_line_dispatch : ∀ ver ∈ allVersions,
    dispatch matchTemplates matchComposites (orderOf ver) ver (versionLine ver.1 ver.2.1 ver.2.2) =
      some ("info", [.str "matchFileVersion".toList, .ver ver.1 ver.2.1 ver.2.2]) :=
  fun ver hv => version_dispatch ver hv _ _ _

/-- **a whole written file** (`load_matchfile` up to the list of parsed lines): the version line of one of the
    six format versions followed by distinct non-empty lines, each of which `parse_matchline` reads as its record
    (what `dispatch_template_line` / `dispatch_composite_line` establish for written lines), is loaded as that
    version with exactly these records, in file order - the version line first -/
theorem loadFile_written (ver : Nat × Nat × Nat) (hv : ver ∈ allVersions) (body : List Str)
    (recs : List (String × List Val))
    (hnd : (versionLine ver.1 ver.2.1 ver.2.2 :: body).Nodup) (hne : ∀ l ∈ body, l ≠ [])
    (hd : List.Forall₂ (fun l r => dispatch matchTemplates matchComposites (orderOf ver) ver l = some r) body recs) :
    loadFile matchTemplates matchComposites (versionLine ver.1 ver.2.1 ver.2.2 :: body) =
      some (ver, ("info", [.str "matchFileVersion".toList, .ver ver.1 ver.2.1 ver.2.2]) :: recs) := by
  have hfil : (versionLine ver.1 ver.2.1 ver.2.2 :: body).filter (fun l => !l.isEmpty) =
      versionLine ver.1 ver.2.1 ver.2.2 :: body := by
    rw [List.filter_eq_self]
    intro l hl
    rcases List.mem_cons.mp hl with e | hl
    · subst e
      have hne' : versionLine ver.1 ver.2.1 ver.2.2 ≠ [] := by
        unfold versionLine
        have h0 : ").".toList ≠ [] := by decide
        exact List.append_ne_nil_of_right_ne_nil _ h0
      cases hvl : versionLine ver.1 ver.2.1 ver.2.2 with
      | nil => exact absurd hvl hne'
      | cons c l => rfl
    · have := hne l hl
      cases l with
      | nil => exact absurd rfl this
      | cons c l => rfl
  rw [loadFile_version _ body ver.1 ver.2.1 ver.2.2 (by simp) hfil]
  rw [eraseDups_nodup _ _ rfl hnd]
  have hfm : ∀ (ls : List Str) (rs : List (String × List Val)),
      List.Forall₂ (fun l r => dispatch matchTemplates matchComposites (orderOf ver) ver l = some r) ls rs →
      ls.filterMap (dispatch matchTemplates matchComposites (orderOf ver) ver) = rs := by
    intro ls rs h
    induction h with
    | nil => rfl
    | cons h1 _ ih => simp [List.filterMap_cons, h1, ih]
  have hord : (if ver.1 ≥ 1 then dispatchOrderV1 else dispatchOrderV0) = orderOf ver := rfl
  rw [hord]
  simp only [List.filterMap_cons, version_line_dispatch ver hv, hfm body recs hd]

-- non-vacuity: a written 0.5.0 `trailing_score_note` line is the rendering of its symbolic text and is
-- dispatched to its own parser although the `snote_note` and `deletion` parsers are tried first
example : ∃ syms, lineSyms matchTemplates matchComposites "v0.5.0/trailing_score" = some syms ∧
    (dispatch matchTemplates matchComposites dispatchOrderV0 (0, 5, 0)
      "snote(n1,[C,n],4,1:1,0,1/4,0.0,1.0,[v1])-trailing_score_note.".toList).map (·.1) = some "trailing_score" := by
  have hs : (lineSyms matchTemplates matchComposites "v0.5.0/trailing_score").isSome = true := by decide +kernel
  obtain ⟨syms, hs⟩ := Option.isSome_iff_exists.mp hs
  exact ⟨syms, hs, dispatch_evaluated.2.2.2.2.2⟩

end C07
