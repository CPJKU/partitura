/-
C05 — score-level tables (Score / PartGroup / list of parts, nested groups) and rest lists on the float cells as
stored.

`note_array_from_part_list` never recomputes a float cell: it makes each part's table (`note_array_from_part`, whose
cells are modelled bit for bit by `rowsF`, Props/C05Stored.lean), prefixes ids, multiplies the three division columns,
stacks the tables (`np.hstack`) and sorts on the stored `onset_beat` column, then pitch.  The model of that
(`partListRowsW rowsF`, `ensureNoteArrayF`; Model/NoteArrayF64.lean) is compared with the real arrays with tolerance 0
(streams `scoref`, `restlistf`, `restsfc`).  The theorems hold for every tree of parts / groups and every option
vector; no assumption that the separately rounded exact beat orders the rows like the stored column is needed.
-/
import PartituraModel.Props.C05Stored
import PartituraModel.Props.C05Collapse
import PartituraModel.Proofs.C05StoredScore

namespace C05
open NoteArray List

/-- the four float cells of the row of note `n` (tied duration `dur`) of the described part `d`, as numpy stores them;
    the sort key is the stored onset_beat cell -/
def StoredCells (d : Desc) (n : Note) (dur : Int) (r : Row) : Prop :=
  r.onsetBeat = f32round ((d.beat64 n.onset).getD 0) ∧
  r.durBeat = f32round (f64round ((d.beat64 (n.onset + dur)).getD 0 - (d.beat64 n.onset).getD 0)) ∧
  r.onsetQuarter = f32round ((d.quarter64 n.onset).getD 0) ∧
  r.durQuarter = f32round (f64round ((d.quarter64 (n.onset + dur)).getD 0 - (d.quarter64 n.onset).getD 0)) ∧
  r.key = r.onsetBeat

theorem StoredCells.of_copied {d : Desc} {n : Note} {dur : Int} {r r0 : Row} (hc : Copied r r0)
    (h : StoredCells d n dur r0) : StoredCells d n dur r := by
  obtain ⟨c1, c2, c3, c4, c5, _, _⟩ := hc
  obtain ⟨h1, h2, h3, h4, h5⟩ := h
  exact ⟨c2.trans h1, c3.trans h2, c4.trans h3, c5.trans h4, by rw [c1, c2]; exact h5⟩

/-- ONE DISPATCH, TWO PART TABLES: the entry points over a given part table, taken at the exact-rational tables
    `rowsC` / `restRowsC`, are `ensureNoteArray` / `ensureRestArray` (whose theorems `dispatch_reduces`,
    `score_is_flat_list`, … therefore describe the dispatch that the stored model `ensureNoteArrayF` uses) -/
theorem dispatch_is_shared (u : Bool) (o : Opts) (x : Input) :
    ensureNoteArrayW rowsC u o x = ensureNoteArray u o x ∧
    ∀ c, ensureRestArrayW restRowsC u o c x = ensureRestArray u o c x := by
  have hl : ∀ l, partListRowsW rowsC u o l = partListRows u o l := by
    intro l; unfold partListRowsW partListRows; rw [tablesOfW_rowsC]
  have hr : ∀ c l, restListRowsW restRowsC u o c l = restListRows u o c l := by
    intro c l; unfold restListRowsW restListRows; rw [restTablesOfW_restRowsC]
  constructor
  · cases x <;> simp only [ensureNoteArrayW, ensureNoteArray, hl]
  · intro c
    cases x <;> simp only [ensureRestArrayW, ensureRestArray, hr]

theorem partListRowsW_group (pt : PartTable) (u : Bool) (o : Opts) (l : List Tree) :
    (Tree.group l).tableW pt u o = partListRowsW pt u o l := by
  rw [Tree.tableW]; rfl

/-- EVERY FLOAT CELL OF A SCORE-LEVEL TABLE: whatever the nesting of groups, the unique_id_per_part flag and the
    options, each row of `note_array_from_part_list` carries the stored cells of a sounding note of one of the parts —
    the binary32 roundings of the binary64 values of THAT part's maps at the note's onset / offset. -/
theorem score_cells_stored (u : Bool) (o : Opts) (l : List Tree) (out : List Row)
    (h : partListRowsW rowsF u o l = some out) :
    ∀ r ∈ out, ∃ p ∈ partsOf l, ∃ n ∈ notesTied p.2, ∃ dur,
      durationTied p.2 n = some dur ∧ StoredCells p.1 n dur r := by
  intro r hr
  rw [← partListRowsW_group] at h
  obtain ⟨p, hp, tab, htab, r0, hr0, hc⟩ := tableW_copied rowsF u o (.group l) out h r hr
  rw [Tree.parts] at hp
  obtain ⟨n, hn, dur, hd, _, _, _, h1, h2, h3, h4, h5⟩ := stored_columns p.1 p.2 _ tab htab r0 hr0
  exact ⟨p, hp, n, hn, dur, hd, StoredCells.of_copied hc ⟨h1, h2, h3, h4, h5⟩⟩

/-- THE ORDER OF A SCORE-LEVEL TABLE, ON THE STORED VALUES: ordered by the stored `onset_beat` column, then pitch. -/
theorem score_table_sorted_on_stored_column (u : Bool) (o : Opts) (l : List Tree) (out : List Row)
    (h : partListRowsW rowsF u o l = some out) :
    out.Pairwise (NoteArray.Lex (·.onsetBeat) (fun a b => a.pitch ≤ b.pitch)) := by
  have hcells := score_cells_stored u o l out h
  obtain ⟨ts, _, hm⟩ := Option.bind_eq_some_iff.mp h
  refine Lex.pairwise_congr (merge_union u ts out hm).2 fun a ha => ?_
  obtain ⟨_, _, _, _, _, _, _, _, _, _, hk⟩ := hcells a ha
  exact hk

theorem ofOption_eq_table {w wd : Bool} {t : Option (List Row)} {out : List Row} :
    Res.ofOption w t = .table wd out ↔ w = wd ∧ t = some out := by
  cases t with
  | none => exact ⟨fun h => (nomatch h), fun h => (nomatch h.2)⟩
  | some t' => simp only [Res.ofOption, Res.table.injEq, Option.some.injEq]

/-- ... FOR EVERY ENTRY POINT (`ensure_notearray` on a part, a group, a score, a list; the methods are the same calls:
    `ensure_is_method`): whenever a table comes back it is ordered by its stored `onset_beat` column, then pitch. -/
theorem every_entry_point_sorted_on_stored_column (u : Bool) (o : Opts) (x : Input) (wd : Bool) (out : List Row)
    (h : ensureNoteArrayF u o x = .table wd out) :
    out.Pairwise (NoteArray.Lex (·.onsetBeat) (fun a b => a.pitch ≤ b.pitch)) := by
  have key : ∀ (w : Bool) (t : Option (List Row)), Res.ofOption w t = .table wd out → t = some out :=
    fun _ _ ht => (ofOption_eq_table.mp ht).2
  unfold ensureNoteArrayF at h
  cases x with
  | structured t => cases h
  | plainArray => cases h
  | part d ns => exact stored_table_sorted d ns o out (key _ _ h)
  | group cs => exact score_table_sorted_on_stored_column u o cs out (key _ _ h)
  | score st => exact score_table_sorted_on_stored_column u o (flatParts st) out (key _ _ h)
  | list items =>
    simp only [ensureNoteArrayW] at h
    split at h
    · exact score_table_sorted_on_stored_column u o items out (key _ _ h)
    · cases h
  | other => cases h

/-- a part table made with the divisions column: the part has ONE divisions value `dv`, every row carries it, and the
    float cells are the stored ones -/
theorem stored_part_table_divs (d : Desc) (notes : List Note) (o : Opts) (t : List Row)
    (h : rowsF d notes { o with divs := true } = some t) :
    ∃ dv : Int, (d.tm.qd.map fun x => (x.2 : Int)) = [dv] ∧
      ∀ r ∈ t, r.divsPq = dv ∧ ∃ n ∈ notesTied notes, ∃ dur,
        durationTied notes n = some dur ∧ r.onsetDiv = n.onset ∧ r.durDiv = dur ∧ StoredCells d n dur r := by
  have hcols := stored_columns d notes _ t h
  obtain ⟨t0, ht0, rfl⟩ := rowsF_some d notes _ t h
  obtain ⟨dv, rs, hdv, _, _⟩ := rows_structure (part64 d notes { o with divs := true }) _ t0 ht0
  have hq : (d.tm.qd.map fun x => (x.2 : Int)) = [dv] := by
    unfold divsOf at hdv
    simp only [if_true] at hdv
    split at hdv
    · rename_i q hq
      simp only [Option.some.injEq] at hdv
      subst hdv
      exact hq
    · cases hdv
  refine ⟨dv, hq, ?_⟩
  intro r hr
  obtain ⟨n, hn, dur, hd, _, hon, hdur, h1, h2, h3, h4, h5⟩ := hcols r hr
  refine ⟨?_, n, hn, dur, hd, hon, hdur, h1, h2, h3, h4, h5⟩
  obtain ⟨r0, hr0, rfl⟩ := mem_map.mp hr
  obtain ⟨n', _, dv', d', pch, m, hdv', _, _, _, rfl⟩ := row_values (part64 d notes { o with divs := true }) _ t0 ht0 r0 hr0
  rw [hdv] at hdv'
  simp only [Option.some.injEq] at hdv'
  subst hdv'
  rfl

/-- **THE ROW OF A SCORE-LEVEL TABLE, COMPLETE** (a score, or a list of parts: `score_is_flat_list`): with `L` the
    least common multiple of the divisions of the parts that have notes, every row is the row of a sounding note of one
    of the parts — that part has one divisions value `dv`, `dv` divides `L`, the onset and the tied duration in
    divisions are multiplied by `L / dv` (an exact integer), the divisions column holds `L`, and the four float cells
    are the stored cells of the part's own table (binary64 map values, binary32 store): nothing is recomputed. -/
theorem stored_score_rows (u : Bool) (o : Opts) (ps : List (Desc × List Note)) (out : List Row)
    (h : partListRowsW rowsF u o (ps.map fun p => Tree.part p.1 p.2) = some out) :
    ∃ ts, NoteArray.mapM' (fun (p : Desc × List Note) => rowsF p.1 p.2 { o with divs := true }) ps = some ts ∧
      ∀ r ∈ out, ∃ p ∈ ps, ∃ dv : Nat, (p.1.tm.qd.map fun x => (x.2 : Int)) = [(dv : Int)] ∧ 0 < dv ∧
        dv ∣ Model.natLcm (ts.map tableDivs) ∧
        ∃ n ∈ notesTied p.2, ∃ dur, durationTied p.2 n = some dur ∧ StoredCells p.1 n dur r ∧
          r.onsetDiv = n.onset * ((Model.natLcm (ts.map tableDivs) / dv : Nat) : Int) ∧
          r.durDiv = dur * ((Model.natLcm (ts.map tableDivs) / dv : Nat) : Int) ∧
          r.divsPq = ((Model.natLcm (ts.map tableDivs) : Nat) : Int) := by
  unfold partListRowsW at h
  rw [tablesOfW_parts] at h
  obtain ⟨ts, hts, hm⟩ := Option.bind_eq_some_iff.mp h
  refine ⟨ts, hts, ?_⟩
  intro r hr
  obtain ⟨t, ht, r0, hr0, hc, hon, hdur, hdq⟩ := mergeTables_copied u ts out hm r hr
  obtain ⟨_, _, hresc⟩ := lcm_rescale u ts out hm
  obtain ⟨hpos, hdvd, hmul, _⟩ := hresc t ht
  obtain ⟨p, hp, hpt⟩ := Lists.forall₂_mem_right (mapM'_forall₂ _ ps ts hts) t ht
  obtain ⟨dv, hq, hrows⟩ := stored_part_table_divs p.1 p.2 o t hpt
  obtain ⟨hdq0, n, hn, dur, hd, hon0, hdur0, hcells⟩ := hrows r0 hr0
  -- the divisions of the table are the divisions of its first row
  have htd : (tableDivs t : Int) = dv := by
    cases t with
    | nil => cases hr0
    | cons a l =>
      have ha := (hrows a mem_cons_self).1
      have hpos' : 0 < a.divsPq.toNat := hpos
      show ((a.divsPq.toNat : Nat) : Int) = dv
      rw [← ha]
      omega
  have hdvn : dv = ((tableDivs t : Nat) : Int) := htd.symm
  refine ⟨p, hp, tableDivs t, by rw [hq, hdvn], hpos, hdvd, n, hn, dur, hd, StoredCells.of_copied hc hcells, ?_, ?_, ?_⟩
  · rw [hon, hon0]
  · rw [hdur, hdur0]
  · rw [hdq, hdq0, hdvn]
    rw [Int.mul_comm]
    exact_mod_cast hmul

/-- `Score.note_array` / `ensure_notearray(score)`: the score forgets its grouping (`Score.parts` is the depth-first list
    of parts), so `stored_score_rows` describes every row of its table, with `ps` = the parts of the score in order -/
theorem score_note_array_is_flat_stored (u : Bool) (o : Opts) (st : List Tree) (wd : Bool) (out : List Row)
    (h : ensureNoteArrayF u o (.score st) = .table wd out) :
    wd = true ∧ partListRowsW rowsF u o ((partsOf st).map fun p => Tree.part p.1 p.2) = some out := by
  unfold ensureNoteArrayF at h
  simp only [ensureNoteArrayW, flatParts] at h
  obtain ⟨hw, ht⟩ := ofOption_eq_table.mp h
  exact ⟨hw.symm, ht⟩

/-- the part `restRowsF` tabulates is `part64` -/
theorem restRowsF_some (d : Desc) (notes : List Note) (o : Opts) (out : List Row) (h : restRowsF d notes o = some out) :
    ∃ t, restRows (part64 d notes o) false = some t ∧ out = t.map storeRow64 := by
  obtain ⟨t, ht, rfl⟩ := Option.map_eq_some_iff.mp (guarded_eq_some h).2
  exact ⟨t, ht, rfl⟩

/-- EVERY STORED FLOAT CELL OF A REST ARRAY (no collapsing): one row per rest, pitch 0, the cells are the binary32
    roundings of the binary64 map values at the rest's onset / offset; ordered by the stored onset_beat column. -/
theorem stored_rest_columns (d : Desc) (notes : List Note) (o : Opts) (out : List Row)
    (h : restRowsF d notes o = some out) :
    (∀ r ∈ out, ∃ n ∈ restsOf notes, ∃ dur,
      durationTied notes n = some dur ∧ r.onsetDiv = n.onset ∧ r.durDiv = dur ∧ r.pitch = 0 ∧ StoredCells d n dur r) ∧
    out.Pairwise (NoteArray.Lex (·.onsetBeat) (fun a b => a.pitch ≤ b.pitch)) ∧
    out.length = (restsOf notes).length := by
  obtain ⟨t, ht, rfl⟩ := restRowsF_some d notes o out h
  obtain ⟨hs, hv⟩ := rest_row_values (part64 d notes o) t ht
  have hcells : ∀ r ∈ t.map storeRow64, ∃ n ∈ restsOf notes, ∃ dur,
      durationTied notes n = some dur ∧ r.onsetDiv = n.onset ∧ r.durDiv = dur ∧ r.pitch = 0 ∧ StoredCells d n dur r := by
    intro r hr
    obtain ⟨r0, hr0, rfl⟩ := mem_map.mp hr
    obtain ⟨n, hn, dur, m, hd, _, hrow, hp, hon, hdur, _⟩ := hv r0 hr0
    refine ⟨n, hn, dur, hd, hon, hdur, hp, ?_⟩
    subst hrow
    exact ⟨rfl, rfl, rfl, rfl, rfl⟩
  refine ⟨hcells, ?_, ?_⟩
  · rw [pairwise_map]
    refine Lex.pairwise_congr hs fun a ha => ?_
    obtain ⟨_, _, _, _, _, _, _, _, _, _, _, hk⟩ := hcells (storeRow64 a) (mem_map_of_mem ha)
    exact hk
  · rw [length_map]
    exact (rest_rows_bijective (part64 d notes o) t ht).2

theorem restRowsFC_false (d : Desc) (notes : List Note) (o : Opts) : restRowsFC d notes o false = restRowsF d notes o := by
  unfold restRowsFC
  cases restRowsF d notes o <;> rfl

theorem restListRowsW_group (rt : RestTable) (u : Bool) (o : Opts) (c : Bool) (l : List Tree) :
    (Tree.group l).restTableW rt u o c = restListRowsW rt u o c l := by
  rw [Tree.restTableW]; rfl

/-- the rest array of a list / group / nested groups (no collapsing): every row carries the stored cells of a rest of
    one of the parts -/
theorem rest_list_cells_stored (u : Bool) (o : Opts) (l : List Tree) (out : List Row)
    (h : restListRowsW restRowsFC u o false l = some out) :
    ∀ r ∈ out, ∃ p ∈ partsOf l, ∃ n ∈ restsOf p.2, ∃ dur,
      durationTied p.2 n = some dur ∧ r.pitch = 0 ∧ StoredCells p.1 n dur r := by
  intro r hr
  rw [← restListRowsW_group] at h
  obtain ⟨p, hp, tab, htab, r0, hr0, hc⟩ := restTableW_copied restRowsFC u o false (.group l) out h r hr
  rw [Tree.parts] at hp
  rw [restRowsFC_false] at htab
  obtain ⟨n, hn, dur, hd, _, _, hp0, hcells⟩ := (stored_rest_columns p.1 p.2 _ tab htab).1 r0 hr0
  exact ⟨p, hp, n, hn, dur, hd, hc.2.2.2.2.2.1.trans hp0, StoredCells.of_copied hc hcells⟩

/-- ... and it is ordered by the stored `onset_beat` column (all pitches are 0) -/
theorem rest_list_sorted_on_stored_column (u : Bool) (o : Opts) (l : List Tree) (out : List Row)
    (h : restListRowsW restRowsFC u o false l = some out) :
    out.Pairwise (NoteArray.Lex (·.onsetBeat) (fun a b => a.pitch ≤ b.pitch)) := by
  have hcells := rest_list_cells_stored u o l out h
  obtain ⟨ts, _, rfl⟩ := Option.map_eq_some_iff.mp h
  have hs : (mergeRestTables u ts).Pairwise (NoteArray.Lex (·.key) (fun a b => a.pitch ≤ b.pitch)) := by
    unfold mergeRestTables
    exact (rows_sorted _).1
  refine Lex.pairwise_congr hs fun a ha => ?_
  obtain ⟨_, _, _, _, _, _, _, _, _, _, _, hk⟩ := hcells a ha
  exact hk

/-- WHAT A MERGED FLOAT DURATION IS, for every rounding: the row that absorbs the rests adjacent to it holds the
    left-to-right sum of their stored durations, rounded after every addition (`store` = binary32: numpy adds two
    float32 scalars).  This is the exact statement for float32 columns that `collapse_float_totals_partial` (exact
    columns only) leaves open; the division total is `collapse_first_row`. -/
theorem collapse_float_sums (store : Rat → Rat) (target voice : Int) : ∀ (post : List Row) (c : Row),
    (absorbAll store target voice c post).durBeat =
      (post.filter (hits target voice)).foldl (fun acc x => store (acc + x.durBeat)) c.durBeat ∧
    (absorbAll store target voice c post).durQuarter =
      (post.filter (hits target voice)).foldl (fun acc x => store (acc + x.durQuarter)) c.durQuarter := by
  intro post c
  rw [absorbAll_eq_foldl]
  induction post.filter (hits target voice) generalizing c with
  | nil => exact ⟨rfl, rfl⟩
  | cons x f ih => exact ih (absorbS store c x)

/-- `rest_array_from_part(..., collapse=True)` on the stored values: the stored uncollapsed table (`stored_rest_columns`)
    collapsed with binary32 sums and the fuel the theorems of Props/C05Collapse.lean ask for; so on a clean table the
    division total of every voice is kept and no two rows of a voice are adjacent any more — on the stored array. -/
theorem stored_collapse (d : Desc) (notes : List Note) (o : Opts) (out : List Row)
    (h : restRowsFC d notes o true = some out) :
    ∃ t, restRowsF d notes o = some t ∧ out = recCollapse f32round (t.length + 1) t ∧
      (CleanTable t → (∀ v, sumW (·.durDiv) v out = sumW (·.durDiv) v t) ∧ CleanTable out ∧ ∀ c ∈ out, NoHit c out) := by
  unfold restRowsFC at h
  obtain ⟨t, ht, hout⟩ := Option.map_eq_some_iff.mp h
  simp only [if_true] at hout
  refine ⟨t, ht, hout.symm, ?_⟩
  intro hc
  subst hout
  refine ⟨fun v => (collapse_total f32round _ t hc v).1, (collapse_total f32round _ t hc 0).2, ?_⟩
  exact (collapse_merges_adjacent f32round t).2.2 (t.length + 1) hc (Nat.lt_succ_self _)

section Examples

/-- two parts with divisions 3 (the pickup example of Props/C05Stored.lean) and 2: least common multiple 6 -/
def exDesc2 : Desc :=
  { tm := { npoints := 2, first := 0, last := 8, qd := [(0, 2)], ts := [⟨0, 4, 4, 4⟩], m1 := some (0, 8), musical := false },
    kss := [], ms := [(0, 8)] }

def exNotes2 : List Note :=
  [ { id := "x", kind := .note, onset := 1, dur := 2, step := "G", alter := none, octave := 3, voice := some 1,
      staff := some 1, graceType := "", tieNext := none, tiePrev := none },
    { id := "r", kind := .rest, onset := 3, dur := 1, step := "", alter := none, octave := 0, voice := some 1,
      staff := some 1, graceType := "", tieNext := none, tiePrev := none } ]

def exTrees : List Tree := [.part exDesc3 exNotes3, .group [.part exDesc2 exNotes2]]

example : ((partListRowsW rowsF true noOpts exTrees).map fun t => t.map fun r => (r.id, r.onsetBeat, r.onsetDiv, r.divsPq)) =
    some [("P00_a", -11184811 / 16777216, 0, 6), ("P00_b", 0, 4, 6), ("P00_c", 11184811 / 33554432, 6, 6),
          ("P01_x", 1 / 2, 3, 6)] := by decide +kernel

example : (match ensureNoteArrayF true noOpts (.list exTrees) with | .refused => true | _ => false) = true := by decide +kernel

example : ((restListRowsW restRowsFC true noOpts false exTrees).map fun t => t.map fun r => (r.id, r.onsetBeat, r.durBeat)) =
    some [("P01_P00_r", 3 / 2, 1 / 2)] := by decide +kernel

/-- triplet rests 1/3 + 4/3 in the pickup part: the merged beat duration is the binary32 SUM of the two stored
    durations, 6990507 / 2^22 = 1.6666667 (the binary32 number nearest to 5/3 is 13981013 / 2^23 — one unit below) -/
def exRests3 : List Note :=
  [ { id := "r1", kind := .rest, onset := 2, dur := 1, step := "", alter := none, octave := 0, voice := some 1,
      staff := some 1, graceType := "", tieNext := none, tiePrev := none },
    { id := "r2", kind := .rest, onset := 3, dur := 4, step := "", alter := none, octave := 0, voice := some 1,
      staff := some 1, graceType := "", tieNext := none, tiePrev := none },
    { id := "r3", kind := .rest, onset := 10, dur := 1, step := "", alter := none, octave := 0, voice := some 1,
      staff := some 1, graceType := "", tieNext := none, tiePrev := none } ]

example : ((restRowsFC exDesc3 exRests3 noOpts true).map fun t => t.map fun r => (r.id, r.onsetBeat, r.durBeat, r.durDiv)) =
    some [("r1", 0, 6990507 / 4194304, 5), ("r3", 11184811 / 4194304, 11184811 / 33554432, 1)] := by decide +kernel

example : f32round (5 / 3) = 13981013 / 8388608 ∧ (6990507 : Rat) / 4194304 ≠ 13981013 / 8388608 := by decide +kernel

/-- the stored table of that part is clean (hypothesis of `stored_collapse`) -/
example : (restRowsF exDesc3 exRests3 noOpts).isSome = true ∧
    CleanTable ((restRowsF exDesc3 exRests3 noOpts).getD []) := by
  -- one evaluation of the table for the four facts
  have h : (restRowsF exDesc3 exRests3 noOpts).isSome = true ∧
      ((restRowsF exDesc3 exRests3 noOpts).getD []).Pairwise (fun a b => a.onsetDiv ≤ b.onsetDiv) ∧
      (∀ c ∈ (restRowsF exDesc3 exRests3 noOpts).getD [], c.onsetDiv < c.onsetDiv + c.durDiv) ∧
      ((restRowsF exDesc3 exRests3 noOpts).getD []).Pairwise
        (fun a b => a.voice = b.voice → a.onsetDiv + a.durDiv ≤ b.onsetDiv) := by decide +kernel
  exact ⟨h.1, { pre_le := fun x hx => by cases hx
                sorted := h.2.1
                pos := h.2.2.1
                apart := h.2.2.2
                tg_le := fun k hk => by cases hk }⟩

end Examples

end C05
