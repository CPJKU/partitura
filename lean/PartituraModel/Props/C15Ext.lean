/-
C15 - `merge_parts` / `load_score_as_part`: the source's tables, the dispatch on the argument, the order of the
merged elements, references and end-only objects
(model: PartituraModel/Model/Merge.lean, tables: Gen/C15Tables.lean generated from the live source).
Definitions used in the statements (Proofs/C15Refs.lean): `Describes names pred` (a class tuple of the source covers
exactly the classes `pred`, over the whole class table), `RefsClosed` (references stay within a part), `Kept`
(an object is transferred from some input), the concrete part `exE`.
-/
import PartituraModel.Proofs.C15Refs
import PartituraModel.Proofs.C15Sound
import PartituraModel.Proofs.C15Distinct

namespace C15
open Model.Merge

/-- The source of `merge_parts` has the form the translator understands and its tables are the ones the model
uses: the accepted `reassign` values; voices in use are those of the GenericNote instances and exactly these get a
new voice in voice and auto mode (none in staff mode); staves in use are those of GenericNote / Words / Direction /
Clef instances and exactly these get a new staff in staff and auto mode (none in voice mode); auto mode reserves 4
voice numbers per staff.  (Whole-table obligation: re-checked whenever the source changes.) -/
theorem source_tables :
    Gen.C15.extractionOk = true
      ∧ (∀ s, s ∈ Gen.C15.reassignValues ↔ s ∈ ["voice", "staff", "auto"])
      ∧ Describes Gen.C15.voiceSource isGeneric
      ∧ Describes Gen.C15.voiceGuardVoice isGeneric ∧ Describes Gen.C15.voiceGuardAuto isGeneric
      ∧ Gen.C15.voiceGuardStaff = []
      ∧ Describes Gen.C15.staffSource withStaff
      ∧ Describes Gen.C15.staffGuardStaff withStaff ∧ Describes Gen.C15.staffGuardAuto withStaff
      ∧ Gen.C15.staffGuardVoice = []
      ∧ Gen.C15.voicesPerStaff = 4 :=
  ⟨by decide +kernel, mem_iff_of_subset (by decide +kernel), by decide +kernel⟩

/-- The classes the documentation lists as "only taken from the first part" are exactly the classes the code
discards in voice mode, and in staff / auto mode exactly those except the clefs (which the documentation says are
kept when staves are reassigned) - over the whole class table. -/
theorem doc_table :
    Describes Gen.C15.docStructural (discard .voice)
      ∧ (∀ c ∈ List.range Gen.numClasses,
          discard .staff c = (discard .voice c && !isSub c (classId "Clef"))
            ∧ discard .auto c = discard .staff c) := by
  decide +kernel

/-- Whatever is passed - one part, one group, a list of parts and (nested) groups, or a Score built from any of
these - the result is that of merging the flat list of its parts, in left-to-right order. -/
theorem dispatch_flat (m : Mode) (s : Shape) : merge m s = merge m (.many ((iterParts s).map .part)) := by
  simp [merge, iterParts, flattenList_parts]

/-- a group is merged like the list of its children -/
theorem dispatch_group (m : Mode) (ts : List Tree) : merge m (.one (.group ts)) = merge m (.many ts) := by
  simp [merge, iterParts, flattenTree_group]

/-- a group inside a list (or inside a group) may be replaced by its children, at any depth -/
theorem dispatch_nested (m : Mode) (a ts b : List Tree) :
    merge m (.many (a ++ [.group ts] ++ b)) = merge m (.many (a ++ ts ++ b)) := by
  simp [merge, iterParts, flattenList_append, flattenList, flattenTree_group]

/-- nothing to merge (an empty list, empty groups): the code raises -/
theorem dispatch_empty (m : Mode) (s : Shape) (h : iterParts s = []) : merge m s = none := by
  rw [merge, h]; rfl

/-- `load_score_as_part(file)` is `merge_parts` of the parts of the loaded score in voice mode: in particular a file
with one part (however deeply grouped) gives that part itself, and a file with several parts satisfies every
voice-mode statement of Props/C15.lean -/
theorem load_as_part (s : Shape) :
    loadScoreAsPart s = merge .voice s
      ∧ (∀ p, iterParts s = [p] → loadScoreAsPart s = some (.same p)) := by
  refine ⟨rfl, fun p h => ?_⟩
  rw [loadScoreAsPart, h]; rfl

example : iterParts (.many [.group [.part exA, .group [.part exB]], .part exC]) = [exA, exB, exC] := rfl
example : iterParts (.many [.group [], .group [.group []]]) = ([] : List APart) := rfl

/-- The order in which the merged part yields its elements (`iter_all()`): by time point, then by the position of
the element's class in the class walk, and - for elements of one class at one time point - in order of insertion,
i.e. by input part and, within a part, in the order that part yielded them. -/
theorem merged_order (m : Mode) (ps : List APart) (L : Nat) (es : List Elem)
    (h : mergeParts m ps = some (.merged L es)) :
    es.Pairwise (fun a b => a.start < b.start ∨ (a.start = b.start ∧ classRank a.cls ≤ classRank b.cls))
      ∧ ∀ (t c : Nat), es.filter (fun e => e.start == t && classRank e.cls == c)
                        = (mergeFrom m L true 0 0 0 ps).filter (fun e => e.start == t && classRank e.cls == c) := by
  obtain ⟨_, _, _, _, rfl⟩ := mergeParts_merged_iff.mp h
  constructor
  · exact ((isSort _).pairwise iterLe_order _).imp fun hab => (iterLe_iff _ _).mp hab
  · intro t c
    refine (isSort _).filter (fun a b ha hb => (iterLe_iff a b).mpr ?_) _
    simp only [Bool.and_eq_true, beq_iff_eq] at ha hb
    omega

/-- both clauses are exercised by [exA, exB]: seven elements at time 0 of six classes; the two of class Note come in
order of insertion, A's note (oid 0) before B's (oid 10) -/
example : (match mergeParts .voice [exA, exB] with
    | some (.merged _ es) => (es.filter fun e => e.start == 0 && classRank e.cls == classRank (classId "Note")).map (·.oid)
    | _ => []) = [0, 10] := by decide +kernel

/-- Two or more parts one of which has not exactly one divisions value (`_quarter_durations` of length ≠ 1: the
divisions change inside the part) are rejected - the code raises "Merging parts with multiple divisions is not
supported" - in every mode; nothing is merged with wrong times.  (A single such part is returned as is:
`single_identity` holds for any divisions.) -/
theorem multi_division_rejected (m : Mode) (ps : List APart) (h2 : 2 ≤ ps.length) (p : APart) (hp : p ∈ ps)
    (qds : List Nat) (hq : p.divs = divsOf qds) (hlen : qds.length ≠ 1) : mergeParts m ps = none :=
  mergeParts_zero_divs m h2 hp (by rw [hq, divsOf_eq_zero_of_length hlen])

example : divsOf [4, 8] = 0 ∧ divsOf [] = 0 ∧ divsOf [6] = 6 := by decide +kernel
example : mergeParts .voice [exA, { exB with divs := divsOf [4, 8] }] = none := by decide +kernel

/-- A part keeps its offset: an element is at time 0 of the merged part iff it was at time 0 of its part (parts
whose first time point is later than 0 are not moved to 0), and the order of any two elements of one part is kept. -/
theorem offset_preserved (m : Mode) (ps : List APart) (hpos : ∀ p ∈ ps, 0 < p.divs) (i : Nat) (p : APart)
    (hp : ps[i]? = some p) (a b : Elem) :
    let L := lcmList (ps.map (·.divs))
    ((image m L ps i p a).start = 0 ↔ a.start = 0)
      ∧ (a.start ≤ b.start ↔ (image m L ps i p a).start ≤ (image m L ps i p b).start) := by
  intro L
  have hmem : p ∈ ps := List.mem_of_getElem? hp
  have hk : 0 < L / p.divs :=
    Nat.div_pos (Nat.le_of_dvd (lcm_divs_pos hpos) (divs_dvd_lcm hmem)) (hpos p hmem)
  rw [image_start, image_start]
  exact ⟨by rw [Nat.mul_eq_zero, or_iff_left hk.ne'], (Nat.mul_le_mul_right_iff hk).symm⟩

/-- no class that is referred to by a tie, slur, tuplet, beam or grace chain - notes and rests of any kind, slurs,
tuplets, beams - is ever discarded (whole class table, every mode) -/
theorem ref_targets_kept :
    ∀ c ∈ List.range Gen.numClasses,
      (isGeneric c || isSub c (classId "Slur") || isSub c (classId "Tuplet") || isSub c (classId "Beam")) = true →
        discard .voice c = false ∧ discard .staff c = false ∧ discard .auto c = false :=
  fun c hc h => (class_table c hc).2 h

/-- Merging leaves the references of every object alone (they are identities of objects, and the objects are
moved, not copied); and the object `t` of the same part that a reference of `e` points to is registered on the merged
part (`es`: by its start; `mergedTails`: by its end only) - at the same musical time, times multiplied by
`L / d_p` - whenever `t` is transferred at all (first part, or a class that is not discarded: by
`ref_targets_kept` every note, rest, slur, tuplet and beam). -/
theorem refs_preserved (m : Mode) (ps : List APart) (L : Nat) (es : List Elem)
    (h : mergeParts m ps = some (.merged L es)) (i : Nat) (p : APart) (hp : ps[i]? = some p)
    (e : Elem) (r : Nat) (_hr : r ∈ e.refs) (t : Elem) (ht : t ∈ allElems p) (hto : t.oid = r)
    (hk : i = 0 ∨ discard m t.cls = false) :
    (image m L ps i p e).refs = e.refs
      ∧ image m L ps i p t ∈ es ++ mergedTails m ps
      ∧ (image m L ps i p t).oid = r ∧ (image m L ps i p t).cls = t.cls
      ∧ (image m L ps i p t).start = t.start * (L / p.divs)
      ∧ (image m L ps i p t).stop = t.stop.map (· * (L / p.divs)) := by
  refine ⟨xform_refs .., ?_, hto ▸ xform_oid .., xform_cls .., image_start .., image_stop ..⟩
  refine (mem_registered h _).mpr ⟨i, p, t, hp, ht, ?_, rfl⟩
  rcases hk with rfl | hk
  · rfl
  · exact keep_of_not_discard _ hk

/-- Which references leave the merged part: exactly those whose target is not transferred from any input. -/
theorem dangling_iff (m : Mode) (ps : List APart) (L : Nat) (es : List Elem)
    (h : mergeParts m ps = some (.merged L es)) (a r : Nat) :
    (a, r) ∈ dangling (es ++ mergedTails m ps) ↔
      (∃ i p e, ps[i]? = some p ∧ e ∈ allElems p ∧ keep m (i == 0) e = true ∧ e.oid = a ∧ r ∈ e.refs)
        ∧ ¬ Kept m ps r := by
  rw [mem_dangling, exists_mem_registered h, exists_mem_registered h]
  simp only [image, xform_oid, xform_refs, Kept, ← and_assoc, exists_and_right]

/-- References stay within the merged part: when every reference points to an object of the same part
(`RefsClosed`) whose class is not discarded - ties, slurs, tuplets, beams, grace chains by `ref_targets_kept` - no
reference of the merged part dangles. -/
theorem no_dangling (m : Mode) (ps : List APart) (L : Nat) (es : List Elem)
    (h : mergeParts m ps = some (.merged L es)) (hc : RefsClosed ps)
    (hcls : ∀ p ∈ ps, ∀ t ∈ allElems p, (∃ e ∈ allElems p, t.oid ∈ e.refs) → discard m t.cls = false) :
    dangling (es ++ mergedTails m ps) = [] := by
  rw [List.eq_nil_iff_forall_not_mem]
  rintro ⟨a, r⟩ hmem
  obtain ⟨⟨i, p, e, hp, he, _, _, hr⟩, hn⟩ := (dangling_iff m ps L es h a r).mp hmem
  have hpm : p ∈ ps := List.mem_of_getElem? hp
  obtain ⟨t, ht, hto⟩ := hc p hpm e he r hr
  have hd := hcls p hpm t ht ⟨e, he, by rw [hto]; exact hr⟩
  exact hn ⟨i, p, t, hp, ht, keep_of_not_discard _ hd, hto⟩

/-- A reference that does leave the merged part points to an object of a later part whose class is taken from the
first part only (in practice: the fermata of a note of a later part). -/
theorem dangling_only_discarded (m : Mode) (ps : List APart) (L : Nat) (es : List Elem)
    (h : mergeParts m ps = some (.merged L es)) (hc : RefsClosed ps) (a r : Nat)
    (hd : (a, r) ∈ dangling (es ++ mergedTails m ps)) :
    ∃ i p t, 0 < i ∧ ps[i]? = some p ∧ t ∈ allElems p ∧ t.oid = r ∧ discard m t.cls = true := by
  obtain ⟨⟨i, p, e, hp, he, _, _, hr⟩, hn⟩ := (dangling_iff m ps L es h a r).mp hd
  obtain ⟨t, ht, hto⟩ := hc p (List.mem_of_getElem? hp) e he r hr
  have hnk : keep m (i == 0) t = false := by
    cases hk : keep m (i == 0) t with
    | false => rfl
    | true => exact absurd ⟨i, p, t, hp, ht, hk, hto⟩ hn
  simp only [keep, Bool.or_eq_false_iff, Bool.not_eq_false', beq_eq_false_iff_ne] at hnk
  exact ⟨i, p, t, by omega, hp, ht, hto, hnk.2⟩

/-- Objects that are on the timeline of an input by their end only (`start is None`: a slur or tuplet whose start
is not in the score, ...) are transferred like every other element - all of the first part, the non-discarded
classes of the later parts, nothing else - and stay objects without a start.  Their end keeps its musical time by
`time_preserved` (which holds for any object), their voice / staff are renumbered with the elements of their part
(the statements of Props/C15.lean range over `allElems`). -/
theorem end_only_transferred (m : Mode) (ps : List APart) (L : Nat) (es : List Elem)
    (h : mergeParts m ps = some (.merged L es)) (t' : Elem) :
    t' ∈ mergedTails m ps ↔ ∃ i p t, ps[i]? = some p ∧ t ∈ p.tails ∧ keep m (i == 0) t = true
                              ∧ t' = image m L ps i p t :=
  mem_mergedTails h t'

/-- the slur of part B that only has an end (16 = bar end in divisions 4) ends at 48 = 16 * (12 / 4) of the merged part -/
example : (mergedTails .voice [exA, exB]).map (fun t => (t.oid, t.stop, t.refs)) = [(16, some 48, [15])] := by decide +kernel

/-- hypotheses of `no_dangling` / `dangling_only_discarded` are satisfiable, and both outcomes occur: with E first
nothing dangles; with E second its fermata (taken from the first part only) is dropped and the note's reference
to it is the one dangling reference -/
example : RefsClosed [exD, exE] ∧ OidsDistinct [exD, exE] := by
  unfold RefsClosed OidsDistinct; decide +kernel
example : (match mergeParts .voice [exE, exD] with
    | some (.merged _ es) => dangling (es ++ mergedTails .voice [exE, exD]) | _ => [(0, 0)]) = [] := by decide +kernel
example : (match mergeParts .voice [exD, exE] with
    | some (.merged _ es) => dangling (es ++ mergedTails .voice [exD, exE]) | _ => []) = [(40, 43)] := by decide +kernel
/-- ... and the reference of B's end-only slur to its last note (15) is kept and does not dangle -/
example : (match mergeParts .auto [exA, exB] with
    | some (.merged _ es) => dangling (es ++ mergedTails .auto [exA, exB]) | _ => [(0, 0)]) = [] := by decide +kernel

end C15
