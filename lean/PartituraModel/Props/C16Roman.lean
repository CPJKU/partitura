/-
C16, last sentence: "the step/alteration arithmetic used for chord roots agrees with the same diatonic arithmetic".
Models: Model/RomanRoot.lean (the table path of `RomanNumeral.find_root_note`: `romanInterval`, `appliedTonic`,
`romanRoot`) and Model/LocalKey.lean (`_key_step_alter`, `process_local_key`, `find_root_note` with both fallbacks,
`find_bass_note`), tables regenerated from the source.  The arithmetic of `transpose_note` is proved once for every
argument (`note_scale_arithmetic`, over Proofs/C16Note.lean); chord roots, local keys and bass notes are instances of
it, and the tables enter through small facts per key, per degree and per written name.
-/
import PartituraModel.Proofs.C16LocalKey
import PartituraModel.Proofs.C16Note
import PartituraModel.Proofs.C12Interval

namespace C16Roman
open Model Gen

/-- the regenerated degree tables are the scale degrees: read in a major key the upper-case degrees are the major
    scale, read in a minor key the natural minor scale; both tables know the same 21 degrees and agree on every
    degree that is not one of III, III+, VI, VII -/
theorem roman_tables_scale_degrees :
    (["I", "II", "III", "IV", "V", "VI", "VII"].map fun d => lookup d ROMAN_MAJ) =
      [some ("P", 1), some ("M", 2), some ("M", 3), some ("P", 4), some ("P", 5), some ("M", 6), some ("M", 7)] ∧
    (["I", "II", "III", "IV", "V", "VI", "VII"].map fun d => lookup d ROMAN_MIN) =
      [some ("P", 1), some ("M", 2), some ("m", 3), some ("P", 4), some ("P", 5), some ("m", 6), some ("m", 7)] ∧
    ROMAN_MAJ.map (·.1) = ROMAN_MIN.map (·.1) ∧ ROMAN_MAJ.length = 21 ∧
    (∀ e ∈ ROMAN_MAJ, e.1 ∈ ["III", "III+", "VI", "VII"] ∨ lookup e.1 ROMAN_MIN = some e.2) := by
  decide +kernel

def steps7 : List String := ["C", "D", "E", "F", "G", "A", "B"]

/-- key names: step letter (upper case = major, lower case = minor) and an optional accidental after it -/
def keyNames : List String :=
  (steps7 ++ steps7.map lower).flatMap fun s => [s, s ++ "#", s ++ "b"]

/-- the accidental of a key name is read AFTER its step letter: "b" is B minor (no flat), "bb" B flat minor -/
theorem key_name_parsed :
    ∀ k ∈ keyNames, keyStep k = k.toList.head? ∧
      keyAlter k = some (match k.toList.drop 1 with | ['#'] => 1 | ['b'] => -1 | _ => 0) := by
  decide +kernel

def pcOf (s : String) (a : Int) : Option Int := (lookup s BASE_PC).map fun b => (b + a) % 12
def idxOf (s : String) : Option Nat := lookup s STEPS_TO_INT

/-- one octave-free transposition moves the step by number − 1 places and the pitch class by the interval's size -/
def stepOK (s : String) (a : Int) (q : String) (n : Nat) : Bool :=
  match transposeNoteNoOctave s a q n, idxOf (upper s), pcOf (upper s) a, lookup (q ++ showNat n) INTERVAL_TO_SEMITONES with
  | some (s', a'), some i, some pc, some sz =>
    decide (idxOf s' = some ((i + n - 1) % 7)) && decide (pcOf s' a' = some ((pc + sz) % 12))
  | some _, _, _, _ => false
  | none, _, _, _ => true

/-- **scale arithmetic of `transpose_note`, for every argument**: a returned note stands number − 1 steps above the
    given one, and the interval's size above it in pitch class -/
theorem note_scale_arithmetic {s q : String} {a : Int} {n : Nat} {s' : String} {a' : Int}
    (h : transposeNoteNoOctave s a q n = some (s', a')) :
    ∃ i pc sz, idxOf (upper s) = some i ∧ pcOf (upper s) a = some pc ∧
      lookup (q ++ showNat n) INTERVAL_TO_SEMITONES = some sz ∧
      idxOf s' = some ((i + n - 1) % 7) ∧ pcOf s' a' = some ((pc + sz) % 12) := by
  obtain ⟨i, sz, b, b', hi, hsz, hs', hb, hb', -, -, -, rfl⟩ := C16.note_inv h
  refine ⟨i, (b + a) % 12, sz, hi, by simp [pcOf, hb], hsz, (C16.step_of_index _ (Model.lookup_mem hs')).2.2.1, ?_⟩
  simp only [pcOf, hb', Option.map_some, Option.some.injEq]
  omega

theorem stepOK_all (s : String) (a : Int) (q : String) (n : Nat) : stepOK s a q n = true := by
  unfold stepOK
  cases h : transposeNoteNoOctave s a q n with
  | none => rfl
  | some r =>
    obtain ⟨i, pc, sz, hidx, hpc, hsz, hstep, hpc'⟩ := note_scale_arithmetic (s' := r.1) (a' := r.2) h
    simp only [hidx, hpc, hsz, hstep, hpc', decide_true, Bool.and_self]

theorem transposition_is_scale_arithmetic :
    ∀ s ∈ steps7 ++ steps7.map lower, ∀ a ∈ [(-2 : Int), -1, 0, 1, 2],
    ∀ e ∈ ROMAN_MAJ ++ ROMAN_MIN, stepOK s a e.2.1 e.2.2 = true :=
  fun s _ a _ e _ => stepOK_all s a e.2.1 e.2.2

/-- **the mode of the local key selects the table for an upper-case secondary degree** (what the seeded change
    C16-h broke): wherever both are defined, the applied tonic of /III, /VI, /VII in the minor key lies on the same
    step as in the major key on the same tonic and one semitone lower -/
def modeOK (s acc sec : String) : Bool :=
  match appliedTonic (s ++ acc) sec, appliedTonic (lower s ++ acc) sec with
  | some (s1, a1), some (s2, a2) => decide (s1 = s2) && decide (a2 = a1 - 1)
  | _, _ => true

theorem secondary_degree_read_in_local_mode :
    ∀ s ∈ steps7, ∀ acc ∈ ["", "#", "b"], ∀ sec ∈ ["III", "III+", "VI", "VII"], modeOK s acc sec = true := by
  decide +kernel

/-- the root is two scale-arithmetic steps from the tonic: unfolding of the model (the code's two lookups and two
    transpositions), so that `transposition_is_scale_arithmetic` applies to each -/
theorem root_is_two_transpositions (lk p s : String) :
    romanRoot lk p s =
      (appliedTonic lk s).bind fun t =>
        (romanInterval (pyIsLower s) p).bind fun i => transposeNoteNoOctave t.1 t.2 i.1 i.2 := by
  unfold romanRoot
  cases appliedTonic lk s with
  | none => rfl
  | some t =>
    cases romanInterval (pyIsLower s) p with
    | none => rfl
    | some i => rfl

/-- non-vacuity: V/III in A minor is G (III of a minor is C), in A major G♯ (III is C♯); viio/VI in F♯ minor is
    C♯; V in B minor is F♯ (the key name "b" carries no flat) -/
example : romanRoot "a" "V" "III" = some ("G", 0) ∧ romanRoot "A" "V" "III" = some ("G", 1) ∧
    romanRoot "f#" "viio" "VI" = some ("C", 1) ∧ romanRoot "b" "V" "i" = some ("F", 1) ∧
    romanRoot "bb" "V" "i" = some ("F", 0) := by decide +kernel

/-! ## The complete chord-root / local-key arithmetic (Model/LocalKey.lean) -/

def steps14 : List String := steps7 ++ steps7.map lower

/-- **partitura reads back the names it writes** (fix C16-4): a step letter followed by the accidental as INT_TO_ALT
    spells it ("-", "--", "#", "##") is parsed to that step and that alteration — for every step, both cases, the
    whole regenerated table -/
theorem key_name_roundtrip :
    ∀ s ∈ steps14, ∀ e ∈ INT_TO_ALT, keyStepAlter (s ++ e.2) = some (s, e.1) := by
  decide +kernel

/-- the key names the arithmetic is checked on: every step, both modes, written with "#", "b" or "-" -/
def keyNamesDash : List String :=
  steps14.flatMap fun s => [s, s ++ "#", s ++ "b", s ++ "-"]

/-- the local keys of DCML: the seven degrees in both cases, plain, lowered, raised -/
def localDegrees : List String :=
  (["i", "ii", "iii", "iv", "v", "vi", "vii"].flatMap fun d => [d, upper d]).flatMap fun d => [d, "b" ++ d, "#" ++ d]

/-- one `process_local_key` call against scale arithmetic: the new tonic stands (number − 1) steps above the old one
    and (size of the scale degree's interval + sharps − flats) semitones above it, the degree being read in the
    table of the mode of the global key -/
def localKeyOK (loc glob : String) : Bool :=
  match processLocalKey loc glob true with
  | some (.stepAlter s a) =>
    match keyStepAlter glob,
          lookup (lower (String.ofList (loc.toList.filter fun c => !(c = '#' || c = 'b'))))
            (if pyIsLower glob then DCML_MINOR else DCML_MAJOR) with
    | some (ks, ka), some (num, qual) =>
      match idxOf (upper ks), pcOf (upper ks) ka, lookup (qual ++ showNat num) INTERVAL_TO_SEMITONES with
      | some i, some pc, some sz =>
        decide (idxOf s = some ((i + num - 1) % 7)) &&
        decide (pcOf s a = some ((pc + sz + sharpsMinusFlats loc) % 12))
      | _, _, _ => false
    | _, _ => false
  | some (.name _) => false
  | none => true

/-- the degrees carry nothing but letters and accidentals -/
theorem local_degree_facts : ∀ loc ∈ localDegrees, degreeKey loc = lower (degreeLetters loc) := by decide +kernel

/-- one rung of the quality ladder is one semitone — any number of rungs, on every degree of the DCML tables -/
theorem quality_rung {deg : String} {num : Nat} {qual : String} (he : (deg, num, qual) ∈ DCML_MAJOR ++ DCML_MINOR)
    (hv : intervalValid qual num "up" = true) {d : Int} {q' : String} {z' : Int}
    (hq : changeQuality num qual d = some q') (hz : lookup (q' ++ showNat num) INTERVAL_TO_SEMITONES = some z') :
    lookup (qual ++ showNat num) INTERVAL_TO_SEMITONES = some (z' - d) := by
  obtain ⟨h1, h2⟩ := dcml_simple _ he
  obtain ⟨-, hs⟩ := C12.quality_step h1 h2 hv hq
  rw [intervalSemitones, hz] at hs
  obtain ⟨z, hz0, rfl⟩ := Option.map_eq_some_iff.mp hs.symm
  rw [← intervalSemitones, hz0]
  congr 1
  omega

/-- in EVERY global key (any string) and with any number of sharps and flats on the degree: the tonic is one
    `transpose_note` by the degree's interval with its quality moved, so `note_scale_arithmetic` gives step and pitch
    class, and `quality_rung` turns the moved quality's size into size + sharps − flats -/
theorem local_key_arithmetic {loc : String} (hk : degreeKey loc = lower (degreeLetters loc)) (glob : String) :
    localKeyOK loc glob = true := by
  unfold localKeyOK
  rw [processLocalKey_stepAlter]
  cases ht : localTonic (degreeKey loc) (sharpsMinusFlats loc) glob with
  | none => rfl
  | some t =>
    obtain ⟨num, qual, qual', ks, ka, hdeg, hv, hqual, hkey, hnote⟩ := localTonic_inv ht
    -- old tonic at index `i`, class `pc`; new tonic `num − 1` steps and `sz'` (size of the MOVED quality) above
    obtain ⟨i, pc, sz', hidx, hpc, hsz', hstep, hpc'⟩ := note_scale_arithmetic hnote
    have he : (degreeKey loc, num, qual) ∈ DCML_MAJOR ++ DCML_MINOR := by
      have := Model.lookup_mem hdeg
      split at this
      · exact List.mem_append_right _ this
      · exact List.mem_append_left _ this
    -- the size of the table's quality is `sz' − (sharps − flats)`
    have hsz := quality_rung he hv hqual hsz'
    rw [hk] at hdeg
    unfold degreeLetters at hdeg
    have hsum : pc + (sz' - sharpsMinusFlats loc) + sharpsMinusFlats loc = pc + sz' := by omega
    simp only [Option.bind_some, hkey, hdeg, hidx, hpc, hsz, hstep, hpc', hsum, decide_true, Bool.and_self]

theorem local_key_is_scale_arithmetic :
    ∀ glob ∈ keyNamesDash, ∀ loc ∈ localDegrees, localKeyOK loc glob = true :=
  fun glob _ loc hl => local_key_arithmetic (local_degree_facts loc hl) glob

/-- the NAME `process_local_key` returns denotes the (step, alteration) it returns with `return_step_alter`, in
    the case of the local degree — also when the name is the global key handed back unchanged — so that a local
    key of a local key (the importer's "V/bIII") is computed from the right tonic (fix C16-4) -/
def localKeyNameOK (loc glob : String) : Bool :=
  match processLocalKey loc glob true, processLocalKey loc glob false with
  | some (.stepAlter s a), some (.name nm) =>
    decide ((keyStepAlter nm).map (fun x => (upper x.1, x.2)) = some (s, a)) &&
    decide (pyIsLower nm = pyIsLower (String.ofList (loc.toList.filter fun c => !(c = '#' || c = 'b'))))
  | none, none => true
  | _, _ => false

def namesOver (steps : List String) : List String := steps.flatMap fun s => [s, s ++ "#", s ++ "b", s ++ "-"]

theorem step_mem : ∀ e ∈ INT_TO_STEPS, e.2 ∈ steps7 := by decide +kernel

theorem step_written : ∀ s ∈ steps7, ∀ m : Bool,
    (if m then lower s else upper s) ∈ steps14 ∧ upper (if m then lower s else upper s) = s ∧
    ∀ e ∈ INT_TO_ALT, pyIsLower ((if m then lower s else upper s) ++ e.2) = m := by decide +kernel

/-- a value of `transpose_note` is an upper-case step name with an alteration INT_TO_ALT can write; written in either
    case with that accidental it is read back as written (`key_name_roundtrip`), and the case is that of the name -/
theorem note_written {s q : String} {a : Int} {n : Nat} {s' : String} {a' : Int}
    (h : transposeNoteNoOctave s a q n = some (s', a')) (m : Bool) :
    ∃ alt, lookup a' INT_TO_ALT = some alt ∧ upper s' = s' ∧
      keyStepAlter ((if m then lower s' else upper s') ++ alt) = some (if m then lower s' else upper s', a') ∧
      upper (if m then lower s' else upper s') = s' ∧ pyIsLower ((if m then lower s' else upper s') ++ alt) = m := by
  obtain ⟨i, sz, b, b', -, -, hs', -, -, -, -, ha', -⟩ := C16.note_inv h
  have hst := Model.lookup_mem hs'
  obtain ⟨hc, hu, hm⟩ := step_written _ (step_mem _ hst) m
  obtain ⟨alt, he, hl⟩ := int_alt ha'
  have hr := key_name_roundtrip _ hc (a', alt) he
  have hm := hm (a', alt) he
  exact ⟨alt, hl, (C16.step_of_index _ hst).2.1, hr, hu, hm⟩

/-- the first degree of a key is its tonic -/
theorem tonic_of_key : ∀ glob ∈ keyNamesDash,
    ∃ x ∈ keyStepAlter glob, localTonic "i" 0 glob = some (upper x.1, x.2) := by decide +kernel

/-- both return forms write the same `localTonic`: the name is the global key where that is its first degree
    (`tonic_of_key`), and otherwise step + INT_TO_ALT accidental, which `key_name_roundtrip` reads back -/
theorem local_key_name_denotes_its_tonic {loc glob : String} (hl : loc ∈ localDegrees) (hg : glob ∈ keyNamesDash) :
    localKeyNameOK loc glob = true := by
  have hk := local_degree_facts loc hl
  have hn := processLocalKey_name loc glob
  unfold localKeyNameOK
  rw [processLocalKey_stepAlter]
  split at hn
  · rename_i hc
    obtain ⟨x, hx, ht⟩ := tonic_of_key glob hg
    rw [hn, hk, hc.2.1, hc.2.2, ht]
    have hm := hc.1
    unfold degreeLetters at hm
    simp only [Option.bind_some, Option.map_some, Option.mem_def.mp hx, hm, decide_true, Bool.and_self]
  · rw [hn]
    cases ht : localTonic (degreeKey loc) (sharpsMinusFlats loc) glob with
    | none => rfl
    | some t =>
      obtain ⟨s, a⟩ := t
      obtain ⟨num, qual, qual', ks, ka, -, -, -, -, h4⟩ := localTonic_inv ht
      obtain ⟨alt, hl, -, hr, hu, hm⟩ := note_written h4 (pyIsLower (degreeLetters loc))
      simp only [degreeLetters] at hu hm hr ⊢
      simp only [Option.map_some, Option.bind_some, hl, hr, hu, hm, decide_true, Bool.and_self]

theorem keyNamesDash_split : keyNamesDash = namesOver steps7 ++ namesOver (steps7.map lower) :=
  List.flatMap_append

theorem local_key_name_denotes_its_tonic_major :
    ∀ glob ∈ namesOver steps7, ∀ loc ∈ localDegrees, localKeyNameOK loc glob = true :=
  fun _ hg _ hl => local_key_name_denotes_its_tonic hl (keyNamesDash_split ▸ List.mem_append_left _ hg)

theorem local_key_name_denotes_its_tonic_minor :
    ∀ glob ∈ namesOver (steps7.map lower), ∀ loc ∈ localDegrees, localKeyNameOK loc glob = true :=
  fun _ hg _ hl => local_key_name_denotes_its_tonic hl (keyNamesDash_split ▸ List.mem_append_right _ hg)

/-- the regenerated root → bass intervals are chord tones: the third is minor for a lower-case numeral and major for
    an upper-case one, the fifth perfect, the seventh minor -/
theorem bass_intervals_table :
    BASS_INTERVALS = [((1, true), "m", 3), ((1, false), "M", 3), ((2, true), "P", 5), ((2, false), "P", 5),
      ((3, true), "m", 7), ((3, false), "m", 7)] := by decide +kernel

/-- every root name `find_root_note` can write: step (either case) + INT_TO_ALT accidental -/
def rootNames : List String := steps14.flatMap fun s => INT_TO_ALT.map fun e => s ++ e.2

/-- **the bass note is the chord tone above the root AS SPELLED** (fix C16-4: a root "B-" is B flat): its step lies
    number − 1 places above the root's, its pitch class the interval's size above the root's -/
def bassOK (root : String) (e : (Nat × Bool) × String × Nat) : Bool :=
  match findBassNote root e.1.1 (if e.1.2 then "i" else "I"), keyStepAlter root with
  | some bass, some (rs, ra) =>
    match keyStepAlter bass, idxOf (upper rs), pcOf (upper rs) ra, lookup (e.2.1 ++ showNat e.2.2) INTERVAL_TO_SEMITONES with
    | some (bs, ba), some i, some pc, some sz =>
      decide (idxOf bs = some ((i + e.2.2 - 1) % 7)) && decide (pcOf bs ba = some ((pc + sz) % 12))
    | _, _, _, _ => false
  | none, some _ => true      -- the bass would need a triple accidental: `transpose_note` refuses
  | _, none => false

theorem bass_interval_found : ∀ e ∈ BASS_INTERVALS,
    lookup (e.1.1, pyIsLower (if e.1.2 then "i" else "I")) BASS_INTERVALS = some e.2 := by decide +kernel

theorem bass_is_chord_tone_above_spelled_root :
    ∀ root ∈ rootNames, ∀ e ∈ BASS_INTERVALS, bassOK root e = true := by
  intro root hr e he
  obtain ⟨s, hs, hm⟩ := List.mem_flatMap.mp hr
  obtain ⟨e', he', rfl⟩ := List.mem_map.mp hm
  have hk := key_name_roundtrip s hs e' he'
  unfold bassOK findBassNote
  simp only [hk, bass_interval_found e he]
  cases ht : transposeNoteNoOctave s e'.1 e.2.1 e.2.2 with
  | none => rfl
  | some t =>
    obtain ⟨i, pc, sz, hidx, hpc, hsz, hstep, hpc'⟩ := note_scale_arithmetic ht
    obtain ⟨alt, hl, hu, hb, -⟩ := note_written ht false
    simp only [Bool.false_eq_true, if_false, hu] at hb
    simp only [hl, hb, hidx, hpc, hsz, hstep, hpc', Option.map_some, decide_true, Bool.and_self]

/-- **the fallback of `find_root_note` agrees with its tables** (fix C16-5): the chord on the lowered second degree,
    written "bII" (not in the tables: `process_local_key` path), has the root of the Neapolitan "N" (table path) in
    every key — also in keys whose tonic carries an accidental — up to the case of the letter -/
def neapolitanOK (lk sec : String) : Bool :=
  match findRootNote lk "bII" sec, findRootNote lk "N" sec with
  | some a, some b => decide (upper a = upper b)
  | none, none => true
  | _, _ => false

/-- on the table path `find_root_note` is `romanRoot` (Model/RomanRoot.lean, the function of `root_is_two_transpositions`) written as a name -/
theorem find_root_note_table_path (lk p s : String)
    (hs : (romanInterval (pyIsLower lk) s).isSome) (hp : (romanInterval (pyIsLower s) p).isSome) :
    findRootNote lk p s = (romanRoot lk p s).bind fun r => (lookup r.2 INT_TO_ALT).map fun alt => r.1 ++ alt := by
  obtain ⟨i2, h2⟩ := Option.isSome_iff_exists.mp hp
  rw [findRootNote_of_tonic lk p s hs, h2]
  unfold romanRoot
  simp only [Option.bind_eq_bind, h2, Option.bind_some, Option.bind_assoc]

/-- in EVERY key: both numerals put a minor second on the same applied tonic — "N" by the table, "bII" as the lowered
    second degree of the applied key, whose written name `key_name_roundtrip` reads back to that tonic -/
theorem neapolitan_agrees (lk : String) {sec : String} (hs : (romanInterval (pyIsLower lk) sec).isSome) :
    neapolitanOK lk sec = true := by
  have hN : ∀ m, romanInterval m "N" = some ("m", 2) ∧ romanInterval m "bII" = none := by decide
  unfold neapolitanOK
  rw [findRootNote_of_tonic lk "bII" sec hs, findRootNote_of_tonic lk "N" sec hs, (hN _).1, (hN _).2]
  cases ht : appliedTonic lk sec with
  | none => rfl
  | some t =>
    obtain ⟨st, al⟩ := t
    obtain ⟨c0, a0, q0, n0, h0⟩ := appliedTonic_is_note ht
    obtain ⟨alt, hl, hup, hk, hu, -⟩ := note_written h0 (pyIsLower sec)
    simp only [Option.bind_some, hl, lowered_second hk, C16.note_of_upper (hu.trans hup.symm)]
    cases hr : transposeNoteNoOctave st _ "m" 2 with
    | none => rfl
    | some r =>
      obtain ⟨alt', hl, hup, -⟩ := note_written hr false
      simp only [Option.bind_some, hl, Option.map_some, hup, decide_true]

theorem fallback_root_agrees_with_table :
    ∀ lk ∈ keyNamesDash, ∀ sec ∈ ["I", "i", "V", "IV", "iv", "III", "VI"], neapolitanOK lk sec = true :=
  fun lk _ sec hs => neapolitan_agrees lk
    ((by decide : ∀ m, ∀ sec ∈ ["I", "i", "V", "IV", "iv", "III", "VI"], (romanInterval m sec).isSome) _ sec hs)

/-- non-vacuity: IV of F is written "B-" and read back as B flat: V in that key is F, its first inversion has the
    bass A; the Neapolitan of E flat is F flat; V of bIII of C is B flat -/
example : processLocalKey "IV" "F" false = some (.name "B-") ∧ findRootNote "B-" "V" "I" = some "F" ∧
    findBassNote "F" 1 "V" = some "A" ∧ findRootNote "F" "IV" "I" = some "B-" ∧ findBassNote "B-" 1 "IV" = some "D" ∧
    findRootNote "Eb" "bII" "I" = some "F-" ∧
    (processLocalKey "bIII" "C" false).bind (fun r => match r with
      | .name k => processLocalKey "V" k false | _ => none) = some (.name "B-") := by decide +kernel

end C16Roman
