/-
C11 — adding measures and tying notes normalise notation without changing what sounds.

Property theorems over Model/Durations.lean (estimator, split search) and Model/Measures.lean
(add_measures, tie_notes) and the regenerated duration tables.
-/
import PartituraModel.Proofs.C11Split
import PartituraModel.Proofs.C11Meas
import PartituraModel.Proofs.C11Walk

namespace C11
open Model Model.Dur Model.Meas Gen

def sortedB (l : List Rat) : Bool := (l.zip l.tail).all fun p => decide (p.1 ≤ p.2)

/-- **table_consistent** (whole regenerated tables, kernel decision): `SYM_DURS[i]` lasts `DURS[i]` quarters;
    every straight value is the label's duration; every composite row sums to its `COMPOSITE_DURS` entry up to
    the binary64 rounding of that entry (2⁻⁵⁰); the three numeric tables are sorted (as `find_nearest` /
    `searchsorted` assume) -/
theorem table_consistent :
    (DURS.length = SYM_DURS.length ∧
      ∀ (i : Nat) (d : Rat) (sd : SymDur), DURS[i]? = some d → SYM_DURS[i]? = some sd → symbolicToNumeric sd 1 = some d) ∧
    (STRAIGHT_DURS.length = SYM_STRAIGHT_DURS.length ∧
      ∀ (k : Nat) (s : Rat) (ss : SymDur), STRAIGHT_DURS[k]? = some s → SYM_STRAIGHT_DURS[k]? = some ss → lookup ss.1 LABEL_DURS = some s) ∧
    (COMPOSITE_DURS.length = SYM_COMPOSITE_DURS.length ∧
      ∀ (j : Nat) (cf : Rat) (sc : List SymDur), COMPOSITE_DURS[j]? = some cf → SYM_COMPOSITE_DURS[j]? = some sc →
        ∃ c, numericSum sc 1 = some c ∧ |c - cf| ≤ 1 / 1125899906842624) ∧
    (sortedB DURS = true ∧ sortedB STRAIGHT_DURS = true ∧ sortedB COMPOSITE_DURS = true) :=
  ⟨⟨C11Dur.dur_rows.1, fun i d sd hd hs => (C11Dur.dur_row i d sd hd hs).1⟩,
   ⟨C11Dur.straight_rows.1, fun k s ss hd hs => (C11Dur.straight_row k s ss hd hs).1⟩,
   ⟨C11Dur.comp_rows.1, fun j cf sc hd hs =>
      let ⟨c, h1, h2, _⟩ := C11Dur.comp_row j cf sc hd hs; ⟨c, h1, h2⟩⟩,
   by decide +kernel⟩

/-- **estimate_back**: for every integer duration and every divisions value, whatever single symbolic
    duration the (repaired) estimator answers lasts exactly the duration it was given -/
theorem estimate_back (dur div : Nat) (com : Bool) (sd : SymDur)
    (h : estimate (dur : Rat) div com = some (.single sd)) : symbolicToNumeric sd div = some (dur : Rat) :=
  C11Dur.single_back dur div com sd h

/-- with `return_com_durations=True` the tied values of a composite answer add up to the duration
    (divisions up to 2⁴⁰: the composite table holds binary64 values) -/
theorem estimate_back_composite (dur div : Nat) (hdiv : 0 < div) (hbig : div ≤ 1099511627776) (com : Bool)
    (l : List SymDur) (h : estimate (dur : Rat) div com = some (.composite l)) : numericSum l div = some (dur : Rat) :=
  C11Dur.composite_back dur div hdiv hbig com l h

/-- the estimator always answers on integers: a value, a composite, or `{}` = "no single notated value"
    (the fuel of the tuplet guess suffices) -/
theorem estimate_total (dur div : Nat) (hdiv : 0 < div) (com : Bool) : ∃ e, estimate (dur : Rat) div com = some e := by
  unfold estimate
  have hdiv0 : ¬ (div = 0) := by omega
  have hneg : ¬ ((dur : Rat) < 0) := by
    have : (0 : Rat) ≤ dur := by exact_mod_cast Nat.zero_le dur
    exact not_lt.mpr this
  simp only [hdiv0, hneg, if_false]
  split
  · exact ⟨_, rfl⟩
  · rename_i hq0
    have hdur : 0 < dur := by
      rcases Nat.eq_zero_or_pos dur with h0 | h0
      · exfalso; apply hq0; rw [h0]; simp
      · exact h0
    have hl1 : 0 < DURS.length := by decide
    have hi := C11Dur.findNearest_lt DURS ((dur : Rat) / div) hl1
    rw [List.getElem?_eq_getElem hi, List.getElem?_eq_getElem (by rw [← C11Dur.dur_rows.1]; exact hi)]
    simp only
    split
    · exact ⟨_, rfl⟩
    · exact C11Dur.estimateRest_total dur div hdiv hdur com

/-- without `return_com_durations` the answer is `{}` or a single value -/
theorem estimate_shape (dur : Rat) (div : Nat) (e : Est) (h : estimate dur div false = some e) :
    e = .empty ∨ ∃ sd, e = .single sd :=
  C11Dur.estimate_false_shape dur div e h

-- non-vacuity: a dotted quarter from the table, a triplet from the tuplet guess, a composite, no value
example : estimate 6 4 false = some (.single ("quarter", 1, none, none)) := by decide +kernel
example : estimate 4 6 false = some (.single ("quarter", 0, some 3, some 2)) := by decide +kernel
example : estimate 34 16 true = some (.composite [("half", 0, none, none), ("32nd", 0, none, none)]) := by decide +kernel
example : estimate 34 16 false = some .empty ∧ estimate 81 16 false = some .empty := by decide +kernel

/-- the defects repaired by C11-1 / C11-2, on the unrepaired matching rule in exact arithmetic:
    22 divisions at 960 per quarter were called a dotted 256th (which lasts 22.5), one division at 17 per quarter
    a triple-dotted 128th, and 1001 divisions at 251 per quarter a 336:334 tuplet of wholes -/
example : estimateOld 22 960 = some (.single ("256th", 1, none, none)) ∧
    symbolicToNumeric ("256th", 1, none, none) 960 = some (45 / 2) := by decide +kernel
example : estimateOld 1 17 = some (.single ("128th", 3, none, none)) ∧
    symbolicToNumeric ("128th", 3, none, none) 17 ≠ some 1 := by decide +kernel
example : estimateOld 1001 251 = some (.single ("whole", 0, some 336, some 334)) ∧
    symbolicToNumeric ("whole", 0, some 336, some 334) 251 ≠ some 1001 := by decide +kernel
-- the repaired rule on the same inputs
example : estimate 22 960 false = some (.single ("128th", 0, some 15, some 11)) ∧
    symbolicToNumeric ("128th", 0, some 15, some 11) 960 = some 22 := by decide +kernel

/-- **split_sound**: for all start, end, divisions, split limits and fuel — an answer of `find_tie_split` tiles
    `[start, end)` with at most `max_splits + 1` (four, as `tie_notes` calls it) non-empty parts, each carrying
    one symbolic value that lasts exactly the part -/
theorem split_sound (start stop divs maxSplits fuel : Nat) (parts : List Piece)
    (h : findTieSplit start stop divs maxSplits fuel = .found parts) :
    C11Split.Tiles start stop parts ∧ parts ≠ [] ∧ parts.length ≤ maxSplits + 1 ∧
    ∀ p ∈ parts, ∃ sd, p.2.2 = .single sd ∧ symbolicToNumeric sd divs = some ((p.2.1 - p.1 : Nat) : Rat) := by
  unfold findTieSplit at h
  split at h
  · simp at h
  · simp only at h
    split at h
    · rename_i splits hs
      simp only [Outcome.found.injEq] at h
      obtain ⟨hlen, hsucc⟩ := C11Split.search_found _ _ (fun st => st.length ≤ maxSplits)
        (fun st _ => C11Split.expand_length start stop (findSmallestUnit divs) maxSplits st)
        fuel [[]] splits (by intro q hq; simp at hq; subst hq; simp) hs
      obtain ⟨t, len, ok⟩ := C11Split.pieces_sound divs splits start stop hsucc
      have e : parts = (pairs (start :: splits ++ [stop])).map (C11Split.pieceOf divs) := by
        rw [← h]; rfl
      rw [e]
      refine ⟨t, ?_, by omega, ok⟩
      intro hnil
      rw [hnil] at len
      simp at len
    · simp at h
    · simp at h

example : ∃ parts, findTieSplit 0 5 1 3 100 = .found parts ∧ parts.length = 2 :=
  ⟨[(0, 4, .single ("whole", 0, none, none)), (4, 5, .single ("quarter", 0, none, none))], by decide +kernel⟩

/-- **measures_tile**: for every bar-end map that answers later integer positions on integer positions, every
    part whose signatures are in time order inside a non-empty timeline and whose existing measures are in time
    order, non-empty, disjoint, inside the timeline and not straddling a signature change: after `add_measures`
    the measures are pairwise disjoint (in time order), non-empty, cover `[first, last)`, and the old ones are
    still there with their extents -/
theorem measures_tile (f : Rat → Nat → Option Rat) (hf : C11Meas.Integral f) (p : PartM) (fuel : Nat)
    (l : List (Nat × Nat × Nat)) (ms' : List Measure) (hok : C11Meas.TsOK p) (hl : stretches p = some l)
    (hex : C11Meas.ExistingOK p l) (h : addMeasuresWith f p fuel = .ok ms') :
    ms'.Pairwise (fun m m' => m.stop ≤ m'.start) ∧
    (∀ m ∈ ms', p.first ≤ m.start ∧ m.stop ≤ p.last) ∧
    (∀ t, p.first ≤ t → t < p.last → ∃ m ∈ ms', m.start ≤ t ∧ t < m.stop) ∧
    (p.measures.map C11Meas.ext).Sublist (ms'.map C11Meas.ext) :=
  C11Meas.add_measures_tile f p fuel l ms' (fun _ _ => C11Meas.integral_localOK f hf _ _ _) hok hl hex h

/-- **numbers_consecutive**: under the same hypotheses the measures, in time order, are numbered 1, 2, …, n -/
theorem numbers_consecutive (f : Rat → Nat → Option Rat) (hf : C11Meas.Integral f) (p : PartM) (fuel : Nat)
    (l : List (Nat × Nat × Nat)) (ms' : List Measure) (hok : C11Meas.TsOK p) (hl : stretches p = some l)
    (hex : C11Meas.ExistingOK p l) (h : addMeasuresWith f p fuel = .ok ms') :
    ∀ (i : Nat) (hi : i < ms'.length), (ms'[i]).number = some (1 + (i : Int)) :=
  (C11Meas.tn_numbers _ _ _ _ _
    (C11Meas.add_measures_sound f p fuel l ms' (fun _ _ => C11Meas.integral_localOK f hf _ _ _) hok hl hex h).1).1

/-- **measure_lengths**: under the same hypotheses every measure afterwards is an old one (same extent) or was
    added inside a stretch `(tsStart, tsEnd, beats)` of one time signature and ends where the bar-end map puts the end
    of a full bar from its start (`w`), or earlier only because the stretch ends there (next signature change or
    end of the part) or an existing measure starts there -/
theorem measure_lengths (f : Rat → Nat → Option Rat) (hf : C11Meas.Integral f) (p : PartM) (fuel : Nat)
    (l : List (Nat × Nat × Nat)) (ms' : List Measure) (hok : C11Meas.TsOK p) (hl : stretches p = some l)
    (hex : C11Meas.ExistingOK p l) (h : addMeasuresWith f p fuel = .ok ms') :
    ∀ m ∈ ms', (∃ x ∈ p.measures, x.start = m.start ∧ x.stop = m.stop) ∨
      ∃ x ∈ l, ∃ w : Nat, f (m.start : Rat) x.2.2 = some (w : Rat) ∧ x.1 ≤ m.start ∧ m.start < x.2.1 ∧ m.stop ≤ w ∧
        m.stop ≤ x.2.1 ∧
        (m.stop = w ∨ m.stop = x.2.1 ∨ ∃ y ∈ p.measures, y.start = m.stop) := by
  intro m hm
  rcases (C11Meas.add_measures_sound f p fuel l ms' (fun _ _ => C11Meas.integral_localOK f hf _ _ _) hok hl hex h).2.2
    m hm with ⟨x, hx, he⟩ | ⟨x, hx, v, hv, g1, g2, g3, g4, g5⟩
  · exact Or.inl ⟨x, hx, (Prod.mk.inj he).1, (Prod.mk.inj he).2⟩
  · obtain ⟨w, rfl, _⟩ := hf _ _ v hv
    exact Or.inr ⟨x, hx, w, hv, g1, g2, Nat.cast_le.mp g3, g4, g5.imp_left Nat.cast_inj.mp⟩

/-- `add_measures` is that loop over C02's beat maps -/
theorem addMeasures_eq (p : PartM) (fuel : Nat) : addMeasures p fuel = addMeasuresWith (barEnd p) p fuel := rfl

/-- a part without time signature, or with an empty timeline, is left alone -/
theorem addMeasures_noop (f : Rat → Nat → Option Rat) (p : PartM) (fuel : Nat)
    (h : p.ts = [] ∨ p.first = p.last) : addMeasuresWith f p fuel = .ok p.measures := by
  unfold addMeasuresWith
  rcases h with h | h
  · simp [h]
  · simp [h]

-- non-vacuity: bars of 4 over [0, 10) in two stretches, one existing measure [5, 7) numbered 9
def exF : Rat → Nat → Option Rat := fun pos beats => some (pos + (beats : Rat))
def exPart : PartM :=
  { first := 0, last := 10, npoints := 5, qd := [(0, 1)], ts := [⟨0, 4, 4, 4⟩, ⟨7, 2, 4, 2⟩],
    measures := [⟨5, 7, some 9⟩] }

example : stretches exPart = some [(0, 7, 4), (7, 10, 2)] ∧
    addMeasuresWith exF exPart 50 =
      .ok [⟨0, 4, some 1⟩, ⟨4, 5, some 2⟩, ⟨5, 7, some 3⟩, ⟨7, 9, some 4⟩, ⟨9, 10, some 5⟩] := by
  decide +kernel

example : C11Meas.TsOK exPart := ⟨by decide, by decide, by decide, by decide⟩
example : C11Meas.ExistingOK exPart [(0, 7, 4), (7, 10, 2)] :=
  ⟨(C11Meas.td_cons ..).mpr ⟨by decide, by decide, trivial⟩, by decide, by decide⟩

/-- **tie_sound_same**: the chain that `tie_notes` puts in place of a note cut at the following measure starts
    (any list of measure starts) sounds the same — onset, summed duration, pitch, voice — and is a well-formed
    tie chain: contiguous, linked both ways, of one pitch/voice/staff, keeping the note's identity and back
    link at its head and handing the forward tie and the stopping slurs to its last member.
    `ps` may be any tiling of the note (also the one `split_note` gets). -/
theorem tie_sound_same (orig : Note) (base : Nat) (ps : List (Nat × Nat × Option Est)) (hne : ps ≠ [])
    (ht : C11Tie.PTiles orig.start orig.stop ps) :
    C11Tie.chainRow (mkChain orig base ps) = some (C11Tie.noteRow orig) ∧
    C11Tie.ChainSpec orig orig.start orig.stop orig.tiePrev orig.key orig.id ps (mkChain orig base ps) :=
  C11Tie.mkChain_sound orig base ps hne ht

/-- the pieces stage 1 of `tie_notes` uses do tile the note, for every list of measure starts -/
theorem tie_pieces_tile (f : Nat × Nat → Option Est) (ms : List Nat) (start stop : Nat) (h : start < stop) :
    C11Tie.PTiles start stop ((pieceBounds start stop (cutPoints start stop ms)).map fun b => (b.1, b.2, f b)) :=
  C11Tie.cutPoints_tiles f ms start stop h

/-- **every pitched note lies within one measure**: with the measure starts in time order no measure starts
    strictly inside a piece -/
theorem pieces_within_measures (ms : List Nat) (start stop : Nat) (hs : ms.Pairwise (· ≤ ·)) :
    ∀ b ∈ pieceBounds start stop (cutPoints start stop ms), ∀ m ∈ ms, ¬ (b.1 < m ∧ m < b.2) :=
  C11Tie.cutPoints_no_inner ms start stop hs

/-- **symdur_assigned**: a symbolic duration `tie_notes` stores on a piece lasts exactly the piece -/
theorem symdur_assigned (dur div : Nat) (sd : SymDur) (h : estimateI dur div = .single sd) :
    symbolicToNumeric sd div = some (dur : Rat) := by
  unfold estimateI at h
  split at h
  · rename_i e he
    subst h
    exact estimate_back dur div false sd he
  · cases h

/-- stage 2 of `tie_notes` never fires: `symbolic_duration` is never `None` for a note in a part, because
    `estimate_symbolic_duration` answers `{}` where it used to answer `None` (reported, not repaired) -/
theorem stage2_dead (qd : List (Int × Nat)) (ns : List Note) : tieStage2 qd ns = ns :=
  C11Walk.tieStage2_id qd ns

/-- **tie_notes_sound_same** (list level): for every note list and every part, after `tie_notes` every tie chain
    that could be walked before (`Walk` = the recursion of `duration_tied` / `end_tied`) has the same summed
    duration and the same end, and every note is still found under its key with the same onset, pitch, voice,
    staff and id; a note that had a `tie_prev` (is not a row of the note array) still has one -/
theorem tie_notes_sound_same (p : PartM) (ns : List Note) :
    (∀ x d e, C11Walk.Walk ns x d e → C11Walk.Walk (tieNotes p ns) x d e) ∧ C11Walk.RowKept ns (tieNotes p ns) := by
  rw [C11Walk.tieNotes_eq]
  exact C11Walk.tieStage1_sound p.qd (p.measures.map (·.start)) ns

/-- for the same reason `find_tuplets` finds no candidate group and changes nothing -/
theorem tuplet_candidates_empty (qd : List (Int × Nat)) (ns : List Note) : tupletCandidates qd ns = [] := by
  unfold tupletCandidates
  simp only [C11Walk.symbolicDuration_isNone]
  simp

/-- **sanitize_sound_same**: on a note list whose tie links all join adjacent notes (what `tie_notes` produces,
    `tie_sound_same`), the tie check of `sanitize_part` removes nothing, whatever the tolerance -/
theorem sanitize_sound_same (ns : List Note) (tol : Nat) (hc : C11Walk.ContigAll ns) : sanitizeTies ns tol = ns :=
  C11Walk.sanitize_noop ns tol hc

-- non-vacuity: the witness of C11-3 — a note [0, 6) tied to [6, 8), bars of 4: the chain 0 → 2 → 1 still lasts 8
def exA : Note := { key := 0, id := some "n0", start := 0, stop := 6, pitch := "C_0_4", voice := some 1, staff := some 1,
                    sym := none, tiePrev := none, tieNext := some 1, slurStops := [] }
def exB : Note := { key := 1, id := some "n1", start := 6, stop := 8, pitch := "C_0_4", voice := some 1, staff := some 1,
                    sym := none, tiePrev := some 0, tieNext := none, slurStops := [] }
def exTiePart : PartM := { first := 0, last := 8, npoints := 3, qd := [(0, 1)], ts := [⟨0, 4, 4, 4⟩],
                           measures := [⟨0, 4, some 1⟩, ⟨4, 8, some 2⟩] }

example : C11Walk.Walk [exA, exB] 0 8 8 :=
  C11Walk.Walk.step 0 exA 1 2 8 rfl rfl (C11Walk.Walk.last 1 exB rfl rfl)

example : C11Walk.ContigAll [exA, exB] := by
  intro n hn
  simp only [List.mem_cons, List.not_mem_nil, or_false] at hn
  rcases hn with rfl | rfl
  · refine ⟨by decide, ?_⟩
    intro t nx ht hf
    have : t = 1 := by simpa [exA] using ht.symm
    subst this
    have : nx = exB := by simpa [exA, exB] using hf.symm
    subst this; rfl
  · refine ⟨by decide, ?_⟩
    intro t nx ht _
    simp [exB] at ht

example : (tieNotes exTiePart [exA, exB]).map (fun n => (n.key, n.start, n.stop, n.tiePrev, n.tieNext)) =
    [(0, 0, 4, none, some 2), (2, 4, 6, some 0, some 1), (1, 6, 8, some 2, none)] := by decide +kernel

-- non-vacuity: a note [0, 10) cut at the measure starts 4 and 8
example : cutPoints 0 10 [0, 4, 8, 12] = [4, 8] ∧ pieceBounds 0 10 [4, 8] = [(0, 4), (4, 8), (8, 10)] := by decide

end C11
