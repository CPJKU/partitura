/-
C06 — "Saving a performance (a Performance, a performed part, or a list of performed parts) …": the list
handed over as a one-shot iterable (generator, iterator, `map`), which the saver's `isinstance(…, Iterable)` branch
accepts (fixes/C06-9: the unrepaired code wrote a file without tracks).
-/
import PartituraModel.Model.PerfIter
import PartituraModel.Props.C06History

namespace C06
open Model Model.PerfMidi

/-- the first save of an iterable of performed parts = the save of the list of these parts -/
theorem oneshot_first_save (qf : Nat → Nat → Rat → Int) (ps : List PPart) (o : SaveOpts) (os : List SaveOpts) :
    (runOneShot qf ⟨ps, false⟩ (o :: os)).2.head? = some (saveOut qf (.parts ps) o) := rfl

/-- an iterable with a foreign element is rejected like the list with that element -/
theorem oneshot_foreign (qf : Nat → Nat → Rat → Int) (ps : List PPart) (o : SaveOpts) :
    (saveOneShot qf ⟨ps, true⟩ o).2 = none := rfl

/-- a history of saves of one iterable: the first save exhausts it, and the exhausted iterable is a state every save
    hands back (`history_fixed`) — all later saves are saves of the empty list -/
theorem runOneShot_cons (qf : Nat → Nat → Rat → Int) (it : OneShot) (o : SaveOpts) (os : List SaveOpts) :
    runOneShot qf it (o :: os)
      = (⟨[], false⟩, saveOut qf it.listed o :: os.map fun o' => saveOut qf (.parts []) o') := by
  show ((runWith (saveOneShot qf) ⟨[], false⟩ os).1, saveOut qf it.listed o :: (runWith (saveOneShot qf) ⟨[], false⟩ os).2) = _
  rw [history_fixed (saveOneShot qf) ⟨[], false⟩ (fun _ => rfl) os]
  rfl

/-- after any save nothing is left of the iterable -/
theorem oneshot_exhausted (qf : Nat → Nat → Rat → Int) (it : OneShot) (o : SaveOpts) (os : List SaveOpts) :
    (runOneShot qf it (o :: os)).1 = ⟨[], false⟩ := by
  rw [runOneShot_cons]

/-- saving the empty list: a file of type 1 without tracks (returned or written) -/
theorem save_empty_list (qf : Nat → Nat → Rat → Int) (o : SaveOpts) : saveOut qf (.parts []) o = some (1, []) := by
  unfold saveOut dispatchSave
  cases o.toObject <;> cases o.merge <;> rfl

/-- every save after the first one writes the empty file -/
theorem oneshot_later_saves (qf : Nat → Nat → Rat → Int) (it : OneShot) (o : SaveOpts) (os : List SaveOpts) :
    ∀ r ∈ (runOneShot qf it (o :: os)).2.tail, r = some (1, []) := by
  rw [runOneShot_cons]
  intro r hr
  obtain ⟨o', _, rfl⟩ := List.mem_map.mp hr
  exact save_empty_list qf o'

/-- NOT the code: before fixes/C06-9 the saver wrote the empty file whatever parts the iterable held … -/
theorem oneshot_unrepaired_loses_everything (qf : Nat → Nat → Rat → Int) (ps : List PPart) (o : SaveOpts) :
    (saveOneShotUnrepaired qf ⟨ps, false⟩ o).2 = some (1, []) := save_empty_list qf o

/-- … while the list of one part with one note is a file with a track (non-vacuity of `oneshot_first_save`) -/
example : (saveOneShot (fun mpq ppq => quant mpq ppq) ⟨[⟨[], [], [], [], [⟨60, 64, 0, 0, 0, 1⟩], []⟩], false⟩
      ⟨480, 500000, false, true⟩).2
    = some (0, [[(0, Ev.tempo 500000), (0, Ev.noteOn 0 60 64), (0, Ev.program 0 0), (960, Ev.noteOff 0 60 0)]]) := by
  decide +kernel

end C06
