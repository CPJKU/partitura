/-
C07 — `importmatch.validate_match_ids`, the last step of `load_matchfile`: what it removes and what it keeps.
Model/MatchLine.lean `validateIds` / `loadFileV`; compared with the real loader on synthesised files with
repeated score-note and performed-note ids (stream `loadfile`).  The alignment side models the same function a second
time, on its own line type (`Model.MatchTime.validate`, Proofs/C08.lean); no theorem relates the two models.
-/
import PartituraModel.Model.MatchLine

namespace C07
open Model Model.Template Model.MatchCodec Model.MatchLine

/-- the lines come out in file order, none is invented -/
theorem validate_sublist (nS : Nat) (recs : List (String × List Val)) : (validateIds nS recs).Sublist recs := by
  unfold validateIds
  exact (List.filter_sublist).trans List.filter_sublist

/-- **exactly what is removed**: a line is kept iff it is not a deletion with a repeated score id and not an
    insertion whose performed-note id is repeated among the lines kept by the first step -/
theorem validate_mem (nS : Nat) (recs : List (String × List Val)) (r : String × List Val) :
    r ∈ validateIds nS recs ↔
      r ∈ recs ∧ dupDeletion (recs.filterMap scoreId) r = false ∧
        dupInsertion nS ((recs.filter fun x => !dupDeletion (recs.filterMap scoreId) x).filterMap (noteId nS)) r = false := by
  unfold validateIds
  simp only [List.mem_filter, Bool.not_eq_true', and_assoc]

/-- **every line that is neither a deletion nor an insertion is kept** (note pairs, ornaments, pedal, info,
    meta, score properties, sections, time lines), in file order -/
theorem validate_keeps_others (nS : Nat) (recs : List (String × List Val)) :
    (validateIds nS recs).filter (fun r => !isDeletionKind r.1 && !isInsertionKind r.1) =
      recs.filter (fun r => !isDeletionKind r.1 && !isInsertionKind r.1) := by
  unfold validateIds
  simp only [List.filter_filter]
  apply List.filter_congr
  intro r _
  unfold dupDeletion dupInsertion
  cases hd : isDeletionKind r.1 <;> cases hi : isInsertionKind r.1 <;> simp

private theorem not_dup (kind : Bool) (o : Option Val) (ids : List Val) (h : ∀ a, countOf a ids ≤ 1) :
    (kind && (match o with | some a => decide (countOf a ids > 1) | none => false)) = false := by
  cases o with
  | none => simp
  | some a =>
    have := h a
    have hd : decide (countOf a ids > 1) = false := by
      simp only [decide_eq_false_iff_not]; omega
    simp [hd]

/-- **distinct ids: nothing is removed** -/
theorem validate_distinct (nS : Nat) (recs : List (String × List Val))
    (hs : ∀ a, countOf a (recs.filterMap scoreId) ≤ 1) (hp : ∀ a, countOf a (recs.filterMap (noteId nS)) ≤ 1) :
    validateIds nS recs = recs := by
  have h1 : recs.filter (fun r => !dupDeletion (recs.filterMap scoreId) r) = recs := by
    rw [List.filter_eq_self]
    intro r _
    have : dupDeletion (recs.filterMap scoreId) r = false := not_dup (isDeletionKind r.1) (scoreId r) _ hs
    rw [this]
    rfl
  unfold validateIds
  simp only [h1]
  rw [List.filter_eq_self]
  intro r _
  have : dupInsertion nS (recs.filterMap (noteId nS)) r = false := not_dup (isInsertionKind r.1) (noteId nS r) _ hp
  rw [this]
  rfl

/-- a deletion that is kept has a score id that no other line with a score note carries -/
theorem validate_deletion_unique (nS : Nat) (recs : List (String × List Val)) (r : String × List Val) (a : Val)
    (hr : r ∈ validateIds nS recs) (hk : isDeletionKind r.1 = true) (ha : scoreId r = some a) :
    countOf a (recs.filterMap scoreId) = 1 := by
  have hm := (validate_mem nS recs r).mp hr
  have hd := hm.2.1
  unfold dupDeletion at hd
  simp only [hk, ha, Bool.true_and, decide_eq_false_iff_not] at hd
  have hin : a ∈ recs.filterMap scoreId := List.mem_filterMap.mpr ⟨r, hm.1, ha⟩
  have hpos : 0 < countOf a (recs.filterMap scoreId) := by
    unfold countOf
    apply List.length_pos_of_mem (a := a)
    simp [List.mem_filter, hin]
  omega

/-- a deletion whose score id also stands in a note pair (or in another deletion) is removed; the note pair stays -/
example : validateIds 2
    [("snote_note", [.str "n1".toList, .int 0, .str "p1".toList]), ("deletion", [.str "n1".toList, .int 0]),
     ("deletion", [.str "n2".toList, .int 0]), ("insertion", [.str "p1".toList]), ("insertion", [.str "p2".toList]),
     ("trill", [.str "n9".toList, .str "p2".toList]), ("sustain", [.int 1, .int 2])]
    = [("snote_note", [.str "n1".toList, .int 0, .str "p1".toList]), ("deletion", [.str "n2".toList, .int 0]),
       ("trill", [.str "n9".toList, .str "p2".toList]), ("sustain", [.int 1, .int 2])] := by decide +kernel

/-- the loader with validation reads the same version and a sub-list of what the loader without it reads -/
theorem loadFileV_spec (ts : List Template) (cs : List Composite) (lines : List Str) (v : Nat × Nat × Nat)
    (recs : List (String × List Val)) (h : loadFile ts cs lines = some (v, recs)) :
    ∃ recs', loadFileV ts cs lines = some (v, recs') ∧ recs'.Sublist recs ∧
      recs'.filter (fun r => !isDeletionKind r.1 && !isInsertionKind r.1) =
        recs.filter (fun r => !isDeletionKind r.1 && !isInsertionKind r.1) := by
  unfold loadFileV
  rw [h]
  exact ⟨_, rfl, validate_sublist _ _, validate_keeps_others _ _⟩

/-- with distinct score-note ids and distinct performed-note ids the loader with validation returns exactly the
    parsed lines (composes with `loadFile_written`, Props/C07Dispatch.lean, to the whole `load_matchfile`) -/
theorem loadFileV_distinct (ts : List Template) (cs : List Composite) (lines : List Str) (v : Nat × Nat × Nat)
    (recs : List (String × List Val)) (h : loadFile ts cs lines = some (v, recs))
    (hs : ∀ a, countOf a (recs.filterMap scoreId) ≤ 1)
    (hp : ∀ nS a, countOf a (recs.filterMap (noteId nS)) ≤ 1) :
    loadFileV ts cs lines = some (v, recs) := by
  unfold loadFileV
  rw [h]
  simp only [Option.map_some, validate_distinct _ recs hs (hp _)]

end C07
