/-
C10 — "every part": an edited part answers like a fresh build of what is on its timeline, for ALL SIX maps,
also when the quarter-duration table carries redundant entries that a fresh build does not reproduce.

`rebuild_same_maps` (Props/C10Hist.lean) leaves one side condition for the three measure maps: the fresh build
measures the same `divs_per_beat`.  Here it is discharged on the domain where the property says what the pickup rule
does (`DescribedStart`, Props/C10Start.lean: first signature and quarter duration at 0, nothing changing inside the
first beat, a timeline of at least one beat): there `divs_per_beat` is a function of the first signature and the first
quarter duration alone (`divs_per_beat_described`), the fresh build starts in the same way (`rebuild_described_start`:
its quarter-duration table keeps the entry at 0 and holds nothing but entries of the old table), hence
**`rebuild_same_maps_described`**: all six maps of the fresh build are the maps of the edited part - for every history.
-/
import PartituraModel.Props.C10Hist
import PartituraModel.Props.C10Start

namespace C10
open Model Model.StepMap

theorem beatMode_congr (P R : PartD) (emu : R.musical = P.musical) :
    TimeMap.beatMode (timePart R) = TimeMap.beatMode (timePart P) := by
  unfold TimeMap.beatMode timePart
  simp only [emu]

/-- `DescribedStart` survives dropping later entries of the quarter-duration table: nothing else of it mentions the table -/
theorem describedStart_sub_qd (p : PartD) (l : Int) (s0 : TimeMap.TSig) (rest : List TimeMap.TSig) (q0 : Nat)
    (qrest qrest' : List (Int × Nat)) (H : DescribedStart p l s0 rest q0 qrest) (hsub : ∀ e ∈ qrest', e ∈ qrest) :
    DescribedStart { p with qd := (0, q0) :: qrest' } l s0 rest q0 qrest' := by
  have hq : ∀ e ∈ (0, q0) :: qrest', e ∈ p.qd := fun e he => by
    rw [H.qd]
    rcases List.mem_cons.mp he with h | h
    · exact h ▸ List.mem_cons_self
    · exact List.mem_cons_of_mem _ (hsub e h)
  exact ⟨H.span, ⟨H.wf.1, H.wf.2.1, fun e he => H.wf.2.2.1 e (hq e he), H.wf.2.2.2⟩, H.ts, H.s0t, H.later, rfl,
    fun e he => H.qlater e (hsub e he), H.beat_le_last, H.beat_le_ts, fun e he => H.beat_le_qd e (hsub e he)⟩

/-- **`rebuild_described_start`**: when the part a history left starts simply, so does its fresh build -/
theorem rebuild_described_start (s : HPart) (l : Int) (s0 : TimeMap.TSig) (rest : List TimeMap.TSig) (q0 : Nat)
    (qrest : List (Int × Nat)) (H : DescribedStart (describe s).part l s0 rest q0 qrest) :
    ∃ qrest', DescribedStart (describe (hpRun q0 (rebuildOps (describe s)))).part l s0 rest q0 qrest' := by
  -- the replayed quarter durations keep the entry at 0 and hold nothing but entries of the old table
  obtain ⟨qrest', hrep, hsub⟩ := replayQD_head q0 qrest [] H.qlater
  refine ⟨qrest', ?_⟩
  rw [rebuild_describe, rebuild_qd_replay s q0 qrest ((describe_qd s).symm.trans H.qd), hrep]
  exact describedStart_sub_qd _ l s0 rest q0 qrest qrest' H fun e he => (hsub e he).resolve_left nofun

/-- **`rebuild_same_maps_described`**: for the part ANY history leaves - redundant quarter-duration entries or not -
    that starts simply, all six maps of a fresh build of what is on the timeline are the maps of the edited part -/
theorem rebuild_same_maps_described (s : HPart) (l : Int) (s0 : TimeMap.TSig) (rest : List TimeMap.TSig) (q0 : Nat)
    (qrest : List (Int × Nat)) (H : DescribedStart (describe s).part l s0 rest q0 qrest) (x : Int) :
    tsMapE (describe (hpRun q0 (rebuildOps (describe s)))).part.span
        (describe (hpRun q0 (rebuildOps (describe s)))).part.ts x
      = tsMapE (describe s).part.span (describe s).part.ts x ∧
    ksMap (describe (hpRun q0 (rebuildOps (describe s)))).part.span
        (describe (hpRun q0 (rebuildOps (describe s)))).kss x
      = ksMap (describe s).part.span (describe s).kss x ∧
    clefMap (describe (hpRun q0 (rebuildOps (describe s)))).part.span
        (describe (hpRun q0 (rebuildOps (describe s)))).clefs
        (otherStaffs (describe (hpRun q0 (rebuildOps (describe s)))).others) x
      = clefMap (describe s).part.span (describe s).clefs (otherStaffs (describe s).others) x ∧
    measureMapP (describe (hpRun q0 (rebuildOps (describe s)))).part x = measureMapP (describe s).part x ∧
    measureNumberMapP (describe (hpRun q0 (rebuildOps (describe s)))).part x
      = measureNumberMapP (describe s).part x ∧
    metricalMapP (describe (hpRun q0 (rebuildOps (describe s)))).part x = metricalMapP (describe s).part x := by
  obtain ⟨qrest', H'⟩ := rebuild_described_start s l s0 rest q0 qrest H
  have hd : divsPerBeat (describe (hpRun q0 (rebuildOps (describe s)))).part = divsPerBeat (describe s).part := by
    rw [divs_per_beat_described _ l s0 rest q0 qrest' H', divs_per_beat_described _ l s0 rest q0 qrest H,
      beatMode_congr (describe s).part _ (rebuild_same_tables q0 s).2.2.2.2.2.1]
  obtain ⟨h1, h2, h3, h4⟩ := rebuild_same_maps q0 s x
  obtain ⟨h5, h6, h7⟩ := h4 hd
  exact ⟨h1, h2, h3, h5, h6, h7⟩

/-- non-vacuity: 3/4 at 4 divisions, a pickup of 4 and two bars; the quarter duration at 16 is set to 8 and back to
    4 (a redundant entry the fresh build drops), a measure is removed and re-added -/
def exFresh : List HistOp :=
  [.new 0 0 (.ts 3 4) none, .new 1 0 (.measure 4 (some 0)) none, .new 2 4 (.measure 16 (some 1)) none,
   .new 3 16 (.measure 28 (some 2)) none, .setQD 16 8, .query, .setQD 16 4, .remove 2, .readd 2]

example : (hpRun 4 exFresh).qd = [(0, 4), (16, 4)]
    ∧ (hpRun 4 (rebuildOps (describe (hpRun 4 exFresh)))).qd = [(0, 4)]
    ∧ DescribedStart (describe (hpRun 4 exFresh)).part 28 ⟨0, 3, 4, 3⟩ [] 4 [(16, 4)]
    ∧ measureMapP (describe (hpRun 4 exFresh)).part 2 = some (some (-8, 4)) := by
  refine ⟨by decide, by decide,
    ⟨by decide, by decide, by decide, rfl, by decide, by decide, by decide, by decide +kernel, by decide +kernel,
     by decide +kernel⟩, by decide +kernel⟩

end C10
