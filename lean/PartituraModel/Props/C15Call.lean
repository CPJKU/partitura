/-
C15 - the call `merge_parts(parts, reassign="voice")` as a whole (model: Model/MergeCall.lean, tables
Gen/C15Call.lean regenerated from the live sources of `merge_parts`, `iter_parts` and `load_score_as_part`).

  * the parts of the argument are told apart by the IDENTITY of the Part objects (`pid`) - not by their `id`
    attribute, not by their contents: a part that is reachable twice is one input (fixes/C15-11), different parts that
    carry the same id or the same contents are different inputs
  * the order of the checks: validation of `reassign`, flattening, de-duplication, single part returned as is
    (whatever its divisions), the divisions checks, everything else
`mergeCall r a` refines `mergeArg` / `merge` of Model/Merge.lean (`call_agrees`): every statement of Props/C15.lean,
C15Ext.lean and C15Hist.lean about `mergeParts m ps` applies to a successful call with `ps = distinctParts` of the
flattened argument.
-/
import PartituraModel.Proofs.C15Call
import PartituraModel.Props.C15
import PartituraModel.Props.C15Hist

namespace C15
open Model.Merge

/-- The literal facts the model copies from the sources are those of the live sources: the second parameter is called
`reassign` and defaults to "voice"; a Score argument is read through `.parts`; `load_score_as_part` calls
`merge_parts(<score>.parts)` with one positional argument and nothing for `reassign`; `iter_parts` iterates over lists,
tuples and sets, yields `Part` instances and asks anything else for `.children` (nothing else). -/
theorem call_source :
    Gen.C15.callOk = true ∧ Gen.C15.reassignParam = "reassign" ∧ Gen.C15.reassignDefault = "voice"
      ∧ Gen.C15.scoreArgAttr = "parts"
      ∧ Gen.C15.loadPositional = 1 ∧ Gen.C15.loadReassign = none ∧ Gen.C15.loadArgAttr = "parts"
      ∧ Gen.C15.iterLeaf = ["Part"] ∧ Gen.C15.iterChildAttrs = ["children"]
      ∧ (∀ s, s ∈ Gen.C15.iterContainers ↔ s ∈ ["list", "tuple", "set"]) :=
  ⟨rfl, rfl, rfl, rfl, rfl, rfl, rfl, rfl, rfl, mem_iff_of_subset (by decide +kernel)⟩

/-- the accepted values of `reassign` (the list of the `not in` test of the source) are exactly the values one of
the branches of the code handles -/
theorem values_are_modes (r : String) : r ∈ Gen.C15.reassignValues ↔ (modeOf r).isSome = true := by
  rw [← List.contains_iff_mem, contains_eq_isSome]

/-- Any other value of `reassign` is rejected (ValueError) - whatever the argument is: several parts, a single part
(which is NOT returned), nothing, or something that could not be flattened. -/
theorem reassign_checked_first (r : String) (hr : r ∉ Gen.C15.reassignValues) (a : XArg) :
    mergeCall (some r) a = .error .reassign := by
  have : Gen.C15.reassignValues.contains r = false := by
    rw [← Bool.not_eq_true, List.contains_iff_mem]; exact hr
  simp only [mergeCall, Option.getD_some, this, Bool.not_false, if_true]

/-- `reassign` left out is `reassign="voice"` -/
theorem default_reassign (a : XArg) : mergeCall none a = mergeCall (some "voice") a := rfl

example : mergeCall (some "both") (.plain (.one (.part exA))) = .error .reassign
    ∧ mergeCall (some "Voice") (.plain (.many [])) = .error .reassign
    ∧ mergeCall (some "") (.plain (.one .other)) = .error .reassign := by decide +kernel

/-- A call with an accepted `reassign` on an argument made of parts and groups (or a Score with its history)
succeeds exactly when `mergeArg` of Model/Merge.lean does, with the same result. -/
theorem call_agrees (r : String) (m : Mode) (hm : modeOf r = some m) (a : Arg) :
    (mergeCall (some r) a.toX).toOption = mergeArg m a := by
  rw [mergeCall_of_mode hm, mergeArg, ← xargParts_toX]
  cases xargParts a.toX with
  | error e => rfl
  | ok parts => exact mergeChecked_toOption m parts

theorem call_agrees_plain (r : String) (m : Mode) (hm : modeOf r = some m) (s : Shape) :
    (mergeCall (some r) (.plain s.toX)).toOption = merge m s := by
  have := call_agrees r m hm (.plain s)
  simpa [Arg.toX, mergeArg, argParts, merge] using this

/-- `load_score_as_part(file)` is the call `merge_parts(score.parts)` with `reassign` left out: the voice-mode merge
of the parts of the loaded score -/
theorem load_is_default_call (s : Shape) : (loadCall s).toOption = loadScoreAsPart s := by
  have hm : modeOf "voice" = some .voice := rfl
  show (mergeCall none _).toOption = _
  rw [default_reassign, mergeCall_of_mode hm]
  simp only [xargParts, xiterParts, xflattenList_parts, mkScore_parts]
  exact mergeChecked_toOption .voice (iterParts s)

/-- An object that is neither a Part nor has `.children` - `None`, a nested list or tuple, a Score inside a list, a
string - makes the call raise (AttributeError), wherever it stands in the list and however many parts are listed
besides it; so does a group that holds one, at any depth (`hbad` may be the same statement about a group). -/
theorem bad_object_rejected (r : String) (hr : r ∈ Gen.C15.reassignValues) (ts : List XTree) (t : XTree)
    (ht : t ∈ ts) (hbad : xflattenTree t = none) :
    mergeCall (some r) (.plain (.many ts)) = .error .argument
      ∧ mergeCall (some r) (.plain (.one (.group ts))) = .error .argument := by
  obtain ⟨m, hm⟩ := Option.isSome_iff_exists.mp ((values_are_modes r).mp hr)
  rw [mergeCall_of_mode hm, mergeCall_of_mode hm]
  simp [xargParts, xiterParts, xflattenTree, xflattenList_none_of_mem ht hbad, Except.bind]

theorem other_not_flattened : xflattenTree .other = none
    ∧ ∀ ts t, t ∈ ts → xflattenTree t = none → xflattenTree (.group ts) = none :=
  ⟨rfl, fun ts t ht hbad => by simp [xflattenTree, xflattenList_none_of_mem ht hbad]⟩

example : mergeCall (some "voice") (.plain (.many [.part exA, .group [.group [.other]], .part exB])) = .error .argument
    ∧ mergeCall (some "auto") (.plain (.one .other)) = .error .argument := by decide +kernel

/-- A single Part object - reachable once or several times - is returned as is before its divisions are looked at:
also a part with several divisions values (which reaches the model with `divs = 0`). -/
theorem single_before_divisions (r : String) (m : Mode) (hm : modeOf r = some m) (a : XArg) (parts : List APart)
    (ha : xargParts a = .ok parts) (p : APart) (h1 : distinctParts parts = [p]) :
    mergeCall (some r) a = .ok (.same p) := by
  rw [mergeCall_of_mode hm, ha]
  exact mergeChecked_single h1

/-- Two or more different parts one of which has not exactly one integer divisions value are rejected with the
divisions error - before voices, staves or anything else of the parts is looked at. -/
theorem divisions_before_rest (r : String) (m : Mode) (hm : modeOf r = some m) (a : XArg) (parts : List APart)
    (ha : xargParts a = .ok parts) (h2 : 2 ≤ (distinctParts parts).length) (q : APart)
    (hq : q ∈ distinctParts parts) (h0 : q.divs = 0) :
    mergeCall (some r) a = .error .divisions := by
  have hall : ((distinctParts parts).all fun p => 0 < p.divs) = false :=
    List.all_eq_false.mpr ⟨q, hq, by simp [h0]⟩
  rw [mergeCall_of_mode hm, ha]
  show mergeChecked m parts = _
  rw [mergeChecked_many h2, hall]; rfl

/-- Two or more different parts with one positive divisions value each, whose notes carry a voice: the call succeeds
in every mode, for every form of the argument, with the least common multiple as divisions. -/
theorem call_total (r : String) (m : Mode) (hm : modeOf r = some m) (a : XArg) (parts : List APart)
    (ha : xargParts a = .ok parts) (h2 : 2 ≤ (distinctParts parts).length)
    (hpos : ∀ p ∈ distinctParts parts, 0 < p.divs) (hv : voicesGiven (distinctParts parts) = true) :
    ∃ es, mergeCall (some r) a = .ok (.merged (lcmList ((distinctParts parts).map (·.divs))) es)
      ∧ mergeParts m (distinctParts parts) = some (.merged (lcmList ((distinctParts parts).map (·.divs))) es) := by
  obtain ⟨es, hes⟩ := merge_total m (distinctParts parts) h2 hpos hv
  refine ⟨es, ?_, hes⟩
  have hall : ((distinctParts parts).all fun p => 0 < p.divs) = true :=
    List.all_eq_true.mpr fun p hp => decide_eq_true (hpos p hp)
  rw [mergeCall_of_mode hm, ha]
  show mergeChecked m parts = _
  rw [mergeChecked_many h2, hall, hes]; rfl

/-- What `merge_parts` merges: the different Part objects of the flattened argument - each once, at its first
position, nothing invented, nothing that is listed left out - and exactly the flattened argument itself when no
part is listed twice (the usual case), whatever `id` attributes and contents the parts have. -/
theorem distinct_parts_spec (ps : List APart) :
    (distinctParts ps).Sublist ps ∧ ((distinctParts ps).map (·.pid)).Nodup
      ∧ (∀ k, k ∈ (distinctParts ps).map (·.pid) ↔ k ∈ ps.map (·.pid))
      ∧ ((ps.map (·.pid)).Nodup → distinctParts ps = ps)
      ∧ distinctParts (distinctParts ps) = distinctParts ps
      ∧ (SameObject ps → ∀ p ∈ ps, p ∈ distinctParts ps) :=
  ⟨distinctParts_sublist ps, distinctParts_nodup ps, pid_mem_distinctParts ps, distinctParts_of_nodup,
    distinctParts_idem ps, fun hc _ hp => mem_distinctParts hc hp⟩

/-- Different Part objects are never merged away - however equal they are: with every part listed once, the call
merges the flattened argument as it is (`merge` is `mergeParts` of `iterParts`), so the statements of Props/C15.lean
hold for every listed part, also for parts that carry the same `id` or the same contents. -/
theorem equal_parts_stay_apart (m : Mode) (s : Shape) (h : ((iterParts s).map (·.pid)).Nodup) :
    merge m s = mergeParts m (iterParts s) := by
  rw [merge, distinctParts_of_nodup h]

/-- Listing a Part object again - anywhere after its first occurrence, on its own or inside a group - changes
nothing: it is one input. -/
theorem listed_twice_once (m : Mode) (l r : List Tree) (t : Tree) (p : APart) (hp : p ∈ flattenList l)
    (ht : flattenTree t = [p]) :
    merge m (.many (l ++ [t] ++ r)) = merge m (.many (l ++ r)) := by
  simp only [merge, iterParts, flattenList_append]
  have : flattenList [t] = [p] := by simp [flattenList, ht]
  rw [this, distinctParts_relisted _ _ p ⟨p, hp, rfl⟩]

/-- the structural elements come from the first LISTED part: de-duplication keeps the head of the list -/
theorem first_part_is_first_listed (p : APart) (ps : List APart) : (distinctParts (p :: ps))[0]? = some p :=
  rfl

/-- two copies of part D - equal id, equal contents, another object - are two inputs: both notes are in the merged
part, in different voices; D listed twice (on its own and inside nested groups) is D -/
def exD' : APart := { exD with pid := 9, elems := exD.elems.map fun e => { e with oid := e.oid + 100 } }

example : exD'.name = exD.name ∧ exD'.divs = exD.divs ∧ exD'.elems.map (·.pitch) = exD.elems.map (·.pitch)
    ∧ distinctParts [exD, exD'] = [exD, exD']
    ∧ outcome (merge .voice (.many [.part exD, .part exD']))
        = some (2, [(30, some 1, some 1), (130, some 2, some 1)]) := by decide +kernel

example : distinctParts (iterParts (.many [.part exD, .group [.group [.part exD]], .part exD])) = [exD]
    ∧ outcome (merge .voice (.many [.part exA, .part exD, .group [.part exA]]))
        = outcome (merge .voice (.many [.part exA, .part exD])) := ⟨rfl, rfl⟩

/-- hypotheses of `listed_twice_once`, `single_before_divisions`, `divisions_before_rest`, `call_total` at
non-trivial values -/
example : exA ∈ flattenList [.group [.part exB, .part exA]] ∧ flattenTree (.group [.group [.part exA]]) = [exA] :=
  ⟨List.mem_cons_of_mem _ List.mem_cons_self, rfl⟩
example : xargParts (.plain (.many [.part { exB with divs := divsOf [4, 8] }])) = .ok [{ exB with divs := 0 }] :=
  rfl
example : mergeCall (some "staff") (.plain (.many [.part { exB with divs := divsOf [4, 8] }]))
    = .ok (.same { exB with divs := 0 }) :=
  single_before_divisions "staff" .staff rfl _ _ rfl _ rfl
example : mergeCall (some "staff") (.plain (.many [.part exA, .part { exB with divs := divsOf [4, 8] }]))
    = .error .divisions :=
  divisions_before_rest "staff" .staff rfl _ _ rfl (Nat.le_refl 2) _ (List.mem_cons_of_mem _ List.mem_cons_self) rfl
example : outcome (mergeCall none (.plain (.many [.part exA, .part exB]))).toOption
    = outcome (mergeParts .voice [exA, exB]) :=
  congrArg outcome (call_agrees_plain "voice" .voice rfl (.many [.part exA, .part exB]))

end C15
