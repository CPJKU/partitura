/-
C02 — the statement for the maps AS WRITTEN without the side condition `tolInactiveB`.

`fwdS = fwd` / `invS = inv` (the interpolation stack as written against the recursive maps of the theorems) need
the hypothesis that the first measure is not within `numpy.isclose` of a full bar for ONE clause only, the place
of zero: when the guard bites the code subtracts nothing, i.e. it behaves exactly like the same part without a
first measure.  `effective p m` (Props/C02Scipy.lean) is that part; the maps as written of `p` ARE the recursive
maps of `effective p m` (`fwdS_eq_effective`, `invS_eq_effective`), which has the same key points, the same extent
and is well formed when `p` is.  Hence every clause that does not speak about the place of zero — exactness of
every stretch, monotonicity, continuity, the round trip, the domain, NaN outside — holds for the code as written
on EVERY reachable part (`property_as_written_unconditional`), and the place of zero is characterised in both
cases (`origin_as_written`).
-/
import PartituraModel.Props.C02Scipy

namespace C02
open Model.TimeMap C02Proofs

/-- **the inverse map as written at the two ends of the image and outside it**, no tolerance hypothesis: at the
forward values of the first and the last key point it returns these key points, outside the image it is NaN -/
theorem inv_as_written_at_ends (p : Part) (m : Mode) (h : WF p m) (t0 : Int) (hk : (keyTimes p m).head? = some t0) :
    ∃ y0 y1, fwdS p m (t0 : Rat) = some y0 ∧ fwdS p m ((lastOf (keyTimes p m) : Int) : Rat) = some y1 ∧
      invS p m y0 = some (t0 : Rat) ∧ invS p m y1 = some ((lastOf (keyTimes p m) : Int) : Rat) ∧
      ∀ y, (y < y0 ∨ y1 < y) → invS p m y = none := by
  obtain ⟨p', hw, hf, hi, -, hkt, -, -⟩ := as_written p m h
  simp only [hf, hi, ← hkt]
  exact inv_at_ends p' m hw t0 (by rw [hkt]; exact hk)

/-- **exactness inside a stretch and continuity across a change point, as written**: between any two positions
of one key-point stretch `[k, k']` the map as written advances by `(b - a) × factor / divisions` of that stretch —
in particular up to and including the change point `k'`, where the next stretch takes over with the same value -/
theorem stretch_exact_as_written (p : Part) (m : Mode) (h : WF p m) (pre post : List KP) (k k' : KP)
    (hk : keypoints p m = pre ++ k :: k' :: post) (a b : Rat) (h0 : (k.t : Rat) ≤ a) (hab : a ≤ b)
    (h1 : b ≤ (k'.t : Rat)) :
    ∃ ya yb, fwdS p m a = some ya ∧ fwdS p m b = some yb ∧ yb - ya = (b - a) * (k.fac / k.divs) := by
  obtain ⟨p', hw, hf, -, hkp, -, -, -⟩ := as_written p m h
  simp only [hf]
  exact stretch_exact p' m hw pre post k k' (hkp.trans hk) a b h0 hab h1

/-- **the place of zero, as written.**  Let `t0` be the first key point.  Where the tolerance guard does not bite
the maps as written are the maps of the origin theorems (`zero_plain`, `zero_pickup`, `origin_zero_iff_*` apply
verbatim); where it bites — the first measure is shorter than a bar, but by no more than `atol + rtol * bar` —
the code treats the measure as a full bar: zero lies at the first key point and nowhere else. -/
theorem origin_as_written (p : Part) (m : Mode) (h : WF p m) (t0 : Int)
    (hk : (keyTimes p m).head? = some t0) :
    (tolInactiveB p m = true → ∀ x, fwdS p m x = fwd p m x) ∧
    (tolInactiveB p m = false → ∀ z, fwdS p m z = some 0 ↔ z = (t0 : Rat)) := by
  refine ⟨fun ht x => fwdS_eq_fwd p m h ht x, ?_⟩
  intro ht z
  have hne : ¬ tolInactiveB p m = true := by rw [ht]; simp
  have he : effective p m = { p with m1 := none } := by unfold effective; rw [if_neg hne]
  have hw := effective_wf p m h
  have hk' : (keyTimes (effective p m) m).head? = some t0 := by rw [(effective_same p m).2.1]; exact hk
  have hno : pickupShift (effective p m) m (knots (keypoints (effective p m) m) 0) = 0 := by
    rw [he]; rfl
  rw [fwdS_eq_effective p m h]
  exact zero_plain (effective p m) m hw t0 hk' hno z

/-- non-vacuity of the second case: the part of `tolerance_bites_at_huge_divisions` -/
example : tolInactiveB nearBar .quarter = false ∧ fwdS nearBar .quarter 0 = some 0 ∧
    (effective nearBar .quarter).m1 = none ∧ effective exPart .notated = exPart := by
  refine ⟨by decide +kernel, by decide +kernel, by decide +kernel, ?_⟩
  unfold effective
  rw [if_pos (by decide +kernel)]

/-! ### the statement for every reachable part, no tolerance hypothesis -/

/-- **C02 for the code as written, every reachable part.**  Take any part built through the API
(`Part(quarter_duration=q0)`, then any valid history of `set_quarter_duration` / `add` / musical-beat switches /
queries).  For the maps as the code computes them (wrapper, scipy's sort, `np.interp`, pickup guard, NaN fill):
0. with fewer than two time points the forward maps are 0 and the inverse maps return the only time point (0 for
   an empty part);
with two or more time points, WHATEVER the length of the first measure:
1. between any two positions the map advances by exactly the sum over the stretches between key points of
   length × factor / quarter duration in force (`elapsed`); it is non-decreasing and strictly increasing;
2. `inv(fwd(x)) = x` at every position from the first to the last time point (ends included);
3. the map is a number exactly from time 0 to the last key point and NaN elsewhere; NaN and ±inf give NaN;
4. `quarter_duration_map` returns, at every time ≥ 0, the value of the last recorded call among those with the
   greatest time at or before it, and before time 0 the value it returns at time 0;
5. zero lies where `origin_as_written` says: with the guard inactive at the place the origin theorems give for
   `fwd`, otherwise at time 0 only. -/
theorem property_as_written_unconditional (q0 : Nat) (hq : 0 < q0) (hs : List HOp) (hv : ∀ op ∈ hs, ValidOp op)
    (m : Mode) :
    ((buildPart q0 hs).npoints < 2 → ∀ x, fwdS (buildPart q0 hs) m x = some 0 ∧
        invS (buildPart q0 hs) m x =
          some (if (buildPart q0 hs).npoints = 1 then ((buildPart q0 hs).first : Rat) else 0)) ∧
    (2 ≤ (buildPart q0 hs).npoints →
      (∀ a b ya yb, a ≤ b → fwdS (buildPart q0 hs) m a = some ya → fwdS (buildPart q0 hs) m b = some yb →
          yb - ya = elapsed (keypoints (buildPart q0 hs) m) a b ∧ ya ≤ yb ∧ (a < b → ya < yb)) ∧
      (∀ x, ((buildPart q0 hs).first : Rat) ≤ x → x ≤ ((buildPart q0 hs).last : Rat) →
          roundTripS (buildPart q0 hs) m x = some x) ∧
      (∀ x, (∃ y, fwdS (buildPart q0 hs) m x = some y) ↔
          (0 : Rat) ≤ x ∧ x ≤ ((lastOf (keyTimes (buildPart q0 hs) m) : Int) : Rat)) ∧
      (tolInactiveB (buildPart q0 hs) m = false → ∀ z, fwdS (buildPart q0 hs) m z = some 0 ↔ z = 0)) ∧
    (∀ x, 0 ≤ x → qdMapS (buildPart q0 hs).qd x =
        Option.map (fun (n : Nat) => (n : Rat)) (inForce (recorded q0 (qdCalls hs)) x)) ∧
    (∀ x, x < 0 → qdMapS (buildPart q0 hs).qd x = qdMapS (buildPart q0 hs).qd 0) := by
  refine ⟨?_, ?_, ?_, ?_⟩
  · intro h2 x
    unfold fwdS invS
    simp [h2]
  · intro h2
    obtain ⟨h3, h4, h5⟩ := built_as_written q0 hq hs hv m h2
    refine ⟨h3, h4, h5, fun ht z => ?_⟩
    have := (origin_as_written _ m (built_part_wf q0 hq hs hv m h2) 0 (built_first_key_zero q0 hq hs hv m)).2 ht z
    simpa using this
  · intro x hx
    rw [built_qdMapS q0 hq hs hv, built_qd_represents q0 hs hv x hx]
  · -- before time 0 and at time 0 alike every later change lies ahead: the first value
    intro x hx
    obtain ⟨a, r, hqd⟩ : ∃ a r, (buildPart q0 hs).qd = (0, a) :: r := (inv_reachable q0 hq hs hv).qd_head
    have hp := (built_qd q0 hq hs hv).2.1
    rw [hqd] at hp
    have hpos : ∀ e ∈ r, (0 : Rat) < (e.1 : Rat) := fun e he =>
      Int.cast_pos.mpr ((List.pairwise_cons.mp hp).1 e.1 (List.mem_map_of_mem he))
    rw [built_qdMapS q0 hq hs hv, built_qdMapS q0 hq hs hv, hqd,
      qdMap_before (0, a) r x fun e he => hx.trans (hpos e he), qdMap_before (0, a) r 0 hpos]

end C02
