/-
C07 — whole lines, every generated template: lines whose fields depend on each other (the value codec
of info / meta / scoreprop is chosen by the Attribute; NoteName / Modifier / Octave of a score note or a
pre-1.0 performed note are post-processed together), and composite lines with a STRUCTURAL condition
(decided for the whole generated table) replacing the per-line `noEarly` check.
Helper lemmas: Proofs/C07Line.lean, C07Pitch.lean, C07Comp.lean, C07Early.lean.
-/
import PartituraModel.Model.MatchLine
import PartituraModel.Gen.MatchTemplates
import PartituraModel.Proofs.C07Pitch
import PartituraModel.Proofs.C07Comp
import PartituraModel.Proofs.C07Early
import PartituraModel.Props.C07
import PartituraModel.Props.C07Codecs

namespace C07
open Model Model.Template Model.MatchCodec Model.MatchLine C07Line C07Comp

/-- the dependencies between the fields of a template are the modelled ones (decidable): either no codec
    depends on the Attribute, or there is no post-processing and `Attribute` is a plain string field -/
def DepsOK (t : Template) : Prop := depsOK t = true

/-- every generated template has only the modelled dependencies -/
theorem deps_ok : ∀ t ∈ Gen.matchTemplates, DepsOK t := by
  unfold DepsOK
  decide +kernel

/-- **parse (format x) = x, and formatting is a fixpoint, for EVERY well-formed template** - the
    dependencies between fields stated explicitly:

    * the codec of a field is `codecFor t attr f`: the field table's own pair, or - for the Value of an
      info / meta / scoreprop line - the pair the class's table lists under the line's Attribute
      (`attr = attrOf t vals` when writing, the text of the Attribute group when reading; `DepsOK` makes
      the two agree);
    * `raws` are the values the interpreters return and `applyPost t raws = vals` is the class's
      post-processing (`ensure_pitch_spelling_format` on NoteName / Modifier / Octave and, for a pre-1.0
      performed note, the MIDI pitch computation; the identity for all other lines).

    If every value is written to a text its selected interpreter reads back as the raw value (`RTA`), the
    texts satisfy the side condition `FieldsOKGen` for what follows the line (`tail`), and no anchored
    match starts in what precedes it (`pre`, empty for a line of its own), then the line is written, the
    search over `pre ++ line ++ tail` returns `vals`, and writing those again gives the identical text. -/
theorem line_roundtrip (t : Template) (vals raws : List Val) (es : List (String × Str)) (pre tail : List Char)
    (ht : TemplateOK t) (hd : DepsOK t)
    (hrt : RTA t (attrOf t vals) t.fields vals raws es) (hpost : applyPost t raws = .ok vals)
    (hv : FieldsOKGen t (textOf es) tail)
    (hpre : noEarly t.pat pre (render t.out (textOf es) ++ tail) = true) :
    ∃ line, formatT t vals = some line ∧ parseT t (pre ++ (line ++ tail)) = .ok vals ∧
      ((parseT t (pre ++ (line ++ tail))).toOption.bind (formatT t)) = some line := by
  obtain ⟨h1, h2⟩ := line_roundtrip_gen t vals raws es pre tail ht hd hrt hpost hv hpre
  exact ⟨_, h1, h2, by rw [h2]; exact h1⟩

/-- the same for the generated table (well-formedness and dependencies discharged by `templates_ok`,
    `deps_ok`), for a line of its own followed by arbitrary text -/
theorem line_roundtrip_generated (t : Template) (hmem : t ∈ Gen.matchTemplates) (vals raws : List Val)
    (es : List (String × Str)) (tail : List Char)
    (hrt : RTA t (attrOf t vals) t.fields vals raws es) (hpost : applyPost t raws = .ok vals)
    (hv : FieldsOKGen t (textOf es) tail) :
    ∃ line, formatT t vals = some line ∧ parseT t (line ++ tail) = .ok vals ∧
      ((parseT t (line ++ tail)).toOption.bind (formatT t)) = some line := by
  have := line_roundtrip t vals raws es [] tail (templates_ok t hmem) (deps_ok t hmem) hrt hpost hv (noEarly_nil _ _)
  simpa using this

instance (t : Template) (v : String → List Char) (tail : List Char) : Decidable (FieldsOKGen t v tail) :=
  inferInstanceAs (Decidable (_ = true))

-- non-vacuity (Attribute-dependent codec): a 1.0.0 key signature line and a 0.5.0 info line
def exKeyVals : List Val := [.str "keySignature".toList, .key ⟨⟨-2, .minor, none⟩, []⟩, .int 3, .int 1,
  .frac ⟨1, 8, none, none⟩, .dec (5 / 2)]
def exKeyTexts : List (String × Str) := [("Attribute", "keySignature".toList), ("Value", "Gm".toList),
  ("Measure", "3".toList), ("Beat", "1".toList), ("Offset", "1/8".toList), ("TimeInBeats", "2.5000".toList)]

example : ∃ t ∈ Gen.matchTemplates, t.name = "v1.0.0/scoreprop" ∧
    rtaB t (attrOf t exKeyVals) t.fields exKeyVals exKeyVals exKeyTexts = true ∧
    (match applyPost t exKeyVals with | .ok v => v == exKeyVals | .error _ => false) = true ∧
    FieldsOKGen t (textOf exKeyTexts) [] ∧
    formatT t exKeyVals = some "scoreprop(keySignature,Gm,3:1,1/8,2.5000).".toList := by
  -- the literal as a character list: see the remark at the first example of Props/C07.lean
  rw [String.toList_ofList]
  decide +kernel

def exTsVals : List Val := [.str "timeSignature".toList, .tsig ⟨6, 8, []⟩]
def exTsTexts : List (String × Str) := [("Attribute", "timeSignature".toList), ("Value", "[6/8]".toList)]

example : ∃ t ∈ Gen.matchTemplates, t.name = "v0.5.0/info" ∧
    rtaB t (attrOf t exTsVals) t.fields exTsVals exTsVals exTsTexts = true ∧ FieldsOKGen t (textOf exTsTexts) [] ∧
    formatT t exTsVals = some "info(timeSignature,[6/8]).".toList := by
  rw [String.toList_ofList]
  decide +kernel

/-- every generated template with pitch post-processing (score note of every version, performed note of
    versions < 1.0.0) has the pitch layout, and for EVERY step (and `R` for a rest in a score note) and
    every accidental (None, -2 … 2) the texts its formatters write are read back as that step and
    accidental by `ensure_pitch_spelling_format`; whole table, by kernel evaluation -/
theorem pitch_ok : ∀ t ∈ Gen.matchTemplates, t.post ≠ Post.none →
    pitchLayout t = true ∧ ∀ step ∈ stepsOf t.post, ∀ alter ∈ alters,
      pitchTextOK t step alter = true ∧ (t.post = Post.pitchSpellingNote → midiOK step alter = true) := by
  decide +kernel

example : (Gen.matchTemplates.filter (fun t => t.post != Post.none)).length = 11 := by decide +kernel

/-- **score notes and pre-1.0 performed notes**: for every generated template with pitch post-processing,
    every step, every accidental and EVERY octave (any integer; None for a rest or an unpitched score
    note), if the other fields are written and read back one by one (`RTP`: the three pitch fields need
    only be written) and the texts satisfy the side condition, the line is written, found behind `pre`,
    interpreted and post-processed to exactly `x, step, alter, octave, rest…`, and written again
    identically -/
theorem pitch_line_roundtrip (t : Template) (hmem : t ∈ Gen.matchTemplates) (hp : t.post ≠ Post.none)
    (v0 : Val) (step : Str) (alter octave : Option Int) (rest : List Val)
    (es : List (String × Str)) (pre tail : List Char)
    (hstep : step ∈ stepsOf t.post) (halter : alter ∈ alters)
    (hoct : t.post = Post.pitchSpellingNote → octave.isSome = true)
    (hrt : RTP t.fields (v0 :: .str step :: optInt alter :: optInt octave :: rest) es)
    (hv : FieldsOKGen t (textOf es) tail)
    (hpre : noEarly t.pat pre (render t.out (textOf es) ++ tail) = true) :
    ∃ line, formatT t (v0 :: .str step :: optInt alter :: optInt octave :: rest) = some line ∧
      parseT t (pre ++ (line ++ tail)) = .ok (v0 :: .str step :: optInt alter :: optInt octave :: rest) ∧
      ((parseT t (pre ++ (line ++ tail))).toOption.bind (formatT t)) = some line := by
  obtain ⟨hl, hall⟩ := pitch_ok t hmem hp
  obtain ⟨htext, hmid⟩ := hall step hstep alter halter
  obtain ⟨h1, h2⟩ := pitch_line t (templates_ok t hmem) hp hl v0 step alter octave rest es pre tail htext
    (fun hn => ⟨hoct hn, hmid hn⟩) hrt hv hpre
  exact ⟨_, h1, h2, by rw [h2]; exact h1⟩

-- non-vacuity: a 0.5.0 score note (C double-flat, octave -1) in front of its performed note
def exSnoteTexts : List (String × Str) := [("Anchor", "1-1".toList), ("NoteName", "C".toList), ("Modifier", "bb".toList),
  ("Octave", "-1".toList), ("Measure", "1".toList), ("Beat", "2".toList), ("Offset", "1/8".toList),
  ("Duration", "1/4/3".toList), ("OnsetInBeats", "0.5".toList), ("OffsetInBeats", "1.25".toList),
  ("ScoreAttributesList", "staff1,s".toList)]

example : ∃ t ∈ Gen.matchTemplates, t.name = "v0.5.0/snote" ∧ t.post ≠ Post.none ∧
    "C".toList ∈ stepsOf t.post ∧ some (-2 : Int) ∈ alters ∧
    FieldsOKGen t (textOf exSnoteTexts) "-note(n1,[C,b],4,100,200,210,60).".toList ∧
    render t.out (textOf exSnoteTexts) = "snote(1-1,[C,bb],-1,1:2,1/8,1/4/3,0.5,1.25,[staff1,s])".toList := by
  rw [String.toList_ofList, String.toList_ofList, String.toList_ofList]
  decide +kernel

/-- every field value is admissible (`Adm`, Props/C07Codecs.lean) for the codec selected for its field -/
def AdmFields (t : Template) (attr : Option Str) : List (String × Enc × Dec) → List Val → Prop
  | [], [] => True
  | f :: fs, v :: vs => (∃ c, codecFor t attr f = some c ∧ Adm c.1 c.2 v) ∧ AdmFields t attr fs vs
  | _, _ => False

private theorem rta_of_adm (t : Template) (attr : Option Str) : ∀ (fs : List (String × Enc × Dec)) (vs : List Val),
    AdmFields t attr fs vs → ∃ es, RTA t attr fs vs vs es := by
  intro fs vs h
  fun_induction AdmFields t attr fs vs with
  | case1 => exact ⟨[], trivial⟩
  | case2 f fs v vs ih =>
    obtain ⟨⟨c, hc, ha⟩, hr⟩ := h
    obtain ⟨text, he, hd⟩ := codec_roundtrip c.1 c.2 v ha
    obtain ⟨es, hes⟩ := ih hr
    exact ⟨(f.1, text) :: es, rfl, ⟨c, hc, he, hd⟩, hes⟩
  | case3 => exact h.elim

/-- **every generated line class without pitch post-processing, every admissible field assignment**
    (info, meta, scoreprop with the codec chosen by the Attribute; section, stime, ptime, the 1.0.0
    performed note, pedal lines, ornament / trill heads): the fields are written to texts `es`, and
    whenever these satisfy the side condition for what follows (and nothing matches early in what
    precedes) the line is written, parsed back to exactly `vals`, and written again identically -/
theorem line_roundtrip_adm (t : Template) (hmem : t ∈ Gen.matchTemplates) (hp : t.post = Post.none) (vals : List Val)
    (hadm : AdmFields t (attrOf t vals) t.fields vals) :
    ∃ es, encodeFields t (attrOf t vals) t.fields vals = some es ∧
      ∀ pre tail, FieldsOKGen t (textOf es) tail → noEarly t.pat pre (render t.out (textOf es) ++ tail) = true →
        ∃ line, formatT t vals = some line ∧ parseT t (pre ++ (line ++ tail)) = .ok vals ∧
          ((parseT t (pre ++ (line ++ tail))).toOption.bind (formatT t)) = some line := by
  obtain ⟨es, hes⟩ := rta_of_adm t _ t.fields vals hadm
  refine ⟨es, encodeFields_of_RTA t _ _ _ _ _ hes, ?_⟩
  intro pre tail hv hpre
  exact line_roundtrip t vals vals es pre tail (templates_ok t hmem) (deps_ok t hmem) hes (applyPost_none t vals hp) hv hpre

/-- **score notes and pre-1.0 performed notes, every admissible field assignment**: for every generated
    template with pitch post-processing, every step / accidental / octave and admissible values of all the
    other fields, the fields are written to texts `es` (`RTP`: each by its own formatter), and whenever these satisfy the side condition the
    line is written, parsed back (search, interpreters, post-processing) to exactly the values, and written
    again identically -/
theorem pitch_line_roundtrip_adm (t : Template) (hmem : t ∈ Gen.matchTemplates) (hp : t.post ≠ Post.none)
    (v0 : Val) (step : Str) (alter octave : Option Int) (rest : List Val)
    (hstep : step ∈ stepsOf t.post) (halter : alter ∈ alters)
    (hoct : t.post = Post.pitchSpellingNote → octave.isSome = true)
    (hadm : match t.fields with
      | f0 :: _ :: _ :: _ :: fr => AdmFields t none (f0 :: fr) (v0 :: rest)
      | _ => False) :
    ∃ es, RTP t.fields (v0 :: .str step :: optInt alter :: optInt octave :: rest) es ∧
     ∀ pre tail, FieldsOKGen t (textOf es) tail → noEarly t.pat pre (render t.out (textOf es) ++ tail) = true →
      ∃ line, formatT t (v0 :: .str step :: optInt alter :: optInt octave :: rest) = some line ∧
        parseT t (pre ++ (line ++ tail)) = .ok (v0 :: .str step :: optInt alter :: optInt octave :: rest) ∧
        ((parseT t (pre ++ (line ++ tail))).toOption.bind (formatT t)) = some line := by
  obtain ⟨hl, hall⟩ := pitch_ok t hmem hp
  obtain ⟨htext, _⟩ := hall step hstep alter halter
  obtain ⟨f0, fN, fM, fO, fr, hf, ⟨-, hp0⟩, ⟨hN, -, -⟩, ⟨hM, -, -⟩, ⟨hO, hOe, -⟩, hr⟩ := pitchLayout_fields t hl
  rw [hf] at hadm
  simp only at hadm
  have hplain : (f0 :: fr).all plainField = true := by
    simp only [List.all_cons, hp0, plain_of_rest hr, Bool.and_self]
  obtain ⟨es0, hes0⟩ := rta_of_adm t none (f0 :: fr) (v0 :: rest) hadm
  have hrtp := rtp_of_rta t none _ _ _ hplain hes0
  obtain ⟨x1, x2, h1, h2, -⟩ := pitchTextOK_spec t step alter hf htext
  cases es0 with
  | nil => simp [RTP] at hrtp
  | cons e0 esr =>
    obtain ⟨hn0, he0, hd0, hrr⟩ := hrtp
    -- the three pitch fields are only written: their texts are read back by the post-processing
    have hrtp' : RTP t.fields (v0 :: .str step :: optInt alter :: optInt octave :: rest)
        (e0 :: (fN.1, x1) :: (fM.1, x2) :: (fO.1, encInt octave) :: esr) := by
      rw [hf]
      refine ⟨hn0, he0, hd0, rfl, h1, Or.inl (by rw [hN]; simp [pitchNames]), rfl, h2,
        Or.inl (by rw [hM]; simp [pitchNames]), rfl, ?_, Or.inl (by rw [hO]; simp [pitchNames]), hrr⟩
      rw [hOe, encode_int_optInt]
    exact ⟨_, hrtp', fun pre tail hv hpre =>
      pitch_line_roundtrip t hmem hp v0 step alter octave rest _ pre tail hstep halter hoct hrtp' hv hpre⟩

-- non-vacuity: the fields of a pedal line are admissible
example : ∃ t ∈ Gen.matchTemplates, t.name = "v0.1.0/sustain" ∧ t.post = Post.none ∧
    AdmFields t (attrOf t [.int 10, .int 64]) t.fields [.int 10, .int 64] :=
  ⟨Gen.matchTemplates[3]'(by decide +kernel), List.getElem_mem _, by decide +kernel, by decide +kernel,
    ⟨⟨(.int, .int), by decide +kernel, trivial⟩, ⟨(.int, .int), by decide +kernel, trivial⟩, trivial⟩⟩

/-- the four shapes of composite lines and their structural check -/
def shapeNames (ts : List Template) (c : Composite) : Option (List String) :=
  match c.parts with
  | [.tpl x, .lit s, .tpl y] =>
    (match findTpl ts x, findTpl ts y with
     | some a, some b => earlyNames (a.out ++ [.lit s]) b
     | _, _ => none)
  | [.tpl x, .tpl y] =>
    (match findTpl ts x, findTpl ts y with
     | some a, some b => earlyNames a.out b
     | _, _ => none)
  | [.tpl x, .lit _] => (findTpl ts x).map fun _ => []
  | [.lit s, .tpl y] => (findTpl ts y).bind fun b => earlyNames [.lit s] b
  | _ => none

/-- **every generated composite line passes the structural check** (whole table, by kernel evaluation):
    it has one of the four shapes component-literal-component, component-component, component-literal,
    literal-component, and in front of its last component no anchored match of that component's pattern
    can start - `note(` inside `snote(` is refuted by the comma count, every other offset by a clash of
    known characters or by the missing `(` -/
theorem composites_struct_ok : ∀ c ∈ Gen.matchComposites, (shapeNames Gen.matchTemplates c).isSome = true := by
  decide +kernel

/-- the fields whose texts must hold no separator, for a note pair of 0.5.0 / 1.0.0 / 0.1.0: the score-note
    fields up to the piece in which the performed note's `)` would have to stand -/
example : (Gen.matchComposites.filter (fun c => c.kind == "snote_note")).map
      (fun c => (c.name, shapeNames Gen.matchTemplates c)) =
    [("v0.1.0/snote_note", some ["Anchor", "NoteName", "Modifier", "Octave", "Measure", "Beat", "Offset", "Duration"]),
     ("v0.2.0/snote_note", some ["Anchor", "NoteName", "Modifier", "Octave", "Measure", "Beat", "Offset", "Duration"]),
     ("v0.3.0/snote_note", some ["Anchor", "NoteName", "Modifier", "Octave", "Measure", "Beat", "Offset", "Duration", "OnsetInBeats"]),
     ("v0.4.0/snote_note", some ["Anchor", "NoteName", "Modifier", "Octave", "Measure", "Beat", "Offset", "Duration", "OnsetInBeats"]),
     ("v0.5.0/snote_note", some ["Anchor", "NoteName", "Modifier", "Octave", "Measure", "Beat", "Offset", "Duration", "OnsetInBeats"]),
     ("v1.0.0/snote_note", some ["Anchor", "NoteName", "Modifier", "Octave", "Measure", "Beat", "Offset", "Duration"])] := by
  decide +kernel

private theorem idents_ok (c : Composite) (hc : c ∈ Gen.matchComposites) :
    c.idents.all (fun i => c.parts.contains (.lit i)) = true := by
  have := composites_ok c hc
  unfold compositeOK at this
  simp only [Bool.and_eq_true] at this
  exact this.2

/-- a component's own round trip, in the form the line theorems (`line_roundtrip`, `pitch_line_roundtrip`)
    deliver it: written as `render t.out v`; found behind any `pre` in which no anchored match starts -/
def CompRT (t : Template) (vals : List Val) (v : String → List Char) (tail : List Char) : Prop :=
  formatT t vals = some (render t.out v) ∧
    ∀ pre, noEarly t.pat pre (render t.out v ++ tail) = true → parseT t (pre ++ (render t.out v ++ tail)) = .ok vals

/-- a component with its own round trip is a part of a composite line wherever nothing matches early in
    front of it -/
private theorem part_of_compRT (t : Template) (n : String) (vals : List Val) (v : String → List Char)
    (pre tail : List Char) (hf : findTpl Gen.matchTemplates n = some t) (h : CompRT t vals v tail)
    (hpre : noEarly t.pat pre (render t.out v ++ tail) = true) :
    PartOK Gen.matchTemplates pre tail (.tpl n) vals (render t.out v) :=
  ⟨t, hf, formatT_length _ _ _ h.1, h.1, h.2 pre hpre⟩

/-- the parts give the composite line and its formatting fixpoint -/
private theorem composite_of_parts (c : Composite) (hc : c ∈ Gen.matchComposites) (vss : List (List Val))
    (xs : List Str) (tail : List Char) (h : PartsOK Gen.matchTemplates [] c.parts vss xs tail) :
    ∃ line, formatC Gen.matchTemplates c vss.flatten = some line ∧
      parseC Gen.matchTemplates c (line ++ tail) = .ok vss.flatten ∧
      ((parseC Gen.matchTemplates c (line ++ tail)).toOption.bind (formatC Gen.matchTemplates c)) = some line := by
  obtain ⟨h1, h2⟩ := composite_ok Gen.matchTemplates c vss xs tail (idents_ok c hc) h
  exact ⟨_, h1, h2, by rw [h2]; exact h1⟩

/-- **component - literal - component** (`snote(…)-note(…).`, `stime(…)-ptime(…).`): the round trips of
    the two components plus the structural check give the round trip of the composite line - the second
    component's search over the whole line cannot stop in front of it when the first component's field
    texts hold no `(` and the walked ones no `,` `)` -/
theorem composite_pair (c : Composite) (hc : c ∈ Gen.matchComposites) (x y sep : String) (a b : Template)
    (names : List String) (hparts : c.parts = [.tpl x, .lit sep, .tpl y])
    (hfa : findTpl Gen.matchTemplates x = some a) (hfb : findTpl Gen.matchTemplates y = some b)
    (hn : earlyNames (a.out ++ [.lit sep]) b = some names)
    (valsA valsB : List Val) (vA vB : String → List Char) (tail : List Char)
    (hA : CompRT a valsA vA (sep.toList ++ (render b.out vB ++ tail))) (hB : CompRT b valsB vB tail)
    (hm : ∀ n ∈ symFields (flat a.out), marker ∉ vA n) (hclean : ∀ n ∈ names, CleanText closer (vA n)) :
    ∃ line, formatC Gen.matchTemplates c (valsA ++ valsB) = some line ∧
      parseC Gen.matchTemplates c (line ++ tail) = .ok (valsA ++ valsB) ∧
      ((parseC Gen.matchTemplates c (line ++ tail)).toOption.bind (formatC Gen.matchTemplates c)) = some line := by
  have hne := early_of_names (a.out ++ [.lit sep]) b names vA (render b.out vB ++ tail) hn
    (by rw [symFields_flat_append_lit]; exact hm) hclean
  rw [render_append] at hne
  simp only [render, List.append_nil] at hne
  have hparts' : PartsOK Gen.matchTemplates [] c.parts [valsA, [], valsB]
      [render a.out vA, sep.toList, render b.out vB] tail := by
    rw [hparts]
    exact ⟨by simpa using part_of_compRT a x valsA vA [] _ hfa hA (noEarly_nil _ _), ⟨rfl, rfl⟩,
      by simpa using part_of_compRT b y valsB vB _ tail hfb hB hne, trivial⟩
  simpa using composite_of_parts c hc _ _ tail hparts'

/-- **component - component** (`trill(…)-note(…).`, `ornament(…)-note(…).`) -/
theorem composite_pair0 (c : Composite) (hc : c ∈ Gen.matchComposites) (x y : String) (a b : Template)
    (names : List String) (hparts : c.parts = [.tpl x, .tpl y])
    (hfa : findTpl Gen.matchTemplates x = some a) (hfb : findTpl Gen.matchTemplates y = some b)
    (hn : earlyNames a.out b = some names)
    (valsA valsB : List Val) (vA vB : String → List Char) (tail : List Char)
    (hA : CompRT a valsA vA (render b.out vB ++ tail)) (hB : CompRT b valsB vB tail)
    (hm : ∀ n ∈ symFields (flat a.out), marker ∉ vA n) (hclean : ∀ n ∈ names, CleanText closer (vA n)) :
    ∃ line, formatC Gen.matchTemplates c (valsA ++ valsB) = some line ∧
      parseC Gen.matchTemplates c (line ++ tail) = .ok (valsA ++ valsB) ∧
      ((parseC Gen.matchTemplates c (line ++ tail)).toOption.bind (formatC Gen.matchTemplates c)) = some line := by
  have hne := early_of_names a.out b names vA (render b.out vB ++ tail) hn hm hclean
  have hparts' : PartsOK Gen.matchTemplates [] c.parts [valsA, valsB] [render a.out vA, render b.out vB] tail := by
    rw [hparts]
    exact ⟨by simpa using part_of_compRT a x valsA vA [] _ hfa hA (noEarly_nil _ _),
      by simpa using part_of_compRT b y valsB vB _ tail hfb hB hne, trivial⟩
  simpa using composite_of_parts c hc _ _ tail hparts'

/-- **component - literal** (`snote(…)-deletion.` and its pre-1.0 variants): the identifier literal is
    found because it is written, the score note is found at offset 0 -/
theorem composite_suffix (c : Composite) (hc : c ∈ Gen.matchComposites) (x lit : String) (a : Template)
    (hparts : c.parts = [.tpl x, .lit lit]) (hfa : findTpl Gen.matchTemplates x = some a)
    (valsA : List Val) (vA : String → List Char) (tail : List Char)
    (hA : CompRT a valsA vA (lit.toList ++ tail)) :
    ∃ line, formatC Gen.matchTemplates c valsA = some line ∧
      parseC Gen.matchTemplates c (line ++ tail) = .ok valsA ∧
      ((parseC Gen.matchTemplates c (line ++ tail)).toOption.bind (formatC Gen.matchTemplates c)) = some line := by
  have hparts' : PartsOK Gen.matchTemplates [] c.parts [valsA, []] [render a.out vA, lit.toList] tail := by
    rw [hparts]
    exact ⟨by simpa using part_of_compRT a x valsA vA [] _ hfa hA (noEarly_nil _ _), ⟨rfl, rfl⟩, trivial⟩
  simpa using composite_of_parts c hc _ _ tail hparts'

/-- **literal - component** (`insertion-note(…).` and its pre-1.0 variants): purely structural - no
    condition on any field text -/
theorem composite_prefix (c : Composite) (hc : c ∈ Gen.matchComposites) (y lit : String) (b : Template)
    (names : List String) (hparts : c.parts = [.lit lit, .tpl y]) (hfb : findTpl Gen.matchTemplates y = some b)
    (hn : earlyNames [.lit lit] b = some names)
    (valsB : List Val) (vB : String → List Char) (tail : List Char) (hB : CompRT b valsB vB tail) :
    ∃ line, formatC Gen.matchTemplates c valsB = some line ∧
      parseC Gen.matchTemplates c (line ++ tail) = .ok valsB ∧
      ((parseC Gen.matchTemplates c (line ++ tail)).toOption.bind (formatC Gen.matchTemplates c)) = some line := by
  -- the text in front holds no field: the check can be instantiated with empty field texts
  have hne := early_of_names [.lit lit] b names (fun _ => []) (render b.out vB ++ tail) hn
    (fun _ _ => List.not_mem_nil) (fun _ _ _ hd => nomatch hd)
  simp only [render, List.append_nil] at hne
  have hparts' : PartsOK Gen.matchTemplates [] c.parts [[], valsB] [lit.toList, render b.out vB] tail := by
    rw [hparts]
    exact ⟨⟨rfl, rfl⟩, by simpa using part_of_compRT b y valsB vB _ tail hfb hB hne, trivial⟩
  simpa using composite_of_parts c hc _ _ tail hparts'

-- non-vacuity, end to end: a 0.5.0 note pair is written and read back through the composite functions
example : ∃ c ∈ Gen.matchComposites, c.name = "v0.5.0/snote_note" ∧
    (parseC Gen.matchTemplates c "snote(1-1,[C,bb],-1,1:2,1/8,1/4/3,0.5,1.25,[staff1,s])-note(n1,[C,b],4,100,200,210,60).".toList).toOption.bind
      (formatC Gen.matchTemplates c)
      = some "snote(1-1,[C,bb],-1,1:2,1/8,1/4/3,0.5,1.25,[staff1,s])-note(n1,[C,b],4,100,200,210,60).".toList := by
  rw [String.toList_ofList]
  decide +kernel

-- non-vacuity: the shapes occur (6 + 1 pairs with a literal, 5 + 1 without, 15 + 1 suffix, 15 + 1 prefix lines)
example : (Gen.matchComposites.filter (fun c => match c.parts with | [.tpl _, .lit _, .tpl _] => true | _ => false)).length = 7
    ∧ (Gen.matchComposites.filter (fun c => match c.parts with | [.tpl _, .tpl _] => true | _ => false)).length = 6
    ∧ (Gen.matchComposites.filter (fun c => match c.parts with | [.tpl _, .lit _] => true | _ => false)).length = 16
    ∧ (Gen.matchComposites.filter (fun c => match c.parts with | [.lit _, .tpl _] => true | _ => false)).length = 16 := by
  decide +kernel

end C07
