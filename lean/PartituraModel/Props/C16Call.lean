/-
C16 — the CALL as the user writes it: `transpose(arg, Interval(number, quality, direction))` with the number a Python
int and the direction a string (Model/TransposeCall.lean: the constructor with `validate`, `Interval.semitones`,
`_transpose_note_inplace` / `_transpose_step` on the Interval object).

The object-level function is the (quality, ℕ, Bool) function of Model/Transpose.lean for every integer number, so the
theorems of Props/C16.lean and Props/C16Heap.lean hold for the call with the hypothesis "the interval is one of the 39
classes" replaced by "the constructor accepted it and 1 ≤ number ≤ 7".
-/
import PartituraModel.Model.TransposeCall
import PartituraModel.Props.C16Heap

namespace C16Call
open Model Model.TH Gen

/-- **`Interval.semitones` is defined exactly for simple numbers**: whatever the quality string, a size exists only
    for 1 ≤ number ≤ 7 (the code's "TODO work for arbitrary octave": compound intervals pass `validate`, then raise) -/
theorem size_only_for_simple_numbers (iv : IntervalObj) (z : Int) (h : iv.semitones = some z) :
    1 ≤ iv.number ∧ iv.number ≤ 7 := C16.sized_int h

/-- the number `validate` looks up: the simple interval of a compound one, 7 for multiples of 7 -/
theorem validate_reduces_number (iv : IntervalObj) :
    iv.validate = (INTERVALCLASSES.contains (iv.quality ++ showInt ((iv.number - 1) % 7 + 1)) &&
      (iv.direction == "up" || iv.direction == "down")) := by
  unfold IntervalObj.validate
  have : (if iv.number % 7 = 0 then 7 else iv.number % 7) = (iv.number - 1) % 7 + 1 := by
    split <;> omega
  simp only [this, INTERVAL_DIRECTIONS]
  simp only [List.contains_cons, List.contains_nil, Bool.or_false]

/-- **the constructor accepts exactly** the valid class of the reduced number with direction "up" or "down", and
    then stores its three arguments unchanged -/
theorem constructor_accepts_iff (number : Int) (quality direction : String) :
    (mkInterval number quality direction).isSome ↔
      (quality ++ showInt ((number - 1) % 7 + 1) ∈ INTERVALCLASSES ∧ (direction = "up" ∨ direction = "down")) := by
  unfold mkInterval
  simp only []
  rw [validate_reduces_number]
  split <;> rename_i hv <;> simp_all

theorem constructor_stores {number : Int} {quality direction : String} {iv : IntervalObj}
    (h : mkInterval number quality direction = some iv) : iv = ⟨number, quality, direction⟩ := by
  unfold mkInterval at h
  simp only [] at h
  split at h
  · exact (Option.some.inj h).symm
  · cases h

/-- **an accepted interval with a simple number is one of the 39 classes** — the hypothesis of `note_moved`,
    `every_note_moved`, `transpose_total`, … discharged from the constructor -/
theorem accepted_simple_is_class {number : Int} {quality direction : String}
    (h : (mkInterval number quality direction).isSome) (h1 : 1 ≤ number) (h7 : number ≤ 7) :
    (quality, number.toNat) ∈ C16.classPairs ∧ (direction = "up" ∨ direction = "down") := by
  obtain ⟨hc, hd⟩ := (constructor_accepts_iff number quality direction).mp h
  refine ⟨?_, hd⟩
  have hn : (number - 1) % 7 + 1 = ((number.toNat : Nat) : Int) := by omega
  rw [hn, C16.showInt_natCast, ← C16.class_pairs_are_the_classes] at hc
  obtain ⟨e, he, hk⟩ := List.mem_map.mp hc
  obtain ⟨-, -, -, he7, -⟩ := C16.class_sized he
  obtain ⟨hq, hm⟩ := C16.key_inj he7 (by omega) hk
  have : e = (quality, number.toNat) := Prod.ext hq hm
  exact this ▸ he

private theorem not_unison {q : String} {n : Int} (hn : ¬ (1 ≤ n ∧ n ≤ 7)) :
    q ++ showInt n ≠ "P1" ∧ lookup (q ++ showInt n) INTERVAL_TO_SEMITONES = none := by
  have hnone : lookup (q ++ showInt n) INTERVAL_TO_SEMITONES = none := by
    cases hl : lookup (q ++ showInt n) INTERVAL_TO_SEMITONES with
    | none => rfl
    | some z => exact absurd (C16.sized_int hl) hn
  refine ⟨fun hP => ?_, hnone⟩
  rw [hP] at hnone
  have : lookup "P1" INTERVAL_TO_SEMITONES = some 0 := by decide +kernel
  rw [this] at hnone
  cases hnone

private theorem stepObj_eq (i : Nat) {n : Nat} (hn : 1 ≤ n) {d : String} (hd : d = "up" ∨ d = "down") :
    transposeStepObj i (n : Int) d = transposeStepIdx i n (d == "up") := by
  unfold transposeStepObj transposeStepIdx
  rcases hd with rfl | rfl
  · simp only [if_true, show ("up" == "up") = true by decide]; omega
  · simp only [show ¬ ("down" = "up") by decide, if_false, show ("down" == "up") = false by decide, Bool.false_eq_true]

/-- **the object-level function IS the modelled arithmetic, for every integer number**:
    `_transpose_note_inplace(note, iv)` on an Interval object with direction "up" / "down" equals `transposeSpelling`
    on (quality, number as a natural number, direction as a flag); zero, negative and compound numbers raise in both -/
theorem note_obj_refines (iv : IntervalObj) (hd : iv.direction = "up" ∨ iv.direction = "down")
    (s : String) (al : Option Int) (o : Int) :
    transposeNoteObj iv s al o = transposeSpelling s al o iv.quality iv.number.toNat (iv.direction == "up") := by
  obtain ⟨number, quality, direction⟩ := iv
  simp only at hd ⊢
  by_cases hs : 1 ≤ number ∧ number ≤ 7
  · obtain ⟨n, rfl⟩ := Int.eq_ofNat_of_zero_le (by omega : 0 ≤ number)
    have hn : 1 ≤ n := by omega
    simp only [Int.toNat_natCast]
    unfold transposeNoteObj transposeSpelling IntervalObj.semitones
    simp only [C16.showInt_natCast]
    split
    · rfl
    · cases h1 : lookup (upper s) STEPS_TO_INT with
      | none => rfl
      | some i =>
        cases h2 : lookup (quality ++ showNat n) INTERVAL_TO_SEMITONES with
        | none => rfl
        | some sz =>
          -- the direction as a string and as a flag: the two branches of the object are the two branches of the flag
          simp only [stepObj_eq i hn hd, transposeIdx]
          have hdir : (direction = "up") = ((direction == "up") = true) := by simp
          have hdn : (direction = "down") = ((direction == "up") = false) := by
            rcases hd with rfl | rfl <;> decide
          simp only [hdir, hdn]
          cases (direction == "up") <;>
          cases hL : lookup (transposeStepIdx i n _) INT_TO_STEPS <;> cases hB : basePcIdx i <;>
            cases hC : basePcIdx (transposeStepIdx i n _) <;> simp [hL]
  · obtain ⟨hP, hN⟩ := not_unison (q := quality) hs
    have hs' : ¬ (1 ≤ ((number.toNat : Nat) : Int) ∧ ((number.toNat : Nat) : Int) ≤ 7) := by omega
    obtain ⟨hP', hN'⟩ := not_unison (q := quality) hs'
    rw [C16.showInt_natCast] at hP' hN'
    unfold transposeNoteObj transposeSpelling IntervalObj.semitones
    simp only [hP, hP', if_false, hN, hN']
    cases lookup (upper s) STEPS_TO_INT <;> rfl

/-- **one note, the call end to end**: `Interval(number, quality, direction)` accepted and 1 ≤ number ≤ 7 — then
    for every step name, alteration (also `None`) and octave the note does not raise, sounds the interval's
    semitones higher (lower) and stands number − 1 staff steps higher (lower) -/
theorem note_call_moved {number : Int} {quality direction : String} {iv : IntervalObj}
    (hc : mkInterval number quality direction = some iv) (h1 : 1 ≤ number) (h7 : number ≤ 7)
    (s : String) (hs : s ∈ C16.steps7) (al : Option Int) (o : Int) :
    ∃ s' al' o' sz m d, transposeNoteObj iv s al o = some (s', al', o') ∧ s' ∈ C16.steps7 ∧
      iv.semitones = some sz ∧
      spellingToMidi s al o = some m ∧
      spellingToMidi s' al' o' = some (if direction = "up" then m + sz else m - sz) ∧
      C16.staffPos s o = some d ∧
      C16.staffPos s' o' = some (if direction = "up" then d + (number - 1) else d - (number - 1)) := by
  obtain ⟨hcl, hd⟩ := accepted_simple_is_class (by rw [hc]; rfl) h1 h7
  obtain rfl := constructor_stores hc
  obtain ⟨s', al', o', sz, ht, hs', hz, ⟨m, hm, hm'⟩, ⟨d, hd0, hd'⟩⟩ :=
    C16.note_moved s hs _ hcl al o (direction == "up")
  have hnum : ((number.toNat : Nat) : Int) = number := by omega
  refine ⟨s', al', o', sz, m, d, ?_, hs', ?_, hm, ?_, hd0, ?_⟩
  · rw [note_obj_refines _ hd]; exact ht
  · unfold IntervalObj.semitones
    simp only
    rw [← hnum, C16.showInt_natCast]
    exact hz
  · rw [hm']; simp
  · rw [hd']; simp [hnum]

/-- **zero, negative and compound numbers**: the constructor may accept them (M9 is "a major second"), but no note
    can be transposed by them — `_transpose_note_inplace` raises for every note -/
theorem sizeless_number_raises (iv : IntervalObj) (hn : ¬ (1 ≤ iv.number ∧ iv.number ≤ 7))
    (s : String) (al : Option Int) (o : Int) : transposeNoteObj iv s al o = none := by
  obtain ⟨hP, hN⟩ := not_unison (q := iv.quality) hn
  unfold transposeNoteObj IntervalObj.semitones
  simp only [hP, if_false, hN]
  cases lookup (upper s) STEPS_TO_INT <;> rfl

/-! ### the branch constants, regenerated by RUNNING the live functions (Gen/C16Consts.lean) -/

/-- **the constants the models write as literals are the ones the code has today**: the default direction is "up";
    of the 16 candidate strings the constructor accepts exactly "up" and "down"; the only interval class that
    `_transpose_note_inplace` treats as "nothing to do" is P1; `transpose_note` lets through exactly the alterations
    −2..2 and the numbers 1..7.  (Editing any of these in the source regenerates the file and this theorem fails.) -/
theorem regenerated_constants :
    INTERVAL_DEFAULT_DIRECTION = "up" ∧ INTERVAL_DIRECTIONS = ["up", "down"] ∧ UNISON_KEYS = ["P1"] ∧
    TN_ALTERS = [-2, -1, 0, 1, 2] ∧ TN_NUMBERS = [1, 2, 3, 4, 5, 6, 7] := by decide +kernel

/-- the early exit of the model (`key = "P1"`) is the regenerated one on every interval class -/
theorem unison_branch : ∀ k ∈ INTERVAL_TO_SEMITONES.map (·.1), UNISON_KEYS.contains k = decide (k = "P1") := by
  decide +kernel

/-- the guards of `transpose_note` in the model (`-3 < alter < 3`, `number < 8`) are the regenerated sets, for
    EVERY integer alteration and every number ≥ 1 -/
theorem transpose_note_guards (a : Int) (n : Nat) (hn : 1 ≤ n) :
    ((-3 < a ∧ a < 3) ↔ a ∈ TN_ALTERS) ∧ (n < 8 ↔ n ∈ TN_NUMBERS) := by
  simp only [TN_ALTERS, TN_NUMBERS, List.mem_cons, List.not_mem_nil, or_false]
  constructor <;> omega

/-- `Interval(number, quality)` is `Interval(number, quality, "up")` -/
theorem default_is_up (number : Int) (quality : String) :
    mkIntervalDefault number quality = mkInterval number quality "up" := rfl

/-- **`transpose_note` refuses every direction but "up"** and otherwise is the octave-free arithmetic that
    `octave_free_agrees` ties to the full transposition -/
theorem transpose_note_only_up (s : String) (a : Int) (iv : IntervalObj) :
    (iv.direction ≠ "up" → transposeNoteFn s a iv = none) ∧
    (iv.direction = "up" → transposeNoteFn s a iv = transposeNoteNoOctave s a iv.quality iv.number.toNat) := by
  unfold transposeNoteFn
  constructor <;> intro h <;> simp [h]

theorem transposeCall_eq (h : Heap) (root : Nat) (number : Int) (quality direction : String) :
    transposeCall h root number quality direction =
      if (mkInterval number quality direction).isSome
      then transpose h root ⟨quality, number.toNat, direction == "up"⟩ else none := by
  unfold transposeCall
  cases hc : mkInterval number quality direction with
  | none => rfl
  | some iv => obtain rfl := constructor_stores hc; rfl

/-- **the call on a score or part, end to end**: if `transpose(arg, Interval(number, quality, direction))` returns,
    the argument is untouched and the result is new; if moreover 1 ≤ number ≤ 7 and the argument is valid, every
    pitched note of the result has moved by the interval (semitones and staff steps) and kept references and payload -/
theorem call_moves_every_note {h h' : Heap} {root r' : Nat} {number : Int} {quality direction : String}
    (e : transposeCall h root number quality direction = some (h', r')) :
    (r' = root + h.length ∧ h'.length = h.length + h.length ∧ ∀ a, a < h.length → h'[a]? = h[a]?) ∧
    (1 ≤ number → number ≤ 7 → C16Heap.ValidArg h root → ∀ a ∈ C16Heap.visited h root,
      ∃ s al o rs p s' al' o' sz m d, h[a]? = some (Cell.note s al o rs p) ∧
        h'[a + h.length]? = some (Cell.note s' al' o' (rs.map (· + h.length)) p) ∧
        intervalSemitones quality number.toNat = some sz ∧
        spellingToMidi s al o = some m ∧
        spellingToMidi s' al' o' = some (if direction = "up" then m + sz else m - sz) ∧
        C16.staffPos s o = some d ∧
        C16.staffPos s' o' = some (if direction = "up" then d + (number - 1) else d - (number - 1))) := by
  rw [transposeCall_eq] at e
  obtain ⟨hc, e⟩ := Option.ite_none_right_eq_some.mp e
  refine ⟨C16Heap.argument_untouched e, fun h1 h7 v a ha => ?_⟩
  obtain ⟨hcl, -⟩ := accepted_simple_is_class hc h1 h7
  have hnum : ((number.toNat : Nat) : Int) = number := by omega
  obtain ⟨s, al, o, rs, p, s', al', o', sz, m, d, x1, x2, x3, x4, x5, x6, x7⟩ :=
    C16Heap.every_note_moved e v hcl a ha
  refine ⟨s, al, o, rs, p, s', al', o', sz, m, d, x1, x2, x3, x4, ?_, x6, ?_⟩
  · rw [x5]; simp
  · rw [x7]; simp [hnum]

/-- **the call does not raise** on a valid argument when the constructor accepts the interval and 1 ≤ number ≤ 7 —
    however often a note is listed -/
theorem call_total {h : Heap} {root : Nat} {number : Int} {quality direction : String}
    (hc : (mkInterval number quality direction).isSome) (h1 : 1 ≤ number) (h7 : number ≤ 7)
    (parts : ∀ p ∈ partsOf h root, ∃ os, h[p]? = some (Cell.part os))
    (steps : ∀ a ∈ C16Heap.visited h root, ∀ s al o rs p, h[a]? = some (Cell.note s al o rs p) → s ∈ C16.steps7) :
    (transposeCall h root number quality direction).isSome := by
  obtain ⟨hcl, -⟩ := accepted_simple_is_class hc h1 h7
  rw [transposeCall_eq, if_pos hc]
  exact C16Heap.transpose_total_listed_anyhow parts steps hcl

/-- **the call raises for every other number** as soon as there is one pitched note to move (and returns the plain
    deep copy when there is none): compound intervals are not transposed wrongly, they are refused -/
theorem call_sizeless {h h' : Heap} {root r' : Nat} {number : Int} {quality direction : String}
    (hn : ¬ (1 ≤ number ∧ number ≤ 7))
    (e : transposeCall h root number quality direction = some (h', r')) :
    C16Heap.visited h root = [] ∧ (h', r') = deepcopy h root := by
  rw [transposeCall_eq] at e
  obtain ⟨hc, e⟩ := Option.ite_none_right_eq_some.mp e
  obtain ⟨-, hd⟩ := (constructor_accepts_iff number quality direction).mp hc
  refine C16Heap.sizeless_interval (fun c => ?_) e
  cases c with
  | note s a o rs p =>
    have := note_obj_refines ⟨number, quality, direction⟩ hd s a o
    rw [sizeless_number_raises _ hn] at this
    simp [Cell.transposed, ← this]
  | score ps => rfl
  | part os => rfl
  | other rs p => rfl

/-- the run the driver answers with is the call: same result, the heap kept on a raise -/
theorem callRun_is_call (h : Heap) (root : Nat) (number : Int) (quality direction : String) :
    transposeCall h root number quality direction =
      (transposeCallRun h root number quality direction).2.map fun r =>
        ((transposeCallRun h root number quality direction).1, r) := by
  unfold transposeCall transposeCallRun
  cases mkInterval number quality direction with
  | none => rfl
  | some iv => exact C16Heap.run_is_transpose h root (ofObj iv)

/-- **the argument itself is not modified by ANY call** — accepted or refused interval, with or without a size, valid
    or invalid argument, returning or raising: no hypothesis -/
theorem call_never_touches_the_argument (h : Heap) (root : Nat) (number : Int) (quality direction : String) :
    ∀ a, a < h.length → (transposeCallRun h root number quality direction).1[a]? = h[a]? := by
  intro a ha
  unfold transposeCallRun
  cases mkInterval number quality direction with
  | none => rfl
  | some iv => exact C16Heap.argument_untouched_even_if_raised h root (ofObj iv) a ha

/-- **up and then down (down and then up) by the same interval restores the original spelling** — the two calls as
    the user writes them: same number and quality, directions "up" and "down" in either order -/
theorem call_there_and_back {h h' h'' : Heap} {root r' r'' : Nat} {number : Int} {quality d1 d2 : String}
    (hd : (d1 = "up" ∧ d2 = "down") ∨ (d1 = "down" ∧ d2 = "up"))
    (e1 : transposeCall h root number quality d1 = some (h', r'))
    (e2 : transposeCall h' r' number quality d2 = some (h'', r''))
    (h1 : 1 ≤ number) (h7 : number ≤ 7) (v : C16Heap.ValidArg h root) (a : Nat) (ha : a ∈ C16Heap.visited h root) :
    ∃ s al o rs p al'', h[a]? = some (Cell.note s al o rs p) ∧
      h''[a + h.length + h'.length]? =
        some (Cell.note s al'' o ((rs.map (· + h.length)).map (· + h'.length)) p) ∧
      al''.getD 0 = al.getD 0 := by
  rw [transposeCall_eq] at e1 e2
  obtain ⟨hc1, e1⟩ := Option.ite_none_right_eq_some.mp e1
  obtain ⟨-, e2⟩ := Option.ite_none_right_eq_some.mp e2
  obtain ⟨hcl, -⟩ := accepted_simple_is_class hc1 h1 h7
  have hflip : (d2 == "up") = !(d1 == "up") := by
    rcases hd with ⟨rfl, rfl⟩ | ⟨rfl, rfl⟩ <;> decide
  rw [hflip] at e2
  exact C16Heap.up_then_down_restores e1 e2 v hcl a ha

/-- non-vacuity: M9 is accepted and refused by the note; M2 down moves C4 to B♭3; "P-6" passes `validate` -/
example : (mkInterval 9 "M" "up").isSome ∧ transposeNoteCall 9 "M" "up" "C" none 4 = .keyError ∧
    transposeNoteCall 2 "M" "down" "C" none 4 = .moved "B" (some (-1)) 3 ∧
    transposeNoteCall (-6) "P" "up" "C" none 4 = .keyError ∧
    transposeNoteCall 1 "M" "up" "C" none 4 = .assertion ∧
    transposeNoteCall 2 "M" "Up" "C" none 4 = .assertion := by decide +kernel

example : transposeCall C16Heap.demo 0 9 "M" "up" = none ∧
    (transposeCall C16Heap.demo 0 2 "M" "up").isSome := by decide +kernel

end C16Call
