/-
C10 — the measure maps as functions of the part description alone.

`divs_per_beat = inv_beat_map(1 + beat_map(0))` is not a parameter here: Model/StepMapPart.lean computes it with
the beat maps of Model/TimeMap.lean (property C02), in notated and in musical beat mode, and the time-signature
map reads the musical beats STORED on each signature.

Vocabulary: `PartD` the part description; `timePart p` the part the beat maps see; `tsTbl ts` the signatures keyed
by start time; `C02Proofs.WF` at least two time points, positive divisions and signature numbers;
`TimeMap.keypoints` the key points of the beat map (first/last point, quarter-duration changes, signature starts).
`InForce` is the row of a table in force at a time (Proofs/C10Lookup.lean); `C02Proofs.InForce` the value of an
assignment list in force at a time, with a default before the first assignment.
-/
import PartituraModel.Proofs.C10Part

namespace C10
open Model Model.StepMap Gen

/-- `ts_spec_stored`: on the timeline the map returns beats, beat type and the musical beats STORED on the time
    signature in force, of the first one before it, and 4/4 (4 musical beats) when there is none -/
theorem ts_spec_stored (f l x : Int) (hx : f ≤ x) (ts : List TimeMap.TSig) (hs : SortedLT (tsTbl ts)) :
    (ts = [] → tsMapE (some (f, l)) ts x = some (4, 4, 4)) ∧
    (∀ e, InForce (tsTbl ts) x e → tsMapE (some (f, l)) ts x = some (e.2.beats, e.2.beatType, e.2.mb)) ∧
    (∀ s rest, ts = s :: rest → x < s.t → tsMapE (some (f, l)) ts x = some (s.beats, s.beatType, s.mb)) := by
  obtain ⟨h0, h1, h2⟩ := sig_spec (fun s : TimeMap.TSig => (s.beats, s.beatType, s.mb)) (tsTbl ts) x _ (4, 4, 4)
    (tsRowsE_eq ts ▸ tsMapE_eq (some (f, l)) ts x hx nofun)
  exact ⟨fun h => h0 (congrArg tsTbl h), h1 hs, fun s rest h => h2 (s.t, s) (tsTbl rest) (congrArg tsTbl h)⟩

/-- with the default table on every signature this is the map of Model/StepMap.lean (`ts_spec`, `musical_beats_spec`) -/
theorem ts_stored_default (span : Span) (tss : List (Int × Nat × Nat)) (x : Int) :
    tsMapE span (tss.map fun e => ⟨e.1, e.2.1, e.2.2, musicalBeats e.2.1⟩) x = tsMap span tss x := by
  unfold tsMapE tsMap
  rw [tsTable_eq_tableOf]
  congr 2
  unfold tsRowsE tsRows
  rw [List.map_map]
  rfl

example : tsMapE (some (0, 20)) [⟨0, 6, 8, 3⟩, ⟨12, 9, 8, 3⟩] 5 = some (6, 8, 3)
    ∧ tsMapE (some (0, 20)) [⟨4, 6, 8, 6⟩] 1 = some (6, 8, 6)
    ∧ InForce (tsTbl [⟨0, 6, 8, 3⟩, ⟨12, 9, 8, 3⟩]) 5 (0, ⟨0, 6, 8, 3⟩) := by
  unfold InForce
  decide +kernel

/-- the executable check the correspondence applies to the start times the real `iter_all` delivers is exactly
    the hypothesis of `lookup_spec`: the table builders need nothing else of `iter_all` -/
theorem sorted_check_sound {α : Type} (tbl : Tbl α) :
    sortedTimes (tbl.map (·.1)) = true ↔ SortedLE tbl := by
  rw [sortedTimes_iff]
  unfold SortedLE
  rw [List.pairwise_map]

example : sortedTimes [0, 3, 3, 8] = true ∧ sortedTimes [0, 4, 3] = false := by decide +kernel

/-- `divs_per_beat_spec`: whenever it is a number, `divs_per_beat` is the position exactly one beat (of the beat
    mode in use) after position 0 — for every well-formed part, pickup or not, any changes inside the first beat -/
theorem divs_per_beat_spec (p : PartD) (h : C02Proofs.WF (timePart p) (TimeMap.beatMode (timePart p))) (b0 d : Rat)
    (h0 : TimeMap.beatMap (timePart p) 0 = some b0) (hd : divsPerBeat p = some d) :
    TimeMap.beatMap (timePart p) d = some (b0 + 1) :=
  divsPerBeat_fwd p h b0 d h0 hd

/-- closed form: when the first stretch of the beat map is at least one beat long, `divs_per_beat` is the quarter
    duration in force at 0 divided by the beat factor in force at 0 (beats per quarter) -/
theorem divs_per_beat_closed (p : PartD) (h : C02Proofs.WF (timePart p) (TimeMap.beatMode (timePart p)))
    (k k' : TimeMap.KP) (post : List TimeMap.KP)
    (hk : TimeMap.keypoints (timePart p) (TimeMap.beatMode (timePart p)) = k :: k' :: post)
    (hk0 : k.t = 0) (hreach : k.divs / k.fac ≤ (k'.t : Rat)) :
    divsPerBeat p = some (k.divs / k.fac)
    ∧ C02Proofs.InForce (TimeMap.qdAssign p.qd) 1 0 k.divs
    ∧ C02Proofs.InForce (TimeMap.facAssign (TimeMap.beatMode (timePart p)) p.ts) 1 0 k.fac := by
  have hkm : k ∈ TimeMap.keypoints (timePart p) (TimeMap.beatMode (timePart p)) := by rw [hk]; simp
  refine ⟨divsPerBeat_closed p h k k' post hk hk0 hreach, ?_, ?_⟩
  · have := C02.keypoint_divs_inforce _ _ k hkm
    rw [hk0] at this
    exact this
  · have := C02.keypoint_fac_inforce _ _ k hkm
    rw [hk0] at this
    exact this

/-- the hypotheses of `pickup_spec_composed`: the timeline starts at 0, the first time signature `s0` starts there
    and the others later, the quarter duration set at 0 is `q0`, and the first stretch of the beat map (up to the
    next quarter-duration change, signature start or the end of the timeline: key point `k'`) is at least one beat
    (of the beat mode in use) long -/
structure SimpleStart (p : PartD) (l : Int) (s0 : TimeMap.TSig) (rest : List TimeMap.TSig) (q0 : Nat)
    (k k' : TimeMap.KP) (post : List TimeMap.KP) : Prop where
  span : p.span = some (0, l)
  wf : C02Proofs.WF (timePart p) (TimeMap.beatMode (timePart p))
  ts : p.ts = s0 :: rest
  s0t : s0.t = 0
  later : ∀ s ∈ rest, 0 < s.t
  qd0 : TimeMap.lastAssoc (TimeMap.qdAssign p.qd) 0 = some (q0 : Rat)
  kps : TimeMap.keypoints (timePart p) (TimeMap.beatMode (timePart p)) = k :: k' :: post
  k0 : k.t = 0
  reach : (q0 : Rat) / TimeMap.factorOf (TimeMap.beatMode (timePart p)) s0 ≤ (k'.t : Rat)

/-- the length of a full bar of `s0` in divisions: `beats · 4/beat_type` quarters of `q0` divisions -/
def fullBar (s0 : TimeMap.TSig) (q0 : Nat) : Rat := (s0.beats : Rat) * (q0 : Rat) * 4 / (s0.beatType : Rat)

/-- for a part that starts simply, `divs_per_beat` is the quarter duration at 0 divided by the beat factor (beats per
    quarter) of the first signature: the quarter duration and the factor of the first key point are those in force at 0 -/
theorem divsPerBeat_simple (p : PartD) (l : Int) (s0 : TimeMap.TSig) (rest : List TimeMap.TSig) (q0 : Nat)
    (k k' : TimeMap.KP) (post : List TimeMap.KP) (H : SimpleStart p l s0 rest q0 k k' post) :
    divsPerBeat p = some ((q0 : Rat) / TimeMap.factorOf (TimeMap.beatMode (timePart p)) s0) := by
  obtain ⟨hspan, hwf, hts, hs0, hlater, hq, hk, hk0, hreach⟩ := H
  have hkm : k ∈ TimeMap.keypoints (timePart p) (TimeMap.beatMode (timePart p)) := by rw [hk]; exact List.mem_cons_self
  have hdiv : k.divs = (q0 : Rat) :=
    C02Proofs.inforce_at_assigned _ _ _ _ _ (hk0 ▸ C02.keypoint_divs_inforce _ _ k hkm) hq
  have hfac : k.fac = TimeMap.factorOf (TimeMap.beatMode (timePart p)) s0 := by
    have := C02.keypoint_fac_inforce _ _ k hkm
    rw [hk0, show (timePart p).ts = s0 :: rest from hts] at this
    exact C02Proofs.inforce_at_assigned _ _ _ _ _ this (C02Proofs.facAssign_at_zero _ (C02Proofs.beatMode_ne_quarter _) s0 rest hs0 hlater)
  rw [← hdiv, ← hfac]
  exact divsPerBeat_closed p hwf k k' post hk hk0 (by rw [hdiv, hfac]; exact hreach)

/-- **`pickup_spec_composed`** — the pickup rule as a theorem about the part description alone: for a part that
    starts simply (`SimpleStart`), in notated AND in musical beat mode (whatever musical beats are stored),
    `beats_per_bar · divs_per_beat` is the length of a full bar of the first signature in divisions, and the first
    measure `(s, e)` keeps its start when it is at least that long and otherwise starts at
    `round(e − full bar)`, "ending a full bar". -/
theorem pickup_spec_composed (p : PartD) (l : Int) (s0 : TimeMap.TSig) (rest : List TimeMap.TSig) (q0 : Nat)
    (k k' : TimeMap.KP) (post : List TimeMap.KP) (H : SimpleStart p l s0 rest q0 k k' post) :
    (∃ b d, beatsPerBar p = some b ∧ divsPerBeat p = some d ∧ b * d = fullBar s0 q0) ∧
    ∀ s e : Int, pickupStart s e (beatsPerBar p) (divsPerBeat p)
      = if ((e - s : Int) : Rat) < fullBar s0 q0 then roundHalfEven ((e : Rat) - fullBar s0 q0) else s := by
  have hd := divsPerBeat_simple p l s0 rest q0 k k' post H
  obtain ⟨hspan, hwf, hts, hs0, hlater, -, -, -, -⟩ := H
  have hb := beatsPerBar_simple p l s0 rest hspan hts hs0 hlater
  obtain ⟨hbeats, hbt, hmb⟩ := hwf.2.2.2 (C02Proofs.beatMode_ne_quarter _) s0 (by rw [show (timePart p).ts = s0 :: rest from hts]; exact List.mem_cons_self)
  have hbeats' : ((s0.beats : Nat) : Rat) ≠ 0 := Nat.cast_ne_zero.mpr (Nat.pos_iff_ne_zero.mp hbeats)
  have hprod : (if p.musical then (s0.mb : Rat) else (s0.beats : Rat))
      * ((q0 : Rat) / TimeMap.factorOf (TimeMap.beatMode (timePart p)) s0) = fullBar s0 q0 := by
    unfold fullBar
    have hmode : TimeMap.beatMode (timePart p) = if p.musical then TimeMap.Mode.musical else TimeMap.Mode.notated := rfl
    rw [hmode]
    cases hmus : p.musical with
    | false =>
      simp only [Bool.false_eq_true, if_false, TimeMap.factorOf]
      rw [div_div_eq_mul_div, ← mul_div_assoc, ← mul_assoc]
    | true =>
      have hmb' : ((s0.mb : Nat) : Rat) ≠ 0 :=
        Nat.cast_ne_zero.mpr (Nat.pos_iff_ne_zero.mp (hmb (by rw [hmode, hmus]; rfl)))
      simp only [if_true, TimeMap.factorOf]
      field_simp
  refine ⟨⟨_, _, hb, hd, hprod⟩, fun s e => ?_⟩
  rw [hb, hd, pickupStart_some, hprod]

/-- non-vacuity: 6/8 with musical beats in use (2 dotted beats), divisions 4, a pickup of 4 divisions, a second
    signature and a quarter-duration change later on -/
def exPart : PartD :=
  { npoints := 5, span := some (0, 52), qd := [(0, 4), (28, 8)], ts := [⟨0, 6, 8, 2⟩, ⟨28, 3, 4, 3⟩], musical := true,
    ms := [(0, 4, some 0), (4, 28, some 1), (28, 52, some 2)] }

example : SimpleStart exPart 52 ⟨0, 6, 8, 2⟩ [⟨28, 3, 4, 3⟩] 4 ⟨0, 4, 2/3⟩ ⟨28, 8, 1⟩ [⟨52, 8, 1⟩] :=
  ⟨rfl, by decide +kernel, rfl, rfl, by decide +kernel, by decide +kernel, by decide +kernel, rfl, by decide +kernel⟩

example : fullBar ⟨0, 6, 8, 2⟩ 4 = 12 ∧ beatsPerBar exPart = some 2 ∧ divsPerBeat exPart = some 6
    ∧ measureMapP exPart 2 = some (some (-8, 4))
    ∧ measureMapP { exPart with musical := false } 2 = some (some (-8, 4)) := by decide +kernel

/-- the pickup rule does not depend on the beat mode or on the musical beats stored on the signatures
    (the defect F-C10-9 as a theorem): two descriptions that start simply with the same signature numbers and quarter
    duration give the first measure the same start -/
theorem pickup_beat_mode_invariant (p p' : PartD) (l l' : Int) (s0 s0' : TimeMap.TSig) (rest rest' : List TimeMap.TSig)
    (q0 : Nat) (k k' k2 k2' : TimeMap.KP) (post post' : List TimeMap.KP)
    (H : SimpleStart p l s0 rest q0 k k' post) (H' : SimpleStart p' l' s0' rest' q0 k2 k2' post')
    (hb : s0.beats = s0'.beats) (hbt : s0.beatType = s0'.beatType) (s e : Int) :
    pickupStart s e (beatsPerBar p) (divsPerBeat p) = pickupStart s e (beatsPerBar p') (divsPerBeat p') := by
  rw [(pickup_spec_composed p l s0 rest q0 k k' post H).2, (pickup_spec_composed p' l' s0' rest' q0 k2 k2' post' H').2]
  unfold fullBar
  rw [hb, hbt]

/-- the maps raise only when musical beats are in use and a signature has 0 beats (`ZeroDivisionError`) -/
theorem raises_iff (p : PartD) :
    raisesP p = true ↔ p.ms ≠ [] ∧ 2 ≤ p.npoints ∧ p.musical = true ∧ ∃ s ∈ p.ts, s.beats = 0 := by
  have hmode : (TimeMap.beatMode (timePart p) == TimeMap.Mode.musical) = p.musical := by
    show ((if p.musical then TimeMap.Mode.musical else .notated) == TimeMap.Mode.musical) = p.musical
    cases p.musical <;> rfl
  unfold raisesP TimeMap.raises
  rw [hmode]
  show (!p.ms.isEmpty && (decide (2 ≤ p.npoints) && p.musical && p.ts.any fun s => s.beats == 0)) = true ↔ _
  simp only [Bool.and_eq_true, Bool.not_eq_true', List.isEmpty_eq_false_iff, decide_eq_true_eq, List.any_eq_true,
    beq_iff_eq, and_assoc]

/-- `measure_spec_composed`: `measure_spec` for the map of a description — no parameter left -/
theorem measure_spec_composed (p : PartD) (x : Int) (hr : raisesP p = false) (ht : Ordered (bars p))
    (i : Nat) (s e : Int) (hi : (bars p)[i]? = some (s, e)) (hs : s ≤ x) (he : x < e) :
    measureMapP p x = some (some (if i = 0 then pickupStart s e (beatsPerBar p) (divsPerBeat p) else s, e)) := by
  rw [(measureMapsP_eq p hr x).1, measureTbl_ordered p.span (bars p) _ _ x ht i s e hi hs he]

theorem number_spec_composed (p : PartD) (x : Int) (hr : raisesP p = false) (ht : Ordered (bars p))
    (filled : List Int) (hf : allSome (fillNumbers (p.ms.map (·.2.2))) = some filled)
    (i : Nat) (s e n : Int) (hi : p.ms[i]? = some (s, e, some n)) (hs : s ≤ x) (he : x < e) :
    measureNumberMapP p x = some (some n) :=
  (measureMapsP_eq p hr x).2.1.trans (measureNumberTbl_ordered p.span p.ms _ _ x (bars_eq_strip p ▸ ht) filled hf i s e n hi hs he)

/-- `metrical_spec_composed`: distance from the (pickup-corrected) start and the measure length -/
theorem metrical_spec_composed (p : PartD) (x : Int) (hr : raisesP p = false) (ht : Tiles (bars p))
    (i : Nat) (s e : Int) (hi : (bars p)[i]? = some (s, e)) (hs : s ≤ x) (he : x < e) :
    metricalMapP p x
      = some (x - (if i = 0 then pickupStart s e (beatsPerBar p) (divsPerBeat p) else s),
              some (e - (if i = 0 then pickupStart s e (beatsPerBar p) (divsPerBeat p) else s))) :=
  (measureMapsP_eq p hr x).2.2.trans (metricalTbl_tiles p.span (bars p) _ _ x ht i s e hi hs he)

/-- with gaps between the measures the position component still holds -/
theorem metrical_position_composed_no_tiling (p : PartD) (x : Int) (hr : raisesP p = false) (ht : Ordered (bars p))
    (i : Nat) (s e : Int) (hi : (bars p)[i]? = some (s, e)) (hs : s ≤ x) (he : x < e) :
    (metricalMapP p x).map (·.1)
      = some (x - (if i = 0 then pickupStart s e (beatsPerBar p) (divsPerBeat p) else s)) := by
  rw [(measureMapsP_eq p hr x).2.2]
  exact metricalTbl_ordered p.span (bars p) _ _ x ht i s e hi hs he

/-- no measures: the documented defaults, whatever the rest of the description -/
theorem measure_defaults_composed (p : PartD) (hm : p.ms = []) (x : Int) :
    measureMapP p x = some (some (spanOrZero p.span)) ∧ measureNumberMapP p x = some (some 1)
    ∧ metricalMapP p x = some (0, some 0) := by
  have hr : raisesP p = false := by unfold raisesP; rw [hm]; rfl
  have hb : bars p = [] := by unfold bars; rw [hm]; rfl
  obtain ⟨h1, h2, h3⟩ := measureMapsP_eq p hr x
  rw [h1, h2, h3, hb, hm]
  cases p.span <;> exact ⟨rfl, rfl, rfl⟩

example : raisesP exPart = false ∧ Tiles (bars exPart) ∧ (bars exPart)[0]? = some (0, 4)
    ∧ metricalMapP exPart 2 = some (10, some 12) ∧ measureNumberMapP exPart 30 = some (some 2) := by
  refine ⟨by decide +kernel, by simp [Tiles, bars, exPart], by decide +kernel, by decide +kernel, by decide +kernel⟩

/-- the composed maps are the maps of Model/StepMap.lean at the computed parameter (notated mode, default table) -/
theorem composed_is_parametric (p : PartD) (tss : List (Int × Nat × Nat)) (hr : raisesP p = false)
    (hmus : p.musical = false) (hts : p.ts = tss.map fun e => ⟨e.1, e.2.1, e.2.2, musicalBeats e.2.1⟩) (x : Int) :
    measureMapP p x = some (measureMap p.span tss (bars p) (divsPerBeat p) x)
    ∧ metricalMapP p x = metricalMap p.span tss (bars p) (divsPerBeat p) x := by
  have hb : beatsPerBar p = beatsAtZero p.span tss := by
    unfold beatsPerBar beatsAtZero
    rw [hts, ts_stored_default, hmus]
    simp
  rw [(measureMapsP_eq p hr x).1, (measureMapsP_eq p hr x).2.2, hb]
  exact ⟨rfl, rfl⟩

end C10
