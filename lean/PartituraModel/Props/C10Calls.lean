/-
C10 — "scalar and array queries agree", for the calls as the code dispatches them.

Model/StepMapCalls.lean mirrors how each map treats the KIND of its argument: the wrapper
`partitura.utils.generic.interp1d` (scipy when there are at least two samples; one broadcast value, cut down to
its first row for a 0-dimensional argument, when there is one), the `isinstance(input, Iterable)` test of
`metrical_position_map`, the collator of `clef_map`.  For every map, every part and every argument:
a scalar call returns the row of the scalar map of Model/StepMap*.lean (the one the `*_spec` theorems are about),
and a call with a sequence returns exactly one such row per element, in order (`none` for an empty sequence).

Each of the six maps is `Pointwise` over its scalar map: it raises for every argument or for none, and otherwise answers a
number with the scalar map's row and a sequence with one row per element; `metrical_position_map` alone answers a
0-dimensional array differently.  The theorems of this file are read off the six instances.
-/
import PartituraModel.Proofs.C10Calls

namespace C10
open Model Model.StepMap

/-- **`ts_ks_calls_agree`**: `time_signature_map` and `key_signature_map` -/
theorem ts_ks_calls_agree (span : Span) (ts : List TimeMap.TSig) (kss : List (Int × Int × Mode)) :
    (∀ x, callTS span ts (.scalar x) = .one (tsMapE span ts x)) ∧
    (∀ xs, callTS span ts (.seq xs) = .many (vec (tsMapE span ts) xs)) ∧
    (∀ x, callKS span kss (.scalar x) = .one (ksMap span kss x)) ∧
    (∀ xs, callKS span kss (.seq xs) = .many (vec (ksMap span kss) xs)) :=
  ⟨fun x => Option.some.inj ((pointwise_interp _).scalar x), fun xs => congrFun (callInterpPrev_eq _) (.seq xs),
   fun x => Option.some.inj ((pointwise_interp _).scalar x), fun xs => congrFun (callInterpPrev_eq _) (.seq xs)⟩

/-- **`measure_calls_agree`**: `measure_map` and `measure_number_map` (they raise for a scalar exactly when they raise
    for a sequence: the error comes from building the map) -/
theorem measure_calls_agree (p : PartD) :
    (∀ x, callMeasure p (.scalar x) = (measureMapP p x).map .one) ∧
    (∀ xs, callMeasure p (.seq xs) = if raisesP p then none else some (.many (xs.map (interpPrev (measureTableP p))))) ∧
    (∀ x, callMeasureNumber p (.scalar x) = (measureNumberMapP p x).map .one) ∧
    (∀ xs, callMeasureNumber p (.seq xs) = if raisesP p then none
        else (measureNumberTable p.span p.ms (beatsPerBar p) (divsPerBeat p)).map fun tbl =>
          .many (xs.map (interpPrev tbl))) ∧
    (∀ xs, xs ≠ [] → callMeasureNumber p (.seq xs)
        = (allSomeL (xs.map (measureNumberMapP p))).map .many) := by
  refine ⟨(pointwise_measure p).scalar, fun xs => ?_, (pointwise_number p).scalar, fun xs => ?_,
    (pointwise_number p).seq⟩
  · unfold callMeasure
    rw [callInterpPrev_eq]
    rfl
  · unfold callMeasureNumber
    simp only [callInterpPrev_eq]
    rfl

/-- **`metrical_calls_agree`** (no hypotheses): `metrical_position_map` - the scalar call gives the tuple of the
    scalar map; a sequence one `(position, length)` row per element, each the answer of the scalar call, in order; an
    empty sequence an empty array exactly when the map can be built (it raises for a scalar exactly when it raises
    for a sequence: the error comes from building the map) -/
theorem metrical_calls_agree (p : PartD) :
    (∀ x, callMetrical p (.scalar x) = (metricalMapP p x).map .one) ∧
    (∀ xs, xs ≠ [] → callMetrical p (.seq xs) = (allSomeL (xs.map (metricalMapP p))).map .many) ∧
    (callMetrical p (.seq []) = (metricalMapP p 0).map fun _ => .many []) :=
  ⟨(pointwise_metrical p).scalar, (pointwise_metrical p).seq, (pointwise_metrical p).seq_nil 0⟩

/-- given rows that are the answers of the scalar map, the sequence call returns exactly them -/
theorem metrical_calls_rows (p : PartD) (xs : List Int) (rows : List (Int × Option Int)) (hne : xs ≠ [])
    (h : ∀ i (hi : i < xs.length), metricalMapP p xs[i] = rows[i]?) (hl : rows.length = xs.length) :
    callMetrical p (.seq xs) = some (.many rows):= by
  rw [(metrical_calls_agree p).2.1 xs hne]
  have : xs.map (metricalMapP p) = rows.map some := by
    apply List.ext_getElem
    · simp [hl]
    · intro i h1 h2
      simp only [List.getElem_map]
      rw [h i (by simpa using h1)]
      simp only [List.length_map] at h2
      rw [List.getElem?_eq_getElem h2]
  rw [this, allSomeL_map_some]
  rfl

/-- **`zerod_calls_agree`**: a 0-dimensional array (`np.array(5)`) as argument - five maps answer exactly as for the
    scalar; `metrical_position_map` answers with the same row, as a one-row array when the part has measures (its
    `isinstance(input, Iterable)` test is true for every `numpy.ndarray`) and as the scalar's row when it has none -/
theorem zerod_calls_agree (p : PartD) (span : Span) (kss : List (Int × Int × Mode)) (clefs : List RawClef)
    (others : List Int) (x : Int) :
    callTS p.span p.ts (.zerod x) = callTS p.span p.ts (.scalar x) ∧
    callKS span kss (.zerod x) = callKS span kss (.scalar x) ∧
    callClef span clefs others (.zerod x) = callClef span clefs others (.scalar x) ∧
    callMeasure p (.zerod x) = callMeasure p (.scalar x) ∧
    callMeasureNumber p (.zerod x) = callMeasureNumber p (.scalar x) ∧
    callMetrical p (.zerod x) = (metricalMapP p x).map fun r => if p.ms.isEmpty then .one r else .many [r] :=
  ⟨Option.some.inj (((pointwise_interp _).zerod x).trans ((pointwise_interp _).scalar x).symm),
   Option.some.inj (((pointwise_interp _).zerod x).trans ((pointwise_interp _).scalar x).symm),
   ((pointwise_clef span clefs others).zerod x).trans ((pointwise_clef span clefs others).scalar x).symm,
   ((pointwise_measure p).zerod x).trans ((pointwise_measure p).scalar x).symm,
   ((pointwise_number p).zerod x).trans ((pointwise_number p).scalar x).symm, (pointwise_metrical p).zerod x⟩

/-- an empty sequence gives an empty array, for every map -/
theorem empty_argument (p : PartD) (span : Span) (kss : List (Int × Int × Mode)) (hr : raisesP p = false) :
    callTS p.span p.ts (.seq []) = .many [] ∧ callKS span kss (.seq []) = .many [] ∧
    callMeasure p (.seq []) = some (.many []) ∧
    callMetrical p (.seq []) = (metricalMapP p 0).map fun _ => .many [] := by
  refine ⟨congrFun (callInterpPrev_eq _) (.seq []), congrFun (callInterpPrev_eq _) (.seq []), ?_,
    (pointwise_metrical p).seq_nil 0⟩
  rw [(pointwise_measure p).seq_nil 0, (measureMapsP_eq p hr 0).1]
  rfl

/-- **`clef_calls_agree`**: `clef_map` - for a scalar the list of staff rows of `clefMap`, for a sequence one such
    list per element -/
theorem clef_calls_agree (span : Span) (clefs : List RawClef) (others : List Int) :
    (∀ x, callClef span clefs others (.scalar x) = (clefMap span clefs others x).map .one) ∧
    (∀ xs, callClef span clefs others (.seq xs)
      = if (clefMap span clefs others 0).isSome
        then some (.many (xs.map fun x => (clefMap span clefs others x).getD [])) else none) := by
  refine ⟨(pointwise_clef span clefs others).scalar, fun xs => ?_⟩
  rcases pointwise_clef span clefs others with ⟨F, hm, -, -, h3⟩ | ⟨hm, hc⟩
  · simp only [hm, h3, Option.isSome_some, if_true, Option.getD_some]
  · simp only [hm, hc, Option.isSome_none, Bool.false_eq_true, if_false]

example : callTS (some (0, 16)) [⟨0, 3, 4, 3⟩] (.seq [2, 9]) = .many [some (3, 4, 3), some (3, 4, 3)]
    ∧ callTS (some (0, 16)) [⟨0, 3, 4, 3⟩] (.scalar 2) = .one (some (3, 4, 3))
    ∧ callTS (some (0, 16)) [⟨0, 3, 4, 3⟩, ⟨8, 4, 4, 4⟩] (.seq [2, 9]) = .many [some (3, 4, 3), some (4, 4, 4)]
    ∧ callTS (some (0, 16)) [⟨0, 3, 4, 3⟩] (.seq []) = .many [] := by decide +kernel

/-- **`call_shapes`**: whether a call answers with one row or with an array of rows depends on the KIND of the
    argument alone - never on the part or the position: a number or a 0-dimensional array gives one row, a sequence
    an array, for five maps; `metrical_position_map` gives the tuple for a number, an array for a sequence, and for a
    0-dimensional array an array when the part has measures (`Iterable`) and one row when it has none -/
theorem call_shapes (p : PartD) (span : Span) (kss : List (Int × Int × Mode)) (clefs : List RawClef)
    (others : List Int) (a : Arg) :
    (callTS p.span p.ts a).isOne = a.isZeroDim ∧ (callKS span kss a).isOne = a.isZeroDim ∧
    (∀ r, callClef span clefs others a = some r → r.isOne = a.isZeroDim) ∧
    (∀ r, callMeasure p a = some r → r.isOne = a.isZeroDim) ∧
    (∀ r, callMeasureNumber p a = some r → r.isOne = a.isZeroDim) ∧
    (∀ r, callMetrical p a = some r → r.isOne = match a with
      | .scalar _ => true
      | .zerod _ => p.ms.isEmpty
      | .seq _ => false) := by
  obtain ⟨m1, m2, m3⟩ := (pointwise_metrical p).shape p.ms.isEmpty fun r => by cases p.ms.isEmpty <;> rfl
  refine ⟨(pointwise_interp _).shape_one (fun _ => rfl) a _ rfl, (pointwise_interp _).shape_one (fun _ => rfl) a _ rfl,
    (pointwise_clef span clefs others).shape_one (fun _ => rfl) a, (pointwise_measure p).shape_one (fun _ => rfl) a,
    (pointwise_number p).shape_one (fun _ => rfl) a, fun r hr => ?_⟩
  cases a with
  | scalar x => exact m1 x r hr
  | zerod x => exact m2 x r hr
  | seq xs => exact m3 xs r hr

/-- non-vacuity of the argument kinds of `metrical_position_map`: a part with a pickup (first bar moved back to -8) -/
def exCallPart : PartD :=
  { npoints := 5, span := some (0, 52), qd := [(0, 4), (28, 8)], ts := [⟨0, 6, 8, 2⟩, ⟨28, 3, 4, 3⟩], musical := true,
    ms := [(0, 4, some 0), (4, 28, some 1), (28, 52, some 2)] }

example : callMetrical exCallPart (.scalar 30) = some (.one (2, some 24))
    ∧ callMetrical exCallPart (.zerod 30) = some (.many [(2, some 24)])
    ∧ callMetrical exCallPart (.seq [30, 2]) = some (.many [(2, some 24), (10, some 12)])
    ∧ callMetrical exCallPart (.seq []) = some (.many [])
    ∧ callMetrical { exCallPart with ms := [] } (.zerod 30) = some (.one (0, some 0))
    ∧ callMeasureNumber exCallPart (.seq [30, 2]) = some (.many [some 2, some 0])
    ∧ callMeasureNumber exCallPart (.zerod 30) = some (.one (some 2)) := by decide +kernel

end C10
