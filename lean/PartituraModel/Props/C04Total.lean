/-
C04 — when `save_score_midi` returns.

The theorems of Props/C04Export.lean, C04Sigs.lean, C04Cells.lean, C04History.lean, C04Edit.lean carry the hypothesis
`h : saveScoreMidi … = some ex`.  Here it is discharged: the exporter has four points of failure (the origin, the
time signature of a measure under `time_sig_change`, an unsupported mode / no note at all, a negative first tick)
and for a well-formed score each of them is decided by validity of the input.
-/
import PartituraModel.Proofs.C04Total
import PartituraModel.Props.C04History
import PartituraModel.Model.ScoreMidiDefaults

namespace C04
open Model Model.Ticks Model.MidiPair Model.MidiModes Model.ScoreMidi

/-- validity of the input for the chosen anacrusis policy: under `time_sig_change` every measure starts where a
    time signature is in force; under `pad_bar` every part has a time signature with a non-zero beat type in force
    at 0 and does not start earlier than one bar of it before the downbeat -/
def SigOk (a : Anacrusis) (parts : List PartIn) : Prop :=
  (a = .timeSigChange → ∀ x ∈ parts, ∀ m ∈ x.measures, (tsAt x.base m.1).isSome) ∧
  (a = .padBar → ∀ x ∈ parts, ∃ beats bt, tsAt x.base 0 = some (beats, bt) ∧ 0 < bt ∧
    -((beats : Rat) / ((bt : Rat) / 4)) ≤ quarter x.base 0)

/-- **The exporter returns** for every well-formed score with at least one sounding note, every mode 0..5, every
    policy, minimum ppq and velocity, when the signatures the policy reads are there (`SigOk`).  No tick is
    negative: every written tick is 0 or the image of a timeline position, and the origin is at or before the
    start of every part. -/
theorem export_returns (mode : Nat) (a : Anacrusis) (minPpq vel : Nat) (parts : List PartIn) (hm : mode ≤ 5)
    (hw : ∀ x ∈ parts, C04T.WellFormed x.base) (hnote : ∃ x ∈ parts, x.notes ≠ []) (hs : SigOk a parts) :
    ∃ ex, saveScoreMidi mode a minPpq vel parts = some ex := by
  have hne : parts.map (·.base) ≠ [] :=
    let ⟨x, hx, _⟩ := hnote
    List.ne_nil_of_mem (List.mem_map.mpr ⟨x, hx, rfl⟩)
  obtain ⟨o, ho, hle⟩ := C04Tot.origin_spec a _ hne fun ha b hb => by
    obtain ⟨x, hx, rfl⟩ := List.mem_map.mp hb
    exact hs.2 ha x hx
  have hnn : ∀ x ∈ parts, ∀ t, 0 ≤ tick (exportPpq parts minPpq) x.base o t := by
    intro x hx t
    apply C04Tot.tick_nonneg
    exact le_trans (hle x.base (List.mem_map.mpr ⟨x, hx, rfl⟩)) (C04T.quarter_mono x.base (hw x hx) 0 t (Nat.zero_le t))
  obtain ⟨metas, hmetas⟩ := Option.isSome_iff_exists.mp
    (C04Tot.exportMetas_isSome a (fun x t => tick (exportPpq parts minPpq) x.base o t) parts hs.1)
  obtain ⟨tcs, htc⟩ := C04Tot.mapToTrackChannel_isSome mode hm (noteKeys parts)
  have hlen : tcs.length = (noteKeys parts).length := (mode_export mode hm _ _ htc).1
  have htne : tcs.map (·.1) ≠ [] := fun h =>
    C04Tot.noteKeys_ne_nil parts hnote (List.length_eq_zero_iff.mp (by rw [← hlen, List.map_eq_nil_iff.mp h, List.length_nil]))
  obtain ⟨mx, hmx⟩ := Option.isSome_iff_exists.mp (C04Tot.maxList_isSome _ htne)
  have hall : ∀ tr, ∀ e ∈ exportTrack (exportTempos (fun x t => tick (exportPpq parts minPpq) x.base o t) parts) metas
      (exportRecs (fun x t => tick (exportPpq parts minPpq) x.base o t) parts) ((noteKeys parts).zip tcs) vel tr, 0 ≤ e.1 :=
    fun tr => C04Tot.exportTrack_ticks (fun k => 0 ≤ k) a _ (le_refl 0) parts hnn metas hmetas _ vel tr
  refine ⟨⟨exportPpq parts minPpq, (List.range (mx + 1)).map (exportTrack (exportTempos (fun x t => tick (exportPpq parts minPpq) x.base o t) parts)
      metas (exportRecs (fun x t => tick (exportPpq parts minPpq) x.base o t) parts) ((noteKeys parts).zip tcs) vel)⟩, ?_⟩
  unfold saveScoreMidi
  simp only [bind, Option.bind, ho, hmetas, htc, hmx, Option.map, pure]
  split
  · rename_i hc
    exfalso
    obtain ⟨t, ht, hF⟩ := List.any_eq_true.mp hc
    obtain ⟨tr, _, rfl⟩ := List.mem_map.mp ht
    have := hall tr
    split at hF
    · cases hF
    · rename_i e rest heq
      have h0 := this e (by rw [heq]; exact List.mem_cons_self)
      simp only [decide_eq_true_eq] at hF
      omega
  · rfl

/-- **Exactly when the exporter returns** (`shift`, `time_sig_change`), for a well-formed score: the mode is one of
    0..5, some part has a sounding note, and under `time_sig_change` every measure starts where a time signature is
    in force.  In every other case the code raises (unsupported mode, `max()` of no track, NaN signature). -/
theorem export_returns_iff (mode : Nat) (a : Anacrusis) (minPpq vel : Nat) (parts : List PartIn) (ha : a ≠ .padBar)
    (hw : ∀ x ∈ parts, C04T.WellFormed x.base) :
    (∃ ex, saveScoreMidi mode a minPpq vel parts = some ex) ↔
      (mode ≤ 5 ∧ (∃ x ∈ parts, x.notes ≠ []) ∧
        (a = .timeSigChange → ∀ x ∈ parts, ∀ m ∈ x.measures, (tsAt x.base m.1).isSome)) := by
  constructor
  · rintro ⟨ex, h⟩
    obtain ⟨_, metas, _, _, _, hmetas, _⟩ := C04E.save_inv mode a minPpq vel parts ex h
    refine ⟨(C04Tot.save_mode_note h).1, (C04Tot.save_mode_note h).2, ?_⟩
    · intro hts x hx m hm
      obtain ⟨i, hi⟩ := List.getElem?_of_mem hx
      have hmem : (x, i) ∈ parts.zipIdx := List.mem_zipIdx_iff_getElem?.mpr (by simpa using hi)
      obtain ⟨e, _, d, hd, _⟩ := Lists.forall₂_mem_left (C04E.exportMetas_spec _ _ parts metas hmetas) (x, i) hmem
      exact (C04Tot.partMetas_isSome_iff a x _).mp (by rw [hd]; rfl) hts m hm
  · rintro ⟨hm, hnote, hts⟩
    exact export_returns mode a minPpq vel parts hm hw hnote ⟨hts, fun h => absurd h ha⟩

/-- **Round trip without side conditions on the run** (`shift`, `time_sig_change`): for every well-formed score with a
    sounding note in which no two notes of equal pitch overlap within a track and channel of the chosen mode, every
    mode 0..5, minimum ppq and audible velocity — the exporter returns a file, the importer (same mode) returns a
    score, and the imported parts hold exactly the score's sounding notes (onset and duration in quarters, pitch)
    with `ppq` divisions per quarter.  The only hypotheses are about the user's input. -/
theorem score_roundtrip_total (mode : Nat) (a : Anacrusis) (minPpq vel : Nat) (parts : List PartIn) (hm : mode ≤ 5)
    (ha : a ≠ .padBar) (hvel : 0 < vel) (hw : ∀ x ∈ parts, C04T.WellFormed x.base)
    (hnote : ∃ x ∈ parts, x.notes ≠ [])
    (hts : a = .timeSigChange → ∀ x ∈ parts, ∀ m ∈ x.measures, (tsAt x.base m.1).isSome)
    (hno : ∀ o tcs, origin a (parts.map (·.base)) = some o → mapToTrackChannel mode (noteKeys parts) = some tcs →
      ∀ tr, C04P.NoOverlap (routedTo (exportPpq parts minPpq) o vel ((noteKeys parts).zip tcs) parts tr)) :
    ∃ ex imp o, saveScoreMidi mode a minPpq vel parts = some ex ∧
      loadScoreMidi mode ex.ppq (ex.tracks.map (deltasFrom 0)) = some imp ∧
      origin a (parts.map (·.base)) = some o ∧ (importedRows o imp).Perm (scoreRows parts) ∧
      ∀ e ∈ imp.parts, e.2.divs = ex.ppq := by
  obtain ⟨ex, h⟩ := export_returns mode a minPpq vel parts hm hw hnote ⟨hts, fun h => absurd h ha⟩
  rw [← C04E.save_ppq h] at hno
  obtain ⟨_, imp, hi⟩ := roundtrip_total mode a minPpq vel parts ex h hvel hw hnote hno
  obtain ⟨o, ho, hperm, hdivs⟩ := score_roundtrip mode a minPpq vel parts ex imp h hi ha hvel hw hno
  exact ⟨ex, imp, o, h, hi, ho, hperm, hdivs⟩

/-- non-vacuity: `demoScore` satisfies the input conditions of every policy and has a sounding note -/
example : SigOk .timeSigChange demoScore := ⟨fun _ => by decide +kernel, fun h => by cases h⟩

example : SigOk .padBar demoScore := by
  refine ⟨(fun h => by cases h), fun _ x hx => ?_⟩
  simp only [demoScore, List.mem_cons, List.mem_nil_iff, or_false] at hx
  rcases hx with rfl | rfl
  · exact ⟨4, 4, by decide +kernel, by decide, by decide +kernel⟩
  · exact ⟨4, 4, by decide +kernel, by decide, by decide +kernel⟩

example : (∃ x ∈ demoScore, x.notes ≠ []) ∧ (saveScoreMidi 3 .padBar 96 64 demoScore).isSome := by
  refine ⟨⟨_, List.mem_cons_self, by simp⟩, by decide +kernel⟩

/-- the failure points are real: no note at all, an unsupported mode, and (`time_sig_change`) a measure that starts
    before the first time signature of a part whose first point is later -/
example : saveScoreMidi 0 .shift 0 64 [⟨0, ⟨4, [], 0, 16, none, [(0, 4, 4)]⟩, [], [], [(0, 16)], []⟩] = none ∧
    saveScoreMidi 6 .shift 0 64 demoScore = none ∧
    saveScoreMidi 0 .timeSigChange 0 64 [⟨0, ⟨4, [], 4, 16, none, [(8, 4, 4)]⟩, [], [], [(0, 16)], [(4, 4, 60, some 1)]⟩] = none := by
  decide +kernel

open Gen.C04Sig in
/-- **The source's defaults and literals are the model's** (Gen/C04Sig.lean is regenerated from the live
    `save_score_midi` / `map_to_track_channel` / `load_score_midi` / `assign_group_part_voice` / `create_part` on every
    run, so an edit of one of them re-elaborates this theorem): the documented defaults (mode 0, velocity 64,
    "shift", minimum ppq 0; import mode 0), the three anacrusis names, the modes 0..5 of both directions, and the
    constants the model uses where the code uses its literals — the default tempo a part without tempo marks gets,
    the beat type at which the halving of a fractional beat count stops, the single channel of modes 3, 4, 5, the
    4/4 assumed for a file without time signature. -/
theorem source_constants :
    extractionOk = true ∧
    defaultMode = 0 ∧ defaultVelocity = 64 ∧ anacOf defaultAnacrusis = some .shift ∧ defaultMinimumPpq = 0 ∧
    importDefaultMode = 0 ∧
    anacrusisValues = [anacName .padBar, anacName .shift, anacName .timeSigChange] ∧
    (∀ a : Anacrusis, anacOf (anacName a) = some a) ∧
    exportModes = List.range 6 ∧ importModes = List.range 6 ∧
    (∀ mode, mode < 8 → ((mapToTrackChannel mode [(0, 0, none)]).isSome ↔ mode ∈ exportModes)) ∧
    exportTempos (fun _ _ => 0) [⟨0, ⟨1, [], 0, 0, none, []⟩, [], [], [], []⟩] = [(0, defaultTempo)] ∧
    (refineBeats 8 (1 / 3) 1).2 = beatTypeLimit ∧ (refineBeats 8 (1 / 3) 64).2 = beatTypeLimit ∧
    (∀ mode ∈ [3, 4, 5], mapToTrackChannel mode [(0, 0, some 1), (0, 0, some 2)] = some [(0, singleChannel), (if mode = 5 then 1 else 0, singleChannel)]) ∧
    ((importPart 1 [] [] [] ⟨[], [], [], []⟩ (some 0)).map fun e => e.2.timeSigs) = some [assumedTimeSig] := by
  refine ⟨rfl, rfl, rfl, rfl, rfl, rfl, rfl, ?_, rfl, rfl, ?_, ?_, ?_, ?_, ?_, ?_⟩
  · intro a; cases a <;> rfl
  · decide +kernel
  · decide +kernel
  · decide +kernel
  · decide +kernel
  · decide +kernel
  · decide +kernel

/-- a call with every optional argument omitted is the call the documentation describes: mode 0, velocity 64,
    `shift`, no minimum ppq; the importer's default is mode 0 — so a default export followed by a default import is
    an instance of the round-trip theorems (`score_roundtrip_total` with mode 0, `shift`) -/
theorem default_call (parts : List PartIn) (ticks : Nat) (tracks : List (List (Int × Msg))) :
    saveScoreMidiDefault parts = saveScoreMidi 0 .shift 0 64 parts ∧
    loadScoreMidiDefault ticks tracks = loadScoreMidi 0 ticks tracks := ⟨rfl, rfl⟩

end C04
