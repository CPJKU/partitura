/-
C02 — `use_notated_beat` after `use_musical_beat`, and what the maps do NOT depend on.
-/
import PartituraModel.Props.C02

namespace C02
open Model.TimeMap C02Proofs

/-- a rewriting of signatures that touches the musical beats only -/
def MbOnly (f : TSig → TSig) : Prop := ∀ s, (f s).t = s.t ∧ (f s).beats = s.beats ∧ (f s).beatType = s.beatType

theorem assignMB_mbOnly (tbl : List ((Nat × Nat) × Nat)) : MbOnly (assignMB tbl) := fun s =>
  have h := assignMB_spec tbl s
  ⟨h.1, h.2.1, h.2.2.1⟩

theorem facAssign_mbOnly (m : Mode) (hm : m ≠ .musical) (f : TSig → TSig) (hf : MbOnly f) (ts : List TSig) :
    facAssign m (ts.map f) = facAssign m ts := by
  cases m with
  | musical => exact absurd rfl hm
  | quarter => rfl
  | notated =>
    simp only [facAssign, List.map_map]
    apply List.map_congr_left
    intro s _
    simp only [Function.comp, factorOf, (hf s).1, (hf s).2.2]

theorem normalDur_mbOnly (m : Mode) (hm : m ≠ .musical) (f : TSig → TSig) (hf : MbOnly f) (s : TSig) :
    normalDur m (f s) = normalDur m s := by
  cases m with
  | musical => exact absurd rfl hm
  | quarter => simp only [normalDur, (hf s).2.1, (hf s).2.2]
  | notated => simp only [normalDur, (hf s).2.1]

theorem find_mbOnly (f : TSig → TSig) (hf : MbOnly f) (ts : List TSig) (t : Int) :
    (ts.map f).find? (fun s => decide (s.t = t)) = (ts.find? (fun s => decide (s.t = t))).map f := by
  induction ts with
  | nil => rfl
  | cons a as ih =>
    simp only [List.map_cons, List.find?_cons, (hf a).1]
    split
    · rfl
    · exact ih

/-- the knots of the notated beat map and of the quarter map do not read the musical beats -/
theorem finalKnots_mbOnly (p : Part) (m : Mode) (hm : m ≠ .musical) (f : TSig → TSig) (hf : MbOnly f) :
    finalKnots { p with ts := p.ts.map f } m = finalKnots p m := by
  have hk : keypoints { p with ts := p.ts.map f } m = keypoints p m := by
    unfold keypoints keyTimes
    simp only [facAssign_mbOnly m hm f hf]
  unfold finalKnots
  simp only [hk]
  congr 1
  unfold pickupShift
  simp only
  cases p.m1 with
  | none => rfl
  | some m1 =>
    simp only
    cases actualDur (knots (keypoints p m) 0) m1 with
    | none => rfl
    | some a =>
      simp only
      rw [find_mbOnly f hf]
      cases p.ts.find? (fun s => decide (s.t = m1.1)) with
      | none => rfl
      | some s => simp only [Option.map_some, normalDur_mbOnly m hm f hf]

/-- **The notated beat map and the quarter map, forward and inverse, ignore the musical beats of the signatures.** -/
theorem maps_ignore_musical_beats (p : Part) (m : Mode) (hm : m ≠ .musical) (f : TSig → TSig) (hf : MbOnly f) (x : Rat) :
    fwd { p with ts := p.ts.map f } m x = fwd p m x ∧ inv { p with ts := p.ts.map f } m x = inv p m x := by
  unfold fwd inv
  simp only [finalKnots_mbOnly p m hm f hf]
  exact ⟨trivial, trivial⟩

/-- the quarter maps do not read the musical-beat switch -/
theorem quarter_maps_ignore_switch (p : Part) (b : Bool) (x : Rat) :
    quarterMap { p with musical := b } x = quarterMap p x ∧ invQuarterMap { p with musical := b } x = invQuarterMap p x := by
  -- no definition below the maps mentions the field `musical`
  have hk : finalKnots { p with musical := b } .quarter = finalKnots p .quarter := by
    simp only [finalKnots, keypoints, keyTimes, pickupShift]
  unfold quarterMap invQuarterMap fwd inv
  rw [hk]
  exact ⟨rfl, rfl⟩

/-- **`use_musical_beat(tbl)` followed by `use_notated_beat()` gives back every map the part had in notated mode**
(beat map, inverse beat map, quarter map, inverse quarter map), whatever the table — only the musical beats stored on
the signatures are now the defaults. -/
theorem toggle_restores_maps (p : Part) (hn : p.musical = false) (tbl : List ((Nat × Nat) × Nat)) (x : Rat) :
    ∃ ts', step (step ⟨p.musical, p.ts⟩ (.useMusical tbl)) .useNotated = ⟨false, ts'⟩ ∧
      (∀ t ∈ ts', t.mb = defaultMB t.beats) ∧
      beatMap { p with ts := ts' } x = beatMap p x ∧ invBeatMap { p with ts := ts' } x = invBeatMap p x ∧
      quarterMap { p with ts := ts' } x = quarterMap p x ∧ invQuarterMap { p with ts := ts' } x = invQuarterMap p x := by
  have hs : step (step ⟨p.musical, p.ts⟩ (.useMusical tbl)) .useNotated =
      ⟨false, (if tbl.isEmpty then p.ts else p.ts.map (assignMB tbl)).map (assignMB [])⟩ := by
    simp [step, hn]
  refine ⟨_, hs, ?_, ?_⟩
  · intro t ht
    simp only [List.mem_map] at ht
    obtain ⟨u, _, rfl⟩ := ht
    exact assignMB_empty u
  have hf : ∃ f, MbOnly f ∧ (if tbl.isEmpty then p.ts else p.ts.map (assignMB tbl)).map (assignMB []) = p.ts.map f := by
    by_cases he : tbl.isEmpty
    · exact ⟨assignMB [], assignMB_mbOnly [], by simp [he]⟩
    · refine ⟨assignMB [] ∘ assignMB tbl, ?_, by simp [he, List.map_map]⟩
      intro s
      have h1 := assignMB_mbOnly tbl s
      have h2 := assignMB_mbOnly [] (assignMB tbl s)
      exact ⟨h2.1.trans h1.1, h2.2.1.trans h1.2.1, h2.2.2.trans h1.2.2⟩
  obtain ⟨f, hmb, hfe⟩ := hf
  rw [hfe]
  have hb := maps_ignore_musical_beats p .notated (by decide) f hmb x
  have hq := maps_ignore_musical_beats p .quarter (by decide) f hmb x
  have hbm : beatMode p = .notated := by simp [beatMode, hn]
  have hbm' : beatMode { p with ts := p.ts.map f } = .notated := by simp [beatMode, hn]
  unfold beatMap invBeatMap quarterMap invQuarterMap
  rw [hbm, hbm']
  exact ⟨hb.1, hb.2, hq.1, hq.2⟩

/-- non-vacuity: 6/8 with a user table of 3 musical beats — the musical beat map differs, and after switching back
the notated beat map is the old one -/
example :
    beatMap { exPart with musical := true, ts := exPart.ts.map (assignMB [((6, 8), 3)]) } 23 ≠ beatMap exPart 23 ∧
    beatMap { exPart with ts := (exPart.ts.map (assignMB [((6, 8), 3)])).map (assignMB []) } 23 = beatMap exPart 23 := by
  decide +kernel

end C02
