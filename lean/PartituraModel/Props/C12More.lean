/-
C12 — the array forms of the tick conversions, `symbolic_to_numeric_duration` on every argument, intervals that
`validate` accepts, and the tables STEPS, MEI_DURS_TO_SYMBOLIC, ALTER_SIGNS.
-/
import PartituraModel.Model.ConversionsArr
import PartituraModel.Proofs.C12Lits
import PartituraModel.Props.C12Ext

namespace C12
open Model Gen Gen.C12 C12Bridge

/-- element by element the array result IS the scalar result (same arguments, same defaults) -/
theorem sec_to_tick_alike (ts : List Rat) (mpq ppq : Option Nat) (r : List Int) (h : secToTickArr ts mpq ppq = some r) :
    ts.map (fun t => secToTickG t mpq ppq) = r.map some := by
  obtain ⟨hm, e⟩ := Option.ite_none_left_eq_some.mp h
  cases e
  simp only [secToTickG, hm, if_false, List.map_map]
  rfl

theorem tick_to_sec_alike (ks : List Rat) (mpq ppq : Option Nat) (r : List Rat) (h : tickToSecArr ks mpq ppq = some r) :
    ks.map (fun k => tickToSecG k mpq ppq) = r.map some := by
  obtain ⟨hp, e⟩ := Option.ite_none_left_eq_some.mp h
  cases e
  simp only [tickToSecG, hp, if_false, List.map_map]
  rfl

/-- the array call is rejected exactly when the scalar call is, and the result has one entry per element -/
theorem arrays_defined (ts : List Rat) (mpq ppq : Option Nat) :
    ((secToTickArr ts mpq ppq).isSome ↔ ∀ t : Rat, (secToTickG t mpq ppq).isSome) ∧
    ((tickToSecArr ts mpq ppq).isSome ↔ ∀ k : Rat, (tickToSecG k mpq ppq).isSome) ∧
    (∀ r, secToTickArr ts mpq ppq = some r → r.length = ts.length) ∧
    (∀ r, tickToSecArr ts mpq ppq = some r → r.length = ts.length) := by
  refine ⟨?_, ?_, fun r h => ?_, fun r h => ?_⟩
  · unfold secToTickArr secToTickG
    by_cases hm : mpq.getD s2tDefaultMpq = 0 <;> simp [hm]
  · unfold tickToSecArr tickToSecG
    by_cases hp : ppq.getD t2sDefaultPpq = 0 <;> simp [hp]
  · rw [← Option.some.inj (Option.ite_none_left_eq_some.mp h).2, List.length_map]
  · rw [← Option.some.inj (Option.ite_none_left_eq_some.mp h).2, List.length_map]

/-- **arrays**: ticks → seconds → ticks is the identity on a whole array of ticks, for every ppq and mpq, given or
    left to the (equal) defaults of the two functions -/
theorem tick_sec_tick_arr (ks : List Int) (mpq ppq : Option Nat) (hm : mpq ≠ some 0) (hp : ppq ≠ some 0) :
    (tickToSecArr (ks.map fun (k : Int) => (k : Rat)) mpq ppq).bind (fun ts => secToTickArr ts mpq ppq) = some ks := by
  have hm0 := getD_ne_zero mpq 500000 (by decide) hm
  have hp0 := getD_ne_zero ppq 480 (by decide) hp
  rw [C12Lits.tickToSecArr_eq ks mpq ppq hp0, Option.bind_some, C12Lits.secToTickArr_eq _ mpq ppq hm0, List.map_map]
  simp [Function.comp_def, tick_sec_tick _ _ _ (Nat.pos_of_ne_zero hm0) (Nat.pos_of_ne_zero hp0)]

example : secToTickArr [1/3, 0, 2] none none = some [320, 0, 1920] ∧
    tickToSecArr [320, 0] (some 500000) (some 480) = some [1/3, 0] ∧ secToTickArr [1] (some 0) none = none ∧
    secToTickArr [] none none = some [] := by decide +kernel

/-- `x or 1` of a tuplet count that may be absent -/
def orOne : Option Nat → Rat
  | none => 1
  | some n => if n = 0 then 1 else (n : Rat)

theorem orOne_eq (x : Option Nat) :
    orOne x = if ((x.getD 1 : Nat) : Rat) = 0 then (1 : Rat) else ((x.getD 1 : Nat) : Rat) := by
  cases x with
  | none => simp [orOne]
  | some v => simp [orOne]

/-- value on EVERY symbolic duration: an absent tuplet count and the count 0 both stand for 1 -/
theorem symbolic_numeric_total (ty : String) (d : Nat) (a n : Option Nat) (divs : Rat) :
    symbolicToNumeric (ty, d, a, n) divs =
      match lookup ty LABEL_DURS, DOT_MULTIPLIERS[d]? with
      | some v, some m => some (divs * v * m * (orOne n / orOne a))
      | _, _ => none := by
  simp only [symbolicToNumeric, orOne_eq]
  cases lookup ty LABEL_DURS <;> cases DOT_MULTIPLIERS[d]? <;> rfl

/-- rejected exactly for a type that is not a note value or more than three dots -/
theorem symbolic_numeric_defined (ty : String) (d : Nat) (a n : Option Nat) (divs : Rat) :
    (symbolicToNumeric (ty, d, a, n) divs).isSome ↔ (lookup ty LABEL_DURS).isSome ∧ d ≤ 3 := by
  rw [symbolic_numeric_total, ← dot_multiplier_isSome]
  cases lookup ty LABEL_DURS <;> cases DOT_MULTIPLIERS[d]? <;> simp

example : symbolicToNumeric ("quarter", 1, some 0, none) 480 = some 720 ∧
    symbolicToNumeric ("quarter", 4, none, none) 480 = none ∧ symbolicToNumeric ("foo", 0, none, none) 480 = none ∧
    symbolicToNumeric ("eighth", 0, some 3, some 2) 6 = some 2 := by decide +kernel

/-! ### intervals: an accepted simple interval has a size -/

/-- the key set of INTERVAL_TO_SEMITONES is INTERVALCLASSES (in order), without repetition -/
theorem interval_keys : INTERVAL_TO_SEMITONES.map Prod.fst = INTERVALCLASSES ∧ INTERVALCLASSES.Nodup :=
  ⟨interval_key_list, interval_table.2.1⟩

/-- an interval that `Interval.validate` accepts, with a number 1..7, has a size -/
theorem valid_interval_has_size (q : String) (n : Nat) (d : String) (h1 : 1 ≤ n) (h7 : n ≤ 7)
    (hv : intervalValid q n d = true) : (intervalSemitones q n).isSome := by
  unfold intervalValid at hv
  simp only [Bool.and_eq_true, show (if n % 7 = 0 then 7 else n % 7) = n by split <;> omega] at hv
  exact listed_sized (by simpa using hv.1)

/-- … a compound interval is accepted too (its class is taken modulo 7) but has NO size: `Interval(9, "M")` is built,
    `.semitones` raises KeyError (compared by the stream `iv`; the property speaks of interval classes only) -/
example : intervalValid "M" 9 "up" = true ∧ intervalSemitones "M" 9 = none ∧ intervalValid "P" 8 "down" = true ∧
    intervalSemitones "P" 8 = none := by decide +kernel

/-- STEPS (both directions of the one dict of the source): letter → index → letter and back, seven entries, and the
    index order is the order of the scale (ascending base pitch class) -/
theorem steps_bijection :
    (∀ e ∈ STEPS_TO_INT, lookup e.2 INT_TO_STEPS = some e.1) ∧
    (∀ e ∈ INT_TO_STEPS, lookup e.2 STEPS_TO_INT = some e.1) ∧
    INT_TO_STEPS.map Prod.fst = List.range 7 ∧
    INT_TO_STEPS.map (fun e => lower e.2) = MIDI_BASE_CLASS.map Prod.fst ∧
    (MIDI_BASE_CLASS.map Prod.snd).Pairwise (· < ·) := by
  decide +kernel

/-- MEI duration names: a word names itself, a number `n ≠ 0` names the note value of 4/n quarters, `0` the breve -/
theorem mei_durs_defined :
    ∀ e ∈ MEI_DURS_TO_SYMBOLIC,
      (lookup e.2 LABEL_DURS).isSome ∧
      (if e.1.toList.all Char.isDigit then
        (if e.1 = "0" then e.2 = "breve" else lookup e.2 LABEL_DURS = some (4 / (digitsToNat e.1.toList : Rat)))
       else e.1 = e.2) := by
  decide +kernel

/-- every accidental `Note.alter_sign` can print is a sign `ensure_pitch_spelling_format` reads back as the same
    alteration (the empty sign is the natural `n`) -/
theorem alter_signs_read_back :
    ∀ e ∈ ALTER_SIGNS, lookup (if e.2 = "" then "n" else e.2) SIGN_TO_ALTER = some (some (e.1.getD 0)) := by
  decide +kernel

end C12
