/-
C12 — the other direction of "frequency and MIDI pitch invert each other in equal temperament", over ℝ:
frequency → pitch → frequency.  No inverse exists there (a pitch number is an integer), so the statement is the one
`C12.sec_tick_sec_close` makes for seconds → ticks → seconds: the frequency that comes back is the equal-tempered
frequency NEAREST to the one given — it differs from it by at most half a semitone (a factor 2^(±1/24)) — for every
positive frequency and tuning, with the constants of the two source lines as regenerated.
-/
import PartituraModel.Props.C12Real

namespace C12
open Gen.C12

/-- the pitch number before rounding -/
noncomputable def pitchNumber (f a4 : ℝ) : ℝ :=
  ((f2mOctave : ℚ) : ℝ) * Real.logb 2 (((f2mMul : ℚ) : ℝ) * f / a4) + ((f2mRef : ℚ) : ℝ)

theorem freqToMidi_round (f a4 : ℝ) : freqToMidi f a4 = round (pitchNumber f a4) := rfl

/-- frequency → pitch → frequency: the result is `f · 2^(e/12)` where `e`, the rounding error of the pitch number,
    is at most half a semitone -/
theorem pitch_freq_close (f a4 : ℝ) (hf : 0 < f) (ha : 0 < a4) :
    ∃ e : ℝ, |e| ≤ 1 / 2 ∧ e = (freqToMidi f a4 : ℝ) - pitchNumber f a4 ∧
      midiToFreq (freqToMidi f a4) a4 = f * (2 : ℝ) ^ (e / 12) := by
  obtain ⟨h1, h2, h3, h4, h5, h6⟩ := freq_consts_real
  obtain ⟨ho, hD⟩ := octave_twelve_real
  refine ⟨(freqToMidi f a4 : ℝ) - pitchNumber f a4, ?_, rfl, ?_⟩
  · rw [freqToMidi_round, abs_sub_comm]
    exact abs_sub_round _
  · unfold midiToFreq pitchNumber
    rw [h1, h2]
    have := C12Freq.back _ _ _ _ _ freqShift hD h3 h5 h6 f a4 hf ha (freqToMidi f a4 : ℝ)
    rw [this, ho]

/-- … hence within a quarter tone of the frequency given: between f·2^(−1/24) and f·2^(1/24) -/
theorem pitch_freq_quarter_tone (f a4 : ℝ) (hf : 0 < f) (ha : 0 < a4) :
    f * (2 : ℝ) ^ (-(1 : ℝ) / 24) ≤ midiToFreq (freqToMidi f a4) a4 ∧
    midiToFreq (freqToMidi f a4) a4 ≤ f * (2 : ℝ) ^ ((1 : ℝ) / 24) := by
  obtain ⟨e, he, _, hv⟩ := pitch_freq_close f a4 hf ha
  rw [hv]
  have h12 : (1 : ℝ) ≤ 2 := by norm_num
  have hb := abs_le.mp he
  constructor
  · apply mul_le_mul_of_nonneg_left _ (le_of_lt hf)
    apply Real.rpow_le_rpow_of_exponent_le h12
    linarith only [hb.1]
  · apply mul_le_mul_of_nonneg_left _ (le_of_lt hf)
    apply Real.rpow_le_rpow_of_exponent_le h12
    linarith only [hb.2]

/-- an equal-tempered frequency comes back exactly (the composition is idempotent on its image) -/
theorem pitch_freq_fixed (p : ℤ) (a4 : ℝ) (ha : 0 < a4) :
    midiToFreq (freqToMidi (midiToFreq p a4) a4) a4 = midiToFreq p a4 := by
  rw [freq_pitch p a4 ha]

end C12
