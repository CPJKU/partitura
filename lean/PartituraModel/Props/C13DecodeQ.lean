/-
C13 — `pianoroll_to_notearray` on real-valued rolls (Model/PianoRollDecodeQ.lean).  The code takes every NON-ZERO cell as
sounding and `int(cell)` (truncation toward zero) as its velocity — velocity 0 for cells strictly between -1 and 1.
-/
import PartituraModel.Props.C13Float
import PartituraModel.Props.C13Args
import PartituraModel.Proofs.C13DecodeQ

namespace C13
open Model Model.PianoRoll
open List

/-- **the real-valued decoder extends the integer decoder** -/
theorem decodeQ_extends (rows : Nat) (cols : List (List Int)) (td : Rat) :
    decodeRunsQ (cols.map fun c : List Int => c.map fun v : Int => (v : Rat)) = decodeRuns cols ∧
    decodeQ rows (cols.map fun c : List Int => c.map fun v : Int => (v : Rat)) td = decode rows cols td := by
  have h := decodeRunsQ_cast cols
  refine ⟨h, ?_⟩
  rw [decodeQ_eq_emit, decode_eq_emit, h]

/-- **decoder, every real-valued matrix, every `time_div`**: 128 / 88 rows only; `time_div = 0` fails as soon as
    there is a note; the notes are the maximal runs of non-zero cells with one integer part (`truncRat`, Python's
    `int()`), `velocity` = that integer part -/
theorem decodeQ_spec (rows : Nat) (cols : List (List Rat)) (td : Rat) :
    ((rows ≠ 128 ∧ rows ≠ 88) → decodeQ rows cols td = none) ∧
    ∀ init, (rows = 128 ∧ init = 0) ∨ (rows = 88 ∧ init = 21) →
      (td = 0 → decodeRunsQ cols ≠ [] → decodeQ rows cols td = none) ∧
      (td ≠ 0 ∨ decodeRunsQ cols = [] → decodeQ rows cols td = some ((decodeRunsQ cols).map (outOf init td))) ∧
      (decodeRunsQ cols).Nodup ∧ (decodeRunsQ cols).Pairwise (fun a b => runLe a b = true) ∧
      ∀ x : Run, x ∈ decodeRunsQ cols ↔
        (x.on < x.off ∧ x.off ≤ cols.length ∧
          (∀ s, x.on ≤ s → s < x.off → cellAtQ cols x.pitch s ≠ 0 ∧ truncRat (cellAtQ cols x.pitch s) = x.vel) ∧
          (x.on = 0 ∨ cellAtQ cols x.pitch (x.on - 1) = 0 ∨ truncRat (cellAtQ cols x.pitch (x.on - 1)) ≠ x.vel) ∧
          (x.off = cols.length ∨ cellAtQ cols x.pitch x.off = 0 ∨ truncRat (cellAtQ cols x.pitch x.off) ≠ x.vel)) := by
  rw [decodeQ_eq_emit]
  obtain ⟨hbad, hok⟩ := emitRuns_spec rows (decodeRunsQ cols) td
  exact ⟨hbad, fun init hinit => ⟨(hok init hinit).1, (hok init hinit).2, decodeRunsQ_spec cols⟩⟩

/-- the integer part: toward zero, less than 1 away; a cell strictly between -1 and 1 has velocity 0; integers are
    their own integer part -/
theorem int_part (q : Rat) :
    |q - (truncRat q : Rat)| < 1 ∧ (0 ≤ q → 0 ≤ truncRat q ∧ (truncRat q : Rat) ≤ q) ∧
    (q < 0 → truncRat q ≤ 0 ∧ q ≤ (truncRat q : Rat)) ∧ (-1 < q → q < 1 → truncRat q = 0) ∧
    (∀ v : Int, truncRat (v : Rat) = v) := by
  obtain ⟨h1, h2, _⟩ := truncRat_spec q
  refine ⟨?_, fun h => ⟨(h1 h).1, (h1 h).2.1⟩, fun h => ⟨(h2 h).1, (h2 h).2.1⟩, ?_, truncRat_intCast⟩
  · rcases le_or_gt 0 q with h | h
    · obtain ⟨_, a, b⟩ := h1 h
      rw [abs_lt]; constructor <;> linarith
    · obtain ⟨_, a, b⟩ := h2 h
      rw [abs_lt]; constructor <;> linarith
  · intro ha hb
    rcases le_or_gt 0 q with h | h
    · exact (truncRat_eq_iff h 0).mpr ⟨by simpa using h, by simpa using hb⟩
    · exact (truncRat_eq_iff_neg h 0).mpr ⟨by simpa using ha, by simpa using h.le⟩

/-- **what is stored**: a pitch / velocity outside the 32-bit column is an OverflowError; otherwise the exact
    decoder's pitches and velocities with the times rounded to binary64 and then to binary32 (`round_spec`) -/
theorem storedQ_spec (rows : Nat) (cols : List (List Rat)) (td : Option Rat) :
    (∀ v : Int, fitsIntCol v = true ↔ -2147483648 ≤ v ∧ v ≤ 2147483647) ∧
    (∀ q, storeCol q = storeF32 q) ∧
    (decodeQ rows cols (td.getD 8) = none → decodeStoredQ rows cols td = none) ∧
    ∀ l, decodeQ rows cols (td.getD 8) = some l →
      ((∃ x ∈ l, fitsIntCol x.2.2.2 = false ∨ fitsIntCol x.1 = false) → decodeStoredQ rows cols td = none) ∧
      ((∀ x ∈ l, fitsIntCol x.2.2.2 = true ∧ fitsIntCol x.1 = true) →
        decodeStoredQ rows cols td = some (l.map fun (p, on, du, v) => (p, storeF32 on, storeF32 du, v))) := by
  have hd : Gen.C13_DEC_DEFAULT_time_div = 8 := by decide
  refine ⟨?_, fun _ => rfl, ?_, ?_⟩
  · intro v
    unfold fitsIntCol
    have : Gen.C13L_DEC_INT_BITS = 32 := by decide
    rw [this]
    simp only [Bool.and_eq_true, decide_eq_true_eq]
    constructor <;> rintro ⟨a, b⟩ <;> constructor <;> omega
  · intro h
    unfold decodeStoredQ
    rw [hd, h]
  · intro l hl
    have heq : decodeStoredQ rows cols td = if l.all (fun x => fitsIntCol x.2.2.2 && fitsIntCol x.1) = true
        then some (l.map fun (p, on, du, v) => (p, storeCol on, storeCol du, v)) else none := by
      unfold decodeStoredQ
      rw [hd, hl]
    rw [heq]
    constructor
    · rintro ⟨x, hx, hbad⟩
      refine if_neg fun hall => ?_
      have := (Bool.and_eq_true _ _).mp (all_eq_true.mp hall x hx)
      rcases hbad with hb | hb
      · rw [hb] at this; exact absurd this.1 (by decide)
      · rw [hb] at this; exact absurd this.2 (by decide)
    · intro hok
      exact if_pos (all_eq_true.mpr fun x hx => (Bool.and_eq_true _ _).mpr (hok x hx))

/-- cells 0.5, 0.7, -0.5 are one note of velocity 0; 1.2, 1.9 one note of velocity 1, then 2.0 another note -/
example : decodeQ 88 ([[(1 : Rat) / 2, 6 / 5] ++ List.replicate 86 0, [(7 : Rat) / 10, 19 / 10] ++ List.replicate 86 0,
    [(-1 : Rat) / 2, 2] ++ List.replicate 86 0]) 1 = some [(21, 0, 3, 0), (22, 0, 2, 1), (22, 2, 1, 2)] := by decide +kernel
/-- a velocity beyond int32 -/
example : decodeStoredQ 88 [[(3000000000 : Rat)] ++ List.replicate 87 0] (some 1) = none := by decide +kernel
example : decodeStoredQ 88 [[(5 : Rat) / 2] ++ List.replicate 87 0] (some 3) = some [(21, some 0, storeF32 (1 / 3), 2)] := by
  decide +kernel

end C13
