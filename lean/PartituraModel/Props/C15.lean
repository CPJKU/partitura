/-
C15 - merging parts keeps every note at the same musical time in disjoint voices.

Model: PartituraModel/Model/Merge.lean (`merge_parts` after the repairs fixes/C15-1..4, 7, 9, `iter_parts`,
the sounding rows of `note_array`).  `image m L ps i p e` is where element `e` of the `i`-th part `p` ends
up: `xform m (ctxAt L ps i p) e`, the loop state `ctxAt` being the multiplier `L / p.divs` and the sums, over
the earlier parts, of their maximal voices / maximal staves / numbers of distinct staves.
`allElems p` are the elements of part `p` together with the objects that are on its timeline by their end only
(`p.tails`, e.g. a slur whose start is not in the score): the voice / staff statements cover both.
Hypotheses named in the statements (Proofs/C15Defs.lean, Proofs/C15Refs.lean):
  NumberedFrom1  voice and staff numbers start from 1
  OidsDistinct   every object occurs once           TiesClosed  a note is tied to notes of its own part
The concrete parts exA .. exD of the examples are defined in Proofs/C15Defs.lean.
-/
import PartituraModel.Proofs.C15Sound
import PartituraModel.Proofs.C15Distinct

namespace C15
open Model.Merge

/-- Two or more parts with positive divisions whose notes carry a voice are always merged (no mode can fail:
in particular the mappings of auto mode contain every voice and staff they are asked for), into a new part
whose divisions are the least common multiple. -/
theorem merge_total (m : Mode) (ps : List APart) (h2 : 2 ≤ ps.length) (hpos : ∀ p ∈ ps, 0 < p.divs)
    (hv : voicesGiven ps = true) :
    ∃ es, mergeParts m ps = some (.merged (lcmList (ps.map (·.divs))) es) :=
  ⟨_, mergeParts_merged_iff.mpr ⟨h2, hpos, hv, rfl, rfl⟩⟩

/-- The merged part holds exactly the images of the kept elements of the inputs - every element of the
first part and every element of a non-discarded class of the later parts - and nothing else (as a multiset:
`es` is a permutation of the elements in order of insertion). -/
theorem merged_contents (m : Mode) (ps : List APart) (L : Nat) (es : List Elem)
    (h : mergeParts m ps = some (.merged L es)) :
    L = lcmList (ps.map (·.divs)) ∧ es.Perm (mergeFrom m L true 0 0 0 ps) ∧
      ∀ e', e' ∈ es ↔ ∃ i p e, ps[i]? = some p ∧ e ∈ p.elems ∧ keep m (i == 0) e = true
                        ∧ e' = image m L ps i p e :=
  ⟨merged_divs h, merged_perm h, mem_es h⟩

/-- Every element keeps its musical time: start and end are multiplied by the integer `L / d_p` (`d_p ∣ L`),
so that position / divisions is unchanged as a rational; identity, class and pitch are untouched. -/
theorem time_preserved (m : Mode) (ps : List APart) (hpos : ∀ p ∈ ps, 0 < p.divs) (i : Nat) (p : APart)
    (hp : ps[i]? = some p) (e : Elem) :
    let L := lcmList (ps.map (·.divs))
    let e' := image m L ps i p e
    p.divs ∣ L ∧ (L / p.divs) * p.divs = L
      ∧ e'.start = e.start * (L / p.divs) ∧ (e'.start : Rat) / L = (e.start : Rat) / p.divs
      ∧ e'.stop = e.stop.map (· * (L / p.divs))
      ∧ e'.stop.map (fun (s : Nat) => (s : Rat) / (L : Rat))
          = e.stop.map (fun (s : Nat) => (s : Rat) / (p.divs : Rat))
      ∧ e'.oid = e.oid ∧ e'.cls = e.cls ∧ e'.pitch = e.pitch := by
  intro L e'
  have hmem : p ∈ ps := List.mem_of_getElem? hp
  have hdvd : p.divs ∣ L := divs_dvd_lcm hmem
  have hrat : ∀ s : Nat, ((s * (L / p.divs) : Nat) : Rat) / L = (s : Rat) / p.divs := fun _ =>
    rescale_rat (hpos p hmem) (lcm_divs_pos hpos) hdvd
  refine ⟨hdvd, Nat.div_mul_cancel hdvd, image_start .., ?_, image_stop .., ?_, xform_oid .., xform_cls ..,
    xform_pitch ..⟩
  · rw [image_start]; exact hrat _
  · rw [image_stop]
    cases e.stop with
    | none => rfl
    | some s => exact congrArg some (hrat s)

/-- voice mode: notes (and rests) of different inputs never share a voice -/
theorem voices_disjoint (L : Nat) (ps : List APart) (hnum : NumberedFrom1 ps) (i j : Nat) (p q : APart)
    (hp : ps[i]? = some p) (hq : ps[j]? = some q) (hij : i ≠ j) (a b : Elem) (ha : a ∈ allElems p)
    (hb : b ∈ allElems q) (hga : isGeneric a.cls = true) (hgb : isGeneric b.cls = true) (va vb : Nat)
    (hva : a.voice = some va) (hvb : b.voice = some vb) :
    (image .voice L ps i p a).voice ≠ (image .voice L ps j q b).voice := by
  simp only [image_voice_voice hga, image_voice_voice hgb, hva, hvb, Option.map_some, ne_eq, Option.some.injEq]
  exact (voice_inBlock hnum hp ha hga hva).ne (voice_inBlock hnum hq hb hgb hvb) hij hp hq

/-- voice mode: within one input, two notes share a voice after merging iff they did before -/
theorem voices_kept (L : Nat) (ps : List APart) (i : Nat) (p : APart) (a b : Elem)
    (hga : isGeneric a.cls = true) (hgb : isGeneric b.cls = true) :
    a.voice = b.voice ↔ (image .voice L ps i p a).voice = (image .voice L ps i p b).voice := by
  rw [image_voice_voice hga, image_voice_voice hgb]
  cases a.voice <;> cases b.voice <;> simp

/-- voice mode leaves every staff alone -/
theorem staves_untouched (L : Nat) (ps : List APart) (i : Nat) (p : APart) (a : Elem) :
    (image .voice L ps i p a).staff = a.staff := voice_mode_staff _ _

/-- staff mode: elements that carry a staff (notes, rests, words, directions, clefs) of different inputs never
share a staff; a missing staff counts as staff 1 -/
theorem staves_disjoint (L : Nat) (ps : List APart) (hnum : NumberedFrom1 ps) (i j : Nat) (p q : APart)
    (hp : ps[i]? = some p) (hq : ps[j]? = some q) (hij : i ≠ j) (a b : Elem) (ha : a ∈ allElems p)
    (hb : b ∈ allElems q) (hsa : withStaff a.cls = true) (hsb : withStaff b.cls = true) :
    (image .staff L ps i p a).staff ≠ (image .staff L ps j q b).staff := by
  simp only [image_staff_staff hsa, image_staff_staff hsb, ne_eq, Option.some.injEq]
  exact (staff_inBlock hnum hp ha hsa).ne (staff_inBlock hnum hq hb hsb) hij hp hq

/-- staff mode: within one input, two elements share a staff after merging iff they did before -/
theorem staves_kept (L : Nat) (ps : List APart) (i : Nat) (p : APart) (a b : Elem)
    (hsa : withStaff a.cls = true) (hsb : withStaff b.cls = true) :
    a.staff.getD 1 = b.staff.getD 1
      ↔ (image .staff L ps i p a).staff = (image .staff L ps i p b).staff := by
  simp only [image_staff_staff hsa, image_staff_staff hsb, Option.some.injEq]
  omega

/-- staff mode leaves every voice alone -/
theorem voices_untouched (L : Nat) (ps : List APart) (i : Nat) (p : APart) (a : Elem) :
    (image .staff L ps i p a).voice = a.voice := staff_mode_voice _ _

/-- auto mode: staves of different inputs are disjoint (no assumption on the numbering) -/
theorem staves_disjoint_auto (L : Nat) (ps : List APart) (i j : Nat) (p q : APart)
    (hp : ps[i]? = some p) (hq : ps[j]? = some q) (hij : i ≠ j) (a b : Elem) (ha : a ∈ allElems p)
    (hb : b ∈ allElems q) (hsa : withStaff a.cls = true) (hsb : withStaff b.cls = true) :
    (image .auto L ps i p a).staff ≠ (image .auto L ps j q b).staff := by
  simp only [image_auto_staff hsa, image_auto_staff hsb, ne_eq, Option.some.injEq]
  exact (auto_staff_inBlock ha hsa).ne (auto_staff_inBlock hb hsb) hij hp hq

/-- auto mode: within one input, staves are shared after merging iff they were before -/
theorem staves_kept_auto (L : Nat) (ps : List APart) (i : Nat) (p : APart) (a b : Elem) (ha : a ∈ allElems p)
    (hb : b ∈ allElems p) (hsa : withStaff a.cls = true) (hsb : withStaff b.cls = true) :
    a.staff.getD 1 = b.staff.getD 1
      ↔ (image .auto L ps i p a).staff = (image .auto L ps i p b).staff := by
  simp only [image_auto_staff hsa, image_auto_staff hsb, Option.some.injEq]
  constructor
  · intro h; rw [h]
  · intro h
    exact rank_inj (staff_mem_uStaves ha hsa) (staff_mem_uStaves hb hsb) (by omega)

/-- auto mode: within one input, voices are shared after merging iff they were before -/
theorem voices_kept_auto (L : Nat) (ps : List APart) (i : Nat) (p : APart) (a b : Elem) (ha : a ∈ allElems p)
    (hb : b ∈ allElems p) (hga : isGeneric a.cls = true) (hgb : isGeneric b.cls = true) :
    a.voice = b.voice ↔ (image .auto L ps i p a).voice = (image .auto L ps i p b).voice := by
  rw [image_auto_voice hga, image_auto_voice hgb]
  cases hva : a.voice with
  | none => cases hvb : b.voice <;> simp
  | some va =>
    cases hvb : b.voice with
    | none => simp
    | some vb =>
      simp only [Option.map_some, Option.some.injEq]
      constructor
      · intro h; rw [h]
      · intro h
        exact rank_inj (voice_mem_uVoices ha hga hva) (voice_mem_uVoices hb hgb hvb) (by omega)

/-- auto mode, PARTIAL: voices of different inputs are disjoint *provided every part has at most four voices per
staff* (`4 * nStaves`), which is the documented assumption of the numbering ("we consider 4 voices per staff").
Missing for the full property: parts with more voices; `auto_overflow_witness` shows they do collide. -/
theorem voices_disjoint_auto_partial (L : Nat) (ps : List APart)
    (h4 : ∀ p ∈ ps, (uVoices p).length ≤ 4 * nStaves p) (i j : Nat) (p q : APart)
    (hp : ps[i]? = some p) (hq : ps[j]? = some q) (hij : i ≠ j) (a b : Elem) (ha : a ∈ allElems p)
    (hb : b ∈ allElems q) (hga : isGeneric a.cls = true) (hgb : isGeneric b.cls = true) (va vb : Nat)
    (hva : a.voice = some va) (hvb : b.voice = some vb) :
    (image .auto L ps i p a).voice ≠ (image .auto L ps j q b).voice := by
  simp only [image_auto_voice hga, image_auto_voice hgb, hva, hvb, Option.map_some, ne_eq, Option.some.injEq]
  exact (auto_voice_inBlock ha hga hva (h4 p (List.mem_of_getElem? hp))).ne
    (auto_voice_inBlock hb hgb hvb (h4 q (List.mem_of_getElem? hq))) hij hp hq

/-- the classes that are taken from the first part only, per mode, over the whole generated class table: the
class tuples `el_to_discard` are those of the live source (Gen/C15Tables.lean, regenerated by
harness/translate_c15.py on every run), closed under subclassing through the generated MRO table -/
theorem discard_table :
    (Gen.classNames.filter fun n => discard .voice (classId n))
        = ["Page", "System", "Clef", "DaCapo", "Fine", "Fermata", "Ending", "Barline", "Measure",
           "TimeSignature", "Tempo", "KeySignature"]
      ∧ (Gen.classNames.filter fun n => discard .staff (classId n))
        = ["Page", "System", "DaCapo", "Fine", "Fermata", "Ending", "Barline", "Measure",
           "TimeSignature", "Tempo", "KeySignature"]
      ∧ (Gen.classNames.filter fun n => discard .auto (classId n))
        = (Gen.classNames.filter fun n => discard .staff (classId n)) := by decide +kernel

/-- no note, rest or other GenericNote class is ever discarded (whole class table) -/
theorem notes_never_discarded :
    ∀ c ∈ List.range Gen.numClasses, isGeneric c = true →
      discard .voice c = false ∧ discard .staff c = false ∧ discard .auto c = false :=
  fun _ _ hg => ⟨not_discard_of_isGeneric _ hg, not_discard_of_isGeneric _ hg, not_discard_of_isGeneric _ hg⟩

/-- An element of a discarded (structural) class in the merged part is the image of an element of the first
part; conversely (`merged_contents`) every element of the first part is in the merged part. -/
theorem structural_first (m : Mode) (ps : List APart) (L : Nat) (es : List Elem)
    (h : mergeParts m ps = some (.merged L es)) (e' : Elem) (he' : e' ∈ es)
    (hd : discard m e'.cls = true) :
    ∃ p e, ps[0]? = some p ∧ e ∈ p.elems ∧ e' = image m L ps 0 p e := by
  obtain ⟨i, p, e, hp, he, hk, rfl⟩ := (mem_es h e').mp he'
  cases i with
  | zero => exact ⟨p, e, hp, he, rfl⟩
  | succ i =>
    rw [image, xform_cls] at hd
    rw [keep, hd] at hk
    cases hk

/-- everything of the first part is in the merged part -/
theorem first_part_complete (m : Mode) (ps : List APart) (L : Nat) (es : List Elem)
    (h : mergeParts m ps = some (.merged L es)) (p : APart) (hp : ps[0]? = some p) (e : Elem)
    (he : e ∈ p.elems) : image m L ps 0 p e ∈ es :=
  (mem_es h _).mpr ⟨0, p, e, hp, he, rfl, rfl⟩

/-- every element of a later part whose class is not discarded is in the merged part -/
theorem later_parts_complete (m : Mode) (ps : List APart) (L : Nat) (es : List Elem)
    (h : mergeParts m ps = some (.merged L es)) (i : Nat) (p : APart) (hp : ps[i]? = some p) (e : Elem)
    (he : e ∈ p.elems) (hd : discard m e.cls = false) : image m L ps i p e ∈ es :=
  (mem_es h _).mpr ⟨i, p, e, hp, he, keep_of_not_discard _ hd, rfl⟩

/-- a single part - given directly, in a (nested) group, in a list, or through a Score - is returned as is,
whatever the mode and whatever its divisions -/
theorem single_identity (m : Mode) (s : Shape) (p : APart) (h : iterParts s = [p]) :
    merge m s = some (.same p) := by
  rw [merge, h]; rfl

/-- ... also when that one part is reachable more than once (listed twice; on its own and inside its group):
what counts is the number of different Part objects (fixes/C15-11) -/
theorem single_identity_distinct (m : Mode) (s : Shape) (p : APart) (h : distinctParts (iterParts s) = [p]) :
    merge m s = some (.same p) := by
  rw [merge, h, mergeParts_singleton]

example : distinctParts (iterParts (.many [.part exA, .group [.part exA, .group [.part exA]]])) = [exA] := rfl

/-- The sounding rows (onset, tied duration, pitch) of the merged part are, as a multiset, the rows of the
inputs rescaled to the least common multiple - i.e. the rows of the score-level note array
(`note_array_from_part_list`, `refSound`). Hypotheses: every object occurs once, ties stay within a part. -/
theorem sounding_equal (m : Mode) (ps : List APart) (L : Nat) (es : List Elem)
    (h : mergeParts m ps = some (.merged L es)) (hid : OidsDistinct ps) (hties : TiesClosed ps) :
    ((rows es).map Row.sound).Perm (refSound ps) := by
  have hperm := merged_perm h
  have hnd : (es.map (·.oid)).Nodup := (hperm.map _).nodup_iff.mpr (raw_nodup m L hid)
  have hrows := (rows_perm hperm hnd).map Row.sound
  rwa [sounding_raw m L ps hid hties, merged_divs h] at hrows

/-- the hypotheses of the theorems hold for a non-trivial score: divisions 3 and 4 (lcm 12 exceeds both), a tie
chain, a rest in its own voice, missing staves, structural and non-structural elements in both parts -/
example : NumberedFrom1 [exA, exB] ∧ OidsDistinct [exA, exB] ∧ TiesClosed [exA, exB]
    ∧ voicesGiven [exA, exB] = true ∧ (∀ p ∈ [exA, exB], 0 < p.divs)
    ∧ (∀ p ∈ [exA, exB], (uVoices p).length ≤ 4 * nStaves p) := by
  unfold NumberedFrom1 OidsDistinct TiesClosed
  decide +kernel

/-- ... and the merge of that score in voice mode is the expected part: lcm 12, part B's measure and tempo
dropped, B's voices 1, 3 renumbered 3, 5 (A's maximal voice is 2), times multiplied by 4 and 3, in the order
`iter_all()` yields (time point, class walk, insertion) -/
example : (mergeParts .voice [exA, exB]).map summary
    = some (12, [(0, 0, some 12, some 1, some 1), (10, 0, some 18, some 3, some 1),
                 (11, 0, some 0, some 3, some 1), (1, 0, some 36, some 2, some 1), (2, 0, none, none, some 2),
                 (3, 0, some 48, none, none), (14, 0, none, none, some 1), (4, 12, some 36, some 1, some 1),
                 (15, 18, some 48, some 5, none), (5, 36, some 48, some 1, none)]) := by
  -- instance search does not reach `DecidableEq` of this list of tuples; `==` it finds
  refine eq_of_beq ?_
  decide +kernel

/-- staff mode: B's clef-less staff 1 (and its notes without staff) go to staff 3, above A's two staves -/
example : (mergeParts .staff [exA, exB]).map summary
    = some (12, [(0, 0, some 12, some 1, some 1), (10, 0, some 18, some 1, some 3),
                 (11, 0, some 0, some 1, some 3), (1, 0, some 36, some 2, some 1), (2, 0, none, none, some 2),
                 (3, 0, some 48, none, none), (14, 0, none, none, some 3), (4, 12, some 36, some 1, some 1),
                 (15, 18, some 48, some 3, some 3), (5, 36, some 48, some 1, some 1)]) := by
  refine eq_of_beq ?_
  decide +kernel

/-- its sounding rows (auto mode): the tied pair of A sounds for 36 = (3 + 6) * 4 -/
example : (match mergeParts .auto [exA, exB] with
      | some (.merged _ es) => (rows es).map Row.sound
      | _ => [])
    = [(0, some 36, some 60), (0, some 18, some 48), (0, some 0, some 50), (18, some 30, some 55),
       (36, some 12, some 64)] := by decide +kernel

/-- hypotheses of `structural_first`: the merged part does hold elements of discarded classes (A's clef and measure) -/
example : ∃ es, mergeParts .voice [exA, exB] = some (.merged 12 es)
    ∧ ∃ e' ∈ es, discard .voice e'.cls = true := by
  obtain ⟨es, h⟩ := merge_total .voice [exA, exB] (by decide) (by decide) (by decide +kernel)
  -- A's clef
  refine ⟨es, h, _, first_part_complete .voice _ _ _ h exA rfl _
    (List.mem_cons_of_mem _ (List.mem_cons_of_mem _ List.mem_cons_self)), ?_⟩
  rw [image, xform_cls]
  decide +kernel

/-- hypotheses of the disjointness theorems: two different parts, a note with a voice in each -/
example : ∃ a ∈ allElems exA, ∃ b ∈ allElems exB, [exA, exB][0]? = some exA ∧ [exA, exB][1]? = some exB
    ∧ isGeneric a.cls = true ∧ isGeneric b.cls = true ∧ withStaff a.cls = true ∧ withStaff b.cls = true
    ∧ a.voice = some 1 ∧ b.voice = some 1 :=
  ⟨_, List.mem_cons_self, _, List.mem_cons_self, rfl, rfl, by decide +kernel⟩

/-- hypotheses of `single_identity`: a part alone in nested groups, in a list, or given directly -/
example : iterParts (.many [.group [.group [.part exA], .group []]]) = [exA] := rfl
example : iterParts (.one (.part exA)) = [exA] ∧ iterParts (.one (.group [.part exA])) = [exA] := ⟨rfl, rfl⟩

/-- F-C15-6 (open finding): with five voices on the one staff of the first part, auto mode gives the fifth voice of
the first part and the voice of the second part the same number - the conclusion of
`voices_disjoint_auto_partial` fails where its assumption of at most 4 voices per staff does. -/
theorem auto_overflow_witness :
    ∃ a ∈ allElems exC, ∃ b ∈ allElems exD, isGeneric a.cls = true ∧ isGeneric b.cls = true
      ∧ a.voice = some 5 ∧ b.voice = some 1 ∧ NumberedFrom1 [exC, exD]
      ∧ ¬ ((uVoices exC).length ≤ 4 * nStaves exC)
      ∧ (image .auto 2 [exC, exD] 0 exC a).voice = (image .auto 2 [exC, exD] 1 exD b).voice := by
  unfold NumberedFrom1
  decide +kernel

end C15
