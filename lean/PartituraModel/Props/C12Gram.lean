/-
C12 — the documented grammar of note names, `<step><accidentals><octave>`, for every accidental string of the sign
table (Props/C12.lean has the names `pitch_spelling_to_note_name` prints).
-/
import PartituraModel.Props.C12Ext

namespace C12
open Model Gen Gen.C12 C12Bridge

/-- the sign strings of SIGN_TO_ALTER that the note-name pattern can read (made of `x`, `b`, `#` only) -/
def grammarSigns : List (String × Option Int) :=
  SIGN_TO_ALTER.filter fun e => !e.1.toList.isEmpty && e.1.toList.all isAccChar

theorem grammar_signs_facts :
    ∀ e ∈ grammarSigns, (∀ x ∈ e.1.toList, isAccChar x = true) ∧ e.1.toList.isEmpty = false ∧
      lookup (String.ofList e.1.toList) SIGN_TO_ALTER = some e.2 := by decide +kernel

/-- **the documented grammar** `<step><accidentals><octave>`: every step letter, EVERY accidental string the sign table
    knows (`#`, `##`, `x`, `###`, `b`, `bb`, `bbb` — also the spellings `pitch_spelling_to_note_name` never prints),
    EVERY octave ≥ 0: parsed to the step, the table's alteration and the octave, and sounding that pitch -/
theorem name_grammar (s : String) (hs : s ∈ ["C", "D", "E", "F", "G", "A", "B"])
    (e : String × Option Int) (he : e ∈ grammarSigns) (o : Nat) :
    noteNameToSpellingG (s ++ e.1 ++ showNat o) = some (s, e.2, some (o : Int)) ∧
    noteNameToMidiG (s ++ e.1 ++ showNat o) = spellingToMidiG s e.2 (o : Int) := by
  obtain ⟨c, -, hs1, hc, -, hup⟩ := step_letters s hs
  obtain ⟨hacc, hne, hlook⟩ := grammar_signs_facts e he
  have hname : (s ++ e.1 ++ showNat o).toList = c :: (e.1.toList ++ natDigits o) := by
    simp [String.toList_append, hs1, showNat]
  have main : noteNameToSpelling (s ++ e.1 ++ showNat o) = some (s, e.2, (o : Int)) := by
    rw [parse_note_name _ c _ o hname hc hacc, hne, hup]
    simp only [Bool.false_eq_true, if_false, hlook, Option.map_some]
  constructor
  · rw [noteNameToSpellingG_eq, main]; rfl
  · rw [noteNameToMidiG_eq, spellingToMidiG_eq, noteNameToMidi, main]

example : grammarSigns.map Prod.fst = ["#", "x", "##", "###", "b", "bb", "bbb"] := by decide +kernel

end C12
