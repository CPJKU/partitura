/-
C11 — the grace-note loop of `sanitize_part`: "find and remove … grace notes without a main note", proved for
the loop as it is written (Model/Sanitize.lean `graceLoop`: offers in iteration order, the last note of the voice wins,
the link is put on the LAST grace note of the sequence), for every part — any links between grace notes (sequences,
dangling and cyclic links, equal keys), any notes.
-/
import PartituraModel.Props.C11Sound
import PartituraModel.Proofs.C11Grace

namespace C11
open Model Model.Dur Model.Meas Model.San C11Grace

/-- **sanitize_removes_only_incomplete**: every key `sanitize_part` adds to the removed grace notes is the key of a grace
    note of the part, and that grace note had NO main note when the call began; in particular
    (`sanitize_complete_grace_kept`) a grace note that has a main note is never removed -/
theorem sanitize_removes_only_incomplete (s : SanState) (tol k : Nat)
    (hk : k ∈ (sanitizePart s tol).removed) (hnew : k ∉ s.removed) :
    k ∈ s.graces.map (·.key) ∧
    ∀ g, lkG s.graces k = some g → mainNote s.graces (s.graces.length + 1) g = none := by
  have hk' : k ∈ (graceLoop s.notes s.graces).2 := by
    have : k ∈ s.removed ++ (graceLoop s.notes s.graces).2 := hk
    rcases List.mem_append.mp this with h | h
    · exact absurd h hnew
    · exact h
  obtain ⟨h1, h2⟩ := (graceLoop_inv s.notes s.graces).listed k hk'
  refine ⟨h1, fun g hg => ?_⟩
  have := h2 g hg
  cases hm : mainNote s.graces (s.graces.length + 1) g with
  | none => rfl
  | some _ => rw [hm] at this; cases this

theorem sanitize_complete_grace_kept (s : SanState) (tol k : Nat) (g : Grace) (hg : lkG s.graces k = some g)
    (hm : (mainNote s.graces (s.graces.length + 1) g).isSome = true) (hnew : k ∉ s.removed) :
    k ∉ (sanitizePart s tol).removed := by
  intro hk
  have := (sanitize_removes_only_incomplete s tol k hk hnew).2 g hg
  rw [this] at hm
  cases hm

/-- **sanitize_kept_grace_has_main** (lookup form, no condition on the keys): a grace note found in the part after
    `sanitize_part` whose key was not listed for removal has a main note -/
theorem sanitize_kept_grace_has_main_lk (s : SanState) (tol k : Nat) (g : Grace)
    (hg : lkG (sanitizePart s tol).graces k = some g) (hk : k ∉ (sanitizePart s tol).removed) :
    (mainNote (sanitizePart s tol).graces ((sanitizePart s tol).graces.length + 1) g).isSome = true := by
  have inv := graceLoop_inv s.notes s.graces
  have hg' : lkG (graceLoop s.notes s.graces).1 k = some g := hg
  have hk' : k ∉ (graceLoop s.notes s.graces).2 := fun h => hk (List.mem_append_right _ h)
  have hdone : k ∈ s.graces.map (·.key) := by
    rw [← reach_keys inv.reach]
    obtain ⟨hm, hkey⟩ := lkG_mem _ k g hg'
    exact List.mem_map.mpr ⟨g, hm, hkey⟩
  exact inv.kept k hdone hk' g hg'

/-- **sanitize_kept_grace_has_main**: with distinct keys (one key per object), every grace note that is still in the part
    after `sanitize_part` has a main note -/
theorem sanitize_kept_grace_has_main (s : SanState) (tol : Nat) (hnd : (s.graces.map (·.key)).Nodup) :
    ∀ g ∈ keptGraces (sanitizePart s tol),
      (mainNote (sanitizePart s tol).graces ((sanitizePart s tol).graces.length + 1) g).isSome = true := by
  intro g hg
  unfold keptGraces at hg
  obtain ⟨hmem, hnot⟩ := List.mem_filter.mp hg
  have hnd' : ((sanitizePart s tol).graces.map (·.key)).Nodup := by
    have : (sanitizePart s tol).graces = (graceLoop s.notes s.graces).1 := rfl
    rw [this, reach_keys (graceLoop_inv s.notes s.graces).reach]
    exact hnd
  have hl := lkG_self _ hnd' g hmem
  refine sanitize_kept_grace_has_main_lk s tol g.key g hl ?_
  intro hin
  have : (sanitizePart s tol).removed.contains g.key = true := List.contains_iff_mem.mpr hin
  rw [this] at hnot
  cases hnot

/-- **sanitize_grace_links**: `sanitize_part` moves and revoices no grace note and keeps their order; the `grace_next` of
    a grace note afterwards is the one entered, or a plain note of the part that starts where a grace note of the part
    starts and has that grace note's voice -/
theorem sanitize_grace_links (s : SanState) (tol : Nat) :
    ∃ f : Grace → Grace, (sanitizePart s tol).graces = s.graces.map f ∧
      ∀ g, (f g).key = g.key ∧ (f g).start = g.start ∧ (f g).voice = g.voice ∧
        ((f g).next = g.next ∨
          ∃ no ∈ s.notes, (f g).next = .note no.key ∧ ∃ h ∈ s.graces, no.start = h.start ∧ no.voice = h.voice) := by
  obtain ⟨f, hf, hprop⟩ := reach_map (graceLoop_inv s.notes s.graces).reach
  refine ⟨f, hf, fun g => ?_⟩
  obtain ⟨a, b, c, d⟩ := hprop g
  refine ⟨a, b, c, ?_⟩
  rcases d with d | ⟨x, ⟨no, hno, hkey, h, hh, hs, hv⟩, hx⟩
  · exact Or.inl d
  · exact Or.inr ⟨no, hno, by rw [hx, hkey], h, hh, hs, hv⟩

/-- **grace_adopter_is_last**: WHICH note adopts — in the turn of a grace note `g` that has no main note, of all plain
    notes that start where `g` starts and have its voice the LAST one in iteration order becomes the `grace_next` of the
    last grace note of `g`'s sequence (every earlier offer is overwritten); if there is none the links stay as they are.
    A grace note that has a main note leaves links and removal list untouched (`grace_turn_complete_noop`) -/
theorem grace_adopter_is_last (notes : List Note) (st : List Grace × List Nat) (k : Nat) (g : Grace)
    (hg : lkG st.1 k = some g) (hm : mainNote st.1 (st.1.length + 1) g = none) :
    (graceStep notes st k).1 =
      match ((notes.filter fun n => n.start = g.start).filter fun no => no.voice = g.voice).getLast? with
      | none => st.1
      | some c => setNext st.1 (lastInSeq st.1 (st.1.length + 1) g) (.note c.key) := by
  have h1 : (graceStep notes st k).1 =
      (notes.filter fun n => n.start = g.start).foldl (offer k g.voice (st.1.length + 1)) st.1 := by
    unfold graceStep
    rw [hg]
    simp only [hm, Option.isNone_none, if_true]
    split
    · split <;> rfl
    · rfl
  rw [h1]
  exact offers_closed k g.voice (st.1.length + 1) _ st.1 g hg

/-- **grace_turn_complete_noop**: the turn of a grace note that has a main note changes neither links nor removal list -/
theorem grace_turn_complete_noop (notes : List Note) (st : List Grace × List Nat) (k : Nat) (g : Grace)
    (hg : lkG st.1 k = some g) (hm : (mainNote st.1 (st.1.length + 1) g).isSome = true) :
    graceStep notes st k = st :=
  graceStep_complete notes st k g hg hm

/-- **sanitize_part_after_normalise**: the whole of `sanitize_part` (any tolerance, any grace notes, tuplets and slurs in
    the part) after `tie_notes` and `find_tuplets` on a well-formed note list: the note array of the plain notes is the
    one entered, and whatever is removed is a grace note of the part that had no main note -/
theorem sanitize_part_after_normalise (p : PartM) (ns : List Note) (tol : Nat) (gs : List Grace) (tu sl : List Span)
    (hkeys : C11Rows.KeysOK ns) (hlinks : C11Rows.LinksOK ns) (hw : C11Sound.Walkable ns) (hc : C11Walk.ContigAll ns) :
    soundingMidi (sanitizePart ⟨(Model.Tup.findTuplets p.qd (tieNotes p ns)).notes, gs, [], tu, sl⟩ tol).notes =
      soundingMidi ns ∧
    ∀ k ∈ (sanitizePart ⟨(Model.Tup.findTuplets p.qd (tieNotes p ns)).notes, gs, [], tu, sl⟩ tol).removed,
      k ∈ gs.map (·.key) ∧ ∀ g, lkG gs k = some g → mainNote gs (gs.length + 1) g = none := by
  constructor
  · exact (normalise_note_array_same p ns tol hkeys hlinks hw hc).1
  · intro k hk
    exact sanitize_removes_only_incomplete ⟨_, gs, [], tu, sl⟩ tol k hk List.not_mem_nil

-- the last candidate wins: plain notes 0 and 5 of voice 1 (and 3 of voice 2 between them) start with the grace note
example : (graceStep [exA, { exA with key := 3, voice := some 2 }, { exA with key := 5 }]
    ([⟨7, 0, some 1, .none⟩], []) 7).1 = [⟨7, 0, some 1, .note 5⟩] := by decide +kernel

-- non-vacuity on the part `exSan` of Props/C11Sound.lean (graces 0 and 1 without main note; 0 finds one, 1 is removed):
-- the keys are distinct, the kept grace note is 0 with the plain note 0 as main note, and 1 had none when entered
example : (exSan.graces.map (·.key)).Nodup := by decide
example : (keptGraces (sanitizePart exSan 0)).map (·.key) = [0] ∧
    (sanitizePart exSan 0).removed = [1] ∧
    mainNote (sanitizePart exSan 0).graces 3 ⟨0, 0, some 1, .note 0⟩ = some 0 ∧
    mainNote exSan.graces 3 ⟨1, 0, some 2, .none⟩ = none := by decide +kernel
-- a sequence 0 → 1 → main note 0: complete, so nothing is removed, whatever the notes
def exSeq : SanState :=
  { notes := [exA], graces := [⟨0, 0, some 1, .grace 1⟩, ⟨1, 0, some 1, .note 0⟩], removed := [], tuplets := [], slurs := [] }
example : lkG exSeq.graces 0 = some ⟨0, 0, some 1, .grace 1⟩ ∧
    (mainNote exSeq.graces 3 ⟨0, 0, some 1, .grace 1⟩).isSome = true ∧ (sanitizePart exSeq 0).removed = [] := by
  decide +kernel
-- the link goes on the LAST grace note of the sequence: 0 → 1 → nothing, a plain note of voice 1 starts with grace note 0
def exSeq2 : SanState :=
  { exSeq with graces := [⟨0, 0, some 1, .grace 1⟩, ⟨1, 0, some 1, .none⟩] }
example : (sanitizePart exSeq2 0).graces = [⟨0, 0, some 1, .grace 1⟩, ⟨1, 0, some 1, .note 0⟩] ∧
    (sanitizePart exSeq2 0).removed = [] := by decide +kernel
-- a later turn may complete a grace note that was already listed: 0 (voice 1, no plain note of voice 1) → 1 (voice 2);
-- grace note 1 adopts the plain note of voice 2, grace note 0 is removed all the same — so "removed ⇒ no main note
-- afterwards" is NOT a theorem; what holds is `sanitize_removes_only_incomplete` (no main note when the call began)
def exLate : SanState :=
  { exSeq with notes := [{ exA with voice := some 2 }],
               graces := [⟨0, 0, some 1, .grace 1⟩, ⟨1, 0, some 2, .none⟩] }
example : (sanitizePart exLate 0).removed = [0] ∧
    mainNote (sanitizePart exLate 0).graces 3 ⟨0, 0, some 1, .grace 1⟩ = some 0 := by decide +kernel

end C11
