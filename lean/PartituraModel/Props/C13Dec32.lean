/-
C13 — the decoder with `time_div` a `numpy.float32` (Model/PianoRollDecode32.lean): the quotient
`float(on) / time_div` is formed in binary32, so a stored time is rounded once (the binary64 route of `storeF32` rounds
twice: `stored_close`).
-/
import PartituraModel.Props.C13Float
import PartituraModel.Model.PianoRollDecode32

namespace C13
open Model Model.PianoRoll C13Float
open List

/-- **the same notes**: pitches and velocities (and their order) do not depend on the kind of `time_div` -/
theorem dec32_notes (rows : Nat) (cols : List (List Int)) (td : Rat) (htd : td ≠ 0) :
    (decodeStored32 rows cols td).map (fun l => l.map fun x => (x.1, x.2.2.2)) =
      (decodeStored rows cols (some td)).map (fun l => l.map fun x => (x.1, x.2.2.2)) := by
  unfold decodeStored32 decodeStored decodeKw decode
  cases Model.lookup rows Gen.C13_DEC_SHAPES with
  | none => rfl
  | some init =>
    -- `comp_def` leaves the two projections applied to the tuples, so the times drop out by reduction
    -- (closing by `rfl` on the composed functions makes the kernel compare `quot32` with `storeF32` first)
    simp only [Option.getD_some, htd, false_and, if_false, Option.map_some, map_map, Function.comp_def]

/-- a frame number below `2^24` is a binary32 number -/
theorem f32_nat (x : Nat) (hx : x < 2 ^ 24) : f32? (x : ℚ) = some (x : ℚ) := by
  have h := roundBin_exact 24 (-149) (x : Int) 0 (by simpa using hx) (by norm_num)
  rw [pow2_zero, mul_one, Int.cast_natCast] at h
  have hlt : |(x : ℚ)| < pow2 128 := by
    rw [abs_of_nonneg (Nat.cast_nonneg x), pow2_eq]
    calc (x : ℚ) < (2 : ℚ) ^ (24 : Nat) := by exact_mod_cast hx
      _ ≤ (2 : ℚ) ^ (128 : Int) := by
        rw [← zpow_natCast]
        exact zpow_le_zpow_right₀ (by norm_num) (by norm_num)
  rw [f32?_eq, h, if_neg (not_le.mpr hlt)]

/-- **one rounding**: for a frame number `x < 2^24` a finite stored time is the quotient `x / td` rounded once to
    binary32 — within `|x / td| * 2^-24` of it in the normal range -/
theorem quot32_spec (x : Nat) (td y : Rat) (hx : x < 2 ^ 24) (h : quot32 x td = some y) :
    y = roundBin 24 (-149) ((x : ℚ) / td) ∧
    ((2 : ℚ) ^ (-126 : Int) ≤ |(x : ℚ) / td| → |y - (x : ℚ) / td| ≤ |(x : ℚ) / td| * (2 : ℚ) ^ (-24 : Int)) := by
  unfold quot32 at h
  rw [f32_nat x hx] at h
  simp only [Option.bind_some] at h
  have hy : y = roundBin 24 (-149) ((x : ℚ) / td) := by
    rw [f32?_eq] at h
    split at h
    · cases h
    · exact (Option.some.inj h).symm
  refine ⟨hy, ?_⟩
  intro hn
  rw [hy]
  have he : ((-149 : Int) + ((24 : Nat) : Int) - 1) = -126 := by norm_num
  have h24 : (-(((24 : Nat)) : Int)) = (-24 : Int) := by norm_num
  have := (round_spec 24 (-149) ((x : ℚ) / td)).2.2.2.1 (by rw [he]; exact hn)
  rwa [h24] at this

/-- **exact on power-of-two grids**: when the quotient is `m * 2^k` with `|m| < 2^24`, `k ≥ -149`, a finite stored time
    is the quotient itself (the value the binary64 route stores too: `stored_exact`) -/
theorem quot32_exact (x : Nat) (td y : Rat) (hx : x < 2 ^ 24) (h : quot32 x td = some y)
    (m k : Int) (hq : (x : ℚ) / td = (m : ℚ) * (2 : ℚ) ^ k) (hm : m.natAbs < 2 ^ 24) (hk : -149 ≤ k) :
    y = (x : ℚ) / td := by
  rw [(quot32_spec x td y hx h).1]
  exact (round_spec 24 (-149) ((x : ℚ) / td)).2.2.2.2 m k hq hm hk

/-- frame 7 at `time_div = float32(0.1)` (= 13421773 / 2^27): 70.0 in binary32; the binary64 route forms 69.99999895…
    and stores the same binary32 number — the two routes can differ only where the binary64 quotient falls within `2^-53`
    (relative) of a midpoint between two binary32 numbers (double rounding); 1 / 3 in binary32; an exact quotient -/
example : quot32 7 (13421773 / 134217728) = some 70 ∧ storeF32 (7 / (13421773 / 134217728)) = some 70 ∧
    quot32 1 3 = some (11184811 / 33554432) ∧ quot32 3 (1/2) = some 6 := by decide +kernel

end C13
