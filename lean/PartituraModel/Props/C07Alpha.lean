/-
C07 — line round trips WITHOUT a side condition on the written texts: `FieldsOKGen`, which `line_roundtrip_adm`
(Props/C07Lines.lean) carries as a hypothesis on the texts the formatters produce, is derived from a
character-level description of each codec's output (`alpha_text`) and kernel-decided checks of the generated
templates (`alpha_evaluated` behind `alpha_table_ok`, `pitch_alpha_ok`, `affix_alpha_ok`; `info_alpha_by_formatter` behind
`info_alpha_ok`).
Not covered (FieldsOKGen stays a hypothesis there): scoreprop, stime, ptime, ornament head, first components of
two-component lines.
-/
import PartituraModel.Model.MatchLine
import PartituraModel.Gen.MatchTemplates
import PartituraModel.Proofs.C07Alpha
import PartituraModel.Proofs.C07AlphaText
import PartituraModel.Props.C07Lines

namespace C07
open Model Model.Template Model.MatchCodec Model.MatchLine C07Line

/-- VALUES with a character-level description: any integer (or None); a non-empty identifier; any float written
    with k decimals or by repr; a list of identifiers (or integers); a duration (that is not an empty sum); a
    version; a time signature; a quoted text without line break; one of the 30 keys / 900 double keys -/
def AlphaVal : Enc → Val → Prop
  | .int, .int _ => True
  | .int, .none => True
  | .strip, .str s => s ≠ [] ∧ s.all idChar = true
  | .raw, .str s => s ≠ [] ∧ s.all idChar = true
  | .fix _, .dec _ => True
  | .repr, .dec _ => True
  | .listBody, .strs l => ∀ x ∈ l, x.all idChar = true
  | .frac, .frac f => f.add ≠ some []
  | .fracRational, .frac f => f.add ≠ some []
  | .version, .ver _ _ _ => True
  | .tsig, .tsig _ => True
  | .tsigList, .tsig t => ∀ f ∈ t.others, f.add ≠ some []
  | .quoted, .str s => strip s = s ∧ s.all notNl = true
  | .list, .strs l => ∀ x ∈ l, x.all idChar = true
  | .list, .ints _ => True
  | .key fmt, .key k => Adm (.key fmt) .key (.key k)
  | _, _ => False

/-- the formatter selected for a field: its own, or the one the class's table lists under the line's Attribute -/
def encSel (t : Template) (attr : Option Str) (f : String × Enc × Dec) : Enc :=
  match codecFor t attr f with
  | some c => c.1
  | none => Enc.unmodelled

/-- field names with the formatters selected for a line with the Attribute `attr` -/
def selFields (t : Template) (attr : Option Str) : List (String × Enc) := t.fields.map fun f => (f.1, encSel t attr f)

def AlphaVals : List (String × Enc) → List Val → Prop
  | [], [] => True
  | f :: fs, v :: vs => AlphaVal f.2 v ∧ AlphaVals fs vs
  | _, _ => False

def TextsOK : List (String × Enc) → List Val → Prop
  | [], [] => True
  | f :: fs, v :: vs => TextOK f.2 v ∧ TextsOK fs vs
  | _, _ => False

theorem written_textOKb (fmt : KeyFmt) (k : KeySig) (t : Str) (he : encKey fmt k = some t) (ht : C07Key.Written t)
    (hA : encAlpha (.key fmt) = some (notNlComma, 1)) : textOKb (.key fmt) (.key k) = true := by
  obtain ⟨⟨c, _, r, rfl⟩, hc, _⟩ := ht
  simp only [textOKb, hA, encode, he, List.length_cons, Bool.and_eq_true, decide_eq_true_eq, List.all_eq_true]
  exact ⟨fun x hx => by simp [notNlComma, hc x hx], by omega⟩

theorem key2_alpha : ∀ a ∈ allKeys, ∀ b ∈ allKeys, ∀ fmt ∈ [KeyFmt.v100, KeyFmt.v030],
    textOKb (.key fmt) (.key (key2 a b)) = true := by
  intro a ha b hb fmt hf
  have hf' : fmt = .v100 ∨ fmt = .v030 := by simpa using hf
  obtain ⟨t, h1, -, h3⟩ := key_text fmt hf' ⟨a.1, a.2, some b⟩ ha (by simpa using hb)
  rcases hf' with rfl | rfl <;> exact written_textOKb _ _ t h1 h3 rfl

/-- **output alphabets**: the text written for a value with a character-level description lies in the codec's
    alphabet and has the minimal length -/
theorem alpha_text (e : Enc) (v : Val) (h : AlphaVal e v) : TextOK e v := by
  unfold AlphaVal at h
  -- one case for each equation of `AlphaVal`, in its order
  split at h
  · exact textOK_of rfl rfl (showIntS_alpha _)
  · exact textOK_of (x := ['-']) rfl rfl ⟨by decide, by decide⟩
  · rename_i s
    have hs : encStrip s = s := C07Codec.strip_id s (fun c hc => idChar_not_ws c (List.all_eq_true.mp h.2 c hc))
    exact textOK_of rfl (congrArg some hs) ⟨h.2, List.length_pos_iff.mpr h.1⟩
  · exact textOK_of rfl rfl ⟨h.2, List.length_pos_iff.mpr h.1⟩
  · exact textOK_of rfl rfl (printFixed_alpha _ _ _)
  · rename_i q
    exact ⟨fixChar, 1, rfl, fun text ht => encRepr_alpha q text ht⟩
  · rename_i l
    refine textOK_of rfl rfl ⟨joinWith_all listChar [','] (by decide) l fun x hx => ?_, Nat.zero_le _⟩
    exact all_mono _ _ (fun c hc => by simp [listChar, hc]) _ (h x hx)
  · exact textOK_of rfl rfl (toStr_alpha _ h)
  · exact textOK_of rfl rfl (toStrRational_alpha _ h)
  · exact textOK_of rfl rfl (encVersion_alpha _ _ _)
  · exact textOK_of rfl rfl (encTsig_alpha _)
  · rename_i t
    refine textOK_of rfl rfl (encList_all tsigLChar (by decide) _ fun x hx => ?_)
    have hm : ∀ c, fracChar c = true → tsigLChar c = true := fun c hc => by simp [tsigLChar, hc]
    rcases List.mem_cons.mp hx with rfl | hx
    · exact all_mono _ _ hm _ (encTsig_alpha t).1
    · obtain ⟨f, hf, rfl⟩ := List.mem_map.mp hx
      exact all_mono _ _ hm _ (toStr_alpha f (h f hf)).1
  · rename_i s
    have hq : encQuoted s = '\'' :: (s ++ ['\'']) := by rw [encQuoted, h.1]
    refine textOK_of rfl (congrArg some hq) ⟨?_, by simp⟩
    simp only [List.all_cons, List.all_append, Bool.and_eq_true, List.all_nil]
    exact ⟨by decide, h.2, by decide, trivial⟩
  · rename_i l
    refine textOK_of rfl rfl (encList_all listBChar (by decide) l fun x hx => ?_)
    exact all_mono _ _ (fun c hc => by simp [listBChar, listChar, hc]) _ (h x hx)
  · rename_i l
    refine textOK_of rfl rfl (encList_all listBChar (by decide) _ fun x hx => ?_)
    obtain ⟨i, _, rfl⟩ := List.mem_map.mp hx
    refine all_mono _ _ (fun c hc => ?_) _ (showIntS_alpha i).1
    simp only [intChar, Bool.or_eq_true, beq_iff_eq] at hc
    rcases hc with hc | hc
    · simp [listBChar, listChar, idChar, Char.isAlphanum, hc]
    · subst hc; decide
  · rename_i fmt k
    simp only [Adm] at h
    rcases h with ⟨hf, fm, hfm, rfl⟩ | ⟨hf, a, ha, b, hb, rfl⟩
    · exact textOK_of_b _ _ (key1_alpha fm hfm fmt hf)
    · exact textOK_of_b _ _ (key2_alpha a ha b hb fmt hf)
  · cases h

theorem textsOK_of_alphaVals : ∀ (fs : List (String × Enc)) (vs : List Val), AlphaVals fs vs → TextsOK fs vs := by
  intro fs vs h
  fun_induction AlphaVals fs vs with
  | case1 => trivial
  | case2 f fs v vs ih => exact ⟨alpha_text _ _ h.1, ih h.2⟩
  | case3 => exact h.elim

/-- alphabet / minimal length of the field named `n` (everything / 0 when the codec has no description) -/
def alphaOf (fs : List (String × Enc)) (n : String) : Char → Bool :=
  match lookup n fs with
  | some e => (match encAlpha e with | some (A, _) => A | none => fun _ => true)
  | none => fun _ => true

def minOf (fs : List (String × Enc)) (n : String) : Nat :=
  match lookup n fs with
  | some e => (match encAlpha e with | some (_, N) => N | none => 0)
  | none => 0

/-- the character-level check of a template (Proofs/C07Alpha.lean `sepOKS`) with the alphabets of the formatters
    selected for a line with the Attribute `attr`, followed by the known text `tl` -/
def alphaOK (t : Template) (attr : Option Str) (tl : List Char) : Bool :=
  sepOKS (alphaOf (selFields t attr)) (minOf (selFields t attr)) tl t.out t.pat

theorem encSel_plain (t : Template) (attr : Option Str) (f : String × Enc × Dec) (h : plainField f = true) :
    encSel t attr f = f.2.1 := by
  unfold encSel
  rw [codecFor_plain t attr f h]

theorem selFields_plain (t : Template) (attr : Option Str) (h : t.fields.all plainField = true) :
    selFields t attr = selFields t none := by
  unfold selFields
  apply List.map_congr_left
  intro f hf
  rw [encSel_plain t attr f (List.all_eq_true.mp h f hf), encSel_plain t none f (List.all_eq_true.mp h f hf)]

theorem alphaOK_plain (t : Template) (attr : Option Str) (tl : List Char) (h : t.fields.all plainField = true) :
    alphaOK t attr tl = alphaOK t none tl := by
  unfold alphaOK
  rw [selFields_plain t attr h]

/-- the line classes without pitch post-processing and without a formatter chosen by the Attribute whose every
    field has a character-level description -/
def alphaKinds : List String := ["sustain", "soft", "trill.head", "section"]

/-- the pitch fields of a template with pitch post-processing, over ALL steps and accidentals: the texts of the
    note-name and accidental formatters lie in the identifier alphabet; the octave is written by `format_int` -/
def pitchAlphaOK (t : Template) : Bool :=
  match t.fields with
  | _ :: fN :: fM :: fO :: _ =>
    (stepsOf t.post).all (fun s => textOKb fN.2.1 (.str s)) && alters.all (fun a => textOKb fM.2.1 (optInt a))
      && fO.2.1 == Enc.int
  | _ => false

/-- the score note of a `snote(…)-deletion.` line (and its variants) passes the character-level check with the
    identifier literal as the text that follows -/
def suffixOK (c : Composite) : Bool :=
  match c.parts with
  | [.tpl x, .lit l] =>
    (match findTpl Gen.matchTemplates x with
     | some a => a.post != Post.none && alphaOK a none l.toList
     | none => false)
  | _ => true

/-- the performed note of an `insertion-note(…).` line (and its variants) passes the check, and the literal in
    front passes the structural check of Props/C07Lines.lean -/
def prefixOK (c : Composite) : Bool :=
  match c.parts with
  | [.lit l, .tpl y] =>
    (match findTpl Gen.matchTemplates y with
     | some b => alphaOK b none [] && (earlyNames [.lit l] b).isSome && b.fields.all plainField
     | none => false)
  | _ => true

/-- The three checks of the generated tables below in ONE kernel evaluation: looking a template up by name and the
    character-level check of a performed note are by far the dearest steps, the composite lines ask for the same ones
    again, and the kernel meets each once when they are evaluated together. -/
theorem alpha_evaluated :
    (∀ t ∈ Gen.matchTemplates, (t.kind ∈ alphaKinds ∨ t.name = "v1.0.0/note") →
      t.post = Post.none ∧ t.fields.all plainField = true ∧ alphaOK t none [] = true) ∧
    (∀ t ∈ Gen.matchTemplates, t.post ≠ Post.none →
      t.fields.all plainField = true ∧ alphaOK t none [] = true ∧ pitchAlphaOK t = true) ∧
    (∀ c ∈ Gen.matchComposites, suffixOK c = true ∧ prefixOK c = true) := by
  decide +kernel

/-- **whole generated table**: sustain and soft pedal lines of all six versions, the head of a trill line of
    the five pre-1.0 versions, the 1.0.0 performed note and the 1.0.0 section line pass the character-level check -/
theorem alpha_table_ok : ∀ t ∈ Gen.matchTemplates, (t.kind ∈ alphaKinds ∨ t.name = "v1.0.0/note") →
    t.post = Post.none ∧ t.fields.all plainField = true ∧ alphaOK t none [] = true :=
  alpha_evaluated.1

/-- **whole generated table**: the score notes of all six versions and the performed notes of the five pre-1.0
    versions (all 11 templates with pitch post-processing) pass the character-level check, their pitch fields for
    every step and accidental -/
theorem pitch_alpha_ok : ∀ t ∈ Gen.matchTemplates, t.post ≠ Post.none →
    t.fields.all plainField = true ∧ alphaOK t none [] = true ∧ pitchAlphaOK t = true :=
  alpha_evaluated.2.1

example : (Gen.matchTemplates.filter (fun t => alphaKinds.contains t.kind || t.name == "v1.0.0/note"
    || t.post != Post.none)).length = 30 := by
  decide +kernel

/-- field by field: the text is the one the selected formatter writes -/
def Enc3 : List (String × Enc) → List Val → List (String × Str) → Prop
  | [], [], [] => True
  | f :: fs, v :: vs, e :: es => e.1 = f.1 ∧ encode f.2 v = some e.2 ∧ Enc3 fs vs es
  | _, _, _ => False

theorem enc3_of_RTP : ∀ (fs : List (String × Enc × Dec)) (vs : List Val) (es : List (String × Str)),
    RTP fs vs es → Enc3 (fs.map fun f => (f.1, f.2.1)) vs es := by
  intro fs vs es h
  fun_induction RTP fs vs es with
  | case1 => trivial
  | case2 f fs v vs e es ih => exact ⟨h.1, h.2.1, ih h.2.2.2⟩
  | case3 => exact h.elim

theorem enc3_of_encodeFields (t : Template) (attr : Option Str) (fs : List (String × Enc × Dec)) (vs : List Val)
    (es : List (String × Str)) (he : encodeFields t attr fs vs = some es) :
    Enc3 (fs.map fun f => (f.1, encSel t attr f)) vs es := by
  fun_induction encodeFields t attr fs vs generalizing es with
  | case1 => cases he; trivial
  | case2 => cases he
  | case3 f fs v vs e d hc s r hrest henc ih =>
    cases he
    refine ⟨rfl, ?_, ih r hrest⟩
    show encode (encSel t attr f) v = some s
    rw [encSel, hc]
    exact henc
  | case4 => cases he
  | case5 => cases he

theorem texts_alpha (fs : List (String × Enc)) (vs : List Val) (es : List (String × Str))
    (hv : TextsOK fs vs) (he : Enc3 fs vs es) (n : String) :
    (textOf es n).all (alphaOf fs n) = true ∧ minOf fs n ≤ (textOf es n).length := by
  fun_induction Enc3 fs vs es with
  | case1 => simp [textOf, lookup, minOf]
  | case2 f fs v vs e es ih =>
    obtain ⟨⟨A, N, hA, htext⟩, hv2⟩ := hv
    obtain ⟨hn1, henc, he2⟩ := he
    obtain ⟨hall, hlen⟩ := htext e.2 henc
    obtain ⟨fn, fe⟩ := f
    obtain ⟨en, et⟩ := e
    simp only at hn1 hA hall hlen
    subst hn1
    by_cases hn : en = n
    · subst hn
      simp only [textOf, lookup, if_true, Option.getD_some, alphaOf, minOf]
      rw [hA]
      exact ⟨hall, hlen⟩
    · simpa only [textOf, lookup, hn, if_false, alphaOf, minOf] using ih hv2 he2
  | case3 => exact he.elim

private theorem fieldsOKGen_of_alpha (t : Template) (attr : Option Str) (tl : List Char) (vals : List Val)
    (es : List (String × Str)) (hok : alphaOK t attr tl = true) (hv : TextsOK (selFields t attr) vals)
    (he : Enc3 (selFields t attr) vals es) : FieldsOKGen t (textOf es) tl := by
  have hal := texts_alpha _ vals es hv he
  exact fieldsOKGen_of_sepOK _ _ _ _
    (sepOK_of_sepOKS (alphaOf (selFields t attr)) (minOf (selFields t attr)) tl (textOf es)
      (fun n => (hal n).1) (fun n => (hal n).2) _ _ hok)

/-- the component form (`CompRT`, the input of the composite-line theorems) of the round trip of a line without
    pitch post-processing, followed by the known text `tl` -/
theorem comp_alpha (t : Template) (hmem : t ∈ Gen.matchTemplates) (hp : t.post = Post.none)
    (vals : List Val) (tl : List Char) (hok : alphaOK t (attrOf t vals) tl = true)
    (hadm : AdmFields t (attrOf t vals) t.fields vals) (hv : AlphaVals (selFields t (attrOf t vals)) vals) :
    ∃ v, CompRT t vals v tl := by
  obtain ⟨es, hes, hrt⟩ := line_roundtrip_adm t hmem hp vals hadm
  have hsep := fieldsOKGen_of_alpha t _ tl vals es hok (textsOK_of_alphaVals _ _ hv)
    (enc3_of_encodeFields t _ _ _ _ hes)
  have hf : formatT t vals = some (render t.out (textOf es)) := by
    rw [formatT_eq t vals (templateOK_spec t (templates_ok t hmem)).2.2.2, hes]
    rfl
  refine ⟨textOf es, hf, ?_⟩
  intro pre hpre
  obtain ⟨line, h1, h2, _⟩ := hrt pre tl hsep hpre
  obtain rfl := Option.some.inj (hf.symm.trans h1)
  exact h2

/-- **every generated line class without pitch post-processing, formatter chosen by the Attribute or not**: if
    the template passes the character-level check for the line's Attribute (`alphaOK`, a computation on the
    generated template), the values are admissible (`AdmFields`, the domain of the codec round trips) and have a
    character-level description (`AlphaVals`: identifiers consist of identifier characters, …), then the line
    object is written, the text is parsed back to exactly the values, and writing the parsed values gives the
    identical text.  No condition on the written texts is left: `FieldsOKGen` is derived from the output
    alphabets (`alpha_text`). -/
theorem line_roundtrip_alpha (t : Template) (hmem : t ∈ Gen.matchTemplates) (hp : t.post = Post.none)
    (vals : List Val) (hok : alphaOK t (attrOf t vals) [] = true)
    (hadm : AdmFields t (attrOf t vals) t.fields vals) (hv : AlphaVals (selFields t (attrOf t vals)) vals) :
    ∃ line, formatT t vals = some line ∧ parseT t line = .ok vals ∧
      ((parseT t line).toOption.bind (formatT t)) = some line := by
  obtain ⟨v, hf, hpar⟩ := comp_alpha t hmem hp vals [] hok hadm hv
  have h2 := hpar [] (C07Line.noEarly_nil _ _)
  simp only [List.nil_append, List.append_nil] at h2
  exact ⟨_, hf, h2, by rw [h2]; exact hf⟩

/-- **pedal lines of every version, trill heads, the 1.0.0 performed note and section line - every integer,
    every identifier, every k-decimal float, every list of identifiers**: written, parsed back to exactly the
    values, written again identically (the check of the templates discharged by `alpha_table_ok`) -/
theorem line_roundtrip_values (t : Template) (hmem : t ∈ Gen.matchTemplates)
    (hk : t.kind ∈ alphaKinds ∨ t.name = "v1.0.0/note") (vals : List Val)
    (hadm : AdmFields t (attrOf t vals) t.fields vals) (hv : AlphaVals (selFields t none) vals) :
    ∃ line, formatT t vals = some line ∧ parseT t line = .ok vals ∧
      ((parseT t line).toOption.bind (formatT t)) = some line := by
  obtain ⟨hp, hpl, hok⟩ := alpha_table_ok t hmem hk
  exact line_roundtrip_alpha t hmem hp vals (alphaOK_plain t _ [] hpl ▸ hok) hadm
    (by rw [selFields_plain t _ hpl]; exact hv)

/-- the formatters of a line whose Attribute selects the formatter `c` -/
def selFieldsBy (t : Template) (c : Enc) : List (String × Enc) :=
  t.fields.map fun f => (f.1, if f.2.1 == Enc.byAttr then c else f.2.1)

/-- the Attribute enters the formatters of a line only through the formatter the class's table lists for it -/
theorem selFields_attr (t : Template) (a : String) (ha : a ∈ t.valueBy.map (·.1)) :
    ∃ c ∈ t.valueBy.map (·.2.1), selFields t (some a.toList) = selFieldsBy t c := by
  obtain ⟨b, hm, hb⟩ := lookup_some_of_mem a _ ha
  obtain ⟨x, hx, rfl⟩ := List.mem_map.mp hm
  refine ⟨x.2.1, List.mem_map.mpr ⟨x, hx, rfl⟩, List.map_congr_left fun f _ => ?_⟩
  simp only [encSel, codecFor, String.ofList_toList, hb]
  by_cases h : (f.2.1 == Enc.byAttr) = true <;> simp only [h, if_true, if_false, Bool.false_eq_true]

/-- the character-level check of the info and meta lines for every FORMATTER their class's table lists: no
    attribute is looked up by name (string comparisons along the table, for 142 attributes, are what is dear
    in the statement by attribute) -/
theorem info_alpha_by_formatter : ∀ t ∈ Gen.matchTemplates, (t.kind = "info" ∨ t.kind = "meta") →
    t.post = Post.none ∧ ∀ c ∈ t.valueBy.map (·.2.1),
      sepOKS (alphaOf (selFieldsBy t c)) (minOf (selFieldsBy t c)) [] t.out t.pat = true := by
  decide +kernel

/-- **whole generated table**: the info lines of all six versions and the meta lines of 0.3.0 - 0.5.0 pass the
    character-level check for EVERY attribute their class's table lists (the formatter of the Value is the one
    listed under the Attribute: key and time signatures in the spelling of the version, quoted texts, lists,
    versions, numbers) -/
theorem info_alpha_ok : ∀ t ∈ Gen.matchTemplates, (t.kind = "info" ∨ t.kind = "meta") →
    t.post = Post.none ∧ ∀ a ∈ t.valueBy.map (·.1), alphaOK t (some a.toList) [] = true := by
  intro t ht hk
  obtain ⟨hp, hall⟩ := info_alpha_by_formatter t ht hk
  refine ⟨hp, fun a ha => ?_⟩
  obtain ⟨c, hc, hsel⟩ := selFields_attr t a ha
  rw [alphaOK, hsel]
  exact hall c hc

example : (Gen.matchTemplates.filter (fun t => t.kind == "info" || t.kind == "meta")).length = 9 := by decide +kernel

/-- **info lines of every version and meta lines, every attribute of the class's table**: with admissible values
    (`AdmFields`) that have a character-level description (`AlphaVals`: for a quoted text "no line break", for lists
    "identifiers", for keys "one of the 30 keys or 900 double keys", nothing for numbers, versions and time
    signatures) the line is written, parsed back to exactly the values, and written again identically -/
theorem info_line_roundtrip_values (t : Template) (hmem : t ∈ Gen.matchTemplates)
    (hk : t.kind = "info" ∨ t.kind = "meta") (vals : List Val) (a : String) (ha : a ∈ t.valueBy.map (·.1))
    (hattr : attrOf t vals = some a.toList)
    (hadm : AdmFields t (some a.toList) t.fields vals) (hv : AlphaVals (selFields t (some a.toList)) vals) :
    ∃ line, formatT t vals = some line ∧ parseT t line = .ok vals ∧
      ((parseT t line).toOption.bind (formatT t)) = some line := by
  obtain ⟨hp, hall⟩ := info_alpha_ok t hmem hk
  exact line_roundtrip_alpha t hmem hp vals (by rw [hattr]; exact hall a ha) (by rw [hattr]; exact hadm)
    (by rw [hattr]; exact hv)

/-- the component form of the round trip of a score note / pre-1.0 performed note followed by the known text `tl` -/
theorem comp_pitch_alpha (t : Template) (hmem : t ∈ Gen.matchTemplates) (hp : t.post ≠ Post.none)
    (v0 : Val) (step : Str) (alter octave : Option Int) (rest : List Val) (tl : List Char)
    (hok : alphaOK t none tl = true)
    (hstep : step ∈ stepsOf t.post) (halter : alter ∈ alters)
    (hoct : t.post = Post.pitchSpellingNote → octave.isSome = true)
    (hadm : match t.fields with
      | f0 :: _ :: _ :: _ :: fr => AdmFields t none (f0 :: fr) (v0 :: rest) ∧
          AlphaVals ((f0 :: fr).map fun f => (f.1, f.2.1)) (v0 :: rest)
      | _ => False) :
    ∃ v, CompRT t (v0 :: .str step :: optInt alter :: optInt octave :: rest) v tl := by
  obtain ⟨hpl, _, hpok⟩ := pitch_alpha_ok t hmem hp
  obtain ⟨hl, hall⟩ := pitch_ok t hmem hp
  obtain ⟨htext, hmid⟩ := hall step hstep alter halter
  obtain ⟨f0, fN, fM, fO, fr, hf, -⟩ := pitchLayout_fields t hl
  obtain ⟨es, hrtp, _⟩ := pitch_line_roundtrip_adm t hmem hp v0 step alter octave rest hstep halter hoct
    (by rw [hf] at hadm ⊢; exact hadm.1)
  rw [hf] at hadm
  have hsel : selFields t none = t.fields.map fun f => (f.1, f.2.1) := by
    unfold selFields
    apply List.map_congr_left
    intro f hf
    rw [encSel_plain t none f (List.all_eq_true.mp hpl f hf)]
  have htexts : TextsOK (selFields t none) (v0 :: .str step :: optInt alter :: optInt octave :: rest) := by
    rw [hsel]
    unfold pitchAlphaOK at hpok
    rw [hf] at hpok ⊢
    simp only [Bool.and_eq_true, List.all_eq_true, beq_iff_eq] at hpok
    obtain ⟨⟨hN, hM⟩, hO⟩ := hpok
    have hr := textsOK_of_alphaVals _ _ hadm.2
    refine ⟨hr.1, textOK_of_b _ _ (hN step hstep), textOK_of_b _ _ (hM alter halter), ?_, hr.2⟩
    show TextOK fO.2.1 (optInt octave)
    rw [hO]
    cases octave <;> exact alpha_text _ _ trivial
  have hsep := fieldsOKGen_of_alpha t none tl _ es hok htexts (by rw [hsel]; exact enc3_of_RTP _ _ _ hrtp)
  have key := fun pre hpre => C07Line.pitch_line t (templates_ok t hmem) hp hl v0 step alter octave rest es pre tl htext
    (fun hn => ⟨hoct hn, hmid hn⟩) hrtp hsep hpre
  exact ⟨textOf es, (key [] (C07Line.noEarly_nil _ _)).1, fun pre hpre => (key pre hpre).2⟩

/-- **score notes of every version and pre-1.0 performed notes - every step, accidental and octave, every
    identifier, integer, k-decimal float, duration and attribute list**: the line is written, parsed back
    (search, interpreters, pitch post-processing) to exactly the values, and written again identically; no
    condition on the written texts -/
theorem pitch_line_roundtrip_values (t : Template) (hmem : t ∈ Gen.matchTemplates) (hp : t.post ≠ Post.none)
    (v0 : Val) (step : Str) (alter octave : Option Int) (rest : List Val)
    (hstep : step ∈ stepsOf t.post) (halter : alter ∈ alters)
    (hoct : t.post = Post.pitchSpellingNote → octave.isSome = true)
    (hadm : match t.fields with
      | f0 :: _ :: _ :: _ :: fr => AdmFields t none (f0 :: fr) (v0 :: rest) ∧
          AlphaVals ((f0 :: fr).map fun f => (f.1, f.2.1)) (v0 :: rest)
      | _ => False) :
    ∃ line, formatT t (v0 :: .str step :: optInt alter :: optInt octave :: rest) = some line ∧
      parseT t line = .ok (v0 :: .str step :: optInt alter :: optInt octave :: rest) ∧
      ((parseT t line).toOption.bind (formatT t)) = some line := by
  obtain ⟨v, hf, hpar⟩ := comp_pitch_alpha t hmem hp v0 step alter octave rest [] (pitch_alpha_ok t hmem hp).2.1
    hstep halter hoct hadm
  have h2 := hpar [] (C07Line.noEarly_nil _ _)
  simp only [List.nil_append, List.append_nil] at h2
  exact ⟨_, hf, h2, by rw [h2]; exact hf⟩

/-- **whole generated table of composite lines** (16 deletion-like and 16 insertion-like lines) -/
theorem affix_alpha_ok : ∀ c ∈ Gen.matchComposites, suffixOK c = true ∧ prefixOK c = true :=
  alpha_evaluated.2.2

/-- **deletion, trailing score note, no played note - all versions**: `snote(…)-deletion.` with every step,
    accidental, octave and admissible values with a character-level description is written, parsed back by the
    composite parser (score note searched in the whole line, identifier literal found) to exactly the values,
    and written again identically -/
theorem deletion_roundtrip_values (c : Composite) (hc : c ∈ Gen.matchComposites) (x lit : String) (a : Template)
    (hparts : c.parts = [.tpl x, .lit lit]) (hfa : findTpl Gen.matchTemplates x = some a)
    (v0 : Val) (step : Str) (alter octave : Option Int) (rest : List Val)
    (hstep : step ∈ stepsOf a.post) (halter : alter ∈ alters)
    (hoct : a.post = Post.pitchSpellingNote → octave.isSome = true)
    (hadm : match a.fields with
      | f0 :: _ :: _ :: _ :: fr => AdmFields a none (f0 :: fr) (v0 :: rest) ∧
          AlphaVals ((f0 :: fr).map fun f => (f.1, f.2.1)) (v0 :: rest)
      | _ => False) :
    ∃ line, formatC Gen.matchTemplates c (v0 :: .str step :: optInt alter :: optInt octave :: rest) = some line ∧
      parseC Gen.matchTemplates c line = .ok (v0 :: .str step :: optInt alter :: optInt octave :: rest) ∧
      ((parseC Gen.matchTemplates c line).toOption.bind (formatC Gen.matchTemplates c)) = some line := by
  have hs := (affix_alpha_ok c hc).1
  unfold suffixOK at hs
  rw [hparts] at hs
  simp only [hfa, Bool.and_eq_true, bne_iff_ne, ne_eq] at hs
  obtain ⟨v, hcomp⟩ := comp_pitch_alpha a (mem_of_findTpl hfa) hs.1 v0 step alter octave rest lit.toList hs.2
    hstep halter hoct hadm
  have := composite_suffix c hc x lit a hparts hfa _ v [] (by simpa using hcomp)
  simpa using this

theorem prefixOK_spec (c : Composite) (hc : c ∈ Gen.matchComposites) (y lit : String) (b : Template)
    (hparts : c.parts = [.lit lit, .tpl y]) (hfb : findTpl Gen.matchTemplates y = some b) :
    alphaOK b none [] = true ∧ (∃ names, earlyNames [.lit lit] b = some names) ∧ b.fields.all plainField = true := by
  have hs := (affix_alpha_ok c hc).2
  unfold prefixOK at hs
  rw [hparts] at hs
  simp only [hfb, Bool.and_eq_true] at hs
  exact ⟨hs.1.1, Option.isSome_iff_exists.mp hs.1.2, hs.2⟩

/-- **insertion, hammer bounce, trailing played note - versions before 1.0.0** (the performed note carries a
    spelled pitch): `insertion-note(…).` is written, parsed back by the composite parser to exactly the values and
    written again identically -/
theorem insertion_roundtrip_values (c : Composite) (hc : c ∈ Gen.matchComposites) (y lit : String) (b : Template)
    (hparts : c.parts = [.lit lit, .tpl y]) (hfb : findTpl Gen.matchTemplates y = some b) (hp : b.post ≠ Post.none)
    (v0 : Val) (step : Str) (alter octave : Option Int) (rest : List Val)
    (hstep : step ∈ stepsOf b.post) (halter : alter ∈ alters)
    (hoct : b.post = Post.pitchSpellingNote → octave.isSome = true)
    (hadm : match b.fields with
      | f0 :: _ :: _ :: _ :: fr => AdmFields b none (f0 :: fr) (v0 :: rest) ∧
          AlphaVals ((f0 :: fr).map fun f => (f.1, f.2.1)) (v0 :: rest)
      | _ => False) :
    ∃ line, formatC Gen.matchTemplates c (v0 :: .str step :: optInt alter :: optInt octave :: rest) = some line ∧
      parseC Gen.matchTemplates c line = .ok (v0 :: .str step :: optInt alter :: optInt octave :: rest) ∧
      ((parseC Gen.matchTemplates c line).toOption.bind (formatC Gen.matchTemplates c)) = some line := by
  obtain ⟨hok, ⟨names, hnames⟩, -⟩ := prefixOK_spec c hc y lit b hparts hfb
  obtain ⟨v, hcomp⟩ := comp_pitch_alpha b (mem_of_findTpl hfb) hp v0 step alter octave rest [] hok
    hstep halter hoct hadm
  have := composite_prefix c hc y lit b names hparts hfb hnames _ v [] hcomp
  simpa using this

/-- **insertion of version 1.0.0** (the performed note carries a MIDI pitch): every identifier and integers -/
theorem insertion_roundtrip_values_v1 (c : Composite) (hc : c ∈ Gen.matchComposites) (y lit : String) (b : Template)
    (hparts : c.parts = [.lit lit, .tpl y]) (hfb : findTpl Gen.matchTemplates y = some b) (hp : b.post = Post.none)
    (vals : List Val) (hadm : AdmFields b (attrOf b vals) b.fields vals) (hv : AlphaVals (selFields b none) vals) :
    ∃ line, formatC Gen.matchTemplates c vals = some line ∧
      parseC Gen.matchTemplates c line = .ok vals ∧
      ((parseC Gen.matchTemplates c line).toOption.bind (formatC Gen.matchTemplates c)) = some line := by
  obtain ⟨hok, ⟨names, hnames⟩, hpl⟩ := prefixOK_spec c hc y lit b hparts hfb
  obtain ⟨v, hcomp⟩ := comp_alpha b (mem_of_findTpl hfb) hp vals [] (alphaOK_plain b _ [] hpl ▸ hok) hadm
    (by rw [selFields_plain b _ hpl]; exact hv)
  have := composite_prefix c hc y lit b names hparts hfb hnames _ v [] hcomp
  simpa using this

example : (Gen.matchComposites.filter (fun c => match c.parts with
    | [.tpl _, .lit _] => true | [.lit _, .tpl _] => true | _ => false)).length = 32 := by decide +kernel

-- non-vacuity: a 0.5.0 soft-pedal line (two integer fields: `AlphaVals` / `AdmFields` hold for any two integers)
example : ∀ t ∈ Gen.matchTemplates, t.name = "v0.5.0/soft" →
    t.kind ∈ alphaKinds ∧ selFields t none = [("Time", Enc.int), ("Value", Enc.int)] ∧
    formatT t [.int 1200, .int (-3)] = some "soft(1200,-3).".toList := by
  decide +kernel

example : (Gen.matchTemplates.filter (·.name == "v0.5.0/soft")).length = 1 := by decide +kernel

-- non-vacuity: the codecs of a 1.0.0 score note all have a description
example : ∀ t ∈ Gen.matchTemplates, t.name = "v1.0.0/snote" →
    t.post ≠ Post.none ∧ (t.fields.map (·.2.1)).all (fun e => (encAlpha e).isSome) = true := by
  decide +kernel

end C07
