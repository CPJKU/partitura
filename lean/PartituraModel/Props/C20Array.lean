/-
C20 — "array views that copy": `slice_notearray_by_time` over a heap of numpy buffers (Model/ArrayView.lean).
For EVERY heap, every argument array, every window and every row semantics (the row predicates and the two in-place
rewritings are parameters): the call allocates one buffer and writes only into it.
The seeded variant C20-c (selection skipped when every row is active) is refuted by `example`.
That the live source binds the result by allocation (np.empty / integer-array indexing) and that every later
subscript-store targets the result is read from the source on every run (Props/C20Gen.lean `slice_steps_generated`).
-/
import PartituraModel.Proofs.C20Array

namespace C20Array
open Model.ArrayView C20Arr

variable {α : Type} (act early : α → Bool) (setAll clipDur : α → α) (clip : Bool)

/-- the call succeeds exactly on arrays of the heap -/
theorem slice_defined (bufs : Bufs α) (a : Nat) :
    (sliceByTime act early setAll clipDur clip bufs a).isSome = decide (a < bufs.length) := by
  rw [sliceByTime_char, Option.isSome_map, Bool.eq_iff_iff, isSome_getElem?, decide_eq_true_iff]

/-- **the argument (and every other existing array) is left exactly as it was** -/
theorem slice_frame (bufs : Bufs α) (a : Nat) (res : Bufs α × Nat)
    (h : sliceByTime act early setAll clipDur clip bufs a = some res) :
    (∀ i, i < bufs.length → res.1[i]? = bufs[i]?) ∧ res.1[a]? = bufs[a]? := by
  obtain ⟨rows, hr, rfl⟩ := sliceByTime_some h
  have hall : ∀ i, i < bufs.length → (bufs ++ [sliceSpec act early setAll clipDur clip rows])[i]? = bufs[i]? :=
    fun i hi => List.getElem?_append_left hi
  exact ⟨hall, hall a (List.getElem?_eq_some_iff.mp hr).1⟩

/-- **the result is a new array**: its buffer did not exist before the call, so it shares memory with no existing
    array — in particular it is not (a view of) the argument -/
theorem slice_fresh (bufs : Bufs α) (a : Nat) (res : Bufs α × Nat)
    (h : sliceByTime act early setAll clipDur clip bufs a = some res) :
    res.2 = bufs.length ∧ res.2 ≠ a ∧ res.1.length = bufs.length + 1 := by
  obtain ⟨rows, hr, rfl⟩ := sliceByTime_some h
  exact ⟨rfl, Nat.ne_of_gt (List.getElem?_eq_some_iff.mp hr).1, List.length_append⟩

/-- **what the result holds**: the active rows of the argument, in order; clipped when asked -/
theorem slice_result (bufs : Bufs α) (a : Nat) (rows : List α) (res : Bufs α × Nat) (hr : bufs[a]? = some rows)
    (h : sliceByTime act early setAll clipDur clip bufs a = some res) :
    res.1[res.2]? = some (sliceSpec act early setAll clipDur clip rows) := by
  obtain ⟨rows', hr', rfl⟩ := sliceByTime_some h
  cases hr.symm.trans hr'
  exact List.getElem?_concat_length

/-- **results are independent objects**: rewriting the result in place (what a caller may do with an array it was
    handed) does not reach the argument -/
theorem slice_independent (g : α → α) (bufs : Bufs α) (a : Nat) (res : Bufs α × Nat)
    (h : sliceByTime act early setAll clipDur clip bufs a = some res) :
    (writeAll g res.1 res.2)[a]? = bufs[a]? := by
  obtain ⟨rows, hr, rfl⟩ := sliceByTime_some h
  exact writeAll_eq g .. ▸ C20Store.upd_append_old _ _ _ (Nat.le_refl _) (List.getElem?_eq_some_iff.mp hr).1

/-- **repeatable**: a second call on the same argument, in the heap the first call left, returns ANOTHER new array with
    the contents of the first result, and the first result is still what it was -/
theorem slice_repeatable (bufs : Bufs α) (a : Nat) (r1 r2 : Bufs α × Nat)
    (h1 : sliceByTime act early setAll clipDur clip bufs a = some r1)
    (h2 : sliceByTime act early setAll clipDur clip r1.1 a = some r2) :
    r2.1[r2.2]? = r1.1[r1.2]? ∧ r2.2 ≠ r1.2 ∧ r2.1[r1.2]? = r1.1[r1.2]? := by
  obtain ⟨rows, hr, rfl⟩ := sliceByTime_some h1
  obtain ⟨rows', hr', rfl⟩ := sliceByTime_some h2
  have hlt := (List.getElem?_eq_some_iff.mp hr).1
  cases (hr.symm.trans (List.getElem?_append_left hlt).symm).trans hr'
  refine ⟨List.getElem?_concat_length.trans List.getElem?_concat_length.symm, ?_, ?_⟩
  · show (bufs ++ [_]).length ≠ bufs.length
    rw [List.length_append]; exact Nat.succ_ne_self _
  · exact List.getElem?_append_left (by rw [List.length_append]; exact Nat.lt_succ_self _)

/-- an argument that is not an array of the heap is rejected -/
theorem slice_rejects (bufs : Bufs α) (a : Nat) (h : bufs[a]? = none) :
    sliceByTime act early setAll clipDur clip bufs a = none := by
  rw [sliceByTime_char, h]; rfl

/-- a window that covers the middle of three notes (ticks of a quarter beat; window [2, 12)): the first note started
    before the window — its row is overwritten by the scalar (all fields, as the code does) — the last is cut at the end;
    the argument is untouched and the result is buffer 1 -/
example :
    sliceRows true 2 12 4 [[⟨0, 8, 60⟩, ⟨4, 4, 62⟩, ⟨8, 16, 64⟩]] 0
      = some ([[⟨0, 8, 60⟩, ⟨4, 4, 62⟩, ⟨8, 16, 64⟩], [⟨2, 2, 0⟩, ⟨4, 4, 62⟩, ⟨8, 4, 64⟩]], 1) := by decide +kernel

/-- nothing active: a new EMPTY array -/
example : sliceRows true 40 50 4 [[⟨0, 8, 60⟩]] 0 = some ([[⟨0, 8, 60⟩], []], 1) := by decide +kernel

/-- the seeded variant C20-c: the window covers every note, the selection is skipped, the ARGUMENT is the slice and
    the clipping is written into the caller's array (last note cut from 16 to 4 ticks); the code as written returns a
    new array and leaves the argument alone -/
example :
    sliceSkipFull (Row.act (-4) 12) (Row.early (-4)) (Row.setAll (-4) 4) (Row.clipDur 12) true
        [[⟨0, 8, 60⟩, ⟨8, 16, 64⟩]] 0
      = some ([[⟨0, 8, 60⟩, ⟨8, 4, 64⟩]], 0) ∧
    sliceRows true (-4) 12 4 [[⟨0, 8, 60⟩, ⟨8, 16, 64⟩]] 0
      = some ([[⟨0, 8, 60⟩, ⟨8, 16, 64⟩], [⟨0, 8, 60⟩, ⟨8, 4, 64⟩]], 1) := by decide +kernel

end C20Array
