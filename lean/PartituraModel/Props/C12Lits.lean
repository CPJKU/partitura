/-
C12 — closed form and bijection of key names, note-name round trip, tempo units, symbolic ↔ numeric durations and
quarter tempo for the functions of Model/ConversionsArr.lean, which the driver runs: `key_name_to_fifths_mode`, `pitch_spelling_to_note_name`,
`format_symbolic_duration`, `symbolic_to_numeric_duration` (keys of the dict possibly absent) and `to_quarter_tempo`,
each written over the literals of its own body (Gen/C12Lits.lean, regenerated from the live source on every run by
harness/translate_c12b.py).  Proofs/C12Lits.lean proves them equal to the functions of Model/Conversions.lean and
Model/Pitch.lean; editing a constant of the source re-elaborates (and, when it matters, breaks) these theorems.
-/
import PartituraModel.Proofs.C12Lits
import PartituraModel.Props.C12Keys
import PartituraModel.Props.C12More

namespace C12
open Model Gen Gen.C12 Gen.C12L C12Bridge C12Lits

/-- the second translator could read every literal it looks for in the live source -/
theorem literals_extracted : extractionOkL = true ∧ extractionNotesL = [] := by decide

/-- **every string**: `key_name_to_fifths_mode`, with the rotations, thresholds, marks and the factor seven as the
    source writes them, computes the closed form (position on the line of fifths − 3 for minor − 7 per flat / + 7 per
    sharp) and rejects exactly the strings that do not begin with one of the seven letters -/
theorem key_name_closed_form_src (name : String) :
    keyNameToFifthsModeK name = keyNameValue name ∧
    ((keyNameToFifthsModeK name).isSome ↔ ∃ c rest, name.toList = c :: rest ∧ (fifthsOfLetter c).isSome) := by
  rw [keyNameK_eq]
  exact ⟨key_name_closed_form name, key_name_accepts_iff name⟩

/-- key name ↔ (fifths, mode) is a bijection on the fifteen major and fifteen minor keys, for every accepted
    spelling of the mode, through the two functions as the driver runs them -/
theorem key_bijection_lits (f : Int) (h1 : -7 ≤ f) (h2 : f ≤ 7) (m : PyLit) (mo : Mode) (hm : modeOfLit m = some mo) :
    (fifthsModeToKeyNameG f m).bind keyNameToFifthsModeK = some (f, mo) := by
  have h := (key_bijection_src f h1 h2 m mo hm).2
  have : keyNameToFifthsModeK = keyNameToFifthsModeG := funext keyNameK_eq
  rw [this]; exact h

/-- note-name round trip with the accidentals as `pitch_spelling_to_note_name` writes them (double sharp `x`, else
    repeated `#` / `b`): every step, alteration −3..3, EVERY octave ≥ 0 -/
theorem name_roundtrip_lits (s : String) (hs : s ∈ ["C", "D", "E", "F", "G", "A", "B"])
    (a : Int) (ha : a ∈ [(-3 : Int), -2, -1, 0, 1, 2, 3]) (o : Nat) :
    noteNameToSpellingG (spellingToNoteNameG s a (o : Int)) = some (s, some a, some (o : Int)) ∧
    noteNameToMidiG (spellingToNoteNameG s a (o : Int)) = spellingToMidiG s (some a) (o : Int) := by
  rw [spellingToNoteNameG_eq]
  exact name_roundtrip_src s hs a ha o

/-- the accidental `pitch_spelling_to_note_name` writes for every alteration (no bound): `alter` sharps or flats,
    except the double sharp -/
theorem acc_string_shape (a : Int) :
    (0 < a → a ≠ 2 → accStringG a = String.ofList (List.replicate a.toNat '#')) ∧
    (a < 0 → accStringG a = String.ofList (List.replicate (-a).toNat 'b')) ∧
    accStringG 0 = "" ∧ accStringG 2 = "x" := by
  refine ⟨?_, ?_, by decide, by decide⟩
  · intro h0 h2
    have e : nnDouble = 2 := rfl
    unfold accStringG
    rw [e]
    simp only [gt_iff_lt, h0, if_true, h2, if_false]
    rfl
  · intro h0
    have hn : ¬ (a > 0) := by omega
    unfold accStringG
    simp only [hn, if_false, h0, if_true]
    rfl

/-- tempo units with the dot character counted and stripped as the source writes it -/
theorem tempo_units_lits (u : String) (v : Rat) (d : Nat) (t : Rat) (hu : (u, v) ∈ LABEL_DURS) (hd : d ∈ [0, 1, 2, 3]) :
    toQuarterTempoG (u ++ dotsStr d) t = some (t * ((2 : Rat) - 1 / 2 ^ d) * v) ∧
    toQuarterTempoG (formatSymbolicG (some (some u, some d, none, none))) t = some (t * ((2 : Rat) - 1 / 2 ^ d) * v) := by
  rw [toQuarterTempoG_eq, toQuarterTempoG_eq, formatSymbolicG_eq]
  exact ⟨tempo_units u v d t hu hd, tempo_unit_roundtrip u v d t hu hd⟩

/-- `format_symbolic_duration`: no dict is "unknown"; dots left out are no dots; the tuplet suffix needs both counts -/
theorem format_symbolic_shape (u : String) (d a n : Nat) :
    formatSymbolicG none = "unknown" ∧
    formatSymbolicG (some (some u, none, none, none)) = formatSymbolicG (some (some u, some 0, none, none)) ∧
    formatSymbolicG (some (some u, some d, some a, none)) = formatSymbolicG (some (some u, some d, none, none)) ∧
    formatSymbolicG (some (some u, some d, some a, some n)) = u ++ dotsStr d ++ "_" ++ showNat a ++ "/" ++ showNat n := by
  refine ⟨rfl, rfl, rfl, ?_⟩
  rw [formatSymbolicG_eq]
  rfl

/-- `symbolic_to_numeric_duration` on EVERY dict: value (absent / zero counts stand for 1, absent dots for none) and
    exact rejection set (no / unknown type, more than three dots) -/
theorem symbolic_numeric_lits (ty : Option String) (d a n : Option Nat) (divs : Rat) :
    (symbolicToNumericG ty d a n divs =
      match ty.bind (lookup · LABEL_DURS), DOT_MULTIPLIERS[d.getD 0]? with
      | some v, some m => some (divs * v * m * (orOne n / orOne a))
      | _, _ => none) ∧
    ((symbolicToNumericG ty d a n divs).isSome ↔ (ty.bind (lookup · LABEL_DURS)).isSome ∧ d.getD 0 ≤ 3) := by
  cases ty with
  | none =>
    constructor
    · rw [(symbolicToNumericG_absent d a n none divs).1]; rfl
    · rw [(symbolicToNumericG_absent d a n none divs).1]; simp
  | some t =>
    rw [(symbolicToNumericG_absent d a n (some t) divs).2, symbolicToNumericG_eq]
    exact ⟨symbolic_numeric_total t (d.getD 0) a n divs, symbolic_numeric_defined t (d.getD 0) a n divs⟩

example : keyNameToFifthsModeK "F#m" = some (3, Mode.minor) ∧ spellingToNoteNameG "c" 2 4 = "Cx4" ∧
    spellingToNoteNameG "g" (-2) (-1) = "Gbb-1" ∧
    symbolicToNumericG (some "eighth") none (some 3) (some 2) 6 = some 2 ∧ symbolicToNumericG none none none none 1 = none ∧
    toQuarterTempoG " h. " 50 = some 150 := by decide +kernel

example : formatSymbolicG (some (some "q", some 2, some 3, some 2)) = "q.._3/2" := by
  rw [formatSymbolicG_eq]; decide +kernel

end C12
