/-
C09 — unfolding repeats concatenates segments along a valid path and nothing else.

Theorems over Model/Unfold.lean (`mkSegments` = add_segments, `getPaths`/`unfoldFrom` = get_paths /
unfold_paths with the per-path copy of rewritten segments (fixes/C09-1), `variant` = create_variant_part,
`suffixIds` = update_note_ids_after_unfolding).
-/
import PartituraModel.Proofs.C09Walk
import PartituraModel.Proofs.C09Variant
import PartituraModel.Proofs.C09Shape
import PartituraModel.Proofs.C09Volta
import PartituraModel.Proofs.C09LayoutChain

namespace C09
open Model.Unfold

/-- Every enumerated path starts at the first segment, every step follows a destination the segment table
allows (immediately, or released by a leap), and the last segment can reach END — for every segment table,
every policy and every amount of fuel. -/
theorem paths_are_walks (g : List Seg) (nr ar il : Bool) (fuel : Nat) (ps : List (List Nat))
    (h : getPaths g nr ar il fuel = some ps) (p : List Nat) (hp : p ∈ ps) :
    p.head? = some 0 ∧ Walk g p ∧ ∃ l, p.getLast? = some l ∧ Edge g l .fin :=
  unfoldFrom_good g il fuel (initState g nr ar) ps (inv_init g nr ar) h p hp

/-- A result of the enumeration does not depend on the fuel: once it succeeds, any larger fuel gives the
same list of paths. -/
theorem enumeration_fuel_monotone (g : List Seg) (nr ar il : Bool) (fuel k : Nat) (ps : List (List Nat))
    (h : getPaths g nr ar il fuel = some ps) : getPaths g nr ar il (fuel + k) = some ps :=
  unfoldFrom_mono_add il fuel k _ ps h

-- non-vacuity: da capo al fine over two segments (A.to = [B], A.await = [END]; B.to = [A, END], leap)
example : getPaths
    [{ start := 0, stp := 8, to := [.seg 1], await := [.fin], ty := .leapEnd },
     { start := 8, stp := 16, to := [.seg 0, .fin], await := [.fin], ty := .leapStart }]
    false true true 10 = some [[0, 1, 0]] := by decide +kernel

/-- The offsets used for the visited segments are the running sums of the segment lengths, and the visits
are the segments of the path in order. -/
theorem offsets_are_prefix_sums (g : List Seg) (path : List Nat) (vs : List Visit)
    (h : visitsOf g path = some vs) :
    OffsetsOK 0 vs ∧ visitLens vs = path.map (segLen g) ∧
    (∀ (k i : Nat), path[k]? = some i →
        ∃ (s : Seg) (v : Visit), g[i]? = some s ∧ vs[k]? = some v ∧ v.s = s.start ∧ v.e = s.stp) :=
  visitsFrom_ok g path 0 vs h

/-- Length: the new part spans exactly the sum of the visited segments' lengths, provided the part is
well formed for its segmentation: the start of the first visited segment is a time point, ends are not before starts, no copied
object reaches beyond the end of its segment, and something that is copied ends at the end of the last
visited segment (with measures at the boundaries all of this holds).  Every time point of the unfolded part lies in
`[0, T]`, `T` the sum; 0 is one by `hstart`, `T` is one by `hclose`. -/
theorem length_sum (p : APart) (vs : List Visit) (vl : Visit)
    (hoff : OffsetsOK 0 vs) (hpos : ∀ v ∈ vs, v.s < v.e) (hlast : vs.getLast? = some vl)
    (hstart : ∀ v, vs.head? = some v → v.s ∈ p.points)
    (hwf : ∀ o ∈ p.objs, ∀ e, o.stp = some e → o.start ≤ e)
    (hnocross : ∀ v ∈ vs, ∀ o ∈ p.objs, inWin v o = true → o.kind.dropped = false →
      ∀ e, o.stp = some e → e ≤ v.e)
    (hclose : ∃ o ∈ p.objs, inWin vl o = true ∧ o.kind.dropped = false ∧ o.kind.isSig = false ∧
      o.stp = some vl.e) :
    (variant p vs).duration = some (sumInt (visitLens vs)) := by
  obtain ⟨b1, b2, b3, b4⟩ := offsets_bounds vs 0 hoff hpos
  have hne : vs ≠ [] := by intro h; simp [h] at hlast
  obtain ⟨v0, hv0⟩ : ∃ v0, vs.head? = some v0 := by
    cases vs with
    | nil => exact absurd rfl hne
    | cons a _ => exact ⟨a, rfl⟩
  have hv0mem : v0 ∈ vs := List.mem_of_head? hv0
  have hvlmem : vl ∈ vs := List.mem_of_getLast? hlast
  -- every time point lies in [0, T]
  have hb : ∀ t ∈ variantPoints p.points vs (variantObjs p.objs 0 vs []),
      0 ≤ t ∧ t ≤ sumInt (visitLens vs) := by
    intro t ht
    rw [variantPoints_mem] at ht
    rcases ht with ⟨v, hv, q, _, h1, h2, rfl⟩ | ⟨c, hc, hcase⟩
    · have := b1 v hv; have := hpos v hv; omega
    · obtain ⟨v, _, hv, _, hkind⟩ := out_mem p.objs vs c hc
      have hvm : v ∈ vs := List.mem_of_getElem? hv
      have hbv := b1 v hvm
      have hpv := hpos v hvm
      rcases hkind with ⟨hx, _, _, hs⟩ | ⟨hx, o, hco, _⟩
      · rcases hcase with ⟨_, rfl⟩ | ⟨hx', _⟩
        · rw [hs]; omega
        · rw [hx] at hx'; cases hx'
      · rcases hcase with ⟨hx', _⟩ | ⟨_, hst⟩
        · rw [hx] at hx'; cases hx'
        · have hom : o ∈ p.objs := List.mem_of_getElem? hco.orig
          have hstp := hco.stp
          have hw := hco.win
          rw [hst] at hstp
          cases hos : o.stp with
          | none => rw [hos] at hstp; cases hstp
          | some e0 =>
            simp only [hos, Option.map_some, Option.some.injEq] at hstp
            have h1 := hwf o hom e0 hos
            have h2 := hnocross v hvm o hom hw hco.kept e0 hos
            simp only [inWin, Bool.and_eq_true, decide_eq_true_eq] at hw
            omega
  -- 0 is one: the start of the first visit
  have h0 : (0 : Int) ∈ variantPoints p.points vs (variantObjs p.objs 0 vs []) := by
    rw [variantPoints_mem]
    refine Or.inl ⟨v0, hv0mem, v0.s, hstart v0 hv0, Int.le_refl _, hpos v0 hv0mem, ?_⟩
    have := b3 v0 hv0; omega
  -- T is one: the end of the copy of the object `hclose` names
  have hT : sumInt (visitLens vs) ∈ variantPoints p.points vs (variantObjs p.objs 0 vs []) := by
    rw [variantPoints_mem]
    obtain ⟨o, hom, hw, hd, hs, hst⟩ := hclose
    obtain ⟨i, hio⟩ := List.getElem?_of_mem hom
    obtain ⟨n, hn⟩ : ∃ n, vs[n]? = some vl := List.getElem?_of_mem hvlmem
    obtain ⟨c, hc, hcore⟩ := visitCopies_copy p.objs vl (0 + n) (variantObjs p.objs 0 (vs.take n) []) i o hio
      (by simp [copyable, hw, hd, hs])
    refine Or.inr ⟨c, (mem_variantObjs p.objs vs 0 [] c).mpr (Or.inr ⟨n, vl, hn, hc⟩), Or.inr ?_⟩
    simp only [core, mkCopy, Prod.mk.injEq] at hcore
    refine ⟨hcore.2.2.2.2.2.2.2, ?_⟩
    rw [hcore.2.2.2.2.1, hst]
    have := b2 vl hlast
    simp only [Option.map_some, Option.some.injEq]
    omega
  unfold Variant.duration variant
  simp only
  rw [listMin_eq _ 0 h0 (fun x hx => (hb x hx).1), listMax_eq _ _ hT (fun x hx => (hb x hx).2)]
  simp

/-- Copies per visit: leaving aside signatures and clefs (which the code copies only when they change) and the fermata a
visit takes over from the end of its segment (`keepP`), the unfolded part consists, visit after visit, of one copy of
every object that starts in the visited segment and is not a repeat / ending / jump / segment / page / system object: at `start − s + offset(visit)`, with the
same end distance, kind, payload (pitch, voice, staff) and id.  In particular every note of a visited
segment occurs once per visit at the shifted position with unchanged pitch, duration, voice and staff. -/
theorem copies_per_visit (p : APart) (vs : List Visit) :
    (((variant p vs).objs.filter keepP).map core) =
      (enum 0 vs).flatMap fun nv =>
        ((enum 0 p.objs).filter (copyable nv.2)).map fun q => core (mkCopy q.1 nv.1 q.2 (nv.2.off - nv.2.s)) := by
  have := variantObjs_keep p.objs vs 0 []
  simpa [variant] using this

/-- what `mkCopy` preserves: position shifted by the offset, same length, kind, payload and id -/
theorem copy_fields (i k : Nat) (o : Obj) (d : Int) :
    (mkCopy i k o d).start = o.start + d ∧ (mkCopy i k o d).stp = o.stp.map (· + d) ∧
    (mkCopy i k o d).kind = o.kind ∧ (mkCopy i k o d).payload = o.payload ∧ (mkCopy i k o d).nid = o.nid ∧
    (mkCopy i k o d).orig = i ∧ (mkCopy i k o d).visit = k :=
  ⟨rfl, rfl, rfl, rfl, rfl, rfl, rfl⟩

/-- the number of copies of one object is the number of times its segment occurs in the path
(segments pairwise disjoint, as `mkSegments` builds them: see `segments_disjoint`) -/
theorem copies_count (g : List Seg) (path : List Nat) (vs : List Visit) (hvs : visitsOf g path = some vs)
    (hdis : DisjointSegs g) (p : APart) (i : Nat) (o : Obj) (hi : p.objs[i]? = some o)
    (hd : o.kind.dropped = false) (hs : o.kind.isSig = false)
    (j : Nat) (s : Seg) (hj : g[j]? = some s) (hin : s.start ≤ o.start ∧ o.start < s.stp) :
    (((variant p vs).objs.filter keepP).filter fun c => decide (c.orig = i)).length = path.count j := by
  have h := count_copies p.objs vs i o hi hd hs (fun _ => true)
  simp only [Bool.and_true, Bool.true_and] at h
  rw [enum_filter_snd (fun v => inWin v o)] at h
  show (((variantObjs p.objs 0 vs []).filter keepP).filter fun c => decide (c.orig = i)).length = _
  rw [List.filter_filter, ← win_count g hdis o j s hj hin path 0 vs hvs, ← h]
  congr 1
  exact List.filter_congr (fun y _ => Bool.and_comm _ _)

/-- the segments `add_segments` builds do not overlap: they are the intervals between consecutive boundary times
(`mkSegments_times`) -/
theorem segments_disjoint (L : Layout) (g : List Seg) (h : mkSegments L = some g) : DisjointSegs g := by
  obtain ⟨ts, hsorted, hget⟩ := mkSegments_times L g h
  have key : ∀ (a b : Nat) (sa sb : Seg), g[a]? = some sa → g[b]? = some sb → a < b → sa.stp ≤ sb.start := by
    intro a b sa sb ha hb hab
    by_cases he : a + 1 = b
    · subst he
      exact Int.le_of_eq (mkSegments_contiguous L g h a sa sb ha hb)
    · exact Int.le_of_lt (sorted_get_lt ts hsorted (a + 1) b _ _ (by omega) (hget a sa ha).2 (hget b sb hb).1)
  intro a b sa sb ha hb hab
  rcases Nat.lt_or_gt_of_ne hab with hlt | hlt
  · exact Or.inl (key a b sa sb ha hb hlt)
  · exact Or.inr (key b a sb sa hb ha hlt)

/-- Nothing of the repeat structure remains: no Repeat, Ending, DaCapo, DalSegno, ToCoda, Segment (nor
Page / System) object is part of any unfolded part. -/
theorem no_structure_left (p : APart) (vs : List Visit) (c : OObj) (hc : c ∈ (variant p vs).objs) :
    c.kind.dropped = false ∧ c.kind ≠ .repeat_ ∧ c.kind ≠ .ending ∧ c.kind ≠ .daCapo ∧ c.kind ≠ .dalSegno ∧
    c.kind ≠ .toCoda ∧ c.kind ≠ .segment := by
  have hdrop : c.kind.dropped = false := by
    obtain ⟨_, _, _, _, ⟨_, hk, _⟩ | ⟨_, o, hco, _⟩⟩ := out_mem p.objs vs c hc
    · rw [hk]; rfl
    · rw [hco.kind]; exact hco.kept
  refine ⟨hdrop, ?_, ?_, ?_, ?_, ?_, ?_⟩ <;> (intro hk; rw [hk] at hdrop; simp [Kind.dropped] at hdrop)

/-- References stay inside the copy: every reference of a copied object is either None or points to an
object that was copied in the same visit (and is part of the unfolded part). -/
theorem refs_closed (p : APart) (vs : List Visit) (c : OObj) (hc : c ∈ (variant p vs).objs)
    (rl : List (Option Nat)) (hrl : rl ∈ c.refs) (j : Nat) (hj : some j ∈ rl) :
    ∃ c' ∈ (variant p vs).objs, c'.visit = c.visit ∧ c'.orig = j ∧ c'.extra = false := by
  obtain ⟨v, out', _, hsub, ⟨_, _, hr, _⟩ | ⟨_, o, _, hrefs⟩⟩ := out_mem p.objs vs c hc
  · rw [hr] at hrl; cases hrl
  · rw [hrefs, List.mem_map] at hrl
    obtain ⟨l0, _, rfl⟩ := hrl
    rw [List.mem_map] at hj
    obtain ⟨j0, _, hj0⟩ := hj
    split at hj0
    · rename_i hdom
      cases hj0
      simp only [List.contains_eq_mem, decide_eq_true_eq] at hdom
      obtain ⟨c', hc', hv, ho, hx⟩ := resolved_copy_mem p.objs v c.visit out' j hdom
      exact ⟨c', hsub _ hc', hv, ho, hx⟩
    · cases hj0

/-- shape of the reference lists of a copy: those of the original, each target kept when it is copied in
the same visit, None otherwise -/
theorem refs_exact (p : APart) (vs : List Visit) (c : OObj) (hc : c ∈ (variant p vs).objs)
    (hx : c.extra = false) :
    ∃ (o : Obj) (dom : List Nat), p.objs[c.orig]? = some o ∧
      c.refs = o.refs.map (·.map fun j => if dom.contains j then some j else none) ∧
      ∀ j ∈ dom, ∃ c' ∈ (variant p vs).objs, c'.visit = c.visit ∧ c'.orig = j ∧ c'.extra = false := by
  obtain ⟨v, out', _, hsub, ⟨hx', _⟩ | ⟨_, o, hco, hrefs⟩⟩ := out_mem p.objs vs c hc
  · rw [hx] at hx'; cases hx'
  · refine ⟨o, (copyPass v c.visit (enum 0 p.objs) out').map (·.orig), hco.orig, hrefs, ?_⟩
    intro j hj
    obtain ⟨c', hc', hv, ho, hx⟩ := resolved_copy_mem p.objs v c.visit out' j hj
    exact ⟨c', hsub _ hc', hv, ho, hx⟩

/-- Neighbouring time points: the time points of the unfolded part form a strictly increasing sequence: no
time occurs twice, and the neighbours of a point in the list are the nearest later and earlier times. -/
theorem points_strictly_sorted (p : APart) (vs : List Visit) : StrictSorted (variant p vs).points :=
  outPoints_sorted _ _ (shiftedPoints_sorted p.points vs [] trivial)

-- non-vacuity of `length_sum`: one bar with a measure and a note, played twice
example :
    (variant { points := [0, 2, 4], qd := [(0, 1)], objs :=
        [{ kind := .other, start := 0, stp := some 4, payload := [], nid := none, refs := [] },
         { kind := .note, start := 2, stp := some 4, payload := [60, 1, 1], nid := some "a", refs := [] }] }
      [⟨0, 4, 0⟩, ⟨0, 4, 4⟩]).duration = some (sumInt (visitLens [⟨0, 4, 0⟩, ⟨0, 4, 4⟩])) := by
  apply length_sum _ _ ⟨0, 4, 4⟩
  · exact ⟨rfl, rfl, trivial⟩
  · intro v hv; simp at hv; rcases hv with rfl | rfl <;> decide
  · rfl
  · intro v hv; simp at hv; subst hv; decide
  · intro o ho e he
    simp at ho
    rcases ho with rfl | rfl <;> simp at he <;> (subst he; decide)
  · intro v hv o ho _ _ e he
    simp at hv ho
    rcases hv with rfl | rfl <;> rcases ho with rfl | rfl <;> simp at he <;> (subst he; decide)
  · exact ⟨_, List.mem_cons_self, by decide, rfl, rfl, rfl⟩

-- non-vacuity of `copies_count`: the note of segment B in path A-B-B is copied twice
example :
    let g : List Seg := [{ start := 0, stp := 4, to := [.seg 1], await := [], ty := .leapEnd },
                         { start := 4, stp := 8, to := [.seg 1, .fin], await := [], ty := .dflt }]
    let p : APart := { points := [0, 4, 8], qd := [(0, 1)], objs :=
      [{ kind := .note, start := 0, stp := some 4, payload := [60, 1, 1], nid := some "a", refs := [] },
       { kind := .note, start := 4, stp := some 8, payload := [62, 1, 1], nid := some "b", refs := [] }] }
    visitsOf g [0, 1, 1] = some [⟨0, 4, 0⟩, ⟨4, 8, 4⟩, ⟨4, 8, 8⟩] ∧
    (((variant p [⟨0, 4, 0⟩, ⟨4, 8, 4⟩, ⟨4, 8, 8⟩]).objs.filter keepP).filter fun c => decide (c.orig = 1)).length = 2 ∧
    getPaths g false true true 9 = some [[0, 1, 1]] := by decide +kernel

-- non-vacuity of the part theorems: a tie from a note in segment [0,4) to a note in [4,8), path A-B-B
example :
    let p : APart := { points := [0, 2, 4, 8], qd := [(0, 1)], objs :=
      [{ kind := .note, start := 2, stp := some 4, payload := [60, 1, 1], nid := some "a", refs := [[1]] },
       { kind := .note, start := 4, stp := some 8, payload := [62, 1, 1], nid := some "b", refs := [[0]] },
       { kind := .repeat_, start := 4, stp := some 8, payload := [], nid := none, refs := [] }] }
    let vs : List Visit := [⟨0, 4, 0⟩, ⟨4, 8, 4⟩, ⟨4, 8, 8⟩]
    (variant p vs).duration = some 12 ∧ ((variant p vs).objs.map fun c => (c.orig, c.start, c.refs)) =
      [(0, 2, [[none]]), (1, 4, [[none]]), (1, 8, [[none]])] := by decide +kernel

/-- Ids on request (`update_ids`), what the code computes: a note with an id gets the suffix `-k` where `k` is its
rank (from 1) among the notes with the same id ordered by onset; nothing else changes.  That this rank is the
number of the visit of the note's segment is `ids_suffixed` (Props/C09Ext.lean). -/
theorem ids_suffixed_rank (out : List OObj) (pos : Nat) (c : OObj) (h : (enum 0 out)[pos]? = some (pos, c)) :
    ∃ c', (suffixIds out)[pos]? = some c' ∧
      c'.orig = c.orig ∧ c'.visit = c.visit ∧ c'.kind = c.kind ∧ c'.start = c.start ∧ c'.stp = c.stp ∧
      c'.payload = c.payload ∧ c'.refs = c.refs ∧
      c'.nid = (match c.kind, c.nid with
        | .note, some s => some (s ++ "-" ++ toString (idRank out pos c))
        | _, n => n) := by
  unfold suffixIds
  rw [List.getElem?_map, h]
  simp only [Option.map_some]
  refine ⟨_, rfl, ?_⟩
  cases hk : c.kind <;> cases hn : c.nid <;> simp [hk, hn]

example : (suffixIds
    [{ orig := 0, visit := 0, kind := .note, start := 0, stp := some 1, payload := [], nid := some "n1", refs := [] },
     { orig := 0, visit := 1, kind := .note, start := 4, stp := some 5, payload := [], nid := some "n1", refs := [] }]).map (·.nid)
    = [some "n1-1", some "n1-2"] := by decide +kernel

/-- r pairwise disjoint simple repeats (no endings, no marks): the segment table is a chain in which the r
repeated sections offer `[themselves, next]`.  Then there are exactly 2^r paths (any fuel ≥ 2n+1 is enough,
so the enumeration terminates), the maximal unfolding plays every repeated section exactly twice, the minimal
one plays every section once. -/
theorem simple_repeats (flags : List Bool) (tys : List SegType) (times : List (Int × Int))
    (hty : ∀ t ∈ tys, t ≠ SegType.leapStart) (il : Bool) (fuel : Nat) (hf : 2 * flags.length + 1 ≤ fuel)
    (hne : flags ≠ []) :
    (∃ ps, getPaths (chainGraph flags tys times) false false il fuel = some ps ∧
        ps.length = 2 ^ (flags.count true) ∧ ps = allPaths 0 flags) ∧
    getPaths (chainGraph flags tys times) false true il fuel = some [maxPath 0 flags] ∧
    getPaths (chainGraph flags tys times) true false il fuel = some [minPath 0 flags] := by
  have key : ∀ nr ar, getPaths (chainGraph flags tys times) nr ar il fuel = some (pathsFrom nr ar 0 flags) := by
    intro nr ar
    have := chain_unfold flags tys times il nr ar hty flags 0 (by simp) hne fuel (by omega)
      (initState (chainGraph flags tys times) nr ar) rfl rfl (by intro k _; rfl) rfl rfl
    simpa [getPaths, initState] using this
  refine ⟨⟨allPaths 0 flags, ?_, allPaths_length flags 0, rfl⟩, ?_, ?_⟩
  · simpa [pathsFrom] using key false false
  · simpa [pathsFrom] using key false true
  · simpa [pathsFrom] using key true false

-- non-vacuity: three sections, the last two repeated: 4 paths
example : getPaths (chainGraph [false, true, true] [] []) false false true 7 =
    some [[0, 1, 1, 2, 2], [0, 1, 1, 2], [0, 1, 2, 2], [0, 1, 2]] := by decide +kernel

/-- each repeated section occurs exactly twice in the maximal path and once in the minimal one; the other
sections once -/
theorem max_min_counts (flags : List Bool) (i : Nat) (b : Bool) (h : flags[i]? = some b) :
    (maxPath 0 flags).count i = (if b then 2 else 1) ∧ (minPath 0 flags).count i = 1 :=
  max_min_counts_aux flags 0 i b (by simpa using h) (Nat.zero_le _)

/-- One repeat with endings 1..k, one number per bracket, ANY k ≥ 1, with or without music before the repeat and
after the last ending: on the segment table of that shape (the section offers the brackets in order, every
bracket but the last jumps back to the section, the last one goes on) the maximal unfolding is the single path
"section, ending 1, section, ending 2, …, section, ending k" and the minimal one "section, ending k"; fuel
2k+4 suffices (the enumeration terminates). -/
theorem voltas (pre post : Bool) (k : Nat) (hk : 1 ≤ k) (tys : Nat → SegType) (tms : Nat → Int × Int)
    (hty : ∀ i, tys i ≠ SegType.leapStart) (il : Bool) (fuel : Nat) (hf : 2 * k + 4 ≤ fuel) :
    getPaths (voltaGraph pre k post tys tms) false true il fuel = some [voltaMaxPath pre k post] ∧
    getPaths (voltaGraph pre k post tys tms) true false il fuel = some [voltaMinPath pre k post] := by
  have hlast := getLast?_range_pos k hk
  have := mv_paths_aux pre k post (List.range k) tys tms il hty (fun x hx => List.mem_range.mp hx) (k - 1) hlast fuel
    (by rw [List.length_range]; exact hf)
  rw [mvGraph_range pre k post tys tms hk] at this
  rw [← mvMaxPath_range, ← mvMinPath_range pre k post hk]
  exact this

/-- … where pass i (counting from 0) of the maximal path is the section followed by bracket i -/
theorem voltas_pass_order (pre post : Bool) (k i : Nat) (h : i < k) :
    (vPasses (vBody pre) 0 k)[2 * i]? = some (vBody pre) ∧
    (vPasses (vBody pre) 0 k)[2 * i + 1]? = some (vBody pre + 1 + i) := by
  rw [← mvPasses_range]
  exact mvPasses_get (vBody pre) (List.range k) i i (List.getElem?_range h)

-- non-vacuity: four endings after one bar of lead-in
example : getPaths (voltaGraph true 4 false (fun _ => .dflt) (fun _ => (0, 0))) false true true 12 =
    some [[0, 1, 2, 1, 3, 1, 4, 1, 5]] := by decide +kernel

/-- No repeat structure: one segment, the single path `[A]`. -/
theorem no_repeats_single_path (first last : Int) (h : first < last) (nr ar il : Bool) (fuel : Nat) :
    (mkSegments { first := first, last := last }).bind (fun g => getPaths g nr ar il (fuel + 1)) = some [[0]] := by
  rw [no_repeats_graph first last h]
  cases nr <;> cases ar <;>
    simp [getPaths, unfoldFrom, initState, PState.dests, lastIndex, stepList, PState.path]

/-- … and the unfolded part is the original (on what `keepP` keeps, as in `copies_per_visit`): every object that is not a
signature/clef, page or system and
starts before the last time point appears exactly once, moved by `−first`, with kind, length, payload, id
unchanged (signatures and clefs: see `copies_per_visit`; only those that repeat the previous one are left out). -/
theorem no_repeats_id (p : APart) (first last : Int) :
    (((variant p [⟨first, last, 0⟩]).objs.filter keepP).map core) =
      ((enum 0 p.objs).filter (copyable ⟨first, last, 0⟩)).map fun q => core (mkCopy q.1 0 q.2 (0 - first)) := by
  have := copies_per_visit p [⟨first, last, 0⟩]
  simpa [enum] using this

end C09
