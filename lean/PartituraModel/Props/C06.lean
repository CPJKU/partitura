/-
C06 — performance MIDI export and import preserve notes, controls and timing.

Theorems about `Model/PerfMidi.lean` (the model mirrors the code after fixes/C06-1 … C06-5).
`q` is the exporter's conversion of seconds to ticks; `quant mpq ppq` is round-half-even of 10^6·ppq·t/mpq.

Namespaces of the proof modules that are not file names: `C06Stable` is in Proofs/C06Sort.lean, `C06Ids` in C06Order.lean,
`C06PairIff` in C06Pair.lean, `C06Regen` in C06Adjust.lean, `C06Merged` in C06Notes.lean (`IsDefaultProg`: C06Defaults.lean).
-/
import PartituraModel.Model.PerfMidi
import PartituraModel.Proofs.C06Adjust
import PartituraModel.Proofs.C06Pair
import PartituraModel.Proofs.C06Export
import PartituraModel.Proofs.C06Order
import PartituraModel.Proofs.C06Notes

namespace C06
open Model Model.PerfMidi C06Sort C06Adjust C06Pair C06Lists C06Export C06Ids C06Notes

/-- `adjust_time` over a tempo list in order of tick is the integral of the tempo map:
    Σ_i (min k t_{i+1} − t_i)⁺ · mpq_i / (10^6·ppq) -/
theorem adjust_integral (ppq : Nat) (k t0 : Int) (m0 : Nat) (rest : List (Int × Nat))
    (hk : 0 ≤ k) (hs : SortedFrom 0 ((t0, m0) :: rest)) :
    adjustTime k ((t0, m0) :: rest) ppq = some (integral ppq k (0, m0) ((t0, m0) :: rest)) :=
  adjustTime_eq ppq k t0 m0 rest hk hs

example : SortedFrom 0 [(0, 500000), (480, 250000), (960, 1000000)] := by simp [SortedFrom]
example : adjustTime 1440 [(0, 500000), (480, 250000), (960, 1000000)] 480 = some (7 / 4) := by decide +kernel

/-- later ticks are not earlier in seconds -/
theorem adjust_mono (ppq : Nat) (a b t0 : Int) (m0 : Nat) (rest : List (Int × Nat))
    (ha : 0 ≤ a) (hab : a ≤ b) (hs : SortedFrom 0 ((t0, m0) :: rest)) :
    ∃ x y, adjustTime a ((t0, m0) :: rest) ppq = some x ∧ adjustTime b ((t0, m0) :: rest) ppq = some y ∧ x ≤ y :=
  ⟨_, _, adjustTime_eq ppq a t0 m0 rest ha hs, adjustTime_eq ppq b t0 m0 rest (le_trans ha hab) hs,
    integral_mono ppq a b hab _ _⟩

/-- … and strictly later when every tempo is positive -/
theorem adjust_strict_mono (ppq : Nat) (hp : 0 < ppq) (a b t0 : Int) (m0 : Nat) (rest : List (Int × Nat))
    (ha : 0 ≤ a) (hab : a < b) (hs : SortedFrom 0 ((t0, m0) :: rest)) (hm : 0 < m0) (hpos : AllPos rest) :
    ∃ x y, adjustTime a ((t0, m0) :: rest) ppq = some x ∧ adjustTime b ((t0, m0) :: rest) ppq = some y ∧ x < y :=
  ⟨_, _, adjustTime_eq ppq a t0 m0 rest ha hs, adjustTime_eq ppq b t0 m0 rest (le_trans ha (le_of_lt hab)) hs,
    integral_strictMono ppq hp a b hab (0, m0) _ ha hm hs
      (fun c hc => by rcases List.mem_cons.mp hc with rfl | hc; exact hm; exact hpos c hc)⟩

/-- Tempo changes in ANY track: the loader integrates the default tempo from tick 0 and then every
    `set_tempo` of the file in order of tick (events of one tick in track order), wherever they are.
    [holds for the repaired collection — fixes/C06-2; the examples below are the unrepaired order] -/
theorem adjust_any_track (d : Nat) (tracks : List Track) (ppq : Nat) (k : Int) (hk : 0 ≤ k)
    (hpos : ∀ e ∈ tracks.flatMap temposOf, 0 ≤ e.1) :
    (sortBy tempoLe (tracks.flatMap temposOf)).Perm (tracks.flatMap temposOf) ∧
    (sortBy tempoLe (tracks.flatMap temposOf)).Pairwise (fun a b => a.1 ≤ b.1) ∧
    secondsAt d tracks ppq k = integral ppq k (0, d) (sortBy tempoLe (tracks.flatMap temposOf)) := by
  have hsorted := (isSort tempoLe).pairwise tempoLe_order (tracks.flatMap temposOf)
  refine ⟨(isSort _).perm _, ?_, ?_⟩
  · exact hsorted.imp (fun h => by simpa [tempoLe] using h)
  · have hs : SortedFrom 0 ((0, d) :: sortBy tempoLe (tracks.flatMap temposOf)) :=
      ⟨le_refl _, sortedFrom_of_pairwise 0 _ (fun c hc => hpos c (((isSort _).mem).mp hc)) hsorted⟩
    unfold secondsAt tempoList
    rw [adjustLoop_eq ppq k 0 0 d _ hk hs, zero_add]
    have : max (min k (0 : Int) - 0) 0 = 0 := by omega
    simp only [integral, this, Int.cast_zero, zero_mul, zero_add]

/-- the candidate F-C06-2 on the model: integrating the tempo changes in the order they are met track by
    track (tempo at tick 1000 in track 0, tick 500 in track 1) does not give the integral -/
example : adjustTime 1000 [(0, 500000), (1000, 1000000), (500, 250000)] 480
    ≠ some (integral 480 1000 (0, 500000) [(500, 250000), (1000, 1000000)]) := by decide +kernel

example : secondsAt 500000 [[(1000, Ev.tempo 1000000)], [(500, Ev.tempo 250000)]] 480 1000
    = integral 480 1000 (0, 500000) [(500, 250000), (1000, 1000000)] := by decide +kernel

/-- a non-negative time is written on a non-negative tick -/
theorem quant_nonneg (mpq ppq : Nat) (t : Rat) (ht : 0 ≤ t) : 0 ≤ quant mpq ppq t :=
  Ticks.secToTick_nonneg mpq ppq ht

/-- Single tempo on export: whatever the performance and the merging on either side, the loader's tempo
    list is the default followed by the exporter's tempo at tick 0, and a time `t` comes back as
    `tickToSec (secToTick t)` — `t` rounded to the tick grid, at most half a tick away -/
theorem export_import_t (mpq ppq d : Nat) (hm : 0 < mpq) (hp : 0 < ppq) (ms ml : Bool) (parts : List PPart)
    (hne : usedTracks (quant mpq ppq) parts ≠ []) (t : Rat) (ht : 0 ≤ t) :
    tempoList d (loaderTracks ml ((savedAbs (quant mpq ppq) mpq ms parts).map toDelta)) = [(0, d), (0, mpq)] ∧
    secondsAt d (loaderTracks ml ((savedAbs (quant mpq ppq) mpq ms parts).map toDelta)) ppq (secToTick t mpq ppq)
      = tickToSec (secToTick t mpq ppq) mpq ppq ∧
    |tickToSec (secToTick t mpq ppq) mpq ppq - t| ≤ (mpq : Rat) / (2 * 1000000 * ppq) := by
  have htl : tempoList d (loaderTracks ml ((savedAbs (quant mpq ppq) mpq ms parts).map toDelta))
      = [(0, d), (0, mpq)] := by
    unfold tempoList
    rw [tempos_file _ mpq ms ml parts hne]
    rfl
  have hk : 0 ≤ secToTick t mpq ppq := quant_nonneg mpq ppq t ht
  refine ⟨htl, ?_, ?_⟩
  · unfold secondsAt
    rw [htl]
    have hnlt : ¬ secToTick t mpq ppq < 0 := not_lt.mpr hk
    simp only [adjustLoop, hnlt, if_false, sub_self, tickToSec_eq, Int.cast_zero, zero_mul, add_zero,
      sub_zero, zero_add]
    rfl
  · exact C06Regen.half_tick mpq ppq hm hp t

/-- Pairing: if, for every (channel, pitch) hash, the note messages of a track alternate between a
    note-on and a release (note-off or zero-velocity note-on) of that channel and pitch — no two notes of
    one pitch and channel overlap —, the loader returns, for every hash, exactly the notes the track
    encodes, in order: onset tick and velocity of the note-on, release tick of the release
    (`proj`, `notesOf`, `Alt` are defined in Proofs/C06Pair.lean) -/
theorem pairing_sound (l : Track) (f : Nat → List RNote) (h : ∀ κ, Alt (proj κ l) (f κ)) (κ : Nat) :
    notesOf κ (pairNotes l) = f κ :=
  pairNotes_of_alt l f h κ

/-- non-vacuity: two pitches interleaved, a zero-velocity release, a note left sounding -/
example : Alt (proj (noteHash 0 60) [(0, Ev.noteOn 0 60 64), (5, Ev.noteOn 1 62 10), (10, Ev.noteOn 0 60 0),
      (10, Ev.noteOn 0 60 70), (12, Ev.control 0 64 127), (20, Ev.noteOff 0 60 0), (30, Ev.noteOff 1 62 64),
      (40, Ev.noteOn 0 60 1)])
    [⟨60, 0, 10, 64, 0⟩, ⟨60, 10, 20, 70, 0⟩] :=
  Alt.pair 0 10 0 60 64 _ _ _ (by decide) (Or.inr rfl)
    (Alt.pair 10 20 0 60 70 _ _ _ (by decide) (Or.inl ⟨0, rfl⟩) (Alt.sounding 40 0 60 1 (by decide)))

/-- overlapping notes of one pitch and channel are outside the statement: the second note-on overwrites -/
example : pairNotes [(0, Ev.noteOn 0 60 64), (5, Ev.noteOn 0 60 10), (10, Ev.noteOff 0 60 0), (20, Ev.noteOff 0 60 0)]
    = [⟨60, 5, 10, 10, 0⟩] := by decide

/-- Ids: the loaded notes are a rearrangement of the paired notes, and the note with id `n<i>` (position i)
    is not after the note with id `n<j>`, i < j, in the lexicographic order of (onset, pitch, offset,
    channel) with the times in seconds — for any tick→seconds conversion that is strictly increasing on
    the non-negative ticks (`adjust_strict_mono`); the track is the same for all notes of a part -/
theorem ids_by_key (l : List RNote) (sec : Int → Rat) (hsec : ∀ x y, 0 ≤ x → x < y → sec x < sec y)
    (hpos : ∀ n ∈ l, 0 ≤ n.on ∧ 0 ≤ n.off) :
    (sortNotes l).Perm l ∧ (sortNotes l).Pairwise (KeyLe sec) := by
  -- on non-negative ticks the order by ticks is the order by these seconds
  rw [← C06Order.sortNotesSec_eq sec hsec l hpos]
  exact ⟨(isSort _).perm _, C06Order.sorted_sortNotesSec sec l⟩

example : sortNotes [⟨60, 10, 20, 1, 0⟩, ⟨62, 0, 5, 2, 0⟩, ⟨59, 10, 12, 3, 1⟩, ⟨59, 10, 12, 4, 0⟩]
    = [⟨62, 0, 5, 2, 0⟩, ⟨59, 10, 12, 4, 0⟩, ⟨59, 10, 12, 3, 1⟩, ⟨60, 10, 20, 1, 0⟩] := by decide

/-- Notes survive the round trip, track by track (no merging): if on every track number the notes of one
    (channel, pitch), in the order they are written (part by part, by (note_on, note_off)), each end before
    the next begins, then from file track j — read back from the delta-encoded saved file — the loader pairs,
    for every (channel, pitch), exactly the notes the performance has on its j-th smallest used track
    number: same pitch, velocity and channel, onset and release at the ticks `q note_on`, `q note_off` -/
theorem notes_kept_tracks (q : Rat → Int) (hq : ∀ a b, a ≤ b → q a ≤ q b) (mpq : Nat) (parts : List PPart)
    (hwf : ∀ p ∈ parts, ∀ n ∈ p.notes, n.on ≤ n.off ∧ 0 < n.vel)
    (hno : ∀ tr κ, (keyNotes parts tr κ).Pairwise (fun a b => a.off ≤ b.on)) :
    List.Forall₂ (fun tr t => ∀ κ, notesOf κ (pairNotes t) = (keyNotes parts tr κ).map (toR q))
      (usedTracks q parts) (loaderTracks false ((savedAbs q mpq false parts).map toDelta)) := by
  have hno' : ∀ tr κ, (keyNotes parts tr κ).Pairwise (fun a b => q a.off ≤ q b.on) := fun tr κ =>
    (hno tr κ).imp (hq _ _)
  refine (C06Merged.notes_tracks q hq mpq parts hwf fun tr κ => (hno' tr κ).imp Or.inl).imp fun tr t h κ => ?_
  rw [h κ, C06Merged.orderNotes_of_sorted q _ (hno' tr κ)]

/-- The proviso of the property for one performed part: no two notes of the same track, channel and pitch
    overlap (as half-open intervals; the list may be in any order) — then the written order is the order
    in time and `notes_kept_tracks` applies; with the exporter's own rounding -/
theorem notes_kept_part (mpq ppq : Nat) (p : PPart)
    (hwf : ∀ n ∈ p.notes, n.on ≤ n.off ∧ 0 < n.vel)
    (hap : p.notes.Pairwise (fun a b => a.track = b.track → noteHash a.ch a.pitch = noteHash b.ch b.pitch → Apart a b)) :
    List.Forall₂ (fun tr t => ∀ κ, notesOf κ (pairNotes t) = (keyNotes [p] tr κ).map (toR (quant mpq ppq)))
      (usedTracks (quant mpq ppq) [p])
      (loaderTracks false ((savedAbs (quant mpq ppq) mpq false [p]).map toDelta)) := by
  refine notes_kept_tracks (quant mpq ppq) (quant_mono mpq ppq) mpq [p] (List.forall_mem_singleton.mpr hwf) ?_
  intro tr κ
  exact keyNotes_single p tr κ (fun n hn => (hwf n hn).1) hap

/-- non-vacuity, and the witness of fixes/C06-4: two touching notes of one pitch listed in reverse order,
    a third on another channel overlapping both -/
example : let p : PPart := { metaOther := [], keySigs := [], timeSigs := [], controls := [],
                             notes := [⟨60, 70, 0, 0, 1, 2⟩, ⟨60, 64, 0, 0, 0, 1⟩, ⟨60, 5, 1, 0, 1/2, 3/2⟩],
                             programs := [] }
    p.notes.Pairwise (fun a b => a.track = b.track → noteHash a.ch a.pitch = noteHash b.ch b.pitch → Apart a b) ∧
    ((loaderTracks false ((savedAbs (quant 500000 480) 500000 false [p]).map toDelta)).map
        (fun t => sortNotes (pairNotes t)))
      = [[⟨60, 0, 960, 64, 0⟩, ⟨60, 480, 1440, 5, 1⟩, ⟨60, 960, 1920, 70, 0⟩]] := by
  unfold Apart
  decide +kernel

/-- Without merging: file track j, as the loader reads it back from the delta-encoded saved file, holds
    exactly the controls (tick, number, value, channel) the performance has on its j-th smallest used
    track number (as a multiset) -/
theorem controls_kept_tracks (q : Rat → Int) (mpq : Nat) (parts : List PPart) :
    List.Forall₂ (fun tr t => (controlsOf t).Perm (perfControls q parts tr))
      (usedTracks q parts) (loaderTracks false ((savedAbs q mpq false parts).map toDelta)) := by
  simpa only [controlsOf_eq, perfControls_eq] using
    sel_loaderTracks gCtl rfl (fun _ _ => rfl) (fun _ => rfl) q mpq parts

/-- With or without merging on either side: the multiset of controls read from the whole file is the
    multiset of controls of the performance -/
theorem controls_kept (q : Rat → Int) (mpq : Nat) (ms ml : Bool) (parts : List PPart) :
    ((loaderTracks ml ((savedAbs q mpq ms parts).map toDelta)).flatMap controlsOf).Perm
      ((usedTracks q parts).flatMap (perfControls q parts)) := by
  rw [funext controlsOf_eq, funext (perfControls_eq q parts)]
  exact sel_file_perf gCtl rfl (fun _ _ => rfl) (fun _ => rfl) q mpq ms ml parts

/-- the same for time signatures, key signatures and other meta events (up to `end_of_track`) -/
theorem signatures_meta_kept (q : Rat → Int) (mpq : Nat) (ms ml : Bool) (parts : List PPart) :
    ((loaderTracks ml ((savedAbs q mpq ms parts).map toDelta)).flatMap timeSigsOf).Perm
      ((usedTracks q parts).flatMap (perfTimeSigs q parts)) ∧
    ((loaderTracks ml ((savedAbs q mpq ms parts).map toDelta)).flatMap keySigsOf).Perm
      ((usedTracks q parts).flatMap (perfKeySigs q parts)) ∧
    ((loaderTracks ml ((savedAbs q mpq ms parts).map toDelta)).flatMap (fun t => realMetas (metasOf t))).Perm
      ((usedTracks q parts).flatMap (perfMetas q parts)) := by
  rw [funext timeSigsOf_eq, funext keySigsOf_eq, funext realMetas_metasOf, funext (perfTimeSigs_eq q parts),
    funext (perfKeySigs_eq q parts), funext (perfMetas_eq q parts)]
  exact ⟨sel_file_perf gTime rfl (fun _ _ => rfl) (fun _ => rfl) q mpq ms ml parts,
    sel_file_perf gKey rfl (fun _ _ => rfl) (fun _ => rfl) q mpq ms ml parts,
    sel_file_perf gMeta rfl (fun _ _ => rfl) (fun _ => rfl) q mpq ms ml parts⟩

/-- non-vacuity: a part on track numbers 0 and 2 without programs (default program inserted), merged on
    load: the used tracks, the single tempo, the controls and programs read back -/
example : let p : PPart := { metaOther := [⟨3, none, 0⟩, ⟨1/4, some 2, 2⟩], keySigs := [⟨0, -3, true, 0⟩],
                             timeSigs := [⟨0, 6, 8, 2⟩], controls := [⟨1/3, 64, 127, 1, 2⟩, ⟨0, 7, 100, 0, 0⟩],
                             notes := [⟨60, 64, 0, 0, 1/2, 1⟩], programs := [] }
    let tracks := loaderTracks true ((savedAbs (quant 500000 480) 500000 false [p]).map toDelta)
    usedTracks (quant 500000 480) [p] = [0, 2] ∧
    tempoList 500000 tracks = [(0, 500000), (0, 500000)] ∧
    tracks.flatMap controlsOf = [(0, 7, 100, 0), (320, 64, 127, 1)] ∧
    tracks.flatMap programsOf = [(0, 0, 0), (0, 0, 1)] ∧
    tracks.flatMap (fun t => realMetas (metasOf t)) = [(240, 2)] := by decide +kernel

/-- Programs, per track: what is read is what the performance has, plus `program_change 0` only
    (the default program written for the channels of a part without programs) -/
theorem programs_kept_tracks (q : Rat → Int) (mpq : Nat) (parts : List PPart) :
    List.Forall₂ (fun tr t => ∃ d : List (Int × Nat × Nat), (∀ x ∈ d, x.2.1 = 0) ∧
        (programsOf t).Perm (perfPrograms q parts tr ++ d))
      (usedTracks q parts) (loaderTracks false ((savedAbs q mpq false parts).map toDelta)) := by
  rw [loaderTracks_saved, List.forall₂_map_right_iff]
  refine (C06Defaults.prog_exportAbs q mpq parts).imp fun tr t h => ?_
  refine ⟨_, fun x hx => (C06Defaults.trackDefaults_isDefault q parts tr x hx).1, ?_⟩
  rwa [programsOf_eq, sel_fixEot gProg rfl]

/-- time signatures, per track -/
theorem time_signatures_kept_tracks (q : Rat → Int) (mpq : Nat) (parts : List PPart) :
    List.Forall₂ (fun tr t => (timeSigsOf t).Perm (perfTimeSigs q parts tr))
      (usedTracks q parts) (loaderTracks false ((savedAbs q mpq false parts).map toDelta)) := by
  simpa only [timeSigsOf_eq, perfTimeSigs_eq] using
    sel_loaderTracks gTime rfl (fun _ _ => rfl) (fun _ => rfl) q mpq parts

/-- key signatures, per track -/
theorem key_signatures_kept_tracks (q : Rat → Int) (mpq : Nat) (parts : List PPart) :
    List.Forall₂ (fun tr t => (keySigsOf t).Perm (perfKeySigs q parts tr))
      (usedTracks q parts) (loaderTracks false ((savedAbs q mpq false parts).map toDelta)) := by
  simpa only [keySigsOf_eq, perfKeySigs_eq] using
    sel_loaderTracks gKey rfl (fun _ _ => rfl) (fun _ => rfl) q mpq parts

/-- other meta events, per track, up to `end_of_track` (mido moves it to the end of the track) -/
theorem meta_kept_tracks (q : Rat → Int) (mpq : Nat) (parts : List PPart) :
    List.Forall₂ (fun tr t => (realMetas (metasOf t)).Perm (perfMetas q parts tr))
      (usedTracks q parts) (loaderTracks false ((savedAbs q mpq false parts).map toDelta)) := by
  simpa only [realMetas_metasOf, perfMetas_eq] using
    sel_loaderTracks gMeta rfl (fun _ _ => rfl) (fun _ => rfl) q mpq parts

/-- mido's `merge_tracks` (in absolute ticks): the merged track is in order of tick and holds, apart from
    `end_of_track`, exactly the (tick, message) pairs of the tracks -/
theorem merge_tracks (ts : List Track) :
    ((mergeAbs ts).filter (fun m => !isEot m.2)).Perm (ts.flatten.filter (fun m => !isEot m.2)) ∧
    (mergeAbs ts).Pairwise (fun a b => a.1 ≤ b.1) := by
  constructor
  · unfold mergeAbs
    rw [filter_fixEot]
    exact ((isSort tickLe).perm ts.flatten).filter _
  · unfold mergeAbs
    refine sorted_fixEot _ ?_
    exact ((isSort tickLe).pairwise tickLe_order ts.flatten).imp (fun h => by simpa [tickLe] using h)

example : mergeAbs [[(0, Ev.tempo 500000), (10, Ev.noteOn 0 60 64), (20, Ev.noteOff 0 60 0), (20, Ev.eot)],
                    [(5, Ev.control 0 64 127), (10, Ev.noteOn 1 62 64), (30, Ev.noteOff 1 62 0), (30, Ev.eot)]]
    = [(0, Ev.tempo 500000), (5, Ev.control 0 64 127), (10, Ev.noteOn 0 60 64), (10, Ev.noteOn 1 62 64),
       (20, Ev.noteOff 0 60 0), (30, Ev.noteOff 1 62 0), (30, Ev.eot)] := by decide

/-- delta encoding loses nothing: reading the delta times back gives the absolute ticks -/
theorem delta_roundtrip (l : Track) : toAbs (toDelta l) = l := toAbs_toDelta l

end C06
