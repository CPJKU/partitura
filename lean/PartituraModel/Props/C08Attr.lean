/-
C08 — "voices, staves and the supported articulations" of the score notes survive writing and reading:
theorems over Model/MatchAttr.lean (the attribute list of an snote line) and the literal pieces of the live source
(Gen/C08Lits.lean, regenerated on every run by harness/translate_c08.py).
-/
import PartituraModel.Proofs.Orders
import PartituraModel.Gen.C08Lits
import PartituraModel.Proofs.C08Attr
import PartituraModel.Proofs.C08Sort

namespace C08
open Model Model.MatchCodec Model.MatchAttr C08A

theorem mem_writeAttrs (n : ScoreNote) (a : Str) :
    a ∈ writeAttrs n ↔ (∃ k, n.voice = some k ∧ a = sV ++ showNatS k) ∨ (∃ k, n.staff = some k ∧ a = sStaff ++ showNatS k)
      ∨ a ∈ names n ∨ a ∈ marks n := by
  unfold writeAttrs vPart sPart
  cases n.voice <;> cases n.staff <;> simp [List.mem_append]

theorem contains_write (n : ScoreNote) (s : Str) (hv : ∀ k, sV ++ showNatS k ≠ s) (hs : ∀ k, sStaff ++ showNatS k ≠ s)
    (hm : ∀ a ∈ marks n, a ≠ s) : (writeAttrs n).contains s = (names n).contains s := by
  rw [Bool.eq_iff_iff, List.contains_iff_mem, List.contains_iff_mem, mem_writeAttrs]
  constructor
  · rintro (⟨k, _, h⟩ | ⟨k, _, h⟩ | h | h)
    · exact absurd h.symm (hv k)
    · exact absurd h.symm (hs k)
    · exact h
    · exact absurd rfl (hm s h)
  · intro h; exact Or.inr (Or.inr (Or.inl h))

theorem quiet_rest (n : ScoreNote) (hnames : ∀ a ∈ names n, plain a = true) (a : Str) (h : a ∈ names n ∨ a ∈ marks n) :
    Quiet a := by
  rcases h with h | h
  · exact (plain_quiet (hnames a h)).1
  · exact (marks_spec n a h).1

theorem not_contains_write (n : ScoreNote) (hnames : ∀ a ∈ names n, plain a = true) (s : Str)
    (hv : ∀ k, sV ++ showNatS k ≠ s) (hs : ∀ k, sStaff ++ showNatS k ≠ s) (hq : ∀ a, Quiet a → a ≠ s) :
    (writeAttrs n).contains s = false := by
  rw [Bool.eq_false_iff, ne_eq, List.contains_iff_mem, mem_writeAttrs]
  rintro (⟨k, _, h⟩ | ⟨k, _, h⟩ | h | h)
  · exact hv k h.symm
  · exact hs k h.symm
  · exact hq _ (quiet_rest n hnames _ (Or.inl h)) rfl
  · exact hq _ (quiet_rest n hnames _ (Or.inr h)) rfl

/-- the voice: the number after `v` when the note has one; otherwise nothing on the list looks like a voice or starts
    with a digit -/
theorem readVoice_write (n : ScoreNote) (hnames : ∀ a ∈ names n, plain a = true) :
    readVoice (writeAttrs n) = some n.voice := by
  have hnov : ∀ a ∈ sPart n ++ (names n ++ marks n), vnumberMatch a = false ∧ digitPrefix a = false := by
    intro a ha
    unfold sPart at ha
    rcases List.mem_append.mp ha with h | h
    · cases hst : n.staff with
      | none => simp [hst] at h
      | some k =>
        simp only [hst, List.mem_singleton] at h; subst h
        exact ⟨(sattr_spec k).not_vmatch, (sattr_spec k).not_digit⟩
    · have := quiet_rest n hnames a (List.mem_append.mp h)
      exact ⟨this.not_vmatch, this.not_digit⟩
  unfold readVoice
  rw [not_contains_write n hnames sS (fun k => (vattr_spec k).ne_s) (fun k => (sattr_spec k).ne_s) (fun _ q => q.ne_s)]
  simp only [Bool.false_eq_true, if_false]
  unfold writeAttrs vPart
  cases hvc : n.voice with
  | some k =>
    have hv := vattr_spec k
    simp only [List.singleton_append, List.any_cons, hv.vprefix, Bool.true_or, if_true, List.find?_cons_of_pos hv.vmatch,
      hv.value, Option.map_some]
  | none =>
    simp only [List.nil_append]
    have hnone : List.find? vnumberMatch (sPart n ++ (names n ++ marks n)) = none := by
      rw [List.find?_eq_none]; intro a ha; simp [(hnov a ha).1]
    have hnone2 : List.find? digitPrefix (sPart n ++ (names n ++ marks n)) = none := by
      rw [List.find?_eq_none]; intro a ha; simp [(hnov a ha).2]
    rw [hnone, hnone2]
    split <;> rfl

/-- the staff: the voice attribute is passed over, the staff attribute comes next when the note has one; otherwise
    nothing on the list starts with `staff` -/
theorem readStaff_write (n : ScoreNote) (hnames : ∀ a ∈ names n, plain a = true) :
    readStaff (writeAttrs n) = n.staff := by
  unfold readStaff
  have hskipv : List.find? (fun a => sStaff.isPrefixOf a) (writeAttrs n)
      = List.find? (fun a => sStaff.isPrefixOf a) (sPart n ++ (names n ++ marks n)) := by
    unfold writeAttrs vPart
    cases n.voice with
    | none => rfl
    | some k =>
      simp only [List.singleton_append]
      rw [List.find?_cons_of_neg]
      simp [(vattr_spec k).not_staff]
  rw [hskipv]
  unfold sPart
  cases hst : n.staff with
  | some k =>
    simp only [List.singleton_append]
    rw [List.find?_cons_of_pos (sattr_spec k).staff_prefix]
    exact (sattr_spec k).value
  | none =>
    simp only [List.nil_append]
    have : List.find? (fun a => sStaff.isPrefixOf a) (names n ++ marks n) = none := by
      rw [List.find?_eq_none]; intro a ha
      simp [(quiet_rest n hnames a (List.mem_append.mp ha)).not_staff]
    rw [this]

/-- `grace` is on the list exactly for a grace note: it is one of the marks then, and no plain name -/
theorem contains_grace_write (n : ScoreNote) (hnames : ∀ a ∈ names n, plain a = true) :
    (writeAttrs n).contains sGrace = n.grace := by
  rw [Bool.eq_iff_iff, List.contains_iff_mem, mem_writeAttrs]
  constructor
  · rintro (⟨k, _, h⟩ | ⟨k, _, h⟩ | h | h)
    · exact absurd h.symm (vattr_spec k).ne_grace
    · exact absurd h.symm (sattr_spec k).ne_grace
    · exact absurd rfl (plain_quiet (hnames _ h)).2
    · exact (marks_spec n _ h).2.2.2 rfl
  · intro h; exact Or.inr (Or.inr (Or.inr (grace_mem_marks n h)))

/-- **attrs_roundtrip.**  For every score note whose articulation / ornament names are plain: the reader recovers voice,
    staff, the two supported articulations, no tie mark, and grace-ness from the attribute list the writer builds. -/
theorem attrs_roundtrip (n : ScoreNote) (hnames : ∀ a ∈ names n, plain a = true) :
    readAttrs (writeAttrs n) false = some
      { staff := n.staff, voice := n.voice,
        staccato := (names n).contains sStaccato, accent := (names n).contains sAccent,
        tied := false, grace := n.grace } := by
  unfold readAttrs
  rw [readVoice_write n hnames, readStaff_write n hnames,
    contains_write n sStaccato (fun k => (vattr_spec k).ne_staccato) (fun k => (sattr_spec k).ne_staccato)
      (fun a ha => (marks_spec n a ha).2.1),
    contains_write n sAccent (fun k => (vattr_spec k).ne_accent) (fun k => (sattr_spec k).ne_accent)
      (fun a ha => (marks_spec n a ha).2.2.1),
    not_contains_write n hnames sStac (fun k => (vattr_spec k).ne_stac) (fun k => (sattr_spec k).ne_stac)
      (fun _ q => q.ne_stac),
    not_contains_write n hnames sTied (fun k => (vattr_spec k).ne_tied) (fun k => (sattr_spec k).ne_tied)
      (fun _ q => q.ne_tied),
    contains_grace_write n hnames]
  simp

/-- non-vacuity: voice 3, staff 12, a staccato with a tenuto and a vertical turn (a name that starts with `v`),
    a fermata, two fingerings, a grace note on a deletion line with a voice overlap -/
def busyNote : ScoreNote :=
  { voice := some 3, staff := some 12, arts := some ["staccato".toList, "tenuto".toList]
    orns := some ["vertical-turn".toList], fermata := true, fingerings := [1, 23], grace := true
    diffVersion := true, voiceOverlap := true }

example : (∀ a ∈ names busyNote, plain a = true) ∧ readAttrs (writeAttrs busyNote) false
    = some { staff := some 12, voice := some 3, staccato := true, accent := false, tied := false, grace := true } := by
  decide +kernel

/-- a note without voice and staff whose only attribute is an ornament that starts with `v` -/
def bareNote : ScoreNote :=
  { voice := none, staff := none, arts := none, orns := some ["vertical-turn".toList], fermata := false
    fingerings := [], grace := false, diffVersion := false, voiceOverlap := false }

example : readAttrs (writeAttrs bareNote) false
    = some { staff := none, voice := none, staccato := false, accent := false, tied := false, grace := false } := by
  decide +kernel

/-- **musicxml_names_plain.**  Every articulation / ornament name of the live MusicXML reader and writer is plain. -/
theorem musicxml_names_plain :
    (Gen.C08Lits.articulationNames ++ Gen.C08Lits.ornamentNames).all (fun s => plain s.toList) = true := by
  decide +kernel

/-- what the model loads from a list that carries the one name `s` -/
def loadedNames (s : String) : List String :=
  match readAttrs [s.toList] false with
  | some r => (if r.accent then ["accent"] else []) ++ (if r.staccato then ["staccato"] else [])
  | none => ["<error>"]

/-- **supported_articulations.**  For every MusicXML articulation / ornament name, and for `stac`: the articulations of
    the note the LIVE reader loads from an snote line with that name (probe table of the translator) are the ones the
    model loads - `staccato` for `staccato` and `stac`, `accent` for `accent`, nothing for every other name
    (`staccatissimo`, `strong-accent`, `soft-accent` ... are not taken for one of them). -/
theorem supported_articulations :
    Gen.C08Lits.loadedArticulations.all (fun p => loadedNames p.1 == p.2) = true
    ∧ Gen.C08Lits.loadedArticulations.length = Gen.C08Lits.articulationNames.length + Gen.C08Lits.ornamentNames.length + 1 := by
  decide +kernel

/-- **staff_last_character_loses_the_tens** (witness of F-C08-18).  The rule before the fix reads the last character of
    the staff attribute: staff 12 comes back as 2, staff 10 as 0; the repaired rule and the live reader (probe table)
    give the staff that was written. -/
theorem staff_last_character_loses_the_tens :
    readStaffLastChar [sStaff ++ showNatS 12] = some 2 ∧ readStaffLastChar [sStaff ++ showNatS 10] = some 0
    ∧ readStaff [sStaff ++ showNatS 12] = some 12 ∧ readStaff [sStaff ++ showNatS 10] = some 10
    ∧ Gen.C08Lits.loadedStaff.all (fun p => p.1 == p.2) = true ∧ Gen.C08Lits.loadedStaff.length = 6 := by
  decide +kernel

/-- **voices_kept.**  When every note has a voice the final assignment changes nothing. -/
theorem voices_kept (vs : List Nat) : fillVoices (vs.map some) = vs.map some := by
  unfold fillVoices
  have hk : (vs.map some).filterMap id = vs := by
    induction vs with
    | nil => rfl
    | cons a r ih => simp
  rw [hk]
  cases vs with
  | nil => rfl
  | cons a r =>
    simp only [List.isEmpty_cons, Bool.false_eq_true, if_false, List.map_map]
    apply List.map_congr_left
    intro x _
    rfl

/-- **voices_filled.**  Notes that have a voice keep it whatever the others have; a note without one gets voice 1
    when no note has a voice, else a voice above all the others. -/
theorem voices_filled (vs : List (Option Nat)) (i : Nat) (v : Nat) (h : vs[i]? = some (some v)) :
    (fillVoices vs)[i]? = some (some v) := by
  unfold fillVoices
  have hmem : some v ∈ vs := List.mem_of_getElem? h
  have hne : (vs.filterMap id).isEmpty = false := by
    rw [Bool.eq_false_iff, ne_eq, List.isEmpty_iff]
    intro he
    have : v ∈ vs.filterMap id := List.mem_filterMap.mpr ⟨some v, hmem, rfl⟩
    rw [he] at this; simp at this
  simp only [hne, Bool.false_eq_true, if_false, List.getElem?_map, h, Option.map_some]

/-- non-vacuity: voices 2, none, 5 -> the note without a voice gets 6; no voices at all -> 1 -/
example : fillVoices [some 2, none, some 5] = [some 2, some 6, some 5] ∧ fillVoices [none, none] = [some 1, some 1] := by
  decide +kernel

/-- **pnote_id_stable.**  The id of a performed note as written and read (`format_pnote_id`): an id that starts with
    `n` - the format's convention - is kept as it is; any other id gets one `n` in front, once: writing and reading
    again changes nothing more (the alignment and the performed part of a reloaded file name the same notes). -/
theorem pnote_id_stable (s : Str) :
    pnoteId (pnoteId s) = pnoteId s ∧ (∀ r, s = 'n' :: r → pnoteId s = s) ∧ (pnoteId s = s ∨ pnoteId s = 'n' :: s) := by
  have hcases : pnoteId s = s ∧ (∃ r, s = 'n' :: r) ∨ pnoteId s = 'n' :: s := by
    unfold pnoteId
    split
    · left; exact ⟨rfl, _, rfl⟩
    · right; rfl
  refine ⟨?_, ?_, ?_⟩
  · rcases hcases with ⟨h, _⟩ | h
    · rw [h, h]
    · rw [h]; rfl
  · rintro r rfl; rfl
  · rcases hcases with ⟨h, _⟩ | h
    · left; exact h
    · right; exact h

/-- ids outside the convention can collide: `5` and `n5` are written as the same id -/
example : pnoteId "5".toList = pnoteId "n5".toList := by decide

/-- **pedal_lines_spec.**  For every list of controller events: the pedal lines of the written file are exactly the
    events of controllers 64 and 67 (each once: a permutation), with the nearest tick of their time, in order of that
    tick; every other controller is left out. -/
theorem pedal_lines_spec (mpq ppq : Nat) (cs : List (Nat × Rat × Int)) :
    (Model.MatchTime.pedalLines mpq ppq cs).Perm
        ((cs.filter fun c => c.1 = 64 || c.1 = 67).map fun c => (c.1, secToTick c.2.1 mpq ppq, c.2.2))
    ∧ (Model.MatchTime.pedalLines mpq ppq cs).Pairwise (fun a b => a.2.1 ≤ b.2.1)
    ∧ ∀ l ∈ Model.MatchTime.pedalLines mpq ppq cs, l.1 = 64 ∨ l.1 = 67 := by
  unfold Model.MatchTime.pedalLines
  refine ⟨(C08S.isSort _).perm _, ?_, ?_⟩
  · exact (C08S.isSort fun a b : Nat × Int × Int => decide (a.2.1 ≤ b.2.1)).pairwise_key (key := fun a : Nat × Int × Int => a.2.1) _
  · intro l hl
    rw [(C08S.isSort _).mem, List.mem_map] at hl
    obtain ⟨c, hc, rfl⟩ := hl
    have := (List.mem_filter.mp hc).2
    simpa using this

/-- non-vacuity: a sustain, a modulation wheel (left out) and a soft pedal event; 480 ticks per quarter of 0.5 s -/
example : Model.MatchTime.pedalLines 500000 480 [(64, 1, 127), (1, 1/2, 5), (67, 1/4, 0)] = [(67, 240, 0), (64, 960, 127)] := by
  decide +kernel

/-- **lits_extracted.**  The literal pieces of the live writer and reader are the ones the models use: the default
    clock 480 / 500000 and version 1.0.0, the order of the header lines, the controllers 64 (sustain) and 67 (soft) and no
    other, measure numbers counted by position from 1 (0 with a pickup) whatever `Measure.number` says, four decimals in
    the beat times (`dec4`), fractions kept up to 1024, pedal threshold 64, no shift of the first note, offsets and
    durations in whole notes, staff split at MIDI pitch 55. -/
theorem lits_extracted :
    Gen.C08Lits.ok = true
    ∧ Gen.C08Lits.defaultMpq = 500000 ∧ Gen.C08Lits.defaultPpq = 480 ∧ Gen.C08Lits.latestVersion = (1, 0, 0)
    ∧ Gen.C08Lits.headerOrder = ["matchFileVersion", "piece", "scoreFileName", "midiFileName", "composer", "performer",
        "midiClockUnits", "midiClockRate", "keySignature", "timeSignature"]
    ∧ Gen.C08Lits.pedalLines = [(64, "sustain"), (67, "soft")]
    ∧ Gen.C08Lits.firstMeasure = 1 ∧ Gen.C08Lits.firstMeasurePickup = 0 ∧ Gen.C08Lits.secondMeasureDuplicate = 2
    ∧ (10 : Nat) ^ Gen.C08Lits.beatDecimals = 10000
    ∧ Gen.C08Lits.fracBound = 1024
    ∧ Gen.C08Lits.pedalThreshold = 64 ∧ Gen.C08Lits.firstNoteAtZero = false ∧ Gen.C08Lits.offsetDurationWhole = true
    ∧ Gen.C08Lits.staffSplit = 55 := by
  decide +kernel

/-- the literals are the ones of the model: the pedal lines the model writes are exactly those of the probe (one event
    per controller number 0..127, value = number, in time order), and the first measure numbers are
    `Score.firstMeasureNumber` of a score without / with a pickup -/
theorem lits_are_the_models :
    ((Model.MatchTime.pedalLines 500000 480 ((List.range 128).map fun k => (k, (1 : Rat) / 10 + (k : Rat) / 1000, (k : Int)))).map
        fun l => (l.1, l.2.2)) = Gen.C08Lits.pedalLines.map (fun p => (p.1, (p.1 : Int)))
    ∧ (Model.MatchTime.Score.firstMeasureNumber { divs := 3, ts := [⟨0, 4, 4⟩], ms := [⟨0, 12⟩, ⟨12, 24⟩] }) = Gen.C08Lits.firstMeasure
    ∧ (Model.MatchTime.Score.firstMeasureNumber { divs := 3, ts := [⟨0, 4, 4⟩], ms := [⟨0, 3⟩, ⟨3, 15⟩, ⟨15, 27⟩] })
        = Gen.C08Lits.firstMeasurePickup := by
  decide +kernel

end C08
