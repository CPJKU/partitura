/-
C12 — "values outside −7..7 … are rejected rather than mapped to another key", for the
number of fifths as a Python NUMBER (Model/ConversionsNum.lean): an integer-typed number or a number of any other real
type (float, NumPy floats, Fraction, Decimal) carrying its exact value.  The theorems of Props/C12Ext.lean quantify over
`Int` only: a coercion `int(fifths)` in front of the range check is invisible to them, and is what these exclude.
-/
import PartituraModel.Props.C12Ext
import PartituraModel.Model.ConversionsNum

namespace C12
open Model Gen Gen.C12

/-- an integer-typed number is treated as the `Int` the theorems of Props/C12Ext.lean quantify over -/
theorem key_num_int (i : Int) (m : PyLit) : fifthsModeToKeyNameN (.int i) m = fifthsModeToKeyNameG i m := by
  unfold fifthsModeToKeyNameN fifthsModeToKeyNameG
  cases chainFind m f2kModes with
  | none => rfl
  | some r =>
    obtain ⟨isMinor, suffix⟩ := r
    have h : ((fifthsLo : Rat) ≤ (PyNum.int i).val ∧ (PyNum.int i).val ≤ (fifthsHi : Rat)) ↔ (fifthsLo ≤ i ∧ i ≤ fifthsHi) := by
      simp only [PyNum.val]
      constructor
      · rintro ⟨a, b⟩; exact ⟨by exact_mod_cast a, by exact_mod_cast b⟩
      · rintro ⟨a, b⟩; exact ⟨by exact_mod_cast a, by exact_mod_cast b⟩
    simp only [h]

/-- a number of a type that cannot index a list is rejected WHATEVER its value: 2.0 and 2.5 as much as 7.5 -/
theorem key_num_rejects_real (q : Rat) (m : PyLit) : fifthsModeToKeyNameN (.real q) m = none := by
  unfold fifthsModeToKeyNameN
  cases chainFind m f2kModes with
  | none => rfl
  | some r => obtain ⟨isMinor, suffix⟩ := r; simp only []; split <;> rfl

/-- **every value outside −7..7 is rejected**, in whatever number type it comes and whatever the mode: 7.5, 7.001,
    −7.999, 15/2 are not pulled back into the range by a coercion -/
theorem key_num_rejects_outside (n : PyNum) (m : PyLit) (h : n.val < -7 ∨ 7 < n.val) :
    fifthsModeToKeyNameN n m = none := by
  cases n with
  | real q => exact key_num_rejects_real q m
  | int i =>
    rw [key_num_int]
    have hi : i < -7 ∨ 7 < i := by
      simp only [PyNum.val] at h
      rcases h with h | h
      · left; exact_mod_cast h
      · right; exact_mod_cast h
    cases hk : fifthsModeToKeyNameG i m with
    | none => rfl
    | some nm =>
      have := (key_accepts_iff i m).mp (by rw [hk]; rfl)
      omega

/-- a name is produced EXACTLY for an integer-typed number in −7..7 with an accepted mode -/
theorem key_num_accepts_iff (n : PyNum) (m : PyLit) :
    (fifthsModeToKeyNameN n m).isSome ↔ ∃ i : Int, n = .int i ∧ (-7 ≤ i ∧ i ≤ 7) ∧ (modeOfLit m).isSome := by
  cases n with
  | real q => simp [key_num_rejects_real]
  | int i =>
    rw [key_num_int, key_accepts_iff]
    constructor
    · intro h; exact ⟨i, rfl, h⟩
    · rintro ⟨j, hj, h⟩
      cases hj
      exact h

/-- … and the name produced is never the name of ANOTHER key: read back, it gives the value that was passed (so no
    two numbers of different value share a name: the map is injective on everything it accepts) -/
theorem key_num_same_key (n : PyNum) (m : PyLit) (nm : String) (h : fifthsModeToKeyNameN n m = some nm) :
    ∃ (f : Int) (mo : Mode), keyNameToFifthsModeG nm = some (f, mo) ∧ (f : Rat) = n.val ∧ modeOfLit m = some mo := by
  have hs := (key_num_accepts_iff n m).mp (by rw [h]; rfl)
  obtain ⟨i, rfl, ⟨h1, h2⟩, hm⟩ := hs
  obtain ⟨mo, hmo⟩ := Option.isSome_iff_exists.mp hm
  have hb := (key_bijection_src i h1 h2 m mo hmo).2
  rw [key_num_int] at h
  rw [h] at hb
  exact ⟨i, mo, by simpa using hb, rfl, hmo⟩

/-- non-vacuity: values just outside the range in non-integer types, and accepted ones -/
example : fifthsModeToKeyNameN (.real (15 / 2)) (PyLit.str "major") = none ∧
    fifthsModeToKeyNameN (.real (-7001 / 1000)) (PyLit.num (-1)) = none ∧
    fifthsModeToKeyNameN (.real 2) (PyLit.str "major") = none ∧
    fifthsModeToKeyNameN (.int 7) (PyLit.str "major") = some "C#" ∧
    fifthsModeToKeyNameN (.int (-7)) (PyLit.str "minor") = some "Abm" ∧
    fifthsModeToKeyNameN (.int 8) PyLit.none = none ∧
    (PyNum.real (15 / 2)).val > 7 := by decide +kernel

end C12
