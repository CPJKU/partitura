/-
C07 — property theorems about the value codecs of match lines (they do not depend on the generated
template table, only on Gen/Tables.lean, so they are not re-elaborated when a pattern changes).
-/
import PartituraModel.Model.MatchCodec
import PartituraModel.Proofs.C07Codec
import PartituraModel.Proofs.C07Frac
import PartituraModel.Proofs.C07Float
import PartituraModel.Proofs.C07Bound
import PartituraModel.Proofs.C07Key

namespace C07
open Model Model.Template Model.MatchCodec

/-! ### integers (`format_int` / `interpret_as_int`) -/

/-- `int(format_int(i)) = i` for every integer -/
theorem int_roundtrip (i : Int) : decode .int (encInt (some i)) = .ok (.int i) := by
  simp only [decode, encInt, C07Codec.parseInt_showIntS, liftO, Except.map]

/-- formatting fixpoint: whatever text was read as the integer `i`, the text written for `i` is read
    as `i` again (so the second formatting equals the first) -/
theorem int_fixpoint (s : Str) (i : Int) (_ : parseInt s = some i) :
    parseInt (encInt (some i)) = some i := C07Codec.parseInt_showIntS i

/-- the `-` written for None is not a number (the pitch post-processing turns it back into None) -/
theorem int_none : parseInt (encInt none) = none := by decide

example : encInt (some (-12)) = "-12".toList ∧ parseInt " 0042 ".toList = some 42 := by decide +kernel

/-! ### FractionalSymbolicDuration -/

/-- **duration addition is exact**: whenever `a + b` stays within the bound of 1024 (beyond it the class
    deliberately approximates), its value is the sum of the values -/
theorem frac_add_exact (a b c : Frac) (h : Frac.add? a b = some c) : c.value = a.value + b.value :=
  C07Codec.frac_add_value a b c h

/-- the sum keeps the components of both operands, in order, without the zero ones -/
theorem frac_add_components (a b c : Frac) (h : Frac.add? a b = some c) :
    c.add = some ((a.comps ++ b.comps).filter (fun x => x.1 != 0)) ∧ c.tdiv = none :=
  ⟨(C07Codec.add?_comps a b c h).1, (C07Codec.add?_comps a b c h).2.2⟩

-- non-vacuity: 1/4 + 1/8/3 = 7/24, written "1/4+1/8/3" and read back as the same object
example : Frac.add? ⟨1, 4, none, none⟩ ⟨1, 8, some 3, none⟩
    = some ⟨7, 24, none, some [(1, 4, none), (1, 8, some 3)]⟩ := by decide +kernel
example : fracFromString "1/4+1/8/3".toList
    = .ok ⟨7, 24, none, some [(1, 4, none), (1, 8, some 3)]⟩ := by decide +kernel

/-- the tables give each of the 30 keys a name of one step letter and at most one accidental, whose 1.0.0
    spelling is read as the key: the one place where the tables are evaluated for the round trip of the spellings since 0.3.0 -/
theorem keys_named : ∀ fm ∈ allKeys, C07Key.Named fm ((keyAt fm.1 fm.2).getD []) := by decide +kernel

/-- **the text of a key, single or double, in the 1.0.0 and the 0.3.0 spelling** is a written key
    (`C07Key.Written`) that `_parse_key_signature` reads as the key -/
theorem key_text (fmt : KeyFmt) (hf : fmt = .v100 ∨ fmt = .v030) (k : Key1) (hm : (k.fifths, k.mode) ∈ allKeys)
    (ha : ∀ b ∈ k.alt, b ∈ allKeys) : ∃ t, encKey1 fmt k = some t ∧ parseKey1 t = some k ∧ C07Key.Written t := by
  have hb : ∀ b ∈ k.alt, ∃ n, C07Key.Named b n := fun b hb => ⟨_, keys_named b (ha b hb)⟩
  rcases hf with rfl | rfl
  · exact C07Key.text_v100 k _ (keys_named _ hm) hb
  · exact C07Key.text_v030 k _ (keys_named _ hm) hb

/-- hence a signature of one such key is written, and read back by `from_string` -/
theorem key_plain (fmt : KeyFmt) (hf : fmt = .v100 ∨ fmt = .v030) (k : Key1) (hm : (k.fifths, k.mode) ∈ allKeys)
    (ha : ∀ b ∈ k.alt, b ∈ allKeys) : (encKey fmt ⟨k, []⟩).bind decKey = some (some ⟨k, []⟩) := by
  obtain ⟨t, h1, h2, h3⟩ := key_text fmt hf k hm ha
  rcases hf with rfl | rfl <;> simp only [encKey, h1, Option.bind_some, C07Key.decKey_written t _ h3 h2]

/-- the 0.1.0 spelling `[bb,minor]` has no double keys: its 30 texts are evaluated -/
theorem key_names_v010 : ∀ fm ∈ allKeys, (encKey .v010 (key1 fm)).bind decKey = some (some (key1 fm)) := by
  decide +kernel

/-- **all 30 key names in every historical spelling** (`[bb,minor]` of 0.1.0, `Bb min` and `[Bb min]`
    of 0.3.0–0.5.0, `Bbm` of 1.0.0) are written, and read back as the same (fifths, mode); hence
    re-formatting gives the identical text. -/
theorem key_names : ∀ fm ∈ allKeys, ∀ fmt ∈ [KeyFmt.v100, KeyFmt.v030, KeyFmt.v010, KeyFmt.v030list],
    (encKey fmt (key1 fm)).bind decKey = some (some (key1 fm)) := by
  intro fm hfm fmt hf
  simp only [List.mem_cons, List.not_mem_nil, or_false] at hf
  rcases hf with rfl | rfl | rfl | rfl
  · exact key_plain .v100 (.inl rfl) ⟨fm.1, fm.2, none⟩ hfm (by simp)
  · exact key_plain .v030 (.inr rfl) ⟨fm.1, fm.2, none⟩ hfm (by simp)
  · exact key_names_v010 fm hfm
  · obtain ⟨t, h1, h2, h3⟩ := key_text .v030 (.inr rfl) ⟨fm.1, fm.2, none⟩ hfm (by simp)
    simp only [encKey, key1, List.mapM_cons, List.mapM_nil, h1]
    exact C07Key.decKey_encList [t] _ [] (by simp [h2]) (by simpa using h3)

/-- the spellings are the ones the formats define -/
example : encKey .v100 (key1 (-2, .minor)) = some "Gm".toList ∧ encKey .v030 (key1 (-2, .minor)) = some "G min".toList ∧
    encKey .v010 (key1 (-2, .minor)) = some "[gn,minor]".toList ∧ encKey .v030list (key1 (3, .major)) = some "[A Maj]".toList := by
  decide +kernel

/-- double keys `X/Y` (all 900 pairs) in the 1.0.0 spelling -/
theorem key_pairs_v100 : ∀ a ∈ allKeys, ∀ b ∈ allKeys,
    (encKey .v100 (key2 a b)).bind decKey = some (some (key2 a b)) :=
  fun a ha b hb => key_plain .v100 (.inl rfl) ⟨a.1, a.2, some b⟩ ha (by simpa using hb)

/-- double keys `X Maj/Y min` (all 900 pairs) in the 0.3.0 spelling -/
theorem key_pairs_v030 : ∀ a ∈ allKeys, ∀ b ∈ allKeys,
    (encKey .v030 (key2 a b)).bind decKey = some (some (key2 a b)) :=
  fun a ha b hb => key_plain .v030 (.inr rfl) ⟨a.1, a.2, some b⟩ ha (by simpa using hb)

/-- the sign-and-digits value of a decimal numeral -/
def fixedVal (k : Nat) (neg : Bool) (n : Nat) : Rat :=
  if neg then -((n : Rat) / (pow10 k : Rat)) else (n : Rat) / (pow10 k : Rat)

/-- fixed-point text: the numeral written for `n / 10^k` with `k ≥ 1` decimals is read back as exactly
    `n / 10^k`, with either sign -/
theorem fixed_numeral_read (k : Nat) (neg : Bool) (n : Nat) (hk : 1 ≤ k) :
    decode .float (printFixed k neg n) = .ok (.dec (fixedVal k neg n)) := by
  simp only [decode, C07Codec.parseDecimal_printFixed k neg n hk, liftO, Except.map, fixedVal]

/-- **four-decimal beat times keep their value** (and the five- and two-decimal times of versions < 0.3.0):
    a float that is the k-decimal number `±n / 10^k` (`k ≥ 1`, fewer than 2^52 units in the last place) is
    written by `'%.kf'` as its own numeral and read back as the same number - the binary64 value nearest to
    it lies within relative error 2^-53 (`toBinary64` is a correct rounding: `C07Float.tbPos_close`), so
    correct rounding to k decimals returns `n` -/
theorem fixed_decimal_roundtrip (k : Nat) (neg : Bool) (n : Nat) (hk : 1 ≤ k) (hb : n < 2 ^ 52)
    (hz : neg = true → 0 < n) :
    encFix k (fixedVal k neg n) = printFixed k neg n ∧
      decode .float (encFix k (fixedVal k neg n)) = .ok (.dec (fixedVal k neg n)) := by
  have h := C07Float.encFix_fixed k n neg hb hz
  unfold fixedVal
  exact ⟨h, by rw [h]; exact fixed_numeral_read k neg n hk⟩

/-- the sign and the units in the last place `'%.kf'` prints for an arbitrary float -/
def fixNeg (q : Rat) : Bool := decide (toBinary64 q < 0)
def fixUnits (k : Nat) (q : Rat) : Nat :=
  (roundHalfEven ((if toBinary64 q < 0 then -toBinary64 q else toBinary64 q) * (pow10 k : Rat))).toNat

/-- **formatting of floats is a fixpoint after one round**: ANY float `q` (not necessarily representable with
    k decimals) is written as some numeral; the number read back from it is written as the identical text -/
theorem fixed_decimal_fixpoint (k : Nat) (q : Rat) (hk : 1 ≤ k) (hb : fixUnits k q < 2 ^ 52)
    (hz : fixNeg q = true → 0 < fixUnits k q) :
    ∃ q', decode .float (encFix k q) = .ok (.dec q') ∧ encFix k q' = encFix k q := by
  have he : encFix k q = printFixed k (fixNeg q) (fixUnits k q) := rfl
  refine ⟨fixedVal k (fixNeg q) (fixUnits k q), ?_, ?_⟩
  · rw [he]; exact fixed_numeral_read k _ _ hk
  · rw [he]; exact (fixed_decimal_roundtrip k _ _ hk hb hz).1

/-- floats written in full (`repr`: pre-1.0 beat times, seconds): the decimal the model carries is written
    and read back exactly, whenever it is written at all (positional range, terminating decimal) -/
theorem repr_roundtrip (q : Rat) (text : Str) (h : encRepr q = some text) : decode .float text = .ok (.dec q) := by
  simp only [decode, C07Float.encRepr_parse q text h, liftO, Except.map]

example : printFixed 4 true 12345 = "-1.2345".toList ∧ encFix 4 (1 / 32) = "0.0312".toList ∧
    encFix 4 (3 / 32) = "0.0938".toList ∧ encFix 4 (5 / 100000) = "0.0001".toList ∧
    encRepr (5 / 4) = some "1.25".toList ∧ encRepr 3 = some "3.0".toList := by decide +kernel

/-- **durations keep their value through the string round trip**: every duration the class builds - simple
    `n`, `n/d`, with tuplet divisor `n/d/t`, or additive `c₁+c₂+…` (`FracWF`: two or more components with
    non-zero numerator, numbers within the bound, the object being the left-to-right sum of its
    components) - is read back from its text as the SAME object, hence the same value and the same text -/
theorem frac_string_roundtrip (f : Frac) (h : C07Codec.FracWF f) : fracFromString f.toStr = .ok f :=
  C07Codec.fracFromString_toStr_full f h

/-- **formatting fixpoint of durations**: whatever text `s` was read as the duration `f` (no `+`-separated
    part of `s` being a zero duration - those are dropped from the components), `f` is well formed, so the
    text written for `f` is read as `f` again and written identically -/
theorem frac_string_fixpoint (s : Str) (f : Frac) (h : fracFromString s = .ok f)
    (hz : ∀ ps, (splitOn '+' s).mapM C07Codec.oneF = .ok ps → ∀ p ∈ ps, p.num ≠ 0) :
    fracFromString f.toStr = .ok f ∧ ((fracFromString f.toStr).toOption.map Frac.toStr) = some f.toStr := by
  have hw := C07Codec.frac_fixpoint s f h hz
  have := C07Codec.fracFromString_toStr_full f hw
  exact ⟨this, by rw [this]; rfl⟩

/-- reading `c₁+c₂+…`: the object is the left-to-right sum, it carries exactly the components, and its value
    is the exact sum of the component values (**duration addition is exact** along the whole chain) -/
theorem frac_additive_value (cs : List C07Codec.Comp) (h2 : 2 ≤ cs.length) (hc : ∀ c ∈ cs, C07Codec.CompOK c)
    (f : Frac) (h : fracFromString (C07Codec.compsStr cs) = .ok f) :
    f.add = some cs ∧ f.value = ((cs.map C07Codec.compFrac).map Frac.value).foldr (· + ·) 0 := by
  rw [C07Codec.fracFromString_compsStr cs h2 hc] at h
  refine ⟨C07Codec.fracSum_add cs h2 hc f h, ?_⟩
  rw [C07Codec.fracSum_eq] at h
  have := C07Codec.foldlM_value _ _ f h
  rw [this]
  simp [Frac.value, Frac.fullDen]

example : (fracFromString "1/4+1/8/3+3".toList).toOption.map Frac.toStr = some "1/4+1/8/3+3".toList := by
  decide +kernel
example : fracFromString (Frac.toStr ⟨7, 1, none, none⟩) = .ok ⟨7, 1, none, none⟩ ∧
    Frac.toStrRational ⟨7, 1, none, none⟩ = "7/1".toList := by decide +kernel
-- non-vacuity of `frac_string_roundtrip` / `frac_additive_value`: 1/4 + 1/8/3 + 3
example : C07Codec.compsStr [(1, 4, none), (1, 8, some 3), (3, 1, none)] = "1/4+1/8/3+3".toList ∧
    fracFromString "1/4+1/8/3+3".toList = .ok ⟨79, 24, none, some [(1, 4, none), (1, 8, some 3), (3, 1, none)]⟩ := by
  decide +kernel
-- a zero part is dropped: same text and value afterwards, but a different object (the excluded case of the fixpoint)
example : (fracFromString "0/3+1/4".toList).toOption.map (fun f => (f.num, f.den, f.toStr)) = some (3, 12, "1/4".toList) := by
  decide +kernel

/-- the format version written as `major.minor.patch` is read back as itself -/
theorem version_roundtrip (a b c : Nat) : decode .version (encVersion a b c) = .ok (.ver a b c) := by
  simp only [decode, C07Codec.decVersion_encVersion, liftO, Except.map]

/-- the pre-1.0 spelling `minor.patch` denotes version `0.minor.patch` (one formatting round, then a fixpoint) -/
example : decVersion "5.0".toList = some (0, 5, 0) ∧ encVersion 0 5 0 = "0.5.0".toList ∧
    decVersion "0.5.0".toList = some (0, 5, 0) := by decide +kernel

/-- **attribute lists of any length**: a list of words (no comma, no blank) is read back from the text
    `format_list` writes - the empty list included.  (The single exception `[""]` has the same text as the
    empty list and is read as the empty list.) -/
theorem list_roundtrip (items : List Str) (hw : C07Codec.Words items) (hne : items ≠ [[]]) :
    decode .list (encList items) = .ok (.strs items) := by
  simp only [decode, C07Codec.decList_encList items hw hne]

/-- the same for the list fields whose brackets are literals of the line pattern (`ScoreAttributesList`,
    `AnnotationType`, `OrnamentType`, `RepeatEndType`, `Onsets`) -/
theorem list_body_roundtrip (items : List Str) (hw : C07Codec.Words items) (hne : items ≠ [[]])
    (hbr : ∀ x, items.head? = some x → x.head? ≠ some '[') :
    decode .list (encListBody items) = .ok (.strs items) := by
  simp only [decode, C07Codec.decList_encListBody items hw hne hbr]

example : decList "[]".toList = [] ∧ decList [] = [] ∧ decList "[staff1, s ,v1]".toList = ["staff1".toList, "s".toList, "v1".toList]
    ∧ encList [] = "[]".toList := by decide +kernel

/-- pre-1.0 quoted strings (`'Sonata K. 331'`): a non-empty text without blanks at its ends is read back -/
theorem quoted_roundtrip (s : Str) (hs : strip s = s) (hne : s ≠ []) :
    decode .strOld (encQuoted s) = .ok (.str s) := by
  simp only [decode, C07Codec.decStrOld_encQuoted s hs hne]

example : encQuoted "it's a,b".toList = "'it's a,b'".toList ∧ decStrOld "'it's a,b'".toList = "it's a,b".toList := by
  decide +kernel

/-- tempo indication of 1.0.0 (`Lento ma non troppo`): one text without comma, not starting with `[` -/
theorem tempo_roundtrip (s : Str) (hs : strip s = s) (hne : s ≠ []) (hc : ∀ c ∈ s, c ≠ ',')
    (hb : s.head? ≠ some '[') : decode .tempo s = .ok (.tempo s) := by
  simp only [decode, C07Codec.decTempo_id s hs hne hc hb, liftO, Except.map]

/-- integer lists (`beatSubDivision` of 1.0.0 as `[2,3]`, the onsets of `ptime([…]).`), any length, any sign -/
theorem int_list_roundtrip (l : List Int) :
    decode .listInt (encList (l.map showIntS)) = .ok (.ints l) ∧
    decode .listInt (encListBody (l.map showIntS)) = .ok (.ints l) := by
  simp only [decode, C07Codec.decListInt_encList, C07Codec.decListInt_encListBody, liftO, Except.map, and_self]

/-- **time signatures** `n/d` (both within the bound) keep their value through the string round trip, in the
    plain form and in the list form of 0.4.0 / 0.5.0 (`[6/8]`, further components `[2/4,3/4]` included) -/
theorem tsig_roundtrip (t : TimeSig) (hn : t.num ≤ BOUND) (hd : t.den ≤ BOUND) (ho : ∀ f ∈ t.others, C07Codec.FracWF f) :
    (t.others = [] → decode .tsig (encTsig t) = .ok (.tsig t)) ∧ decode .tsig (encTsigList t) = .ok (.tsig t) := by
  constructor
  · intro he
    obtain ⟨n, d, o⟩ := t
    simp only at he hn hd
    subst he
    simp only [decode, C07Bound.decTsigB_of_ok _ _ (C07Codec.decTsig_encTsig n d hn hd), Except.map]
  · simp only [decode, C07Bound.decTsigB_of_ok _ _ (C07Codec.decTsig_encTsigList t hn hd ho), Except.map]

example : encTsigList ⟨2, 4, [⟨3, 4, none, none⟩]⟩ = "[2/4,3/4]".toList ∧
    decTsig "[2/4,3/4]".toList = .ok ⟨2, 4, [⟨3, 4, none, none⟩]⟩ := by decide +kernel

/-- **admissible values of a codec** (formatter, interpreter): the values its format version allows.
    Floats: `'%.kf'` fields hold a k-decimal number `±n / 10^k` with `n < 2^52` ("four-decimal beat times");
    `repr` fields hold any decimal `repr` writes positionally.  Keys: the 30 keys, and the 900 double keys in the spellings
    that have them.  The three pitch fields are not self-inverse codecs (`pitch_ok`, Props/C07Lines.lean). -/
def Adm : Enc → Dec → Val → Prop
  | .int, .int, .int _ => True
  | .strip, .str, .str s => strip s = s
  | .raw, .str, .str _ => True
  | .quoted, .strOld, .str s => strip s = s ∧ s ≠ []
  | .fix k, .float, .dec q => ∃ neg n, 1 ≤ k ∧ n < 2 ^ 52 ∧ (neg = true → 0 < n) ∧ q = fixedVal k neg n
  | .repr, .float, .dec q => (encRepr q).isSome = true
  | .frac, .frac, .frac f => C07Codec.FracWF f
  | .fracRational, .frac, .frac f => C07Codec.FracWF f ∧ (f.den = 1 ∧ f.tdiv = none → f.add = none)
  | .list, .list, .strs l => C07Codec.Words l ∧ l ≠ [[]]
  | .listBody, .list, .strs l => C07Codec.Words l ∧ l ≠ [[]] ∧ ∀ x, l.head? = some x → x.head? ≠ some '['
  | .list, .listInt, .ints _ => True
  | .listBody, .listInt, .ints _ => True
  | .version, .version, .ver _ _ _ => True
  | .key fmt, .key, .key k =>
    (fmt ∈ [KeyFmt.v100, KeyFmt.v030, KeyFmt.v010, KeyFmt.v030list] ∧ ∃ fm ∈ allKeys, k = key1 fm) ∨
      (fmt ∈ [KeyFmt.v100, KeyFmt.v030] ∧ ∃ a ∈ allKeys, ∃ b ∈ allKeys, k = key2 a b)
  | .tsig, .tsig, .tsig t => t.others = [] ∧ t.num ≤ BOUND ∧ t.den ≤ BOUND
  | .tsigList, .tsig, .tsig t => t.num ≤ BOUND ∧ t.den ≤ BOUND ∧ ∀ f ∈ t.others, C07Codec.FracWF f
  | .tempo, .tempo, .tempo s => strip s = s ∧ s ≠ [] ∧ (∀ c ∈ s, c ≠ ',') ∧ s.head? ≠ some '['
  | _, _, _ => False

theorem toStrRational_roundtrip (f : Frac) (h : C07Codec.FracWF f) (hr : f.den = 1 ∧ f.tdiv = none → f.add = none) :
    fracFromString f.toStrRational = .ok f := by
  unfold Frac.toStrRational
  by_cases hc : f.den = 1 ∧ f.tdiv = none
  · simp only [hc, and_self, if_true]
    have ha := hr hc
    obtain ⟨n, d, t, a⟩ := f
    simp only at hc ha
    obtain ⟨rfl, rfl⟩ := hc
    subst ha
    unfold C07Codec.FracWF at h
    simp only at h
    have e1 : ['/', '1'] = '/' :: showNatS 1 := by decide +kernel
    rw [e1, C07Codec.fracFromString_ratio n 1 h.1 (by decide)]
  · simp only [hc, if_false]
    exact C07Codec.fracFromString_toStr_full f h

/-- **every codec of the generated field tables is a round trip on its admissible values**: the value is
    written, and the text is read back as the same value (hence writing it again gives the identical
    text) -/
theorem codec_roundtrip (e : Enc) (d : Dec) (v : Val) (h : Adm e d v) :
    ∃ text, encode e v = some text ∧ decode d text = .ok v := by
  unfold Adm at h
  split at h
  · exact ⟨_, rfl, int_roundtrip _⟩
  · exact ⟨_, rfl, by simp only [decode, encStrip, h]⟩
  · exact ⟨_, rfl, rfl⟩
  · exact ⟨_, rfl, quoted_roundtrip _ h.1 h.2⟩
  · obtain ⟨neg, n, hk, hb, hz, rfl⟩ := h
    exact ⟨_, rfl, (fixed_decimal_roundtrip _ neg n hk hb hz).2⟩
  · obtain ⟨text, he⟩ := Option.isSome_iff_exists.mp h
    exact ⟨text, he, repr_roundtrip _ text he⟩
  · exact ⟨_, rfl, by simp only [decode, C07Bound.fracFromStringB_of_ok _ _ (frac_string_roundtrip _ h), Except.map]⟩
  · exact ⟨_, rfl, by
      simp only [decode, C07Bound.fracFromStringB_of_ok _ _ (toStrRational_roundtrip _ h.1 h.2), Except.map]⟩
  · exact ⟨_, rfl, list_roundtrip _ h.1 h.2⟩
  · exact ⟨_, rfl, list_body_roundtrip _ h.1 h.2.1 h.2.2⟩
  · exact ⟨_, rfl, (int_list_roundtrip _).1⟩
  · exact ⟨_, rfl, (int_list_roundtrip _).2⟩
  · exact ⟨_, rfl, version_roundtrip _ _ _⟩
  · rename_i fmt k
    have key : (encKey fmt k).bind decKey = some (some k) := by
      rcases h with ⟨hf, fm, hfm, rfl⟩ | ⟨hf, a, ha, b, hb, rfl⟩
      · exact key_names fm hfm fmt hf
      · exact key_plain fmt (by simpa using hf) _ ha (by simpa using hb)
    obtain ⟨text, he, hd⟩ := Option.bind_eq_some_iff.mp key
    exact ⟨text, he, by simp only [decode, hd, liftO, Except.map]⟩
  · exact ⟨_, rfl, (tsig_roundtrip _ h.2.1 h.2.2 (by rw [h.1]; simp)).1 h.1⟩
  · exact ⟨_, rfl, (tsig_roundtrip _ h.1 h.2.1 h.2.2).2⟩
  · exact ⟨_, rfl, tempo_roundtrip _ h.1 h.2.1 h.2.2.1 h.2.2.2⟩
  · exact absurd h id

-- non-vacuity: admissible values exist for the float codecs (model output evaluated), durations and keys
example : Adm (.fix 4) .float (.dec (5 / 4)) := ⟨false, 12500, by decide, by decide, by decide, by decide +kernel⟩
example : Adm .repr .float (.dec (-5 / 4)) := by
  show (encRepr (-5 / 4)).isSome = true
  decide +kernel
-- one formatting round for a float that is not a four-decimal number: 1/32 -> "0.0312" -> 0.0312 -> "0.0312"
example : encFix 4 (1 / 32) = "0.0312".toList ∧ fixUnits 4 (1 / 32) = 312 ∧ fixNeg (1 / 32) = false := by decide +kernel
example : Adm (.key .v030list) .key (.key (key1 (-3, .minor))) :=
  Or.inl ⟨by decide, (-3, .minor), by decide +kernel, rfl⟩

end C07
