/-
C05 — `collapse=True` rest arrays (`collapse_rests` / `rec_collapse_rests`), repaired behaviour
(fixes/C05-8): pass after pass, every rest absorbs the rests of the same VOICE (the staff is not looked at)
whose `onset_div` equals its `onset_div + duration_div`, summing the beat, quarter and division durations.
`store` is the rounding of the float columns (`f32round` in the model that is run against the code): it
only affects the merged beat / quarter durations, not what is merged.

`CleanTable t` (Proofs/C05Collapse.lean: `Clean [] [] t`) says: `t` is ordered by `onset_div`, every row has
a positive `duration_div`, and rows of one voice do not overlap — the rest array of a well-formed part.
-/
import PartituraModel.Proofs.C05Collapse
import PartituraModel.Model.NoteArrayMaps

namespace C05
open NoteArray List

/-- Collapsing never invents or reorders rows: what comes out is a sub-list of the table, row by row equal
    to the original in everything but the three durations (id, onset, voice, staff, signatures: those of
    the FIRST rest of a merged group).  For every rounding, every table, any number of passes. -/
theorem collapse_keeps_rows (store : Rat → Rat) (fuel : Nat) (rows : List Row) :
    ((recCollapse store fuel rows).map core).Sublist (rows.map core) :=
  recCollapse_induction store (fun t ht => (collapsePass_sublist store t).trans ht) fuel rows (Sublist.refl _)

/-- **Collapsing preserves the total rest duration of every voice** — in divisions, whatever the rounding of
    the float columns, for any number of passes — and the result is again a clean table. -/
theorem collapse_total (store : Rat → Rat) (fuel : Nat) (rows : List Row) (h : CleanTable rows) (v : Int) :
    sumW (·.durDiv) v (recCollapse store fuel rows) = sumW (·.durDiv) v rows ∧
    CleanTable (recCollapse store fuel rows) :=
  ⟨recCollapse_total store (·.durDiv) (fun _ _ => rfl) v fuel rows h,
   recCollapse_clean store fuel rows h⟩

/-- one pass already does -/
theorem collapse_pass_total (store : Rat → Rat) (rows : List Row) (h : CleanTable rows) (v : Int) :
    sumW (·.durDiv) v (collapsePass store rows).1 = sumW (·.durDiv) v rows :=
  collapsePass_total store (·.durDiv) (fun _ _ => rfl) v rows h

/-- The beat and quarter totals of every voice are preserved as well when the float columns are exact.
    `_partial`: with float32 columns the merged beat / quarter durations are float32 sums of float32
    values, equal to the exact totals only up to rounding (compared within 2^-20 against the code). -/
theorem collapse_float_totals_partial (fuel : Nat) (rows : List Row) (h : CleanTable rows) (v : Int) :
    sumW (·.durBeat) v (recCollapse id fuel rows) = sumW (·.durBeat) v rows ∧
    sumW (·.durQuarter) v (recCollapse id fuel rows) = sumW (·.durQuarter) v rows :=
  ⟨recCollapse_total id (·.durBeat) (fun _ _ => rfl) v fuel rows h,
   recCollapse_total id (·.durQuarter) (fun _ _ => rfl) v fuel rows h⟩

/-- **Exactly the adjacent rests are merged.**  (1) A pass merges nothing exactly when no row starts where a
    row of its voice ends, and then returns the table untouched.  (2) With the fuel `rest_array_from_part`
    gives it (more than the number of rows) the repeated pass ends on such a table: in the result no two
    rows of a voice are adjacent any more.  Together with `collapse_keeps_rows` and `collapse_total`: the
    result holds one row per maximal run of adjacent rests of a voice, with the run's total duration. -/
theorem collapse_merges_adjacent (store : Rat → Rat) (rows : List Row) :
    ((collapsePass store rows).2 = false ↔ ∀ c ∈ rows, NoHit c rows) ∧
    ((collapsePass store rows).2 = false → (collapsePass store rows).1 = rows) ∧
    (∀ fuel, CleanTable rows → rows.length < fuel →
      ∀ c ∈ recCollapse store fuel rows, NoHit c (recCollapse store fuel rows)) :=
  ⟨(collapsePass_nomerge store rows).1, (collapsePass_nomerge store rows).2,
    fun fuel hr hl => (collapsePass_nomerge store _).1.mp (recCollapse_stable store fuel rows hr hl)⟩

theorem noHit_iff (c : Row) (l : List Row) :
    NoHit c l ↔ ∀ x ∈ l, ¬ (x.onsetDiv = c.onsetDiv + c.durDiv ∧ x.voice = c.voice) := by
  simp only [NoHit, ← Bool.not_eq_true, hits, Bool.and_eq_true, decide_eq_true_eq]

/-- the table `restRowsWith … true` collapses has the fuel (2) asks for -/
theorem rest_rows_fuel (store : Rat → Rat) (p : Part) (out : List Row) (h : restRowsWith store p true = some out) :
    ∃ t : List Row, out = recCollapse store (t.length + 1) t := by
  unfold restRowsWith at h
  cases hm : NoteArray.mapM' (restRow p.notes p.maps) (restsOf p.notes) with
  | none => simp [hm] at h
  | some rs =>
    simp [hm] at h
    exact ⟨_, by rw [← h, length_map]⟩

/-- what a merged row holds: on a clean table the row put out for the first row `c` is `c` with the durations
    of exactly the rows after it that start where it ends in its voice added to its own — every rounding. -/
theorem collapse_first_row (store : Rat → Rat) (c : Row) (post : List Row) (h : CleanTable (c :: post)) :
    (collapsePass store (c :: post)).1.head? =
      some (absorbAll store (c.onsetDiv + c.durDiv) c.voice c post) ∧
    (absorbAll store (c.onsetDiv + c.durDiv) c.voice c post).durDiv =
      c.durDiv + ((post.filter (hits (c.onsetDiv + c.durDiv) c.voice)).map (·.durDiv)).sum := by
  refine ⟨?_, absorbAll_durDiv store _ _ post c⟩
  unfold collapsePass
  simp only
  rw [passS, if_neg (by simp)]
  simp only
  rw [visitRow_clean h]
  obtain ⟨l, hl⟩ := passS_prefix store post ([] ++ [(absorbAll store (c.onsetDiv + c.durDiv) c.voice c post, true)])
    (if post.any (hits (c.onsetDiv + c.durDiv) c.voice) = true then [(c.onsetDiv + c.durDiv, c.voice)] else [])
  rw [← hl]
  simp

section Examples

def rest (id : String) (on dur : Rat) (divs : Int) (v : Int) : Row :=
  { key := on, onsetBeat := on, durBeat := dur, onsetQuarter := on, durQuarter := dur,
    onsetDiv := (on * divs).floor, durDiv := (dur * divs).floor, pitch := 0, voice := v, id := id, step := "0",
    alter := 0, octave := 0, isGrace := false, graceType := "", ksFifths := 0, ksMode := 1, tsBeats := 4,
    tsBeatType := 4, tsMusBeats := 4, isDownbeat := 0, relOnset := 0, totMeasure := 0, staff := 1, divsPq := 0 }

/-- voice 1: three adjacent rests and one apart; voice 2: thirds -/
def exRests : List Row :=
  [rest "a" 0 1 6 1, rest "x" 0 (1/3) 6 2, rest "y" (1/3) (2/3) 6 2, rest "b" 1 1 6 1, rest "c" 2 (1/2) 6 1,
   rest "d" 3 1 6 1]

/-- the table is clean (hypothesis of the theorems above) -/
example : CleanTable exRests :=
  { pre_le := fun x hx => by cases hx
    sorted := by decide +kernel
    pos := by decide +kernel
    apart := by decide +kernel
    tg_le := fun k hk => by cases hk }

/-- two passes: a+b+c (2.5 beats = 15 divisions), x+y, d alone -/
example : (recCollapse id 7 exRests).map (fun r => (r.id, r.durBeat, r.durDiv)) =
    [("a", (5 / 2 : Rat), (15 : Int)), ("x", 1, 6), ("d", 1, 6)] := by decide +kernel

/-- the same rests with float32 columns -/
example : ((recCollapse f32round 7 (exRests.map (storeRow f32round))).map (·.id)) = ["a", "x", "d"] := by
  decide +kernel

/-- triplets: `f32(1/3) + f32(4/3)` is not `f32(5/3)`, so a comparison of float32 beat sums (the code before
    fixes/C05-8) would leave a rest from 1/3 to 5/3 and the rest that starts at 5/3 apart; the division
    columns (1 + 4 = 5) merge them, and the merged beat duration is the float32 sum -/
example :
    f32round (f32round (1/3) + f32round (4/3)) ≠ f32round (5/3) ∧
    ((recCollapse f32round 4 ([rest "p" (1/3) (4/3) 3 1, rest "q" (5/3) (1/3) 3 1].map (storeRow f32round))).map
      fun r => (r.id, r.durDiv)) = [("p", (5 : Int))] := by
  decide +kernel

/-- a rest of duration 0 absorbs itself (its own offset is its onset): the flag stays true; the model stops
    when the fuel is spent (the Python loop would not end) — excluded by `CleanTable` (`pos`) -/
example : (collapsePass id [rest "z" 0 0 6 1]).2 = true := by decide +kernel

end Examples

end C05
