/-
C08 — the pieces of Props/C08 and Props/C08Mixed (`encode`, `barTime`, `notePos`, `durDivs`, `importDivs`) put together as
`reconstruct` (the model of `part_from_matchfile`) and `Score.roundTrip` (write, then read): durations and bar lines end
to end.  The end-to-end statements about the onsets are in Props/C08Fallback.lean.
-/
import PartituraModel.Props.C08Mixed
import PartituraModel.Props.C08Round5

namespace C08
open Model Model.MatchTime

theorem onset_cases (od oid atol : Rat) :
    (if (!isClose od oid atol) = true then oid else od) = od
    ∨ ¬ isClose od (if (!isClose od oid atol) = true then oid else od) atol = true := by
  cases h : isClose od oid atol <;> simp [h]

/-- **reconstruct_spec.**  Whenever `reconstruct` succeeds (any snotes, any signature lines):
    * the divisions are `importDivs` of all the lines;
    * every loaded note `(i, onset, durs)` is made from line `i` (`n`) and the first line `n₁` of the bar with `n`'s
      measure number: its durations are `durDivs` of the duration (or of each additive component), and its onset is
      `round(divs · notePos(barTime n₁, beat, beat type, offset, shift))` unless the `OnsetInBeats` fallback fired
      (then it is the interpolated `onset_in_divs`);
    * the shift is the position of the EARLIEST line `nmin` (smallest `OnsetInBeats`; fix C08-19), if that is before
      beat 0;
    * every bar line `(b, p)` is `max 0 (round(divs · (barTime n₁ − shift)))` for the first line `n₁` of bar `b`. -/
theorem reconstruct_spec (raw : List SNote) (ts : List TSLine) (ks : List (Rat × Int)) (r : Recon)
    (h : reconstruct raw ts ks = some r) :
    r.divs = importDivs ts (readerMaxTime raw ts) ((sortedNotes raw).map (·.2))
    ∧ (∀ y ∈ r.notes, ∃ n n₁ : SNote, raw[y.1]? = some n ∧ firstOfBar (sortedNotes raw) n.measure = some n₁
        ∧ n₁.measure = n.measure ∧ n₁ ∈ raw
        ∧ y.2.2 = (if n.comps.isEmpty then [durDivs r.divs n.dur] else n.comps.map (durDivs r.divs))
        ∧ (y.2.1 = (roundHalfEven ((r.divs : Rat) * notePos (barTime ts (readerMaxTime raw ts) n₁) n.beat
                      (denAtBeats ts (readerMaxTime raw ts) n.onsetB) n.offset.val r.shiftQ) : Rat)
           ∨ ¬ isClose ((roundHalfEven ((r.divs : Rat) * notePos (barTime ts (readerMaxTime raw ts) n₁) n.beat
                      (denAtBeats ts (readerMaxTime raw ts) n.onsetB) n.offset.val r.shiftQ) : Int) : Rat)
                y.2.1 ((r.divs : Rat) / 100) = true))
    ∧ (∀ bl ∈ r.barlines, ∃ n₁ : SNote, firstOfBar (sortedNotes raw) bl.1 = some n₁ ∧ n₁.measure = bl.1 ∧ n₁ ∈ raw
        ∧ bl.2 = max 0 (roundHalfEven ((r.divs : Rat) * (barTime ts (readerMaxTime raw ts) n₁ - r.shiftQ))))
    ∧ (∃ first, (sortedNotes raw).head? = some first ∧ first.2 ∈ raw
        ∧ ∃ nmin, nmin ∈ raw ∧ (∀ n ∈ raw, nmin.onsetB ≤ n.onsetB)
          ∧ ((sortedNotes raw).map (·.2.onsetB)).foldl min first.2.onsetB = nmin.onsetB
          ∧ r.shiftQ = min (beatsToQuarters ts nmin.onsetB) 0) := by
  obtain ⟨first, hfirst, hdivs, hshift, hnotes, _, hbars⟩ := reconstruct_anatomy raw ts ks r h
  obtain ⟨nmin, hnmin, hminB, hall⟩ := minOnset_spec hfirst
  refine ⟨hdivs, ?_, ?_, first, hfirst, List.mem_of_getElem? (mem_sortedNotes.mp (List.mem_of_mem_head? hfirst)),
    nmin, hnmin, hall, hminB, hminB ▸ hshift⟩
  · intro y hy
    rw [hnotes] at hy
    obtain ⟨p, hp, rfl⟩ := List.mem_map.mp hy
    obtain ⟨h1, h2, h3⟩ := barHead_spec hp
    exact ⟨p.2, _, mem_sortedNotes.mp hp, h1, h2, h3, rfl, onset_cases _ _ _⟩
  · intro bl hbl
    rw [hbars] at hbl
    obtain ⟨b, hb, rfl⟩ := List.mem_map.mp hbl
    obtain ⟨p, hp, rfl⟩ := (C08C.barNames_spec _).2 b |>.mp hb
    obtain ⟨h1, h2, h3⟩ := barHead_spec hp
    exact ⟨_, h1, h2, h3, rfl⟩

/-- **roundtrip_durations.**  End to end, for EVERY score with a positive divisions value, every list of stored notes
    (onset, tied duration ≥ 0) and key signatures: whenever writing and reading succeeds, every loaded note `i` has one
    duration component, and it is the saved duration of stored note `i` — the same number of quarters
    (`loaded / reader's divisions = saved / score's divisions`).  No grid or exactness condition is needed: the
    reader's divisions are a multiple of every written denominator. -/
theorem roundtrip_durations (sc : Score) (hdivs : 0 < sc.divs) (stored : List (Int × Int)) (ks : List (Int × Nat))
    (r : Recon) (h : sc.roundTrip stored ks = some r) (hd : ∀ p ∈ stored, 0 ≤ p.2) :
    ∀ y ∈ r.notes, ∃ o d z, stored[y.1]? = some (o, d) ∧ y.2.2 = [z]
      ∧ (z : Rat) / (r.divs : Rat) = (d : Rat) / (sc.divs : Rat) ∧ 0 < r.divs := by
  obtain ⟨sts, hsts, hrec⟩ := roundTrip_lines sc stored ks r h
  obtain ⟨_, _, hD, _, hnotes, _, _⟩ := reconstruct_anatomy _ _ _ r hrec
  -- every written denominator is positive: the lines come from `Frac.ofRat`
  have hDpos : 0 < r.divs := by
    rw [hD]
    apply C08P.importDivs_pos
    intro x hx
    obtain ⟨p, hp, rfl⟩ := List.mem_map.mp hx
    obtain ⟨st, _, hst⟩ := List.mem_map.mp (List.mem_of_getElem? (mem_sortedNotes.mp hp))
    rw [← hst]
    exact ⟨Rat.den_pos _, Nat.one_pos, Rat.den_pos _, Nat.one_pos⟩
  intro y hy
  rw [hnotes] at hy
  obtain ⟨p, hp, rfl⟩ := List.mem_map.mp hy
  obtain ⟨o, d, mi, m, s, hsto, hl⟩ := line_at sc stored sts hsts _ _ (mem_sortedNotes.mp hp)
  -- the note is one of the sorted notes, so its written denominator divides the reader's divisions
  have hdvd : (encDur sc.divs d).den ∣ 4 * r.divs := by
    have h1 := (C08P.dvd_importDivs sc.readTS (readerMaxTime (sts.map STime.toSNote) sc.readTS) _ p.2
      (List.mem_map_of_mem (f := fun p : Nat × SNote => p.2) hp)).2
    rw [← hD, hl.dur] at h1
    exact Dvd.dvd.mul_left (((Dvd.intro_left _ rfl).trans (Dvd.intro _ rfl)).trans h1) 4
  refine ⟨o, d, durDivs r.divs (Frac.ofRat (encDur sc.divs d)), hsto,
    by show (if p.2.comps.isEmpty then _ else _) = _; rw [hl.comps, hl.dur]; rfl, ?_, hDpos⟩
  rw [duration_roundtrip r.divs sc.divs d (hd (o, d) (List.mem_of_getElem? hsto)) hdivs hdvd]
  have hDne : (r.divs : Rat) ≠ 0 := by exact_mod_cast (Nat.pos_iff_ne_zero.mp hDpos)
  field_simp

/-- non-vacuity: `exampleScore` (3/4 pickup | 6/8 | 2/2, 4 divisions per quarter) with a quarter, a
    dotted quarter and a half note stored: the file is read with 16 divisions per quarter (lcm of the written
    denominators 4, 8, 2, times 2 for the beat type 8), the durations come back times four -/
example : ((exampleScore.roundTrip [(0, 4), (4, 6), (20, 8)] []).map fun r => (r.divs, r.notes.map (·.2.2)))
    = some (16, [[16], [24], [32]]) := by
  decide +kernel

theorem closingTime_ge_last (offs : List Rat) (first : Rat) (ts : List TSLine) (s : TSLine) (h : ts.getLast? = some s) :
    s.timeB ≤ closingTime offs first ts := by
  unfold closingTime
  simp only [h]
  split
  · exact le_refl _
  · rename_i hn; exact not_lt.mp hn

/-- **written_note_before_closing_point** (`hend` of `bars_recovered` / `onset_roundtrip`, discharged).  For a written
    score, any `M` not before the written time of the last time signature: the four-decimal beat time of a note lies
    before `M`, or the note stands under the last time signature. -/
theorem written_note_before_closing_point (sc : Score) (wf : WrittenScore sc)
    (s0 : TSig) (rest : List TSig) (hts : sc.ts = s0 :: rest) (o : Int) (ho : s0.t ≤ o)
    (sk : TSig) (hat : tsAt sc.ts o = some sk) (M : Rat)
    (hM : ∀ s, sc.ts.getLast? = some s → dec4 (sc.beats s.t) ≤ M) :
    dec4 (sc.beats o) < M ∨ sc.ts.getLast? = some sk := by
  have W := wf.written hts
  rw [hts] at hat hM ⊢
  obtain ⟨last, hlast⟩ : ∃ last, (s0 :: rest).getLast? = some last := by
    cases hl : (s0 :: rest).getLast? with
    | none => simp at hl
    | some l => exact ⟨l, rfl⟩
  by_contra hc
  rw [not_or, not_lt] at hc
  -- the last signature is written at or before `o`, so no earlier one is in force
  have h1 := (W.sig_located ho hat).last last (List.mem_of_getLast? hlast) ((hM last hlast).trans hc.1)
  obtain ⟨ys, hys⟩ := List.getLast?_eq_some_iff.mp hlast
  have hmem := C08M.tsAt_mem _ _ _ hat
  have hats := W.hats_lt
  rw [hys] at hmem hats
  rcases List.mem_append.mp hmem with h | h
  · exact absurd h1 (not_le.mpr
      ((List.pairwise_append.mp (List.pairwise_map.mp hats)).2.2 sk h last (List.mem_singleton_self _)))
  · exact hc.2 (by rw [hlast, List.mem_singleton.mp h])

/-- two beat times rounded to four decimals cost less than half a division when there are fewer than 1250 divisions -/
theorem half_division (D a b : Nat) (hD : D < 1250) (ha : 0 < a) (hb : 0 < b) :
    (D : Rat) * (1 / (5000 * (a : Rat)) + 1 / (5000 * (b : Rat))) < 1 / 2 := by
  have hDr : (D : Rat) < 1250 := by exact_mod_cast hD
  calc (D : Rat) * (1 / (5000 * (a : Rat)) + 1 / (5000 * (b : Rat)))
      ≤ (D : Rat) * (1 / 5000 + 1 / 5000) := mul_le_mul_of_nonneg_left (add_le_add (C08C.one_div_5000_mul_le a ha) (C08C.one_div_5000_mul_le b hb))
        (Nat.cast_nonneg D)
    _ < 1 / 2 := by linarith

/-- **loaded_line.**  What the end-to-end theorems share.  A written score whose time-signature lines are read as they
    were written (`hTS`) and whose changes of time signature fall on beat times that four decimals hold (`hexact`), stored
    notes at or after the first time signature, fewer than 1250 reader's divisions.  The earliest line `nmin` of the file
    is the line of a stored note at `of`.  Every line `p` of the file is the line of a stored note at `o`; the reader looks
    up the beat type it was written with; its beats→quarters map puts the line's `OnsetInBeats` within 1/5000 quarter of the
    true position `quarters o` (and likewise for `nmin`); and the bar start the reader uses for `p` - computed from the first
    line of the bar with `p`'s number, which lies in `p`'s measure - is, counted from the reader's origin, within half a
    division of the distance of that measure from the true origin (`min(quarters of, 0)`). -/
theorem loaded_line (sc : Score) (wf : WrittenScore sc) (stored : List (Int × Int)) (sts : List STime)
    (hsts : sc.storedLines stored = some sts) (mnum : Int → Int) (hTS : sc.readTS = sc.tsLines mnum)
    (s0 : TSig) (rest : List TSig) (hts : sc.ts = s0 :: rest)
    (hafter : ∀ p ∈ stored, s0.t ≤ p.1)
    (hexact : ∀ x ∈ rest, dec4 (sc.beats x.t) = sc.beats x.t)
    (first : Nat × SNote) (hfirst : (sortedNotes (sts.map STime.toSNote)).head? = some first)
    (nmin : SNote) (hnmin : nmin ∈ sts.map STime.toSNote) (D : Nat) (hD : D < 1250) :
    ∃ of dfirst ef, (of, dfirst) ∈ stored ∧ |ef| ≤ 1 / 5000
      ∧ beatsToQuarters sc.readTS nmin.onsetB = sc.quarters of + ef
      ∧ ∀ p ∈ sortedNotes (sts.map STime.toSNote),
        ∃ o d mi m s e, stored[p.1]? = some (o, d) ∧ LineOf sc p.2 o d mi m s
        ∧ denAtBeats sc.readTS (readerMaxTime (sts.map STime.toSNote) sc.readTS) p.2.onsetB = s.den
        ∧ |e| ≤ 1 / 5000 ∧ beatsToQuarters sc.readTS p.2.onsetB = sc.quarters o + e
        ∧ (D : Rat) * |barTime sc.readTS (readerMaxTime (sts.map STime.toSNote) sc.readTS)
                (barHead (sts.map STime.toSNote) p.2.measure)
              - min (beatsToQuarters sc.readTS nmin.onsetB) 0 - (sc.quarters m.s - min (sc.quarters of) 0)| < 1 / 2 := by
  rw [hTS]
  obtain ⟨of, dfirst, _, _, sf, hofmem, hlf⟩ := line_of_mem sc stored sts hsts nmin hnmin
  have hof := hafter _ hofmem
  have hk : ∀ t, knotErr sc.beats sc.ts t = 0 := fun t => by rw [hts]; exact C08M.knotErr_exact sc.beats rest s0 t hexact
  -- the reader's map at a written time: the true position plus the rounding of the beat time
  have hq : ∀ (o : Int) (s : TSig), s0.t ≤ o → tsAt sc.ts o = some s →
      |4 * (dec4 (sc.beats o) - sc.beats o) / (s.den : Rat)| ≤ 1 / 5000
      ∧ beatsToQuarters (sc.tsLines mnum) (dec4 (sc.beats o))
          = sc.quarters o + 4 * (dec4 (sc.beats o) - sc.beats o) / (s.den : Rat) := by
    intro o s ho hs
    have := quarters_recovered sc wf mnum s0 rest hts o ho s hs
    rw [hk, add_zero] at this
    exact ⟨C08C.beat_rounding_small _ _ (wf.den_at hs), this⟩
  refine ⟨of, dfirst, _, hofmem, (hq of sf hof hlf.sig).1, by rw [hlf.onsetB]; exact (hq of sf hof hlf.sig).2, ?_⟩
  -- the closing point of the reader's maps is not before the last time signature
  have hend : ∀ (o : Int) (s : TSig), s0.t ≤ o → tsAt sc.ts o = some s →
      dec4 (sc.beats o) < readerMaxTime (sts.map STime.toSNote) (sc.tsLines mnum) ∨ sc.ts.getLast? = some s := by
    intro o s ho hs
    apply written_note_before_closing_point sc wf s0 rest hts o ho s hs
    intro sl hsl
    unfold readerMaxTime
    rw [hfirst]
    exact closingTime_ge_last _ _ _ (C08M.tsLineOf sc.beats mnum sl)
      (by rw [C08M.tsLines_eq, List.getLast?_map, hsl]; rfl)
  intro p hp
  obtain ⟨o, d, mi, m, s, hsto, hl⟩ := line_at sc stored sts hsts p.1 p.2 (mem_sortedNotes.mp hp)
  have ho := hafter _ (List.mem_of_getElem? hsto)
  refine ⟨o, d, mi, m, s, _, hsto, hl, ?_, (hq o s ho hl.sig).1, by rw [hl.onsetB]; exact (hq o s ho hl.sig).2, ?_⟩
  · rw [hl.onsetB]
    exact (lookup_written sc wf mnum s0 rest hts o ho s hl.sig _ (hend o s ho hl.sig)).1
  · -- the first line of the bar is the line of a stored note of the same measure
    obtain ⟨_, hmeas, hraw⟩ := barHead_spec hp
    obtain ⟨j, hj⟩ := List.mem_iff_getElem?.mp hraw
    obtain ⟨o₁, d₁, mj, m₁, s₁, hsto₁, hl₁⟩ := line_at sc stored sts hsts j _ hj
    obtain ⟨rfl, rfl⟩ := hl.same_bar hl₁ hmeas
    have ho₁ := hafter _ (List.mem_of_getElem? hsto₁)
    have hclose := bar_origin_close sc wf mnum s0 rest hts of hof sf hlf.sig m₁.s o₁ ho₁ s₁ hl₁.sig
      (readerMaxTime (sts.map STime.toSNote) (sc.tsLines mnum)) _ hl₁.beat hl₁.offset hl₁.onsetB
      (hl₁.onsetB ▸ hend o₁ s₁ ho₁ hl₁.sig)
    rw [hk, hk, abs_zero, add_zero, add_zero] at hclose
    rw [hlf.onsetB]
    exact lt_of_le_of_lt (mul_le_mul_of_nonneg_left hclose (Nat.cast_nonneg D))
      (half_division D s₁.den sf.den hD (wf.den_at hl₁.sig) (wf.den_at hlf.sig))

/-- **roundtrip_bars.**  End to end, under the hypotheses of `roundtrip_onsets` (the grid condition now for the bar
    lines): every loaded bar line `(number, position)` belongs to a measure of the score that holds a stored note — the
    number is the position of that measure among the measures (from 0 with a pickup, else from 1) — and lies exactly at
    the measure's saved distance in quarters from the loaded origin (clipped to the origin: a measure that starts before
    the first stored note begins with it); and every measure that holds a stored note gets its bar line. -/
theorem roundtrip_bars (sc : Score) (wf : WrittenScore sc) (stored : List (Int × Int)) (ks : List (Int × Nat))
    (r : Recon) (h : sc.roundTrip stored ks = some r)
    (mnum : Int → Int) (hTS : sc.readTS = sc.tsLines mnum)
    (s0 : TSig) (rest : List TSig) (hts : sc.ts = s0 :: rest)
    (hafter : ∀ p ∈ stored, s0.t ≤ p.1)
    (hexact : ∀ x ∈ rest, dec4 (sc.beats x.t) = sc.beats x.t)
    (hD : r.divs < 1250)
    (hgrid : ∀ p ∈ stored, ∀ mi m, sc.measureOf p.1 = some mi → sc.ms[mi]? = some m → ∀ q ∈ stored, ∃ z : Int,
      (r.divs : Rat) * (sc.quarters m.s - min (sc.quarters q.1) 0) = (z : Rat)) :
    ∃ of dfirst, (of, dfirst) ∈ stored
      ∧ (∀ bl ∈ r.barlines, ∃ (mi : Nat) (m : Meas) (z : Int), sc.ms[mi]? = some m ∧ bl.1 = sc.firstMeasureNumber + mi
          ∧ (∃ p ∈ stored, sc.measureOf p.1 = some mi)
          ∧ (z : Rat) = (r.divs : Rat) * (sc.quarters m.s - min (sc.quarters of) 0) ∧ bl.2 = max 0 z)
      ∧ (∀ p ∈ stored, ∀ mi, sc.measureOf p.1 = some mi → ∃ bl ∈ r.barlines, bl.1 = sc.firstMeasureNumber + mi) := by
  obtain ⟨sts, hsts, hrec⟩ := roundTrip_lines sc stored ks r h
  obtain ⟨first, hfirst, _, hshift, _, _, hbars⟩ := reconstruct_anatomy _ _ _ r hrec
  obtain ⟨nmin, hnmin, hminB, _⟩ := minOnset_spec hfirst
  obtain ⟨of, dfirst, _, hofmem, _, _, hline⟩ :=
    loaded_line sc wf stored sts hsts mnum hTS s0 rest hts hafter hexact first hfirst nmin hnmin r.divs hD
  obtain ⟨_, hnames⟩ := C08C.barNames_spec (sortedNotes (sts.map STime.toSNote))
  refine ⟨of, dfirst, hofmem, ?_, ?_⟩
  · intro bl hbl
    rw [hbars] at hbl
    obtain ⟨b, hb, rfl⟩ := List.mem_map.mp hbl
    obtain ⟨p, hp, rfl⟩ := (hnames b).mp hb
    obtain ⟨o₁, d₁, mi, m, s₁, _, hsto, hl, _, _, _, hclose⟩ := hline p hp
    have ho1mem := List.mem_of_getElem? hsto
    obtain ⟨z, hz⟩ := hgrid (o₁, d₁) ho1mem mi m hl.found hl.bar (of, dfirst) hofmem
    refine ⟨mi, m, z, hl.bar, hl.number, ⟨(o₁, d₁), ho1mem, hl.found⟩, hz.symm, ?_⟩
    show max 0 _ = max 0 z
    rw [hshift, hminB]
    exact congrArg (max 0) (Round.round_mul_near r.divs _ _ z hz hclose)
  · intro p hp mi hmi
    -- the line of the stored note carries the number of its measure, and the reader makes a bar for every number
    obtain ⟨st, hst, hfst⟩ := Lists.mapM_mem_left (by unfold Score.storedLines at hsts; exact hsts) p hp
    simp only [hmi, Option.bind_eq_bind, Option.bind_some] at hfst
    have hnm := measure_numbers_by_position sc mi p.1 p.2 st hfst
    obtain ⟨bl, hbl, hbl1⟩ := List.mem_map.mp (((bars_are_the_distinct_numbers _ _ _ r hrec).2 _).mpr
      ⟨STime.toSNote st, List.mem_map_of_mem hst, show st.measure = _ from hnm⟩)
    exact ⟨bl, hbl, hbl1⟩

end C08
