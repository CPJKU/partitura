/-
C01 — the class hierarchy: the generated MRO table is the reflexive-transitive closure of the generated
`__subclasses__()` table, `iter_subclasses` enumerates exactly the strict descendants, and
`include_subclasses=True` queries return exactly the registered objects whose class is a reflexive-transitive
subclass of the query class — with NO hypothesis "class ids lie in the generated table" left: the ids of the
registered objects are discharged by `clsOk_reachable` (only timed objects are ever added), the query class is
arbitrary.

`SubclassRT d c` (Proofs/C01Closure): `d` is `c` or reachable from `c` through `__subclasses__()` edges.
`ClassSpecRT cls incl k`: `k = c` (exact), `SubclassRT k c` (with subclasses), anything (`cls = None`).
-/
import PartituraModel.Props.C01Any

namespace C01
open TL

/-- every class id occurring in the generated tables is a row of the tables (whole-table evaluation) -/
theorem classes_ids_bounded :
    (∀ row ∈ Gen.directSubclasses, ∀ c ∈ row, c < Gen.numClasses)
    ∧ (∀ row ∈ Gen.iterSubclassesTab, ∀ c ∈ row, c < Gen.numClasses)
    ∧ (∀ row ∈ Gen.mroTab, ∀ c ∈ row, c < Gen.numClasses)
    ∧ (∀ c ∈ Gen.objectSubclasses, c < Gen.numClasses) := class_ids_bounded_tab

/-- `issubclass` per the generated MRO table is exactly reflexive-transitive reachability through the
generated `__subclasses__()` table, for ALL naturals `d`, `c` -/
theorem classes_closure (d c : Nat) : SubclassRT d c ↔ (d = c ∨ isSubclass d c = true) := subclassRT_iff d c

/-- `iter_subclasses(c)` yields exactly the strict reflexive-transitive subclasses of `c`, each once,
for EVERY class argument (a class outside the table has none) -/
theorem iterSubclasses_closure (c d : Nat) :
    (iterSubclasses c).Nodup ∧ (d ∈ iterSubclasses c ↔ (d ≠ c ∧ SubclassRT d c)) := by
  refine ⟨(iterSubclasses_nodup c).1, ?_⟩
  rw [subclassRT_iff]
  constructor
  · intro h
    obtain ⟨hd, hc⟩ := iterSubclasses_bounds h
    have := (iterSubclasses_desc_tab c (List.mem_range.mpr hc) d (List.mem_range.mpr hd)).mp h
    exact ⟨this.1, Or.inr this.2⟩
  · rintro ⟨hne, rfl | h⟩
    · exact absurd rfl hne
    · obtain ⟨hd, hc⟩ := isSubclass_bounds h
      exact (iterSubclasses_desc_tab c (List.mem_range.mpr hc) d (List.mem_range.mpr hd)).mpr ⟨hne, h⟩

/-- `TimePoint.iter_starting / iter_ending(cls, include_subclasses)` on one duplicate-free registry of timed
objects: duplicate-free, exactly the listed objects whose class matches — the class itself first, then the
classes `iter_subclasses` enumerates -/
theorem iterReg_correct {reg : List ObjRef} (hn : reg.Nodup) (hk : ∀ o ∈ reg, o.cls < Gen.numClasses)
    (cls : Option Nat) (incl : Bool) :
    (iterReg reg cls incl).Nodup
    ∧ (∀ o, o ∈ iterReg reg cls incl ↔ o ∈ reg ∧ ClassSpecRT cls incl o.cls)
    ∧ (∀ c, cls = some c → iterReg reg cls incl
        = reg.filter (fun o => o.cls == c)
          ++ (if incl then (iterSubclasses c).flatMap (fun d => reg.filter (fun o => o.cls == d)) else [])) := by
  refine ⟨nodup_iterReg hn cls incl, ?_, ?_⟩
  · intro o
    rw [mem_iterReg]
    constructor
    · rintro ⟨ho, hm⟩; exact ⟨ho, (clsMatch_specRT (hk o ho)).mp hm⟩
    · rintro ⟨ho, hm⟩; exact ⟨ho, (clsMatch_specRT (hk o ho)).mpr hm⟩
  · rintro c rfl
    rfl

/-- `iter_all` on a consistent part holding timed objects, ANY query class: duplicate-free, exactly the
registered objects in `[a, b)` whose class matches (`SubclassRT` with `include_subclasses`), in time order -/
theorem iterAll_correct_classes {s : Part} (hI : Inv s) (hk : ClsOk s) (cls : Option Nat) (a b : Option Int)
    (incl : Bool) (mode : Mode) :
    (iterAll s cls a b incl mode).Nodup
    ∧ (∀ o, o ∈ iterAll s cls a b incl mode ↔
        ∃ τ, (getObj s.objs o).at mode.side = some τ ∧ inRange a b τ ∧ ClassSpecRT cls (inclEff cls incl) o.cls)
    ∧ (iterAll s cls a b incl mode).Pairwise (fun o1 o2 => ∀ t1 t2,
        (getObj s.objs o1).at mode.side = some t1 → (getObj s.objs o2).at mode.side = some t2 → t1 ≤ t2) :=
  iterAll_spec hI hk cls a b incl mode _ (fun _ hk' => clsMatch_specRT hk')

/-- the `include_subclasses=True` case spelled out -/
theorem include_subclasses_exact {s : Part} (hI : Inv s) (hk : ClsOk s) (c : Nat) (a b : Option Int) (mode : Mode)
    (o : ObjRef) :
    o ∈ iterAll s (some c) a b true mode ↔
      ∃ τ, (getObj s.objs o).at mode.side = some τ ∧ inRange a b τ ∧ SubclassRT o.cls c := by
  have := (iterAll_correct_classes hI hk (some c) a b true mode).2.1 o
  simpa [ClassSpecRT, inclEff] using this

theorem iterPrev_correct_classes {s : Part} (hI : Inv s) (hk : ClsOk s) {t : Int} (ht : 0 ≤ t) (cls : Option Nat)
    (eq incl : Bool) :
    ∃ out, step s (.iterPrev t cls eq incl) = .ok (s, out) ∧
      (t ∉ s.times → out = .noPoint) ∧
      (t ∈ s.times → ∃ l, out = .objs l ∧ l.Nodup
        ∧ (∀ o, o ∈ l ↔ ∃ τ, (getObj s.objs o).start = some τ ∧ (τ < t ∨ (eq = true ∧ τ = t))
            ∧ ClassSpecRT cls incl o.cls)
        ∧ l.Pairwise (fun o1 o2 => ∀ t1 t2, (getObj s.objs o1).start = some t1 →
            (getObj s.objs o2).start = some t2 → t2 ≤ t1)) := by
  obtain ⟨out, h1, h2, h3⟩ := iterLinks_out (iterPrev_spec hI.toWInv ht cls eq incl)
  exact ⟨out, h1, h2, fun h => ⟨_, h3 h, iterPrev_objs_spec hI hk t cls eq incl _ (fun _ hk' => clsMatch_specRT hk')⟩⟩

theorem iterNext_correct_classes {s : Part} (hI : Inv s) (hk : ClsOk s) {t : Int} (ht : 0 ≤ t) (cls : Option Nat)
    (eq incl : Bool) :
    ∃ out, step s (.iterNext t cls eq incl) = .ok (s, out) ∧
      (t ∉ s.times → out = .noPoint) ∧
      (t ∈ s.times → ∃ l, out = .objs l ∧ l.Nodup
        ∧ (∀ o, o ∈ l ↔ ∃ τ, (getObj s.objs o).start = some τ ∧ (t < τ ∨ (eq = true ∧ τ = t))
            ∧ ClassSpecRT cls incl o.cls)
        ∧ l.Pairwise (fun o1 o2 => ∀ t1 t2, (getObj s.objs o1).start = some t1 →
            (getObj s.objs o2).start = some t2 → t1 ≤ t2)) := by
  obtain ⟨out, h1, h2, h3⟩ := iterLinks_out (iterNext_spec hI.toWInv ht cls eq incl)
  exact ⟨out, h1, h2, fun h => ⟨_, h3 h, iterNext_objs_spec hI hk t cls eq incl _ (fun _ hk' => clsMatch_specRT hk')⟩⟩

/-- end to end: after ANY valid history in which only timed objects are added, every `iter_all` query —
any class argument, any bounds — returns precisely the matching registered objects in time order.
No hypothesis on the state or on class ids remains. -/
theorem iterAll_reachable (q : Nat) (ops : List Op) (hv : ValidHistory (Part.init q) ops)
    (ho : ∀ op ∈ ops, op.clsOk) (cls : Option Nat) (a b : Option Int) (incl : Bool) (mode : Mode) :
    let s := run (Part.init q) ops
    (iterAll s cls a b incl mode).Nodup
    ∧ (∀ o, o ∈ iterAll s cls a b incl mode ↔
        ∃ τ, (getObj s.objs o).at mode.side = some τ ∧ inRange a b τ ∧ ClassSpecRT cls (inclEff cls incl) o.cls)
    ∧ (iterAll s cls a b incl mode).Pairwise (fun o1 o2 => ∀ t1 t2,
        (getObj s.objs o1).at mode.side = some t1 → (getObj s.objs o2).at mode.side = some t2 → t1 ≤ t2) :=
  iterAll_correct_classes (inv_reachable q ops hv) (clsOk_reachable q ops ho) cls a b incl mode

section Examples

/-- GraceNote (3) → Note (2) → GenericNote (1) → TimedObject (0): a three-edge chain; the multiply-inheriting
ConstantLoudnessDirection (37) reaches Direction (35) along two paths; unrelated classes are not related -/
example : SubclassRT 3 0 ∧ SubclassRT 37 35 ∧ SubclassRT 37 52 ∧ ¬ SubclassRT 3 35 ∧ ¬ SubclassRT 0 1
    ∧ SubclassRT 99 99 ∧ ¬ SubclassRT 99 0 := by
  simp only [classes_closure]
  decide +kernel
/-- `iterAll_reachable`: `history` (Props/C01) is valid and adds timed objects only; a query class OUTSIDE the
table is accepted and matches nothing -/
example : ValidHistory (Part.init 1) history ∧ (∀ op ∈ history, op.clsOk) := by decide +kernel
/-- `iterReg_correct`: a Note, a GraceNote and a Rest listed together; GenericNote with subclasses finds all,
in the order "class itself, then the DFS order of the subclasses" (Note 2, GraceNote 3, Rest 5) -/
example : iterReg [rD, nB, nA] (some 1) true = [nA, nB, rD] ∧ iterReg [rD, nB, nA] (some 2) false = [nA] := by
  decide +kernel
example : iterAll (run (Part.init 1) history) (some 35) none none true .starting = [dC]
    ∧ iterAll (run (Part.init 1) history) (some 99) none none true .starting = [] := by decide +kernel

end Examples

end C01
