/-
C19 — how many sub-spines a **kern spine has after a row of spine-path indicators.

`importkern.parse_by_voice` keeps the number of columns (`voices`) of the spine it is cutting out of the file; the repaired
bookkeeping (fixes/C19-30) is `voices + (#cells "*^") - (#cells "*v" whose left neighbour is "*v")`.  The theorems state
that this is exactly what the denotational semantics (`Model.Kern.interpRow`: every `*^` doubles its column, every run of
adjacent `*v` of one spine becomes one column, `*-` ends a column) does — for every row, any number of splits and joins of
any length in the same row.
-/
import PartituraModel.Model.Kern
import PartituraModel.Proofs.C19KernPbv

set_option linter.unusedSimpArgs false

namespace C19
open Model Model.Kern

/-- columns a row of interpretation cells leaves, by the semantics' rule (`prev`: the spine of the cell to the left if
    that cell was a `*v`) -/
def pathOut : List (Col × Nat) → List (List Char) → Option Nat → Nat
  | (c, _) :: cs, cell :: cells, prev =>
    if cell = "*^".toList then 2 + pathOut cs cells none
    else if cell = "*v".toList then (if prev = some c.main then 0 else 1) + pathOut cs cells (some c.main)
    else if cell = "*-".toList then pathOut cs cells none
    else 1 + pathOut cs cells none
  | _, _, _ => 0

theorem pathOut_cons (c : Col) (p : Nat) (cs : List (Col × Nat)) (cell : List Char) (cells : List (List Char)) (prev : Option Nat) :
    pathOut ((c, p) :: cs) (cell :: cells) prev
      = Pbv.cellCols c.main cell prev + pathOut cs cells (if cell = "*v".toList then some c.main else none) := by
  rw [pathOut]
  unfold Pbv.cellCols
  by_cases h1 : cell = "*^".toList
  · have h2 : ¬ cell = "*v".toList := by rw [h1]; decide
    rw [if_pos h1, if_pos h1, if_neg h2]
  · by_cases h2 : cell = "*v".toList
    · rw [if_neg h1, if_neg h1, if_pos h2, if_pos h2, if_pos h2]
    · rw [if_neg h1, if_neg h1, if_neg h2, if_neg h2, if_neg h2]
      split
      · exact (Nat.zero_add _).symm
      · rfl

/-- `kern_paths_mains`: the number of columns `pathOut` counts is the length of the list of their spines -/
theorem kern_paths_mains (cp : List (Col × Nat)) (row : List (List Char)) (prev : Option Nat) :
    (Pbv.mainsOut cp row prev).length = pathOut cp row prev := by
  induction cp generalizing row prev with
  | nil => simp [Pbv.mainsOut, pathOut]
  | cons x cs ih =>
    obtain ⟨c, p⟩ := x
    cases row with
    | nil => simp [Pbv.mainsOut, pathOut]
    | cons cell cells => rw [Pbv.mainsOut_cons, pathOut_cons, List.length_append, List.length_replicate, ih]

/-- `kern_spine_paths`: whenever the semantics accepts an interpretation row, the columns after it are those before it,
    two for every `*^`, one for every run of adjacent `*v` cells of one spine, none for a `*-`, one for any other cell.
    (`acc`: the columns already produced, newest first; `joining`: the cell to the left was a `*v`.) -/
theorem kern_spine_paths (st : St) (cp : List (Col × Nat)) (row : List (List Char)) (acc : List Col) (joining : Bool)
    (st' : St) (cols' : List Col) (hj : joining = true → acc ≠ [])
    (h : interpRow st cp row acc joining = some (st', cols')) :
    cols'.length = acc.length + pathOut cp row (if joining then acc.head?.map (·.main) else none) := by
  -- the columns are counted by counting the spines they belong to
  have := congrArg List.length (Pbv.interpRow_mains st cp row acc joining st' cols' h)
  rwa [List.length_map, List.length_append, List.length_map, List.length_reverse, kern_paths_mains] at this

/-- the count the repaired `parse_by_voice` keeps: cells, splits, cells `*v` whose left neighbour is a `*v`, ends -/
def countSplits (row : List (List Char)) : Nat := (row.filter (· = "*^".toList)).length
def countEnds (row : List (List Char)) : Nat := (row.filter (· = "*-".toList)).length
def countJoins : List (List Char) → Bool → Nat
  | [], _ => 0
  | cell :: cells, prevV =>
    (if cell = "*v".toList ∧ prevV = true then 1 else 0) + countJoins cells (decide (cell = "*v".toList))

/-- one cell of the spine `m`: the columns it leaves, the join and the end it counts for make up for the cell itself
    and the split it counts for -/
theorem cell_balance (m : Nat) (cell : List Char) (prevV : Bool) :
    Pbv.cellCols m cell (if prevV then some m else none) + (if cell = "*v".toList ∧ prevV = true then 1 else 0)
        + (if cell = "*-".toList then 1 else 0)
      = 1 + (if cell = "*^".toList then 1 else 0) := by
  unfold Pbv.cellCols
  by_cases h1 : cell = "*^".toList
  · have h2 : ¬ cell = "*v".toList := by rw [h1]; decide
    have h3 : ¬ cell = "*-".toList := by rw [h1]; decide
    simp only [eq_true h1, eq_false h2, eq_false h3, if_true, if_false, false_and]
  by_cases h2 : cell = "*v".toList
  · have h3 : ¬ cell = "*-".toList := by rw [h2]; decide
    cases prevV <;>
      simp only [eq_false h1, eq_true h2, eq_false h3, if_true, if_false, true_and, Bool.false_eq_true, reduceCtorEq]
  by_cases h3 : cell = "*-".toList
  · simp only [eq_false h1, eq_false h2, eq_true h3, if_true, if_false, false_and]
  · simp only [eq_false h1, eq_false h2, eq_false h3, if_false, false_and]

theorem length_filter_cons (x cell : List Char) (cells : List (List Char)) :
    ((cell :: cells).filter (· = x)).length = (if cell = x then 1 else 0) + (cells.filter (· = x)).length := by
  rw [List.filter_cons]
  by_cases h : cell = x
  · rw [if_pos (decide_eq_true h), if_pos h, List.length_cons, Nat.add_comm]
  · rw [if_neg (by simpa using h), if_neg h, Nat.zero_add]

/-- `kern_spine_width`: inside ONE spine (all columns of the row belong to the spine `m`) the semantics' rule is the
    importer's arithmetic: columns after = columns before + splits − joins − ends, where a join is a `*v` cell whose left
    neighbour is a `*v` cell — so `*v *v *v` takes away two columns, `*^ *^` adds two. -/
theorem kern_spine_width (m : Nat) (cp : List (Col × Nat)) (row : List (List Char)) (prevV : Bool)
    (hm : ∀ x ∈ cp, x.1.main = m) (hlen : cp.length = row.length) :
    pathOut cp row (if prevV then some m else none) + countJoins row prevV + countEnds row
      = row.length + countSplits row := by
  induction cp generalizing row prevV with
  | nil =>
    cases row with
    | nil => simp [pathOut, countJoins, countEnds, countSplits]
    | cons _ _ => simp at hlen
  | cons x cs ih =>
    obtain ⟨c, p⟩ := x
    cases row with
    | nil => simp at hlen
    | cons cell cells =>
      have hc : c.main = m := hm (c, p) (by simp)
      have hprev : (if cell = "*v".toList then some c.main else none)
          = (if decide (cell = "*v".toList) = true then some m else none) := by
        rw [hc]
        by_cases h : cell = "*v".toList <;> simp [h]
      have := ih cells (decide (cell = "*v".toList)) (fun x hx => hm x (List.mem_cons_of_mem _ hx)) (Nat.succ.inj hlen)
      have hb := cell_balance m cell prevV
      unfold countEnds countSplits at *
      rw [pathOut_cons, hprev, hc, countJoins, length_filter_cons, length_filter_cons, List.length_cons]
      omega

/-- non-vacuity: three sub-spines joined at once, two split at once -/
example : pathOut [(⟨0, true, 0, 1⟩, 0), (⟨0, true, 0, 1⟩, 1), (⟨0, true, 0, 1⟩, 2)] ["*v".toList, "*v".toList, "*v".toList] none = 1 ∧
    pathOut [(⟨0, true, 0, 1⟩, 0), (⟨0, true, 0, 1⟩, 1)] ["*^".toList, "*^".toList] none = 4 ∧
    countJoins ["*v".toList, "*v".toList, "*v".toList] false = 2 := by decide +kernel

example : (interpRow { cols := [], same := false } [(⟨0, true, 0, 1⟩, 0), (⟨0, true, 0, 1⟩, 1), (⟨0, true, 0, 1⟩, 2), (⟨1, true, 0, 1⟩, 0)]
      ["*v".toList, "*v".toList, "*v".toList, "*".toList] [] false).map (fun r => r.2.map (·.main)) = some [0, 1] := by
  decide +kernel

/-! ### which spine every column belongs to, and the importer's bookkeeping (`importkern.parse_by_voice`) -/

/-- `kern_columns_after_row`: after an accepted row of interpretations every column belongs to the spine the
    semantics' rule names — two columns of its spine for a `*^`, one for a run of `*v` of one spine, none for `*-`,
    the column itself otherwise — in document order; tandem interpretations never move a column to another spine. -/
theorem kern_columns_after_row (st : St) (cp : List (Col × Nat)) (row : List (List Char)) (st' : St) (cols' : List Col)
    (h : interpRow st cp row [] false = some (st', cols')) :
    cols'.map (·.main) = Pbv.mainsOut cp row none := by
  have := Pbv.interpRow_mains st cp row [] false st' cols' h
  simpa using this

theorem pbvJoins_eq (row : List (List Char)) (b : Bool) : pbvJoins row b = countJoins row b := by
  induction row generalizing b with
  | nil => rfl
  | cons cell cells ih => simp only [pbvJoins, countJoins, ih]

/-- `parse_by_voice_first_spine`: the importer's arithmetic is the semantics for the spine it is cutting out.  When the
    first `pre.length` columns are exactly the columns of spine `m` (what `parse_by_voice` assumes: the spines before it
    have been popped) and the row does not end a column of that spine, then after any accepted row of interpretations
    the columns of `m` are again exactly the leading block, and `voices + splits - joins` (Model/KernPbv.lean `pbvStep`,
    the loop body as written) is its length — any number of splits and joins of any length in the row, whatever the
    other spines do in the same row. -/
theorem parse_by_voice_first_spine (m : Nat) (st : St) (pre post : List (Col × Nat)) (rpre rpost : List (List Char))
    (st' : St) (cols' : List Col)
    (hpre : ∀ x ∈ pre, x.1.main = m) (hpost : ∀ x ∈ post, x.1.main ≠ m) (hl : pre.length = rpre.length)
    (hends : ∀ cell ∈ rpre, cell ≠ "*-".toList)
    (h : interpRow st (pre ++ post) (rpre ++ rpost) [] false = some (st', cols')) :
    ∃ pre' post', cols' = pre' ++ post' ∧ (∀ c ∈ pre', c.main = m) ∧ (∀ c ∈ post', c.main ≠ m) ∧
      pbvStep pre.length (rpre ++ rpost) = some pre'.length := by
  have hmains := kern_columns_after_row st _ _ st' cols' h
  rw [Pbv.mainsOut_block m pre post rpre rpost none hpre hpost hl (Or.inl rfl)] at hmains
  obtain ⟨pre', post', e, hlen, e2, e3⟩ := Pbv.block_of_map Col.main hmains
    (Pbv.mainsOut_all (· = m) pre rpre none hpre) (Pbv.mainsOut_all (· ≠ m) post rpost none hpost)
  refine ⟨pre', post', e, e2, e3, ?_⟩
  · have hw := kern_spine_width m pre rpre false hpre hl
    have he : countEnds rpre = 0 := by
      unfold countEnds
      rw [List.length_eq_zero_iff, List.filter_eq_nil_iff]
      intro cell hc
      simpa using hends cell hc
    have htake : (rpre ++ rpost).take pre.length = rpre := by rw [hl]; simp
    have hnl : ¬ (rpre ++ rpost).length < pre.length := by simp [hl]
    simp only [pbvStep, hnl, if_false, htake, hlen, Option.some.injEq, pbvJoins_eq, pbvSplits]
    rw [kern_paths_mains]
    simp only [Bool.false_eq_true, if_false] at hw
    unfold countSplits at hw
    omega

/-- `parse_by_voice_step`: the same through `Model.Kern.step`, the function the semantics runs on every row of a document:
    if the columns of the state are the columns of spine `m` followed by columns of other spines, an accepted row of
    interpretations (one that ends no column of `m`) leaves the state in the same shape, and the importer's
    `voices + splits - joins` is the new number of columns of `m`. -/
theorem parse_by_voice_step (m : Nat) (st st' : St) (pre post : List Col) (first : List Char) (rest : List (List Char))
    (hcols : st.cols = pre ++ post) (hpre : ∀ c ∈ pre, c.main = m) (hpost : ∀ c ∈ post, c.main ≠ m)
    (hstar : startsWith first "*" = true)
    (hends : ∀ cell ∈ (first :: rest).take pre.length, cell ≠ "*-".toList)
    (h : step st (first :: rest) = some st') :
    ∃ pre' post', st'.cols = pre' ++ post' ∧ (∀ c ∈ pre', c.main = m) ∧ (∀ c ∈ post', c.main ≠ m) ∧
      pbvStep pre.length (first :: rest) = some pre'.length := by
  have hb := Pbv.startsWith_star_not_bang first hstar
  have hlen' := Pbv.step_length hb h
  rw [Pbv.step_eq hb hlen', if_pos hstar] at h
  obtain ⟨⟨st2, cols2⟩, hi, rfl⟩ := Option.map_eq_some_iff.mp h
  -- the columns with their positions, and the row, cut where the columns of `m` end
  obtain ⟨wpre, wpost, hw, hwl, hwp, hwq⟩ := Pbv.block_of_map (P := (·.main = m)) (Q := (·.main ≠ m)) Prod.fst
    (show (withPos st.cols).map Prod.fst = pre ++ post by rw [withPos, Pbv.withPosAux_fst, hcols]) hpre hpost
  have hrl : pre.length ≤ (first :: rest).length := by rw [hlen', hcols]; simp
  rw [hw, ← List.take_append_drop pre.length (first :: rest)] at hi
  obtain ⟨pre', post', e1, e2, e3, e4⟩ := parse_by_voice_first_spine m _ wpre wpost _ _ st2 cols2 hwp hwq
    (by rw [hwl, List.length_take, Nat.min_eq_left hrl]) hends hi
  rw [List.take_append_drop, hwl] at e4
  exact ⟨pre', post', e1, e2, e3, e4⟩

/-- non-vacuity: a spine of three sub-spines next to another spine; `*^ *v *v` leaves three columns of spine 0 -/
example : (interpRow { cols := [], same := false }
      ([(⟨0, true, 0, 1⟩, 0), (⟨0, true, 0, 1⟩, 1), (⟨0, true, 0, 1⟩, 2)] ++ [(⟨1, true, 0, 1⟩, 0)])
      (["*^".toList, "*v".toList, "*v".toList] ++ ["*v".toList]) [] false).map (fun r => r.2.map (·.main)) = some [0, 0, 0, 1] ∧
    pbvStep 3 (["*^".toList, "*v".toList, "*v".toList] ++ ["*v".toList]) = some 3 := by decide +kernel

/-- rows the document theorem speaks about: a row of interpretations ends no column, any other row (data, barlines)
    holds no spine-path cell (the semantics ignores or refuses those, the importer's arithmetic would count them) -/
def CleanRow (row : List (List Char)) : Prop :=
  match row with
  | [] => True
  | first :: _ =>
    if startsWith first "*" = true then ∀ cell ∈ row, cell ≠ "*-".toList
    else ∀ cell ∈ row, cell ≠ "*^".toList ∧ cell ≠ "*v".toList

theorem step_block (m : Nat) (st st1 : St) (pre post : List Col) (first : List Char) (rest : List (List Char))
    (hcols : st.cols = pre ++ post) (hpre : ∀ c ∈ pre, c.main = m) (hpost : ∀ c ∈ post, c.main ≠ m)
    (hbang : startsWith first "!" = false) (hcr : CleanRow (first :: rest)) (hst : step st (first :: rest) = some st1) :
    ∃ pre' post', st1.cols = pre' ++ post' ∧ (∀ c ∈ pre', c.main = m) ∧ (∀ c ∈ post', c.main ≠ m) ∧
      pbvStep pre.length (first :: rest) = some pre'.length := by
  simp only [CleanRow] at hcr
  by_cases hstar : startsWith first "*" = true
  · simp only [hstar, if_true] at hcr
    exact parse_by_voice_step m st st1 pre post first rest hcols hpre hpost hstar
      (fun cell hc => hcr cell (List.mem_of_mem_take hc)) hst
  · -- a row of data or barlines changes no column's spine, and holds no spine-path cell to count
    simp only [hstar, if_false, Bool.false_eq_true] at hcr
    obtain ⟨hm, hl⟩ := Pbv.step_other_mains st st1 first rest hbang (by simpa using hstar) hst
    rw [hcols, List.map_append] at hm
    obtain ⟨pre', post', e, hlen, e2, e3⟩ := Pbv.block_of_map (P := (· = m)) (Q := (· ≠ m)) Col.main hm
      (List.forall_mem_map.mpr hpre) (List.forall_mem_map.mpr hpost)
    have hk : pre.length ≤ (first :: rest).length := by rw [hl, hcols]; simp
    rw [List.length_map] at hlen
    exact ⟨pre', post', e, e2, e3, hlen.symm ▸ Pbv.pbvStep_clean pre.length (first :: rest) hk hcr⟩

theorem parse_by_voice_document (m : Nat) (rows : List (List (List Char))) (st : St) (pre post : List Col)
    (tr : List (List Col))
    (hcols : st.cols = pre ++ post) (hpre : ∀ c ∈ pre, c.main = m) (hpost : ∀ c ∈ post, c.main ≠ m)
    (hclean : ∀ row ∈ rows, CleanRow row)
    (h : colsTrace st rows = some tr) :
    pbvTrace pre.length (pbvFile rows) = some (tr.map fun cols => countMain cols m) := by
  induction rows generalizing st pre post tr with
  | nil =>
    simp only [colsTrace, Option.some.injEq] at h
    subst h
    simp [pbvFile, pbvTrace]
  | cons r rs ih =>
    have hclean' : ∀ row ∈ rs, CleanRow row := fun row hr => hclean row (List.mem_cons_of_mem _ hr)
    simp only [colsTrace] at h
    by_cases hs : isSkippable r = true
    · simp only [hs, if_true] at h
      have : pbvFile (r :: rs) = pbvFile rs := by simp [pbvFile, hs]
      rw [this]
      exact ih st pre post tr hcols hpre hpost hclean' h
    · simp only [hs, if_false, Bool.false_eq_true] at h
      have hfile : pbvFile (r :: rs) = r :: pbvFile rs := by
        simp only [pbvFile, List.filter_cons]
        simp [hs]
      rw [hfile]
      cases hst : step st r with
      | none => simp [hst] at h
      | some st1 =>
        simp only [hst] at h
        cases htr : colsTrace st1 rs with
        | none => simp [htr] at h
        | some tr1 =>
          simp only [htr, Option.map_some, Option.some.injEq] at h
          subst h
          cases r with
          | nil => simp [isSkippable] at hs
          | cons first rest =>
            obtain ⟨pre', post', e1, e2, e3, e4⟩ := step_block m st st1 pre post first rest hcols hpre hpost
              (by simpa [isSkippable] using hs) (hclean (first :: rest) (by simp)) hst
            have := ih st1 pre' post' tr1 e1 e2 e3 hclean' htr
            simp only [pbvTrace, e4, this, Option.map_some, List.map_cons, hcols, Pbv.countMain_block m pre post hpre hpost]

/-- `parse_by_voice_first_call`: the first call of `parse_by_voice` on a document (header `h0 :: hs`, then `rest`): the
    number of cells it takes from every row that is not a comment is the number of columns the semantics gives the
    leftmost spine in front of that row — for every document of clean rows the semantics accepts, whatever is split and
    joined, in this spine or the others. -/
theorem parse_by_voice_first_call (h0 : List Char) (hs : List (List Char)) (rest : List (List (List Char))) (same : Bool)
    (tr : List (List Col)) (hclean : ∀ row ∈ rest, CleanRow row)
    (h : colsTrace { cols := initCols (h0 :: hs) 0, same := same } rest = some tr) :
    pbvTrace 1 (pbvFile rest) = some (tr.map fun cols => countMain cols 0) := by
  have := parse_by_voice_document 0 rest { cols := initCols (h0 :: hs) 0, same := same }
    [{ main := 0, kern := startsWith h0 "**kern" || startsWith h0 "**notes", cursor := 0, staff := 1 }] (initCols hs 1) tr
    (by simp [initCols]) (by simp)
    (by intro c hc; have := Pbv.initCols_mains_ge hs 1 c hc; omega) hclean h
  simpa using this


/-- non-vacuity: two spines, the left one split, a barline, joined again: clean rows, accepted, the trace is 1, 2, 2 -/
example : (∀ row ∈ [["*^".toList, "*".toList], ["=1".toList, "=1".toList, "=1".toList], ["*v".toList, "*v".toList, "*".toList]],
      CleanRow row) ∧
    (colsTrace { cols := initCols ["**kern".toList, "**kern".toList] 0, same := false }
      [["*^".toList, "*".toList], ["=1".toList, "=1".toList, "=1".toList], ["*v".toList, "*v".toList, "*".toList]]).map
        (fun tr => tr.map fun cols => countMain cols 0) = some [1, 2, 2] ∧
    pbvTrace 1 [["*^".toList, "*".toList], ["=1".toList, "=1".toList, "=1".toList], ["*v".toList, "*v".toList, "*".toList]]
      = some [1, 2, 2] := by
  refine ⟨?_, by decide +kernel, by decide +kernel⟩
  intro row hr
  simp only [List.mem_cons, List.not_mem_nil, or_false] at hr
  rcases hr with rfl | rfl | rfl <;> simp only [CleanRow] <;> decide +kernel

end C19
