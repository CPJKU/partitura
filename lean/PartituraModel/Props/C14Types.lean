/-
C14 — the values are what counts: the sounding ends do not depend on the number types of the dictionaries.

Theorems over Model/PedalTypes.lean: `adjust_offsets_w_sustain` with the dtype of its sounding-end array made
explicit.  The code creates that array with `dtype=float`; then the kinds of the numbers (Python int, numpy ints,
floats) are irrelevant and every theorem of Props/C14.lean holds for typed parts.  With the dtype numpy *infers* from
the releases the same function truncates pedal-release times and re-strike onsets as soon as every release is
integer-typed (the `example`s at the end: the property's `pedal_down` clause fails there).
-/
import PartituraModel.Props.C14
import PartituraModel.Model.PedalTypes

namespace C14
open Model Model.Pedal Model.PedalTypes C14P

/-- a float array holds what is stored -/
theorem store_flt (x : Rat) : store .flt x = x := rfl

/-- an integer array holds integers -/
theorem store_int_is_int (x : Rat) : ∃ k : Int, store .int x = (k : Rat) := ⟨truncZ x, rfl⟩

/-- an integer stored into an integer array is kept -/
theorem store_int_of_int (k : Int) : store .int (k : Rat) = (k : Rat) := by
  unfold store truncZ
  by_cases h : (0 : Rat) ≤ (k : Rat)
  · simp [h, Rat.floor_intCast]
  · have hneg : -(k : Rat) = ((-k : Int) : Rat) := by simp
    simp only [h, if_false, hneg, Rat.floor_intCast]
    simp

theorem store_int_of_nonneg (x : Rat) (hx : 0 ≤ x) : store .int x = (x.floor : Rat) := by
  simp only [store, truncZ, hx, if_true]

/-- truncation toward zero never exceeds a non-negative value … -/
theorem store_int_le (x : Rat) (hx : 0 ≤ x) : store .int x ≤ x := by
  rw [store_int_of_nonneg x hx]
  exact Rat.floor_le x

/-- … and never goes below an integer that the value has reached: the truncated sounding end of a note with an
    integer release still passes `_validate_sound_off` (no exception is raised, the note just ends too early) -/
theorem store_int_ge (k : Int) (x : Rat) (hk : 0 ≤ k) (hx : (k : Rat) ≤ x) : (k : Rat) ≤ store .int x := by
  rw [store_int_of_nonneg x (le_trans (by exact_mod_cast hk) hx)]
  exact_mod_cast Rat.le_floor_iff.mpr hx

/-- the dtype numpy infers is integer exactly when every element is integer-typed -/
theorem inferDtype_int_iff (ks : List Kind) : inferDtype ks = .int ↔ ∀ k ∈ ks, k = .int := by
  unfold inferDtype
  by_cases h : ks.all (fun k => decide (k = Kind.int)) = true
  · simp only [h, if_true, true_iff]
    intro k hk
    simpa using List.all_eq_true.mp h k hk
  · simp only [h]
    constructor
    · intro h'; cases h'
    · intro h'
      exact absurd (List.all_eq_true.mpr (fun k hk => by simpa using h' k hk)) h

/-! ### the code: `dtype=float` -/

/-- with a float sounding-end array the typed function IS the function on the values -/
theorem soundOffsD_flt (ns : List Note) (cs : List Control) (thr : Int) :
    soundOffsD .flt ns cs thr = soundOffs ns cs thr := rfl

/-- the code's sounding ends of typed notes and controls are those of their values -/
theorem typed_is_values (tns : List TNote) (tcs : List TControl) (thr : Int) :
    soundOffsTyped tns tcs thr = soundOffs (tns.map (·.note)) (tcs.map (·.ctl)) thr :=
  soundOffsD_flt _ _ _

/-- … also through the constructor (validation looks at values only) -/
theorem buildTyped_is_values (tns : List TNote) (tcs : List TControl) (thr : Int) :
    buildTyped tns tcs thr = (buildPart (tns.map (·.note)) (tcs.map (·.ctl)) thr).map (·.sound) := by
  rw [buildTyped, buildPart_eq, typed_is_values, soundOffs_eq_map]
  split <;> rfl

/-- THE VALUES ARE WHAT COUNTS: two parts whose notes and controls have the same values — one all `int`, the other
    all `float`, or any mixture — get the same sounding ends (and are accepted or rejected alike) -/
theorem kinds_irrelevant (tns tns' : List TNote) (tcs tcs' : List TControl) (thr : Int)
    (hn : tns.map (·.note) = tns'.map (·.note)) (hc : tcs.map (·.ctl) = tcs'.map (·.ctl)) :
    buildTyped tns tcs thr = buildTyped tns' tcs' thr := by
  rw [buildTyped_is_values, buildTyped_is_values, hn, hc]

example : buildTyped [⟨⟨60, 0, 1, 64, 0, 1, none⟩, .int, .int⟩] [⟨⟨64, 1/2, 100, none⟩, .flt⟩, ⟨⟨64, 11/4, 0, none⟩, .flt⟩] 64
    = buildTyped [⟨⟨60, 0, 1, 64, 0, 1, none⟩, .flt, .flt⟩] [⟨⟨64, 1/2, 100, none⟩, .flt⟩, ⟨⟨64, 11/4, 0, none⟩, .flt⟩] 64 :=
  kinds_irrelevant _ _ _ _ _ rfl rfl

/-- sounding end of note `i` of a typed part -/
def typedSoundOffAt (tns : List TNote) (tcs : List TControl) (thr : Int) (i : Nat) : Option Rat :=
  match soundOffsTyped tns tcs thr with
  | some so => so[i]?
  | none => none

theorem typedSoundOffAt_eq (tns : List TNote) (tcs : List TControl) (thr : Int) (i : Nat) :
    typedSoundOffAt tns tcs thr i = soundOffAt (tns.map (·.note)) (tcs.map (·.ctl)) thr i := by
  rw [typedSoundOffAt, typed_is_values]
  rfl

/-- typed parts: never before the release, whatever the kinds -/
theorem typed_ge_release (tns : List TNote) (tcs : List TControl) (thr : Int) (i : Nat) (tn : TNote)
    (hn : tns[i]? = some tn) : ∃ x, typedSoundOffAt tns tcs thr i = some x ∧ tn.note.off ≤ x := by
  rw [typedSoundOffAt_eq]
  exact ge_release _ _ thr i tn.note (by simp [hn])

/-- typed parts: with the pedal down at the release the note ends at the least moment the property names,
    whatever the kinds (in particular for all-`int` releases and a pedal lifted between two whole seconds) -/
theorem typed_pedal_down (tns : List TNote) (tcs : List TControl) (thr : Int) (i : Nat) (tn : TNote)
    (hwf : ∀ m ∈ tns, m.note.on ≤ m.note.off) (hn : tns[i]? = some tn)
    (hdown : downBefore tn.note.off (pedalStream (tcs.map (·.ctl)) thr) = true)
    (hex : ∃ t, Moment (tns.map (·.note)) (tcs.map (·.ctl)) thr i tn.note t) :
    ∃ x, typedSoundOffAt tns tcs thr i = some x ∧ Moment (tns.map (·.note)) (tcs.map (·.ctl)) thr i tn.note x ∧
      ∀ t, Moment (tns.map (·.note)) (tcs.map (·.ctl)) thr i tn.note t → x ≤ t := by
  rw [typedSoundOffAt_eq]
  refine pedal_down _ _ thr i tn.note ?_ (by simp [hn]) hdown hex
  intro m hm
  obtain ⟨tm, htm, rfl⟩ := List.mem_map.mp hm
  exact hwf tm htm

-- whole-second notes typed `int`, the pedal lifted at 2.75 and at 5.5
example : (List.range 3).map (typedSoundOffAt
    [⟨⟨60, 0, 1, 64, 0, 1, none⟩, .int, .int⟩, ⟨⟨64, 1, 2, 64, 0, 1, none⟩, .int, .int⟩, ⟨⟨67, 2, 4, 64, 0, 1, none⟩, .int, .int⟩]
    [⟨⟨64, 1/2, 127, none⟩, .flt⟩, ⟨⟨7, 1, 90, none⟩, .flt⟩, ⟨⟨64, 11/4, 0, none⟩, .flt⟩, ⟨⟨64, 13/4, 100, none⟩, .flt⟩,
     ⟨⟨64, 11/2, 10, none⟩, .flt⟩] 64) = [some (11/4), some (11/4), some (11/2)] := by decide +kernel

/-! ### what the explicit `dtype=float` buys: the inferred dtype -/

/-- one float-typed release anywhere makes the inferred array a float array: the typed function is again the function
    on the values (this is why a single float `note_off` hides the truncation) -/
theorem inferred_ok_of_float_release (tns : List TNote) (tcs : List TControl) (thr : Int)
    (h : ∃ tn ∈ tns, tn.offK = .flt) :
    soundOffsInferred tns tcs thr = soundOffs (tns.map (·.note)) (tcs.map (·.ctl)) thr := by
  obtain ⟨tn, hmem, hk⟩ := h
  have : offsDtypeInferred (tns.map (·.offK)) = .flt := by
    unfold offsDtypeInferred
    cases hd : inferDtype (tns.map (·.offK)) with
    | flt => rfl
    | int =>
      have := (inferDtype_int_iff _).mp hd tn.offK (List.mem_map.mpr ⟨tn, hmem, rfl⟩)
      rw [hk] at this
      cases this
  unfold soundOffsInferred
  rw [this]
  rfl

/-- with every release integer-typed the inferred array is an integer array and truncates what is stored into it.
    The notes of the example above end at 2, 2 and 5 instead of 2.75, 2.75 and 5.5 — no exception
    (`store_int_ge`), the first two while the pedal is still down -/
example : soundOffsInferred
    [⟨⟨60, 0, 1, 64, 0, 1, none⟩, .int, .int⟩, ⟨⟨64, 1, 2, 64, 0, 1, none⟩, .int, .int⟩, ⟨⟨67, 2, 4, 64, 0, 1, none⟩, .int, .int⟩]
    [⟨⟨64, 1/2, 127, none⟩, .flt⟩, ⟨⟨7, 1, 90, none⟩, .flt⟩, ⟨⟨64, 11/4, 0, none⟩, .flt⟩, ⟨⟨64, 13/4, 100, none⟩, .flt⟩,
     ⟨⟨64, 11/2, 10, none⟩, .flt⟩] 64 = some [2, 2, 5] := by decide +kernel

/-- … so for the inferred dtype the `pedal_down` clause of the property is false: the sounding end 2 of the first note
    is not a moment at which the pedal is lifted or the pitch struck again -/
example : ¬ Moment [⟨60, 0, 1, 64, 0, 1, none⟩, ⟨64, 1, 2, 64, 0, 1, none⟩, ⟨67, 2, 4, 64, 0, 1, none⟩]
    [⟨64, 1/2, 127, none⟩, ⟨7, 1, 90, none⟩, ⟨64, 11/4, 0, none⟩, ⟨64, 13/4, 100, none⟩, ⟨64, 11/2, 10, none⟩] 64 0
    ⟨60, 0, 1, 64, 0, 1, none⟩ 2 :=
  fun h => absurd ((mem_moments _ _ _ _ _ _).mpr h) (by decide +kernel)

-- a re-strike between two whole seconds is truncated in the same way (release 1, the same pitch struck at 5/2)
example : soundOffsInferred [⟨⟨60, 0, 1, 64, 0, 1, none⟩, .int, .int⟩, ⟨⟨60, 5/2, 3, 64, 0, 1, none⟩, .flt, .int⟩]
    [⟨⟨64, 0, 127, none⟩, .int⟩, ⟨⟨64, 9, 0, none⟩, .int⟩] 64 = some [2, 9] := by decide +kernel
example : soundOffsTyped [⟨⟨60, 0, 1, 64, 0, 1, none⟩, .int, .int⟩, ⟨⟨60, 5/2, 3, 64, 0, 1, none⟩, .flt, .int⟩]
    [⟨⟨64, 0, 127, none⟩, .int⟩, ⟨⟨64, 9, 0, none⟩, .int⟩] 64 = some [5/2, 9] := by decide +kernel

end C14
