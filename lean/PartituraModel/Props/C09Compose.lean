/-
C09 — compositions through the public entry points.

Props/C09Ext proves, for the bracket family and the three navigation families over symbolic times, which path
`get_paths` returns on the table `add_segments` builds; Props/C09Entry proves what the entry points do with the paths.
Here the two are composed, so that the statements read like the property: "the maximal unfolding (the part
`unfold_part_maximal` RETURNS) plays each repeated section the notated number of times with the matching ending, the minimal
one plays each section once with the last ending" — for one repeat with k brackets carrying any assignment of the numbers
1..N, and for D.C. al Fine, D.C. al Coda, D.S. al Coda.  No entry point fails on these parts.
-/
import PartituraModel.Props.C09Entry

namespace C09
open Model.Unfold

/-- Whenever the all-repeats enumeration on the table of `add_segments` is the single path `path`, the call
`unfold_part_maximal(part, update_ids, ignore_leaps)` RETURNS (no exception) the part made along exactly that path, with the
ids suffixed on request. -/
theorem unfold_part_maximal_of_path (L : Layout) (p : APart) (upd il : Option Bool) (fuel : Nat) (path : List Nat)
    (rest : List (List Nat))
    (h : ((mkSegments L).bind fun g => getPaths g false true (il.getD true) fuel) = some (path :: rest)) :
    ∃ g v, mkSegments L = some g ∧ unfoldPartMaximal L p upd il fuel = some v ∧
      newPartFromPath g p path (some (upd.getD Gen.C09.MAX_DEF.1)) = some v :=
  first_path_unfolds Gen.C09.maximalCall L p (upd.getD Gen.C09.MAX_DEF.1) (il.getD Gen.C09.MAX_DEF.2) fuel path rest h

/-- … and `unfold_part_minimal(part)` returns the part made along the first path of the no-repeats enumeration, ids untouched. -/
theorem unfold_part_minimal_of_path (L : Layout) (p : APart) (fuel : Nat) (path : List Nat) (rest : List (List Nat))
    (h : ((mkSegments L).bind fun g => getPaths g true false true fuel) = some (path :: rest)) :
    ∃ g v, mkSegments L = some g ∧ unfoldPartMinimal L p fuel = some v ∧
      newPartFromPath g p path (some false) = some v :=
  first_path_unfolds Gen.C09.minimalCall L p false false fuel path rest h

/-- … and `list(iter_unfolded_parts(part, update_ids))` has one part per enumerated path, in the order of the paths, each made
along its path. -/
theorem iter_unfolded_parts_of_paths (L : Layout) (p : APart) (upd : Option Bool) (fuel : Nat) (ps : List (List Nat))
    (h : ((mkSegments L).bind fun g => getPaths g false false true fuel) = some ps) :
    ∃ g us, mkSegments L = some g ∧ iterUnfoldedParts L p upd fuel = some us ∧ us.length = ps.length ∧
      ps.mapM (fun path => newPartFromPath g p path (some (upd.getD Gen.C09.ITER_DEF))) = some us := by
  rw [iter_unfolded_parts_is]
  cases hg : mkSegments L with
  | none => simp [hg] at h
  | some g =>
    simp only [hg, Option.bind_some] at h ⊢
    rw [h]
    simp only [Option.bind_some]
    obtain ⟨us, hus⟩ := Lists.mapM_exists (fun path => newPartFromPath g p path (some (upd.getD Gen.C09.ITER_DEF))) ps
      (fun path hp => by
        obtain ⟨_, v, _, hv⟩ := unfolding_never_misses_a_segment g false false true fuel _ h path hp p (some (upd.getD Gen.C09.ITER_DEF))
        exact ⟨v, hv⟩)
    exact ⟨g, us, rfl, hus, Lists.mapM_length hus, hus⟩

/-- … both at once: the maximal and the minimal call on one part, over the same segment table. -/
theorem unfold_max_min_of_paths (L : Layout) (p : APart) (upd il : Option Bool) (fuel : Nat) (pmax pmin : List Nat)
    (r1 r2 : List (List Nat))
    (h1 : ((mkSegments L).bind fun g => getPaths g false true (il.getD true) fuel) = some (pmax :: r1))
    (h2 : ((mkSegments L).bind fun g => getPaths g true false true fuel) = some (pmin :: r2)) :
    ∃ g vmax vmin, mkSegments L = some g ∧ unfoldPartMaximal L p upd il fuel = some vmax ∧
      newPartFromPath g p pmax (some (upd.getD Gen.C09.MAX_DEF.1)) = some vmax ∧
      unfoldPartMinimal L p fuel = some vmin ∧ newPartFromPath g p pmin (some false) = some vmin := by
  obtain ⟨g, vmax, hg, hm1, hm2⟩ := unfold_part_maximal_of_path L p upd il fuel pmax r1 h1
  obtain ⟨g', vmin, hg', hn1, hn2⟩ := unfold_part_minimal_of_path L p fuel pmin r2 h2
  rw [hg] at hg'
  cases hg'
  exact ⟨g, vmax, vmin, hg, hm1, hm2, hn1, hn2⟩

/-- `list(iter_unfolded_parts(part))` of a part with r pairwise disjoint simple repeats (symbolic boundary times, as in
`simple_repeats_layout`) has exactly 2^r elements: every enumerated path unfolds. -/
theorem iter_unfolded_parts_count (t0 : Int) (rest : List Int) (flags : List Bool)
    (hs : StrictSorted (t0 :: rest)) (hlen : rest.length = flags.length) (hne : flags ≠ [])
    (hadj : NoAdjFalse flags) (p : APart) (upd : Option Bool) (fuel : Nat) (hf : 2 * flags.length + 1 ≤ fuel) :
    ∃ us, iterUnfoldedParts (chainLayout t0 rest flags) p upd fuel = some us ∧ us.length = 2 ^ (flags.count true) := by
  obtain ⟨h1, h2, _, _⟩ := simple_repeats_unfold t0 rest flags hs hlen hne hadj true fuel hf
  obtain ⟨_, us, _, hus, hl, _⟩ := iter_unfolded_parts_of_paths _ p upd fuel _ h1
  exact ⟨us, hus, by rw [hl, h2]⟩

/-- … its maximal unfolding is the part made along "every repeated section twice", its minimal one along "every
section once" (and neither fails). -/
theorem unfold_part_maximal_simple_repeats (t0 : Int) (rest : List Int) (flags : List Bool)
    (hs : StrictSorted (t0 :: rest)) (hlen : rest.length = flags.length) (hne : flags ≠ [])
    (hadj : NoAdjFalse flags) (p : APart) (upd il : Option Bool) (fuel : Nat) (hf : 2 * flags.length + 1 ≤ fuel) :
    ∃ g vmax vmin, mkSegments (chainLayout t0 rest flags) = some g ∧
      unfoldPartMaximal (chainLayout t0 rest flags) p upd il fuel = some vmax ∧
      newPartFromPath g p (maxPath 0 flags) (some (upd.getD Gen.C09.MAX_DEF.1)) = some vmax ∧
      unfoldPartMinimal (chainLayout t0 rest flags) p fuel = some vmin ∧
      newPartFromPath g p (minPath 0 flags) (some false) = some vmin :=
  unfold_max_min_of_paths _ p upd il fuel _ _ [] []
    (simple_repeats_unfold t0 rest flags hs hlen hne hadj (il.getD true) fuel hf).2.2.1
    (simple_repeats_unfold t0 rest flags hs hlen hne hadj true fuel hf).2.2.2

-- non-vacuity: |: A :| B — two variants; the maximal one plays A twice and suffixes the ids on request
example :
    let L := chainLayout 0 [4, 8] [true, false]
    let p : APart := { points := [0, 4, 8], qd := [(0, 1)], objs :=
      [{ kind := .note, start := 0, stp := some 4, payload := [60, 1, 1], nid := some "m1-1", refs := [] },
       { kind := .note, start := 4, stp := some 8, payload := [62, 1, 1], nid := some "m2-1", refs := [] }] }
    ((iterUnfoldedParts L p none 9).map (·.length)) = some 2 ∧
    ((unfoldPartMaximal L p (some true) none 9).map fun v => v.objs.map (·.nid)) =
      some [some "m1-1-1", some "m1-1-2", some "m2-1-1"] ∧
    ((unfoldPartMinimal L p 9).map fun v => v.objs.map (·.nid)) = some [some "m1-1", some "m2-1"] := by decide +kernel

/-- The maximal unfolding of a part with one repeat and k brackets carrying any assignment of the numbers 1..N (symbolic
boundary times, hypotheses of `voltas_numbers_layout`): `unfold_part_maximal` RETURNS the part made along "section, bracket of
number 1, section, bracket of number 2, …, section, bracket of number N" — each pass with the matching ending —, and
`unfold_part_minimal` the part made along "section, last bracket": once, with the last ending. -/
theorem unfold_part_maximal_voltas (pre post : Bool) (k : Nat) (asg : List Nat) (ts : List Int)
    (hs : StrictSorted ts) (hlen : ts.length = vLen pre k post + 1) (hk : 1 ≤ k) (hk10 : k ≤ 10)
    (hasg : ∀ x ∈ asg, x < k) (hN9 : asg.length ≤ 9) (hlast : asg.getLast? = some (k - 1))
    (hsurj : ∀ j, j < k → j ∈ asg) (ha : 0 ≤ ts.getD (vBody pre) 0) (p : APart) (upd il : Option Bool) (fuel : Nat)
    (hf : 2 * asg.length + 4 ≤ fuel) :
    ∃ g vmax vmin, mkSegments (mvLayout pre k post asg ts) = some g ∧
      unfoldPartMaximal (mvLayout pre k post asg ts) p upd il fuel = some vmax ∧
      newPartFromPath g p (mvMaxPath pre k post asg) (some (upd.getD Gen.C09.MAX_DEF.1)) = some vmax ∧
      unfoldPartMinimal (mvLayout pre k post asg ts) p fuel = some vmin ∧
      newPartFromPath g p (mvMinPath pre k post (k - 1)) (some false) = some vmin :=
  unfold_max_min_of_paths _ p upd il fuel _ _ [] []
    (voltas_numbers_unfold pre post k asg ts hs hlen hk hk10 hasg hN9 hlast hsurj ha (il.getD true) fuel hf).1
    (voltas_numbers_unfold pre post k asg ts hs hlen hk hk10 hasg hN9 hlast hsurj ha true fuel hf).2

-- non-vacuity: lead-in [0,4), section [4,12), brackets [12,16) "1,3" and [16,20) "2,4", rest [20,24); one note in the section
example :
    let L := mvLayout true 2 true [0, 1, 0, 1] [0, 4, 12, 16, 20, 24]
    let p : APart := { points := [0, 4, 12, 16, 20, 24], qd := [(0, 1)], objs :=
      [{ kind := .note, start := 4, stp := some 12, payload := [60, 1, 1], nid := some "n", refs := [] }] }
    ((unfoldPartMaximal L p (some true) none 12).map fun v => v.objs.map fun c => (c.start, c.nid)) =
      some [(4, some "n-1"), (16, some "n-2"), (28, some "n-3"), (40, some "n-4")] ∧
    ((unfoldPartMinimal L p 12).map fun v => v.objs.map fun c => (c.start, c.nid)) = some [(4, some "n")] := by decide +kernel

/-- D.C. al Fine (Fine at `f`, Da Capo at the end `e`, any `0 < f < e`): `unfold_part_maximal` returns the part made along
"everything, then from the start to the Fine", `unfold_part_minimal` the part played once; whatever `ignore_leaps`. -/
theorem unfold_part_dacapo_al_fine (f e : Int) (h0 : 0 < f) (hfe : f < e) (p : APart) (upd il : Option Bool) :
    ∃ g vmax vmin, mkSegments (dcFineLayout f e) = some g ∧
      unfoldPartMaximal (dcFineLayout f e) p upd il 8 = some vmax ∧
      newPartFromPath g p [0, 1, 0] (some (upd.getD Gen.C09.MAX_DEF.1)) = some vmax ∧
      unfoldPartMinimal (dcFineLayout f e) p 8 = some vmin ∧ newPartFromPath g p [0, 1] (some false) = some vmin :=
  unfold_max_min_of_paths _ p upd il 8 _ _ [] [] (dacapo_al_fine f e h0 hfe (il.getD true)).1 (dacapo_al_fine f e h0 hfe true).2

/-- D.C. al Coda (To Coda at `a`, Da Capo and Coda at `b`, any `0 < a < b < e`): the maximal unfolding is made along
A-B-A-C, the minimal one along A-B-C, and `iter_unfolded_parts` yields exactly these two parts, in this order. -/
theorem unfold_part_dacapo_al_coda (a b e : Int) (h0 : 0 < a) (hab : a < b) (hbe : b < e) (p : APart) (upd il : Option Bool) :
    ∃ g vmax vmin us, mkSegments (dcCodaLayout a b e) = some g ∧
      unfoldPartMaximal (dcCodaLayout a b e) p upd il 8 = some vmax ∧
      newPartFromPath g p [0, 1, 0, 2] (some (upd.getD Gen.C09.MAX_DEF.1)) = some vmax ∧
      unfoldPartMinimal (dcCodaLayout a b e) p 8 = some vmin ∧ newPartFromPath g p [0, 1, 2] (some false) = some vmin ∧
      iterUnfoldedParts (dcCodaLayout a b e) p upd 8 = some us ∧ us.length = 2 := by
  obtain ⟨g, vmax, vmin, hg, hm1, hm2, hn1, hn2⟩ := unfold_max_min_of_paths _ p upd il 8 _ _ [] []
    (dacapo_al_coda a b e h0 hab hbe (il.getD true)).1 (dacapo_al_coda a b e h0 hab hbe true).2.1
  obtain ⟨_, us, _, hi1, hi2, _⟩ := iter_unfolded_parts_of_paths _ p upd 8 _ (dacapo_al_coda a b e h0 hab hbe true).2.2
  exact ⟨g, vmax, vmin, us, hg, hm1, hm2, hn1, hn2, hi1, hi2⟩

/-- D.S. al Coda (Segno at `s`, To Coda at `a`, Dal Segno and Coda at `b`, any `0 < s < a < b < e`): maximal along
A-B-C-B-D ("up to the Dal Segno, from the sign to To Coda, coda"), minimal straight through. -/
theorem unfold_part_dalsegno_al_coda (s a b e : Int) (h0 : 0 < s) (hsa : s < a) (hab : a < b) (hbe : b < e) (p : APart)
    (upd il : Option Bool) :
    ∃ g vmax vmin, mkSegments (dsCodaLayout s a b e) = some g ∧
      unfoldPartMaximal (dsCodaLayout s a b e) p upd il 10 = some vmax ∧
      newPartFromPath g p [0, 1, 2, 1, 3] (some (upd.getD Gen.C09.MAX_DEF.1)) = some vmax ∧
      unfoldPartMinimal (dsCodaLayout s a b e) p 10 = some vmin ∧
      newPartFromPath g p [0, 1, 2, 3] (some false) = some vmin :=
  unfold_max_min_of_paths _ p upd il 10 _ _ [] [] (dalsegno_al_coda s a b e h0 hsa hab hbe (il.getD true)).1
    (dalsegno_al_coda s a b e h0 hsa hab hbe true).2

-- non-vacuity: D.S. al Coda with one note per segment: the segno section is played twice, the coda once
example :
    let p : APart := { points := [0, 4, 12, 16, 24], qd := [(0, 1)], objs :=
      [{ kind := .note, start := 0, stp := some 4, payload := [60, 1, 1], nid := some "a", refs := [] },
       { kind := .note, start := 4, stp := some 12, payload := [62, 1, 1], nid := some "b", refs := [] },
       { kind := .note, start := 12, stp := some 16, payload := [64, 1, 1], nid := some "c", refs := [] },
       { kind := .note, start := 16, stp := some 24, payload := [65, 1, 1], nid := some "d", refs := [] }] }
    ((unfoldPartMaximal (dsCodaLayout 4 12 16 24) p (some true) none 10).map fun v => v.objs.map fun c => (c.start, c.nid)) =
      some [(0, some "a-1"), (4, some "b-1"), (12, some "c-1"), (16, some "b-2"), (24, some "d-1")] := by decide +kernel

end C09
