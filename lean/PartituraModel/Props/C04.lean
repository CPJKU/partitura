/-
C04 — score -> MIDI -> score preserves every note's timing and pitch exactly.

Property theorems about the executable models `Model.Ticks`, `Model.MidiPair`, `Model.MidiModes`
(the models are tied to partitura/io/exportmidi.py and importmidi.py by harness/props/c04.py).
Helper lemmas live in Proofs/C04*.lean, under these namespaces: `C04T` Ticks, `C04S` Sort, `C04P` Pair, `C04G` Group (grouping;
its dict updates are `C04D`, continued in Meta), `C04M` Modes, `C04IS` SortedSet and ImportSigs, `C04E` Export and Written,
`C04I` / `C04C` Import (any file / with cells), `C04Tot` Total, `C04Ed` Edit, `C04Ties` Ties.
-/
import PartituraModel.Proofs.C04Ticks
import PartituraModel.Proofs.C04Pair
import PartituraModel.Proofs.C04Modes
import PartituraModel.Proofs.C04SortedSet

namespace C04
open Model Model.Ticks Model.MidiPair Model.MidiModes

/-- `ppq` is the least common multiple of all quarter durations times the smallest power of two
    that reaches the requested minimum; every quarter duration divides it. -/
theorem ppq_minimal (qds : List Nat) (minimum : Nat) (hpos : ∀ d ∈ qds, 0 < d) :
    natLcm qds ∣ ppq qds minimum ∧ minimum ≤ ppq qds minimum ∧
    (∀ d ∈ qds, d ∣ ppq qds minimum) ∧
    (∀ m, (∀ d ∈ qds, d ∣ m) → natLcm qds ∣ m) ∧
    ∃ k, ppq qds minimum = natLcm qds * 2 ^ k ∧ ∀ j, j < k → natLcm qds * 2 ^ j < minimum := by
  obtain ⟨k, h1, h2, h3⟩ := C04T.doubleUntil_spec (natLcm qds) minimum (Model.natLcm_pos hpos)
  have hd : natLcm qds ∣ ppq qds minimum := by unfold ppq; rw [h1]; exact Nat.dvd_mul_right _ _
  exact ⟨hd, h2, fun d hdm => Nat.dvd_trans (Model.dvd_natLcm hdm) hd,
    fun m hm => Model.natLcm_dvd hm, k, h1, h3⟩

example : ppq [3, 6, 24, 5] 96 = 120 ∧ ppq [3, 6, 24, 5] 480 = 480 ∧ ppq [7, 12] 0 = 84 := by
  refine ⟨?_, ?_, ?_⟩ <;> (unfold ppq; simp [natLcm, Nat.lcm, doubleUntil])

/-- With `shift` or `time_sig_change`, when every quarter duration of every part divides the ticks
    per quarter (in particular for `ppq = lcm * 2^k`), every timeline position of every part has an
    integer exact tick image, and the written tick (`int(np.round(.))`, fix C04-1) is that image. -/
theorem ticks_integral (P : Nat) (a : Anacrusis) (parts : List TimeBase) (o : Rat)
    (hdiv : ∀ b ∈ parts, ∀ d ∈ divisions b, d ∣ P) (ha : a ≠ .padBar) (ho : origin a parts = some o)
    (b : TimeBase) (hb : b ∈ parts) (t : Nat) :
    (toTick P b o t).den = 1 ∧ ((tick P b o t : Int) : Rat) = toTick P b o t :=
  C04T.tick_exact ((C04T.toTick_isInt_iff P b o t (C04T.quarter_isInt P b (hdiv b hb) t)).mpr
    (C04T.origin_isInt P a parts o hdiv ha ho))

/-- the instance the exporter uses: `P = ppq (all quarter durations) minimum` -/
theorem ticks_integral_ppq (minimum : Nat) (a : Anacrusis) (parts : List TimeBase) (o : Rat)
    (hpos : ∀ b ∈ parts, ∀ d ∈ divisions b, 0 < d) (ha : a ≠ .padBar) (ho : origin a parts = some o)
    (b : TimeBase) (hb : b ∈ parts) (t : Nat) :
    (toTick (ppq (parts.flatMap divisions) minimum) b o t).den = 1 := by
  have hp : ∀ d ∈ parts.flatMap divisions, 0 < d := by
    intro d hd
    obtain ⟨b', hb', hd'⟩ := List.mem_flatMap.mp hd
    exact hpos b' hb' d hd'
  have := (ppq_minimal (parts.flatMap divisions) minimum hp).2.2.1
  exact (ticks_integral _ a parts o (fun b' hb' d hd => this d (List.mem_flatMap.mpr ⟨b', hb', hd⟩)) ha ho b hb t).1

/-- `pad_bar`: the origin is minus one bar of the first time signature, which is a whole number of
    ticks only if `beat_type ∣ 4 * beats * ppq`.  PARTIAL: this extra hypothesis is not implied by
    `ppq = lcm * 2^k` (counter-example below: 3/8 with one division per quarter). It holds whenever a
    full bar of that signature is representable in some division of the score. -/
theorem ticks_integral_pad_partial (P : Nat) (parts : List TimeBase) (o : Rat)
    (hdiv : ∀ b ∈ parts, ∀ d ∈ divisions b, d ∣ P) (ho : origin .padBar parts = some o)
    (hbar : ∀ b ∈ parts, ∀ beats bt, tsAt b 0 = some (beats, bt) → bt ∣ 4 * beats * P)
    (b : TimeBase) (hb : b ∈ parts) (t : Nat) :
    (toTick P b o t).den = 1 ∧ ((tick P b o t : Int) : Rat) = toTick P b o t :=
  C04T.tick_exact ((C04T.toTick_isInt_iff P b o t (C04T.quarter_isInt P b (hdiv b hb) t)).mpr
    (C04T.origin_pad_isInt P parts o ho hbar))

/-- a bar that fits the grid of some division of the score is a whole number of ticks -/
theorem pad_bar_on_grid (P d beats bt : Nat) (hd : d ∣ P) (hgrid : bt ∣ 4 * beats * d) : bt ∣ 4 * beats * P := by
  obtain ⟨c, rfl⟩ := hd
  obtain ⟨e, he⟩ := hgrid
  exact ⟨e * c, by rw [← Nat.mul_assoc, he, Nat.mul_assoc]⟩

/-- a part in 3/8 with one division per quarter and a one-quarter pickup measure -/
def padWitness : TimeBase := ⟨1, [], 0, 4, some (0, 1), [(0, 3, 8)]⟩

/-- the counter-example to `ticks_integral` for `pad_bar`: ppq = lcm = 1, origin -3/2, and the tick
    image of time 0 is 1/2 -/
example : ppq (divisions padWitness) 0 = 1 ∧ origin .padBar [padWitness] = some (-3/2) ∧
    (toTick 1 padWitness (-3/2) 0).den = 2 := by
  refine ⟨by unfold ppq; simp [divisions, padWitness, natLcm, Nat.lcm, doubleUntil], by decide +kernel, by decide +kernel⟩

/-- non-vacuity: a part with divisions 3 then 7, a pickup, and a second part; origin -2/3 -/
example : origin .shift [⟨3, [(11, 7)], 0, 39, some (0, 2), [(0, 3, 4)]⟩, ⟨1, [], 0, 4, none, [(0, 3, 4)]⟩]
    = some (-2/3) := by decide +kernel

/-- the tick image is the ticks per quarter times the quarter distance -/
theorem ticks_diff (P : Nat) (b : TimeBase) (o : Rat) (x y : Nat) :
    toTick P b o y - toTick P b o x = (P : Rat) * (quarter b y - quarter b x) := by
  unfold toTick; ring

/-- the tick image is monotone in the timeline position, strictly when there is at least one tick
    per quarter -/
theorem ticks_mono (P : Nat) (b : TimeBase) (o : Rat) (hw : C04T.WellFormed b) (x y : Nat) :
    (x ≤ y → toTick P b o x ≤ toTick P b o y) ∧ (0 < P → x < y → toTick P b o x < toTick P b o y) := by
  refine ⟨C04T.toTick_mono P b o hw x y, fun hP hxy => ?_⟩
  exact mul_lt_mul_of_pos_left (sub_lt_sub_right (C04T.quarter_strictMono b hw x y hxy) _) (by exact_mod_cast hP)

example : C04T.WellFormed ⟨3, [(11, 7), (25, 12)], 0, 39, some (0, 2), [(0, 3, 4)]⟩ := by
  refine ⟨by decide, by decide, ?_⟩
  simp [C04T.Asc, qRates]

/-- reading the delta times back gives the absolute ticks that were written, for every event list -/
theorem delta_roundtrip {α : Type} (prev : Int) (evs : List (Int × α)) :
    absoluteFrom prev (deltasFrom prev evs) = evs ∧ deltasFrom prev (absoluteFrom prev evs) = evs :=
  ⟨C04S.absolute_deltas prev evs, C04S.deltas_absolute prev evs⟩

/-- the written track read back is the sorted content: ascending ticks, the same events, and within
    a tick the tempo first, then time/key signatures, note offs, zero-duration notes, note ons,
    each kind in insertion order; the delta times are non-negative when no tick is negative -/
theorem track_order (e : TrackEvents) :
    absoluteFrom 0 (writeTrack e) = trackOrder e ∧
    (trackOrder e).Pairwise (fun a b => a.1 ≤ b.1) ∧
    (trackOrder e).Perm (e.tempos ++ e.metas ++ e.offs ++ e.zeros ++ e.ons) ∧
    (∀ t, (trackOrder e).filter (fun x => x.1 = t) =
      e.tempos.filter (fun x => x.1 = t) ++ e.metas.filter (fun x => x.1 = t) ++ e.offs.filter (fun x => x.1 = t) ++
      e.zeros.filter (fun x => x.1 = t) ++ e.ons.filter (fun x => x.1 = t)) ∧
    ((∀ x ∈ trackOrder e, 0 ≤ x.1) → ∀ x ∈ writeTrack e, 0 ≤ x.1) := by
  refine ⟨C04S.absolute_deltas 0 _, C04S.sortEv_sorted _, C04S.isSort.perm _, ?_, ?_⟩
  · intro t
    unfold trackOrder
    rw [C04S.sortEv_stable]
    simp [List.filter_append]
  · intro h
    exact C04S.deltas_nonneg 0 _ (C04S.sortEv_sorted _) h

/-- If no two notes of equal channel and pitch overlap (touching notes and zero-duration notes on a
    boundary allowed), the reader's pairing automaton run over the written note stream returns
    exactly the notes: as a multiset, and concretely in the order of their note offs. -/
theorem pairing_sound (notes : List NoteRec) (hno : C04P.NoOverlap notes) (hv : ∀ n ∈ notes, C04P.Valid n) :
    (pairAbs (encode notes)).Perm notes ∧
    pairTrack (deltasFrom 0 (encode notes)) = pairAbs (encode notes) :=
  ⟨C04P.pairAbs_encode notes hno hv, by unfold pairTrack; rw [C04S.absolute_deltas]⟩

/-- The same for a whole written track (`Model.ScoreMidi.trackEvents`): with the tempo and time/key
    signature events of the track sorted in, reading the delta-time messages of the track back returns
    exactly the notes of the track. -/
theorem track_pairing_sound (tempos metas : List (Int × Msg)) (notes : List NoteRec)
    (ht : ∀ x ∈ tempos, C04P.isNoteMsg x = false) (hm : ∀ x ∈ metas, C04P.isNoteMsg x = false)
    (hno : C04P.NoOverlap notes) (hv : ∀ n ∈ notes, C04P.Valid n) :
    (pairTrack (writeTrack (Model.ScoreMidi.trackEvents tempos metas notes))).Perm notes :=
  C04P.pairTrack_writeTrack tempos metas notes ht hm hno hv

/-- non-vacuity: touching notes of one pitch, a grace note on the boundary with that pitch, a chord -/
example : C04P.NoOverlap [⟨0, 4, 1, 60, 64⟩, ⟨4, 8, 1, 60, 64⟩, ⟨4, 4, 1, 60, 64⟩, ⟨0, 8, 1, 64, 64⟩, ⟨2, 6, 2, 60, 64⟩] := by
  unfold C04P.NoOverlap
  decide

/-- the hypothesis cannot be dropped: two overlapping notes of one pitch are not recovered -/
example : ¬ (pairAbs (encode [⟨0, 8, 1, 60, 64⟩, ⟨4, 6, 1, 60, 64⟩])).Perm [⟨0, 8, 1, 60, 64⟩, ⟨4, 6, 1, 60, 64⟩] := by
  decide +kernel

/-- before fix C04-5 the events of a tick were written in dictionary order: with the on of the second
    note before the off of the first, touching notes are not recovered -/
example : pairAbs [(0, .noteOn 1 60 64), (4, .noteOn 1 60 64), (4, .noteOff 1 60 64), (8, .noteOff 1 60 64)]
    = [⟨4, 4, 1, 60, 64⟩] := by decide +kernel

/-- what exporting with mode `m` and importing with the same mode retains of the grouping of the
    notes into (part, voice): mode 0 and 5 part and voice, modes 1 and 3 the part, modes 2 and 4 nothing
    (export mode 2 puts the parts on channels of one track, import mode 2 reads voices from tracks) -/
def Retained (mode : Nat) (a b : Key) : Prop :=
  match mode with
  | 0 => kPart a = kPart b ∧ kVoice a = kVoice b
  | 1 => kPart a = kPart b
  | 2 => True
  | 3 => kPart a = kPart b
  | 4 => True
  | _ => kPart a = kPart b ∧ kVoice a = kVoice b

/-- `map_to_track_channel`: which note keys share a track and which share a (track, channel), for each
    of the six modes and every key list -/
theorem mode_export (mode : Nat) (hm : mode ≤ 5) (keys : List Key) (tcs : List (Nat × Nat))
    (h : mapToTrackChannel mode keys = some tcs) :
    tcs.length = keys.length ∧
    ∀ a ∈ keys.zip tcs, ∀ b ∈ keys.zip tcs,
      (a.2.1 = b.2.1 ↔ C04M.SameTrack mode a.1 b.1) ∧ (a.2 = b.2 ↔ C04M.SameTC mode a.1 b.1) := by
  exact ⟨C04M.mapToTrackChannel_length mode keys tcs h, C04M.export_modes mode hm keys tcs h⟩

/-- an unsupported mode is rejected as soon as there is a note -/
theorem mode_export_rejects (mode : Nat) (hm : 5 < mode) (k : Key) (keys : List Key) :
    mapToTrackChannel mode (k :: keys) = none := by
  match mode, hm with
  | n + 6, _ => simp [mapToTrackChannel]

/-- `assign_group_part_voice`: which (track, channel) pairs come back in the same (part, voice) cell, and
    for mode 1 in the same part group -/
theorem mode_import (mode : Nat) (hm : mode ≤ 5) (trch : List (Nat × Nat)) :
    (assignGroupPartVoice mode trch).length = trch.length ∧
    ∀ a ∈ trch.zip (assignGroupPartVoice mode trch), ∀ b ∈ trch.zip (assignGroupPartVoice mode trch),
      ((a.2.2.1 = b.2.2.1 ∧ a.2.2.2 = b.2.2.2) ↔ C04M.SameCellIn mode a.1 b.1) ∧
      (mode = 1 → (a.2.1 = b.2.1 ↔ a.1.1 = b.1.1)) :=
  ⟨C04M.assign_length mode trch, C04M.import_modes mode hm trch⟩

/-- the tables side by side, for two keys `a`, `b` written to the pairs `ta`, `tb`: import modes 0, 1, 5 give one cell per
    (track, channel) pair and read off what the exporter put on a pair (`e2`); modes 2 and 3 give one cell per track and
    read off what it put on a track (`e1`); mode 4 has one cell -/
theorem retained_of_modes (mode : Nat) (hm : mode ≤ 5) {a b : Key} {ta tb : Nat × Nat}
    (hg : kPart a = kPart b → kGroup a = kGroup b)
    (e1 : ta.1 = tb.1 ↔ C04M.SameTrack mode a b) (e2 : ta = tb ↔ C04M.SameTC mode a b) :
    (C04M.SameCellIn mode ta tb ↔ Retained mode a b) ∧ (mode = 1 → (ta.1 = tb.1 ↔ kGroup a = kGroup b)) := by
  match mode, hm with
  | 0, _ => exact ⟨e2, fun h => absurd h (by decide)⟩
  | 1, _ => exact ⟨e2.trans ⟨And.right, fun h => ⟨hg h, h⟩⟩, fun _ => e1⟩
  | 2, _ => exact ⟨e1, fun h => absurd h (by decide)⟩
  | 3, _ => exact ⟨e1, fun h => absurd h (by decide)⟩
  | 4, _ => exact ⟨Iff.rfl, fun h => absurd h (by decide)⟩
  | 5, _ => exact ⟨e2, fun h => absurd h (by decide)⟩

/-- Recovery: export with mode `m`, import the (track, channel) pairs that occur (sorted, as the
    importer does) with the same mode.  Two note keys come back in the same (part, voice) cell exactly when
    `Retained m` relates them; with mode 1 they come back in the same part group exactly when they were in
    the same group.  `hg`: a part belongs to one group. -/
theorem mode_recovery (mode : Nat) (hm : mode ≤ 5) (keys : List Key) (tcs : List (Nat × Nat))
    (hg : ∀ a ∈ keys, ∀ b ∈ keys, kPart a = kPart b → kGroup a = kGroup b)
    (h : mapToTrackChannel mode keys = some tcs) :
    (∀ a ∈ keys.zip tcs, ∃ c, (a.2, c) ∈ (sortedTC tcs).zip (assignGroupPartVoice mode (sortedTC tcs))) ∧
    ∀ a ∈ keys.zip tcs, ∀ b ∈ keys.zip tcs,
      ∀ ca, (a.2, ca) ∈ (sortedTC tcs).zip (assignGroupPartVoice mode (sortedTC tcs)) →
      ∀ cb, (b.2, cb) ∈ (sortedTC tcs).zip (assignGroupPartVoice mode (sortedTC tcs)) →
        ((ca.2.1 = cb.2.1 ∧ ca.2.2 = cb.2.2) ↔ Retained mode a.1 b.1) ∧
        (mode = 1 → (ca.1 = cb.1 ↔ kGroup a.1 = kGroup b.1)) := by
  constructor
  · intro a ha
    exact C04M.assign_total mode (sortedTC tcs) a.2 ((C04IS.mem_sortedTC _ _).mpr (List.of_mem_zip ha).2)
  · intro a ha b hb ca hca cb hcb
    obtain ⟨e1, e2⟩ := C04M.export_modes mode hm keys tcs h a ha b hb
    obtain ⟨i1, i2⟩ := C04M.import_modes mode hm (sortedTC tcs) (a.2, ca) hca (b.2, cb) hcb
    obtain ⟨r1, r2⟩ := retained_of_modes mode hm (hg a.1 (List.of_mem_zip ha).1 b.1 (List.of_mem_zip hb).1) e1 e2
    exact ⟨i1.trans r1, fun h1 => (i2 h1).trans (r2 h1)⟩

/-- non-vacuity: two groups, three parts, voices 1, 2 and None -/
example : mapToTrackChannel 1 [(0, 0, some 1), (0, 1, some 1), (0, 0, some 2), (1, 2, none), (0, 1, some 1)]
    = some [(0, 1), (0, 2), (0, 1), (1, 1), (0, 2)] := by decide +kernel

/-- before fix C04-6 import mode 1 ranked the part by the channel alone: (track 0, channel 1) and
    (track 1, channel 1) came back as one part.  With the fix they are parts 0 and 2 of groups 0 and 1. -/
example : assignGroupPartVoice 1 [(0, 1), (0, 2), (1, 1)] =
    [(some 0, some 0, none), (some 0, some 1, none), (some 1, some 2, none)] := by decide +kernel

/-- a note without a tie to a following note contributes its own duration; a tied note its duration
    plus the tied duration of the note it is tied to (`GenericNote.duration_tied`) -/
theorem tied_merged (notes : List ScoreNote) (fuel i : Nat) (n : ScoreNote) (hn : notes[i]? = some n) :
    durationTied notes (fuel + 1) i =
      match n.tieNext with
      | none => n.dur
      | some j => n.dur + durationTied notes fuel j := by
  simp only [durationTied, hn]
  cases n.tieNext <;> rfl

/-- one row per note that is not a continuation (`Part.notes_tied`): the rows are exactly the chain heads -/
theorem tied_rows (notes : List ScoreNote) :
    (notesTied notes).length = (notes.filter (fun n => !n.tiePrev)).length := by
  unfold notesTied
  -- the index loop is a pass over the notes with their indices; it keeps a note exactly when the filter does
  rw [List.range_eq_range', ← List.zipIdx_map_snd 0 notes, List.filterMap_map, List.length_filterMap_eq_countP,
    ← List.countP_eq_length_filter, ← congrArg (List.countP _) (List.zipIdx_map_fst 0 notes), List.countP_map]
  refine List.countP_congr fun p hp => ?_
  simp only [Function.comp, List.mem_zipIdx_iff_getElem?.mp hp]
  cases p.1.tiePrev <;> rfl

example : notesTied [⟨0, 4, 60, false, some 1⟩, ⟨4, 2, 60, true, some 3⟩, ⟨4, 4, 64, false, none⟩, ⟨6, 1, 60, true, none⟩]
    = [(0, 7, 60), (4, 4, 64)] := by decide +kernel

end C04
