/-
C12 — pitch, key, duration and time-unit conversions are mutually consistent.
Property theorems over Model/Pitch.lean and the regenerated tables.
-/
import PartituraModel.Model.Pitch
import PartituraModel.Proofs.Round
import PartituraModel.Proofs.Ticks
import PartituraModel.Proofs.Digits
import PartituraModel.Proofs.C12Interval
import PartituraModel.Proofs.C12Text

namespace C12
open Model Gen

theorem midi_c4 : spellingToMidi "C" (some 0) 4 = some 60 := by decide +kernel

/-- the regenerated base table is the C major scale, in both spellings -/
theorem base_is_major_scale :
    MIDI_BASE_CLASS = [("c", 0), ("d", 2), ("e", 4), ("f", 5), ("g", 7), ("a", 9), ("b", 11)]
    ∧ BASE_PC = MIDI_BASE_CLASS.map (fun e => (upper e.1, e.2)) := by decide +kernel

/-- value of the conversion for every octave and alteration (unbounded) -/
theorem midi_value (s : String) (a : Option Int) (o b : Int)
    (h : lookup (lower s) MIDI_BASE_CLASS = some b) :
    spellingToMidi s a o = some ((o + 1) * 12 + b + a.getD 0) := by
  simp [spellingToMidi, h]

/-- each accidental is one semitone -/
theorem midi_alter (s : String) (a o m : Int) (h : spellingToMidi s (some a) o = some m) :
    spellingToMidi s (some (a + 1)) o = some (m + 1) := by
  obtain ⟨b, hb, rfl⟩ := Option.map_eq_some_iff.mp h
  rw [midi_value s _ o b hb]
  exact congrArg some (Int.add_assoc _ _ _).symm

/-- each octave is twelve semitones -/
theorem midi_octave (s : String) (a : Option Int) (o m : Int) (h : spellingToMidi s a o = some m) :
    spellingToMidi s a (o + 1) = some (m + 12) := by
  obtain ⟨b, hb, rfl⟩ := Option.map_eq_some_iff.mp h
  rw [midi_value s a _ b hb]
  simp only [Option.some.injEq]
  omega

/-- a missing alteration counts as natural -/
theorem midi_none (s : String) (o : Int) : spellingToMidi s none o = spellingToMidi s (some 0) o := by
  simp [spellingToMidi]

/-- the regenerated dummy-spelling table: every pitch class has an entry, a natural or a single sharp, that sounds it -/
theorem dummy_table_sounds : ∀ k ∈ List.range 12, ∃ e ∈ DUMMY_PS_BASE_CLASS,
    DUMMY_PS_BASE_CLASS.find? (fun e => decide ((e.1 : Int) = (k : Int))) = some e ∧
    lookup (lower (upper e.2.1)) MIDI_BASE_CLASS = some ((k : Int) - e.2.2) ∧ (e.2.2 = 0 ∨ e.2.2 = 1) := by
  decide +kernel

/-- MIDI → spelling → MIDI is the identity for every integer pitch (no bound), and the dummy
    spelling uses only naturals and single sharps -/
theorem midi_spelling (p : Int) :
    ∃ s a o, midiToSpelling p = some (s, a, o) ∧ spellingToMidi s (some a) o = some p ∧ (a = 0 ∨ a = 1) := by
  obtain ⟨k, hk⟩ : ∃ k : Nat, p % 12 = (k : Int) := ⟨(p % 12).toNat, by omega⟩
  obtain ⟨⟨_, s, a⟩, -, hf, hl, ha⟩ := dummy_table_sounds k (List.mem_range.mpr (by omega))
  refine ⟨upper s, a, p / 12 - 1, by rw [midiToSpelling, hk, hf], ?_, ha⟩
  rw [midi_value _ _ _ _ hl]
  simp only [Option.getD_some, Option.some.injEq]
  omega

theorem step2pc_spec (s : String) (a b : Int) (h : lookup s BASE_PC = some b) :
    step2pc s a = some ((b + a) % 12) := by simp [step2pc, h]

/-- the scanner on a well-formed name — a step letter, accidental characters, the decimal digits of the octave —
    finds exactly these three parts -/
theorem parse_note_name (name : String) (c : Char) (acc : List Char) (o : Nat)
    (hn : name.toList = c :: (acc ++ natDigits o)) (hc : isStepChar c = true) (hacc : ∀ x ∈ acc, isAccChar x = true) :
    noteNameToSpelling name =
      (lookup (if acc.isEmpty then "n" else String.ofList acc) SIGN_TO_ALTER).map fun a =>
        (upper (String.ofList [c]), a, (o : Int)) := by
  obtain ⟨y, ys, hd, hyd⟩ := Digits.natDigits_eq_cons o
  -- the first digit ends the accidentals
  have hy : ∀ c ∈ (natDigits o).head?, isAccChar c = false := by
    rw [hd]; simpa using Digits.of_isDigit hyd (by decide +kernel)
  have hsplit := And.intro (Lists.takeWhile_run hacc hy) (Lists.dropWhile_run hacc hy)
  have htd := Lists.takeWhile_of_all (Digits.natDigits_isDigit o)
  have hemp : (natDigits o).isEmpty = false := by rw [hd]; rfl
  simp only [noteNameToSpelling, hn, searchNoteName, matchNoteNameAt, hc, if_true, hsplit.1, hsplit.2, htd,
    hemp, Bool.false_eq_true, if_false, Digits.digitsToNat_natDigits]
  cases lookup (if acc.isEmpty = true then "n" else String.ofList acc) SIGN_TO_ALTER <;> rfl

/-- **note-name round trip** for every step, every alteration −3..3 and EVERY octave ≥ 0 (no bound):
    parsing the printed name returns the spelling -/
theorem name_roundtrip (s : String) (hs : s ∈ ["C", "D", "E", "F", "G", "A", "B"])
    (a : Int) (ha : a ∈ [(-3 : Int), -2, -1, 0, 1, 2, 3]) (o : Nat) :
    noteNameToSpelling (spellingToNoteName s a (o : Int)) = some (s, some a, (o : Int)) := by
  obtain ⟨c, -, hs1, hc, hup, hup'⟩ := step_letters s hs
  obtain ⟨hacc, hlook⟩ := acc_strings a ha
  have hname : (spellingToNoteName s a (o : Int)).toList = c :: ((accString a).toList ++ natDigits o) := by
    have : ¬ ((o : Int) < 0) := by omega
    simp [spellingToNoteName, showInt, this, showNat, String.toList_append, hup, hs1]
  rw [parse_note_name _ c _ o hname hc hacc, hlook, hup']
  rfl

/-- the printed name of a spelling sounds the spelled pitch (names ↔ MIDI through the spelling) -/
theorem name_midi (s : String) (hs : s ∈ ["C", "D", "E", "F", "G", "A", "B"])
    (a : Int) (ha : a ∈ [(-3 : Int), -2, -1, 0, 1, 2, 3]) (o : Nat) :
    noteNameToMidi (spellingToNoteName s a (o : Int)) = spellingToMidi s (some a) (o : Int) := by
  unfold noteNameToMidi
  rw [name_roundtrip s hs a ha o]

theorem key_table : ∀ n : Nat, n < 15 → ∀ m ∈ [Mode.major, Mode.minor],
    (fifthsModeToKeyName ((n : Int) - 7) m).isSome ∧
    (fifthsModeToKeyName ((n : Int) - 7) m).bind keyNameToFifthsMode = some ((n : Int) - 7, m) := by
  decide +kernel

/-- key name ↔ (fifths, mode) is a bijection on the fifteen major and fifteen minor keys -/
theorem key_bijection (f : Int) (h1 : -7 ≤ f) (h2 : f ≤ 7) (m : Mode) :
    (fifthsModeToKeyName f m).isSome ∧
    (fifthsModeToKeyName f m).bind keyNameToFifthsMode = some (f, m) := by
  have := key_table (f + 7).toNat (by omega) m (by cases m <;> simp)
  rwa [show (((f + 7).toNat : Nat) : Int) - 7 = f by omega] at this

/-- the thirty names are pairwise different -/
theorem key_names_distinct : (MAJOR_KEYS ++ MINOR_KEYS.map (· ++ "m")).Nodup ∧
    MAJOR_KEYS.length = 15 ∧ MINOR_KEYS.length = 15 := by decide +kernel

theorem past_fifteen (l : List String) (sfx : String) (hl : l.length = 15) (f : Int) (h : f < -7 ∨ 7 < f) :
    (if f + 7 < 0 then none else (l[(f + 7).toNat]?).map (· ++ sfx)) = none := by
  split
  · rfl
  · rw [List.getElem?_eq_none (by omega)]; rfl

/-- values outside -7..7 are rejected (every integer), never mapped to another key -/
theorem key_rejects (f : Int) (m : Mode) (h : f < -7 ∨ 7 < f) : fifthsModeToKeyName f m = none := by
  cases m
  · exact past_fifteen MAJOR_KEYS "" rfl f h
  · exact past_fifteen MINOR_KEYS "m" rfl f h

/-- unknown mode spellings are rejected; the accepted ones are exactly the documented six -/
theorem mode_spellings (s : String) :
    (modeOfString s).isSome ↔ s ∈ ["minor", "-1", "major", "None", "none", "1"] := by
  unfold modeOfString
  split <;> simp_all

/-- mode codes decode to what was encoded -/
theorem mode_code_roundtrip (m : Mode) : keyIntToMode (keyModeToInt m) = some m := by
  cases m <;> rfl

/-- clef codes decode to what was encoded, in both directions (whole regenerated table) -/
theorem clef_code_roundtrip :
    (∀ e ∈ CLEF_TO_INT, clefIntToSign e.2 = some e.1 ∧ clefSignToInt e.1 = some e.2) ∧
    (∀ e ∈ INT_TO_CLEF, clefSignToInt e.2 = some e.1 ∧ clefIntToSign e.1 = some e.2) := by decide +kernel

/-! ### intervals, durations, tempo

The specification of an interval's size (`genericBase`, `qualityOffset`, `isPerfect`) and what INTERVAL_TO_SEMITONES and
the ladders of `change_quality` are against it: Proofs/C12Interval.lean. -/

/-- every one of the 39 interval classes has its defined size:
    major-scale degree plus the offset of its quality -/
theorem interval_table :
    INTERVALCLASSES.length = 39 ∧ INTERVALCLASSES.Nodup ∧
    ∀ q ∈ ["dd", "d", "m", "M", "P", "A", "AA"], ∀ n ∈ [1, 2, 3, 4, 5, 6, 7],
      (INTERVALCLASSES.contains (q ++ showNat n) = (qualityOffset (isPerfect n) q).isSome) ∧
      (intervalSemitones q n = (qualityOffset (isPerfect n) q).map (genericBase n + ·)) :=
  ⟨rfl, by decide +kernel, fun q hq n hn => ⟨interval_listed hq hn, interval_sizes q hq n hn⟩⟩

/-- `change_quality` on every interval class and every step that stays on the ladder: the result is again one of
    the 39 classes (same number) and its size is the old size plus the step — the size an interval object reports
    after its quality was changed is that of its NEW quality.  (Finite: 7 qualities × 7 numbers × steps −6..6.) -/
def cqOk (q : String) (n : Nat) (k : Int) : Bool :=
  match changeQuality n q k with
  | some q' => intervalValid q' n "up" && (intervalSemitones q' n == (intervalSemitones q n).map (· + k))
  | none => true

theorem change_quality_table :
    ∀ q ∈ ["dd", "d", "m", "M", "P", "A", "AA"], ∀ n ∈ [1, 2, 3, 4, 5, 6, 7],
      ∀ k ∈ ([-6, -5, -4, -3, -2, -1, 0, 1, 2, 3, 4, 5, 6] : List Int),
      intervalValid q n "up" = true → cqOk q n k = true := by
  intro q hq n hn k _ hv
  unfold cqOk
  cases h : changeQuality n q k with
  | none => rfl
  | some q' =>
    obtain ⟨h1, h2⟩ := quality_step hq hn hv h
    simp [h1, h2]

/-- steps of more than five semitones leave every ladder: the code raises -/
theorem change_quality_far (n : Nat) (q : String) (k : Int) (hk : k < -5 ∨ 5 < k) :
    changeQuality n q k = none := by
  unfold changeQuality
  have h0 : k ≠ 0 := by omega
  simp only [h0, if_false]
  apply change_quality_on_far _ _ _ _ hk
  unfold qualityLadder
  split <;> simp

/-- for EVERY step: whenever `change_quality` succeeds on a valid interval class, the new class is valid and its
    size is the old size plus the step -/
theorem change_quality_size (q : String) (n : Nat) (k : Int) (q' : String)
    (hq : q ∈ ["dd", "d", "m", "M", "P", "A", "AA"]) (hn : n ∈ [1, 2, 3, 4, 5, 6, 7])
    (hv : intervalValid q n "up" = true) (h : changeQuality n q k = some q') :
    intervalValid q' n "up" = true ∧ intervalSemitones q' n = (intervalSemitones q n).map (· + k) :=
  quality_step hq hn hv h

example : changeQuality 3 "M" (-1) = some "m" ∧ changeQuality 4 "A" (-2) = some "d" ∧
    changeQuality 3 "M" 1 = some "A" ∧ changeQuality 5 "P" 3 = none := by decide +kernel

/-- dotted units: the multiplier of d dots is 2 - 1/2^d -/
theorem dot_multipliers : DOT_MULTIPLIERS = [0, 1, 2, 3].map (fun d : Nat => (2 : Rat) - 1 / 2 ^ d) := by
  decide +kernel

theorem dot_multiplier (d : Nat) (hd : d ∈ [0, 1, 2, 3]) : DOT_MULTIPLIERS[d]? = some ((2 : Rat) - 1 / 2 ^ d) := by
  rw [dot_multipliers]
  simp only [List.mem_cons, List.mem_nil_iff, or_false] at hd
  rcases hd with rfl | rfl | rfl | rfl <;> rfl

theorem dot_multiplier_isSome (d : Nat) : (DOT_MULTIPLIERS[d]?).isSome ↔ d ≤ 3 := by
  simp [show DOT_MULTIPLIERS.length = 4 by decide]; omega

/-- note-value labels carry their defined values (whole = 4 quarters, halving each step) -/
theorem label_durs_defined :
    ∀ e ∈ SYMBOLIC_TO_INT_DURS, lookup e.1 LABEL_DURS = some (4 / e.2) := by decide +kernel

def dotsStr (d : Nat) : String := String.ofList (List.replicate d '.')

/-- any number of dots: the value with the multiplier of `d` dots, rejected where there is none -/
theorem tempo_units_dots (u : String) (v : Rat) (d : Nat) (t : Rat) (hu : (u, v) ∈ LABEL_DURS) :
    toQuarterTempo (u ++ dotsStr d) t = DOT_MULTIPLIERS[d]?.map fun m => t * m * v := by
  obtain ⟨hc, hlook⟩ := label_chars (u, v) hu
  obtain ⟨h1, h2⟩ := dotted_unit u.toList d hc
  have hl : (u ++ dotsStr d).toList = u.toList ++ List.replicate d '.' := by simp [dotsStr]
  simp only [toQuarterTempo, countChar, hl, h1, h2, String.ofList_toList, hlook]
  cases DOT_MULTIPLIERS[d]? <;> rfl

/-- tempo units: `unit` with d dots at tempo t is t · (2 − 1/2^d) · value(unit) quarters per minute,
    for every unit string of the table and every tempo -/
theorem tempo_units (u : String) (v : Rat) (d : Nat) (t : Rat)
    (hu : (u, v) ∈ LABEL_DURS) (hd : d ∈ [0, 1, 2, 3]) :
    toQuarterTempo (u ++ dotsStr d) t = some (t * ((2 : Rat) - 1 / 2 ^ d) * v) := by
  rw [tempo_units_dots u v d t hu, dot_multiplier d hd]
  rfl

/-- symbolic → numeric duration: divs · value · dots · normal/actual -/
theorem symbolic_numeric (ty : String) (v : Rat) (d : Nat) (a n : Nat) (divs : Rat)
    (hu : lookup ty LABEL_DURS = some v) (hd : d ∈ [0, 1, 2, 3]) (ha : a ≠ 0) (hn : n ≠ 0) :
    symbolicToNumeric (ty, d, some a, some n) divs
      = some (divs * v * ((2 : Rat) - 1 / 2 ^ d) * ((n : Rat) / (a : Rat))) := by
  have ha' : ((a : Nat) : Rat) ≠ 0 := by exact_mod_cast ha
  have hn' : ((n : Nat) : Rat) ≠ 0 := by exact_mod_cast hn
  simp [symbolicToNumeric, hu, dot_multiplier d hd, ha', hn']

/-- ticks = round(10^6·ppq·t/mpq): the result is a nearest integer … -/
theorem tick_nearest (t : Rat) (mpq ppq : Nat) :
    |((secToTick t mpq ppq : Int) : Rat) - 1000000 * (ppq : Rat) * t / (mpq : Rat)| ≤ 1 / 2 :=
  Round.roundHalfEven_close _

/-- … and ties go to the even neighbour -/
theorem tick_ties_even (t : Rat) (mpq ppq : Nat)
    (h : (1000000 * (ppq : Rat) * t / (mpq : Rat)) - ((1000000 * (ppq : Rat) * t / (mpq : Rat)).floor : Rat) = 1 / 2) :
    secToTick t mpq ppq % 2 = 0 :=
  Round.roundHalfEven_tie_even _ h

/-- ticks → seconds → ticks is the identity for every tick, ppq and mpq -/
theorem tick_sec_tick (k : Int) (mpq ppq : Nat) (hm : 0 < mpq) (hp : 0 < ppq) :
    secToTick (tickToSec k mpq ppq) mpq ppq = k :=
  Ticks.secToTick_tickToSec k mpq ppq hm hp

example : secToTick (1/3) 500000 480 = 320 ∧ tickToSec 320 500000 480 = 1/3 := by decide +kernel

end C12
