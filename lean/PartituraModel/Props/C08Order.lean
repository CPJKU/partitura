/-
C08 — the order in which the note lines are written (`matchfile_from_alignment`: `np.lexsort` over
`(onset in beats, document order)` for score lines and `(ptime_to_stime(note_on), MIDI pitch)` for
performed-only lines).  Property theorems over Model/MatchTime.lean.
-/
import PartituraModel.Proofs.C08Order
import Mathlib.Data.List.Range
import Mathlib.Algebra.Order.Field.Rat
import Mathlib.Tactic.NormNum

namespace C08
open Model Model.MatchTime C08S C08O

/-- **line_order.**  For every list of sort keys (one per alignment entry):
    1. the written lines are the alignment entries, each exactly once (a permutation of the indexed keys, and
       of the indices);
    2. every written pair carries the key of its index;
    3. the lines are sorted by the documented key — first key ascending (NaN after every number), then second
       key ascending — and lines with equal keys keep the order of the alignment (stability of `np.lexsort`). -/
theorem line_order (keys : List LineKey) :
    (lexsortPairs keys).Perm ((List.range keys.length).zip keys)
    ∧ (lexsortIdx keys).Perm (List.range keys.length)
    ∧ (∀ p ∈ lexsortPairs keys, keys[p.1]? = some p.2)
    ∧ (lexsortPairs keys).Pairwise (fun a b => keyLe a.2 b.2 = true ∧ (keyLe b.2 a.2 = true → a.1 < b.1)) := by
  have hperm : (lexsortPairs keys).Perm ((List.range keys.length).zip keys) := (isSort _).perm _
  refine ⟨hperm, sortBy_zip_range_fst _ keys, fun p hp => Lists.mem_zip_range.mp (hperm.mem_iff.mp hp), ?_⟩
  -- stability: the indices of the input are in order, and equal keys keep that order
  refine (isSort _).pairwise_stable (keyLe_order.comap Prod.snd) ?_
  have : (((List.range keys.length).zip keys).map Prod.fst).Pairwise (· < ·) := by
    rw [List.map_fst_zip (by simp)]; exact List.pairwise_lt_range
  exact List.pairwise_map.mp this

/-- non-vacuity: two score lines and two insertions, one of them with an undefined (NaN) key; the third and
    the first entry have equal keys and keep their order -/
example : lexsortIdx [⟨some 2, 0⟩, ⟨none, 60⟩, ⟨some 2, 0⟩, ⟨some (1/2), 64⟩] = [3, 0, 2, 1] := by decide +kernel

/-- **time_map_places.**  The key of a performed-only line is the time map at its onset.  With at least two
    matched score onsets that are performed in score order (performed times strictly increasing, score times
    non-decreasing): the map passes through every matched onset, and it is monotone — so an insertion played
    at or after the (mean) performed time of a matched onset gets a key at or above that onset's score time, one
    played at or before it a key at or below; `line_order` then puts its line on that side of the score
    lines. -/
theorem time_map_places (p q : Rat × Rat) (rest : List (Rat × Rat)) (hs : KnotsSorted (p :: q :: rest)) :
    (∀ k ∈ p :: q :: rest, timeMapKey (p :: q :: rest) k.1 = some k.2)
    ∧ (∀ t t' : Rat, t ≤ t' → ∃ y y', timeMapKey (p :: q :: rest) t = some y
          ∧ timeMapKey (p :: q :: rest) t' = some y' ∧ y ≤ y') := by
  have hkey : ∀ t, timeMapKey (p :: q :: rest) t = some (Linear.interp p q rest t) := by
    intro t
    rw [← go_eq]
    obtain ⟨a, ya⟩ := p
    obtain ⟨b, yb⟩ := q
    rfl
  exact ⟨fun k hk => (hkey _).trans (congrArg some (Linear.interp_knot rest p q (hs.imp And.left) k hk)),
    fun t t' ht => ⟨_, _, hkey t, hkey t', Linear.interp_monotone rest p q (hs.imp And.left) (hs.imp And.right) ht⟩⟩

/-- non-vacuity: three matched onsets (performed at 1, 2, 4 s; score times 0, 1, 3 beats); an insertion played at
    3 s gets the key 2 -/
example : KnotsSorted [(1, 0), (2, 1), (4, 3)] ∧ timeMapKey [(1, 0), (2, 1), (4, 3)] 3 = some 2 := by
  constructor
  · unfold KnotsSorted
    simp only [List.pairwise_cons, List.mem_cons, List.mem_nil_iff, or_false, forall_eq_or_imp, forall_eq,
      List.Pairwise.nil, and_true, IsEmpty.forall_iff, implies_true]
    norm_num
  · decide +kernel

/-- with one matched onset every performed-only line gets that onset's score time; with none the key is
    undefined (NaN) and the line is written after every line that has a key -/
theorem time_map_degenerate (x y t : Rat) (k2 : Int) (a : LineKey) (r : Rat) (ha : a.k1 = some r) :
    timeMapKey [(x, y)] t = some y ∧ timeMapKey [] t = none
    ∧ keyLe a ⟨none, k2⟩ = true ∧ keyLe ⟨none, k2⟩ a = false := by
  refine ⟨rfl, rfl, ?_, ?_⟩ <;> simp [keyLe, ha]

end C08
