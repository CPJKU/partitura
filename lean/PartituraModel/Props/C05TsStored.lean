/-
C05 — FROM ARRAY TO SCORE TO ARRAY with the table that comes back ON THE STORED VALUES.

`fromArrayXW pt` (Model/NoteArrayTsF.lean) is `note_array_to_score` followed by the note array of the created part, that
note array made by the part table `pt`.  At the exact table `rowsC` it IS `fromArrayX` (Model/NoteArrayTs.lean; `inverse_is_shared`);
at the stored table `rowsF` (binary64 evaluation of the created part's maps, binary32 store: compared with the real
arrays with tolerance 0, stream `invxf`) the same things come back — the theorems of Props/C05Ts.lean hold of the table numpy
actually returns, and that table is ordered by its stored onset_beat column.
-/
import PartituraModel.Props.C05Ts
import PartituraModel.Props.C05Stored
import PartituraModel.Model.NoteArrayTsF

namespace NoteArray
open List Model

theorem createdDesc_part64 (d : Nat) (ts : Option (List (Int × (Int × Int)))) (kss : List (Int × Int × Mode))
    (ms : List (Int × Int)) (last : Int) (l : List (Int × Int × Int)) (o : Opts) :
    C05.part64 (createdDesc d ts kss ms last) (mkNotes dummySpell 0 l) o
      = createPart d l ((createdDesc d ts kss ms last).maps64 o) dummySpell := rfl

theorem maps64_ts_on (desc : Desc) (t : Int) : (desc.maps64 xOpts).ts t = (desc.ts t).getD (0, 0, 0) := rfl
theorem maps64_ks_on (desc : Desc) (t : Int) : (desc.maps64 xOpts).ks t = (desc.ks t).getD (0, 0) := rfl

theorem storeRow64_rowCols (t : List Row) : (t.map storeRow64).map rowCols = t.map rowCols := by
  rw [map_map]; rfl

/-- the stored part table carries the columns the inverse direction reads: storing touches the float cells only, and
    the signature maps of `maps64` are those of `maps` -/
theorem rowsF_cols : ColsTable rowsF := by
  intro d ts kss ms last l out h
  obtain ⟨t, ht, rfl⟩ := C05.rowsF_some _ _ _ _ h
  rw [createdDesc_part64] at ht
  rw [storeRow64_rowCols]
  exact rows_createPart_cols d l _ dummySpell xOpts t (fun y _ => dummySpell_keeps y.2.2) ht

end NoteArray

namespace C05
open NoteArray List

/-- one inverse construction, two part tables -/
theorem inverse_is_shared : fromArrayXW rowsC = fromArrayX := fromArrayXW_rowsC

/-- onsets, durations and pitches come back in the table as stored (cf. `from_to_array_x`) -/
theorem from_to_array_x_stored (hb ht hk : Bool) (a : List ARow) (dv : Option Nat)
    (tsl : List (Int × Int × Int)) (est san : Bool) (x : XOut)
    (h : fromArrayXF hb true ht hk a dv tsl est san = .ok x) :
    x.rows.map rowTriple ~ a.map divTriple :=
  fromArrayXW_triples rowsF_cols hb ht hk a dv tsl est san x h

/-- the time-signature columns come back in the table as stored (cf. `time_signature_columns_come_back`) -/
theorem time_signature_columns_come_back_stored (hb hk : Bool) (a : List ARow) (dv : Option Nat)
    (tsl : List (Int × Int × Int)) (est san : Bool) (x : XOut)
    (h : fromArrayXF hb true true hk a dv tsl est san = .ok x) (hok : TsColumnsOK a) :
    x.rows.map (fun r => (r.onsetDiv, r.durDiv, r.pitch, r.tsBeats, r.tsBeatType))
      ~ a.map (fun r => (r.onsetDiv, r.durDiv, r.pitch, r.tsBeats, r.tsBeatType)) :=
  fromArrayXW_ts_back rowsF_cols hb hk a dv tsl est san x h hok

/-- the key-signature columns come back in the table as stored (cf. `key_signature_columns_come_back`) -/
theorem key_signature_columns_come_back_stored (hb ht : Bool) (a : List ARow) (dv : Option Nat)
    (tsl : List (Int × Int × Int)) (est san : Bool) (x : XOut)
    (h : fromArrayXF hb true ht true a dv tsl est san = .ok x) (hok : KsColumnsOK a) :
    x.rows.map (fun r => (r.onsetDiv, r.durDiv, r.pitch, r.ksFifths, r.ksMode))
      ~ a.map (fun r => (r.onsetDiv, r.durDiv, r.pitch, r.ksFifths, r.ksMode)) :=
  fromArrayXW_ks_back rowsF_cols hb ht a dv tsl est san x h hok

/-- the table that comes back is ordered by its stored onset_beat column, then pitch, and every float cell is the
    binary32 rounding of the binary64 value of the CREATED part's maps (`stored_columns`) — whatever columns the
    array had -/
theorem inverse_table_sorted_on_stored_column (hb hd ht hk : Bool) (a : List ARow) (dv : Option Nat)
    (tsl : List (Int × Int × Int)) (est san : Bool) (x : XOut)
    (h : fromArrayXF hb hd ht hk a dv tsl est san = .ok x) :
    x.rows.Pairwise (NoteArray.Lex (·.onsetBeat) (fun a b => a.pitch ≤ b.pitch)) ∧
    ∀ r ∈ x.rows, r.key = r.onsetBeat := by
  obtain ⟨d, l, kss, ms, _, _, _, _, _, _, _, hrows⟩ := fromArrayXW_ok rowsF _ _ _ _ _ _ _ _ _ _ h
  refine ⟨stored_table_sorted _ _ _ _ hrows, ?_⟩
  intro r hr
  obtain ⟨_, _, _, _, _, _, _, _, _, _, _, hk'⟩ := stored_columns _ _ _ _ hrows r hr
  exact hk'

section Examples

/-- the A B A example of Props/C05Ts.lean on the stored values, with and without `sanitize`; key columns too -/
example : xRows (fromArrayXF true true true false exABA none [] false false) =
    some [(0, 0, 4, 4, 4), (8, 4, 3, 6, 8), (11, 7, 3, 6, 8), (14, 10, 4, 4, 4)] := by decide +kernel
example : xRows (fromArrayXF true true true false exABA none [] false true) =
    some [(0, 0, 4, 4, 4), (8, 4, 3, 6, 8), (11, 7, 3, 6, 8), (14, 10, 4, 4, 4)] := by decide +kernel
example : (xKeys (fromArrayXF true true true true exKeys none [] false true)).isSome = true := by decide +kernel

end Examples

end C05
