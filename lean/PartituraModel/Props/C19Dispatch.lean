/-
C19 — "the loader picks the reader from the file extension": `partitura.io.load_score`.
Model: `Model/LoadDispatch.lean` (posixpath.splitext, lower-casing, the if / elif chain as a table that is
regenerated from the source and compared on every run; the choice itself is compared on generated paths).
-/
import PartituraModel.Proofs.C19Dispatch
import PartituraModel.Proofs.Lists

namespace C19
open Model Model.LoadDispatch

/-- every supported extension, in any letter case, after any directory and any file stem, picks the documented
    reader: for every row (extension, reader) of the table, every `dir`, every `stem` without `/` that is not made
    of dots only, and every spelling `v` of the extension (no dot, no slash, lower-casing to the row's extension) -/
theorem load_score_dispatch (row : String × Reader) (hrow : row ∈ table) (dir stem v : List Char)
    (hv : String.ofList ('.' :: lowerChars v) = row.1) (hvc : ∀ c ∈ v, c ≠ '.' ∧ c ≠ '/')
    (hs : ∀ c ∈ stem, c ≠ '/') (hstem : stem.any (· ≠ '.') = true) :
    dispatch (dir ++ '/' :: (stem ++ '.' :: v)) = some row.2 := by
  have hl : lowerChars ('.' :: v) = '.' :: lowerChars v := rfl
  simp only [dispatch, C19Ext.extOf_spec dir stem v hvc hs hstem, hl, hv]
  exact C19Ext.table_lookup row hrow

/-- a reader is picked exactly when the lower-cased extension is a row of the table, and then it is that row's
    reader: every other extension is rejected (`NotSupportedFormatError`) -/
theorem load_score_dispatch_only (path : List Char) (r : Reader) :
    dispatch path = some r ↔ (String.ofList (lowerChars (extOf path)), r) ∈ table :=
  ⟨Model.lookup_mem,
   C19Ext.table_lookup (String.ofList (lowerChars (extOf path)), r)⟩

/-- a file name without extension (no dot in the last path component, or only leading dots) is rejected -/
theorem load_score_no_extension (path : List Char) (h : extOf path = []) : dispatch path = none := by
  simp only [dispatch, h, lowerChars, List.map_nil]
  decide +kernel

/-- the documented assignment (whole finite table): MusicXML, MIDI, MEI, Kern, MuseScore formats, match files -/
theorem load_score_table :
    (table.filter (·.2 = .musicxml)).map (·.1) = [".mxl", ".xml", ".musicxml"] ∧
    (table.filter (·.2 = .midi)).map (·.1) = [".midi", ".mid"] ∧
    (table.filter (·.2 = .mei)).map (·.1) = [".mei"] ∧
    (table.filter (·.2 = .kern)).map (·.1) = [".kern", ".krn"] ∧
    (table.filter (·.2 = .matchfile)).map (·.1) = [".match"] ∧
    (table.filter (·.2 = .musescore)).length = 21 := by
  decide +kernel

-- the kernel decodes `"…".toList` of a literal in time quadratic in its length; a literal is `String.ofList [chars]` by a
-- built-in rule, which `rw` sees
example : dispatch "/data/op.1/Sonata.No.2.KRN".toList = some .kern := by rw [String.toList_ofList]; decide +kernel
example : dispatch "scores/.hidden/piece.Mei".toList = some .mei := by rw [String.toList_ofList]; decide +kernel
example : dispatch "/tmp/piece.humdrum".toList = none := by decide +kernel
example : dispatch "/tmp/.krn".toList = none := by decide +kernel          -- a hidden file called ".krn" has no extension
example : dispatch "/tmp/dir.krn/piece".toList = none := by decide +kernel  -- the dot belongs to the directory

end C19
