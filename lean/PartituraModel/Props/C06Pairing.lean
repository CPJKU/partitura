/-
C06 — the proviso of the property is exact.  "… pairs each note-on with the next note-off or zero-velocity
note-on of the same channel and pitch … provided no two notes of the same pitch and channel overlap within a
track": for ANY track and any (channel, pitch), the loader turns every note start and every release of that channel
and pitch into a note — none dropped, none unused — if and only if these messages strictly alternate start,
release, start, release, … (`AltC`), i.e. iff no note of that channel and pitch starts while another one sounds and
no release comes without a start.  `pairing_sound` (Props/C06.lean) is the "if" with the notes spelled out.
-/
import PartituraModel.Model.PerfMidi
import PartituraModel.Proofs.C06Pair
import PartituraModel.Props.C06

namespace C06
open Model Model.PerfMidi C06Pair C06PairIff

/-- the loader never makes more notes of one channel and pitch than the track has note starts, nor than it has
    releases -/
theorem pairing_bounds (T : Track) (κ : Nat) :
    (notesOf κ (pairNotes T)).length ≤ ons (proj κ T) ∧ (notesOf κ (pairNotes T)).length ≤ rels (proj κ T) := by
  have e : notesOf κ (pairNotes T) = pairFrom (fun _ => none) (proj κ T) := pair_proj κ T _ _ rfl
  rw [e]
  obtain ⟨h1, h2, _⟩ := (pair_bounds κ (proj κ T) (proj_key κ T) (fun _ => none)).1 rfl
  exact ⟨h1, h2⟩

/-- **Necessary and sufficient.**  Every note start and every release of one (channel, pitch) in a track becomes a
    loaded note — as many notes as starts, as many as releases — iff the messages of that channel and pitch
    strictly alternate. -/
theorem pairing_complete_iff (T : Track) (κ : Nat) :
    ((notesOf κ (pairNotes T)).length = ons (proj κ T) ∧ (notesOf κ (pairNotes T)).length = rels (proj κ T))
      ↔ AltC (proj κ T) := by
  have e : notesOf κ (pairNotes T) = pairFrom (fun _ => none) (proj κ T) := pair_proj κ T _ _ rfl
  rw [e]
  constructor
  · rintro ⟨h1, h2⟩
    exact ((pair_bounds κ (proj κ T) (proj_key κ T) (fun _ => none)).1 rfl).2.2 h1 h2
  · intro h
    exact pair_altC κ (proj κ T) h (proj_key κ T) (fun _ => none) rfl

/-- … so when they do not alternate (two notes of the channel and pitch overlap, a release without a start), a
    note start or a release of the file is lost: the proviso cannot be dropped -/
theorem pairing_loses_when_overlapping (T : Track) (κ : Nat) (h : ¬ AltC (proj κ T)) :
    (notesOf κ (pairNotes T)).length < ons (proj κ T) ∨ (notesOf κ (pairNotes T)).length < rels (proj κ T) := by
  obtain ⟨b1, b2⟩ := pairing_bounds T κ
  by_contra hc
  apply h
  rw [← pairing_complete_iff]
  omega

/-- non-vacuity: two pitches interleaved, alternating for each; and an overlap (the second start overwrites the
    first: one note for two starts) -/
example : AltC (proj (noteHash 0 60) [(0, Ev.noteOn 0 60 64), (5, Ev.noteOn 1 62 10), (10, Ev.noteOn 0 60 0),
    (10, Ev.noteOn 0 60 70), (12, Ev.noteOff 1 62 0), (20, Ev.noteOff 0 60 5)]) :=
  AltC.pair _ _ _ _ _ rfl rfl (AltC.pair _ _ _ _ _ rfl rfl AltC.nil)

example : (notesOf (noteHash 0 60) (pairNotes [(0, Ev.noteOn 0 60 64), (5, Ev.noteOn 0 60 10), (10, Ev.noteOff 0 60 0),
    (20, Ev.noteOff 0 60 0)])).length = 1 ∧
    ons (proj (noteHash 0 60) [(0, Ev.noteOn 0 60 64), (5, Ev.noteOn 0 60 10), (10, Ev.noteOff 0 60 0), (20, Ev.noteOff 0 60 0)]) = 2 := by
  decide

end C06
