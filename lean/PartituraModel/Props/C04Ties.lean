/-
C04 - tied notes merged, for tie chains whose members are NOT neighbours on the timeline (a tie over a first ending).
The merged note lasts the SUM of the members' durations from the onset of the head - what `save_score_midi` writes
(`to_ppq(start + duration_tied)`, rows of `notesTied` / `notesTiedV`: `score_roundtrip_tied`) - and that is the end of
the last member exactly when the chain has no gap.  Models: Model/MidiPair.lean (durationTied, notesTied),
Model/ScoreMidiTies.lean (endTied, chain), tied to partitura/score.py by harness/props/c04.py (`tied`, `tiedend`).
Helper lemmas: Proofs/C04Ties.lean.
-/
import PartituraModel.Proofs.C04Ties

namespace C04
open Model.MidiPair Model.ScoreMidiTies

theorem chain_head (notes : List ScoreNote) (fuel i : Nat) (h : ScoreNote) (t : List ScoreNote)
    (hc : chain notes fuel i = some (h :: t)) : notes[i]? = some h := by
  cases fuel with
  | zero => simp [chain] at hc
  | succ k =>
    obtain ⟨n, hn, ⟨_, he⟩ | ⟨_, _, _, _, he⟩⟩ := C04Ties.chain_cases hc <;>
    · cases he
      exact hn

/-- `duration_tied` of a chain head is the SUM of the durations of the members of its chain - wherever they stand -/
theorem duration_tied_sum (notes : List ScoreNote) : ∀ (fuel i : Nat) (c : List ScoreNote),
    chain notes fuel i = some c → durationTied notes fuel i = (c.map (·.dur)).sum := by
  intro fuel
  induction fuel with
  | zero => intro i c h; simp [chain] at h
  | succ k ih =>
    intro i c h
    obtain ⟨n, hn, ⟨ht, rfl⟩ | ⟨j, c', ht, hc, rfl⟩⟩ := C04Ties.chain_cases h
    · rw [C04Ties.durationTied_last k hn ht]
      simp
    · rw [C04Ties.durationTied_link k hn ht, ih j c' hc]
      simp

/-- `duration_tied` does not read where the members stand: moving the notes (any new starts) leaves it unchanged -/
theorem duration_tied_ignores_positions (notes : List ScoreNote) (f : ScoreNote → Nat) : ∀ (fuel i : Nat),
    durationTied (notes.map fun n => { n with start := f n }) fuel i = durationTied notes fuel i := by
  intro fuel
  induction fuel with
  | zero => intro i; rfl
  | succ k ih =>
    intro i
    simp only [durationTied, List.getElem?_map]
    cases hn : notes[i]? with
    | none => simp
    | some n =>
      simp only [Option.map_some]
      cases ht : n.tieNext with
      | none => simp
      | some j => simp [ih j]

/-- `end_tied` of a chain head whose members follow each other (with or without gaps) is the onset of the head plus
    `duration_tied` PLUS the divisions of the gaps: the end of the last member is later than the end of the merged
    note by exactly what the tie skips -/
theorem end_tied_gaps (notes : List ScoreNote) : ∀ (fuel i : Nat) (h : ScoreNote) (t : List ScoreNote),
    chain notes fuel i = some (h :: t) → Forward (h :: t) →
    endTied notes fuel i = h.start + durationTied notes fuel i + gapSum (h :: t) := by
  intro fuel
  induction fuel with
  | zero => intro i h t hc; simp [chain] at hc
  | succ k ih =>
    intro i h t hc hf
    obtain ⟨n, hn, ⟨ht, he⟩ | ⟨j, c', ht, hc', he⟩⟩ := C04Ties.chain_cases hc
    · cases he
      rw [C04Ties.endTied_last k hn ht, C04Ties.durationTied_last k hn ht]
      simp [gapSum]
    · cases he
      rw [C04Ties.endTied_link k hn ht, C04Ties.durationTied_link k hn ht]
      cases t with
      | nil => exact absurd rfl (C04Ties.chain_ne_nil notes k j [] hc')
      | cons m t' =>
        have := ih j m t' hc' hf.2
        have hle := hf.1
        simp only [gapSum]
        omega

theorem contiguous_forward : ∀ (c : List ScoreNote), Contiguous c → Forward c ∧ gapSum c = 0
  | [], _ => ⟨trivial, rfl⟩
  | [_], _ => ⟨trivial, rfl⟩
  | a :: b :: l, h => by
    have ih := contiguous_forward (b :: l) h.2
    have h1 := h.1
    refine ⟨⟨by omega, ih.1⟩, ?_⟩
    simp only [gapSum, ih.2]
    omega

/-- an ORDINARY tie chain (every member starts where its predecessor ends): the end of the last member is the end of
    the merged note - the only case in which `end_tied.t` may stand for `start + duration_tied` -/
theorem end_tied_contiguous (notes : List ScoreNote) (fuel i : Nat) (h : ScoreNote) (t : List ScoreNote)
    (hc : chain notes fuel i = some (h :: t)) (hcont : Contiguous (h :: t)) :
    endTied notes fuel i = h.start + durationTied notes fuel i := by
  have := contiguous_forward _ hcont
  rw [end_tied_gaps notes fuel i h t hc this.1, this.2]
  rfl

/-- a chain with a gap: the end of the last member is strictly LATER than the end of the merged note, so the note off
    of the merged note (`score_roundtrip_tied`: head onset + summed duration) is not the image of `end_tied.t` -/
theorem end_tied_after_merged_end (notes : List ScoreNote) (fuel i : Nat) (h : ScoreNote) (t : List ScoreNote)
    (hc : chain notes fuel i = some (h :: t)) (hf : Forward (h :: t)) (hgap : 0 < gapSum (h :: t)) :
    h.start + durationTied notes fuel i < endTied notes fuel i := by
  rw [end_tied_gaps notes fuel i h t hc hf]
  omega

/-- the two readings agree exactly on the chains without a gap -/
theorem end_tied_eq_iff_no_gap (notes : List ScoreNote) (fuel i : Nat) (h : ScoreNote) (t : List ScoreNote)
    (hc : chain notes fuel i = some (h :: t)) (hf : Forward (h :: t)) :
    endTied notes fuel i = h.start + durationTied notes fuel i ↔ gapSum (h :: t) = 0 := by
  rw [end_tied_gaps notes fuel i h t hc hf]
  omega

/-- the row the exporter reads for a chain head: its own onset and pitch, the summed duration -/
theorem tied_row_of_head (notes : List ScoreNote) (i : Nat) (n : ScoreNote) (hn : notes[i]? = some n)
    (hp : n.tiePrev = false) : (n.start, durationTied notes notes.length i, n.pitch) ∈ notesTied notes := by
  unfold notesTied
  rw [List.mem_filterMap]
  refine ⟨i, ?_, ?_⟩
  · rw [List.mem_range]
    exact (List.getElem?_eq_some_iff.mp hn).1
  · simp [hn, hp]

/-- non-vacuity (the tie over a first ending, 12 divisions per quarter: C5 on beat 4 of bar 1 tied to the half note
    C5 that opens bar 3): the merged note lasts 12 + 24 = 36 divisions and ends at 72; the last member ends at 120 -/
example : notesTied [⟨36, 12, 72, false, some 1⟩, ⟨96, 24, 72, true, none⟩] = [(36, 36, 72)] := by decide +kernel
example : tiedEnds [⟨36, 12, 72, false, some 1⟩, ⟨96, 24, 72, true, none⟩] = [(36, 36, 120, 72)] := by decide +kernel
example : chain [⟨36, 12, 72, false, some 1⟩, ⟨96, 24, 72, true, none⟩] 2 0
    = some [⟨36, 12, 72, false, some 1⟩, ⟨96, 24, 72, true, none⟩] := rfl
example : Forward [⟨36, 12, 72, false, some 1⟩, ⟨96, 24, 72, true, none⟩] ∧
    gapSum [⟨36, 12, 72, false, some 1⟩, ⟨96, 24, 72, true, none⟩] = 48 := ⟨⟨by decide, trivial⟩, rfl⟩
/-- an ordinary tie over a barline: both readings give 60 -/
example : tiedEnds [⟨36, 12, 65, false, some 1⟩, ⟨48, 12, 65, true, none⟩] = [(36, 24, 60, 65)] := by decide +kernel
example : Contiguous [⟨36, 12, 65, false, some 1⟩, ⟨48, 12, 65, true, none⟩] := ⟨rfl, trivial⟩

end C04
