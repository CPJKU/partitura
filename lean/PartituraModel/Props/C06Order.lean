/-
C06 — "… and assigns ids in order of onset, pitch, offset, channel and track" for ANY sequence of
set_tempo events, also a tempo of 0 (fixes/C06-8).

Before the fix the code ordered the notes by the seconds it had accumulated while reading the track — before `adjust_time` integrates
the tempo map of the whole file; after a `set_tempo` of 0 these stand still, and the notes that follow were numbered
by pitch although a tempo change in another track gives them different onsets (`provisional_order_wrong`).  The
repaired loader sorts by the final seconds: `ids_by_seconds`, `ids_by_seconds_file`, `loadFileS_same_events` and
`load_merged_notes_ids` have no hypothesis on the tempo map; the `…_eq_loadFile` theorems need positive tempi.  `ids_by_key`
(Props/C06.lean) is the case of a strictly increasing conversion, where the order by seconds is the order by ticks.
-/
import PartituraModel.Model.PerfIds
import PartituraModel.Proofs.C06Order
import PartituraModel.Props.C06
import PartituraModel.Props.C06Merge

namespace C06
open Model Model.PerfMidi C06Sort C06Adjust C06Pair C06Lists C06Export C06Ids C06Notes C06Stable C06Merged C06Order

/-- Ids, any tempo map: the loaded notes are a rearrangement of the paired notes and follow the lexicographic
    order of (onset, pitch, offset, channel) with the times in the seconds `sec` the loader gave them — whatever
    `sec` is (no monotonicity: a tempo of 0, binary64 ties) -/
theorem ids_by_seconds (sec : Int → Rat) (l : List RNote) :
    (sortNotesSec sec l).Perm l ∧ (sortNotesSec sec l).Pairwise (KeyLe sec) :=
  ⟨(isSort _).perm _, sorted_sortNotesSec sec l⟩

/-- … for every performed part of every file, merged or not -/
theorem ids_by_seconds_file (sec : Int → Rat) (merge : Bool) (tracks : List Track) :
    ∀ rt ∈ loadFileS sec merge tracks, ∃ T ∈ loaderTracks merge tracks,
      rt.notes.Perm (pairNotes T) ∧ rt.notes.Pairwise (KeyLe sec) := by
  intro rt hrt
  unfold loadFileS at hrt
  obtain ⟨p, hp, rfl⟩ := List.mem_map.mp (List.mem_filter.mp hrt).1
  refine ⟨p.1, ?_, ids_by_seconds sec (pairNotes p.1)⟩
  obtain ⟨T, i⟩ := p
  exact (List.mem_zipIdx hp).2.2 ▸ List.getElem_mem _

/-- what the two loaders may differ in: the order (and so the ids) of the notes of a part -/
def SameEvents (a b : RTrack) : Prop :=
  a.fileTrack = b.fileTrack ∧ a.notes.Perm b.notes ∧ a.controls = b.controls ∧ a.programs = b.programs ∧
    a.timeSigs = b.timeSigs ∧ a.keySigs = b.keySigs ∧ a.metas = b.metas

theorem readTrackS_same (sec : Int → Rat) (i : Nat) (T : Track) : SameEvents (readTrackS sec i T) (readTrack i T) :=
  ⟨rfl, ((isSort _).perm _).trans ((isSort _).perm _).symm, rfl, rfl, rfl, rfl, rfl⟩

theorem kept_of_same (a b : RTrack) (h : SameEvents a b) : a.kept = b.kept := by
  obtain ⟨_, hn, hc, hp, _⟩ := h
  unfold RTrack.kept
  rw [hc, hp]
  have : a.notes.isEmpty = b.notes.isEmpty := by
    have hl := hn.length_eq
    cases ha : a.notes <;> cases hb : b.notes <;> simp_all
  rw [this]

/-- The repaired loader and `loadFile`: the same performed parts from the same file tracks, each with the same
    controls, programs, signatures and meta events and with the same notes in a possibly different order — for
    every conversion to seconds.  All theorems that speak about the notes of `loadFile` as a multiset (per channel
    and pitch: `notesOf` is a filter) hold for the repaired loader on every tempo map. -/
theorem loadFileS_same_events (sec : Int → Rat) (merge : Bool) (tracks : List Track) :
    List.Forall₂ SameEvents (loadFileS sec merge tracks) (loadFile merge tracks) := by
  unfold loadFileS loadFile
  induction (loaderTracks merge tracks).zipIdx with
  | nil => exact List.Forall₂.nil
  | cons p L ih =>
    have hs := readTrackS_same sec p.2 p.1
    have hk := kept_of_same _ _ hs
    simp only [List.map_cons, List.filter_cons]
    rw [hk]
    split
    · exact List.Forall₂.cons hs ih
    · exact ih

/-- Seconds are strictly increasing in the tick when the default tempo and every `set_tempo` of the file are
    positive (ticks of the file non-negative: its delta times are) -/
theorem seconds_strictly_increasing (d ppq : Nat) (hd : 0 < d) (hp : 0 < ppq) (tracks : List Track)
    (hpos : ∀ e ∈ tracks.flatMap temposOf, 0 ≤ e.1 ∧ 0 < e.2) : StrictOn (secondsAt d tracks ppq) := by
  intro x y hx hxy
  have h0 : ∀ e ∈ tracks.flatMap temposOf, 0 ≤ e.1 := fun e he => (hpos e he).1
  rw [(adjust_any_track d tracks ppq x hx h0).2.2, (adjust_any_track d tracks ppq y (by omega) h0).2.2]
  have hsorted := (isSort tempoLe).pairwise tempoLe_order (tracks.flatMap temposOf)
  exact integral_strictMono ppq hp x y hxy (0, d) _ hx hd
    (sortedFrom_of_pairwise 0 _ (fun c hc => h0 c (((isSort _).mem).mp hc)) hsorted)
    (fun c hc => (hpos c (((isSort _).mem).mp hc)).2)

/-- With strictly increasing seconds the repaired loader is `loadFile` — the order by seconds is the order by
    ticks (no negative tick in the tracks the loader sees, `end_of_track` messages aside: no note comes from one) -/
theorem loadFileS_eq_loadFile_of_ticks (sec : Int → Rat) (hsec : StrictOn sec) (merge : Bool) (tracks : List Track)
    (hT : ∀ T ∈ loaderTracks merge tracks, NonnegTicks (ne T)) : loadFileS sec merge tracks = loadFile merge tracks := by
  unfold loadFileS loadFile
  congr 1
  apply List.map_congr_left
  intro p hp
  have hmem : p.1 ∈ loaderTracks merge tracks := by
    obtain ⟨T, i⟩ := p
    exact (List.mem_zipIdx hp).2.2 ▸ List.getElem_mem _
  unfold readTrackS readTrack
  rw [sortNotesSec_eq sec hsec _ (pairNotes_nonneg p.1 (hT p.1 hmem))]

/-- … in particular for every file whose delta times are non-negative (what a MIDI file can hold) -/
theorem loadFileS_eq_loadFile (sec : Int → Rat) (hsec : StrictOn sec) (merge : Bool) (tracks : List Track)
    (hd : ∀ t ∈ tracks, NonnegTicks t) : loadFileS sec merge tracks = loadFile merge tracks :=
  loadFileS_eq_loadFile_of_ticks sec hsec merge tracks fun T hT => (loaderTracks_nonneg merge tracks hd T hT).ne

/-- End to end: a file with non-negative delta times all of whose tempi are positive, any default tempo > 0, any
    resolution > 0, merged or not — the loader with the seconds of the file's own tempo map is `loadFile`, so
    `ids_by_key` and every theorem about `loadFile` hold with no hypothesis about `sec` left -/
theorem loadFileExact_eq_loadFile (d ppq : Nat) (hd0 : 0 < d) (hp : 0 < ppq) (merge : Bool) (tracks : List Track)
    (hd : ∀ t ∈ tracks, NonnegTicks t)
    (htempo : ∀ t ∈ tracks, ∀ c ∈ temposOf (toAbs t), 0 < c.2) :
    loadFileExact d ppq merge tracks = loadFile merge tracks := by
  unfold loadFileExact
  apply loadFileS_eq_loadFile _ _ merge tracks hd
  apply seconds_strictly_increasing d ppq hd0 hp
  intro e he
  obtain ⟨T, hT, heT⟩ := List.mem_flatMap.mp he
  have hm := (mem_temposOf T e).mp heT
  refine ⟨loaderTracks_nonneg merge tracks hd T hT _ hm, ?_⟩
  obtain ⟨t, ht, hmt⟩ := mem_loaderTracks hT (mem_ne.mpr ⟨hm, rfl⟩)
  exact htempo t ht e ((mem_temposOf _ e).mpr hmt)

/-- **The written file, read by the repaired loader.**  Whatever the performance (at least one event, every time
    on a non-negative tick), the resolution, the tempo written, the default tempo of the loader (all positive) and
    the merging on either side: the loader of fixes/C06-8, sorting by the seconds of the file's own tempo map, is
    `loadFile` — every round-trip theorem stated for `loadFile` (notes_kept_*, load_merged_notes, controls_kept,
    programs_exact, history_roundtrip, …) is a theorem about the repaired loader, ids included -/
theorem written_file_loader (q : Rat → Int) (mpq ppq d : Nat) (hm : 0 < mpq) (hp : 0 < ppq) (hd : 0 < d)
    (ms ml : Bool) (parts : List PPart) (hne : usedTracks q parts ≠ []) (hq : ∀ p ∈ parts, TicksNonneg q p) :
    loadFileExact d ppq ml ((savedAbs q mpq ms parts).map toDelta)
      = loadFile ml ((savedAbs q mpq ms parts).map toDelta) := by
  unfold loadFileExact
  apply loadFileS_eq_loadFile_of_ticks _ ?_ ml _ fun T hT => (loaderTracks_written_nonneg q mpq ms ml parts hq T hT).ne
  apply seconds_strictly_increasing d ppq hd hp
  intro e he
  rw [tempos_file q mpq ms ml parts hne, List.mem_singleton] at he
  subst he
  exact ⟨le_refl _, hm⟩

/-- the hypothesis on the ticks holds for the exporter's conversion when no time of the part is negative -/
theorem ticksNonneg_quant (mpq ppq : Nat) (p : PPart)
    (h : (∀ m ∈ p.metaOther, 0 ≤ m.time) ∧ (∀ m ∈ p.keySigs, 0 ≤ m.time) ∧ (∀ m ∈ p.timeSigs, 0 ≤ m.time) ∧
      (∀ m ∈ p.controls, 0 ≤ m.time) ∧ (∀ n ∈ p.notes, 0 ≤ n.on ∧ 0 ≤ n.off) ∧ (∀ m ∈ p.programs, 0 ≤ m.time)) :
    TicksNonneg (quant mpq ppq) p := by
  obtain ⟨h1, h2, h3, h4, h5, h6⟩ := h
  exact ⟨fun m hm => quant_nonneg _ _ _ (h1 m hm), fun m hm => quant_nonneg _ _ _ (h2 m hm),
    fun m hm => quant_nonneg _ _ _ (h3 m hm), fun m hm => quant_nonneg _ _ _ (h4 m hm),
    fun n hn => ⟨quant_nonneg _ _ _ (h5 n hn).1, quant_nonneg _ _ _ (h5 n hn).2⟩, fun m hm => quant_nonneg _ _ _ (h6 m hm)⟩

/-- non-vacuity of `written_file_loader`: a part with a note and a control -/
example : loadFileExact 500000 480 false ((savedAbs (quant 500000 480) 500000 false
      [⟨[], [], [], [⟨1/2, 64, 127, 0, 0⟩], [⟨60, 64, 0, 0, 0, 1⟩], []⟩]).map toDelta)
    = loadFile false ((savedAbs (quant 500000 480) 500000 false
      [⟨[], [], [], [⟨1/2, 64, 127, 0, 0⟩], [⟨60, 64, 0, 0, 0, 1⟩], []⟩]).map toDelta) :=
  written_file_loader _ 500000 480 500000 (by decide) (by decide) (by decide) false false _ (by decide +kernel)
    (by
      intro p hp
      rw [List.mem_singleton] at hp
      subst hp
      exact ticksNonneg_quant _ _ _ (by simp))

/-- **Round trip with the repaired loader, any seconds.**  Under merging on either side and `MergeOk`, the
    loader of fixes/C06-8 — whatever conversion of ticks to seconds it sorts by — returns at most one part, read
    from file track 0, whose notes are those of the performance on the tick grid, numbered in the lexicographic
    order of (onset, pitch, offset, channel) of their seconds -/
theorem load_merged_notes_ids (q : Rat → Int) (hq : ∀ a b, a ≤ b → q a ≤ q b) (mpq : Nat) (ms ml : Bool)
    (parts : List PPart)
    (hm : ml = true ∨ (ms = true ∧ 1 < (usedTracks q parts).length))
    (hwf : ∀ p ∈ parts, ∀ n ∈ p.notes, n.on ≤ n.off ∧ 0 < n.vel)
    (hno : ∀ κ, (mergedKeyNotes q parts κ).Pairwise (MergeOk q)) (sec : Int → Rat) :
    (loadFileS sec ml ((savedAbs q mpq ms parts).map toDelta)).length ≤ 1 ∧
    ∀ rt ∈ loadFileS sec ml ((savedAbs q mpq ms parts).map toDelta), rt.fileTrack = 0 ∧
      rt.notes.Perm ((parts.flatMap (·.notes)).map (toR q)) ∧ rt.notes.Pairwise (KeyLe sec) := by
  have hsame := loadFileS_same_events sec ml ((savedAbs q mpq ms parts).map toDelta)
  obtain ⟨hlen, hall⟩ := load_merged_notes q hq mpq ms ml parts hm hwf hno
  refine ⟨by rw [hsame.length_eq]; exact hlen, ?_⟩
  intro rt hrt
  obtain ⟨rt', hrt', hs⟩ := Lists.forall₂_mem_left hsame rt hrt
  obtain ⟨h0, hperm, _⟩ := hall rt' hrt'
  obtain ⟨T, _, _, hpw⟩ := ids_by_seconds_file sec ml _ rt hrt
  exact ⟨hs.1.trans h0, hs.2.1.trans hperm, hpw⟩

/-- the witness of fixes/C06-8 (corpus/C06/tempo_zero_ids.json): track 0 sets the tempo to 0 and plays pitch 70 at
    tick 300 and pitch 60 at tick 610; track 1 sets the tempo to 500000 at tick 200 -/
def witness : List Track :=
  [[(0, Ev.tempo 0), (300, Ev.noteOn 0 70 64), (10, Ev.noteOff 0 70 0), (300, Ev.noteOn 0 60 64), (10, Ev.noteOff 0 60 0)],
   [(200, Ev.tempo 500000)]]

/-- the repaired loader: pitch 70 (onset 5/48 s) is n0, pitch 60 (onset 41/96 s) is n1 -/
example : (loadFileExact 500000 480 false witness).map (·.notes) = [[⟨70, 300, 310, 64, 0⟩, ⟨60, 610, 620, 64, 0⟩]] := by
  decide +kernel

example : secondsAt 500000 (witness.map toAbs) 480 300 = 5 / 48 ∧ secondsAt 500000 (witness.map toAbs) 480 610 = 41 / 96 := by
  decide +kernel

/-- NOT the code (before fixes/C06-8): sorted by the seconds accumulated while track 0 was read (all 0 after its tempo of 0)
    the later and lower note comes first -/
theorem provisional_order_wrong :
    (readTrackProvisional 480 (500000 / (480 * 1000000)) 0 (toAbs witness.head!)).notes
      = [⟨60, 610, 620, 64, 0⟩, ⟨70, 300, 310, 64, 0⟩] := by decide +kernel

/-- where seconds tie the order by seconds is NOT the order by ticks: both notes at 0 s under a tempo of 0 — the
    key goes on to the pitch (the hypothesis `StrictOn` of `loadFileS_eq_loadFile` cannot be dropped) -/
example : (loadFileExact 500000 480 false [[(0, Ev.tempo 0), (300, Ev.noteOn 0 70 64), (10, Ev.noteOff 0 70 0),
      (300, Ev.noteOn 0 60 64), (10, Ev.noteOff 0 60 0)]]).map (·.notes) = [[⟨60, 610, 620, 64, 0⟩, ⟨70, 300, 310, 64, 0⟩]]
    ∧ (loadFile false [[(0, Ev.tempo 0), (300, Ev.noteOn 0 70 64), (10, Ev.noteOff 0 70 0),
      (300, Ev.noteOn 0 60 64), (10, Ev.noteOff 0 60 0)]]).map (·.notes) = [[⟨70, 300, 310, 64, 0⟩, ⟨60, 610, 620, 64, 0⟩]] := by
  decide +kernel

/-- the hypotheses of `loadFileExact_eq_loadFile` are satisfiable by a file with tempo changes in two tracks -/
example : loadFileExact 500000 480 false [[(0, Ev.tempo 600000), (300, Ev.noteOn 0 70 64), (10, Ev.noteOff 0 70 0)],
      [(200, Ev.tempo 250000), (0, Ev.noteOn 1 60 1), (5, Ev.noteOff 1 60 0)]]
    = loadFile false [[(0, Ev.tempo 600000), (300, Ev.noteOn 0 70 64), (10, Ev.noteOff 0 70 0)],
      [(200, Ev.tempo 250000), (0, Ev.noteOn 1 60 1), (5, Ev.noteOff 1 60 0)]] := by
  apply loadFileExact_eq_loadFile 500000 480 (by decide) (by decide)
  · simp only [NonnegTicks]; decide
  · decide

end C06
