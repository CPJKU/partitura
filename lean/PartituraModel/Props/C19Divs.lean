/-
C19 — "the divisions chosen represent every duration exactly", END TO END, and the staff of every note.

`C19.mei_inferPpq_exact` (Props/C19.lean) is about an abstract list of written values.  Here the list is the one
the state machine of `Model/Mei.lean` collects while it reads a document, and the statements are about the notes,
rests and measures the document denotes.  All statements quantify over every event list.
-/
import PartituraModel.Proofs.C19Divs
import PartituraModel.Props.C19

namespace C19
open Model Model.Mei C19S C19P C19D

/-! ## which elements enter the inferred divisions -/

/-- `mei_every_dur_enters`: in ANY document that is read to the end, every element with a `@dur` attribute — `tag`
    is arbitrary: `note`, `chord`, `rest`, `space`, anything — is in the list from which `inferPpq` computes the
    divisions, with its value, its dots, its `@dur.ppq` and the tuplet it stands in. -/
theorem mei_every_dur_enters (pre post : List Ev) (tag : String) (as : List (String × String)) (ds : String) (st : St)
    (hd : attr as "dur" = some ds) (h : runEvs {} (pre ++ .op tag as :: post) = some st) :
    ∃ e ∈ st.durEls, durNumber ds = some e.v ∧ e.dots = (natAttr as "dots").getD 0 ∧ e.durppq = natAttr as "dur.ppq" := by
  rw [runEvs_append] at h
  obtain ⟨s1, _, h⟩ := Option.bind_eq_some_iff.mp h
  cases h2 : stepEv s1 (.op tag as) with
  | none => simp [runEvs, h2] at h
  | some s2 =>
    simp only [runEvs, h2] at h
    obtain ⟨e, he, hv, hdots, hppq, _⟩ := step_enters s1 s2 tag as ds h2 hd
    obtain ⟨⟨nd, hnd⟩, _⟩ := run_mono post s2 st h
    exact ⟨e, by rw [hnd, he]; simp, hv, hdots, hppq⟩

/-- the trial change `seeded/C19-i` (`_find_ppq` looking at `note`, `chord`, `rest` only): an eighth `<space>` between
    quarter notes is in the list, and the divisions inferred are 2, not 1 -/
example :
    let evs : List Ev := [.op "layer" [], .op "space" [("dur", "8")], .cl, .op "note" [("dur", "4"), ("pname", "g"), ("oct", "4")], .cl, .cl]
    ((runEvs {} evs).map fun st => (st.durEls.map (·.v), inferPpq st.durEls.reverse st.units.reverse)) = some ([4, 8], some 2) := by
  decide +kernel

/-! ## the inferred divisions are exact for the whole document -/

/-- `mei_document_divisions_exact`: read ANY event list to the end; if no element carries `@dur.ppq` and `q` is what
    `inferPpq` makes of the values collected on the way, then `q` is a positive whole number and every onset and
    duration of every note and rest read, and the start and end of every measure, is a whole number of `1/q`. -/
theorem mei_document_divisions_exact (evs : List Ev) (st : St) (q : Rat) (h : runEvs {} evs = some st)
    (hno : ∀ e ∈ st.durEls, e.durppq = none) (hq : inferPpq st.durEls.reverse st.units.reverse = some q) :
    (∃ m : Nat, 0 < m ∧ q = (m : Rat)) ∧
    (∀ n ∈ st.notes, (∃ k : Int, q * n.onset = (k : Rat)) ∧ ∃ k : Int, q * n.dur = (k : Rat)) ∧
    (∀ m ∈ st.measures, (∃ k : Int, q * m.2.2.2.1 = (k : Rat)) ∧ ∃ k : Int, q * m.2.2.2.2 = (k : Rat)) := by
  obtain ⟨hpos, hels, hunits⟩ := mei_inferPpq_exact st.durEls.reverse st.units.reverse q
    (fun e he => hno e (List.mem_reverse.mp he)) hq
  have hg := run_good q evs st h (fun e he hw => hels e (List.mem_reverse.mpr he) hw)
    (fun u hu h0 b => hunits u (List.mem_reverse.mpr hu) h0 b)
  exact ⟨hpos, hg.notes, hg.measures⟩

/-- `mei_parts_divisions_exact`: the same for the parts `denote` assembles: in a document whose staffDefs declare no
    `@ppq` and whose elements carry no `@dur.ppq`, the divisions of every part are a positive whole number that
    represents the onset and duration of each of its notes and rests, and its measure boundaries, exactly. -/
theorem mei_parts_divisions_exact (evs : List Ev) (st : St) (parts : List Part)
    (hrun : runEvs {} evs = some st) (hden : denote evs = some parts)
    (hnodur : ∀ e ∈ st.durEls, e.durppq = none) (hnoppq : ∀ d ∈ st.defs, d.ppq = none)
    (p : Part) (hp : p ∈ parts) (q : Rat) (hq : p.ppq = some q) :
    (∃ m : Nat, 0 < m ∧ q = (m : Rat)) ∧
    (∀ n ∈ p.notes, (∃ k : Int, q * n.onset = (k : Rat)) ∧ ∃ k : Int, q * n.dur = (k : Rat)) ∧
    (∀ m ∈ p.measures, (∃ k : Int, q * m.2.2.1 = (k : Rat)) ∧ ∃ k : Int, q * m.2.2.2 = (k : Rat)) := by
  rw [denote_eq, hrun] at hden
  simp only [Option.bind_some, partsOf] at hden
  obtain ⟨⟨d, i⟩, hdi, hmk⟩ := Lists.mapM_mem hden p hp
  have hd : d ∈ st.defs := by
    have := List.fst_mem_of_mem_zipIdx hdi
    simpa [partsInOrder] using this
  simp only [mkPart] at hmk
  cases hrm : resolveMeter st d with
  | none => simp [hrm] at hmk
  | some bu =>
    obtain ⟨mb, mu⟩ := bu
    simp only [hrm, Option.some.injEq] at hmk
    subst hmk
    simp only [hnoppq d hd] at hq
    obtain ⟨h1, h2, h3⟩ := mei_document_divisions_exact evs st q hrun hnodur hq
    refine ⟨h1, ?_, ?_⟩
    · intro n hn
      simp only [List.mem_mergeSort, List.mem_map, List.mem_filter, List.mem_reverse] at hn
      obtain ⟨r, ⟨hr, _⟩, rfl⟩ := hn
      exact h2 r hr
    · intro m hm
      simp only [List.mem_map, List.mem_filter, List.mem_reverse] at hm
      obtain ⟨r, ⟨hr, _⟩, rfl⟩ := hm
      exact h3 r hr

/-- non-vacuity: the document of `seeded/C19-i` — two layers, the second one `space 8, g 4, space 8, a 2` against
    four quarter notes, no ppq declared: divisions 2, the `g` starts at 1/2 -/
def fineDoc : List Ev :=
  [.op "score" [], .op "scoreDef" [("meter.count", "4"), ("meter.unit", "4")], .op "staffGrp" [],
   .op "staffDef" [("xml:id", "P1"), ("n", "1")], .cl, .cl, .cl, .op "section" [],
   .op "measure" [("n", "1")], .op "staff" [("n", "1")],
   .op "layer" [("n", "1")],
   .op "note" [("xml:id", "n1"), ("dur", "4"), ("pname", "c"), ("oct", "5")], .cl,
   .op "note" [("xml:id", "n2"), ("dur", "4"), ("pname", "d"), ("oct", "5")], .cl,
   .op "note" [("xml:id", "n3"), ("dur", "4"), ("pname", "e"), ("oct", "5")], .cl,
   .op "note" [("xml:id", "n4"), ("dur", "4"), ("pname", "f"), ("oct", "5")], .cl, .cl,
   .op "layer" [("n", "2")],
   .op "space" [("xml:id", "s1"), ("dur", "8")], .cl,
   .op "note" [("xml:id", "n5"), ("dur", "4"), ("pname", "g"), ("oct", "4")], .cl,
   .op "space" [("xml:id", "s2"), ("dur", "8")], .cl,
   .op "note" [("xml:id", "n6"), ("dur", "2"), ("pname", "a"), ("oct", "4")], .cl, .cl,
   .cl, .cl, .cl, .cl]

example : ((runEvs {} fineDoc).map fun st =>
      (st.durEls.all (fun e => e.durppq.isNone) && st.defs.all (fun d => d.ppq.isNone),
       inferPpq st.durEls.reverse st.units.reverse)) = some (true, some 2) := by
  decide +kernel

example : ((runEvs {} fineDoc).map fun st => st.notes.reverse.map fun n => (n.xmlid, n.onset, n.dur))
    = some [("n1", 0, 1), ("n2", 1, 1), ("n3", 2, 1), ("n4", 3, 1), ("n5", 1 / 2, 1), ("n6", 2, 2)] := by
  decide +kernel

/-! ## the staff a note stands on (cross-staff notation) -/

/-- `mei_chord_staff`: opening a `<chord>` inside a layer makes its `@staff` (or none) the default of its notes and
    leaves the enclosing staff, the notes read so far and the cursor alone -/
theorem mei_chord_staff (st s : St) (as : List (String × String)) (hl : inLayer st.stack = true)
    (h : stepEv st (.op "chord" as) = some s) :
    ∃ d, s.chord = some (d, natAttr as "staff") ∧ s.staffN = st.staffN ∧ s.notes = st.notes ∧ s.cursor = st.cursor := by
  rw [stepEv_op] at h
  obtain ⟨r, hr, rfl⟩ := Option.map_eq_some_iff.mp h
  exact openCore_chord (ctxOf st.stack) (core st) as r hl hr

/-- `mei_chord_note_staff`: a `<note>` directly inside a `<chord>` is read at the chord's onset with the chord's
    duration and stands on its own `@staff`, else on the `@staff` of the chord, else on the enclosing `<staff>`; the
    chord's default and the enclosing staff are the same for the notes that follow (the trial change `seeded/C19-j` made the
    first note's own `@staff` the default of the later notes of the chord). -/
theorem mei_chord_note_staff (st s : St) (as : List (String × String)) (d : Rat) (cstaff : Option Nat)
    (hl : inLayer st.stack = true) (hp : ptagOf st.stack = "chord") (hch : st.chord = some (d, cstaff))
    (h : stepEv st (.op "note" as) = some s) :
    ∃ n, s.notes = n :: st.notes ∧ n.staff = (natAttr as "staff").getD (cstaff.getD st.staffN) ∧
      n.onset = st.cursor ∧ n.dur = d ∧ n.voice = st.voice ∧
      s.chord = st.chord ∧ s.staffN = st.staffN ∧ s.cursor = st.cursor := by
  rw [stepEv_op] at h
  obtain ⟨r, hr, rfl⟩ := Option.map_eq_some_iff.mp h
  exact openCore_chord_note (ctxOf st.stack) (core st) as r hl hp d cstaff hch hr

/-- `mei_single_staff`: a `<note>`, `<rest>`, `<mRest>` or `<multiRest>` of a layer (not inside a chord) stands on its
    own `@staff`, else on the enclosing `<staff>`; it starts at the cursor, the cursor moves on by its duration, and the
    enclosing staff stays what it is for the elements that follow. -/
theorem mei_single_staff (st s : St) (tag : String) (as : List (String × String))
    (hl : inLayer st.stack = true) (hp : ptagOf st.stack ≠ "chord")
    (ht : tag = "note" ∨ tag = "rest" ∨ tag = "mRest" ∨ tag = "multiRest")
    (h : stepEv st (.op tag as) = some s) :
    ∃ n, s.notes = n :: st.notes ∧ n.staff = (natAttr as "staff").getD st.staffN ∧ n.onset = st.cursor ∧
      n.voice = st.voice ∧ s.staffN = st.staffN ∧ s.cursor = st.cursor + n.dur := by
  rw [stepEv_op] at h
  obtain ⟨r, hr, rfl⟩ := Option.map_eq_some_iff.mp h
  exact openCore_single (ctxOf st.stack) (core st) tag as r hl hp ht hr

/-- non-vacuity: the chord of `seeded/C19-j` inside `<staff n="1">`: `g3` on staff 2, then `e4` and `c5` without
    `@staff` — they stay on staff 1; a chord with `@staff="3"` whose middle note goes to staff 2 -/
example :
    let pre : List Ev := [.op "staff" [("n", "1")], .op "layer" [("n", "1")]]
    let ch1 : List Ev := [.op "chord" [("dur", "2")],
      .op "note" [("pname", "g"), ("oct", "3"), ("staff", "2")], .cl,
      .op "note" [("pname", "e"), ("oct", "4")], .cl, .op "note" [("pname", "c"), ("oct", "5")], .cl, .cl]
    let ch2 : List Ev := [.op "chord" [("dur", "2"), ("staff", "3")],
      .op "note" [("pname", "g"), ("oct", "3")], .cl,
      .op "note" [("pname", "e"), ("oct", "4"), ("staff", "2")], .cl, .op "note" [("pname", "c"), ("oct", "5")], .cl, .cl]
    ((runEvs { stack := [⟨"measure", [], none, none, none⟩] } (pre ++ ch1 ++ ch2)).map fun st =>
        st.notes.reverse.map fun n => (n.step, n.onset, n.staff))
      = some [("G", 0, 2), ("E", 0, 1), ("C", 0, 1), ("G", 2, 3), ("E", 2, 2), ("C", 2, 3)] := by
  decide +kernel

end C19
