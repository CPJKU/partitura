/-
C02 — where zero lies, for EVERY part, and why all parts of a score share it.

The code starts its cumulative sum at the first KEY point `t0` (time 0 for every part built through the
API: the initial quarter duration is stored there), not at the first time point (open finding F-C02-1).
This file characterises the origin exactly, with no hypothesis on where the part starts, and shows that parts
with the same quarter durations and signatures share it — what `Score.note_array()` / `save_score_midi` rely on.
-/
import PartituraModel.Props.C02
import PartituraModel.Proofs.C02Origin

namespace C02
open Model.TimeMap C02Proofs

-- as in Props/C02.lean
attribute [local irreducible] KnotsOK

/-- **Without a pickup, for every part**: at the first time point the map has the value
`elapsed [t0, first)` (0 exactly when nothing is stored before the first time point). -/
theorem origin_value_plain (p : Part) (m : Mode) (h : WF p m) (t0 : Int)
    (hk : (keyTimes p m).head? = some t0)
    (hno : pickupShift p m (knots (keypoints p m) 0) = 0) :
    fwd p m (p.first : Rat) = some (elapsed (keypoints p m) (t0 : Rat) (p.first : Rat)) := by
  obtain ⟨y, hy⟩ := fwd_defined p m h (p.first : Rat) (le_refl _) (by exact_mod_cast h.2.1.le)
  rw [hy, fwd_value p m h t0 hk _ y hy, hno, sub_zero]

/-- **With a pickup, for every part**: at the end of the pickup measure (start of the first full
measure) the map has the same value `elapsed [t0, first)`. -/
theorem origin_value_pickup (p : Part) (m : Mode) (h : WF p m) (t0 : Int)
    (hk : (keyTimes p m).head? = some t0) (e : Int) (a : Rat) (hp : Pickup p m e a) :
    fwd p m (e : Rat) = some (elapsed (keypoints p m) (t0 : Rat) (p.first : Rat)) := by
  obtain ⟨v0, h1, h2⟩ := pickup_end_value p m h e a hp
  rw [h2, (unshifted_value p m h t0 hk _ v0 h1).2]

theorem elapsed_pos (p : Part) (m : Mode) (h : WF p m) (t0 : Int)
    (hk : (keyTimes p m).head? = some t0) (x : Rat) (hx : (t0 : Rat) < x)
    (hx' : x ≤ ((lastOf (keyTimes p m) : Int) : Rat)) : 0 < elapsed (keypoints p m) (t0 : Rat) x := by
  have hok := knots0_ok p m h
  have hfx := (firstX_knots0 p m t0 hk).1
  have h0 := unshifted_first p m h t0 hk
  have hend : endX (knots (keypoints p m) 0) = ((lastOf (keyTimes p m) : Int) : Rat) :=
    endX_of_xs _ _ (by rw [knots_xs, ← keypoints_times, List.map_map]; rfl)
  obtain ⟨v, hv⟩ := interp_defined _ hok x (by rw [hfx]; exact hx.le) (by rw [hend]; exact hx')
  have := interp_strictMono _ hok _ _ _ _ hx h0 hv
  rw [(unshifted_value p m h t0 hk x v hv).2] at this
  exact this

theorem elapsed_first_eq_zero_iff (p : Part) (m : Mode) (h : WF p m) (t0 : Int)
    (hk : (keyTimes p m).head? = some t0) :
    elapsed (keypoints p m) (t0 : Rat) (p.first : Rat) = 0 ↔ t0 = p.first := by
  constructor
  · intro h0
    by_contra hne
    have hle : t0 ≤ p.first := head_le_of_pairwise _ t0 (keyTimes_pairwise p m) hk _ (first_mem_keyTimes p m)
    have hlt : (t0 : Rat) < (p.first : Rat) := by exact_mod_cast (lt_of_le_of_ne hle hne)
    have hl : (p.first : Rat) ≤ ((lastOf (keyTimes p m) : Int) : Rat) := by
      exact_mod_cast (last_key_spec p m).2.1 _ (first_mem_keyTimes p m)
    exact (elapsed_pos p m h t0 hk _ hlt hl).ne' h0
  · rintro rfl
    exact elapsed_zero (keypoints p m) _ _ (keypoints_ok p m h).1 (keypoints_allFrom p m _ hk)

/-- **Zero lies at the first time point (no pickup) if and only if the first key point is the first time
point** — the exact scope of `origin_plain_partial`. -/
theorem origin_zero_iff_plain (p : Part) (m : Mode) (h : WF p m) (t0 : Int)
    (hk : (keyTimes p m).head? = some t0)
    (hno : pickupShift p m (knots (keypoints p m) 0) = 0) :
    fwd p m (p.first : Rat) = some 0 ↔ t0 = p.first := by
  rw [origin_value_plain p m h t0 hk hno, Option.some.injEq]
  exact elapsed_first_eq_zero_iff p m h t0 hk

/-- **Zero lies at the start of the first full measure (pickup) if and only if the first key point is the
first time point** — the exact scope of `origin_pickup_partial`. -/
theorem origin_zero_iff_pickup (p : Part) (m : Mode) (h : WF p m) (t0 : Int)
    (hk : (keyTimes p m).head? = some t0) (e : Int) (a : Rat) (hp : Pickup p m e a) :
    fwd p m (e : Rat) = some 0 ↔ t0 = p.first := by
  rw [origin_value_pickup p m h t0 hk e a hp, Option.some.injEq]
  exact elapsed_first_eq_zero_iff p m h t0 hk

/-- **Zero of the map, for every part**: `z` is mapped to 0 exactly when it lies in the key-point range and
the stretch from the first key point to `z` is as long as the pickup shift (0 without a pickup). -/
theorem zero_characterisation (p : Part) (m : Mode) (h : WF p m) (t0 : Int)
    (hk : (keyTimes p m).head? = some t0) (z : Rat) :
    fwd p m z = some 0 ↔
      ((t0 : Rat) ≤ z ∧ z ≤ ((lastOf (keyTimes p m) : Int) : Rat) ∧
        elapsed (keypoints p m) (t0 : Rat) z = pickupShift p m (knots (keypoints p m) 0)) := by
  constructor
  · intro hz
    have hd := (fwd_defined_iff p m h t0 hk z).mp ⟨0, hz⟩
    have := fwd_value p m h t0 hk z 0 hz
    exact ⟨hd.1, hd.2, sub_eq_zero.mp this.symm⟩
  · rintro ⟨h0, h1, h2⟩
    obtain ⟨y, hy⟩ := (fwd_defined_iff p m h t0 hk z).mpr ⟨h0, h1⟩
    have := fwd_value p m h t0 hk z y hy
    rw [hy, this, h2, sub_self]

/-- there is at most one zero -/
theorem zero_unique (p : Part) (m : Mode) (h : WF p m) (z z' : Rat)
    (hz : fwd p m z = some 0) (hz' : fwd p m z' = some 0) : z = z' := by
  rcases lt_trichotomy z z' with hlt | heq | hgt
  · exact absurd (fwd_strictMono p m h z z' 0 0 hlt hz hz') (lt_irrefl _)
  · exact heq
  · exact absurd (fwd_strictMono p m h z' z 0 0 hgt hz' hz) (lt_irrefl _)

/-- without a pickup the zero is the first key point and nothing else -/
theorem zero_plain (p : Part) (m : Mode) (h : WF p m) (t0 : Int)
    (hk : (keyTimes p m).head? = some t0)
    (hno : pickupShift p m (knots (keypoints p m) 0) = 0) (z : Rat) :
    fwd p m z = some 0 ↔ z = (t0 : Rat) := by
  have h0 := origin_first_key p m h t0 hno hk
  constructor
  · intro hz; exact zero_unique p m h z _ hz h0
  · intro hz; rw [hz]; exact h0

/-- the pickup shift is the length of the pickup measure in the unit of the map -/
theorem pickup_shift_value (p : Part) (m : Mode) (h : WF p m) (t0 : Int)
    (hk : (keyTimes p m).head? = some t0) (e : Int) (a : Rat) (hp : Pickup p m e a) (hfe : p.first ≤ e) :
    pickupShift p m (knots (keypoints p m) 0) = a ∧
    a = elapsed (keypoints p m) (p.first : Rat) (e : Rat) := by
  refine ⟨pickupShift_of_pickup p m e a hp, ?_⟩
  obtain ⟨_, h2, _⟩ := hp
  obtain ⟨v0, v1, h3, h4, h5⟩ := actualDur_some _ _ _ _ h2
  obtain ⟨hok, _⟩ := keypoints_ok p m h
  obtain ⟨h0, hv0⟩ := unshifted_value p m h t0 hk _ v0 h3
  rw [h5, (unshifted_value p m h t0 hk _ v1 h4).2, hv0,
    ← elapsed_add (keypoints p m) (t0 : Rat) (p.first : Rat) (e : Rat) hok h0 (by exact_mod_cast hfe),
    add_sub_cancel_left]

/-- so with a pickup zero lies where the stretch from the first key point is as long as the pickup measure -/
theorem zero_pickup (p : Part) (m : Mode) (h : WF p m) (t0 : Int)
    (hk : (keyTimes p m).head? = some t0) (e : Int) (a : Rat) (hp : Pickup p m e a) (hfe : p.first ≤ e)
    (z : Rat) :
    fwd p m z = some 0 ↔
      ((t0 : Rat) ≤ z ∧ z ≤ ((lastOf (keyTimes p m) : Int) : Rat) ∧
        elapsed (keypoints p m) (t0 : Rat) z = elapsed (keypoints p m) (p.first : Rat) (e : Rat)) := by
  rw [zero_characterisation p m h t0 hk z]
  obtain ⟨h1, h2⟩ := pickup_shift_value p m h t0 hk e a hp hfe
  rw [h1, h2]

example : fwd lateStart .notated 0 = some 0 ∧ (keyTimes lateStart .notated).head? = some 0 ∧
    elapsed (keypoints lateStart .notated) 0 8 = 2 := by decide +kernel

/-- late start with a pickup: zero lies at 4 = one beat (the pickup's length) after time 0, not at 12 -/
example : fwd { lateStart with m1 := some (8, 12) } .notated 4 = some 0 ∧
    elapsed (keypoints { lateStart with m1 := some (8, 12) } .notated) 8 12 = 1 := by decide +kernel

/-- the first key point is the first time point exactly when nothing is stored before it -/
theorem first_key_iff (p : Part) (m : Mode) (hl : p.first ≤ p.last) :
    (keyTimes p m).head? = some p.first ↔
      ((∀ e ∈ p.qd, p.first ≤ e.1) ∧ (m ≠ .quarter → ∀ s ∈ p.ts, p.first ≤ s.t)) := by
  constructor
  · intro hk
    have hmin := head_le_of_pairwise _ p.first (keyTimes_pairwise p m) hk
    have hmem := fun t => (mem_keyTimes p m t).trans
      (by rw [mem_qdAssign_keys, mem_facAssign_keys])
    exact ⟨fun e he => hmin _ ((hmem _).mpr (Or.inr (Or.inr (Or.inl ⟨e, he, rfl⟩)))),
      fun hm s hs => hmin _ ((hmem _).mpr (Or.inr (Or.inr (Or.inr ⟨hm, s, hs, rfl⟩))))⟩
  · rintro ⟨hq, ht⟩
    exact first_key_eq p m p.first (first_mem_keyTimes p m) le_rfl hl hq ht

/-- **for a part built through the API the first key point is time 0**: the initial quarter duration is
stored at time 0 and no time is negative -/
theorem first_key_zero (p : Part) (m : Mode) (q0 : Nat) (h0 : (0, q0) ∈ p.qd)
    (hf : 0 ≤ p.first) (hl : p.first ≤ p.last) (hq : ∀ e ∈ p.qd, 0 ≤ e.1) (ht : ∀ s ∈ p.ts, 0 ≤ s.t) :
    (keyTimes p m).head? = some 0 := by
  refine first_key_eq p m 0 ?_ hf (hf.trans hl) hq fun _ => ht
  rw [mem_keyTimes, mem_qdAssign_keys]
  exact Or.inr (Or.inr (Or.inl ⟨(0, q0), h0, rfl⟩))

/-! ### all parts of a score share the origin -/

/-- **Common origin.**  Two parts with the same quarter durations and the same signatures (as the parts of
one score have), whose first key point is the same (time 0 for parts built through the API,
`first_key_zero`), have the same map at every position where both are defined, up to the difference of
their pickup shifts — whatever their first and last time points are.  In particular a part that enters
late gets, for a note sounding together with a note of another part, the same beat / quarter position;
this is why the origin is NOT moved to the part's own first time point (F-C02-1). -/
theorem origin_common_across_parts (p1 p2 : Part) (m : Mode) (h1 : WF p1 m) (h2 : WF p2 m)
    (hqd : p1.qd = p2.qd) (hts : p1.ts = p2.ts) (t0 : Int)
    (hk1 : (keyTimes p1 m).head? = some t0) (hk2 : (keyTimes p2 m).head? = some t0)
    (x y1 y2 : Rat) (hy1 : fwd p1 m x = some y1) (hy2 : fwd p2 m x = some y2) :
    y1 + pickupShift p1 m (knots (keypoints p1 m) 0) = y2 + pickupShift p2 m (knots (keypoints p2 m) 0) := by
  have v1 := fwd_value p1 m h1 t0 hk1 x y1 hy1
  have v2 := fwd_value p2 m h2 t0 hk2 x y2 hy2
  have d1 := (fwd_defined_iff p1 m h1 t0 hk1 x).mp ⟨y1, hy1⟩
  have d2 := (fwd_defined_iff p2 m h2 t0 hk2 x).mp ⟨y2, hy2⟩
  suffices hs : elapsed (keypoints p1 m) (t0 : Rat) x = elapsed (keypoints p2 m) (t0 : Rat) x by
    rw [v1, v2, hs]; ring
  -- both key-point lists carry the same assignments along key lists with the same head
  have un : ∀ p : Part, ∀ t, t ∉ keyTimes p m →
      lastAssoc (qdAssign p.qd) t = none ∧ lastAssoc (facAssign m p.ts) t = none := fun p t ht =>
    ⟨by_contra fun hne => ht (keyTimes_contains_qd p m t hne),
      by_contra fun hne => ht (keyTimes_contains_ts p m t hne)⟩
  have hkp2 : keypoints p2 m = carry (qdAssign p1.qd) (facAssign m p1.ts) (keyTimes p2 m) 1 1 := by
    rw [hqd, hts]; rfl
  rw [hkp2]
  exact elapsed_carry_congr _ _ _ _ t0 (keyTimes_pairwise p1 m) (keyTimes_pairwise p2 m) hk1 hk2
    (un p1) (hqd ▸ hts ▸ un p2) _ x ⟨_, (last_key_spec p1 m).1, d1.2⟩ ⟨_, (last_key_spec p2 m).1, d2.2⟩

/-- without pickups (or with equal pickups) the two maps are EQUAL on the common range -/
theorem common_origin_equal_shift (p1 p2 : Part) (m : Mode) (h1 : WF p1 m) (h2 : WF p2 m)
    (hqd : p1.qd = p2.qd) (hts : p1.ts = p2.ts) (t0 : Int)
    (hk1 : (keyTimes p1 m).head? = some t0) (hk2 : (keyTimes p2 m).head? = some t0)
    (hs : pickupShift p1 m (knots (keypoints p1 m) 0) = pickupShift p2 m (knots (keypoints p2 m) 0))
    (x y1 y2 : Rat) (hy1 : fwd p1 m x = some y1) (hy2 : fwd p2 m x = some y2) : y1 = y2 := by
  have := origin_common_across_parts p1 p2 m h1 h2 hqd hts t0 hk1 hk2 x y1 y2 hy1 hy2
  rw [hs] at this
  exact add_right_cancel this

/-- the model's `mapDiff` (what the correspondence check compares with `map_1(x) - map_2(x)` of the
implementation) is the constant `shift_2 - shift_1` -/
theorem mapDiff_const (p1 p2 : Part) (m : Mode) (h1 : WF p1 m) (h2 : WF p2 m)
    (hqd : p1.qd = p2.qd) (hts : p1.ts = p2.ts) (t0 : Int)
    (hk1 : (keyTimes p1 m).head? = some t0) (hk2 : (keyTimes p2 m).head? = some t0)
    (x d : Rat) (hd : mapDiff p1 p2 m x = some d) :
    d = pickupShift p2 m (knots (keypoints p2 m) 0) - pickupShift p1 m (knots (keypoints p1 m) 0) := by
  unfold mapDiff at hd
  cases hy1 : fwd p1 m x with
  | none => rw [hy1] at hd; cases hd
  | some y1 =>
    cases hy2 : fwd p2 m x with
    | none => rw [hy1, hy2] at hd; cases hd
    | some y2 =>
      rw [hy1, hy2] at hd
      simp only [Option.some.injEq] at hd
      have := origin_common_across_parts p1 p2 m h1 h2 hqd hts t0 hk1 hk2 x y1 y2 hy1 hy2
      rw [← hd, sub_eq_sub_iff_add_eq_add, add_comm (pickupShift p2 m _)]
      exact this

/-- non-vacuity: the late-starting part of F-C02-1 and a part of the same score that starts at 0 -/
def earlyStart : Part :=
  { npoints := 5, first := 0, last := 36, qd := [(0, 4)], ts := [⟨8, 3, 4, 3⟩], m1 := none, musical := false }

example : WF earlyStart .notated ∧ WF lateStart .notated ∧ earlyStart.qd = lateStart.qd ∧
    earlyStart.ts = lateStart.ts ∧ (keyTimes earlyStart .notated).head? = some 0 ∧
    (keyTimes lateStart .notated).head? = some 0 ∧
    fwd earlyStart .notated 20 = some 5 ∧ fwd lateStart .notated 20 = some 5 ∧
    mapDiff earlyStart { lateStart with m1 := some (8, 12) } .notated 20 = some 1 := by decide +kernel

end C02
