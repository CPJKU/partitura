/-
C03 — the element-by-element model of `_handle_direction` refines the pairing by number.

  Model/XmlDir.lean   `readDirections` (every `<direction>` of a part through `handleDirection`: the `ongoing` dict with its
                      wedge, dashes and pedal keys, `starting_directions` / `ending_directions`, the ends set at the
                      position of the stopping element), `slotAll` (ongoing[(kind, number)] as a finite map)
tied to the code by harness/props/c03.py streams dirs / slots.
-/
import PartituraModel.Proofs.C03DirRead
import PartituraModel.Props.C03Codec

namespace C03
open Model Model.XmlNote Model.XmlDir C03.DirRead

/-- **wedges_read.**  For every sequence of `<direction>` elements the exporter can write — dynamics marks, wedge starts and
    stops, words with and without dashes, dashes stops, pedal starts and stops, in any order and number, with any numbers
    other than 0 — the objects `readDirections` builds (the importer's `_handle_direction` element by element, wedges, dashes
    and pedals sharing one list of objects and one `ongoing` dict) contain as ended wedges exactly the pairs (start element,
    stop element) that `slotAll` closes on the wedge elements alone, and `ongoing[("wedge", n)]` holds exactly the start
    element `slotAll` has under `n`: dashes stops, pedals and new objects never touch a wedge. -/
theorem wedges_read (ws : List DirW) (hn : ∀ w ∈ ws, NumOK w) :
    (∀ a b, WPair (readDirections (ws.map canonDir)).objs a b ↔ (a, b) ∈ (slotAll (wedgeMarks ws)).2) ∧
    ∀ m : Nat, (Model.lookup (m : Int) (readDirections (ws.map canonDir)).wedge).bind
        (fun i => ((readDirections (ws.map canonDir)).objs[i]?).map (·.start)) =
      Model.lookup m (slotAll (wedgeMarks ws)).1 := by
  have h := (readDirections_all ws).wedge
  rw [wedgeMarksR_eq ws hn] at h
  refine ⟨h.closed, fun m => ?_⟩
  rw [← h.slots m, lookup_asLists]
  cases Model.lookup (m : Int) (readDirections (ws.map canonDir)).wedge <;> rfl

/-- **wedges_roundtrip.**  `wedges_read` composed with `wedges_paired`: when the wedge elements of the document are the ones
    the exporter's counter numbers (`marksOf`) for ranges that are met once as a start and once as a stop, start first,
    the wedge objects the importer builds are exactly the closed ranges, each from its own start element to its own stop
    element. -/
theorem wedges_roundtrip (ws : List DirW) (hn : ∀ w ∈ ws, NumOK w) (label : Nat) (tbl : Nat → C03.Ranges.Rng)
    (evs : List C03.Ranges.REv) (hwf : C03.Ranges.WFEvs [] [] evs) (hsf : C03.Slots.StartFirst [] evs)
    (hmarks : wedgeMarks ws = C03.Ranges.marksOf label tbl [] evs) (a b : Nat) :
    WPair (readDirections (ws.map canonDir)).objs a b ↔
      (a, b) ∈ (C03.Ranges.closedBy [] evs).map (fun r => ((tbl r).sN, (tbl r).eN)) := by
  rw [(wedges_read ws hn).1 a b, hmarks, (wedges_paired label tbl evs hwf hsf).1]

/-- two overlapping wedges (numbers 1 and 2), a pedal and words with dashes in between: elements 0 … 7 -/
example :
    let ws : List DirW := [.wedgeStart true 1 none, .pedalStart true none, .wedgeStart false 2 (some 2),
      .words ['c', 'r', 'e', 's', 'c', '.'] (some 1) none, .rangeStop true 1, .rangeStop false 1, .pedalStop true none,
      .rangeStop true 2]
    (∀ w ∈ ws, NumOK w) ∧ (slotAll (wedgeMarks ws)).2 = [(0, 4), (2, 7)] ∧
      (readDirections (ws.map canonDir)).objs.map (fun o => (o.start, o.kind, o.stop)) =
        [(0, 1, some 4), (1, 4, some 6), (2, 2, some 7), (3, 3, some 5)] := by
  refine ⟨?_, by decide, by decide⟩
  intro w hw
  simp only [List.mem_cons, List.not_mem_nil, or_false] at hw
  rcases hw with rfl | rfl | rfl | rfl | rfl | rfl | rfl | rfl <;> simp [NumOK]

/-- **pedals_read.**  The same for pedals, which share one slot (`ongoing[("pedal", 1)]`): for every sequence of elements the
    exporter can write, the pedal objects `readDirections` ends are exactly the pairs of the one-slot machine `pedStep` on the
    pedal elements alone — a stop ends the open pedal, a start ends the open pedal at its own position and opens the next;
    wedges, dashes and other objects never touch a pedal. -/
theorem pedals_read (ws : List DirW) (a b : Nat) :
    PPair (readDirections (ws.map canonDir)).objs a b ↔ (a, b) ∈ (pedalAll ws).2 :=
  (readDirections_all ws).pedal.pclosed a b

/-- **pedals_paired.**  When the pedal elements of the document come start / stop in turn — what `do_directions` writes for
    pedals that do not overlap — every pedal comes back from its own start element to its own stop element, and nothing
    else is a pedal. -/
theorem pedals_paired (ws : List DirW) (ps : List (Nat × Nat))
    (hmarks : ((ws.zipIdx).filterMap fun wi => pedalMark wi.2 wi.1) = ps.flatMap fun p => [(p.1, true), (p.2, false)])
    (a b : Nat) : PPair (readDirections (ws.map canonDir)).objs a b ↔ (a, b) ∈ ps := by
  rw [pedals_read, pedalAll, hmarks, pedal_alternating]
  simp

/-- two pedals, a wedge in between: elements 0 … 5 -/
example :
    let ws : List DirW := [.pedalStart true none, .wedgeStart true 1 none, .pedalStop true none, .pedalStart false (some 2),
      .rangeStop true 1, .pedalStop false (some 2)]
    ((ws.zipIdx).filterMap fun wi => pedalMark wi.2 wi.1) = [(0, 2), (3, 5)].flatMap fun p => [(p.1, true), (p.2, false)] := by
  decide +kernel

/-- a pedal start while a pedal is down ends that pedal where the new one starts -/
example : (pedalAll [.pedalStart true none, .pedalStart true none, .pedalStop true none]).2 = [(0, 1), (1, 2)] := by decide +kernel

/-- **dashes_read.**  And for dashes (`ongoing[("dashes", n)]` holds the objects of the element that opened them, which a
    dashes stop ends): the words objects `readDirections` ends are exactly the pairs `slotAll` closes on the dashes elements
    alone, and what is kept under each number is the start element `slotAll` has there. -/
theorem dashes_read (ws : List DirW) (hn : ∀ w ∈ ws, NumOK w) :
    (∀ a b, DPair (readDirections (ws.map canonDir)).objs a b ↔ (a, b) ∈ (slotAll (dashesMarks ws)).2) ∧
    ∀ m : Nat, (Model.lookup (m : Int) (readDirections (ws.map canonDir)).dashes).bind
        (fun l => l.head?.bind fun i => ((readDirections (ws.map canonDir)).objs[i]?).map (·.start)) =
      Model.lookup m (slotAll (dashesMarks ws)).1 := by
  have h := (readDirections_all ws).dashes
  rw [dashesMarksR_eq ws hn] at h
  exact ⟨h.closed, h.slots⟩

/-- **dashes_roundtrip.**  `dashes_read` composed with `wedges_paired` (which holds for any label of the counter). -/
theorem dashes_roundtrip (ws : List DirW) (hn : ∀ w ∈ ws, NumOK w) (label : Nat) (tbl : Nat → C03.Ranges.Rng)
    (evs : List C03.Ranges.REv) (hwf : C03.Ranges.WFEvs [] [] evs) (hsf : C03.Slots.StartFirst [] evs)
    (hmarks : dashesMarks ws = C03.Ranges.marksOf label tbl [] evs) (a b : Nat) :
    DPair (readDirections (ws.map canonDir)).objs a b ↔
      (a, b) ∈ (C03.Ranges.closedBy [] evs).map (fun r => ((tbl r).sN, (tbl r).eN)) := by
  rw [(dashes_read ws hn).1 a b, hmarks, (wedges_paired label tbl evs hwf hsf).1]

end C03
