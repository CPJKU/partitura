/-
C17 — voice estimation with the contig-mapping search INSIDE the model
(Model/Vosa.lean: VoSA.__init__, make_contigs, Contig, NoteStream, Voice(Manager),
VoSA.estimate_voices, pairwise_cost, est_best_connections, note_array), helper lemmas in
Proofs/C17Vosa*.lean.  The search is not a parameter and nothing about it is assumed: the
modelled search is proved to answer (never `none` = the code does not raise inside VoSA) on every
non-empty array and to answer every id exactly once.
-/
import PartituraModel.Props.C17
import PartituraModel.Proofs.C17Vosa
import PartituraModel.Proofs.C17VosaContigs
import PartituraModel.Proofs.C17VosaSearch

namespace C17
open Model Gen

/-- whatever the crystallisation decides, `VoSA(rows).note_array()` has one row per input row:
    the ids it answers are a permutation of the ids it was given (each exactly once), in onset order -/
theorem vosa_covers (rows : List Vosa.Row) (out : List (Nat × Int)) (h : Vosa.run rows = some out) :
    (out.map (·.1)).Perm (rows.map (·.1)) ∧ out.length = rows.length ∧
    out.map (·.1) = (Vosa.byOnset (Vosa.mkNotes rows)).map (·.id) :=
  ⟨C17S.run_covers rows out h, C17S.run_length rows out h, C17S.run_ids rows out h⟩

/-- the hypothesis is satisfiable: two simultaneous notes and a grace note (duration 0, row 2)
    that follows its main note, evaluated by the kernel -/
example : Vosa.run [(0, 60, 0, 1, 1), (1, 64, 0, 1, 1), (2, 62, 1, 0, 1)] = some [(0, 0), (1, 1), (2, 0)] := by
  decide +kernel

/-- `VosaCovers` — the hypothesis of `total_given_vosa` — holds for the modelled search -/
theorem vosa_model_covers (offs : List Rat) (mono : Bool) (notes : List Voices.VNote)
    (rows : List Vosa.Row) (hrows : Vosa.withOffsets offs (Voices.vosaInput mono notes) = some rows)
    (o : List (Nat × Int)) (hrun : Vosa.run rows = some o) :
    C17V.VosaCovers (fun _ => o) (Voices.vosaInput mono notes) := by
  unfold C17V.VosaCovers
  rw [← C17S.withOffsets_ids offs _ rows hrows]
  exact C17S.run_covers rows o hrun

/-- the rows handed to the search always have an offset: the conversion cannot fail -/
theorem offsets_total (offs : List Rat) (mono : Bool) (notes : List Voices.VNote)
    (hl : offs.length = notes.length) :
    ∃ rows, Vosa.withOffsets offs (Voices.vosaInput mono notes) = some rows :=
  C17S.withOffsets_total offs _ (fun r hr => by rw [hl]; exact C17S.vosaInput_lt mono notes r hr)

/-- the modelled search never raises on a non-empty array: grace notes always find a main note,
    `make_contigs` never reads an unbound `last_tp`, every `Contig` has non-empty streams and no more
    sounding notes than streams, every index the crystallisation loop uses (`vm[es]`, `streams[ns]`,
    `Voice.first/last`) exists — and it answers every id exactly once -/
theorem vosa_total (rows : List Vosa.Row) (hne : rows ≠ []) :
    ∃ out, Vosa.run rows = some out ∧ (out.map (·.1)).Perm (rows.map (·.1)) := by
  obtain ⟨cs, hcs⟩ := Option.isSome_iff_exists.mp (C17VosaSearch.search_isSome rows hne)
  have h : Vosa.run rows = some ((Vosa.byOnset (Vosa.mkNotes rows)).map fun n => (n.id, Vosa.voiceOut cs.2.voice n)) := by
    simp [Vosa.run, hcs]
  exact ⟨_, h, C17S.run_covers rows _ h⟩

/-- the empty array is rejected (`np.max` of an empty array raises) -/
theorem vosa_empty : Vosa.run [] = none := by decide +kernel

/-- totality and well-formedness of `estimate_voices` with the search inside the model — no
    hypothesis about the search left: both modes, zero-duration notes included, any rounding of
    `onset + duration` (`offs`): every input note receives exactly one voice, all voices are ≥ 1 and
    they are numbered 1..k without gaps -/
theorem voices_total (offs : List Rat) (mono : Bool) (notes : List Voices.VNote) (hne : notes ≠ [])
    (hl : offs.length = notes.length) :
    ∃ out, Vosa.estimateVoicesWith offs mono notes = some out ∧ out.length = notes.length ∧
      (∀ x ∈ out, 1 ≤ x) ∧ ∃ k : Int, ∀ x, x ∈ out ↔ 1 ≤ x ∧ x ≤ k := by
  obtain ⟨rows, hrows⟩ := offsets_total offs mono notes hl
  have hrne : rows ≠ [] := by
    intro e
    have hids := C17S.withOffsets_ids offs _ rows hrows
    rw [e] at hids
    obtain ⟨id, hid, _⟩ := (C17V.equivs_facts mono notes).2 0 (by
      cases notes with
      | nil => exact absurd rfl hne
      | cons a r => simp)
    rw [← hids] at hid
    simp at hid
  obtain ⟨o, ho, _⟩ := vosa_total rows hrne
  have hc := vosa_model_covers offs mono notes rows hrows o ho
  obtain ⟨out, h1, h2, h3, h4⟩ := total_given_vosa (fun _ => o) mono notes hne hc
  refine ⟨out, ?_, h2, h3, h4⟩
  simp only [Vosa.estimateVoicesWith, hne, if_false, hrows, ho, Option.bind_some, h1]

/-- the same with exact sums as offsets -/
theorem voices_total_exact (mono : Bool) (notes : List Voices.VNote) (hne : notes ≠ []) :
    ∃ out, Vosa.estimateVoicesExact mono notes = some out ∧ out.length = notes.length ∧
      (∀ x ∈ out, 1 ≤ x) ∧ ∃ k : Int, ∀ x, x ∈ out ↔ 1 ≤ x ∧ x ≤ k :=
  voices_total (Vosa.exactOffsets notes) mono notes hne (by simp [Vosa.exactOffsets])

/-- the hypotheses are satisfiable and the conclusion is not vacuous: C major triad as a chord plus
    a passing note, chord mode, evaluated by the kernel (three voices 1, 2, 3 from the top) -/
example : Vosa.estimateVoicesExact false [(60, 0, 1), (64, 0, 1), (67, 0, 2), (62, 1, 1)] = some [2, 2, 1, 2] := by
  decide +kernel

/-- chord mode with the modelled search: notes with identical onset and duration receive the same voice -/
theorem chord_same_voice_modelled (offs : List Rat) (notes : List Voices.VNote) (out : List Int)
    (h : Vosa.estimateVoicesWith offs false notes = some out) (i j : Nat)
    (hi : i < notes.length) (hj : j < notes.length)
    (hon : notes[i].2.1 = notes[j].2.1) (hdu : notes[i].2.2 = notes[j].2.2) :
    out[i]? = out[j]? := by
  simp only [Vosa.estimateVoicesWith] at h
  split at h
  · exact absurd h (by simp)
  · cases hs : (Vosa.withOffsets offs (Voices.vosaInput false notes)).bind Vosa.run with
    | none => rw [hs] at h; exact absurd h (by simp)
    | some o =>
      rw [hs] at h
      exact chord_same_voice (fun _ => o) notes out h i j hi hj hon hdu

/-- the empty array is rejected (the code raises) -/
theorem voices_modelled_empty (offs : List Rat) (mono : Bool) : Vosa.estimateVoicesWith offs mono [] = none := by
  simp [Vosa.estimateVoicesWith]

/-- `VoSA.__init__`: every grace note (duration 0) finds its main note whenever some note has a
    duration — the `np.argmin` over the candidates is never over an empty array (defect C17-2 repaired) -/
theorem vosa_grace_total (notes : List Vosa.N) : (Vosa.graceLinks notes).isSome :=
  C17VosaContigs.graceLinks_isSome notes

/-- `make_contigs`: on a non-empty score the loop that cuts the timepoints into contigs never reads
    the unbound `last_tp` (a timepoint with sounding notes that is not a boundary always follows a contig) -/
theorem vosa_contig_lists_total (notes : List Vosa.N) (hne : notes ≠ []) :
    (Vosa.contigNoteLists notes).isSome := by
  obtain ⟨cl, h, _⟩ := C17VosaContigs.contigNoteLists_spec (fun _ => True) (fun _ => True) (fun _ _ _ => trivial)
    (fun _ _ _ _ _ => trivial) notes hne (fun _ => trivial)
  rw [h]; rfl

/-- `Contig(notes)` never raises on a non-empty note list: no onset has more sounding notes than
    there are streams (no IndexError) and every stream receives a note at the contig's onset, because
    the first timepoint with the maximal number of sounding notes is an onset (no empty NoteStream) -/
theorem vosa_contig_total (l : List Vosa.N) (hne : l ≠ []) : (Vosa.mkContig l).isSome :=
  C17VosaContigs.mkContig_isSome l hne

/-- `est_best_connections` on an R × C cost matrix asked for `n ≤ min R C` connections (in the search
    n = the number of streams of the neighbour contig, R = the number of voices): it answers exactly n
    connections, no stream of either side is used twice, and every index lies inside the matrix -/
theorem best_connections_matching (cost : List (List Int)) (C n : Nat) (hrect : C17S.Rect cost C)
    (hR : n ≤ cost.length) (hC : n ≤ C) :
    let b := (Vosa.estBest cost n).1
    b.length = n ∧ (b.map (·.1)).Nodup ∧ (b.map (·.2)).Nodup ∧ ∀ x ∈ b, x.1 < cost.length ∧ x.2 < C := by
  have h := C17S.bestAux_matching cost C hrect n [] [] List.nodup_nil List.nodup_nil (by simpa using hR) (by simpa using hC)
  simp only [List.append_nil] at h
  exact ⟨C17S.bestAux_length cost n [] [], h.1, h.2.1, h.2.2⟩

/-- the unassigned streams are exactly the rows without a connection -/
theorem best_connections_unassigned (cost : List (List Int)) (n i : Nat) :
    i ∈ (Vosa.estBest cost n).2 ↔ i < cost.length ∧ i ∉ (Vosa.estBest cost n).1.map (·.1) := by
  simp [Vosa.estBest, List.mem_filter]

/-- global-minimum policy: the first connection has the smallest cost of the whole matrix -/
theorem best_connections_first_min (cost : List (List Int)) (C n : Nat) (hrect : C17S.Rect cost C)
    (hR : 0 < cost.length) (hC : 0 < C) :
    ∃ i j v, (Vosa.estBest cost (n + 1)).1.head? = some (i, j) ∧
      (∃ row, cost[i]? = some row ∧ row[j]? = some v) ∧
      ∀ (i' j' : Nat) (row' : List Int) (v' : Int), cost[i']? = some row' → row'[j']? = some v' → v ≤ v' :=
  C17S.bestAux_first_min cost n (C17S.entries_nonempty cost C hrect [] [] (by simpa using hR) (by simpa using hC))

/-- non-vacuity: a 3 × 2 matrix with a tie (the first smallest entry in row-major order wins) -/
example : Vosa.estBest [[3, 1], [1, 1], [0, 1]] 2 = ([(2, 0), (0, 1)], [1]) := by decide +kernel

/-- outside the domain (more connections asked for than rows) numpy's masked argmin answers index 0:
    the model mirrors it, and the result is not a matching — which is why the theorem needs n ≤ R -/
example : Vosa.estBest [[1, 2, 3]] 3 = ([(0, 0), (0, 0), (0, 0)], []) := by decide +kernel

/-- `pairwise_cost`: a note continuing into the next contig costs -MAX_COST, a skipped stream
    MAX_COST, everything else the pitch distance (the constant is regenerated from the source) -/
theorem pairwise_cost_entry (skip : Array Nat) (c n : Vosa.N) (sc sn : Nat)
    (hc : skip[c.ix]? = some sc) (hn : skip[n.ix]? = some sn) :
    Vosa.cost1 skip c n =
      some (if c.ix = n.ix then -VOSA_MAX_COST
            else if sc ≠ 0 ∨ sn ≠ 0 then VOSA_MAX_COST else ((c.p - n.p).natAbs : Int)) := by
  unfold Vosa.cost1
  by_cases h : c.ix = n.ix
  · simp [h]
  · simp only [h, if_false, hc, hn]
    by_cases h1 : sc ≠ 0 ∨ sn ≠ 0
    · simp only [h1, if_true]
      rcases h1 with h1 | h1 <;> simp [h1]
    · simp only [h1, if_false]
      push Not at h1
      simp [h1.1, h1.2]

/-- non-vacuity: a skipped stream (skip_contig 1 on the left note) costs MAX_COST whatever the pitches -/
example : Vosa.cost1 #[1, 0] { ix := 0, id := 0, p := 60, on := 0, du := 1, off := 1 }
    { ix := 1, id := 1, p := 62, on := 1, du := 1, off := 2 } = some VOSA_MAX_COST := by decide +kernel

end C17
