/-
C19 — the STRUCTURE of an MEI document does not change the notes it denotes.

`<section>` elements only group measures, and a `<tie>` element links the two notes it names wherever it
is written.  The theorems are about the state machine of `Model/Mei.lean` (`runEvs`, `denote`: the semantics
`load_mei` is compared with on every run, on documents cut into sibling / nested sections and endings in many
ways).  Everything is quantified over all event lists — no bound on the number of sections, their depth, or
what stands in them.
-/
import PartituraModel.Proofs.C19Sections

namespace C19
open Model Model.Mei C19S

/-- `mei_ties_collected`: after reading ANY event list the tie list holds exactly the `<tie startid endid>`
    elements of the list, in document order — whichever measure, section or ending a tie stands in, before or
    after the notes it names; no other element (a `<slur>` with the same attributes, say) adds one. -/
theorem mei_ties_collected (evs : List Ev) (st : St) (h : runEvs {} evs = some st) :
    st.ties.reverse = tiesOf evs := by
  have := (run_ties evs {} st h).1
  rw [this]
  simp

/-- the ties of a document are those of its pieces: cutting the events anywhere loses none -/
theorem mei_ties_of_pieces (a b : List Ev) : tiesOf (a ++ b) = tiesOf a ++ tiesOf b := by
  rw [tiesOf_eq_flatMap, tiesOf_eq_flatMap, tiesOf_eq_flatMap, List.flatMap_append]

/-- a `<tie>` contributes the pair of ids it names (without `#`), an element of any other name nothing -/
theorem mei_tie_element (tag : String) (as : List (String × String)) (a b : String)
    (ha : attr as "startid" = some a) (hb : attr as "endid" = some b) :
    tieOf tag as = if tag = "tie" then [(String.ofList (a.toList.drop 1), String.ofList (b.toList.drop 1))] else [] := by
  simp [tieOf, ha, hb]

example : tiesOf [.op "slur" [("startid", "#a"), ("endid", "#b")], .cl,
                  .op "tie" [("startid", "#a"), ("endid", "#b")], .cl] = [("a", "b")] := by decide +kernel

/-- `mei_section_merge`: two sibling sections denote what one section holding the content of both denotes.
    If after the events `pre` the innermost open element is a `<section>`, then closing it and opening a new
    `<section>` right there (with any attributes that are not durations) changes nothing of the denotation —
    read from right to left: a section may be cut in two between any two of its children. -/
theorem mei_section_merge (pre post : List Ev) (as : List (String × String)) (st : St)
    (hrun : runEvs {} pre = some st) (htop : ptagOf st.stack = "section") (hp : PlainAttrs as) :
    denote (pre ++ .cl :: .op "section" as :: post) = denote (pre ++ post) := by
  have hin : st.inSection = true := inSection_of_run pre st hrun htop
  rw [denote_append pre _ st hrun, denote_append pre _ st hrun]
  cases hs : st.stack with
  | nil => simp [ptagOf, hs] at htop
  | cons f rest =>
    have hf : f.tag = "section" := by simpa [ptagOf, hs] using htop
    exact bind_partsOf_of_rel (fun a b h => h.1) _ _ (cut_state st f rest as post hs hf hin hp)

/-- `mei_section_unnest`: a section nested directly in a section denotes what its content denotes.
    If after `pre` the innermost open element is a `<section>` and `mid` is a list of whole elements, then
    wrapping `mid` into a further `<section>` changes nothing — to any depth, by repetition. -/
theorem mei_section_unnest (pre mid post : List Ev) (as : List (String × String)) (st : St)
    (hrun : runEvs {} pre = some st) (htop : ptagOf st.stack = "section") (hp : PlainAttrs as) (hb : Balanced mid) :
    denote (pre ++ .op "section" as :: (mid ++ .cl :: post)) = denote (pre ++ (mid ++ post)) := by
  have hin : st.inSection = true := inSection_of_run pre st hrun htop
  rw [denote_append pre _ st hrun, denote_append pre _ st hrun]
  rw [unnest_grp_state st _ as mid post (transparent_of_grp (Or.inl rfl)) (stepEv_section st as hp hin)
    (transparent_of_grp (Or.inl htop)).neutral hb]

/-- an empty `<section/>` inside a section denotes nothing -/
theorem mei_section_empty (pre post : List Ev) (as : List (String × String)) (st : St)
    (hrun : runEvs {} pre = some st) (htop : ptagOf st.stack = "section") (hp : PlainAttrs as) :
    denote (pre ++ .op "section" as :: .cl :: post) = denote (pre ++ post) :=
  mei_section_unnest pre [] post as st hrun htop hp rfl

/-- the attributes of a `<section>` (`xml:id`, `n`, `label`, ...) carry no denotation: two documents that differ
    only in the attributes of the section that is innermost after `pre` denote the same -/
theorem mei_section_attrs (pre post : List Ev) (as as' : List (String × String))
    (hp : PlainAttrs as) (hp' : PlainAttrs as') (st : St) (hrun : runEvs {} pre = some st) (hin : st.inSection = true) :
    denote (pre ++ .op "section" as :: post) = denote (pre ++ .op "section" as' :: post) := by
  rw [denote_append pre _ st hrun, denote_append pre _ st hrun]
  simp only [runEvs, stepEv_section st as hp hin, stepEv_section st as' hp' hin]
  refine bind_partsOf_of_rel (fun a b h => h.1) _ _ (run_simG post _ _ ⟨rfl, ?_⟩)
  exact .cons (Or.inr ⟨transparent_of_grp (Or.inl rfl), transparent_of_grp (Or.inl rfl)⟩) (StkG.refl _)

/-! ## non-vacuity: the document of the trial change `seeded/C19-g` (a tie written in the first of two sibling sections) -/

def hdr : List Ev :=
  [.op "score" [], .op "scoreDef" [], .op "staffGrp" [],
   .op "staffDef" [("xml:id", "P1"), ("n", "1"), ("meter.count", "2"), ("meter.unit", "4"), ("key.sig", "0")], .cl, .cl, .cl]

def measure (n : String) (notes : List Ev) (ctl : List Ev) : List Ev :=
  [.op "measure" [("n", n)], .op "staff" [("n", "1")], .op "layer" [("n", "1")]] ++ notes ++ [.cl, .cl] ++ ctl ++ [.cl]

def note (id dur pname : String) : List Ev :=
  [.op "note" [("xml:id", id), ("dur", dur), ("pname", pname), ("oct", "4")], .cl]

def tieEl (a b : String) : List Ev := [.op "tie" [("startid", a), ("endid", b)], .cl]

/-- up to the end of the first measure, inside section A: the tie `a2 → a3` is written here -/
def pre1 : List Ev :=
  hdr ++ [.op "section" [("xml:id", "A")]] ++ measure "1" (note "a1" "4" "c" ++ note "a2" "4" "e") (tieEl "#a2" "#a3")

def post1 : List Ev := measure "2" (note "a3" "2" "e") [] ++ [.cl, .cl]

theorem pre1_state : ∃ st, runEvs {} pre1 = some st ∧ ptagOf st.stack = "section" ∧
    Balanced (measure "2" (note "a3" "2" "e") []) ∧ PlainAttrs [("xml:id", "B")] := by
  refine ⟨_, rfl, ?_, ?_, ?_⟩ <;> decide +kernel

example : ∃ st, runEvs {} pre1 = some st ∧ ptagOf st.stack = "section" ∧ Balanced (measure "2" (note "a3" "2" "e") []) ∧
    PlainAttrs [("xml:id", "B")] := pre1_state

/-- two sibling sections `A | B` and the single section `A` denote the same -/
example : denote (pre1 ++ .cl :: .op "section" [("xml:id", "B")] :: post1) = denote (pre1 ++ post1) := by
  obtain ⟨st, h1, h2, _, h4⟩ := pre1_state
  exact mei_section_merge pre1 post1 _ st h1 h2 h4

/-- ... and the tie written in `A` is there at the end of the two-section document: the e of one quarter (`a2`)
    is continued by the e of a half (`a3`, in section `B`), two more quarters -/
example : ((runEvs {} (pre1 ++ .cl :: .op "section" [("xml:id", "B")] :: post1)).map fun st =>
      (st.ties, st.notes.reverse.map (fun n => (n.xmlid, n.onset, n.dur)), chainDur st.notes st.ties st.ties.length "a2"))
    = some ([("a2", "a3")], [("a1", 0, 1), ("a2", 1, 1), ("a3", 2, 2)], 2) := by
  decide +kernel

end C19
