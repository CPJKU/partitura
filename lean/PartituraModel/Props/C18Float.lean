/-
C18 — what single-precision storage of the logarithmic parameters does to the decoded numbers, over ℝ.

The encoder stores `articulation_log`, `beat_period_log` and `beat_period_ratio_log` as float32: a stored column is
`x·(1 + δ)` with `|δ| ≤ u = 2⁻²⁴`; the decoder reads it back through `2 ** ·`.  The oracle of harness/props/c18.py lets the
tolerances of everything computed from such a column grow with `max(1, |x| / 4)` times `2⁻²⁰`.  Here that factor is proved.
-/
import Mathlib.Analysis.SpecialFunctions.Log.Base
import Mathlib.Analysis.Convex.SpecificFunctions.Basic
import PartituraModel.Proofs.Round

namespace C18

theorem exp2_abs_sub_one (t : ℝ) : |(2 : ℝ) ^ t - 1| ≤ (2 : ℝ) ^ |t| - 1 := by
  rcases le_total 0 t with h | h
  · rw [abs_of_nonneg h, abs_of_nonneg (sub_nonneg.2 (Real.one_le_rpow one_le_two h))]
  · have hz0 : (0 : ℝ) < 2 ^ t := Real.rpow_pos_of_pos two_pos t
    have hz1 : (2 : ℝ) ^ t ≤ 1 := Real.rpow_le_one_of_one_le_of_nonpos one_le_two h
    rw [abs_of_nonpos h, abs_of_nonpos (sub_nonpos.2 hz1), neg_sub, Real.rpow_neg two_pos.le]
    -- `1 - z ≤ z⁻¹ (1 - z)` for `0 < z ≤ 1`
    calc 1 - (2 : ℝ) ^ t ≤ ((2 : ℝ) ^ t)⁻¹ * (1 - 2 ^ t) :=
          le_mul_of_one_le_left (sub_nonneg.2 hz1) ((one_le_inv₀ hz0).2 hz1)
      _ = _ := by rw [mul_sub, inv_mul_cancel₀ hz0.ne', mul_one]

theorem exp2_sub_one_le (s : ℝ) (h0 : 0 ≤ s) (h1 : s ≤ 1) : (2 : ℝ) ^ s - 1 ≤ s := by
  have := rpow_one_add_le_one_add_mul_self (s := 1) (by norm_num) h0 h1
  norm_num at this
  linarith

/-- a logarithmic column `x` stored with relative error `δ`, read back through `2 ** ·` -/
theorem exp2_stored_column (x δ u : ℝ) (hδ : |δ| ≤ u) (hu : |x| * u ≤ 1) :
    |(2 : ℝ) ^ (x * (1 + δ)) - (2 : ℝ) ^ x| ≤ (2 : ℝ) ^ x * (|x| * u) := by
  have hpos : (0 : ℝ) < (2 : ℝ) ^ x := Real.rpow_pos_of_pos (by norm_num) x
  have e : (2 : ℝ) ^ (x * (1 + δ)) = (2 : ℝ) ^ x * (2 : ℝ) ^ (x * δ) := by
    rw [← Real.rpow_add (by norm_num)]
    congr 1
    ring
  have hx0 : 0 ≤ |x| := abs_nonneg x
  have hle : |x * δ| ≤ |x| * u := by
    rw [abs_mul]
    exact mul_le_mul_of_nonneg_left hδ hx0
  have hs0 : 0 ≤ |x| * u := le_trans (abs_nonneg _) hle
  have h1 : |(2 : ℝ) ^ (x * δ) - 1| ≤ |x| * u := by
    calc |(2 : ℝ) ^ (x * δ) - 1| ≤ (2 : ℝ) ^ |x * δ| - 1 := exp2_abs_sub_one _
      _ ≤ (2 : ℝ) ^ (|x| * u) - 1 := by
        have := Real.rpow_le_rpow_of_exponent_le (x := 2) (by norm_num) hle
        linarith
      _ ≤ |x| * u := exp2_sub_one_le _ hs0 hu
  rw [e]
  have : (2 : ℝ) ^ x * (2 : ℝ) ^ (x * δ) - (2 : ℝ) ^ x = (2 : ℝ) ^ x * ((2 : ℝ) ^ (x * δ) - 1) := by ring
  rw [this, abs_mul, abs_of_pos hpos]
  exact mul_le_mul_of_nonneg_left h1 (le_of_lt hpos)

/-- the oracle's factor: with `u = 2⁻²⁴` the relative error `|x|·u` is below `2⁻²⁰ · max(1, |x| / 4)` -/
theorem stored_log_tolerance (x : ℝ) : |x| * (1 / 16777216) ≤ 1 / 1048576 * max 1 (|x| / 4) := by
  have h := le_max_right (1 : ℝ) (|x| / 4)
  have hx := abs_nonneg x
  linarith

example : |(2 : ℝ) ^ ((-18 : ℝ) * (1 + 1 / 16777216)) - (2 : ℝ) ^ (-18 : ℝ)| ≤ (2 : ℝ) ^ (-18 : ℝ) * (|(-18 : ℝ)| * (1 / 16777216)) :=
  exp2_stored_column _ _ _ (by norm_num [abs_le]) (by norm_num [abs_le])

/-- two relative errors in a product: `Q` within `α` of `P`, then a factor `1 + ε` (`Round.rel_comp`) -/
theorem abs_mul_one_add_sub_le {P Q α ε u : ℝ} (hP : 0 ≤ P) (hQ : |Q - P| ≤ P * α) (hε : |ε| ≤ u) :
    |Q * (1 + ε) - P| ≤ P * ((1 + α) * (1 + u) - 1) := by
  have h2 : |Q * (1 + ε) - Q| ≤ |Q| * u := by
    rw [mul_add, mul_one, add_sub_cancel_left, abs_mul]
    exact mul_le_mul_of_nonneg_left hε (abs_nonneg _)
  have h := Round.rel_comp ((abs_nonneg ε).trans hε) (by rwa [abs_of_nonneg hP]) h2
  rw [abs_of_nonneg hP] at h
  exact h.trans_eq (by ring)

/-- the decoded duration: `articulation_log = a` stored with relative error `δ`, the beat period with `ε` -/
theorem decoded_duration_stored (a sd bp δ ε u : ℝ) (hsd : 0 ≤ sd) (hbp : 0 ≤ bp) (hδ : |δ| ≤ u) (hε : |ε| ≤ u)
    (hu : |a| * u ≤ 1) (hu1 : u ≤ 1) :
    |(2 : ℝ) ^ (a * (1 + δ)) * sd * (bp * (1 + ε)) - (2 : ℝ) ^ a * sd * bp|
      ≤ (2 : ℝ) ^ a * sd * bp * ((1 + |a| * u) * (1 + u) - 1) := by
  have hsb := mul_nonneg hsd hbp
  have h := abs_mul_one_add_sub_le (Real.rpow_pos_of_pos two_pos a).le (exp2_stored_column a δ u hδ hu) hε
  calc _ = |(2 : ℝ) ^ (a * (1 + δ)) * (1 + ε) - (2 : ℝ) ^ a| * (sd * bp) := by
        rw [← abs_of_nonneg hsb, ← abs_mul]; congr 1; ring
    _ ≤ _ := mul_le_mul_of_nonneg_right h hsb
    _ = _ := by ring

/-- with `u = 2⁻²⁴` that bound is below the oracle's `2⁻²⁰ · max(1, |a|)` -/
theorem decoded_duration_tolerance (a : ℝ) :
    (1 + |a| * (1 / 16777216)) * (1 + 1 / 16777216) - 1 ≤ 1 / 1048576 * max 1 |a| := by
  have h1 := le_max_left (1 : ℝ) |a|
  have h2 := le_max_right (1 : ℝ) |a|
  have hx := abs_nonneg a
  linarith

end C18
