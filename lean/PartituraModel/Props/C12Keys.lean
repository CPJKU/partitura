/-
C12 — key names.

`key_name_to_fifths_mode` is characterised on EVERY string (not only on the thirty names of the two tables): it
rejects exactly the strings that do not begin with one of the seven letters of its list of fifths, and on every other
string it returns the position of that letter on the line of fifths (C = 0), three lower for a name that contains
an `m`, seven lower per `b` when there is a `b`, else seven higher per `#`.  From this closed form: the tonic named
by a key name has the pitch class twelve-tone arithmetic gives its number of fifths (BASE_PC / step2pc agree with the
key tables), for every number of accidentals; and the key table of the key estimator (globals.KEYS) agrees with
MAJOR_KEYS / MINOR_KEYS.
-/
import PartituraModel.Proofs.C12Keys
import PartituraModel.Props.C12Ext

namespace C12
open Model Gen Gen.C12 C12Bridge C12Keys

/-- closed form of `key_name_to_fifths_mode` -/
def keyNameValue (name : String) : Option (Int × Mode) :=
  match name.toList with
  | [] => none
  | c :: _ =>
    coreValue k2fFifthsList (String.ofList [c]) (name.toList.contains 'm') (name.toList.contains 'b')
      (countChar 'b' name) (countChar '#' name)

/-- **every string**: the string algorithm of `key_name_to_fifths_mode` computes the closed form -/
theorem key_name_closed_form (name : String) : keyNameToFifthsModeG name = keyNameValue name := by
  unfold keyNameToFifthsModeG keyNameValue
  rw [keyNameL_core]
  cases hcs : name.toList with
  | nil => rfl
  | cons c rest =>
    simp only
    rw [← hcs]
    apply keyCore_value
    · intro h
      have hn : name = "F" := by simpa using h
      subst hn
      decide
    · -- two characters, one of them `m`, the first a letter of the list: the other one is the `m`
      intro hl hm hi
      have hnot : ∀ x ∈ ['m', '#'], indexOf (String.ofList [x]) k2fFifthsList = none := by decide
      match rest, hcs with
      | [d], hcs =>
        have hc : ∀ x ∈ ['m', '#'], c ≠ x := fun x hx e => by rw [e, hnot x hx] at hi; cases hi
        have hd : d = 'm' := by
          rw [hcs] at hm
          simpa [(hc 'm' (by simp)).symm, eq_comm] using hm
        simp [countChar, hcs, hd, hc '#' (by simp)]
      | [], hcs | _ :: _ :: _, hcs => simp [hcs] at hl
    · intro hb
      have := mt (countChar_pos 'b' name).mp (by rw [hb]; exact Bool.false_ne_true)
      omega

/-- position of a letter on the line of fifths (the regenerated `fifths_list`; C is the origin) -/
def fifthsOfLetter (c : Char) : Option Int := (indexOf (String.ofList [c]) k2fFifthsList).map fun (i : Nat) => (i : Int) - 1

theorem coreValue_letter (c : Char) (m b : Bool) (nb ns : Int) :
    coreValue k2fFifthsList (String.ofList [c]) m b nb ns =
      (fifthsOfLetter c).map fun p => (p - (if m then 3 else 0) + (if b then -7 * nb else 7 * ns),
        if m then Mode.minor else Mode.major) := by
  unfold coreValue fifthsOfLetter
  cases indexOf (String.ofList [c]) k2fFifthsList <;> rfl

/-- … read out: what the function returns for a string that begins with the letter `c` -/
theorem key_name_value (name : String) (c : Char) (rest : List Char) (b : Int) (h : name.toList = c :: rest)
    (hc : fifthsOfLetter c = some b) :
    keyNameToFifthsModeG name =
      some (b - (if name.toList.contains 'm' then 3 else 0)
              + (if (countChar 'b' name : Int) > 0 then -7 * (countChar 'b' name : Int) else 7 * (countChar '#' name : Int)),
            if name.toList.contains 'm' then Mode.minor else Mode.major) := by
  have hb : ((c :: rest).contains 'b' = true) = ((countChar 'b' name : Int) > 0) := by
    rw [← h, ← countChar_pos, gt_iff_lt, Int.natCast_pos]
  simp only [key_name_closed_form, keyNameValue, h, coreValue_letter, hc, Option.map_some, hb]

/-- **rejection**: exactly the strings that do not begin with a letter of the list of fifths are rejected; every
    other string is read as SOME key (the function has no notion of an unknown key name) -/
theorem key_name_accepts_iff (name : String) :
    (keyNameToFifthsModeG name).isSome ↔ ∃ c rest, name.toList = c :: rest ∧ (fifthsOfLetter c).isSome := by
  rw [key_name_closed_form, keyNameValue]
  cases h : name.toList with
  | nil => simp
  | cons c rest => simp only [coreValue_letter, Option.isSome_map]; simp

/-- the seven letters, and nothing else (lower case, `H`, digits, blanks …) -/
theorem fifths_letters :
    (∀ c ∈ ['F', 'C', 'G', 'D', 'A', 'E', 'B'], (fifthsOfLetter c).isSome = true) ∧
    fifthsOfLetter 'C' = some 0 ∧ fifthsOfLetter 'F' = some (-1) ∧ fifthsOfLetter 'B' = some 5 ∧
    fifthsOfLetter 'c' = none ∧ fifthsOfLetter 'H' = none ∧ fifthsOfLetter 'm' = none ∧ fifthsOfLetter ' ' = none := by
  decide +kernel

/-- the line of fifths and the pitch-class table agree: seven semitones per fifth -/
theorem fifths_pitch_class : ∀ c ∈ ['F', 'C', 'G', 'D', 'A', 'E', 'B'], ∃ i : Nat, i < 7 ∧
    fifthsOfLetter c = some ((i : Int) - 1) ∧ lookup (String.ofList [c]) BASE_PC = some ((7 * ((i : Int) - 1)) % 12) := by
  decide +kernel

/-- **tonic**: for every key name with accidentals of one kind (any number of them), seven semitones per fifth
    lands on the pitch class of the named tonic (`step2pc` of its letter and accidentals); a minor key lies three
    fifths below the major key of the same tonic (9 semitones: its relative major is a minor third above) -/
theorem key_tonic_pitch_class (name : String) (c : Char) (rest : List Char) (f : Int) (m : Mode)
    (h : name.toList = c :: rest) (hc : c ∈ ['F', 'C', 'G', 'D', 'A', 'E', 'B'])
    (hone : countChar 'b' name = 0 ∨ countChar '#' name = 0)
    (hk : keyNameToFifthsModeG name = some (f, m)) :
    step2pc (String.ofList [c]) ((countChar '#' name : Int) - (countChar 'b' name : Int))
      = some ((7 * f + (if m = Mode.minor then 9 else 0)) % 12) := by
  obtain ⟨i, -, hb, hp⟩ := fifths_pitch_class c hc
  rw [key_name_value name c rest _ h hb] at hk
  simp only [Option.some.injEq, Prod.mk.injEq] at hk
  obtain ⟨rfl, rfl⟩ := hk
  rw [step2pc_spec _ _ _ hp]
  -- with accidentals of one kind, the fifths they add are seven times their signed number
  have hacc : (if (countChar 'b' name : Int) > 0 then -7 * (countChar 'b' name : Int) else 7 * (countChar '#' name : Int))
      = 7 * ((countChar '#' name : Int) - (countChar 'b' name : Int)) := by
    split <;> omega
  rw [hacc]
  generalize ((countChar '#' name : Int) - (countChar 'b' name : Int)) = d
  cases name.toList.contains 'm' <;> simp only [Bool.false_eq_true, if_true, if_false, reduceCtorEq, Option.some.injEq] <;> omega

/-- non-vacuity / instances: any number of accidentals, lower-case and unknown letters, `maj` / `min` suffixes -/
example : keyNameToFifthsModeG "F###" = some (20, Mode.major) ∧ keyNameToFifthsModeG "Cbbm" = some (-17, Mode.minor) ∧
    keyNameToFifthsModeG "Dm" = some (-1, Mode.minor) ∧ keyNameToFifthsModeG "Dmin" = some (-1, Mode.minor) ∧
    keyNameToFifthsModeG "Amaj" = some (0, Mode.minor) ∧ keyNameToFifthsModeG "Bb" = some (-2, Mode.major) ∧
    keyNameToFifthsModeG "c" = none ∧ keyNameToFifthsModeG "H" = none ∧ keyNameToFifthsModeG "" = none ∧
    keyNameToFifthsModeG " C" = none := by decide +kernel

/-! ### the thirty names: tonic pitch class, and the key table of the key estimator -/

/-- tonic pitch class of a key name: its letter with its accidentals -/
def tonicPc (name : String) : Option Int :=
  match name.toList with
  | [] => none
  | c :: _ => step2pc (String.ofList [c]) ((countChar '#' name : Int) - (countChar 'b' name : Int))

/-- every major key of the table sounds `7·fifths`, every minor key `7·fifths + 9` (mod 12): MAJOR_KEYS, MINOR_KEYS
    and BASE_PC agree -/
theorem key_tables_tonic :
    ∀ f ∈ [(-7 : Int), -6, -5, -4, -3, -2, -1, 0, 1, 2, 3, 4, 5, 6, 7],
      (fifthsModeToKeyNameG f (PyLit.str "major")).bind tonicPc = some ((7 * f) % 12) ∧
      (fifthsModeToKeyNameG f (PyLit.str "minor")).bind tonicPc = some ((7 * f + 9) % 12) := by
  decide +kernel

/-- `globals.KEYS` (the 24 keys of the key estimator, with their fifths) names the keys as MAJOR_KEYS / MINOR_KEYS
    do, and each of its entries reads back through `key_name_to_fifths_mode` -/
theorem keys_table_consistent :
    ∀ e ∈ KEYS,
      fifthsModeToKeyNameG e.2.2 (PyLit.str e.2.1) = some (e.1 ++ (if e.2.1 = "minor" then "m" else "")) ∧
      (keyNameToFifthsModeG (e.1 ++ (if e.2.1 = "minor" then "m" else ""))).map (fun r => (r.1, modeName r.2))
        = some (e.2.2, e.2.1) := by
  decide +kernel

end C12
