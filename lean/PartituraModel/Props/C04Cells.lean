/-
C04 — "the same mode on import recovers the same grouping of notes into parts and voices", for the whole
pipeline: every sounding note of the score comes back from `loadScoreMidi (saveScoreMidi score)` in the
(part, voice) cell that `assign_group_part_voice` gives to the (track, channel) of its note key, and two notes
share a cell exactly when `Retained mode` relates their keys (`mode_recovery`).
Helper lemmas: Proofs/C04Import.lean, Proofs/C04Written.lean, Proofs/C04Total.lean (`save_mode_note`).
-/
import PartituraModel.Props.C04Export
import PartituraModel.Proofs.C04Total

namespace C04
open Model Model.Ticks Model.MidiPair Model.MidiModes Model.ScoreMidi

/-- **The (track, channel) pairs the importer finds** in the file of an export are exactly the pairs
    `map_to_track_channel` gave to the note keys: the sorted list `assign_group_part_voice` receives is `sorted(set(tcs))`. -/
theorem import_track_channels (mode : Nat) (a : Anacrusis) (minPpq vel : Nat) (parts : List PartIn) (ex : Exported)
    (h : saveScoreMidi mode a minPpq vel parts = some ex)
    (hvel : 0 < vel) (hw : ∀ x ∈ parts, C04T.WellFormed x.base)
    (hno : ∀ o tcs, origin a (parts.map (·.base)) = some o → mapToTrackChannel mode (noteKeys parts) = some tcs →
      ∀ tr, C04P.NoOverlap (routedTo ex.ppq o vel ((noteKeys parts).zip tcs) parts tr)) :
    ∃ tcs, mapToTrackChannel mode (noteKeys parts) = some tcs ∧
      (∀ i ch, (i, ch) ∈ tcs ↔ ∃ (hi : i < ex.tracks.length), ∃ n ∈ pairTrack (deltasFrom 0 ex.tracks[i]), n.ch = ch) ∧
      sortedTC ((notesByTrCh ((readTracks (ex.tracks.map (deltasFrom 0))).filter fun e => !e.2.1.isEmpty)).map (·.1)) =
        sortedTC tcs ∧
      (∀ i ch, (i, ch) ∈ tcs → ∃ xi ∈ parts.zipIdx, xi.1.notes ≠ [] ∧
        (tracksOfPart ((noteKeys parts).zip tcs) xi.2).contains i = true) ∧
      (noteKeys parts).length = tcs.length := by
  obtain ⟨o, tcs, W⟩ := C04E.Written.of h hvel hw hno
  refine ⟨tcs, W.table, W.mem_tcs, W.trch, fun i ch htc' => ?_, W.length⟩
  obtain ⟨xi, hxi, n, hn, hl⟩ := W.source htc'
  exact ⟨xi, hxi, List.ne_nil_of_mem hn, (C04E.mem_tracksOfPart _ _ _).mpr ⟨_, _, Model.lookup_mem hl, rfl, rfl⟩⟩

/-- **Round trip with the grouping, any import mode.**  Under the hypotheses of `score_roundtrip` (but any anacrusis
    policy), export with mode `mode` and import with mode `imode` (the same or another one): the notes of the
    imported parts, each with its part number and voice, are exactly the score's sounding notes at their written
    ticks, each with the (part, voice) of the cell that the importer's `assign_group_part_voice` (mode `imode`, over
    the sorted (track, channel) pairs the exporter used) gives to the (track, channel) of the note's key
    (`writtenCells`, `keyTag`) — what an import in another mode recovers of the grouping is exactly what
    `mode_import` says of the (track, channel) pairs `mode_export` wrote. -/
theorem roundtrip_cells_any_import_mode (mode imode : Nat) (a : Anacrusis) (minPpq vel : Nat) (parts : List PartIn)
    (ex : Exported) (imp : Imported)
    (h : saveScoreMidi mode a minPpq vel parts = some ex)
    (hi : loadScoreMidi imode ex.ppq (ex.tracks.map (deltasFrom 0)) = some imp)
    (hvel : 0 < vel) (hw : ∀ x ∈ parts, C04T.WellFormed x.base)
    (hno : ∀ o tcs, origin a (parts.map (·.base)) = some o → mapToTrackChannel mode (noteKeys parts) = some tcs →
      ∀ tr, C04P.NoOverlap (routedTo ex.ppq o vel ((noteKeys parts).zip tcs) parts tr)) :
    ∃ o tcs, origin a (parts.map (·.base)) = some o ∧ mapToTrackChannel mode (noteKeys parts) = some tcs ∧
      (importedCells imp).Perm (writtenCells imode ex.ppq o ((noteKeys parts).zip tcs) parts) := by
  obtain ⟨o, tcs, W⟩ := C04E.Written.of h hvel hw hno
  exact ⟨o, tcs, W.origin, W.table, W.import_cells hi⟩

/-- **Round trip with the grouping** (export and import with the same mode): the instance `imode = mode`. -/
theorem roundtrip_cells (mode : Nat) (a : Anacrusis) (minPpq vel : Nat) (parts : List PartIn) (ex : Exported)
    (imp : Imported)
    (h : saveScoreMidi mode a minPpq vel parts = some ex)
    (hi : loadScoreMidi mode ex.ppq (ex.tracks.map (deltasFrom 0)) = some imp)
    (hvel : 0 < vel) (hw : ∀ x ∈ parts, C04T.WellFormed x.base)
    (hno : ∀ o tcs, origin a (parts.map (·.base)) = some o → mapToTrackChannel mode (noteKeys parts) = some tcs →
      ∀ tr, C04P.NoOverlap (routedTo ex.ppq o vel ((noteKeys parts).zip tcs) parts tr)) :
    ∃ o tcs, origin a (parts.map (·.base)) = some o ∧ mapToTrackChannel mode (noteKeys parts) = some tcs ∧
      (importedCells imp).Perm (writtenCells mode ex.ppq o ((noteKeys parts).zip tcs) parts) :=
  roundtrip_cells_any_import_mode mode mode a minPpq vel parts ex imp h hi hvel hw hno

/-- **The import of an export returns in every import mode** 0..5 (not only the export's own mode,
    `roundtrip_total`), when the score has a sounding note. -/
theorem import_total_any_mode (mode imode : Nat) (him : imode ≤ 5) (a : Anacrusis) (minPpq vel : Nat)
    (parts : List PartIn) (ex : Exported)
    (h : saveScoreMidi mode a minPpq vel parts = some ex)
    (hvel : 0 < vel) (hw : ∀ x ∈ parts, C04T.WellFormed x.base)
    (hnote : ∃ x ∈ parts, x.notes ≠ [])
    (hno : ∀ o tcs, origin a (parts.map (·.base)) = some o → mapToTrackChannel mode (noteKeys parts) = some tcs →
      ∀ tr, C04P.NoOverlap (routedTo ex.ppq o vel ((noteKeys parts).zip tcs) parts tr)) :
    ∃ imp, loadScoreMidi imode ex.ppq (ex.tracks.map (deltasFrom 0)) = some imp := by
  obtain ⟨o, tcs, W⟩ := C04E.Written.of h hvel hw hno
  exact W.import_total imode him hnote

/-- **The import of an export returns.**  When the score has at least one sounding note (and the export returned, which
    forces one of the six modes), `load_score_midi` with the same mode returns on the written file — so the hypothesis
    `hi` of `score_roundtrip` and `roundtrip_cells` is satisfied by some `imp`. -/
theorem roundtrip_total (mode : Nat) (a : Anacrusis) (minPpq vel : Nat) (parts : List PartIn) (ex : Exported)
    (h : saveScoreMidi mode a minPpq vel parts = some ex)
    (hvel : 0 < vel) (hw : ∀ x ∈ parts, C04T.WellFormed x.base)
    (hnote : ∃ x ∈ parts, x.notes ≠ [])
    (hno : ∀ o tcs, origin a (parts.map (·.base)) = some o → mapToTrackChannel mode (noteKeys parts) = some tcs →
      ∀ tr, C04P.NoOverlap (routedTo ex.ppq o vel ((noteKeys parts).zip tcs) parts tr)) :
    mode ≤ 5 ∧ ∃ imp, loadScoreMidi mode ex.ppq (ex.tracks.map (deltasFrom 0)) = some imp := by
  have hmode := (C04Tot.save_mode_note h).1
  exact ⟨hmode, import_total_any_mode mode mode hmode a minPpq vel parts ex h hvel hw hnote hno⟩

/-- what exporting with mode `mode` and importing with mode `imode` retains of the grouping of the notes: import
    modes 0, 1, 5 give every (track, channel) its own part / voice, so what the export mode put on one (track,
    channel) stays together; import modes 2 and 3 read a track as one voice / part, so what the export mode put in one
    track stays together; import mode 4 merges everything -/
def RetainedCross (mode imode : Nat) (a b : Key) : Prop :=
  match imode with
  | 2 => C04M.SameTrack mode a b
  | 3 => C04M.SameTrack mode a b
  | 4 => True
  | _ => C04M.SameTC mode a b

theorem retainedCross_of_modes (mode imode : Nat) (him : imode ≤ 5) {a b : Key} {ta tb : Nat × Nat}
    (e1 : ta.1 = tb.1 ↔ C04M.SameTrack mode a b) (e2 : ta = tb ↔ C04M.SameTC mode a b) :
    C04M.SameCellIn imode ta tb ↔ RetainedCross mode imode a b := by
  match imode, him with
  | 0, _ | 1, _ | 5, _ => exact e2
  | 2, _ | 3, _ => exact e1
  | 4, _ => exact Iff.rfl

/-- **Grouping recovered, any import mode.**  Export with mode `mode`, import with mode `imode` (both 0..5): every note
    key has a (part, voice) in which its notes come back (the tag `roundtrip_cells_any_import_mode` attaches), and the
    notes of two keys come back in the same part and voice exactly when `RetainedCross mode imode` relates the keys. -/
theorem grouping_recovered_any_import_mode (mode imode : Nat) (hm : mode ≤ 5) (him : imode ≤ 5) (parts : List PartIn)
    (tcs : List (Nat × Nat)) (htc : mapToTrackChannel mode (noteKeys parts) = some tcs) :
    ∀ k₁ ∈ noteKeys parts, ∀ k₂ ∈ noteKeys parts,
      ∃ t₁ t₂, keyTag imode ((noteKeys parts).zip tcs) k₁ = some t₁ ∧ keyTag imode ((noteKeys parts).zip tcs) k₂ = some t₂ ∧
        (t₁ = t₂ ↔ RetainedCross mode imode k₁ k₂) := by
  intro k₁ hk₁ k₂ hk₂
  have hlen : (noteKeys parts).length = tcs.length := ((mode_export mode hm _ _ htc).1).symm
  obtain ⟨tc₁, c₁, hm₁, hc₁, ht₁⟩ := C04E.keyTag_eq imode hlen hk₁
  obtain ⟨tc₂, c₂, hm₂, hc₂, ht₂⟩ := C04E.keyTag_eq imode hlen hk₂
  obtain ⟨e1, e2⟩ := C04M.export_modes mode hm (noteKeys parts) tcs htc (k₁, tc₁) hm₁ (k₂, tc₂) hm₂
  obtain ⟨i1, _⟩ := C04M.import_modes imode him (sortedTC tcs) (tc₁, c₁) hc₁ (tc₂, c₂) hc₂
  exact ⟨_, _, ht₁, ht₂, (C04C.tagOf_eq_iff imode _ (List.of_mem_zip hc₁).2 (List.of_mem_zip hc₂).2).trans
    (i1.trans (retainedCross_of_modes mode imode him e1 e2))⟩

/-- with the same mode on both sides; in mode 1 the group of a key is that of its part -/
theorem retainedCross_self (mode : Nat) (hm : mode ≤ 5) (a b : Key) (hg : kPart a = kPart b → kGroup a = kGroup b) :
    RetainedCross mode mode a b ↔ Retained mode a b := by
  match mode, hm with
  | 0, _ | 2, _ | 3, _ | 4, _ | 5, _ => exact Iff.rfl
  | 1, _ => exact ⟨fun h => h.2, fun h => ⟨hg h, h⟩⟩

/-- **Grouping recovered.**  For each of the six modes: every note key of the score has a (part, voice) in which
    its notes come back (`keyTag`, the tag `roundtrip_cells` attaches to the notes), and the notes of two keys come back
    in the same part and voice exactly when `Retained mode` relates the keys — mode 0 and 5 (part, voice), modes 1 and 3
    the part, modes 2 and 4 always. -/
theorem grouping_recovered (mode : Nat) (hm : mode ≤ 5) (parts : List PartIn) (tcs : List (Nat × Nat))
    (htc : mapToTrackChannel mode (noteKeys parts) = some tcs) :
    ∀ k₁ ∈ noteKeys parts, ∀ k₂ ∈ noteKeys parts,
      ∃ t₁ t₂, keyTag mode ((noteKeys parts).zip tcs) k₁ = some t₁ ∧ keyTag mode ((noteKeys parts).zip tcs) k₂ = some t₂ ∧
        (t₁ = t₂ ↔ Retained mode k₁ k₂) := by
  intro k₁ hk₁ k₂ hk₂
  obtain ⟨t₁, t₂, h₁, h₂, hiff⟩ := grouping_recovered_any_import_mode mode mode hm hm parts tcs htc k₁ hk₁ k₂ hk₂
  exact ⟨t₁, t₂, h₁, h₂, hiff.trans (retainedCross_self mode hm k₁ k₂ (C04E.noteKeys_group parts k₁ hk₁ k₂ hk₂))⟩

/-- non-vacuity: `demoScore` exported with mode 0 (a track per part, a channel per voice) and imported with mode 3
    (a part per track): the three note keys come back in parts 0, 0 and 1 — the parts are recovered, the voices
    are not -/
example : mapToTrackChannel 0 (noteKeys demoScore) = some [(0, 1), (0, 2), (1, 1)] ∧
    (noteKeys demoScore).map (keyTag 3 ((noteKeys demoScore).zip [(0, 1), (0, 2), (1, 1)])) =
      [some (some 0, 0), some (some 0, 0), some (some 1, 0)] := by
  decide +kernel

/-- non-vacuity on `demoScore`, mode 1 (both parts in one group: one track, a channel per part, voices lost):
    the three note keys come back in parts 0, 0 and 1 -/
example : mapToTrackChannel 1 (noteKeys demoScore) = some [(0, 1), (0, 1), (0, 2)] ∧
    (noteKeys demoScore).map (keyTag 1 ((noteKeys demoScore).zip [(0, 1), (0, 1), (0, 2)])) =
      [some (some 0, 0), some (some 0, 0), some (some 1, 0)] := by
  decide +kernel

/-- non-vacuity of `roundtrip_cells` on `demoScore`: the imported notes with part and voice -/
example : ((saveScoreMidi 1 .shift 0 64 demoScore).bind fun ex =>
      (loadScoreMidi 1 ex.ppq (ex.tracks.map (deltasFrom 0))).map importedCells) =
    some [((0, 60, 6), (some 0, 0)), ((6, 60, 0), (some 0, 0)), ((6, 60, 8), (some 0, 0)), ((6, 64, 24), (some 0, 0)),
          ((0, 48, 6), (some 1, 0)), ((6, 48, 24), (some 1, 0))] := by
  decide +kernel

end C04
