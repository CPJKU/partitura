/-
C05 — "a tie chain is one row ... whose duration in divisions equals the timeline values": the duration of the
row is the SUM of the durations of the members of the chain (anchor: "tie_prev/tie_next chains that decide
which notes produce rows and their summed duration"), which is the span from the first start to the last end
(`end_tied.t - start.t`) exactly when the chain has no gap.  The trial change seeded/C05-k replaces one by the other;
the volta example below tells them apart.
-/
import PartituraModel.Props.C05
import PartituraModel.Proofs.C05Tie

namespace C05
open NoteArray List

/-- `end_tied` is the end of the last note of the chain that `duration_tied` sums over. -/
theorem end_tied_is_last_end (notes : List Note) (n : Note) (e : Int) (h : endTied notes n = some e) :
    ∃ c, chainFrom notes notes.length n = some (n :: c) ∧ Linked notes (n :: c) ∧
      e = lastEnd (n :: c) n.onset := by
  unfold endTied at h
  simp only [Option.map_eq_some_iff] at h
  obtain ⟨c, hc, he⟩ := h
  obtain ⟨t, rfl⟩ := chainFrom_head _ _ _ _ hc
  refine ⟨t, hc, chainFrom_linked _ _ _ _ hc, ?_⟩
  rw [← he, chainEnd_eq_lastEnd]; rfl

/-- `duration_tied` and `end_tied` are defined on the same notes (both follow the same links). -/
theorem end_tied_defined_iff (notes : List Note) (n : Note) :
    (endTied notes n).isSome = (durationTied notes n).isSome := by
  unfold endTied durationTied
  cases chainFrom notes notes.length n <;> rfl

/-- For EVERY chain: span (last end - first start) = summed duration + the silence inside the chain. -/
theorem span_is_sum_plus_gaps (a : Note) (c : List Note) :
    lastEnd (a :: c) a.onset - a.onset = durSum (a :: c) + gapSum (a :: c) :=
  span_eq_sum_add_gaps c a

/-- A chain that runs forward in time: the summed duration never exceeds the span, and equals it exactly when
    the chain is contiguous (the converse of `chain_contig`). -/
theorem sum_eq_span_iff_contiguous (a : Note) (c : List Note) (h : Forward (a :: c)) :
    durSum (a :: c) ≤ lastEnd (a :: c) a.onset - a.onset ∧
    (durSum (a :: c) = lastEnd (a :: c) a.onset - a.onset ↔ Contiguous (a :: c)) := by
  have hs := span_eq_sum_add_gaps c a
  have hn := gapSum_nonneg c a h
  have hz := gapSum_zero_iff c a h
  refine ⟨by omega, ?_⟩
  rw [← hz]
  constructor <;> intro h' <;> omega

/-- a gap anywhere in a forward chain makes the span strictly longer than the sounding duration -/
theorem gap_makes_span_longer (a : Note) (c : List Note) (h : Forward (a :: c)) (hg : ¬ Contiguous (a :: c)) :
    durSum (a :: c) < lastEnd (a :: c) a.onset - a.onset := by
  obtain ⟨hle, hiff⟩ := sum_eq_span_iff_contiguous a c h
  rcases Int.lt_or_eq_of_le hle with hlt | heq
  · exact hlt
  · exact absurd (hiff.mp heq) hg

/-- The table: the duration_div cell of every row is the summed duration of the chain that starts at its note,
    and the offset used for the beat / quarter durations is onset + that sum; it is `end_tied - start` iff the
    chain (running forward) has no gap. -/
theorem row_duration_is_chain_sum (p : Part) (o : Opts) (out : List Row) (h : rows p o = some out) :
    ∀ r ∈ out, ∃ n ∈ notesTied p.notes, ∃ c e,
      chainFrom p.notes p.notes.length n = some (n :: c) ∧
      endTied p.notes n = some e ∧
      r.id = n.id ∧ r.onsetDiv = n.onset ∧ r.durDiv = durSum (n :: c) ∧
      r.durBeat = p.maps.beat (n.onset + durSum (n :: c)) - p.maps.beat n.onset ∧
      r.durQuarter = p.maps.quarter (n.onset + durSum (n :: c)) - p.maps.quarter n.onset ∧
      r.durDiv + gapSum (n :: c) = e - n.onset ∧
      (Forward (n :: c) → (r.durDiv = e - n.onset ↔ Contiguous (n :: c))) := by
  intro r hr
  obtain ⟨n, hn, dv, d, pch, m, _, hd, _, _, hrow⟩ := row_values p o out h r hr
  obtain ⟨c, hc, _, hsum⟩ := duration_is_chain_sum p.notes n d hd
  have hcols := row_columns p.maps dv n d pch m
  have he : endTied p.notes n = some (lastEnd (n :: c) n.onset) := by
    unfold endTied
    rw [hc, Option.map_some, chainEnd_eq_lastEnd]
    rfl
  have hspan := span_eq_sum_add_gaps c n
  refine ⟨n, hn, c, _, hc, he, ?_, ?_, ?_, ?_, ?_, ?_, ?_⟩
  · rw [hrow]; exact hcols.1
  · rw [hrow]; exact hcols.2.1
  · rw [hrow, hcols.2.2.1, hsum]
  · rw [hrow, hcols.2.2.2.2.2.1, hsum]
  · rw [hrow, hcols.2.2.2.2.2.2.2.1, hsum]
  · rw [hrow, hcols.2.2.1, hsum]; omega
  · intro hf
    rw [hrow, hcols.2.2.1, hsum]
    exact (sum_eq_span_iff_contiguous n c hf).2

/-- G4 at the end of bar 1, tied over the first ending -/
def voltaG1 : Note :=
  { id := "n2", kind := .note, onset := 8, dur := 8, step := "G", alter := none, octave := 4, voice := some 1,
    staff := some 1, graceType := "", tieNext := some 3, tiePrev := none }

/-- G4 at the start of the second ending (tie stop) -/
def voltaG2 : Note :=
  { id := "n4", kind := .note, onset := 32, dur := 8, step := "G", alter := none, octave := 4, voice := some 1,
    staff := some 1, graceType := "", tieNext := none, tiePrev := some 1 }

def mkN (id : String) (onset dur : Int) (step : String) : Note :=
  { id := id, kind := .note, onset := onset, dur := dur, step := step, alter := none, octave := 4, voice := some 1,
    staff := some 1, graceType := "", tieNext := none, tiePrev := none }

/-- bar 1: A4, G4 (tie start) | first ending: F4 | second ending: G4 (tie stop), E4; divisions 4 -/
def voltaNotes : List Note :=
  [mkN "n1" 0 8 "A", voltaG1, mkN "n3" 16 16 "F", voltaG2, mkN "n5" 40 8 "E"]

/-- the tied G sounds 16 divisions (8 + 8); the span to the end of its last member is 32 -/
example : durationTied voltaNotes voltaG1 = some 16 ∧ spanTied voltaNotes voltaG1 = some 32 ∧
    endTied voltaNotes voltaG1 = some 40 := by decide

/-- the hypotheses of `gap_makes_span_longer` are satisfiable: the chain G4 -> G4 runs forward and has a gap -/
example : chainFrom voltaNotes voltaNotes.length voltaG1 = some [voltaG1, voltaG2] ∧
    Forward [voltaG1, voltaG2] ∧ ¬ Contiguous [voltaG1, voltaG2] ∧ gapSum [voltaG1, voltaG2] = 16 := by
  refine ⟨rfl, ⟨by decide, trivial⟩, ?_, by decide⟩
  intro h; exact absurd h.1 (by decide)

/-- a contiguous chain satisfies `Forward` too (then sum = span) -/
example : Forward [mkN "a" 0 4 "C", mkN "b" 4 2 "C"] ∧ Contiguous [mkN "a" 0 4 "C", mkN "b" 4 2 "C"] :=
  ⟨⟨by decide, trivial⟩, ⟨by decide, trivial⟩⟩

end C05
