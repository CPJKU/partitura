/-
C19 — `<ending>` is as transparent as `<section>` (Props/C19Sections.lean), and a `<scoreDef>` (meter / key change)
between two measures may be written at the end of the previous container, between the containers (also directly in
`<score>`) or at the start of the next one.  For ALL event lists.
-/
import PartituraModel.Proofs.C19Sections
import PartituraModel.Props.C19Sections

namespace C19
open Model Model.Mei C19S C19E

/-- `mei_ending_as_section`: writing `<ending>` instead of `<section>` (or the other way round) for a grouping element
    changes nothing of the denotation, once the music has started — whatever stands inside and after it, at any depth. -/
theorem mei_ending_as_section (pre post : List Ev) (as : List (String × String)) (st : St)
    (hrun : runEvs {} pre = some st) (hin : st.inSection = true) (hp : PlainAttrs as) :
    denote (pre ++ .op "ending" as :: post) = denote (pre ++ .op "section" as :: post) := by
  rw [denote_append pre _ st hrun, denote_append pre _ st hrun]
  simp only [runEvs, stepEv_section st as hp hin, stepEv_ending st as hp]
  refine bind_partsOf_of_rel (fun a b h => h.1) _ _ (run_simG post _ _ ⟨rfl, ?_⟩)
  exact .cons (Or.inr ⟨transparent_of_grp (Or.inr rfl), transparent_of_grp (Or.inl rfl)⟩) (StkG.refl _)

/-- `mei_ending_unnest`: an `<ending>` denotes what its content denotes — inside a section, inside another ending, or
    directly in `<score>` (any parent that is not one of staffDef, scoreDef, measure, staff, chord, note).  `mid` is any
    list of whole elements (measures, scoreDefs, further sections and endings …). -/
theorem mei_ending_unnest (pre mid post : List Ev) (as : List (String × String)) (st : St)
    (hrun : runEvs {} pre = some st) (htop : Neutral (ptagOf st.stack)) (hp : PlainAttrs as) (hb : Balanced mid) :
    denote (pre ++ .op "ending" as :: (mid ++ .cl :: post)) = denote (pre ++ (mid ++ post)) := by
  rw [denote_append pre _ st hrun, denote_append pre _ st hrun]
  rw [unnest_grp_state st _ as mid post (transparent_of_grp (Or.inr rfl)) (stepEv_ending st as hp) htop hb]

/-- `mei_section_unnest_anywhere`: `mei_section_unnest` without the restriction to a `section` parent:
    a `<section>` inside an ending or directly in `<score>` (after the first section) also denotes what its content denotes. -/
theorem mei_section_unnest_anywhere (pre mid post : List Ev) (as : List (String × String)) (st : St)
    (hrun : runEvs {} pre = some st) (htop : Neutral (ptagOf st.stack)) (hin : st.inSection = true)
    (hp : PlainAttrs as) (hb : Balanced mid) :
    denote (pre ++ .op "section" as :: (mid ++ .cl :: post)) = denote (pre ++ (mid ++ post)) := by
  rw [denote_append pre _ st hrun, denote_append pre _ st hrun]
  rw [unnest_grp_state st _ as mid post (transparent_of_grp (Or.inl rfl)) (stepEv_section st as hp hin) htop hb]

/-- the parents meant: a section, an ending and the score element are neutral -/
theorem neutral_parents : Neutral "section" ∧ Neutral "ending" ∧ Neutral "score" := by
  refine ⟨?_, ?_, ?_⟩ <;> simp [Neutral]

/-! ## where a scoreDef change is written -/

/-- `mei_scoredef_across_close`: a whole `<scoreDef>` element (with its children) written as the last child of a section /
    ending denotes the same as the same element written right after that container's end tag — whatever encloses the
    container (a section, an ending, or `<score>` itself). -/
theorem mei_scoredef_across_close (pre inner post : List Ev) (as : List (String × String)) (st : St) (x : Frame)
    (low : List Frame) (hrun : runEvs {} pre = some st) (hs : st.stack = x :: low) (hx : isGrp x.tag)
    (hb : Balanced inner) :
    denote (pre ++ (.op "scoreDef" as :: (inner ++ [.cl])) ++ .cl :: post)
      = denote (pre ++ .cl :: ((.op "scoreDef" as :: (inner ++ [.cl])) ++ post)) := by
  rw [List.append_assoc, denote_append pre _ st hrun, denote_append pre _ st hrun]
  have hx := transparent_of_grp hx
  rw [runEvs_append, runEvs_cons (stepEv_cl_other st x low hs hx.close), runEvs_append]
  refine congrArg (fun o => Option.bind o partsOf)
    ((sd_frame_indep st x low hs hx as inner hb).bind_eq fun a b _ ⟨hc, hsa, hsb⟩ => ?_)
  rw [runEvs_cons (stepEv_cl_other a x low hsa hx.close), eq_of_core (withStack a low) b hc hsb.symm]

/-- `mei_scoredef_across_open`: a whole `<scoreDef>` element written right before the start tag of an `<ending>`, or of a
    `<section>` once the music has started, denotes the same as the same element written as the container's first child. -/
theorem mei_scoredef_across_open (pre inner post : List Ev) (as gas : List (String × String)) (g : String) (st : St)
    (hrun : runEvs {} pre = some st) (hg : g = "ending" ∨ (g = "section" ∧ st.inSection = true))
    (hp : PlainAttrs gas) (hb : Balanced inner) :
    denote (pre ++ (.op "scoreDef" as :: (inner ++ [.cl])) ++ .op g gas :: post)
      = denote (pre ++ .op g gas :: ((.op "scoreDef" as :: (inner ++ [.cl])) ++ post)) := by
  -- opening `g` only pushes its frame, on every state that is "in section" if `st` is
  have push : ∀ s : St, (st.inSection = true → s.inSection = true) →
      stepEv s (.op g gas) = some (withStack s (newFrame g gas :: s.stack)) := fun s hs => by
    rcases hg with rfl | ⟨rfl, hin⟩
    · exact stepEv_ending s gas hp
    · exact stepEv_section s gas hp (hs hin)
  have hgrp : Transparent g := transparent_of_grp (hg.elim Or.inr fun h => Or.inl h.1)
  rw [List.append_assoc, denote_append pre _ st hrun, denote_append pre _ st hrun]
  rw [runEvs_append, runEvs_cons (push st id), runEvs_append]
  refine congrArg (fun o => Option.bind o partsOf)
    ((sd_frame_indep (withStack st (newFrame g gas :: st.stack)) (newFrame g gas) st.stack rfl hgrp as inner hb).bind_eq
      fun a b ha ⟨hc, hsa, hsb⟩ => ?_).symm
  -- the scoreDef does not end the section part, and `a`, `b` differ in their stacks only
  rw [runEvs_cons (push b fun hin => congrArg St.inSection hc ▸ (run_ties _ _ a ha).2 hin),
    eq_of_core (withStack b (newFrame g gas :: b.stack)) a hc.symm (by show newFrame g gas :: b.stack = a.stack; rw [hsa, hsb])]

def hdr2 : List Ev :=
  [.op "score" [], .op "scoreDef" [], .op "staffGrp" [],
   .op "staffDef" [("xml:id", "P1"), ("n", "1"), ("meter.count", "2"), ("meter.unit", "4"), ("key.sig", "0")], .cl, .cl, .cl]

def meas (n : String) (id : String) : List Ev :=
  [.op "measure" [("n", n)], .op "staff" [("n", "1")], .op "layer" [("n", "1")],
   .op "note" [("xml:id", id), ("dur", "2"), ("pname", "c"), ("oct", "4")], .cl, .cl, .cl, .cl]

def sdChange : List Ev := [.op "scoreDef" [("key.sig", "2s")], .op "meterSig" [("count", "3"), ("unit", "4")], .cl, .cl]

/-- up to the end of the first measure inside `<section>` -/
def preE : List Ev := hdr2 ++ [.op "section" [("xml:id", "A")]] ++ meas "1" "a1"

theorem preE_state : ∃ st, runEvs {} preE = some st ∧ st.inSection = true ∧ Neutral (ptagOf st.stack) ∧
    (∃ x low, st.stack = x :: low ∧ isGrp x.tag) ∧ PlainAttrs [("n", "1")] ∧ Balanced (meas "2" "a2") := by
  refine ⟨_, rfl, by decide +kernel, ?_, ⟨_, _, rfl, Or.inl rfl⟩, by decide +kernel, by decide +kernel⟩
  show Neutral "section"
  exact neutral_parents.1

example : ∃ st, runEvs {} preE = some st ∧ st.inSection = true ∧ Neutral (ptagOf st.stack) ∧
    (∃ x low, st.stack = x :: low ∧ isGrp x.tag) ∧ PlainAttrs [("n", "1")] ∧ Balanced (meas "2" "a2") := preE_state

/-- an ending inside the section = its content; the scoreDef change at the end of the section = after it, directly in
    `<score>` = at the start of the following ending -/
example : denote (preE ++ .op "ending" [("n", "1")] :: (meas "2" "a2" ++ .cl :: [.cl, .cl]))
    = denote (preE ++ (meas "2" "a2" ++ [.cl, .cl])) := by
  obtain ⟨st, h1, _, h3, _, h5, h6⟩ := preE_state
  exact mei_ending_unnest preE (meas "2" "a2") [.cl, .cl] _ st h1 h3 h5 h6

example : ((denote (preE ++ sdChange ++ .cl :: (.op "ending" [("n", "1")] :: (meas "2" "a2" ++ [.cl, .cl])))).map fun ps =>
      ps.map fun p => p.tsigs) = some [[(0, 2, 4), (2, 3, 4)]] := by
  decide +kernel

example : ((denote (preE ++ .cl :: sdChange ++ (.op "ending" [("n", "1")] :: (meas "2" "a2" ++ [.cl, .cl])))).map fun ps =>
      ps.map fun p => p.ksigs.map fun k => (k.1, k.2.1)) = some [[(0, 0), (2, 2)]] := by
  decide +kernel

end C19
