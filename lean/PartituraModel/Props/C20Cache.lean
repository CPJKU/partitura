/-
C20 — a read that writes: `Part.number_of_staves` fills the memo `_number_of_staves` (Model/StavesCache.lean).
Proved for ALL histories of documented operations (add / remove / read / compute, in any order and number): a read
never changes the objects, the memo is always absent or right, and every result is the result of the memo-free
machine — so it cannot matter whether, when or how often the part was read before (the `warm` histories of the
generators are instances).  The guarantee stops at attribute assignment behind the part's back (`example`).
-/
import PartituraModel.Model.StavesCache

namespace C20Cache
open Model.StavesCache

/-- the memo is absent or holds what a computation would give now -/
def Coherent (p : PartS) : Prop := p.memo = none ∨ p.memo = some (maxStaves p.staves)

/-- **reading does not change the objects**: `number_of_staves` and `compute_number_of_staves` leave every staff
    attribute (and the number and order of the objects) as it was; only the memo may be filled -/
theorem read_frame (p : PartS) :
    (step p Op.read).1.staves = p.staves ∧ (step p Op.compute).1.staves = p.staves := by
  constructor
  · simp only [step]
    cases p.memo <;> rfl
  · rfl

/-- the memo stays coherent under every documented operation -/
theorem coherent_step (p : PartS) (op : Op) (hd : documented [op] = true) (h : Coherent p) :
    Coherent (step p op).1 := by
  cases op with
  | add s => exact Or.inl rfl
  | remove i => exact Or.inl rfl
  | compute => exact Or.inr rfl
  | setStaff i s => simp [documented] at hd
  | read =>
    simp only [step]
    cases hm : p.memo with
    | none => exact Or.inr rfl
    | some m => simpa [hm] using h

/-- a read of a coherent part returns what a fresh computation returns -/
theorem read_correct (p : PartS) (h : Coherent p) : (step p Op.read).2 = some (maxStaves p.staves) := by
  simp only [step]
  cases hm : p.memo with
  | none => rfl
  | some m =>
    rcases h with h | h
    · rw [hm] at h; cases h
    · rw [hm] at h; simpa using h

/-- **no result depends on the memo**: started from any coherent state, every history of documented operations
    returns, call by call, what the memo-free machine returns, and leaves the same objects -/
theorem memo_irrelevant (ops : List Op) :
    ∀ (p : PartS), documented ops = true → Coherent p →
      (run p ops).2 = (runRef p.staves ops).2 ∧ (run p ops).1.staves = (runRef p.staves ops).1 ∧
      Coherent (run p ops).1 := by
  induction ops with
  | nil => intro p _ h; exact ⟨rfl, rfl, h⟩
  | cons op ops ih =>
    intro p hd h
    have hstep : (step p op).2 = (stepRef p.staves op).2 ∧ (step p op).1.staves = (stepRef p.staves op).1 ∧
        Coherent (step p op).1 ∧ documented ops = true := by
      cases op with
      | read => exact ⟨read_correct p h, (read_frame p).1, coherent_step p _ rfl h, hd⟩
      | compute => exact ⟨rfl, rfl, Or.inr rfl, hd⟩
      | add s => exact ⟨rfl, rfl, Or.inl rfl, hd⟩
      | remove i => exact ⟨rfl, rfl, Or.inl rfl, hd⟩
      | setStaff i s => cases hd
    obtain ⟨hout, hst, hc, hd2⟩ := hstep
    obtain ⟨h1, h2, h3⟩ := ih (step p op).1 hd2 hc
    refine ⟨?_, ?_, h3⟩
    · show (step p op).2 :: (run (step p op).1 ops).2 = (stepRef p.staves op).2 :: (runRef (stepRef p.staves op).1 ops).2
      rw [hout, h1, hst]
    · show (run (step p op).1 ops).1.staves = (runRef (stepRef p.staves op).1 ops).1
      rw [h2, hst]

/-- **history independence**: two parts holding the same objects — one never read, one read any number of times
    (any coherent memo) — give identical results for every further history of documented operations -/
theorem history_independent (p q : PartS) (ops : List Op) (hs : p.staves = q.staves)
    (hp : Coherent p) (hq : Coherent q) (hd : documented ops = true) :
    (run p ops).2 = (run q ops).2 ∧ (run p ops).1.staves = (run q ops).1.staves := by
  obtain ⟨a1, a2, _⟩ := memo_irrelevant ops p hd hp
  obtain ⟨b1, b2, _⟩ := memo_irrelevant ops q hd hq
  rw [a1, a2, b1, b2, hs]
  exact ⟨rfl, rfl⟩

/-- every state reached from a new part by documented operations is coherent (`Part.__init__` sets the memo to None) -/
theorem reachable_coherent (ops : List Op) (hd : documented ops = true) : Coherent (run init ops).1 :=
  (memo_irrelevant ops init hd (Or.inl rfl)).2.2

/-- non-vacuity: a part that was read is coherent with a filled memo -/
example : Coherent { staves := [some 2, none], memo := some 2 } := Or.inr (by decide)

/-- where the guarantee stops: `note.staff = 3` on a note that is already on the timeline does not go through the
    part, the memo is not cleared, and the next read is stale (1 instead of 3) -/
example :
    (run init [Op.add (some 1), Op.read, Op.setStaff 0 (some 3), Op.read]).2 = [none, some 1, none, some 1] ∧
    (runRef [] [Op.add (some 1), Op.read, Op.setStaff 0 (some 3), Op.read]).2 = [none, some 1, none, some 3] := by
  decide +kernel

end C20Cache
