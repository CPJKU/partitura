/-
C20, the aliasing clause: the copies made by `create_variant_part` (unfolding) hold no list of the original after
`replace_refs`, so an in-place operation on the RESULT (appending a slur / tuplet to a copied note) cannot be seen
through the ARGUMENT.  Model: PartituraModel/Model/RefHeap.lean.
-/
import PartituraModel.Model.RefHeap
import PartituraModel.Proofs.C20Store

namespace C20Refs
open Model Model.RefHeap

/-- `replace_refs` only ALLOCATES: the cell store it returns is the old one with new cells appended -/
theorem repl_extends (omap : Nat → Option Nat) (as : List Attr) :
    ∀ cells : Cells, ∃ ext, (replAttrs omap cells as).1 = cells ++ ext := by
  induction as with
  | nil => intro cells; exact ⟨[], (List.append_nil _).symm⟩
  | cons a t ih =>
    intro cells
    cases a with
    | none => exact ih cells
    | single o => exact ih cells
    | list c =>
      obtain ⟨e, he⟩ := ih (cells ++ [(cells.getD c []).map (fun e => e.bind omap)])
      exact ⟨_ :: e, he.trans (List.append_assoc ..)⟩

/-- the list attributes after `replace_refs` live in the cells it appended -/
theorem repl_bounds (omap : Nat → Option Nat) (as : List Attr) :
    ∀ (cells : Cells) (a : Nat), Attr.list a ∈ (replAttrs omap cells as).2 →
      cells.length ≤ a ∧ a < (replAttrs omap cells as).1.length := by
  induction as with
  | nil => intro cells a h; cases h
  | cons x t ih =>
    intro cells a h
    cases x with
    | none =>
      rcases List.mem_cons.mp h with h | h
      · cases h
      · exact ih cells a h
    | single o =>
      rcases List.mem_cons.mp h with h | h
      · revert h; show Attr.list a = (match omap o with | some o' => Attr.single o' | none => Attr.none) → _
        cases omap o <;> exact fun h => nomatch h
      · exact ih cells a h
    | list c =>
      rcases List.mem_cons.mp h with h | h
      · cases h
        obtain ⟨e, he⟩ := repl_extends omap t (cells ++ [(cells.getD c []).map (fun e => e.bind omap)])
        refine ⟨Nat.le_refl _, ?_⟩
        show cells.length < (replAttrs omap (cells ++ [_]) t).1.length
        rw [he, List.length_append, List.length_append]
        exact Nat.lt_of_lt_of_le (Nat.lt_succ_self _) (Nat.le_add_right _ _)
      · have := ih _ a h
        rw [List.length_append] at this
        exact ⟨Nat.le_of_succ_le this.1, this.2⟩

/-- every list attribute of an object after `replace_refs` lives in a cell that did not exist before: it is a
    fresh list, not the list of any object that existed before the call -/
theorem repl_fresh (omap : Nat → Option Nat) (as : List Attr) :
    ∀ (cells : Cells) (a : Nat), Attr.list a ∈ (replAttrs omap cells as).2 → cells.length ≤ a :=
  fun cells a h => (repl_bounds omap as cells a h).1

theorem appendAt_eq (cells : Cells) (a : Nat) (x : Option Nat) :
    appendAt cells a x = C20Store.upd (· ++ [x]) cells a := by
  unfold appendAt C20Store.upd; cases cells[a]? <;> rfl

/-- `lst.append(x)` on one list leaves every other list as it was -/
theorem append_other (cells : Cells) (a b : Nat) (x : Option Nat) (h : a ≠ b) :
    (appendAt cells a x)[b]? = cells[b]? := by
  rw [appendAt_eq, C20Store.upd_get, if_neg (Ne.symm h)]

/-- **in-place operations on a copy do not reach the original.**  Let `orig` be the reference attributes of any
    object that existed before (all its lists are cells of the old store), let the copy's attributes `ca` go through
    `replace_refs`, and append anything to any list the copy then holds: everything that can be seen through
    `orig` is what it was before. -/
theorem copy_edit_leaves_original (omap : Nat → Option Nat) (cells : Cells) (orig ca : List Attr)
    (hwf : ∀ a, Attr.list a ∈ orig → a < cells.length)
    (a' : Nat) (ha' : Attr.list a' ∈ (replAttrs omap cells ca).2) (x : Option Nat) :
    ∀ at_ ∈ orig, resolve (appendAt (replAttrs omap cells ca).1 a' x) at_ = resolve cells at_ := by
  intro at_ hat
  cases at_ with
  | none => rfl
  | single o => rfl
  | list b =>
    -- the cell written is one `replace_refs` allocated, the cell read existed before
    obtain ⟨e, he⟩ := repl_extends omap ca cells
    exact appendAt_eq .. ▸ he ▸ C20Store.upd_append_old _ _ _ (repl_fresh omap ca cells a' ha') (hwf b hat)

/-- two copies (two repetitions of an unfolded section) do not share a list either: the second `replace_refs`
    allocates above everything the first one allocated -/
theorem copies_do_not_share (omap : Nat → Option Nat) (cells : Cells) (c1 c2 : List Attr) (a1 a2 : Nat)
    (h1 : Attr.list a1 ∈ (replAttrs omap cells c1).2)
    (h2 : Attr.list a2 ∈ (replAttrs omap (replAttrs omap cells c1).1 c2).2) : a1 ≠ a2 := by
  exact Nat.ne_of_lt (Nat.lt_of_lt_of_le (repl_bounds omap c1 cells a1 h1).2 (repl_fresh omap c2 _ a2 h2))

/-- the lists of a copy hold the images of the original's elements, in order (references without an image become
    None): `replace_refs` translates, it does not drop or reorder -/
theorem repl_contents (omap : Nat → Option Nat) (cells : Cells) (c : Nat) (t : List Attr) :
    (replAttrs omap cells (Attr.list c :: t)).2.head? = some (Attr.list cells.length) ∧
    (replAttrs omap cells (Attr.list c :: t)).1[cells.length]? =
      some ((cells.getD c []).map (fun e => e.bind omap)) := by
  refine ⟨rfl, ?_⟩
  obtain ⟨e, he⟩ := repl_extends omap t (cells ++ [(cells.getD c []).map (fun e => e.bind omap)])
  show (replAttrs omap (cells ++ [_]) t).1[cells.length]? = _
  rw [he, List.append_assoc, List.getElem?_append_right (Nat.le_refl _), Nat.sub_self]
  rfl

/-- non-vacuity, and the seeded variant: a note with an empty `slur_starts` list (cell 0) is copied; with the real
    `replace_refs` the copy gets cell 1 and appending there leaves the original's list empty; with the variant that
    skips empty lists (seeded change C20-f) the copy keeps cell 0 and the original sees the appended slur -/
example :
    let cells : Cells := [[]]
    let orig := [Attr.list 0]
    let r := replAttrs (fun _ => none) cells orig
    r.2 = [Attr.list 1] ∧ resolve (appendAt r.1 1 (some 7)) (Attr.list 0) = some [] := by decide +kernel

example :
    let cells : Cells := [[]]
    let orig := [Attr.list 0]
    let r := replAttrsSkipEmpty (fun _ => none) cells orig
    r.2 = [Attr.list 0] ∧ resolve (appendAt r.1 0 (some 7)) (Attr.list 0) = some [some 7] := by decide +kernel

/-- the whole copying step on a small heap: two tied notes (0 → 1), note 0 starts slur object 2 whose start note is
    0; all three are copied: the copies are 3, 4, 5, tied 3 → 4, note 3's slur list holds 5 in a fresh cell, the
    slur copy points to 3, and the originals are untouched -/
example :
    let h : Heap := { objs := [[Attr.none, Attr.single 1, Attr.list 0], [Attr.single 0, Attr.none, Attr.list 1],
                               [Attr.single 0, Attr.none]],
                      cells := [[some 2], []] }
    let v := variant h [0, 1, 2]
    v.objs = [[Attr.none, Attr.single 1, Attr.list 0], [Attr.single 0, Attr.none, Attr.list 1],
              [Attr.single 0, Attr.none],
              [Attr.none, Attr.single 4, Attr.list 2], [Attr.single 3, Attr.none, Attr.list 3],
              [Attr.single 3, Attr.none]] ∧
    v.cells = [[some 2], [], [some 5], []] := by decide +kernel

end C20Refs
