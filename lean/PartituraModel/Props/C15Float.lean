/-
C15 - `time_multiplier_per_part = [int(lcm / d) for d in ...]`: the float division of the code against the
exact quotient the other theorems use, and the identifier / quarter duration of the new part.

Model: Model/MergeFloat.lean (`toDouble`: int64 -> double, `floatQuot`: IEEE-754 double division followed by `int()`,
`floatMult L d` = the expression of the code; `multAsCoded` reads the operator from the live source,
Gen/C15Arith.lean).
-/
import PartituraModel.Proofs.C15Float
import PartituraModel.Props.C15

namespace C15
open Model.Merge

/-- The arithmetic of the live sources is what the model copies: the common divisions are `np.lcm.reduce`, the
multiplier of a part is `int(lcm / d)` (float division, truncated) - or the exact `lcm // d` - in `merge_parts` and in
`note_array_from_part_list`, start and end are MULTIPLIED by it, the new part is `Part(parts[0].id,
quarter_duration=lcm)` with no other argument, a part without notes counts with divisions 1 in the score-level note
array, whose onset, duration and divisions columns are multiplied.  (Regenerated from the sources on every run.) -/
theorem arith_source :
    Gen.C15.arithOk = true ∧ Gen.C15.lcmFunc = "np.lcm.reduce" ∧ Gen.C15.refLcmFunc = "np.lcm.reduce"
      ∧ ((Gen.C15.multOp = "/" ∧ Gen.C15.multTrunc = true) ∨ Gen.C15.multOp = "//")
      ∧ ((Gen.C15.refMultOp = "/" ∧ Gen.C15.refMultTrunc = true) ∨ Gen.C15.refMultOp = "//")
      ∧ Gen.C15.timeOps = ["*", "*"]
      ∧ Gen.C15.newPartIdIndex = 0 ∧ Gen.C15.newPartIdAttr = "id" ∧ Gen.C15.newPartQuarterIsLcm = true
      ∧ Gen.C15.newPartOtherArgs = 0
      ∧ Gen.C15.refEmptyDivs = 1 ∧ Gen.C15.refScaled = ["onset_div", "duration_div", "divs_pq"] := by
  decide +kernel

/-- the multiplier as the live source computes it is the float expression or the exact quotient -/
theorem mult_coded_form (L d : Nat) :
    multAsCoded L d = some (floatMult L d) ∨ multAsCoded L d = some (L / d) := by
  rcases arith_source.2.2.2.1 with ⟨h1, h2⟩ | h
  · left; simp only [multAsCoded, h1, h2]; rfl
  · right; simp only [multAsCoded, h]; rfl

/-- The multiplier the code computes is EXACT - the integer `lcm / d`, no rounding - for every divisor `d` of every
`lcm` below 2^53 (with `int(lcm / d)`: the IEEE double division of Model/MergeFloat.lean; with `lcm // d`: trivially). -/
theorem float_multiplier_exact (L d : Nat) (hd : 0 < d) (hdvd : d ∣ L) (hL : 0 < L) (h53 : L < 2 ^ 53) :
    multAsCoded L d = some (L / d) := by
  rcases mult_coded_form L d with h | h
  · rw [h, floatMult_exact hd hdvd hL h53]
  · exact h

/-- ... so for every list of parts with positive divisions whose least common multiple is below 2^53 the multiplier
the code computes for each part is the one of the model (`ctxAt`), whatever the combination of divisions. -/
theorem multipliers_as_coded (ps : List APart) (hpos : ∀ p ∈ ps, 0 < p.divs)
    (h53 : lcmList (ps.map (·.divs)) < 2 ^ 53) (i : Nat) (p : APart) (hp : ps[i]? = some p) :
    multAsCoded (lcmList (ps.map (·.divs))) p.divs = some (ctxAt (lcmList (ps.map (·.divs))) ps i p).mult := by
  have hmem : p ∈ ps := List.mem_of_getElem? hp
  rw [float_multiplier_exact _ _ (hpos p hmem) (divs_dvd_lcm hmem) (lcm_divs_pos hpos) h53, ctxAt_mult]

/-- hypotheses of `float_multiplier_exact` at a non-trivial value -/
example : multAsCoded 6720 480 = some 14 ∧ (480 ∣ 6720) ∧ 6720 < 2 ^ 53 := by decide +kernel

/-- Beyond 2^53 the bound cannot be dropped: for the divisions 403979, 104607, 282917 (least common multiple
11955798345005001 > 2^53) `int(lcm / d)` is 29595098618 for the first part, one less than the exact
quotient - a quarter of that part would last 29595098618/29595098619 of a quarter in the merged part. -/
theorem float_multiplier_witness :
    lcmList [403979, 104607, 282917] = 11955798345005001 ∧ ¬ (11955798345005001 < 2 ^ 53)
      ∧ floatMult 11955798345005001 403979 = 29595098618
      ∧ 11955798345005001 / 403979 = 29595098619 := by
  decide +kernel

/-- The new part carries the identifier of the FIRST part of the argument (`Part(parts[0].id, ...)`), whatever else is
listed and however often that part is reachable. -/
theorem new_part_id (p : APart) (ps : List APart) : newPartName (distinctParts (p :: ps)) = some p.name := rfl

/-- ... and there is always one when there is something to merge -/
theorem new_part_id_total (ps : List APart) (h : ps ≠ []) : (newPartName ps).isSome = true := by
  cases ps with
  | nil => exact absurd rfl h
  | cons p ps => rfl

/-- When every part has a sounding note, `note_array_from_part_list` as it is computed (a part without notes
counting with divisions 1) is the reference `refSound` of `sounding_equal`: same common divisions, same rows. -/
theorem score_sound_all_sounding (ps : List APart) (h : ∀ p ∈ ps, (rows p.elems).isEmpty = false) :
    scoreDivs ps = lcmList (ps.map (·.divs)) ∧ scoreSound ps = refSound ps := by
  have hd : ∀ p ∈ ps, refDivs p = p.divs := fun p hp => by simp only [refDivs, h p hp]; rfl
  have hL : scoreDivs ps = lcmList (ps.map (·.divs)) := by
    unfold scoreDivs; rw [List.map_congr_left hd]
  refine ⟨hL, ?_⟩
  unfold scoreSound refSound
  rw [hL]
  exact List.flatMap_congr fun p hp => by rw [hd p hp]

theorem refDivs_dvd (p : APart) : refDivs p ∣ p.divs := by
  unfold refDivs
  split
  · exact Nat.one_dvd _
  · exact Nat.dvd_refl _

theorem scoreDivs_dvd : ∀ ps : List APart, scoreDivs ps ∣ lcmList (ps.map (·.divs))
  | [] => Nat.dvd_refl _
  | p :: ps => by
    show Nat.lcm (refDivs p) (scoreDivs ps) ∣ Nat.lcm p.divs (lcmList (ps.map (·.divs)))
    exact Nat.lcm_dvd (Nat.dvd_trans (refDivs_dvd p) (Nat.dvd_lcm_left _ _))
      (Nat.dvd_trans (scoreDivs_dvd ps) (Nat.dvd_lcm_right _ _))

theorem scaleSound_scaleSound (j k : Nat) (x : Nat × Option Int × Option Int) :
    scaleSound k (scaleSound j x) = scaleSound (j * k) x := by
  obtain ⟨a, b, c⟩ := x
  cases b with
  | none => simp [scaleSound, Nat.mul_assoc]
  | some b => simp [scaleSound, Nat.mul_assoc, Int.mul_assoc]

/-- In general (parts WITHOUT sounding notes included, whose divisions the score-level array ignores) the score-level
note array is the reference at a coarser grid: its common divisions `L'` divide the least common multiple `L` of all
parts, and every row multiplied by `L / L'` is the row of the reference - i.e. the sounding notes of the merged part
(`sounding_equal`) and of the score-level note array are at the same musical time (position / divisions), and they
are equal number by number exactly when `L' = L`. -/
theorem score_sound_same_musical_time (ps : List APart) (hpos : ∀ p ∈ ps, 0 < p.divs) :
    scoreDivs ps ∣ lcmList (ps.map (·.divs))
      ∧ (scoreSound ps).map (scaleSound (lcmList (ps.map (·.divs)) / scoreDivs ps)) = refSound ps := by
  have hdvd := scoreDivs_dvd ps
  refine ⟨hdvd, ?_⟩
  have hL'pos : 0 < scoreDivs ps := Nat.pos_of_dvd_of_pos hdvd (lcm_divs_pos hpos)
  unfold scoreSound refSound
  rw [List.map_flatMap]
  refine List.flatMap_congr fun p hp => ?_
  rw [List.map_map]
  by_cases hr : (rows p.elems).isEmpty = true
  · rw [List.isEmpty_iff.mp hr]; rfl
  · have hd : refDivs p = p.divs := by simp only [refDivs, hr]; rfl
    have hpd : p.divs ∣ scoreDivs ps := by
      rw [← hd]; exact dvd_lcmList (List.mem_map.mpr ⟨p, hp, rfl⟩)
    refine List.map_congr_left fun r _ => ?_
    show scaleSound _ (scaleSound _ r.sound) = _
    rw [scaleSound_scaleSound, hd, Nat.div_mul_div_comm hpd hdvd, Nat.mul_comm p.divs,
      Nat.mul_div_mul_left _ _ hL'pos]

/-- END TO END, the last sentence of the property for EVERY accepted input (parts without sounding notes included):
the sounding rows of the merged part are, as a multiset, the rows of the score-level note array as
`note_array_from_part_list` computes it, brought from its grid `L'` to the grid `L` of the merged part (`L' ∣ L`;
the factor is 1 when every part sounds) - the same notes at the same musical time. -/
theorem sounding_equal_as_computed (m : Mode) (ps : List APart) (L : Nat) (es : List Elem)
    (h : mergeParts m ps = some (.merged L es)) (hid : OidsDistinct ps) (hties : TiesClosed ps) :
    scoreDivs ps ∣ L ∧ ((rows es).map Row.sound).Perm ((scoreSound ps).map (scaleSound (L / scoreDivs ps))) := by
  obtain ⟨hd, hq⟩ := score_sound_same_musical_time ps (mergeParts_merged_iff.mp h).2.1
  cases merged_divs h
  exact ⟨hd, hq ▸ sounding_equal m ps _ es h hid hties⟩

/-- hypotheses: a score with a part that has no sounding note (exB's divisions 4, no elements): the score-level
divisions 3 are not the least common multiple 12 -/
example : scoreDivs [exA, { exB with elems := [] }] = 3 ∧ lcmList ([exA, { exB with elems := [] }].map (·.divs)) = 12 := by
  decide +kernel

end C15
