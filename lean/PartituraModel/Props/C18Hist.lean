/-
C18 — one score object used, edited in place and used again; score sequences that end
in notes without duration.
-/
import PartituraModel.Props.C18Pipeline
import PartituraModel.Model.CodecHist

namespace C18
open Model Model.Codec C18P

/-- the results of the uses of a history on a score whose table is `ss`, each computed from the table
    as the edits BEFORE it leave it (a fresh score of that value) -/
def freshObs (ss : List SRow) : List HOp → List Obs
  | [] => []
  | .edit e :: h => freshObs (applyEdit ss e) h
  | .query q :: h => observe ss q :: freshObs ss h

theorem foldl_hstep (st : HSt) (h : List HOp) :
    h.foldl hstep st = (applyEdits st.1 (editsOf h), st.2 ++ freshObs st.1 h) := by
  induction h generalizing st with
  | nil => simp [editsOf, applyEdits, freshObs]
  | cons op h ih =>
    cases op with
    | edit e =>
      simp only [List.foldl_cons, hstep, ih, editsOf, applyEdits, freshObs]
    | query q =>
      simp only [List.foldl_cons, hstep, ih, editsOf, freshObs, List.append_assoc, List.singleton_append]

/-- uses of the codec never change the score -/
theorem history_frame (ss : List SRow) (h : List HOp) : (hrun ss h).1 = applyEdits ss (editsOf h) := by
  unfold hrun; rw [foldl_hstep]

theorem history_results (ss : List SRow) (h : List HOp) : (hrun ss h).2 = freshObs ss h := by
  unfold hrun; rw [foldl_hstep]; simp

theorem editsOf_append (h₁ h₂ : List HOp) : editsOf (h₁ ++ h₂) = editsOf h₁ ++ editsOf h₂ := by
  induction h₁ with
  | nil => rfl
  | cons op h ih => cases op <;> simp [editsOf, ih]

theorem freshObs_append (ss : List SRow) (h₁ h₂ : List HOp) :
    freshObs ss (h₁ ++ h₂) = freshObs ss h₁ ++ freshObs (applyEdits ss (editsOf h₁)) h₂ := by
  induction h₁ generalizing ss with
  | nil => simp [freshObs, editsOf, applyEdits]
  | cons op h ih =>
    cases op with
    | edit e => simp only [List.cons_append, freshObs, ih, editsOf, applyEdits, List.foldl_cons]
    | query q => simp only [List.cons_append, freshObs, ih, editsOf, List.cons_append]

/-- a use of the codec after ANY history (edits and earlier uses in any order) returns what the same
    call returns on a fresh score holding the note table as it is now -/
theorem history_fresh (ss : List SRow) (h : List HOp) (q : Query) :
    (hrun ss (h ++ [.query q])).2 = (hrun ss h).2 ++ [observe (applyEdits ss (editsOf h)) q] := by
  rw [history_results, history_results, freshObs_append]
  simp [freshObs]

/-- … in particular two histories with the same edits answer it alike, whatever was read before -/
theorem history_uses_irrelevant (ss : List SRow) (h h' : List HOp) (q : Query) (he : editsOf h = editsOf h') :
    ((hrun ss (h ++ [.query q])).2).getLast? = ((hrun ss (h' ++ [.query q])).2).getLast? := by
  rw [history_fresh, history_fresh, he]
  simp

/-- encode · edit (move `n2` half a beat later) · encode: the second result is the one of the edited table -/
def demoHist : List HOp :=
  [.query (.enc .average .bp 0 demoPerf demoAl), .edit (.move "n2" 6 (3/2) (1/2)), .edit (.pitch "n0" 61),
   .query (.ms demoPerf demoAl)]

example : (hrun demoScore demoHist).1 = [⟨"n0", 0, 61, 0, 1⟩, ⟨"n1", 0, 55, 0, 2⟩, ⟨"n2", 6, 62, 3/2, 1/2⟩] := by
  decide +kernel
example : ((hrun demoScore demoHist).2).getLast? =
    some (.ms (some ([⟨0, 0, 1, 61, 1, 3/40, 70⟩, ⟨2, 3/2, 1/2, 62, 17/16, 1, 60⟩], ["n0", "n2"]))) := by
  decide +kernel

theorem map_ite_ids (ss : List SRow) (id : String) (g : SRow → SRow) (hg : ∀ r, (g r).id = r.id) :
    (ss.map fun r => if r.id = id then g r else r).map (·.id) = ss.map (·.id) := by
  rw [List.map_map]
  apply List.map_congr_left
  intro r _
  simp only [Function.comp]
  split
  · exact hg r
  · rfl

/-- the ids stay unique under every edit that adds no id twice -/
theorem edits_keep_ids_unique (ss : List SRow) (e : SEdit) (hnd : (ss.map (·.id)).Nodup)
    (hadd : ∀ r, e = .add r → r.id ∉ ss.map (·.id)) : ((applyEdit ss e).map (·.id)).Nodup := by
  cases e with
  | move id od so sd =>
    rw [applyEdit, map_ite_ids ss id (fun r => { r with odiv := od, so := so, sd := sd }) (fun _ => rfl)]
    exact hnd
  | pitch id p =>
    rw [applyEdit, map_ite_ids ss id (fun r => { r with pitch := p }) (fun _ => rfl)]
    exact hnd
  | del id =>
    simp only [applyEdit]
    exact (List.filter_sublist.map _).nodup hnd
  | add r =>
    simp only [applyEdit, List.map_append, List.map_cons, List.map_nil]
    refine List.Nodup.append hnd (List.nodup_singleton _) ?_
    intro a ha hb
    rw [List.mem_singleton] at hb
    exact hadd r rfl (hb ▸ ha)

/-- an edit of note `id` leaves the rows of all other notes as they are -/
theorem edit_other_rows (ss : List SRow) (e : SEdit) (r : SRow) (hr : r ∈ ss)
    (hid : match e with
      | .move id _ _ _ => r.id ≠ id
      | .pitch id _ => r.id ≠ id
      | .del id => r.id ≠ id
      | .add _ => True) : r ∈ applyEdit ss e := by
  cases e with
  | move id od so sd =>
    simp only [applyEdit, List.mem_map]
    exact ⟨r, hr, by rw [if_neg hid]⟩
  | pitch id p =>
    simp only [applyEdit, List.mem_map]
    exact ⟨r, hr, by rw [if_neg hid]⟩
  | del id =>
    simp only [applyEdit, List.mem_filter]
    exact ⟨hr, by simpa using hid⟩
  | add r' =>
    simp only [applyEdit, List.mem_append]
    exact Or.inl hr

/-- … and the moved note is where the edit put it -/
theorem edit_move_row (ss : List SRow) (id : String) (od : Int) (so sd : Rat) (r : SRow) (hr : r ∈ ss) (hid : r.id = id) :
    { r with odiv := od, so := so, sd := sd } ∈ applyEdit ss (.move id od so sd) := by
  simp only [applyEdit, List.mem_map]
  exact ⟨r, hr, by rw [if_pos hid]⟩

/-- THE ROUND TRIP on one score object with a past.  `ss0` is the note table of the score object when it
    was first used, `h` ANY history of in-place edits and uses of the codec (with any performances,
    alignments, normalisations, tempo curves).  If the table as it is NOW satisfies the hypotheses of
    `performance_roundtrip` (something is matched, ids unique, no negative duration, MIDI velocities),
    then `encode_performance` on the object returns parameters and `snote_ids` (the last result of the
    history), the score is still the edited table, and `decode_performance` against it returns, for
    every match of the alignment, the score id, the performed onset minus one common shift, the velocity
    and (positive score duration, at least 0.075 s) the performed duration. -/
theorem history_roundtrip (L E : Rat → Rat) (hLE : ∀ r, 0 < r → E (L r) = r)
    (m : Method) (hm : m = .average ∨ m = .derivative) (n : Norm) (sd : Rat)
    (ss0 : List SRow) (h : List HOp) (ps : List PRow) (al : List ARow) (rows : List MRow)
    (hrows : toMatchedScore (applyEdits ss0 (editsOf h)) ps al = some rows)
    (hne : matchedNotes (applyEdits ss0 (editsOf h)) ps al ≠ [])
    (hnd : ((applyEdits ss0 (editsOf h)).map (·.id)).Nodup) (hsd : ∀ s ∈ applyEdits ss0 (editsOf h), 0 ≤ s.sd)
    (hvel : ∀ p ∈ ps, 1 ≤ p.vel ∧ p.vel ≤ 127)
    (hstd : ∀ bp, tempoOf m (rows.map toMNote) = some bp → StdOk n sd bp) :
    ∃ params ids pairs shift out,
      ((hrun ss0 (h ++ [.query (.enc m n sd ps al)])).2).getLast? = some (.enc (some (params, ids))) ∧
      (hrun ss0 (h ++ [.query (.enc m n sd ps al)])).1 = applyEdits ss0 (editsOf h) ∧
      decodePerformance n (applyEdits ss0 (editsOf h)) ids (params.map (viaLog (fun r => E (L r)) n)) = some out ∧
      pairs.Perm (matchedNotes (applyEdits ss0 (editsOf h)) ps al) ∧
      List.Forall₂ (fun (ij : Nat × Nat) (o : String × Rat × Rat × Int) =>
        ∃ s p, (applyEdits ss0 (editsOf h))[ij.1]? = some s ∧ ps[ij.2]? = some p ∧
          o.1 = s.id ∧ o.2.1 = p.po - shift ∧ o.2.2.2 = p.vel ∧
          (0 < s.sd → 3 / 40 ≤ p.pd → o.2.2.1 = p.pd)) pairs out := by
  obtain ⟨params, ids, pairs, shift, out, henc, hdec, hperm, _, hall⟩ :=
    performance_roundtrip L E hLE m hm n sd _ ps al rows hrows hne hnd hsd hvel hstd
  refine ⟨params, ids, pairs, shift, out, ?_, ?_, hdec, hperm, hall⟩
  · rw [history_fresh]
    simp [observe, henc]
  · rw [history_frame, editsOf_append]
    simp [editsOf, applyEdits]

/-- the hypotheses hold for `demoScore` after `demoHist` -/
example : toMatchedScore (applyEdits demoScore (editsOf demoHist)) demoPerf demoAl
      = some [⟨0, 0, 1, 61, 1, 3/40, 70⟩, ⟨2, 3/2, 1/2, 62, 17/16, 1, 60⟩]
    ∧ matchedNotes (applyEdits demoScore (editsOf demoHist)) demoPerf demoAl ≠ []
    ∧ ((applyEdits demoScore (editsOf demoHist)).map (·.id)).Nodup
    ∧ (∀ s ∈ applyEdits demoScore (editsOf demoHist), 0 ≤ s.sd) := by decide +kernel

/-- `last_time` of `get_unique_seq` lies strictly after every onset (no offset before its onset) -/
theorem last_time_after_onsets {α : Type} (l : List α) (f g : α → Rat) (hfg : ∀ x ∈ l, f x ≤ g x) (t : Rat)
    (h : lastTime (l.map f) (l.map g) = some t) : ∀ x ∈ l, f x < t :=
  lastTime_gt l f g hfg t h

/-- when the last onset carries a note without duration and no note sounds past that onset — the
    matched-note table ends in a grace note whose main note is a deletion, or the score ends in grace
    notes — the score sequence ends exactly ONE BEAT after the last onset (seeded change C18-f made it
    end AT the last onset: a score interval of length 0 and a beat period 0/0) -/
theorem last_time_grace_end {α : Type} (l : List α) (f g : α → Rat) (x : α) (hx : x ∈ l)
    (hlast : ∀ y ∈ l, f y ≤ f x) (hgrace : g x = f x) (hpast : ∀ y ∈ l, g y ≤ f x) :
    lastTime (l.map f) (l.map g) = some (f x + 1) := by
  cases l with
  | nil => simp at hx
  | cons a as =>
    have hmax : ∀ k : α → Rat, k x = f x → (∀ y ∈ a :: as, k y ≤ f x) → maxL (k a) (as.map k) = f x := by
      intro k hkx hk
      apply maxL_eq_of_mem_of_le
      · rw [← List.map_cons]; exact List.mem_map.mpr ⟨x, hx, hkx⟩
      · intro y hy
        rw [← List.map_cons] at hy
        obtain ⟨z, hz, rfl⟩ := List.mem_map.mp hy
        exact hk z hz
    simp only [List.map_cons, lastTime, hmax f rfl hlast, hmax g hgrace hpast]
    rw [isClose_self]
    rfl

/-- a matched-note table that ends in a grace note alone (its main note is a deletion): three onsets,
    the last one without duration; nothing sounds past beat 2 -/
def demoGraceEnd : List MNote := [⟨0, 1, 1, 1/2⟩, ⟨1, 1, 3/2, 1/4⟩, ⟨1, 1/2, 25/16, 1/4⟩, ⟨2, 0, 9/4, 1/8⟩]

example : lastTime (demoGraceEnd.map (·.so)) (demoGraceEnd.map fun n => n.so + n.sd) = some 3 := by decide +kernel
example : tempoAverage demoGraceEnd (encGroups demoGraceEnd) = some [17/32, 23/32, 1/8]
    ∧ tempoDerivative demoGraceEnd (encGroups demoGraceEnd) = some [17/32, 5/8, 27/64] := by decide +kernel

/-- … and every normalisation × both tempo curves decode it to the performance (shift 1; the grace note
    comes back without duration, F-C18-2) -/
example : ∀ n ∈ [Norm.bp, .log, .ratio, .ratioLog], ∀ m ∈ [0, 1],
    ((encode (if m = 0 then .average else .derivative) n 0 demoGraceEnd).bind fun ps =>
      decodeTime n (List.zipWith toDRow demoGraceEnd ps))
      = some [(0, 1/2), (1/2, 1/4), (9/16, 1/4), (5/4, 0)] := by decide +kernel

/-- the witness of repair C18-11: float32(41/3) + float32(4/3) exceeds the last onset 15 by 3/8388608;
    the sequence still ends one beat after the last onset -/
theorem last_time_rounded_offset :
    lastTime [14330539/1048576, 15] [14330539/1048576 + 11184811/8388608, 15] = some 16 := by decide +kernel

/-- a note that does sound past the last onset ends the sequence -/
example : lastTime [0, 1, 2] [1, 2, 5/2] = some (5/2) := by decide +kernel

end C18
