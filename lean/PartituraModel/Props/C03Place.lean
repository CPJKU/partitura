/-
C03 — the non-note children of a measure are read at the time they were written for.

  Model/XmlTrace.lean   `readOthers` (the position and `measure_maxtime` of `_handle_measure` at every `<attributes>`,
                        `<direction>`, `<sound>`, `<harmony>`, `<barline>`, `<print>`), `expectedOthers`
tied to the code by harness/props/c03.py stream otr (and, for the writer side, lin).
-/
import PartituraModel.Proofs.C03Measure
import PartituraModel.Model.XmlBar

namespace C03
open Model.Xml

/-- **others_in_place.**  For every well-formed measure content — any number of divisions segments, voices, chords, grace
    sequences, gaps, and any non-note elements at any onsets of the measure — both readers (the MusicXML semantics and the
    importer's bookkeeping), going through what `linearize` wrote, meet the non-note children in the order
    `merge_with_voice` placed them (segment by segment, by onset, inside an onset by rank), each exactly at the onset it
    was written for: time signatures, key signatures, clefs, divisions, directions, tempi, harmony and barlines are put on
    the timeline where they were.  The furthest position reached so far (`measure_maxtime`) lies between that onset and
    the end of the measure. -/
theorem others_in_place (m : MeasureContent) (hwf : MeasureWF m) (spec : Bool) :
    (readOthers spec m.start (linearize m)).map (fun e => (e.pos, e.order, e.sig)) = expectedOthers m ∧
      ∀ e ∈ readOthers spec m.start (linearize m), e.pos ≤ e.maxt ∧ e.maxt ≤ m.stop := by
  obtain ⟨s', tr, hread, _, _, hin, _, hkey, hbd⟩ := C03.Main.reads_linearize spec m hwf
  unfold readOthers
  rw [hread.trace]
  exact ⟨hkey, fun e he => ⟨(hbd e he).1, Nat.le_trans (hbd e he).2 hin.bound⟩⟩

/-- a measure with a second voice: the barline written for the end of the measure is met at the end, after the
    `<forward>` that closes the gap -/
def exampleMeasure : MeasureContent :=
  { nStaves := 1,
    segs := [
      { start := 0, stop := 8,
        notes := [
          { idx := 0, onset := 0, dur := 4, grace := false, voice := 1, staff := 1, pitch := 60, step := [67],
            gracePrev := false, seq := [] },
          { idx := 1, onset := 2, dur := 2, grace := false, voice := 2, staff := 1, pitch := 48, step := [67],
            gracePrev := false, seq := [] }],
        others := [{ onset := 8, order := 0, sig := "bar" }, { onset := 0, order := 1, sig := "att" }] }] }

example : MeasureWF exampleMeasure ∧
    readOthers false 0 (linearize exampleMeasure) = [⟨0, 0, 1, "att"⟩, ⟨8, 8, 0, "bar"⟩] := by
  decide +kernel

/-- **barline_position.**  A barline that `do_barlines` writes for onset `t` of a measure `[start, stop]` (location left
    when `t` is the start, right when it is the end, middle otherwise), met by the importer at position `t` with
    `t ≤ measure_maxtime ≤ stop` (`others_in_place`): the position its repeats and endings are given
    (`position_barline`) is `t`. -/
theorem barline_position (start stop t : Nat) (ms : Model.XmlBar.MState) (hpos : ms.pos = t)
    (hmax : t ≤ ms.maxt ∧ ms.maxt ≤ stop) :
    Model.XmlBar.barPos start ms (some (Model.XmlBar.locOf start stop t).name) = t := by
  unfold Model.XmlBar.barPos Model.XmlBar.locOf
  by_cases h1 : t = start
  · simp [h1, Model.XmlBar.Loc.name, Model.XmlBar.sLeft, Model.XmlBar.sRight]
  · by_cases h2 : t = stop
    · subst h2
      simp only [h1, if_false, if_true, Model.XmlBar.Loc.name]
      omega
    · simp [h1, h2, Model.XmlBar.Loc.name, Model.XmlBar.sLeft, Model.XmlBar.sRight, Model.XmlBar.sMiddle, hpos]

end C03
