/-
C08 — the end-to-end statements about the onsets, the `OnsetInBeats` FALLBACK of `part_from_matchfile`, and defects
F-C08-19 and F-C08-20.

`part_from_matchfile` computes every onset twice: from measure:beat + offset (`onset_divs`) and from the four-decimal
`OnsetInBeats` through the beats→quarters map (`onset_in_divs`); when the two differ by more than
`np.isclose(atol = divs/100)` allows it keeps the second.

That the first line in the reader's order (`sort_snotes`: by measure, beat, offset) carries the smallest written beat
time — the code said so in a comment (`min_time = snotes[0].OnsetInBeats  # sorted by OnsetInBeats`) — is true for scores
whose time signatures change at measure starts only (`first_line_is_earliest`) and FALSE otherwise
(`first_line_not_earliest`: 6/8 changing to 4/4 inside a bar - the beat number of a note is counted in the beat type in
force at the note); there the unrepaired reader shifted every note and the fallback replaced both onsets by wrong ones
(witness corpus/C08/w-C08-19.json).  Fix C08-19 takes the minimum; the model mirrors it, and `repair_conservative` states
that on laid-out scores the repaired reader computes what the unrepaired one did.
-/
import PartituraModel.Props.C08Compose

namespace C08
open Model Model.MatchTime

/-- **reconstruct_onset_spec.**  Whenever `reconstruct` succeeds (any snotes, any signature lines), with `first` the first
    line in the reader's order and `nmin` the earliest line: the shift is `min(map(nmin), 0)`, and every loaded note `(i, onset, _)` is made from line
    `i` (`n`) and the first line `n₁` of its bar: the reader compares `round(divs · notePos …)` with `readerOid`, keeps
    the former iff `isClose` accepts the pair, and records in `r.fallback` (one flag per note) whether it did not. -/
theorem reconstruct_onset_spec (raw : List SNote) (ts : List TSLine) (ks : List (Rat × Int)) (r : Recon)
    (h : reconstruct raw ts ks = some r) :
    ∃ first nmin, (sortedNotes raw).head? = some first ∧ nmin ∈ raw
      ∧ ((sortedNotes raw).map (·.2.onsetB)).foldl min first.2.onsetB = nmin.onsetB
      ∧ r.shiftQ = min (beatsToQuarters ts nmin.onsetB) 0
      ∧ r.notes.length = r.fallback.length
      ∧ ∀ yb ∈ r.notes.zip r.fallback, ∃ n n₁ : SNote, raw[yb.1.1]? = some n
        ∧ firstOfBar (sortedNotes raw) n.measure = some n₁ ∧ n₁.measure = n.measure ∧ n₁ ∈ raw
        ∧ yb.2 = (!isClose ((roundHalfEven ((r.divs : Rat) * notePos (barTime ts (readerMaxTime raw ts) n₁) n.beat
                        (denAtBeats ts (readerMaxTime raw ts) n.onsetB) n.offset.val r.shiftQ) : Int) : Rat)
                      (readerOid raw ts r.divs first.2 n) ((r.divs : Rat) / 100))
        ∧ yb.1.2.1 = (if (!isClose ((roundHalfEven ((r.divs : Rat) * notePos (barTime ts (readerMaxTime raw ts) n₁) n.beat
                        (denAtBeats ts (readerMaxTime raw ts) n.onsetB) n.offset.val r.shiftQ) : Int) : Rat)
                      (readerOid raw ts r.divs first.2 n) ((r.divs : Rat) / 100)) = true
                   then readerOid raw ts r.divs first.2 n
                   else ((roundHalfEven ((r.divs : Rat) * notePos (barTime ts (readerMaxTime raw ts) n₁) n.beat
                        (denAtBeats ts (readerMaxTime raw ts) n.onsetB) n.offset.val r.shiftQ) : Int) : Rat)) := by
  obtain ⟨first, hfirst, _, hshift, hnotes, hfb, _⟩ := reconstruct_anatomy raw ts ks r h
  obtain ⟨nmin, hnmin, hminB, _⟩ := minOnset_spec hfirst
  refine ⟨first, nmin, hfirst, hnmin, hminB, hminB ▸ hshift, by rw [hnotes, hfb, List.length_map, List.length_map], ?_⟩
  intro yb hyb
  rw [hnotes, hfb, List.zip_map', List.mem_map] at hyb
  obtain ⟨p, hp, rfl⟩ := hyb
  obtain ⟨h1, h2, h3⟩ := barHead_spec hp
  exact ⟨p.2, _, mem_sortedNotes.mp hp, h1, h2, h3, rfl, rfl⟩

/-- **fallback_quiet.**  `D` divisions; a note truly `Qo` quarters and the first note truly `Qf` quarters from beat 0;
    the reader's map gives `Qo + eo` and `Qf + ef` (the four-decimal rounding of the two beat times, each at most
    `1/5000` quarter).  Then the position computed from measure:beat + offset, when it is the exact one, passes the
    reader's `isClose(atol = divs/100)` test against `onset_in_divs`: the fallback does not fire. -/
theorem fallback_quiet (D : Nat) (Qo Qf eo ef : Rat) (heo : |eo| ≤ 1 / 5000) (hef : |ef| ≤ 1 / 5000) :
    isClose ((D : Rat) * (Qo - min Qf 0))
      ((D : Rat) * ((Qo + eo) - (Qf + ef)) + (if Qf + ef > 0 then (Qf + ef) * (D : Rat) else 0))
      ((D : Rat) / 100) = true := by
  have hD : (0 : Rat) ≤ (D : Rat) := Nat.cast_nonneg D
  have hoid : (D : Rat) * ((Qo + eo) - (Qf + ef)) + (if Qf + ef > 0 then (Qf + ef) * (D : Rat) else 0)
      = (D : Rat) * ((Qo + eo) - min (Qf + ef) 0) := by
    split
    · rename_i hp; rw [min_eq_right (le_of_lt hp)]; ring
    · rename_i hp; rw [min_eq_left (not_lt.mp hp)]; ring
  have hdiff : (D : Rat) * (Qo - min Qf 0) - (D : Rat) * ((Qo + eo) - min (Qf + ef) 0)
      = (D : Rat) * ((min (Qf + ef) 0 - min Qf 0) - eo) := by ring
  have hlip : |min (Qf + ef) 0 - min Qf 0| ≤ |ef| := by
    have := C08M.min_zero_lipschitz (Qf + ef) Qf
    rwa [add_sub_cancel_left] at this
  rw [hoid]
  unfold isClose
  rw [decide_eq_true_eq, C08C.absR_eq_abs, C08C.absR_eq_abs, hdiff, abs_mul, abs_of_nonneg hD]
  calc (D : Rat) * |min (Qf + ef) 0 - min Qf 0 - eo|
      ≤ (D : Rat) * (1 / 5000 + 1 / 5000) :=
        mul_le_mul_of_nonneg_left ((abs_sub _ _).trans (add_le_add (hlip.trans hef) heo)) hD
    _ ≤ (D : Rat) / 100 := by linarith
    _ ≤ (D : Rat) / 100 + |(D : Rat) * ((Qo + eo) - min (Qf + ef) 0)| / 100000 :=
        le_add_of_nonneg_right (div_nonneg (abs_nonneg _) (by norm_num))

/-- **roundtrip_onsets_all.**  The readable form of `roundtrip_onsets_exact`: no fallback flag is set, and every loaded
    note sits exactly at its saved distance from the loaded origin.  The proof: the onset from measure:beat + offset rounds
    to the exact one (`loaded_line`), and the one from `OnsetInBeats` differs from it by two beat-time roundings only, which
    the reader's test lets pass (`fallback_quiet`). -/
theorem roundtrip_onsets_all (sc : Score) (wf : WrittenScore sc)
    (stored : List (Int × Int)) (ks : List (Int × Nat))
    (r : Recon) (h : sc.roundTrip stored ks = some r)
    (mnum : Int → Int) (hTS : sc.readTS = sc.tsLines mnum)
    (s0 : TSig) (rest : List TSig) (hts : sc.ts = s0 :: rest)
    (hafter : ∀ p ∈ stored, s0.t ≤ p.1)
    (hexact : ∀ x ∈ rest, dec4 (sc.beats x.t) = sc.beats x.t)
    (hD : r.divs < 1250)
    (hgrid : ∀ p ∈ stored, ∀ q ∈ stored, ∃ z : Int,
      (r.divs : Rat) * (sc.quarters p.1 - min (sc.quarters q.1) 0) = (z : Rat)) :
    (∀ b ∈ r.fallback, b = false)
    ∧ ∃ of dfirst, (of, dfirst) ∈ stored ∧ ∀ y ∈ r.notes, ∃ o d, stored[y.1]? = some (o, d)
      ∧ y.2.1 = (r.divs : Rat) * (sc.quarters o - min (sc.quarters of) 0) := by
  obtain ⟨sts, hsts, hrec⟩ := roundTrip_lines sc stored ks r h
  obtain ⟨first, hfirst, _, hshift, hnotes, hfb, _⟩ := reconstruct_anatomy _ _ _ r hrec
  obtain ⟨nmin, hnmin, hminB, _⟩ := minOnset_spec hfirst
  obtain ⟨of, dfirst, ef, hofmem, hef, hbf, hline⟩ :=
    loaded_line sc wf stored sts hsts mnum hTS s0 rest hts hafter hexact first hfirst nmin hnmin r.divs hD
  -- every line of the file: the exact onset, and the reader's test lets it pass
  have key : ∀ p ∈ sortedNotes (sts.map STime.toSNote), ∃ o d, stored[p.1]? = some (o, d)
      ∧ (loaded (sts.map STime.toSNote) sc.readTS (readerMaxTime (sts.map STime.toSNote) sc.readTS) r.divs r.shiftQ
          first.2 p).1.2.1 = (r.divs : Rat) * (sc.quarters o - min (sc.quarters of) 0)
      ∧ (loaded (sts.map STime.toSNote) sc.readTS (readerMaxTime (sts.map STime.toSNote) sc.readTS) r.divs r.shiftQ
          first.2 p).2 = false := by
    intro p hp
    obtain ⟨o, d, mi, m₁, s, e, hsto, hl, hden, he, hbo, hclose⟩ := hline p hp
    obtain ⟨z, hz⟩ := hgrid (o, d) (List.mem_of_getElem? hsto) (of, dfirst) hofmem
    refine ⟨o, d, hsto, ?_⟩
    -- the onset from measure:beat + offset is the exact one
    have hod : ((roundHalfEven ((r.divs : Rat) * notePos (barTime sc.readTS (readerMaxTime (sts.map STime.toSNote) sc.readTS)
          (barHead (sts.map STime.toSNote) p.2.measure)) p.2.beat
          (denAtBeats sc.readTS (readerMaxTime (sts.map STime.toSNote) sc.readTS) p.2.onsetB) p.2.offset.val r.shiftQ) : Int) : Rat)
        = (r.divs : Rat) * (sc.quarters o - min (sc.quarters of) 0) := by
      have hx : ∀ B S : Rat, B + ((o - m₁.s : Int) : Rat) / (sc.divs : Rat) - S - (sc.quarters o - min (sc.quarters of) 0)
          = B - S - (sc.quarters m₁.s - min (sc.quarters of) 0) := fun B S => by
        rw [← quarters_sub sc s0 rest hts o m₁.s]; ring
      rw [hden, hl.beat, hl.offset, C08P.notePos_enc sc.divs s.den wf.divs_pos (wf.den_at hl.sig), hshift, hminB,
        Round.round_mul_near r.divs _ _ z hz (by rw [hx]; exact hclose), hz]
    -- the one from `OnsetInBeats` differs from it by the two roundings only
    have hquiet := fallback_quiet r.divs (sc.quarters o) (sc.quarters of) e ef he hef
    have hoid : readerOid (sts.map STime.toSNote) sc.readTS r.divs first.2 p.2
        = (r.divs : Rat) * ((sc.quarters o + e) - (sc.quarters of + ef))
            + (if sc.quarters of + ef > 0 then (sc.quarters of + ef) * (r.divs : Rat) else 0) := by
      unfold readerOid
      rw [hminB, hbo, hbf]
    rw [← hoid, ← hod] at hquiet
    have hflag : (loaded (sts.map STime.toSNote) sc.readTS (readerMaxTime (sts.map STime.toSNote) sc.readTS) r.divs r.shiftQ
        first.2 p).2 = false := by
      show (!isClose _ _ _) = false
      rw [hquiet]; rfl
    refine ⟨?_, hflag⟩
    show (if (!isClose _ _ _) = true then _ else _) = _
    rw [hquiet, ← hod]; rfl
  constructor
  · intro b hb
    rw [hfb] at hb
    obtain ⟨p, hp, rfl⟩ := List.mem_map.mp hb
    obtain ⟨_, _, _, _, hfalse⟩ := key p hp
    exact hfalse
  · refine ⟨of, dfirst, hofmem, fun y hy => ?_⟩
    rw [hnotes] at hy
    obtain ⟨p, hp, rfl⟩ := List.mem_map.mp hy
    obtain ⟨o, d, h1, h2, _⟩ := key p hp
    exact ⟨o, d, h1, h2⟩

/-- **roundtrip_onsets_exact.**  End to end, under the hypotheses of `roundtrip_onsets` (nothing more, since fix C08-19): the `OnsetInBeats` fallback fires on NO note (every flag of
    `r.fallback`, one per note, is false), and EVERY loaded note sits exactly `reader's divisions × (saved distance in
    quarters from the loaded origin)`. -/
theorem roundtrip_onsets_exact (sc : Score) (wf : WrittenScore sc) (stored : List (Int × Int)) (ks : List (Int × Nat))
    (r : Recon) (h : sc.roundTrip stored ks = some r)
    (mnum : Int → Int) (hTS : sc.readTS = sc.tsLines mnum)
    (s0 : TSig) (rest : List TSig) (hts : sc.ts = s0 :: rest)
    (hafter : ∀ p ∈ stored, s0.t ≤ p.1)
    (hexact : ∀ x ∈ rest, dec4 (sc.beats x.t) = sc.beats x.t)
    (hD : r.divs < 1250)
    (hgrid : ∀ p ∈ stored, ∀ q ∈ stored, ∃ z : Int,
      (r.divs : Rat) * (sc.quarters p.1 - min (sc.quarters q.1) 0) = (z : Rat)) :
    ∃ of dfirst, (of, dfirst) ∈ stored ∧ r.notes.length = r.fallback.length
      ∧ ∀ yb ∈ r.notes.zip r.fallback, ∃ o d, stored[yb.1.1]? = some (o, d)
        ∧ yb.1.2.1 = (r.divs : Rat) * (sc.quarters o - min (sc.quarters of) 0) ∧ yb.2 = false := by
  obtain ⟨hfalse, of, dfirst, hmem, hall⟩ :=
    roundtrip_onsets_all sc wf stored ks r h mnum hTS s0 rest hts hafter hexact hD hgrid
  obtain ⟨sts, _, hrec⟩ := roundTrip_lines sc stored ks r h
  obtain ⟨_, _, _, _, _, _, hlen, _⟩ := reconstruct_onset_spec _ _ _ r hrec
  refine ⟨of, dfirst, hmem, hlen, fun yb hyb => ?_⟩
  obtain ⟨h1, h2⟩ := List.of_mem_zip (show (yb.1, yb.2) ∈ _ from hyb)
  obtain ⟨o, d, h3, h4⟩ := hall _ h1
  exact ⟨o, d, h3, h4, hfalse _ h2⟩

/-- **roundtrip_onsets.**  End to end.  A written score (`WrittenScore`: fewer than 2500 divisions, time signatures in
    order, positive beat types) whose time-signature lines are read as they were written (`hTS`: none is dropped by the
    reader's collapse of repeated values) and whose changes of time signature fall on beat times that four decimals hold
    (`hexact`: whole beats — changes at bar lines after complete bars); stored notes at or after the first time signature;
    the reader's divisions below 1250 and every stored note on the reader's division grid counted from the loaded origin
    (`hgrid`; inherent, theorem `barline_off_grid`).  Then EVERY loaded note `i` whose `OnsetInBeats` fallback did not fire
    sits exactly `reader's divisions × (saved distance in quarters from the loaded origin)` — the origin being the
    earliest line (smallest written beat time) if it lies before beat 0, else beat 0.  (By `roundtrip_onsets_all` the
    fallback fires on no note under these hypotheses.) -/
theorem roundtrip_onsets (sc : Score) (wf : WrittenScore sc) (stored : List (Int × Int)) (ks : List (Int × Nat))
    (r : Recon) (h : sc.roundTrip stored ks = some r)
    (mnum : Int → Int) (hTS : sc.readTS = sc.tsLines mnum)
    (s0 : TSig) (rest : List TSig) (hts : sc.ts = s0 :: rest)
    (hafter : ∀ p ∈ stored, s0.t ≤ p.1)
    (hexact : ∀ x ∈ rest, dec4 (sc.beats x.t) = sc.beats x.t)
    (hD : r.divs < 1250)
    (hgrid : ∀ p ∈ stored, ∀ q ∈ stored, ∃ z : Int,
      (r.divs : Rat) * (sc.quarters p.1 - min (sc.quarters q.1) 0) = (z : Rat)) :
    ∃ of dfirst, (of, dfirst) ∈ stored ∧ ∀ y ∈ r.notes, ∃ o d, stored[y.1]? = some (o, d)
      ∧ (y.2.1 = (r.divs : Rat) * (sc.quarters o - min (sc.quarters of) 0)
         ∨ ¬ isClose ((r.divs : Rat) * (sc.quarters o - min (sc.quarters of) 0)) y.2.1 ((r.divs : Rat) / 100) = true) := by
  obtain ⟨_, of, dfirst, hmem, hall⟩ := roundtrip_onsets_all sc wf stored ks r h mnum hTS s0 rest hts hafter hexact hD hgrid
  refine ⟨of, dfirst, hmem, fun y hy => ?_⟩
  obtain ⟨o, d, h1, h2⟩ := hall y hy
  exact ⟨o, d, h1, Or.inl h2⟩

/-- the hypotheses of the end-to-end theorems hold for `exampleScore` (3/4 pickup | 6/8 | 2/2, 4 divisions per quarter)
    with the pickup quarter, the first note of the 6/8 bar and a half note a quarter into the 2/2 bar stored -/
theorem exampleScore_hypotheses (r : Recon) (h : exampleScore.roundTrip [(0, 4), (4, 6), (20, 8)] [] = some r) :
    WrittenScore exampleScore
    ∧ exampleScore.readTS = exampleScore.tsLines (fun t => if t = 0 then 0 else if t = 4 then 1 else 2)
    ∧ (∀ p ∈ [((0 : Int), (4 : Int)), (4, 6), (20, 8)], (0 : Int) ≤ p.1)
    ∧ (∀ x ∈ [(⟨4, 6, 8⟩ : TSig), ⟨16, 2, 2⟩], dec4 (exampleScore.beats x.t) = exampleScore.beats x.t)
    ∧ r.divs < 1250
    ∧ (∀ p ∈ [((0 : Int), (4 : Int)), (4, 6), (20, 8)], ∀ q ∈ [((0 : Int), (4 : Int)), (4, 6), (20, 8)], ∃ z : Int,
        (r.divs : Rat) * (exampleScore.quarters p.1 - min (exampleScore.quarters q.1) 0) = (z : Rat)) := by
  have hdivs : r.divs = 16 := by
    have h1 : (exampleScore.roundTrip [(0, 4), (4, 6), (20, 8)] []).map (·.divs) = some 16 := by decide +kernel
    rw [h] at h1
    simpa using h1
  refine ⟨⟨by decide, by decide, by decide, by decide⟩, by decide +kernel, by decide, by decide +kernel, ?_, ?_⟩
  · rw [hdivs]; norm_num
  · rw [hdivs]
    have hden : ∀ p ∈ [((0 : Int), (4 : Int)), (4, 6), (20, 8)], ∀ q ∈ [((0 : Int), (4 : Int)), (4, 6), (20, 8)],
        (((16 : Nat) : Rat) * (exampleScore.quarters p.1 - min (exampleScore.quarters q.1) 0)).den = 1 := by
      decide +kernel
    intro p hp q hq
    exact ⟨_, ((Rat.den_eq_one_iff _).mp (hden p hp q hq)).symm⟩

/-- non-vacuity of `roundtrip_onsets`: `exampleScore` (3/4 pickup | 6/8 | 2/2, 4 divisions per quarter), stored: the
    pickup quarter, the first note of the 6/8 bar, a half note a quarter into the 2/2 bar.  All hypotheses hold, so the
    three loaded onsets are 16 × (distance in quarters from the pickup) = 0, 16, 80 (or the fallback fired). -/
example (r : Recon) (h : exampleScore.roundTrip [(0, 4), (4, 6), (20, 8)] [] = some r) :
    ∃ of dfirst, (of, dfirst) ∈ [((0 : Int), (4 : Int)), (4, 6), (20, 8)] ∧ ∀ y ∈ r.notes, ∃ o d,
      [((0 : Int), (4 : Int)), (4, 6), (20, 8)][y.1]? = some (o, d)
      ∧ (y.2.1 = (r.divs : Rat) * (exampleScore.quarters o - min (exampleScore.quarters of) 0)
         ∨ ¬ isClose ((r.divs : Rat) * (exampleScore.quarters o - min (exampleScore.quarters of) 0)) y.2.1
              ((r.divs : Rat) / 100) = true) := by
  obtain ⟨wf, hTS, hafter, hexact, hD, hgrid⟩ := exampleScore_hypotheses r h
  exact roundtrip_onsets exampleScore wf _ [] r h _ hTS ⟨0, 3, 4⟩ [⟨4, 6, 8⟩, ⟨16, 2, 2⟩] rfl hafter hexact hD hgrid

/-- the layout of the measures of a score as scores are written: the measures follow each other without overlap, and
    time signatures change at measure starts only (none strictly inside a measure) -/
structure LaidOut (sc : Score) : Prop where
  chain : sc.ms.Pairwise (fun a b => a.e ≤ b.s)
  ts_at_bars : ∀ m ∈ sc.ms, ∀ s ∈ sc.ts, s.t ≤ m.s ∨ m.e ≤ s.t

example : LaidOut exampleScore := ⟨by decide, by decide⟩

/-- on a written score with laid-out measures the reader's order of the lines (measure number, beat, offset) is the order
    of the onsets: a smaller measure number is an earlier measure; inside one measure the signature does not change, and
    a smaller (beat, offset) key means an earlier note -/
theorem le_of_snLe {sc : Score} (wf : WrittenScore sc) (lo : LaidOut sc) {nf n : SNote} {of df o d : Int} {mif mi : Nat}
    {mf m : Meas} {sf s : TSig} (hlf : LineOf sc nf of df mif mf sf) (hl : LineOf sc n o d mi m s) (i j : Nat)
    (hle : C08C.snLe (i, nf) (j, n) = true) : of ≤ o := by
  obtain ⟨hmfs, hmfe⟩ := C08C.measureOf_spec sc of mif mf hlf.found hlf.bar
  obtain ⟨hms, hme⟩ := C08C.measureOf_spec sc o mi m hl.found hl.bar
  rw [C08C.snLe_iff] at hle
  simp only [hlf.number, hl.number, hlf.beat, hl.beat, hlf.offset, hl.offset] at hle
  rcases hle with hlt | ⟨heq, hkey⟩
  · have := Lists.pairwise_getElem? lo.chain (by omega : mif < mi) hlf.bar hl.bar
    omega
  · obtain ⟨rfl, rfl⟩ := hl.same_bar hlf (hlf.number.trans (heq.trans hl.number.symm))
    have hconst := C08M.tsAt_const sc.ts mf.s mf.e of o
      (lo.ts_at_bars mf (List.mem_of_getElem? hlf.bar)) hmfs hmfe hms hme
    rw [hlf.sig, hl.sig] at hconst
    have e4 : sf = s := Option.some.inj hconst
    subst e4
    have hspos := wf.den_at hlf.sig
    rw [C08P.Frac.ofRat_val _ (C08P.enc_offset_range sc.divs sf.den wf.divs_pos hspos _).1,
      C08P.Frac.ofRat_val _ (C08P.enc_offset_range sc.divs sf.den wf.divs_pos hspos _).1] at hkey
    have hrel := C08C.rel_le_of_key_le sc.divs sf.den wf.divs_pos hspos (of - mf.s) (o - mf.s)
      (by rcases hkey with h | ⟨h, h'⟩
          · left; omega
          · right; exact ⟨by omega, h'⟩)
    omega

/-- **first_line_is_earliest.**  (What the unrepaired reader assumed: `snotes[0]` is the earliest note.)  For a written
    score whose measures are laid out as above and stored notes at or after the first time signature: the line that `sort_snotes` puts first
    (smallest measure number, then beat, then offset) is a note with the smallest onset, hence carries the smallest
    four-decimal beat time of the file. -/
theorem first_line_is_earliest (sc : Score) (wf : WrittenScore sc) (lo : LaidOut sc) (stored : List (Int × Int))
    (s0 : TSig) (rest : List TSig) (hts : sc.ts = s0 :: rest) (hafter : ∀ p ∈ stored, s0.t ≤ p.1) :
    ∀ sts first, sc.storedLines stored = some sts →
      (sortedNotes (sts.map STime.toSNote)).head? = some first → ∀ st ∈ sts, first.2.onsetB ≤ dec4 st.onsetB := by
  intro sts first hsts hhead st hst
  obtain ⟨j, hj⟩ := List.mem_iff_getElem?.mp hst
  have hjmap : (sts.map STime.toSNote)[j]? = some (STime.toSNote st) := by rw [List.getElem?_map, hj]; rfl
  have hle := ((C08S.isSort _).head?_le C08C.snLe_order hhead).2 (j, STime.toSNote st) (Lists.mem_zip_range.mpr hjmap)
  obtain ⟨of, df, mif, mf, sf, hstof, hlf⟩ :=
    line_at sc stored sts hsts first.1 first.2 (mem_sortedNotes.mp (List.mem_of_mem_head? hhead))
  obtain ⟨o, d, mi, m, s, hsto, hl⟩ := line_at sc stored sts hsts j _ hjmap
  have hofa := hafter _ (List.mem_of_getElem? hstof)
  have hoo := le_of_snLe wf lo hlf hl _ _ hle
  -- four decimals keep the order
  show first.2.onsetB ≤ (STime.toSNote st).onsetB
  rw [hlf.onsetB, hl.onsetB]
  exact (wf.written hts).kept.le hofa hoo

/-- **repair_conservative.**  On a written score with laid-out measures the smallest written beat time IS the one of the
    first line in the reader's order: fix C08-19 (`min_time = min(OnsetInBeats)` instead of `snotes[0].OnsetInBeats`)
    changes nothing there. -/
theorem repair_conservative (sc : Score) (wf : WrittenScore sc) (lo : LaidOut sc) (stored : List (Int × Int))
    (s0 : TSig) (rest : List TSig) (hts : sc.ts = s0 :: rest) (hafter : ∀ p ∈ stored, s0.t ≤ p.1)
    (sts : List STime) (first : Nat × SNote) (hsts : sc.storedLines stored = some sts)
    (hhead : (sortedNotes (sts.map STime.toSNote)).head? = some first) :
    ((sortedNotes (sts.map STime.toSNote)).map (·.2.onsetB)).foldl min first.2.onsetB = first.2.onsetB := by
  apply Lists.foldl_min_eq_init
  intro x hx
  obtain ⟨p, hp, rfl⟩ := List.mem_map.mp hx
  obtain ⟨st, hst, hpst⟩ := List.mem_map.mp (List.mem_of_getElem? (mem_sortedNotes.mp hp))
  rw [← hpst]
  exact first_line_is_earliest sc wf lo stored s0 rest hts hafter sts first hsts hhead st hst

/-- the witness of F-C08-19: one bar of 6/8 that changes to 4/4 after two beats (4 divisions per quarter); stored: the
    eighth before the change (beat 4 of the bar, counted in eighths) and the quarter at the change (beat 3, counted in
    quarters) -/
def midBarScore : Score := { divs := 4, ts := [⟨0, 6, 8⟩, ⟨8, 4, 4⟩], ms := [⟨0, 24⟩] }

/-- **first_line_not_earliest.**  Without `LaidOut.ts_at_bars` the claim of `first_line_is_earliest` fails: in the file of
    `midBarScore` the first line in the reader's order is the note AT the change (beat time 4), the earliest line is the
    note before it (beat time 3). -/
theorem first_line_not_earliest :
    (midBarScore.storedLines [(6, 2), (8, 4)]).map (fun sts =>
      ((sortedNotes (sts.map STime.toSNote)).head?.map (·.2.onsetB), sts.map (fun st => dec4 st.onsetB)))
      = some (some 4, [3, 4])
    ∧ ¬ LaidOut midBarScore := by
  refine ⟨by decide +kernel, ?_⟩
  intro h
  have := h.ts_at_bars ⟨0, 24⟩ (by decide) ⟨8, 4, 4⟩ (by decide)
  simp at this

/-- the repaired reader on the witness: no fallback, the two notes 24 and 32 sixteenth-divisions after beat 0 (1.5 and 2
    quarters, as saved); the unrepaired reader put them at 32 and 40 with both fallback flags set -/
example : ((midBarScore.roundTrip [(6, 2), (8, 4)] []).map fun r => (r.divs, r.fallback, r.notes.map (fun y => (y.1, y.2.1))))
    = some (16, [false, false], [(1, 32), (0, 24)]) := by
  decide +kernel

/-- non-vacuity of `roundtrip_onsets_all`: on `exampleScore` (3/4 pickup | 6/8 | 2/2, 4 divisions per quarter; stored: the
    pickup quarter, the first note of the 6/8 bar, a half note a quarter into the 2/2 bar) all hypotheses hold: the three
    loaded onsets are 16 × (distance in quarters from the pickup), without the alternative "or the fallback fired" -/
example (r : Recon) (h : exampleScore.roundTrip [(0, 4), (4, 6), (20, 8)] [] = some r) :
    (∀ b ∈ r.fallback, b = false)
    ∧ ∃ of dfirst, (of, dfirst) ∈ [((0 : Int), (4 : Int)), (4, 6), (20, 8)] ∧ ∀ y ∈ r.notes, ∃ o d,
      [((0 : Int), (4 : Int)), (4, 6), (20, 8)][y.1]? = some (o, d)
      ∧ y.2.1 = (r.divs : Rat) * (exampleScore.quarters o - min (exampleScore.quarters of) 0) := by
  obtain ⟨wf, hTS, hafter, hexact, hD, hgrid⟩ := exampleScore_hypotheses r h
  exact roundtrip_onsets_all exampleScore wf _ [] r h _ hTS ⟨0, 3, 4⟩ [⟨4, 6, 8⟩, ⟨16, 2, 2⟩] rfl hafter hexact hD hgrid

/-- the model's reader agrees on the example: no fallback, onsets 0, 16, 80 -/
example : ((exampleScore.roundTrip [(0, 4), (4, 6), (20, 8)] []).map fun r => (r.fallback, r.notes.map (·.2.1)))
    = some ([false, false, false], [0, 16, 80]) := by
  decide +kernel

/-- **sig_line_states_position.**  The repaired writer (fix C08-20): `measure:beat` and the offset of a time / key
    signature line state where the signature stands - the bar line plus `beat − 1` beats of the beat type in force plus a
    NON-NEGATIVE offset (in whole notes) of less than one beat - for a signature anywhere in its measure. -/
theorem sig_line_states_position (sc : Score) (hd : 0 < sc.divs) (mi : Nat) (t : Int) (l : SigLine)
    (h : sc.encodeSig mi t = some l) :
    ∃ m s, sc.ms[mi]? = some m ∧ tsAt sc.ts t = some s ∧ l.timeB = sc.beats t
      ∧ l.measure = sc.firstMeasureNumber + mi
      ∧ (0 < s.den → ((l.beat - 1 : Int) : Rat) * 4 / (s.den : Rat) + 4 * l.offset = ((t - m.s : Int) : Rat) / (sc.divs : Rat)
          ∧ 0 ≤ l.offset ∧ l.offset < 1 / (s.den : Rat)) := by
  unfold Score.encodeSig at h
  cases hm : sc.ms[mi]? with
  | none => simp [hm] at h
  | some m =>
    cases hs : tsAt sc.ts t with
    | none => simp [hm, hs] at h
    | some s =>
      simp [hm, hs] at h
      subst h
      refine ⟨m, s, rfl, rfl, rfl, rfl, ?_⟩
      intro hden
      have e : encBeat sc.divs s.den (t - m.s) + 1 - 1 = encBeat sc.divs s.den (t - m.s) := by omega
      simp only [e]
      exact ⟨C08P.enc_position sc.divs s.den hd hden (t - m.s), C08P.enc_offset_range sc.divs s.den hd hden (t - m.s)⟩

/-- the arithmetic of the unrepaired writer: `(t − bar line − beat · divisions per QUARTER) / (beat type · divisions)` -/
def quarterArithmeticOffset (divs den : Nat) (rel beat : Int) : Rat := mkRat (rel - beat * divs) (den * divs)

/-- **sig_offset_was_negative.**  The witness of F-C08-20: 180 divisions per quarter, a 3/8 written 59 divisions into a
    bar of 12/16 (one whole sixteenth-beat before it): the unrepaired arithmetic gives −121/1440 of a whole note, which the
    reader's line pattern does not accept; the repaired one beat 1 of the new metre plus 59/720 of a whole note. -/
theorem sig_offset_was_negative :
    quarterArithmeticOffset 180 8 59 1 < 0 ∧ encBeat 180 8 59 = 0 ∧ encOffset 180 8 59 = 59 / 720 := by
  decide +kernel

end C08
