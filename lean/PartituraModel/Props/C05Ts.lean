/-
C05 — the inverse direction over arrays whose signature columns CHANGE and RETURN (A B A).

`note_array_to_score` collects the time signatures (and, repaired, the key signatures: fixes/C05-10) of the new part
from the array's columns with a loop that appends a change whenever a row differs from the last change appended
(Model/NoteArrayTs.lean `changes`).  The theorems about the loop hold for ALL columns; the statements about the
table that comes back (valid columns being the only hypothesis) compose the loop with the models of the created part and of `Part.note_array` (C02 / C10 / C11),
and C12 `midi_spelling` discharges the spelling hypothesis of `from_to_array`.
-/
import PartituraModel.Proofs.C05Ts

namespace C05
open NoteArray List Model

/-- The loop collects exactly the column with repetitions of NEIGHBOURS removed: for the column A A B B A it yields
    A, B, A — a signature that returns is collected a second time (`np.unique` would drop it). -/
theorem changes_are_the_column_destuttered {α : Type} [DecidableEq α] (col : List (Int × α)) :
    (changes col).map (·.2) = (col.map (·.2)).destutter (· ≠ ·) := by
  cases col with
  | nil => rfl
  | cons p l =>
    rw [changes_cons, map_cons, map_cons, destutter_cons']
    exact changesFrom_values p.2 l

/-- Every collected change after the initial one is a row of the column: it stands at the onset of a row that carries
    the new value, and the changes keep the order of the rows. -/
theorem changes_stand_on_rows {α : Type} [DecidableEq α] (p : Int × α) (col : List (Int × α)) :
    ∃ rest, changes (p :: col) = (0, p.2) :: rest ∧ rest.Sublist col ∧
      (p.2 :: rest.map (·.2)).IsChain (· ≠ ·) :=
  ⟨changesFrom p.2 col, changes_cons p col, changesFrom_sublist p.2 col, changesFrom_chain p.2 col⟩

/-- For a column ordered by onset (the array is sorted first) whose rows agree at equal onsets and start at or after
    time 0: the list handed to `create_part` (first start forced to 0), read by "previous" interpolation, gives at the
    onset of every row the value of that row.  The rebuilt part carries a change wherever the column changes. -/
theorem signature_in_force_at_every_row {α : Type} [DecidableEq α] (col : List (Int × α))
    (hsorted : OnsetSorted col) (hcons : Consistent col) (hnn : ∀ p ∈ col, 0 ≤ p.1) :
    ∀ p ∈ col, StepMap.lastLE (firstAtZero (changes col)) p.1 = some p.2 :=
  lastLE_changes_at_row col hsorted hcons hnn

/-- the sortedness hypothesis is established by the code itself: `np.lexsort` orders the array by onset_div -/
theorem sorted_array_is_onset_sorted (a : List ARow) : OnsetSorted (tsColumn (sortArr true a)) := by
  unfold OnsetSorted tsColumn
  rw [pairwise_map]
  exact sortArr_sorted a

/-- FROM ARRAY TO SCORE TO ARRAY, time-signature columns included.  For every array with division and
    `ts_beats` / `ts_beat_type` columns that `note_array_to_score` accepts (any beat columns, `divs`, key columns,
    `sanitize`), whose rows agree on the signature at equal onsets: the note array of the created part holds exactly the
    (onset_div, duration_div, pitch, ts_beats, ts_beat_type) of the array's rows. -/
theorem time_signature_columns_come_back (hb hk : Bool) (a : List ARow) (dv : Option Nat)
    (tsl : List (Int × Int × Int)) (est san : Bool) (x : XOut)
    (h : fromArrayX hb true true hk a dv tsl est san = .ok x) (hok : TsColumnsOK a) :
    x.rows.map (fun r => (r.onsetDiv, r.durDiv, r.pitch, r.tsBeats, r.tsBeatType))
      ~ a.map (fun r => (r.onsetDiv, r.durDiv, r.pitch, r.tsBeats, r.tsBeatType)) :=
  fromArrayXW_ts_back rowsC_cols hb hk a dv tsl est san x (fromArrayXW_rowsC ▸ h) hok

/-- ... and the key-signature columns (repaired code, fixes/C05-10): for every array with division and `ks_fifths` /
    `ks_mode` columns (fifths in -7..7, mode 1 or -1, rows agreeing at equal onsets) the note array of the created part
    holds exactly the (onset_div, duration_div, pitch, ks_fifths, ks_mode) of the array's rows — through the key NAMES
    `note_array_to_score` hands to `create_part` (C12 `key_bijection`). -/
theorem key_signature_columns_come_back (hb ht : Bool) (a : List ARow) (dv : Option Nat)
    (tsl : List (Int × Int × Int)) (est san : Bool) (x : XOut)
    (h : fromArrayX hb true ht true a dv tsl est san = .ok x) (hok : KsColumnsOK a) :
    x.rows.map (fun r => (r.onsetDiv, r.durDiv, r.pitch, r.ksFifths, r.ksMode))
      ~ a.map (fun r => (r.onsetDiv, r.durDiv, r.pitch, r.ksFifths, r.ksMode)) :=
  fromArrayXW_ks_back rowsC_cols hb ht a dv tsl est san x (fromArrayXW_rowsC ▸ h) hok

/-- Onsets, durations and pitches come back for every array with division columns the function accepts, whatever the
    source of the time signature (columns, `time_sigs`, `estimate_time`, none), the key columns and `sanitize`; the
    spelling hypothesis of `from_to_array` is discharged (C12 `midi_spelling`, every integer pitch). -/
theorem from_to_array_x (hb ht hk : Bool) (a : List ARow) (dv : Option Nat)
    (tsl : List (Int × Int × Int)) (est san : Bool) (x : XOut)
    (h : fromArrayX hb true ht hk a dv tsl est san = .ok x) :
    x.rows.map rowTriple ~ a.map divTriple :=
  fromArrayXW_triples rowsC_cols hb ht hk a dv tsl est san x (fromArrayXW_rowsC ▸ h)

/-- the divisions of the new part are those `fromArray` decides (C05.from_array_divs_given, from_array_beat) -/
theorem from_array_x_divs (hb hd ht hk : Bool) (a : List ARow) (dv : Option Nat)
    (tsl : List (Int × Int × Int)) (est san : Bool) (x : XOut)
    (h : fromArrayX hb hd ht hk a dv tsl est san = .ok x) :
    ∃ l, fromArray hb hd ht a dv = .ok (x.divs, l) := by
  obtain ⟨d, l, _, _, hfa, _, _, hd', _⟩ := fromArrayXW_ok rowsC _ _ _ _ _ _ _ _ _ _ (fromArrayXW_rowsC ▸ h)
  exact ⟨l, by rw [hd']; exact hfa⟩

section Examples

/-- 4/4 | 6/8 | 4/4 at 2 divisions per quarter, one note per bar line and one inside the 6/8 bar -/
def exABA : List ARow :=
  [ { onsetBeat := 0, durBeat := 4, onsetDiv := 0, durDiv := 8, pitch := 60, tsBeatType := 4, tsBeats := 4 },
    { onsetBeat := 4, durBeat := 3, onsetDiv := 8, durDiv := 3, pitch := 62, tsBeatType := 8, tsBeats := 6 },
    { onsetBeat := 7, durBeat := 3, onsetDiv := 11, durDiv := 3, pitch := 64, tsBeatType := 8, tsBeats := 6 },
    { onsetBeat := 10, durBeat := 4, onsetDiv := 14, durDiv := 8, pitch := 65, tsBeatType := 4, tsBeats := 4 } ]

/-- the loop keeps the return to 4/4 (the seeded `np.unique` variant has [(0, 4/4), (8, 6/8)] only) -/
example : changes (tsColumn exABA) = [(0, (4, 4)), (8, (6, 8)), (14, (4, 4))] := by decide +kernel

def xRows (r : Except InvErr XOut) : Option (List (Int × Rat × Rat × Int × Int)) :=
  match r with
  | .ok x => some (x.rows.map fun r => (r.onsetDiv, r.onsetBeat, r.durBeat, r.tsBeats, r.tsBeatType))
  | .error _ => none

def xPart (r : Except InvErr XOut) : Option (Nat × List (Int × (Int × Int)) × List (Int × Int)) :=
  match r with
  | .ok x => some (x.divs, x.tss, x.measures)
  | .error _ => none

/-- the hypotheses of `time_signature_columns_come_back` hold for it, with and without `sanitize`, and the beats
    that come back are the beats that went in (0, 4, 7, 10) -/
example : xRows (fromArrayX true true true false exABA none [] false false) =
    some [(0, 0, 4, 4, 4), (8, 4, 3, 6, 8), (11, 7, 3, 6, 8), (14, 10, 4, 4, 4)] := by decide +kernel
example : xPart (fromArrayX true true true false exABA none [] false false) =
    some (2, [(0, (4, 4)), (8, (6, 8)), (14, (4, 4))], []) := by decide +kernel
example : xRows (fromArrayX true true true false exABA none [] false true) =
    some [(0, 0, 4, 4, 4), (8, 4, 3, 6, 8), (11, 7, 3, 6, 8), (14, 10, 4, 4, 4)] := by decide +kernel
example : xPart (fromArrayX true true true false exABA none [] false true) =
    some (2, [(0, (4, 4)), (8, (6, 8)), (14, (4, 4))], [(0, 8), (8, 14), (14, 22)]) := by decide +kernel

/-- key columns C major | E-flat minor... (fifths -3, minor) | C major on the same bars: the key comes back too -/
def exKeys : List ARow :=
  [ { exABA[0] with ksFifths := 0, ksMode := 1 }, { exABA[1] with ksFifths := -3, ksMode := -1 },
    { exABA[2] with ksFifths := -3, ksMode := -1 }, { exABA[3] with ksFifths := 0, ksMode := 1 } ]

def xKeys (r : Except InvErr XOut) : Option (List (Int × Int × Mode) × List (Int × Int × Int)) :=
  match r with
  | .ok x => some (x.kss, x.rows.map fun r => (r.onsetDiv, r.ksFifths, r.ksMode))
  | .error _ => none

example : xKeys (fromArrayX true true true true exKeys none [] false true) =
    some ([(0, 0, .major), (8, -3, .minor), (14, 0, .major)], [(0, 0, 1), (8, -3, -1), (11, -3, -1), (14, 0, 1)]) := by
  decide +kernel

example : KsColumnsOK exKeys := by
  refine ⟨by decide +kernel, by decide +kernel⟩

/-- a mode that is neither 1 nor -1 makes `fifths_mode_to_key_name` raise: the model refuses -/
example : xKeys (fromArrayX true true true true [{ exABA[0] with ksMode := 0 }] none [] false false) = none := by
  decide +kernel

example : TsColumnsOK exABA := by
  refine ⟨by decide +kernel, by decide +kernel⟩

/-- rows that contradict each other at one onset are not a valid column: the hypothesis is not vacuous -/
example : ¬ TsColumnsOK [ { onsetBeat := 0, durBeat := 1, onsetDiv := 0, durDiv := 1, pitch := 60, tsBeatType := 4, tsBeats := 4 },
    { onsetBeat := 0, durBeat := 1, onsetDiv := 0, durDiv := 1, pitch := 62, tsBeatType := 4, tsBeats := 3 } ] := by
  intro h
  have := h.1 _ (List.mem_cons_self) _ (List.mem_cons_of_mem _ List.mem_cons_self) rfl
  exact absurd this (by decide)

end Examples

end C05
