/-
C01 — property theorems about the extensions of Model/TimelineX.lean:

* the memo `Part._quarter_map` is an explicit component of the state (`CPart`); the machine `stepC`/`stepX`
  reads the MEMO where the code does (`get_or_add_point`) and rebuilds it where the code does
  (`set_quarter_duration`, only when the table changed).  Proved: the memo is the map of the current table in
  every reachable state (`cache_fresh_reachable`), hence the machine with the memo IS the memo-free machine of
  Model/Timeline.lean on the property's histories (`memo_machine_is_timeline`), and `_quarter_map(x)` =
  `quarter_duration_map(x)` = the step function of the table (`cached_map_is_fresh`);
* `TimePoint.add_*_object` / `remove_*_object` called directly and the Slur setters built on them are further
  operations of the histories: what they keep of `WInv` / `Inv` and their exact effect;
* the argument conventions (`which` strings, `mode` strings, omitted arguments, bounds as number / float /
  TimePoint) over the table regenerated from the live source (Gen/C01Sig.lean).
-/
import PartituraModel.Proofs.C01XStep
import PartituraModel.Props.C01Any

namespace C01
open TL

/-! ### the memo `_quarter_map` -/

/-- `Part.__init__`: the initial table is `[(0, q)]` (generated `partInitTimes = [0]`) and the memo is fresh -/
theorem memo_init (q : Nat) : CPart.init q = lift (Part.init q) := rfl

/-- `Part(id)`: the default quarter duration (generated from the live signature) is 1 -/
theorem init_default : CPart.initDefault = lift (Part.init 1) := by decide +kernel

/-- one step: with a fresh memo, the machine that reads the memo does what the memo-free machine does, and the
memo is fresh afterwards -/
theorem memo_step {c : CPart} (hc : CacheOk c) (op : Op) :
    stepC c op = (step c.part op).map fun r => (lift r.1, r.2) := by
  obtain ⟨p, qc⟩ := c
  simp only [CacheOk] at hc
  subst hc
  exact stepC_lift p op

/-- the memo is the map of the current table after EVERY history of the extended machine — no hypothesis on
the arguments at all -/
theorem cache_fresh_reachable (q : Nat) (ops : List OpX) : CacheOk (runX (CPart.init q) ops) := by
  rw [runX_eq_foldl]
  exact Lists.foldl_inv CacheOk nextX (fun _ _ h => nextX_keeps h fun _ _ he => (stepX_keeps h he).1) ops _
    (xinv_init q).2

/-- on the property's histories the machine with the memo is the timeline machine of Model/Timeline.lean: every
theorem of Props/C01, C01Any, C01Classes about `run (Part.init q) ops` is a theorem about the code's memoised
state machine -/
theorem memo_machine_is_timeline (q : Nat) (ops : List Op) :
    runX (CPart.init q) (ops.map .base) = lift (run (Part.init q) ops) := by
  rw [runX_eq_foldl, run_eq_foldl]
  refine Lists.foldl_sim (R := fun c s => c = lift s) (fun _ s op h => ?_) ops _ _ rfl
  subst h
  simp only [nextX, next, stepX, stepC_lift]
  cases step s op <;> rfl

/-- `quarter_duration_map` doubles a one-entry table before calling `interp1d`; the map is the same -/
theorem interpTable_same (tab : List (Int × Nat)) (x : Rat) : qdAtQ (interpTable tab) x = qdAtQ tab x := by
  unfold interpTable
  split
  · rename_i h
    match tab, h with
    | [(a, y)], _ =>
      simp only [List.cons_append, List.nil_append, qdAtQ, qdAtAuxQ]
      split <;> rfl
  · rfl

/-- in every reachable state `part._quarter_map(xs)` (memo) = `part.quarter_duration_map(xs)` (fresh) =
the value of the table at each time -/
theorem cached_map_is_fresh (q : Nat) (ops : List OpX) (xs : List Rat) :
    let c := runX (CPart.init q) ops
    stepX c (.mapCached xs) = stepX c (.mapFresh xs)
      ∧ stepX c (.mapFresh xs) = .ok (c, .qmap (quarterMap c.part xs)) := by
  intro c
  have hc : CacheOk c := cache_fresh_reachable q ops
  have e : ∀ x, qdAtQ (interpTable c.part.qtab) x = qdAtQ c.part.qtab x := fun x => interpTable_same _ x
  refine ⟨?_, ?_⟩
  · simp only [stepX]
    rw [hc]
  · simp only [stepX, quarterMap]
    congr 3
    exact List.map_congr_left (fun x _ => e x)

theorem winvX_step {c c' : CPart} {op : OpX} {out : OutX} (hW : WInv c.part) (hc : CacheOk c)
    (hq : op.qdNonneg) (h : stepX c op = .ok (c', out)) : WInv c'.part ∧ CacheOk c' :=
  stepX_preserves ⟨hW, hc⟩ hq h

/-- after ANY history of `add / remove / set_quarter_duration / get_or_add_point / queries` interleaved with
direct `TimePoint.add_*_object / remove_*_object` calls, Slur setter calls, string-valued and omitted
arguments: the weak invariant (everything but "only the referenced point lists the object"; a point emptied by
`remove_*_object` counts as an allowed empty point) -/
theorem winvX_reachable (q : Nat) (ops : List OpX) (hq : ∀ op ∈ ops, op.qdNonneg) :
    WInv (runX (CPart.init q) ops).part := by
  rw [runX_eq_foldl]
  exact (Lists.foldl_keeps_all nextX (fun _ _ h hq => nextX_keeps h fun _ _ => stepX_preserves h hq) ops _
    (xinv_init q) hq).1

/-- along histories whose timeline operations are `Valid`, whose direct `add_*_object` calls hit a free side and
whose direct `remove_*_object` calls hit the point the object refers to (the Slur setters always do): the FULL
invariant of the property, with a point emptied by `remove_*_object` counted as an allowed empty point -/
theorem invX_reachable (q : Nat) (ops : List OpX) (hv : ValidHistoryX (CPart.init q) ops) :
    Inv (runX (CPart.init q) ops).part := by
  rw [runX_eq_foldl]
  exact (Lists.foldl_keeps nextX (P := fun c => Inv c.part ∧ CacheOk c) (H := ValidHistoryX) (fun _ _ _ h => h)
    (fun _ _ h hv => nextX_keeps (P := fun c => Inv c.part ∧ CacheOk c) h fun _ _ he =>
      ⟨(stepX_keeps h.2 he).2.inv h.1 hv, (stepX_keeps h.2 he).1⟩)
    ops _ ⟨inv_init q, (xinv_init q).2⟩ hv).1

/-- in every reachable state of the extended machine a time point exists exactly when some object is listed
there or it is an allowed empty point (requested through `get_or_add_point`, or emptied by `remove_*_object`) -/
theorem pointsX_are_listings (q : Nat) (ops : List OpX) (hq : ∀ op ∈ ops, op.qdNonneg) (x : Int) :
    let s := (runX (CPart.init q) ops).part
    x ∈ s.times ↔ (∃ sd o, Listed s sd x o) ∨ x ∈ s.requested :=
  points_are_listings (winvX_reachable q ops hq) x

/-- no operation of the extended machine raises, except on a negative time-point argument -/
theorem stepX_total {c : CPart} {op : OpX} (hW : WInv c.part) (hc : CacheOk c) (hq : op.qdNonneg)
    (hn : op.negTime = false) : ∃ r, stepX c op = .ok r := stepX_ok ⟨hW, hc⟩ hq hn

/-! ### `TimePoint.add_*_object` / `remove_*_object` called directly -/

/-- `tp.add_starting_object(o)` / `tp.add_ending_object(o)` on the point at `t`: `o` refers to `t` and is
listed there (once), nothing is deregistered, `WInv` is kept; and the full invariant too when that side of
`o` was free -/
theorem tpAdd_effect {s : Part} (hW : WInv s) (sd : Side) {t : Int} (o : ObjRef) (ht : t ∈ s.times) :
    WInv (tpRegister s sd t o)
      ∧ (∀ sd' o', (getObj (tpRegister s sd t o).objs o').at sd'
          = if o' = o ∧ sd' = sd then some t else (getObj s.objs o').at sd')
      ∧ (∀ sd' x o', Listed (tpRegister s sd t o) sd' x o' ↔ Listed s sd' x o' ∨ (o' = o ∧ sd' = sd ∧ x = t))
      ∧ (tpRegister s sd t o).times = s.times ∧ (tpRegister s sd t o).qtab = s.qtab
      ∧ (Inv s → (getObj s.objs o).at sd = none → Inv (tpRegister s sd t o)) :=
  ⟨tpRegister_winv hW o ht,
   fun sd' o' => tpRegister_refs s sd t o sd' o',
   fun sd' x o' => register_listed hW.sorted ht sd' x o', register_times s sd t o, rfl,
   fun hI hfree => tpRegister_inv hI ht hfree⟩

/-- `tp.remove_starting_object(o)` / `tp.remove_ending_object(o)` on the point at `t`: `o`'s reference is
cleared WHATEVER it was, exactly the listing at `t` goes away, the time points stay as they are (no
`_cleanup_point`: the point may be left empty — it is recorded in the ghost), `WInv` is kept; and the full
invariant too when `t` is the point `o` referred to -/
theorem tpRemove_effect {s : Part} (hW : WInv s) (sd : Side) (t : Int) (o : ObjRef) :
    WInv (tpUnregister s sd t o)
      ∧ (∀ sd' o', (getObj (tpUnregister s sd t o).objs o').at sd'
          = if o' = o ∧ sd' = sd then none else (getObj s.objs o').at sd')
      ∧ (∀ sd' x o', Listed (tpUnregister s sd t o) sd' x o' ↔ Listed s sd' x o' ∧ ¬ (o' = o ∧ sd' = sd ∧ x = t))
      ∧ (tpUnregister s sd t o).times = s.times ∧ (tpUnregister s sd t o).qtab = s.qtab
      ∧ (Inv s → (getObj s.objs o).at sd = some t → Inv (tpUnregister s sd t o)) := by
  refine ⟨tpUnregister_winv hW sd t o,
   fun sd' o' => tpUnregister_refs s sd t o sd' o',
   fun sd' x o' => tpUnregister_listed hW.sorted sd t o sd' x o', ?_, ?_, fun hI hat => tpUnregister_inv hI hat⟩
  · rw [tpUnregister_eq, allowEmpty_times, unregister_times]
  · rw [tpUnregister_eq, allowEmpty_qtab]; rfl

/-- `slur.start_note = note`: the slur leaves its start point; the full invariant is kept -/
theorem slurStart_effect {s : Part} (hI : Inv s) (slur : ObjRef) :
    Inv (slurSetStart s slur) ∧ (getObj (slurSetStart s slur).objs slur).start = none
      ∧ (∀ sd x o', Listed (slurSetStart s slur) sd x o' ↔
          Listed s sd x o' ∧ ¬ (o' = slur ∧ sd = .start ∧ (getObj s.objs slur).start = some x)) := by
  refine ⟨(slurSetStart_keeps (qd := True)).inv hI trivial, ?_, ?_⟩
  · unfold slurSetStart
    split
    · have := tpUnregister_refs s .start (by assumption) slur .start slur
      simpa [ObjSt.at] using this
    · assumption
  · intro sd x o'
    unfold slurSetStart
    split
    · rename_i t ht
      rw [tpUnregister_listed hI.sorted]
      simp only [ht, Option.some.injEq]
      constructor
      · rintro ⟨a, b⟩; exact ⟨a, fun hc => b ⟨hc.1, hc.2.1, hc.2.2.symm⟩⟩
      · rintro ⟨a, b⟩; exact ⟨a, fun hc => b ⟨hc.1, hc.2.1, hc.2.2.symm⟩⟩
    · rename_i hnone
      simp [hnone]

/-- `slur.end_note = note` (for another object `note`): afterwards `slur.end` IS `note.end` (None when the note
has no end) and the full invariant is kept -/
theorem slurEnd_effect {s : Part} (hI : Inv s) {slur note : ObjRef} (hne : note ≠ slur) :
    Inv (slurSetEnd s slur note) ∧ (getObj (slurSetEnd s slur note).objs slur).stop = (getObj s.objs note).stop := by
  refine ⟨(slurSetEnd_keeps (qd := True)).inv hI trivial, ?_⟩
  unfold slurSetEnd
  have key : ∀ s1 : Part, (getObj s1.objs slur).stop = none →
      (getObj s1.objs note).stop = (getObj s.objs note).stop →
      (getObj (match (getObj s1.objs note).stop with
        | some t' => tpRegister s1 .stop t' slur
        | none => s1).objs slur).stop = (getObj s.objs note).stop := by
    intro s1 h0 h1
    split
    · rename_i t' ht'
      have := tpRegister_refs s1 .stop t' slur .stop slur
      simp only [ObjSt.at, and_self, if_true] at this
      rw [this, ← h1, ht']
    · rename_i hnone
      rw [h0, ← h1, hnone]
  split
  · rename_i t ht
    refine key _ ?_ ?_
    · have := tpUnregister_refs s .stop t slur .stop slur
      simpa [ObjSt.at] using this
    · have := tpUnregister_refs s .stop t slur .stop note
      simpa [ObjSt.at, hne] using this
  · rename_i hnone
    exact key s hnone rfl

/-! ### argument conventions (over the table regenerated from the live source) -/

/-- `part.remove(o)` is `part.remove(o, "both")`; the three documented strings select the sides -/
theorem remove_default_both (s : Part) (o : ObjRef) :
    stepRemoveX s o none = stepRemove s o .both ∧ stepRemoveX s o (some "both") = stepRemove s o .both
      ∧ stepRemoveX s o (some "start") = stepRemove s o .start
      ∧ stepRemoveX s o (some "end") = stepRemove s o .stop := by
  simp only [stepRemoveX, whichSides_default, whichSides_both, whichSides_start, whichSides_end, and_self]

/-- any other `which` string silently does nothing -/
theorem remove_unknown_which (s : Part) (o : ObjRef) (w : String) (h1 : w ≠ "start") (h2 : w ≠ "end")
    (h3 : w ≠ "both") : stepRemoveX s o (some w) = .ok s := by
  simp only [stepRemoveX, whichSides_other w h1 h2 h3]

/-- `part.add(o)` with both times omitted is `add(o, None, None)`: nothing happens -/
theorem add_defaults (c : CPart) (o : ObjRef) :
    stepX c (.addDefault o none none) = .ok (c, .base .unit) := by
  simp only [stepX, Option.getD_none, Gen.C01Sig.addStartDefault, Gen.C01Sig.addEndDefault, stepAddC, isNeg,
    Bool.or_self, Bool.false_eq_true, if_false, addSideOptC, Except.bind, Except.map]

/-- `mode`: "ending" selects the ending registries, every other string the starting ones -/
theorem mode_table : modeOfString "ending" = .ending ∧ modeOfString "starting" = .starting
    ∧ ∀ m : String, m ≠ "ending" → (modeOfString m).side = .start :=
  ⟨modeOfString_ending, modeOfString_starting, modeOfString_other⟩

/-- a bound may be a number or a `TimePoint`: only its time matters -/
theorem bound_forms_agree (s : Part) (cls : Option Nat) (x y : Rat) (incl : Option Bool) (mode : Option String) :
    iterAllX s cls (.point x) (.point y) incl mode = iterAllX s cls (.num x) (.num y) incl mode
    ∧ iterAllX s cls (.point x) (.num y) incl mode = iterAllX s cls (.num x) (.num y) incl mode
    ∧ iterAllX s cls (.num x) (.point y) incl mode = iterAllX s cls (.num x) (.num y) incl mode :=
  ⟨rfl, rfl, rfl⟩

/-- `iter_all` with omitted arguments is `iter_all(None, None, None, False, "starting")`; with real bounds
(floats) it is the integer query at the ceilings -/
theorem iterAllX_is_iterAll (s : Part) (cls : Option Nat) (a b : Bound) (incl : Option Bool) (mode : Option String) :
    iterAllX s cls a b incl mode
      = iterAll s cls (a.key.map Int.ceil) (b.key.map Int.ceil) (incl.getD false)
          (modeOfString (mode.getD "starting")) := by
  rw [iterAllX_eq, iterAllQ_eq_ceil]

theorem iterAllX_defaults (s : Part) :
    iterAllX s none .absent .absent none none = iterAll s none none none false .starting := by
  rw [iterAllX_is_iterAll]; rfl

/-- time `τ` lies in `[a, b)` for real bounds -/
def inRangeQ (a b : Option Rat) (τ : Int) : Prop :=
  (∀ x, a = some x → x ≤ (τ : Rat)) ∧ (∀ y, b = some y → (τ : Rat) < y)

theorem inRange_ceil (a b : Option Rat) (τ : Int) :
    inRange (a.map Int.ceil) (b.map Int.ceil) τ ↔ inRangeQ a b τ := by
  unfold inRange inRangeQ
  constructor
  · rintro ⟨h1, h2⟩
    refine ⟨fun x hx => ?_, fun y hy => ?_⟩
    · exact Int.ceil_le.mp (h1 ⌈x⌉ (by simp [hx]))
    · exact Int.lt_ceil.mp (h2 ⌈y⌉ (by simp [hy]))
  · rintro ⟨h1, h2⟩
    refine ⟨fun x hx => ?_, fun y hy => ?_⟩
    · cases a with
      | none => simp at hx
      | some a' =>
        simp only [Option.map_some, Option.some.injEq] at hx
        subst hx
        exact Int.ceil_le.mpr (h1 a' rfl)
    · cases b with
      | none => simp at hy
      | some b' =>
        simp only [Option.map_some, Option.some.injEq] at hy
        subst hy
        exact Int.lt_ceil.mpr (h2 b' rfl)

/-- `iter_all` with bounds in any accepted form, flags omitted or not, in ANY reachable state: one
duplicate-free segment per time point with `a ≤ t < b` (as reals), in increasing time order, each holding
exactly the matching objects that point lists -/
theorem iterAllX_any_history {s : Part} (hW : WInv s) (hk : ClsOk s) (cls : Option Nat) (a b : Bound)
    (incl : Option Bool) (mode : Option String) :
    ∃ segs : List (Int × List ObjRef), iterAllX s cls a b incl mode = segs.flatMap (·.2)
      ∧ (segs.map (·.1)).Pairwise (· < ·)
      ∧ (∀ τ, τ ∈ segs.map (·.1) ↔ τ ∈ s.times ∧ inRangeQ a.key b.key τ)
      ∧ (∀ seg ∈ segs, seg.2.Nodup
          ∧ ∀ o, o ∈ seg.2 ↔ Listed s (modeOfString (mode.getD "starting")).side seg.1 o
              ∧ ClassSpecRT cls (inclEff cls (incl.getD false)) o.cls) := by
  rw [iterAllX_is_iterAll]
  obtain ⟨segs, h1, h2, h3, h4⟩ := iterAll_any_history hW hk cls (a.key.map Int.ceil) (b.key.map Int.ceil)
    (incl.getD false) (modeOfString (mode.getD "starting"))
  exact ⟨segs, h1, h2, fun τ => by rw [h3, inRange_ceil], h4⟩

section Examples

def xA : ObjRef := { id := 0, cls := 2 }
def xB : ObjRef := { id := 1, cls := 3 }
def xS : ObjRef := { id := 2, cls := 10 }

/-- adds, a quarter change, a direct `remove_starting_object` that leaves the point at 0 EMPTY, a direct
`add_ending_object`, both Slur setters, string / omitted arguments -/
def xhist : List OpX :=
  [.base (.add xA (some 0) (some 4)), .base (.setQD 2 3), .addDefault xB none (some (some 6)),
   .base (.add xS (some 2) (some 4)), .tpRemove .start 0 xA, .tpAdd .stop 4 xB, .slurEnd xS xB, .slurStart xS xA,
   .removeX xB none, .removeX xA (some "nonsense"), .base (.setQD 2 3), .base (.getOrAdd 9)]

/-- the Slur setters and a `remove_starting_object` on the object's own point inside a valid history -/
def xvalid : List OpX :=
  [.base (.add xA (some 0) (some 4)), .base (.add xB (some 4) (some 6)), .base (.add xS (some 0) (some 4)),
   .slurEnd xS xB, .slurStart xS xA, .tpRemove .start 0 xA, .tpAdd .start 4 xA, .removeX xB (some "end")]

example : ValidHistoryX (CPart.init 1) xvalid := by decide +kernel
example : (runX (CPart.init 1) xvalid).part.objs.map (fun e => (e.ref.id, e.start, e.stop))
    = [(0, some 4, some 4), (1, some 4, none), (2, none, some 6)] := by decide +kernel
example : ¬ ValidHistoryX (CPart.init 1) xhist := by decide +kernel
example : ∀ op ∈ xhist, op.qdNonneg := by decide +kernel
example : WInv (runX (CPart.init 1) xhist).part := (winvB_iff _).mp (by decide +kernel)
example : CacheOk (runX (CPart.init 1) xhist) := by decide +kernel
/-- the point at 0 is EMPTY and was never requested through `get_or_add_point`: `remove_starting_object` does
not clean up (only the ghost knows it) -/
example : (runX (CPart.init 1) xhist).part.points.map (fun p => (p.t, p.quarter, p.starting.map (·.id), p.ending.map (·.id)))
    = [(0, 1, [], []), (2, 3, [], []), (4, 3, [], [0, 2]), (6, 3, [], [1]), (9, 3, [], [])] := by decide +kernel
example : (runX (CPart.init 1) xhist).part.requested = [0, 2, 9] := by decide +kernel
/-- a memo that is NOT fresh gives a different machine: the hypothesis of `memo_step` is needed -/
example : ∃ c : CPart, ¬ CacheOk c ∧ (stepC c (.getOrAdd 5)).toOption.map (fun r => r.1.part)
    ≠ (step c.part (.getOrAdd 5)).toOption.map (fun r => r.1) :=
  ⟨{ part := (setQD (Part.init 1) 2 7), qcache := [(0, 1), (0, 1)] }, by decide +kernel, by decide +kernel⟩
example : iterAllX (runX (CPart.init 1) xhist).part none (.num (7 / 2)) (.point (9 / 2)) none (some "ending")
    = [xA, xS] := by
  have h1 : ⌈(7 / 2 : Rat)⌉ = 4 := by rw [Int.ceil_eq_iff]; norm_num
  have h2 : ⌈(9 / 2 : Rat)⌉ = 5 := by rw [Int.ceil_eq_iff]; norm_num
  rw [iterAllX_is_iterAll]
  simp only [Bound.key, Option.map_some, h1, h2]
  decide +kernel
example : inRangeQ (some (7 / 2)) (some (9 / 2)) 4 ∧ ¬ inRangeQ (some (7 / 2)) (some (9 / 2)) 3 := by
  unfold inRangeQ; constructor
  · exact ⟨fun x hx => by cases hx; norm_num, fun y hy => by cases hy; norm_num⟩
  · intro h; have := h.1 _ rfl; norm_num at this

end Examples

end C01
