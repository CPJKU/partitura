/-
C09 — `unfold_part_alignment(part, alignment)` as a whole (Model/UnfoldAlign.lean): which ids of the alignment count, which
of the parts of `iter_unfolded_parts(part, update_ids=True)` it returns, when it fails, and what it writes into the
caller's alignment.  What the model takes from the live function is in Gen/C09Align.lean, regenerated by calling it on
every run.
-/
import PartituraModel.Props.C09Entry
import PartituraModel.Proofs.C09Align

namespace C09
open Model.Unfold

/-- every probe of the translator succeeded, and the live function behaves as the model's structure assumes: an entry
labelled "match" or "deletion" counts, an "insertion" (no score note) does not; a counted entry without "score_id" makes
the call fail, another one does not; the ids are rewritten for every label, exactly when no score id contains the
suffix; a failing call leaves the alignment alone -/
theorem align_lits_extracted :
    Gen.C09.ALIGN_OK = true ∧ Gen.C09.ALIGN_NOTES = [] ∧
    Gen.C09.ALIGN_LABELS.contains "match" = true ∧ Gen.C09.ALIGN_LABELS.contains "deletion" = true ∧
    Gen.C09.ALIGN_LABELS.contains "insertion" = false ∧ (∀ l ∈ Gen.C09.ALIGN_LABELS, l ∈ Gen.C09.ALIGN_PROBED) ∧
    Gen.C09.ALIGN_KEYERROR = true ∧ Gen.C09.ALIGN_OTHER_NOKEY_OK = true ∧ Gen.C09.ALIGN_SUFFIX ≠ "" ∧
    Gen.C09.ALIGN_MARK_IS_SUFFIX = true ∧ Gen.C09.ALIGN_REWRITE_ALL = true ∧ Gen.C09.ALIGN_NO_REWRITE_ON_ERROR = true := by
  decide +kernel

/-- The ids the variants are judged by: the score ids of the entries whose label counts, in the order of the alignment;
the call fails (KeyError) exactly when such an entry has no "score_id". -/
theorem alignment_ids_are_counted_entries (al : List AEntry) :
    (∀ ids, alignIds al = some ids → ids = (al.filter (·.counts)).filterMap (·.sid)) ∧
    (alignIds al = none ↔ ∃ e ∈ al, e.counts = true ∧ e.sid = none) := by
  rw [alignIds_eq]
  constructor
  · exact fun ids h => filterMap_of_map_some _ _ _ (Lists.mapM_eq_some_iff.mp h)
  · rw [Lists.mapM_eq_none_iff]
    simp only [List.mem_filter]
    exact ⟨fun ⟨e, ⟨h1, h2⟩, h3⟩ => ⟨e, h1, h2, h3⟩, fun ⟨e, h1, h2, h3⟩ => ⟨e, ⟨h1, h2⟩, h3⟩⟩

-- non-vacuity: a match, an insertion (ignored, it has no score id), a deletion
example : alignIds [⟨"match", some "n1-1"⟩, ⟨"insertion", none⟩, ⟨"deletion", some "n2-1"⟩] = some ["n1-1", "n2-1"] ∧
    alignIds [⟨"match", some "n1-1"⟩, ⟨"deletion", none⟩] = none := by decide +kernel

/-- the variants `unfold_part_alignment` chooses from are the parts of `iter_unfolded_parts(part, update_ids=True)`
(every enumerated path of `get_paths(part, False, False, True)`, unfolded, ids suffixed) -/
theorem alignment_candidates_are_all_variants (L : Layout) (p : APart) (fuel : Nat) :
    alignmentCandidates L p fuel = iterUnfoldedParts L p (some true) fuel := rfl

/-- What a successful call `unfold_part_alignment(part, alignment)` returns: ONE OF the parts that
`iter_unfolded_parts(part, update_ids=True)` yields — hence a concatenation of segment copies along an enumerated path like
every other unfolding —, namely one whose notes (first notes of ties) carry the greatest number of the alignment's ids,
and among those one with the fewest notes — the FIRST such in the order of `iter_unfolded_parts`, so the choice is fully
determined; the caller's alignment afterwards is `alignRewrite` of it. -/
theorem unfold_part_alignment_is_best_variant (L : Layout) (p : APart) (al : List AEntry) (fuel : Nat) (v : Variant)
    (al' : List AEntry) (h : unfoldPartAlignment L p al fuel = some (v, al')) :
    ∃ (us : List Variant) (ids : List String) (k : Nat),
      iterUnfoldedParts L p (some true) fuel = some us ∧ alignIds al = some ids ∧ ids ≠ [] ∧ us[k]? = some v ∧
      (∀ (j : Nat) v', us[j]? = some v' → covOf ids v' ≤ covOf ids v) ∧
      (∀ (j : Nat) v', us[j]? = some v' → covOf ids v' = covOf ids v → lenOf v ≤ lenOf v') ∧
      (∀ (j : Nat) v', us[j]? = some v' → covOf ids v' = covOf ids v → lenOf v' = lenOf v → k ≤ j) ∧
      al' = alignRewrite al := by
  unfold unfoldPartAlignment at h
  cases hids : alignIds al with
  | none => simp [hids] at h
  | some ids =>
    simp only [hids, Option.bind_some] at h
    rw [alignment_candidates_are_all_variants] at h
    cases hus : iterUnfoldedParts L p (some true) fuel with
    | none => simp [hus] at h
    | some us =>
      simp only [hus, Option.bind_some] at h
      cases hk : alignPick us ids with
      | none => simp [hk] at h
      | some k =>
        simp only [hk, Option.bind_some] at h
        obtain ⟨hne, w, hw, h1, h2, h3⟩ := alignPick_spec us ids k hk
        rw [hw] at h
        simp only [Option.map_some, Option.some.injEq, Prod.mk.injEq] at h
        obtain ⟨rfl, rfl⟩ := h
        exact ⟨us, ids, k, rfl, rfl, hne, hw, h1, h2, h3, rfl⟩

/-- … and the call fails ONLY for an alignment without a usable id (a counted entry without "score_id", or no counted
entry at all) or a part whose variants cannot be made: otherwise it returns. -/
theorem unfold_part_alignment_total (L : Layout) (p : APart) (al : List AEntry) (fuel : Nat) (ids : List String)
    (us : List Variant) (hids : alignIds al = some ids) (hne : ids ≠ [])
    (hus : iterUnfoldedParts L p (some true) fuel = some us) (hune : us ≠ []) :
    ∃ v, unfoldPartAlignment L p al fuel = some (v, alignRewrite al) := by
  obtain ⟨k, hk⟩ := alignPick_total us ids hne hune
  obtain ⟨_, w, hw, _⟩ := alignPick_spec us ids k hk
  refine ⟨w, ?_⟩
  unfold unfoldPartAlignment
  rw [hids]
  simp only [Option.bind_some]
  rw [alignment_candidates_are_all_variants, hus]
  simp only [Option.bind_some, hk, hw, Option.map_some]

/-- What the call writes into the caller's alignment: nothing but the "score_id" values change (same entries, same labels,
an entry without the key stays without it); either nothing at all (some score id contains the suffix) or every score id
gets the suffix appended. -/
theorem alignment_rewrite_spec (al : List AEntry) :
    (alignRewrite al).map (·.label) = al.map (·.label) ∧
    (alignRewrite al).map (·.sid.isSome) = al.map (·.sid.isSome) ∧
    (alignRewrite al = al ∨
      ((∀ e ∈ al, e.marked = false) ∧
        (alignRewrite al).map (·.sid) = al.map fun e => e.sid.map (· ++ Gen.C09.ALIGN_SUFFIX))) := by
  unfold alignRewrite
  by_cases h : al.any (·.marked) = true
  · simp [h]
  · simp only [h, Bool.false_eq_true, if_false, List.map_map]
    refine ⟨?_, ?_, Or.inr ⟨?_, ?_⟩⟩
    · apply List.map_congr_left; intro e _; rfl
    · apply List.map_congr_left; intro e _; cases e with | mk l sd => cases sd <;> rfl
    · intro e he
      have : al.any (·.marked) = false := by simpa using h
      rw [List.any_eq_false] at this
      simpa using this e he
    · apply List.map_congr_left; intro e _; rfl

/-- a suffixed id is marked -/
theorem suffixed_is_marked (l : String) (s : String) :
    ({ label := l, sid := some (s ++ Gen.C09.ALIGN_SUFFIX) } : AEntry).marked = true := by
  unfold AEntry.marked
  simp only [Option.getD_some, String.toList_append]
  exact hasSub_append _ _

/-- one score id that contains the suffix: nothing is rewritten -/
theorem alignment_rewrite_of_marked (al : List AEntry) (h : al.any (·.marked) = true) : alignRewrite al = al := by
  unfold alignRewrite; simp [h]

/-- Calling twice with the same alignment does not suffix the ids twice: the rewriting is idempotent. -/
theorem alignment_rewrite_idempotent (al : List AEntry) : alignRewrite (alignRewrite al) = alignRewrite al := by
  by_cases h : al.any (·.marked) = true
  · have : alignRewrite al = al := alignment_rewrite_of_marked al h
    rw [this, this]
  · have h1 : alignRewrite al = al.map fun e => { e with sid := e.sid.map (· ++ Gen.C09.ALIGN_SUFFIX) } := by
      unfold alignRewrite; simp [h]
    by_cases h2 : (alignRewrite al).any (·.marked) = true
    · exact alignment_rewrite_of_marked _ h2
    · -- no entry has a score id
      have hnone : ∀ e ∈ al, e.sid = none := by
        intro e he
        cases hs : e.sid with
        | none => rfl
        | some s =>
          exfalso
          apply h2
          rw [List.any_eq_true]
          refine ⟨{ e with sid := e.sid.map (· ++ Gen.C09.ALIGN_SUFFIX) }, ?_, ?_⟩
          · rw [h1]; exact List.mem_map.mpr ⟨e, he, rfl⟩
          · rw [hs]; exact suffixed_is_marked e.label s
      have h3 : alignRewrite al = al := by
        rw [h1]
        conv => rhs; rw [← List.map_id al]
        apply List.map_congr_left
        intro e he
        have := hnone e he
        cases e with
        | mk l sid => simp only at this; subst this; rfl
      rw [h3, h3]

-- non-vacuity: ids without the mark get it; a second call changes nothing; one marked id suppresses the rewriting
example :
    alignRewrite [⟨"match", some "n1"⟩, ⟨"insertion", none⟩, ⟨"ornament", some "n2-2"⟩] =
      [⟨"match", some "n1-1"⟩, ⟨"insertion", none⟩, ⟨"ornament", some "n2-2-1"⟩] ∧
    alignRewrite [⟨"match", some "n1-1"⟩, ⟨"insertion", none⟩, ⟨"ornament", some "n2-2-1"⟩] =
      [⟨"match", some "n1-1"⟩, ⟨"insertion", none⟩, ⟨"ornament", some "n2-2-1"⟩] ∧
    alignRewrite [⟨"match", some "n7-10"⟩, ⟨"match", some "n2"⟩] = [⟨"match", some "n7-10"⟩, ⟨"match", some "n2"⟩] := by
  decide +kernel

-- non-vacuity of the choice: |: A :| B with the alignment of a performance that played the repeat: the second variant
-- in the order of `iter_unfolded_parts` is [A, B] (one visit of A), the first [A, A, B]; ids "a-2" is only in the first
example :
    let L := chainLayout 0 [4, 8] [true, false]
    let p : APart := { points := [0, 4, 8], qd := [(0, 1)], objs :=
      [{ kind := .note, start := 0, stp := some 4, payload := [60, 1, 1], nid := some "a", refs := [[], []] },
       { kind := .note, start := 4, stp := some 8, payload := [62, 1, 1], nid := some "b", refs := [[], []] }] }
    ((unfoldPartAlignment L p [⟨"match", some "a-1"⟩, ⟨"match", some "a-2"⟩, ⟨"match", some "b-1"⟩] 9).map
        fun r => (r.1.objs.map (·.nid), r.2.map (·.sid))) =
      some ([some "a-1", some "a-2", some "b-1"], [some "a-1", some "a-2", some "b-1"]) ∧
    ((unfoldPartAlignment L p [⟨"match", some "a-1"⟩, ⟨"deletion", some "b-1"⟩] 9).map
        fun r => r.1.objs.map (·.nid)) = some [some "a-1", some "b-1"] := by decide +kernel

end C09
