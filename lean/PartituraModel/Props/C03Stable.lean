/-
C03 — the voice numbers of a re-exported score: `remove_voice_polyphony` is stable.  Part of "loading a file written by
partitura and saving it again reproduces that file": the exporter moves notes that MusicXML cannot hold in their voice to
free voices; the loaded score carries the voices written, and the second export must leave them where they are.
-/
import PartituraModel.Proofs.C03Stable

namespace C03
open Model.Xml C03.Voices C03.Stable

/-- **voices_stable.**  For every list of notes of a segment (distinct identities; any voices, durations, chords of unequal
    length, notes running past later onsets, grace notes): every voice `remove_voice_polyphony` produces — old or new —
    is one that MusicXML can hold (`Monophonic`: one duration per onset, no note past the next onset); therefore
    `remove_voice_polyphony_single`, run on ANY notes whose onset, duration and grace flag are those of notes of such a
    voice (the voice as it is loaded back: other order, other objects), finds no note to move and leaves `voice_spans` and
    `extraneous` as they are; and the loop over all voices produced returns them unchanged. -/
theorem voices_stable (notes : List NoteIn) (hnd : (notes.map (·.idx)).Nodup) :
    (∀ vn ∈ assignVoices notes, Monophonic vn.2) ∧
    (∀ vn ∈ assignVoices notes, ∀ ns' : List NoteIn,
      (∀ n ∈ ns', ∃ m ∈ vn.2, n.onset = m.onset ∧ n.dur = m.dur ∧ n.grace = m.grace) →
      ∀ spans ex, removeSingle ns' spans ex = (ns', spans, ex)) ∧
    (∀ spans ex, removeLoop spans ex (assignVoices notes) = (assignVoices notes, spans, ex)) := by
  have hm := assignVoices_monophonic notes hnd
  exact ⟨hm, fun vn hvn ns' hsub spans ex => removeSingle_stable ns' (monophonic_of_timing vn.2 ns' (hm vn hvn) hsub) spans ex,
    fun spans ex => removeLoop_stable _ hm spans ex⟩

/-- **second_export_moves_nothing.**  A segment all of whose voices MusicXML can hold goes through
    `remove_voice_polyphony` unchanged: the voices are the ones the notes carry, none is added. -/
theorem second_export_moves_nothing (notes : List NoteIn) (h : ∀ vn ∈ partitionVoices notes, Monophonic vn.2) :
    assignVoices notes = partitionVoices notes := by
  unfold assignVoices
  simp only [removeLoop_stable _ h, List.append_nil]

/-- a chord {quarter, dotted half} in voice 1 and a half note in voice 2 on the same beat: the long chord member moves to
    voice 3 … -/
example : (assignVoices [
    { idx := 0, onset := 0, dur := 4, grace := false, voice := 1, staff := 1, pitch := 76, step := [69], gracePrev := false, seq := [] },
    { idx := 1, onset := 0, dur := 12, grace := false, voice := 1, staff := 1, pitch := 72, step := [67], gracePrev := false, seq := [] },
    { idx := 2, onset := 0, dur := 8, grace := false, voice := 2, staff := 2, pitch := 48, step := [67], gracePrev := false, seq := [] }]).map
      (fun vn => (vn.1, vn.2.map (·.idx))) = [(1, [0]), (2, [2]), (3, [1])] := by decide +kernel

/-- … and the score loaded from that file (the notes with the voices written) is left alone -/
example : (assignVoices [
    { idx := 0, onset := 0, dur := 4, grace := false, voice := 1, staff := 1, pitch := 76, step := [69], gracePrev := false, seq := [] },
    { idx := 2, onset := 0, dur := 8, grace := false, voice := 2, staff := 2, pitch := 48, step := [67], gracePrev := false, seq := [] },
    { idx := 1, onset := 0, dur := 12, grace := false, voice := 3, staff := 1, pitch := 72, step := [67], gracePrev := false, seq := [] }]).map
      (fun vn => (vn.1, vn.2.map (·.idx))) = [(1, [0]), (2, [2]), (3, [1])] := by decide +kernel

/-- the hypothesis of `second_export_moves_nothing` is needed: a voice with a chord of unequal durations is split -/
example : ¬ Monophonic [
    { idx := 0, onset := 0, dur := 4, grace := false, voice := 1, staff := 1, pitch := 76, step := [69], gracePrev := false, seq := [] },
    { idx := 1, onset := 0, dur := 12, grace := false, voice := 1, staff := 1, pitch := 72, step := [67], gracePrev := false, seq := [] }] := by
  intro h
  have := h.1 _ (List.mem_cons_self ..) _ (List.mem_cons_of_mem _ (List.mem_cons_self ..)) rfl rfl rfl
  simp at this

end C03
