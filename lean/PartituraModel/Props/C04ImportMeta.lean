/-
C04 — key and time signatures through the importer.

`load_score_midi` hands to `create_part`, for every part it creates, `sorted(set(...))` of the key / time signature
events of the tracks that contribute a (track, channel) cell to the part (`make_track_to_part_mapping`), plus the
"global" ones (tracks without notes; the sanitize step).  For a file written by `save_score_midi` the tracks hold the
signatures of the score parts routed to them, at the written ticks of their positions (`key_signature_positions`,
`time_signature_positions`): composed here, for every export mode, import mode and anacrusis policy.
Helper lemmas: Proofs/C04ImportSigs.lean, Proofs/C04Written.lean.
-/
import PartituraModel.Proofs.C04ImportSigs
import PartituraModel.Props.C04Domain

namespace C04
open Model Model.Ticks Model.MidiPair Model.MidiModes Model.ScoreMidi

/-- **What `create_part` receives as signatures, any file, any mode**: the key signatures of an imported part are a
    strictly ascending list (tick, then name) without repeats whose members are exactly the key signature events of the
    tracks with notes that contribute a (track, channel) cell to the part, and those of the tracks without notes; the
    time signatures likewise over the tables of the sanitize step (`sigTables`), or the single assumed 4/4 at tick 0
    when there is none. -/
theorem import_signature_sets (mode ticks : Nat) (tracks : List (List (Int × Msg))) (imp : Imported)
    (h : loadScoreMidi mode ticks tracks = some imp) :
    let byTrCh := notesByTrCh ((readTracks tracks).filter fun e => !e.2.1.isEmpty)
    let trch := sortedTC (byTrCh.map (·.1))
    let gpv := assignGroupPartVoice mode trch
    let sig := sigTables (readTracks tracks)
    ∀ e ∈ imp.parts,
      e.2.keySigs.Pairwise (fun a b => ltKS a b = true) ∧
      (∀ k, k ∈ e.2.keySigs ↔ (k ∈ sig.globalKS ∨ ∃ t ∈ sig.trackKS, k ∈ t.2 ∧
        ∃ c ∈ trch.zip gpv, c.1.1 = t.1 ∧ c.2.2.1 = some e.1)) ∧
      e.2.timeSigs.Pairwise (fun a b => ltTS a b = true) ∧
      ((∀ k, k ∈ e.2.timeSigs ↔ (k ∈ sig.globalTS ∨ ∃ t ∈ sig.trackTS, k ∈ t.2 ∧
        ∃ c ∈ trch.zip gpv, c.1.1 = t.1 ∧ c.2.2.1 = some e.1)) ∨
       (e.2.timeSigs = [(0, 4, 4)] ∧ sig.globalTS = [] ∧ ∀ t ∈ sig.trackTS, ∀ k ∈ t.2,
        ¬ ∃ c ∈ trch.zip gpv, c.1.1 = t.1 ∧ c.2.2.1 = some e.1)) := by
  intro byTrCh trch gpv sig e he
  obtain ⟨hk, ht⟩ := C04IS.import_part_tables mode ticks tracks imp h e he
  refine ⟨?_, ?_, ?_⟩
  · rw [hk]
    exact C04IS.sortedSet_sorted C04IS.ltKS_strict _
  · intro k
    rw [hk, C04IS.mem_sortedSet C04IS.ltKS_strict, List.mem_append, C04IS.mem_fromTracks]
    exact Or.comm
  · -- `T`: the sorted set of the time signatures that reach the part; the assumed 4/4 stands in when it is empty
    have hsrt := C04IS.sortedSet_sorted C04IS.ltTS_strict
      ((sig.trackTS.flatMap fun t => if (trackToParts trch gpv t.1).contains (some e.1) then t.2 else []) ++ sig.globalTS)
    have hmemT := fun k => C04IS.mem_sortedSet C04IS.ltTS_strict k
      ((sig.trackTS.flatMap fun t => if (trackToParts trch gpv t.1).contains (some e.1) then t.2 else []) ++ sig.globalTS)
    generalize sortedSet ltTS _ = T at ht hsrt hmemT
    rw [ht]
    dsimp only
    by_cases hE : T.isEmpty = true
    · rw [if_pos hE]
      have hall : ∀ k, k ∉ (sig.trackTS.flatMap fun t =>
          if (trackToParts trch gpv t.1).contains (some e.1) then t.2 else []) ++ sig.globalTS :=
        fun k hk' => List.not_mem_nil (List.isEmpty_iff.mp hE ▸ (hmemT k).mpr hk')
      refine ⟨List.pairwise_singleton _ _, Or.inr ⟨rfl, ?_, fun t ht' k hk' hc => ?_⟩⟩
      · exact List.eq_nil_iff_forall_not_mem.mpr fun k hk' => hall k (List.mem_append_right _ hk')
      · exact hall k (List.mem_append_left _ ((C04IS.mem_fromTracks trch gpv _ sig.trackTS k).mpr ⟨t, ht', hk', hc⟩))
    · rw [if_neg hE]
      refine ⟨hsrt, Or.inl fun k => ?_⟩
      rw [hmemT, List.mem_append, C04IS.mem_fromTracks]
      exact Or.comm

/-- a cell of the importer's table that belongs to part `pid` and lies in track `tr` -/
def PartHasTrack (imode : Nat) (tcs : List (Nat × Nat)) (pid tr : Nat) : Prop :=
  ∃ c ∈ cellTable imode tcs, c.1.1 = tr ∧ c.2.2.1 = some pid

/-- the import of an export, track by track: every track `tr` that gives a cell to some part is a track of the file,
    has notes, and is read as (index, notes, time signatures, key signatures, tempi) of the written events -/
theorem import_reads_tracks (mode : Nat) (a : Anacrusis) (minPpq vel : Nat) (parts : List PartIn) (ex : Exported)
    (h : saveScoreMidi mode a minPpq vel parts = some ex)
    (hvel : 0 < vel) (hw : ∀ x ∈ parts, C04T.WellFormed x.base)
    (hno : ∀ o tcs, origin a (parts.map (·.base)) = some o → mapToTrackChannel mode (noteKeys parts) = some tcs →
      ∀ tr, C04P.NoOverlap (routedTo ex.ppq o vel ((noteKeys parts).zip tcs) parts tr)) :
    ∃ tcs, mapToTrackChannel mode (noteKeys parts) = some tcs ∧
      (∀ rd, rd ∈ readTracks (ex.tracks.map (deltasFrom 0)) ↔
        ∃ (hi : rd.1 < ex.tracks.length),
          rd = (rd.1, pairTrack (deltasFrom 0 ex.tracks[rd.1]), timeSigsOf ex.tracks[rd.1], keySigsOf ex.tracks[rd.1],
                temposOf ex.tracks[rd.1])) ∧
      (∀ i (hi : i < ex.tracks.length),
        (pairTrack (deltasFrom 0 ex.tracks[i])).isEmpty = false ↔ ∃ ch, (i, ch) ∈ tcs) := by
  obtain ⟨o, tcs, W⟩ := C04E.Written.of h hvel hw hno
  exact ⟨tcs, W.table, C04I.mem_readTracks _, W.nonempty_iff⟩

theorem mem_tracksOfImported (imode : Nat) (tcs : List (Nat × Nat)) (pid tr : Nat) :
    tr ∈ tracksOfImported imode tcs pid ↔ PartHasTrack imode tcs pid tr := by
  unfold tracksOfImported PartHasTrack
  rw [C04G.mem_firstSeen, List.mem_map]
  constructor
  · rintro ⟨c, hc, rfl⟩
    rw [List.mem_filter] at hc
    exact ⟨c, hc.1, rfl, by simpa using hc.2⟩
  · rintro ⟨c, hc, rfl, hp⟩
    exact ⟨c, List.mem_filter.mpr ⟨hc, by simpa using hp⟩, rfl⟩

/-- **The imported signatures as functions of the score** (what the `impspec` stream of the harness compares with the
    real importer): for the import of an export, every export mode, import mode and policy,
    * the part numbers of the imported parts are, in order, those `assign_group_part_voice` hands out for the
      (track, channel) pairs of the note keys (`importedPartIds`);
    * the key signatures of every imported part are the list `specImportedKS` — equal as lists, not only as sets;
    * for `shift` / `pad_bar` the time signatures are `specImportedTS` (the assumed 4/4, the sanitize step and the
      ordinary case: `import_time_signature_cases`). -/
theorem import_signatures_spec (mode imode : Nat) (a : Anacrusis) (minPpq vel : Nat) (parts : List PartIn)
    (ex : Exported) (imp : Imported)
    (h : saveScoreMidi mode a minPpq vel parts = some ex)
    (hi : loadScoreMidi imode ex.ppq (ex.tracks.map (deltasFrom 0)) = some imp)
    (hvel : 0 < vel) (hw : ∀ x ∈ parts, C04T.WellFormed x.base)
    (hno : ∀ o tcs, origin a (parts.map (·.base)) = some o → mapToTrackChannel mode (noteKeys parts) = some tcs →
      ∀ tr, C04P.NoOverlap (routedTo ex.ppq o vel ((noteKeys parts).zip tcs) parts tr)) :
    ∃ o tcs, origin a (parts.map (·.base)) = some o ∧ mapToTrackChannel mode (noteKeys parts) = some tcs ∧
      imp.parts.map (fun e => some e.1) = importedPartIds imode tcs ∧
      (∀ e ∈ imp.parts, e.2.keySigs = specImportedKS imode ex.ppq o ((noteKeys parts).zip tcs) parts e.1) ∧
      (a ≠ .timeSigChange →
        ∀ e ∈ imp.parts, e.2.timeSigs = specImportedTS a imode ex.ppq o ((noteKeys parts).zip tcs) parts e.1) := by
  obtain ⟨o, tcs, W⟩ := C04E.Written.of h hvel hw hno
  have hKS := W.here (key_signature_positions mode a minPpq vel parts ex h)
  refine ⟨o, tcs, W.origin, W.table, ?_, ?_, ?_⟩
  · have hids := C04IS.import_part_ids imode ex.ppq _ imp hi
    dsimp only at hids
    rw [W.trch] at hids
    rw [hids]
    unfold importedPartIds cellTable
    rw [C04I.map_snd_zip (·.2.1) (C04M.assign_length imode (sortedTC tcs)).le]
  · intro e he
    have hcol := W.column (fun rd => rd.2.2.2.1)
      (fun i => keySigsOf (trackKS ex.ppq o ((noteKeys parts).zip tcs) parts i))
      (fun i hi ⟨t, name⟩ => (C04E.mem_keySigsOf_of_perm (hKS i hi) t name).trans (C04IS.mem_keySigsOf _ t name).symm)
      (fun i ⟨t, name⟩ hk => C04E.track_of_contribution _ tcs parts _ i _ ((C04IS.mem_keySigsOf _ t name).mp hk))
    have hk := (C04IS.import_part_tables imode ex.ppq _ imp hi e he).1
    rw [W.trch] at hk
    rw [hk]
    unfold specImportedKS
    rw [W.snd]
    apply C04IS.sortedSet_congr C04IS.ltKS_strict
    intro k
    rw [hcol.mem_partKeySigs, List.mem_flatMap]
    exact exists_congr fun tr => and_congr_left' (mem_tracksOfImported imode tcs e.1 tr).symm
  · intro ha e he
    have hTS := W.here (time_signature_positions mode a minPpq vel parts ex h ha)
    have hcol := W.column (fun rd => rd.2.2.1)
      (specTrackTS a ex.ppq o ((noteKeys parts).zip tcs) parts)
      (fun i hi ⟨t, n, d⟩ => (C04E.mem_timeSigsOf_of_perm (hTS i hi) t n d).trans (C04IS.mem_timeSigsOf _ t n d).symm)
      (fun i ⟨t, n, d⟩ hk => C04E.track_of_contribution _ tcs parts _ i _ ((C04IS.mem_timeSigsOf _ t n d).mp hk))
    have ht := (C04IS.import_part_tables imode ex.ppq _ imp hi e he).2
    obtain ⟨c, hcm, hcp⟩ := C04IS.import_part_has_cell imode ex.ppq _ imp hi e he
    rw [W.trch] at ht hcm
    rw [ht]
    unfold specImportedTS
    rw [W.snd]
    refine hcol.partTimeSigs_eq _ _ e.1 _ (mem_tracksOfImported imode tcs e.1) ?_
    · -- the part owns a cell, in a track with notes
      have hc1 : c.1 ∈ tcs := (C04IS.mem_sortedTC _ _).mp (List.of_mem_zip hcm).1
      exact ⟨c.1.1, (mem_tracksOfImported imode tcs e.1 c.1.1).mpr ⟨c, hcm, rfl, hcp⟩,
        (C04IS.mem_specTracks W.length _).mpr ⟨c.1.2, hc1⟩⟩

/-- **Key signatures through the round trip**, every export mode, every import mode, every anacrusis policy: the key
    signatures `create_part` receives for an imported part are strictly ascending (tick, then name), and `(t, name)` is
    among them exactly when some track `tr` that gives the part a (track, channel) cell (`PartHasTrack`: a cell of
    `assign_group_part_voice` over the pairs the exporter used) must hold that key signature — i.e. some score part with a
    note in track `tr` has the key signature `name` at a position whose written tick is `t` (`trackKS`, `ksImages`). -/
theorem import_key_signature_positions (mode imode : Nat) (a : Anacrusis) (minPpq vel : Nat) (parts : List PartIn)
    (ex : Exported) (imp : Imported)
    (h : saveScoreMidi mode a minPpq vel parts = some ex)
    (hi : loadScoreMidi imode ex.ppq (ex.tracks.map (deltasFrom 0)) = some imp)
    (hvel : 0 < vel) (hw : ∀ x ∈ parts, C04T.WellFormed x.base)
    (hno : ∀ o tcs, origin a (parts.map (·.base)) = some o → mapToTrackChannel mode (noteKeys parts) = some tcs →
      ∀ tr, C04P.NoOverlap (routedTo ex.ppq o vel ((noteKeys parts).zip tcs) parts tr)) :
    ∃ o tcs, origin a (parts.map (·.base)) = some o ∧ mapToTrackChannel mode (noteKeys parts) = some tcs ∧
      ∀ e ∈ imp.parts,
        e.2.keySigs.Pairwise (fun x y => ltKS x y = true) ∧
        ∀ t name, (t, name) ∈ e.2.keySigs ↔
          ∃ tr, PartHasTrack imode tcs e.1 tr ∧
            (t, Msg.keySig name) ∈ trackKS ex.ppq o ((noteKeys parts).zip tcs) parts tr := by
  obtain ⟨o, tcs, W⟩ := C04E.Written.of h hvel hw hno
  obtain ⟨_, hks, _⟩ := W.here (import_signatures_spec mode imode a minPpq vel parts ex imp h hi hvel hw hno)
  refine ⟨o, tcs, W.origin, W.table, fun e he => ?_⟩
  rw [hks e he]
  unfold specImportedKS
  rw [W.snd]
  refine ⟨C04IS.sortedSet_sorted C04IS.ltKS_strict _, fun t name => ?_⟩
  rw [C04IS.mem_sortedSet C04IS.ltKS_strict, List.mem_flatMap]
  exact exists_congr fun tr => and_congr (mem_tracksOfImported imode tcs e.1 tr) (C04IS.mem_keySigsOf _ t name)

/-- **Time signatures through the round trip, `shift` and `pad_bar`, all cases** (no hypothesis about the score's time
    signatures): with `S tr` the time signature events track `tr` must hold (`trackTS`), over the tracks with notes
    * when no track must hold a time signature, every imported part gets the single assumed 4/4 at tick 0;
    * when some track must hold one and some track none (a sounding part without any time signature next to one with),
      the sanitize step shares them: every imported part gets the time signatures of ALL tracks;
    * when every track must hold one, every imported part gets those of the tracks that give it a (track, channel) cell. -/
theorem import_time_signature_cases (mode imode : Nat) (a : Anacrusis) (minPpq vel : Nat) (parts : List PartIn)
    (ex : Exported) (imp : Imported)
    (h : saveScoreMidi mode a minPpq vel parts = some ex)
    (hi : loadScoreMidi imode ex.ppq (ex.tracks.map (deltasFrom 0)) = some imp)
    (ha : a ≠ .timeSigChange)
    (hvel : 0 < vel) (hw : ∀ x ∈ parts, C04T.WellFormed x.base)
    (hno : ∀ o tcs, origin a (parts.map (·.base)) = some o → mapToTrackChannel mode (noteKeys parts) = some tcs →
      ∀ tr, C04P.NoOverlap (routedTo ex.ppq o vel ((noteKeys parts).zip tcs) parts tr)) :
    ∃ o tcs, origin a (parts.map (·.base)) = some o ∧ mapToTrackChannel mode (noteKeys parts) = some tcs ∧
      ∀ e ∈ imp.parts,
        e.2.timeSigs.Pairwise (fun x y => ltTS x y = true) ∧
        ((∀ i ch, (i, ch) ∈ tcs → trackTS a ex.ppq o ((noteKeys parts).zip tcs) parts i = []) →
          e.2.timeSigs = [(0, 4, 4)]) ∧
        ((∃ i ch, (i, ch) ∈ tcs ∧ trackTS a ex.ppq o ((noteKeys parts).zip tcs) parts i = []) →
         (∃ i ch, (i, ch) ∈ tcs ∧ trackTS a ex.ppq o ((noteKeys parts).zip tcs) parts i ≠ []) →
          ∀ t n d, (t, n, d) ∈ e.2.timeSigs ↔
            ∃ i ch, (i, ch) ∈ tcs ∧ (t, Msg.timeSig n d) ∈ trackTS a ex.ppq o ((noteKeys parts).zip tcs) parts i) ∧
        ((∀ i ch, (i, ch) ∈ tcs → trackTS a ex.ppq o ((noteKeys parts).zip tcs) parts i ≠ []) →
          ∀ t n d, (t, n, d) ∈ e.2.timeSigs ↔
            ∃ tr, PartHasTrack imode tcs e.1 tr ∧
              (t, Msg.timeSig n d) ∈ trackTS a ex.ppq o ((noteKeys parts).zip tcs) parts tr) := by
  obtain ⟨o, tcs, W⟩ := C04E.Written.of h hvel hw hno
  obtain ⟨_, _, hts⟩ := W.here (import_signatures_spec mode imode a minPpq vel parts ex imp h hi hvel hw hno)
  refine ⟨o, tcs, W.origin, W.table, fun e he => ?_⟩
  rw [hts ha e he]
  unfold specImportedTS
  rw [W.snd]
  -- the conditions of the spec in terms of `trackTS`
  have hemp := C04IS.specTrackTS_isEmpty a ex.ppq o ((noteKeys parts).zip tcs) parts
  have hmt := C04IS.mem_specTracks W.length
  have hall : (specTracks ((noteKeys parts).zip tcs)).all
      (fun tr => (specTrackTS a ex.ppq o ((noteKeys parts).zip tcs) parts tr).isEmpty) = true ↔
      ∀ i ch, (i, ch) ∈ tcs → trackTS a ex.ppq o ((noteKeys parts).zip tcs) parts i = [] := by
    simp only [List.all_eq_true, hemp, hmt]
    exact ⟨fun H i ch hch => H i ⟨ch, hch⟩, fun H i ⟨ch, hch⟩ => H i ch hch⟩
  have hany : (specTracks ((noteKeys parts).zip tcs)).any
      (fun tr => (specTrackTS a ex.ppq o ((noteKeys parts).zip tcs) parts tr).isEmpty) = true ↔
      ∃ i ch, (i, ch) ∈ tcs ∧ trackTS a ex.ppq o ((noteKeys parts).zip tcs) parts i = [] := by
    simp only [List.any_eq_true, hemp, hmt]
    exact ⟨fun ⟨i, ⟨ch, hch⟩, hs⟩ => ⟨i, ch, hch, hs⟩, fun ⟨i, ch, hch, hs⟩ => ⟨i, ⟨ch, hch⟩, hs⟩⟩
  refine ⟨?_, fun hzero => if_pos (hall.mpr hzero), ?_, ?_⟩
  · split
    · exact List.pairwise_singleton _ _
    · split <;> exact C04IS.sortedSet_sorted C04IS.ltTS_strict _
  · rintro hZ ⟨i, ch, hch, hne⟩ t n d
    rw [if_neg (fun hc => hne (hall.mp hc i ch hch)), if_pos (hany.mpr hZ), C04IS.mem_sortedSet C04IS.ltTS_strict,
      List.mem_flatMap]
    constructor
    · rintro ⟨i, hi', hx⟩
      obtain ⟨ch, hch⟩ := (hmt i).mp hi'
      exact ⟨i, ch, hch, (C04IS.mem_timeSigsOf _ t n d).mp hx⟩
    · rintro ⟨i, ch, hch, hx⟩
      exact ⟨i, (hmt i).mpr ⟨ch, hch⟩, (C04IS.mem_timeSigsOf _ t n d).mpr hx⟩
  · intro hne t n d
    -- the part owns a cell, so some track has notes
    obtain ⟨c, hcm, _⟩ := C04IS.import_part_has_cell imode ex.ppq _ imp hi e he
    rw [W.trch] at hcm
    have hc1 : (c.1.1, c.1.2) ∈ tcs := (C04IS.mem_sortedTC _ _).mp (List.of_mem_zip hcm).1
    rw [if_neg (fun hc => hne _ _ hc1 (hall.mp hc _ _ hc1)),
      if_neg (fun hc => (hany.mp hc).elim fun i ⟨ch, hch, hnil⟩ => hne i ch hch hnil),
      C04IS.mem_sortedSet C04IS.ltTS_strict, List.mem_flatMap]
    exact exists_congr fun tr => and_congr (mem_tracksOfImported imode tcs e.1 tr) (C04IS.mem_timeSigsOf _ t n d)

/-- **Time signatures through the round trip**, `shift` and `pad_bar`, every export and import mode, when every
    sounding part of the score has a time signature: the time signatures `create_part` receives for an imported part are
    strictly ascending (tick, numerator, denominator) and `(t, n, d)` is among them exactly when some track that gives the
    part a (track, channel) cell must hold that time signature — some score part with a note in the track has the
    signature `n/d` at a position whose written tick is `t` (the first signature of a part at tick 0 for `pad_bar`:
    `trackTS`, `tsImages`).  The sanitize step and the assumed 4/4 do not fire. -/
theorem import_time_signature_positions (mode imode : Nat) (a : Anacrusis) (minPpq vel : Nat) (parts : List PartIn)
    (ex : Exported) (imp : Imported)
    (h : saveScoreMidi mode a minPpq vel parts = some ex)
    (hi : loadScoreMidi imode ex.ppq (ex.tracks.map (deltasFrom 0)) = some imp)
    (ha : a ≠ .timeSigChange)
    (hvel : 0 < vel) (hw : ∀ x ∈ parts, C04T.WellFormed x.base)
    (hts : ∀ x ∈ parts, x.notes ≠ [] → x.base.ts ≠ [])
    (hno : ∀ o tcs, origin a (parts.map (·.base)) = some o → mapToTrackChannel mode (noteKeys parts) = some tcs →
      ∀ tr, C04P.NoOverlap (routedTo ex.ppq o vel ((noteKeys parts).zip tcs) parts tr)) :
    ∃ o tcs, origin a (parts.map (·.base)) = some o ∧ mapToTrackChannel mode (noteKeys parts) = some tcs ∧
      ∀ e ∈ imp.parts,
        e.2.timeSigs.Pairwise (fun x y => ltTS x y = true) ∧
        ∀ t n d, (t, n, d) ∈ e.2.timeSigs ↔
          ∃ tr, PartHasTrack imode tcs e.1 tr ∧
            (t, Msg.timeSig n d) ∈ trackTS a ex.ppq o ((noteKeys parts).zip tcs) parts tr := by
  obtain ⟨o, tcs, W⟩ := C04E.Written.of h hvel hw hno
  have hc := W.here (import_time_signature_cases mode imode a minPpq vel parts ex imp h hi ha hvel hw hno)
  refine ⟨o, tcs, W.origin, W.table, fun e he => ⟨(hc e he).1, (hc e he).2.2.2 ?_⟩⟩
  -- a track with a note holds the time signatures of a sounding part
  intro tr ch hch
  obtain ⟨xi, hxi, n, hn, hl⟩ := W.source hch
  have hc : (tracksOfPart ((noteKeys parts).zip tcs) xi.2).contains tr = true :=
    (C04E.mem_tracksOfPart _ _ _).mpr ⟨_, _, Model.lookup_mem hl, rfl, rfl⟩
  have hne' := hts xi.1 (List.fst_mem_of_mem_zipIdx hxi) (List.ne_nil_of_mem hn)
  unfold trackTS
  refine fun hnil => hne' ?_
  have h0 := List.flatMap_eq_nil_iff.mp hnil xi hxi
  rw [if_pos hc] at h0
  exact List.zipIdx_eq_nil_iff.mp (List.map_eq_nil_iff.mp h0)

/-- **Imported time signatures come from the file and nothing of the part's own tracks is lost**, any file, any mode
    (the sanitize step included): every time signature `create_part` receives for a part is a time signature event of
    some track of the file — or the single assumed 4/4 at tick 0 — and every time signature event of a track with notes
    that gives the part a (track, channel) cell is among them. -/
theorem import_time_signatures_of_file (mode ticks : Nat) (tracks : List (List (Int × Msg))) (imp : Imported)
    (h : loadScoreMidi mode ticks tracks = some imp) :
    let byTrCh := notesByTrCh ((readTracks tracks).filter fun e => !e.2.1.isEmpty)
    let trch := sortedTC (byTrCh.map (·.1))
    let gpv := assignGroupPartVoice mode trch
    ∀ e ∈ imp.parts,
      (∀ k ∈ e.2.timeSigs, k = (0, 4, 4) ∨ ∃ rd ∈ readTracks tracks, k ∈ rd.2.2.1) ∧
      (∀ rd ∈ readTracks tracks, rd.2.1.isEmpty = false →
        (∃ c ∈ trch.zip gpv, c.1.1 = rd.1 ∧ c.2.2.1 = some e.1) → ∀ k ∈ rd.2.2.1, k ∈ e.2.timeSigs) := by
  intro byTrCh trch gpv e he
  obtain ⟨_, _, _, hmem⟩ := import_signature_sets mode ticks tracks imp h e he
  constructor
  · intro k hk
    rcases hmem with hm | ⟨heq, _, _⟩
    · exact Or.inr (C04IS.sigTables_ts_sub _ k (((hm k).mp hk).imp_right fun ⟨t, ht, hkt, _⟩ => ⟨t, ht, hkt⟩))
    · exact Or.inl (by rw [heq] at hk; simpa using hk)
  · intro rd hrd hne hc k hk
    have hin : k ∈ (sigTables (readTracks tracks)).globalTS ∨ ∃ t ∈ (sigTables (readTracks tracks)).trackTS, k ∈ t.2 ∧
        ∃ c ∈ trch.zip gpv, c.1.1 = t.1 ∧ c.2.2.1 = some e.1 :=
      (C04IS.sigTables_ts_keep _ rd hrd hne).imp (· k hk) fun ht => ⟨_, ht, hk, hc⟩
    rcases hmem with hm | ⟨_, hG, hnone⟩
    · exact (hm k).mpr hin
    · rcases hin with hg | ⟨t, ht, hkt, hc'⟩
      · rw [hG] at hg; cases hg
      · exact absurd hc' (hnone t ht k hkt)

/-- **Time signatures through the round trip, `time_sig_change`** (the policy rewrites the signatures of irregular
    measures by design), every export and import mode: every time signature of a score part that does not start an
    irregular measure comes back — at the written tick of its position, with its numerator and denominator — in every
    imported part that owns a (track, channel) cell of a track in which the score part has a note; and every imported
    time signature (other than the assumed 4/4 of a file without any) stands at the written tick of a time signature,
    a measure start or a measure end of some score part. -/
theorem import_time_sig_change_positions (mode imode : Nat) (minPpq vel : Nat) (parts : List PartIn)
    (ex : Exported) (imp : Imported)
    (h : saveScoreMidi mode .timeSigChange minPpq vel parts = some ex)
    (hi : loadScoreMidi imode ex.ppq (ex.tracks.map (deltasFrom 0)) = some imp)
    (hvel : 0 < vel) (hw : ∀ x ∈ parts, C04T.WellFormed x.base)
    (hno : ∀ o tcs, origin .timeSigChange (parts.map (·.base)) = some o → mapToTrackChannel mode (noteKeys parts) = some tcs →
      ∀ tr, C04P.NoOverlap (routedTo ex.ppq o vel ((noteKeys parts).zip tcs) parts tr)) :
    ∃ o tcs, origin .timeSigChange (parts.map (·.base)) = some o ∧ mapToTrackChannel mode (noteKeys parts) = some tcs ∧
      ∀ e ∈ imp.parts,
        (∀ tr, PartHasTrack imode tcs e.1 tr → ∀ xi ∈ parts.zipIdx,
          (tracksOfPart ((noteKeys parts).zip tcs) xi.2).contains tr = true →
          ∀ ts ∈ xi.1.base.ts, ts.1 ∉ (xi.1.measures.filter (C04D.irregular xi.1.base)).map (·.1) →
            (tick ex.ppq xi.1.base o ts.1, (ts.2.1 : Int), (ts.2.2 : Int)) ∈ e.2.timeSigs) ∧
        (∀ k ∈ e.2.timeSigs, k = (0, 4, 4) ∨ ∃ xi ∈ parts.zipIdx,
          (∃ ts ∈ xi.1.base.ts, k.1 = tick ex.ppq xi.1.base o ts.1) ∨
           ∃ m ∈ xi.1.measures, k.1 = tick ex.ppq xi.1.base o m.1 ∨ k.1 = tick ex.ppq xi.1.base o m.2) := by
  obtain ⟨o, tcs, W⟩ := C04E.Written.of h hvel hw hno
  have hTS := W.here (time_sig_change_positions mode minPpq vel parts ex h)
  refine ⟨o, tcs, W.origin, W.table, ?_⟩
  intro e he
  have hfile := import_time_signatures_of_file imode ex.ppq _ imp hi e he
  rw [W.trch] at hfile
  obtain ⟨hfrom, hkeep⟩ := hfile
  constructor
  · intro tr hc xi hxi hct ts hts hirr
    obtain ⟨c, hcm, hctr, hcp⟩ := hc
    have hc1 : c.1 ∈ tcs := (C04IS.mem_sortedTC _ _).mp (List.of_mem_zip hcm).1
    have hch : (tr, c.1.2) ∈ tcs := by rw [← hctr]; exact hc1
    have hlt : tr < ex.tracks.length := ((W.mem_tcs tr c.1.2).mp hch).1
    let rd : TrackRead := (tr, pairTrack (deltasFrom 0 ex.tracks[tr]), timeSigsOf ex.tracks[tr], keySigsOf ex.tracks[tr],
      temposOf ex.tracks[tr])
    have hrdm : rd ∈ readTracks (ex.tracks.map (deltasFrom 0)) := (C04I.mem_readTracks _ rd).mpr ⟨hlt, rfl⟩
    have hne' : rd.2.1.isEmpty = false := (W.nonempty_iff tr hlt).mpr ⟨c.1.2, hch⟩
    refine hkeep rd hrdm hne' ⟨c, hcm, hctr, hcp⟩ _ ?_
    exact (C04IS.mem_timeSigsOf _ _ _ _).mpr ((hTS tr hlt).1 xi hxi hct ts hts hirr)
  · intro k hk
    rcases hfrom k hk with h0 | ⟨rd, hrdm, hkr⟩
    · exact Or.inl h0
    · right
      obtain ⟨hlt, hrdeq⟩ := (C04I.mem_readTracks _ rd).mp hrdm
      rw [hrdeq] at hkr
      simp only at hkr
      obtain ⟨t, n, d⟩ := k
      have hev := (C04IS.mem_timeSigsOf _ _ _ _).mp hkr
      obtain ⟨xi, hxi, _, hpos⟩ := (hTS rd.1 hlt).2 _ hev rfl
      exact ⟨xi, hxi, hpos⟩

/-- non-vacuity: the spec functions on `demoScore`, export mode 1 (one track), import mode 0 -/
example : importedPartIds 0 [(0, 1), (0, 1), (0, 2)] = [some 0] ∧
    specImportedKS 0 6 (-1) ((noteKeys demoScore).zip [(0, 1), (0, 1), (0, 2)]) demoScore 0 = [(0, "C")] ∧
    specImportedTS .shift 0 6 (-1) ((noteKeys demoScore).zip [(0, 1), (0, 1), (0, 2)]) demoScore 0 = [(0, 4, 4)] := by
  decide +kernel

/-- non-vacuity of the sanitize case of `import_time_signature_cases`, through the whole pipeline: two parts in two
    tracks (mode 0), the second without any time signature — both imported parts get the 3/4 of the first; and the spec
    function says so from the score alone -/
def sanitizeDemo : List PartIn :=
  [⟨0, ⟨2, [], 0, 12, none, [(0, 3, 4)]⟩, [], [], [(0, 6), (6, 12)], [(0, 6, 60, some 1)]⟩,
   ⟨1, ⟨2, [], 0, 12, none, []⟩, [], [], [(0, 6), (6, 12)], [(0, 6, 62, some 1)]⟩]

example : ((saveScoreMidi 0 .shift 0 64 sanitizeDemo).bind fun ex =>
    (loadScoreMidi 0 ex.ppq (ex.tracks.map (deltasFrom 0))).map fun imp => imp.parts.map fun e => (e.1, e.2.timeSigs)) =
    some [(0, [(0, 3, 4)]), (1, [(0, 3, 4)])] := by decide +kernel

example : mapToTrackChannel 0 (noteKeys sanitizeDemo) = some [(0, 1), (1, 1)] ∧
    specImportedTS .shift 0 2 0 ((noteKeys sanitizeDemo).zip [(0, 1), (1, 1)]) sanitizeDemo 1 = [(0, 3, 4)] ∧
    specImportedTS .shift 0 2 0 ((noteKeys (sanitizeDemo.drop 1)).zip [(0, 1)]) (sanitizeDemo.drop 1) 0 = [(0, 4, 4)] := by
  decide +kernel


/-- non-vacuity on `demoScore`, mode 0 (one track per part): each imported part has the key signature and the time
    signature of its score part at tick 0 -/
example : ((saveScoreMidi 0 .shift 0 64 demoScore).bind fun ex =>
    (loadScoreMidi 0 ex.ppq (ex.tracks.map (deltasFrom 0))).map fun imp => imp.parts.map fun e => (e.1, e.2.keySigs)) =
    some [(0, [(0, "C")]), (1, [(0, "C")])] := by decide +kernel

example : ((saveScoreMidi 0 .shift 0 64 demoScore).bind fun ex =>
    (loadScoreMidi 0 ex.ppq (ex.tracks.map (deltasFrom 0))).map fun imp => imp.parts.map fun e => (e.1, e.2.timeSigs)) =
    some [(0, [(0, 4, 4)]), (1, [(0, 4, 4)])] := by decide +kernel

/-- mode 1 puts both parts into one track: the two equal key signatures of the track are one entry of the set -/
example : ((saveScoreMidi 1 .timeSigChange 0 64 demoScore).bind fun ex =>
    (loadScoreMidi 1 ex.ppq (ex.tracks.map (deltasFrom 0))).map fun imp => imp.parts.map fun e => (e.1, e.2.keySigs)) =
    some [(0, [(0, "C")]), (1, [(0, "C")])] := by decide +kernel

/-- `PartHasTrack` on `demoScore`: exported with mode 0 (pairs (0,1), (0,2), (1,1)) and imported with mode 0, part 1 owns
    a cell of track 1 and none of track 0 -/
example : PartHasTrack 0 [(0, 1), (0, 2), (1, 1)] 1 1 ∧ ¬ PartHasTrack 0 [(0, 1), (0, 2), (1, 1)] 1 0 := by
  unfold PartHasTrack
  constructor <;> decide +kernel

/-- the sanitize step and the assumed 4/4 (any file): a track with notes and no time signature next to one with a
    3/4 gives both parts the 3/4; a file without any time signature gives 4/4 -/
example : (loadScoreMidi 0 480 [[(0, .timeSig 3 4), (0, .noteOn 0 60 64), (10, .noteOff 0 60 0)],
      [(0, .noteOn 0 62 64), (10, .noteOff 0 62 0)]]).map (fun imp => imp.parts.map fun e => (e.1, e.2.timeSigs)) =
    some [(0, [(0, 3, 4)]), (1, [(0, 3, 4)])] := by decide +kernel

example : (loadScoreMidi 0 480 [[(0, .noteOn 0 60 64), (10, .noteOff 0 60 0)]]).map
    (fun imp => imp.parts.map fun e => (e.1, e.2.timeSigs)) = some [(0, [(0, 4, 4)])] := by decide +kernel

/-- **"Time signatures, key signatures … appear at the same musical positions", end to end** (`shift`,
    `time_sig_change`), from hypotheses about the user's input only (those of `property_C04`): both stages return and
    * the key signatures of every imported part are exactly the key signatures of the score parts that have a note in a
      track from which the import mode builds the part, at the written ticks of their positions;
    * under `shift`, when every sounding part has a time signature, the same for the time signatures;
    * under `time_sig_change`, every time signature that does not start an irregular measure comes back at the written
      tick of its position, and every imported time signature stands at the tick of a time signature or a measure
      boundary of the score.
    The written tick of a position is its exact image `ppq * (quarter - origin)` (`export_ticks_exact`). -/
theorem property_C04_signatures (mode imode : Nat) (a : Anacrusis) (minPpq vel : Nat) (parts : List PartIn)
    (hm : mode ≤ 5) (him : imode ≤ 5) (ha : a ≠ .padBar) (hvel : 0 < vel)
    (hw : ∀ x ∈ parts, C04T.WellFormed x.base) (hnote : ∃ x ∈ parts, x.notes ≠ [])
    (hts : a = .timeSigChange → ∀ x ∈ parts, ∀ m ∈ x.measures, (tsAt x.base m.1).isSome)
    (hdom : ScoreNoOverlap mode parts) :
    ∃ ex imp o tcs, saveScoreMidi mode a minPpq vel parts = some ex ∧
      loadScoreMidi imode ex.ppq (ex.tracks.map (deltasFrom 0)) = some imp ∧
      origin a (parts.map (·.base)) = some o ∧ mapToTrackChannel mode (noteKeys parts) = some tcs ∧
      (∀ x ∈ parts, ∀ t, ((tick ex.ppq x.base o t : Int) : Rat) = (ex.ppq : Rat) * (quarter x.base t - o)) ∧
      (∀ e ∈ imp.parts, ∀ t name, (t, name) ∈ e.2.keySigs ↔
        ∃ tr, PartHasTrack imode tcs e.1 tr ∧
          (t, Msg.keySig name) ∈ trackKS ex.ppq o ((noteKeys parts).zip tcs) parts tr) ∧
      (a = .shift → (∀ x ∈ parts, x.notes ≠ [] → x.base.ts ≠ []) →
        ∀ e ∈ imp.parts, ∀ t n d, (t, n, d) ∈ e.2.timeSigs ↔
          ∃ tr, PartHasTrack imode tcs e.1 tr ∧
            (t, Msg.timeSig n d) ∈ trackTS a ex.ppq o ((noteKeys parts).zip tcs) parts tr) ∧
      (a = .timeSigChange → ∀ e ∈ imp.parts,
        (∀ tr, PartHasTrack imode tcs e.1 tr → ∀ xi ∈ parts.zipIdx,
          (tracksOfPart ((noteKeys parts).zip tcs) xi.2).contains tr = true →
          ∀ ts ∈ xi.1.base.ts, ts.1 ∉ (xi.1.measures.filter (C04D.irregular xi.1.base)).map (·.1) →
            (tick ex.ppq xi.1.base o ts.1, (ts.2.1 : Int), (ts.2.2 : Int)) ∈ e.2.timeSigs) ∧
        (∀ k ∈ e.2.timeSigs, k = (0, 4, 4) ∨ ∃ xi ∈ parts.zipIdx,
          (∃ ts ∈ xi.1.base.ts, k.1 = tick ex.ppq xi.1.base o ts.1) ∨
           ∃ m ∈ xi.1.measures, k.1 = tick ex.ppq xi.1.base o m.1 ∨ k.1 = tick ex.ppq xi.1.base o m.2)) := by
  obtain ⟨ex, imp, _, _, h, hi, _⟩ := property_C04 mode imode a minPpq vel parts hm him ha hvel hw hnote hts hdom
  have hno := score_domain_gives_tick_domain mode a minPpq vel parts ex h ha hw hdom
  obtain ⟨o, tcs, W⟩ := C04E.Written.of h hvel hw hno
  refine ⟨ex, imp, o, tcs, h, hi, W.origin, W.table, (W.exact hw ha).2, fun e he => ?_, fun hsh hts' e he => ?_, ?_⟩
  · exact (W.here (import_key_signature_positions mode imode a minPpq vel parts ex imp h hi hvel hw hno) e he).2
  · exact (W.here (import_time_signature_positions mode imode a minPpq vel parts ex imp h hi (by rw [hsh]; decide) hvel
      hw hts' hno) e he).2
  · intro htsc
    subst htsc
    exact W.here (import_time_sig_change_positions mode imode minPpq vel parts ex imp h hi hvel hw hno)

/-- **The importer's options are at the defaults the model assumes** (Gen/C04Sig.lean is regenerated from the live
    signature of `load_score_midi` on every run): the default call does not quantize the ticks, does not estimate
    voices and does not replace the key signatures of the file by an estimated key — the three steps `loadScoreMidi`
    leaves out, so that the theorems about the imported key signatures speak of what a default import returns. -/
theorem import_options_default_off :
    Gen.C04Sig.extractionOk = true ∧ Gen.C04Sig.importQuantizes = false ∧
    Gen.C04Sig.importEstimatesVoices = false ∧ Gen.C04Sig.importEstimatesKey = false :=
  ⟨rfl, rfl, rfl, rfl⟩

/-- **The signatures of the re-imported score as functions of the score**, end to end (`shift`, `time_sig_change`;
    hypotheses of `property_C04`, about the user's input only): both stages return, the imported parts are numbered
    `importedPartIds`, the key signatures of every imported part are the list `specImportedKS` and, under `shift`, its
    time signatures are the list `specImportedTS` — whatever time signatures the score parts have or lack. -/
theorem property_C04_signatures_spec (mode imode : Nat) (a : Anacrusis) (minPpq vel : Nat) (parts : List PartIn)
    (hm : mode ≤ 5) (him : imode ≤ 5) (ha : a ≠ .padBar) (hvel : 0 < vel)
    (hw : ∀ x ∈ parts, C04T.WellFormed x.base) (hnote : ∃ x ∈ parts, x.notes ≠ [])
    (hts : a = .timeSigChange → ∀ x ∈ parts, ∀ m ∈ x.measures, (tsAt x.base m.1).isSome)
    (hdom : ScoreNoOverlap mode parts) :
    ∃ ex imp o tcs, saveScoreMidi mode a minPpq vel parts = some ex ∧
      loadScoreMidi imode ex.ppq (ex.tracks.map (deltasFrom 0)) = some imp ∧
      origin a (parts.map (·.base)) = some o ∧ mapToTrackChannel mode (noteKeys parts) = some tcs ∧
      imp.parts.map (fun e => some e.1) = importedPartIds imode tcs ∧
      (∀ e ∈ imp.parts, e.2.keySigs = specImportedKS imode ex.ppq o ((noteKeys parts).zip tcs) parts e.1) ∧
      (a = .shift → ∀ e ∈ imp.parts,
        e.2.timeSigs = specImportedTS a imode ex.ppq o ((noteKeys parts).zip tcs) parts e.1) := by
  obtain ⟨ex, imp, _, _, h, hi, _⟩ := property_C04 mode imode a minPpq vel parts hm him ha hvel hw hnote hts hdom
  have hno := score_domain_gives_tick_domain mode a minPpq vel parts ex h ha hw hdom
  obtain ⟨o, tcs, ho, htc, hids, hks, htss⟩ := import_signatures_spec mode imode a minPpq vel parts ex imp h hi hvel hw hno
  exact ⟨ex, imp, o, tcs, h, hi, ho, htc, hids, hks, fun hsh => htss (by rw [hsh]; decide)⟩

end C04
