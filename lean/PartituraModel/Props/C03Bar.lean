/-
C03 — `<barline>` (repeats, endings, barline fermatas), `<harmony>` and `<print>`: what the importer extracts from the
elements the exporter writes is what the objects denote, every object `do_barlines` is given ends up in exactly one
barline, and the importer's bookkeeping through `ongoing` recovers every repeat and ending with both its times.

  Model/XmlBar.lean   `doBarlines` / `writeBarline`, `readBarline`, `stepBar`, `handleRepeat`, `handleEnding`,
                      `writeHarmony` / `readHarmony`, `writePrint` / `readPrint`
tied to the code by harness/props/c03.py streams wbar / cbar / bars / wharm / rharm / charm / wprint / prints.
-/
import PartituraModel.Proofs.C03Bar
import PartituraModel.Proofs.C03BarOps

namespace C03
open Model Model.XmlNote Model.XmlBar

/-- **barline_roundtrip.**  For every `<barline>` the exporter can write — any location, any children in any number and
    order — the importer's reading is `canonBar`: the location, the direction of the FIRST `<repeat>`, type and number of
    the FIRST `<ending>`, whether there is a fermata; no bar style. -/
theorem barline_roundtrip (loc : Loc) (items : List BarItem) :
    readBarline (writeBarline loc items) = canonBar loc items := C03.Bar.bar_roundtrip loc items

/-- **barline_items_recovered.**  When a barline holds what one MusicXML `<barline>` can hold (at most one fermata, one
    ending, one repeat: `BarSimple`), the reading accounts for every child: the children it stands for are a permutation
    of the children written. -/
theorem barline_items_recovered (loc : Loc) (items : List BarItem) (h : BarSimple items) :
    (itemsOfRead (readBarline (writeBarline loc items))).Perm items := by
  obtain ⟨hf, hr, he⟩ := h
  rw [C03.Bar.bar_roundtrip, List.perm_iff_count]
  intro a
  rw [C03.Bar.count_itemsOfRead]
  have hrc := C03.Bar.count_short _ hr
  have hec := C03.Bar.count_short _ he
  cases a with
  | fermata =>
    rw [C03.Bar.count_fermata items]
    have hfany : (items.any BarItem.isFermata = true) ↔ 0 < (items.filter BarItem.isFermata).length := by
      simp [List.length_pos_iff, List.filter_eq_nil_iff]
    by_cases h0 : 0 < (items.filter BarItem.isFermata).length
    · have hany := hfany.mpr h0
      simp only [canonBar, hany, if_true]; omega
    · have hany : items.any BarItem.isFermata = false := by
        cases hc : items.any BarItem.isFermata with
        | false => rfl
        | true => exact absurd (hfany.mp hc) h0
      simp only [canonBar, hany, Bool.false_eq_true, if_false]; omega
  | repeatFwd =>
    rw [C03.Bar.count_filterMap BarItem.repDir C03.Bar.repDir_inj .repeatFwd .forward rfl items, hrc]
    rfl
  | repeatBwd =>
    rw [C03.Bar.count_filterMap BarItem.repDir C03.Bar.repDir_inj .repeatBwd .backward rfl items, hrc]
    rfl
  | endingStart m =>
    rw [C03.Bar.count_filterMap BarItem.ending C03.Bar.ending_inj (.endingStart m) (.start, some m) rfl items, hec]
    rfl
  | endingStop m =>
    rw [C03.Bar.count_filterMap BarItem.ending C03.Bar.ending_inj (.endingStop m) (.stop, some m) rfl items, hec]
    rfl

example : BarSimple [.fermata, .repeatBwd, .endingStop ['1']] := by decide +kernel

/-- the hypothesis is needed: a repeat that ends where the next one starts INSIDE a measure gives one barline with two
    `<repeat>` children, of which the importer reads the first (`e.find("repeat")`) -/
example : itemsOfRead (readBarline (writeBarline .middle [.repeatFwd, .repeatBwd])) = [.repeatFwd] := by decide +kernel

/-- **barlines_written.**  `do_barlines` for a segment `[start, stop]`, whatever fermatas, repeats and endings it is given:
    the barlines come in strictly increasing order of onset (one per onset), each carries the location that onset has in
    the segment and at least one child, and the children of all barlines, each with the onset of its barline, are a
    permutation of the appends to `by_onset` (`entries`): nothing is lost, duplicated or moved to another time.  Inside
    one barline the children keep the order of the five loops (`itemsAt` is a filter). -/
theorem barlines_written (start stop : Nat) (s : BarSrc) :
    ((barGroups start stop s).map (·.1)).Pairwise (· < ·) ∧
    (∀ g ∈ barGroups start stop s, g.2.1 = locOf start stop g.1 ∧ g.2.2 ≠ []) ∧
    ((barGroups start stop s).flatMap fun g => g.2.2.map fun i => (g.1, i)).Perm (entries s) := by
  rw [C03.BarOps.barGroups_eq]
  refine ⟨by rw [List.map_map]; exact C03.BarOps.groupsOf_keys _, fun g hg => ?_,
    by rw [List.flatMap_map]; exact C03.BarOps.groupsOf_cover _⟩
  obtain ⟨g0, hg0, rfl⟩ := List.mem_map.mp hg
  exact ⟨rfl, (C03.BarOps.groupsOf_items _ g0 hg0).2⟩

/-- a fermata at the start, a repeat over the whole segment, an ending that stops inside it -/
example : (barGroups 0 8 { fermIn := [(0, .left)], fermAfter := [], repeatStart := [0], endingStart := [],
                           repeatEnd := [8], endingEnd := [(4, ['1'])] }) =
    [(0, .left, [.fermata, .repeatFwd]), (4, .middle, [.endingStop ['1']]), (8, .right, [.repeatBwd])] := by decide +kernel

/-- **repeats_paired.**  Whatever calls of `_handle_repeat` and `_handle_ending` the barlines of a part cause (`ops`, in
    document order, at whatever positions): if the repeat calls are, in order, forward / backward for each repeat of the
    list `rs` — what a document gives whose repeats do not overlap — then, starting from a state without an open repeat, the
    importer ends with exactly these repeats, each with its own start and end, appended to those it had, and none open. -/
theorem repeats_paired (ops : List BarOp) (rs : List (Nat × Nat)) (st : BarState) (h0 : st.openRepeat = none)
    (h : ops.filterMap BarOp.rep? = C03.BarOps.repCalls rs) :
    (ops.foldl applyOp st).repeats = st.repeats ++ rs.map (fun r => ⟨some r.1, some r.2⟩) ∧
      (ops.foldl applyOp st).openRepeat = none := by
  have := C03.BarOps.foldl_repState ops st
  rw [h, h0, C03.BarOps.repCalls_fold] at this
  exact ⟨congrArg Prod.fst this, congrArg Prod.snd this⟩

/-- **endings_paired.**  The same for endings (one slot `ongoing[("ending", "0")]`): start / stop (or discontinue) calls
    in turn give back every ending with the number of its start element and both its times; the number on the stop
    element is not looked at. -/
theorem endings_paired (ops : List BarOp) (es : List (Option Str × Nat × Nat)) (ns : List (Option Str))
    (hlen : ns.length = es.length) (st : BarState) (h0 : st.openEnding = none)
    (h : ops.filterMap BarOp.end? = C03.BarOps.endCalls es ns) :
    (ops.foldl applyOp st).endings = st.endings ++ es.map (fun e => ⟨e.1, some e.2.1, some e.2.2⟩) ∧
      (ops.foldl applyOp st).openEnding = none := by
  have := C03.BarOps.foldl_endState ops st
  rw [h, h0, C03.BarOps.endCalls_fold es ns hlen] at this
  exact ⟨congrArg Prod.fst this, congrArg Prod.snd this⟩

/-- two repeats [0, 8] and [8, 16] with a first and second ending, as the barlines of three measures present them -/
example : ([BarOp.rep .forward 0, .ending .start (some ['1']) 4, .rep .backward 8, .ending .stop (some ['1']) 8,
            .rep .forward 8, .ending .start (some ['2']) 8, .ending .stop (some ['2']) 12, .rep .backward 16].filterMap BarOp.rep?) =
    C03.BarOps.repCalls [(0, 8), (8, 16)] := by decide +kernel

/-- the pairing needs the order: a repeat inside another one is closed by the first backward repeat, the outer one stays
    open (MusicXML has no nested repeats) -/
example : ([BarOp.rep .forward 0, .rep .forward 4, .rep .backward 8, .rep .backward 12].foldl applyOp BarState.init).repeats =
    [⟨some 0, none⟩, ⟨some 4, some 8⟩, ⟨none, some 12⟩] := by decide +kernel

/-- **barline_effect.**  One `<barline>` in a measure: the calls it causes are made at the end of the measure so far for
    location right (or none), at the start of the measure for left, at the current position otherwise; a fermata is put at
    the current position with the location as its reference (or, without location, kept for the end of the measure). -/
theorem barline_effect (mstart : Nat) (m : MState) (b : BarRead) :
    (stepBar mstart m (.barline b)).st.repeats = ((opsOf (barPos mstart m b.location) b).foldl applyOp m.st).repeats ∧
    (stepBar mstart m (.barline b)).st.endings = ((opsOf (barPos mstart m b.location) b).foldl applyOp m.st).endings ∧
    (stepBar mstart m (.barline b)).pos = m.pos ∧ (stepBar mstart m (.barline b)).maxt = m.maxt := by
  obtain ⟨loc, rep, ending, style, ferm⟩ := b
  cases style <;> cases ferm <;> cases loc <;> simp [stepBar]

/-- **harmony_roundtrip.**  For every roman numeral (a text that is not empty and has no `|`), chord symbol (any root that
    is not empty, with or without kind and bass) and cadence annotation the exporter writes, `_handle_harmony` (repaired:
    fixes/C03-18, C03-19) makes exactly the objects it was written for: the roman numeral with its text; the chord symbol
    with its root, its kind (a missing kind is the empty kind) and its bass; the cadence of the type
    `score.Cadence` derives from the text (the importer raises exactly when that constructor finds no letter) — and nothing
    else (no empty roman numeral beside a cadence). -/
theorem harmony_roundtrip (w : HarmW) (h : WellFormedHarm w) : readHarmony (writeHarmony w) = canonHarmony w :=
  C03.BarOps.harmony_roundtrip w h

example : WellFormedHarm (.chord ['C'] (some ['m', 'a', 'j', '7']) (some ['E'])) := by decide
example : readHarmony (writeHarmony (.chord ['C'] (some ['m', 'a', 'j', '7']) (some ['E']))) =
    some [.chord ['C'] (some ['m', 'a', 'j', '7']) (some ['E'])] := by decide
example : readHarmony (writeHarmony (.cadence ['P', 'A', 'C'])) = some [.cadence (some ['P', 'A', 'C'])] := by decide
/-- a roman numeral text with a bar is read as numeral plus cadence: the hypothesis is needed -/
example : readHarmony (writeHarmony (.roman ['V', '|', 'H', 'C'])) = some [.cadence (some ['H', 'C']), .roman ['V']] := by
  decide +kernel

/-- **print_roundtrip.**  `new-page` / `new-system` are read as written. -/
theorem print_roundtrip (p s : Bool) : readPrint (writePrint p s) = (p, s) := C03.BarOps.print_roundtrip p s

end C03
