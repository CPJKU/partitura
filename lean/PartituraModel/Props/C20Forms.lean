/-
C20 — every argument FORM.  The read-only entry points take a ScoreLike / PerformanceLike argument and begin by
normalising it (Model/ArgForms.lean mirrors that glue): the normalisations reach the same parts whatever the form,
`transpose` (over a heap of note cells) writes only into its deep copy, `save_performance_midi` reads the caller's
parts as they are.
-/
import PartituraModel.Proofs.C20Heap

namespace C20Forms
open Model.ArgForms C20Heap

theorem iter_flat_list (ps : List Nat) : iterNodes (ps.map Node.part) = ps := by
  simp [iterNodes_eq_flatMap, List.flatMap_map, iterNode]

/-- **grouping is transparent**: putting consecutive elements of a part list into a group (at any depth — the
    statement applies to the children of every group) does not change which parts are visited, nor their order -/
theorem group_transparent (xs ys zs : List Node) :
    iterNodes (xs ++ Node.group ys :: zs) = iterNodes (xs ++ ys ++ zs) := by
  simp [iterNodes_eq_flatMap, iterNode, List.flatMap_append]

/-- `Score(x)`: the flat list of the new score is the walk of its part structure, and it is the walk of `x` -/
theorem score_ctor_consistent (a : ScoreArg) (ps : List Nat) (st : List Node) (h : scoreCtor a = some (ps, st)) :
    iterNodes st = ps ∧ ps = flat a := by
  cases a with
  | score _ _ => cases h
  | node n => cases h; exact ⟨iterNodes_singleton n, rfl⟩
  | seq b xs => rw [scoreCtor, iterParts_seq] at h; cases h; exact ⟨rfl, rfl⟩

/-- **every exporter sees the same parts, whatever the form**: for every score-like argument `save_musicxml` and
    `save_score_midi` visit exactly `flat a` (a Score's own list; otherwise the depth-first walk), and when
    `ensure_notearray` accepts the argument the parts it hands on walk to the same list -/
theorem exporters_agree (a : ScoreArg) :
    (xmlScore a).map (·.1) = some (flat a) ∧ midiParts a = flat a ∧
    (∀ ns, notearrayParts a = some ns → iterNodes ns = flat a) := by
  cases a with
  | score ps st => exact ⟨rfl, iter_flat_list ps, fun ns h => by cases h; exact iter_flat_list ps⟩
  | node n =>
    refine ⟨rfl, iterNodes_singleton n, fun ns h => ?_⟩
    cases n with
    | part p => cases h; exact iterNodes_singleton _
    | group cs => cases h; rfl
  | seq b xs =>
    refine ⟨?_, rfl, fun ns h => ?_⟩
    · show (scoreCtor (ScoreArg.seq b xs)).map (·.1) = _
      rw [scoreCtor, iterParts_seq]; rfl
    cases b with
    | true =>
      simp only [notearrayParts] at h
      split at h
      · cases h; rfl
      · cases h
    | false => cases h

/-- `iter_parts` itself agrees with them on everything except a Score object, which it rejects (the
    `elif isinstance(partlist, Score)` branch cannot be reached) -/
theorem iter_parts_forms (a : ScoreArg) :
    (∀ ps st, a = ScoreArg.score ps st → iterParts a = none) ∧
    ((∀ ps st, a ≠ ScoreArg.score ps st) → iterParts a = some (flat a)) := by
  cases a with
  | score ps st => exact ⟨fun _ _ _ => rfl, fun h => absurd rfl (h ps st)⟩
  | node n => exact ⟨fun _ _ h => (by cases h), fun _ => rfl⟩
  | seq b xs => exact ⟨fun _ _ h => (by cases h), fun _ => iterParts_seq b xs⟩

/-- the argument is VALID when every note address it holds is a cell of the heap -/
def Valid {α : Type} (cells : List α) (a : TArg) : Prop := ∀ p ∈ a.parts, ∀ x ∈ p, x < cells.length

/-- the note transformation in force for a form: Score and Part arguments are transposed, a PartGroup or a list /
    tuple comes back as an untransposed copy (`parts = []`) -/
def effect {α : Type} (f : α → α) : TArg → α → α
  | .score _ => f
  | .part _ => f
  | _ => id

/-- the branch table on the copy: all copied parts are rewritten (Score / Part) or none is (other forms) -/
theorem targets_deepcopy {α : Type} (f : α → α) (cells : List α) (a : TArg) :
    (targets (deepcopy cells a).2 = (copyParts cells a.parts).2 ∧ effect f a = f) ∨
    (targets (deepcopy cells a).2 = [] ∧ effect f a = id) := by
  cases a with
  | score ps => exact Or.inl ⟨rfl, rfl⟩
  | part p => exact Or.inl ⟨rfl, rfl⟩
  | group ps => exact Or.inr ⟨rfl, rfl⟩
  | seq ps => exact Or.inr ⟨rfl, rfl⟩

/-- **`transpose` leaves its argument exactly as it was** — for EVERY form of the argument, every heap (well formed or
    not) and every note transformation: each cell that existed before the call holds what it held. -/
theorem transpose_frame {α : Type} (f : α → α) (cells : List α) (a : TArg) (i : Nat) (hi : i < cells.length) :
    (transpose f cells a).1[i]? = cells[i]? := by
  simp only [transpose]
  rw [writeParts_flatten]
  have hfresh : ∀ x ∈ (targets (deepcopy cells a).2).flatten, cells.length ≤ x := by
    intro x hx
    obtain ⟨q, hq, hxq⟩ := List.mem_flatten.mp hx
    rcases targets_deepcopy f cells a with ⟨ht, _⟩ | ⟨ht, _⟩ <;> rw [ht] at hq
    · exact copyParts_fresh a.parts cells q hq x hxq
    · cases hq
  rw [writePart_not_mem f _ _ i (fun hm => Nat.not_le.mpr hi (hfresh i hm))]
  obtain ⟨ext, hext⟩ := copyParts_extends a.parts cells
  simp only [deepcopy]
  rw [hext]
  exact getElem?_append_ext cells ext i hi

/-- **what `transpose` returns**: a new object of the same form whose parts hold, note by note, the transformed
    contents of the argument's parts (Score / Part) or an exact copy of them (PartGroup / list) -/
theorem transpose_result {α : Type} (f : α → α) (cells : List α) (a : TArg) (hv : Valid cells a) :
    contents (transpose f cells a).1 (transpose f cells a).2
      = (contents cells a).map (fun p => p.map (Option.map (effect f a))) := by
  have hparts : (deepcopy cells a).2.parts = (copyParts cells a.parts).2 :=
    withParts_parts a _ (copyParts_snd_length a.parts cells)
  obtain ⟨haddr, hlen⟩ := copyParts_addresses a.parts cells hv
  have hcont := copyParts_contents cells a.parts hv []
  simp only [List.append_nil] at hcont
  simp only [contents, transpose]
  rw [hparts, writeParts_flatten, ← hcont, List.map_map]
  apply List.map_congr_left
  intro q hq
  simp only [Function.comp, List.map_map]
  apply List.map_congr_left
  intro x hx
  simp only [Function.comp]
  rcases targets_deepcopy f cells a with ⟨ht, he⟩ | ⟨ht, he⟩ <;> rw [ht, he]
  · -- the copies sit at pairwise different (consecutive) addresses: each is rewritten once
    rw [writePart_get f _ (haddr ▸ List.nodup_range'), if_pos (List.mem_flatten.mpr ⟨q, hq, hx⟩)]
    rfl
  · exact Option.map_id'.symm

/-- **`transpose` is repeatable**: a second call on the same (valid) argument, in the heap the first call left,
    returns an object with exactly the contents of the first result -/
theorem transpose_repeatable {α : Type} (f : α → α) (cells : List α) (a : TArg) (hv : Valid cells a) :
    let r1 := transpose f cells a
    let r2 := transpose f r1.1 a
    contents r2.1 r2.2 = contents r1.1 r1.2 := by
  intro r1 r2
  have hgrow := transpose_heap_grows f cells a
  have hv1 : Valid r1.1 a := fun p hp x hx => Nat.lt_of_lt_of_le (hv p hp x hx) hgrow
  have e2 := transpose_result f r1.1 a hv1
  have e1 := transpose_result f cells a hv
  -- the argument reads the same in both heaps (frame)
  have hsame : contents r1.1 a = contents cells a := by
    simp only [contents]
    apply List.map_congr_left
    intro p hp
    apply List.map_congr_left
    intro x hx
    exact transpose_frame f cells a x (hv p hp x hx)
  show contents (transpose f r1.1 a).1 (transpose f r1.1 a).2 = contents (transpose f cells a).1 (transpose f cells a).2
  rw [e2, e1, hsame]

/-- non-vacuity: a valid two-part score over a three-cell heap; and the concrete run — the copy is transposed, the
    argument is not -/
example : Valid [60, 62, 64] (TArg.score [[0, 1], [2]]) := by
  intro p hp x hx
  simp only [TArg.parts, List.mem_cons, List.not_mem_nil, or_false] at hp
  show x < 3
  rcases hp with rfl | rfl <;> simp at hx <;> omega

example :
    transpose (fun (x : Int) => x + 2) [60, 62, 64] (TArg.score [[0, 1], [2]])
      = ([60, 62, 64, 62, 64, 66], TArg.score [[3, 4], [5]]) := by decide +kernel

/-- a PartGroup argument: an untransposed copy comes back (the code as it is) and the argument is untouched … -/
example :
    transpose (fun (x : Int) => x + 2) [60, 62] (TArg.group [[0], [1]])
      = ([60, 62, 60, 62], TArg.group [[2], [3]]) := by decide +kernel

/-- … whereas the seeded variant C20-j (`parts = list(iter_parts(score))`: the ARGUMENT is walked) rewrites the
    caller's notes, returns the untransposed copy, and a second call returns something else -/
example :
    transposeWalkArg (fun (x : Int) => x + 2) [60, 62] (TArg.group [[0], [1]])
      = ([62, 64, 60, 62], TArg.group [[2], [3]]) := by decide +kernel

/-- **the MIDI exporter reads the caller's performed parts as they are**: for every PerformanceLike form that is
    accepted, the parts iterated are the argument's own parts with their `track` entries untouched — a Performance's
    list, the single part, the list itself — and nothing is renumbered -/
theorem perf_export_reads (a : PerfArg) (pps : List PPart) (h : perfParts a = some pps) :
    (∀ l, a = PerfArg.performance l → pps = l) ∧ (∀ pp, a = PerfArg.ppart pp → pps = [pp]) ∧
    (∀ l, a = PerfArg.seq l → pps = l) := by
  cases a with
  | performance l => cases h; exact ⟨fun _ e => (by cases e; rfl), fun _ e => (nomatch e), fun _ e => (nomatch e)⟩
  | ppart pp => cases h; exact ⟨fun _ e => (nomatch e), fun _ e => (by cases e; rfl), fun _ e => (nomatch e)⟩
  | seq l => cases h; exact ⟨fun _ e => (nomatch e), fun _ e => (nomatch e), fun _ e => (by cases e; rfl)⟩
  | bad => cases h
  | other => cases h

/-- what is not a Performance, a PerformedPart or an iterable of PerformedParts is rejected -/
theorem perf_export_rejects : perfParts PerfArg.bad = none ∧ perfParts PerfArg.other = none := ⟨rfl, rfl⟩

/-- the seeded variant C20-i: the part taken out of a two-part performance (its notes and its pedal on track 1)
    goes through `Performance(…)` and comes back on track 0 — the caller's dictionaries were rewritten; the real
    dispatch hands the same part over untouched -/
example :
    let pp : PPart := { notes := [some 1, some 1], controls := [some 1], programs := [], metas := [] }
    perfPartsWrap (PerfArg.ppart pp)
        = some [{ notes := [some 0, some 0], controls := [some 0], programs := [], metas := [] }] ∧
    perfParts (PerfArg.ppart pp) = some [pp] := by decide +kernel

/-- … and a part whose controls carry no `track` key: the missing key counts as −1, the notes move to track 1 and
    the controls GET a key -/
example :
    let pp : PPart := { notes := [some 0], controls := [none], programs := [], metas := [none] }
    perfPartsWrap (PerfArg.ppart pp)
        = some [{ notes := [some 1], controls := [some 0], programs := [], metas := [some 0] }] := by decide +kernel

end C20Forms
