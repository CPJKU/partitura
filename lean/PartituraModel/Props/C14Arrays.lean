/-
C14 — note arrays and their inverse over column subsets, the performance note array, the sorted track
numbering, and the numpy primitives the pedal adjustment relies on (reduced to their documented contracts).
-/
import PartituraModel.Proofs.C14Arrays
import PartituraModel.Proofs.C14Box
import PartituraModel.Props.C14Dict

namespace C14
open Model Model.Pedal C14P

/-! ### numpy primitives: contract ⇒ the list model -/

/-- `np.searchsorted(a, x)` is documented to return an index `i` with `a[:i] < x ≤ a[i:]`; whatever algorithm
    finds it, that index is the model's `searchsortedLeft a x` (number of leading elements `< x`) -/
theorem searchsorted_unique (a : List Rat) (x : Rat) (i : Nat) (h : IsSearchLeft a x i) : searchsortedLeft a x = i :=
  C14P.searchsorted_unique a x i h

/-- on an ascending array the model's value does meet the contract (so the contract is satisfiable there, and the
    two arrays the code searches are ascending: `searched_arrays_sorted`) -/
theorem searchsorted_meets_contract (a : List Rat) (x : Rat) (hs : a.Pairwise (fun u v => u ≤ v)) :
    IsSearchLeft a x (searchsortedLeft a x) := by
  induction a with
  | nil => exact ⟨le_refl _, fun j t hj => absurd hj (Nat.not_lt_zero j), fun j t _ h => by cases h⟩
  | cons t rest ih =>
    have hp := List.pairwise_cons.mp hs
    obtain ⟨h1, h2, h3⟩ := ih hp.2
    rw [searchsortedLeft_cons]
    by_cases hx : t < x
    · rw [if_pos hx]
      refine ⟨Nat.succ_le_succ h1, fun j u hj hu => ?_, fun j u hj hu => ?_⟩
      · cases j with
        | zero => exact Option.some.inj hu ▸ hx
        | succ k => exact h2 k u (Nat.lt_of_succ_lt_succ hj) hu
      · cases j with
        | zero => exact absurd hj (Nat.not_succ_le_zero _)
        | succ k => exact h3 k u (Nat.le_of_succ_le_succ hj) hu
    · rw [if_neg hx]
      refine ⟨Nat.zero_le _, fun j u hj => absurd hj (Nat.not_lt_zero j), fun j u _ hu => ?_⟩
      exact le_trans (not_lt.mp hx) (Lists.pairwise_getElem?_of_le le_refl hs (Nat.zero_le j) rfl hu)

/-- numpy's binary search (`npy_binsearch`, side left) returns that index on every ascending array -/
theorem np_binsearch_correct (a : List Rat) (x : Rat) (hs : a.Pairwise (fun u v => u ≤ v)) :
    npSearchsorted a x = searchsortedLeft a x := by
  symm
  apply C14P.searchsorted_unique
  unfold npSearchsorted
  exact binSearch_spec a x hs (a.length + 1) 0 a.length (by omega) (by omega)
    (fun j u hj => absurd hj (Nat.not_lt_zero j))
    (fun j u hj hu => by
      have := (List.getElem?_eq_some_iff.mp hu).1
      omega)

example : npSearchsorted [0, 1, 1, 1, 2, 5] 1 = 1 ∧ npSearchsorted [0, 1, 1, 1, 2, 5] (3/2) = 4
    ∧ npSearchsorted [0, 1, 1, 1, 2, 5] 9 = 6 ∧ npSearchsorted [] 9 = 0 := by decide +kernel
example : IsSearchLeft [0, 1, 1, 2] 1 1 :=
  searchsorted_meets_contract [0, 1, 1, 2] 1 (by decide +kernel)

/-- `a[np.argsort(key(a), kind="stable")]` is documented to be a stable sort; every list meeting that contract is
    the model's insertion sort `sortBy key l` -/
theorem stable_sort_unique {α : Type} (key : α → Rat) (l s : List α) (h : IsStableSort key l s) : s = sortBy key l := by
  apply Lists.pairwise_key_ext le_antisymm key h.1 (sorted_sortBy key l)
  intro t
  rw [h.2 t, stable_sortBy key t l]

/-- … and the model's sort meets the contract -/
theorem sortBy_is_stable_sort {α : Type} (key : α → Rat) (l : List α) : IsStableSort key l (sortBy key l) :=
  ⟨sorted_sortBy key l, fun t => stable_sortBy key t l⟩

example : IsStableSort (fun p : Rat × Nat => p.1) [(1, 0), (0, 1), (1, 2), (0, 3)] [(0, 1), (0, 3), (1, 0), (1, 2)] := by
  have h := sortBy_is_stable_sort (fun p : Rat × Nat => p.1) [(1, 0), (0, 1), (1, 2), (0, 3)]
  rwa [show sortBy (fun p : Rat × Nat => p.1) [(1, 0), (0, 1), (1, 2), (0, 3)] = [(0, 1), (0, 3), (1, 0), (1, 2)] from by
    decide +kernel] at h

/-- what `from_note_array` needs of a note to take it back: MIDI ranges of what `note_array` reports as pitch and
    velocity, a non-negative onset not after the sounding end -/
def Rebuildable (n : PNote) : Prop :=
  0 ≤ n.midiPitch ∧ n.midiPitch ≤ 127 ∧ 0 ≤ n.vel ∧ n.vel ≤ 127 ∧ 0 ≤ n.on ∧ n.on ≤ n.soundOff

/-- every note of a part built from dictionaries with consistent pitch keys is such a note -/
theorem built_rebuildable (rs : List RawNote) (cs : List Control) (thr : Int) (p : PPart)
    (hk : ∀ r ∈ rs, ∀ a b, r.pitch = some a → r.midiPitch = some b → a = b)
    (hp : buildRaw rs cs thr = some p) : ∀ n ∈ p.notes, Rebuildable n := by
  obtain ⟨ns, hns, rfl⟩ := (buildRaw_eq_some rs cs thr p).mp hp
  intro x hx
  obtain ⟨n, hn, rfl⟩ := List.mem_map.mp hx
  obtain ⟨r, hr, hrn⟩ := mapM'_mem hns n hn
  -- the constructor accepted the note as read; the sounding end is not before the release
  obtain ⟨v1, v2, v3, v4, v5, v6⟩ := (valid_note_iff _).mp (init_valid r n hrn (hk r hr)).2
  exact ⟨v1, v2, v5, v6, v3, le_trans v4 (resound_ge _ _ _ n hn)⟩

/-- an array without `onset_sec`/`duration_sec` or without `velocity` is rejected as soon as it has a row (the
    docstring lists them as mandatory; tick columns are never looked at); an empty array gives an empty part -/
theorem from_array_mandatory (f : ArrFields) (rows : List ARow) :
    (rows ≠ [] → (f.sec = false ∨ f.vel = false) → fromArray f rows = none)
    ∧ fromArray f [] = some ⟨[], [], Gen.C14.defaultThreshold⟩ := by
  constructor
  · intro hne hf
    unfold fromArray
    have : rows.isEmpty = false := by
      cases rows with
      | nil => exact absurd rfl hne
      | cons _ _ => rfl
    rw [this]
    rcases hf with h | h <;> simp [h]
  · rfl

/-- with the mandatory columns, whatever other columns the array has: the part rebuilt from `pp.note_array()`
    restricted to those columns has, note by note, the pitch `note_array` reported (under both keys), the velocity,
    the onset and — as release and as sounding end — the sounding end of the original; tracks and channels are the
    original ones when their column is there and 0 / 1 otherwise; ids are `n0, n1, …` unless the array has an id
    column with at least two different ids; no controls, the default threshold (the defaults are regenerated) -/
theorem from_array_roundtrip (f : ArrFields) (hf : f.sec = true ∧ f.vel = true) (mpq ppq : Nat) (p : PPart)
    (hp : ∀ n ∈ p.notes, Rebuildable n) :
    ∃ q, fromArray f (partRows mpq ppq p) = some q
      ∧ q.notes.map (fun n => (n.pitch, n.midiPitch, n.vel, n.on, n.off, n.soundOff))
          = p.notes.map (fun n => (n.midiPitch, n.midiPitch, n.vel, n.on, n.soundOff, n.soundOff))
      ∧ q.notes.map (·.track) = p.notes.map (fun n => if f.track then n.track else Gen.C14.fromArrayTrackDefault)
      ∧ q.notes.map (·.chan) = p.notes.map (fun n => if f.chan then n.chan else Gen.C14.fromArrayChanDefault)
      ∧ q.notes.map (·.id) = (arrayIds f (partRows mpq ppq p)).map some
      ∧ (∀ n ∈ q.notes, n.onTick = none ∧ n.offTick = none)
      ∧ q.controls = [] ∧ q.thr = Gen.C14.defaultThreshold := by
  have hrows : ∀ r ∈ partRows mpq ppq p, (0 ≤ r.row.pitch ∧ r.row.pitch ≤ 127) ∧ (0 ≤ r.row.vel ∧ r.row.vel ≤ 127)
      ∧ 0 ≤ r.row.onsetSec ∧ 0 ≤ r.row.durSec := by
    intro r hr
    obtain ⟨n, hn, rfl⟩ := List.mem_map.mp hr
    obtain ⟨a1, a2, a3, a4, a5, a6⟩ := hp n hn
    exact ⟨⟨a1, a2⟩, ⟨a3, a4⟩, a5, (sub_nonneg.mpr a6 : 0 ≤ n.soundOff - n.on)⟩
  have hlen := arrayIds_length f (partRows mpq ppq p)
  -- a field of the rebuilt notes that does not depend on the id is a function of the original notes
  have key : ∀ {γ : Type} (h : PNote → γ) (h' : Row → γ), (∀ id r, h (rebuilt f id r) = h' r) →
      (((arrayIds f (partRows mpq ppq p)).zip (partRows mpq ppq p)).map (fun ir => rebuilt f ir.1 ir.2.row)).map h
        = p.notes.map (fun n => h' (noteRow mpq ppq n.toNote n.soundOff)) := by
    intro γ h h' hh
    rw [List.map_map,
      show (h ∘ fun ir : String × ARow => rebuilt f ir.1 ir.2.row) = (fun r : ARow => h' r.row) ∘ Prod.snd from
        funext (fun ir => hh _ _),
      ← List.map_map, List.map_snd_zip (Nat.le_of_eq hlen.symm), partRows, List.map_map]
    rfl
  refine ⟨_, fromArray_eq f hf _ hrows, ?_, ?_, ?_, ?_, ?_, rfl, rfl⟩
  · refine (key _ (fun r => (r.pitch, r.pitch, r.vel, r.onsetSec, r.onsetSec + r.durSec, r.onsetSec + r.durSec))
      (fun _ _ => rfl)).trans (List.map_congr_left (fun n _ => ?_))
    simp only [noteRow, PNote.toNote, add_sub_cancel]
  · exact key _ (fun r => if f.track then r.track else Gen.C14.fromArrayTrackDefault) (fun _ _ => rfl)
  · exact key _ (fun r => if f.chan then r.chan else Gen.C14.fromArrayChanDefault) (fun _ _ => rfl)
  · rw [List.map_map, show ((fun n : PNote => n.id) ∘ fun ir : String × ARow => rebuilt f ir.1 ir.2.row) = some ∘ Prod.fst from rfl,
      ← List.map_map, List.map_fst_zip (Nat.le_of_eq hlen)]
  · intro n hn
    obtain ⟨ir, _, rfl⟩ := List.mem_map.mp hn
    exact ⟨rfl, rfl⟩

/-- the rebuilt part has the default ppq / mpq of `PerformedPart.__init__` (regenerated from the source), and its own note array agrees with the original's
    seconds, pitch and velocity columns (the ticks are the tick images under the defaults: `rows_consistent`) -/
theorem from_array_rows (f : ArrFields) (hf : f.sec = true ∧ f.vel = true) (mpq ppq : Nat) (p q : PPart)
    (hp : ∀ n ∈ p.notes, Rebuildable n) (hq : fromArray f (partRows mpq ppq p) = some q) :
    (partRows defaultMpq defaultPpq q).map (fun r => (r.row.onsetSec, r.row.durSec, r.row.pitch, r.row.vel))
      = (partRows mpq ppq p).map (fun r => (r.row.onsetSec, r.row.durSec, r.row.pitch, r.row.vel))
    ∧ (partRows defaultMpq defaultPpq q).map (fun r => r.row.onsetTick)
      = p.notes.map (fun n => secToTick n.on defaultMpq defaultPpq) := by
  obtain ⟨q', hq', h1, _, _, _, hticks, _, _⟩ := from_array_roundtrip f hf mpq ppq p hp
  rw [hq] at hq'
  have := Option.some.inj hq'
  subst this
  have hA : q.notes.map (fun n => (n.on, n.soundOff - n.on, n.midiPitch, n.vel))
      = p.notes.map (fun n => (n.on, n.soundOff - n.on, n.midiPitch, n.vel)) :=
    map_proj h1 (fun x => (x.2.2.2.1, x.2.2.2.2.2 - x.2.2.2.1, x.2.1, x.2.2.1))
  have hB : q.notes.map (fun n => secToTick n.on defaultMpq defaultPpq)
      = p.notes.map (fun n => secToTick n.on defaultMpq defaultPpq) :=
    map_proj hA (fun x => secToTick x.1 defaultMpq defaultPpq)
  constructor
  · rw [partRows, partRows, List.map_map, List.map_map]
    exact hA
  · rw [← hB, partRows, List.map_map]
    apply List.map_congr_left
    intro n hn
    simp only [Function.comp, noteRow, PNote.toNote, (hticks n hn).1, Option.getD_none]

-- both ids equal -> `n0, n1`; no track column -> the default; channel column kept; the rebuilt part's ticks are under the
-- default ppq / mpq (all regenerated from the source);
-- an array without the seconds columns is rejected
example : ((buildRaw [⟨some "a", some 60, none, some 0, some 2, none, none, some 3, some 5, none, none⟩,
                      ⟨some "a", none, some 60, some 3, some 4, none, some 64, none, none, none, none⟩]
    [⟨64, 1/2, 100, none⟩, ⟨64, 5, 0, none⟩] 64).bind (fun p => fromArray ⟨true, true, true, false, true⟩ (partRows 250000 96 p))).map
      (fun q => (q.notes, (partRows defaultMpq defaultPpq q).map (fun r => (r.id, r.row.onsetTick, r.row.durTick))))
    = some ([⟨some (Gen.C14.fromArrayIdHead ++ "0"), 60, 60, 0, 3, 3, Gen.C14.velDefault, Gen.C14.fromArrayTrackDefault, 5, none, none⟩,
             ⟨some (Gen.C14.fromArrayIdHead ++ "1"), 60, 60, 3, 5, 5, 64, Gen.C14.fromArrayTrackDefault, Gen.C14.chanDefault, none, none⟩],
            [(Gen.C14.fromArrayIdHead ++ "0", 0, secToTick 3 defaultMpq defaultPpq),
             (Gen.C14.fromArrayIdHead ++ "1", secToTick 3 defaultMpq defaultPpq,
              secToTick 5 defaultMpq defaultPpq - secToTick 3 defaultMpq defaultPpq)]) := by
  decide +kernel
example : (buildRaw [⟨some "a", some 60, none, some 0, some 2, none, none, some 3, some 5, none, none⟩] [] 64).bind
    (fun p => fromArray ⟨false, true, true, true, true⟩ (partRows 250000 96 p)) = none := by decide +kernel
example : Rebuildable ⟨some "a", 60, 60, 0, 2, 3, 60, 3, 5, none, none⟩ := by
  unfold Rebuildable; decide +kernel

/-! ### `Performance.note_array()` -/

/-- the order of the performance note array: by onset, rows of equal onset by pitch -/
def RowLe (a b : ARow) : Prop :=
  a.row.onsetSec < b.row.onsetSec ∨ (a.row.onsetSec = b.row.onsetSec ∧ a.row.pitch ≤ b.row.pitch)

/-- whatever arrangement `S` the (unstable) sort by pitch leaves — any rearrangement of the concatenated rows in
    ascending pitch order — the stable sort by onset that follows gives a rearrangement of the concatenated rows
    ordered by onset and, within one onset, by pitch -/
theorem perf_rows_any_pitch_sort (uid : Bool) (parts : List (List ARow)) (S : List ARow)
    (hp : S.Perm (perfConcat uid parts))
    (hS : S.Pairwise (fun a b => a.row.pitch ≤ b.row.pitch)) :
    (sortBy (fun r : ARow => r.row.onsetSec) S).Perm (perfConcat uid parts)
    ∧ (sortBy (fun r : ARow => r.row.onsetSec) S).Pairwise RowLe := by
  refine ⟨((isSort _).perm S).trans hp, ?_⟩
  -- a stable sort keeps the pitch order among the rows of one onset
  exact (isSort (fun r : ARow => r.row.onsetSec)).pairwise_key_stable hS

/-- `Performance.note_array()` of at least one part: all the rows of all the parts (each exactly once), ordered by
    onset and then pitch; without parts it raises -/
theorem perf_rows_spec (uid : Bool) (parts : List (List ARow)) :
    (parts ≠ [] → ∃ R, perfRows uid parts = some R ∧ R.Perm (perfConcat uid parts) ∧ R.Pairwise RowLe)
    ∧ perfRows uid [] = none := by
  refine ⟨?_, rfl⟩
  intro hne
  obtain ⟨p, ps, rfl⟩ := List.exists_cons_of_ne_nil hne
  refine ⟨_, perfRows_cons uid p ps, ?_⟩
  apply perf_rows_any_pitch_sort uid (p :: ps) _ ((isSort _).perm _)
  have := sorted_sortBy (fun r : ARow => (r.row.pitch : Rat)) (perfConcat uid (p :: ps))
  exact this.imp (fun {a b} h => by
    have h' : ((a.row.pitch : Int) : Rat) ≤ ((b.row.pitch : Int) : Rat) := h
    exact_mod_cast h')

/-- every row of the concatenation is a row of one part's `note_array()` — the same numbers; the id is prefixed
    with the part number when there are several parts (and `unique_id_per_part` is left on) — so `rows_consistent` holds for the performance array -/
theorem perf_rows_are_part_rows (uid : Bool) (parts : List (List ARow)) (x : ARow) (hx : x ∈ perfConcat uid parts) :
    ∃ i rows r, parts[i]? = some rows ∧ r ∈ rows ∧ x.row = r.row
      ∧ x.id = if uid = true ∧ parts.length > 1 then Gen.C14.idPrefixHead ++ pad2 i ++ Gen.C14.idPrefixTail ++ r.id else r.id := by
  unfold perfConcat at hx
  obtain ⟨pr, hpr, hxin⟩ := List.mem_flatMap.mp hx
  have hget : parts[pr.2]? = some pr.1 := List.mem_zipIdx_iff_getElem?.mp hpr
  unfold prefixIds at hxin
  by_cases hl : uid = true ∧ parts.length > 1
  · have hc : (uid && decide (parts.length > 1)) = true := by simp [hl.1, hl.2]
    rw [if_pos hc] at hxin
    obtain ⟨r, hr, rfl⟩ := List.mem_map.mp hxin
    exact ⟨pr.2, pr.1, r, hget, hr, rfl, by rw [if_pos hl]⟩
  · have hc : ¬ (uid && decide (parts.length > 1)) = true := by
      simp only [Bool.and_eq_true, decide_eq_true_eq]; exact hl
    rw [if_neg hc] at hxin
    exact ⟨pr.2, pr.1, x, hget, hxin, rfl, by rw [if_neg hl]⟩

example : perfRows true [[⟨"n0", ⟨1, 1, 960, 960, 62, 64, 0, 1⟩⟩, ⟨"n1", ⟨0, 1, 0, 960, 60, 64, 0, 1⟩⟩],
                    [⟨"n0", ⟨1, 2, 960, 1920, 60, 70, 1, 1⟩⟩]]
    = some [⟨Gen.C14.idPrefixHead ++ pad2 0 ++ Gen.C14.idPrefixTail ++ "n1", ⟨0, 1, 0, 960, 60, 64, 0, 1⟩⟩,
            ⟨Gen.C14.idPrefixHead ++ pad2 1 ++ Gen.C14.idPrefixTail ++ "n0", ⟨1, 2, 960, 1920, 60, 70, 1, 1⟩⟩,
            ⟨Gen.C14.idPrefixHead ++ pad2 0 ++ Gen.C14.idPrefixTail ++ "n0", ⟨1, 1, 960, 960, 62, 64, 0, 1⟩⟩] := by decide +kernel

example : perfRows false [[⟨"n0", ⟨1, 1, 960, 960, 62, 64, 0, 1⟩⟩], [⟨"n0", ⟨1, 2, 960, 1920, 60, 70, 1, 1⟩⟩]]
    = some [⟨"n0", ⟨1, 2, 960, 1920, 60, 70, 1, 1⟩⟩, ⟨"n0", ⟨1, 1, 960, 960, 62, 64, 0, 1⟩⟩] := by decide +kernel

/-- the enumeration the code uses, `sorted(set(pairs))`, is a duplicate-free enumeration of the (part, track)
    pairs, so `tracks_unique` applies to `sanitizeSorted` (= `sanitizeWith` of it) … -/
theorem tracks_sorted_enumeration (parts : List PartTracks) :
    (sortKeys (dedup (trackKeys parts))).Nodup
    ∧ (∀ k, k ∈ sortKeys (dedup (trackKeys parts)) ↔ k ∈ trackKeys parts)
    ∧ sanitizeSorted parts = sanitizeWith (sortKeys (dedup (trackKeys parts))) parts :=
  ⟨nodup_sortedKeys parts, mem_sortedKeys parts, rfl⟩

/-- … and the new numbers (`track_map[(i, t)]`) follow the order of the pairs: parts in their order, within a part
    the old track numbers in ascending order -/
theorem tracks_sorted_monotone (parts : List PartTracks) (k₁ k₂ : Nat × Int) (h₁ : k₁ ∈ trackKeys parts)
    (h₂ : k₂ ∈ trackKeys parts) (hle : keyLe k₁ k₂ = true) :
    ∃ j₁ j₂, trackMap (sortKeys (dedup (trackKeys parts))) k₁ = some j₁
      ∧ trackMap (sortKeys (dedup (trackKeys parts))) k₂ = some j₂ ∧ j₁ ≤ j₂ :=
  ⟨_, _, trackMap_sorted parts k₁ h₁, trackMap_sorted parts k₂ h₂, (rank_le_iff parts k₁ k₂ h₁ h₂).mpr hle⟩

/-- "without mixing parts": every track of an earlier part gets a smaller number than every track of a later part -/
theorem tracks_parts_in_order (parts : List PartTracks) (i₁ i₂ : Nat) (t₁ t₂ : Int) (h₁ : (i₁, t₁) ∈ trackKeys parts)
    (h₂ : (i₂, t₂) ∈ trackKeys parts) (hlt : i₁ < i₂) :
    ∃ j₁ j₂, trackMap (sortKeys (dedup (trackKeys parts))) (i₁, t₁) = some j₁
      ∧ trackMap (sortKeys (dedup (trackKeys parts))) (i₂, t₂) = some j₂ ∧ j₁ < j₂ := by
  refine ⟨_, _, trackMap_sorted parts _ h₁, trackMap_sorted parts _ h₂, Nat.lt_of_not_le fun h => ?_⟩
  -- a number not above would put the pair of the later part at or before the pair of the earlier one
  have := (keyLe_iff _ _).mp ((rank_le_iff parts _ _ h₂ h₁).mp h)
  simp only at this
  omega

-- `PerformedPart.num_tracks` counts tracks that only carry controls or programs (a missing track key counts as -1)
example : partNumTracks ⟨[0, 0], [some 5, none], [some 0]⟩ = 3 := by decide +kernel

example : sanitizeSorted [⟨[1, 0, 1], [some 0], []⟩, ⟨[0, 0], [none], [some 0]⟩]
    = some [([1, 0, 1], [0], []), ([3, 3], [2], [3])]
  ∧ numTracks [⟨[1, 0, 1], [some 0], []⟩, ⟨[0, 0], [none], [some 0]⟩] = 4 := by decide +kernel

end C14
