/-
C01 — the numpy primitives behind the timeline as proved algorithms, and `_add_point` /
`_remove_point` themselves.

`bsearch` is the binary search numpy runs for `np.searchsorted(a, key)`; `npInsert` / `npDelete` are the
slice-copying `np.insert` / `np.delete` (Model/TimelineExt.lean).  Model/Timeline.lean uses the simpler
`searchsorted` (number of leading elements `< key`), `List.insertIdx`, `List.eraseIdx`; the theorems below
show that on the arrays the timeline ever holds (strictly sorted by time) these are the same functions, so the
only thing still trusted about numpy is that it runs the textbook algorithms (compared, see harness `np` cases).
-/
import PartituraModel.Proofs.C01Np

namespace C01
open TL

/-! ### searchsorted -/

/-- numpy's binary search on a sorted array returns THE insertion index of `key` (side="left"): every element
before it is `< key`, no element from it on is — i.e. the least index whose element is `≥ key`, or `len` -/
theorem bsearch_spec {a : List Int} (hs : a.Pairwise (· ≤ ·)) (key : Int) :
    bsearch a key ≤ a.length
    ∧ (∀ j x, j < bsearch a key → a[j]? = some x → x < key)
    ∧ (∀ j x, bsearch a key ≤ j → a[j]? = some x → key ≤ x) := bsearch_isLB hs key

/-- … and it is the only index with that property -/
theorem bsearch_unique {a : List Int} (hs : a.Pairwise (· ≤ ·)) (key : Int) (r : Nat) (h1 : r ≤ a.length)
    (h2 : ∀ j x, j < r → a[j]? = some x → x < key) (h3 : ∀ j x, r ≤ j → a[j]? = some x → key ≤ x) :
    r = bsearch a key := isLB_unique ⟨h1, h2, h3⟩ (bsearch_isLB hs key)

/-- the model's `searchsorted` (prefix count) has the same specification … -/
theorem searchsorted_spec {a : List Int} (hs : a.Pairwise (· ≤ ·)) (key : Int) :
    searchsorted a key ≤ a.length
    ∧ (∀ j x, j < searchsorted a key → a[j]? = some x → x < key)
    ∧ (∀ j x, searchsorted a key ≤ j → a[j]? = some x → key ≤ x) := searchsorted_isLB hs key

/-- … hence computes what numpy's binary search computes, on every sorted array -/
theorem bsearch_eq_searchsorted {a : List Int} (hs : a.Pairwise (· ≤ ·)) (key : Int) :
    bsearch a key = searchsorted a key := isLB_unique (bsearch_isLB hs key) (searchsorted_isLB hs key)

/-! ### np.insert / np.delete -/

theorem npInsert_eq_insertIdx {α : Type} (a : List α) (i : Nat) (x : α) :
    npInsert a i x = if i ≤ a.length then some (a.insertIdx i x) else none := by
  unfold npInsert
  split
  · rename_i h
    have := insertIdx_app_len (a.take i) (a.drop i) x
    rw [List.take_append_drop, List.length_take, Nat.min_eq_left h] at this
    rw [this]
  · rfl

theorem npDelete_eq_eraseIdx {α : Type} (a : List α) (i : Nat) :
    npDelete a i = if i < a.length then some (a.eraseIdx i) else none := by
  unfold npDelete
  split
  · rw [List.eraseIdx_eq_take_drop_succ]
  · rfl

/-- in every reachable state, for the point array and for the quarter-time list: the search index the model
uses is numpy's, it is in range for `np.insert`, and `np.insert` at it is the model's `insertIdx`; when a
point with time `t` exists the index is in range for `np.delete`, which is the model's `eraseIdx` -/
theorem timeline_np {s : Part} (hW : WInv s) (t : Int) :
    bsearch s.times t = searchsorted s.times t
    ∧ bsearch (s.qtab.map (·.1)) t = searchsorted (s.qtab.map (·.1)) t
    ∧ (∀ p : Point, npInsert s.points (bsearch s.times t) p
        = some (s.points.insertIdx (searchsorted (s.points.map (·.t)) t) p))
    ∧ (t ∈ s.times → npDelete s.points (bsearch s.times t)
        = some (s.points.eraseIdx (searchsorted (s.points.map (·.t)) t))) := by
  have hs := le_of_lt_pairwise hW.sorted
  have e1 := bsearch_eq_searchsorted hs t
  have hlen : searchsorted s.times t ≤ s.points.length := by
    have := searchsorted_le_length s.times t
    simpa [Part.times] using this
  refine ⟨e1, bsearch_eq_searchsorted (le_of_lt_pairwise hW.qsorted) t, ?_, ?_⟩
  · intro p
    rw [npInsert_eq_insertIdx, e1]
    simp only [hlen, if_true]
    rfl
  · intro hmem
    rw [npDelete_eq_eraseIdx, e1]
    have hlt : searchsorted s.times t < s.points.length := by
      rcases Nat.lt_or_ge (searchsorted s.times t) s.points.length with h | h
      · exact h
      · exfalso
        obtain ⟨j, hj, hjt⟩ := List.getElem_of_mem hmem
        have hx : s.times[j]? = some t := by rw [List.getElem?_eq_getElem hj, hjt]
        have := (searchsorted_isLB hs t).2.1 j t (by
          have : j < s.points.length := by simpa [Part.times] using hj
          omega) hx
        omega
    simp only [hlt, if_true]
    rfl

/-! ### `Part._add_point` / `Part._remove_point` -/

/-- `_add_point(TimePoint(t, q))` on a sorted, correctly linked point array: nothing happens when a point at `t`
exists; otherwise the fresh point is inserted at its sorted position and the result is again strictly sorted
and correctly linked, all other points keeping everything but their links -/
theorem addPoint_correct {pts : List Point} (hs : (pts.map (·.t)).Pairwise (· < ·)) (hl : LinksFrom none pts)
    (t : Int) (q : Nat) :
    (t ∈ pts.map (·.t) → addPoint pts (freshPoint t q) = .ok pts)
    ∧ (t ∉ pts.map (·.t) → ∃ pts', addPoint pts (freshPoint t q) = .ok pts'
        ∧ (pts'.map (·.t)).Pairwise (· < ·) ∧ LinksFrom none pts'
        ∧ ∃ pre post, pts = pre ++ post ∧ (∀ p ∈ pre, p.t < t) ∧ (∀ p ∈ post, t < p.t)
          ∧ pts'.map Point.unlink = (pre ++ freshPoint t q :: post).map Point.unlink) := by
  constructor
  · intro hmem
    obtain ⟨pre, b, r, hsp, hbt, h1, -⟩ := split_at_time hs hmem
    rw [hsp]
    exact addPoint_present pre r b t q h1 hbt
  · intro hnot
    obtain ⟨pre, post, hsplit, h1, hallpost⟩ := split_absent hs hnot
    refine ⟨insertLinked pre post t q, ?_, ?_, links_insertLinked pre post t q (hsplit ▸ hl), pre, post, hsplit, h1,
      hallpost, unlink_insertLinked pre post t q⟩
    · rw [hsplit]
      exact addPoint_absent pre post t q h1 (fun b hb => hallpost b (List.mem_of_mem_head? hb))
    · rw [times_of_unlink_eq (unlink_insertLinked pre post t q)]
      exact sorted_insert (x := freshPoint t q) (hsplit ▸ hs) h1 hallpost

/-- `_remove_point(tp)` (repaired, fixes/C01-1) for a point of a sorted, correctly linked array: the point is
deleted, the result is strictly sorted and correctly linked — also when it was the first, the last or the
only point — and all other points keep everything but their links -/
theorem removePoint_correct {pts : List Point} (hs : (pts.map (·.t)).Pairwise (· < ·)) (hl : LinksFrom none pts)
    {t : Int} (ht : t ∈ pts.map (·.t)) :
    ∃ pts', removePoint pts t = .ok pts' ∧ (pts'.map (·.t)).Pairwise (· < ·) ∧ LinksFrom none pts'
      ∧ ∃ pre b post, pts = pre ++ b :: post ∧ b.t = t
        ∧ pts'.map Point.unlink = (pre ++ post).map Point.unlink := by
  obtain ⟨pre, b, r, hsplit, hbt, h1, -⟩ := split_at_time hs ht
  refine ⟨eraseLinked pre r, by rw [hsplit]; exact removePoint_present pre r b t h1 hbt, ?_,
    links_eraseLinked pre r b (hsplit ▸ hl), pre, b, r, hsplit, hbt, unlink_eraseLinked pre r⟩
  rw [times_of_unlink_eq (unlink_eraseLinked pre r)]
  exact sorted_erase (hsplit ▸ hs)

/-- the only way `_remove_point` raises: every point lies before `t` (`self._points[i]` with `i == len`);
`_cleanup_point` never calls it so (`remove_any_effect`: `remove` succeeds in every reachable state) -/
theorem removePoint_raises_iff (pts : List Point) (t : Int) :
    removePoint pts t = .error .index ↔ ∀ p ∈ pts, p.t < t := by
  obtain ⟨pre, post, hsplit, h1, h2, hidx⟩ := searchsorted_split (·.t) pts t
  subst hsplit
  unfold removePoint
  simp only [hidx, getElem?_app_len]
  cases post with
  | nil =>
    simp only [List.head?_nil, List.append_nil]
    exact ⟨fun _ => h1, fun _ => trivial⟩
  | cons b r =>
    have hb := h2 b (by simp)
    simp only [List.head?_cons]
    constructor
    · intro h
      split at h <;> simp [pure, Except.pure] at h
    · intro h
      have := h b (by simp)
      omega

section Examples

example : bsearch [0, 2, 4, 4, 7, 9] 4 = 2 ∧ bsearch [0, 2, 4, 4, 7, 9] 5 = 4 ∧ bsearch [0, 2, 4, 4, 7, 9] 10 = 6
    ∧ bsearch [] 3 = 0 ∧ bsearch [0, 2, 4, 4, 7, 9] (-1) = 0 := by decide
example : ([0, 2, 4, 4, 7, 9] : List Int).Pairwise (· ≤ ·) := by decide
/-- on an UNSORTED array the two differ (so sortedness is a real hypothesis) -/
example : bsearch [5, 1, 3] 2 = 2 ∧ searchsorted [5, 1, 3] 2 = 0 := by decide
example : npInsert [10, 20, 30] 1 15 = some [10, 15, 20, 30] ∧ npInsert [10, 20, 30] 3 40 = some [10, 20, 30, 40]
    ∧ npInsert [10, 20, 30] 4 50 = none ∧ npDelete [10, 20, 30] 2 = some [10, 20] ∧ npDelete [10, 20, 30] 3 = none := by
  decide
/-- `removePoint_raises_iff`: the unrepaired witness input (removing the last point) does not raise -/
example : (removePoint [freshPoint 0 1, freshPoint 5 1] 5).toOption.map (fun l => l.map (·.t)) = some [0] := by
  decide +kernel
example : removePoint [freshPoint 0 1, freshPoint 5 1] 9 = .error .index := by decide +kernel

end Examples

end C01
