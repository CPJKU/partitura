/-
C20 — the sequence protocol of `Score` / `Performance` beyond `len`, integer indexing and `iter`
(Model/IterProto.lean, `run3`): `reversed(c)`
(neither class defines `__reversed__`: Python falls back to `__len__` + `__getitem__`), `x in c` (no `__contains__`:
Python iterates), slices (`self.parts[index]` with a slice object), integer assignment BETWEEN `next` calls, and the
list methods the containers do not have.
-/
import PartituraModel.Proofs.C20Seq

namespace C20Seq
open Model Model.IterProto C20SeqAux

/-- **every handle, forward or reversed, sees the parts in its order, whatever else happens** (runs that do not
    assign): for every interleaving of iter / reversed / next / len / indexing / `in` / slicing / missing-method calls
    on any number of handles, the successive results of `next h` are view[c], view[c+1], … and then StopIteration for
    ever, where `view` is the part list for a forward handle and its reversal for a reversed one -/
theorem handles_in_order3 {α : Type} [DecidableEq α] (parts : List α) (h : Nat) (ops : List (Op3 α))
    (hns : noSet ops = true) :
    ∀ (s : State3) (rev : Bool) (c : Nat), s.cursors[h]? = some (rev, c) →
      nextOutputs3 h ops (run3 (parts, s) ops).2
        = (List.range (countNext3 h ops)).map (fun k => expected3 (view rev parts) (c + k)) := by
  intro s rev c hc
  have hkeep : ∀ op ∈ ops, ∀ qs : List α × State3, qs.1 = parts → (step3 qs op).1.1 = parts := fun op ho qs hq =>
    (step3_parts qs op).elim (·.trans hq) fun ⟨i, a, e, _⟩ => absurd e (not_set_of_noSet hns op ho i a)
  simpa using next_outputs_map (· = parts) id _ rev (fun q hq n => by rw [hq]; rfl) h ops hkeep (parts, s) c rfl hc

/-- `reversed(c)` yields parts[n-1], …, parts[0], then StopIteration, independently of every other handle -/
theorem reversed_visits_once {α : Type} [DecidableEq α] (parts : List α) (s : State3) (ops : List (Op3 α))
    (hns : noSet ops = true) :
    nextOutputs3 s.cursors.length ops (run3 (step3 (parts, s) Op3.riter).1 ops).2
      = (List.range (countNext3 s.cursors.length ops)).map (expected3 parts.reverse) := by
  have h := handles_in_order3 parts s.cursors.length ops hns { cursors := s.cursors ++ [(true, 0)] } true 0 (by simp)
  simpa [step3, view] using h

/-- … and `iter(c)` parts[0], …, parts[n-1] (the statement of `C20.fresh_visits_once` in the extended protocol) -/
theorem forward_visits_once {α : Type} [DecidableEq α] (parts : List α) (s : State3) (ops : List (Op3 α))
    (hns : noSet ops = true) :
    nextOutputs3 s.cursors.length ops (run3 (step3 (parts, s) Op3.iter).1 ops).2
      = (List.range (countNext3 s.cursors.length ops)).map (expected3 parts) := by
  have h := handles_in_order3 parts s.cursors.length ops hns { cursors := s.cursors ++ [(false, 0)] } false 0 (by simp)
  simpa [step3, view] using h

/-- **the number of parts never changes** under any run of the extended protocol, assignments included -/
theorem run3_length {α : Type} [DecidableEq α] (ops : List (Op3 α)) :
    ∀ (ps : List α × State3), (run3 ps ops).1.1.length = ps.1.length := by
  induction ops with
  | nil => intro ps; rfl
  | cons op ops ih => intro ps; exact (ih _).trans (step3_length ps op)

/-- **assignment between `next` calls**: what the code guarantees when `c[i] = part` is interleaved with running
    iterations — every handle (forward or reversed) that has delivered `c` items delivers exactly `n − c` more, one per
    position, and then StopIteration for ever; which object it delivers at a position is the one stored there at the
    time of the call (`step3`).  No part is skipped or delivered twice BY POSITION, no iteration ends early or late. -/
theorem next_count_with_sets {α : Type} [DecidableEq α] (h : Nat) (ops : List (Op3 α)) :
    ∀ (ps : List α) (s : State3) (rev : Bool) (c : Nat), s.cursors[h]? = some (rev, c) →
      (nextOutputs3 h ops (run3 (ps, s) ops).2).map isItem
        = (List.range (countNext3 h ops)).map (fun k => decide (c + k < ps.length)) := by
  intro ps s rev c hc
  exact next_outputs_map (·.length = ps.length) isItem _ rev
    (fun q hq n => by rw [isItem_expected3, view_length, hq]) h ops
    (fun op _ qs hq => (step3_length qs op).trans hq) (ps, s) c rfl hc

/-- `x in c` is membership in the part list, and asking does not move any iterator -/
theorem contains_iff {α : Type} [DecidableEq α] (parts : List α) (s : State3) (a : α) :
    (step3 (parts, s) (Op3.contains a)) = ((parts, s), Out3.bool (contains parts a)) ∧
    (contains parts a = true ↔ a ∈ parts) := by
  refine ⟨rfl, ?_⟩
  simp [contains]

/-- slices: `c[:]` is the part list, `c[::-1]` its reversal, `c[a:b]` for 0 ≤ a ≤ b ≤ n the parts a … b−1, a zero
    step is a ValueError; slicing never moves an iterator -/
theorem slice_spec {α : Type} (l : List α) :
    pySlice l none none none = some l ∧
    pySlice l none none (some (-1)) = some l.reverse ∧
    (∀ a b : Nat, a ≤ b → b ≤ l.length →
        pySlice l (some (a : Int)) (some (b : Int)) none = some ((l.drop a).take (b - a))) ∧
    (∀ a b, pySlice l a b (some 0) = none) :=
  ⟨slice_all l, slice_rev l, slice_between l, fun a b => by simp [pySlice]⟩

/-- the list methods these classes do not have are AttributeErrors that change nothing -/
theorem noattr_frame {α : Type} [DecidableEq α] (ps : List α × State3) :
    step3 ps Op3.noattr = (ps, Out3.attributeError) := rfl

/-- non-vacuity of `handles_in_order3`, and a reversed iteration with an assignment in the middle: the reversed
    handle delivers the NEW part at position 0 -/
example : ({ cursors := [(true, 1), (false, 0)] } : State3).cursors[0]? = some (true, 1) := by decide +kernel

example :
    (run3 (([10, 20, 30] : List Nat), {}) [Op3.riter, Op3.next 0, Op3.set 0 99, Op3.next 0, Op3.next 0, Op3.next 0]).2
      = [Out3.handle 0, Out3.item 30, Out3.length 3, Out3.item 20, Out3.item 99, Out3.stop] := by decide +kernel

end C20Seq
