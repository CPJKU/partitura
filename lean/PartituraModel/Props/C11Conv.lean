/-
C11 — `GenericNote.duration_from_symbolic` and `format_symbolic_duration` (Model/SymConv.lean).

"Every symbolic duration the library assigns evaluates to the note's numeric duration under the divisions in force", and
"estimating a symbolic duration from a numeric one and converting it back returns the numeric duration, or reports that
no single notated value exists" — said with the note's own conversion property; and the formatted string names the value.
-/
import PartituraModel.Props.C11Sound
import PartituraModel.Proofs.C11Conv

namespace C11
open Model Model.Dur Model.Meas Model.Conv Gen C11Conv

theorem estimateI_shape (dur div : Nat) : estimateI dur div = .empty ∨ ∃ sd, estimateI dur div = .single sd := by
  unfold estimateI
  cases h : estimate (dur : Rat) div false with
  | none => exact Or.inl rfl
  | some e => exact estimate_shape (dur : Rat) div e h

/-- **duration_from_symbolic_back**: for every integer duration and every divisions value, `duration_from_symbolic`
    on the estimated symbolic duration is `None` (no single notated value) or exactly the duration — it never raises -/
theorem duration_from_symbolic_back (dur div : Nat) :
    durationFromSymbolic (some (estimateI dur div)) div = some none ∨
    durationFromSymbolic (some (estimateI dur div)) div = some (some (dur : Rat)) := by
  rcases estimateI_shape dur div with h | ⟨sd, h⟩
  · left; rw [h]; rfl
  · right
    rw [h]
    show (symbolicToNumeric sd (div : Rat)).map some = _
    rw [symdur_assigned dur div sd h]
    rfl

/-- **duration_from_symbolic_note**: a note that stores no symbolic duration (the generator never presets one; the
    property estimates it from the numeric duration and the quarter duration at the note's start) -/
theorem duration_from_symbolic_note (qd : List (Int × Nat)) (n : Note) (h : n.sym = none) :
    durationFromSymbolic (symbolicDuration qd n) (quarterAt qd n.start) = some none ∨
    durationFromSymbolic (symbolicDuration qd n) (quarterAt qd n.start) = some (some ((n.stop - n.start : Nat) : Rat)) := by
  unfold symbolicDuration
  rw [h]
  exact duration_from_symbolic_back (n.stop - n.start) (quarterAt qd n.start)

/-- **duration_from_symbolic_after_tie**: after `tie_notes` the note found under a key is the entered note with extent
    and stored value untouched, or a piece whose `duration_from_symbolic` is `None` or exactly the piece's duration -/
theorem duration_from_symbolic_after_tie (p : PartM) (ns : List Note) (x : Nat) (n' : Note)
    (h : C11Walk.lk (tieNotes p ns) x = some n') :
    (∃ n, C11Walk.lk ns x = some n ∧ n'.sym = n.sym ∧ n'.start = n.start ∧ n'.stop = n.stop) ∨
    durationFromSymbolic (symbolicDuration p.qd n') (quarterAt p.qd n'.start) = some none ∨
    durationFromSymbolic (symbolicDuration p.qd n') (quarterAt p.qd n'.start) =
      some (some ((n'.stop - n'.start : Nat) : Rat)) := by
  rcases tie_notes_symdur p ns x n' h with h1 | ⟨h2, _⟩
  · exact Or.inl h1
  · right
    unfold symbolicDuration
    rw [h2]
    exact duration_from_symbolic_back (n'.stop - n'.start) (quarterAt p.qd n'.start)

theorem format_raises_only_on_tuple (e : Option Est) : formatChars e = none ↔ ∃ l, e = some (.composite l) := by
  constructor
  · intro h
    match e, h with
    | some (.composite l), _ => exact ⟨l, rfl⟩
  · rintro ⟨l, rfl⟩; rfl

/-- **format_names_value**: for all type names without `.` and `_`, all dot counts and all tuplet ratios — two single
    values that `format_symbolic_duration` writes alike have the same type and dots, are both tuplets or both not, and as
    tuplets have the same ratio.  Every type name of the regenerated `LABEL_DURS` is such a name (`label_names_plain`) -/
theorem format_names_value (ty ty' : String) (d d' : Nat) (a n a' n' : Option Nat)
    (hty : ∀ c ∈ ty.toList, plainChar c = true) (hty' : ∀ c ∈ ty'.toList, plainChar c = true)
    (h : formatChars (some (.single (ty, d, a, n))) = formatChars (some (.single (ty', d', a', n')))) :
    ty = ty' ∧ d = d' ∧ ((a.isSome ∧ n.isSome) ↔ (a'.isSome ∧ n'.isSome)) ∧ (a.isSome → n.isSome → a = a' ∧ n = n') :=
  format_injective ty ty' d d' a n a' n' hty hty' h

theorem label_names_plain : ∀ e ∈ LABEL_DURS, ∀ c ∈ e.1.toList, plainChar c = true := by decide +kernel

-- the hypothesis is needed: a type named "quarter." with no dot and "quarter" with one dot are written alike
example : formatChars (some (.single ("quarter.", 0, none, none))) = formatChars (some (.single ("quarter", 1, none, none))) := by
  decide +kernel

def asTriplet (sd : SymDur) : SymDur := (sd.1, sd.2.1, some 3, some 2)

theorem sym_rows_labelled : ∀ sd ∈ SYM_DURS,
    sd.2.2 = (none, none) ∧ sd.1 ≠ "" ∧ sd.1 ≠ "unknown" ∧ sd.1 ∈ LABEL_DURS.map (·.1) := by decide +kernel

theorem sym_rows : SYM_DURS.Nodup ∧ ∀ sd ∈ SYM_DURS,
    sd.2.2 = (none, none) ∧ sd.1 ≠ "" ∧ sd.1 ≠ "unknown" ∧ ∀ c ∈ sd.1.toList, plainChar c = true := by
  refine ⟨by decide +kernel, fun sd hsd => ?_⟩
  obtain ⟨h1, h2, h3, h4⟩ := sym_rows_labelled sd hsd
  obtain ⟨e, he, hE⟩ := List.mem_map.mp h4
  exact ⟨h1, h2, h3, hE ▸ label_names_plain e he⟩

/-- **format_table_injective**: over the whole regenerated table of notated values (plain and dotted), taken as they
    are and as 3:2 tuplets, `format_symbolic_duration` gives pairwise different strings, none of them `"unknown"` or empty -/
theorem format_table_injective :
    ((SYM_DURS ++ SYM_DURS.map asTriplet).map fun sd => formatChars (some (.single sd))).Nodup ∧
    ∀ sd ∈ SYM_DURS ++ SYM_DURS.map asTriplet,
      formatChars (some (.single sd)) ≠ formatChars none ∧ formatChars (some (.single sd)) ≠ formatChars (some .empty) :=
  format_rows_injective SYM_DURS 3 2 sym_rows.1 sym_rows.2

-- what the strings look like; a dotted triplet quarter at 12 per quarter lasts 12 divisions
example : formatSymbolic none = some "unknown" ∧ formatSymbolic (some .empty) = some "" ∧
    formatSymbolic (some (.single ("quarter", 2, none, none))) = some "quarter.." ∧
    formatSymbolic (some (.single ("16th", 0, some 3, some 2))) = some "16th_3/2" ∧
    formatSymbolic (some (.composite [("half", 0, none, none)])) = none := by decide +kernel
example : durationFromSymbolic (some (.single ("quarter", 1, some 3, some 2))) 12 = some (some 12) ∧
    durationFromSymbolic (some (.single ("crotchet", 0, none, none))) 12 = none ∧
    durationFromSymbolic (some (.single ("quarter", 4, none, none))) 12 = none ∧
    durationFromSymbolic (some .empty) 12 = some none := by decide +kernel
-- both answers of `duration_from_symbolic_back` occur: 6 at 4 per quarter is a dotted quarter, 34 at 16 has no single value
example : durationFromSymbolic (some (estimateI 6 4)) 4 = some (some 6) ∧
    durationFromSymbolic (some (estimateI 34 16)) 16 = some none := by decide +kernel

end C11
