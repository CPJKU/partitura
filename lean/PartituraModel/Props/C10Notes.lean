/-
C10 — "the maps agree with the optional note-array columns derived from them".

Model/StepMapNotes.lean mirrors the part of `note_array_from_note_list` / `rest_array_from_rest_list`
(partitura/utils/music.py) that produces the key-signature, time-signature and metrical-position columns:
the loop over the list handed in (in ITS order), the conversion of the cells, the sort of the finished rows by
pitch and then (stably) by onset, and the selection of the maps by the `include_*` flags of
`note_array_from_part` / `rest_array_from_part`.

The theorems are for EVERY list of notes in EVERY order and every choice of maps.
-/
import PartituraModel.Proofs.C10Notes
import PartituraModel.Props.C10
import PartituraModel.Props.C10Part

namespace C10
open Model Model.StepMap Gen

/-- **`row_at_own_onset`**: whatever the order of the list handed in, every row of the finished (sorted) array is
    the loop body evaluated for that row's own object at that row's own onset -/
theorem row_at_own_onset (M : NoteMaps) (notes : List NoteIn) (rows : List ColRow)
    (h : noteArrayCols M notes = some rows) (r : ColRow) (hr : r ∈ rows) :
    r.note ∈ notes ∧ mkColRow M r.note = some r := by
  obtain ⟨rows0, h0, _, hp⟩ := noteArrayCols_some M notes rows h
  obtain ⟨n, hn, hm⟩ := loopRows_mem M notes rows0 h0 r (hp.mem_iff.mp hr)
  rw [mkColRow_note M n r hm]
  exact ⟨hn, hm⟩

/-- **`columns_agree_with_maps`**: the key-signature cells of a row are `key_signature_map(row.onset_div)`, the
    time-signature cells `time_signature_map(row.onset_div)`, the metrical cells
    `(rel == 0, *metrical_position_map(row.onset_div))`; a map that is not handed in leaves no cells -/
theorem columns_agree_with_maps (M : NoteMaps) (notes : List NoteIn) (rows : List ColRow)
    (h : noteArrayCols M notes = some rows) (r : ColRow) (hr : r ∈ rows) :
    (∀ f, M.ks = some f → f r.onset = r.ks) ∧ (M.ks = none → r.ks = none) ∧
    (∀ f, M.ts = some f → (f r.onset).map (fun v => ((v.1 : Int), (v.2.1 : Int), (v.2.2 : Int))) = r.ts) ∧
    (M.ts = none → r.ts = none) ∧
    (∀ f, M.mp = some f → (f r.onset).map metricalCells = r.mp) ∧ (M.mp = none → r.mp = none) := by
  obtain ⟨_, hm⟩ := row_at_own_onset M notes rows h r hr
  obtain ⟨_, _, _, hks, hts, hmp⟩ := mkColRow_some M r.note r hm
  obtain ⟨k1, k2⟩ := cellsOf_map id M.ks r.onset r.ks (by rw [show r.onset = r.note.onset from rfl, hks]; simp)
  obtain ⟨t1, t2⟩ := cellsOf_map _ M.ts r.onset r.ts hts
  obtain ⟨m1, m2⟩ := cellsOf_map _ M.mp r.onset r.mp hmp
  exact ⟨fun f hf => Option.map_id'.symm.trans (k1 f hf), k2, t1, t2, m1, m2⟩

/-- `is_downbeat` is 1 exactly when `rel_onset_div` is 0 -/
theorem downbeat_cell (M : NoteMaps) (notes : List NoteIn) (rows : List ColRow)
    (h : noteArrayCols M notes = some rows) (r : ColRow) (hr : r ∈ rows) (d rel : Int) (tot : Option Int)
    (hm : r.mp = some (d, rel, tot)) : (d = 1 ↔ rel = 0) ∧ (d = 0 ∨ d = 1) := by
  obtain ⟨_, _, _, _, hmp, hnone⟩ := columns_agree_with_maps M notes rows h r hr
  cases hM : M.mp with
  | none => rw [hnone hM] at hm; simp at hm
  | some f =>
    have := hmp f hM
    rw [hm] at this
    cases hv : f r.onset with
    | none => rw [hv] at this; simp at this
    | some v =>
      rw [hv] at this
      simp only [Option.map_some, metricalCells, Option.some.injEq, Prod.mk.injEq] at this
      obtain ⟨h1, h2, _⟩ := this
      subst h1 h2
      unfold downbeat
      by_cases h0 : v.1 = 0 <;> simp [h0]

/-- **`rows_perm_input`**: the array holds exactly one row per note handed in -/
theorem rows_perm_input (M : NoteMaps) (notes : List NoteIn) (rows : List ColRow)
    (h : noteArrayCols M notes = some rows) : (rows.map ColRow.note).Perm notes := by
  obtain ⟨rows0, h0, _, hp⟩ := noteArrayCols_some M notes rows h
  have := hp.map ColRow.note
  rwa [loopRows_map_note M notes rows0 h0] at this

/-- **`rows_sorted`**: by onset and, among equal onsets, by pitch -/
theorem rows_sorted (M : NoteMaps) (notes : List NoteIn) (rows : List ColRow)
    (h : noteArrayCols M notes = some rows) :
    rows.Pairwise fun a b => a.onset < b.onset ∨ (a.onset = b.onset ∧ a.pitch ≤ b.pitch) := by
  obtain ⟨rows0, _, hs, _⟩ := noteArrayCols_some M notes rows h
  rw [hs]
  exact sortBy_lex (fun r : ColRow => r.onset) (fun r : ColRow => r.pitch) _ (sortBy_sorted _ _)

/-- **`note_array_raises_iff`**: the array cannot be built exactly when a signature / metrical map that was
    handed in answers NaN at the onset of one of the notes -/
theorem note_array_raises_iff (M : NoteMaps) (notes : List NoteIn) :
    noteArrayCols M notes = none ↔
      ∃ n ∈ notes, (∃ f, M.ks = some f ∧ f n.onset = none) ∨ (∃ f, M.ts = some f ∧ f n.onset = none)
        ∨ (∃ f, M.mp = some f ∧ f n.onset = none) := by
  unfold noteArrayCols
  rw [Option.map_eq_none_iff, loopRows_none_iff]
  constructor
  · rintro ⟨n, hn, hm⟩
    refine ⟨n, hn, ?_⟩
    rw [mkColRow_eq_none, cellsOf_eq_none, cellsOf_eq_none, cellsOf_eq_none] at hm
    exact hm
  · rintro ⟨n, hn, hm⟩
    refine ⟨n, hn, ?_⟩
    rw [mkColRow_eq_none, cellsOf_eq_none, cellsOf_eq_none, cellsOf_eq_none]
    exact hm

/-- **`list_order_irrelevant`**: handing in the same notes in another order gives the same rows (both results are
    sorted by onset and pitch, `rows_sorted`; they can differ only in the order of rows with equal onset and pitch) -/
theorem list_order_irrelevant (M : NoteMaps) (notes notes' : List NoteIn) (hp : notes.Perm notes')
    (rows : List ColRow) (h : noteArrayCols M notes = some rows) :
    ∃ rows', noteArrayCols M notes' = some rows' ∧ rows.Perm rows' := by
  cases h' : noteArrayCols M notes' with
  | none =>
    obtain ⟨n, hn, hbad⟩ := (note_array_raises_iff M notes').mp h'
    have : noteArrayCols M notes = none := (note_array_raises_iff M notes).mpr ⟨n, hp.mem_iff.mpr hn, hbad⟩
    rw [h] at this; exact absurd this (by simp)
  | some rows' =>
    refine ⟨rows', rfl, ?_⟩
    obtain ⟨rows0, h0, _, hp0⟩ := noteArrayCols_some M notes rows h
    obtain ⟨rows0', h0', _, hp0'⟩ := noteArrayCols_some M notes' rows' h'
    rw [loopRows_filterMap M notes rows0 h0] at hp0
    rw [loopRows_filterMap M notes' rows0' h0'] at hp0'
    exact hp0.trans ((hp.filterMap _).trans hp0'.symm)

example : noteArrayCols ⟨some fun t => some (if t < 8 then (2, 1) else (-3, -1)), none, none⟩
      [⟨0, 12, 48⟩, ⟨1, 0, 72⟩, ⟨2, 12, 40⟩, ⟨3, 4, 60⟩]
    = some [⟨1, 0, 72, some (2, 1), none, none⟩, ⟨3, 4, 60, some (2, 1), none, none⟩,
            ⟨2, 12, 40, some (-3, -1), none, none⟩, ⟨0, 12, 48, some (-3, -1), none, none⟩] := by decide +kernel

theorem noteArrayOfPart_cells (p : PartD) (kss : List (Int × Int × Mode)) (fl : NAFlags) (notes : List NoteIn)
    (rows : List ColRow) (h : noteArrayOfPart p kss fl notes = some rows) (r : ColRow) (hr : r ∈ rows) :
    (fl.ks = true → ksMap p.span kss r.onset = r.ks) ∧
    (fl.ts = true → (tsMapE p.span p.ts r.onset).map (fun v => ((v.1 : Int), (v.2.1 : Int), (v.2.2 : Int))) = r.ts) ∧
    (fl.mp = true → raisesP p = false ∧ (metricalMapP p r.onset).map metricalCells = r.mp) := by
  obtain ⟨hrz, h'⟩ := noteArrayOfPart_some p kss fl notes rows h
  obtain ⟨hks, _, hts, _, hmp, _⟩ := columns_agree_with_maps _ notes rows h' r hr
  exact ⟨fun hf => hks _ (by simp [hf]), fun hf => hts _ (by simp [hf]), fun hf => ⟨hrz hf, hmp _ (by simp [hf])⟩⟩

/-- **`note_columns_absent`**: a flag that is off leaves no cells (the map is not even built) -/
theorem note_columns_absent (p : PartD) (kss : List (Int × Int × Mode)) (fl : NAFlags) (notes : List NoteIn)
    (rows : List ColRow) (h : noteArrayOfPart p kss fl notes = some rows) (r : ColRow) (hr : r ∈ rows) :
    (fl.ks = false → r.ks = none) ∧ (fl.ts = false → r.ts = none) ∧ (fl.mp = false → r.mp = none) := by
  obtain ⟨_, h'⟩ := noteArrayOfPart_some p kss fl notes rows h
  obtain ⟨_, hks, _, hts, _, hmp⟩ := columns_agree_with_maps _ notes rows h' r hr
  refine ⟨fun hf => hks (by simp [hf]), fun hf => hts (by simp [hf]), fun hf => hmp (by simp [hf])⟩

/-- **`note_ks_column_in_force`**: with `include_key_signature`, the cells `(ks_fifths, ks_mode)` of every row on
    the timeline are those of the key signature in force at the row's onset, of the first key signature for an
    onset before it, and `(0, 1)` (C major) when the part has none -/
theorem note_ks_column_in_force (p : PartD) (kss : List (Int × Int × Mode)) (fl : NAFlags) (notes : List NoteIn)
    (rows : List ColRow) (h : noteArrayOfPart p kss fl notes = some rows) (hfl : fl.ks = true)
    (f l : Int) (hsp : p.span = some (f, l)) (hs : SortedLT kss) (r : ColRow) (hr : r ∈ rows) (hx : f ≤ r.onset) :
    (kss = [] → r.ks = some (0, 1)) ∧
    (∀ e, InForce kss r.onset e → r.ks = some (e.2.1, keyModeToInt e.2.2)) ∧
    (∀ e rest, kss = e :: rest → r.onset < e.1 → r.ks = some (e.2.1, keyModeToInt e.2.2)) := by
  have hk := (noteArrayOfPart_cells p kss fl notes rows h r hr).1 hfl
  rw [hsp] at hk
  obtain ⟨s1, s2, s3⟩ := ks_spec f l r.onset hx kss hs
  exact ⟨fun he => by rw [← hk]; exact s1 he, fun e he => by rw [← hk]; exact s2 e he,
         fun e rest he hlt => by rw [← hk]; exact s3 e rest he hlt⟩

/-- **`note_ts_column_in_force`**: with `include_time_signature`, `(ts_beats, ts_beat_type, ts_mus_beats)` of every
    row are beats, beat type and the STORED musical beats of the time signature in force at the row's onset, of
    the first one before it, and `(4, 4, 4)` when the part has none -/
theorem note_ts_column_in_force (p : PartD) (kss : List (Int × Int × Mode)) (fl : NAFlags) (notes : List NoteIn)
    (rows : List ColRow) (h : noteArrayOfPart p kss fl notes = some rows) (hfl : fl.ts = true)
    (f l : Int) (hsp : p.span = some (f, l)) (hs : SortedLT (tsTbl p.ts)) (r : ColRow) (hr : r ∈ rows)
    (hx : f ≤ r.onset) :
    (p.ts = [] → r.ts = some (4, 4, 4)) ∧
    (∀ e, InForce (tsTbl p.ts) r.onset e → r.ts = some ((e.2.beats : Int), (e.2.beatType : Int), (e.2.mb : Int))) ∧
    (∀ s rest, p.ts = s :: rest → r.onset < s.t →
      r.ts = some ((s.beats : Int), (s.beatType : Int), (s.mb : Int))) := by
  have hk := (noteArrayOfPart_cells p kss fl notes rows h r hr).2.1 hfl
  rw [hsp] at hk
  obtain ⟨s1, s2, s3⟩ := ts_spec_stored f l r.onset hx p.ts hs
  refine ⟨fun he => ?_, fun e he => ?_, fun s rest he hlt => ?_⟩
  · rw [← hk, s1 he]; rfl
  · rw [← hk, s2 e he]; rfl
  · rw [← hk, s3 s rest he hlt]; rfl

/-- **`note_metrical_columns`**: with `include_metrical_position`, for measures that tile, a row whose onset lies in
    measure `i = (s, e)` has `rel_onset_div = onset − s'`, `tot_measure_div = e − s'` and `is_downbeat = 1` exactly
    when the onset is `s'`, where `s'` is the pickup-corrected start for the first measure and `s` otherwise -/
theorem note_metrical_columns (p : PartD) (kss : List (Int × Int × Mode)) (fl : NAFlags) (notes : List NoteIn)
    (rows : List ColRow) (h : noteArrayOfPart p kss fl notes = some rows) (hfl : fl.mp = true)
    (ht : Tiles (bars p)) (r : ColRow) (hr : r ∈ rows) (i : Nat) (s e : Int) (hi : (bars p)[i]? = some (s, e))
    (hs : s ≤ r.onset) (he : r.onset < e) :
    r.mp = some (downbeat (r.onset - (if i = 0 then pickupStart s e (beatsPerBar p) (divsPerBeat p) else s)),
                 r.onset - (if i = 0 then pickupStart s e (beatsPerBar p) (divsPerBeat p) else s),
                 some (e - (if i = 0 then pickupStart s e (beatsPerBar p) (divsPerBeat p) else s))) := by
  obtain ⟨hrz, hk⟩ := (noteArrayOfPart_cells p kss fl notes rows h r hr).2.2 hfl
  rw [metrical_spec_composed p r.onset hrz ht i s e hi hs he] at hk
  rw [← hk]; rfl

/-- `is_downbeat` marks exactly the onset at the (corrected) start of the measure -/
theorem downbeat_iff (x s' : Int) : downbeat (x - s') = 1 ↔ x = s' := by
  unfold downbeat
  by_cases h : x - s' = 0
  · simp only [h, if_true, true_iff]; omega
  · simp only [h, if_false]
    constructor
    · intro h1; exact absurd h1 (by decide)
    · intro h1; omega

/-- **`note_array_total`**: for notes on the timeline of a part whose measures are in time order without overlap
    (and whose measure maps do not raise, when the metrical columns are requested) the array is always built -/
theorem note_array_total (p : PartD) (kss : List (Int × Int × Mode)) (fl : NAFlags) (notes : List NoteIn)
    (f l : Int) (hsp : p.span = some (f, l)) (hon : ∀ n ∈ notes, f ≤ n.onset)
    (hr : fl.mp = true → raisesP p = false) (ht : fl.mp = true → Ordered (bars p)) :
    ∃ rows, noteArrayOfPart p kss fl notes = some rows := by
  cases h : noteArrayOfPart p kss fl notes with
  | some rows => exact ⟨rows, rfl⟩
  | none =>
    exfalso
    unfold noteArrayOfPart partMaps at h
    have hc : ¬ (fl.mp && raisesP p) = true := fun hc => by
      rw [Bool.and_eq_true] at hc
      rw [hr hc.1] at hc
      exact Bool.false_ne_true hc.2
    rw [if_neg hc, Option.bind_some] at h
    -- a map that is handed on answers at every onset on the timeline
    obtain ⟨n, hn, hbad⟩ := (note_array_raises_iff _ notes).mp h
    have hx := hon n hn
    rcases hbad with ⟨g, hg, hv⟩ | ⟨g, hg, hv⟩ | ⟨g, hg, hv⟩
    · obtain ⟨-, rfl⟩ := selected_map hg
      have := ksMap_isSome f l n.onset hx kss
      rw [← hsp, hv] at this
      cases this
    · obtain ⟨-, rfl⟩ := selected_map hg
      have := tsMapE_isSome f l n.onset hx p.ts
      rw [← hsp, hv] at this
      cases this
    · obtain ⟨hk, rfl⟩ := selected_map hg
      have := metricalMapP_isSome p (hr hk) (ht hk) n.onset
      rw [hv] at this
      cases this

/-- **`rest_rows`**: `rest_array_from_rest_list` is the same loop with the pitch cell 0: every row carries the maps
    at its own onset, one row per rest, sorted by onset -/
theorem rest_rows (M : NoteMaps) (rests : List NoteIn) (rows : List ColRow)
    (h : restArrayCols M rests = some rows) :
    (∀ r ∈ rows, r.pitch = 0 ∧ mkColRow M r.note = some r) ∧
    (rows.map fun r => (r.idx, r.onset)).Perm (rests.map fun n => (n.idx, n.onset)) ∧
    rows.Pairwise (fun a b => a.onset ≤ b.onset) := by
  unfold restArrayCols at h
  refine ⟨?_, ?_, ?_⟩
  · intro r hr
    obtain ⟨hmem, hm⟩ := row_at_own_onset M _ rows h r hr
    obtain ⟨n, _, hn⟩ := List.mem_map.mp hmem
    have : r.pitch = 0 := by
      have := congrArg NoteIn.pitch hn
      simpa [ColRow.note] using this.symm
    exact ⟨this, hm⟩
  · have := (rows_perm_input M _ rows h).map fun n : NoteIn => (n.idx, n.onset)
    simpa [List.map_map, Function.comp_def, ColRow.note] using this
  · exact (rows_sorted M _ rows h).imp fun hab => by rcases hab with h1 | ⟨h1, _⟩ <;> omega

/-! ### non-vacuity: a part with a key change, a metre change and a pickup; the notes handed in by pitch -/

def exNotesPart : PartD :=
  { npoints := 5, span := some (0, 52), qd := [(0, 4)], ts := [⟨0, 6, 8, 2⟩, ⟨28, 3, 4, 3⟩], musical := false,
    ms := [(0, 4, some 0), (4, 28, some 1), (28, 40, some 2), (40, 52, some 3)] }

example : noteArrayOfPart exNotesPart [(0, 2, .major), (28, -1, .minor)] ⟨true, true, true⟩
      [⟨0, 30, 36⟩, ⟨1, 2, 60⟩, ⟨2, 28, 62⟩, ⟨3, 4, 64⟩]
    = some [⟨1, 2, 60, some (2, 1), some (6, 8, 2), some (0, 10, some 12)⟩,
            ⟨3, 4, 64, some (2, 1), some (6, 8, 2), some (1, 0, some 24)⟩,
            ⟨2, 28, 62, some (-1, -1), some (3, 4, 3), some (1, 0, some 12)⟩,
            ⟨0, 30, 36, some (-1, -1), some (3, 4, 3), some (0, 2, some 12)⟩] := by decide +kernel

example : raisesP exNotesPart = false ∧ Tiles (bars exNotesPart) ∧ SortedLT (tsTbl exNotesPart.ts)
    ∧ SortedLT [((0 : Int), ((2 : Int), Mode.major)), (28, (-1, Mode.minor))] := by
  refine ⟨by decide, by simp [Tiles, bars, exNotesPart], by unfold SortedLT; decide +kernel,
          by unfold SortedLT; decide +kernel⟩

end C10
