/-
C03 — the part list: "the same parts and part groups".

  Model/XmlPartList.lean   `writePartList` (save_musicxml: handle_parents, close_group_stack, the <score-part> entries),
                           `parsePartList` (_parse_partlist), `plXml` / `readPL` (the elements)
tied to the code by harness/props/c03.py streams wpl / rpl.
-/
import PartituraModel.Proofs.C03PartList

namespace C03
open Model Model.XmlNote Model.PartList
open Model.PartList.Forest C03.Fix2

/-- **partlist_written.**  The exporter sees the structure of a score only through the list of its parts and their `parent`
    links, and opens and closes groups lazily (`handle_parents`).  For every forest of parts and nested groups in which
    every group holds something (`NonEmpty`: a group without parts never reaches the file) and the groups are different
    objects, what it writes is the bracket sequence of the forest: every group opened right before its first member and
    closed right after its last one, parts in order. -/
theorem partlist_written (f : Forest GroupW PartW) (hne : f.NonEmpty) (hnd : ((groups f).map (·.gid)).Nodup) :
    writePartList (flatten [] f) = C03.PL.emit f := by
  by_cases hf : f = .nil
  · subst hf; rfl
  · have := C03.PL.write_forest f [] [] [] [] hf hne ((C03.PL.distinct_iff _).mpr (by simpa using hnd))
    simp only [List.nil_append, List.append_nil, List.reverse_nil, List.map_nil] at this
    unfold writePartList
    simp only [this, C03.PL.emit_eq f]
    rfl

/-- **partlist_roundtrip.**  "The same parts and part groups": for every such forest — any number of parts, groups nested to
    any depth, siblings of a group after a nested group, several top-level groups — `_parse_partlist` applied to the
    `<part-list>` children `save_musicxml` writes does not raise and returns the same forest: the same nesting and order,
    every group with its number, symbol and name, every part with its id, name and abbreviation (`canonGroup`,
    `canonPart`: a number that is not an integer is read as none, an empty name is no name, NULs are dropped). -/
theorem partlist_roundtrip (f : Forest GroupW PartW) (hne : f.NonEmpty) (hnd : ((groups f).map (·.gid)).Nodup) :
    parsePartList (((writePartList (flatten [] f)).map plXml).map readPL) = some (f.map canonGroup canonPart) := by
  rw [partlist_written f hne hnd, List.map_map]
  have : (readPL ∘ plXml) = C03.PL.canonEl := funext C03.PL.readPL_plXml
  rw [this]
  exact C03.PL.parse_emit f

/-- A{B{p1}, p2}, C{p3}: a nested group followed by a further member of the enclosing group, then a second top-level group -/
example :
    let gA : GroupW := ⟨0, ['1'], some ['b', 'r', 'a', 'c', 'e'], some ['A']⟩
    let gB : GroupW := ⟨1, ['2'], none, none⟩
    let gC : GroupW := ⟨2, ['1'], none, some ['C']⟩
    let p (s : Str) : PartW := ⟨s, some s, none⟩
    let f : Forest GroupW PartW :=
      .group gA (.group gB (.part (p ['P', '1']) .nil) (.part (p ['P', '2']) .nil)) (.group gC (.part (p ['P', '3']) .nil) .nil)
    f.NonEmpty ∧ ((groups f).map (·.gid)).Nodup ∧
      writePartList (flatten [] f) =
        [.groupStart gA, .groupStart gB, .scorePart (p ['P', '1']), .groupStop ['2'], .scorePart (p ['P', '2']),
         .groupStop ['1'], .groupStart gC, .scorePart (p ['P', '3']), .groupStop ['1']] := by
  refine ⟨⟨by decide, ⟨by decide, trivial, trivial⟩, by decide, trivial, trivial⟩, by decide, by decide⟩

/-- a group without parts is not written: the hypothesis `NonEmpty` is needed -/
example : writePartList (flatten [] (.group ⟨0, ['1'], none, none⟩ .nil (.part ⟨['P', '1'], none, none⟩ .nil))) =
    [.scorePart ⟨['P', '1'], none, none⟩] := by decide +kernel

/-- … and so is the distinctness of the groups: were two sibling groups the same object, they would be written as one -/
example : writePartList (flatten [] (.group ⟨0, ['1'], none, none⟩ (.part ⟨['P', '1'], none, none⟩ .nil)
      (.group ⟨0, ['1'], none, none⟩ (.part ⟨['P', '2'], none, none⟩ .nil) .nil))) =
    [.groupStart ⟨0, ['1'], none, none⟩, .scorePart ⟨['P', '1'], none, none⟩, .scorePart ⟨['P', '2'], none, none⟩,
     .groupStop ['1']] := by decide +kernel

/-- a `type="stop"` without an open group makes the importer raise (`None.parent`) -/
example : parsePartList [.groupStop] = none := by decide +kernel

/-- **partlist_fixpoint.**  Two scores whose part structures denote the same (the saved score, and the score loaded from
    its file as the exporter sees it), both in the representation the importer picks, are written with the same
    `<part-list>` children: the part list of `save(load(save(s)))` is the one of `save(s)`, element for element. -/
theorem partlist_fixpoint (f f₂ : Forest GroupW PartW)
    (hne : f.NonEmpty) (hnd : ((groups f).map (·.gid)).Nodup) (hc : CanonicalForest f)
    (hne₂ : f₂.NonEmpty) (hnd₂ : ((groups f₂).map (·.gid)).Nodup) (hc₂ : CanonicalForest f₂)
    (hsame : f₂.map canonGroup canonPart = f.map canonGroup canonPart) :
    (writePartList (flatten [] f₂)).map plXml = (writePartList (flatten [] f)).map plXml := by
  rw [partlist_written f hne hnd, partlist_written f₂ hne₂ hnd₂, emit_canonical f hc, emit_canonical f₂ hc₂, hsame]

end C03
