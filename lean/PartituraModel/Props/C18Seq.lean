/-
C18 — `get_unique_seq` as a function of its own and the onset-wise / note-wise helpers on two-dimensional and
structured inputs (Model/CodecSeq.lean).
-/
import PartituraModel.Props.C18Groups
import PartituraModel.Proofs.C18Seq

namespace C18
open Model Model.Codec C18P

/-- `get_unique_seq(onsets, offsets[, return_diff])` with the groups it infers itself, for any notes whose offsets do not
    precede their onsets: it returns; `u_onset` is the group means followed by `last_time`, strictly increasing, one
    longer than the groups; the groups partition the notes; `total_dur > 0`; `diff_u_onset` is there exactly on request,
    positive, one per group -/
theorem unique_seq_default {α : Type} (l : List α) (f g : α → Rat) (hne : l ≠ []) (hfg : ∀ x ∈ l, f x ≤ g x) (rd : Bool) :
    ∃ u, uniqueSeq (l.map f) (l.map g) none rd = some u ∧
      (∃ gs last, u.groups = gs.map (·.map (·.1)) ∧ gs.flatten.Perm (enumFrom 0 (l.map f)) ∧
        u.uOnset = groupMeans (fun x => x) gs ++ [last] ∧ lastTime (l.map f) (l.map g) = some last) ∧
      u.uOnset.Pairwise (· < ·) ∧ u.uOnset.length = u.groups.length + 1 ∧ 0 < u.totalDur ∧
      u.diff = (if rd then some (diffs u.uOnset) else none) ∧
      (∀ d ∈ diffs u.uOnset, 0 < d) ∧ (diffs u.uOnset).length = u.groups.length := by
  obtain ⟨h1, h2, h3, h4⟩ := uniqueSeq_default_groups (l.map f)
  obtain ⟨u, hu, hg, ⟨last, hl1, hl2⟩, r1, r2, r3, r4, r5, r6⟩ :=
    uniqueSeq_of_groups l f g hne hfg none (groupsBy (fun x => x) (l.map f)) rfl h1 h2 h3 rd
  exact ⟨u, hu, ⟨_, last, hg, h4, hl1, hl2⟩, r1, r2, r3, r4, r5, r6⟩

/-- the same for a caller's `unique_onset_idxs` (indices inside the table, no empty group, mean onsets increasing) -/
theorem unique_seq_groups {α : Type} (l : List α) (f g : α → Rat) (hne : l ≠ []) (hfg : ∀ x ∈ l, f x ≤ g x)
    (idx : List (List Nat)) (gs : List (Grp Rat)) (hpick : pickGroups (l.map f) idx = some gs)
    (hgne : ∀ g ∈ gs, g ≠ []) (hinc : (groupMeans (fun x => x) gs).Pairwise (· < ·)) (rd : Bool) :
    ∃ u, uniqueSeq (l.map f) (l.map g) (some idx) rd = some u ∧ u.groups = gs.map (·.map (·.1)) ∧
      (∃ last, u.uOnset = groupMeans (fun x => x) gs ++ [last] ∧ lastTime (l.map f) (l.map g) = some last) ∧
      u.uOnset.Pairwise (· < ·) ∧ u.uOnset.length = u.groups.length + 1 ∧ 0 < u.totalDur ∧
      u.diff = (if rd then some (diffs u.uOnset) else none) ∧
      (∀ d ∈ diffs u.uOnset, 0 < d) ∧ (diffs u.uOnset).length = u.groups.length :=
  uniqueSeq_of_groups l f g hne hfg (some idx) gs hpick hgne
    (fun g hg p hp => (pickGroups_mem (l.map f) idx gs hpick g hg p hp).1) hinc rd

/-- both branches of `last_time`, a caller's grouping, `return_diff`; what is refused -/
example : uniqueSeq [0, 1, 1, 2] [1, 2, 3/2, 4] none true = some ⟨[0, 1, 2, 4], 4, [[0], [1, 2], [3]], some [1, 1, 2]⟩
    ∧ uniqueSeq [0, 1, 1, 2] [1, 2, 3/2, 2] none false = some ⟨[0, 1, 2, 3], 3, [[0], [1, 2], [3]], none⟩
    ∧ uniqueSeq [0, 1, 1, 2] [1, 2, 3/2, 4] (some [[0, 1], [3, 2]]) true = some ⟨[1/2, 3/2, 4], 4, [[0, 1], [3, 2]], some [1, 5/2]⟩
    ∧ uniqueSeq [] [] none false = none ∧ uniqueSeq [0] [] none false = none
    ∧ uniqueSeq [0, 1] [1, 2] (some [[0], [2]]) false = none ∧ uniqueSeq [0, 1] [1, 2] (some [[0], [], [1]]) false = none := by
  decide +kernel

/-- `notewise_to_onsetwise ∘ onsetwise_to_notewise = id` on two-dimensional and structured inputs (every column / field),
    for every partition into non-empty groups -/
theorem onsetwise_roundtrip_columns (n : Nat) (gs : List (List Nat)) (cols : List (List Rat))
    (hperm : gs.flatten.Perm (List.range n)) (hne : ∀ g ∈ gs, g ≠ []) (hlen : ∀ c ∈ cols, c.length = gs.length) :
    ∃ v, toNotewise2 cols gs = some v ∧ (∀ c ∈ v, c.length = n) ∧ v.length = cols.length ∧ toOnsetwise2 v gs = some cols := by
  induction cols with
  | nil => exact ⟨[], rfl, by simp, rfl, rfl⟩
  | cons c rest ih =>
    obtain ⟨v, h1, h2, h3, h4⟩ := ih (fun c' hc' => hlen c' (by simp [hc']))
    obtain ⟨w, hw1, hw2, hw3⟩ := onsetwise_roundtrip n gs c hperm hne (hlen c (by simp))
    refine ⟨w :: v, ?_, ?_, by simp [h3], ?_⟩
    · unfold toNotewise2 at h1 ⊢
      simp only [List.map_cons, allSome, hw1, h1, Option.map_some]
    · intro c' hc'
      rcases List.mem_cons.mp hc' with rfl | hc'
      · exact hw2
      · exact h2 c' hc'
    · unfold toOnsetwise2 at h4 ⊢
      simp only [List.map_cons, allSome, hw3, h4, Option.map_some]

example : toNotewise2 [[2, 7, 9/2], [1, 0, -1]] [[0, 2], [1], [4, 3]] = some [[2, 7, 2, 9/2, 9/2], [1, 0, 1, -1, -1]]
    ∧ toOnsetwise2 [[2, 7, 2, 9/2, 9/2], [1, 0, 1, -1, -1]] [[0, 2], [1], [4, 3]] = some [[2, 7, 9/2], [1, 0, -1]] := by
  decide +kernel

/-- the column dispatch of `decode_performance`: refused exactly when a field it reads is missing, otherwise `decodeFull` -/
theorem decode_columns (n : Norm) (fields : List String) (ss : List SRow) (ids? : Option (List String)) (ps : List ParamRow) :
    ((∃ c ∈ requiredColumns n, c ∉ fields) → decodeFullC n fields ss ids? ps = none) ∧
    ((∀ c ∈ requiredColumns n, c ∈ fields) → decodeFullC n fields ss ids? ps = decodeFull n ss ids? ps) := by
  unfold decodeFullC columnsOk
  constructor
  · rintro ⟨c, hc, hn⟩
    have : ¬ ((requiredColumns n).all (fields.contains ·) = true) := by
      rw [List.all_eq_true]
      intro h
      exact hn (by simpa using h c hc)
    rw [if_neg this]
  · intro h
    have : (requiredColumns n).all (fields.contains ·) = true := by
      rw [List.all_eq_true]
      intro c hc
      simpa using h c hc
    rw [if_pos this]

/-- fields `decode_performance` does not read and the order of the fields are irrelevant -/
theorem columns_extra_and_order (n : Norm) (fields fields' : List String) (h : ∀ c, c ∈ fields → c ∈ fields') :
    columnsOk n fields = true → columnsOk n fields' = true := by
  unfold columnsOk
  rw [List.all_eq_true, List.all_eq_true]
  intro h1 c hc
  have := h1 c hc
  simp only [List.contains_iff_mem] at this ⊢
  exact h c this

/-- the array `encode_performance` builds under normalisation `n` decodes under `n'` exactly when `n' = n` or
    `n' = beat_period` ("in practice, always reconstruct the time by beat_period") -/
theorem encoded_columns_decode (n n' : Norm) : columnsOk n' (encodedColumns n) = true ↔ (n' = n ∨ n' = .bp) := by
  cases n <;> cases n' <;> decide

example : decodeFullC .ratio ["beat_period", "velocity", "timing", "articulation_log", "beat_period_mean"]
      [⟨"a", 0, 60, 0, 1⟩] none [⟨0, 1, [1, 1/2], 1/2⟩] = none
    ∧ decodeFullC .ratio ["beat_period_mean", "pedal", "beat_period", "velocity", "timing", "articulation_log", "beat_period_ratio"]
      [⟨"a", 0, 60, 0, 1⟩] none [⟨0, 1, [1, 1/2], 1/2⟩] = some ([("a", 60, 0, 1/2, 64)], [("a", "a")]) := by
  decide +kernel

end C18
