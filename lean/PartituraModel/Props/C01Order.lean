/-
C01 — ORDER among the objects of one time point.

`regAt pts sd x` is the registry of side `sd` of the point at time `x` AS A LIST (`[]` when there is no point).
Proved: the exact list after every state-changing operation — `add` appends (an object already listed keeps
its position), `remove` deletes without disturbing the others, nothing else touches any registry — and the
exact order of a query answer: time points in increasing time, inside a point the class itself first, then
the classes in `iter_subclasses` order, inside a class insertion order.
-/
import PartituraModel.Proofs.C01XStep
import PartituraModel.Props.C01Classes

namespace C01
open TL

/-- `_OrderedSet.add`: a new element goes LAST; re-adding an element keeps its position -/
theorem regAdd_order (l : List ObjRef) (o : ObjRef) :
    (o ∉ l → regAdd l o = l ++ [o]) ∧ (o ∈ l → regAdd l o = l) := by
  unfold regAdd
  exact ⟨fun h => by simp [h], fun h => by simp [h]⟩

/-- `_OrderedSet.remove`: the element is gone, the others keep their relative order -/
theorem regRemove_order (l : List ObjRef) (o : ObjRef) :
    (regRemove l o).Sublist l ∧ o ∉ regRemove l o ∧ (∀ x ∈ l, x ≠ o → x ∈ regRemove l o)
      ∧ (o ∉ l → regRemove l o = l) := by
  refine ⟨List.filter_sublist, ?_, fun x hx hne => ?_, regRemove_of_not_mem⟩
  · simp [regRemove]
  · simp [regRemove, hx, hne]

/-- `add(o, start, end)` in ANY reachable state: on each supplied side the registry at that time becomes
`regAdd old o`; every other registry is the same list as before -/
theorem registry_order_add {s : Part} (hW : WInv s) {o : ObjRef} {st en : Option Int}
    (hn : (Op.add o st en).negTime = false) :
    ∃ s', step s (.add o st en) = .ok (s', .unit) ∧ ∀ sd x, regAt s'.points sd x
      = if (sd = .start ∧ st = some x) ∨ (sd = .stop ∧ en = some x) then regAdd (regAt s.points sd x) o
        else regAt s.points sd x := by
  obtain ⟨s', h1, r⟩ := add_wspec hW hn
  exact ⟨s', h1, r.regs⟩

/-- `remove(o, which)` in ANY reachable state: on each requested side the registry of the point the object
refers to loses the object; every other registry is the same list as before -/
theorem registry_order_remove {s : Part} (hW : WInv s) (o : ObjRef) (w : Which) :
    ∃ s', step s (.remove o w) = .ok (s', .unit) ∧ ∀ sd x, regAt s'.points sd x
      = if w.has sd ∧ (getObj s.objs o).at sd = some x then regRemove (regAt s.points sd x) o
        else regAt s.points sd x := by
  obtain ⟨s', h1, r⟩ := remove_wspec hW o w
  exact ⟨s', h1, r.regs⟩

/-- `get_or_add_point` and `set_quarter_duration` leave every registry as the list it was -/
theorem registry_order_frame {s : Part} (hW : WInv s) :
    (∀ t, 0 ≤ t → ∀ s' out, step s (.getOrAdd t) = .ok (s', out) → ∀ sd x, regAt s'.points sd x = regAt s.points sd x)
    ∧ (∀ t q sd x, regAt (setQD s t q).points sd x = regAt s.points sd x) := by
  refine ⟨fun t ht s' out he => ?_, setQD_regAt s⟩
  · obtain ⟨s'', h1, r⟩ := getOrAdd_wspec hW ht
    rw [he] at h1
    cases h1
    exact r.regs

/-- `tp.add_*_object(o)` / `tp.remove_*_object(o)` called directly on the point at `t` -/
theorem registry_order_tp {s : Part} (hW : WInv s) (sd : Side) {t : Int} (o : ObjRef) (ht : t ∈ s.times) :
    (∀ sd' x, regAt (tpRegister s sd t o).points sd' x
      = if x = t ∧ sd' = sd then regAdd (regAt s.points sd t) o else regAt s.points sd' x)
    ∧ (∀ sd' x, regAt (tpUnregister s sd t o).points sd' x
      = if x = t ∧ sd' = sd then regRemove (regAt s.points sd t) o else regAt s.points sd' x) := by
  refine ⟨register_regAt hW.sorted ht sd o, fun sd' x => ?_⟩
  rw [tpUnregister_eq, allowEmpty_points]
  exact unregister_regAt hW.sorted sd t o sd' x

/-- ONE point's answer: `iter_starting(cls, incl)` yields the registry's objects of the class itself first,
then of the classes in `iter_subclasses(cls)` order; inside a class in registry (= insertion) order -/
theorem answer_order_in_point {reg : List ObjRef} (hn : reg.Nodup) (cls : Option Nat) (incl : Bool)
    (hc : ∀ c, cls = some c → c < Gen.numClasses) :
    iterReg reg cls incl = ((classOrder cls incl).flatMap fun c => reg.filter (fun o => o.cls == c))
    ∧ (iterReg reg cls incl).Pairwise fun o1 o2 =>
        (classOrder cls incl).idxOf o1.cls < (classOrder cls incl).idxOf o2.cls
        ∨ (o1.cls = o2.cls ∧ reg.idxOf o1 < reg.idxOf o2) := by
  refine ⟨iterReg_eq_classOrder reg cls incl, ?_⟩
  rw [iterReg_eq_classOrder]
  exact buckets_ordered hn (classOrder_nodup cls incl)

/-- the whole answer of `iter_all`: the time points of `[a, b)` in increasing time order, each contributing its
registry of the chosen side filtered class by class along the class walk -/
theorem iterAll_order {s : Part} (hW : WInv s) (cls : Option Nat) (a b : Option Int) (incl : Bool) (mode : Mode) :
    iterAll s cls a b incl mode
      = (rangePoints s.points a b).flatMap (fun p =>
          (classOrder cls (inclEff cls incl)).flatMap fun c => (p.reg mode.side).filter (fun o => o.cls == c))
    ∧ ((rangePoints s.points a b).map (·.t)).Pairwise (· < ·)
    ∧ (∀ p, p ∈ rangePoints s.points a b ↔ p ∈ s.points ∧ inRange a b p.t)
    ∧ (∀ p ∈ rangePoints s.points a b, p.reg mode.side = regAt s.points mode.side p.t) := by
  refine ⟨?_, sorted_filter hW.sorted _, ?_, ?_⟩
  · rw [iterAll_eq hW.sorted]
    congr 1
    funext p
    exact iterReg_eq_classOrder _ _ _
  · intro p
    rw [rangePoints, List.mem_filter, inRange_iff]
  · exact fun p hp => (regAt_of_point hW.sorted (List.mem_filter.mp hp).1 _).symm

section Examples

/-- three notes at one point, the second re-added after removal: it moves to the END of its bucket; the
GraceNote (class 3, a subclass of Note = class 2) comes after the Notes whatever the insertion order -/
def ohist : List Op :=
  [.add nB (some 4) none, .add nA (some 4) none, .add rD (some 4) none,
   .add { id := 7, cls := 2 } (some 4) none, .remove nA .start, .add nA (some 4) none]

example : regAt (run (Part.init 1) ohist).points .start 4 = [nB, rD, { id := 7, cls := 2 }, nA] := by decide +kernel
example : iterAll (run (Part.init 1) ohist) (some 2) none none true .starting = [{ id := 7, cls := 2 }, nA, nB] := by
  decide +kernel
example : classOrder (some 2) true = [2, 3] ∧ classOrder none false = [] := by decide +kernel
example : regAdd [nA, nB] nA = [nA, nB] ∧ regAdd [nA, nB] rD = [nA, nB, rD] ∧ regRemove [nA, nB, rD] nB = [nA, rD] := by
  decide

end Examples

end C01
