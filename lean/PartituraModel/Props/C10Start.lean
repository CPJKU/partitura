/-
C10 — the side conditions of `pickup_spec_composed` as conditions on the part DESCRIPTION.

`SimpleStart` (Props/C10Part.lean) speaks about the key points of C02's beat-map model (`keypoints … = k :: k' :: post`,
`k.t = 0`, `q0 / factor ≤ k'.t`).  Here those are derived from what a user can read off the part: the timeline
starts at 0 and is at least one beat long, the first time signature starts at 0 and the others later, the quarter
duration set at 0 is `q0` and the later changes come later - and none of the later signatures / quarter-duration
changes lies inside the first beat.  Hence `pickup_spec_described`: the pickup rule with no hypothesis about the model's
internals (the remaining ones are validity of the input: positive numbers in the signatures and quarter durations).
-/
import PartituraModel.Props.C10Exact

namespace C10
open Model Model.StepMap

/-- what `simple_start_of_description` asks of a description: everything is stated on `p` itself -/
structure DescribedStart (p : PartD) (l : Int) (s0 : TimeMap.TSig) (rest : List TimeMap.TSig) (q0 : Nat)
    (qrest : List (Int × Nat)) : Prop where
  span : p.span = some (0, l)
  /-- validity of the input: at least two time points, positive quarter durations and signature numbers -/
  wf : C02Proofs.WF (timePart p) (TimeMap.beatMode (timePart p))
  ts : p.ts = s0 :: rest
  s0t : s0.t = 0
  later : ∀ s ∈ rest, 0 < s.t
  qd : p.qd = (0, q0) :: qrest
  qlater : ∀ e ∈ qrest, 0 < e.1
  /-- one beat (of the beat mode in use) of the first signature fits before the end of the timeline, before every
      later signature and before every later quarter-duration change -/
  beat_le_last : (q0 : Rat) / TimeMap.factorOf (TimeMap.beatMode (timePart p)) s0 ≤ (l : Rat)
  beat_le_ts : ∀ s ∈ rest, (q0 : Rat) / TimeMap.factorOf (TimeMap.beatMode (timePart p)) s0 ≤ (s.t : Rat)
  beat_le_qd : ∀ e ∈ qrest, (q0 : Rat) / TimeMap.factorOf (TimeMap.beatMode (timePart p)) s0 ≤ (e.1 : Rat)

/-- **`simple_start_of_description`**: the key-point conditions of `SimpleStart` follow from the description -/
theorem simple_start_of_description (p : PartD) (l : Int) (s0 : TimeMap.TSig) (rest : List TimeMap.TSig) (q0 : Nat)
    (qrest : List (Int × Nat)) (H : DescribedStart p l s0 rest q0 qrest) :
    ∃ k k' post, SimpleStart p l s0 rest q0 k k' post := by
  obtain ⟨hspan, hwf, hts, hs0, hlater, hqd, hqlater, hbl, hbts, hbqd⟩ := H
  have hl : 0 < l := by
    have := hwf.2.1
    rwa [(timePart_first_last p 0 l hspan).1, (timePart_first_last p 0 l hspan).2] at this
  -- every key time of the beat map is 0 or lies at least one beat later
  have hkey : ∀ x ∈ TimeMap.keyTimes (timePart p) (TimeMap.beatMode (timePart p)),
      x = 0 ∨ (0 < x ∧ (q0 : Rat) / TimeMap.factorOf (TimeMap.beatMode (timePart p)) s0 ≤ (x : Rat)) := by
    intro x hx
    rcases (mem_keyTimes_timePart p l hspan x).mp hx with rfl | rfl | hx | hx
    · exact Or.inl rfl
    · exact Or.inr ⟨hl, hbl⟩
    · rw [hqd] at hx
      rcases List.mem_cons.mp hx with rfl | hx
      · exact Or.inl rfl
      · obtain ⟨e, he, rfl⟩ := List.mem_map.mp hx
        exact Or.inr ⟨hqlater e he, hbqd e he⟩
    · rw [hts] at hx
      rcases List.mem_cons.mp hx with rfl | hx
      · exact Or.inl hs0
      · obtain ⟨s, hs, rfl⟩ := List.mem_map.mp hx
        exact Or.inr ⟨hlater s hs, hbts s hs⟩
  -- so the key times begin `0, b, …`, and the key points are carried along them
  obtain ⟨b, K'', hK, hb0⟩ := increasing_from_zero (C02Proofs.keyTimes_pairwise _ _)
    (fun x hx => by rcases hkey x hx with h | h <;> omega)
    ((mem_keyTimes_timePart p l hspan 0).mpr (Or.inl rfl)) hl
    ((mem_keyTimes_timePart p l hspan l).mpr (Or.inr (Or.inl rfl)))
  have hreach : (q0 : Rat) / TimeMap.factorOf (TimeMap.beatMode (timePart p)) s0 ≤ (b : Rat) := by
    rcases hkey b (by rw [hK]; exact List.mem_cons_of_mem _ List.mem_cons_self) with h | h
    · omega
    · exact h.2
  have hshape : ∃ d f d' f' post,
      TimeMap.keypoints (timePart p) (TimeMap.beatMode (timePart p)) = ⟨0, d, f⟩ :: ⟨b, d', f'⟩ :: post := by
    unfold TimeMap.keypoints
    rw [hK]
    exact ⟨_, _, _, _, _, rfl⟩
  obtain ⟨d, f, d', f', post, hshape⟩ := hshape
  exact ⟨⟨0, d, f⟩, ⟨b, d', f'⟩, post,
    ⟨hspan, hwf, hts, hs0, hlater, hqd ▸ C02Proofs.qdAssign_at_zero q0 qrest hqlater, hshape, rfl, hreach⟩⟩

/-- **`pickup_spec_described`**: the pickup rule as a theorem about the description, with no side condition on the
    model's internals: for a part whose first signature and quarter duration start at 0 and are not changed inside
    the first beat, and whose timeline is at least one beat long, in either beat mode, the first measure `(s, e)` keeps
    its start when it is at least a full bar of the first signature long and otherwise starts at
    `round(e − full bar)` -/
theorem pickup_spec_described (p : PartD) (l : Int) (s0 : TimeMap.TSig) (rest : List TimeMap.TSig) (q0 : Nat)
    (qrest : List (Int × Nat)) (H : DescribedStart p l s0 rest q0 qrest) :
    (∃ b d, beatsPerBar p = some b ∧ divsPerBeat p = some d ∧ b * d = fullBar s0 q0) ∧
    ∀ s e : Int, pickupStart s e (beatsPerBar p) (divsPerBeat p)
      = if ((e - s : Int) : Rat) < fullBar s0 q0 then roundHalfEven ((e : Rat) - fullBar s0 q0) else s := by
  obtain ⟨k, k', post, hS⟩ := simple_start_of_description p l s0 rest q0 qrest H
  exact pickup_spec_composed p l s0 rest q0 k k' post hS

/-- **`divs_per_beat_described`**: under the same description-level hypotheses `divs_per_beat` is the quarter
    duration at 0 divided by the beat factor of the first signature - it does not depend on any later quarter-duration
    entry, signature or on the length of the timeline -/
theorem divs_per_beat_described (p : PartD) (l : Int) (s0 : TimeMap.TSig) (rest : List TimeMap.TSig) (q0 : Nat)
    (qrest : List (Int × Nat)) (H : DescribedStart p l s0 rest q0 qrest) :
    divsPerBeat p = some ((q0 : Rat) / TimeMap.factorOf (TimeMap.beatMode (timePart p)) s0) := by
  obtain ⟨k, k', post, hS⟩ := simple_start_of_description p l s0 rest q0 qrest H
  exact divsPerBeat_simple p l s0 rest q0 k k' post hS

/-- **`pickup_maps_exact_described`**: `pickup_maps_exact` with the same description-level hypotheses - inside a pickup
    shorter than a bar of `N` whole divisions, `measure_map = (e − N, e)` and
    `metrical_position_map = (x − e + N, N)`, at every resolution -/
theorem pickup_maps_exact_described (p : PartD) (l : Int) (s0 : TimeMap.TSig) (rest : List TimeMap.TSig) (q0 : Nat)
    (qrest : List (Int × Nat)) (H : DescribedStart p l s0 rest q0 qrest)
    (N : Int) (hN : fullBar s0 q0 = (N : Rat)) (hr : raisesP p = false) (ht : Tiles (bars p))
    (s e : Int) (hi : (bars p)[0]? = some (s, e)) (hshort : e - s < N) (x : Int) (hs : s ≤ x) (he : x < e) :
    measureMapP p x = some (some (e - N, e)) ∧ metricalMapP p x = some (x - e + N, some N) := by
  obtain ⟨k, k', post, hS⟩ := simple_start_of_description p l s0 rest q0 qrest H
  exact pickup_maps_exact p l s0 rest q0 k k' post hS N hN hr ht s e hi hshort x hs he

/-- non-vacuity: the example part of Props/C10Part.lean (6/8 in musical beats, divisions 4, a second signature and a
    quarter-duration change at 28: one dotted beat = 6 divisions fits before both) -/
example : DescribedStart exPart 52 ⟨0, 6, 8, 2⟩ [⟨28, 3, 4, 3⟩] 4 [(28, 8)] :=
  ⟨rfl, by decide +kernel, rfl, rfl, by decide +kernel, rfl, by decide +kernel, by decide +kernel, by decide +kernel, by decide +kernel⟩

end C10
