/-
C17 — the binary64 steps of pitch spelling.  `compute_morphetic_pitch` chooses the octave of a morph by comparing three
distances it evaluates in binary64, and `p2pn` divides in binary64; `Model/C17Float.lean` mirrors these operations one
by one with IEEE 754 round-to-nearest-even.  On the whole MIDI range (0 .. 127, a superset of the property's 21 .. 108)
the rounded evaluation is proved to take the same decisions as the exact rational one, so every theorem of
Props/C17.lean about `Ps13.ps13` is a theorem about the spelling the code computes, rounding included.
-/
import PartituraModel.Proofs.C17Float
import PartituraModel.Proofs.C17Round
import PartituraModel.Props.C17

namespace C17
open Model Gen

/-! `Model/C17Float.lean` computes with integers only (dyadic numbers `m · 2^e`, a binary search for the leading bit).  That this
IS IEEE 754 round-to-nearest-even — for every input, not for the sampled ones of the correspondence stream `fl` / `fop` —
is proved by `binary64_round` … `leading_bit` below; what remains trusted about floating point is that numpy's float64 `+ - /` are correctly rounded and that
no overflow or subnormal occurs (the numbers of ps13 lie between 2^-10 and 2^8). -/

/-- `r` is a correct binary64 rounding of the rational `x`: zero for zero; otherwise a 53-bit significand
    (`2^52 ≤ |m| ≤ 2^53`), at most half a unit in the last place (`2^e`) away from `x`, and an even significand when `x`
    lies exactly halfway between two such numbers -/
def CorrectlyRounded (r : C17Float.Dy) (x : Rat) : Prop :=
  (x = 0 → r.m = 0) ∧
  (x ≠ 0 → (2 : Int) ^ 52 ≤ |r.m| ∧ |r.m| ≤ 2 ^ 53 ∧ 2 * |r.toRat - x| ≤ C17Float.pow2 r.e ∧
    (2 * |r.toRat - x| = C17Float.pow2 r.e → r.m % 2 = 0))

/-- `float(x)`: every rational is rounded correctly -/
theorem binary64_round (x : Rat) : CorrectlyRounded (C17Float.fl x) x := C17R.fl_nearest x

/-- `a + b`, `a - b` and `a / b` (`b ≠ 0`) of two dyadic numbers — in particular of two binary64 numbers — are the
    correctly rounded exact sum, difference and quotient -/
theorem binary64_add (a b : C17Float.Dy) : CorrectlyRounded (C17Float.fadd a b) (a.toRat + b.toRat) :=
  C17R.fadd_nearest a b
theorem binary64_sub (a b : C17Float.Dy) : CorrectlyRounded (C17Float.fsub a b) (a.toRat - b.toRat) :=
  C17R.fsub_nearest a b
theorem binary64_div (a b : C17Float.Dy) (hb : b.m ≠ 0) : CorrectlyRounded (C17Float.fdiv a b) (a.toRat / b.toRat) :=
  C17R.fdiv_nearest a b hb

/-- `np.floor` and `<` on dyadic numbers are exact -/
theorem binary64_floor_lt (a b : C17Float.Dy) :
    a.floor = ⌊a.toRat⌋ ∧ (C17Float.Dy.lt a b = true ↔ a.toRat < b.toRat) :=
  ⟨C17R.floor_eq a, C17R.lt_iff a b⟩

/-- the leading-bit search the rounding relies on: `lg w` is `⌊log2 w⌋` -/
theorem leading_bit (w : Nat) (h : 1 ≤ w) : 2 ^ C17Float.lg w ≤ w ∧ w < 2 ^ (C17Float.lg w + 1) := C17R.lg_spec w h

/-- non-vacuity: an exact tie.  `2^53 + 1` lies halfway between the neighbours `2^53` and `2^53 + 2`; the even significand
    wins (kernel-evaluated), as `float(9007199254740993) == 9007199254740992.0` -/
example : C17Float.fl 9007199254740993 = ⟨4503599627370496, 1⟩ ∧
    2 * |(C17Float.fl 9007199254740993).toRat - 9007199254740993| = C17Float.pow2 1 := by
  decide +kernel

/-- the octave `compute_morphetic_pitch` picks in binary64 is the one exact arithmetic picks: every chromatic pitch of
    the MIDI range (cp = MIDI - 21), every morph (whole table 128 x 7, each entry ten rounded operations, kernel-evaluated) -/
theorem morphetic_pitch_binary64 (cp : Int) (m : Nat) (h0 : -21 ≤ cp) (h1 : cp ≤ 106) (hm : m < 7) :
    C17Float.morpheticPitchF cp (m : Int) = Ps13.morpheticPitch cp (m : Int) :=
  C17F.morpheticPitchF_eq cp m h0 h1 hm

/-- outside the range the claim is false, which is why it is stated with the range: near 2^51 semitones the rounding of
    `octave + chroma / 12` moves the note across the middle between two candidate octaves -/
example : C17Float.morpheticPitchF 1688849860263944 1 ≠ Ps13.morpheticPitch 1688849860263944 1 := by decide +kernel

/-- `np.floor(m_pitch / 7.0)` of `p2pn` is the exact floor for every morphetic pitch that can occur (-42 .. 97), so the
    step, alteration and octave computed with the binary64 quotient are the exact ones, for ANY chromatic pitch -/
theorem p2pn_binary64 (c mp : Int) (h0 : -42 ≤ mp) (h1 : mp ≤ 97) : C17Float.p2pnF c mp = Ps13.p2pn c mp :=
  C17F.p2pnF_eq c mp h0 h1

/-- end to end: on every note array whose pitches are MIDI pitches, any window sizes, any onsets, any row order, ps13 with
    the binary64 steps returns exactly what the exact model returns (and rejects the empty array like it) -/
theorem spelling_binary64 (kpre kpost : Nat) (notes : List Ps13.Row) (hr : ∀ r ∈ notes, 0 ≤ r.2 ∧ r.2 ≤ 127) :
    C17Float.ps13F kpre kpost notes = Ps13.ps13 kpre kpost notes :=
  C17P.wrap_congr _ _ notes
    (C17F.stage1F_eq kpre kpost _ fun r hrm => hr r ((C17P.sortedRows_perm notes).mem_iff.mp hrm))

/-- hence, rounding included: every note is spelled and its spelling sounds exactly its MIDI pitch -/
theorem spelling_sounds_binary64 (kpre kpost : Nat) (notes : List Ps13.Row) (sp : List (String × Int × Int))
    (hr : ∀ r ∈ notes, 0 ≤ r.2 ∧ r.2 ≤ 127) (h : C17Float.ps13F kpre kpost notes = some sp) :
    sp.length = notes.length ∧
    ∀ i (hi : i < notes.length), ∃ s, sp[i]? = some s ∧ sounding s = some notes[i].2 := by
  rw [spelling_binary64 kpre kpost notes hr] at h
  exact spelling_sounds kpre kpost notes sp h

/-- hence, rounding included: at most a double accidental on every note, for the default windows of `ps13s1` -/
theorem double_acc_binary64 (notes : List Ps13.Row) (sp : List (String × Int × Int))
    (hr : ∀ r ∈ notes, 0 ≤ r.2 ∧ r.2 ≤ 127) (h : C17Float.ps13F PS13_K_PRE PS13_K_POST notes = some sp) :
    ∀ s ∈ sp, -2 ≤ s.2.1 ∧ s.2.1 ≤ 2 := by
  rw [spelling_binary64 _ _ notes hr] at h
  exact double_acc_default notes sp h

/-- hence, rounding included: permuting the rows permutes the (row, spelling) pairs -/
theorem spelling_perm_binary64 (kpre kpost : Nat) (notes notes' : List Ps13.Row)
    (sp sp' : List (String × Int × Int)) (hp : notes.Perm notes') (hr : ∀ r ∈ notes, 0 ≤ r.2 ∧ r.2 ≤ 127)
    (h : C17Float.ps13F kpre kpost notes = some sp) (h' : C17Float.ps13F kpre kpost notes' = some sp') :
    (notes.zip sp).Perm (notes'.zip sp') := by
  rw [spelling_binary64 kpre kpost notes hr] at h
  rw [spelling_binary64 kpre kpost notes' (fun r hm => hr r (hp.mem_iff.mpr hm))] at h'
  exact spelling_perm kpre kpost notes notes' sp sp' hp h h'

/-- non-vacuity: the witness of seeded change C17-i on the unchanged tables — E flat, D, D, G sharp: the first note is
    E flat (not D sharp) and the last note an A flat (not an F with three sharps) (stage 1 on the rows in onset order, kernel-evaluated
    through the binary64 model) -/
example : C17Float.stage1F 10 40 [(0, 63), (1, 62), (2, 62), (3, 68)] =
    [("E", -1, 4), ("D", 0, 4), ("D", 0, 4), ("A", -1, 4)] := by decide +kernel

/-- the rounding function on two familiar numbers: `0.1` and `0.1 + 0.2` -/
example : (C17Float.fl (1 / 10)).toRat = (3602879701896397 : Rat) / 36028797018963968 ∧
    (C17Float.fadd (C17Float.fl (1 / 10)) (C17Float.fl (2 / 10))).toRat = (1351079888211149 : Rat) / 4503599627370496 := by
  decide +kernel

end C17
