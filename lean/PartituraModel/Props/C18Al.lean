/-
C18 — the forms of an alignment (Model/CodecAl.lean).  Model/Codec.lean reads an alignment as triples with
string ids; the code receives dicts — entries without `label`, matches without `score_id` / `performance_id`, ids that
are integers or `None` — and `to_matched_score` rewrites the caller's list in place.
-/
import PartituraModel.Props.C18
import PartituraModel.Proofs.C18Al

namespace C18
open Model Model.Codec C18P

/-- alignments with string ids: `toMatchedScore` / `matchedNotes` of Model/Codec.lean are exact (`matchedNotes` when every
    match has both keys — a match without one is a `KeyError`, which the plain `matchedNotes` cannot say), and nothing is
    rewritten: every theorem about Model/Codec.lean speaks about the code path for such alignments -/
theorem plain_alignment (ss : List SRow) (ps : List PRow) (al : List ARow) :
    toMatchedScoreA ss ps (al.map ofARow) = (toMatchedScore ss ps al, al.map ofARow)
    ∧ matchedNotesA ss ps (al.map ofARow)
        = if (al.map ofARow).all keysOk then some (matchedNotes ss ps al) else none := by
  constructor
  · apply Prod.ext
    · rw [toMatchedScoreA_fst ss ps _ (by intro a ha; obtain ⟨b, _, rfl⟩ := List.mem_map.mp ha; rfl)]
      simp [List.map_map, Function.comp_def, flatS_ofARow]
    · rw [toMatchedScoreA_snd, normaliseIds_ofARow]
  · rw [matchedNotesA_flatP]
    simp [List.map_map, Function.comp_def, flatP_ofARow]

/-- `to_matched_score` on any alignment is the plain function on the alignment read through `flatS` (score id through
    `str`, performance id only if a string); an unlabelled entry raises -/
theorem matched_score_any_form (ss : List SRow) (ps : List PRow) (al : List AEntry) :
    ((∀ a ∈ al, a.label.isSome) → (toMatchedScoreA ss ps al).1 = toMatchedScore ss ps (al.map flatS))
    ∧ ((∃ a ∈ al, a.label = none) → (toMatchedScoreA ss ps al).1 = none) :=
  ⟨toMatchedScoreA_fst ss ps al, toMatchedScoreA_unlabelled ss ps al⟩

/-- the matched-table clause of the property for an alignment of any form: the rows are a rearrangement, ordered by
    (onset_div, pitch), of exactly the matches whose `str(score_id)` names a score note and whose performance id is the
    string id of a performance note -/
theorem matched_table_any_form (ss : List SRow) (ps : List PRow) (al : List AEntry) (rows : List MRow)
    (h : (toMatchedScoreA ss ps al).1 = some rows) :
    ∃ pairs : List (Nat × Nat),
      (∀ i j, (i, j) ∈ pairs ↔ ∃ a ∈ al, a.label = some "match" ∧ ∃ v p, a.sid = some v ∧ a.pid = some (.str p) ∧
          sIndex ss (pyStr v) = some i ∧ pIndex ps p = some j) ∧
      pairs.Pairwise (fun a b => lexLe (sKey ss a.1) (sKey ss b.1) = true) ∧
      List.Forall₂ (fun ij r => mkRow ss ps ij = some r) pairs rows := by
  have hlab : ∀ a ∈ al, a.label.isSome := by
    by_contra hc
    push Not at hc
    obtain ⟨a, ha, hn⟩ := hc
    have : a.label = none := by cases hx : a.label with | none => rfl | some l => rw [hx] at hn; simp at hn
    rw [toMatchedScoreA_unlabelled ss ps al ⟨a, ha, this⟩] at h
    cases h
  rw [toMatchedScoreA_fst ss ps al hlab] at h
  obtain ⟨pairs, hperm, hsorted, hrows⟩ := matched_table ss ps (al.map flatS) rows h
  refine ⟨pairs, ?_, hsorted, hrows⟩
  intro i j
  rw [hperm.mem_iff, matched_notes]
  constructor
  · rintro ⟨b, hb, hm, s, p, hs, hp, hi, hj⟩
    obtain ⟨a, ha, rfl⟩ := List.mem_map.mp hb
    obtain ⟨l, hl⟩ := Option.isSome_iff_exists.mp (hlab a ha)
    obtain ⟨v, hv, rfl⟩ := Option.map_eq_some_iff.mp ((flatS_sid a).symm.trans hs)
    refine ⟨a, ha, ?_, v, p, hv, (flatS_pid_eq_some a p).mp hp, hi, hj⟩
    simp only [flatS, hl, Option.getD_some] at hm
    rw [hl, hm]
  · rintro ⟨a, ha, hl, v, p, hv, hq, hi, hj⟩
    exact ⟨flatS a, List.mem_map.mpr ⟨a, ha, rfl⟩, by simp [flatS, hl], pyStr v, p, by rw [flatS_sid, hv]; rfl,
      (flatS_pid_eq_some a p).mpr hq, hi, hj⟩

/-- the alignment as `to_matched_score` leaves it: same length, labels and performance ids untouched, the score id of a
    match replaced by its `str` (up to the first entry that raises), nothing else -/
theorem alignment_rewritten (ss : List SRow) (ps : List PRow) (al : List AEntry) :
    (toMatchedScoreA ss ps al).2.length = al.length ∧
    List.Forall₂ (fun a b => b.label = a.label ∧ b.pid = a.pid ∧
      (b.sid = a.sid ∨ (a.label = some "match" ∧ ∃ v, a.sid = some v ∧ b.sid = some (.str (pyStr v)))))
      al (toMatchedScoreA ss ps al).2 := by
  rw [toMatchedScoreA_snd]
  exact ⟨normaliseIds_length al, normaliseIds_spec al⟩

theorem rewriting_completes (al : List AEntry) :
    (normaliseIds al).2 = true ↔ ∀ a ∈ al, ∃ l, a.label = some l ∧ (l = "match" → a.sid.isSome) :=
  normaliseIds_ok_iff al

theorem rewriting_idempotent (al : List AEntry) : normaliseIds (normaliseIds al).1 = normaliseIds al :=
  normaliseIds_idem al

/-- calling `to_matched_score` again with the list the first call left behind: same table, list unchanged -/
theorem matched_score_twice (ss : List SRow) (ps : List PRow) (al : List AEntry) :
    toMatchedScoreA ss ps (toMatchedScoreA ss ps al).2 = toMatchedScoreA ss ps al := by
  rw [toMatchedScoreA_snd]
  unfold toMatchedScoreA
  rw [normaliseIds_idem]

/-- `get_matched_notes` on any alignment: a `KeyError` iff a key it reads is missing, else the plain function on the
    alignment read through `flatP` (performance id through `str`, score id only if a string) -/
theorem matched_notes_any_form (ss : List SRow) (ps : List PRow) (al : List AEntry) :
    matchedNotesA ss ps al = if al.all keysOk then some (matchedNotes ss ps (al.map flatP)) else none :=
  matchedNotesA_flatP ss ps al

/-- the rewriting is visible to a later `get_matched_notes` on the same list, but only by adding pairs -/
theorem matched_notes_after_matched_score (ss : List SRow) (ps : List PRow) (al : List AEntry) (l : List (Nat × Nat))
    (h : matchedNotesA ss ps al = some l) :
    ∃ l', matchedNotesA ss ps (toMatchedScoreA ss ps al).2 = some l' ∧ l.Sublist l' := by
  rw [toMatchedScoreA_snd]
  exact matchedNotesA_after ss ps al l h

def alScore : List SRow := [⟨"1", 0, 60, 0, 1⟩, ⟨"n2", 1, 62, 1, 1⟩, ⟨"3", 2, 64, 2, 1⟩]
def alPerf : List PRow := [⟨"7", 1/2, 1/2, 60⟩, ⟨"p2", 1, 1/2, 70⟩, ⟨"9", 3/2, 1/2, 80⟩]

/-- an integer score id: `to_matched_score` pairs it and rewrites the list, `get_matched_notes` finds nothing before
    and the pair after -/
theorem rewriting_adds_a_pair :
    let al : List AEntry := [⟨some "match", some (.int 1), some (.str "7")⟩]
    (toMatchedScoreA alScore alPerf al).1.map (·.map (·.sidx)) = some [0]
    ∧ (toMatchedScoreA alScore alPerf al).2 = [⟨some "match", some (.str "1"), some (.str "7")⟩]
    ∧ matchedNotesA alScore alPerf al = some []
    ∧ matchedNotesA alScore alPerf (toMatchedScoreA alScore alPerf al).2 = some [(0, 0)] := by
  decide +kernel

/-- the two functions normalise opposite sides: an integer PERFORMANCE id is a `KeyError` in `to_matched_score` (after
    the list has been rewritten) and a pair for `get_matched_notes` -/
theorem id_sides_differ :
    let al : List AEntry := [⟨some "match", some (.int 1), some (.int 7)⟩]
    toMatchedScoreA alScore alPerf al = (none, [⟨some "match", some (.str "1"), some (.int 7)⟩])
    ∧ matchedNotesA alScore alPerf al = some []
    ∧ matchedNotesA alScore alPerf [⟨some "match", some (.str "1"), some (.int 7)⟩] = some [(0, 0)] := by
  decide +kernel

/-- missing keys: an unlabelled entry stops the rewriting where it stands; a match without `performance_id` is skipped
    by `to_matched_score` when its score id is unknown, but raises in `get_matched_notes` -/
example :
    toMatchedScoreA alScore alPerf
        [⟨some "match", some (.int 3), some (.str "9")⟩, ⟨none, none, none⟩, ⟨some "match", some (.int 1), none⟩]
      = (none, [⟨some "match", some (.str "3"), some (.str "9")⟩, ⟨none, none, none⟩, ⟨some "match", some (.int 1), none⟩])
    ∧ (toMatchedScoreA alScore alPerf [⟨some "match", some (.str "zz"), none⟩]).1 = some []
    ∧ matchedNotesA alScore alPerf [⟨some "match", some (.str "zz"), none⟩] = none := by
  decide +kernel

end C18
