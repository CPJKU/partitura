/-
C19 — the ORDER of the `<tie>` elements of an MEI document does not matter.

`mei_ties_collected` (Props/C19Sections.lean) says that the tie list holds every `<tie>` of the document in document order.
Here: the denotation does not depend on that order — a `<tie>` element may be moved to any other place of the document (into
another measure, section or ending, before or after the staves) as long as no two ties of the document start at the same
note.
-/
import PartituraModel.Proofs.C19TieOrder
import PartituraModel.Props.C19Sections

namespace C19
open Model Model.Mei C19S C19T

/-- `mei_tie_order_irrelevant`: a `<tie>` element written before `mid` denotes the same as the same element written after
    `mid` — `mid` is ANY list of events (whole measures, the end of a section and the start of the next, other ties …) —
    provided no two ties of the document start at the same note. -/
theorem mei_tie_order_irrelevant (pre mid post : List Ev) (as : List (String × String)) (hp : PlainAttrs as)
    (hnd : ((tiesOf (pre ++ .op "tie" as :: .cl :: (mid ++ post))).map (·.1)).Nodup) :
    denote (pre ++ .op "tie" as :: .cl :: (mid ++ post)) = denote (pre ++ (mid ++ .op "tie" as :: .cl :: post)) := by
  rw [denote_eq, denote_eq, runEvs_append, runEvs_append]
  cases hpre : runEvs {} pre with
  | none => rfl
  | some st =>
    refine (tie_move_states st as mid post hp).bind_eq fun af bf hA ⟨h1, h2⟩ => ?_
    have hties := (run_ties _ {} af (by rw [runEvs_append, hpre, Option.bind_some]; exact hA)).1
    have hnd' : (af.ties.map (·.1)).Nodup := by
      rw [hties, List.append_nil, List.map_reverse]
      exact (List.reverse_perm _).nodup_iff.mpr hnd
    rw [← partsOf_ties_perm af bf.ties h2.symm hnd']
    show partsOf (setTies bf.ties af) = partsOf bf
    rw [h1]

/-! ## non-vacuity: two ties of the document of `seeded/C19-g` written in the opposite order, one of them in the other section -/

def hdrT : List Ev :=
  [.op "score" [], .op "scoreDef" [], .op "staffGrp" [],
   .op "staffDef" [("xml:id", "P1"), ("n", "1"), ("meter.count", "2"), ("meter.unit", "4"), ("key.sig", "0")], .cl, .cl, .cl]

def measT (n : String) (notes : List Ev) : List Ev :=
  [.op "measure" [("n", n)], .op "staff" [("n", "1")], .op "layer" [("n", "1")]] ++ notes ++ [.cl, .cl, .cl]

def noteT (id dur pname : String) : List Ev :=
  [.op "note" [("xml:id", id), ("dur", dur), ("pname", pname), ("oct", "4")], .cl]

def preT : List Ev := hdrT ++ [.op "section" []] ++ measT "1" (noteT "a1" "4" "c" ++ noteT "a2" "4" "e")
def midT : List Ev := [.op "tie" [("startid", "#a3"), ("endid", "#a4")], .cl, .cl, .op "section" []] ++ measT "2" (noteT "a3" "2" "e")
def postT : List Ev := measT "3" (noteT "a4" "2" "e") ++ [.cl, .cl]

example : PlainAttrs [("startid", "#a2"), ("endid", "#a3")] ∧
    ((tiesOf (preT ++ .op "tie" [("startid", "#a2"), ("endid", "#a3")] :: .cl :: (midT ++ postT))).map (·.1)).Nodup := by
  decide +kernel

/-- the chain a2 - a3 - a4 lasts 1 + 2 + 2 quarters wherever the first tie is written -/
example : ((runEvs {} (preT ++ (midT ++ .op "tie" [("startid", "#a2"), ("endid", "#a3")] :: .cl :: postT))).map fun st =>
      (st.ties, chainDur st.notes st.ties st.ties.length "a2")) = some ([("a2", "a3"), ("a3", "a4")], 4) := by
  decide +kernel

example : ((runEvs {} (preT ++ .op "tie" [("startid", "#a2"), ("endid", "#a3")] :: .cl :: (midT ++ postT))).map fun st =>
      (st.ties, chainDur st.notes st.ties st.ties.length "a2")) = some ([("a3", "a4"), ("a2", "a3")], 4) := by
  decide +kernel

end C19
