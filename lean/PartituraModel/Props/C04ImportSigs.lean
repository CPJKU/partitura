/-
C04 — tempo marks through the importer, and the exact condition of `pad_bar`.

`load_score_midi` collects the `set_tempo` events of ALL tracks and adds them to the first part.  For a file written by
`save_score_midi` they are exactly the entries of the exporter's `tempos` dict (`tempo_positions`, `tempo_last_wins`
say what that dict holds): nothing is lost, duplicated or moved by the reader, in any import mode.
-/
import PartituraModel.Props.C04Sigs
import PartituraModel.Props.C04Total

namespace C04
open Model Model.Ticks Model.MidiPair Model.MidiModes Model.ScoreMidi

/-- **Tempo marks through the round trip**, every export mode, every import mode, every policy: the tempo events the
    importer hands to the first part are, as a multiset, exactly the entries of the exporter's `tempos` dict — one
    per tick, each a tempo mark of a part at the written tick of its position (or the default tempo at tick 0), and
    every tempo mark's tick is among them (`tempo_positions`; `tempo_last_wins` says which mark a shared tick keeps). -/
theorem import_tempo_positions (mode imode : Nat) (a : Anacrusis) (minPpq vel : Nat) (parts : List PartIn)
    (ex : Exported) (imp : Imported)
    (h : saveScoreMidi mode a minPpq vel parts = some ex)
    (hi : loadScoreMidi imode ex.ppq (ex.tracks.map (deltasFrom 0)) = some imp) :
    ∃ o, origin a (parts.map (·.base)) = some o ∧
      imp.tempos.Perm (exportTempos (fun x t => tick ex.ppq x.base o t) parts) ∧
      (imp.tempos.map (·.1)).Nodup ∧
      (∀ e ∈ imp.tempos, e = (0, 500000) ∨ ∃ x ∈ parts, ∃ tp ∈ x.tempos, e = (tick ex.ppq x.base o tp.1, tp.2)) ∧
      (∀ x ∈ parts, ∀ tp ∈ x.tempos, tick ex.ppq x.base o tp.1 ∈ imp.tempos.map (·.1)) := by
  obtain ⟨o, ho, _, hnd, hsrc, hcov⟩ := tempo_positions mode a minPpq vel parts ex h
  have hperm : imp.tempos.Perm (exportTempos (fun x t => tick ex.ppq x.base o t) parts) := by
    rw [(C04I.load_inv imode ex.ppq _ imp hi).2, C04I.readTracks_tempos]
    exact C04E.save_tempos h ho
  refine ⟨o, ho, hperm, ?_, ?_, ?_⟩
  · exact (hperm.map (·.1)).nodup_iff.mpr hnd
  · intro e he
    exact hsrc e (hperm.mem_iff.mp he)
  · intro x hx tp htp
    exact ((hperm.map (·.1)).mem_iff).mpr (hcov x hx tp htp)

/-- non-vacuity on `demoScore`: the export holds the tempo mark of the first part at tick 0 and the importer returns it -/
example : ((saveScoreMidi 1 .shift 0 64 demoScore).bind fun ex =>
    (loadScoreMidi 1 ex.ppq (ex.tracks.map (deltasFrom 0))).map fun imp => imp.tempos) = some [(0, 500000)] := by
  decide +kernel

/-- **The property, end to end** (`shift`, `time_sig_change`; any export mode and any import mode 0..5; any minimum
    ppq and audible velocity).  For every well-formed score with a sounding note in which no two notes of equal pitch
    overlap within a track and channel of the export mode, with no hypothesis about any stage returning:
    `save_score_midi` returns a file whose ticks per quarter are the least common multiple of the divisions doubled up
    to the minimum; `load_score_midi` returns a score; the imported parts together hold exactly the score's sounding
    notes (onset and duration in quarters, MIDI pitch) in parts of `ppq` divisions per quarter; every note comes back
    in the (part, voice) that the import mode gives to the (track, channel) the export mode wrote it to; and the
    tempo events handed to the first part are exactly the exporter's tempo entries. -/
theorem property_end_to_end (mode imode : Nat) (a : Anacrusis) (minPpq vel : Nat) (parts : List PartIn)
    (hm : mode ≤ 5) (him : imode ≤ 5) (ha : a ≠ .padBar) (hvel : 0 < vel)
    (hw : ∀ x ∈ parts, C04T.WellFormed x.base) (hnote : ∃ x ∈ parts, x.notes ≠ [])
    (hts : a = .timeSigChange → ∀ x ∈ parts, ∀ m ∈ x.measures, (tsAt x.base m.1).isSome)
    (hno : ∀ o tcs, origin a (parts.map (·.base)) = some o → mapToTrackChannel mode (noteKeys parts) = some tcs →
      ∀ tr, C04P.NoOverlap (routedTo (exportPpq parts minPpq) o vel ((noteKeys parts).zip tcs) parts tr)) :
    ∃ ex imp o tcs, saveScoreMidi mode a minPpq vel parts = some ex ∧
      loadScoreMidi imode ex.ppq (ex.tracks.map (deltasFrom 0)) = some imp ∧
      origin a (parts.map (·.base)) = some o ∧ mapToTrackChannel mode (noteKeys parts) = some tcs ∧
      ex.ppq = ppq (parts.flatMap fun x => divisions x.base) minPpq ∧
      (importedRows o imp).Perm (scoreRows parts) ∧ (∀ e ∈ imp.parts, e.2.divs = ex.ppq) ∧
      (importedCells imp).Perm (writtenCells imode ex.ppq o ((noteKeys parts).zip tcs) parts) ∧
      imp.tempos.Perm (exportTempos (fun x t => tick ex.ppq x.base o t) parts) := by
  obtain ⟨ex, h⟩ := export_returns mode a minPpq vel parts hm hw hnote ⟨hts, fun h => absurd h ha⟩
  have hppq := C04E.save_ppq h
  rw [← hppq] at hno
  obtain ⟨o, tcs, W⟩ := C04E.Written.of h hvel hw hno
  obtain ⟨imp, hi⟩ := W.import_total imode him hnote
  obtain ⟨hP, hex⟩ := W.exact hw ha
  obtain ⟨hperm, hdivs⟩ := W.import_musical hi hP hex
  exact ⟨ex, imp, o, tcs, h, hi, W.origin, W.table, hppq, hperm, hdivs, W.import_cells hi,
    (C04E.of_eq_some W.origin (import_tempo_positions mode imode a minPpq vel parts ex imp h hi)).1⟩

/-- **`pad_bar`, exactly**: when every quarter duration divides the ticks per quarter, the origin `-(beats / (bt / 4))`
    of the padded bar makes EVERY tick image an integer if and only if `bt ∣ 4 * beats * P` — the hypothesis `hbar` of
    the `_pad_partial` theorems is not only sufficient but necessary (counter-example `padWitness`: 3/8, one division
    per quarter). -/
theorem pad_bar_integral_iff (P beats bt : Nat) (hbt : 0 < bt) (b : TimeBase) (hdiv : ∀ d ∈ divisions b, d ∣ P) :
    (∀ t, (toTick P b (-((beats : Rat) / ((bt : Rat) / 4))) t).den = 1) ↔ bt ∣ 4 * beats * P := by
  rw [← C04T.pad_origin_isInt_iff P beats bt (Nat.pos_iff_ne_zero.mp hbt)]
  have hq := fun t => C04T.toTick_isInt_iff P b (-((beats : Rat) / ((bt : Rat) / 4))) t (C04T.quarter_isInt P b hdiv t)
  exact ⟨fun hall => (hq 0).mp ((C04T.isInt_iff_den _).mpr (hall 0)), fun ho t => ((hq t).mpr ho).den⟩

end C04
