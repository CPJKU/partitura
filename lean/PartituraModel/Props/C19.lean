/-
C19 — MEI and Humdrum **kern files load to the notes their notation denotes.

Property theorems about the denotational semantics `Model/Kern.lean`, `Model/Mei.lean`
(the semantics the importers are compared against on every run).  All statements quantify over
every reciprocal, dot count, repetition count, token list and element list; nothing is bounded.
-/
import PartituraModel.Proofs.C19MeiPpq
import PartituraModel.Gen.Tables

namespace C19
open Model.Kern Model.Mei C19P

/-- `kern_duration`: a reciprocal `n` with `d` dots lasts `4/n · (2 − 1/2^d)` quarters -/
theorem kern_duration (n : Nat) (hn : n ≠ 0) (d : Nat) :
    value (.num n) d = some (4 / (n : Rat) * (2 - 1 / (2 : Rat) ^ d)) := by
  simp [value, baseValue, hn, dotted_closed]

/-- `0`, `00`, `000`: breve, long, maxima (each zero doubles), dotted the same way -/
theorem kern_duration_zeros (k d : Nat) :
    value (.zeros k) d = some (4 * (2 : Rat) ^ k * (2 - 1 / (2 : Rat) ^ d)) := by
  simp [value, baseValue, dotted_closed]

/-- `a%b`: `b/a` of a whole note -/
theorem kern_duration_rational (a b : Nat) (ha : a ≠ 0) (hb : b ≠ 0) (d : Nat) :
    value (.frac a b) d = some (4 * (b : Rat) / (a : Rat) * (2 - 1 / (2 : Rat) ^ d)) := by
  simp [value, baseValue, ha, hb, dotted_closed]

/-- a value is refused exactly when the reciprocal would divide by zero -/
theorem kern_duration_none (r : Recip) (d : Nat) :
    value r d = none ↔ (r = .num 0 ∨ ∃ a b, r = .frac a b ∧ (a = 0 ∨ b = 0)) := by
  cases r with
  | zeros k => simp [value, baseValue]
  | num n => by_cases h : n = 0 <;> simp [value, baseValue, h]
  | frac a b => by_cases h : a = 0 ∨ b = 0 <;> simp [value, baseValue, h]

example : value (.num 8) 1 = some (3 / 4) := by rw [kern_duration 8 (by decide)]; norm_num
example : value (.zeros 1) 0 = some 8 := by rw [kern_duration_zeros]; norm_num
example : value (.frac 3 2) 0 = some (8 / 3) := by rw [kern_duration_rational 3 2 (by decide) (by decide)]; norm_num

/-- the reciprocals of partitura's `KERN_DURS` table denote the quarter lengths of `LABEL_DURS`
    (whole finite table; `maxima` has no entry in `LABEL_DURS`) -/
theorem kern_durs_table :
    ∀ e ∈ kernDurs, e.2 ≠ "maxima" →
      ((parseRecip e.1.toList).bind fun r => value r 0) = Model.lookup e.2 Gen.LABEL_DURS := by
  decide +kernel

/-! ## a spine is additive -/

/-- `kern_duration` (second half): reading a spine from `c`, the notes of the k-th token start at the
    spine's start plus the sum of the values of the k tokens before it, and afterwards the spine stands
    at start + total -/
theorem kern_spine_additive (c : Col) (p : Nat) (ts : List (List SubTok)) (r : List (List RawNote)) (c' : Col)
    (h : spineRun c p ts = some (r, c')) :
    (∃ s, advTotal ts = some s ∧ c'.cursor = c.cursor + s ∧ r.length = ts.length) ∧
    (∀ k ns, r[k]? = some ns → ∃ s, advTotal (ts.take k) = some s ∧ ∀ n ∈ ns, n.onset = c.cursor + s) := by
  induction ts generalizing c r with
  | nil =>
    obtain ⟨rfl, rfl⟩ := Prod.mk.inj (Option.some.inj h)
    exact ⟨⟨0, rfl, (add_zero _).symm, rfl⟩, fun k ns hk => nomatch hk⟩
  | cons t ts ih =>
    simp only [spineRun] at h
    cases ht : tokenNotes c p t with
    | none => simp [ht] at h
    | some na =>
      obtain ⟨ns0, adv⟩ := na
      cases hr : spineRun { c with cursor := c.cursor + adv } p ts with
      | none => simp [ht, hr] at h
      | some rc =>
        simp only [ht, hr, Option.some.injEq, Prod.mk.injEq] at h
        obtain ⟨rfl, rfl⟩ := h
        -- the rest of the spine is read from `c.cursor + adv`
        obtain ⟨⟨s, hs, hc, hl⟩, hon⟩ := ih _ _ hr
        obtain ⟨ha, hsub⟩ := tokenNotes_adv c p t ns0 adv ht
        have hcur : ∀ x : Rat, c.cursor + adv + x = c.cursor + (adv + x) := fun x => add_assoc _ _ _
        refine ⟨⟨adv + s, by simp [advTotal, ha, hs], hc.trans (hcur s), congrArg (· + 1) hl⟩, fun k ns hk => ?_⟩
        cases k with
        | zero =>
          obtain rfl : ns0 = ns := Option.some.inj hk
          exact ⟨0, rfl, fun n hn => ((subNotes_onset c p t ns0 hsub n hn).1).trans (add_zero _).symm⟩
        | succ k =>
          obtain ⟨s', hs', hon'⟩ := hon k ns hk
          exact ⟨adv + s', by simp [advTotal, ha, hs'], fun n hn => (hon' n hn).trans (hcur s')⟩

/-- the state machine of the driver reads a cell of a one-column document exactly as `spineRun` does -/
theorem dataRow_single (st : Model.Kern.St) (c : Col) (cell : List Char) (toks : List SubTok) (ns : List RawNote) (adv : Rat)
    (hk : c.kern = true) (hdot : cell ≠ ['.']) (hbang : startsWith cell "!" = false) (hstar : startsWith cell "*" = false)
    (hp : parseToken cell = some toks) (ht : tokenNotes c 0 toks = some (ns, adv)) :
    dataRow st [(c, 0)] [cell] [] [] =
      some ({ st with notes := ns.reverse ++ st.notes }, [{ c with cursor := c.cursor + adv }]) := by
  simp [dataRow, hk, hdot, hbang, hstar, hp, Model.lookup, ht]

def qC : SubTok := { recip := some (.num 4), dots := 0, pitch := some ("C", 4), alter := 0, grace := false,
                     tOpen := false, tCont := false, tClose := false }
def col0 : Col := { main := 0, kern := true, cursor := 0, staff := 1 }

example : ∃ r c', spineRun col0 0 [[qC], [qC, qC], [qC]] = some (r, c') ∧ c'.cursor = 3 := by
  refine ⟨_, _, rfl, ?_⟩
  decide +kernel

/-- `kern_pitch`: for every row (letter, step, base octave) of the letter table and every repetition
    count: `c` ↦ C4 and each doubling raises; `C` ↦ C3 and each doubling lowers -/
theorem kern_pitch (e : Char × String × Int) (he : e ∈ kernNotes) (n : Nat) :
    pitchOf (List.replicate (n + 1) e.1) = some (e.2.1, if e.2.2 = 4 then 4 + (n : Int) else 3 - (n : Int)) :=
  pitchOf_replicate e he n

example : pitchOf ['c'] = some ("C", 4) := kern_pitch ('c', "C", 4) (by simp [kernNotes]) 0
example : pitchOf ['c', 'c', 'c'] = some ("C", 6) := kern_pitch ('c', "C", 4) (by simp [kernNotes]) 2
example : pitchOf ['C'] = some ("C", 3) := kern_pitch ('C', "C", 3) (by simp [kernNotes]) 0
example : pitchOf ['G', 'G', 'G'] = some ("G", 1) := kern_pitch ('G', "G", 3) (by simp [kernNotes]) 2

/-- the table has exactly the seven steps in both cases -/
theorem kern_notes_table :
    kernNotes.map (·.1) = "CDEFGABcdefgab".toList ∧
    ∀ e ∈ kernNotes, e.2.1 = String.ofList [e.1.toUpper] ∧ e.2.2 = (if e.1.isUpper then 3 else 4) := by
  decide +kernel

/-- each accidental sign moves the alteration by one semitone -/
theorem kern_accidentals (cs : List Char) (k : Nat) :
    alterOf (cs ++ List.replicate k '#') = alterOf cs + (k : Int) ∧
    alterOf (cs ++ List.replicate k '-') = alterOf cs - (k : Int) :=
  ⟨alterOf_sharps cs k, alterOf_flats cs k⟩

/-- the driver's token parser on a quarter note: letters and accidentals combine as stated -/
theorem kern_token_pitch (e : Char × String × Int) (he : e ∈ kernNotes) (n k : Nat) :
    (parseSub ('4' :: (List.replicate (n + 1) e.1 ++ List.replicate k '#'))).map
        (fun t => (t.recip, t.dots, t.pitch, t.alter, t.grace, t.tOpen || t.tCont || t.tClose))
      = some (some (Recip.num 4), 0, some (e.2.1, if e.2.2 = 4 then 4 + (n : Int) else 3 - (n : Int)), (k : Int), false, false)
    ∧
    (parseSub ('4' :: (List.replicate (n + 1) e.1 ++ List.replicate k '-'))).map
        (fun t => (t.recip, t.dots, t.pitch, t.alter, t.grace, t.tOpen || t.tCont || t.tClose))
      = some (some (Recip.num 4), 0, some (e.2.1, if e.2.2 = 4 then 4 + (n : Int) else 3 - (n : Int)), -(k : Int), false, false) := by
  have hl := kernNotes_plain e he
  have hs : alterOf (List.replicate k '#') = (k : Int) := by simpa [alterOf, count] using alterOf_sharps [] k
  have hf : alterOf (List.replicate k '-') = -(k : Int) := by simpa [alterOf, count] using alterOf_flats [] k
  rw [parseSub_quarter e.1 '#' hl (Or.inl rfl), parseSub_quarter e.1 '-' hl (Or.inr rfl), pitchOf_replicate e he n, hs, hf]
  exact ⟨rfl, rfl⟩

/-- `ties_join`: a chain `[ … _ … ]` of one pitch denotes one sounding note that starts with the first
    note and lasts the sum of the durations -/
theorem ties_join (first : TNote) (mids : List TNote) (last : TNote)
    (hf : first.tOpen = true ∧ first.tCont = false ∧ first.tClose = false)
    (hm : ∀ m ∈ mids, samePitch (soundOf first) m = true ∧ m.tCont = true)
    (hl : samePitch (soundOf first) last = true ∧ last.tClose = true ∧ last.tCont = false ∧ last.tOpen = false) :
    joinFold (first :: (mids ++ [last])) [] =
      [⟨first.onset, first.dur + (mids.map (·.dur)).sum + last.dur, first.step, first.alter, first.octave⟩] := by
  obtain ⟨ho, hc, hcl⟩ := hf
  have := joinFold_chain_aux mids last (soundOf first) hm hl
  simp only [joinFold, hc, hcl, ho, Bool.or_self, Bool.false_eq_true, if_false, if_true]
  simpa [soundOf] using this

/-- notes without tie marks sound as they are -/
theorem ties_untied (ns : List TNote) (h : ∀ n ∈ ns, n.tOpen = false ∧ n.tCont = false ∧ n.tClose = false) :
    joinFold ns [] = ns.map soundOf := by
  induction ns with
  | nil => rfl
  | cons n rest ih =>
    obtain ⟨a, b, c⟩ := h n (by simp)
    simp [joinFold, a, b, c, ih (fun x hx => h x (by simp [hx]))]

def tn (on du : Rat) (o c cl : Bool) : TNote := ⟨on, du, "G", 1, 5, o, c, cl⟩

example : joinFold [tn 2 (1/2) true false false, tn (5/2) (1/2) false true false, tn 3 1 false false true] []
    = [⟨2, 2, "G", 1, 5⟩] := by
  have := ties_join (tn 2 (1/2) true false false) [tn (5/2) (1/2) false true false] (tn 3 1 false false true)
    (by simp [tn]) (by simp [tn, samePitch, soundOf]) (by simp [tn, samePitch, soundOf])
  simp [tn] at this ⊢
  rw [this]
  norm_num

/-- the semantics joins ties note by note, also inside chords: `[2c [2e` / `2c] 2e]` denotes two sounding
    notes of four quarters (open finding F-C19-kern-chord-ties: `load_kern` leaves these four notes untied) -/
example :
    joinFold [⟨0, 2, "C", 0, 4, true, false, false⟩, ⟨0, 2, "E", 0, 4, true, false, false⟩,
              ⟨2, 2, "C", 0, 4, false, false, true⟩, ⟨2, 2, "E", 0, 4, false, false, true⟩] []
      = [⟨0, 4, "C", 0, 4⟩, ⟨0, 4, "E", 0, 4⟩] := by decide +kernel

/-- `grace_zero`: a `q` token has duration 0 and does not advance its spine -/
theorem grace_zero (t : SubTok) (h : t.grace = true) :
    subValue t = some 0 ∧ ∀ toks a, t ∈ toks → tokAdv toks = some a → a = 0 := by
  refine ⟨by simp [subValue, h], fun toks a hmem ha => ?_⟩
  have hany : toks.any (·.grace) = true := List.any_eq_true.mpr ⟨t, hmem, h⟩
  obtain ⟨x, _, rfl⟩ := Option.map_eq_some_iff.mp ha
  exact if_pos hany

example : tokAdv [{ qC with grace := true, recip := none }] = some 0 := by decide +kernel

/-- `divisions_exact`: with divs := lcm of the denominators of all values (in quarters), every value
    times divs is a whole number; holds for every list of values, kern or MEI -/
theorem divisions_exact (l : List Rat) :
    0 < lcmDen l ∧ ∀ v ∈ l, ∃ n : Int, v * (lcmDen l : Rat) = (n : Rat) :=
  lcmDen_eq l ▸
    ⟨Lists.foldl_lcm_pos Nat.one_pos fun d hd => by obtain ⟨v, _, rfl⟩ := List.mem_map.mp hd; exact v.den_pos,
      fun v hv => mul_den_multiple v _ ((Lists.foldl_lcm_dvd_iff.mp (Nat.dvd_refl _)).2 _ (List.mem_map_of_mem hv))⟩

/-- every onset and duration of a denoted kern part is a whole number of the part's divisions -/
theorem kern_part_divisions_exact (p : Model.Kern.Part) (n : Model.Kern.Note) (hn : n ∈ p.notes) :
    (∃ k : Int, n.dur * (partDivs p : Rat) = (k : Rat)) ∧ (∃ k : Int, n.onset * (partDivs p : Rat) = (k : Rat)) := by
  constructor
  · exact (divisions_exact _).2 n.dur (List.mem_append.mpr (Or.inl (List.mem_map.mpr ⟨n, hn, rfl⟩)))
  · exact (divisions_exact _).2 n.onset (List.mem_append.mpr (Or.inr (List.mem_map.mpr ⟨n, hn, rfl⟩)))

example : lcmDen [1 / 3, 3 / 4, 1 / 2] = 12 := by decide +kernel

/-- `mei_duration`: `@dur` = v, d dots, inside a tuplet of `num` in the time of `numbase` -/
theorem mei_duration (v : Rat) (d num numbase : Nat) :
    meiValue v d (some (num, numbase)) = 4 / v * (2 - 1 / (2 : Rat) ^ d) * (numbase : Rat) / (num : Rat) ∧
    meiValue v d none = 4 / v * (2 - 1 / (2 : Rat) ^ d) :=
  ⟨meiValue_closed v d num numbase, meiValue_closed_plain v d⟩

example : meiValue 8 0 (some (3, 2)) = 1 / 3 := by rw [(mei_duration 8 0 3 2).1]; norm_num
example : meiValue 4 2 none = 7 / 4 := by rw [(mei_duration 4 2 0 0).2]; norm_num

/-- the `@dur` values partitura accepts denote the reciprocals of its own table (whole finite table) -/
theorem mei_durs_table :
    ∀ e ∈ Gen.MEI_DURS_TO_SYMBOLIC, durNumber e.1 = Model.lookup e.2 Gen.SYMBOLIC_TO_INT_DURS := by
  decide +kernel

/-- `mei_inferPpq_exact`: when no element declares `@dur.ppq`, the inferred divisions (numerator of the
    reduced tuplet fraction, doubled per dot, lcm with 4 and the beat units, / 4) are a positive whole
    number that makes every written value and every measure-rest length a whole number of divisions.
    For all element lists, dot counts and tuplet ratios. -/
theorem mei_inferPpq_exact (els : List DurEl) (units : List Nat) (ppq : Rat)
    (hno : ∀ e ∈ els, e.durppq = none) (h : inferPpq els units = some ppq) :
    (∃ m : Nat, 0 < m ∧ ppq = (m : Rat)) ∧
    (∀ e ∈ els, WellFormed e → ∃ n : Int, ppq * meiValue e.v e.dots e.tup = (n : Rat)) ∧
    (∀ u ∈ units, u ≠ 0 → ∀ beats : Nat, ∃ n : Int, ppq * (4 * (beats : Rat) / (u : Rat)) = (n : Rat)) := by
  rw [inferPpq_of_no_durppq els units hno] at h
  obtain ⟨keys, hk, rfl⟩ := Option.map_eq_some_iff.mp h
  set ks := keys ++ units.map (fun (u : Nat) => (u : Rat)) with hks
  refine ⟨?_, ?_, ?_⟩
  · obtain ⟨t, ht⟩ := four_dvd_lcmKeys ks
    have hpos := lcmKeys_pos ks
    refine ⟨t, by omega, ?_⟩
    rw [ht]; push_cast; field_simp
  · intro e he hw
    obtain ⟨k, hkm, hd⟩ := allKeys_mem els keys hk e he
    exact elem_exact ks e k hd (List.mem_append.mpr (Or.inl hkm)) hw
  · intro u hu hu0 beats
    have hmem : ((u : Rat)) ∈ ks := List.mem_append.mpr (Or.inr (List.mem_map.mpr ⟨u, hu, rfl⟩))
    have hdvd := dvd_lcmKeys ks u (Nat.one_le_iff_ne_zero.mpr hu0) hmem
    refine exact_of_key _ u hdvd (Nat.pos_of_ne_zero hu0) _ (beats : Int) ?_
    have : (u : Rat) ≠ 0 := by exact_mod_cast hu0
    push_cast
    field_simp

/-- non-vacuity: a dotted quarter, a triplet eighth, a double-dotted breve and a 5/8 meter -/
example : inferPpq [⟨4, 1, none, none⟩, ⟨8, 0, some (3, 2), none⟩, ⟨1 / 2, 2, none, none⟩] [8] = some 6 := by
  decide +kernel

example : WellFormed ⟨8, 0, some (3, 2), none⟩ ∧ WellFormed ⟨1 / 2, 2, none, none⟩ ∧ WellFormed ⟨4, 1, none, none⟩ := by
  refine ⟨by simp [WellFormed], ?_, ?_⟩
  · exact Or.inr ⟨1, by norm_num⟩
  · exact Or.inl ⟨4, by norm_num, by norm_num⟩

/-- with `@dur.ppq` present the first such element fixes the divisions: its `@dur.ppq` is then exactly its value -/
theorem mei_ppq_from_dur_ppq (e : DurEl) (rest : List DurEl) (units : List Nat) (q : Nat) (ppq : Rat)
    (hq : e.durppq = some q) (h : inferPpq (e :: rest) units = some ppq) :
    ppq * meiValue e.v e.dots e.tup = (q : Rat) := by
  simp only [inferPpq] at h
  cases hk : allKeys (e :: rest) with
  | none => simp [hk] at h
  | some keys =>
    simp only [hk] at h
    simp only [allKeys] at hk
    split at hk
    · rename_i k ks hk1 hk2
      simp only [Option.some.injEq] at hk
      subst hk
      simp only [List.zip_cons_cons, List.find?_cons, hq, Option.isSome_some] at h
      by_cases h0 : meiValue e.v e.dots e.tup = 0
      · simp [h0] at h
      · simp only [h0, if_false, Option.some.injEq, Option.getD_some] at h
        subst h
        field_simp
    · simp at hk

end C19
