/-
C08 — saving an alignment as a match file and loading it returns the same data.
Property theorems over Model/MatchTime.lean.
-/
import PartituraModel.Proofs.C08
import PartituraModel.Proofs.Ticks

namespace C08
open Model Model.MatchTime C08P

/-- The documented rule, for every list of parsed lines:
    1. nothing is duplicated or reordered (the result is a sublist of the input);
    2. every line that is neither a deletion nor an insertion is kept — in particular every match;
    3. a deletion whose score id also occurs in a match is dropped;
    4. an insertion whose performed id also occurs in a match is dropped;
    5. a kept deletion is the only snote-carrying line of its score id, in the input and in the result;
    6. a kept insertion is the only kept note-carrying line of its performed id. -/
theorem dedup_spec (ls : List Line) :
    (validate ls).Sublist ls
    ∧ (∀ l ∈ ls, l.kind ≠ .deletion → l.kind ≠ .insertion → l ∈ validate ls)
    ∧ (∀ l ∈ ls, ∀ m ∈ ls, l.kind = .deletion → m.kind = .match_ → l.sid = m.sid → l.sid ≠ none → l ∉ validate ls)
    ∧ (∀ l ∈ ls, ∀ m ∈ ls, l.kind = .insertion → m.kind = .match_ → l.pid = m.pid → l.pid ≠ none → l ∉ validate ls)
    ∧ (∀ l ∈ validate ls, ∀ s, l.kind = .deletion → l.sid = some s → countSid ls s = 1 ∧ countSid (validate ls) s = 1)
    ∧ (∀ l ∈ validate ls, ∀ p, l.kind = .insertion → l.pid = some p → countPid (validate ls) p = 1) := by
  refine ⟨validate_sublist ls, ?_, ?_, ?_, ?_, ?_⟩
  · intro l hl hd hi
    unfold validate
    rw [mem_dropInsertions, mem_dropDeletions]
    exact ⟨⟨hl, fun h => hd h.1⟩, fun h => hi h.1⟩
  · intro l hl m hm hkl hkm hsid hne hv
    obtain ⟨s, hs⟩ := Option.ne_none_iff_exists'.mp hne
    exact dropPass_drops (carries := Line.hasSnote) (id := (·.sid)) hl hm hkl (by rw [hkl, hkm]; decide)
      (by simp [Line.hasSnote, hkl]) (by simp [Line.hasSnote, hkm]) hs (hsid ▸ hs) ((dropInsertions_sublist _).subset hv)
  · intro l hl m hm hkl hkm hpid hne hv
    obtain ⟨p, hp⟩ := Option.ne_none_iff_exists'.mp hne
    -- the match is still there when the insertions are looked at
    have hm' : m ∈ dropDeletions ls := mem_dropDeletions.mpr ⟨hm, fun h => by rw [hkm] at h; cases h.1⟩
    exact dropPass_drops (carries := Line.hasNote) (id := (·.pid)) (dropInsertions_sublist _ |>.subset hv) hm' hkl
      (by rw [hkl, hkm]; decide) (by simp [Line.hasNote, hkl]) (by simp [Line.hasNote, hkm]) hp (hpid ▸ hp) hv
  · intro l hl s hk hs
    have hl' : l ∈ dropDeletions ls := (dropInsertions_sublist _).subset hl
    rw [mem_dropDeletions] at hl'
    have hle : ¬ countSid ls s > 1 := fun hc => hl'.2 ⟨hk, s, hs, hc⟩
    have hsn : l.hasSnote = true := by simp [Line.hasSnote, hk]
    have hpos : 0 < countSid ls s := filter_length_pos hl'.1 (by simp [hsn, hs])
    have hpos' : 0 < countSid (validate ls) s := filter_length_pos hl (by simp [hsn, hs])
    have hmono : countSid (validate ls) s ≤ countSid ls s := ((validate_sublist ls).filter _).length_le
    omega
  · intro l hl p hk hp
    unfold validate at hl ⊢
    have hl' := hl
    rw [mem_dropInsertions] at hl'
    have hle : ¬ countPid (dropDeletions ls) p > 1 := fun hc => hl'.2 ⟨hk, p, hp, hc⟩
    have hn : l.hasNote = true := by simp [Line.hasNote, hk]
    have hpos : 0 < countPid (dropInsertions (dropDeletions ls)) p := filter_length_pos hl (by simp [hn, hp])
    have hmono : countPid (dropInsertions (dropDeletions ls)) p ≤ countPid (dropDeletions ls) p :=
      ((dropInsertions_sublist _).filter _).length_le
    omega

/-- non-vacuity: a match, a conflicting deletion and a conflicting insertion, and an unrelated deletion -/
example :
    validate [⟨.match_, some 1, some 7⟩, ⟨.deletion, some 1, none⟩, ⟨.insertion, none, some 7⟩, ⟨.deletion, some 2, none⟩]
      = [⟨.match_, some 1, some 7⟩, ⟨.deletion, some 2, none⟩] := by decide

/-- exact duplicate text lines are read once: the text identities that reach the validation are distinct -/
theorem load_no_duplicate_text (raw : List (Nat × Option Line)) :
    ((firstOccurrences raw []).map (·.1)).Nodup := by
  suffices h : ∀ seen : List Nat, ((firstOccurrences raw seen).map (·.1)).Nodup ∧
      ∀ t ∈ (firstOccurrences raw seen).map (·.1), t ∉ seen from (h []).1
  induction raw with
  | nil => intro seen; simp [firstOccurrences]
  | cons a rest ih =>
    intro seen
    obtain ⟨t, l⟩ := a
    unfold firstOccurrences
    by_cases hc : seen.contains t = true
    · simp only [hc, if_true]; exact ih seen
    · simp only [hc]
      have h2 := ih (t :: seen)
      constructor
      · simp only [Bool.false_eq_true, if_false, List.map_cons, List.nodup_cons]
        refine ⟨fun hmem => ?_, h2.1⟩
        exact (h2.2 t hmem) (by simp)
      · intro u hu
        simp only [Bool.false_eq_true, if_false, List.map_cons, List.mem_cons] at hu
        rcases hu with rfl | hu
        · simpa using hc
        · have := h2.2 u hu
          simp at this
          exact this.2

/-- an alignment the exporter accepts and the format can hold: no entry of kind `other`; the score id of
    a deletion occurs in no other match/deletion entry, the performed id of an insertion in no other
    match/insertion/ornament entry -/
def ValidAlignment (es : List Entry) : Prop :=
  (∀ e ∈ es, e.kind ≠ .other)
  ∧ (∀ e ∈ es, ∀ s, e.kind = .deletion → e.sid = some s → countSid (es.map lineOf) s ≤ 1)
  ∧ (∀ e ∈ es, ∀ p, e.kind = .insertion → e.pid = some p → countPid (es.map lineOf) p ≤ 1)

/-- Whatever order the exporter writes the note lines in (`ls` is any permutation of the lines of the
    entries), validation drops nothing and the alignment read back has exactly the saved entries
    (kinds, score ids, performed ids) with their multiplicities. -/
theorem alignment_roundtrip (es : List Entry) (ls : List Line) (hv : ValidAlignment es)
    (hp : ls.Perm (es.map lineOf)) :
    validate ls = ls ∧ (alignmentOf (validate ls)).Perm es := by
  obtain ⟨hother, hdel, hins⟩ := hv
  have hmem : ∀ l ∈ ls, ∃ e ∈ es, l = lineOf e := by
    intro l hl
    have := hp.subset hl
    simpa [eq_comm] using this
  have h1 : dropDeletions ls = ls := by
    refine List.filter_eq_self.mpr fun l hl => (List.mem_filter.mp (mem_dropDeletions.mpr ⟨hl, ?_⟩)).2
    rintro ⟨hk, s, hs, hc⟩
    obtain ⟨e, he, rfl⟩ := hmem l hl
    have := hdel e he s hk hs
    rw [← show countSid ls s = countSid (es.map lineOf) s from (hp.filter _).length_eq] at this
    omega
  have h2 : dropInsertions ls = ls := by
    refine List.filter_eq_self.mpr fun l hl => (List.mem_filter.mp (mem_dropInsertions.mpr ⟨hl, ?_⟩)).2
    rintro ⟨hk, p, hs, hc⟩
    obtain ⟨e, he, rfl⟩ := hmem l hl
    have := hins e he p hk hs
    rw [← show countPid ls p = countPid (es.map lineOf) p from (hp.filter _).length_eq] at this
    omega
  have hval : validate ls = ls := by unfold validate; rw [h1, h2]
  refine ⟨hval, ?_⟩
  rw [hval, ← alignmentOf_lineOf es hother]
  unfold alignmentOf
  exact hp.filterMap _

/-- non-vacuity: a valid alignment with all four kinds (an ornament referring to the matched score note) -/
example : ValidAlignment [⟨.match_, some 0, some 0⟩, ⟨.deletion, some 1, none⟩, ⟨.insertion, none, some 1⟩,
    ⟨.ornament, some 0, some 2⟩] := by
  refine ⟨by decide, ?_, ?_⟩
  · intro e he s hk hs
    simp only [List.mem_cons, List.mem_nil_iff, or_false] at he
    rcases he with rfl | rfl | rfl | rfl
    · cases hk
    · cases hs; decide
    · cases hk
    · cases hk
  · intro e he p hk hp
    simp only [List.mem_cons, List.mem_nil_iff, or_false] at he
    rcases he with rfl | rfl | rfl | rfl
    · cases hk
    · cases hk
    · cases hp; decide
    · cases hk


/-- What the exporter writes for a note `rel` divisions after its bar line denotes exactly that
    distance: whole beats (of the time signature's beat type) plus the offset fraction, read as the
    importer reads them, is `rel/divs` quarters — for every division value, beat type and distance;
    the beat number is at least 1 and the offset is a non-negative fraction of one beat. -/
theorem enc_position (divs den : Nat) (hd : 0 < divs) (hn : 0 < den) (rel : Int) (hr : 0 ≤ rel) :
    notePos 0 (encBeat divs den rel + 1) den (Frac.ofRat (encOffset divs den rel)).val 0 = (rel : Rat) / (divs : Rat)
    ∧ 1 ≤ encBeat divs den rel + 1
    ∧ 0 ≤ encOffset divs den rel ∧ encOffset divs den rel < 1 / (den : Rat) := by
  have hrange := C08P.enc_offset_range divs den hd hn rel
  refine ⟨?_, ?_, hrange.1, hrange.2⟩
  · rw [notePos_enc divs den hd hn, zero_add, sub_zero]
  · have := C08P.encBeat_nonneg divs den hd rel hr
    omega

/-- **position_roundtrip.** A note `rel` divisions after the start of its measure, written by the
    exporter (beat, offset) and read by the importer with ANY divisions value `D`: if the bar start the
    importer reconstructed (`bhat − shiftHat`, in quarters from the loaded origin) is within `1/(2D)` of
    the written one (`barQ − shiftQ`), and the true position is on the importer's division grid
    (`D · position = z`), then the loaded onset is exactly `z` — for all onsets, measures, signatures. -/
theorem position_roundtrip (D divs den : Nat) (hd : 0 < divs) (hn : 0 < den) (rel : Int)
    (bhat shiftHat barQ shiftQ : Rat) (z : Int)
    (hgrid : (D : Rat) * (barQ + (rel : Rat) / (divs : Rat) - shiftQ) = (z : Rat))
    (hbar : (D : Rat) * |(bhat - shiftHat) - (barQ - shiftQ)| < 1 / 2) :
    roundHalfEven ((D : Rat) * notePos bhat (encBeat divs den rel + 1) den
        (Frac.ofRat (encOffset divs den rel)).val shiftHat) = z := by
  rw [notePos_enc divs den hd hn]
  apply Round.round_mul_near D _ _ z hgrid
  have e : bhat + (rel : Rat) / (divs : Rat) - shiftHat - (barQ + (rel : Rat) / (divs : Rat) - shiftQ)
      = (bhat - shiftHat) - (barQ - shiftQ) := by ring
  rw [e]
  exact hbar

/-- non-vacuity: 6/8 (beat type 8), 2 divisions per quarter, the note 9 divisions into the piece in a bar
    starting at division 6 (`rel = 3`): written `beat 4, offset 0`; read back with 8 divisions per quarter and a
    bar start that is off by 1/20000 quarter it lands exactly on division 36 = 8 · 9/2 -/
example : roundHalfEven ((8 : Nat) * notePos (3 + 1/20000) (encBeat 2 8 3 + 1) 8 (Frac.ofRat (encOffset 2 8 3)).val 0) = 36 := by
  have := position_roundtrip 8 2 8 (by decide) (by decide) 3 (3 + 1/20000) 0 3 0 36 (by norm_num) (by norm_num [abs_of_nonneg])
  simpa using this

/-- **duration_roundtrip.** The duration the exporter writes (`d/(4·divs)` of a whole note, reduced) gives
    back `D·d/divs` divisions — the same number of quarters — whenever the written denominator divides `D`
    (which `divs_sufficient` guarantees for the importer's divisions). -/
theorem duration_roundtrip (D divs : Nat) (d : Int) (hd0 : 0 ≤ d) (hdivs : 0 < divs)
    (hdvd : (encDur divs d).den ∣ 4 * D) :
    ((durDivs D (Frac.ofRat (encDur divs d)) : Int) : Rat) = (D : Rat) * (d : Rat) / (divs : Rat) := by
  have hnn : 0 ≤ encDur divs d := by
    rw [C08P.encDur_eq]
    exact div_nonneg (by exact_mod_cast hd0) (Nat.cast_nonneg _)
  rw [C08P.durDivs_ofRat D _ hnn hdvd, C08P.encDur_eq]
  push_cast
  ring

/-- non-vacuity: a dotted quarter (3 of 2 divisions per quarter) read with 8 divisions per quarter: 12 -/
example : durDivs 8 (Frac.ofRat (encDur 2 3)) = 12 := by decide +kernel

/-- **divs_sufficient.** With `D` = the importer's divisions (lcm over all notes of
    `max(beat_type/4, 1) · denominator · tuple divisor` of offset and duration): for every note, `D` times
    the offset and `D` times the duration (in quarters) are integers, and so is `D` times any whole number
    of beats when the beat type divides 4 or is a multiple of 4. -/
theorem divs_sufficient (ts : List TSLine) (maxTime : Rat) (ns : List SNote)
    (hpos : ∀ n ∈ ns, 0 < n.offset.den ∧ 0 < n.offset.tup ∧ 0 < n.dur.den ∧ 0 < n.dur.tup) :
    ∀ n ∈ ns,
      (∃ z : Int, (importDivs ts maxTime ns : Rat) * (4 * n.offset.val) = z)
      ∧ (∃ z : Int, (importDivs ts maxTime ns : Rat) * (4 * n.dur.val) = z)
      ∧ (∀ k : Int, (denAtBeats ts maxTime n.onsetB ∣ 4 ∨ 4 ∣ denAtBeats ts maxTime n.onsetB) →
            0 < denAtBeats ts maxTime n.onsetB →
            ∃ z : Int, (importDivs ts maxTime ns : Rat) * ((k : Rat) * 4 / (denAtBeats ts maxTime n.onsetB : Rat)) = z) := by
  intro n hn
  obtain ⟨h1, h2, h3, h4⟩ := hpos n hn
  obtain ⟨hm1, hm2⟩ := C08P.dvd_importDivs ts maxTime ns n hn
  refine ⟨C08P.mul_val_int _ _ n.offset h1 h2 hm1, C08P.mul_val_int _ _ n.dur h3 h4 hm2, ?_⟩
  intro k hdiv hbtpos
  generalize importDivs ts maxTime ns = D at hm1 ⊢
  generalize denAtBeats ts maxTime n.onsetB = bt at hm1 hdiv hbtpos ⊢
  have hk1 : max (bt / 4) 1 ∣ D := (Dvd.intro _ (Nat.mul_assoc _ _ _).symm).trans hm1
  -- a beat type that divides 4 or is `4c` (then `c` divides the divisions) divides `4·D`
  have hdvd : bt ∣ 4 * D := by
    rcases hdiv with h | ⟨c, rfl⟩
    · exact h.mul_right D
    · have hc : max (4 * c / 4) 1 = c := by
        rw [Nat.mul_div_cancel_left c (by norm_num : 0 < 4)]; exact Nat.max_eq_left (by omega)
      exact Nat.mul_dvd_mul_left 4 (hc ▸ hk1)
  obtain ⟨z, hz⟩ := C08P.mul_div_int (4 * D) bt k hbtpos hdvd
  exact ⟨z, by rw [← hz]; push_cast; ring⟩

/-- non-vacuity: a 6/8 note on beat 4 with offset 1/16 and duration 3/8: divisions = lcm(2·16, 2·8) = 32 -/
example : importDivs [⟨0, 1, 6, 8⟩] 6
    [{ measure := 1, beat := 4, offset := ⟨1, 16, 1⟩, dur := ⟨3, 8, 1⟩, comps := [], onsetB := 3, offsetB := 6 }] = 32 := by
  decide +kernel

/-- **bars_recovered_one_beat_type.** The case of ONE beat type `den0` (any number of changes of the beat count), with
    no condition on the divisions of the written score and none on where the changes fall; the general statement
    for mixed beat types is `bars_recovered` in Props/C08Mixed.lean.

    Let a bar start `rel₁` divisions before its first stored note, whose beat time `B` the file holds with four
    decimals.  The bar start the importer computes from that note (`barTime`) differs from the true one
    (`4·B/den0 − rel₁/divs` quarters after beat 0) by at most `1/(5000·den0)` quarter; hence with importer
    divisions `D < 2500·den0` and a bar line on the division grid, the loaded bar line
    `round(D·(barTime − shift))` is exactly the written one. -/
theorem bars_recovered_one_beat_type (den0 divs : Nat) (hden : 0 < den0) (hdivs : 0 < divs)
    (ts : List TSLine) (hts : ts ≠ []) (huni : ∀ x ∈ ts, x.den = den0) (maxTime : Rat)
    (rel₁ : Int) (B : Rat) (n : SNote)
    (hbeat : n.beat = encBeat divs den0 rel₁ + 1)
    (hoff : n.offset = Frac.ofRat (encOffset divs den0 rel₁))
    (hon : n.onsetB = dec4 B) :
    |barTime ts maxTime n - (4 * B / (den0 : Rat) - (rel₁ : Rat) / (divs : Rat))| ≤ 1 / (5000 * (den0 : Rat))
    ∧ ∀ (D : Nat) (shiftQ : Rat) (z : Int), (D : Rat) < 2500 * (den0 : Rat) →
        (D : Rat) * (4 * B / (den0 : Rat) - (rel₁ : Rat) / (divs : Rat) - shiftQ) = (z : Rat) →
        roundHalfEven ((D : Rat) * (barTime ts maxTime n - shiftQ)) = z := by
  have hd0 : (0 : Rat) < (den0 : Rat) := by exact_mod_cast hden
  have herr : |barTime ts maxTime n - (4 * B / (den0 : Rat) - (rel₁ : Rat) / (divs : Rat))| ≤ 1 / (5000 * (den0 : Rat)) := by
    rw [barTime_enc divs den0 hdivs hden rel₁ ts maxTime n hbeat hoff (C08P.denAtBeats_uniform den0 ts huni hts _ _),
      C08P.beatsToQuarters_uniform den0 ts huni hts, hon]
    have e : dec4 B * 4 / (den0 : Rat) - (rel₁ : Rat) / (divs : Rat) - (4 * B / (den0 : Rat) - (rel₁ : Rat) / (divs : Rat))
        = 4 * (dec4 B - B) / (den0 : Rat) := by ring
    rw [e]
    exact beat_rounding B den0 hden
  refine ⟨herr, ?_⟩
  intro D shiftQ z hD hz
  apply Round.round_mul_near D _ _ z hz
  rw [sub_sub_sub_cancel_right]
  exact lt_of_le_of_lt (mul_le_mul_of_nonneg_left herr (Nat.cast_nonneg D)) (mul_lt_half _ _ hd0 hD)

/-- non-vacuity: 3/4 then 4/4 (one beat type, a change of the beat count), a bar whose first stored note is
    a triplet eighth (1 of 3 divisions) after the bar line at beat 3 -/
example : ∃ n : SNote, n.beat = encBeat 3 4 1 + 1 ∧ n.offset = Frac.ofRat (encOffset 3 4 1) ∧ n.onsetB = dec4 (3 + 1/3)
    ∧ ([⟨0, 1, 3, 4⟩, ⟨3, 2, 4, 4⟩] : List TSLine) ≠ [] ∧ ∀ x ∈ ([⟨0, 1, 3, 4⟩, ⟨3, 2, 4, 4⟩] : List TSLine), x.den = 4 :=
  ⟨{ measure := 2, beat := encBeat 3 4 1 + 1, offset := Frac.ofRat (encOffset 3 4 1), dur := ⟨1, 12, 1⟩, comps := [],
     onsetB := dec4 (3 + 1/3), offsetB := 0 }, rfl, rfl, rfl, by simp, by simp⟩

/-- the exporter's side of the same statement: with one beat type the beat time of a note, converted to
    quarters, minus its distance from the bar line is the beat time of the bar line — so the `4·B/den0 − rel₁/divs`
    of `bars_recovered_one_beat_type` IS the written bar start, for every measure, pickup and change of beat count -/
theorem written_bar_start (sc : Score) (den0 : Nat) (hden : 0 < den0) (hdivs : 0 < sc.divs)
    (s : TSig) (rest : List TSig) (hts : sc.ts = s :: rest) (huni : ∀ x ∈ sc.ts, x.den = den0) (o ms : Int) :
    4 * sc.beats o / (den0 : Rat) - ((o - ms : Int) : Rat) / (sc.divs : Rat) = 4 * sc.beats ms / (den0 : Rat) := by
  unfold Score.beats
  rw [hts] at huni ⊢
  rw [C08P.rawBeats_uniform sc.divs den0 rest s huni o, C08P.rawBeats_uniform sc.divs den0 rest s huni ms]
  have h1 : ((den0 : Nat) : Rat) ≠ 0 := by exact_mod_cast (Nat.pos_iff_ne_zero.mp hden)
  have h2 : ((sc.divs : Nat) : Rat) ≠ 0 := by exact_mod_cast (Nat.pos_iff_ne_zero.mp hdivs)
  push_cast
  field_simp
  ring

/-- **onset_roundtrip_one_beat_type.** (One beat type, as `bars_recovered_one_beat_type`; general: `onset_roundtrip` in
    Props/C08Mixed.lean.)  A note `rel` divisions
    after a bar line whose first stored note is `rel₁` divisions after it with beat time `B` (four decimals in the
    file); the importer's shift `shiftHat` is the four-decimal image of the true one (`|shiftHat − shiftQ| ≤
    1/(5000·den0)`: it is `4·dec4(B₀)/den0` for the first note of the piece, or 0).  With importer divisions
    `D < 1250·den0` and the true position on the grid, the loaded onset is exact. -/
theorem onset_roundtrip_one_beat_type (den0 divs : Nat) (hden : 0 < den0) (hdivs : 0 < divs)
    (ts : List TSLine) (hts : ts ≠ []) (huni : ∀ x ∈ ts, x.den = den0) (maxTime : Rat)
    (rel₁ rel : Int) (B : Rat) (n : SNote)
    (hbeat : n.beat = encBeat divs den0 rel₁ + 1)
    (hoff : n.offset = Frac.ofRat (encOffset divs den0 rel₁))
    (hon : n.onsetB = dec4 B)
    (D : Nat) (hD : (D : Rat) < 1250 * (den0 : Rat)) (shiftHat shiftQ : Rat)
    (hshift : |shiftHat - shiftQ| ≤ 1 / (5000 * (den0 : Rat))) (z : Int)
    (hgrid : (D : Rat) * ((4 * B / (den0 : Rat) - (rel₁ : Rat) / (divs : Rat)) + (rel : Rat) / (divs : Rat) - shiftQ) = (z : Rat)) :
    roundHalfEven ((D : Rat) * notePos (barTime ts maxTime n) (encBeat divs den0 rel + 1) den0
        (Frac.ofRat (encOffset divs den0 rel)).val shiftHat) = z := by
  have hbar := (bars_recovered_one_beat_type den0 divs hden hdivs ts hts huni maxTime rel₁ B n hbeat hoff hon).1
  apply position_roundtrip D divs den0 hdivs hden rel (barTime ts maxTime n) shiftHat
    (4 * B / (den0 : Rat) - (rel₁ : Rat) / (divs : Rat)) shiftQ z hgrid
  rw [sub_sub_sub_comm]
  have hd0 : (0 : Rat) < (den0 : Rat) := by exact_mod_cast hden
  calc (D : Rat) * |barTime ts maxTime n - (4 * B / (den0 : Rat) - (rel₁ : Rat) / (divs : Rat)) - (shiftHat - shiftQ)|
        ≤ (D : Rat) * (1 / (5000 * (den0 : Rat)) + 1 / (5000 * (den0 : Rat))) :=
          mul_le_mul_of_nonneg_left ((abs_sub _ _).trans (add_le_add hbar hshift)) (Nat.cast_nonneg D)
    _ = 2 * (D : Rat) * (1 / (5000 * (den0 : Rat))) := by ring
    _ < 1 / 2 := mul_lt_half _ _ hd0 (by linarith)

/-- **ticks_seconds.** The tick written for a time in seconds is the nearest tick (ties to even), the seconds
    read back are that tick on the file's clock, and a second write/read cycle changes nothing. -/
theorem ticks_seconds (t : Rat) (mpq ppq : Nat) (hm : 0 < mpq) (hp : 0 < ppq) :
    |((perfRoundTrip mpq ppq t).1 : Rat) - 1000000 * (ppq : Rat) * t / (mpq : Rat)| ≤ 1 / 2
    ∧ (perfRoundTrip mpq ppq t).2 = tickToSec (perfRoundTrip mpq ppq t).1 mpq ppq
    ∧ perfRoundTrip mpq ppq (perfRoundTrip mpq ppq t).2 = perfRoundTrip mpq ppq t := by
  refine ⟨Round.roundHalfEven_close _, rfl, ?_⟩
  unfold perfRoundTrip
  simp only [Ticks.secToTick_tickToSec _ mpq ppq hm hp]

end C08
