/-
C02 — the edges of the API around the maps (`Model/TimeMapApi.lean`): rejected table arguments of the
musical-beat switches, `Part(id)` without a quarter duration, a first measure without an end.
Every state reached through these calls is a state reached through the calls of `HOp`.
-/
import PartituraModel.Props.C02Written
import PartituraModel.Model.TimeMapApi

namespace C02
open Model.TimeMap C02Proofs

/-- **`set_musical_beat_per_ts(<not a dict>)` raises and changes nothing** -/
theorem rejected_setMB (s : BeatState) : stepB s .setMBBad = s ∧ raisesB s .setMBBad = true := ⟨rfl, rfl⟩

/-- **`use_musical_beat(<not a dict>)`**: already in musical mode — a warning, no exception, nothing changes; in
notated mode — `TypeError`, but only after the switch was flipped: the state is that of `use_musical_beat({})`
(musical mode on, the musical beats of the signatures untouched) -/
theorem rejected_useMusical (s : BeatState) :
    (s.musical = true → stepB s .useMusicalBad = s ∧ raisesB s .useMusicalBad = false) ∧
    (s.musical = false → stepB s .useMusicalBad = ⟨true, s.ts⟩ ∧ raisesB s .useMusicalBad = true) ∧
    stepB s .useMusicalBad = step s (.useMusical []) := by
  refine ⟨?_, ?_, ?_⟩
  · intro h; simp [stepB, raisesB, h]
  · intro h; simp [stepB, raisesB, h]
  · cases h : s.musical <;> simp [stepB, step, h]

/-- a call of the extended beat API as calls of `Op` -/
def lowerB : BOp → List Op
  | .ok op => [op]
  | .setMBBad => []
  | .useMusicalBad => [.useMusical []]

theorem stepB_lower (s : BeatState) (b : BOp) : stepB s b = (lowerB b).foldl step s := by
  cases b with
  | ok op => rfl
  | setMBBad => rfl
  | useMusicalBad => exact (rejected_useMusical s).2.2

/-- no rejected call ever changes the musical beats stored on a signature -/
theorem rejected_keeps_signatures (s : BeatState) (b : BOp) (hb : raisesB s b = true) : (stepB s b).ts = s.ts := by
  cases b with
  | ok op => simp [raisesB] at hb
  | setMBBad => rfl
  | useMusicalBad =>
    simp only [stepB]
    split <;> rfl

/-- a rejected `use_musical_beat` makes the accepted one that follows a no-op: the user's table is never applied -/
example : (runOpsB ⟨false, []⟩ [.ok (.addTS 0 6 8), .useMusicalBad, .ok (.useMusical [((6, 8), 3)]), .setMBBad, .useMusicalBad]).1.musical = true ∧
    (runOpsB ⟨false, []⟩ [.ok (.addTS 0 6 8), .useMusicalBad, .ok (.useMusical [((6, 8), 3)]), .setMBBad, .useMusicalBad]).1.ts = [⟨0, 6, 8, 2⟩] ∧
    (runOpsB ⟨false, []⟩ [.ok (.addTS 0 6 8), .useMusicalBad, .ok (.useMusical [((6, 8), 3)]), .setMBBad, .useMusicalBad]).2 =
      [false, true, false, true, false] := by decide +kernel

/-! ### histories of the extended API are `HOp` histories -/

def lower : XOp → List HOp
  | .h op => [op]
  | .setMBBad => (lowerB .setMBBad).map HOp.beat
  | .useMusicalBad => (lowerB .useMusicalBad).map HOp.beat
  | .measureOpen s => [.span s s]

def lowerAll (xs : List XOp) : List HOp := xs.flatMap lower

/-- a measure seen as a span: same time points, no measure -/
def demoteOp : HOp → HOp
  | .measure a e => .span a e
  | op => op

def ValidX : XOp → Prop
  | .h op => ValidOp op
  | .setMBBad => True
  | .useMusicalBad => True
  | .measureOpen s => 0 ≤ s

theorem xstep_st (x : XState) (op : XOp) : (xstep x op).st = (lower op).foldl hstep x.st := by
  cases op with
  | h o => rfl
  | setMBBad => rfl
  | useMusicalBad =>
    show { x.st with beat := stepB x.st.beat .useMusicalBad } = hstep x.st (.beat (.useMusical []))
    rw [(rejected_useMusical x.st.beat).2.2]
    rfl
  | measureOpen s =>
    show { x.st with times := insertKey s x.st.times } = hstep x.st (.span s s)
    simp only [hstep, insertKey_idem]

theorem xrun_st_from (xs : List XOp) (x : XState) : (xs.foldl xstep x).st = (lowerAll xs).foldl hstep x.st := by
  have := Lists.foldl_sim (f := fun s op => (lower op).foldl hstep s) (f' := xstep) (R := fun s x => x.st = s) (g := id)
    (fun _ x op hr => hr ▸ xstep_st x op) xs x.st x rfl
  rwa [List.map_id, ← List.foldl_flatMap] at this

/-- the quarter duration `Part(id[, quarter_duration])` starts with -/
def q0Of (q0 : Option Nat) : Nat := match q0 with | some q => q | none => Gen.C02.partQuarterDefault

theorem q0Of_pos (q0 : Option Nat) (hq : ∀ q, q0 = some q → 0 < q) : 0 < q0Of q0 := by
  cases q0 with
  | none => show 0 < Gen.C02.partQuarterDefault; decide
  | some q => exact hq q rfl

/-- **the state after a history of the extended API is the state after the lowered history** -/
theorem xrun_st (q0 : Option Nat) (xs : List XOp) : (xrun q0 xs).st = hrun (q0Of q0) (lowerAll xs) := by
  unfold xrun hrun
  rw [xrun_st_from]
  rfl

/-- the state with its measures forgotten (what demoting every measure to a span leaves) -/
def clearM (s : HState) : HState := { s with measures := [] }

theorem hstep_demote (s : HState) (op : HOp) : hstep (clearM s) (demoteOp op) = clearM (hstep s op) := by
  cases op with
  | beat o => cases o <;> rfl
  | _ => rfl

theorem demote_from (h : List HOp) (s : HState) : (h.map demoteOp).foldl hstep (clearM s) = clearM (h.foldl hstep s) :=
  Lists.foldl_sim (R := fun s s' => s = clearM s') (fun _ s' op hr => hr ▸ hstep_demote s' op) h _ _ rfl

/-- a history with its measures demoted to spans builds the same part without a first measure -/
theorem demote_build (q0 : Nat) (h : List HOp) :
    buildPart q0 (h.map demoteOp) = { buildPart q0 h with m1 := none } := by
  unfold buildPart hrun
  have := demote_from h (hinit q0)
  have h0 : clearM (hinit q0) = hinit q0 := rfl
  rw [h0] at this
  rw [this]
  rfl

theorem validOp_demote (op : HOp) (h : ValidOp op) : ValidOp (demoteOp op) := by
  cases op <;> exact h

theorem valid_lower (op : XOp) (h : ValidX op) : ∀ o ∈ lower op, ValidOp o := by
  intro o ho
  cases op with
  | h o' => simp only [lower, List.mem_singleton] at ho; rw [ho]; exact h
  | setMBBad => simp [lower, lowerB] at ho
  | useMusicalBad =>
    simp only [lower, lowerB, List.map_cons, List.map_nil, List.mem_singleton] at ho
    rw [ho]
    intro e he
    simp at he
  | measureOpen s =>
    simp only [lower, List.mem_singleton] at ho
    rw [ho]
    exact ⟨h, h⟩

theorem valid_lowerAll (xs : List XOp) (hv : ∀ op ∈ xs, ValidX op) : ∀ o ∈ lowerAll xs, ValidOp o := by
  intro o ho
  simp only [lowerAll, List.mem_flatMap] at ho
  obtain ⟨x, hx, hox⟩ := ho
  exact valid_lower x (hv x hx) o hox

/-- **Every part reachable through the extended API is a part reachable through the calls of `HOp`** (a
rejected call lowered to nothing resp. `use_musical_beat({})`, an end-less measure to a span, and — when an
end-less measure is the first one starting at the first time point — every measure demoted to a span). -/
theorem xbuild_is_build (q0 : Option Nat) (xs : List XOp) (hv : ∀ op ∈ xs, ValidX op) :
    ∃ hs : List HOp, (∀ op ∈ hs, ValidOp op) ∧ xbuildPart q0 xs = buildPart (q0Of q0) hs ∧
      (hs = lowerAll xs ∨ hs = (lowerAll xs).map demoteOp) := by
  have hvl := valid_lowerAll xs hv
  unfold xbuildPart XState.toPart
  simp only
  rw [xrun_st]
  split
  · refine ⟨(lowerAll xs).map demoteOp, ?_, ?_, Or.inr rfl⟩
    · intro o ho
      simp only [List.mem_map] at ho
      obtain ⟨o', ho', rfl⟩ := ho
      exact validOp_demote o' (hvl o' ho')
    · rw [demote_build]
      rfl
  · exact ⟨lowerAll xs, hvl, rfl, Or.inl rfl⟩

/-- the quarter lists do not depend on the lowering chosen -/
theorem xbuild_qd (q0 : Option Nat) (xs : List XOp) : (xbuildPart q0 xs).qd = (buildPart (q0Of q0) (lowerAll xs)).qd := by
  unfold xbuildPart XState.toPart
  simp only
  rw [xrun_st]
  split <;> rfl

/-- **C02 for the maps as written, every part reachable through the extended API** (`Part(id)` with or without a
quarter duration, accepted and rejected musical-beat calls, measures with and without an end, notes, signatures,
`set_quarter_duration`, queries, in any order): exact advance over every stretch, monotone, strictly increasing;
`inv(fwd(x)) = x` on the whole timeline; a number exactly from time 0 to the last key point. -/
theorem api_parts_property (q0 : Option Nat) (hq : ∀ q, q0 = some q → 0 < q) (xs : List XOp)
    (hv : ∀ op ∈ xs, ValidX op) (m : Mode) (h2 : 2 ≤ (xbuildPart q0 xs).npoints) :
    WF (xbuildPart q0 xs) m ∧
    (∀ a b ya yb, a ≤ b → fwdS (xbuildPart q0 xs) m a = some ya → fwdS (xbuildPart q0 xs) m b = some yb →
        yb - ya = elapsed (keypoints (xbuildPart q0 xs) m) a b ∧ ya ≤ yb ∧ (a < b → ya < yb)) ∧
    (∀ x, ((xbuildPart q0 xs).first : Rat) ≤ x → x ≤ ((xbuildPart q0 xs).last : Rat) →
        roundTripS (xbuildPart q0 xs) m x = some x) ∧
    (∀ x, (∃ y, fwdS (xbuildPart q0 xs) m x = some y) ↔
        (0 : Rat) ≤ x ∧ x ≤ ((lastOf (keyTimes (xbuildPart q0 xs) m) : Int) : Rat)) := by
  obtain ⟨hs, hvs, heq, _⟩ := xbuild_is_build q0 xs hv
  have hq0 := q0Of_pos q0 hq
  rw [heq] at h2 ⊢
  exact ⟨built_part_wf _ hq0 hs hvs m h2, built_as_written (q0Of q0) hq0 hs hvs m h2⟩

/-- **A first measure without an end switches the pickup shift off**: when the first measure starting at the first
time point (order of addition) has no end, zero lies at time 0 and nowhere else — whatever other measures start
there. -/
theorem open_first_measure_zero (q0 : Option Nat) (hq : ∀ q, q0 = some q → 0 < q) (xs : List XOp)
    (hv : ∀ op ∈ xs, ValidX op) (m : Mode) (h2 : 2 ≤ (xbuildPart q0 xs).npoints)
    (ho : (xrun q0 xs).openFirst (xrun q0 xs).st.toPart.first = true) (z : Rat) :
    (xbuildPart q0 xs).m1 = none ∧ (fwdS (xbuildPart q0 xs) m z = some 0 ↔ z = 0) := by
  have hm1 : (xbuildPart q0 xs).m1 = none := by
    unfold xbuildPart XState.toPart
    simp only [ho, if_true]
  obtain ⟨hs, hvs, heq, _⟩ := xbuild_is_build q0 xs hv
  have hq0 := q0Of_pos q0 hq
  refine ⟨hm1, ?_⟩
  rw [heq] at h2 hm1 ⊢
  have hw := built_part_wf _ hq0 hs hvs m h2
  have hti : tolInactiveB (buildPart (q0Of q0) hs) m = true := by
    unfold tolInactiveB; rw [hm1]
  have hno : pickupShift (buildPart (q0Of q0) hs) m (knots (keypoints (buildPart (q0Of q0) hs) m) 0) = 0 := by
    unfold pickupShift; rw [hm1]
  rw [fwdS_eq_fwd _ m hw hti]
  exact (built_zero_plain (q0Of q0) hq0 hs hvs m h2 hno z).1

/-- non-vacuity: 6/8 with four divisions per quarter, a pickup measure of 4 divisions; an end-less measure added
BEFORE it hides it (zero at time 0), added AFTER it does not (zero at the end of the pickup measure); a rejected
`use_musical_beat` leaves the part in musical mode (6/8 counts 2 beats: the bar of 12 divisions lasts 2 beats) -/
example :
    fwdS (xbuildPart (some 4) [.h (.beat (.addTS 0 6 8)), .measureOpen 0, .h (.measure 0 4), .h (.span 0 24)]) .notated 4 = some 2 ∧
    fwdS (xbuildPart (some 4) [.h (.beat (.addTS 0 6 8)), .h (.measure 0 4), .measureOpen 0, .h (.span 0 24)]) .notated 4 = some 0 ∧
    (xbuildPart none [.h (.span 0 8)]).qd = [(0, 1)] ∧
    (xbuildPart (some 4) [.h (.beat (.addTS 0 6 8)), .useMusicalBad, .h (.span 0 24)]).musical = true ∧
    beatMap (xbuildPart (some 4) [.h (.beat (.addTS 0 6 8)), .useMusicalBad, .h (.span 0 24)]) 12 = some 2 ∧
    xraised (xinit none) [.h (.beat (.addTS 0 6 8)), .useMusicalBad, .useMusicalBad, .setMBBad] =
      [false, true, false, true] := by
  decide +kernel

end C02
