/-
C13 — the cell clauses for ALL MIDI velocities 0..127 (`cell_iff`, `cell_binary`, `idx_designate` assume `0 < vel`).

A note of velocity 0 is drawn like any other (`_idx_fill` gets its rows) but writes the value 0: scipy keeps an explicit
zero, `toarray()` shows 0.  "Non-zero exactly when a note of pitch p sounds during frame j" therefore reads, for
velocities `≥ 0`: non-zero exactly when a note of NON-ZERO velocity covers the cell — a velocity-0 note never hides a
sounding one (the maximum wins) and never lights a cell.  With `0 < vel` everywhere these are `cell_iff`,
`cell_binary`, `idx_designate` again.

Stated for `makeWith fl` (every rounding function: `f64` = the code, `id` = the exact reading) and for `makePianoroll`.
-/
import PartituraModel.Props.C13Raster

namespace C13
open Model Model.PianoRoll
open List

/-- **cell (p, j) is non-zero exactly when a note of non-zero velocity sounds there** — all velocities `≥ 0` -/
theorem raster_cell_iff_sounding (fl : Rat → Rat) (o : Opts) (notes : List Note) (r : Roll)
    (h : makeWith fl o notes = some r) (hv : ∀ n ∈ notes, 0 ≤ n.vel) (p j : Int) (hp0 : 0 ≤ p) (hp1 : p < r.rows) :
    r.cell p j ≠ 0 ↔ ∃ n ∈ notes, CoversG fl o notes n (p + r.rowStart) j ∧ n.vel ≠ 0 :=
  cell_iff_soundingR fl o notes _ _ _ r (makeWith_rows fl o notes ▸ h) hv p j hp0 hp1

/-- the value of any cell is non-negative — all velocities `≥ 0` -/
theorem raster_cell_nonneg (fl : Rat → Rat) (o : Opts) (notes : List Note) (r : Roll)
    (h : makeWith fl o notes = some r) (hv : ∀ n ∈ notes, 0 ≤ n.vel) (p j : Int) (hp0 : 0 ≤ p) (hp1 : p < r.rows) :
    0 ≤ r.cell p j :=
  cell_nonnegR fl o notes _ _ _ r (makeWith_rows fl o notes ▸ h) hv p j

/-- **binary mode**: every cell is 0 or 1, and it is 1 exactly when a note of non-zero velocity sounds there -/
theorem raster_cell_binary_sounding (fl : Rat → Rat) (o : Opts) (notes : List Note) (r : Roll)
    (h : makeWith fl o notes = some r) (hv : ∀ n ∈ notes, 0 ≤ n.vel) (hb : o.binary = true)
    (p j : Int) (hp0 : 0 ≤ p) (hp1 : p < r.rows) :
    (r.cell p j = 0 ∨ r.cell p j = 1) ∧
    (r.cell p j = 1 ↔ ∃ n ∈ notes, CoversG fl o notes n (p + r.rowStart) j ∧ n.vel ≠ 0) := by
  have hiff := raster_cell_iff_sounding fl o notes r h hv p j hp0 hp1
  obtain ⟨h1, h2⟩ := raster_cell_value fl o notes r h p j hp0 hp1
  have h01 : r.cell p j = 0 ∨ r.cell p j = 1 := by
    by_cases hc : ∃ n ∈ notes, CoversG fl o notes n (p + r.rowStart) j
    · obtain ⟨n, hn, _, _, he⟩ := h2 hc
      rw [he]
      by_cases h0 : n.vel = 0
      · left; simp [h0]
      · right; rw [if_pos ⟨hb, h0⟩]
    · left; exact h1 hc
  refine ⟨h01, ?_⟩
  rw [← hiff]
  rcases h01 with h0 | h0 <;> simp [h0]

/-- **the index rows of the sounding notes designate exactly the non-zero cells** (all velocities `≥ 0`): cell
    `(p, j)` is non-zero iff the index row of some note of non-zero velocity has vertical position `p` and
    `onset ≤ j < offset` (in onset mode: `j = onset`); the rows themselves are `raster_idx_rows`, in input order -/
theorem raster_idx_designate_sounding (fl : Rat → Rat) (o : Opts) (notes : List Note) (r : Roll)
    (h : makeWith fl o notes = some r) (hv : ∀ n ∈ notes, 0 ≤ n.vel) (p j : Int) (hp0 : 0 ≤ p) (hp1 : p < r.rows) :
    r.cell p j ≠ 0 ↔
      ∃ n ∈ notes, n.vel ≠ 0 ∧
        rowOf o (lowestOf o notes) n - r.rowStart = p ∧ onFrameG fl o (t0Of o notes) n ≤ j ∧
        j < (if o.onsetOnly then onFrameG fl o (t0Of o notes) n + 1 else offIdxG fl o (t0Of o notes) n) :=
  idx_designate_soundingG fl o notes r h hv p j hp0 hp1

/-- the exact reading (`makePianoroll`): non-zero exactly when a note of non-zero velocity sounds there -/
theorem cell_iff_sounding (o : Opts) (notes : List Note) (r : Roll) (h : makePianoroll o notes = some r)
    (hv : ∀ n ∈ notes, 0 ≤ n.vel) (p j : Int) (hp0 : 0 ≤ p) (hp1 : p < r.rows) :
    r.cell p j ≠ 0 ↔ ∃ n ∈ notes, Covers o notes n (p + r.rowStart) j ∧ n.vel ≠ 0 :=
  raster_cell_iff_sounding id o notes r ((makeWith_id o notes).trans h) hv p j hp0 hp1

/-- with MIDI velocities `> 0` every covering note sounds, and the sounding clause is `raster_cell_iff` -/
theorem raster_cell_iff_of_sounding (fl : Rat → Rat) (o : Opts) (notes : List Note) (r : Roll)
    (h : makeWith fl o notes = some r) (hv : ∀ n ∈ notes, 0 < n.vel) (p j : Int) (hp0 : 0 ≤ p) (hp1 : p < r.rows) :
    r.cell p j ≠ 0 ↔ ∃ n ∈ notes, CoversG fl o notes n (p + r.rowStart) j := by
  rw [raster_cell_iff_sounding fl o notes r h (fun n hn => (hv n hn).le) p j hp0 hp1]
  exact ⟨fun ⟨n, hn, hc, _⟩ => ⟨n, hn, hc⟩, fun ⟨n, hn, hc⟩ => ⟨n, hn, hc, (hv n hn).ne'⟩⟩

/-- non-vacuity: a velocity-0 note over the frames 0..3 of pitch 60, a velocity-70 note over 1..2: the cells the silent
    note covers alone are 0, the shared ones 70 (1 in binary mode); decoding finds the sounding note only -/
example : (makePianoroll { exOpts with removeSilence := false } [⟨60, 0, 2, 0⟩, ⟨60, 1/2, 1, 70⟩]).map
    (fun r => ((List.range 4).map fun (j : Nat) => r.cell 60 j, r.idx)) =
    some ([0, 70, 70, 0], [(60, 0, 4, 60), (60, 1, 3, 60)]) := by decide +kernel
example : (makePianoroll { exOpts with removeSilence := false, binary := true } [⟨60, 0, 2, 0⟩, ⟨60, 1/2, 1, 70⟩]).map
    (fun r => (List.range 4).map fun (j : Nat) => r.cell 60 j) = some [0, 1, 1, 0] := by decide +kernel
example : (makePianoroll { exOpts with removeSilence := false } [⟨60, 0, 2, 0⟩, ⟨60, 1/2, 1, 70⟩]).bind
    (fun r => decode r.rows.toNat r.toCols 2) = some [(60, 1/2, 1, 70)] :=
  (bind_toCols _ [60] (fun r c => decode r.rows.toNat c 2) (by decide +kernel)).trans (by decide +kernel)

end C13
