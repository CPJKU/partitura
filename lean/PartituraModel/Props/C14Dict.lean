/-
C14 — the dictionary protocol of `PerformedNote` and histories of a `PerformedPart`.

`RawNote` = the dictionary handed to `PerformedNote` (absent keys are `none`), `initNote` = `PerformedNote(d)`,
`setItem` = `note[key] = value`, `buildRaw` = `PerformedPart(dicts, controls, thr)`, `step` / `runOps` = one /
a history of statements (threshold assignment, `pp.notes[i][key] = v`, `pp.notes.append(PerformedNote(d))`).
`PNote.toNote` is what `adjust_offsets_w_sustain` and `note_array` read (`midi_pitch` as the pitch), so every
theorem of Props/C14.lean about `soundOffAt` speaks about the states reached here (`step_thr`, `soundOffAt_of_column`).
-/
import PartituraModel.Proofs.C14Dict
import PartituraModel.Props.C14

namespace C14
open Model Model.Pedal C14P

/-! ### `PerformedNote(d)` -/

/-- the default velocity (regenerated from the source) is itself a valid velocity -/
theorem velDefault_ok : 0 ≤ Gen.C14.velDefault ∧ Gen.C14.velDefault ≤ 127 := by decide

/-- what the constructor fills in: `pitch` from `pitch`, else from `midi_pitch`; `midi_pitch` from `midi_pitch`, else
    from `pitch` (fixes/C14-4); `note_on` / `note_off` must be given; `sound_off` defaults to `note_off`,
    `velocity` to 60, `track` to 0, `channel` to 1; ticks stay as given -/
theorem init_defaults (r : RawNote) (n : PNote) (h : initNote r = some n) :
    n.id = r.id ∧ r.pitch.or r.midiPitch = some n.pitch ∧ n.midiPitch = r.midiPitch.getD n.pitch
    ∧ r.on = some n.on ∧ r.off = some n.off ∧ n.soundOff = r.soundOff.getD n.off
    ∧ n.vel = r.vel.getD Gen.C14.velDefault ∧ n.track = r.track.getD Gen.C14.trackDefault
    ∧ n.chan = r.chan.getD Gen.C14.chanDefault
    ∧ n.onTick = r.onTick ∧ n.offTick = r.offTick ∧ validInit n = true := by
  obtain ⟨p, hp, hv, rfl⟩ := (initNote_eq_some r n).mp h
  obtain ⟨⟨_, _, _, _, hon, hoff, _⟩, _⟩ := (validInit_iff _).mp hv
  -- a missing onset / release is completed to -1, which the validators reject
  have hron : r.on = some (r.on.getD Gen.C14.missingOn) := by
    cases hr : r.on with
    | none => exact absurd (show (0 : Rat) ≤ r.on.getD Gen.C14.missingOn from hon) (by rw [hr]; decide)
    | some x => rfl
  have hroff : r.off = some (r.off.getD Gen.C14.missingOff) := by
    cases hr : r.off with
    | none => exact absurd (show (0 : Rat) ≤ r.off.getD Gen.C14.missingOff from hoff) (by rw [hr]; decide)
    | some y => rfl
  exact ⟨rfl, hp, rfl, hron, hroff, rfl, rfl, rfl, rfl, rfl, rfl, hv⟩

/-- the notes the constructor accepts, exactly: a pitch under one of the two keys, onset and release present, and
    every validator of a present key passes — MIDI ranges, 0 ≤ onset ≤ release, a given `sound_off` not before the
    release, a given `note_on_tick` not negative, a given `note_off_tick` not before a given `note_on_tick` -/
theorem init_accepts_iff (r : RawNote) :
    (∃ n, initNote r = some n) ↔
      ∃ p on off, r.pitch.or r.midiPitch = some p ∧ r.on = some on ∧ r.off = some off
        ∧ 0 ≤ p ∧ p ≤ 127 ∧ 0 ≤ on ∧ on ≤ off
        ∧ (∀ v, r.vel = some v → 0 ≤ v ∧ v ≤ 127)
        ∧ (∀ s, r.soundOff = some s → off ≤ s)
        ∧ (∀ t, r.onTick = some t → 0 ≤ t)
        ∧ (∀ t u, r.onTick = some t → r.offTick = some u → t ≤ u) := by
  constructor
  · rintro ⟨n, hn⟩
    obtain ⟨_, hp, _, hon, hoff, hso, hvel, _, _, hot, hoft, hv⟩ := init_defaults r n hn
    obtain ⟨⟨p1, p2, v1, v2, h0on, _, _⟩, hoo, hs, hot', hoft'⟩ := (validInit_iff n).mp hv
    exact ⟨n.pitch, n.on, n.off, hp, hon, hoff, p1, p2, h0on, hoo,
      fun v hv' => by rw [hvel, hv'] at v1 v2; exact ⟨v1, v2⟩, fun s hs' => by rw [hso, hs'] at hs; exact hs,
      fun t ht => hot' t (hot ▸ ht), fun t u ht hu => hoft' t u (hot ▸ ht) (hoft ▸ hu)⟩
  · rintro ⟨p, on, off, hp, hon, hoff, hp1, hp2, h0on, honoff, hvel, hso, hot, hoft⟩
    have h0off : 0 ≤ off := le_trans h0on honoff
    refine ⟨_, (initNote_eq_some r _).mpr ⟨p, hp, (validInit_iff _).mpr ?_, rfl⟩⟩
    simp only [defaulted, hon, hoff, Option.getD_some]
    have hv : 0 ≤ r.vel.getD Gen.C14.velDefault ∧ r.vel.getD Gen.C14.velDefault ≤ 127 := by
      cases hr : r.vel with
      | none => exact velDefault_ok
      | some v => exact hvel v hr
    have hs : off ≤ r.soundOff.getD off := by
      cases hr : r.soundOff with
      | none => exact le_refl _
      | some s => exact hso s hr
    exact ⟨⟨hp1, hp2, hv.1, hv.2, h0on, h0off, le_trans h0off hs⟩, honoff, hs, hot, hoft⟩

-- the documented form (key `pitch`, no velocity / track / channel) and the loaders' form; rejections
example : initNote ⟨none, some 60, none, some 10, some 20, none, none, none, none, none, none⟩
    = some ⟨none, 60, 60, 10, 20, 20, Gen.C14.velDefault, Gen.C14.trackDefault, Gen.C14.chanDefault, none, none⟩ := by decide +kernel
example : initNote ⟨some "n0", none, some 60, some 0, some 1, some 3, some 64, some 2, some 9, some 5, none⟩
    = some ⟨some "n0", 60, 60, 0, 1, 3, 64, 2, 9, some 5, none⟩ := by decide +kernel
example : initNote ⟨none, none, none, some 0, some 1, none, none, none, none, none, none⟩ = none := by decide +kernel
example : initNote ⟨none, some 60, none, some 10, some 20, some 15, none, none, none, none, none⟩ = none := by
  decide +kernel
example : initNote ⟨none, some 60, none, some 10, none, none, none, none, none, none, none⟩ = none := by decide +kernel
example : initNote ⟨none, some 60, none, some 0, some 1, none, none, none, none, some 7, some 3⟩ = none := by
  decide +kernel

/-- a note of the property's domain (a pitch 0..127 under either key or the same one under both, 0 ≤ onset ≤
    release, nothing else or a valid velocity / a `sound_off` at or after the release) is accepted, and what
    `adjust_offsets_w_sustain` reads of it is a well-formed note of Props/C14.lean -/
theorem init_valid (r : RawNote) (n : PNote) (h : initNote r = some n)
    (hk : ∀ a b, r.pitch = some a → r.midiPitch = some b → a = b) :
    n.midiPitch = n.pitch ∧ validNote n.toNote = true := by
  obtain ⟨_, hp, hmp, _, _, _, _, _, _, _, _, hv⟩ := init_defaults r n h
  obtain ⟨⟨p1, p2, v1, v2, h0, _, _⟩, ho, _⟩ := (validInit_iff n).mp hv
  have hm : n.midiPitch = n.pitch := by
    rw [hmp]
    cases hb : r.midiPitch with
    | none => rfl
    | some b =>
      cases ha : r.pitch with
      | none => rw [ha, hb] at hp; exact Option.some.inj hp
      | some a => rw [ha, hb] at hp; exact (hk a b ha hb).symm.trans (Option.some.inj hp)
  exact ⟨hm, (valid_note_iff _).mpr
    ⟨(hm.symm ▸ p1 : 0 ≤ n.midiPitch), (hm.symm ▸ p2 : n.midiPitch ≤ 127), h0, ho, v1, v2⟩⟩

/-! ### `PerformedPart(dicts, controls, thr)` -/

/-- building a performed part from note dictionaries the constructor of `PerformedNote` accepts never fails,
    whatever the controls and the threshold; the `sound_off` column is `adjust_offsets_w_sustain` of the notes —
    it does not depend on any `sound_off` the dictionaries carried — and everything else is as constructed -/
theorem raw_total (rs : List RawNote) (cs : List Control) (thr : Int) (h : ∀ r ∈ rs, ∃ n, initNote r = some n) :
    ∃ ns p, mapM' initNote rs = some ns ∧ buildRaw rs cs thr = some p
      ∧ p.notes.map PNote.toNote = ns.map PNote.toNote
      ∧ soundOffs (ns.map PNote.toNote) cs thr = some (p.notes.map (·.soundOff))
      ∧ p.notes.map (fun n => (n.id, n.pitch, n.offTick)) = ns.map (fun n => (n.id, n.pitch, n.offTick))
      ∧ p.controls = cs ∧ p.thr = thr := by
  obtain ⟨ns, hns⟩ := mapM'_exists initNote rs h
  have hs := soundOffs_resound ns cs thr
  rw [List.map_map] at hs
  exact ⟨ns, _, hns, (buildRaw_eq_some rs cs thr _).mpr ⟨ns, hns, rfl⟩, List.map_map .., hs, List.map_map .., rfl, rfl⟩

/-- one rejected dictionary makes the construction fail -/
theorem raw_rejects (rs : List RawNote) (cs : List Control) (thr : Int) (r : RawNote) (hr : r ∈ rs)
    (h : initNote r = none) : buildRaw rs cs thr = none := by
  unfold buildRaw
  rw [mapM'_none_of_mem initNote rs r hr h]

example : buildRaw [⟨none, some 60, none, some 0, some 2, none, none, none, none, none, none⟩,
                    ⟨none, some 60, none, some 0, some 2, some 1, none, none, none, none, none⟩] [] 64 = none := by
  decide +kernel

/-- with consistent pitch keys the part is the one Props/C14.lean speaks about: `buildPart` of the notes as read -/
theorem raw_build_refines (rs : List RawNote) (cs : List Control) (thr : Int) (p : PPart)
    (hk : ∀ r ∈ rs, ∀ a b, r.pitch = some a → r.midiPitch = some b → a = b)
    (hp : buildRaw rs cs thr = some p) :
    ∃ ns, mapM' initNote rs = some ns ∧ buildPart (ns.map PNote.toNote) cs thr = some p.toPart := by
  obtain ⟨ns, hns, rfl⟩ := (buildRaw_eq_some rs cs thr p).mp hp
  refine ⟨ns, hns, ?_⟩
  refine (buildPart_eq_some ..).mpr ⟨fun x hx => ?_, ?_⟩
  · obtain ⟨n, hn, rfl⟩ := List.mem_map.mp hx
    obtain ⟨r, hr, hrn⟩ := mapM'_mem hns n hn
    exact (init_valid r n hrn (hk r hr)).2
  · simp only [PPart.toPart, List.map_map]
    rfl

example : buildRaw [⟨some "a", some 60, none, some 0, some 2, some 9, none, none, none, none, none⟩,
                    ⟨some "b", none, some 60, some 3, some 4, none, some 64, none, some 2, none, none⟩]
    [⟨64, 1/2, 100, none⟩, ⟨64, 5, 0, none⟩] 64
    = some ⟨[⟨some "a", 60, 60, 0, 2, 3, Gen.C14.velDefault, Gen.C14.trackDefault, Gen.C14.chanDefault, none, none⟩,
             ⟨some "b", 60, 60, 3, 4, 5, 64, Gen.C14.trackDefault, 2, none, none⟩],
            [⟨64, 1/2, 100, none⟩, ⟨64, 5, 0, none⟩], 64⟩ := by decide +kernel

/-! ### `note[key] = value` -/

/-- the key test comes before the validator: a key outside the accepted ones is a `KeyError` whatever the value
    (`midi_pitch` is such a key) -/
theorem setitem_key_first (n : PNote) (v : Int) :
    setItem n (.midiPitch v) = .error .key ∧ setItem n .other = .error .key := ⟨rfl, rfl⟩

/-- what `adjust_offsets_w_sustain` and `note_array` read of a note after an accepted assignment: only the assigned
    field moved; `sound_off`, `id`, `note_off_tick` are not part of it -/
def readsAfter (x : Note) : SetOp → Note
  | .pitch v => { x with pitch := v }
  | .noteOn v => { x with «on» := v }
  | .noteOff v => { x with off := v }
  | .velocity v => { x with vel := v }
  | .track v => { x with track := v }
  | .channel v => { x with chan := v }
  | .noteOnTick v => { x with onTick := some v }
  | _ => x

theorem setitem_reads (n m : PNote) (op : SetOp) (h : setItem n op = .ok m) : m.toNote = readsAfter n.toNote op := by
  obtain ⟨_, rfl⟩ := (setItem_ok_iff n m op).mp h
  cases op <;> rfl

example : setItem ⟨none, 60, 60, 1, 2, 2, 60, 0, 1, none, none⟩ (.noteOn 5)
    = .ok ⟨none, 60, 60, 5, 2, 2, 60, 0, 1, none, none⟩ := by decide +kernel
example : setItem ⟨none, 60, 60, 1, 2, 2, 60, 0, 1, none, none⟩ (.noteOff (1/2)) = .error .value := by decide +kernel
example : setItem ⟨none, 60, 60, 1, 2, 2, 60, 0, 1, none, none⟩ (.midiPitch 61) = .error .key := by decide +kernel
example : setItem ⟨none, 60, 60, 1, 2, 2, 60, 0, 1, none, none⟩ (.pitch 200) = .error .value := by decide +kernel

/-- what an assignment does NOT re-establish: after `note["note_off"] = v` the stored `sound_off` may lie before
    the release (until the next threshold assignment), and `note["note_on"] = v` may pass the release -/
theorem set_off_can_pass_sound_off :
    ∃ n m : PNote, n.on ≤ n.off ∧ n.off ≤ n.soundOff ∧ setItem n (.noteOff 7) = .ok m ∧ m.soundOff < m.off :=
  ⟨⟨none, 60, 60, 1, 2, 2, 60, 0, 1, none, none⟩, ⟨none, 60, 60, 1, 7, 2, 60, 0, 1, none, none⟩,
    by decide +kernel, by decide +kernel, by decide +kernel, by decide +kernel⟩

/-- `pp.notes.append(PerformedNote(d))` succeeds exactly when the constructor accepts `d`; the note goes to the end
    with the `sound_off` the constructor gave it (the release, or the one it carried) -/
theorem step_append (p : PPart) (r : RawNote) :
    (∀ n, initNote r = some n → step p (.append r) = ({ p with notes := p.notes ++ [n] }, .ok))
    ∧ (initNote r = none → step p (.append r) = (p, .valErr)) :=
  ⟨fun n hn => by simp only [step, hn], fun hn => by simp only [step, hn]⟩

/-- a statement that raises leaves the part exactly as it was -/
theorem step_error_unchanged (p : PPart) (o : Op) (h : (step p o).2 ≠ .ok) : (step p o).1 = p := by
  rcases step_cases p o with ⟨_, _, e⟩ | ⟨_, _, _, _, _, _, _, e⟩ | ⟨_, _, _, _, e⟩ | ⟨_, _, e⟩ <;> rw [e] at h ⊢
  · exact absurd rfl h
  · exact absurd rfl h
  · exact absurd rfl h

/-- assigning the threshold in ANY state of the part (after any edits and appended notes): it never fails, the
    notes are as they were except for `sound_off`, the `sound_off` column is `adjust_offsets_w_sustain` of the
    notes that are in the part now — all of them — and no sounding end lies before its release -/
theorem step_thr (p : PPart) (t : Int) :
    ∃ q, step p (.thr t) = (q, .ok) ∧ q.thr = t ∧ q.controls = p.controls
      ∧ q.notes.length = p.notes.length
      ∧ q.notes.map PNote.toNote = p.notes.map PNote.toNote
      ∧ q.notes.map (fun n => (n.id, n.pitch, n.offTick)) = p.notes.map (fun n => (n.id, n.pitch, n.offTick))
      ∧ soundOffs (q.notes.map PNote.toNote) q.controls t = some (q.notes.map (·.soundOff))
      ∧ ∀ (i : Nat) (n : PNote), q.notes[i]? = some n → n.off ≤ n.soundOff := by
  refine ⟨_, step_thr_eq p t,
    rfl, rfl, List.length_map _, List.map_map .., List.map_map .., soundOffs_resound .., ?_⟩
  intro i n hn
  obtain ⟨m, hm, rfl⟩ := List.mem_map.mp (List.mem_of_getElem? hn)
  exact resound_ge _ _ _ m hm

/-- a part whose `sound_off` column is `adjust_offsets_w_sustain` of its notes: every theorem of Props/C14.lean about
    `soundOffAt` (never before the release, equal to the release with the pedal up, the least later moment with the
    pedal down, antitone in the threshold) speaks about the `sound_off` its notes hold -/
theorem soundOffAt_of_column (L : List PNote) (cs : List Control) (t : Int)
    (hs : soundOffs (L.map PNote.toNote) cs t = some (L.map (·.soundOff))) (i : Nat) (n : PNote) (hn : L[i]? = some n) :
    soundOffAt (L.map PNote.toNote) cs t i = some n.soundOff := by
  rw [soundOffAt, hs]
  simp only [List.getElem?_map, hn, Option.map_some]

/-- an accepted `pp.notes[i][key] = v` replaces note `i` and nothing else -/
theorem step_set (p q : PPart) (i : Nat) (op : SetOp) (h : step p (.set i op) = (q, .ok)) :
    ∃ n m, p.notes[i]? = some n ∧ setItem n op = .ok m ∧ q.notes[i]? = some m
      ∧ q.notes.length = p.notes.length ∧ (∀ j, j ≠ i → q.notes[j]? = p.notes[j]?)
      ∧ q.controls = p.controls ∧ q.thr = p.thr := by
  rcases step_cases p (.set i op) with ⟨_, ho, _⟩ | ⟨_, _, n, m, ho, hn, hm, e⟩ | ⟨_, _, ho, _⟩ | ⟨o, ho, e⟩
  · cases ho
  · cases ho
    obtain rfl := (Prod.mk.inj (e.symm.trans h)).1
    have hi : i < p.notes.length := (List.getElem?_eq_some_iff.mp hn).1
    exact ⟨n, m, hn, hm, List.getElem?_set_self hi, List.length_set, fun j hj => List.getElem?_set_ne (Ne.symm hj),
      rfl, rfl⟩
  · cases ho
  · exact absurd (Prod.mk.inj (e.symm.trans h)).2 ho

/-- the invariant of every note under every history: MIDI ranges of pitch and velocity, no negative time -/
def NoteInv (n : PNote) : Prop :=
  0 ≤ n.pitch ∧ n.pitch ≤ 127 ∧ 0 ≤ n.vel ∧ n.vel ≤ 127 ∧ 0 ≤ n.on ∧ 0 ≤ n.off ∧ 0 ≤ n.soundOff

theorem noteInv_of_valid (n : PNote) (h : validInit n = true) : NoteInv n := ((validInit_iff n).mp h).1

theorem init_inv (r : RawNote) (n : PNote) (h : initNote r = some n) : NoteInv n :=
  noteInv_of_valid n (validInit_of_init h)

theorem setitem_inv (n m : PNote) (op : SetOp) (hn : NoteInv n) (h : setItem n op = .ok m) : NoteInv m := by
  obtain ⟨a1, a2, a3, a4, a5, a6, a7⟩ := hn
  obtain ⟨ha, rfl⟩ := (setItem_ok_iff n m op).mp h
  cases op with
  | pitch v => exact ⟨ha.1, ha.2, a3, a4, a5, a6, a7⟩
  | velocity v => exact ⟨a1, a2, ha.1, ha.2, a5, a6, a7⟩
  | noteOn v => exact ⟨a1, a2, a3, a4, ha, a6, a7⟩
  | noteOff v => exact ⟨a1, a2, a3, a4, a5, (ha.resolve_left (not_lt.mpr a5)).1, a7⟩
  | soundOff v => exact ⟨a1, a2, a3, a4, a5, a6, (ha.resolve_left (not_lt.mpr a6)).1⟩
  | _ => exact ⟨a1, a2, a3, a4, a5, a6, a7⟩

/-- the two pitch keys stay in step under every assignment (fixes/C14-5) -/
theorem setitem_keys_agree (n m : PNote) (op : SetOp) (hn : n.midiPitch = n.pitch) (h : setItem n op = .ok m) :
    m.midiPitch = m.pitch := by
  obtain ⟨_, rfl⟩ := (setItem_ok_iff n m op).mp h
  cases op with
  | pitch v => rfl
  | _ => exact hn

theorem noteInv_sound (n : PNote) (s : Rat) (hn : NoteInv n) (hs : n.off ≤ s) : NoteInv { n with soundOff := s } :=
  ⟨hn.1, hn.2.1, hn.2.2.1, hn.2.2.2.1, hn.2.2.2.2.1, hn.2.2.2.2.2.1, le_trans hn.2.2.2.2.2.1 hs⟩

/-- in every state a history of statements can reach from a constructed part, every note keeps the MIDI ranges of
    pitch and velocity and has no negative time -/
theorem history_note_inv (rs : List RawNote) (cs : List Control) (thr : Int) (p : PPart)
    (hp : buildRaw rs cs thr = some p) (ops : List Op) : ∀ x ∈ runOps p ops, ∀ n ∈ x.1.notes, NoteInv n :=
  history_preserves NoteInv setitem_inv noteInv_sound p ops (fun _ _ r n _ => init_inv r n)
    (built_notes NoteInv (fun r _ => init_inv r) noteInv_sound cs thr p hp)

/-- … and with consistent pitch keys in the dictionaries the two keys agree in every reachable state -/
theorem history_keys_agree (rs : List RawNote) (cs : List Control) (thr : Int) (p : PPart)
    (hk : ∀ r ∈ rs, ∀ a b, r.pitch = some a → r.midiPitch = some b → a = b)
    (hp : buildRaw rs cs thr = some p) (ops : List Op)
    (hko : ∀ o ∈ ops, ∀ r, o = .append r → ∀ a b, r.pitch = some a → r.midiPitch = some b → a = b) :
    ∀ x ∈ runOps p ops, ∀ n ∈ x.1.notes, n.midiPitch = n.pitch :=
  history_preserves (fun n => n.midiPitch = n.pitch) setitem_keys_agree (fun _ _ h _ => h) p ops
    (fun o ho r n e hn => (init_valid r n hn (hko o ho r e)).1)
    (built_notes (fun n => n.midiPitch = n.pitch) (fun r hr n hn => (init_valid r n hn (hk r hr)).1)
      (fun _ _ h _ => h) cs thr p hp)

/-- no statement removes a note; an accepted `append` adds exactly one -/
theorem step_length (p : PPart) (o : Op) :
    p.notes.length ≤ (step p o).1.notes.length
    ∧ (∀ r n, o = .append r → initNote r = some n → (step p o).1.notes.length = p.notes.length + 1) := by
  rcases step_cases p o with ⟨t, ho, e⟩ | ⟨i, op, _, _, ho, _, _, e⟩ | ⟨_, _, _, _, e⟩ | ⟨o', ho', e⟩ <;> rw [e]
  · exact ⟨(List.length_map _).ge, fun r n h _ => by rw [ho] at h; cases h⟩
  · exact ⟨Nat.le_of_eq List.length_set.symm, fun r n h _ => by rw [ho] at h; cases h⟩
  · exact ⟨List.length_append ▸ Nat.le_add_right _ _, fun _ _ _ _ => List.length_append⟩
  · refine ⟨le_refl _, fun r n h hn => ?_⟩
    rw [h, (step_append p r).1 n hn] at e
    exact absurd (Prod.mk.inj e).2.symm ho'

/-- the assignment of a threshold at any point of a history, for every run function that lists the outcomes of a step
    function: when `a` is executed as the assignment of `t` and `C` says what the statements make of the control
    stream, entry `k` of the trace holds a part whose `sound_off` column is `adjust_offsets_w_sustain` of its notes
    and of the control stream the first `k` statements leave (`history_recompute`, `xhistory_recompute`,
    `yhistory_recompute` are the instances for `runOps`, `xrun`, `yrun`) -/
theorem run_recompute {α : Type} (f : PPart → α → PPart × Obs) (run : PPart → List α → List (PPart × Obs))
    (hrun : ∀ p o os, run p (o :: os) = f p o :: run (f p o).1 os)
    (C : List Control → List α → List Control) (hC0 : ∀ cs, C cs [] = cs)
    (hC : ∀ p o os, C (f p o).1.controls os = C p.controls (o :: os))
    (a : α) (t : Int) (ha : ∀ p, f p a = step p (.thr t)) (p : PPart) (ops : List α) (k : Nat) (h : ops[k]? = some a) :
    ∃ q, (run p ops)[k]? = some (q, .ok) ∧ q.thr = t ∧ q.controls = C p.controls (ops.take k)
      ∧ soundOffs (q.notes.map PNote.toNote) q.controls t = some (q.notes.map (·.soundOff))
      ∧ ∀ (i : Nat) (n : PNote), q.notes[i]? = some n → n.off ≤ n.soundOff := by
  rw [run_getElem f run hrun p ops k a h, ha]
  obtain ⟨q, hq, ht, hc, _, _, _, hs, hge⟩ := step_thr ((ops.take k).foldl (fun s o => (f s o).1) p) t
  exact ⟨q, congrArg some hq, ht, hc.trans (foldl_controls f C hC0 hC p _), hs, hge⟩

/-- … so every theorem of Props/C14.lean about `soundOffAt` holds for every note of the state that entry holds -/
theorem run_state_sound {α : Type} (f : PPart → α → PPart × Obs) (run : PPart → List α → List (PPart × Obs))
    (hrun : ∀ p o os, run p (o :: os) = f p o :: run (f p o).1 os)
    (a : α) (t : Int) (ha : ∀ p, f p a = step p (.thr t)) (p : PPart) (ops : List α) (k : Nat) (h : ops[k]? = some a)
    (q : PPart) (obs : Obs) (hq : (run p ops)[k]? = some (q, obs)) (i : Nat) (n : PNote) (hn : q.notes[i]? = some n) :
    soundOffAt (q.notes.map PNote.toNote) q.controls t i = some n.soundOff := by
  rw [run_getElem f run hrun p ops k a h, ha] at hq
  obtain ⟨q', hq', _, _, _, _, _, hs, _⟩ := step_thr ((ops.take k).foldl (fun s o => (f s o).1) p) t
  obtain rfl : q' = q := (Prod.mk.inj (hq'.symm.trans (Option.some.inj hq))).1
  exact soundOffAt_of_column q'.notes q'.controls t hs i n hn

/-- "setting it recomputes every note", over all histories: whenever statement `k` of a history of threshold
    assignments, accepted or rejected item assignments and appended notes is the assignment of `t`, it succeeds, and
    afterwards the `sound_off` column is `adjust_offsets_w_sustain` of all the notes the part holds at that moment
    (edited and appended ones included), the controls being the ones of the construction -/
theorem history_recompute (p : PPart) (ops : List Op) (k : Nat) (t : Int) (h : ops[k]? = some (.thr t)) :
    ∃ q, (runOps p ops)[k]? = some (q, .ok) ∧ q.thr = t ∧ q.controls = p.controls
      ∧ soundOffs (q.notes.map PNote.toNote) q.controls t = some (q.notes.map (·.soundOff))
      ∧ ∀ (i : Nat) (n : PNote), q.notes[i]? = some n → n.off ≤ n.soundOff :=
  run_recompute step runOps (fun _ _ _ => rfl) (fun cs _ => cs) (fun _ => rfl) (fun p o _ => step_controls p o)
    _ t (fun _ => rfl) p ops k h

-- pedal down from 1/2 to 5; a note of the same pitch appended after construction cuts the first note at its onset
-- once the threshold is assigned again (same value), and is itself extended to the pedal release; rejected
-- statements in between change nothing; after the pitch of the appended note is assigned away the cut disappears
example : (buildRaw [⟨some "a", some 60, none, some 0, some 2, none, none, none, none, none, none⟩]
      [⟨64, 1/2, 100, none⟩, ⟨64, 5, 0, none⟩] 64).map (fun p =>
        (runOps p [.append ⟨some "b", none, some 60, some 3, some 4, none, none, none, none, none, none⟩,
                   .thr 64, .set 1 (.midiPitch 61), .set 1 (.pitch 200), .set 7 (.velocity 1), .thr 127, .thr 64,
                   .set 1 (.pitch 61), .thr 64]).map
          (fun x => (x.2, x.1.notes.map (·.soundOff))))
    = some [(.ok, [5, 4]), (.ok, [3, 5]), (.keyErr, [3, 5]), (.valErr, [3, 5]), (.idxErr, [3, 5]), (.ok, [2, 4]),
            (.ok, [3, 5]), (.ok, [3, 5]), (.ok, [5, 5])] := by decide +kernel

end C14
