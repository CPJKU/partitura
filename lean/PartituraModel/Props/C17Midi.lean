/-
C17: the MIDI score importer around the three estimators - "a score imported from MIDI therefore contains
exactly the file's pitches", from the MESSAGES of the file to the notes of the parts of the score
(Model/C17Midi.lean mirrors `load_score_midi`, `assign_group_part_voice`, the zip that feeds `create_part`; the tie to
the code is the stream `midix` of drv_c17 and Gen/C17MidiTables.lean, regenerated from importmidi.py on every run).
-/
import PartituraModel.Proofs.C17Midi
import PartituraModel.Proofs.Round
import PartituraModel.Props.C17Float
import PartituraModel.Props.C17Search
import PartituraModel.Props.C17Options

namespace C17
open Model Model.C17Midi Gen C17M

/-- every literal of importmidi.py the model uses was read from the live source (none is pinned) -/
theorem midi_tables_extracted : C17MIDI_PINNED = [] := by decide +kernel

/-- WHOLE table of the regenerated `note_hash` (16 channels × 128 notes): two different keys of a track never share an
    entry of `sounding_notes` -/
theorem note_hash_injective (c n c' n' : Nat) (hc : c < 16) (hn : n < 128) (hc' : c' < 16) (hn' : n' < 128)
    (h : noteHash c n = noteHash c' n') : c = c' ∧ n = n' := hash_inj hc hn hc' hn' h

/-- whole tables: each of the six documented modes has a branch in `assign_group_part_voice`, the default mode is one of
    them, note-on and note-off messages are not skipped by the loop, and a tempo message is -/
theorem midi_dispatch_tables :
    (∀ m ∈ [0, 1, 2, 3, 4, 5], m ∈ MIDI_MODES) ∧ MIDI_DEFAULT_MODE ≤ 5 ∧
    "note_on" ∈ MIDI_RELEVANT ∧ "note_off" ∈ MIDI_RELEVANT ∧ "set_tempo" ∈ MIDI_RELEVANT := by decide +kernel

/-- `quantize`: the answer is a multiple of the unit and a nearest one (no further than half a unit from the time) -/
theorem quantize_nearest (u t : Nat) (hu : 0 < u) :
    (u : Int) ∣ quantT (some u) t ∧ |((quantT (some u) t : Int) : Rat) - t| ≤ (u : Rat) / 2 := by
  obtain ⟨k, rfl⟩ : ∃ k, u = k + 1 := ⟨u - 1, by omega⟩
  simp only [quantT]
  refine ⟨Dvd.intro _ rfl, ?_⟩
  rw [Int.cast_mul, Int.cast_natCast, mul_comm]
  exact Round.mul_close _ (by exact_mod_cast Nat.succ_pos k)

/-- `quantize` never reorders two times: a note-off is never quantized before its note-on (no negative duration) -/
theorem quantize_monotone (qu : Option Nat) (t t' : Nat) (h : t ≤ t') : quantT qu t ≤ quantT qu t' := by
  unfold quantT
  split
  · exact_mod_cast h
  · exact_mod_cast h
  · rename_i u hu
    have hpos : (0 : Rat) < (u : Rat) := by
      have : u ≠ 0 := fun e => hu (by rw [e])
      exact_mod_cast Nat.pos_of_ne_zero this
    apply Int.mul_le_mul_of_nonneg_left
    · apply Round.roundHalfEven_mono
      apply div_le_div_of_nonneg_right _ hpos.le
      exact_mod_cast h
    · exact_mod_cast Nat.zero_le u

/-- the message loop of a track: when the messages form complete notes (`WellPaired`: every note-on finds its key
    (channel, note) silent, every note-off - written either way - finds it sounding, nothing is left sounding; any other
    message anywhere), the track yields exactly one note per note-on, with that note-on's pitch - for every
    quantization unit -/
theorem track_one_note_per_note_on (qu : Option Nat) (ms : List Msg) (hw : WellPaired [] ms) :
    (pitches (flatNotes (runTrack qu ms))).Perm (onPitches ms) := by
  have := run_pitches qu [] ms hw {} ⟨List.nodup_nil, by simp, by intro c n _ _; simp [lookup]⟩
  simpa [runTrack, flatNotes, pitches] using this

def mOn (dt ch n : Nat) : Msg := { type := "note_on", dt := dt, ch := ch, note := n, vel := 64 }
def mOff (dt ch n : Nat) : Msg := { type := "note_off", dt := dt, ch := ch, note := n, vel := 0 }

/-- the hypothesis is satisfiable: a chord C-E on two channels, a control change between the note-offs, the second
    note-off written as a note-on with velocity 0 -/
example : WellPaired [] [mOn 0 0 60, mOn 0 1 64, mOff 4 0 60,
    { type := "control_change", dt := 0, ch := 0, note := 0, vel := 0 }, { mOn 0 1 64 with vel := 0 }] := by
  refine .on _ _ _ (by decide) (by decide) (by decide) (by decide) ?_
  refine .on _ _ _ (by decide) (by decide) (by decide) (by decide) ?_
  refine .off _ _ _ (by decide) (by decide) ?_
  refine .skip _ _ _ (by decide) (by decide) ?_
  refine .off _ _ _ (by decide) (by decide) ?_
  exact .nil

example : (runTrack none [mOn 0 0 60, mOn 0 1 64, mOff 4 0 60, { mOn 0 1 64 with vel := 0 }]).notes =
    [(0, [(0, 60, 4)]), (1, [(0, 64, 4)])] := by decide +kernel

/-- without it the claim fails, in the model as in the code: a second note-on of a sounding key overwrites the first
    onset, and two note-ons yield one note -/
example : flatNotes (runTrack none [mOn 0 0 60, mOn 2 0 60, mOff 2 0 60, mOff 2 0 60]) = [(2, 60, 2)] := by decide +kernel

/-- the array handed to the three estimators (`note_list`, the notes of the sorted (track, channel) keys one after the
    other) holds exactly the notes the tracks completed: nothing lost, nothing twice -/
theorem note_list_complete (qu : Option Nat) (tracks : List (List Msg)) :
    ∃ perKey, perKeyNotes (notesByTrackCh qu tracks) = some perKey ∧
      (noteList perKey).Perm (tracks.flatMap fun tr => flatNotes (runTrack qu tr)) := by
  obtain ⟨perKey, h⟩ := perKey_total (notesByTrackCh qu tracks)
  exact ⟨perKey, h, noteList_perm qu tracks perKey h⟩

/-- `assign_group_part_voice`: in each of the six documented modes every (track, channel) key is given a part, and there
    is one answer per key -/
theorem assign_total (mode : Nat) (hm : mode ≤ 5) (keys : List Key) :
    (assign mode keys).length = keys.length ∧ ∀ g ∈ assign mode keys, g.2.1.isSome :=
  ⟨assign_length mode keys, assign_part_some mode hm keys⟩

/-- an undocumented mode gives no key a part (and `load_score_midi` then raises) -/
example : assign 6 [(0, 0), (0, 3)] = [(none, none, none), (none, none, none)] := by decide +kernel

example : assign 0 [(0, 0), (0, 3), (1, 3)] = [(none, some 0, some 1), (none, some 0, some 2), (none, some 1, some 1)] := by
  decide +kernel

example : assign 1 [(0, 0), (0, 3), (1, 3)] = [(some 0, some 0, none), (some 0, some 1, none), (some 1, some 2, none)] := by
  decide +kernel

/-- the routing into parts (`notes_by_part`, part groups, `Score.parts`): every note handed over ends up in exactly one
    part of the score -/
theorem routing_keeps_notes (gpv : List (Option Nat × Option Nat × Option Nat)) (key : Option String) (items : List Item)
    (parts : List PartOut) (h : routeParts gpv key items = some parts) :
    (parts.flatMap (·.notes)).Perm (items.map (·.note)) := by
  unfold routeParts at h
  simp only [Option.bind_eq_bind, Option.pure_def, Option.bind_eq_some_iff, Option.some.injEq] at h
  obtain ⟨pl, hpl, rfl⟩ := h
  refine List.Perm.trans ?_ (notesByPart_flat items)
  simpa using (routeFold_spec gpv key _ [] pl hpl).1

/-- the pitches of `note_list` are the pitches of the file's note-ons, hence MIDI pitches -/
theorem noteList_pitches (qu : Option Nat) (tracks : List (List Msg)) (perKey : List (List Note3))
    (hw : ∀ tr ∈ tracks, WellPaired [] tr) (h : perKeyNotes (notesByTrackCh qu tracks) = some perKey) :
    ((noteList perKey).map (·.2.1)).Perm (tracks.flatMap onPitches) := by
  refine ((noteList_perm qu tracks perKey h).map _).trans ?_
  rw [List.map_flatMap]
  exact List.Perm.flatMap_left _ (fun tr htr => track_one_note_per_note_on qu tr (hw tr htr))

theorem noteList_range (qu : Option Nat) (tracks : List (List Msg)) (perKey : List (List Note3))
    (hw : ∀ tr ∈ tracks, WellPaired [] tr) (h : perKeyNotes (notesByTrackCh qu tracks) = some perKey) :
    ∀ r ∈ (noteList perKey).map (fun n => (((n.1 : Int) : Rat), n.2.1)), 0 ≤ r.2 ∧ r.2 ≤ 127 := by
  intro r hr
  obtain ⟨n, hn, rfl⟩ := List.mem_map.mp hr
  have : n.2.1 ∈ tracks.flatMap onPitches :=
    (noteList_pitches qu tracks perKey hw h).subset (List.mem_map.mpr ⟨n, hn, rfl⟩)
  obtain ⟨tr, htr, hp⟩ := List.mem_flatMap.mp this
  exact wellPaired_range [] tr (hw tr htr) _ hp

theorem routeParts_key (gpv : List (Option Nat × Option Nat × Option Nat)) (key : Option String) (items : List Item)
    (parts : List PartOut) (h : routeParts gpv key items = some parts) : ∀ p ∈ parts, p.key = key := by
  unfold routeParts at h
  simp only [Option.bind_eq_bind, Option.pure_def, Option.bind_eq_some_iff, Option.some.injEq] at h
  obtain ⟨pl, hpl, rfl⟩ := h
  exact (routeFold_spec gpv key _ [] pl hpl).2 (by simp)

/-- `load_score_midi` inverted once: its four intermediate results and their lengths, some key was given a part, every
    part carries the key, and the notes of the score are - up to order - the rows of `note_list` zipped with the voices
    and the spellings -/
theorem loadScoreMidi_inv {mode : Nat} {qu : Option Nat} {estV estK ids : Bool} {tracks : List (List Msg)}
    {parts : List PartOut} (h : loadScoreMidi mode qu estV estK ids tracks = some parts) :
    ∃ perKey sp voices key,
      perKeyNotes (notesByTrackCh qu tracks) = some perKey ∧
      C17Float.ps13F PS13_K_PRE PS13_K_POST ((noteList perKey).map fun n => ((n.1 : Rat), n.2.1)) = some sp ∧
      voicesOf estV (partVoiceList (assign mode (sortedKeys (notesByTrackCh qu tracks))) perKey) (noteList perKey) = some voices ∧
      keyOf estK (noteList perKey) = some key ∧
      noteList perKey ≠ [] ∧ sp.length = (noteList perKey).length ∧ voices.length = (noteList perKey).length ∧
      (∃ g ∈ assign mode (sortedKeys (notesByTrackCh qu tracks)), g.2.1.isSome) ∧
      (∀ p ∈ parts, p.key = key) ∧
      ((parts.flatMap (·.notes)).map face).Perm ((((noteList perKey).map (·.2.1)).zip (voices.map (·.getD 0))).zip sp) := by
  unfold loadScoreMidi at h
  simp only [Option.bind_eq_some_iff] at h
  obtain ⟨perKey, hperKey, sp, hsp, voices, hvoices, key, hkey, partsL, hparts, hroute⟩ := h
  obtain ⟨hne, hsplen⟩ := C17F.ps13F_length _ _ _ sp hsp
  rw [List.length_map] at hsplen
  have hne' : noteList perKey ≠ [] := fun e => hne (by rw [e]; rfl)
  have hpvl := pvl_length_perKey mode _ perKey hperKey
  have hvl := voicesOf_length _ _ _ _ hvoices
  have hpl := Lists.mapM_length hparts
  refine ⟨perKey, sp, voices, key, hperKey, hsp, hvoices, hkey, hne', hsplen, by omega, ?_, routeParts_key _ _ _ _ hroute, ?_⟩
  · have hlen : 0 < partsL.length := by
      have := List.length_pos_of_ne_nil hne'
      omega
    obtain ⟨x, hx, hxe⟩ := Lists.mapM_mem hparts _ (List.getElem_mem hlen)
    obtain ⟨g, hg, rfl⟩ := pvl_mem _ _ x hx
    exact ⟨g, hg, by rw [show g.2.1 = some partsL[0] from hxe]; rfl⟩
  · have := (routing_keeps_notes _ _ _ _ hroute).map face
    rwa [List.map_map, show face ∘ (fun it : Item => it.note) = fun it => face it.note from rfl,
      mkItems_face ids partsL _ voices sp (by omega) (by omega) hsplen] at this

/-- the notes of all parts of the imported score: their pitches are the pitches of the file's note-ons, and every note
    is spelled so that it sounds its pitch -/
theorem midi_import_exact_pitches (mode : Nat) (qu : Option Nat) (estV estK ids : Bool) (tracks : List (List Msg)) (parts : List PartOut)
    (hw : ∀ tr ∈ tracks, WellPaired [] tr)
    (h : loadScoreMidi mode qu estV estK ids tracks = some parts) :
    ((parts.flatMap (·.notes)).map (·.pitch)).Perm (tracks.flatMap onPitches) ∧
    ∀ n ∈ parts.flatMap (·.notes), sounding (n.step, n.alter, n.octave) = some n.pitch := by
  obtain ⟨perKey, sp, voices, key, hperKey, hsp, _, _, _, hsplen, hvl, _, _, hperm⟩ := loadScoreMidi_inv h
  obtain ⟨_, hsound⟩ := spelling_sounds_binary64 _ _ _ sp (noteList_range qu tracks perKey hw hperKey) hsp
  constructor
  · have := hperm.map (Prod.fst ∘ Prod.fst)
    rw [List.map_map, ← List.map_map (f := Prod.fst),
      List.map_fst_zip (by rw [List.length_zip, List.length_map, List.length_map]; omega),
      List.map_fst_zip (by rw [List.length_map, List.length_map]; omega)] at this
    exact this.trans (noteList_pitches qu tracks perKey hw hperKey)
  · intro n hn
    obtain ⟨i, hi, hxi⟩ := List.mem_iff_getElem.mp (hperm.subset (List.mem_map_of_mem (f := face) hn))
    rw [List.length_zip, List.length_zip, List.length_map, List.length_map] at hi
    have hil : i < (noteList perKey).length := by omega
    obtain ⟨s, hs, hss⟩ := hsound i (by rw [List.length_map]; exact hil)
    rw [List.getElem?_eq_getElem (by omega), Option.some.injEq] at hs
    rw [List.getElem_zip, List.getElem_zip, List.getElem_map, face, Prod.mk.injEq, Prod.mk.injEq] at hxi
    obtain ⟨⟨e1, _⟩, e2⟩ := hxi
    rw [List.getElem_map] at hss
    rw [← e1, ← e2, hs]
    exact hss

/-- totality: a file whose tracks form complete notes and that has at least one note is imported in each of the six
    documented modes, whatever the quantization unit and the three switches - nothing raises (ps13 and the modelled
    VoSA are total on a non-empty array, the key estimate always exists, every key has a part, every part a group entry) -/
theorem midi_import_total (mode : Nat) (hm : mode ≤ 5) (qu : Option Nat) (estV estK ids : Bool) (tracks : List (List Msg))
    (hw : ∀ tr ∈ tracks, WellPaired [] tr) (hne : tracks.flatMap onPitches ≠ []) :
    ∃ parts, loadScoreMidi mode qu estV estK ids tracks = some parts := by
  obtain ⟨perKey, hperKey, _⟩ := note_list_complete qu tracks
  have hpit := noteList_pitches qu tracks perKey hw hperKey
  have hnlne : noteList perKey ≠ [] := by
    intro e
    rw [e] at hpit
    exact hne (List.Perm.eq_nil (hpit.symm))
  have hpvl := pvl_length_perKey mode _ perKey hperKey
  obtain ⟨sp, hsp⟩ : ∃ sp, C17Float.ps13F PS13_K_PRE PS13_K_POST ((noteList perKey).map fun n => (((n.1 : Int) : Rat), n.2.1)) = some sp := by
    unfold C17Float.ps13F
    rw [if_neg (by simpa using hnlne)]
    exact ⟨_, rfl⟩
  obtain ⟨voices, hvoices⟩ : ∃ v, voicesOf estV (partVoiceList (assign mode (sortedKeys (notesByTrackCh qu tracks))) perKey)
      (noteList perKey) = some v := by
    unfold voicesOf
    cases estV with
    | false => exact ⟨_, rfl⟩
    | true =>
      obtain ⟨out, ho, hlen, _⟩ := voices_total_exact MIDI_ESTIMATE_VOICES_MONO
        ((noteList perKey).map fun n => (n.2.1, ((n.1 : Int) : Rat), ((n.2.2 : Int) : Rat))) (by simpa using hnlne)
      simp only [if_true, ho, Option.bind_some]
      rw [if_neg (by simp only [List.length_map] at hlen; simp; omega)]
      exact ⟨_, rfl⟩
  obtain ⟨key, hkey⟩ : ∃ k, keyOf estK (noteList perKey) = some k := by
    unfold keyOf
    cases estK with
    | false => exact ⟨_, rfl⟩
    | true =>
      obtain ⟨ps, hps⟩ : ∃ ps, C17Wrap.estimateKeySet none = some ps := ⟨.kk, by decide⟩
      obtain ⟨nm, hnm, _⟩ := key_estimate_valid ps ((noteList perKey).map fun n => (n.2.1, ((n.2.2 : Int) : Rat)))
      exact ⟨some nm, by simp [hps, key_fast_path, hnm]⟩
  obtain ⟨partsL, hparts⟩ := Lists.mapM_total (fun x : Option Nat × Option Nat => x.1)
    (partVoiceList (assign mode (sortedKeys (notesByTrackCh qu tracks))) perKey) (by
      intro x hx
      obtain ⟨g, hg, rfl⟩ := pvl_mem _ _ x hx
      exact assign_part_some mode hm _ g hg)
  obtain ⟨parts, hroute⟩ := routeParts_total (assign mode (sortedKeys (notesByTrackCh qu tracks))) key
    (mkItems ids partsL (noteList perKey) voices sp) (by
      intro it hit
      have hp : it.part ∈ partsL := mkItems_parts _ _ _ _ _ _ (List.mem_map.mpr ⟨it, hit, rfl⟩)
      obtain ⟨x, hx, hxe⟩ := Lists.mapM_mem hparts _ hp
      obtain ⟨g, hg, rfl⟩ := pvl_mem _ _ x hx
      rw [← hxe]
      exact List.mem_map.mpr ⟨g, hg, rfl⟩)
  exact ⟨parts, by simp [loadScoreMidi, hperKey, hsp, hvoices, hkey, hparts, hroute]⟩

/-- the property's sentence end to end: a MIDI file whose tracks form complete notes (valid data bytes), any of the six
    modes, any quantization unit, voices / key estimated or not, ids or not: the import succeeds, the pitches of the
    notes of the parts of the score are EXACTLY the pitches of the file's note-ons (as multisets), and every note's
    spelling sounds its pitch -/
theorem midi_score_has_exactly_the_files_pitches (mode : Nat) (hm : mode ≤ 5) (qu : Option Nat) (estV estK ids : Bool)
    (tracks : List (List Msg)) (hw : ∀ tr ∈ tracks, WellPaired [] tr) (hne : tracks.flatMap onPitches ≠ []) :
    ∃ parts, loadScoreMidi mode qu estV estK ids tracks = some parts ∧
      ((parts.flatMap (·.notes)).map (·.pitch)).Perm (tracks.flatMap onPitches) ∧
      ∀ n ∈ parts.flatMap (·.notes), sounding (n.step, n.alter, n.octave) = some n.pitch := by
  obtain ⟨parts, h⟩ := midi_import_total mode hm qu estV estK ids tracks hw hne
  exact ⟨parts, h, midi_import_exact_pitches mode qu estV estK ids tracks parts hw h⟩

/-- a file without a single completed note is rejected: its tracks complete nothing, and the estimators raise on the empty
    array (`spelling_total`, `voices_modelled_empty`) -/
example : (runTrack none [{ type := "text", dt := 3, ch := 0, note := 0, vel := 0 }, mOff 1 0 60]).notes = [] ∧
    C17Float.ps13F PS13_K_PRE PS13_K_POST [] = none := by decide +kernel

/-- invariant of the message loop: no remembered onset lies after the (quantized) current time, and no completed note
    has a negative duration -/
def TimeInv (qu : Option Nat) (st : TrackSt) : Prop :=
  (∀ k t0, lookup k st.sounding = some t0 → t0 ≤ quantT qu st.t) ∧ ∀ n ∈ flatNotes st, 0 ≤ n.2.2

theorem step_timeInv (qu : Option Nat) (st : TrackSt) (m : Msg) (h : TimeInv qu st) : TimeInv qu (step qu st m) := by
  obtain ⟨h1, h2⟩ := h
  have hmono : quantT qu st.t ≤ quantT qu (st.t + m.dt) := quantize_monotone qu _ _ (Nat.le_add_right _ _)
  rcases step_cases qu st m with e | ⟨hh, e⟩ | ⟨hh, t0', ht0', e⟩
  · rw [e]; exact ⟨fun k t0 hk => le_trans (h1 k t0 hk) hmono, h2⟩
  · rw [e]
    refine ⟨?_, h2⟩
    intro k t0 hk
    simp only [lookup_dictSet] at hk
    split at hk
    · simp only [Option.some.injEq] at hk; rw [← hk]
    · exact le_trans (h1 k t0 hk) hmono
  · rw [e]
    refine ⟨?_, ?_⟩
    · intro k t0 hk
      simp only [lookup_dictDel] at hk
      split at hk
      · simp at hk
      · exact le_trans (h1 k t0 hk) hmono
    · intro n hn
      rcases List.mem_append.mp ((appendAt_isAppendAt.flat _ _ _).subset hn) with a | a
      · exact h2 n a
      · rw [List.mem_singleton.mp a]
        have := le_trans (h1 _ t0' ht0') hmono
        simp only
        omega

/-- no note of a track has a negative duration, whatever the messages and the quantization unit (a note whose ends are
    quantized to the same tick has duration 0 and becomes a grace note) -/
theorem track_durations_nonneg (qu : Option Nat) (ms : List Msg) : ∀ n ∈ flatNotes (runTrack qu ms), 0 ≤ n.2.2 := by
  exact (Lists.foldl_inv (TimeInv qu) (step qu) (fun st m h => step_timeInv qu st m h) ms {}
    ⟨by intro k t0 hk; simp [lookup] at hk, by intro n hn; simp [flatNotes] at hn⟩).2

theorem assign_invalid (mode : Nat) (hm : 5 < mode) (keys : List Key) : ∀ g ∈ assign mode keys, g.2.1 = none := by
  have hstep : ∀ st k, assignStep mode st k = st := by
    intro st k
    unfold assignStep
    simp only [show mode ≠ 0 by omega, show mode ≠ 1 by omega, show mode ≠ 2 by omega, show mode ≠ 3 by omega,
      show mode ≠ 4 by omega, show mode ≠ 5 by omega, if_false]
  have hfold : ∀ (ks : List Key) (st : AssignSt), ks.foldl (assignStep mode) st = st := fun ks st =>
    Lists.foldl_inv (· = st) (assignStep mode) (fun s k hs => by rw [hstep, hs]) ks st rfl
  intro g hg
  unfold assign at hg
  obtain ⟨k, _, rfl⟩ := List.mem_map.mp hg
  simp [hfold, lookup]

/-- a mode outside the six documented ones is rejected (no key is given a part, and `part_nr + 1` raises) - whatever
    the file -/
theorem midi_import_invalid_mode (mode : Nat) (hm : 5 < mode) (qu : Option Nat) (estV estK ids : Bool)
    (tracks : List (List Msg)) : loadScoreMidi mode qu estV estK ids tracks = none := by
  cases hres : loadScoreMidi mode qu estV estK ids tracks with
  | none => rfl
  | some parts =>
    obtain ⟨_, _, _, _, _, _, _, _, _, _, _, ⟨g, hg, hs⟩, _⟩ := loadScoreMidi_inv hres
    rw [assign_invalid mode hm _ g hg] at hs
    cases hs

/-- modes 1, 3, 4 and 5 assign no voice -/
theorem assign_no_voice (mode : Nat) (hm : mode = 1 ∨ mode = 3 ∨ mode = 4 ∨ mode = 5) (keys : List Key) :
    ∀ g ∈ assign mode keys, g.2.2 = none := by
  have hstep : ∀ st k, (assignStep mode st k).voice = st.voice := by
    intro st k
    rcases hm with h | h | h | h <;> subst h <;> simp [assignStep]
  have hfold : ∀ (ks : List Key) (st : AssignSt), (ks.foldl (assignStep mode) st).voice = st.voice := fun ks st =>
    Lists.foldl_inv (·.voice = st.voice) (assignStep mode) (fun s k hs => by rw [hstep, hs]) ks st rfl
  intro g hg
  unfold assign at hg
  obtain ⟨k, _, rfl⟩ := List.mem_map.mp hg
  simp [hfold, lookup]

theorem voicesOf_est (pvl : List (Option Nat × Option Nat)) (nl : List Note3) (v : List (Option Int))
    (hnone : ∀ x ∈ pvl, x.2 = none) (h : voicesOf true pvl nl = some v) :
    ∃ est, Vosa.estimateVoicesExact MIDI_ESTIMATE_VOICES_MONO (nl.map fun n => (n.2.1, ((n.1 : Int) : Rat), ((n.2.2 : Int) : Rat))) = some est ∧
      v = est.map some := by
  unfold voicesOf at h
  simp only [if_true, Option.bind_eq_some_iff] at h
  obtain ⟨est, hest, h⟩ := h
  refine ⟨est, hest, ?_⟩
  split at h
  · simp at h
  · rename_i hl
    simp only [ne_eq, Decidable.not_not] at hl
    simp only [Option.some.injEq] at h
    subst h
    have : ∀ (pvl : List (Option Nat × Option Nat)) (est : List Int), (∀ x ∈ pvl, x.2 = none) → est.length = pvl.length →
        (pvl.zip est).map (fun x => match x.1.2 with | none => some x.2 | some v => some (v : Int)) = est.map some := by
      intro pvl
      induction pvl with
      | nil => intro est _ hl; cases est <;> simp_all
      | cons p ps ih =>
        intro est hn hl
        cases est with
        | nil => simp at hl
        | cons e es =>
          have hp := hn p List.mem_cons_self
          simp only [List.zip_cons_cons, List.map_cons, hp, List.cons.injEq, true_and]
          exact ih es (fun x hx => hn x (List.mem_cons_of_mem _ hx)) (by simpa using hl)
    exact this pvl est hnone hl

/-- the voice clause of the property on the MIDI path: with `estimate_voice_info=True` in the modes that leave the voice
    open (1, 3, 4, 5), every note of the score carries the voice the modelled VoSA estimated - positive, and the voice
    numbers used in the score are exactly 1..k -/
theorem midi_voices_from_one (mode : Nat) (hm : mode = 1 ∨ mode = 3 ∨ mode = 4 ∨ mode = 5) (qu : Option Nat) (estK ids : Bool)
    (tracks : List (List Msg)) (parts : List PartOut) (hw : ∀ tr ∈ tracks, WellPaired [] tr)
    (h : loadScoreMidi mode qu true estK ids tracks = some parts) :
    (∀ n ∈ parts.flatMap (·.notes), 1 ≤ n.voice) ∧
    ∃ k : Int, ∀ x, (∃ n ∈ parts.flatMap (·.notes), n.voice = x) ↔ 1 ≤ x ∧ x ≤ k := by
  obtain ⟨perKey, sp, voices, key, _, _, hvoices, _, hne, hsplen, hvl, _, _, hperm⟩ := loadScoreMidi_inv h
  obtain ⟨est, hest, rfl⟩ := voicesOf_est _ _ _ (by
    intro x hx
    obtain ⟨g, hg, rfl⟩ := pvl_mem _ _ x hx
    exact assign_no_voice mode hm _ g hg) hvoices
  obtain ⟨out, ho, _, hpos, k, hk⟩ := voices_total_exact MIDI_ESTIMATE_VOICES_MONO
    ((noteList perKey).map fun n => (n.2.1, ((n.1 : Int) : Rat), ((n.2.2 : Int) : Rat))) (by simpa using hne)
  rw [hest, Option.some.injEq] at ho
  subst ho
  -- the voices of the notes of the score are the estimated ones
  have hvs : ((parts.flatMap (·.notes)).map (·.voice)).Perm est := by
    have := hperm.map (Prod.snd ∘ Prod.fst)
    rw [List.map_map, ← List.map_map (f := Prod.fst),
      List.map_fst_zip (by simp only [List.length_zip, List.length_map] at hvl ⊢; omega),
      List.map_snd_zip (by simp only [List.length_map] at hvl ⊢; omega)] at this
    simpa [List.map_map, Function.comp_def, face] using this
  refine ⟨fun n hn => hpos _ (hvs.subset (List.mem_map_of_mem hn)), k, fun x => ?_⟩
  rw [← hk x, ← hvs.mem_iff]
  simp [List.mem_map]

/-- `estimate_key=True`: every part of the score carries the same key, and it is a valid key name -/
theorem midi_key_valid (mode : Nat) (qu : Option Nat) (estV ids : Bool) (tracks : List (List Msg)) (parts : List PartOut)
    (h : loadScoreMidi mode qu estV true ids tracks = some parts) :
    ∃ nm, (∀ p ∈ parts, p.key = some nm) ∧ (nm ∈ MAJOR_KEYS ∨ ∃ r ∈ MINOR_KEYS, nm = r ++ "m") := by
  obtain ⟨perKey, _, _, key, _, _, _, hkey, _, _, _, _, hk, _⟩ := loadScoreMidi_inv h
  simp only [keyOf, if_true, Option.bind_eq_some_iff, Option.map_eq_some_iff] at hkey
  obtain ⟨ps, _, nm, hnm, rfl⟩ := hkey
  obtain ⟨nm', h1, h2⟩ := key_estimate_valid ps ((noteList perKey).map fun n => (n.2.1, ((n.2.2 : Int) : Rat)))
  rw [key_fast_path, h1, Option.some.injEq] at hnm
  subst hnm
  exact ⟨nm', hk, h2⟩

/-- without `estimate_key` the model writes no key (the file's own key signatures are outside the model) -/
theorem midi_no_key (mode : Nat) (qu : Option Nat) (estV ids : Bool) (tracks : List (List Msg)) (parts : List PartOut)
    (h : loadScoreMidi mode qu estV false ids tracks = some parts) : ∀ p ∈ parts, p.key = none := by
  obtain ⟨_, _, _, key, _, _, _, hkey, _, _, _, _, hk, _⟩ := loadScoreMidi_inv h
  cases hkey
  exact hk

end C17
