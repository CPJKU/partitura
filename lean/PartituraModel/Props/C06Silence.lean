/-
C06 — `load_performance` on a MIDI file: format dispatch (repaired: fixes/C06-6) and
`first_note_at_zero` = `remove_silence_from_performed_part` applied to the first performed part.
-/
import PartituraModel.Model.PerfMidi
import PartituraModel.Proofs.C06Silence
import Mathlib.Tactic.Ring

namespace C06
open Model Model.PerfMidi C06Sort C06Silence

/-- Dispatch: for a MIDI file `load_performance` returns the parts of `load_performance_midi`; with
    `first_note_at_zero` only the FIRST part is touched (silence removed, or left as it is when that raises:
    a part without notes), all other parts are returned as loaded -/
theorem load_performance_dispatch (ps : List SPart) (p : SPart) (rest : List SPart) :
    loadPerformance false ps = ps ∧ loadPerformance true [] = [] ∧
    loadPerformance true (p :: rest) = (removeSilence p).getD p :: rest := by
  refine ⟨by simp [loadPerformance], rfl, ?_⟩
  cases h : removeSilence p <;> simp [loadPerformance, h]

/-- silence removal fails exactly for a part without notes (`min([])`) -/
theorem silence_none (p : SPart) : removeSilence p = none ↔ p.notes = [] := by
  rw [← List.map_eq_nil_iff (f := (·.on)), ← minRat_none]
  unfold removeSilence
  cases minRat (p.notes.map (·.on)) with
  | none => exact iff_of_true rfl rfl
  | some s => exact iff_of_false nofun nofun

/-- Notes: with `s` the smallest onset of the part — which one of its notes has —, every note keeps its
    pitch, velocity, channel and track and its place in the list; its onset and (for a note that does not
    end before it starts) its release move by exactly `s`; so durations are kept, the order of onsets is
    kept, no onset becomes negative and the first one is 0 -/
theorem silence_notes (p r : SPart) (h : removeSilence p = some r) (hwf : ∀ n ∈ p.notes, n.on ≤ n.off) :
    ∃ s, minRat (p.notes.map (·.on)) = some s ∧ (∃ n ∈ p.notes, n.on = s) ∧ (∀ n ∈ p.notes, s ≤ n.on) ∧
      r.notes = p.notes.map (fun n => { n with on := n.on - s, off := n.off - s }) ∧
      (∀ n ∈ p.notes, (n.off - s) - (n.on - s) = n.off - n.on) ∧
      (∀ a ∈ p.notes, ∀ b ∈ p.notes, (a.on ≤ b.on ↔ a.on - s ≤ b.on - s)) ∧
      (∀ n ∈ r.notes, 0 ≤ n.on) ∧ (∃ n ∈ r.notes, n.on = 0) := by
  obtain ⟨s, hs, rfl⟩ := removeSilence_some p r h
  obtain ⟨hmem, hmin⟩ := minRat_spec _ s hs
  obtain ⟨n0, hn0, hn0s⟩ := List.mem_map.mp hmem
  have hle : ∀ n ∈ p.notes, s ≤ n.on := fun n hn => hmin n.on (List.mem_map.mpr ⟨n, hn, rfl⟩)
  have hnotes : (p.notes.map fun n => { n with on := shiftT s n.on, off := shiftT s n.off })
      = p.notes.map (fun n => { n with on := n.on - s, off := n.off - s }) := by
    refine List.map_congr_left ?_
    intro n hn
    rw [shiftT_of_le s n.on (hle n hn), shiftT_of_le s n.off (le_trans (hle n hn) (hwf n hn))]
  refine ⟨s, hs, ⟨n0, hn0, hn0s⟩, hle, hnotes, ?_, ?_, ?_, ?_⟩
  · intro n _; ring
  · intro a _ b _; constructor <;> intro hab <;> linarith
  · intro n hn
    rw [hnotes] at hn
    obtain ⟨m, hm, rfl⟩ := List.mem_map.mp hn
    exact sub_nonneg.mpr (hle m hm)
  · refine ⟨{ n0 with on := n0.on - s, off := n0.off - s }, ?_, ?_⟩
    · rw [hnotes]
      exact List.mem_map.mpr ⟨n0, hn0, rfl⟩
    · exact sub_eq_zero.mpr hn0s

/-- Programs: every program keeps its number, channel, track and place; its time becomes `max (t - s) 0`
    (programs written before the first note land on 0), which keeps the order of the times -/
theorem silence_programs (p r : SPart) (h : removeSilence p = some r) :
    ∃ s, minRat (p.notes.map (·.on)) = some s ∧
      r.programs = p.programs.map (fun g => { g with time := shiftT s g.time }) ∧
      (∀ t, s ≤ t → shiftT s t = t - s) ∧ (∀ t, t ≤ s → shiftT s t = 0) ∧
      (∀ a b, a ≤ b → shiftT s a ≤ shiftT s b) := by
  obtain ⟨s, hs, rfl⟩ := removeSilence_some p r h
  refine ⟨s, hs, rfl, shiftT_of_le s, fun t ht => ?_, shiftT_mono s⟩
  rw [shiftT_eq_max, max_eq_right (sub_nonpos.mpr ht)]

/-- Controls: the result is in order of time, no time is negative; strictly after the first onset the
    controls are exactly those of the part, each moved by `s` (as a multiset of (time, number, channel,
    track)); what lay at or before the first onset is replaced by controls at time 0 -/
theorem silence_controls (p r : SPart) (h : removeSilence p = some r) :
    ∃ s, minRat (p.notes.map (·.on)) = some s ∧
      r.controls.Pairwise (fun a b => a.time ≤ b.time) ∧ (∀ c ∈ r.controls, 0 ≤ c.time) ∧
      (((r.controls.filter (fun c => decide (0 < c.time))).map ctlKey).Perm
        ((p.controls.filter (fun c => decide (s < c.time))).map fun c => (c.time - s, c.num, c.ch, c.track))) := by
  obtain ⟨s, hs, rfl⟩ := removeSilence_some p r h
  refine ⟨s, hs, ?_, ?_, ?_⟩
  · exact ((isSort ctlTimeLe).pairwise ctlTimeLe_order _).imp (fun h => by simpa [ctlTimeLe] using h)
  · intro c hcm
    obtain ⟨g, _, hg⟩ := List.mem_flatMap.mp (((isSort _).mem).mp hcm)
    obtain ⟨tr, ch, num, ct⟩ := g
    cases ct with
    | nil => cases hg
    | cons c0 rest =>
      obtain ⟨t, _, rfl⟩ := List.mem_map.mp hg
      exact shiftT_nonneg s t
  · exact ((((isSort ctlTimeLe).perm _).filter _).map _).trans (groups_later s p.controls)

/-- Control values: in a group — the controls of one (track, channel, number) — whose times are strictly
    increasing in list order (what the loader produces unless two such controls share a tick), the
    "previous" interpolation returns, at the time of a control, that control's value: values are kept.
    (Two controls of one group at the same time both get the later value.) -/
theorem silence_control_values (c0 : Rat × Nat) (rest : List (Rat × Nat))
    (hs : (c0 :: rest).Pairwise (fun a b => a.1 < b.1)) (t : Rat) (v : Nat) (hm : (t, v) ∈ c0 :: rest) :
    prevVal c0 rest t = v := by
  unfold prevVal
  simp only
  have hmem : t ∈ (c0 :: rest).map (·.1) := List.mem_map.mpr ⟨(t, v), hm, rfl⟩
  cases hlo : minRat ((c0 :: rest).map (·.1)) with
  | none => exact absurd ((minRat_none _).mp hlo) (by simp)
  | some lo =>
    cases hhi : maxRat ((c0 :: rest).map (·.1)) with
    | none => exact absurd ((maxRat_none _).mp hhi) (by simp)
    | some hi =>
      have h1 := (minRat_spec _ lo hlo).2 t hmem
      have h2 := (maxRat_spec _ hi hhi).2 t hmem
      simp only [not_lt.mpr h1, not_lt.mpr h2, if_false]
      rw [prevBest_sorted t v (c0 :: rest) none hs (fun b hb => by cases hb) hm]

/-- non-vacuity: first onset at 1/2; a pedal pressed before it (its value is in force at time 0), a control
    of another number after it, a program before it; two pedal values on one time -/
example : removeSilence
    { notes := [⟨60, 64, 0, 0, 1, 2⟩, ⟨62, 70, 0, 0, 1/2, 3/2⟩],
      controls := [⟨1/4, 64, 100, 0, 0⟩, ⟨1/3, 64, 127, 0, 0⟩, ⟨3/4, 7, 90, 0, 0⟩, ⟨1, 64, 10, 0, 0⟩, ⟨1, 64, 0, 0, 0⟩],
      programs := [⟨0, 5, 0, 0⟩] }
  = some
    { notes := [⟨60, 64, 0, 0, 1/2, 3/2⟩, ⟨62, 70, 0, 0, 0, 1⟩],
      controls := [⟨0, 64, 127, 0, 0⟩, ⟨0, 7, 90, 0, 0⟩, ⟨1/4, 7, 90, 0, 0⟩, ⟨1/2, 64, 0, 0, 0⟩, ⟨1/2, 64, 0, 0, 0⟩],
      programs := [⟨0, 5, 0, 0⟩] } := by decide +kernel

example : prevVal (1/4, 100) [(1/3, 127), (1, 10)] (1/3) = 127 ∧ prevVal (1/4, 100) [(1/3, 127), (1, 10)] (1/2) = 127 ∧
    prevVal (1/4, 100) [(1/3, 127), (1, 10)] 0 = 100 ∧ prevVal (1/4, 100) [(1/3, 127), (1, 10)] 2 = 10 := by decide +kernel

end C06
