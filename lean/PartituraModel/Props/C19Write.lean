/-
C19 — the writers.  `export_import` for partitura's **kern exporter: the document `save_kern` writes for an
exportable part (model: `Model/KernWrite.lean`, compared cell by cell with the real output on every run)
denotes, under the semantics of `Model/Kern.lean` (the one `load_kern` is compared against), every note and
grace note of the part with its onset and duration in quarters, its spelling and its staff.
Proofs: `Proofs/C19WriteToken.lean` (tokens) and `Proofs/C19Write.lean` (rows).  All statements are for every part;
nothing is bounded.
-/
import PartituraModel.Proofs.C19Write

namespace C19
open Model Model.Kern Model.KernWrite

/-- `export_import` (kern): for every exportable part the writer succeeds, the written document is well formed
    under the denotational semantics, and the notes it denotes include every note and grace note of the part
    (onset, duration, kind, step, alteration, octave, staff).
    `Exportable` (decidable, `Model/KernWrite.lean`): a positive number of divisions, at least one note or rest,
    every note with a step A–G and an alteration −2…2 or none, every note and rest with a symbolic duration
    (type of `KERN_DURS`, dots, tuplet ratio) worth exactly its length, clef signs G/F/C, and every
    (voice, staff) column complete: whatever starts at a time point in a column starts where the column's
    previous token ended. -/
theorem export_import_kern (p : XPart) (h : Exportable p = true) :
    ∃ rows parts, writeKern p = some rows ∧ Kern.denote rows = some parts ∧
      ∀ f ∈ facts p, ∃ part ∈ parts, ∃ x ∈ part.notes, factOfKernNote x = f :=
  C19W.export_import_kern_aux p h

/-- the token written for one exportable note, grace note or rest reads back as that event: its value in quarters
    (0 for a grace note), its spelling, and no other meaning (character level, every octave, dot count and
    tuplet ratio) -/
theorem kern_token_roundtrip (divs : Nat) (n : XNote) (h : noteOk divs n = true) :
    ∃ cs t, noteTok n = some cs ∧ parseSub cs = some t ∧
      subValue t = some (if n.kind = 1 then 0 else (n.dur : Rat) / (divs : Rat)) ∧
      t.grace = decide (n.kind = 1) ∧
      t.pitch = (if n.kind = 2 then none else some (n.step, n.octave)) ∧
      (n.kind ≠ 2 → t.alter = n.alter.getD 0) ∧ ' ' ∉ cs := by
  obtain ⟨cs, t, hs⟩ := C19W.noteTok_spec divs n h
  exact ⟨cs, t, hs.tok, hs.parse, hs.value, hs.grace, hs.pitch, hs.alter, hs.nosp⟩

/-- the exporter's duration table is the inverse of the importer's (whole finite tables) -/
theorem kern_durs_inverse :
    (∀ e ∈ kernDursW, Model.lookup (String.ofList e.2) kernDurs = some e.1) ∧
    (∀ e ∈ kernDurs, Model.lookup e.2 kernDursW = some e.1.toList) := by
  decide +kernel

/-- the exporter's letters are the importer's: the letter of octave 3 / 4 of every step (whole finite tables) -/
theorem kern_letters_inverse :
    ∀ e ∈ stepLetters, lookupNote e.2.1 kernNotes = some (e.1, 3) ∧ lookupNote e.2.2 kernNotes = some (e.1, 4) := by
  decide +kernel

/-- two voices on one staff and a second staff; a chord entered in alternating order with the other voice,
    a tie, a dotted note, a triplet, a grace note, rests, a clef for one staff only, meter and key -/
def demoPart : XPart :=
  let nt (kind voice staff : Nat) (ty : String) (dots : Nat) (tup : Option (Nat × Nat)) (step : String)
      (alter : Option Int) (oct : Int) (tn tp : Bool) (dur : Nat) : El :=
    .note { kind := kind, voice := voice, staff := staff, sym := some ⟨ty, dots, tup⟩, step := step, alter := alter,
            octave := oct, tieNext := tn, tiePrev := tp, dur := dur }
  { divs := 6,
    points := [
      (0, [.clef 1 "G" 2, .clef 2 "F" 4, .tsig 2 4, .ksig (-2), .measure 1,
           nt 1 1 1 "eighth" 0 none "D" none 5 false false 0,
           nt 0 1 1 "quarter" 1 none "C" none 4 true false 9,
           nt 0 2 1 "quarter" 0 none "C" (some 1) 3 false false 6,
           nt 0 1 1 "quarter" 1 none "E" (some (-1)) 4 false false 9,
           nt 2 3 2 "half" 0 none "" none 0 false false 12]),
      (6, [nt 0 2 1 "eighth" 0 (some (3, 2)) "B" (some 0) 2 false false 2]),
      (8, [nt 0 2 1 "eighth" 0 (some (3, 2)) "A" none 6 false false 2]),
      (9, [nt 0 1 1 "eighth" 0 none "C" none 4 false true 3]),
      (10, [nt 2 2 1 "eighth" 0 (some (3, 2)) "" none 0 false false 2]),
      (12, [.other])] }

example : Exportable demoPart = true := by decide +kernel

example : (writeKern demoPart).map (fun rows => rows.map fun r => r.map String.ofList) = some [
    ["**kern", "**kern", "**kern"], ["*staff1", "*staff1", "*staff2"],
    ["*clefG2", "*clefG2", "."], [".", ".", "*clefF4"], ["*M2/4", "*M2/4", "*M2/4"],
    ["*k[f-c-g-d-a]", "*k[f-c-g-d-a]", "*k[f-c-g-d-a]"], ["=1", "=1", "=1"],
    ["qdd", ".", "."], ["4.c[ 4.e-", "4C#", "2r"], [".", "12BBn", "."], [".", "12aaa", "."], ["8c]", ".", "."],
    [".", "12r", "."], ["*-", "*-", "*-"]] := by decide +kernel

/-- a voice with a gap is not exportable: the writer has no way to say "nothing here", the next token moves up -/
def gapPart : XPart :=
  { divs := 1, points := [
      (0, [.note { kind := 0, voice := 1, staff := 1, sym := some ⟨"quarter", 0, none⟩, step := "C", alter := none,
                   octave := 4, tieNext := false, tiePrev := false, dur := 1 }]),
      (2, [.note { kind := 0, voice := 1, staff := 1, sym := some ⟨"quarter", 0, none⟩, step := "D", alter := none,
                   octave := 4, tieNext := false, tiePrev := false, dur := 1 }])] }

example : Exportable gapPart = false := by decide +kernel

/-- … and there the conclusion of `export_import_kern` indeed fails: the part has its D4 at quarter 2, the
    document written for it has it at quarter 1 (read by the state machine before the notes are sorted into parts) -/
example : (facts gapPart).map (fun f => (f.onset, f.step)) = [(0, "C"), (2, "D")] ∧
    ((writeKern gapPart).bind run).map (fun st => st.notes.reverse.map fun r => (r.onset, r.step)) = some [(0, "C"), (1, "D")] := by
  decide +kernel

end C19
