/-
C17 — the argument dispatch of the estimators: `estimate_spelling(note_info, method, **kwargs)` and
`estimate_key(note_info, method, *args, **kwargs)` (Model/C17Wrap.lean `estimateSpellingOpts`, `estimateKeyOpts`): which
calls are accepted, which defaults apply, and that every accepted call is one of the calls the other theorems speak
about.  The method tuples, defaults and keyword-parameter lists come from Gen/C17Tables.lean (regenerated on every run).
-/
import PartituraModel.Props.C17Options
import PartituraModel.Props.C17Float

namespace C17
open Model Model.C17Wrap Gen

/-- whole regenerated tables: the default method is a method that binds the algorithm, and the keyword parameters of
    `ps13s1` are exactly the two the model looks up -/
theorem spelling_dispatch_tables :
    ESTIMATE_SPELLING_METHOD_DEFAULT ∈ ESTIMATE_SPELLING_METHODS ∧ PS13_KWARGS = ["K_pre", "K_post"] := by
  decide +kernel

/-- an accepted call IS ps13 on the rows the unit selection picks, with the given windows or the defaults of the
    signature; any other method, or any other keyword, is rejected (the code raises) -/
theorem spelling_opts_spec (method : Option String) (kw : List (String × Nat)) (a : NoteArray) :
    estimateSpellingOpts method kw a =
      if method.getD ESTIMATE_SPELLING_METHOD_DEFAULT ∈ ESTIMATE_SPELLING_METHODS ∧ ∀ x ∈ kw, x.1 ∈ PS13_KWARGS then
        (spellingRows a).bind fun rows =>
          C17Float.ps13F ((lookup "K_pre" kw).getD PS13_K_PRE) ((lookup "K_post" kw).getD PS13_K_POST) rows
      else none := rfl

/-- no arguments at all: the defaults of the source -/
theorem spelling_opts_default (a : NoteArray) :
    estimateSpellingOpts none [] a = (spellingRows a).bind (C17Float.ps13F PS13_K_PRE PS13_K_POST) := by
  rw [spelling_opts_spec, if_pos ⟨spelling_dispatch_tables.1, by simp⟩]
  simp [lookup]

/-- every accepted call on an array of MIDI pitches, whatever method spelling and windows were passed: one spelling per
    row of the array, each sounding the row's pitch (binary64 steps included) -/
theorem spelling_opts_sound (method : Option String) (kw : List (String × Nat)) (a : NoteArray)
    (rows : List Ps13.Row) (sp : List (String × Int × Int)) (hrows : spellingRows a = some rows)
    (hr : ∀ r ∈ rows, 0 ≤ r.2 ∧ r.2 ≤ 127) (h : estimateSpellingOpts method kw a = some sp) :
    sp.length = rows.length ∧ ∀ i (hi : i < rows.length), ∃ s, sp[i]? = some s ∧ sounding s = some rows[i].2 := by
  rw [spelling_opts_spec] at h
  split at h
  · simp only [hrows, Option.bind_some] at h
    exact spelling_sounds_binary64 _ _ rows sp hr h
  · cases h

/-- totality of the documented interface: the default or a listed method, only `K_pre` / `K_post` as keywords, an array
    that has an onset field and `pitch`, at least one row — the call answers -/
theorem spelling_opts_total (method : Option String) (kw : List (String × Nat)) (a : NoteArray) (rows : List Ps13.Row)
    (hm : method.getD ESTIMATE_SPELLING_METHOD_DEFAULT ∈ ESTIMATE_SPELLING_METHODS)
    (hk : ∀ x ∈ kw, x.1 ∈ PS13_KWARGS) (hrows : spellingRows a = some rows) (hne : rows ≠ []) :
    ∃ sp, estimateSpellingOpts method kw a = some sp := by
  rw [spelling_opts_spec, if_pos ⟨hm, hk⟩, hrows]
  simp [C17Float.ps13F, hne]

example : estimateSpellingOpts (some "ps13") [] { pitch := some [60], cols := [("onset_beat", [0])] } = none := by decide +kernel
example : estimateSpellingOpts none [("Kpre", 3)] { pitch := some [60], cols := [("onset_beat", [0])] } = none := by decide +kernel

/-- whole regenerated tables: the default method is accepted, the keywords the model looks up are exactly the
    keyword parameters of `ks_kid`, and the default profile name selects the matrix `ks_kid` itself defaults to -/
theorem key_dispatch_tables :
    ESTIMATE_KEY_METHOD_DEFAULT ∈ ESTIMATE_KEY_METHODS ∧ KS_KID_KWARGS = ["key_profiles", "return_sorted_keys"] ∧
    ESTIMATE_KEY_DEFAULT ∈ VALID_KEY_PROFILES ∧
    (ksKidSet ESTIMATE_KEY_DEFAULT).isSome = true ∧ ksKidSet ESTIMATE_KEY_DEFAULT = setOfMatrix KS_KID_DEFAULT := by
  decide +kernel

/-- extra positional arguments are always rejected: `estimate_key` has put `key_profiles` into the keywords, and the
    first positional parameter of `ks_kid` after the array is `key_profiles` (TypeError) -/
theorem key_opts_positional_rejected (method : Option String) (n : Nat) (hn : n ≠ 0) (kw : List (String × KwVal))
    (a : NoteArray) : estimateKeyOpts method n kw a = none := by
  unfold estimateKeyOpts
  split
  · cases keyProfileArg kw with
    | none => rfl
    | some name => simp only [Option.bind_some]; rw [if_neg (fun h => hn h.1)]
  · rfl

/-- a method outside the accepted tuple is rejected (ValueError) -/
theorem key_opts_method_rejected (method : Option String) (n : Nat) (kw : List (String × KwVal)) (a : NoteArray)
    (hm : method.getD ESTIMATE_KEY_METHOD_DEFAULT ∉ ESTIMATE_KEY_METHODS) : estimateKeyOpts method n kw a = none := by
  unfold estimateKeyOpts; rw [if_neg hm]

/-- a `key_profiles` outside `VALID_KEY_PROFILES` (or not a string) is rejected (ValueError) -/
theorem key_opts_profile_rejected (method : Option String) (n : Nat) (kw : List (String × KwVal)) (a : NoteArray)
    (h : keyProfileArg kw = none) : estimateKeyOpts method n kw a = none := by
  unfold estimateKeyOpts; split <;> simp [h]

/-- whatever an accepted call answers is well-formed: a single valid key name, or — `return_sorted_keys=True` — each of
    the 24 key names exactly once -/
theorem key_opts_valid (method : Option String) (n : Nat) (kw : List (String × KwVal)) (a : NoteArray) (r : KeyAnswer)
    (h : estimateKeyOpts method n kw a = some r) :
    match r with
    | .one nm => nm ∈ MAJOR_KEYS ∨ ∃ root ∈ MINOR_KEYS, nm = root ++ "m"
    | .ranking l => l.Perm ((List.finRange 24).map keyName) ∧ l.length = 24 := by
  unfold estimateKeyOpts at h
  split at h
  · simp only [Option.bind_eq_some_iff] at h
    obtain ⟨name, _, h⟩ := h
    split at h
    · simp only [Option.bind_eq_some_iff] at h
      obtain ⟨ps, _, rows, _, h⟩ := h
      split at h
      · cases h; exact sorted_keys_perm ps rows
      · cases h
      · rw [key_fast_path] at h
        obtain ⟨nm, h1, h2⟩ := key_estimate_valid ps rows
        rw [h1] at h; cases h; exact h2
    · cases h
  · cases h

/-- totality of the documented interface: default or listed method, no extra positional arguments, `key_profiles` absent
    or one of `VALID_KEY_PROFILES`, `return_sorted_keys` absent or a boolean, nothing else, an array with `pitch` and the
    selected duration field — the call answers -/
theorem key_opts_total (method : Option String) (prof : Option String) (srt : Option Bool) (a : NoteArray)
    (rows : List KeyEst.KNote)
    (hm : method.getD ESTIMATE_KEY_METHOD_DEFAULT ∈ ESTIMATE_KEY_METHODS)
    (hp : ∀ n, prof = some n → n ∈ VALID_KEY_PROFILES) (hrows : keyRows a = some rows) :
    ∃ r, estimateKeyOpts method 0
      ((prof.map fun n => ("key_profiles", KwVal.str n)).toList ++
        (srt.map fun b => ("return_sorted_keys", KwVal.bool b)).toList) a = some r := by
  have hdef := key_dispatch_tables
  have hall := valid_profile_names_accepted
  have hset : ∀ n ∈ VALID_KEY_PROFILES, ∃ ps, ksKidSet n = some ps := by
    intro n hn
    have := hall n hn
    simp only [estimateKeySet, List.contains_iff_mem, hn, if_true] at this
    exact Option.isSome_iff_exists.mp this
  have hkw : ∀ x ∈ (prof.map fun n => ("key_profiles", KwVal.str n)).toList ++
      (srt.map fun b => ("return_sorted_keys", KwVal.bool b)).toList, x.1 ∈ KS_KID_KWARGS := by
    intro x hx
    rw [hdef.2.1]
    rcases List.mem_append.mp hx with h | h
    · cases prof <;> simp at h; subst h; simp
    · cases srt <;> simp at h; subst h; simp
  obtain ⟨name, hname, hvalid⟩ : ∃ name, keyProfileArg ((prof.map fun n => ("key_profiles", KwVal.str n)).toList ++
      (srt.map fun b => ("return_sorted_keys", KwVal.bool b)).toList) = some name ∧ name ∈ VALID_KEY_PROFILES := by
    cases prof with
    | none => cases srt <;> exact ⟨_, by simp [keyProfileArg, lookup], hdef.2.2.1⟩
    | some n => exact ⟨n, by simp [keyProfileArg, lookup, hp n rfl], hp n rfl⟩
  obtain ⟨ps, hps⟩ := hset name hvalid
  obtain ⟨nm, h1, _⟩ := key_estimate_valid ps rows
  unfold estimateKeyOpts
  rw [if_pos hm, hname]
  simp only [Option.bind_some]
  rw [if_pos ⟨trivial, hkw⟩, hps, hrows]
  simp only [Option.bind_some]
  split
  · exact ⟨_, rfl⟩
  · rename_i s hs
    exfalso
    cases prof <;> cases srt <;> simp [lookup] at hs
  · exact ⟨_, by rw [key_fast_path, h1]; rfl⟩

example : estimateKeyOpts (some "krumhansl") 1 [] { pitch := some [60], cols := [("onset_beat", [0]), ("duration_beat", [1])] } = none := by
  decide +kernel
example : estimateKeyOpts none 0 [("key_profiles", .str "ks")] { pitch := some [60], cols := [("onset_beat", [0]), ("duration_beat", [1])] } = none := by
  decide +kernel

end C17
