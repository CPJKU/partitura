/-
C05 — `note_array_to_score(..., sanitize=True)`: the hypothesis of `from_to_array_sanitized` discharged.

`create_part` adds one untied `Note` per row of the array (positive duration) and then, when the part has a time
signature and `sanitize` is set, runs `add_measures`, `tie_notes`, `find_tuplets`, `sanitize_part`.  Property C11 proves
that these keep the note array of ANY part whose note list has distinct keys, ties with back links, chains that end and
contiguous links (`C11.normalise_note_array_same`).  Here those four side conditions are PROVED for the notes
`create_part` adds (Proofs/C05San.lean), so for every array, every division value, every set of measures and every
tolerance the sounding notes (onset, tied duration, pitch, voice, id) after the whole sanitize sequence are the ones
that were added — no side condition left.  (The correspondence stream `invx` compares the pieces `tie_notes` leaves,
through C11's executable model, with the `Note` objects of the real part.)
-/
import PartituraModel.Proofs.C05San

namespace C05
open NoteArray List Model Model.Meas

/-- SANITIZE KEEPS WHAT SOUNDS: for every list of (onset, duration, pitch) triples `create_part` is given, whatever the
    divisions `d`, the part `p` (its measures: those of `add_measures`, or any others), and the tie tolerance: after
    `tie_notes`, `find_tuplets` and `sanitize_part` the rows (onset, tied duration, pitch, voice, id) of the plain
    notes are exactly the rows of the notes that were added. -/
theorem sanitize_keeps_created_notes (d : Nat) (l : List (Int × Int × Int)) (p : PartM) (tol : Nat) :
    sounding (sanitizeTies (Tup.findTuplets p.qd (tieNotes p (createdMeasNotes d 0 l))).notes tol)
      = sounding (createdMeasNotes d 0 l) :=
  (C11.normalise_note_array_same p (createdMeasNotes d 0 l) tol (createdMeasNotes_keysOK d l 0)
    (createdMeasNotes_linksOK d l 0) (createdMeasNotes_walkable d l 0) (createdMeasNotes_contig d l 0)).2

/-- ... and what the added notes sound like is what the array said: every note its own onset and duration -/
theorem created_notes_sound_as_given (d : Nat) (l : List (Int × Int × Int)) :
    (sounding (createdMeasNotes d 0 l)).map (fun r => (r.1, r.2.1)) =
      (createdMeasNotes d 0 l).map fun n => (n.start, n.stop - n.start) :=
  sounding_createdMeasNotes d l 0

/-- the side conditions of C11's theorems hold for the created notes (what makes the composition unconditional) -/
theorem created_notes_well_formed (d : Nat) (l : List (Int × Int × Int)) :
    C11Rows.KeysOK (createdMeasNotes d 0 l) ∧ C11Rows.LinksOK (createdMeasNotes d 0 l) ∧
    C11Sound.Walkable (createdMeasNotes d 0 l) ∧ C11Walk.ContigAll (createdMeasNotes d 0 l) :=
  ⟨createdMeasNotes_keysOK d l 0, createdMeasNotes_linksOK d l 0, createdMeasNotes_walkable d l 0,
   createdMeasNotes_contig d l 0⟩

section Examples

/-- a note of 12 divisions from 6 in 4/4 at 2 divisions per quarter crosses the bar lines at 8 and 16: `tie_notes`
    cuts it into 6-8, 8-16, 16-18; what sounds is still one note 6-18 -/
example : createdPieces 2 (some [(0, (4, 4))]) true [(0, 8), (8, 16), (16, 18)] [(0, 2, 60), (6, 12, 62)] =
    [(0, 2), (6, 8), (8, 16), (16, 18)] := by decide +kernel

def exSanPart : PartM :=
  { first := 0, last := 18, npoints := 2, qd := [(0, 2)], ts := [],
    measures := [{ start := 0, stop := 8, number := none }, { start := 8, stop := 16, number := none },
                 { start := 16, stop := 18, number := none }] }

example : (sounding (tieNotes exSanPart (createdMeasNotes 2 0 [(0, 2, 60), (6, 12, 62)]))).map
      (fun r => (r.1, r.2.1)) = [(0, 2), (6, 12)] := by decide +kernel

end Examples

end C05
