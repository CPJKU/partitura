/-
C18 — the tempo curves, `monotonize_times`, `decode_performance`'s bookkeeping, the whole
pipeline `encode_performance` → `decode_performance`, time maps straight from an alignment.
-/
import PartituraModel.Props.C18
import PartituraModel.Proofs.C18Decode

namespace C18
open Model Model.Codec C18P

/-- `tempo_by_average` returns one positive beat period per onset group, whatever the performed
    onsets are, as long as no score or performed duration is negative.  (The hypothesis "performed
    onsets of successive score onsets strictly increasing" is NOT needed.) -/
theorem tempo_average_pos (ns : List MNote) (hne : ns ≠ []) (hsd : ∀ x ∈ ns, 0 ≤ x.sd) (hpd : ∀ x ∈ ns, 0 ≤ x.pd) :
    ∃ bp, tempoAverage ns (encGroups ns) = some bp ∧ bp.length = (encGroups ns).length ∧ ∀ b ∈ bp, 0 < b :=
  tempoAverage_pos (goodGroups_enc ns hne) hsd hpd

/-- the same for `tempo_by_derivative` (central differences of the interpolated monotonized times) -/
theorem tempo_derivative_pos (ns : List MNote) (hne : ns ≠ []) (hsd : ∀ x ∈ ns, 0 ≤ x.sd) (hpd : ∀ x ∈ ns, 0 ≤ x.pd) :
    ∃ bp, tempoDerivative ns (encGroups ns) = some bp ∧ bp.length = (encGroups ns).length ∧ ∀ b ∈ bp, 0 < b :=
  tempoDerivative_pos (goodGroups_enc ns hne) hsd hpd

/-- when the mean performed onsets of successive score onsets are strictly increasing,
    `monotonize_times` changes nothing and `tempo_by_average` is
    `diff(mean performed onsets ++ [last]) / diff(unique score onsets ++ [last])` -/
theorem tempo_average_exact (ns : List MNote) (hne : ns ≠ []) (hsd : ∀ x ∈ ns, 0 ≤ x.sd) (hpd : ∀ x ∈ ns, 0 ≤ x.pd)
    (hinc : (groupMeans (·.po) (encGroups ns)).Pairwise (· < ·)) :
    ∃ ls lp, lastTime (ns.map (·.so)) (ns.map fun n => n.so + n.sd) = some ls ∧
      lastTime (ns.map (·.po)) (ns.map fun n => n.po + n.pd) = some lp ∧
      tempoAverage ns (encGroups ns) = some (List.zipWith (· / ·)
        (diffs (groupMeans (·.po) (encGroups ns) ++ [lp])) (diffs (groupMeans (·.so) (encGroups ns) ++ [ls]))) :=
  tempoAverage_exact (goodGroups_enc ns hne) hsd hpd hinc

/-- four onsets played in the order 2nd, 1st, 4th, 3rd -/
def demoSwapped : List MNote := [⟨0, 1, 2, 1/2⟩, ⟨1, 1, 1, 1/2⟩, ⟨2, 1, 3, 1/4⟩, ⟨3, 1, 5/2, 1/2⟩]

example : demoNotes ≠ [] ∧ (∀ x ∈ demoNotes, 0 ≤ x.sd) ∧ (∀ x ∈ demoNotes, 0 ≤ x.pd) := by decide +kernel
example : tempoAverage demoNotes (encGroups demoNotes) = some [15/32, 3/4, 1/8]
    ∧ tempoDerivative demoNotes (encGroups demoNotes) = some [15/32, 39/64, 7/16] := by decide +kernel
example : (groupMeans (·.po) (encGroups demoNotes)).Pairwise (· < ·) := by decide +kernel
/-- performed onsets far from monotone: the beat periods are positive all the same -/
example : demoSwapped ≠ [] ∧ (∀ x ∈ demoSwapped, 0 ≤ x.sd) ∧ (∀ x ∈ demoSwapped, 0 ≤ x.pd)
    ∧ ¬ (groupMeans (·.po) (encGroups demoSwapped)).Pairwise (· < ·)
    ∧ tempoAverage demoSwapped (encGroups demoSwapped) = some [1/2, 1/2, 1/8, 1/8]
    ∧ tempoDerivative demoSwapped (encGroups demoSwapped) = some [1/2, 1/2, 5/16, 1/8] := by decide +kernel

/-- `monotonize_times(s, x)` for strictly increasing `x`.  The points it keeps are a subsequence of
    the input whose values are strictly increasing.  The output
    (a) is the input when the input is strictly increasing already,
    (b) with at least two kept points: is strictly increasing and equals the input at every kept point,
    (c) with one kept point (nothing exceeds the first value): is constant. -/
theorem monotonize_times_spec (xs ss : List Rat) (hx : xs.Pairwise (· < ·)) (hlen : xs.length = ss.length) :
    (monoKnots (xs.zip ss)).Sublist (xs.zip ss) ∧ IncY (monoKnots (xs.zip ss)) ∧
    (ss.Pairwise (· < ·) → monotonize xs ss = some ss) ∧
    (2 ≤ (monoKnots (xs.zip ss)).length →
      ∃ mono, monotonize xs ss = some mono ∧ mono.length = xs.length ∧ mono.Pairwise (· < ·) ∧
        List.Forall₂ (fun (k : Rat × Rat) y => k ∈ monoKnots (xs.zip ss) → y = k.2) (xs.zip ss) mono) ∧
    (∀ k0, monoKnots (xs.zip ss) = [k0] → monotonize xs ss = some (xs.map fun _ => k0.2)) :=
  ⟨monoKnots_sublist _, monoKnots_incY _, fun hs => monotonize_id xs ss hx hs hlen,
    monotonize_strict xs ss hx hlen, fun k0 h => monotonize_const xs ss k0 h⟩

example : monoKnots ([0, 1, 2, 3, 4].zip [2, 1, 3, 5/2, 13/4]) = [(0, 2), (2, 3), (4, 13/4)]
    ∧ monotonize [0, 1, 2, 3, 4] [2, 1, 3, 5/2, 13/4] = some [2, 5/2, 3, 25/8, 13/4] := by decide +kernel
example : monoKnots ([0, 1, 2].zip [2, 1, 2]) = [(0, 2)] ∧ monotonize [0, 1, 2] [2, 1, 2] = some [2, 2, 2] := by
  decide +kernel

/-- `timing_roundtrip` and `duration_roundtrip_partial` for the two built-in tempo curves: nothing is
    assumed about the beat periods (the standard deviation handed to `standardized` must be
    that of the curve).  Durations: 0 for notes without score duration (open finding F-C18-2). -/
theorem codec_roundtrip_builtin (m : Method) (hm : m = .average ∨ m = .derivative) (n : Norm) (sd : Rat)
    (ns : List MNote) (hne : ns ≠ []) (hsd : ∀ x ∈ ns, 0 ≤ x.sd) (hpd : ∀ x ∈ ns, 0 ≤ x.pd)
    (hstd : ∀ bp, tempoOf m ns = some bp → StdOk n sd bp) :
    ∃ ps, encode m n sd ns = some ps ∧ ps.length = ns.length ∧
      decodeTime n (List.zipWith toDRow ns ps) =
        some (ns.map fun x => (x.po - minPo ns, if x.sd = 0 then 0 else x.pd)) := by
  obtain ⟨bp, hbp, hlen, hpos⟩ := tempoOf_pos m hm ns hne hsd hpd
  rw [encode_eq_given m n sd ns bp hbp hlen]
  exact codec_roundtrip n sd ns bp hne hlen hpos hsd (scale_rescale n sd bp hpos (hstd bp hbp))

example : ∀ bp, tempoOf .derivative demoSwapped = some bp → StdOk .ratioLog 0 bp := by
  intro bp _ h; cases h
example : ∃ ps, encode .derivative .ratioLog 0 demoSwapped = some ps ∧
    decodeTime .ratioLog (List.zipWith toDRow demoSwapped ps) = some [(1, 1/2), (0, 1/2), (2, 1/4), (3/2, 1/2)] := by
  decide +kernel

/-- `decode_performance(score, parameters, snote_ids)` when the score rows selected by `snote_ids` are
    ordered by (onset_div, pitch) — as the `snote_ids` returned by `encode_performance` are
    (`performance_roundtrip`): the stable re-sort moves nothing; note `k` of the result carries
    `snote_ids[k]` and is decoded from the score row selected for that id and row `k` of the parameters. -/
theorem decode_ids_in_order (n : Norm) (ss : List SRow) (ids : List String) (ps : List ParamRow)
    (info : List SRow) (hinfo : selectRows ss ids = some info) (hlen : info.length = ps.length)
    (hsorted : info.Pairwise (fun a b => lexLe (a.odiv, a.pitch) (b.odiv, b.pitch) = true)) :
    decodePerformance n ss ids ps =
      (decodeTime n (List.zipWith mkDRow info ps)).map fun od =>
        zipWith3 (fun id (x : Rat × Rat) (p : ParamRow) => (id, x.1, x.2, decodeVel p.vel)) ids od ps :=
  decodePerformance_sorted n ss ids ps info hinfo hlen hsorted

/-- … so the decoded notes carry exactly `snote_ids`, in order (seeded change C18-a broke this) -/
theorem decode_ids (n : Norm) (ss : List SRow) (ids : List String) (ps : List ParamRow)
    (info : List SRow) (hinfo : selectRows ss ids = some info) (hlen : info.length = ps.length)
    (hsorted : info.Pairwise (fun a b => lexLe (a.odiv, a.pitch) (b.odiv, b.pitch) = true))
    (out : List (String × Rat × Rat × Int)) (h : decodePerformance n ss ids ps = some out) :
    out.map Prod.fst = ids := by
  rw [decodePerformance_sorted n ss ids ps info hinfo hlen hsorted] at h
  cases hd : decodeTime n (List.zipWith mkDRow info ps) with
  | none => rw [hd] at h; simp at h
  | some od =>
    rw [hd] at h
    simp only [Option.map_some, Option.some.injEq] at h
    have hodl := decodeTime_length _ _ _ hd
    have hil := selectRows_length ss ids info hinfo
    rw [← h]
    exact zipWith3_map_fst (fun (x : Rat × Rat) (p : ParamRow) => (x.1, x.2, decodeVel p.vel)) ids od ps
      (by rw [hodl]; simp; omega) (by omega)

/-- the selected rows: one row of the score per id of `snote_ids` (any subset, any multiplicity),
    carrying that id -/
theorem decode_selects (ss : List SRow) (ids : List String) (info : List SRow) (h : selectRows ss ids = some info) :
    List.Forall₂ (fun id (s : SRow) => s ∈ ss ∧ s.id = id) ids info :=
  selectRows_spec ss ids info h

example : selectRows demoScore ["n1", "n2"] = some [⟨"n1", 0, 55, 0, 2⟩, ⟨"n2", 4, 62, 1, 1⟩]
    ∧ selectRows demoScore ["n1", "zz"] = none := by decide +kernel
example : (decodePerformance .bp demoScore ["n1", "n2"] [⟨0, 1, [1/2], 64/127⟩, ⟨1/8, 2, [1/4], 1/127⟩]).map
    (fun out => out.map Prod.fst) = some ["n1", "n2"] := by decide +kernel

/-- THE ROUND TRIP under the weakest condition on ids: the score may repeat ids as long as no id named by a match of
    the alignment is repeated (`to_matched_score` finds an id at its first row, `decode_performance` at its last: they
    agree exactly when the id occurs once).  What is claimed is spelt out at `performance_roundtrip`, the case of
    unique ids.  Proof: `toMatchedScore_trips` gives the matches behind the rows, `pipeline_roundtrip` composes
    encoder and decoder on them; its output is a map over the matches, so the row facts are read off match by match. -/
theorem performance_roundtrip_matched_ids (L E : Rat → Rat) (hLE : ∀ r, 0 < r → E (L r) = r)
    (m : Method) (hm : m = .average ∨ m = .derivative) (n : Norm) (sd : Rat)
    (ss : List SRow) (ps : List PRow) (al : List ARow) (rows : List MRow)
    (hrows : toMatchedScore ss ps al = some rows) (hne : matchedNotes ss ps al ≠ [])
    (hu : ∀ a ∈ al, a.label = "match" → ∀ s, a.sid = some s → (ss.map (·.id)).count s ≤ 1)
    (hsd : ∀ s ∈ ss, 0 ≤ s.sd) (hvel : ∀ p ∈ ps, 1 ≤ p.vel ∧ p.vel ≤ 127)
    (hstd : ∀ bp, tempoOf m (rows.map toMNote) = some bp → StdOk n sd bp) :
    ∃ params ids pairs shift out,
      encodePerformance m n sd ss ps al = some (params, ids) ∧
      decodePerformance n ss ids (params.map (viaLog (fun r => E (L r)) n)) = some out ∧
      pairs.Perm (matchedNotes ss ps al) ∧
      pairs.Pairwise (fun a b => lexLe (sKey ss a.1) (sKey ss b.1) = true) ∧
      List.Forall₂ (fun (ij : Nat × Nat) (o : String × Rat × Rat × Int) =>
        ∃ s p, ss[ij.1]? = some s ∧ ps[ij.2]? = some p ∧
          o.1 = s.id ∧ o.2.1 = p.po - shift ∧ o.2.2.2 = p.vel ∧
          (0 < s.sd → 3 / 40 ≤ p.pd → o.2.2.1 = p.pd)) pairs out := by
  obtain ⟨M, hperm, hsorted, hM, rfl⟩ := toMatchedScore_trips ss ps al rows hrows
  have hMne : M ≠ [] := by
    rintro rfl
    exact hne hperm.symm.eq_nil
  -- a matched id occurs once, so it is found at the same row from either end
  have hu' : ∀ t ∈ M, lastIndexOf t.2.1.id (ss.map (·.id)) = some t.1.1 := by
    intro t ht
    obtain ⟨a, ha, hlab, sid, pid, hsid, _, hi, _⟩ :=
      (mem_matchedNotes ss ps al t.1.1 t.1.2).mp (hperm.mem_iff.mp (List.mem_map_of_mem ht))
    have hget := getElem?_of_indexOf hi
    obtain ⟨s', hs', hid⟩ := map_getElem?_some _ _ _ _ hget
    rw [(hM t ht).1] at hs'
    cases hs'
    rw [hid]
    exact lastIndexOf_of_count_le_one sid _ _ (hu a ha hlab sid hsid) hget
  obtain ⟨params, henc, hdec⟩ := pipeline_roundtrip (fun r => E (L r)) hLE m hm n sd ss ps al M hrows hMne hM
    (List.pairwise_map.mp hsorted) hu' hsd hvel hstd
  refine ⟨params, _, _, minPo ((M.map Trip.row).map toMNote), _, henc, hdec, hperm, hsorted, ?_⟩
  rw [List.forall₂_map_left_iff, List.forall₂_map_right_iff, List.forall₂_same]
  intro t ht
  refine ⟨t.2.1, t.2.2, (hM t ht).1, (hM t ht).2, rfl, rfl, rfl, fun hpos hge => ?_⟩
  simp only [Trip.row]
  rw [if_neg hpos.ne', clip_of_le _ hge]

/-- THE ROUND TRIP on note arrays and an alignment, for both built-in tempo curves and all five
    normalisations.  `L`/`E` stand for `log2`/`2 ** ·` (`articulation_log`, `beat_period_log`,
    `beat_period_ratio_log` are stored through `L` and read through `E`); all that is used of them is
    `E (L r) = r` for positive `r` (`C18.exp2_log2` over ℝ).

    If `to_matched_score` returns (no match points to an unknown performance id) and something is
    matched, the score ids are unique, no score duration is negative and the velocities are MIDI
    velocities, then `encode_performance` returns parameters and `snote_ids`, and
    `decode_performance` of these returns one note per match of the alignment whose ids exist on both
    sides (`pairs`, ordered by (onset_div, pitch)), carrying the score id, the performed onset minus
    one common shift, the velocity, and — for a note with positive score duration played for at
    least 0.075 s — the performed duration.  (Grace notes and shorter notes: open findings
    F-C18-2 / F-C18-4, see `duration_roundtrip_partial`, `matched_row_duration_partial`.) -/
theorem performance_roundtrip (L E : Rat → Rat) (hLE : ∀ r, 0 < r → E (L r) = r)
    (m : Method) (hm : m = .average ∨ m = .derivative) (n : Norm) (sd : Rat)
    (ss : List SRow) (ps : List PRow) (al : List ARow) (rows : List MRow)
    (hrows : toMatchedScore ss ps al = some rows) (hne : matchedNotes ss ps al ≠ [])
    (hnd : (ss.map (·.id)).Nodup) (hsd : ∀ s ∈ ss, 0 ≤ s.sd) (hvel : ∀ p ∈ ps, 1 ≤ p.vel ∧ p.vel ≤ 127)
    (hstd : ∀ bp, tempoOf m (rows.map toMNote) = some bp → StdOk n sd bp) :
    ∃ params ids pairs shift out,
      encodePerformance m n sd ss ps al = some (params, ids) ∧
      decodePerformance n ss ids (params.map (viaLog (fun r => E (L r)) n)) = some out ∧
      pairs.Perm (matchedNotes ss ps al) ∧
      pairs.Pairwise (fun a b => lexLe (sKey ss a.1) (sKey ss b.1) = true) ∧
      List.Forall₂ (fun (ij : Nat × Nat) (o : String × Rat × Rat × Int) =>
        ∃ s p, ss[ij.1]? = some s ∧ ps[ij.2]? = some p ∧
          o.1 = s.id ∧ o.2.1 = p.po - shift ∧ o.2.2.2 = p.vel ∧
          (0 < s.sd → 3 / 40 ≤ p.pd → o.2.2.1 = p.pd)) pairs out :=
  performance_roundtrip_matched_ids L E hLE m hm n sd ss ps al rows hrows hne
    (fun _ _ _ s _ => List.nodup_iff_count_le_one.mp hnd s) hsd hvel hstd

/-- `demoScore` / `demoPerf` / `demoAl` satisfy the hypotheses (with the identity for `L`, `E`) … -/
example : toMatchedScore demoScore demoPerf demoAl = some [⟨0, 0, 1, 60, 1, 3/40, 70⟩, ⟨2, 1, 1, 62, 17/16, 1, 60⟩]
    ∧ matchedNotes demoScore demoPerf demoAl ≠ [] ∧ (demoScore.map (·.id)).Nodup
    ∧ (∀ s ∈ demoScore, 0 ≤ s.sd) ∧ (∀ p ∈ demoPerf, 1 ≤ p.vel ∧ p.vel ≤ 127) := by decide +kernel
example : ∀ bp, tempoOf .derivative [] = some bp → StdOk .ratio 0 bp := by intro bp _ h; cases h
/-- … and this is what the pipeline computes on them: ids, onsets (shift 1), durations (the first note,
    played for 3/64 s, comes back with 3/40 s — F-C18-4), velocities -/
example : (encodePerformance .derivative .ratio 0 demoScore demoPerf demoAl).bind (fun pi =>
      decodePerformance .ratio demoScore pi.2 (pi.1.map (viaLog (fun r => r) .ratio)))
      = some [("n0", 0, 3/40, 70), ("n2", 1/16, 1, 60)] := by decide +kernel

/-- `get_time_maps_from_alignment(ppart, spart, alignment, remove_ornaments)`: it reads one row
    (score onset, score duration, performed onset) per pair of `get_matched_notes` (`matched_notes`),
    never fails, and its knots are `timeKnots` of these rows — characterised by `time_maps_knots`,
    interpolated in both directions as `time_maps_interp` says, for `remove_ornaments` True and False -/
theorem alignment_time_maps (ro : Bool) (ss : List SRow) (ps : List PRow) (al : List ARow) :
    ∃ rows, timeMapRows ss ps al = some rows ∧
      List.Forall₂ (fun (ij : Nat × Nat) (r : TRow) => ∃ s p, ss[ij.1]? = some s ∧ ps[ij.2]? = some p ∧
        r = (s.so, s.sd, p.po)) (matchedNotes ss ps al) rows ∧
      alignmentKnots ro ss ps al = some (timeKnots ro rows) ∧
      IncX (timeKnots ro rows) ∧
      (∀ u m, (u, m) ∈ timeKnots ro rows → stimeToPtime (timeKnots ro rows) u = some m) := by
  obtain ⟨rows, h1, h2⟩ := timeMapRows_spec ss ps al
  refine ⟨rows, h1, h2, ?_, (time_maps_knots ro rows).1, (time_maps_interp ro rows).1⟩
  unfold alignmentKnots
  rw [h1]
  rfl

example : alignmentKnots true demoScore demoPerf demoAl = some [(0, 1), (1, 17/16)]
    ∧ alignmentKnots false demoScore demoPerf demoAl = some [(0, 1), (1, 17/16)] := by decide +kernel

end C18
