/-
C18 — the literal data of the codec, regenerated from the live source on every run
(harness/translate_c18.py -> Gen/C18Lits.lean), against what the model has inlined.  Editing a constant, a column
name, a `scale` / `rescale` body, a default or a list literal of partitura/musicanalysis/performance_codec.py makes one
of these theorems fail to build.
-/
import PartituraModel.Model.CodecAl
import PartituraModel.Model.CodecSeq
import PartituraModel.Gen.C18Lits
import PartituraModel.Proofs.C18Tempo
import PartituraModel.Proofs.C18Norm

namespace C18
open Model Model.Codec C18P

/-- the key of `TEMPO_NORMALIZATION` a model normalisation stands for -/
def normName : Norm → String
  | .bp => "beat_period"
  | .log => "beat_period_log"
  | .ratio => "beat_period_ratio"
  | .ratioLog => "beat_period_ratio_log"
  | .std => "beat_period_standardized"

def allNorms : List Norm := [.bp, .log, .ratio, .ratioLog, .std]

/-- the constants and lists: duration clip, onset quantisation at its three sites, `eps`, the central difference, velocity
    scale and clips, pitch clip, `last_time` step and `isclose` tolerances, match label, grace-note test, parameter names,
    matched-score columns, feature functions -/
theorem source_literals :
    Gen.C18_OK = true ∧ Gen.C18_NORMS = allNorms.map normName ∧
    clipDur = Gen.C18_CLIP_DUR ∧ eps = Gen.C18_GROUP_EPS ∧
    Gen.C18_ONSET_QUANT = [("decode_time", 10000), ("tempo_by_average", 10000), ("tempo_by_derivative", 10000)] ∧
    Gen.C18_DERIV_DX = 1 / 2 ∧ Gen.C18_DERIV_WEIGHTS = [-1 / 2, 0, 1 / 2] ∧
    Gen.C18_VEL_ENC = 127 ∧ Gen.C18_VEL_DEC = 127 ∧ Gen.C18_VEL_CLIP = [1, 127] ∧ Gen.C18_PITCH_CLIP = [1, 127] ∧
    Gen.C18_LAST_STEP = 1 ∧ Gen.C18_ISCLOSE = [1 / 100000, 1 / 100000000] ∧
    Gen.C18_MATCH_LABELS = [("to_matched_score", "match"), ("get_matched_notes", "match")] ∧
    Gen.C18_GRACE_LE_ZERO = true ∧
    Gen.C18_BASE_PARAMS = ["beat_period", "velocity", "timing", "articulation_log"] ∧
    Gen.C18_DECODE_PARAMS = ["beat_period", "timing", "articulation_log"] ∧
    Gen.C18_MATCHED_FIELDS.map (·.1) = baseFields ∧
    Gen.C18_MATCHED_FIELDS.map (·.2) = ["f4", "f4", "i4", "f4", "f4", "i4"] ∧
    Gen.C18_MARKING_FEATURES = ["loudness_direction_feature", "articulation_feature", "tempo_direction_feature", "slur_feature"] ∧
    Gen.C18_EXP2_COLS.map (·.2) = [[], ["beat_period_log"], [], ["beat_period_ratio_log"], []] ∧
    Gen.C18_LOG2_FNS.map (fun p => p.2.length) = [0, 1, 0, 1, 0] := by
  decide +kernel

/-- the defaults the model and the harness rely on: `beat_period` / `average`, no `snote_ids`, no alignment returned,
    no markings, ornaments removed, groups and sampling points inferred, no abscissae -/
theorem source_defaults :
    Gen.C18_DEFAULTS.map (·.2) = ["'beat_period'", "'average'", "False", "'beat_period'", "None", "False", "'beat_period'",
      "'average'", "'beat_period'", "False", "True", "None", "None", "None", "None", "False", "None"] := by
  decide +kernel

-- the second alternative only runs after a harmless rewriting of the source (operands swapped, …)
set_option linter.unreachableTactic false in
set_option linter.unusedTactic false in
/-- `TEMPO_NORMALIZATION[n]["rescale"]`, as written in the source, is the model's `rescale` -/
theorem source_rescale (n : Norm) (cols : List Rat) : rescale n cols = Gen.C18_rescale (normName n) cols := by
  cases n <;> rcases cols with _ | ⟨a, _ | ⟨b, _ | ⟨c, _ | ⟨d, t⟩⟩⟩⟩ <;>
    first
    | eq_refl
    | (simp only [rescale, Gen.C18_rescale, normName]; congr 1; ring)

set_option linter.unreachableTactic false in
set_option linter.unusedTactic false in
/-- `TEMPO_NORMALIZATION[n]["scale"]`, as written in the source, computes the model's columns -/
theorem source_scale (n : Norm) (sd m b : Rat) : scaleRow n sd m b = Gen.C18_scaleRow (normName n) sd m b := by
  cases n <;>
    first
    | eq_refl
    | (simp only [scaleRow, Gen.C18_scaleRow, normName, List.cons.injEq, and_true]; refine ⟨?_, ?_⟩ <;> ring)

/-- one column per parameter name -/
theorem source_columns (n : Norm) (sd m b : Rat) :
    ((lookup (normName n) Gen.C18_PARAM_NAMES).map List.length) = some (scaleRow n sd m b).length := by
  cases n <;> eq_refl

/-- the onset key: truncation of `q * onset` with the factor written at each of the three sites -/
theorem source_quant (so : Rat) : ∀ p ∈ Gen.C18_ONSET_QUANT, encKey so = ((truncR (p.2 * so) : Int) : Rat) := by
  intro p hp
  simp only [Gen.C18_ONSET_QUANT, List.mem_cons, List.not_mem_nil, or_false] at hp
  rcases hp with rfl | rfl | rfl <;> exact encKey_eq so

theorem source_velocity (v : Int) (x : Rat) :
    encodeVel v = (v : Rat) / Gen.C18_VEL_ENC ∧ decodeVel x = clipInt 1 127 (roundHalfEven (x * Gen.C18_VEL_DEC)) :=
  ⟨rfl, rfl⟩

theorem source_isclose (a b : Rat) :
    isClose a b = decide (absR (a - b) ≤ Gen.C18_ISCLOSE.getD 1 0 + Gen.C18_ISCLOSE.getD 0 0 * absR b) := rfl

/-- the central difference over the generated weights and step: `Σ w[k] · f(x + (k − 1)·dx) / dx` -/
theorem source_derivative (f : Rat → Option Rat) (x a b c : Rat)
    (ha : f (x + (0 - 1) * Gen.C18_DERIV_DX) = some a) (hb : f (x + (1 - 1) * Gen.C18_DERIV_DX) = some b)
    (hc : f (x + (2 - 1) * Gen.C18_DERIV_DX) = some c) :
    firstOrderDerivative f x = some ((Gen.C18_DERIV_WEIGHTS.getD 0 0 * a + Gen.C18_DERIV_WEIGHTS.getD 1 0 * b
      + Gen.C18_DERIV_WEIGHTS.getD 2 0 * c) / Gen.C18_DERIV_DX) := by
  unfold firstOrderDerivative
  simp only [Gen.C18_DERIV_DX] at ha hb hc
  rw [ha, hb, hc]
  simp only [Gen.C18_DERIV_WEIGHTS, Gen.C18_DERIV_DX, List.getD_cons_zero, List.getD_cons_succ, Option.some.injEq]
  ring

/-- which side of an alignment entry each function passes through `str(·)` (Model/CodecAl.lean: `to_matched_score`
    rewrites and reads `str(score_id)` and looks `performance_id` up as it is; `get_matched_notes` the other way round) -/
theorem source_id_forms :
    Gen.C18_STR_IDS = [("to_matched_score", ["score_id"]), ("get_matched_notes", ["performance_id"])] ∧
    Gen.C18_ID_LOOKUPS = [("part_by_id", "score_id"), ("ppart_by_id", "performance_id")] ∧
    (∀ l v p, (flatS ⟨some l, some v, some p⟩).sid = some (pyStr v)) ∧
    (∀ l v p, (flatP ⟨some l, some v, some p⟩).pid = some (pyStr p)) :=
  ⟨by decide +kernel, by decide +kernel, fun _ _ _ => rfl, fun _ _ _ => rfl⟩

/-- the column names of the parameter array (Model/CodecSeq.lean `paramNames`, `encodedColumns`,
    `requiredColumns`) are the `param_names` of `TEMPO_NORMALIZATION`, `parameter_names` of `encode_tempo` and the list
    `decode_performance` indexes the array with -/
theorem source_column_names :
    Gen.C18_PARAM_NAMES = allNorms.map (fun n => (normName n, paramNames n)) ∧
    (∀ n ∈ allNorms, encodedColumns n = Gen.C18_BASE_PARAMS ++ (if n = .bp then [] else paramNames n)) ∧
    (∀ n ∈ allNorms, requiredColumns n = "velocity" :: (Gen.C18_DECODE_PARAMS ++ (if n = .bp then [] else paramNames n))) := by
  decide +kernel

end C18
