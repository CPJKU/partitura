/-
C02 — `quarter_duration_map` after ANY call history of `set_quarter_duration`.

The calls may come in any order of times, repeat a time, repeat a value that is already in force, return to an
earlier value.  Specification (it never mentions the stored lists): **the quarter duration in force at x is the
value of the last call among the recorded calls with the greatest time ≤ x** (`inForce`,
`inForce_is_last_of_greatest`), where a call is recorded unless its time has no recorded call yet and its value
is the one in force just before its time (`Recorded` — "add quarter duration at time t, unless it is redundant",
decided on the earlier recorded calls alone).
-/
import PartituraModel.Props.C02History
import PartituraModel.Proofs.C02Calls

namespace C02
open Model.TimeMap C02Proofs

/-! ### the specification is what its name says -/

/-- **"the value of the last call among those with the greatest time ≤ x"**: `inForce calls x = some v` exactly
when the history splits at a call `(T, v)` with `T ≤ x` such that every EARLIER call at or before `x` has a time
`≤ T` and every LATER call at or before `x` has a time `< T`. -/
theorem inForce_is_last_of_greatest (calls : List (Int × Nat)) (x : Rat) (v : Nat) :
    inForce calls x = some v ↔
      ∃ (pre : List (Int × Nat)) (T : Int) (post : List (Int × Nat)), calls = pre ++ (T, v) :: post ∧ (T : Rat) ≤ x ∧
        (∀ c ∈ pre, (c.1 : Rat) ≤ x → c.1 ≤ T) ∧ (∀ c ∈ post, (c.1 : Rat) ≤ x → c.1 < T) := by
  -- `inForceR_char` on the calls read backwards
  unfold inForce
  rw [Option.map_eq_some_iff]
  constructor
  · rintro ⟨⟨T, _⟩, hb, rfl⟩
    obtain ⟨pre, post, hl, hT, hpre, hpost⟩ := ((inForceR_char x _).2 _).mp hb
    exact ⟨post.reverse, T, pre.reverse, by simpa using congrArg List.reverse hl, hT,
      fun c hc => hpost c (List.mem_reverse.mp hc), fun c hc => hpre c (List.mem_reverse.mp hc)⟩
  · rintro ⟨pre, T, post, rfl, hT, hpre, hpost⟩
    exact ⟨(T, v), ((inForceR_char x _).2 _).mpr ⟨post.reverse, pre.reverse, by simp, hT,
      fun c hc => hpost c (List.mem_reverse.mp hc), fun c hc => hpre c (List.mem_reverse.mp hc)⟩, rfl⟩

/-- nothing is in force before the first call time -/
theorem inForce_none_iff (calls : List (Int × Nat)) (x : Rat) :
    inForce calls x = none ↔ ∀ c ∈ calls, ¬ ((c.1 : Rat) ≤ x) := by
  unfold inForce
  rw [Option.map_eq_none_iff, (inForceR_char x _).1]
  exact ⟨fun h c hc => h c (List.mem_reverse.mpr hc), fun h c hc => h c (List.mem_reverse.mp hc)⟩

/-! ### the stored lists represent the recorded calls -/

/-- the stored lists `tb` represent the recorded calls `kept` (most recent first) -/
structure Rep (tb kept : List (Int × Nat)) : Prop where
  head : ∃ a r, tb = (0, a) :: r
  sorted : (tb.map (·.1)).Pairwise (· < ·)
  times : ∀ t, t ∈ tb.map (·.1) ↔ t ∈ kept.map (·.1)
  value : ∀ x : Rat, 0 ≤ x → qdMap tb x = (inForceR kept x).map (·.2)

theorem rep_init (q0 : Nat) : Rep [(0, q0)] [(0, q0)] where
  head := ⟨q0, [], rfl⟩
  sorted := by simp
  times := fun t => Iff.rfl
  value := fun x hx => by
    have : ((0 : Int) : Rat) ≤ x := by exact_mod_cast hx
    simp only [qdMap, prevValue, inForceR, if_pos this, Option.map_some]

/-- the value after a call that is stored, from `setQD_law`: every stored time belongs to a call of `kept`, and
the calls of `kept` later than `t` are stored -/
theorem rep_value_step (a : Nat) (r kept : List (Int × Nat)) (t : Int) (q : Nat)
    (hs : (((0, a) :: r).map (·.1)).Pairwise (· < ·)) (ht : 0 ≤ t)
    (hsub : ∀ u ∈ ((0, a) :: r).map (·.1), u ∈ kept.map (·.1))
    (hlater : ∀ b ∈ kept, t < b.1 → b.1 ∈ ((0, a) :: r).map (·.1))
    (hval : ∀ x : Rat, 0 ≤ x → qdMap ((0, a) :: r) x = (inForceR kept x).map (·.2))
    (x : Rat) (hx : 0 ≤ x) :
    qdMap (setQD ((0, a) :: r) t q) x = (inForceR ((t, q) :: kept) x).map (·.2) := by
  have hx0 : ((0 : Int) : Rat) ≤ x := by exact_mod_cast hx
  rw [setQD_law 0 a r t q hs ht x hx0]
  cases hb : inForceR kept x with
  | none =>
    exfalso
    obtain ⟨c, hc, hc0⟩ := List.mem_map.mp (hsub 0 List.mem_cons_self)
    apply (inForceR_char x kept).1.mp hb c hc
    have hc0 : c.1 = 0 := hc0
    rw [hc0]; exact hx0
  | some b =>
    obtain ⟨hbm, hbx, hbmax⟩ := inForceR_greatest hb
    -- no stored entry in `(t, x]` exactly when the call in force so far is not later than `t`
    have hiff : (∀ e ∈ (0, a) :: r, t < e.1 → x < (e.1 : Rat)) ↔ b.1 ≤ t := by
      constructor
      · intro h
        by_contra hlt
        obtain ⟨e, he, heb⟩ := List.mem_map.mp (hlater b hbm (by omega))
        have heb : e.1 = b.1 := heb
        have := h e he (by omega)
        rw [heb] at this
        exact absurd hbx (not_le.mpr this)
      · intro h e he hlt
        by_contra hnl
        obtain ⟨c, hc, hce⟩ := List.mem_map.mp (hsub e.1 (List.mem_map_of_mem he))
        have hce : c.1 = e.1 := hce
        have := hbmax c hc (by rw [hce]; exact not_lt.mp hnl)
        omega
    by_cases hc : (t : Rat) ≤ x ∧ b.1 ≤ t
    · rw [if_pos ⟨hc.1, hiff.mpr hc.2⟩]
      simp only [inForceR, hb, if_pos hc, Option.map_some]
    · have hn : ¬ ((t : Rat) ≤ x ∧ (∀ e ∈ (0, a) :: r, t < e.1 → x < (e.1 : Rat))) :=
        fun h => hc ⟨h.1, hiff.mp h.2⟩
      rw [if_neg hn, hval x hx]
      simp only [inForceR, hb, if_neg hc]

/-- **one call**: the representation is kept, the call being recorded or not as `Recorded` says -/
theorem rep_step (tb kept : List (Int × Nat)) (hr : Rep tb kept) (c : Int × Nat) (hc : 0 ≤ c.1) :
    Rep (setQD tb c.1 c.2) (if Recorded kept c then c :: kept else kept) := by
  obtain ⟨a, r, rfl⟩ := hr.head
  obtain ⟨t, q⟩ := c
  simp only at hc ⊢
  obtain ⟨hs1, hs2, hs3⟩ := setQDAux_struct t q ((0, a) :: r) none hr.sorted
  have hhead := setQD_head 0 a r t q hc
  have hsorted : ((setQD ((0, a) :: r) t q).map (·.1)).Pairwise (· < ·) := setQDAux_pairwise t q _ none hr.sorted
  -- a recorded call: the stored times are the old ones and `t`
  have hkeep : (∀ u, u ∈ (setQD ((0, a) :: r) t q).map (·.1) ↔ u = t ∨ u ∈ ((0, a) :: r).map (·.1)) →
      Rep (setQD ((0, a) :: r) t q) ((t, q) :: kept) := fun e =>
    ⟨hhead, hsorted, fun u => by rw [e u, List.map_cons (l := kept), List.mem_cons, hr.times u],
      rep_value_step a r kept t q hr.sorted hc (fun u hu => (hr.times u).mp hu)
        (fun b hb _ => (hr.times b.1).mpr (List.mem_map_of_mem hb)) hr.value⟩
  by_cases hmem : t ∈ ((0, a) :: r).map (·.1)
  · have hrec : Recorded kept (t, q) := Or.inl ((hr.times t).mp hmem)
    rw [if_pos hrec]
    refine hkeep fun u => ?_
    rw [show (setQD ((0, a) :: r) t q).map (·.1) = ((0, a) :: r).map (·.1) from hs1 hmem]
    exact ⟨Or.inr, fun h => h.elim (fun e => e ▸ hmem) id⟩
  · have h0 : 0 < t := by
      have : t ≠ 0 := by
        intro h; apply hmem; rw [h]; simp
      omega
    have hprev : lastBefore t none ((0, a) :: r) = (inForceR kept ((t : Rat) - 1)).map (·.2) := by
      have hx : (0 : Rat) ≤ (t : Rat) - 1 := by
        have : ((0 : Int) : Rat) ≤ (t : Rat) - 1 := (cast_le_pred 0 t).mpr h0
        exact_mod_cast this
      rw [← hr.value _ hx]
      simp only [lastBefore, if_pos h0, qdMap]
      exact lastBefore_eq t r a
    by_cases hq : lastBefore t none ((0, a) :: r) = some q
    · -- the value in force already: the call is neither stored nor recorded
      have hrec : ¬ Recorded kept (t, q) := by
        rintro (h | h)
        · exact hmem ((hr.times t).mpr h)
        · apply h; rw [← hprev]; exact hq
      rw [if_neg hrec, show setQD ((0, a) :: r) t q = (0, a) :: r from hs2 hmem hq]
      exact hr
    · have hrec : Recorded kept (t, q) := Or.inr (by rw [← hprev]; exact hq)
      rw [if_pos hrec]
      exact hkeep (hs3 hmem hq)

theorem rep_run : ∀ (calls tb kept : List (Int × Nat)), Rep tb kept → (∀ c ∈ calls, 0 ≤ c.1) →
    Rep (qdTableFrom tb calls) (recordedAux kept calls)
  | [], _, _, hr, _ => hr
  | c :: rest, tb, kept, hr, hv => by
    have e : recordedAux kept (c :: rest) = recordedAux (if Recorded kept c then c :: kept else kept) rest := by
      rw [recordedAux, apply_ite (recordedAux · rest)]
    rw [e]
    exact rep_run rest _ _ (rep_step tb kept hr c (hv c List.mem_cons_self))
      fun d hd => hv d (List.mem_cons_of_mem _ hd)

/-- **The stored quarter lists represent the call history, whatever its order**: after
`Part(quarter_duration=q0)` and any calls `set_quarter_duration(t, q)` at non-negative times — ascending or
not, repeating times, repeating values that are in force, returning to earlier values — `quarter_duration_map`
at every position from 0 on is the value of the last recorded call among those with the greatest time ≤ x. -/
theorem table_represents_recorded (q0 : Nat) (calls : List (Int × Nat)) (hv : ∀ c ∈ calls, 0 ≤ c.1)
    (x : Rat) (hx : 0 ≤ x) : qdMap (qdTable q0 calls) x = inForce (recorded q0 calls) x := by
  unfold inForce recorded qdTable
  rw [List.reverse_reverse]
  exact (rep_run calls _ _ (rep_init q0) hv).value x hx

/-- the change times stored are exactly the times of the recorded calls (nothing lost, nothing invented) -/
theorem table_times_recorded (q0 : Nat) (calls : List (Int × Nat)) (hv : ∀ c ∈ calls, 0 ≤ c.1) (t : Int) :
    t ∈ (qdTable q0 calls).map (·.1) ↔ t ∈ (recorded q0 calls).map (·.1) := by
  unfold recorded qdTable
  rw [(rep_run calls _ _ (rep_init q0) hv).times t]
  simp only [List.map_reverse, List.mem_reverse]

/-- the lists stay strictly increasing and start at time 0 -/
theorem table_sorted (q0 : Nat) (calls : List (Int × Nat)) (hv : ∀ c ∈ calls, 0 ≤ c.1) :
    (∃ a r, qdTable q0 calls = (0, a) :: r) ∧ ((qdTable q0 calls).map (·.1)).Pairwise (· < ·) :=
  ⟨(rep_run calls _ _ (rep_init q0) hv).head, (rep_run calls _ _ (rep_init q0) hv).sorted⟩

/-- the seeded family: 4 | 8 | 4 stored, then a call at an earlier time whose value is already in force
(dropped), resp. a correction of an entry back to the value before it (kept): the later change at 64 survives -/
example : qdTable 4 [(32, 8), (64, 4), (16, 4)] = [(0, 4), (32, 8), (64, 4)] ∧
    qdTable 4 [(16, 6), (32, 8), (64, 4), (16, 4)] = [(0, 4), (16, 4), (32, 8), (64, 4)] ∧
    recorded 4 [(32, 8), (64, 4), (16, 4)] = [(0, 4), (32, 8), (64, 4)] ∧
    recorded 4 [(16, 6), (32, 8), (64, 4), (16, 4)] = [(0, 4), (16, 6), (32, 8), (64, 4), (16, 4)] ∧
    inForce (recorded 4 [(16, 6), (32, 8), (64, 4), (16, 4)]) 20 = some 4 ∧
    inForce (recorded 4 [(16, 6), (32, 8), (64, 4), (16, 4)]) 70 = some 4 ∧
    inForce (recorded 4 [(16, 6), (32, 8), (64, 4), (16, 4)]) 40 = some 8 := by
  decide +kernel

/-! ### when every call counts -/

/-- `tb` represents ALL calls `allR` (most recent first) -/
structure RepAll (tb allR : List (Int × Nat)) : Prop where
  head : ∃ a r, tb = (0, a) :: r
  sorted : (tb.map (·.1)).Pairwise (· < ·)
  sub : ∀ t ∈ tb.map (·.1), t ∈ allR.map (·.1)
  value : ∀ x : Rat, 0 ≤ x → qdMap tb x = (inForceR allR x).map (·.2)

theorem repAll_step (tb allR : List (Int × Nat)) (hr : RepAll tb allR) (c : Int × Nat) (hc : 0 ≤ c.1)
    (hmax : ∀ d ∈ allR, d.1 ≤ c.1) : RepAll (setQD tb c.1 c.2) (c :: allR) := by
  obtain ⟨a, r, rfl⟩ := hr.head
  obtain ⟨t, q⟩ := c
  refine ⟨setQD_head 0 a r t q hc, setQDAux_pairwise t q _ none hr.sorted, fun u hu => ?_, fun x hx => ?_⟩
  · rcases setQDAux_times t q _ none u hu with h | h
    · rw [h]; simp
    · simp only [List.map_cons (l := allR), List.mem_cons]; exact Or.inr (hr.sub u h)
  · exact rep_value_step a r allR t q hr.sorted hc hr.sub
      (fun b hb hlt => absurd (hmax b hb) (not_le.mpr hlt)) hr.value x hx

theorem repAll_run : ∀ (calls tb allR : List (Int × Nat)), RepAll tb allR → (∀ c ∈ calls, 0 ≤ c.1) →
    (∀ c ∈ calls, ∀ d ∈ allR, d.1 ≤ c.1) → calls.Pairwise (fun a b => a.1 ≤ b.1) →
    RepAll (qdTableFrom tb calls) (calls.reverse ++ allR)
  | [], _, _, hr, _, _, _ => hr
  | c :: rest, tb, allR, hr, hv, hmax, hp => by
    have hp' := List.pairwise_cons.mp hp
    have hstep := repAll_step tb allR hr c (hv c List.mem_cons_self) (hmax c List.mem_cons_self)
    have := repAll_run rest _ _ hstep (fun d hd => hv d (List.mem_cons_of_mem _ hd))
      (fun d hd e he => by
        rcases List.mem_cons.mp he with he | he
        · rw [he]; exact hp'.1 d hd
        · exact hmax d (List.mem_cons_of_mem _ hd) e he) hp'.2
    show RepAll (qdTableFrom (setQD tb c.1 c.2) rest) ((c :: rest).reverse ++ allR)
    rw [List.reverse_cons, List.append_assoc]
    exact this

/-- **Ascending histories** (every importer; calls may repeat a time): no call has to be set aside — the quarter
duration in force at x is the value of the last call among ALL calls with the greatest time ≤ x. -/
theorem table_represents_all_calls_ascending (q0 : Nat) (calls : List (Int × Nat)) (hv : ∀ c ∈ calls, 0 ≤ c.1)
    (hasc : calls.Pairwise (fun a b => a.1 ≤ b.1)) (x : Rat) (hx : 0 ≤ x) :
    qdMap (qdTable q0 calls) x = inForce ((0, q0) :: calls) x := by
  have hr : RepAll [(0, q0)] [(0, q0)] :=
    ⟨⟨q0, [], rfl⟩, by simp, fun t ht => ht, (rep_init q0).value⟩
  have := repAll_run calls _ _ hr hv (fun c hc d hd => by
    simp only [List.mem_singleton] at hd
    rw [hd]; exact hv c hc) hasc
  unfold inForce qdTable
  rw [List.reverse_cons]
  exact this.value x hx

/-- the same in any order as long as every call is recorded -/
theorem table_represents_all_calls_of_recorded (q0 : Nat) (calls : List (Int × Nat)) (hv : ∀ c ∈ calls, 0 ≤ c.1)
    (hall : recorded q0 calls = (0, q0) :: calls) (x : Rat) (hx : 0 ≤ x) :
    qdMap (qdTable q0 calls) x = inForce ((0, q0) :: calls) x := by
  rw [table_represents_recorded q0 calls hv x hx, hall]

/-- non-vacuity: an unordered history with an overwrite in which every call is recorded; an ascending one with
a repeated time and a redundant value -/
example : recorded 4 [(32, 8), (16, 6), (32, 4), (8, 6)] = (0, 4) :: [(32, 8), (16, 6), (32, 4), (8, 6)] ∧
    [((8 : Int), (6 : Nat)), (16, 6), (16, 4), (32, 4)].Pairwise (fun a b => a.1 ≤ b.1) ∧
    qdTable 4 [(8, 6), (16, 6), (16, 4), (32, 4)] = [(0, 4), (8, 6), (16, 4)] := by
  decide +kernel

/-- **The all-calls reading fails for unordered histories**: `Part(quarter_duration=4)`, then
`set_quarter_duration(16, 4)` (already in force: not recorded), then `set_quarter_duration(8, 6)`.  The lists
are `[(0,4),(8,6)]`, so 6 is in force at 20 although the call with the greatest time ≤ 20 said 4. -/
theorem all_calls_reading_fails_unordered :
    qdMap (qdTable 4 [(16, 4), (8, 6)]) 20 = some 6 ∧ inForce ((0, 4) :: [(16, 4), (8, 6)]) 20 = some 4 ∧
    inForce (recorded 4 [(16, 4), (8, 6)]) 20 = some 6 := by
  decide +kernel

/-- **the quarter lists of a part depend on the `set_quarter_duration` calls alone**, in their call order —
whatever signatures, measures, notes are added and whichever maps are read in between -/
theorem hrun_qd (q0 : Nat) (h : List HOp) : (buildPart q0 h).qd = qdTable q0 (qdCalls h) :=
  hrun_qd_from h (hinit q0)

/-- **`quarter_duration_map` of every part reachable through the API** is the function its
`set_quarter_duration` calls specify, for every valid history (calls in any order, interleaved with any edits
and queries) -/
theorem built_qd_represents (q0 : Nat) (h : List HOp) (hv : ∀ op ∈ h, ValidOp op) (x : Rat) (hx : 0 ≤ x) :
    qdMap (buildPart q0 h).qd x = inForce (recorded q0 (qdCalls h)) x := by
  rw [hrun_qd]
  apply table_represents_recorded q0 _ _ x hx
  intro c hc
  have := hv _ (qdCalls_mem h c hc)
  exact this.1

example : qdCalls [.setQD 32 8, .query, .beat (.addTS 0 6 8), .setQD 64 4, .measure 0 4, .query, .setQD 16 4, .span 0 96] =
      [(32, 8), (64, 4), (16, 4)] ∧
    (buildPart 4 [.setQD 32 8, .query, .beat (.addTS 0 6 8), .setQD 64 4, .measure 0 4, .query, .setQD 16 4, .span 0 96]).qd =
      [(0, 4), (32, 8), (64, 4)] := by
  decide +kernel

end C02
