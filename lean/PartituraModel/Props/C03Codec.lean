/-
C03 — element codecs: what the importer extracts from the elements the exporter writes is what the object denotes.

  Model/XmlNote.lean   `writeNote` (exportmusicxml.make_note_el + add_chord_tags), `readNote`
                       (importmusicxml._handle_note field extraction), `canon`
tied to the code by harness/props/c03.py streams wnote / rnote / cnote / evnote / arts.
-/
import PartituraModel.Proofs.C03Note
import PartituraModel.Proofs.C03Attr
import PartituraModel.Proofs.C03Slots
import PartituraModel.Proofs.C03Fix
import PartituraModel.Proofs.C03Float

namespace C03
open Model Model.XmlNote Model.XmlDir Model.Binary64 C03.Text C03.Note

/-- **note_roundtrip.**  For every note/rest/unpitched/grace note whose text fields are not empty strings — every id,
    pitch spelling, duration, chord flag, tie flags, voice, stem, fermata, list of articulations, list of technical
    notations, symbolic duration (type, dots, tuplet ratio), staff, slur and tuplet numbers with tuplet contents — the
    importer's field extraction applied to the element the exporter writes does not raise and returns exactly `canon n`:
    all values, in document order.  `canon` makes the identifications MusicXML itself makes (voice/staff missing or 0 = 1,
    alter 0 = none, tuplet ratio only when both numbers are there and not 0, a grace kind other than acciaccatura =
    grace, strings that are not articulation elements and technical notations other than fingerings have no
    element, a tuplet without its four values shows what the note's symbolic duration implies). -/
theorem note_roundtrip (n : NoteAttrs) (h : WellFormedNote n) : readNote (writeNote n) = some (canon n) := by
  obtain ⟨hb, hstem, htype, htup⟩ := h
  obtain ⟨ts, hts, hstop, hstart⟩ := read_ties n
  unfold readNote
  simp only [kids_writeNote, read_duration, read_staff, read_voice, (read_timeMod n).1, (read_timeMod n).2, read_body n hb, hts,
    read_fingering, notationsOf_noteKids, read_slurs, read_symType n htype, read_tuplets n htup,
    Option.bind_eq_bind, Option.bind_some, Option.pure_def, read_id, read_chord, read_stem n hstem, read_dots, read_arts,
    read_fermata, hstop, hstart, Option.some.injEq]
  rfl

/-- the hypothesis is satisfiable by a note that uses every element kind -/
example : WellFormedNote
    { id := some ['n', '1'], body := .pitched ['C'] (some (-1)) 4 (some .acciaccatura), dur := 0, chord := true,
      tiePrev := true, tieNext := true, voice := some 2, stem := some ['u', 'p'], fermata := true,
      arts := [.known .staccato, .unknown, .known .softAccent], technical := [.fingering 4, .otherNotation, .fingering 1],
      symType := some ['e', 'i', 'g', 'h', 't', 'h'], dots := 2, actualNotes := some 3, normalNotes := some 2,
      staff := some 2, nStaves := 2, slurStops := [1], slurStarts := [1, 2], tupletStops := [1],
      tupletStarts := [⟨2, some 3, some ['e'], some 2, some ['e']⟩, ⟨3, none, none, none, none⟩] } := by
  decide +kernel

/-- … and is needed: an empty stem string is written as an empty element, which reads back as the string "None" -/
example : (readNote (writeNote
    { id := none, body := .rest false, dur := 4, chord := false, tiePrev := false, tieNext := false, voice := none,
      stem := some [], fermata := false, arts := [], technical := [], symType := none, dots := 0, actualNotes := none,
      normalNotes := none, staff := none, nStaves := 1, slurStops := [], slurStarts := [], tupletStops := [],
      tupletStarts := [] })).map (·.stem) = some (some ['N', 'o', 'n', 'e']) := by
  decide +kernel

/-- **note_event.**  The event the measure model (Model/XmlMeasure.lean, theorem `reader_writer`) works with is a function
    of the written element: its `<duration>` (none for a grace note), `<chord/>`, `<grace/>`, and the `<voice>` and
    `<staff>` written (0 = not written). -/
theorem note_event (idx : Nat) (n : NoteAttrs) :
    toEv idx (writeNote n) =
      some (.note idx (if n.body.isGrace then 0 else n.dur) n.chord n.body.isGrace
        (match n.voice with | some v => v.toNat | none => 0)
        (match n.staff with | some s => if s ≠ 1 ∨ n.nStaves > 1 then s.toNat else 0 | none => 0)) := by
  unfold toEv
  rw [kids_writeNote, tagInt_duration, tagInt_voice, tagInt_staff, find_grace_isSome, read_chord]
  simp only [Option.bind_eq_bind, Option.bind_some, Option.pure_def, intOr_truthy]
  simp only [intOr_zero]
  congr 2
  · split <;> rfl
  · cases n.voice <;> rfl
  · cases n.staff with
    | none => rfl
    | some s => dsimp only; split <;> rfl

/-- **direction_roundtrip.**  For every element `do_directions` writes — a dynamics mark, a wedge start with its number,
    words with or without a dashes start, a wedge or dashes stop, a pedal start, a pedal stop; any staff, any number,
    any text that is not empty once NULs are removed — the importer's reading of the element (staff, one item per
    `<direction-type>`) does not raise and is exactly `canonDir d` (staff 1 = no staff). -/
theorem direction_roundtrip (d : DirW) (h : WellFormedDir d) : readDir (writeDir d) = some (canonDir d) := by
  cases d with
  | dyn name staff => exact (C03.Dir.readDir_el [] [_] staff).trans (by simp [C03.Dir.readDirType_dynamics, canonDir])
  | wedgeStart cresc number staff =>
    refine (C03.Dir.readDir_el [] [_] staff).trans ?_
    cases cresc <;> simp [C03.Dir.readDirType_wedge, canonDir, sCresc, sDim]
  | words text dashes staff =>
    have hne : filterString text ≠ [] := h
    cases dashes with
    | none => exact (C03.Dir.readDir_el [] [_] staff).trans (by simp [C03.Dir.readDirType_words _ hne, canonDir])
    | some k =>
      exact (C03.Dir.readDir_el [] [_, _] staff).trans
        (by simp [C03.Dir.readDirType_words _ hne, C03.Dir.readDirType_dashes, canonDir])
  | rangeStop isWedge number =>
    refine (C03.Dir.readDir_el [] [_] none).trans ?_
    cases isWedge <;>
      simp [C03.Dir.readDirType_wedge, C03.Dir.readDirType_dashes, canonDir, sStop, sStart, sCresc, sDim, truthy]
  | pedalStart line staff =>
    refine (C03.Dir.readDir_el _ [_] staff).trans ?_
    cases line
    · simp [C03.Dir.readDirType_pedal _ [] rfl, canonDir, Model.lookup, sStart]
    · simp [C03.Dir.readDirType_pedal _ [(.line, sYes)] rfl, canonDir, Model.lookup, sStart]
  | pedalStop line staff =>
    refine (C03.Dir.readDir_el _ [_] staff).trans ?_
    cases line
    · simp [C03.Dir.readDirType_pedal _ [(.sign, sYes)] rfl, canonDir, Model.lookup, sStart, sStop]
    · simp [C03.Dir.readDirType_pedal _ [(.line, sYes)] rfl, canonDir, Model.lookup, sStart, sStop]

example : WellFormedDir (.words ['c', 'r', 'e', 's', 'c', '.'] (some 2) (some 2)) := by decide +kernel

/-- words that consist of NULs only are written as an empty `<words/>`, on which `parse_direction(None)` raises -/
example : readDir (writeDir (.words [Char.ofNat 0] none none)) = none := by decide +kernel

/-- **tempo_roundtrip.**  `<sound tempo>`: a whole quarter tempo is written without fractional part and read back as that
    integer; any other one is written as its decimal `repr` and read back as the same decimal. -/
theorem tempo_roundtrip (t : TempoVal) (h : WellFormedTempo t) : readSound (writeSound t) = some (some t) :=
  C03.Dir.sound_roundtrip t h

example : WellFormedTempo (.dec 66 ['5']) := by decide
example : readSound (writeSound (.dec 66 ['5', '0'])) = some (some (.dec 66 ['5'])) := by decide +kernel

/-! ### the tempo as a NUMBER: decimal text → binary64 (`float(text)`, `Model.Binary64.readFloat`)

The quarter tempo of a score is a binary64 number `d = m · 2^e`; the file carries a decimal text.  What the importer gets
is `readFloat` of the rational the text denotes.  Whether that is `d` again depends on how many digits were written:
`closeTo d v` (strictly inside the rounding interval of `d`) is the condition, evaluated by the harness on every
`<sound tempo>` the exporter writes (stream wfsound); Python's `repr` satisfies it, six significant digits do not. -/

/-- **float_reads_nearest.**  Correct rounding (binade by `Nat.log2`, significand by round-half-even, carry into the
    next binade) returns the binary64 number in whose rounding interval the text lies — for every normal number and every
    rational strictly inside the interval (half a unit in the last place above, half — a quarter at a power of two —
    below). -/
theorem float_reads_nearest (d : Dbl) (hn : d.Normal) (v : Rat) (hc : closeTo d v = true) : readFloat v = d :=
  C03.Float.readFloat_of_close d hn v hc

/-- **float_reads_itself.**  The exact value (what `int(qtempo)` prints for a whole tempo, whatever its size) is read back. -/
theorem float_reads_itself (d : Dbl) (hn : d.Normal) : readFloat d.value = d := C03.Float.readFloat_exact d hn

/-- **seventeen_digits_suffice.**  Any decimal within 5·10⁻¹⁷ (relative) of a normal binary64 number — the value rounded to
    17 significant digits — is read as that number. -/
theorem seventeen_digits_suffice (d : Dbl) (hn : d.Normal) (v : Rat) (h : |v - d.value| * 10 ^ 17 ≤ 5 * d.value) :
    readFloat v = d := C03.Float.seventeen_digits d hn v h

/-- **too_few_digits_lose.**  Conversely: a positive text further than half a unit in the last place from `d` is read as
    another number — whatever the number of digits that caused it. -/
theorem too_few_digits_lose (d : Dbl) (v : Rat) (hv : 0 < v) (h : pow2 (d.e - 1) < |v - d.value|) : readFloat v ≠ d :=
  C03.Float.readFloat_ne_of_far d v hv h

/-- **tempo_number_roundtrip.**  `<sound tempo>` down to the number: when the decimal the exporter writes lies inside the
    rounding interval of the score's quarter tempo `d`, `float(e.attrib["tempo"])` of the element written is `d`. -/
theorem tempo_number_roundtrip (t : TempoVal) (h : WellFormedTempo t) (d : Dbl) (hn : d.Normal)
    (hc : closeTo d (tempoValue t) = true) : readSoundFloat (writeSound t) = some (some d) :=
  C03.Float.sound_float_roundtrip t h d hn hc

/-- **tempo_text_exponent_roundtrip.**  The float literal as text, exponent notation included (`1.5e-05`, what `repr` prints
    below 10⁻⁴; `1.23457e+06`): mantissa and exponent parsed from the text written are the ones written. -/
theorem tempo_text_exponent_roundtrip (t : TempoVal) (h : WellFormedTempo t) (ex : Int) :
    parseSci (sciText t ex) = some (t, ex) := C03.Float.sci_roundtrip t h ex

/-- **tempo_number_roundtrip_exponent.**  The same as tempo_number_roundtrip for a text with any exponent. -/
theorem tempo_number_roundtrip_exponent (t : TempoVal) (h : WellFormedTempo t) (ex : Int) (d : Dbl) (hn : d.Normal)
    (hc : closeTo d (sciValue (t, ex)) = true) : readSoundNum (writeSoundSci t ex) = some (some d) :=
  C03.Float.sound_num_roundtrip t h ex d hn hc

/-- 1.5e-05 = 8854437155380585 · 2⁻⁶⁹ -/
example : (⟨8854437155380585, -69⟩ : Dbl).Normal ∧ closeTo ⟨8854437155380585, -69⟩ (sciValue (.dec 1 ['5'], -5)) = true ∧
    sciText (.dec 1 ['5']) (-5) = "1.5e-05".toList := by decide +kernel
/-- `"{:g}".format(1234567.0)` = `1.23457e+06` is read as 1234570 = 5302437774622720 · 2⁻³², not as 1234567 -/
example : readSoundNum (writeSoundSci (.dec 1 "23457".toList) 6) = some (some ⟨5302437774622720, -32⟩) ∧
    readFloat 1234567 = ⟨5302424889720832, -32⟩ := by decide +kernel

/-- 60 / 0.45 = 133.33333333333334 = 4691249611844267 · 2⁻⁴⁵: its `repr` is inside the interval … -/
example : (⟨4691249611844267, -45⟩ : Dbl).Normal ∧
    closeTo ⟨4691249611844267, -45⟩ (tempoValue (.dec 133 "33333333333334".toList)) = true := by decide +kernel
/-- … six significant digits (`"{:g}"`) are not, and come back as another tempo -/
example : closeTo ⟨4691249611844267, -45⟩ (tempoValue (.dec 133 "333".toList)) = false ∧
    readSoundFloat (writeSound (.dec 133 "333".toList)) = some (some ⟨4691237883720237, -45⟩) := by decide +kernel
/-- a whole tempo beyond 2⁵³ (10²² = 4768371582031250 · 2²¹) is written with all its digits and read back -/
example : readFloat (tempoValue (.whole 10000000000000000000000)) = ⟨4768371582031250, 21⟩ := by decide +kernel
/-- the carry into the next binade: just below a power of two -/
example : readFloat (tempoValue (.dec 127 "99999999999999999".toList)) = ⟨2 ^ 52, -45⟩ := by decide +kernel

/-- **attributes_roundtrip.**  For every list of entries of one `<attributes>` element (divisions, key signatures with or
    without mode, time signatures, staff details, clefs of any staff with or without octave change, in any order and
    number) and whatever `<staves>` value goes in front of the first clef: the importer's reading is exactly
    `canonAttrs items` — the first time signature, the first key signature, the first divisions value, every clef in
    order. -/
theorem attributes_roundtrip (items : List AttrItem) (staves : Option Nat) (h : WellFormedAttrs items) :
    readAttributes (writeAttributes items staves) = some (canonAttrs items) := by
  have hb := C03.Attr.read_beats items
  have hk : ∀ t, t ≠ Tag.staves → ∀ u, findPath t u (writeAttributes items staves).kids =
      findPath t u (items.flatMap itemEls) := by
    intro t ht u
    unfold findPath
    rw [C03.Attr.findall_kids t ht]
  have hd : find .divisions (writeAttributes items staves).kids = find .divisions (items.flatMap itemEls) := by
    unfold find; rw [C03.Attr.findall_kids _ (by decide)]
  unfold readAttributes
  simp only [hk _ (by decide : Tag.time ≠ Tag.staves), hk _ (by decide : Tag.key ≠ Tag.staves), hd, hb.1, hb.2,
    C03.Attr.read_fifths, C03.Attr.read_mode, C03.Attr.read_divisions, C03.Attr.findall_kids Tag.clef (by decide),
    C03.Attr.read_clefs items h, Option.bind_eq_bind, Option.bind_some, Option.pure_def, Option.some.injEq]
  unfold canonAttrs
  congr 1
  · cases hft : firstTime items with
    | none => simp [truthy]
    | some ab =>
      obtain ⟨a, b⟩ := ab
      by_cases ha : a = 0 <;> by_cases hb0 : b = 0 <;> simp [truthy, ha, hb0]
  · cases hfk : firstKey items with
    | none =>
      have : firstMode items = none := by
        cases hm : firstMode items with
        | none => rfl
        | some m =>
          have := C03.Attr.firstMode_some items (by simp [hm])
          simp [hfk] at this
      simp [this]
    | some fm => simp

example : WellFormedAttrs [.divisions 4, .key (-3) (some ['m', 'i', 'n', 'o', 'r']), .time 6 8,
    .clef none ['G'] (some 2) none, .clef (some 2) ['F'] (some 4) (some (-1))] := by decide +kernel

/-- a clef whose sign is the empty string would be read back with the sign "None" -/
example : (readAttributes (writeAttributes [.clef none [] (some 2) none] (some 1))).map (·.clefs.map (·.sign)) =
    some [some ['N', 'o', 'n', 'e']] := by decide +kernel

/-- **wedges_paired.**  The wedge (or dashes: another `label`) elements of a part in document order, numbered by the
    exporter's counter (`marksOf`: the smallest number no open range of the label uses; `Mark.note` is the element).  If
    every range is met at most once as a start and once as a stop (`WFEvs`) and its start comes first in the document
    (`StartFirst`: wedges and dashes end after they start, and the document is in time order), then the importer's pairing
    through `ongoing[(kind, number)]` — a start stores the object under its number, a stop takes what is stored there —
    returns, in the order of closing, every closed range with its own start element and stop element, and still holds
    under each number exactly the open range that carries it.  Overlapping and nested ranges included: the numbers of
    ranges that are open at the same time differ (`numbers_distinct`). -/
theorem wedges_paired (label : Nat) (tbl : Nat → C03.Ranges.Rng) (evs : List C03.Ranges.REv)
    (hwf : C03.Ranges.WFEvs [] [] evs) (hsf : C03.Slots.StartFirst [] evs) :
    (slotAll (C03.Ranges.marksOf label tbl [] evs)).2 =
        (C03.Ranges.closedBy [] evs).map (fun r => ((tbl r).sN, (tbl r).eN)) ∧
      ∀ k, Model.lookup k (slotAll (C03.Ranges.marksOf label tbl [] evs)).1 =
        ((C03.Ranges.finalS [] evs).find? fun x => x.2.2 = k).map fun x => (tbl x.1).sN := by
  have := C03.Slots.slots_marksOf tbl label evs [] [] [] [] ⟨by simp, by simp⟩ (fun x hx => by cases hx)
    (fun k => by simp [Model.lookup]) hwf hsf
  simpa [slotAll, C03.Ranges.cOf, C03.Slots.Agree] using this

/-- three wedges A = [e0, e2], B = [e1, e4], C = [e3, e5] that overlap pairwise: written with the numbers 1 2 1 1 2 1 -/
example : C03.Slots.StartFirst [] [(0, true), (1, true), (0, false), (2, true), (1, false), (2, false)] := by
  simp [C03.Slots.StartFirst, C03.Ranges.stepS, C03.Ranges.lookupS, C03.Ranges.eraseS]

example : (slotAll [⟨0, 0, true, 1⟩, ⟨1, 0, true, 2⟩, ⟨2, 0, false, 1⟩, ⟨3, 0, true, 1⟩, ⟨4, 0, false, 2⟩, ⟨5, 0, false, 1⟩]).2 =
    [(0, 2), (1, 4), (3, 5)] := by decide +kernel

/-- without the hypothesis the conclusion fails: a stop that comes before its start is ignored by the importer
    (`Did not find a wedge start element for wedge stop!`) -/
example : (slotAll [⟨0, 0, false, 1⟩, ⟨1, 0, true, 1⟩]).2 = [] := by decide +kernel

/-! ### the element-level part of the byte fixpoint -/

/-- **note_fixpoint.**  Saving what was loaded writes the same `<note>`: for every note that is the representative of its
    meaning the importer picks (`CanonicalNote`: numbered voice, numbered staff where needed, …), the element the exporter
    writes for the note as the importer rebuilt it (`reexport (canon n)`, which by `note_roundtrip` is what
    `readNote (writeNote n)` describes) is, child for child and attribute for attribute, the element it wrote for `n`.
    This is the `<note>` part of `save(load(save(s))) == save(s)`; the serialisation of the tree and the elements that
    are not modelled are compared on every case. -/
theorem note_fixpoint (n : NoteAttrs) (h : CanonicalNote n) : writeNote (reexport (canon n) n.nStaves) = writeNote n := by
  obtain ⟨hid, hrest, ⟨v, hv, hv0⟩, hstaves, hstaff0, hratio, hnum, htup⟩ := h
  unfold writeNote noteKids notationsEl
  rw [C03.Fix.id_fix n _ hid, C03.Fix.durEl_fix, C03.Fix.voiceEl_fix n _ hv hv0, C03.Fix.timeModEl_fix n _ hratio,
    C03.Fix.staffEl_fix n hstaves hstaff0, C03.Fix.notationKids_fix n _ hnum htup]
  show Xml.el .note _ [] (_ ++ bodyEls (reexportBody (canonBody n.body)) ++ _ ++ _ ++ _ ++ _ ++ _ ++ _ ++ _ ++ _ ++ _) = _
  rw [C03.Fix.body_fix n.body hrest]
  rfl

example : CanonicalNote
    { id := some ['n', '1'], body := .pitched ['C'] (some 0) 4 (some .appoggiatura), dur := 0, chord := false,
      tiePrev := false, tieNext := true, voice := some 2, stem := none, fermata := true,
      arts := [.known .staccato, .unknown], technical := [.fingering 4, .otherNotation],
      symType := some ['e'], dots := 1, actualNotes := some 3, normalNotes := some 2,
      staff := some 2, nStaves := 2, slurStops := [1], slurStarts := [2], tupletStops := [],
      tupletStarts := [⟨1, some 3, some ['e'], some 2, some ['e']⟩] } := by
  refine ⟨by decide, by decide, ⟨2, rfl, by decide⟩, fun _ => ⟨2, rfl, by decide⟩, by decide, ?_, by decide, by decide⟩
  intro a b ha hb
  simp only [Option.some.injEq] at ha hb
  subst ha; subst hb
  decide

/-- the hypothesis matters: a note without voice number is written without `<voice>`, read as voice 1, and written
    again with `<voice>1</voice>` -/
example : let n : NoteAttrs :=
      { id := none, body := .rest false, dur := 4, chord := false, tiePrev := false, tieNext := false, voice := none,
        stem := none, fermata := false, arts := [], technical := [], symType := none, dots := 0, actualNotes := none,
        normalNotes := none, staff := none, nStaves := 1, slurStops := [], slurStarts := [], tupletStops := [],
        tupletStarts := [] }
    (writeNote (reexport (canon n) 1)).kids.length = (writeNote n).kids.length + 1 := by
  decide +kernel

end C03
