/-
C05 — "rows are ordered by onset, then pitch": the order by the STORED onset_beat column against the order of
the timeline.

`beat_order_eq` (Props/C05.lean) assumes that the stored key is strictly increasing in the division onset.  Half of that is
false in general (binary32 merges onsets that are closer than its spacing: beats 100000.25 and 100000.26 are one stored
number) and half of it is a theorem, proved here from the producing functions: the beat map is strictly increasing
(C02.fwd_strictMono) and binary32 rounding is monotone (`float32_monotone`, all rationals, subnormals included).  Hence
storing never INVERTS two onsets, it can only merge them: the table is in timeline order except inside groups of rows
whose stored onsets coincide, and those are ordered by pitch.
-/
import PartituraModel.Props.C05Compose
import PartituraModel.Props.C02
import PartituraModel.Proofs.C05Float

namespace C05
open NoteArray List

theorem float32_monotone {x y : Rat} (h : x ≤ y) : f32round x ≤ f32round y :=
  f32round_odd.mono (fun a ha => r32_nonneg a ha.le) (fun _ _ => r32_mono) h

/-- the stored sort key follows the timeline: a row that starts earlier (in divisions) never has a larger stored onset.
    `WF`: the part has at least two time points, first < last, positive divisions and signatures (validity of the part) -/
theorem stored_key_follows_timeline (d : Desc) (notes : List Note) (o : Opts) (out : List Row)
    (h : rowsC d notes o = some out) (hwf : C02Proofs.WF d.tm (Model.TimeMap.beatMode d.tm)) :
    ∀ a ∈ out, ∀ b ∈ out, a.onsetDiv ≤ b.onsetDiv → a.onsetBeat ≤ b.onsetBeat ∧ a.key ≤ b.key := by
  intro a ha b hb hab
  obtain ⟨na, _, da, _, _, hoa, _, hba, _, _, _, hka, _⟩ := row_values_composed d notes o out h a ha
  obtain ⟨nb, _, db, _, _, hob, _, hbb, _, _, _, hkb, _⟩ := row_values_composed d notes o out h b hb
  have hle : ((na.onset : Int) : Rat) ≤ ((nb.onset : Int) : Rat) := by
    rw [← hoa, ← hob]; exact_mod_cast hab
  have hmono := C02.fwd_mono d.tm (Model.TimeMap.beatMode d.tm) hwf _ _ _ _ hle hba hbb
  exact ⟨hmono, by rw [hka, hkb]; exact float32_monotone hmono⟩

/-- **ORDERED BY ONSET, THEN PITCH** — against the timeline: of two rows of the table the earlier one starts no later in
    divisions, unless binary32 stores their onsets as the same number, and then it has the lower (or equal) pitch.
    (The hypothesis `hmono` of `beat_order_eq` is discharged as far as it is true.) -/
theorem table_order_follows_the_timeline (d : Desc) (notes : List Note) (o : Opts) (out : List Row)
    (h : rowsC d notes o = some out) (hwf : C02Proofs.WF d.tm (Model.TimeMap.beatMode d.tm)) :
    out.Pairwise (fun a b => a.onsetDiv ≤ b.onsetDiv ∨ (a.key = b.key ∧ a.pitch ≤ b.pitch)) := by
  have hs := (rows_composed_bijective_sorted d notes o out h).2.2
  have hk := stored_key_follows_timeline d notes o out h hwf
  apply hs.imp_of_mem
  intro a b ha hb hab
  rcases hab with hlt | ⟨heq, hp⟩
  · left
    by_contra hc
    have : b.onsetDiv ≤ a.onsetDiv := by omega
    exact absurd (hk b hb a ha this).2 (not_le.mpr hlt)
  · exact Or.inr ⟨heq, hp⟩

/-- where binary32 keeps the onsets of the table apart (any piece short enough: the spacing of binary32 at beat `x` is
    `x / 2^23`), the table is ordered by (onset_div, pitch) outright -/
theorem table_sorted_by_onset_div (d : Desc) (notes : List Note) (o : Opts) (out : List Row)
    (h : rowsC d notes o = some out) (hwf : C02Proofs.WF d.tm (Model.TimeMap.beatMode d.tm))
    (hapart : ∀ a ∈ out, ∀ b ∈ out, a.key = b.key → a.onsetDiv = b.onsetDiv) :
    out.Pairwise (NoteArray.Lex (·.onsetDiv) (fun a b => a.pitch ≤ b.pitch)) := by
  have hs := (rows_composed_bijective_sorted d notes o out h).2.2
  have hk := stored_key_follows_timeline d notes o out h hwf
  apply hs.imp_of_mem
  intro a b ha hb hab
  rcases hab with hlt | ⟨heq, hp⟩
  · left
    show a.onsetDiv < b.onsetDiv
    by_contra hc
    have : b.onsetDiv ≤ a.onsetDiv := by omega
    exact absurd (hk b hb a ha this).2 (not_le.mpr hlt)
  · exact Or.inr ⟨hapart a ha b hb heq, hp⟩

section Examples

/-- the hypotheses are satisfiable: the example part of Props/C05Compose.lean is well-formed and its table exists -/
example : C02Proofs.WF exDesc.tm (Model.TimeMap.beatMode exDesc.tm) ∧ (rowsC exDesc exNotes exOpts).isSome = true := by
  decide +kernel

/-- binary32 merges onsets: beats 100000.25 and 100000.251953125 (1/512 apart; the spacing there is 1/128) are one
    stored number - which is why `hapart` cannot be dropped from `table_sorted_by_onset_div`; 1/128 apart they stay apart -/
example : f32round (100000 + 1 / 4) = f32round (100000 + 1 / 4 + 1 / 512) ∧
    f32round (100000 + 1 / 4) ≠ f32round (100000 + 1 / 4 + 1 / 128) := by decide +kernel

end Examples

end C05
