/-
C07 — `to_v1` of info and meta lines: the attribute is renamed through the equivalence tables, the VALUE
(key signature, time signature, file names, clock units, …) is carried over unchanged - the two documented
exceptions being `subtitle` (a pre-1.0 list of words becomes one string) and `tempoIndication` (the words
become one tempo text) - and a meta line keeps its measure and time.  Insertions, trills: anchor and
performed note.
-/
import PartituraModel.Model.MatchLine
import PartituraModel.Gen.MatchTemplates
import PartituraModel.Props.C07Codecs

namespace C07
open Model Model.Template Model.MatchCodec Model.MatchLine Gen

/-- the 1.0.0 name of a pre-1.0 attribute -/
def v1Attr (a : String) (eqv : List (String × String)) : String := (lookup a eqv).getD a

/-- **meta lines** (`meta(timeSignature,3/4,12,45.0).` → `scoreprop(timeSignature,3/4,12:1,0,45.0000).`):
    the result is a score property with the same value, measure and time, at beat 1 with offset 0 -/
theorem toV1_meta_content (ts : List Template) (v : Nat × Nat × Nat) (vals : List Val) (k : String) (vals' : List Val)
    (h : toV1 ts "meta" v vals = some (k, vals')) :
    ∃ attr value measure time, vals = [.str attr, value, measure, time] ∧ k = "scoreprop" ∧
      v1ScorepropAttributes.contains (v1Attr (String.ofList attr) scorepropAttributeEquivalences) = true ∧
      vals' = [.str (v1Attr (String.ofList attr) scorepropAttributeEquivalences).toList, value, measure,
               .int 1, .frac zeroFrac, time] := by
  unfold toV1 at h
  simp only at h
  split at h
  · rename_i attr value measure time
    split at h
    · simp at h
    · rename_i hc
      simp only [Option.some.injEq, Prod.mk.injEq] at h
      refine ⟨attr, value, measure, time, rfl, h.1.symm, ?_, h.2.symm⟩
      simpa [v1Attr] using hc
  · simp at h

/-- **info lines**: the result is a 1.0.0 info line or a score property whose value is the value of the input,
    except for `subtitle` and `tempoIndication` -/
theorem toV1_info_content (ts : List Template) (v : Nat × Nat × Nat) (vals : List Val) (k : String) (vals' : List Val)
    (h : toV1 ts "info" v vals = some (k, vals')) :
    ∃ attr value value', vals = [.str attr, value] ∧
      ((k = "info" ∧ vals' = [.str (v1Attr (String.ofList attr) infoAttributeEquivalences).toList, value'] ∧
          (v1Attr (String.ofList attr) infoAttributeEquivalences ≠ "subtitle" → value' = value)) ∨
       (k = "scoreprop" ∧
          vals' = [.str (v1Attr (String.ofList attr) scorepropAttributeEquivalences).toList, value', .int 1, .int 1,
                   .frac zeroFrac, .dec 0] ∧
          (v1Attr (String.ofList attr) scorepropAttributeEquivalences ≠ "tempoIndication" → value' = value))) := by
  unfold toV1 at h
  simp only at h
  split at h
  · rename_i attr value
    split at h
    · split at h
      · simp at h
      · simp only [Option.some.injEq, Prod.mk.injEq] at h
        refine ⟨attr, value, _, rfl, Or.inl ⟨h.1.symm, h.2.symm, ?_⟩⟩
        intro hne
        have : ((lookup (String.ofList attr) infoAttributeEquivalences).getD (String.ofList attr) == "subtitle") = false := by
          simpa [v1Attr] using hne
        simp only [this, Bool.false_eq_true, if_false]
    · split at h
      · split at h
        · simp at h
        · simp only [Option.some.injEq, Prod.mk.injEq] at h
          refine ⟨attr, value, _, rfl, Or.inr ⟨h.1.symm, h.2.symm, ?_⟩⟩
          intro hne
          have : ((lookup (String.ofList attr) scorepropAttributeEquivalences).getD (String.ofList attr) == "tempoIndication") = false := by
            simpa [v1Attr] using hne
          simp only [this, Bool.false_eq_true, if_false]
      · simp at h
  · simp at h

/-- key and time signatures of pre-1.0 info lines become score properties with the SAME value -/
theorem toV1_info_signatures (ts : List Template) (v : Nat × Nat × Nat) (value : Val) :
    toV1 ts "info" v [.str "keySignature".toList, value]
      = some ("scoreprop", [.str "keySignature".toList, value, .int 1, .int 1, .frac zeroFrac, .dec 0]) ∧
    toV1 ts "info" v [.str "timeSignature".toList, value]
      = some ("scoreprop", [.str "timeSignature".toList, value, .int 1, .int 1, .frac zeroFrac, .dec 0]) := by
  constructor <;> rfl

/-- the two conversions of values: a subtitle list becomes the text Python prints for the list, the words of a
    tempo indication become the first comma-free run of their blank-separated text -/
example : toV1 [] "info" (0, 5, 0) [.str "subtitle".toList, .strs ["a".toList, "b".toList]]
      = some ("info", [.str "subtitle".toList, .str "['a', 'b']".toList]) ∧
    toV1 [] "info" (0, 5, 0) [.str "tempoIndication".toList, .strs ["lento".toList, "ma".toList]]
      = some ("scoreprop", [.str "tempoIndication".toList, .tempo "lento ma".toList, .int 1, .int 1, .frac zeroFrac, .dec 0]) ∧
    toV1 [] "info" (0, 5, 0) [.str "midiFilename".toList, .str "x.mid".toList]
      = some ("info", [.str "midiFileName".toList, .str "x.mid".toList]) := by
  refine ⟨?_, ?_, ?_⟩ <;> decide +kernel

/-- **tempo indication** (pre-1.0 info line: a list of words; 1.0.0 score property: one tempo text): the words
    are kept, in order, joined by single blanks - provided that text is a tempo text the 1.0.0 interpreter reads
    back as itself (no blank at either end, not empty, no comma, no `[` in front); the result is then an
    admissible value of the 1.0.0 line (`Adm`, so `line_roundtrip_adm` applies to the converted line) -/
theorem toV1_tempo_words (ts : List Template) (v : Nat × Nat × Nat) (l : List Str)
    (hs : strip (joinWith [' '] l) = joinWith [' '] l) (hne : joinWith [' '] l ≠ [])
    (hc : ∀ c ∈ joinWith [' '] l, c ≠ ',') (hb : (joinWith [' '] l).head? ≠ some '[') :
    toV1 ts "info" v [.str "tempoIndication".toList, .strs l]
      = some ("scoreprop", [.str "tempoIndication".toList, .tempo (joinWith [' '] l), .int 1, .int 1,
                            .frac zeroFrac, .dec 0]) ∧
    Adm .tempo .tempo (.tempo (joinWith [' '] l)) := by
  have key : toV1 ts "info" v [.str "tempoIndication".toList, .strs l]
      = some ("scoreprop", [.str "tempoIndication".toList,
          (match decTempo (joinWith [' '] l) with | some s => Val.tempo s | none => Val.none),
          .int 1, .int 1, .frac zeroFrac, .dec 0]) := rfl
  rw [key, C07Codec.decTempo_id _ hs hne hc hb]
  exact ⟨rfl, hs, hne, hc, hb⟩

/-- **subtitle** (pre-1.0: a list of words; 1.0.0: one string): an empty list becomes the empty string, any
    other list the text Python prints for it (`['a', 'b']`: every word, in order, between apostrophes) -/
theorem toV1_subtitle_words (ts : List Template) (v : Nat × Nat × Nat) (w : Str) (l : List Str) :
    toV1 ts "info" v [.str "subtitle".toList, .strs []] = some ("info", [.str "subtitle".toList, .str []]) ∧
    toV1 ts "info" v [.str "subtitle".toList, .strs (w :: l)]
      = some ("info", [.str "subtitle".toList,
          .str ('[' :: (joinWith [',', ' '] ((w :: l).map fun s => '\'' :: (s ++ ['\'']))) ++ [']'])]) := by
  constructor <;> rfl

example : strip (joinWith [' '] ["lento".toList, "ma".toList]) = joinWith [' '] ["lento".toList, "ma".toList] ∧
    joinWith [' '] ["lento".toList, "ma".toList] = "lento ma".toList := by
  constructor <;> decide +kernel

/-- insertions and their variants, trills: the anchor is kept and the performed note is converted by `noteToV1`
    (id, velocity and tick times kept, MIDI pitch = the spelled pitch: `noteToV1_content`) -/
theorem toV1_insertion_content (ts : List Template) (v : Nat × Nat × Nat) (kind : String) (vals vals' : List Val) (k : String)
    (hk : kind = "insertion" ∨ kind = "hammer_bounce" ∨ kind = "trailing_played")
    (h : toV1 ts kind v vals = some (k, vals')) :
    k = "insertion" ∧ ∃ names, noteToV1 names vals = some vals' := by
  rcases hk with rfl | rfl | rfl <;>
  · unfold toV1 at h
    simp only [Option.map_eq_some_iff, Prod.mk.injEq] at h
    obtain ⟨n, hn, hk', hv⟩ := h
    subst hv
    exact ⟨hk'.symm, _, hn⟩

theorem toV1_trill_content (ts : List Template) (v : Nat × Nat × Nat) (vals vals' : List Val) (k : String)
    (h : toV1 ts "trill" v vals = some (k, vals')) :
    k = "ornament" ∧ ∃ anchor rest names n, vals = anchor :: rest ∧ noteToV1 names rest = some n ∧
      vals' = anchor :: .strs ["trill".toList] :: n := by
  unfold toV1 at h
  simp only at h
  split at h
  · rename_i anchor rest
    simp only [Option.map_eq_some_iff, Prod.mk.injEq] at h
    obtain ⟨n, hn, hk', hv⟩ := h
    exact ⟨hk'.symm, anchor, rest, _, n, rfl, hn, hv.symm⟩
  · simp at h

end C07
