/-
C06 — the default programs of the exporter, exactly: how many, on which (track, channel), at which tick;
and the programs of the whole written file as an exact multiset (`programs_kept` says "plus default programs only").

`save_performance_midi`, for a performed part WITHOUT programs:
    channels_and_tracks = set of (channel, track) of its controls and notes
    timepoints          = every tick present in `track_events` so far (all parts up to this one, all tracks)
    for every track, for every channel used on it:  track_events[track][min(timepoints)].append(program_change 0)
-/
import PartituraModel.Model.PerfMidi
import PartituraModel.Proofs.C06Defaults
import PartituraModel.Props.C06
import PartituraModel.Props.C06Merge

namespace C06
open Model Model.PerfMidi C06Sort C06Lists C06Export C06Stable C06Merged C06Defaults

/-- **One part.**  When the exporter reaches the default-program step of a part without programs, with `acc` the
    appends made so far (the part's own events included) and `m` the smallest tick among them, it appends exactly
    one `program_change 0` per DISTINCT (channel, track) pair of the part's notes and controls — no pair twice, none
    missing — all at tick `m`; `m` is a tick that is present and no present tick is smaller. -/
theorem default_programs_one_part (acc : List Ins) (p : PPart) (hnil : p.programs = []) (m : Int)
    (hm : minTick (acc.map (fun i => i.2.1)) = some m) :
    (defaultPrograms acc p).Perm ((chanTracks p).dedup.map (dflt m)) ∧
    (defaultPrograms acc p).length = (chanTracks p).dedup.length ∧
    (∃ i ∈ acc, i.2.1 = m) ∧ ∀ i ∈ acc, m ≤ i.2.1 := by
  have hP := defaultPrograms_perm acc p hnil m hm
  obtain ⟨h1, h2⟩ := minTick_spec _ m hm
  refine ⟨hP, by simpa using hP.length_eq, ?_, ?_⟩
  · obtain ⟨i, hi, he⟩ := List.mem_map.mp h1
    exact ⟨i, hi, he⟩
  · intro i hi
    exact h2 _ (List.mem_map_of_mem hi)

/-- a part with a program gets none; nothing has been written yet (a first part without any event) — none -/
theorem default_programs_none (acc : List Ins) (p : PPart) (h : p.programs ≠ [] ∨ acc = []) :
    defaultPrograms acc p = [] := by
  rcases h with h | h
  · exact defaultPrograms_of_programs acc p h
  · subst h
    exact defaultPrograms_none [] p rfl

/-- **All appends of the exporter** are, as a multiset, the events of the parts and the default programs
    `defaultsFrom q [] parts`: for every part without programs one per distinct (channel, track), at the smallest
    tick of any event of this or an earlier part. -/
theorem exporter_appends (q : Rat → Int) (parts : List PPart) :
    (insertAll q parts).Perm (parts.flatMap (partEvents q) ++ defaultsFrom q [] parts) :=
  insertAll_defaults q parts

/-- the closed form of `defaultsFrom`: every default program belongs to a part `p` without programs, sits on a
    (channel, track) of a note or control of `p`, at the smallest tick of the events of the parts up to `p` -/
theorem defaults_closed_form (q : Rat → Int) (parts : List PPart) (seen : List Ins) :
    ∀ x ∈ defaultsFrom q seen parts, ∃ pre p post, parts = pre ++ p :: post ∧ p.programs = [] ∧
      minTick ((seen ++ (pre ++ [p]).flatMap (partEvents q)).map fun i => i.2.1) = some x.2.1 ∧
      ∃ ct ∈ chanTracks p, x = dflt x.2.1 ct :=
  defaultsFrom_spec q parts seen

/-- **The programs of the whole file, exactly** — with or without merging on either side: what the loader reads
    is the multiset of the programs of the performance (at ticks `q time`) plus the default programs, each
    `(tick, 0, channel)` — nothing else, none missing, each the right number of times. -/
theorem programs_exact (q : Rat → Int) (mpq : Nat) (ms ml : Bool) (parts : List PPart) :
    ((loaderTracks ml ((savedAbs q mpq ms parts).map toDelta)).flatMap programsOf).Perm
      ((parts.flatMap fun p => p.programs.map fun c => (q c.time, c.prog, c.ch))
        ++ progsOfIns (defaultsFrom q [] parts)) := by
  rw [funext programsOf_eq]
  exact (progs_file q mpq ms ml parts).trans ((perfPrograms_perm q parts).append (trackDefaults_perm q parts))

/-- non-vacuity (the two parts of `programs_kept`'s example, merged on save and on load): part 1 has no program and
    uses channel 0 on track 0 and channel 1 on tracks 0 and 2 — three defaults at tick 0 (its control at 0 s); part 2
    has a program — none added -/
example : let p1 : PPart := { metaOther := [], keySigs := [], timeSigs := [],
                              controls := [⟨1/3, 64, 127, 1, 2⟩, ⟨0, 7, 100, 0, 0⟩],
                              notes := [⟨60, 64, 1, 0, 1/2, 1⟩, ⟨61, 64, 1, 0, 1/2, 1⟩], programs := [] }
          let p2 : PPart := { metaOther := [], keySigs := [], timeSigs := [], controls := [],
                              notes := [⟨62, 64, 5, 1, 1/4, 1⟩], programs := [⟨1, 40, 5, 1⟩] }
    progsOfIns (defaultsFrom (quant 500000 480) [] [p1, p2]) = [(0, 0, 1), (0, 0, 0), (0, 0, 1)] ∧
    (loaderTracks true ((savedAbs (quant 500000 480) 500000 true [p1, p2]).map toDelta)).flatMap programsOf
      = [(0, 0, 0), (0, 0, 1), (0, 0, 1), (960, 40, 5)] := by decide +kernel

/-- the tick is the smallest of ALL parts so far, not of the part: the second part starts at 1 s, the first has an
    event at 1/4 s — the second part's default program sits at tick 240 -/
example : let p1 : PPart := { metaOther := [], keySigs := [], timeSigs := [], controls := [],
                              notes := [⟨60, 64, 0, 0, 1/4, 1⟩], programs := [⟨1/2, 5, 0, 0⟩] }
          let p2 : PPart := { metaOther := [], keySigs := [], timeSigs := [], controls := [],
                              notes := [⟨62, 64, 3, 1, 1, 2⟩], programs := [] }
    defaultsFrom (quant 500000 480) [] [p1, p2] = [(1, 240, Ev.program 3 0)] := by decide +kernel

end C06
