/-
C04 — the round trip does not depend on how the file travels (path or in-memory `mido.MidiFile` object) nor on how
often, in which order and by which reader the same object is read.

`Model.MidiObject` threads a `MidiObj` through a history of uses (`ReadOp`: score importer in any part/voice mode,
performance reader, save-and-parse, direct iteration).  A reader that does not write to the object (the code: the
running sum of delta times is a local variable) returns, at every step of every history, what a single read of the
fresh file returns, and leaves the object as it was; the reader that writes the absolute time back into the messages
(`readOpWriteBack`) does not (last `example`).
Tied to the code by the `hist` cases of harness/props/c04.py (real `save_score_midi(score, None)`, then the real
readers on that one object, compared step by step with `runHistory` and judged by the Fraction oracle).
-/
import PartituraModel.Props.C04Cells
import PartituraModel.Model.MidiObject

namespace C04
open Model Model.Ticks Model.MidiPair Model.MidiModes Model.ScoreMidi Model.MidiObject

/-- Any step function that hands the object back unchanged: after every history the object is what it was, and
    the i-th result is the result of that use on the ORIGINAL object. -/
theorem history_pure (step : MidiObj → ReadOp → MidiObj × ReadOut) (hstep : ∀ f op, (step f op).1 = f)
    (f : MidiObj) (ops : List ReadOp) :
    runWith step f ops = (f, ops.map fun op => (step f op).2) := by
  induction ops with
  | nil => rfl
  | cons op ops ih =>
    simp only [runWith, hstep, ih, List.map_cons]

/-- the code's readers hand the object back unchanged -/
theorem readOp_pure (f : MidiObj) (op : ReadOp) : (readOp f op).1 = f := rfl

/-- **The object is not changed by being read**, whatever the history of reads. -/
theorem history_object_unchanged (f : MidiObj) (ops : List ReadOp) : (runHistory f ops).1 = f := by
  unfold runHistory
  rw [history_pure readOp readOp_pure]

/-- **Every read sees the same file**: in any history, the i-th use returns what that use returns on the fresh
    object — i.e. what the path-based call (which parses a fresh `MidiFile`) returns. -/
theorem history_reads_independent (f : MidiObj) (ops : List ReadOp) (i : Nat) (op : ReadOp)
    (hop : ops[i]? = some op) :
    (runHistory f ops).2[i]? = some (outOf f op) := by
  unfold runHistory
  rw [history_pure readOp readOp_pure]
  simp only [List.getElem?_map, hop, Option.map_some]
  rfl

/-- in particular two reads of the same kind at different places of a history agree -/
theorem history_reads_agree (f : MidiObj) (ops : List ReadOp) (i j : Nat) (op : ReadOp)
    (hi : ops[i]? = some op) (hj : ops[j]? = some op) :
    (runHistory f ops).2[i]? = (runHistory f ops).2[j]? := by
  rw [history_reads_independent f ops i op hi, history_reads_independent f ops j op hj]

/-- **Round trip, any import mode** (`shift`, `time_sig_change`).  Export with mode `mode`, import the written file
    with ANY mode `imode` for which the importer returns: the imported parts together hold exactly the score's
    sounding notes in musical time, and every created part has `ppq` divisions per quarter.  (`score_roundtrip` is
    `imode = mode`; which (part, voice) a note lands in is `roundtrip_cells_any_import_mode`.) -/
theorem score_roundtrip_any_import_mode (mode imode : Nat) (a : Anacrusis) (minPpq vel : Nat) (parts : List PartIn)
    (ex : Exported) (imp : Imported)
    (h : saveScoreMidi mode a minPpq vel parts = some ex)
    (hi : loadScoreMidi imode ex.ppq (ex.tracks.map (deltasFrom 0)) = some imp)
    (ha : a ≠ .padBar) (hvel : 0 < vel) (hw : ∀ x ∈ parts, C04T.WellFormed x.base)
    (hno : ∀ o tcs, origin a (parts.map (·.base)) = some o → mapToTrackChannel mode (noteKeys parts) = some tcs →
      ∀ tr, C04P.NoOverlap (routedTo ex.ppq o vel ((noteKeys parts).zip tcs) parts tr)) :
    ∃ o, origin a (parts.map (·.base)) = some o ∧ (importedRows o imp).Perm (scoreRows parts) ∧
      ∀ e ∈ imp.parts, e.2.divs = ex.ppq := by
  obtain ⟨o, tcs, W⟩ := C04E.Written.of h hvel hw hno
  obtain ⟨hP, hex⟩ := W.exact hw ha
  exact ⟨o, W.origin, W.import_musical hi hP hex⟩

/-- the same for `pad_bar`.  PARTIAL as `score_roundtrip_pad_partial`: needs the bar of the first time signature to
    be a whole number of ticks (`hbar`). -/
theorem score_roundtrip_any_import_mode_pad_partial (mode imode : Nat) (minPpq vel : Nat) (parts : List PartIn)
    (ex : Exported) (imp : Imported)
    (h : saveScoreMidi mode .padBar minPpq vel parts = some ex)
    (hi : loadScoreMidi imode ex.ppq (ex.tracks.map (deltasFrom 0)) = some imp)
    (hvel : 0 < vel) (hw : ∀ x ∈ parts, C04T.WellFormed x.base)
    (hbar : ∀ x ∈ parts, ∀ beats bt, tsAt x.base 0 = some (beats, bt) → bt ∣ 4 * beats * ex.ppq)
    (hno : ∀ o tcs, origin .padBar (parts.map (·.base)) = some o → mapToTrackChannel mode (noteKeys parts) = some tcs →
      ∀ tr, C04P.NoOverlap (routedTo ex.ppq o vel ((noteKeys parts).zip tcs) parts tr)) :
    ∃ o, origin .padBar (parts.map (·.base)) = some o ∧ (importedRows o imp).Perm (scoreRows parts) ∧
      ∀ e ∈ imp.parts, e.2.divs = ex.ppq := by
  obtain ⟨o, tcs, W⟩ := C04E.Written.of h hvel hw hno
  obtain ⟨hP, hex⟩ := C04E.of_eq_some W.origin (export_ticks_exact_pad_partial mode minPpq vel parts ex h hw hbar)
  exact ⟨o, W.origin, W.import_musical hi hP hex⟩

/-- **Round trip through a shared object** (`shift`, `time_sig_change`).  Export once (mode `mode`) to an object and
    use it any number of times in any order (`ops`): every `load_score_midi` read in the history, whatever its
    import mode and whatever was done with the object before, returns exactly the score's sounding notes in musical
    time — and the object is still the exported file at the end. -/
theorem history_roundtrip (mode : Nat) (a : Anacrusis) (minPpq vel : Nat) (parts : List PartIn) (ex : Exported)
    (h : saveScoreMidi mode a minPpq vel parts = some ex)
    (ha : a ≠ .padBar) (hvel : 0 < vel) (hw : ∀ x ∈ parts, C04T.WellFormed x.base)
    (hno : ∀ o tcs, origin a (parts.map (·.base)) = some o → mapToTrackChannel mode (noteKeys parts) = some tcs →
      ∀ tr, C04P.NoOverlap (routedTo ex.ppq o vel ((noteKeys parts).zip tcs) parts tr))
    (ops : List ReadOp) :
    (runHistory (ofExport ex) ops).1 = ofExport ex ∧
    ∀ (i imode : Nat), ops[i]? = some (.imp imode) →
      ∃ r, (runHistory (ofExport ex) ops).2[i]? = some (.imported r) ∧
        r = loadScoreMidi imode ex.ppq (ex.tracks.map (deltasFrom 0)) ∧
        ∀ imp, r = some imp →
          ∃ o, origin a (parts.map (·.base)) = some o ∧ (importedRows o imp).Perm (scoreRows parts) ∧
            ∀ e ∈ imp.parts, e.2.divs = ex.ppq := by
  refine ⟨history_object_unchanged _ ops, ?_⟩
  intro i imode hop
  refine ⟨_, history_reads_independent _ ops i _ hop, rfl, ?_⟩
  intro imp himp
  exact score_roundtrip_any_import_mode mode imode a minPpq vel parts ex imp h himp ha hvel hw hno

/-- the same for `pad_bar`; PARTIAL as `score_roundtrip_pad_partial` (`hbar`) -/
theorem history_roundtrip_pad_partial (mode : Nat) (minPpq vel : Nat) (parts : List PartIn) (ex : Exported)
    (h : saveScoreMidi mode .padBar minPpq vel parts = some ex)
    (hvel : 0 < vel) (hw : ∀ x ∈ parts, C04T.WellFormed x.base)
    (hbar : ∀ x ∈ parts, ∀ beats bt, tsAt x.base 0 = some (beats, bt) → bt ∣ 4 * beats * ex.ppq)
    (hno : ∀ o tcs, origin .padBar (parts.map (·.base)) = some o → mapToTrackChannel mode (noteKeys parts) = some tcs →
      ∀ tr, C04P.NoOverlap (routedTo ex.ppq o vel ((noteKeys parts).zip tcs) parts tr))
    (ops : List ReadOp) :
    (runHistory (ofExport ex) ops).1 = ofExport ex ∧
    ∀ (i imode : Nat), ops[i]? = some (.imp imode) →
      ∃ r, (runHistory (ofExport ex) ops).2[i]? = some (.imported r) ∧
        r = loadScoreMidi imode ex.ppq (ex.tracks.map (deltasFrom 0)) ∧
        ∀ imp, r = some imp →
          ∃ o, origin .padBar (parts.map (·.base)) = some o ∧ (importedRows o imp).Perm (scoreRows parts) ∧
            ∀ e ∈ imp.parts, e.2.divs = ex.ppq := by
  refine ⟨history_object_unchanged _ ops, ?_⟩
  intro i imode hop
  refine ⟨_, history_reads_independent _ ops i _ hop, rfl, ?_⟩
  intro imp himp
  exact score_roundtrip_any_import_mode_pad_partial mode imode minPpq vel parts ex imp h himp hvel hw hbar hno

/-- every `load_score_midi` read of the history returns (import modes 0..5), when the score has a sounding note -/
theorem history_import_total (mode : Nat) (a : Anacrusis) (minPpq vel : Nat) (parts : List PartIn) (ex : Exported)
    (h : saveScoreMidi mode a minPpq vel parts = some ex)
    (hvel : 0 < vel) (hw : ∀ x ∈ parts, C04T.WellFormed x.base) (hnote : ∃ x ∈ parts, x.notes ≠ [])
    (hno : ∀ o tcs, origin a (parts.map (·.base)) = some o → mapToTrackChannel mode (noteKeys parts) = some tcs →
      ∀ tr, C04P.NoOverlap (routedTo ex.ppq o vel ((noteKeys parts).zip tcs) parts tr))
    (ops : List ReadOp) (i imode : Nat) (him : imode ≤ 5) (hop : ops[i]? = some (.imp imode)) :
    ∃ imp, (runHistory (ofExport ex) ops).2[i]? = some (.imported (some imp)) := by
  obtain ⟨imp, himp⟩ := import_total_any_mode mode imode him a minPpq vel parts ex h hvel hw hnote hno
  refine ⟨imp, ?_⟩
  rw [history_reads_independent _ ops i _ hop]
  simp only [outOf, ofExport, himp]

/-- **Every performance read of the history** (`load_performance_midi(mf)`, anywhere in the history) pairs, in every
    track whose routed notes do not overlap in equal channel and pitch, exactly the notes routed to the track. -/
theorem history_perf (mode : Nat) (a : Anacrusis) (minPpq vel : Nat) (parts : List PartIn) (ex : Exported)
    (h : saveScoreMidi mode a minPpq vel parts = some ex)
    (hvel : 0 < vel) (hw : ∀ x ∈ parts, C04T.WellFormed x.base)
    (ops : List ReadOp) (i : Nat) (hop : ops[i]? = some .perf) :
    ∃ o tcs r, origin a (parts.map (·.base)) = some o ∧ mapToTrackChannel mode (noteKeys parts) = some tcs ∧
      (runHistory (ofExport ex) ops).2[i]? = some (.performed r) ∧ r.length = ex.tracks.length ∧
      ∀ tr (_ : tr < ex.tracks.length),
        C04P.NoOverlap (routedTo ex.ppq o vel ((noteKeys parts).zip tcs) parts tr) →
        ∃ ns, r[tr]? = some ns ∧ ns.Perm (routedTo ex.ppq o vel ((noteKeys parts).zip tcs) parts tr) := by
  obtain ⟨o, tcs, ho, htc, _, _, _, hpair⟩ := export_pairing_sound mode a minPpq vel parts ex h hvel hw
  refine ⟨o, tcs, _, ho, htc, history_reads_independent _ ops i _ hop, by simp [ofExport], ?_⟩
  intro tr htr hno
  refine ⟨pairTrack (deltasFrom 0 ex.tracks[tr]), ?_, hpair tr htr hno⟩
  simp [ofExport, List.getElem?_eq_getElem htr]

/-- **Reading the messages directly**, anywhere in a history, gives the absolute ticks that were written. -/
theorem history_messages (ex : Exported) (ops : List ReadOp) (i : Nat) (hop : ops[i]? = some .iter) :
    (runHistory (ofExport ex) ops).2[i]? = some (.messages ex.tracks) := by
  rw [history_reads_independent _ ops i _ hop]
  simp only [outOf, ofExport, List.map_map]
  congr 2
  conv_rhs => rw [← List.map_id ex.tracks]
  apply List.map_congr_left
  intro tr _
  exact (delta_roundtrip 0 tr).1

/-- **Saving the object**, anywhere in a history, writes the exported file (mido's serialisation trusted). -/
theorem history_saved (ex : Exported) (ops : List ReadOp) (i : Nat) (hop : ops[i]? = some .save) :
    (runHistory (ofExport ex) ops).2[i]? = some (.saved (ofExport ex)) :=
  history_reads_independent _ ops i _ hop

/-- the object of the demo export (`demoScore`, mode 1, `shift`): 6 ticks per quarter, one track -/
def demoObj : MidiObj :=
  ⟨6, [[(0, .tempo 500000), (0, .timeSig 4 4), (0, .keySig "C"), (0, .timeSig 4 4), (0, .keySig "C"),
        (0, .noteOn 1 60 64), (0, .noteOn 2 48 64), (6, .noteOff 1 60 64), (0, .noteOff 2 48 64),
        (0, .noteOn 1 60 64), (0, .noteOff 1 60 64), (0, .noteOn 1 64 64), (0, .noteOn 1 60 64), (0, .noteOn 2 48 64),
        (8, .noteOff 1 60 64), (16, .noteOff 1 64 64), (0, .noteOff 2 48 64)]]⟩

example : (saveScoreMidi 1 .shift 0 64 demoScore).map ofExport = some demoObj := by decide +kernel

/-- the notes of an import in ticks, for the examples -/
def outRows : ReadOut → List (Int × Nat × Int)
  | .imported (some imp) => imp.parts.flatMap fun e => e.2.notes.map C04I.strip
  | .performed r => r.flatMap fun ns => ns.map C04I.noteRow
  | _ => []

/-- a history on the demo object as the code runs it: import mode 1, import mode 4, performance reader, import
    mode 0 — the four reads give the same six notes (up to order) and the object is unchanged -/
example : (runHistory demoObj [.imp 1, .imp 4, .perf, .imp 0]).1 = demoObj ∧
    (runHistory demoObj [.imp 1, .imp 4, .perf, .imp 0]).2.map outRows =
      [[(0, 60, 6), (6, 60, 0), (6, 60, 8), (6, 64, 24), (0, 48, 6), (6, 48, 24)],
       [(0, 60, 6), (6, 60, 0), (6, 60, 8), (6, 64, 24), (0, 48, 6), (6, 48, 24)],
       [(0, 60, 6), (0, 48, 6), (6, 60, 0), (6, 60, 8), (6, 64, 24), (6, 48, 24)],
       [(0, 60, 6), (6, 60, 0), (6, 60, 8), (6, 64, 24), (0, 48, 6), (6, 48, 24)]] := by
  decide +kernel

/-- **What the theorems exclude.**  With the reader that stores the absolute time in `msg.time`
    (`readOpWriteBack`, not the code) the first read is right, the object is changed, and the second read of the
    same object gives other notes: `history_object_unchanged` and `history_reads_agree` fail for it. -/
example : (runWith readOpWriteBack demoObj [.imp 1, .imp 1]).1 ≠ demoObj ∧
    (runWith readOpWriteBack demoObj [.imp 1, .imp 1]).2.map outRows =
      [[(0, 60, 6), (6, 60, 0), (6, 60, 8), (6, 64, 24), (0, 48, 6), (6, 48, 24)],
       [(0, 60, 6), (18, 60, 6), (36, 60, 20), (30, 64, 56), (0, 48, 12), (42, 48, 74)]] := by
  decide +kernel

end C04
