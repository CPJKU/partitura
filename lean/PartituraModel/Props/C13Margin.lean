/-
C13 — "pitch span plus twice the margin when a pitch margin is given", for a margin that is a float with a
fractional part (Model/PianoRollMargin.lean).  A margin in `-1 < pm < 0` merges the two lowest pitches
(`margin_neg_merges`): the code's behaviour, compared with the implementation by `prv` requests, not something the
property asks for.
-/
import PartituraModel.Props.C13Kinds
import PartituraModel.Model.PianoRollMargin
import PartituraModel.Proofs.C13Rows

namespace C13
open Model Model.PianoRoll
open List

/-- **`makeWith` is the row-parametric rasteriser at the integer rows** -/
theorem makeRows_eq (fl : ℚ → ℚ) (o : Opts) (notes : List Note) :
    makeWith fl o notes = makeRows fl o notes (rowsFull o notes) (rowOf o (lowestOf o notes))
      (fun n => rowOf o (lowestOf o notes) n - idxStartOf o) := makeWith_rows fl o notes

/-- only the rows of the notes that are there matter -/
theorem makeRows_congr (fl : ℚ → ℚ) (o : Opts) (notes : List Note) (M : Int) (row row' irow irow' : Note → Int)
    (h1 : ∀ n ∈ notes, row n = row' n) (h2 : ∀ n ∈ notes, irow n = irow' n) :
    makeRows fl o notes M row irow = makeRows fl o notes M row' irow' :=
  makeRows_ext fl fl o notes M row row' irow irow' (fun _ _ => rfl) (fun _ _ => rfl) rfl h1 h2

/-- the code's rounding is exact on integers below `2^53` -/
theorem f64_int (z : Int) (hz : z.natAbs < 2 ^ 53) : f64 (z : ℚ) = z := by
  have := f64_dyadic z 0 hz (by norm_num)
  simpa using this

/-- **an integer margin given as a real number is the integer margin**: the rasteriser with a real `pitch_margin`
    (rows `int(fl(pitch - lowest + pm))`, `int(fl(span + 2 pm))` of them, index positions `int(fl(row - start))`) is
    `makeWith` whenever `pm` is the integer `o.pitchMargin > -1` and `fl` is exact on the integers that occur —
    every `fl` that fixes the integers below `2^53` (the code's `f64`: `f64_int`; `id`) when they stay below `2^53` -/
theorem margin_extends (fl : ℚ → ℚ) (hex : ∀ z : Int, z.natAbs < 2 ^ 53 → fl (z : ℚ) = z) (o : Opts) (notes : List Note)
    (hpm : -1 < o.pitchMargin)
    (hb : ∀ n ∈ notes, (n.pitch - lowestQ notes + o.pitchMargin).natAbs < 2 ^ 53 ∧
      (n.pitch - lowestQ notes + o.pitchMargin - idxStartOf o).natAbs < 2 ^ 53)
    (hM : (2 * o.pitchMargin).natAbs < 2 ^ 53 ∧
      (highestQ notes - lowestQ notes + 1 + 2 * o.pitchMargin).natAbs < 2 ^ 53) :
    makeWithQ fl (o.pitchMargin : ℚ) o notes = makeWith fl o notes := by
  have hlow : lowestOf o notes = lowestQ notes := by
    unfold lowestOf lowestQ; rw [if_pos (by omega)]
  have hhigh : highestOf o notes = highestQ notes := by
    unfold highestOf highestQ; rw [if_pos (by omega)]
  have hrowf : ∀ n ∈ notes, rowFloatQ fl (o.pitchMargin : ℚ) (lowestQ notes) n =
      ((n.pitch - lowestQ notes + o.pitchMargin : Int) : ℚ) := by
    intro n hn
    unfold rowFloatQ
    rw [← Int.cast_add]
    exact hex _ (hb n hn).1
  have hrow : ∀ n ∈ notes, rowOfQ fl (o.pitchMargin : ℚ) (lowestQ notes) n = rowOf o (lowestOf o notes) n := by
    intro n hn
    unfold rowOfQ rowOf
    rw [hrowf n hn, truncRat_intCast, if_pos (by omega), hlow]
  have hirow : ∀ n ∈ notes, idxPosQ fl (o.pitchMargin : ℚ) (lowestQ notes) (idxStartOf o) n =
      rowOf o (lowestOf o notes) n - idxStartOf o := by
    intro n hn
    unfold idxPosQ rowOf
    rw [hrowf n hn, ← Int.cast_sub, hex _ (hb n hn).2, truncRat_intCast, if_pos (by omega), hlow]
  have hrows : rowsFullQ fl (o.pitchMargin : ℚ) notes = rowsFull o notes := by
    unfold rowsFullQ rowsFull
    simp only
    rw [if_pos (by omega), hlow, hhigh]
    have h2 : fl (2 * (o.pitchMargin : ℚ)) = ((2 * o.pitchMargin : Int) : ℚ) := by
      have := hex _ hM.1
      push_cast at this ⊢
      exact this
    rw [h2, ← Int.cast_add, hex _ hM.2, truncRat_intCast]
  rw [makeRows_eq, makeWithQ, hrows]
  exact makeRows_congr fl o notes _ _ _ _ _ hrow hirow

/-! ### the cell clauses for arbitrary rows, hence for a real margin -/

/-- **cell value, whatever the rows**: in the roll of the row-parametric rasteriser a cell no note covers is 0; a covered
    cell holds the maximum velocity of the notes drawn in that row over that frame (1 in binary mode) -/
theorem rows_cell_value (fl : ℚ → ℚ) (o : Opts) (notes : List Note) (M : Int) (row irow : Note → Int) (r : Roll)
    (h : makeRows fl o notes M row irow = some r) (p j : Int) (hp0 : 0 ≤ p) (hp1 : p < r.rows) :
    ((¬ ∃ n ∈ notes, CoversR fl o row notes n (p + r.rowStart) j) → r.cell p j = 0) ∧
    ((∃ n ∈ notes, CoversR fl o row notes n (p + r.rowStart) j) →
      ∃ n ∈ notes, CoversR fl o row notes n (p + r.rowStart) j ∧
        (∀ n' ∈ notes, CoversR fl o row notes n' (p + r.rowStart) j → n'.vel ≤ n.vel) ∧
        r.cell p j = if o.binary = true ∧ n.vel ≠ 0 then 1 else n.vel) :=
  cell_valueR fl o notes M row irow r h p j hp0 hp1

/-- **a real margin: cell (p, j) is non-zero exactly when a note of non-zero velocity whose row
    `int(fl(pitch - lowest + pm))` is `p` sounds during frame `j`** (velocities `≥ 0`; the frames are those of
    `raster_*`: onset frame only in onset mode, last frame dropped under separation, never less than one) — notes the
    truncation puts in one row collide like notes of one pitch: the maximum velocity shows (`rows_cell_value`) -/
theorem margin_cell_iff_sounding (fl : ℚ → ℚ) (pm : ℚ) (o : Opts) (notes : List Note) (r : Roll)
    (h : makeWithQ fl pm o notes = some r) (hv : ∀ n ∈ notes, 0 ≤ n.vel) (p j : Int) (hp0 : 0 ≤ p) (hp1 : p < r.rows) :
    r.cell p j ≠ 0 ↔ ∃ n ∈ notes, n.vel ≠ 0 ∧ rowOfQ fl pm (lowestQ notes) n = p + r.rowStart ∧
      onFrameG fl o (t0Of o notes) n ≤ j ∧ j < offCellG fl o (t0Of o notes) n := by
  rw [cell_iff_soundingR fl o notes _ _ _ r h hv p j hp0 hp1]
  unfold CoversR
  exact exists_congr fun n => and_congr_right fun _ => ⟨fun ⟨hc, h0⟩ => ⟨h0, hc⟩, fun ⟨h0, hc⟩ => ⟨hc, h0⟩⟩

/-- a real margin: nothing is drawn outside the matrix, and the shape is `int(fl(span + 2 pm))` rows (sliced in piano
    range) by the columns of the integer-margin roll -/
theorem margin_shape (fl : ℚ → ℚ) (pm : ℚ) (o : Opts) (notes : List Note) (r : Roll)
    (h : makeWithQ fl pm o notes = some r) :
    r.rows = (if o.pianoRange then slicedRows (rowsFullQ fl pm notes) else rowsFullQ fl pm notes) ∧
    colsOfG fl o notes = some r.cols ∧
    (∀ n ∈ notes, 0 ≤ rowOfQ fl pm (lowestQ notes) n ∧ rowOfQ fl pm (lowestQ notes) n < rowsFullQ fl pm notes ∧
      0 ≤ onFrameG fl o (t0Of o notes) n ∧ offCellG fl o (t0Of o notes) n ≤ r.cols) := by
  obtain ⟨_, _, N, hN, hb, rfl⟩ := (makeRows_eq_some fl o notes _ _ _ r).mp h
  refine ⟨rfl, hN, ?_⟩
  intro n hn
  have hlt := onFrameG_lt_offCellG fl o (t0Of o notes) n
  have a := cells_in_rangeR fl o notes _ _ _ _ h n hn _ (onFrameG fl o (t0Of o notes) n) ⟨rfl, le_refl _, hlt⟩
  have b := cells_in_rangeR fl o notes _ _ _ _ h n hn _ (offCellG fl o (t0Of o notes) n - 1) ⟨rfl, by omega, by omega⟩
  simp only [rollOfR] at a b ⊢
  omega

/-- a real margin: the index rows, in input order: `(int(fl(row - start)), onset frame, offset frame, midi pitch)` -/
theorem margin_idx_rows (fl : ℚ → ℚ) (pm : ℚ) (o : Opts) (notes : List Note) (r : Roll)
    (h : makeWithQ fl pm o notes = some r) :
    r.idx = notes.map fun n =>
      (idxPosQ fl pm (lowestQ notes) (idxStartOf o) n, onFrameG fl o (t0Of o notes) n, offIdxG fl o (t0Of o notes) n,
        n.pitch) :=
  idx_rowsR fl o notes _ _ _ r h

/-- **a real margin: whatever the order of the input rows** — a permutation of the rows is accepted or rejected alike
    and gives the same shape and the same matrix; the index rows are permuted along -/
theorem margin_order_indep (fl : ℚ → ℚ) (pm : ℚ) (o : Opts) {notes notes' : List Note} (hp : notes ~ notes') :
    (makeWithQ fl pm o notes = none ↔ makeWithQ fl pm o notes' = none) ∧
    ∀ r r', makeWithQ fl pm o notes = some r → makeWithQ fl pm o notes' = some r' →
      r.rows = r'.rows ∧ r.cols = r'.cols ∧ (∀ p j, r.cell p j = r'.cell p j) ∧ r.idx ~ r'.idx := by
  have hM : rowsFullQ fl pm notes = rowsFullQ fl pm notes' := by
    unfold rowsFullQ
    rw [lowestQ_perm hp, highestQ_perm hp]
  unfold makeWithQ
  rw [← hM, ← lowestQ_perm hp]
  exact indep_of_transfer
    (f := fun l => makeRows fl o l (rowsFullQ fl pm notes) (rowOfQ fl pm (lowestQ notes))
      (idxPosQ fl pm (lowestQ notes) (idxStartOf o)))
    (makeRows_perm fl o _ _ _ hp) (fun r hr => (makeRows_perm fl o _ _ _ hp.symm r hr).imp fun _ h => h.1)

/-- **a margin with a fractional part, exact reading, `pm ≥ 0`**: the roll has `span + ⌊2 pm⌋` rows — the pitch span
    plus twice the margin, rounded down —, a note of pitch `p` sits in row `p - lowest + ⌊pm⌋`, which lies inside the
    roll for every pitch between the lowest and the highest, and different pitches get different rows -/
theorem margin_rows (pm : ℚ) (hpm : 0 ≤ pm) (notes : List Note) (hspan : lowestQ notes ≤ highestQ notes) :
    rowsFullQ id pm notes = highestQ notes - lowestQ notes + 1 + truncRat (2 * pm) ∧
    (∀ n : Note, lowestQ notes ≤ n.pitch →
      rowOfQ id pm (lowestQ notes) n = n.pitch - lowestQ notes + truncRat pm ∧
      (n.pitch ≤ highestQ notes → 0 ≤ rowOfQ id pm (lowestQ notes) n ∧
        rowOfQ id pm (lowestQ notes) n < rowsFullQ id pm notes)) ∧
    (∀ n n' : Note, lowestQ notes ≤ n.pitch → lowestQ notes ≤ n'.pitch →
      rowOfQ id pm (lowestQ notes) n = rowOfQ id pm (lowestQ notes) n' → n.pitch = n'.pitch) := by
  have hM : rowsFullQ id pm notes = highestQ notes - lowestQ notes + 1 + truncRat (2 * pm) := by
    unfold rowsFullQ
    simp only [id]
    exact truncRat_add_int _ _ (by omega) (by linarith)
  have hrow : ∀ n : Note, lowestQ notes ≤ n.pitch →
      rowOfQ id pm (lowestQ notes) n = n.pitch - lowestQ notes + truncRat pm := by
    intro n hn
    unfold rowOfQ rowFloatQ
    simp only [id]
    exact truncRat_add_int _ _ (by omega) hpm
  have h2 : truncRat pm ≤ truncRat (2 * pm) := Round.trunc_mono (fun _ => rfl) (by linarith)
  have h0 : 0 ≤ truncRat pm := ((truncRat_spec pm).1 hpm).1
  refine ⟨hM, ?_, ?_⟩
  · intro n hn
    refine ⟨hrow n hn, ?_⟩
    intro hn'
    rw [hrow n hn, hM]
    omega
  · intro n n' hn hn' he
    rw [hrow n hn, hrow n' hn'] at he
    omega

/-- **a negative fractional margin merges the two lowest pitches** (`-1 < pm < 0`, exact reading): `int()` sends
    `pm` and `1 + pm` both to row 0 -/
theorem margin_neg_merges (pm : ℚ) (h1 : -1 < pm) (h0 : pm < 0) (lowest : Int) (n n' : Note)
    (hn : n.pitch = lowest) (hn' : n'.pitch = lowest + 1) :
    rowOfQ id pm lowest n = 0 ∧ rowOfQ id pm lowest n' = 0 := by
  constructor
  · unfold rowOfQ rowFloatQ
    simp only [id, hn, sub_self, Int.cast_zero, zero_add]
    exact (truncRat_eq_iff_neg h0 0).mpr ⟨by simpa using h1, by simpa using h0.le⟩
  · unfold rowOfQ rowFloatQ
    simp only [id, hn']
    have hq : (0 : ℚ) ≤ ((lowest + 1 - lowest : Int) : ℚ) + pm := by push_cast; linarith
    rw [truncRat_eq_iff hq]
    push_cast
    constructor <;> linarith

/-- **the dispatch on a float `pitch_margin`**: an integral float is that integer (`computePianorollPy`), a
    value `≤ -1` means "no margin" exactly as `-1` does, anything else takes the real-margin rasteriser in binary64 -/
theorem margin_py (kind : String) (a : NoteArray) (p : PyArgs) (q : ℚ) (hp : p.pitchMargin = some (.float q)) :
    (q.den = 1 → computePianorollPyQ kind a p = computePianorollPy kind a p) ∧
    (q.den ≠ 1 → q ≤ -1 →
      computePianorollPyQ kind a p = computePianorollPy kind a { p with pitchMargin := some (.int (-1)) }) ∧
    (q.den ≠ 1 → -1 < q → ∀ kw, readArgs { p with pitchMargin := some (.int 0) } = .ok kw →
      computePianorollPyQ kind a p = .ok (computePianorollKwQ kind a kw q)) := by
  refine ⟨?_, ?_, ?_⟩
  · intro h
    simp only [computePianorollPyQ, hp, if_pos h]
  · intro h h'
    simp only [computePianorollPyQ, hp, if_neg h, if_pos h']
  · intro h h' kw hk
    simp only [computePianorollPyQ, hp, if_neg h, if_neg (not_le.mpr h'), hk]

/-- an argument that is no float with a fractional part is handled by `computePianorollPy` -/
theorem margin_py_other (kind : String) (a : NoteArray) (p : PyArgs) (h : ∀ q, p.pitchMargin ≠ some (.float q)) :
    computePianorollPyQ kind a p = computePianorollPy kind a p := by
  unfold computePianorollPyQ
  split
  · rename_i q hq; exact absurd hq (h q)
  · rfl

/-! ### examples (the probes of the live code in harness/props/c13.py `gen_pmq` give the same rolls) -/

def mNotes : List Note := [⟨60, 0, 1, 1⟩, ⟨61, 1, 1, 1⟩, ⟨64, 0, 2, 1⟩]
def mOpts : Opts := { exOpts with timeDiv := 1, pitchMargin := 0 }
def mOpts2 : Opts := { exOpts with timeDiv := 1, pitchMargin := 2 }

/-- margin 1/2: 6 rows, rows 0 / 1 / 4 -/
example : (makeWithQ f64 (1/2) mOpts mNotes).map (fun r => (r.rows, r.idx)) =
    some (6, [(0, 0, 1, 60), (1, 1, 2, 61), (4, 0, 2, 64)]) := by decide +kernel
/-- margin -1/2: 4 rows, pitches 60 and 61 both in row 0 -/
example : (makeWithQ f64 (-1/2) mOpts mNotes).map (fun r => (r.rows, r.idx)) =
    some (4, [(0, 0, 1, 60), (0, 1, 2, 61), (3, 0, 2, 64)]) := by decide +kernel
/-- margin 1 - 2^-53: `1 + pm` rounds to 2.0 in binary64 (rows 0 / 2 / 5 — the exact reading gives 0 / 1 / 4) -/
example : (makeWithQ f64 (1 - 1 / 2 ^ 53) mOpts mNotes).map (fun r => (r.rows, r.idx.map (·.1))) = some (7, [0, 2, 5]) ∧
    (makeWithQ id (1 - 1 / 2 ^ 53) mOpts mNotes).map (fun r => (r.rows, r.idx.map (·.1))) = some (6, [0, 1, 4]) := by
  decide +kernel
/-- piano range: the slice leaves no row, the index positions are `int(row - 21)` (toward zero: -20, not -21) -/
example : (makeWithQ f64 (1/2) { mOpts with pianoRange := true } mNotes).map (fun r => (r.rows, r.idx.map (·.1))) =
    some (0, [-20, -19, -16]) := by decide +kernel
/-- a single pitch and margin -1/2: `int(1 - 1) = 0` rows — rejected (scipy: index exceeds matrix dimension) -/
example : makeWithQ f64 (-1/2) mOpts [⟨60, 0, 1, 1⟩] = none := by decide +kernel
/-- the hypotheses of `margin_extends` hold for `f64` on these notes with margin 2, and both sides are the same roll -/
example : (makeWithQ f64 (2 : ℚ) mOpts2 mNotes).map (fun r => (r.rows, r.idx)) =
    some (9, [(2, 0, 1, 60), (3, 1, 2, 61), (6, 0, 2, 64)]) := by decide +kernel
example : (makeWith f64 mOpts2 mNotes).map (fun r => (r.rows, r.idx)) =
    some (9, [(2, 0, 1, 60), (3, 1, 2, 61), (6, 0, 2, 64)]) := by decide +kernel

end C13
