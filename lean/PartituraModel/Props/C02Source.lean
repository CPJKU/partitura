/-
C02 — the literal data of the source, regenerated on every run by `harness/translate_c02.py`
(`Gen/C02Source.lean`), against the model: editing one of these lines of partitura re-elaborates (and, when
the behaviour changes, breaks) the theorems below.  The arithmetic expressions (`factor_from_source`,
`normalDur_from_source`) are compared with `ring`, so an algebraically equal rewrite does not alarm.
-/
import PartituraModel.Props.C02Scipy
import PartituraModel.Gen.C02Source

namespace C02
open Model.TimeMap C02Proofs

/-- the translator understood the source -/
theorem source_extracted : Gen.C02.extractionOk = true := by decide

/-- **the flags each public map passes**: the beat maps hand the part's musical-beat switch on, the quarter
maps never do; the inverse maps set `inv`; nothing else is set -/
theorem public_map_flags (b : Bool) :
    Gen.C02.tiDefaults = (false, false, false) ∧
    Gen.C02.beatMapFlags b = (false, false, b) ∧ Gen.C02.invBeatMapFlags b = (false, true, b) ∧
    Gen.C02.quarterMapFlags b = (true, false, false) ∧ Gen.C02.invQuarterMapFlags b = (true, true, false) := by
  cases b <;> decide

/-- the mode of the model for a combination of flags the public maps use -/
def flagMode (f : Bool × Bool × Bool) : Mode := if f.1 then .quarter else if f.2.2 then .musical else .notated

def flagMap (p : Part) (f : Bool × Bool × Bool) : Rat → Option Rat :=
  if f.2.1 then inv p (flagMode f) else fwd p (flagMode f)

/-- **the four public maps of the model are `_time_interpolator` called with the flags of the source** -/
theorem public_maps_from_source (p : Part) :
    beatMap p = flagMap p (Gen.C02.beatMapFlags p.musical) ∧
    invBeatMap p = flagMap p (Gen.C02.invBeatMapFlags p.musical) ∧
    quarterMap p = flagMap p (Gen.C02.quarterMapFlags p.musical) ∧
    invQuarterMap p = flagMap p (Gen.C02.invQuarterMapFlags p.musical) := by
  unfold beatMap invBeatMap quarterMap invQuarterMap beatMode
  cases p.musical <;> exact ⟨rfl, rfl, rfl, rfl⟩

/-- the carry-forward loop starts with the values of the source (`cur_div`, `cur_bt`) -/
theorem carry_init_from_source (p : Part) (m : Mode) :
    keypoints p m = carry (qdAssign p.qd) (facAssign m p.ts) (keyTimes p m) Gen.C02.curDivInit Gen.C02.curBtInit := rfl

/-- **the beat factor of the model is the expression of the source** -/
theorem factor_from_source (s : TSig) :
    factorOf .notated s = Gen.C02.facNotated (s.beats : Rat) (s.beatType : Rat) (s.mb : Rat) ∧
    factorOf .musical s = Gen.C02.facMusical (s.beats : Rat) (s.beatType : Rat) (s.mb : Rat) := by
  unfold factorOf Gen.C02.facNotated Gen.C02.facMusical
  exact ⟨by ring, by ring⟩

/-- **the bar length of the pickup test is the expression of the source**, for the three flag combinations the
public maps use (the quarter maps do not look at the musical beats) -/
theorem normalDur_from_source (s : TSig) :
    normalDur .quarter s = Gen.C02.normalDur true false (s.beats : Rat) (s.beatType : Rat) (s.mb : Rat) ∧
    normalDur .notated s = Gen.C02.normalDur false false (s.beats : Rat) (s.beatType : Rat) (s.mb : Rat) ∧
    normalDur .musical s = Gen.C02.normalDur false true (s.beats : Rat) (s.beatType : Rat) (s.mb : Rat) := by
  unfold normalDur Gen.C02.normalDur
  exact ⟨by ring, by ring, by ring⟩

/-- `Part(id)`: one quarter duration (default 1) stored at time 0 — the initial state of the history model -/
theorem part_init_from_source :
    (hinit Gen.C02.partQuarterDefault).qd = Gen.C02.quarterTimesInit.map (fun t => (t, 1)) := by decide

/-- the wrapper's keyword defaults are the default `Opts` of the model (linear, NaN outside, x sorted by
scipy), and `quarter_duration_map` passes `kind="previous"` and the end values as fill values — what `qdMapS`
does -/
theorem wrapper_defaults_from_source :
    Gen.C02.wrapKind = "linear" ∧ Gen.C02.wrapBoundsError = false ∧ Gen.C02.wrapFillNaN = true ∧
    Gen.C02.wrapAssumeSorted = false ∧ Gen.C02.wrapDtypeNone = true ∧
    ({} : Opts).kind = .linear ∧ ({} : Opts).fillBelow = none ∧ ({} : Opts).fillAbove = none ∧
    Gen.C02.qdmKind = "previous" ∧ Gen.C02.qdmBoundsError = false ∧ Gen.C02.qdmFillEnds = true := by decide

/-- the tolerance of the pickup test: numpy's defaults -/
theorem pickup_tolerance : Gen.C02.pickupTol = some (1 / 100000, 1 / 100000000) := by decide +kernel

end C02
