/-
C14 — the PerformedNote setters and histories of a PerformedPart in full: which invariant each assignment
`note[key] = v` re-establishes, keeps or may break, `note.copy()`, and histories in which notes are also removed,
inserted and copied and the control stream is edited in place (`XOp`).
-/
import PartituraModel.Proofs.C14Dict
import PartituraModel.Props.C14Dict

namespace C14
open Model Model.Pedal C14P

/-! ### what each setter re-establishes -/

def Ordered (n : PNote) : Prop := n.on ≤ n.off
def Sounds (n : PNote) : Prop := n.off ≤ n.soundOff
/-- the conditions of the two tick validators -/
def TicksOk (n : PNote) : Prop :=
  (∀ t, n.onTick = some t → 0 ≤ t) ∧ (∀ t u, n.onTick = some t → n.offTick = some u → t ≤ u)

/-- the validators pass on the current values of a note exactly when the four invariants hold -/
theorem valid_iff_invariants (n : PNote) : validInit n = true ↔ NoteInv n ∧ Ordered n ∧ Sounds n ∧ TicksOk n :=
  validInit_iff n

/-- an accepted `note["note_off"] = v` RE-ESTABLISHES onset ≤ release (whatever the note was before), an accepted
    `note["sound_off"] = v` re-establishes release ≤ sounding end, an accepted `note["note_off_tick"] = v` the order of
    the ticks -/
theorem setitem_reestablishes (n m : PNote) (hn : NoteInv n) :
    (∀ v, setItem n (.noteOff v) = .ok m → Ordered m)
    ∧ (∀ v, setItem n (.soundOff v) = .ok m → Sounds m)
    ∧ (∀ v, (∀ t, n.onTick = some t → 0 ≤ t) → setItem n (.noteOffTick v) = .ok m → TicksOk m) := by
  obtain ⟨_, _, _, _, a5, a6, _⟩ := hn
  refine ⟨fun v h => ?_, fun v h => ?_, fun v hot h => ?_⟩
  · obtain ⟨ha, rfl⟩ := (setItem_ok_iff n m _).mp h
    exact (ha.resolve_left (not_lt.mpr a5)).2
  · obtain ⟨ha, rfl⟩ := (setItem_ok_iff n m _).mp h
    exact (ha.resolve_left (not_lt.mpr a6)).2
  · obtain ⟨ha, rfl⟩ := (setItem_ok_iff n m _).mp h
    refine ⟨hot, fun t u ht hu => ?_⟩
    obtain rfl : v = u := Option.some.inj hu
    have ht' : n.onTick = some t := ht
    rw [accepts, ht', Option.getD_some] at ha
    exact (ha.resolve_left (not_lt.mpr (hot t ht'))).2

/-- every assignment but `note_on` keeps onset ≤ release -/
theorem setitem_keeps_ordered (n m : PNote) (op : SetOp) (hn : NoteInv n) (ho : Ordered n)
    (hop : ∀ v, op ≠ .noteOn v) (h : setItem n op = .ok m) : Ordered m := by
  cases op with
  | noteOn v => exact absurd rfl (hop v)
  | noteOff v => exact (setitem_reestablishes n m hn).1 v h
  | _ => obtain ⟨_, rfl⟩ := (setItem_ok_iff n m _).mp h; exact ho

/-- every assignment but `note_off` keeps release ≤ sounding end -/
theorem setitem_keeps_sounds (n m : PNote) (op : SetOp) (hn : NoteInv n) (hs : Sounds n)
    (hop : ∀ v, op ≠ .noteOff v) (h : setItem n op = .ok m) : Sounds m := by
  cases op with
  | noteOff v => exact absurd rfl (hop v)
  | soundOff v => exact (setitem_reestablishes n m hn).2.1 v h
  | _ => obtain ⟨_, rfl⟩ := (setItem_ok_iff n m _).mp h; exact hs

/-- every assignment but `note_on_tick` keeps the tick conditions -/
theorem setitem_keeps_ticks (n m : PNote) (op : SetOp) (hn : NoteInv n) (ht : TicksOk n)
    (hop : ∀ v, op ≠ .noteOnTick v) (h : setItem n op = .ok m) : TicksOk m := by
  cases op with
  | noteOnTick v => exact absurd rfl (hop v)
  | noteOffTick v => exact (setitem_reestablishes n m hn).2.2 v ht.1 h
  | _ => obtain ⟨_, rfl⟩ := (setItem_ok_iff n m _).mp h; exact ht

/-- … and the three exceptions are real: `note_on` may pass the release, `note_off` may pass the sounding end
    (`set_off_can_pass_sound_off`), `note_on_tick` may pass `note_off_tick` — each accepted by its validator -/
theorem setters_can_break :
    (∃ n m : PNote, validInit n = true ∧ setItem n (.noteOn 5) = .ok m ∧ ¬ Ordered m)
    ∧ (∃ n m : PNote, validInit n = true ∧ setItem n (.noteOff 7) = .ok m ∧ ¬ Sounds m)
    ∧ (∃ n m : PNote, validInit n = true ∧ setItem n (.noteOnTick 9) = .ok m ∧ ¬ TicksOk m) := by
  refine ⟨⟨⟨none, 60, 60, 1, 2, 2, 60, 0, 1, none, none⟩, ⟨none, 60, 60, 5, 2, 2, 60, 0, 1, none, none⟩, by decide +kernel,
            by decide +kernel, by unfold Ordered; norm_num⟩,
          ⟨⟨none, 60, 60, 1, 2, 2, 60, 0, 1, none, none⟩, ⟨none, 60, 60, 1, 7, 2, 60, 0, 1, none, none⟩, by decide +kernel,
            by decide +kernel, by unfold Sounds; norm_num⟩,
          ⟨⟨none, 60, 60, 1, 2, 2, 60, 0, 1, some 1, some 4⟩, ⟨none, 60, 60, 1, 2, 2, 60, 0, 1, some 9, some 4⟩, by decide +kernel,
            by decide +kernel, ?_⟩⟩
  intro h
  have := h.2 9 4 rfl rfl
  omega

/-- a dictionary that carries BOTH `pitch` and `midi_pitch`, stated exactly: `pitch` is the one that is validated and
    kept under `pitch`; `midi_pitch` is kept as given — never validated — and is what `adjust_offsets_w_sustain`
    (re-strike grouping) and `note_array` (the pitch column) read; the first accepted `note["pitch"] = v` puts `v`
    under both keys.  With equal values (or one key) none of this can be seen: `init_valid` -/
theorem both_pitch_keys (r : RawNote) (a b : Int) (ha : r.pitch = some a) (hb : r.midiPitch = some b) (n : PNote)
    (h : initNote r = some n) :
    n.pitch = a ∧ n.midiPitch = b ∧ n.toNote.pitch = b ∧ 0 ≤ a ∧ a ≤ 127
    ∧ ∀ v m, setItem n (.pitch v) = .ok m → m.pitch = v ∧ m.midiPitch = v ∧ m.toNote.pitch = v := by
  obtain ⟨_, hp, hmp, _, _, _, _, _, _, _, _, hv⟩ := init_defaults r n h
  rw [ha, hb] at hp
  simp only [Option.or_some] at hp
  have hpa : n.pitch = a := (Option.some.inj hp).symm
  have hmb : n.midiPitch = b := by rw [hmp, hb]; rfl
  obtain ⟨⟨p1, p2, _⟩, _⟩ := (validInit_iff n).mp hv
  refine ⟨hpa, hmb, hmb, hpa ▸ p1, hpa ▸ p2, ?_⟩
  intro v m hm
  obtain ⟨_, rfl⟩ := (setItem_ok_iff n m _).mp hm
  exact ⟨rfl, rfl, rfl⟩

-- `midi_pitch` 300 next to `pitch` 60 is accepted and reaches the readers; `pitch` 300 next to `midi_pitch` 60 is not
example : (initNote ⟨none, some 60, some 300, some 0, some 1, none, none, none, none, none, none⟩).map (·.toNote.pitch)
    = some 300 := by decide +kernel
example : initNote ⟨none, some 300, some 60, some 0, some 1, none, none, none, none, none, none⟩ = none := by decide +kernel

/-- `note.copy()` succeeds exactly when every validator passes on the note's CURRENT values, and then it is the note
    (an equal `PerformedNote` over a new dictionary) -/
theorem copy_iff_valid (n : PNote) :
    (validInit n = true → copyNote n = some n) ∧ (validInit n ≠ true → copyNote n = none)
    ∧ (∀ m, copyNote n = some m → m = n) := by
  rw [copyNote_eq]
  refine ⟨fun h => by rw [if_pos h], fun h => by rw [if_neg h], ?_⟩
  intro m hm
  split at hm
  · exact (Option.some.inj hm).symm
  · cases hm

/-- a freshly constructed note can be copied -/
theorem copy_after_init (r : RawNote) (n : PNote) (h : initNote r = some n) : copyNote n = some n :=
  (copy_iff_valid n).1 (validInit_of_init h)

-- after `note["note_off"] = 7` the stored sounding end (2) lies before the release: the copy raises; after the
-- sounding end is assigned too it succeeds
example : (match setItem ⟨none, 60, 60, 1, 2, 2, 60, 0, 1, none, none⟩ (.noteOff 7) with
           | .ok m => copyNote m | .error _ => none) = none := by decide +kernel
example : (match setItem ⟨none, 60, 60, 1, 7, 2, 60, 0, 1, none, none⟩ (.soundOff 8) with
           | .ok m => copyNote m | .error _ => none) = some ⟨none, 60, 60, 1, 7, 8, 60, 0, 1, none, none⟩ := by decide +kernel

/-- the reader side: the nine completed keys are always present, the tick keys exactly when stored; a key that was
    never stored reads `None` and nothing can be deleted (the driver answers `K` to every `del`) -/
theorem reader_keys (n : PNote) :
    (∀ k, k ≠ .noteOnTick → k ≠ .noteOffTick → k ≠ .other → hasKey n k = true)
    ∧ hasKey n .noteOnTick = n.onTick.isSome ∧ hasKey n .noteOffTick = n.offTick.isSome ∧ hasKey n .other = false
    ∧ getItem n .other = .none ∧ (n.onTick = none → getItem n .noteOnTick = .none)
    ∧ 9 ≤ noteLen n ∧ noteLen n ≤ 11 := by
  refine ⟨?_, rfl, rfl, rfl, rfl, ?_, ?_, ?_⟩
  · intro k h1 h2 h3
    cases k with
    | noteOnTick => exact absurd rfl h1
    | noteOffTick => exact absurd rfl h2
    | other => exact absurd rfl h3
    | _ => rfl
  · intro h; simp [getItem, h]
  · unfold noteLen; omega
  · unfold noteLen
    split <;> split <;> omega

/-- a statement that raises leaves the part exactly as it was -/
theorem xstep_error_unchanged (p : PPart) (o : XOp) (h : (xstep p o).2 ≠ .ok) : (xstep p o).1 = p := by
  cases o with
  | base o => exact step_error_unchanged p o h
  | _ => exact (xstep_added p _ (fun b h => by cases h)).2.2 h

/-- "setting it recomputes every note", over ALL histories of threshold assignments, item assignments, appended /
    inserted / removed / copied notes and edits of the control stream (append, delete, change of number / time /
    value, replacement): whenever statement `k` is the assignment of `t` it succeeds, and afterwards the `sound_off`
    column is `adjust_offsets_w_sustain` of the notes the part holds at that moment and of the control stream as the
    control statements before `k` have left it; no sounding end lies before its release -/
theorem xhistory_recompute (p : PPart) (ops : List XOp) (k : Nat) (t : Int) (h : ops[k]? = some (.base (.thr t))) :
    ∃ q, (xrun p ops)[k]? = some (q, .ok) ∧ q.thr = t ∧ q.controls = ctlAfter p.controls (ops.take k)
      ∧ soundOffs (q.notes.map PNote.toNote) q.controls t = some (q.notes.map (·.soundOff))
      ∧ ∀ (i : Nat) (n : PNote), q.notes[i]? = some n → n.off ≤ n.soundOff :=
  run_recompute xstep xrun (fun _ _ _ => rfl) ctlAfter (fun _ => rfl) ctlAfter_xstep _ t (fun _ => rfl) p ops k h

/-- … so every theorem of Props/C14.lean about `soundOffAt` holds for every note of that state -/
theorem xstate_sound (p : PPart) (ops : List XOp) (k : Nat) (t : Int) (h : ops[k]? = some (.base (.thr t)))
    (q : PPart) (obs : Obs) (hq : (xrun p ops)[k]? = some (q, obs)) (i : Nat) (n : PNote) (hn : q.notes[i]? = some n) :
    soundOffAt (q.notes.map PNote.toNote) q.controls t i = some n.soundOff :=
  run_state_sound xstep xrun (fun _ _ _ => rfl) _ t (fun _ => rfl) p ops k h q obs hq i n hn

-- the pedal is down from 1/2 to 5 and note b (pitch 60, struck at 3) cuts note a.  Removing b and assigning the
-- threshold again frees a (it sounds until the pedal is lifted); lifting the pedal earlier by editing the control in
-- place (time 5 -> 5/2) shortens it at the next assignment — not before; deleting the pedal-down event ends it at the
-- release
example : (buildRaw [⟨some "a", some 60, none, some 0, some 2, none, none, none, none, none, none⟩,
                     ⟨some "b", some 60, none, some 3, some 4, none, none, none, none, none, none⟩]
      [⟨64, 1/2, 100, none⟩, ⟨64, 5, 0, none⟩] 64).map (fun p =>
        (p.notes.map (·.soundOff),
         (xrun p [.delNote 1, .base (.thr 64), .ctl (.setTime 1 (5/2)), .base (.thr 64), .delNote 7, .ctl (.del 0),
                  .base (.thr 64), .ctl (.setValue 3 1), .insNote 0 ⟨some "c", some 60, none, some 1, none, none, none, none, none, none, none⟩]).map
           (fun x => (x.2, x.1.notes.map (·.soundOff)))))
    = some ([3, 5], [(.ok, [3]), (.ok, [5]), (.ok, [5]), (.ok, [5/2]), (.idxErr, [5/2]), (.ok, [5/2]), (.ok, [2]),
                     (.idxErr, [2]), (.valErr, [2])]) := by decide +kernel

theorem init_invariants (r : RawNote) (n : PNote) (h : initNote r = some n) :
    NoteInv n ∧ Ordered n ∧ Sounds n ∧ TicksOk n :=
  (valid_iff_invariants n).mp (validInit_of_init h)

/-- in every state of every such history every note keeps the MIDI ranges of pitch and velocity and has no negative
    time — whatever is assigned, removed, inserted, copied or done to the controls -/
theorem xhistory_note_inv (rs : List RawNote) (cs : List Control) (thr : Int) (p : PPart)
    (hp : buildRaw rs cs thr = some p) (ops : List XOp) : ∀ x ∈ xrun p ops, ∀ n ∈ x.1.notes, NoteInv n :=
  xhistory_preserves NoteInv (fun _ => True) init_inv (fun n m op _ => setitem_inv n m op) noteInv_sound p ops
    (fun _ _ _ _ _ => trivial) (built_notes NoteInv (fun r _ => init_inv r) noteInv_sound cs thr p hp)

/-- a property of notes that holds after construction, that every allowed assignment keeps on a note within the
    MIDI ranges, and that does not look at the stored sounding end holds in every state of every history whose item
    assignments are allowed ones -/
theorem xhistory_keeps (Q : PNote → Prop) (allowed : SetOp → Prop)
    (hinit : ∀ r n, initNote r = some n → Q n)
    (hset : ∀ n m op, allowed op → NoteInv n → Q n → setItem n op = .ok m → Q m)
    (hsound : ∀ (n : PNote) (s : Rat), Q n → n.off ≤ s → Q { n with soundOff := s })
    (rs : List RawNote) (cs : List Control) (thr : Int) (p : PPart) (hp : buildRaw rs cs thr = some p)
    (ops : List XOp) (hops : ∀ o ∈ ops, ∀ i op, o = .base (.set i op) → allowed op) :
    ∀ x ∈ xrun p ops, ∀ n ∈ x.1.notes, NoteInv n ∧ Q n := by
  have hsound' : ∀ (n : PNote) (s : Rat), NoteInv n ∧ Q n → n.off ≤ s →
      NoteInv { n with soundOff := s } ∧ Q { n with soundOff := s } :=
    fun n s h hs => ⟨noteInv_sound n s h.1 hs, hsound n s h.2 hs⟩
  have hinit' : ∀ r n, initNote r = some n → NoteInv n ∧ Q n := fun r n h => ⟨init_inv r n h, hinit r n h⟩
  exact xhistory_preserves (fun n => NoteInv n ∧ Q n) allowed hinit'
    (fun n m op hop hn h => ⟨setitem_inv n m op hn.1 h, hset n m op hop hn.1 hn.2 h⟩) hsound' p ops hops
    (built_notes _ (fun r _ => hinit' r) hsound' cs thr p hp)

/-- as long as no `note_on` is assigned, every note of every state has onset ≤ release (`note_off` assignments are
    checked against the stored onset; removals, insertions, copies and control edits cannot disturb it) -/
theorem xhistory_ordered (rs : List RawNote) (cs : List Control) (thr : Int) (p : PPart)
    (hp : buildRaw rs cs thr = some p) (ops : List XOp)
    (hops : ∀ o ∈ ops, ∀ i v, o ≠ .base (.set i (.noteOn v))) :
    ∀ x ∈ xrun p ops, ∀ n ∈ x.1.notes, Ordered n :=
  fun x hx n hn => (xhistory_keeps Ordered (fun op => ∀ v, op ≠ .noteOn v) (fun r n h => (init_invariants r n h).2.1)
    (fun n m op hop hn ho h => setitem_keeps_ordered n m op hn ho hop h) (fun _ _ h _ => h) rs cs thr p hp ops
    (fun o ho i op he v hv => hops o ho i v (by rw [he, hv])) x hx n hn).2

/-- as long as no `note_off` is assigned, every note of every state has release ≤ sounding end — also between
    threshold assignments -/
theorem xhistory_sounds (rs : List RawNote) (cs : List Control) (thr : Int) (p : PPart)
    (hp : buildRaw rs cs thr = some p) (ops : List XOp)
    (hops : ∀ o ∈ ops, ∀ i v, o ≠ .base (.set i (.noteOff v))) :
    ∀ x ∈ xrun p ops, ∀ n ∈ x.1.notes, Sounds n :=
  fun x hx n hn => (xhistory_keeps Sounds (fun op => ∀ v, op ≠ .noteOff v) (fun r n h => (init_invariants r n h).2.2.1)
    (fun n m op hop hn hs h => setitem_keeps_sounds n m op hn hs hop h) (fun _ _ _ hs => hs) rs cs thr p hp ops
    (fun o ho i op he v hv => hops o ho i v (by rw [he, hv])) x hx n hn).2

/-- with neither `note_on` nor `note_off` nor `note_on_tick` assigned, every note of every state passes ALL validators
    as it stands: it can be copied (the copy is the note), and with consistent pitch keys what
    `adjust_offsets_w_sustain` and `note_array` read of it is a well-formed note of Props/C14.lean -/
theorem xhistory_valid (rs : List RawNote) (cs : List Control) (thr : Int) (p : PPart)
    (hp : buildRaw rs cs thr = some p) (ops : List XOp)
    (hops : ∀ o ∈ ops, ∀ i v, o ≠ .base (.set i (.noteOn v)) ∧ o ≠ .base (.set i (.noteOff v)))
    (hopt : ∀ o ∈ ops, ∀ i v, o ≠ .base (.set i (.noteOnTick v))) :
    ∀ x ∈ xrun p ops, ∀ n ∈ x.1.notes,
      validInit n = true ∧ copyNote n = some n ∧ (n.midiPitch = n.pitch → validNote n.toNote = true) := by
  have hticks := xhistory_keeps TicksOk (fun op => ∀ v, op ≠ .noteOnTick v) (fun r n h => (init_invariants r n h).2.2.2)
    (fun n m op hop hn ht h => setitem_keeps_ticks n m op hn ht hop h) (fun _ _ h _ => h) rs cs thr p hp ops
    (fun o ho i op he v hv => hopt o ho i v (by rw [he, hv]))
  have hord := xhistory_ordered rs cs thr p hp ops (fun o ho i v => (hops o ho i v).1)
  have hsnd := xhistory_sounds rs cs thr p hp ops (fun o ho i v => (hops o ho i v).2)
  intro x hx n hn
  have hv : validInit n = true :=
    (valid_iff_invariants n).mpr ⟨(hticks x hx n hn).1, hord x hx n hn, hsnd x hx n hn, (hticks x hx n hn).2⟩
  refine ⟨hv, (copy_iff_valid n).1 hv, ?_⟩
  intro hk
  obtain ⟨a1, a2, a3, a4, a5, _, _⟩ := (hticks x hx n hn).1
  apply (valid_note_iff _).mpr
  simp only [PNote.toNote, hk]
  exact ⟨a1, a2, a5, hord x hx n hn, a3, a4⟩

end C14
