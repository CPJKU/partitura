/-
C13 — encoder ∘ decoder as ONE statement about the array `pianoroll_to_notearray` returns.

`decode_encode(_shift)` (Props/C13.lean, Props/C13Shift.lean) speak about the exact rational times of the decoder;
`stored_grid` (Props/C13Float.lean) about their storage in the float32 columns.  Composed: at a power-of-two
resolution (1, 2, 4, 8 — the default —, 16, ...) the STORED note array of the roll of grid-aligned, non-touching notes
holds every pitch, onset, duration and velocity exactly (no `inf`, no rounding) — with `remove_silence`, a time margin
or an `end_time` every onset moved by the one shift the decoder cannot know.
-/
import PartituraModel.Props.C13Shift
import PartituraModel.Props.C13Float

namespace C13
open Model Model.PianoRoll
open List

private theorem stored_of_decode (r : Roll) (td : Int) (j : Nat) (htd : td = 2 ^ j) (hj : j ≤ 149) (hcols : r.cols < 2 ^ 24)
    (out : List OutNote) (h : decode r.rows.toNat r.toCols (td : ℚ) = some out) :
    decodeStored r.rows.toNat r.toCols (some (td : ℚ)) = some (out.map fun (p, on, du, v) => (p, some on, some du, v)) := by
  have hq : (td : ℚ) = (2 : ℚ) ^ (j : Int) := by
    rw [htd, zpow_natCast]
    push_cast
    rfl
  have hlen : r.toCols.length < 2 ^ 24 := by
    rw [length_toCols]
    omega
  rw [hq] at h ⊢
  rw [stored_grid r.rows.toNat r.toCols (j : Int) (by omega) (by omega) hlen, h]
  rfl

/-- **round trip through the returned array** (`time_div = 2^j`, fewer than `2^24` frames): the stored note array of the
    roll of grid-aligned, non-touching notes holds every pitch, onset, duration and velocity exactly -/
theorem roundtrip_stored (o : Opts) (notes : List Note) (r : Roll) (ho : RoundTripOpts o)
    (h : makePianoroll o notes = some r) (hg : ∀ n ∈ notes, GridAligned o n) (hv : ∀ n ∈ notes, 0 < n.vel)
    (hnt : NonTouching notes)
    (hpr : o.pianoRange = true → ∀ n ∈ notes, 21 ≤ n.pitch ∧ n.pitch ≤ 108)
    (j : Nat) (htd : o.timeDiv = 2 ^ j) (hj : j ≤ 149) (hcols : r.cols < 2 ^ 24) :
    ∃ out, decodeStored r.rows.toNat r.toCols (some (o.timeDiv : ℚ)) = some out ∧
      out ~ notes.map (fun n => (n.pitch, some n.onset, some n.dur, n.vel)) := by
  obtain ⟨out, h1, h2⟩ := decode_encode o notes r ho h hg hv hnt hpr
  refine ⟨_, stored_of_decode r o.timeDiv j htd hj hcols out h1, ?_⟩
  have := h2.map (fun (x : OutNote) => ((x.1, some x.2.1, some x.2.2.1, x.2.2.2) : Int × Option ℚ × Option ℚ × Int))
  rw [map_map] at this
  exact this

/-- **the same with `remove_silence` / a time margin / `end_time` / `piano_range`**: every stored onset is the note's
    onset moved by the one shift `int(time_margin * time_div) / time_div - min_time`, exactly -/
theorem roundtrip_stored_shift (o : Opts) (notes : List Note) (r : Roll) (ho : ShiftOpts o)
    (h : makePianoroll o notes = some r) (hg : ∀ n ∈ notes, GridAlignedAt o (t0Of o notes) n)
    (hv : ∀ n ∈ notes, 0 < n.vel) (hnt : NonTouching notes)
    (hpr : o.pianoRange = true → ∀ n ∈ notes, 21 ≤ n.pitch ∧ n.pitch ≤ 108)
    (j : Nat) (htd : o.timeDiv = 2 ^ j) (hj : j ≤ 149) (hcols : r.cols < 2 ^ 24) :
    ∃ out, decodeStored r.rows.toNat r.toCols (some (o.timeDiv : ℚ)) = some out ∧
      out ~ notes.map (fun n =>
        (n.pitch, some (n.onset + (((marginFrames o : Int) : ℚ) / (o.timeDiv : ℚ) - t0Of o notes)), some n.dur, n.vel)) := by
  obtain ⟨out, h1, h2⟩ := decode_encode_shift o notes r ho h hg hv hnt hpr
  refine ⟨_, stored_of_decode r o.timeDiv j htd hj hcols out h1, ?_⟩
  have := h2.map (fun (x : OutNote) => ((x.1, some x.2.1, some x.2.2.1, x.2.2.2) : Int × Option ℚ × Option ℚ × Int))
  rw [map_map] at this
  exact this

/-- non-vacuity: the round-trip example of Props/C13.lean (`time_div = 2 = 2^1`), as stored -/
example : (makePianoroll rtOpts rtNotes).bind (fun r => decodeStored r.rows.toNat r.toCols (some 2))
    = some [(60, some (1/2), some 1, 50), (62, some (1/2), some 3, 90), (60, some 2, some 1, 10)] :=
  (bind_toCols _ [60, 62] (fun r c => decodeStored r.rows.toNat c (some 2)) (by decide +kernel)).trans (by decide +kernel)

end C13
