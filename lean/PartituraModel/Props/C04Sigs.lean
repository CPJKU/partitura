/-
C04 — time signatures, key signatures and tempo marks of the written file stand at the ticks of their
musical positions (`Model.ScoreMidi.saveScoreMidi`, tied to `save_score_midi` by harness/props/c04.py).

The written tick of position `t` of part `x` is `tick ppq x.base o t`; by `C04.export_ticks_exact` it is the
exact image `ppq * (quarter(t) - origin)` for `shift` / `time_sig_change` (and for `pad_bar` under the
hypothesis of `export_ticks_exact_pad_partial`); `pad_bar_offset` states how `pad_bar` moves every tick.
Helper lemmas: Proofs/C04Meta.lean, Proofs/C04Export.lean.
-/
import PartituraModel.Props.C04Export

namespace C04
open Model Model.Ticks Model.MidiPair Model.MidiModes Model.ScoreMidi

/-- Key signatures, every policy: the key signature events of track `tr` are, as a multiset, the key signatures
    of the parts that have a note in the track, each at the written tick of its position (`trackKS`, `ksImages`). -/
theorem key_signature_positions (mode : Nat) (a : Anacrusis) (minPpq vel : Nat) (parts : List PartIn) (ex : Exported)
    (h : saveScoreMidi mode a minPpq vel parts = some ex) :
    ∃ o tcs, origin a (parts.map (·.base)) = some o ∧ mapToTrackChannel mode (noteKeys parts) = some tcs ∧
      ∀ tr (htr : tr < ex.tracks.length),
        (ex.tracks[tr].filter C04D.isKS).Perm (trackKS ex.ppq o ((noteKeys parts).zip tcs) parts tr) := by
  obtain ⟨o, metas, tcs, n, ho, hm, htc, hn, rfl⟩ := C04E.save_inv mode a minPpq vel parts ex h
  refine ⟨o, tcs, ho, htc, ?_⟩
  intro tr htr
  simp only [List.getElem_map, List.getElem_range]
  refine (C04E.exportTrack_filter_sig C04D.isKS C04E.isKS_note C04E.isKS_tempo _ _ _ _ _ _).trans ?_
  exact C04E.trackMetas_filter a _ parts metas hm _ tr C04D.isKS
    (fun x => ksImages x (tick (exportPpq parts minPpq) x.base o))
    (fun x d hd => C04D.partMetas_ks a x _ d hd)

/-- Time signatures, `shift` and `pad_bar`: the time signature events of track `tr` are, as a multiset, the time
    signatures of the parts that have a note in the track, each at the written tick of its position — except that
    `pad_bar` writes the first time signature of a part at tick 0 (`trackTS`, `tsImages`). -/
theorem time_signature_positions (mode : Nat) (a : Anacrusis) (minPpq vel : Nat) (parts : List PartIn) (ex : Exported)
    (h : saveScoreMidi mode a minPpq vel parts = some ex) (ha : a ≠ .timeSigChange) :
    ∃ o tcs, origin a (parts.map (·.base)) = some o ∧ mapToTrackChannel mode (noteKeys parts) = some tcs ∧
      ∀ tr (htr : tr < ex.tracks.length),
        (ex.tracks[tr].filter C04D.isTS).Perm (trackTS a ex.ppq o ((noteKeys parts).zip tcs) parts tr) := by
  obtain ⟨o, metas, tcs, n, ho, hm, htc, hn, rfl⟩ := C04E.save_inv mode a minPpq vel parts ex h
  refine ⟨o, tcs, ho, htc, ?_⟩
  intro tr htr
  simp only [List.getElem_map, List.getElem_range]
  refine (C04E.exportTrack_filter_sig C04D.isTS C04E.isTS_note C04E.isTS_tempo _ _ _ _ _ _).trans ?_
  exact C04E.trackMetas_filter a _ parts metas hm _ tr C04D.isTS
    (fun x => tsImages a x (tick (exportPpq parts minPpq) x.base o))
    (fun x d hd => C04D.partMetas_ts a ha x _ d hd)

/-- Time signatures, `time_sig_change` (the policy rewrites the signatures of irregular measures by design):
    for a part with a note in track `tr`, every time signature of the part that does not start an irregular
    measure (`C04D.irregular`: length in beats different from the signature in force) is written in the track at
    the tick of its position; and every time signature event of the track stands at the written tick of a time
    signature, a measure start or a measure end of such a part. -/
theorem time_sig_change_positions (mode : Nat) (minPpq vel : Nat) (parts : List PartIn) (ex : Exported)
    (h : saveScoreMidi mode .timeSigChange minPpq vel parts = some ex) :
    ∃ o tcs, origin .timeSigChange (parts.map (·.base)) = some o ∧ mapToTrackChannel mode (noteKeys parts) = some tcs ∧
      ∀ tr (htr : tr < ex.tracks.length),
        (∀ xi ∈ parts.zipIdx, (tracksOfPart ((noteKeys parts).zip tcs) xi.2).contains tr = true →
          ∀ ts ∈ xi.1.base.ts, ts.1 ∉ (xi.1.measures.filter (C04D.irregular xi.1.base)).map (·.1) →
            (tick ex.ppq xi.1.base o ts.1, Msg.timeSig ts.2.1 ts.2.2) ∈ ex.tracks[tr]) ∧
        (∀ e ∈ ex.tracks[tr], C04D.isTS e = true →
          ∃ xi ∈ parts.zipIdx, (tracksOfPart ((noteKeys parts).zip tcs) xi.2).contains tr = true ∧
            ((∃ ts ∈ xi.1.base.ts, e.1 = tick ex.ppq xi.1.base o ts.1) ∨
             ∃ m ∈ xi.1.measures, e.1 = tick ex.ppq xi.1.base o m.1 ∨ e.1 = tick ex.ppq xi.1.base o m.2)) := by
  obtain ⟨o, metas, tcs, n, ho, hm, htc, hn, rfl⟩ := C04E.save_inv mode .timeSigChange minPpq vel parts ex h
  refine ⟨o, tcs, ho, htc, ?_⟩
  intro tr htr
  simp only [List.getElem_map, List.getElem_range]
  have hmemTS := fun e => C04E.mem_exportTrack_sig C04D.isTS C04E.isTS_note C04E.isTS_tempo
    (exportTempos (C04E.tkOf (exportPpq parts minPpq) o) parts) metas
    (exportRecs (C04E.tkOf (exportPpq parts minPpq) o) parts) ((noteKeys parts).zip tcs) vel tr (e := e)
  constructor
  · intro xi hxi hc ts hts hirr
    rw [hmemTS _ rfl]
    obtain ⟨e, he, d, hd, rfl⟩ := Lists.forall₂_mem_left (C04E.exportMetas_spec _ _ parts metas hm) xi hxi
    rw [C04E.mem_trackMetas _ _ parts metas hm]
    obtain ⟨T, hp, _, _, htsc⟩ := C04D.partMetas_spec _ xi.1 _ d hd
    exact ⟨xi, hxi, hc, d, hd, hp.mem_iff.mpr (List.mem_append_left _ ((htsc rfl).1 ts hts hirr))⟩
  · intro e he hts
    rw [hmemTS e hts, C04E.mem_trackMetas _ _ parts metas hm] at he
    obtain ⟨xi, hxi, hc, d, hd, hx⟩ := he
    obtain ⟨T, hp, _, _, htsc⟩ := C04D.partMetas_spec _ xi.1 _ d hd
    refine ⟨xi, hxi, hc, (htsc rfl).2 e ((List.mem_append.mp (hp.mem_iff.mp hx)).resolve_right fun hk => ?_)⟩
    rw [C04D.isKS_not_isTS e (C04D.ksImages_isKS _ _ e hk)] at hts
    cases hts

/-- Tempo marks: only the first track holds tempo events, one per entry of the exporter's `tempos` dict (`trackTempo`);
    the dict has one entry per tick; every entry is a tempo mark of some part at the written tick of its position
    (or the default tempo 500000 at tick 0); and the tick of every tempo mark of every part has an entry
    (when two marks share a tick the dict keeps the one read last). -/
theorem tempo_positions (mode : Nat) (a : Anacrusis) (minPpq vel : Nat) (parts : List PartIn) (ex : Exported)
    (h : saveScoreMidi mode a minPpq vel parts = some ex) :
    ∃ o, origin a (parts.map (·.base)) = some o ∧
      (∀ tr (htr : tr < ex.tracks.length),
        (ex.tracks[tr].filter C04D.isTempo).Perm (trackTempo ex.ppq o parts tr)) ∧
      ((exportTempos (fun x t => tick ex.ppq x.base o t) parts).map (·.1)).Nodup ∧
      (∀ e ∈ exportTempos (fun x t => tick ex.ppq x.base o t) parts,
        e = (0, 500000) ∨ ∃ x ∈ parts, ∃ tp ∈ x.tempos, e = (tick ex.ppq x.base o tp.1, tp.2)) ∧
      (∀ x ∈ parts, ∀ tp ∈ x.tempos,
        tick ex.ppq x.base o tp.1 ∈ (exportTempos (fun x t => tick ex.ppq x.base o t) parts).map (·.1)) := by
  obtain ⟨o, metas, tcs, n, ho, hm, htc, hn, rfl⟩ := C04E.save_inv mode a minPpq vel parts ex h
  have inv := C04D.exportTempos_inv (C04E.tkOf (exportPpq parts minPpq) o) parts
  refine ⟨o, ho, ?_, inv.1, inv.2.1, inv.2.2⟩
  intro tr htr
  simp only [List.getElem_map, List.getElem_range]
  exact C04E.exportTrack_tempos a _ parts metas hm _ _ _ vel tr

/-- Several tempo marks on one tick: the first track holds exactly one tempo event on that tick, with the value of
    the mark read last (part after part, mark after mark: `C04D.lastMark` of `C04D.allMarks`). -/
theorem tempo_last_wins (mode : Nat) (a : Anacrusis) (minPpq vel : Nat) (parts : List PartIn) (ex : Exported)
    (h : saveScoreMidi mode a minPpq vel parts = some ex) :
    ∃ o, origin a (parts.map (·.base)) = some o ∧ ∃ h0 : 0 < ex.tracks.length,
      ∀ t v, C04D.lastMark (C04D.allMarks (fun x t => tick ex.ppq x.base o t) parts) t = some v →
        (t, Msg.tempo v) ∈ ex.tracks[0] ∧ ∀ v', (t, Msg.tempo v') ∈ ex.tracks[0] → v' = v := by
  obtain ⟨o, ho, hperm, hnd, _, _⟩ := tempo_positions mode a minPpq vel parts ex h
  have h0 := C04E.save_length_pos h
  refine ⟨o, ho, h0, ?_⟩
  intro t v hlast
  have hl := C04D.exportTempos_last (fun x t => tick ex.ppq x.base o t) parts t v hlast
  have hmem := Model.lookup_mem hl
  have hp := hperm 0 h0
  simp only [trackTempo, ↓reduceIte] at hp
  have key : ∀ w, (t, Msg.tempo w) ∈ ex.tracks[0] ↔ (t, w) ∈ exportTempos (fun x t => tick ex.ppq x.base o t) parts := by
    intro w
    have := hp.mem_iff (a := (t, Msg.tempo w))
    simp only [List.mem_filter, C04D.isTempo, and_true, List.mem_map] at this
    rw [this]
    constructor
    · rintro ⟨e, he, hx⟩
      simp only [Prod.mk.injEq, Msg.tempo.injEq] at hx
      obtain ⟨rfl, rfl⟩ := hx
      exact he
    · intro he
      exact ⟨(t, w), he, rfl⟩
  -- one entry per tick
  exact ⟨(key v).mpr hmem, fun v' hv' =>
    Option.some.inj ((Model.lookup_of_mem hnd ((key v').mp hv')).symm.trans (Model.lookup_of_mem hnd hmem))⟩

/-- non-vacuity: two marks on tick 6 (the second wins), one on tick 0 -/
example : C04D.lastMark [(0, 500000), (6, 400000), (6, 300000)] 6 = some 300000 := by decide +kernel

/-- `pad_bar` moves every tick of the file by one constant: with origins `oS` (`shift`) and `oP` (`pad_bar`),
    the exact tick image of every position of every part under `pad_bar` is its image under `shift` plus
    `ppq * (oS - oP)` — the bar of the first time signature minus the pickup, in ticks.  When both images are
    whole numbers the written ticks differ by that constant as integers. -/
theorem pad_bar_offset (P : Nat) (oS oP : Rat) (b : TimeBase) (t : Nat) :
    toTick P b oP t = toTick P b oS t + (P : Rat) * (oS - oP) ∧
    (∀ zS zP : Int, toTick P b oS t = (zS : Rat) → toTick P b oP t = (zP : Rat) →
      ((tick P b oP t - tick P b oS t : Int) : Rat) = (P : Rat) * (oS - oP)) := by
  constructor
  · unfold toTick; ring
  · intro zS zP hS hP
    unfold tick
    rw [hS, hP, Round.roundHalfEven_int, Round.roundHalfEven_int, Int.cast_sub, ← hS, ← hP]
    unfold toTick; ring

/-- non-vacuity: a one-quarter pickup in 4/4, three divisions per quarter, ppq 6: `shift` origin -1, `pad_bar`
    origin -4, every tick moves by 18 -/
example : origin .shift [(⟨3, [], 0, 15, some (0, 3), [(0, 4, 4)]⟩ : TimeBase)] = some (-1) ∧
    origin .padBar [(⟨3, [], 0, 15, some (0, 3), [(0, 4, 4)]⟩ : TimeBase)] = some (-4) ∧
    tick 6 ⟨3, [], 0, 15, some (0, 3), [(0, 4, 4)]⟩ (-4) 5 - tick 6 ⟨3, [], 0, 15, some (0, 3), [(0, 4, 4)]⟩ (-1) 5 = 18 := by
  decide +kernel

/-- non-vacuity of the position theorems on `demoScore` (both parts in track 0): the events of the track -/
example :
    (saveScoreMidi 1 .shift 0 64 demoScore).map (fun ex => ex.tracks.map fun t => t.filter C04D.isKS) =
      some [[(0, .keySig "C"), (0, .keySig "C")]] ∧
    (saveScoreMidi 1 .shift 0 64 demoScore).map (fun ex => ex.tracks.map fun t => t.filter C04D.isTS) =
      some [[(0, .timeSig 4 4), (0, .timeSig 4 4)]] ∧
    (saveScoreMidi 1 .shift 0 64 demoScore).map (fun ex => ex.tracks.map fun t => t.filter C04D.isTempo) =
      some [[(0, .tempo 500000)]] := by
  decide +kernel

end C04
