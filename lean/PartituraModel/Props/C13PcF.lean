/-
C13 — "normalised per frame on request", for the array the code returns.

`compute_pitch_class_pianoroll` divides every folded entry by its column sum in binary64 (`pc_pianoroll /= norm_term`).
`Model.PianoRoll.pcColumnG fl` (Model/PianoRollPcF.lean) is that column with `fl` applied to the result of the division;
`fl = f64` is the code (driver request `pcf`, compared EXACTLY with the implementation), `fl = id` the exact reading
of Props/C13.lean (`pc_normalised`, `pc_column`).
-/
import PartituraModel.Props.C13
import PartituraModel.Proofs.C13Float
import PartituraModel.Model.PianoRollPcF

namespace C13
open Model Model.PianoRoll
open List

/-- every probe of the live normalisation succeeded: the returned array is binary64, an entry is the correctly rounded
    quotient (not a product with the reciprocal), an empty frame stays 0, `binary=True` weighs every class 1 -/
theorem pcf_lits : Gen.C13P_OK = true ∧ Gen.C13P_PREC = 53 ∧ Gen.C13P_EMIN = -1074 ∧ Gen.C13P_QUOTIENT = true ∧
    Gen.C13P_SILENT_ZERO = true ∧ Gen.C13P_BINARY_ONE = true := by decide

/-- the format of the returned array is binary64: the rounding of the normalisation is the `f64` of the rasteriser -/
theorem fPc_eq : fPc = f64 := by
  funext q
  unfold fPc f64
  rw [pcf_lits.2.1, pcf_lits.2.2.1]

/-- **the code's column, entry by entry**: the rounded quotient of `pcOut` when normalising, the folded integer
    otherwise -/
theorem pcf_column (fl : ℚ → ℚ) (r : Roll) (b nz : Bool) (j : Int) :
    pcColumnG fl r b nz j = (range 12).map fun (c : Nat) => (if nz then fl else id) (pcOut r b nz (c : Int) j) :=
  pcColumnG_eq fl r b nz j

/-- without rounding it is the column of the exact model -/
theorem pcf_id (r : Roll) (b nz : Bool) (j : Int) : pcColumnG id r b nz j = pcColumn r b nz j := rfl

/-- the pitch-class roll of the exact reading is the code's with `fl = id` -/
theorem pcf_roll_id (kw : PcKw) (r : Roll) (ri : Bool) : pcOfRollG id kw r ri = pcOfRoll kw r ri := by
  unfold pcOfRollG pcOfRoll
  simp only [pcf_id]

/-- **every entry of the normalised roll is the exact quotient up to one rounding**: within `2^-53` of its size
    (cells are non-negative; the column sum stays below `2^1022`, far beyond any integer roll) -/
theorem pcf_entry_close (r : Roll) (b : Bool) (j : Int) (hnn : ∀ p j, 0 ≤ r.cell p j)
    (hbig : pcColSum r b j ≤ 2 ^ 1022) (c : Nat) :
    |f64 (pcOut r b true c j) - pcOut r b true c j| ≤ pcOut r b true c j * (2 : ℚ) ^ (-53 : Int) := by
  have h0 := pcOut_nonneg r b j hnn c
  have key : pcOut r b true c j = 0 ∨ (2 : ℚ) ^ (-1022 : Int) ≤ |pcOut r b true c j| := by
    rw [abs_of_nonneg h0, pcOut_eq]
    have hv := pcValue_nonneg r b j hnn c
    by_cases hv0 : pcValue r b c j = 0
    · left; simp [hv0]
    · right
      have hv1 : (1 : ℚ) ≤ (pcValue r b c j : ℚ) := by exact_mod_cast (by omega : 1 ≤ pcValue r b c j)
      have hd : (0 : ℚ) < (((if pcColSum r b j = 0 then 1 else pcColSum r b j : Int)) : ℚ) ∧
          (((if pcColSum r b j = 0 then 1 else pcColSum r b j : Int)) : ℚ) ≤ (2 : ℚ) ^ (1022 : Nat) := by
        have hs0 := pcColSum_nonneg r b j hnn
        split
        · constructor
          · norm_num
          · rw [Int.cast_one]; exact one_le_pow₀ (by norm_num)
        · rename_i hne
          constructor
          · exact_mod_cast (by omega : 0 < pcColSum r b j)
          · exact_mod_cast hbig
      rw [show (2 : ℚ) ^ (-1022 : Int) = 1 / (2 : ℚ) ^ (1022 : Nat) by
        rw [zpow_neg, one_div]; norm_cast]
      rw [div_le_div_iff₀ (by positivity) hd.1]
      calc 1 * (((if pcColSum r b j = 0 then 1 else pcColSum r b j : Int)) : ℚ)
          = (((if pcColSum r b j = 0 then 1 else pcColSum r b j : Int)) : ℚ) := one_mul _
        _ ≤ (2 : ℚ) ^ (1022 : Nat) := hd.2
        _ ≤ (pcValue r b c j : ℚ) * (2 : ℚ) ^ (1022 : Nat) := le_mul_of_one_le_left (by positivity) hv1
  have := f64_err _ key
  rwa [abs_of_nonneg h0] at this

/-- **exact entries**: a silent pitch class is exactly `0`; a class that holds the whole column is exactly `1`;
    with a column sum `2^e` every entry below `2^53` is the exact quotient -/
theorem pcf_exact (r : Roll) (b : Bool) (c : Nat) (j : Int) :
    (pcValue r b c j = 0 → f64 (pcOut r b true c j) = 0) ∧
    (pcValue r b c j = pcColSum r b j → pcColSum r b j ≠ 0 → f64 (pcOut r b true c j) = 1) ∧
    (∀ e : Nat, pcColSum r b j = 2 ^ e → e ≤ 1074 → (pcValue r b c j).natAbs < 2 ^ 53 →
      f64 (pcOut r b true c j) = pcOut r b true c j) := by
  refine ⟨?_, ?_, ?_⟩
  · intro h
    rw [pcOut_eq, h]
    simp only [Int.cast_zero, zero_div]
    exact C13Float.roundBin_zero 53 (-1074)
  · intro h hne
    rw [pcOut_eq, h, if_neg hne, div_self (by exact_mod_cast hne)]
    have := f64_dyadic 1 0 (by norm_num) (by norm_num)
    simpa using this
  · intro e he hk hv
    have hne : pcColSum r b j ≠ 0 := by rw [he]; positivity
    have hq : pcOut r b true c j = (pcValue r b c j : ℚ) * (2 : ℚ) ^ (-(e : Int)) := by
      rw [pcOut_eq, if_neg hne, he, zpow_neg, div_eq_mul_inv]
      norm_cast
    rw [hq]
    exact f64_dyadic _ _ hv (by omega)

/-- **normalised per frame, as returned**: the twelve binary64 entries of a sounding column add up (exactly added)
    to `1` up to `2^-53` -/
theorem pcf_colsum (r : Roll) (b : Bool) (j : Int) (hnn : ∀ p j, 0 ≤ r.cell p j)
    (hbig : pcColSum r b j ≤ 2 ^ 1022) (hs : pcColSum r b j ≠ 0) :
    |(range 12).foldr (fun c s => f64 (pcOut r b true (c : Nat) j) + s) 0 - 1| ≤ (2 : ℚ) ^ (-53 : Int) := by
  have hone := pcOut_sum r b j hs
  have := foldr_err (fun c => f64 (pcOut r b true (c : Nat) j)) (fun c => pcOut r b true (c : Nat) j)
    ((2 : ℚ) ^ (-53 : Int)) (range 12) (fun c _ => pcf_entry_close r b j hnn hbig c)
  rw [hone, one_mul] at this
  exact this

/-- a silent column of the returned array is entirely `0` -/
theorem pcf_silent (r : Roll) (b : Bool) (j : Int) (hnn : ∀ p j, 0 ≤ r.cell p j) (hs : pcColSum r b j = 0)
    (c : Nat) (hc : c < 12) : f64 (pcOut r b true c j) = 0 :=
  (pcf_exact r b c j).1 (pcValue_of_silent r b j hnn hs c hc)

/-- **the whole call**: `compute_pitch_class_pianoroll` as the code computes it differs from the binary64-frame model
    with exact division (`computePcKwF`) only in the rounding of the entries: same frame count, same index rows,
    every column mapped through `f64` when normalising -/
theorem pcf_call (kind : String) (a : NoteArray) (kw : PcKw) :
    computePcKwFF kind a kw = (computePcKwF kind a kw).map fun pr =>
      { pr with columns := pr.columns.map fun col =>
          col.map (if kw.normalize.getD Gen.C13_PC_DEFAULT_normalize then f64 else id) } := by
  unfold computePcKwFF computePcKwF
  rw [fPc_eq]
  cases computePianorollKwF kind a (pcInnerKw kw) with
  | none => rfl
  | some rr =>
    obtain ⟨r, ri⟩ := rr
    simp only [Option.map_some, pcOfRollG, pcOfRoll, map_map, Option.some.injEq]
    congr 1
    apply map_congr_left
    intro j _
    simp only [Function.comp_def]
    rw [pcf_column, pc_column, map_map]
    rfl

/-- non-vacuity: three notes of velocities 90 / 70 / 50 in one frame — 90/210 is rounded, the column sum 2^k case exact -/
example : f64 (3 / 7) ≠ 3 / 7 ∧ f64 (3 / 8) = 3 / 8 ∧ f64 0 = 0 ∧ f64 1 = 1 := by decide +kernel

example : (makePianoroll exOpts exNotes).map (fun r => (pcColumnG f64 r false true 2).map (· * 16)) =
    some [0, 0, 9, 0, 7, 0, 0, 0, 0, 0, 0, 0] := by decide +kernel

end C13
