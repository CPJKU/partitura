/-
C10 — the order of the element tables is derived, not assumed.

`time_signature_map`, `key_signature_map`, `clef_map`, `measure_map` build their tables from
`self.iter_all(cls)`.  Model/Timeline.lean (property C01) models the timeline under every edit history and
`C01.iterAll_correct` proves that `iter_all` yields exactly the registered objects of the class, in time order.
Here that result is carried to the tables of this property: in every state reachable by a valid history of
add / remove / set_quarter_duration / get_or_add_point operations the table of a class is in time order
(`SortedLE`, the only thing `lookup_spec` needs) and holds exactly one row per object of the class on the timeline;
hence the lookup returns the value of an object in force.
-/
import PartituraModel.Props.C01
import PartituraModel.Props.C10

namespace C10
open Model Model.StepMap TL

/-- the table a map builds from `iter_all(cls)`: `(o.start.t, value of o)` for every yielded object -/
def classTable {α : Type} (s : TL.Part) (cls : Nat) (val : ObjRef → α) : Tbl α :=
  (iterAll s (some cls) none none false .starting).filterMap fun o =>
    (getObj s.objs o).start.map fun t => (t, val o)

/-- in a consistent timeline state the table of a class is in time order and its rows are exactly the objects of
    that class registered as starting somewhere -/
theorem table_of_state {α : Type} {s : TL.Part} (hI : Inv s) (cls : Nat) (hc : cls < Gen.numClasses)
    (hk : ∀ e ∈ s.objs, e.ref.cls < Gen.numClasses) (val : ObjRef → α) :
    SortedLE (classTable s cls val) ∧
    (∀ t v, (t, v) ∈ classTable s cls val ↔
      ∃ o : ObjRef, o.cls = cls ∧ (getObj s.objs o).start = some t ∧ val o = v) ∧
    (classTable s cls val).length = (iterAll s (some cls) none none false .starting).length := by
  obtain ⟨_, hmem, hpw⟩ := C01.iterAll_correct hI (some cls) none none false .starting hk
    (by intro c h; injection h with h; rw [← h]; exact hc)
  have hside : Mode.starting.side = Side.start := rfl
  refine ⟨?_, ?_, ?_⟩
  · unfold SortedLE classTable
    apply List.Pairwise.filterMap _ _ hpw
    intro o1 o2 h r1 hr1 r2 hr2
    simp only [Option.map_eq_some_iff] at hr1 hr2
    obtain ⟨t1, ht1, rfl⟩ := hr1
    obtain ⟨t2, ht2, rfl⟩ := hr2
    exact h t1 t2 (by rw [hside]; exact ht1) (by rw [hside]; exact ht2)
  · intro t v
    unfold classTable
    rw [List.mem_filterMap]
    constructor
    · rintro ⟨o, ho, hrow⟩
      simp only [Option.map_eq_some_iff, Prod.mk.injEq] at hrow
      obtain ⟨t', ht', rfl, rfl⟩ := hrow
      obtain ⟨τ, _, _, hcs⟩ := (hmem o).mp ho
      exact ⟨o, by simpa [ClassSpec, inclEff] using hcs, ht', rfl⟩
    · rintro ⟨o, hcls, hst, rfl⟩
      refine ⟨o, (hmem o).mpr ⟨t, by rw [hside]; exact hst, ⟨by simp, by simp⟩, ?_⟩, ?_⟩
      · simp [ClassSpec, inclEff, hcls]
      · simp [hst]
  · unfold classTable
    apply List.filterMap_length_eq_length.mpr
    intro o ho
    obtain ⟨τ, hτ, _, _⟩ := (hmem o).mp ho
    rw [hside] at hτ
    have hτ' : (getObj s.objs o).start = some τ := hτ
    simp [hτ']

/-- **`tables_sorted_any_history`**: after ANY valid edit history of the timeline (objects added, removed — by
    start, end or both —, re-added, quarter durations set, points requested, queries in between) the table a map
    builds from `iter_all(cls)` is in time order and holds exactly the objects of the class that are on the timeline -/
theorem tables_sorted_any_history {α : Type} (q : Nat) (ops : List Op) (hv : ValidHistory (Part.init q) ops)
    (cls : Nat) (hc : cls < Gen.numClasses)
    (hk : ∀ e ∈ (run (Part.init q) ops).objs, e.ref.cls < Gen.numClasses) (val : ObjRef → α) :
    SortedLE (classTable (run (Part.init q) ops) cls val) ∧
    (∀ t v, (t, v) ∈ classTable (run (Part.init q) ops) cls val ↔
      ∃ o : ObjRef, o.cls = cls ∧ (getObj (run (Part.init q) ops).objs o).start = some t ∧ val o = v) :=
  let h := table_of_state (C01.inv_reachable q ops hv) cls hc hk val
  ⟨h.1, h.2.1⟩

/-- … hence, after any valid history, the previous-value lookup on that table returns the value of an object of the
    class that is in force at `x` (greatest start ≤ x), and the first object's value before all of them -/
theorem in_force_any_history {α : Type} (q : Nat) (ops : List Op) (hv : ValidHistory (Part.init q) ops)
    (cls : Nat) (hc : cls < Gen.numClasses)
    (hk : ∀ e ∈ (run (Part.init q) ops).objs, e.ref.cls < Gen.numClasses) (val : ObjRef → α) (x : Int) :
    ((∃ e ∈ classTable (run (Part.init q) ops) cls val, e.1 ≤ x) →
      ∃ e, InForce (classTable (run (Part.init q) ops) cls val) x e ∧
        lookupPrev (classTable (run (Part.init q) ops) cls val) x = some e.2 ∧
        ∃ o : ObjRef, o.cls = cls ∧ (getObj (run (Part.init q) ops).objs o).start = some e.1 ∧ val o = e.2) ∧
    ((∀ e ∈ classTable (run (Part.init q) ops) cls val, x < e.1) →
      lookupPrev (classTable (run (Part.init q) ops) cls val) x
        = (classTable (run (Part.init q) ops) cls val).head?.map (·.2)) := by
  obtain ⟨hs, hm⟩ := tables_sorted_any_history q ops hv cls hc hk val
  obtain ⟨l1, l2⟩ := lookup_spec (classTable (run (Part.init q) ops) cls val) x hs
  refine ⟨?_, fun h => (l2 h).2⟩
  intro h
  obtain ⟨e, he, _, hl⟩ := l1 h
  exact ⟨e, he, hl, (hm e.1 e.2).mp he.1⟩

/-- non-vacuity: objects added out of time order, one removed and re-added at another time (it then comes last among
    the coincident ones), a quarter-duration change in between — the table is in time order -/
def exHistory : List Op :=
  [.add ⟨0, 2⟩ (some 8) none, .add ⟨1, 2⟩ (some 0) none, .add ⟨2, 2⟩ (some 4) (some 6), .add ⟨3, 5⟩ (some 1) none,
   .remove ⟨1, 2⟩ .both, .setQD 3 2, .add ⟨1, 2⟩ (some 8) none]

example : ValidHistory (Part.init 1) exHistory ∧ 2 < Gen.numClasses
    ∧ (∀ e ∈ (run (Part.init 1) exHistory).objs, e.ref.cls < Gen.numClasses)
    ∧ classTable (run (Part.init 1) exHistory) 2 (fun o => o.id) = [(4, 2), (8, 0), (8, 1)] := by decide +kernel

end C10
