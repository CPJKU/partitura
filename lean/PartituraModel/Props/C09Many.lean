/-
C09: parts with MANY segments — the segment ids as strings.

The model (`Model/Unfold.lean`) numbers the segments and orders jump destinations by number; the code names
segment `i` `chr(65 + i)` and orders the id STRINGS (`destinations_no_volta.sort()`, `d > own_id`,
`idx <= seg.id`, the sort of `"<n>_Volta_<ID>"`), and recognises the kinds of raw destinations by substring.
These theorems say that for the ids `chr(65 + i)` — for EVERY `i`, beyond `'Z'` the ids are `'['`, `'\\'`, …,
`'a'`, … — all of these string operations are the numeric operations of the model, so that the theorems of
`Props/C09.lean` / `Props/C09Ext.lean` (all of them quantified over any number of segments) speak about what the
code does with 27, 60 or 200 segments as well; and that with ids counted like spreadsheet columns
(A … Z, AA, AB, …) they are not.  `Model/UnfoldIds.lean` holds the executable string layer (`pyLt`, `segId`,
`rawStr`, `cleanToStr`); the driver request `ids` compares `segId` with the ids the real `add_segments` hands out.
-/
import PartituraModel.Props.C09Ext
import PartituraModel.Proofs.C09IdStr
import PartituraModel.Proofs.C09Labels

namespace C09
open Model.Unfold

/-- Python's `<` on the ids of two segments is `<` on their numbers (their order in time), for segments
numbered however high: `'Z' < '['`, `'~' < chr(127)`, … (one character each, compared by code point). -/
theorem id_order_is_time_order (i j : Nat) : pyLt (segId i) (segId j) = true ↔ i < j :=
  segId_lt_iff i j

/-- … `<=` likewise, ids of different segments differ, and none is `"END"`. -/
theorem ids_distinct (i j : Nat) :
    (pyLe (segId i) (segId j) = true ↔ i ≤ j) ∧ (segId i = segId j → i = j) ∧ segId i ≠ endId :=
  ⟨segId_le_iff i j, segId_injective i j, segId_ne_end i⟩

/-- `"END" <= id` holds exactly from the sixth segment (`'F'`) on — for ALL later segments, not only up to `'Z'`:
this is the `5 ≤ i` of `Dest.lePast`. -/
theorem end_is_past_from_F (i : Nat) : pyLe endId (segId i) = true ↔ 5 ≤ i :=
  end_le_segId_iff i

-- non-vacuity / the boundary of the alphabet: segments 25, 26, 27 are 'Z', '[', '\\'
example : segId 25 = [90] ∧ segId 26 = [91] ∧ pyLt (segId 25) (segId 26) = true ∧ pyLt (segId 26) (segId 27) = true ∧
    pyLe endId (segId 4) = false ∧ pyLe endId (segId 5) = true ∧ pyLe endId (segId 40) = true := by decide +kernel

/-- The three comparisons the model makes on segment numbers are the comparisons the code makes on id strings:
`idx <= seg.id` in `Path.make_copy_with_jump_to` (END included), `d > own_id` and `d <= own_id` in the cleanup
of a segment that ends with a da capo / dal segno. -/
theorem model_comparisons_are_string_comparisons (d : Dest) (own j : Nat) :
    d.lePast own = pyLe d.str (segId own) ∧
    (Dest.seg j).ahead own = pyLt (segId own) (segId j) ∧
    (!(Dest.seg j).ahead own) = pyLe (segId j) (segId own) :=
  ⟨lePast_eq d own, ahead_eq own j, not_ahead_eq own j⟩

/-- `list(set(destinations_no_volta))` followed by `.sort()`: the model keeps the numbers in a strictly
increasing list (`insSorted`); the ids of that list are strictly increasing as Python strings and are the ids of
exactly the numbers put in — i.e. it is the sorted list of the distinct ids. -/
theorem plain_destinations_sorted_as_strings (l : List Nat) :
    ((l.foldl (fun acc j => insSorted j acc) []).map segId).Pairwise (fun a b => pyLt a b = true) ∧
    ∀ j, j ∈ l.foldl (fun acc j => insSorted j acc) [] ↔ j ∈ l := by
  refine ⟨sorted_ids _ (foldl_insSorted_pairwise l [] List.Pairwise.nil), ?_⟩
  intro j
  simpa using Lists.mem_foldl_ins (fun a x l => mem_insSorted a x l) id l [] j

example : (([30, 2, 26, 2].foldl (fun acc j => insSorted j acc) []).map segId) = [[67], [91], [95]] := by decide +kernel

/-- `destinations_volta.sort()` sorts the strings `"<n>_Volta_<ID>"` (`n` a decimal digit, or `Z` for the jump
back to the start of the repeat — label 10 in the model): `<=` on these strings is `voltaLe` on
(label, segment number), and cutting eight characters off gives the id back. -/
theorem volta_keys_sorted_as_strings (a b : Nat × Nat) (ha : a.1 ≤ 10) (hb : b.1 ≤ 10) :
    pyLe (rawStr (.volta a.1) (.seg a.2)) (rawStr (.volta b.1) (.seg b.2)) = voltaLe a b ∧
    (rawStr (.volta a.1) (.seg a.2)).drop 8 = segId a.2 :=
  ⟨volta_key_le a b ha hb, volta_key_cut a.1 (.seg a.2)⟩

-- "2_Volta_[" ≤ "2_Volta_\\" ≤ "Z_Volta_A":  the number first, then the id, beyond 'Z' as well
example : pyLe (rawStr (.volta 2) (.seg 26)) (rawStr (.volta 2) (.seg 27)) = true ∧
    pyLe (rawStr (.volta 2) (.seg 27)) (rawStr (.volta 10) (.seg 0)) = true ∧
    pyLe (rawStr (.volta 3) (.seg 0)) (rawStr (.volta 2) (.seg 40)) = false := by decide +kernel

/-- The code sorts the raw destinations of a segment into four lists by substring tests (`"Volta_" in d`,
`"Navigation" in d`, `"Navigation1_" in d`, `"Navigation2_" in d`).  For the strings the code builds —
an id, `"<n>_Volta_" + id`, `"Navigation1_" + id`, `"Navigation2_" + id`, the id being `chr(65+i)` for any `i`
or `"END"` — each string passes exactly the test of its own kind (no id, however far beyond `'Z'`, can complete
one of the marker words), and the cuts `d[8:]`, `d[12:]` give the id back. -/
theorem raw_strings_classified (d : Dest) (lb : Nat) :
    (pyContains voltaSub (rawStr .plain d) = false ∧ pyContains navSub (rawStr .plain d) = false) ∧
    (pyContains voltaSub (rawStr (.volta lb) d) = true ∧ pyContains navSub (rawStr (.volta lb) d) = false) ∧
    (pyContains voltaSub (rawStr .nav1 d) = false ∧ pyContains (navMark 1) (rawStr .nav1 d) = true ∧
      pyContains (navMark 2) (rawStr .nav1 d) = false) ∧
    (pyContains voltaSub (rawStr .nav2 d) = false ∧ pyContains (navMark 2) (rawStr .nav2 d) = true ∧
      pyContains (navMark 1) (rawStr .nav2 d) = false) ∧
    ((rawStr (.volta lb) d).drop 8 = d.str ∧ (rawStr .nav1 d).drop 12 = d.str ∧ (rawStr .nav2 d).drop 12 = d.str) :=
  ⟨class_plain d, class_volta lb d, class_nav1 d, class_nav2 d, volta_key_cut lb d, nav_key_cut 1 d, nav_key_cut 2 d⟩

/-- The "clean up and ORDER" block of `_make_segments`, executed on the raw destination STRINGS exactly as the code
does (`cleanToStr`: four lists selected by substring, END moved to the back, `list(set(..)).sort()` and the sort of
the `"<n>_Volta_<ID>"` strings with Python's string order, `d[8:]`, `d[12:]`, the split at `own_id`), returns the
id strings of what the model's `cleanTo` returns on (tag, segment NUMBER) pairs — for the segment with any number
`own`, raw destinations to segments with any numbers.  (`VoltaOK`: a volta label is a digit or `Z` and never points
to END — what `labels_ok` proves of every list the boundary pass builds.) -/
theorem cleanup_is_string_cleanup (own : Nat) (raw : List (Tag × Dest)) (h : VoltaOK raw) :
    (cleanTo own raw).map (fun r => (r.1.map Dest.str, r.2.map Dest.str)) =
      some (cleanToStr (segId own) (raw.map rawOf)) :=
  cleanTo_refines own raw h

/-- Table level, no side condition: for every layout on which the model's `add_segments` succeeds, the variant that
does all of the cleanup on id strings (`mkSegmentsStr`, driver request `segstr`, compared with the real
`Segment.to` / `Segment.await_to` on every generated part) yields the id strings of the model's table.  So the
numeric order used throughout `Model/Unfold.lean` is not an idealisation of the code's string order: with ids
`chr(65+i)` they are the same function, for any number of segments. -/
theorem segment_table_is_string_algorithm (L : Layout) (g : List Seg) (h : mkSegments L = some g) :
    mkSegmentsStr L = some (g.map fun s => (s.to.map Dest.str, s.await.map Dest.str)) :=
  mkSegments_str L g h

-- non-vacuity: |: A [1. B :| [2,3. C | D, D.C. — strings "1_Volta_B", "2_Volta_C", "3_Volta_C", "Z_Volta_A", …
example :
    mkSegmentsStr { first := 0, last := 16, repeats := [(0, 8)], endings := [(4, 8, [1]), (8, 12, [2, 3])], dacapos := [16] } =
      some [([[66], [67], [67]], []), ([[65]], []), ([[65], [68]], []), ([[65], [69, 78, 68]], [[69, 78, 68]])] ∧
    (mkSegments { first := 0, last := 16, repeats := [(0, 8)], endings := [(4, 8, [1]), (8, 12, [2, 3])], dacapos := [16] }).isSome := by
  decide +kernel

/-- Why the single character matters.  Ids counted like spreadsheet columns (A … Z, AA, AB, …: `alphaId`) agree
with `chr(65+i)` on the first 26 segments but are NOT ordered by time: the 27th id `"AA"` is smaller than the
26th `"Z"` (and than `"B"`), and `"END"` is not `<=` it although `"END" <= "Z"`.  Every place that orders
destinations by id string then misorders a part with more than 26 segments.  (The fuel 4 of `alphaId` is the greatest number of
letters: enough for every index below 26 + 26² + 26³ + 26⁴.) -/
theorem spreadsheet_ids_break_order :
    (∀ i, i < 26 → alphaId 4 i = segId i) ∧
    alphaId 4 25 = [90] ∧ alphaId 4 26 = [65, 65] ∧
    pyLt (alphaId 4 26) (alphaId 4 25) = true ∧ pyLt (alphaId 4 26) (alphaId 4 1) = true ∧
    pyLe endId (alphaId 4 25) = true ∧ pyLe endId (alphaId 4 26) = false ∧
    ¬ (∀ i j, i < j → pyLt (alphaId 4 i) (alphaId 4 j) = true) := by
  refine ⟨fun i h => alphaId_small i h 3, by decide, by decide, by decide, by decide, by decide, by decide, ?_⟩
  intro h
  have := h 25 26 (by decide)
  revert this
  decide +kernel

-- 30 consecutive repeated sections [0,4) [4,8) … [116,120): the segment table of the code is the chain table, the
-- maximal unfolding plays 0,0,1,1,…,29,29, the minimal one 0,1,…,29, and there are 2^30 variants
example :
    let rest : List Int := (List.range 30).map fun (k : Nat) => (4 * (k + 1) : Int)
    let flags := List.replicate 30 true
    ((mkSegments (chainLayout 0 rest flags)).bind fun g => getPaths g false true true 100) = some [maxPath 0 flags] ∧
    ((mkSegments (chainLayout 0 rest flags)).bind fun g => getPaths g true false true 100) = some [minPath 0 flags] ∧
    (allPaths 0 flags).length = 2 ^ 30 := by
  intro rest flags
  have hs : StrictSorted (0 :: rest) := by
    simp [rest, List.range, List.range.loop, StrictSorted]
  have hadj : NoAdjFalse flags := by
    intro j h
    have h' : (List.replicate 30 true)[j]? = some false := h
    rw [List.getElem?_replicate] at h'
    split at h' <;> simp at h'
  have h := simple_repeats_unfold 0 rest flags hs (by simp [rest, flags]) (by simp [flags]) hadj true 100 (by simp [flags])
  refine ⟨h.2.2.1, h.2.2.2, ?_⟩
  have := h.2.1
  simpa [flags] using this

end C09
