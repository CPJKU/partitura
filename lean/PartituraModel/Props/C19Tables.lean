/-
C19 — the literal data the models copy from the source is the data of the LIVE source.

`Gen/C19Tables.lean` is regenerated from partitura's source on every run (`harness/translate_c19.py`: the kern tables of
reader and writer, the MEI writer's tables, and the dispatch chains / defaults of `importmei.MeiParser` read off the
source text).  The theorems say that the hand-written tables of the models are those lists — so an edit of the source
(a dropped branch, a changed default, another attribute name) stops this file from building — and state what the models
do with them.
-/
import PartituraModel.Model.Kern
import PartituraModel.Model.KernWrite
import PartituraModel.Model.MeiWrite
import PartituraModel.Model.MeiAccept
import PartituraModel.Proofs.C19Step
import PartituraModel.Gen.C19Tables

namespace C19
open Model Model.Mei C19S

/-- the same entries, in any order (the order of independent dict entries / elif branches carries no meaning) -/
def sameSet {α : Type} [DecidableEq α] (a b : List α) : Bool := a.all (fun x => decide (x ∈ b)) && b.all (fun x => decide (x ∈ a))

/-- the kern reader's tables are those of `importkern` -/
theorem kern_reader_tables_from_source :
    sameSet Kern.kernNotes Gen.C19.kernNotes = true ∧ Gen.C19.kernNotesAllSingle = true ∧
    sameSet Kern.kernDurs Gen.C19.kernDurs = true ∧
    Gen.C19.kernNotes.length = Kern.kernNotes.length ∧ Gen.C19.kernDurs.length = Kern.kernDurs.length := by
  decide +kernel

/-- the kern writer's tables are those of `exportkern` -/
theorem kern_writer_tables_from_source :
    sameSet KernWrite.kernDursW Gen.C19.kernDursW = true ∧ sameSet KernWrite.accToSign Gen.C19.accToSign = true ∧
    sameSet KernWrite.stepLetters Gen.C19.stepLetters = true ∧ KernWrite.keyLetters = Gen.C19.keyLetters ∧
    Gen.C19.kernDursW.length = KernWrite.kernDursW.length ∧ Gen.C19.accToSign.length = KernWrite.accToSign.length := by
  decide +kernel

/-- the writer's tables are the inverse of the reader's (whole tables): every symbolic type is written as the reciprocal
    the reader maps back to it, every step letter is read back as its step in octave 3 / 4 -/
theorem kern_tables_inverse :
    sameSet (Gen.C19.kernDursW.map fun e => (String.ofList e.2, e.1)) Gen.C19.kernDurs = true ∧
    sameSet (Gen.C19.stepLetters.map (fun e => (e.2.1, e.1, (3 : Int))) ++ Gen.C19.stepLetters.map (fun e => (e.2.2, e.1, (4 : Int))))
      Gen.C19.kernNotes = true := by
  decide +kernel

/-- the MEI writer's tables are those of `exportmei` -/
theorem mei_writer_tables_from_source :
    sameSet MeiWrite.alterToMei Gen.C19.alterToMei = true ∧ Gen.C19.alterToMei.length = MeiWrite.alterToMei.length ∧
    (∀ e ∈ Gen.C19.meiDursExtra, MeiWrite.meiDurOf e.1 = some e.2) ∧ sameSet (Gen.C19.meiDursExtra.map (·.1)) ["h", "e", "q"] = true := by
  decide +kernel

/-- the element names the reader's if / elif chains know (in any order of the branches), the elements whose children are
    read the same way, the children of `<score>` it looks at, the largest `multiRest/@num`, and the attribute read for staff
    crossings (the same in all five handlers) are what `Model/MeiAccept.lean` / `Model/Mei.lean` say -/
theorem mei_dispatch_from_source :
    Gen.C19.extractionOk = true ∧
    sameSet layerTags Gen.C19.meiLayerTags = true ∧ sameSet layerParents Gen.C19.meiLayerParents = true ∧
    sameSet sectionTags Gen.C19.meiSectionTags = true ∧ sameSet sectionParents Gen.C19.meiSectionParents = true ∧
    sameSet Gen.C19.meiScoreTags ["section", "scoreDef", "ending"] = true ∧
    Gen.C19.meiMultiRestMax = 1 ∧ Gen.C19.meiStaffAttr = "staff" ∧
    sameSet Gen.C19.meiGraceTypes [("unacc", "acciaccatura"), ("acc", "appoggiatura")] = true ∧ Gen.C19.meiGraceDefault = "grace" ∧
    sameSet (Gen.C19.meiBarlines.map (·.1)) ["rptstart", "rptend", "dbl", "end", "dashed"] = true := by
  decide +kernel

/-- the defaults of the semantics are the defaults of the reader: G clef on line 2 of staff 1, no accidentals / major -/
theorem mei_defaults_from_source (d : PartDef) (st : St) (hc : d.clef = none) (hk : d.key = none)
    (h1 : st.sdKey = none) (h2 : st.sdKeyChild = none) :
    resolveClef d = Gen.C19.meiDefaultClef ∧ resolveKey st d = Gen.C19.meiDefaultKey := by
  simp [resolveClef, resolveKey, hc, hk, h1, h2, Gen.C19.meiDefaultClef, Gen.C19.meiDefaultKey]

/-- every item the reader accepts in a layer has a branch of its own in the state machine … -/
theorem mei_layer_tags_known : ∀ t ∈ layerTags, t ∈
    ["section", "scoreDef", "meterSig", "keySig", "clef", "measure", "staff", "layer", "tie", "chord", "note", "accid", "rest",
     "mRest", "multiRest", "space", "tuplet", "beam"] := by
  decide +kernel

/-! ## what the state machine does not know denotes nothing -/

/-- the element names `openEv` / `closeEv` have a branch for -/
def knownTags : List String :=
  ["section", "scoreDef", "meterSig", "keySig", "clef", "measure", "staff", "layer", "tie", "chord", "note", "accid", "rest",
   "mRest", "multiRest", "space", "tuplet", "staffDef"]

/-- `mei_unknown_leaf_transparent`: an empty element of any other name (`<fermata/>`, `<dynam/>`, `<dir/>`, `<hairpin/>`,
    `<artic/>`, `<sb/>`, `<beam/>` …) whose attributes carry no `@dur` and no `@meter.unit` changes nothing, wherever it
    stands: the run goes on from the same state. -/
theorem mei_unknown_leaf_transparent (st : St) (tag : String) (as : List (String × String)) (evs : List Ev)
    (ht : tag ∉ knownTags) (hp : PlainAttrs as) :
    runEvs st (.op tag as :: .cl :: evs) = runEvs st evs := by
  have hk : kindOf tag = .content .other :=
    kindOf_other fun h => ht ((by decide +kernel : ∀ t ∈ openTags, t ∈ knownTags) tag h)
  have hcl : ckindOf tag = .other :=
    ckindOf_other fun h => ht ((by decide +kernel : ∀ t ∈ closeTags, t ∈ knownTags) tag h)
  have hm : tag ≠ "meterSig" := fun e => ht (e ▸ (by decide : "meterSig" ∈ knownTags))
  have hopen : openCore (ctxOf st.stack) (core st) tag as = some (core st, .keep) := by
    rw [openCore_plain _ _ tag as hp hm, hk, coreBody_other]
  exact leaf_state st (core st) tag as evs hopen hcl

example : "fermata" ∉ knownTags ∧ "dynam" ∉ knownTags ∧ "beam" ∉ knownTags ∧ "artic" ∉ knownTags ∧
    PlainAttrs [("xml:id", "f1"), ("startid", "#n3"), ("form", "norm")] := by decide +kernel

/-- what is loaded is what the document denotes: `load` only refuses -/
theorem mei_load_sound (evs : List Ev) (ps : List Part) (h : load evs = some ps) : denote evs = some ps := by
  unfold load at h
  split at h
  · exact h
  · cases h

/-- acceptance is decided element by element: a document is accepted iff every element may stand under its parent -/
theorem mei_accepts_append (a b : List Ev) (st : List String) :
    accepts st (a ++ b) = true → accepts st a = true := by
  induction a generalizing st with
  | nil => intro _; rfl
  | cons e es ih =>
    cases e with
    | op tag as =>
      simp only [List.cons_append, accepts, Bool.and_eq_true]
      exact fun ⟨h1, h2⟩ => ⟨h1, ih _ h2⟩
    | cl =>
      simp only [List.cons_append, accepts]
      exact ih _

/-- the nine layer items are accepted under a layer, a beam and a tuplet (given their id), `mSpace`, `bTrem`, `graceGrp`
    are not; the seven section items under a section and an ending, a `staffDef` or `annot` there is not -/
example : (layerTags.all fun t => layerParents.all fun p => acceptChild (some p) t [("xml:id", "x")]) = true ∧
    (["mSpace", "bTrem", "graceGrp", "app"].all fun t => layerParents.all fun p => !(acceptChild (some p) t [("xml:id", "x")])) = true ∧
    (sectionTags.all fun t => sectionParents.all fun p => acceptChild (some p) t []) = true ∧
    (["staffDef", "annot", "div"].all fun t => sectionParents.all fun p => !(acceptChild (some p) t [])) = true ∧
    acceptChild (some "layer") "note" [] = false ∧ acceptChild (some "measure") "fermata" [] = true := by
  decide +kernel

end C19
