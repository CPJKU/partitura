/-
C14 — "all note lists … unsorted order": the ORDER of the note list is irrelevant — the sounding ends under
permutation of the list, the comparison protocol of `PerformedNote` (its key is regenerated from the source), the
statements that reorder `pp.notes`, and histories that also reorder the list.
-/
import PartituraModel.Model.PedalOrder
import PartituraModel.Props.C14Hist
import PartituraModel.Props.C14Arrays

namespace C14
open Model Model.Pedal C14P

/-- the probes of harness/translate_c14.py (gen_c14_order) all answered, `a < b` looks at `note_on` alone, `hash` at
    `id` alone, `==` at every key, and `str(note)` is "PerformedNote: <id>" -/
theorem order_tables :
    Gen.C14Order.extractionOk = true ∧ Gen.C14Order.orderKeys = ["note_on"] ∧ Gen.C14Order.hashKeys = ["id"]
      ∧ Gen.C14Order.eqBlindKeys = [] ∧ Gen.C14Order.strHead = "PerformedNote: " :=
  ⟨rfl, rfl, rfl, rfl, rfl⟩

theorem orderVal_eq (n : PNote) : orderVal n = n.on := by
  simp [orderVal, Gen.C14Order.orderKeys, keyVal]

theorem orderVal_fun : orderVal = fun a : PNote => a.on := funext orderVal_eq

/-- the four comparisons look at the onsets alone; `>` and `>=` are `<` and `<=` with the sides swapped -/
theorem compare_by_onset (a b : PNote) :
    (noteLt a b = true ↔ a.on < b.on) ∧ (noteLe a b = true ↔ a.on ≤ b.on)
      ∧ noteGt a b = noteLt b a ∧ noteGe a b = noteLe b a := by
  simp [noteLt, noteLe, noteGt, noteGe, orderVal_eq]

/-- `<=` is a total preorder on performed notes and `<` its strict part (what `list.sort` needs of `__lt__`) -/
theorem note_order_total_preorder (a b c : PNote) :
    noteLe a a = true ∧ (noteLe a b = true → noteLe b c = true → noteLe a c = true)
      ∧ (noteLe a b = true ∨ noteLe b a = true) ∧ (noteLt a b = true ↔ ¬ noteLe b a = true) := by
  simp only [noteLt, noteLe, orderVal_eq, decide_eq_true_eq, not_le]
  exact ⟨le_refl _, le_trans, le_total _ _, trivial⟩

/-- `a == b` holds exactly for equal dictionaries (the same keys with the same values) -/
theorem note_eq_iff (a b : PNote) : noteEq a b = true ↔ a = b := by
  constructor
  · intro h
    simp only [noteEq, sameKeys, Bool.and_eq_true, beq_iff_eq, decide_eq_true_eq] at h
    obtain ⟨⟨⟨⟨⟨⟨⟨⟨⟨⟨⟨_, h1⟩, h2⟩, h3⟩, h4⟩, h5⟩, h6⟩, h7⟩, h8⟩, h9⟩, h10⟩, h11⟩ := h
    cases a; cases b
    simp only at h1 h2 h3 h4 h5 h6 h7 h8 h9 h10 h11
    simp only [PNote.mk.injEq]
    exact ⟨h1, h2, h3, h4, h5, h6, h7, h8, h9, h10, h11⟩
  · rintro rfl
    simp [noteEq, sameKeys]

/-- equal notes have equal hashes (`hash(self["id"])`) -/
theorem eq_same_hash (a b : PNote) (h : noteEq a b = true) : hashKey a = hashKey b := by
  rw [(note_eq_iff a b).mp h]

-- same onset, different release: neither is below the other, they are not equal, and (same id) they hash alike
example : noteLt ⟨some "a", 60, 60, 1, 2, 2, 64, 0, 1, none, none⟩ ⟨some "a", 60, 60, 1, 3, 3, 64, 0, 1, none, none⟩ = false
    ∧ noteLe ⟨some "a", 60, 60, 1, 2, 2, 64, 0, 1, none, none⟩ ⟨some "a", 60, 60, 1, 3, 3, 64, 0, 1, none, none⟩ = true
    ∧ noteEq ⟨some "a", 60, 60, 1, 2, 2, 64, 0, 1, none, none⟩ ⟨some "a", 60, 60, 1, 3, 3, 64, 0, 1, none, none⟩ = false
    ∧ noteEq ⟨some "a", 60, 60, 1, 2, 2, 64, 0, 1, none, none⟩ ⟨some "a", 60, 60, 1, 2, 2, 64, 0, 1, some 0, none⟩ = false := by
  decide +kernel

/-! ### the order of the note list is irrelevant -/

/-- "all note lists … unsorted order": rearrange the note list in any way; a note that stood at position `i` and now
    stands at position `i'` has the same sounding end (any controls, any threshold) -/
theorem sound_order_free (ns ns' : List Note) (cs : List Control) (thr : Int) (hp : ns.Perm ns') (i i' : Nat) (n : Note)
    (hi : ns[i]? = some n) (hi' : ns'[i']? = some n) :
    soundOffAt ns cs thr i = soundOffAt ns' cs thr i' := by
  rw [soundOffAt_eq, soundOffAt_eq, hi, hi', Option.map_some, Option.map_some,
    spec_perm ns ns' cs thr hp i i' n hi hi']

/-- … so the table of (note, sounding end) pairs is rearranged with the notes -/
theorem sound_perm_pairs (ns ns' : List Note) (cs : List Control) (thr : Int) (hp : ns.Perm ns') :
    ∃ so so', soundOffs ns cs thr = some so ∧ soundOffs ns' cs thr = some so'
      ∧ so.length = ns.length ∧ so'.length = ns'.length ∧ (ns.zip so).Perm (ns'.zip so') := by
  refine ⟨_, _, soundOffs_eq_map ns cs thr, soundOffs_eq_map ns' cs thr, by simp, by simp, ?_⟩
  rw [← List.map_prod_left_eq_zip, ← List.map_prod_left_eq_zip]
  have : ns.map (fun n => (n, specOf ns cs thr n)) = ns.map (fun n => (n, specOf ns' cs thr n)) := by
    apply List.map_congr_left
    intro n hn
    rw [specOf_perm ns ns' cs thr hp n hn]
  rw [this]
  exact hp.map _

-- the part of Props/C14.lean's example with its notes in another order: b (struck at 3) still cuts a
example : soundOffAt [⟨60, 0, 2, 64, 0, 1, none⟩, ⟨60, 3, 4, 64, 0, 2, none⟩, ⟨62, 0, 2, 64, 0, 1, none⟩]
      [⟨64, 1/2, 100, none⟩, ⟨64, 5, 0, none⟩] 64 0 = some 3
    ∧ soundOffAt [⟨62, 0, 2, 64, 0, 1, none⟩, ⟨60, 3, 4, 64, 0, 2, none⟩, ⟨60, 0, 2, 64, 0, 1, none⟩]
      [⟨64, 1/2, 100, none⟩, ⟨64, 5, 0, none⟩] 64 2 = some 3 := by decide +kernel

/-- every reordering statement rearranges the notes: none is lost, duplicated or changed (so every note keeps its
    `sound_off` until the next assignment) -/
theorem reorder_perm (o : OrdOp) (l : List PNote) : (reorder o l).Perm l := by
  cases o with
  | sort => exact (isSort _).perm l
  | sortDesc => exact (List.reverse_perm _).trans (((isSort _).perm _).trans (List.reverse_perm l))
  | reverse => exact List.reverse_perm l

/-- `pp.notes.sort()`: ascending onsets, notes with equal onsets in their previous order — and every list with these
    two properties (a stable sort by `__lt__`, as Python documents `list.sort`) is this one -/
theorem sort_spec (l : List PNote) :
    (reorder .sort l).Pairwise (fun a b => a.on ≤ b.on)
      ∧ (∀ t : Rat, (reorder .sort l).filter (fun a => decide (a.on = t)) = l.filter (fun a => decide (a.on = t)))
      ∧ ∀ s, IsStableSort (fun a : PNote => a.on) l s → s = reorder .sort l := by
  simp only [reorder, orderVal_fun]
  exact ⟨sorted_sortBy _ l, fun t => stable_sortBy _ t l, fun s hs => stable_sort_unique _ l s hs⟩

/-- `pp.notes.sort(reverse=True)`: descending onsets, notes with equal onsets in their previous order -/
theorem sort_desc_spec (l : List PNote) :
    (reorder .sortDesc l).Pairwise (fun a b => b.on ≤ a.on)
      ∧ ∀ t : Rat, (reorder .sortDesc l).filter (fun a => decide (a.on = t)) = l.filter (fun a => decide (a.on = t)) := by
  simp only [reorder, orderVal_fun]
  constructor
  · rw [List.pairwise_reverse]
    exact sorted_sortBy _ _
  · intro t
    rw [List.filter_reverse, stable_sortBy _ t l.reverse, List.filter_reverse, List.reverse_reverse]

example : (reorder .sort [⟨some "a", 60, 60, 2, 3, 3, 64, 0, 1, none, none⟩, ⟨some "b", 61, 61, 1, 3, 3, 64, 0, 1, none, none⟩,
      ⟨some "c", 62, 62, 2, 2, 2, 64, 0, 1, none, none⟩, ⟨some "d", 63, 63, 1, 1, 1, 64, 0, 1, none, none⟩]).map (·.id)
      = [some "b", some "d", some "a", some "c"]
    ∧ (reorder .sortDesc [⟨some "a", 60, 60, 2, 3, 3, 64, 0, 1, none, none⟩, ⟨some "b", 61, 61, 1, 3, 3, 64, 0, 1, none, none⟩,
      ⟨some "c", 62, 62, 2, 2, 2, 64, 0, 1, none, none⟩, ⟨some "d", 63, 63, 1, 1, 1, 64, 0, 1, none, none⟩]).map (·.id)
      = [some "a", some "c", some "b", some "d"] := by decide +kernel

theorem reorder_map (o : OrdOp) (g : PNote → PNote) (hg : ∀ n, (g n).on = n.on) (l : List PNote) :
    reorder o (l.map g) = (reorder o l).map g := by
  have hk : (fun a => orderVal (g a)) = orderVal := by
    funext a; rw [orderVal_eq, orderVal_eq, hg]
  cases o with
  | sort => simp only [reorder]; rw [sortBy_map, hk]
  | sortDesc => simp only [reorder]; rw [← List.map_reverse, sortBy_map, hk, List.map_reverse]
  | reverse => simp only [reorder, List.map_reverse]

/-- reordering COMMUTES with the assignment of the threshold: sort (or reverse) the notes and then assign, or assign
    and then sort — the part is the same, note by note with the same sounding ends -/
theorem reorder_commutes_assign (p : PPart) (o : OrdOp) (t : Int) :
    assignThr { p with notes := reorder o p.notes } t
      = (assignThr p t).map (fun q => { q with notes := reorder o q.notes }) := by
  rw [assignThr_eq_map, assignThr_eq_map, Option.map_some]
  simp only
  congr 2
  rw [reorder_map o (resound p.notes p.controls t) (fun _ => rfl)]
  apply List.map_congr_left
  intro n hn
  exact resound_perm _ _ _ _ (reorder_perm o p.notes) n hn

example : (buildRaw [⟨some "b", some 60, none, some 3, some 4, none, none, none, none, none, none⟩,
                     ⟨some "a", some 60, none, some 0, some 2, none, none, none, none, none, none⟩]
      [⟨64, 1/2, 100, none⟩, ⟨64, 5, 0, none⟩] 64).map (fun p =>
        (yrun p [.ord .sort, .x (.base (.thr 64)), .ord .reverse, .x (.base (.thr 0))]).map
           (fun x => (x.2, x.1.notes.map (fun n => (n.id, n.soundOff)))))
    = some [(.ok, [(some "a", 3), (some "b", 5)]), (.ok, [(some "a", 3), (some "b", 5)]),
            (.ok, [(some "b", 5), (some "a", 3)]), (.ok, [(some "b", 5), (some "a", 3)])] := by decide +kernel

/-! ### the rebuilt part, through any rearrangement of the array and through `Performance.note_array()` -/

/-- `from_note_array` of the rows of the part's note array IN ANY ORDER: the rebuilt part has the same pitches,
    velocities, onsets and sounding ends (as release and as sounding end) — the same table, rearranged with the rows -/
theorem from_array_any_order (f : ArrFields) (hf : f.sec = true ∧ f.vel = true) (mpq ppq : Nat) (p : PPart)
    (hp : ∀ n ∈ p.notes, Rebuildable n) (notes' : List PNote) (hperm : notes'.Perm p.notes) :
    ∃ q, fromArray f (partRows mpq ppq { p with notes := notes' }) = some q
      ∧ (q.notes.map (fun n => (n.pitch, n.vel, n.on, n.off, n.soundOff))).Perm
          (p.notes.map (fun n => (n.midiPitch, n.vel, n.on, n.soundOff, n.soundOff)))
      ∧ q.controls = [] ∧ q.thr = Gen.C14.defaultThreshold := by
  obtain ⟨q, hq, hfields, _, _, _, _, hc, ht⟩ :=
    from_array_roundtrip f hf mpq ppq { p with notes := notes' } (fun n hn => hp n (hperm.mem_iff.mp hn))
  refine ⟨q, hq, ?_, hc, ht⟩
  have h1 : q.notes.map (fun n => (n.pitch, n.vel, n.on, n.off, n.soundOff))
      = notes'.map (fun n => (n.midiPitch, n.vel, n.on, n.soundOff, n.soundOff)) :=
    map_proj hfields (fun x => (x.1, x.2.2.1, x.2.2.2.1, x.2.2.2.2.1, x.2.2.2.2.2))
  rw [h1]
  exact hperm.map _

/-- the composition the property speaks about, through the PERFORMANCE's note array: `Performance(pp).note_array()`
    holds the rows of `pp.note_array()` rearranged (by onset, then pitch), and the part rebuilt from it has the same
    pitches, velocities, onsets and sounding ends as `pp` -/
theorem rebuilt_from_performance_array (f : ArrFields) (hf : f.sec = true ∧ f.vel = true) (uid : Bool) (mpq ppq : Nat)
    (p : PPart) (hp : ∀ n ∈ p.notes, Rebuildable n) :
    ∃ rows q, perfRows uid [partRows mpq ppq p] = some rows ∧ rows.Perm (partRows mpq ppq p)
      ∧ fromArray f rows = some q
      ∧ (q.notes.map (fun n => (n.pitch, n.vel, n.on, n.off, n.soundOff))).Perm
          (p.notes.map (fun n => (n.midiPitch, n.vel, n.on, n.soundOff, n.soundOff)))
      ∧ q.controls = [] ∧ q.thr = Gen.C14.defaultThreshold := by
  set g : PNote → ARow := fun n => { id := idText n.id, row := noteRow mpq ppq n.toNote n.soundOff } with hg
  set notes' := sortBy (fun n => (g n).row.onsetSec) (sortBy (fun n => ((g n).row.pitch : Rat)) p.notes) with hn'
  have hperm : notes'.Perm p.notes := ((isSort _).perm _).trans ((isSort _).perm _)
  have hrows : perfRows uid [partRows mpq ppq p] = some (partRows mpq ppq { p with notes := notes' }) := by
    have hc : perfConcat uid [partRows mpq ppq p] = partRows mpq ppq p := by
      simp [perfConcat, prefixIds]
    rw [perfRows_cons, hc, Option.some.injEq]
    unfold partRows
    simp only
    rw [sortBy_map, sortBy_map]
  obtain ⟨q, hq, hf', hc, ht⟩ := from_array_any_order f hf mpq ppq p hp notes' hperm
  refine ⟨_, q, hrows, ?_, hq, hf', hc, ht⟩
  unfold partRows
  exact hperm.map _

-- the part of the example above (b struck at 3 cuts a; given in the order b, a) through the performance's array
example : ((buildRaw [⟨some "b", some 60, none, some 3, some 4, none, none, none, none, none, none⟩,
                      ⟨some "a", some 60, none, some 0, some 2, none, none, none, none, none, none⟩]
      [⟨64, 1/2, 100, none⟩, ⟨64, 5, 0, none⟩] 64).bind (fun p => perfRows true [partRows 500000 480 p])).bind
        (fun rows => (fromArray ⟨true, true, true, true, true⟩ rows).map
          (fun q => q.notes.map (fun n => (n.id, n.pitch, n.on, n.off, n.soundOff))))
    = some [(some "a", 60, 0, 3, 3), (some "b", 60, 3, 5, 5)] := by decide +kernel

/-- the statements of a history that are not reorderings -/
def xops : List YOp → List XOp
  | [] => []
  | .x o :: os => o :: xops os
  | .ord _ :: os => xops os

theorem ctlAfter_ystep (p : PPart) (o : YOp) (os : List YOp) :
    ctlAfter (ystep p o).1.controls (xops os) = ctlAfter p.controls (xops (o :: os)) := by
  cases o with
  | x o => exact ctlAfter_xstep p o (xops os)
  | ord o => rfl

/-- "setting it recomputes every note", over ALL histories of threshold assignments, item assignments, appended /
    inserted / removed / copied notes, edits of the control stream AND reorderings of the note list: whenever
    statement `k` is the assignment of `t` it succeeds, and afterwards the `sound_off` column is
    `adjust_offsets_w_sustain` of the notes the part holds at that moment — in the order they stand in then, which by
    `sound_order_free` is irrelevant — and of the control stream as it is then; no sounding end lies before its release -/
theorem yhistory_recompute (p : PPart) (ops : List YOp) (k : Nat) (t : Int) (h : ops[k]? = some (.x (.base (.thr t)))) :
    ∃ q, (yrun p ops)[k]? = some (q, .ok) ∧ q.thr = t ∧ q.controls = ctlAfter p.controls (xops (ops.take k))
      ∧ soundOffs (q.notes.map PNote.toNote) q.controls t = some (q.notes.map (·.soundOff))
      ∧ ∀ (i : Nat) (n : PNote), q.notes[i]? = some n → n.off ≤ n.soundOff :=
  run_recompute ystep yrun (fun _ _ _ => rfl) (fun cs os => ctlAfter cs (xops os)) (fun _ => rfl) ctlAfter_ystep
    _ t (fun _ => rfl) p ops k h

/-- … so every theorem of Props/C14.lean about `soundOffAt` holds for every note of that state -/
theorem ystate_sound (p : PPart) (ops : List YOp) (k : Nat) (t : Int) (h : ops[k]? = some (.x (.base (.thr t))))
    (q : PPart) (obs : Obs) (hq : (yrun p ops)[k]? = some (q, obs)) (i : Nat) (n : PNote) (hn : q.notes[i]? = some n) :
    soundOffAt (q.notes.map PNote.toNote) q.controls t i = some n.soundOff :=
  run_state_sound ystep yrun (fun _ _ _ => rfl) _ t (fun _ => rfl) p ops k h q obs hq i n hn

end C14
