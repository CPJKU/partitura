/-
C06 — the result of loading / saving does not depend on the FORM in which the file / the performance is
handed over, nor on how often, in which order and with which options the same argument was used before.

`Model.PerfObject` threads a `mido.MidiFile` object through a history of uses (`Use`: `load_performance_midi`,
`load_performance`, `midi_to_notearray` — each given the object itself or the path of the file it is saved to —,
`obj.save`, direct iteration) and a performance through a history of saves (`SaveOpts`: ppq, mpq, merge_tracks_save,
`out` = file or None).  The loaders do not write to the object (the merged track is a local list), the saver
does not write to the performance: that is what every theorem here rests on.

The `example`s show that the loader which stores the merged track in `mid.tracks` (`useMergeInPlace`, the
seeded change C06-j) and an exporter that leaves rounded times in the performance (`saveRoundInPlace`) violate them
on the second use: the theorems separate the code from these.
Tied to the code by the `lhist` / `shist` cases of harness/props/c06.py.
-/
import PartituraModel.Model.PerfObject
import PartituraModel.Proofs.C06History
import PartituraModel.Props.C06
import PartituraModel.Props.C06Merge
import PartituraModel.Props.C06Regen

namespace C06
open Model Model.PerfMidi C06Sort C06Lists C06Export C06Notes C06Merged C06History

/-- A history that starts from a state every step hands back: the state stays what it was, and the i-th result is the
    result of that use on it. -/
theorem history_fixed {σ ι ο : Type} (step : σ → ι → σ × ο) (s : σ) (hs : ∀ u, (step s u).1 = s) (us : List ι) :
    runWith step s us = (s, us.map fun u => (step s u).2) := by
  induction us with
  | nil => rfl
  | cons u us ih => simp only [runWith, hs, ih, List.map_cons]

/-- Any step function that hands its state back unchanged: after every history the state is what it was, and the
    i-th result is the result of that use on the ORIGINAL state. -/
theorem history_pure {σ ι ο : Type} (step : σ → ι → σ × ο) (hstep : ∀ s u, (step s u).1 = s) (s : σ) (us : List ι) :
    runWith step s us = (s, us.map fun u => (step s u).2) :=
  history_fixed step s (hstep s) us

/-- the code's loaders hand the object back unchanged -/
theorem useObj_pure (f : MidiObj) (u : Use) : (useObj f u).1 = f := rfl

/-- **The object is not changed by being loaded**, whatever the history of uses (merged or not, any default tempo,
    through which entry point, interleaved with saving and reading it). -/
theorem uses_object_unchanged (f : MidiObj) (us : List Use) : (runUses f us).1 = f := by
  unfold runUses
  rw [history_pure useObj useObj_pure]

/-- **Every use sees the same file**: in any history the i-th use returns what that use returns on a fresh copy. -/
theorem uses_independent (f : MidiObj) (us : List Use) (i : Nat) (u : Use) (hu : us[i]? = some u) :
    (runUses f us).2[i]? = some (outOf f u) := by
  unfold runUses
  rw [history_pure useObj useObj_pure]
  simp only [List.getElem?_map, hu, Option.map_some]
  rfl

/-- in particular two equal uses at different places of a history agree -/
theorem uses_agree (f : MidiObj) (us : List Use) (i j : Nat) (u : Use) (hi : us[i]? = some u) (hj : us[j]? = some u) :
    (runUses f us).2[i]? = (runUses f us).2[j]? := by
  rw [uses_independent f us i u hi, uses_independent f us j u hj]

/-- **What a load in a history returns**: never an error; the performed parts are the kept tracks of the file as it
    was before the history began, part j with every entry on track j and every tick integrated over the file's
    tempo map — whatever was done with the object before. -/
theorem history_load (f : MidiObj) (us : List Use) (i : Nat) (p : Bool) (d : Nat) (m : Bool)
    (hu : us[i]? = some (.load p d m)) :
    (runUses f us).2[i]? = some (.loaded
      { kept := loadFile m (seen f p).tracks,
        parts := some ((loadFile m (seen f p).tracks).zipIdx.map fun x =>
          toPPart (secondsAt d (loaderTracks m (seen f p).tracks) (seen f p).ppq) x.2 x.1) }) := by
  rw [uses_independent f us i _ hu]
  simp only [outOf, loadObj, loadedParts_eq]

/-- the same through `load_performance` (with or without `first_note_at_zero`) -/
theorem history_load_performance (f : MidiObj) (us : List Use) (i : Nat) (p : Bool) (d : Nat) (m fnz : Bool)
    (hu : us[i]? = some (.loadPerf p d m fnz)) :
    (runUses f us).2[i]? = some (.performance (loadFile m (seen f p).tracks)
      (some (loadPerformanceP fnz ((loadFile m (seen f p).tracks).zipIdx.map fun x =>
          toPPart (secondsAt d (loaderTracks m (seen f p).tracks) (seen f p).ppq) x.2 x.1)))) := by
  rw [uses_independent f us i _ hu]
  simp only [outOf, loadedParts_eq, Option.map_some]

/-- `load_performance` without `first_note_at_zero` is `load_performance_midi`, in any history and either form -/
theorem history_dispatch (f : MidiObj) (us : List Use) (i j : Nat) (p : Bool) (d : Nat) (m : Bool)
    (hi : us[i]? = some (.loadPerf p d m false)) (hj : us[j]? = some (.load p d m)) :
    ∃ kept ps, (runUses f us).2[i]? = some (.performance kept (some ps)) ∧
      (runUses f us).2[j]? = some (.loaded ⟨kept, some ps⟩) := by
  refine ⟨_, _, history_load_performance f us i p d m false hi, ?_⟩
  rw [history_load f us j p d m hj]
  rfl

/-- **An object parsed from a file**: giving the path and giving the object is the same (mido re-reads what it
    wrote). -/
theorem parsed_path_eq_object (g : MidiObj) (p : Bool) : seen g.saved p = g.saved := by
  cases p with
  | false => rfl
  | true => exact saved_idem g

/-- **An object that was never written** (built from messages, or returned by `save_performance_midi(…, None)`):
    loading the object and loading the file it is saved to give the same kept tracks — notes with their ids,
    controls, programs, key and time signatures, other meta events — except for the `end_of_track` entries of
    `meta_other`, and the same seconds. -/
theorem unsaved_object_load (f : MidiObj) (d : Nat) (m : Bool) :
    (loadFile m f.saved.tracks).map core = (loadFile m f.tracks).map core ∧
    secondsAt d (loaderTracks m f.saved.tracks) f.ppq = secondsAt d (loaderTracks m f.tracks) f.ppq := by
  constructor
  · rw [loadFile_core, loadFile_core, loaderTracks_saved_ne]
  · rw [← secondsAt_ne d (loaderTracks m f.saved.tracks), ← secondsAt_ne d (loaderTracks m f.tracks),
      loaderTracks_saved_ne]

/-- non-vacuity: a hand-built object without `end_of_track` — the file has one per track, and only `meta_other`
    shows it -/
example : let f : MidiObj := ⟨480, [[(0, Ev.tempo 400000)], [(10, Ev.noteOn 0 60 64), (5, Ev.noteOff 0 60 0)]]⟩
    loadFile false f.tracks ≠ loadFile false f.saved.tracks ∧
    (loadFile false f.tracks).map core = (loadFile false f.saved.tracks).map core ∧
    (loadFile false f.tracks).map (·.notes) = [[⟨60, 10, 15, 64, 0⟩]] := by decide +kernel

/-- the file `save_performance_midi` writes, as an object -/
def writtenObj (q : Rat → Int) (ppq mpq : Nat) (ms : Bool) (parts : List PPart) : MidiObj :=
  ⟨ppq, (savedAbs q mpq ms parts).map toDelta⟩

/-- **`out=None` and `out=file` are the same export**: saving the returned object writes the file a direct save
    writes (mido adds the `end_of_track`s). -/
theorem returned_saved (q : Rat → Int) (ppq mpq : Nat) (ms : Bool) (parts : List PPart) :
    (returnedObj q ppq mpq ms parts).saved = writtenObj q ppq mpq ms parts := by
  unfold returnedObj writtenObj MidiObj.saved savedAbs returnedAbs
  simp only [List.map_map]
  congr 1
  apply List.map_congr_left
  intro t _
  simp [toAbs_toDelta]

/-- the written file is a fixed point of save-and-parse -/
theorem written_fixed (q : Rat → Int) (ppq mpq : Nat) (ms : Bool) (parts : List PPart) :
    (writtenObj q ppq mpq ms parts).saved = writtenObj q ppq mpq ms parts := by
  rw [← returned_saved, saved_idem]

/-- the kept tracks of a load, for any object `f` whose file is the written file (the written file itself, parsed;
    or the object the exporter returned): up to `end_of_track` entries those of the written file -/
theorem seen_written (f : MidiObj) (W : MidiObj) (hf : f.saved = W) (p m : Bool) :
    (loadFile m (seen f p).tracks).map core = (loadFile m W.tracks).map core := by
  cases p with
  | true => simp only [seen, if_true, hf]
  | false =>
    simp only [seen, Bool.false_eq_true, if_false]
    rw [← hf]
    exact (unsaved_object_load f 0 m).1.symm

theorem flatMap_core {β : Type} (g : RTrack → List β) (hg : ∀ t, g (core t) = g t) (l : List RTrack) :
    (l.map core).flatMap g = l.flatMap g := by
  rw [List.flatMap_map]
  exact List.flatMap_congr (fun t _ => hg t)

/-- **Round trip through a shared object, any history.**  Save a performance (any ppq/mpq conversion `q`, merged or
    not) and take either the written file, parsed, or the object the exporter returned for `out=None` (`f`: any
    object whose file is the written file).  Use it any number of times in any order.  Then the object is what it
    was, and EVERY `load_performance_midi` of the history — object or path form, any default tempo, merged or not,
    whatever was merged or loaded before — returns performed parts that hold exactly the controls of the
    performance (as ticks `q time`), its programs plus default programs only, and — when the loader sees one track
    (merged on either side) under the exact condition `MergeOk` — exactly the notes of the performance, in the order
    of their ids. -/
theorem history_roundtrip (q : Rat → Int) (hq : ∀ a b, a ≤ b → q a ≤ q b) (ppq mpq : Nat) (ms : Bool)
    (parts : List PPart) (f : MidiObj) (hf : f.saved = writtenObj q ppq mpq ms parts) (us : List Use) :
    (runUses f us).1 = f ∧
    ∀ (i : Nat) (p : Bool) (d : Nat) (ml : Bool), us[i]? = some (.load p d ml) →
      ∃ r ps, (runUses f us).2[i]? = some (.loaded r) ∧ r.parts = some ps ∧ ps.length = r.kept.length ∧
        (r.kept.flatMap (·.controls)).Perm ((usedTracks q parts).flatMap (perfControls q parts)) ∧
        (∃ dflt : List (Int × Nat × Nat), (∀ x ∈ dflt, ∃ tr ∈ usedTracks q parts, IsDefaultProg parts tr x) ∧
          (r.kept.flatMap (·.programs)).Perm ((usedTracks q parts).flatMap (perfPrograms q parts) ++ dflt)) ∧
        ((ml = true ∨ (ms = true ∧ 1 < (usedTracks q parts).length)) →
          (∀ p ∈ parts, ∀ n ∈ p.notes, n.on ≤ n.off ∧ 0 < n.vel) →
          (∀ κ, (mergedKeyNotes q parts κ).Pairwise (MergeOk q)) →
          r.kept.length ≤ 1 ∧ ∀ rt ∈ r.kept, rt.fileTrack = 0 ∧
            rt.notes.Perm ((parts.flatMap (·.notes)).map (toR q)) ∧
            rt.notes.Pairwise (fun a b => rnoteLe a b = true)) := by
  refine ⟨uses_object_unchanged f us, ?_⟩
  intro i p d ml hu
  have hk := seen_written f _ hf p ml
  have hW : (writtenObj q ppq mpq ms parts).tracks = (savedAbs q mpq ms parts).map toDelta := rfl
  refine ⟨_, _, history_load f us i p d ml hu, rfl, by simp, ?_, ?_, ?_⟩
  · show ((loadFile ml (seen f p).tracks).flatMap (·.controls)).Perm _
    rw [← flatMap_core (·.controls) (fun _ => rfl), hk, flatMap_core (·.controls) (fun _ => rfl), loadFile_controls, hW]
    exact controls_kept q mpq ms ml parts
  · obtain ⟨dflt, hd, hP⟩ := programs_kept q mpq ms ml parts
    refine ⟨dflt, hd, ?_⟩
    show ((loadFile ml (seen f p).tracks).flatMap (·.programs)).Perm _
    rw [← flatMap_core (·.programs) (fun _ => rfl), hk, flatMap_core (·.programs) (fun _ => rfl), loadFile_programs, hW]
    exact hP
  · intro hm hwf hno
    obtain ⟨hlen, hall⟩ := load_merged_notes q hq mpq ms ml parts hm hwf hno
    have hlen' := congrArg List.length hk
    rw [List.length_map, List.length_map, hW] at hlen'
    refine ⟨hlen'.trans_le hlen, fun rt hrt => ?_⟩
    obtain ⟨rt', hrt', e1, e2⟩ := mem_of_map_core hk hrt
    rw [e1, e2]
    exact hall rt' hrt'

/-- non-vacuity: a performance on track numbers 0 and 3 with a pedal and the same pitch on both tracks (apart), the
    object the exporter returns (no `end_of_track` yet); merged load, note array, unmerged load from the path, merged
    load again — the object is unchanged and the two merged loads are equal -/
example : let p : PPart := { metaOther := [], keySigs := [], timeSigs := [], controls := [⟨1/4, 64, 127, 0, 3⟩],
                             notes := [⟨60, 64, 0, 0, 0, 1/2⟩, ⟨60, 70, 0, 3, 1, 2⟩], programs := [] }
    let f := returnedObj (quant 500000 480) 480 500000 false [p]
    let us := [Use.load false 500000 true, Use.noteArray false, Use.load true 500000 false, Use.load false 600000 true]
    f.tracks.length = 2 ∧ (runUses f us).1 = f ∧
    (runUses f us).2[1]? = some (.noteArray (some [(0, 60, 64, 0), (960, 60, 70, 0)])) ∧
    ((runUses f us).2.map fun o => match o with
      | .loaded r => r.kept.map (fun t => (t.fileTrack, t.notes.length, t.controls.length, t.programs.length))
      | _ => []) = [[(0, 2, 1, 2)], [], [(0, 1, 0, 1), (1, 1, 1, 1)], [(0, 2, 1, 2)]] := by decide +kernel

/-- two tracks, a note in each -/
def demoObj : MidiObj :=
  ⟨480, [[(0, Ev.tempo 500000), (0, Ev.noteOn 0 60 70), (384, Ev.noteOff 0 60 0), (0, Ev.eot)],
         [(96, Ev.noteOn 1 48 80), (384, Ev.noteOff 1 48 0), (0, Ev.eot)]]⟩

/-- the number of parts and of notes per part of what a use returned -/
def outShape : Out → List Nat
  | .loaded r => r.kept.map (·.notes.length)
  | .performance kept _ => kept.map (·.notes.length)
  | _ => []

/-- the code: unmerged, merged, unmerged — two parts, one part, two parts again; object unchanged -/
example : (runUses demoObj [.load false 500000 false, .load false 500000 true, .load false 500000 false]).1 = demoObj ∧
    (runUses demoObj [.load false 500000 false, .load false 500000 true, .load false 500000 false]).2.map outShape
      = [[1, 1], [2], [1, 1]] := by decide +kernel

/-- **What the theorems exclude** (the seeded change C06-j).  With the loader that stores the merged track in
    `mid.tracks` (`useMergeInPlace`, not the code) the merged load itself is right, the object is left with ONE track,
    and the next unmerged load of the same object returns one part with everything on track 0:
    `uses_object_unchanged` and `uses_agree` fail for it. -/
example : (runWith useMergeInPlace demoObj [.load false 500000 false, .load false 500000 true, .load false 500000 false]).1
      ≠ demoObj ∧
    (runWith useMergeInPlace demoObj [.load false 500000 false, .load false 500000 true, .load false 500000 false]).2.map outShape
      = [[1, 1], [2], [2]] := by decide +kernel

/-- **Dispatch**: a `Performance`, a list of its parts and — for a single part — the part itself are the same
    export. -/
theorem dispatch_reduces (qf : Nat → Nat → Rat → Int) (ps : List PPart) (p : PPart) (o : SaveOpts) :
    saveOut qf (.performance ps) o = saveOut qf (.parts ps) o ∧
    saveOut qf (.part p) o = saveOut qf (.parts [p]) o ∧
    (∃ file, saveOut qf (.parts ps) o = some file) := ⟨rfl, rfl, _, rfl⟩

/-- anything that is no performance, performed part or iterable of performed parts is rejected (ValueError), and
    nothing else is -/
theorem dispatch_rejects (qf : Nat → Nat → Rat → Int) (a : PerfArg) (o : SaveOpts) :
    saveOut qf a o = none ↔ (a = .other ∨ ∃ ps, a = .mixed ps) := by
  cases a with
  | mixed ps => exact iff_of_true rfl (Or.inr ⟨ps, rfl⟩)
  | other => exact iff_of_true rfl (Or.inl rfl)
  | _ => exact iff_of_false nofun fun h => h.elim nofun fun ⟨_, h⟩ => nomatch h

/-- the type of the file and the tracks do not depend on `out`: the returned object, once saved, is the written file -/
theorem save_to_object_or_file (qf : Nat → Nat → Rat → Int) (a : PerfArg) (ppq mpq : Nat) (ms : Bool) :
    (saveOut qf a ⟨ppq, mpq, ms, true⟩).map (fun r => (r.1, (MidiObj.saved ⟨ppq, r.2⟩).tracks))
      = saveOut qf a ⟨ppq, mpq, ms, false⟩ := by
  cases h : dispatchSave a with
  | none => simp [saveOut, h]
  | some ps =>
    simp only [saveOut, h, Option.map_some, if_true, Bool.false_eq_true, if_false, exportFile]
    congr 2
    have := returned_saved (qf mpq ppq) ppq mpq ms ps
    unfold returnedObj writtenObj at this
    exact congrArg MidiObj.tracks this

theorem saveUse_pure (qf : Nat → Nat → Rat → Int) (a : PerfArg) (o : SaveOpts) : (saveUse qf a o).1 = a := rfl

/-- **The performance is not changed by being saved**, whatever the history of saves. -/
theorem saves_argument_unchanged (qf : Nat → Nat → Rat → Int) (a : PerfArg) (os : List SaveOpts) :
    (runSaves qf a os).1 = a := by
  unfold runSaves
  rw [history_pure (saveUse qf) (saveUse_pure qf)]

/-- **Every save writes the original performance**: the i-th file of any history of saves (other ppq, mpq, merging,
    `out` before) is the file a single save of a fresh copy with the i-th options writes — to which every round-trip
    theorem of C06 applies. -/
theorem saves_independent (qf : Nat → Nat → Rat → Int) (a : PerfArg) (os : List SaveOpts) (i : Nat) (o : SaveOpts)
    (ho : os[i]? = some o) : (runSaves qf a os).2[i]? = some (saveOut qf a o) := by
  unfold runSaves
  rw [history_pure (saveUse qf) (saveUse_pure qf)]
  simp only [List.getElem?_map, ho, Option.map_some]
  rfl

/-- one note at 0.3 s: tick 288 at 480 ticks per 0.5 s, tick 29 (28.8 rounded) at 48 -/
def demoPerf : PerfArg :=
  .part { metaOther := [], keySigs := [], timeSigs := [], controls := [], notes := [⟨60, 64, 0, 0, 0, 3/10⟩], programs := [] }

/-- the code: a coarse save first does not disturb the fine one -/
example : (runSaves quant demoPerf [⟨48, 500000, false, false⟩, ⟨480, 500000, false, false⟩]).2
    = [saveOut quant demoPerf ⟨48, 500000, false, false⟩, saveOut quant demoPerf ⟨480, 500000, false, false⟩] ∧
    ((saveOut quant demoPerf ⟨480, 500000, false, false⟩).map fun r => r.2.map (·.map (·.1)))
      = some [[0, 0, 0, 288, 0]] := by decide +kernel

/-- **What the theorems exclude.**  An exporter that leaves the rounded times in the performance
    (`saveRoundInPlace`, not the code): after the coarse save the note ends at 0.3020833… s and the fine save writes
    tick 290 instead of 288 — `saves_argument_unchanged` and `saves_independent` fail for it. -/
example : (runWith (saveRoundInPlace quant) demoPerf [⟨48, 500000, false, false⟩, ⟨480, 500000, false, false⟩]).1 ≠ demoPerf ∧
    ((runWith (saveRoundInPlace quant) demoPerf [⟨48, 500000, false, false⟩, ⟨480, 500000, false, false⟩]).2.map
      fun r => r.map fun r => r.2.map (·.map (·.1))) = [some [[0, 0, 0, 29, 0]], some [[0, 0, 0, 290, 0]]] := by decide +kernel

end C06
