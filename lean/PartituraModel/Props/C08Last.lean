/-
C08 — the END of the loaded score (how the importer closes the last bar, fix C08-17) and the exactness of written
ticks.  Property theorems over Model/MatchTime.lean.
-/
import PartituraModel.Props.C08Mixed

namespace C08
open Model Model.MatchTime C08P C08M

/-- **last_bar_closed.**  A bar `[ms, me)` of a written score is complete under the time signature `sk` in force at
    its first stored note `o` (its length is `4·num/den` quarters).  The note is written as the exporter writes it.
    Then the importer looks up exactly `sk`'s beats and beat type at that note, and — with importer divisions `D`
    that resolve the bar line (`hD`, as in `bars_recovered`) and both bar lines on the division grid — the closing
    bar line `round(D·(bar start − shift)) + round(D·beats·4/beat type)` is exactly the written end of the bar. -/
theorem last_bar_closed (sc : Score) (wf : WrittenScore sc) (mnum : Int → Int)
    (s0 : TSig) (rest : List TSig) (hts : sc.ts = s0 :: rest) (ms me o : Int) (ho : s0.t ≤ o)
    (sk : TSig) (hat : tsAt sc.ts o = some sk) (maxTime : Rat) (n : SNote)
    (hbeat : n.beat = encBeat sc.divs sk.den (o - ms) + 1)
    (hoff : n.offset = Frac.ofRat (encOffset sc.divs sk.den (o - ms)))
    (hon : n.onsetB = dec4 (sc.beats o))
    (hend : n.onsetB < maxTime ∨ sc.ts.getLast? = some sk)
    (hcomplete : ((me - ms : Int) : Rat) / (sc.divs : Rat) = 4 * (sk.num : Rat) / (sk.den : Rat))
    (D : Nat) (shiftQ : Rat) (z w : Int)
    (hD : (D : Rat) * (1 / (5000 * (sk.den : Rat)) + |knotErr sc.beats sc.ts o|) < 1 / 2)
    (hz : (D : Rat) * (sc.quarters ms - shiftQ) = (z : Rat))
    (hw : (D : Rat) * (sc.quarters me - shiftQ) = (w : Rat)) :
    numAtBeats (sc.tsLines mnum) maxTime n.onsetB = sk.num
    ∧ denAtBeats (sc.tsLines mnum) maxTime n.onsetB = sk.den
    ∧ roundHalfEven ((D : Rat) * (barTime (sc.tsLines mnum) maxTime n - shiftQ))
        + barLenDivs D (numAtBeats (sc.tsLines mnum) maxTime n.onsetB) (denAtBeats (sc.tsLines mnum) maxTime n.onsetB)
      = w := by
  have hbar := (bars_recovered sc wf mnum s0 rest hts ms o ho sk hat maxTime n hbeat hoff hon hend).2.2 D shiftQ z hD hz
  obtain ⟨hdenAt, hnumAt⟩ := lookup_written sc wf mnum s0 rest hts o ho sk hat maxTime (hon ▸ hend)
  rw [← hon] at hdenAt hnumAt
  refine ⟨hnumAt, hdenAt, ?_⟩
  rw [hbar, hnumAt, hdenAt]
  -- the bar is `4·num/den` quarters long: `D` times that is the whole number `w − z`
  have hq : sc.quarters me - sc.quarters ms = ((me - ms : Int) : Rat) / (sc.divs : Rat) := by
    rw [← quarters_sub sc s0 rest hts me ms, sub_sub_cancel]
  have hlen : (D : Rat) * (sk.num : Rat) * 4 / (sk.den : Rat) = ((w - z : Int) : Rat) := by
    have h1 : (D : Rat) * (sc.quarters me - sc.quarters ms) = (w : Rat) - (z : Rat) := by
      rw [← hw, ← hz]; ring
    rw [hq, hcomplete] at h1
    push_cast
    rw [← h1]
    ring
  unfold barLenDivs
  rw [hlen, Round.roundHalfEven_int]
  omega

/-- non-vacuity: in `exampleScore` (3/4 pickup | 6/8 | 2/2, 4 divisions per quarter) the 2/2 bar `[16, 32)` is
    complete; its first stored note a quarter after the bar line; 8 importer divisions; origin the pickup at −1:
    bar line at 8·(3+1) = 32, closing bar line at 8·(7+1) = 64 -/
example : roundHalfEven (((8 : Nat) : Rat) * (barTime (exampleScore.tsLines fun _ => 1) 12
        { measure := 2, beat := encBeat 4 2 (20 - 16) + 1, offset := Frac.ofRat (encOffset 4 2 (20 - 16)),
          dur := ⟨1, 4, 1⟩, comps := [], onsetB := dec4 (exampleScore.beats 20), offsetB := 0 } - (-1)))
      + barLenDivs 8
          (numAtBeats (exampleScore.tsLines fun _ => 1) 12 (dec4 (exampleScore.beats 20)))
          (denAtBeats (exampleScore.tsLines fun _ => 1) 12 (dec4 (exampleScore.beats 20))) = 64 := by
  have hk1 : knotErr exampleScore.beats exampleScore.ts 20 = 0 := by decide +kernel
  have hq16 : exampleScore.quarters 16 = 3 := by decide +kernel
  have hq32 : exampleScore.quarters 32 = 7 := by decide +kernel
  refine (last_bar_closed exampleScore ⟨by decide, by decide, by decide, by decide⟩ (fun _ => 1) ⟨0, 3, 4⟩
    [⟨4, 6, 8⟩, ⟨16, 2, 2⟩] rfl 16 32 20 (by decide) ⟨16, 2, 2⟩ (by decide) 12 _ rfl rfl rfl (Or.inr (by decide))
    ?_ 8 (-1) 32 64 ?_ ?_ ?_).2.2
  · show (((32 - 16 : Int) : Rat)) / ((4 : Nat) : Rat) = 4 * ((2 : Nat) : Rat) / ((2 : Nat) : Rat)
    norm_num
  · rw [hk1]; norm_num
  · rw [hq16]; norm_num
  · rw [hq32]; norm_num

/-- the file of the witness of F-C08-17: 2/4 | 3/2, 3 divisions per quarter, the only stored note a triplet quarter
    that starts 2/3 quarter into the 3/2 bar -/
def lastBarWitness : Score := { divs := 3, ts := [⟨0, 2, 4⟩, ⟨6, 3, 2⟩], ms := [⟨0, 6⟩, ⟨6, 24⟩] }

/-- **last_bar_old_rule** (witness of F-C08-17).  The note is written at beat time 2.3333; the bar line the importer
    reconstructs from it lies at 2 − 1/15000 quarters, a rounding error BEFORE the change to 3/2 at 2 quarters.  The rule
    before the fix looked the closing signature up at that bar line, in quarters, and found 2/4: the 3/2 bar
    `[2, 8)` was closed at 4.  Looked up at the note's position in beats the signature is 3/2, and the model's
    write-then-read closes the bar at 6·(2 + 6) = 48 of its 6 divisions per quarter. -/
theorem last_bar_old_rule :
    let ts := lastBarWitness.readTS
    let n : Option SNote := (lastBarWitness.storedLines [(8, 4)]).bind fun l => l.head?.map STime.toSNote
    n.map (·.onsetB) = some (23333 / 10000)
    ∧ n.map (barTime ts (dec4 (lastBarWitness.beats 12))) = some (2 - 1 / 15000)
    ∧ (n.map fun n => (closingSigByQuarters ts (dec4 (lastBarWitness.beats 12)) (barTime ts (dec4 (lastBarWitness.beats 12)) n)).den)
        = some 4
    ∧ (n.map fun n => (numAtBeats ts (dec4 (lastBarWitness.beats 12)) n.onsetB,
                        denAtBeats ts (dec4 (lastBarWitness.beats 12)) n.onsetB)) = some (3, 2)
    ∧ ((lastBarWitness.roundTrip [(8, 4)] []).map fun r => (r.divs, r.barlines, r.lastBarEnd)) = some (6, [(2, 12)], 48) := by
  decide +kernel

/-- 6/8 6/8 | 3/4, two divisions per quarter -/
def eighthsThenQuarters : Score := { divs := 2, ts := [⟨0, 6, 8⟩, ⟨12, 3, 4⟩], ms := [⟨0, 6⟩, ⟨6, 12⟩, ⟨12, 18⟩] }

/-- **last_bar_wrong_key.**  In 6/8 6/8 | 3/4 the change to 3/4 lies at BEAT 12 but at QUARTER 6.  A beat-type map
    keyed on positions in beats, asked at the quarter position 6 of the last bar line, still answers 8 (the last bar
    would be closed after 3·4/8 = 1.5 quarters); asked at the first note's position in beats it answers 4, and the
    model's write-then-read closes the bar at quarter 9 (144 of its 16 divisions per quarter). -/
theorem last_bar_wrong_key :
    let ts := eighthsThenQuarters.readTS
    ts.map (fun s => (s.timeB, s.num, s.den)) = [(0, 6, 8), (12, 3, 4)]
    ∧ denAtBeats ts 15 6 = 8
    ∧ denAtBeats ts 15 12 = 4
    ∧ ((eighthsThenQuarters.roundTrip [(0, 1), (6, 1), (12, 2), (16, 2)] []).map fun r => (r.divs, r.barlines, r.lastBarEnd))
        = some (16, [(1, 0), (2, 48), (3, 96)], 144) := by
  decide +kernel

theorem tick_offset (t t' : Rat) (mpq ppq : Nat) (k : Int) (hk : 1000000 * (ppq : Rat) * t / (mpq : Rat) = (k : Rat)) :
    |1000000 * (ppq : Rat) * t' / (mpq : Rat) - (k : Rat)| = |t' - t| * (1000000 * (ppq : Rat) / (mpq : Rat)) := by
  have hr : (0 : Rat) ≤ 1000000 * (ppq : Rat) / (mpq : Rat) :=
    div_nonneg (mul_nonneg (by norm_num) (Nat.cast_nonneg _)) (Nat.cast_nonneg _)
  have e : 1000000 * (ppq : Rat) * t' / (mpq : Rat) - (k : Rat) = (t' - t) * (1000000 * (ppq : Rat) / (mpq : Rat)) := by
    rw [← hk]; ring
  rw [e, abs_mul, abs_of_nonneg hr]

/-- **tick_stable.**  `t` lies on the tick grid of the clock (`10^6·ppq·t/mpq = k`).  Any `t'` less than half a tick
    away from it is written as the same tick. -/
theorem tick_stable (t t' : Rat) (mpq ppq : Nat) (k : Int)
    (hk : 1000000 * (ppq : Rat) * t / (mpq : Rat) = (k : Rat))
    (hδ : |t' - t| * (1000000 * (ppq : Rat) / (mpq : Rat)) < 1 / 2) :
    secToTick t' mpq ppq = k := by
  unfold secToTick
  apply Round.roundHalfEven_near
  rw [tick_offset t t' mpq ppq k hk]
  exact hδ

/-- **tick_moves.**  Any `t'` MORE than half a tick away from the grid time `t` is written as another tick: the
    seconds a tick is computed from must be the performed part's own binary64 seconds, not a copy of fewer bits. -/
theorem tick_moves (t t' : Rat) (mpq ppq : Nat) (k : Int)
    (hk : 1000000 * (ppq : Rat) * t / (mpq : Rat) = (k : Rat))
    (hδ : 1 / 2 < |t' - t| * (1000000 * (ppq : Rat) / (mpq : Rat))) :
    secToTick t' mpq ppq ≠ k := by
  unfold secToTick
  intro hround
  have hclose := Round.roundHalfEven_close (1000000 * (ppq : Rat) * t' / (mpq : Rat))
  rw [hround, abs_sub_comm, tick_offset t t' mpq ppq k hk] at hclose
  exact absurd hclose (not_le.mpr hδ)

/-- **tick_float32_witness.**  Tick 19200001 of the clock 4000 / 500000 (40 minutes and one tick): the time
    19200001/8000 s rounded to float32 (24 bits) is 9830401/4096 s, 61/64 of a tick later; it is written as tick
    19200002.  Both theorems above apply (non-vacuity): the exact time is stable, the float32 copy moves. -/
theorem tick_float32_witness :
    secToTick (19200001 / 8000) 500000 4000 = 19200001
    ∧ secToTick (9830401 / 4096) 500000 4000 = 19200002
    ∧ |(9830401 / 4096 : Rat) - 19200001 / 8000| * (1000000 * ((4000 : Nat) : Rat) / ((500000 : Nat) : Rat)) = 61 / 64 := by
  refine ⟨by decide +kernel, by decide +kernel, ?_⟩
  norm_num [abs_of_nonneg]

example : secToTick (9830401 / 4096) 500000 4000 ≠ 19200001 := by
  apply tick_moves (19200001 / 8000) (9830401 / 4096) 500000 4000 19200001
  · norm_num
  · have h := tick_float32_witness.2.2
    rw [h]; norm_num

example : secToTick (19200001 / 8000 + 1 / 100000) 500000 4000 = 19200001 := by
  apply tick_stable (19200001 / 8000) _ 500000 4000 19200001
  · norm_num
  · norm_num [abs_of_nonneg]

end C08
