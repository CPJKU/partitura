/-
C11 — the measure theorems for the CONCRETE bar-end map of `add_measures` (C02's beat maps), i.e. for real parts.

`measures_tile` / `numbers_consecutive` / `measure_lengths` (Props/C11.lean) are stated for every bar-end map that is
`Integral`; their proofs need less: on the integer positions of each stretch the map answers a later position that is
integral if it lies before the end of the stretch (`C11Meas.LocalOK`).  `Model.Meas.barEnd p` —
`inv_beat_map(min(beat_map(pos) + beats, beat_map(end)))` over `Model.TimeMap` — is such a map under a side condition
on the part that is decidable and computed from the part alone (`BarsIntegral`): positive divisions and signature
numbers, and every stretch of one time signature lies on one linear piece of the beat map (no quarter-duration change
strictly inside it) on which a beat lasts a whole number `L = 4 * quarter_duration / beat_type` of divisions.  The bar
length `beats * L` then appears in closed form.
-/
import PartituraModel.Proofs.C11Bar

namespace C11
open Model Model.Dur Model.Meas Gen C11Meas C11Bar

/-- **bar_end_closed_form**: on a stretch `[s, e)` with `L` divisions per beat, from an integer position `n` the
    concrete bar-end map answers `n + beats * L` when that is not beyond the end of the stretch, and otherwise a
    position at or beyond the end of the stretch (which `add_measures` cuts to `e`) -/
theorem bar_end_closed_form (p : PartM) (hwf : C02Proofs.WF (toTimeMapPart p) .notated) (s e b L : Nat)
    (hfs : p.first ≤ s) (hel : e ≤ p.last) (hlin : StretchBeat p (s, e, b) L) (n : Nat) (hsn : s ≤ n) (hne : n < e)
    (v : Rat) (h : barEnd p (n : Rat) b = some v) :
    (v = ((n + b * L : Nat) : Rat) ∧ n + b * L ≤ e) ∨ ((e : Rat) ≤ v ∧ e < n + b * L) :=
  barEnd_linear p hwf s e b L hfs hel hlin n hsn hne v h

/-- **measures_tile_real**: `measures_tile` for `add_measures` itself (C02's beat maps) -/
theorem measures_tile_real (p : PartM) (fuel : Nat) (l : List (Nat × Nat × Nat)) (ms' : List Measure) (hok : TsOK p)
    (hl : stretches p = some l) (hex : ExistingOK p l) (hb : BarsIntegral p l) (h : addMeasures p fuel = .ok ms') :
    ms'.Pairwise (fun m m' => m.stop ≤ m'.start) ∧
    (∀ m ∈ ms', p.first ≤ m.start ∧ m.stop ≤ p.last) ∧
    (∀ t, p.first ≤ t → t < p.last → ∃ m ∈ ms', m.start ≤ t ∧ t < m.stop) ∧
    (p.measures.map C11Meas.ext).Sublist (ms'.map C11Meas.ext) :=
  add_measures_tile _ p fuel l ms' (barEnd_localOK p l (stretches_chain p hok l hl) hb) hok hl hex h

theorem numbers_consecutive_real (p : PartM) (fuel : Nat) (l : List (Nat × Nat × Nat)) (ms' : List Measure) (hok : TsOK p)
    (hl : stretches p = some l) (hex : ExistingOK p l) (hb : BarsIntegral p l) (h : addMeasures p fuel = .ok ms') :
    ∀ (i : Nat) (hi : i < ms'.length), (ms'[i]).number = some (1 + (i : Int)) :=
  (tn_numbers _ _ _ _ _ (add_measures_real p fuel l ms' hok hl hex hb h).1).1

/-- **measure_lengths_real**: every measure after `add_measures` is an old one (same extent) or was added inside a
    stretch `x = (start, end, beats)` of one time signature with `L` divisions per beat, and is a bar of the length
    the signature implies, `beats * L` divisions — shorter only because the stretch ends there (next signature change
    or end of the part) or an existing measure starts there -/
theorem measure_lengths_real (p : PartM) (fuel : Nat) (l : List (Nat × Nat × Nat)) (ms' : List Measure) (hok : TsOK p)
    (hl : stretches p = some l) (hex : ExistingOK p l) (hb : BarsIntegral p l) (h : addMeasures p fuel = .ok ms') :
    ∀ m ∈ ms', (∃ x ∈ p.measures, x.start = m.start ∧ x.stop = m.stop) ∨
      ∃ x ∈ l, ∃ L : Nat, StretchBeat p x L ∧ x.1 ≤ m.start ∧ m.start < x.2.1 ∧ m.stop ≤ x.2.1 ∧
        m.stop ≤ m.start + x.2.2 * L ∧
        (m.stop = m.start + x.2.2 * L ∨ m.stop = x.2.1 ∨ ∃ y ∈ p.measures, y.start = m.stop) := by
  have hsc := stretches_chain p hok l hl
  intro m hm
  rcases (add_measures_real p fuel l ms' hok hl hex hb h).2.2 m hm with
    ⟨x, hx, he⟩ | ⟨⟨s, e, b⟩, hx, v, hv, g1, g2, g3, g4, g5⟩
  · exact Or.inl ⟨x, hx, (Prod.mk.inj he).1, (Prod.mk.inj he).2⟩
  · simp only at hv g1 g2 g3 g4 g5
    obtain ⟨L, hL⟩ := (hb.2 (s, e, b) hx).2 (by show s < e; omega)
    obtain ⟨b1, b2⟩ := sc_bounds l _ _ hsc (s, e, b) hx
    refine Or.inr ⟨(s, e, b), hx, L, hL, g1, g2, g4, ?_⟩
    rcases barEnd_linear p hb.1 s e b L b1 b2 hL m.start g1 g2 v hv with ⟨rfl, _⟩ | ⟨c1, c2⟩
    · -- a whole bar fits: the answer is its end
      exact ⟨Nat.cast_le.mp g3, g5.imp_left Nat.cast_inj.mp⟩
    · -- the stretch ends first: the answer is at or beyond its end
      refine ⟨by show m.stop ≤ m.start + b * L; omega, ?_⟩
      rcases g5 with g5 | g5 | g5
      · exact Or.inr (Or.inl (by have : (e : Rat) ≤ (m.stop : Rat) := g5 ▸ c1
                                 have : e ≤ m.stop := Nat.cast_le.mp this
                                 show m.stop = e; omega))
      · exact Or.inr (Or.inl g5)
      · exact Or.inr (Or.inr g5)

-- non-vacuity: 6/8 at 2 divisions per quarter, then 3/4 at 4 divisions per quarter from 12 on; bars of 6 and of 12
def exReal : PartM :=
  { first := 0, last := 36, npoints := 3, qd := [(0, 2), (12, 4)], ts := [⟨0, 6, 8, 2⟩, ⟨12, 3, 4, 3⟩], measures := [] }

example : stretches exReal = some [(0, 12, 6), (12, 36, 3)] ∧
    addMeasures exReal 200 = .ok [⟨0, 6, some 1⟩, ⟨6, 12, some 2⟩, ⟨12, 24, some 3⟩, ⟨24, 36, some 4⟩] := by
  decide +kernel

example : TsOK exReal := ⟨by decide, by decide, by decide, by decide⟩
example : ExistingOK exReal [(0, 12, 6), (12, 36, 3)] := ⟨trivial, by decide, by decide⟩

example : BarsIntegral exReal [(0, 12, 6), (12, 36, 3)] := by
  refine ⟨by decide, ?_⟩
  intro x hx
  simp only [List.mem_cons, List.not_mem_nil, or_false] at hx
  rcases hx with rfl | rfl
  · exact ⟨by decide, fun _ => ⟨1, [], [⟨36, 4, 1⟩], ⟨0, 2, 2⟩, ⟨12, 4, 1⟩, by decide +kernel, by decide, by decide, by decide, by norm_num⟩⟩
  · exact ⟨by decide, fun _ => ⟨4, [⟨0, 2, 2⟩], [], ⟨12, 4, 1⟩, ⟨36, 4, 1⟩, by decide +kernel, by decide, by decide, by decide, by norm_num⟩⟩

-- a bar that fits (6 + 6·1 = 12) and one that does not: from 7 the map answers 16, beyond the stretch end 12
-- (one beat of the 6/8 bar is counted after the change, where it lasts 4 divisions); `add_measures` cuts it to 12
example : barEnd exReal ((6 : Nat) : Rat) 6 = some ((12 : Nat) : Rat) ∧ barEnd exReal ((7 : Nat) : Rat) 6 = some ((16 : Nat) : Rat) := by
  decide +kernel

end C11
