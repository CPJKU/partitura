/-
C10 — signature, clef and measure maps return what is in force at the queried time.
Property theorems over Model/StepMap.lean.

Vocabulary (Proofs/C10Lookup.lean, Proofs/C10Measures.lean):
  `SortedLE tbl` / `SortedLT tbl`  rows in time order (coincident times allowed / at most one per time)
  `InForce tbl x e`                `e ∈ tbl`, `e.1 ≤ x`, and no row starting at or before `x` starts later
  `Ordered ms`                     every measure is non-empty and starts at or after the end of the previous one
  `Tiles ms`                       … and starts exactly where the previous one ends (no gaps)
A result `none` is scipy's NaN; `span = some (first_point.t, last_point.t)`.
-/
import PartituraModel.Proofs.C10Sig
import PartituraModel.Proofs.C10Measures
import PartituraModel.Proofs.Folds

namespace C10
open Model Model.StepMap Gen

/-- `lookup_spec`: in a table in time order, the answer is the value of a row in force
    (greatest start ≤ x); when every row starts after `x`, scipy answers NaN and the
    back-filled lookup answers the first row's value. -/
theorem lookup_spec {α : Type} (tbl : Tbl α) (x : Int) (hs : SortedLE tbl) :
    ((∃ e ∈ tbl, e.1 ≤ x) →
      ∃ e, InForce tbl x e ∧ lastLE tbl x = some e.2 ∧ lookupPrev tbl x = some e.2) ∧
    ((∀ e ∈ tbl, x < e.1) → lastLE tbl x = none ∧ lookupPrev tbl x = tbl.head?.map (·.2)) := by
  constructor
  · rintro ⟨e0, he0, hle0⟩
    cases hr : lastLE tbl x with
    | none =>
      have := (lastLE_eq_none_iff tbl x hs).mp hr e0 he0
      omega
    | some w =>
      obtain ⟨e, he, hv⟩ := lastLE_some_inForce tbl x hs w hr
      exact ⟨e, he, by rw [hv], by rw [hv]; exact lookupPrev_of_some tbl x w hr⟩
  · intro h
    have hn := (lastLE_eq_none_iff tbl x hs).mpr h
    exact ⟨hn, lookupPrev_of_none tbl x hn⟩

/-- with at most one row per time, *the* row in force is the answer -/
theorem lookup_unique {α : Type} (tbl : Tbl α) (x : Int) (hs : SortedLT tbl) (e : Int × α)
    (h : InForce tbl x e) : lastLE tbl x = some e.2 ∧ lookupPrev tbl x = some e.2 :=
  ⟨lastLE_of_inForce tbl x hs e h, lookupPrev_of_inForce tbl x hs e h⟩

example : InForce [((0 : Int), "a"), (5, "b"), (9, "c")] 7 (5, "b") := by
  unfold InForce
  decide +kernel

example : lookupPrev [((3 : Int), "a"), (5, "b")] 1 = some "a" ∧ lastLE [((3 : Int), "a"), (5, "b")] 1 = none := by
  decide +kernel

/-- the wrapper `interp1d` with a single sample is the constant function -/
theorem single_sample {α : Type} (t : Int) (v : α) (x : Int) : interpPrev [(t, v)] x = some v := rfl

/-- musical beats as documented: 2 for 6, 3 for 9, 4 for 12, else the number of beats
    (over the regenerated `MUSICAL_BEATS` table, for every number of beats) -/
theorem musical_beats_spec (b : Nat) :
    musicalBeats b = if b = 6 then 2 else if b = 9 then 3 else if b = 12 then 4 else b := by
  unfold musicalBeats MUSICAL_BEATS
  simp only [lookup]
  by_cases h6 : b = 6
  · subst h6; rfl
  · by_cases h9 : b = 9
    · subst h9; rfl
    · by_cases h12 : b = 12
      · subst h12; rfl
      · have h6' : ¬ (6 = b) := fun h => h6 h.symm
        have h9' : ¬ (9 = b) := fun h => h9 h.symm
        have h12' : ¬ (12 = b) := fun h => h12 h.symm
        simp [h6, h9, h12, h6', h9', h12']

/-- `ts_spec`: on the timeline (`first ≤ x`) the time-signature map returns the time signature in
    force, the first one for positions before it, and 4/4 (musical beats 4) when there is none. -/
theorem ts_spec (f l x : Int) (hx : f ≤ x) (tss : List (Int × Nat × Nat)) (hs : SortedLT tss) :
    (tss = [] → tsMap (some (f, l)) tss x = some (4, 4, 4)) ∧
    (∀ e, InForce tss x e → tsMap (some (f, l)) tss x = some (e.2.1, e.2.2, musicalBeats e.2.1)) ∧
    (∀ e rest, tss = e :: rest → x < e.1 →
      tsMap (some (f, l)) tss x = some (e.2.1, e.2.2, musicalBeats e.2.1)) :=
  have h := sig_spec (fun v : Nat × Nat => (v.1, v.2, musicalBeats v.1)) tss x _ _ (tsMap_eq (some (f, l)) tss x hx nofun)
  ⟨h.1, h.2.1 hs, h.2.2⟩

/-- a part without time points: 4/4 from position 0 on -/
theorem ts_default_empty_part (x : Int) (hx : 0 ≤ x) : tsMap none [] x = some (4, 4, 4) :=
  tsMap_eq none [] x hx fun _ => rfl

example : tsMap (some (0, 20)) [(8, 3, 4)] 2 = some (3, 4, 3)
    ∧ tsMap (some (0, 20)) [(8, 3, 4), (12, 6, 8)] 13 = some (6, 8, 2)
    ∧ tsMap (some (0, 20)) [(8, 3, 4), (12, 6, 8)] 11 = some (3, 4, 3)
    ∧ tsMap (some (2, 20)) [] 5 = some (4, 4, 4)
    ∧ tsMap (some (2, 20)) [(8, 3, 4), (12, 6, 8)] 1 = none := by decide +kernel

/-- `ks_spec`: the key-signature map returns (fifths, mode code) of the key signature in force,
    of the first one before it, and C major `(0, 1)` when there is none; a missing mode is major. -/
theorem ks_spec (f l x : Int) (hx : f ≤ x) (kss : List (Int × Int × Mode)) (hs : SortedLT kss) :
    (kss = [] → ksMap (some (f, l)) kss x = some (0, 1)) ∧
    (∀ e, InForce kss x e → ksMap (some (f, l)) kss x = some (e.2.1, keyModeToInt e.2.2)) ∧
    (∀ e rest, kss = e :: rest → x < e.1 → ksMap (some (f, l)) kss x = some (e.2.1, keyModeToInt e.2.2)) :=
  have h := sig_spec (fun v : Int × Mode => (v.1, keyModeToInt v.2)) kss x _ _ (ksMap_eq (some (f, l)) kss x hx nofun)
  ⟨h.1, h.2.1 hs, h.2.2⟩

theorem ks_default_empty_part (x : Int) (hx : 0 ≤ x) : ksMap none [] x = some (0, 1) :=
  ksMap_eq none [] x hx fun _ => rfl

/-- mode codes: +1 / −1, decoding to the mode; a missing mode (`None`, "none") is read as major -/
theorem mode_code (m : Mode) :
    (keyModeToInt m = 1 ∨ keyModeToInt m = -1) ∧ keyIntToMode (keyModeToInt m) = some m
    ∧ modeOfString "None" = some .major ∧ modeOfString "none" = some .major := by
  cases m <;> decide +kernel

example : ksMap (some (0, 9)) [(0, -3, .minor), (4, 2, .major)] 3 = some (-3, -1)
    ∧ ksMap (some (0, 9)) [(0, -3, .minor), (4, 2, .major)] 4 = some (2, 1)
    ∧ ksMap (some (0, 9)) [(4, 2, .major)] 0 = some (2, 1)
    ∧ ksMap (some (0, 9)) [] 0 = some (0, 1) := by decide +kernel

/-- the code of the "no clef" default, and the whole regenerated table decodes to what was encoded -/
theorem clef_code :
    clefSignToInt "none" = some 6 ∧
    (∀ e ∈ CLEF_TO_INT, clefIntToSign e.2 = some e.1 ∧ clefSignToInt e.1 = some e.2) := by decide +kernel

/-- the rows handed to the interpolators are the clefs with their sign codes (missing line / octave change = 0);
    an unknown sign makes the map raise -/
theorem clef_rows_spec (clefs : List RawClef) :
    (∀ rows, clefRows clefs = some rows →
      List.Forall₂ (fun (c : RawClef) (r : Int × ClefV) =>
        r.1 = c.1 ∧ r.2.1 = c.2.1 ∧ clefSignToInt c.2.2.1 = some r.2.2.1 ∧ r.2.2.2.1 = c.2.2.2.1.getD 0
          ∧ r.2.2.2.2 = c.2.2.2.2.getD 0) clefs rows) ∧
    (clefRows clefs = none ↔ ∃ c ∈ clefs, clefSignToInt c.2.2.1 = none) := by
  refine ⟨fun rows h => (clefRows_forall₂ clefs rows h).imp fun {c r} hcr => ?_, ?_⟩
  · obtain ⟨code, hc, rfl⟩ := Option.map_eq_some_iff.mp hcr
    exact ⟨rfl, rfl, hc, rfl, rfl⟩
  · rw [clefRows_eq_mapM, Lists.mapM_eq_none_iff]
    simp only [clefRow, Option.map_eq_none_iff]

/-- the staff-count rule: the largest staff number carried by any element, at least 1 -/
theorem number_of_staves_spec (staffs : List Int) :
    1 ≤ numberOfStaves staffs ∧ (∀ s ∈ staffs, s ≤ (numberOfStaves staffs : Int)) ∧
    (numberOfStaves staffs = 1 ∨ (numberOfStaves staffs : Int) ∈ staffs) := by
  -- the fold is a running maximum: at least its start, at least every element, and one of them
  have h1 := Lists.foldl_max_ge_init (1 : Int) staffs
  have h2 := Lists.foldl_max_ge_mem (1 : Int) staffs
  have h3 := Lists.foldl_max_mem (1 : Int) staffs
  unfold numberOfStaves
  rw [Lists.ite_lt_eq_max]
  generalize staffs.foldl max (1 : Int) = F at h1 h2 h3 ⊢
  have hF : (F.toNat : Int) = F := Int.toNat_of_nonneg (by omega)
  refine ⟨by omega, fun s hs => hF ▸ h2 s hs, ?_⟩
  rcases h3 with rfl | h3
  · exact Or.inl rfl
  · exact Or.inr (hF ▸ h3)

/-- `clef_spec`: one row per staff `1..number_of_staves`; on the timeline the row of staff `i+1` is
    the clef of that staff in force, the first clef of that staff before it, and
    `(staff, code of "none", 0, 0)` for a staff without clefs. -/
theorem clef_spec (f l x : Int) (hx : f ≤ x) (clefs : List RawClef) (others : List Int) (rows : Tbl ClefV)
    (hr : clefRows clefs = some rows) :
    ∃ res, clefMap (some (f, l)) clefs others x = some res ∧
      res.length = numberOfStaves (clefs.map (·.2.1) ++ others) ∧
      ∀ i : Nat, i < numberOfStaves (clefs.map (·.2.1) ++ others) →
        (rows.filter (fun r => r.2.1 = (i : Int) + 1) = [] → res[i]? = some (some ((i : Int) + 1, 6, 0, 0))) ∧
        (SortedLT rows → ∀ e, InForce (rows.filter fun r => r.2.1 = (i : Int) + 1) x e →
          res[i]? = some (some e.2)) ∧
        (∀ e rest, rows.filter (fun r => r.2.1 = (i : Int) + 1) = e :: rest → x < e.1 →
          res[i]? = some (some e.2)) := by
  obtain ⟨res, h1, h2, h3⟩ := clefMap_rows (some (f, l)) clefs others rows hr x
  refine ⟨res, h1, h2, fun i hi => ?_⟩
  rw [h3 i hi]
  -- per staff: the three clauses for the clefs of that staff, with the clef row itself as value
  obtain ⟨c0, c1, c2⟩ := sig_spec id (rows.filter fun r => r.2.1 = (i : Int) + 1) x
    (interpPrev (clefTableStaff (some (f, l)) rows 6 ((i : Int) + 1)) x) ((i : Int) + 1, 6, 0, 0)
    (by rw [mapVal_id]; exact clefStaff_eq (some (f, l)) rows 6 _ x hx nofun)
  exact ⟨fun h => congrArg some (c0 h), fun hs e he => congrArg some (c1 (List.Pairwise.filter _ hs) e he),
    fun e rest h hlt => congrArg some (c2 e rest h hlt)⟩

/-- an unknown clef sign: the map raises (`none`) -/
theorem clef_unknown_sign (span : Span) (clefs : List RawClef) (others : List Int) (x : Int)
    (h : clefRows clefs = none) : clefMap span clefs others x = none := by
  unfold clefMap; rw [h]

example : clefMap (some (0, 9)) [(0, 1, "G", some 2, some 0), (4, 3, "F", some 4, none), (6, 1, "C", some 3, some (-1))] [2] 5
    = some [some (1, 0, 2, 0), some (2, 6, 0, 0), some (3, 1, 4, 0)] := by decide +kernel

example : clefMap (some (0, 9)) [(0, 1, "G", some 2, some 0), (4, 3, "F", some 4, none), (6, 1, "C", some 3, some (-1))] [2] 7
    = some [some (1, 2, 3, -1), some (2, 6, 0, 0), some (3, 1, 4, 0)] := by decide +kernel

/-- the pickup rule: a first measure shorter than `beats · divs_per_beat` gets the start
    `round(end − beats · divs_per_beat)` (exactly `end − k` when the full bar is the integer `k`);
    otherwise, and when either quantity is NaN, it keeps its start.  The corrected start is never later. -/
theorem pickup_spec (s e : Int) (b d : Rat) :
    (((e - s : Int) : Rat) < b * d →
      |((pickupStart s e (some b) (some d) : Int) : Rat) - ((e : Rat) - b * d)| ≤ 1 / 2) ∧
    (∀ k : Int, b * d = (k : Rat) → e - s < k → pickupStart s e (some b) (some d) = e - k) ∧
    (¬ ((e - s : Int) : Rat) < b * d → pickupStart s e (some b) (some d) = s) ∧
    pickupStart s e none (some d) = s ∧ pickupStart s e (some b) none = s ∧
    (∀ b' d', pickupStart s e b' d' ≤ s) := by
  refine ⟨?_, ?_, ?_, rfl, rfl, fun b' d' => pickupStart_le s e b' d'⟩
  · intro h
    rw [pickupStart_some, if_pos h]
    exact Round.roundHalfEven_close _
  · intro k hk hlt
    have h : ((e - s : Int) : Rat) < b * d := by rw [hk]; exact_mod_cast hlt
    rw [pickupStart_some, if_pos h, hk, ← Int.cast_sub]
    exact Round.roundHalfEven_int _
  · intro h
    rw [pickupStart_some, if_neg h]

/-- `measure_spec`: for non-overlapping measures in time order (gaps allowed), a position inside
    measure `i = (s, e)` gets `(s', e)` where `s'` is the pickup-corrected start for the first measure
    and `s` otherwise. -/
theorem measure_spec (span : Span) (tss : List (Int × Nat × Nat)) (ms : List (Int × Int)) (d : Option Rat)
    (x : Int) (ht : Ordered ms) (i : Nat) (s e : Int) (hi : ms[i]? = some (s, e)) (hs : s ≤ x) (he : x < e) :
    measureMap span tss ms d x
      = some (if i = 0 then pickupStart s e (beatsAtZero span tss) d else s, e) := by
  unfold measureMap
  exact measureTbl_ordered span ms _ d x ht i s e hi hs he

/-- the beats used by the pickup rule are those of the time-signature map at time 0 -/
theorem beats_at_zero (span : Span) (tss : List (Int × Nat × Nat)) :
    beatsAtZero span tss = (tsMap span tss 0).map fun v => (v.1 : Rat) := rfl

/-- no measures: one measure spanning the timeline, at every position -/
theorem measure_default (f l : Int) (tss : List (Int × Nat × Nat)) (d : Option Rat) (x : Int) :
    measureMap (some (f, l)) tss [] d x = some (f, l) ∧ measureMap none tss [] d x = some (0, 0) :=
  ⟨rfl, rfl⟩

example : Tiles [(0, 4), (4, 20), (20, 36)] := by simp [Tiles]

example : measureMap (some (0, 36)) [(0, 4, 4)] [(0, 4), (4, 20), (20, 36)] (some 4) 2 = some (-12, 4)
    ∧ measureMap (some (0, 36)) [(0, 4, 4)] [(0, 4), (4, 20), (20, 36)] (some 4) 19 = some (4, 20)
    ∧ measureMap (some (0, 36)) [(0, 4, 4)] [(0, 16), (16, 32)] (some 4) 2 = some (0, 16) := by
  decide +kernel

/-- `number_spec`: for non-overlapping measures in time order, a position inside a numbered measure gets its number
    (whenever the map does not raise, i.e. no `None` number survives the one-step back-fill). -/
theorem number_spec (span : Span) (tss : List (Int × Nat × Nat)) (ms : List (Int × Int × Option Int))
    (d : Option Rat) (x : Int) (ht : Ordered (strip ms)) (filled : List Int)
    (hf : allSome (fillNumbers (ms.map (·.2.2))) = some filled)
    (i : Nat) (s e n : Int) (hi : ms[i]? = some (s, e, some n)) (hs : s ≤ x) (he : x < e) :
    measureNumberMap span tss ms d x = some (some n) :=
  measureNumberTbl_ordered span ms _ d x ht filled hf i s e n hi hs he

/-- when every measure carries a number the map does not raise -/
theorem number_total (ms : List (Int × Int × Option Int)) (h : ∀ m ∈ ms, m.2.2 ≠ none) :
    ∃ filled, allSome (fillNumbers (ms.map (·.2.2))) = some filled := by
  apply allSome_of_forall_some
  apply fillNumbers_no_none
  intro o ho
  obtain ⟨m, hm, rfl⟩ := List.mem_map.mp ho
  exact h m hm

/-- no measures: number 1 everywhere -/
theorem number_default (span : Span) (tss : List (Int × Nat × Nat)) (d : Option Rat) (x : Int) :
    measureNumberMap span tss [] d x = some (some 1) := by
  cases span <;> rfl

/-- a measure without a number takes the previous measure's number (index −1 wraps to the last) -/
example : fillNumbers [none, some 7, none, some 9] = [some 9, some 7, some 7, some 9] := by decide +kernel

example : measureNumberMap (some (0, 36)) [(0, 4, 4)] [(0, 4, some 1), (4, 20, none), (20, 36, some 3)] (some 4) 25
    = some (some 3) := by decide +kernel

/-- `metrical_spec`: for measures that tile, a position inside measure `i = (s, e)` gets
    `(x − s', e − s')`, `s'` the pickup-corrected start for the first measure and `s` otherwise. -/
theorem metrical_spec (span : Span) (tss : List (Int × Nat × Nat)) (ms : List (Int × Int)) (d : Option Rat)
    (x : Int) (ht : Tiles ms) (i : Nat) (s e : Int) (hi : ms[i]? = some (s, e)) (hs : s ≤ x) (he : x < e) :
    metricalMap span tss ms d x
      = some (x - (if i = 0 then pickupStart s e (beatsAtZero span tss) d else s),
              some (e - (if i = 0 then pickupStart s e (beatsAtZero span tss) d else s))) :=
  metricalTbl_tiles span ms _ d x ht i s e hi hs he

/-- with gaps between measures the distance from the (corrected) start still holds; the reported
    length is then the distance to the next bar start, which is why `metrical_spec` assumes tiling -/
theorem metrical_position_no_tiling (span : Span) (tss : List (Int × Nat × Nat)) (ms : List (Int × Int))
    (d : Option Rat) (x : Int) (ht : Ordered ms) (i : Nat) (s e : Int) (hi : ms[i]? = some (s, e))
    (hs : s ≤ x) (he : x < e) :
    (metricalMap span tss ms d x).map (·.1)
      = some (x - (if i = 0 then pickupStart s e (beatsAtZero span tss) d else s)) :=
  metricalTbl_ordered span ms _ d x ht i s e hi hs he

example : Ordered [(0, 4), (6, 20)] ∧ ¬ Tiles [(0, 4), (6, 20)]
    ∧ metricalMap (some (0, 20)) [] [(0, 8), (10, 20)] none 3 = some (3, some 10) := by
  refine ⟨by simp [Ordered], by simp [Tiles], by decide +kernel⟩

/-- the metrical position is measured from the start that `measure_map` reports, and the length is
    the extent that `measure_map` reports -/
theorem metrical_agrees_with_measure_map (span : Span) (tss : List (Int × Nat × Nat)) (ms : List (Int × Int))
    (d : Option Rat) (x : Int) (ht : Tiles ms) (i : Nat) (s e : Int) (hi : ms[i]? = some (s, e))
    (hs : s ≤ x) (he : x < e) :
    ∃ s' e', measureMap span tss ms d x = some (s', e') ∧
      metricalMap span tss ms d x = some (x - s', some (e' - s')) :=
  ⟨_, _, measure_spec span tss ms d x ht.ordered i s e hi hs he, metrical_spec span tss ms d x ht i s e hi hs he⟩

/-- no measures: metrical position `(0, 0)` everywhere (the documented default) -/
theorem metrical_default (span : Span) (tss : List (Int × Nat × Nat)) (d : Option Rat) (x : Int) :
    metricalMap span tss [] d x = some (0, some 0) := rfl

example : metricalMap (some (0, 36)) [(0, 4, 4)] [(0, 4), (4, 20), (20, 36)] (some 4) 2 = some (14, some 16)
    ∧ metricalMap (some (0, 36)) [(0, 4, 4)] [(0, 4), (4, 20), (20, 36)] (some 4) 21 = some (1, some 16)
    ∧ metricalMap (some (0, 16)) [(0, 4, 4)] [(0, 16)] (some 4) 5 = some (5, some 16) := by
  decide +kernel

/-- scalar/vector agreement at the model level: a vector query is the scalar map at every element -/
theorem scalar_vector {β : Type} (f : Int → β) (xs : List Int) :
    vec f xs = xs.map f ∧ (vec f xs).length = xs.length ∧
      ∀ i (h : i < xs.length), (vec f xs)[i]? = some (f xs[i]) := by
  refine ⟨rfl, by simp [vec], fun i h => ?_⟩
  simp [vec, List.getElem?_eq_getElem h]

end C10
