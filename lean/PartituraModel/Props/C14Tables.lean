/-
C14 — the tie between the model and the constants of the live source.

`Gen/C14Tables.lean` is regenerated from /repo on every run by harness/translate_c14.py (keyword defaults through
`inspect.signature`, everything else by calling the live functions on probes).  The model USES those constants
where the property does not fix a value (default threshold / ppq / mpq, defaults of missing note keys, defaults of
missing columns, the id prefix, the number a missing `track` counts under): editing such a value in the source
changes the model with it.  Where the property — or the shape of the model — fixes the value, the theorems below
state it, so that an edit of the source stops them from building.
-/
import PartituraModel.Proofs.C14Valid

namespace C14
open Model Model.Pedal C14P

/-- every constant could be obtained from the live source -/
theorem tables_extracted : Gen.C14.extractionOk = true ∧ Gen.C14.extractionNotes = [] := by decide

/-- "track numbers of a performance's parts are made unique": `Performance(parts)` renumbers unless told not to;
    "ids prefixed when there are several parts": `note_array()` prefixes unless told not to -/
theorem unique_by_default : Gen.C14.ensureUniqueDefault = true ∧ Gen.C14.uniqueIdDefault = true := by decide

/-- "the sustain pedal": MIDI controller 64, and no other controller number holds a note -/
theorem sustain_cc_is_64 : sustainCC = 64 ∧ Gen.C14.pedalNumbers = [64] := by decide

/-- "at or below the threshold" is up: a value equal to the threshold does not hold a note, one above it does —
    which is the test `thr < value` of `pedalEvents` -/
theorem pedal_strictly_above (thr : Int) :
    Gen.C14.pedalDownAtThreshold = false ∧ Gen.C14.pedalDownAbove = true
    ∧ pedalEvents [⟨sustainCC, 0, thr, none⟩, ⟨sustainCC, 1, thr + 1, none⟩] thr = [(0, false), (1, true)] := by
  refine ⟨by decide, by decide, ?_⟩
  simp [pedalEvents]

/-- the closing sentinel of the pedal table lies one second after the last pedal event / the last release
    (`pedalTable`, `closing`) -/
theorem closing_pads : Gen.C14.closePadPedal = 1 ∧ Gen.C14.closePadOff = 1 := by decide

/-- the validators accept exactly the MIDI ranges: pitch and velocity 0..127, `note_on` and `note_on_tick` from 0 on —
    the ranges of `okRange` / `validInit` -/
theorem midi_ranges (v : Int) :
    (okRange v = true ↔ Gen.C14.pitchLo ≤ v ∧ v ≤ Gen.C14.pitchHi)
    ∧ (okRange v = true ↔ Gen.C14.velLo ≤ v ∧ v ≤ Gen.C14.velHi)
    ∧ Gen.C14.onLo = 0 ∧ Gen.C14.onTickLo = 0 := by
  refine ⟨?_, ?_, by decide, by decide⟩
  · rw [okRange_iff]
    show _ ↔ (0 : Int) ≤ v ∧ v ≤ 127
    exact Iff.rfl
  · rw [okRange_iff]
    show _ ↔ (0 : Int) ≤ v ∧ v ≤ 127
    exact Iff.rfl

/-- what the constructor fills in structurally (not as numbers): a missing `id` is `None`, a missing `sound_off` is
    the release, each pitch key is filled from the other; a missing onset / release is a negative number, so that
    the validators reject it (`init_accepts_iff`) -/
theorem note_defaults_shape :
    Gen.C14.idDefaultIsNone = true ∧ Gen.C14.soundOffFollowsOff = true ∧ Gen.C14.pitchFromMidi = true
    ∧ Gen.C14.midiFromPitch = true ∧ Gen.C14.missingOn < 0 ∧ Gen.C14.missingOff < 0 := by decide

/-- the key of an assignment `note[key] = value` -/
def SetOp.key : SetOp → String
  | .id _ => "id" | .pitch _ => "pitch" | .noteOn _ => "note_on" | .noteOff _ => "note_off"
  | .soundOff _ => "sound_off" | .velocity _ => "velocity" | .track _ => "track" | .channel _ => "channel"
  | .noteOnTick _ => "note_on_tick" | .noteOffTick _ => "note_off_tick" | .midiPitch _ => "midi_pitch"
  | .other => "foo"

/-- `__setitem__` raises `KeyError` exactly for the keys outside the live `_accepted_keys` (probed on the universe
    of keys that occur anywhere in the code: every one of them is the key of a `SetOp`, the rest is `other`) -/
theorem accepted_keys_table (n : PNote) (op : SetOp) :
    setItem n op = .error .key ↔ SetOp.key op ∉ Gen.C14.acceptedKeys := by
  have hval : ∀ (c : Prop) [Decidable c] (a : PNote),
      ¬ (if c then Except.ok a else Except.error SetErr.value) = Except.error SetErr.key := by
    intro c _ a h
    split at h <;> cases h
  have hkeys : Gen.C14.acceptedKeys = ["id", "pitch", "note_on", "note_off", "sound_off", "velocity", "track", "channel",
      "note_on_tick", "note_off_tick"] := rfl
  rw [hkeys]
  cases op with
  | midiPitch v => exact iff_of_true rfl (by decide +kernel : "midi_pitch" ∉ _)
  | other => exact iff_of_true rfl (by decide +kernel : "foo" ∉ _)
  | id v | track v | channel v =>
    exact iff_of_false (fun h => by cases h) (not_not.mpr (by simp only [SetOp.key, List.mem_cons, true_or, or_true]))
  | pitch v | velocity v | noteOnTick v | noteOffTick v | noteOn v | noteOff v | soundOff v =>
    exact iff_of_false (hval _ _) (not_not.mpr (by simp only [SetOp.key, List.mem_cons, true_or, or_true]))

/-- every key the live source accepts is the key of a `SetOp`: a key added to `_accepted_keys` stops this from building -/
theorem accepted_keys_are_setops :
    ∀ k ∈ Gen.C14.acceptedKeys, k ∈ ["id", "pitch", "note_on", "note_off", "sound_off", "velocity", "track", "channel",
                                      "note_on_tick", "note_off_tick"] :=
  fun _ h => h

/-- the columns of `PerformedPart.note_array()` are the fields of `ARow` in this order; seconds are float32, the
    integers int32 (the harness keeps every compared time on a grid both hold exactly) -/
theorem note_array_columns :
    Gen.C14.noteArrayFields = [("onset_sec", "f4"), ("duration_sec", "f4"), ("onset_tick", "i4"), ("duration_tick", "i4"),
                               ("pitch", "i4"), ("velocity", "i4"), ("track", "i4"), ("channel", "i4"), ("id", "U256")] :=
  rfl

/-- `from_note_array`: the mandatory columns are the ones `ArrFields.sec` / `.vel` (and `pitch`) stand for, the
    optional ones `track`, `channel`, `id`; the TICK columns are ignored — removing them changes nothing in the
    rebuilt part (`fromArray` never reads `Row.onsetTick` / `Row.durTick`: `from_array_ignores_ticks`) -/
theorem from_array_columns :
    (∀ k, k ∈ Gen.C14.fromArrayMandatory ↔ k ∈ ["onset_sec", "duration_sec", "pitch", "velocity"])
    ∧ (∀ k, k ∈ Gen.C14.fromArrayOptional ↔ k ∈ ["track", "channel", "id"])
    ∧ (∀ k, k ∈ Gen.C14.fromArrayIgnored ↔ k ∈ ["onset_tick", "duration_tick"]) := by
  refine ⟨?_, ?_, ?_⟩ <;> intro k <;> simp [Gen.C14.fromArrayMandatory, Gen.C14.fromArrayOptional, Gen.C14.fromArrayIgnored]

/-- the model of `from_note_array` does not look at the tick columns of the rows it is given -/
theorem from_array_ignores_ticks (f : ArrFields) (rows : List ARow) (g : Row → Int × Int) :
    fromArray f (rows.map (fun r => { r with row := { r.row with onsetTick := (g r.row).1, durTick := (g r.row).2 } }))
      = fromArray f rows := by
  generalize hh : (fun r : ARow => ({ r with row := { r.row with onsetTick := (g r.row).1, durTick := (g r.row).2 } } : ARow)) = h
  have hid : ∀ r, (h r).id = r.id := by intro r; rw [← hh]
  have hrow : ∀ (id : String) (r : ARow), rawOfRow f id (h r).row = rawOfRow f id r.row := by intro id r; rw [← hh]; rfl
  have hids : arrayIds f (rows.map h) = arrayIds f rows := by
    unfold arrayIds
    cases rows with
    | nil => simp
    | cons r0 rest => simp [List.all_map, Function.comp_def, hid]
  have hemp : (rows.map h).isEmpty = rows.isEmpty := by cases rows <;> rfl
  have hz : ((arrayIds f rows).zip (rows.map h)).map (fun ir => rawOfRow f ir.1 ir.2.row)
      = ((arrayIds f rows).zip rows).map (fun ir => rawOfRow f ir.1 ir.2.row) := by
    rw [List.zip_map_right, List.map_map]
    apply List.map_congr_left
    intro ir _
    exact hrow ir.1 ir.2
  unfold fromArray
  rw [hids, hemp, hz]

/-- a missing `track` key counts as a track of its own that no renumbered track can collide with: the number it is
    counted under is negative, the new numbers are not -/
theorem missing_track_negative : Gen.C14.missingTrack < 0 := by decide

end C14
