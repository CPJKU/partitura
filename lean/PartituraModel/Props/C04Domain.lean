/-
C04 — the property's domain stated on the SCORE, and the property with no other hypothesis.

"… in which no two notes of equal pitch overlap within one track/channel" is a statement about musical time.  The
theorems of Props/C04Export.lean assume it of the written ticks (`C04P.NoOverlap (routedTo …)`).  Here it is stated
in quarter notes on the rows of the score (`ScoreNoOverlap`) and the tick version is derived: the exact tick image is
a strictly increasing function of musical time, the same for all parts of a file.
-/
import PartituraModel.Props.C04ImportSigs

namespace C04
open Model Model.Ticks Model.MidiPair Model.MidiModes Model.ScoreMidi

/-- the written note of a row -/
def rowRec (p : Nat) (o : Rat) (vel : Nat) (r : ScoreRow) : NoteRec :=
  ⟨tick p r.1 o r.2.1, tick p r.1 o (r.2.1 + r.2.2.1), r.2.2.2.1, r.2.2.2.2, vel⟩

theorem routedTo_rows (p : Nat) (o : Rat) (vel : Nat) (ktc : List (Key × (Nat × Nat))) (parts : List PartIn) (tr : Nat) :
    routedTo p o vel ktc parts tr = (routedRows ktc parts tr).map (rowRec p o vel) := by
  unfold routedTo routedRows
  rw [List.map_flatMap]
  apply List.flatMap_congr
  intro xi _
  rw [List.map_filterMap]
  apply List.filterMap_congr
  intro n _
  cases lookup (xi.1.group, xi.2, n.2.2.2) ktc with
  | none => rfl
  | some tc =>
    obtain ⟨t, ch⟩ := tc
    by_cases ht : t = tr <;> simp [ht, rowRec]

theorem routedRows_base (ktc : List (Key × (Nat × Nat))) (parts : List PartIn) (tr : Nat) :
    ∀ r ∈ routedRows ktc parts tr, ∃ x ∈ parts, r.1 = x.base := by
  intro r hr
  simp only [routedRows, List.mem_flatMap, List.mem_filterMap] at hr
  obtain ⟨xi, hxi, n, _, hn⟩ := hr
  refine ⟨xi.1, List.fst_mem_of_mem_zipIdx hxi, ?_⟩
  split at hn
  · split at hn
    · cases hn; rfl
    · cases hn
  · cases hn

/-- **The domain on the score gives the domain on the file** (`shift`, `time_sig_change`): if no two notes of equal
    pitch overlap in musical time within a track and channel of the mode, the notes routed to every track do not
    overlap in written ticks — the hypothesis `hno` of the export and round-trip theorems. -/
theorem score_domain_gives_tick_domain (mode : Nat) (a : Anacrusis) (minPpq vel : Nat) (parts : List PartIn) (ex : Exported)
    (h : saveScoreMidi mode a minPpq vel parts = some ex) (ha : a ≠ .padBar)
    (hw : ∀ x ∈ parts, C04T.WellFormed x.base) (hdom : ScoreNoOverlap mode parts) :
    ∀ o tcs, origin a (parts.map (·.base)) = some o → mapToTrackChannel mode (noteKeys parts) = some tcs →
      ∀ tr, C04P.NoOverlap (routedTo ex.ppq o vel ((noteKeys parts).zip tcs) parts tr) := by
  intro o tcs ho htc tr
  obtain ⟨hP, hdiv, hex⟩ := C04E.save_exact h hw
  replace hex := hex o (C04T.origin_isInt _ a _ o hdiv ha ho)
  rw [routedTo_rows]
  unfold C04P.NoOverlap
  rw [List.pairwise_map]
  refine (hdom tcs htc tr).imp_of_mem ?_
  intro m n hm hn hc
  refine (C04P.compat_iff_apart _ _).mpr fun hkey => ?_
  obtain ⟨xm, hxm, hbm⟩ := routedRows_base _ parts tr m hm
  obtain ⟨xn, hxn, hbn⟩ := routedRows_base _ parts tr n hn
  -- a written tick is related to the musical time it is the exact image of; the relation keeps the order
  let F : Rat → Int → Prop := fun q z => (z : Rat) = (ex.ppq : Rat) * (q - o)
  have hm' : ∀ t, F (quarter m.1 t) (tick ex.ppq m.1 o t) := fun t => hbm ▸ hex xm hxm t
  have hn' : ∀ t, F (quarter n.1 t) (tick ex.ppq n.1 o t) := fun t => hbn ▸ hex xn hxn t
  have hP' : (0 : Rat) < (ex.ppq : Rat) := by exact_mod_cast hP
  refine C04P.Apart.of_embedding F (hm' _) (hm' _) (hn' _) (hn' _) (fun {x y x' y'} hx hy => ⟨?_, ?_, ?_⟩)
    (hc (by simpa [C04P.keyOf, rowRec] using hkey))
  · rw [← Int.cast_lt (R := Rat), hx, hy, mul_lt_mul_iff_right₀ hP', sub_lt_sub_iff_right]
  · rw [← Int.cast_le (R := Rat), hx, hy, mul_le_mul_iff_right₀ hP', sub_le_sub_iff_right]
  · rw [← Int.cast_inj (α := Rat), hx, hy, mul_right_inj' (ne_of_gt hP'), sub_left_inj]

theorem pairwiseB_iff {α : Type} (r : α → α → Bool) (l : List α) :
    pairwiseB r l = true ↔ l.Pairwise (fun a b => r a b = true) := by
  induction l with
  | nil => simp [pairwiseB]
  | cons a as ih => simp [pairwiseB, ih, List.pairwise_cons]

/-- the decided domain (`dom` of the driver, answered for every generated score) is the domain -/
theorem scoreNoOverlapB_iff (mode : Nat) (parts : List PartIn) :
    scoreNoOverlapB mode parts = true ↔ ScoreNoOverlap mode parts := by
  unfold scoreNoOverlapB ScoreNoOverlap
  cases htc : mapToTrackChannel mode (noteKeys parts) with
  | none => simp
  | some tcs =>
    simp only [Option.some.injEq, forall_eq', List.all_eq_true, List.mem_range, pairwiseB_iff, decide_eq_true_eq]
    constructor
    · intro hall tr
      by_cases hlt : tr < (tcs.map (·.1)).foldl max 0 + 1
      · exact hall tr hlt
      · -- no key is mapped to a track beyond the largest
        have : routedRows ((noteKeys parts).zip tcs) parts tr = [] := by
          unfold routedRows
          rw [List.flatMap_eq_nil_iff]
          intro xi _
          rw [List.filterMap_eq_nil_iff]
          intro n _
          cases hl : lookup (xi.1.group, xi.2, n.2.2.2) ((noteKeys parts).zip tcs) with
          | none => rfl
          | some tc =>
            obtain ⟨t, ch⟩ := tc
            have hmem := (List.of_mem_zip (Model.lookup_mem hl)).2
            have hle := Lists.foldl_max_ge_mem 0 (tcs.map (·.1)) t (List.mem_map.mpr ⟨(t, ch), hmem, rfl⟩)
            have : t ≠ tr := by omega
            simp [this]
        rw [this]
        exact List.Pairwise.nil
    · intro hall tr _
      exact hall tr

/-- **Property C04** (`shift`, `time_sig_change`) with hypotheses about the user's input only: a well-formed score
    (positive divisions, ascending change times) with a sounding note, in which no two notes of equal pitch overlap
    in musical time within one track / channel of the export mode; any export and import mode 0..5, minimum ppq and
    audible velocity.  Then exporting and importing both return, the ticks per quarter are the least common multiple
    of the divisions doubled up to the minimum, the imported parts hold exactly the score's sounding notes (onset and
    duration in quarter notes, MIDI pitch) with `ppq` divisions per quarter, every note is in the (part, voice) the
    import mode gives to the (track, channel) the export mode chose, and the tempo events are the exporter's. -/
theorem property_C04 (mode imode : Nat) (a : Anacrusis) (minPpq vel : Nat) (parts : List PartIn)
    (hm : mode ≤ 5) (him : imode ≤ 5) (ha : a ≠ .padBar) (hvel : 0 < vel)
    (hw : ∀ x ∈ parts, C04T.WellFormed x.base) (hnote : ∃ x ∈ parts, x.notes ≠ [])
    (hts : a = .timeSigChange → ∀ x ∈ parts, ∀ m ∈ x.measures, (tsAt x.base m.1).isSome)
    (hdom : ScoreNoOverlap mode parts) :
    ∃ ex imp o tcs, saveScoreMidi mode a minPpq vel parts = some ex ∧
      loadScoreMidi imode ex.ppq (ex.tracks.map (deltasFrom 0)) = some imp ∧
      origin a (parts.map (·.base)) = some o ∧ mapToTrackChannel mode (noteKeys parts) = some tcs ∧
      ex.ppq = ppq (parts.flatMap fun x => divisions x.base) minPpq ∧
      (importedRows o imp).Perm (scoreRows parts) ∧ (∀ e ∈ imp.parts, e.2.divs = ex.ppq) ∧
      (importedCells imp).Perm (writtenCells imode ex.ppq o ((noteKeys parts).zip tcs) parts) ∧
      imp.tempos.Perm (exportTempos (fun x t => tick ex.ppq x.base o t) parts) := by
  obtain ⟨ex, h⟩ := export_returns mode a minPpq vel parts hm hw hnote ⟨hts, fun h => absurd h ha⟩
  have hppq := C04E.save_ppq h
  have hno := score_domain_gives_tick_domain mode a minPpq vel parts ex h ha hw hdom
  rw [hppq] at hno
  exact property_end_to_end mode imode a minPpq vel parts hm him ha hvel hw hnote hts hno

/-- non-vacuity: `demoScore` is in the domain for mode 1 (both parts on channels of one track; touching notes of one
    pitch in two voices of one channel, a grace note on a boundary) -/
example : ScoreNoOverlap 1 demoScore := (scoreNoOverlapB_iff 1 demoScore).mp (by decide +kernel)

end C04
