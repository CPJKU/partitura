/-
C11 — the measure theorems and the composed pipeline under ONE executable condition on the part.

`readingOKB p` (Model/MeasuresDec.lean) is computed from the part alone — signatures in time order inside a non-empty
timeline; existing measures in time order, non-empty, disjoint, inside the timeline, not straddling a signature change;
positive divisions and signature numbers; every stretch of one time signature on one linear piece of C02's beat map with a
whole number of divisions per beat.  The driver prints it for every generated part (stream `rok`), so the evidence counts
the parts on which the theorems below speak about the real `add_measures`.
-/
import PartituraModel.Props.C11Compose
import PartituraModel.Proofs.C11Decide

namespace C11
open Model Model.Dur Model.Meas Model.San Model.Tup Gen C11Meas C11Bar C11Rows C11Sound C11Decide

/-- **reading_ok_exact**: the executable test holds EXACTLY when the side conditions of `measures_tile_real`,
    `numbers_consecutive_real`, `measure_lengths_real` do — it is a decision procedure for them, not a stronger condition -/
theorem reading_ok_exact (p : PartM) :
    readingOKB p = true ↔ ∃ l, stretches p = some l ∧ TsOK p ∧ ExistingOK p l ∧ BarsIntegral p l :=
  readingOKB_iff p

/-- **measures_checked**: on every part that passes the executable test, after `add_measures` the measures are pairwise
    disjoint in time order, lie inside the timeline, cover it, contain the old measures with their extents, and are
    numbered 1, 2, …, n in time order -/
theorem measures_checked (p : PartM) (fuel : Nat) (ms' : List Measure) (hok : readingOKB p = true)
    (h : addMeasures p fuel = .ok ms') :
    ms'.Pairwise (fun m m' => m.stop ≤ m'.start) ∧
    (∀ m ∈ ms', p.first ≤ m.start ∧ m.stop ≤ p.last) ∧
    (∀ t, p.first ≤ t → t < p.last → ∃ m ∈ ms', m.start ≤ t ∧ t < m.stop) ∧
    (p.measures.map C11Meas.ext).Sublist (ms'.map C11Meas.ext) ∧
    ∀ (i : Nat) (hi : i < ms'.length), (ms'[i]).number = some (1 + (i : Int)) := by
  obtain ⟨l, hl, h1, h2, h3⟩ := (readingOKB_iff p).mp hok
  obtain ⟨a, b, c, d⟩ := measures_tile_real p fuel l ms' h1 hl h2 h3 h
  exact ⟨a, b, c, d, numbers_consecutive_real p fuel l ms' h1 hl h2 h3 h⟩

/-- **measure_lengths_checked**: … and every measure is an old one or a bar of `beats * L` divisions inside a stretch of
    one time signature with `L` divisions per beat, shorter only where the stretch ends or an existing measure starts -/
theorem measure_lengths_checked (p : PartM) (fuel : Nat) (ms' : List Measure) (hok : readingOKB p = true)
    (h : addMeasures p fuel = .ok ms') :
    ∃ l, stretches p = some l ∧
    ∀ m ∈ ms', (∃ x ∈ p.measures, x.start = m.start ∧ x.stop = m.stop) ∨
      ∃ x ∈ l, ∃ L : Nat, StretchBeat p x L ∧ x.1 ≤ m.start ∧ m.start < x.2.1 ∧ m.stop ≤ x.2.1 ∧
        m.stop ≤ m.start + x.2.2 * L ∧
        (m.stop = m.start + x.2.2 * L ∨ m.stop = x.2.1 ∨ ∃ y ∈ p.measures, y.start = m.stop) := by
  obtain ⟨l, hl, h1, h2, h3⟩ := (readingOKB_iff p).mp hok
  exact ⟨l, hl, measure_lengths_real p fuel l ms' h1 hl h2 h3 h⟩

/-- **pipeline_checked**: the composed normalisation on every part that passes the executable test and every note list
    with distinct keys whose ties have back links and join a note of positive length to one that starts where it ends -/
theorem pipeline_checked (p : PartM) (fuel : Nat) (ms' : List Measure) (hok : readingOKB p = true)
    (h : addMeasures p fuel = .ok ms') (ns : List Note) (tol : Nat) (hkeys : KeysOK ns) (hlinks : LinksOK ns)
    (hc : C11Walk.ContigAll ns) (hpos : ∀ n ∈ ns, n.tieNext.isSome = true → n.start < n.stop) :
    soundingMidi (sanitizeTies (findTuplets p.qd (tieNotes { p with measures := ms' } ns)).notes tol) = soundingMidi ns ∧
    (∀ n ∈ sanitizeTies (findTuplets p.qd (tieNotes { p with measures := ms' } ns)).notes tol,
      p.first ≤ n.start → n.start < n.stop → n.stop ≤ p.last → ∃ m ∈ ms', m.start ≤ n.start ∧ n.stop ≤ m.stop) ∧
    C11Walk.ContigAll (sanitizeTies (findTuplets p.qd (tieNotes { p with measures := ms' } ns)).notes tol) := by
  obtain ⟨l, hl, h1, h2, h3⟩ := (readingOKB_iff p).mp hok
  exact pipeline_normalises_local p fuel l ms' h1 hl h2 h3 h ns tol hkeys hlinks hc hpos

-- non-vacuity: the part of Props/C11Bar.lean (6/8 at 2 per quarter, then 3/4 at 4 per quarter) passes the test, also
-- with an existing measure; a quarter-duration change inside a stretch, a beat of 1.5 divisions and overlapping
-- measures do not
example : readingOKB exReal = true := by decide +kernel
example : readingOKB { exReal with measures := [⟨12, 20, some 7⟩] } = true := by decide +kernel
example : readingOKB { exReal with qd := [(0, 2), (5, 4)] } = false := by decide +kernel
example : readingOKB { exReal with qd := [(0, 3), (12, 4)] } = false := by decide +kernel
example : readingOKB { exReal with measures := [⟨0, 8, none⟩, ⟨6, 12, none⟩] } = false := by decide +kernel

end C11
