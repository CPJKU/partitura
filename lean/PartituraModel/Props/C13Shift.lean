/-
C13 — the round trip under `remove_silence`, a time margin and `end_time`.

`decode_encode` (Props/C13.lean) is stated for the options under which the decoder reads the times back exactly
(no margin, silence kept, no end time).  The other options move every note by ONE common shift — frame 0 is the
first onset when silence is removed, the leading margin is `int(time_margin * time_div)` frames — and append empty
columns; the decoder cannot know the shift, everything else it recovers: `decode_encode_shift`.
-/
import PartituraModel.Props.C13

namespace C13
open Model Model.PianoRoll
open List

/-- **round trip, any `remove_silence` / non-negative `time_margin` / `end_time` / `piano_range`**: turning the roll
    of non-touching notes that are grid-aligned relative to frame 0 back into a note array recovers every pitch,
    duration and velocity, and every onset moved by the one shift `int(time_margin * time_div) / time_div - min_time`
    (`min_time = t0Of`: `t0_spec`) -/
theorem decode_encode_shift (o : Opts) (notes : List Note) (r : Roll) (ho : ShiftOpts o)
    (h : makePianoroll o notes = some r) (hg : ∀ n ∈ notes, GridAlignedAt o (t0Of o notes) n)
    (hv : ∀ n ∈ notes, 0 < n.vel) (hnt : NonTouching notes)
    (hpr : o.pianoRange = true → ∀ n ∈ notes, 21 ≤ n.pitch ∧ n.pitch ≤ 108) :
    ∃ out, decode r.rows.toNat r.toCols (o.timeDiv : Rat) = some out ∧
      out ~ notes.map (fun n =>
        (n.pitch, n.onset + (((marginFrames o : Int) : Rat) / (o.timeDiv : Rat) - t0Of o notes), n.dur, n.vel)) := by
  obtain ⟨out, h1, h2⟩ := decode_encode_frames o notes r ho.full h hg (fun n hn => (hv n hn).ne') hnt hpr
  refine ⟨out, h1, h2.trans (Perm.of_eq (map_congr_left fun n hn => ?_))⟩
  rw [onFrame_div ho.full (hg n hn)]

/-- without margin, with silence kept and no negative onset the shift is 0: `decode_encode` is the special case -/
theorem shift_zero (o : Opts) (notes : List Note) (ho : RoundTripOpts o) (hne : notes ≠ [])
    (hg : ∀ n ∈ notes, GridAligned o n) :
    ShiftOpts o ∧ (∀ n ∈ notes, GridAlignedAt o (t0Of o notes) n) ∧
    ((marginFrames o : Int) : Rat) / (o.timeDiv : Rat) - t0Of o notes = 0 :=
  shift_of_roundTrip ho hg

def shOpts : Opts := { exOpts with removeSilence := true, timeMargin := 3 / 4, endTime := some 6 }
/-- first onset 1/2 (frame 0 after the one-frame margin `int(3/4 * 2)`), a gap between the two notes of pitch 60 -/
def shNotes : List Note := [⟨60, 2, 1, 10⟩, ⟨62, 1/2, 3, 90⟩, ⟨60, 1/2, 1, 50⟩]

example : ShiftOpts shOpts := ⟨by decide, rfl, rfl, rfl, by decide +kernel, rfl⟩
example : t0Of shOpts shNotes = 1 / 2 ∧ marginFrames shOpts = 1 := by decide +kernel
example : ∀ n ∈ shNotes, GridAlignedAt shOpts (t0Of shOpts shNotes) n := by
  intro n hn
  simp only [shNotes, mem_cons, not_mem_nil, or_false] at hn
  rcases hn with rfl | rfl | rfl
  · exact ⟨3, 2, by decide, by decide +kernel, by decide +kernel⟩
  · exact ⟨0, 6, by decide, by decide +kernel, by decide +kernel⟩
  · exact ⟨0, 2, by decide, by decide +kernel, by decide +kernel⟩
/-- 13 columns (end time 6 is frame 11, plus the trailing 3/2 frames rounded up); here the one margin frame and the
    removed silence of 1/2 cancel: every onset comes back as it was -/
example : (makePianoroll shOpts shNotes).bind (fun r => (decode r.rows.toNat r.toCols 2).map (fun l => (r.cols, l)))
    = some (13, [(60, 1/2, 1, 50), (62, 1/2, 3, 90), (60, 2, 1, 10)]) :=
  (bind_toCols _ [60, 62] (fun r c => (decode r.rows.toNat c 2).map (fun l => (r.cols, l))) (by decide +kernel)).trans
    (by decide +kernel)
/-- with `time_margin = 2` every onset comes back 4/2 - 1/2 = 3/2 later -/
example : (makePianoroll { shOpts with timeMargin := 2 } shNotes).bind (fun r => decode r.rows.toNat r.toCols 2)
    = some [(60, 2, 1, 50), (62, 2, 3, 90), (60, 7/2, 1, 10)] :=
  (bind_toCols _ [60, 62] (fun r c => decode r.rows.toNat c 2) (by decide +kernel)).trans (by decide +kernel)

end C13
