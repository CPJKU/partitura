/-
C05 — the table composed with the models of the part's maps.

`rowsC` (Model/NoteArrayMaps.lean) builds the maps handed to `note_array_from_note_list` from the
description of the part by evaluating Model/TimeMap.lean (C02: `beat_map`, `quarter_map`,
`inv_beat_map`) and Model/StepMap.lean (C10: `key_signature_map`, `time_signature_map`,
`metrical_position_map`).  The theorems say: the columns of every row ARE those models' values at
the note's onset / offset, as exact rationals; float32 rounding enters only in the stored sort key.
-/
import PartituraModel.Props.C05
import PartituraModel.Proofs.C05Compose
import PartituraModel.Proofs.C05StoredScore
import PartituraModel.Proofs.C05Float

namespace C05
open NoteArray List Model

/-- **The columns of the table are the C02 / C10 models' values.**  For every row of
    `note_array_from_part` on a described part there is a note of `notes_tied` with its tied duration
    such that, as exact rationals / integers,
    * onset_beat = `beat_map(onset)`, onset_beat + duration_beat = `beat_map(onset + duration_tied)`,
    * the same for the quarter columns and `quarter_map`,
    * the stored sort key is the float32 rounding of onset_beat (the only rounding),
    * with the option on: (ks_fifths, ks_mode) = `key_signature_map(onset)`,
      (ts_beats, ts_beat_type, ts_mus_beats) = `time_signature_map(onset)`,
      (rel_onset_div, tot_measure_div) = `metrical_position_map(onset)` where the measure map's
      `divs_per_beat` is `inv_beat_map(1 + beat_map(0))`, and is_downbeat = [rel_onset_div = 0]. -/
theorem row_values_composed (d : Desc) (notes : List Note) (o : Opts) (out : List Row)
    (h : rowsC d notes o = some out) :
    ∀ r ∈ out, ∃ n ∈ notesTied notes, ∃ dur,
      durationTied notes n = some dur ∧ ComposedColumns d o n dur r := by
  obtain ⟨hok, hrows⟩ := rowsC_some d notes o out h
  intro r hr
  obtain ⟨n, hn, dv, dur, pch, m, _, hd, _, _, hrow⟩ := row_values (d.part o notes) o out hrows r hr
  have hn' : n ∈ notesTied notes := hn
  have hd' : durationTied notes n = some dur := hd
  refine ⟨n, hn', dur, hd', ?_⟩
  subst hrow
  exact mkRow_composed d o n dur dv pch n.step (alterOr0 n) n.octave (needOK_mem d o notes _ hok n hn' dur hd')

/-- the composed table has one row per note of `notes_tied` and is ordered by (stored onset, pitch) -/
theorem rows_composed_bijective_sorted (d : Desc) (notes : List Note) (o : Opts) (out : List Row)
    (h : rowsC d notes o = some out) :
    out.map (·.id) ~ (notesTied notes).map (·.id) ∧ out.length = (notesTied notes).length ∧
    out.Pairwise (Lex (·.key) (fun a b => a.pitch ≤ b.pitch)) := by
  obtain ⟨_, hrows⟩ := rowsC_some d notes o out h
  obtain ⟨h1, h2⟩ := rows_bijective (d.part o notes) o out hrows
  exact ⟨h1, h2, table_sorted (d.part o notes) o out hrows⟩

/-- the rest array (no collapsing) of a described part obeys the same rules for its rests -/
theorem rest_row_values_composed (d : Desc) (notes : List Note) (o : Opts) (out : List Row)
    (h : restRowsC d notes o false = some out) :
    out.map (·.id) ~ (restsOf notes).map (·.id) ∧
    ∀ r ∈ out, ∃ n ∈ restsOf notes, ∃ dur,
      durationTied notes n = some dur ∧ r.pitch = 0 ∧ ComposedColumns d o n dur r := by
  obtain ⟨hok, hrows⟩ := restRowsC_some d notes o out h
  refine ⟨(rest_rows_bijective (d.part o notes) out hrows).1, ?_⟩
  intro r hr
  obtain ⟨n, hn, dur, m, hd, _, hrow, _⟩ := (rest_row_values (d.part o notes) out hrows).2 r hr
  have hn' : n ∈ restsOf notes := hn
  have hd' : durationTied notes n = some dur := hd
  refine ⟨n, hn', dur, hd', ?_, ?_⟩
  · rw [hrow]; rfl
  · rw [hrow]
    exact mkRow_composed d o n dur 0 0 "0" 0 0 (needOK_mem d o notes _ hok n hn' dur hd')

/-- **The only rounding in the table is a correct float32 rounding.**  For `x ≠ 0` in the normal range, with
    `e = expOf |x|` the binary exponent (`2^e ≤ |x| < 2^(e+1)`): `f32round x` is `m * 2^(e-23)` for an integer
    `|m| ≤ 2^24` (so it is a binary32 number), it is within half a unit in the last place of `x`, hence within
    `|x| / 2^24` — the tolerance the float columns are compared with is 16 times that. -/
theorem float32_rounding (x : Rat) (hx : x ≠ 0) (hnorm : pow2 (-126) ≤ |x|) :
    pow2 (expOf |x|) ≤ |x| ∧ |x| < pow2 (expOf |x| + 1) ∧
    |f32round x - x| ≤ pow2 (expOf |x| - 24) ∧ |f32round x - x| ≤ |x| / 2 ^ 24 ∧
    ∃ m : Int, f32round x = (m : Rat) * pow2 (expOf |x| - 23) ∧ |m| ≤ 2 ^ 24 := by
  obtain ⟨h1, h2, h3, h4⟩ := f32round_spec x hx hnorm
  refine ⟨h1, h2, h3, ?_, h4⟩
  have e : pow2 (expOf |x|) = 2 ^ 24 * pow2 (expOf |x| - 24) := by
    rw [← Pow2.add_natCast pow2_eq_zpow, show expOf |x| - 24 + (24 : ℕ) = expOf |x| by omega]
  rw [le_div_iff₀ (by norm_num : (0 : Rat) < 2 ^ 24)]
  calc |f32round x - x| * 2 ^ 24 ≤ pow2 (expOf |x| - 24) * 2 ^ 24 := by
        apply mul_le_mul_of_nonneg_right h3; norm_num
    _ = pow2 (expOf |x|) := by rw [e]; ring
    _ ≤ |x| := h1

theorem float32_zero : f32round 0 = 0 := rfl

/-- `ensure_notearray` on a `Part`, a `PartGroup`, a `Score` is the method of that object -/
theorem ensure_is_method (u : Bool) (o : Opts) :
    (∀ d ns, ensureNoteArray u o (.part d ns) = partNoteArray o d ns) ∧
    (∀ cs, ensureNoteArray u o (.group cs) = groupNoteArray u o cs) ∧
    (∀ st, ensureNoteArray u o (.score st) = scoreNoteArray u o st) ∧
    (∀ c d ns, ensureRestArray u o c (.part d ns) = partRestArray o c d ns) ∧
    (∀ c cs, ensureRestArray u o c (.group cs) = groupRestArray u o c cs) :=
  ⟨fun _ _ => rfl, fun _ => rfl, fun _ => rfl, fun _ _ _ => rfl, fun _ _ => rfl⟩

/-- **Every entry point reduces to the part-list case.**  Whatever is handed to `ensure_notearray`, the
    answer is: the array itself (a structured array), a refusal, the table of the one part, or
    `note_array_from_part_list` on an explicit list of parts / groups — the children of the group,
    the items of the list (which must all be parts), or, for a score, its parts in depth-first order
    with the grouping forgotten. -/
theorem dispatch_reduces (u : Bool) (o : Opts) (x : Input) :
    (∃ t, x = .structured t ∧ ensureNoteArray u o x = .same t) ∨
    ensureNoteArray u o x = .refused ∨
    (∃ d ns, x = .part d ns ∧ ensureNoteArray u o x = .ofOption o.divs (rowsC d ns o)) ∨
    (∃ l, (x = .group l ∨ (x = .list l ∧ l.all Tree.isPart = true) ∨ (∃ st, x = .score st ∧ l = flatParts st)) ∧
      ensureNoteArray u o x = .ofOption true (partListRows u o l)) := by
  cases x with
  | structured t => exact Or.inl ⟨t, rfl, rfl⟩
  | plainArray => exact Or.inr (Or.inl rfl)
  | part d ns => exact Or.inr (Or.inr (Or.inl ⟨d, ns, rfl, rfl⟩))
  | group cs => exact Or.inr (Or.inr (Or.inr ⟨cs, Or.inl rfl, rfl⟩))
  | score st => exact Or.inr (Or.inr (Or.inr ⟨flatParts st, Or.inr (Or.inr ⟨st, rfl, rfl⟩), rfl⟩))
  | list items =>
    by_cases hall : items.all Tree.isPart = true
    · refine Or.inr (Or.inr (Or.inr ⟨items, Or.inr (Or.inl ⟨rfl, hall⟩), ?_⟩))
      simp only [ensureNoteArray, hall, if_true]
    · refine Or.inr (Or.inl ?_)
      simp only [ensureNoteArray, hall]
      rfl
  | other => exact Or.inr (Or.inl rfl)

/-- the same for rest arrays; a `Score` is refused (the function has no case for it) -/
theorem rest_dispatch_reduces (u : Bool) (o : Opts) (c : Bool) (x : Input) :
    (∃ t, x = .structured t ∧ ensureRestArray u o c x = .same t) ∨
    ensureRestArray u o c x = .refused ∨
    (∃ d ns, x = .part d ns ∧ ensureRestArray u o c x = .ofOption false (restRowsC d ns { o with divs := false } c)) ∨
    (∃ l, (x = .group l ∨ (x = .list l ∧ l.all Tree.isPart = true)) ∧
      ensureRestArray u o c x = .ofOption false (restListRows u o c l)) := by
  cases x with
  | structured t => exact Or.inl ⟨t, rfl, rfl⟩
  | plainArray => exact Or.inr (Or.inl rfl)
  | part d ns => exact Or.inr (Or.inr (Or.inl ⟨d, ns, rfl, rfl⟩))
  | group cs => exact Or.inr (Or.inr (Or.inr ⟨cs, Or.inl rfl, rfl⟩))
  | score st => exact Or.inr (Or.inl rfl)
  | list items =>
    by_cases hall : items.all Tree.isPart = true
    · refine Or.inr (Or.inr (Or.inr ⟨items, Or.inr ⟨rfl, hall⟩, ?_⟩))
      simp only [ensureRestArray, hall, if_true]
    · refine Or.inr (Or.inl ?_)
      simp only [ensureRestArray, hall]
      rfl
  | other => exact Or.inr (Or.inl rfl)

/-- a group inside a list is one element whose table is the part-list table of its children -/
theorem group_table (u : Bool) (o : Opts) (cs : List Tree) :
    (Tree.group cs).table u o = partListRows u o cs := by
  rw [Tree.table]; rfl

/-- a flat list of parts: `note_array_from_part_list` is `mergeTables` of the parts' own tables (each
    made with the divisions column) — the statement `merge_union`, `lcm_rescale`, `id_prefix` are about -/
theorem part_list_flat (u : Bool) (o : Opts) (ps : List (Desc × List Note)) :
    partListRows u o (ps.map fun p => Tree.part p.1 p.2) =
      (NoteArray.mapM' (fun (p : Desc × List Note) => rowsC p.1 p.2 { o with divs := true }) ps).bind (mergeTables u) := by
  unfold partListRows
  rw [← tablesOfW_rowsC, tablesOfW_parts]

/-- a score hands the depth-first list of its parts to `note_array_from_part_list`: the table of a
    score is the table of that flat list, whatever the grouping was; on a flat structure nothing changes -/
theorem score_is_flat_list (u : Bool) (o : Opts) (st : List Tree) :
    scoreNoteArray u o st = .ofOption true
      ((NoteArray.mapM' (fun (p : Desc × List Note) => rowsC p.1 p.2 { o with divs := true }) (partsOf st)).bind (mergeTables u)) := by
  unfold scoreNoteArray flatParts
  rw [part_list_flat]

theorem flatParts_flat (ps : List (Desc × List Note)) :
    flatParts (ps.map fun p => Tree.part p.1 p.2) = ps.map fun p => Tree.part p.1 p.2 := by
  unfold flatParts
  rw [partsOf_parts]

/-- `iter_parts` goes depth first: the parts of a group are the parts of its children, in order -/
theorem partsOf_append (a b : List Tree) : partsOf (a ++ b) = partsOf a ++ partsOf b := by
  induction a with
  | nil => rw [List.nil_append, partsOf, List.nil_append]
  | cons x a ih => rw [List.cons_append, partsOf, partsOf, ih, List.append_assoc]

theorem parts_group (cs : List Tree) : (Tree.group cs).parts = partsOf cs := by rw [Tree.parts]

/-- `note_array_to_score(..., sanitize=True)` runs `add_measures`, `tie_notes`, `find_tuplets`,
    `sanitize_part` on the created part.  What those do is property C11, whose statement
    (`tie_sound_same`: the note array of the normalised part has the same (onset, tied duration, pitch)
    rows as before) is the hypothesis `hsame` here: ANY table `out'` (that of the normalised part) which agrees in that sense
    with the table of the part `createPart` makes gives back the array's (onset, duration, pitch) triples. -/
theorem from_to_array_sanitized (hb ht : Bool) (a : List ARow) (dv : Option Nat) (d : Nat)
    (l : List (Int × Int × Int)) (M : Maps) (spell : Int → String × Int × Int) (o : Opts)
    (out' : List Row)
    (hspell : ∀ r ∈ a, Model.spellingToMidi (spell r.pitch).1 (some (spell r.pitch).2.1) (spell r.pitch).2.2 = some r.pitch)
    (h : fromArray hb true ht a dv = .ok (d, l))
    (hsame : ∃ out, rows (createPart d l M spell) o = some out ∧ out'.map rowTriple ~ out.map rowTriple) :
    out'.map rowTriple ~ a.map divTriple := by
  obtain ⟨out, hrows, hperm⟩ := hsame
  exact hperm.trans (from_to_array hb ht a dv d l M spell o out hspell h hrows)

section Examples

/-- 3/4 in divisions 2 with an upbeat of one quarter and a key change at the first full bar -/
def exDesc : Desc :=
  { tm := { npoints := 5, first := 0, last := 8, qd := [(0, 2)], ts := [⟨0, 3, 4, 3⟩], m1 := some (0, 2), musical := false },
    kss := [(0, -1, .major), (2, 2, .minor)],
    ms := [(0, 2), (2, 8)] }

/-- `rowsC` succeeds on it (hypothesis of row_values_composed): the upbeat starts at beat -1, the tied
    chain lasts 3 beats, the key at the onset is the first one, the metrical position counts from the
    start the first bar would have had (2 - 3 * 2 = -4) and the bar is 6 divisions long -/
example : ((rowsC exDesc exNotes exOpts).map fun t => t.map fun r => (r.id, r.onsetBeat, r.durBeat, r.key)) =
    some [("g", (-1 : Rat), (0 : Rat), (-1 : Rat)), ("a", -1, 3, -1)] := by decide +kernel
example : ((rowsC exDesc exNotes exOpts).map fun t => t.map fun r => (r.ksFifths, r.ksMode, r.tsBeats, r.tsMusBeats)) =
    some [((-1 : Int), (1 : Int), (3 : Int), (3 : Int)), (-1, 1, 3, 3)] := by decide +kernel
example : ((rowsC exDesc exNotes exOpts).map fun t => t.map fun r => (r.relOnset, r.totMeasure, r.isDownbeat)) =
    some [((4 : Int), (6 : Int), (0 : Int)), (4, 6, 0)] := by decide +kernel

/-- the rest at 6: beat 2, key signature of the second bar, first beat... of nothing: position 4 of 6 -/
example : ((restRowsC exDesc exNotes exOpts false).map fun t => t.map fun r => (r.id, r.onsetBeat, r.ksFifths, r.relOnset)) =
    some [("r", (2 : Rat), (2 : Int), (4 : Int))] := by decide +kernel

/-- a time outside the part's extent is not a number: no table -/
example : rowsC { exDesc with tm := { exDesc.tm with last := 4 } } exNotes exOpts = none := by decide +kernel

/-- float32: 1/3 is stored as 11184811 / 2^25; 2^24 + 1 is a tie and goes to the even neighbour -/
example : f32round (1 / 3) = 11184811 / 33554432 ∧ f32round 16777217 = 16777216 ∧ f32round 16777219 = 16777220 ∧
    f32round (-5 / 4) = -5 / 4 ∧ f32round 0 = 0 := by decide +kernel

/-- a score forgets its grouping, a list / group keeps it: ids `P01_g` against `P00_P01_g` -/
example :
    (match scoreNoteArray true exOpts [.group [.part exDesc [], .part exDesc exNotes]] with
      | .table _ t => t.map (·.id) | _ => []) = ["P01_g", "P01_a"] ∧
    (match groupNoteArray true exOpts [.group [.part exDesc [], .part exDesc exNotes], .part exDesc []] with
      | .table _ t => t.map (·.id) | _ => []) = ["P00_P01_g", "P00_P01_a"] := by decide +kernel

/-- a list that holds a group is refused by `ensure_notearray`, a score is refused by `ensure_rest_array` -/
example : (match ensureNoteArray true exOpts (.list [.group []]) with | .refused => true | _ => false) = true ∧
    (match ensureRestArray true exOpts false (.score []) with | .refused => true | _ => false) = true := by
  decide +kernel

/-- from_to_array_sanitized: a part in which the note 1–3 of `exArr` is split into two tied halves (what
    `tie_notes` does at a barline) has the same triples as the unsplit part -/
def exSplit : Part :=
  { notes :=
      [ { id := "n0", kind := .note, onset := 0, dur := 1, step := "C", alter := some 0, octave := 4, voice := some 1,
          staff := none, graceType := "", tieNext := none, tiePrev := none },
        { id := "n1", kind := .grace, onset := 1, dur := 0, step := "C", alter := some 1, octave := 4, voice := some 1,
          staff := none, graceType := "appoggiatura", tieNext := none, tiePrev := none },
        { id := "n2", kind := .note, onset := 1, dur := 1, step := "D", alter := some 0, octave := 4, voice := some 1,
          staff := none, graceType := "", tieNext := some 3, tiePrev := none },
        { id := "n2b", kind := .note, onset := 2, dur := 1, step := "D", alter := some 0, octave := 4, voice := some 1,
          staff := none, graceType := "", tieNext := none, tiePrev := some 2 } ],
    qdurs := [3], maps := exMaps }

example : ((rows exSplit exOpts).map fun t => t.map rowTriple) = some [(0, 1, 60), (1, 0, 61), (1, 2, 62)] ∧
    ((rows (createPart 3 [(0, 1, 60), (1, 0, 61), (1, 2, 62)] exMaps exSpell) exOpts).map fun t => t.map rowTriple) =
      some [(0, 1, 60), (1, 0, 61), (1, 2, 62)] := by decide +kernel

end Examples

end C05
