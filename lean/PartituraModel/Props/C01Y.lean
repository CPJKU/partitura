/-
C01 — theorems about Model/TimelineY.lean:

* the rich comparisons of `TimePoint` (`ComparableMixin`, lambdas regenerated from the source) are the comparisons
  of the times — a strict total order — and numpy's `searchsorted` on the object array of points, which calls
  `TimePoint.__lt__`, is the `searchsorted` on times of every other theorem (so the comparison is proved, not trusted);
* the class-query wrappers of `Part` (`notes`, `measures`, …; class and flag regenerated from the source) return
  exactly the matching listed objects in time order, and mean what their documentation says;
* `TimedObject.duration` is the distance between the two points that list the object;
* the `Tuplet.start_note` / `end_note` setters are operations of the machine: exact effect, `WInv` after every
  history, `Inv` when the tuplet sits where its previous note starts / ends.
-/
import PartituraModel.Proofs.C01Y
import PartituraModel.Proofs.C01Staves
import PartituraModel.Props.C01X

namespace C01
open TL

/-! ### `ComparableMixin` on time points -/

/-- each of the six rich comparisons of two time points is the namesake comparison of their times
(the lambdas and the argument order of `_compare` come from the generated table) -/
theorem timepoint_compare (a b : Int) :
    tpCompare "__lt__" a b = some (decide (a < b)) ∧ tpCompare "__le__" a b = some (decide (a ≤ b))
    ∧ tpCompare "__eq__" a b = some (decide (a = b)) ∧ tpCompare "__ge__" a b = some (decide (b ≤ a))
    ∧ tpCompare "__gt__" a b = some (decide (b < a)) ∧ tpCompare "__ne__" a b = some (decide (a ≠ b)) :=
  ⟨tpCompare_of_lookup (sym := "<") (by decide) a b, tpCompare_of_lookup (sym := "<=") (by decide) a b,
    tpCompare_of_lookup (sym := "==") (by decide) a b, tpCompare_of_lookup (sym := ">=") (by decide) a b,
    tpCompare_of_lookup (sym := ">") (by decide) a b, tpCompare_of_lookup (sym := "!=") (by decide) a b⟩

/-- `<` on time points is a strict total order on times: exactly one of `a < b`, `a == b`, `a > b` holds, `<=` is
`<` or `==`, `!=` is not `==`, `>=` is not `<` — what a binary search (and `sorted`) needs of its comparison -/
theorem timepoint_order_total (a b : Int) :
    ((tpCompare "__lt__" a b = some true ∧ tpCompare "__eq__" a b = some false ∧ tpCompare "__gt__" a b = some false)
      ∨ (tpCompare "__lt__" a b = some false ∧ tpCompare "__eq__" a b = some true ∧ tpCompare "__gt__" a b = some false)
      ∨ (tpCompare "__lt__" a b = some false ∧ tpCompare "__eq__" a b = some false ∧ tpCompare "__gt__" a b = some true))
    ∧ (tpCompare "__le__" a b = some true ↔ tpCompare "__lt__" a b = some true ∨ tpCompare "__eq__" a b = some true)
    ∧ (tpCompare "__ne__" a b = some true ↔ tpCompare "__eq__" a b = some false)
    ∧ (tpCompare "__ge__" a b = some true ↔ tpCompare "__lt__" a b = some false)
    ∧ (tpCompare "__gt__" a b = tpCompare "__lt__" b a) := by
  obtain ⟨hlt, hle, heq, hge, hgt, hne⟩ := timepoint_compare a b
  simp only [hlt, hle, heq, hge, hgt, hne, (timepoint_compare b a).1, Option.some.injEq,
    decide_eq_true_eq, decide_eq_false_iff_not]
  refine ⟨?_, ?_, trivial, ?_, trivial⟩
  · omega
  · omega
  · omega

/-- `np.searchsorted(self._points, TimePoint(t))` compares through `TimePoint.__lt__`: it is the `searchsorted`
on times that `get_point`, `_add_point`, `_remove_point`, `iter_all` and `set_quarter_duration` are modelled with -/
theorem searchsorted_through_lt (ts : List Int) (t : Int) : searchsortedC ts t = searchsorted ts t := by
  induction ts with
  | nil => rfl
  | cons x xs ih =>
    simp only [searchsortedC, searchsorted, (timepoint_compare x t).1, Option.some.injEq, decide_eq_true_eq, ih]

/-! ### the class-query wrappers of `Part` -/

/-- every wrapper asks for a timed class of the generated table -/
theorem views_classes_ok : ∀ v ∈ Gen.C01Views.views, v.2.1 < Gen.numClasses := by decide +kernel

/-- the table was extracted (the translator understood the source) and is not empty -/
theorem views_extracted : Gen.C01Views.extractionOk = true ∧ Gen.C01Views.views ≠ [] := by decide +kernel

/-- a wrapper is `iter_all(C, include_subclasses=flag)` over the whole timeline, starting objects -/
theorem view_is_iterAll (s : Part) {name : String} {c : Nat} {incl : Option Bool}
    (h : lookupStr Gen.C01Views.views name = some (c, incl)) :
    partView s name = some (iterAll s (some c) none none (incl.getD false) .starting) := by
  unfold partView
  rw [h]
  simp only [iterAllX_is_iterAll]
  rfl

/-- `part.notes`, `part.measures`, … in ANY reachable state: one duplicate-free segment per time point of the
timeline, in increasing time order, each holding exactly the objects that point lists as starting and whose class
is the wrapper's class (or, with the flag, one of its subclasses) -/
theorem view_any_history {s : Part} (hW : WInv s) (hk : ClsOk s) {name : String} {l : List ObjRef}
    (h : partView s name = some l) :
    ∃ c incl, (name, c, incl) ∈ Gen.C01Views.views
      ∧ ∃ segs : List (Int × List ObjRef), l = segs.flatMap (·.2)
        ∧ (segs.map (·.1)).Pairwise (· < ·)
        ∧ (∀ τ, τ ∈ segs.map (·.1) ↔ τ ∈ s.times)
        ∧ (∀ seg ∈ segs, seg.2.Nodup
            ∧ ∀ o, o ∈ seg.2 ↔ Listed s .start seg.1 o ∧ ClassSpecRT (some c) (incl.getD false) o.cls) := by
  unfold partView at h
  cases hl : lookupStr Gen.C01Views.views name with
  | none => rw [hl] at h; cases h
  | some v =>
    obtain ⟨c, incl⟩ := v
    rw [hl] at h
    simp only [Option.some.injEq] at h
    subst h
    refine ⟨c, incl, lookupStr_mem hl, ?_⟩
    obtain ⟨segs, h1, h2, h3, h4⟩ := iterAllX_any_history hW hk (some c) .absent .absent incl none
    refine ⟨segs, h1, h2, fun τ => ?_, fun seg hs => ?_⟩
    · rw [h3]
      constructor
      · exact fun hh => hh.1
      · exact fun hh => ⟨hh, by unfold inRangeQ; simp [Bound.key]⟩
    · have := h4 seg hs
      simpa [modeOfString_starting, Mode.side, inclEff] using this

/-- what the wrappers mean (their docstrings): name ↦ (class name, subclasses included) -/
def documentedViews : List (String × String × Bool) :=
  [("notes", "Note", true), ("measures", "Measure", false), ("rests", "Rest", false),
   ("cadences", "Cadence", false), ("repeats", "Repeat", false), ("key_sigs", "KeySignature", false),
   ("time_sigs", "TimeSignature", false), ("dynamics", "LoudnessDirection", true),
   ("tempo_directions", "TempoDirection", true), ("harmony", "Harmony", true), ("phrases", "Phrase", false),
   ("articulations", "ArticulationDirection", true)]

/-- each documented wrapper exists in the source and asks for its documented class with its documented flag
(an omitted flag counts as the default `False`) -/
theorem documented_views : ∀ d ∈ documentedViews,
    (lookupStr Gen.C01Views.views d.1).map (fun v => (Gen.classNames.getD v.1 "", v.2.getD false)) = some d.2 := by
  decide +kernel

/-! ### `TimedObject.duration` -/

/-- in ANY reachable state a duration is the distance between a point that lists the object as ending and a
point that lists it as starting -/
theorem duration_any_history {s : Part} (hW : WInv s) (o : ObjRef) {d : Int} (h : durationOf s o = some d) :
    ∃ a b, Listed s .start a o ∧ Listed s .stop b o ∧ d = b - a := by
  unfold durationOf at h
  cases ha : (getObj s.objs o).start with
  | none => simp [ha] at h
  | some a =>
    cases hb : (getObj s.objs o).stop with
    | none => simp [ha, hb] at h
    | some b =>
      simp only [ha, hb, Option.some.injEq] at h
      exact ⟨a, b, backref_listed hW .start o ha, backref_listed hW .stop o hb, h.symm⟩

/-- along valid histories: `o.duration = d` exactly when `o` is listed as starting at some `a` and as ending at
some `b` with `d = b - a`; it is `None` exactly when a side is not registered -/
theorem duration_correct {s : Part} (hI : Inv s) (o : ObjRef) (d : Int) :
    durationOf s o = some d ↔ ∃ a b, Listed s .start a o ∧ Listed s .stop b o ∧ d = b - a := by
  constructor
  · exact duration_any_history ((inv_iff_winv_strict s).mp hI).1 o
  · rintro ⟨a, b, ⟨p, hp, hpa, hop⟩, ⟨p', hp', hpb, hop'⟩, rfl⟩
    have h1 := (listed_iff_backref hI .start o hp).mp hop
    have h2 := (listed_iff_backref hI .stop o hp').mp hop'
    simp only [ObjSt.at] at h1 h2
    unfold durationOf
    rw [h1, h2, hpa, hpb]

theorem duration_none_iff (s : Part) (o : ObjRef) :
    durationOf s o = none ↔ (getObj s.objs o).start = none ∨ (getObj s.objs o).stop = none := by
  unfold durationOf
  cases (getObj s.objs o).start <;> cases (getObj s.objs o).stop <;> simp

/-- `tuplet.start_note = note` / `tuplet.end_note = note`: nothing happens on the timeline unless the note is
given, has a start (end) and the tuplet's PREVIOUS note has one too; then the tuplet is deregistered from the
point where the previous note starts (ends) by one `remove_*_object` — its reference is cleared, exactly the
listing there goes away, time points and the quarter table stay, `WInv` is kept -/
theorem tuplet_setter_effect {s : Part} (hW : WInv s) (sd : Side) (tup : ObjRef) (old note : Option ObjRef) :
    let s' := tupletDetach s sd tup old note
    WInv s' ∧ s'.times = s.times ∧ s'.qtab = s.qtab
      ∧ (s' = s
         ∨ ∃ o t, old = some o ∧ (getObj s.objs o).at sd = some t
            ∧ (∀ sd' o', (getObj s'.objs o').at sd' = if o' = tup ∧ sd' = sd then none else (getObj s.objs o').at sd')
            ∧ (∀ sd' x o', Listed s' sd' x o' ↔ Listed s sd' x o' ∧ ¬ (o' = tup ∧ sd' = sd ∧ x = t))) := by
  intro s'
  rcases tupletDetach_cases s sd tup old note with he | ⟨n, o, t, -, ho, -, hat, he⟩
  · have : s' = s := he
    rw [this]
    exact ⟨hW, rfl, rfl, Or.inl rfl⟩
  · have e : s' = tpUnregister s sd t tup := he
    obtain ⟨h1, h2, h3, h4, h5, -⟩ := tpRemove_effect hW sd t tup
    rw [e]
    exact ⟨h1, h4, h5, Or.inr ⟨o, t, ho, hat, h2, h3⟩⟩

/-- the intended use — the tuplet is registered where its previous note starts (ends), or not at all on that side
and not listed there: the FULL invariant survives the setter (the emptied point counts as an allowed empty point) -/
theorem tuplet_setter_inv {s : Part} (hI : Inv s) (sd : Side) (tup : ObjRef) (old note : Option ObjRef)
    (h : ∀ o, old = some o → ∀ t, (getObj s.objs o).at sd = some t → (getObj s.objs tup).at sd = some t) :
    Inv (tupletDetach s sd tup old note) := by
  exact (tupletDetach_keeps (qd := True)).inv hI ((tupletOk_iff _ _ _ _).mpr h)

/-- after ANY history of the timeline operations, the direct `TimePoint` calls, the Slur AND Tuplet setters, the
wrappers, `number_of_staves` and `duration` reads: the weak invariant holds and the quarter memo is fresh -/
theorem winvY_reachable (staff : ObjRef → Option Nat) (q : Nat) (ops : List OpY) (hq : ∀ op ∈ ops, op.qdNonneg) :
    WInv (runY staff (YPart.init q) ops).c.part ∧ CacheOk (runY staff (YPart.init q) ops).c :=
  (runY_keeps (K := fun _ => True) (C := fun _ => True) (fun _ _ _ _ _ => trivial) (y := YPart.init q)
    (xinv_init q) trivial ops hq fun _ _ => trivial).1

/-- no operation of the machine `stepY` raises, except on a negative time-point argument -/
theorem stepY_total {staff : ObjRef → Option Nat} {y : YPart} (hW : WInv y.c.part) (hc : CacheOk y.c) {op : OpY}
    (hq : op.qdNonneg) (hn : op.negTime = false) : ∃ r, stepY staff y op = .ok r := by
  cases op with
  | base op =>
    obtain ⟨r, hr⟩ := stepX_total hW hc hq hn
    exact ⟨_, by simp only [stepY, hr, Except.map]; rfl⟩
  | _ => exact ⟨_, rfl⟩

/-- without the operations `stepY` adds, the part and its quarter memo evolve exactly as in the machine `stepX`:
every theorem of Props/C01X (and through `memo_machine_is_timeline` of Props/C01, C01Any, C01Classes, C01Order) is a
theorem about this machine -/
theorem machineY_is_machineX (staff : ObjRef → Option Nat) (q : Nat) (ops : List OpX) :
    (runY staff (YPart.init q) (ops.map .base)).c = runX (CPart.init q) ops := by
  rw [runY_eq_foldl, runX_eq_foldl]
  refine Lists.foldl_sim (R := fun (y : YPart) c => y.c = c) (fun y _ op h => ?_) ops _ _ rfl
  subst h
  simp only [nextY, nextX, stepY]
  cases stepX y.c op <;> rfl

/-! ### the memo `Part._number_of_staves` -/

/-- `compute_number_of_staves` is a maximum: at least the initial value, at least the `staff` of every object one
of its `iter_all` calls returns, and attained (by the initial value or by such an object) -/
theorem computeStaves_is_max (s : Part) (staff : ObjRef → Option Nat) :
    Gen.C01Views.stavesInit ≤ computeStaves s staff
    ∧ (∀ q ∈ Gen.C01Views.stavesQueries, ∀ o ∈ iterAllX s (some q.1) .absent .absent (some q.2) none,
        ∀ k, staff o = some k → k ≤ computeStaves s staff)
    ∧ (computeStaves s staff = Gen.C01Views.stavesInit
        ∨ ∃ q ∈ Gen.C01Views.stavesQueries, ∃ o ∈ iterAllX s (some q.1) .absent .absent (some q.2) none,
            staff o = some (computeStaves s staff)) := by
  unfold computeStaves
  exact stavesFoldl_spec staff (fun q : Nat × Bool => iterAllX s (some q.1) .absent .absent (some q.2) none) _ _

/-- which objects count (the loops of the source, as a set — their order does not matter for a maximum): notes of
any kind, clefs, directions of any kind, words; the count starts at 1 -/
theorem staves_queries_documented :
    Gen.C01Views.stavesInit = 1
    ∧ (∀ d ∈ [("GenericNote", true), ("Clef", false), ("Direction", true), ("Words", false)],
        d ∈ Gen.C01Views.stavesQueries.map (fun q => (Gen.classNames.getD q.1 "", q.2)))
    ∧ (∀ q ∈ Gen.C01Views.stavesQueries.map (fun q => (Gen.classNames.getD q.1 "", q.2)),
        q ∈ [("GenericNote", true), ("Clef", false), ("Direction", true), ("Words", false)]) := by
  decide +kernel

/-- an object is returned by a loop of `compute_number_of_staves` exactly when some point lists it as starting and
its class is the loop's class (or, with the flag, one the subclass walk visits) -/
theorem staves_query_members {s : Part} (hW : WInv s) (c : Nat) (incl : Bool) (o : ObjRef) :
    o ∈ iterAllX s (some c) .absent .absent (some incl) none
      ↔ (∃ x, Listed s .start x o) ∧ clsMatch (some c) incl o.cls := by
  rw [stavesQuery_eq, mem_iterAll_whole hW.sorted]

/-- the number of staves depends on the starting listings only (not on quarter durations, empty points, links,
ending objects, or the order inside a point) -/
theorem computeStaves_listings {s s' : Part} (hW : WInv s) (hW' : WInv s')
    (hl : ∀ x o, Listed s' .start x o ↔ Listed s .start x o) (staff : ObjRef → Option Nat) :
    computeStaves s' staff = computeStaves s staff :=
  computeStaves_congr hW.sorted hW'.sorted hl staff

/-- after ANY history of operations that go through `Part` (add / remove in every argument form,
set_quarter_duration, get_or_add_point, all queries, the wrappers, number_of_staves itself, duration) the memo is
empty or holds exactly what `compute_number_of_staves` would return now: `Part.add` / `Part.remove` reset it and
nothing else changes a starting listing -/
theorem staves_memo_fresh (staff : ObjRef → Option Nat) (q : Nat) (ops : List OpY) (hq : ∀ op ∈ ops, op.qdNonneg)
    (hp : ∀ op ∈ ops, op.partLevel = true) : StavesOk staff (runY staff (YPart.init q) ops) :=
  (runY_keeps (C := fun op => op.partLevel = true) (fun h hs hq hp he => stepY_stavesOk h hs hq hp he) (y := YPart.init q) (xinv_init q) (Or.inl rfl)
    ops hq hp).2

/-- so `part.number_of_staves` returns the freshly computed value after every such history -/
theorem number_of_staves_correct (staff : ObjRef → Option Nat) (q : Nat) (ops : List OpY)
    (hq : ∀ op ∈ ops, op.qdNonneg) (hp : ∀ op ∈ ops, op.partLevel = true) :
    (readStaves (runY staff (YPart.init q) ops) staff).2 = computeStaves (runY staff (YPart.init q) ops).c.part staff := by
  have h := staves_memo_fresh staff q ops hq hp
  unfold readStaves
  rcases h with e | e <;> simp [e]

/-- reading the memo never changes the part -/
theorem number_of_staves_frame (staff : ObjRef → Option Nat) (y : YPart) :
    (readStaves y staff).1.c = y.c ∧ (readStaves (readStaves y staff).1 staff).2 = (readStaves y staff).2 := by
  unfold readStaves
  cases h : y.staves <;> simp [h]

section Examples

def yN : ObjRef := { id := 0, cls := 2 }     -- Note
def yM : ObjRef := { id := 1, cls := 3 }     -- GraceNote
def yT : ObjRef := { id := 2, cls := 11 }    -- Tuplet
def yR : ObjRef := { id := 3, cls := 5 }     -- Rest

def yhist : List OpY :=
  [.base (.base (.add yN (some 0) (some 4))), .base (.base (.add yM (some 4) (some 6))), .base (.base (.add yR (some 6) (some 8))),
   .base (.base (.add yT (some 0) (some 6))), .tupletStart yT (some yN), .tupletStart yT (some yM), .view "notes", .staves]

example : ∀ op ∈ yhist, op.qdNonneg := by decide +kernel
/-- the second `start_note = …` takes the tuplet off the point where the FIRST note starts -/
example : (runY (fun _ => none) (YPart.init 1) yhist).c.part.points.map (fun p => (p.t, p.starting.map (·.id), p.ending.map (·.id)))
    = [(0, [0], []), (4, [1], [0]), (6, [3], [1, 2]), (8, [], [3])] := by decide +kernel
example : (getObj (runY (fun _ => none) (YPart.init 1) yhist).c.part.objs yT).start = none := by decide +kernel
example : partView (runY (fun _ => none) (YPart.init 1) yhist).c.part "notes" = some [yN, yM] := by decide +kernel
example : partView (runY (fun _ => none) (YPart.init 1) yhist).c.part "rests" = some [yR] := by decide +kernel
example : partView (Part.init 1) "no_such_wrapper" = none := by decide +kernel
example : durationOf (runY (fun _ => none) (YPart.init 1) yhist).c.part yM = some 2
    ∧ durationOf (runY (fun _ => none) (YPart.init 1) yhist).c.part yT = none := by decide +kernel
example : tpCompare "__lt__" 3 5 = some true ∧ tpCompare "__ge__" 3 5 = some false ∧ tpCompare "__nope__" 3 5 = none := by
  decide +kernel
example : lookupStr Gen.C01Views.views "notes" = some (2, some true) := by decide +kernel

def ystaff (o : ObjRef) : Option Nat := if o.id = 1 then some 3 else if o.id = 3 then some 2 else none
def yhist2 : List OpY :=
  [.base (.base (.add yN (some 0) (some 4))), .staves, .base (.base (.add yM (some 4) (some 6))), .base (.base (.setQD 2 4)),
   .staves, .base (.base (.getOrAdd 9)), .base (.base (.add yR (some 6) none))]
example : (∀ op ∈ yhist2, op.qdNonneg) ∧ (∀ op ∈ yhist2, op.partLevel = true) := by decide +kernel
example : (runY ystaff (YPart.init 1) (yhist2.take 6)).staves = some 3
    ∧ (runY ystaff (YPart.init 1) yhist2).staves = none
    ∧ computeStaves (runY ystaff (YPart.init 1) yhist2).c.part ystaff = 3 := by decide +kernel
/-- a direct `TimePoint.add_starting_object` goes behind the part's back: the memo is STALE afterwards (why
`staves_memo_fresh` asks for part-level operations) -/
example : let y := runY ystaff (YPart.init 1) [.base (.base (.add yN (some 0) (some 4))), .staves, .base (.tpAdd .start 4 yM)]
    y.staves = some 1 ∧ computeStaves y.c.part ystaff = 3 := by decide +kernel

end Examples

end C01
