/-
C01 — end-to-end statements about the REACHABLE states of the machine `stepY`: the hypotheses `WInv`,
`CacheOk` and `ClsOk` of the query theorems are discharged from the history, so that the only conditions left are
about the user's arguments (quarter durations set at times ≥ 0; the objects handed over are instances of timed
classes of partitura).
-/
import PartituraModel.Proofs.C01Y
import PartituraModel.Props.C01Y

namespace C01
open TL

/-- the class ids of the object records stay inside the generated class table along every history of the
machine `stepY` whose objects are instances of timed classes -/
theorem clsOkY_reachable (staff : ObjRef → Option Nat) (q : Nat) (ops : List OpY) (hq : ∀ op ∈ ops, op.qdNonneg)
    (ho : ∀ op ∈ ops, op.clsOk) : ClsOk (runY staff (YPart.init q) ops).c.part :=
  (runY_keeps (K := fun y => ClsOk y.c.part) (C := OpY.clsOk)
    (fun h hk _ ho he => (stepY_keeps h.2 he).2.clsOk hk ho) (y := YPart.init q) (xinv_init q) (init_clsOk q) ops hq ho).2

/-- `iter_all` in every argument form, asked in ANY state reachable by timeline operations, direct `TimePoint`
calls, Slur and Tuplet setters: one duplicate-free segment per time point with `a ≤ t < b`, in increasing time
order, each holding exactly the matching objects that point lists — no hypothesis on the state -/
theorem iterAllX_reachable (staff : ObjRef → Option Nat) (q : Nat) (ops : List OpY) (hq : ∀ op ∈ ops, op.qdNonneg)
    (ho : ∀ op ∈ ops, op.clsOk) (cls : Option Nat) (a b : Bound) (incl : Option Bool) (mode : Option String) :
    let s := (runY staff (YPart.init q) ops).c.part
    ∃ segs : List (Int × List ObjRef), iterAllX s cls a b incl mode = segs.flatMap (·.2)
      ∧ (segs.map (·.1)).Pairwise (· < ·)
      ∧ (∀ τ, τ ∈ segs.map (·.1) ↔ τ ∈ s.times ∧ inRangeQ a.key b.key τ)
      ∧ (∀ seg ∈ segs, seg.2.Nodup
          ∧ ∀ o, o ∈ seg.2 ↔ Listed s (modeOfString (mode.getD "starting")).side seg.1 o
              ∧ ClassSpecRT cls (inclEff cls (incl.getD false)) o.cls) :=
  iterAllX_any_history (winvY_reachable staff q ops hq).1 (clsOkY_reachable staff q ops hq ho) cls a b incl mode

/-- `part.notes`, `part.measures`, … read in ANY reachable state -/
theorem view_reachable (staff : ObjRef → Option Nat) (q : Nat) (ops : List OpY) (hq : ∀ op ∈ ops, op.qdNonneg)
    (ho : ∀ op ∈ ops, op.clsOk) {name : String} {l : List ObjRef}
    (h : partView (runY staff (YPart.init q) ops).c.part name = some l) :
    let s := (runY staff (YPart.init q) ops).c.part
    ∃ c incl, (name, c, incl) ∈ Gen.C01Views.views
      ∧ ∃ segs : List (Int × List ObjRef), l = segs.flatMap (·.2)
        ∧ (segs.map (·.1)).Pairwise (· < ·)
        ∧ (∀ τ, τ ∈ segs.map (·.1) ↔ τ ∈ s.times)
        ∧ (∀ seg ∈ segs, seg.2.Nodup
            ∧ ∀ o, o ∈ seg.2 ↔ Listed s .start seg.1 o ∧ ClassSpecRT (some c) (incl.getD false) o.cls) :=
  view_any_history (winvY_reachable staff q ops hq).1 (clsOkY_reachable staff q ops hq ho) h

/-- `o.duration` read in ANY reachable state -/
theorem duration_reachable (staff : ObjRef → Option Nat) (q : Nat) (ops : List OpY) (hq : ∀ op ∈ ops, op.qdNonneg)
    (o : ObjRef) {d : Int} (h : durationOf (runY staff (YPart.init q) ops).c.part o = some d) :
    ∃ a b, Listed (runY staff (YPart.init q) ops).c.part .start a o
      ∧ Listed (runY staff (YPart.init q) ops).c.part .stop b o ∧ d = b - a :=
  duration_any_history (winvY_reachable staff q ops hq).1 o h

/-- the cached quarter map is the fresh one in every reachable state of the machine `stepY` as well -/
theorem cached_map_is_fresh_Y (staff : ObjRef → Option Nat) (q : Nat) (ops : List OpY) (hq : ∀ op ∈ ops, op.qdNonneg)
    (x : Rat) :
    qdAtQ (runY staff (YPart.init q) ops).c.qcache x = qdAtQ (runY staff (YPart.init q) ops).c.part.qtab x := by
  have hc : CacheOk (runY staff (YPart.init q) ops).c := (winvY_reachable staff q ops hq).2
  rw [hc]
  exact interpTable_same _ x

/-- along histories whose timeline operations are `Valid` (and whose direct `TimePoint` calls hit a free side /
the referenced point) and whose Tuplet setter calls find the tuplet registered where its previous note starts
(ends) — the way the importers use them —: the FULL invariant of the property, with a point emptied by a setter
counted as an allowed empty point -/
theorem invY_reachable (staff : ObjRef → Option Nat) (q : Nat) (ops : List OpY)
    (hv : ValidHistoryY staff (YPart.init q) ops) : Inv (runY staff (YPart.init q) ops).c.part :=
  by
  rw [runY_eq_foldl]
  exact (Lists.foldl_keeps (nextY staff) (P := fun y => Inv y.c.part ∧ CacheOk y.c) (H := ValidHistoryY staff)
    (fun _ _ _ h => h)
    (fun _ _ h hv => nextY_keeps (P := fun y => Inv y.c.part ∧ CacheOk y.c) h fun _ _ he =>
      ⟨(stepY_keeps h.2 he).2.inv h.1 hv, (stepY_keeps h.2 he).1⟩)
    ops (YPart.init q) ⟨inv_init q, (xinv_init q).2⟩ hv).1

/-- a tuplet that follows its notes: registered with the first note, moved by the setter, re-registered by `add` -/
def yvalid : List OpY :=
  [.base (.base (.add yN (some 0) (some 4))), .base (.base (.add yM (some 4) (some 6))),
   .base (.base (.add yT (some 0) none)), .tupletStart yT (some yN), .tupletStart yT (some yM),
   .base (.base (.add yT (some 4) none)), .view "notes", .staves, .tupletStart yT none]
example : ValidHistoryY (fun _ => none) (YPart.init 1) yvalid := by decide +kernel
/-- outside: the tuplet sits at 4 while its previous note starts at 0 — the setter clears `tuplet.start` and leaves
the listing at 4 behind (`WInv` still holds, `Inv` does not) -/
def ywrong : List OpY :=
  [.base (.base (.add yN (some 0) (some 4))), .base (.base (.add yM (some 4) (some 6))),
   .base (.base (.add yT (some 4) none)), .tupletStart yT (some yN), .tupletStart yT (some yM)]
example : ¬ ValidHistoryY (fun _ => none) (YPart.init 1) ywrong := by decide +kernel
example : ¬ Inv (runY (fun _ => none) (YPart.init 1) ywrong).c.part :=
  fun h => absurd ((invB_iff _).mpr h) (by decide +kernel)
example : WInv (runY (fun _ => none) (YPart.init 1) ywrong).c.part := (winvB_iff _).mp (by decide +kernel)
example : (getObj (runY (fun _ => none) (YPart.init 1) yvalid).c.part.objs yT).start = some 4 := by decide +kernel

example : (∀ op ∈ yhist, op.clsOk) ∧ (∀ op ∈ yhist2, op.clsOk) := by decide +kernel
example : ClsOk (runY (fun _ => none) (YPart.init 1) yhist).c.part := by
  intro e he
  revert e
  decide +kernel

end C01
