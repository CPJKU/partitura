/-
C13 — the roll is a function of the VALUES of its arguments only.

A session is a store of argument objects (numbers, numpy scalars, 0-d arrays, arrays, lists — what callers bind
`time_div`, `time_margin`, `end_time` to) and a sequence of `compute_pianoroll` /
`compute_pitch_class_pianoroll` calls naming them by address (`Model/PianoRollSession.lean`).

The harness runs whole sessions against the implementation and compares every result and the final store.
-/
import PartituraModel.Props.C13Args
import PartituraModel.Proofs.C13Session

namespace C13
open Model Model.PianoRoll
open List

/-- **frame**: whatever calls are made, in whatever order, the caller's argument objects are unchanged -/
theorem session_frame (kind : String) (a : NoteArray) (st : Store) (cs : List Call) :
    (runSession kind a st cs).2 = st := by
  induction cs generalizing st with
  | nil => rfl
  | cons c cs ih =>
    show (runSession kind a (step kind a st c).2 cs).2 = st
    rw [ih]; rfl

/-- **no history**: the results of a session are the results each call has when it is the only call made -/
theorem session_pure (kind : String) (a : NoteArray) (st : Store) (cs : List Call) :
    (runSession kind a st cs).1 = cs.map (evalCall kind a st) := by
  induction cs generalizing st with
  | nil => rfl
  | cons c cs ih =>
    show (step kind a st c).1 :: (runSession kind a (step kind a st c).2 cs).1 = _
    rw [ih]; rfl

/-- **a repeated call repeats its result**, however many other calls were made in between -/
theorem session_repeat (kind : String) (a : NoteArray) (st : Store) (cs : List Call) (i j : Nat) (c : Call)
    (hi : cs[i]? = some c) (hj : cs[j]? = some c) :
    (runSession kind a st cs).1[i]? = (runSession kind a st cs).1[j]? := by
  rw [session_pure, List.getElem?_map, List.getElem?_map, hi, hj]

/-- a prefix of a session leaves the store as a fresh session finds it: a session can be cut anywhere -/
theorem session_append (kind : String) (a : NoteArray) (st : Store) (cs ds : List Call) :
    (runSession kind a st (cs ++ ds)).1 = (runSession kind a st cs).1 ++ (runSession kind a st ds).1 := by
  rw [session_pure, session_pure, session_pure, List.map_append]

/-! a session like the documented use: two renderings to a common `end_time = part.beat_map([t])`, silence removed
    (first onset 2), then one with the silence kept, then the first again -/

def sessArray : NoteArray :=
  { units := ["beat"], hasVel := false, hasChan := false,
    rows := [⟨60, [(2, 1)], none, none⟩, ⟨64, [(3, 1)], none, none⟩, ⟨67, [(4, 2)], none, none⟩] }
def sessStore : Store := [.arr0 4, .num 0, .arr [10]]
def sessCall (rs : Bool) : Call :=
  .pr { kw := { KwArgs.empty with removeSilence := some rs }, td := some 0, tm := some 1, et := some 2 }
def outShape : Out → Option (Int × Int)
  | .roll r _ => some (r.rows, r.cols)
  | .pc p => some (12, p.cols)
  | _ => none

example : (runSession "array" sessArray sessStore [sessCall true, sessCall true, sessCall false, sessCall true]).1.map outShape
    = [some (128, 32), some (128, 32), some (128, 40), some (128, 32)] := by decide +kernel
example : (runSession "array" sessArray sessStore [sessCall true, sessCall false]).2 = sessStore := by decide +kernel
/-- an array with two elements is no end time, a dangling address is outside the model -/
example : (runSession "array" sessArray [.arr0 4, .num 0, .arr [10, 11]] [sessCall true]).1.map outShape = [none] := by
  decide +kernel

/-- **`time_div` counts through `int()`, `end_time` through its single element** -/
theorem args_by_value (kind : String) (a : NoteArray) (kw : KwArgs) (td' : Option TimeDivArg) (et' : Option EndTimeArg)
    (htd : resolveTimeDiv td' = resolveTimeDiv kw.timeDiv) (het : resolveEndTime et' = resolveEndTime kw.endTime) :
    computePianorollKw kind a { kw with timeDiv := td', endTime := et' } = computePianorollKw kind a kw := by
  unfold computePianorollKw resolveArgs
  simp only [htd, het]

/-- the same for the pitch-class roll -/
theorem pc_args_by_value (kind : String) (a : NoteArray) (kw : PcKw) (td' : TimeDivArg) (et' : EndTimeArg)
    (td : TimeDivArg) (et : EndTimeArg) (hk : kw.timeDiv = some td) (he : kw.endTime = some et)
    (htd : resolveTimeDiv (some td') = resolveTimeDiv (some td)) (het : resolveEndTime (some et') = resolveEndTime (some et)) :
    computePcKw kind a { kw with timeDiv := some td', endTime := some et' } = computePcKw kind a kw := by
  have h : computePianorollKw kind a (pcInnerKw { kw with timeDiv := some td', endTime := some et' })
      = computePianorollKw kind a (pcInnerKw kw) := by
    have := args_by_value kind a (pcInnerKw kw) (some td') (some et')
      (by simp only [pcInnerKw, hk, Option.getD_some]; exact htd)
      (by simp only [pcInnerKw, he]; exact het)
    rw [← this]
    simp only [pcInnerKw, Option.getD_some]
  unfold computePcKw
  rw [h]

/-- **one value, many containers**: as `end_time`, the Python number / numpy scalar `q`, the 0-d array holding `q`,
    the one-element array `[q]` (of any dtype and shape `(1,)`, `(1,1)`, …) and the list / tuple `[q]` all stand for
    `q`; as `time_div` and `time_margin` a number and a 0-d array are the same -/
theorem container_value (q : Rat) :
    (resolveEndTime (some (ArgObj.num q).asEndTime) = some (some q) ∧
     resolveEndTime (some (ArgObj.arr0 q).asEndTime) = some (some q) ∧
     resolveEndTime (some (ArgObj.arr [q]).asEndTime) = some (some q) ∧
     resolveEndTime (some (ArgObj.seq [q]).asEndTime) = some (some q)) ∧
    (ArgObj.arr0 q).asTimeDiv = (ArgObj.num q).asTimeDiv ∧
    (ArgObj.arr0 q).asTimeMargin = (ArgObj.num q).asTimeMargin :=
  ⟨⟨rfl, rfl, rfl, rfl⟩, rfl, rfl⟩

/-- `time_div = 8`, `8.0` and `8.7` are the same resolution (Python's `int()`) -/
theorem time_div_by_int (q q' : Rat) (h : truncRat q = truncRat q') :
    resolveTimeDiv (some (.num q)) = resolveTimeDiv (some (.num q')) := by
  unfold resolveTimeDiv; simp only [h]

example : ArgObj.Equiv (.num 8) (.arr0 8) := ⟨rfl, rfl, rfl⟩
example : ¬ ArgObj.Equiv (.num 8) (.arr [8]) := by
  intro h; have := h.2.1; simp [ArgObj.asTimeMargin] at this


theorem evalCall_by_value (kind : String) (a : NoteArray) {st st' : Store} (h : StoreEquiv st st') (c : Call) :
    evalCall kind a st c = evalCall kind a st' c := by
  cases c with
  | pr r =>
    simp only [evalCall, derefKw_eq]
    rcases binds_equiv h r.td r.tm r.et r.kw.timeDiv r.kw.timeMargin r.kw.endTime with ⟨n1, n2⟩ |
      ⟨x, x', m, e, e', b1, b2, hx, he⟩
    · rw [n1, n2]
    · have := cpk_congr kind a { r.kw with timeDiv := x, timeMargin := m, endTime := e }
        { r.kw with timeDiv := x', timeMargin := m, endTime := e' } rfl rfl rfl rfl rfl rfl rfl rfl rfl rfl
        (apply_of_rel resolveTimeDiv hx) (apply_of_rel resolveEndTime he)
      simp only [b1, b2, Option.map_some, this]
  | pc r =>
    simp only [evalCall, derefPc_eq]
    rcases binds_equiv h r.td r.tm r.et r.kw.timeDiv r.kw.timeMargin r.kw.endTime with ⟨n1, n2⟩ |
      ⟨x, x', m, e, e', b1, b2, hx, he⟩
    · rw [n1, n2]
    · have inner : computePianorollKw kind a (pcInnerKw { r.kw with timeDiv := x, timeMargin := m, endTime := e })
          = computePianorollKw kind a (pcInnerKw { r.kw with timeDiv := x', timeMargin := m, endTime := e' }) := by
        apply cpk_congr <;> try rfl
        · exact apply_of_rel (fun y => resolveTimeDiv (some (y.getD _))) hx
        · exact apply_of_rel (fun y => resolveEndTime (match y with | some z => some z | none => _)) he
      simp only [b1, b2, Option.map_some, computePcKw, inner]

/-- **values, not containers, for whole sessions**: two stores whose objects are pairwise read the same way (a
    one-element array where the other has a number as `end_time`, a 0-d array for a number, `8.0` for `8` as
    `time_div`, …) give the same results for every sequence of calls -/
theorem session_by_value (kind : String) (a : NoteArray) {st st' : Store} (h : StoreEquiv st st') (cs : List Call) :
    (runSession kind a st cs).1 = (runSession kind a st' cs).1 := by
  rw [session_pure, session_pure]
  exact List.map_congr_left fun c _ => evalCall_by_value kind a h c

/-- a session on `[8 (0-d array), 1/2, [10] (one-element array)]` and one on `[8, 1/2 (0-d array), [10] (list)]`;
    an object that is a number in one store and a one-element array in the other is equivalent as `end_time` only
    (`container_value`, `args_by_value`), not as `time_div` / `time_margin`, where the array is rejected -/
example : StoreEquiv [.arr0 8, .num (1/2), .arr [10]] [.num 8, .arr0 (1/2), .seq [10]] :=
  ⟨⟨rfl, rfl, rfl⟩, ⟨rfl, rfl, rfl⟩, ⟨rfl, rfl, rfl⟩, trivial⟩

end C13
