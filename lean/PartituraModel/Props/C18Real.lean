/-
C18 — the logarithmic parts of the performance codec, over the real numbers.

`articulation_log = log2(pd / (bp·sd))`, decoded as `2^articulation_log · sd · bp`;
`beat_period_log = log2(bp)`, `beat_period_ratio_log = log2(bp / mean)`, decoded by `2^·`.
The binary32/64 implementation is compared with these on every generated case
(harness/props/c18.py, tolerance 2^-20 relative).
-/
import Mathlib.Analysis.SpecialFunctions.Log.Base
import PartituraModel.Proofs.C18Basic

namespace C18

/-- `encode_articulation` for a note with positive score duration -/
noncomputable def encodeArt (bp sd pd : ℝ) : ℝ := Real.logb 2 (pd / (bp * sd))
/-- `decode_articulation` -/
noncomputable def decodeArt (sd art bp : ℝ) : ℝ := (2 : ℝ) ^ art * sd * bp

/-- the performed duration of a note with positive score duration is reproduced, for every positive
    beat period (whatever the tempo-curve method) -/
theorem articulation_roundtrip (bp sd pd : ℝ) (hb : 0 < bp) (hs : 0 < sd) (hp : 0 < pd) :
    decodeArt sd (encodeArt bp sd pd) bp = pd := by
  unfold decodeArt encodeArt
  have h : 0 < pd / (bp * sd) := div_pos hp (mul_pos hb hs)
  rw [Real.rpow_logb (by norm_num) (by norm_num) h]
  field_simp

example : decodeArt (1/2) (encodeArt (3/4) (1/2) (1/8)) (3/4) = 1/8 :=
  articulation_roundtrip _ _ _ (by norm_num) (by norm_num) (by norm_num)

/-- grace notes: `encode_articulation` stores `log2(bp / (bp·1)) = 0` whatever the performed duration … -/
theorem articulation_grace_encoded (bp : ℝ) (hb : bp ≠ 0) : Real.logb 2 (bp / (bp * 1)) = 0 := by
  rw [mul_one, div_self hb, Real.logb_one]

/-- … and `decode_articulation` multiplies by the score duration 0: the performed duration of a grace
    note is NOT reproduced (open finding F-C18-2); this is all that holds for notes without score duration -/
theorem articulation_grace_partial (art bp : ℝ) : decodeArt 0 art bp = 0 := by
  unfold decodeArt; ring

/-- the negation of the round trip at the witness: a grace note played for 1/8 s -/
example : decodeArt 0 (Real.logb 2 ((3/4 : ℝ) / (3/4 * 1))) (3/4) ≠ 1/8 := by
  rw [articulation_grace_partial]; norm_num

/-- the one fact about logarithms the exact round trip needs: `C18.performance_roundtrip`
    (Props/C18Pipeline, over ℚ) passes the articulation ratio and the two logarithmic tempo columns
    through abstract `L`, `E` with `E (L r) = r` for positive `r`; for the functions the code uses
    (`np.log2`, `2 ** ·`) this is that hypothesis, over the reals -/
theorem exp2_log2 (r : ℝ) (hr : 0 < r) : (2 : ℝ) ^ Real.logb 2 r = r :=
  Real.rpow_logb (by norm_num) (by norm_num) hr

example : (2 : ℝ) ^ Real.logb 2 (6 / 5) = 6 / 5 := exp2_log2 _ (by norm_num)

-- (`beat_period`: scale and rescale are the identity on the column — `C18.normalisation_inverse` with `.bp`)

/-- `beat_period_log`: `2 ** log2(b) = b` -/
theorem normalisation_inverse_log (b : ℝ) (hb : 0 < b) : (2 : ℝ) ^ Real.logb 2 b = b :=
  exp2_log2 b hb

/-- `beat_period_ratio`: `(b / mean) * mean = b` -/
theorem normalisation_inverse_ratio (b m : ℝ) (hm : m ≠ 0) : b / m * m = b := by
  field_simp

/-- `beat_period_ratio_log`: `2 ** log2(b / mean) * mean = b` -/
theorem normalisation_inverse_ratio_log (b m : ℝ) (hb : 0 < b) (hm : 0 < m) :
    (2 : ℝ) ^ Real.logb 2 (b / m) * m = b := by
  rw [exp2_log2 _ (div_pos hb hm)]
  field_simp

noncomputable def meanR (l : List ℝ) : ℝ := l.sum / l.length
/-- `np.std` -/
noncomputable def stdR (l : List ℝ) : ℝ := Real.sqrt (meanR (l.map fun b => (b - meanR l) ^ 2))

/-- zero deviation: every entry equals the mean (the squared deviations are non-negative and sum to 0) -/
theorem eq_meanR_of_stdR_zero (l : List ℝ) (h0 : stdR l = 0) (b : ℝ) (hb : b ∈ l) : b = meanR l := by
  have hlen : (l.length : ℝ) ≠ 0 := Nat.cast_ne_zero.mpr (List.length_pos_iff.mpr (List.ne_nil_of_mem hb)).ne'
  have hnn : 0 ≤ (l.map fun b => (b - meanR l) ^ 2).sum := List.sum_nonneg fun x hx => by
    obtain ⟨c, _, rfl⟩ := List.mem_map.mp hx
    exact sq_nonneg _
  have hm0 := (Real.sqrt_eq_zero (div_nonneg hnn (Nat.cast_nonneg _))).mp h0
  rw [List.length_map, div_eq_zero_iff] at hm0
  refine C18P.eq_of_sum_sq_dev_eq_zero l (meanR l) ?_ b hb
  simpa only [sq] using hm0.resolve_right hlen

/-- `beat_period_standardized` (with the repair C18-7: zero deviation scales to 0):
    `z * std + mean = b` for every beat period of the curve, constant curves included -/
theorem normalisation_inverse_standardized (l : List ℝ) (b : ℝ) (hb : b ∈ l) :
    (if stdR l = 0 then 0 else (b - meanR l) / stdR l) * stdR l + meanR l = b := by
  by_cases h0 : stdR l = 0
  · rw [if_pos h0, zero_mul, zero_add]
    exact (eq_meanR_of_stdR_zero l h0 b hb).symm
  · rw [if_neg h0, div_mul_cancel₀ _ h0, sub_add_cancel]

example : (1 : ℝ) ∈ [(1 : ℝ), 3] := by simp

end C18
