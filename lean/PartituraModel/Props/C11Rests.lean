/-
C11 — `fill_rests` never changes what sounds, fills exactly the gaps, and the symbolic durations it assigns last as
long as the rests that carry them.

Property theorems over Model/Rests.lean (the live `fill_rests`, both modes, with the repairs C11-5/6/7).
-/
import PartituraModel.Proofs.C11RestsX

namespace C11
open Model Model.Dur Model.Meas Model.Rests Gen

/-- **rests_sound_same** (measure-wise mode, any measures — also overlapping ones —, any objects, any times):
    after `fill_rests` every object that was in the part is still there, unchanged and in the same iteration order
    (so the note array, a function of the notes, is identical), and everything else is a `Rest` made by `mkRests`
    for some stretch, with the divisions in force at the start of that stretch -/
theorem rests_sound_same (qd : List (Int × Nat)) (nstaves : Nat) (measures : List (Rat × Rat)) (ns out : List GNote)
    (hold : ∀ n ∈ ns, n.added = none) (h : fillRests qd nstaves measures ns = some out) :
    out.filter (fun n => n.added.isNone) = ns ∧
    ∀ x ∈ out, x ∈ ns ∨ (x.added.isSome = true ∧ C11Rests.Made qd x) :=
  C11Rests.stepOK_old qd ns out hold (C11Rests.fillRests_ok qd nstaves measures ns out h)

/-- the same for `fill_rests(part, measurewise=False)` -/
theorem rests_sound_same_global (qd : List (Int × Nat)) (uvs : List (Int × Int)) (measures : List (Rat × Rat))
    (ns out : List GNote) (hold : ∀ n ∈ ns, n.added = none) (h : fillRestsG qd uvs measures ns = some out) :
    out.filter (fun n => n.added.isNone) = ns ∧
    ∀ x ∈ out, x ∈ ns ∨ (x.added.isSome = true ∧ C11Rests.Made qd x) :=
  C11Rests.stepOK_old qd ns out hold (C11Rests.fillRestsG_ok qd uvs measures ns out h)

/-- **rest_symdur**: the rests made for a stretch `[a, b)` with integer ends, under divisions `div ≤ 2⁴⁰`, in either
    mode (`com` = whether composite durations are asked for): they are consecutive from `a` to `b`, none of negative
    length; each carries the voice asked for and either no value (`{}`: no single notated value exists) or ONE
    symbolic duration that lasts exactly as long as the rest under `div` — also the members of a composite rest,
    whose ends need not be integral -/
theorem rest_symdur (com : Bool) (a b : Nat) (hab : a ≤ b) (div : Nat) (hbig : div ≤ 1099511627776) (v staff : Int)
    (staffOf : Nat → Int) (rests : List GNote) (h : mkRests com (a : Rat) (b : Rat) div v staff staffOf = some rests) :
    C11Rests.RTiles (a : Rat) (b : Rat) rests ∧
    ∀ r ∈ rests, r.voice = v ∧ (r.added = some .empty ∨
      ∃ sd, r.added = some (.single sd) ∧ symbolicToNumeric sd div = some (r.stop - r.start)) :=
  C11Rests.mkRests_spec com a b hab div hbig v staff staffOf rests h

/-- consecutive rests cover exactly their stretch -/
theorem rest_tiles_cover (l : List GNote) (a b : Rat) (h : C11Rests.RTiles a b l) (t : Rat) :
    (∃ r ∈ l, r.start ≤ t ∧ t < r.stop) ↔ (a ≤ t ∧ t < b) :=
  C11Rests.rtiles_cover l a b h t

/-- the divisions `fill_rests` uses are never above the largest quarter duration of the part -/
theorem fill_divisions_bounded (qd : List (Int × Nat)) (B : Nat) (hB : 1 ≤ B) (h : ∀ e ∈ qd, e.2 ≤ B) (t : Rat) :
    divsAt qd t ≤ B :=
  C11Rests.divsAt_le qd B hB h t

/-- **rest_stretches_exact** (any rational times): the stretches a voice gets rests for in a measure `[S, E)` —
    before its first start, after its last end, and from the `(i-1)`-th smallest end to the `i`-th smallest start
    where that is later — contain a time of the measure iff no object of the voice covers it -/
theorem rest_stretches_exact (S E : Rat) (nv : List GNote) (hne : nv ≠ []) (hord : ∀ n ∈ nv, n.start ≤ n.stop)
    (t : Rat) (hS : S ≤ t) (hE : t < E) :
    (∃ sp ∈ C11Rests.voiceSpans S E nv, sp.1 ≤ t ∧ t < sp.2) ↔ ∀ n ∈ nv, ¬ (n.start ≤ t ∧ t < n.stop) :=
  C11Rests.voiceSpans_exact S E nv hne hord t hS hE

/-- **rests_fill_gaps** (measure-wise mode; integer times, quarter durations up to 2⁴⁰): in a measure `[S, E)`, for
    every voice that has something starting in the measure, the added rests of that voice cover a time of the
    measure iff no object of the voice that starts in the measure covers it.  (The code groups by voice, not by
    voice and staff, and looks only at objects that START in the measure.) -/
theorem rests_fill_gaps (qd : List (Int × Nat)) (hbig : ∀ e ∈ qd, e.2 ≤ 1099511627776) (nstaves : Nat) (ns : List GNote)
    (S E : Nat)
    (hnat : ∀ n ∈ window (S : Rat) (E : Rat) ns, C11Rests.IsNat n.start ∧ C11Rests.IsNat n.stop)
    (hord : ∀ n ∈ window (S : Rat) (E : Rat) ns, n.start ≤ n.stop)
    (rests : List GNote) (h : measureRests qd nstaves ns (S : Rat) (E : Rat) = some rests)
    (v : Int) (hv : ∃ n ∈ window (S : Rat) (E : Rat) ns, n.voice = v) (t : Rat) (hS : (S : Rat) ≤ t) (hE : t < (E : Rat)) :
    (∃ r ∈ rests, r.voice = v ∧ r.start ≤ t ∧ t < r.stop) ↔
      ∀ n ∈ window (S : Rat) (E : Rat) ns, n.voice = v → ¬ (n.start ≤ t ∧ t < n.stop) :=
  C11Rests.measure_gaps qd (C11Rests.divsAt_le qd _ (by norm_num) hbig) nstaves ns _ _ ⟨S, rfl⟩ ⟨E, rfl⟩ hnat hord
    rests h v hv t hS hE

/-- **rests_fill_staves**: when fewer distinct staff values occur in the measure than the part has staves, every
    staff `1 .. nstaves` on which nothing starts is covered over the whole measure by rests in one voice above all
    voices of the measure — in a measure where nothing starts at all (repair C11-7): every staff -/
theorem rests_fill_staves (qd : List (Int × Nat)) (hbig : ∀ e ∈ qd, e.2 ≤ 1099511627776) (nstaves : Nat) (ns : List GNote)
    (S E : Nat) (hSE : S ≤ E) (rests : List GNote) (h : measureRests qd nstaves ns (S : Rat) (E : Rat) = some rests)
    (hfew : (TimeMap.sortedKeys ((window (S : Rat) (E : Rat) ns).map (·.staff))).length < nstaves)
    (s : Nat) (hs1 : 1 ≤ s) (hsk : s ≤ nstaves) (hempty : ∀ n ∈ window (S : Rat) (E : Rat) ns, n.staff ≠ (s : Int)) :
    ∃ free : Int, (∀ n ∈ window (S : Rat) (E : Rat) ns, n.voice < free) ∧
      ∀ t : Rat, (S : Rat) ≤ t → t < (E : Rat) →
        ∃ r ∈ rests, r.staff = (s : Int) ∧ r.voice = free ∧ r.start ≤ t ∧ t < r.stop :=
  C11Rests.staff_gaps qd (C11Rests.divsAt_le qd _ (by norm_num) hbig) nstaves ns S E hSE rests h hfew s hs1 hsk hempty

/-- `fill_rests(part, measurewise=True)` is the left fold of the per-measure step over `part.measures` -/
theorem fillRests_eq (qd : List (Int × Nat)) (nstaves : Nat) (measures : List (Rat × Rat)) (ns : List GNote) :
    fillRests qd nstaves measures ns = measures.foldl (fillMeasure qd nstaves) (some ns) := rfl

-- non-vacuity: 4 divisions per quarter, one measure [0, 16), notes [4, 8) and [10, 16): a quarter rest and an eighth rest
def exG1 : GNote := ⟨4, 8, 1, 1, none⟩
def exG2 : GNote := ⟨10, 16, 1, 1, none⟩

example : fillRests [(0, 4)] 1 [(0, 16)] [exG1, exG2] =
    some [⟨0, 4, 1, 1, some (.single ("quarter", 0, none, none))⟩, exG1,
          ⟨8, 10, 1, 1, some (.single ("eighth", 0, none, none))⟩, exG2] := by decide +kernel

example : measureRests [(0, 4)] 1 [exG1, exG2] ((0 : Nat) : Rat) ((16 : Nat) : Rat) =
    some [⟨0, 4, 1, 1, some (.single ("quarter", 0, none, none))⟩,
          ⟨8, 10, 1, 1, some (.single ("eighth", 0, none, none))⟩] := by decide +kernel

example : ∀ n ∈ window ((0 : Nat) : Rat) ((16 : Nat) : Rat) [exG1, exG2], C11Rests.IsNat n.start ∧ C11Rests.IsNat n.stop := by
  intro n hn
  have hn' := List.mem_of_mem_filter hn
  simp only [List.mem_cons, List.not_mem_nil, or_false] at hn'
  rcases hn' with rfl | rfl
  · exact ⟨⟨4, by norm_num [exG1]⟩, ⟨8, by norm_num [exG1]⟩⟩
  · exact ⟨⟨10, by norm_num [exG2]⟩, ⟨16, by norm_num [exG2]⟩⟩

example : ∃ n ∈ window ((0 : Nat) : Rat) ((16 : Nat) : Rat) [exG1, exG2], n.voice = 1 :=
  ⟨exG1, by decide +kernel, rfl⟩

-- a composite rest with a non-integral inner end: 5 divisions at 3 per quarter = dotted quarter (4.5) + triplet 16th (0.5)
example : mkRests true ((0 : Nat) : Rat) ((5 : Nat) : Rat) 3 1 1 (fun _ => 1) =
    some [⟨0, 9 / 2, 1, 1, some (.single ("quarter", 1, none, none))⟩,
          ⟨9 / 2, 5, 1, 1, some (.single ("16th", 0, some 3, some 2))⟩] := by decide +kernel

-- the same stretch without composite durations (global mode): one rest without a value
example : mkRests false ((0 : Nat) : Rat) ((5 : Nat) : Rat) 3 1 1 (fun _ => 1) = some [⟨0, 5, 1, 1, some .empty⟩] := by
  decide +kernel

-- repair C11-7: nothing starts in [0, 4): both staves get a whole rest in voice 1; in [4, 8) staff 2 is empty
example : fillRests [(0, 1)] 2 [(0, 4), (4, 8)] [⟨4, 8, 1, 1, none⟩] =
    some [⟨0, 4, 1, 1, some (.single ("whole", 0, none, none))⟩, ⟨0, 4, 1, 2, some (.single ("whole", 0, none, none))⟩,
          ⟨4, 8, 1, 1, none⟩, ⟨4, 8, 2, 2, some (.single ("whole", 0, none, none))⟩] := by decide +kernel

example : (TimeMap.sortedKeys ((window ((4 : Nat) : Rat) ((8 : Nat) : Rat) [(⟨4, 8, 1, 1, none⟩ : GNote)]).map (·.staff))).length < 2 := by
  decide +kernel

-- global mode: before the first start and after the last end only, and whole-measure rests for absent (voice, staff)
example : fillRestsG [(0, 4)] [(1, 1), (2, 2)] [(0, 16), (16, 32)] [⟨4, 8, 1, 1, none⟩, ⟨20, 32, 2, 2, none⟩] =
    some [⟨0, 4, 1, 1, some (.single ("quarter", 0, none, none))⟩, ⟨0, 16, 2, 2, some (.single ("whole", 0, none, none))⟩,
          ⟨4, 8, 1, 1, none⟩, ⟨8, 16, 1, 1, some (.single ("half", 0, none, none))⟩,
          ⟨16, 20, 2, 2, some (.single ("quarter", 0, none, none))⟩, ⟨16, 32, 1, 1, some (.single ("whole", 0, none, none))⟩,
          ⟨20, 32, 2, 2, none⟩] := by decide +kernel

/-- **fill_rests_decomposes**: over pairwise disjoint, non-empty measures (integer times, divisions up to 2⁴⁰) the fold of
    `fill_rests` adds, for every measure, exactly the rests `_fill_rests_within_measure` computes from the ORIGINAL
    objects of the part: the rests added for one measure start and end inside it, so the window of another measure never
    sees them.  Afterwards the part holds the old objects and those rests, nothing else. -/
theorem fill_rests_decomposes (qd : List (Int × Nat)) (hbig : ∀ e ∈ qd, e.2 ≤ 1099511627776) (nstaves : Nat)
    (ns out : List GNote) (ms : List (Nat × Nat)) (hsep : C11RestsX.Sep ms) (hne : ∀ m ∈ ms, m.1 < m.2)
    (hwin : C11RestsX.WindowsOK ms ns) (h : fillRests qd nstaves (C11RestsX.castM ms) ns = some out) :
    (∀ m ∈ ms, ∃ rests, measureRests qd nstaves ns (m.1 : Rat) (m.2 : Rat) = some rests ∧
        ∀ r ∈ rests, (m.1 : Rat) ≤ r.start ∧ r.start < r.stop ∧ r.stop ≤ (m.2 : Rat)) ∧
    ∀ x, x ∈ out ↔ x ∈ ns ∨ ∃ m ∈ ms, ∃ rests, measureRests qd nstaves ns (m.1 : Rat) (m.2 : Rat) = some rests ∧ x ∈ rests := by
  have hb := C11Rests.divsAt_le qd _ (by norm_num) hbig
  obtain ⟨j1, j2⟩ := C11RestsX.fillRests_decomposes qd hb nstaves ns ms ns out hsep hne hwin (fun _ _ => rfl) h
  refine ⟨?_, j2⟩
  intro m hm
  obtain ⟨rests, hr⟩ := j1 m hm
  have hw := hwin m hm
  exact ⟨rests, hr, C11RestsX.measureRests_inside qd hb nstaves ns m.1 m.2 (hne m hm) (fun n hn => (hw n hn).1)
    (fun n hn => (hw n hn).2) rests hr⟩

/-- **rests_fill_gaps_all**: `rests_fill_gaps` for the part AFTER `fill_rests(part)` — over pairwise disjoint non-empty
    measures, for every measure and every voice that has something starting in it, the rests that were ADDED in that
    voice cover a time of the measure iff no object of the voice that starts in the measure covers it -/
theorem rests_fill_gaps_all (qd : List (Int × Nat)) (hbig : ∀ e ∈ qd, e.2 ≤ 1099511627776) (nstaves : Nat)
    (ns out : List GNote) (ms : List (Nat × Nat)) (hsep : C11RestsX.Sep ms) (hne : ∀ m ∈ ms, m.1 < m.2)
    (hwin : C11RestsX.WindowsOK ms ns) (hold : ∀ n ∈ ns, n.added = none)
    (h : fillRests qd nstaves (C11RestsX.castM ms) ns = some out)
    (m : Nat × Nat) (hm : m ∈ ms) (v : Int) (hv : ∃ n ∈ window (m.1 : Rat) (m.2 : Rat) ns, n.voice = v)
    (t : Rat) (hS : (m.1 : Rat) ≤ t) (hE : t < (m.2 : Rat)) :
    (∃ r ∈ out, r.added.isSome = true ∧ r.voice = v ∧ r.start ≤ t ∧ t < r.stop) ↔
      ∀ n ∈ window (m.1 : Rat) (m.2 : Rat) ns, n.voice = v → ¬ (n.start ≤ t ∧ t < n.stop) :=
  C11RestsX.fill_gaps_all qd (C11Rests.divsAt_le qd _ (by norm_num) hbig) nstaves ns out ms hsep hne hwin hold h m hm v hv
    t hS hE

-- non-vacuity: the two measures [0, 4), [4, 8) of the example above
example : C11RestsX.Sep [(0, 4), (4, 8)] ∧ (∀ m ∈ [((0 : Nat), (4 : Nat)), (4, 8)], m.1 < m.2) := by
  constructor
  · unfold C11RestsX.Sep; decide
  · decide
example : C11RestsX.WindowsOK [(0, 4), (4, 8)] [⟨4, 8, 1, 1, none⟩] := by
  intro m _ n hn
  have hmem : n ∈ [(⟨4, 8, 1, 1, none⟩ : GNote)] := (List.mem_filter.mp hn).1
  simp only [List.mem_singleton] at hmem
  subst hmem
  exact ⟨⟨⟨4, by norm_num⟩, ⟨8, by norm_num⟩⟩, by norm_num⟩
example : C11RestsX.castM [(0, 4), (4, 8)] = [(0, 4), (4, 8)] := by
  simp [C11RestsX.castM]

-- the stretches of rest_stretches_exact on overlapping objects and a grace note: [0,2) [1,3) | 5 | [6,8) in [0, 10)
example : C11Rests.voiceSpans 0 10 [⟨0, 2, 1, 1, none⟩, ⟨6, 8, 1, 1, none⟩, ⟨1, 3, 1, 1, none⟩, ⟨5, 5, 1, 1, none⟩] =
    [(8, 10), (3, 5), (5, 6)] := by decide +kernel

end C11
