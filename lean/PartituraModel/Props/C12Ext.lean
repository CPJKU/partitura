/-
C12 — theorems over Model/Conversions.lean: the conversion functions written over the literals of their
own bodies (Gen/C12Tables.lean, regenerated from the live source on every run), with the glue Model/Pitch.lean leaves
out (Python membership chains for the mode, the range guard in front of Python list indexing,
`ensure_pitch_spelling_format`, `alter or 0`, keyword defaults, absent tuplet types).

The driver answers with exactly these functions (suffix `G`); Proofs/C12Bridge.lean proves them equal to the functions
of Model/Pitch.lean and explains the suffixes.  Eight theorems of Props/C12.lean are stated again here for what the
driver runs, as `X_src` (`midi_c4`, `midi_value`, `midi_spelling`, `name_roundtrip`, `mode_code_roundtrip`,
`key_bijection`, `change_quality_size`, `tick_sec_tick`); the others speak of the tables or need no glue.
-/
import PartituraModel.Model.Conversions
import PartituraModel.Proofs.C12Bridge
import PartituraModel.Props.C12

namespace C12
open Model Gen Gen.C12 C12Bridge

/-- the translator could read every literal it looks for in the live source -/
theorem tables_extracted : extractionOk = true ∧ extractionNotes = [] := by decide

/-- C4 = 60, with the octave size, the octave shift and the `alter or 0` default as the source writes them -/
theorem midi_c4_src : spellingToMidiG "C" (some 0) 4 = some 60 ∧ spellingToMidiG "c" none 4 = some 60 := by decide +kernel

/-- value for every octave and alteration; a missing alteration and the alteration 0 are the same -/
theorem midi_value_src (s : String) (a : Option Int) (o b : Int) (h : lookup (lower s) MIDI_BASE_CLASS = some b) :
    spellingToMidiG s a o = some ((o + 1) * 12 + b + a.getD 0) := by
  rw [spellingToMidiG_eq]; exact midi_value s a o b h

/-- MIDI → spelling → MIDI is the identity for EVERY integer pitch; the spelling comes back through
    `ensure_pitch_spelling_format` with an integer alteration (0 or 1) and an integer octave -/
theorem midi_spelling_src (p : Int) :
    ∃ s a o, midiToSpellingG p = some (s, some a, some o) ∧ spellingToMidiG s (some a) o = some p ∧ (a = 0 ∨ a = 1) := by
  obtain ⟨s, a, o, h1, h2, h3⟩ := midi_spelling p
  refine ⟨s, a, o, ?_, ?_, h3⟩
  · rw [midiToSpellingG_eq, h1]; rfl
  · rw [spellingToMidiG_eq]; exact h2

/-- note-name round trip through the scanner built from NOTE_NAME_PATT and `ensure_pitch_spelling_format`:
    every step, alteration −3..3, EVERY octave ≥ 0 -/
theorem name_roundtrip_src (s : String) (hs : s ∈ ["C", "D", "E", "F", "G", "A", "B"])
    (a : Int) (ha : a ∈ [(-3 : Int), -2, -1, 0, 1, 2, 3]) (o : Nat) :
    noteNameToSpellingG (spellingToNoteName s a (o : Int)) = some (s, some a, some (o : Int)) ∧
    noteNameToMidiG (spellingToNoteName s a (o : Int)) = spellingToMidiG s (some a) (o : Int) := by
  constructor
  · rw [noteNameToSpellingG_eq, name_roundtrip s hs a ha o]; rfl
  · rw [noteNameToMidiG_eq, spellingToMidiG_eq]; exact name_midi s hs a ha o

/-- where the inverse does not exist: an octave below 0 prints a name the pattern cannot read, and four sharps
    print a sign string `ensure_pitch_spelling_format` does not know -/
example : noteNameToSpellingG (spellingToNoteName "C" 0 (-1)) = none ∧
    noteNameToSpellingG (spellingToNoteName "C" 4 4) = none ∧
    noteNameToSpellingG (spellingToNoteName "C" 2 4) = some ("C", some 2, some 4) := by decide +kernel

/-- `step2pc` is the pitch class of the spelled pitch (the two base tables agree), for every alteration and octave -/
theorem step2pc_pitch_class (s : String) (hs : s ∈ ["C", "D", "E", "F", "G", "A", "B"]) (a o : Int) :
    step2pc s a = (spellingToMidiG s (some a) o).map (· % 12) := by
  have key : ∀ s ∈ ["C", "D", "E", "F", "G", "A", "B"],
      ∃ b, lookup s BASE_PC = some b ∧ lookup (lower s) MIDI_BASE_CLASS = some b := by decide +kernel
  obtain ⟨b, h1, h2⟩ := key s hs
  rw [spellingToMidiG_eq, midi_value s (some a) o b h2, step2pc_spec s a b h1]
  simp only [Option.getD_some, Option.map_some, Option.some.injEq]
  omega

/-- an unknown step is rejected, whatever the other arguments -/
theorem ensure_format_rejects (s : String) (a : AlterArg) (o : OctArg) (h : stepAccepted s = false) :
    ensureFormat s a o = none := by
  unfold stepAccepted at h
  unfold ensureFormat
  simp only [Bool.not_eq_false'] at h
  simp only [h]
  rfl

example : stepAccepted "h" = false ∧ stepAccepted "" = false ∧ stepAccepted "CC" = false ∧ stepAccepted "R" = true ∧
    stepAccepted "g" = true := by decide +kernel

/-- the fourteen letters (and the rest letter) are accepted, and the result is a fixed point: formatting it again
    changes nothing (all alterations, all octaves) -/
theorem ensure_format_idempotent (s : String)
    (hs : s ∈ ["C", "D", "E", "F", "G", "A", "B", "c", "d", "e", "f", "g", "a", "b", "r", "R"]) (a o : Int) :
    ensureFormat s (.int a) (.int o) = some (upper s, some a, some o) ∧
    ensureFormat (upper s) (.int a) (.int o) = some (upper s, some a, some o) := by
  have key : ∀ s ∈ ["C", "D", "E", "F", "G", "A", "B", "c", "d", "e", "f", "g", "a", "b", "r", "R"],
      stepAccepted s = true ∧ stepAccepted (upper s) = true ∧ upper (upper s) = upper s := by decide +kernel
  obtain ⟨h1, h2, h3⟩ := key s hs
  refine ⟨ensureFormat_int s a o h1, ?_⟩
  rw [ensureFormat_int (upper s) a o h2, h3]

/-- every sign string of the regenerated table means its table value (the keys are distinct), `"-"` means no
    alteration; an unknown sign is rejected -/
theorem ensure_format_signs :
    (∀ e ∈ SIGN_TO_ALTER, ∀ o : Int, ensureFormat "C" (.sign e.1) (.int o) = some ("C", e.2, some o)) ∧
    (∀ sg : String, lookup sg SIGN_TO_ALTER = none → ∀ o, ensureFormat "C" (.sign sg) o = none) := by
  constructor
  · have key : ∀ e ∈ SIGN_TO_ALTER, lookup e.1 SIGN_TO_ALTER = some e.2 := by decide +kernel
    intro e he o
    rw [ensureFormat_sign "C" e.1 o (by decide), key e he]
    rfl
  · intro sg h o
    unfold ensureFormat
    simp only [step_test (s := "C") (by decide), h]
    rfl

/-- the octave `"-"` of Batik match files is no octave; other numbers are truncated towards zero as `int()` does -/
example : ensureFormat "r" .none (.str "-") = some ("R", none, none) ∧
    ensureFormat "c" (.num (3/2)) (.num (-1/2)) = some ("C", some 1, some 0) ∧
    ensureFormat "c" (.num (-3/2)) (.str "-1") = some ("C", some (-1), some (-1)) ∧
    ensureFormat "c" (.sign "-") (.str "x") = none ∧ ensureFormat "h" (.int 0) (.int 4) = none := by decide +kernel

/-- `Note.alter_sign` (table ALTER_SIGNS) writes the accidental exactly as `pitch_spelling_to_note_name` does -/
theorem alter_signs_agree : ∀ e ∈ ALTER_SIGNS, alterSign e.1 = some (accString (e.1.getD 0)) := by decide +kernel

/-- the two accidental-code tables of utils/globals.py invert each other where both are defined -/
theorem alt_tables_inverse : ∀ e ∈ INT_TO_ALT, lookup e.2 ALT_TO_INT = some e.1 := by decide +kernel

/-! ### keys: membership chains, range guard, Python indexing -/

/-- what a mode argument means to `fifths_mode_to_key_name` -/
def modeOfLit (m : PyLit) : Option Mode :=
  (chainFind m f2kModes).map fun r => if r.1 then Mode.minor else Mode.major

/-- the accepted mode arguments are exactly the documented six (numbers by value) -/
theorem mode_accepted (m : PyLit) :
    (modeOfLit m).isSome ↔ m ∈ [PyLit.str "minor", PyLit.num (-1), PyLit.str "major", PyLit.none, PyLit.str "none", PyLit.num 1] := by
  rw [modeOfLit, Option.isSome_map, chainFind_isSome]
  exact Iff.rfl

/-- the three copies of the mode test (fifths_mode_to_key_name, key_mode_to_int, key_int_to_mode) agree on EVERY
    argument: same accepted set, minor ↔ −1 ↔ "minor", major ↔ 1 ↔ "major" -/
theorem mode_tests_agree (m : PyLit) :
    keyModeToIntG m = (modeOfLit m).map keyModeToInt ∧ keyIntToModeG m = (modeOfLit m).map modeName := by
  -- the three chains test the same tuples
  have h1 : kmiModes = f2kModes.map fun e => (e.1, keyModeToInt (if e.2.1 then Mode.minor else Mode.major)) := by decide
  have h2 : kimModes = f2kModes.map fun e => (e.1, modeName (if e.2.1 then Mode.minor else Mode.major)) := by decide
  rw [keyModeToIntG, keyIntToModeG, modeOfLit, h1, h2,
    chainFind_map (fun r : Bool × String => keyModeToInt (if r.1 then Mode.minor else Mode.major)),
    chainFind_map (fun r : Bool × String => modeName (if r.1 then Mode.minor else Mode.major)),
    Option.map_map, Option.map_map]
  exact ⟨rfl, rfl⟩

/-- mode codes decode to what was encoded: the int code of any accepted mode, given back as a mode argument,
    names the same mode -/
theorem mode_code_roundtrip_src (m : PyLit) (i : Int) (h : keyModeToIntG m = some i) :
    keyIntToModeG (PyLit.num (i : Rat)) = keyIntToModeG m ∧ keyModeToIntG (PyLit.num (i : Rat)) = some i := by
  have hm := mode_tests_agree m
  rw [hm.1] at h
  rw [hm.2]
  cases hmo : modeOfLit m with
  | none => rw [hmo] at h; simp at h
  | some mo =>
    rw [hmo] at h
    simp only [Option.map_some, Option.some.injEq] at h
    subst h
    cases mo <;> decide

/-- the range guard in front of Python indexing leaves what plain indexing of a list of fifteen gives -/
theorem guarded_index (l : List String) (sfx : String) (f : Int) (hl : l.length = 15) :
    (if fifthsLo ≤ f ∧ f ≤ fifthsHi then (pyIndex l (f + fifthsOffset)).map (· ++ sfx) else none)
      = if f + 7 < 0 then none else (l[(f + 7).toNat]?).map (· ++ sfx) := by
  rw [show fifthsLo = -7 from rfl, show fifthsHi = 7 from rfl, show fifthsOffset = 7 from rfl]
  by_cases hr : -7 ≤ f ∧ f ≤ 7
  · rw [if_pos hr, if_neg (by omega), pyIndex, if_pos (by omega)]
  · rw [if_neg hr, past_fifteen l sfx hl f (by omega)]

theorem fifthsModeToKeyNameG_eq (f : Int) (m : PyLit) :
    fifthsModeToKeyNameG f m = (modeOfLit m).bind (fifthsModeToKeyName f) := by
  unfold fifthsModeToKeyNameG modeOfLit
  cases hc : chainFind m f2kModes with
  | none => rfl
  | some r =>
    have hr : r = (true, "m") ∨ r = (false, "") := by simpa [f2kModes] using chainFind_mem m _ r hc
    rcases hr with rfl | rfl
    · exact guarded_index MINOR_KEYS "m" f rfl
    · exact guarded_index MAJOR_KEYS "" f rfl

/-- key name ↔ (fifths, mode) is a bijection on the fifteen major and fifteen minor keys, for every accepted
    spelling of the mode, through the functions the driver runs -/
theorem key_bijection_src (f : Int) (h1 : -7 ≤ f) (h2 : f ≤ 7) (m : PyLit) (mo : Mode) (hm : modeOfLit m = some mo) :
    (fifthsModeToKeyNameG f m).isSome ∧ (fifthsModeToKeyNameG f m).bind keyNameToFifthsModeG = some (f, mo) := by
  rw [fifthsModeToKeyNameG_eq, hm]
  simp only [Option.bind_some]
  have := key_bijection f h1 h2 mo
  refine ⟨this.1, ?_⟩
  have h := this.2
  cases hk : fifthsModeToKeyName f mo with
  | none => rw [hk] at h; simp at h
  | some nm => rw [hk] at h; simpa [keyNameToFifthsModeG_eq] using h

/-- … and the other way round: each of the thirty names is read as a (fifths, mode) pair that prints that name -/
theorem key_bijection_names :
    (∀ nm ∈ MAJOR_KEYS, (keyNameToFifthsModeG nm).bind (fun r => fifthsModeToKeyNameG r.1 (PyLit.str (modeName r.2))) = some nm) ∧
    (∀ nm ∈ MINOR_KEYS, (keyNameToFifthsModeG (nm ++ "m")).bind
      (fun r => fifthsModeToKeyNameG r.1 (PyLit.num (keyModeToInt r.2 : Int))) = some (nm ++ "m")) := by decide +kernel

example : modeOfLit (PyLit.num (-1)) = some Mode.minor ∧ modeOfLit PyLit.none = some Mode.major ∧
    modeOfLit (PyLit.str "1") = none ∧ modeOfLit (PyLit.num 0) = none ∧ keyModeToIntG (PyLit.str "minor") = some (-1) ∧
    keyIntToModeG (PyLit.num 1) = some "major" ∧ keyIntToModeG (PyLit.str "dorian") = none := by decide +kernel

/-- a name is produced EXACTLY for fifths in −7..7 with an accepted mode: everything else is rejected, never mapped
    to another key … -/
theorem key_accepts_iff (f : Int) (m : PyLit) :
    (fifthsModeToKeyNameG f m).isSome ↔ (-7 ≤ f ∧ f ≤ 7) ∧ (modeOfLit m).isSome := by
  rw [fifthsModeToKeyNameG_eq]
  cases hm : modeOfLit m with
  | none => simp
  | some mo =>
    simp only [Option.bind_some, Option.isSome_some, and_true]
    constructor
    · intro h
      by_contra hc
      have : f < -7 ∨ 7 < f := by omega
      rw [key_rejects f mo this] at h
      simp at h
    · intro ⟨h1, h2⟩
      exact (key_bijection f h1 h2 mo).1

/-- … although the list indexing alone WOULD wrap around: it is the range guard that rejects -/
example : keyListIndex (-8) false = some "C#" ∧ keyListIndex (-22) true = some "Ab" ∧
    fifthsModeToKeyNameG (-8) (PyLit.str "major") = none ∧ fifthsModeToKeyNameG 0 f2kDefaultMode = some "C" := by decide +kernel

theorem label_durs_pos : ∀ e ∈ LABEL_DURS, 0 < e.2 := by decide +kernel

/-- **tuplet ratio**: for every pair of note types of the table and all counts, the multiplier is exactly
    normal_notes · dur(normal_type) / (actual_notes · dur(actual_type)) — also when the two types are equal -/
theorem tuplet_multiplier (a n : Nat) (ta tn : String) (va vn : Rat) (ha : a ≠ 0)
    (hta : lookup ta LABEL_DURS = some va) (htn : lookup tn LABEL_DURS = some vn) :
    tupletMultiplierO a n (some ta) (some tn) = some ((n : Rat) * vn / ((a : Rat) * va)) := by
  have hva : va ≠ 0 := ne_of_gt (label_durs_pos _ (Model.lookup_mem hta))
  rw [tupletMultiplierO, if_neg ha]
  split
  · rename_i heq
    cases heq
    rw [hta] at htn
    cases htn
    rw [mul_div_mul_right _ _ hva]
  · simp only [Option.bind_some, hta, htn]
    rw [div_mul_eq_mul_div, div_div]

/-- types never set: the plain ratio -/
theorem tuplet_untyped (a n : Nat) (ha : a ≠ 0) : tupletMultiplierO a n none none = some ((n : Rat) / (a : Rat)) := by
  simp [tupletMultiplierO, ha]

/-- what the ratio is for: `actual_notes` notes of the actual type, each scaled by it, last exactly as long as
    `normal_notes` notes of the normal type -/
theorem tuplet_fills (a n : Nat) (ta tn : String) (va vn m : Rat) (ha : a ≠ 0)
    (hta : lookup ta LABEL_DURS = some va) (htn : lookup tn LABEL_DURS = some vn)
    (hm : tupletMultiplierO a n (some ta) (some tn) = some m) : (a : Rat) * (va * m) = (n : Rat) * vn := by
  rw [tuplet_multiplier a n ta tn va vn ha hta htn] at hm
  cases hm
  have hva : va ≠ 0 := ne_of_gt (label_durs_pos _ (Model.lookup_mem hta))
  have ha' : (a : Rat) ≠ 0 := by exact_mod_cast ha
  rw [← mul_assoc, mul_div_cancel₀ _ (mul_ne_zero ha' hva)]

/-- a type that is not a note value, one type absent, or no actual notes: rejected -/
example : tupletMultiplierO 3 2 (some "quarter") (some "foo") = none ∧ tupletMultiplierO 3 2 (some "quarter") none = none ∧
    tupletMultiplierO 0 2 none none = none ∧ tupletMultiplierO 3 5 (some "quarter") (some "eighth") = some (5 / 6) ∧
    tupletMultiplierO 3 2 (some "half") (some "eighth") = some (1 / 6) := by decide +kernel

/-- a tuplet inside `symbolic_to_numeric_duration` scales by the same ratio as a same-type `Tuplet` -/
theorem symbolic_tuplet (ty : String) (v : Rat) (d a n : Nat) (divs m : Rat)
    (hu : lookup ty LABEL_DURS = some v) (hd : d ∈ [0, 1, 2, 3]) (ha : a ≠ 0) (hn : n ≠ 0)
    (hm : tupletMultiplierO a n (some ty) (some ty) = some m) :
    symbolicToNumeric (ty, d, some a, some n) divs = (symbolicToNumeric (ty, d, none, none) divs).map (· * m) := by
  have h1 := symbolic_numeric ty v d a n divs hu hd ha hn
  have hm' : m = (n : Rat) / (a : Rat) := by
    have : tupletMultiplierO a n (some ty) (some ty) = some ((n : Rat) / (a : Rat)) := by
      simp [tupletMultiplierO, ha]
    rw [this] at hm; cases hm; rfl
  rw [h1, hm']
  simp [symbolicToNumeric, hu, dot_multiplier d hd]

example : tupletMultiplierO 3 2 (some "eighth") (some "eighth") = some (2 / 3) ∧
    symbolicToNumeric ("eighth", 1, some 3, some 2) 480 = some 240 ∧
    symbolicToNumeric ("eighth", 1, none, none) 480 = some 360 := by decide +kernel

/-! ### the unit string printed for a note value reads back as a tempo unit -/

theorem formatSymbolic_plain (u : String) (d : Nat) :
    formatSymbolic (some (some u, some d, none, none)) = u ++ dotsStr d := rfl

/-- `to_quarter_tempo (format_symbolic_duration {type, dots}) t = t · (2 − 1/2^d) · value(type)` -/
theorem tempo_unit_roundtrip (u : String) (v : Rat) (d : Nat) (t : Rat) (hu : (u, v) ∈ LABEL_DURS) (hd : d ∈ [0, 1, 2, 3]) :
    toQuarterTempo (formatSymbolic (some (some u, some d, none, none))) t = some (t * ((2 : Rat) - 1 / 2 ^ d) * v) := by
  rw [formatSymbolic_plain]; exact tempo_units u v d t hu hd

/-! ### intervals over the ladders written in `Interval.change_quality` -/

theorem change_quality_size_src (q : String) (n : Nat) (k : Int) (q' : String)
    (hq : q ∈ ["dd", "d", "m", "M", "P", "A", "AA"]) (hn : n ∈ [1, 2, 3, 4, 5, 6, 7])
    (hv : intervalValidD q n none = true) (h : changeQualityG n q k = some q') :
    intervalValidD q' n none = true ∧ intervalSemitones q' n = (intervalSemitones q n).map (· + k) := by
  have hd : ivDefaultDirection = "up" := rfl
  unfold intervalValidD at hv ⊢
  simp only [Option.getD_none, hd] at hv ⊢
  rw [changeQualityG_eq] at h
  exact change_quality_size q n k q' hq hn hv h

/-- ticks → seconds → ticks is the identity for every tick, ppq and mpq — also with the keyword defaults left out
    (the two functions carry the same defaults and the same 10^6) -/
theorem tick_sec_tick_src (k : Int) (mpq ppq : Option Nat) (hm : mpq ≠ some 0) (hp : ppq ≠ some 0) :
    (tickToSecG (k : Rat) mpq ppq).bind (fun t => secToTickG t mpq ppq) = some k := by
  have hm0 := getD_ne_zero mpq 500000 (by decide) hm
  have hp0 := getD_ne_zero ppq 480 (by decide) hp
  rw [tickToSecG_eq k mpq ppq hp0, Option.bind_some, secToTickG_eq _ mpq ppq hm0,
    tick_sec_tick k _ _ (Nat.pos_of_ne_zero hm0) (Nat.pos_of_ne_zero hp0)]

/-- seconds → ticks → seconds comes back within half a tick (mpq / (2·10^6·ppq) seconds) -/
theorem sec_tick_sec_close (t : Rat) (mpq ppq : Nat) (hm : 0 < mpq) (hp : 0 < ppq) :
    |tickToSec (secToTick t mpq ppq) mpq ppq - t| ≤ (mpq : Rat) / (2 * 1000000 * (ppq : Rat)) :=
  Ticks.tickToSec_secToTick_close t mpq ppq hm hp

/-- `self.unit or "q"` -/
def unitOrQuarter : Option String → String
  | none => "q"
  | some s => if s = "" then "q" else s

theorem mpq_unfold (unit : Option String) (bpm : Rat) :
    microsecondsPerQuarterG unit bpm = match toQuarterTempo (unitOrQuarter unit) bpm with
      | some q => if q = 0 then none else some (roundHalfEven (60 * (1000000 / q)))
      | none => none := by
  cases unit <;> rfl

/-- `Tempo.microseconds_per_quarter` is a nearest integer to 60·10^6 / (quarters per minute), for every unit string,
    also with the unit left out or empty (then a quarter) -/
theorem mpq_nearest (unit : Option String) (bpm : Rat) (k : Int) (h : microsecondsPerQuarterG unit bpm = some k) :
    ∃ q : Rat, q ≠ 0 ∧ toQuarterTempo (unitOrQuarter unit) bpm = some q ∧ |(k : Rat) - 60 * 1000000 / q| ≤ 1 / 2 := by
  rw [mpq_unfold] at h
  cases hq : toQuarterTempo (unitOrQuarter unit) bpm with
  | none => rw [hq] at h; simp at h
  | some q =>
    rw [hq] at h
    simp only at h
    split at h
    · simp at h
    · rename_i hq0
      simp only [Option.some.injEq] at h
      refine ⟨q, hq0, rfl, ?_⟩
      rw [← h]
      have e : (60 : Rat) * (1000000 / q) = 60 * 1000000 / q := by ring
      rw [e]
      exact Round.roundHalfEven_close _

example : microsecondsPerQuarterG none 120 = some 500000 ∧ microsecondsPerQuarterG (some "h.") 50 = some 400000 ∧
    microsecondsPerQuarterG (some "") 60 = some 1000000 ∧ microsecondsPerQuarterG (some "q") 0 = none := by decide +kernel

/-! ### frequency: the constants of the two source lines fit together -/

/-- number of octaves between the reference pitches of the two formulas -/
def freqShift : Nat := ((m2fRef - f2mRef) / m2fOctave).num.toNat

/-- the constants of `midi_pitch_to_frequency` and `frequency_to_midi_pitch` as regenerated: base 2, the same
    octave size, and the scale factors differ by exactly the octaves between the two reference pitches.
    (Props/C12Real.lean derives the inversion over ℝ from these equations alone.) -/
theorem freq_consts :
    m2fBase = 2 ∧ f2mOctave = m2fOctave ∧ m2fOctave ≠ 0 ∧ m2fDiv ≠ 0 ∧
    f2mMul = m2fDiv * 2 ^ freqShift ∧ (freqShift : Rat) * m2fOctave = m2fRef - f2mRef := by decide +kernel

/-- with the tuning left out both conversions assume the same (positive) frequency of A4 -/
theorem freq_defaults_agree : m2fDefaultA4 = f2mDefaultA4 ∧ 0 < m2fDefaultA4 := by decide +kernel

/-- on whole octaves from the reference pitch the frequency is rational: A4 = MIDI 69 sounds at the tuning
    frequency (440 Hz when left out), an octave doubles it -/
theorem freq_octaves : midiToFreqQ 69 none = some 440 ∧ midiToFreqQ 69 (some 415) = some 415 ∧
    midiToFreqQ 81 (some 442) = some 884 ∧ midiToFreqQ 57 none = some 220 ∧ midiToFreqQ 9 (some 440) = some (55 / 4) ∧
    midiToFreqQ (-3) (some 440) = some (55 / 8) ∧ midiToFreqQ 60 none = none := by decide +kernel

end C12
