/-
C07 — version detection and file-level dispatch (`importmatch.get_version`, `load_matchfile`), and the
start offset of a component's search.
-/
import PartituraModel.Model.MatchLine
import PartituraModel.Gen.MatchTemplates
import PartituraModel.Props.C07Alpha

namespace C07
open Model Model.Template Model.MatchCodec Model.MatchLine C07Line

/-- the text of the version line `info(matchFileVersion,a.b.c).` -/
def versionLine (a b c : Nat) : Str := "info(matchFileVersion,".toList ++ encVersion a b c ++ ").".toList

/-- what the version line needs of an info template: how it is written, its two fields, and that the Value
    under the Attribute `matchFileVersion` is a version (decidable) -/
def isInfoShape (t : Template) : Bool :=
  t.out == [.lit "info(", .fld "Attribute", .lit ",", .fld "Value", .lit ")."]
    && t.fields == [("Attribute", Enc.strip, Dec.str), ("Value", Enc.byAttr, Dec.byAttr)]
    && lookup "matchFileVersion" t.valueBy == some (Enc.version, Dec.version)
    && t.unmodelled.isNone

/-- every generated info template (all six versions) is written `info(Attribute,Value).` with
    `matchFileVersion` interpreted as a version; whole table -/
theorem info_shape : ∀ t ∈ Gen.matchTemplates, t.kind = "info" → isInfoShape t = true := by
  decide +kernel

example : (Gen.matchTemplates.filter (fun t => t.kind == "info")).length = 6 := by decide +kernel

/-- the texts of the two fields of a version line -/
def versionTexts (a b c : Nat) : List (String × Str) :=
  [("Attribute", "matchFileVersion".toList), ("Value", encVersion a b c)]

/-- the version line is the info line written with these two texts -/
theorem versionLine_render (a b c : Nat) :
    render [OSeg.lit "info(", OSeg.fld "Attribute", OSeg.lit ",", OSeg.fld "Value", OSeg.lit ")."]
      (textOf (versionTexts a b c)) = versionLine a b c := by
  have hA : ∀ x y : Str, lookup "Attribute" [("Attribute", x), ("Value", y)] = some x := fun _ _ => rfl
  have hV : ∀ x y : Str, lookup "Value" [("Attribute", x), ("Value", y)] = some y := fun _ _ => by
    simp only [lookup]
    rfl
  have hl : "info(matchFileVersion,".toList = "info(".toList ++ ("matchFileVersion".toList ++ ",".toList) := by
    decide +kernel
  simp only [versionTexts, render, textOf, hA, hV, Option.getD_some]
  -- (`rw`, not `simp`, with `hl`: matching it against the other literals would make `simp` decode them)
  unfold versionLine
  rw [hl]
  simp only [List.append_assoc, List.append_nil]

/-- **the version line of EVERY version `a.b.c`** is written by, and read back from, the info class of every
    format version: `parse(format (matchFileVersion, a.b.c)) = (matchFileVersion, a.b.c)` and the text is a
    formatting fixpoint -/
theorem version_line_roundtrip (t : Template) (hmem : t ∈ Gen.matchTemplates) (hk : t.kind = "info") (a b c : Nat) :
    formatT t [.str "matchFileVersion".toList, .ver a b c] = some (versionLine a b c) ∧
    parseT t (versionLine a b c) = .ok [.str "matchFileVersion".toList, .ver a b c] ∧
    ((parseT t (versionLine a b c)).toOption.bind (formatT t)) = some (versionLine a b c) := by
  have hs := info_shape t hmem hk
  simp only [isInfoShape, Bool.and_eq_true, beq_iff_eq, Option.isNone_iff_eq_none] at hs
  obtain ⟨⟨⟨hout, hfields⟩, hval⟩, hun⟩ := hs
  have hattr : attrOf t [.str "matchFileVersion".toList, .ver a b c] = some "matchFileVersion".toList := by
    unfold attrOf
    rw [hfields]
    rfl
  have hcA : codecFor t (some "matchFileVersion".toList) ("Attribute", Enc.strip, Dec.str)
      = some (Enc.strip, Dec.str) := rfl
  have hcV : codecFor t (some "matchFileVersion".toList) ("Value", Enc.byAttr, Dec.byAttr)
      = some (Enc.version, Dec.version) := by
    have : String.ofList "matchFileVersion".toList = "matchFileVersion" := by decide +kernel
    simp only [codecFor, beq_self_eq_true, if_true, this, hval]
  -- the text: both fields are written as they stand between the literals
  have hf : formatT t [.str "matchFileVersion".toList, .ver a b c] = some (versionLine a b c) := by
    have hs : encStrip "matchFileVersion".toList = "matchFileVersion".toList := by decide +kernel
    simp only [formatT, hun, Option.isSome_none, Bool.false_eq_true, if_false]
    simp only [hattr, hfields, encodeFields, hcA, hcV, encode, hs, Option.map_some, hout]
    exact congrArg some (versionLine_render a b c)
  -- it is read back: the info line of the attribute `matchFileVersion`
  have ha : "matchFileVersion" ∈ t.valueBy.map (·.1) := lookup_isSome_iff.mp (by rw [hval]; rfl)
  obtain ⟨line, h1, h2, h3⟩ := info_line_roundtrip_values t hmem (.inl hk) _ "matchFileVersion" ha hattr
    (by
      rw [hfields]
      exact ⟨⟨_, hcA, (by decide +kernel : strip "matchFileVersion".toList = _)⟩, ⟨_, hcV, trivial⟩, trivial⟩)
    (by
      simp only [selFields, hfields, List.map, encSel, hcA, hcV]
      exact ⟨(by decide +kernel : "matchFileVersion".toList ≠ [] ∧ _), trivial, trivial⟩)
  obtain rfl := Option.some.inj (h1.symm.trans hf)
  exact ⟨hf, h2, h3⟩

private theorem find_info (n : String) (hn : (findTpl Gen.matchTemplates n).isSome = true)
    (hkind : ∀ t ∈ Gen.matchTemplates, t.name = n → t.kind = "info") :
    ∃ t, findTpl Gen.matchTemplates n = some t ∧ t ∈ Gen.matchTemplates ∧ t.kind = "info" := by
  cases h : findTpl Gen.matchTemplates n with
  | none => rw [h] at hn; simp at hn
  | some t =>
    unfold findTpl at h
    have hm := List.mem_of_find?_eq_some h
    have hp := List.find?_some h
    simp only [beq_iff_eq] at hp
    exact ⟨t, rfl, hm, hkind t hm hp⟩

/-- **version detection**: `get_version` of a written version line returns that version, for every
    `a.b.c` (the 1.0.0 info parser, tried first, already reads it) -/
theorem version_detected (a b c : Nat) : getVersion Gen.matchTemplates (versionLine a b c) = some (a, b, c) := by
  obtain ⟨t, hf, hm, hk⟩ := find_info (verName Gen.latestVersion ++ "/info") (by decide +kernel) (by decide +kernel)
  obtain ⟨_, hparse, _⟩ := version_line_roundtrip t hm hk a b c
  have hs := info_shape t hm hk
  simp only [isInfoShape, Bool.and_eq_true, beq_iff_eq] at hs
  obtain ⟨⟨⟨_, hfields⟩, _⟩, _⟩ := hs
  unfold getVersion
  simp only [hf, hparse, hfields]
  rfl

example : versionLine 0 5 0 = "info(matchFileVersion,0.5.0).".toList ∧
    getVersion Gen.matchTemplates "info(matchFileVersion,5.0).".toList = some (0, 5, 0) ∧
    getVersion Gen.matchTemplates "info(keySignature,[en,major]).".toList = some (0, 1, 0) ∧
    getVersion Gen.matchTemplates [] = some (0, 1, 0) := by
  -- the literal as a character list: see the remark at the first example of Props/C07.lean
  rw [String.toList_ofList, String.toList_ofList, String.toList_ofList]
  decide +kernel

/-- **file-level dispatch**: a file whose first non-empty line is the version line `a.b.c` is read as that
    version: every distinct non-empty line (first occurrence) goes through the parser list of that version
    (`FROM_MATCHLINE_METHODS` of matchlines_v1 for `a ≥ 1`, of matchlines_v0 otherwise), in file order -/
theorem loadFile_version (lines rest : List Str) (a b c : Nat) (hne : lines ≠ [])
    (h : lines.filter (fun l => !l.isEmpty) = versionLine a b c :: rest) :
    loadFile Gen.matchTemplates Gen.matchComposites lines =
      some ((a, b, c), (versionLine a b c :: rest).eraseDups.filterMap
        (dispatch Gen.matchTemplates Gen.matchComposites
          (if a ≥ 1 then Gen.dispatchOrderV1 else Gen.dispatchOrderV0) (a, b, c))) := by
  unfold loadFile
  cases lines with
  | nil => exact absurd rfl hne
  | cons l0 ls =>
    simp only [h, List.head?_cons, Option.getD_some, version_detected]

-- non-vacuity: a three-line 1.0.0 file with an empty and a repeated line
example : (loadFile Gen.matchTemplates Gen.matchComposites
      ["".toList, "info(matchFileVersion,1.0.0).".toList, "sustain(10,64).".toList, "sustain(10,64).".toList,
       "junk".toList]).map (fun r => (r.1, r.2.map (·.1)))
    = some ((1, 0, 0), ["info", "sustain"]) := by
  rw [String.toList_ofList, String.toList_ofList, String.toList_ofList, String.toList_ofList]
  decide +kernel

/-- `searchFrom` (the search that also reports `m.start()`) returns the groups of `search` -/
theorem searchFrom_groups (q : List Seg) (s : List Char) : (searchFrom q s 0).map (·.2) = search q s :=
  searchFrom_search q s 0

/-- **a component is found at its own offset**: behind a prefix in which no anchored match starts, the
    search over the whole line starts exactly at the end of the prefix and returns the encoded fields -/
theorem component_offset (t : Template) (v : String → List Char) (pre tail : List Char)
    (ht : TemplateOK t) (hv : FieldsOKGen t v tail)
    (hpre : noEarly t.pat pre (render t.out v ++ tail) = true) :
    searchFrom t.pat (pre ++ (render t.out v ++ tail)) 0 = some (pre.length, groupsOf t.pat v) := by
  have := searchFrom_skip t.pat _ _ pre 0 (noEarly_spec _ _ _ hpre)
    (matchSegs_render t.pat t.out v tail (agree_of_templateOK t ht) hv)
  simpa using this

example : ∃ t ∈ Gen.matchTemplates, t.name = "v0.5.0/note" ∧
    (searchFrom t.pat "snote(1-1,[C,#],4,1:2,1/8,1/4+1/8,0.5,1.25,[staff1,s])-note(n1,[C,#],4,100,200,210,60).".toList 0).map (·.1)
      = some 55 := by
  rw [String.toList_ofList]
  decide +kernel

end C07
