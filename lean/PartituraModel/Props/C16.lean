/-
C16 — transposition moves every note by the interval and leaves the input alone.
Theorems over Model/Transpose.lean (the repaired `_transpose_note_inplace` arithmetic): first on step indices, all from
the characterisation of Proofs/C16Idx.lean (the translation by (number − 1, size) of staff position and pitch), then
on step names (the function the driver runs), the hypotheses discharged from the tables.
-/
import PartituraModel.Proofs.C16Keys
import PartituraModel.Proofs.C16Note
import PartituraModel.Proofs.C16Idx
import PartituraModel.Proofs.C12Interval

namespace C16
open Model Gen

def upOK (i k : Nat) : Bool :=
  match basePcIdx i, basePcIdx ((i + k) % 7) with
  | some bi, some bj => decide ((bj - bi) % 12 = bj - bi + (if (i + k) % 7 < i then 12 else 0))
  | _, _ => false

def downOK (i k : Nat) : Bool :=
  match basePcIdx i, basePcIdx ((((i : Int) - (k : Int)) % 7).toNat) with
  | some bi, some bj =>
    decide ((bi - bj) % 12 = bi - bj + (if (((i : Int) - (k : Int)) % 7).toNat > i then 12 else 0))
  | _, _ => false

/-- whole-table obligation (re-checked whenever STEPS / MIDI_BASE_CLASS change in the source):
    going up k steps from step i, the distance between the natural steps modulo 12 is the plain
    difference plus an octave exactly when the step index wraps; same downwards -/
theorem table_wrap : ∀ i ∈ List.range 7, ∀ k ∈ List.range 7, upOK i k = true ∧ downOK i k = true := by
  decide +kernel

theorem steps_bijection :
    (∀ e ∈ STEPS_TO_INT, lookup e.2 INT_TO_STEPS = some e.1) ∧
    (∀ e ∈ INT_TO_STEPS, lookup e.2 STEPS_TO_INT = some e.1) ∧
    (INT_TO_STEPS.map (·.1) = List.range 7) := by decide +kernel

/-- transposition is total on the seven steps (never raises), for every alteration, octave, interval -/
theorem transpose_total (i : Nat) (hi : i < 7) (a o : Int) (n : Nat) (hn : 1 ≤ n) (s : Int) (up : Bool) :
    (transposeIdx i a o n s up).isSome ∧ (midiIdx i a o).isSome := by
  obtain ⟨j, a', o', e, -⟩ := transposeIdx_moves hi a o hn s up
  exact ⟨by rw [e]; rfl, by rw [midiIdx, basePc hi]; rfl⟩

/-- **semitones moved**: for every step, every integer alteration and octave and every interval
    (any number ≥ 1, any size `s`), the MIDI pitch of the transposed note is the old one plus `s`
    upwards and minus `s` downwards -/
theorem semitones_moved (i : Nat) (hi : i < 7) (a o : Int) (n : Nat) (hn : 1 ≤ n) (s : Int) (up : Bool)
    (j : Nat) (a' o' : Int) (h : transposeIdx i a o n s up = some (j, a', o')) :
    midiIdx j a' o' = (midiIdx i a o).map (fun m => if up then m + s else m - s) :=
  ((transposeIdx_iff hi a o hn s up j a' o').mp h).2.2

/-- **staff steps for ANY number ≥ 1** (compound intervals included): the step arithmetic of `_transpose_step` /
    the octave bookkeeping of `_transpose_note_inplace` moves the staff position by (number − 1) mod 7 — the whole
    octaves of a compound interval are not applied ("TODO work for arbitrary octave" in the source), which is
    consistent with `Interval.semitones` having no size for numbers above 7 (the call then raises, see
    `transposeSpelling`); for numbers 1..7 this is `steps_moved` -/
theorem steps_moved_any (i : Nat) (hi : i < 7) (a o : Int) (n : Nat) (hn : 1 ≤ n) (s : Int) (up : Bool)
    (j : Nat) (a' o' : Int) (h : transposeIdx i a o n s up = some (j, a', o')) :
    diatonicIdx j o' =
      (if up then diatonicIdx i o + ((n : Int) - 1) % 7 else diatonicIdx i o - ((n : Int) - 1) % 7) :=
  ((transposeIdx_iff hi a o hn s up j a' o').mp h).2.1

/-- **staff steps moved**: for intervals within the octave (number 1..7, the only ones with a
    defined size) the diatonic position changes by exactly number − 1 steps in the direction -/
theorem steps_moved (i : Nat) (hi : i < 7) (a o : Int) (n : Nat) (hn : 1 ≤ n) (hn7 : n ≤ 7) (s : Int) (up : Bool)
    (j : Nat) (a' o' : Int) (h : transposeIdx i a o n s up = some (j, a', o')) :
    diatonicIdx j o' = (if up then diatonicIdx i o + ((n : Int) - 1) else diatonicIdx i o - ((n : Int) - 1)) := by
  have hm : ((n : Int) - 1) % 7 = (n : Int) - 1 := by omega
  rw [← hm]
  exact steps_moved_any i hi a o n hn s up j a' o' h

/-- **up then down is the identity** on (step, alteration, octave), for every interval -/
theorem up_down_id (i : Nat) (hi : i < 7) (a o : Int) (n : Nat) (hn : 1 ≤ n) (s : Int)
    (j : Nat) (a' o' : Int) (h : transposeIdx i a o n s true = some (j, a', o')) :
    transposeIdx j a' o' n s false = some (i, a, o) :=
  there_and_back i hi a o n hn s true j a' o' h

/-- and down then up -/
theorem down_up_id (i : Nat) (hi : i < 7) (a o : Int) (n : Nat) (hn : 1 ≤ n) (s : Int)
    (j : Nat) (a' o' : Int) (h : transposeIdx i a o n s false = some (j, a', o')) :
    transposeIdx j a' o' n s true = some (i, a, o) :=
  there_and_back i hi a o n hn s false j a' o' h

/-- **"the octave follows the step"**, spelled out: the new octave and step are quotient and remainder of the moved
    staff position by 7 — the octave changes exactly when the step letter wraps past B / below C -/
theorem octave_follows_step (i : Nat) (hi : i < 7) (a o : Int) (n : Nat) (hn : 1 ≤ n) (hn7 : n ≤ 7) (s : Int)
    (up : Bool) (j : Nat) (a' o' : Int) (h : transposeIdx i a o n s up = some (j, a', o')) :
    o' = (if up then diatonicIdx i o + ((n : Int) - 1) else diatonicIdx i o - ((n : Int) - 1)) / 7 ∧
    (j : Int) = (if up then diatonicIdx i o + ((n : Int) - 1) else diatonicIdx i o - ((n : Int) - 1)) % 7 := by
  have hj := transposeIdx_lt hi hn h
  rw [← steps_moved i hi a o n hn hn7 s up j a' o' h]
  unfold diatonicIdx
  omega

/-- the 39 interval classes of the regenerated table all have a size -/
theorem interval_classes_sized :
    ∀ c ∈ INTERVALCLASSES, (lookup c INTERVAL_TO_SEMITONES).isSome := fun _ => C12.listed_sized

/-- `P1` leaves any note unchanged (the code's early return) and agrees with the arithmetic -/
theorem unison_identity (i : Nat) (hi : i < 7) (a o : Int) (up : Bool) :
    transposeIdx i a o 1 0 up = some (i, a, o) := by
  refine (transposeIdx_iff hi a o (Nat.le_refl 1) 0 up i a o).mpr ⟨hi, by cases up <;> simp, ?_⟩
  cases midiIdx i a o <;> cases up <;> simp

/-- non-vacuity: C4 down a major second is B♭3; E## up a minor second is F## -/
example : transposeSpelling "C" (some 0) 4 "M" 2 false = some ("B", some (-1), 3) := by decide +kernel
example : transposeSpelling "E" (some 2) 4 "m" 2 true = some ("F", some 2, 4) := by decide +kernel
example : transposeIdx 0 0 4 2 2 false = some (6, -1, 3) := by decide +kernel

/-- the interval classes as (quality, number) pairs, written the way globals.py builds INTERVALCLASSES -/
def classPairs : List (String × Nat) :=
  ([2, 3, 6, 7].flatMap fun n => ["dd", "d", "m", "M", "A", "AA"].map fun q => (q, n)) ++
  ([1, 4, 5].flatMap fun n => ["dd", "d", "P", "A", "AA"].map fun q => (q, n))

/-- … and they are exactly the regenerated table: a valid simple `Interval` is one of these pairs -/
theorem class_pairs_are_the_classes :
    classPairs.map (fun e => e.1 ++ showNat e.2) = INTERVALCLASSES := by decide +kernel

/-- position on the staff of a spelled note -/
def staffPos (step : String) (octave : Int) : Option Int :=
  (lookup (upper step) STEPS_TO_INT).map fun i => 7 * octave + (i : Int)

theorem class_sized {e : String × Nat} (he : e ∈ classPairs) :
    ∃ sz, lookup (e.1 ++ showNat e.2) INTERVAL_TO_SEMITONES = some sz ∧ 1 ≤ e.2 ∧ e.2 ≤ 7 ∧
      (e.1 ++ showNat e.2 = "P1" → sz = 0 ∧ e.2 = 1) := by
  have hc : e.1 ++ showNat e.2 ∈ INTERVALCLASSES :=
    class_pairs_are_the_classes ▸ List.mem_map.mpr ⟨e, he, rfl⟩
  obtain ⟨sz, hz⟩ := Option.isSome_iff_exists.mp (interval_classes_sized _ hc)
  obtain ⟨h1, h7⟩ := sized_nat hz
  refine ⟨sz, hz, h1, h7, fun hP => ⟨?_, (key_inj (q := "P") (k := 1) h7 (by decide) hP).2⟩⟩
  rw [hP] at hz
  exact (Option.some.inj hz).symm

/-- the octave-free variant used for chord roots and local keys (`transpose_note`) -/
def agreeOK (s : String) (a : Int) (q : String) (n : Nat) : Bool :=
  match transposeNoteNoOctave s a q n with
  | some (s', a') =>
    decide ((transposeSpelling s (some a) 4 q n true).map (fun x => (x.1, x.2.1)) = some (s', some a'))
  | none => true

/-- on EVERY alteration, quality and number: `note_inv` reads the returned value back as the table entries the full
    transposition looks up, and the two alterations differ by the reduction of the natural steps modulo 12 only -/
theorem octave_free_always {s : String} (hs : s ∈ steps7) {a : Int} {q : String} {n : Nat} {s' : String} {a' : Int}
    (h : transposeNoteNoOctave s a q n = some (s', a')) :
    (transposeSpelling s (some a) 4 q n true).map (fun x => (x.1, x.2.1)) = some (s', some a') := by
  obtain ⟨i, sz, b, b', hi, hsz, hs', hb, hb', -, -, -, rfl⟩ := note_inv h
  obtain ⟨i0, hi0, h1, h2⟩ := step_facts s hs
  rw [List.mem_range] at hi0
  rw [h1] at hi
  obtain rfl : i0 = i := Option.some.inj hi
  obtain ⟨hn1, hn7⟩ := sized_nat hsz
  rw [(step_of_index _ (Model.lookup_mem h2)).2.1] at hb
  -- the step `_transpose_step` computes is the step `transpose_note` computes (1 ≤ n)
  have hj : (i0 + (n - 1)) % 7 = (i0 + n - 1) % 7 := by omega
  have hbi : basePcIdx i0 = some b := by rw [basePcIdx_eq h2, hb]
  have hbj : basePcIdx ((i0 + n - 1) % 7) = some b' := by rw [basePcIdx_eq hs', hb']
  by_cases hP : q ++ showNat n = "P1"
  · obtain ⟨-, rfl⟩ := key_inj (q := "P") (k := 1) hn7 (by decide) hP
    rw [hP] at hsz
    obtain rfl : 0 = sz := Option.some.inj hsz
    have hi : (i0 + 1 - 1) % 7 = i0 := by omega
    rw [hi, h2] at hs'
    cases hs'
    rw [hb] at hb'
    cases hb'
    simp only [transposeSpelling, hP, if_true, Option.map_some, Option.some.injEq, Prod.mk.injEq, true_and]
    omega
  · -- the classes with the alteration differ by the natural distance: ((b' + a) % 12 − (b + a) % 12) ≡ b' − b (mod 12)
    simp only [transposeSpelling, hP, if_false, h1, hsz, transposeIdx, transposeStepIdx, if_true, hj, hbi, hbj, hs',
      Option.getD_some, Option.map_some, Option.some.injEq, Prod.mk.injEq, true_and]
    omega

/-- **octave-free variant agrees**: wherever `transpose_note` returns a value (its assertions hold)
    it is the step and alteration of the full note transposition — stated on the domain upper-case steps × alterations
    −2..2 × qualities × numbers 1..7 -/
theorem octave_free_agrees :
    ∀ s ∈ ["C", "D", "E", "F", "G", "A", "B"], ∀ a ∈ [(-2 : Int), -1, 0, 1, 2],
    ∀ q ∈ ["dd", "d", "m", "M", "P", "A", "AA"], ∀ n ∈ [1, 2, 3, 4, 5, 6, 7], agreeOK s a q n = true :=
  fun s hs a _ q _ n _ => by
    unfold agreeOK
    cases h : transposeNoteNoOctave s a q n with
    | none => rfl
    | some r => simp only [octave_free_always hs (s' := r.1) (a' := r.2) h, decide_true]

private theorem midi_bridge {i : Nat} {s : String} (hl : lookup i INT_TO_STEPS = some s) (al : Option Int) (o : Int) :
    spellingToMidi s al o = midiIdx i (al.getD 0) o := by
  simp [spellingToMidi, midiIdx, basePcIdx, hl]

private theorem staff_bridge {i : Nat} {s : String} (hl : lookup (upper s) STEPS_TO_INT = some i) (o : Int) :
    staffPos s o = some (diatonicIdx i o) := by
  simp [staffPos, diatonicIdx, hl]

/-- **one note, end to end** (string level, the function the driver runs): for every step name, every alteration
    (also `None`), every octave, every one of the 39 interval classes and both directions
    `_transpose_note_inplace` does not raise, the new step is a step name, the MIDI pitch moves by the interval's
    semitones and the staff position by number − 1 steps in the direction.  No side condition is left: the
    hypotheses of `semitones_moved` / `steps_moved` (index < 7, 1 ≤ number ≤ 7) are discharged from the tables. -/
theorem note_moved (s : String) (hs : s ∈ steps7) (e : String × Nat) (he : e ∈ classPairs)
    (al : Option Int) (o : Int) (up : Bool) :
    ∃ s' al' o' sz, transposeSpelling s al o e.1 e.2 up = some (s', al', o') ∧ s' ∈ steps7 ∧
      intervalSemitones e.1 e.2 = some sz ∧
      (∃ m, spellingToMidi s al o = some m ∧
        spellingToMidi s' al' o' = some (if up then m + sz else m - sz)) ∧
      (∃ d, staffPos s o = some d ∧
        staffPos s' o' = some (if up then d + ((e.2 : Int) - 1) else d - ((e.2 : Int) - 1))) := by
  obtain ⟨i, hi, h1, h2⟩ := step_facts s hs
  rw [List.mem_range] at hi
  obtain ⟨sz, hz, hn1, hn7, hp⟩ := class_sized he
  have hm := midi_bridge h2 al o
  have hd := staff_bridge h1 o
  obtain ⟨hT, hM⟩ := transpose_total i hi (al.getD 0) o e.2 hn1 sz up
  obtain ⟨m, hm0⟩ := Option.isSome_iff_exists.mp hM
  by_cases hP : e.1 ++ showNat e.2 = "P1"
  · obtain ⟨hz0, hn⟩ := hp hP
    refine ⟨s, al, o, sz, ?_, hs, hz, ⟨m, by rw [hm, hm0], ?_⟩, ⟨_, hd, ?_⟩⟩
    · simp [transposeSpelling, hP]
    · rw [hm, hm0, hz0]; cases up <;> simp
    · rw [hd, hn]; cases up <;> simp
  · obtain ⟨⟨j, a', o'⟩, ht⟩ := Option.isSome_iff_exists.mp hT
    obtain ⟨s', hs', hl', hu'⟩ := idx_facts j (List.mem_range.mpr (transposeIdx_lt hi hn1 ht))
    refine ⟨s', some a', o', sz, ?_, hs', hz, ⟨m, by rw [hm, hm0], ?_⟩, ⟨_, hd, ?_⟩⟩
    · simp [transposeSpelling, hP, h1, hz, ht, hl']
    · rw [midi_bridge hl' (some a') o', Option.getD_some, semitones_moved i hi _ o e.2 hn1 sz up j a' o' ht, hm0]
      cases up <;> simp
    · rw [staff_bridge hu' o', steps_moved i hi _ o e.2 hn1 hn7 sz up j a' o' ht]

/-- **up and then down restores the spelling** (string level): step and octave come back exactly, the alteration
    as a number (`None` counts as 0: after a transposition other than P1 the alteration is always an int) -/
theorem note_up_down (s : String) (hs : s ∈ steps7) (e : String × Nat) (he : e ∈ classPairs)
    (al : Option Int) (o : Int) (up : Bool) :
    ∃ s' al' o' al'', transposeSpelling s al o e.1 e.2 up = some (s', al', o') ∧
      transposeSpelling s' al' o' e.1 e.2 (!up) = some (s, al'', o) ∧ al''.getD 0 = al.getD 0 := by
  obtain ⟨i, hi, h1, h2⟩ := step_facts s hs
  rw [List.mem_range] at hi
  obtain ⟨sz, hz, hn1, hn7, hp⟩ := class_sized he
  by_cases hP : e.1 ++ showNat e.2 = "P1"
  · exact ⟨s, al, o, al, by simp [transposeSpelling, hP], by simp [transposeSpelling, hP], rfl⟩
  · obtain ⟨hT, -⟩ := transpose_total i hi (al.getD 0) o e.2 hn1 sz up
    obtain ⟨⟨j, a', o'⟩, ht⟩ := Option.isSome_iff_exists.mp hT
    obtain ⟨s', hs', hl', hu'⟩ := idx_facts j (List.mem_range.mpr (transposeIdx_lt hi hn1 ht))
    have hback := there_and_back i hi _ o e.2 hn1 sz up j a' o' ht
    refine ⟨s', some a', o', some (al.getD 0), ?_, ?_, rfl⟩
    · simp [transposeSpelling, hP, h1, hz, ht, hl']
    · simp [transposeSpelling, hP, hu', hz, hback, h2]

example : transposeSpelling "G" (some 1) 4 "M" 2 true = some ("A", some 1, 4) ∧
    transposeSpelling "A" (some (-1)) 4 "M" 2 true = some ("B", some (-1), 4) ∧
    transposeSpelling "B" none 3 "m" 3 false = some ("G", some 1, 3) := by decide +kernel

end C16
