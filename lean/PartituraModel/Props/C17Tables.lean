/-
C17 — obligations over the tables regenerated from the source on every run (Gen.Ps13Tables, Gen.C17Tables,
Gen.Tables): that the translators could READ the source, and whole-table facts the model relies on.
Every theorem here is a kernel evaluation of a whole finite table, or read off one.
-/
import PartituraModel.Model.Ps13
import PartituraModel.Model.KeyEst
import PartituraModel.Model.C17Wrap

namespace C17
open Model Gen

/-- every table of pitch_spelling.py was extracted from the live source (none holds a pinned, last known
    value): fails to build, naming this theorem, when compute_morph_array / ps13s1 no longer have a shape
    the translator can read -/
theorem ps13_tables_extracted : PS13_PINNED = [] := by decide +kernel

/-- the same for the option / name tables of the three wrappers -/
theorem c17_tables_extracted : C17_PINNED = [] := by decide +kernel

/-- `STEPS` are the seven letters from A, `UND_CHROMA` their chromas above A: strictly increasing inside
    one octave, starting at 0 — `p2pn`'s alteration is a displacement from the right natural -/
theorem ps13_step_tables :
    PS13_STEPS = ["A", "B", "C", "D", "E", "F", "G"] ∧ PS13_UND_CHROMA.length = 7 ∧
    PS13_UND_CHROMA.head? = some 0 ∧ PS13_UND_CHROMA.Pairwise (· < ·) ∧ ∀ x ∈ PS13_UND_CHROMA, 0 ≤ x ∧ x < 12 := by
  decide +kernel

/-- both morph tables have 12 entries, start at morph 0 for the unison, stay within the 7 morphs and never
    decrease; and they are NOT the same table: they differ exactly at the tritone (chroma 6 above A is E flat as
    a first note, morph 4, but an augmented fourth as an interval, 3 steps) — merging them is a change of
    behaviour -/
theorem ps13_morph_tables :
    PS13_INIT_MORPH.length = 12 ∧ PS13_MORPH_INT.length = 12 ∧
    PS13_INIT_MORPH.head? = some 0 ∧ PS13_MORPH_INT.head? = some 0 ∧
    (∀ x ∈ PS13_INIT_MORPH, 0 ≤ x ∧ x < 7) ∧ (∀ x ∈ PS13_MORPH_INT, 0 ≤ x ∧ x < 7) ∧
    PS13_INIT_MORPH.Pairwise (· ≤ ·) ∧ PS13_MORPH_INT.Pairwise (· ≤ ·) ∧
    (∀ k : Fin 12, Ps13.initMorph k.val = Ps13.morphInt k.val ↔ k.val ≠ 6) := by
  decide +kernel

/-- the first note is spelled with at most ONE accidental whatever its chroma (whole table):
    `init_morph` names a natural or a single sharp/flat -/
theorem ps13_first_note_single_acc : ∀ c : Fin 12,
    -1 ≤ (c.val : Int) - Ps13.undChroma (Ps13.initMorph c.val) ∧
    (c.val : Int) - Ps13.undChroma (Ps13.initMorph c.val) ≤ 1 := by
  decide +kernel

/-- the matrix a profile set stands for in key_identification.py -/
def matrixName : KeyEst.ProfileSet → String
  | .kk => "KRUMHANSL_KESSLER" | .cbms => "CMBS" | .kp => "KOSTKA_PAYNE"

/-- entry (i, j) of the live matrix of a profile set; `none` = the matrix or the entry does not exist -/
def liveEntry (ps : KeyEst.ProfileSet) (i j : Nat) : Option Rat :=
  (lookup (matrixName ps) KEY_MATRICES).bind fun m => (m[i]?).bind fun row => row[j]?

/-- each live matrix, looked up by its name once, is the 24 × 12 table of the model's formula -/
theorem key_matrix_rows : ∀ ps ∈ C17Wrap.allSets,
    lookup (matrixName ps) KEY_MATRICES =
      some ((List.range 24).map fun i => (List.range 12).map fun j => KeyEst.keyProfile ps i j) := by
  decide +kernel

/-- the LIVE matrices (24 × 12, as `build_key_profile_matrix` left them at import) are, entry by entry, the
    rotations the model computes by formula: rows 0-11 the major profile and rows 12-23 the minor profile of the
    set, row i rotated so that its tonic sits at pitch class i mod 12 (all 3 × 24 × 12 entries, kernel-evaluated;
    `circulant(..).transpose()`, the `vstack` order and which vectors feed which matrix are checked here, not
    mirrored by hand) -/
theorem key_matrix_is_model : ∀ ps ∈ C17Wrap.allSets, ∀ i : Fin 24, ∀ j : Fin 12,
    liveEntry ps i.val j.val = some (KeyEst.keyProfile ps i.val j.val) := by
  intro ps hps i j
  rw [liveEntry, key_matrix_rows ps hps]
  simp only [Option.bind_some, List.getElem?_map, List.getElem?_range i.isLt, List.getElem?_range j.isLt,
    Option.map_some]

/-- and the matrices have no further rows or columns: exactly 24 rows of exactly 12 entries, three matrices -/
theorem key_matrix_shape :
    KEY_MATRICES.map (·.1) = KEY_MATRIX_ARGS.map (·.1) ∧
    ∀ m ∈ KEY_MATRICES, m.2.length = 24 ∧ ∀ row ∈ m.2, row.length = 12 := by
  decide +kernel

/-- every profile vector has 12 strictly positive entries (so no pitch class is ignored and the normalisation
    `key_prof /= sum` of build_key_profile_matrix never divides by zero) -/
theorem key_profiles_positive : ∀ ps ∈ C17Wrap.allSets,
    (KeyEst.majorProfile ps).length = 12 ∧ (KeyEst.minorProfile ps).length = 12 ∧
    (∀ x ∈ KeyEst.majorProfile ps, 0 < x) ∧ (∀ x ∈ KeyEst.minorProfile ps, 0 < x) := by
  decide +kernel

/-- `KEYS` lists 24 keys: 12 major then 12 minor -/
theorem keys_table_shape :
    KEYS.length = 24 ∧ (∀ k ∈ KEYS.take 12, k.2.1 = "major") ∧ (∀ k ∈ KEYS.drop 12, k.2.1 = "minor") := by
  decide +kernel

end C17
