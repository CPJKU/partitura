/-
C05 — the inverse direction gives the onsets back.

"Building a score from a note array and taking its note array returns the same onsets": for arrays
with division columns the triples are copied (Props/C05.lean: `from_to_array`).  For arrays with
beat columns only, `create_divs_from_beats` chooses the divisions AND may shift the onsets; these
theorems say exactly when and by how much (Model/NoteArray.lean: `beatShift`), where
`note_array_to_score` puts the pickup measure (Model/NoteArrayBack.lean: `anacrusisDivs`, repaired by
fixes/C05-9), and what the quarter / beat columns of the created part's note array then are
(`fromArrayBack`: pickup measure of `create_part`, first measure of `add_measures`, pickup rule of the
time maps).
-/
import PartituraModel.Proofs.C05Back
import Mathlib.Tactic.Linarith
import Mathlib.Tactic.Positivity

namespace C05
open NoteArray List Model

/-- **A late entry is not moved.**  Beat-only array without a negative (denominator-limited) onset:
    the divisions are positive and every note sits exactly at divisions × its beat — no shift. -/
theorem late_entry_not_moved (ht : Bool) (a : List ARow) (d : Nat) (l : List (Int × Int × Int))
    (h : fromArray true false ht a none = .ok (d, l))
    (hnn : ∀ r ∈ a, 0 ≤ limitDen r.onsetBeat 256) :
    0 < d ∧ Forall₂ (fun (r : ARow) (x : Int × Int × Int) =>
        (x.1 : Rat) = (d : Rat) * limitDen r.onsetBeat 256 ∧
        (x.2.1 : Rat) = (d : Rat) * limitDen r.durBeat 256 ∧ x.2.2 = r.pitch) (sortArr false a) l := by
  obtain ⟨hd, hf⟩ := fromArray_beat_shift ht a d l h
  refine ⟨hd ▸ beatDivs_pos _, hf.imp fun r x hab => ⟨?_, hab.2⟩⟩
  rw [hab.1, beatShift_beatRows_eq_zero a hnn, Int.cast_zero, add_zero]

/-- **The onsets that come back are the onsets that went in** (division columns of the new part,
    read on its own grid): beat-only array on the 1/256 grid without a negative onset. -/
theorem onsets_back_exact (ht : Bool) (a : List ARow) (d : Nat) (l : List (Int × Int × Int))
    (h : fromArray true false ht a none = .ok (d, l))
    (hgrid : ∀ r ∈ a, r.onsetBeat.den ≤ 256 ∧ r.durBeat.den ≤ 256 ∧ 0 ≤ r.onsetBeat) :
    Forall₂ (fun (r : ARow) (x : Int × Int × Int) =>
        (x.1 : Rat) / (d : Rat) = r.onsetBeat ∧ (x.2.1 : Rat) / (d : Rat) = r.durBeat ∧
        x.2.2 = r.pitch) (sortArr false a) l := by
  have hlim : ∀ r ∈ a, limitDen r.onsetBeat 256 = r.onsetBeat ∧ limitDen r.durBeat 256 = r.durBeat :=
    fun r hr => ⟨limitDen_of_den_le _ _ (hgrid r hr).1, limitDen_of_den_le _ _ (hgrid r hr).2.1⟩
  obtain ⟨hd, hf⟩ := late_entry_not_moved ht a d l h fun r hr => by
    rw [(hlim r hr).1]; exact (hgrid r hr).2.2
  have hdq : (d : Rat) ≠ 0 := Nat.cast_ne_zero.2 hd.ne'
  refine Lists.forall₂_imp_mem hf fun r hr x hab => ?_
  obtain ⟨ho, hdur⟩ := hlim r (mem_sortArr.mp hr)
  rw [ho, hdur] at hab
  exact ⟨by rw [hab.1, mul_div_cancel_left₀ _ hdq], by rw [hab.2.1, mul_div_cancel_left₀ _ hdq], hab.2.2⟩

/-- **A pickup is moved to time 0, by exactly its length.**  Beat-only array with a negative
    (limited) onset: there is an earliest note `y`; every note sits at divisions × (its beat − the
    beat of `y`): `y` at 0, all distances kept. -/
theorem pickup_moved_to_zero (ht : Bool) (a : List ARow) (d : Nat) (l : List (Int × Int × Int))
    (h : fromArray true false ht a none = .ok (d, l))
    (hneg : ∃ r ∈ a, limitDen r.onsetBeat 256 < 0) :
    ∃ y ∈ a, limitDen y.onsetBeat 256 < 0 ∧
      (∀ r ∈ a, limitDen y.onsetBeat 256 ≤ limitDen r.onsetBeat 256) ∧
      Forall₂ (fun (r : ARow) (x : Int × Int × Int) =>
        (x.1 : Rat) = (d : Rat) * (limitDen r.onsetBeat 256 - limitDen y.onsetBeat 256) ∧
        (x.2.1 : Rat) = (d : Rat) * limitDen r.durBeat 256 ∧ x.2.2 = r.pitch) (sortArr false a) l := by
  obtain ⟨hd, hf⟩ := fromArray_beat_shift ht a d l h
  obtain ⟨y, hy, hyneg, hyle, hsh⟩ := beatShift_beatRows_of_neg a hneg
  refine ⟨y, hy, hyneg, hyle, hf.imp fun r x hab => ⟨?_, hab.2⟩⟩
  rw [hab.1, hsh, ← hd, mul_sub, sub_eq_add_neg]

/-- **The pickup measure ends exactly at beat 0.**  Beat-only array (beats are quarters) on the
    1/256 grid with a negative onset, part with a time signature: `anacrusis_divs` (repaired:
    rounded) is divisions × the length of the pickup — the distance from the earliest note `y` to
    beat 0 — and it is the end of the measure that starts at time 0. -/
theorem pickup_measure_ends_at_beat_zero (a : List ARow) (s : Nat × Nat) (san : Bool) (b : Back)
    (h : fromArrayBack true false false a none (some s) san = .ok b)
    (hgrid : ∀ r ∈ a, r.onsetBeat.den ≤ 256)
    (hneg : ∃ r ∈ a, r.onsetBeat < 0) :
    ∃ y ∈ a, y.onsetBeat < 0 ∧ (∀ r ∈ a, y.onsetBeat ≤ r.onsetBeat) ∧
      (b.anacrusis : Rat) = (b.divs : Rat) * (0 - y.onsetBeat) ∧ b.anacrusis = beatShift (beatRows a) ∧
      b.m1 = some b.anacrusis := by
  obtain ⟨y, hy, hyneg, hyle, hq, ha, hm1, _⟩ := beat_only_on_grid a s san b h hgrid hneg
  exact ⟨y, hy, hyneg, hyle, ha ▸ hq, ha, ha ▸ hm1⟩

/-- **With a pickup shorter than a bar every onset comes back as it went in**: the quarter column of
    the new part's note array is the beat column of the array (documented: beats of a beat-only
    array are quarters), the beat column is that times `beat_type / 4`. -/
theorem onsets_back_pickup (a : List ARow) (s : Nat × Nat) (san : Bool) (b : Back)
    (h : fromArrayBack true false false a none (some s) san = .ok b)
    (hgrid : ∀ r ∈ a, r.onsetBeat.den ≤ 256)
    (hneg : ∃ r ∈ a, r.onsetBeat < 0)
    (hshort : (b.anacrusis : Rat) < barDivs s b.divs) :
    Forall₂ (fun (r : ARow) (n : (Int × Int × Int) × (Rat × Rat)) =>
        n.2.1 = r.onsetBeat ∧ n.2.2 = r.onsetBeat * ((s.2 : Rat) / 4) ∧ n.1.2.2 = r.pitch)
      (sortArr false a) b.notes := by
  obtain ⟨_, _, _, _, _, ha, _, hback⟩ := beat_only_on_grid a s san b h hgrid hneg
  refine (hback (ha ▸ hshort)).imp fun r n hn => ?_
  have hq : n.2.1 = r.onsetBeat := by rw [hn.2.1]; norm_num
  exact ⟨hq, hq ▸ hn.2.2, hn.1⟩

/-- the created part has no pickup by the rule of its time maps: barebones, or not sanitized (no
    measures are added), or the piece reaches its first bar line (a whole number of divisions) -/
theorem no_pickup_without_short_bar (ht : Bool) (a : List ARow) (ts : Option (Nat × Nat)) (san : Bool)
    (b : Back) (h : fromArrayBack true false ht a none ts san = .ok b)
    (hnn : ∀ r ∈ a, 0 ≤ r.onsetBeat)
    (hfull : ts = none ∨ san = false ∨ ∃ s, ts = some s ∧
      barDivs s b.divs ≤ (partEnd (b.notes.map (·.1)) : Rat) ∧
      (((barDivs s b.divs).floor : Int) : Rat) = barDivs s b.divs) :
    b.anacrusis = 0 ∧ b.pick = 0 := by
  obtain ⟨l, _, hana, hm1, hpick, hnotes⟩ := fromArrayBack_ok true false ht a none ts san b h
  have ha : b.anacrusis = 0 := by
    rw [hana]
    simp only [↓reduceIte]
    apply anacrusis_zero_of_nonneg
    intro r hr
    exact hnn r (mem_sortArr.mp hr)
  refine ⟨ha, ?_⟩
  have hl : b.notes.map (·.1) = l := by
    rw [hnotes, map_map]
    exact List.map_id l
  rw [hpick, hm1, ha]
  rcases hfull with rfl | rfl | ⟨s, rfl, hle, hint⟩
  · rfl
  · cases ts <;> simp [firstMeasureEnd, pickupDivs]
  · rw [hl] at hle
    unfold firstMeasureEnd pickupDivs
    simp only [lt_irrefl, ↓reduceIte]
    by_cases hs : (san && decide (0 < partEnd l)) = true
    · rw [if_pos hs]
      by_cases he : (partEnd l : Rat) ≤ barDivs s b.divs
      · rw [if_pos he]
        have : ¬ ((partEnd l : Rat) < barDivs s b.divs) := not_lt.mpr hle
        simp only [this, ↓reduceIte]
      · rw [if_neg he]
        have : ¬ ((((barDivs s b.divs).floor : Int) : Rat) < barDivs s b.divs) := by rw [hint]; exact lt_irrefl _
        simp only [this, ↓reduceIte]
    · rw [if_neg hs]

/-- **A late entry comes back where it went in.**  Beat-only array on the 1/256 grid without a
    negative onset, created part without a short first measure (`no_pickup_without_short_bar`):
    quarter column = the array's beat column, beat column = that times `beat_type / 4`
    (times 1 for a barebones part). -/
theorem onsets_back_late_entry (ht : Bool) (a : List ARow) (ts : Option (Nat × Nat)) (san : Bool) (b : Back)
    (h : fromArrayBack true false ht a none ts san = .ok b)
    (hgrid : ∀ r ∈ a, r.onsetBeat.den ≤ 256 ∧ 0 ≤ r.onsetBeat)
    (hp : b.pick = 0) :
    Forall₂ (fun (r : ARow) (n : (Int × Int × Int) × (Rat × Rat)) =>
        n.2.1 = r.onsetBeat ∧ n.2.2 = r.onsetBeat * beatFactor ts ∧ n.1.2.2 = r.pitch)
      (sortArr false a) b.notes := by
  have hz : beatShift (beatRows a) = 0 :=
    beatShift_beatRows_eq_zero a fun r hr => (limitDen_of_den_le _ _ (hgrid r hr).1).symm ▸ (hgrid r hr).2
  refine (back_beat_onsets ht a ts san b h fun r hr => (hgrid r hr).1).imp fun r n hn => ?_
  have hq : n.2.1 = r.onsetBeat := by rw [hn.1, hp, hz, sub_self, zero_div, add_zero]
  exact ⟨hq, hq ▸ hn.2.1, hn.2.2⟩

/-- **Barebones part, negative first onset: the documented shift.**  Without a time signature there
    is no pickup measure; the onsets come back relative to the earliest note `y` (which is at 0). -/
theorem onsets_back_barebones_pickup (ht : Bool) (a : List ARow) (san : Bool) (b : Back)
    (h : fromArrayBack true false ht a none none san = .ok b)
    (hgrid : ∀ r ∈ a, r.onsetBeat.den ≤ 256)
    (hneg : ∃ r ∈ a, r.onsetBeat < 0) :
    ∃ y ∈ a, y.onsetBeat < 0 ∧ (∀ r ∈ a, y.onsetBeat ≤ r.onsetBeat) ∧
      Forall₂ (fun (r : ARow) (n : (Int × Int × Int) × (Rat × Rat)) =>
        n.2.1 = r.onsetBeat - y.onsetBeat ∧ n.2.2 = r.onsetBeat - y.onsetBeat ∧ n.1.2.2 = r.pitch)
      (sortArr false a) b.notes := by
  obtain ⟨_, hdpos, hd, _, _, _, hpick, _⟩ := back_beat_core ht a none san b h hgrid
  obtain ⟨y, hy, hyneg, hyle, hsh⟩ := beatShift_of_neg_grid a hgrid hneg
  have hp : b.pick = 0 := hpick
  have hdq : (b.divs : Rat) ≠ 0 := Nat.cast_ne_zero.2 hdpos.ne'
  refine ⟨y, hy, hyneg, hyle, (back_beat_onsets ht a none san b h hgrid).imp fun r n hn => ?_⟩
  have hq : n.2.1 = r.onsetBeat - y.onsetBeat := by
    rw [hn.1, hp, hsh, ← hd, Int.cast_zero, sub_zero, neg_div, mul_div_cancel_left₀ _ hdq, sub_eq_add_neg]
  exact ⟨hq, by rw [hn.2.1, hq]; exact mul_one _, hn.2.2⟩

/-- **An array with division AND beat columns that agree gives its beats back** (an array taken from
    a part with a pickup: `onset_div = divisions × quarters + neg`, beat 0 lies `neg` divisions after
    time 0, some beat is negative, the pickup is shorter than a bar): the pickup measure is `[0, neg)`,
    the triples are copied, and the beat column of the new part's note array is the beat column that
    went in (the quarter column its quarters).  `ht`: the array has time signature columns (then they
    hold the signature's beat type; without them the code takes 4). -/
theorem onsets_back_both (ht : Bool) (a : List ARow) (dv : Option Nat) (s : Nat × Nat) (san : Bool)
    (b : Back) (neg : Int)
    (h : fromArrayBack true true ht a dv (some s) san = .ok b)
    (hd : 0 < b.divs) (hs : 0 < s.2)
    (hcons : ∀ r ∈ a, (r.onsetDiv : Rat) = (b.divs : Rat) * (r.onsetBeat * (4 / (s.2 : Rat))) + (neg : Rat))
    (hcol : if ht then ∀ r ∈ a, r.tsBeatType = (s.2 : Int) else (s.2 : Int) = 4)
    (hneg : ∃ r ∈ a, r.onsetBeat < 0)
    (hshort : (neg : Rat) < barDivs s b.divs) :
    b.anacrusis = neg ∧ b.m1 = some neg ∧
    Forall₂ (fun (r : ARow) (n : (Int × Int × Int) × (Rat × Rat)) =>
        n.1 = divTriple r ∧ n.2.2 = r.onsetBeat ∧ n.2.1 = r.onsetBeat * (4 / (s.2 : Rat)))
      (sortArr true a) b.notes := by
  obtain ⟨l, hfa, hana, hm1, hpick, hnotes⟩ := fromArrayBack_ok true true ht a dv (some s) san b h
  obtain ⟨hl, hnn, _⟩ := fromArray_div_ok true ht a dv b.divs l hfa
  have hsq : (0 : Rat) < (s.2 : Rat) := by exact_mod_cast hs
  -- a negative beat sits at a division time ≥ 0: beat 0 lies after time 0
  have hnegpos : 0 < neg := by
    obtain ⟨r0, hr0, hr0n⟩ := hneg
    have h0 := (hnn (divTriple r0) (hl ▸ mem_map_of_mem (mem_sortArr.mpr hr0))).1
    have h0q : (0 : Rat) ≤ (r0.onsetDiv : Rat) := by exact_mod_cast h0
    have hprod : (b.divs : Rat) * (r0.onsetBeat * (4 / (s.2 : Rat))) < 0 :=
      mul_neg_of_pos_of_neg (by exact_mod_cast hd) (mul_neg_of_neg_of_pos hr0n (by positivity))
    have : (0 : Rat) < (neg : Rat) := by have := hcons r0 hr0; linarith
    exact_mod_cast this
  obtain ⟨ha, hm1, hback⟩ := back_grid (P := fun r x => x = divTriple r) true ht a s san b (s.2 : Int) neg l
    (by simpa using hana) hm1 hpick hnotes hd (by exact_mod_cast hs) hnegpos
    (by
      rw [hl, forall₂_map_right_iff, forall₂_same]
      exact fun r hr => ⟨rfl, by simpa [divTriple] using hcons r (mem_sortArr.mp hr)⟩)
    hcol hneg
  refine ⟨ha, hm1, (hback hshort).imp fun r n hn => ⟨hn.1, ?_, by simpa using hn.2.1⟩⟩
  rw [hn.2.2, hn.2.1]
  push_cast
  field_simp

section Examples

def exA (ob db : Rat) (p : Int) : ARow :=
  { onsetBeat := ob, durBeat := db, onsetDiv := 0, durDiv := 0, pitch := p, tsBeatType := 0 }

/-- a late entry: the voice comes in on the "and" of beat 3 -/
def exLate : List ARow := [exA (5/2) (1/2) 67, exA 3 1 72, exA 4 2 74, exA 6 2 79]

/-- a pickup of 5/6 of a beat -/
def exPickup : List ARow := [exA (-5/6) (5/6) 60, exA 0 1 62, exA 1 4 64, exA 5 2 65]

def summary (r : Except InvErr Back) : Option (Nat × Int × Option Int × Int × List Rat) :=
  match r with
  | .ok b => some (b.divs, b.anacrusis, b.m1, b.pick, b.notes.map (·.2.1))
  | .error _ => none

-- hypotheses of late_entry_not_moved / onsets_back_exact / onsets_back_late_entry are satisfiable:
example : fromArray true false false exLate none = .ok (2, [(5, 1, 67), (6, 2, 72), (8, 4, 74), (12, 4, 79)]) := by
  decide +kernel
example : ∀ r ∈ exLate, r.onsetBeat.den ≤ 256 ∧ r.durBeat.den ≤ 256 ∧ 0 ≤ r.onsetBeat := by decide +kernel
-- barebones, 4/4 sanitized (first bar complete: 8 divisions), 4/4 not sanitized: the onsets come back
example : summary (fromArrayBack true false false exLate none none true) = some (2, 0, none, 0, [5/2, 3, 4, 6]) := by
  decide +kernel
example : summary (fromArrayBack true false false exLate none (some (4, 4)) true) = some (2, 0, some 8, 0, [5/2, 3, 4, 6]) := by
  decide +kernel
example : summary (fromArrayBack true false false exLate none (some (4, 4)) false) = some (2, 0, none, 0, [5/2, 3, 4, 6]) := by
  decide +kernel
-- not covered by onsets_back_late_entry (hypothesis `b.pick = 0` fails): a piece that ends before its first
-- bar line; the only measure is short and the time maps read it as a pickup
example : summary (fromArrayBack true false false [exA (1/2) (1/2) 60] none (some (4, 4)) true) =
    some (2, 0, some 2, 2, [-1/2]) := by decide +kernel

-- hypotheses of pickup_moved_to_zero / pickup_measure_ends_at_beat_zero / onsets_back_pickup:
example : fromArray true false false exPickup none = .ok (6, [(0, 5, 60), (5, 6, 62), (11, 24, 64), (35, 12, 65)]) := by
  decide +kernel
example : summary (fromArrayBack true false false exPickup none (some (4, 4)) true) =
    some (6, 5, some 5, 5, [-5/6, 0, 1, 5]) := by decide +kernel
example : ((5 : Int) : Rat) < barDivs (4, 4) 6 := by decide +kernel
-- onsets_back_barebones_pickup: the documented shift
example : summary (fromArrayBack true false false exPickup none none true) =
    some (6, 5, none, 0, [0, 5/6, 11/6, 35/6]) := by decide +kernel

/-- the same pickup as float32 stores it (`np.float32(-5/6)`, nearer to 0 than -5/6): the divisions
    and onsets are those of -5/6 (limit_denominator), and the rounded rule still ends the pickup
    measure at 5; the truncating rule the code had (fixes/C05-9) ends it at 4 -/
def exPickup32 : List ARow := [exA (-13981013/16777216) (13981013/16777216) 60, exA 0 1 62, exA 1 4 64, exA 5 2 65]
example : summary (fromArrayBack true false false exPickup32 none (some (4, 4)) true) =
    some (6, 5, some 5, 5, [-5/6, 0, 1, 5]) := by decide +kernel
example : truncRat ((0 : Rat) + (0 - (-13981013/16777216)) * 6 * (4 / 4)) = 4 := by decide +kernel

/-- a `create_divs_from_beats` that shifts whatever the sign of the earliest onset (`onset_divs -= onset_divs.min()`):
    the behaviour `late_entry_not_moved` excludes -/
def beatShiftAlways (rows : List (Rat × Rat)) : Int :=
  match minList ((limited rows).map fun f => truncRat ((beatDivs rows : Rat) * f.1)) with
  | some m => -m
  | none => 0

-- it moves the late entry to time 0; `beatShift` does not (late_entry_not_moved)
example : beatShiftAlways (beatRows exLate) = -5 ∧ beatShift (beatRows exLate) = 0 := by decide +kernel
-- on arrays with a pickup the two agree: only a late entry tells them apart
example : beatShiftAlways (beatRows exPickup) = 5 ∧ beatShift (beatRows exPickup) = 5 := by decide +kernel

/-- an array with both kinds of columns taken from a part in 6/8 with a pickup of one eighth
    (2 divisions per quarter): hypotheses of onsets_back_both with neg = 1 -/
def exBoth : List ARow :=
  [{ onsetBeat := -1, durBeat := 1, onsetDiv := 0, durDiv := 1, pitch := 60, tsBeatType := 8 },
   { onsetBeat := 0, durBeat := 3, onsetDiv := 1, durDiv := 3, pitch := 62, tsBeatType := 8 },
   { onsetBeat := 3, durBeat := 3, onsetDiv := 4, durDiv := 3, pitch := 64, tsBeatType := 8 }]
example : summary (fromArrayBack true true true exBoth none (some (6, 8)) true) =
    some (2, 1, some 1, 1, [-1/2, 0, 3/2]) := by decide +kernel
example : (match fromArrayBack true true true exBoth none (some (6, 8)) true with
    | .ok b => some (b.notes.map (·.2.2))
    | .error _ => none) = some [-1, 0, 3] := by decide +kernel
example : ∀ r ∈ exBoth, (r.onsetDiv : Rat) = (2 : Rat) * (r.onsetBeat * (4 / 8)) + 1 := by decide +kernel

end Examples

end C05
