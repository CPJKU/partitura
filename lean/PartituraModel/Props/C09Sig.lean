/-
C09 — time signatures, key signatures and clefs of the unfolded part (`sigSkip`).

`create_variant_part` copies a TimeSignature / KeySignature / Clef only when it differs from the previous object of its
class in the new part.  `signature_in_force`: nothing is lost by that — for EVERY part (object list in timeline order), every
path and every signature / clef `o` that starts inside a visited segment, at the shifted time of `o` either its copy stands
in the unfolded part or the latest object of that class before it says exactly what `o` says.  `…_end_to_end`: the same from
`add_segments` on, with no hypothesis on offsets and lengths.  What is NOT restored is the signature in force at the START
of a visited segment when no such object starts there (second `example`): see PARTIAL of harness/props/c09.py.
-/
import PartituraModel.Props.C09Entry
import PartituraModel.Proofs.C09Sig

namespace C09
open Model.Unfold

/-- Signatures and clefs survive the "don't repeat if it hasn't changed" rule: for a part whose objects are listed in
timeline order, visits whose offsets are the running sums of positive lengths (what every path gives:
`offsets_are_prefix_sums`, `segments_tile`), visit number `n` of segment `[v.s, v.e)` and a time signature / key
signature / clef `o` starting in it: at `o`'s shifted time `t = o.start − v.s + v.off`
 * either the unfolded part contains the copy of `o` made in visit `n` (at `t`, same fields),
 * or it contains an object of the same class strictly before `t` with the same fields as `o`, and NO object of that class
   in the whole unfolded part lies strictly after that one and before `t` — it is among the latest before `t`, the ones in
   force. -/
theorem signature_in_force (p : APart) (vs : List Visit) (hord : TimeOrdered p.objs) (hoff : OffsetsOK 0 vs)
    (hpos : ∀ v ∈ vs, v.s < v.e) (n : Nat) (v : Visit) (hv : vs[n]? = some v) (i : Nat) (o : Obj)
    (hio : p.objs[i]? = some o) (hw : inWin v o = true) (hs : o.kind.isSig = true) :
    (∃ c ∈ (variant p vs).objs, core c = core (mkCopy i n o (v.off - v.s))) ∨
    InForceBefore ((variant p vs).objs.map sv) o.kind o.payload (o.start + (v.off - v.s)) := by
  have := variantObjs_sig p.objs hord vs 0 [] 0 hoff hpos n v hv i o hio hw hs
  simpa [variant] using this

/-- … END TO END: for the segment table `add_segments` builds for ANY part and any list of segment numbers that has visits
(every enumerated path has), with no hypothesis on offsets or lengths. -/
theorem signature_in_force_end_to_end (L : Layout) (g : List Seg) (hg : mkSegments L = some g) (path : List Nat)
    (vs : List Visit) (hvs : visitsOf g path = some vs) (p : APart) (hord : TimeOrdered p.objs)
    (n : Nat) (v : Visit) (hv : vs[n]? = some v) (i : Nat) (o : Obj)
    (hio : p.objs[i]? = some o) (hw : inWin v o = true) (hs : o.kind.isSig = true) :
    (∃ c ∈ (variant p vs).objs, core c = core (mkCopy i n o (v.off - v.s))) ∨
    InForceBefore ((variant p vs).objs.map sv) o.kind o.payload (o.start + (v.off - v.s)) := by
  obtain ⟨hoff, _, _⟩ := offsets_are_prefix_sums g path vs hvs
  exact signature_in_force p vs hord hoff (visits_pos L g hg path vs hvs) n v hv i o hio hw hs

/-- A part WITHOUT repeat structure (one visit `[first, last)` at offset 0, what every entry point makes of it:
`unfold_without_structure`): every time signature / key signature / clef of the original is in force in the unfolded part at
its time moved by `−first` — together with `signature_copies_are_signatures` (nothing but copies of the original's
signatures, at their moved times) the signature maps of the unfolded part are those of the original. -/
theorem unfold_without_structure_signatures (p : APart) (first last : Int) (h : first < last) (hord : TimeOrdered p.objs)
    (i : Nat) (o : Obj) (hio : p.objs[i]? = some o) (hw : first ≤ o.start ∧ o.start < last) (hs : o.kind.isSig = true) :
    (∃ c ∈ (variant p [⟨first, last, 0⟩]).objs, core c = core (mkCopy i 0 o (0 - first))) ∨
    InForceBefore ((variant p [⟨first, last, 0⟩]).objs.map sv) o.kind o.payload (o.start + (0 - first)) :=
  signature_in_force p [⟨first, last, 0⟩] hord ⟨rfl, trivial⟩
    (by intro v hv; simp only [List.mem_singleton] at hv; subst hv; exact h) 0 ⟨first, last, 0⟩ rfl i o hio
    (by simp [inWin, hw.1, hw.2]) hs

/-- the class of a copy is the class of the original: a signature of the unfolded part is a copy of a signature -/
theorem signature_copies_are_signatures (p : APart) (vs : List Visit) (c : OObj) (hc : c ∈ (variant p vs).objs)
    (hs : c.kind.isSig = true) :
    ∃ (o : Obj) (v : Visit), p.objs[c.orig]? = some o ∧ vs[c.visit]? = some v ∧ inWin v o = true ∧
      o.kind = c.kind ∧ o.payload = c.payload ∧ c.start = o.start + (v.off - v.s) := by
  obtain ⟨v, _, hv, _, ⟨_, hk, _⟩ | ⟨_, o, hco, _⟩⟩ := out_mem p.objs vs c hc
  · rw [hk] at hs; cases hs
  · exact ⟨o, v, hco.orig, hv, hco.win, hco.kind.symm, hco.payload.symm, hco.start⟩

-- non-vacuity: 4/4 at 0, a repeated section [4,12) with a change to 3/4 at 8 and the 4/4 restated at 4.  Second pass: the
-- 4/4 at 12 is copied (the 3/4 before it differs), the 3/4 at 16 as well
example :
    let p : APart := { points := [0, 4, 8, 12], qd := [(0, 1)], objs :=
      [{ kind := .timeSig, start := 0, stp := none, payload := [4, 4], nid := none, refs := [] },
       { kind := .timeSig, start := 4, stp := none, payload := [4, 4], nid := none, refs := [] },
       { kind := .timeSig, start := 8, stp := none, payload := [3, 4], nid := none, refs := [] }] }
    ((variant p [⟨0, 4, 0⟩, ⟨4, 12, 4⟩, ⟨4, 12, 12⟩]).objs.map fun c => (c.start, c.payload)) =
      [(0, [4, 4]), (8, [3, 4]), (12, [4, 4]), (16, [3, 4])] := by decide +kernel

-- what is NOT restored (open finding F-C09-10, see PARTIAL): the same WITHOUT the restated 4/4 at the start of the repeat.
-- No signature object starts at 4, so nothing is copied at 12: the second pass of [4,8) stands under the 3/4 left over
-- from the end of the first pass, although in the original 4/4 is in force there
example :
    let p : APart := { points := [0, 4, 8, 12], qd := [(0, 1)], objs :=
      [{ kind := .timeSig, start := 0, stp := none, payload := [4, 4], nid := none, refs := [] },
       { kind := .timeSig, start := 8, stp := none, payload := [3, 4], nid := none, refs := [] }] }
    ((variant p [⟨0, 4, 0⟩, ⟨4, 12, 4⟩, ⟨4, 12, 12⟩]).objs.map fun c => (c.start, c.payload)) =
      [(0, [4, 4]), (8, [3, 4])] := by decide +kernel

end C09
