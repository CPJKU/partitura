/-
C10 — the integer tables of the measure maps are EXACT at every resolution.

The pickup rule computes the bar length as `beats_per_bar * divs_per_beat`, a binary64 number that comes out of two
linear interpolations (`inv_beat_map(1 + beat_map(0))`): at realistic divisions (480, 120, 960, 7, 15, ...) and
pickups that are not binary fractions of the beat it is e.g. 1919.9999999999998.  The model computes with exact
rationals; these theorems say what the exact rule gives for EVERY quarter duration `q0` (no list of "good"
divisions), and why the model's exact arithmetic is the right reference for the float code: `np.round` absorbs any
error below half a division, while truncation would expose it (defect C10-8).
-/
import PartituraModel.Props.C10Part

namespace C10
open Model Model.StepMap Gen

/-- `round_absorbs_noise`: an integer plus an error of less than one half rounds back to the integer -/
theorem round_absorbs_noise (v : Int) (δ : Rat) (h : |δ| < 1 / 2) : roundHalfEven ((v : Rat) + δ) = v :=
  Round.roundHalfEven_near (by rwa [add_sub_cancel_left])

theorem truncToZero_eq (r : Rat) : truncToZero r = if 0 ≤ r then r.floor else r.ceil := by
  rw [truncToZero, Rat.ceil_eq_neg_floor_neg]

/-- `trunc_exposes_noise`: truncation toward zero moves a negative integer carrying ANY positive error (below one)
    up by one, and a positive integer carrying any negative error down by one -/
theorem trunc_exposes_noise (v : Int) (δ : Rat) :
    (v < 0 → 0 < δ → δ < 1 → truncToZero ((v : Rat) + δ) = v + 1) ∧
    (0 < v → δ < 0 → -1 < δ → truncToZero ((v : Rat) + δ) = v - 1) := by
  constructor
  · intro hv h0 h1
    have hvq : (v : Rat) ≤ -1 := by exact_mod_cast (show v ≤ -1 by omega)
    rw [Round.trunc_eq_iff_neg truncToZero_eq (by linarith)]
    push_cast
    constructor <;> linarith
  · intro hv h0 h1
    have hvq : (1 : Rat) ≤ (v : Rat) := by exact_mod_cast (show 1 ≤ v by omega)
    rw [Round.trunc_eq_iff truncToZero_eq (by linarith)]
    push_cast
    constructor <;> linarith

example : truncToZero ((-1760 : Int) + (1 : Rat) / 5000000000000) = -1759
    ∧ roundHalfEven ((-1760 : Int) + (1 : Rat) / 5000000000000) = -1760 := by decide +kernel

/-- `pickup_start_exact` — for EVERY quarter duration `q0` and signature: when a full bar is a whole number `N` of
    divisions (`beats · q0 · 4 / beat_type = N`), the first measure `(s, e)` of a part that starts simply starts
    exactly at `e − N` if it is shorter than a bar, and at `s` otherwise: the rounding of the rule has nothing to do -/
theorem pickup_start_exact (p : PartD) (l : Int) (s0 : TimeMap.TSig) (rest : List TimeMap.TSig) (q0 : Nat)
    (k k' : TimeMap.KP) (post : List TimeMap.KP) (H : SimpleStart p l s0 rest q0 k k' post)
    (N : Int) (hN : fullBar s0 q0 = (N : Rat)) (s e : Int) :
    pickupStart s e (beatsPerBar p) (divsPerBeat p) = if e - s < N then e - N else s := by
  rw [(pickup_spec_composed p l s0 rest q0 k k' post H).2 s e, hN, ← Int.cast_sub, Round.roundHalfEven_int]
  simp only [Int.cast_lt]

/-- `pickup_maps_exact` — what the three maps return INSIDE a pickup, in whole divisions, at every resolution: for a
    part that starts simply, whose bar is `N` divisions, whose measures tile and whose first measure `(s, e)` is
    shorter than `N`, every position `s ≤ x < e` has `measure_map = (e − N, e)` and
    `metrical_position_map = (x − e + N, N)` — "a pickup first measure is treated as ending a full bar" -/
theorem pickup_maps_exact (p : PartD) (l : Int) (s0 : TimeMap.TSig) (rest : List TimeMap.TSig) (q0 : Nat)
    (k k' : TimeMap.KP) (post : List TimeMap.KP) (H : SimpleStart p l s0 rest q0 k k' post)
    (N : Int) (hN : fullBar s0 q0 = (N : Rat)) (hr : raisesP p = false) (ht : Tiles (bars p))
    (s e : Int) (hi : (bars p)[0]? = some (s, e)) (hshort : e - s < N) (x : Int) (hs : s ≤ x) (he : x < e) :
    measureMapP p x = some (some (e - N, e)) ∧ metricalMapP p x = some (x - e + N, some N) := by
  have hst := pickup_start_exact p l s0 rest q0 k k' post H N hN s e
  rw [if_pos hshort] at hst
  rw [measure_spec_composed p x hr ht.ordered 0 s e hi hs he, metrical_spec_composed p x hr ht 0 s e hi hs he,
    if_pos rfl, hst, show x - (e - N) = x - e + N by omega, show e - (e - N) = N by omega]
  exact ⟨rfl, rfl⟩

/-- `pickup_start_nearest`: when a bar is NOT a whole number of divisions (5 divisions per quarter in 3/8: 7.5) the
    corrected start is a nearest integer of `end − bar` -/
theorem pickup_start_nearest (p : PartD) (l : Int) (s0 : TimeMap.TSig) (rest : List TimeMap.TSig) (q0 : Nat)
    (k k' : TimeMap.KP) (post : List TimeMap.KP) (H : SimpleStart p l s0 rest q0 k k' post)
    (s e : Int) (hshort : ((e - s : Int) : Rat) < fullBar s0 q0) :
    |((pickupStart s e (beatsPerBar p) (divsPerBeat p) : Int) : Rat) - ((e : Rat) - fullBar s0 q0)| ≤ 1 / 2 := by
  rw [(pickup_spec_composed p l s0 rest q0 k k' post H).2 s e, if_pos hshort]
  exact Round.roundHalfEven_close _

/-- non-vacuity at a MIDI-like resolution: divisions 480, 4/4, a triplet-eighth pickup (160 divisions) and two full
    bars; the corrected start is −1760 -/
def exPart480 : PartD :=
  { npoints := 4, span := some (0, 4000), qd := [(0, 480)], ts := [⟨0, 4, 4, 4⟩], musical := false,
    ms := [(0, 160, some 0), (160, 2080, some 1), (2080, 4000, some 2)] }

example : SimpleStart exPart480 4000 ⟨0, 4, 4, 4⟩ [] 480 ⟨0, 480, 1⟩ ⟨4000, 480, 1⟩ [] :=
  ⟨rfl, by decide +kernel, rfl, rfl, by decide +kernel, by decide +kernel, by decide +kernel, rfl, by decide +kernel⟩

example : fullBar ⟨0, 4, 4, 4⟩ 480 = ((1920 : Int) : Rat) ∧ raisesP exPart480 = false ∧ Tiles (bars exPart480)
    ∧ (bars exPart480)[0]? = some (0, 160)
    ∧ measureMapP exPart480 159 = some (some (-1760, 160)) ∧ metricalMapP exPart480 0 = some (1760, some 1920) := by
  refine ⟨by decide +kernel, by decide +kernel, by simp [Tiles, bars, exPart480], by decide +kernel, by decide +kernel, by decide +kernel⟩

/-- `pickup_start_noise_free`: the same start is obtained from ANY bar length within half a division of the exact
    one — the float noise of `beats_per_bar * divs_per_beat` (order 1e-12 divisions) cannot move it -/
theorem pickup_start_noise_free (s0 : TimeMap.TSig) (q0 : Nat) (N : Int) (hN : fullBar s0 q0 = (N : Rat))
    (e : Int) (δ : Rat) (hδ : |δ| < 1 / 2) :
    roundHalfEven ((e : Rat) - (fullBar s0 q0 + δ)) = e - N := by
  rw [hN, ← sub_sub, ← Int.cast_sub, sub_eq_add_neg]
  exact round_absorbs_noise (e - N) (-δ) (by rwa [abs_neg])

/-- `pickup_trunc_off_by_one`: the rule WITHOUT its rounding (`pickupStartTrunc`: the float is stored into the integer
    table) is off by one division as soon as the computed bar length `b · d` is short of the whole number `N` by any
    noise `0 < δ < 1/2` and the corrected start is negative (a pickup at the start of the timeline) — at every
    resolution; the rule with its rounding is exact on the same numbers -/
theorem pickup_trunc_off_by_one (N : Int) (b d δ : Rat) (hbd : b * d = (N : Rat) - δ) (h0 : 0 < δ) (h1 : δ < 1 / 2)
    (s e : Int) (hshort : e - s < N) (hneg : e < N) :
    pickupStartTrunc s e (some b) (some d) = e - N + 1 ∧ pickupStart s e (some b) (some d) = e - N := by
  have hδ1 : δ < 1 := h1.trans (by norm_num)
  have hlt : ((e - s : Int) : Rat) < (N : Rat) - δ := by
    have : ((e - s : Int) : Rat) ≤ ((N - 1 : Int) : Rat) := Int.cast_le.mpr (by omega)
    rw [Int.cast_sub N 1, Int.cast_one] at this
    exact this.trans_lt (sub_lt_sub_left hδ1 _)
  unfold pickupStartTrunc pickupStart
  simp only [hbd, if_pos hlt]
  -- `e - (N - δ) = (e - N) + δ`: an integer carrying the noise
  rw [← sub_add, ← Int.cast_sub]
  exact ⟨(trunc_exposes_noise (e - N) δ).1 (by omega) h0 hδ1,
    round_absorbs_noise (e - N) δ (abs_lt.mpr ⟨lt_trans (by norm_num) h0, h1⟩)⟩

/-- truncation in place of rounding (defect C10-8): divisions 480, 4/4, a pickup of 160 divisions; the float bar length is
    1919.9999999999998 = 1920 − 2⁻⁴² · … (any `0 < δ < 1/2` will do) -/
example : pickupStartTrunc 0 160 (some 4) (some (480 - 1 / 20000000000000)) = -1759
    ∧ pickupStart 0 160 (some 4) (some (480 - 1 / 20000000000000)) = -1760 := by decide +kernel
