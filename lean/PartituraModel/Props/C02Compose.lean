/-
C02 — compositions that read like the statement: `quarter_durations(start, end)` after any history, continuity
across a change point for the map as written.
-/
import PartituraModel.Props.C02Api

namespace C02
open Model.TimeMap C02Proofs

/-- **`quarter_durations(start, end)` of every reachable part, in terms of the calls that were made**: a row
`(t, q)` is returned iff a call at time `t` was recorded (a call is not recorded only when its time had no entry
and its value was already in force), `q` is the value of the last recorded call among those with the greatest
time ≤ `t`, and `start ≤ t < end` (an omitted bound does not restrict). -/
theorem built_quarter_durations (q0 : Nat) (hq : 0 < q0) (hs : List HOp) (hv : ∀ op ∈ hs, ValidOp op)
    (a b : Option Rat) (e : Int × Nat) :
    e ∈ qdRange (buildPart q0 hs).qd a b ↔
      (e.1 ∈ (recorded q0 (qdCalls hs)).map (·.1) ∧ inForce (recorded q0 (qdCalls hs)) (e.1 : Rat) = some e.2) ∧
      (∀ s, a = some s → s ≤ (e.1 : Rat)) ∧ (∀ s, b = some s → (e.1 : Rat) < s) := by
  have hi := inv_reachable q0 hq hs hv
  have hsorted : ((buildPart q0 hs).qd.map (·.1)).Pairwise (· < ·) := hi.qd_sorted
  have hcalls : ∀ c ∈ qdCalls hs, 0 ≤ c.1 := fun c hc => (hv _ (qdCalls_mem hs c hc)).1
  have htimes : ∀ t : Int, t ∈ (buildPart q0 hs).qd.map (·.1) ↔ t ∈ (recorded q0 (qdCalls hs)).map (·.1) := by
    intro t
    rw [hrun_qd]
    exact table_times_recorded q0 _ hcalls t
  rw [qdRange_mem]
  constructor
  · rintro ⟨hmem, h1, h2⟩
    refine ⟨⟨(htimes e.1).mp (List.mem_map_of_mem hmem), ?_⟩, h1, h2⟩
    have hnn : (0 : Rat) ≤ (e.1 : Rat) := by exact_mod_cast hi.qd_nonneg e hmem
    rw [← built_qd_represents q0 hs hv _ hnn]
    exact qdMap_at_change _ hsorted e hmem
  · rintro ⟨⟨ht, hval⟩, h1, h2⟩
    refine ⟨?_, h1, h2⟩
    obtain ⟨e', he', hte⟩ := List.mem_map.mp ((htimes e.1).mpr ht)
    have hnn : (0 : Rat) ≤ (e'.1 : Rat) := by exact_mod_cast hi.qd_nonneg e' he'
    have h3 := qdMap_at_change _ hsorted e' he'
    rw [built_qd_represents q0 hs hv _ hnn, hte, hval] at h3
    have : e' = e := Prod.ext hte (Option.some.inj h3).symm
    rw [← this]
    exact he'

/-- the same for every part reached through the extended API: rejected calls, end-less measures and the default
quarter duration do not touch the quarter lists -/
theorem api_quarter_durations (q0 : Option Nat) (hq : ∀ q, q0 = some q → 0 < q) (xs : List XOp)
    (hv : ∀ op ∈ xs, ValidX op) (a b : Option Rat) (e : Int × Nat) :
    e ∈ qdRange (xbuildPart q0 xs).qd a b ↔
      (e.1 ∈ (recorded (q0Of q0) (qdCalls (lowerAll xs))).map (·.1) ∧
        inForce (recorded (q0Of q0) (qdCalls (lowerAll xs))) (e.1 : Rat) = some e.2) ∧
      (∀ s, a = some s → s ≤ (e.1 : Rat)) ∧ (∀ s, b = some s → (e.1 : Rat) < s) := by
  rw [xbuild_qd]
  exact built_quarter_durations (q0Of q0) (q0Of_pos q0 hq) (lowerAll xs) (valid_lowerAll xs hv) a b e

/-- **No jump at a change point, for the map as written** (no tolerance hypothesis): across a key point `k'` (a
quarter-duration change and/or a signature start) the advance from `a` before it to `b` after it is the sum of the
two partial stretches, each at its own rate (length × factor / divisions in force). -/
theorem continuous_as_written (p : Part) (m : Mode) (h : WF p m) (pre post : List KP) (k k' k'' : KP)
    (hk : keypoints p m = pre ++ k :: k' :: k'' :: post) (a b : Rat)
    (ha : (k.t : Rat) ≤ a) (ha' : a ≤ (k'.t : Rat)) (hb : (k'.t : Rat) ≤ b) (hb' : b ≤ (k''.t : Rat)) :
    ∃ ya yb, fwdS p m a = some ya ∧ fwdS p m b = some yb ∧
      yb - ya = ((k'.t : Rat) - a) * (k.fac / k.divs) + (b - (k'.t : Rat)) * (k'.fac / k'.divs) := by
  obtain ⟨p', hw, hf, -, hkp, -, -, -⟩ := as_written p m h
  simp only [hf]
  exact continuous_at_change p' m hw pre post k k' k'' (hkp.trans hk) a b ha ha' hb hb'

/-- non-vacuity: 4 | 8 | 4 stored, then a call at an earlier time whose value is already in force (not recorded) -/
example : qdRange (buildPart 4 [.setQD 32 8, .query, .setQD 64 4, .span 0 96, .setQD 16 4]).qd (some 10) (some 64) = [(32, 8)] ∧
    (recorded 4 (qdCalls [.setQD 32 8, .query, .setQD 64 4, .span 0 96, .setQD 16 4])).map (·.1) = [0, 32, 64] := by
  decide +kernel

end C02
