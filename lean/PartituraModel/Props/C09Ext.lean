/-
C09 — the layout level (what `add_segments` builds for SYMBOLIC boundary times), note-id suffixes,
brackets carrying several numbers.

`mkSegments` = add_segments, `getPaths` = get_paths, `variant` = create_variant_part, `suffixIds` =
update_note_ids_after_unfolding (Model/Unfold.lean).
-/
import PartituraModel.Props.C09
import PartituraModel.Proofs.C09Ids
import PartituraModel.Proofs.C09LayoutChain
import PartituraModel.Proofs.C09LayoutVolta
import PartituraModel.Proofs.C09Term
import PartituraModel.Proofs.C09Order

namespace C09
open Model.Unfold

/-- Layout level, symbolic times.  Boundary times `t0 < t1 < … < tn` (ANY strictly increasing integers), section
`[t_i, t_{i+1})` carries a repeat iff `flags[i]`, nothing else in the part (two neighbouring sections without a
repeat would have no boundary between them, hence `NoAdjFalse`): `add_segments` builds exactly the chain table
in which the repeated sections offer `[themselves, next]` and the others `[next]`; a segment is a leap
destination iff it starts at time 0. -/
theorem simple_repeats_layout (t0 : Int) (rest : List Int) (flags : List Bool)
    (hs : StrictSorted (t0 :: rest)) (hlen : rest.length = flags.length) (hne : flags ≠ [])
    (hadj : NoAdjFalse flags) :
    mkSegments (chainLayout t0 rest flags) =
      some (chainGraph flags (chainTys (t0 :: rest)) ((t0 :: rest).zip rest)) :=
  chain_mkSegments t0 rest flags hs hlen hadj hne

/-- … hence, for the segment graph the code builds from any such part: 2^r variants, the maximal unfolding
plays every repeated section twice, the minimal one every section once (any fuel ≥ 2n+1: the enumeration
terminates). -/
theorem simple_repeats_unfold (t0 : Int) (rest : List Int) (flags : List Bool)
    (hs : StrictSorted (t0 :: rest)) (hlen : rest.length = flags.length) (hne : flags ≠ [])
    (hadj : NoAdjFalse flags) (il : Bool) (fuel : Nat) (hf : 2 * flags.length + 1 ≤ fuel) :
    ((mkSegments (chainLayout t0 rest flags)).bind fun g => getPaths g false false il fuel) = some (allPaths 0 flags) ∧
    (allPaths 0 flags).length = 2 ^ (flags.count true) ∧
    ((mkSegments (chainLayout t0 rest flags)).bind fun g => getPaths g false true il fuel) = some [maxPath 0 flags] ∧
    ((mkSegments (chainLayout t0 rest flags)).bind fun g => getPaths g true false il fuel) = some [minPath 0 flags] := by
  rw [simple_repeats_layout t0 rest flags hs hlen hne hadj]
  have hty : ∀ t ∈ chainTys (t0 :: rest), t ≠ SegType.leapStart := by
    intro t ht
    simp only [chainTys, List.mem_map] at ht
    obtain ⟨x, _, rfl⟩ := ht
    split <;> simp
  obtain ⟨⟨ps, h1, h2, h3⟩, h4, h5⟩ := simple_repeats flags (chainTys (t0 :: rest)) ((t0 :: rest).zip rest) hty il fuel hf hne
  subst h3
  exact ⟨h1, h2, h4, h5⟩

-- non-vacuity: sections [0,4) [4,12) [12,16), the first and the last repeated
example :
    ((mkSegments (chainLayout 0 [4, 12, 16] [true, false, true])).bind fun g => getPaths g false false true 7) =
      some [[0, 0, 1, 2, 2], [0, 0, 1, 2], [0, 1, 2, 2], [0, 1, 2]] := by
  have := (simple_repeats_unfold 0 [4, 12, 16] [true, false, true]
    ⟨by decide, by decide, by decide, trivial⟩ rfl (by simp)
    (by intro j h
        rcases j with _ | _ | _ | j <;> simp at h ⊢) true 7 (by simp)).1
  rw [this]; rfl

/-- Ids on request (`update_ids`), FULL statement: in the unfolded part of a part whose notes have unique ids, the
copy `c` of note `o` made in visit number `c.visit` (0-based position in the path) gets the suffix `-k` where
`k` = 1 + the number of EARLIER visits whose segment contains `o`, i.e. the k-th copy of a note along the path gets
`-k`; nothing else of the copy changes.  (Offsets are the running sums and segments have positive length:
what `offsets_are_prefix_sums` and `segments_tile` provide for every path.) -/
theorem ids_suffixed (p : APart) (vs : List Visit) (hoff : OffsetsOK 0 vs) (hpos : ∀ v ∈ vs, v.s < v.e)
    (huniq : UniqueNoteIds p.objs) (pos : Nat) (c : OObj) (hc : (variant p vs).objs[pos]? = some c)
    (hk : c.kind = .note) (s : String) (hn : c.nid = some s) :
    ∃ (o : Obj) (c' : OObj), p.objs[c.orig]? = some o ∧ (suffixIds (variant p vs).objs)[pos]? = some c' ∧
      c'.nid = some (s ++ "-" ++ toString (1 + ((vs.take c.visit).filter fun v => inWin v o).length)) ∧
      c'.orig = c.orig ∧ c'.visit = c.visit ∧ c'.kind = c.kind ∧ c'.start = c.start ∧ c'.stp = c.stp ∧
      c'.payload = c.payload ∧ c'.refs = c.refs := by
  have hc' : (variantObjs p.objs 0 vs [])[pos]? = some c := hc
  obtain ⟨o, ho, hrank⟩ := idRank_eq p.objs vs hoff hpos huniq pos c hc' hk (by rw [hn]; simp)
  have he : (enum 0 (variant p vs).objs)[pos]? = some (pos, c) := by
    rw [enum_get, hc]; simp
  obtain ⟨c', h1, h2, h3, h4, h5, h6, h7, h8, h9⟩ := ids_suffixed_rank (variant p vs).objs pos c he
  refine ⟨o, c', ho, h1, ?_, h2, h3, h4, h5, h6, h7, h8⟩
  rw [h9, hk, hn]
  show some (s ++ "-" ++ toString (idRank (variantObjs p.objs 0 vs []) pos c)) = _
  rw [hrank]

/-- … and in terms of the path: when the segments are the (disjoint) ones `add_segments` builds and note `o` lies
in segment `j`, the number is 1 + the number of occurrences of `j` among the first `c.visit` elements of the path. -/
theorem ids_suffixed_visit_number (g : List Seg) (path : List Nat) (vs : List Visit) (hvs : visitsOf g path = some vs)
    (hdis : DisjointSegs g) (o : Obj) (j : Nat) (sg : Seg) (hj : g[j]? = some sg)
    (hin : sg.start ≤ o.start ∧ o.start < sg.stp) (K : Nat) :
    ((vs.take K).filter fun v => inWin v o).length = (path.take K).count j :=
  win_count g hdis o j sg hj hin (path.take K) 0 (vs.take K) (visitsFrom_take g path 0 vs K hvs)

-- non-vacuity: path A-B-B, the note of B: its two copies get -1 and -2
example :
    let p : APart := { points := [0, 4, 8], qd := [(0, 1)], objs :=
      [{ kind := .note, start := 0, stp := some 4, payload := [60, 1, 1], nid := some "a", refs := [] },
       { kind := .note, start := 4, stp := some 8, payload := [62, 1, 1], nid := some "b", refs := [] }] }
    ((suffixIds (variant p [⟨0, 4, 0⟩, ⟨4, 8, 4⟩, ⟨4, 8, 8⟩]).objs).map (·.nid)) =
      [some "a-1", some "b-1", some "b-2"] := by decide +kernel

/-- Graph level, EVERY k and N, any assignment `asg` of the numbers to the brackets (`asg[n]` = bracket carrying
number n+1; one number per bracket, several consecutive ones, or interleaved like "1,3" / "2,4"): on the table
in which the section offers the brackets in the order of the numbers and a bracket sends back to the section once
per number it carries except for the last number of all (after which it goes on), the maximal unfolding is
"section, bracket of number 1, section, bracket of number 2, …, section, bracket of number N" and the minimal one
"section, bracket of number N"; fuel 2N+4 suffices. -/
theorem voltas_numbers (pre post : Bool) (k : Nat) (asg : List Nat) (hasg : ∀ x ∈ asg, x < k)
    (last : Nat) (hlast : asg.getLast? = some last) (tys : Nat → SegType) (tms : Nat → Int × Int)
    (hty : ∀ i, tys i ≠ SegType.leapStart) (il : Bool) (fuel : Nat) (hf : 2 * asg.length + 4 ≤ fuel) :
    getPaths (mvGraph pre k post asg tys tms) false true il fuel = some [mvMaxPath pre k post asg] ∧
    getPaths (mvGraph pre k post asg tys tms) true false il fuel = some [mvMinPath pre k post last] :=
  mv_paths_aux pre k post asg tys tms il hty hasg last hlast fuel hf

/-- pass n (0-based) of that maximal path: the section, then the bracket that carries number n+1 -/
theorem voltas_numbers_pass_order (pre : Bool) (asg : List Nat) (n j : Nat) (h : asg[n]? = some j) :
    (mvPasses (vBody pre) asg)[2 * n]? = some (vBody pre) ∧
    (mvPasses (vBody pre) asg)[2 * n + 1]? = some (vBody pre + 1 + j) :=
  mvPasses_get (vBody pre) asg n j h

-- non-vacuity: brackets "1,3" and "2,4" after one bar of lead-in
example : getPaths (mvGraph true 2 false [0, 1, 0, 1] (fun _ => .dflt) (fun _ => (0, 0))) false true true 12 =
    some [[0, 1, 2, 1, 3, 1, 2, 1, 3]] := by decide +kernel

/-- Layout level, symbolic times.  Boundary times `ts` strictly increasing = [start of a lead-in] ++ [a] ++
[v_0, …, v_k] ++ [end of the music after the group]; the section is `[a, v_0)`, bracket j is `[v_j, v_{j+1})` and
carries (in increasing order) the numbers n+1 with `asg[n] = j`; a repeat `(a, v_{j+1})` after every bracket but the
last (after the only one when k = 1).  Every bracket carries a number, the last number is on the last bracket, at
most 9 numbers (one decimal digit, the model's domain), at most 10 brackets (the scan over consecutive brackets is
`for volta_number in range(10)`), a ≥ 0 (`current_volta_repeat_start` starts at 0 and only moves up, so a start
before 0 would not be taken).  Then `add_segments` builds exactly `mvGraph`. -/
theorem voltas_numbers_layout (pre post : Bool) (k : Nat) (asg : List Nat) (ts : List Int)
    (hs : StrictSorted ts) (hlen : ts.length = vLen pre k post + 1) (hk : 1 ≤ k) (hk10 : k ≤ 10)
    (hasg : ∀ x ∈ asg, x < k) (hN9 : asg.length ≤ 9) (hlast : asg.getLast? = some (k - 1))
    (hsurj : ∀ j, j < k → j ∈ asg) (ha : 0 ≤ ts.getD (vBody pre) 0) :
    mkSegments (mvLayout pre k post asg ts) =
      some (mvGraph pre k post asg (tyAt ts) (fun i => (ts.getD i 0, ts.getD (i + 1) 0))) :=
  mv_mkSegments pre k post asg ts hs hlen hk hk10 hasg hN9 hlast hsurj ha

/-- … hence for the segment graph the code builds from such a part: the maximal unfolding plays the section once
per number, taking on pass n the bracket that carries number n; the minimal one plays it once with the last
bracket. -/
theorem voltas_numbers_unfold (pre post : Bool) (k : Nat) (asg : List Nat) (ts : List Int)
    (hs : StrictSorted ts) (hlen : ts.length = vLen pre k post + 1) (hk : 1 ≤ k) (hk10 : k ≤ 10)
    (hasg : ∀ x ∈ asg, x < k) (hN9 : asg.length ≤ 9) (hlast : asg.getLast? = some (k - 1))
    (hsurj : ∀ j, j < k → j ∈ asg) (ha : 0 ≤ ts.getD (vBody pre) 0) (il : Bool) (fuel : Nat)
    (hf : 2 * asg.length + 4 ≤ fuel) :
    ((mkSegments (mvLayout pre k post asg ts)).bind fun g => getPaths g false true il fuel) = some [mvMaxPath pre k post asg] ∧
    ((mkSegments (mvLayout pre k post asg ts)).bind fun g => getPaths g true false il fuel) =
      some [mvMinPath pre k post (k - 1)] := by
  rw [voltas_numbers_layout pre post k asg ts hs hlen hk hk10 hasg hN9 hlast hsurj ha]
  exact voltas_numbers pre post k asg hasg (k - 1) hlast _ _ (tyAt_ne ts) il fuel hf

/-- One number per bracket (endings 1..k, k ≤ 9): the layout is the one with the numbers `[j+1]` on bracket j, and
`add_segments` builds `voltaGraph` — the table `voltas` and `voltas_pass_order` speak about. -/
theorem voltas_layout (pre post : Bool) (k : Nat) (ts : List Int)
    (hs : StrictSorted ts) (hlen : ts.length = vLen pre k post + 1) (hk : 1 ≤ k) (hk9 : k ≤ 9)
    (ha : 0 ≤ ts.getD (vBody pre) 0) :
    (mvLayout pre k post (List.range k) ts).endings =
      ((List.range k).map fun j => (ts.getD (vBody pre + 1 + j) 0, ts.getD (vBody pre + 2 + j) 0, [j + 1])) ∧
    mkSegments (mvLayout pre k post (List.range k) ts) =
      some (voltaGraph pre k post (tyAt ts) (fun i => (ts.getD i 0, ts.getD (i + 1) 0))) := by
  constructor
  · unfold mvLayout
    apply List.map_congr_left
    intro j hj
    rw [numsOf_range k j (by simpa using hj)]
  · rw [← mvGraph_range pre k post _ _ hk]
    apply voltas_numbers_layout pre post k (List.range k) ts hs hlen hk (by omega)
      (by intro x hx; simpa using hx) (by simp; omega)
      (getLast?_range_pos k hk)
      (by intro j hj; simpa using hj) ha

-- non-vacuity: lead-in [0,4), section [4,12), brackets [12,16) "1,3" and [16,20) "2,4", rest [20,24)
example :
    ((mkSegments (mvLayout true 2 true [0, 1, 0, 1] [0, 4, 12, 16, 20, 24])).bind fun g => getPaths g false true true 12) =
      some [[0, 1, 2, 1, 3, 1, 2, 1, 3, 4]] := by
  have := (voltas_numbers_unfold true true 2 [0, 1, 0, 1] [0, 4, 12, 16, 20, 24]
    ⟨by decide, by decide, by decide, by decide, by decide, trivial⟩ rfl (by decide) (by decide)
    (by decide) (by decide) rfl (by decide) (by decide) true 12 (by decide)).1
  rw [this]; rfl

/-- The class: every segment offers its successor (END for the last one), preceded by at most one destination
that is not ahead; no awaiting destinations, no leap start.  On every such table the enumeration terminates in
all three modes (all variants, maximal, minimal), with fuel 2^(n+1).  Measure: Σ over the segments from the
current one on of (backward jump not yet consumed in this round)·(2^(i+1) − 1) + 1 — a forward step drops the
current segment's term, a backward jump from i to j ≤ i consumes the term of i, which outweighs the terms of
j..i−1 it brings back. -/
theorem enumeration_terminates (g : List Seg) (hg : RepForm g) (hne : g ≠ []) (nr ar il : Bool) :
    ∃ ps, getPaths g nr ar il (2 ^ (g.length + 1)) = some ps :=
  repForm_terminates g hg hne nr ar il

/-- Every part whose only structure is repeats — ANY number, nested, disjoint, sharing an end, … (each inside the
part and of positive length) — gets a table of that class from `add_segments` (which does not raise), so the
enumeration terminates without exhausting the fuel. -/
theorem repeats_terminate (L : Layout) (hL : RepeatsOnly L) (nr ar il : Bool) :
    ∃ g ps, mkSegments L = some g ∧ RepForm g ∧ getPaths g nr ar il (2 ^ (g.length + 1)) = some ps := by
  obtain ⟨g, h1, h2, h3⟩ := repeats_repForm L hL
  obtain ⟨ps, h4⟩ := repForm_terminates g h3 h2 nr ar il
  exact ⟨g, ps, h1, h3, h4⟩

-- non-vacuity: a repeat nested in another one
example : RepeatsOnly { first := 0, last := 16, repeats := [(0, 16), (4, 12)] } ∧
    ((mkSegments { first := 0, last := 16, repeats := [(0, 16), (4, 12)] }).bind fun g => getPaths g false true true 16) =
      some [[0, 1, 1, 2, 0, 1, 1, 2]] := by
  refine ⟨⟨rfl, rfl, rfl, rfl, rfl, rfl, rfl, by decide, ?_⟩, by decide⟩
  intro r hr
  simp only [List.mem_cons, List.not_mem_nil, or_false] at hr
  rcases hr with rfl | rfl <;> decide

/-- Outside the class the enumeration need not terminate.  Hand-made table (it is the one `add_segments` built,
before the repair fixes/C09-6, for a da capo in the MIDDLE of a part that starts at time 0, likewise for a dal
segno to a segno at the start): `A.to = [B, A]` with `A` a leap destination but not a leap start.  The minimal
enumeration (which always takes the LAST destination) goes from A to A for ever — for every amount of fuel the
model fails (the code raised IndexError after 100 rounds, because it looks the last used destination up in
`destinations * 100`). -/
theorem enumeration_may_not_terminate (il : Bool) (fuel : Nat) :
    getPaths dcMidGraph true false il fuel = none :=
  dcMid_no_minimal il fuel

-- with the repaired order of destinations (the jump back first, the continuation after it) the part that
-- produced that table unfolds: minimal A-B, maximal A-A-B
example :
    ((mkSegments { first := 0, last := 12, dacapos := [4] }).bind fun g => getPaths g true false true 10) = some [[0, 1]] ∧
    ((mkSegments { first := 0, last := 12, dacapos := [4] }).bind fun g => getPaths g false true true 10) = some [[0, 0, 1]] := by
  decide +kernel

/-! ## navigation marks: the standard forms over symbolic times (repaired behaviour, fixes/C09-6, C09-7, C09-8)

`add_segments` compares times only with each other and with 0 and the enumeration does not look at them, so the paths depend
only on the order of the boundary times (`paths_mapT`, Proofs/C09Order): each form over symbolic times `0 < a < b < …` is the
same form over the times 1, 2, … (`stepMap` carries one onto the other), whose paths are computed. -/

/-- The enumeration looks only at destinations, awaiting destinations and types: erasing the times of a segment
table does not change the paths. -/
theorem paths_independent_of_times (g : List Seg) (nr ar il : Bool) (fuel : Nat) :
    getPaths (eraseTimes g) nr ar il fuel = getPaths g nr ar il fuel :=
  getPaths_erase g nr ar il fuel

/-- D.C. al Fine: Fine at `f`, Da Capo at the end `e` of a part that starts at 0, any `0 < f < e`: the maximal
unfolding is "all, then from the start to the Fine", the minimal one plays everything once. -/
theorem dacapo_al_fine (f e : Int) (h0 : 0 < f) (hfe : f < e) (il : Bool) :
    ((mkSegments (dcFineLayout f e)).bind fun g => getPaths g false true il 8) = some [[0, 1, 0]] ∧
    ((mkSegments (dcFineLayout f e)).bind fun g => getPaths g true false il 8) = some [[0, 1]] := by
  have h := paths_mapT (stepMap [f, e]) (stepMap_mono _ ⟨h0, hfe, trivial⟩) rfl (dcFineLayout 1 2)
  rw [show dcFineLayout f e = layoutT (stepMap [f, e]) (dcFineLayout 1 2) from rfl, h, h]
  cases il <;> decide +kernel

/-- D.C. al Coda: To Coda at `a`, Da Capo and Coda at `b`, any `0 < a < b < e`: maximal "up to the Da Capo, from the
start to To Coda, coda" (A-B-A-C), minimal straight through (A-B-C); exactly these two variants. -/
theorem dacapo_al_coda (a b e : Int) (h0 : 0 < a) (hab : a < b) (hbe : b < e) (il : Bool) :
    ((mkSegments (dcCodaLayout a b e)).bind fun g => getPaths g false true il 8) = some [[0, 1, 0, 2]] ∧
    ((mkSegments (dcCodaLayout a b e)).bind fun g => getPaths g true false il 8) = some [[0, 1, 2]] ∧
    ((mkSegments (dcCodaLayout a b e)).bind fun g => getPaths g false false il 8) = some [[0, 1, 0, 2], [0, 1, 2]] := by
  have h := paths_mapT (stepMap [a, b, e]) (stepMap_mono _ ⟨h0, hab, hbe, trivial⟩) rfl (dcCodaLayout 1 2 3)
  rw [show dcCodaLayout a b e = layoutT (stepMap [a, b, e]) (dcCodaLayout 1 2 3) from rfl, h, h, h]
  cases il <;> decide +kernel

/-- D.S. al Coda: Segno at `s`, To Coda at `a`, Dal Segno and Coda at `b`, any `0 < s < a < b < e`: maximal
"up to the Dal Segno, from the sign to To Coda, coda" (A-B-C-B-D), minimal straight through. -/
theorem dalsegno_al_coda (s a b e : Int) (h0 : 0 < s) (hsa : s < a) (hab : a < b) (hbe : b < e) (il : Bool) :
    ((mkSegments (dsCodaLayout s a b e)).bind fun g => getPaths g false true il 10) = some [[0, 1, 2, 1, 3]] ∧
    ((mkSegments (dsCodaLayout s a b e)).bind fun g => getPaths g true false il 10) = some [[0, 1, 2, 3]] := by
  have h := paths_mapT (stepMap [s, a, b, e]) (stepMap_mono _ ⟨h0, hsa, hab, hbe, trivial⟩) rfl (dsCodaLayout 1 2 3 4)
  rw [show dsCodaLayout s a b e = layoutT (stepMap [s, a, b, e]) (dsCodaLayout 1 2 3 4) from rfl, h, h]
  cases il <;> decide +kernel

example : ((mkSegments (dsCodaLayout 4 12 16 24)).bind fun g => getPaths g false true true 10) = some [[0, 1, 2, 1, 3]] :=
  (dalsegno_al_coda 4 12 16 24 (by decide) (by decide) (by decide) (by decide) true).1

end C09
