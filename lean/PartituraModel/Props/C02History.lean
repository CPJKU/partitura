/-
C02 — edit / query histories: a query changes nothing (the maps are rebuilt from the state of the part on every
access), and every part with two or more time points reachable through the API from `Part(quarter_duration=q0)` by valid edits is
well formed.
-/
import PartituraModel.Props.C02Origin
import PartituraModel.Props.C02Musical
import PartituraModel.Proofs.C02Hist
import PartituraModel.Proofs.C02QDLaw

namespace C02
open Model.TimeMap C02Proofs

theorem query_no_effect (s : HState) : hstep s .query = s := rfl

/-- **a history with queries leaves the state its edits alone leave** -/
theorem history_fresh (q0 : Nat) (h : List HOp) : hrun q0 h = hrun q0 (h.filter HOp.isEdit) := by
  unfold hrun
  generalize hinit q0 = s
  induction h generalizing s with
  | nil => rfl
  | cons op rest ih =>
    cases op with
    | query => simp only [List.foldl_cons, hstep, List.filter, HOp.isEdit]; exact ih s
    | _ => simp only [List.foldl_cons, List.filter, HOp.isEdit]; exact ih _

/-- hence all five maps after an (edit, query, edit, …) history are those of a part built from the edits in
one go: nothing is cached -/
theorem maps_after_queries (q0 : Nat) (h : List HOp) (m : Mode) (x : Rat) :
    fwd (buildPart q0 h) m x = fwd (buildPart q0 (h.filter HOp.isEdit)) m x ∧
    inv (buildPart q0 h) m x = inv (buildPart q0 (h.filter HOp.isEdit)) m x ∧
    qdMap (buildPart q0 h).qd x = qdMap (buildPart q0 (h.filter HOp.isEdit)).qd x := by
  unfold buildPart
  rw [← history_fresh]
  exact ⟨rfl, rfl, rfl⟩

example : buildPart 4 [.setQD 10 6, .query, .beat (.addTS 0 6 8), .measure 0 4, .query, .span 0 60, .query] =
    buildPart 4 [.setQD 10 6, .beat (.addTS 0 6 8), .measure 0 4, .span 0 60] := by
  unfold buildPart; rw [history_fresh]; rfl

/-- **`set_quarter_duration(t, q)` changes `quarter_duration_map` exactly on `[t, next change)`**: there the
new value `q` is in force, everywhere else (from the first entry on) the map is what it was — also when the
call is redundant and the lists are left alone, when an entry at `t` is replaced, and when `t` lies after the
last entry. -/
theorem setQD_law (h0 : Int) (a : Nat) (r : List (Int × Nat)) (t : Int) (q : Nat)
    (hs : (((h0, a) :: r).map (·.1)).Pairwise (· < ·)) (ht : h0 ≤ t) (x : Rat) (hx : (h0 : Rat) ≤ x) :
    qdMap (setQD ((h0, a) :: r) t q) x =
      if (t : Rat) ≤ x ∧ (∀ e ∈ (h0, a) :: r, t < e.1 → x < (e.1 : Rat)) then some q else qdMap ((h0, a) :: r) x := by
  -- the law of the search below an entry, read at the first entry (whose time is at or before `x`)
  obtain ⟨a', r', he⟩ := setQD_head h0 a r t q ht
  have law := setQDAux_law t q x ((h0, a) :: r) a hs
  rw [← setQD_eq_aux h0 a r t q ht a, he] at law
  simp only [prevValue, if_pos hx] at law
  rw [he]
  simp only [qdMap, law]
  split_ifs <;> rfl

example : setQD [(0, 4), (10, 6), (70, 3)] 20 6 = [(0, 4), (10, 6), (70, 3)] ∧
    setQD [(0, 4), (10, 6), (70, 3)] 20 5 = [(0, 4), (10, 6), (20, 5), (70, 3)] ∧
    setQD [(0, 4), (10, 6), (70, 3)] 10 4 = [(0, 4), (10, 4), (70, 3)] ∧
    setQD [(0, 4), (10, 6), (70, 3)] 90 3 = [(0, 4), (10, 6), (70, 3)] ∧
    qdMap (setQD [(0, 4), (10, 6), (70, 3)] 20 5) 69 = some 5 ∧ qdMap (setQD [(0, 4), (10, 6), (70, 3)] 20 5) 70 = some 3 := by
  decide +kernel

/-! ### every part built through the API is well formed -/

/-- what the API accepts / what the property quantifies over: non-negative times, positive divisions,
positive signature numbers, positive musical beats in the tables -/
def ValidOp : HOp → Prop
  | .setQD t q => 0 ≤ t ∧ 0 < q
  | .beat (.addTS t b bt) => 0 ≤ t ∧ 0 < b ∧ 0 < bt
  | .beat (.setMB tbl) => ∀ e ∈ tbl, 0 < e.2
  | .beat (.useMusical tbl) => ∀ e ∈ tbl, 0 < e.2
  | .beat .useNotated => True
  | .measure a e => 0 ≤ a ∧ 0 ≤ e
  | .span a e => 0 ≤ a ∧ 0 ≤ e
  | .query => True

structure Inv (s : HState) : Prop where
  qd_head : ∃ a r, s.qd = (0, a) :: r
  qd_sorted : (s.qd.map (·.1)).Pairwise (· < ·)
  qd_pos : ∀ e ∈ s.qd, 0 < e.2
  qd_nonneg : ∀ e ∈ s.qd, 0 ≤ e.1
  times_sorted : s.times.Pairwise (· < ·)
  times_nonneg : ∀ t ∈ s.times, 0 ≤ t
  ts_ok : ∀ x ∈ s.beat.ts, 0 < x.beats ∧ 0 < x.beatType ∧ 0 < x.mb ∧ x.t ∈ s.times

theorem defaultMB_pos (b : Nat) (h : 0 < b) : 0 < defaultMB b := by
  rw [defaultMB_values.2 b]
  split_ifs <;> omega

theorem assignMB_pos (tbl : List ((Nat × Nat) × Nat)) (hv : ∀ e ∈ tbl, 0 < e.2) (x : TSig) (hb : 0 < x.beats) :
    0 < (assignMB tbl x).mb := by
  rw [(assignMB_spec tbl x).2.2.2]
  cases hu : userMB tbl x.beats x.beatType with
  | none => simpa using defaultMB_pos _ hb
  | some v => simpa using hv _ ((userMB_spec tbl x.beats x.beatType).1 v hu)

theorem inv_init (q0 : Nat) (h : 0 < q0) : Inv (hinit q0) where
  qd_head := ⟨q0, [], rfl⟩
  qd_sorted := by simp [hinit]
  qd_pos := by intro e he; simp only [hinit, List.mem_singleton] at he; rw [he]; exact h
  qd_nonneg := by intro e he; simp only [hinit, List.mem_singleton] at he; rw [he]
  times_sorted := by simp [hinit]
  times_nonneg := by intro t ht; simp [hinit] at ht
  ts_ok := by intro x hx; simp [hinit] at hx

theorem inv_map_assign (s : HState) (hi : Inv s) (tbl : List ((Nat × Nat) × Nat)) (hv : ∀ e ∈ tbl, 0 < e.2) :
    ∀ x ∈ s.beat.ts.map (assignMB tbl), 0 < x.beats ∧ 0 < x.beatType ∧ 0 < x.mb ∧ x.t ∈ s.times := by
  intro x hx
  obtain ⟨x0, h0, rfl⟩ := List.mem_map.mp hx
  obtain ⟨h1, h2, _, h4⟩ := hi.ts_ok x0 h0
  obtain ⟨e1, e2, e3, _⟩ := assignMB_spec tbl x0
  rw [e1, e2, e3]
  exact ⟨h1, h2, assignMB_pos tbl hv x0 h1, h4⟩

theorem inv_add_times (s : HState) (hi : Inv s) (new : List Int) (hn : ∀ t ∈ new, 0 ≤ t) :
    (new.foldr insertKey s.times).Pairwise (· < ·) ∧ (∀ t ∈ new.foldr insertKey s.times, 0 ≤ t) ∧
    ∀ x ∈ s.beat.ts, 0 < x.beats ∧ 0 < x.beatType ∧ 0 < x.mb ∧ x.t ∈ new.foldr insertKey s.times := by
  refine ⟨pairwise_foldr_insertKey _ hi.times_sorted new, fun t ht => ?_, fun x hx => ?_⟩
  · rcases (mem_foldr_insertKey t _ new).mp ht with h | h
    · exact hn t h
    · exact hi.times_nonneg t h
  · obtain ⟨h1, h2, h3, h4⟩ := hi.ts_ok x hx
    exact ⟨h1, h2, h3, (mem_foldr_insertKey x.t _ new).mpr (Or.inr h4)⟩

theorem inv_step (s : HState) (op : HOp) (hi : Inv s) (hv : ValidOp op) : Inv (hstep s op) := by
  cases op with
  | query => exact hi
  | setQD t q =>
    obtain ⟨a, r, hq⟩ := hi.qd_head
    exact { hi with
      qd_head := by simp only [hstep]; rw [hq]; exact setQD_head 0 a r t q hv.1
      qd_sorted := setQDAux_pairwise t q s.qd none hi.qd_sorted
      qd_pos := setQDAux_forall none hv.2 hi.qd_pos
      qd_nonneg := setQDAux_forall none hv.1 hi.qd_nonneg }
  | measure a e | span a e =>
    obtain ⟨h1, h2, h3⟩ := inv_add_times s hi [a, e] (by
      intro t ht
      rcases List.mem_cons.mp ht with rfl | ht
      · exact hv.1
      · rw [List.mem_singleton.mp ht]; exact hv.2)
    exact { hi with times_sorted := h1, times_nonneg := h2, ts_ok := h3 }
  | beat o =>
    cases o with
    | addTS t b bt =>
      obtain ⟨h1, h2, h3⟩ := inv_add_times s hi [t] (by
        intro u hu
        rw [List.mem_singleton.mp hu]; exact hv.1)
      exact { hi with
        times_sorted := h1
        times_nonneg := h2
        ts_ok := by
          intro x hx
          simp only [hstep, step, List.mem_append, List.mem_singleton] at hx
          rcases hx with hx | hx
          · exact h3 x hx
          · rw [hx]
            exact ⟨hv.2.1, hv.2.2, defaultMB_pos b hv.2.1, (mem_insertKey t t s.times).mpr (Or.inl rfl)⟩ }
    | setMB tbl =>
      exact { hi with ts_ok := by simp only [hstep, step]; exact inv_map_assign s hi tbl hv }
    | useMusical tbl =>
      exact { hi with
        ts_ok := by
          simp only [hstep, step]
          split_ifs
          · exact hi.ts_ok
          · exact hi.ts_ok
          · exact inv_map_assign s hi tbl hv }
    | useNotated =>
      exact { hi with
        ts_ok := by
          simp only [hstep, step]
          split_ifs
          · exact inv_map_assign s hi [] (by simp)
          · exact hi.ts_ok }

/-- **every state reachable by a valid history satisfies the invariant** -/
theorem inv_reachable (q0 : Nat) (hq : 0 < q0) (h : List HOp) (hv : ∀ op ∈ h, ValidOp op) : Inv (hrun q0 h) :=
  Lists.foldl_keeps_all hstep inv_step h (hinit q0) (inv_init q0 hq) hv

/-- the quarter lists of a reachable part: first entry at time 0, strictly increasing times — the
hypothesis of `qdMap_inforce` / `qdMap_at_change` — and positive values -/
theorem built_qd (q0 : Nat) (hq : 0 < q0) (h : List HOp) (hv : ∀ op ∈ h, ValidOp op) :
    (∃ a r, (buildPart q0 h).qd = (0, a) :: r) ∧ ((buildPart q0 h).qd.map (·.1)).Pairwise (· < ·) ∧
    ∀ e ∈ (buildPart q0 h).qd, 0 < e.2 := by
  have hi := inv_reachable q0 hq h hv
  exact ⟨hi.qd_head, hi.qd_sorted, hi.qd_pos⟩

/-- `first_point` / `last_point`: the earliest and the latest time of any object added -/
theorem built_first_last (q0 : Nat) (hq : 0 < q0) (h : List HOp) (hv : ∀ op ∈ h, ValidOp op)
    (hne : (hrun q0 h).times ≠ []) :
    (buildPart q0 h).first ∈ (hrun q0 h).times ∧ (buildPart q0 h).last ∈ (hrun q0 h).times ∧
    ∀ t ∈ (hrun q0 h).times, (buildPart q0 h).first ≤ t ∧ t ≤ (buildPart q0 h).last := by
  have hi := inv_reachable q0 hq h hv
  unfold buildPart HState.toPart
  cases ht : (hrun q0 h).times with
  | nil => exact absurd ht hne
  | cons a as =>
    simp only
    have hp := hi.times_sorted
    rw [ht] at hp
    refine ⟨List.mem_cons_self, lastOf_mem _ (by simp), ?_⟩
    intro t htm
    exact ⟨head_le_of_pairwise (a :: as) a hp rfl t htm, le_lastOf _ hp t htm⟩

/-- **Every part reachable through the API with two or more time points satisfies `WF`** in every mode:
all theorems of C02 apply to it without further hypotheses. -/
theorem built_part_wf (q0 : Nat) (hq : 0 < q0) (h : List HOp) (hv : ∀ op ∈ h, ValidOp op) (m : Mode)
    (h2 : 2 ≤ (buildPart q0 h).npoints) : WF (buildPart q0 h) m := by
  have hi := inv_reachable q0 hq h hv
  refine ⟨h2, ?_, hi.qd_pos, ?_⟩
  · unfold buildPart HState.toPart at h2 ⊢
    simp only at h2 ⊢
    have hp := hi.times_sorted
    cases ht : (hrun q0 h).times with
    | nil => rw [ht] at h2; simp at h2
    | cons a as =>
      cases as with
      | nil => rw [ht] at h2; simp at h2
      | cons b rest =>
        rw [ht] at hp
        exact head_lt_lastOf a b rest hp
  · intro _ x hx
    have hx' : x ∈ (hrun q0 h).beat.ts := (mem_sortTS x _).mp hx
    obtain ⟨h1, h2', h3, _⟩ := hi.ts_ok x hx'
    exact ⟨h1, h2', fun _ => h3⟩

/-- **The first key point of every reachable part is time 0.** -/
theorem built_first_key_zero (q0 : Nat) (hq : 0 < q0) (h : List HOp) (hv : ∀ op ∈ h, ValidOp op) (m : Mode) :
    (keyTimes (buildPart q0 h) m).head? = some 0 := by
  have hi := inv_reachable q0 hq h hv
  obtain ⟨a, r, hqd⟩ := hi.qd_head
  have hfl : 0 ≤ (buildPart q0 h).first ∧ (buildPart q0 h).first ≤ (buildPart q0 h).last := by
    by_cases hne : (hrun q0 h).times = []
    · unfold buildPart HState.toPart; simp [hne, lastOf]
    · obtain ⟨h1, h2, h3⟩ := built_first_last q0 hq h hv hne
      exact ⟨hi.times_nonneg _ h1, (h3 _ h2).1⟩
  refine first_key_zero (buildPart q0 h) m a ?_ hfl.1 hfl.2 hi.qd_nonneg ?_
  · show (0, a) ∈ (hrun q0 h).qd
    rw [hqd]; exact List.mem_cons_self
  · intro x hx
    have hx' : x ∈ (hrun q0 h).beat.ts := (mem_sortTS x _).mp hx
    exact hi.times_nonneg _ (hi.ts_ok x hx').2.2.2

/-- **Zero of every reachable part without a pickup lies at time 0 and nowhere else** — at the first time
point exactly when the part starts at time 0 (F-C02-1 for the others). -/
theorem built_zero_plain (q0 : Nat) (hq : 0 < q0) (h : List HOp) (hv : ∀ op ∈ h, ValidOp op) (m : Mode)
    (h2 : 2 ≤ (buildPart q0 h).npoints)
    (hno : pickupShift (buildPart q0 h) m (knots (keypoints (buildPart q0 h) m) 0) = 0) (z : Rat) :
    (fwd (buildPart q0 h) m z = some 0 ↔ z = 0) ∧
    (fwd (buildPart q0 h) m ((buildPart q0 h).first : Rat) = some 0 ↔ (buildPart q0 h).first = 0) := by
  have hw := built_part_wf q0 hq h hv m h2
  have hk := built_first_key_zero q0 hq h hv m
  refine ⟨by simpa using zero_plain _ m hw 0 hk hno z, ?_⟩
  rw [origin_zero_iff_plain _ m hw 0 hk hno]
  exact eq_comm

/-- **All reachable parts with the same quarter durations and signatures share the origin**: their maps
agree (up to the difference of the pickup shifts) wherever both are defined. -/
theorem built_common_origin (q1 q2 : Nat) (hq1 : 0 < q1) (hq2 : 0 < q2) (h1 h2 : List HOp)
    (hv1 : ∀ op ∈ h1, ValidOp op) (hv2 : ∀ op ∈ h2, ValidOp op) (m : Mode)
    (n1 : 2 ≤ (buildPart q1 h1).npoints) (n2 : 2 ≤ (buildPart q2 h2).npoints)
    (hqd : (buildPart q1 h1).qd = (buildPart q2 h2).qd) (hts : (buildPart q1 h1).ts = (buildPart q2 h2).ts)
    (x y1 y2 : Rat) (hy1 : fwd (buildPart q1 h1) m x = some y1) (hy2 : fwd (buildPart q2 h2) m x = some y2) :
    y1 + pickupShift (buildPart q1 h1) m (knots (keypoints (buildPart q1 h1) m) 0) =
    y2 + pickupShift (buildPart q2 h2) m (knots (keypoints (buildPart q2 h2) m) 0) :=
  origin_common_across_parts _ _ m (built_part_wf q1 hq1 h1 hv1 m n1) (built_part_wf q2 hq2 h2 hv2 m n2)
    hqd hts 0 (built_first_key_zero q1 hq1 h1 hv1 m) (built_first_key_zero q2 hq2 h2 hv2 m) x y1 y2 hy1 hy2

/-- non-vacuity: a valid history with queries, and the part it builds -/
def exHist : List HOp :=
  [.setQD 10 6, .query, .beat (.addTS 0 6 8), .measure 0 4, .query, .beat (.useMusical [((6, 8), 7)]),
   .setQD 10 6, .span 0 60, .setQD 70 3, .query]

example : (∀ op ∈ exHist, ValidOp op) ∧ (buildPart 4 exHist).npoints = 3 ∧
    (buildPart 4 exHist).qd = [(0, 4), (10, 6), (70, 3)] ∧ (buildPart 4 exHist).m1 = some (0, 4) ∧
    (buildPart 4 exHist).ts = [⟨0, 6, 8, 7⟩] ∧ (buildPart 4 exHist).musical = true := by
  refine ⟨?_, by decide, by decide, by decide, by decide, by decide⟩
  intro op hop
  simp only [exHist, List.mem_cons, List.mem_nil_iff, or_false] at hop
  rcases hop with h | h | h | h | h | h | h | h | h | h <;> subst h <;> simp [ValidOp]

end C02
