/-
C18 — the optional arguments and extra return values of the codec's functions (Model/CodecX.lean), and sharper forms of
`velocity_roundtrip`, `time_maps_interp` and `decode_ids_in_order`.
`zeroHold` is the zero-order interpolator `tempo_fun` of `tempo_by_average`.
-/
import PartituraModel.Props.C18Pipeline
import PartituraModel.Proofs.C18Ext

namespace C18
open Model Model.Codec C18P

theorem zero_hold_knots (ks : List (Rat × Rat)) (hx : IncX ks) (lo hi x y : Rat) (hm : (x, y) ∈ ks) :
    zeroHold ks lo hi x = some y :=
  zeroHold_knot ks hx lo hi x y hm

theorem zero_hold_range (ks : List (Rat × Rat)) (hne : ks ≠ []) (lo hi q : Rat) :
    ∃ v, zeroHold ks lo hi q = some v ∧ (v = lo ∨ v = hi ∨ v ∈ ks.map (·.2)) :=
  zeroHold_range ks hne lo hi q

example : IncX [((0 : Rat), (10 : Rat)), (1, 11), (2, 12), (4, 14)] := by decide +kernel
example : [(-1 : Rat) / 2, 0, 1 / 2, 1, 2, 39 / 10, 4, 41 / 10].map (zeroHold [(2, 12), (0, 10), (1, 11), (4, 14)] (-1) (-2))
    = [some (-1), some 10, some 10, some 11, some 12, some 12, some 14, some (-2)] := by decide +kernel

/-- `tempo_by_average(…)` with `input_onsets=None`: `tempo_fun(unique_s_onsets[:-1])` is the list of beat periods -/
theorem tempo_average_default (ns : List MNote) (hne : ns ≠ []) (hsd : ∀ x ∈ ns, 0 ≤ x.sd) (hpd : ∀ x ∈ ns, 0 ≤ x.pd) :
    tempoAverageAt ns (encGroups ns) none = tempoAverage ns (encGroups ns) := by
  obtain ⟨bp, h1, h2, _⟩ := tempoAverageAt_none (goodGroups_enc ns hne) hsd hpd
  rw [h1, h2]

/-- `tempo_by_average(…, input_onsets=q)` is positive at every sampling point, whatever the performed onsets are -/
theorem tempo_average_at_pos (ns : List MNote) (hne : ns ≠ []) (hsd : ∀ x ∈ ns, 0 ≤ x.sd) (hpd : ∀ x ∈ ns, 0 ≤ x.pd)
    (inputs : List Rat) :
    ∃ out, tempoAverageAt ns (encGroups ns) (some inputs) = some out ∧ out.length = inputs.length ∧ ∀ b ∈ out, 0 < b :=
  tempoAverageAt_pos (goodGroups_enc ns hne) hsd hpd inputs

theorem tempo_derivative_at_pos (ns : List MNote) (hne : ns ≠ []) (hsd : ∀ x ∈ ns, 0 ≤ x.sd) (hpd : ∀ x ∈ ns, 0 ≤ x.pd)
    (inputs : List Rat) :
    ∃ out, tempoDerivativeAt ns (encGroups ns) (some inputs) = some out ∧ out.length = inputs.length ∧ ∀ b ∈ out, 0 < b :=
  tempoDerivativeAt_pos (goodGroups_enc ns hne) hsd hpd (some inputs)

theorem tempo_derivative_default (ns : List MNote) (gs : List (Grp MNote)) :
    tempoDerivativeAt ns gs none = tempoDerivative ns gs := by
  unfold tempoDerivativeAt tempoDerivative
  cases h : tempoSeqs ns gs with
  | none => rfl
  | some t =>
    obtain ⟨xs, ss, mono⟩ := t
    obtain ⟨ls, hls⟩ := tempoSeqs_xs ns gs xs ss mono h
    simp only [Option.getD_none]
    rw [hls, List.dropLast_concat]

/-- the swapped performance of `demoSwapped`, sampled before, between and after the score onsets -/
example : tempoAverageAt demoSwapped (encGroups demoSwapped) (some [-1, 1 / 2, 2, 5 / 2, 7]) = some [1/2, 1/2, 1/8, 1/8, 1/8]
    ∧ tempoDerivativeAt demoSwapped (encGroups demoSwapped) (some [-1, 1 / 2, 2, 5 / 2, 7]) = some [1/2, 1/2, 5/16, 1/8, 1/8] := by
  decide +kernel

/-- a coarser `unique_onset_idxs` given by the caller -/
example : (pickGroups demoSwapped [[0, 1], [2], [3]]).bind (fun gs => tempoAverageAt demoSwapped gs none)
    = some [1, 1/8, 1/8] := by decide +kernel

/-- performed onsets of successive score onsets that are EQUAL (a plateau): positive beat periods all the same
    (seeded change C18-i returned the plateau unchanged, beat period 0) -/
def demoTies : List MNote := [⟨0, 1, 1, 1/2⟩, ⟨1, 1, 3/2, 1/2⟩, ⟨2, 1, 3/2, 1/2⟩, ⟨3, 1, 3/2, 1/2⟩, ⟨4, 1, 2, 1/2⟩]
example : demoTies ≠ [] ∧ (∀ x ∈ demoTies, 0 ≤ x.sd) ∧ (∀ x ∈ demoTies, 0 ≤ x.pd)
    ∧ ¬ (groupMeans (·.po) (encGroups demoTies)).Pairwise (· < ·)
    ∧ (groupMeans (·.po) (encGroups demoTies)).Pairwise (· ≤ ·)
    ∧ tempoAverage demoTies (encGroups demoTies) = some [1/2, 1/6, 1/6, 1/6, 1/2] := by decide +kernel

/-- `monotonize_times(s)` without abscissae (`x = arange(len(s))`): the statement of `monotonize_times_spec`, with no
    condition left on the input -/
theorem monotonize_default_spec (ss : List Rat) (hne : ss ≠ []) :
    ∃ mono, monotonizeDefault ss = some (mono, arange ss.length) ∧
    (monoKnots ((arange ss.length).zip ss)).Sublist ((arange ss.length).zip ss) ∧
    IncY (monoKnots ((arange ss.length).zip ss)) ∧
    (ss.Pairwise (· < ·) → mono = ss) ∧
    (2 ≤ (monoKnots ((arange ss.length).zip ss)).length → mono.length = ss.length ∧ mono.Pairwise (· < ·) ∧
        List.Forall₂ (fun (k : Rat × Rat) y => k ∈ monoKnots ((arange ss.length).zip ss) → y = k.2)
          ((arange ss.length).zip ss) mono) ∧
    (∀ k0, monoKnots ((arange ss.length).zip ss) = [k0] → mono = ss.map fun _ => k0.2) := by
  have hx := arange_strict ss.length
  have hlen : (arange ss.length).length = ss.length := arange_length _
  obtain ⟨mono, hmono⟩ := monotonize_defined _ ss hx hlen fun h0 =>
    hne (List.length_eq_zero_iff.mp (by rw [← hlen, h0]; rfl))
  obtain ⟨h1, h2, h3, h4, h5⟩ := monotonize_times_spec _ ss hx hlen
  refine ⟨mono, ?_, h1, h2, fun hs => ?_, fun hk => ?_, fun k0 hk0 => ?_⟩
  · cases ss with
    | nil => exact absurd rfl hne
    | cons a t => simp only [monotonizeDefault, hmono, Option.map_some]
  · exact Option.some.inj (hmono.symm.trans (h3 hs))
  · obtain ⟨mono', h, r1, r2⟩ := h4 hk
    cases hmono.symm.trans h
    exact ⟨by rw [r1, hlen], r2⟩
  · rw [Option.some.inj (hmono.symm.trans (h5 k0 hk0)), List.map_const', List.map_const', hlen]

example : monotonizeDefault [2, 1, 3, 5/2, 13/4] = some ([2, 5/2, 3, 25/8, 13/4], [0, 1, 2, 3, 4])
    ∧ monotonizeDefault [] = none := by decide +kernel

/-- `get_unique_onset_idxs(onsets, eps, return_unique_onsets=True)` for any `eps ≥ 0` -/
theorem unique_onsets_spec (e : Rat) (he : 0 ≤ e) (ons : List Rat) :
    (uniqueOnsets e ons).1.flatten.Perm (enumFrom 0 ons) ∧ (∀ g ∈ (uniqueOnsets e ons).1, g ≠ []) ∧
    (uniqueOnsets e ons).1.Pairwise (fun g h => ∀ a ∈ g, ∀ b ∈ h, a.2 < b.2) ∧
    (∀ g ∈ (uniqueOnsets e ons).1, g.IsChain (fun a b => b.2 - a.2 ≤ e)) ∧
    (uniqueOnsets e ons).2 = groupMeans (fun x => x) (uniqueOnsets e ons).1 ∧
    (uniqueOnsets e ons).2.Pairwise (· < ·) := by
  obtain ⟨h1, h2, h3, h4⟩ := groupsByEps_spec e he (fun (x : Rat) => x) ons
  exact ⟨h1, h2, h3, h4, rfl, groupMeans_strict_of_separated (fun (x : Rat) => x) _ h2 h3⟩

/-- the codec groups with the default `eps = 1e-6` -/
theorem unique_onsets_default {α : Type} (key : α → Rat) (l : List α) : groupsByEps eps key l = groupsBy key l := rfl

example : uniqueOnsets (3 / 10) [0, 1/2, 3/5, 1, 1/5] = ([[(0, 0), (4, 1/5), (1, 1/2), (2, 3/5)], [(3, 1)]], [13/40, 1]) := by
  decide +kernel

/-- `encode_tempo` refuses arrays of different lengths and is the encoder of the zipped rows otherwise -/
theorem encode_tempo_arrays (m : Method) (n : Norm) (sdv : Rat) (so po sd pd : List Rat) :
    (¬ (so.length = po.length ∧ so.length = sd.length ∧ po.length = pd.length) →
      encodeTempoArrays m n sdv so po sd pd = none) ∧
    (so.length = po.length ∧ so.length = sd.length ∧ po.length = pd.length →
      encodeTempoArrays m n sdv so po sd pd = encode m n sdv (zip4 so sd po pd) ∧ (zip4 so sd po pd).length = so.length) := by
  unfold encodeTempoArrays
  constructor
  · intro h
    rw [if_pos (by omega)]
  · rintro ⟨h1, h2, h3⟩
    rw [if_neg (by omega)]
    exact ⟨rfl, zip4_length so sd po pd h2 h1 (by omega)⟩

example : encodeTempoArrays .average .bp 0 [0, 1] [1] [1, 1] [1, 1] = none
    ∧ (encodeTempoArrays .average .bp 0 [0, 1] [1, 2] [1, 1] [1/2, 1/2]).isSome := by decide +kernel

/-- ids, onsets, durations and velocities of `decodeFull` are those of `decodePerformance` -/
theorem decode_full_notes (n : Norm) (ss : List SRow) (ids : List String) (ps : List ParamRow)
    (info : List SRow) (hinfo : selectRows ss ids = some info) (hlen : info.length = ps.length) :
    (decodeFull n ss (some ids) ps).map (fun r => r.1.map fun (d : DNote) => (d.1, d.2.2.1, d.2.2.2.1, d.2.2.2.2))
      = decodePerformance n ss ids ps := by
  unfold decodeFull decodePerformance
  simp only [Option.getD_some, hinfo, hlen, ne_eq, not_true_eq_false, if_false]
  cases hg : getAll ps (List.map (fun x => x.1)
      (isort (fun a b => lexLe (a.2.odiv, a.2.pitch) (b.2.odiv, b.2.pitch)) (enumFrom 0 info))) with
  | none => rfl
  | some ps' =>
    simp only
    cases hd : decodeTime n (List.zipWith (fun (s : Nat × SRow) (p : ParamRow) => mkDRow s.2 p)
        (isort (fun a b => lexLe (a.2.odiv, a.2.pitch) (b.2.odiv, b.2.pitch)) (enumFrom 0 info)) ps') with
    | none => rfl
    | some od =>
      simp only [Option.map_some, Option.some.injEq]
      apply map_zipWith4
      · intro a b c d; rfl
      · have := getAll_length _ _ _ hg
        rw [this, List.length_map]

/-- with the encoder's `snote_ids` (rows ordered by (onset_div, pitch)) note `k` also carries the pitch of the score
    row of `snote_ids[k]`, clipped to 1..127 -/
theorem decode_full_sorted (n : Norm) (ss : List SRow) (ids : List String) (ps : List ParamRow)
    (info : List SRow) (hinfo : selectRows ss ids = some info) (hlen : info.length = ps.length)
    (hsorted : info.Pairwise (fun a b => lexLe (a.odiv, a.pitch) (b.odiv, b.pitch) = true)) :
    (decodeFull n ss (some ids) ps).map (·.1) =
      (decodeTime n (List.zipWith mkDRow info ps)).map fun od =>
        zipWith4 (fun id (x : Rat × Rat) (p : ParamRow) (s : SRow) =>
          ((id, clipPitch s.pitch, x.1, x.2, decodeVel p.vel) : DNote)) ids od ps info := by
  unfold decodeFull
  simp only [Option.getD_some, hinfo]
  rw [isort_enumFrom_of_sorted info hsorted, enumFrom_map_fst, hlen, getAll_range]
  simp only
  have hrows : List.zipWith (fun (s : Nat × SRow) (p : ParamRow) => mkDRow s.2 p)
      (enumFrom 0 info) ps = List.zipWith mkDRow info ps := zipWith_enumFrom mkDRow 0 info ps
  rw [hrows]
  cases decodeTime n (List.zipWith mkDRow info ps) with
  | none => rfl
  | some od =>
    simp only [Option.map_some, Option.some.injEq]
    exact zipWith4_enumFrom (fun id (x : Rat × Rat) (p : ParamRow) (s : SRow) =>
      ((id, clipPitch s.pitch, x.1, x.2, decodeVel p.vel) : DNote)) 0 ids od ps info

theorem clip_pitch_midi (p : Int) : 1 ≤ clipPitch p ∧ clipPitch p ≤ 127 ∧ (1 ≤ p → p ≤ 127 → clipPitch p = p) :=
  ⟨(clipPitch_range p).1, (clipPitch_range p).2, clipPitch_id p⟩

/-- the alignment of `return_alignment=True` pairs every decoded note with the score note of the same id -/
theorem decode_full_alignment (n : Norm) (ss : List SRow) (ids : List String) (ps : List ParamRow)
    (notes : List DNote) (al : List (String × String)) (h : decodeFull n ss (some ids) ps = some (notes, al)) :
    ∀ p ∈ al, p.1 = p.2 := by
  unfold decodeFull at h
  simp only [Option.getD_some] at h
  cases hinfo : selectRows ss ids with
  | none => rw [hinfo] at h; simp at h
  | some info =>
    rw [hinfo] at h
    simp only at h
    split at h
    · simp at h
    · rename_i ps' _
      split at h
      · simp at h
      · rename_i od _
        simp only [Option.some.injEq, Prod.mk.injEq] at h
        rw [← h.2]
        have hs := selectRows_spec ss ids info hinfo
        apply alignment_pairs_eq ids info (hs.imp fun _ _ h => h.2)
        intro a b c d; rfl

/-- `snote_ids=None` is `snote_ids = [n["id"] for n in snotes]` when the score ids are unique -/
theorem decode_full_default_ids (n : Norm) (ss : List SRow) (ps : List ParamRow) (hnd : (ss.map (·.id)).Nodup) :
    decodeFull n ss none ps = decodeFull n ss (some (ss.map (·.id))) ps := by
  unfold decodeFull
  simp only [Option.getD_none, Option.getD_some, selectRows_self ss hnd]

example : decodeFull .bp demoScore (some ["n1", "n2"]) [⟨0, 1, [1/2], 64/127⟩, ⟨1/8, 2, [1/4], 1/127⟩, ⟨9, 9, [9], 9⟩]
    = some ([("n1", 55, 0, 1, 64), ("n2", 62, 3/8, 1/2, 1)], [("n1", "n1"), ("n2", "n2")])
    ∧ decodeFull .bp demoScore (some ["n1", "n2"]) [⟨0, 1, [1/2], 64/127⟩] = none := by decide +kernel

/-- repeated ids: without `snote_ids` every row is decoded, with them the LAST row of the id is decoded twice -/
example : (decodeFull .bp [⟨"a", 0, 0, 0, 1⟩, ⟨"a", 4, 130, 1, 1⟩] none [⟨0, 1, [1/2], 64/127⟩, ⟨0, 1, [1/2], 64/127⟩]).map
      (fun r => r.1.map fun (d : DNote) => (d.1, d.2.1)) = some [("a", 1), ("a", 127)]
    ∧ (decodeFull .bp [⟨"a", 0, 0, 0, 1⟩, ⟨"a", 4, 130, 1, 1⟩] (some ["a", "a"]) [⟨0, 1, [1/2], 64/127⟩, ⟨0, 1, [1/2], 64/127⟩]).map
      (fun r => r.1.map fun (d : DNote) => (d.1, d.2.1)) = some [("a", 127), ("a", 127)] := by decide +kernel

/-- `to_matched_score(…, include_score_markings)` returns whenever it returns without the markings, with the same
    rows and `snote_ids`; the `voice` column is there exactly for a score OBJECT with markings -/
theorem matched_markings_same_table (mk arr : Bool) (fs : List String) (vs : List Int)
    (ss : List SRow) (ps : List PRow) (al : List ARow) (rows : List MRow)
    (h : toMatchedScore ss ps al = some rows) (hv : vs.length = ss.length) :
    ∃ ids voices, snoteIds ss rows = some ids ∧
      toMatchedScoreX mk arr fs vs ss ps al = some (matchedFieldNames mk arr fs, rows, ids, voices) ∧
      (voices.isSome ↔ (mk = true ∧ arr = false)) := by
  obtain ⟨M, _, _, hM, rfl⟩ := toMatchedScore_trips ss ps al rows h
  have hids := snoteIds_trips ss ps M hM
  have hvo : matchedVoices vs (M.map Trip.row) = some (M.map fun t => vs[t.1.1]?.getD 0) := by
    unfold matchedVoices
    rw [allSome_eq_some, List.map_map, List.map_map]
    refine List.map_congr_left fun t ht => ?_
    have hlt : t.1.1 < vs.length := hv ▸ (List.getElem?_eq_some_iff.mp (hM t ht).1).1
    simp [Trip.row, List.getElem?_eq_getElem hlt]
  unfold toMatchedScoreX
  rw [h]
  simp only [hids, matchedWidthOk_true, Bool.not_true, Bool.false_eq_true, if_false]
  cases mk <;> cases arr <;> simp [hvo]

/-- the rows fit the columns in all four cases; a note array has the six base columns whatever the flag says -/
theorem matched_columns (mk arr : Bool) (fs : List String) :
    matchedWidthOk mk arr fs = true ∧ matchedFieldNames mk true fs = baseFields ∧
    matchedFieldNames false arr fs = baseFields ∧ matchedFieldNames true false fs = baseFields ++ "voice" :: fs :=
  ⟨matchedWidthOk_true mk arr fs, by cases mk <;> rfl, rfl, rfl⟩

/-- before repair C18-13 the row loop appended the markings for a note array as well: 7 values for 6 columns -/
example : 6 + (if true then 1 + ([] : List String).length else 0) ≠ (matchedFieldNames true true []).length := by decide

example : toMatchedScoreX true false ["slur_feature.slur_incr"] [1, 2, 1] demoScore demoPerf demoAl
    = some (["onset", "duration", "pitch", "p_onset", "p_duration", "velocity", "voice", "slur_feature.slur_incr"],
        [⟨0, 0, 1, 60, 1, 3/40, 70⟩, ⟨2, 1, 1, 62, 17/16, 1, 60⟩], ["n0", "n2"], some [1, 1]) := by decide +kernel

/-- `onsetwise_to_notewise` followed by `notewise_to_onsetwise` is the identity for every partition of the notes into
    non-empty onset groups (`unique_onset_idxs`) -/
theorem onsetwise_roundtrip (n : Nat) (gs : List (List Nat)) (w : List Rat) (hperm : gs.flatten.Perm (List.range n))
    (hne : ∀ g ∈ gs, g ≠ []) (hlen : w.length = gs.length) :
    ∃ v, toNotewise w gs = some v ∧ v.length = n ∧ toOnsetwise v gs = some w := by
  obtain ⟨v, h1, h2, h3⟩ := toNotewise_spec n gs w hperm hlen
  exact ⟨v, h1, h2, toOnsetwise_const v h3 hne⟩

example : toNotewise [2, 7, 9/2] [[0, 2], [1], [4, 3]] = some [2, 7, 2, 9/2, 9/2]
    ∧ toOnsetwise [2, 7, 2, 9/2, 9/2] [[0, 2], [1], [4, 3]] = some [2, 7, 9/2]
    ∧ toOnsetwise [1, 2, 3, 4, 5] [[0, 2], [1], [4, 3]] = some [2, 2, 9/2]
    ∧ toNotewise [2, 7] [[0, 2], [1], [4, 3]] = none ∧ toOnsetwise [1, 2] [[0, 2]] = none := by decide +kernel

/-- when the mean performed onsets are strictly increasing (and there are two knots) both time maps are defined
    everywhere and strictly increasing -/
theorem time_maps_monotone (ro : Bool) (rows : List TRow) (hy : IncY (timeKnots ro rows))
    (h2 : 2 ≤ (timeKnots ro rows).length) :
    (∀ s t, s < t → ∃ p q, stimeToPtime (timeKnots ro rows) s = some p ∧ stimeToPtime (timeKnots ro rows) t = some q ∧ p < q) ∧
    (∀ p q, p < q → ∃ s t, ptimeToStime (timeKnots ro rows) p = some s ∧ ptimeToStime (timeKnots ro rows) q = some t ∧ s < t) :=
  timeMaps_strictMono (timeKnots ro rows) (timeKnots_incX ro rows) hy h2

example : stimeToPtime (timeKnots true demoRows) (1/2) = some (21/16) ∧ stimeToPtime (timeKnots true demoRows) 2 = some 2 := by
  decide +kernel

/-- the code path of the velocity: `v / 127` is stored as a float32 (`x`, relative error at most 2⁻²⁴),
    `x * 127.0` is evaluated in float32 (`y`, relative error at most 2⁻²⁴), then rounded and clipped.
    Whatever the two roundings do within these bounds, the MIDI velocity comes back. -/
theorem velocity_roundtrip_float32 (v : Int) (h1 : 1 ≤ v) (h2 : v ≤ 127) (x y : Rat)
    (hx : |x - encodeVel v| ≤ encodeVel v / 16777216) (hy : |y - x * 127| ≤ |x * 127| / 16777216) :
    clipInt 1 127 (roundHalfEven y) = v := by
  apply clip_round_near v h1 h2
  have hv0 : (0 : Rat) ≤ v := by exact_mod_cast (by omega : 0 ≤ v)
  have hv2 : (v : Rat) ≤ 127 := by exact_mod_cast h2
  -- `x·127` lies within `v·2⁻²⁴` of `v`, so `|x·127| ≤ 128`, and `y` within `255·2⁻²⁴` of `v`
  have ha : |x * 127 - (v : Rat)| ≤ 127 / 16777216 := by
    have e : x * 127 - (v : Rat) = (x - encodeVel v) * 127 := by unfold encodeVel; ring
    rw [e, abs_mul, abs_of_pos (by norm_num : (0 : Rat) < 127)]
    calc |x - encodeVel v| * 127 ≤ encodeVel v / 16777216 * 127 := mul_le_mul_of_nonneg_right hx (by norm_num)
      _ = v / 16777216 := by unfold encodeVel; ring
      _ ≤ 127 / 16777216 := div_le_div_of_nonneg_right hv2 (by norm_num)
  have hb : |x * 127| ≤ 128 := by
    calc |x * 127| = |(x * 127 - v) + v| := by rw [sub_add_cancel]
      _ ≤ |x * 127 - v| + |(v : Rat)| := abs_add_le _ _
      _ ≤ 127 / 16777216 + 127 := add_le_add ha (by rwa [abs_of_nonneg hv0])
      _ ≤ 128 := by norm_num
  calc |y - (v : Rat)| ≤ |y - x * 127| + |x * 127 - v| := abs_sub_le _ _ _
    _ ≤ 128 / 16777216 + 127 / 16777216 := add_le_add (hy.trans (div_le_div_of_nonneg_right hb (by norm_num))) ha
    _ < 1 / 2 := by norm_num

/-- the float32 nearest to 100/127 and the float32 product with 127 -/
example : clipInt 1 127 (roundHalfEven (100 : Rat)) = 100 :=
  velocity_roundtrip_float32 100 (by decide) (by decide) (13210406 / 16777216) 100
    (by unfold encodeVel; rw [abs_le]; constructor <;> norm_num) (by rw [abs_le]; constructor <;> norm_num)

/-- a score that repeats an id the alignment does NOT name: the hypothesis of `performance_roundtrip_matched_ids`
    holds, the one of `performance_roundtrip` (all ids unique) does not -/
def dupScore : List SRow := [⟨"n0", 0, 60, 0, 1⟩, ⟨"x", 4, 62, 1, 1⟩, ⟨"x", 8, 64, 2, 1⟩, ⟨"n3", 12, 65, 3, 1⟩]
def dupPerf : List PRow := [⟨"p0", 1, 1/2, 70⟩, ⟨"p1", 3/2, 1/2, 60⟩, ⟨"p2", 2, 1/2, 50⟩]
def dupAl : List ARow := [⟨"match", some "n0", some "p0"⟩, ⟨"match", some "n3", some "p2"⟩]

example : (∀ a ∈ dupAl, a.label = "match" → ∀ s, a.sid = some s → (dupScore.map (·.id)).count s ≤ 1)
    ∧ ¬ (dupScore.map (·.id)).Nodup ∧ matchedNotes dupScore dupPerf dupAl ≠ [] := by decide +kernel

/-- … and the condition cannot be dropped: when a MATCHED id is repeated, the encoder reads the first row carrying it
    and the decoder the last, and the decoded onsets are not the performed ones up to a shift (performed 1 and 3/2,
    i.e. 0 and 1/2; decoded 0 and 1) -/
theorem duplicate_matched_id_breaks :
    let al : List ARow := [⟨"match", some "n0", some "p0"⟩, ⟨"match", some "x", some "p1"⟩]
    (encodePerformance .average .bp 0 dupScore dupPerf al).bind (fun pi =>
      decodePerformance .bp dupScore pi.2 (pi.1.map (viaLog (fun r => r) .bp)))
      = some [("n0", 0, 1/2, 70), ("x", 1, 1/2, 60)] := by decide +kernel

/-- `decode_performance(score, parameters, snote_ids)` for `snote_ids` in ANY order (not only the encoder's): the rows
    selected for the ids are sorted stably by (onset_div, pitch) TOGETHER WITH their parameter rows (`order`, `ps'`),
    decoded in that order, and the k-th decoded note is labelled with the k-th id of the GIVEN list.  So parameter row k
    always meets the score row of `snote_ids[k]`, but the label of a note is right only where the given order agrees
    with the sorted one (`decode_ids_in_order`: everywhere, for the encoder's `snote_ids`). -/
theorem decode_user_ids (n : Norm) (ss : List SRow) (ids : List String) (ps : List ParamRow)
    (info : List SRow) (hinfo : selectRows ss ids = some info) (hlen : info.length = ps.length) :
    ∃ (order : List (Nat × SRow)) (ps' : List ParamRow),
      order.Perm (enumFrom 0 info) ∧
      order.Pairwise (fun a b => lexLe (a.2.odiv, a.2.pitch) (b.2.odiv, b.2.pitch) = true) ∧
      getAll ps (order.map (·.1)) = some ps' ∧
      decodePerformance n ss ids ps =
        (decodeTime n (List.zipWith (fun (s : Nat × SRow) (p : ParamRow) => mkDRow s.2 p) order ps')).map fun od =>
          zipWith3 (fun id (x : Rat × Rat) (p : ParamRow) => (id, x.1, x.2, decodeVel p.vel)) ids od ps' := by
  obtain ⟨order, horder⟩ : ∃ order, isort (fun (a b : Nat × SRow) => lexLe (a.2.odiv, a.2.pitch) (b.2.odiv, b.2.pitch))
      (enumFrom 0 info) = order := ⟨_, rfl⟩
  have hperm : order.Perm (enumFrom 0 info) := by rw [← horder]; exact (isSort _).perm _
  have hsorted : order.Pairwise (fun a b => lexLe (a.2.odiv, a.2.pitch) (b.2.odiv, b.2.pitch) = true) := by
    rw [← horder]
    exact pairwise_isort_lexLe (fun a : Nat × SRow => (a.2.odiv, a.2.pitch)) _
  obtain ⟨ps', hps'⟩ : ∃ ps', getAll ps (order.map (·.1)) = some ps' := by
    unfold getAll
    apply allSome_isSome_of
    intro o ho
    obtain ⟨i, hi, rfl⟩ := List.mem_map.mp ho
    obtain ⟨p, hp, rfl⟩ := List.mem_map.mp hi
    have := (List.getElem?_eq_some_iff.mp ((mem_enumFrom_iff 0 info p.1 p.2).mp (hperm.mem_iff.mp hp)).2).1
    rw [List.getElem?_eq_getElem (by omega)]
    rfl
  refine ⟨order, ps', hperm, hsorted, hps', ?_⟩
  unfold decodePerformance
  rw [hinfo]
  simp only [hlen, ne_eq, not_true_eq_false, if_false, horder, hps']
  cases decodeTime n (List.zipWith (fun (s : Nat × SRow) (p : ParamRow) => mkDRow s.2 p) order ps') <;> rfl

/-- the ids of `demoScore` given last-first: the note labelled "n2" is the decoded "n1" (duration 1 = 1·2·1/2,
    velocity 64) and vice versa -/
example : decodePerformance .bp demoScore ["n2", "n1"] [⟨1/8, 2, [1/4], 1/127⟩, ⟨0, 1, [1/2], 64/127⟩]
      = some [("n2", 0, 1, 64), ("n1", 3/8, 1/2, 1)]
    ∧ decodePerformance .bp demoScore ["n1", "n2"] [⟨0, 1, [1/2], 64/127⟩, ⟨1/8, 2, [1/4], 1/127⟩]
      = some [("n1", 0, 1, 64), ("n2", 3/8, 1/2, 1)] := by decide +kernel

end C18
