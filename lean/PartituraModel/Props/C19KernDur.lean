/-
C19 — the duration arithmetic of the kern importer (`Model/KernDur.lean`: add_durations, dot_function,
`int(round(4 / value * divs_pq))`, the accumulation of positions in element_parsing), proved against the
denotational semantics `Model/Kern.lean` for every reciprocal, every number of dots, every divisions value and
every token list.  The code runs in binary64, the model in exact rationals: the harness compares the two token by
token (stream `kdur`), so what these theorems add is that the arithmetic AS WRITTEN is the semantics — any float
error must be absorbed by the rounding (which a floor or a ceil does not do).
-/
import PartituraModel.Model.KernDur
import PartituraModel.Proofs.Round
import PartituraModel.Props.C19

namespace C19KernDur
open Model Model.Kern Model.KernDur

theorem addDurations_pos {a b : Rat} (ha : 0 < a) (hb : 0 < b) : 0 < addDurations a b :=
  div_pos (mul_pos ha hb) (add_pos ha hb)

theorem dotFunction_pos {r : Rat} (hr : 0 < r) (d : Nat) : 0 < dotFunction r d := by
  induction d with
  | zero => simpa [dotFunction] using hr
  | succ d ih =>
    simp only [dotFunction, if_neg (ne_of_gt hr)]
    exact addDurations_pos (mul_pos (pow_pos (by norm_num) _) hr) ih

/-- `dot_function`: the number the importer stores for a value with `d` dots is the reciprocal of what the dots
    denote — 4 / dot_function(r, d) quarters = the value 4 / r with d augmentation dots; every r > 0, every d -/
theorem dot_function_denotes {r : Rat} (hr : 0 < r) (d : Nat) : 4 / dotFunction r d = dotted (4 / r) d := by
  induction d with
  | zero => simp [dotFunction, dotted]
  | succ d ih =>
    have hp := dotFunction_pos hr d
    have h2 : (0 : Rat) < 2 ^ (d + 1) := pow_pos (by norm_num) _
    have hA : (2 : Rat) ^ (d + 1) * r ≠ 0 := ne_of_gt (mul_pos h2 hr)
    have hsum : (2 : Rat) ^ (d + 1) * r + dotFunction r d ≠ 0 := ne_of_gt (add_pos (mul_pos h2 hr) hp)
    have key : 4 / addDurations ((2 : Rat) ^ (d + 1) * r) (dotFunction r d)
        = 4 / dotFunction r d + 4 / r / (2 : Rat) ^ (d + 1) := by
      unfold addDurations
      have hB := ne_of_gt hp
      have hr' := ne_of_gt hr
      have h2' := ne_of_gt h2
      field_simp
    simp only [dotFunction, if_neg (ne_of_gt hr), dotted, key, ih]

example : 4 / dotFunction 20 1 = 3 / 10 := by rw [dot_function_denotes (by norm_num)]; norm_num [dotted]

/-- what `_process_kern_duration` passes on denotes the written value: for a reciprocal `n` and for `a%b` with any dots
    (`0`, `00`, … are looked up by symbolic duration instead) -/
theorem recip_number_denotes (rc : Recip) (d : Nat) (v : Rat) (hv : value rc d = some v) (hz : ∀ k, rc ≠ .zeros k) :
    0 < recipNumber rc ∧ 4 / dotFunction (recipNumber rc) d = v := by
  cases rc with
  | zeros k => exact absurd rfl (hz k)
  | num n =>
    unfold value baseValue at hv
    by_cases hn : n = 0
    · simp [hn] at hv
    · simp only [if_neg hn, Option.map_some, Option.some.injEq] at hv
      have hpos : (0 : Rat) < (n : Rat) := by exact_mod_cast Nat.pos_of_ne_zero hn
      exact ⟨hpos, by rw [recipNumber, dot_function_denotes hpos, hv]⟩
  | frac a b =>
    unfold value baseValue at hv
    by_cases hab : a = 0 ∨ b = 0
    · simp [hab] at hv
    · simp only [if_neg hab, Option.map_some, Option.some.injEq] at hv
      have ha : (0 : Rat) < (a : Rat) := by exact_mod_cast Nat.pos_of_ne_zero (fun h => hab (Or.inl h))
      have hb : (0 : Rat) < (b : Rat) := by exact_mod_cast Nat.pos_of_ne_zero (fun h => hab (Or.inr h))
      have hpos : (0 : Rat) < (a : Rat) / (b : Rat) := div_pos ha hb
      refine ⟨hpos, ?_⟩
      rw [recipNumber, dot_function_denotes hpos, ← hv]
      congr 1
      have ha' := ne_of_gt ha
      have hb' := ne_of_gt hb
      field_simp

/-- `element_parsing`: whenever the divisions represent the written value exactly (v * divs whole), the importer's
    `int(round(4 / total * divs))` is exactly that whole number — no tick more or less, for every reciprocal and dots -/
theorem token_divs_exact (rc : Recip) (d divs : Nat) (v : Rat) (k : Int) (hv : value rc d = some v)
    (hz : ∀ k, rc ≠ .zeros k) (hk : v * (divs : Rat) = (k : Rat)) :
    tokenDivs rc d divs = some k := by
  obtain ⟨hpos, hden⟩ := recip_number_denotes rc d v hv hz
  have hne : dotFunction (recipNumber rc) d ≠ 0 := ne_of_gt (dotFunction_pos hpos d)
  simp only [tokenDivs, if_neg hne, durationDivs, hden, hk, Round.roundHalfEven_int]

/-- … and in exact arithmetic a floor gives the same number: `round` matters only because the code computes in floats
    (the float image of `20.` is 13.333333333333334 > 40/3, where a floor division loses a tick) -/
theorem token_divs_floor_exact (rc : Recip) (d divs : Nat) (v : Rat) (k : Int) (hv : value rc d = some v)
    (hz : ∀ k, rc ≠ .zeros k) (hk : v * (divs : Rat) = (k : Rat)) :
    (4 / dotFunction (recipNumber rc) d * (divs : Rat)).floor = k := by
  obtain ⟨_, hden⟩ := recip_number_denotes rc d v hv hz
  rw [hden, hk, Rat.floor_intCast]

example : tokenDivs (.num 20) 1 240 = some 72 :=
  token_divs_exact (.num 20) 1 240 (3 / 10) 72 (by rw [C19.kern_duration 20 (by decide)]; norm_num) (by intro k; simp) (by norm_num)

/-- start positions denoted by values `vs` from `pos` on -/
def prefixSums : Rat → List Rat → List Rat
  | _, [] => []
  | pos, v :: vs => pos :: prefixSums (pos + v) vs

/-- the accumulation of `element_parsing` over a whole spine: if the divisions represent every written value exactly, every
    token starts at (the sum of the values written before it) * divs and the spine ends at (the sum of all values) * divs —
    any token list, any start position -/
theorem spine_positions_exact (divs : Nat) (toks : List (Recip × Nat)) :
    ∀ (vs : List Rat) (pos : Int), spineValues toks = some vs →
      (∀ t ∈ toks, ∀ k, t.1 ≠ .zeros k) → (∀ v ∈ vs, ∃ k : Int, v * (divs : Rat) = (k : Rat)) →
      ∃ ps e, spinePositions divs pos toks = some (ps, e) ∧
        ps.map (fun p : Int => (p : Rat)) = prefixSums (pos : Rat) (vs.map (· * (divs : Rat))) ∧
        (e : Rat) = (pos : Rat) + vs.sum * (divs : Rat) := by
  induction toks with
  | nil =>
    intro vs pos hvs _ _
    simp only [spineValues, Option.some.injEq] at hvs
    subst hvs
    exact ⟨[], pos, rfl, rfl, by simp⟩
  | cons t rest ih =>
    intro vs pos hvs hz hw
    obtain ⟨rc, d⟩ := t
    simp only [spineValues] at hvs
    cases hval : value rc d with
    | none => simp [hval] at hvs
    | some v =>
      cases hrest : spineValues rest with
      | none => simp [hval, hrest] at hvs
      | some vr =>
        simp only [hval, hrest, Option.bind_some, Option.map_some, Option.some.injEq] at hvs
        subst hvs
        obtain ⟨k, hk⟩ := hw v (List.mem_cons_self ..)
        have htok := token_divs_exact rc d divs v k hval (hz (rc, d) (List.mem_cons_self ..)) hk
        obtain ⟨ps, e, hsp, hps, he⟩ := ih vr (pos + k) hrest
          (fun t ht => hz t (List.mem_cons_of_mem _ ht)) (fun w hw' => hw w (List.mem_cons_of_mem _ hw'))
        refine ⟨pos :: ps, e, ?_, ?_, ?_⟩
        · simp only [spinePositions, htok, Option.bind_some, hsp, Option.map_some]
        · simp only [List.map_cons, prefixSums, hps, List.cons.injEq, true_and]
          congr 1
          push_cast
          rw [hk]
        · rw [he, List.sum_cons]
          push_cast
          rw [← hk]
          ring

/-- the divisions `lcmDen` of the written values (and every multiple of it: load_kern takes the lcm over all spines and
    with 4) satisfy the hypothesis of `spine_positions_exact` -/
theorem lcm_divisions_whole (vs : List Rat) (c : Nat) :
    ∀ v ∈ vs, ∃ k : Int, v * ((c * lcmDen vs : Nat) : Rat) = (k : Rat) := by
  intro v hv
  obtain ⟨n, hn⟩ := (C19.divisions_exact vs).2 v hv
  refine ⟨n * c, ?_⟩
  push_cast
  rw [← hn]
  ring

example : ∃ ps e, spinePositions 240 0 [(.num 20, 1), (.num 40, 0), (.frac 5 4, 2)] = some (ps, e) ∧ e = 1440 :=
  ⟨[0, 72, 96], 1440, by decide +kernel, rfl⟩

end C19KernDur
