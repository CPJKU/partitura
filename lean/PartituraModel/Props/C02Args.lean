/-
C02 — the maps on arguments of every shape, exactly at change points and outside the knots.
-/
import PartituraModel.Props.C02
import PartituraModel.Proofs.C02Args

namespace C02
open Model.TimeMap C02Proofs

-- as in Props/C02.lean
attribute [local irreducible] KnotsOK

/-- **shape**: the result has the shape of the argument (0-d for a scalar, empty for an empty sequence) -/
theorem callMap_shape (f : Rat → Option Rat) (a : Nested Rat) : (callMap f a).skel = a.skel := by
  unfold callMap Nested.skel
  rw [nested_map_map]

/-- **values**: in C order the elements are the scalar map of the elements of the argument -/
theorem callMap_flat (f : Rat → Option Rat) (a : Nested Rat) : (callMap f a).flat = a.flat.map f :=
  nested_map_flat f a

/-- a scalar call is the map itself; a sequence is mapped item by item (recursively) -/
theorem callMap_cases (f : Rat → Option Rat) :
    (∀ x, callMap f (.leaf x) = .leaf (f x)) ∧
    (∀ xs, callMap f (.node xs) = .node (xs.map (callMap f))) := by
  refine ⟨fun x => by simp [callMap, Nested.map], fun xs => ?_⟩
  unfold callMap
  simp only [Nested.map]
  rw [nested_mapList_eq]

/-- the same for `quarter_duration_map` -/
theorem callQD_shape_flat (qd : List (Int × Nat)) (a : Nested Rat) :
    (callQD qd a).skel = a.skel ∧ (callQD qd a).flat = a.flat.map (qdMap qd) := by
  refine ⟨?_, nested_map_flat _ a⟩
  unfold callQD Nested.skel
  rw [nested_map_map]

example : (callMap (fwd exPart .notated) (.node [.node [.leaf 22, .leaf 23], .node [.leaf 24, .leaf 121]])).flat =
    [some 7, some (22/3), some (15/2), none] := by
  decide +kernel

example : (callMap (fwd exPart .notated) (.node [])).flat = [] ∧ (callMap (fwd exPart .notated) (.leaf 22)).flat = [some 7] := by
  decide +kernel

/-! ### the exact domain: NaN outside the key points, a number inside -/

theorem fwd_nan_outside (p : Part) (m : Mode) (h : WF p m) (t0 : Int)
    (hk : (keyTimes p m).head? = some t0) (x : Rat)
    (hx : x < (t0 : Rat) ∨ ((lastOf (keyTimes p m) : Int) : Rat) < x) : fwd p m x = none := by
  cases hv : fwd p m x with
  | none => rfl
  | some y =>
    have := (fwd_defined_iff p m h t0 hk x).mp ⟨y, hv⟩
    rcases hx with hx | hx
    · exact absurd this.1 (not_le.mpr hx)
    · exact absurd this.2 (not_le.mpr hx)

/-- **The inverse map is a number exactly on the image of the key-point range** `[fwd t0, fwd t_last]` -/
theorem inv_defined_iff (p : Part) (m : Mode) (h : WF p m) (t0 : Int)
    (hk : (keyTimes p m).head? = some t0) :
    ∃ y0 y1, fwd p m (t0 : Rat) = some y0 ∧ fwd p m ((lastOf (keyTimes p m) : Int) : Rat) = some y1 ∧
      ∀ y, (∃ x, inv p m y = some x) ↔ y0 ≤ y ∧ y ≤ y1 := by
  have hok := finalKnots_ok p m h
  have hs := knotsOK_swap _ hok
  have hf := interp_first _ hok
  have hl := interp_last _ hok
  rw [firstX_finalKnots p m t0 hk] at hf
  rw [endX_finalKnots] at hl
  refine ⟨firstY (finalKnots p m), endX (swap (finalKnots p m)), by rw [fwd_eq p m h]; exact hf,
    by rw [fwd_eq p m h]; exact hl, fun y => ?_⟩
  rw [inv_eq p m h]
  constructor
  · rintro ⟨x, hx⟩
    have := interp_range _ hs y x hx
    rw [firstX_swap] at this
    exact this
  · rintro ⟨h0, h1⟩
    exact interp_defined _ hs y (by rw [firstX_swap]; exact h0) h1

example : (keyTimes exPart .notated).head? = some 0 ∧ lastOf (keyTimes exPart .notated) = 120 ∧
    fwd exPart .notated 0 = some (-2) ∧ fwd exPart .notated (-1/2) = none ∧
    fwd exPart .notated (241/2) = none ∧ inv exPart .notated (-2) = some 0 ∧ inv exPart .notated (-3) = none := by
  decide +kernel

/-! ### quarter_duration_map at, before and after the change points -/

/-- **right-continuous at every change point**: exactly at a change time the NEW value is returned -/
theorem qdMap_at_change (qd : List (Int × Nat)) (hs : (qd.map (·.1)).Pairwise (· < ·)) (e : Int × Nat)
    (he : e ∈ qd) : qdMap qd (e.1 : Rat) = some e.2 := by
  obtain ⟨pre, post, hq⟩ := List.append_of_mem he
  refine qdMap_inforce qd pre post e _ hs hq (le_refl _) ?_
  subst hq
  exact fun x hx => Int.cast_lt.mpr ((Lists.pairwise_split (List.pairwise_map.mp hs)).2 x hx)

/-- and between two consecutive changes (and after the last one) the value stays that of the earlier -/
theorem qdMap_between (qd pre post : List (Int × Nat)) (e : Int × Nat) (t : Rat)
    (hs : (qd.map (·.1)).Pairwise (· < ·)) (hq : qd = pre ++ e :: post)
    (h1 : (e.1 : Rat) ≤ t) (h2 : ∀ e' ∈ post.head?, t < (e'.1 : Rat)) : qdMap qd t = some e.2 := by
  -- behind the cut the test `· ≤ t` fails throughout, not only at its head
  refine qdMap_inforce qd pre post e t hs hq h1 fun x hx => not_le.mp ?_
  exact (closed_cast hs t).tail_neg (pre := pre ++ [e]) (by rw [hq, List.append_assoc]; rfl)
    (fun b hb => not_le.mpr (h2 b hb)) x hx

/-- `quarter_duration_map` never returns NaN: before the first change the first value, after the last the last -/
theorem qdMap_total (qd : List (Int × Nat)) (hne : qd ≠ []) (t : Rat) : ∃ q, qdMap qd t = some q ∧ q ∈ qd.map (·.2) := by
  cases qd with
  | nil => exact absurd rfl hne
  | cons e rest =>
    refine ⟨_, rfl, ?_⟩
    rcases (prevValue_scan t).mem e.2 rest with h | ⟨a, ha, -, h⟩
    · rw [show prevValue e.2 rest t = e.2 from h]; exact List.mem_map_of_mem List.mem_cons_self
    · rw [show prevValue e.2 rest t = a.2 from h]; exact List.mem_map_of_mem (List.mem_cons_of_mem _ ha)

example : qdMap exPart.qd 10 = some 6 ∧ qdMap exPart.qd (19/2) = some 4 ∧ qdMap exPart.qd 77 = some 12 ∧
    (callQD exPart.qd (.node [.leaf 31, .node [.leaf 30]])).flat = [some 5, some 6] := by
  decide +kernel

end C02
