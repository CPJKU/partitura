/-
C07 — key signatures with FURTHER COMPONENTS in the list spelling of 0.3.0–0.5.0 (`[Bb Maj,G min/D Maj,F# min]`):
a list of any length of keys - each one of the 30 keys or one of the 900 double keys - is written and read
back as the same list.  What one written key is, and how lists of them are read (splitting at commas,
stripping, the 0.1.0 two-element special case not being taken): Proofs/C07Key.lean.
-/
import PartituraModel.Props.C07Codecs

namespace C07
open Model Model.Template Model.MatchCodec

/-- the 930 keys a component can be: 30 single keys and 900 double keys -/
def allKey1 : List Key1 :=
  allKeys.map (fun a => { fifths := a.1, mode := a.2, alt := none }) ++
    allKeys.flatMap fun a => allKeys.map fun b => { fifths := a.1, mode := a.2, alt := some b }

example : allKey1.length = 930 := by decide +kernel

/-- **every one of the 930 keys**: its 0.3.0 name is a written key (stripped, comma-free, not a mode word)
    that is read back as the same key -/
theorem key_texts_ok (k : Key1) (hk : k ∈ allKey1) :
    ∃ t, encKey1 .v030 k = some t ∧ parseKey1 t = some k ∧ C07Key.Written t := by
  simp only [allKey1, List.mem_append, List.mem_map, List.mem_flatMap] at hk
  rcases hk with ⟨a, ha, rfl⟩ | ⟨a, ha, b, hb, rfl⟩
  · exact key_text .v030 (.inr rfl) _ ha (by simp)
  · exact key_text .v030 (.inr rfl) _ ha (by simpa using hb)

/-- **key lists with further components**: a key signature whose main key and further components are any of
    the 930 keys is written in the list spelling `[K1,K2,…]` and read back as the same signature -/
theorem key_list_roundtrip (k : KeySig) (hm : k.main ∈ allKey1) (ho : ∀ o ∈ k.others, o ∈ allKey1) :
    ∃ text, encKey .v030list k = some text ∧ decKey text = some (some k) ∧
      decode .key text = .ok (.key k) := by
  obtain ⟨texts, g1, g2, g3⟩ := C07Key.mapM_texts (encKey1 .v030) (k.main :: k.others) (by
    intro x hx
    rcases List.mem_cons.mp hx with rfl | hx
    · exact key_texts_ok _ hm
    · exact key_texts_ok x (ho x hx))
  have hdec := C07Key.decKey_encList texts k.main k.others g2 g3
  exact ⟨encList texts, by simp only [encKey, g1, Option.map_some], hdec, by simp only [decode, hdec, liftO, Except.map]⟩

-- non-vacuity: three components, one of them a double key
example : encKey .v030list ⟨⟨-2, .major, none⟩, [⟨-2, .minor, some (2, .major)⟩, ⟨3, .minor, none⟩]⟩
      = some "[Bb Maj,G min/D Maj,F# min]".toList ∧
    decKey "[Bb Maj,G min/D Maj,F# min]".toList
      = some (some ⟨⟨-2, .major, none⟩, [⟨-2, .minor, some (2, .major)⟩, ⟨3, .minor, none⟩]⟩) := by
  -- the literal as a character list: see the remark at the first example of Props/C07.lean
  rw [String.toList_ofList]
  decide +kernel

end C07
