/-
C03 — pages and systems: what `_handle_print` (Model/XmlBar.lean `readPrints`) makes of any sequence of `<print>` elements,
in closed form.  `print_roundtrip` in Props/C03Bar.lean is about one element.
-/
import PartituraModel.Proofs.C03Prints

namespace C03
open Model Model.XmlBar C03.Prints

/-- **prints_read.**  For every sequence of `<print>` elements (each with the start of its measure and its two flags, in
    document order; any positions, repeated or not): the pages of the loaded part are exactly one page at 0 and one per
    `new-page` at a position other than 0; the systems one at 0, one per `new-page` and one per `new-system` at a position
    other than 0 (an element with both flags makes two systems there — the importer as it is); `stackFrom none` (latest
    first) numbers them 1, 2, 3 … in the order they were made, ends each where the next one starts and leaves the last one
    open. -/
theorem prints_read (ps : List (Nat × (Bool × Bool))) :
    readPrints ps = { pages := stackFrom none ((ps.flatMap pageNews).reverse ++ [0]),
                      systems := stackFrom none ((ps.flatMap systemNews).reverse ++ [0]) } := by
  unfold readPrints
  have h0 : newObj [] 0 = stackFrom none [0] := rfl
  rw [h0, foldl_stack]

/-- **pages_numbered.**  Read off the closed form: in the order they were made the pages carry the numbers 1 … n, start at 0
    and at the positions of the `new-page` elements, and each ends where its successor starts (the last one has no end). -/
theorem pages_numbered (ps : List (Nat × (Bool × Bool))) :
    ((readPrints ps).pages.map (·.number)).reverse = List.range' 1 ((ps.flatMap pageNews).length + 1) ∧
    ((readPrints ps).pages.map (·.start)).reverse = 0 :: ps.flatMap pageNews ∧
    ((readPrints ps).pages.map (·.stop)).reverse = (ps.flatMap pageNews).map some ++ [none] := by
  rw [prints_read]
  refine ⟨?_, ?_, ?_⟩
  · simp [stackFrom_numbers]
  · simp [stackFrom_starts]
  · simp only [stackFrom_stops]
    generalize ps.flatMap pageNews = l
    have h1 : (none :: (l.reverse ++ [0]).map some) = (none :: l.reverse.map some) ++ [some 0] := by simp
    have h2 : ((none :: l.reverse.map some) ++ [some 0]).take (l.reverse ++ [0]).length = none :: l.reverse.map some :=
      List.take_left' (by simp)
    rw [h1, h2]
    simp

/-- **systems_numbered.**  The same for systems. -/
theorem systems_numbered (ps : List (Nat × (Bool × Bool))) :
    ((readPrints ps).systems.map (·.number)).reverse = List.range' 1 ((ps.flatMap systemNews).length + 1) ∧
    ((readPrints ps).systems.map (·.start)).reverse = 0 :: ps.flatMap systemNews := by
  rw [prints_read]
  exact ⟨by simp [stackFrom_numbers], by simp [stackFrom_starts]⟩

/-- a part whose first measure says `new-page new-system` (ignored at 0), with a system break at 16 and a page break with
    system break at 32: two pages, and FOUR systems — two of them at 32 -/
example : readPrints [(0, true, true), (16, false, true), (32, true, true)] =
    { pages := [⟨2, 32, none⟩, ⟨1, 0, some 32⟩],
      systems := [⟨4, 32, none⟩, ⟨3, 32, some 32⟩, ⟨2, 16, some 32⟩, ⟨1, 0, some 16⟩] } := by decide +kernel

end C03
