/-
C20 — `Performance(...)` / `sanitize_track_numbers` (documented in-place; Model/ArgForms.lean): the renumbering of the
`track` entries reaches a fixed point after ONE pass, for every list of performed parts and all track entries (missing
keys, negative numbers, gaps).  Hence an export that wraps its argument in a `Performance` rewrites the caller's
dictionaries exactly when `sanitize pps ≠ pps`: never on tracks that are already 0..k−1.
-/
import PartituraModel.Proofs.C20Sanitize

namespace C20Perf
open Model.ArgForms C20San

/-- **one pass is enough**: renumbering the tracks of already renumbered parts changes nothing (so
    `Performance(perf.performedparts)`, or loading, wrapping and wrapping again, is harmless after the first time) -/
theorem sanitize_idempotent (pps : List PPart) : sanitize (sanitize pps) = sanitize pps :=
  sanitizeWith_idem Gen.C20.sanitizeDefault (by decide) pps

/-- after the pass the track ids are (part of the k-th id, k) for k = 0, 1, …: consecutive numbers from 0, ordered
    by part and then by old track; in particular the number of tracks is unchanged -/
theorem tracks_canonical_after (pps : List PPart) :
    trackIds Gen.C20.sanitizeDefault (sanitize pps) = relabel 0 (trackIds Gen.C20.sanitizeDefault pps) ∧
    numTracks (sanitize pps) = numTracks pps := by
  have h := trackIds_after Gen.C20.sanitizeDefault pps
  refine ⟨h, ?_⟩
  show (trackIds Gen.C20.numTracksDefault (sanitizeWith Gen.C20.sanitizeDefault pps)).length = _
  rw [show Gen.C20.numTracksDefault = Gen.C20.sanitizeDefault from rfl, h, relabel_length]
  rfl

/-- the constructor on an argument that a constructor has already normalised hands the same entries back: a second
    `Performance(...)` around the same parts is not observable -/
theorem ctor_twice (pps : List PPart) :
    perfCtor true (PerfArg.seq (sanitize pps)) = some (sanitize pps) := by
  simp [perfCtor, sanitize_idempotent]

/-- non-vacuity / the exposing inputs of C20-i: a part on track 1, and a part whose pedal has no `track` key, are NOT
    fixed points — a canonical part is -/
example :
    sanitize [{ notes := [some 1], controls := [some 1], programs := [], metas := [] }]
      ≠ [{ notes := [some 1], controls := [some 1], programs := [], metas := [] }] ∧
    sanitize [{ notes := [some 0], controls := [none], programs := [], metas := [] }]
      ≠ [{ notes := [some 0], controls := [none], programs := [], metas := [] }] ∧
    sanitize [{ notes := [some 0], controls := [some 0], programs := [], metas := [none] }]
      = [{ notes := [some 0], controls := [some 0], programs := [], metas := [none] }] := by decide +kernel

end C20Perf
