/-
C17 — binary64 `np.corrcoef` versus the exact correlation order.  The model decides the key by comparing exact
rational scores; the code takes `argmax` of 24 binary64 numbers.  The two agree whenever (a) each computed number is
within `ε` of the real correlation coefficient it stands for and (b) the best key leads the others by more than `2 ε`:
that is the theorem below, for every `ε`, every note list, every profile set.  (a) and (b) are CHECKED on every generated
case by the harness (stream `corrs`: the 24 numbers `_similarity_with_pitch_profile` returned against the model's exact
signed squares; the margin is computed exactly), so the agreement of the answers is a consequence, not a comparison.
-/
import PartituraModel.Props.C17

namespace C17
open Model Gen

/-- if the computed correlations `rhat` are `ε`-close to the real ones and key `m` leads by more than `2 ε`, then key `m` is
    the model's answer AND the strict maximum of the computed vector — so `np.argmax(rhat)` is `m`, whichever way ties in
    `rhat` would have been broken -/
theorem key_argmax_stable (ps : KeyEst.ProfileSet) (notes : List KeyEst.KNote) (m : Nat) (hm : m < 24)
    (hvar : 0 < KeyEst.cov12 (KeyEst.hist notes) (KeyEst.hist notes))
    (ε : ℝ) (rhat : Nat → ℝ)
    (hclose : ∀ i, i < 24 → |rhat i - corr ps (KeyEst.hist notes) i| ≤ ε)
    (hgap : ∀ i, i < 24 → i ≠ m → corr ps (KeyEst.hist notes) i + 2 * ε < corr ps (KeyEst.hist notes) m) :
    KeyEst.keyIndex ps notes = m ∧ KeyEst.estimateKey ps notes = KeyEst.keyNameAt m ∧
    ∀ i, i < 24 → i ≠ m → rhat i < rhat m := by
  have hε : 0 ≤ ε := le_trans (abs_nonneg _) (hclose m hm)
  have hidx : KeyEst.keyIndex ps notes = m := by
    apply key_is_unique_max ps notes m
    refine ⟨ne_of_gt hvar, hm, fun i hi hne => ?_⟩
    rw [key_order_is_correlation_order ps _ m i hm hi hvar]
    have := hgap i hi hne
    linarith
  refine ⟨hidx, by simp only [KeyEst.estimateKey, hidx], fun i hi hne => ?_⟩
  have h1 := abs_le.mp (hclose i hi)
  have h2 := abs_le.mp (hclose m hm)
  have := hgap i hi hne
  linarith

/-- the same for the whole ranking (`return_sorted_keys=True` sorts the computed numbers): any two keys whose real
    correlations differ by more than `2 ε` are ordered by the computed numbers as the model orders them — so when every
    pair is that far apart, `np.argsort(rhat)[::-1]` is the model's ranking -/
theorem key_order_stable (ps : KeyEst.ProfileSet) (h : Nat → Rat) (hvar : 0 < KeyEst.cov12 h h)
    (ε : ℝ) (rhat : Nat → ℝ) (hclose : ∀ i, i < 24 → |rhat i - corr ps h i| ≤ ε)
    (i j : Nat) (hi : i < 24) (hj : j < 24) (hgap : corr ps h j + 2 * ε < corr ps h i) :
    rhat j < rhat i ∧ KeyEst.better (KeyEst.keyScore ps h i) (KeyEst.keyScore ps h j) = true := by
  have hε : 0 ≤ ε := le_trans (abs_nonneg _) (hclose i hi)
  have h1 := abs_le.mp (hclose i hi)
  have h2 := abs_le.mp (hclose j hj)
  refine ⟨by linarith, ?_⟩
  rw [key_order_is_correlation_order ps h i j hi hj hvar]
  linarith

/-- the first maximum of a vector with a strict maximum at `m` is `m` (what `np.argmax` returns) -/
theorem argmax_of_strict_max (rhat : Nat → ℝ) (m : Nat) (hm : m < 24)
    (hmax : ∀ i, i < 24 → i ≠ m → rhat i < rhat m) (k : Nat) (hk : k < 24)
    (hfirst : ∀ i, i < 24 → rhat i ≤ rhat k) : k = m := by
  by_contra hne
  have := hmax k hk hne
  have := hfirst m hm
  linarith

/-- the hypotheses are satisfiable: `ε = 0` and the exact correlations themselves, for any input with a unique best key -/
example (ps : KeyEst.ProfileSet) (notes : List KeyEst.KNote) (m : Nat)
    (hvar : 0 < KeyEst.cov12 (KeyEst.hist notes) (KeyEst.hist notes)) (hu : UniqueMax ps notes m) :
    ∀ i, i < 24 → i ≠ m → corr ps (KeyEst.hist notes) i + 2 * (0 : ℝ) < corr ps (KeyEst.hist notes) m := by
  intro i hi hne
  have := (key_order_is_correlation_order ps _ m i hu.2.1 hi hvar).mp (hu.2.2 i hi hne)
  linarith

end C17
