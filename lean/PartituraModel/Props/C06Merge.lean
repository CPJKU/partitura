/-
C06 — notes and programs under track merging (mido `merge_tracks` on save and/or on load).

`q` is the exporter's conversion of seconds to ticks, `quant mpq ppq` round-half-even of 10^6·ppq·t/mpq.
-/
import PartituraModel.Props.C06
import PartituraModel.Proofs.C06Notes
import PartituraModel.Proofs.C06Defaults

namespace C06
open Model Model.PerfMidi C06Sort C06Adjust C06Pair C06Lists C06Export C06Ids C06Notes C06Stable C06Merged

/-- Notes survive the round trip under merging on either side.  Let, for every (channel, pitch) hash κ,
    `mergedKeyNotes q parts κ` be the notes of that channel and pitch of ALL tracks in the order their
    messages reach the merged stream before the sort by tick (track number, then part, then (note_on,
    note_off)).  The exact condition merging needs is `MergeOk` for every pair in that order: `a` written
    before `b` is released no later (in ticks) than `b` begins, or `b` is released on a tick strictly before
    the one where `a` begins — i.e. no two notes of equal (channel, pitch) across the merged tracks overlap,
    and two that meet on one tick are written in their order in time.  Then the loader sees ONE track and
    pairs, for every (channel, pitch), exactly these notes (pitch, velocity, channel, ticks `q note_on`,
    `q note_off`), in order of time. -/
theorem notes_kept_merged (q : Rat → Int) (hq : ∀ a b, a ≤ b → q a ≤ q b) (mpq : Nat) (ms ml : Bool)
    (parts : List PPart)
    (hm : ml = true ∨ (ms = true ∧ 1 < (usedTracks q parts).length))
    (hwf : ∀ p ∈ parts, ∀ n ∈ p.notes, n.on ≤ n.off ∧ 0 < n.vel)
    (hno : ∀ κ, (mergedKeyNotes q parts κ).Pairwise (MergeOk q)) :
    ∃ T, loaderTracks ml ((savedAbs q mpq ms parts).map toDelta) = [T] ∧
      ∀ κ, notesOf κ (pairNotes T) = (orderNotes q (mergedKeyNotes q parts κ)).map (toR q) := by
  obtain ⟨T, hT, hproj⟩ := merged_track q mpq ms ml parts hm
  refine ⟨T, hT, pairs_of_proj q hq T _ hproj (fun κ n hn => ?_) hno⟩
  obtain ⟨p, hp, hn⟩ := mem_mergedKeyNotes q parts κ n hn
  exact hwf p hp n hn

/-- … hence the notes the loader returns for the merged file (sorted for the ids) are, as a multiset, the
    notes of the whole performance on the tick grid -/
theorem notes_kept_merged_all (q : Rat → Int) (hq : ∀ a b, a ≤ b → q a ≤ q b) (mpq : Nat) (ms ml : Bool)
    (parts : List PPart)
    (hm : ml = true ∨ (ms = true ∧ 1 < (usedTracks q parts).length))
    (hwf : ∀ p ∈ parts, ∀ n ∈ p.notes, n.on ≤ n.off ∧ 0 < n.vel)
    (hno : ∀ κ, (mergedKeyNotes q parts κ).Pairwise (MergeOk q)) :
    ∃ T, loaderTracks ml ((savedAbs q mpq ms parts).map toDelta) = [T] ∧
      (sortNotes (pairNotes T)).Perm ((parts.flatMap (·.notes)).map (toR q)) := by
  obtain ⟨T, hT, hk⟩ := notes_kept_merged q hq mpq ms ml parts hm hwf hno
  refine ⟨T, hT, ((isSort _).perm _).trans ?_⟩
  refine perm_of_filter_key RNote.key _ _ ?_
  intro κ
  have h1 : (pairNotes T).filter (fun x => decide (RNote.key x = κ)) = notesOf κ (pairNotes T) := rfl
  rw [h1, hk κ, List.filter_map]
  refine List.Perm.map _ ?_
  exact (perm_orderNotes q _).trans (mergedKeyNotes_perm q parts κ)

/-- … and so does `loadFile` (what `load_performance_midi` builds its performed parts from): at most one
    part, read from file track 0, whose notes — in the order of their ids — are those of the performance -/
theorem load_merged_notes (q : Rat → Int) (hq : ∀ a b, a ≤ b → q a ≤ q b) (mpq : Nat) (ms ml : Bool)
    (parts : List PPart)
    (hm : ml = true ∨ (ms = true ∧ 1 < (usedTracks q parts).length))
    (hwf : ∀ p ∈ parts, ∀ n ∈ p.notes, n.on ≤ n.off ∧ 0 < n.vel)
    (hno : ∀ κ, (mergedKeyNotes q parts κ).Pairwise (MergeOk q)) :
    (loadFile ml ((savedAbs q mpq ms parts).map toDelta)).length ≤ 1 ∧
    ∀ rt ∈ loadFile ml ((savedAbs q mpq ms parts).map toDelta), rt.fileTrack = 0 ∧
      rt.notes.Perm ((parts.flatMap (·.notes)).map (toR q)) ∧
      rt.notes.Pairwise (fun a b => rnoteLe a b = true) := by
  obtain ⟨T, hT, hP⟩ := notes_kept_merged_all q hq mpq ms ml parts hm hwf hno
  have e : loadFile ml ((savedAbs q mpq ms parts).map toDelta) = [readTrack 0 T].filter RTrack.kept := by
    unfold loadFile
    rw [hT]
    rfl
  rw [e]
  constructor
  · exact le_trans (List.length_filter_le _ _) (le_refl _)
  · intro rt hrt
    have : rt = readTrack 0 T := by
      have := (List.mem_filter.mp hrt).1
      simpa using this
    subst this
    exact ⟨rfl, hP, (isSort rnoteLe).pairwise rnoteLe_order _⟩

/-- asking for a merge when the performance uses at most one track number changes nothing: the unmerged
    theorems (`notes_kept_tracks`, `…_kept_tracks`) then speak about that file as well -/
theorem merge_single_track (q : Rat → Int) (mpq : Nat) (parts : List PPart)
    (h : (usedTracks q parts).length ≤ 1) : savedAbs q mpq true parts = savedAbs q mpq false parts := by
  unfold savedAbs
  have : ¬ 1 < (exportAbs q mpq parts).length := by rw [length_exportAbs]; omega
  simp [this]

/-- The same condition, track by track, for the unmerged file: `notes_kept_tracks` under the weaker
    hypothesis in ticks (a note may be written after one that sounds later, if strictly apart in ticks —
    e.g. two parts sharing a track number) -/
theorem notes_kept_tracks_ticks (q : Rat → Int) (hq : ∀ a b, a ≤ b → q a ≤ q b) (mpq : Nat) (parts : List PPart)
    (hwf : ∀ p ∈ parts, ∀ n ∈ p.notes, n.on ≤ n.off ∧ 0 < n.vel)
    (hno : ∀ tr κ, (keyNotes parts tr κ).Pairwise (MergeOk q)) :
    List.Forall₂ (fun tr t => ∀ κ, notesOf κ (pairNotes t) = (orderNotes q (keyNotes parts tr κ)).map (toR q))
      (usedTracks q parts) (loaderTracks false ((savedAbs q mpq false parts).map toDelta)) :=
  notes_tracks q hq mpq parts hwf hno

/-- two notes strictly apart on the tick grid -/
def TickApart (q : Rat → Int) (a b : PNote) : Prop := q a.off < q b.on ∨ q b.off < q a.on

/-- The proviso of the property for one performed part saved or loaded with merging: notes of the same
    channel and pitch on the same track number do not overlap (in seconds, half-open), and those on
    DIFFERENT track numbers — which end up in one track only through the merge — are strictly apart on the
    tick grid.  Then the loaded notes are those of the part, on the tick grid (exporter's own rounding). -/
theorem notes_kept_part_merged (mpq ppq : Nat) (ms ml : Bool) (p : PPart)
    (hm : ml = true ∨ (ms = true ∧ 1 < (usedTracks (quant mpq ppq) [p]).length))
    (hwf : ∀ n ∈ p.notes, n.on ≤ n.off ∧ 0 < n.vel)
    (hap : p.notes.Pairwise (fun a b => noteHash a.ch a.pitch = noteHash b.ch b.pitch →
      (a.track = b.track → Apart a b) ∧ (a.track ≠ b.track → TickApart (quant mpq ppq) a b))) :
    ∃ T, loaderTracks ml ((savedAbs (quant mpq ppq) mpq ms [p]).map toDelta) = [T] ∧
      (sortNotes (pairNotes T)).Perm (p.notes.map (toR (quant mpq ppq))) := by
  have hq := quant_mono mpq ppq
  have hwf' : ∀ p' ∈ [p], ∀ n ∈ p'.notes, n.on ≤ n.off ∧ 0 < n.vel := List.forall_mem_singleton.mpr hwf
  have hno : ∀ κ, (mergedKeyNotes (quant mpq ppq) [p] κ).Pairwise (MergeOk (quant mpq ppq)) := by
    intro κ
    unfold mergedKeyNotes
    rw [List.pairwise_flatMap]
    constructor
    · intro tr _
      have h1 : p.notes.Pairwise (fun a b => a.track = b.track →
          noteHash a.ch a.pitch = noteHash b.ch b.pitch → Apart a b) :=
        hap.imp (fun h ht hk => (h hk).1 ht)
      exact (keyNotes_single p tr κ (fun n hn => (hwf n hn).1) h1).imp (fun h => Or.inl (hq _ _ h))
    · refine (strict_uniqueSorted _).imp ?_
      intro tr1 tr2 hlt x hx y hy
      obtain ⟨⟨_, hp1, hx1⟩, hx2, hx3⟩ := mem_keyNotes hx
      obtain ⟨⟨_, hp2, hy1⟩, hy2, hy3⟩ := mem_keyNotes hy
      rw [List.mem_singleton.mp hp1] at hx1
      rw [List.mem_singleton.mp hp2] at hy1
      have hne : x.track ≠ y.track := by omega
      have hxy : x ≠ y := fun h => hne (by rw [h])
      have hsym : ∀ a b : PNote, (noteHash a.ch a.pitch = noteHash b.ch b.pitch →
            (a.track = b.track → Apart a b) ∧ (a.track ≠ b.track → TickApart (quant mpq ppq) a b)) →
          (noteHash b.ch b.pitch = noteHash a.ch a.pitch →
            (b.track = a.track → Apart b a) ∧ (b.track ≠ a.track → TickApart (quant mpq ppq) b a)) := by
        intro a b h hk
        obtain ⟨h1, h2⟩ := h hk.symm
        exact ⟨fun ht => (h1 ht.symm).symm, fun ht => (h2 (fun e => ht e.symm)).symm⟩
      have hR := @List.Pairwise.forall _ _ _ ⟨hsym⟩ hap x hx1 y hy1 hxy
      rcases (hR (hx3.trans hy3.symm)).2 hne with h | h
      · exact Or.inl (le_of_lt h)
      · exact Or.inr h
  obtain ⟨T, hT, hP⟩ := notes_kept_merged_all (quant mpq ppq) hq mpq ms ml [p] hm hwf' hno
  refine ⟨T, hT, ?_⟩
  simpa using hP

/-- non-vacuity: one part on track numbers 0 and 3, the same channel and pitch on both (strictly apart on
    the grid, the later one on the lower track number), merged on load; a zero-length note; another pitch
    overlapping everything -/
example : let p : PPart := { metaOther := [], keySigs := [], timeSigs := [], controls := [],
                             notes := [⟨60, 70, 0, 0, 2, 3⟩, ⟨60, 64, 0, 3, 0, 1⟩, ⟨60, 1, 0, 3, 3/2, 3/2⟩,
                                       ⟨61, 5, 0, 0, 0, 4⟩],
                             programs := [] }
    (ml : Bool) → ml = true →
    (ml = true ∨ (false = true ∧ 1 < (usedTracks (quant 500000 480) [p]).length)) ∧
    p.notes.Pairwise (fun a b => noteHash a.ch a.pitch = noteHash b.ch b.pitch →
      (a.track = b.track → Apart a b) ∧ (a.track ≠ b.track → TickApart (quant 500000 480) a b)) ∧
    ((loaderTracks ml ((savedAbs (quant 500000 480) 500000 false [p]).map toDelta)).map
        (fun t => sortNotes (pairNotes t)))
      = [[⟨60, 0, 960, 64, 0⟩, ⟨61, 0, 3840, 5, 0⟩, ⟨60, 1440, 1440, 1, 0⟩, ⟨60, 1920, 2880, 70, 0⟩]] := by
  intro p ml hml
  subst hml
  refine ⟨Or.inl rfl, ?_, by decide +kernel⟩
  unfold Apart TickApart
  decide +kernel

/-- the condition is exact: two notes of one channel and pitch that merely TOUCH (in seconds: no overlap),
    the later one on the lower track number — `MergeOk` fails, and the merged file pairs the wrong messages
    (the second note-on reaches the merged track before the first note-off of the same tick) -/
example : let p : PPart := { metaOther := [], keySigs := [], timeSigs := [], controls := [],
                             notes := [⟨60, 70, 0, 0, 1, 2⟩, ⟨60, 64, 0, 1, 0, 1⟩], programs := [] }
    p.notes.Pairwise (fun a b => Apart a b) ∧
    ¬ (mergedKeyNotes (quant 500000 480) [p] (noteHash 0 60)).Pairwise (MergeOk (quant 500000 480)) ∧
    ((loaderTracks true ((savedAbs (quant 500000 480) 500000 false [p]).map toDelta)).map
        (fun t => sortNotes (pairNotes t))) = [[⟨60, 960, 960, 70, 0⟩]] := by
  refine ⟨by simp [Apart], by decide +kernel, by decide +kernel⟩

/-- Programs of the whole file, with or without merging on either side: what the loader reads is the
    multiset of programs of the performance plus default programs only — `program_change 0` on a channel
    that a part WITHOUT programs uses (in a note or a control) on that track -/
theorem programs_kept (q : Rat → Int) (mpq : Nat) (ms ml : Bool) (parts : List PPart) :
    ∃ d : List (Int × Nat × Nat),
      (∀ x ∈ d, ∃ tr ∈ usedTracks q parts, IsDefaultProg parts tr x) ∧
      ((loaderTracks ml ((savedAbs q mpq ms parts).map toDelta)).flatMap programsOf).Perm
        ((usedTracks q parts).flatMap (perfPrograms q parts) ++ d) := by
  refine ⟨_, fun x hx => ?_, funext programsOf_eq ▸ C06Defaults.progs_file q mpq ms ml parts⟩
  obtain ⟨tr, htr, h⟩ := List.mem_flatMap.mp hx
  exact ⟨tr, htr, C06Defaults.trackDefaults_isDefault q parts tr x h⟩

/-- a performance in which every part has a program: nothing is added -/
theorem programs_kept_exact (q : Rat → Int) (mpq : Nat) (ms ml : Bool) (parts : List PPart)
    (h : ∀ p ∈ parts, p.programs ≠ []) :
    ((loaderTracks ml ((savedAbs q mpq ms parts).map toDelta)).flatMap programsOf).Perm
      ((usedTracks q parts).flatMap (perfPrograms q parts)) := by
  obtain ⟨d, hd, hP⟩ := programs_kept q mpq ms ml parts
  have : d = [] := by
    cases d with
    | nil => rfl
    | cons x d =>
      obtain ⟨_, _, _, p, hp, hnil, _⟩ := hd x List.mem_cons_self
      exact absurd hnil (h p hp)
  rw [this, List.append_nil] at hP
  exact hP

/-- non-vacuity: two parts, the first without programs (channels 0 and 1 on track 0, channel 1 on track 2),
    the second with one; merged on save and on load -/
example : let p1 : PPart := { metaOther := [], keySigs := [], timeSigs := [],
                              controls := [⟨1/3, 64, 127, 1, 2⟩, ⟨0, 7, 100, 0, 0⟩],
                              notes := [⟨60, 64, 1, 0, 1/2, 1⟩], programs := [] }
          let p2 : PPart := { metaOther := [], keySigs := [], timeSigs := [], controls := [],
                              notes := [⟨62, 64, 5, 1, 1/4, 1⟩], programs := [⟨1, 40, 5, 1⟩] }
    (loaderTracks true ((savedAbs (quant 500000 480) 500000 true [p1, p2]).map toDelta)).flatMap programsOf
      = [(0, 0, 0), (0, 0, 1), (0, 0, 1), (960, 40, 5)] := by decide +kernel

end C06
