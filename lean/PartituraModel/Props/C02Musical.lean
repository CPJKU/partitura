/-
C02 — user-supplied musical beats.

`set_musical_beat_per_ts({...})` / `use_musical_beat({...})` store ANY value the user gives for
`"beats/beat_type"` (a divisor of the numerator or not, smaller or larger than the numerator); the
beat factor of the musical beat map on every stretch is then exactly
`beat_type/4 · musical_beats/beats`, with the signature in force spelled out.
-/
import PartituraModel.Props.C02
import PartituraModel.Proofs.C02Musical

namespace C02
open Model.TimeMap C02Proofs

/-- **a user value is stored as given** — whatever its relation to the numerator — and the musical beat
factor of that signature is exactly `beat_type/4 · v/beats`; a signature whose key is missing from the
table gets the default -/
theorem user_value_factor (tbl : List ((Nat × Nat) × Nat)) (s : TSig) :
    (∀ v, userMB tbl s.beats s.beatType = some v →
      (assignMB tbl s).mb = v ∧
      factorOf .musical (assignMB tbl s) = (s.beatType : Rat) / 4 * ((v : Rat) / (s.beats : Rat))) ∧
    (userMB tbl s.beats s.beatType = none →
      (assignMB tbl s).mb = defaultMB s.beats ∧
      factorOf .musical (assignMB tbl s) = (s.beatType : Rat) / 4 * ((defaultMB s.beats : Rat) / (s.beats : Rat))) := by
  constructor
  · intro v hv
    simp [assignMB, hv, factorOf]
  · intro hv
    simp [assignMB, hv, factorOf]

/-- the key looked up is exactly `"{beats}/{beat_type}"`: the FIRST entry of the table with that pair
(a dict has one), entries for other signatures do not matter -/
theorem userMB_spec (tbl : List ((Nat × Nat) × Nat)) (b bt : Nat) :
    (∀ v, userMB tbl b bt = some v → ((b, bt), v) ∈ tbl) ∧
    (userMB tbl b bt = none ↔ ∀ e ∈ tbl, e.1 ≠ (b, bt)) := by
  unfold userMB
  constructor
  · intro v hv
    cases hf : tbl.find? (fun e => e.1 = (b, bt)) with
    | none => rw [hf] at hv; cases hv
    | some e =>
      rw [hf] at hv
      simp only [Option.map_some, Option.some.injEq] at hv
      have h1 := List.mem_of_find?_eq_some hf
      have h2 := List.find?_some hf
      simp only [decide_eq_true_eq] at h2
      obtain ⟨e1, e2⟩ := e
      simp only at h2 hv
      subst h2; subst hv
      exact h1
  · simp only [Option.map_eq_none_iff, List.find?_eq_none, decide_eq_true_eq]

example : userMB [((6, 8), 5), ((5, 4), 11)] 5 4 = some 11 ∧ userMB [((6, 8), 5)] 5 4 = none := by decide

/-- after `set_musical_beat_per_ts(tbl)` every signature of the part (in the order `iter_all` yields them)
is one of the old signatures with its musical beats replaced by the table's value, or the default -/
theorem setMB_signatures (s : BeatState) (tbl : List ((Nat × Nat) × Nat)) (x : TSig)
    (hx : x ∈ sortTS (step s (.setMB tbl)).ts) :
    ∃ s0 ∈ s.ts, x = assignMB tbl s0 ∧ x.t = s0.t ∧ x.beats = s0.beats ∧ x.beatType = s0.beatType ∧
      x.mb = (userMB tbl s0.beats s0.beatType).getD (defaultMB s0.beats) := by
  rw [mem_sortTS] at hx
  simp only [step] at hx
  obtain ⟨s0, h0, rfl⟩ := List.mem_map.mp hx
  have := assignMB_spec tbl s0
  exact ⟨s0, h0, rfl, this.1, this.2.1, this.2.2.1, this.2.2.2⟩

/-- the same through `use_musical_beat(tbl)` with a non-empty table on a part in notated mode; the part is
then in musical mode, so `beat_map` uses these values -/
theorem useMusical_signatures (s : BeatState) (tbl : List ((Nat × Nat) × Nat)) (hn : s.musical = false)
    (hne : tbl ≠ []) :
    (step s (.useMusical tbl)).musical = true ∧
    ∀ x ∈ sortTS (step s (.useMusical tbl)).ts,
      ∃ s0 ∈ s.ts, x = assignMB tbl s0 ∧
        x.mb = (userMB tbl s0.beats s0.beatType).getD (defaultMB s0.beats) ∧
        factorOf .musical x = (s0.beatType : Rat) / 4 *
          ((((userMB tbl s0.beats s0.beatType).getD (defaultMB s0.beats) : Nat) : Rat) / (s0.beats : Rat)) := by
  have he : tbl.isEmpty = false := by
    cases tbl with
    | nil => exact absurd rfl hne
    | cons a t => rfl
  rw [useMusical_spec s tbl hn]
  simp only [he]
  refine ⟨by simp, ?_⟩
  intro x hx
  rw [mem_sortTS] at hx
  simp only [Bool.false_eq_true, if_false] at hx
  obtain ⟨s0, h0, rfl⟩ := List.mem_map.mp hx
  have := assignMB_spec tbl s0
  refine ⟨s0, h0, rfl, this.2.2.2, ?_⟩
  simp only [factorOf]
  rw [this.2.2.2, this.2.1, this.2.2.1]

example : (sortTS (step ⟨false, [⟨0, 6, 8, 2⟩, ⟨23, 5, 4, 5⟩]⟩ (.useMusical [((6, 8), 7), ((5, 4), 3)])).ts).map
    (fun x => (x.mb, factorOf .musical x)) = [(7, 7/3), (3, 3/5)] := by decide +kernel

/-- a table passed while the part is ALREADY in musical mode is ignored (the code only warns) -/
theorem useMusical_ignored (s : BeatState) (tbl : List ((Nat × Nat) × Nat)) (h : s.musical = true) :
    step s (.useMusical tbl) = s := by
  simp [step, h]

/-- the beat factor of a key point is that of the signature in force there: the latest signature starting at
or before it (of several starting together, the last one `iter_all` yields), or 1 before every signature -/
theorem keypoint_fac_signature (p : Part) (m : Mode) (hm : m ≠ .quarter) (k : KP) (hk : k ∈ keypoints p m) :
    (∃ s ∈ p.ts, s.t ≤ k.t ∧ (∀ s' ∈ p.ts, s'.t ≤ k.t → s'.t ≤ s.t) ∧ k.fac = factorOf m s) ∨
    ((∀ s' ∈ p.ts, k.t < s'.t) ∧ k.fac = 1) := by
  have h := keypoint_fac_inforce p m k hk
  rw [facAssign_eq m hm] at h
  exact inForce_map p.ts (·.t) (factorOf m) 1 k.t k.fac h

/-- the divisions of a key point are the quarter duration in force there: the latest entry of
`_quarter_times` at or before it (1 before every entry — never the case for a real part, whose first entry
is at time 0) -/
theorem keypoint_divs_entry (p : Part) (m : Mode) (k : KP) (hk : k ∈ keypoints p m) :
    (∃ e ∈ p.qd, e.1 ≤ k.t ∧ (∀ e' ∈ p.qd, e'.1 ≤ k.t → e'.1 ≤ e.1) ∧ k.divs = (e.2 : Rat)) ∨
    ((∀ e' ∈ p.qd, k.t < e'.1) ∧ k.divs = 1) :=
  inForce_map p.qd (·.1) (fun e => (e.2 : Rat)) 1 k.t k.divs (keypoint_divs_inforce p m k hk)

/-- exactness on a stretch of either beat map, with the signature in force spelled out -/
theorem beat_stretch_exact (p : Part) (m : Mode) (hm : m ≠ .quarter) (h : WF p m) (pre post : List KP) (k k' : KP)
    (hk : keypoints p m = pre ++ k :: k' :: post) (a b : Rat)
    (ha : (k.t : Rat) ≤ a) (hab : a ≤ b) (hb : b ≤ (k'.t : Rat)) :
    ∃ ya yb, fwd p m a = some ya ∧ fwd p m b = some yb ∧
      ((∃ s ∈ p.ts, s.t ≤ k.t ∧ (∀ s' ∈ p.ts, s'.t ≤ k.t → s'.t ≤ s.t) ∧
          yb - ya = (b - a) / k.divs * factorOf m s) ∨
       ((∀ s' ∈ p.ts, k.t < s'.t) ∧ yb - ya = (b - a) / k.divs)) := by
  obtain ⟨ya, yb, h1, h2, h3⟩ := stretch_exact p m h pre post k k' hk a b ha hab hb
  refine ⟨ya, yb, h1, h2, ?_⟩
  have hkm : k ∈ keypoints p m := by rw [hk]; simp
  rcases keypoint_fac_signature p m hm k hkm with ⟨s, hs, h4, h5, h6⟩ | ⟨h4, h5⟩
  · refine Or.inl ⟨s, hs, h4, h5, ?_⟩
    rw [h3, h6]
    ring
  · refine Or.inr ⟨h4, ?_⟩
    rw [h3, h5]
    ring

/-- **Musical beat map, exact on every stretch, for every table.**  Between two consecutive key points the
musical beat map advances by `d / q · beat_type/4 · musical_beats/beats`, `q` the divisions in force and
`beats/beat_type` the signature in force with whatever number of musical beats is stored on it (default or
user-supplied, dividing the numerator or not, larger than it or not); by `d / q` before every signature. -/
theorem musical_stretch_exact (p : Part) (h : WF p .musical) (pre post : List KP) (k k' : KP)
    (hk : keypoints p .musical = pre ++ k :: k' :: post) (a b : Rat)
    (ha : (k.t : Rat) ≤ a) (hab : a ≤ b) (hb : b ≤ (k'.t : Rat)) :
    ∃ ya yb, fwd p .musical a = some ya ∧ fwd p .musical b = some yb ∧
      ((∃ s ∈ p.ts, s.t ≤ k.t ∧ (∀ s' ∈ p.ts, s'.t ≤ k.t → s'.t ≤ s.t) ∧
          yb - ya = (b - a) / k.divs * ((s.beatType : Rat) / 4 * ((s.mb : Rat) / (s.beats : Rat)))) ∨
       ((∀ s' ∈ p.ts, k.t < s'.t) ∧ yb - ya = (b - a) / k.divs)) :=
  beat_stretch_exact p .musical (by decide) h pre post k k' hk a b ha hab hb

/-- the notated beat map: the same with factor `beat_type/4`, whatever musical beats are stored -/
theorem notated_stretch_exact (p : Part) (h : WF p .notated) (pre post : List KP) (k k' : KP)
    (hk : keypoints p .notated = pre ++ k :: k' :: post) (a b : Rat)
    (ha : (k.t : Rat) ≤ a) (hab : a ≤ b) (hb : b ≤ (k'.t : Rat)) :
    ∃ ya yb, fwd p .notated a = some ya ∧ fwd p .notated b = some yb ∧
      ((∃ s ∈ p.ts, s.t ≤ k.t ∧ (∀ s' ∈ p.ts, s'.t ≤ k.t → s'.t ≤ s.t) ∧
          yb - ya = (b - a) / k.divs * ((s.beatType : Rat) / 4)) ∨
       ((∀ s' ∈ p.ts, k.t < s'.t) ∧ yb - ya = (b - a) / k.divs)) :=
  beat_stretch_exact p .notated (by decide) h pre post k k' hk a b ha hab hb

/-- non-vacuity: 6/8 with 7 musical beats (more than the numerator, not a divisor), 5/4 with 3 -/
def exUser : Part :=
  { exPart with ts := [⟨0, 6, 8, 7⟩, ⟨23, 5, 4, 3⟩, ⟨64, 2, 2, 2⟩], musical := true }

example : WF exUser .musical ∧
    fwd exUser .musical 31 = some (421/45) ∧ fwd exUser .musical 41 = some (95/9) ∧
    (95/9 - 421/45 : Rat) = (41 - 31) / 5 * ((4 : Rat) / 4 * (3 / 5)) := by decide +kernel

end C02
