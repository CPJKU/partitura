/-
C08 — the durations of the loaded notes as the reader computes them in BINARY64 (Model/MatchFloat.lean), and the measure
numbers the writer puts in the file (counted by position, whatever `Measure.number` says).
-/
import PartituraModel.Proofs.C08Float
import PartituraModel.Props.C08
import PartituraModel.Props.C08Format

namespace C08
open Model Model.MatchTime Model.MatchFloat

/-- **durDivsF_exact.**  `D` times the duration in quarters is the integer `z` (what `divs_sufficient` gives for the
    reader's divisions) and the integer product `D·4·num` is below 2^53.  Then the reader's binary64 computation
    `int(D * 4 * num / (den * tup))` gives exactly `z`, and so does the exact model `durDivs`. -/
theorem durDivsF_exact (D : Nat) (f : Frac) (hden : 0 < f.den) (htup : 0 < f.tup) (z : Int)
    (hz : (D : Rat) * (4 * f.val) = z) (hsmall : D * 4 * f.num < 2 ^ 53) :
    durDivsF D f = z ∧ durDivs D f = z := by
  have hdt : 0 < f.den * f.tup := Nat.mul_pos hden htup
  have hdtR : ((f.den * f.tup : Nat) : Rat) ≠ 0 := by exact_mod_cast (Nat.pos_iff_ne_zero.mp hdt)
  -- the quotient the reader rounds is the whole number `z`
  have hq : ((D * 4 * f.num : Nat) : Rat) / ((f.den * f.tup : Nat) : Rat) = (z : Rat) := by
    rw [← hz]; unfold Frac.val; push_cast; ring
  have hznn : 0 ≤ z := by
    have : (0 : Rat) ≤ (z : Rat) := by
      rw [← hq]; exact div_nonneg (Nat.cast_nonneg _) (Nat.cast_nonneg _)
    exact_mod_cast this
  obtain ⟨k, rfl⟩ := Int.eq_ofNat_of_zero_le hznn
  -- and it is below 2^53, so binary64 holds it
  have hmul : D * 4 * f.num = k * (f.den * f.tup) := by
    rw [div_eq_iff hdtR] at hq
    exact_mod_cast hq
  have hk : k < 2 ^ 53 := lt_of_le_of_lt (hmul ▸ Nat.le_mul_of_pos_right k hdt) hsmall
  have htr : truncRat ((k : Nat) : Rat) = (k : Int) := C08P.truncRat_int (k : Int)
  constructor
  · unfold durDivsF
    rw [hq, Int.cast_natCast, C08F.fl_nat k hk]
    exact htr
  · unfold durDivs
    rw [mul_assoc, hz, Int.cast_natCast]
    exact htr

/-- **loaded_durations_exact.**  For EVERY list of snotes (positive denominators and tuple divisors) and the divisions
    the reader derives from them: the binary64 duration of every note is the exact one — no duration loses a division
    to floating point, as long as `divisions·4·numerator` stays below 2^53. -/
theorem loaded_durations_exact (ts : List TSLine) (maxTime : Rat) (ns : List SNote)
    (hpos : ∀ n ∈ ns, 0 < n.offset.den ∧ 0 < n.offset.tup ∧ 0 < n.dur.den ∧ 0 < n.dur.tup)
    (n : SNote) (hn : n ∈ ns) (hsmall : importDivs ts maxTime ns * 4 * n.dur.num < 2 ^ 53) :
    durDivsF (importDivs ts maxTime ns) n.dur = durDivs (importDivs ts maxTime ns) n.dur := by
  obtain ⟨_, ⟨z, hz⟩, _⟩ := divs_sufficient ts maxTime ns hpos n hn
  obtain ⟨_, _, h3, h4⟩ := hpos n hn
  obtain ⟨h1, h2⟩ := durDivsF_exact _ n.dur h3 h4 z hz hsmall
  rw [h1, h2]

/-- **two_roundings_lose_a_division.**  7/20 of a whole note (a quarter tied to two
    quintuplet sixteenths) read with 180 divisions per quarter is 252 divisions; multiplying `180·4` by the already
    rounded quotient `7/20` falls below 252 and truncation gives 251.  Likewise 17/7 at 21, 41/20 at 60, 49/24 at 120. -/
theorem two_roundings_lose_a_division :
    durDivsF 180 ⟨7, 20, 1⟩ = 252 ∧ durDivsViaQuotient 180 ⟨7, 20, 1⟩ = 251
    ∧ durDivsF 21 ⟨17, 7, 1⟩ = 204 ∧ durDivsViaQuotient 21 ⟨17, 7, 1⟩ = 203
    ∧ durDivsF 60 ⟨41, 20, 1⟩ = 492 ∧ durDivsViaQuotient 60 ⟨41, 20, 1⟩ = 491
    ∧ durDivsF 120 ⟨49, 24, 1⟩ = 980 ∧ durDivsViaQuotient 120 ⟨49, 24, 1⟩ = 979 := by
  decide +kernel

/-- non-vacuity of `durDivsF_exact`: a tuple divisor (a triplet eighth written 1/8/3... here 1/4/3 of a whole note)
    with 12 divisions per quarter: 4 divisions -/
example : durDivsF 12 ⟨1, 4, 3⟩ = 4 ∧ durDivs 12 ⟨1, 4, 3⟩ = 4 :=
  durDivsF_exact 12 ⟨1, 4, 3⟩ (by decide) (by decide) 4 (by norm_num [Frac.val]) (by norm_num)

/-- **components_sum.**  A duration written as a sum of components (`1/4+1/8`, components possibly with tuple
    divisors) becomes one tied note per component; when every component lies on the reader's division grid (which the
    reader's divisions guarantee: the denominator of the sum is the lcm of the components' denominators) the tied
    duration is exactly `D·4·(sum of the components)` divisions — nothing is lost to the truncation of each part. -/
theorem components_sum (D : Nat) (cs : List Frac)
    (h : ∀ c ∈ cs, ∃ z : Int, (D : Rat) * 4 * c.val = z) :
    (((cs.map (durDivs D)).sum : Int) : Rat) = (D : Rat) * 4 * (cs.map Frac.val).sum := by
  induction cs with
  | nil => simp
  | cons c rest ih =>
    obtain ⟨z, hz⟩ := h c (by simp)
    have hd : durDivs D c = z := by
      unfold durDivs; rw [hz]; exact C08P.truncRat_int z
    simp only [List.map_cons, List.sum_cons]
    push_cast
    rw [ih (fun c' hc' => h c' (by simp [hc'])), hd, ← hz]
    ring

/-- non-vacuity: a dotted quarter written 1/4+1/8 and a half note written 1/4/3+1/3 (a triplet quarter and two more),
    24 divisions per quarter -/
example : (([⟨1, 4, 1⟩, ⟨1, 8, 1⟩] : List Frac).map (durDivs 24)).sum = 36
    ∧ (([⟨1, 4, 3⟩, ⟨1, 3, 1⟩, ⟨1, 12, 1⟩] : List Frac).map (durDivs 24)).sum = 48 := by decide +kernel

/-- **measure_numbers_by_position.**  The measure number on the line of a note is the number of the FIRST written
    measure (0 with a pickup, else 1) plus the position of the note's measure among the measures — the score's own
    `Measure.number` is not part of the model because the exporter does not look at it. -/
theorem measure_numbers_by_position (sc : Score) (mi : Nat) (o d : Int) (st : STime)
    (h : sc.encode mi o d = some st) : st.measure = sc.firstMeasureNumber + mi :=
  let ⟨_, _, _, _, hn, _⟩ := encode_fields sc mi o d st h
  hn

/-- **measure_numbers_increasing.**  Notes of different measures are written with different measure numbers, in the
    order of the measures: a later measure never shares the number of an earlier one. -/
theorem measure_numbers_increasing (sc : Score) (mi mj : Nat) (hlt : mi < mj) (o d o' d' : Int) (a b : STime)
    (ha : sc.encode mi o d = some a) (hb : sc.encode mj o' d' = some b) : a.measure < b.measure := by
  rw [measure_numbers_by_position sc mi o d a ha, measure_numbers_by_position sc mj o' d' b hb]
  omega

/-- **bars_are_the_distinct_numbers.**  Whenever the reconstruction succeeds — for every list of snotes — the loaded
    score gets one bar per DISTINCT measure number that occurs on an snote line, in increasing order of the numbers:
    two snotes with the same measure number are in the same bar whatever measures of the score they came from. -/
theorem bars_are_the_distinct_numbers (raw : List SNote) (ts : List TSLine) (ks : List (Rat × Int)) (r : Recon)
    (h : reconstruct raw ts ks = some r) :
    (r.barlines.map (·.1)).Pairwise (· < ·)
    ∧ ∀ x, x ∈ r.barlines.map (·.1) ↔ ∃ n ∈ raw, n.measure = x := by
  obtain ⟨_, _, _, _, _, _, hbars⟩ := reconstruct_anatomy raw ts ks r h
  obtain ⟨hpw, hmem⟩ := C08C.barNames_spec (sortedNotes raw)
  have hb : r.barlines.map (·.1) = barNames (sortedNotes raw) := by rw [hbars, List.map_map]; exact List.map_id _
  rw [hb]
  refine ⟨hpw, fun x => (hmem x).trans ⟨?_, ?_⟩⟩
  · rintro ⟨p, hp, hpx⟩
    exact ⟨p.2, List.mem_of_getElem? (mem_sortedNotes.mp hp), hpx⟩
  · rintro ⟨n, hn, hnx⟩
    obtain ⟨i, hi⟩ := List.mem_iff_getElem?.mp hn
    exact ⟨(i, n), mem_sortedNotes.mpr hi, hnx⟩

/-- the emptyBarsB score of C08Format (4/4; bars [0,4) [4,7) [7,8) [8,12): the second bar split 3 + 1 by a double
    bar) with a stored quarter note at the start of every measure -/
def splitBar : Score := { divs := 1, ts := [⟨0, 4, 4⟩], ms := [⟨0, 4⟩, ⟨4, 7⟩, ⟨7, 8⟩, ⟨8, 12⟩] }

/-- the snotes of `splitBar` with the measure numbers replaced by `nums` (what a writer that copies `Measure.number`
    produces) -/
def renumbered (nums : List Int) : Option (List SNote) :=
  (splitBar.storedLines [(0, 1), (4, 1), (7, 1), (8, 1)]).map fun sts =>
    (sts.zip nums).map fun (st, k) => { STime.toSNote st with measure := k }

/-- **repeated_numbers_merge_bars.**  Written by position (1 2 3 4) the four measures of
    `splitBar` are read back as four bars starting 0, 4, 7, 8 quarters after the origin.  Written with the numbers an
    engraved score carries (1 2 2 3: both halves of the split bar under one number) only three bars come back — the
    bar line at 7 is gone. -/
theorem repeated_numbers_merge_bars :
    ((splitBar.roundTrip [(0, 1), (4, 1), (7, 1), (8, 1)] []).map fun r => r.barlines)
        = some [(1, 0), (2, 16), (3, 28), (4, 32)]
    ∧ (((renumbered [1, 2, 2, 3]).bind fun ns => reconstruct ns splitBar.readTS []).map fun r => r.barlines)
        = some [(1, 0), (2, 16), (3, 32)] := by
  decide +kernel

end C08
