/-
C02 — the interpolation stack as it is written (`Model/TimeMapScipy.lean`: the wrapper
`partitura.utils.generic.interp1d`, scipy's constructor with its stable sort, `np.interp` resp.
`_call_linear`, `_call_previousnext`, the bounds fill) against the recursive `interp` / `qdMap` all other
C02 theorems speak about.
-/
import PartituraModel.Props.C02History
import PartituraModel.Props.C02Args
import PartituraModel.Props.C02Calls
import PartituraModel.Proofs.C02Scipy

namespace C02
open Model.TimeMap C02Proofs

-- as in Props/C02.lean
attribute [local irreducible] KnotsOK

/-- **`np.argsort` in scipy's constructor leaves the knots of a well-formed part alone**, in both directions
(`interp1d(x, y)` sorts by time, `interp1d(y, x)` by map value — the map is strictly increasing) -/
theorem sort_identity_on_part_knots (p : Part) (m : Mode) (h : WF p m) :
    sortKnots (finalKnots p m) = finalKnots p m ∧
    sortKnots (swap (finalKnots p m)) = swap (finalKnots p m) :=
  ⟨sortKnots_knotsOK _ (finalKnots_ok p m h), sortKnots_knotsOK _ (knotsOK_swap _ (finalKnots_ok p m h))⟩

example : sortKnots [(3, 1), (0, 2), (2, 4), (0, 7)] = [(0, 2), (0, 7), (2, 4), (3, 1)] := by decide +kernel

/-- **Both linear code paths of scipy equal `interp` on every strictly increasing knot list**: numpy's
`np.interp` (segment `[x_j, x_j+1)`, ordinates copied at knots and at the last knot) and scipy's
`_call_linear` (`searchsorted` left, clip to `1..n-1`, segment `(x_j, x_j+1]`), each followed by the NaN fill
outside `[x_0, x_n]` — the value at a knot does not depend on which adjacent segment is used. -/
theorem linear_path_irrelevant (ks : List Knot) (hk : KnotsOK ks) (x : Rat) :
    genericInterp1d { npPath := true } ks x = interp ks x ∧
    genericInterp1d { npPath := false } ks x = interp ks x :=
  ⟨genericInterp1d_linear ks hk true x, genericInterp1d_linear ks hk false x⟩

/-- with fewer than two knots the wrapper is the constant function of the only ordinate -/
theorem generic_single_knot (o : Opts) (k : Knot) (x : Rat) : genericInterp1d o [k] x = some k.2 := rfl

example : genericInterp1d {} [(0, 0), (4, 2), (10, 3)] 4 = some 2 ∧
    genericInterp1d { npPath := false } [(0, 0), (4, 2), (10, 3)] 4 = some 2 ∧
    npBranch [(0, 0), (4, 2), (10, 3)] 4 = some (.knot 1) ∧ npBranch [(0, 0), (4, 2), (10, 3)] 10 = some (.lastKnot 2) ∧
    npBranch [(0, 0), (4, 2), (10, 3)] 7 = some (.slope 1) ∧
    genericInterp1d {} [(10, 3), (0, 0), (4, 2)] 7 = some (5/2) ∧ genericInterp1d {} [(0, 0), (4, 2), (10, 3)] 11 = none := by
  decide +kernel

/-- where the two paths DO differ: a repeated abscissa (never produced by a well-formed part) -/
example : genericInterp1d { npPath := true } [(0, 0), (1, 1), (1, 5), (2, 6)] 1 = some 5 ∧
    genericInterp1d { npPath := false } [(0, 0), (1, 1), (1, 5), (2, 6)] 1 = some 1 := by decide +kernel

/-! ### the pickup test as written: `actual_dur < normal_dur and not np.isclose(actual_dur, normal_dur)` -/

/-- the tolerance of the repaired pickup test (fix C02-3) does not bite: the first measure is not shorter than
a bar of its signature by less than `atol + rtol * bar` (decidable; for a first measure shorter than the bar the guard
is inactive exactly when it is shorter by more than `1e-8 + 1e-5 * bar`: `notNearBar_iff`) -/
def tolInactiveB (p : Part) (m : Mode) : Bool :=
  match p.m1 with
  | none => true
  | some m1 =>
    match actualDur (knots (keypoints p m) 0) m1 with
    | none => true
    | some a =>
      match p.ts.find? (fun s => s.t = m1.1) with
      | none => true
      | some s => !(decide (a < normalDur m s)) || notNearBar a (normalDur m s)

/-- **what the guard means**: with the tolerances read from the source / numpy (rtol 1e-5, atol 1e-8) a first
measure of length `a` shorter than the bar `n` is still a pickup iff it is shorter by more than `1e-8 + 1e-5 * n` -/
theorem notNearBar_iff (a n : Rat) (han : a < n) (hn : 0 ≤ n) :
    notNearBar a n = true ↔ 1 / 100000000 + 1 / 100000 * n < n - a := by
  unfold notNearBar Gen.C02.pickupTol isclose absQ
  have h1 : a - n < 0 := sub_neg.mpr han
  have h2 : ¬ n < 0 := not_lt.mpr hn
  simp only [h1, h2, if_true, if_false, Bool.not_eq_true', decide_eq_false_iff_not, not_le]
  rw [neg_sub]

theorem actualDurS_eq (ks : List Knot) (hk : KnotsOK ks) (m1 : Int × Int) : actualDurS ks m1 = actualDur ks m1 := by
  unfold actualDurS actualDur
  simp only [linearS_eq_interp _ hk]
  rfl

/-- the part whose recursive maps are the maps the code computes for `p`: `p` itself, or `p` without its first
measure where the tolerance guard of the pickup test (fix C02-3) bites -/
def effective (p : Part) (m : Mode) : Part := if tolInactiveB p m = true then p else { p with m1 := none }

theorem effective_wf (p : Part) (m : Mode) (h : WF p m) : WF (effective p m) m := by
  unfold effective
  split
  · exact h
  · exact h

theorem effective_same (p : Part) (m : Mode) :
    keypoints (effective p m) m = keypoints p m ∧ keyTimes (effective p m) m = keyTimes p m ∧
    (effective p m).first = p.first ∧ (effective p m).last = p.last ∧ (effective p m).npoints = p.npoints ∧
    (effective p m).qd = p.qd ∧ (effective p m).ts = p.ts := by
  unfold effective
  split <;> exact ⟨rfl, rfl, rfl, rfl, rfl, rfl, rfl⟩

theorem effective_of_inactive {p : Part} {m : Mode} (ht : tolInactiveB p m = true) : effective p m = p :=
  if_pos ht

/-- the pickup test as written subtracts what the exact test subtracts, or nothing where the guard bites -/
theorem pickupShiftS_eq_ite (p : Part) (m : Mode) (h : WF p m) :
    pickupShiftS p m (knots (keypoints p m) 0) =
      if tolInactiveB p m = true then pickupShift p m (knots (keypoints p m) 0) else 0 := by
  unfold pickupShiftS pickupShift tolInactiveB
  cases p.m1 with
  | none => rfl
  | some m1 =>
    simp only [actualDurS_eq _ (knots0_ok p m h)]
    cases actualDur (knots (keypoints p m) 0) m1 with
    | none => rfl
    | some a =>
      cases p.ts.find? (fun s => s.t = m1.1) with
      | none => rfl
      | some s =>
        by_cases hlt : a < normalDur m s <;> cases notNearBar a (normalDur m s) <;> simp [hlt]

theorem finalKnotsS_effective (p : Part) (m : Mode) (h : WF p m) :
    finalKnotsS p m = finalKnots (effective p m) m := by
  unfold finalKnotsS finalKnots effective
  simp only [pickupShiftS_eq_ite p m h]
  split <;> rfl

theorem fwdS_eq (p : Part) (m : Mode) (h : WF p m) (x : Rat) : fwdS p m x = linearS (finalKnotsS p m) x :=
  if_neg (by have := h.1; omega)

theorem invS_eq (p : Part) (m : Mode) (h : WF p m) (y : Rat) : invS p m y = linearS (swap (finalKnotsS p m)) y :=
  if_neg (by have := h.1; omega)

/-- **the forward map as written is the recursive forward map of the effective part** — no hypothesis about the
length of the first measure -/
theorem fwdS_eq_effective (p : Part) (m : Mode) (h : WF p m) (x : Rat) :
    fwdS p m x = fwd (effective p m) m x := by
  have hw := effective_wf p m h
  rw [fwd_eq _ m hw, fwdS_eq p m h, finalKnotsS_effective p m h, linearS_eq_interp _ (finalKnots_ok _ m hw)]

/-- and so is the inverse map -/
theorem invS_eq_effective (p : Part) (m : Mode) (h : WF p m) (y : Rat) :
    invS p m y = inv (effective p m) m y := by
  have hw := effective_wf p m h
  rw [inv_eq _ m hw, invS_eq p m h, finalKnotsS_effective p m h,
    linearS_eq_interp _ (knotsOK_swap _ (finalKnots_ok _ m hw))]

/-- **the maps as written are the recursive maps of a well-formed part with the same key points and the same extent**:
every theorem about `fwd` / `inv` that does not speak about the first measure holds for the code as written -/
theorem as_written (p : Part) (m : Mode) (h : WF p m) :
    ∃ p', WF p' m ∧ (∀ x, fwdS p m x = fwd p' m x) ∧ (∀ y, invS p m y = inv p' m y) ∧
      keypoints p' m = keypoints p m ∧ keyTimes p' m = keyTimes p m ∧ p'.first = p.first ∧ p'.last = p.last :=
  have hs := effective_same p m
  ⟨effective p m, effective_wf p m h, fwdS_eq_effective p m h, invS_eq_effective p m h, hs.1, hs.2.1, hs.2.2.1, hs.2.2.2.1⟩

/-- **`inv(fwd(x))` as the code computes it is `x`** at every position between the first and the last
time point (ends included) of every well-formed part -/
theorem roundTripS_on_timeline_all (p : Part) (m : Mode) (h : WF p m) (x : Rat)
    (h0 : (p.first : Rat) ≤ x) (h1 : x ≤ (p.last : Rat)) : roundTripS p m x = some x := by
  obtain ⟨p', hw, hf, hi, -, -, e0, e1⟩ := as_written p m h
  obtain ⟨y, hy, hiy⟩ := inv_fwd_on_timeline p' m hw x (by rw [e0]; exact h0) (by rw [e1]; exact h1)
  unfold roundTripS
  rw [hf, hy]
  exact (hi y).trans hiy

/-- **`_time_interpolator` on top of the real interpolation stack is the forward map of the theorems**
(the wrapper, the sort, `np.interp`, the interpolator `f` of the pickup test, the tolerance guard, the NaN fill) -/
theorem fwdS_eq_fwd (p : Part) (m : Mode) (h : WF p m) (ht : tolInactiveB p m = true) (x : Rat) :
    fwdS p m x = fwd p m x := by
  rw [fwdS_eq_effective p m h, effective_of_inactive ht]

/-- and so is the inverse map `interp1d(y, x)`, whose constructor sorts by `y` -/
theorem invS_eq_inv (p : Part) (m : Mode) (h : WF p m) (ht : tolInactiveB p m = true) (y : Rat) :
    invS p m y = inv p m y := by
  rw [invS_eq_effective p m h, effective_of_inactive ht]

/-- fewer than two time points: the two lambdas of the code, no interpolator at all -/
theorem fwdS_invS_degenerate (p : Part) (m : Mode) (h : p.npoints < 2) (x : Rat) :
    fwdS p m x = fwd p m x ∧ invS p m x = inv p m x := by
  unfold fwdS fwd invS inv
  simp [h]

/-- every part reachable through the API: the maps as written are the maps of the theorems -/
theorem built_maps_as_written (q0 : Nat) (hq : 0 < q0) (hs : List HOp) (hv : ∀ op ∈ hs, ValidOp op) (m : Mode)
    (ht : tolInactiveB (buildPart q0 hs) m = true) (x : Rat) :
    fwdS (buildPart q0 hs) m x = fwd (buildPart q0 hs) m x ∧
      invS (buildPart q0 hs) m x = inv (buildPart q0 hs) m x := by
  by_cases h2 : (buildPart q0 hs).npoints < 2
  · exact fwdS_invS_degenerate _ m h2 x
  · have hw := built_part_wf q0 hq hs hv m (by omega)
    exact ⟨fwdS_eq_fwd _ m hw ht x, invS_eq_inv _ m hw ht x⟩

example : tolInactiveB exPart .notated = true ∧ tolInactiveB exPart .quarter = true := by decide +kernel

/-- where the guard DOES bite: a first measure one division short of a 4/4 bar of 4 000 000 divisions is taken for a
full bar by the code (zero at the first time point), while the exact reading makes it a pickup (zero at its end) -/
def nearBar : Part :=
  { npoints := 3, first := 0, last := 8000000, qd := [(0, 1000000)], ts := [⟨0, 4, 4, 4⟩],
    m1 := some (0, 3999999), musical := false }

theorem tolerance_bites_at_huge_divisions :
    WF nearBar .quarter ∧ tolInactiveB nearBar .quarter = false ∧
    fwdS nearBar .quarter 0 = some 0 ∧ fwd nearBar .quarter 0 = some (-3999999 / 1000000) ∧
    fwd nearBar .quarter 3999999 = some 0 := by decide +kernel

example : fwdS exPart .notated 23 = some (22/3) ∧ invS exPart .notated (15/2) = some 24 ∧
    fwdS exPart .quarter 121 = none ∧ roundTripS exPart .notated 120 = some 120 ∧
    roundTripS exPart .notated 0 = some 0 := by decide +kernel

/-! ### key points: copied, not computed -/

/-- **At a key point `np.interp` copies the stored ordinate** (branch `dx[j] == x_val`, or `j == lenxp-1` at
the last key point): the forward map there IS the knot, also in binary64.  In the other direction the same
holds at every knot ordinate, so `inv(fwd(t))` is the stored time itself at every key point — in particular at
both ends of the image, where a value computed in any other way may fall outside by one ulp. -/
theorem np_copies_at_key_points (p : Part) (m : Mode) (h : WF p m) (pre post : List Knot) (k : Knot)
    (he : finalKnots p m = pre ++ k :: post) :
    npBranch (finalKnots p m) k.1 = some (if post = [] then .lastKnot pre.length else .knot pre.length) ∧
    (finalKnots p m)[pre.length]? = some k ∧
    npBranch (swap (finalKnots p m)) k.2 =
      some (if swap post = [] then .lastKnot (swap pre).length else .knot (swap pre).length) ∧
    (swap (finalKnots p m))[(swap pre).length]? = some (k.2, k.1) := by
  have hk := finalKnots_ok p m h
  have hs := knotsOK_swap _ hk
  have he' : swap (finalKnots p m) = swap pre ++ (k.2, k.1) :: swap post := by
    rw [he]; simp [swap]
  rw [he] at hk
  rw [he'] at hs
  have h1 := npBranch_at_knot pre post k hk
  have h2 := npBranch_at_knot (swap pre) (swap post) (k.2, k.1) hs
  rw [he', he]
  exact ⟨h1.1, h1.2, h2.1, h2.2⟩

/-- **The inverse map at the two ends of the image returns the first and the last key point, and is NaN
(`none`) outside the image** -/
theorem inv_at_ends (p : Part) (m : Mode) (h : WF p m) (t0 : Int) (hk : (keyTimes p m).head? = some t0) :
    ∃ y0 y1, fwd p m (t0 : Rat) = some y0 ∧ fwd p m ((lastOf (keyTimes p m) : Int) : Rat) = some y1 ∧
      inv p m y0 = some (t0 : Rat) ∧ inv p m y1 = some ((lastOf (keyTimes p m) : Int) : Rat) ∧
      ∀ y, (y < y0 ∨ y1 < y) → inv p m y = none := by
  obtain ⟨y0, y1, h0, h1, hiff⟩ := inv_defined_iff p m h t0 hk
  refine ⟨y0, y1, h0, h1, inv_fwd p m h _ _ h0, inv_fwd p m h _ _ h1, fun y hy => ?_⟩
  cases hv : inv p m y with
  | none => rfl
  | some x =>
    have := (hiff y).mp ⟨x, hv⟩
    exact hy.elim (fun hy => absurd this.1 (not_le.mpr hy)) fun hy => absurd this.2 (not_le.mpr hy)

theorem roundTripS_on_timeline (p : Part) (m : Mode) (h : WF p m) (ht : tolInactiveB p m = true) (x : Rat)
    (h0 : (p.first : Rat) ≤ x) (h1 : x ≤ (p.last : Rat)) : roundTripS p m x = some x :=
  roundTripS_on_timeline_all p m h x h0 h1

example : inv exPart .notated (-2) = some 0 ∧ fwd exPart .notated 120 = some (2203/120) ∧
    inv exPart .notated (2203/120) = some 120 ∧ inv exPart .notated (2203/120 + 1/1000) = none := by decide +kernel

/-! ### quarter_duration_map as written -/

/-- two or more stored changes: nothing is duplicated, the sort does nothing, and the call is scipy's `_evaluate` on
the stored knots with the first and the last duration as fill values -/
theorem qdMapS_two (t0 : Int) (q0 : Nat) (e : Int × Nat) (r : List (Int × Nat))
    (hs : (((t0, q0) :: e :: r).map (·.1)).Pairwise (· < ·)) :
    ∃ kl, lastKnot (qdKnots ((t0, q0) :: e :: r)) = some kl ∧
      (∀ t, qdMapS ((t0, q0) :: e :: r) t = scipyEvaluate
        { kind := .previous, fillBelow := some (q0 : Rat), fillAbove := some kl.2 } (qdKnots ((t0, q0) :: e :: r)) t) ∧
      (∀ a, qdMapSArg ((t0, q0) :: e :: r) a = scipyEvaluateArg
        { kind := .previous, fillBelow := some (q0 : Rat), fillAbove := some kl.2 } (qdKnots ((t0, q0) :: e :: r)) a) := by
  have hlen2 : 1 < (qdKnots ((t0, q0) :: e :: r)).length := by
    rw [qdKnots_length, List.length_cons, List.length_cons]; omega
  have hlen : ¬ (qdKnots ((t0, q0) :: e :: r)).length = 1 := hlen2.ne'
  have hp := (qdKnots_pairwise _ hs).imp le_of_lt
  obtain ⟨kl, hkl⟩ : ∃ kl, lastKnot (qdKnots ((t0, q0) :: e :: r)) = some kl :=
    ⟨_, (lastKnot_eq_getLast? _).trans (List.getLast?_eq_some_getLast (List.cons_ne_nil _ _))⟩
  have hhead : (qdKnots ((t0, q0) :: e :: r)).head? = some ((t0 : Rat), (q0 : Rat)) := rfl
  refine ⟨kl, hkl, fun t => ?_, fun a => ?_⟩
  · unfold qdMapS
    simp only [hlen, if_false, hhead, hkl]
    unfold genericInterp1d scipyInterp1d
    rw [if_pos hlen2, sortKnots_of_pairwise_le _ hp]
  · unfold qdMapSArg
    simp only [hlen, if_false, hhead, hkl]
    unfold genericInterp1dArg
    rw [if_pos hlen2, sortKnots_of_pairwise_le _ hp]

/-- **`Part.quarter_duration_map` as written** — a single entry duplicated (`x + x`, `y + y`), the wrapper,
scipy's sort, `_call_previousnext` on the shifted knots, the fill values `(y[0], y[-1])` — **is `qdMap`** for
every strictly increasing list of change times -/
theorem qdMapS_eq_qdMap (qd : List (Int × Nat)) (hs : (qd.map (·.1)).Pairwise (· < ·)) (t : Rat) :
    qdMapS qd t = Option.map (fun (n : Nat) => (n : Rat)) (qdMap qd t) := by
  cases qd with
  | nil => simp [qdMapS, qdKnots, qdMap]
  | cons d rest =>
    obtain ⟨t0, q0⟩ := d
    cases rest with
    | nil =>
      -- one entry: `x + x`, `y + y`
      have hk : qdKnots [(t0, q0)] = [((t0 : Rat), (q0 : Rat))] := rfl
      have hq : Option.map (fun (n : Nat) => (n : Rat)) (qdMap [(t0, q0)] t) = some (q0 : Rat) := rfl
      rw [hq]
      unfold qdMapS
      simp only [hk, List.length_singleton, if_true, List.singleton_append, List.head?_cons, lastKnot]
      unfold genericInterp1d scipyInterp1d
      rw [if_pos (by simp), sortKnots_pair]
      by_cases hb : t < (t0 : Rat)
      · unfold scipyEvaluate
        simp only [firstKnotX, lastKnot]
        rw [if_pos hb]
      · -- from the entry on: the cut lies behind the second copy
        exact scipyEvaluate_previous_cut [((t0 : Rat), (q0 : Rat))] [] ((t0 : Rat), (q0 : Rat)) t _
          (fun a ha => by rw [List.mem_singleton.mp ha]; exact not_lt.mp hb) (not_lt.mp hb)
          (fun _ h => absurd h List.not_mem_nil) _ rfl
    | cons e r =>
      obtain ⟨kl, hkl, hq, _⟩ := qdMapS_two t0 q0 e r hs
      rw [hq]
      by_cases hb : t < (t0 : Rat)
      · -- before the first change: the first value
        have hf : firstKnotX (qdKnots ((t0, q0) :: e :: r)) = some (t0 : Rat) := rfl
        unfold scipyEvaluate
        rw [hf, hkl]
        simp only [if_pos hb, qdMap, Option.map_some]
        rw [prevValue_before q0 t (e :: r) fun x hx =>
          hb.trans ((Int.cast_lt (R := Rat)).mpr ((List.pairwise_cons.mp hs).1 x.1 (List.mem_map_of_mem hx)))]
      · -- from the first change on: both sides are read off the cut of the list at `t`
        obtain ⟨pre, e', post, heq, hpre, he', hpost⟩ := exists_last_le t (t0, q0) (e :: r) hs (not_lt.mp hb)
        rw [qdMap_inforce _ pre post e' t hs heq he' hpost, Option.map_some]
        rw [heq, qdKnots_append_cons] at hkl ⊢
        exact scipyEvaluate_previous_cut (qdKnots pre) (qdKnots post) ((e'.1 : Rat), (e'.2 : Rat)) t _
          (List.forall_mem_map.mpr hpre) he' (List.forall_mem_map.mpr hpost) kl hkl

theorem built_qdMapS (q0 : Nat) (hq : 0 < q0) (hs : List HOp) (hv : ∀ op ∈ hs, ValidOp op) (t : Rat) :
    qdMapS (buildPart q0 hs).qd t = Option.map (fun (n : Nat) => (n : Rat)) (qdMap (buildPart q0 hs).qd t) :=
  qdMapS_eq_qdMap _ (built_qd q0 hq hs hv).2.1 t

example : qdMapS exPart.qd 30 = some 6 ∧ qdMapS exPart.qd 31 = some 5 ∧ qdMapS exPart.qd (-3) = some 4 ∧
    qdMapS [(0, 7)] 5 = some 7 ∧ qdMapS [(0, 7)] (-5) = some 7 ∧ qdMapS [(0, 7)] 0 = some 7 := by decide +kernel

/-! ### Part.quarter_durations(start, end) -/

/-- **the rows returned are exactly the stored changes with `start <= time < end`** (an omitted bound does
not restrict), in the stored order -/
theorem qdRange_mem (qd : List (Int × Nat)) (start stop : Option Rat) (e : Int × Nat) :
    e ∈ qdRange qd start stop ↔
      e ∈ qd ∧ (∀ s, start = some s → s ≤ (e.1 : Rat)) ∧ (∀ s, stop = some s → (e.1 : Rat) < s) := by
  unfold qdRange
  cases start <;> cases stop <;> (simp [List.mem_filter]; try tauto)

theorem qdRange_sublist (qd : List (Int × Nat)) (start stop : Option Rat) : (qdRange qd start stop).Sublist qd := by
  unfold qdRange
  cases start <;> cases stop <;> simp only
  · exact List.Sublist.refl _
  · exact List.filter_sublist
  · exact List.filter_sublist
  · exact List.Sublist.trans List.filter_sublist List.filter_sublist

theorem qdRange_all (qd : List (Int × Nat)) : qdRange qd none none = qd := rfl

/-- **every row carries the quarter duration in force at its time**: `quarter_duration_map(time) = duration` -/
theorem qdRange_values_in_force (qd : List (Int × Nat)) (hs : (qd.map (·.1)).Pairwise (· < ·))
    (start stop : Option Rat) (e : Int × Nat) (he : e ∈ qdRange qd start stop) :
    qdMap qd (e.1 : Rat) = some e.2 :=
  qdMap_at_change qd hs e ((qdRange_mem qd start stop e).mp he).1

/-- the times of the rows are strictly increasing -/
theorem qdRange_sorted (qd : List (Int × Nat)) (hs : (qd.map (·.1)).Pairwise (· < ·)) (start stop : Option Rat) :
    ((qdRange qd start stop).map (·.1)).Pairwise (· < ·) :=
  hs.sublist ((qdRange_sublist qd start stop).map _)

example : qdRange exPart.qd (some 10) (some 77) = [(10, 6), (31, 5)] ∧ qdRange exPart.qd none (some 10) = [(0, 4)] ∧
    qdRange exPart.qd (some (21/2)) none = [(31, 5), (77, 12)] := by decide +kernel

/-- **finite arguments**: the argument-typed functions are the maps above -/
theorem arg_num (p : Part) (m : Mode) (qd : List (Int × Nat)) (x : Rat) :
    fwdSArg p m (.num x) = fwdS p m x ∧ invSArg p m (.num x) = invS p m x ∧ qdMapSArg qd (.num x) = qdMapS qd x :=
  ⟨rfl, rfl, rfl⟩

/-- with two or more knots the linear interpolator gives NaN for NaN (its arithmetic) and for ±inf (its fill) -/
theorem linearSArg_nonfinite (ks : List Knot) (h : 1 < ks.length) :
    linearSArg ks .nan = none ∧ linearSArg ks .posInf = none ∧ linearSArg ks .negInf = none := by
  unfold linearSArg genericInterp1dArg
  simp only [if_pos h]
  exact ⟨rfl, rfl, rfl⟩

/-- **NaN and ±inf are mapped to NaN by the four maps** of every part with two or more time points (a part with
fewer returns its constant); `quarter_duration_map` returns the LAST duration for NaN and +inf and the first one
for -inf -/
theorem arg_nonfinite_all (p : Part) (m : Mode) (h : WF p m) :
    fwdSArg p m .nan = none ∧ fwdSArg p m .posInf = none ∧ fwdSArg p m .negInf = none ∧
    invSArg p m .nan = none ∧ invSArg p m .posInf = none ∧ invSArg p m .negInf = none := by
  have hk := finalKnots_ok _ m (effective_wf p m h)
  have hn : ¬ p.npoints < 2 := by have := h.1; omega
  have e1 := linearSArg_nonfinite _ (knotsOK_length _ hk)
  have e2 := linearSArg_nonfinite _ (knotsOK_length _ (knotsOK_swap _ hk))
  have hf : ∀ a, fwdSArg p m a = linearSArg (finalKnots (effective p m) m) a := fun a => by
    rw [← finalKnotsS_effective p m h]; exact if_neg hn
  have hi : ∀ a, invSArg p m a = linearSArg (swap (finalKnots (effective p m) m)) a := fun a => by
    rw [← finalKnotsS_effective p m h]; exact if_neg hn
  rw [hf, hf, hf, hi, hi, hi]
  exact ⟨e1.1, e1.2.1, e1.2.2, e2.1, e2.2.1, e2.2.2⟩

theorem arg_nonfinite (p : Part) (m : Mode) (h : WF p m) (ht : tolInactiveB p m = true) :
    fwdSArg p m .nan = none ∧ fwdSArg p m .posInf = none ∧ fwdSArg p m .negInf = none ∧
    invSArg p m .nan = none ∧ invSArg p m .posInf = none ∧ invSArg p m .negInf = none :=
  arg_nonfinite_all p m h

theorem qdMapSArg_nonfinite (t0 : Int) (q0 : Nat) (rest : List (Int × Nat))
    (hs : (((t0, q0) :: rest).map (·.1)).Pairwise (· < ·)) :
    qdMapSArg ((t0, q0) :: rest) .negInf = some (q0 : Rat) ∧
    qdMapSArg ((t0, q0) :: rest) .posInf = (lastKnot (qdKnots ((t0, q0) :: rest))).map (·.2) ∧
    qdMapSArg ((t0, q0) :: rest) .nan = (lastKnot (qdKnots ((t0, q0) :: rest))).map (·.2) := by
  cases rest with
  | nil =>
    refine ⟨rfl, rfl, ?_⟩
    show genericInterp1dArg _ [((t0 : Rat), (q0 : Rat)), ((t0 : Rat), (q0 : Rat))] .nan = _
    unfold genericInterp1dArg
    rw [if_pos (by simp), sortKnots_pair]
    rfl
  | cons e r =>
    obtain ⟨kl, hkl, _, ha⟩ := qdMapS_two t0 q0 e r hs
    rw [ha, ha, ha, hkl]
    refine ⟨rfl, rfl, ?_⟩
    simp only [scipyEvaluateArg, Option.map_some]
    have hc : clip (qdKnots ((t0, q0) :: e :: r)).length 1 (qdKnots ((t0, q0) :: e :: r)).length - 1
        = (qdKnots ((t0, q0) :: e :: r)).length - 1 := by unfold clip; omega
    rw [hc]
    rw [lastKnot_getElem? _ kl hkl]
    rfl

example : qdMapSArg exPart.qd .nan = some 12 ∧ qdMapSArg exPart.qd .posInf = some 12 ∧ qdMapSArg exPart.qd .negInf = some 4 ∧
    fwdSArg exPart .notated .nan = none ∧ invSArg exPart .quarter .posInf = none ∧
    genericInterp1dArg {} [(2, 7)] .nan = some 7 := by decide +kernel

/-! ### the statement, for the maps as they are written, of every part reachable through the API -/

/-- exactness, monotonicity, the round trip and the domain of the maps as written, for every reachable part with two
or more time points: the clauses that do not speak about the place of zero need no hypothesis on the first measure -/
theorem built_as_written (q0 : Nat) (hq : 0 < q0) (hs : List HOp) (hv : ∀ op ∈ hs, ValidOp op) (m : Mode)
    (h2 : 2 ≤ (buildPart q0 hs).npoints) :
    (∀ a b ya yb, a ≤ b → fwdS (buildPart q0 hs) m a = some ya → fwdS (buildPart q0 hs) m b = some yb →
        yb - ya = elapsed (keypoints (buildPart q0 hs) m) a b ∧ ya ≤ yb ∧ (a < b → ya < yb)) ∧
    (∀ x, ((buildPart q0 hs).first : Rat) ≤ x → x ≤ ((buildPart q0 hs).last : Rat) →
        roundTripS (buildPart q0 hs) m x = some x) ∧
    (∀ x, (∃ y, fwdS (buildPart q0 hs) m x = some y) ↔
        (0 : Rat) ≤ x ∧ x ≤ ((lastOf (keyTimes (buildPart q0 hs) m) : Int) : Rat)) := by
  have hw := built_part_wf q0 hq hs hv m h2
  obtain ⟨p', hw', hf, -, hkp, hkt, -, -⟩ := as_written _ m hw
  refine ⟨?_, fun x h0 h1 => roundTripS_on_timeline_all _ m hw x h0 h1, ?_⟩
  · intro a b ya yb hab ha hb
    rw [hf] at ha hb
    rw [← hkp]
    exact ⟨fwd_exact _ m hw' a b ya yb hab ha hb, fwd_mono _ m hw' a b ya yb hab ha hb,
      fun hlt => fwd_strictMono _ m hw' a b ya yb hlt ha hb⟩
  · intro x
    rw [hf, ← hkt]
    simpa using fwd_defined_iff _ m hw' 0 (by rw [hkt]; exact built_first_key_zero q0 hq hs hv m) x

/-- **C02 for the code as written.**  Take any part built through the API (`Part(quarter_duration=q0)`, then any
valid history of `set_quarter_duration` / `add` / musical-beat switches / queries) with two or more time points
whose first measure is not within rounding tolerance of a full bar.  Then for the maps as the code computes them
(wrapper, scipy's sort, `np.interp`, pickup guard, NaN fill):
1. between any two positions the map advances by exactly the sum over the stretches between key points of
   length × factor / quarter duration in force (`elapsed`), it is non-decreasing and strictly increasing;
2. `inv(fwd(x)) = x` at every position from the first to the last time point (ends included);
3. the map is a number exactly from time 0 to the last key point;
4. `quarter_duration_map` returns, at every time ≥ 0, the value of the last recorded call among those with the
   greatest time at or before it. -/
theorem property_as_written (q0 : Nat) (hq : 0 < q0) (hs : List HOp) (hv : ∀ op ∈ hs, ValidOp op) (m : Mode)
    (h2 : 2 ≤ (buildPart q0 hs).npoints) (ht : tolInactiveB (buildPart q0 hs) m = true) :
    (∀ a b ya yb, a ≤ b → fwdS (buildPart q0 hs) m a = some ya → fwdS (buildPart q0 hs) m b = some yb →
        yb - ya = elapsed (keypoints (buildPart q0 hs) m) a b ∧ ya ≤ yb ∧ (a < b → ya < yb)) ∧
    (∀ x, ((buildPart q0 hs).first : Rat) ≤ x → x ≤ ((buildPart q0 hs).last : Rat) →
        roundTripS (buildPart q0 hs) m x = some x) ∧
    (∀ x, (∃ y, fwdS (buildPart q0 hs) m x = some y) ↔
        (0 : Rat) ≤ x ∧ x ≤ ((lastOf (keyTimes (buildPart q0 hs) m) : Int) : Rat)) ∧
    (∀ x, 0 ≤ x → qdMapS (buildPart q0 hs).qd x =
        Option.map (fun (n : Nat) => (n : Rat)) (inForce (recorded q0 (qdCalls hs)) x)) := by
  obtain ⟨h3, h4, h5⟩ := built_as_written q0 hq hs hv m h2
  exact ⟨h3, h4, h5, fun x hx => by rw [built_qdMapS q0 hq hs hv, built_qd_represents q0 hs hv x hx]⟩

/-- non-vacuity: the hypotheses hold for the history of `C02History` (pickup of 4 divisions in 6/8 with 7 user
beats, three quarter durations, queries interleaved), and the maps as written give numbers there -/
example : 2 ≤ (buildPart 4 exHist).npoints ∧ tolInactiveB (buildPart 4 exHist) .musical = true ∧
    tolInactiveB (buildPart 4 exHist) .quarter = true ∧
    fwdS (buildPart 4 exHist) .musical 0 = some (-7/3) ∧ fwdS (buildPart 4 exHist) .musical 4 = some 0 ∧
    roundTripS (buildPart 4 exHist) .musical 60 = some 60 ∧ qdMapS (buildPart 4 exHist).qd 65 = some 6 := by
  decide +kernel

end C02
