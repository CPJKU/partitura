/-
C08 — bar starts and onsets survive writing and reading for time signatures of MIXED beat types
(any number of changes of beat count and beat type).  Property theorems over Model/MatchTime.lean.

The file holds the position of a time-signature change only as a beat time with four decimals.  The importer's
beats→quarters map therefore has its kinks up to 1/20000 beat away from the true ones; `knotErr` is exactly what
that costs.  The theorems give the importer's values EXACTLY (true value + rounding of the note's own beat time
+ `knotErr`) and conclude that the loaded positions in divisions are exact whenever
`divisions × (1/(5000·beat type) + |knotErr|) < 1/2`; `knotErr = 0` when the changes fall on beat times that four
decimals hold exactly (whole beats: every change at the start of a bar after complete bars), and
`|knotErr| ≤ (number of changes)/5000` always.
-/
import PartituraModel.Proofs.C08Mixed
import PartituraModel.Props.C08

namespace C08
open Model Model.MatchTime C08P C08M

/-- a score as the exporter accepts it: a positive divisions value below 2500 (so that beat times one division
    apart differ in the fourth decimal), time signatures at strictly increasing times, positive beat types -/
structure WrittenScore (sc : Score) : Prop where
  divs_pos : 0 < sc.divs
  divs_small : sc.divs < 2500
  sorted : sc.ts.Pairwise (fun a b => a.t < b.t)
  den_pos : ∀ s ∈ sc.ts, 0 < s.den

/-- non-vacuity: 3/4, then 6/8 from division 12, then 2/2 from division 24, 4 divisions per quarter,
    a pickup of one quarter -/
def exampleScore : Score :=
  { divs := 4, ts := [⟨0, 3, 4⟩, ⟨4, 6, 8⟩, ⟨16, 2, 2⟩], ms := [⟨0, 4⟩, ⟨4, 16⟩, ⟨16, 32⟩] }

example : WrittenScore exampleScore :=
  ⟨by decide, by decide, by decide, by decide⟩

theorem WrittenScore.written {sc : Score} (wf : WrittenScore sc) {s0 : TSig} {rest : List TSig}
    (hts : sc.ts = s0 :: rest) : Written sc.divs sc.beats s0 rest := by
  have hpw := PW_score sc wf.sorted
  have hsorted := wf.sorted
  have hden := wf.den_pos
  rw [hts] at hpw hsorted hden
  exact ⟨wf.divs_pos, hsorted, hpw, hden,
    orderKept_of_small_divs sc.divs wf.divs_pos wf.divs_small sc.beats rest s0 hsorted hpw hden⟩

theorem WrittenScore.den_at {sc : Score} (wf : WrittenScore sc) {o : Int} {sk : TSig} (hat : tsAt sc.ts o = some sk) :
    0 < sk.den := wf.den_pos sk (tsAt_mem _ _ _ hat)

theorem quarters_sub (sc : Score) (s0 : TSig) (rest : List TSig) (hts : sc.ts = s0 :: rest) (a b : Int) :
    sc.quarters a - ((a - b : Int) : Rat) / (sc.divs : Rat) = sc.quarters b := by
  unfold Score.quarters
  rw [hts]
  simp only
  push_cast
  ring

/-- **quarters_recovered.**  For every written score, every time `o` at or after the first time signature:
    the importer's beats→quarters map, built from the time-signature lines of the file and evaluated at the
    four-decimal beat time of `o`, is the true position of `o` in quarters plus the rounding of that beat
    time (at the slope `4/beat type` of the signature in force) plus `knotErr`. -/
theorem quarters_recovered (sc : Score) (wf : WrittenScore sc) (mnum : Int → Int)
    (s0 : TSig) (rest : List TSig) (hts : sc.ts = s0 :: rest) (o : Int) (ho : s0.t ≤ o)
    (sk : TSig) (hat : tsAt sc.ts o = some sk) :
    beatsToQuarters (sc.tsLines mnum) (dec4 (sc.beats o))
      = sc.quarters o + 4 * (dec4 (sc.beats o) - sc.beats o) / (sk.den : Rat) + knotErr sc.beats sc.ts o := by
  rw [hts] at hat
  rw [tsLines_eq, hts, (reader_at_written (wf.written hts) mnum ho hat).1]
  unfold Score.quarters
  rw [hts]

theorem quarters_error (sc : Score) (wf : WrittenScore sc) (mnum : Int → Int)
    (s0 : TSig) (rest : List TSig) (hts : sc.ts = s0 :: rest) (o : Int) (ho : s0.t ≤ o)
    (sk : TSig) (hat : tsAt sc.ts o = some sk) :
    |beatsToQuarters (sc.tsLines mnum) (dec4 (sc.beats o)) - sc.quarters o|
      ≤ 1 / (5000 * (sk.den : Rat)) + |knotErr sc.beats sc.ts o| := by
  rw [quarters_recovered sc wf mnum s0 rest hts o ho sk hat, add_assoc, add_sub_cancel_left]
  exact (abs_add_le _ _).trans (add_le_add (beat_rounding _ _ (wf.den_at hat)) (le_refl _))

/-- the beat type and the beat count the importer looks up at the written time of `o` are those of the signature in
    force at `o` (`hend`: `o` is written before the closing point of the importer's maps, or stands under the last
    signature) -/
theorem lookup_written (sc : Score) (wf : WrittenScore sc) (mnum : Int → Int)
    (s0 : TSig) (rest : List TSig) (hts : sc.ts = s0 :: rest) (o : Int) (ho : s0.t ≤ o)
    (sk : TSig) (hat : tsAt sc.ts o = some sk) (maxTime : Rat)
    (hend : dec4 (sc.beats o) < maxTime ∨ sc.ts.getLast? = some sk) :
    denAtBeats (sc.tsLines mnum) maxTime (dec4 (sc.beats o)) = sk.den
    ∧ numAtBeats (sc.tsLines mnum) maxTime (dec4 (sc.beats o)) = sk.num := by
  rw [hts] at hat hend
  rw [tsLines_eq, hts]
  exact (reader_at_written (wf.written hts) mnum ho hat).2 maxTime hend

/-- non-vacuity and a check of the statement on numbers: in `exampleScore` the note at division 20 (in the
    2/2 stretch, after two changes of beat type) is 4 quarters after beat 0, and the importer's map says so -/
example : beatsToQuarters (exampleScore.tsLines fun _ => 1) (dec4 (exampleScore.beats 20)) = 4
    ∧ exampleScore.quarters 20 = 4 ∧ knotErr exampleScore.beats exampleScore.ts 20 = 0 := by
  decide +kernel

/-- **bars_recovered.**  (All beat types.)  A bar starts at `ms`; its first
    stored note starts at `o ≥ ms` under the time signature `sk`, and is written as the exporter writes it (beat
    and offset counted in `sk`'s beat type from the bar line, beat time with four decimals).  Then the bar start
    the importer computes from that note is the true one, `sc.quarters ms`, plus the two rounding terms; it is
    within `1/(5000·beat type) + |knotErr|` of it; and with importer divisions `D` such that
    `D·(1/(5000·beat type) + |knotErr|) < 1/2` and the bar line on the division grid the loaded bar line is exact.
    `hend`: the note does not sit exactly at the end of the last stored note (`maxTime`), or it lies in the
    stretch of the last time signature (the importer's beat-type map carries an extra point there). -/
theorem bars_recovered (sc : Score) (wf : WrittenScore sc) (mnum : Int → Int)
    (s0 : TSig) (rest : List TSig) (hts : sc.ts = s0 :: rest) (ms o : Int) (ho : s0.t ≤ o)
    (sk : TSig) (hat : tsAt sc.ts o = some sk) (maxTime : Rat) (n : SNote)
    (hbeat : n.beat = encBeat sc.divs sk.den (o - ms) + 1)
    (hoff : n.offset = Frac.ofRat (encOffset sc.divs sk.den (o - ms)))
    (hon : n.onsetB = dec4 (sc.beats o))
    (hend : n.onsetB < maxTime ∨ sc.ts.getLast? = some sk) :
    barTime (sc.tsLines mnum) maxTime n
        = sc.quarters ms + 4 * (dec4 (sc.beats o) - sc.beats o) / (sk.den : Rat) + knotErr sc.beats sc.ts o
    ∧ |barTime (sc.tsLines mnum) maxTime n - sc.quarters ms|
        ≤ 1 / (5000 * (sk.den : Rat)) + |knotErr sc.beats sc.ts o|
    ∧ ∀ (D : Nat) (shiftQ : Rat) (z : Int),
        (D : Rat) * (1 / (5000 * (sk.den : Rat)) + |knotErr sc.beats sc.ts o|) < 1 / 2 →
        (D : Rat) * (sc.quarters ms - shiftQ) = (z : Rat) →
        roundHalfEven ((D : Rat) * (barTime (sc.tsLines mnum) maxTime n - shiftQ)) = z := by
  have hdenAt : denAtBeats (sc.tsLines mnum) maxTime n.onsetB = sk.den := by
    rw [hon]
    exact (lookup_written sc wf mnum s0 rest hts o ho sk hat maxTime (hon ▸ hend)).1
  have hbar : barTime (sc.tsLines mnum) maxTime n
      = sc.quarters ms + 4 * (dec4 (sc.beats o) - sc.beats o) / (sk.den : Rat) + knotErr sc.beats sc.ts o := by
    rw [barTime_enc sc.divs sk.den wf.divs_pos (wf.den_at hat) (o - ms) _ maxTime n hbeat hoff hdenAt, hon,
      quarters_recovered sc wf mnum s0 rest hts o ho sk hat, ← quarters_sub sc s0 rest hts o ms]
    ring
  have herr : |barTime (sc.tsLines mnum) maxTime n - sc.quarters ms|
      ≤ 1 / (5000 * (sk.den : Rat)) + |knotErr sc.beats sc.ts o| := by
    rw [hbar, add_assoc, add_sub_cancel_left]
    exact (abs_add_le _ _).trans (add_le_add (beat_rounding _ _ (wf.den_at hat)) (le_refl _))
  refine ⟨hbar, herr, ?_⟩
  intro D shiftQ z hD hz
  apply Round.round_mul_near D _ _ z hz
  rw [sub_sub_sub_cancel_right]
  exact lt_of_le_of_lt (mul_le_mul_of_nonneg_left herr (Nat.cast_nonneg D)) hD

/-- non-vacuity: in `exampleScore` the bar starting at division 16 (2/2), first stored note a quarter later -/
example : ∃ n : SNote, n.beat = encBeat 4 2 (20 - 16) + 1 ∧ n.offset = Frac.ofRat (encOffset 4 2 (20 - 16))
    ∧ n.onsetB = dec4 (exampleScore.beats 20) ∧ tsAt exampleScore.ts 20 = some ⟨16, 2, 2⟩
    ∧ exampleScore.ts.getLast? = some ⟨16, 2, 2⟩
    ∧ barTime (exampleScore.tsLines fun _ => 1) 12 n = exampleScore.quarters 16 :=
  ⟨{ measure := 2, beat := encBeat 4 2 (20 - 16) + 1, offset := Frac.ofRat (encOffset 4 2 (20 - 16)), dur := ⟨1, 4, 1⟩,
     comps := [], onsetB := dec4 (exampleScore.beats 20), offsetB := 0 }, rfl, rfl, rfl, by decide, by decide,
   by decide +kernel⟩

/-- the common case: every change of the time signature falls on a beat time that four decimals hold exactly
    (whole beats — a change at the start of a bar after complete bars).  Then the kinks cost nothing and the
    loaded bar line is exact for every importer divisions value below `2500 · beat type`. -/
theorem bars_recovered_exact_changes (sc : Score) (wf : WrittenScore sc) (mnum : Int → Int)
    (s0 : TSig) (rest : List TSig) (hts : sc.ts = s0 :: rest)
    (hexact : ∀ x ∈ rest, dec4 (sc.beats x.t) = sc.beats x.t)
    (ms o : Int) (ho : s0.t ≤ o)
    (sk : TSig) (hat : tsAt sc.ts o = some sk) (maxTime : Rat) (n : SNote)
    (hbeat : n.beat = encBeat sc.divs sk.den (o - ms) + 1)
    (hoff : n.offset = Frac.ofRat (encOffset sc.divs sk.den (o - ms)))
    (hon : n.onsetB = dec4 (sc.beats o))
    (hend : n.onsetB < maxTime ∨ sc.ts.getLast? = some sk)
    (D : Nat) (hD : (D : Rat) < 2500 * (sk.den : Rat)) (shiftQ : Rat) (z : Int)
    (hz : (D : Rat) * (sc.quarters ms - shiftQ) = (z : Rat)) :
    roundHalfEven ((D : Rat) * (barTime (sc.tsLines mnum) maxTime n - shiftQ)) = z := by
  have h := (bars_recovered sc wf mnum s0 rest hts ms o ho sk hat maxTime n hbeat hoff hon hend).2.2 D shiftQ z
  apply h _ hz
  have hk : knotErr sc.beats sc.ts o = 0 := by rw [hts]; exact knotErr_exact sc.beats rest s0 o hexact
  rw [hk, abs_zero, add_zero]
  have hd0 : (0 : Rat) < (sk.den : Rat) := by exact_mod_cast wf.den_at hat
  exact mul_lt_half _ _ hd0 hD

/-- the general bound: every change of the time signature costs at most 1/5000 quarter -/
theorem knotErr_le (sc : Score) (wf : WrittenScore sc) (s0 : TSig) (rest : List TSig) (hts : sc.ts = s0 :: rest)
    (o : Int) : |knotErr sc.beats sc.ts o| ≤ (rest.length : Rat) / 5000 := by
  have hden := wf.den_pos
  rw [hts] at hden ⊢
  exact knotErr_bound sc.beats rest s0 o hden

/-- the bar start the importer computes from the first stored note of a bar, counted from the importer's origin
    (`min(map(first note of the piece), 0)`), against the true distance of the bar line from the true origin: they differ by
    at most the rounding of the two beat times the importer's values are derived from and the two knot errors -/
theorem bar_origin_close (sc : Score) (wf : WrittenScore sc) (mnum : Int → Int)
    (s0 : TSig) (rest : List TSig) (hts : sc.ts = s0 :: rest)
    (of : Int) (hof : s0.t ≤ of) (sf : TSig) (hatf : tsAt sc.ts of = some sf)
    (ms o₁ : Int) (ho : s0.t ≤ o₁) (s₁ : TSig) (hat : tsAt sc.ts o₁ = some s₁) (maxTime : Rat) (n : SNote)
    (hbeat : n.beat = encBeat sc.divs s₁.den (o₁ - ms) + 1)
    (hoff : n.offset = Frac.ofRat (encOffset sc.divs s₁.den (o₁ - ms)))
    (hon : n.onsetB = dec4 (sc.beats o₁))
    (hend : n.onsetB < maxTime ∨ sc.ts.getLast? = some s₁) :
    |barTime (sc.tsLines mnum) maxTime n - min (beatsToQuarters (sc.tsLines mnum) (dec4 (sc.beats of))) 0
        - (sc.quarters ms - min (sc.quarters of) 0)|
      ≤ (1 / (5000 * (s₁.den : Rat)) + |knotErr sc.beats sc.ts o₁|)
        + (1 / (5000 * (sf.den : Rat)) + |knotErr sc.beats sc.ts of|) := by
  rw [sub_sub_sub_comm]
  exact (abs_sub _ _).trans (add_le_add
    (bars_recovered sc wf mnum s0 rest hts ms o₁ ho s₁ hat maxTime n hbeat hoff hon hend).2.1
    ((C08M.min_zero_lipschitz _ _).trans (quarters_error sc wf mnum s0 rest hts of hof sf hatf)))

/-- **onset_roundtrip.**  (All beat types.)  The first stored note of the
    piece starts at `of` (signature `sf`); a bar starts at `ms`, its first stored note at `o₁` (signature `s₁`);
    a stored note of that bar starts `rel` divisions after the bar line and is written with the beat type `den`
    of ITS signature.  The importer shifts all positions by `min(map(first note), 0)`.  If the importer's
    divisions `D` satisfy `D·(E₁ + E_f) < 1/2` with `E = 1/(5000·beat type) + |knotErr|` for the two notes the
    positions are derived from, and the true distance of the note from the loaded origin (the first stored note
    if it is not after beat 0, else beat 0) is on the division grid, then the loaded onset is exactly that
    distance in divisions. -/
theorem onset_roundtrip (sc : Score) (wf : WrittenScore sc) (mnum : Int → Int)
    (s0 : TSig) (rest : List TSig) (hts : sc.ts = s0 :: rest)
    (of : Int) (hof : s0.t ≤ of) (sf : TSig) (hatf : tsAt sc.ts of = some sf)
    (ms o₁ : Int) (ho : s0.t ≤ o₁) (s₁ : TSig) (hat : tsAt sc.ts o₁ = some s₁) (maxTime : Rat) (n : SNote)
    (hbeat : n.beat = encBeat sc.divs s₁.den (o₁ - ms) + 1)
    (hoff : n.offset = Frac.ofRat (encOffset sc.divs s₁.den (o₁ - ms)))
    (hon : n.onsetB = dec4 (sc.beats o₁))
    (hend : n.onsetB < maxTime ∨ sc.ts.getLast? = some s₁)
    (rel : Int) (den : Nat) (hden : 0 < den) (D : Nat)
    (hD : (D : Rat) * ((1 / (5000 * (s₁.den : Rat)) + |knotErr sc.beats sc.ts o₁|)
                      + (1 / (5000 * (sf.den : Rat)) + |knotErr sc.beats sc.ts of|)) < 1 / 2)
    (z : Int)
    (hgrid : (D : Rat) * (sc.quarters ms + (rel : Rat) / (sc.divs : Rat) - min (sc.quarters of) 0) = (z : Rat)) :
    roundHalfEven ((D : Rat) * notePos (barTime (sc.tsLines mnum) maxTime n) (encBeat sc.divs den rel + 1) den
        (Frac.ofRat (encOffset sc.divs den rel)).val
        (min (beatsToQuarters (sc.tsLines mnum) (dec4 (sc.beats of))) 0)) = z := by
  apply position_roundtrip D sc.divs den wf.divs_pos hden rel (barTime (sc.tsLines mnum) maxTime n)
    (min (beatsToQuarters (sc.tsLines mnum) (dec4 (sc.beats of))) 0) (sc.quarters ms) (min (sc.quarters of) 0) z hgrid
  exact lt_of_le_of_lt (mul_le_mul_of_nonneg_left
    (bar_origin_close sc wf mnum s0 rest hts of hof sf hatf ms o₁ ho s₁ hat maxTime n hbeat hoff hon hend)
    (Nat.cast_nonneg D)) hD

/-- non-vacuity: the theorem applied to `exampleScore` (3/4 pickup, 6/8, 2/2): first stored note the pickup at
    division 0; the 2/2 bar starts at division 16, its first stored note a quarter later; the note a half note
    into that bar, loaded with 8 divisions per quarter, sits 8·(3 + 8/4 − (−1)) = 48 divisions after the
    first note -/
example : roundHalfEven (((8 : Nat) : Rat) * notePos
      (barTime (exampleScore.tsLines fun _ => 1) 12
        { measure := 2, beat := encBeat 4 2 (20 - 16) + 1, offset := Frac.ofRat (encOffset 4 2 (20 - 16)),
          dur := ⟨1, 4, 1⟩, comps := [], onsetB := dec4 (exampleScore.beats 20), offsetB := 0 })
      (encBeat 4 2 8 + 1) 2 (Frac.ofRat (encOffset 4 2 8)).val
      (min (beatsToQuarters (exampleScore.tsLines fun _ => 1) (dec4 (exampleScore.beats 0))) 0)) = 48 := by
  have hk1 : knotErr exampleScore.beats exampleScore.ts 20 = 0 := by decide +kernel
  have hk0 : knotErr exampleScore.beats exampleScore.ts 0 = 0 := by decide +kernel
  have hq16 : exampleScore.quarters 16 = 3 := by decide +kernel
  have hq0 : exampleScore.quarters 0 = -1 := by decide +kernel
  apply onset_roundtrip exampleScore ⟨by decide, by decide, by decide, by decide⟩ (fun _ => 1) ⟨0, 3, 4⟩
    [⟨4, 6, 8⟩, ⟨16, 2, 2⟩] rfl 0 (by decide) ⟨0, 3, 4⟩ (by decide) 16 20 (by decide) ⟨16, 2, 2⟩ (by decide) 12 _
    rfl rfl rfl (Or.inr (by decide)) 8 2 (by decide) 8 ?_ 48 ?_
  · rw [hk1, hk0]; norm_num
  · rw [hq16, hq0, min_eq_left (by norm_num : (-1 : Rat) ≤ 0)]
    show ((8 : Nat) : Rat) * (3 + ((8 : Int) : Rat) / ((4 : Nat) : Rat) - -1) = ((48 : Int) : Rat)
    norm_num

end C08
