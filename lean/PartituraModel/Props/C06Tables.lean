/-
C06 — the literal data of the source the model relies on, regenerated from the live source on every run by
harness/translate_c06.py (Gen/C06Tables.lean): keyword defaults of the saver and the loaders, the keyword
`midi_to_notearray` forces, `note_hash` on its whole domain.  Editing any of them in the source re-elaborates these
theorems.
-/
import PartituraModel.Gen.C06Tables
import PartituraModel.Model.PerfObject
import PartituraModel.Props.C06

namespace C06
open Model Model.PerfMidi C06Export

/-- the translator could read everything it looks for -/
theorem tables_extracted : Gen.C06_EXTRACTION_OK = true ∧ Gen.C06_EXTRACTION_NOTES = [] := by decide

/-- **`note_hash`**: the live function is `channel * a + pitch * b` on all 16 × 128 (channel, pitch) pairs and
    injective there (checked by the translator on the whole domain), and the model's `noteHash` is that function -/
theorem note_hash_generated :
    Gen.C06_HASH_LINEAR = true ∧ Gen.C06_HASH_INJECTIVE = true ∧
    ∀ ch p, noteHash ch p = ch * Gen.C06_HASH_CH + p * Gen.C06_HASH_PITCH := by
  refine ⟨by decide, by decide, ?_⟩
  intro ch p
  simp [noteHash, Gen.C06_HASH_CH, Gen.C06_HASH_PITCH]

/-- equal hash = equal channel and pitch, for every MIDI pitch (and ANY channel number): the theorems of C06 that
    speak about notes "of one hash" speak about notes of one channel and pitch -/
theorem note_hash_injective (ch p ch' p' : Nat) (hp : p < 128) (hp' : p' < 128)
    (h : noteHash ch p = noteHash ch' p') : ch = ch' ∧ p = p' := by
  unfold noteHash at h
  omega

/-- `midi_to_notearray` is the MERGED load (the keyword it forces, read from its source) -/
theorem notearray_is_merged_load (f : MidiObj) :
    Gen.C06_NTA_MERGE = true ∧
    noteArrayOf f = (match loadFile true f.tracks with
      | [] => none
      | ts => some (ts.flatMap fun t => t.notes.map fun n => (n.on, n.pitch, n.vel, n.ch))) := ⟨rfl, rfl⟩

/-- the keyword defaults are usable values: every theorem that asks for `0 < mpq`, `0 < ppq` applies to a call that
    leaves the options out -/
theorem defaults_valid : 0 < Gen.C06_SAVE_MPQ ∧ 0 < Gen.C06_SAVE_PPQ ∧ 0 < Gen.C06_LOAD_MPQ ∧ 0 < Gen.C06_LP_MPQ ∧
    Gen.C06_LOAD_MERGE = Gen.C06_LP_MERGE ∧ Gen.C06_LOAD_MPQ = Gen.C06_LP_MPQ ∧ Gen.C06_LP_FNZ = false := by decide

/-- **Every option left out** — `save_performance_midi(perf, out)` then `load_performance_midi(out)`: the loader's
    tempo list is its default followed by the exporter's default tempo at tick 0, and every time t ≥ 0 comes back on
    the tick grid, at most half a tick away.  No side condition other than the performance using some track. -/
theorem default_call_roundtrip (parts : List PPart)
    (hne : usedTracks (quant Gen.C06_SAVE_MPQ Gen.C06_SAVE_PPQ) parts ≠ []) (t : Rat) (ht : 0 ≤ t) :
    let o := SaveOpts.defaults false
    let file := (savedAbs (quant o.mpq o.ppq) o.mpq o.merge parts).map toDelta
    tempoList Gen.C06_LOAD_MPQ (loaderTracks Gen.C06_LOAD_MERGE file) = [(0, Gen.C06_LOAD_MPQ), (0, o.mpq)] ∧
    secondsAt Gen.C06_LOAD_MPQ (loaderTracks Gen.C06_LOAD_MERGE file) o.ppq (secToTick t o.mpq o.ppq)
      = tickToSec (secToTick t o.mpq o.ppq) o.mpq o.ppq ∧
    |tickToSec (secToTick t o.mpq o.ppq) o.mpq o.ppq - t| ≤ (o.mpq : Rat) / (2 * 1000000 * o.ppq) :=
  export_import_t Gen.C06_SAVE_MPQ Gen.C06_SAVE_PPQ Gen.C06_LOAD_MPQ defaults_valid.1 defaults_valid.2.1
    Gen.C06_SAVE_MERGE Gen.C06_LOAD_MERGE parts hne t ht

/-- the default uses of the histories are ordinary uses -/
theorem default_uses (p : Bool) :
    Use.loadDefault p = .load p Gen.C06_LOAD_MPQ Gen.C06_LOAD_MERGE ∧
    Use.loadPerfDefault p = .loadPerf p Gen.C06_LP_MPQ Gen.C06_LP_MERGE Gen.C06_LP_FNZ := ⟨rfl, rfl⟩

/-- the sort keys read from the live source (`ast`) are the keys of the model: the loaded notes are put
    in order, and numbered, by (note_on, midi_pitch, note_off, channel, track) — `secLe` / `KeyLe`, the track
    being the same within a part — AFTER `adjust_time` has assigned the final seconds (fixes/C06-8: `loadFileS`
    sorts by the final seconds); the saver writes the notes by (note_on, note_off) — `noteLe` -/
theorem sort_keys_generated :
    Gen.C06_SORT_KEY = ["note_on", "midi_pitch", "note_off", "channel", "track"] ∧
    Gen.C06_SORT_AFTER_ADJUST = true ∧ Gen.C06_WRITE_KEY = ["note_on", "note_off"] := by decide

end C06
