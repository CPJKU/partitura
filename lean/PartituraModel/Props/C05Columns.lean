/-
C05 — "every column equals what the score states": FALSY-BUT-VALID values, and the metrical columns of a
score-level table.

A voice 0, a staff 0, an alteration 0, an octave 0, an empty id are VALUES the score states; only `None` is "missing".
The model's row (`finalRow`, Proofs/C05Rows.lean) distinguishes the two, and these theorems say so for every table
`rows` returns.  (The seeded `note.voice or -1` reads voice 0 as missing: refuted by `example` below.)
-/
import PartituraModel.Props.C05

namespace C05
open NoteArray List

/-- The row of note `n`: a stated voice other than the marker -1 is kept as it is — 0 included —, a stated staff is
    kept (0 included), a stated alteration is kept (0 included), octave, step and id are the note's; only `None`
    is replaced (voice: largest voice + 1, staff: 0, alteration: 0). -/
theorem stated_values_are_kept (M : Maps) (dv : Int) (n : Note) (d pch m : Int) :
    let r := finalRow M dv n d pch m
    (∀ v, n.voice = some v → v ≠ -1 → r.voice = v) ∧
    (n.voice = none → r.voice = m + 1) ∧
    (∀ s, n.staff = some s → r.staff = s) ∧ (n.staff = none → r.staff = 0) ∧
    (∀ a, n.alter = some a → r.alter = a) ∧ (n.alter = none → r.alter = 0) ∧
    r.octave = n.octave ∧ r.step = n.step ∧ r.id = n.id := by
  intro r
  refine ⟨?_, ?_, ?_, ?_, ?_, ?_, rfl, rfl, rfl⟩
  · intro v hv hne
    show (if rawVoice n = -1 then m + 1 else rawVoice n) = v
    have : rawVoice n = v := by unfold rawVoice; rw [hv]
    rw [this, if_neg hne]
  · intro hv
    show (if rawVoice n = -1 then m + 1 else rawVoice n) = m + 1
    have : rawVoice n = -1 := by unfold rawVoice; rw [hv]
    rw [this, if_pos rfl]
  · intro s hs
    show (match n.staff with | some s => s | none => 0) = s
    rw [hs]
  · intro hs
    show (match n.staff with | some s => s | none => 0) = 0
    rw [hs]
  · intro a ha
    show alterOr0 n = a
    unfold alterOr0; rw [ha]
  · intro ha
    show alterOr0 n = 0
    unfold alterOr0; rw [ha]

/-- ... for every row of every table `rows` returns: the row belongs to a sounding note of the part whose stated
    voice / staff / alteration / octave / step / id it carries; a note WITH a voice never gets the replacement. -/
theorem table_states_the_score (p : Part) (o : Opts) (out : List Row) (h : rows p o = some out) :
    ∀ r ∈ out, ∃ n ∈ notesTied p.notes, ∃ m,
      maxList ((notesTied p.notes).map rawVoice) = some m ∧
      r.id = n.id ∧ r.octave = n.octave ∧ r.step = n.step ∧
      (∀ v, n.voice = some v → v ≠ -1 → r.voice = v) ∧ (n.voice = none → r.voice = m + 1) ∧
      (∀ s, n.staff = some s → r.staff = s) ∧ (n.staff = none → r.staff = 0) ∧
      (∀ a, n.alter = some a → r.alter = a) ∧ (n.alter = none → r.alter = 0) := by
  intro r hr
  obtain ⟨n, hn, dv, d, pch, m, _, _, _, hm, rfl⟩ := row_values p o out h r hr
  obtain ⟨h1, h2, h3, h4, h5, h6, h7, h8, h9⟩ := stated_values_are_kept p.maps dv n d pch m
  exact ⟨n, hn, m, hm, h9, h7, h8, h1, h2, h3, h4, h5, h6⟩

/-- the voices in a table with a voice 0: the replacement for a missing voice is larger than every stated voice, so
    it is never 0 when a voice 0 (or any non-negative voice) is stated -/
theorem replacement_is_not_a_stated_voice (l : List Note) (m : Int)
    (h : maxList (l.map rawVoice) = some m) : ∀ n ∈ l, ∀ v, n.voice = some v → v ≠ m + 1 := by
  intro n hn v hv
  have := missing_voice_above l m h n hn
  have hr : rawVoice n = v := by unfold rawVoice; rw [hv]
  omega

/-- `note_array_from_part_list` rescales onset_div, duration_div and divs_pq of every part to the
    common divisions and leaves the metrical columns as they are: `rel_onset_div` and `tot_measure_div` of a row of the
    merged table are in the divisions of the row's OWN part — `divs_pq / multiplier`. -/
theorem merged_metrical_columns_in_part_divisions (k : Int) (r : Row) :
    let s := scaleRow k r
    s.onsetDiv = r.onsetDiv * k ∧ s.durDiv = r.durDiv * k ∧ s.divsPq = r.divsPq * k ∧
    s.relOnset = r.relOnset ∧ s.totMeasure = r.totMeasure ∧ s.isDownbeat = r.isDownbeat ∧
    s.onsetBeat = r.onsetBeat ∧ s.onsetQuarter = r.onsetQuarter ∧ s.key = r.key := by
  intro s
  exact ⟨rfl, rfl, rfl, rfl, rfl, rfl, rfl, rfl, rfl⟩

section Examples

/-- two voices numbered from 0 and a note without voice: voice 0 stays 0, the missing voice becomes 2 -/
def exZero : List Note :=
  [ { id := "u", kind := .note, onset := 0, dur := 2, step := "E", alter := some 0, octave := 0, voice := some 0,
      staff := some 0, graceType := "", tieNext := none, tiePrev := none },
    { id := "l", kind := .note, onset := 0, dur := 2, step := "C", alter := none, octave := 4, voice := some 1,
      staff := some 2, graceType := "", tieNext := none, tiePrev := none },
    { id := "", kind := .note, onset := 2, dur := 2, step := "D", alter := some (-1), octave := 3, voice := none,
      staff := none, graceType := "", tieNext := none, tiePrev := none } ]

example : ((rows { exPart with notes := exZero } exOpts).map fun t =>
      t.map fun r => (r.id, r.voice, r.staff, r.alter, r.pitch)) =
    some [("u", 0, 0, 0, 16), ("l", 1, 2, 0, 60), ("", 2, 0, -1, 49)] := by decide +kernel
example : ((rows { exPart with notes := exZero } exOpts).map fun t => t.map fun r => (r.id, r.octave)) =
    some [("u", 0), ("l", 4), ("", 3)] := by decide +kernel

/-- the seeded `note.voice or -1` reads a stated voice 0 as the marker: the model's `rawVoice` does not -/
example : rawVoice exZero[0] = 0 ∧ rawVoice exZero[0] ≠ -1 ∧ rawVoice exZero[2] = -1 := by decide +kernel

/-- a rest in voice 0 next to a rest in voice 1 -/
example : ((restRows { exPart with notes :=
      [ { exZero[0] with kind := .rest, id := "r0" }, { exZero[1] with kind := .rest, id := "r1", onset := 2 } ] } false).map
      fun t => t.map fun r => (r.id, r.voice, r.staff)) = some [("r0", 0, 0), ("r1", 1, 2)] := by decide +kernel

end Examples

end C05
