/-
C17 — the options around the three estimators (Model/C17Wrap.lean): which fields of a
structured note array are read (`get_time_units_from_note_array`, `prepare_notearray`), the
`monophonic_voices` flag end to end on arrays, the profile names of `estimate_key` / `ks_kid`,
`return_sorted_keys`.  Tables come from Gen/C17Tables.lean (regenerated from the source on every run);
helper lemmas in Proofs/C17Wrap.lean.
-/
import PartituraModel.Props.C17
import PartituraModel.Props.C17Search
import PartituraModel.Proofs.C17Wrap

namespace C17
open Model Model.C17Wrap Gen

/-- the unit selection regenerated from the source is: beat, else quarter, else div (score units),
    else sec, else tick (performance units), else ValueError -/
theorem units_selection (fields : List String) : timeUnits fields = C17W.pick fields :=
  C17W.timeUnits_eq_pick fields

/-- "the score information will be preferred": performance fields added to an array that has score
    units change nothing -/
theorem units_score_preferred (fields extra : List String)
    (hs : "onset_beat" ∈ fields ∨ "onset_quarter" ∈ fields ∨ "onset_div" ∈ fields)
    (hx : ∀ f ∈ extra, f ∈ ["onset_sec", "duration_sec", "onset_tick", "duration_tick"]) :
    timeUnits (fields ++ extra) = timeUnits fields := by
  have hb : "onset_beat" ∉ extra := fun h => absurd (hx _ h) (by decide)
  have hq : "onset_quarter" ∉ extra := fun h => absurd (hx _ h) (by decide)
  have hd : "onset_div" ∉ extra := fun h => absurd (hx _ h) (by decide)
  simp only [C17W.timeUnits_eq_pick, C17W.pick, List.mem_append, hb, hq, hd, or_false]
  -- the three score branches are the same on both sides, and one of them is taken
  refine ite_congr rfl (fun _ => rfl) fun h1 => ite_congr rfl (fun _ => rfl) fun h2 =>
    ite_congr rfl (fun _ => rfl) fun h3 => ?_
  exact absurd hs (not_or.mpr ⟨h1, not_or.mpr ⟨h2, h3⟩⟩)

example : timeUnits (["pitch", "onset_div", "duration_div"] ++ ["onset_sec", "duration_sec"]) =
    some ("onset_div", "duration_div") := by decide +kernel

/-- the estimators reject an array exactly when it has none of the five onset fields -/
theorem units_none_iff (fields : List String) :
    timeUnits fields = none ↔
      "onset_beat" ∉ fields ∧ "onset_quarter" ∉ fields ∧ "onset_div" ∉ fields ∧
      "onset_sec" ∉ fields ∧ "onset_tick" ∉ fields := by
  rw [C17W.timeUnits_eq_pick]
  unfold C17W.pick
  by_cases h1 : "onset_beat" ∈ fields <;> by_cases h2 : "onset_quarter" ∈ fields <;>
    by_cases h3 : "onset_div" ∈ fields <;> by_cases h4 : "onset_sec" ∈ fields <;>
    by_cases h5 : "onset_tick" ∈ fields <;> simp [h1, h2, h3, h4, h5]

/-- `prepare_notearray`: the rows are (pitch, selected onset, selected duration) of the array, in
    row order (so the `id` column `np.arange(n)` IS the row number the wrapper scatters by) -/
theorem prepare_rows (a : NoteArray) (rows : List Voices.VNote) :
    prepare a = some rows ↔
      ∃ ou du p o d, timeUnits a.fields = some (ou, du) ∧ a.pitch = some p ∧ a.col ou = some o ∧
        a.col du = some d ∧ rows = zip3 p o d := by
  unfold prepare
  simp only [Option.bind_eq_bind, Option.bind_eq_some_iff, Prod.exists, Option.pure_def, Option.some.injEq]
  constructor
  · rintro ⟨ou, du, hu, p, hp, o, ho, d, hd, rfl⟩
    exact ⟨ou, du, p, o, d, hu, hp, ho, hd, rfl⟩
  · rintro ⟨ou, du, p, o, d, hu, hp, ho, hd, rfl⟩
    exact ⟨ou, du, hu, p, hp, o, ho, d, hd, rfl⟩

/-- on the array level: the rows the three estimators read (voices: pitch/onset/duration; key:
    pitch/duration; spelling: onset/pitch) do not change when performance columns are added to an
    array that has score units -/
theorem array_score_preferred (a : NoteArray) (extra : List (String × List Rat))
    (hs : "onset_beat" ∈ a.fields ∨ "onset_quarter" ∈ a.fields ∨ "onset_div" ∈ a.fields)
    (hx : ∀ c ∈ extra, c.1 ∈ ["onset_sec", "duration_sec", "onset_tick", "duration_tick"]) :
    prepare { a with cols := a.cols ++ extra } = prepare a ∧
    keyRows { a with cols := a.cols ++ extra } = keyRows a ∧
    spellingRows { a with cols := a.cols ++ extra } = spellingRows a := by
  have hf : NoteArray.fields { a with cols := a.cols ++ extra } = a.fields ++ extra.map (·.1) := by
    simp [NoteArray.fields, List.map_append, List.append_assoc]
  have hx' : ∀ f ∈ extra.map (·.1), f ∈ ["onset_sec", "duration_sec", "onset_tick", "duration_tick"] := by
    intro f hf'
    obtain ⟨c, hc, rfl⟩ := List.mem_map.mp hf'
    exact hx c hc
  have hu := units_score_preferred a.fields (extra.map (·.1)) hs hx'
  obtain ⟨u, hu1, hu2⟩ := C17W.pick_score a.fields hs
  have hcol : ∀ nm, (∀ f ∈ ["onset_sec", "duration_sec", "onset_tick", "duration_tick"], nm ≠ f) →
      lookup nm (a.cols ++ extra) = lookup nm a.cols :=
    fun nm hnm => C17W.lookup_append_left _ _ _ fun hin => hnm nm (hx' nm hin) rfl
  have c1 := hcol u.1 fun f hf => (C17W.score_not_perf u hu2 f hf).1
  have c2 := hcol u.2 fun f hf => (C17W.score_not_perf u hu2 f hf).2
  obtain ⟨ou, du⟩ := u
  simp only [prepare, keyRows, spellingRows, NoteArray.col, hf, hu, hu1, Option.bind_eq_bind, Option.bind_some, c1, c2,
    and_self]

example : "onset_beat" ∈ NoteArray.fields { pitch := some [60], cols := [("onset_beat", [0]), ("duration_beat", [1])] } := by
  decide +kernel

/-- a missing duration field of the selected unit is an error even when another unit is complete -/
example : prepare { pitch := some [60], cols := [("onset_beat", [0]), ("onset_sec", [0]), ("duration_sec", [1])] } = none := by
  decide +kernel

example : prepare { pitch := some [60, 64], cols := [("duration_sec", [1, 2]), ("onset_sec", [0, 1/2]), ("onset_tick", [0, 480])] } =
    some [(60, 0, 1), (64, 1/2, 2)] := by decide +kernel

/-- `estimate_voices` on a structured array, `monophonic_voices` either way, any unit: when the
    array has the selected fields and at least one row, every row gets one voice ≥ 1, numbered
    without gaps (nothing assumed about the search) -/
theorem voices_array_total (offs : List Rat) (mono : Bool) (a : NoteArray) (notes : List Voices.VNote)
    (hp : prepare a = some notes) (hne : notes ≠ []) (hl : offs.length = notes.length) :
    ∃ out, estimateVoicesArr offs mono a = some out ∧ out.length = notes.length ∧
      (∀ x ∈ out, 1 ≤ x) ∧ ∃ k : Int, ∀ x, x ∈ out ↔ 1 ≤ x ∧ x ≤ k := by
  obtain ⟨out, h1, h2⟩ := voices_total offs mono notes hne hl
  exact ⟨out, by simp [estimateVoicesArr, hp, h1], h2⟩

/-- chord mode on arrays: rows that agree in the SELECTED onset and duration fields share a voice -/
theorem voices_array_chord (offs : List Rat) (a : NoteArray) (notes : List Voices.VNote) (out : List Int)
    (hp : prepare a = some notes) (h : estimateVoicesArr offs false a = some out) (i j : Nat)
    (hi : i < notes.length) (hj : j < notes.length)
    (hon : notes[i].2.1 = notes[j].2.1) (hdu : notes[i].2.2 = notes[j].2.2) :
    out[i]? = out[j]? := by
  simp only [estimateVoicesArr, hp, Option.bind_some] at h
  exact chord_same_voice_modelled offs notes out h i j hi hj hon hdu

example : estimateVoicesArrExact false
    { pitch := some [60, 64, 67, 62], cols := [("onset_div", [0, 0, 0, 1]), ("duration_div", [1, 1, 2, 1])] } =
    some [2, 2, 1, 2] := by decide +kernel

/-- the array is rejected when a required field is missing (the code raises ValueError) -/
theorem voices_array_missing (offs : List Rat) (mono : Bool) (a : NoteArray) (h : prepare a = none) :
    estimateVoicesArr offs mono a = none := by
  simp [estimateVoicesArr, h]

/-- every name `VALID_KEY_PROFILES` lists is accepted by `ks_kid` (whole regenerated tables): the
    validation of `estimate_key` and the alias table of `ks_kid` agree (repaired defect C17-4) -/
theorem valid_profile_names_accepted :
    ∀ n ∈ VALID_KEY_PROFILES, (estimateKeySet (some n)).isSome = true := by
  decide +kernel

/-- a name outside `VALID_KEY_PROFILES` is rejected (ValueError) -/
theorem invalid_profile_name_rejected (n : String) (h : n ∉ VALID_KEY_PROFILES) :
    estimateKeySet (some n) = none := by
  simp [estimateKeySet, h]

example : "ks" ∉ VALID_KEY_PROFILES ∧ estimateKeySet (some "ks") = none ∧ ksKidSet "ks" = some .kk := by decide +kernel

/-- the aliases: `kk` / `krumhansl_kessler` / no argument select the Krumhansl-Kessler profiles,
    `tp` / `temperley` the Temperley (CBMS) profiles, `kp` / `kostka_payne` the Kostka-Payne profiles -/
theorem profile_aliases :
    estimateKeySet none = some .kk ∧
    estimateKeySet (some "kk") = some .kk ∧ estimateKeySet (some "krumhansl_kessler") = some .kk ∧
    estimateKeySet (some "tp") = some .cbms ∧ estimateKeySet (some "temperley") = some .cbms ∧
    estimateKeySet (some "kp") = some .kp ∧ estimateKeySet (some "kostka_payne") = some .kp := by
  decide +kernel

/-- each matrix of key_identification.py is built from the profile vectors the model uses for it,
    and `ks_kid`'s default matrix is the one `estimate_key`'s default name selects -/
theorem matrix_profiles :
    setOfMatrix "KRUMHANSL_KESSLER" = some .kk ∧ setOfMatrix "CMBS" = some .cbms ∧
    setOfMatrix "KOSTKA_PAYNE" = some .kp ∧ setOfMatrix KS_KID_DEFAULT = estimateKeySet none := by
  decide +kernel

/-- `p` and `q` are proportional (then they would correlate identically with every histogram) -/
def proportional (p q : List Rat) : Bool :=
  (List.range 12).all fun i => (List.range 12).all fun j => p.getD i 0 * q.getD j 0 == p.getD j 0 * q.getD i 0

/-- sanity: the three profile sets are pairwise different inputs — not even proportional, in
    either mode (whole tables, kernel-evaluated) -/
theorem profiles_pairwise_distinct :
    ∀ a b : KeyEst.ProfileSet, a ≠ b →
      proportional (KeyEst.majorProfile a) (KeyEst.majorProfile b) = false ∧
      proportional (KeyEst.minorProfile a) (KeyEst.minorProfile b) = false := by
  intro a b
  cases a <;> cases b <;> first | (intro h; exact absurd rfl h) | (intro _; decide +kernel)

/-- the fast path the driver runs (histogram evaluated once) is the model of the theorems -/
theorem key_fast_path (ps : KeyEst.ProfileSet) (notes : List KeyEst.KNote) :
    estimateKeyFast ps notes = KeyEst.estimateKey ps notes :=
  C17W.estimateKeyFast_eq ps notes

/-- `estimate_key` on a structured array with any accepted profile name: whenever it answers, the
    answer is a valid key name, and it answers whenever the name is accepted and the array has a
    pitch field and the selected duration field -/
theorem key_array_valid (arg : Option String) (a : NoteArray) :
    (∀ nm, estimateKeyArr arg a = some nm → (nm ∈ MAJOR_KEYS ∨ ∃ r ∈ MINOR_KEYS, nm = r ++ "m")) ∧
    (∀ ps rows, estimateKeySet arg = some ps → keyRows a = some rows → ∃ nm, estimateKeyArr arg a = some nm) := by
  constructor
  · intro nm h
    simp only [estimateKeyArr, Option.bind_eq_bind, Option.bind_eq_some_iff] at h
    obtain ⟨ps, _, rows, _, h⟩ := h
    rw [key_fast_path] at h
    obtain ⟨nm', h1, h2⟩ := key_estimate_valid ps rows
    rw [h1] at h; cases h; exact h2
  · intro ps rows hs hr
    obtain ⟨nm, h1, _⟩ := key_estimate_valid ps rows
    exact ⟨nm, by simp [estimateKeyArr, hs, hr, key_fast_path, h1]⟩

example : estimateKeyArr (some "tp")
    { pitch := some [60, 64, 67, 62, 72], cols := [("onset_beat", [0, 1, 2, 3, 4]), ("duration_beat", [1, 1, 1, 1/2, 2])] } = some "C" := by
  decide +kernel

/-- `return_sorted_keys=True`: the answer lists each of the 24 keys exactly once -/
theorem sorted_keys_perm (ps : KeyEst.ProfileSet) (notes : List KeyEst.KNote) :
    (sortedKeys ps notes).Perm ((List.finRange 24).map keyName) ∧ (sortedKeys ps notes).length = 24 := by
  have hp := C17W.sortedKeyIdx_perm ps (Tab.ofFun (KeyEst.hist notes)).get
  exact ⟨hp.map _, by simp [sortedKeys, hp.length_eq]⟩

/-- every entry is the name of its key, hence valid -/
theorem sorted_keys_valid (i : Fin 24) :
    KeyEst.keyNameAt i.val = some (keyName i) ∧
    (keyName i ∈ MAJOR_KEYS ∨ ∃ r ∈ MINOR_KEYS, keyName i = r ++ "m") := by
  have h1 : KeyEst.keyNameAt i.val = some (keyName i) := by
    simp [KeyEst.keyNameAt, keyName, List.getElem?_eq_getElem (show i.val < KEYS.length by
      have := KeyEst.keys_len; omega)]
  obtain ⟨nm, h2, h3⟩ := key_valid_name i.val i.isLt
  rw [h1] at h2; cases h2
  exact ⟨h1, h3⟩

/-- along the answer the correlation with the histogram never increases (non-constant histogram) -/
theorem sorted_keys_sorted (ps : KeyEst.ProfileSet) (h : Nat → Rat) (hv : KeyEst.cov12 h h ≠ 0) :
    (sortedKeyIdx ps h).Pairwise fun a b =>
      KeyEst.better (KeyEst.keyScore ps h b.val) (KeyEst.keyScore ps h a.val) = false :=
  C17W.sortedKeyIdx_sorted ps h hv

/-- with a unique best key the ranking starts with the key `estimate_key` answers -/
theorem sorted_keys_head (ps : KeyEst.ProfileSet) (notes : List KeyEst.KNote) (m : Nat)
    (hu : UniqueMax ps notes m) :
    (sortedKeys ps notes).head? = KeyEst.estimateKey ps notes := by
  have hu' : C17K.UniqueMaxH ps (Tab.ofFun (KeyEst.hist notes)).get m := by
    obtain ⟨h0, hm, hb⟩ := hu
    refine ⟨?_, hm, ?_⟩
    · rw [C17K.cov12_congr (C17W.tab_get _) (C17W.tab_get _)]; exact h0
    · intro i hi hne
      rw [C17W.keyScore_congr ps _ (KeyEst.hist notes) (fun j hj => C17W.tab_get _ j hj),
        C17W.keyScore_congr ps _ (KeyEst.hist notes) (fun j hj => C17W.tab_get _ j hj) i]
      exact hb i hi hne
  obtain ⟨x, rest, hl, hx⟩ := C17W.sortedKeyIdx_head ps _ m hu'
  have hk := key_is_unique_max ps notes m hu
  simp only [sortedKeys, hl, List.map_cons, List.head?_cons, KeyEst.estimateKey, hk]
  rw [← hx, (sorted_keys_valid x).1]

/-- the hypotheses are satisfiable (a non-constant histogram; `UniqueMax` has its example in Props/C17.lean) -/
example : KeyEst.cov12 (KeyEst.hist [(60, 1), (64, 2)]) (KeyEst.hist [(60, 1), (64, 2)]) ≠ 0 := by decide +kernel

end C17
