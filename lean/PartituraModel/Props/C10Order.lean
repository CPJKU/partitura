/-
C10 — coincident elements: WHICH of several elements of a kind that start at the same time is reported.

The Reading of the property has at most one element of a kind (and staff) per time; `lookup_spec` only says that the
value of ONE of the rows in force is returned.  The code is more definite: scipy's `previous` interpolation over the
stably sorted abscissae returns the LAST sample at or before the query, i.e. the last element in `iter_all` order
(C01: time order, then order of insertion; a re-added element is the latest), and the back-fill row copies the FIRST
element.  Here that is a theorem over all tables in time order, carried to the three signature maps and to every
state of the timeline reachable by a valid edit history.
-/
import PartituraModel.Props.C10Timeline

namespace C10
open Model Model.StepMap Gen

/-- `lookup_last_in_order` (Proofs/C10Lookup.lean) for the back-filled lookup: the value of the LAST row, in table order,
    that starts at or before `x`, and of the FIRST row when every row starts after `x` -/
theorem lookupPrev_last_in_order {α : Type} (tbl : Tbl α) (x : Int) (hs : SortedLE tbl) :
    lookupPrev tbl x = match (upTo tbl x).getLast? with
      | some e => some e.2
      | none => tbl.head?.map (·.2) := by
  unfold lookupPrev
  rw [lookup_last_in_order tbl x hs]
  cases (upTo tbl x).getLast? <;> rfl

theorem lookupPrev_mapVal_last {β γ : Type} (g : β → γ) (tbl : Tbl β) (x : Int) (hs : SortedLE tbl) :
    lookupPrev (mapVal g tbl) x = match (upTo tbl x).getLast? with
      | some e => some (g e.2)
      | none => tbl.head?.map fun e => g e.2 := by
  rw [lookupPrev_mapVal, lookupPrev_last_in_order tbl x hs]
  cases (upTo tbl x).getLast? with
  | some e => rfl
  | none => cases tbl <;> rfl

/-- two key signatures at time 4: the later one in the table is reported from 4 on, the first row before 0 -/
example : lastLE [((0 : Int), "a"), (4, "b"), (4, "c"), (9, "d")] 6 = some "c"
    ∧ upTo [((0 : Int), "a"), (4, "b"), (4, "c"), (9, "d")] 6 = [(0, "a"), (4, "b"), (4, "c")] := by decide +kernel

/-- **`ks_coincident`**: with several key signatures at one time allowed (table in `iter_all` order), on the
    timeline the map reports the LAST key signature in that order among those starting at or before `x`, and the
    FIRST one of the table for positions before all of them -/
theorem ks_coincident (f l x : Int) (hx : f ≤ x) (kss : List (Int × Int × Mode)) (hs : SortedLE kss)
    (hne : kss ≠ []) :
    ksMap (some (f, l)) kss x = match (upTo kss x).getLast? with
      | some e => some (e.2.1, keyModeToInt e.2.2)
      | none => kss.head?.map fun e => (e.2.1, keyModeToInt e.2.2) := by
  rw [ksMap_eq (some (f, l)) kss x hx nofun, some_getD_lookupPrev (ksRows kss) x _ (mt List.map_eq_nil_iff.mp hne), ksRows_eq,
    lookupPrev_mapVal_last _ kss x hs]
  cases (upTo kss x).getLast? <;> rfl

/-- **`ts_coincident`**: the same for time signatures (with their stored musical beats) -/
theorem ts_coincident (f l x : Int) (hx : f ≤ x) (ts : List TimeMap.TSig) (hs : SortedLE (tsTbl ts))
    (hne : ts ≠ []) :
    tsMapE (some (f, l)) ts x = match (upTo (tsTbl ts) x).getLast? with
      | some e => some (e.2.beats, e.2.beatType, e.2.mb)
      | none => ts.head?.map fun s => (s.beats, s.beatType, s.mb) := by
  rw [tsMapE_eq (some (f, l)) ts x hx nofun, some_getD_lookupPrev (tsRowsE ts) x _ (mt List.map_eq_nil_iff.mp hne), tsRowsE_eq,
    lookupPrev_mapVal_last _ _ x hs]
  cases (upTo (tsTbl ts) x).getLast? with
  | some e => rfl
  | none => cases ts <;> rfl

/-- **`clef_coincident`**: the same per staff: the row of staff `i+1` is the LAST clef of that staff, in `iter_all`
    order, among those starting at or before `x`; the first clef of that staff before all of them -/
theorem clef_coincident (f l x : Int) (hx : f ≤ x) (clefs : List RawClef) (others : List Int) (rows : Tbl ClefV)
    (hr : clefRows clefs = some rows) (hs : SortedLE rows) (i : Nat)
    (hi : i < numberOfStaves (clefs.map (·.2.1) ++ others))
    (hne : rows.filter (fun r => r.2.1 = (i : Int) + 1) ≠ []) :
    ∃ res, clefMap (some (f, l)) clefs others x = some res ∧
      res[i]? = some (match (upTo (rows.filter fun r => r.2.1 = (i : Int) + 1) x).getLast? with
        | some e => some e.2
        | none => (rows.filter fun r => r.2.1 = (i : Int) + 1).head?.map (·.2)) := by
  obtain ⟨res, h1, _, h3⟩ := clefMap_rows (some (f, l)) clefs others rows hr x
  refine ⟨res, h1, ?_⟩
  rw [h3 i hi, clefStaff_eq (some (f, l)) rows 6 _ x hx nofun, some_getD_lookupPrev _ x _ hne,
    lookupPrev_last_in_order _ x (List.Pairwise.filter _ hs)]
  cases (upTo (rows.filter fun r => r.2.1 = (i : Int) + 1) x).getLast? <;> rfl

example : clefMap (some (0, 9)) [(0, 1, "G", some 2, none), (0, 1, "F", some 4, none), (0, 2, "C", some 3, none)] [] 3
    = some [some (1, 1, 4, 0), some (2, 2, 3, 0)] := by decide +kernel

example : ksMap (some (0, 12)) [(0, 1, .major), (4, -2, .minor), (4, 3, .major), (9, 0, .major)] 6 = some (3, 1)
    ∧ tsMapE (some (0, 12)) [⟨2, 3, 4, 3⟩, ⟨2, 6, 8, 2⟩, ⟨8, 2, 2, 2⟩] 5 = some (6, 8, 2)
    ∧ tsMapE (some (0, 12)) [⟨2, 3, 4, 3⟩, ⟨2, 6, 8, 2⟩, ⟨8, 2, 2, 2⟩] 1 = some (3, 4, 3) := by decide +kernel

/-- **`coincident_any_history`**: after ANY valid edit history of the timeline, the lookup on the table a map builds
    from `iter_all(cls)` reports the value of the LAST object in `iter_all` order among those of the class that start
    at or before `x` (for coincident objects: the one `iter_all` yields last - C01: the latest insertion), and the value
    of the first object `iter_all` yields for positions before all of them -/
theorem coincident_any_history {α : Type} (q : Nat) (ops : List TL.Op)
    (hv : TL.ValidHistory (TL.Part.init q) ops) (cls : Nat) (hc : cls < Gen.numClasses)
    (hk : ∀ e ∈ (TL.run (TL.Part.init q) ops).objs, e.ref.cls < Gen.numClasses) (val : TL.ObjRef → α) (x : Int) :
    lookupPrev (classTable (TL.run (TL.Part.init q) ops) cls val) x
      = match (upTo (classTable (TL.run (TL.Part.init q) ops) cls val) x).getLast? with
        | some e => some e.2
        | none => (classTable (TL.run (TL.Part.init q) ops) cls val).head?.map (·.2) :=
  lookupPrev_last_in_order _ x (tables_sorted_any_history q ops hv cls hc hk val).1

/-- in `exHistory` (Props/C10Timeline.lean) objects 0 and 1 of class 2 both start at 8, object 1 re-added last: it
    is the one reported from 8 on -/
example : lookupPrev (classTable (TL.run (TL.Part.init 1) exHistory) 2 (fun o => o.id)) 9 = some 1 := by
  decide +kernel

end C10
