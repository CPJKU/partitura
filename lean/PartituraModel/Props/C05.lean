/-
C05 — the note array is a faithful table of the score.

Theorems over Model/NoteArray.lean (helper lemmas in Proofs/C05*.lean).  The part's time,
signature and measure maps are parameters of the model (`Part.maps`): the statements say which
map value, at which time, sits in which column.  Props/C05Compose.lean instantiates the maps with the
C02 / C10 models (and holds the entry-point and float32 statements), Props/C05Collapse.lean is about
`collapse=True`.  C05 stands on other properties where the table is composed with their models: C02 (the time
maps and their monotonicity, Props/C05Compose.lean, C05Order.lean), C10 (the signature and measure maps), C11
(`sanitize=True`, Props/C05San.lean), C12 (spelling and key names of the created part, Props/C05Ts.lean).

Suffixes of the model's names: `C` (`rowsC`, `restRowsC`) the table composed with the map models, exact rationals;
`F` (`rowsF`, `ensureNoteArrayF`, `fromArrayXF`) the float cells as stored, binary64 evaluation and binary32 store;
`X` (`fromArrayX`) the inverse direction with signature columns that change; `W` (`tableW pt`, `fromArrayXW pt`) the
same function over a part table `pt` given as a parameter, taken at `rowsC` and at `rowsF`.
-/
import PartituraModel.Proofs.C05Rows
import PartituraModel.Proofs.C05Merge
import PartituraModel.Proofs.C05Inverse

namespace C05
open NoteArray List

theorem sorted_ids {notes : List Note} {rs : List Row} {R : Note → Row → Prop}
    (hf : Forall₂ R notes rs) (hid : ∀ n r, R n r → r.id = n.id) :
    (sortRows rs).map (·.id) ~ notes.map (·.id) ∧ (sortRows rs).length = notes.length := by
  have hids : notes.map (·.id) = rs.map (·.id) :=
    Lists.forall₂_map_eq (·.id) (·.id) (fun n r h => (hid n r h).symm) hf
  exact ⟨by rw [hids]; exact (sortRows_perm rs).map _, by rw [(sortRows_perm rs).length_eq, hf.length_eq]⟩

/-- The rows are in bijection with the notes that do not continue a tie: the ids of the table are a
    permutation of the ids of `notes_tied`, and there are as many rows as such notes. -/
theorem rows_bijective (p : Part) (o : Opts) (out : List Row) (h : rows p o = some out) :
    out.map (·.id) ~ (notesTied p.notes).map (·.id) ∧ out.length = (notesTied p.notes).length := by
  obtain ⟨dv, rs, _, rfl, hf⟩ := rows_structure p o out h
  exact sorted_ids hf fun n r ⟨d, pch, m, _, _, _, hr⟩ => by rw [hr]; rfl

/-- Every row is the row of a note of `notes_tied`, completely determined by that note, its tied
    duration, its spelled pitch, the part's maps at its onset/offset and the voice rule. -/
theorem row_values (p : Part) (o : Opts) (out : List Row) (h : rows p o = some out) :
    ∀ r ∈ out, ∃ n ∈ notesTied p.notes, ∃ dv d pch m,
      divsOf p o = some dv ∧
      durationTied p.notes n = some d ∧
      Model.spellingToMidi n.step n.alter n.octave = some pch ∧
      maxList ((notesTied p.notes).map rawVoice) = some m ∧
      r = finalRow p.maps dv n d pch m := by
  obtain ⟨dv, rs, hdv, hout, hf⟩ := rows_structure p o out h
  intro r hr
  have hr' : r ∈ rs := (sortRows_perm rs).mem_iff.mp (hout ▸ hr)
  obtain ⟨n, hn, d, pch, m, hd, hp, hm, hrow⟩ := Lists.forall₂_mem_right hf r hr'
  exact ⟨n, hn, dv, d, pch, m, hdv, hd, hp, hm, hrow⟩

/-- The columns of the row of note `n`, read off `finalRow`: division columns from the timeline,
    time columns from the part's beat and quarter maps at onset and offset, optional columns from the
    signature / measure maps at the onset, voice and staff with their replacements. -/
theorem row_columns (M : Maps) (dv : Int) (n : Note) (d pch m : Int) :
    let r := finalRow M dv n d pch m
    r.id = n.id ∧ r.onsetDiv = n.onset ∧ r.durDiv = d ∧ r.pitch = pch ∧
    r.onsetBeat = M.beat n.onset ∧ r.durBeat = M.beat (n.onset + d) - M.beat n.onset ∧
    r.onsetQuarter = M.quarter n.onset ∧ r.durQuarter = M.quarter (n.onset + d) - M.quarter n.onset ∧
    r.key = M.okey n.onset ∧
    r.voice = (if rawVoice n = -1 then m + 1 else rawVoice n) ∧
    r.staff = (match n.staff with | some s => s | none => 0) ∧
    r.step = n.step ∧ r.alter = alterOr0 n ∧ r.octave = n.octave ∧
    r.isGrace = decide (n.kind = .grace) ∧
    (r.ksFifths, r.ksMode) = M.ks n.onset ∧
    (r.tsBeats, r.tsBeatType, r.tsMusBeats) = M.ts n.onset ∧
    (r.relOnset, r.totMeasure) = M.metr n.onset ∧
    r.isDownbeat = (if (M.metr n.onset).1 = 0 then 1 else 0) ∧
    r.divsPq = dv := by
  intro r
  refine ⟨rfl, rfl, ?_, rfl, rfl, rfl, rfl, rfl, rfl, rfl, rfl, rfl, rfl, rfl, ?_, rfl, rfl, rfl, rfl, rfl⟩
  · exact mkRow_durDiv M dv n d pch n.step (alterOr0 n) n.octave
  · show decide (n.kind = .grace) = decide (n.kind = .grace)
    rfl

/-- a note whose voice is given keeps it; a missing voice becomes (largest voice) + 1, which is
    larger than every given voice of the table -/
theorem missing_voice_above (l : List Note) (m : Int) (h : maxList (l.map rawVoice) = some m) :
    ∀ n ∈ l, rawVoice n < m + 1 := by
  intro n hn
  have := (maxList_spec _ _ h).2 (rawVoice n) (mem_map_of_mem hn)
  omega

/-- The tied duration is the sum of the durations along the chain of `tie_next` links that starts
    at the note. -/
theorem duration_is_chain_sum (notes : List Note) (n : Note) (d : Int)
    (h : durationTied notes n = some d) :
    ∃ c, chainFrom notes notes.length n = some (n :: c) ∧ Linked notes (n :: c) ∧ d = durSum (n :: c) := by
  unfold durationTied at h
  simp only [Option.map_eq_some_iff] at h
  obtain ⟨c, hc, hd⟩ := h
  obtain ⟨t, rfl⟩ := chainFrom_head _ _ _ _ hc
  exact ⟨t, hc, chainFrom_linked _ _ _ _ hc, hd.symm⟩

/-- For a chain without gaps the summed duration is the end of the last note minus the start of the
    first. -/
theorem chain_contig (a : Note) (c : List Note) (h : Contiguous (a :: c)) :
    durSum (a :: c) = lastEnd (a :: c) a.onset - a.onset := by
  induction c generalizing a with
  | nil => simp [durSum, lastEnd]
  | cons b c ih =>
    have := ih b h.2
    simp only [durSum, lastEnd] at this ⊢
    rw [this]
    have := h.1
    omega

/-- an untied note: the chain is the note -/
theorem untied_duration (notes : List Note) (n : Note) (h : n.tieNext = none) (hl : notes ≠ []) :
    durationTied notes n = some n.dur := durationTied_untied notes n h hl

/-- `sortRows` is a permutation whose result is ordered by (stored onset, pitch) — for every list. -/
theorem rows_sorted (rs : List Row) :
    (sortRows rs).Pairwise (Lex (·.key) (fun a b => a.pitch ≤ b.pitch)) ∧ sortRows rs ~ rs := by
  constructor
  · unfold sortRows
    apply isort_lex (·.key) (fun a b => a.pitch ≤ b.pitch) leOnset
    · intro a b; unfold leOnset; exact decide_eq_true_iff
    · apply isort_sorted (·.pitch) lePitch
      intro a b; unfold lePitch; exact decide_eq_true_iff
  · exact sortRows_perm rs

/-- the table `rows` returns is ordered by (stored onset, pitch) -/
theorem table_sorted (p : Part) (o : Opts) (out : List Row) (h : rows p o = some out) :
    out.Pairwise (Lex (·.key) (fun a b => a.pitch ≤ b.pitch)) := by
  obtain ⟨_, rs, _, hout, _⟩ := rows_structure p o out h
  rw [hout]; exact (rows_sorted rs).1

/-- When the stored onset is strictly increasing in the division onset on the rows of the table
    (C02: the beat map is strictly monotone; float32 storage does not merge distinct onsets), the
    table is ordered by (onset_div, pitch) as well. -/
theorem beat_order_eq (out : List Row)
    (hmono : ∀ a ∈ out, ∀ b ∈ out, (a.key < b.key ↔ a.onsetDiv < b.onsetDiv) ∧ (a.key = b.key ↔ a.onsetDiv = b.onsetDiv))
    (h : out.Pairwise (Lex (·.key) (fun a b => a.pitch ≤ b.pitch))) :
    out.Pairwise (Lex (·.onsetDiv) (fun a b => a.pitch ≤ b.pitch)) := by
  apply h.imp_of_mem
  intro a b ha hb hab
  rcases hab with hlt | ⟨heq, hp⟩
  · exact Or.inl ((hmono a ha b hb).1.mp hlt)
  · exact Or.inr ⟨(hmono a ha b hb).2.mp heq, hp⟩

/-- The merged table is a permutation of the (prefixed) part tables rescaled to the common
    divisions `L` = least common multiple of the parts' divisions, and is ordered by (onset, pitch). -/
theorem merge_union (unique : Bool) (ts : List (List Row)) (out : List Row)
    (h : mergeTables unique ts = some out) :
    out ~ ((prefixed unique ts).map (scaleTable (Model.natLcm (ts.map tableDivs)))).flatten ∧
    out.Pairwise (Lex (·.key) (fun a b => a.pitch ≤ b.pitch)) := by
  rw [mergeTables_eq] at h
  split at h
  · cases h
  · simp only [Option.some.injEq] at h
    subst h
    exact ⟨(rows_sorted _).2, (rows_sorted _).1⟩

/-- lcm rescaling preserves musical time: when the merge succeeds, every part's divisions `d_p` are
    positive and divide `L`, `L` is the LEAST common multiple, the multiplier `L / d_p` is therefore
    an exact integer, and a row's onset and duration read on the grid `L` are the same rational
    numbers of quarters as before on the grid `d_p`; a row that carries its part's divisions
    carries `L` afterwards. -/
theorem lcm_rescale (unique : Bool) (ts : List (List Row)) (out : List Row)
    (h : mergeTables unique ts = some out) :
    let L := Model.natLcm (ts.map tableDivs)
    0 < L ∧ (∀ k, (∀ t ∈ ts, tableDivs t ∣ k) → L ∣ k) ∧
    ∀ t ∈ ts, 0 < tableDivs t ∧ tableDivs t ∣ L ∧ (L / tableDivs t) * tableDivs t = L ∧
      ∀ r ∈ t,
        let s := scaleRow ((L / tableDivs t : Nat) : Int) r
        ((s.onsetDiv : Rat) / (L : Rat) = (r.onsetDiv : Rat) / (tableDivs t : Rat)) ∧
        ((s.durDiv : Rat) / (L : Rat) = (r.durDiv : Rat) / (tableDivs t : Rat)) ∧
        (r.divsPq = (tableDivs t : Int) → s.divsPq = (L : Int)) := by
  intro L
  have hpos : ∀ d ∈ ts.map tableDivs, 0 < d := by
    rw [mergeTables_eq] at h
    split at h
    · cases h
    · rename_i hany
      intro d hd
      simp only [any_eq_true, decide_eq_true_eq, not_exists, not_and] at hany
      exact Nat.pos_of_ne_zero (hany d hd)
  have hL : 0 < L := Model.natLcm_pos hpos
  refine ⟨hL, ?_, ?_⟩
  · intro k hk
    apply Model.natLcm_dvd
    intro d hd
    obtain ⟨t, ht, rfl⟩ := mem_map.mp hd
    exact hk t ht
  · intro t ht
    have hd : 0 < tableDivs t := hpos _ (mem_map_of_mem ht)
    have hdvd : tableDivs t ∣ L := Model.dvd_natLcm (mem_map_of_mem ht)
    refine ⟨hd, hdvd, Nat.div_mul_cancel hdvd, ?_⟩
    intro r _
    refine ⟨rescale_exact r.onsetDiv _ _ hd hL hdvd, rescale_exact r.durDiv _ _ hd hL hdvd, ?_⟩
    intro hr
    show r.divsPq * ((L / tableDivs t : Nat) : Int) = (L : Int)
    rw [hr]
    exact_mod_cast (by rw [Nat.mul_comm]; exact Nat.div_mul_cancel hdvd)

/-- id prefixing is injective across parts: equal prefixed ids come from the same part index and the
    same original id. -/
theorem id_prefix (i j : Nat) (a b : String) (h : prefixId i a = prefixId j b) : i = j ∧ a = b := by
  unfold prefixId at h
  have h' := congrArg String.toList h
  simp only [String.toList_ofList, cons.injEq, true_and] at h'
  obtain ⟨hp, hr⟩ := Lists.sep_unique (pad2_no_underscore i) (pad2_no_underscore j) h'
  exact ⟨pad2_injective i j hp, String.toList_inj.mp hr⟩

/-- with `unique_id_per_part` and at least two parts, the k-th part's rows carry the prefix of k -/
theorem prefixed_kth (ts : List (List Row)) (h2 : 1 < ts.length) (k : Nat) :
    (prefixed true ts)[k]? = (ts[k]?).map (prefixTable k) := by
  unfold prefixed
  simp only [Bool.true_and, decide_eq_true_eq, h2, ↓reduceIte]
  rw [prefixFrom_getElem?]
  simp

/-- rows of different parts never share an id after prefixing -/
theorem prefixed_ids_disjoint (i j : Nat) (t t' : List Row) (r r' : Row)
    (hr : r ∈ prefixTable i t) (hr' : r' ∈ prefixTable j t') (hid : r.id = r'.id) : i = j := by
  unfold prefixTable at hr hr'
  obtain ⟨x, _, rfl⟩ := mem_map.mp hr
  obtain ⟨y, _, rfl⟩ := mem_map.mp hr'
  exact (id_prefix i j _ _ hid).1

/-- The rest array (no collapsing) has exactly one row per rest of the part. -/
theorem rest_rows_bijective (p : Part) (out : List Row) (h : restRows p false = some out) :
    out.map (·.id) ~ (restsOf p.notes).map (·.id) ∧ out.length = (restsOf p.notes).length := by
  obtain ⟨rs, rfl, hf⟩ := restRows_structure p out h
  exact sorted_ids hf fun n r ⟨d, m, _, _, hr⟩ => by rw [hr]; rfl

/-- Each row of the rest array is the row of a rest: same rules as for notes (onset and duration
    from the timeline, time columns from the maps at onset/offset, signature columns from the maps at
    the onset, voice rule), pitch 0 and the dummy spelling, and the table is ordered by onset. -/
theorem rest_row_values (p : Part) (out : List Row) (h : restRows p false = some out) :
    out.Pairwise (Lex (·.key) (fun a b => a.pitch ≤ b.pitch)) ∧
    ∀ r ∈ out, ∃ n ∈ restsOf p.notes, ∃ d m,
      durationTied p.notes n = some d ∧
      maxList ((restsOf p.notes).map rawVoice) = some m ∧
      r = withVoice (mkRow p.maps 0 n d 0 "0" 0 0) n m ∧
      r.pitch = 0 ∧ r.onsetDiv = n.onset ∧ r.durDiv = d ∧
      r.onsetBeat = p.maps.beat n.onset ∧ r.durBeat = p.maps.beat (n.onset + d) - p.maps.beat n.onset ∧
      (r.tsBeats, r.tsBeatType, r.tsMusBeats) = p.maps.ts n.onset ∧
      (r.ksFifths, r.ksMode) = p.maps.ks n.onset := by
  obtain ⟨rs, hout, hf⟩ := restRows_structure p out h
  refine ⟨by rw [hout]; exact (rows_sorted rs).1, ?_⟩
  intro r hr
  have hr' : r ∈ rs := (sortRows_perm rs).mem_iff.mp (hout ▸ hr)
  obtain ⟨n, hn, d, m, hd, hm, hrow⟩ := Lists.forall₂_mem_right hf r hr'
  refine ⟨n, hn, d, m, hd, hm, hrow, ?_⟩
  subst hrow
  exact ⟨rfl, rfl, mkRow_durDiv p.maps 0 n d 0 "0" 0 0, rfl, rfl, rfl, rfl⟩

/-- An array with division columns: the notes of the new part are exactly the array's
    (onset_div, duration_div, pitch) triples. -/
theorem from_array_div (hb ht : Bool) (a : List ARow) (dv : Option Nat) (d : Nat)
    (l : List (Int × Int × Int)) (h : fromArray hb true ht a dv = .ok (d, l)) :
    l ~ a.map divTriple ∧ ∀ x ∈ l, 0 ≤ x.1 ∧ 0 ≤ x.2.1 := by
  obtain ⟨hl, hnn, _⟩ := fromArray_div_ok hb ht a dv d l h
  exact ⟨hl ▸ (sortArr_perm true a).map divTriple, hnn⟩

/-- From array to score to array: for an array with division columns that `fromArray` accepts, the
    table of the created part holds the same (onset, duration, pitch) multiset — whatever the maps,
    options, and for any spelling function that keeps the pitch (C17). -/
theorem from_to_array (hb ht : Bool) (a : List ARow) (dv : Option Nat) (d : Nat)
    (l : List (Int × Int × Int)) (M : Maps) (spell : Int → String × Int × Int) (o : Opts) (out : List Row)
    (hspell : ∀ r ∈ a, Model.spellingToMidi (spell r.pitch).1 (some (spell r.pitch).2.1) (spell r.pitch).2.2 = some r.pitch)
    (h : fromArray hb true ht a dv = .ok (d, l))
    (hrows : rows (createPart d l M spell) o = some out) :
    out.map rowTriple ~ a.map divTriple := by
  obtain ⟨hl, _⟩ := from_array_div hb ht a dv d l h
  refine (rows_createPart d l M spell o out ?_ hrows).trans hl
  intro x hx
  obtain ⟨r, hr, rfl⟩ := mem_map.mp (hl.mem_iff.mp hx)
  exact hspell r hr

/-- the divisions of the new part are the `divs` argument when one is given -/
theorem from_array_divs_given (hb ht : Bool) (a : List ARow) (dv d : Nat)
    (l : List (Int × Int × Int)) (h : fromArray hb true ht a (some dv) = .ok (d, l)) : d = dv :=
  (fromArray_div_ok hb ht a (some dv) d l h).2.2 dv rfl

/-- An array with beat columns only (beats are quarters): the new part's divisions `d` are positive,
    and on that grid every note sits exactly at its (denominator-limited) beat plus one common
    non-negative shift (0 unless the first onset is negative), lasts exactly its beat duration and
    keeps its pitch: `onset_div / d = beat + shift / d`, `duration_div / d = duration_beat`. -/
theorem from_array_beat (ht : Bool) (a : List ARow) (d : Nat) (l : List (Int × Int × Int))
    (h : fromArray true false ht a none = .ok (d, l)) :
    ∃ sh : Int, 0 ≤ sh ∧
      Forall₂ (fun (r : ARow) (x : Int × Int × Int) =>
        (x.1 : Rat) = (d : Rat) * limitDen r.onsetBeat 256 + (sh : Rat) ∧
        (x.2.1 : Rat) = (d : Rat) * limitDen r.durBeat 256 ∧ x.2.2 = r.pitch) (sortArr false a) l :=
  ⟨_, beatShift_nonneg _, (fromArray_beat_shift ht a d l h).2⟩

/-- ... and the table of the part created from it holds exactly those notes -/
theorem from_to_array_beat (ht : Bool) (a : List ARow) (d : Nat) (l : List (Int × Int × Int))
    (M : Maps) (spell : Int → String × Int × Int) (o : Opts) (out : List Row)
    (hspell : ∀ r ∈ a, Model.spellingToMidi (spell r.pitch).1 (some (spell r.pitch).2.1) (spell r.pitch).2.2 = some r.pitch)
    (h : fromArray true false ht a none = .ok (d, l))
    (hrows : rows (createPart d l M spell) o = some out) :
    out.map rowTriple ~ l := by
  obtain ⟨_, hf⟩ := fromArray_beat_shift ht a d l h
  apply rows_createPart d l M spell o out _ hrows
  intro x hx
  obtain ⟨r, hr, hR⟩ := Lists.forall₂_mem_right hf x hx
  rw [hR.2.2]
  exact hspell r (mem_sortArr.mp hr)

section Examples

def exMaps : Maps :=
  { beat := fun t => (t : Rat) / 2, quarter := fun t => (t : Rat) / 2, okey := fun t => (t : Rat) / 2,
    ks := fun _ => (0, 1), ts := fun _ => (4, 4, 4), metr := fun t => (t % 8, 8) }

/-- a tied pair (a → b), a grace note without voice and staff, a rest -/
def exNotes : List Note :=
  [ { id := "a", kind := .note, onset := 0, dur := 2, step := "C", alter := none, octave := 4, voice := some 1,
      staff := some 1, graceType := "", tieNext := some 1, tiePrev := none },
    { id := "b", kind := .note, onset := 2, dur := 4, step := "C", alter := none, octave := 4, voice := some 1,
      staff := some 1, graceType := "", tieNext := none, tiePrev := some 0 },
    { id := "g", kind := .grace, onset := 0, dur := 0, step := "E", alter := some (-1), octave := 3, voice := none,
      staff := none, graceType := "grace", tieNext := none, tiePrev := none },
    { id := "r", kind := .rest, onset := 6, dur := 2, step := "", alter := none, octave := 0, voice := none,
      staff := none, graceType := "", tieNext := none, tiePrev := none } ]

def exPart : Part := { notes := exNotes, qdurs := [2], maps := exMaps }
def exOpts : Opts := { spelling := true, ks := true, ts := true, metr := true, grace := true, staff := true, divs := true }

/-- `rows` succeeds on a part with a tie chain, a grace note and a missing voice: the hypotheses of
    rows_bijective / row_values / table_sorted are satisfiable; the chain is one row of duration 6,
    the grace note has duration 0 and voice (max voice) + 1 = 2 -/
example : ((rows exPart exOpts).map fun t => t.map fun r => (r.id, r.onsetDiv, r.durDiv, r.pitch, r.voice)) =
    some [("g", 0, 0, 51, 2), ("a", 0, 6, 60, 1)] := by decide +kernel
example : ((rows exPart exOpts).map fun t => t.map fun r => (r.id, r.staff, r.isGrace, r.durBeat)) =
    some [("g", 0, true, 0), ("a", 1, false, 3)] := by decide +kernel

/-- several quarter durations are rejected when the divisions column is requested -/
example : rows { exPart with qdurs := [2, 3] } exOpts = none := by decide +kernel

example : durationTied exNotes exNotes[0] = some 6 := by decide +kernel
example : Contiguous [exNotes[0], exNotes[1]] := ⟨by decide +kernel, trivial⟩

/-- a dangling or cyclic tie is an error, not a silent 0 -/
example : durationTied [{ exNotes[0] with tieNext := some 0 }] { exNotes[0] with tieNext := some 0 } = none := by
  decide +kernel

example : ((restRows exPart false).map fun t => t.map fun r => (r.id, r.onsetDiv, r.durDiv, r.pitch, r.voice)) =
    some [("r", 6, 2, 0, 0)] := by decide +kernel

example : prefixId 3 "n1" = "P03_n1" ∧ prefixId 12 "x" = "P12_x" ∧ prefixId 100 "" = "P100_" := by decide +kernel

/-- two parts with divisions 2 and 3 and an empty part between them: common divisions 6 -/
def exRow (id : String) (on dur pitch divs : Int) : Row :=
  { key := (on : Rat) / (divs : Rat), onsetBeat := (on : Rat) / (divs : Rat), durBeat := (dur : Rat) / (divs : Rat),
    onsetQuarter := (on : Rat) / (divs : Rat), durQuarter := (dur : Rat) / (divs : Rat), onsetDiv := on,
    durDiv := dur, pitch := pitch, voice := 1, id := id, step := "C", alter := 0, octave := 4, isGrace := false,
    graceType := "", ksFifths := 0, ksMode := 1, tsBeats := 4, tsBeatType := 4, tsMusBeats := 4, isDownbeat := 0,
    relOnset := 0, totMeasure := 0, staff := 1, divsPq := divs }

example : ((mergeTables true [[exRow "x" 2 2 60 2], [], [exRow "y" 3 3 62 3, exRow "z" 0 3 64 3]]).map fun t =>
      t.map fun r => (r.id, r.onsetDiv, r.durDiv, r.divsPq)) =
    some [("P02_z", 0, 6, 6), ("P00_x", 6, 6, 6), ("P02_y", 6, 6, 6)] := by decide +kernel

/-- a table claiming 0 divisions makes the merge fail (the hypothesis of lcm_rescale excludes it) -/
example : mergeTables false [[exRow "x" 0 1 60 0]] = none := by decide +kernel

def exArr : List ARow :=
  [ { onsetBeat := 0, durBeat := 1/3, onsetDiv := 0, durDiv := 1, pitch := 60, tsBeatType := 4 },
    { onsetBeat := 1/3, durBeat := 2/3, onsetDiv := 1, durDiv := 2, pitch := 62, tsBeatType := 4 },
    { onsetBeat := 1/3, durBeat := 0, onsetDiv := 1, durDiv := 0, pitch := 61, tsBeatType := 4 } ]

/-- both kinds of columns, no `divs`: divisions 3 from the first note; the notes come back -/
example : fromArray true true false exArr none = .ok (3, [(0, 1, 60), (1, 0, 61), (1, 2, 62)]) := by decide +kernel

/-- beat columns only: divisions 3 = lcm of the denominators of onsets and durations -/
example : fromArray true false false exArr none = .ok (3, [(0, 1, 60), (1, 0, 61), (1, 2, 62)]) := by decide +kernel

/-- onsets on a finer grid than every duration count for the divisions (the repaired behaviour) -/
example : (divsFromBeats [(0, 1), (1/4, 1), (3/2, 1)]) = (4, [(0, 4), (1, 4), (6, 4)]) := by decide +kernel

/-- a negative first onset is moved to 0 -/
example : (divsFromBeats [(-1/2, 1), (0, 1)]) = (2, [(0, 2), (1, 2)]) := by decide +kernel

example : fromArray false true false exArr none = .error .divs ∧ fromArray false false false exArr none = .error .fields ∧
    fromArray true true false [] none = .error .empty ∧
    fromArray false true false
      [{ onsetBeat := 0, durBeat := 0, onsetDiv := 0, durDiv := -1, pitch := 60, tsBeatType := 4 }] (some 3)
      = .error .negative := by
  refine ⟨by decide +kernel, by decide +kernel, by decide +kernel, by decide +kernel⟩

/-- a spelling function that keeps the pitch (what C17 proves of `estimate_spelling`) -/
def exSpell (p : Int) : String × Int × Int :=
  match Model.midiToSpelling p with
  | some s => s
  | none => ("C", 0, 0)

/-- the hypotheses of from_to_array hold for a concrete array, spelling and part -/
example : (∀ r ∈ exArr, Model.spellingToMidi (exSpell r.pitch).1 (some (exSpell r.pitch).2.1) (exSpell r.pitch).2.2 = some r.pitch) ∧
    ((rows (createPart 3 [(0, 1, 60), (1, 0, 61), (1, 2, 62)] exMaps exSpell) exOpts).map fun t => t.map rowTriple) =
      some [(0, 1, 60), (1, 0, 61), (1, 2, 62)] := by decide +kernel

/-- `sortRows` on rows with equal onsets and pitches, and the monotonicity hypothesis of beat_order_eq -/
example : (sortRows [exRow "c" 2 1 60 2, exRow "b" 0 1 64 2, exRow "a" 0 1 60 2, exRow "d" 0 2 60 2]).map (·.id) =
    ["a", "d", "b", "c"] := by decide +kernel

end Examples

end C05
