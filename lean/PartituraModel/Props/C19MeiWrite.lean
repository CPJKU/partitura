/-
C19 — the writers, MEI.  `export_import` for partitura's MEI exporter: the document `save_mei` writes for an
exportable part (model: `Model/MeiWrite.lean`, compared element by element with the real output on every run)
denotes, under the semantics of `Model/Mei.lean` (the one `load_mei` is compared against), every note and grace
note of the part with its onset and duration in quarters, its spelling and its staff.
Proofs: `Proofs/C19MeiWrite.lean` and the `Proofs/C19Mei*.lean` modules under it.  All statements are for every part;
nothing is bounded.
-/
import PartituraModel.Proofs.C19MeiWrite

namespace C19
open Model Model.Mei Model.MeiWrite

/-- `export_import` (MEI): for every exportable part the writer succeeds, the written document is well formed
    under the denotational semantics (one part per `staffDef`), and the notes it denotes include every note and
    grace note of the part (onset, duration, kind, step, alteration, octave, staff).
    `Exportable` (decidable, `Model/MeiWrite.lean`): a positive number of divisions, at least one staff, a time
    signature at time 0, measures that follow one another from time 0, and in every measure: at least one note
    or rest, every note on one of the staves, every layer (a voice, written on the staff that holds most of its
    notes) gapless from the start of the measure — each event starts where the previous one ended, chords are
    notes of one length, every note, rest and chord has a symbolic duration (type of `MEI_DURS_TO_SYMBOLIC`,
    dots) worth exactly its length after the ratio of the `tuplet` element it is written in (written for a Tuplet
    object whose first and last note lie in the measure, in one voice and staff), step A–G, octave ≥ 0,
    alteration −2…2 or none — no layer running over the end of the measure and one reaching it. -/
theorem export_import_mei (p : MPart) (h : Exportable p = true) :
    ∃ evs parts, writeMei p = some evs ∧ Mei.denote evs = some parts ∧
      ∀ f ∈ facts p, ∃ part ∈ parts, ∃ x ∈ part.notes, factOfMeiNote x = f :=
  C19M.export_import_mei_aux p h

/-- a single written event read back: the `note` / `rest` element written for an exportable event, met by the
    state machine inside a layer (possibly inside one `tuplet`), is read where the layer stands, lasts what the
    event lasts (a grace note nothing) and moves the layer on by that; pitched events keep their spelling and staff
    (`@accid.ges`, an `accid` child or no accidental, as the key signature in force decides) -/
theorem mei_event_roundtrip (divs : Nat) (tup : Option (Nat × Nat)) (ks : List String) (m : MNote)
    (hok : noteOkM divs tup m = true) (evs : List Ev) (d : String) (hev : noteEl ks m = some (evs, d))
    (st : Mei.St) (hc : C19M.Ctx st tup) :
    ∃ de r, runEvs st evs =
        some { st with notes := r :: st.notes,
                       cursor := st.cursor + (if m.n.kind = 1 then 0 else (m.n.dur : Rat) / (divs : Rat)), durEls := de } ∧
      (m.n.kind ≠ 2 → r.onset = st.cursor ∧ r.dur = (if m.n.kind = 1 then 0 else (m.n.dur : Rat) / (divs : Rat)) ∧
        r.kind = m.n.kind ∧ r.step = m.n.step ∧ r.alter = m.n.alter.getD 0 ∧ r.octave = m.n.octave ∧ r.staff = m.n.staff) := by
  obtain ⟨evs', _, hev', h1, de, r, rfl, _, h3⟩ := C19M.single_spec divs tup ks m hok st hc
  rw [hev] at hev'
  cases hev'
  refine ⟨de, r, h1, fun hk => ?_⟩
  have := h3 hk
  simp only [C19M.rfact, C19M.qOf, KernWrite.Fact.mk.injEq] at this
  exact this

/-- every duration name the exporter can write is one the importer reads, as the same number of quarters
    (whole finite table of symbolic types, incl. the aliases h, e, q) -/
theorem mei_durs_inverse :
    ∀ e ∈ Gen.MEI_DURS_TO_SYMBOLIC, (meiDurOf e.2).bind durNumber = durNumber e.1 ∧ (durNumber e.1).isSome = true := by
  decide +kernel

/-- two staves; a voice with a chord, a dotted note, an altered note the key signature explains (B flat in F major)
    and one it does not (C sharp), a grace note, a triplet wrapped for its Tuplet object, a rest; a second measure
    in which the upper staff is silent -/
def demoMei : MPart :=
  let nt (id : String) (start kind voice staff : Nat) (ty : String) (dots : Nat) (step : String)
      (alter : Option Int) (oct : Int) (dur : Nat) : MNote :=
    ⟨id, start, { kind := kind, voice := voice, staff := staff, sym := some ⟨ty, dots, none⟩, step := step, alter := alter,
                  octave := oct, tieNext := false, tiePrev := false, dur := dur }⟩
  { title := "P1", divs := 6, nstaves := 2, clefs0 := [(1, "G", 2), (2, "F", 4)],
    key0 := some ⟨0, -1, some "major", "f"⟩, meter0 := some (2, 4),
    measures := [
      { number := 1, start := 0, end_ := 12,
        notes := [nt "a" 0 0 1 1 "quarter" 1 "B" (some (-1)) 4 9, nt "b" 0 0 1 1 "quarter" 1 "D" none 5 9,
                  nt "g" 9 1 1 1 "eighth" 0 "E" none 5 0, nt "c" 9 0 1 1 "eighth" 0 "C" (some 1) 5 3,
                  nt "t1" 0 0 2 2 "eighth" 0 "F" none 3 2, nt "t2" 2 0 2 2 "eighth" 0 "A" none 3 2,
                  nt "t3" 4 2 2 2 "eighth" 0 "" none 0 2, nt "d" 6 0 2 2 "quarter" 0 "C" none 3 6],
        tuplets := [⟨"t1", "t3", 0, 4, 6, true, some (3, 2)⟩], keys := [⟨0, -1, some "major", "f"⟩], meters := [(0, 2, 4)] },
      { number := 2, start := 12, end_ := 24,
        notes := [nt "e" 12 0 2 2 "half" 0 "F" none 2 12],
        tuplets := [], keys := [], meters := [] }] }

example : Exportable demoMei = true := by decide +kernel

example : ((writeMei demoMei).map fun evs => (evs.filterMap fun e => match e with
      | .op tag as => if tag = "note" ∨ tag = "rest" ∨ tag = "chord" ∨ tag = "tuplet" ∨ tag = "accid" ∨ tag = "layer"
          then some (tag, (as.filter fun kv => kv.1 ≠ "xml:id" ∧ kv.1 ≠ "oct" ∧ kv.1 ≠ "staff").map fun kv => kv.1 ++ "=" ++ kv.2) else none
      | .cl => none)) = some [
    ("layer", ["n=1"]),
    ("chord", ["dur=4", "dots=1"]),
    ("note", ["dur=4", "dots=1", "pname=b", "accid.ges=f"]), ("note", ["dur=4", "dots=1", "pname=d"]),
    ("note", ["dur=8", "pname=e", "grace=acc"]), ("note", ["dur=8", "pname=c"]), ("accid", ["accid=s"]),
    ("layer", ["n=2"]),
    ("tuplet", ["num=3", "numbase=2"]), ("note", ["dur=8", "pname=f"]), ("note", ["dur=8", "pname=a"]), ("rest", ["dur=8"]),
    ("note", ["dur=4", "pname=c"]),
    ("layer", ["n=2"]), ("note", ["dur=2", "pname=f"])] := by decide +kernel

/-- a voice that pauses without a rest is not exportable: the writer has no `space`, the next note moves up -/
def gapMei : MPart :=
  { demoMei with measures := [
      { number := 1, start := 0, end_ := 12,
        notes := [⟨"a", 0, { kind := 0, voice := 1, staff := 1, sym := some ⟨"quarter", 0, none⟩, step := "C", alter := none,
                             octave := 4, tieNext := false, tiePrev := false, dur := 6 }⟩,
                  ⟨"b", 6, { kind := 0, voice := 2, staff := 2, sym := some ⟨"quarter", 0, none⟩, step := "D", alter := none,
                             octave := 3, tieNext := false, tiePrev := false, dur := 6 }⟩],
        tuplets := [], keys := [], meters := [] }] }

example : Exportable gapMei = false := by decide +kernel

/-- … and there the D3 that the part has at quarter 1 is written at the start of its layer: read at quarter 0 -/
example : (facts gapMei).map (fun f => (f.onset, f.step)) = [(0, "C"), (1, "D")] ∧
    ((writeMei gapMei).bind fun evs => (runEvs {} evs).map fun st => st.notes.reverse.map fun r => (r.onset, r.step))
      = some [(0, "C"), (0, "D")] := by
  decide +kernel

end C19
