/-
C04 — the whole exporter and the round trip through the importer.

`export_pairing_sound` links `Model.ScoreMidi.saveScoreMidi` (the executable model of `save_score_midi`,
tied to the code by harness/props/c04.py) to the per-track theorems of Props/C04.lean: reading any
written track back returns exactly the sounding notes routed to that track, at the exact tick images of
their musical times.  `score_roundtrip` composes it with `Model.ScoreMidi.loadScoreMidi`.
Helper lemmas: Proofs/C04Export (the exporter), C04Import (the importer), C04Written (the file of an export as the
importers meet it).
-/
import PartituraModel.Props.C04
import PartituraModel.Proofs.C04Written

namespace C04
open Model Model.Ticks Model.MidiPair Model.MidiModes Model.ScoreMidi

/-- The whole exporter.  For every score (list of parts as `save_score_midi` reads them, tied notes already
    merged into one row per sounding note) with well-formed quarter-duration tables, every mode, anacrusis
    policy, minimum ppq and audible velocity for which the exporter returns a file:
    * the file's ticks per quarter are `lcm(divisions) * 2^k` (see `ppq_minimal`);
    * every note key `(group, part, voice)` has a (track, channel) given by `map_to_track_channel`, related
      as `mode_export` states, and the file has exactly the tracks `0 .. max`;
    * for every track in which no two routed notes of equal channel and pitch overlap, pairing the note
      ons and offs of the written delta-time messages (what both readers do) returns exactly the
      sounding notes routed to that track: onset tick, end tick, channel, pitch, velocity. -/
theorem export_pairing_sound (mode : Nat) (a : Anacrusis) (minPpq vel : Nat) (parts : List PartIn) (ex : Exported)
    (h : saveScoreMidi mode a minPpq vel parts = some ex) (hvel : 0 < vel)
    (hw : ∀ x ∈ parts, C04T.WellFormed x.base) :
    ∃ o tcs,
      origin a (parts.map (·.base)) = some o ∧ mapToTrackChannel mode (noteKeys parts) = some tcs ∧
      ex.ppq = ppq (parts.flatMap fun x => divisions x.base) minPpq ∧
      (∀ k ∈ noteKeys parts, ∃ tc, lookup k ((noteKeys parts).zip tcs) = some tc ∧ tc.1 < ex.tracks.length) ∧
      (mode ≤ 5 → ∀ x ∈ (noteKeys parts).zip tcs, ∀ y ∈ (noteKeys parts).zip tcs,
        (x.2.1 = y.2.1 ↔ C04M.SameTrack mode x.1 y.1) ∧ (x.2 = y.2 ↔ C04M.SameTC mode x.1 y.1)) ∧
      ∀ tr (htr : tr < ex.tracks.length),
        C04P.NoOverlap (routedTo ex.ppq o vel ((noteKeys parts).zip tcs) parts tr) →
        (pairTrack (deltasFrom 0 ex.tracks[tr])).Perm (routedTo ex.ppq o vel ((noteKeys parts).zip tcs) parts tr) := by
  obtain ⟨o, tcs, ho, htc, hkeys, hpair⟩ := C04E.save_tracks h hvel hw
  exact ⟨o, tcs, ho, htc, C04E.save_ppq h, hkeys, fun hmode => (mode_export mode hmode _ _ htc).2, hpair⟩

/-- non-vacuity: two parts in one group, divisions 3 and 2, a one-quarter pickup, touching notes of one pitch
    in two voices, a grace note on the pitch of its main note; mode 1 puts both parts on channels of one track -/
def demoScore : List PartIn :=
  [⟨0, ⟨3, [], 0, 15, some (0, 3), [(0, 4, 4)]⟩, [(0, 500000)], [(0, "C")], [(0, 3), (3, 15)],
      [(0, 3, 60, some 1), (3, 4, 60, some 2), (3, 0, 60, some 1), (3, 12, 64, some 1)]⟩,
   ⟨0, ⟨2, [], 0, 10, some (0, 2), [(0, 4, 4)]⟩, [], [(0, "C")], [(0, 2), (2, 10)],
      [(0, 2, 48, some 1), (2, 8, 48, some 1)]⟩]

example : (saveScoreMidi 1 .shift 0 64 demoScore).map (fun ex => (ex.ppq, ex.tracks.length)) = some (6, 1) ∧
    origin .shift (demoScore.map (·.base)) = some (-1) ∧
    mapToTrackChannel 1 (noteKeys demoScore) = some [(0, 1), (0, 1), (0, 2)] := by
  decide +kernel

example : ∀ x ∈ demoScore, C04T.WellFormed x.base := by
  intro x hx
  simp only [demoScore, List.mem_cons, List.not_mem_nil, or_false] at hx
  rcases hx with rfl | rfl <;> exact ⟨by decide, by simp, by simp [C04T.Asc, qRates]⟩

example : ∀ tr < 2, C04P.NoOverlap (routedTo 6 (-1) 64 ((noteKeys demoScore).zip [(0, 1), (0, 1), (0, 2)]) demoScore tr) := by
  unfold C04P.NoOverlap
  decide +kernel

/-- `shift` / `time_sig_change`: the ticks the exporter writes are the exact images
    `ppq * (quarter(t) - origin)` of the musical times, for the ticks per quarter it chooses. -/
theorem export_ticks_exact (mode : Nat) (a : Anacrusis) (minPpq vel : Nat) (parts : List PartIn) (ex : Exported)
    (h : saveScoreMidi mode a minPpq vel parts = some ex) (ha : a ≠ .padBar)
    (hw : ∀ x ∈ parts, C04T.WellFormed x.base) :
    ∃ o, origin a (parts.map (·.base)) = some o ∧ 0 < ex.ppq ∧
      ∀ x ∈ parts, ∀ t, ((tick ex.ppq x.base o t : Int) : Rat) = (ex.ppq : Rat) * (quarter x.base t - o) := by
  obtain ⟨o, _, _, _, ho, _⟩ := C04E.save_inv mode a minPpq vel parts ex h
  obtain ⟨hP, hdiv, hex⟩ := C04E.save_exact h hw
  exact ⟨o, ho, hP, hex o (C04T.origin_isInt _ a _ o hdiv ha ho)⟩

/-- `pad_bar`: the same when the bar of the first time signature is a whole number of ticks.  PARTIAL: the
    hypothesis `hbar` is not implied by the choice of ppq (see `ticks_integral_pad_partial`, counter-example
    `padWitness`); it holds when a full bar of that signature fits the grid of some division of the score
    (`pad_bar_on_grid`). -/
theorem export_ticks_exact_pad_partial (mode : Nat) (minPpq vel : Nat) (parts : List PartIn) (ex : Exported)
    (h : saveScoreMidi mode .padBar minPpq vel parts = some ex)
    (hw : ∀ x ∈ parts, C04T.WellFormed x.base)
    (hbar : ∀ x ∈ parts, ∀ beats bt, tsAt x.base 0 = some (beats, bt) → bt ∣ 4 * beats * ex.ppq) :
    ∃ o, origin .padBar (parts.map (·.base)) = some o ∧ 0 < ex.ppq ∧
      ∀ x ∈ parts, ∀ t, ((tick ex.ppq x.base o t : Int) : Rat) = (ex.ppq : Rat) * (quarter x.base t - o) := by
  obtain ⟨o, _, _, _, ho, _⟩ := C04E.save_inv mode .padBar minPpq vel parts ex h
  obtain ⟨hP, _, hex⟩ := C04E.save_exact h hw
  refine ⟨o, ho, hP, hex o (C04T.origin_pad_isInt _ _ o ho fun b hb => ?_)⟩
  obtain ⟨x, hx, rfl⟩ := List.mem_map.mp hb
  exact hbar x hx

/-- **Round trip in written ticks** (any anacrusis policy; under the hypotheses of `score_roundtrip` other than `ha`): export
    and import with the same mode — the notes handed to `create_part`, over all parts, are exactly the score's sounding
    notes at their written ticks, and every created part has `ppq` divisions per quarter. -/
theorem roundtrip_ticks (mode : Nat) (a : Anacrusis) (minPpq vel : Nat) (parts : List PartIn) (ex : Exported)
    (imp : Imported)
    (h : saveScoreMidi mode a minPpq vel parts = some ex)
    (hi : loadScoreMidi mode ex.ppq (ex.tracks.map (deltasFrom 0)) = some imp)
    (hvel : 0 < vel) (hw : ∀ x ∈ parts, C04T.WellFormed x.base)
    (hno : ∀ o tcs, origin a (parts.map (·.base)) = some o → mapToTrackChannel mode (noteKeys parts) = some tcs →
      ∀ tr, C04P.NoOverlap (routedTo ex.ppq o vel ((noteKeys parts).zip tcs) parts tr)) :
    ∃ o, origin a (parts.map (·.base)) = some o ∧
      (imp.parts.flatMap fun e => e.2.notes.map C04I.strip).Perm (writtenRows ex.ppq o parts) ∧
      ∀ e ∈ imp.parts, e.2.divs = ex.ppq := by
  obtain ⟨o, tcs, W⟩ := C04E.Written.of h hvel hw hno
  exact ⟨o, W.origin, W.import_rows hi, C04I.import_divs mode ex.ppq _ imp hi⟩

/-- **Round trip** (`shift`, `time_sig_change`).  Export a score whose notes do not overlap in equal pitch
    within one (track, channel) of the chosen mode, and import the written file with the same mode: the
    imported parts together hold exactly the score's sounding notes — the same multiset of onset and duration
    in quarter notes (position in divisions over the quarter duration `create_part` sets, plus the origin of the
    file) and MIDI pitch — and every created part has `ppq` divisions per quarter. -/
theorem score_roundtrip (mode : Nat) (a : Anacrusis) (minPpq vel : Nat) (parts : List PartIn) (ex : Exported)
    (imp : Imported)
    (h : saveScoreMidi mode a minPpq vel parts = some ex)
    (hi : loadScoreMidi mode ex.ppq (ex.tracks.map (deltasFrom 0)) = some imp)
    (ha : a ≠ .padBar) (hvel : 0 < vel) (hw : ∀ x ∈ parts, C04T.WellFormed x.base)
    (hno : ∀ o tcs, origin a (parts.map (·.base)) = some o → mapToTrackChannel mode (noteKeys parts) = some tcs →
      ∀ tr, C04P.NoOverlap (routedTo ex.ppq o vel ((noteKeys parts).zip tcs) parts tr)) :
    ∃ o, origin a (parts.map (·.base)) = some o ∧ (importedRows o imp).Perm (scoreRows parts) ∧
      ∀ e ∈ imp.parts, e.2.divs = ex.ppq := by
  obtain ⟨o, tcs, W⟩ := C04E.Written.of h hvel hw hno
  obtain ⟨hP, hex⟩ := W.exact hw ha
  exact ⟨o, W.origin, W.import_musical hi hP hex⟩

/-- **Round trip** for `pad_bar`.  PARTIAL: needs the bar of the first time signature to be a whole number of
    ticks (`hbar`, see `export_ticks_exact_pad_partial`); everything else as in `score_roundtrip`. -/
theorem score_roundtrip_pad_partial (mode : Nat) (minPpq vel : Nat) (parts : List PartIn) (ex : Exported)
    (imp : Imported)
    (h : saveScoreMidi mode .padBar minPpq vel parts = some ex)
    (hi : loadScoreMidi mode ex.ppq (ex.tracks.map (deltasFrom 0)) = some imp)
    (hvel : 0 < vel) (hw : ∀ x ∈ parts, C04T.WellFormed x.base)
    (hbar : ∀ x ∈ parts, ∀ beats bt, tsAt x.base 0 = some (beats, bt) → bt ∣ 4 * beats * ex.ppq)
    (hno : ∀ o tcs, origin .padBar (parts.map (·.base)) = some o → mapToTrackChannel mode (noteKeys parts) = some tcs →
      ∀ tr, C04P.NoOverlap (routedTo ex.ppq o vel ((noteKeys parts).zip tcs) parts tr)) :
    ∃ o, origin .padBar (parts.map (·.base)) = some o ∧ (importedRows o imp).Perm (scoreRows parts) ∧
      ∀ e ∈ imp.parts, e.2.divs = ex.ppq := by
  obtain ⟨o, tcs, W⟩ := C04E.Written.of h hvel hw hno
  obtain ⟨hP, hex⟩ := C04E.of_eq_some W.origin (export_ticks_exact_pad_partial mode minPpq vel parts ex h hw hbar)
  exact ⟨o, W.origin, W.import_musical hi hP hex⟩

/-- The rows the exporter reads from a part (`Part.notes_tied` with `duration_tied`, `midi_pitch`, `voice`) are
    the rows of `notesTied` (one per tie-chain head, durations summed: `tied_rows`, `tied_merged`) with the voice of
    the head. -/
theorem tied_rows_voiced (notes : List ScoreNote) (voices : List Voice) :
    (notesTiedV notes voices).map (fun r => (r.1, r.2.1, r.2.2.1)) = notesTied notes ∧
    (notesTiedV notes voices).length = (notes.filter (fun n => !n.tiePrev)).length := by
  have hmap : (notesTiedV notes voices).map (fun r => (r.1, r.2.1, r.2.2.1)) = notesTied notes := by
    unfold notesTiedV notesTied
    rw [List.map_filterMap]
    apply List.filterMap_congr
    intro i _
    cases notes[i]? with
    | none => rfl
    | some n => cases h : n.tiePrev <;> simp [h]
  refine ⟨hmap, ?_⟩
  rw [← tied_rows notes, ← hmap, List.length_map]

/-- **Round trip from the note objects** (`shift`, `time_sig_change`): `save_score_midi` applied to parts given by
    their note objects with tie links (`saveScore`: tie chains merged by `notesTiedV`), imported with the same
    mode, gives back one note per tie chain at the chain head's onset with the summed duration. -/
theorem score_roundtrip_tied (mode : Nat) (a : Anacrusis) (minPpq vel : Nat) (srcs : List PartSrc) (ex : Exported)
    (imp : Imported)
    (h : saveScore mode a minPpq vel srcs = some ex)
    (hi : loadScoreMidi mode ex.ppq (ex.tracks.map (deltasFrom 0)) = some imp)
    (ha : a ≠ .padBar) (hvel : 0 < vel) (hw : ∀ x ∈ srcs, C04T.WellFormed x.base)
    (hno : ∀ o tcs, origin a (srcs.map (·.base)) = some o →
      mapToTrackChannel mode (noteKeys (srcs.map PartSrc.toPartIn)) = some tcs →
      ∀ tr, C04P.NoOverlap (routedTo ex.ppq o vel ((noteKeys (srcs.map PartSrc.toPartIn)).zip tcs)
        (srcs.map PartSrc.toPartIn) tr)) :
    ∃ o, origin a (srcs.map (·.base)) = some o ∧
      (importedRows o imp).Perm
        (srcs.flatMap fun x => (notesTiedV x.notes x.voices).map fun n =>
          (quarter x.base n.1, quarter x.base (n.1 + n.2.1) - quarter x.base n.1, n.2.2.1)) := by
  have hb : (srcs.map PartSrc.toPartIn).map (·.base) = srcs.map (·.base) := by
    rw [List.map_map]; rfl
  obtain ⟨o, ho, hperm, _⟩ := score_roundtrip mode a minPpq vel (srcs.map PartSrc.toPartIn) ex imp h hi ha hvel
    (by
      intro x hx
      obtain ⟨y, hy, rfl⟩ := List.mem_map.mp hx
      exact hw y hy)
    (by
      intro o tcs ho htc
      exact hno o tcs (hb ▸ ho) htc)
  refine ⟨o, hb ▸ ho, ?_⟩
  refine hperm.trans (List.Perm.of_eq ?_)
  unfold scoreRows
  rw [List.flatMap_map]
  rfl

example : notesTiedV [⟨0, 4, 60, false, some 1⟩, ⟨4, 2, 60, true, some 3⟩, ⟨4, 4, 64, false, none⟩, ⟨6, 1, 60, true, none⟩]
    [some 1, some 1, none, some 1] = [(0, 7, 60, some 1), (4, 4, 64, none)] := by decide +kernel

/-- The `create_part` side of the importer (measures, ties and tuplets are C11's subject): every part is created
    with one quarter duration, the file's ticks per quarter, set at time 0; a note is added from its onset tick to
    onset + duration (`placeNote`: one division per tick).  So in the created part the position of a division `t`
    in quarters (the quarter map before a pickup shift, `quarterRaw` of the part's table) is exactly `t / ticks`,
    and a note of `d` ticks lasts `d / ticks` quarters. -/
theorem create_part_placement (mode ticks : Nat) (tracks : List (List (Int × Msg))) (imp : Imported)
    (h : loadScoreMidi mode ticks tracks = some imp) :
    ∀ e ∈ imp.parts, e.2.divs = ticks ∧
      (∀ n ∈ e.2.notes, (placeNote n).1 = n.1 ∧ (placeNote n).2 - (placeNote n).1 = n.2.2.1) ∧
      ∀ b : TimeBase, b.d0 = e.2.divs → b.qd = [] → ∀ s d : Nat,
        quarterRaw b s = (s : Rat) / (ticks : Rat) ∧
        quarterRaw b (s + d) - quarterRaw b s = (d : Rat) / (ticks : Rat) := by
  intro e he
  have hd := C04I.import_divs mode ticks tracks imp h e he
  refine ⟨hd, ?_, ?_⟩
  · intro n _
    simp [placeNote]
  · intro b hb hq s d
    have hq' : ∀ t : Nat, quarterRaw b t = (t : Rat) / (ticks : Rat) := by
      intro t
      unfold quarterRaw
      rw [hq, hb, hd]
      simp only [qRates, List.map_nil, integ]
      push_cast
      ring
    refine ⟨hq' s, ?_⟩
    rw [hq' (s + d), hq' s]
    push_cast
    ring

/-- non-vacuity of the round trip on `demoScore`: the import of the export, in musical time, is a
    permutation of the score's rows (the grace note and the note it precedes change places) -/
example : ((saveScoreMidi 1 .shift 0 64 demoScore).bind fun ex =>
      (loadScoreMidi 1 ex.ppq (ex.tracks.map (deltasFrom 0))).map fun imp => importedRows (-1) imp) =
    some [(-1, 1, 60), (0, 0, 60), (0, 4 / 3, 60), (0, 4, 64), (-1, 1, 48), (0, 4, 48)] ∧
    scoreRows demoScore = [(-1, 1, 60), (0, 4 / 3, 60), (0, 0, 60), (0, 4, 64), (-1, 1, 48), (0, 4, 48)] := by
  decide +kernel

end C04
