/-
C18 — the tempo curves on a caller-given `unique_onset_idxs` (`GoodGroups`, Proofs/C18Tempo).
-/
import PartituraModel.Props.C18Ext

namespace C18
open Model Model.Codec C18P

/-- the grouping the codec computes itself is good: the theorems below contain those about the built-in grouping -/
theorem builtin_groups_good (ns : List MNote) (hne : ns ≠ []) : GoodGroups ns (encGroups ns) :=
  goodGroups_enc ns hne

/-- index lists as the caller passes them: every index inside the table (else `pickGroups` is an `IndexError`),
    no empty list, at least one list, mean score onsets increasing -/
theorem picked_groups_good (ns : List MNote) (idx : List (List Nat)) (gs : List (Grp MNote))
    (hpick : pickGroups ns idx = some gs) (h0 : gs ≠ []) (hne : ∀ g ∈ gs, g ≠ [])
    (hinc : (groupMeans (·.so) gs).Pairwise (· < ·)) : GoodGroups ns gs :=
  ⟨h0, hne, fun g hg p hp => (pickGroups_mem ns idx gs hpick g hg p hp).1, hinc⟩

/-- `tempo_by_average(…, unique_onset_idxs)` without `input_onsets`: one positive beat period per group of the caller -/
theorem tempo_average_groups_pos (ns : List MNote) (gs : List (Grp MNote)) (hg : GoodGroups ns gs) (hne : ns ≠ [])
    (hsd : ∀ x ∈ ns, 0 ≤ x.sd) (hpd : ∀ x ∈ ns, 0 ≤ x.pd) :
    ∃ bp, tempoAverageAt ns gs none = some bp ∧ tempoAverage ns gs = some bp ∧ bp.length = gs.length ∧ ∀ b ∈ bp, 0 < b :=
  tempoAverageAt_none hg hsd hpd

/-- … sampled at any `input_onsets` -/
theorem tempo_average_groups_at_pos (ns : List MNote) (gs : List (Grp MNote)) (hg : GoodGroups ns gs) (hne : ns ≠ [])
    (hsd : ∀ x ∈ ns, 0 ≤ x.sd) (hpd : ∀ x ∈ ns, 0 ≤ x.pd) (inputs : List Rat) :
    ∃ out, tempoAverageAt ns gs (some inputs) = some out ∧ out.length = inputs.length ∧ ∀ b ∈ out, 0 < b :=
  tempoAverageAt_pos hg hsd hpd inputs

/-- `tempo_by_derivative(…, unique_onset_idxs, input_onsets)`: positive at the group means (default) and at any
    sampling points -/
theorem tempo_derivative_groups_pos (ns : List MNote) (gs : List (Grp MNote)) (hg : GoodGroups ns gs) (hne : ns ≠ [])
    (hsd : ∀ x ∈ ns, 0 ≤ x.sd) (hpd : ∀ x ∈ ns, 0 ≤ x.pd) (inputs : Option (List Rat)) :
    ∃ out, tempoDerivativeAt ns gs inputs = some out ∧
      out.length = (inputs.getD (groupMeans (·.so) gs)).length ∧ ∀ b ∈ out, 0 < b :=
  tempoDerivativeAt_pos hg hsd hpd inputs

/-- non-vacuity: a coarser grouping of `demoSwapped` (non-monotone performed onsets) given by the caller is good … -/
example : ∃ gs, pickGroups demoSwapped [[0, 1], [2], [3]] = some gs ∧ GoodGroups demoSwapped gs
    ∧ tempoAverageAt demoSwapped gs none = some [1, 1/8, 1/8] := by
  refine ⟨[[(0, ⟨0, 1, 2, 1/2⟩), (1, ⟨1, 1, 1, 1/2⟩)], [(2, ⟨2, 1, 3, 1/4⟩)], [(3, ⟨3, 1, 5/2, 1/2⟩)]], by decide +kernel, ?_,
    by decide +kernel⟩
  exact picked_groups_good demoSwapped [[0, 1], [2], [3]] _ (by decide +kernel) (by decide) (by decide)
    (by decide +kernel)

/-- … and the order of the groups matters: listed backwards (mean onsets decreasing) the same groups give negative
    beat periods under both methods -/
theorem groups_order_needed :
    (pickGroups demoSwapped [[3], [2], [0, 1]]).bind (fun gs => tempoAverageAt demoSwapped gs none)
      = some [-1/2, -1/2, -1/7]
    ∧ (pickGroups demoSwapped [[3], [2], [0, 1]]).bind (fun gs => tempoDerivativeAt demoSwapped gs none)
      = some [1/8, -1/2, -1/2] := by
  decide +kernel

end C18
