/-
C10 — "every part": the part an edit history leaves.

Model/StepMapHist.lean models `Part.add` / `Part.remove` / re-adding / `use_musical_beat` / `use_notated_beat` /
`set_musical_beat_per_ts` / `set_quarter_duration` on the elements the six maps read, and `describe`: what the
maps read of the result (compared with the state of the real part after every generated history: request `hist`).
The theorems are over ALL histories (induction on the list of operations).  `HPart` keeps the elements with their
insertion stamps and sorts them; that `iter_all` of the real timeline delivers this order is property C01, carried to
the tables in Props/C10Timeline.lean and Props/C10Order.lean.
-/
import PartituraModel.Proofs.C10Hist
import PartituraModel.Props.C10Order
import PartituraModel.Props.C10Part

namespace C10
open Model Model.StepMap

/-- building and calling the maps does not change the part (nothing is cached) -/
theorem query_is_noop (s : HPart) : hpStep s .query = s := rfl

def HistOp.isQuery : HistOp → Bool
  | .query => true
  | _ => false

/-- **`queries_do_not_matter`**: interleaving queries with the edits leaves the same part -/
theorem queries_do_not_matter (q0 : Nat) (ops : List HistOp) :
    hpRun q0 ops = hpRun q0 (ops.filter fun o => !HistOp.isQuery o) := by
  unfold hpRun
  generalize hpInit q0 = s
  induction ops generalizing s with
  | nil => rfl
  | cons op rest ih =>
    -- a query is filtered out and is a no-op of the state; every other operation is kept
    cases op with
    | query => exact ih s
    | _ => exact ih _

/-- **`tables_in_time_order`**: after any history the tables the maps build are in time order (the hypothesis of
    `lookup_spec` and of the `*_coincident` theorems) -/
theorem tables_in_time_order (s : HPart) :
    SortedLE (tsTbl (describe s).part.ts) ∧ SortedLE (describe s).kss ∧ SortedLE (describe s).clefs
    ∧ (describe s).part.ms.Pairwise (fun a b => a.1 ≤ b.1) := by
  obtain ⟨h1, h2, h3, h4, _⟩ := described_sorted s
  exact ⟨List.pairwise_map.mpr h1, h2, h3, h4⟩

/-- **`coincident_in_insertion_order`**: the elements on the timeline are read in time order, those of one time in the
    order they were (last) added -/
theorem coincident_in_insertion_order (s : HPart) :
    (liveSorted s).Pairwise fun a b => a.t < b.t ∨ (a.t = b.t ∧ a.seq ≤ b.seq) :=
  (liveSorted_lex s).imp fun h => by
    rcases h with h | ⟨h1, h2⟩
    · exact Or.inl h
    · exact Or.inr ⟨h1, by omega⟩

/-- **`seq_below_clock`**: every object carries an insertion stamp below the clock, after any history -/
theorem seq_below_clock (q0 : Nat) (ops : List HistOp) :
    ∀ o ∈ (hpRun q0 ops).objs, o.seq < (hpRun q0 ops).clock := by
  refine hpRun_invariant (fun s => ∀ o ∈ s.objs, o.seq < s.clock) q0 ops (fun o ho => nomatch ho) ?_
  intro s op _ h0 o ho
  obtain ⟨hc, hs⟩ := hpStep_seq s op
  rcases hs o ho with ⟨o', ho', h⟩ | ⟨h, hc'⟩
  · have := h0 o' ho'
    omega
  · omega

/-- **`readd_is_latest`**: an element that is removed and added again is the latest insertion: it comes after every
    other element of its time point (for a signature: it is the one the map reports from there on, `*_coincident`) -/
theorem readd_is_latest (q0 : Nat) (ops : List HistOp) (id : Nat) :
    ∀ o ∈ (hpStep (hpRun q0 ops) (.readd id)).objs,
      (o.seq = (hpRun q0 ops).clock ∧ o.id = id ∧ o.live = true) ∨ o.seq < (hpRun q0 ops).clock := by
  intro o ho
  simp only [hpStep, List.mem_map] at ho
  obtain ⟨o', ho', rfl⟩ := ho
  have := seq_below_clock q0 ops o' ho'
  split
  · rename_i h; exact Or.inl ⟨rfl, h.1, rfl⟩
  · exact Or.inr this

/-- **`ks_after_history`** / **`ts_after_history`**: composed with the lookup theorems - after ANY history the
    key-signature (time-signature) map of the part reports, on the timeline, the key signature that starts latest at or
    before `x` and, among coincident ones, the one added last; the first one of the table before all of them -/
theorem ks_after_history (s : HPart) (f l x : Int) (hsp : (describe s).part.span = some (f, l)) (hx : f ≤ x)
    (hne : (describe s).kss ≠ []) :
    ksMap (describe s).part.span (describe s).kss x = match (upTo (describe s).kss x).getLast? with
      | some e => some (e.2.1, keyModeToInt e.2.2)
      | none => (describe s).kss.head?.map fun e => (e.2.1, keyModeToInt e.2.2) := by
  rw [hsp]
  exact ks_coincident f l x hx _ (tables_in_time_order s).2.1 hne

theorem ts_after_history (s : HPart) (f l x : Int) (hsp : (describe s).part.span = some (f, l)) (hx : f ≤ x)
    (hne : (describe s).part.ts ≠ []) :
    tsMapE (describe s).part.span (describe s).part.ts x
      = match (upTo (tsTbl (describe s).part.ts) x).getLast? with
        | some e => some (e.2.beats, e.2.beatType, e.2.mb)
        | none => (describe s).part.ts.head?.map fun sg => (sg.beats, sg.beatType, sg.mb) := by
  rw [hsp]
  exact ts_coincident f l x hx _ (tables_in_time_order s).1 hne

/-- **`clef_after_history`**: the same for `clef_map`, per staff - after ANY history the row of staff `i+1`
    is the clef of that staff that starts latest at or before `x` (among coincident ones the one added last), the
    first clef of that staff before all of them; the order of the clef table is derived, not assumed -/
theorem clef_after_history (s : HPart) (f l x : Int) (hsp : (describe s).part.span = some (f, l)) (hx : f ≤ x)
    (rows : Tbl ClefV) (hr : clefRows (describe s).clefs = some rows) (i : Nat)
    (hi : i < numberOfStaves ((describe s).clefs.map (·.2.1) ++ otherStaffs (describe s).others))
    (hne : rows.filter (fun r => r.2.1 = (i : Int) + 1) ≠ []) :
    ∃ res, clefMap (describe s).part.span (describe s).clefs (otherStaffs (describe s).others) x = some res ∧
      res[i]? = some (match (upTo (rows.filter fun r => r.2.1 = (i : Int) + 1) x).getLast? with
        | some e => some e.2
        | none => (rows.filter fun r => r.2.1 = (i : Int) + 1).head?.map (·.2)) := by
  rw [hsp]
  exact clef_coincident f l x hx _ _ rows hr (clefRows_sorted _ rows hr (tables_in_time_order s).2.2.1) i hi hne

/-- **`measures_ordered_after_history`**: the hypothesis `Ordered` of `measure_spec` / `number_spec` /
    `metrical_position_no_tiling` ("measures in time order without overlap") from what the user controls alone: when
    the measures on the timeline are non-empty and pairwise disjoint - in whatever order they were added, removed
    and re-added - the table the maps read lists them one after the other -/
theorem measures_ordered_after_history (s : HPart) (hpos : ∀ m ∈ (describe s).part.ms, m.1 < m.2.1)
    (hdis : (describe s).part.ms.Pairwise fun a b => a.2.1 ≤ b.1 ∨ b.2.1 ≤ a.1) :
    Ordered (bars (describe s).part) := by
  unfold bars
  apply ordered_of_disjoint
  · intro m hm
    obtain ⟨m', hm', rfl⟩ := List.mem_map.mp hm
    exact hpos m' hm'
  · rw [List.pairwise_map]
    exact (tables_in_time_order s).2.2.2
  · rw [List.pairwise_map]
    exact hdis

/-- **`measure_after_history`**: end to end - after ANY history, for disjoint non-empty measures on the
    timeline and a position `x` inside the `i`-th of them (in time order), `measure_map(x)` is that measure's extent
    (the first one with its pickup-corrected start) and `metrical_position_map(x)[0]` the distance from that start -/
theorem measure_after_history (s : HPart) (x : Int) (hr : raisesP (describe s).part = false)
    (hpos : ∀ m ∈ (describe s).part.ms, m.1 < m.2.1)
    (hdis : (describe s).part.ms.Pairwise fun a b => a.2.1 ≤ b.1 ∨ b.2.1 ≤ a.1)
    (i : Nat) (s0 e : Int) (hi : (bars (describe s).part)[i]? = some (s0, e)) (hs : s0 ≤ x) (he : x < e) :
    measureMapP (describe s).part x
      = some (some (if i = 0 then pickupStart s0 e (beatsPerBar (describe s).part) (divsPerBeat (describe s).part)
                    else s0, e)) ∧
    (metricalMapP (describe s).part x).map (·.1)
      = some (x - (if i = 0 then pickupStart s0 e (beatsPerBar (describe s).part) (divsPerBeat (describe s).part)
                   else s0)) :=
  ⟨measure_spec_composed _ x hr (measures_ordered_after_history s hpos hdis) i s0 e hi hs he,
   metrical_position_composed_no_tiling _ x hr (measures_ordered_after_history s hpos hdis) i s0 e hi hs he⟩

/-- … and `measure_number_map(x)` is that measure's number -/
theorem number_after_history (s : HPart) (x : Int) (hr : raisesP (describe s).part = false)
    (hpos : ∀ m ∈ (describe s).part.ms, m.1 < m.2.1)
    (hdis : (describe s).part.ms.Pairwise fun a b => a.2.1 ≤ b.1 ∨ b.2.1 ≤ a.1)
    (filled : List Int) (hf : allSome (fillNumbers ((describe s).part.ms.map (·.2.2))) = some filled)
    (i : Nat) (s0 e n : Int) (hi : (describe s).part.ms[i]? = some (s0, e, some n)) (hs : s0 ≤ x) (he : x < e) :
    measureNumberMapP (describe s).part x = some (some n) :=
  number_spec_composed _ x hr (measures_ordered_after_history s hpos hdis) filled hf i s0 e n hi hs he

/-- **`use_notated_resets`**: leaving musical beats resets the musical beats of every time signature that is on the
    timeline to the default table (2 for 6, 3 for 9, 4 for 12, else the number of beats) -/
theorem use_notated_resets (s : HPart) (hm : s.musical = true) :
    (hpStep s .useNotated).musical = false ∧
    ∀ sig ∈ (describe (hpStep s .useNotated)).part.ts, sig.mb = TimeMap.defaultMB sig.beats := by
  have hstep : hpStep s .useNotated = { s with musical := false, objs := s.objs.map (assignObj []) } := if_pos hm
  rw [hstep]
  refine ⟨rfl, fun sig hsig => ?_⟩
  obtain ⟨o, ho, hk⟩ := List.mem_filterMap.mp (show sig ∈ (liveSorted _).filterMap tsKey from hsig)
  obtain ⟨hmem, hlive⟩ := (mem_liveSorted _ o).mp ho
  obtain ⟨o', _, rfl⟩ := List.mem_map.mp hmem
  exact tsKey_assignObj_nil o' sig hlive hk

/-- **`beat_ops_skip_removed`**: `set_musical_beat_per_ts` (and with it both switches) iterates over the timeline: a
    signature that is not on it keeps the musical beats stored on it (and brings them back when it is re-added) -/
theorem beat_ops_skip_removed (tbl : List ((Nat × Nat) × Nat)) (o : HObj) (h : o.live = false) :
    assignObj tbl o = o := by
  unfold assignObj
  rw [h]

/-- **`rebuild_tables`**: building a part from tables that are in time order (elements kind by kind in table order,
    the stored musical beats, then the beat mode) leaves exactly those tables on the timeline -/
theorem rebuild_tables (q0 : Nat) (d : Described)
    (hts : d.part.ts.Pairwise fun a b => a.t ≤ b.t) (hks : d.kss.Pairwise fun a b => a.1 ≤ b.1)
    (hcl : d.clefs.Pairwise fun a b => a.1 ≤ b.1) (hms : d.part.ms.Pairwise fun a b => a.1 ≤ b.1)
    (hot : d.others.Pairwise fun a b => a.1 ≤ b.1) :
    describe (hpRun q0 (rebuildOps d))
      = mkDescribed (hpRun q0 (rebuildOps d)).qd d.part.musical d.part.ts d.kss d.clefs d.part.ms d.others := by
  obtain ⟨e1, e2, e3, e4, e5⟩ := filterMap_rebuildSpecs d
  rw [hpRun_rebuildOps]
  unfold describe
  dsimp only
  rw [liveSorted_mkObjs, tsOf_eq, ksOf_eq, clefsOf_eq, msOf_eq, othersOf_eq,
    filterMap_sorted_objs (fun y : TimeMap.TSig => y.t) tsKey tsKey_t _ (e1.symm ▸ hts),
    filterMap_sorted_objs (fun y : Int × Int × Mode => y.1) ksKey ksKey_t _ (e2.symm ▸ hks),
    filterMap_sorted_objs (fun y : RawClef => y.1) clefKey clefKey_t _ (e3.symm ▸ hcl),
    filterMap_sorted_objs (fun y : Int × Int × Option Int => y.1) msKey msKey_t _ (e4.symm ▸ hms),
    filterMap_sorted_objs (fun y : Int × Option Int × Option Int => y.1) otherKey otherKey_t _ (e5.symm ▸ hot),
    e1, e2, e3, e4, e5]

/-- a fresh build of what is on the timeline differs from the part at most in the quarter-duration table -/
theorem rebuild_describe (q0 : Nat) (s : HPart) :
    describe (hpRun q0 (rebuildOps (describe s)))
      = { describe s with part := { (describe s).part with qd := (hpRun q0 (rebuildOps (describe s))).qd } } := by
  obtain ⟨h1, h2, h3, h4, h5⟩ := described_sorted s
  exact (rebuild_tables q0 (describe s) h1 h2 h3 h4 h5).trans (mkDescribed_proj s.qd _ s.musical _ _ _ _ _ _ rfl)

/-- **`rebuild_same_tables`**: after ANY history, a fresh build of what is on the timeline has the same tables
    (time signatures with their stored musical beats, key signatures, clefs, measures, the other elements), the same
    beat mode and the same time points -/
theorem rebuild_same_tables (q0 : Nat) (s : HPart) :
    (describe (hpRun q0 (rebuildOps (describe s)))).part.ts = (describe s).part.ts ∧
    (describe (hpRun q0 (rebuildOps (describe s)))).part.ms = (describe s).part.ms ∧
    (describe (hpRun q0 (rebuildOps (describe s)))).kss = (describe s).kss ∧
    (describe (hpRun q0 (rebuildOps (describe s)))).clefs = (describe s).clefs ∧
    (describe (hpRun q0 (rebuildOps (describe s)))).others = (describe s).others ∧
    (describe (hpRun q0 (rebuildOps (describe s)))).part.musical = (describe s).part.musical ∧
    (describe (hpRun q0 (rebuildOps (describe s)))).part.npoints = (describe s).part.npoints ∧
    (describe (hpRun q0 (rebuildOps (describe s)))).part.span = (describe s).part.span := by
  have h := rebuild_describe q0 s
  -- read the eight components off the equation, with the two descriptions as opaque terms
  generalize (hpRun q0 (rebuildOps (describe s))).qd = qd at h
  generalize describe (hpRun q0 (rebuildOps (describe s))) = R at h ⊢
  generalize describe s = D at h ⊢
  subst h
  exact ⟨rfl, rfl, rfl, rfl, rfl, rfl, rfl, rfl⟩

/-- **`rebuild_same_description`**: when the fresh build also reproduces the quarter-duration table, it is
    indistinguishable for the six maps (they are functions of the description): the maps depend on what is on the
    timeline now, not on the history that put it there -/
theorem rebuild_same_description (q0 : Nat) (s : HPart)
    (hqd : (hpRun q0 (rebuildOps (describe s))).qd = s.qd) :
    describe (hpRun q0 (rebuildOps (describe s))) = describe s := by
  have h := rebuild_describe q0 s
  rw [hqd, show s.qd = (describe s).part.qd from rfl] at h
  generalize describe s = D at h
  exact h

/-- **`qd_head_zero`**: after ANY history whose `set_quarter_duration` calls are at times >= 0 the quarter-duration
    table starts with an entry at 0 and all other entries are later (the fresh build of the harness is
    `Part(quarter_duration = that first value)` followed by one `set_quarter_duration` per later entry) -/
theorem qd_head_zero (q0 : Nat) (ops : List HistOp) (hv : ∀ t q, HistOp.setQD t q ∈ ops → 0 ≤ t) :
    ∃ q rest, (hpRun q0 ops).qd = (0, q) :: rest ∧ ∀ e ∈ rest, 0 < e.1 := by
  -- carried through the history: the head at 0 is kept and the times stay strictly increasing (property C02)
  have key : (∃ q rest, (hpRun q0 ops).qd = (0, q) :: rest) ∧ ((hpRun q0 ops).qd.map (·.1)).Pairwise (· < ·) := by
    refine hpRun_invariant (fun s => (∃ q rest, s.qd = (0, q) :: rest) ∧ (s.qd.map (·.1)).Pairwise (· < ·)) q0 ops
      ⟨⟨q0, [], rfl⟩, List.pairwise_singleton _ _⟩ ?_
    rintro s op hop ⟨⟨a, r, hq⟩, hp⟩
    by_cases hs : ∃ t q, op = .setQD t q
    · obtain ⟨t, q, rfl⟩ := hs
      exact ⟨show ∃ q' rest, TimeMap.setQD s.qd t q = (0, q') :: rest from
          hq ▸ C02Proofs.setQD_head 0 a r t q (hv t q hop), C02Proofs.setQDAux_pairwise t q s.qd none hp⟩
    · rw [hpStep_qd s op fun t q h => hs ⟨t, q, h⟩]
      exact ⟨⟨a, r, hq⟩, hp⟩
  obtain ⟨⟨q, rest, hq⟩, hp⟩ := key
  refine ⟨q, rest, hq, fun e he => ?_⟩
  rw [hq] at hp
  exact (List.pairwise_cons.mp hp).1 e.1 (List.mem_map.mpr ⟨e, he, rfl⟩)

/-- the quarter-duration table of the fresh build `Part(quarter_duration = q)` + one `set_quarter_duration` per later
    entry: the replay of those entries -/
theorem rebuild_qd_replay (s : HPart) (q : Nat) (rest : List (Int × Nat)) (hq : s.qd = (0, q) :: rest) :
    (hpRun q (rebuildOps (describe s))).qd = replayQD [(0, q)] rest := by
  have hd : (describe s).part.qd = (0, q) :: rest := hq
  rw [hpRun_rebuildOps, hd]
  rfl

/-- the fresh build reproduces a quarter-duration table that has no redundant entry -/
theorem rebuild_qd_normal (s : HPart) (q : Nat) (rest : List (Int × Nat)) (hq : s.qd = (0, q) :: rest)
    (hn : QDNormal s.qd) : (hpRun q (rebuildOps (describe s))).qd = s.qd := by
  rw [rebuild_qd_replay s q rest hq, hq]
  exact replayQD_normal rest [] (0, q) (hq ▸ hn) (by simp)

/-- **`rebuild_same_description_normal`**: for a part whose quarter-duration table has no redundant entry (times
    increase, every change changes the value), the fresh build `Part(quarter_duration = first value)` + the later
    changes + the elements on the timeline + the beat mode has the SAME description - hence the same six maps.
    `rebuild_same_description_const_qd` is the special case of a table with one entry. -/
theorem rebuild_same_description_normal (s : HPart) (q : Nat) (rest : List (Int × Nat)) (hq : s.qd = (0, q) :: rest)
    (hn : QDNormal s.qd) : describe (hpRun q (rebuildOps (describe s))) = describe s :=
  rebuild_same_description q s (rebuild_qd_normal s q rest hq hn)

/-- … in particular for a part whose quarter duration never changes -/
theorem rebuild_same_description_const_qd (q0 : Nat) (s : HPart) (hq : s.qd = [(0, q0)]) :
    describe (hpRun q0 (rebuildOps (describe s))) = describe s :=
  rebuild_same_description_normal s q0 [] hq (hq ▸ trivial)

/-- … for the part ANY history leaves (`set_quarter_duration` at times >= 0): the only side condition is the absence
    of redundant quarter-duration entries -/
theorem rebuild_any_history_normal (q0 : Nat) (ops : List HistOp) (hv : ∀ t q, HistOp.setQD t q ∈ ops → 0 ≤ t)
    (hn : QDNormal (hpRun q0 ops).qd) :
    ∃ q, describe (hpRun q (rebuildOps (describe (hpRun q0 ops)))) = describe (hpRun q0 ops) := by
  obtain ⟨q, rest, hq, _⟩ := qd_head_zero q0 ops hv
  exact ⟨q, rebuild_same_description_normal _ q rest hq hn⟩

/-- **`rebuild_same_maps`**: the maps of a fresh build of what is on the timeline, for EVERY history and every
    quarter-duration table (redundant entries or not): `time_signature_map`, `key_signature_map`, `clef_map` (and
    the number of staves) are the same functions with no side condition - they read the tables and the span only;
    the three measure maps read the quarter durations through `divs_per_beat` alone: when the fresh build measures
    the same divisions per beat (it does whenever the table is reproduced, `rebuild_qd_normal`; in general that is
    property C02: a redundant entry does not change the beat map) they are the same functions too -/
theorem rebuild_same_maps (q : Nat) (s : HPart) (x : Int) :
    tsMapE (describe (hpRun q (rebuildOps (describe s)))).part.span
        (describe (hpRun q (rebuildOps (describe s)))).part.ts x
      = tsMapE (describe s).part.span (describe s).part.ts x ∧
    ksMap (describe (hpRun q (rebuildOps (describe s)))).part.span
        (describe (hpRun q (rebuildOps (describe s)))).kss x
      = ksMap (describe s).part.span (describe s).kss x ∧
    clefMap (describe (hpRun q (rebuildOps (describe s)))).part.span
        (describe (hpRun q (rebuildOps (describe s)))).clefs
        (otherStaffs (describe (hpRun q (rebuildOps (describe s)))).others) x
      = clefMap (describe s).part.span (describe s).clefs (otherStaffs (describe s).others) x ∧
    (divsPerBeat (describe (hpRun q (rebuildOps (describe s)))).part = divsPerBeat (describe s).part →
      measureMapP (describe (hpRun q (rebuildOps (describe s)))).part x = measureMapP (describe s).part x ∧
      measureNumberMapP (describe (hpRun q (rebuildOps (describe s)))).part x
        = measureNumberMapP (describe s).part x ∧
      metricalMapP (describe (hpRun q (rebuildOps (describe s)))).part x = metricalMapP (describe s).part x) := by
  have h := rebuild_describe q s
  -- with the two descriptions as opaque terms: the fresh build is the old description but for `qd`
  generalize (hpRun q (rebuildOps (describe s))).qd = qd at h
  generalize describe (hpRun q (rebuildOps (describe s))) = R at h ⊢
  generalize describe s = D at h ⊢
  subst h
  exact ⟨rfl, rfl, rfl, fun hd => measureMaps_congr_qd D.part qd hd x⟩

/-- a redundant quarter-duration entry (the duration at 5 set to 8 and then back to 4) is the one thing a fresh build
    does not reproduce: `set_quarter_duration` drops a change to the duration already in force (the maps are the
    same functions; property C02) -/
example : (hpRun 4 [.setQD 5 8, .setQD 5 4]).qd = [(0, 4), (5, 4)]
    ∧ (hpRun 4 (rebuildOps (describe (hpRun 4 [.setQD 5 8, .setQD 5 4])))).qd = [(0, 4)] := by decide +kernel

/-- non-vacuity: a signature removed, the mode switched with a custom table, the signature re-added (it keeps its
    default musical beats and comes last at its time point), a query in between -/
def exHist : List HistOp :=
  [.new 0 0 (.ts 6 8) none, .new 1 0 (.ts 9 8) none, .new 2 0 (.measure 12 (some 1)) none, .query,
   .remove 0, .useMusical [((9, 8), 9), ((6, 8), 6)], .readd 0, .new 3 4 (.ks (-2) .minor) none]

example : (describe (hpRun 4 exHist)).part.ts = [⟨0, 9, 8, 9⟩, ⟨0, 6, 8, 2⟩]
    ∧ (describe (hpRun 4 exHist)).part.musical = true ∧ (describe (hpRun 4 exHist)).part.npoints = 3
    ∧ describe (hpRun 4 (rebuildOps (describe (hpRun 4 exHist)))) = describe (hpRun 4 exHist) := by
  refine ⟨by decide +kernel, by decide +kernel, by decide +kernel, rebuild_same_description_const_qd 4 _ (by decide +kernel)⟩

/-- non-vacuity: a history with three quarter-duration changes, one of them re-set; the table is normal,
    the fresh build `Part(quarter_duration=6)` reproduces the description -/
def exHistQ : List HistOp :=
  [.setQD 8 3, .new 0 0 (.ts 3 4) none, .setQD 0 6, .new 1 0 (.measure 12 (some 1)) none, .setQD 8 5, .setQD 20 6]

example : (hpRun 4 exHistQ).qd = [(0, 6), (8, 5), (20, 6)] ∧ QDNormal (hpRun 4 exHistQ).qd
    ∧ describe (hpRun 6 (rebuildOps (describe (hpRun 4 exHistQ)))) = describe (hpRun 4 exHistQ) := by
  refine ⟨by decide +kernel, by decide +kernel, rebuild_same_description_normal _ 6 [(8, 5), (20, 6)] (by decide +kernel) (by decide +kernel)⟩

/-- non-vacuity: three measures added out of time order, one removed and re-added, a pickup -/
def exHistM : List HistOp :=
  [.new 0 16 (.measure 28 (some 2)) none, .new 1 0 (.measure 4 (some 0)) none, .new 2 4 (.measure 16 (some 1)) none,
   .new 3 0 (.ts 3 4) none, .remove 2, .query, .readd 2]

example : bars (describe (hpRun 4 exHistM)).part = [(0, 4), (4, 16), (16, 28)]
    ∧ Ordered (bars (describe (hpRun 4 exHistM)).part)
    ∧ measureMapP (describe (hpRun 4 exHistM)).part 2 = some (some (-8, 4))
    ∧ measureNumberMapP (describe (hpRun 4 exHistM)).part 20 = some (some 2) := by
  refine ⟨by decide, measures_ordered_after_history _ (by decide) (by decide), by decide +kernel, by decide +kernel⟩

end C10
