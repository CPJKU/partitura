/-
C06 — the tick the exporter writes, as it computes it: `int(np.round(10**6 * ppq * t / mpq))` in binary64
(`quantF`, Model/PerfFloat.lean; compared with the code exactly, also at the x.5 boundaries).

`quantF_mono` is the hypothesis `hq` of every notes theorem of C06 for the conversion the code really uses, so these
theorems speak about the written file itself (`notes_kept_tracks_float`, `load_merged_notes_float`,
`history_roundtrip_float`).
-/
import PartituraModel.Model.PerfFloat
import PartituraModel.Proofs.C06Float
import PartituraModel.Props.C06
import PartituraModel.Props.C06Merge
import PartituraModel.Props.C06History

namespace C06
open Model Model.PerfMidi Round C06Float C06Export C06Notes C06Merged C06Pair

/-- **The binary64 conversion is monotone**: later seconds are never written on an earlier tick. -/
theorem quantF_mono (mpq ppq : Nat) (hm : 0 < mpq) (a b : Rat) (h : a ≤ b) : quantF mpq ppq a ≤ quantF mpq ppq b := by
  unfold quantF tickImageF fdiv fmul
  apply roundHalfEven_mono
  apply b64_mono
  have hM : 0 < b64 (mpq : Rat) := b64_pos_pos _ (by exact_mod_cast hm)
  apply div_le_div_of_nonneg_right _ (le_of_lt hM)
  apply b64_mono
  have hK : 0 ≤ b64 ((1000000 * ppq : Nat) : Rat) := b64_nonneg _ (by positivity)
  exact mul_le_mul_of_nonneg_left h hK

/-- the image `10**6 * ppq * t / mpq` evaluated in binary64 is within relative error 5·2^-53 of the exact one -/
theorem tickImageF_near (mpq ppq : Nat) (hm : 0 < mpq) (t : Rat) (ht : 0 ≤ t) :
    |tickImageF mpq ppq t - 1000000 * (ppq : Rat) * t / (mpq : Rat)|
      ≤ 5 / (2 : Rat) ^ 53 * (1000000 * (ppq : Rat) * t / (mpq : Rat)) := by
  have hX : (0 : Rat) ≤ 1000000 * (ppq : Rat) * t / (mpq : Rat) := by positivity
  have h := rel_chain (u := 1 / 2 ^ 53) (C := tickImageF mpq ppq t) (by norm_num) (by norm_num)
    (b64_rel ((1000000 * ppq : Nat) : Rat)) (b64_rel (b64 ((1000000 * ppq : Nat) : Rat) * t)) (b64_rel (mpq : Rat)) (b64_rel _)
  rw [Nat.cast_mul, Nat.cast_ofNat, abs_of_nonneg hX, mul_one_div] at h
  exact h.trans_eq (mul_comm _ _)

/-- **The written tick is the nearest tick up to binary64 rounding**: with X = 10^6·ppq·t/mpq the exact image of a
    time t ≥ 0, `|tick − X| ≤ 1/2 + 5·2^-53·X`. -/
theorem tick_float_near (mpq ppq : Nat) (hm : 0 < mpq) (t : Rat) (ht : 0 ≤ t) :
    |((quantF mpq ppq t : Int) : Rat) - 1000000 * (ppq : Rat) * t / (mpq : Rat)|
      ≤ 1 / 2 + 5 / (2 : Rat) ^ 53 * (1000000 * (ppq : Rat) * t / (mpq : Rat)) := by
  unfold quantF
  exact (abs_sub_le _ (tickImageF mpq ppq t) _).trans
    (add_le_add (roundHalfEven_close _) (tickImageF_near mpq ppq hm t ht))

/-- **Away from the x.5 boundaries the written tick IS the exact nearest tick**: if the exact image X is closer to
    its nearest integer than 1/2 by more than the rounding margin 5·2^-53·X, binary64 and exact arithmetic agree. -/
theorem tick_float_exact (mpq ppq : Nat) (hm : 0 < mpq) (t : Rat) (ht : 0 ≤ t)
    (h : |1000000 * (ppq : Rat) * t / (mpq : Rat) - ((quant mpq ppq t : Int) : Rat)|
          + 5 / (2 : Rat) ^ 53 * (1000000 * (ppq : Rat) * t / (mpq : Rat)) < 1 / 2) :
    quantF mpq ppq t = quant mpq ppq t := by
  unfold quantF
  apply Round.roundHalfEven_near
  have h2 := tickImageF_near mpq ppq hm t ht
  refine lt_of_le_of_lt (abs_sub_le _ (1000000 * (ppq : Rat) * t / (mpq : Rat)) _) ?_
  generalize 5 / (2 : Rat) ^ 53 * (1000000 * (ppq : Rat) * t / (mpq : Rat)) = e at h h2
  linarith

/-- non-vacuity: 0.3 s at 480 ticks per 0.5 s — both arithmetics give tick 288; and a time ON a boundary
    (tick image 288.5 exactly: 0.30052083… is no binary64 number, 1154/3840 s is used as the rational) -/
example : quantF 500000 480 (3 / 10) = 288 ∧ quant 500000 480 (3 / 10) = 288 ∧
    quant 500000 480 (577 / 1920) = 288 := by decide +kernel

/-- `notes_kept_tracks` for the conversion the code uses: no hypothesis on the conversion is left -/
theorem notes_kept_tracks_float (mpq ppq : Nat) (hm : 0 < mpq) (parts : List PPart)
    (hwf : ∀ p ∈ parts, ∀ n ∈ p.notes, n.on ≤ n.off ∧ 0 < n.vel)
    (hno : ∀ tr κ, (keyNotes parts tr κ).Pairwise (fun a b => a.off ≤ b.on)) :
    List.Forall₂ (fun tr t => ∀ κ, notesOf κ (pairNotes t) = (keyNotes parts tr κ).map (toR (quantF mpq ppq)))
      (usedTracks (quantF mpq ppq) parts)
      (loaderTracks false ((savedAbs (quantF mpq ppq) mpq false parts).map toDelta)) :=
  notes_kept_tracks (quantF mpq ppq) (quantF_mono mpq ppq hm) mpq parts hwf hno

/-- `load_merged_notes` for the conversion the code uses -/
theorem load_merged_notes_float (mpq ppq : Nat) (hm : 0 < mpq) (ms ml : Bool) (parts : List PPart)
    (hmg : ml = true ∨ (ms = true ∧ 1 < (usedTracks (quantF mpq ppq) parts).length))
    (hwf : ∀ p ∈ parts, ∀ n ∈ p.notes, n.on ≤ n.off ∧ 0 < n.vel)
    (hno : ∀ κ, (mergedKeyNotes (quantF mpq ppq) parts κ).Pairwise (MergeOk (quantF mpq ppq))) :
    (loadFile ml ((savedAbs (quantF mpq ppq) mpq ms parts).map toDelta)).length ≤ 1 ∧
    ∀ rt ∈ loadFile ml ((savedAbs (quantF mpq ppq) mpq ms parts).map toDelta), rt.fileTrack = 0 ∧
      rt.notes.Perm ((parts.flatMap (·.notes)).map (toR (quantF mpq ppq))) ∧
      rt.notes.Pairwise (fun a b => rnoteLe a b = true) :=
  load_merged_notes (quantF mpq ppq) (quantF_mono mpq ppq hm) mpq ms ml parts hmg hwf hno

/-- `history_roundtrip` for the file the code writes, its conclusion about controls: any history of uses of the
    written file or the returned object, every load returns the performance's controls at the ticks the code writes -/
theorem history_roundtrip_float (ppq mpq : Nat) (hm : 0 < mpq) (ms : Bool) (parts : List PPart) (f : MidiObj)
    (hf : f.saved = writtenObj (quantF mpq ppq) ppq mpq ms parts) (us : List Use) :
    (runUses f us).1 = f ∧
    ∀ (i : Nat) (p : Bool) (d : Nat) (ml : Bool), us[i]? = some (.load p d ml) →
      ∃ r ps, (runUses f us).2[i]? = some (.loaded r) ∧ r.parts = some ps ∧ ps.length = r.kept.length ∧
        (r.kept.flatMap (·.controls)).Perm
          ((usedTracks (quantF mpq ppq) parts).flatMap (perfControls (quantF mpq ppq) parts)) :=
  ⟨(history_roundtrip (quantF mpq ppq) (quantF_mono mpq ppq hm) ppq mpq ms parts f hf us).1, fun i p d ml hu => by
    obtain ⟨r, ps, h1, h2, h3, h4, _⟩ :=
      (history_roundtrip (quantF mpq ppq) (quantF_mono mpq ppq hm) ppq mpq ms parts f hf us).2 i p d ml hu
    exact ⟨r, ps, h1, h2, h3, h4⟩⟩

end C06
