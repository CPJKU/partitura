/-
C03 — the element-level part of "loading a file written by partitura and saving it again reproduces that file": writing
what was read from a written element gives the element again (`<barline>`, `<harmony>`, `<print>`, `<direction>`,
`<sound>`; `<note>` is `note_fixpoint` in Props/C03Codec.lean).  The serialisation of the tree (lxml) and the order of the
elements in the measure (`linearize`, stream lin) are outside these statements.
-/
import PartituraModel.Props.C03Bar
import PartituraModel.Props.C03Codec
import PartituraModel.Proofs.C03Dir

namespace C03
open Model Model.XmlNote Model.XmlDir Model.XmlBar C03.Fix2

/-- **barline_fixpoint.**  A barline that holds what MusicXML allows (`BarSimple`) with its children in the order of
    `do_barlines`' five loops: the children the importer's reading stands for, written again at the same location, give
    the same `<barline>` element. -/
theorem barline_fixpoint (loc : Loc) (items : List BarItem) (h : BarSimple items)
    (hs : items.Pairwise (fun x y => barRank x < barRank y)) :
    writeBarline loc (itemsOfRead (readBarline (writeBarline loc items))) = writeBarline loc items := by
  have : itemsOfRead (readBarline (writeBarline loc items)) = items :=
    List.Perm.eq_of_pairwise (fun a b _ _ h1 h2 => absurd h1 (by omega)) (itemsOfRead_sorted _) hs
      (barline_items_recovered loc items h)
  rw [this]

example : BarSimple [.fermata, .endingStart ['2']] ∧
    [BarItem.fermata, .endingStart ['2']].Pairwise (fun x y => barRank x < barRank y) := by decide +kernel

/-- the exporter's view of an object `_handle_harmony` made (a cadence of no known type cannot be written) -/
def reexportHarm : HarmObj → Option HarmW
  | .cadence (some t) => some (.cadence t)
  | .cadence none => none
  | .roman t => some (.roman t)
  | .chord r k b => some (.chord r k b)

/-- the representative of its meaning the importer picks: a bass, when there is one, is not the empty string; a cadence
    text is the cadence type itself (what `score.Cadence` stores) -/
def CanonicalHarm : HarmW → Prop
  | .roman _ => True
  | .chord _ _ bass => bass ≠ some []
  | .cadence t => cadenceType t = some (some t)

/-- **harmony_fixpoint.**  Writing the objects read from a written `<harmony>` gives that element again. -/
theorem harmony_fixpoint (w : HarmW) (hwf : WellFormedHarm w) (hc : CanonicalHarm w) :
    (readHarmony (writeHarmony w)).map (fun l => (l.filterMap reexportHarm).map writeHarmony) = some [writeHarmony w] := by
  rw [harmony_roundtrip w hwf]
  cases w with
  | roman t => rfl
  | chord root kind bass =>
    cases kind <;> cases bass with
    | none => rfl
    | some b =>
      have hb : b ≠ [] := fun e => hc (by rw [e])
      simp [canonHarmony, reexportHarm, writeHarmony, hb]
  | cadence t =>
    have : cadenceType t = some (some t) := hc
    simp [canonHarmony, this, reexportHarm]

example : CanonicalHarm (.cadence ['P', 'A', 'C']) := by unfold CanonicalHarm; decide

theorem print_fixpoint (p s : Bool) :
    writePrint (readPrint (writePrint p s)).1 (readPrint (writePrint p s)).2 = writePrint p s := by
  rw [print_roundtrip]

/-- **tempo_fixpoint.**  The tempo read from a written `<sound>` is written as the same element. -/
theorem tempo_fixpoint (t : TempoVal) (h : WellFormedTempo t) :
    (readSound (writeSound t)).map (Option.map writeSound) = some (some (writeSound t)) := by
  rw [tempo_roundtrip t h]
  rfl

/-- the exporter's view of what `_handle_direction` made of one element: the kind of object (and whether a range starts or
    stops) with the number under which it is kept -/
def reexportDir (d : DirRead) : Option DirW :=
  match d.items with
  | [.dynamics [name]] => some (.dyn name d.staff)
  | [.wedgeStart c n] => some (.wedgeStart c n.toNat d.staff)
  | [.words [t]] => some (.words t none d.staff)
  | [.words [t], .dashes .start n] => some (.words t (some n.toNat) d.staff)
  | [.wedgeStop n] => some (.rangeStop true n.toNat)
  | [.dashes .stop n] => some (.rangeStop false n.toNat)
  | [.pedal .start line _] => some (.pedalStart line d.staff)
  | [.pedal .stop line _] => some (.pedalStop line d.staff)
  | _ => none

def CanonicalDir : DirW → Prop
  | .dyn _ staff => staff ≠ some 0
  | .wedgeStart _ k staff => k ≠ 0 ∧ staff ≠ some 0
  | .words _ none staff => staff ≠ some 0
  | .words _ (some k) staff => k ≠ 0 ∧ staff ≠ some 0
  | .rangeStop _ k => k ≠ 0
  | .pedalStart _ staff => staff ≠ some 0
  | .pedalStop _ staff => staff ≠ some 0

/-- **direction_fixpoint.**  For every element `do_directions` writes, with numbers and staves that are not 0: writing what
    the importer read from it gives the element again. -/
theorem direction_fixpoint (d : DirW) (hwf : WellFormedDir d) (hc : CanonicalDir d) :
    (readDir (writeDir d)).bind (fun r => (reexportDir r).map writeDir) = some (writeDir d) := by
  rw [direction_roundtrip d hwf]
  cases d with
  | dyn name staff =>
    simp only [Option.bind_some, canonDir, reexportDir, Option.map_some, writeDir, dirStaffEl_canon staff hc]
  | wedgeStart c k staff =>
    simp only [Option.bind_some, canonDir, reexportDir, Option.map_some, writeDir, dirStaffEl_canon staff hc.2,
      intOr_toNat k hc.1]
  | words t dashes staff =>
    cases dashes with
    | none =>
      simp only [Option.bind_some, canonDir, List.append_nil, reexportDir, Option.map_some, writeDir,
        dirStaffEl_canon staff hc, filterString_idem]
    | some k =>
      simp only [Option.bind_some, canonDir, List.cons_append, List.nil_append, reexportDir, Option.map_some, writeDir,
        dirStaffEl_canon staff hc.2, filterString_idem, intOr_toNat k hc.1]
  | rangeStop isWedge k =>
    cases isWedge <;>
      simp only [Option.bind_some, canonDir, reexportDir, Option.map_some, writeDir, intOr_toNat k hc, if_true,
        Bool.false_eq_true, if_false]
  | pedalStart line staff =>
    simp only [Option.bind_some, canonDir, reexportDir, Option.map_some, writeDir, dirStaffEl_canon staff hc]
  | pedalStop line staff =>
    simp only [Option.bind_some, canonDir, reexportDir, Option.map_some, writeDir, dirStaffEl_canon staff hc]

example : WellFormedDir (.words ['c', 'r', 'e', 's', 'c', '.'] (some 2) (some 2)) ∧
    CanonicalDir (.words ['c', 'r', 'e', 's', 'c', '.'] (some 2) (some 2)) :=
  ⟨by decide, by unfold CanonicalDir; decide⟩

end C03
