/-
C15 - the argument of `merge_parts` as the caller sees it at the time of the call.

  * a Score object is merged through the list `score.parts` it holds THEN - after any history of item assignments,
    assignments to `.parts` (what `unfold_part_maximal` / `unfold_part_minimal` do to the copy they return), appends,
    pops and reversals - and never through `part_structure`, which no step of a history changes
    (`Model.Merge.AScore`, `ScoreOp`, `runOps`, `Arg`, `mergeArg`)
  * the renumbered voices (staves) of a later part lie strictly above those of every earlier part, and the offset of
    a part is the LEAST number that achieves this: the highest voice (staff) of part i and voice (staff) 1 of part
    i + 1 become neighbours.  Hence every element must be counted with the voice / staff it carries at the time of
    the call - `allElems`: the elements and the objects that are on the timeline by their end only - and a count that
    misses one (a number of staves remembered from before an in-place edit, a scan that skips end-only objects) makes
    two inputs share a staff (`staff_offset_tight`, `stale_count_collides`).
Histories of a PART (reads, in-place attribute edits) do not occur in the model: `mergeParts` is a function of the
elements as they are, which is the statement; the harness reads them from the objects after the history.
-/
import PartituraModel.Proofs.C15Refs
import PartituraModel.Proofs.C15Distinct
import PartituraModel.Proofs.C15Loop

namespace C15
open Model.Merge

/-- a fresh Score is merged like what it was built from -/
theorem score_fresh (m : Mode) (s : Shape) : mergeArg m (.score s []) = merge m s := by
  simp [mergeArg, argParts, runOps, mkScore_parts, merge]

/-- no step of a history touches `part_structure` - which is why it cannot be what `merge_parts` merges -/
theorem score_structure_fixed (sc sc' : AScore) (ops : List ScoreOp) (h : runOps sc ops = some sc') :
    sc'.partStructure = sc.partStructure := by
  induction ops generalizing sc with
  | nil => cases h; rfl
  | cons o os ih =>
    obtain ⟨sc1, ho, h1⟩ := Option.bind_eq_some_iff.mp h
    rw [ih sc1 h1, ScoreOp.run_structure ho]

/-- Whatever a Score was built from and whatever happened to it since: `merge_parts(score)` is the merge of the list
`score.parts` as it is at the time of the call. -/
theorem score_sees_parts (m : Mode) (s : Shape) (ops : List ScoreOp) (sc : AScore)
    (h : runOps (mkScore s) ops = some sc) :
    mergeArg m (.score s ops) = mergeParts m (distinctParts sc.parts) := by
  simp [mergeArg, argParts, h]

/-- ... in particular after `score.parts = ps` (the Score returned by `unfold_part_maximal` / `unfold_part_minimal`
is a copy whose `.parts` were assigned the unfolded parts): exactly `ps` are merged, whatever came before -/
theorem score_assign_last (m : Mode) (s : Shape) (ops : List ScoreOp) (sc : AScore)
    (h : runOps (mkScore s) ops = some sc) (ps : List APart) :
    mergeArg m (.score s (ops ++ [.assign ps])) = mergeParts m (distinctParts ps) := by
  simp [mergeArg, argParts, runOps_append, h, runOps, ScoreOp.run]

/-- ... and after `score[i] = p`: the part at position `i` is `p`, the others are the ones that were there -/
theorem score_setitem_last (m : Mode) (s : Shape) (ops : List ScoreOp) (sc : AScore)
    (h : runOps (mkScore s) ops = some sc) (i : Nat) (p : APart) (hi : i < sc.parts.length) :
    mergeArg m (.score s (ops ++ [.setItem i p])) = mergeParts m (distinctParts (sc.parts.set i p)) := by
  simp [mergeArg, argParts, runOps_append, h, runOps, ScoreOp.run, hi]

/-- The merged part of a Score describes the parts the caller sees through `score.parts` (each Part object once:
`ps = distinctParts sc.parts`, which is `sc.parts` itself unless a part was put there twice): it holds exactly the
images of the kept elements of THOSE parts (every element of the first, the non-discarded classes of the others), with
the least common multiple of THEIR divisions.  All statements of Props/C15.lean and Props/C15Ext.lean about
`mergeParts m ps` apply with that `ps`. -/
theorem score_merged_contents (m : Mode) (s : Shape) (ops : List ScoreOp) (L : Nat) (es : List Elem)
    (h : mergeArg m (.score s ops) = some (.merged L es)) :
    ∃ sc ps, runOps (mkScore s) ops = some sc ∧ ps = distinctParts sc.parts
      ∧ ((sc.parts.map (·.pid)).Nodup → ps = sc.parts)
      ∧ mergeParts m ps = some (.merged L es)
      ∧ L = lcmList (ps.map (·.divs))
      ∧ ∀ e', e' ∈ es ↔ ∃ i p e, ps[i]? = some p ∧ e ∈ p.elems ∧ keep m (i == 0) e = true
                        ∧ e' = image m L ps i p e := by
  cases hr : runOps (mkScore s) ops with
  | none => simp [mergeArg, argParts, hr] at h
  | some sc =>
    have h' : mergeParts m (distinctParts sc.parts) = some (.merged L es) := by
      rw [← score_sees_parts m s ops sc hr]; exact h
    exact ⟨sc, _, rfl, rfl, distinctParts_of_nodup, h', merged_divs h', mem_es h'⟩

/-- a Score that is left with one part is that part, however many parts it was built from -/
theorem score_single (m : Mode) (s : Shape) (ops : List ScoreOp) (sc : AScore)
    (h : runOps (mkScore s) ops = some sc) (p : APart) (hp : distinctParts sc.parts = [p]) :
    mergeArg m (.score s ops) = some (.same p) := by
  rw [score_sees_parts m s ops sc h, hp, mergeParts_singleton]

/-- what the examples compare of a result: the divisions and (identity, voice, staff) of every element in order
(0 and the elements of the part when an input part is returned) -/
def outcome (r : Option Result) : Option (Nat × List (Nat × Option Nat × Option Nat)) :=
  r.map fun
    | .merged L es => (L, es.map fun e => (e.oid, e.voice, e.staff))
    | .same p => (0, p.elems.map fun e => (e.oid, e.voice, e.staff))

/-- Non-vacuity, and the reason `part_structure` must not be used: `score = Score([A, B]); score[1] = D` is merged
as [A, D] (2 notes of D's voice above A's two voices) - which differs from the merge of [A, B], the parts
`part_structure` still holds. -/
theorem stale_structure_witness :
    outcome (mergeArg .voice (.score (.many [.part exA, .part exB]) [.setItem 1 exD]))
        = outcome (mergeParts .voice [exA, exD])
      ∧ (runOps (mkScore (.many [.part exA, .part exB])) [.setItem 1 exD]).map (·.partStructure.length) = some 2
      ∧ outcome (mergeParts .voice [exA, exD]) ≠ outcome (merge .voice (.many [.part exA, .part exB])) := by
  have h := score_sees_parts .voice (.many [.part exA, .part exB]) [.setItem 1 exD] _ rfl
  exact ⟨congrArg outcome h, rfl, by decide +kernel⟩

/-- the other steps: an assignment (as the unfold functions do), append, pop down to one part, reverse -/
example : outcome (mergeArg .staff (.score (.one (.group [.part exA, .part exB])) [.reverse, .assign [exD, exA]]))
    = outcome (mergeParts .staff [exD, exA]) :=
  congrArg outcome (score_assign_last .staff _ [.reverse] _ rfl [exD, exA])
example : outcome (mergeArg .auto (.score (.many [.part exA]) [.append exD]))
    = outcome (mergeParts .auto [exA, exD]) := by
  have h := score_sees_parts .auto (.many [.part exA]) [.append exD] _ rfl
  exact congrArg outcome h
example : (runOps (mkScore (.many [.part exA, .part exB])) [.pop 0]).map (·.parts.map (·.pid)) = some [1] := by decide +kernel
example : (runOps (mkScore (.many [.part exA, .part exB])) [.reverse]).map (·.parts.map (·.pid)) = some [1, 0] := by
  decide +kernel
/-- an item assignment outside the list raises -/
example : (runOps (mkScore (.many [.part exA])) [.setItem 1 exD]).isNone = true := by decide +kernel

/-- a part that has an element carrying a staff has one on its highest staff (a missing staff counting as 1) -/
theorem maxStaff_attained (p : APart) (h : ∃ e ∈ allElems p, withStaff e.cls = true) :
    ∃ a ∈ allElems p, withStaff a.cls = true ∧ a.staff.getD 1 = maxStaff p := by
  obtain ⟨e, he, hs⟩ := h
  exact mem_uStaves.mp (maxOr1_mem (List.ne_nil_of_mem (staff_mem_uStaves he hs)))

/-- a part that has a note or rest with a voice has one in its highest voice -/
theorem maxVoice_attained (p : APart) (h : ∃ e ∈ allElems p, isGeneric e.cls = true ∧ e.voice.isSome) :
    ∃ a ∈ allElems p, isGeneric a.cls = true ∧ a.voice = some (maxVoice p) := by
  obtain ⟨e, he, hg, hv⟩ := h
  obtain ⟨v, hv⟩ := Option.isSome_iff_exists.mp hv
  exact mem_uVoices.mp (maxOr1_mem (List.ne_nil_of_mem (voice_mem_uVoices he hg hv)))

/-- staff mode: the staves of a later input lie strictly above those of every earlier input (which is more than
`staves_disjoint`: the inputs keep their order from top to bottom) -/
theorem staves_ordered (L : Nat) (ps : List APart) (hnum : NumberedFrom1 ps) (i j : Nat) (p q : APart)
    (hp : ps[i]? = some p) (hq : ps[j]? = some q) (hij : i < j) (a b : Elem) (ha : a ∈ allElems p)
    (hb : b ∈ allElems q) (hsa : withStaff a.cls = true) (hsb : withStaff b.cls = true) :
    ∃ sa sb, (image .staff L ps i p a).staff = some sa ∧ (image .staff L ps j q b).staff = some sb ∧ sa < sb :=
  ⟨_, _, image_staff_staff hsa, image_staff_staff hsb,
    (staff_inBlock hnum hp ha hsa).lt (staff_inBlock hnum hq hb hsb) hij hp⟩

/-- staff mode: the offset of a part is the least possible.  The element `a` on the highest staff of part `i` - be
it a note, a clef, a direction, or an object that is on the timeline by its end only - and an element `b` on staff
1 (or without staff) of part `i + 1` end up on neighbouring staves. -/
theorem staff_offset_tight (L : Nat) (ps : List APart) (i : Nat) (p q : APart) (hp : ps[i]? = some p)
    (a b : Elem) (hsa : withStaff a.cls = true) (hsb : withStaff b.cls = true)
    (hmax : a.staff.getD 1 = maxStaff p) (hone : b.staff.getD 1 = 1) :
    (image .staff L ps (i + 1) q b).staff = (image .staff L ps i p a).staff.map (· + 1) := by
  simp only [image_staff_staff hsa, image_staff_staff hsb, Option.map_some, Option.some.injEq,
    sumBefore_step maxStaff hp, hmax, hone]
  omega

/-- Therefore a count of the staves of part `i` that misses its highest staff - `k < maxStaff p`: a number
remembered from before `a.staff` was assigned, or a scan that does not reach `a` - puts `b` of the next part on a
staff that part `i` uses: the offset `sumBefore maxStaff ps i + k` (what the loop would add with that count) gives
`b` a staff that is at most the staff of `a`. -/
theorem stale_count_collides (L : Nat) (ps : List APart) (i : Nat) (p : APart) (a b : Elem)
    (hsa : withStaff a.cls = true) (hmax : a.staff.getD 1 = maxStaff p) (hone : b.staff.getD 1 = 1)
    (k : Nat) (hk : k < maxStaff p) :
    ∃ sa, (image .staff L ps i p a).staff = some sa ∧ b.staff.getD 1 + (sumBefore maxStaff ps i + k) ≤ sa :=
  ⟨_, image_staff_staff hsa, by omega⟩

/-- voice mode: the voices of a later input lie strictly above those of every earlier input -/
theorem voices_ordered (L : Nat) (ps : List APart) (hnum : NumberedFrom1 ps) (i j : Nat) (p q : APart)
    (hp : ps[i]? = some p) (hq : ps[j]? = some q) (hij : i < j) (a b : Elem) (ha : a ∈ allElems p)
    (hb : b ∈ allElems q) (hga : isGeneric a.cls = true) (hgb : isGeneric b.cls = true) (va vb : Nat)
    (hva : a.voice = some va) (hvb : b.voice = some vb) :
    ∃ wa wb, (image .voice L ps i p a).voice = some wa ∧ (image .voice L ps j q b).voice = some wb ∧ wa < wb :=
  ⟨_, _, by rw [image_voice_voice hga, hva]; rfl, by rw [image_voice_voice hgb, hvb]; rfl,
    (voice_inBlock hnum hp ha hga hva).lt (voice_inBlock hnum hq hb hgb hvb) hij hp⟩

/-- voice mode: the offset of a part is the least possible - the highest voice of part `i` and voice 1 of part
`i + 1` become neighbours -/
theorem voice_offset_tight (L : Nat) (ps : List APart) (i : Nat) (p q : APart) (hp : ps[i]? = some p)
    (a b : Elem) (hga : isGeneric a.cls = true) (hgb : isGeneric b.cls = true)
    (hmax : a.voice = some (maxVoice p)) (hone : b.voice = some 1) :
    (image .voice L ps (i + 1) q b).voice = (image .voice L ps i p a).voice.map (· + 1) := by
  simp only [image_voice_voice hga, image_voice_voice hgb, hmax, hone, Option.map_some, Option.some.injEq,
    sumBefore_step maxVoice hp]
  omega

/-- part F, divisions 2: one note on staff 1 and a wedge that began before the excerpt - it is on the timeline by
its end only - on staff 3 -/
def exF : APart := { pid := 5, divs := 2, elems := [
  { oid := 50, cls := classId "Note", start := 0, stop := some 2, voice := some 1, staff := some 1, pitch := some 60, tiePrev := false, chain := [] }], tails := [
  { oid := 51, cls := classId "DecreasingLoudnessDirection", start := 0, stop := some 2, voice := none, staff := some 3, pitch := none, tiePrev := false, chain := [] }] }

/-- the highest staff of F is that of its end-only wedge; merged before D, D's note (staff 1) goes to staff 4, next
to the wedge on staff 3 - hypotheses of `maxStaff_attained`, `staff_offset_tight`, `staves_ordered` at a non-trivial
value -/
example : maxStaff exF = 3 ∧ (∃ e ∈ allElems exF, withStaff e.cls = true)
    ∧ NumberedFrom1 [exF, exD]
    ∧ (mergedTails .staff [exF, exD]).map (fun t => (t.oid, t.staff)) = [(51, some 3)]
    ∧ outcome (mergeParts .staff [exF, exD]) = some (2, [(50, some 1, some 1), (30, some 1, some 4)]) := by
  unfold NumberedFrom1
  decide +kernel

/-- hypotheses of `maxVoice_attained` / `voice_offset_tight`: A's highest voice is 2 (a rest), D's note of voice 1
becomes voice 3 -/
example : maxVoice exA = 2 ∧ (∃ e ∈ allElems exA, isGeneric e.cls = true ∧ e.voice.isSome)
    ∧ (exD.elems.map fun b => (image .voice 6 [exA, exD] 1 exD b).voice) = [some 3] := by decide +kernel

end C15
