/-
C13 — arguments of another kind than documented (Model/PianoRollKinds.lean): what the operations of
`compute_pianoroll` make of them.
-/
import PartituraModel.Model.PianoRollKinds
import PartituraModel.Props.C13Raster
import PartituraModel.Proofs.Digits

namespace C13
open Model Model.PianoRoll
open List

/-- `if flag:` — Python truthiness -/
theorem truthy_spec (b : Bool) (i : Int) (q : Rat) (s : String) (xs : List Rat) :
    PyVal.none.truthy = false ∧ (PyVal.bool b).truthy = b ∧ ((PyVal.int i).truthy = true ↔ i ≠ 0) ∧
    ((PyVal.float q).truthy = true ↔ q ≠ 0) ∧ ((PyVal.str s).truthy = true ↔ s ≠ "") ∧
    ((PyVal.seq xs).truthy = true ↔ xs ≠ []) := by
  refine ⟨rfl, rfl, ?_, ?_, ?_, ?_⟩ <;> simp [PyVal.truthy]

/-- **a flag is read by its truth value only**: whatever object is passed for `onset_only`, `note_separation`,
    `piano_range`, `remove_drums`, `remove_silence`, `binary`, `return_idxs`, the call is the call with `bool(object)` -/
theorem flags_by_truth (p : PyArgs) (v : PyVal) :
    readArgs { p with onsetOnly := some v } = readArgs { p with onsetOnly := some (.bool v.truthy) } ∧
    readArgs { p with noteSep := some v } = readArgs { p with noteSep := some (.bool v.truthy) } ∧
    readArgs { p with pianoRange := some v } = readArgs { p with pianoRange := some (.bool v.truthy) } ∧
    readArgs { p with removeDrums := some v } = readArgs { p with removeDrums := some (.bool v.truthy) } ∧
    readArgs { p with removeSilence := some v } = readArgs { p with removeSilence := some (.bool v.truthy) } ∧
    readArgs { p with binary := some v } = readArgs { p with binary := some (.bool v.truthy) } ∧
    readArgs { p with returnIdxs := some v } = readArgs { p with returnIdxs := some (.bool v.truthy) } :=
  ⟨rfl, rfl, rfl, rfl, rfl, rfl, rfl⟩

/-- **a bool is the integer 0 / 1** wherever a number is expected -/
theorem bool_is_int (b : Bool) :
    readTimeDiv (.bool b) = readTimeDiv (.int (if b then 1 else 0)) ∧
    readTimeMargin (.bool b) = readTimeMargin (.int (if b then 1 else 0)) ∧
    readPitchMargin (.bool b) = readPitchMargin (.int (if b then 1 else 0)) ∧
    readEndTime (.bool b) = readEndTime (.int (if b then 1 else 0)) := by
  cases b <;> simp [readTimeDiv, readTimeMargin, readPitchMargin, readEndTime]

/-- a float with an integer value is that integer as `pitch_margin`; any other float is not covered by the model -/
theorem pitch_margin_float (i : Int) : readPitchMargin (.float (i : Rat)) = .ok i := by
  simp [readPitchMargin]

theorem isPyInt : Digits.IsPyInt isBlankChar fun cs => pyIntOfStr (String.ofList cs) :=
  ⟨fun _ => by simp only [pyIntOfStr, String.toList_ofList]; rfl⟩

/-- `int(text)` of a text made of ASCII digits only is the number the digits denote -/
theorem int_of_digits (s : String) (hne : s.toList ≠ []) (hd : ∀ c ∈ s.toList, c.isDigit = true) :
    pyIntOfStr s = some (digitsToNat s.toList : Int) := by
  -- no digit and no sign is a blank, so nothing is stripped
  have hws : ∀ c ∈ '-' :: Digits.digitChars, isBlankChar c = false := by decide +kernel
  simpa using isPyInt.digits hws hne hd

theorem readArgs_ok (p : PyArgs) (kw : KwArgs) (h : readArgs p = .ok kw) :
    (∃ x, readOpt readTimeUnit p.timeUnit = .ok x) ∧ (∃ x, readOpt readTimeDiv p.timeDiv = .ok x) ∧
    (∃ x, readOpt readPitchMargin p.pitchMargin = .ok x) ∧ (∃ x, readOpt readTimeMargin p.timeMargin = .ok x) ∧
    (∃ x, readOpt readEndTime p.endTime = .ok x) := by
  unfold readArgs at h
  generalize readOpt readTimeUnit p.timeUnit = a at h ⊢
  generalize readOpt readTimeDiv p.timeDiv = b at h ⊢
  generalize readOpt readPitchMargin p.pitchMargin = c at h ⊢
  generalize readOpt readTimeMargin p.timeMargin = d at h ⊢
  generalize readOpt readEndTime p.endTime = e at h ⊢
  split at h
  · exact ⟨⟨_, rfl⟩, ⟨_, rfl⟩, ⟨_, rfl⟩, ⟨_, rfl⟩, ⟨_, rfl⟩⟩
  · split at h <;> cases h

/-- what is rejected whatever the other arguments are: `None` / a list for `time_div`, `None` / text / a list for
    `time_margin` and `pitch_margin`, anything but a string for `time_unit` -/
theorem kinds_rejected (kind : String) (a : NoteArray) (p : PyArgs) (s : String) (xs : List Rat)
    (h : p.timeDiv = some .none ∨ p.timeDiv = some (.seq xs) ∨
         p.timeMargin = some .none ∨ p.timeMargin = some (.str s) ∨ p.timeMargin = some (.seq xs) ∨
         p.pitchMargin = some .none ∨ p.pitchMargin = some (.str s) ∨ p.pitchMargin = some (.seq xs) ∨
         p.timeUnit = some .none ∨ p.timeUnit = some (.seq xs)) :
    ∀ r, computePianorollPy kind a p ≠ .ok (some r) := by
  intro r hc
  have hne : ∀ kw, readArgs p ≠ .ok kw := by
    intro kw hk
    obtain ⟨⟨_, h1⟩, ⟨_, h2⟩, ⟨_, h3⟩, ⟨_, h4⟩, _⟩ := readArgs_ok p kw hk
    rcases h with h | h | h | h | h | h | h | h | h | h
    · rw [h] at h2; simp [readOpt, readTimeDiv] at h2
    · rw [h] at h2; simp [readOpt, readTimeDiv] at h2
    · rw [h] at h4; simp [readOpt, readTimeMargin] at h4
    · rw [h] at h4; simp [readOpt, readTimeMargin] at h4
    · rw [h] at h4; simp [readOpt, readTimeMargin] at h4
    · rw [h] at h3; simp [readOpt, readPitchMargin] at h3
    · rw [h] at h3; simp [readOpt, readPitchMargin] at h3
    · rw [h] at h3; simp [readOpt, readPitchMargin] at h3
    · rw [h] at h1; simp [readOpt, readTimeUnit] at h1
    · rw [h] at h1; simp [readOpt, readTimeUnit] at h1
  unfold computePianorollPy at hc
  split at hc
  · rename_i kw hk; exact hne kw hk
  · simp at hc
  · simp at hc

/-- with readable arguments the call is the call on the values read (Props/C13Args, C13Raster apply from there) -/
theorem kinds_call (kind : String) (a : NoteArray) (p : PyArgs) (kw : KwArgs) (h : readArgs p = .ok kw) :
    computePianorollPy kind a p = .ok (computePianorollKwF kind a kw) := by
  unfold computePianorollPy
  rw [h]

def exPy : PyArgs :=
  { timeUnit := none, timeDiv := some (.bool true), onsetOnly := some (.int 2), noteSep := some (.str ""), pitchMargin := none,
    timeMargin := none, returnIdxs := some .none, pianoRange := some (.seq []), removeDrums := none, removeSilence := some (.seq [0]),
    endTime := some .none, binary := none }

example : ∃ kw, readArgs exPy = .ok kw ∧ kw.timeDiv = some (.num 1) ∧ kw.onsetOnly = some true ∧ kw.noteSep = some false ∧
    kw.returnIdxs = some false ∧ kw.pianoRange = some false ∧ kw.removeSilence = some true ∧ kw.endTime = none :=
  ⟨_, rfl, rfl, rfl, rfl, rfl, rfl, rfl, rfl⟩

end C13
