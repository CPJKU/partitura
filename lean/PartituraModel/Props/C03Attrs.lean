/-
C03 — `do_attributes` as a whole and the `<attributes>` element through a save / load / save cycle.
`attributes_roundtrip` (Props/C03Codec.lean) is about one element; here: which elements `do_attributes` makes of the objects
it finds (nothing lost, duplicated or moved in time; where `<staves>` goes), what the importer reads from each of them,
the `<staff-details>` children (read with fixes/C03-20), and the element-level fixpoint.
-/
import PartituraModel.Props.C03Codec
import PartituraModel.Proofs.C03Attrs
import PartituraModel.Proofs.C03Sort
import PartituraModel.Model.XmlNames

namespace C03
open Model Model.XmlNote Model.XmlDir Model.XmlAttrs C03.Attrs

/-- **attributes_written.**  `do_attributes`, whatever quarter durations, key signatures, time signatures, staffs and clefs
    its five iteration calls return (any number of each at any times, in any order): the elements come in strictly
    increasing order of time, one per time at which there is an object; each is `writeAttributes` of the entries of its
    time (never empty); and the entries of all elements, each with the time of its element, are a permutation of the
    objects found: no object is lost, written twice or written under another time — the clefs included, whose lists are
    sorted per time before they are appended. -/
theorem attributes_written (s : AttrSrc) :
    ((doAttributes s).map (·.1)).Pairwise (· < ·) ∧
    (doAttributes s).map (·.1) = (attrGroups s).map (·.1) ∧
    (∀ e ∈ doAttributes s, ∃ st, e.2 = writeAttributes (itemsAt (entries s) e.1) st ∧ itemsAt (entries s) e.1 ≠ []) ∧
    ((attrGroups s).flatMap fun g => g.2.map fun i => (g.1, i)).Perm (objects s) := by
  have ht : (doAttributes s).map (·.1) = (attrGroups s).map (·.1) := attrLoop_times _ _ _
  refine ⟨ht ▸ C03.BarOps.groupsOf_keys (entries s), ht, ?_, (C03.BarOps.groupsOf_cover (entries s)).trans (entries_perm s)⟩
  intro e he
  obtain ⟨g, hg, st, rfl⟩ := attrLoop_mem _ _ _ e he
  obtain ⟨h1, h2⟩ := attrGroups_items s g hg
  exact ⟨st, by rw [h1], by rw [← h1]; exact h2⟩

/-- **staves_written_once.**  The flag `staves_included`: `<staves>` (with the length of the clef list that leaks out of
    the loop over `clefs_by_start`) is handed to the first element that holds a clef and to no other; without any clef no
    element gets it. -/
theorem staves_written_once (s : AttrSrc) :
    (∀ pre g post, attrGroups s = pre ++ g :: post → (∀ h ∈ pre, h.2.any (·.isClef) = false) →
      g.2.any (·.isClef) = true →
      doAttributes s = pre.map (fun h => (h.1, writeAttributes h.2 none)) ++
        (g.1, writeAttributes g.2 (some (leakedLen s.clefs))) :: post.map (fun h => (h.1, writeAttributes h.2 none))) ∧
    ((∀ g ∈ attrGroups s, g.2.any (·.isClef) = false) →
      doAttributes s = (attrGroups s).map fun h => (h.1, writeAttributes h.2 none)) := by
  refine ⟨?_, fun h => attrLoop_noClef _ _ h⟩
  intro pre g post heq hpre hg
  unfold doAttributes
  rw [heq]
  exact attrLoop_split _ pre post g hpre hg

/-- a segment with a change of divisions at 4, a key and time signature and two clefs at 0 (given in the order staff 2,
    staff 1: the sort key `number` is 0 for both, the order stays) and a clef change at 8: three elements; `<staves>` in
    the first one says 1 — the length of the clef list of time 8, the last one inserted (the code as it is) -/
example : (doAttributes
    { quarters := [(0, 4), (4, 6)], keys := [(0, -1, some ['m', 'a', 'j', 'o', 'r'])], times := [(0, 3, 4)], staffs := [(0, some 5)],
      clefs := [⟨0, 0, some 2, ['F'], some 4, none⟩, ⟨0, 0, some 1, ['G'], some 2, none⟩, ⟨8, 0, some 2, ['G'], some 2, none⟩] }).map
      (fun e => (e.1, e.2.flat)) =
    [(0, (writeAttributes [.divisions 4, .key (-1) (some ['m', 'a', 'j', 'o', 'r']), .time 3 4, .staffDetails (some 5),
          .clef (some 2) ['F'] (some 4) none, .clef (some 1) ['G'] (some 2) none] (some 1)).flat),
     (4, (writeAttributes [.divisions 6] none).flat),
     (8, (writeAttributes [.clef (some 2) ['G'] (some 2) none] none).flat)] := by decide +kernel

/-- clefs that carry a `number` are sorted by it inside their time -/
example : (doAttributes
    { quarters := [], keys := [], times := [], staffs := [],
      clefs := [⟨0, 2, some 2, ['F'], some 4, none⟩, ⟨0, 1, some 1, ['G'], some 2, none⟩] }).map (fun e => (e.1, e.2.flat)) =
    [(0, (writeAttributes [.clef (some 1) ['G'] (some 2) none, .clef (some 2) ['F'] (some 4) none] (some 2)).flat)] := by decide +kernel

/-- **staff_details_roundtrip.**  Every `<staff-details>` the exporter writes is read (fixes/C03-20) as a staff with the
    number 1 (the exporter writes none) and the lines written (`None` when they are 0 or missing), in order. -/
theorem staff_details_roundtrip (items : List AttrItem) (staves : Option Nat) :
    readStaffs (writeAttributes items staves) = some (canonStaffs items) := staffs_roundtrip items staves

/-- **attributes_read_back.**  `do_attributes` composed with `_handle_attributes`: when the clef signs are not empty
    strings, what the importer reads from the element written for time `t` is what the entries of `t` denote — whatever
    `<staves>` says and wherever it sits. -/
theorem attributes_read_back (s : AttrSrc) (h : ∀ c ∈ s.clefs, TextOK c.sign) :
    ∀ e ∈ doAttributes s,
      readAttributes e.2 = some (canonAttrs (itemsAt (entries s) e.1)) ∧
      readStaffs e.2 = some (canonStaffs (itemsAt (entries s) e.1)) := by
  intro e he
  obtain ⟨st, hst⟩ := doAttributes_mem s e he
  rw [hst]
  exact ⟨attributes_roundtrip _ st (entries_ok s h e.1), staffs_roundtrip _ st⟩

example : ∀ c ∈ ([⟨0, 0, some 2, ['F'], some 4, none⟩, ⟨0, 0, none, ['G'], some 2, some (-1)⟩] : List ClefSrc), TextOK c.sign := by
  decide +kernel

/-- **attributes_fixpoint.**  Entries in the shape a score in the property's domain has at one time (at most one divisions
    value, key signature, time signature; any staffs and clefs; divisions and the numbers of the time signature not 0;
    clef signs not empty): what the importer reads from the element written for them is re-exported — in the order of
    `do_attributes`' five loops — as the same element, whatever the `<staves>` values of the two exports are as long as
    they agree.  Modes, staff lines, staff numbers and octave changes need no hypothesis: the representative the
    importer picks (`normItem`) is written as the same element. -/
theorem attributes_fixpoint (c : CanonItems) (hok : c.ok) (hwf : WellFormedAttrs c.items) (st st' : Option Nat) :
    ∃ r l, readAttributes (writeAttributes c.items st) = some r ∧ readStaffs (writeAttributes c.items st) = some l ∧
      writeAttributes (reexportItems r l) st' = writeAttributes c.items st' :=
  ⟨_, _, attributes_roundtrip _ st hwf, staffs_roundtrip _ st, C03.Attrs.attributes_fixpoint c hok st'⟩

/-- the hypotheses are satisfiable by entries of every kind … -/
example : (⟨some 4, some (-3, some []), some (6, 8), [some 5, some 0, none],
    [(none, ['G'], some 2, some 0), (some 2, ['F'], none, some (-1))]⟩ : CanonItems).ok ∧
    WellFormedAttrs (⟨some 4, some (-3, some []), some (6, 8), [some 5, some 0, none],
    [(none, ['G'], some 2, some 0), (some 2, ['F'], none, some (-1))]⟩ : CanonItems).items := by
  refine ⟨⟨?_, ?_⟩, by decide⟩
  · intro q hq; cases hq; decide
  · intro a b hab; cases hab; decide

/-- … and needed: a time signature 0/4 is written but not read, so the second export lacks it -/
example : (writeAttributes (reexportItems (canonAttrs [.time 0 4]) (canonStaffs [.time 0 4])) none).flat ≠
    (writeAttributes [.time 0 4] none).flat := by decide +kernel

/-- two key signatures at one time (outside the domain): the second is not read -/
example : (writeAttributes (reexportItems (canonAttrs [.key 1 none, .key 2 none]) []) none).flat ≠
    (writeAttributes [.key 1 none, .key 2 none] none).flat := by decide +kernel

/-- the clef list of a time is the clefs of that time, sorted by `number` -/
theorem clefs_at_time (cs : List ClefSrc) (t : Nat) : (clefsAt cs t).Perm (cs.filter fun c => c.t == t) :=
  (C03.Sort.isSort numLt).perm _

/-- **segment_attributes_roundtrip.**  `do_attributes` → file → `_handle_attributes` → `do_attributes`, stated about the objects
    of the score: take any element `do_attributes` writes, for a time `t` at which the score has at most one quarter
    duration, key signature and time signature (`DomainAt`: the property's domain), these not 0, and clef signs that are not
    empty.  Then the importer reads from it exactly the objects of `t`: that quarter duration, that time signature, that key
    signature (an empty mode as no mode), every staff of `t` (as staff 1, 0 lines as none), every clef of `t` (no staff or
    staff 0 as staff 1, octave change 0 as none) in the order written; and exporting what was read gives the element again
    (for equal `<staves>`). -/
theorem segment_attributes_roundtrip (s : AttrSrc) (hs : ∀ c ∈ s.clefs, TextOK c.sign) (e : Nat × Xml)
    (he : e ∈ doAttributes s) (hd : DomainAt s e.1) (hok : (canonAt s e.1).ok) (st' : Option Nat) :
    ∃ r l, readAttributes e.2 = some r ∧ readStaffs e.2 = some l ∧
      r.divisions = (s.quarters.find? fun q => q.1 == e.1).map (·.2) ∧
      r.time = (s.times.find? fun x => x.1 == e.1).map (·.2) ∧
      keyRead r.key = (s.keys.find? fun k => k.1 == e.1).map (fun k => (k.2.1, normMode k.2.2)) ∧
      l = ((s.staffs.filter fun x => x.1 == e.1).map fun x => { number := 1, lines := truthy x.2 }) ∧
      r.clefs = (clefsAt s.clefs e.1).map (fun c =>
        { staff := normStaffNo c.staff, sign := some c.sign, line := c.line, octaveChange := truthy c.octaveChange }) ∧
      writeAttributes (reexportItems r l) st' = writeAttributes (itemsAt (entries s) e.1) st' := by
  obtain ⟨h1, h2⟩ := attributes_read_back s hs e he
  refine ⟨_, _, h1, h2, ?_, ?_, ?_, ?_, ?_, ?_⟩
  · rw [itemsAt_canon s e.1 hd, canon_div _ hok]; rfl
  · rw [itemsAt_canon s e.1 hd, canon_time _ hok]; rfl
  · rw [itemsAt_canon s e.1 hd, canon_key]
    simp [canonAt, Option.map_map, Function.comp_def]
  · rw [itemsAt_canon s e.1 hd, canon_staffs]
    simp [canonAt, List.map_map, Function.comp_def]
  · rw [itemsAt_canon s e.1 hd, canon_clefs]
    simp [canonAt, List.map_map, Function.comp_def]
  · rw [itemsAt_canon s e.1 hd]
    exact C03.Attrs.attributes_fixpoint _ hok st'

/-- the first segment of a two-staff piano part with a clef change at 8 -/
def segEx : AttrSrc :=
  { quarters := [(0, 4)], keys := [(0, -1, some [])], times := [(0, 3, 4)], staffs := [(0, some 5)],
    clefs := [⟨0, 0, some 2, ['F'], some 4, none⟩, ⟨0, 0, some 1, ['G'], some 2, none⟩, ⟨8, 0, some 2, ['G'], some 2, none⟩] }

/-- the hypotheses hold for both of its elements … -/
example : (doAttributes segEx).map (·.1) = [0, 8] ∧ (∀ c ∈ segEx.clefs, TextOK c.sign) ∧
    DomainAt segEx 0 ∧ DomainAt segEx 8 ∧ (canonAt segEx 0).ok ∧ (canonAt segEx 8).ok := by
  have hd : (canonAt segEx 0).divisions = some 4 := by decide
  have ht : (canonAt segEx 0).time = some (3, 4) := by decide
  have hd8 : (canonAt segEx 8).divisions = none := by decide
  have ht8 : (canonAt segEx 8).time = none := by decide
  refine ⟨by decide, by decide, by unfold DomainAt; decide, by unfold DomainAt; decide, ⟨?_, ?_⟩, ⟨?_, ?_⟩⟩
  · intro q hq; rw [hd] at hq; cases hq; decide
  · intro a b hab; rw [ht] at hab; cases hab; decide
  · intro q hq; rw [hd8] at hq; cases hq
  · intro a b hab; rw [ht8] at hab; cases hab

/-- … and are needed: with two key signatures at one time only the first is read -/
example : (readAttributes (writeAttributes (itemsAt (entries
      { quarters := [], keys := [(0, 1, none), (0, 2, none)], times := [], staffs := [], clefs := [] }) 0) none)).map (·.key) =
    some (some (some 1, none)) := by decide +kernel

end C03
