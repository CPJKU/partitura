/-
C14 — the `Performance` container: "track numbers of a performance's parts are made unique without
mixing parts", for the whole state the container touches and under every history of statements on it.
-/
import PartituraModel.Proofs.C14Box
import PartituraModel.Props.C14Arrays

namespace C14
open Model Model.Pedal C14P

/-- no track number is shared by two parts -/
def TracksUnique (parts : List PartTracks) : Prop :=
  ∀ k₁ ∈ trackKeys parts, ∀ k₂ ∈ trackKeys parts, k₁.2 = k₂.2 → k₁.1 = k₂.1

/-! ### the argument of `Performance(...)` -/

/-- one `PerformedPart` becomes a performance of that part; an iterable is accepted exactly when every item is a
    `PerformedPart`, and the performance then holds exactly those parts in their order (fixes/C14-6: also when the
    iterable can be walked only once); anything else is rejected -/
theorem perf_parts_dispatch (p : BoxPart) (l : List (Option BoxPart)) (ps : List BoxPart) :
    perfParts (.single p) = some [p]
    ∧ (perfParts (.items l) = some ps ↔ l = ps.map some)
    ∧ perfParts .other = none := by
  refine ⟨rfl, ?_, rfl⟩
  rw [perfParts, mapM'_eq_some_iff, List.map_id]

example : perfParts (.items [some ⟨⟨[0], [], []⟩, []⟩, none]) = none := by decide +kernel

/-! ### `sanitize_track_numbers()` on the whole state -/

/-- after the renumbering no track number is shared by two parts, and a part's tracks stay apart: the new number
    determines the old (part, track) pair -/
theorem renumbered_unique (pts : List PartTracks) :
    TracksUnique (renumbered pts)
    ∧ ∀ a ∈ trackKeys pts, ∀ b ∈ trackKeys pts, (newKey pts a).2 = (newKey pts b).2 → a = b := by
  have hinj := fun a ha b hb => newKey_snd_inj pts a b ha hb
  refine ⟨?_, hinj⟩
  intro k₁ h₁ k₂ h₂ h
  rw [trackKeys_renumbered] at h₁ h₂
  obtain ⟨a, ha, rfl⟩ := List.mem_map.mp h₁
  obtain ⟨b, hb, rfl⟩ := List.mem_map.mp h₂
  rw [hinj a ha b hb h]

/-- a meta event (key signature, time signature, other) of part `i`: when one of the part's notes, controls or
    programs was on its track it is renumbered with them, otherwise it keeps its track (or stays without one) -/
theorem metas_follow (pts : List PartTracks) (i : Nat) (ms : List (Option Int)) :
    sanitizeMetas (sortedKeys pts) i ms = ms.map (fun t =>
      if (i, trackOr t) ∈ trackKeys pts then some ((newKey pts (i, trackOr t)).2) else t) :=
  sanitizeMetas_eq pts i ms

/-- `sanitize_track_numbers()`: never fails; afterwards no track number is shared by two parts, the number of
    tracks and of parts is what it was, and every meta event has followed its track -/
theorem sanitize_box_spec (parts : List BoxPart) :
    ∃ qs, sanitizeBox parts = some qs ∧ qs.length = parts.length
      ∧ TracksUnique (qs.map (·.tracks)) ∧ boxNumTracks qs = boxNumTracks parts
      ∧ ∀ (i : Nat) (p q : BoxPart), parts[i]? = some p → qs[i]? = some q →
          q.metas = p.metas.map (fun t => if (i, trackOr t) ∈ trackKeys (parts.map (·.tracks))
                                          then some ((newKey (parts.map (·.tracks)) (i, trackOr t)).2) else t) := by
  refine ⟨_, sanitize_box_explicit parts, by rw [boxRenumbered, List.length_map, List.length_zipIdx], ?_, ?_, ?_⟩
  · rw [boxRenumbered_tracks]
    exact (renumbered_unique _).1
  · rw [boxNumTracks, boxRenumbered_tracks]
    exact renumbered_num_tracks _
  · intro i p q hp hq
    rw [boxRenumbered, List.getElem?_map] at hq
    have hz : parts.zipIdx[i]? = some (p, i) := by
      rw [List.getElem?_zipIdx, hp]; simp
    rw [hz] at hq
    simp only [Option.map_some, Option.some.injEq] at hq
    rw [← hq]
    exact metas_follow _ i p.metas

/-- renumbering already renumbered tracks changes nothing -/
theorem sanitize_sorted_idempotent (pts : List PartTracks) :
    sanitizeSorted (renumbered pts) = sanitizeSorted pts := by
  have h : renumbered (renumbered pts) = renumbered pts := renumbered_of_canonical (canonical_renumbered pts)
  rw [sanitizeSorted_explicit, sanitizeSorted_explicit]
  refine congrArg some (List.map_injective_iff.mpr applyTracks_injective ?_)
  rw [List.map_map, List.map_map]
  exact h

/-- `sanitize_track_numbers()` twice is `sanitize_track_numbers()` once — tracks and meta events -/
theorem sanitize_box_idempotent (parts qs : List BoxPart) (h : sanitizeBox parts = some qs) :
    sanitizeBox qs = some qs := by
  obtain rfl := Option.some.inj ((sanitize_box_explicit parts).symm.trans h)
  rw [sanitize_box_explicit, boxRenumbered_idempotent]

example : sanitizeBox [⟨⟨[3, 7], [none], []⟩, [some 1, some 7, none, some 9]⟩, ⟨⟨[3], [], [some 0]⟩, [some 3, none]⟩]
    = some [⟨⟨[1, 2], [some 0], []⟩, [some 1, some 2, some 0, some 9]⟩, ⟨⟨[4], [], [some 3]⟩, [some 4, none]⟩] := by
  decide +kernel

/-! ### `Performance(...)` and histories of statements on it -/

/-- the performance holds as many parts as were handed over; with `ensure_unique_tracks` (the default, regenerated
    from the source) no track number is shared by two of them, without it the parts are as given -/
theorem perf_init_spec (a : PerfArg) (e : Bool) :
    (perfParts a = none → perfInit a e = none)
    ∧ ∀ ps, perfParts a = some ps →
        ∃ qs, perfInit a e = some qs ∧ qs.length = ps.length
          ∧ (e = true → sanitizeBox ps = some qs ∧ TracksUnique (qs.map (·.tracks)))
          ∧ (e = false → qs = ps) := by
  constructor
  · intro h; simp [perfInit, h]
  · intro ps h
    obtain ⟨qs, hq, hl, hu, _, _⟩ := sanitize_box_spec ps
    cases e with
    | true => exact ⟨qs, by simp [perfInit, h, hq], hl, fun _ => ⟨hq, hu⟩, fun he => Bool.noConfusion he⟩
    | false => exact ⟨ps, by simp [perfInit, h], rfl, fun he => Bool.noConfusion he, fun _ => rfl⟩

/-- over every history of statements on a performance: whenever statement `k` is a renumbering it succeeds, and the
    state it leaves has unique tracks, as many parts and tracks as before it, and is a fixed point of renumbering -/
theorem box_history_unique (ps : List BoxPart) (ops : List BoxOp) (k : Nat) (h : ops[k]? = some .sanitize) :
    ∃ qs, (boxRun ps ops)[k]? = some (qs, .ok) ∧ TracksUnique (qs.map (·.tracks)) ∧ sanitizeBox qs = some qs := by
  rw [run_getElem boxStep boxRun (fun _ _ _ => rfl) ps ops k _ h]
  obtain ⟨qs, hq, _, hu, _, _⟩ := sanitize_box_spec ((ops.take k).foldl (fun s o => (boxStep s o).1) ps)
  exact ⟨qs, by rw [boxStep, hq], hu, sanitize_box_idempotent _ qs hq⟩

/-- what the other statements do: `perf[i] = pp` replaces part `i` (IndexError past the end), `append` adds one —
    neither renumbers anything, so uniqueness may be lost until the next renumbering -/
theorem box_set_append (ps : List BoxPart) (i : Nat) (p : BoxPart) :
    (i < ps.length → boxStep ps (.setPart i p) = (setAt ps i p, .ok))
    ∧ (¬ i < ps.length → boxStep ps (.setPart i p) = (ps, .idxErr))
    ∧ boxStep ps (.appendPart p) = (ps ++ [p], .ok) := by
  refine ⟨fun h => by simp [boxStep, h], fun h => by simp [boxStep, h], rfl⟩

-- two parts on track 0: unique after construction; replacing the second by another part on track 0 loses it
-- (2 tracks, both parts on 0); the next renumbering restores it
example : (perfInit (.items [some ⟨⟨[0], [], []⟩, []⟩, some ⟨⟨[0], [], []⟩, []⟩]) true).map (fun ps =>
      (ps.map (·.tracks.notes), (boxRun ps [.setPart 1 ⟨⟨[0, 0], [], []⟩, []⟩, .sanitize]).map
        (fun x => (x.2, x.1.map (·.tracks.notes)))))
    = some ([[0], [1]], [(.ok, [[0], [0, 0]]), (.ok, [[0], [1, 1]])]) := by decide +kernel

end C14
