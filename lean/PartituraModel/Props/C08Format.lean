/-
C08 — what `reconstruct` (Model/MatchTime.lean) computes: whenever it succeeds its notes, fallback flags and bar lines
are maps over the lines in the reader's order and over the bar names (`reconstruct_anatomy`), so no snote is lost or
duplicated and measures exist exactly for the bars that hold a stored note; and what the match format does NOT hold
(limits of the round trip that no reader can lift; `Score.fileView`, `Score.roundTrip`).
-/
import PartituraModel.Proofs.C08Compose
import PartituraModel.Proofs.Folds
import Mathlib.Data.List.Range
import Mathlib.Tactic.NormNum

namespace C08
open Model Model.MatchTime

/-- 4/4, one division per quarter; bars 2 and 3 hold no stored note and have irregular lengths 2 + 2 -/
def emptyBarsA : Score := { divs := 1, ts := [⟨0, 4, 4⟩], ms := [⟨0, 4⟩, ⟨4, 6⟩, ⟨6, 8⟩, ⟨8, 12⟩] }
/-- the same, but bars 2 and 3 have lengths 3 + 1 -/
def emptyBarsB : Score := { divs := 1, ts := [⟨0, 4, 4⟩], ms := [⟨0, 4⟩, ⟨4, 7⟩, ⟨7, 8⟩, ⟨8, 12⟩] }

/-- **empty_bars_not_stored.**  The format stores a measure only through the notes in it (measure number, beat and
    offset of each stored note; no measure lengths).  Two scores that differ in the bar lines between bars
    WITHOUT a stored note are written to the same file: every stored note gets the same measure number, beat,
    offset, duration and beat times, every signature line the same position.  So no reader can return "measures
    at the same positions" for such bars; the oracle demands measures only for bars that hold a stored note. -/
theorem empty_bars_not_stored :
    emptyBarsA.ms ≠ emptyBarsB.ms
    ∧ emptyBarsA.fileView [(0, 1), (2, 2), (8, 4), (11, 1)] [0] = emptyBarsB.fileView [(0, 1), (2, 2), (8, 4), (11, 1)] [0]
    ∧ (emptyBarsA.fileView [(0, 1), (2, 2), (8, 4), (11, 1)] [0]).1.isSome = true
    ∧ ((emptyBarsA.roundTrip [(0, 1), (2, 2), (8, 4), (11, 1)] []).map (·.barlines))
        = ((emptyBarsB.roundTrip [(0, 1), (2, 2), (8, 4), (11, 1)] []).map (·.barlines))
    ∧ ((emptyBarsA.roundTrip [(0, 1), (2, 2), (8, 4), (11, 1)] []).map (·.barlines)) = some [(1, 0), (4, 32)] := by
  decide +kernel

/-- 4/4, three divisions per quarter, a pickup of two triplet eighths -/
def offGrid : Score := { divs := 3, ts := [⟨0, 4, 4⟩], ms := [⟨0, 2⟩, ⟨2, 14⟩] }

/-- **barline_off_grid.**  The reader's divisions are the least common multiple of the denominators of the
    written offsets and durations (times beat type / 4): the distance of a bar line from the first stored note is
    written nowhere as a fraction, only inside the four-decimal beat times.  Here the stored notes are a grace
    note at the start of the pickup (offset 0, duration 0) and two quarters from the first full bar: the reader
    takes 4 divisions per quarter, but the first bar line lies 2/3 quarter after the first stored note — no
    whole number of divisions (the reader falls back to the four-decimal beat times: onsets 6667/2500 and
    16667/2500 divisions).  So no reader that keeps these divisions can place the notes exactly; the oracle
    demands the score clauses only when every bar line of a stored note lies on the reader's grid (`hgrid` of
    `position_roundtrip`, `hz` of `bars_recovered`). -/
theorem barline_off_grid :
    ((offGrid.roundTrip [(0, 0), (2, 3), (5, 3)] []).map (·.divs)) = some 4
    ∧ ((offGrid.roundTrip [(0, 0), (2, 3), (5, 3)] []).map (·.notes))
        = some [(0, 0, [0]), (1, 6667 / 2500, [4]), (2, 16667 / 2500, [4])]
    ∧ offGrid.quarters 2 - offGrid.quarters 0 = 2 / 3
    ∧ ¬ ∃ z : Int, ((4 : Nat) : Rat) * (offGrid.quarters 2 - offGrid.quarters 0) = (z : Rat) := by
  have h1 : ((offGrid.roundTrip [(0, 0), (2, 3), (5, 3)] []).map (·.divs)) = some 4 := by decide +kernel
  have h2 : offGrid.quarters 2 - offGrid.quarters 0 = 2 / 3 := by decide +kernel
  refine ⟨h1, by decide +kernel, h2, ?_⟩
  rintro ⟨z, hz⟩
  rw [h2] at hz
  have h3 : (8 : Rat) = 3 * (z : Rat) := by
    have : ((4 : Nat) : Rat) = 4 := by norm_num
    rw [this] at hz
    linarith
  have h4 : (8 : Int) = 3 * z := by exact_mod_cast h3
  omega

/-- the snotes in the reader's order (`sort_snotes`), with their position in the file -/
def sortedNotes (raw : List SNote) : List (Nat × SNote) := sortSNotes ((List.range raw.length).zip raw)

/-- the closing point of the reader's signature maps: the largest `OffsetInBeats`, or the last time signature if later -/
def readerMaxTime (raw : List SNote) (ts : List TSLine) : Rat :=
  match (sortedNotes raw).head? with
  | none => 0
  | some first => closingTime ((sortedNotes raw).map (·.2.offsetB)) first.2.offsetB ts

/-- `onset_in_divs` of a line `n`: the beats→quarters map at its `OnsetInBeats`, relative to the smallest
    `OnsetInBeats` of the file (the fold starts from the first line in the reader's order), plus the padding before an earliest
    note that starts after beat 0 -/
def readerOid (raw : List SNote) (ts : List TSLine) (divs : Nat) (first n : SNote) : Rat :=
  (divs : Rat) * (beatsToQuarters ts n.onsetB
      - beatsToQuarters ts (((sortedNotes raw).map (·.2.onsetB)).foldl min first.onsetB))
    + (if beatsToQuarters ts (((sortedNotes raw).map (·.2.onsetB)).foldl min first.onsetB) > 0
       then beatsToQuarters ts (((sortedNotes raw).map (·.2.onsetB)).foldl min first.onsetB) * (divs : Rat) else 0)

theorem mem_sortedNotes {raw : List SNote} {p : Nat × SNote} : p ∈ sortedNotes raw ↔ raw[p.1]? = some p.2 :=
  (C08S.isSort _).mem.trans Lists.mem_zip_range

theorem clip_eq_max (x : Int) : (if x < 0 then 0 else x) = max 0 x := by
  split
  · rename_i h; rw [max_eq_left (le_of_lt h)]
  · rename_i h; rw [max_eq_right (not_lt.mp h)]

/-- the first line of bar `b` in the reader's order -/
def barHead (raw : List SNote) (b : Int) : SNote := (firstOfBar (sortedNotes raw) b).getD default

/-- what the reader makes of the line `p` (position in the file, snote) with divisions `D`, shift `shiftQ` and closing point
    `M` of the signature maps: the loaded note `(position, onset, durations)` and its fallback flag.  The onset is
    `onset_divs` (rounded, from measure:beat + offset and the bar start of the first line of the bar) unless `isClose` rejects
    it against `onset_in_divs` (`readerOid`) -/
def loaded (raw : List SNote) (ts : List TSLine) (M : Rat) (D : Nat) (shiftQ : Rat) (first : SNote) (p : Nat × SNote) :
    (Nat × Rat × List Int) × Bool :=
  let od : Rat := (roundHalfEven ((D : Rat) * notePos (barTime ts M (barHead raw p.2.measure)) p.2.beat
      (denAtBeats ts M p.2.onsetB) p.2.offset.val shiftQ) : Int)
  let fb := !isClose od (readerOid raw ts D first p.2) ((D : Rat) / 100)
  ((p.1, (if fb then readerOid raw ts D first p.2 else od),
    if p.2.comps.isEmpty then [durDivs D p.2.dur] else p.2.comps.map (durDivs D)), fb)

theorem barHead_spec {raw : List SNote} {p : Nat × SNote} (hp : p ∈ sortedNotes raw) :
    firstOfBar (sortedNotes raw) p.2.measure = some (barHead raw p.2.measure)
      ∧ (barHead raw p.2.measure).measure = p.2.measure ∧ barHead raw p.2.measure ∈ raw := by
  obtain ⟨n, hn⟩ := C08C.firstOfBar_exists _ p hp
  obtain ⟨hm, j, hj⟩ := C08C.firstOfBar_spec _ _ _ hn
  have : barHead raw p.2.measure = n := by unfold barHead; rw [hn]; rfl
  rw [this]
  exact ⟨hn, hm, List.mem_of_getElem? (mem_sortedNotes.mp hj)⟩

/-- what `reconstruct` computes, whenever it succeeds (any snotes, any signature lines), with `first` the first line in the
    reader's order: the divisions, the shift, and - as maps over the lines in the reader's order and over the bar names - the
    loaded notes with their fallback flags (`loaded`) and the bar lines.  Each `mapM` of `reconstruct` yields, where it
    succeeds, the value of a total function (`barHead` for the first line of a bar), so its result is a `map`.  Of `Recon` this
    covers `divs`, `shiftQ`, `notes`, `fallback`, `barlines`; `lastBarEnd`, `tsPos`, `ksPos`, `restEnd` are described by no general
    theorem (they are evaluated in the witnesses of Props/C08Last). -/
theorem reconstruct_anatomy (raw : List SNote) (ts : List TSLine) (ks : List (Rat × Int)) (r : Recon)
    (h : reconstruct raw ts ks = some r) :
    ∃ first, (sortedNotes raw).head? = some first
      ∧ r.divs = importDivs ts (readerMaxTime raw ts) ((sortedNotes raw).map (·.2))
      ∧ r.shiftQ = min (beatsToQuarters ts (((sortedNotes raw).map (·.2.onsetB)).foldl min first.2.onsetB)) 0
      ∧ r.notes = (sortedNotes raw).map (fun p => (loaded raw ts (readerMaxTime raw ts) r.divs r.shiftQ first.2 p).1)
      ∧ r.fallback = (sortedNotes raw).map (fun p => (loaded raw ts (readerMaxTime raw ts) r.divs r.shiftQ first.2 p).2)
      ∧ r.barlines = (barNames (sortedNotes raw)).map fun b =>
          (b, max 0 (roundHalfEven ((r.divs : Rat) * (barTime ts (readerMaxTime raw ts) (barHead raw b) - r.shiftQ)))) := by
  unfold reconstruct at h
  obtain ⟨first, hfirst, h⟩ := Option.bind_eq_some_iff.mp h
  obtain ⟨_, _, h⟩ := Option.bind_eq_some_iff.mp h
  obtain ⟨bars, hb, h⟩ := Option.bind_eq_some_iff.mp h
  obtain ⟨notesFb, hn, h⟩ := Option.bind_eq_some_iff.mp h
  obtain ⟨_, _, h⟩ := Option.bind_eq_some_iff.mp h
  obtain ⟨_, _, h⟩ := Option.bind_eq_some_iff.mp h
  obtain ⟨_, _, h⟩ := Option.bind_eq_some_iff.mp h
  have hr := Option.some.inj h
  have hmax : readerMaxTime raw ts
      = closingTime ((sortSNotes ((List.range raw.length).zip raw)).map (·.2.offsetB)) first.2.offsetB ts := by
    unfold readerMaxTime sortedNotes
    rw [hfirst]
  -- every bar: its name and the bar start computed from its first line
  have hbars : bars = (barNames (sortedNotes raw)).map fun b => (b, barTime ts (readerMaxTime raw ts) (barHead raw b)) := by
    rw [← List.map_id bars]
    refine C08S.mapM_map _ id _ (fun b y hy => ?_) _ _ hb
    obtain ⟨n₁, hf, hy⟩ := Option.bind_eq_some_iff.mp hy
    rw [← Option.some.inj hy, hmax]
    unfold barHead sortedNotes
    rw [hf]; rfl
  -- every line: the bar start it is given is the one of its bar
  have hnotes : notesFb = (sortedNotes raw).map (loaded raw ts (readerMaxTime raw ts) r.divs r.shiftQ first.2) := by
    rw [← List.map_id notesFb]
    refine C08S.mapM_map _ id _ (fun p y hy => ?_) _ _ hn
    obtain ⟨bt, hl, hy⟩ := Option.bind_eq_some_iff.mp hy
    have hbt := Model.lookup_mem hl
    rw [hbars, List.mem_map] at hbt
    obtain ⟨b, _, hbe⟩ := hbt
    obtain ⟨rfl, rfl⟩ := Prod.mk.inj hbe
    rw [← Option.some.inj hy, ← hr, hmax]; rfl
  rw [hmax] at hbars hnotes ⊢
  subst hr
  refine ⟨first, hfirst, rfl, ?_, ?_, ?_, ?_⟩
  · unfold sortedNotes
    simp only
    split
    · rename_i hpos; rw [min_eq_right (le_of_lt hpos)]
    · rename_i hnp; rw [min_eq_left (not_lt.mp hnp)]
  · simp only [hnotes, List.map_map]; rfl
  · simp only [hnotes, List.map_map]; rfl
  · simp only [hbars, List.map_map]
    refine List.map_congr_left fun b _ => ?_
    simp only [Function.comp]
    rw [clip_eq_max]


theorem minOnset_spec {raw : List SNote} {first : Nat × SNote} (hfirst : (sortedNotes raw).head? = some first) :
    ∃ nmin ∈ raw, ((sortedNotes raw).map (·.2.onsetB)).foldl min first.2.onsetB = nmin.onsetB
      ∧ ∀ n ∈ raw, nmin.onsetB ≤ n.onsetB := by
  have hraw : ∀ p ∈ sortedNotes raw, p.2 ∈ raw := fun p hp => List.mem_of_getElem? (mem_sortedNotes.mp hp)
  obtain ⟨nmin, hnmin, he⟩ : ∃ nmin ∈ raw, ((sortedNotes raw).map (·.2.onsetB)).foldl min first.2.onsetB = nmin.onsetB := by
    rcases Lists.foldl_min_mem first.2.onsetB ((sortedNotes raw).map (·.2.onsetB)) with h0 | h0
    · exact ⟨first.2, hraw _ (List.mem_of_mem_head? hfirst), h0⟩
    · obtain ⟨p, hp, hpe⟩ := List.mem_map.mp h0
      exact ⟨p.2, hraw p hp, hpe.symm⟩
  refine ⟨nmin, hnmin, he, fun n hn => ?_⟩
  obtain ⟨i, hi⟩ := List.mem_iff_getElem?.mp hn
  rw [← he]
  exact Lists.foldl_min_le_mem _ _ _ (List.mem_map.mpr ⟨(i, n), mem_sortedNotes.mpr hi, rfl⟩)

/-- **reconstruct_keeps_every_note.**  Whenever the reconstruction of the score succeeds — for every list of snotes,
    time and key signature lines — each snote becomes exactly one note of the part: the indices of the notes are a
    permutation of the indices of the snotes (none lost, none twice), in the order of `sort_snotes`; and a measure
    is created for exactly the bar numbers that occur on the snotes, once each. -/
theorem reconstruct_keeps_every_note (raw : List SNote) (ts : List TSLine) (ks : List (Rat × Int)) (r : Recon)
    (h : reconstruct raw ts ks = some r) :
    (r.notes.map (·.1)).Perm (List.range raw.length)
    ∧ r.notes.map (·.1) = (sortSNotes ((List.range raw.length).zip raw)).map (·.1)
    ∧ r.fallback.length = raw.length
    ∧ r.barlines.map (·.1) = barNames (sortSNotes ((List.range raw.length).zip raw)) := by
  obtain ⟨first, _, _, _, hnotes, hfb, hbars⟩ := reconstruct_anatomy raw ts ks r h
  have hidx : r.notes.map (·.1) = (sortedNotes raw).map (·.1) := by rw [hnotes, List.map_map]; rfl
  have hperm : ((sortedNotes raw).map (·.1)).Perm (List.range raw.length) := C08S.sortBy_zip_range_fst _ raw
  refine ⟨hidx ▸ hperm, hidx, ?_, by rw [hbars, List.map_map]; exact List.map_id _⟩
  rw [hfb, List.length_map, ← List.length_map (f := (·.1)), hperm.length_eq, List.length_range]

/-- non-vacuity: the reconstruction of the file of `emptyBarsA` succeeds, with its four snotes -/
example : ((emptyBarsA.roundTrip [(0, 1), (2, 2), (8, 4), (11, 1)] []).map fun r => r.notes.map (·.1)) = some [0, 1, 2, 3] := by
  decide +kernel

end C08
