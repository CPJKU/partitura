/-
C13 — the rasteriser as the code computes it: in binary64.

`makeWith fl` (Model/PianoRollFloat.lean) is `_make_pianoroll` with a rounding function `fl` applied to the result of
every floating-point operation; `makePianorollF = makeWith f64` is the code, `makeWith id` is the exact-rational
model of Props/C13.lean (`makeWith_id`).

The clauses of the property that do not depend on how a product was rounded (`raster_*`) hold for EVERY `fl`, hence
for the binary64 code on all inputs, with the frames the code computed (`onFrameG f64`, `offCellG f64`).  Those frames
are the frames of the exact reading whenever the rounding error of the products does not reach a half-frame point — in
particular whenever the products are binary64 numbers themselves (`f64_dyadic`), which is what the harness checks per
case before it lets its exact oracle judge; `float_differs` is a concrete tie the rounding moves.  The literals of the
frame arithmetic (`lits_spec`) are regenerated from the live code by probing.
-/
import PartituraModel.Props.C13Args
import PartituraModel.Proofs.C13Rows
import PartituraModel.Proofs.C13Float

namespace C13
open Model Model.PianoRoll
open List

/-- every literal could be read off the live functions -/
theorem lits_extracted : Gen.C13L_OK = true := by decide

/-- a note has at least one frame; note separation takes one frame, no separation none; at least one frame is
    shown; frames are rounded half to even; `int(time_div)` and `int(cell)` truncate; the decoder's time columns are
    binary32, its pitch / velocity columns 32 bits wide; a non-zero cell with integer part 0 is a note -/
theorem lits_spec :
    Gen.C13L_MIN_FRAMES = 1 ∧ Gen.C13L_SEP_ON = 1 ∧ Gen.C13L_SEP_OFF = 0 ∧ Gen.C13L_MIN_SHOWN = 1 ∧
    Gen.C13L_HALF_EVEN = true ∧ Gen.C13L_TRUNC_DIV = true ∧ Gen.C13L_DEC_PREC = 24 ∧ Gen.C13L_DEC_EMIN = -149 ∧
    Gen.C13L_DEC_INT_BITS = 32 ∧ Gen.C13L_DEC_TRUNC = true ∧ Gen.C13L_DEC_ZERO_ACTIVE = true := by decide

/-- without rounding, `makeWith` is the exact model: every theorem of Props/C13.lean is about `makeWith id` -/
theorem makeWith_id (o : Opts) (notes : List Note) : makeWith id o notes = makePianoroll o notes :=
  makeWith_id_eq o notes

/-- the code: binary64 after every operation -/
theorem makePianorollF_def (o : Opts) (notes : List Note) : makePianorollF o notes = makeWith f64 o notes := rfl

/-- every note occupies at least one frame, in every mode; note separation removes exactly the last frame of a
    note that has more than one; onset mode keeps exactly the onset frame -/
theorem raster_min_one_frame (fl : Rat → Rat) (o : Opts) (t0 : Rat) (n : Note) :
    onFrameG fl o t0 n < offCellG fl o t0 n ∧ offCellG fl o t0 n ≤ offFullG fl o t0 n ∧
    (o.onsetOnly = true → offCellG fl o t0 n = onFrameG fl o t0 n + 1) ∧
    (o.onsetOnly = false → o.noteSep = false → offCellG fl o t0 n = offFullG fl o t0 n) ∧
    (o.onsetOnly = false → o.noteSep = true →
      offCellG fl o t0 n = max (onFrameG fl o t0 n + 1) (offFullG fl o t0 n - 1)) :=
  min_one_frameG fl o t0 n

/-- **cell value**: a cell no note covers is 0; a covered cell holds the velocity of a covering note that is
    the maximum over all covering notes (1 instead in binary mode) — whatever the order of the rows -/
theorem raster_cell_value (fl : Rat → Rat) (o : Opts) (notes : List Note) (r : Roll) (h : makeWith fl o notes = some r)
    (p j : Int) (hp0 : 0 ≤ p) (hp1 : p < r.rows) :
    ((¬ ∃ n ∈ notes, CoversG fl o notes n (p + r.rowStart) j) → r.cell p j = 0) ∧
    ((∃ n ∈ notes, CoversG fl o notes n (p + r.rowStart) j) →
      ∃ n ∈ notes, CoversG fl o notes n (p + r.rowStart) j ∧
        (∀ n' ∈ notes, CoversG fl o notes n' (p + r.rowStart) j → n'.vel ≤ n.vel) ∧
        r.cell p j = if o.binary = true ∧ n.vel ≠ 0 then 1 else n.vel) :=
  cell_valueR fl o notes _ _ _ r (makeWith_rows fl o notes ▸ h) p j hp0 hp1

/-- **cell (p, j) is non-zero exactly when a note of that row sounds during frame j** (at its onset frame only
    in onset mode, without its last frame under note separation, never less than one frame: `raster_min_one_frame`),
    for MIDI velocities (> 0; a note array without velocity column has velocity 1 everywhere) -/
theorem raster_cell_iff (fl : Rat → Rat) (o : Opts) (notes : List Note) (r : Roll) (h : makeWith fl o notes = some r)
    (hv : ∀ n ∈ notes, 0 < n.vel) (p j : Int) (hp0 : 0 ≤ p) (hp1 : p < r.rows) :
    r.cell p j ≠ 0 ↔ ∃ n ∈ notes, CoversG fl o notes n (p + r.rowStart) j :=
  cell_iffR fl o notes _ _ _ r (makeWith_rows fl o notes ▸ h) hv p j hp0 hp1

/-- in binary mode, and without velocities, the covered cells hold 1 -/
theorem raster_cell_binary (fl : Rat → Rat) (o : Opts) (notes : List Note) (r : Roll) (h : makeWith fl o notes = some r)
    (hv : ∀ n ∈ notes, 0 < n.vel) (hb : o.binary = true ∨ ∀ n ∈ notes, n.vel = 1)
    (p j : Int) (hp0 : 0 ≤ p) (hp1 : p < r.rows)
    (hc : ∃ n ∈ notes, CoversG fl o notes n (p + r.rowStart) j) : r.cell p j = 1 :=
  cell_binaryR fl o notes _ _ _ r (makeWith_rows fl o notes ▸ h) hv hb p j hp0 hp1 hc

/-- nothing is drawn outside the matrix: every sounding frame of every note is a cell of the (un-sliced) roll -/
theorem raster_cells_in_range (fl : Rat → Rat) (o : Opts) (notes : List Note) (r : Roll) (h : makeWith fl o notes = some r)
    (n : Note) (hn : n ∈ notes) (q j : Int) (hc : CoversG fl o notes n q j) :
    0 ≤ q ∧ q < rowsFull o notes ∧ 0 ≤ j ∧ j < r.cols :=
  cells_in_rangeR fl o notes _ _ _ r (makeWith_rows fl o notes ▸ h) n hn q j hc

/-- **whatever the order of the input rows**: a permutation of the rows is accepted or rejected alike and
    gives the same shape and the same matrix; the index rows are permuted along -/
theorem raster_order_indep (fl : Rat → Rat) (o : Opts) {notes notes' : List Note} (hp : notes ~ notes') :
    (makeWith fl o notes = none ↔ makeWith fl o notes' = none) ∧
    ∀ r r', makeWith fl o notes = some r → makeWith fl o notes' = some r' →
      r.rows = r'.rows ∧ r.cols = r'.cols ∧ (∀ p j, r.cell p j = r'.cell p j) ∧ r.idx ~ r'.idx :=
  makeWith_order_indep fl o hp

/-- **the index rows are in input order**: row `i` is `(row, onset frame, offset frame, midi pitch)` of the
    `i`-th input note -/
theorem raster_idx_rows (fl : Rat → Rat) (o : Opts) (notes : List Note) (r : Roll) (h : makeWith fl o notes = some r) :
    r.idx = notes.map fun n =>
      (rowOf o (lowestOf o notes) n - r.rowStart, onFrameG fl o (t0Of o notes) n, offIdxG fl o (t0Of o notes) n, n.pitch) :=
  idx_rowsG fl o notes r h

/-- **the index rows designate exactly the non-zero cells**: cell `(p, j)` is non-zero iff some index row has
    vertical position `p` and `onset ≤ j < offset` (in onset mode: `j = onset`) -/
theorem raster_idx_designate (fl : Rat → Rat) (o : Opts) (notes : List Note) (r : Roll) (h : makeWith fl o notes = some r)
    (hv : ∀ n ∈ notes, 0 < n.vel) (p j : Int) (hp0 : 0 ≤ p) (hp1 : p < r.rows) :
    r.cell p j ≠ 0 ↔
      ∃ row ∈ r.idx, row.1 = p ∧ row.2.1 ≤ j ∧ j < (if o.onsetOnly then row.2.1 + 1 else row.2.2.1) :=
  idx_designateG fl o notes r h hv p j hp0 hp1

/-- **a frame is stable**: when `y` (the binary64 result) is nearer to `x` (the exact product) than every
    half-frame point `k + 1/2` is, both round to the same frame -/
theorem frames_stable (x y : ℚ) (h : ∀ k : ℤ, |y - x| < |x - ((k : ℚ) + 1 / 2)|) :
    roundHalfEven y = roundHalfEven x := by
  obtain ⟨hx1, hx2⟩ := abs_le.mp (Round.roundHalfEven_close x)
  -- `y` lies strictly between the half-integers on either side of the rounding of `x`
  have h1 := h (roundHalfEven x)
  have h2 := h (roundHalfEven x - 1)
  rw [abs_of_nonpos (by linarith only [hx1] : x - ((roundHalfEven x : ℚ) + 1 / 2) ≤ 0)] at h1
  rw [abs_of_nonneg (by push_cast; linarith only [hx2] : 0 ≤ x - (((roundHalfEven x - 1 : ℤ) : ℚ) + 1 / 2))] at h2
  push_cast at h2
  exact Round.roundHalfEven_near (abs_lt.mpr ⟨by linarith only [(abs_lt.mp h2).1], by linarith only [(abs_lt.mp h1).2]⟩)

/-- one binary64 operation: exact on binary64 numbers (`m * 2^k`, `|m| < 2^53`, `k ≥ -1074`), relative error at
    most `2^-53` in the normal range, and the product of `time_div` with a rounded difference is within
    `2^-51` (relative) of the exact product -/
theorem f64_spec (q c s : ℚ) :
    (∀ m k : Int, m.natAbs < 2 ^ 53 → -1074 ≤ k → f64 ((m : ℚ) * (2 : ℚ) ^ k) = (m : ℚ) * (2 : ℚ) ^ k) ∧
    ((q = 0 ∨ (2 : ℚ) ^ (-1022 : Int) ≤ |q|) → |f64 q - q| ≤ |q| * (2 : ℚ) ^ (-53 : Int)) ∧
    ((s = 0 ∨ (2 : ℚ) ^ (-1022 : Int) ≤ |s|) → (c * f64 s = 0 ∨ (2 : ℚ) ^ (-1022 : Int) ≤ |c * f64 s|) →
      |f64 (c * f64 s) - c * s| ≤ |c * s| * (2 : ℚ) ^ (-51 : Int)) :=
  ⟨f64_dyadic, f64_err q, f64_mul_err c s⟩

/-- **the onset frame of the code is the onset frame of the exact reading** whenever the exact product
    `time_div * (onset - min_time)` keeps a distance of more than `2^-51` of its size from every half-frame point
    (no underflow), and the margin product agrees; likewise the length for `time_div * duration` (`2^-53`) -/
theorem frame_margin (o : Opts) (t0 : Rat) (n : Note)
    (hm : marginFramesG f64 o = marginFrames o) :
    (let s := n.onset - t0
     (s = 0 ∨ (2 : ℚ) ^ (-1022 : Int) ≤ |s|) →
     ((o.timeDiv : ℚ) * f64 s = 0 ∨ (2 : ℚ) ^ (-1022 : Int) ≤ |(o.timeDiv : ℚ) * f64 s|) →
     (∀ k : ℤ, |(o.timeDiv : ℚ) * s| * (2 : ℚ) ^ (-51 : Int) < |(o.timeDiv : ℚ) * s - ((k : ℚ) + 1 / 2)|) →
     onFrameG f64 o t0 n = onFrame o t0 n) ∧
    (let d := (o.timeDiv : ℚ) * n.dur
     (d = 0 ∨ (2 : ℚ) ^ (-1022 : Int) ≤ |d|) →
     (∀ k : ℤ, |d| * (2 : ℚ) ^ (-53 : Int) < |d - ((k : ℚ) + 1 / 2)|) →
     durFramesG f64 o n = durFrames o n) := by
  constructor
  · intro s hs hp hk
    unfold onFrameG onFrame
    rw [hm]
    congr 1
    apply frames_stable
    intro k
    exact lt_of_le_of_lt (f64_mul_err _ _ hs hp) (hk k)
  · intro d hd hk
    have : roundHalfEven (f64 d) = roundHalfEven d := by
      apply frames_stable
      intro k
      exact lt_of_le_of_lt (f64_err _ hd) (hk k)
    unfold durFramesG durFrames
    simp only [lit_min_frames]
    rw [this]

/-- **the code computes the roll of the exact reading** whenever it computes the exact reading's frames: the same
    onset frame and length for every note and the same number of columns for the last offset frame -/
theorem float_agrees (o : Opts) (notes : List Note)
    (hf : ∀ n ∈ notes, onFrameG f64 o (t0Of o notes) n = onFrame o (t0Of o notes) n ∧ durFramesG f64 o n = durFrames o n)
    (hc : colsFrom f64 o (t0Of o notes) (maxOffOf o notes) = colsOf o notes) :
    makePianorollF o notes = makePianoroll o notes := by
  rw [← makeWith_id]
  exact makeWith_congr f64 id o notes hf hc

/-- every product / difference / sum the rasteriser forms is a binary64 number (what `floats_exact` of the harness
    checks on each case before the exact oracle judges it) -/
def FloatExact (o : Opts) (notes : List Note) : Prop :=
  let td : ℚ := (o.timeDiv : ℚ)
  let t0 := t0Of o notes
  (∀ n ∈ notes, f64 (n.onset - t0) = n.onset - t0 ∧ f64 (td * (n.onset - t0)) = td * (n.onset - t0) ∧
    f64 (td * n.dur) = td * n.dur) ∧
  f64 (o.timeMargin * td) = o.timeMargin * td ∧
  match o.endTime with
  | none => f64 (td * o.timeMargin + (maxOffOf o notes : ℚ)) = td * o.timeMargin + (maxOffOf o notes : ℚ)
  | some e => f64 e = e ∧ f64 (e - t0) = e - t0 ∧ f64 ((e - t0) * td) = (e - t0) * td ∧
      f64 (td * (e - t0)) = td * (e - t0) ∧
      f64 (td * o.timeMargin + td * (e - t0)) = td * o.timeMargin + td * (e - t0)

/-- **on exact products the code is the exact model**: then every theorem of Props/C13.lean, C13Args, C13Session
    speaks about the code's own result -/
theorem float_exact (o : Opts) (notes : List Note) (h : FloatExact o notes) :
    makePianorollF o notes = makePianoroll o notes := by
  obtain ⟨hn, hm, he⟩ := h
  have hcomm : (o.timeDiv : ℚ) * o.timeMargin = o.timeMargin * (o.timeDiv : ℚ) := mul_comm _ _
  apply float_agrees
  · intro n hn'
    obtain ⟨h1, h2, h3⟩ := hn n hn'
    constructor
    · unfold onFrameG onFrame marginFramesG marginFrames
      rw [h1, h2, hm]
    · unfold durFramesG durFrames
      simp only [lit_min_frames]
      rw [h3]
  · unfold colsFrom colsOf trailMarginG trailMargin
    cases het : o.endTime with
    | none =>
      rw [het] at he
      simp only at he ⊢
      rw [hcomm, hm, ← hcomm, he]
    | some e =>
      rw [het] at he
      obtain ⟨e1, e2, e3, e4, e5⟩ := he
      simp only
      rw [e1, e2, e3, e4, hcomm, hm, ← hcomm, e5]

/-- lifted to the public entry points: where the rasteriser agrees on the prepared notes, so do
    `compute_pianoroll` and `compute_pitch_class_pianoroll` -/
theorem kw_float_agrees (kind : String) (a : NoteArray) (kw : KwArgs)
    (h : ∀ arr g ri o notes, ensureNotearray kind a = some arr → resolveArgs kw = some (g, ri) →
      prepare arr g = some (o, notes) → makePianorollF o notes = makePianoroll o notes) :
    computePianorollKwF kind a kw = computePianorollKw kind a kw := by
  unfold computePianorollKwF computePianorollKw computePianoroll
  cases h1 : ensureNotearray kind a with
  | none => rfl
  | some arr =>
    cases h2 : resolveArgs kw with
    | none => rfl
    | some gr =>
      obtain ⟨g, ri⟩ := gr
      simp only
      cases h3 : prepare arr g with
      | none => rfl
      | some on =>
        obtain ⟨o, notes⟩ := on
        simp only
        rw [h arr g ri o notes h1 h2 h3]
        cases makePianoroll o notes <;> rfl

theorem pc_float_agrees (kind : String) (a : NoteArray) (kw : PcKw)
    (h : computePianorollKwF kind a (pcInnerKw kw) = computePianorollKw kind a (pcInnerKw kw)) :
    computePcKwF kind a kw = computePcKw kind a kw := by
  unfold computePcKwF computePcKw
  rw [h]
  rfl

def exF : Opts := { exOpts with timeDiv := 10 }
/-- 0.05 as a binary64 number: slightly more than 1/20 -/
def exOnset : ℚ := 3602879701896397 / 72057594037927936

/-- **a tie the rounding moves**: `10 * 0.05` is `0.5` in binary64 (frame 0, half to even) but slightly more than
    `1/2` exactly (frame 1): the hypothesis of `float_agrees` cannot be dropped, and the driver's binary64 model — not
    the exact one — is what the code does here -/
theorem float_differs :
    f64 exOnset = exOnset ∧
    onFrameG f64 exF 0 ⟨60, exOnset, 1, 1⟩ = 0 ∧ onFrame exF 0 ⟨60, exOnset, 1, 1⟩ = 1 ∧
    (makePianorollF exF [⟨60, 0, 1, 1⟩, ⟨62, exOnset, 1, 1⟩]).map (fun r => (r.cols, r.cell 62 0)) = some (10, 1) ∧
    (makePianoroll exF [⟨60, 0, 1, 1⟩, ⟨62, exOnset, 1, 1⟩]).map (fun r => (r.cols, r.cell 62 0)) = some (11, 0) := by
  decide +kernel

/-- dyadic inputs on a power-of-two grid are exact: the hypotheses of `float_exact` are satisfiable -/
theorem exNotes_exact : FloatExact exOpts exNotes := by
  unfold FloatExact
  intro td t0
  refine ⟨?_, by decide +kernel, ?_⟩
  · have : ∀ n ∈ exNotes, (f64 (n.onset - t0Of exOpts exNotes) = n.onset - t0Of exOpts exNotes ∧
        f64 ((exOpts.timeDiv : ℚ) * (n.onset - t0Of exOpts exNotes)) = (exOpts.timeDiv : ℚ) * (n.onset - t0Of exOpts exNotes) ∧
        f64 ((exOpts.timeDiv : ℚ) * n.dur) = (exOpts.timeDiv : ℚ) * n.dur) := by decide +kernel
    exact this
  · show f64 ((exOpts.timeDiv : ℚ) * exOpts.timeMargin + (maxOffOf exOpts exNotes : ℚ)) = _
    decide +kernel

example : makePianorollF exOpts exNotes = makePianoroll exOpts exNotes := float_exact _ _ exNotes_exact

end C13
