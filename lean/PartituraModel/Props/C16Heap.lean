/-
C16 — "returns a NEW score or part in which every pitched note — including the later notes of tie chains and grace
notes — has moved by the interval …, while onsets, durations, voices, ties and all other elements are unchanged and
the argument itself is not modified", as theorems over the heap model of `transpose` (Model/TransposeHeap.lean:
deepcopy, dispatch on Score / Part, the two loops, in-place update of each note).

`h` is the heap before the call (the argument and everything reachable from it), `h'` the heap after it; the copy of
the object at address `a` lives at `a + h.length`.  `visited h root` are the pitched notes (Note, GraceNote) of the
parts of the argument, in the order the loops reach them.  The only hypothesis on the input is its validity (`ValidArg`): what
the score holds are parts, a note is listed once (`Nodup`), step names are step names; the interval is one of the 39 classes.

The statements use notions defined in Proofs/C16Heap.lean (`visited` among them).  `erase c` is the cell `c` with its three pitch
fields (step, alteration, octave) blanked, so `erase c' = erase c` says: same kind, references and payload.
`targets h ps` lists the addresses of the pitched notes of the parts `ps`, in loop order, read off `h`.
`iterT iv k c` is `_transpose_note_inplace` with interval `iv` applied `k` times to `c` (`none` when one raises).
-/
import PartituraModel.Proofs.C16Heap
import PartituraModel.Props.C16

namespace C16Heap
open Model Model.TH

/-- **the argument is not modified and a new object is returned**: the result lives at a fresh address, the heap
    has grown by one copy of every object, and every cell the argument could reach is exactly what it was -/
theorem argument_untouched {h h' : Heap} {root r' : Nat} {iv : Interval}
    (e : transpose h root iv = some (h', r')) :
    r' = root + h.length ∧ h'.length = h.length + h.length ∧ ∀ a, a < h.length → h'[a]? = h[a]? := by
  obtain ⟨hr, f, -⟩ := transpose_unfold e
  refine ⟨hr, by simpa using f.1, fun a ha => ?_⟩
  -- the heap of a call that returns is the heap the run leaves
  rw [transposeRun_agrees] at e
  obtain ⟨r, -, he⟩ := Option.map_eq_some_iff.mp e
  rw [← (Prod.mk.inj he).1]
  exact transposeRun_frame h root iv a ha

/-- **all other elements are unchanged — ties included**: every object of the result is the copy of the argument's
    object: same kind, same references (each leading to the COPY of its target, never into the argument), same
    payload (onset, duration, voice, staff, id, …); at most the three pitch fields differ -/
theorem everything_else_unchanged {h h' : Heap} {root r' : Nat} {iv : Interval}
    (e : transpose h root iv = some (h', r')) (a : Nat) :
    (h'[a + h.length]?).map erase = (h[a]?).map fun c => erase (c.shift h.length) := by
  obtain ⟨-, f, -⟩ := transpose_unfold e
  rw [f.2 (a + h.length), copy_hi, Option.map_map]
  rfl

/-- objects that are not pitched notes of the argument's parts (rests, unpitched notes, measures, removed chain
    members, notes of parts outside the argument …) are copied exactly, pitch fields included -/
theorem unvisited_copied {h h' : Heap} {root r' : Nat} {iv : Interval}
    (e : transpose h root iv = some (h', r')) (a : Nat) (ha : a ∉ visited h root) :
    h'[a + h.length]? = (h[a]?).map (Cell.shift h.length) := by
  rw [transpose_count e a, List.count_eq_zero.mpr ha]
  cases h[a]? <;> rfl

/-- **every pitched note is transposed from ITS OWN spelling**, whatever it is tied to (a later note of a tie chain,
    a note whose chain head was removed, a grace note): the copy holds `_transpose_note_inplace` of the argument's
    note, with the argument's references and payload -/
theorem every_note_transposed {h h' : Heap} {root r' : Nat} {iv : Interval}
    (e : transpose h root iv = some (h', r')) (nd : (visited h root).Nodup) (a : Nat) (ha : a ∈ visited h root) :
    ∃ s al o rs p r, h[a]? = some (Cell.note s al o rs p) ∧
      transposeSpelling s al o iv.quality iv.number iv.up = some r ∧
      h'[a + h.length]? = some (Cell.note r.1 r.2.1 r.2.2 (rs.map (· + h.length)) p) := by
  obtain ⟨s, al, o, rs, p, hc⟩ := visited_is_note ha
  obtain ⟨-, f, -⟩ := transpose_unfold e
  have hk := transpose_count e a
  have hf := f.2 (a + h.length)
  rw [copy_hi, hc] at hf
  rw [nd.count, if_pos ha, hc] at hk
  simp only [Option.bind_some, iterT, Cell.transposed] at hk
  cases ht : transposeSpelling s al o iv.quality iv.number iv.up with
  | none => simp [hk, ht] at hf
  | some r =>
    refine ⟨s, al, o, rs, p, r, hc, ht, ?_⟩
    rw [hk, ht]
    rfl

/-- validity of the argument: what the score holds are parts, a note belongs to one part and is listed once, step
    names are step names -/
structure ValidArg (h : Heap) (root : Nat) : Prop where
  parts : ∀ p ∈ partsOf h root, ∃ os, h[p]? = some (Cell.part os)
  once : (visited h root).Nodup
  steps : ∀ a ∈ visited h root, ∀ s al o rs p, h[a]? = some (Cell.note s al o rs p) → s ∈ C16.steps7

/-- a step name stays a step name under `_transpose_note_inplace` -/
def StepNote (c : Cell) : Prop := ∃ s al o rs p, c = Cell.note s al o rs p ∧ s ∈ C16.steps7

theorem stepNote_transposed {iv : Interval} (hiv : (iv.quality, iv.number) ∈ C16.classPairs) (c : Cell)
    (g : StepNote c) : ∃ c', Cell.transposed iv c = some c' ∧ StepNote c' := by
  obtain ⟨s, al, o, rs, p, rfl, hs⟩ := g
  obtain ⟨s', al', o', sz, ht, hs', -⟩ := C16.note_moved s hs _ hiv al o iv.up
  exact ⟨Cell.note s' al' o' rs p, by simp [Cell.transposed, ht], s', al', o', rs, p, rfl, hs'⟩

/-- **`transpose` does not raise, however often a note is listed** (`ValidArg.once` is not needed for totality):
    what the score holds are parts, step names are step names, the interval is one of the 39 classes -/
theorem transpose_total_listed_anyhow {h : Heap} {root : Nat} {iv : Interval}
    (parts : ∀ p ∈ partsOf h root, ∃ os, h[p]? = some (Cell.part os))
    (steps : ∀ a ∈ visited h root, ∀ s al o rs p, h[a]? = some (Cell.note s al o rs p) → s ∈ C16.steps7)
    (hiv : (iv.quality, iv.number) ∈ C16.classPairs) : (transpose h root iv).isSome := by
  rw [transpose_eq, Option.isSome_map]
  apply foldl_parts_good iv StepNote (stepNote_transposed hiv) ((visited h root).map (· + h.length))
  · intro p hp
    obtain ⟨q, hq, rfl⟩ := List.mem_map.mp hp
    obtain ⟨os, hos⟩ := parts q hq
    exact ⟨os.map (· + h.length), by rw [copy_hi, hos]; rfl⟩
  · rw [targets_copy]
    exact fun a ha => ha
  · intro a ha
    obtain ⟨b, hb, rfl⟩ := List.mem_map.mp ha
    obtain ⟨s, al, o, rs, p, hc⟩ := visited_is_note hb
    refine ⟨_, by rw [copy_hi, hc]; rfl, s, al, o, rs.map (· + h.length), p, rfl, steps b hb s al o rs p hc⟩

/-- **`transpose` does not raise** on a valid argument and a valid simple interval -/
theorem transpose_total {h : Heap} {root : Nat} {iv : Interval} (v : ValidArg h root)
    (hiv : (iv.quality, iv.number) ∈ C16.classPairs) : (transpose h root iv).isSome :=
  transpose_total_listed_anyhow v.parts v.steps hiv

/-- **the property, end to end**: on a valid argument every pitched note of the result — tied or not — sounds the
    interval's semitones higher (lower) and stands number − 1 staff steps higher (lower) than the argument's note,
    and keeps its references and payload -/
theorem every_note_moved {h h' : Heap} {root r' : Nat} {iv : Interval}
    (e : transpose h root iv = some (h', r')) (v : ValidArg h root)
    (hiv : (iv.quality, iv.number) ∈ C16.classPairs) (a : Nat) (ha : a ∈ visited h root) :
    ∃ s al o rs p s' al' o' sz m d, h[a]? = some (Cell.note s al o rs p) ∧
      h'[a + h.length]? = some (Cell.note s' al' o' (rs.map (· + h.length)) p) ∧
      intervalSemitones iv.quality iv.number = some sz ∧
      spellingToMidi s al o = some m ∧
      spellingToMidi s' al' o' = some (if iv.up then m + sz else m - sz) ∧
      C16.staffPos s o = some d ∧
      C16.staffPos s' o' = some (if iv.up then d + ((iv.number : Int) - 1) else d - ((iv.number : Int) - 1)) := by
  obtain ⟨s, al, o, rs, p, r, hc, ht, hr⟩ := every_note_transposed e v.once a ha
  obtain ⟨s', al', o', sz, ht', -, hz, ⟨m, hm, hm'⟩, ⟨d, hd, hd'⟩⟩ :=
    C16.note_moved s (v.steps a ha s al o rs p hc) _ hiv al o iv.up
  rw [ht] at ht'
  cases ht'
  exact ⟨s, al, o, rs, p, s', al', o', sz, m, d, hc, hr, hz, hm, hm', hd, hd'⟩

/-- **up and then down (down and then up) restores the original spelling**, on whole scores: transposing the result
    back gives a third score whose notes have the argument's step and octave and the argument's alteration as a
    number (`None` counts as 0), with the argument's references (to the second copies) and payload -/
theorem up_then_down_restores {h h' h'' : Heap} {root r' r'' : Nat} {q : String} {n : Nat} {up : Bool}
    (e1 : transpose h root ⟨q, n, up⟩ = some (h', r')) (e2 : transpose h' r' ⟨q, n, !up⟩ = some (h'', r''))
    (v : ValidArg h root) (hiv : (q, n) ∈ C16.classPairs) (a : Nat) (ha : a ∈ visited h root) :
    ∃ s al o rs p al'', h[a]? = some (Cell.note s al o rs p) ∧
      h''[a + h.length + h'.length]? =
        some (Cell.note s al'' o ((rs.map (· + h.length)).map (· + h'.length)) p) ∧
      al''.getD 0 = al.getD 0 := by
  obtain ⟨s, al, o, rs, p, r, hc, ht, hr⟩ := every_note_transposed e1 v.once a ha
  have hv := targets_result e1
  have nd2 : (visited h' r').Nodup := by
    rw [hv]
    exact List.Pairwise.map _ (fun x y (hxy : x ≠ y) => by show x + h.length ≠ y + h.length; omega) v.once
  have ha2 : a + h.length ∈ visited h' r' := by
    rw [hv]
    exact List.mem_map.mpr ⟨a, ha, rfl⟩
  obtain ⟨s1, al1, o1, rs1, p1, r2, hc2, ht2, hr2⟩ := every_note_transposed e2 nd2 _ ha2
  rw [hr] at hc2
  simp only [Option.some.injEq, Cell.note.injEq] at hc2
  obtain ⟨rfl, rfl, rfl, rfl, rfl⟩ := hc2
  obtain ⟨s', al', o', al'', hu, hd, hal⟩ :=
    C16.note_up_down s (v.steps a ha s al o rs p hc) (q, n) hiv al o up
  simp only at ht ht2 hu hd
  rw [hu] at ht
  cases ht
  rw [hd] at ht2
  cases ht2
  exact ⟨s, al, o, rs, p, al'', hc, hr2, hal⟩

/-- non-vacuity: a part (cell 0) with G♯4 (cell 1) tied to A♭4 (cell 2) and a rest;
    a major second up gives A♯4 and B♭4 (not A♯4 twice), ties lead to the copies, the argument is untouched -/
def demo : Heap :=
  [.part [1, 2, 3], .note "G" (some 1) 4 [2] [0, 4], .note "A" (some (-1)) 4 [1] [4, 8], .other [] [8, 12]]

example : transpose demo 0 ⟨"M", 2, true⟩ = some (demo ++
    [.part [5, 6, 7], .note "A" (some 1) 4 [6] [0, 4], .note "B" (some (-1)) 4 [5] [4, 8], .other [] [8, 12]], 4) := by
  decide +kernel

example : ValidArg demo 0 :=
  ⟨by
    intro p hp
    have : partsOf demo 0 = [0] := by decide +kernel
    rw [this] at hp
    obtain rfl : p = 0 := by simpa using hp
    exact ⟨[1, 2, 3], rfl⟩, by decide +kernel, by
    intro a ha s al o rs p hc
    have : a = 1 ∨ a = 2 := by
      have : visited demo 0 = [1, 2] := by decide +kernel
      rw [this] at ha
      simpa using ha
    rcases this with rfl | rfl <;> (simp [demo] at hc; simp [hc.1, C16.steps7])⟩

/-! ## No side condition on how often a note is listed; arguments that are neither Score nor Part -/

/-- **what `transpose` does to EVERY object of ANY argument** (no hypothesis at all): the copy of the object at `a`
    is `_transpose_note_inplace` applied to it as often as the loops list it (`iterT`: 0 times = an exact copy —
    rests, measures, notes outside the argument's parts; once = the property; a part listed twice in one score is
    one object after `deepcopy` and its notes are moved TWICE).  `unvisited_copied` and `every_note_transposed` are
    the cases 0 and 1. -/
theorem transposed_as_often_as_listed {h h' : Heap} {root r' : Nat} {iv : Interval}
    (e : transpose h root iv = some (h', r')) (a : Nat) :
    h'[a + h.length]? =
      (h[a]?.bind (iterT iv ((visited h root).count a))).map (Cell.shift h.length) :=
  transpose_count e a

/-- **an argument that is neither a Score nor a Part** (the last branch of the dispatch: a Note, a list, …) comes
    back as an untransposed deep copy; with `argument_untouched` the argument is left alone here too -/
theorem other_argument_copied {h : Heap} {root : Nat} {iv : Interval}
    (hs : ∀ ps, h[root]? ≠ some (Cell.score ps)) (hp : ∀ os, h[root]? ≠ some (Cell.part os)) :
    transpose h root iv = some (deepcopy h root) := by
  have h0 : partsOf h root = [] := by
    unfold partsOf listedParts
    cases hc : h[root]? with
    | none => rfl
    | some c =>
      cases c with
      | score ps => exact absurd hc (hs ps)
      | part os => exact absurd hc (hp os)
      | note s a o rs p => rfl
      | other rs p => rfl
  rw [transpose_eq, h0]
  rfl

/-- an interval that moves no note (it has no size: `Interval.semitones` raises) makes the whole call raise — unless
    the argument's parts hold no pitched note at all, in which case the result is the plain deep copy -/
theorem sizeless_interval {h h' : Heap} {root r' : Nat} {iv : Interval}
    (hN : ∀ c, Cell.transposed iv c = none) (e : transpose h root iv = some (h', r')) :
    visited h root = [] ∧ (h', r') = deepcopy h root := by
  rw [transpose_eq] at e
  simp only [Option.map_eq_some_iff] at e
  obtain ⟨h2, e2, he⟩ := e
  obtain ⟨ht, rfl⟩ := foldl_parts_none iv hN _ _ _ e2
  rw [targets_copy, List.map_eq_nil_iff] at ht
  exact ⟨ht, he.symm⟩

/-- **every listed part is reached, and reached once** (fix F-C16-6): the outer loop runs over exactly the parts
    the argument lists, each object one time however often the score lists it -/
theorem parts_reached_once (h : Heap) (root : Nat) :
    (partsOf h root).Nodup ∧ ∀ p, p ∈ partsOf h root ↔ p ∈ listedParts h root :=
  ⟨partsOf_firstSeen.nodup _, fun _ => partsOf_firstSeen.mem⟩

/-- non-vacuity, the witness of F-C16-6: one part listed twice in a score — its note moves by ONE major second
    (the unrepaired code moved it twice, to E) -/
example : transpose [.score [1, 1], .part [2], .note "C" none 4 [] [0, 4]] 0 ⟨"M", 2, true⟩ =
    some ([.score [1, 1], .part [2], .note "C" none 4 [] [0, 4],
           .score [4, 4], .part [5], .note "D" (some 0) 4 [] [0, 4]], 3) := by decide +kernel

/-- a note that two different parts hold (possible only by bypassing `Part.add`) is still moved once per part:
    `transposed_as_often_as_listed` with count 2; this is what `ValidArg.once` excludes -/
example : transpose [.score [1, 2], .part [3], .part [3], .note "C" none 4 [] [0, 4]] 0 ⟨"M", 2, true⟩ =
    some ([.score [1, 2], .part [3], .part [3], .note "C" none 4 [] [0, 4],
           .score [5, 6], .part [7], .part [7], .note "E" (some 0) 4 [] [0, 4]], 4) := by decide +kernel

example : iterT ⟨"M", 2, true⟩ 2 (.note "C" none 4 [] [0, 4]) = some (.note "E" (some 0) 4 [] [0, 4]) := by
  decide +kernel

/-- … and a Note as argument: copied, not moved -/
example : transpose [.note "C" none 4 [1] [0, 4], .note "C" none 4 [0] [4, 8]] 0 ⟨"M", 2, true⟩ =
    some ([.note "C" none 4 [1] [0, 4], .note "C" none 4 [0] [4, 8],
           .note "C" none 4 [3] [0, 4], .note "C" none 4 [2] [4, 8]], 2) := by decide +kernel

/-! ## The argument is not modified — also when the call raises -/

/-- `transposeRun` (the loops run to the first note that raises, heap kept) is `transpose` with the heap forgotten
    on a raise: the theorems about `transpose` speak about the run the driver answers with -/
theorem run_is_transpose (h : Heap) (root : Nat) (iv : Interval) :
    transpose h root iv = (transposeRun h root iv).2.map fun r => ((transposeRun h root iv).1, r) :=
  transposeRun_agrees h root iv

/-- **the argument itself is not modified — whatever happens**: the call returns, or raises at any note of any part
    (an interval without a size, a step that is no step name, a part list holding something that is no part): every
    cell the argument could reach is exactly what it was.  No hypothesis on heap, root or interval. -/
theorem argument_untouched_even_if_raised (h : Heap) (root : Nat) (iv : Interval) :
    ∀ a, a < h.length → (transposeRun h root iv).1[a]? = h[a]? :=
  fun a ha => transposeRun_frame h root iv a ha

/-- non-vacuity: the second note has a step that is no step name — the call raises after the first note was moved
    in the copy; the argument (cells 0..2) is intact -/
example : transposeRun [.part [1, 2], .note "C" none 4 [] [0, 4], .note "H" none 4 [] [4, 8]] 0 ⟨"M", 2, true⟩ =
    ([.part [1, 2], .note "C" none 4 [] [0, 4], .note "H" none 4 [] [4, 8],
      .part [4, 5], .note "D" (some 0) 4 [] [0, 4], .note "H" none 4 [] [4, 8]], none) := by decide +kernel

end C16Heap
