/-
C04 — ONE score object that is read, edited and exported again, and the zero-length dispatch.

The second export of an edited object is the export of the score as it is THEN: the ticks per quarter are the
least common multiple of the divisions that are stored now, and every tick is the exact image of the musical
time under the quarter map of the table that is stored now — whatever was read from the object before.  A quarter
map kept from before a `set_quarter_duration` (`tickStale`) is excluded by these statements (the `example` on `tickStale` below).

The exporter writes a note as a zero-length on/off pair exactly when its two ticks coincide; for a well-formed
score that is exactly when the note has no duration in the score — whatever its class (a grace note that was
given an extent by `expand_grace_notes` is written with its length; an ordinary note of zero duration as a pair).
-/
import PartituraModel.Props.C04Export
import PartituraModel.Proofs.C04Edit

namespace C04
open Model Model.Ticks Model.MidiPair Model.MidiModes Model.ScoreMidi Model.ScoreEdit

/-- "Set the duration of a quarter note from timepoint `t` onwards": afterwards `q` is in force at `t`, every earlier
    position keeps the value it had, the table is still one `set_quarter_duration` maintains, and `q` is among the
    quarter durations `get_ppq` reads. -/
theorem set_quarter_duration_takes_effect (b : TimeBase) (t q : Nat) (hb : C04Ed.Table b) (hq : 0 < q) :
    divAt (setQuarterDuration b t q) t = q ∧
    (∀ t', t' < t → divAt (setQuarterDuration b t q) t' = divAt b t') ∧
    C04Ed.Table (setQuarterDuration b t q) ∧ q ∈ divisions (setQuarterDuration b t q) := by
  refine ⟨?_, ?_, C04Ed.setQuarterDuration_table b t q hb hq, ?_⟩
  · exact C04Ed.setQuarterDuration_from b t q t hb.2.2 (Nat.le_refl t) fun e _ hlt => hlt
  · intro t' ht'
    rw [C04Ed.setQuarterDuration_eq, C04Ed.divAt_eq, C04Ed.divAt_eq]
    have ht : t ≠ 0 := by omega
    simp only [ht, if_false]
    rw [C04Ed.setQdGo_valAt _ _ 0 _ _ _ hb.2.2 (Nat.pos_of_ne_zero ht), if_neg fun h => absurd h.1 (by omega)]
  · rw [C04Ed.setQuarterDuration_eq]
    by_cases ht : t = 0
    · simp [ht, divisions]
    · simp only [ht, if_false, divisions, List.mem_cons]
      rcases C04Ed.setQdGo_has b.d0 b.qd 0 t q hb.2.2 (Nat.pos_of_ne_zero ht) with h | h
      · left; exact h
      · right; exact h

/-- "… that value takes effect until the time of the next quarter duration … does not change the timepoints, only the
    relation to musical time": between `t` and the next stored change, `y - x` divisions are `(y - x) / q` quarters
    in the quarter map of the edited part. -/
theorem set_quarter_duration_rate (b : TimeBase) (t q x y : Nat) (hb : C04Ed.Table b)
    (hnext : ∀ e ∈ b.qd, t < e.1 → y ≤ e.1) (htx : t ≤ x) (hxy : x ≤ y) :
    quarter (setQuarterDuration b t q) y - quarter (setQuarterDuration b t q) x
      = (((y : Int) : Rat) - ((x : Int) : Rat)) / (q : Rat) := by
  rcases Nat.eq_or_lt_of_le hxy with rfl | hlt
  · simp
  obtain ⟨hs, hmem⟩ := C04Ed.setQuarterDuration_qd b t q hb.2.2
  -- no stored change of the edited table lies after `t` and before `y`
  have hnext' : ∀ e ∈ (setQuarterDuration b t q).qd, t < e.1 → y ≤ e.1 := by
    intro e he hte
    rcases hmem e he with h | rfl
    · exact hnext e h hte
    · exact absurd hte (Nat.lt_irrefl _)
  have hd : divAt (setQuarterDuration b t q) x = q :=
    C04Ed.setQuarterDuration_from b t q x hb.2.2 htx fun e he hte => Nat.lt_of_lt_of_le hlt (hnext e he hte)
  unfold quarter
  rw [sub_sub_sub_cancel_right,
    C04Ed.quarterRaw_diff _ hs.asc x y hxy (fun e he hxe => hnext' e he (Nat.lt_of_le_of_lt htx hxe)), hd]
  ring

/-- **Reads leave the score object as it is**: after any history of exports, views and edits the object is what the
    edits alone make of it (a twin to which only the edits were applied). -/
theorem edit_history_state (ps : List PartIn) (ops : List Op) :
    (run ps ops).1 = (editsOf ops).foldl applyEdit ps := by
  induction ops generalizing ps with
  | nil => rfl
  | cons op rest ih =>
    cases op with
    | edit e => simp only [run, step, editsOf, List.foldl_cons]; exact ih _
    | save c => simp only [run, step, editsOf]; exact ih _
    | view => simp only [run, step, editsOf]; exact ih _

/-- **Every export of a history is the export of the twin**: the `i`-th step, an export with configuration `c`,
    returns what `save_score_midi` returns for the score obtained by applying the edits made so far to the initial
    score — it does not depend on the exports and views made before. -/
theorem edit_history_export (ps : List PartIn) (ops : List Op) (i : Nat) (c : Cfg) (hop : ops[i]? = some (.save c)) :
    (run ps ops).2[i]? = some (some (exportOf ((editsOf (ops.take i)).foldl applyEdit ps) c)) := by
  rw [C04Ed.run_out ps ops i _ hop]
  rfl

/-- two histories with the same edits before an export give the same file, whatever was read in between -/
theorem edit_history_reads_irrelevant (ps : List PartIn) (ops ops' : List Op) (i j : Nat) (c : Cfg)
    (h1 : ops[i]? = some (.save c)) (h2 : ops'[j]? = some (.save c))
    (he : editsOf (ops.take i) = editsOf (ops'.take j)) :
    (run ps ops).2[i]? = (run ps ops').2[j]? := by
  rw [edit_history_export ps ops i c h1, edit_history_export ps ops' j c h2, he]

/-- **The export of an edited score is exact** (`shift`, `time_sig_change`): for every list of admissible edits of a
    score whose quarter-duration tables are as `set_quarter_duration` maintains them, the ticks per quarter of the
    file are those of the edited tables and every tick is the exact image under the edited quarter maps. -/
theorem edited_export_exact (mode : Nat) (a : Anacrusis) (minPpq vel : Nat) (ps : List PartIn) (es : List Edit)
    (ex : Exported) (hT : ∀ x ∈ ps, C04Ed.Table x.base) (hes : ∀ e ∈ es, C04Ed.EditOk e) (ha : a ≠ .padBar)
    (h : saveScoreMidi mode a minPpq vel (es.foldl applyEdit ps) = some ex) :
    ex.ppq = ppq ((es.foldl applyEdit ps).flatMap fun x => divisions x.base) minPpq ∧
    ∃ o, origin a ((es.foldl applyEdit ps).map (·.base)) = some o ∧ 0 < ex.ppq ∧
      ∀ x ∈ es.foldl applyEdit ps, ∀ t,
        ((tick ex.ppq x.base o t : Int) : Rat) = (ex.ppq : Rat) * (quarter x.base t - o) := by
  have hw : ∀ x ∈ es.foldl applyEdit ps, C04T.WellFormed x.base :=
    fun x hx => (C04Ed.applyEdits_table ps es hT hes x hx).wf
  exact ⟨C04E.save_ppq h, export_ticks_exact mode a minPpq vel _ _ h ha hw⟩

/-- **Export after `set_quarter_duration`** (the read-then-edit history of one object): when part `i` gets `q`
    divisions per quarter from `t` on and the score is exported afterwards, `q` divides the ticks per quarter of the
    file, and a stretch from `x` to `y` inside the changed region (`t ≤ x ≤ y ≤` next stored change) of that part
    is written as exactly `ppq * (y - x) / q` ticks. -/
theorem edited_note_ticks (mode : Nat) (a : Anacrusis) (minPpq vel : Nat) (ps : List PartIn) (i t q x y : Nat)
    (p : PartIn) (ex : Exported) (hp : ps[i]? = some p)
    (hT : ∀ z ∈ ps, C04Ed.Table z.base) (hq : 0 < q) (ha : a ≠ .padBar)
    (h : saveScoreMidi mode a minPpq vel (applyEdit ps (.setQd i t q)) = some ex)
    (hnext : ∀ e ∈ p.base.qd, t < e.1 → y ≤ e.1) (htx : t ≤ x) (hxy : x ≤ y) :
    q ∣ ex.ppq ∧ ∃ o, origin a ((applyEdit ps (.setQd i t q)).map (·.base)) = some o ∧
      (((tick ex.ppq (setQuarterDuration p.base t q) o y - tick ex.ppq (setQuarterDuration p.base t q) o x : Int)) : Rat)
        = (ex.ppq : Rat) * ((((y : Int) : Rat) - ((x : Int) : Rat)) / (q : Rat)) := by
  have hes : ∀ e ∈ [Edit.setQd i t q], C04Ed.EditOk e := by
    intro e he
    simp only [List.mem_singleton] at he
    subst he
    exact hq
  obtain ⟨hppq, o, ho, hP, hex⟩ := edited_export_exact mode a minPpq vel ps [.setQd i t q] ex hT hes ha h
  simp only [List.foldl_cons, List.foldl_nil] at hppq ho hex
  have hget := C04Ed.applyEdit_get ps (.setQd i t q) i p hp
  simp only [Edit.part, if_true] at hget
  have hmem : editPart p (.setQd i t q) ∈ applyEdit ps (.setQd i t q) := List.mem_of_getElem? hget
  have hpT : C04Ed.Table p.base := hT p (List.mem_of_getElem? hp)
  refine ⟨?_, o, ho, ?_⟩
  · rw [hppq]
    have hpos : ∀ d ∈ (applyEdit ps (.setQd i t q)).flatMap (fun x => divisions x.base), 0 < d := by
      intro d hd
      obtain ⟨z, hz, hd⟩ := List.mem_flatMap.mp hd
      exact (C04Ed.applyEdit_table ps (.setQd i t q) hT hq z hz).wf.divisions_pos d hd
    apply (ppq_minimal _ minPpq hpos).2.2.1
    exact List.mem_flatMap.mpr ⟨_, hmem, (set_quarter_duration_takes_effect p.base t q hpT hq).2.2.2⟩
  · have e1 := hex _ hmem y
    have e2 := hex _ hmem x
    simp only [editPart] at e1 e2
    have hr := set_quarter_duration_rate p.base t q x y hpT hnext htx hxy
    push_cast
    rw [e1, e2]
    push_cast at hr
    rw [← hr]
    ring

theorem tick_eq_iff_no_duration (P : Nat) (hP : 0 < P) (b : TimeBase) (hw : C04T.WellFormed b) (o : Rat)
    (hex : ∀ t, ((tick P b o t : Int) : Rat) = (P : Rat) * (quarter b t - o)) (s d : Nat) :
    tick P b o s = tick P b o (s + d) ↔ d = 0 := by
  refine ⟨fun heq => ?_, fun hd => by rw [hd]; rfl⟩
  by_contra hd
  have hlt := (ticks_mono P b o hw s (s + d)).2 hP (by omega)
  unfold toTick at hlt
  rw [← hex s, ← hex (s + d), heq] at hlt
  exact lt_irrefl _ hlt

/-- **The zero-length dispatch follows the duration, not the class** (`shift`, `time_sig_change`): in an export of a
    well-formed score the two ticks of a sounding note coincide — the note is written as an on/off pair between the
    note offs and the note ons of its tick (`trackNotes`) — exactly when the note has no duration in the score.  A
    note of one division or more is never written with zero length, whatever kind of note it is. -/
theorem zero_length_iff_no_duration (mode : Nat) (a : Anacrusis) (minPpq vel : Nat) (parts : List PartIn) (ex : Exported)
    (h : saveScoreMidi mode a minPpq vel parts = some ex) (ha : a ≠ .padBar)
    (hw : ∀ x ∈ parts, C04T.WellFormed x.base) :
    ∃ o, origin a (parts.map (·.base)) = some o ∧
      ∀ x ∈ parts, ∀ s d : Nat, (tick ex.ppq x.base o s = tick ex.ppq x.base o (s + d) ↔ d = 0) := by
  obtain ⟨o, ho, hP, hex⟩ := export_ticks_exact mode a minPpq vel parts ex h ha hw
  exact ⟨o, ho, fun x hx => tick_eq_iff_no_duration ex.ppq hP x.base (hw x hx) o (hex x hx)⟩

/-- the same for `pad_bar`, PARTIAL as `export_ticks_exact_pad_partial` (`hbar`: the bar of the first time signature
    is a whole number of ticks) -/
theorem zero_length_iff_no_duration_pad_partial (mode : Nat) (minPpq vel : Nat) (parts : List PartIn) (ex : Exported)
    (h : saveScoreMidi mode .padBar minPpq vel parts = some ex)
    (hw : ∀ x ∈ parts, C04T.WellFormed x.base)
    (hbar : ∀ x ∈ parts, ∀ beats bt, tsAt x.base 0 = some (beats, bt) → bt ∣ 4 * beats * ex.ppq) :
    ∃ o, origin .padBar (parts.map (·.base)) = some o ∧
      ∀ x ∈ parts, ∀ s d : Nat, (tick ex.ppq x.base o s = tick ex.ppq x.base o (s + d) ↔ d = 0) := by
  obtain ⟨o, ho, hP, hex⟩ := export_ticks_exact_pad_partial mode minPpq vel parts ex h hw hbar
  exact ⟨o, ho, fun x hx => tick_eq_iff_no_duration ex.ppq hP x.base (hw x hx) o (hex x hx)⟩

/-- the part of the witness corpus/C04/e1: two divisions per quarter, two bars (8 and 12 divisions) -/
def editDemo : PartIn :=
  ⟨0, ⟨2, [], 0, 20, some (0, 8), [(0, 4, 4)]⟩, [], [(0, "C")], [(0, 8), (8, 20)],
   [(0, 2, 60, some 1), (8, 1, 67, some 1), (11, 3, 72, some 1), (17, 3, 76, some 1)]⟩

example : C04Ed.Table editDemo.base := ⟨by decide, ⟨fun e he => by simp [editDemo] at he, trivial⟩⟩

/-- the table after `set_quarter_duration(8, 3)`, after a second call that replaces the entry, after a redundant
    call, and after a call at time 0 -/
example : (setQuarterDuration editDemo.base 8 3).qd = [(8, 3)] ∧
    (setQuarterDuration (setQuarterDuration editDemo.base 8 3) 8 5).qd = [(8, 5)] ∧
    (setQuarterDuration (setQuarterDuration editDemo.base 8 3) 12 3).qd = [(8, 3)] ∧
    (setQuarterDuration (setQuarterDuration editDemo.base 8 3) 4 3).qd = [(4, 3), (8, 3)] ∧
    (setQuarterDuration (setQuarterDuration editDemo.base 8 3) 0 4).d0 = 4 := by decide +kernel

/-- the note events of pitch `p` in a file: (tick, is a note on) -/
def pitchEvents (p : Nat) (ex : Exported) : List (Int × Bool) :=
  ex.tracks.flatMap fun tr => tr.filterMap fun ev =>
    match ev.2 with
    | .noteOn _ q _ => if q = p then some (ev.1, true) else none
    | .noteOff _ q _ => if q = p then some (ev.1, false) else none
    | _ => none

/-- a history as the code runs it: export, view, `set_quarter_duration(8, 3)`, export — the second export has 6 ticks
    per quarter and the note at division 11 (5 quarters) starts at tick 30 and lasts 6 ticks -/
example : ((run [editDemo] [.save ⟨0, .shift, 0, 64⟩, .view, .edit (.setQd 0 8 3), .save ⟨0, .shift, 0, 64⟩]).2.map
      fun r => r.map fun e => e.map fun ex => (ex.ppq, pitchEvents 72 ex)) =
    [some (some (2, [(11, true), (14, false)])), none, none, some (some (6, [(30, true), (36, false)]))] := by
  decide +kernel

/-- **What the theorems exclude.**  With a quarter map kept from before the call (2 divisions per quarter throughout)
    and the new ticks per quarter, division 11 would be written at tick 33 and the note would last 9 ticks: not the
    exact image (30, 6 ticks) that `edited_export_exact` / `edited_note_ticks` state. -/
example : tickStale 6 editDemo.base 0 11 = 33 ∧ tickStale 6 editDemo.base 0 14 - tickStale 6 editDemo.base 0 11 = 9 ∧
    tick 6 (setQuarterDuration editDemo.base 8 3) 0 11 = 30 ∧
    tick 6 (setQuarterDuration editDemo.base 8 3) 0 14 - tick 6 (setQuarterDuration editDemo.base 8 3) 0 11 = 6 := by
  decide +kernel

/-- a grace note that lasts (division 4 to 6, pitch 62) and an ordinary note of zero duration (division 8, pitch 65)
    in one part: the first is written with its two ticks apart, the second as an on/off pair on one tick -/
example : (saveScoreMidi 0 .shift 0 64 [⟨0, ⟨4, [], 0, 16, some (0, 16), [(0, 4, 4)]⟩, [], [], [(0, 16)],
      [(0, 4, 60, some 1), (4, 2, 62, some 1), (4, 4, 64, some 1), (8, 0, 65, some 1), (8, 8, 67, some 1)]⟩]).map
      (fun ex => (pitchEvents 62 ex, pitchEvents 65 ex))
    = some ([(4, true), (6, false)], [(8, true), (8, false)]) := by
  decide +kernel

end C04
