/-
C11 — the stages composed: `add_measures`, then `tie_notes`, `find_tuplets`, `sanitize_part`, and `add_measures`, then
`fill_rests`.

`tie_notes_within_measures` (Props/C11Sound.lean) assumes that the measures come in time order and concludes that no
measure STARTS inside a note.  Here the hypothesis is discharged from `add_measures` (its output tiles the timeline,
`C11Meas.TN`), and the conclusion becomes the property's own words: every note lies within ONE measure.  Likewise
"pairwise disjoint, non-empty" for `fill_rests` and `Walkable` (the chains END) are proved, not assumed.
-/
import PartituraModel.Props.C11Sound
import PartituraModel.Props.C11Bar
import PartituraModel.Props.C11Rests
import PartituraModel.Proofs.C11Compose
import PartituraModel.Proofs.C11Forward

namespace C11
open Model Model.Dur Model.Meas Model.San Model.Tup Model.Rests Gen C11Meas C11Bar C11Rows C11Sound C11Contig C11San C11Within C11Compose C11Forward

/-- **add_measures_sorted**: the measures after `add_measures` are in time order — the hypothesis of
    `tie_notes_within_measures`, proved from the function that produces them -/
theorem add_measures_sorted (f : Rat → Nat → Option Rat) (hf : C11Meas.Integral f) (p : PartM) (fuel : Nat)
    (l : List (Nat × Nat × Nat)) (ms' : List Measure) (hok : C11Meas.TsOK p) (hl : stretches p = some l)
    (hex : C11Meas.ExistingOK p l) (h : addMeasuresWith f p fuel = .ok ms') :
    (ms'.map (·.start)).Pairwise (· ≤ ·) :=
  tn_starts_sorted _ _ _ _ _
    (C11Meas.add_measures_sound f p fuel l ms' (fun _ _ => integral_localOK f hf _ _ _) hok hl hex h).1

/-- **measures_then_tie_within**: `add_measures` (over any bar-end map that is `LocalOK` on every stretch), then `tie_notes` on the part with the
    measures it returned: every note of positive length inside the timeline lies within ONE measure — "afterwards every
    pitched note lies within one measure", with no condition on the measures left -/
theorem measures_then_tie_within (f : Rat → Nat → Option Rat) (p : PartM) (fuel : Nat)
    (l : List (Nat × Nat × Nat)) (ms' : List Measure) (hf : AllLocalOK f l) (hok : C11Meas.TsOK p) (hl : stretches p = some l)
    (hex : C11Meas.ExistingOK p l) (h : addMeasuresWith f p fuel = .ok ms')
    (ns : List Note) (hkeys : KeysOK ns) (hlinks : LinksOK ns) :
    ∀ n ∈ tieNotes { p with measures := ms' } ns, p.first ≤ n.start → n.start < n.stop → n.stop ≤ p.last →
      ∃ m ∈ ms', m.start ≤ n.start ∧ n.stop ≤ m.stop := by
  intro n hn h1 h2 h3
  have htn := (C11Meas.add_measures_sound f p fuel l ms' hf hok hl hex h).1
  have hs := tn_starts_sorted _ _ _ _ _ htn
  have hno := tie_notes_within_measures { p with measures := ms' } ns hkeys hlinks hs n hn
  exact tn_within ms' _ _ _ _ htn n.start n.stop h1 h2 h3 hno

/-- **add_measures_then_tie_within**: the same for `add_measures` itself, over C02's beat maps -/
theorem add_measures_then_tie_within (p : PartM) (fuel : Nat) (l : List (Nat × Nat × Nat)) (ms' : List Measure)
    (hok : TsOK p) (hl : stretches p = some l) (hex : ExistingOK p l) (hb : BarsIntegral p l)
    (h : addMeasures p fuel = .ok ms') (ns : List Note) (hkeys : KeysOK ns) (hlinks : LinksOK ns) :
    ∀ n ∈ tieNotes { p with measures := ms' } ns, p.first ≤ n.start → n.start < n.stop → n.stop ≤ p.last →
      ∃ m ∈ ms', m.start ≤ n.start ∧ n.stop ≤ m.stop := by
  exact measures_then_tie_within _ p fuel l ms' (barEnd_localOK p l (stretches_chain p hok l hl) hb) hok hl hex h
    ns hkeys hlinks

/-- **pipeline_normalises**: `add_measures`, then `tie_notes`, `find_tuplets` and `sanitize_part` (any tolerance) on a
    well-formed note list (distinct keys, ties with back links that join adjacent notes and end): the note array is the
    one entered, every note of positive length inside the timeline lies within one measure, and every tie link still
    joins a note to one that starts where it ends -/
theorem pipeline_normalises (p : PartM) (fuel : Nat) (l : List (Nat × Nat × Nat)) (ms' : List Measure)
    (hok : TsOK p) (hl : stretches p = some l) (hex : ExistingOK p l) (hb : BarsIntegral p l)
    (h : addMeasures p fuel = .ok ms') (ns : List Note) (tol : Nat) (hkeys : KeysOK ns) (hlinks : LinksOK ns)
    (hw : Walkable ns) (hc : C11Walk.ContigAll ns) :
    soundingMidi (sanitizeTies (findTuplets p.qd (tieNotes { p with measures := ms' } ns)).notes tol) = soundingMidi ns ∧
    (∀ n ∈ sanitizeTies (findTuplets p.qd (tieNotes { p with measures := ms' } ns)).notes tol,
      p.first ≤ n.start → n.start < n.stop → n.stop ≤ p.last → ∃ m ∈ ms', m.start ≤ n.start ∧ n.stop ≤ m.stop) ∧
    C11Walk.ContigAll (sanitizeTies (findTuplets p.qd (tieNotes { p with measures := ms' } ns)).notes tol) := by
  have hn := normalise_note_array_same { p with measures := ms' } ns tol hkeys hlinks hw hc
  refine ⟨hn.1, ?_, ?_⟩
  · rw [(tuplets_dead p.qd (tieNotes { p with measures := ms' } ns)).2.1,
      tie_then_sanitize { p with measures := ms' } ns tol hkeys hlinks hc]
    exact add_measures_then_tie_within p fuel l ms' hok hl hex hb h ns hkeys hlinks
  · rw [(tuplets_dead p.qd (tieNotes { p with measures := ms' } ns)).2.1,
      tie_then_sanitize { p with measures := ms' } ns tol hkeys hlinks hc]
    exact (tie_notes_links_kept { p with measures := ms' } ns hkeys hlinks).1 hc

/-- **add_measures_then_fill_rests**: `fill_rests` (measure-wise) over the measures `add_measures` returned — the
    conditions "pairwise disjoint and non-empty" of `fill_rests_decomposes` / `rests_fill_gaps_all` are proved from
    `add_measures`.  For every part within the Reading's preconditions, integer times and divisions up to 2⁴⁰: the part
    afterwards holds the old objects and, for every measure, exactly the rests `_fill_rests_within_measure` computes from
    the ORIGINAL objects; and in every measure and every voice that has something starting in it the added rests cover a
    time of the measure iff no object of the voice that starts in the measure covers it -/
theorem add_measures_then_fill_rests (p : PartM) (fuel : Nat) (l : List (Nat × Nat × Nat)) (ms' : List Measure)
    (hok : TsOK p) (hl : stretches p = some l) (hex : ExistingOK p l) (hb : BarsIntegral p l)
    (h : addMeasures p fuel = .ok ms')
    (hbig : ∀ e ∈ p.qd, e.2 ≤ 1099511627776) (nstaves : Nat) (ns out : List GNote)
    (hwin : C11RestsX.WindowsOK (ms'.map C11Meas.ext) ns) (hold : ∀ n ∈ ns, n.added = none)
    (hfill : fillRests p.qd nstaves (C11RestsX.castM (ms'.map C11Meas.ext)) ns = some out) :
    (∀ x, x ∈ out ↔ x ∈ ns ∨ ∃ m ∈ ms', ∃ rests,
        measureRests p.qd nstaves ns (m.start : Rat) (m.stop : Rat) = some rests ∧ x ∈ rests) ∧
    ∀ m ∈ ms', ∀ v : Int, (∃ n ∈ window (m.start : Rat) (m.stop : Rat) ns, n.voice = v) →
      ∀ t : Rat, (m.start : Rat) ≤ t → t < (m.stop : Rat) →
        ((∃ r ∈ out, r.added.isSome = true ∧ r.voice = v ∧ r.start ≤ t ∧ t < r.stop) ↔
          ∀ n ∈ window (m.start : Rat) (m.stop : Rat) ns, n.voice = v → ¬ (n.start ≤ t ∧ t < n.stop)) := by
  have htn := (add_measures_real p fuel l ms' hok hl hex hb h).1
  obtain ⟨hsep, hne⟩ := tn_sep ms' _ _ _ _ htn
  constructor
  · intro x
    rw [(fill_rests_decomposes p.qd hbig nstaves ns out _ hsep hne hwin hfill).2 x]
    constructor
    · rintro (hx | ⟨m, hm, rests, hr, hxr⟩)
      · exact Or.inl hx
      · obtain ⟨m0, hm0, rfl⟩ := List.mem_map.mp hm
        exact Or.inr ⟨m0, hm0, rests, hr, hxr⟩
    · rintro (hx | ⟨m, hm, rests, hr, hxr⟩)
      · exact Or.inl hx
      · exact Or.inr ⟨C11Meas.ext m, List.mem_map.mpr ⟨m, hm, rfl⟩, rests, hr, hxr⟩
  · intro m hm v hv t hS hE
    exact rests_fill_gaps_all p.qd hbig nstaves ns out _ hsep hne hwin hold hfill (C11Meas.ext m)
      (List.mem_map.mpr ⟨m, hm, rfl⟩) v hv t hS hE

/-- **chains_end_forward**: with distinct keys, a list in which every tie points at a note that starts later is
    `Walkable` — the start time grows along a chain and is bounded by the sum of all starts -/
theorem chains_end_forward (ns : List Note) (hkeys : KeysOK ns) (hf : Forward ns) : Walkable ns := by
  intro n hn _
  exact walk_of_forward ns hf ((ns.map (·.start)).sum) n.key n (lk_self ns hkeys n hn)
    (fun m hm => by have := List.le_sum_of_mem (List.mem_map_of_mem (f := (·.start)) hm); omega)

/-- **chains_end_from_local**: `duration_tied` terminates on every chain (`Walkable`, a hypothesis of the note-array
    theorems) whenever the keys are distinct and every tie points at a note of the list that starts later; in particular
    when every tie joins a note of positive length to one that starts where it ends -/
theorem chains_end_from_local (ns : List Note) (hkeys : KeysOK ns) (hlinks : LinksOK ns) (hc : C11Walk.ContigAll ns)
    (hpos : ∀ n ∈ ns, n.tieNext.isSome = true → n.start < n.stop) : Walkable ns :=
  chains_end_forward ns hkeys (forward_of_contig ns hlinks hc hpos)

/-- **pipeline_normalises_local**: `pipeline_normalises` under conditions on single notes and single links only -/
theorem pipeline_normalises_local (p : PartM) (fuel : Nat) (l : List (Nat × Nat × Nat)) (ms' : List Measure)
    (hok : TsOK p) (hl : stretches p = some l) (hex : ExistingOK p l) (hb : BarsIntegral p l)
    (h : addMeasures p fuel = .ok ms') (ns : List Note) (tol : Nat) (hkeys : KeysOK ns) (hlinks : LinksOK ns)
    (hc : C11Walk.ContigAll ns) (hpos : ∀ n ∈ ns, n.tieNext.isSome = true → n.start < n.stop) :
    soundingMidi (sanitizeTies (findTuplets p.qd (tieNotes { p with measures := ms' } ns)).notes tol) = soundingMidi ns ∧
    (∀ n ∈ sanitizeTies (findTuplets p.qd (tieNotes { p with measures := ms' } ns)).notes tol,
      p.first ≤ n.start → n.start < n.stop → n.stop ≤ p.last → ∃ m ∈ ms', m.start ≤ n.start ∧ n.stop ≤ m.stop) ∧
    C11Walk.ContigAll (sanitizeTies (findTuplets p.qd (tieNotes { p with measures := ms' } ns)).notes tol) :=
  pipeline_normalises p fuel l ms' hok hl hex hb h ns tol hkeys hlinks (chains_end_from_local ns hkeys hlinks hc hpos) hc

-- non-vacuity: the local conditions on the witness [0, 6) tied to [6, 8)
example : KeysOK [exA, exB] ∧ (∀ n ∈ [exA, exB], n.tieNext.isSome = true → n.start < n.stop) :=
  ⟨by unfold KeysOK; decide, by decide⟩
example : Forward [exA, exB] := by
  intro n hn t ht
  simp only [List.mem_cons, List.not_mem_nil, or_false] at hn
  rcases hn with rfl | rfl
  · have : t = 1 := by simp [exA] at ht; omega
    subst this
    exact ⟨exB, rfl, by decide⟩
  · simp [exB] at ht
-- a cyclic chain (0 → 1 → 0) is not walkable: the hypothesis is not idle
example : ¬ Forward [{ exA with tiePrev := some 1 }, { exB with tieNext := some 0, start := 0 }] := by
  intro h
  obtain ⟨m, hm, hlt⟩ := h _ List.mem_cons_self 1 rfl
  have : m = { exB with tieNext := some 0, start := 0 } := by
    have : C11Walk.lk [{ exA with tiePrev := some 1 }, { exB with tieNext := some 0, start := 0 }] 1 =
        some { exB with tieNext := some 0, start := 0 } := by decide +kernel
    rw [this] at hm; exact (Option.some.inj hm).symm
  subst this
  simp [exA] at hlt

-- non-vacuity: the witness of C11-3 — `add_measures` on the part without measures gives the two bars [0, 4), [4, 8),
-- and the note [0, 6) tied to [6, 8) ends as [0, 4) [4, 6) [6, 8), each within one bar
example : addMeasuresWith exF { exTiePart with measures := [] } 10 = .ok exTiePart.measures := by decide +kernel
example : (tieNotes exTiePart [exA, exB]).map (fun n => (n.start, n.stop)) = [(0, 4), (4, 6), (6, 8)] := by
  decide +kernel

end C11
