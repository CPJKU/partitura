/-
C11 — detecting tuplets never changes what sounds; for the notes of the library it changes nothing at all.

Model/Tuplets.lean models all three steps of `find_tuplets` over an abstract "no symbolic duration" test.
Decision recorded here: the dead test `symbolic_duration is None` is NOT repaired to `not symbolic_duration`:
no input violates property C11 as the code stands (`tuplets_dead`), and with the one-line repair `find_tuplets` would
label notes wrongly, because the estimator now answers tuplet guesses where it used to answer `None` and step 3
overwrites the guessed ratio (`tuplet_relabels_guess`: three notes of 10 divisions at 24 per quarter become "quarter
3:2", which lasts 16) — a violation of "every symbolic duration the library assigns evaluates to the note's numeric
duration" that does not exist today.
-/
import PartituraModel.Proofs.C11Tuplets
import PartituraModel.Proofs.C11Dur

namespace C11
open Model Model.Dur Model.Meas Model.Tup Gen

/-- **tuplets_sound_same** (all three steps, any test `noSym`, any notes): `find_tuplets` only writes symbolic
    durations (and adds `Tuplet` objects) — every note keeps everything else, in place — so the rows of the note
    array (`sounding`: onset, tied duration, pitch, voice, id of the notes without `tie_prev`) are identical -/
theorem tuplets_sound_same (noSym : Note → Bool) (qd : List (Int × Nat)) (ns : List Note) :
    (findTupletsBy noSym qd ns).notes.map C11Tup.strip = ns.map C11Tup.strip ∧
    sounding (findTupletsBy noSym qd ns).notes = sounding ns :=
  ⟨C11Tup.findTupletsBy_strip noSym qd ns,
   C11Tup.sounding_of_strip_eq ns _ (C11Tup.findTupletsBy_strip noSym qd ns)⟩

/-- **tuplets_dead**: for the notes of the library (`symbolic_duration` is the stored value or the estimate, never
    `None`) step 1 finds no candidate group and `find_tuplets` changes nothing and adds no `Tuplet` -/
theorem tuplets_dead (qd : List (Int × Nat)) (ns : List Note) :
    candidatesBy (fun n => (symbolicDuration qd n).isNone) ns = [] ∧
    (findTuplets qd ns).notes = ns ∧ (findTuplets qd ns).tuplets = [] := by
  have h : ∀ n : Note, (fun n => (symbolicDuration qd n).isNone) n = false :=
    C11Walk.symbolicDuration_isNone qd
  have hc := C11Tup.candidates_none _ h ns
  refine ⟨hc, ?_, ?_⟩ <;> (unfold findTuplets findTupletsBy; rw [hc]; rfl)

/-- **tuplet_label_straight**: where step 3 starts from a STRAIGHT undotted value (`total // 2` is a table value
    without tuplet ratio) the label it writes, `type actual_notes : 2`, lasts exactly as long as each of the
    `actual_notes` equal notes (`2 * (total // 2) = actual_notes * d`) -/
theorem tuplet_label_straight (h div actual d : Nat) (ty : String) (hact : 0 < actual) (hsum : 2 * h = actual * d)
    (hest : estimate (h : Rat) div false = some (.single (ty, 0, none, none))) :
    symbolicToNumeric (ty, 0, some actual, some 2) div = some (d : Rat) := by
  have hb := C11Dur.single_back h div false _ hest
  unfold symbolicToNumeric at hb ⊢
  simp only at hb ⊢
  split at hb
  · rename_i dl m h1 h2
    simp only [Option.some.injEq] at hb ⊢
    have ha : ((actual : Nat) : Rat) ≠ 0 := by exact_mod_cast (Nat.pos_iff_ne_zero.mp hact)
    simp only [Option.getD_none, Nat.cast_one, one_ne_zero, if_false, div_one, mul_one] at hb
    simp only [Option.getD_some, Nat.cast_ofNat, OfNat.ofNat_ne_zero, if_false, ha]
    have hs : (2 : Rat) * (h : Rat) = (actual : Rat) * (d : Rat) := by exact_mod_cast hsum
    rw [← mul_div_assoc, hb]
    field_simp
    linarith
  · simp at hb

-- non-vacuity: three eighth-triplets at 6 divisions per quarter (2 divisions each): total 6, half of it a dotted-free eighth
example : estimate ((3 : Nat) : Rat) 6 false = some (.single ("eighth", 0, none, none)) ∧ 2 * 3 = 3 * 2 := by decide +kernel

def exT (k s e : Nat) : Note :=
  { key := k, id := none, start := s, stop := e, pitch := "C_0_4", voice := some 1, staff := some 1, sym := none,
    tiePrev := none, tieNext := none, slurStops := [] }

-- the live path (a note class without estimated durations): the three notes become eighth 3:2, one Tuplet 0 → 2
example : ((findTupletsBy (fun n => n.sym.isNone) [(0, 6)] [exT 0 0 2, exT 1 2 4, exT 2 4 6]).notes.map (·.sym),
           (findTupletsBy (fun n => n.sym.isNone) [(0, 6)] [exT 0 0 2, exT 1 2 4, exT 2 4 6]).tuplets) =
    ([some (.single ("eighth", 0, some 3, some 2)), some (.single ("eighth", 0, some 3, some 2)),
      some (.single ("eighth", 0, some 3, some 2))], [(0, 2)]) := by decide +kernel

/-- **tuplet_relabels_guess** (why the dead test is not "repaired" in one line): three notes of 10 divisions at 24
    per quarter (5/12 quarter = 16th + triplet 16th, a composite value: `{}`) would form a candidate group; half their
    total, 15 divisions, is no table value, so the estimator GUESSES "quarter 8:5", which has no dots; step 3
    overwrites the ratio and labels the notes "quarter 3:2" — 16 divisions, not 10 -/
theorem tuplet_relabels_guess :
    estimate ((10 : Nat) : Rat) 24 false = some .empty ∧
    estimate ((15 : Nat) : Rat) 24 false = some (.single ("quarter", 0, some 8, some 5)) ∧
    (findTupletsBy (fun n => n.sym.isNone) [(0, 24)] [exT 0 0 10, exT 1 10 20, exT 2 20 30]).notes.map (·.sym) =
      [some (.single ("quarter", 0, some 3, some 2)), some (.single ("quarter", 0, some 3, some 2)),
       some (.single ("quarter", 0, some 3, some 2))] ∧
    symbolicToNumeric ("quarter", 0, some 3, some 2) 24 = some 16 := by
  decide +kernel

end C11
