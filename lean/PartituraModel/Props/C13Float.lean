/-
C13 — the float32 time columns of `pianoroll_to_notearray`, exactly.

The decoded onset / duration is `float(start) / time_div` — a correctly rounded binary64 quotient — stored in
an `f4` column — rounded once more, to binary32.  `roundBin` is that rounding (to nearest, ties to even);
`storeF32 q = f32 (f64 q)`; `decodeStored` is the array as returned.  The correspondence compares every stored
value exactly.
-/
import PartituraModel.Props.C13
import PartituraModel.Proofs.C13Float

namespace C13
open Model Model.PianoRoll C13Float
open List

theorem pow2_spec (e : Int) : pow2 e = (2 : ℚ) ^ e := pow2_eq e

/-- `ilog2 q = ⌊log₂ q⌋` for positive `q` -/
theorem ilog2_floor (q : ℚ) (hq : 0 < q) : (2 : ℚ) ^ ilog2 q ≤ q ∧ q < (2 : ℚ) ^ (ilog2 q + 1) := by
  have := ilog2_spec q hq
  rwa [pow2_eq, pow2_eq] at this

/-- **the rounding, exactly**: `roundBin prec emin` (binary32: 24, -149; binary64: 53, -1074) maps 0 to 0, is odd,
    returns a multiple of the unit in the last place `2^max(⌊log₂|q|⌋ - prec + 1, emin)` that is within half
    a unit of `q` — the even multiple when `q` is half-way (`Round.roundHalfEven_tie_even`) —, hence within
    `|q| * 2^-prec` in the normal range, and returns every number of the format unchanged -/
theorem round_spec (prec : Nat) (emin : Int) (q : ℚ) :
    roundBin prec emin 0 = 0 ∧
    roundBin prec emin (-q) = -roundBin prec emin q ∧
    (0 < q → ∃ m : Int, m = roundHalfEven (q / ulpOf prec emin q) ∧ roundBin prec emin q = (m : ℚ) * ulpOf prec emin q ∧
      |roundBin prec emin q - q| ≤ ulpOf prec emin q / 2) ∧
    ((2 : ℚ) ^ (emin + (prec : Int) - 1) ≤ |q| → |roundBin prec emin q - q| ≤ |q| * (2 : ℚ) ^ (-(prec : Int))) ∧
    (∀ m k : Int, q = (m : ℚ) * (2 : ℚ) ^ k → m.natAbs < 2 ^ prec → emin ≤ k → roundBin prec emin q = q) := by
  refine ⟨roundBin_zero prec emin, (roundBin_odd prec emin).neg_apply q, ?_, ?_, ?_⟩
  · intro h
    refine ⟨_, rfl, ?_, ?_⟩
    · rw [roundBin_pos _ _ _ h]; rfl
    · rw [roundBin_pos _ _ _ h]; exact roundPos_close prec emin q
  · intro h
    have := roundBin_rel prec emin q (by rwa [pow2_eq])
    rwa [pow2_eq] at this
  · intro m k hq hm hk
    rw [hq, ← pow2_eq]
    exact roundBin_exact prec emin m k hm hk

/-- **a stored time is close**: for `2^-125 ≤ |q| ≤ 2^127` the binary32 value stored for the exact quotient `q`
    exists (no overflow) and is within `|q| * 2^-23` of it; 0 is stored as 0 -/
theorem stored_close (q : ℚ) :
    storeF32 0 = some 0 ∧
    ((2 : ℚ) ^ (-125 : Int) ≤ |q| → |q| ≤ (2 : ℚ) ^ (127 : Int) →
      ∃ x, storeF32 q = some x ∧ |x - q| ≤ |q| * (2 : ℚ) ^ (-23 : Int)) := by
  refine ⟨storeF32_zero, ?_⟩
  intro h1 h2
  have := storeF32_close q (by rwa [pow2_eq]) (by rwa [pow2_eq])
  rwa [pow2_eq] at this

/-- **a stored time on a power-of-two grid is exact**: `m * 2^k` with `|m| < 2^24`, `-149 ≤ k ≤ 103` is stored
    unchanged -/
theorem stored_exact (m k : Int) (hm : m.natAbs < 2 ^ 24) (hk : -149 ≤ k) (hk2 : k ≤ 103) :
    storeF32 ((m : ℚ) * (2 : ℚ) ^ k) = some ((m : ℚ) * (2 : ℚ) ^ k) := by
  rw [← pow2_eq]
  exact storeF32_exact m k hm hk hk2

example : storeF32 (1 / 3) = some (11184811 / 33554432) := by decide +kernel
example : storeF32 (7 / 12) = some (9786709 / 16777216) := by decide +kernel
example : storeF32 (-5 / 8) = some (-5 / 8) := by decide +kernel
/-- a tie between two binary32 neighbours goes to the even one: `1 + 2^-24 ↦ 1`, `1 + 3 * 2^-24 ↦ 1 + 2^-22` -/
example : storeF32 (1 + 1 / 16777216) = some 1 ∧ storeF32 (1 + 3 / 16777216) = some (1 + 1 / 4194304) := by
  decide +kernel
/-- below the normal range the spacing stays `2^-149`; beyond the largest binary32 number the value is `inf` -/
example : storeF32 ((3 : ℚ) / ((2 ^ 150 : Nat) : ℚ)) = some ((1 : ℚ) / ((2 ^ 148 : Nat) : ℚ)) := by decide +kernel
example : storeF32 (((2 ^ 128 : Nat) : ℚ)) = none := by decide +kernel

/-- **`pianoroll_to_notearray` as returned**: with `time_div` omitted it is 8; the stored array has the exact
    decoder's pitches and velocities (`decode_spec`) and, as onset and duration, the binary32 values `storeF32` of
    the exact quotients -/
theorem stored_times (rows : Nat) (cols : List (List Int)) (td : Option Rat) :
    decodeKw rows cols none = decode rows cols 8 ∧
    decodeKw rows cols (some (td.getD 8)) = decodeKw rows cols td ∧
    (decodeStored rows cols td = none ↔ decodeKw rows cols td = none) ∧
    ∀ l, decodeKw rows cols td = some l →
      decodeStored rows cols td = some (l.map fun (p, on, du, v) => (p, storeF32 on, storeF32 du, v)) := by
  have hd : Gen.C13_DEC_DEFAULT_time_div = 8 := by decide
  refine ⟨?_, ?_, ?_, ?_⟩
  · unfold decodeKw; rw [Option.getD_none, hd]
  · unfold decodeKw; cases td <;> simp [hd]
  · unfold decodeStored; cases decodeKw rows cols td <;> simp
  · intro l hl
    unfold decodeStored
    rw [hl]
    rfl

/-- **on a power-of-two grid the decoded times are exact**: when `time_div = 2^j` (`-103 ≤ j ≤ 149`; e.g. 1, 2, 8,
    16, 1/2) and the roll has fewer than `2^24` columns, every stored onset and duration is exactly
    `start / time_div` resp. `length / time_div` -/
theorem stored_grid (rows : Nat) (cols : List (List Int)) (j : Int) (hj1 : -103 ≤ j) (hj2 : j ≤ 149)
    (hlen : cols.length < 2 ^ 24) :
    decodeStored rows cols (some ((2 : ℚ) ^ j)) =
      (decode rows cols ((2 : ℚ) ^ j)).map fun l => l.map fun (p, on, du, v) => (p, some on, some du, v) := by
  have htd : (2 : ℚ) ^ j ≠ 0 := by positivity
  unfold decodeStored decodeKw
  simp only [Option.getD_some]
  cases hdec : decode rows cols ((2 : ℚ) ^ j) with
  | none => rfl
  | some l =>
    simp only [Option.map_some, Option.some.injEq]
    -- the shape is accepted, so `l` is the image of the runs
    rw [decode_eq_emit] at hdec
    unfold emitRuns at hdec
    split at hdec
    · cases hdec
    rw [if_neg fun h => htd h.1, Option.some.injEq] at hdec
    subst hdec
    have hmem := (decodeRuns_spec cols).2.2
    rw [map_map, map_map]
    apply map_congr_left
    intro x hx
    obtain ⟨_, hlt, hoff, _⟩ := (hmem x).mp hx
    have hdivmul : ∀ n : Nat, (n : ℚ) / (2 : ℚ) ^ j = ((n : Int) : ℚ) * (2 : ℚ) ^ (-j) := by
      intro n
      rw [zpow_neg, div_eq_mul_inv]
      push_cast
      rfl
    have e1 := stored_exact (x.on : Int) (-j) (by simp; omega) (by omega) (by omega)
    have e2 := stored_exact ((x.off - x.on : Nat) : Int) (-j) (by simp; omega) (by omega) (by omega)
    simp only [Function.comp, outOf]
    rw [hdivmul, hdivmul, e1, e2]

/-- two notes decoded at eight frames per unit: frames 3..7 and 8..9 of pitch 60 -/
example : decodeStored 128 ((List.replicate 3 (List.replicate 128 0)) ++
      (List.replicate 5 (List.replicate 60 0 ++ [64] ++ List.replicate 67 0)) ++
      (List.replicate 2 (List.replicate 60 0 ++ [-3] ++ List.replicate 67 0))) none
    = some [(60, some (3 / 8), some (5 / 8), 64), (60, some 1, some (1 / 4), -3)] := by decide +kernel
/-- at three frames per unit the times are the binary32 neighbours of 1/3 and 2/3 -/
example : decodeStored 88 ([List.replicate 88 0] ++ List.replicate 2 ([7] ++ List.replicate 87 0)) (some 3)
    = some [(21, some (11184811 / 33554432), some (11184811 / 16777216), 7)] := by decide +kernel

end C13
