/-
C02 — decision tables regenerated by PROBING the live functions on every run (`Gen/C02Api.lean`,
written by `harness/translate_c02.py: gen_c02api`) against the model.

An edit of the source that changes any of these decisions regenerates another table and the theorem no longer
builds; a refactoring that keeps the behaviour regenerates the same table.
-/
import PartituraModel.Props.C02Api
import PartituraModel.Gen.C02Api

namespace C02
open Model.TimeMap C02Proofs

/-- the probes of the translator ran and understood what they saw -/
theorem probes_ran : Gen.C02Api.probesOk = true := by decide

def switchRow (op : Nat) (mus : Bool) (arg : Nat) : Option (Bool × Nat × Bool) :=
  (Gen.C02Api.switchRows.find? (fun r => decide (r.1 = op ∧ r.2.1 = mus ∧ r.2.2.1 = arg))).map (fun r => r.2.2.2)

/-- effect 0: untouched; 1: set from the table given; 2: all set to the defaults -/
def applyEffect (e : Nat) (tbl : List ((Nat × Nat) × Nat)) (ts : List TSig) : List TSig :=
  match e with
  | 0 => ts
  | 1 => ts.map (assignMB tbl)
  | _ => ts.map (assignMB [])

def argKind (tbl : List ((Nat × Nat) × Nat)) : Nat := if tbl.isEmpty then 0 else 1

/-- the state `s'` reached from `s` (and whether the call raised) is what the probed row says -/
def Agrees (row : Option (Bool × Nat × Bool)) (tbl : List ((Nat × Nat) × Nat)) (s s' : BeatState) (raised : Bool) : Prop :=
  ∃ r, row = some r ∧ s'.musical = r.1 ∧ s'.ts = applyEffect r.2.1 tbl s.ts ∧ raised = r.2.2

/-- **the model's musical-beat switches follow the probed decision table**, for every state and every table:
`use_musical_beat(tbl)`, `use_musical_beat(<not a dict>)`, `use_musical_beat()`, `use_notated_beat()`,
`set_musical_beat_per_ts(tbl)`, `set_musical_beat_per_ts(<not a dict>)`, `set_musical_beat_per_ts()` -/
theorem switch_from_source (s : BeatState) (tbl : List ((Nat × Nat) × Nat)) :
    Agrees (switchRow 0 s.musical (argKind tbl)) tbl s (step s (.useMusical tbl)) false ∧
    Agrees (switchRow 0 s.musical 2) [] s (stepB s .useMusicalBad) (raisesB s .useMusicalBad) ∧
    Agrees (switchRow 0 s.musical 3) [] s (step s (.useMusical [])) false ∧
    Agrees (switchRow 1 s.musical 3) [] s (step s .useNotated) false ∧
    Agrees (switchRow 2 s.musical (argKind tbl)) tbl s (step s (.setMB tbl)) false ∧
    Agrees (switchRow 2 s.musical 2) [] s (stepB s .setMBBad) (raisesB s .setMBBad) ∧
    Agrees (switchRow 2 s.musical 3) [] s (step s (.setMB [])) false := by
  obtain ⟨mus, ts⟩ := s
  cases mus <;> cases tbl <;>
    exact ⟨⟨_, rfl, rfl, rfl, rfl⟩, ⟨_, rfl, rfl, rfl, rfl⟩, ⟨_, rfl, rfl, rfl, rfl⟩, ⟨_, rfl, rfl, rfl, rfl⟩,
      ⟨_, rfl, rfl, rfl, rfl⟩, ⟨_, rfl, rfl, rfl, rfl⟩, ⟨_, rfl, rfl, rfl, rfl⟩⟩

def assignRow (inTbl inDef : Bool) : Option Nat :=
  (Gen.C02Api.assignRows.find? (fun r => decide (r.1 = inTbl ∧ r.2.1 = inDef))).map (·.2.2)

def initRow (inDef : Bool) : Option Nat :=
  (Gen.C02Api.initRows.find? (fun r => decide (r.1 = inDef))).map (·.2)

def defaultsEntry (beats : Nat) : Option Nat := (Gen.MUSICAL_BEATS.find? (fun e => e.1 = beats)).map (·.2)

/-- 0: the table's value; 1: `MUSICAL_BEATS[beats]`; 2: the numerator -/
def pick (w : Nat) (tblV defV : Option Nat) (beats : Nat) : Option Nat :=
  match w with
  | 0 => tblV
  | 1 => defV
  | _ => some beats

/-- **`set_musical_beat_per_ts` on one signature follows the probed table** (the table's value if the key is
there, else `MUSICAL_BEATS[numerator]` if the numerator is there, else the numerator), for every table and
signature -/
theorem assign_from_source (tbl : List ((Nat × Nat) × Nat)) (s : TSig) :
    ∃ w, assignRow (userMB tbl s.beats s.beatType).isSome (defaultsEntry s.beats).isSome = some w ∧
      some (assignMB tbl s).mb = pick w (userMB tbl s.beats s.beatType) (defaultsEntry s.beats) s.beats := by
  unfold assignMB defaultMB defaultsEntry
  cases hu : userMB tbl s.beats s.beatType <;> cases hf : Gen.MUSICAL_BEATS.find? (fun e => e.1 = s.beats) <;>
    exact ⟨_, rfl, rfl⟩

/-- **`TimeSignature(beats, beat_type).musical_beats`** follows the probed table too -/
theorem init_from_source (beats : Nat) :
    ∃ w, initRow (defaultsEntry beats).isSome = some w ∧
      some (defaultMB beats) = pick w none (defaultsEntry beats) beats := by
  unfold defaultMB defaultsEntry
  cases hf : Gen.MUSICAL_BEATS.find? (fun e => e.1 = beats) <;> exact ⟨_, rfl, rfl⟩

/-- the keys looked up are `"<beats>/<beat_type>"` (the harness sends them to the model as pairs) -/
theorem keys_from_source : Gen.C02Api.keysAsked = ["7/16", "12/8"] := by decide

/-- **the bounds of `quarter_durations` as probed**: a change at `start` is listed, a change at `end` is not -/
theorem qdRange_bounds_from_source (qd : List (Int × Nat)) (a b : Rat) (e : Int × Nat) :
    e ∈ qdRange qd (some a) (some b) ↔
      e ∈ qd ∧ (if Gen.C02Api.qdStartInclusive = true then a ≤ (e.1 : Rat) else a < (e.1 : Rat)) ∧
        (if Gen.C02Api.qdEndInclusive = true then (e.1 : Rat) ≤ b else (e.1 : Rat) < b) := by
  rw [qdRange_mem]
  simp [Gen.C02Api.qdStartInclusive, Gen.C02Api.qdEndInclusive]

/-! ### set_quarter_duration -/

def setQDRow (pk ak : Nat) : Option Nat :=
  (Gen.C02Api.setQDRows.find? (fun r => decide (r.1 = pk ∧ r.2.1 = ak))).map (·.2.2)

/-- 0: no such value; 1: the value is `q`; 2: another value -/
def kindOf (o : Option Nat) (q : Nat) : Nat :=
  match o with
  | none => 0
  | some v => if v = q then 1 else 2

/-- 0: nothing; 1: insert `(t, q)`; 2: replace the first entry -/
def qdAct (a : Nat) (t : Int) (q : Nat) (rest : List (Int × Nat)) : List (Int × Nat) :=
  match a with
  | 0 => rest
  | 1 => (t, q) :: rest
  | _ => (t, q) :: rest.tail

/-- the entry stored at `t`, given the entries not before `t` -/
def atEntry (t : Int) : List (Int × Nat) → Option Nat
  | [] => none
  | (t0, q0) :: _ => if t0 = t then some q0 else none

theorem setQDRow_values (q : Nat) (o : Option Nat) :
    setQDRow (kindOf o q) 0 = some (if o = some q then 0 else 1) ∧
    setQDRow (kindOf o q) 1 = some 0 ∧ setQDRow (kindOf o q) 2 = some 2 := by
  cases o with
  | none => exact ⟨rfl, rfl, rfl⟩
  | some v =>
    by_cases h : v = q
    · simp only [kindOf, h, if_true]; exact ⟨rfl, rfl, rfl⟩
    · have : ¬ (some v = some q) := fun hh => h (Option.some.inj hh)
      simp only [kindOf, h, if_false, this]; exact ⟨rfl, rfl, rfl⟩

/-- **the list surgery of the model is the probed decision of `set_quarter_duration`**: for EVERY list and call,
the entries before `t` are kept, then — by (value stored just before `t`: none / `q` / other) × (entry stored at
`t`: none / `q` / other) — nothing happens, `(t, q)` is inserted, or the entry at `t` is replaced, as the table
regenerated from the live function says -/
theorem setQD_from_source (t : Int) (q : Nat) : ∀ (l : List (Int × Nat)) (prev : Option Nat),
    ∃ a, setQDRow (kindOf (lastBefore t prev l) q)
          (kindOf (atEntry t (l.dropWhile (fun e => decide (e.1 < t)))) q) = some a ∧
      setQDAux t q prev l =
        l.takeWhile (fun e => decide (e.1 < t)) ++ qdAct a t q (l.dropWhile (fun e => decide (e.1 < t))) := by
  intro l prev
  -- the closed form of the walk; the table is consulted with the two values the walk compares `q` with
  rw [setQDAux_eq]
  have hv := setQDRow_values q (lastBefore t prev l)
  cases l.dropWhile (fun e => decide (e.1 < t)) with
  | nil =>
    refine ⟨_, hv.1, congrArg _ ?_⟩
    by_cases hq : lastBefore t prev l = some q
    · rw [if_pos hq, if_pos hq]; rfl
    · rw [if_neg hq, if_neg hq]; rfl
  | cons a r =>
    obtain ⟨t0, q0⟩ := a
    by_cases h2 : t0 = t
    · subst h2
      by_cases h3 : q0 = q
      · exact ⟨0, by rw [atEntry, if_pos rfl, kindOf, if_pos h3]; exact hv.2.1, by rw [h3]; exact congrArg _ (if_pos rfl)⟩
      · exact ⟨2, by rw [atEntry, if_pos rfl, kindOf, if_neg h3]; exact hv.2.2, congrArg _ (if_pos rfl)⟩
    · refine ⟨_, by rw [atEntry, if_neg h2]; exact hv.1, congrArg _ ((if_neg h2).trans ?_)⟩
      by_cases hq : lastBefore t prev l = some q
      · rw [if_pos hq, if_pos hq]; rfl
      · rw [if_neg hq, if_neg hq]; rfl
example : setQDRow 1 0 = some 0 ∧ setQDRow 2 0 = some 1 ∧ setQDRow 1 2 = some 2 ∧
    switchRow 0 false 2 = some (true, 0, true) ∧ switchRow 0 true 2 = some (true, 0, false) ∧
    assignRow false true = some 1 := by decide

end C02
