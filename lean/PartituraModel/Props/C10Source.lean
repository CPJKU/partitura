/-
C10 — the literal data of the model is the data of the live source.

`harness/translate_c10.py` regenerates `Gen/C10Tables.lean` on every run by RUNNING the live functions on tiny probe
parts: the defaults every map answers with when its kind of element is absent, the start `measure_map` reports for
pickups whose corrected start is exactly half-way between two divisions, and the columns the three maps add to the
note / rest arrays for all 8 combinations of maps (four entry points).  The theorems below are stated over those
generated constants: editing a default, the rounding of the pickup rule or the column layout in the source
regenerates a different table and they stop building.

`C10_ARG_SHAPES` - for each map and each kind of argument (number, 0-dimensional array, sequence) whether
the live call answers with one row or an array of rows; `arg_shapes_from_source` ties the dispatch of
Model/StepMapCalls.lean (in particular `Arg.isIterable`: the `isinstance(input, Iterable)` test of
`metrical_position_map`) to it, `call_shapes` (Props/C10Calls.lean) extends it to every part and position.
-/
import PartituraModel.Model.StepMapNotes
import PartituraModel.Model.StepMapCalls
import PartituraModel.Proofs.C10Sig

namespace C10
open Model Model.StepMap Gen

/-- every probe of the translator could be read -/
theorem tables_extracted : C10_EXTRACTION_OK = true := by decide

/-- **`defaults_from_source`**: the rows the model's table builders use when a kind of element is absent carry the
    values the live maps answer with on such a part, and these are the documented defaults: 4/4 with 4 musical
    beats, C major `(0, 1)`, the code of the `none` clef with line 0 and octave change 0, measure number 1, metrical
    position `(0, 0)`, one measure spanning the timeline; an empty part starts at 0 -/
theorem defaults_from_source (span : Span) (b d : Option Rat) (s x : Int) :
    tsTableOf span [] = [((spanOrZero span).1, C10_DEFAULT_TS), ((spanOrZero span).2, C10_DEFAULT_TS)] ∧
    ksTable span [] = [((spanOrZero span).1, C10_DEFAULT_KS), ((spanOrZero span).1, C10_DEFAULT_KS)] ∧
    clefSignToInt "none" = some C10_DEFAULT_CLEF.1 ∧
    clefTableStaff span [] C10_DEFAULT_CLEF.1 s
      = [((spanOrZero span).1, (s, C10_DEFAULT_CLEF)), ((spanOrZero span).2, (s, C10_DEFAULT_CLEF))] ∧
    measureNumberTable span [] b d = some [((spanOrZero span).1, C10_DEFAULT_MEASURE_NUMBER)] ∧
    metricalOfBars [] x = some (C10_DEFAULT_METRICAL.1, some C10_DEFAULT_METRICAL.2) ∧
    (C10_DEFAULT_MEASURE_IS_SPAN = true ∧ measureTable span [] b d = [((spanOrZero span).1, spanOrZero span)]) ∧
    C10_EMPTY_ORIGIN = (spanOrZero none).1 ∧
    (C10_DEFAULT_TS = (4, 4, 4) ∧ C10_DEFAULT_KS = (0, 1) ∧ C10_DEFAULT_CLEF.2 = (0, 0)
      ∧ C10_DEFAULT_MEASURE_NUMBER = 1 ∧ C10_DEFAULT_METRICAL = (0, 0)) := by
  refine ⟨(tsTableOf_eq span []).trans (prepared_nil span _), rfl, by decide,
    (clefTableStaff_eq span [] _ s).trans (prepared_nil span _), rfl, rfl, ⟨rfl, rfl⟩, rfl, by decide⟩

/-- a clef that carries no line / no octave change is reported with the values the live `clef_map` reports -/
theorem clef_missing_from_source (t st : Int) :
    clefRows [(t, st, "G", none, none)]
      = (clefSignToInt "G").map fun c => [(t, (st, c, C10_CLEF_MISSING.1, C10_CLEF_MISSING.2))] := by
  have hG : clefSignToInt "G" = some 0 := by decide
  simp [clefRows, hG, C10_CLEF_MISSING]

/-- **`pickup_rounding_from_source`**: at the two probes (3/8 at 3 divisions per quarter: a bar of 9/2 divisions; first
    measures of 2 and 1 divisions, i.e. corrected starts −5/2 and −7/2) the live `measure_map` reports exactly what the
    model's `pickupStart` computes - rounding half to even; truncation, floor, ceiling and rounding half away from
    zero each differ on one of them -/
theorem pickup_rounding_from_source :
    C10_PICKUP_ROUNDING
      = [((2 : Rat) - 3 * (3 / 2), pickupStart 0 2 (some 3) (some (3 / 2))),
         ((1 : Rat) - 3 * (3 / 2), pickupStart 0 1 (some 3) (some (3 / 2)))] ∧
    (∀ pr ∈ C10_PICKUP_ROUNDING, roundHalfEven pr.1 = pr.2) ∧
    (∃ pr ∈ C10_PICKUP_ROUNDING, truncToZero pr.1 ≠ pr.2) ∧
    (∃ pr ∈ C10_PICKUP_ROUNDING, pr.1.floor ≠ pr.2) ∧
    (∃ pr ∈ C10_PICKUP_ROUNDING, pr.1.ceil ≠ pr.2) ∧
    (∃ pr ∈ C10_PICKUP_ROUNDING, -((-pr.1 + 1 / 2).floor) ≠ pr.2) := by
  decide +kernel

/-- **`na_columns_spec`**: for each of the four entry points and each of the 8 combinations of maps / flags the
    live functions add exactly the documented columns, the key-signature columns first, then the time-signature
    columns, then the metrical columns (a whole finite table) -/
theorem na_columns_spec (e : NAEntry) (fl : NAFlags) :
    naColumns e fl = some ((if fl.ks then ["ks_fifths", "ks_mode"] else [])
      ++ (if fl.ts then ["ts_beats", "ts_beat_type", "ts_mus_beats"] else [])
      ++ (if fl.mp then ["is_downbeat", "rel_onset_div", "tot_measure_div"] else [])) := by
  obtain ⟨a, b, c⟩ := fl
  cases e <;> cases a <;> cases b <;> cases c <;> rfl

/-- the entry points on the part have the layout of the list functions -/
theorem part_columns_eq_list_columns :
    C10_NA_PART_COLUMNS = C10_NA_COLUMNS ∧ C10_REST_PART_COLUMNS = C10_REST_COLUMNS
    ∧ C10_REST_COLUMNS = C10_NA_COLUMNS := ⟨rfl, rfl, rfl⟩

/-- **`column_by_name`**: the layout of the column NAMES (read off the live functions) agrees with the order in which
    the loop appends the cells (modelled by hand): in a row built with the maps the flags select, the cell under each
    documented name is the corresponding component of the map's answer -/
theorem column_by_name (e : NAEntry) (fl : NAFlags) (cols : List String) (h : naColumns e fl = some cols) (r : ColRow)
    (hks : r.ks.isSome = fl.ks) (hts : r.ts.isSome = fl.ts) (hmp : r.mp.isSome = fl.mp) :
    (∀ a b, r.ks = some (a, b) →
      cellNamed cols r "ks_fifths" = some (some a) ∧ cellNamed cols r "ks_mode" = some (some b)) ∧
    (∀ a b c, r.ts = some (a, b, c) →
      cellNamed cols r "ts_beats" = some (some a) ∧ cellNamed cols r "ts_beat_type" = some (some b)
      ∧ cellNamed cols r "ts_mus_beats" = some (some c)) ∧
    (∀ a b c, r.mp = some (a, b, c) →
      cellNamed cols r "is_downbeat" = some (some a) ∧ cellNamed cols r "rel_onset_div" = some (some b)
      ∧ cellNamed cols r "tot_measure_div" = some c) := by
  rw [na_columns_spec] at h
  obtain rfl := Option.some.inj h
  obtain ⟨i, o, pi, ks, ts, mp⟩ := r
  obtain ⟨fk, ft, fm⟩ := fl
  simp only at hks hts hmp
  subst hks hts hmp
  -- for each combination of columns present, the named cell is found by evaluating `indexOf` on the names
  refine ⟨?_, ?_, ?_⟩
  · rintro a b ⟨⟩
    cases ts <;> cases mp <;> exact ⟨rfl, rfl⟩
  · rintro a b c ⟨⟩
    cases ks <;> cases mp <;> exact ⟨rfl, rfl, rfl⟩
  · rintro a b c ⟨⟩
    cases ks <;> cases ts <;> exact ⟨rfl, rfl, rfl⟩

example : naColumns .noteList ⟨true, false, true⟩
    = some ["ks_fifths", "ks_mode", "is_downbeat", "rel_onset_div", "tot_measure_div"] := by decide +kernel

/-- the translator's probe part: 3/4 at 4 divisions per quarter, two bars, one note on staff 1 -/
def shapeProbe : PartD :=
  { npoints := 3, span := some (0, 24), qd := [(0, 4)], ts := [⟨0, 3, 4, 3⟩], musical := false,
    ms := [(0, 12, some 1), (12, 24, some 2)] }

/-- the shapes the MODEL's calls give on the probe part, in the layout of `C10_ARG_SHAPES` -/
def modelShapes : List (String × List (String × Bool)) :=
  let kinds : List (String × Arg) := [("scalar", .scalar 5), ("zerod", .zerod 5), ("seq", .seq [5, 7])]
  let row (f : Arg → Option Bool) : List (String × Bool) := kinds.filterMap fun k => (f k.2).map fun b => (k.1, b)
  [("time_signature_map", row fun a => some (callTS shapeProbe.span shapeProbe.ts a).isOne),
   ("key_signature_map", row fun a => some (callKS shapeProbe.span [] a).isOne),
   ("clef_map", row fun a => (callClef shapeProbe.span [] [1] a).map Res.isOne),
   ("measure_map", row fun a => (callMeasure shapeProbe a).map Res.isOne),
   ("measure_number_map", row fun a => (callMeasureNumber shapeProbe a).map Res.isOne),
   ("metrical_position_map", row fun a => (callMetrical shapeProbe a).map Res.isOne),
   ("metrical_position_map/no_measures", row fun a => (callMetrical { shapeProbe with ms := [] } a).map Res.isOne)]

/-- **`arg_shapes_from_source`**: for every map and every kind of argument the model's dispatch (scipy / the wrapper's
    `np.ndim` test / the collator / the `Iterable` test and `np.column_stack`) answers with one row or an array
    exactly as the live functions do - whole table, regenerated on every run -/
theorem arg_shapes_from_source : C10_ARG_SHAPES = modelShapes := by decide +kernel

/-- … and what the table says: a number and a 0-dimensional array give one row and a sequence an array, except that
    `metrical_position_map` of a part with measures turns a 0-dimensional array into a one-row array -/
theorem arg_shapes_spec : ∀ e ∈ C10_ARG_SHAPES,
    e.2 = [("scalar", true), ("zerod", e.1 != "metrical_position_map"), ("seq", false)] := by decide +kernel

end C10
