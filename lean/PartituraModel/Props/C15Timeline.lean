/-
C15 - the timeline of the merged part, the least common multiple, and what merging leaves alone.

  * the time points of the new part, as the calls `new_part.add(e, start, end)` of the loop create them one by one
    (`Model.Merge.newTimeline`: `get_or_add_point` with `np.searchsorted` / `np.insert`, in the order of the loop -
    part by part, elements then end-only objects), are exactly the rescaled starts and ends of the transferred objects:
    the union of the inputs' timelines (as far as objects are transferred from them), each time multiplied by
    `L / d_p`, in strictly increasing order, whatever the order of insertion; every point carries quarter `L`
  * `L` is the LEAST common multiple: it divides every common multiple of the divisions
  * every other attribute of a transferred object is untouched; the objects are moved, none is copied or duplicated
-/
import PartituraModel.Proofs.C15Timeline
import PartituraModel.Proofs.C15Loop
import PartituraModel.Proofs.C15Refs

namespace C15
open Model.Merge

/-- The timeline `Part.add` builds during the loop is the sorted set of the starts and ends of what was added, each
point with quarter duration `L` - whatever the order of the insertions. -/
theorem timeline_built (m : Mode) (ps : List APart) :
    let L := lcmList (ps.map (·.divs))
    newTimeline m ps
      = (pointsWith (mergeFrom m L true 0 0 0 ps) (mergedTails m ps)).map fun t => { t := t, quarter := L } := by
  intro L
  rw [← times_newTimeline]
  exact eq_map_of_quarter (newTimeline_good m ps).2

/-- The time points of the merged part: strictly increasing, each with quarter duration `L` (so that a point at
`t` stands at `t / L` quarters - the musical time `time_preserved` speaks of), and - as a list - the time points
of its elements `es` and of its end-only objects. -/
theorem merged_timeline (m : Mode) (ps : List APart) (L : Nat) (es : List Elem)
    (h : mergeParts m ps = some (.merged L es)) :
    (newTimeline m ps).map (·.t) = pointsWith es (mergedTails m ps)
      ∧ ((newTimeline m ps).map (·.t)).Pairwise (· < ·)
      ∧ ∀ tp ∈ newTimeline m ps, tp.quarter = L := by
  have hg := newTimeline_good m ps
  refine ⟨?_, hg.1, merged_divs h ▸ hg.2⟩
  rw [pointsWith_perm (merged_perm h), merged_divs h]
  exact times_newTimeline m ps

/-- Merged timeline = union of the rescaled timelines: `y` is a time point of the merged part iff some transferred
object `e` of some input `p` (every object of the first part, the non-discarded classes of the others) starts or ends
at a time `t` of `p` with `y = t * (L / d_p)`; objects that only have an end contribute their end. -/
theorem timeline_union (m : Mode) (ps : List APart) (L : Nat) (es : List Elem)
    (h : mergeParts m ps = some (.merged L es)) (y : Nat) :
    y ∈ (newTimeline m ps).map (·.t) ↔
      ∃ i p e, ps[i]? = some p ∧ keep m (i == 0) e = true ∧
        ((e ∈ p.elems ∧ (y = e.start * (L / p.divs) ∨ ∃ s, e.stop = some s ∧ y = s * (L / p.divs)))
          ∨ (e ∈ p.tails ∧ ∃ s, e.stop = some s ∧ y = s * (L / p.divs))) := by
  rw [(merged_timeline m ps L es h).1, mem_pointsWith]
  have hstop : ∀ i p (e : Elem),
      (image m L ps i p e).stop = some y ↔ ∃ s, e.stop = some s ∧ y = s * (L / p.divs) := fun i p e => by
    rw [image_stop, Option.map_eq_some_iff]
    exact exists_congr fun s => and_congr_right fun _ => eq_comm
  constructor
  · rintro (⟨e', he', hy⟩ | ⟨e', he', hy⟩)
    · obtain ⟨i, p, e, hp, he, hk, rfl⟩ := (mem_es h e').mp he'
      exact ⟨i, p, e, hp, hk, Or.inl ⟨he, hy.imp (·.trans (image_start ..)) (hstop i p e).mp⟩⟩
    · obtain ⟨i, p, e, hp, he, hk, rfl⟩ := (mem_mergedTails h e').mp he'
      exact ⟨i, p, e, hp, hk, Or.inr ⟨he, (hstop i p e).mp hy⟩⟩
  · rintro ⟨i, p, e, hp, hk, ⟨he, hy⟩ | ⟨he, hy⟩⟩
    · exact Or.inl ⟨_, (mem_es h _).mpr ⟨i, p, e, hp, he, hk, rfl⟩,
        hy.imp (·.trans (image_start ..).symm) (hstop i p e).mpr⟩
    · exact Or.inr ⟨_, (mem_mergedTails h _).mpr ⟨i, p, e, hp, he, hk, rfl⟩, (hstop i p e).mpr hy⟩

/-- every time point of the first part that holds an object is a time point of the merged part (rescaled) -/
theorem first_part_points (m : Mode) (ps : List APart) (L : Nat) (es : List Elem)
    (h : mergeParts m ps = some (.merged L es)) (p : APart) (hp : ps[0]? = some p) (t : Nat)
    (ht : t ∈ pointsWith p.elems p.tails) : t * (L / p.divs) ∈ (newTimeline m ps).map (·.t) := by
  rw [timeline_union m ps L es h]
  rcases mem_pointsWith.mp ht with ⟨e, he, hy⟩ | ⟨e, he, hy⟩
  · exact ⟨0, p, e, hp, rfl, Or.inl ⟨he, hy.imp (congrArg (· * _)) fun hy => ⟨t, hy, rfl⟩⟩⟩
  · exact ⟨0, p, e, hp, rfl, Or.inr ⟨he, t, hy, rfl⟩⟩

/-- [exA, exB], voice mode: the points of A (0, 3, 9, 12 in divisions 3) and of B (0, 6, 16 in divisions 4; 16 is also
the end of B's end-only slur) become 0, 12, 18, 36, 48 in divisions 12; built in the order of the loop -/
example : (newTimeline .voice [exA, exB]).map (fun tp => (tp.t, tp.quarter))
    = [(0, 12), (12, 12), (18, 12), (36, 12), (48, 12)] := by decide +kernel

/-- `get_or_add_point` with `np.searchsorted` / `np.insert`: in front, in the middle, at the end, already there -/
example : ((getOrAddPoint 6 [⟨2, 6⟩, ⟨5, 6⟩] 0).map (·.t), (getOrAddPoint 6 [⟨2, 6⟩, ⟨5, 6⟩] 3).map (·.t),
      (getOrAddPoint 6 [⟨2, 6⟩, ⟨5, 6⟩] 9).map (·.t), (getOrAddPoint 6 [⟨2, 6⟩, ⟨5, 6⟩] 5).map (·.t))
    = ([0, 2, 5], [2, 3, 5], [2, 5, 9], [2, 5]) := by decide +kernel

/-- The divisions of the merged part are the LEAST common multiple of the inputs' divisions: a multiple of each, and
a divisor of every common multiple (hence the smallest positive one); with equal divisions it is that value, and it
may exceed every input (3 and 4 give 12). -/
theorem lcm_least (ps : List APart) :
    (∀ p ∈ ps, p.divs ∣ lcmList (ps.map (·.divs)))
      ∧ (∀ M, (∀ p ∈ ps, p.divs ∣ M) → lcmList (ps.map (·.divs)) ∣ M)
      ∧ (∀ M, 0 < M → (∀ p ∈ ps, p.divs ∣ M) → lcmList (ps.map (·.divs)) ≤ M)
      ∧ (∀ d, 0 < d → ps ≠ [] → (∀ p ∈ ps, p.divs = d) → lcmList (ps.map (·.divs)) = d) := by
  have hdvd : ∀ M, (∀ p ∈ ps, p.divs ∣ M) → lcmList (ps.map (·.divs)) ∣ M := fun M hM =>
    lcmList_dvd (List.forall_mem_map.mpr hM)
  refine ⟨fun p hp => divs_dvd_lcm hp, hdvd, fun M hM h => Nat.le_of_dvd hM (hdvd M h), ?_⟩
  intro d hd hne hall
  apply Nat.dvd_antisymm
  · exact hdvd d fun p hp => by rw [hall p hp]
  · obtain ⟨p, hp⟩ := List.exists_mem_of_ne_nil ps hne
    exact hall p hp ▸ divs_dvd_lcm hp

example : lcmList ([exA, exB].map (·.divs)) = 12 ∧ lcmList [480, 960] = 960 ∧ lcmList [24, 16, 10] = 240 := by decide +kernel

/-- Every object of the merged part - element or end-only object - is an object of an input with everything but
its times, voice and staff as it was: identity, class, pitch, tie links, references to other objects, and every other
attribute (`extra`: id, step, alter, octave, symbolic duration, articulations, text ... as one value). -/
theorem attrs_untouched (m : Mode) (ps : List APart) (L : Nat) (es : List Elem)
    (h : mergeParts m ps = some (.merged L es)) (e' : Elem) (he' : e' ∈ es ++ mergedTails m ps) :
    ∃ (i : Nat) (p : APart) (e : Elem), ps[i]? = some p ∧ e ∈ allElems p ∧ e'.oid = e.oid ∧ e'.cls = e.cls ∧ e'.pitch = e.pitch
      ∧ e'.tiePrev = e.tiePrev ∧ e'.chain = e.chain ∧ e'.refs = e.refs ∧ e'.extra = e.extra := by
  obtain ⟨i, p, e, hp, he, _, rfl⟩ := (mem_registered h e').mp he'
  exact ⟨i, p, e, hp, he, xform_oid _ _ _, xform_cls _ _ _, xform_pitch _ _ _, xform_tiePrev _ _ _,
    xform_chain _ _ _, xform_refs _ _ _, xform_extra _ _ _⟩

/-- Merging moves objects, it never copies or duplicates them: no object is registered twice on the merged part
(neither twice by its start, nor by its start and again as an end-only object), and every registered object is an
object of an input (`attrs_untouched`). -/
theorem no_copies (m : Mode) (ps : List APart) (L : Nat) (es : List Elem)
    (h : mergeParts m ps = some (.merged L es)) (hid : ObjectsDistinct ps) :
    ((es ++ mergedTails m ps).map (·.oid)).Nodup := by
  rw [List.map_append, (((merged_perm h).map _).append_right _).nodup_iff]
  exact hid.sublist ((mergeFrom_oids_sublist m L ps).append (mergedTails_oids_sublist m ps))

example : ObjectsDistinct [exA, exB] := by unfold ObjectsDistinct; decide +kernel

end C15
