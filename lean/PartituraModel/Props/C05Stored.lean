/-
C05 — the float columns AS STORED, and the order of the table on exactly those values.

Model/NoteArrayF64.lean evaluates `beat_map` / `quarter_map` the way numpy and scipy do (binary64, one rounding per
operation) and stores the results the way `np.array(..., dtype="f4")` does (binary32).  The correspondence streams
`partf` / `restsf` compare these values with the real arrays with tolerance 0.  The sort key of the model IS the stored
`onset_beat` column, not an exact beat value rounded separately.
-/
import PartituraModel.Props.C05
import PartituraModel.Model.NoteArrayF64

namespace C05
open NoteArray List

/-- the part `rowsF` tabulates -/
def part64 (d : Desc) (notes : List Note) (o : Opts) : Part :=
  { notes := notes, qdurs := d.tm.qd.map fun x => (x.2 : Int), maps := d.maps64 o }

theorem rowsF_some (d : Desc) (notes : List Note) (o : Opts) (out : List Row) (h : rowsF d notes o = some out) :
    ∃ t, rows (part64 d notes o) o = some t ∧ out = t.map storeRow64 := by
  obtain ⟨t, ht, rfl⟩ := Option.map_eq_some_iff.mp (guarded_eq_some h).2
  exact ⟨t, ht, rfl⟩

/-- EVERY STORED FLOAT CELL: for every row of the table there is a sounding note with tied duration `dur` such that
    the four float cells are the binary32 roundings of the binary64 map values at its onset and of the binary64
    difference to the map value at its offset; the integer / string cells are untouched by the store. -/
theorem stored_columns (d : Desc) (notes : List Note) (o : Opts) (out : List Row) (h : rowsF d notes o = some out) :
    ∀ r ∈ out, ∃ n ∈ notesTied notes, ∃ dur,
      durationTied notes n = some dur ∧ r.id = n.id ∧ r.onsetDiv = n.onset ∧ r.durDiv = dur ∧
      r.onsetBeat = f32round ((d.beat64 n.onset).getD 0) ∧
      r.durBeat = f32round (f64round ((d.beat64 (n.onset + dur)).getD 0 - (d.beat64 n.onset).getD 0)) ∧
      r.onsetQuarter = f32round ((d.quarter64 n.onset).getD 0) ∧
      r.durQuarter = f32round (f64round ((d.quarter64 (n.onset + dur)).getD 0 - (d.quarter64 n.onset).getD 0)) ∧
      r.key = r.onsetBeat := by
  obtain ⟨t, ht, rfl⟩ := rowsF_some d notes o out h
  intro r hr
  obtain ⟨r0, hr0, rfl⟩ := mem_map.mp hr
  obtain ⟨n, hn, dv, dur, pch, m, _, hd, _, _, rfl⟩ := row_values (part64 d notes o) o t ht r0 hr0
  exact ⟨n, hn, dur, hd, rfl, rfl, mkRow_durDiv (d.maps64 o) dv n dur pch n.step (alterOr0 n) n.octave,
    rfl, rfl, rfl, rfl, rfl⟩

/-- THE ORDER, ON THE STORED VALUES: the table is ordered by the stored `onset_beat` column, then by pitch. -/
theorem stored_table_sorted (d : Desc) (notes : List Note) (o : Opts) (out : List Row) (h : rowsF d notes o = some out) :
    out.Pairwise (NoteArray.Lex (·.onsetBeat) (fun a b => a.pitch ≤ b.pitch)) := by
  have hcols := stored_columns d notes o out h
  obtain ⟨t, ht, rfl⟩ := rowsF_some d notes o out h
  rw [pairwise_map]
  refine Lex.pairwise_congr (table_sorted (part64 d notes o) o t ht) fun a ha => ?_
  obtain ⟨_, _, _, _, _, _, _, _, _, _, _, hk⟩ := hcols (storeRow64 a) (mem_map_of_mem ha)
  exact hk

/-- one row per sounding note -/
theorem stored_rows_bijective (d : Desc) (notes : List Note) (o : Opts) (out : List Row) (h : rowsF d notes o = some out) :
    out.map (·.id) ~ (notesTied notes).map (·.id) ∧ out.length = (notesTied notes).length := by
  obtain ⟨t, ht, rfl⟩ := rowsF_some d notes o out h
  obtain ⟨h1, h2⟩ := rows_bijective (part64 d notes o) o t ht
  refine ⟨?_, by rw [length_map]; exact h2⟩
  rw [map_map]
  exact h1

section Examples

/-- divisions 3 in 4/4 with a pickup of 2 divisions: binary64 computes beat 1/3 (division 3) as
    0.33333333333333326 = 1501199875790165 / 2^52, one unit in the last place below the binary64 number nearest to 1/3
    (the subtraction of the pickup 2/3 happens in binary64); the binary32 store rounds both to 11184811 / 2^25 -/
def exDesc3 : Desc :=
  { tm := { npoints := 4, first := 0, last := 14, qd := [(0, 3)], ts := [⟨0, 4, 4, 4⟩], m1 := some (0, 2), musical := false },
    kss := [], ms := [(0, 2), (2, 14)] }

def exNotes3 : List Note :=
  [ { id := "a", kind := .note, onset := 0, dur := 2, step := "C", alter := none, octave := 4, voice := some 1,
      staff := some 1, graceType := "", tieNext := none, tiePrev := none },
    { id := "b", kind := .note, onset := 2, dur := 1, step := "D", alter := none, octave := 4, voice := some 1,
      staff := some 1, graceType := "", tieNext := none, tiePrev := none },
    { id := "c", kind := .note, onset := 3, dur := 4, step := "E", alter := none, octave := 4, voice := some 1,
      staff := some 1, graceType := "", tieNext := none, tiePrev := none } ]

def noOpts : Opts := { spelling := false, ks := false, ts := false, metr := false, grace := false, staff := false, divs := false }

example : ((rowsF exDesc3 exNotes3 noOpts).map fun t => t.map fun r => (r.id, r.onsetBeat, r.durBeat)) =
    some [("a", (-11184811 : Rat) / 16777216, (11184811 : Rat) / 16777216), ("b", 0, (11184811 : Rat) / 33554432),
          ("c", (11184811 : Rat) / 33554432, (11184811 : Rat) / 8388608)] := by decide +kernel

example : exDesc3.beat64 3 = some ((1501199875790165 : Rat) / 4503599627370496) ∧
    f64round (1 / 3) = (6004799503160661 : Rat) / 18014398509481984 ∧
    (1501199875790165 : Rat) / 4503599627370496 < (6004799503160661 : Rat) / 18014398509481984 := by decide +kernel

example : f64round (1 / 2) = 1 / 2 ∧ f64round (-5) = -5 ∧ f64round 0 = 0 ∧
    f64round (f64round (14 / 3) / 14) ≠ f64round (1 / 3) := by decide +kernel

end Examples

end C05
