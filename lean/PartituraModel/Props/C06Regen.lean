/-
C06 — second-generation round trips: a performance LOADED from a MIDI file is saved again.

The entries of a loaded performance carry, next to their seconds, the tick they had in the file they were read
from, and the parts the `ppq` of that file and the DEFAULT tempo as `mpq`.  The exporter writes the seconds.
The theorems say (1) what the loader's `Performance(...)` does to the track numbers of ALL lists of a part
(repaired: fixes/C06-7), (2) that the composed pipeline file → loader → exporter is always defined and is the
exporter applied to the seconds of the loaded events, (3) that the tick written is a nearest tick of the integral
of the OLD file's tempo map — whatever the stored tick —, and (4) exactly when the stored tick is that tick
(constant tempo equal to the new one, same resolution) and that it is not in general.
-/
import PartituraModel.Model.PerfMidi
import PartituraModel.Model.PerfMidiRegen
import PartituraModel.Props.C06
import PartituraModel.Props.C06Tracks
import PartituraModel.Proofs.Ticks

namespace C06
open Model Model.PerfMidi C06Sort C06Stable C06Tracks C06Adjust C06Export C06Lists C06Regen

private theorem allPairs_map_fst (parts : List (List Int × List Int)) :
    (parts.zipIdx.flatMap fun p => p.1.1.map fun t => (p.2, t)) = allPairs (parts.map (·.1)) := by
  unfold allPairs
  rw [List.zipIdx_map, List.flatMap_map]
  rfl

/-- `sanitize_track_numbers` on key/time signatures and other meta events (fixes/C06-7): an entry of part `i`
    on track `t` gets the number the notes, controls and programs of part `i` on track `t` get (`newTrack`, see
    `sanitize_tracks`) — it has one exactly if there are such notes, controls or programs (a, b) —, and keeps
    `t` otherwise -/
theorem sanitize_meta (parts : List (List Int × List Int)) :
    (sanitizeMeta parts = parts.zipIdx.map fun p => p.1.2.map fun t =>
        metaNum (newTrack (parts.map (·.1)) p.2 t) t) ∧
    (∀ i t, (i, t) ∈ allPairs (parts.map (·.1)) → ∃ n, newTrack (parts.map (·.1)) i t = some n ∧
        metaNum (newTrack (parts.map (·.1)) i t) t = (n : Int)) ∧
    (∀ i t, (i, t) ∉ allPairs (parts.map (·.1)) → metaNum (newTrack (parts.map (·.1)) i t) t = t) := by
  refine ⟨?_, ?_, ?_⟩
  · unfold sanitizeMeta newTrack
    simp only [allPairs_map_fst]
  · intro i t h
    obtain ⟨n, hn, _⟩ := (sanitize_tracks (parts.map (·.1))).2.1 (i, t) h
    exact ⟨n, hn, by rw [hn]; rfl⟩
  · intro i t h
    unfold newTrack
    cases hx : indexOfKey (i, t) (sanitizeKeys (allPairs (parts.map (·.1)))) with
    | none => rfl
    | some n =>
      exact absurd ((mem_sanitizeKeys _ _).mp (List.mem_of_getElem? (getElem?_of_indexOf ((indexOfKey_eq _ _).symm.trans hx)))) h

/-- non-vacuity, and the shape of fixes/C06-7: part 1 has its notes on track 0 like part 0; its key signature
    (track 0) follows them to track 1, an entry on the note-less track 9 stays -/
example : sanitizeMeta [([0, 0], [0]), ([0], [0, 9])] = [[0], [1, 9]] := by decide

/-- The loader: all entries of a performed part carry the index of the file track it was read from, so
    `Performance(...)` gives the key/time signatures and other meta events of the j-th part the number j — the
    number of its notes, controls and programs (`loader_renumbering`) -/
theorem loader_meta_numbers (rts : List RTrack) (hk : ∀ t ∈ rts, t.kept = true) :
    loadMetaNumbers rts = rts.zipIdx.map fun p =>
      List.replicate (p.1.timeSigs.length + p.1.keySigs.length + p.1.metas.length) ((p.2 : Nat) : Int) := by
  let ts : List (Int × Nat) :=
    rts.map fun t => ((t.fileTrack : Int), t.notes.length + t.controls.length + t.programs.length - 1)
  have hkeys : sanitizeKeys (allPairs ((rts.map fun t => (partTracks t, metaTracks t)).map (·.1))) = keysFrom 0 ts := by
    rw [List.map_map, ← sanitizeKeys_single]
    exact congrArg (fun l => sanitizeKeys (allPairs l)) (map_partTracks rts hk)
  unfold loadMetaNumbers
  rw [(sanitize_meta _).1]
  unfold newTrack
  rw [hkeys, List.zipIdx_map, List.map_map]
  refine List.map_congr_left ?_
  intro p hp
  have hget : rts[p.2]? = some p.1 := List.mem_zipIdx_iff_getElem?.mp hp
  have hget' : ts[p.2]? = some ((p.1.fileTrack : Int), p.1.notes.length + p.1.controls.length + p.1.programs.length - 1) := by
    simp only [ts, List.getElem?_map, hget, Option.map_some]
  have := indexOfKey_keysFrom 0 ts p.2 _ hget'
  rw [Nat.zero_add] at this
  simp only [Function.comp, Prod.map, id, metaTracks, List.map_replicate, this, metaNum]

/-- non-vacuity: three file tracks, the first (tempo only) makes no part; the parts read from file tracks 1 and 2
    are numbered 0 and 1, their meta entries with them -/
example : let kept := loadFile false [[(0, Ev.tempo 400000), (0, Ev.metaMsg 1)],
                                      [(0, Ev.metaMsg 1), (0, Ev.keySig 2 false), (0, Ev.noteOn 0 60 64), (10, Ev.noteOff 0 60 0)],
                                      [(0, Ev.timeSig 3 4), (5, Ev.control 3 64 127)]]
    (∀ t ∈ kept, t.kept = true) ∧ kept.map (·.fileTrack) = [1, 2] ∧
    loadNumbers kept = [[some 0], [some 1]] ∧ loadMetaNumbers kept = [[0, 0], [1]] := by decide +kernel

private theorem zip3_zipIdx {α β γ : Type} (l : List α) (k : Nat) (f : α × Nat → β) (g : α × Nat → γ) :
    l.zip (((l.zipIdx k).map f).zip ((l.zipIdx k).map g)) = (l.zipIdx k).map fun p => (p.1, f p, g p) := by
  induction l generalizing k with
  | nil => rfl
  | cons a l ih => simp [List.zipIdx_cons, ih]

/-- `load_performance_midi` always returns a performance, and its j-th part is the j-th kept track with every
    tick converted by the integral of the file's tempo map and EVERY entry — notes, controls, programs, key and
    time signatures, other meta events — on track j -/
theorem loadedParts_eq (ppq d : Nat) (m : Bool) (tracks : List Track) :
    loadedParts ppq d m tracks
      = some ((loadFile m tracks).zipIdx.map fun p => toPPart (secondsAt d (loaderTracks m tracks) ppq) p.2 p.1) := by
  unfold loadedParts
  simp only
  rw [loadFile_numbers, loader_meta_numbers _ (loadFile_kept m tracks)]
  generalize loadFile m tracks = kept
  generalize secondsAt d (loaderTracks m tracks) ppq = sec
  rw [zip3_zipIdx, List.mapM_map]
  exact Lists.mapM_eq_some_of_forall fun p _ => by simp [loadedPart, metaOn]

/-- a file whose tempo events all equal the default tempo `m`: seconds = ticks·m/(10^6·ppq) -/
theorem seconds_const_tempo (m : Nat) (tracks : List Track) (ppq : Nat) (k : Int)
    (h : ∀ e ∈ tracks.flatMap temposOf, e.2 = m) : secondsAt m tracks ppq k = tickToSec k m ppq := by
  unfold secondsAt tempoList
  rw [adjustLoop_const ppq k 0 0 m _ (by
    intro c hc
    rcases List.mem_cons.mp hc with rfl | hc
    · rfl
    · exact h c (((isSort _).mem).mp hc)), tickToSec_eq]
  simp

/-- **When the stored tick is the tick of the new file.**  An entry read at tick `k` of a file whose whole tempo
    map is the constant `m` keeps `k` as its stored tick; if the performance is saved with the resolution of that
    file and the tempo `m` — and its seconds have not been touched — the tick written, `quant m ppq (seconds)`,
    is `k` again: the second generation reproduces the ticks of the first -/
theorem stored_tick_fixpoint (m ppq : Nat) (hm : 0 < m) (hp : 0 < ppq) (tracks : List Track) (k : Int)
    (h : ∀ e ∈ tracks.flatMap temposOf, e.2 = m) :
    quant m ppq (secondsAt m tracks ppq k) = storedTick k := by
  rw [seconds_const_tempo m tracks ppq k h]
  exact Ticks.secToTick_tickToSec k m ppq hm hp

example : quant 500000 480 (secondsAt 500000 [[(0, Ev.tempo 500000), (7, Ev.noteOn 0 60 64)]] 480 1234) = storedTick 1234 :=
  stored_tick_fixpoint 500000 480 (by decide) (by decide) _ 1234 (by decide)

/-- … and in general it is NOT: under a constant file tempo `m1` and resolution `ppq1` the tick of the new file
    (tempo `mpq2`, resolution `ppq2`) is the stored tick rescaled by m1·ppq2/(ppq1·mpq2), rounded half-even -/
theorem stored_tick_rescaled (m1 ppq1 mpq2 ppq2 : Nat) (hp : 0 < ppq1) (tracks : List Track) (k : Int)
    (h : ∀ e ∈ tracks.flatMap temposOf, e.2 = m1) :
    quant mpq2 ppq2 (secondsAt m1 tracks ppq1 k)
      = roundHalfEven (((m1 : Rat) * (ppq2 : Rat) * (k : Rat)) / ((ppq1 : Rat) * (mpq2 : Rat))) := by
  rw [seconds_const_tempo m1 tracks ppq1 k h]
  unfold quant secToTick tickToSec
  congr 1
  ring

/-- the witness of the seeded change C06-e: a file at 150 bpm (`set_tempo 400000`, 480 ticks per quarter) loaded
    with the default tempo; `PerformedPart.mpq` is the default 500000 and `ppq` 480 — the very values of a default
    `save_performance_midi` —, yet the event stored at tick 480 (0.4 s) belongs on tick 384 of the new file, not
    on its stored tick -/
example : secondsAt 500000 [[(0, Ev.tempo 400000)]] 480 480 = 2 / 5 ∧
    quant 500000 480 (secondsAt 500000 [[(0, Ev.tempo 400000)]] 480 480) = 384 ∧
    quant 500000 480 (secondsAt 500000 [[(0, Ev.tempo 400000)]] 480 480) ≠ storedTick 480 := by decide +kernel

/-- **Second generation, timing.**  Whatever the file the performance was loaded from (any tempo map, any
    resolution `ppq1`, any default tempo `d`) and whatever tick `k` the entry is stored with: the seconds the
    loader gave it are the integral of that file's tempo map, they are not negative, and the tick
    `save_performance_midi(mpq2, ppq2)` writes is a nearest tick of these seconds — loading the new file returns
    them at most half a tick (of the new file) away -/
theorem second_generation_time (ppq1 d : Nat) (tracks : List Track) (mpq2 ppq2 : Nat) (hm : 0 < mpq2) (hp : 0 < ppq2)
    (k : Int) (hk : 0 ≤ k) (hpos : ∀ e ∈ tracks.flatMap temposOf, 0 ≤ e.1) :
    secondsAt d tracks ppq1 k = integral ppq1 k (0, d) (sortBy tempoLe (tracks.flatMap temposOf)) ∧
    0 ≤ secondsAt d tracks ppq1 k ∧
    |tickToSec (quant mpq2 ppq2 (secondsAt d tracks ppq1 k)) mpq2 ppq2 - secondsAt d tracks ppq1 k|
      ≤ (mpq2 : Rat) / (2 * 1000000 * ppq2) := by
  have h1 := (adjust_any_track d tracks ppq1 k hk hpos).2.2
  have h0 : 0 ≤ secondsAt d tracks ppq1 k := by rw [h1]; exact integral_nonneg _ _ _ _
  refine ⟨h1, h0, ?_⟩
  exact half_tick mpq2 ppq2 hm hp _

example : (∀ e ∈ [[(0, Ev.tempo 400000)], [(960, Ev.tempo 600000), (0, Ev.noteOn 0 60 64)]].flatMap temposOf, (0 : Int) ≤ e.1) ∧
    secondsAt 500000 [[(0, Ev.tempo 400000)], [(960, Ev.tempo 600000), (0, Ev.noteOn 0 60 64)]] 480 1440 = 7 / 5 ∧
    quant 500000 480 (7 / 5) = 1344 := by decide +kernel

/-- **Second generation, the file.**  Loading any file and saving what was loaded never fails in the model, and
    the file written is `save_performance_midi` applied to the loaded parts as `loadedParts_eq` describes them:
    every theorem of Props/C06.lean, C06Merge.lean about `exportFile` / `savedAbs` on arbitrary parts
    (`controls_kept`, `signatures_meta_kept`, `programs_kept`, `notes_kept_merged`, …) applies to it as it is.
    Neither the stored ticks nor `PerformedPart.ppq` / `mpq` occur on the right-hand side. -/
theorem regen_eq (q : Rat → Int) (ppq1 d : Nat) (ml fnz one : Bool) (tracks : List Track) (mpq2 : Nat) (ms : Bool) :
    regen q ppq1 d ml fnz one tracks mpq2 ms
      = some (exportFile q mpq2 ms (selectParts one (loadPerformanceP fnz
          ((loadFile ml tracks).zipIdx.map fun p => toPPart (secondsAt d (loaderTracks ml tracks) ppq1) p.2 p.1)))) := by
  unfold regen
  rw [loadedParts_eq]
  rfl

/-- **Second generation, the notes.**  Every note the loader paired in the j-th kept track of the old file — onset
    tick `on`, release tick `off` — is written to track j of the new file as a note-on at `q (sec on)` and a
    note-off at `q (sec off)`, `sec` the integral of the old file's tempo map: the stored ticks `on`, `off`
    themselves are written only if `q ∘ sec` fixes them (`stored_tick_fixpoint`) -/
theorem second_generation_notes (q : Rat → Int) (ppq1 d : Nat) (ml : Bool) (tracks : List Track)
    (rt : RTrack) (j : Nat) (hrt : (rt, j) ∈ (loadFile ml tracks).zipIdx) (n : RNote) (hn : n ∈ rt.notes) :
    let sec := secondsAt d (loaderTracks ml tracks) ppq1
    let parts := (loadFile ml tracks).zipIdx.map fun p => toPPart sec p.2 p.1
    (j, q (sec n.on), Ev.noteOn n.ch n.pitch n.vel) ∈ insertAll q parts ∧
    (j, q (sec n.off), Ev.noteOff n.ch n.pitch 0) ∈ insertAll q parts := by
  intro sec parts
  have hp : toPPart sec j rt ∈ parts := List.mem_map.mpr ⟨(rt, j), hrt, rfl⟩
  have hnote : (⟨n.pitch, n.vel, n.ch, j, sec n.on, sec n.off⟩ : PNote) ∈ sortBy noteLe (toPPart sec j rt).notes :=
    ((isSort _).mem).mpr (List.mem_map.mpr ⟨n, hn, rfl⟩)
  have hmem : ∀ x ∈ noteIns q ⟨n.pitch, n.vel, n.ch, j, sec n.on, sec n.off⟩, x ∈ insertAll q parts := fun x hx =>
    C06Defaults.mem_insertAll_of_partEvents q parts _ hp x
      (List.mem_append_left _ (List.mem_append_right _ (List.mem_flatMap.mpr ⟨_, hnote, hx⟩)))
  exact ⟨hmem _ List.mem_cons_self, hmem _ (List.mem_cons_of_mem _ List.mem_cons_self)⟩

example : ((loadFile false [[(0, Ev.tempo 400000)], [(480, Ev.noteOn 0 60 70), (480, Ev.noteOff 0 60 0), (0, Ev.eot)]]).zipIdx.map
      fun p => (p.1.fileTrack, p.1.notes, p.2)) = [(1, [⟨60, 480, 960, 70, 0⟩], 0)] := by
  decide +kernel

/-- non-vacuity of the pipeline: the 150 bpm file of the witness above, with a track name and a key signature
    next to its note in the second track (the first holds the tempo only), saved with the defaults: one track,
    note at ticks 384 / 768 (not 480 / 960), the meta events with it (fixes/C06-7) -/
example : regen (quant 500000 480) 480 500000 false false false
      [[(0, Ev.tempo 400000)], [(0, Ev.metaMsg 1), (0, Ev.keySig 2 false), (480, Ev.noteOn 0 60 70), (480, Ev.noteOff 0 60 0)]]
      500000 false
    = some (0, [[(0, Ev.tempo 500000), (0, Ev.metaMsg 1), (0, Ev.keySig 2 false), (0, Ev.program 0 0),
                 (384, Ev.noteOn 0 60 70), (384, Ev.noteOff 0 60 0), (0, Ev.eot)]]) := by decide +kernel

end C06
